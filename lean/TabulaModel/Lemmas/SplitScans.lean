import TabulaModel.Model.Split
/-!
C13: what the scans of the split point search return — a hit is the position of, or just
behind, an ASCII byte; a backward sentence hit is not beyond where the scan started.
-/
set_option linter.unusedVariables false
namespace Tabula.Split

theorem isBreak_lt {b : Nat} (h : isBreak b = true) : b < 0x80 := by
  simp only [isBreak, Bool.or_eq_true, beq_iff_eq] at h; omega

theorem isSentenceEndChar_lt {b : Nat} (h : isSentenceEndChar b = true) : b < 0x80 := by
  simp only [isSentenceEndChar, Bool.or_eq_true, beq_iff_eq] at h; omega

theorem isBreakAt_spec {text : Str} {i : Nat} (h : isBreakAt text i = true) :
    ∃ b, text[i]? = some b ∧ b < 0x80 := by
  unfold isBreakAt at h
  split at h
  · rename_i c hc; exact ⟨c, hc, isBreak_lt h⟩
  · simp at h

/-- a backward sentence hit lies in `1..i+1` and is followed by a space or newline -/
theorem sentBack_spec (text : Str) (i steps p : Nat) (h : sentBack text i steps = some p) :
    1 ≤ p ∧ p ≤ i + 1 ∧ ∃ b, text[p]? = some b ∧ b < 0x80 := by
  induction steps generalizing i with
  | zero => simp [sentBack] at h
  | succ n ih =>
    unfold sentBack at h
    split at h
    · rename_i hc
      simp only [Bool.and_eq_true] at hc
      simp only [Option.some.injEq] at h
      subst h
      exact ⟨by omega, Nat.le_refl _, isBreakAt_spec hc.2⟩
    · split at h
      · simp at h
      · obtain ⟨h1, h2, h3⟩ := ih _ h
        exact ⟨h1, by omega, h3⟩

/-- a backward word-boundary hit is the position after a space or newline -/
theorem wordBack_spec (text : Str) (i steps p : Nat) (h : wordBack text i steps = some p) :
    ∃ j b, p = j + 1 ∧ text[j]? = some b ∧ b < 0x80 := by
  induction steps generalizing i with
  | zero => simp [wordBack] at h
  | succ n ih =>
    unfold wordBack at h
    split at h
    · rename_i hc
      simp only [Option.some.injEq] at h
      obtain ⟨b, hb, hlt⟩ := isBreakAt_spec hc
      exact ⟨i, b, h.symm, hb, hlt⟩
    · split at h
      · simp at h
      · exact ih _ h

theorem findWordBoundaryBefore_spec (text : Str) (T : Nat) (h : findWordBoundaryBefore text T > 0) :
    ∃ j b, findWordBoundaryBefore text T = j + 1 ∧ text[j]? = some b ∧ b < 0x80 := by
  unfold findWordBoundaryBefore at h ⊢
  split
  · rename_i h0; simp [h0] at h
  · rename_i h0
    simp only [h0, if_false] at h
    cases hw : wordBack text (T - 1) 50 with
    | none => simp [hw] at h
    | some p => simpa using wordBack_spec text _ _ p hw

/-- a forward sentence hit is the position after an ASCII byte -/
theorem sentFwd_spec (rest : Str) (i steps q : Nat) (h : sentFwd rest i steps = some q) :
    ∃ k b, q = i + k + 1 ∧ rest[k]? = some b ∧ b < 0x80 := by
  induction steps generalizing rest i with
  | zero => simp [sentFwd] at h
  | succ n ih =>
    cases rest with
    | nil => simp [sentFwd] at h
    | cons c rest' =>
      unfold sentFwd at h
      split at h
      · rename_i hc
        split at h
        · simp only [Option.some.injEq] at h
          exact ⟨0, c, by omega, rfl, isSentenceEndChar_lt hc⟩
        · split at h
          · simp only [Option.some.injEq] at h
            exact ⟨0, c, by omega, rfl, isSentenceEndChar_lt hc⟩
          · obtain ⟨k, b, e, hb, hlt⟩ := ih _ _ h
            exact ⟨k + 1, b, by omega, by simpa using hb, hlt⟩
      · obtain ⟨k, b, e, hb, hlt⟩ := ih _ _ h
        exact ⟨k + 1, b, by omega, by simpa using hb, hlt⟩

theorem wordFwd_spec (rest : Str) (i steps q : Nat) (h : wordFwd rest i steps = some q) :
    ∃ k b, q = i + k + 1 ∧ rest[k]? = some b ∧ b < 0x80 := by
  induction steps generalizing rest i with
  | zero => simp [wordFwd] at h
  | succ n ih =>
    cases rest with
    | nil => simp [wordFwd] at h
    | cons c rest' =>
      unfold wordFwd at h
      split at h
      · rename_i hc
        simp only [Option.some.injEq] at h
        exact ⟨0, c, by omega, rfl, isBreak_lt hc⟩
      · obtain ⟨k, b, e, hb, hlt⟩ := ih _ _ h
        exact ⟨k + 1, b, by omega, by simpa using hb, hlt⟩

end Tabula.Split
