import TabulaModel.Lemmas.ChunkLayout
import TabulaModel.Model.ChunkColl
/-!
Helper lemmas for property C12, layout-based chunker, for EVERY document (no hypothesis on the
page numbers): what `buildSections` writes into `Section.Title` and `Section.PageEnd`, and into
`PageStart` of the section without a heading.

* `Title` is the last entry of `Path` (nothing for the preamble);
* `PageEnd` is the page of the element added last, `PageStart` when there is none;
* the preamble's `PageStart` is the first page number other than 0 among its elements (0 is the
  code's mark for "not set yet").

Proved of the flat specification of `Lemmas/ChunkLayout.lean` (`specSections_shape`).
-/
namespace Tabula.ChunkLayout
open Tabula.Chunk Tabula.ChunkMeta

/-- the first page number other than 0 (0 if there is none): what `preambleStartPage` ends up as -/
def firstSetPage (content : List CE) : Int := ((content.map (·.page)).find? (fun p => p != 0)).getD 0

/-- the page of the last element, `d` when there is none -/
def lastPage (content : List CE) (d : Int) : Int := (content.getLast?.map (·.page)).getD d

def SecShapeOK (x : SecInfo × List CE) : Prop :=
  x.1.title = titleOf x.1.path ∧ x.1.pageEnd = lastPage x.2 x.1.pageStart ∧
  (x.1.path = [] → x.1.pageStart = firstSetPage x.2)

/-- titles and last pages in the builder state: every section made so far has the shape `SecShapeOK`; the unfinished
section without a heading ends on the page of its last element and starts on the first page number other than 0;
every open section has a `Path` -/
structure TInv (s : BState) : Prop where
  secs : ∀ x ∈ openFlat s.stack s.done, SecShapeOK x
  pre : s.pre ≠ [] → s.preEnd = lastPage s.pre s.preStart
  start : s.stack = [] → s.preStart = firstSetPage s.pre
  opened : ∀ f ∈ s.stack, f.info.path ≠ []

theorem firstSetPage_snoc (pre : List CE) (ce : CE) :
    firstSetPage (pre ++ [ce]) = if firstSetPage pre == 0 then ce.page else firstSetPage pre := by
  unfold firstSetPage
  rw [List.map_append, List.find?_append]
  cases h : (pre.map (·.page)).find? (fun p => p != 0) with
  | none =>
    simp only [Option.none_or, Option.getD_none, List.map_cons, List.map_nil, List.find?_cons, List.find?_nil]
    by_cases e : ce.page = 0
    · simp [e]
    · have e' : (ce.page != 0) = true := by simpa using e
      simp [e']
  | some p =>
    have hp := List.find?_some h
    simp only [bne_iff_ne, ne_eq] at hp
    simp [hp]

theorem lastPage_snoc (pre : List CE) (ce : CE) (d : Int) : lastPage (pre ++ [ce]) d = ce.page := by
  simp [lastPage]

theorem FS.add_shape {s : FS} (hw : s.WF) (h : ∀ x ∈ s.rsecs, SecShapeOK x) (ce : CE) :
    ∀ x ∈ (s.add ce).rsecs, SecShapeOK x := by
  unfold FS.WF at hw
  unfold FS.add addLast
  split at hw
  · intro x hx
    rw [List.mem_singleton.mp hx]
    exact ⟨rfl, rfl, fun _ => by simpa [firstSetPage] using (firstSetPage_snoc [] ce).symm⟩
  · next i c r hr =>
    rw [hr] at h
    intro x hx
    rcases List.mem_cons.mp hx with rfl | hx
    · obtain ⟨t1, _, t3⟩ := h (i, c) (List.mem_cons_self ..)
      refine ⟨t1, (lastPage_snoc c ce _).symm, fun hp => ?_⟩
      have hh : s.hist = [] := chain_eq_nil (hw ▸ hp)
      have := t3 hp
      simp only at this hp ⊢
      rw [firstSetPage_snoc, ← this, hh]
      rfl
    · exact h x (List.mem_cons_of_mem _ hx)

theorem specSections_shape (cfg : Cfg) (d : LDoc) : ∀ x ∈ (specSections cfg d).rsecs, SecShapeOK x := by
  let I : FS → Prop := fun s => s.WF ∧ ∀ x ∈ s.rsecs, SecShapeOK x
  suffices h : I (specSections cfg d) from h.2
  refine List.foldlRecOn (motive := I) d _ ⟨rfl, fun x hx => by cases hx⟩ fun s hs pg _ => fsPage_lift cfg I pg ?_ ?_ s hs
  · intro _ _ s hd _ ⟨hw, h⟩
    unfold fsHeading
    split
    · refine ⟨FS.WF.opn .., fun x hx => ?_⟩
      rcases List.mem_cons.mp hx with rfl | hx
      · refine ⟨by simp [titleOf, chain_snoc], rfl, fun hp => ?_⟩
        have := chain_snoc s.hist hd.level hd.text
        simp only at hp
        rw [hp] at this
        cases this
      · exact h x hx
    · exact ⟨hw.add _, FS.add_shape hw h _⟩
  · exact fun s ce _ ⟨hw, h⟩ => ⟨hw.add ce, FS.add_shape hw h ce⟩

/-- **every section of `buildSections`, any document**: `Title` is the last entry of `Path`,
`PageEnd` is the page of its last element (`PageStart` when it has none), and the section without a
path starts on the first page number other than 0 among its elements -/
theorem buildSections_shape (cfg : Cfg) (d : LDoc) : ∀ x ∈ flatForest (buildSections cfg d), SecShapeOK x := by
  rw [buildSections_spec]
  exact fun x hx => specSections_shape cfg d x (List.mem_reverse.mp hx)

end Tabula.ChunkLayout
