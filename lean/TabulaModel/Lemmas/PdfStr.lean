import TabulaModel.Model.Print
import TabulaModel.Model.CSParser
/-
Property C06, literal strings: the reader `strLoop` (model of `readString`)
reads every legal spelling of a string body back as the bytes meant; the
content-stream reader `CS.strLoop` is the same function.  Core Lean only.
-/
namespace Tabula.Pdf

theorem strLoop_nil (d : Nat) : strLoop d [] = none := by
  rw [strLoop]

theorem strLoop_open (d : Nat) (r : Str) : strLoop d (40 :: r) = pre [40] (strLoop (d + 1) r) := by
  rw [strLoop]; simp

theorem strLoop_close (d : Nat) (r : Str) :
    strLoop d (41 :: r) = if d - 1 > 0 then pre [41] (strLoop (d - 1) r) else some ([], r) := by
  rw [strLoop]; simp

theorem strLoop_raw (d b : Nat) (r : Str) (h1 : b ≠ 40) (h2 : b ≠ 41) (h3 : b ≠ 92) :
    strLoop d (b :: r) = pre [b] (strLoop d r) := by
  rw [strLoop]; simp [h1, h2, h3]

theorem strLoop_esc_none (d : Nat) (r : Str) (h : readEscape r = none) :
    strLoop d (92 :: r) = none := by
  rw [strLoop]
  simp only [show (92 : Nat) ≠ 40 by decide, show (92 : Nat) ≠ 41 by decide, if_false, if_true]
  split
  · rfl
  · next bs r' h' => rw [h] at h'; cases h'

theorem strLoop_esc (d : Nat) (r bs r' : Str) (h : readEscape r = some (bs, r')) :
    strLoop d (92 :: r) = pre bs (strLoop d r') := by
  rw [strLoop]
  simp only [show (92 : Nat) ≠ 40 by decide, show (92 : Nat) ≠ 41 by decide, if_false, if_true]
  split
  · next h' => rw [h] at h'; cases h'
  · next bs2 r2 h' => rw [h] at h'; cases h'; rfl

theorem readEscape_named (b : Nat) (r : Str)
    (h : b = 10 ∨ b = 13 ∨ b = 9 ∨ b = 8 ∨ b = 12 ∨ b = 40 ∨ b = 41 ∨ b = 92) :
    readEscape (escChar b :: r) = some ([b], r) := by
  rcases h with h | h | h | h | h | h | h | h <;> subst h <;> simp [readEscape, escChar, namedEsc]

theorem namedEsc_octal (c : Nat) (h : isOctal c = true) : namedEsc c = none := by
  simp only [isOctal, Bool.and_eq_true, decide_eq_true_eq] at h
  rw [namedEsc, if_neg (by omega), if_neg (by omega), if_neg (by omega), if_neg (by omega), if_neg (by omega),
    if_neg (by omega)]

theorem readEscape_octal (c : Nat) (r : Str) (h : isOctal c = true) :
    readEscape (c :: r) = some ([(readOctal c r).1], (readOctal c r).2) := by
  have hn := namedEsc_octal c h
  simp only [isOctal, Bool.and_eq_true, decide_eq_true_eq] at h
  have h1 : c ≠ 13 := by omega
  have h2 : c ≠ 10 := by omega
  simp [readEscape, hn, h1, h2, isOctal, h.1, h.2]

theorem isOctal_digit (v : Nat) : isOctal (48 + v % 8) = true := by
  simp only [isOctal, Bool.and_eq_true, decide_eq_true_eq]; omega

theorem readOctal_1 (c n : Nat) (r : Str) (hn : isOctal n = false) :
    readOctal c (n :: r) = (c - 48, n :: r) := by
  simp [readOctal, hn]

theorem readOctal_2 (c d1 n : Nat) (r : Str) (h1 : isOctal d1 = true) (hn : isOctal n = false) :
    readOctal c (d1 :: n :: r) = ((c - 48) * 8 + (d1 - 48), n :: r) := by
  simp [readOctal, h1, hn]

theorem readOctal_3 (c d1 d2 : Nat) (r : Str) (h1 : isOctal d1 = true) (h2 : isOctal d2 = true) :
    readOctal c (d1 :: d2 :: r) = ((((c - 48) * 8 + (d1 - 48)) * 8 + (d2 - 48)) % 256, r) := by
  simp [readOctal, h1, h2]

/-- the first byte of a body followed by `)` -/
theorem head_body (xs tail : Str) : ∃ r, xs ++ 41 :: tail = xs.headD 41 :: r := by
  cases xs with
  | nil => exact ⟨tail, rfl⟩
  | cons x xs => exact ⟨xs ++ 41 :: tail, rfl⟩

theorem readEscape_oct (b k n : Nat) (r : Str) (hk1 : 1 ≤ k) (hk3 : k ≤ 3) (hb : b < 8 ^ k)
    (hb2 : b < 256) (hn : k < 3 → isOctal n = false) :
    readEscape (octDigits k b ++ n :: r) = some ([b], n :: r) := by
  have hk : k = 1 ∨ k = 2 ∨ k = 3 := by omega
  rcases hk with hk | hk | hk <;> subst hk
  · have hn' := hn (by decide)
    have hb' : b < 8 := by simpa using hb
    simp only [octDigits, List.nil_append, List.cons_append]
    rw [readEscape_octal _ _ (isOctal_digit b), readOctal_1 _ _ _ hn']
    simp only [Nat.add_sub_cancel_left]
    have : b % 8 = b := by omega
    rw [this]
  · have hn' := hn (by decide)
    have hb' : b < 64 := by simpa using hb
    simp only [octDigits, List.nil_append, List.cons_append]
    rw [readEscape_octal _ _ (isOctal_digit _), readOctal_2 _ _ _ _ (isOctal_digit b) hn']
    simp only [Nat.add_sub_cancel_left]
    have : b / 8 % 8 * 8 + b % 8 = b := by omega
    rw [this]
  · simp only [octDigits, List.nil_append, List.cons_append]
    rw [readEscape_octal _ _ (isOctal_digit _),
      readOctal_3 _ _ _ _ (isOctal_digit _) (isOctal_digit b)]
    simp only [Nat.add_sub_cancel_left]
    have : ((b / 8 / 8 % 8 * 8 + b / 8 % 8) * 8 + b % 8) % 256 = b := by omega
    rw [this]

theorem readEscape_cont (eol : Str) (n : Nat) (r : Str)
    (h : eol = [10] ∨ eol = [13, 10] ∨ (eol = [13] ∧ n ≠ 10)) :
    readEscape (eol ++ n :: r) = some ([], n :: r) := by
  rcases h with h | h | ⟨h, hn⟩ <;> subst h
  · simp [readEscape, namedEsc]
  · simp [readEscape, namedEsc, afterCR]
  · simp [readEscape, namedEsc, afterCR, hn]

/-- every legal spelling of a literal string body reads back as the bytes meant -/
theorem strLoop_roundtrip (ps : List SPiece) (d : Nat) (tail : Str) (h : ValidStr d ps) :
    strLoop (d + 1) (renderStrBody ps ++ 41 :: tail) = some (strBytes ps, tail) := by
  induction ps generalizing d with
  | nil =>
    simp only [ValidStr] at h
    subst h
    simp [renderStrBody, strBytes, strLoop_close]
  | cons p ps ih =>
    have hr : renderStrBody (p :: ps) = p.render ++ renderStrBody ps := by
      simp [renderStrBody]
    have hb : strBytes (p :: ps) = p.bytes ++ strBytes ps := by
      simp [strBytes]
    rw [hr, hb, List.append_assoc]
    obtain ⟨rest, hrest⟩ := head_body (renderStrBody ps) tail
    cases p with
    | raw b =>
      obtain ⟨h1, h2, h3, _, hv⟩ := h
      simp only [SPiece.render, SPiece.bytes, List.cons_append, List.nil_append]
      rw [strLoop_raw _ _ _ h1 h2 h3, ih d hv]; rfl
    | popen =>
      simp only [SPiece.render, SPiece.bytes, List.cons_append, List.nil_append]
      rw [strLoop_open, ih (d + 1) h]; rfl
    | pclose =>
      obtain ⟨hd, hv⟩ := h
      simp only [SPiece.render, SPiece.bytes, List.cons_append, List.nil_append]
      have hd1 : d + 1 - 1 = (d - 1) + 1 := by omega
      have hd2 : (d - 1) + 1 > 0 := by omega
      rw [strLoop_close, hd1, if_pos hd2, ih (d - 1) hv]; rfl
    | named b =>
      obtain ⟨hb', hv⟩ := h
      simp only [SPiece.render, SPiece.bytes, List.cons_append, List.nil_append]
      rw [strLoop_esc _ _ _ _ (readEscape_named b _ hb'), ih d hv]; rfl
    | octal b k =>
      obtain ⟨hk1, hk3, hb1, hb2, hn, hv⟩ := h
      simp only [SPiece.render, SPiece.bytes, List.cons_append, List.nil_append]
      have := ih d hv
      rw [hrest] at this ⊢
      rw [strLoop_esc _ _ _ _ (readEscape_oct b k _ rest hk1 hk3 hb1 hb2 hn), this]; rfl
    | cont eol =>
      obtain ⟨he, hv⟩ := h
      simp only [SPiece.render, SPiece.bytes, List.cons_append, List.nil_append]
      have := ih d hv
      rw [hrest] at this ⊢
      rw [strLoop_esc _ _ _ _ (readEscape_cont eol _ rest he), this]; rfl

theorem litstr_roundtrip (ps : List SPiece) (tail : Str) (h : ValidStr 0 ps) :
    strLoop 1 (renderStrBody ps ++ 41 :: tail) = some (strBytes ps, tail) :=
  strLoop_roundtrip ps 0 tail h

/-- every byte string has a legal spelling (all-octal), so the round trip covers every byte string -/
theorem validStr_octal3 (bs : Str) (h : ∀ b ∈ bs, b < 256) :
    ValidStr 0 (bs.map (fun b => SPiece.octal b 3)) ∧ strBytes (bs.map (fun b => SPiece.octal b 3)) = bs := by
  induction bs with
  | nil => simp [ValidStr, strBytes]
  | cons b bs ih =>
    have hb : b < 256 := h b (by simp)
    obtain ⟨h1, h2⟩ := ih (fun c hc => h c (by simp [hc]))
    constructor
    · simp only [List.map_cons, ValidStr]
      refine ⟨by decide, by decide, ?_, hb, ?_, h1⟩
      · have : (8 : Nat) ^ 3 = 512 := by decide
        omega
      · intro hlt; omega
    · simp only [strBytes, List.map_cons, List.flatMap_cons, SPiece.bytes] at h2 ⊢
      rw [h2]; rfl

theorem readOctal_lt (c : Nat) (r : Str) (h : isOctal c = true) : (readOctal c r).1 < 256 := by
  simp only [isOctal, Bool.and_eq_true, decide_eq_true_eq] at h
  unfold readOctal
  split
  · next d1 r1 =>
    by_cases h1 : isOctal d1 = true
    · simp only [h1, if_true]
      split
      · next d2 r2 =>
        by_cases h2 : isOctal d2 = true
        · simp only [h2, if_true]; omega
        · simp only [h2]
          simp only [isOctal, Bool.and_eq_true, decide_eq_true_eq] at h1
          simp; omega
      · simp only [isOctal, Bool.and_eq_true, decide_eq_true_eq] at h1
        simp; omega
    · simp only [h1]; simp; omega
  · simp; omega

theorem csEscape_eq (r : Str) : CS.csEscape r = readEscape r := by
  cases r with
  | nil => rfl
  | cons c r =>
    simp only [CS.csEscape, readEscape]
    cases hN : namedEsc c with
    | some v => rfl
    | none =>
      simp only []
      by_cases h1 : c = 13
      · simp [h1]
      · by_cases h2 : c = 10
        · simp [h2]
        · by_cases h3 : isOctal c = true
          · have := readOctal_lt c r h3
            simp [h1, h2, h3, Nat.mod_eq_of_lt this]
          · simp [h1, h2, h3]

/-- the content-stream string reader and the document-level one are the same function -/
theorem cs_strLoop_eq (inp : Str) (d : Nat) : CS.strLoop d inp = strLoop d inp := by
  fun_induction CS.strLoop d inp with
  | case1 => rw [strLoop]
  | case2 d b r hb hE =>
    obtain ⟨rfl, _⟩ := hb
    rw [strLoop_esc_none d r (csEscape_eq r ▸ hE)]
  | case3 d b r hb bs r' hE ih =>
    obtain ⟨rfl, _⟩ := hb
    rw [strLoop_esc d r bs r' (csEscape_eq r ▸ hE), ih]
  | case4 d r _ ih => rw [strLoop_open, ih]
  | case5 d r hd _ _ ih => rw [strLoop_close, if_pos hd, ih]
  | case6 d r hd => rw [strLoop_close, if_neg hd]
  | case7 d b r hb h40 h41 ih =>
    by_cases h92 : b = 92
    · -- a backslash as the last byte: both readers fail
      subst h92
      obtain rfl : r = [] := Decidable.byContradiction fun hr => hb ⟨rfl, hr⟩
      rw [ih, strLoop_nil, strLoop_esc_none d [] rfl]; rfl
    · rw [strLoop_raw d b r h40 h41 h92, ih]

end Tabula.Pdf
