import TabulaModel.Model.ParserTrace
import TabulaModel.Lemmas.ParseRuns
import TabulaModel.Lemmas.DictSet
/-!
Property C06 / C02, the nesting limit for EVERY input, well-formed or not: the instrumented parsers
of Model/ParserTrace.lean compute the parsers of Model/Parser.lean and Model/CSParser.lean, and the
peak of `p.depth` they report never exceeds `maxNestingDepth` (`core_trace`, `cs_trace`,
`cs_loop_trace`); and no object either parser returns is nested deeper than the limit
(`core_accept`, `cs_accept`, `cs_loop_accept`).  Core Lean only.
-/
namespace Tabula.Pdf

theorem core_trace (f : Nat) :
    (∀ d s, (parseObjectT f d s).1 = parseObject f d s ∧
      (d ≤ maxNestingDepth → (parseObjectT f d s).2 ≤ maxNestingDepth)) ∧
    (∀ d s acc, (parseArrayT f d s acc).1 = parseArray f d s acc ∧
      (d ≤ maxNestingDepth → (parseArrayT f d s acc).2 ≤ maxNestingDepth)) ∧
    (∀ d s acc, (parseDictT f d s acc).1 = parseDict f d s acc ∧
      (d ≤ maxNestingDepth → (parseDictT f d s acc).2 ≤ maxNestingDepth)) := by
  induction f with
  | zero =>
    refine ⟨?_, ?_, ?_⟩
    · intro d s; rw [parseObjectT, parseObject]; exact ⟨rfl, id⟩
    · intro d s acc; rw [parseArrayT, parseArray]; exact ⟨rfl, id⟩
    · intro d s acc; rw [parseDictT, parseDict]; exact ⟨rfl, id⟩
  | succ f ih =>
    obtain ⟨ihO, ihA, ihD⟩ := ih
    refine ⟨?_, ?_, ?_⟩
    · intro d s
      rw [parseObjectT, parseObject]
      cases hc : s.cur with
      | none => exact ⟨rfl, id⟩
      | some t =>
        cases t with
        | arrStart =>
          dsimp only
          split
          · exact ⟨rfl, id⟩
          · exact ⟨(ihA (d + 1) s.next []).1, fun _ => (ihA (d + 1) s.next []).2 (by omega)⟩
        | dictStart =>
          dsimp only
          split
          · exact ⟨rfl, id⟩
          · exact ⟨(ihD (d + 1) s.next []).1, fun _ => (ihD (d + 1) s.next []).2 (by omega)⟩
        | _ => exact ⟨rfl, id⟩
    · intro d s acc
      rw [parseArrayT, parseArray]
      obtain ⟨h1, h2⟩ := ihO d s
      rw [← h1]
      revert h2
      generalize parseObjectT f d s = R
      intro h2
      cases hc : s.cur with
      | none => exact ⟨rfl, id⟩
      | some t =>
        rcases R with ⟨_ | ⟨o, s'⟩, p⟩
        · cases t <;> first | exact ⟨rfl, id⟩ | exact ⟨rfl, h2⟩
        · cases t <;> first
            | exact ⟨rfl, id⟩
            | exact ⟨(ihA d s' (acc ++ [o])).1, fun hd => Nat.max_le.2 ⟨h2 hd, (ihA d s' (acc ++ [o])).2 hd⟩⟩
    · intro d s acc
      rw [parseDictT, parseDict]
      obtain ⟨h1, h2⟩ := ihO d s.next
      rw [← h1]
      revert h2
      generalize parseObjectT f d s.next = R
      intro h2
      cases hc : s.cur with
      | none => exact ⟨rfl, id⟩
      | some t =>
        cases t with
        | name k =>
          rcases R with ⟨_ | ⟨o, s'⟩, p⟩
          · exact ⟨rfl, h2⟩
          · exact ⟨(ihD d s' _).1, fun hd => Nat.max_le.2 ⟨h2 hd, (ihD d s' _).2 hd⟩⟩
        | _ => exact ⟨rfl, id⟩

theorem ite_le {p : Prop} [Decidable p] {a b m : Nat} (ha : p → a ≤ m) (hb : ¬p → b ≤ m) :
    (if p then a else b) ≤ m :=
  iteInduction (motive := (· ≤ m)) ha hb

theorem cs_trace (f : Nat) :
    (∀ d inp, (CS.parseOperandT f d inp).1 = CS.parseOperand f d inp ∧
      (d ≤ maxNestingDepth → (CS.parseOperandT f d inp).2 ≤ maxNestingDepth)) ∧
    (∀ d inp acc, (CS.parseArrayT f d inp acc).1 = CS.parseArray f d inp acc ∧
      (d ≤ maxNestingDepth → (CS.parseArrayT f d inp acc).2 ≤ maxNestingDepth)) ∧
    (∀ d inp acc, (CS.parseDictT f d inp acc).1 = CS.parseDict f d inp acc ∧
      (d ≤ maxNestingDepth → (CS.parseDictT f d inp acc).2 ≤ maxNestingDepth)) := by
  induction f with
  | zero =>
    refine ⟨?_, ?_, ?_⟩
    · intro d s; rw [CS.parseOperandT, CS.parseOperand]; exact ⟨rfl, id⟩
    · intro d s acc; rw [CS.parseArrayT, CS.parseArray]; exact ⟨rfl, id⟩
    · intro d s acc; rw [CS.parseDictT, CS.parseDict]; exact ⟨rfl, id⟩
  | succ f ih =>
    obtain ⟨ihO, ihA, ihD⟩ := ih
    refine ⟨?_, ?_, ?_⟩
    · intro d inp
      rw [CS.parseOperandT, CS.parseOperand]
      cases hs : CS.skipSpace inp with
      | nil => exact ⟨rfl, id⟩
      | cons c r =>
        dsimp only
        refine ⟨?_, fun hd => ?_⟩
        · -- the projection goes through the chain of tests; the two recursive calls agree by induction
          simp only [apply_ite Prod.fst, (ihA (d + 1) r []).1, (ihD (d + 1) (r.drop 1) []).1]
          rfl
        · -- every branch of the chain reports `d`, except the two that open a container
          simp only [apply_ite Prod.snd]
          refine ite_le (fun _ => hd) fun _ => ite_le (fun _ => hd) fun _ => ite_le (fun _ => hd) fun _ =>
            ite_le (fun _ => hd) fun _ => ite_le (fun _ => ?_) fun _ => ite_le (fun _ => ?_) fun _ =>
            ite_le (fun _ => hd) fun _ => hd
          · exact ite_le (fun _ => hd) fun _ => (ihA (d + 1) r []).2 (by omega)
          · exact ite_le (fun _ => hd) fun _ => (ihD (d + 1) _ []).2 (by omega)
    · intro d inp acc
      rw [CS.parseArrayT, CS.parseArray]
      by_cases h0 : inp = []
      · rw [if_pos h0, if_pos h0]; exact ⟨rfl, id⟩
      simp only [if_neg h0]
      cases hs : CS.skipSpace inp with
      | nil => exact ⟨rfl, id⟩
      | cons c r =>
        dsimp only
        by_cases h1 : c = 93
        · rw [if_pos h1, if_pos h1]; exact ⟨rfl, id⟩
        simp only [if_neg h1]
        obtain ⟨h1, h2⟩ := ihO d (c :: r)
        rw [← h1]
        revert h2
        generalize CS.parseOperandT f d (c :: r) = R
        intro h2
        rcases R with ⟨_ | ⟨o, r'⟩, p⟩
        · exact ⟨rfl, h2⟩
        · exact ⟨(ihA d r' (acc ++ [o])).1, fun hd => Nat.max_le.2 ⟨h2 hd, (ihA d r' (acc ++ [o])).2 hd⟩⟩
    · intro d inp acc
      rw [CS.parseDictT, CS.parseDict]
      by_cases h0 : inp = []
      · rw [if_pos h0, if_pos h0]; exact ⟨rfl, id⟩
      simp only [if_neg h0]
      cases hs : CS.skipSpace inp with
      | nil => exact ⟨rfl, id⟩
      | cons c r =>
        dsimp only
        by_cases h1 : c = 62 ∧ r.head? = some 62
        · rw [if_pos h1, if_pos h1]; exact ⟨rfl, id⟩
        simp only [if_neg h1]
        by_cases h2 : c ≠ 47
        · rw [if_pos h2, if_pos h2]; exact ⟨rfl, id⟩
        simp only [if_neg h2]
        obtain ⟨h1, h2⟩ := ihO d (CS.nameLoop r).2
        rw [← h1]
        revert h2
        generalize CS.parseOperandT f d (CS.nameLoop r).2 = R
        intro h2
        rcases R with ⟨_ | ⟨o, r'⟩, p⟩
        · exact ⟨rfl, h2⟩
        · exact ⟨(ihD d r' _).1, fun hd => Nat.max_le.2 ⟨h2 hd, (ihD d r' _).2 hd⟩⟩

theorem cs_loop_trace (n fuel : Nat) (inp : Str) (stack : List Obj) (ops : List CS.Operation) (pk : Nat)
    (hpk : pk ≤ maxNestingDepth) :
    (CS.parseLoopT n fuel inp stack ops pk).1 = CS.parseLoop n fuel inp stack ops ∧
      (CS.parseLoopT n fuel inp stack ops pk).2 ≤ maxNestingDepth := by
  induction n generalizing inp stack ops pk with
  | zero => rw [CS.parseLoopT, CS.parseLoop]; exact ⟨rfl, hpk⟩
  | succ n ih =>
    rw [CS.parseLoopT, CS.parseLoop]
    cases hs : CS.skipSpace inp with
    | nil => exact ⟨rfl, hpk⟩
    | cons c r =>
      dsimp only
      split
      · split
        · exact ⟨rfl, hpk⟩
        · exact ih _ _ _ pk hpk
      · obtain ⟨h1, h2⟩ := (cs_trace fuel).1 0 (c :: r)
        rw [← h1]
        have h2 := h2 (Nat.zero_le _)
        revert h2
        generalize CS.parseOperandT fuel 0 (c :: r) = R
        intro h2
        rcases R with ⟨_ | ⟨o, r'⟩, p⟩
        · exact ⟨rfl, Nat.max_le.2 ⟨hpk, h2⟩⟩
        · exact ih r' (stack ++ [o]) ops (max pk p) (Nat.max_le.2 ⟨hpk, h2⟩)

theorem depthList_append (a b : List Obj) :
    Obj.depthList (a ++ b) = max (Obj.depthList a) (Obj.depthList b) := by
  induction a with
  | nil => simp only [List.nil_append, Obj.depthList, Nat.zero_max]
  | cons x xs ih => simp only [List.cons_append, Obj.depthList, ih, Nat.max_assoc]

theorem fits_snoc {d : Nat} {acc : List Obj} {o : Obj} (ha : d + Obj.depthList acc ≤ maxNestingDepth)
    (ho : d + o.depth ≤ maxNestingDepth) : d + Obj.depthList (acc ++ [o]) ≤ maxNestingDepth := by
  rw [depthList_append]
  simp only [Obj.depthList]; omega

theorem fits_set {d : Nat} {acc : List (Str × Obj)} {k : Str} {o : Obj}
    (ha : d + Obj.depthKV acc ≤ maxNestingDepth) (ho : d + o.depth ≤ maxNestingDepth) :
    d + Obj.depthKV (dictSet acc k o) ≤ maxNestingDepth := by
  have := depthKV_dictSet acc k o
  omega

theorem core_accept (f : Nat) :
    (∀ d s o s', parseObject f d s = .ok (o, s') → d ≤ maxNestingDepth → d + o.depth ≤ maxNestingDepth) ∧
    (∀ d s acc o s', parseArray f d s acc = .ok (o, s') → d + Obj.depthList acc ≤ maxNestingDepth →
      o.depth + d ≤ maxNestingDepth + 1) ∧
    (∀ d s acc o s', parseDict f d s acc = .ok (o, s') → d + Obj.depthKV acc ≤ maxNestingDepth →
      o.depth + d ≤ maxNestingDepth + 1) := by
  refine parse_induction (PO := fun d _ o _ => d ≤ maxNestingDepth → d + o.depth ≤ maxNestingDepth)
    (PA := fun d _ acc o _ => d + Obj.depthList acc ≤ maxNestingDepth → o.depth + d ≤ maxNestingDepth + 1)
    (PD := fun d _ acc o _ => d + Obj.depthKV acc ≤ maxNestingDepth → o.depth + d ≤ maxNestingDepth + 1)
    ?_ ?_ ?_ ?_ ?_ ?_ ?_ ?_ ?_ ?_ ?_ ?_ f
  · intro d s v o _ ho hd
    rcases ho with ⟨_, rfl⟩ | ⟨_, rfl⟩ | ⟨_, rfl⟩ <;> exact hd
  · intro d s v o s' _ h hd
    rw [(parseNumber_shape h).1]; exact hd
  · intro d s v o _ h hd
    obtain ⟨_, _, _, rfl⟩ := parseReal_real h
    exact hd
  · intro d s v _ hd
    exact hd
  · intro d s v _ hd
    exact hd
  · intro d s v _ hd
    exact hd
  · intro d s o s' _ hlim ih hd
    have := ih (by simp only [Obj.depthList]; omega); omega
  · intro d s o s' _ hlim ih hd
    have := ih (by simp only [Obj.depthKV]; omega); omega
  · intro d s acc _ hd
    simp only [Obj.depth]; omega
  · intro d s acc o1 s1 o s' ihO ihA hd
    exact ihA (fits_snoc hd (ihO (by omega)))
  · intro d s acc _ hd
    simp only [Obj.depth]; omega
  · intro d s acc k o1 s1 o s' _ ihO ihD hd
    exact ihD (fits_set hd (ihO (by omega)))

theorem cs_accept (f : Nat) :
    (∀ d inp o r, CS.parseOperand f d inp = some (o, r) → d ≤ maxNestingDepth →
      d + o.depth ≤ maxNestingDepth) ∧
    (∀ d inp acc o r, CS.parseArray f d inp acc = some (o, r) → d + Obj.depthList acc ≤ maxNestingDepth →
      o.depth + d ≤ maxNestingDepth + 1) ∧
    (∀ d inp acc o r, CS.parseDict f d inp acc = some (o, r) → d + Obj.depthKV acc ≤ maxNestingDepth →
      o.depth + d ≤ maxNestingDepth + 1) := by
  refine CS.parse_induction (PO := fun d _ o _ => d ≤ maxNestingDepth → d + o.depth ≤ maxNestingDepth)
    (PA := fun d _ acc o _ => d + Obj.depthList acc ≤ maxNestingDepth → o.depth + d ≤ maxNestingDepth + 1)
    (PD := fun d _ acc o _ => d + Obj.depthKV acc ≤ maxNestingDepth → o.depth + d ≤ maxNestingDepth + 1)
    ?_ ?_ ?_ ?_ ?_ ?_ ?_ ?_ ?_ ?_ ?_ ?_ ?_ f
  · intro d inp c r0 o r _ _ h hd
    rcases CS.parseNumber_num h with ⟨_, _, _, rfl⟩ | ⟨_, rfl⟩ <;> exact hd
  · intro d inp r0 v r _ _ hd
    exact hd
  · intro d inp r0 v r _ _ _ _ hd
    exact hd
  · intro d inp r0 _ hd
    exact hd
  · intro d inp r0 o r _ hlim ih hd
    have := ih (by simp only [Obj.depthList]; omega); omega
  · intro d inp r0 o r _ _ hlim ih hd
    have := ih (by simp only [Obj.depthKV]; omega); omega
  · intro d inp c r0 t o _ _ ho hd
    rcases ho with ⟨_, rfl⟩ | ⟨_, rfl⟩ | ⟨_, rfl⟩ <;> exact hd
  · intro d acc hd
    simp only [Obj.depth]; omega
  · intro d inp acc r0 _ hd
    simp only [Obj.depth]; omega
  · intro d inp acc c r0 o1 r1 o r _ _ ihO ihA hd
    exact ihA (fits_snoc hd (ihO (by omega)))
  · intro d acc hd
    simp only [Obj.depth]; omega
  · intro d inp acc r0 _ _ hd
    simp only [Obj.depth]; omega
  · intro d inp acc r0 o1 r1 o r _ ihO ihD hd
    exact ihD (fits_set hd (ihO (by omega)))

theorem cs_loop_accept (n fuel : Nat) (inp : Str) (stack : List Obj) (ops res : List CS.Operation)
    (h : CS.parseLoop n fuel inp stack ops = some res)
    (hst : ∀ x ∈ stack, x.depth ≤ maxNestingDepth)
    (hops : ∀ op ∈ ops, ∀ x ∈ op.operands, x.depth ≤ maxNestingDepth) :
    ∀ op ∈ res, ∀ x ∈ op.operands, x.depth ≤ maxNestingDepth := by
  refine CS.parseLoop_induction
    (P := fun _ stack ops res => (∀ x ∈ stack, x.depth ≤ maxNestingDepth) →
      (∀ op ∈ ops, ∀ x ∈ op.operands, x.depth ≤ maxNestingDepth) →
      ∀ op ∈ res, ∀ x ∈ op.operands, x.depth ≤ maxNestingDepth)
    ?_ ?_ ?_ n inp stack ops res h hst hops
  · intro inp stack ops _ _ hops
    exact hops
  · intro inp c r stack ops res _ _ ih hst hops
    exact ih (by simp) (List.forall_mem_append.mpr ⟨hops, by simpa using hst⟩)
  · intro inp c r o r' stack ops res _ hp ih hst hops
    have a : o.depth ≤ maxNestingDepth := by
      have := (cs_accept fuel).1 0 (c :: r) o r' hp (Nat.zero_le _)
      omega
    exact ih (List.forall_mem_append.mpr ⟨hst, by simpa using a⟩) hops

end Tabula.Pdf
