import TabulaModel.Model.A1
/-!
Decimal numerals of Model/A1.lean: `dec` (what `%d` prints for a natural number) by its digits, and
`digitsAcc` / `atoi` (`strconv.Atoi`) reading such a text back.  Core Lean only.
-/
namespace Tabula.A1

theorem digitsAcc_append (s t : Str) (a : Nat) :
    digitsAcc (s ++ t) a = (digitsAcc s a).bind (digitsAcc t) := by
  induction s generalizing a with
  | nil => simp [digitsAcc]
  | cons c cs ih =>
    simp only [List.cons_append, digitsAcc]
    split
    · exact ih _
    · rfl

theorem decAux_acc (n : Nat) (acc : Str) : decAux n acc = decAux n [] ++ acc := by
  induction n using Nat.strongRecOn generalizing acc with
  | _ n ih =>
    rw [decAux.eq_1 n acc, decAux.eq_1 n []]
    split
    · simp
    · rw [ih (n / 10) (by omega) ((48 + n % 10) :: acc), ih (n / 10) (by omega) [48 + n % 10]]
      simp

/-- `dec` by its digits: one digit below ten, else the text of `n / 10` and the last digit -/
theorem dec_lt (n : Nat) (h : n < 10) : dec n = [48 + n] := by
  rw [dec, decAux, dif_pos h]

theorem dec_ge (n : Nat) (h : ¬ n < 10) : dec n = dec (n / 10) ++ [48 + n % 10] := by
  rw [dec, decAux, dif_neg h, decAux_acc, dec]

/-- induction along the digits of `dec n` -/
theorem dec_ind {P : Nat → Prop} (small : ∀ n, n < 10 → dec n = [48 + n] → P n)
    (step : ∀ n, ¬ n < 10 → dec n = dec (n / 10) ++ [48 + n % 10] → P (n / 10) → P n) (n : Nat) : P n := by
  induction n using Nat.strongRecOn with
  | _ n ih =>
    by_cases h : n < 10
    · exact small n h (dec_lt n h)
    · exact step n h (dec_ge n h) (ih (n / 10) (by omega))

theorem digitsAcc_digit (c : Nat) (cs : Str) (a : Nat) (h1 : 48 ≤ c) (h2 : c ≤ 57) :
    digitsAcc (c :: cs) a = digitsAcc cs (a * 10 + (c - 48)) := by
  simp only [digitsAcc, h1, h2, decide_true, Bool.and_self, if_true]

theorem digitsAcc_dec (n : Nat) : digitsAcc (dec n) 0 = some n := by
  induction n using dec_ind with
  | small n h e =>
    rw [e, digitsAcc_digit _ _ _ (by omega) (by omega), digitsAcc]
    congr 1
    omega
  | step n h e ih =>
    rw [e, digitsAcc_append, ih, Option.bind_some, digitsAcc_digit _ _ _ (by omega) (by omega), digitsAcc]
    congr 1
    omega

/-- different numbers print differently -/
theorem dec_injective {a b : Nat} (h : dec a = dec b) : a = b := by
  have ha := digitsAcc_dec a
  rw [h, digitsAcc_dec] at ha
  exact (Option.some.inj ha).symm

theorem dec_head (n : Nat) : ∃ d ds, dec n = d :: ds ∧ 48 ≤ d ∧ d ≤ 57 := by
  induction n using dec_ind with
  | small n h e => exact ⟨48 + n, [], e, by omega, by omega⟩
  | step n h e ih =>
    obtain ⟨d, ds, e', h1, h2⟩ := ih
    exact ⟨d, ds ++ [48 + n % 10], by rw [e, e']; rfl, h1, h2⟩

theorem dec_all_digits (n : Nat) : ∀ c ∈ dec n, 48 ≤ c ∧ c ≤ 57 := by
  induction n using dec_ind with
  | small n h e => rw [e]; intro c hc; rw [List.mem_singleton.mp hc]; omega
  | step n h e ih =>
    rw [e]
    intro c hc
    rcases List.mem_append.mp hc with hc | hc
    · exact ih c hc
    · rw [List.mem_singleton.mp hc]; omega

/-- `strconv.Atoi` on a text without sign: its decimal value, if that is an int64 (a text `digitsAcc`
accepts consists of digits, so it starts with neither `+` nor `-`) -/
theorem atoi_unsigned {s : Str} {v : Nat} (hne : s ≠ []) (h : digitsAcc s 0 = some v) :
    atoi s = if v ≤ maxInt64 then some (v : Int) else none := by
  cases s with
  | nil => exact absurd rfl hne
  | cons d ds =>
    have hd : 48 ≤ d ∧ d ≤ 57 := by
      rw [digitsAcc] at h
      split at h
      · next hd => simpa using hd
      · cases h
    unfold atoi
    split
    next neg ds' heq =>
    split at heq
    · next e => cases e; omega
    · next e => cases e; omega
    · cases heq
      simp only [List.isEmpty_cons, Bool.false_eq_true, if_false, h]

theorem atoi_dec (n : Nat) (h : n ≤ maxInt64) : atoi (dec n) = some (n : Int) := by
  obtain ⟨d, ds, hd, _⟩ := dec_head n
  rw [atoi_unsigned (by rw [hd]; exact List.cons_ne_nil d ds) (digitsAcc_dec n), if_pos h]

/-- a text of decimal digits -/
def IsDigits (s : Str) : Prop := ∀ c ∈ s, 48 ≤ c ∧ c ≤ 57

theorem digitsAcc_zeros (k : Nat) (s : Str) : digitsAcc (List.replicate k 48 ++ s) 0 = digitsAcc s 0 := by
  induction k with
  | zero => rfl
  | succ k ih => exact ih

end Tabula.A1
