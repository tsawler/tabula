import TabulaModel.Lemmas.Filters
import TabulaModel.Model.FilterSpec
import TabulaModel.Model.StreamConform
/-!
The converse direction ("not wrong bytes") for the ASCII filters: the one-pass decoders of `Model/Filters.lean` equal
the declarative readings of §7.4.2 / §7.4.3 (`hexSpec`, `a85Spec`, `Model/FilterSpec.lean`) on every input, so whenever
one returns bytes its input read as exactly those bytes. `decodeWithFilter_some_iff` puts the stages together (for the
predictors the same is part of `pngRows_char` / `tiffRows_char`, `Lemmas/FiltersPredict.lean`). Before it the soundness of
the executable checkers of the encoder-side relations (`Model/StreamConform.lean`).
-/
namespace Tabula.Filters

theorem hexBodyOf_ws (c : Nat) (rest : Str) (h : isWs c = true) : hexBodyOf (c :: rest) = hexBodyOf rest := by
  have h62 : (c != 62) = true := by
    cases hc : (c != 62)
    · have : c = 62 := by simpa using hc
      subst this
      exact absurd h (by decide)
    · rfl
  simp [hexBodyOf, h62, h]

theorem hexBodyOf_eod (rest : Str) : hexBodyOf (62 :: rest) = [] := by
  simp [hexBodyOf]

theorem hexBodyOf_other (c : Nat) (rest : Str) (h1 : isWs c = false) (h2 : c ≠ 62) :
    hexBodyOf (c :: rest) = c :: hexBodyOf rest := by
  have h62 : (c != 62) = true := by simpa using h2
  simp [hexBodyOf, h62, h1]

theorem hexGo_eq_spec : ∀ (s : Str) (p : Option Nat) (acc : Str),
    hexGo s p acc = (hexVals (hexBodyOf s)).map (fun vs => acc.reverse ++ pairUp (p.toList ++ vs)) := by
  intro s
  induction s with
  | nil =>
    intro p acc
    cases p <;> simp [hexGo, hexFinish, hexBodyOf, hexVals, pairUp]
  | cons c rest ih =>
    intro p acc
    rw [hexGo]
    by_cases hws : isWs c = true
    · rw [if_pos hws, hexBodyOf_ws c rest hws]
      exact ih p acc
    rw [if_neg hws]
    by_cases h62 : c = 62
    · rw [if_pos h62, h62, hexBodyOf_eod]
      cases p <;> simp [hexFinish, hexVals, pairUp]
    rw [if_neg h62, hexBodyOf_other c rest (eq_false_of_ne_true hws) h62, hexVals]
    cases hv : hexVal c with
    | none => rfl
    | some v =>
      cases p with
      | none =>
        simp only
        rw [ih (some v) acc]
        cases hexVals (hexBodyOf rest) <;> simp
      | some h =>
        simp only
        rw [ih none ((h * 16 + v) :: acc)]
        cases hexVals (hexBodyOf rest) <;> simp [pairUp]

theorem hexDecode_eq_spec (s : Str) : hexDecode s = hexSpec s := by
  unfold hexDecode hexSpec
  rw [hexGo_eq_spec]
  cases hexVals (hexBodyOf s) <;> simp

theorem hexVals_none_iff (cs : Str) : hexVals cs = none ↔ ∃ c ∈ cs, hexVal c = none := by
  induction cs with
  | nil => simp [hexVals]
  | cons c cs ih =>
    simp only [hexVals, List.mem_cons, exists_eq_or_imp]
    cases hv : hexVal c with
    | none => simp
    | some v =>
      simp only [Option.map_eq_none_iff, ih]
      exact ⟨.inr, fun h => h.resolve_left nofun⟩

/-- the decoder fails exactly when a character that counts is no hexadecimal digit -/
theorem hexDecode_eq_none_iff (s : Str) : hexDecode s = none ↔ ∃ c ∈ hexBodyOf s, hexVal c = none := by
  rw [hexDecode_eq_spec, hexSpec, Option.map_eq_none_iff]
  exact hexVals_none_iff _

theorem a85BodyOf_nil : a85BodyOf [] = [] := rfl

theorem a85BodyOf_ws (c : Nat) (rest : Str) (h : isWs c = true) : a85BodyOf (c :: rest) = a85BodyOf rest := by
  have h126 : ¬ (c = 126 ∧ rest.head? = some 62) := by
    rintro ⟨hc, _⟩
    subst hc
    exact absurd h (by decide)
  simp [a85BodyOf, cutEOD, h126, h]

theorem a85BodyOf_eod (c : Nat) (rest : Str) (h : c = 126 ∧ rest.head? = some 62) : a85BodyOf (c :: rest) = [] := by
  simp [a85BodyOf, cutEOD, h]

theorem a85BodyOf_other (c : Nat) (rest : Str) (h1 : isWs c = false) (h2 : ¬ (c = 126 ∧ rest.head? = some 62)) :
    a85BodyOf (c :: rest) = c :: a85BodyOf rest := by
  simp [a85BodyOf, cutEOD, h2, h1]

/-- the characters of digits -/
def a85Chars (ds : List Nat) : Str := ds.map (· + 33)

theorem a85Digit_char (d : Nat) (h : d < 85) : a85Digit (d + 33) = true := by
  simp [a85Digit]; omega

theorem a85Groups_z (body : Str) : a85Groups (122 :: body) = (a85Groups body).map (fun t => 0 :: 0 :: 0 :: 0 :: t) := by
  rw [a85Groups.eq_def]
  simp

/-- a group of digit characters reads as the flush of its digits -/
theorem a85Group_chars (ds : List Nat) (hd : ∀ d ∈ ds, d < 85) : a85Group (a85Chars ds) = a85Flush ds := by
  have h1 : (a85Chars ds).all a85Digit = true := List.all_eq_true.mpr fun c hc => by
    obtain ⟨d, hd', rfl⟩ := List.mem_map.mp hc
    exact a85Digit_char d (hd d hd')
  have h2 : (a85Chars ds).map (· - 33) = ds := by
    rw [a85Chars, List.map_map]
    exact (List.map_congr_left fun d _ => Nat.add_sub_cancel ..).trans (List.map_id' _)
  rw [a85Group, if_pos h1, h2]

/-- fewer than five digit characters at the end are the final partial group -/
theorem a85Groups_partial (ds : List Nat) (hl : ds.length < 5) (hd : ∀ d ∈ ds, d < 85) :
    a85Groups (a85Chars ds) = a85Flush ds := by
  cases ds with
  | nil => rfl
  | cons d0 dr =>
    have n1 : ¬ (d0 + 33 = 122) := by have := hd d0 (List.mem_cons_self ..); omega
    rw [← a85Group_chars _ hd, a85Chars, List.map_cons, a85Groups.eq_def]
    simp only [n1, if_false]
    split
    · rename_i h
      have := congrArg List.length h
      simp only [List.length_map, List.length_cons] at this hl
      omega
    · rfl

/-- five digit characters are a full group -/
theorem a85Groups_full (ds : List Nat) (hl : ds.length = 5) (hd : ∀ d ∈ ds, d < 85) (body : Str) :
    a85Groups (a85Chars ds ++ body) =
      match a85Flush ds with
      | none => none
      | some g => (a85Groups body).map (fun t => g ++ t) := by
  match ds, hl with
  | [d0, d1, d2, d3, d4], _ =>
    have n1 : ¬ (d0 + 33 = 122) := by have := hd d0 (List.mem_cons_self ..); omega
    rw [← a85Group_chars _ hd, a85Chars, a85Groups.eq_def]
    simp only [List.map_cons, List.map_nil, List.cons_append, List.nil_append, n1, if_false]
    cases a85Group [d0 + 33, d1 + 33, d2 + 33, d3 + 33, d4 + 33] <;> rfl

theorem a85Groups_five (d0 d1 d2 d3 d4 : Nat) (h0 : d0 < 85) (h1 : d1 < 85) (h2 : d2 < 85) (h3 : d3 < 85)
    (h4 : d4 < 85) (body : Str) :
    a85Groups ((d0 + 33) :: (d1 + 33) :: (d2 + 33) :: (d3 + 33) :: (d4 + 33) :: body) =
      if (((d0 * 85 + d1) * 85 + d2) * 85 + d3) * 85 + d4 > 4294967295 then none
      else (a85Groups body).map (fun t => bytes4 ((((d0 * 85 + d1) * 85 + d2) * 85 + d3) * 85 + d4) ++ t) := by
  have h := a85Groups_full [d0, d1, d2, d3, d4] rfl (by
    intro d hd
    simp only [List.mem_cons, List.not_mem_nil, or_false] at hd
    rcases hd with rfl | rfl | rfl | rfl | rfl <;> assumption) body
  rw [a85Flush_5] at h
  by_cases hv : (((d0 * 85 + d1) * 85 + d2) * 85 + d3) * 85 + d4 > 4294967295
  · rwa [if_pos hv] at h ⊢
  · rwa [if_neg hv] at h ⊢
/-- a character that is no digit among the first five of a group (which does not start with `z`) -/
theorem a85Groups_bad (cs : Str) (i : Nat) (hi : i < 5) (c : Nat) (hc : cs[i]? = some c) (hbad : a85Digit c = false)
    (h0 : cs.head? ≠ some 122) : a85Groups cs = none := by
  cases cs with
  | nil => simp at hc
  | cons c0 r0 =>
    have n1 : ¬ (c0 = 122) := by
      intro h; subst h; exact h0 rfl
    rw [a85Groups.eq_def]
    simp only [n1, if_false]
    split
    · rename_i c1 c2 c3 c4 r
      have hm : c ∈ [c0, c1, c2, c3, c4] := List.mem_of_getElem? (i := i)
        (show (List.take 5 (c0 :: c1 :: c2 :: c3 :: c4 :: r))[i]? = some c by rw [List.getElem?_take, if_pos hi]; exact hc)
      have hall : List.all [c0, c1, c2, c3, c4] a85Digit = false := by
        rw [List.all_eq_false]
        exact ⟨c, hm, by simp [hbad]⟩
      simp [a85Group, hall]
    · have hall : List.all (c0 :: r0) a85Digit = false := by
        rw [List.all_eq_false]
        exact ⟨c, List.mem_of_getElem? hc, by simp [hbad]⟩
      simp [a85Group, hall]

theorem a85Chars_append (ds : List Nat) (c : Nat) (h : 33 ≤ c) : a85Chars (ds ++ [c - 33]) = a85Chars ds ++ [c] := by
  simp only [a85Chars, List.map_append, List.map_cons, List.map_nil]
  congr 2
  omega

theorem a85Go_eq_spec : ∀ (s : Str) (ds acc : Str), ds.length < 5 → (∀ d ∈ ds, d < 85) →
    a85Go s ds acc = (a85Groups (a85Chars ds ++ a85BodyOf s)).map (fun t => acc.reverse ++ t) := by
  intro s
  induction s with
  | nil =>
    intro ds acc hl hd
    rw [a85Go, a85BodyOf_nil, List.append_nil, a85Groups_partial ds hl hd, a85Finish]
    cases a85Flush ds <;> rfl
  | cons c rest ih =>
    intro ds acc hl hd
    rw [a85Go]
    by_cases hws : isWs c = true
    · rw [if_pos hws, a85BodyOf_ws c rest hws]
      exact ih ds acc hl hd
    rw [if_neg hws]
    by_cases heod : c = 126 ∧ rest.head? = some 62
    · rw [if_pos heod, a85BodyOf_eod c rest heod, List.append_nil, a85Groups_partial ds hl hd, a85Finish]
      cases a85Flush ds <;> rfl
    rw [if_neg heod, a85BodyOf_other c rest (eq_false_of_ne_true hws) heod]
    by_cases hz : ds = [] ∧ c = 122
    · obtain ⟨rfl, rfl⟩ := hz
      rw [if_pos ⟨rfl, rfl⟩, ih [] _ (by simp) (by simp)]
      simp only [a85Chars, List.map_nil, List.nil_append, a85Groups_z, Option.map_map]
      congr 1
      funext t
      simp
    rw [if_neg hz]
    by_cases hrange : c < 33 ∨ c > 117
    · -- no digit: the group reading fails at this character of the group
      rw [if_pos hrange]
      have hbad : a85Digit c = false := by
        simp only [a85Digit, Bool.and_eq_false_iff, decide_eq_false_iff_not]
        omega
      have hidx : (a85Chars ds ++ c :: a85BodyOf rest)[ds.length]? = some c := by
        have : ds.length = (a85Chars ds).length := by simp [a85Chars]
        rw [this, List.getElem?_append_right (Nat.le_refl _)]
        simp
      have hhead : (a85Chars ds ++ c :: a85BodyOf rest).head? ≠ some 122 := by
        cases ds with
        | nil =>
          simp only [a85Chars, List.map_nil, List.nil_append, List.head?_cons, ne_eq, Option.some.injEq]
          intro hc
          exact hz ⟨rfl, hc⟩
        | cons d0 dr =>
          have := hd d0 (by simp)
          simp only [a85Chars, List.map_cons, List.cons_append, List.head?_cons, ne_eq, Option.some.injEq]
          omega
      rw [a85Groups_bad _ ds.length hl c hidx hbad hhead]
      rfl
    rw [if_neg hrange]
    have h33 : 33 ≤ c := by omega
    dsimp only
    by_cases hfive : (ds ++ [c - 33]).length = 5
    · rw [if_pos hfive]
      have hd' : ∀ d ∈ ds ++ [c - 33], d < 85 :=
        List.forall_mem_append.mpr ⟨hd, List.forall_mem_singleton.mpr (by omega)⟩
      have e : a85Chars ds ++ c :: a85BodyOf rest = a85Chars (ds ++ [c - 33]) ++ a85BodyOf rest := by
        rw [a85Chars_append ds c h33, List.append_assoc]; rfl
      rw [e, a85Groups_full _ hfive hd']
      cases a85Flush (ds ++ [c - 33]) with
      | none => rfl
      | some g =>
        simp only
        rw [ih [] _ (by simp) (by simp)]
        simp only [a85Chars, List.map_nil, List.nil_append, Option.map_map]
        congr 1
        funext t
        simp
    · rw [if_neg hfive]
      have hlt : (ds ++ [c - 33]).length < 5 := by
        rw [List.length_append, List.length_singleton] at hfive ⊢
        omega
      rw [ih (ds ++ [c - 33]) acc hlt (List.forall_mem_append.mpr ⟨hd, List.forall_mem_singleton.mpr (by omega)⟩),
        a85Chars_append ds c h33]
      simp

theorem a85Decode_eq_spec (s : Str) : a85Decode s = a85Spec s := by
  unfold a85Decode a85Spec
  rw [a85Go_eq_spec s [] [] (by simp) (by simp)]
  simp [a85Chars]

/-- the writings of `x` by a conforming ASCIIHex encoder, up to the EOD marker: two digits per
byte (`HexEnc`), or — when the low digit of the last byte is 0 — that digit left out (§7.4.2: "if
the filter encounters the EOD marker after reading an odd number of hexadecimal digits, it shall
behave as if a 0 followed the last digit") -/
def HexWriting (s x : Str) : Prop :=
  HexEnc s x ∨ ∃ s' x' c v w, HexEnc s' x' ∧ hexVal c = some v ∧ (∀ c ∈ w, isWs c = true) ∧
    x = x' ++ [v * 16] ∧ s = s' ++ c :: w

/-- the decoder inverts every such writing, followed by anything that makes it stop -/
theorem hexDecode_writing (s x tail : Str) (h : HexWriting s x)
    (htail : ∀ p acc, hexGo tail p acc = some (hexFinish p acc)) : hexDecode (s ++ tail) = some x := by
  rcases h with h | ⟨s', x', c, v, w, h1, h2, h3, rfl, rfl⟩
  · exact hexDecode_enc s x tail h htail
  · rw [List.append_assoc, List.cons_append]
    exact hexDecode_odd s' x' w tail c v h1 h2 h3 htail

theorem HexWriting_ws (c : Nat) (s x : Str) (hc : isWs c = true) (h : HexWriting s x) : HexWriting (c :: s) x := by
  rcases h with h | ⟨s', x', c', v, w, h1, h2, h3, h4, h5⟩
  · exact Or.inl (.ws c s x hc h)
  · exact Or.inr ⟨c :: s', x', c', v, w, .ws c s' x' hc h1, h2, h3, h4, by simp [h5]⟩

theorem HexWriting_byte (h l b : Nat) (w s x : Str) (hh : hexVal h = some (b / 16)) (hl : hexVal l = some (b % 16))
    (hw : ∀ c ∈ w, isWs c = true) (hs : HexWriting s x) : HexWriting (h :: (w ++ l :: s)) (b :: x) := by
  rcases hs with hs | ⟨s', x', c', v, w', h1, h2, h3, h4, h5⟩
  · exact Or.inl (.byte h l b w s x hh hl hw hs)
  · refine Or.inr ⟨h :: (w ++ l :: s'), b :: x', c', v, w', .byte h l b w s' x' hh hl hw h1, h2, h3, by simp [h4], ?_⟩
    simp [h5]

theorem hexEncGo_sound : ∀ (s : Str),
    (∀ x, hexEncGo s none x = true → HexWriting s x) ∧
    (∀ (c0 b : Nat) (xs w : Str), hexVal c0 = some (b / 16) → (∀ c ∈ w, isWs c = true) →
      hexEncGo s (some (b / 16)) (b :: xs) = true → HexWriting (c0 :: (w ++ s)) (b :: xs)) := by
  intro s
  induction s with
  | nil =>
    refine ⟨?_, ?_⟩
    · intro x h
      cases x with
      | nil => exact Or.inl .nil
      | cons b xs => simp [hexEncGo] at h
    · intro c0 b xs w hc0 hw h
      cases xs with
      | nil =>
        simp only [hexEncGo, beq_iff_eq] at h
        refine Or.inr ⟨[], [], c0, b / 16, w, .nil, hc0, hw, ?_, by simp⟩
        have : b / 16 * 16 = b := by omega
        simp [this]
      | cons b' xs' => simp [hexEncGo] at h
  | cons c s ih =>
    obtain ⟨ih1, ih2⟩ := ih
    refine ⟨?_, ?_⟩
    · intro x h
      simp only [hexEncGo] at h
      split at h
      · rename_i hws
        exact HexWriting_ws c s x hws (ih1 x h)
      · cases x with
        | nil => simp at h
        | cons b xs =>
          simp only at h
          split at h
          · rename_i hv
            have := ih2 c b xs [] hv (by simp) h
            simpa using this
          · exact absurd h (by simp)
    · intro c0 b xs w hc0 hw h
      simp only [hexEncGo] at h
      split at h
      · rename_i hws
        have := ih2 c0 b xs (w ++ [c]) hc0 (List.forall_mem_append.mpr ⟨hw, List.forall_mem_singleton.mpr hws⟩) h
        simpa [List.append_assoc] using this
      · split at h
        · rename_i hv
          exact HexWriting_byte c0 c b w s xs hc0 hv hw (ih1 xs h)
        · exact absurd h (by simp)

/-- a string is what precedes its first `>`, alone or followed by `>` and the rest -/
theorem takeWhile_eod (y : Str) :
    y = y.takeWhile (fun c => c != 62) ∨ ∃ t, y = y.takeWhile (fun c => c != 62) ++ 62 :: t := by
  have h := (List.takeWhile_append_dropWhile (p := fun c => c != 62) (l := y)).symm
  have hc := List.head?_dropWhile_not (fun c => c != 62) y
  cases hd : y.dropWhile (fun c => c != 62) with
  | nil => rw [hd, List.append_nil] at h; exact .inl h
  | cons c t =>
    rw [hd] at h hc
    obtain rfl : c = 62 := by simpa using hc
    exact .inr ⟨t, h⟩

/-- a string is what precedes its first `~>`, alone or followed by `~>` and the rest -/
theorem cutEOD_split (y : Str) : y = cutEOD y ∨ ∃ t, y = cutEOD y ++ 126 :: 62 :: t := by
  induction y with
  | nil => exact Or.inl rfl
  | cons c y ih =>
    simp only [cutEOD]
    split
    · rename_i h
      obtain ⟨hc, hh⟩ := h
      subst hc
      cases y with
      | nil => simp at hh
      | cons d y' =>
        simp only [List.head?_cons, Option.some.injEq] at hh
        subst hh
        exact Or.inr ⟨y', by simp⟩
    · rcases ih with ih | ⟨t, ih⟩
      · left; rw [← ih]
      · right; exact ⟨t, by rw [List.cons_append, ← ih]⟩

theorem cutEOD_length_le (s : Str) : (cutEOD s).length ≤ s.length := by
  rcases cutEOD_split s with h | ⟨t, h⟩
  · rw [← h]; exact Nat.le_refl _
  · have := congrArg List.length h
    rw [List.length_append] at this
    omega

theorem flateDecode_some_iff (inflate : Str → Option Str) (data : Str) (params : Option Params) (out : Str) :
    flateDecode inflate data params = some out ↔
      ∃ dec, inflate data = some dec ∧ flatePost params dec = some out := by
  unfold flateDecode
  cases inflate data <;> simp

/-- a stage returns `out` exactly when its input reads as `out` under the filter its name selects -/
theorem decodeWithFilter_some_iff (ext : Ext) (name : Str) (params : Option Params) (inp out : Str) :
    decodeWithFilter ext inp name params = some out ↔
      (((name = nASCIIHexDecode ∨ name = nAHx) ∧ hexSpec inp = some out) ∨
       ((name = nASCII85Decode ∨ name = nA85) ∧ a85Spec inp = some out) ∨
       ((name = nFlateDecode ∨ name = nFl) ∧
          ∃ dec, ext.inflate inp = some dec ∧ flatePost params dec = some out) ∨
       ((name = nDCTDecode ∨ name = nDCT ∨ name = nJPXDecode) ∧ out = inp) ∨
       ((name = nCCITTFaxDecode ∨ name = nCCF) ∧ ccittFaxDecode ext.ccitt inp params = some out)) := by
  constructor
  · intro h
    rcases decodeWithFilter_cases name with ⟨hn, e⟩ | ⟨hn, e⟩ | ⟨hn, e⟩ | ⟨hn, e⟩ | ⟨hn, e⟩ | ⟨_, e⟩ <;>
      rw [e] at h
    · exact .inr (.inr (.inl ⟨hn, (flateDecode_some_iff ..).mp h⟩))
    · exact .inl ⟨hn, hexDecode_eq_spec inp ▸ h⟩
    · exact .inr (.inl ⟨hn, a85Decode_eq_spec inp ▸ h⟩)
    · exact .inr (.inr (.inr (.inr ⟨hn, h⟩)))
    · exact .inr (.inr (.inr (.inl ⟨hn, (Option.some.inj h).symm⟩)))
    · cases h
  · rintro (⟨hn, h⟩ | ⟨hn, h⟩ | ⟨hn, h⟩ | ⟨hn, h⟩ | ⟨hn, h⟩)
    · rw [decodeWithFilter_hex hn, hexDecode_eq_spec]; exact h
    · rw [decodeWithFilter_a85 hn, a85Decode_eq_spec]; exact h
    · rw [decodeWithFilter_flate hn]; exact (flateDecode_some_iff ..).mpr h
    · rw [decodeWithFilter_pass hn, h]
    · rw [decodeWithFilter_ccitt hn]; exact h

end Tabula.Filters
