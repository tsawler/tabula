import TabulaModel.Model.CsvRune
/-!
Lemmas for the rune-delimiter writer/reader pair of `Model/CsvRune.lean`:
`csvReadR (runeBytes r) (csvWriteR extra (runeBytes r) rows) = some rows` for every valid
delimiter rune, all field bytes and all rows without an empty record, and agreement with the one-byte model of `Model/Csv.lean`
(whose round trip is the case of a one-byte delimiter).
-/
namespace Tabula.Csv

/-- states in which an unquoted field may begin or continue -/
def plain (s : St) : Prop := s = .recStart ∨ s = .fieldStart ∨ s = .unq

/-- states in which a field may end (delimiter / LF accepted) -/
def endable (s : St) : Prop := s = .recStart ∨ s = .fieldStart ∨ s = .unq ∨ s = .quoSeen

/-! ### one unfolding step of the reader -/

theorem stepsR_nil (D : Str) (s : St) (a : Acc) : stepsR D s a [] = some (s, a) := by
  rw [stepsR]

theorem stepsR_cons (D : Str) (s : St) (a : Acc) (c : Nat) (cs : Str) :
    stepsR D s a (c :: cs) =
      match stepR D s a c cs with
      | none => none
      | some (s', a', k) => stepsR D s' a' (cs.drop k) := by
  rw [stepsR]
  rfl

theorem stepsR_of_stepR {D : Str} {s s' : St} {a a' : Acc} {c k : Nat} {cs : Str}
    (h : stepR D s a c cs = some (s', a', k)) :
    stepsR D s a (c :: cs) = stepsR D s' a' (cs.drop k) := by
  rw [stepsR_cons, h]

theorem hasPrefix_append_self (D t : Str) : hasPrefix D (D ++ t) = true := by
  induction D with
  | nil => simp [hasPrefix]
  | cons b bs ih => simp [hasPrefix, ih]

/-- if `P` is a prefix of `x ++ t` then it is a prefix of `x`, or it sticks out of `x` -/
theorem hasPrefix_split {P x t : Str} (h : hasPrefix P (x ++ t) = true) :
    hasPrefix P x = true ∨ ∃ P', P' ≠ [] ∧ P = x ++ P' ∧ hasPrefix P' t = true := by
  induction P generalizing x with
  | nil => left; simp [hasPrefix]
  | cons p ps ih =>
    cases x with
    | nil => right; exact ⟨p :: ps, by simp, by simp, by simpa using h⟩
    | cons c cs =>
      simp only [List.cons_append, hasPrefix, Bool.and_eq_true, beq_iff_eq] at h
      obtain ⟨hpc, hrest⟩ := h
      rcases ih hrest with h1 | ⟨P', hne, heq, hP'⟩
      · left; simp [hasPrefix, hpc, h1]
      · right; exact ⟨P', hne, by simp [hpc, heq], hP'⟩

/-! ### what the proof needs to know about the delimiter bytes -/

/-- the first byte does not occur again (so no proper suffix of `D` starts like `D`), and `"`, LF, CR do not occur at all -/
def delimOk (D : Str) : Prop :=
  ∃ b bs, D = b :: bs ∧ b ∉ bs ∧ 34 ∉ D ∧ 10 ∉ D ∧ 13 ∉ D

/-- the text after a written field starts with LF or with the delimiter -/
def sepHead (D t : Str) : Prop :=
  ∃ e t', t = e :: t' ∧ (e = 10 ∨ D.head? = some e)

theorem sepHead_lf (D t : Str) : sepHead D (10 :: t) := ⟨10, t, rfl, Or.inl rfl⟩

theorem sepHead_delim {D : Str} (hD : delimOk D) (t : Str) : sepHead D (D ++ t) := by
  obtain ⟨b, bs, rfl, _⟩ := hD
  exact ⟨b, bs ++ t, rfl, Or.inr rfl⟩

/-- KEY: a delimiter cannot begin inside an unquoted field body and end in what follows it -/
theorem hasPrefix_field_false {D x t : Str} (hD : delimOk D) (hx : x ≠ [])
    (hp : hasPrefix D x = false) (ht : sepHead D t) : hasPrefix D (x ++ t) = false := by
  cases h : hasPrefix D (x ++ t) with
  | false => rfl
  | true =>
    exfalso
    rcases hasPrefix_split h with h1 | ⟨P', hne, heq, hP'⟩
    · rw [h1] at hp; cases hp
    · obtain ⟨b, bs, rfl, hb, _, h10, _⟩ := hD
      obtain ⟨e', t', rfl, he'⟩ := ht
      cases x with
      | nil => exact hx rfl
      | cons c cs =>
        cases P' with
        | nil => exact hne rfl
        | cons e es =>
          simp only [hasPrefix, Bool.and_eq_true, beq_iff_eq] at hP'
          simp only [List.cons_append, List.cons.injEq] at heq
          have hmem : e ∈ bs := by rw [heq.2]; simp
          rcases he' with he' | he'
          · apply h10; rw [← he', ← hP'.1]; simp [hmem]
          · simp only [List.head?_cons, Option.some.injEq] at he'
            apply hb; rw [he', ← hP'.1]; exact hmem

theorem containsSub_false_cons {D : Str} {c : Nat} {cs : Str}
    (h : containsSub D (c :: cs) = false) :
    hasPrefix D (c :: cs) = false ∧ containsSub D cs = false := by
  simpa [containsSub] using h

theorem mustQuoteR_false_cons {D : Str} {c : Nat} {cs : Str}
    (h : mustQuoteR D (c :: cs) = false) :
    hasPrefix D (c :: cs) = false ∧ c ≠ 34 ∧ c ≠ 10 ∧ c ≠ 13 ∧ mustQuoteR D cs = false := by
  simp only [mustQuoteR, containsSub, List.any_cons, Bool.or_eq_false_iff, beq_eq_false_iff_ne]
    at h
  obtain ⟨⟨h1, h2⟩, ⟨⟨h3, h4⟩, h5⟩, h6⟩ := h
  refine ⟨h1, h3, h4, h5, ?_⟩
  simp [mustQuoteR, h2, h6]

/-! ### the reader on the pieces of the writer's output -/

theorem stepR_plain_ordinary {D : Str} {c : Nat} {cs : Str} {s : St} (a : Acc) (hs : plain s)
    (hp : hasPrefix D (c :: cs) = false) (h34 : c ≠ 34) (h10 : c ≠ 10) (h13 : c ≠ 13) :
    stepR D s a c cs = some (.unq, push a c, 0) := by
  rcases hs with h | h | h <;> subst h <;> simp [stepR, hp, h34, h10, h13]

/-- an unquoted field body is copied into `cur`; `t` is the rest of the input -/
theorem stepsR_unquoted {D : Str} (hD : delimOk D) (f t : Str) (s : St) (a : Acc) (hs : plain s)
    (hf : mustQuoteR D f = false) (ht : sepHead D t) :
    ∃ s', plain s' ∧ stepsR D s a (f ++ t) = stepsR D s' { a with cur := a.cur ++ f } t := by
  induction f generalizing s a with
  | nil => exact ⟨s, hs, by simp⟩
  | cons c cs ih =>
    obtain ⟨hp, h34, h10, h13, hcs⟩ := mustQuoteR_false_cons hf
    have hp' : hasPrefix D (c :: (cs ++ t)) = false :=
      hasPrefix_field_false (x := c :: cs) hD (by simp) hp ht
    obtain ⟨s', hs', h⟩ := ih .unq (push a c) (Or.inr (Or.inr rfl)) hcs
    refine ⟨s', hs', ?_⟩
    simp only [push, List.append_assoc, List.singleton_append] at h
    rw [List.cons_append, stepsR_of_stepR (stepR_plain_ordinary a hs hp' h34 h10 h13)]
    simpa [push] using h

/-- the escaped body of a quoted field is decoded into `cur` -/
theorem stepsR_escape (D : Str) (f t : Str) (a : Acc) :
    stepsR D .quo a (escape f ++ t) = stepsR D .quo { a with cur := a.cur ++ f } t := by
  induction f generalizing a with
  | nil => simp [escape]
  | cons c cs ih =>
    by_cases hc : c = 34
    · subst hc
      simp only [escape, if_true, List.cons_append]
      rw [stepsR_of_stepR (s' := .quoSeen) (a' := a) (k := 0) (by simp [stepR])]
      simp only [List.drop_zero]
      rw [stepsR_of_stepR (s' := .quo) (a' := push a 34) (k := 0) (by simp [stepR])]
      simp only [List.drop_zero]
      rw [ih]
      simp [push]
    · simp only [escape, hc, if_false, List.cons_append]
      rw [stepsR_of_stepR (s' := .quo) (a' := push a c) (k := 0) (by simp [stepR, hc])]
      simp only [List.drop_zero]
      rw [ih]
      simp [push]

/-- one written field, read from the start of a field; `t` is the rest of the input -/
theorem stepsR_field (extra : Str → Bool) {D : Str} (hD : delimOk D) (f t : Str) (s : St) (a : Acc)
    (hs : s = .recStart ∨ s = .fieldStart) (ha : a.cur = []) (ht : sepHead D t) :
    ∃ s', endable s' ∧
      stepsR D s a (writeFieldR extra D f ++ t) = stepsR D s' { a with cur := f } t := by
  unfold writeFieldR
  by_cases hq : needsQuotesR extra D f = true
  · simp only [hq, if_true]
    have h1 : ∀ cs, stepR D s a 34 cs = some (.quo, a, 0) := by
      intro cs; rcases hs with h | h <;> subst h <;> simp [stepR]
    refine ⟨.quoSeen, Or.inr (Or.inr (Or.inr rfl)), ?_⟩
    rw [List.cons_append, stepsR_of_stepR (h1 _), List.drop_zero, List.append_assoc,
      stepsR_escape, List.singleton_append,
      stepsR_of_stepR (s' := .quoSeen) (a' := { a with cur := a.cur ++ f }) (k := 0)
        (by simp [stepR]), List.drop_zero]
    simp [ha]
  · simp only [hq]
    have hm : mustQuoteR D f = false := by
      cases f with
      | nil =>
        obtain ⟨b, bs, rfl, _⟩ := hD
        simp [mustQuoteR, containsSub, hasPrefix]
      | cons c cs =>
        simp only [needsQuotesR, Bool.or_eq_true, not_or, Bool.not_eq_true] at hq
        exact hq.1
    have hp : plain s := by rcases hs with h | h <;> simp [plain, h]
    obtain ⟨s', hs', h⟩ := stepsR_unquoted hD f t s a hp hm ht
    refine ⟨s', ?_, ?_⟩
    · rcases hs' with h | h | h <;> simp [endable, h]
    · simpa [ha] using h

theorem stepsR_endable_delim {D : Str} (hD : delimOk D) {s : St} (a : Acc) (t : Str)
    (hs : endable s) : stepsR D s a (D ++ t) = stepsR D .fieldStart (endField a) t := by
  have hpre := hasPrefix_append_self D t
  obtain ⟨b, bs, rfl, _, h34, _, _⟩ := hD
  have hb : b ≠ 34 := fun h => h34 (by simp [h])
  have hstep : stepR (b :: bs) s a b (bs ++ t) = some (.fieldStart, endField a, bs.length) := by
    simp only [List.cons_append] at hpre
    rcases hs with h | h | h | h <;> subst h <;> simp [stepR, sepR, hb, hpre]
  rw [List.cons_append, stepsR_of_stepR hstep]
  simp

theorem stepsR_endable_lf {D : Str} (hD : delimOk D) {s : St} (a : Acc) (t : Str)
    (hs : endable s) : stepsR D s a (10 :: t) = stepsR D .recStart (endRecord a) t := by
  obtain ⟨b, bs, rfl, _, _, h10, _⟩ := hD
  have hb : b ≠ 10 := fun h => h10 (by simp [h])
  have hpre : hasPrefix (b :: bs) (10 :: t) = false := by simp [hasPrefix, hb]
  have hstep : stepR (b :: bs) s a 10 t = some (.recStart, endRecord a, 0) := by
    rcases hs with h | h | h | h <;> subst h <;> simp [stepR, sepR, hpre]
  rw [stepsR_of_stepR hstep, List.drop_zero]

/-- one written record (non-empty list of fields), read from the start of a field -/
theorem stepsR_record (extra : Str → Bool) {D : Str} (hD : delimOk D) (r : List Str) (hr : r ≠ [])
    (t : Str) (s : St) (a : Acc) (hs : s = .recStart ∨ s = .fieldStart) (ha : a.cur = []) :
    stepsR D s a (writeRecordR extra D r ++ t) =
      stepsR D .recStart { cur := [], row := [], rows := a.rows ++ [a.row ++ r] } t := by
  unfold writeRecordR
  induction r generalizing s a with
  | nil => exact absurd rfl hr
  | cons f fs ih =>
    cases fs with
    | nil =>
      obtain ⟨s', hs', h⟩ := stepsR_field extra hD f (10 :: t) s a hs ha (sepHead_lf D t)
      simp only [writeFieldsR, List.append_assoc, List.singleton_append]
      rw [h, stepsR_endable_lf hD _ _ hs']
      simp [endRecord]
    | cons g gs =>
      obtain ⟨s', hs', h⟩ := stepsR_field extra hD f
        (D ++ (writeFieldsR extra D (g :: gs) ++ [10] ++ t)) s a hs ha (sepHead_delim hD _)
      simp only [writeFieldsR, List.append_assoc] at h ⊢
      rw [h, stepsR_endable_delim hD _ _ hs']
      have := ih (by simp) .fieldStart (endField { a with cur := f }) (Or.inr rfl) rfl
      simp only [List.append_assoc] at this
      rw [this]
      simp [endField]

/-- all written records, read from the start of a record -/
theorem stepsR_rows (extra : Str → Bool) {D : Str} (hD : delimOk D) (rows : List (List Str))
    (hrows : ∀ r ∈ rows, r ≠ []) (acc : List (List Str)) :
    stepsR D .recStart ⟨[], [], acc⟩ (csvWriteR extra D rows) =
      some (.recStart, ⟨[], [], acc ++ rows⟩) := by
  induction rows generalizing acc with
  | nil => simp [csvWriteR, stepsR_nil]
  | cons r rs ih =>
    simp only [csvWriteR]
    rw [stepsR_record extra hD r (hrows r (by simp)) _ .recStart _ (Or.inl rfl) rfl]
    simp only [List.nil_append]
    rw [ih (fun r' h => hrows r' (by simp [h]))]
    simp

/-- the reader inverts the writer for every delimiter byte string that satisfies `delimOk` -/
theorem csvReadR_write_of_delimOk (extra : Str → Bool) {D : Str} (hD : delimOk D)
    (rows : List (List Str)) (hrows : ∀ x ∈ rows, x ≠ []) :
    csvReadR D (csvWriteR extra D rows) = some rows := by
  unfold csvReadR
  rw [stepsR_rows extra hD rows hrows []]
  simp [finish]

/-! ### UTF-8 encodings of valid delimiters -/

theorem runeBytes_ascii (r : Nat) (h : r < 128) : runeBytes r = [r] := by
  simp [runeBytes, h]

theorem cont_byte (x : Nat) : 0x80 ≤ 0x80 + x % 0x40 ∧ 0x80 + x % 0x40 < 0xC0 := by omega

/-- a lead byte followed by continuation bytes only -/
theorem delimOk_of_lead {b : Nat} {bs : Str} (hb : 0xC0 ≤ b) (hbs : ∀ c ∈ bs, 0x80 ≤ c ∧ c < 0xC0) :
    delimOk (b :: bs) := by
  have hge : ∀ c ∈ b :: bs, 0x80 ≤ c := by
    intro c hc
    rcases List.mem_cons.mp hc with e | e
    · omega
    · exact (hbs c e).1
  refine ⟨b, bs, rfl, fun h => ?_, fun h => ?_, fun h => ?_, fun h => ?_⟩
  · have := hbs b h; omega
  · exact absurd (hge _ h) (by decide)
  · exact absurd (hge _ h) (by decide)
  · exact absurd (hge _ h) (by decide)

theorem delimOk_runeBytes (r : Nat) (hr : validDelimR r) : delimOk (runeBytes r) := by
  obtain ⟨_, h34, h13, h10, _, _⟩ := hr
  unfold runeBytes
  by_cases h1 : r < 0x80
  · rw [if_pos h1]
    exact ⟨r, [], rfl, List.not_mem_nil, fun h => h34 (List.mem_singleton.mp h).symm,
      fun h => h10 (List.mem_singleton.mp h).symm, fun h => h13 (List.mem_singleton.mp h).symm⟩
  rw [if_neg h1]
  by_cases h2 : r < 0x800
  · rw [if_pos h2]
    exact delimOk_of_lead (Nat.le_add_right_of_le (by decide)) (by
      simp only [List.mem_cons, List.not_mem_nil, or_false, forall_eq]; exact cont_byte _)
  rw [if_neg h2]
  by_cases h3 : r < 0x10000
  · rw [if_pos h3]
    exact delimOk_of_lead (Nat.le_add_right_of_le (by decide)) (by
      simp only [List.mem_cons, List.not_mem_nil, or_false, forall_eq_or_imp, forall_eq]
      exact ⟨cont_byte _, cont_byte _⟩)
  · rw [if_neg h3]
    exact delimOk_of_lead (Nat.le_add_right_of_le (by decide)) (by
      simp only [List.mem_cons, List.not_mem_nil, or_false, forall_eq_or_imp, forall_eq]
      exact ⟨cont_byte _, cont_byte _, cont_byte _⟩)

/-- for every valid delimiter rune the strict reader recovers exactly the written
rows (none of them the empty record), whatever bytes the fields contain -/
theorem csvReadR_write (extra : Str → Bool) (r : Nat) (hr : validDelimR r)
    (rows : List (List Str)) (hrows : ∀ x ∈ rows, x ≠ []) :
    csvReadR (runeBytes r) (csvWriteR extra (runeBytes r) rows) = some rows :=
  csvReadR_write_of_delimOk extra (delimOk_runeBytes r hr) rows hrows

/-! ### for a one-byte delimiter the writer is the writer of `Model/Csv.lean` -/

theorem hasPrefix_one (d c : Nat) (cs : Str) : hasPrefix [d] (c :: cs) = (d == c) := by
  simp [hasPrefix]

theorem mustQuoteR_one_byte (d : Nat) (f : Str) : mustQuoteR [d] f = mustQuote d f := by
  induction f with
  | nil => simp [mustQuoteR, containsSub, hasPrefix, mustQuote]
  | cons c cs ih =>
    have e : mustQuoteR [d] (c :: cs) =
        ((d == c) || (c == 34 || c == 10 || c == 13) || mustQuoteR [d] cs) := by
      simp only [mustQuoteR, containsSub, hasPrefix_one, List.any_cons]
      cases (d == c) <;> cases (c == 34 || c == 10 || c == 13) <;> cases containsSub [d] cs <;> simp
    rw [e, ih]
    simp only [mustQuote, isSpecial]
    by_cases h1 : c = d
    · subst h1; simp
    · have h1' : d ≠ c := fun h => h1 h.symm
      by_cases h2 : c = 34
      · simp [h2]
      · by_cases h3 : c = 10
        · simp [h3]
        · by_cases h4 : c = 13
          · simp [h4]
          · simp [h1, h1', h2, h3, h4]

theorem needsQuotesR_one_byte (extra : Str → Bool) (d : Nat) (f : Str) :
    needsQuotesR extra [d] f = needsQuotes extra d f := by
  cases f with
  | nil => rfl
  | cons c cs => simp only [needsQuotesR, needsQuotes, mustQuoteR_one_byte]

theorem writeFieldR_one_byte (extra : Str → Bool) (d : Nat) (f : Str) :
    writeFieldR extra [d] f = writeField extra d f := by
  simp only [writeFieldR, writeField, needsQuotesR_one_byte]

theorem writeFieldsR_one_byte (extra : Str → Bool) (d : Nat) (r : List Str) :
    writeFieldsR extra [d] r = writeFields extra d r := by
  induction r with
  | nil => rfl
  | cons f fs ih =>
    cases fs with
    | nil => simp only [writeFieldsR, writeFields, writeFieldR_one_byte]
    | cons g gs => simp only [writeFieldsR, writeFields, writeFieldR_one_byte, ih, List.singleton_append]

theorem csvWriteR_one_byte (extra : Str → Bool) (d : Nat) (rows : List (List Str)) :
    csvWriteR extra [d] rows = csvWrite extra d rows := by
  induction rows with
  | nil => rfl
  | cons r rs ih =>
    simp only [csvWriteR, csvWrite, writeRecordR, writeRecord, writeFieldsR_one_byte, ih]

/-- for `Comma < utf8.RuneSelf` the rune writer IS the byte writer of `Model/Csv.lean` -/
theorem csvWriteR_ascii (extra : Str → Bool) (r : Nat) (h : r < 128) (rows : List (List Str)) :
    csvWriteR extra (runeBytes r) rows = csvWrite extra r rows := by
  rw [runeBytes_ascii r h, csvWriteR_one_byte]

/-! ### for a one-byte delimiter the reader is the DFA of `Model/Csv.lean`,
on EVERY input -/

theorem hasPrefix_one_eq (d c : Nat) (cs : Str) : (hasPrefix [d] (c :: cs) = true) = (c = d) := by
  rw [hasPrefix_one]
  exact propext ⟨fun h => (beq_iff_eq.mp h).symm, fun h => beq_iff_eq.mpr h.symm⟩

theorem sepR_one_byte (d : Nat) (a : Acc) (c : Nat) (cs : Str) :
    sepR [d] a c cs = (sep d a c).map (fun p => (p.1, p.2, 0)) := by
  simp only [sepR, sep, hasPrefix_one_eq, apply_ite (Option.map fun p : St × Acc => (p.1, p.2, 0)),
    Option.map_some, Option.map_none, List.length_singleton, Nat.sub_self]

/-- the two machines are the same `switch`; mapping the extra component over it commutes with every branch -/
theorem stepR_one_byte (d : Nat) (s : St) (a : Acc) (c : Nat) (cs : Str) :
    stepR [d] s a c cs = (step d s a c).map (fun p => (p.1, p.2, 0)) := by
  cases s <;>
    simp only [stepR, step, hasPrefix_one_eq, sepR_one_byte, apply_ite (Option.map fun p : St × Acc => (p.1, p.2, 0)),
      Option.map_some, Option.map_none]

theorem stepsR_one_byte (d : Nat) (input : Str) (s : St) (a : Acc) :
    stepsR [d] s a input = steps d s a input := by
  induction input generalizing s a with
  | nil => simp [stepsR_nil, steps]
  | cons c cs ih =>
    rw [stepsR_cons, stepR_one_byte]
    simp only [steps]
    cases h : step d s a c with
    | none => simp
    | some p => obtain ⟨s', a'⟩ := p; simp [ih]

/-- the two readers agree on every input and for every byte `d` (both machines test `"`,
the delimiter, LF, CR in the same order, so not even `d ∉ {34, 10, 13}` is needed) -/
theorem csvReadR_eq_csvRead (d : Nat) (input : Str) : csvReadR [d] input = csvRead d input := by
  unfold csvReadR csvRead
  rw [stepsR_one_byte]
  rfl

theorem csvReadR_one_byte (d : Nat) (_hd : d ≠ 34 ∧ d ≠ 10 ∧ d ≠ 13) (input : Str) :
    csvReadR [d] input = csvRead d input :=
  csvReadR_eq_csvRead d input

/-! ### the one-byte `validDelim`, and concrete multi-byte round trips -/

theorem validDelimR_of_validDelim (d : Nat) (h : validDelim d) : validDelimR d := by
  obtain ⟨h0, h34, h10, h13, hlt⟩ := h
  exact ⟨h0, h34, h13, h10, Or.inl (Nat.lt_trans hlt (by decide)), Nat.ne_of_lt (Nat.lt_trans hlt (by decide))⟩

theorem validDelimR_iff_validDelim {r : Nat} (h : r < 128) : validDelimR r ↔ validDelim r :=
  ⟨fun ⟨h0, h34, h13, h10, _⟩ => ⟨h0, h34, h10, h13, h⟩, validDelimR_of_validDelim r⟩

/-- '§' (U+00A7 = C2 A7): fields made of a lone lead byte, the delimiter itself between a
continuation byte and a lead byte, quote + LF, CR, and a lone continuation byte -/
example :
    csvReadR (runeBytes 0xA7) (csvWriteR goExtra (runeBytes 0xA7)
      [[[0xC2], [0xA7, 0xC2, 0xA7, 0xC2], [34, 10]], [[13], [], [0xA7]]]) =
      some [[[0xC2], [0xA7, 0xC2, 0xA7, 0xC2], [34, 10]], [[13], [], [0xA7]]] :=
  csvReadR_write _ _ (by decide) _ (by simp)

/-- the bytes written in that case: only the field that contains `C2 A7` is quoted for the
delimiter's sake; `C2` alone and `A7` alone are written bare -/
example :
    csvWriteR goExtra (runeBytes 0xA7) [[[0xC2], [0xA7, 0xC2, 0xA7, 0xC2], [0xA7]]] =
      [0xC2, 0xC2, 0xA7, 34, 0xA7, 0xC2, 0xA7, 0xC2, 34, 0xC2, 0xA7, 0xA7, 10] := by
  decide

/-- '│' (U+2502 = E2 94 82): partial encodings `E2`, `E2 94`, `94 82`, the full encoding,
quotes, CR, LF -/
example :
    csvReadR (runeBytes 0x2502) (csvWriteR goExtra (runeBytes 0x2502)
      [[[0xE2], [0xE2, 0x94], [0x94, 0x82], [0x41, 0xE2, 0x94, 0x82, 0x42]],
       [[34, 34], [13, 10], [0xE2, 0x94, 0xE2, 0x94, 0x82]]]) =
      some [[[0xE2], [0xE2, 0x94], [0x94, 0x82], [0x41, 0xE2, 0x94, 0x82, 0x42]],
       [[34, 34], [13, 10], [0xE2, 0x94, 0xE2, 0x94, 0x82]]] :=
  csvReadR_write _ _ (by decide) _ (by simp)

example : runeBytes 0xA7 = [0xC2, 0xA7] ∧ runeBytes 0x2502 = [0xE2, 0x94, 0x82] ∧
    runeBytes 0x1F600 = [0xF0, 0x9F, 0x98, 0x80] := by decide

end Tabula.Csv
