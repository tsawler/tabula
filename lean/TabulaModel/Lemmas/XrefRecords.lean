import TabulaModel.Model.XrefFile
import TabulaModel.Lemmas.XrefBytes
/-!
The binary records of a cross-reference stream (ISO 32000-1 7.5.8): one entry under widths `/W`
(`streamEntry`, with the int64 wrap of an eight-byte field), the entry loops over the subsections
`/Index` names, and `xrefStreamBody` on the records a writer puts down for given subsections.
`numberFrom`, the consecutive numbering both kinds of cross-reference section share, is here too.
-/
namespace Tabula.XrefFile
open Tabula.XrefBytes Tabula.A1

theorem wrap64_id (x : Int) (h1 : -9223372036854775808 ≤ x) (h2 : x < 9223372036854775808) :
    wrap64 x = x := by
  unfold wrap64; omega

theorem toInt64_small (v : Nat) (h : v < 9223372036854775808) : toInt64 v = (v : Int) :=
  wrap64_id _ (Int.le_trans (by decide) (Int.natCast_nonneg v)) (Int.ofNat_lt.2 h)

/-- counting object numbers below 2^63 does not wrap -/
theorem wrap64_succ (num : Int) (n : Nat) (h0 : 0 ≤ num)
    (hb : num + (n + 1 : Nat) < 9223372036854775808) :
    wrap64 (num + 1) = num + 1 ∧ 0 ≤ num + 1 ∧ num + 1 + n < 9223372036854775808 := by
  have h : 0 ≤ num + 1 ∧ num + 1 < 9223372036854775808 ∧ num + 1 + n < 9223372036854775808 := by
    omega
  exact ⟨wrap64_id _ (Int.le_trans (by decide) h.1) h.2.1, h.1, h.2.2⟩

theorem kindCode_le (k : Kind) : kindCode k ≤ 2 := by cases k <;> decide

/-- the faithful binary entry: written with widths `w0 w1 w2` (each at most 8 bytes, the
fields fitting their widths and the int64 range), whatever follows, it reads back as written -/
theorem streamEntry_encode (k : Kind) (f1 f2 w0 w1 w2 : Nat) (rest : List Nat)
    (h0 : w0 ≤ 8) (h1 : w1 ≤ 8) (h2 : w2 ≤ 8) (hf1 : f1 < 256 ^ w1) (hf2 : f2 < 256 ^ w2)
    (hb1 : f1 < 9223372036854775808) (hb2 : f2 < 9223372036854775808)
    (hk : 0 < w0 ∨ k = .inUse) :
    streamEntry (encodeStreamEntry k f1 f2 w0 w1 w2 ++ rest) w0 w1 w2 =
      some { kind := k, f1 := (f1 : Int), f2 := (f2 : Int) } := by
  have e : encodeStreamEntry k f1 f2 w0 w1 w2 ++ rest =
      beBytes (kindCode k) w0 ++ (beBytes f1 w1 ++ (beBytes f2 w2 ++ rest)) := by
    rw [encodeStreamEntry, List.append_assoc, List.append_assoc]
  have hlen : ¬ (beBytes (kindCode k) w0 ++ (beBytes f1 w1 ++ (beBytes f2 w2 ++ rest))).length <
      w0 + w1 + w2 := by
    simp only [List.length_append, beBytes_length]; omega
  -- the type field, present or not, is the code of `k`
  have ht : (if w0 > 0 then
        toInt64 (readBE (beBytes (kindCode k) w0 ++ (beBytes f1 w1 ++ (beBytes f2 w2 ++ rest))) w0)
      else 1) = (kindCode k : Int) := by
    by_cases hw : w0 > 0
    · rw [if_pos hw, readBE_beBytes _ _ _ h0 (Nat.lt_of_lt_of_le
          (Nat.lt_of_le_of_lt (kindCode_le k) (by decide)) (Nat.pow_le_pow_right (by decide) hw)),
        toInt64_small _ (Nat.lt_of_le_of_lt (kindCode_le k) (by decide))]
    · rw [if_neg hw, hk.resolve_left hw]; rfl
  have hd2 : (beBytes (kindCode k) w0 ++ (beBytes f1 w1 ++ (beBytes f2 w2 ++ rest))).drop (w0 + w1) =
      beBytes f2 w2 ++ rest := by
    rw [← List.append_assoc, List.drop_left' (by rw [List.length_append, beBytes_length, beBytes_length])]
  rw [e, streamEntry, if_neg hlen]
  simp only [ht, hd2, List.drop_left' (beBytes_length (kindCode k) w0), readBE_beBytes f1 w1 _ h1 hf1,
    readBE_beBytes f2 w2 _ h2 hf2, toInt64_small f1 hb1, toInt64_small f2 hb2]
  cases k <;> rfl

open Tabula.Pdf

/-- an entry as authored: type and the two fields -/
structure SEnt where
  kind : Kind
  f1 : Nat
  f2 : Nat
  deriving Repr, DecidableEq

def SEnt.raw (e : SEnt) : RawEntry := { kind := e.kind, f1 := (e.f1 : Int), f2 := (e.f2 : Int) }

/-- the entry fits the widths (a type field of width 0 can only mean "in use") and the int64
range tabula keeps offsets in -/
def SEnt.Ok (w0 w1 w2 : Nat) (e : SEnt) : Prop :=
  e.f1 < 256 ^ w1 ∧ e.f2 < 256 ^ w2 ∧ e.f1 < 9223372036854775808 ∧ e.f2 < 9223372036854775808 ∧
    (0 < w0 ∨ e.kind = .inUse)

/-- the binary records of a run of entries -/
def encodeRun (w0 w1 w2 : Nat) : List SEnt → Str
  | [] => []
  | e :: es => encodeStreamEntry e.kind e.f1 e.f2 w0 w1 w2 ++ encodeRun w0 w1 w2 es

/-- consecutive object numbers from `n` on -/
def numberFrom : Int → List RawEntry → RawSection
  | _, [] => []
  | n, e :: es => (n, e) :: numberFrom (n + 1) es

theorem encodeStreamEntry_length (k : Kind) (f1 f2 w0 w1 w2 : Nat) :
    (encodeStreamEntry k f1 f2 w0 w1 w2).length = w0 + w1 + w2 := by
  simp only [encodeStreamEntry, List.length_append, beBytes_length]

theorem encodeRun_length (w0 w1 w2 : Nat) (es : List SEnt) :
    (encodeRun w0 w1 w2 es).length = (w0 + w1 + w2) * es.length := by
  induction es with
  | nil => rfl
  | cons e es ih =>
    rw [encodeRun, List.length_append, encodeStreamEntry_length, ih, List.length_cons, Nat.mul_succ,
      Nat.add_comm]

theorem streamRun_encode (w0 w1 w2 : Nat) (h0 : w0 ≤ 8) (h1 : w1 ≤ 8) (h2 : w2 ≤ 8)
    (es : List SEnt) (hes : ∀ e ∈ es, e.Ok w0 w1 w2) :
    ∀ (first : Int) (rest : Str) (acc : RawSection), 0 ≤ first →
      first + es.length < 9223372036854775808 →
      streamRun w0 w1 w2 es.length first (encodeRun w0 w1 w2 es ++ rest) acc =
        some (acc ++ numberFrom first (es.map SEnt.raw), rest) := by
  induction es with
  | nil => intro first rest acc _ _; rw [List.map_nil, numberFrom, List.append_nil]; rfl
  | cons e es ih =>
    intro first rest acc hf hb
    obtain ⟨a1, a2, a3, a4, a5⟩ := hes e (List.mem_cons_self ..)
    obtain ⟨hw, hf', hb'⟩ := wrap64_succ first es.length hf hb
    rw [List.length_cons, encodeRun, List.append_assoc, streamRun,
      streamEntry_encode e.kind e.f1 e.f2 w0 w1 w2 _ h0 h1 h2 a1 a2 a3 a4 a5]
    simp only
    rw [List.drop_left' (encodeStreamEntry_length ..), hw,
      ih (fun x hx => hes x (List.mem_cons_of_mem _ hx)) (first + 1) rest _ hf' hb',
      List.map_cons, numberFrom, List.append_assoc]
    rfl

/-- a subsection as authored: first object number and its entries -/
abbrev Sub := Nat × List SEnt

def encodeSubs (w0 w1 w2 : Nat) : List Sub → Str
  | [] => []
  | s :: ss => encodeRun w0 w1 w2 s.2 ++ encodeSubs w0 w1 w2 ss

/-- the entries of a section in the order they are assigned -/
def sectionOf : List Sub → RawSection
  | [] => []
  | s :: ss => numberFrom (s.1 : Int) (s.2.map SEnt.raw) ++ sectionOf ss

def pairsOf (subs : List Sub) : List (Int × Nat) := subs.map fun s => ((s.1 : Int), s.2.length)

def totalOf : List Sub → Nat
  | [] => 0
  | s :: ss => s.2.length + totalOf ss

theorem encodeSubs_length (w0 w1 w2 : Nat) (subs : List Sub) :
    (encodeSubs w0 w1 w2 subs).length = (w0 + w1 + w2) * totalOf subs := by
  induction subs with
  | nil => simp [encodeSubs, totalOf]
  | cons s ss ih =>
    simp only [encodeSubs, List.length_append, encodeRun_length, ih, totalOf, Nat.mul_add]

theorem streamRuns_encode (w0 w1 w2 : Nat) (h0 : w0 ≤ 8) (h1 : w1 ≤ 8) (h2 : w2 ≤ 8)
    (subs : List Sub) (hok : ∀ s ∈ subs, ∀ e ∈ s.2, e.Ok w0 w1 w2)
    (hb : ∀ s ∈ subs, s.1 + s.2.length < 9223372036854775808) :
    ∀ (rest : Str) (acc : RawSection),
      streamRuns w0 w1 w2 (pairsOf subs) (encodeSubs w0 w1 w2 subs ++ rest) acc =
        some (acc ++ sectionOf subs) := by
  induction subs with
  | nil => intro rest acc; rw [sectionOf, List.append_nil]; rfl
  | cons s ss ih =>
    intro rest acc
    have hs := List.mem_cons_self (a := s) (l := ss)
    rw [pairsOf, List.map_cons, streamRuns, encodeSubs, List.append_assoc,
      streamRun_encode w0 w1 w2 h0 h1 h2 s.2 (hok s hs) (s.1 : Int) _ acc (Int.natCast_nonneg _)
        (Int.ofNat_lt.2 (hb s hs))]
    simp only
    rw [← pairsOf, ih (fun s hs => hok s (List.mem_cons_of_mem _ hs))
      (fun s hs => hb s (List.mem_cons_of_mem _ hs)), sectionOf, List.append_assoc]

/-- the `/Index` array as written -/
def indexInts : List Sub → List Int
  | [] => []
  | s :: ss => (s.1 : Int) :: (s.2.length : Int) :: indexInts ss

def indexObjs (subs : List Sub) : List Obj := (indexInts subs).map Obj.int

theorem intsOf_map_int (xs : List Int) : intsOf (xs.map Obj.int) = some xs := by
  induction xs with
  | nil => rfl
  | cons x xs ih => simp [intsOf, ih]

theorem indexInts_length (subs : List Sub) : (indexInts subs).length = 2 * subs.length := by
  induction subs with
  | nil => rfl
  | cons s ss ih => rw [indexInts, List.length_cons, List.length_cons, ih, List.length_cons, Nat.mul_succ]

theorem indexPairs_of (avail : Nat) (subs : List Sub) :
    ∀ total, total + totalOf subs ≤ avail →
      indexPairs avail (indexInts subs) total = some (pairsOf subs) := by
  induction subs with
  | nil => intro total _; rfl
  | cons s ss ih =>
    intro total h
    rw [totalOf, ← Nat.add_assoc] at h
    have h1 : ¬ ((s.1 : Int) < 0 ∨ (s.2.length : Int) < 0) :=
      fun h => h.elim (Int.not_lt.2 (Int.natCast_nonneg _)) (Int.not_lt.2 (Int.natCast_nonneg _))
    have h2 : ¬ (s.2.length > avail - total) :=
      Nat.not_lt.2 (Nat.le_sub_of_add_le' (Nat.le_trans (Nat.le_add_right ..) h))
    rw [indexInts, indexPairs, if_neg h1, Int.toNat_natCast, if_neg h2, ih (total + s.2.length) h]
    rfl

open Tabula.Reader

/-- `xrefStreamBody` takes its index list from `/Index`, or `[0 Size]` when the key is absent; behind
that decision it is one function of the list, so both forms of the round trip come from here -/
theorem xrefStreamBody_encode (kv : Dict) (w0 w1 w2 : Nat) (subs : List Sub) (size : Int) (extra : List Nat)
    (hW : dget kv kW = some (.arr [.int w0, .int w1, .int w2]))
    (hS : dget kv kSize = some (.int size))
    (hI : dget kv kIndex = some (.arr (indexObjs subs)) ∨ dget kv kIndex = none ∧ indexInts subs = [0, size])
    (h0 : w0 ≤ 8) (h1 : w1 ≤ 8) (h2 : w2 ≤ 8) (hpos : 0 < w0 + w1 + w2)
    (hok : ∀ s ∈ subs, ∀ e ∈ s.2, e.Ok w0 w1 w2)
    (hb : ∀ s ∈ subs, s.1 + s.2.length < 9223372036854775808) :
    xrefStreamBody kv (encodeSubs w0 w1 w2 subs ++ extra) = some (sectionOf subs) := by
  have hw : ¬ ((w0 : Int) < 0 ∨ (w0 : Int) > 8 ∨ (w1 : Int) < 0 ∨ (w1 : Int) > 8 ∨ (w2 : Int) < 0 ∨ (w2 : Int) > 8) := by
    omega
  have hz : ¬ (w0 + w1 + w2 = 0) := by omega
  have hev : ¬ ((indexInts subs).length % 2 ≠ 0) := by rw [indexInts_length]; omega
  -- the data holds all the records the index asks for
  have hpairs : indexPairs ((encodeSubs w0 w1 w2 subs ++ extra).length / (w0 + w1 + w2)) (indexInts subs) 0 =
      some (pairsOf subs) := by
    apply indexPairs_of
    rw [Nat.le_div_iff_mul_le hpos, List.length_append, encodeSubs_length, Nat.zero_add, Nat.mul_comm]
    omega
  have hruns := streamRuns_encode w0 w1 w2 h0 h1 h2 subs hok hb extra []
  rw [List.nil_append] at hruns
  unfold xrefStreamBody
  rw [hS, hW]
  rcases hI with hI | ⟨hI, hs⟩
  · simp only [hI, indexObjs, intsOf_map_int, hw, if_false, Int.toNat_natCast, hz, hev, hpairs, hruns]
  · simp only [hI, ← hs, hw, if_false, Int.toNat_natCast, hz, hev, hpairs, hruns]

end Tabula.XrefFile
