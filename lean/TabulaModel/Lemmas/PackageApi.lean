import TabulaModel.Model.PackageApi
import TabulaModel.Lemmas.Package
/-!
Helper lemmas for the reader-API model of C18: the selection loop as a `filterMap`,
`joinWith` (= `List.intercalate`),
the skip loops of the EPUB views in closed form, the front door as a function of the part
list (`front*_eq`), call histories (`run_of_readonly`), the member list of the content sniffing
(`zipMembers`) against the archive lookup.
-/
namespace Tabula.PackageApi
open Tabula.Package

/-- what one selection index contributes -/
def pick {α : Type} (all : List α) (i : Int) : Option α :=
  if 0 ≤ i ∧ i < all.length then all[i.toNat]? else none

theorem selectLoop_eq_filterMap {α : Type} (all : List α) (sel : List Int) :
    selectLoop all sel = sel.filterMap (pick all) := by
  induction sel with
  | nil => rfl
  | cons i rest ih =>
    simp only [selectLoop, List.filterMap_cons, pick]
    split
    · cases all[i.toNat]? with
      | none => simpa using ih
      | some v => simpa using ih
    · simpa using ih

theorem pick_mem {α : Type} {all : List α} {i : Int} {v : α} (h : pick all i = some v) : v ∈ all := by
  unfold pick at h
  split at h
  · exact List.mem_of_getElem? h
  · cases h

theorem pick_ofNat {α : Type} (all : List α) (k : Nat) (h : k < all.length) :
    pick all (k : Int) = some all[k] := by
  unfold pick
  have h1 : (0 : Int) ≤ (k : Int) ∧ (k : Int) < (all.length : Int) := ⟨by omega, by omega⟩
  simp only [h1, and_self, if_true, Int.toNat_natCast]
  exact List.getElem?_eq_getElem h

theorem pick_neg {α : Type} (all : List α) (i : Int) (h : i < 0) : pick all i = none := by
  unfold pick
  have : ¬ (0 ≤ i ∧ i < (all.length : Int)) := by omega
  simp only [this, if_false]

theorem pick_big {α : Type} (all : List α) (i : Int) (h : (all.length : Int) ≤ i) : pick all i = none := by
  unfold pick
  have : ¬ (0 ≤ i ∧ i < (all.length : Int)) := by omega
  simp only [this, if_false]

/-- the `if i > 0 { write(sep) }` loop is the library's `intercalate` -/
theorem joinWith_eq_intercalate (sep : Str) (l : List Str) : joinWith sep l = sep.intercalate l :=
  List.eq_intercalate rfl (fun _ => rfl) (fun _ _ _ => rfl) l

theorem joinWith_map_congr {α : Type} (sep : Str) (f g : α → Str) (l : List α)
    (h : ∀ a ∈ l, f a = g a) : joinWith sep (l.map f) = joinWith sep (l.map g) := by
  rw [List.map_congr_left h]

/-- `parseSlideNotes` in the Option monad -/
theorem slideNotes_eq_bind (look : Str → Option Nat) (x : Docs) (p : Str) :
    slideNotes look x p = (slideRels look x p).bind fun rs =>
      if notesTarget rs = [] then none
      else (notesLookup look (pathDir p) (notesTarget rs)).bind fun c => if x c = .notes then some c else none := by
  unfold slideNotes
  cases slideRels look x p with
  | none => rfl
  | some rs =>
    simp only [Option.bind_some]
    split
    · rfl
    · cases notesLookup look (pathDir p) (notesTarget rs) <;> rfl

theorem pptxPartN_eq_map (look : Str → Option Nat) (x : Docs) (i : Nat) (p : Str) :
    pptxPartN look x i p = (pptxPart look x i p).map fun q => (q.1, q.2, slideNotes look x p) := by
  unfold pptxPartN
  cases pptxPart look x i p <;> rfl

theorem loopIdx_pptxPartN_forget (look : Str → Option Nat) (x : Docs) (i : Nat) (l : List Str) :
    (loopIdx (pptxPartN look x) i l).map (fun p => (p.1, p.2.1)) = loopIdx (pptxPart look x) i l := by
  simp only [loopIdx_eq_filterMap, List.map_filterMap, pptxPartN_eq_map, Option.map_map]
  exact List.filterMap_congr fun e _ => by cases pptxPart look x e.2 e.1 <;> rfl

theorem keepTexts_eq_filterMap (view : Nat → Option Str) (r : EReader) :
    keepTexts view r = r.filterMap (fun c => match view c.cid with
      | none => none
      | some t => if t = [] then none else some t) := by
  induction r with
  | nil => rfl
  | cons c rest ih =>
    simp only [keepTexts, List.filterMap_cons]
    cases view c.cid with
    | none => simpa using ih
    | some t =>
      by_cases ht : t = []
      · simp [ht, ih]
      · simp [ht, ih]

/-- what the loaded chapter `e.1` at position `e.2` contributes to `Document()` -/
def chapterPages (h : HtmlViews) (e : Chapter × Nat) : List EPage :=
  match h.pages e.1.cid with
  | none => []
  | some n => List.replicate n ⟨e.2 + 1, e.1.cid⟩

theorem epubDocLoop_eq_flatMap (h : HtmlViews) (i : Nat) (r : EReader) :
    epubDocLoop h i r = (r.zipIdx i).flatMap (chapterPages h) := by
  induction r generalizing i with
  | nil => rfl
  | cons c rest ih =>
    rw [epubDocLoop, List.zipIdx_cons, List.flatMap_cons, chapterPages, ← ih]
    cases h.pages c.cid <;> rfl

theorem mem_chapterPages {h : HtmlViews} {e : Chapter × Nat} {pg : EPage} (hm : pg ∈ chapterPages h e) :
    pg = ⟨e.2 + 1, e.1.cid⟩ := by
  unfold chapterPages at hm
  split at hm
  · cases hm
  · exact List.eq_of_mem_replicate hm

/-- every page of the EPUB document stems from the chapter at position `Number - 1`
of the loaded chapter list -/
theorem epubDocLoop_page (h : HtmlViews) (i : Nat) (r : EReader) (pg : EPage)
    (hm : pg ∈ epubDocLoop h i r) :
    ∃ k c, r[k]? = some c ∧ pg.number = i + k + 1 ∧ pg.cid = c.cid := by
  rw [epubDocLoop_eq_flatMap, List.mem_flatMap] at hm
  obtain ⟨⟨c, j⟩, he, hp⟩ := hm
  obtain ⟨hle, hget⟩ := List.mk_mem_zipIdx_iff_le_and_getElem?_sub.1 he
  rw [mem_chapterPages hp]
  exact ⟨j - i, c, hget, by simp only; omega, rfl⟩

/-- the page numbers never decrease -/
theorem epubDocLoop_sorted (h : HtmlViews) (i : Nat) (r : EReader) :
    (epubDocLoop h i r).Pairwise (fun p q => p.number ≤ q.number) ∧
      ∀ p ∈ epubDocLoop h i r, i + 1 ≤ p.number := by
  constructor
  · rw [epubDocLoop_eq_flatMap, List.pairwise_flatMap]
    constructor
    · intro e _
      unfold chapterPages
      cases h.pages e.1.cid with
      | none => exact List.Pairwise.nil
      | some n => exact List.pairwise_replicate.2 (Or.inr (Nat.le_refl _))
    · refine (List.pairwise_snd_lt_zipIdx r i).imp fun {a b} hab p hp q hq => ?_
      rw [mem_chapterPages hp, mem_chapterPages hq]
      exact Nat.le_of_lt (Nat.succ_lt_succ hab)
  · intro p hp
    obtain ⟨k, c, _, hn, _⟩ := epubDocLoop_page h i r p hp
    omega

/-- the skip loop over two lists of the same length whose entries yield the same result
position by position -/
theorem loopIdx_pointwise {α α' β : Type} (f : Nat → α → Option β) (g : Nat → α' → Option β)
    (l : List α) (l' : List α') (i : Nat) (hl : l.length = l'.length)
    (h : ∀ (k : Nat) (e : α) (e' : α'), l[k]? = some e → l'[k]? = some e' → f (i + k) e = g (i + k) e') :
    loopIdx f i l = loopIdx g i l' := by
  -- the per-entry results agree position by position; the loop keeps those that are `some`
  have hm : (l.zipIdx i).map (fun e => f e.2 e.1) = (l'.zipIdx i).map (fun e => g e.2 e.1) := by
    apply List.ext_getElem (by simpa using hl)
    intro k h1 h2
    simp only [List.length_map, List.length_zipIdx] at h1 h2
    simp only [List.getElem_map, List.getElem_zipIdx]
    exact h k _ _ (List.getElem?_eq_getElem h1) (List.getElem?_eq_getElem h2)
  have := congrArg (List.filterMap id) hm
  rw [List.filterMap_map, List.filterMap_map] at this
  rw [loopIdx_eq_filterMap, loopIdx_eq_filterMap]
  exact this

theorem map_nonEmpty {α β : Type} (F : List α → β) (l : List α) :
    (if l = [] then none else some l).map F = if l = [] then none else some (F l) := by
  split <;> rfl

theorem of_map_nonEmpty {α β : Type} {F : List α → β} {l : List α} {v : β}
    (h : (if l = [] then none else some l).map F = some v) : v = F l := by
  split at h
  · cases h
  · exact (Option.some.inj h).symm

theorem frontCountXlsx_eq (a : Archive) (x : Docs) (grid : Nat → Grid) :
    frontCountXlsx a x grid = (xlsxOpen a x).map List.length := by
  unfold frontCountXlsx xlsxReader
  cases xlsxOpen a x <;> simp

/-- `Text()` of a workbook: per part the rows of its own grid, tab separated -/
theorem frontTextXlsx_eq (a : Archive) (x : Docs) (grid : Nat → Grid) (o : FrontOpts) :
    frontTextXlsx a x grid o =
      (xlsxOpen a x).map fun ps => joinWith sNL2 (ps.map fun p => sheetBody [9] (grid p.2.1)) := by
  unfold frontTextXlsx xlsxReader
  cases xlsxOpen a x with
  | none => rfl
  | some ps =>
    simp only [Option.map_some, xlsxText, selectParts, if_true, List.map_map]
    rfl

theorem frontDocXlsx_eq (a : Archive) (x : Docs) (grid : Nat → Grid) :
    frontDocXlsx a x grid = (xlsxOpen a x).map fun ps => ps.map fun p => ⟨p.1 + 1, p.2.1, grid p.2.1⟩ := by
  unfold frontDocXlsx xlsxReader
  cases xlsxOpen a x with
  | none => rfl
  | some ps =>
    simp only [Option.map_some, xlsxDocument, List.map_map]
    rfl

theorem frontCountPptx_eq (a : Archive) (x : Docs) (body : Nat → SlideBody) (nt : Nat → Str) :
    frontCountPptx a x body nt = (pptxOpenN a x).map List.length := by
  unfold frontCountPptx pptxReader
  cases pptxOpenN a x <;> simp

/-- `Text()` of a deck: per part its own body and the text of its own notes part, titles and notes on -/
theorem frontTextPptx_eq (a : Archive) (x : Docs) (body : Nat → SlideBody) (nt : Nat → Str) (o : FrontOpts) :
    frontTextPptx a x body nt o =
      (pptxOpenN a x).map fun ps => joinWith sNL2 (ps.map fun p =>
        slideText { notes := true, titles := true, exHeaders := o.exHeaders, exFooters := o.exFooters }
          ⟨p.1, p.2.1, body p.2.1, p.2.2, match p.2.2 with
            | none => []
            | some n => nt n⟩) := by
  unfold frontTextPptx pptxReader
  cases pptxOpenN a x with
  | none => rfl
  | some ps =>
    simp only [Option.map_some, pptxText, selectParts, if_true, List.map_map]
    rfl

theorem frontDocPptx_eq (a : Archive) (x : Docs) (body : Nat → SlideBody) (nt : Nat → Str) :
    frontDocPptx a x body nt = (pptxOpenN a x).map fun ps => ps.map fun p => ⟨p.1 + 1, p.2.1, body p.2.1⟩ := by
  unfold frontDocPptx pptxReader
  cases pptxOpenN a x with
  | none => rfl
  | some ps =>
    simp only [Option.map_some, pptxDocument, List.map_map]
    rfl

theorem frontCountEpub_eq (a : Archive) (x : Docs) : frontCountEpub a x = (epubOpen a x).map List.length := by
  unfold frontCountEpub epubReader
  cases epubOpen a x <;> simp

/-- `Text()` of a publication: per chapter its own trimmed text, chapters without text left out -/
theorem frontTextEpub_eq (hv : HtmlViews) (a : Archive) (x : Docs) (o : FrontOpts) :
    frontTextEpub hv a x o =
      (epubOpen a x).map fun ps => joinWith sNL2 ((ps.map fun p => (⟨p.1, p.2.1, p.2.2.1, p.2.2.2⟩ : Chapter)).filterMap
        fun c => match hv.text c.cid 0 with
          | none => none
          | some t => if t = [] then none else some t) := by
  unfold frontTextEpub epubReader
  cases epubOpen a x with
  | none => rfl
  | some ps => simp only [Option.map_some, epubText, keepTexts_eq_filterMap]

theorem frontDocEpub_eq (hv : HtmlViews) (a : Archive) (x : Docs) :
    frontDocEpub hv a x =
      (epubOpen a x).map fun ps => epubDocument hv (ps.map fun p => ⟨p.1, p.2.1, p.2.2.1, p.2.2.2⟩) := by
  unfold frontDocEpub epubReader
  cases epubOpen a x <;> rfl

/-- a history of calls none of which changes the state: every reply is the reply the call gets
from the state at the start, which is also the state at the end -/
theorem run_of_readonly {σ κ ω : Type} (step : σ → κ → ω × σ) (run : σ → List κ → List ω × σ)
    (hnil : ∀ r, run r [] = ([], r))
    (hcons : ∀ r c cs, run r (c :: cs) = ((step r c).1 :: (run (step r c).2 cs).1, (run (step r c).2 cs).2))
    (hro : ∀ r c, (step r c).2 = r) (r : σ) (cs : List κ) :
    run r cs = (cs.map fun c => (step r c).1, r) := by
  induction cs with
  | nil => exact hnil r
  | cons c rest ih =>
    rw [hcons, hro, ih]
    rfl

theorem xlsxStep_state (r : XReader) (c : XCall) : (xlsxStep r c).2 = r := by
  cases c <;> rfl

theorem xlsxRun_spec (r : XReader) (cs : List XCall) :
    xlsxRun r cs = (cs.map fun c => (xlsxStep r c).1, r) :=
  run_of_readonly xlsxStep xlsxRun (fun _ => rfl) (fun _ _ _ => rfl) xlsxStep_state r cs

theorem pptxStep_state (r : PReader) (c : PCall) : (pptxStep r c).2 = r := by
  cases c <;> rfl

theorem pptxRun_spec (r : PReader) (cs : List PCall) :
    pptxRun r cs = (cs.map fun c => (pptxStep r c).1, r) :=
  run_of_readonly pptxStep pptxRun (fun _ => rfl) (fun _ _ _ => rfl) pptxStep_state r cs

theorem epubStep_state (h : HtmlViews) (r : EReader) (c : ECall) : (epubStep h r c).2 = r := by
  cases c <;> rfl

theorem epubRun_spec (h : HtmlViews) (r : EReader) (cs : List ECall) :
    epubRun h r cs = (cs.map fun c => (epubStep h r c).1, r) :=
  run_of_readonly (epubStep h) (epubRun h) (fun _ => rfl) (fun _ _ _ => rfl) (epubStep_state h) r cs

theorem hasMember_zipMembers (a : Archive) (mime : Nat → Option Str) (n : Str) :
    Detect.hasMember n (zipMembers a mime) = (lookup a n).isSome := by
  rw [lookup_eq, Bool.eq_iff_iff, List.lookup_isSome_iff]
  simp only [Detect.hasMember, zipMembers, List.any_map, List.any_eq_true, Function.comp, decide_eq_true_eq, beq_iff_eq]
  exact ⟨fun ⟨p, hp, e⟩ => ⟨p, hp, e.symm⟩, fun ⟨p, hp, e⟩ => ⟨p, hp, e.symm⟩⟩

theorem names_zipMembers (a : Archive) (mime : Nat → Option Str) :
    (zipMembers a mime).map (·.name) = a.map Prod.fst := by
  simp [zipMembers]

end Tabula.PackageApi
