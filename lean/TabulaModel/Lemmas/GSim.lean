import TabulaModel.Lemmas.GState
/-!
Two runs of the operator loop side by side.

`exec`, `runForm` and `step` are built from four things only: `stepBasic`, `formEnter`,
`formExit` and the comparison of `xdepth` with the nesting limit.  A relation between states
(and one between fragment lists) that these four keep is therefore kept by whole runs, forms
nested to any depth included (`Sim.onRunForm`, `Sim.onStep`, `Sim.onExec`).  The two runs may use
different displacement functions, and the programs may be restricted to a class `Ok` that is
closed under taking the rest of a program and the content of its forms.

One run beside a changed state, one-directional and for `Do`-free programs (`Aside`): a change that
leaves the current frame alone and commutes with `Save`, a successful `Restore`, `Transform` and the
edits of the text state is carried through every successful run (`Aside.exec`).  Saved states below
the program's own and another nesting depth are such changes.
-/
namespace Tabula.GState
open Tabula Tabula.XDoc

variable {α : Type} [Lean.Grind.CommRing α] [DecidableEq α] [LT α] [DecidableLT α]

/-- `R` (on states) and `Q` (on fragment lists) are kept by every primitive of the operator
loop, on programs of the class `Ok` -/
structure Sim (adv adv' : Adv α) (Ok : List (Op α) → Prop) (R : State α → State α → Prop)
    (Q : List (Show α) → List (Show α) → Prop) : Prop where
  nil : Q [] []
  append : ∀ {a a' b b'}, Q a a' → Q b b' → Q (a ++ b) (a' ++ b')
  tail : ∀ {op rest}, Ok (op :: rest) → Ok rest
  body : ∀ {m body rest}, Ok (.form m body :: rest) → Ok body
  depth : ∀ {s s'}, R s s' → s'.xdepth = s.xdepth
  basic : ∀ {op rest s s'}, Ok (op :: rest) → (∀ m b, op ≠ .form m b) → R s s' →
    R (stepBasic adv op s).1 (stepBasic adv' op s').1 ∧
      Q (stepBasic adv op s).2.1 (stepBasic adv' op s').2.1 ∧
      (stepBasic adv' op s').2.2 = (stepBasic adv op s).2.2
  enter : ∀ {s s'} m, R s s' → R (formEnter m s) (formEnter m s')
  exit : ∀ {s s'}, R s s' → R (formExit s) (formExit s')

variable {adv adv' : Adv α} {Ok : List (Op α) → Prop} {R : State α → State α → Prop}
  {Q : List (Show α) → List (Show α) → Prop}

theorem Sim.onRunForm (S : Sim adv adv' Ok R Q) {ops : List (Op α)} (hok : Ok ops) {s s' : State α}
    (h : R s s') :
    R (runForm adv ops s).1 (runForm adv' ops s').1 ∧ Q (runForm adv ops s).2 (runForm adv' ops s').2 := by
  induction ops, s using runForm.induct adv generalizing s' with
  | case1 s => rw [runForm, runForm]; exact ⟨h, S.nil⟩
  | case2 m body rest s hd ih =>
    rw [runForm_cons_form, runForm_cons_form, if_pos hd, if_pos (S.depth h ▸ hd)]
    exact ih (S.tail hok) h
  | case3 m body rest s hd r ihb ihr =>
    rw [runForm_cons_form, runForm_cons_form, if_neg hd, if_neg (S.depth h ▸ hd)]
    have hb := ihb (S.body hok) (S.enter m h)
    have hr := ihr (S.tail hok) (S.exit hb.1)
    exact ⟨hr.1, S.append hb.2 hr.2⟩
  | case4 op rest s hf r ih =>
    rw [runForm_cons adv hf, runForm_cons adv' hf]
    have hb := S.basic hok hf h
    have hr := ih (S.tail hok) hb.1
    exact ⟨hr.1, S.append hb.2.1 hr.2⟩

theorem Sim.onStep (S : Sim adv adv' Ok R Q) {op : Op α} {rest : List (Op α)} (hok : Ok (op :: rest))
    {s s' : State α} (h : R s s') :
    R (step adv op s).1 (step adv' op s').1 ∧ Q (step adv op s).2.1 (step adv' op s').2.1 ∧
      (step adv' op s').2.2 = (step adv op s).2.2 := by
  unfold step
  split
  · rename_i m body
    rw [S.depth h]
    split
    · exact ⟨h, S.nil, rfl⟩
    · have hb := S.onRunForm (S.body hok) (S.enter m h)
      exact ⟨S.exit hb.1, hb.2, rfl⟩
  · rename_i hf
    exact S.basic hok (fun m b e => hf m b e) h

theorem Sim.onExec (S : Sim adv adv' Ok R Q) {ops : List (Op α)} (hok : Ok ops) {s s' : State α}
    (h : R s s') :
    Option.Rel (fun r r' => R r.1 r'.1 ∧ Q r.2 r'.2) (exec adv ops s) (exec adv' ops s') := by
  induction ops generalizing s s' with
  | nil => exact .some ⟨h, S.nil⟩
  | cons op rest ih =>
    obtain ⟨h1, h2, h3⟩ := S.onStep hok h
    rw [exec_cons, exec_cons, h3]
    split
    · exact .none
    · have hr := ih (S.tail hok) h1
      generalize exec adv rest _ = e, exec adv' rest _ = e' at hr
      cases hr with
      | none => exact .none
      | some hr => exact .some ⟨hr.1, S.append h2 hr.2⟩

/-- a change of the state that leaves the current frame alone and commutes with the operations on
states: saved states below (`deepen`), another nesting depth -/
structure Aside (T : State α → State α) : Prop where
  cur : ∀ s, (T s).cur = s.cur
  mapText : ∀ s f, T (s.mapText f) = (T s).mapText f
  save : ∀ s, T s.save = (T s).save
  restore : ∀ {s s'}, s.restore = some s' → (T s).restore = some (T s')
  transform : ∀ s m, T (s.transform m) = (T s).transform m

variable {T : State α → State α}

theorem Aside.showTextArray (A : Aside T) (adv : Adv α) (items : List (TJItem α)) (s : State α) :
    showTextArray adv items (T s) = (T (showTextArray adv items s).1, (showTextArray adv items s).2) := by
  have hadv : ∀ s tx, (T s).advanceText tx = T (s.advanceText tx) := fun s tx => (A.mapText s _).symm
  induction items generalizing s with
  | nil => rfl
  | cons it rest ih =>
    cases it with
    | str sid =>
      have h : showText adv sid (T s) = (T (showText adv sid s).1, (showText adv sid s).2) := by
        simp only [GState.showText, State.getTextPosition, A.cur, hadv]
      simp only [GState.showTextArray, h, ih]
    | num v => simp only [GState.showTextArray, A.cur, hadv, ih]

/-- an operator that succeeds does the same beside the change -/
theorem Aside.stepBasic (A : Aside T) (adv : Adv α) (op : Op α) (s : State α) (h : (stepBasic adv op s).2.2 = false) :
    stepBasic adv op (T s) = (T (stepBasic adv op s).1, (stepBasic adv op s).2.1, false) := by
  rcases op.view with rfl | rfl | ⟨m, rfl⟩ | hv
  · exact congrArg (·, [], false) (A.save s).symm
  · cases hr : s.restore with
    | none => simp only [GState.stepBasic, hr] at h; cases h
    | some s' => simp only [GState.stepBasic, hr, A.restore hr]
  · exact congrArg (·, [], false) (A.transform s m).symm
  · rw [hv, hv, ← A.mapText, A.showTextArray]

/-- a `Do`-free program that runs without error from `s` does the same beside the change -/
theorem Aside.exec (A : Aside T) (adv : Adv α) {ops : List (Op α)} (hff : FormFree ops) {s s1 : State α}
    {out : List (Show α)} (h : exec adv ops s = some (s1, out)) : exec adv ops (T s) = some (T s1, out) := by
  fun_induction GState.exec adv ops s generalizing s1 out with
  | case1 s => cases h; rfl
  | case2 op rest s r herr => cases h
  | case3 op rest s r herr r2 hrest ih =>
    cases h
    have hs := step_of_not_form adv (hff op List.mem_cons_self)
    have hd := A.stepBasic adv op s (by rw [← hs]; exact Bool.not_eq_true _ ▸ herr)
    rw [← hs, ← hs] at hd
    exact exec_cons_some hd (ih hff.tail hrest)
  | case4 op rest s r herr hrest ih => cases h

end Tabula.GState
