import TabulaModel.Model.XrefFile
import TabulaModel.Lemmas.PdfSeq
import TabulaModel.Lemmas.SpelledDict
/-!
An object stream as a writer lays it out (ISO 32000-1 7.5.7): the header `n1 o1 n2 o2 … `, which
`parseHeader` reads by repeated `ParseObject` calls (`Pdf.Seq.core_sequence_roundtrip`), and the
members behind it, which `GetObjectByIndex` cuts out where the header pairs say.
-/
namespace Tabula.XrefFile
open Tabula.Pdf Tabula.A1 Tabula.Pdf.Prs Tabula.Reader

/-- the header integers as spelled objects: separated by one space -/
def hdrObjs : Bool → List (Nat × Nat) → List SObj
  | _, [] => []
  | first, (n, o) :: r =>
    .int (if first then [] else [.ws 32]) false 0 (n : Int) :: .int [.ws 32] false 0 (o : Int) :: hdrObjs false r

/-- `n1 o1 n2 o2 … ` -/
def headerText (pairs : List (Nat × Nat)) : Str := renderList (hdrObjs true pairs) ++ [32]

def PairsOk (pairs : List (Nat × Nat)) : Prop := ∀ p ∈ pairs, p.1 < 9223372036854775808 ∧ p.2 < 9223372036854775808

theorem int_valid (pre : Sep) (need : Bool) (n : Nat) (hp : SepOk pre) (hne : need = true → pre ≠ [])
    (hn : n < 9223372036854775808) : (SObj.int pre false 0 (n : Int)).Valid need :=
  ⟨hp, hne, Int.le_trans (by decide) (Int.natCast_nonneg n),
    Int.lt_of_lt_of_le (Int.ofNat_lt.2 hn) (by decide)⟩

theorem hdrObjs_valid (pairs : List (Nat × Nat)) (h : PairsOk pairs) :
    ∀ (first need : Bool), (need = true → first = false) → ValidList need (hdrObjs first pairs) := by
  induction pairs with
  | nil => intro _ _ _; trivial
  | cons p r ih =>
    intro first need hfn
    have hp := h p (List.mem_cons_self ..)
    refine ⟨int_valid _ need p.1 ?_ (fun hn => ?_) hp.1,
      int_valid _ _ p.2 (sepOk_ws rfl) (fun _ => List.cons_ne_nil _ _) hp.2,
      ih (fun q hq => h q (List.mem_cons_of_mem _ hq)) false true (fun _ => rfl)⟩
    · cases first
      · exact (sepOk_ws rfl)
      · exact fun _ hu => nomatch hu
    · rw [hfn hn]; exact List.cons_ne_nil _ _

theorem hdrObjs_sdepth (first : Bool) (pairs : List (Nat × Nat)) :
    sdepthList (hdrObjs first pairs) = 0 := by
  induction pairs generalizing first with
  | nil => rfl
  | cons p r ih => rw [hdrObjs, sdepthList, sdepthList, ih]; rfl

theorem hdrObjs_values (first : Bool) (pairs : List (Nat × Nat)) (len : Nat) (h : ∀ p ∈ pairs, p.2 ≤ len) :
    headerPairs len pairs.length (valueList (hdrObjs first pairs)) =
      some (pairs.map fun p => ((p.1 : Int), p.2)) := by
  induction pairs generalizing first with
  | nil => rfl
  | cons p r ih =>
    have hc : ¬ ((p.2 : Int) < 0 ∨ (p.2 : Int) > (len : Int)) := fun hc =>
      hc.elim (Int.not_lt.2 (Int.natCast_nonneg _))
        (Int.not_lt.2 (Int.ofNat_le.2 (h p (List.mem_cons_self ..))))
    rw [hdrObjs, valueList, valueList, List.length_cons]
    simp only [SObj.value, headerPairs, if_neg hc, ih false (fun q hq => h q (List.mem_cons_of_mem _ hq)),
      Option.map_some, Int.toNat_natCast, List.map_cons]

/-- the decoded object stream the writer meant -/
def writerObjStm (pairs : List (Nat × Nat)) (bodies : Str) : ObjStm :=
  ⟨(headerText pairs).length, pairs.map (fun p => ((p.1 : Int), p.2)), headerText pairs ++ bodies⟩

/-- **the header round trip**: a stream whose dictionary says `/Type /ObjStm`, `/N` = the
number of pairs, `/First` = the length of the header, no `/Extends`, and whose data decodes to
the header `n1 o1 n2 o2 … ` followed by the member bytes, is opened as exactly those pairs -/
theorem mkObjStm_header (ext : Reader.Ext) (kv : Dict) (raw : Str) (pairs : List (Nat × Nat)) (bodies : Str)
    (hT : dget kv Reader.kType = some (.name kObjStm))
    (hN : dget kv kN = some (.int pairs.length))
    (hF : dget kv kFirst = some (.int (headerText pairs).length))
    (hE : dget kv kExtends = none)
    (hdec : decodeStream ext kv raw = some (headerText pairs ++ bodies))
    (hp : PairsOk pairs) (hoff : ∀ p ∈ pairs, p.2 ≤ (headerText pairs ++ bodies).length) :
    mkObjStm ext kv raw = .ok (writerObjStm pairs bodies) := by
  have hc : ¬ (kObjStm ≠ kObjStm ∨ ((pairs.length : Nat) : Int) < 0 ∨
      (((headerText pairs).length : Nat) : Int) < 0 ∨ (dget kv kExtends).isSome = true) := by
    rw [hE]
    exact fun h => h.elim (fun h => h rfl) fun h => h.elim (Int.not_lt.2 (Int.natCast_nonneg _))
      fun h => h.elim (Int.not_lt.2 (Int.natCast_nonneg _)) Bool.false_ne_true
  have hlen : ¬ ((headerText pairs).length > (headerText pairs ++ bodies).length) := by
    rw [List.length_append]; exact Nat.not_lt.2 (Nat.le_add_right ..)
  have hparse : coreParseAll (headerText pairs) = (valueList (hdrObjs true pairs), .eof) :=
    Seq.core_sequence_roundtrip (hdrObjs true pairs) [.ws 32]
      (hdrObjs_valid pairs hp true false (fun h => nomatch h)) (sepOk_ws rfl)
      (by rw [hdrObjs_sdepth]; exact Nat.zero_le _)
  rw [mkObjStm, hT, hN, hF]
  simp only [hc, if_false, hdec, Int.toNat_natCast, hlen, List.take_left, hparse,
    hdrObjs_values true pairs _ hoff]
  rfl

/-- a member as written: its value in some spelling, then one space -/
def memberText (m : Nat × SObj) : Str := m.2.render ++ [32]

def bodiesOf : List (Nat × SObj) → Str
  | [] => []
  | m :: r => memberText m ++ bodiesOf r

/-- the header pairs: member numbers with the running offsets -/
def pairsFrom : Nat → List (Nat × SObj) → List (Nat × Nat)
  | _, [] => []
  | start, m :: r => (m.1, start) :: pairsFrom (start + (memberText m).length) r

theorem bodiesOf_append (a b : List (Nat × SObj)) : bodiesOf (a ++ b) = bodiesOf a ++ bodiesOf b := by
  induction a with
  | nil => rfl
  | cons m a ih => rw [List.cons_append, bodiesOf, bodiesOf, ih, List.append_assoc]

theorem pairsFrom_length (s : Nat) (a : List (Nat × SObj)) : (pairsFrom s a).length = a.length := by
  induction a generalizing s with
  | nil => rfl
  | cons m a ih => rw [pairsFrom, List.length_cons, List.length_cons, ih]

/-- the header pair of the member behind `a`: its number and where the members before it end -/
theorem pairsFrom_getElem? (s : Nat) (a b : List (Nat × SObj)) (m : Nat × SObj) :
    (pairsFrom s (a ++ m :: b))[a.length]? = some (m.1, s + (bodiesOf a).length) := by
  induction a generalizing s with
  | nil => rfl
  | cons x a ih =>
    rw [List.cons_append, pairsFrom, List.length_cons, List.getElem?_cons_succ, ih, bodiesOf,
      List.length_append, Nat.add_assoc]

/-- `GetObjectByIndex` cuts out a member that lies where its header pair says and ends where the
next pair says, or at the end of the data when it is the last -/
theorem memberSlice_at (os : ObjStm) (idx : Nat) (num : Int) (rel : Nat) (pre body post : Str)
    (hoff : os.offsets[idx]? = some (num, rel))
    (hdec : os.decoded = pre ++ (body ++ post)) (hpre : pre.length = os.first + rel)
    (hbody : body ≠ [])
    (hnext : (os.offsets[idx + 1]? = none ∧ post = []) ∨
      ∃ num', os.offsets[idx + 1]? = some (num', rel + body.length)) :
    memberSlice os idx = some (num, body) := by
  have hpos : 0 < body.length := List.length_pos_iff.mpr hbody
  have hlen : os.decoded.length = pre.length + (body.length + post.length) := by
    rw [hdec, List.length_append, List.length_append]
  have hcut : ∀ n, n = body.length → (os.decoded.drop pre.length).take n = body := by
    intro n hn; rw [hdec, List.drop_left, hn, List.take_left]
  have hin : ¬ pre.length ≥ os.decoded.length :=
    Nat.not_le.2 (hlen ▸ Nat.lt_add_of_pos_right (Nat.add_pos_left hpos _))
  rw [memberSlice, hoff]
  simp only
  rw [← hpre, if_neg hin]
  rcases hnext with ⟨hn, rfl⟩ | ⟨num', hn⟩
  · rw [hn]
    simp only [ite_self]
    rw [hcut _ (by rw [hlen, List.length_nil, Nat.add_zero, Nat.add_sub_cancel_left])]
  · rw [hn]
    simp only
    rw [← Nat.add_assoc, ← hpre, hlen, if_neg (fun h => h.elim
        (Nat.not_lt.2 (Nat.add_le_add_left (Nat.le_add_right ..) _))
        (Nat.not_lt.2 (Nat.le_add_right ..))),
      hcut _ (Nat.add_sub_cancel_left ..)]

theorem memberSlice_writer (a b : List (Nat × SObj)) (m : Nat × SObj) :
    memberSlice (writerObjStm (pairsFrom 0 (a ++ m :: b)) (bodiesOf (a ++ m :: b))) a.length =
      some ((m.1 : Int), memberText m) := by
  have hget : ∀ (a b : List (Nat × SObj)) (m : Nat × SObj),
      ((pairsFrom 0 (a ++ m :: b)).map fun p => ((p.1 : Int), p.2))[a.length]? =
        some ((m.1 : Int), (bodiesOf a).length) := by
    intro a b m
    rw [List.getElem?_map, pairsFrom_getElem?, Nat.zero_add]; rfl
  apply memberSlice_at (writerObjStm (pairsFrom 0 (a ++ m :: b)) (bodiesOf (a ++ m :: b))) a.length m.1
    (bodiesOf a).length (headerText (pairsFrom 0 (a ++ m :: b)) ++ bodiesOf a) (memberText m)
    (bodiesOf b) (hget a b m)
  · rw [writerObjStm, bodiesOf_append, bodiesOf, List.append_assoc]
  · rw [List.length_append]; rfl
  · exact List.append_ne_nil_of_right_ne_nil _ (List.cons_ne_nil _ _)
  · cases b with
    | nil =>
      refine .inl ⟨?_, rfl⟩
      rw [writerObjStm, List.getElem?_eq_none_iff, List.length_map, pairsFrom_length,
        List.length_append]
      exact Nat.le_refl _
    | cons m' b =>
      have e := hget (a ++ [m]) b m'
      simp only [List.append_assoc, List.cons_append, List.nil_append, List.length_append,
        List.length_cons, List.length_nil, bodiesOf_append, bodiesOf, List.append_nil] at e
      exact .inr ⟨m'.1, e⟩


theorem pairsFrom_bounds (s : Nat) (ms : List (Nat × SObj)) :
    ∀ p ∈ pairsFrom s ms, (∃ m ∈ ms, m.1 = p.1) ∧ p.2 ≤ s + (bodiesOf ms).length := by
  induction ms generalizing s with
  | nil => intro p hp; cases hp
  | cons m r ih =>
    intro p hp
    simp only [pairsFrom, List.mem_cons] at hp
    rcases hp with rfl | hp
    · exact ⟨⟨m, by simp, rfl⟩, by simp⟩
    · obtain ⟨⟨m', hm', e⟩, hb⟩ := ih _ p hp
      refine ⟨⟨m', by simp [hm'], e⟩, ?_⟩
      simp only [bodiesOf, List.length_append]; omega

end Tabula.XrefFile
