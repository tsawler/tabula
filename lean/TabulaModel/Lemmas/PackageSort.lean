import TabulaModel.Lemmas.Package
import TabulaModel.Lemmas.InsertionSort
/-!
The file-name fallback of `pptx.parseSlides` (`sort.Slice` by `extractSlideNumber`, modelled
as a stable insertion sort): the result is a sorted permutation of the candidates, and when
the candidates' numbers are pairwise distinct it does not depend on the order in which the
candidates are met (= on the ZIP member order).
-/
namespace Tabula.Package

/-- ascending (not necessarily strictly) by key -/
def SortedBy (k : Str → Int) (l : List Str) : Prop := l.Pairwise (fun a b => k a ≤ k b)

/-- the `foldl` that inserts each candidate into the sorted list so far is the insertion sort of the
candidates taken in reverse -/
theorem sortByNumber_eq_foldr (l : List Str) :
    sortByNumber l = l.reverse.foldr (insertBy extractSlideNumber) [] := by
  rw [sortByNumber, List.foldl_eq_foldr_reverse]

theorem insertBy_isSort (k : Str → Int) :
    MapOrder.IsSort (fun a b => decide (k a ≤ k b)) (fun l => l.foldr (insertBy k) []) :=
  MapOrder.isSort_of_insertion (c := fun v y => k v < k y) (ins := insertBy k)
    (fun x y z h1 h2 => by simp only [decide_eq_true_eq] at *; omega)
    (fun x y h1 => by simp only [decide_eq_true_eq]; omega)
    (fun x y h1 => by simp only [decide_eq_true_eq]; omega)
    (fun _ => rfl) (fun _ _ _ => rfl) rfl (fun _ _ => rfl)

theorem sortByNumber_perm (l : List Str) : (sortByNumber l).Perm l := by
  rw [sortByNumber_eq_foldr]
  exact ((insertBy_isSort extractSlideNumber).perm l.reverse).trans (List.reverse_perm l)

theorem sortByNumber_sorted (l : List Str) : SortedBy extractSlideNumber (sortByNumber l) := by
  rw [sortByNumber_eq_foldr]
  exact ((insertBy_isSort extractSlideNumber).sorted l.reverse).imp of_decide_eq_true

/-- two ascending lists with the same elements are equal when the key separates the elements -/
theorem sorted_perm_eq (k : Str → Int) (l1 l2 : List Str) (h1 : SortedBy k l1) (h2 : SortedBy k l2)
    (hp : l1.Perm l2) (hinj : ∀ a ∈ l1, ∀ b ∈ l1, k a = k b → a = b) : l1 = l2 :=
  hp.eq_of_pairwise (fun a b ha hb hab hba => hinj a ha b (hp.mem_iff.mpr hb) (Int.le_antisymm hab hba)) h1 h2

/-- the candidates of the file-name fallback -/
def fallbackCandidates (names : List Str) : List Str :=
  names.filter fun n => hasPrefix sSlidePre n && hasSuffix sXml n && !hasSub sRelsDir n

theorem fallbackSlidePaths_eq (names : List Str) :
    fallbackSlidePaths names = sortByNumber (fallbackCandidates names) := rfl

/-- with pairwise distinct slide numbers the fallback's slide list does not depend on the
order of the member list -/
theorem fallback_perm_invariant (names names' : List Str) (hp : names.Perm names')
    (hinj : ∀ a ∈ fallbackCandidates names, ∀ b ∈ fallbackCandidates names,
      extractSlideNumber a = extractSlideNumber b → a = b) :
    fallbackSlidePaths names = fallbackSlidePaths names' := by
  rw [fallbackSlidePaths_eq, fallbackSlidePaths_eq]
  have hc : (fallbackCandidates names).Perm (fallbackCandidates names') := hp.filter _
  have p1 := sortByNumber_perm (fallbackCandidates names)
  have p2 := sortByNumber_perm (fallbackCandidates names')
  apply sorted_perm_eq extractSlideNumber _ _ (sortByNumber_sorted _) (sortByNumber_sorted _)
  · exact p1.trans (hc.trans p2.symm)
  · intro a ha b hb
    exact hinj a (p1.mem_iff.mp ha) b (p1.mem_iff.mp hb)

end Tabula.Package
