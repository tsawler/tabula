import TabulaModel.Lemmas.FiltersSound
/-!
The reading of ASCII85 data by §7.4.3 as relations: what a cleaned body reads as (`A85Reads`) and what makes it
unreadable (`A85Bad`). Exactly one of them holds of every body (`a85Reads_or_bad`), and they are the two outcomes of
`a85Groups` (`a85Groups_some_iff`, `a85Groups_none_iff`), so the decoder fails on exactly the inputs §7.4.3 excludes and
on no others.
-/
namespace Tabula.Filters

/-- `A85Reads body y`: the cleaned data `body` (EOD cut, white space removed) reads as the bytes
`y` by §7.4.3: `z` is four zero bytes, five digits `!`..`u` whose base-85 value fits 32 bits are its
four bytes, a final group of 2..4 digits padded with `u` gives 1..3 bytes when the padded value
fits 32 bits (a final single digit gives nothing), the empty body gives nothing. -/
inductive A85Reads : Str → Str → Prop
  | nil : A85Reads [] []
  | z (body y : Str) : A85Reads body y → A85Reads (122 :: body) (0 :: 0 :: 0 :: 0 :: y)
  | full (d0 d1 d2 d3 d4 : Nat) (body y : Str) : d0 < 85 → d1 < 85 → d2 < 85 → d3 < 85 → d4 < 85 →
      (((d0 * 85 + d1) * 85 + d2) * 85 + d3) * 85 + d4 ≤ 4294967295 → A85Reads body y →
      A85Reads ((d0 + 33) :: (d1 + 33) :: (d2 + 33) :: (d3 + 33) :: (d4 + 33) :: body)
        (bytes4 ((((d0 * 85 + d1) * 85 + d2) * 85 + d3) * 85 + d4) ++ y)
  | part (ds : List Nat) : 1 ≤ ds.length → ds.length ≤ 4 → (∀ d ∈ ds, d < 85) →
      a85Value (ds ++ List.replicate (5 - ds.length) 84) ≤ 4294967295 →
      A85Reads (a85Chars ds)
        ((bytes4 (a85Value (ds ++ List.replicate (5 - ds.length) 84))).take (ds.length - 1))

/-- `A85Bad body`: what §7.4.3 excludes. At a group boundary: a group that does not start with `z`
and has a character outside `!`..`u` (a `z` among them) among its first five; five digits whose
value exceeds 2^32-1; a final partial group whose `u`-padded value exceeds 2^32-1; or a good `z` /
a good full group followed by a bad rest. -/
inductive A85Bad : Str → Prop
  | char (cs : Str) (i c : Nat) : i < 5 → cs[i]? = some c → a85Digit c = false → cs.head? ≠ some 122 → A85Bad cs
  | overflow (d0 d1 d2 d3 d4 : Nat) (body : Str) : d0 < 85 → d1 < 85 → d2 < 85 → d3 < 85 → d4 < 85 →
      (((d0 * 85 + d1) * 85 + d2) * 85 + d3) * 85 + d4 > 4294967295 →
      A85Bad ((d0 + 33) :: (d1 + 33) :: (d2 + 33) :: (d3 + 33) :: (d4 + 33) :: body)
  | partOverflow (ds : List Nat) : 1 ≤ ds.length → ds.length ≤ 4 → (∀ d ∈ ds, d < 85) →
      a85Value (ds ++ List.replicate (5 - ds.length) 84) > 4294967295 → A85Bad (a85Chars ds)
  | afterZ (body : Str) : A85Bad body → A85Bad (122 :: body)
  | afterFull (d0 d1 d2 d3 d4 : Nat) (body : Str) : d0 < 85 → d1 < 85 → d2 < 85 → d3 < 85 → d4 < 85 →
      A85Bad body → A85Bad ((d0 + 33) :: (d1 + 33) :: (d2 + 33) :: (d3 + 33) :: (d4 + 33) :: body)

theorem a85Flush_part (ds : List Nat) (h1 : 1 ≤ ds.length) :
    a85Flush ds = if a85Value (ds ++ List.replicate (5 - ds.length) 84) > 4294967295 then none
      else some ((bytes4 (a85Value (ds ++ List.replicate (5 - ds.length) 84))).take (ds.length - 1)) := by
  unfold a85Flush
  have : ds ≠ [] := by
    intro h; rw [h] at h1; simp at h1
  simp [this]

theorem a85Digit_exists (c : Nat) (h : a85Digit c = true) : ∃ d, d < 85 ∧ c = d + 33 := by
  simp only [a85Digit, Bool.and_eq_true, decide_eq_true_eq] at h
  exact ⟨c - 33, by omega, by omega⟩

theorem all_digits_chars : ∀ (cs : Str), cs.all a85Digit = true → ∃ ds, (∀ d ∈ ds, d < 85) ∧ cs = a85Chars ds := by
  intro cs
  induction cs with
  | nil => intro _; exact ⟨[], by simp, rfl⟩
  | cons c cs ih =>
    intro h
    simp only [List.all_cons, Bool.and_eq_true] at h
    obtain ⟨d, hd, hc⟩ := a85Digit_exists c h.1
    obtain ⟨ds, hds, hcs⟩ := ih h.2
    exact ⟨d :: ds, List.forall_mem_cons.mpr ⟨hd, hds⟩, by simp [a85Chars, hc, hcs]⟩

theorem not_all_digits (cs : Str) (h : cs.all a85Digit = false) :
    ∃ i c, i < cs.length ∧ cs[i]? = some c ∧ a85Digit c = false := by
  rw [List.all_eq_false] at h
  obtain ⟨c, hc, hbad⟩ := h
  obtain ⟨i, hi, hci⟩ := List.getElem_of_mem hc
  exact ⟨i, c, hi, by rw [List.getElem?_eq_getElem hi, hci], by simpa using hbad⟩

theorem a85Reads_groups (body y : Str) (h : A85Reads body y) : a85Groups body = some y := by
  induction h with
  | nil => rfl
  | z body y _ ih => rw [a85Groups_z, ih]; rfl
  | full d0 d1 d2 d3 d4 body y h0 h1 h2 h3 h4 hv _ ih =>
    rw [a85Groups_five d0 d1 d2 d3 d4 h0 h1 h2 h3 h4, ih]
    have : ¬ ((((d0 * 85 + d1) * 85 + d2) * 85 + d3) * 85 + d4 > 4294967295) := by omega
    simp only [this, if_false, Option.map_some]
  | part ds h1 h4 hds hv =>
    rw [a85Groups_partial ds (by omega) hds, a85Flush_part ds h1]
    have : ¬ (a85Value (ds ++ List.replicate (5 - ds.length) 84) > 4294967295) := by omega
    simp only [this, if_false]

/-- what the group reading returns is bytes, at most four per character (attained by `z`) -/
theorem A85Reads.out {body y : Str} (h : A85Reads body y) : (∀ b ∈ y, b < 256) ∧ y.length ≤ 4 * body.length := by
  induction h with
  | nil => exact ⟨nofun, Nat.le_refl _⟩
  | z body y _ ih =>
    refine ⟨fun b hb => ?_, by simp only [List.length_cons]; omega⟩
    simp only [List.mem_cons] at hb
    rcases hb with rfl | rfl | rfl | rfl | hb
    · decide
    · decide
    · decide
    · decide
    · exact ih.1 b hb
  | full d0 d1 d2 d3 d4 body y _ _ _ _ _ _ _ ih =>
    exact ⟨List.forall_mem_append.mpr ⟨bytes4_lt _, ih.1⟩,
      by simp only [List.length_append, List.length_cons, bytes4, List.length_nil]; omega⟩
  | part ds h1 h4 _ _ =>
    refine ⟨fun b hb => bytes4_lt _ b (List.mem_of_mem_take hb), ?_⟩
    rw [List.length_take, a85Chars, List.length_map]
    omega

theorem a85Bad_groups (body : Str) (h : A85Bad body) : a85Groups body = none := by
  induction h with
  | char cs i c hi hc hbad h0 => exact a85Groups_bad cs i hi c hc hbad h0
  | overflow d0 d1 d2 d3 d4 body h0 h1 h2 h3 h4 hv =>
    rw [a85Groups_five d0 d1 d2 d3 d4 h0 h1 h2 h3 h4]
    simp only [hv, if_true]
  | partOverflow ds h1 h4 hds hv =>
    rw [a85Groups_partial ds (by omega) hds, a85Flush_part ds h1]
    simp only [hv, if_true]
  | afterZ body _ ih => rw [a85Groups_z, ih]; rfl
  | afterFull d0 d1 d2 d3 d4 body h0 h1 h2 h3 h4 _ ih =>
    rw [a85Groups_five d0 d1 d2 d3 d4 h0 h1 h2 h3 h4, ih]
    split <;> rfl

theorem a85Reads_or_bad : ∀ (n : Nat) (body : Str), body.length = n → (∃ y, A85Reads body y) ∨ A85Bad body := by
  intro n
  induction n using Nat.strongRecOn with
  | _ n ih =>
    intro body hlen
    cases body with
    | nil => exact .inl ⟨[], .nil⟩
    | cons c0 r0 =>
      by_cases hz : c0 = 122
      · subst hz
        rcases ih r0.length (by simp at hlen; omega) r0 rfl with ⟨t, ht⟩ | hb
        · exact .inl ⟨_, .z r0 t ht⟩
        · exact .inr (.afterZ r0 hb)
      have hhead : (c0 :: r0).head? ≠ some 122 := by simpa using hz
      -- is the group (the first five characters, or all of a shorter body) made of digits?
      by_cases hall : ((c0 :: r0).take 5).all a85Digit = true
      · obtain ⟨ds, hds, hcs⟩ := all_digits_chars _ hall
        have hdl : ds.length = ((c0 :: r0).take 5).length := by rw [hcs]; simp [a85Chars]
        by_cases hfull : 5 ≤ (c0 :: r0).length
        · -- a full group
          have h5 : ds.length = 5 := by rw [hdl, List.length_take]; omega
          match ds, h5, hds with
          | [d0, d1, d2, d3, d4], _, hds =>
            have e0 := hds d0 (by simp); have e1 := hds d1 (by simp); have e2 := hds d2 (by simp)
            have e3 := hds d3 (by simp); have e4 := hds d4 (by simp)
            have hbody : c0 :: r0 =
                (d0 + 33) :: (d1 + 33) :: (d2 + 33) :: (d3 + 33) :: (d4 + 33) :: (c0 :: r0).drop 5 := by
              have := List.take_append_drop 5 (c0 :: r0)
              rw [hcs] at this
              simpa [a85Chars] using this.symm
            rw [hbody]
            by_cases hv : (((d0 * 85 + d1) * 85 + d2) * 85 + d3) * 85 + d4 > 4294967295
            · exact .inr (.overflow d0 d1 d2 d3 d4 _ e0 e1 e2 e3 e4 hv)
            · rcases ih ((c0 :: r0).drop 5).length (by rw [List.length_drop, hlen]; omega) _ rfl with ⟨t, ht⟩ | hb
              · exact .inl ⟨_, .full d0 d1 d2 d3 d4 _ t e0 e1 e2 e3 e4 (by omega) ht⟩
              · exact .inr (.afterFull d0 d1 d2 d3 d4 _ e0 e1 e2 e3 e4 hb)
        · -- the final partial group: the whole body
          rw [List.take_of_length_le (by omega)] at hcs hdl
          have hl1 : 1 ≤ ds.length := by rw [hdl]; simp
          have hl4 : ds.length ≤ 4 := by rw [hdl]; omega
          rw [hcs]
          by_cases hv : a85Value (ds ++ List.replicate (5 - ds.length) 84) > 4294967295
          · exact .inr (.partOverflow ds hl1 hl4 hds hv)
          · exact .inl ⟨_, .part ds hl1 hl4 hds (by omega)⟩
      · -- a character that is no digit among the first five
        obtain ⟨i, c, hi, hci, hbad⟩ := not_all_digits _ (eq_false_of_ne_true hall)
        have hi5 : i < 5 := by
          have : ((c0 :: r0).take 5).length ≤ 5 := by simp; omega
          omega
        have hci' : (c0 :: r0)[i]? = some c := by
          rw [List.getElem?_take] at hci
          simpa [hi5] using hci
        exact .inr (.char _ i c hi5 hci' hbad hhead)

theorem a85Groups_some_iff (body y : Str) : a85Groups body = some y ↔ A85Reads body y := by
  refine ⟨fun h => ?_, a85Reads_groups body y⟩
  rcases a85Reads_or_bad _ body rfl with ⟨y', h'⟩ | hb
  · rw [a85Reads_groups body y' h'] at h
    exact Option.some.inj h ▸ h'
  · rw [a85Bad_groups body hb] at h
    cases h

theorem a85Groups_none_iff (body : Str) : a85Groups body = none ↔ A85Bad body := by
  refine ⟨fun h => ?_, a85Bad_groups body⟩
  rcases a85Reads_or_bad _ body rfl with ⟨y', h'⟩ | hb
  · rw [a85Reads_groups body y' h'] at h
    cases h
  · exact hb

end Tabula.Filters
