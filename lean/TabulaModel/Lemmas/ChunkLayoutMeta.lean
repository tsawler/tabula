import TabulaModel.Lemmas.ChunkLayoutFull
/-!
Helper lemmas for property C12, layout-based chunker: indices, ids, total and the metadata of
every chunk. Every chunk `chunkSection` produces for a section — whole, split by paragraphs,
split by sentences, merged with an orphan, atomic list block — carries the section's path and
page range, the next free index and the id made from it. Then the chunks of `Chunk` taken section
by section (`GroupsOK`).
-/
namespace Tabula.ChunkLayout
open Tabula.Chunk

/-- the chunks of one section: indices from `idx` on, each stamped with the section's metadata -/
def SecChunksOK (cfg : Cfg) (info : SecInfo) (idx : Nat) (cs : List Chunk) : Prop :=
  Chunk.Seq idx cs ∧ ∀ c ∈ cs, MetaOK cfg info c

theorem splitSection_ok (cfg : Cfg) (info : SecInfo) (content : List CE) (idx : Nat) :
    SecChunksOK cfg info idx (splitSectionByParagraphs cfg info content idx) :=
  have h := (splitSection_adds (cfg := cfg) (info := info) content idx).1
  ⟨h.seq, h.stamped⟩

theorem chunkSection_ok (cfg : Cfg) (info : SecInfo) (content : List CE) (idx : Nat) :
    SecChunksOK cfg info idx (chunkSection cfg info content idx) := by
  simp only [chunkSection]
  split
  · exact ⟨Seq_nil idx, fun c hc => by cases hc⟩
  · split
    · refine ⟨rfl, ?_⟩
      intro c hc
      simp only [List.mem_singleton] at hc
      subst hc
      exact ⟨rfl, rfl, rfl, rfl⟩
    · exact splitSection_ok cfg info content idx

/-- the chunks of `Chunk`, section by section (pre-order of the section tree) -/
def secGroups (cfg : Cfg) : List (SecInfo × List CE) → Nat → List (List Chunk)
  | [], _ => []
  | (info, content) :: rest, idx =>
    let own := chunkSection cfg info content idx
    own :: secGroups cfg rest (idx + own.length)

theorem chunkFlat_groups (cfg : Cfg) (l : List (SecInfo × List CE)) (idx : Nat) :
    chunkFlat cfg l idx = (secGroups cfg l idx).flatten := by
  induction l generalizing idx with
  | nil => rfl
  | cons x xs ih =>
    obtain ⟨info, content⟩ := x
    simp only [chunkFlat, secGroups, List.flatten_cons, ih]

theorem secGroups_length (cfg : Cfg) (l : List (SecInfo × List CE)) (idx : Nat) :
    (secGroups cfg l idx).length = l.length := by
  induction l generalizing idx with
  | nil => rfl
  | cons x xs ih =>
    obtain ⟨info, content⟩ := x
    simp only [secGroups, List.length_cons, ih]

theorem chunkFlat_seq (cfg : Cfg) (l : List (SecInfo × List CE)) (idx : Nat) :
    Chunk.Seq idx (chunkFlat cfg l idx) ∧ ∀ c ∈ chunkFlat cfg l idx, c.id = layoutId cfg c.idx := by
  induction l generalizing idx with
  | nil => exact ⟨Seq_nil idx, fun c hc => by cases hc⟩
  | cons x xs ih =>
    obtain ⟨info, content⟩ := x
    obtain ⟨s1, m1⟩ := chunkSection_ok cfg info content idx
    obtain ⟨s2, m2⟩ := ih (idx + (chunkSection cfg info content idx).length)
    simp only [chunkFlat]
    refine ⟨Seq_append s1 s2, ?_⟩
    intro c hc
    rcases List.mem_append.mp hc with hc | hc
    · exact (m1 c hc).1
    · exact m2 c hc

theorem layoutId_injective (cfg : Cfg) {a b : Nat} (h : layoutId cfg a = layoutId cfg b) : a = b := by
  unfold layoutId at h
  exact Tabula.A1.dec_injective (List.append_cancel_left h)

/-- `chunk` before the total is stamped -/
def chunkRaw (cfg : Cfg) (title : Str) (d : LDoc) : List Chunk :=
  let cs := chunkForest cfg (buildSections cfg d) 0
  if cs.isEmpty then chunkByParagraphs cfg title d else cs

theorem chunkRaw_seq (cfg : Cfg) (title : Str) (d : LDoc) :
    Chunk.Seq 0 (chunkRaw cfg title d) ∧ ∀ c ∈ chunkRaw cfg title d, c.id = layoutId cfg c.idx := by
  unfold chunkRaw
  simp only
  split
  · rcases chunkByParagraphs_eq cfg title d with h0 | ⟨info, h1⟩
    · rw [h0]; exact ⟨Seq_nil 0, fun c hc => by cases hc⟩
    · rw [h1]
      obtain ⟨s, m⟩ := splitSection_ok cfg info (fallbackContent d) 0
      exact ⟨s, fun c hc => (m c hc).1⟩
  · rw [chunkForest_flat]; exact chunkFlat_seq cfg _ 0

/-- indices `0..n-1`, ids `<IDPrefix>_<index>` and pairwise distinct, total `n` -/
theorem chunk_numbering (cfg : Cfg) (title : Str) (d : LDoc) :
    (chunk cfg title d).map (·.idx) = List.range (chunk cfg title d).length ∧
    (∀ c ∈ chunk cfg title d, c.id = layoutId cfg c.idx) ∧
    ((chunk cfg title d).map (·.id)).Nodup ∧
    ∀ c ∈ chunk cfg title d, c.total = (chunk cfg title d).length :=
  setTotal_numbering (layoutId cfg) (fun _ _ => layoutId_injective cfg) _
    (chunkRaw_seq cfg title d).1 (chunkRaw_seq cfg title d).2

/-- `gs` are the chunks of the sections `l`, section by section: every chunk of a group carries
its section's path and page range, and the group's texts are the section's content -/
def GroupsOK (cfg : Cfg) : List (SecInfo × List CE) → List (List Chunk) → Prop
  | [], [] => True
  | x :: xs, g :: gs =>
    ((∀ c ∈ g, c.path = x.1.path ∧ c.pageStart = x.1.pageStart ∧ c.pageEnd = x.1.pageEnd) ∧
      strip (textsOf g) = strip (ceTexts (emitOrder cfg x.2))) ∧ GroupsOK cfg xs gs
  | _, _ => False

theorem secGroups_ok (cfg : Cfg) (l : List (SecInfo × List CE)) (h : ∀ x ∈ l, ∀ e ∈ x.2, SentsOK cfg e)
    (idx : Nat) : GroupsOK cfg l (secGroups cfg l idx) := by
  induction l generalizing idx with
  | nil => trivial
  | cons x xs ih =>
    obtain ⟨info, content⟩ := x
    simp only [secGroups, GroupsOK]
    refine ⟨⟨?_, ?_⟩, ih (fun y hy => h y (List.mem_cons_of_mem _ hy)) _⟩
    · intro c hc
      exact ((chunkSection_ok cfg info content idx).2 c hc).2
    · exact sectionCoverO cfg info content (h (info, content) (List.mem_cons_self ..)) idx

/-- when no section yields a chunk (the case in which `Chunk` falls back on
`chunkByParagraphs`) the document has no content, white space aside -/
theorem forest_empty_blank (cfg : Cfg) (d : LDoc) (h : ∀ e ∈ canon cfg d, SentsOK cfg e)
    (he : chunkForest cfg (buildSections cfg d) 0 = []) : strip (ceTexts (canon cfg d)) = [] := by
  have hf := forest_cover_full cfg d h
  rw [he] at hf
  exact ceTexts_perm_strip_nil (emitted_perm cfg d).symm hf.symm

end Tabula.ChunkLayout
