import TabulaModel.Lemmas.WorkbookMdAll
import TabulaModel.Lemmas.HFTrim
import TabulaModel.Lemmas.WorkbookText
/-!
The Markdown of several sheets read back sheet by sheet, for every workbook (C17): also when
sheets without content come last, where `strings.TrimSpace` cuts into the last heading lines.
-/
namespace Tabula.Wb
open Tabula.A1 Tabula.Sheet

open Tabula.HF in
/-- the bytes `|` and `#` belong to no space rune, so `strings.TrimSpace` / `TrimRight` stop at them
(`HF.trimRight_append`, `HF.trimSpace_of_nonSpace`) -/
theorem pipe_not_space : ∀ q ∈ spaceSeqs, 124 ∉ q := by decide
open Tabula.HF in
theorem hash_not_space : ∀ q ∈ spaceSeqs, 35 ∉ q := by decide

theorem nonPipe_prefix (l' l : Str) (hp : l' <+: l) (hl : l = [] ∨ isHeading l = true) : mdParseLine l' = none := by
  cases l' with
  | nil => rfl
  | cons a t =>
    obtain ⟨suf, hs⟩ := hp
    rcases hl with rfl | hl
    · simp at hs
    · rw [← hs] at hl
      simp only [isHeading, List.cons_append, List.head?_cons, beq_iff_eq, Option.some.injEq] at hl
      subst hl
      simp [mdParseLine]

theorem prefix_lines (G : List Str) (hG : ∀ g ∈ G, 10 ∉ g) (T' : Str) (hp : T' <+: G.flatMap nl) :
    ∀ l ∈ splitOn 10 T', l = [] ∨ ∃ g ∈ G, l <+: g := by
  induction G generalizing T' with
  | nil =>
    have : T' = [] := by simpa using hp
    subst this
    intro l hl
    simp [splitOn, splitAux] at hl
    exact Or.inl hl
  | cons g G ih =>
    obtain ⟨suf, hs⟩ := hp
    simp only [List.flatMap_cons, nl, List.append_assoc, List.singleton_append] at hs
    have hg := hG g (by simp)
    have hpre : T' <+: g → ∀ l ∈ splitOn 10 T', l = [] ∨ ∃ x ∈ g :: G, l <+: x := by
      intro hT l hl
      rw [splitOn_clean 10 T' (fun h => hg (hT.subset h)), List.mem_singleton] at hl
      exact Or.inr ⟨g, by simp, hl ▸ hT⟩
    rcases List.append_eq_append_iff.mp hs with ⟨a', h1, -⟩ | ⟨_ | ⟨d, c''⟩, h1, h2⟩
    · exact hpre ⟨a', h1.symm⟩
    · exact hpre (by rw [h1]; simp)
    · -- T' goes beyond `g` and its newline
      simp only [List.cons_append, List.cons.injEq] at h2
      obtain ⟨rfl, h2⟩ := h2
      intro l hl
      rw [h1, splitOn_append_sep, splitOn_clean 10 g hg, List.singleton_append, List.mem_cons] at hl
      rcases hl with rfl | hl
      · exact Or.inr ⟨l, by simp, List.prefix_refl _⟩
      · rcases ih (fun x hx => hG x (by simp [hx])) c'' ⟨suf, h2.symm⟩ l hl with h | ⟨x, hx, h⟩
        · exact Or.inl h
        · exact Or.inr ⟨x, by simp [hx], h⟩

theorem dropHeadings_sublist (k : Nat) (L : List Str) : (dropHeadings k L).Sublist L := by
  induction L generalizing k with
  | nil => simp [dropHeadings]
  | cons l ls ih =>
    simp only [dropHeadings]
    split
    · cases k with
      | zero => exact List.sublist_cons_self _ _
      | succ k => exact (ih k).trans (List.sublist_cons_self _ _)
    · exact (ih k).trans (List.sublist_cons_self _ _)

theorem section_nonPipe (k : Nat) (L : List Str) (h : ∀ l ∈ L, mdParseLine l = none) :
    (sectionLines k L).filterMap mdParseLine = [] := by
  apply List.filterMap_eq_nil_iff.mpr
  intro l hl
  exact h l ((dropHeadings_sublist k L).mem ((List.takeWhile_sublist _).mem hl))

theorem pipeLines_empty (ss : List Sheet) (h : ∀ s ∈ ss, tableLines s = []) (k : Nat) :
    (match ss[k]? with
      | some s => (tableLines s).filterMap mdParseLine
      | none => []) = [] := by
  cases hk : ss[k]? with
  | none => rfl
  | some s => simp only [h s (List.mem_of_getElem? hk)]; rfl

/-- between the lines of some sheets and those of more sheets stand two blank lines, or nothing
when there are no sheets on one side -/
theorem joinSheets_append_sep (Ls Ms : List (List Str)) :
    ∃ sep, (∀ l ∈ sep, l = []) ∧ joinSheets (Ls ++ Ms) = joinSheets Ls ++ (sep ++ joinSheets Ms) := by
  induction Ls with
  | nil => exact ⟨[], nofun, rfl⟩
  | cons L rest ih =>
    cases rest with
    | nil =>
      cases Ms with
      | nil => exact ⟨[], nofun, by simp [joinSheets]⟩
      | cons M Ms' => exact ⟨[[], []], by simp, by simp [joinSheets]⟩
    | cons L' rest' =>
      obtain ⟨sep, hsep, h⟩ := ih
      refine ⟨sep, hsep, ?_⟩
      simp only [List.cons_append] at h ⊢
      simp only [joinSheets, h, List.append_assoc]

/-- up to the first heading, sheets' lines followed by lines that are no table lines hold no
table line -/
theorem firstSection_nonPipe (lvl : Nat) (hl : 1 ≤ lvl) (ss : List Sheet) (G' : List Str)
    (hG : ∀ l ∈ G', mdParseLine l = none) :
    ((joinSheets (ss.map (sheetLines lvl)) ++ G').takeWhile fun l => !isHeading l).filterMap mdParseLine = [] := by
  cases ss with
  | nil => exact List.filterMap_eq_nil_iff.mpr fun l hl' => hG l ((List.takeWhile_sublist _).mem hl')
  | cons s1 rest =>
    obtain ⟨xs, hxs⟩ := joinSheets_head lvl s1 rest
    rw [hxs, List.cons_append, List.takeWhile_cons_of_neg (by simp [isHeading_headingLine lvl s1.name hl])]
    rfl

/-- sections of the sheets' lines followed by lines that are no table lines: the `k`-th section
reads as the `k`-th sheet's table lines; sheets without table lines may be counted after them -/
theorem section_tail (lvl : Nat) (hl : 1 ≤ lvl) (ss trailing : List Sheet)
    (ht : ∀ s ∈ trailing, tableLines s = []) (G' : List Str)
    (hG : ∀ l ∈ G', mdParseLine l = none) (k : Nat) :
    (sectionLines k (joinSheets (ss.map (sheetLines lvl)) ++ G')).filterMap mdParseLine =
      match (ss ++ trailing)[k]? with
      | some s => (tableLines s).filterMap mdParseLine
      | none => [] := by
  induction ss generalizing k with
  | nil =>
    simp only [List.map_nil, joinSheets, List.nil_append]
    rw [section_nonPipe k G' hG]
    exact (pipeLines_empty trailing ht k).symm
  | cons s0 rest ih =>
    -- the heading, then a blank line, the table lines and, before a next sheet, two blank lines
    obtain ⟨sep, hsep, hj⟩ := joinSheets_append_sep [sheetLines lvl s0] (rest.map (sheetLines lvl))
    have hj' : joinSheets ((s0 :: rest).map (sheetLines lvl)) ++ G' =
        headingLine lvl s0.name :: ((([] : Str) :: tableLines s0 ++ sep) ++
          (joinSheets (rest.map (sheetLines lvl)) ++ G')) := by
      rw [List.map_cons, ← List.singleton_append, hj]
      simp [joinSheets, sheetLines]
    have hnh : ∀ l ∈ ([] : Str) :: tableLines s0 ++ sep, isHeading l = false := by
      intro l hl'
      rcases List.mem_append.mp hl' with h | h
      · rcases List.mem_cons.mp h with rfl | h
        · rfl
        · exact tableLines_not_heading s0 l h
      · rw [hsep l h]; rfl
    rw [hj', sectionLines_heading k _ _ _ (isHeading_headingLine lvl s0.name hl) hnh]
    cases k with
    | zero =>
      rw [List.filterMap_append, firstSection_nonPipe lvl hl rest G' hG, List.append_nil, List.filterMap_append,
        List.filterMap_eq_nil_iff (l := sep) |>.mpr (fun l h => by rw [hsep l h]; rfl), List.append_nil]
      rfl
    | succ k => exact ih k

theorem tableLines_empty (s : Sheet) (hrect : Rect (s.maxCol + 1) s.rows)
    (h : (findContentBounds s).isEmpty = true) : tableLines s = [] := by
  unfold tableLines
  rw [headers_isEmpty_iff s hrect, h]; rfl

theorem prefix_nonPipe (G : List Str) (hG : ∀ g ∈ G, 10 ∉ g ∧ (g = [] ∨ isHeading g = true))
    (T' : Str) (hp : T' <+: G.flatMap nl) : ∀ l ∈ splitOn 10 T', mdParseLine l = none := by
  intro l hl
  rcases prefix_lines G (fun g hg => (hG g hg).1) T' hp l hl with rfl | ⟨g, hg, hpre⟩
  · rfl
  · exact nonPipe_prefix l g hpre (hG g hg).2

/-- the sheets' text is empty or starts with a heading, so the trim takes nothing off its front -/
theorem trimSpace_sheets (lvl : Nat) (hl : 1 ≤ lvl) (ss : List Sheet) :
    HF.trimSpace ((joinSheets (ss.map (sheetLines lvl))).flatMap nl) =
      HF.trimRight ((joinSheets (ss.map (sheetLines lvl))).flatMap nl) := by
  cases ss with
  | nil => exact (by decide : HF.trimSpace [] = HF.trimRight [])
  | cons s1 rest =>
    obtain ⟨kk, rfl⟩ : ∃ kk, lvl = kk + 1 := ⟨lvl - 1, by omega⟩
    obtain ⟨xs, hxs⟩ := joinSheets_head (kk + 1) s1 rest
    obtain ⟨z, hz⟩ : ∃ z, (joinSheets ((s1 :: rest).map (sheetLines (kk + 1)))).flatMap nl = 35 :: z := by
      rw [hxs]
      exact ⟨_, by simp [nl, headingLine, List.replicate_succ]; rfl⟩
    rw [hz, HF.trimSpace_of_nonSpace 35 _ hash_not_space]

/-- **the lines of the trimmed Markdown of any list of sheets**: the lines of the sheets up to the
last one with a table, then lines that are no table lines (what `strings.TrimSpace` leaves of the
headings of the sheets without content that come last) -/
theorem md_lines (lvl : Nat) (hl : 1 ≤ lvl) (ss : List Sheet)
    (hrect : ∀ s ∈ ss, Rect (s.maxCol + 1) s.rows) (hnames : ∀ s ∈ ss, 10 ∉ s.name) :
    ∃ front trailing G', ss = front ++ trailing ∧ (∀ s ∈ trailing, tableLines s = []) ∧
      (∀ l ∈ G', mdParseLine l = none) ∧
      splitOn 10 (HF.trimSpace (intercalate [10, 10] (ss.map (sheetMd lvl)))) =
        joinSheets (front.map (sheetLines lvl)) ++ G' := by
  have e1 : ss.map (sheetMd lvl) = (ss.map (sheetLines lvl)).map fun L => L.flatMap nl := by
    rw [List.map_map]
    apply List.map_congr_left
    intro t ht
    exact sheetMd_lines lvl t (hrect t ht)
  rw [e1, intercalate_sheets, trimSpace_sheets lvl hl ss]
  -- `strings.TrimSpace` can only cut into the last line: look at the last sheet
  rcases List.eq_nil_or_concat ss with rfl | ⟨init, last, rfl⟩
  · exact ⟨[], [], [[]], rfl, nofun, by simp [mdParseLine],
      (by decide : splitOn 10 (HF.trimRight []) = [[]])⟩
  rw [List.concat_eq_append] at *
  have hlast : last ∈ init ++ [last] := by simp
  obtain ⟨sep, hsep, hj⟩ := joinSheets_append_sep (init.map (sheetLines lvl)) [sheetLines lvl last]
  rw [List.map_append, List.map_cons, List.map_nil, hj]
  -- the lines before the last sheet's
  have hB : ∀ l ∈ joinSheets (init.map (sheetLines lvl)) ++ sep, 10 ∉ l := by
    intro l hl'
    rcases List.mem_append.mp hl' with h | h
    · exact joinSheets_clean lvl init (fun t ht => hnames t (List.mem_append_left _ ht)) l h
    · rw [hsep l h]; simp
  cases hc : (findContentBounds last).isEmpty with
  | true =>
    -- heading and blank line: the trim stops at the last `#`
    obtain ⟨k, rfl⟩ : ∃ k, lvl = k + 1 := ⟨lvl - 1, by omega⟩
    have hlines : sheetLines (k + 1) last = [headingLine (k + 1) last.name, []] := by
      rw [sheetLines, tableLines_empty last (hrect last hlast) hc, List.append_nil]
    have htext : (joinSheets (init.map (sheetLines (k + 1))) ++ (sep ++ joinSheets [sheetLines (k + 1) last])).flatMap nl =
        ((joinSheets (init.map (sheetLines (k + 1))) ++ sep).flatMap nl ++ List.replicate k 35) ++ 35 :: ([32] ++ last.name ++ [10, 10]) := by
      rw [joinSheets, hlines]
      simp only [headingLine, List.replicate_succ', List.append_assoc, List.cons_append, List.nil_append,
        List.flatMap_append, List.flatMap_cons, nl, List.flatMap_nil, List.append_nil]
    obtain ⟨suf, hsuf⟩ := HF.trimRight_prefix ([32] ++ last.name ++ [10, 10])
    have hp : List.replicate k 35 ++ 35 :: HF.trimRight ([32] ++ last.name ++ [10, 10]) <+:
        [headingLine (k + 1) last.name, []].flatMap nl :=
      ⟨suf, by rw [List.append_assoc, List.cons_append, ← hsuf]; simp only [List.cons_append, List.nil_append, headingLine, List.replicate_succ', List.append_assoc,
        List.flatMap_cons, nl, List.flatMap_nil, List.append_nil]⟩
    refine ⟨init, [last],
      sep ++ splitOn 10 (List.replicate k 35 ++ 35 :: HF.trimRight ([32] ++ last.name ++ [10, 10])), rfl,
      fun s hs => by rw [List.mem_singleton.mp hs]; exact tableLines_empty last (hrect last hlast) hc, ?_, ?_⟩
    · intro l hl'
      rcases List.mem_append.mp hl' with h | h
      · rw [hsep l h]; rfl
      · exact prefix_nonPipe _ (fun g hg => by
          rcases List.mem_cons.mp hg with rfl | hg
          · exact ⟨headingLine_clean _ _ (hnames last hlast), Or.inr (isHeading_headingLine _ _ hl)⟩
          · rw [List.mem_singleton.mp hg]; exact ⟨by simp, Or.inl rfl⟩) _ hp l h
    · rw [htext, HF.trimRight_append _ _ 35 hash_not_space, List.append_assoc, splitOn_lines _ _ hB,
        List.append_assoc]
  | false =>
    -- the last line is a table line, which ends with a pipe: only the final newline goes
    have hne : (sheetToTable last).headers.isEmpty = false := by
      rw [headers_isEmpty_iff last (hrect last hlast)]; exact hc
    obtain ⟨T, i, hT⟩ := tableLines_last_ends last hne
    have hA : joinSheets (init.map (sheetLines lvl)) ++ (sep ++ joinSheets [sheetLines lvl last]) =
        (joinSheets (init.map (sheetLines lvl)) ++ sep ++ [headingLine lvl last.name, []] ++ T) ++ [i ++ [124]] := by
      rw [joinSheets, sheetLines, hT]; simp only [List.cons_append, List.nil_append, List.append_assoc]
    have hclean := joinSheets_clean lvl (init ++ [last]) hnames
    rw [List.map_append, List.map_cons, List.map_nil, hj, hA] at hclean
    refine ⟨init ++ [last], [], [], (List.append_nil _).symm, nofun, nofun, ?_⟩
    rw [List.map_append, List.map_cons, List.map_nil, hj, hA, List.append_nil, List.flatMap_append,
      show [i ++ [124]].flatMap nl = i ++ 124 :: [10] by simp only [List.flatMap_cons, nl, List.append_assoc, List.cons_append, List.nil_append, List.flatMap_nil,
        List.append_nil], ← List.append_assoc,
      HF.trimRight_append _ _ 124 pipe_not_space, show HF.trimRight [10] = [] by decide,
      show ∀ (A B : Str), (A ++ B) ++ [124] = A ++ (B ++ [124]) by simp]
    have := splitOn_lines _ (i ++ [124]) fun l hl' => hclean l (List.mem_append_left _ hl')
    rw [this, splitOn_clean 10 _ (hclean _ (by simp))]
/-- **the Markdown of any list of sheets, trimmed, read back sheet by sheet** -/
theorem mdReadSheet_general (lvl : Nat) (hl : 1 ≤ lvl) (ss : List Sheet)
    (hrect : ∀ s ∈ ss, Rect (s.maxCol + 1) s.rows) (hnames : ∀ s ∈ ss, 10 ∉ s.name) (k : Nat) :
    mdReadSheet k (HF.trimSpace (intercalate [10, 10] (ss.map (sheetMd lvl)))) =
      match ss[k]? with
      | some s => if (findContentBounds s).isEmpty then [] else (boxTable s).map (·.map pad)
      | none => [] := by
  obtain ⟨front, trailing, G', rfl, ht, hG, hlines⟩ := md_lines lvl hl ss hrect hnames
  unfold mdReadSheet
  rw [hlines, section_tail lvl hl front trailing ht G' hG k]
  cases hk : (front ++ trailing)[k]? with
  | none => rfl
  | some s => exact tableLines_read s (hrect s (List.mem_of_getElem? hk))

/-- **one sheet's Markdown, trimmed, read back** by the reader of a single table: the sheet's lines,
then lines that are no table lines -/
theorem mdRead_sheetMd (s : Sheet) (lvl : Nat) (hl : 1 ≤ lvl) (hrect : Rect (s.maxCol + 1) s.rows)
    (hne : (findContentBounds s).isEmpty = false) (hname : 10 ∉ s.name) :
    mdReadTable (HF.trimSpace (sheetMd lvl s)) = (boxTable s).map (·.map pad) := by
  obtain ⟨front, trailing, G', hss, ht, hG, hlines⟩ := md_lines lvl hl [s]
    (fun t ht => by rw [List.mem_singleton.mp ht]; exact hrect)
    (fun t ht => by rw [List.mem_singleton.mp ht]; exact hname)
  have hread := tableLines_read s hrect
  simp only [hne, Bool.false_eq_true, if_false] at hread
  -- the sheet has a table, so it is not among the trailing ones
  obtain rfl : front = [s] := by
    cases front with
    | nil =>
      have : tableLines s = [] := ht s (by rw [← List.nil_append trailing, ← hss]; simp)
      unfold tableLines at this
      rw [headers_isEmpty_iff s hrect, hne] at this
      cases this
    | cons a as =>
      simp only [List.cons_append, List.cons.injEq] at hss
      obtain ⟨rfl, h⟩ := hss
      rw [(List.append_eq_nil_iff.mp h.symm).1]
  obtain ⟨k, hk⟩ : ∃ k, lvl = k + 1 := ⟨lvl - 1, by omega⟩
  have hG' : G'.filterMap mdParseLine = [] := List.filterMap_eq_nil_iff.mpr hG
  unfold mdReadTable
  simp only [List.map_cons, List.map_nil, intercalate] at hlines
  rw [hlines, ← hread, List.filterMap_append, hG', List.append_nil]
  simp [joinSheets, sheetLines, hk, headingLine, List.replicate_succ, mdParseLine, List.filterMap_cons]

end Tabula.Wb
