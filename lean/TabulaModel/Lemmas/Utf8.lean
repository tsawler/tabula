import TabulaModel.Lemmas.Split
namespace Tabula.Split

theorem ok2_spec {a b : Nat} (h : ok2 a b = true) : 0xC2 ≤ a ∧ a ≤ 0xDF ∧ isCont b = true := by
  simp only [ok2, Bool.and_eq_true, decide_eq_true_eq] at h
  exact ⟨h.1.1, h.1.2, h.2⟩

theorem ok3_spec {a b c : Nat} (h : ok3 a b c = true) :
    0xE0 ≤ a ∧ a ≤ 0xEF ∧ isCont b = true ∧ isCont c = true := by
  simp only [ok3, isCont, Bool.and_eq_true, Bool.or_eq_true, decide_eq_true_eq, beq_iff_eq] at h ⊢
  omega

theorem ok4_spec {a b c d : Nat} (h : ok4 a b c d = true) :
    0xF0 ≤ a ∧ a ≤ 0xF4 ∧ isCont b = true ∧ isCont c = true ∧ isCont d = true := by
  simp only [ok4, isCont, Bool.and_eq_true, Bool.or_eq_true, decide_eq_true_eq, beq_iff_eq] at h ⊢
  omega

theorem charLen_one {a : Nat} {r : Str} (h : a < 0x80) : charLen (a :: r) = 1 := by
  simp [charLen, h]

theorem charLen_two {a b : Nat} {r : Str} (h : ok2 a b = true) : charLen (a :: b :: r) = 2 := by
  have := ok2_spec h
  have h1 : ¬ a < 0x80 := by omega
  simp [charLen, h, h1]

theorem charLen_three {a b c : Nat} {r : Str} (h : ok3 a b c = true) :
    charLen (a :: b :: c :: r) = 3 := by
  have := ok3_spec h
  have h1 : ¬ a < 0x80 := by omega
  have h2 : ok2 a b = false := by
    cases h' : ok2 a b
    · rfl
    · have := ok2_spec h'; omega
  simp [charLen, h, h1, h2]

theorem charLen_four {a b c d : Nat} {r : Str} (h : ok4 a b c d = true) :
    charLen (a :: b :: c :: d :: r) = 4 := by
  have := ok4_spec h
  have h1 : ¬ a < 0x80 := by omega
  have h2 : ok2 a b = false := by
    cases h' : ok2 a b
    · rfl
    · have := ok2_spec h'; omega
  have h3 : ok3 a b c = false := by
    cases h' : ok3 a b c
    · rfl
    · have := ok3_spec h'; omega
  simp [charLen, h, h1, h2, h3]

/-- the shapes with a non-zero `charLen` -/
theorem charLen_cases (s : Str) :
    charLen s = 0
    ∨ (∃ a r, s = a :: r ∧ a < 0x80)
    ∨ (∃ a b r, s = a :: b :: r ∧ ok2 a b = true)
    ∨ (∃ a b c r, s = a :: b :: c :: r ∧ ok3 a b c = true)
    ∨ (∃ a b c d r, s = a :: b :: c :: d :: r ∧ ok4 a b c d = true) := by
  match s with
  | [] => left; rfl
  | a :: r =>
    by_cases h1 : a < 0x80
    · right; left; exact ⟨a, r, rfl, h1⟩
    · match r with
      | [] => left; simp [charLen, h1]
      | b :: r =>
        cases h2 : ok2 a b
        · match r with
          | [] => left; simp [charLen, h1, h2]
          | c :: r =>
            cases h3 : ok3 a b c
            · match r with
              | [] => left; simp [charLen, h1, h2, h3]
              | d :: r =>
                cases h4 : ok4 a b c d
                · left; simp [charLen, h1, h2, h3, h4]
                · right; right; right; right; exact ⟨a, b, c, d, r, rfl, h4⟩
            · right; right; right; left; exact ⟨a, b, c, r, rfl, h3⟩
        · right; right; left; exact ⟨a, b, r, rfl, h2⟩

theorem runeStart_of_lt {a : Nat} (h : a < 0x80) : runeStart a = true := by
  simp only [runeStart, isCont, Bool.not_eq_true', Bool.and_eq_false_iff, decide_eq_false_iff_not]
  omega

theorem runeStart_of_ge {a : Nat} (h : 0xC0 ≤ a) : runeStart a = true := by
  simp only [runeStart, isCont, Bool.not_eq_true', Bool.and_eq_false_iff, decide_eq_false_iff_not]
  omega

/-- a well-formed character at the head of `s`: a rune-start byte, then at most three continuation
bytes, and `charLen` of these bytes is their number whatever follows them -/
theorem charLen_shape (s : Str) (h : charLen s ≠ 0) :
    ∃ a t r, s = a :: t ++ r ∧ charLen s = t.length + 1 ∧ t.length ≤ 3 ∧ runeStart a = true
      ∧ (∀ b ∈ t, isCont b = true) ∧ ∀ r', charLen (a :: t ++ r') = t.length + 1 := by
  rcases charLen_cases s with h0 | ⟨a, r, rfl, h1⟩ | ⟨a, b, r, rfl, h2⟩ | ⟨a, b, c, r, rfl, h3⟩
    | ⟨a, b, c, d, r, rfl, h4⟩
  · exact absurd h0 h
  · exact ⟨a, [], r, rfl, charLen_one h1, by simp, runeStart_of_lt h1, (fun _ hb => nomatch hb),
      fun _ => charLen_one h1⟩
  · have := ok2_spec h2
    exact ⟨a, [b], r, rfl, charLen_two h2, by simp, runeStart_of_ge (by omega),
      by simpa using this.2.2, fun _ => charLen_two h2⟩
  · have := ok3_spec h3
    exact ⟨a, [b, c], r, rfl, charLen_three h3, by simp, runeStart_of_ge (by omega),
      by simpa using this.2.2, fun _ => charLen_three h3⟩
  · have := ok4_spec h4
    exact ⟨a, [b, c, d], r, rfl, charLen_four h4, by simp, runeStart_of_ge (by omega),
      by simpa using this.2.2, fun _ => charLen_four h4⟩

/-- prefix determinacy -/
theorem charLen_append (s t : Str) (h : charLen s ≠ 0) : charLen (s ++ t) = charLen s := by
  obtain ⟨a, u, r, rfl, e, -, -, -, hx⟩ := charLen_shape s h
  rw [e, List.append_assoc, hx]

theorem charLen_take (s : Str) (k : Nat) (h : charLen s ≠ 0) (hk : charLen s ≤ k) :
    charLen (s.take k) = charLen s := by
  obtain ⟨a, u, r, rfl, e, -, -, -, hx⟩ := charLen_shape s h
  have : (a :: u ++ r).take k = a :: u ++ r.take (k - (u.length + 1)) := by
    rw [List.take_append, List.take_of_length_le (by simp; omega)]
    simp
  rw [this, e, hx]

theorem runeLen_le_length (s : Str) (hs : s ≠ []) : runeLen s ≤ s.length := by
  unfold runeLen
  split
  · exact List.length_pos_iff.mpr hs
  · exact charLen_le_length s

theorem charLen_take_zero (s : Str) (n : Nat) (h : charLen s = 0) : charLen (s.take n) = 0 := by
  apply Classical.byContradiction
  intro hne
  have := charLen_append (s.take n) (s.drop n) hne
  rw [List.take_append_drop] at this
  omega

/-- the rune at the head is as wide when the string is cut behind it -/
theorem runeLen_take (s : Str) (n : Nat) (hn : runeLen s ≤ n) : runeLen (s.take n) = runeLen s := by
  unfold runeLen at hn ⊢
  by_cases hc : charLen s = 0
  · rw [charLen_take_zero s n hc, hc]
  · rw [if_neg hc] at hn
    rw [charLen_take s n hc hn]

/-- bytes 1..n-1 of a character are continuation bytes -/
theorem charLen_cont (s : Str) (j : Nat) (h0 : 0 < j) (hj : j < charLen s) :
    ∃ b, s[j]? = some b ∧ isCont b = true := by
  obtain ⟨a, u, r, rfl, e, -, -, hc, -⟩ := charLen_shape s (by omega)
  obtain ⟨i, rfl⟩ : ∃ i, j = i + 1 := ⟨j - 1, by omega⟩
  have hi : i < u.length := by omega
  exact ⟨u[i], by simp [List.getElem?_append_left hi], hc _ (List.getElem_mem hi)⟩

/-- the first byte of a character is not a continuation byte -/
theorem charLen_head (s : Str) (h : charLen s ≠ 0) : ∃ b, s[0]? = some b ∧ runeStart b = true := by
  obtain ⟨a, u, r, rfl, -, -, ha, -, -⟩ := charLen_shape s h
  exact ⟨a, rfl, ha⟩

theorem charLen_le_four (s : Str) : charLen s ≤ 4 := by
  by_cases h : charLen s = 0
  · omega
  · obtain ⟨a, u, r, rfl, e, hu, -, -, -⟩ := charLen_shape s h
    omega

theorem validUtf8_nil : validUtf8 [] = true := by
  rw [validUtf8]; rfl

theorem ne_nil_of_charLen {s : Str} (h : charLen s ≠ 0) : s ≠ [] := by
  intro hs; subst hs; exact h rfl

theorem validUtf8_step (s : Str) (h : charLen s ≠ 0) :
    validUtf8 s = validUtf8 (s.drop (charLen s)) := by
  conv => lhs; rw [validUtf8]
  rw [dif_neg (ne_nil_of_charLen h), dif_neg h]

theorem validUtf8_bad (s : Str) (hs : s ≠ []) (h : charLen s = 0) : validUtf8 s = false := by
  rw [validUtf8, dif_neg hs, dif_pos h]

theorem charLen_ne_zero_of_valid {s : Str} (hs : s ≠ []) (hv : validUtf8 s = true) :
    charLen s ≠ 0 := by
  intro h
  rw [validUtf8_bad s hs h] at hv
  exact Bool.noConfusion hv

/-- an ASCII byte in front of a string is a character of its own -/
theorem validUtf8_ascii_cons {a : Nat} (h : a < 0x80) (s : Str) : validUtf8 (a :: s) = validUtf8 s := by
  rw [validUtf8_step _ (by rw [charLen_one h]; exact Nat.one_ne_zero), charLen_one h]
  rfl

theorem validUtf8_of_ascii (s : Str) (h : ∀ c ∈ s, c < 0x80) : validUtf8 s = true := by
  induction s with
  | nil => exact validUtf8_nil
  | cons c cs ih =>
    rw [validUtf8_ascii_cons (h c (List.mem_cons_self ..))]
    exact ih fun x hx => h x (List.mem_cons_of_mem _ hx)

theorem validUtf8_append (a b : Str) (ha : validUtf8 a = true) (hb : validUtf8 b = true) :
    validUtf8 (a ++ b) = true := by
  induction a using validUtf8.induct with
  | case1 => exact hb
  | case2 x hx h0 => rw [validUtf8_bad x hx h0] at ha; exact Bool.noConfusion ha
  | case3 x hx h0 ih =>
    rw [validUtf8_step x h0] at ha
    have h1 : charLen (x ++ b) = charLen x := charLen_append x b h0
    have h2 : charLen (x ++ b) ≠ 0 := by rw [h1]; exact h0
    rw [validUtf8_step _ h2, h1, List.drop_append_of_le_length (charLen_le_length x)]
    exact ih ha

theorem validUtf8_flatMap {α : Type} (f : α → Str) (l : List α) (h : ∀ a ∈ l, validUtf8 (f a) = true) :
    validUtf8 (l.flatMap f) = true := by
  induction l with
  | nil => exact validUtf8_nil
  | cons a rest ih =>
    rw [List.flatMap_cons]
    exact validUtf8_append _ _ (h a (List.mem_cons_self ..)) (ih fun x hx => h x (List.mem_cons_of_mem _ hx))

/-- where `charLen` finds a character at the head of a string, that character is itself a valid string -/
theorem validUtf8_take_charLen (s : Str) (h : charLen s ≠ 0) :
    validUtf8 (s.take (charLen s)) = true := by
  have h1 : charLen (s.take (charLen s)) = charLen s := charLen_take s _ h (Nat.le_refl _)
  have h2 : charLen (s.take (charLen s)) ≠ 0 := by rw [h1]; exact h
  rw [validUtf8_step _ h2, h1, List.drop_eq_nil_of_le]
  · exact validUtf8_nil
  · rw [List.length_take]; exact Nat.min_le_left _ _

theorem isCont_not_runeStart {b : Nat} (h1 : isCont b = true) (h2 : runeStart b = true) : False := by
  rw [runeStart, h1] at h2; exact Bool.noConfusion h2

/-- a position strictly inside a character holds a continuation byte -/
theorem drop_cont (s : Str) (q p : Nat) (h1 : q < p) (h2 : p < q + charLen (s.drop q)) :
    ∃ b, s[p]? = some b ∧ isCont b = true := by
  obtain ⟨b, hb1, hb2⟩ := charLen_cont (s.drop q) (p - q) (by omega) (by omega)
  rw [List.getElem?_drop] at hb1
  have : q + (p - q) = p := by omega
  rw [this] at hb1
  exact ⟨b, hb1, hb2⟩

theorem drop_head (s : Str) (q : Nat) (h : charLen (s.drop q) ≠ 0) :
    ∃ b, s[q]? = some b ∧ runeStart b = true := by
  obtain ⟨b, hb1, hb2⟩ := charLen_head (s.drop q) h
  rw [List.getElem?_drop] at hb1
  exact ⟨b, hb1, hb2⟩

theorem isCont_range {b : Nat} (h : isCont b = true) : 0x80 ≤ b ∧ b ≤ 0xBF := by
  simpa only [isCont, Bool.and_eq_true, decide_eq_true_eq] using h

theorem isCont_ge {b : Nat} (h : isCont b = true) : 0x80 ≤ b := (isCont_range h).1

theorem isAsciiSpace_lt {b : Nat} (h : isAsciiSpace b = true) : b < 0x80 := by
  simp only [isAsciiSpace, Bool.or_eq_true, Bool.and_eq_true, decide_eq_true_eq, beq_iff_eq] at h
  omega

theorem isSpace2_ok2 {b c : Nat} (h : isSpace2 b c = true) : ok2 b c = true := by
  simp only [isSpace2, ok2, isCont, Bool.or_eq_true, Bool.and_eq_true, decide_eq_true_eq,
    beq_iff_eq] at h ⊢
  omega

theorem isSpace3_ok3 {b c d : Nat} (h : isSpace3 b c d = true) : ok3 b c d = true := by
  -- lead bytes E1..E3 put no constraint on the second byte beyond being a continuation byte
  have hb : 0xE1 ≤ b ∧ b ≤ 0xE3 ∧ 0x80 ≤ c ∧ c ≤ 0xBF ∧ 0x80 ≤ d ∧ d ≤ 0xBF := by
    simp only [isSpace3, Bool.or_eq_true, Bool.and_eq_true, decide_eq_true_eq, beq_iff_eq] at h
    omega
  simp only [ok3, isCont, Bool.or_eq_true, Bool.and_eq_true, decide_eq_true_eq, beq_iff_eq]
  exact ⟨.inl (.inl (.inr ⟨⟨by omega, by omega⟩, by omega, by omega⟩)), by omega, by omega⟩

/-- a White_Space pattern is a well-formed character of the same length -/
theorem charLen_of_spaceLen (s : Str) (h : spaceLen s ≠ 0) : charLen s = spaceLen s := by
  rcases spaceLen_cases s with h0 | ⟨b, r, rfl, h1, e⟩ | ⟨b, c, r, rfl, h2, e⟩
    | ⟨b, c, d, r, rfl, h3, e⟩
  · exact absurd h0 h
  · rw [e, charLen_one (isAsciiSpace_lt h1)]
  · rw [e, charLen_two (isSpace2_ok2 h2)]
  · rw [e, charLen_three (isSpace3_ok3 h3)]

/-- … so it is the rune `DecodeRuneInString` reads there -/
theorem runeLen_of_spaceLen (s : Str) (h : spaceLen s ≠ 0) : runeLen s = spaceLen s := by
  have := charLen_of_spaceLen s h
  unfold runeLen
  rw [if_neg (by omega)]
  exact this

theorem backToStart_start (s : Str) (q k b : Nat) (h1 : s[q]? = some b)
    (h2 : runeStart b = true) : backToStart s q (k + 1) = q := by
  unfold backToStart
  by_cases hq : q = 0
  · rw [if_pos hq]; exact hq.symm
  · rw [if_neg hq]; simp only [h1, h2, if_true]

theorem backToStart_zero (s : Str) (k : Nat) : backToStart s 0 k = 0 := by
  cases k with
  | zero => rfl
  | succ k => unfold backToStart; rw [if_pos rfl]

theorem backToStart_cont (s : Str) (i k b : Nat) (h1 : s[i + 1]? = some b)
    (h2 : isCont b = true) : backToStart s (i + 1) (k + 1) = backToStart s i k := by
  conv => lhs; unfold backToStart
  have h3 : runeStart b = false := by rw [runeStart, h2]; rfl
  rw [if_neg (Nat.succ_ne_zero i)]
  simp only [h1, h3, Nat.add_sub_cancel]
  rfl

/-- scanning back from just before a position inside a character (at most three bytes
after its start) finds the start of the character -/
theorem backToStart_char (s : Str) (q pos : Nat) (h1 : q < pos)
    (h2 : pos < q + charLen (s.drop q)) : backToStart s (pos - 1) 2 = q := by
  have h4 := charLen_le_four (s.drop q)
  obtain ⟨a, ha1, ha2⟩ := drop_head s q (by omega)
  have hj : pos = q + 1 ∨ pos = q + 2 ∨ pos = q + 3 := by omega
  rcases hj with rfl | rfl | rfl
  · rw [Nat.add_sub_cancel]; exact backToStart_start s q 1 a ha1 ha2
  · obtain ⟨b, hb1, hb2⟩ := drop_cont s q (q + 1) (by omega) (by omega)
    show backToStart s (q + 1) 2 = q
    rw [backToStart_cont s q 1 b hb1 hb2]
    exact backToStart_start s q 0 a ha1 ha2
  · obtain ⟨b, hb1, hb2⟩ := drop_cont s q (q + 1) (by omega) (by omega)
    obtain ⟨c, hc1, hc2⟩ := drop_cont s q (q + 2) (by omega) (by omega)
    show backToStart s (q + 2) 2 = q
    rw [backToStart_cont s (q + 1) 1 c hc1 hc2, backToStart_cont s q 0 b hb1 hb2]
    rfl

end Tabula.Split
