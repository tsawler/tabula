import TabulaModel.Model.Json
import TabulaModel.Lemmas.Utf8
/-!
Lemmas for the JSON writer/reader pair of `Model/Json.lean`: strings, numbers, values.
-/
set_option linter.unusedSimpArgs false
namespace Tabula.Json
open Tabula.Split

theorem prepend_append (p q : Str) (o : Option (Str × Str)) : prepend p (prepend q o) = prepend (p ++ q) o := by
  cases o with
  | none => rfl
  | some x => obtain ⟨s, r⟩ := x; simp [prepend]

theorem prepend_nil (o : Option (Str × Str)) : prepend [] o = o := by
  cases o with
  | none => rfl
  | some x => rfl

/-- an ordinary byte is copied -/
theorem parseStr_copy (c : Nat) (t : Str) (h1 : c ≠ 34) (h2 : c ≠ 92) (h3 : ¬ c < 32) :
    parseStr (c :: t) = prepend [c] (parseStr t) := by
  conv => lhs; rw [parseStr.eq_def]
  simp [h1, h2, h3]

theorem hexDigit_val (n : Nat) (h : n < 16) : hexVal (hexDigit n) = some n := by
  revert n; decide

theorem parseStr_u00 (b : Nat) (hb : b < 128) (t : Str) :
    parseStr ([92, 117, 48, 48, hexDigit (b / 16), hexDigit (b % 16)] ++ t) = prepend [b] (parseStr t) := by
  have h1 : hexVal (hexDigit (b / 16)) = some (b / 16) := hexDigit_val _ (Nat.div_lt_of_lt_mul (by omega))
  have h2 : hexVal (hexDigit (b % 16)) = some (b % 16) := hexDigit_val _ (Nat.mod_lt _ (by decide))
  have h48 : hexVal 48 = some 0 := by decide
  conv => lhs; rw [parseStr.eq_def]
  simp only [List.cons_append, List.nil_append, hex4, h1, h2, h48]
  have e : 0 * 4096 + 0 * 256 + b / 16 * 16 + b % 16 = b := by
    simp only [Nat.zero_mul, Nat.zero_add]
    exact Nat.div_add_mod' b 16
  rw [e]
  have hs : ¬ (0xD800 ≤ b ∧ b ≤ 0xDFFF) := by omega
  have hlt : b < 0x80 := hb
  simp only [hs, if_false, utf8Enc, hlt, if_true]
  simp

/-- the three forms of what `appendString` writes for one ASCII byte: a two-character escape
(byte, letter after the backslash), `\u00XX`, or the byte itself -/
theorem escByte_cases (b : Nat) :
    (∃ e, (b, e) ∈ [(34, 34), (92, 92), (8, 98), (12, 102), (10, 110), (13, 114), (9, 116)] ∧
      escByte b = [92, e]) ∨
    ((b < 32 ∨ b = 60 ∨ b = 62 ∨ b = 38) ∧
      escByte b = [92, 117, 48, 48, hexDigit (b / 16), hexDigit (b % 16)]) ∨
    (32 ≤ b ∧ b ≠ 34 ∧ b ≠ 92 ∧ escByte b = [b]) := by
  unfold escByte
  by_cases h1 : b = 34
  · exact .inl ⟨34, by subst h1; decide, if_pos h1⟩
  rw [if_neg h1]
  by_cases h2 : b = 92
  · exact .inl ⟨92, by subst h2; decide, if_pos h2⟩
  rw [if_neg h2]
  by_cases h3 : b = 8
  · exact .inl ⟨98, by subst h3; decide, if_pos h3⟩
  rw [if_neg h3]
  by_cases h4 : b = 12
  · exact .inl ⟨102, by subst h4; decide, if_pos h4⟩
  rw [if_neg h4]
  by_cases h5 : b = 10
  · exact .inl ⟨110, by subst h5; decide, if_pos h5⟩
  rw [if_neg h5]
  by_cases h6 : b = 13
  · exact .inl ⟨114, by subst h6; decide, if_pos h6⟩
  rw [if_neg h6]
  by_cases h7 : b = 9
  · exact .inl ⟨116, by subst h7; decide, if_pos h7⟩
  rw [if_neg h7]
  by_cases h8 : b < 32 ∨ b = 60 ∨ b = 62 ∨ b = 38
  · exact .inr (.inl ⟨h8, if_pos h8⟩)
  · exact .inr (.inr ⟨by omega, h1, h2, if_neg h8⟩)

theorem hexDigit_range (n : Nat) (h : n < 16) : 48 ≤ hexDigit n ∧ hexDigit n ≤ 102 := by
  unfold hexDigit; split <;> omega

/-- an escaped byte is written as itself (then it is not a control byte) or in printable ASCII -/
theorem escByte_mem {b c : Nat} (h : c ∈ escByte b) : c = b ∧ 32 ≤ b ∨ 34 ≤ c ∧ c ≤ 117 := by
  rcases escByte_cases b with ⟨e, he, hb⟩ | ⟨hu, hb⟩ | ⟨h32, _, _, hb⟩
  · have he' : 34 ≤ e ∧ e ≤ 116 :=
      (by decide : ∀ p ∈ [(34, 34), (92, 92), (8, 98), (12, 102), (10, 110), (13, 114), (9, 116)],
        34 ≤ p.2 ∧ p.2 ≤ 116) (b, e) he
    rw [hb] at h
    simp only [List.mem_cons, List.not_mem_nil, or_false] at h
    omega
  · have h1 := hexDigit_range (b / 16) (Nat.div_lt_of_lt_mul (by omega))
    have h2 := hexDigit_range (b % 16) (Nat.mod_lt _ (by decide))
    rw [hb] at h
    simp only [List.mem_cons, List.not_mem_nil, or_false] at h
    omega
  · rw [hb, List.mem_singleton] at h
    exact .inl ⟨h, h32⟩

theorem parseStr_simpleEsc (e b : Nat) (t : Str) (h : simpleEsc e = some b) (he : e ≠ 117) :
    parseStr (92 :: e :: t) = prepend [b] (parseStr t) := by
  rw [parseStr.eq_def]
  simp only [he, h, if_false, if_true, show (92 : Nat) ≠ 34 by decide]

/-- what the writer emits for an ASCII byte reads back as that byte -/
theorem parseStr_escByte (b : Nat) (hb : b < 128) (t : Str) :
    parseStr (escByte b ++ t) = prepend [b] (parseStr t) := by
  rcases escByte_cases b with ⟨e, he, hw⟩ | ⟨_, hw⟩ | ⟨h32, h1, h2, hw⟩ <;> rw [hw]
  · refine parseStr_simpleEsc e b t ?_ ?_ <;>
      (simp only [List.mem_cons, List.not_mem_nil, or_false, Prod.mk.injEq] at he
       rcases he with ⟨rfl, rfl⟩ | ⟨rfl, rfl⟩ | ⟨rfl, rfl⟩ | ⟨rfl, rfl⟩ | ⟨rfl, rfl⟩ | ⟨rfl, rfl⟩ | ⟨rfl, rfl⟩ <;>
         decide)
  · exact parseStr_u00 b hb t
  · exact parseStr_copy b t h1 h2 (by omega)

theorem parseStr_u2028 (t : Str) : parseStr (u2028 ++ t) = prepend [0xE2, 0x80, 0xA8] (parseStr t) := by
  conv => lhs; rw [u2028, parseStr.eq_def]
  simp (decide := true) [hex4, hexVal, utf8Enc]

theorem parseStr_u2029 (t : Str) : parseStr (u2029 ++ t) = prepend [0xE2, 0x80, 0xA9] (parseStr t) := by
  conv => lhs; rw [u2029, parseStr.eq_def]
  simp (decide := true) [hex4, hexVal, utf8Enc]

/-- a block of bytes ≥ 0x80 is copied -/
theorem parseStr_high (w t : Str) (h : ∀ c ∈ w, 128 ≤ c) : parseStr (w ++ t) = prepend w (parseStr t) := by
  induction w with
  | nil => simp [prepend_nil]
  | cons c cs ih =>
    have hc := h c (by simp)
    rw [List.cons_append, parseStr_copy c _ (by omega) (by omega) (by omega), ih (fun x hx => h x (List.mem_cons_of_mem _ hx)),
      prepend_append]
    rfl

/-- the bytes of a multi-byte character: the lead byte, then continuation bytes -/
theorem take_charLen_high (b : Nat) (r : Str) (hb : 128 ≤ b) :
    ∀ c ∈ (b :: r).take (charLen (b :: r)), 128 ≤ c := by
  intro c hc
  obtain ⟨j, hj, rfl⟩ := List.getElem_of_mem hc
  rw [List.length_take] at hj
  rw [List.getElem_take]
  cases j with
  | zero => exact hb
  | succ j =>
    obtain ⟨x, hx, hcont⟩ := charLen_cont (b :: r) (j + 1) (by omega) (by omega)
    rw [List.getElem?_eq_getElem (by omega)] at hx
    injection hx with hx
    rw [hx]
    exact isCont_ge hcont
/-- STRINGS ROUND TRIP: what `appendString` writes between the quotes for a well-formed UTF-8
string is decoded back to exactly that string (and the reader goes on with what follows). -/
theorem parseStr_escBody (s : Str) (hv : validUtf8 s = true) (t : Str) :
    parseStr (escBody s ++ t) = prepend s (parseStr t) := by
  induction s using validUtf8.induct with
  | case1 => rw [escBody]; simp [prepend_nil]
  | case2 x hx h0 => rw [validUtf8_bad x hx h0] at hv; exact Bool.noConfusion hv
  | case3 x hx h0 ih =>
    rw [validUtf8_step x h0] at hv
    have ih' := ih hv
    cases x with
    | nil => exact absurd rfl hx
    | cons b rest =>
      rw [escBody]
      by_cases hb : b < 0x80
      · have h1 : charLen (b :: rest) = 1 := charLen_one hb
        rw [h1] at ih'
        simp only [List.drop_succ_cons, List.drop_zero] at ih'
        rw [if_pos hb, List.append_assoc, parseStr_escByte b hb, ih', prepend_append]
        rfl
      · rw [if_neg hb, if_neg h0]
        by_cases h28 : (b :: rest).take 3 = [0xE2, 0x80, 0xA8]
        · have hx3 : b :: rest = [0xE2, 0x80, 0xA8] ++ (b :: rest).drop 3 := by
            rw [← h28]; exact (List.take_append_drop 3 _).symm
          have hc : charLen (b :: rest) = 3 := by
            rw [hx3]; exact charLen_three (by decide)
          rw [hc] at ih'
          rw [if_pos h28, List.append_assoc, parseStr_u2028, ih', prepend_append, ← hx3]
        · rw [if_neg h28]
          by_cases h29 : (b :: rest).take 3 = [0xE2, 0x80, 0xA9]
          · have hx3 : b :: rest = [0xE2, 0x80, 0xA9] ++ (b :: rest).drop 3 := by
              rw [← h29]; exact (List.take_append_drop 3 _).symm
            have hc : charLen (b :: rest) = 3 := by
              rw [hx3]; exact charLen_three (by decide)
            rw [hc] at ih'
            rw [if_pos h29, List.append_assoc, parseStr_u2029, ih', prepend_append, ← hx3]
          · rw [if_neg h29, List.append_assoc,
              parseStr_high _ _ (take_charLen_high b rest (by omega)), ih', prepend_append,
              List.take_append_drop]

/-- a quoted string reads back -/
theorem parseStr_quote (s : Str) (hv : validUtf8 s = true) (t : Str) :
    parseStr (escBody s ++ 34 :: t) = some (s, t) := by
  rw [parseStr_escBody s hv]
  conv => lhs; rw [parseStr.eq_def]
  simp [prepend]

/-- `escBody s` is a concatenation of the pieces the loop of `appendString` writes: an escaped ASCII
byte, one of `\ufffd`, `\u2028`, `\u2029`, or a well-formed multi-byte character copied as it is.
So a property that holds of `[]` and is kept by putting such a piece in front holds of `escBody s`. -/
theorem escBody_pieces (P : Str → Prop) (hnil : P [])
    (hesc : ∀ b r, b < 128 → P r → P (escByte b ++ r))
    (hlit : ∀ w ∈ [uFFFD, u2028, u2029], ∀ r, P r → P (w ++ r))
    (hchar : ∀ b rest r, ¬ b < 128 → charLen (b :: rest) ≠ 0 → P r →
      P ((b :: rest).take (charLen (b :: rest)) ++ r)) :
    ∀ s, P (escBody s) := by
  intro s
  induction s using escBody.induct with
  | case1 => rw [escBody]; exact hnil
  | case2 b rest hb ih => rw [escBody, if_pos hb]; exact hesc b _ hb ih
  | case3 b rest hb h0 ih => rw [escBody, if_neg hb, if_pos h0]; exact hlit _ (by simp) _ ih
  | case4 b rest hb h0 h28 ih => rw [escBody, if_neg hb, if_neg h0, if_pos h28]; exact hlit _ (by simp) _ ih
  | case5 b rest hb h0 h28 h29 ih =>
    rw [escBody, if_neg hb, if_neg h0, if_neg h28, if_pos h29]; exact hlit _ (by simp) _ ih
  | case6 b rest hb h0 h28 h29 ih =>
    rw [escBody, if_neg hb, if_neg h0, if_neg h28, if_neg h29]; exact hchar b rest _ hb h0 ih

mutual
  theorem J.ind' (P : J → Prop) (hnull : P .null) (hbool : ∀ b, P (.bool b)) (hnum : ∀ r, P (.num r)) (hstr : ∀ s, P (.str s))
      (harr : ∀ l, (∀ x ∈ l, P x) → P (.arr l)) (hobj : ∀ ms, (∀ p ∈ ms, P p.2) → P (.obj ms)) : ∀ v, P v
    | .null => hnull
    | .bool b => hbool b
    | .num r => hnum r
    | .str s => hstr s
    | .arr l => harr l (J.indList P hnull hbool hnum hstr harr hobj l)
    | .obj ms => hobj ms (J.indMembers P hnull hbool hnum hstr harr hobj ms)
  theorem J.indList (P : J → Prop) (hnull : P .null) (hbool : ∀ b, P (.bool b)) (hnum : ∀ r, P (.num r)) (hstr : ∀ s, P (.str s))
      (harr : ∀ l, (∀ x ∈ l, P x) → P (.arr l)) (hobj : ∀ ms, (∀ p ∈ ms, P p.2) → P (.obj ms)) : ∀ (l : List J), ∀ x ∈ l, P x
    | [] => List.forall_mem_nil _
    | y :: ys => List.forall_mem_cons.mpr
        ⟨J.ind' P hnull hbool hnum hstr harr hobj y, J.indList P hnull hbool hnum hstr harr hobj ys⟩
  theorem J.indMembers (P : J → Prop) (hnull : P .null) (hbool : ∀ b, P (.bool b)) (hnum : ∀ r, P (.num r)) (hstr : ∀ s, P (.str s))
      (harr : ∀ l, (∀ x ∈ l, P x) → P (.arr l)) (hobj : ∀ ms, (∀ p ∈ ms, P p.2) → P (.obj ms)) : ∀ (ms : List (Str × J)), ∀ p ∈ ms, P p.2
    | [] => List.forall_mem_nil _
    | (_, v) :: rest => List.forall_mem_cons.mpr
        ⟨J.ind' P hnull hbool hnum hstr harr hobj v, J.indMembers P hnull hbool hnum hstr harr hobj rest⟩
end

/-! ### well-formed values, fuel -/

mutual
  /-- strings (and keys) are well-formed UTF-8, numbers are RFC 8259 number tokens -/
  def wf : J → Bool
    | .null => true
    | .bool _ => true
    | .num raw => validNum raw && raw.all isNumChar
    | .str s => validUtf8 s
    | .arr l => wfList l
    | .obj ms => wfMembers ms
  def wfList : List J → Bool
    | [] => true
    | x :: xs => wf x && wfList xs
  def wfMembers : List (Str × J) → Bool
    | [] => true
    | (k, v) :: ms => validUtf8 k && wf v && wfMembers ms
end

mutual
  /-- fuel that suffices to read the value back -/
  def cost : J → Nat
    | .null => 1
    | .bool _ => 1
    | .num _ => 1
    | .str _ => 1
    | .arr l => 1 + costList l
    | .obj ms => 1 + costMembers ms
  def costList : List J → Nat
    | [] => 0
    | x :: xs => 1 + cost x + costList xs
  def costMembers : List (Str × J) → Nat
    | [] => 0
    | (_, v) :: ms => 1 + cost v + costMembers ms
end

/-- a layout inserts white space only -/
structure StyleWs (st : Style) : Prop where
  nl : ∀ d, ∀ c ∈ st.nl d, isWs c = true
  sp : ∀ c ∈ st.sp, isWs c = true

theorem compact_ws : StyleWs compact := ⟨by simp [compact], by simp [compact]⟩

theorem indent2_ws : StyleWs indent2 := by
  constructor
  · intro d c hc
    simp only [indent2, List.mem_cons, List.mem_replicate] at hc
    rcases hc with h | ⟨_, h⟩ <;> subst h <;> decide
  · intro c hc
    simp only [indent2, List.mem_singleton] at hc
    subst hc; decide

/-- what may follow a value: nothing, or a byte that cannot continue a number -/
def termOk : Str → Bool
  | [] => true
  | c :: _ => !isNumChar c

theorem isWs_iff {c : Nat} : isWs c = true ↔ c = 32 ∨ c = 9 ∨ c = 10 ∨ c = 13 := by
  simp only [isWs, Bool.or_eq_true, beq_iff_eq, or_assoc]

theorem isNumChar_iff {c : Nat} :
    isNumChar c = true ↔ (48 ≤ c ∧ c ≤ 57) ∨ c = 45 ∨ c = 43 ∨ c = 46 ∨ c = 101 ∨ c = 69 := by
  simp only [isNumChar, isDigit, Bool.or_eq_true, Bool.and_eq_true, decide_eq_true_eq, beq_iff_eq, or_assoc]

theorem isNumChar_of_isWs {c : Nat} (h : isWs c = true) : isNumChar c = false := by
  have := isWs_iff.mp h
  cases hn : isNumChar c with
  | false => rfl
  | true => have := isNumChar_iff.mp hn; omega

/-- a byte of a number token is not white space and starts no other kind of value, nor closes one -/
theorem numChar_head {c : Nat} (h : isNumChar c = true) :
    isWs c = false ∧ c ≠ 93 ∧ c ≠ 125 ∧ c ≠ 123 ∧ c ≠ 91 ∧ c ≠ 34 ∧ c ≠ 116 ∧ c ≠ 102 ∧ c ≠ 110 := by
  rcases isNumChar_iff.mp h with ⟨h1, h2⟩ | rfl | rfl | rfl | rfl | rfl
  · refine ⟨?_, by omega⟩
    cases hw : isWs c with
    | false => rfl
    | true => have := isWs_iff.mp hw; omega
  all_goals decide

theorem skipWs_ws (w t : Str) (hw : ∀ c ∈ w, isWs c = true) : skipWs (w ++ t) = skipWs t := by
  induction w with
  | nil => rfl
  | cons c cs ih =>
    simp only [List.cons_append, skipWs, hw c (by simp), if_true]
    exact ih (fun x hx => hw x (List.mem_cons_of_mem _ hx))

theorem skipWs_cons (c : Nat) (t : Str) (h : isWs c = false) : skipWs (c :: t) = c :: t := by
  simp [skipWs, h]

theorem parseValue_ws (f : Nat) (w t : Str) (hw : ∀ c ∈ w, isWs c = true) :
    parseValue f (w ++ t) = parseValue f t := by
  cases f with
  | zero => simp [parseValue]
  | succ f => rw [parseValue, parseValue, skipWs_ws w t hw]

theorem takeNum_append (raw rest : Str) (h : raw.all isNumChar = true) (ht : termOk rest = true) :
    takeNum (raw ++ rest) = raw ∧ dropNum (raw ++ rest) = rest := by
  induction raw with
  | nil =>
    cases rest with
    | nil => simp [takeNum, dropNum]
    | cons c r =>
      simp only [termOk, Bool.not_eq_true'] at ht
      simp [takeNum, dropNum, ht]
  | cons c cs ih =>
    simp only [List.all_cons, Bool.and_eq_true] at h
    obtain ⟨e1, e2⟩ := ih h.2
    simp [takeNum, dropNum, h.1, e1, e2]

theorem stripPrefix_self (p rest : Str) : stripPrefix p (p ++ rest) = some rest := by
  induction p with
  | nil => cases rest <;> rfl
  | cons a as ih => simp [stripPrefix, ih]

/-- white space in front does not matter for what may follow a value -/
theorem termOk_ws_append (w t : Str) (hw : ∀ x ∈ w, isWs x = true) (ht : termOk t = true) :
    termOk (w ++ t) = true := by
  cases w with
  | nil => exact ht
  | cons x xs => simp only [List.cons_append, termOk, isNumChar_of_isWs (hw x (by simp)), Bool.not_false]

theorem termOk_of_ws_cons (w : Str) (c : Nat) (t : Str) (hw : ∀ x ∈ w, isWs x = true) (hc : isNumChar c = false) :
    termOk (w ++ c :: t) = true :=
  termOk_ws_append w _ hw (by simp only [termOk, hc, Bool.not_false])

/-- the first byte of a written value: not white space, not a closing bracket, and it selects
the branch of the reader that the value needs -/
inductive HeadKind where
  | lit | num | str | arr | obj

theorem validNum_ne_nil {raw : Str} (h : validNum raw = true) : raw ≠ [] := by
  intro e; subst e; simp [validNum] at h

/-! ### the round trip for values -/

/-- the statement proved for every value by induction -/
def RT (st : Style) (v : J) : Prop :=
  ∀ (d f : Nat) (rest : Str), cost v ≤ f → termOk rest = true →
    parseValue f (write st d v ++ rest) = some (v, rest)

/-- the first byte of a written value is not white space and is none of `]`, `}` -/
theorem write_head (st : Style) (d : Nat) (v : J) (hw : wf v = true) :
    ∃ c r, write st d v = c :: r ∧ isWs c = false ∧ c ≠ 93 ∧ c ≠ 125 := by
  cases v with
  | null => exact ⟨110, _, rfl, by decide, by decide, by decide⟩
  | bool b => cases b <;> exact ⟨_, _, rfl, by decide, by decide, by decide⟩
  | num raw =>
    simp only [wf, Bool.and_eq_true] at hw
    cases raw with
    | nil => exact absurd rfl (validNum_ne_nil hw.1)
    | cons c r =>
      have hc : isNumChar c = true := by
        have := hw.2; simp only [List.all_cons, Bool.and_eq_true] at this; exact this.1
      have hh := numChar_head hc
      exact ⟨c, r, rfl, hh.1, hh.2.1, hh.2.2.1⟩
  | str s => exact ⟨34, _, rfl, by decide, by decide, by decide⟩
  | arr l => cases l <;> exact ⟨91, _, rfl, by decide, by decide, by decide⟩
  | obj ms =>
    cases ms with
    | nil => exact ⟨123, _, rfl, by decide, by decide, by decide⟩
    | cons p ps => obtain ⟨k, v⟩ := p; exact ⟨123, _, rfl, by decide, by decide, by decide⟩

theorem rt_null (st : Style) : RT st .null := by
  intro d f rest hf ht
  cases f with
  | zero => simp [cost] at hf
  | succ f =>
    have : write st d J.null ++ rest = 110 :: 117 :: 108 :: 108 :: rest := rfl
    rw [this, parseValue, skipWs_cons _ _ (by decide)]
    simp (decide := true) [stripPrefix, kNull]

theorem rt_bool (st : Style) (b : Bool) : RT st (.bool b) := by
  intro d f rest hf ht
  cases f with
  | zero => simp [cost] at hf
  | succ f =>
    cases b with
    | true =>
      have : write st d (J.bool true) ++ rest = 116 :: 114 :: 117 :: 101 :: rest := rfl
      rw [this, parseValue, skipWs_cons _ _ (by decide)]
      simp (decide := true) [stripPrefix, kTrue]
    | false =>
      have : write st d (J.bool false) ++ rest = 102 :: 97 :: 108 :: 115 :: 101 :: rest := rfl
      rw [this, parseValue, skipWs_cons _ _ (by decide)]
      simp (decide := true) [stripPrefix, kFalse]

theorem rt_str (st : Style) (s : Str) (hw : validUtf8 s = true) : RT st (.str s) := by
  intro d f rest hf ht
  cases f with
  | zero => simp [cost] at hf
  | succ f =>
    have : write st d (J.str s) ++ rest = 34 :: (escBody s ++ 34 :: rest) := by
      simp [write, quote]
    rw [this, parseValue, skipWs_cons _ _ (by decide)]
    simp (decide := true) [parseStr_quote s hw]

theorem rt_num (st : Style) (raw : Str) (h1 : validNum raw = true) (h2 : raw.all isNumChar = true) :
    RT st (.num raw) := by
  intro d f rest hf ht
  cases f with
  | zero => simp [cost] at hf
  | succ f =>
    cases hr : raw with
    | nil => exact absurd hr (validNum_ne_nil h1)
    | cons c r =>
      have hc : isNumChar c = true := by
        rw [hr] at h2; simp only [List.all_cons, Bool.and_eq_true] at h2; exact h2.1
      obtain ⟨hws, _, _, h123, h91, h34, h116, h102, h110⟩ := numChar_head hc
      obtain ⟨e1, e2⟩ := takeNum_append raw rest h2 ht
      rw [hr] at e1 e2
      have : write st d (J.num (c :: r)) ++ rest = c :: (r ++ rest) := rfl
      rw [this, parseValue, skipWs_cons _ _ hws]
      simp only [h123, h91, h34, h116, h102, h110, if_false]
      rw [List.cons_append] at e1 e2
      rw [e1, e2, ← hr, h1]
      simp

/-- after a written element come the further elements and the closing bracket: `,` or layout and `]` -/
theorem termOk_elemsTail (st : Style) (hst : StyleWs st) (d d' : Nat) (xs : List J) (rest : Str) :
    termOk (writeElems st d xs ++ (st.nl d' ++ 93 :: rest)) = true := by
  cases xs with
  | nil => exact termOk_of_ws_cons _ 93 rest (hst.nl d') (by decide)
  | cons y ys => rfl

/-- array elements: from the start of element `x` to the closing bracket -/
theorem parseElems_write (st : Style) (hst : StyleWs st) (d d' : Nat) (rest : Str) :
    ∀ (f : Nat) (xs : List J) (x : J) (acc : List J) (pre : Str),
      (∀ c ∈ pre, isWs c = true) → (∀ y ∈ x :: xs, RT st y) →
      1 + cost x + costList xs ≤ f →
      parseElems f (pre ++ (write st d x ++ (writeElems st d xs ++ (st.nl d' ++ 93 :: rest)))) acc =
        some (.arr (acc ++ x :: xs), rest) := by
  intro f
  induction f with
  | zero => intro _ _ _ _ _ _ hf; omega
  | succ f ih =>
    intro xs x acc pre hpre hall hf
    -- the element itself, whatever follows it
    rw [parseElems, parseValue_ws f pre _ hpre,
      hall x List.mem_cons_self d f _ (by omega) (termOk_elemsTail st hst d d' xs rest)]
    cases xs with
    | nil =>
      simp only [writeElems, List.nil_append]
      rw [skipWs_ws _ _ (hst.nl d'), skipWs_cons _ _ (by decide)]
      simp
    | cons y ys =>
      simp only [costList] at hf
      simp only [writeElems, List.cons_append, List.append_assoc]
      rw [skipWs_cons _ _ (by decide)]
      simp only [if_true]
      rw [ih ys y (acc ++ [x]) (st.nl d) (hst.nl d) (fun z hz => hall z (List.mem_cons_of_mem _ hz)) (by omega)]
      simp

/-- after a written member come the further members and the closing brace: `,` or layout and `}` -/
theorem termOk_membersTail (st : Style) (hst : StyleWs st) (d d' : Nat) (ms : List (Str × J)) (rest : Str) :
    termOk (writeMembers st d ms ++ (st.nl d' ++ 125 :: rest)) = true := by
  cases ms with
  | nil => exact termOk_of_ws_cons _ 125 rest (hst.nl d') (by decide)
  | cons p ps => obtain ⟨k, v⟩ := p; rfl

/-- object members: from the start of member `(k, v)` to the closing brace -/
theorem parseMembers_write (st : Style) (hst : StyleWs st) (d d' : Nat) (rest : Str) :
    ∀ (f : Nat) (ms : List (Str × J)) (k : Str) (v : J) (acc : List (Str × J)) (pre : Str),
      (∀ c ∈ pre, isWs c = true) → (∀ p ∈ (k, v) :: ms, validUtf8 p.1 = true ∧ RT st p.2) →
      1 + cost v + costMembers ms ≤ f →
      parseMembers f (pre ++ (34 :: (escBody k ++ 34 :: 58 :: (st.sp ++ (write st d v ++
        (writeMembers st d ms ++ (st.nl d' ++ 125 :: rest))))))) acc =
        some (.obj (acc ++ (k, v) :: ms), rest) := by
  intro f
  induction f with
  | zero => intro _ _ _ _ _ _ _ hf; omega
  | succ f ih =>
    intro ms k v acc pre hpre hall hf
    have hk : validUtf8 k = true := (hall (k, v) List.mem_cons_self).1
    have hrt : RT st v := (hall (k, v) List.mem_cons_self).2
    -- the member itself: its name, the colon, its value, whatever follows it
    rw [parseMembers, skipWs_ws _ _ hpre, skipWs_cons _ _ (by decide)]
    simp only [if_true, parseStr_quote k hk]
    rw [skipWs_cons _ _ (by decide)]
    simp only [if_true]
    rw [parseValue_ws f st.sp _ hst.sp, hrt d f _ (by omega) (termOk_membersTail st hst d d' ms rest)]
    cases ms with
    | nil =>
      simp only [writeMembers, List.nil_append]
      rw [skipWs_ws _ _ (hst.nl d'), skipWs_cons _ _ (by decide)]
      simp
    | cons p ps =>
      obtain ⟨k2, v2⟩ := p
      simp only [costMembers] at hf
      simp only [writeMembers, quote, List.cons_append, List.append_assoc]
      rw [skipWs_cons _ _ (by decide)]
      simp only [if_true, List.nil_append]
      rw [ih ps k2 v2 (acc ++ [(k, v)]) (st.nl d) (hst.nl d) (fun z hz => hall z (List.mem_cons_of_mem _ hz))
        (by omega)]
      simp

theorem wfList_eq_all (l : List J) : wfList l = l.all wf := by
  induction l with
  | nil => rfl
  | cons x xs ih => rw [wfList, List.all_cons, ih]

theorem wfMembers_eq_all (l : List (Str × J)) : wfMembers l = l.all (fun p => validUtf8 p.1 && wf p.2) := by
  induction l with
  | nil => rfl
  | cons p ps ih => obtain ⟨k, v⟩ := p; simp only [wfMembers, List.all_cons, ih]

theorem wfList_mem {l : List J} (h : wfList l = true) : ∀ x ∈ l, wf x = true :=
  List.all_eq_true.mp (wfList_eq_all l ▸ h)

theorem wfMembers_mem {ms : List (Str × J)} (h : wfMembers ms = true) :
    ∀ p ∈ ms, validUtf8 p.1 = true ∧ wf p.2 = true := fun p hp =>
  Bool.and_eq_true_iff.mp (List.all_eq_true.mp (wfMembers_eq_all ms ▸ h) p hp)

/-- VALUES ROUND TRIP: every well-formed value, written in any white-space-only layout at any
depth and followed by anything that cannot continue a number, is read back to exactly that value,
with exactly what followed left over. -/
theorem parseValue_write (st : Style) (hst : StyleWs st) (v : J) : wf v = true → RT st v := by
  refine J.ind' (fun v => wf v = true → RT st v) ?_ ?_ ?_ ?_ ?_ ?_ v
  · intro _; exact rt_null st
  · intro b _; exact rt_bool st b
  · intro raw hw
    simp only [wf, Bool.and_eq_true] at hw
    exact rt_num st raw hw.1 hw.2
  · intro s hw; exact rt_str st s hw
  · intro l ih hw
    simp only [wf] at hw
    have hmem := wfList_mem hw
    intro d f rest hf ht
    cases f with
    | zero => simp [cost] at hf
    | succ f =>
      cases l with
      | nil =>
        have : write st d (J.arr []) ++ rest = 91 :: 93 :: rest := rfl
        rw [this, parseValue, skipWs_cons _ _ (by decide)]
        simp (decide := true) [skipWs]
      | cons x xs =>
        obtain ⟨c, r, hc, hcw, hc93, _⟩ := write_head st (d + 1) x (hmem x (by simp))
        have e : write st d (J.arr (x :: xs)) ++ rest =
            91 :: (st.nl (d + 1) ++ (write st (d + 1) x ++ (writeElems st (d + 1) xs ++ (st.nl d ++ 93 :: rest)))) := by
          simp only [write, List.cons_append, List.append_assoc, List.nil_append]
        rw [e, parseValue, skipWs_cons _ _ (by decide)]
        simp only [show ¬ (91 : Nat) = 123 by decide, if_false, if_true]
        rw [skipWs_ws _ _ (hst.nl (d + 1)), hc, List.cons_append, skipWs_cons _ _ hcw]
        simp only [hc93, if_false]
        have := parseElems_write st hst (d + 1) d rest f xs x [] [] (by simp)
          (fun y hy => ih y hy (hmem y hy)) (by simp only [cost, costList] at hf; omega)
        simp only [List.nil_append, hc, List.cons_append] at this
        exact this
  · intro ms ih hw
    simp only [wf] at hw
    have hmem := wfMembers_mem hw
    intro d f rest hf ht
    cases f with
    | zero => simp [cost] at hf
    | succ f =>
      cases ms with
      | nil =>
        have : write st d (J.obj []) ++ rest = 123 :: 125 :: rest := rfl
        rw [this, parseValue, skipWs_cons _ _ (by decide)]
        simp (decide := true) [skipWs]
      | cons p ps =>
        obtain ⟨k, v'⟩ := p
        have e : write st d (J.obj ((k, v') :: ps)) ++ rest =
            123 :: (st.nl (d + 1) ++ (34 :: (escBody k ++ 34 :: 58 :: (st.sp ++ (write st (d + 1) v' ++
              (writeMembers st (d + 1) ps ++ (st.nl d ++ 125 :: rest))))))) := by
          simp only [write, quote, List.cons_append, List.append_assoc, List.nil_append]
        rw [e, parseValue, skipWs_cons _ _ (by decide)]
        simp only [if_true]
        rw [skipWs_ws _ _ (hst.nl (d + 1)), skipWs_cons _ _ (by decide)]
        simp only [show ¬ (34 : Nat) = 125 by decide, if_false]
        have := parseMembers_write st hst (d + 1) d rest f ps k v' [] [] (by simp)
          (fun q hq => ⟨(hmem q hq).1, ih q hq (hmem q hq).2⟩) (by simp only [cost, costMembers] at hf; omega)
        simp only [List.nil_append] at this
        exact this

/-! ### fuel: the text is at least as long as the cost -/

theorem costList_le (st : Style) (d : Nat) (xs : List J) (h : ∀ x ∈ xs, cost x ≤ (write st d x).length) :
    costList xs ≤ (writeElems st d xs).length := by
  induction xs with
  | nil => simp [costList]
  | cons y ys ih =>
    have h1 := h y (by simp)
    have h2 := ih (fun x hx => h x (List.mem_cons_of_mem _ hx))
    simp only [costList, writeElems, List.length_cons, List.length_append]
    omega

theorem costMembers_le (st : Style) (d : Nat) (ms : List (Str × J)) (h : ∀ p ∈ ms, cost p.2 ≤ (write st d p.2).length) :
    costMembers ms ≤ (writeMembers st d ms).length := by
  induction ms with
  | nil => simp [costMembers]
  | cons q qs ih =>
    obtain ⟨k, v⟩ := q
    have h1 : cost v ≤ (write st d v).length := h (k, v) (by simp)
    have h2 := ih (fun x hx => h x (List.mem_cons_of_mem _ hx))
    simp only [costMembers, writeMembers, List.length_cons, List.length_append]
    omega

theorem cost_le_length (st : Style) (v : J) : wf v = true → ∀ d, cost v ≤ (write st d v).length := by
  refine J.ind' (fun v => wf v = true → ∀ d, cost v ≤ (write st d v).length) ?_ ?_ ?_ ?_ ?_ ?_ v
  · intro _ d; simp [cost, write, kNull]
  · intro b _ d; cases b <;> simp [cost, write, kTrue, kFalse]
  · intro raw hw d
    simp only [wf, Bool.and_eq_true] at hw
    have := validNum_ne_nil hw.1
    simp only [cost, write]
    exact List.length_pos_iff.mpr this
  · intro s _ d; simp [cost, write, quote]
  · intro l ih hw d
    simp only [wf] at hw
    have hmem := wfList_mem hw
    cases l with
    | nil => simp [cost, costList, write]
    | cons x xs =>
      have h1 := ih x (by simp) (hmem x (by simp)) (d + 1)
      have h2 := costList_le st (d + 1) xs (fun y hy => ih y (List.mem_cons_of_mem _ hy) (hmem y (List.mem_cons_of_mem _ hy)) (d + 1))
      simp only [cost, costList, write, List.length_cons, List.length_append, List.length_nil]
      omega
  · intro ms ih hw d
    simp only [wf] at hw
    have hmem := wfMembers_mem hw
    cases ms with
    | nil => simp [cost, costMembers, write]
    | cons p ps =>
      obtain ⟨k, v'⟩ := p
      have h1 : cost v' ≤ (write st (d + 1) v').length := ih (k, v') (by simp) (hmem (k, v') (by simp)).2 (d + 1)
      have h2 := costMembers_le st (d + 1) ps
        (fun y hy => ih y (List.mem_cons_of_mem _ hy) (hmem y (List.mem_cons_of_mem _ hy)).2 (d + 1))
      simp only [cost, costMembers, write, List.length_cons, List.length_append, List.length_nil]
      omega

theorem termOk_of_ws (w : Str) (hw : ∀ c ∈ w, isWs c = true) : termOk w = true := by
  have := termOk_ws_append w [] hw rfl
  rwa [List.append_nil] at this

theorem skipWs_all (w : Str) (hw : ∀ c ∈ w, isWs c = true) : skipWs w = [] := by
  have := skipWs_ws w [] hw
  simpa [skipWs] using this

/-- COMPLETE TEXTS ROUND TRIP: a well-formed value written in any white-space-only layout and
followed by white space only (e.g. the newline `Encode` appends) is a JSON text that the reader
accepts and reads back to exactly that value. -/
theorem jsonRead_write (st : Style) (hst : StyleWs st) (v : J) (hw : wf v = true) (trail : Str)
    (ht : ∀ c ∈ trail, isWs c = true) : jsonRead (write st 0 v ++ trail) = some v := by
  unfold jsonRead
  have hc := cost_le_length st v hw 0
  rw [parseValue_write st hst v hw 0 _ trail (by simp only [List.length_append]; omega) (termOk_of_ws trail ht)]
  simp [skipWs_all trail ht]

theorem escByte_no_lf (b : Nat) : 10 ∉ escByte b := fun h => by
  have := escByte_mem h; omega

theorem escBody_no_lf (s : Str) : 10 ∉ escBody s := by
  refine escBody_pieces (10 ∉ ·) List.not_mem_nil ?_ ?_ ?_ s
  · intro b r _ hr h
    exact (List.mem_append.mp h).elim (escByte_no_lf b) hr
  · intro w hw
    have hw10 : 10 ∉ w := by revert w; decide
    exact fun r hr h => (List.mem_append.mp h).elim hw10 hr
  · intro b rest r hb _ hr h
    refine (List.mem_append.mp h).elim (fun hm => ?_) hr
    have := take_charLen_high b rest (by omega) 10 hm
    omega

theorem quote_no_lf (s : Str) : 10 ∉ quote s := by
  simp only [quote, List.mem_cons, List.mem_append, List.not_mem_nil, or_false, not_or]
  exact ⟨by omega, escBody_no_lf s, by omega⟩

theorem numChar_no_lf {raw : Str} (h : raw.all isNumChar = true) : 10 ∉ raw := fun hm =>
  absurd (List.all_eq_true.mp h 10 hm) (by decide)

/-- The text of a value is a concatenation of layout, punctuation, the literal names, number tokens
and quoted strings: a property of byte strings that holds of these and is kept by concatenation
holds of the text. -/
theorem write_concat (P : Str → Prop) (st : Style) (hnil : P []) (happ : ∀ a b, P a → P b → P (a ++ b))
    (hpunct : ∀ c ∈ [91, 93, 123, 125, 44, 58], P [c]) (hnl : ∀ d, P (st.nl d)) (hsp : P st.sp)
    (hlit : ∀ w ∈ [kNull, kTrue, kFalse], P w) (hnum : ∀ raw, raw.all isNumChar = true → P raw)
    (hquote : ∀ s, P (quote s)) (v : J) : wf v = true → ∀ d, P (write st d v) := by
  have cons : ∀ c ∈ [91, 93, 123, 125, 44, 58], ∀ s, P s → P (c :: s) :=
    fun c hc s hs => happ [c] s (hpunct c hc) hs
  have elems : ∀ d (xs : List J), (∀ x ∈ xs, P (write st d x)) → P (writeElems st d xs) := by
    intro d xs
    induction xs with
    | nil => exact fun _ => hnil
    | cons y ys ih =>
      intro h
      rw [writeElems]
      exact cons 44 (by decide) _ (happ _ _ (happ _ _ (hnl d) (h y (by simp)))
        (ih fun x hx => h x (List.mem_cons_of_mem _ hx)))
  have member : ∀ d k (x : J), P (write st d x) → P (st.nl d ++ quote k ++ 58 :: st.sp ++ write st d x) :=
    fun d k x hx => happ _ _ (happ _ _ (happ _ _ (hnl d) (hquote k)) (cons 58 (by decide) _ hsp)) hx
  have members : ∀ d (ms : List (Str × J)), (∀ p ∈ ms, P (write st d p.2)) → P (writeMembers st d ms) := by
    intro d ms
    induction ms with
    | nil => exact fun _ => hnil
    | cons q qs ih =>
      obtain ⟨k, x⟩ := q
      intro h
      rw [writeMembers]
      exact cons 44 (by decide) _ (happ _ _ (member d k x (h (k, x) (by simp)))
        (ih fun p hp => h p (List.mem_cons_of_mem _ hp)))
  refine J.ind' (fun v => wf v = true → ∀ d, P (write st d v)) ?_ ?_ ?_ ?_ ?_ ?_ v
  · exact fun _ _ => hlit kNull (by simp)
  · intro b _ _; cases b
    · exact hlit kFalse (by simp)
    · exact hlit kTrue (by simp)
  · intro raw hw _
    simp only [wf, Bool.and_eq_true] at hw
    exact hnum raw hw.2
  · exact fun s _ _ => hquote s
  · intro l ih hw d
    have hmem := wfList_mem hw
    cases l with
    | nil => exact cons 91 (by decide) _ (hpunct 93 (by decide))
    | cons x xs =>
      rw [write]
      exact cons 91 (by decide) _ (happ _ _ (happ _ _ (happ _ _ (happ _ _ (hnl _) (ih x (by simp) (hmem x (by simp)) _))
        (elems _ xs fun y hy => ih y (List.mem_cons_of_mem _ hy) (hmem y (List.mem_cons_of_mem _ hy)) _))
        (hnl d)) (hpunct 93 (by decide)))
  · intro ms ih hw d
    have hmem := wfMembers_mem hw
    cases ms with
    | nil => exact cons 123 (by decide) _ (hpunct 125 (by decide))
    | cons p ps =>
      obtain ⟨k, x⟩ := p
      rw [write]
      exact cons 123 (by decide) _ (happ _ _ (happ _ _ (happ _ _
        (member _ k x (ih (k, x) (by simp) (hmem (k, x) (by simp)).2 _))
        (members _ ps fun y hy => ih y (List.mem_cons_of_mem _ hy) (hmem y (List.mem_cons_of_mem _ hy)).2 _))
        (hnl d)) (hpunct 125 (by decide)))

/-- a compactly written value contains no line feed (so it is one line of a JSON Lines text) -/
theorem write_compact_no_lf (v : J) : wf v = true → ∀ d, 10 ∉ write compact d v :=
  write_concat (10 ∉ ·) compact List.not_mem_nil
    (fun _ _ ha hb h => (List.mem_append.mp h).elim ha hb) (by decide) (fun _ => List.not_mem_nil)
    List.not_mem_nil (by decide) (fun _ => numChar_no_lf) quote_no_lf v

theorem splitLines_line (l rest : Str) (h : 10 ∉ l) :
    splitLines (l ++ 10 :: rest) = l :: splitLines rest := by
  induction l with
  | nil => simp [splitLines]
  | cons c cs ih =>
    have hc : c ≠ 10 := fun e => h (by simp [e])
    simp only [List.cons_append, splitLines, hc, if_false]
    rw [ih (fun hm => h (List.mem_cons_of_mem _ hm))]

theorem splitLines_lines (ls : List Str) (h : ∀ l ∈ ls, 10 ∉ l) :
    splitLines (ls.flatMap (fun l => l ++ [10])) = ls := by
  induction ls with
  | nil => simp [splitLines]
  | cons l rest ih =>
    simp only [List.flatMap_cons, List.append_assoc, List.singleton_append]
    rw [splitLines_line l _ (h l (by simp)), ih (fun x hx => h x (List.mem_cons_of_mem _ hx))]

/-- `mapOpt` is the library's `mapM` in `Option` -/
theorem mapOpt_eq_mapM {α β : Type} (f : α → Option β) : ∀ l : List α, mapOpt f l = l.mapM f
  | [] => rfl
  | a :: as => by
    rw [mapOpt, mapOpt_eq_mapM f as, List.mapM_cons]
    cases f a <;> cases as.mapM f <;> rfl

theorem mapOpt_map {α β γ : Type} (f : α → Option β) (g : γ → α) (h : γ → β) (l : List γ)
    (hh : ∀ c ∈ l, f (g c) = some (h c)) : mapOpt f (l.map g) = some (l.map h) := by
  induction l with
  | nil => rfl
  | cons b bs ih =>
    simp only [List.map_cons, mapOpt, hh b (by simp), ih (fun x hx => hh x (List.mem_cons_of_mem _ hx))]

/-- JSON LINES ROUND TRIP: one `Encode` per value (compact, newline-terminated) gives a text whose
lines are exactly the values: each line is a complete JSON text and reads back to its value. -/
theorem jsonlRead_encode (vs : List J) (h : ∀ v ∈ vs, wf v = true) :
    jsonlRead (vs.flatMap (encode false)) = some vs := by
  unfold jsonlRead
  have e : vs.flatMap (encode false) = (vs.map (write compact 0)).flatMap (fun l => l ++ [10]) := by
    rw [List.flatMap_map]; rfl
  rw [e, splitLines_lines]
  · refine (mapOpt_map jsonRead (write compact 0) id vs fun v hv => ?_).trans (congrArg some (List.map_id vs))
    simpa using jsonRead_write compact compact_ws v (h v hv) [] (by simp)
  · intro l hl
    obtain ⟨v, hv, e⟩ := List.mem_map.mp hl
    rw [← e]
    exact write_compact_no_lf v (h v hv) 0

end Tabula.Json
