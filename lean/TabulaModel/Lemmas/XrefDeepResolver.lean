import TabulaModel.Lemmas.XrefExpand
import TabulaModel.Lemmas.XrefResolveGen
import TabulaModel.Lemmas.InsertionSort
/-!
# `resolver.ResolveDeep` answers the plain tree unfolding

`resolveP … deep := true` (resolver/resolver.go `resolve`) shares results (`done`, with the levels
`need` a result stands for), marks the objects on the way by number (`visited`) and ranges over
dictionaries in Go's map order (`ord`). None of it is visible: from outside (depth counter 0) the
answer is `expand g true maxDepth obj` - the unfolding with no memory at all - an error iff the
unfolding fails (a level `≥ maxDepth` somewhere, a reference cycle, a failing lookup).

* `resolveP_deep_eq_expand` - the statement; `resolveP_inner` - the invariant form below the top
  level (`done` sound with exact `need`, `visited` = references the object stands below, `reach`
  raised by exactly the levels needed);
* `resolveP_order_free` - no dependence on `ord` (nor on the resolver's history);
* `resolveP_arr_none_iff`, `resolveP_arr_perm` - no masking by the order of array elements;
* `resolveP_shallow` - `Resolve`.

Dictionaries are Go maps: distinct keys (`WF`), also in the objects of the file (`hg`).
Helpers live in `Tabula.XrefR.PDeep`. Core Lean only.
-/
namespace Tabula.XrefR
open Tabula.Reader (PVal)
open Tabula.XrefFile (Str)

/-- all dictionaries (also those of streams) have pairwise distinct keys - they are Go maps -/
inductive WF : DObj → Prop
  | null : WF .null
  | bool (b : Bool) : WF (.bool b)
  | int (i : Int) : WF (.int i)
  | real (n : Bool) (m s : Nat) : WF (.real n m s)
  | str (s : Str) : WF (.str s)
  | name (s : Str) : WF (.name s)
  | arr {xs : List DObj} : (∀ e ∈ xs, WF e) → WF (.arr xs)
  | dict {kv : List (Str × DObj)} : (kv.map Prod.fst).Nodup → (∀ e ∈ kv.map Prod.snd, WF e) → WF (.dict kv)
  | ref (n g : Int) : WF (.ref n g)
  | stream {kv : List (Str × DObj)} {data : Str} : (kv.map Prod.fst).Nodup → (∀ e ∈ kv.map Prod.snd, WF e) →
      WF (.stream kv data)

/-- `o` has the deep value `v` and needs exactly `k` levels below its own -/
def Hgt (g : Int → Option PVal) (o : DObj) (k : Nat) (v : DObj) : Prop :=
  expand g true (k + 1) o = some v ∧ expand g true k o = none

/-- every shared result is the deep value of its reference, with the levels it needs -/
def DoneOkP (g : Int → Option PVal) (done : List (Ref × (DObj × Nat))) : Prop :=
  ∀ r res need, done.lookup r = some (res, need) → Hgt g (.ref r.1 r.2) need res

/-- every object number marked as visited belongs to a reference the current object stands below -/
def VisitedOk (g : Int → Option PVal) (visited : List Int) (obj : DObj) : Prop :=
  ∀ n ∈ visited, ∃ gen, Below g true (.ref n gen) obj

namespace PDeep

/-- `strLt` is the lexicographic order of lists -/
theorem strLt_iff : ∀ a b : Str, strLt a b = true ↔ a < b
  | [], [] => by simp [strLt]
  | [], _ :: _ => by simp [strLt]
  | _ :: _, [] => by simp [strLt]
  | x :: xs, y :: ys => by
    have ih := strLt_iff xs ys
    simp only [strLt, List.cons_lt_cons_iff]
    by_cases h1 : x < y
    · simp [h1]
    · by_cases h2 : y < x
      · simp [h1, h2]; omega
      · have : x = y := by omega
        simp [this, ih]

/-! ## the sorted entries do not depend on the order they came in -/

/-- `sort.Strings` on the keys: `sortKV` is insertion sort by "the key is not behind" -/
theorem sortKV_isSort : MapOrder.IsSort (fun a b : Str × DObj => !strLt b.1 a.1) sortKV :=
  MapOrder.isSort_of_insertion (c := fun x y => strLt x.1 y.1 = true) (ins := insertKV)
    (fun x y z h1 h2 => by
      simp only [Bool.not_eq_true', ← Bool.not_eq_true, strLt_iff, List.not_lt] at h1 h2 ⊢
      exact List.le_trans h1 h2)
    (fun x y h => by
      simp only [Bool.not_eq_true', ← Bool.not_eq_true, strLt_iff] at h ⊢
      exact List.lt_asymm h)
    (fun x y h => by simpa only [Bool.not_eq_true', Bool.not_eq_true] using h)
    (fun _ => rfl) (fun _ _ _ => rfl) rfl (fun _ _ => rfl)

/-- the sorted entries do not depend on the arrangement of entries with distinct keys -/
theorem sortKV_perm {kv₁ kv₂ : List (Str × DObj)} (h : kv₁.Perm kv₂) (hn : (kv₁.map Prod.fst).Nodup) :
    sortKV kv₁ = sortKV kv₂ := by
  refine List.Perm.eq_of_pairwise (le := fun a b => (!strLt b.1 a.1) = true) (fun a b ha hb h1 h2 => ?_)
    (sortKV_isSort.sorted kv₁) (sortKV_isSort.sorted kv₂)
    ((sortKV_isSort.perm kv₁).trans (h.trans (sortKV_isSort.perm kv₂).symm))
  simp only [Bool.not_eq_true', ← Bool.not_eq_true, strLt_iff, List.not_lt] at h1 h2
  exact List.inj_on_of_nodup_map hn ((sortKV_isSort.perm kv₁).subset ha)
    (h.symm.subset ((sortKV_isSort.perm kv₂).subset hb)) (List.le_antisymm h1 h2)

/-- the entries of a dictionary with their values mapped: all, or nothing -/
def mapKV (f : DObj → Option DObj) : List (Str × DObj) → Option (List (Str × DObj))
  | [] => some []
  | p :: r =>
    match f p.2 with
    | none => none
    | some v' => (mapKV f r).map ((p.1, v') :: ·)

theorem mapKV_eq (f : DObj → Option DObj) : ∀ kv : List (Str × DObj),
    (mapOpt f (kv.map Prod.snd)).map (fun ys => (kv.map Prod.fst).zip ys) = mapKV f kv
  | [] => rfl
  | p :: r => by
    simp only [List.map_cons, mapOpt, mapKV]
    cases f p.2 with
    | none => rfl
    | some v' =>
      simp only
      rw [← mapKV_eq f r]
      cases mapOpt f (r.map Prod.snd) with
      | none => rfl
      | some ys => rfl

/-- `insertKV` looks at the keys only: inserting an entry and mapping the values commute -/
theorem mapKV_insertKV (f : DObj → Option DObj) (p : Str × DObj) : ∀ l : List (Str × DObj),
    mapKV f (insertKV p l) = (f p.2).bind fun v' => (mapKV f l).map (insertKV (p.1, v'))
  | [] => by simp only [insertKV, mapKV]; cases f p.2 <;> rfl
  | q :: r => by
    by_cases h : strLt p.1 q.1 = true
    · rw [insertKV, if_pos h]
      simp only [mapKV]
      cases f p.2 <;> cases f q.2 <;> cases mapKV f r <;>
        simp only [Option.map_none, Option.map_some, Option.bind_none, Option.bind_some, insertKV, if_pos h]
    · rw [insertKV, if_neg h]
      simp only [mapKV, mapKV_insertKV f p r]
      cases f p.2 <;> cases f q.2 <;> cases mapKV f r <;>
        simp only [Option.map_none, Option.map_some, Option.bind_none, Option.bind_some, insertKV, if_neg h]

/-- … and so do sorting the entries and mapping the values -/
theorem mapKV_sortKV (f : DObj → Option DObj) : ∀ kv : List (Str × DObj),
    mapKV f (sortKV kv) = (mapKV f kv).map sortKV
  | [] => rfl
  | p :: r => by
    rw [sortKV, mapKV_insertKV, mapKV_sortKV f r, mapKV]
    cases f p.2 <;> cases mapKV f r <;> rfl

/-- the deep value of a dictionary, its entries visited in key order -/
theorem expand_dict_sorted (g : Int → Option PVal) (streams : Bool) (b : Nat) (kv : List (Str × DObj)) :
    expand g streams (b + 1) (.dict kv) =
      (mapOpt (expand g streams b) ((sortKV kv).map Prod.snd)).map fun ys => .dict (((sortKV kv).map Prod.fst).zip ys) := by
  have h := congrArg (Option.map DObj.dict) ((mapKV_eq (expand g streams b) (sortKV kv)).trans
    ((mapKV_sortKV _ kv).trans (congrArg (Option.map sortKV) (mapKV_eq _ kv).symm)))
  simp only [Option.map_map] at h
  exact h.symm

/-- the deep value of a dictionary (distinct keys) does not depend on the order of its entries -/
theorem expand_dict_perm (g : Int → Option PVal) {kv₁ kv₂ : List (Str × DObj)} (h : kv₁.Perm kv₂)
    (hn : (kv₁.map Prod.fst).Nodup) (b : Nat) :
    expand g true b (.dict kv₁) = expand g true b (.dict kv₂) := by
  cases b with
  | zero => rfl
  | succ b => rw [expand_dict_sorted, expand_dict_sorted, sortKV_perm h hn]

theorem hgt_of_expand (g : Int → Option PVal) (o v : DObj) : ∀ b, expand g true b o = some v →
    ∃ k, k < b ∧ Hgt g o k v
  | 0, h => by cases h
  | b + 1, h => by
    cases hb : expand g true b o with
    | none => exact ⟨b, Nat.lt_succ_self _, h, hb⟩
    | some v' =>
      have e := expand_unique g true _ _ o _ _ hb h
      subst e
      obtain ⟨k, hk, hh⟩ := hgt_of_expand g o v' b hb
      exact ⟨k, by omega, hh⟩

theorem hgt_some {g : Int → Option PVal} {o v : DObj} {k : Nat} (h : Hgt g o k v) {b : Nat} (hb : k < b) :
    expand g true b o = some v :=
  expand_mono_le g true (k + 1) b hb o v h.1

theorem hgt_none {g : Int → Option PVal} {o v : DObj} {k : Nat} (h : Hgt g o k v) {b : Nat} (hb : b ≤ k) :
    expand g true b o = none := by
  cases hb' : expand g true b o with
  | none => rfl
  | some v' =>
    have := expand_mono_le g true b k hb o v' hb'
    rw [h.2] at this
    cases this

theorem hgt_ref {g : Int → Option PVal} {n : Int} {t : PVal} (hg : g n = some t) (gen : Int) {k : Nat} {v : DObj}
    (h : Hgt g (ofPVal t) k v) : Hgt g (.ref n gen) (k + 1) v :=
  ⟨by rw [expand_ref_some hg]; exact h.1, by rw [expand_ref_some hg]; exact h.2⟩

theorem hgt_scalar {g : Int → Option PVal} {o : DObj} (h : ∀ b, expand g true (b + 1) o = some o) : Hgt g o 0 o :=
  ⟨h 0, rfl⟩

/-! ## cycles: the way out of a reference depends on its number only -/

theorem below_ref_gen {g : Int → Option PVal} {n gen gen' : Int} {o : DObj} (h : Below g true (.ref n gen) o) :
    Below g true (.ref n gen') o := by
  cases h with
  | one hc => cases hc with | ref hg => exact .one (.ref hg)
  | cons hc hb => cases hc with | ref hg => exact .cons (.ref hg) hb

theorem visited_none {g : Int → Option PVal} {vis : List Int} {n gen : Int} (hv : VisitedOk g vis (.ref n gen))
    (hn : n ∈ vis) (b : Nat) : expand g true b (.ref n gen) = none := by
  obtain ⟨gen', hb⟩ := hv n hn
  exact expand_cycle g true _ (below_ref_gen hb) b

theorem visitedOk_child {g : Int → Option PVal} {vis : List Int} {o o' : DObj} (hv : VisitedOk g vis o)
    (hc : Child g true o o') : VisitedOk g vis o' := by
  intro n hn
  obtain ⟨gen, hb⟩ := hv n hn
  exact ⟨gen, hb.snoc hc⟩

theorem visitedOk_ref_child {g : Int → Option PVal} {vis : List Int} {n gen : Int} {t : PVal}
    (hv : VisitedOk g vis (.ref n gen)) (hg : g n = some t) : VisitedOk g (n :: vis) (ofPVal t) := by
  intro m hm
  cases hm with
  | head => exact ⟨gen, .one (.ref hg)⟩
  | tail _ hm' => exact (visitedOk_child hv (.ref hg)) m hm'

theorem visitedOk_nil (g : Int → Option PVal) (o : DObj) : VisitedOk g [] o := by
  intro n hn; cases hn

theorem doneOkP_nil (g : Int → Option PVal) : DoneOkP g [] := by
  intro r res need h; cases h

theorem doneOkP_cons {g : Int → Option PVal} {done : List (Ref × (DObj × Nat))} (hd : DoneOkP g done)
    {n gen : Int} {res : DObj} {need : Nat} (h : Hgt g (.ref n gen) need res) :
    DoneOkP g (((n, gen), (res, need)) :: done) := fun r res' need' =>
  List.lookup_cons_imp (P := fun r p => Hgt g (.ref r.1 r.2) p.2 p.1) h (fun r p => hd r p.1 p.2) r (res', need')

theorem erase_head (n : Int) (l : List Int) : (n :: l).erase n = l := by
  simp only [List.erase_cons_head]

/-! ## one call: what it answers and what it leaves -/

/-- what a successful call leaves: marks and depth as they were, `reach` raised to exactly `k` levels
below the current one, shared results sound -/
def Good (g : Int → Option PVal) (q : PSt) (k : Nat) (r : PSt) : Prop :=
  r.visited = q.visited ∧ r.depth = q.depth ∧ r.reach = max q.reach (q.depth + k) ∧ DoneOkP g r.done

theorem Good.of_enter {g : Int → Option PVal} {p r : PSt} {k : Nat} (h : Good g (enter p) k r) : Good g p k r :=
  ⟨h.1, h.2.1, h.2.2.1.trans (by rw [enter, Nat.max_assoc, Nat.max_eq_right (Nat.le_add_right _ _)]), h.2.2.2⟩

/-- one element after another: the levels needed are the larger of the two -/
theorem Good.trans {g : Int → Option PVal} {q q' q'' : PSt} {a b : Nat} (h : Good g q a q') (h' : Good g q' b q'') :
    Good g q (max a b) q'' :=
  ⟨h'.1.trans h.1, h'.2.1.trans h.2.1,
    by rw [h'.2.2.1, h.2.2.1, h.2.1, Nat.max_assoc, Nat.add_max_add_left], h'.2.2.2⟩

/-- a call made one level down, seen from the level above -/
theorem Good.down {g : Int → Option PVal} {q r : PSt} {k : Nat} (h : Good g { q with depth := q.depth + 1 } k r) :
    Good g q (k + 1) { r with depth := r.depth - 1 } :=
  ⟨h.1, by simp only [h.2.1, Nat.add_sub_cancel], by simp only [h.2.2.1, Nat.add_assoc, Nat.add_comm 1], h.2.2.2⟩

/-- what a successful load of `n gen R` leaves (`q'`: the state after the nested call, which was started
with the mark on `n` and `reach` at the current depth): the mark taken off again, `reach` restored, the
result shared together with the levels read off `reach` -/
theorem Good.load {g : Int → Option PVal} {p q' : PSt} {n gen : Int} {k : Nat} {res : DObj}
    (hG : Good g { visited := n :: p.visited, done := p.done, reach := p.depth, depth := p.depth } (k + 1) q')
    (hh : Hgt g (.ref n gen) (k + 1) res) :
    Good g p (k + 1) (unmark n
      { visited := q'.visited, reach := max q'.reach p.reach, depth := q'.depth,
        done := ((n, gen), (res, q'.reach - q'.depth)) :: q'.done }) := by
  obtain ⟨hv, hdp, hr, hdn⟩ := hG
  have hr : q'.reach = p.depth + (k + 1) := hr.trans (Nat.max_eq_right (Nat.le_add_right _ _))
  -- the levels `q'.reach - q'.depth` recorded with the result are exactly those it needs
  have hneed : q'.reach - q'.depth = k + 1 := by rw [hr, hdp]; exact Nat.add_sub_cancel_left ..
  refine ⟨?_, hdp, ?_, ?_⟩
  · exact (congrArg (List.erase · n) hv).trans (erase_head n _)
  · exact (congrArg (max · p.reach) hr).trans (Nat.max_comm ..)
  · rw [show (unmark n _).done = _ from rfl, hneed]
    exact doneOkP_cons hdn hh

/-- the call answers the unfolding with `b` levels; when that succeeds, with exactly `k` levels
needed, it leaves `reach` raised by `k + c` (`c = 1`: a call made one level down) -/
def PostB (g : Int → Option PVal) (b c : Nat) (obj : DObj) (p : PSt) (r : Option DObj × PSt × Unit) : Prop :=
  ∃ q, r = (expand g true b obj, q, ()) ∧ ∀ v, expand g true b obj = some v → ∃ k, Hgt g obj k v ∧ Good g p (k + c) q

theorem postB_none {g : Int → Option PVal} {b c : Nat} {obj : DObj} (he : expand g true b obj = none) (p q : PSt) :
    PostB g b c obj p (none, q, ()) :=
  ⟨q, by rw [he], fun v hv => by rw [he] at hv; cases hv⟩

theorem postB_some {g : Int → Option PVal} {b c : Nat} {obj v : DObj} (he : expand g true b obj = some v) {k : Nat}
    (hk : Hgt g obj k v) {p q : PSt} (hG : Good g p (k + c) q) : PostB g b c obj p (some v, q, ()) :=
  ⟨q, by rw [he], fun v' hv' => by rw [he] at hv'; cases hv'; exact ⟨k, hk, hG⟩⟩

/-- objects with the same unfolding are answered alike -/
theorem PostB.congr {g : Int → Option PVal} {b c : Nat} {o o' : DObj} {p : PSt} {r : Option DObj × PSt × Unit}
    (h : ∀ b, expand g true b o = expand g true b o') (hp : PostB g b c o p r) : PostB g b c o' p r := by
  unfold PostB Hgt at hp ⊢
  simp only [← h]
  exact hp

/-- what the call leaves is good for the state `p'` too, seen with `c'` levels on top -/
theorem PostB.imp {g : Int → Option PVal} {b c c' : Nat} {obj : DObj} {p p' : PSt} {r : Option DObj × PSt × Unit}
    (hp : PostB g b c obj p r) (f : PSt → PSt) (hf : ∀ k q, Good g p (k + c) q → Good g p' (k + c') (f q)) :
    PostB g b c' obj p' (r.1, f r.2.1, ()) := by
  obtain ⟨q, rfl, h⟩ := hp
  exact ⟨f q, rfl, fun v hv => (h v hv).imp fun k hk => ⟨hk.1, hf k q hk.2⟩⟩

/-- the nested call (one level down from depth `d`) answers the unfolding with the `B` levels left -/
def DownSpec (g : Int → Option PVal) (B d : Nat) (down : DObj → PSt → Unit → Option DObj × PSt × Unit) : Prop :=
  ∀ e q, q.depth = d → WF e → DoneOkP g q.done → VisitedOk g q.visited e → PostB g B 1 e q (down e q ())

/-- the elements `xs` have the deep values `ys` and need exactly `H` levels below their container's -/
def LHgt (g : Int → Option PVal) (xs : List DObj) (H : Nat) (ys : List DObj) : Prop :=
  mapOpt (expand g true H) xs = some ys ∧ ∀ j, H = j + 1 → mapOpt (expand g true j) xs = none

theorem hgt_of_lhgt {g : Int → Option PVal} {o : DObj} {xs : List DObj} {w : List DObj → DObj}
    (hexp : ∀ b, expand g true (b + 1) o = (mapOpt (expand g true b) xs).map w) {H : Nat} {ys : List DObj}
    (h : LHgt g xs H ys) : Hgt g o H (w ys) := by
  constructor
  · rw [hexp, h.1]; rfl
  · cases H with
    | zero => rfl
    | succ j => rw [hexp, h.2 j rfl]; rfl

theorem lhgt_cons {g : Int → Option PVal} {e e' : DObj} {k : Nat} (hk : Hgt g e k e') {es ys : List DObj} {H : Nat}
    (hL : LHgt g es H ys) : LHgt g (e :: es) (max (k + 1) H) (e' :: ys) := by
  constructor
  · rw [mapOpt_cons_some (hgt_some hk (by omega)), mapOpt_mono_le (by omega) hL.1]
    rfl
  · intro j hj
    by_cases hjk : j ≤ k
    · exact mapOpt_cons_none (hgt_none hk hjk)
    · rw [mapOpt_cons_some (hgt_some hk (by omega)), hL.2 j (by omega)]
      rfl

/-- the loop over the elements of a container: it answers all deep values or none, and leaves
`reach` raised by the levels the elements need together -/
theorem foldP_spec {g : Int → Option PVal} {B d : Nat} {down : DObj → PSt → Unit → Option DObj × PSt × Unit}
    (hd : DownSpec g B d down) : ∀ (xs : List DObj) (q : PSt), q.depth = d → q.depth ≤ q.reach → (∀ e ∈ xs, WF e) →
      DoneOkP g q.done → (∀ e ∈ xs, VisitedOk g q.visited e) →
      ∃ q', foldP down xs q () = (mapOpt (expand g true B) xs, q', ()) ∧
        ∀ ys, mapOpt (expand g true B) xs = some ys → ∃ H, LHgt g xs H ys ∧ Good g q H q' := by
  intro xs
  induction xs with
  | nil =>
    intro q _ hqr _ hdone _
    refine ⟨q, rfl, fun ys hys => ?_⟩
    cases hys
    exact ⟨0, ⟨rfl, fun j hj => by cases hj⟩, rfl, rfl, (Nat.max_eq_left hqr).symm, hdone⟩
  | cons e es ih =>
    intro q hq hqr hwf hdone hvis
    obtain ⟨q', he1, he2⟩ := hd e q hq (hwf e (List.mem_cons_self ..)) hdone (hvis e (List.mem_cons_self ..))
    rw [foldP_cons, he1]
    simp only [mapOpt]
    cases hfe : expand g true B e with
    | none => exact ⟨q', rfl, fun ys h => by cases h⟩
    | some e' =>
      obtain ⟨k, hk, hg1⟩ := he2 e' hfe
      obtain ⟨q'', ih1, ih2⟩ := ih q' (hg1.2.1.trans hq) (by rw [hg1.2.2.1, hg1.2.1]; omega)
        (fun e he => hwf e (List.mem_cons_of_mem _ he)) hg1.2.2.2
        (fun e he => hg1.1 ▸ hvis e (List.mem_cons_of_mem _ he))
      simp only [andThen, ih1]
      cases hm : mapOpt (expand g true B) es with
      | none => exact ⟨q'', rfl, fun ys h => by cases h⟩
      | some ys' =>
        obtain ⟨H, hL, hg2⟩ := ih2 ys' hm
        refine ⟨q'', rfl, fun ys h => ?_⟩
        cases h
        exact ⟨max (k + 1) H, lhgt_cons hk hL, hg1.trans hg2⟩

/-- a container whose unfolding is that of its elements, wrapped -/
theorem postB_container {g : Int → Option PVal} {o : DObj} {xs : List DObj} {w : List DObj → DObj} {B : Nat}
    (hexp : ∀ b, expand g true (b + 1) o = (mapOpt (expand g true b) xs).map w) {p : PSt}
    {r : Option (List DObj) × PSt × Unit}
    (hf : ∃ q', r = (mapOpt (expand g true B) xs, q', ()) ∧
      ∀ ys, mapOpt (expand g true B) xs = some ys → ∃ H, LHgt g xs H ys ∧ Good g p H q') :
    PostB g (B + 1) 0 o p (r.1.map w, r.2) := by
  obtain ⟨q', rfl, hf⟩ := hf
  refine ⟨q', by rw [hexp], fun v hv => ?_⟩
  rw [hexp] at hv
  obtain ⟨ys, hm, rfl⟩ := Option.map_eq_some_iff.mp hv
  obtain ⟨H, hL, hG⟩ := hf ys hm
  exact ⟨H, hgt_of_lhgt hexp hL, hG⟩

/-- one level behind the depth check, on a state with `reach` at the current depth or beyond -/
theorem bodyP_post (g : Int → Option PVal) (md : Nat) (ord : List (Str × DObj) → List (Str × DObj))
    (hord : ∀ kv, (ord kv).Perm kv) (hg : ∀ n t, g n = some t → WF (ofPVal t))
    (down : DObj → PSt → Unit → Option DObj × PSt × Unit) (p : PSt) (B : Nat) (hB : md - p.depth = B + 1)
    (hpr : p.depth ≤ p.reach) (hdown : DownSpec g B p.depth down)
    (obj : DObj) (hwf : WF obj) (hdone : DoneOkP g p.done) (hvis : VisitedOk g p.visited obj) :
    PostB g (B + 1) 0 obj p (bodyP (pureGet g) md ord true down obj p ()) := by
  cases obj with
  | ref n gen =>
    simp only [bodyP, if_true]
    cases hl : List.lookup (n, gen) p.done with
    | some rn =>
      -- a shared result stands for `need` levels: it is refused exactly when the unfolding fails
      obtain ⟨res, need⟩ := rn
      have hh : Hgt g (.ref n gen) need res := hdone (n, gen) res need hl
      simp only
      by_cases hn : p.depth + need ≥ md
      · rw [if_pos hn]
        exact postB_none (hgt_none hh (by omega)) _ _
      · rw [if_neg hn]
        exact postB_some (hgt_some hh (by omega)) hh ⟨rfl, rfl, rfl, hdone⟩
    | none =>
      simp only
      by_cases hc : p.visited.contains n = true
      · rw [if_pos hc]
        exact postB_none (visited_none hvis (List.contains_iff_mem.mp hc) _) _ _
      · rw [if_neg hc]
        simp only [pureGet]
        cases hgn : g n with
        | none => exact postB_none (expand_ref_none hgn _ _) _ _
        | some t =>
          obtain ⟨q', hs1, hs2⟩ := hdown (ofPVal t)
            { visited := n :: p.visited, done := p.done, reach := p.depth, depth := p.depth }
            rfl (hg n t hgn) hdone (visitedOk_ref_child hvis hgn)
          simp only [hs1]
          cases he : expand g true B (ofPVal t) with
          | none => exact postB_none ((expand_ref_some hgn B gen).trans he) _ _
          | some v =>
            obtain ⟨k, hk, hG⟩ := hs2 v he
            exact postB_some ((expand_ref_some hgn B gen).trans he) (hgt_ref hgn gen hk)
              (hG.load (hgt_ref hgn gen hk))
  | arr xs =>
    cases hwf with
    | arr hwf' =>
      exact postB_container (o := .arr xs) (w := DObj.arr) (fun _ => rfl)
        (foldP_spec hdown xs p rfl hpr hwf' hdone (fun e he => visitedOk_child hvis (.arr he)))
  | dict kv =>
    cases hwf with
    | dict hnd hwf' =>
      have hperm := hord kv
      refine PostB.congr (fun b => (expand_dict_perm g hperm.symm hnd b).symm) ?_
      exact postB_container (o := .dict (ord kv)) (fun _ => rfl)
        (foldP_spec hdown _ p rfl hpr (fun e he => hwf' e (((hperm.map Prod.snd).mem_iff).mp he)) hdone
          (fun e he => visitedOk_child hvis (.dict (((hperm.map Prod.snd).mem_iff).mp he))))
  | stream kv data =>
    cases hwf with
    | stream hnd hwf' =>
      obtain ⟨q', hs1, hs2⟩ := hdown (.dict kv) p rfl (.dict hnd hwf') hdone (visitedOk_child hvis (.stream rfl))
      have hexp : ∀ b, expand g true (b + 1) (.stream kv data) = _ := fun b => (expand_stream g true b kv data).trans (if_pos rfl)
      simp only [bodyP, if_true, hs1]
      cases he : expand g true B (.dict kv) with
      | none => exact postB_none (by rw [hexp, he]) _ _
      | some v =>
        obtain ⟨k, hk, hG⟩ := hs2 v he
        cases v with
        | dict kv' =>
          exact postB_some (by rw [hexp, he]) (k := k + 1) ⟨by rw [hexp, hk.1], by rw [hexp, hk.2]⟩ hG
        | _ => exact postB_none (by rw [hexp, he]) _ _
  | _ => exact postB_some rfl (hgt_scalar (fun _ => rfl)) ⟨rfl, rfl, (Nat.max_eq_left hpr).symm, hdone⟩

/-- the main statement: on every state that satisfies the invariants (and is what a call starts
from: `pre p = p`) a call answers the unfolding with the levels left, and keeps the invariants -/
theorem resolveP_post (g : Int → Option PVal) (md : Nat) (ord : List (Str × DObj) → List (Str × DObj))
    (hord : ∀ kv, (ord kv).Perm kv) (hg : ∀ n t, g n = some t → WF (ofPVal t)) :
    ∀ (fuel : Nat) (obj : DObj) (p : PSt), pre p = p → WF obj → DoneOkP g p.done → VisitedOk g p.visited obj →
      md + 1 ≤ fuel + p.depth →
      PostB g (md - p.depth) 0 obj p (resolveP (pureGet g) md ord true fuel obj p ()) := by
  intro fuel
  induction fuel with
  | zero =>
    intro obj p _ _ _ _ hf
    rw [show md - p.depth = 0 by omega]
    exact postB_none rfl _ _
  | succ fuel ih =>
    intro obj p hp hwf hdone hvis hf
    rw [resolveP_succ, stepP, hp]
    by_cases hge : p.depth ≥ md
    · rw [if_pos hge, show md - p.depth = 0 by omega]
      exact postB_none rfl _ _
    · rw [if_neg hge]
      obtain ⟨B, hB⟩ : ∃ B, md - p.depth = B + 1 := ⟨md - p.depth - 1, by omega⟩
      rw [hB]
      refine (bodyP_post g md ord hord hg (downP (pureGet g) md ord true fuel) (enter p) B hB
        (Nat.le_max_right _ _) ?_ obj hwf hdone hvis).imp id fun _ _ hk => hk.of_enter
      -- the nested call: the induction hypothesis one level down
      intro e q hq hwfe hdq hvq
      have hq : q.depth = p.depth := hq
      have h := ih e { q with depth := q.depth + 1 } (pre_pos _ (Nat.succ_ne_zero _)) hwfe hdq hvq
        (by simp only; omega)
      rw [show md - ({ q with depth := q.depth + 1 } : PSt).depth = B by simp only; omega] at h
      exact h.imp (fun r => { r with depth := r.depth - 1 }) fun _ _ hk => hk.down

end PDeep

open PDeep

/-- the inner form, as a call below the top level sees it (`0 < p.depth`: no reset): with the
invariants on `done` and `visited` the call fails iff the unfolding with the levels left fails;
when it succeeds it answers the deep value `v`, gives marks and depth counter back, leaves `reach`
raised to exactly the `k` levels `obj` needs (that is what makes a recorded `need` exact), and keeps
the shared results sound -/
theorem resolveP_inner (g : Int → Option PVal) (md : Nat) (ord : List (Str × DObj) → List (Str × DObj))
    (hord : ∀ kv, (ord kv).Perm kv) (hg : ∀ n t, g n = some t → WF (ofPVal t))
    (fuel : Nat) (obj : DObj) (p : PSt) (hwf : WF obj) (hpos : 0 < p.depth) (hdone : DoneOkP g p.done)
    (hvis : VisitedOk g p.visited obj) (hf : md + 1 ≤ fuel + p.depth) :
    match expand g true (md - p.depth) obj with
    | none => (resolveP (pureGet g) md ord true fuel obj p ()).1 = none
    | some v => ∃ k, Hgt g obj k v ∧ (resolveP (pureGet g) md ord true fuel obj p ()).1 = some v ∧
        (resolveP (pureGet g) md ord true fuel obj p ()).2.1.visited = p.visited ∧
        (resolveP (pureGet g) md ord true fuel obj p ()).2.1.depth = p.depth ∧
        (resolveP (pureGet g) md ord true fuel obj p ()).2.1.reach = max p.reach (p.depth + k) ∧
        DoneOkP g (resolveP (pureGet g) md ord true fuel obj p ()).2.1.done := by
  have h := resolveP_post g md ord hord hg fuel obj p (pre_pos _ (by omega)) hwf hdone hvis hf
  obtain ⟨q, h1, h2⟩ := h
  rw [h1]
  cases he : expand g true (md - p.depth) obj with
  | none => rfl
  | some v =>
    obtain ⟨k, hk, hG⟩ := h2 v he
    exact ⟨k, hk, rfl, hG⟩

/-- **`resolver.ResolveDeep` answers the plain tree unfolding with `maxDepth` levels**: sharing
results (`done` with `need`) and marking by object number (`visited`) are invisible -/
theorem resolveP_deep_eq_expand (g : Int → Option PVal) (md : Nat) (ord : List (Str × DObj) → List (Str × DObj))
    (hord : ∀ kv, (ord kv).Perm kv) (obj : DObj) (hwf : WF obj)
    (hg : ∀ n t, g n = some t → WF (ofPVal t)) (p : PSt) (hp : p.depth = 0) :
    (resolveP (pureGet g) md ord true (md + 1) obj p ()).1 = expand g true md obj := by
  have h := resolveP_post g md ord hord hg (md + 1) obj (pre p) (pre_pre p) hwf
    (by rw [pre_zero p hp]; exact doneOkP_nil g) (by rw [pre_zero p hp]; exact visitedOk_nil g obj)
    (Nat.le_add_right _ _)
  rw [← resolveP_pre, pre_depth, hp, Nat.sub_zero] at h
  obtain ⟨q, h1, _⟩ := h
  rw [h1]

/-- **the answer does not depend on the order in which Go ranges over a map** (nor on what the
resolver was used for before) -/
theorem resolveP_order_free (g : Int → Option PVal) (md : Nat) (ord₁ ord₂ : List (Str × DObj) → List (Str × DObj))
    (h₁ : ∀ kv, (ord₁ kv).Perm kv) (h₂ : ∀ kv, (ord₂ kv).Perm kv) (obj : DObj) (hwf : WF obj)
    (hg : ∀ n t, g n = some t → WF (ofPVal t)) (p₁ p₂ : PSt) (hp₁ : p₁.depth = 0) (hp₂ : p₂.depth = 0) :
    (resolveP (pureGet g) md ord₁ true (md + 1) obj p₁ ()).1
      = (resolveP (pureGet g) md ord₂ true (md + 1) obj p₂ ()).1 := by
  rw [resolveP_deep_eq_expand g md ord₁ h₁ obj hwf hg p₁ hp₁, resolveP_deep_eq_expand g md ord₂ h₂ obj hwf hg p₂ hp₂]

/-- an error of `ResolveDeep` is an error of the unfolding: a level `≥ maxDepth` somewhere, a
reference cycle, or a failing lookup - never an artefact of sharing -/
theorem resolveP_deep_none_iff (g : Int → Option PVal) (md : Nat) (ord : List (Str × DObj) → List (Str × DObj))
    (hord : ∀ kv, (ord kv).Perm kv) (obj : DObj) (hwf : WF obj)
    (hg : ∀ n t, g n = some t → WF (ofPVal t)) (p : PSt) (hp : p.depth = 0) :
    (resolveP (pureGet g) md ord true (md + 1) obj p ()).1 = none ↔ expand g true md obj = none := by
  rw [resolveP_deep_eq_expand g md ord hord obj hwf hg p hp]

/-- **no masking by the order of array elements**: an array fails iff one of its elements has no
deep value with the levels left - whatever stands before it and whatever was shared on the way; so
every rearrangement of the elements fails or succeeds alike -/
theorem resolveP_arr_none_iff (g : Int → Option PVal) (md : Nat) (ord : List (Str × DObj) → List (Str × DObj))
    (hord : ∀ kv, (ord kv).Perm kv) (xs : List DObj) (hwf : WF (.arr xs))
    (hg : ∀ n t, g n = some t → WF (ofPVal t)) (p : PSt) (hp : p.depth = 0) :
    (resolveP (pureGet g) md ord true (md + 1) (.arr xs) p ()).1 = none ↔
      md = 0 ∨ ∃ e ∈ xs, expand g true (md - 1) e = none := by
  rw [resolveP_deep_eq_expand g md ord hord _ hwf hg p hp]
  cases md with
  | zero => exact ⟨fun _ => Or.inl rfl, fun _ => rfl⟩
  | succ b =>
    simp only [expand, Nat.add_sub_cancel, Option.map_eq_none_iff, mapOpt_eq_none_iff]
    exact ⟨fun h => Or.inr h, fun h => h.elim (fun h0 => absurd h0 (Nat.succ_ne_zero _)) id⟩

theorem resolveP_arr_perm (g : Int → Option PVal) (md : Nat) (ord : List (Str × DObj) → List (Str × DObj))
    (hord : ∀ kv, (ord kv).Perm kv) (xs ys : List DObj) (hperm : xs.Perm ys) (hwf : WF (.arr xs))
    (hg : ∀ n t, g n = some t → WF (ofPVal t)) (p₁ p₂ : PSt) (hp₁ : p₁.depth = 0) (hp₂ : p₂.depth = 0) :
    (resolveP (pureGet g) md ord true (md + 1) (.arr xs) p₁ ()).1 = none ↔
      (resolveP (pureGet g) md ord true (md + 1) (.arr ys) p₂ ()).1 = none := by
  have hwf' : WF (.arr ys) := by
    cases hwf with
    | arr h => exact .arr (fun e he => h e (hperm.mem_iff.mpr he))
  rw [resolveP_arr_none_iff g md ord hord xs hwf hg p₁ hp₁, resolveP_arr_none_iff g md ord hord ys hwf' hg p₂ hp₂]
  simp only [hperm.mem_iff]

/-- shallow resolution: a reference is looked up once, anything else is handed back -/
theorem resolveP_shallow (g : Int → Option PVal) (md : Nat) (ord : List (Str × DObj) → List (Str × DObj))
    (obj : DObj) (p : PSt) (hp : p.depth = 0) (hmd : 0 < md) :
    (resolveP (pureGet g) md ord false (md + 1) obj p ()).1 =
      match obj with
      | .ref n _ => (g n).map ofPVal
      | o => some o := by
  rw [resolveP_succ, stepP, pre_zero p hp, if_neg (Nat.not_le.mpr hmd)]
  cases obj with
  | ref n gen =>
    simp only [bodyP, Bool.false_eq_true, if_false, enter, List.contains_nil, pureGet]
    cases g n <;> rfl
  | _ => rfl

end Tabula.XrefR
