import TabulaModel.Model.ChunkColl
import TabulaModel.Lemmas.ChunkMeta
import TabulaModel.Lemmas.ChunkLayoutMeta
import TabulaModel.Lemmas.ChunkLayoutX
/-!
Lemmas for `Props/C12Query.lean`: `Filter` is `List.filter`, every query result is a sub-list of
the queried collection, what a sub-list of a chunker's collection keeps, the accessors, and the
loops of `GetPageRange`, `GetTotalTokens` and `GetAllSections` (`pageRangeLoop`, `totalTokens`, `sectionsLoop`).
-/
namespace Tabula.ChunkColl
open Tabula.Chunk Tabula.ChunkMeta

theorem filterLoop_eq (p : QChunk → Bool) (cs acc : List QChunk) : filterLoop p cs acc = acc ++ cs.filter p := by
  induction cs generalizing acc with
  | nil => simp [filterLoop]
  | cons c cs ih =>
    simp only [filterLoop, ih, List.filter_cons]
    split <;> simp

theorem filterC_eq (p : QChunk → Bool) (cs : List QChunk) : filterC p cs = cs.filter p := by
  simp [filterC, filterLoop_eq]

theorem applyQuery_sublist (q : Query) (cs : List QChunk) : (applyQuery q cs).Sublist cs := by
  cases q with
  | slice a b => exact (List.drop_sublist _ _).trans (List.take_sublist _ _)
  | _ => simp only [applyQuery, filterC_eq]; exact List.filter_sublist

theorem applyQuery_filter (q : Query) (cs : List QChunk) (h : ∀ a b, q ≠ .slice a b) :
    applyQuery q cs = cs.filter (queryPred q) := by
  cases q with
  | slice a b => exact absurd rfl (h a b)
  | _ => simp only [applyQuery, filterC_eq]

theorem getByIndex_some (cs : List QChunk) (i : Int) (q : QChunk) (h : getByIndex cs i = some q) :
    0 ≤ i ∧ cs[i.toNat]? = some q := by
  unfold getByIndex at h
  split at h
  · cases h
  · rename_i hn
    exact ⟨by omega, h⟩

/-- `GetByID` is `find?` -/
theorem getByID_eq (id : Str) (cs : List QChunk) : getByID id cs = cs.find? fun c => decide (c.c.id = id) := by
  induction cs with
  | nil => rfl
  | cons c cs ih => simp only [getByID, List.find?_cons, ih]; split <;> simp [*]

theorem getByID_some (id : Str) (cs : List QChunk) (q : QChunk) (h : getByID id cs = some q) :
    q ∈ cs ∧ q.c.id = id := by
  rw [getByID_eq] at h
  exact ⟨List.mem_of_find?_eq_some h, of_decide_eq_true (List.find?_some (p := fun c : QChunk => decide (c.c.id = id)) h)⟩

theorem getByID_of_nodup (id : Str) (cs : List QChunk) (hn : (cs.map (·.c.id)).Nodup) (q : QChunk)
    (hq : q ∈ cs) (hid : q.c.id = id) : getByID id cs = some q := by
  obtain ⟨s, t, rfl⟩ := List.append_of_mem hq
  rw [getByID_eq, List.find?_eq_some_iff_append]
  refine ⟨decide_eq_true hid, s, t, rfl, fun a ha => ?_⟩
  rw [List.map_append, List.map_cons, List.nodup_append] at hn
  simpa [hid] using hn.2.2 _ (List.mem_map.mpr ⟨a, ha, rfl⟩) _ (List.mem_cons_self ..)

/-- `First` is `head?`, `Last` is `getLast?` -/
theorem first_eq (cs : List QChunk) : first cs = cs.head? := by cases cs <;> rfl

theorem last_eq (cs : List QChunk) : last cs = cs.getLast? := by
  cases cs with
  | nil => rfl
  | cons c cs => rw [last, if_neg (by simp), List.getLast?_eq_getElem?]

theorem first_some (cs : List QChunk) (q : QChunk) (h : first cs = some q) : q ∈ cs :=
  List.mem_of_mem_head? (first_eq cs ▸ h)

theorem last_some (cs : List QChunk) (q : QChunk) (h : last cs = some q) : q ∈ cs :=
  List.mem_of_getLast? (last_eq cs ▸ h)

def ResultOK (base : List QChunk) : Result → Prop
  | .coll cs => cs.Sublist base
  | .chunk (some q) => q ∈ base
  | _ => True

/-- an accessor that can only return members of the collection -/
theorem resultOK_chunk {base cs : List QChunk} (hs : cs.Sublist base) {r : Option QChunk}
    (h : ∀ q, r = some q → q ∈ cs) : ResultOK base (.chunk r) := by
  cases r with
  | none => trivial
  | some q => exact hs.subset (h q rfl)

theorem applyRead_ok (base cs : List QChunk) (hs : cs.Sublist base) (r : Read) : ResultOK base (applyRead r cs) := by
  cases r with
  | getByIndex i => exact resultOK_chunk hs fun q h => List.mem_of_getElem? (getByIndex_some cs i q h).2
  | getByID id => exact resultOK_chunk hs fun q h => (getByID_some id cs q h).1
  | first => exact resultOK_chunk hs (first_some cs)
  | last => exact resultOK_chunk hs (last_some cs)
  | _ => trivial

theorem stepStore_ok (base : List QChunk) (store : Store) (hst : ∀ cs ∈ store, cs.Sublist base) (s : Step) :
    (∀ cs ∈ (stepStore store s).1, cs.Sublist base) ∧ store <+: (stepStore store s).1 ∧
    ResultOK base (stepStore store s).2 := by
  have htgt : (store[s.target]?.getD []).Sublist base := by
    cases h : store[s.target]? with
    | none => exact List.nil_sublist _
    | some cs => exact hst cs (List.mem_of_getElem? h)
  unfold stepStore
  cases s.op with
  | query q =>
    have hq := (applyQuery_sublist q (store[s.target]?.getD [])).trans htgt
    refine ⟨?_, List.prefix_append _ _, hq⟩
    intro cs hcs
    rcases List.mem_append.mp hcs with h | h
    · exact hst cs h
    · simp only [List.mem_singleton] at h; subst h; exact hq
  | read r => exact ⟨hst, List.prefix_refl _, applyRead_ok base _ htgt r⟩

theorem runStore_ok (base : List QChunk) (store : Store) (hst : ∀ cs ∈ store, cs.Sublist base) (steps : List Step) :
    (∀ cs ∈ (runStore store steps).1, cs.Sublist base) ∧ store <+: (runStore store steps).1 ∧
    ∀ r ∈ (runStore store steps).2, ResultOK base r := by
  induction steps generalizing store with
  | nil => exact ⟨hst, List.prefix_refl _, fun r hr => by cases hr⟩
  | cons s rest ih =>
    obtain ⟨h1, h2, h3⟩ := stepStore_ok base store hst s
    obtain ⟨i1, i2, i3⟩ := ih (stepStore store s).1 h1
    simp only [runStore]
    refine ⟨i1, h2.trans i2, ?_⟩
    intro r hr
    rcases List.mem_cons.mp hr with rfl | hr
    · exact h3
    · exact i3 r hr

/-- the collection directly behind the chunker call: indices `0..n-1`, ids `idOf index`, total `n` -/
structure BaseOK (idOf : Nat → Str) (b : List QChunk) : Prop where
  idx : b.map (·.c.idx) = List.range b.length
  id : ∀ q ∈ b, q.c.id = idOf q.c.idx
  total : ∀ q ∈ b, q.c.total = b.length

theorem base_get {idOf : Nat → Str} {b : List QChunk} (hb : BaseOK idOf b) (i : Nat) (q : QChunk)
    (h : b[i]? = some q) : q.c.idx = i := by
  have h1 : (b.map (·.c.idx))[i]? = some q.c.idx := by rw [List.getElem?_map, h]; rfl
  rw [hb.idx] at h1
  have hi : i < b.length := by
    rcases Nat.lt_or_ge i b.length with hlt | hge
    · exact hlt
    · rw [List.getElem?_eq_none (by simpa using hge)] at h; cases h
  rw [List.getElem?_range hi] at h1
  cases h1; rfl

theorem base_mem_get {idOf : Nat → Str} {b : List QChunk} (hb : BaseOK idOf b) (q : QChunk) (hq : q ∈ b) :
    b[q.c.idx]? = some q := by
  obtain ⟨i, hi⟩ := List.getElem?_of_mem hq
  rw [base_get hb i q hi]; exact hi

theorem sub_facts {idOf : Nat → Str} (hinj : ∀ a b, idOf a = idOf b → a = b) {b cs : List QChunk}
    (hb : BaseOK idOf b) (hs : cs.Sublist b) :
    (cs.map (·.c.idx)).Pairwise (· < ·) ∧ (cs.map (·.c.id)).Nodup ∧
    ∀ q ∈ cs, q.c.total = b.length ∧ b[q.c.idx]? = some q := by
  have hlt : (cs.map (·.c.idx)).Pairwise (· < ·) := by
    have h1 : (cs.map (·.c.idx)).Sublist (List.range b.length) := by
      rw [← hb.idx]; exact hs.map _
    exact List.Pairwise.sublist h1 List.pairwise_lt_range
  refine ⟨hlt, ?_, fun q hq => ⟨hb.total q (hs.subset hq), base_mem_get hb q (hs.subset hq)⟩⟩
  have hids : cs.map (·.c.id) = (cs.map (·.c.idx)).map idOf := by
    rw [List.map_map]
    apply List.map_congr_left
    intro q hq
    exact hb.id q (hs.subset hq)
  rw [hids, List.nodup_iff_pairwise_ne, List.pairwise_map]
  exact hlt.imp fun {x y} (h : x < y) (e : idOf x = idOf y) => by
    have := hinj _ _ e
    omega

theorem elementColl_c (c : Tabula.Split.SizeConfig) (d : Doc) :
    (elementColl c d).map (·.c) = Tabula.ChunkSplit.chunkDocumentC c d := by
  unfold elementColl chunkDocumentXC Tabula.ChunkSplit.chunkDocumentC
  rw [List.map_map]
  exact chunkDocumentX_c _ d

/-- a collection whose chunks `cs` are numbered the way both chunkers number theirs -/
theorem baseOK_of_c (idOf : Nat → Str) (b : List QChunk) (cs : List Chunk) (hc : b.map (·.c) = cs)
    (h : cs.map (·.idx) = List.range cs.length ∧ (∀ c ∈ cs, c.id = idOf c.idx) ∧
      (cs.map (·.id)).Nodup ∧ ∀ c ∈ cs, c.total = cs.length) : BaseOK idOf b := by
  subst hc
  obtain ⟨h1, h2, _, h3⟩ := h
  rw [List.map_map, List.length_map] at h1
  refine ⟨h1, fun q hq => h2 q.c (List.mem_map.mpr ⟨q, hq, rfl⟩), fun q hq => ?_⟩
  rw [← List.length_map (f := (·.c))]
  exact h3 q.c (List.mem_map.mpr ⟨q, hq, rfl⟩)

theorem elementColl_base (c : Tabula.Split.SizeConfig) (d : Doc) : BaseOK chunkId (elementColl c d) :=
  baseOK_of_c _ _ _ (elementColl_c c d) (chunkDocument_numbering _ d)

open Tabula.ChunkLayout in
theorem layoutColl_c (low : Str → Bool) (cfg : Cfg) (title : Str) (d : LDoc) :
    (layoutColl low cfg title d).map (·.c) = Tabula.ChunkSent.chunkS low cfg title d := by
  unfold layoutColl Tabula.ChunkSent.chunkS
  rw [List.map_map]
  exact Tabula.ChunkLayoutX.chunkX_proj cfg title _

open Tabula.ChunkLayout in
theorem layoutColl_base (low : Str → Bool) (cfg : Cfg) (title : Str) (d : LDoc) :
    BaseOK (layoutId cfg) (layoutColl low cfg title d) :=
  baseOK_of_c _ _ _ (layoutColl_c low cfg title d) (chunk_numbering cfg title _)

def stamp (n : Nat) (c : Chunk) : Chunk := { c with total := n }

def onPage (p : Int) (c : Chunk) : Bool := decide (p ≥ c.pageStart) && decide (p ≤ c.pageEnd)

theorem filter_group (n : Nat) (p : Int) (pg : Page) (g : List Chunk)
    (h : ∀ c ∈ g, c.pageStart = pg.number ∧ c.pageEnd = pg.number) :
    (g.map (stamp n)).filter (onPage p) = if pg.number == p then g.map (stamp n) else [] := by
  -- every chunk of the group is on page `pg.number` and on no other
  have hon : ∀ c ∈ g.map (stamp n), onPage p c = (pg.number == p) := by
    intro c hc
    obtain ⟨c0, h0, rfl⟩ := List.mem_map.mp hc
    show (decide (p ≥ c0.pageStart) && decide (p ≤ c0.pageEnd)) = _
    rw [(h c0 h0).1, (h c0 h0).2]
    by_cases e : pg.number = p
    · rw [e]; simp
    · rw [beq_false_of_ne e, Bool.and_eq_false_iff, decide_eq_false_iff_not, decide_eq_false_iff_not]
      omega
  split
  · next e => exact List.filter_eq_self.mpr fun c hc => (hon c hc).trans e
  · next e => exact List.filter_eq_nil_iff.mpr fun c hc => by rw [hon c hc]; exact e

theorem filter_pages (n : Nat) (p : Int) (d : List Page) (gs : List (List Chunk)) (h : PagesM d gs) :
    (gs.flatten.map (stamp n)).filter (onPage p) =
      ((d.zip gs).filter fun x => x.1.number == p).flatMap fun x => x.2.map (stamp n) := by
  fun_induction PagesM d gs with
  | case1 => rfl
  | case2 pg pgs g gs ih =>
    simp only [List.flatten_cons, List.map_append, List.filter_append, List.zip_cons_cons, List.filter_cons]
    rw [filter_group n p pg g h.1, ih h.2]
    by_cases e : pg.number == p <;> simp [e]
  | case3 => exact h.elim

end Tabula.ChunkColl

namespace Tabula.ChunkColl
open Tabula.Chunk Tabula.ChunkMeta

/-- `Count` after `FilterByPage` etc. never exceeds `Count` of the queried collection -/
theorem applyQuery_length (q : Query) (cs : List QChunk) : (applyQuery q cs).length ≤ cs.length :=
  (applyQuery_sublist q cs).length_le

/-- the loop of `GetPageRange` takes the least `PageStart` and the greatest `PageEnd` -/
theorem pageRangeLoop_eq (cs : List QChunk) (lo hi : Int) :
    pageRangeLoop cs lo hi = ((cs.map (·.c.pageStart)).foldl min lo, (cs.map (·.c.pageEnd)).foldl max hi) := by
  induction cs generalizing lo hi with
  | nil => rfl
  | cons c rest ih =>
    rw [pageRangeLoop, ih, List.map_cons, List.map_cons, List.foldl_cons, List.foldl_cons, Int.max_comm hi]
    simp only [Int.min_def, Int.max_def, GT.gt, ← Int.not_le, ite_not]

theorem pageRangeLoop_spec (cs : List QChunk) (lo hi : Int) :
    (pageRangeLoop cs lo hi).1 ≤ lo ∧ hi ≤ (pageRangeLoop cs lo hi).2 ∧
    (∀ q ∈ cs, (pageRangeLoop cs lo hi).1 ≤ q.c.pageStart ∧ q.c.pageEnd ≤ (pageRangeLoop cs lo hi).2) ∧
    ((pageRangeLoop cs lo hi).1 = lo ∨ ∃ q ∈ cs, q.c.pageStart = (pageRangeLoop cs lo hi).1) ∧
    ((pageRangeLoop cs lo hi).2 = hi ∨ ∃ q ∈ cs, q.c.pageEnd = (pageRangeLoop cs lo hi).2) := by
  rw [pageRangeLoop_eq]
  -- the two components are the minimum of `lo :: starts` and the maximum of `hi :: ends`
  obtain ⟨m1, b1⟩ := List.min?_eq_some_iff.mp (List.min?_cons' (x := lo) (xs := cs.map (·.c.pageStart)))
  obtain ⟨m2, b2⟩ := List.max?_eq_some_iff.mp (List.max?_cons' (x := hi) (xs := cs.map (·.c.pageEnd)))
  refine ⟨b1 _ (List.mem_cons_self ..), b2 _ (List.mem_cons_self ..),
    fun q hq => ⟨b1 _ (List.mem_cons_of_mem _ (List.mem_map.mpr ⟨q, hq, rfl⟩)),
      b2 _ (List.mem_cons_of_mem _ (List.mem_map.mpr ⟨q, hq, rfl⟩))⟩, ?_, ?_⟩
  · exact (List.mem_cons.mp m1).imp id fun h => (List.mem_map.mp h).imp fun q hq => hq
  · exact (List.mem_cons.mp m2).imp id fun h => (List.mem_map.mp h).imp fun q hq => hq

theorem totalTokens_eq (cs : List QChunk) (t : Int) :
    totalTokens cs t = t + (cs.map (·.tokens)).sum := by
  induction cs generalizing t with
  | nil => simp [totalTokens]
  | cons c rest ih => simp only [totalTokens, ih, List.map_cons, List.sum_cons]; omega

theorem sectionsLoop_mem (cs : List QChunk) (seen acc : List Str) (t : Str) :
    t ∈ sectionsLoop cs seen acc ↔ t ∈ acc ∨ (t ≠ [] ∧ t ∉ seen ∧ ∃ q ∈ cs, q.title = t) := by
  induction cs generalizing seen acc with
  | nil => simp [sectionsLoop]
  | cons c rest ih =>
    simp only [sectionsLoop]
    -- the step concerns `t` only if `t` is the title of `c`
    by_cases ht : c.title = t
    · subst ht
      split
      · next hc =>
        rw [ih]
        exact iff_of_true (Or.inl (List.mem_append_right _ (List.mem_singleton_self _)))
          (Or.inr ⟨hc.1, hc.2, c, List.mem_cons_self .., rfl⟩)
      · next hc =>
        rw [ih]
        exact or_congr_right ⟨fun h => absurd ⟨h.1, h.2.1⟩ hc, fun h => absurd ⟨h.1, h.2.1⟩ hc⟩
    · have ht' : t ≠ c.title := Ne.symm ht
      split <;> simp only [ih, List.mem_append, List.mem_cons, List.not_mem_nil, exists_eq_or_imp, ht, ht',
        false_or, or_false]

theorem sectionsLoop_nodup (cs : List QChunk) (seen acc : List Str) (h1 : acc.Nodup)
    (h2 : ∀ t ∈ acc, t ∈ seen) : (sectionsLoop cs seen acc).Nodup := by
  induction cs generalizing seen acc with
  | nil => exact h1
  | cons c rest ih =>
    simp only [sectionsLoop]
    split
    · rename_i hc
      apply ih
      · rw [List.nodup_append]
        refine ⟨h1, by simp, ?_⟩
        intro a ha b hb
        rw [List.mem_singleton] at hb
        rw [hb]
        intro e
        exact hc.2 (e ▸ h2 a ha)
      · intro t ht
        rcases List.mem_append.mp ht with ht | ht
        · exact List.mem_cons_of_mem _ (h2 t ht)
        · rw [List.mem_singleton] at ht; rw [ht]; exact List.mem_cons_self ..
    · exact ih _ _ h1 h2

end Tabula.ChunkColl
