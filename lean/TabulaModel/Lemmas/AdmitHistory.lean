import TabulaModel.Lemmas.Admit
/-!
Call histories on the public API (`step`, `runCalls` of `Model/Admit.lean`): what one call does to the
list of extractors, that every extractor stays well-formed and keeps its name and format, and the
result of call `k` of a history as one operation in an intermediate state that satisfies every
invariant the calls preserve (`runCalls_result_inv`); for histories of closing calls: the named
extractors hold no reader (`NamedUnopened`), so each operation goes to the file (`closing_history_op`).
-/
set_option autoImplicit false
namespace Tabula.Admit
open Tabula.Detect Tabula.Drm

/-! ### one call -/

def GoodSt (s : St) : Prop := ∀ e ∈ s.exts, e.WF

theorem step_op_some {s : St} {i : Nat} {k : TKind} {e : Ext} (h : s.exts[i]? = some e) :
    step s (.op i k) = ({ s with exts := s.exts.set i (e.run s.cur k).1 }, .res (e.run s.cur k).2) := by
  simp [step, h]

theorem step_op_none {s : St} {i : Nat} {k : TKind} (h : s.exts[i]? = none) :
    step s (.op i k) = (s, .bad) := by
  simp [step, h]

theorem step_close_some {s : St} {i : Nat} {e : Ext} (h : s.exts[i]? = some e) :
    step s (.close i) = ({ s with exts := s.exts.set i e.close }, .closed) := by
  simp [step, h]

theorem step_derive_some {s : St} {i : Nat} {bad : Bool} {e : Ext} (h : s.exts[i]? = some e) :
    step s (.derive i bad) = ({ s with exts := s.exts ++ [e.derive bad] }, .created s.exts.length) := by
  simp [step, h]

theorem mem_snoc {l : List Ext} {e x : Ext} (h : e ∈ l ++ [x]) : e ∈ l ∨ e = x :=
  (List.mem_append.1 h).imp id List.mem_singleton.1

/-- an extractor of the state after a call was there before, is a new one, is what a configuration
method or `Close` made of one that was there (`Ext.Kept`), or is what an operation left of one -/
theorem step_exts_cases (s : St) (c : Call) (e : Ext) (he : e ∈ (step s c).1.exts) :
    e ∈ s.exts ∨ (∃ name, e = openExt name) ∨ (e.name = [] ∧ ((∃ ok, e = fromHTML ok) ∨ e = fromReader)) ∨
      (∃ e0 ∈ s.exts, e0.Kept e) ∨ (∃ i k, ∃ e0 ∈ s.exts, c = .op i k ∧ e = (e0.run s.cur k).1) := by
  revert he
  -- the ways through `step`, in the order of its equations: creation (1–3, 5) appends an extractor, an
  -- operation (7) and `Close` (9) replace the one addressed, a call on a missing extractor (4, 6, 8) and a
  -- rewrite (10) leave the list alone
  fun_cases step s c <;> intro he
  case case1 name => exact (mem_snoc he).imp id fun h => Or.inl ⟨name, h⟩
  case case2 ok =>
    exact (mem_snoc he).imp id fun h => Or.inr (Or.inl ⟨by rw [h]; cases ok <;> rfl, Or.inl ⟨ok, h⟩⟩)
  case case3 => exact (mem_snoc he).imp id fun h => Or.inr (Or.inl ⟨by rw [h]; rfl, Or.inr h⟩)
  case case5 i bad e0 hi =>
    exact (mem_snoc he).imp id fun h =>
      Or.inr (Or.inr (Or.inl ⟨e0, List.mem_of_getElem? hi, by rw [h]; exact derive_kept e0 bad⟩))
  case case7 i k e0 hi e' r hrun =>
    exact (List.mem_or_eq_of_mem_set he).imp id fun h =>
      Or.inr (Or.inr (Or.inr ⟨i, k, e0, List.mem_of_getElem? hi, rfl, by rw [h, hrun]⟩))
  case case9 i e0 hi =>
    exact (List.mem_or_eq_of_mem_set he).imp id fun h =>
      Or.inr (Or.inr (Or.inl ⟨e0, List.mem_of_getElem? hi, by rw [h]; exact close_kept e0⟩))
  case case4 | case6 | case8 | case10 => exact Or.inl he

theorem step_good {s : St} (h : GoodSt s) (c : Call) : GoodSt (step s c).1 := by
  intro e he
  rcases step_exts_cases s c e he with he | ⟨name, rfl⟩ | ⟨_, ⟨ok, rfl⟩ | rfl⟩ | ⟨e0, h0, K⟩ | ⟨i, k, e0, h0, _, rfl⟩
  · exact h e he
  · exact openExt_wf name
  · exact fromHTML_wf ok
  · exact fromReader_wf
  · exact K.wf (h e0 h0)
  · exact (run_spec (h e0 h0) s.cur k).wf

theorem lt_of_getElem?_some {l : List Ext} {i : Nat} {e0 : Ext} (h : l[i]? = some e0) : i < l.length :=
  (List.getElem?_eq_some_iff.1 h).1

theorem get_append_of_some {l : List Ext} {i : Nat} {e0 x : Ext} (h : l[i]? = some e0) :
    (l ++ [x])[i]? = some e0 := by
  rw [List.getElem?_append_left (lt_of_getElem?_some h)]; exact h

theorem get_set_of_some {l : List Ext} {i j : Nat} {e0 x : Ext} (h0 : l[i]? = some e0)
    (hx : j = i → x.name = e0.name ∧ x.format = e0.format) :
    ∃ e, (l.set j x)[i]? = some e ∧ e.name = e0.name ∧ e.format = e0.format := by
  by_cases hij : j = i
  · subst hij
    exact ⟨x, List.getElem?_set_self (lt_of_getElem?_some h0), hx rfl⟩
  · exact ⟨e0, by rw [List.getElem?_set_ne hij, h0], rfl, rfl⟩

/-- extractor `i` keeps its file name and format whatever is called -/
theorem step_get {s : St} (hg : GoodSt s) {i : Nat} {e0 : Ext} (h0 : s.exts[i]? = some e0) (c : Call) :
    ∃ e, (step s c).1.exts[i]? = some e ∧ e.name = e0.name ∧ e.format = e0.format := by
  -- the ten ways through `step`, numbered as in `step_exts_cases`
  fun_cases step s c
  case case7 j k e hj e' r hrun =>
    have hs := run_spec (hg e (List.mem_of_getElem? hj)) s.cur k
    rw [hrun] at hs
    exact get_set_of_some h0 (fun hij => by subst hij; rw [h0] at hj; cases hj; exact ⟨hs.name, hs.format⟩)
  case case9 j e hj =>
    exact get_set_of_some h0 (fun hij => by subst hij; rw [h0] at hj; cases hj; exact ⟨(close_kept e0).name, (close_kept e0).format⟩)
  case case1 | case2 | case3 | case5 => exact ⟨e0, get_append_of_some h0, rfl, rfl⟩
  case case4 | case6 | case8 | case10 => exact ⟨e0, h0, rfl, rfl⟩

theorem step_cur_eq (s : St) (c : Call) (h : ∀ fs, c ≠ .rewrite fs) : (step s c).1.cur = s.cur := by
  fun_cases step s c
  case case10 fs => exact absurd rfl (h fs)
  all_goals rfl

theorem step_cur (s : St) (c : Call) : (step s c).1.cur = (step { cur := s.cur } c).1.cur := by
  by_cases h : ∃ fs, c = .rewrite fs
  · obtain ⟨fs, rfl⟩ := h; rfl
  · have h' : ∀ fs, c ≠ .rewrite fs := fun fs hc => h ⟨fs, hc⟩
    rw [step_cur_eq s c h', step_cur_eq _ c h']

/-! ### a history -/

theorem runCalls_cons (s : St) (c : Call) (cs : List Call) :
    runCalls s (c :: cs) = ((runCalls (step s c).1 cs).1, (step s c).2 :: (runCalls (step s c).1 cs).2) := rfl

theorem runCalls_append (s : St) (a b : List Call) :
    runCalls s (a ++ b) =
      ((runCalls (runCalls s a).1 b).1, (runCalls s a).2 ++ (runCalls (runCalls s a).1 b).2) := by
  induction a generalizing s with
  | nil => rfl
  | cons c cs ih =>
    rw [List.cons_append, runCalls_cons, runCalls_cons, ih]
    rfl

/-- a history with one more call behind it -/
theorem runCalls_snoc (s : St) (cs : List Call) (c : Call) :
    runCalls s (cs ++ [c]) =
      ((step (runCalls s cs).1 c).1, (runCalls s cs).2 ++ [(step (runCalls s cs).1 c).2]) :=
  runCalls_append s cs [c]

theorem runCalls_good {s : St} (h : GoodSt s) (cs : List Call) : GoodSt (runCalls s cs).1 := by
  induction cs generalizing s with
  | nil => exact h
  | cons c cs ih => rw [runCalls_cons]; exact ih (step_good h c)

theorem runCalls_get {s : St} (hg : GoodSt s) {i : Nat} {e0 : Ext} (h0 : s.exts[i]? = some e0) (cs : List Call) :
    ∃ e, (runCalls s cs).1.exts[i]? = some e ∧ e.name = e0.name ∧ e.format = e0.format := by
  induction cs generalizing s e0 with
  | nil => exact ⟨e0, h0, rfl, rfl⟩
  | cons c cs ih =>
    rw [runCalls_cons]
    obtain ⟨e1, h1, hn, hf⟩ := step_get hg h0 c
    obtain ⟨e2, h2, hn2, hf2⟩ := ih (step_good hg c) h1
    exact ⟨e2, h2, hn2.trans hn, hf2.trans hf⟩

theorem runCalls_length (s : St) (cs : List Call) : (runCalls s cs).2.length = cs.length := by
  induction cs generalizing s with
  | nil => rfl
  | cons c cs ih => rw [runCalls_cons]; simp [ih]

/-- the bytes stored under the names just before call `k` of the history -/
def curBefore : FileState → List Call → Nat → FileState
  | c0, [], _ => c0
  | c0, _ :: _, 0 => c0
  | c0, c :: cs, k + 1 => curBefore (step { cur := c0 } c).1.cur cs k

/-! ### histories under a state invariant -/

/-- the result at position `k` of a history from a good state is the result of running the
addressed extractor in an intermediate state that is good and satisfies every invariant `I`
the calls preserve -/
theorem runCalls_result_inv (I : St → Prop) (Q : Call → Prop)
    (hstep : ∀ s c, GoodSt s → I s → Q c → I (step s c).1)
    {s : St} (hg : GoodSt s) (hI : I s) (cs : List Call) (hQ : ∀ c ∈ cs, Q c) (k i : Nat) (kind : TKind) (r : Res)
    (hc : cs[k]? = some (.op i kind)) (hr : (runCalls s cs).2[k]? = some (.res r)) :
    ∃ s' e0, GoodSt s' ∧ I s' ∧ s'.exts[i]? = some e0 ∧ s'.cur = curBefore s.cur cs k ∧ r = (e0.run s'.cur kind).2 ∧
      ∀ e, (runCalls s cs).1.exts[i]? = some e → e.name = e0.name ∧ e.format = e0.format := by
  induction cs generalizing s k with
  | nil => cases hc
  | cons c cs ih =>
    rw [runCalls_cons] at hr ⊢
    cases k with
    | zero =>
      simp only [List.getElem?_cons_zero, Option.some.injEq] at hc hr
      subst hc
      cases hi : s.exts[i]? with
      | none => rw [step_op_none hi] at hr; cases hr
      | some e0 =>
        have hgs := step_good hg (.op i kind)
        rw [step_op_some hi] at hr hgs ⊢
        simp only [CallRes.res.injEq] at hr
        refine ⟨s, e0, hg, hI, hi, rfl, hr.symm, ?_⟩
        intro e he
        have hlt : i < s.exts.length := lt_of_getElem?_some hi
        have h1 : ({ s with exts := s.exts.set i (e0.run s.cur kind).1 } : St).exts[i]? = some (e0.run s.cur kind).1 := by
          simp [List.getElem?_set_self hlt]
        obtain ⟨e2, h2, hn2, hf2⟩ := runCalls_get hgs h1 cs
        rw [h2] at he; cases he
        have hs := run_spec (hg e0 (List.mem_of_getElem? hi)) s.cur kind
        exact ⟨hn2.trans hs.name, hf2.trans hs.format⟩
    | succ k =>
      simp only [List.getElem?_cons_succ] at hc hr
      obtain ⟨s', e0, hg', hI', hget, hcur, hres, hfin⟩ :=
        ih (step_good hg c) (hstep s c hg hI (hQ c (by simp))) (fun x hx => hQ x (by simp [hx])) k hc hr
      refine ⟨s', e0, hg', hI', hget, ?_, hres, hfin⟩
      rw [hcur]
      show curBefore (step s c).1.cur cs k = curBefore (step { cur := s.cur } c).1.cur cs k
      rw [step_cur]

/-- `runCalls_result_inv` without an invariant, read through `run_spec` -/
theorem runCalls_result {s : St} (h : GoodSt s) (cs : List Call) (k i : Nat) (kind : TKind) (r : Res)
    (hc : cs[k]? = some (.op i kind)) (hr : (runCalls s cs).2[k]? = some (.res r)) :
    ∃ e0 cur, e0.WF ∧ cur = curBefore s.cur cs k ∧ RunSpec e0 cur (e0.run cur kind).1 r ∧
      ∀ e, (runCalls s cs).1.exts[i]? = some e → e.name = e0.name ∧ e.format = e0.format := by
  obtain ⟨s', e0, hg, _, hget, hcur, hres, hfin⟩ := runCalls_result_inv (fun _ => True) (fun _ => True)
    (fun _ _ _ _ _ => trivial) h trivial cs (fun _ _ => trivial) k i kind r hc hr
  have hw := hg e0 (List.mem_of_getElem? hget)
  exact ⟨e0, s'.cur, hw, hcur, hres ▸ run_spec hw s'.cur kind, hfin⟩

/-! ### the named extractors hold no reader -/

/-- the calls after which a named extractor holds no reader: everything except `PageCount`
and `IsCharacterLevel` / `IsMultiColumn` (which keep a PDF open) -/
def ClosingCall (c : Call) : Prop :=
  ∀ i k, c = .op i k → k = .text ∨ k = .document ∨ k = .markdown ∨ k = .pdfOnly

/-- the extractors with a file name hold no reader -/
def NamedUnopened (s : St) : Prop := ∀ x ∈ s.exts, x.name ≠ [] → x.opened = false

/-- "the named extractors whose format satisfies `Q` hold no reader" is kept by a call as soon
as it is kept by the operation the call runs: creation, configuration and `Close` keep it anyway -/
theorem unopened_step (Q : Format → Prop) {s : St} (hg : GoodSt s) (c : Call)
    (hu : ∀ x ∈ s.exts, x.name ≠ [] → Q x.format → x.opened = false)
    (hrun : ∀ i k e0, c = .op i k → e0 ∈ s.exts → e0.name ≠ [] → Q e0.format → (e0.run s.cur k).1.opened = false) :
    ∀ x ∈ (step s c).1.exts, x.name ≠ [] → Q x.format → x.opened = false := by
  intro x hx hxn hxf
  rcases step_exts_cases s c x hx with hx | ⟨name, rfl⟩ | ⟨hnil, _⟩ | ⟨e0, h0, K⟩ | ⟨j, k, e0, h0, hcj, rfl⟩
  · exact hu x hx hxn hxf
  · rfl
  · exact absurd hnil hxn
  · exact K.unopened (hu e0 h0 (by rw [← K.name]; exact hxn) (by rw [← K.format]; exact hxf))
  · have hs := run_spec (hg e0 h0) s.cur k
    exact hrun j k e0 hcj h0 (by rw [← hs.name]; exact hxn) (by rw [← hs.format]; exact hxf)

/-- closing calls keep the named extractors without a reader, so each of their operations
goes to the file -/
theorem namedUnopened_step (s : St) (c : Call) (hg : GoodSt s) (hu : NamedUnopened s) (hq : ClosingCall c) :
    NamedUnopened (step s c).1 := by
  refine fun x hx hxn => unopened_step (fun _ => True) hg c (fun x hx hn _ => hu x hx hn) ?_ x hx hxn trivial
  intro j k e0 hcj hm hn0 _
  -- the operation closes what it opened, or fails and leaves the extractor as it was
  rcases run_closes_named (hg e0 hm) hn0 s.cur (hq j k hcj) with h | h
  · exact h
  · rw [h]; exact hu e0 hm hn0

/-- in a history of closing calls an operation on an extractor with a file name runs on an extractor value
that holds no reader, against the bytes stored under the names at that call -/
theorem closing_history_op (c0 : FileState) (cs : List Call) (hcl : ∀ c ∈ cs, ClosingCall c)
    (k i : Nat) (kind : TKind) (r : Res)
    (hc : cs[k]? = some (.op i kind)) (hr : (runCalls { cur := c0 } cs).2[k]? = some (.res r))
    (e : Ext) (he : (runCalls { cur := c0 } cs).1.exts[i]? = some e) (hn : e.name ≠ []) :
    ∃ e0 : Ext, e0.WF ∧ e0.name ≠ [] ∧ e0.opened = false ∧ e0.format = detect e.name ∧
      r = (e0.run (curBefore c0 cs k) kind).2 := by
  obtain ⟨s', e0, hg, hu, hget, hcur, hres, hfin⟩ := runCalls_result_inv NamedUnopened ClosingCall
    namedUnopened_step (s := { cur := c0 }) (fun x hx => by cases hx) (fun x hx => by cases hx) cs hcl k i kind r hc hr
  have hm := List.mem_of_getElem? hget
  have hn0 : e0.name ≠ [] := by rw [← (hfin e he).1]; exact hn
  exact ⟨e0, hg e0 hm, hn0, hu e0 hm hn0, by rw [(hg e0 hm).named_format hn0, (hfin e he).1], hcur ▸ hres⟩

end Tabula.Admit
