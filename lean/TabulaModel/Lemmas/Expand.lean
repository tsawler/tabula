import TabulaModel.Lemmas.XDoc
import TabulaModel.Lemmas.Inline
/-!
Unfolding a document into the form TREE of `Model/GState.lean`.

`expandForm`/`expandOps` resolve every `Do` the way `invokeXObject` does — current
resources, merge with the form's own, nesting limit, budget (threaded in program order,
because whether a form still runs depends on what ran before it) — and produce the typed
program in which every executed form is an `Op.form` node with its `/Matrix` and its
expanded content, and every skipped `Do` is gone.  `formLoop_refines`, `invoke_refines` and
`extractLoop_refines` show that the extractor model on the document and the operator
model on the unfolded tree compute the same graphics states and the same fragments.
-/
namespace Tabula.XDoc
open Tabula Tabula.GState

variable {α : Type}

/-- an executed form: its `/Matrix` (if applied) and its unfolded content -/
abbrev Node (α : Type) := Option (Option (Matrix α) × List (Op α))

def Node.toOps : Node α → List (Op α)
  | none => []
  | some (m, body) => [Op.form m body]

section
variable [Lean.Grind.CommRing α]

/-- the operations of one content stream, unfolded; `inv` unfolds a `Do` -/
def expandOps (inv : Name → Acct → Node α × Acct) : List (RawOp α) → Acct → List (Op α) × Acct
  | [], a => ([], a)
  | op :: rest, a =>
    match decodeOp op with
    | .ops l =>
      let e := expandOps inv rest a
      (l ++ e.1, e.2)
    | .xobj name =>
      let r := inv name a
      let e := expandOps inv rest r.2
      (r.1.toOps ++ e.1, e.2)

/-- one `Do` at nesting depth `depth` under resources `res`, unfolded (same recursion
bound as `invokeXObject`) -/
def expandForm (doc : Doc α) : Nat → Nat → Res → Name → Acct → Node α × Acct
  | 0, _, _, _, a => (none, a)
  | fuel + 1, depth, res, name, a =>
    if depth ≥ maxXObjectDepth then (none, a)
    else match lookupForm doc res name with
      | none => (none, a)
      | some f =>
        if f.len = 0 then (none, a)
        else if a.bytes + f.len + xobjectCallCost > maxXObjectBytes then (none, a.refuse f.len)
        else
          let e := expandOps (expandForm doc fuel (depth + 1) (formResources doc res f)) (formBody f)
            (a.charge f.len)
          (some (formMatrix f.matrix, e.1), e.2)

/-- a `Do` with no resource context: nothing -/
def expandNone : Name → Acct → Node α × Acct := fun _ a => (none, a)

/-- the unfolding `Extract` induces for a page content in extractor state `(resources,
depth, accounting)` -/
def expandPage (doc : Doc α) (resources : Option Res) (depth : Nat) (ops : List (RawOp α)) (a : Acct) :
    List (Op α) × Acct :=
  match resources with
  | none => expandOps expandNone ops a
  | some res => expandOps (expandForm doc maxXObjectDepth depth res) ops a

/-- `expandForm` with recursion left: what `admission` decides, as in `invokeXObject_succ` -/
theorem expandForm_succ (doc : Doc α) (fuel depth : Nat) (res : Res) (name : Name) (a : Acct) :
    expandForm doc (fuel + 1) depth res name a =
      match admission doc res depth a.bytes name with
      | .skip => (none, a)
      | .refuse f => (none, a.refuse f.len)
      | .run f =>
        (some (formMatrix f.matrix,
          (expandOps (expandForm doc fuel (depth + 1) (formResources doc res f)) (formBody f) (a.charge f.len)).1),
          (expandOps (expandForm doc fuel (depth + 1) (formResources doc res f)) (formBody f) (a.charge f.len)).2) := by
  unfold admission
  generalize hk : fuel + 1 = k
  fun_cases expandForm doc k depth res name a <;> cases hk <;> simp only [*, if_true, if_false] <;> rfl

end

section
variable [Lean.Grind.CommRing α] [DecidableEq α] [LT α] [DecidableLT α]

/-- a `Do`-free typed list under `runForm` is `stepOps` -/
theorem runForm_formFree (adv : Adv α) (l : List (Op α)) (h : FormFree l) (s : State α) :
    runForm adv l s = ((stepOps adv l s).1, (stepOps adv l s).2.1.map (·.sh)) := by
  induction l generalizing s with
  | nil => simp [runForm, stepOps]
  | cons op rest ih =>
    rw [runForm_cons adv (h op List.mem_cons_self), ih h.tail]
    simp [stepOps, List.map_append]

/-- the single node of an unfolded `Do` under `exec` and under `runForm` -/
theorem exec_node (adv : Adv α) (n : Node α) (s : State α) :
    exec adv n.toOps s = some (runForm adv n.toOps s) := by
  cases n with
  | none => simp [Node.toOps, exec, runForm]
  | some p =>
    obtain ⟨m, body⟩ := p
    simp only [Node.toOps, exec, step, runForm]
    split <;> simp

/-- `invoke` (on extractor states with resources `R` at depth `d`) is refined by the
unfolding `inv`: same accounting, same graphics state and fragments as the operator model
on the unfolded node.  (That resources and depth come back is `framed_kept`.) -/
def Refines (adv : Adv α) (invoke : Name → XState α → XState α × List (Frag α))
    (inv : Name → Acct → Node α × Acct) (d : Nat) (R : Option Res) : Prop :=
  ∀ name (x : XState α), x.resources = R → x.gs.xdepth = d →
    (invoke name x).1.acct = (inv name x.acct).2 ∧
    ((invoke name x).1.gs, (invoke name x).2.map (·.sh)) = runForm adv (inv name x.acct).1.toOps x.gs

/-- a `Do`-free typed list under `exec`: `stepOps` again, and `none` when any of its operators
fails (the operators after the failing one do not matter: the result is `none` either way) -/
theorem exec_formFree (adv : Adv α) (l : List (Op α)) (h : FormFree l) (s : State α) :
    exec adv l s = if (stepOps adv l s).2.2 then none
      else some ((stepOps adv l s).1, (stepOps adv l s).2.1.map (·.sh)) := by
  induction l generalizing s with
  | nil => rfl
  | cons op rest ih =>
    rw [exec_cons, step_of_not_form adv (h op List.mem_cons_self), ih h.tail]
    simp only [stepOps, List.map_append, tagShows_sh]
    cases (stepBasic adv op s).2.2 <;> cases (stepOps adv rest (stepBasic adv op s).1).2.2 <;> rfl

/-- one operation: what it unfolds to, run as the content of a form (errors dropped) and as
an operation of the page (an error stops), against `processOperation` -/
theorem processOperation_refines (adv : Adv α) (invoke : Name → XState α → XState α × List (Frag α))
    (inv : Name → Acct → Node α × Acct) (d : Nat) (R : Option Res) (H : Refines adv invoke inv d R)
    (op : RawOp α) (x : XState α) (hR : x.resources = R) (hd : x.gs.xdepth = d)
    (r : XState α × List (Frag α) × Bool) (hr : processOperation adv invoke op x = r) :
    ∃ l, (∀ rest, expandOps inv (op :: rest) x.acct =
        (l ++ (expandOps inv rest r.1.acct).1, (expandOps inv rest r.1.acct).2)) ∧
      runForm adv l x.gs = (r.1.gs, r.2.1.map (·.sh)) ∧
      exec adv l x.gs = if r.2.2 then none else some (r.1.gs, r.2.1.map (·.sh)) := by
  have hff := decodeOp_formFree op
  subst hr
  unfold processOperation
  cases hdec : decodeOp op with
  | ops l =>
    rw [hdec] at hff
    exact ⟨l, fun rest => by simp only [expandOps, hdec], runForm_formFree adv l hff x.gs, exec_formFree adv l hff x.gs⟩
  | xobj name =>
    obtain ⟨j1, j4⟩ := H name x hR hd
    exact ⟨_, fun rest => by simp only [expandOps, hdec, j1], j4.symm, by rw [exec_node, ← j4]; rfl⟩

/-- the content of a form against its unfolding; `doc` and `hF` only say that `invoke` gives
resources and depth back, so that every operation of the content meets the same `R` and `d` -/
theorem formLoop_refines (adv : Adv α) (doc : Doc α) (invoke : Name → XState α → XState α × List (Frag α))
    (hF : ∀ n x, Framed x (invoke n x).1)
    (inv : Name → Acct → Node α × Acct) (d : Nat) (R : Option Res) (H : Refines adv invoke inv d R)
    (ops : List (RawOp α)) :
    ∀ x : XState α, x.resources = R → x.gs.xdepth = d →
      (formLoop adv invoke ops x).1.acct = (expandOps inv ops x.acct).2 ∧
      ((formLoop adv invoke ops x).1.gs, (formLoop adv invoke ops x).2.map (·.sh))
        = runForm adv (expandOps inv ops x.acct).1 x.gs := by
  induction ops with
  | nil => intro x _ _; simp [formLoop, expandOps, runForm]
  | cons op rest ih =>
    intro x hR hd
    obtain ⟨l, hl, h3, _⟩ := processOperation_refines adv invoke inv d R H op x hR hd _ rfl
    obtain ⟨f1, f2⟩ := (framed_kept adv doc).step invoke hF op x
    obtain ⟨i1, i4⟩ := ih _ (f1.trans hR) (f2.trans hd)
    simp only [formLoop]
    rw [hl, runForm_append, h3, ← i4, List.map_append]
    exact ⟨i1, rfl⟩

theorem invoke_refines (adv : Adv α) (doc : Doc α) (fuel : Nat) :
    ∀ (d : Nat) (res : Res),
      Refines adv (invokeXObject adv doc fuel) (expandForm doc fuel d res) d (some res) := by
  induction fuel with
  | zero =>
    intro d res name x hR hd
    simp [invokeXObject, expandForm, Node.toOps, runForm]
  | succ fuel ih =>
    intro d res name x hR hd
    obtain ⟨gs, resources, acct⟩ := x
    cases hR; cases hd
    -- both sides branch on the same decision
    rw [invokeXObject_succ, expandForm_succ]
    dsimp only
    cases hadm : admission doc res gs.xdepth acct.bytes name with
    | skip => exact ⟨rfl, by simp only [Node.toOps, runForm, List.map_nil]⟩
    | refuse f => exact ⟨rfl, by simp only [Node.toOps, runForm, List.map_nil]⟩
    | run f =>
      obtain ⟨hlim, _, _, _⟩ := admission_run hadm
      obtain ⟨i1, i4⟩ := formLoop_refines adv doc (invokeXObject adv doc fuel) ((framed_kept adv doc).invoke fuel)
        (expandForm doc fuel (gs.xdepth + 1) (formResources doc res f)) (gs.xdepth + 1)
        (some (formResources doc res f)) (ih (gs.xdepth + 1) (formResources doc res f)) (formBody f)
        (enterForm doc res f ⟨gs, some res, acct⟩) rfl (formEnter_xdepth _ gs)
      refine ⟨i1, ?_⟩
      simp only [Node.toOps, runForm_cons_form, if_neg (Nat.not_le.mpr hlim), runForm, List.append_nil]
      exact congrArg (fun r => (formExit r.1, r.2)) i4

/-- with no resource context every `Do` is a no-op -/
theorem invoke_refines_none (adv : Adv α) (doc : Doc α) (fuel d : Nat) :
    Refines adv (invokeXObject adv doc fuel) (expandNone (α := α)) d none := by
  intro name x hR hd
  cases fuel <;> simp [invokeXObject, expandNone, Node.toOps, runForm, hR]

/-- **`Extract` on the document = the operator model on the unfolded tree** (loop level):
the same error behaviour, the same final graphics state, the same fragments; and the
accounting is the unfolding's when no error stops the loop -/
theorem extractLoop_refines (adv : Adv α) (doc : Doc α) (inv : Name → Acct → Node α × Acct)
    (d : Nat) (R : Option Res) (H : Refines adv (invokeXObject adv doc maxXObjectDepth) inv d R)
    (ops : List (RawOp α)) :
    ∀ x : XState α, x.resources = R → x.gs.xdepth = d →
      exec adv (expandOps inv ops x.acct).1 x.gs =
        (if (extractLoop adv doc ops x).2.2 then none
         else some ((extractLoop adv doc ops x).1.gs, (extractLoop adv doc ops x).2.1.map (·.sh))) ∧
      ((extractLoop adv doc ops x).2.2 = false →
        (extractLoop adv doc ops x).1.acct = (expandOps inv ops x.acct).2) := by
  induction ops with
  | nil => intro x _ _; simp [extractLoop, expandOps, exec]
  | cons op rest ih =>
    intro x hR hd
    simp only [extractLoop]
    obtain ⟨f1, f2⟩ := (framed_kept adv doc).step _ ((framed_kept adv doc).invoke maxXObjectDepth) op x
    generalize hr : processOperation adv (invokeXObject adv doc maxXObjectDepth) op x = r at f1 f2
    obtain ⟨l, hl, _, h4⟩ := processOperation_refines adv _ inv d R H op x hR hd r hr
    obtain ⟨i1, i2⟩ := ih _ (f1.trans hR) (f2.trans hd)
    rw [hl, exec_append, h4]
    cases r.2.2 with
    | true => simp
    | false =>
      simp only [Bool.false_eq_true, if_false]
      rw [i1]
      exact ⟨by cases (extractLoop adv doc rest r.1).2.2 <;> simp, i2⟩

end
end Tabula.XDoc
