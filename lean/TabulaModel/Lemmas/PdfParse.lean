import TabulaModel.Lemmas.PdfState
import TabulaModel.Lemmas.PdfTok
import TabulaModel.Lemmas.PdfReal
import TabulaModel.Lemmas.PdfDepth
import TabulaModel.Lemmas.ParseRuns
import TabulaModel.Lemmas.DictSet
namespace Tabula.Pdf
open Tabula.A1 (atoi dec)

/-! Object level of property C06: `ParseObject` with its two-token lookahead reads every legal
spelling of every object tree back as the value meant, and stands exactly on what follows.
Core Lean only. -/

/-- what follows does not start with the keyword R -/
def FirstNotR (rest : Str) : Prop := (stateAt rest).cur ≠ some Token.ref

/-- what follows is not "integer R" (so an integer before it is not the start of a reference) -/
def NoRefAhead (rest : Str) : Prop :=
  ∀ vb b, (stateAt rest).cur = some (Token.integer vb) → atoi vb = some b → (stateAt rest).peek ≠ some Token.ref

namespace Prs

/-- the first token of `inp` is `t` and leaves `r` unread -/
structure Starts (inp : Str) (t : Token) (r : Str) : Prop where
  lex : lexSkip (inp.length + 1) inp = some (t, r)
  ns : t ≠ .keyword kwStream

theorem Starts.cur {inp : Str} {t : Token} {r : Str} (h : Starts inp t r) : (stateAt inp).cur = some t :=
  stateAt_cur_of_lex inp t r h.lex

theorem Starts.next {inp : Str} {t : Token} {r : Str} (h : Starts inp t r) : (stateAt inp).next = stateAt r :=
  stateAt_next inp t r h.lex h.ns

theorem Starts.peek {inp : Str} {t : Token} {r : Str} (h : Starts inp t r) :
    (stateAt inp).peek = (stateAt r).cur :=
  stateAt_peek inp t r h.lex h.ns

theorem sepUnit_len (u : SepUnit) : 1 ≤ u.render.length := by
  cases u <;> simp [SepUnit.render]

theorem sep_len (us : Sep) : us.length ≤ (renderSep us).length := by
  induction us with
  | nil => simp
  | cons u us ih =>
    have e : renderSep (u :: us) = u.render ++ renderSep us := by simp [renderSep]
    have := sepUnit_len u
    rw [e, List.length_append, List.length_cons]
    omega

theorem starts_tok (pre : Sep) (X : Str) (t : Token) (r : Str) (hp : SepOk pre)
    (hX : nextToken X = some (t, r)) (hc : ∀ v, t ≠ .comment v) (hs : t ≠ .keyword kwStream) :
    Starts (renderSep pre ++ X) t r := by
  refine ⟨lexSkip_sep pre X t r _ hp hX hc ?_, hs⟩
  have := sep_len pre
  rw [List.length_append]
  omega

theorem starts_kw (pre : Sep) (kw rest : Str) (hp : SepOk pre)
    (hkw : kw = kwNull ∨ kw = kwTrue ∨ kw = kwFalse) (hT : Terminated rest) :
    Starts (renderSep pre ++ (kw ++ rest)) (.keyword kw) rest :=
  starts_tok pre _ _ _ hp (nextToken_kw kw rest hkw hT) (by intro v h; cases h)
    (by rcases hkw with e | e | e <;> subst e <;> decide)

theorem starts_int (pre : Sep) (plus : Bool) (z : Nat) (i : Int) (rest : Str) (hp : SepOk pre)
    (hT : Terminated rest) :
    Starts (renderSep pre ++ (printInt plus z i ++ rest)) (.integer (printInt plus z i)) rest :=
  starts_tok pre _ _ _ hp (nextToken_int plus z i rest hT) (by intro v h; cases h) (by intro h; cases h)

theorem starts_real (pre : Sep) (r : RealSp) (rest : Str) (hp : SepOk pre) (hr : r.Ok)
    (hT : Terminated rest) :
    Starts (renderSep pre ++ (r.render ++ rest)) (.real r.render) rest :=
  starts_tok pre _ _ _ hp (nextToken_real r rest hr hT) (by intro v h; cases h) (by intro h; cases h)

theorem starts_dec (pre : Sep) (n : Nat) (rest : Str) (hp : SepOk pre) (hT : Terminated rest) :
    Starts (renderSep pre ++ (dec n ++ rest)) (.integer (dec n)) rest :=
  starts_tok pre _ _ _ hp (nextToken_dec n rest hT) (by intro v h; cases h) (by intro h; cases h)

theorem starts_R (pre : Sep) (rest : Str) (hp : SepOk pre) (hT : Terminated rest) :
    Starts (renderSep pre ++ 82 :: rest) .ref rest :=
  starts_tok pre _ _ _ hp (nextToken_R rest hT) (by intro v h; cases h) (by intro h; cases h)

theorem starts_lit (pre : Sep) (ps : List SPiece) (rest : Str) (hp : SepOk pre) (h : ValidStr 0 ps) :
    Starts (renderSep pre ++ (renderStr ps ++ rest)) (.str (strBytes ps)) rest :=
  starts_tok pre _ _ _ hp (nextToken_lit ps rest h) (by intro v h; cases h) (by intro h; cases h)

theorem starts_hex (pre : Sep) (ps : List HPiece) (last : Option HLast) (w rest : Str) (hp : SepOk pre)
    (hps : ∀ p ∈ ps, p.Ok) (hlast : ∀ l, last = some l → l.Ok) (hw : AllWs w) :
    ∃ ds, Starts (renderSep pre ++ (renderHex ps last w ++ rest)) (.hexstr ds) rest ∧
      hexPairs ds = hexValueOf ps last := by
  obtain ⟨ds, h1, h2⟩ := nextToken_hex ps last w rest hps hlast hw
  exact ⟨ds, starts_tok pre _ _ _ hp h1 (by intro v h; cases h) (by intro h; cases h), h2⟩

theorem starts_name (pre : Sep) (ps : List NPiece) (rest : Str) (hp : SepOk pre) (hok : ∀ p ∈ ps, p.Ok)
    (hT : Terminated rest) :
    Starts (renderSep pre ++ 47 :: (renderName ps ++ rest)) (.name (ps.map NPiece.byte)) rest :=
  starts_tok pre _ _ _ hp (nextToken_name ps rest hok hT) (by intro v h; cases h) (by intro h; cases h)

theorem starts_arrStart (pre : Sep) (rest : Str) (hp : SepOk pre) :
    Starts (renderSep pre ++ 91 :: rest) .arrStart rest :=
  starts_tok pre _ _ _ hp (nextToken_arrStart rest) (by intro v h; cases h) (by intro h; cases h)

theorem starts_arrEnd (pre : Sep) (rest : Str) (hp : SepOk pre) :
    Starts (renderSep pre ++ 93 :: rest) .arrEnd rest :=
  starts_tok pre _ _ _ hp (nextToken_arrEnd rest) (by intro v h; cases h) (by intro h; cases h)

theorem starts_dictStart (pre : Sep) (rest : Str) (hp : SepOk pre) :
    Starts (renderSep pre ++ 60 :: 60 :: rest) .dictStart rest :=
  starts_tok pre _ _ _ hp (nextToken_dictStart rest) (by intro v h; cases h) (by intro h; cases h)

theorem starts_dictEnd (pre : Sep) (rest : Str) (hp : SepOk pre) :
    Starts (renderSep pre ++ 62 :: 62 :: rest) .dictEnd rest :=
  starts_tok pre _ _ _ hp (nextToken_dictEnd rest) (by intro v h; cases h) (by intro h; cases h)

theorem nextToken_nil : nextToken [] = some (.eof, []) := by
  simp [nextToken, skipWs]

theorem starts_eof (trail : Sep) (hp : SepOk trail) : Starts (renderSep trail) .eof [] := by
  have := starts_tok trail [] .eof [] hp nextToken_nil (by intro v h; cases h) (by intro h; cases h)
  simpa using this

theorem term_cons (c : Nat) (r : Str) (h : (isWs c || isDelim c) = true) : Terminated (c :: r) :=
  Or.inr ⟨c, r, rfl, h⟩

theorem term_sep (us : Sep) (h : SepOk us) (X : Str) (hX : Terminated X) : Terminated (renderSep us ++ X) := by
  cases us with
  | nil => simpa [renderSep] using hX
  | cons u us => exact sep_terminated (u :: us) X h (by simp)

theorem term_trail (trail : Sep) (ht : SepOk trail) : Terminated (renderSep trail) := by
  simpa using term_sep trail ht [] (Or.inl rfl)

/-- a spelling that starts with a regular character: its separator is non-empty where one is needed -/
theorem regular_form (so : SObj) (need : Bool) (hv : so.Valid need) (h : so.startsRegular = true) :
    ∃ pre body, so.render = renderSep pre ++ body ∧ SepOk pre ∧ (need = true → pre ≠ []) := by
  cases so with
  | null pre => exact ⟨pre, _, rfl, hv.1, hv.2⟩
  | bool pre b => exact ⟨pre, _, rfl, hv.1, hv.2⟩
  | int pre plus z i => exact ⟨pre, _, rfl, hv.1, hv.2.1⟩
  | real pre r => exact ⟨pre, _, rfl, hv.1, hv.2.1⟩
  | ref pre n g s1 s2 => exact ⟨pre, _, rfl, hv.1, hv.2.1⟩
  | _ => cases h

/-- any other spelling is its separator followed by one of the delimiters `(`, `<`, `/`, `[` -/
theorem delim_form (so : SObj) (need : Bool) (hv : so.Valid need) (h : so.startsRegular = false) :
    ∃ pre c t, so.render = renderSep pre ++ c :: t ∧ SepOk pre ∧ (c = 40 ∨ c = 60 ∨ c = 47 ∨ c = 91) := by
  cases so with
  | lit pre ps => exact ⟨pre, 40, _, rfl, hv.1, by decide⟩
  | hex pre ps last w => exact ⟨pre, 60, _, rfl, hv.1, by decide⟩
  | name pre ps => exact ⟨pre, 47, _, rfl, hv.1, by decide⟩
  | arr pre items close => exact ⟨pre, 91, _, rfl, hv.1, by decide⟩
  | dict pre kvs close => exact ⟨pre, 60, _, rfl, hv.1, by decide⟩
  | _ => cases h

theorem term_obj (so : SObj) (need : Bool) (hv : so.Valid need) (X : Str)
    (h : need = true ∨ so.startsRegular = false) : Terminated (so.render ++ X) := by
  cases hr : so.startsRegular with
  | true =>
    obtain ⟨pre, body, e, hp, hne⟩ := regular_form so need hv hr
    rw [e, List.append_assoc]
    exact sep_terminated pre _ hp (hne (h.resolve_right (by simp [hr])))
  | false =>
    obtain ⟨pre, c, t, e, hp, hc⟩ := delim_form so need hv hr
    rw [e, List.append_assoc]
    exact term_sep pre hp _ (term_cons c _ (by rcases hc with rfl | rfl | rfl | rfl <;> decide))

theorem term_list (xs : List SObj) (hv : ValidList true xs) (T : Str) (hT : Terminated T) :
    Terminated (renderList xs ++ T) := by
  cases xs with
  | nil => simpa [renderList] using hT
  | cons x xs =>
    simp only [renderList, List.append_assoc]
    exact term_obj x true hv.1 _ (Or.inl rfl)

/-- after an item that ends in a regular character, what follows in the list ends that token -/
theorem term_after (x : SObj) (xs : List SObj) (need : Bool) (hv : ValidList need (x :: xs)) (T : Str)
    (hT : Terminated T) (he : x.endsRegular = true) : Terminated (renderList xs ++ T) := by
  have hv2 := hv.2
  rw [he] at hv2
  exact term_list xs hv2 T hT

/-- a token that starts an object -/
def ObjTok (t : Token) : Prop := t ≠ .ref ∧ t ≠ .arrEnd ∧ t ≠ .dictEnd ∧ t ≠ .eof

theorem firstNotR_of_starts {inp : Str} {t : Token} {r : Str} (h : Starts inp t r) (ht : t ≠ .ref) :
    FirstNotR inp := by
  unfold FirstNotR
  rw [h.cur]
  intro e
  cases e
  exact ht rfl

theorem noRefAhead_of_starts {inp : Str} {t : Token} {r : Str} (h : Starts inp t r)
    (ht : ∀ v, t = .integer v → FirstNotR r) : NoRefAhead inp := by
  intro vb b hc _
  rw [h.cur] at hc
  cases hc
  rw [h.peek]
  exact ht vb rfl

theorem obj_first (so : SObj) (need : Bool) (hv : so.Valid need) (rest : Str)
    (hterm : so.endsRegular = true → Terminated rest) :
    ∃ t r, Starts (so.render ++ rest) t r ∧ ObjTok t ∧ (∀ v, t = .integer v → FirstNotR rest → FirstNotR r) := by
  cases so with
  | null pre =>
    simp only [SObj.render, List.append_assoc]
    exact ⟨_, _, starts_kw pre kwNull rest hv.1 (Or.inl rfl) (hterm rfl),
      by simp [ObjTok], by intro v h; cases h⟩
  | bool pre b =>
    simp only [SObj.render, List.append_assoc]
    cases b with
    | true =>
      exact ⟨_, _, starts_kw pre kwTrue rest hv.1 (Or.inr (Or.inl rfl)) (hterm rfl),
        by simp [ObjTok], by intro v h; cases h⟩
    | false =>
      exact ⟨_, _, starts_kw pre kwFalse rest hv.1 (Or.inr (Or.inr rfl)) (hterm rfl),
        by simp [ObjTok], by intro v h; cases h⟩
  | int pre plus z i =>
    simp only [SObj.render, List.append_assoc]
    exact ⟨_, _, starts_int pre plus z i rest hv.1 (hterm rfl),
      by simp [ObjTok], fun _ _ h => h⟩
  | real pre r =>
    simp only [SObj.render, List.append_assoc]
    exact ⟨_, _, starts_real pre r rest hv.1 hv.2.2 (hterm rfl),
      by simp [ObjTok], by intro v h; cases h⟩
  | lit pre ps =>
    simp only [SObj.render, List.append_assoc]
    exact ⟨_, _, starts_lit pre ps rest hv.1 hv.2,
      by simp [ObjTok], by intro v h; cases h⟩
  | hex pre ps last w =>
    simp only [SObj.render, List.append_assoc]
    obtain ⟨ds, hs, _⟩ := starts_hex pre ps last w rest hv.1 hv.2.1 hv.2.2.1 hv.2.2.2
    exact ⟨_, _, hs, by simp [ObjTok], by intro v h; cases h⟩
  | name pre ps =>
    simp only [SObj.render, List.append_assoc, List.cons_append]
    exact ⟨_, _, starts_name pre ps rest hv.1 hv.2 (hterm rfl),
      by simp [ObjTok], by intro v h; cases h⟩
  | arr pre items close =>
    simp only [SObj.render, List.append_assoc, List.cons_append]
    exact ⟨_, _, starts_arrStart pre _ hv.1,
      by simp [ObjTok], by intro v h; cases h⟩
  | dict pre kvs close =>
    simp only [SObj.render, List.append_assoc, List.cons_append]
    exact ⟨_, _, starts_dictStart pre _ hv.1,
      by simp [ObjTok], by intro v h; cases h⟩
  | ref pre n g s1 s2 =>
    obtain ⟨hp, _, hs1, hn1, hs2, hn2, _, _⟩ := hv
    simp only [SObj.render, List.append_assoc, List.cons_append, List.nil_append]
    have hT2 : Terminated (renderSep s2 ++ 82 :: rest) := sep_terminated s2 _ hs2 hn2
    have hT1 : Terminated (renderSep s1 ++ (dec g ++ (renderSep s2 ++ 82 :: rest))) :=
      sep_terminated s1 _ hs1 hn1
    have h2 := starts_dec s1 g _ hs1 hT2
    exact ⟨_, _, starts_dec pre n _ hp hT1, by simp [ObjTok],
      fun _ _ _ => firstNotR_of_starts h2 (by simp)⟩

theorem firstNotR_obj (so : SObj) (need : Bool) (hv : so.Valid need) (rest : Str)
    (hterm : so.endsRegular = true → Terminated rest) : FirstNotR (so.render ++ rest) := by
  obtain ⟨t, r, hs, ht, _⟩ := obj_first so need hv rest hterm
  exact firstNotR_of_starts hs ht.1

theorem noRefAhead_obj (so : SObj) (need : Bool) (hv : so.Valid need) (rest : Str)
    (hterm : so.endsRegular = true → Terminated rest) (hnr : FirstNotR rest) :
    NoRefAhead (so.render ++ rest) := by
  obtain ⟨t, r, hs, _, h3⟩ := obj_first so need hv rest hterm
  exact noRefAhead_of_starts hs (fun v hv' => h3 v hv' hnr)

theorem firstNotR_list (xs : List SObj) (need : Bool) (hv : ValidList need xs) (T : Str)
    (hT : Terminated T) (hT1 : FirstNotR T) : FirstNotR (renderList xs ++ T) := by
  cases xs with
  | nil => simpa [renderList] using hT1
  | cons x xs =>
    simp only [renderList, List.append_assoc]
    exact firstNotR_obj x need hv.1 _ (term_after x xs need hv T hT)

theorem noRefAhead_list (xs : List SObj) (need : Bool) (hv : ValidList need xs) (T : Str)
    (hT : Terminated T) (hT1 : FirstNotR T) (hT2 : NoRefAhead T) : NoRefAhead (renderList xs ++ T) := by
  cases xs with
  | nil => simpa [renderList] using hT2
  | cons x xs =>
    simp only [renderList, List.append_assoc]
    exact noRefAhead_obj x need hv.1 _ (term_after x xs need hv T hT) (firstNotR_list xs _ hv.2 T hT hT1)

/-- key, value, key, value, … is a legally spelled list, whatever precedes it: a key is a name, which
needs no separator in front and ends in a regular character -/
theorem validList_of_kvs (kvs : List SObj) (hv : ValidKVs kvs) (need : Bool) : ValidList need kvs := by
  match kvs, hv with
  | [], _ => trivial
  | [_], hv => simp [ValidKVs] at hv
  | k :: v :: r, ⟨hk, hkv, hvv, hr⟩ =>
    have ih := validList_of_kvs r hr v.endsRegular
    cases k with
    | name pre ps => exact ⟨hkv, hvv, ih⟩
    | _ => cases hk

theorem kvs_terminated (kvs : List SObj) (hv : ValidKVs kvs) (T : Str) (hT : Terminated T) :
    Terminated (renderList kvs ++ T) :=
  term_list kvs (validList_of_kvs kvs hv true) T hT

theorem po_kw (f d : Nat) (s : PState) (v : Str) (h : s.cur = some (.keyword v)) :
    parseObject (f + 1) d s =
      (if v = kwNull then .ok (.null, s.next)
       else if v = kwTrue then .ok (.bool true, s.next)
       else if v = kwFalse then .ok (.bool false, s.next)
       else .error .err) := by
  rw [parseObject]; simp only [h]

theorem po_int (f d : Nat) (s : PState) (v : Str) (h : s.cur = some (.integer v)) :
    parseObject (f + 1) d s = parseNumber s v := by
  rw [parseObject]; simp only [h]

theorem po_real (f d : Nat) (s : PState) (v : Str) (o : Obj) (h : s.cur = some (.real v))
    (hp : parseReal v = some o) :
    parseObject (f + 1) d s = .ok (o, s.next) := by
  rw [parseObject]; simp only [h, hp]

theorem po_str (f d : Nat) (s : PState) (v : Str) (h : s.cur = some (.str v)) :
    parseObject (f + 1) d s = .ok (.str v, s.next) := by
  rw [parseObject]; simp only [h]

theorem po_hex (f d : Nat) (s : PState) (v : Str) (h : s.cur = some (.hexstr v)) :
    parseObject (f + 1) d s = .ok (.str (hexPairs v), s.next) := by
  rw [parseObject]; simp only [h]

theorem po_name (f d : Nat) (s : PState) (v : Str) (h : s.cur = some (.name v)) :
    parseObject (f + 1) d s = .ok (.name v, s.next) := by
  rw [parseObject]; simp only [h]

theorem po_arr (f d : Nat) (s : PState) (h : s.cur = some .arrStart) (hd : d < maxNestingDepth) :
    parseObject (f + 1) d s = parseArray f (d + 1) s.next [] := by
  rw [parseObject]; simp only [h, Nat.not_le.2 hd, if_false]

theorem po_arr_deep (f d : Nat) (s : PState) (h : s.cur = some .arrStart) (hd : maxNestingDepth ≤ d) :
    parseObject (f + 1) d s = .error .err := by
  rw [parseObject]; simp only [h, hd, if_true]

theorem po_dict (f d : Nat) (s : PState) (h : s.cur = some .dictStart) (hd : d < maxNestingDepth) :
    parseObject (f + 1) d s = parseDict f (d + 1) s.next [] := by
  rw [parseObject]; simp only [h, Nat.not_le.2 hd, if_false]

theorem po_dict_deep (f d : Nat) (s : PState) (h : s.cur = some .dictStart) (hd : maxNestingDepth ≤ d) :
    parseObject (f + 1) d s = .error .err := by
  rw [parseObject]; simp only [h, hd, if_true]

theorem pa_end (f d : Nat) (s : PState) (acc : List Obj) (h : s.cur = some .arrEnd) :
    parseArray (f + 1) d s acc = .ok (.arr acc, s.next) := by
  rw [parseArray]; simp only [h]

theorem pd_end (f d : Nat) (s : PState) (acc : List (Str × Obj)) (h : s.cur = some .dictEnd) :
    parseDict (f + 1) d s acc = .ok (.dict acc, s.next) := by
  rw [parseDict]; simp only [h]

/-- the dictionary loop on a key: the value is read, for both outcomes -/
theorem pd_step (f d : Nat) (s : PState) (acc : List (Str × Obj)) (k : Str) (h : s.cur = some (.name k)) :
    parseDict (f + 1) d s acc =
      match parseObject f d s.next with
      | .error _ => .error .err
      | .ok (o, s') => parseDict f d s' (dictSet acc k o) := by
  rw [parseDict]; simp only [h]; rfl

/-- an integer not followed by `integer R` -/
theorem pn_int (s : PState) (v : Str) (a : Int) (rest : Str) (ha : atoi v = some a)
    (hn : s.next = stateAt rest) (hpk : s.peek = (stateAt rest).cur) (hnra : NoRefAhead rest) :
    parseNumber s v = .ok (.int a, stateAt rest) := by
  unfold parseNumber
  simp only [ha, hpk, hn]
  cases hc : (stateAt rest).cur with
  | none => rfl
  | some t =>
    cases t with
    | integer v2 =>
      cases hb : atoi v2 with
      | none => simp only [hb]
      | some b =>
        have := hnra v2 b hc hb
        simp only [hb]
    | _ => rfl

/-- `integer integer R` -/
theorem pn_ref (s : PState) (v v2 : Str) (a b : Int) (ha : atoi v = some a)
    (hpk : s.peek = some (.integer v2)) (hb : atoi v2 = some b) (hr : s.next.peek = some .ref) :
    parseNumber s v = .ok (.ref a b, s.next.next.next) := by
  unfold parseNumber
  simp only [ha, hpk, hb, hr]

theorem keysOf_eq (kvs : List SObj) : keysOf kvs = (valueKVs kvs).map Prod.fst := by
  match kvs with
  | [] | [_] => rfl
  | k :: v :: r => simp only [keysOf, valueKVs, List.map_cons, keysOf_eq r]

/-- a spelled dictionary with pairwise distinct keys denotes the written pairs -/
theorem assignAll_valueKVs (kvs : List SObj) (h : (keysOf kvs).Nodup) :
    C06More.assignAll [] (valueKVs kvs) = valueKVs kvs := by
  rw [assignAll_fresh _ [] (keysOf_eq kvs ▸ h) (by simp), List.nil_append]

theorem size_pos (so : SObj) : 1 ≤ so.size := by
  cases so <;> simp only [SObj.size] <;> omega

/-- the test shared by the list loops: the head and the tail fit under the limit -/
theorem fits_cons (d a b : Nat) :
    d + max a b ≤ maxNestingDepth ↔ d + a ≤ maxNestingDepth ∧ d + b ≤ maxNestingDepth := by
  omega

/-- the eight kinds of object that open no container: one token (three for a reference), no recursion -/
theorem scalar_rt (so : SObj) (need : Bool) (rest : Str) (f d : Nat) (hv : so.Valid need) (h0 : so.depth = 0)
    (hterm : so.endsRegular = true → Terminated rest) (hnra : NoRefAhead rest) :
    parseObject (f + 1) d (stateAt (so.render ++ rest)) = .ok (so.value, stateAt rest) := by
  cases so with
  | null pre =>
    simp only [SObj.render, List.append_assoc, SObj.value]
    have hs := starts_kw pre kwNull rest hv.1 (Or.inl rfl) (hterm rfl)
    rw [po_kw f d _ _ hs.cur, hs.next, if_pos rfl]
  | bool pre b =>
    simp only [SObj.render, List.append_assoc, SObj.value]
    cases b with
    | true =>
      have hs := starts_kw pre kwTrue rest hv.1 (Or.inr (Or.inl rfl)) (hterm rfl)
      rw [if_pos rfl, po_kw f d _ _ hs.cur, hs.next, if_neg (by decide), if_pos rfl]
    | false =>
      have hs := starts_kw pre kwFalse rest hv.1 (Or.inr (Or.inr rfl)) (hterm rfl)
      rw [if_neg (by decide), po_kw f d _ _ hs.cur, hs.next, if_neg (by decide), if_neg (by decide), if_pos rfl]
  | int pre plus z i =>
    simp only [SObj.render, List.append_assoc, SObj.value]
    have hs := starts_int pre plus z i rest hv.1 (hterm rfl)
    rw [po_int f d _ _ hs.cur]
    exact pn_int _ _ i rest (atoi_printInt plus z i hv.2.2.1 hv.2.2.2) hs.next hs.peek hnra
  | real pre r =>
    simp only [SObj.render, List.append_assoc, SObj.value]
    have hs := starts_real pre r rest hv.1 hv.2.2 (hterm rfl)
    rw [po_real f d _ _ _ hs.cur (parseReal_render r hv.2.2), hs.next]
  | lit pre ps =>
    simp only [SObj.render, List.append_assoc, SObj.value]
    have hs := starts_lit pre ps rest hv.1 hv.2
    rw [po_str f d _ _ hs.cur, hs.next]
  | hex pre ps last w =>
    simp only [SObj.render, List.append_assoc, SObj.value]
    obtain ⟨ds, hs, hd⟩ := starts_hex pre ps last w rest hv.1 hv.2.1 hv.2.2.1 hv.2.2.2
    rw [po_hex f d _ _ hs.cur, hs.next, hd]
  | name pre ps =>
    simp only [SObj.render, List.append_assoc, List.cons_append, SObj.value]
    have hs := starts_name pre ps rest hv.1 hv.2 (hterm rfl)
    rw [po_name f d _ _ hs.cur, hs.next]
  | ref pre n g s1 s2 =>
    obtain ⟨hp, _, hs1, hn1, hs2, hn2, hn, hg⟩ := hv
    simp only [SObj.render, List.append_assoc, List.cons_append, List.nil_append, SObj.value]
    have hT2 : Terminated (renderSep s2 ++ 82 :: rest) := sep_terminated s2 _ hs2 hn2
    have hT1 : Terminated (renderSep s1 ++ (dec g ++ (renderSep s2 ++ 82 :: rest))) :=
      sep_terminated s1 _ hs1 hn1
    have h3 := starts_R s2 rest hs2 (hterm rfl)
    have h2 := starts_dec s1 g _ hs1 hT2
    have h1 := starts_dec pre n _ hp hT1
    rw [po_int f d _ _ h1.cur,
      pn_ref _ _ (dec g) n g (Tabula.A1.atoi_dec n hn) (by rw [h1.peek, h2.cur]) (Tabula.A1.atoi_dec g hg)
        (by rw [h1.next, h2.peek, h3.cur]),
      h1.next, h2.next, h3.next]
  | arr pre items close => simp only [SObj.depth] at h0; omega
  | dict pre kvs close => simp only [SObj.depth] at h0; omega

/- One induction for both sides of the nesting limit: the loops read members that fit with `obj_rt`,
and the first container that would be number `maxNestingDepth + 1` fails (`obj_deep`); the failure
is handed up through every open container. -/
mutual
theorem obj_rt (so : SObj) (need : Bool) (rest : Str) (f d : Nat)
    (hv : so.Valid need) (hf : so.size ≤ f) (hd : d + so.depth ≤ maxNestingDepth)
    (hterm : so.endsRegular = true → Terminated rest) (hnra : NoRefAhead rest) :
    parseObject f d (stateAt (so.render ++ rest)) = .ok (so.value, stateAt rest) := by
  have := size_pos so
  obtain ⟨f, rfl⟩ : ∃ f', f = f' + 1 := ⟨f - 1, by omega⟩
  cases so with
  | arr pre items close =>
    simp only [SObj.size] at hf
    simp only [SObj.depth] at hd
    simp only [SObj.render, List.append_assoc, List.cons_append, SObj.value, List.nil_append]
    have hs := starts_arrStart pre (renderList items ++ (renderSep close ++ 93 :: rest)) hv.1
    rw [po_arr f d _ hs.cur (by omega), hs.next,
      arr_run items false close rest f (d + 1) [] hv.2.2 hv.2.1 (by omega) (by omega), if_pos (by omega)]
    rfl
  | dict pre kvs close =>
    simp only [SObj.size] at hf
    simp only [SObj.depth] at hd
    simp only [SObj.render, List.append_assoc, List.cons_append, SObj.value, List.nil_append]
    have hs := starts_dictStart pre (renderList kvs ++ (renderSep close ++ 62 :: 62 :: rest)) hv.1
    rw [po_dict f d _ hs.cur (by omega), hs.next,
      dict_run kvs close rest f (d + 1) [] hv.2.2.1 hv.2.1 (by omega) (by omega), if_pos (by omega),
      assignAll_valueKVs kvs hv.2.2.2]
  | _ => exact scalar_rt _ need rest f d hv rfl hterm hnra
theorem obj_deep (so : SObj) (need : Bool) (rest : Str) (f d : Nat)
    (hv : so.Valid need) (hf : so.size ≤ f) (hd : d ≤ maxNestingDepth)
    (hdeep : maxNestingDepth < d + so.depth) :
    parseObject f d (stateAt (so.render ++ rest)) = .error .err := by
  have := size_pos so
  obtain ⟨f, rfl⟩ : ∃ f', f = f' + 1 := ⟨f - 1, by omega⟩
  cases so with
  | arr pre items close =>
    simp only [SObj.size] at hf
    simp only [SObj.depth] at hdeep
    simp only [SObj.render, List.append_assoc, List.cons_append, List.nil_append]
    have hs := starts_arrStart pre (renderList items ++ (renderSep close ++ 93 :: rest)) hv.1
    by_cases hlim : maxNestingDepth ≤ d
    · exact po_arr_deep f d _ hs.cur hlim
    · rw [po_arr f d _ hs.cur (by omega), hs.next,
        arr_run items false close rest f (d + 1) [] hv.2.2 hv.2.1 (by omega) (by omega), if_neg (by omega)]
  | dict pre kvs close =>
    simp only [SObj.size] at hf
    simp only [SObj.depth] at hdeep
    simp only [SObj.render, List.append_assoc, List.cons_append, List.nil_append]
    have hs := starts_dictStart pre (renderList kvs ++ (renderSep close ++ 62 :: 62 :: rest)) hv.1
    by_cases hlim : maxNestingDepth ≤ d
    · exact po_dict_deep f d _ hs.cur hlim
    · rw [po_dict f d _ hs.cur (by omega), hs.next,
        dict_run kvs close rest f (d + 1) [] hv.2.2.1 hv.2.1 (by omega) (by omega), if_neg (by omega)]
  | _ => simp only [SObj.depth] at hdeep; omega  -- only containers have a positive depth
theorem arr_run (items : List SObj) (need : Bool) (close : Sep) (rest : Str) (f d : Nat) (acc : List Obj)
    (hv : ValidList need items) (hc : SepOk close) (hf : sizeList items + 1 ≤ f)
    (hd : d ≤ maxNestingDepth) :
    parseArray f d (stateAt (renderList items ++ (renderSep close ++ 93 :: rest))) acc =
      if d + sdepthList items ≤ maxNestingDepth then .ok (.arr (acc ++ valueList items), stateAt rest)
      else .error .err := by
  obtain ⟨f, rfl⟩ : ∃ f', f = f' + 1 := ⟨f - 1, by omega⟩
  have hE := starts_arrEnd close rest hc
  match items with
  | [] =>
    simp only [renderList, List.nil_append, valueList, List.append_nil]
    rw [if_pos (show d + sdepthList [] ≤ maxNestingDepth from hd), pa_end f d _ acc hE.cur, hE.next]
  | x :: xs =>
    simp only [sizeList] at hf
    simp only [renderList, List.append_assoc, valueList]
    rw [show sdepthList (x :: xs) = max x.depth (sdepthList xs) from rfl]
    have hT : Terminated (renderSep close ++ 93 :: rest) := term_sep close hc _ (term_cons 93 _ (by decide))
    have hT1 : FirstNotR (renderSep close ++ 93 :: rest) := firstNotR_of_starts hE (by simp)
    have hT2 : NoRefAhead (renderSep close ++ 93 :: rest) :=
      noRefAhead_of_starts hE (by intro v h; cases h)
    have hterm := term_after x xs need hv _ hT
    obtain ⟨t, r, hs, ht, _⟩ := obj_first x need hv.1 _ hterm
    by_cases hx : d + x.depth ≤ maxNestingDepth
    · have hx' := obj_rt x need _ f d hv.1 (by omega) hx hterm (noRefAhead_list xs _ hv.2 _ hT hT1 hT2)
      simp only [parseArray_step hs.cur ht.2.1 ht.2.2.2, hx']
      rw [arr_run xs x.endsRegular close rest f d (acc ++ [x.value]) hv.2 hc (by omega) hd]
      simp only [fits_cons, hx, true_and, List.append_assoc, List.singleton_append]
    · have hx' := obj_deep x need (renderList xs ++ (renderSep close ++ 93 :: rest)) f d hv.1 (by omega) hd
        (by omega)
      simp only [parseArray_step hs.cur ht.2.1 ht.2.2.2, hx']
      rw [if_neg (by omega)]
/-- the dictionary loop on legally spelled key/value pairs, keys repeated or not: the written pairs are
assigned in order -/
theorem dict_run (kvs : List SObj) (close : Sep) (rest : Str) (f d : Nat) (acc : List (Str × Obj))
    (hv : ValidKVs kvs) (hc : SepOk close) (hf : sizeList kvs + 1 ≤ f) (hd : d ≤ maxNestingDepth) :
    parseDict f d (stateAt (renderList kvs ++ (renderSep close ++ 62 :: 62 :: rest))) acc =
      if d + sdepthList kvs ≤ maxNestingDepth then
        .ok (.dict (C06More.assignAll acc (valueKVs kvs)), stateAt rest)
      else .error .err := by
  obtain ⟨f, rfl⟩ : ∃ f', f = f' + 1 := ⟨f - 1, by omega⟩
  have hE := starts_dictEnd close rest hc
  match kvs with
  | [] =>
    simp only [renderList, List.nil_append, valueKVs]
    rw [if_pos (show d + sdepthList [] ≤ maxNestingDepth from hd), pd_end f d _ acc hE.cur, hE.next]
    rfl
  | [_] => simp [ValidKVs] at hv
  | k :: v :: kvs' =>
    obtain ⟨hkn, hkv, hvv, hv'⟩ := hv
    simp only [sizeList] at hf
    match k, hkn, hkv with
    | .name pre ps, _, hkv =>
      simp only [renderList, SObj.render, List.append_assoc, List.cons_append, valueKVs, SObj.keyBytes]
      rw [show sdepthList (SObj.name pre ps :: v :: kvs') = max 0 (max v.depth (sdepthList kvs')) from rfl,
        Nat.zero_max]
      have hT : Terminated (renderSep close ++ 62 :: 62 :: rest) :=
        term_sep close hc _ (term_cons 62 _ (by decide))
      have hT1 : FirstNotR (renderSep close ++ 62 :: 62 :: rest) := firstNotR_of_starts hE (by simp)
      have hT2 : NoRefAhead (renderSep close ++ 62 :: 62 :: rest) :=
        noRefAhead_of_starts hE (by intro v h; cases h)
      have hA := kvs_terminated kvs' hv' _ hT
      have hC := noRefAhead_list kvs' true (validList_of_kvs kvs' hv' true) _ hT hT1 hT2
      have hY : Terminated (v.render ++ (renderList kvs' ++ (renderSep close ++ 62 :: 62 :: rest))) :=
        term_obj v true hvv _ (Or.inl rfl)
      have hs := starts_name pre ps _ hkv.1 hkv.2 hY
      by_cases hx : d + v.depth ≤ maxNestingDepth
      · have hx' := obj_rt v true _ f d hvv (by omega) hx (fun _ => hA) hC
        rw [← hs.next] at hx'
        simp only [pd_step f d _ acc _ hs.cur, hx']
        rw [dict_run kvs' close rest f d _ hv' hc (by omega) hd]
        simp only [fits_cons, hx, true_and]
        rfl
      · have hx' := obj_deep v true (renderList kvs' ++ (renderSep close ++ 62 :: 62 :: rest)) f d hvv (by omega) hd
          (by omega)
        rw [← hs.next] at hx'
        simp only [pd_step f d _ acc _ hs.cur, hx']
        rw [if_neg (by omega)]
end

theorem arr_rt (items : List SObj) (need : Bool) (close : Sep) (rest : Str) (f d : Nat) (acc : List Obj)
    (hv : ValidList need items) (hc : SepOk close) (hf : sizeList items + 1 ≤ f)
    (hd : d + sdepthList items ≤ maxNestingDepth) :
    parseArray f d (stateAt (renderList items ++ (renderSep close ++ 93 :: rest))) acc =
      .ok (.arr (acc ++ valueList items), stateAt rest) := by
  rw [arr_run items need close rest f d acc hv hc hf (by omega), if_pos hd]

theorem arr_deep (items : List SObj) (need : Bool) (close : Sep) (rest : Str) (f d : Nat) (acc : List Obj)
    (hv : ValidList need items) (hc : SepOk close) (hf : sizeList items + 1 ≤ f)
    (hd : d ≤ maxNestingDepth) (hdeep : maxNestingDepth < d + sdepthList items) :
    parseArray f d (stateAt (renderList items ++ (renderSep close ++ 93 :: rest))) acc = .error .err := by
  rw [arr_run items need close rest f d acc hv hc hf hd, if_neg (by omega)]

theorem dict_deep (kvs : List SObj) (close : Sep) (rest : Str) (f d : Nat) (acc : List (Str × Obj))
    (hv : ValidKVs kvs) (hc : SepOk close)
    (hnd : (keysOf kvs).Nodup) (hfr : ∀ k ∈ keysOf kvs, k ∉ acc.map Prod.fst)
    (hf : sizeList kvs + 1 ≤ f) (hd : d ≤ maxNestingDepth)
    (hdeep : maxNestingDepth < d + sdepthList kvs) :
    parseDict f d (stateAt (renderList kvs ++ (renderSep close ++ 62 :: 62 :: rest))) acc = .error .err := by
  have _ := hnd
  have _ := hfr
  rw [dict_run kvs close rest f d acc hv hc hf hd, if_neg (by omega)]

theorem printInt_len (plus : Bool) (z : Nat) (i : Int) : 1 ≤ (printInt plus z i).length := by
  obtain ⟨d, ds, h, _⟩ := Tabula.A1.dec_head i.natAbs
  unfold printInt
  rw [h]
  simp only [List.length_append, List.length_cons]
  omega

theorem realSp_len (r : RealSp) : 1 ≤ r.render.length := by
  simp only [RealSp.render, List.length_append, List.length_cons]
  omega

mutual
theorem size_le (so : SObj) : so.size + 1 ≤ 3 * so.render.length := by
  match so with
  | .null pre => simp [SObj.size, SObj.render, kwNull]; omega
  | .bool pre b => cases b <;> simp [SObj.size, SObj.render, kwTrue, kwFalse] <;> omega
  | .int pre plus z i =>
    have := printInt_len plus z i
    simp only [SObj.size, SObj.render, List.length_append]; omega
  | .real pre r =>
    have := realSp_len r
    simp only [SObj.size, SObj.render, List.length_append]; omega
  | .lit pre ps => simp [SObj.size, SObj.render, renderStr]; omega
  | .hex pre ps last w => simp [SObj.size, SObj.render, renderHex]; omega
  | .name pre ps => simp [SObj.size, SObj.render]; omega
  | .arr pre items close =>
    have := sizeList_le items
    simp only [SObj.size, SObj.render, List.length_append, List.length_cons, List.length_nil]; omega
  | .dict pre kvs close =>
    have := sizeList_le kvs
    simp only [SObj.size, SObj.render, List.length_append, List.length_cons, List.length_nil]; omega
  | .ref pre n g s1 s2 =>
    obtain ⟨d, ds, h, _⟩ := Tabula.A1.dec_head n
    simp only [SObj.size, SObj.render, List.length_append, h, List.length_cons]; omega
theorem sizeList_le (xs : List SObj) : sizeList xs ≤ 3 * (renderList xs).length := by
  match xs with
  | [] => simp [sizeList]
  | x :: xs =>
    have h1 := size_le x
    have h2 := sizeList_le xs
    simp only [sizeList, renderList, List.length_append]; omega
end

/-- every object is spelled with at least one byte -/
theorem length_le (xs : List SObj) : xs.length ≤ (renderList xs).length := by
  induction xs with
  | nil => simp
  | cons y ys ih =>
    have := size_le y
    simp only [renderList, List.length_append, List.length_cons]; omega

end Prs

/-- one object, any legal spelling, nested at most as deep as `p.depth` leaves room for: the parser
returns the value meant and stands exactly on what follows -/
theorem parse_roundtrip (so : SObj) (need : Bool) (rest : Str) (f d : Nat)
    (hv : so.Valid need) (hf : so.size ≤ f) (hd : d + so.value.depth ≤ maxNestingDepth)
    (hterm : so.endsRegular = true → Terminated rest)
    (hnr : FirstNotR rest) (hnra : NoRefAhead rest) :
    parseObject f d (stateAt (so.render ++ rest)) = .ok (so.value, stateAt rest) := by
  have _ := hnr
  rw [value_depth so need hv] at hd
  exact Prs.obj_rt so need rest f d hv hf hd hterm hnra

theorem fuelFor_enough (so : SObj) (trail : Sep) : so.size ≤ fuelFor (so.render ++ renderSep trail) := by
  have hsz := Prs.size_le so
  unfold fuelFor
  rw [List.length_append]
  omega

/-- `core.NewParser(r).ParseObject()` on any legal spelling of any object tree nested at most
`maxNestingDepth` deep, optionally followed by white space / comments -/
theorem core_roundtrip_spelled (so : SObj) (trail : Sep) (hv : so.Valid false) (ht : SepOk trail)
    (hd : so.value.depth ≤ maxNestingDepth) :
    coreParse (so.render ++ renderSep trail) = .ok (so.value, stateAt (renderSep trail)) := by
  have hE := Prs.starts_eof trail ht
  show parseObject (fuelFor (so.render ++ renderSep trail)) 0 (stateAt (so.render ++ renderSep trail)) = _
  exact parse_roundtrip so false (renderSep trail) _ 0 hv (fuelFor_enough so trail) (by omega) (fun _ => Prs.term_trail trail ht)
    (Prs.firstNotR_of_starts hE (by simp)) (Prs.noRefAhead_of_starts hE (by intro v h; cases h))

end Tabula.Pdf
