import TabulaModel.Lemmas.A1
/-!
One A1 reference printed and parsed (C17): what `CellRef` prints (letters `A`-`Z`, then digits, no colon),
`ParseCellRef` on letters followed by a byte that is no letter, the bounds of what parses, `strconv.Atoi`
on a printed integer, `ParseCellRef (CellRef col row)` for every pair of integers, and
`IndexToColumn (ColumnToIndex s)` for every upper-case letter string.
-/
namespace Tabula.A1

theorem isLetter_of_upperLetter {c : Nat} (h : 65 ≤ c ∧ c ≤ 90) : isLetter c = true := by
  unfold isLetter; simp; omega

theorem isLetter_of_digit {c : Nat} (h : 48 ≤ c ∧ c ≤ 57) : isLetter c = false := by
  unfold isLetter; simp; omega

theorem decInt_natCast (n : Nat) : decInt (n : Int) = dec n := by
  unfold decInt; rw [if_neg (by omega)]; rfl

theorem indexToColumn_natCast (col : Nat) : indexToColumn (col : Int) = toColAux (col + 1) [] := by
  unfold indexToColumn; rw [if_neg (by omega), Int.toNat_natCast]

/-- `ColumnToIndex` of the letters `IndexToColumn` prints: the index back, or -1 beyond the bound -/
theorem columnToIndex_toColAux (col : Nat) :
    columnToIndex (toColAux (col + 1) []) = if col + 1 ≤ maxColumnNumber then (col : Int) else -1 := by
  unfold columnToIndex
  rw [colAcc_toColAux]
  by_cases hb : col + 1 ≤ maxColumnNumber
  · rw [if_pos hb, if_pos hb]; simp
  · rw [if_neg hb, if_neg hb]

theorem cellRef_natCol (col : Nat) (row : Int) :
    cellRef (col : Int) row = toColAux (col + 1) [] ++ decInt (row + 1) := by
  unfold cellRef; rw [indexToColumn_natCast]

theorem cellRef_nat (col row : Nat) : cellRef (col : Int) (row : Int) = toColAux (col + 1) [] ++ dec (row + 1) := by
  rw [cellRef_natCol, show (row : Int) + 1 = ((row + 1 : Nat) : Int) by omega, decInt_natCast]

/-- **`ParseCellRef` on letters followed by a byte that is no letter**: the letters are the
column part, everything from that byte on is the row part -/
theorem parseCellRef_letters_append (ls : Str) (d : Nat) (ds : Str) (hls : ∀ c ∈ ls, isLetter c = true)
    (hne : ls ≠ []) (hd : isLetter d = false) :
    parseCellRef (ls ++ d :: ds) =
      if columnToIndex ls < 0 then .error .badCol else
      match atoi (d :: ds) with
      | none => .error .badRow
      | some rowNum => if rowNum < 1 then .error .badRow else .ok (columnToIndex ls, rowNum - 1) := by
  unfold parseCellRef
  rw [List.takeWhile_append_of_pos hls, List.dropWhile_append_of_pos hls,
    List.takeWhile_cons_of_neg (by simp [hd]), List.dropWhile_cons_of_neg (by simp [hd]), List.append_nil]
  cases ls with
  | nil => exact absurd rfl hne
  | cons a as => rfl

theorem takeWhile_letters (s : Str) : ∀ x ∈ s.takeWhile isLetter, isLetter x = true :=
  List.all_eq_true.mp List.all_takeWhile

theorem dropWhile_nil_letters (s : Str) (h : s.dropWhile isLetter = []) : ∀ x ∈ s, isLetter x = true := by
  have hs := List.takeWhile_append_dropWhile (p := isLetter) (l := s)
  rw [h, List.append_nil] at hs
  exact fun x hx => List.mem_takeWhile_imp (hs ▸ hx)

theorem cellRef_chars (col row : Nat) : ∀ c ∈ cellRef (col : Int) (row : Int), (65 ≤ c ∧ c ≤ 90) ∨ (48 ≤ c ∧ c ≤ 57) := by
  rw [cellRef_nat]
  intro c hc
  simp only [List.mem_append] at hc
  rcases hc with hc | hc
  · exact Or.inl (toColAux_letters _ c hc)
  · exact Or.inr (dec_all_digits _ c hc)

theorem cellRef_no_colon (col row : Nat) : 58 ∉ cellRef (col : Int) (row : Int) := by
  intro h
  rcases cellRef_chars col row 58 h with h | h <;> omega

theorem colAcc_le (s : Str) (a r : Nat) (ha : a ≤ maxColumnNumber) (h : colAcc s a = some r) :
    r ≤ maxColumnNumber := by
  induction s generalizing a with
  | nil => simp [colAcc] at h; omega
  | cons c cs ih =>
    simp only [colAcc] at h
    split at h
    · split at h
      · cases h
      · exact ih _ (by omega) h
    · cases h

theorem columnToIndex_range (s : Str) : columnToIndex s = -1 ∨
    (0 ≤ columnToIndex s + 1 ∧ columnToIndex s + 1 ≤ (maxColumnNumber : Int)) := by
  unfold columnToIndex
  cases h : colAcc s 0 with
  | none => exact Or.inl rfl
  | some r =>
    have := colAcc_le s 0 r (by decide) h
    refine Or.inr ⟨by simp only; omega, by simp only; omega⟩

theorem atoi_range (s : Str) (v : Int) (h : atoi s = some v) :
    -((maxInt64 : Int) + 1) ≤ v ∧ v ≤ (maxInt64 : Int) := by
  unfold atoi at h
  split at h
  rename_i neg ds heq
  split at h
  · cases h
  · split at h
    · cases h
    · rename_i w hw
      cases neg with
      | true =>
        simp only [if_true] at h
        split at h
        · cases h; omega
        · cases h
      | false =>
        simp only [Bool.false_eq_true, if_false] at h
        split at h
        · cases h; omega
        · cases h

theorem atoi_neg_dec (n : Nat) (h : n ≤ maxInt64 + 1) : atoi (45 :: dec n) = some (-(n : Int)) := by
  obtain ⟨d, ds, hd, h1, h2⟩ := dec_head n
  have hdig := digitsAcc_dec n
  unfold atoi
  simp only [hd] at hdig ⊢
  simp [hdig, h]

/-- `strconv.Atoi` reads back what `strconv.Itoa` prints, for every int64 -/
theorem atoi_decInt (z : Int) (hlo : -((maxInt64 : Int) + 1) ≤ z) (hhi : z ≤ (maxInt64 : Int)) :
    atoi (decInt z) = some z := by
  unfold decInt
  by_cases h : z < 0
  · rw [if_pos h, atoi_neg_dec _ (by omega)]
    congr 1
    omega
  · rw [if_neg h, atoi_dec _ (by omega)]
    congr 1
    omega

/-- a printed integer starts with a digit or a minus sign -/
theorem decInt_head (z : Int) : ∃ d ds, decInt z = d :: ds ∧ isLetter d = false := by
  unfold decInt
  split
  · exact ⟨45, _, rfl, by decide⟩
  · obtain ⟨d, ds, hd, hdig⟩ := dec_head z.natAbs
    exact ⟨d, ds, hd, isLetter_of_digit hdig⟩

/-- **`ParseCellRef (CellRef col row)` for every pair of integers** (`row + 1` an int64): no column
for a negative column (no letters are printed), the invalid-column error beyond the bound, the
invalid-row error for a negative row (the number printed is below 1), the pair otherwise -/
theorem parseCellRef_cellRef (col row : Int) (hlo : -((maxInt64 : Int) + 1) ≤ row + 1)
    (hhi : row + 1 ≤ (maxInt64 : Int)) :
    parseCellRef (cellRef col row) =
      if col < 0 then .error .noCol
      else if (maxColumnNumber : Int) < col + 1 then .error .badCol
      else if row < 0 then .error .badRow
      else .ok (col, row) := by
  obtain ⟨d, ds, hd, hld⟩ := decInt_head (row + 1)
  by_cases hc : col < 0
  · -- no letters are printed, and the number starts with a digit or a minus sign
    rw [if_pos hc]
    unfold cellRef indexToColumn
    rw [if_pos hc, List.nil_append, hd]
    unfold parseCellRef
    simp [hld]
  · -- letters, then the number, which `Atoi` reads back
    obtain ⟨cn, rfl⟩ : ∃ cn : Nat, col = (cn : Int) := ⟨col.toNat, by omega⟩
    rw [if_neg hc, cellRef_natCol, hd, parseCellRef_letters_append _ d ds
      (fun c hc => isLetter_of_upperLetter (toColAux_letters _ c hc)) (toColAux_ne_nil _ (by omega)) hld,
      ← hd, atoi_decInt _ hlo hhi, columnToIndex_toColAux]
    by_cases hb : cn + 1 ≤ maxColumnNumber
    · rw [if_pos hb, if_neg (by omega), if_neg (by omega : ¬ (maxColumnNumber : Int) < (cn : Int) + 1)]
      by_cases hr : row < 0
      · rw [if_pos hr]; exact if_pos (by omega)
      · rw [if_neg hr]
        exact (if_neg (by omega)).trans (by rw [Int.add_sub_cancel])
    · rw [if_neg hb, if_pos (by omega), if_pos (by omega)]

/-- `IndexToColumn (ColumnToIndex s) = s` for every upper-case letter string within the bound, the empty one included
(its index is -1, for which no letter is printed) -/
theorem indexToColumn_columnToIndex (s : Str) (hs : IsUpperCol s) (hb : colNumber s ≤ maxColumnNumber) :
    indexToColumn (columnToIndex s) = s := by
  obtain ⟨hacc, hpos, hcol⟩ := colAcc_upper s hs
  have hidx : columnToIndex s = (colNumber s : Int) - 1 := by
    unfold columnToIndex; rw [hacc, if_pos hb]
  rw [hidx]
  by_cases hne : s = []
  · subst hne; rfl
  · have h1 := hpos hne
    unfold indexToColumn
    rw [if_neg (by omega), show ((colNumber s : Int) - 1).toNat + 1 = colNumber s by omega, hcol]

/-- what `ParseCellRef` answers lies within the bounds of the code: read off the last two tests of the function -/
theorem parseCellRef_ok_bounds {s : Str} {c r : Int} (h : parseCellRef s = .ok (c, r)) :
    0 ≤ c ∧ c + 1 ≤ (maxColumnNumber : Int) ∧ 0 ≤ r ∧ r + 1 ≤ (maxInt64 : Int) := by
  have hc := columnToIndex_range (s.takeWhile isLetter)
  unfold parseCellRef at h
  by_cases h1 : s.isEmpty = true
  · rw [if_pos h1] at h; cases h
  by_cases h2 : (s.takeWhile isLetter).isEmpty = true
  · rw [if_neg h1, if_pos h2] at h; cases h
  by_cases h3 : (s.dropWhile isLetter).isEmpty = true
  · rw [if_neg h1, if_neg h2, if_pos h3] at h; cases h
  by_cases h4 : columnToIndex (s.takeWhile isLetter) < 0
  · rw [if_neg h1, if_neg h2, if_neg h3, if_pos h4] at h; cases h
  rw [if_neg h1, if_neg h2, if_neg h3, if_neg h4] at h
  cases hat : atoi (s.dropWhile isLetter) with
  | none => rw [hat] at h; cases h
  | some n =>
    have ha := atoi_range _ n hat
    rw [hat] at h; dsimp only at h
    by_cases h5 : n < 1
    · rw [if_pos h5] at h; cases h
    rw [if_neg h5] at h
    cases h
    omega
end Tabula.A1
