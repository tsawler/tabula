import TabulaModel.Lemmas.PdfCoreProgress
import TabulaModel.Lemmas.PdfLexPos
/-!
Error propagation in the document-level parser (core/parser.go after fixes 9c10aa6 and b66a22e), for
EVERY input: a lexical error is recorded once and never lost; from then on the parser sees the end of
input; arrays and dictionaries never turn an error (or a premature end) into a clean end of input;
a run of `ParseObject` calls ends with `io.EOF` only if every byte of the input was tokenized; and with the
keyword `stream` current every parse function fails.  Core Lean only.
-/
namespace Tabula.Pdf
namespace Errs
open Prog

/-- `(*Parser).nextToken` never clears a recorded error -/
theorem next_err (s : PState) (h : s.err = true) : s.next.err = true := by
  unfold PState.next
  split
  · exact h
  · rfl

/-- once a lexical error is recorded the lookahead slot holds `TokenEOF` -/
def ErrInv (s : PState) : Prop := s.err = true → s.peek = some .eof

theorem errInv_next (s : PState) (h : ErrInv s) : ErrInv s.next := by
  intro he
  unfold PState.next at he ⊢
  split
  · next hp =>
    rw [if_pos hp] at he
    have := h he
    rw [this] at hp
    cases hp
  · next hp =>
    rw [if_neg hp] at he
    split
    · rfl
    · split
      · rfl
      · next t r hl =>
        rw [if_neg (by assumption), hl] at he
        cases he

theorem errInv_stateAt (x : Str) : ErrInv (stateAt x) := by
  have h0 : ErrInv { cur := none, peek := none, inp := x, err := false } := by
    intro he; cases he
  exact errInv_next _ (errInv_next _ h0)

theorem parseNumber_no_eof (s : PState) (v : Str) : parseNumber s v ≠ .error .eof := by
  unfold parseNumber
  repeat' (first | split | (dsimp only; split))
  all_goals simp

/-- arrays and dictionaries never report a clean end of input -/
theorem containers_no_eof (f : Nat) :
    (∀ d s acc, parseArray f d s acc ≠ .error .eof) ∧ (∀ d s acc, parseDict f d s acc ≠ .error .eof) := by
  induction f with
  | zero =>
    refine ⟨?_, ?_⟩
    · intro d s acc; rw [parseArray]; simp
    · intro d s acc; rw [parseDict]; simp
  | succ f ih =>
    obtain ⟨ihA, ihD⟩ := ih
    refine ⟨?_, ?_⟩
    · intro d s acc
      rw [parseArray]
      cases hc : s.cur with
      | none => simp
      | some t =>
        have step : (match parseObject f d s with
            | .error _ => (.error .err : Except PErr (Obj × PState))
            | .ok (o, s') => parseArray f d s' (acc ++ [o])) ≠ .error .eof := by
          split
          · simp
          · exact ihA _ _ _
        cases t with
        | arrEnd => simp
        | eof => simp
        | _ => exact step
    · intro d s acc
      rw [parseDict]
      cases hc : s.cur with
      | none => simp
      | some t =>
        cases t with
        | dictEnd => simp
        | name k =>
          dsimp only
          split
          · simp
          · exact ihD _ _ _
        | _ => simp

/-- **`io.EOF` means exactly: the current token is `TokenEOF` and no lexical error is recorded** -/
theorem parseObject_eof_iff (f d : Nat) (s : PState) :
    parseObject (f + 1) d s = .error .eof ↔ s.cur = some .eof ∧ s.err = false := by
  rw [parseObject]
  constructor
  · intro h
    cases hc : s.cur with
    | none => rw [hc] at h; cases h
    | some t =>
      rw [hc] at h
      cases t with
      | eof =>
        dsimp only at h
        split at h
        · cases h
        · next he => exact ⟨rfl, by cases hh : s.err <;> simp_all⟩
      | keyword v => dsimp only at h; repeat' split at h
                     all_goals cases h
      | integer v => exact absurd h (parseNumber_no_eof s v)
      | real v => dsimp only at h; split at h <;> cases h
      | arrStart =>
        dsimp only at h
        split at h
        · cases h
        · exact absurd h ((containers_no_eof f).1 _ _ _)
      | dictStart =>
        dsimp only at h
        split at h
        · cases h
        · exact absurd h ((containers_no_eof f).2 _ _ _)
      | _ => cases h
  · intro ⟨hc, he⟩
    rw [hc]
    simp [he]

theorem parseObject_zero (d : Nat) (s : PState) : parseObject 0 d s = .error .err := by
  rw [parseObject]

/-- the lexer reaches the end of `inp` without an error (comments are tokens of the lexer) -/
inductive Tokenizes : Str → Prop
  | done {inp r : Str} : nextToken inp = some (.eof, r) → Tokenizes inp
  | step {inp r : Str} {t : Token} : nextToken inp = some (t, r) → t ≠ .eof → Tokenizes r → Tokenizes inp

theorem tokenizes_of_lexSkip (f : Nat) : ∀ (x : Str) (t : Token) (y : Str), lexSkip f x = some (t, y) →
    (t = .eof ∨ Tokenizes y) → Tokenizes x := by
  refine lexSkip_induction (P := fun x t y => (t = .eof ∨ Tokenizes y) → Tokenizes x) (fun x t y hn _ hy => ?_)
    (fun x v r t y hn ih hy => Tokenizes.step hn (by simp) (ih hy)) f
  by_cases he : t = .eof
  · exact Tokenizes.done (he ▸ hn)
  · exact Tokenizes.step hn he (hy.resolve_left he)

/-- if the first non-comment token is the end of input, the input tokenizes -/
theorem tokenizes_of_tok_eof (x r : Str) (h : tok x = some (.eof, r)) : Tokenizes x :=
  tokenizes_of_lexSkip _ x _ r h (Or.inl rfl)

/-- reading one more non-comment token: if the rest tokenizes, so does the whole -/
theorem tokenizes_of_tok (x y : Str) (t : Token) (h : tok x = some (t, y)) (hy : Tokenizes y) : Tokenizes x :=
  tokenizes_of_lexSkip _ x t y h (Or.inr hy)

/-- `y` is what is left of `x` after one or more complete tokens (none of them the end of input or the
keyword `stream`) -/
inductive Reach : Str → Str → Prop
  | one {x y : Str} {t : Token} : tok x = some (t, y) → t ≠ .eof → t ≠ .keyword kwStream → Reach x y
  | more {x r y : Str} {t : Token} : tok x = some (t, r) → t ≠ .eof → t ≠ .keyword kwStream → Reach r y → Reach x y

theorem Reach.trans {x y z : Str} (h1 : Reach x y) (h2 : Reach y z) : Reach x z := by
  induction h1 with
  | one h ht hs => exact Reach.more h ht hs h2
  | more h ht hs _ ih => exact Reach.more h ht hs (ih h2)

theorem Reach.tokenizes {x y : Str} (h : Reach x y) (hy : Tokenizes y) : Tokenizes x := by
  induction h with
  | one h _ _ => exact tokenizes_of_tok _ _ _ h hy
  | more h _ _ _ ih => exact tokenizes_of_tok _ _ _ h (ih hy)

theorem Reach.shorter {x y : Str} (h : Reach x y) : y <:+ x ∧ y.length < x.length := by
  induction h with
  | one h ht _ =>
    have := tok_progress _ _ _ h
    exact ⟨this.1, this.2.1 ht⟩
  | more h ht _ _ ih =>
    have := tok_progress _ _ _ h
    have h1 := this.2.1 ht
    exact ⟨List.IsSuffix.trans ih.1 this.1, by omega⟩

/-- `parseNumber`: the state afterwards is the window one token further, or (a reference) three -/
theorem parseNumber_land (x r : Str) (v : Str) (o : Obj) (s' : PState)
    (htok : tok x = some (.integer v, r))
    (h : parseNumber (stateAt x) v = .ok (o, s')) : ∃ y, s' = stateAt y ∧ Reach x y := by
  have hn : (stateAt x).next = stateAt r := stateAt_next x _ r htok (by simp)
  have hone : Reach x r := Reach.one htok (by simp) (by simp)
  rcases parseNumber_inv h with ⟨hs', _⟩ | ⟨n, v2, g, _, hpk, _, hpk2, _, hs'⟩
  · exact ⟨r, by rw [hs', hn], hone⟩
  · rw [hn] at hpk2 hs'
    obtain ⟨r2, htok2⟩ := peek_tok htok (by simp) hpk (by simp)
    obtain ⟨r3, htok3⟩ := peek_tok htok2 (by simp) hpk2 (by simp)
    rw [stateAt_next r _ r2 htok2 (by simp), stateAt_next r2 _ r3 htok3 (by simp)] at hs'
    exact ⟨r3, hs', Reach.more htok (by simp) (by simp)
      (Reach.more htok2 (by simp) (by simp) (Reach.one htok3 (by simp) (by simp)))⟩

/-- a token that is neither the end of input nor `stream` is left behind in one step -/
theorem scalar_land {x : Str} {t : Token} (hc : (stateAt x).cur = some t) (hte : t ≠ .eof)
    (hts : t ≠ .keyword kwStream) : ∃ y, (stateAt x).next = stateAt y ∧ Reach x y := by
  obtain ⟨r, htok⟩ := cur_token x t hc hte
  exact ⟨r, stateAt_next x t r htok hts, Reach.one htok hte hts⟩

/-- **landing**: every successful call of ParseObject / parseArray / parseDict started on the window over the
bytes `x` ends on the window over a rest `y` of `x` that begins at a token boundary -/
theorem land (f : Nat) :
    (∀ d x o s', parseObject f d (stateAt x) = .ok (o, s') → ∃ y, s' = stateAt y ∧ Reach x y) ∧
    (∀ d x acc o s', parseArray f d (stateAt x) acc = .ok (o, s') → ∃ y, s' = stateAt y ∧ Reach x y) ∧
    (∀ d x acc o s', parseDict f d (stateAt x) acc = .ok (o, s') → ∃ y, s' = stateAt y ∧ Reach x y) := by
  have key := parse_induction
    (PO := fun _ s _ s' => ∀ x, s = stateAt x → ∃ y, s' = stateAt y ∧ Reach x y)
    (PA := fun _ s _ _ s' => ∀ x, s = stateAt x → ∃ y, s' = stateAt y ∧ Reach x y)
    (PD := fun _ s _ _ s' => ∀ x, s = stateAt x → ∃ y, s' = stateAt y ∧ Reach x y)
    ?_ ?_ ?_ ?_ ?_ ?_ ?_ ?_ ?_ ?_ ?_ ?_ f
  · exact ⟨fun d x o s' h => key.1 d _ o s' h x rfl, fun d x acc o s' h => key.2.1 d _ acc o s' h x rfl,
      fun d x acc o s' h => key.2.2 d _ acc o s' h x rfl⟩
  · rintro d s v o hc hv x rfl
    exact scalar_land hc (by simp) (by rcases hv with ⟨rfl, _⟩ | ⟨rfl, _⟩ | ⟨rfl, _⟩ <;> decide)
  · rintro d s v o s' hc h x rfl
    obtain ⟨r, htok⟩ := cur_token x _ hc (by simp)
    exact parseNumber_land x r v o s' htok h
  · rintro d s v o hc _ x rfl; exact scalar_land hc (by simp) (by simp)
  · rintro d s v hc x rfl; exact scalar_land hc (by simp) (by simp)
  · rintro d s v hc x rfl; exact scalar_land hc (by simp) (by simp)
  · rintro d s v hc x rfl; exact scalar_land hc (by simp) (by simp)
  · rintro d s o s' hc _ ih x rfl
    obtain ⟨r, hn, hr⟩ := scalar_land hc (by simp) (by simp)
    obtain ⟨y, hy, hr'⟩ := ih r hn
    exact ⟨y, hy, hr.trans hr'⟩
  · rintro d s o s' hc _ ih x rfl
    obtain ⟨r, hn, hr⟩ := scalar_land hc (by simp) (by simp)
    obtain ⟨y, hy, hr'⟩ := ih r hn
    exact ⟨y, hy, hr.trans hr'⟩
  · rintro d s acc hc x rfl; exact scalar_land hc (by simp) (by simp)
  · rintro d s acc o1 s1 o s' ihO ihA x rfl
    obtain ⟨y1, hy1, hr1⟩ := ihO x rfl
    obtain ⟨y, hy, hr⟩ := ihA y1 hy1
    exact ⟨y, hy, hr1.trans hr⟩
  · rintro d s acc hc x rfl; exact scalar_land hc (by simp) (by simp)
  · rintro d s acc k o1 s1 o s' hc ihO ihD x rfl
    obtain ⟨r, hn, hr⟩ := scalar_land hc (by simp) (by simp)
    obtain ⟨y1, hy1, hr1⟩ := ihO r hn
    obtain ⟨y, hy, hr2⟩ := ihD y1 hy1
    exact ⟨y, hy, hr.trans (hr1.trans hr2)⟩

/-- a run that ends with `io.EOF` has tokenized everything from where it started -/
theorem parseSeq_eof (F : Nat) : ∀ (n : Nat) (x : Str) (acc os : List Obj),
    parseSeq F n (stateAt x) acc = (os, some .eof) → Tokenizes x := by
  intro n
  induction n with
  | zero => intro x acc os h; simp [parseSeq] at h
  | succ n ih =>
    intro x acc os h
    rw [parseSeq] at h
    cases hp : parseObject F 0 (stateAt x) with
    | error e =>
      rw [hp] at h
      simp only [Prod.mk.injEq, Option.some.injEq] at h
      obtain ⟨_, he⟩ := h
      subst he
      cases F with
      | zero => rw [parseObject_zero] at hp; cases hp
      | succ F =>
        obtain ⟨hc, herr⟩ := (parseObject_eof_iff F 0 _).1 hp
        rcases stateAt_cur_cases x with ⟨_, _, he⟩ | ⟨t, r, htok, hc'⟩
        · rw [he] at herr; cases herr
        · rw [hc'] at hc; cases hc
          exact tokenizes_of_tok_eof x r htok
    | ok p =>
      obtain ⟨o, s'⟩ := p
      rw [hp] at h
      dsimp only at h
      obtain ⟨y, hy, hr⟩ := (land F).1 0 x o s' hp
      rw [hy] at h
      exact hr.tokenizes (ih y _ os h)

/-- **`io.EOF` only after every byte was tokenized** -/
theorem coreParseAll_eof (inp : Str) (h : (coreParseAll inp).2 = .eof) : Tokenizes inp := by
  unfold coreParseAll at h
  rw [coreParseAll_go_eq] at h
  cases hgo : parseSeq (fuelFor inp) (inp.length + 2) (newParser inp) [] with
  | mk os oe =>
    rw [hgo] at h
    cases oe with
    | none => cases h
    | some e =>
      obtain rfl : e = .eof := h
      exact parseSeq_eof _ _ inp [] os hgo

/-- a run of `NextToken` calls ends with `TokenEOF` exactly when the lexer tokenizes the input -/
theorem eof_iff_tokenizes {off : Nat} {inp : Str} {ts : List PosTok} {e : LexEnd} (h : Pos.Run off inp ts e) :
    e = .eof ↔ Tokenizes inp := by
  induction h with
  | @err off inp hnt =>
    have hn : nextToken inp = none := by
      unfold nextTokenP at hnt
      split at hnt
      · assumption
      · cases hnt
    refine ⟨fun h => (by cases h), fun h => ?_⟩
    cases h with
    | done h' => rw [hn] at h'; cases h'
    | step h' _ _ => rw [hn] at h'; cases h'
  | eof hnt ht => exact ⟨fun _ => Tokenizes.done (ht ▸ Pos.nextTokenP_tok hnt), fun _ => rfl⟩
  | tok hnt ht _ ih =>
    have hn := Pos.nextTokenP_tok hnt
    rw [ih]
    constructor
    · exact Tokenizes.step hn ht
    · intro h
      cases h with
      | done h' => exact absurd (Prod.mk.inj (Option.some.inj (hn.symm.trans h'))).1 ht
      | step h' _ h3 =>
        obtain ⟨_, rfl⟩ := Prod.mk.inj (Option.some.inj (hn.symm.trans h'))
        exact h3

/-- every window of the trace obeys the error discipline: a recorded error comes with `TokenEOF` in the
lookahead slot -/
theorem windowTrace_go_inv (inp : Str) : ∀ (n : Nat) (x : Str) (acc : List Window),
    (∀ w ∈ acc, w.err = true → w.peek = some .eof) →
    ∀ w ∈ (windowTrace.go inp n (stateAt x) acc).1, w.err = true → w.peek = some .eof := by
  intro n
  induction n with
  | zero => intro x acc hacc; rw [windowTrace.go]; exact hacc
  | succ n ih =>
    intro x acc hacc
    rw [windowTrace.go]
    cases hp : parseObject (fuelFor inp) 0 (stateAt x) with
    | error e => exact hacc
    | ok p =>
      obtain ⟨o, s'⟩ := p
      dsimp only
      obtain ⟨y, hy, _⟩ := (land _).1 0 x o s' hp
      rw [hy]
      apply ih
      intro w hw
      rcases List.mem_append.1 hw with hw | hw
      · exact hacc w hw
      · simp only [List.mem_singleton] at hw
        subst hw
        exact errInv_stateAt y

end Errs

namespace Strm

/-- with `stream` current every parse function fails: the keyword is only ever consumed by `parseStream`
(`Model/XrefFile.lean`, `Props/C04Bytes.lean`); that the lookahead stops at it is `Props/C06Lexer.lean` -/
theorem stream_is_no_object (f d : Nat) (s : PState) (h : s.cur = some (.keyword kwStream)) :
    parseObject (f + 1) d s = .error .err ∧
    (∀ acc, parseArray (f + 1) d s acc = .error .err) ∧ (∀ acc, parseDict (f + 1) d s acc = .error .err) := by
  have ho : ∀ g, parseObject (g + 1) d s = .error .err := by
    intro g
    rw [parseObject, h]
    have h1 : kwStream ≠ kwNull := by decide
    have h2 : kwStream ≠ kwTrue := by decide
    have h3 : kwStream ≠ kwFalse := by decide
    simp only [h1, h2, h3, if_false]
  refine ⟨ho f, ?_, ?_⟩
  · intro acc
    rw [parseArray, h]
    dsimp only
    cases f with
    | zero => rw [parseObject]
    | succ f => rw [ho f]
  · intro acc
    rw [parseDict, h]

end Strm
end Tabula.Pdf
