/-!
The potential of a walk over a graph given as an association list `g : List (Nat × β)` that marks a key
(puts it into `visited`) before it expands what is stored under it: `unseen w g visited`, the weight of the
entries whose keys are not marked yet. Marking a key that is present lowers it by the weight of the entry
found (`unseen_mark`), so it bounds the steps such a walk can still take, on every graph. Core Lean only.
-/
namespace Tabula

def unseen {β : Type} (w : β → Nat) : List (Nat × β) → List Nat → Nat
  | [], _ => 0
  | (k, v) :: rest, visited => (if visited.contains k then 0 else w v) + unseen w rest visited

variable {β : Type} {w : β → Nat}

theorem unseen_cons_le (g : List (Nat × β)) (visited : List Nat) (n : Nat) :
    unseen w g (n :: visited) ≤ unseen w g visited := by
  induction g with
  | nil => exact Nat.le_refl _
  | cons p rest ih =>
    simp only [unseen, List.contains_cons]
    by_cases hk : p.1 == n <;> simp only [hk, Bool.true_or, Bool.false_or, if_true] <;> omega

/-- marking a key pays for the first entry stored under it -/
theorem unseen_mark {g : List (Nat × β)} {visited : List Nat} {n : Nat} {p : Nat × β}
    (h : g.find? (·.1 = n) = some p) (hn : visited.contains n = false) :
    unseen w g (n :: visited) + w p.2 ≤ unseen w g visited := by
  induction g with
  | nil => cases h
  | cons q rest ih =>
    obtain ⟨k, x⟩ := q
    rw [List.find?_cons] at h
    simp only [unseen, List.contains_cons]
    by_cases hk : k = n
    · subst hk
      simp only [decide_true, Option.some.injEq] at h
      subst h
      have := unseen_cons_le (w := w) rest visited k
      simp only [BEq.rfl, Bool.true_or, if_true, hn, Bool.false_eq_true, if_false]; omega
    · have := ih (by simpa only [hk, decide_false] using h)
      simp only [show (k == n) = false by simpa using hk, Bool.false_or]; omega

/-- with unit weights the potential counts entries -/
theorem unseen_le_length (g : List (Nat × β)) (visited : List Nat) : unseen (fun _ => 1) g visited ≤ g.length := by
  induction g with
  | nil => exact Nat.le_refl _
  | cons p rest ih => simp only [unseen, List.length_cons]; split <;> omega

end Tabula
