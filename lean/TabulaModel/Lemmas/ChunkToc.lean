import TabulaModel.Lemmas.Chunk
/-!
Helper lemmas for property C12: which level a heading-like paragraph gets. `chunkPage` finds it
in two ways — the first heading with a text on a page through the document's table of contents
(`isHeadingElement` / `getHeadingLevel`), a later one through `resolveRepeatedHeadings` — and
both are the one rule `specHeadings`: the k-th heading with a text on a page takes the level of
the k-th layout heading of that page with that text (the last one if there are fewer).
Then: the page loop reads the table of contents per page number only (`TocAgree`, `chunkPages_toc`).
-/
namespace Tabula.Chunk

/-- the entries a page contributes to `Document.TableOfContents` -/
def tocOfPage (p : Page) : List TOCEntry :=
  match p.layout with
  | none => []
  | some hs => hs.map fun h => ⟨h.1, h.2, p.number⟩

theorem tableOfContents_eq (d : Doc) : tableOfContents d = d.flatMap tocOfPage := rfl

/-- what `chunkPage` takes an element of the (resolved) page for: a heading with a level and
text, or no heading -/
def headingOf (toc : List TOCEntry) (page : Int) : Elem → Option (Int × Str)
  | .heading l t => some (l, t)
  | .para t => if isHeadingElement t toc page then some (getHeadingLevel t toc page, t) else none
  | _ => none

/-- the rule: a `model.Heading` keeps its level; a paragraph whose trimmed text is the text of
layout headings of the page is the heading with the level of the k-th of them (clamped), k being
the number of headings with that text met before it on the page; nothing else is a heading -/
def specHeadings (layout : List (Int × Str)) : List Str → List Elem → List (Option (Int × Str))
  | _, [] => []
  | seen, .heading l t :: es => some (l, t) :: specHeadings layout (trim t :: seen) es
  | seen, .para t :: es =>
    if levelsOf layout (trim t) = [] then none :: specHeadings layout seen es
    else some (nthClamped (levelsOf layout (trim t)) (seen.count (trim t)) 1, t)
      :: specHeadings layout (trim t :: seen) es
  | seen, .list _ _ :: es => none :: specHeadings layout seen es
  | seen, .table _ :: es => none :: specHeadings layout seen es
  | seen, .image _ :: es => none :: specHeadings layout seen es

/-- `pg` is a page of `d` and no other page has its number -/
def UniquePage (d : Doc) (pg : Page) : Prop :=
  ∃ pre post, d = pre ++ pg :: post ∧ ∀ q ∈ pre ++ post, q.number ≠ pg.number

theorem tocOfPage_other (q : Page) (n : Int) (h : q.number ≠ n) :
    ∀ e ∈ tocOfPage q, (e.page == n) = false := by
  intro e he
  unfold tocOfPage at he
  cases hl : q.layout with
  | none => simp [hl] at he
  | some hs =>
    simp only [hl, List.mem_map] at he
    obtain ⟨x, _, rfl⟩ := he
    simpa using h

theorem flatMap_other (ps : List Page) (n : Int) (h : ∀ q ∈ ps, q.number ≠ n) :
    ∀ e ∈ ps.flatMap tocOfPage, (e.page == n) = false := by
  intro e he
  obtain ⟨q, hq, heq⟩ := List.mem_flatMap.mp he
  exact tocOfPage_other q n (h q hq) e heq

/-- the table-of-contents lookup on a page with a number of its own sees that page's layout
headings only -/
theorem toc_lookup (d : Doc) (pg : Page) (hu : UniquePage d pg) (t : Str) :
    isHeadingElement t (tableOfContents d) pg.number = (tocOfPage pg).any (tocMatches t pg.number) ∧
    getHeadingLevel t (tableOfContents d) pg.number =
      (match (tocOfPage pg).find? (tocMatches t pg.number) with | some e => e.level | none => 1) := by
  obtain ⟨pre, post, rfl, hne⟩ := hu
  have hpre := flatMap_other pre pg.number (fun q hq => hne q (List.mem_append.mpr (Or.inl hq)))
  have hpost := flatMap_other post pg.number (fun q hq => hne q (List.mem_append.mpr (Or.inr hq)))
  unfold isHeadingElement getHeadingLevel
  rw [tableOfContents_eq]
  simp only [List.flatMap_append, List.flatMap_cons, List.any_append, List.find?_append,
    any_of_other _ t _ hpre, any_of_other _ t _ hpost, find_of_other _ t _ hpre, find_of_other _ t _ hpost,
    Bool.false_or, Bool.or_false, Option.none_or, Option.or_none]
  exact ⟨trivial, rfl⟩

theorem page_any (hs : List (Int × Str)) (n : Int) (t : Str) :
    (hs.map fun h => (⟨h.1, h.2, n⟩ : TOCEntry)).any (tocMatches t n) = !(levelsOf hs (trim t)).isEmpty := by
  induction hs with
  | nil => rfl
  | cons h hs ih =>
    simp only [List.map_cons, List.any_cons, ih, levelsOf, List.filter_cons, tocMatches, BEq.rfl, Bool.true_and]
    by_cases hm : (trim h.2 == trim t) = true
    · simp [hm]
    · simp only [hm, Bool.false_or, Bool.false_eq_true, if_false]

theorem page_find (hs : List (Int × Str)) (n : Int) (t : Str) :
    (match (hs.map fun h => (⟨h.1, h.2, n⟩ : TOCEntry)).find? (tocMatches t n) with
      | some e => e.level | none => 1) = nthClamped (levelsOf hs (trim t)) 0 1 := by
  induction hs with
  | nil => rfl
  | cons h hs ih =>
    simp only [List.map_cons, List.find?_cons, levelsOf, List.filter_cons, tocMatches, BEq.rfl, Bool.true_and]
    by_cases hm : (trim h.2 == trim t) = true
    · simp [hm, nthClamped]
    · simp only [hm, Bool.false_eq_true, if_false]
      exact ih

/-- two tables of contents that answer `isHeadingElement` / `getHeadingLevel` alike on `page` -/
def TocAgree (t1 t2 : List TOCEntry) (page : Int) : Prop :=
  ∀ text, isHeadingElement text t1 page = isHeadingElement text t2 page ∧
    getHeadingLevel text t1 page = getHeadingLevel text t2 page

theorem stepElem_toc {σ} (tr : Tracker σ) (sp : Splitter) (t1 t2 : List TOCEntry) (page : Int)
    (h : TocAgree t1 t2 page) (st : St σ) (e : Elem) :
    stepElem tr sp t1 page st e = stepElem tr sp t2 page st e := by
  cases e with
  | para text => simp only [stepElem, (h text).1, (h text).2]
  | _ => rfl

theorem runElems_toc {σ} (tr : Tracker σ) (sp : Splitter) (t1 t2 : List TOCEntry) (page : Int)
    (h : TocAgree t1 t2 page) (st : St σ) (es : List Elem) :
    runElems tr sp t1 page st es = runElems tr sp t2 page st es := by
  induction es generalizing st with
  | nil => rfl
  | cons e es ih => simp only [runElems, stepElem_toc tr sp t1 t2 page h, ih]

theorem chunkPage_toc {σ} (tr : Tracker σ) (sp : Splitter) (t1 t2 : List TOCEntry)
    (st : St σ) (pg : Page) (h : TocAgree t1 t2 pg.number) :
    chunkPage tr sp t1 st pg = chunkPage tr sp t2 st pg := by
  simp only [chunkPage, runElems_toc tr sp t1 t2 pg.number h]

theorem chunkPages_toc {σ} (tr : Tracker σ) (sp : Splitter) (t1 t2 : List TOCEntry)
    (st : St σ) (ps : List Page) (h : ∀ pg ∈ ps, TocAgree t1 t2 pg.number) :
    chunkPages tr sp t1 st ps = chunkPages tr sp t2 st ps := by
  induction ps generalizing st with
  | nil => rfl
  | cons p ps ih =>
    simp only [chunkPages, chunkPage_toc tr sp t1 t2 st p (h p (List.mem_cons_self ..))]
    rw [ih _ (fun pg hpg => h pg (List.mem_cons_of_mem _ hpg))]

theorem tableOfContents_append (d1 d2 : Doc) :
    tableOfContents (d1 ++ d2) = tableOfContents d1 ++ tableOfContents d2 := by
  simp only [tableOfContents, List.flatMap_append]

/-- an entry of the table of contents is a layout heading of a page -/
theorem mem_tableOfContents (d : Doc) (e : TOCEntry) (he : e ∈ tableOfContents d) :
    ∃ pg ∈ d, ∃ hs, pg.layout = some hs ∧ ∃ h ∈ hs, e = ⟨h.1, h.2, pg.number⟩ := by
  obtain ⟨pg, hpg, hin⟩ := List.mem_flatMap.mp he
  refine ⟨pg, hpg, ?_⟩
  cases hl : pg.layout with
  | none => rw [hl] at hin; cases hin
  | some hs =>
    rw [hl] at hin
    obtain ⟨h, hh, rfl⟩ := List.mem_map.mp hin
    exact ⟨hs, rfl, h, hh, rfl⟩

theorem tableOfContents_page (d : Doc) : ∀ e ∈ tableOfContents d, ∃ pg ∈ d, pg.number = e.page := by
  intro e he
  obtain ⟨pg, hpg, _, _, _, _, rfl⟩ := mem_tableOfContents d e he
  exact ⟨pg, hpg, rfl⟩

/-- entries of other pages are not read -/
theorem tocAgree_append (t1 t2 : List TOCEntry) (page : Int) (h : ∀ e ∈ t2, e.page ≠ page) :
    TocAgree (t1 ++ t2) t1 page := by
  intro text
  have hf : ∀ e ∈ t2, (e.page == page) = false := fun e he => beq_false_of_ne (h e he)
  constructor
  · simp only [isHeadingElement, List.any_append, any_of_other t2 text page hf, Bool.or_false]
  · simp only [getHeadingLevel, List.find?_append, find_of_other t2 text page hf, Option.or_none]

theorem getHeadingLevel_mem (text : Str) (toc : List TOCEntry) (page : Int) :
    (∃ e ∈ toc, e.level = getHeadingLevel text toc page) ∨ getHeadingLevel text toc page = 1 := by
  unfold getHeadingLevel
  cases hf : toc.find? (tocMatches text page) with
  | none => right; rfl
  | some e => left; exact ⟨e, List.mem_of_find?_eq_some hf, rfl⟩

theorem tableOfContents_level (d : Doc) :
    ∀ e ∈ tableOfContents d, ∃ pg ∈ d, ∃ hs, pg.layout = some hs ∧ ∃ h ∈ hs, h.1 = e.level := by
  intro e he
  obtain ⟨pg, hpg, hs, hl, h, hh, rfl⟩ := mem_tableOfContents d e he
  exact ⟨pg, hpg, hs, hl, h, hh, rfl⟩

end Tabula.Chunk
