import TabulaModel.Model.EncXml
import TabulaModel.Lemmas.Admit
/-!
Helper lemmas for `Props/C20Enc.lean`: a declarative reading of what `xml.Unmarshal` makes
of an encryption.xml tree (which attributes of which elements feed an entry), and its
algebra (append, insertion of foreign nodes, permutation of the entries).
-/
set_option autoImplicit false
namespace Tabula.EncXml
open Tabula.Detect Tabula.Drm Tabula.Admit

theorem lastAttr_append (l : Str) (a b : List XAttr) :
    lastAttr l (a ++ b) = match lastAttr l b with
      | some v => some v
      | none => lastAttr l a := by
  induction a with
  | nil => simp only [List.nil_append, lastAttr]; cases lastAttr l b <;> rfl
  | cons x rest ih =>
    rw [List.cons_append, lastAttr, ih]
    cases hb : lastAttr l b with
    | some v => rfl
    | none => rw [lastAttr]

theorem lastAttr_singleton (l : Str) (x : XAttr) :
    lastAttr l [x] = if x.space = [] ∧ x.loc = l then some x.val else none := by
  simp [lastAttr]

/-! ### the declarative reading -/

/-- is an element with local name `n` -/
def XNode.named (n : Str) : XNode → Bool
  | .elem n' _ _ => n' = n
  | .other => false

/-- the attributes of the direct children named `n`, in document order -/
def attrsOfNamed (n : Str) : List XNode → List XAttr
  | [] => []
  | .elem n' as _ :: rest => if n' = n then as ++ attrsOfNamed n rest else attrsOfNamed n rest
  | .other :: rest => attrsOfNamed n rest

/-- the content of the direct children named `n`, in document order -/
def kidsOfNamed (n : Str) : List XNode → List XNode
  | [] => []
  | .elem n' _ ks :: rest => if n' = n then ks ++ kidsOfNamed n rest else kidsOfNamed n rest
  | .other :: rest => kidsOfNamed n rest

/-- the content of each direct child `EncryptedData`, in document order -/
def dataKids (ks : List XNode) : List (List XNode) :=
  ks.filterMap fun k => match k with
    | .elem n _ ks' => if n = sEncryptedData then some ks' else none
    | .other => none

/-- the algorithm of an `EncryptedData` with content `ks`: the last unqualified `Algorithm`
attribute over all its `EncryptionMethod` children; `""` without one -/
def algOf (ks : List XNode) : Str := (lastAttr sAlgorithm (attrsOfNamed sEncryptionMethod ks)).getD []

/-- its cipher reference: the last unqualified `URI` attribute over all `CipherReference`
children of all its `CipherData` children; `""` without one -/
def uriOf (ks : List XNode) : Str :=
  (lastAttr sURI (attrsOfNamed sCipherReference (kidsOfNamed sCipherData ks))).getD []

/-- the entry of an `EncryptedData` with content `ks` -/
def entryOf (ks : List XNode) : Entry := ⟨algOf ks, uriOf ks⟩

theorem attrsOfNamed_append (n : Str) (a b : List XNode) :
    attrsOfNamed n (a ++ b) = attrsOfNamed n a ++ attrsOfNamed n b := by
  fun_induction attrsOfNamed n a with
  | case1 => rfl
  | case2 as kids rest ih => rw [List.cons_append, attrsOfNamed, if_pos rfl, ih, List.append_assoc]
  | case3 n' as kids rest h ih => rw [List.cons_append, attrsOfNamed, if_neg h, ih]
  | case4 rest ih => rw [List.cons_append, attrsOfNamed, ih]

theorem kidsOfNamed_append (n : Str) (a b : List XNode) :
    kidsOfNamed n (a ++ b) = kidsOfNamed n a ++ kidsOfNamed n b := by
  fun_induction kidsOfNamed n a with
  | case1 => rfl
  | case2 as kids rest ih => rw [List.cons_append, kidsOfNamed, if_pos rfl, ih, List.append_assoc]
  | case3 n' as kids rest h ih => rw [List.cons_append, kidsOfNamed, if_neg h, ih]
  | case4 rest ih => rw [List.cons_append, kidsOfNamed, ih]

theorem attrsOfNamed_skip (n : Str) (x : XNode) (hx : x.named n = false) (rest : List XNode) :
    attrsOfNamed n (x :: rest) = attrsOfNamed n rest := by
  cases x with
  | other => rfl
  | elem n' as ks =>
    have : n' ≠ n := by simpa [XNode.named] using hx
    simp [attrsOfNamed, this]

theorem kidsOfNamed_skip (n : Str) (x : XNode) (hx : x.named n = false) (rest : List XNode) :
    kidsOfNamed n (x :: rest) = kidsOfNamed n rest := by
  cases x with
  | other => rfl
  | elem n' as ks =>
    have : n' ≠ n := by simpa [XNode.named] using hx
    simp [kidsOfNamed, this]

theorem umCipherData_eq (cur : Str) (ks : List XNode) :
    umCipherData cur ks = (lastAttr sURI (attrsOfNamed sCipherReference ks)).getD cur := by
  fun_induction umCipherData cur ks with
  | case1 => rfl
  | case2 cur as kids rest ih =>
    rw [ih, attrsOfNamed, if_pos rfl, lastAttr_append, umRef]
    cases lastAttr sURI (attrsOfNamed sCipherReference rest) <;> rfl
  | case3 cur n as kids rest hn ih => rw [ih, attrsOfNamed, if_neg hn]
  | case4 cur rest ih => rw [ih, attrsOfNamed]

theorem names_distinct : sEncryptionMethod ≠ sCipherData := by decide

theorem umEncData_eq (cur : Entry) (ks : List XNode) :
    umEncData cur ks =
      ⟨(lastAttr sAlgorithm (attrsOfNamed sEncryptionMethod ks)).getD cur.algorithm,
       (lastAttr sURI (attrsOfNamed sCipherReference (kidsOfNamed sCipherData ks))).getD cur.uri⟩ := by
  fun_induction umEncData cur ks with
  | case1 => rfl
  | case2 cur as kids rest ih =>
    rw [ih, attrsOfNamed, if_pos rfl, kidsOfNamed, if_neg names_distinct, lastAttr_append, umMethod]
    cases lastAttr sAlgorithm (attrsOfNamed sEncryptionMethod rest) <;> rfl
  | case3 cur as kids rest h ih =>
    rw [ih, attrsOfNamed, if_neg h, kidsOfNamed, if_pos rfl, umCipherData_eq, attrsOfNamed_append, lastAttr_append]
    cases lastAttr sURI (attrsOfNamed sCipherReference (kidsOfNamed sCipherData rest)) <;> rfl
  | case4 cur n as kids rest h1 h2 ih => rw [ih, attrsOfNamed, if_neg h1, kidsOfNamed, if_neg h2]
  | case5 cur rest ih => rw [ih, attrsOfNamed, kidsOfNamed]

theorem umEncData_fresh (ks : List XNode) : umEncData ⟨[], []⟩ ks = entryOf ks := by
  rw [umEncData_eq]; rfl

theorem umRootKids_eq (ks : List XNode) : umRootKids ks = (dataKids ks).map entryOf := by
  fun_induction umRootKids ks with
  | case1 => rfl
  | case2 as kids rest ih => simp only [ih, umEncData_eq, dataKids, List.filterMap_cons, if_true, List.map_cons]; rfl
  | case3 n as kids rest h ih => simp only [ih, dataKids, List.filterMap_cons, h, if_false]
  | case4 rest ih => simp only [ih, dataKids, List.filterMap_cons]

/-- the parse succeeds on a root `encryption` only, and gives the entries of its direct
`EncryptedData` children -/
theorem encEntries_eq_some_iff (d : EncDoc) (es : List Entry) :
    encEntries d = some es ↔
      ∃ as ks, d = some (.elem sEncryption as ks) ∧ es = (dataKids ks).map entryOf := by
  cases d with
  | none => simp [encEntries]
  | some root =>
    cases root with
    | other => simp [encEntries, unmarshalEnc]
    | elem n as ks =>
      by_cases hn : n = sEncryption
      · subst hn
        simp only [encEntries, Option.bind_some, unmarshalEnc, if_true, umRootKids_eq, Option.some.injEq,
          XNode.elem.injEq, true_and]
        constructor
        · intro h; exact ⟨as, ks, ⟨rfl, rfl⟩, h.symm⟩
        · rintro ⟨_, _, ⟨rfl, rfl⟩, h⟩; exact h.symm
      · simp only [encEntries, Option.bind_some, unmarshalEnc, hn, if_false]
        refine ⟨fun h => (by cases h), ?_⟩
        rintro ⟨_, _, h, _⟩
        injection h with h
        injection h with h
        exact absurd h hn

/-- a property of some entry of a readable file is a property of the entry of some direct
`EncryptedData` child of its root -/
theorem exists_entry_iff (d : EncDoc) (P : Entry → Prop) :
    (∃ es, encEntries d = some es ∧ ∃ e ∈ es, P e) ↔
      ∃ as ks, d = some (.elem sEncryption as ks) ∧ ∃ k ∈ dataKids ks, P (entryOf k) := by
  simp only [encEntries_eq_some_iff]
  constructor
  · rintro ⟨_, ⟨as, ks, hd, rfl⟩, e, he, hp⟩
    obtain ⟨k, hk, rfl⟩ := List.mem_map.1 he
    exact ⟨as, ks, hd, k, hk, hp⟩
  · rintro ⟨as, ks, hd, k, hk, hp⟩
    exact ⟨_, ⟨as, ks, hd, rfl⟩, entryOf k, List.mem_map_of_mem hk, hp⟩

theorem dataKids_append (a b : List XNode) : dataKids (a ++ b) = dataKids a ++ dataKids b := by
  simp [dataKids, List.filterMap_append]

theorem dataKids_skip (x : XNode) (hx : x.named sEncryptedData = false) (rest : List XNode) :
    dataKids (x :: rest) = dataKids rest := by
  cases x with
  | other => rfl
  | elem n as ks =>
    have : n ≠ sEncryptedData := by simpa [XNode.named] using hx
    simp [dataKids, this]

theorem dataKids_perm {a b : List XNode} (h : a.Perm b) : (dataKids a).Perm (dataKids b) :=
  h.filterMap _

end Tabula.EncXml
