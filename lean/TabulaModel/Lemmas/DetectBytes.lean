import TabulaModel.Model.DetectBytes
import TabulaModel.Lemmas.Codec
import TabulaModel.Lemmas.Conserve
import TabulaModel.Lemmas.Admit
import TabulaModel.Lemmas.EncXml
/-!
Lemmas about `Model/DetectBytes.lean`: how `strings.Map` (`mapRunes`) acts on the ASCII and the
non-ASCII stretches of an arbitrary byte string, and why prefix, suffix and equality tests against
ASCII patterns cannot tell it from the byte-wise ASCII case map (`CaseMapOK`, `front_forms`,
`tail_forms`); from that the byte-exact functions of the code one by one; `strings.TrimSpace` on
ASCII and around a core; and the abstraction to the API model (`detectFile_abs`, `epubOpen_abs`,
`absHead_*`).
-/
set_option autoImplicit false
namespace Tabula.DetectB
open Tabula.Detect Tabula.Drm Tabula.Admit Tabula.EncXml
open Tabula.Split (charLen runeLen)
open Tabula.Overlap (codePoint encodeRune)

/-! ### `mapRunes`, one step at a time -/

theorem mapRunes_skip (f : Nat → Nat) (k : Nat) (s : Str) : mapRunes f k s = mapRunes f 0 (s.drop k) := by
  induction k generalizing s with
  | zero => rfl
  | succ k ih =>
    cases s with
    | nil => rfl
    | cons a rest => rw [mapRunes, List.drop_succ_cons, ih]

theorem mapRunes_cons (f : Nat → Nat) (a : Nat) (rest : Str) :
    mapRunes f 0 (a :: rest) =
      encodeRune (f (codePoint (a :: rest))) ++ mapRunes f 0 ((a :: rest).drop (runeLen (a :: rest))) := by
  rw [mapRunes, mapRunes_skip]
  have : 0 < runeLen (a :: rest) := Split.runeLen_pos _
  obtain ⟨m, hm⟩ : ∃ m, runeLen (a :: rest) = m + 1 := ⟨runeLen (a :: rest) - 1, by omega⟩
  rw [hm, List.drop_succ_cons]
  rfl

theorem runeLen_one {a : Nat} {r : Str} (h : a < 128) : runeLen (a :: r) = 1 := by
  simp [runeLen, Split.charLen_one h]

/-- an ASCII byte is a rune of its own -/
theorem mapRunes_ascii (f : Nat → Nat) {a : Nat} (ha : a < 128) (hf : f a < 128) (rest : Str) :
    mapRunes f 0 (a :: rest) = f a :: mapRunes f 0 rest := by
  rw [mapRunes_cons, Overlap.codePoint_one ha, runeLen_one ha, Overlap.encodeRune_one hf]
  rfl

/-- the code point decoded at a non-ASCII byte is not ASCII -/
theorem codePoint_ge {a : Nat} (r : Str) (ha : 128 ≤ a) : 128 ≤ codePoint (a :: r) := by
  by_cases h0 : charLen (a :: r) = 0
  · rw [Overlap.codePoint_of_charLen_zero _ h0]; omega
  · -- encoding the decoded rune gives the bytes back; an ASCII rune would give back `a` itself
    have he := Overlap.encodeRune_codePoint (a :: r) h0
    apply Classical.byContradiction
    intro hlt
    obtain ⟨m, hm⟩ : ∃ m, charLen (a :: r) = m + 1 := ⟨charLen (a :: r) - 1, by omega⟩
    rw [Overlap.encodeRune_one (by omega), hm, List.take_succ_cons] at he
    have := (List.cons.inj he).1
    omega

/-- every byte of the encoding of a non-ASCII rune is a non-ASCII byte -/
theorem encodeRune_high {c : Nat} (h : 128 ≤ c) : ∀ b ∈ encodeRune c, 128 ≤ b := by
  have h1 : ¬ c < 0x80 := by omega
  intro b hb
  -- each of the four multi-byte forms `utf8.AppendRune` writes is lead or continuation mark + payload
  by_cases h2 : c < 0x800
  · rw [Overlap.encodeRune_two h1 h2] at hb
    simp only [List.mem_cons, List.not_mem_nil, or_false] at hb
    rcases hb with rfl | rfl <;> exact Nat.le_add_right_of_le (by decide)
  by_cases h3 : 0xD800 ≤ c ∧ c ≤ 0xDFFF ∨ c > 0x10FFFF
  · rw [Overlap.encodeRune_replacement h2 h3] at hb
    simp only [List.mem_cons, List.not_mem_nil, or_false] at hb
    rcases hb with rfl | rfl | rfl <;> decide
  by_cases h4 : c < 0x10000
  · rw [Overlap.encodeRune_three h2 h3 h4] at hb
    simp only [List.mem_cons, List.not_mem_nil, or_false] at hb
    rcases hb with rfl | rfl | rfl <;> exact Nat.le_add_right_of_le (by decide)
  · rw [Overlap.encodeRune_four h3 h4] at hb
    simp only [List.mem_cons, List.not_mem_nil, or_false] at hb
    rcases hb with rfl | rfl | rfl | rfl <;> exact Nat.le_add_right_of_le (by decide)


/-! ### inert bytes -/

/-- a byte no pattern of the code contains: a non-ASCII byte, or one of the two ASCII
letters a non-ASCII rune can be mapped to -/
def Inert (x1 x2 b : Nat) : Prop := 128 ≤ b ∨ b = x1 ∨ b = x2

/-- empty, or led by an inert byte -/
def InertHead (x1 x2 : Nat) (t : Str) : Prop := t = [] ∨ ∃ b t', t = b :: t' ∧ Inert x1 x2 b

/-- empty, or ended by an inert byte -/
def InertLast (x1 x2 : Nat) (h : Str) : Prop := h = [] ∨ ∃ h' b, h = h' ++ [b] ∧ Inert x1 x2 b

/-- an ASCII pattern without the two letters -/
def NonInert (x1 x2 : Nat) (p : Str) : Prop := ∀ c ∈ p, c < 128 ∧ c ≠ x1 ∧ c ≠ x2

/-- what the proofs need of a case map `f` (on runes) beside its byte-wise ASCII part `g` -/
structure CaseMapOK (x1 x2 : Nat) (g f : Nat → Nat) : Prop where
  x1lt : x1 < 128
  x2lt : x2 < 128
  ascii : ∀ a, a < 128 → f a = g a ∧ g a < 128
  high : ∀ r, 128 ≤ r → 128 ≤ f r ∨ f r = x1 ∨ f r = x2
  ghigh : ∀ b, 128 ≤ b → g b = b
  gx1 : g x1 = x1
  gx2 : g x2 = x2

theorem inert_not_nonInert {x1 x2 b : Nat} {p : Str} (hb : Inert x1 x2 b) (hp : NonInert x1 x2 p) : b ∉ p := by
  intro hm
  have := hp b hm
  rcases hb with h | h | h <;> omega

theorem nonInert_tail {x1 x2 c : Nat} {p : Str} (h : NonInert x1 x2 (c :: p)) : NonInert x1 x2 p :=
  fun d hd => h d (List.mem_cons_of_mem _ hd)

theorem nonInert_reverse {x1 x2 : Nat} {p : Str} (h : NonInert x1 x2 p) : NonInert x1 x2 p.reverse :=
  fun d hd => h d (List.mem_reverse.1 hd)

theorem inertHead_nil (x1 x2 : Nat) : InertHead x1 x2 [] := Or.inl rfl

theorem inertLast_reverse {x1 x2 : Nat} {h : Str} (hh : InertLast x1 x2 h) : InertHead x1 x2 h.reverse := by
  rcases hh with rfl | ⟨h', b, rfl, hb⟩
  · exact Or.inl rfl
  · exact Or.inr ⟨b, h'.reverse, by simp, hb⟩

/-- a prefix test against an ASCII pattern does not see an inert tail -/
theorem isPrefixOf_inert {x1 x2 : Nat} {p : Str} (hp : NonInert x1 x2 p) (u : Str) {t : Str}
    (ht : InertHead x1 x2 t) : p.isPrefixOf (u ++ t) = p.isPrefixOf u := by
  induction p generalizing u with
  | nil => simp
  | cons c p ih =>
    cases u with
    | nil =>
      rcases ht with rfl | ⟨b, t', rfl, hb⟩
      · rfl
      · have hne : c ≠ b := by
          intro h
          exact inert_not_nonInert hb hp (h ▸ List.mem_cons_self)
        simp [List.isPrefixOf, hne]
    | cons a u =>
      simp only [List.cons_append, List.isPrefixOf, ih (nonInert_tail hp)]

/-- … nor does a suffix test see an inert front -/
theorem hasSuffix_inert {x1 x2 : Nat} {sfx : Str} (hp : NonInert x1 x2 sfx) {h : Str} (l : Str)
    (hh : InertLast x1 x2 h) : hasSuffix (h ++ l) sfx = hasSuffix l sfx := by
  unfold hasSuffix
  rw [List.reverse_append]
  exact isPrefixOf_inert (nonInert_reverse hp) _ (inertLast_reverse hh)

/-- … nor an equality test, as long as both tails are empty or both are not -/
theorem eq_inert {x1 x2 : Nat} {z : Str} (hz : NonInert x1 x2 z) (u : Str) {t1 t2 : Str}
    (h1 : InertHead x1 x2 t1) (h2 : InertHead x1 x2 t2) (he : t1 = [] ↔ t2 = []) :
    u ++ t1 = z ↔ u ++ t2 = z := by
  rcases h1 with rfl | ⟨b1, t1', rfl, hb1⟩
  · rw [he.1 rfl]
  · rcases h2 with rfl | ⟨b2, t2', rfl, hb2⟩
    · exact absurd (he.2 rfl) (by simp)
    · constructor
      · intro h
        exact absurd (h ▸ (by simp : b1 ∈ u ++ b1 :: t1')) (inert_not_nonInert hb1 hz)
      · intro h
        exact absurd (h ▸ (by simp : b2 ∈ u ++ b2 :: t2')) (inert_not_nonInert hb2 hz)

/-! ### the ASCII front of a string -/

/-- every string is an ASCII stretch followed by nothing or by a non-ASCII byte -/
theorem split_ascii_front (s : Str) :
    ∃ a t, s = a ++ t ∧ (∀ c ∈ a, c < 128) ∧ (t = [] ∨ ∃ b t', t = b :: t' ∧ 128 ≤ b) := by
  induction s with
  | nil => exact ⟨[], [], rfl, by simp, Or.inl rfl⟩
  | cons x s ih =>
    by_cases hx : x < 128
    · obtain ⟨a, t, rfl, ha, ht⟩ := ih
      exact ⟨x :: a, t, rfl, List.forall_mem_cons.2 ⟨hx, ha⟩, ht⟩
    · exact ⟨[], x :: s, rfl, by simp, Or.inr ⟨x, s, rfl, by omega⟩⟩

/-- the ASCII front is mapped byte by byte, by the ASCII part `g` of the rune map -/
theorem mapRunes_ascii_front {g f : Nat → Nat} (hf : ∀ a, a < 128 → f a = g a ∧ g a < 128) (a t : Str)
    (ha : ∀ c ∈ a, c < 128) : mapRunes f 0 (a ++ t) = a.map g ++ mapRunes f 0 t := by
  induction a with
  | nil => rfl
  | cons x a ih =>
    have hx : x < 128 := ha x List.mem_cons_self
    have := hf x hx
    rw [List.cons_append, mapRunes_ascii f hx (by omega), ih (fun c hc => ha c (List.mem_cons_of_mem _ hc)),
      this.1]
    rfl

section
variable {x1 x2 : Nat} {g f : Nat → Nat} (ok : CaseMapOK x1 x2 g f)
include ok

/-- a non-ASCII rune is written back as a non-empty run of inert bytes -/
theorem encodeRune_map_inert {r : Nat} (hr : 128 ≤ r) :
    encodeRune (f r) ≠ [] ∧ ∀ b ∈ encodeRune (f r), Inert x1 x2 b := by
  refine ⟨(Overlap.charLen_encodeRune _).2, ?_⟩
  rcases ok.high r hr with h | h | h
  · exact fun b hb => Or.inl (encodeRune_high h b hb)
  · rw [h, Overlap.encodeRune_one ok.x1lt]
    intro b hb
    exact Or.inr (Or.inl (List.mem_singleton.1 hb))
  · rw [h, Overlap.encodeRune_one ok.x2lt]
    intro b hb
    exact Or.inr (Or.inr (List.mem_singleton.1 hb))

/-- at a non-ASCII byte the output starts with an inert byte -/
theorem mapRunes_high_head {b : Nat} (t : Str) (hb : 128 ≤ b) : ∃ c r, mapRunes f 0 (b :: t) = c :: r ∧ Inert x1 x2 c := by
  rw [mapRunes_cons]
  obtain ⟨hne, hall⟩ := encodeRune_map_inert ok (codePoint_ge t hb)
  cases he : encodeRune (f (codePoint (b :: t))) with
  | nil => exact absurd he hne
  | cons c r => exact ⟨c, _, rfl, hall c (by rw [he]; exact List.mem_cons_self)⟩

/-- the two case maps of a string: a common ASCII front, then tails that are both empty
or both led by an inert byte -/
theorem front_forms (s : Str) :
    ∃ u t1 t2, mapRunes f 0 s = u ++ t1 ∧ s.map g = u ++ t2 ∧ InertHead x1 x2 t1 ∧ InertHead x1 x2 t2 ∧
      (t1 = [] ↔ t2 = []) ∧ ∃ a, u = a.map g ∧ (∀ c ∈ a, c < 128) ∧ (t2 = [] → s = a) ∧ a.length ≤ s.length := by
  obtain ⟨a, t, rfl, ha, ht⟩ := split_ascii_front s
  refine ⟨a.map g, mapRunes f 0 t, t.map g, mapRunes_ascii_front ok.ascii a t ha, by simp, ?_, ?_, ?_, a, rfl, ha, ?_, by simp⟩
  · rcases ht with rfl | ⟨b, t', rfl, hb⟩
    · exact Or.inl rfl
    · obtain ⟨c, r, h, hc⟩ := mapRunes_high_head ok t' hb
      exact Or.inr ⟨c, r, h, hc⟩
  · rcases ht with rfl | ⟨b, t', rfl, hb⟩
    · exact Or.inl rfl
    · exact Or.inr ⟨g b, t'.map g, rfl, Or.inl (by rw [ok.ghigh b hb]; exact hb)⟩
  · rcases ht with rfl | ⟨b, t', rfl, hb⟩
    · simp [mapRunes]
    · obtain ⟨c, r, h, _⟩ := mapRunes_high_head ok t' hb
      simp [h]
  · intro h
    have : t = [] := by simpa using h
    simp [this]

/-- prefix tests against ASCII patterns cannot tell `strings.Map` from the byte-wise map -/
theorem isPrefixOf_mapRunes {p : Str} (hp : NonInert x1 x2 p) (s : Str) :
    p.isPrefixOf (mapRunes f 0 s) = p.isPrefixOf (s.map g) := by
  obtain ⟨u, t1, t2, h1, h2, i1, i2, _, _⟩ := front_forms ok s
  rw [h1, h2, isPrefixOf_inert hp u i1, isPrefixOf_inert hp u i2]

/-- … nor can equality tests -/
theorem eq_mapRunes {z : Str} (hz : NonInert x1 x2 z) (s : Str) : mapRunes f 0 s = z ↔ s.map g = z := by
  obtain ⟨u, t1, t2, h1, h2, i1, i2, he, _⟩ := front_forms ok s
  rw [h1, h2]
  exact eq_inert hz u i1 i2 he

end


/-! ### the HTML front tests on an inert tail -/

theorem magicWS_not_inert {b : Nat} (hb : Inert 73 83 b) : isMagicWS b = false :=
  isMagicWS_of_gt (by rcases hb with h | h | h <;> omega)

theorem dropWhile_ws_inert (y : Str) {t : Str} (ht : InertHead 73 83 t) :
    (y ++ t).dropWhile isMagicWS = y.dropWhile isMagicWS ++ t := by
  rw [List.dropWhile_append]
  split
  · next h =>
    rw [List.isEmpty_iff.1 h, List.nil_append]
    rcases ht with rfl | ⟨b, t', rfl, hb⟩
    · rfl
    · exact List.dropWhile_cons_of_neg (by simp [magicWS_not_inert hb])
  · rfl

theorem nonInert_doctype : NonInert 73 83 sDoctype := by unfold NonInert; decide
theorem nonInert_htmlName : NonInert 73 83 sHtmlName := by unfold NonInert; decide
theorem nonInert_htmlTag : NonInert 73 83 sHtmlTag := by unfold NonInert; decide
theorem nonInert_xmlDecl : NonInert 73 83 sXmlDecl := by unfold NonInert; decide

/-- `isHTMLDoctype` does not see an inert tail -/
theorem isHTMLDoctype_inert (u : Str) {t : Str} (ht : InertHead 73 83 t) :
    isHTMLDoctype (u ++ t) = isHTMLDoctype u := by
  unfold isHTMLDoctype
  rw [isPrefixOf_inert nonInert_doctype u ht]
  cases hp : sDoctype.isPrefixOf u with
  | false => rfl
  | true =>
    have hl : sDoctype.length ≤ u.length := isPrefixOf_length hp
    simp only [Bool.true_and]
    rw [List.drop_append_of_le_length hl, dropWhile_ws_inert _ ht,
      isPrefixOf_inert nonInert_htmlName _ ht]
    congr 1
    simp only [List.length_append, decide_eq_decide]
    omega

section
variable {up : CaseTable}

/-- the one fact about `unicode.ToUpper` the theorems use: outside ASCII it yields no ASCII
letter other than `I` (from U+0131) and `S` (from U+017F) -/
def UpperOK (up : CaseTable) : Prop := ∀ r, 128 ≤ r → 128 ≤ up r ∨ up r = 73 ∨ up r = 83

/-- the same for `unicode.ToLower`: `i` (from U+0130) and `k` (from U+212A) -/
def LowerOK (lo : CaseTable) : Prop := ∀ r, 128 ≤ r → 128 ≤ lo r ∨ lo r = 105 ∨ lo r = 107

/-- a rune map that is `g` on ASCII and a table `t` from U+0080 on is a case map in the sense of
`CaseMapOK`, provided `g` keeps ASCII in ASCII and fixes the non-ASCII bytes and the two letters -/
theorem caseMapOK_of {x1 x2 : Nat} {g : Nat → Nat} {t : CaseTable} (h1 : x1 < 128) (h2 : x2 < 128)
    (hg : ∀ a, (a < 128 → g a < 128) ∧ (128 ≤ a → g a = a)) (g1 : g x1 = x1) (g2 : g x2 = x2)
    (ht : ∀ r, 128 ≤ r → 128 ≤ t r ∨ t r = x1 ∨ t r = x2) :
    CaseMapOK x1 x2 g (fun r => if r < 128 then g r else t r) where
  x1lt := h1
  x2lt := h2
  ascii := fun a ha => ⟨if_pos ha, (hg a).1 ha⟩
  high := fun r hr => by rw [if_neg (by omega)]; exact ht r hr
  ghigh := fun b hb => (hg b).2 hb
  gx1 := g1
  gx2 := g2

theorem caseMapOK_upper (h : UpperOK up) : CaseMapOK 73 83 upperB (upperR up) :=
  caseMapOK_of (by decide) (by decide) (fun a => by unfold upperB; split <;> omega) (by decide) (by decide) h

theorem caseMapOK_lower {lo : CaseTable} (h : LowerOK lo) : CaseMapOK 105 107 lowerB (lowerR lo) :=
  caseMapOK_of (by decide) (by decide) (fun a => by unfold lowerB; split <;> omega) (by decide) (by decide) h

theorem isHTMLDoctype_goUpper (h : UpperOK up) (d : Str) :
    isHTMLDoctype (goUpper up d) = isHTMLDoctype (upper d) := by
  obtain ⟨u, t1, t2, h1, h2, i1, i2, _, _⟩ := front_forms (caseMapOK_upper h) d
  unfold goUpper upper
  rw [h1, h2, isHTMLDoctype_inert u i1, isHTMLDoctype_inert u i2]

/-- `strings.ToUpper` maps an ASCII front byte by byte, whatever the table says of the other runes -/
theorem goUpper_ascii_front (up : CaseTable) (a t : Str) (ha : ∀ c ∈ a, c < 128) :
    goUpper up (a ++ t) = upper a ++ goUpper up t :=
  mapRunes_ascii_front (fun x hx => ⟨by simp [upperR, hx], by unfold upperB; split <;> omega⟩) a t ha

/-- where the first 500 bytes are ASCII, the upper-cased window is that of the byte-wise map -/
theorem goUpper_window (up : CaseTable) (d : Str) (ha : ∀ c ∈ d.take 500, c < 128) :
    (goUpper up d).take 500 = (upper d).take 500 := by
  have hd : d = d.take 500 ++ d.drop 500 := (List.take_append_drop 500 d).symm
  rw [hd, goUpper_ascii_front up _ _ ha, upper_append]
  by_cases hl : d.length ≤ 500
  · have : d.drop 500 = [] := List.drop_eq_nil_of_le hl
    simp [this, goUpper, upper, mapRunes]
  · have hlen : (upper (d.take 500)).length = 500 := by
      rw [upper_length, List.length_take]; omega
    rw [List.take_append_of_le_length (by omega), List.take_append_of_le_length (by omega)]

end


/-! ### an ASCII byte behind a string -/

/-- an ASCII byte behind a non-empty string does not change the rune at its head -/
theorem rune_snoc (h : Str) (hne : h ≠ []) {a : Nat} (ha : a < 128) :
    runeLen (h ++ [a]) = runeLen h ∧ codePoint (h ++ [a]) = codePoint h := by
  -- the rune at the head of `h ++ [a]` ends before `a`: behind its first byte it has continuation bytes only
  have hpos : 0 < h.length := List.length_pos_iff.mpr hne
  have hle : runeLen (h ++ [a]) ≤ h.length := by
    unfold runeLen
    split
    · exact hpos
    · apply Classical.byContradiction
      intro hgt
      obtain ⟨b, hb, hcont⟩ := Split.charLen_cont (h ++ [a]) h.length hpos (by omega)
      rw [List.getElem?_append_right (Nat.le_refl _)] at hb
      simp only [Nat.sub_self, List.getElem?_cons_zero, Option.some.injEq] at hb
      subst hb
      have := Split.isCont_ge hcont
      omega
  -- so it is the rune of the string cut there
  have := Overlap.rune_take (h ++ [a]) h.length (by simp) hle
  rw [List.take_left' rfl] at this
  exact ⟨this.1.symm, this.2.symm⟩

/-- `strings.Map` maps an ASCII byte behind a string on its own -/
theorem mapRunes_snoc (f : Nat → Nat) {a : Nat} (ha : a < 128) (hf : f a < 128) (h : Str) (k : Nat)
    (hk : k ≤ h.length) : mapRunes f k (h ++ [a]) = mapRunes f k h ++ [f a] := by
  induction h generalizing k with
  | nil =>
    have : k = 0 := by simpa using hk
    subst this
    rw [List.nil_append, mapRunes_ascii f ha hf]
    rfl
  | cons x h ih =>
    cases k with
    | succ k =>
      rw [List.cons_append, mapRunes, mapRunes]
      exact ih k (by simpa using hk)
    | zero =>
      have hr := rune_snoc (x :: h) (by simp) ha
      rw [List.cons_append] at hr
      rw [List.cons_append, mapRunes, mapRunes, hr.1, hr.2, List.append_assoc]
      congr 1
      apply ih
      have := Split.runeLen_le_length (x :: h) (by simp)
      simp only [List.length_cons] at this
      omega

section
variable {x1 x2 : Nat} {g f : Nat → Nat} (ok : CaseMapOK x1 x2 g f)
include ok

/-- an ASCII stretch behind a string is mapped byte by byte -/
theorem mapRunes_ascii_back (h a : Str) (ha : ∀ c ∈ a, c < 128) :
    mapRunes f 0 (h ++ a) = mapRunes f 0 h ++ a.map g := by
  induction a generalizing h with
  | nil => simp
  | cons x a ih =>
    have hx : x < 128 := ha x List.mem_cons_self
    have hfx := ok.ascii x hx
    have : h ++ x :: a = (h ++ [x]) ++ a := by simp
    rw [this, ih _ (fun c hc => ha c (List.mem_cons_of_mem _ hc)),
      mapRunes_snoc f hx (by omega) h 0 (Nat.zero_le _), hfx.1]
    simp

/-- a string that ends in a non-ASCII byte is mapped to one that ends in an inert byte -/
theorem mapRunes_high_last (n : Nat) : ∀ h : Str, h.length = n →
    (∃ b, h.getLast? = some b ∧ 128 ≤ b) → ∃ p c, mapRunes f 0 h = p ++ [c] ∧ Inert x1 x2 c := by
  induction n using Nat.strongRecOn with
  | _ n ih =>
    intro h hn ⟨b, hb, hb128⟩
    cases h with
    | nil => simp at hb
    | cons x h' =>
      by_cases hx : x < 128
      · have hne : h' ≠ [] := by
          rintro rfl
          simp at hb; omega
        have hfx := ok.ascii x hx
        rw [mapRunes_ascii f hx (by omega)]
        have hl : h'.getLast? = some b := by
          rw [List.getLast?_cons_of_ne_nil hne] at hb; exact hb
        obtain ⟨p, c, hp, hc⟩ := ih h'.length (by simp at hn; omega) h' rfl ⟨b, hl, hb128⟩
        exact ⟨f x :: p, c, by rw [hp]; rfl, hc⟩
      · rw [mapRunes_cons]
        have hk := Split.runeLen_le_length (x :: h') (by simp)
        have hpos := Split.runeLen_pos (x :: h')
        have hcp := codePoint_ge h' (by omega : 128 ≤ x)
        by_cases hd : (x :: h').drop (runeLen (x :: h')) = []
        · rw [hd]
          simp only [mapRunes, List.append_nil]
          obtain ⟨hne, hall⟩ := encodeRune_map_inert ok hcp
          rcases List.eq_nil_or_concat (encodeRune (f (codePoint (x :: h')))) with h0 | ⟨p, c, h0⟩
          · exact absurd h0 hne
          · exact ⟨p, c, by rw [h0]; simp, hall c (by rw [h0]; simp)⟩
        · have hlt : runeLen (x :: h') < (x :: h').length := by
            apply Classical.byContradiction
            intro hge
            exact hd (List.drop_eq_nil_of_le (by omega))
          have hl : ((x :: h').drop (runeLen (x :: h'))).getLast? = some b := by
            rw [List.getLast?_drop, if_neg (by omega)]; exact hb
          obtain ⟨p, c, hp, hc⟩ := ih _ (by rw [List.length_drop]; omega) _ rfl ⟨b, hl, hb128⟩
          exact ⟨encodeRune (f (codePoint (x :: h'))) ++ p, c, by rw [hp, List.append_assoc], hc⟩

/-- `strings.Map` keeps an inert end inert -/
theorem mapRunes_inertLast {h : Str} (hh : InertLast x1 x2 h) : InertLast x1 x2 (mapRunes f 0 h) := by
  rcases hh with rfl | ⟨h', b, rfl, hb⟩
  · exact Or.inl rfl
  · rcases hb with hb | hb | hb
    · obtain ⟨p, c, hp, hc⟩ := mapRunes_high_last ok _ (h' ++ [b]) rfl ⟨b, by simp, hb⟩
      exact Or.inr ⟨p, c, hp, hc⟩
    · have := ok.ascii x1 ok.x1lt
      rw [hb, mapRunes_snoc f ok.x1lt (by omega) h' 0 (Nat.zero_le _), this.1, ok.gx1]
      exact Or.inr ⟨_, x1, rfl, Or.inr (Or.inl rfl)⟩
    · have := ok.ascii x2 ok.x2lt
      rw [hb, mapRunes_snoc f ok.x2lt (by omega) h' 0 (Nat.zero_le _), this.1, ok.gx2]
      exact Or.inr ⟨_, x2, rfl, Or.inr (Or.inr rfl)⟩

/-- … and so does the byte-wise map -/
theorem map_inertLast {h : Str} (hh : InertLast x1 x2 h) : InertLast x1 x2 (h.map g) := by
  rcases hh with rfl | ⟨h', b, rfl, hb⟩
  · exact Or.inl rfl
  · refine Or.inr ⟨h'.map g, g b, by simp, ?_⟩
    rcases hb with hb | hb | hb
    · rw [ok.ghigh b hb]; exact Or.inl hb
    · rw [hb, ok.gx1]; exact Or.inr (Or.inl rfl)
    · rw [hb, ok.gx2]; exact Or.inr (Or.inr rfl)

end

/-- every string is nothing or a stretch ending in a non-ASCII byte, followed by an ASCII stretch -/
theorem split_ascii_back (s : Str) :
    ∃ h a, s = h ++ a ∧ (∀ c ∈ a, c < 128) ∧ (h = [] ∨ ∃ h' b, h = h' ++ [b] ∧ 128 ≤ b) := by
  induction s with
  | nil => exact ⟨[], [], rfl, by simp, Or.inl rfl⟩
  | cons x s ih =>
    obtain ⟨h, a, rfl, ha, hh⟩ := ih
    rcases hh with rfl | ⟨h', b, rfl, hb⟩
    · by_cases hx : x < 128
      · exact ⟨[], x :: a, rfl, List.forall_mem_cons.2 ⟨hx, ha⟩, Or.inl rfl⟩
      · exact ⟨[x], a, rfl, ha, Or.inr ⟨[], x, rfl, by omega⟩⟩
    · exact ⟨x :: (h' ++ [b]), a, rfl, ha, Or.inr ⟨x :: h', b, rfl, hb⟩⟩

/-- `u` is an inert-ended front followed by `l` -/
def TailOf (x1 x2 : Nat) (l u : Str) : Prop := ∃ h, u = h ++ l ∧ InertLast x1 x2 h

theorem hasSuffix_tailOf {x1 x2 : Nat} {sfx l u : Str} (hp : NonInert x1 x2 sfx) (h : TailOf x1 x2 l u) :
    hasSuffix u sfx = hasSuffix l sfx := by
  obtain ⟨h', rfl, hh⟩ := h
  exact hasSuffix_inert hp l hh

section
variable {x1 x2 : Nat} {g f : Nat → Nat} (ok : CaseMapOK x1 x2 g f)
include ok

/-- both case maps of a string end in the byte-wise map of its ASCII tail -/
theorem tail_forms (s : Str) : ∃ a : Str, (∀ c ∈ a, c < 128) ∧ TailOf x1 x2 (a.map g) (mapRunes f 0 s) ∧
    TailOf x1 x2 (a.map g) (s.map g) := by
  obtain ⟨h, a, rfl, ha, hh⟩ := split_ascii_back s
  have hi : InertLast x1 x2 h := by
    rcases hh with rfl | ⟨h', b, rfl, hb⟩
    · exact Or.inl rfl
    · exact Or.inr ⟨h', b, rfl, Or.inl hb⟩
  exact ⟨a, ha, ⟨mapRunes f 0 h, mapRunes_ascii_back ok h a ha, mapRunes_inertLast ok hi⟩,
    ⟨h.map g, by simp, map_inertLast ok hi⟩⟩

theorem tailOf_mapRunes {l u : Str} (hl : ∀ c ∈ l, c < 128) (h : TailOf x1 x2 l u) :
    TailOf x1 x2 (l.map g) (mapRunes f 0 u) := by
  obtain ⟨h', rfl, hh⟩ := h
  exact ⟨mapRunes f 0 h', mapRunes_ascii_back ok h' l hl, mapRunes_inertLast ok hh⟩

theorem tailOf_map {l u : Str} (h : TailOf x1 x2 l u) : TailOf x1 x2 (l.map g) (u.map g) := by
  obtain ⟨h', rfl, hh⟩ := h
  exact ⟨h'.map g, by simp, map_inertLast ok hh⟩

/-- suffix tests against ASCII patterns cannot tell `strings.Map` from the byte-wise map -/
theorem hasSuffix_mapRunes {sfx : Str} (hp : NonInert x1 x2 sfx) (s : Str) :
    hasSuffix (mapRunes f 0 s) sfx = hasSuffix (s.map g) sfx := by
  obtain ⟨a, _, h1, h2⟩ := tail_forms ok s
  rw [hasSuffix_tailOf hp h1, hasSuffix_tailOf hp h2]

end


/-! ### the functions of the code -/

theorem nonInert_exts : ∀ z ∈ [dotPdf, dotDocx, dotOdt, dotXlsx, dotPptx, dotHtml, dotHtm, dotEpub],
    NonInert 105 107 z := by unfold NonInert; decide

theorem nonInert_sfx : ∀ z ∈ [sfxXhtml, sfxHtml, sfxHtm, sfxXml, sfxCss], NonInert 105 107 z := by
  unfold NonInert; decide

theorem goLower_eq_iff {lo : CaseTable} (h : LowerOK lo) (e z : Str)
    (hz : z ∈ [dotPdf, dotDocx, dotOdt, dotXlsx, dotPptx, dotHtml, dotHtm, dotEpub]) :
    (goLower lo e = z) = (lower e = z) :=
  propext (eq_mapRunes (caseMapOK_lower h) (nonInert_exts z hz) e)

/-- `format.Detect` on any bytes is the ASCII table look-up -/
theorem detectB_eq {lo : CaseTable} (h : LowerOK lo) (name : Str) : detectB lo name = detect name := by
  unfold detectB detect extTable
  simp only [goLower_eq_iff h _ _ (by decide : dotPdf ∈ _), goLower_eq_iff h _ _ (by decide : dotDocx ∈ _),
    goLower_eq_iff h _ _ (by decide : dotOdt ∈ _), goLower_eq_iff h _ _ (by decide : dotXlsx ∈ _),
    goLower_eq_iff h _ _ (by decide : dotPptx ∈ _), goLower_eq_iff h _ _ (by decide : dotHtml ∈ _),
    goLower_eq_iff h _ _ (by decide : dotHtm ∈ _), goLower_eq_iff h _ _ (by decide : dotEpub ∈ _)]

theorem hasSuffix_goLower {lo : CaseTable} (h : LowerOK lo) (u z : Str)
    (hz : z ∈ [sfxXhtml, sfxHtml, sfxHtm, sfxXml, sfxCss]) :
    hasSuffix (goLower lo u) z = hasSuffix (lower u) z :=
  hasSuffix_mapRunes (caseMapOK_lower h) (nonInert_sfx z hz) u

/-- `epubdoc.isContentFile` on any bytes is the ASCII suffix test -/
theorem isContentFileB_eq {lo : CaseTable} (h : LowerOK lo) (uri : Str) :
    isContentFileB lo uri = isContentFile uri := by
  unfold isContentFileB isContentFile
  simp (disch := decide) only [hasSuffix_goLower h]

theorem hasSuffix_lower_goLower {lo : CaseTable} (h : LowerOK lo) (u z : Str)
    (hz : z ∈ [sfxXhtml, sfxHtml, sfxHtm, sfxXml, sfxCss]) :
    hasSuffix (lower (goLower lo u)) z = hasSuffix (lower (lower u)) z := by
  obtain ⟨a, _, h1, h2⟩ := tail_forms (caseMapOK_lower h) u
  have t1 := tailOf_map (caseMapOK_lower h) h1
  have t2 := tailOf_map (caseMapOK_lower h) h2
  unfold goLower lower
  rw [hasSuffix_tailOf (nonInert_sfx z hz) t1, hasSuffix_tailOf (nonInert_sfx z hz) t2]

/-- lower-casing the reference first (as `hasEncryptedContent` does) changes nothing -/
theorem isContentFile_goLower {lo : CaseTable} (h : LowerOK lo) (uri : Str) :
    isContentFile (goLower lo uri) = isContentFile (lower uri) := by
  unfold isContentFile
  simp (disch := decide) only [hasSuffix_lower_goLower h]

theorem hasEncryptedContentB_eq {lo : CaseTable} (h : LowerOK lo) (es : List Entry) :
    hasEncryptedContentB lo es = hasEncryptedContent es := by
  induction es with
  | nil => rfl
  | cons e rest ih =>
    simp only [hasEncryptedContentB, hasEncryptedContent, ih, isContentFileB_eq h, isContentFile_goLower h]

theorem checkForDRMB_eq {lo : CaseTable} (h : LowerOK lo) (ms : List XMember) :
    checkForDRMB lo ms = archiveDRMX ms := by
  unfold archiveDRMX archiveDRM
  have hne : ¬ nEncryption = nRights := fun h => nRights_ne_nEncryption h.symm
  -- along the loop: `classify` takes the branch the `switch f.Name` of `checkForDRMB` took
  fun_induction checkForDRMB lo ms <;>
    simp_all [classify, XMember.toAMember, checkForDRM, hasEncryptedContentB_eq h]

/-! ### the mimetype member -/

/-- the member with its mimetype content replaced by the canonical content of its class -/
def normMember (m : Member) : Member := { name := m.name, data := m.data.map fun d => repMime (mimeClassB d) }

theorem mimeClassB_range (d : Str) : mimeClassB d = some .odt ∨ mimeClassB d = some .epub ∨ mimeClassB d = none := by
  unfold mimeClassB
  simp only
  split
  · exact Or.inl rfl
  · split
    · exact Or.inr (Or.inl rfl)
    · exact Or.inr (Or.inr rfl)

theorem mimeVerdict_norm (m : Member) : mimeVerdict (normMember m) = mimeVerdictB m := by
  unfold mimeVerdict mimeVerdictB normMember
  by_cases hn : m.name = nMimetype
  · simp only [hn, if_true]
    cases m.data with
    | none => rfl
    | some d =>
      simp only [Option.map_some]
      rcases mimeClassB_range d with h | h | h <;> rw [h] <;> decide
  · simp only [hn, if_false]

theorem firstMime_norm (ms : List Member) : firstMime (ms.map normMember) = firstMimeB ms := by
  induction ms with
  | nil => rfl
  | cons m rest ih =>
    simp only [List.map_cons, firstMime, firstMimeB, mimeVerdict_norm, ih]
    cases mimeVerdictB m <;> rfl

theorem hasMember_norm (n : Str) (ms : List Member) : hasMember n (ms.map normMember) = hasMember n ms := by
  simp only [hasMember, List.any_map, normMember, Function.comp_def]
  rfl

theorem hasDir_norm (p : Str) (ms : List Member) : hasDir p (ms.map normMember) = hasDir p ms := by
  simp only [hasDir, List.any_map, normMember, Function.comp_def]

/-- `detectZIPFormat` with the real `strings.TrimSpace` is the ASCII model on the archive
with canonical mimetype contents -/
theorem detectZipB_eq (ms : List Member) : detectZipB ms = detectZip (ms.map normMember) := by
  unfold detectZipB detectZip
  simp only [firstMime_norm, hasMember_norm, hasDir_norm]
  cases firstMimeB ms <;> rfl


/-! ### the HTML front test, byte-exact -/

/-- `detectHTMLMagic` on any bytes: the three prefix tests are those of the ASCII model;
only the 500-byte window of the `<?xml` branch is cut from the string `strings.ToUpper`
really returns -/
theorem detectHTMLMagicB_eq_or {up : CaseTable} (h : UpperOK up) (data : Str) :
    detectHTMLMagicB up data =
      htmlTests (upper (data.dropWhile isMagicWS)) ((goUpper up (data.dropWhile isMagicWS)).take 500) := by
  have ok := caseMapOK_upper h
  unfold detectHTMLMagicB
  cases data.dropWhile isMagicWS with
  | nil => rfl
  | cons c t =>
    simp only [List.isEmpty_cons, Bool.false_eq_true, if_false, isHTMLDoctype_goUpper h]
    rw [show goUpper up (c :: t) = mapRunes (upperR up) 0 (c :: t) from rfl, isPrefixOf_mapRunes ok nonInert_htmlTag,
      isPrefixOf_mapRunes ok nonInert_xmlDecl]
    exact htmlTests_eq_or _ _

theorem detectHTMLMagicB_short {up : CaseTable} (h : UpperOK up) {data : Str} (h4 : data.length < 4) :
    detectHTMLMagicB up data = false := by
  rw [detectHTMLMagicB_eq_or h]
  apply htmlTests_short
  have := (List.dropWhile_sublist (l := data) isMagicWS).length_le
  rw [upper_length]; omega

theorem detectFromReaderB_eq_sniffWith (up : CaseTable) (file : Str) (zip : Option (List Member)) :
    detectFromReaderB up file zip = sniffWith (detectHTMLMagicB up) detectZipB file zip := by
  unfold detectFromReaderB sniffWith
  dsimp only
  cases zip <;> cases detectHTMLMagicB up (file.take 512) <;> rfl

theorem detectFromMagicB_eq_magicWith (up : CaseTable) (data : Str) :
    detectFromMagicB up data = magicWith (detectHTMLMagicB up) data := rfl

/-- where the first 500 bytes behind the leading white space are ASCII, the byte-exact test
is the ASCII model's -/
theorem detectHTMLMagicB_ascii {up : CaseTable} (h : UpperOK up) (data : Str)
    (ha : ∀ c ∈ (data.dropWhile isMagicWS).take 500, c < 128) :
    detectHTMLMagicB up data = detectHTMLMagic data := by
  rw [detectHTMLMagicB_eq_or h, detectHTMLMagic_eq_or, goUpper_window up _ ha]

/-! ### `strings.TrimSpace` on ASCII -/

theorem isSpaceB_eq (c : Nat) : isSpaceB c = Split.isAsciiSpace c := by
  unfold isSpaceB Split.isAsciiSpace
  rw [Bool.or_comm]

theorem spaceLen_ascii {b : Nat} (rest : Str) (hb : b < 128) :
    Split.spaceLen (b :: rest) = if Split.isAsciiSpace b then 1 else 0 := by
  -- an ASCII byte is no lead byte of a two- or three-byte white-space character
  rcases Split.spaceLen_cases (b :: rest) with h0 | ⟨_, _, he, h1, e⟩ | ⟨_, c, _, he, h2, _⟩ | ⟨_, c, d, _, he, h3, _⟩
  · cases h : Split.isAsciiSpace b with
    | false => exact h0
    | true => simp [Split.spaceLen, h] at h0
  · cases (List.cons.inj he).1; rw [e, h1]; rfl
  · cases (List.cons.inj he).1
    simp only [Split.isSpace2, Bool.and_eq_true, beq_iff_eq] at h2; omega
  · cases (List.cons.inj he).1
    simp only [Split.isSpace3, Bool.or_eq_true, Bool.and_eq_true, beq_iff_eq] at h3; omega

theorem spaceLenRev_ascii {d : Nat} (rest : Str) (hd : d < 128) :
    Split.spaceLenRev (d :: rest) = if Split.isAsciiSpace d then 1 else 0 := by
  -- nor a last byte of one
  rcases Split.spaceLenRev_cases (d :: rest) with h0 | ⟨_, _, he, h1, e⟩ | ⟨_, c, _, he, h2, _⟩ | ⟨_, c, b, _, he, h3, _⟩
  · cases h : Split.isAsciiSpace d with
    | false => exact h0
    | true => simp [Split.spaceLenRev, h] at h0
  · cases (List.cons.inj he).1; rw [e, h1]; rfl
  · cases (List.cons.inj he).1
    simp only [Split.isSpace2, Bool.and_eq_true, Bool.or_eq_true, beq_iff_eq] at h2; omega
  · cases (List.cons.inj he).1
    simp only [Split.isSpace3, Bool.or_eq_true, Bool.and_eq_true, beq_iff_eq, decide_eq_true_eq] at h3; omega

theorem trimLeft_ascii (s : Str) (ha : ∀ c ∈ s, c < 128) : Split.trimLeft s = s.dropWhile isSpaceB := by
  induction s with
  | nil => rw [Split.trimLeft]; simp [Split.spaceLen]
  | cons b rest ih =>
    have hb := ha b List.mem_cons_self
    rw [Split.trimLeft, spaceLen_ascii rest hb, List.dropWhile_cons, isSpaceB_eq]
    by_cases h : Split.isAsciiSpace b = true
    · simp only [h, if_true]
      rw [dif_neg (by omega), List.drop_one, List.tail_cons]
      exact ih (fun c hc => ha c (List.mem_cons_of_mem _ hc))
    · simp [h]

theorem trimLeftRev_ascii (s : Str) (ha : ∀ c ∈ s, c < 128) : Split.trimLeftRev s = s.dropWhile isSpaceB := by
  induction s with
  | nil => rw [Split.trimLeftRev]; simp [Split.spaceLenRev]
  | cons b rest ih =>
    have hb := ha b List.mem_cons_self
    rw [Split.trimLeftRev, spaceLenRev_ascii rest hb, List.dropWhile_cons, isSpaceB_eq]
    by_cases h : Split.isAsciiSpace b = true
    · simp only [h, if_true]
      rw [dif_neg (by omega), List.drop_one, List.tail_cons]
      exact ih (fun c hc => ha c (List.mem_cons_of_mem _ hc))
    · simp [h]

/-- on ASCII the real `strings.TrimSpace` is the ASCII model's -/
theorem trimSpace_ascii (s : Str) (ha : ∀ c ∈ s, c < 128) : Split.trimSpace s = Detect.trimSpace s := by
  unfold Split.trimSpace Split.trimRight Detect.trimSpace
  rw [trimLeft_ascii s ha, trimLeftRev_ascii]
  intro c hc
  exact ha c ((List.dropWhile_sublist _).subset (List.mem_reverse.1 hc))

theorem mimeVerdictB_ascii (m : Member) (ha : ∀ d, m.data = some d → ∀ c ∈ d.take 256, c < 128) :
    mimeVerdictB m = mimeVerdict m := by
  unfold mimeVerdictB mimeVerdict mimeClassB
  cases hd : m.data with
  | none => rfl
  | some d => simp only [trimSpace_ascii _ (ha d hd)]

/-! ### the abstraction: the ASCII model sees what the byte-exact functions compute -/

theorem toMember_abs (ms : List XMember) :
    (ms.map absMember).map AMember.toMember = (ms.map XMember.toMember).map normMember := by
  simp only [List.map_map]
  rfl

theorem detectFromReader_repHtml (z : Option (List Member)) : detectFromReader repHtml z = some .html := by
  unfold detectFromReader
  rfl

theorem detectFromReader_nil (z : Option (List Member)) : detectFromReader [] z = some .unknown := by
  unfold detectFromReader
  rfl

/-- the sniffer of the ASCII model on the abstraction answers what `DetectFromReader`
answers on the bytes -/
theorem detectFile_abs {up : CaseTable} (head : Str) (zip : Option (List XMember)) :
    detectFile (absHead up head) (zip.map (·.map absMember)) =
      detectFromReaderB up head (zip.map (·.map XMember.toMember)) := by
  unfold detectFile detectFromReaderB absHead
  by_cases hp : sPdfMagic.isPrefixOf (head.take 512) = true
  · simp [hp, detectFromReader]
  · by_cases hz : sZipMagic.isPrefixOf (head.take 512) = true
    · simp only [hp, hz, Bool.or_true, if_true, detectFromReader, Bool.false_eq_true, if_false]
      cases zip with
      | none => rfl
      | some ms =>
        simp only [Option.map_some, toMember_abs, detectZipB_eq]
    · simp only [hp, hz, Bool.or_self, Bool.false_eq_true, if_false]
      cases detectHTMLMagicB up (head.take 512) with
      | true => simp only [if_true]; exact detectFromReader_repHtml _
      | false => simp only [Bool.false_eq_true, if_false]; exact detectFromReader_nil _

theorem archiveDRM_abs (ms : List XMember) : archiveDRM (ms.map absMember) = archiveDRMX ms := by
  unfold archiveDRMX archiveDRM
  simp only [List.map_map]
  rfl

theorem epubOpen_abs {lo : CaseTable} (h : LowerOK lo) (zip : Option (List XMember)) (rest : Bool) :
    epubOpen (zip.map (·.map absMember)) rest = epubOpenB lo zip rest := by
  cases zip with
  | none => rfl
  | some ms =>
    simp only [Option.map_some, epubOpen_some, epubInit_eq, archiveDRM_abs, epubOpenB, checkForDRMB_eq h]


theorem admitFileB_file (t : Tables) (extF : Format) (f : FileB) :
    admitFileB t extF (.file f) =
      admitWith (Detect.ensureReader extF (detectFromReaderB t.up f.head (f.zip.map (·.map XMember.toMember))))
        (epubOpenB t.lo f.zip (f.accepts .epub)) f.accepts := by
  simp only [admitFileB, admitWith]
  cases Detect.ensureReader extF (detectFromReaderB t.up f.head (f.zip.map (·.map XMember.toMember))) <;> rfl


/-! ### an ASCII front decides -/

/-- a front of ASCII bytes that the ASCII model accepts is accepted whatever bytes follow -/
theorem detectHTMLMagicB_mono (up : CaseTable) (a t : Str) (ha : ∀ c ∈ a, c < 128)
    (hm : detectHTMLMagic a = true) : detectHTMLMagicB up (a ++ t) = true := by
  rw [detectHTMLMagic_eq_or] at hm
  have hne : (a.dropWhile isMagicWS).isEmpty = false := by
    cases hd : a.dropWhile isMagicWS with
    | nil => rw [hd] at hm; exact absurd hm (by decide)
    | cons c r => rfl
  have hda : ∀ c ∈ a.dropWhile isMagicWS, c < 128 := fun c hc => ha c ((List.dropWhile_sublist _).subset hc)
  have hne' : (a.dropWhile isMagicWS ++ t).isEmpty = false := by
    cases hd : a.dropWhile isMagicWS with
    | nil => rw [hd] at hne; cases hne
    | cons c r => rfl
  -- text and window of the longer input are those of the front with something behind them
  unfold detectHTMLMagicB
  simp only [List.dropWhile_append, hne, Bool.false_eq_true, if_false, hne', goUpper_ascii_front up _ t hda,
    htmlTests_eq_or, List.take_append]
  exact htmlTests_mono _ _ hm

theorem ascii_of_upper_eq {s z : Str} (h : upper s = z) (hz : ∀ c ∈ z, c < 128) : ∀ c ∈ s, c < 128 := by
  intro c hc
  have : upperB c ∈ z := by rw [← h]; exact List.mem_map_of_mem hc
  have := hz _ this
  unfold upperB at this
  split at this <;> omega

theorem ascii_of_ws {s : Str} (h : ∀ c ∈ s, isMagicWS c = true) : ∀ c ∈ s, c < 128 := by
  intro c hc
  have := isMagicWS_le (h c hc)
  omega


/-! ### white space of every kind around a core -/

/-- `strings.TrimSpace` strips a run of white space of any kind (all of `unicode.IsSpace`)
in front of and behind a core that starts and ends with ASCII characters other than white
space, and nothing else -/
theorem trimSpace_strips_runs (l core r : Str) (hl : Split.trimLeft l = []) (hr : Split.trimLeftRev r.reverse = [])
    (hh : ∃ a t, core = a :: t ∧ a < 128 ∧ Split.isAsciiSpace a = false)
    (ht : ∃ t z, core = t ++ [z] ∧ z < 128 ∧ Split.isAsciiSpace z = false) :
    Split.trimSpace (l ++ (core ++ r)) = core := by
  obtain ⟨a, t, hc, ha, hsa⟩ := hh
  obtain ⟨t', z, hc', hz, hsz⟩ := ht
  unfold Split.trimSpace Split.trimRight
  rw [Split.trimLeft_run l _ hl]
  have h1 : Split.trimLeft (core ++ r) = core ++ r := by
    rw [Split.trimLeft, dif_pos]
    rw [hc, List.cons_append, spaceLen_ascii _ ha, hsa]; rfl
  rw [h1, List.reverse_append, Split.trimLeftRev_run _ _ hr]
  have h2 : Split.trimLeftRev core.reverse = core.reverse := by
    rw [Split.trimLeftRev, dif_pos]
    rw [hc', List.reverse_append, List.reverse_singleton, List.singleton_append, spaceLenRev_ascii _ hz, hsz]; rfl
  rw [h2, List.reverse_reverse]

/-! ### the front and the member names under the abstraction -/

theorem absHead_pdf (up : CaseTable) (rest : Str) : absHead up (sPdfMagic ++ rest) = sPdfMagic ++ rest := by
  unfold absHead
  have : sPdfMagic.isPrefixOf ((sPdfMagic ++ rest).take 512) = true := by
    rw [take_append_short _ _ _ (by decide)]; exact isPrefixOf_append_self _ _
  simp [this]

theorem absHead_zip (up : CaseTable) (rest : Str) : absHead up (sZipMagic ++ rest) = sZipMagic ++ rest := by
  unfold absHead
  have : sZipMagic.isPrefixOf ((sZipMagic ++ rest).take 512) = true := by
    rw [take_append_short _ _ _ (by decide)]; exact isPrefixOf_append_self _ _
  simp [this]

/-- an HTML front: not PDF, not ZIP, accepted by the byte-exact front test ⇒ the
abstraction's front is the canonical `<html` -/
theorem absHead_html (up : CaseTable) (head : Str) (hp : sPdfMagic.isPrefixOf (head.take 512) = false)
    (hz : sZipMagic.isPrefixOf (head.take 512) = false) (hm : detectHTMLMagicB up (head.take 512) = true) :
    absHead up head = repHtml := by
  unfold absHead
  simp [hp, hz, hm]

/-- an ASCII front within the window that the ASCII model accepts: the abstraction's front is
the canonical `<html`, whatever bytes follow -/
theorem absHead_html_front (up : CaseTable) (front rest : Str) (hlen : front.length ≤ 512)
    (ha : ∀ c ∈ front, c < 128) (hm : detectHTMLMagic front = true) : absHead up (front ++ rest) = repHtml := by
  obtain ⟨lead, t, he, hl⟩ := detectHTMLMagic_lt hm
  have htk := take_append_short front rest 512 hlen
  have hpz := not_pdf_zip_prefix_lt lead (t ++ rest.take (512 - front.length)) hl
  have e : lead ++ 60 :: (t ++ rest.take (512 - front.length)) = (front ++ rest).take 512 := by
    rw [htk, he]; simp
  rw [e] at hpz
  apply absHead_html up _ hpz.1 hpz.2
  rw [htk]
  exact detectHTMLMagicB_mono up _ _ ha hm

theorem names_abs (ms : List XMember) : (ms.map absMember).map (·.name) = ms.map (·.name) := by
  simp [List.map_map, absMember, Function.comp_def]


end Tabula.DetectB
