import TabulaModel.Model.ExportRune
import TabulaModel.Lemmas.CsvRune
import TabulaModel.Lemmas.ExportDecode
/-!
The export for any delimiter rune (`Model/ExportRune.lean`): its CSV / TSV text read back by the RFC 4180 reader
for that delimiter, its agreement with the one-byte export of `Model/ExportJson.lean` wherever the two can be
compared, and which fields of the configuration it depends on.
-/
namespace Tabula.Export
open Tabula.Csv
open Tabula.Json (mapOpt)

/-- Whenever the CSV export returns a text — with a delimiter `encoding/csv` accepts, or with nothing
to write — the reader for that delimiter recovers the header (iff requested) and one row per chunk. -/
theorem exportCSVR_reads_back (marshal : MapSV → Str) (cfg : Config) (chunks : List Chunk) (text : Str)
    (he : exportCSVR marshal cfg chunks = some text) :
    csvReadR (runeBytes (delimiter cfg)) text = some
      ((if cfg.includeHeader then [collectCSVColumns cfg chunks] else []) ++
        chunks.map (fun c => (collectCSVColumns cfg chunks).map (cellSpec cfg c))) := by
  have hrec := exportCSVRecords_eq marshal cfg chunks
  unfold exportCSVR at he
  by_cases h0 : exportCSVRecords marshal cfg chunks = []
  · simp only [h0, if_true, Option.some.injEq] at he
    subst he
    rw [← hrec, h0]
    simp [csvReadR, stepsR_nil, finish]
  · by_cases hd : validDelimR (delimiter cfg)
    · simp only [h0, hd, if_true, if_false, Option.some.injEq] at he
      subst he
      rw [csvReadR_write goExtra _ hd _ (exportCSVRecords_ne_nil marshal cfg chunks), hrec]
    · simp [h0, hd] at he

/-- with a delimiter `encoding/csv` accepts the export succeeds -/
theorem exportCSVR_some (marshal : MapSV → Str) (cfg : Config) (chunks : List Chunk)
    (hd : validDelimR (delimiter cfg)) : ∃ text, exportCSVR marshal cfg chunks = some text := by
  simp only [exportCSVR, hd, if_true]
  split <;> exact ⟨_, rfl⟩

/-- the one-byte export is the rune export for every delimiter below 0x80 and for every delimiter
`encoding/csv` rejects -/
theorem exportCSVR_eq_exportCSV (marshal : MapSV → Str) (cfg : Config) (chunks : List Chunk)
    (h : delimiter cfg < 128 ∨ ¬ validDelimR (delimiter cfg)) :
    exportCSVR marshal cfg chunks = exportCSV marshal cfg chunks := by
  unfold exportCSVR exportCSV
  refine ite_congr rfl (fun _ => rfl) (fun _ => ?_)
  rcases h with h | h
  · rw [runeBytes_ascii _ h, csvWriteR_one_byte]
    exact ite_congr (propext (validDelimR_iff_validDelim h)) (fun _ => rfl) (fun _ => rfl)
  · rw [if_neg h, if_neg (fun x => h (validDelimR_of_validDelim _ x))]

/-- … hence `ExportToString` (the JSON formats do not look at the delimiter) -/
theorem exportToStringR_eq_exportToString (cfg : Config) (chunks : List Chunk)
    (h : cfg.format = .csv ∨ cfg.format = .tsv → delimiter cfg < 128 ∨ ¬ validDelimR (delimiter cfg)) :
    exportToStringR cfg chunks = exportToString cfg chunks := by
  unfold exportToStringR exportToString
  cases hf : cfg.format <;> first | rfl | exact exportCSVR_eq_exportCSV _ _ _ (h (by simp [hf]))

/-- … and the way back -/
theorem decodeExportR_eq_decodeExport (cfg : Config) (text : Str)
    (h : cfg.format = .csv ∨ cfg.format = .tsv → delimiter cfg < 128) :
    decodeExportR cfg text = decodeExport cfg text := by
  unfold decodeExportR decodeExport
  cases hf : cfg.format <;> first | rfl | (rw [runeBytes_ascii _ (h (by simp [hf])), csvReadR_eq_csvRead]; rfl)

/-- SAME CHUNKS for a table, any delimiter rune `encoding/csv` accepts: when every row decodes to the
projection of its chunk, the text of a CSV / TSV export with header decodes to the projected collection -/
theorem exportToStringR_decodes (cfg : Config) (hf : cfg.format = .csv ∨ cfg.format = .tsv)
    (hh : cfg.includeHeader = true) (hd : validDelimR (delimiter cfg)) (chunks : List Chunk) (proj : Chunk → Chunk)
    (hrow : ∀ c ∈ chunks, decodeRow cfg (collectCSVColumns cfg chunks)
      ((collectCSVColumns cfg chunks).map (cellSpec cfg c)) = some (proj c)) :
    ∃ text, exportToStringR cfg chunks = some text ∧ decodeExportR cfg text = some (chunks.map proj) := by
  obtain ⟨text, he⟩ := exportCSVR_some goMarshal cfg chunks hd
  have h2 := exportCSVR_reads_back goMarshal cfg chunks text he
  rw [hh] at h2
  refine ⟨text, by rcases hf with h | h <;> simpa [exportToStringR, h] using he, ?_⟩
  rcases hf with h | h <;> simp only [decodeExportR, h, hh, if_true, h2] <;>
    exact Json.mapOpt_map _ _ _ chunks hrow

/-! ### what an export depends on -/

/-- two configurations with the same metadata selection give the same metadata map -/
theorem filterMetadata_congr (cfg cfg' : Config) (h : cfg'.metadataFields = cfg.metadataFields) (m : Meta) :
    filterMetadata cfg' (chunkMetadataToMap m) = filterMetadata cfg (chunkMetadataToMap m) := by
  rw [filterMetadata_unflattened, filterMetadata_unflattened, h]

theorem prepare_congr (cfg cfg' : Config) (h1 : cfg'.includeMetadata = cfg.includeMetadata)
    (h2 : cfg'.metadataFields = cfg.metadataFields) (h3 : cfg'.includeText = cfg.includeText) (c : Chunk) :
    prepareChunkForExport cfg' c = prepareChunkForExport cfg c := by
  simp only [prepareChunkForExport, h1, h3, filterMetadata_congr cfg cfg' h2]

theorem chunkKeys_congr (cfg cfg' : Config) (h2 : cfg'.metadataFields = cfg.metadataFields) (c : Chunk) :
    chunkKeys cfg' c = chunkKeys cfg c := by
  rw [chunkKeys_eq, chunkKeys_eq, filterMetadata_congr cfg cfg' h2]

theorem collectKeys_congr (cfg cfg' : Config) (h : ∀ c, chunkKeys cfg' c = chunkKeys cfg c) (chunks : List Chunk)
    (keys : List Str) : collectKeys cfg' chunks keys = collectKeys cfg chunks keys := by
  rw [← collectKeysVia_chunkKeys, ← collectKeysVia_chunkKeys, funext h]

theorem cellSpec_congr (cfg cfg' : Config) (h1 : cfg'.includeMetadata = cfg.includeMetadata)
    (h2 : cfg'.metadataFields = cfg.metadataFields) (h3 : cfg'.includeText = cfg.includeText)
    (h4 : cfg'.textColumnName = cfg.textColumnName) (h5 : cfg'.chunkIDColumnName = cfg.chunkIDColumnName) (c : Chunk) :
    cellSpec cfg' c = cellSpec cfg c := by
  funext col
  obtain ⟨a1, a2, a3, a4, a5, a6, a7, a8, a9, a10, a11⟩ := cfg
  obtain ⟨b1, b2, b3, b4, b5, b6, b7, b8, b9, b10, b11⟩ := cfg'
  simp only at h1 h2 h3 h4 h5
  subst h1 h2 h3 h4 h5
  rfl

theorem columns_congr (cfg cfg' : Config) (h1 : cfg'.includeMetadata = cfg.includeMetadata)
    (h2 : cfg'.metadataFields = cfg.metadataFields) (h3 : cfg'.includeText = cfg.includeText)
    (h4 : cfg'.textColumnName = cfg.textColumnName) (h5 : cfg'.chunkIDColumnName = cfg.chunkIDColumnName)
    (h6 : cfg'.includeEmbeddings = cfg.includeEmbeddings) (chunks : List Chunk) :
    collectCSVColumns cfg' chunks = collectCSVColumns cfg chunks := by
  simp only [collectCSVColumns, fixedColumns, sortedMetaKeys, h1, h3, h4, h5, h6,
    collectKeys_congr cfg cfg' (chunkKeys_congr cfg cfg' h2)]

/-- WHAT AN EXPORT DEPENDS ON: the format; for JSON / JSON Lines the JSON object of each chunk's record
(and, JSON only, PrettyPrint); for CSV / TSV the column list, the cell of every chunk under every column
name, the header switch and the delimiter actually used. -/
theorem exportToStringR_congr (cfg cfg' : Config) (chunks : List Chunk) (hfmt : cfg'.format = cfg.format)
    (hrec : cfg.format = .json ∨ cfg.format = .jsonl →
      ∀ c, exportedToJ (prepareChunkForExport cfg' c) = exportedToJ (prepareChunkForExport cfg c))
    (hpp : cfg.format = .json → cfg'.prettyPrint = cfg.prettyPrint)
    (hcsv : cfg.format = .csv ∨ cfg.format = .tsv →
      collectCSVColumns cfg' chunks = collectCSVColumns cfg chunks ∧ (∀ c, cellSpec cfg' c = cellSpec cfg c) ∧
      cfg'.includeHeader = cfg.includeHeader ∧ delimiter cfg' = delimiter cfg) :
    exportToStringR cfg' chunks = exportToStringR cfg chunks := by
  have hj : cfg.format = .json ∨ cfg.format = .jsonl →
      (exportRecords cfg' chunks).map exportedToJ = (exportRecords cfg chunks).map exportedToJ := fun h => by
    rw [exportRecords_eq_map, exportRecords_eq_map, List.map_map, List.map_map]
    exact List.map_congr_left (fun c _ => hrec h c)
  have hc : cfg.format = .csv ∨ cfg.format = .tsv →
      exportCSVR goMarshal cfg' chunks = exportCSVR goMarshal cfg chunks := fun h => by
    obtain ⟨h1, h2, h3, h4⟩ := hcsv h
    simp only [exportCSVR, exportCSVRecords_eq, h1, h2, h3, h4]
  unfold exportToStringR
  rw [hfmt]
  cases hf : cfg.format with
  | jsonl =>
    -- the JSON Lines text is a function of the records' JSON objects
    have e : ∀ cfg : Config, exportJSONLText cfg chunks =
        ((exportRecords cfg chunks).map exportedToJ).flatMap (fun j => Tabula.Json.marshal j ++ [10]) :=
      fun _ => by rw [List.flatMap_map]; rfl
    simp only [e, hj (.inr hf)]
  | json => simp only [exportJSONText, hj (.inl hf), hpp hf]
  | csv => exact hc (.inl hf)
  | tsv => exact hc (.inr hf)
  | other => rfl

/-- … in terms of the fields of the configuration: format, metadata selection, text switch, the two column
names, embeddings column, header switch, the delimiter actually used, and (JSON only) PrettyPrint -/
theorem exportToStringR_congr_fields (cfg cfg' : Config) (chunks : List Chunk) (h0 : cfg'.format = cfg.format)
    (h1 : cfg'.includeMetadata = cfg.includeMetadata) (h2 : cfg'.metadataFields = cfg.metadataFields)
    (h3 : cfg'.includeText = cfg.includeText) (h4 : cfg'.textColumnName = cfg.textColumnName)
    (h5 : cfg'.chunkIDColumnName = cfg.chunkIDColumnName) (h6 : cfg'.includeEmbeddings = cfg.includeEmbeddings)
    (h7 : cfg'.includeHeader = cfg.includeHeader) (hd : delimiter cfg' = delimiter cfg)
    (hp : cfg.format = .json → cfg'.prettyPrint = cfg.prettyPrint) :
    exportToStringR cfg' chunks = exportToStringR cfg chunks :=
  exportToStringR_congr cfg cfg' chunks h0 (fun _ c => by rw [prepare_congr cfg cfg' h1 h2 h3 c]) hp
    (fun _ => ⟨columns_congr cfg cfg' h1 h2 h3 h4 h5 h6 chunks, cellSpec_congr cfg cfg' h1 h2 h3 h4 h5, h7, hd⟩)

theorem collectKeys_nil (cfg : Config) (h : ∀ c, chunkKeys cfg c = []) (chunks : List Chunk) (keys : List Str) :
    collectKeys cfg chunks keys = keys := by
  rw [← collectKeysVia_chunkKeys, collectKeysVia_eq_addKeys, List.flatMap_eq_nil_iff.mpr fun c _ => h c]; rfl

end Tabula.Export
