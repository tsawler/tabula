import TabulaModel.Lemmas.CMapArrangeDefs
/-!
The entries of a program (`allEntries`) against what the specification reads: whatever `specText`
finds for a code is an entry of the program for that code (`specText_mem`), so the specified text of
a specified entry's code is the entry's text (`specText_specified`). The round trip and the theorems
of `Props/C07Arrange.lean` about programs with the same SET of entries rest on these two.
-/
namespace Tabula.CMapArrange
open Tabula.UTF16 Tabula.CMap Tabula.CMapCompose

/-- an entry of the program is a direct entry or an entry of an offset run -/
theorem mem_allEntries (secs : List Section) (e : Nat × List Nat) :
    e ∈ allEntries secs ↔ e ∈ directEntries secs ∨ e ∈ offsetEntries secs := by
  unfold allEntries offsetEntries
  simp only [mem_directEntries, List.mem_flatMap, mem_offsetRuns]
  constructor
  · rintro ⟨it, hit, he⟩
    cases it with
    | char c t => exact Or.inl ⟨_, hit, he⟩
    | offset r => exact Or.inr ⟨r, hit, he⟩
    | array r => exact Or.inl ⟨_, hit, he⟩
  · rintro (⟨it, hit, he⟩ | ⟨r, hit, he⟩)
    · exact ⟨it, hit, item_chars_sub it e he⟩
    · exact ⟨_, hit, he⟩

/-- what `specText` finds for a code is an entry of the program for that code - a direct entry, or an
entry of an offset run when no direct entry has the code; it finds nothing only when no entry has the code -/
theorem specText_mem (w : Nat) (secs : List Section) (hs : ∀ s ∈ secs, SectionOK w s) (c : Nat) :
    (c, specText secs c) ∈ directEntries secs ∨
      ((c, specText secs c) ∈ offsetEntries secs ∧ ∀ d ∈ directEntries secs, d.1 ≠ c) ∨
      (specText secs c = [] ∧ ∀ e ∈ allEntries secs, e.1 ≠ c) := by
  unfold specText
  cases hfd : (directEntries secs).reverse.find? (fun e => e.1 == c) with
  | some d =>
    have hdc : d.1 = c := by simpa using List.find?_some hfd
    exact Or.inl (hdc ▸ List.mem_reverse.mp (List.mem_of_find?_eq_some hfd))
  | none =>
    have hnd : ∀ d ∈ directEntries secs, d.1 ≠ c := fun d hd =>
      by simpa using List.find?_eq_none.mp hfd d (List.mem_reverse.mpr hd)
    right
    cases hfr : (offsetRuns secs).find? (fun r => decide (r.lo ≤ c ∧ c ≤ r.hi)) with
    | some r =>
      have hrm : r ∈ offsetRuns secs := List.mem_of_find?_eq_some hfr
      have hrb : r.lo ≤ c ∧ c ≤ r.hi := by simpa only [decide_eq_true_eq] using List.find?_some hfr
      exact Or.inl ⟨List.mem_flatMap.mpr ⟨r, hrm, (entry_at (offsetRuns_ok w secs hs r hrm).1.1 hrb).2⟩, hnd⟩
    | none =>
      refine Or.inr ⟨rfl, fun e he hec => ?_⟩
      rcases (mem_allEntries secs e).mp he with h | h
      · exact hnd e h hec
      · obtain ⟨r, hr, her⟩ := List.mem_flatMap.mp h
        have := List.find?_eq_none.mp hfr r hr
        simp only [decide_eq_true_eq] at this
        exact this (hec ▸ entry_between her)

/-- the specified text of the code of a specified entry is the entry's text -/
theorem specText_specified (w : Nat) (secs : List Section) (hs : ∀ s ∈ secs, SectionOK w s)
    (hd : Functional (directEntries secs)) (ho : Functional (offsetEntries secs))
    (e : Nat × List Nat) (he : Specified secs e) : specText secs e.1 = e.2 := by
  have key := specText_mem w secs hs e.1
  generalize specText secs e.1 = t at key ⊢
  rcases key with h | ⟨h, hn⟩ | ⟨_, hn⟩
  · rcases he with he | ⟨_, hprec⟩
    · exact congrArg Prod.snd (hd (e.1, t) h e he rfl)
    · exact hprec (e.1, t) h rfl
  · rcases he with he | ⟨he, _⟩
    · exact absurd rfl (hn e he)
    · exact congrArg Prod.snd (ho (e.1, t) h e he rfl)
  · rcases he with he | ⟨he, _⟩
    · exact absurd rfl (hn e ((mem_allEntries secs e).mpr (Or.inl he)))
    · exact absurd rfl (hn e ((mem_allEntries secs e).mpr (Or.inr he)))

end Tabula.CMapArrange
