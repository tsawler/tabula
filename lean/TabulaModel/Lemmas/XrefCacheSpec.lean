import TabulaModel.Lemmas.XrefAsk
import TabulaModel.Lemmas.XrefNest
/-!
# What a lookup on a fresh reader is, without the `loading` set: `getD`

`getD b n` is `GetObject(n)` with `b` further nested loads allowed and NO memory of the objects
being loaded: the value and the number of objects loaded inside each other (the "need"). A
reference cycle cannot be detected that way - it just uses the budget up - but the answer is
the same as `XrefFile.getObjectB`'s, which does keep the set (`getObjectB_eq_getD`): the set
only ever turns an error (budget used up) into an earlier error.

`getD` is monotone in the budget and the need it reports is the least budget that works
(`getD_threshold`, `getD_of_need`): this is what the reader's caches rely on when they count a cache hit as the
load it stands for.

`getD`, `nextOf` and `getObjectB` walk the table in the same way; the walk is named once
(`locate`: which object is parsed at which offset; `pick`: what is made of it) and each of the
three is "parse there, with the nested lookup as resolver" (`getD_succ`, `nextOf_eq`,
`getObjectB_succ`).
-/
namespace Tabula.XrefC
open Tabula.Pdf (Obj PState parseObject)
open Tabula.Reader (Dict dget PVal)
open Tabula.XrefFile

/-- `getUncompressedObject(n)` at `off` on a fresh reader: value and the nested loads below it -/
def plainD (file : Str) (nested : Int → Option (PVal × Nat)) (n off : Int) : Option (PVal × Nat) :=
  match uncompressedAtK file n off with
  | .fin r => r.map fun v => (v, 0)
  | .ask m k =>
    match nested m with
    | none => none
    | some (v, j) => (k (lenInt (some v))).map fun w => (w, j)

/-- `GetObject(n)` with `b` nested loads allowed (this one included): the value and the number
of objects loaded inside each other, this one included -/
def getD (ext : Reader.Ext) (file : Str) (x : RawSection) : Nat → Int → Option (PVal × Nat)
  | 0, _ => none
  | b + 1, n =>
    match getLastI x n with
    | none => none
    | some e =>
      if e.kind = .free then none
      else if e.kind = .inUse then (plainD file (getD ext file x b) n e.f1).map fun p => (p.1, p.2 + 1)
      else
        match getLastI x e.f1 with
        | none => none
        | some se =>
          if se.kind = .compressed then none
          else
            match plainD file (getD ext file x b) e.f1 se.f1 with
            | some (.stream kv data, j) =>
              match Reader.mkObjStm ext kv data with
              | .ok os => (memberAtI os n e.f2).map fun o => (.obj o, j + 1)
              | .error _ => none
            | _ => none

/-- the object whose lookup the loading of `n` starts (the `/Length` reference of the object,
or of the object stream that holds it) -/
def nextOf (file : Str) (x : RawSection) (n : Int) : Option Int :=
  match getLastI x n with
  | none => none
  | some e =>
    if e.kind = .free then none
    else if e.kind = .inUse then (uncompressedAtK file n e.f1).asked
    else
      match getLastI x e.f1 with
      | none => none
      | some se => if se.kind = .compressed then none else (uncompressedAtK file e.f1 se.f1).asked

/-- `Chain p n`: loading `p` leads (in one or more steps) to the lookup of `n` -/
inductive Chain (file : Str) (x : RawSection) : Int → Int → Prop
  | one {p n : Int} : nextOf file x p = some n → Chain file x p n
  | cons {p q n : Int} : nextOf file x p = some q → Chain file x q n → Chain file x p n

/-! ## `plainD` / `getD`: the need is the least budget -/

section
variable {ext : Reader.Ext} {file : Str} {x : RawSection} {f g : Int → Option (PVal × Nat)} {n off : Int}
  {w : PVal} {j k b : Nat}

/-- an answer of `plainD` is the parse's own (no nested load), or the parse finished with the
answer to its question -/
theorem plainD_eq_some :
    plainD file f n off = some (w, j) ↔
      (uncompressedAtK file n off = .fin (some w) ∧ j = 0) ∨
      ∃ m k v, uncompressedAtK file n off = .ask m k ∧ f m = some (v, j) ∧ k (lenInt (some v)) = some w := by
  unfold plainD
  cases uncompressedAtK file n off with
  | fin r =>
    simp only [Option.map_eq_some_iff, Prod.mk.injEq, Ask.fin.injEq, reduceCtorEq, false_and, exists_false,
      or_false]
    constructor
    · rintro ⟨v, rfl, rfl, rfl⟩; exact ⟨rfl, rfl⟩
    · rintro ⟨rfl, rfl⟩; exact ⟨w, rfl, rfl, rfl⟩
  | ask m k =>
    simp only [reduceCtorEq, false_and, false_or, Ask.ask.injEq]
    constructor
    · intro h
      cases hf : f m with
      | none => rw [hf] at h; cases h
      | some r =>
        obtain ⟨v, j'⟩ := r
        rw [hf] at h
        simp only [Option.map_eq_some_iff, Prod.mk.injEq] at h
        obtain ⟨w', hk, rfl, rfl⟩ := h
        exact ⟨m, k, v, ⟨rfl, rfl⟩, hf, hk⟩
    · rintro ⟨m', k', v, ⟨rfl, rfl⟩, hf, hk⟩
      simp only [hf, hk, Option.map_some]

/-- what `plainD` yields depends on the nested lookup only at the value it uses -/
theorem plainD_transfer (h : plainD file f n off = some (w, j))
    (hfg : ∀ m v, f m = some (v, j) → g m = some (v, j)) : plainD file g n off = some (w, j) := by
  rw [plainD_eq_some] at h ⊢
  obtain h | ⟨m, k, v, hu, hf, hk⟩ := h
  · exact .inl h
  · exact .inr ⟨m, k, v, hu, hfg m v hf, hk⟩

/-- the nested loads below a plain object are those of the object it asks for -/
theorem plainD_need (h : plainD file f n off = some (w, j)) (hf : ∀ m v i, f m = some (v, i) → i ≤ b) : j ≤ b := by
  obtain ⟨_, rfl⟩ | ⟨m, _, v, _, hm, _⟩ := plainD_eq_some.1 h
  · exact Nat.zero_le b
  · exact hf m v j hm

/-- when the parse asks for an object whose lookup fails, it fails -/
theorem plainD_asked_none {q : Int} (hq : (uncompressedAtK file n off).asked = some q) (hf : f q = none) : plainD file f n off = none := by
  obtain ⟨k, hk⟩ := Ask.asked_some hq
  simp only [plainD, hk, hf]

/-- where `GetObject(n)` reads: the object it parses at an offset of the file (`n` itself, or
the object stream that holds `n`) and, for a member of an object stream, its index there -/
structure Loc where
  num : Int
  off : Int
  idx : Option Int

/-- the offset at which `getObjectStream(s)` reads the stream object: any entry that is not
itself compressed will do (a free one too) -/
def stmAt (x : RawSection) (s : Int) : Option Int :=
  match getLastI x s with
  | none => none
  | some xe => if xe.kind = .compressed then none else some xe.f1

/-- `none`: the table has no entry for `n`, a free one, or places `n` in a stream it cannot read -/
def locate (x : RawSection) (n : Int) : Option Loc :=
  match getLastI x n with
  | none => none
  | some e =>
    if e.kind = .free then none
    else if e.kind = .inUse then some ⟨n, e.f1, none⟩
    else (stmAt x e.f1).map fun off => ⟨e.f1, off, some e.f2⟩

/-- what `GetObject(n)` makes of the object read: the object itself, or member `idx` of the
object stream it is -/
def pick (ext : Reader.Ext) (n : Int) : Option Int → PVal → Option PVal
  | none, v => some v
  | some idx, .stream kv data =>
    match Reader.mkObjStm ext kv data with
    | .ok os => (memberAtI os n idx).map .obj
    | .error _ => none
  | some _, .obj _ => none

theorem locate_inUse {e : RawEntry} (he : getLastI x n = some e)
    (hin : e.kind = .inUse) : locate x n = some ⟨n, e.f1, none⟩ := by
  simp only [locate, he, hin, reduceCtorEq, if_false, if_true]

theorem locate_compressed {e : RawEntry} (he : getLastI x n = some e)
    (hfree : ¬ e.kind = .free) (hin : ¬ e.kind = .inUse) :
    locate x n = (stmAt x e.f1).map fun off => ⟨e.f1, off, some e.f2⟩ := by
  simp only [locate, he, hfree, hin, if_false]

/-- the load `GetObject(n)` makes, in terms of the nested lookup: the value and the nested loads
below it -/
def loadD (ext : Reader.Ext) (file : Str) (x : RawSection) (nested : Int → Option (PVal × Nat)) (n : Int) :
    Option (PVal × Nat) :=
  (locate x n).bind fun l =>
    (plainD file nested l.num l.off).bind fun p => (pick ext n l.idx p.1).map fun w => (w, p.2)

/-- one step of `getD` in terms of the nested lookup: the load, counted -/
def stepD (ext : Reader.Ext) (file : Str) (x : RawSection) (nested : Int → Option (PVal × Nat)) (n : Int) :
    Option (PVal × Nat) :=
  (loadD ext file x nested n).map fun p => (p.1, p.2 + 1)

theorem getD_succ (ext : Reader.Ext) (file : Str) (x : RawSection) (b : Nat) (n : Int) :
    getD ext file x (b + 1) n = stepD ext file x (getD ext file x b) n := by
  rw [getD]
  unfold stepD loadD locate stmAt
  cases getLastI x n with
  | none => rfl
  | some e =>
    dsimp only
    by_cases hfree : e.kind = .free
    · rw [if_pos hfree, if_pos hfree]; rfl
    · rw [if_neg hfree, if_neg hfree]
      by_cases hin : e.kind = .inUse
      · rw [if_pos hin, if_pos hin]
        dsimp only [Option.bind_some]
        cases plainD file (getD ext file x b) n e.f1 <;> rfl
      · rw [if_neg hin, if_neg hin]
        cases getLastI x e.f1 with
        | none => rfl
        | some se =>
          dsimp only
          by_cases hc : se.kind = .compressed
          · rw [if_pos hc, if_pos hc]; rfl
          · rw [if_neg hc, if_neg hc]
            dsimp only [Option.map_some, Option.bind_some]
            cases plainD file (getD ext file x b) e.f1 se.f1 with
            | none => rfl
            | some p =>
              obtain ⟨v, j⟩ := p
              cases v with
              | obj o => rfl
              | stream kv data =>
                dsimp only [Option.bind_some, pick]
                cases Reader.mkObjStm ext kv data with
                | error _ => rfl
                | ok os => simp only [Option.map_map]; rfl

theorem nextOf_eq (file : Str) (x : RawSection) (n : Int) :
    nextOf file x n = (locate x n).bind fun l => (uncompressedAtK file l.num l.off).asked := by
  unfold nextOf locate stmAt
  cases getLastI x n with
  | none => rfl
  | some e =>
    dsimp only
    by_cases hfree : e.kind = .free
    · rw [if_pos hfree, if_pos hfree]; rfl
    · rw [if_neg hfree, if_neg hfree]
      by_cases hin : e.kind = .inUse
      · rw [if_pos hin, if_pos hin]; rfl
      · rw [if_neg hin, if_neg hin]
        cases getLastI x e.f1 with
        | none => rfl
        | some se =>
          dsimp only
          by_cases hc : se.kind = .compressed
          · rw [if_pos hc, if_pos hc]; rfl
          · rw [if_neg hc, if_neg hc]; rfl

theorem loadD_inUse {e : RawEntry} (he : getLastI x n = some e) (hin : e.kind = .inUse) :
    loadD ext file x f n = plainD file f n e.f1 := by
  simp only [loadD, locate_inUse he hin, Option.bind_some, pick]
  cases plainD file f n e.f1 <;> rfl

/-- an answer of `stepD` with need `j + 1` comes from an answer of the read with need `j` -/
theorem stepD_eq_some :
    stepD ext file x f n = some (w, k) ↔
      ∃ l v j, locate x n = some l ∧ plainD file f l.num l.off = some (v, j) ∧ pick ext n l.idx v = some w ∧
        k = j + 1 := by
  unfold stepD loadD
  constructor
  · intro h
    obtain ⟨⟨w', j⟩, h, hk⟩ := Option.map_eq_some_iff.1 h
    obtain ⟨l, hl, h⟩ := Option.bind_eq_some_iff.1 h
    obtain ⟨⟨v, j'⟩, hp, h⟩ := Option.bind_eq_some_iff.1 h
    obtain ⟨w'', hw, h⟩ := Option.map_eq_some_iff.1 h
    cases h; cases hk
    exact ⟨l, v, _, hl, hp, hw, rfl⟩
  · rintro ⟨l, v, j, hl, hp, hw, rfl⟩
    simp only [hl, hp, hw, Option.bind_some, Option.map_some]

/-- the need reported is at least one and within the budget -/
theorem getD_need {v : PVal} (h : getD ext file x b n = some (v, k)) : 1 ≤ k ∧ k ≤ b := by
  induction b generalizing n v k with
  | zero => cases h
  | succ b ih =>
    rw [getD_succ] at h
    obtain ⟨l, w, j, _, hp, _, rfl⟩ := stepD_eq_some.1 h
    have := plainD_need hp fun m v i hm => (ih hm).2
    omega

/-- an answer with need `k` is the answer at every budget that covers `k`: the nested lookup is
used only at the need it reports, one less -/
theorem getD_stable {v : PVal} (h : getD ext file x b n = some (v, k)) {b' : Nat} (hb' : k ≤ b') :
    getD ext file x b' n = some (v, k) := by
  induction b generalizing n v k b' with
  | zero => cases h
  | succ b ih =>
    rw [getD_succ] at h
    obtain ⟨l, w, j, hl, hp, hw, rfl⟩ := stepD_eq_some.1 h
    obtain ⟨b'', rfl⟩ : ∃ b'', b' = b'' + 1 := ⟨b' - 1, by omega⟩
    rw [getD_succ]
    exact stepD_eq_some.2
      ⟨l, w, j, hl, plainD_transfer hp fun m v' hm => ih hm (Nat.le_of_succ_le_succ hb'), hw, rfl⟩

/-- more budget never changes an answer -/
theorem getD_mono_le {b' : Nat} (hb : b ≤ b') {r : PVal × Nat} (h : getD ext file x b n = some r) :
    getD ext file x b' n = some r :=
  getD_stable (v := r.1) (k := r.2) h (Nat.le_trans (getD_need (v := r.1) (k := r.2) h).2 hb)

end

/-- an answer with need `k` is already the answer with budget `k` (and of no smaller budget:
`getD_of_need`) -/
theorem getD_threshold (ext : Reader.Ext) (file : Str) (x : RawSection) :
    ∀ (b : Nat) (n : Int) (v : PVal) (k : Nat), getD ext file x b n = some (v, k) → getD ext file x k n = some (v, k) :=
  fun _ _ _ k h => getD_stable h (Nat.le_refl k)

/-- a lookup that is monotone in its budget and reports a need within the budget: from its
answer at the budget that equals the need, its answer at every budget -/
theorem at_budget {β : Type} {F : Nat → Option β} (need : β → Nat)
    (mono : ∀ b b' r, b ≤ b' → F b = some r → F b' = some r) (le : ∀ b r, F b = some r → need r ≤ b)
    {r : β} (h : F (need r) = some r) (b : Nat) : F b = if need r ≤ b then some r else none := by
  by_cases hk : need r ≤ b
  · rw [if_pos hk]; exact mono _ _ r hk h
  · rw [if_neg hk]
    cases hb : F b with
    | none => rfl
    | some r' =>
      have h' := mono b (need r) r' (by omega) hb
      rw [h] at h'
      cases h'
      exact absurd (le b r hb) hk

/-- the answer at any budget, from one answer: the value when the budget covers the need -/
theorem getD_of_need {ext : Reader.Ext} {file : Str} {x : RawSection} {b : Nat} {n : Int} {v : PVal} {k : Nat}
    (h : getD ext file x b n = some (v, k)) (b' : Nat) :
    getD ext file x b' n = if k ≤ b' then some (v, k) else none :=
  at_budget (r := (v, k)) Prod.snd (fun _ _ _ hb hr => getD_mono_le hb hr)
    (fun _ r hr => (getD_need (v := r.1) (k := r.2) hr).2) (getD_threshold ext file x b n v k h) b'


/-! ## reference cycles through `/Length`, and `getObjectB = getD` -/

theorem Chain.snoc {file : Str} {x : RawSection} {p n m : Int} (h : Chain file x p n) (hn : nextOf file x n = some m) :
    Chain file x p m := by
  induction h with
  | one h1 => exact .cons h1 (.one hn)
  | cons h1 _ ih => exact .cons h1 (ih hn)

/-- the first step of a chain that comes back: its target is on a cycle too -/
theorem Chain.next_cycle {file : Str} {x : RawSection} {n : Int} (h : Chain file x n n) :
    ∃ q, nextOf file x n = some q ∧ Chain file x q q := by
  cases h with
  | one h1 => exact ⟨n, h1, .one h1⟩
  | cons h1 h2 => exact ⟨_, h1, h2.snoc h1⟩

/-- when everything being loaded is on the way to `n` and the loading of `n` starts the lookup of
`m`, then `n` and everything being loaded are on the way to `m` -/
theorem Chain.nested {file : Str} {x : RawSection} {L : List Int} {n m : Int} (hch : ∀ p ∈ L, Chain file x p n)
    (hm : nextOf file x n = some m) : ∀ p ∈ n :: L, Chain file x p m := by
  intro p hp
  cases hp with
  | head => exact .one hm
  | tail _ hp' => exact (hch p hp').snoc hm

/-- when the loading of `n` starts the lookup of `q` and that lookup fails, `n` fails -/
theorem stepD_next_none {ext : Reader.Ext} {file : Str} {x : RawSection} {f : Int → Option (PVal × Nat)} {n q : Int}
    (hq : nextOf file x n = some q) (hf : f q = none) : stepD ext file x f n = none := by
  rw [nextOf_eq, Option.bind_eq_some_iff] at hq
  obtain ⟨l, hl, hq⟩ := hq
  simp only [stepD, loadD, hl, Option.bind_some, plainD_asked_none hq hf, Option.bind_none, Option.map_none]

/-- an object whose loading leads back to itself has no answer at any budget -/
theorem getD_cycle (ext : Reader.Ext) (file : Str) (x : RawSection) :
    ∀ (b : Nat) (n : Int), Chain file x n n → getD ext file x b n = none := by
  intro b
  induction b with
  | zero => intro n _; rfl
  | succ b ih =>
    intro n h
    obtain ⟨q, hq, hqq⟩ := h.next_cycle
    rw [getD_succ]
    exact stepD_next_none hq (ih q hqq)

/-- an object the table does not place (unknown, free, or in a stream it does not place) has no
answer -/
theorem getD_not_located (ext : Reader.Ext) (file : Str) {x : RawSection} {n : Int} (h : locate x n = none)
    (b : Nat) : getD ext file x b n = none := by
  cases b with
  | zero => rfl
  | succ b => rw [getD_succ, stepD, loadD, h]; rfl

theorem getD_no_entry (ext : Reader.Ext) (file : Str) (x : RawSection) (b : Nat) (n : Int)
    (h : getLastI x n = none) : getD ext file x b n = none :=
  getD_not_located ext file (by simp only [locate, h]) b

theorem getD_free (ext : Reader.Ext) (file : Str) (x : RawSection) (b : Nat) (n : Int) (e : RawEntry)
    (h : getLastI x n = some e) (hf : e.kind = .free) : getD ext file x b n = none :=
  getD_not_located ext file (by simp only [locate, h, hf, if_true]) b

/-- `getUncompressedObject` with a resolver that answers like `getD`'s nested lookup -/
theorem uncompressedAt_plainD (file : Str) (n off : Int) (lenOf : Int → Option Int)
    (nested : Int → Option (PVal × Nat))
    (h : ∀ m, (uncompressedAtK file n off).asked = some m → lenOf m = lenInt ((nested m).map Prod.fst)) :
    uncompressedAt file n off lenOf = (plainD file nested n off).map Prod.fst := by
  rw [(uncompressedAtK_models file n off).1]
  unfold plainD
  cases hk : uncompressedAtK file n off with
  | fin r => cases r <;> rfl
  | ask m k =>
    rw [hk] at h
    simp only [Ask.run, h m rfl]
    cases hn : nested m with
    | none => simp only [Option.map_none, lenInt, (uncompressedAtK_models file n off).2 m k hk]
    | some r =>
      obtain ⟨v, j⟩ := r
      simp only [Option.map_some]
      cases k (lenInt (some v)) <;> rfl

/-- `getObjectB` behind its guards: the object is read where the table says it is, with a
resolver that answers `lenInt` of the nested lookup -/
theorem getObjectB_succ (ext : Reader.Ext) (file : Str) (x : RawSection) (f : Nat) (loading : List Int) (n : Int) :
    ∃ lenOf : Int → Option Int,
      (∀ m, lenOf m = lenInt (getObjectB ext file x f (n :: loading) m)) ∧
      getObjectB ext file x (f + 1) loading n =
        (locate x n).bind fun l =>
          if loading.contains n = true ∨ loading.length ≥ maxNestedLoads then none
          else (uncompressedAt file l.num l.off lenOf).bind (pick ext n l.idx) := by
  apply Exists.intro
  refine And.intro ?resolver ?body
  case body =>
    rw [getObjectB]
    unfold locate stmAt
    cases getLastI x n with
    | none => rfl
    | some e =>
      dsimp only
      by_cases hfree : e.kind = .free
      · rw [if_pos hfree, if_pos hfree]; rfl
      · rw [if_neg hfree, if_neg hfree]
        by_cases hg : loading.contains n = true ∨ loading.length ≥ maxNestedLoads
        · simp only [if_pos hg, Option.bind_fun_none]
          obtain hg | hg := hg
          · rw [if_pos hg]
          · rw [if_pos hg, ite_self]
        · simp only [if_neg hg]
          rw [if_neg (fun h => hg (.inl h)), if_neg (fun h => hg (.inr h))]
          by_cases hin : e.kind = .inUse
          · rw [if_pos hin, if_pos hin]
            exact (Option.bind_fun_some _).symm
          · rw [if_neg hin, if_neg hin]
            cases getLastI x e.f1 with
            | none => rfl
            | some se =>
              dsimp only
              by_cases hc : se.kind = .compressed
              · rw [if_pos hc, if_pos hc]; rfl
              · rw [if_neg hc, if_neg hc]
                dsimp only [Option.map_some, Option.bind_some]
                cases uncompressedAt file e.f1 se.f1 _ with
                | none => rfl
                | some v => cases v <;> rfl
  case resolver =>
    intro m
    cases getObjectB ext file x f (n :: loading) m with
    | none => rfl
    | some v =>
      cases v with
      | obj o => cases o <;> rfl
      | stream kv data => rfl

/-- **`getObjectB` is `getD`**: on a fresh reader, with `loading` being loaded and every object
of `loading` on the way to `n`, the lookup with the `loading` set answers what the lookup
without it answers with the remaining budget -/
theorem getObjectB_eq_getD (ext : Reader.Ext) (file : Str) (x : RawSection) :
    ∀ (f : Nat) (loading : List Int) (n : Int),
      (∀ p ∈ loading, Chain file x p n) → maxNestedLoads + 1 ≤ f + loading.length →
      getObjectB ext file x f loading n = (getD ext file x (maxNestedLoads - loading.length) n).map Prod.fst := by
  intro f
  induction f with
  | zero =>
    intro loading n _ hf
    have : maxNestedLoads - loading.length = 0 := by omega
    rw [this]; rfl
  | succ f ih =>
    intro loading n hch hf
    obtain ⟨lenOf, hlen, heq⟩ := getObjectB_succ ext file x f loading n
    rw [heq]
    by_cases hcon : loading.contains n = true
    · -- `n` is being loaded: the guard answers at once what the budget would answer in the end
      rw [getD_cycle ext file x _ n (hch n (by simpa using hcon))]
      simp only [hcon, true_or, if_true, Option.bind_fun_none, Option.map_none]
    · by_cases hlim : loading.length ≥ maxNestedLoads
      · have : maxNestedLoads - loading.length = 0 := by omega
        rw [this]
        simp only [hlim, or_true, if_true, Option.bind_fun_none]; rfl
      · obtain ⟨b, hb, hb', hfuel⟩ : ∃ b, maxNestedLoads - loading.length = b + 1 ∧
            maxNestedLoads - (loading.length + 1) = b ∧ maxNestedLoads + 1 ≤ f + (loading.length + 1) :=
          ⟨maxNestedLoads - loading.length - 1, by omega⟩
        have hg : ¬ (loading.contains n = true ∨ loading.length ≥ maxNestedLoads) := fun h => h.elim hcon hlim
        rw [hb, getD_succ]
        simp only [stepD, loadD, if_neg hg]
        cases hl : locate x n with
        | none => rfl
        | some l =>
          simp only [Option.bind_some]
          rw [uncompressedAt_plainD file l.num l.off lenOf (getD ext file x b)]
          · cases plainD file (getD ext file x b) l.num l.off with
            | none => rfl
            | some p =>
              obtain ⟨v, j⟩ := p
              simp only [Option.map_some, Option.bind_some]
              cases pick ext n l.idx v <;> rfl
          · -- the nested lookup, by induction
            intro m hm
            have hnm : nextOf file x n = some m := by rw [nextOf_eq, hl]; exact hm
            rw [hlen, ih (n :: loading) m (Chain.nested hch hnm) hfuel, List.length_cons, hb']

/-- a lookup from outside: `getObjectB` with an empty `loading` set is `getD` with the whole budget -/
theorem getObjectB_top (ext : Reader.Ext) (file : Str) (x : RawSection) (n : Int) :
    getObjectB ext file x (maxNestedLoads + 1) [] n = (getD ext file x maxNestedLoads n).map Prod.fst := by
  have := getObjectB_eq_getD ext file x (maxNestedLoads + 1) [] n (fun p hp => by cases hp) (by simp)
  simpa using this

end Tabula.XrefC
