import TabulaModel.Model.MarkdownDoc
import TabulaModel.Lemmas.Markdown
/-!
Text as lines (`joinLines`, `splitLines`) and pipe tables read on lines: the reading spec of a
document takes a table from a block of lines (`gfmTableL`), and `gfmTable` on a text is `gfmTableL`
on its lines.  Every line a table writer emits is `124 :: rowBody ps` for padded cells `ps`
(Lemmas/Markdown.lean); `gfmTableL_rowLines` reads a table of such lines, and the writers
(`tableLines`, `spanLines`) are instances of it.
-/
namespace Tabula.MarkdownDoc
open Tabula.A1 (Str dec decInt)
open Tabula.Markdown

/-- every line followed by `\n` -/
def joinLines (ls : List Str) : Str := ls.flatMap fun l => l ++ [10]

theorem joinLines_nil : joinLines [] = [] := rfl

theorem joinLines_map {α : Type} (f : α → Str) (xs : List α) :
    joinLines (xs.map f) = xs.flatMap fun x => f x ++ [10] :=
  List.flatMap_map f _ xs

theorem joinLines_cons (l : Str) (ls : List Str) : joinLines (l :: ls) = l ++ 10 :: joinLines ls := by
  simp [joinLines]

theorem joinLines_append (a b : List Str) : joinLines (a ++ b) = joinLines a ++ joinLines b := by
  simp [joinLines]

theorem joinLines_singleton (l : Str) : joinLines [l] = l ++ [10] := by simp [joinLines]

theorem splitLines_joinLines_append (ls : List Str) (h : ∀ l ∈ ls, 10 ∉ l) (rest : Str) :
    splitLines (joinLines ls ++ rest) = ls ++ splitLines rest := by
  induction ls with
  | nil => simp [joinLines]
  | cons l ls ih =>
    rw [joinLines_cons, List.append_assoc, List.cons_append, splitLines_eq_splitOn,
      List.splitOn_append_cons_self_of_not_mem (h l (by simp)), ← splitLines_eq_splitOn,
      ih (fun x hx => h x (List.mem_cons_of_mem _ hx))]
    rfl

theorem splitLines_joinLines (ls : List Str) (h : ∀ l ∈ ls, 10 ∉ l) :
    splitLines (joinLines ls) = ls ++ [[]] := by
  have := splitLines_joinLines_append ls h []
  simpa [splitLines] using this

theorem splitLines_replicate_nl (k : Nat) : splitLines (List.replicate k 10) = List.replicate (k + 1) [] := by
  induction k with
  | zero => rfl
  | succ k ih => simp [List.replicate_succ, splitLines, ih]

theorem gfmTable_eq_L (doc : Str) : gfmTable doc = gfmTableL (splitLines doc) := by
  unfold gfmTable
  generalize splitLines doc = ls
  match ls with
  | [] => rfl
  | [_] => rfl
  | h :: d :: rest => rfl

theorem bodyRows_end_blank (n : Nat) (ls : List Str) : bodyRows n (ls ++ [[]]) = bodyRows n ls := by
  induction ls with
  | nil => simp [bodyRows, isBlank]
  | cons l ls ih =>
    simp only [List.cons_append, bodyRows, ih]

theorem gfmTableL_end_blank (h d : Str) (rest : List Str) :
    gfmTableL (h :: d :: rest ++ [[]]) = gfmTableL (h :: d :: rest) := by
  have : h :: d :: rest ++ [[]] = h :: d :: (rest ++ [[]]) := by simp
  rw [this]
  simp only [gfmTableL, bodyRows_end_blank]

/-- a table given by its lines reads as the joined text does -/
theorem gfmTableL_of_joined (T : List Str) (hnl : ∀ l ∈ T, 10 ∉ l) (h2 : 2 ≤ T.length) :
    gfmTableL T = gfmTable (joinLines T) := by
  rw [gfmTable_eq_L, splitLines_joinLines T hnl]
  match T, h2 with
  | h :: d :: rest, _ => exact (gfmTableL_end_blank h d rest).symm

def tableLines (w : Writer) (hdr : List Str) (rest : List (List Str)) : List Str :=
  renderRow w hdr :: renderDelim w hdr.length :: rest.map (renderRow w)

theorem render_lines (w : Writer) (hdr : List Str) (rest : List (List Str)) :
    render w (hdr :: rest) = joinLines (tableLines w hdr rest) := by
  simp only [render, tableLines, joinLines_cons, joinLines_map]
  simp

theorem renderRow_pipe (w : Writer) (cells : List Str) (hne : cells ≠ []) : isPipeLine (renderRow w cells) = true := by
  rw [renderRow_eq w cells hne]
  rfl

theorem renderDelim_pipe (w : Writer) (n : Nat) (hn : 1 ≤ n) : isPipeLine (renderDelim w n) = true := by
  rw [renderDelim_eq w n hn]
  rfl

theorem tableLines_props (w : Writer) (hdr : List Str) (rest : List (List Str)) (hne : ∀ r ∈ hdr :: rest, r ≠ []) :
    ∀ l ∈ tableLines w hdr rest, isPipeLine l = true ∧ 10 ∉ l := by
  have hlen : 1 ≤ hdr.length := List.length_pos_iff.mpr (hne hdr (by simp))
  intro l hl
  simp only [tableLines, List.mem_cons, List.mem_map] at hl
  rcases hl with rfl | rfl | ⟨r, hr, rfl⟩
  · exact ⟨renderRow_pipe w hdr (hne hdr (by simp)), renderRow_noNl w hdr (hne hdr (by simp))⟩
  · exact ⟨renderDelim_pipe w _ hlen, renderDelim_noNl w _ hlen⟩
  · exact ⟨renderRow_pipe w r (hne r (List.mem_cons_of_mem _ hr)), renderRow_noNl w r (hne r (List.mem_cons_of_mem _ hr))⟩

theorem bodyRows_rowLines (n : Nat) (bps : List (List Str)) (hlen : ∀ ps ∈ bps, ps.length = n)
    (h92 : ∀ ps ∈ bps, ∀ p ∈ ps, p.getLast? ≠ some 92) :
    bodyRows n (bps.map fun ps => 124 :: rowBody ps) = bps.map (List.map trim) := by
  induction bps with
  | nil => rfl
  | cons r rs ih =>
    rw [List.map_cons, bodyRows, isBlank_rowLine, if_neg Bool.false_ne_true, gfmSplitRow_rowLine_end r (h92 r (by simp)),
      padTrunc_exact n _ (by rw [List.length_map, hlen r (by simp)]),
      ih (fun x hx => hlen x (List.mem_cons_of_mem _ hx)) (fun x hx => h92 x (List.mem_cons_of_mem _ hx))]
    rfl

/-- a table given by the padded cells of its lines — header, `n` delimiter cells `dp`, body — none
ending in a backslash, reads as those cells, trimmed -/
theorem gfmTableL_rowLines (n : Nat) (hn : 1 ≤ n) (hp : List Str) (dp : Str) (bps : List (List Str))
    (hlen : ∀ ps ∈ hp :: bps, ps.length = n) (hdp : trim dp = [45, 45, 45]) (hdp92 : dp.getLast? ≠ some 92)
    (h92 : ∀ ps ∈ hp :: bps, ∀ p ∈ ps, p.getLast? ≠ some 92) :
    gfmTableL ((124 :: rowBody hp) :: (124 :: rowBody (List.replicate n dp)) :: bps.map fun ps => 124 :: rowBody ps)
      = some ((hp :: bps).map (List.map trim)) := by
  have hh : hp.length = n := hlen hp (by simp)
  unfold gfmTableL
  simp only
  rw [gfmSplitRow_rowLine_end hp (h92 hp (by simp)),
    gfmSplitRow_rowLine_end _ (fun p hp' => List.eq_of_mem_replicate hp' ▸ hdp92), List.map_replicate, hdp,
    bodyRows_rowLines _ bps (by simpa [hh] using fun ps hps => hlen ps (List.mem_cons_of_mem _ hps))
      (fun ps hps => h92 ps (List.mem_cons_of_mem _ hps))]
  simp only [List.length_map, List.length_replicate, hh, all_replicate_dash]
  simp [hn]

/-- the padded cells of rows of `n` cells: `n` of them in every row, none ending in a backslash -/
theorem padCells_props (w : Writer) (n : Nat) (rows : List (List Str)) (hlen : ∀ r ∈ rows, r.length = n) :
    ∀ ps ∈ rows.map (List.map (padCell w)), ps.length = n ∧ ∀ p ∈ ps, p.getLast? ≠ some 92 := by
  intro ps hps
  obtain ⟨r, hr, rfl⟩ := List.mem_map.mp hps
  refine ⟨by rw [List.length_map, hlen r hr], fun p hp => ?_⟩
  obtain ⟨c, _, rfl⟩ := List.mem_map.mp hp
  exact padCell_end w c

theorem map_renderRow_eq (w : Writer) (rows : List (List Str)) (hne : ∀ r ∈ rows, r ≠ []) :
    rows.map (renderRow w) = (rows.map (List.map (padCell w))).map fun ps => 124 :: rowBody ps := by
  rw [List.map_map]
  exact List.map_congr_left fun r hr => renderRow_eq w r (hne r hr)

/-- a rectangular table of cells of ANY bytes through any writer, line by line, reads as the same
rows × columns of normalised cell texts -/
theorem gfmTableL_tableLines (w : Writer) (n : Nat) (hn : 1 ≤ n) (hdr : List Str) (rest : List (List Str))
    (hlen : ∀ r ∈ hdr :: rest, r.length = n) :
    gfmTableL (tableLines w hdr rest) = some ((hdr :: rest).map (List.map (normCell w))) := by
  have hne : ∀ r ∈ hdr :: rest, r ≠ [] := fun r hr => ne_nil_of_length r n hn (hlen r hr)
  have hpad := padCells_props w n (hdr :: rest) hlen
  rw [tableLines, renderRow_eq w hdr (hne hdr (by simp)), hlen hdr (by simp), renderDelim_eq w n hn,
    map_renderRow_eq w rest fun r hr => hne r (List.mem_cons_of_mem _ hr),
    gfmTableL_rowLines n hn _ _ _ (fun ps h => (hpad ps h).1) (trim_dashCell w) (dashCell_end w)
      fun ps h => (hpad ps h).2]
  simp [trim_padCell]

/-- the lines of `renderSpan w t` (docx / odt `ParsedTable.ToMarkdown`) -/
def spanLines (w : Writer) (t : List (List SCell)) : List Str :=
  match t with
  | [] => []
  | hdr :: rows =>
    renderSpanRow w (colCount t) hdr :: delimPipe (delimPiece w) (colCount t)
      :: rows.map (renderSpanRow w (colCount t))

theorem colCount_nil : colCount [] = 0 := rfl

theorem renderSpan_zero (w : Writer) (t : List (List SCell)) (h : colCount t = 0) : renderSpan w t = [] := by
  simp [renderSpan, h]

theorem renderSpan_lines (w : Writer) (t : List (List SCell)) (h : colCount t ≠ 0) :
    renderSpan w t = joinLines (spanLines w t) := by
  cases t with
  | nil => exact absurd colCount_nil h
  | cons hdr rows =>
    simp only [renderSpan, h, if_false, spanLines, joinLines_cons, joinLines_map]
    simp

theorem spanLines_ne_nil (w : Writer) (t : List (List SCell)) (h : colCount t ≠ 0) : spanLines w t ≠ [] := by
  cases t with
  | nil => exact absurd colCount_nil h
  | cons hdr rows => simp [spanLines]

theorem spanLines_pipe (w : Writer) (t : List (List SCell)) : ∀ l ∈ spanLines w t, isPipeLine l = true := by
  cases t with
  | nil => simp [spanLines]
  | cons hdr rows =>
    intro l hl
    simp only [spanLines, List.mem_cons, List.mem_map] at hl
    rcases hl with rfl | rfl | ⟨r, _, rfl⟩
    · rfl
    · rfl
    · rfl

theorem renderSpanRow_noNl (w : Writer) (n : Nat) (cells : List SCell) : 10 ∉ renderSpanRow w n cells := by
  rw [renderSpanRow_eq]
  exact rowLine_noNl _ (spanPs_no w n cells 10 (by decide) fun c _ => preCell_noNl w c.text)

theorem delimPipe_noNl (w : Writer) (n : Nat) : 10 ∉ delimPipe (delimPiece w) n := by
  unfold delimPipe
  intro h
  simp only [List.mem_cons, List.mem_flatten] at h
  rcases h with h | ⟨l, hl, hm⟩
  · omega
  · rw [List.eq_of_mem_replicate hl] at hm
    cases w <;> simp [delimPiece] at hm

theorem spanLines_noNl (w : Writer) (t : List (List SCell)) : ∀ l ∈ spanLines w t, 10 ∉ l := by
  cases t with
  | nil => simp [spanLines]
  | cons hdr rows =>
    intro l hl
    simp only [spanLines, List.mem_cons, List.mem_map] at hl
    rcases hl with rfl | rfl | ⟨r, _, rfl⟩
    · exact renderSpanRow_noNl _ _ _
    · exact delimPipe_noNl _ _
    · exact renderSpanRow_noNl _ _ _

theorem gfmTableL_spanLines (w : Writer) (t : List (List SCell)) (hc : colCount t ≠ 0) :
    gfmTableL (spanLines w t) = gfmTable (renderSpan w t) := by
  have h2 : 2 ≤ (spanLines w t).length := by
    cases t with
    | nil => exact absurd colCount_nil hc
    | cons hdr rows => simp [spanLines]
  rw [gfmTableL_of_joined _ (spanLines_noNl w t) h2, renderSpan_lines w t hc]

theorem spanLines_eq (w : Writer) (hw : w ≠ .model) (hdr : List SCell) (rows : List (List SCell)) :
    spanLines w (hdr :: rows) = (124 :: rowBody (spanPs w (colCount (hdr :: rows)) hdr))
      :: (124 :: rowBody (List.replicate (colCount (hdr :: rows)) (dashCell w)))
      :: (rows.map (spanPs w (colCount (hdr :: rows)))).map fun ps => 124 :: rowBody ps := by
  rw [spanLines, renderSpanRow_eq, delimPipe_eq w hw, List.map_map]
  congr 2
  exact List.map_congr_left fun r _ => renderSpanRow_eq w _ r

/-- a docx / odt table with merged cells, line by line, reads as its grid -/
theorem gfmTableL_spanLines_grid (w : Writer) (hw : w ≠ .model) (t : List (List SCell)) (hc : colCount t ≠ 0) :
    gfmTableL (spanLines w t) = some (t.map (gridRow w (colCount t))) := by
  cases t with
  | nil => exact absurd colCount_nil hc
  | cons hdr rows =>
    have hps : ∀ ps ∈ (hdr :: rows).map (spanPs w (colCount (hdr :: rows))),
        ps.length = colCount (hdr :: rows) ∧ ∀ p ∈ ps, p.getLast? ≠ some 92 := by
      intro ps hps
      obtain ⟨r, hr, rfl⟩ := List.mem_map.mp hps
      exact ⟨length_spanPs w _ r (rowCols_le_colCount _ r hr), spanPs_end w _ r⟩
    rw [spanLines_eq w hw, gfmTableL_rowLines _ (Nat.pos_of_ne_zero hc) _ _ _ (fun ps h => (hps ps h).1)
      (trim_dashCell w) (dashCell_end w) (fun ps h => (hps ps h).2)]
    simp [map_trim_spanPs]

end Tabula.MarkdownDoc

namespace Tabula.Markdown
open Tabula.A1 (Str)
open Tabula.MarkdownDoc

/-- a rectangular table of cells of ANY bytes through any writer reads back as the same rows ×
columns of normalised cell texts -/
theorem gfmTable_render_any (w : Writer) (n : Nat) (hn : 1 ≤ n) (hdr : List Str) (rows : List (List Str))
    (hlen : ∀ r ∈ hdr :: rows, r.length = n) :
    gfmTable (render w (hdr :: rows)) = some ((hdr :: rows).map (List.map (normCell w))) := by
  have hp := tableLines_props w hdr rows fun r hr => ne_nil_of_length r n hn (hlen r hr)
  rw [render_lines, ← gfmTableL_of_joined _ (fun l hl => (hp l hl).2) (by simp [tableLines]),
    gfmTableL_tableLines w n hn hdr rows hlen]

/-- the same for a table given as a non-empty list of rows -/
theorem gfmTable_render_table (w : Writer) (n : Nat) (hn : 1 ≤ n) (t : List (List Str)) (hne : t ≠ [])
    (hrect : ∀ r ∈ t, r.length = n) : gfmTable (render w t) = some (t.map (List.map (normCell w))) := by
  cases t with
  | nil => exact absurd rfl hne
  | cons hdr rows => exact gfmTable_render_any w n hn hdr rows hrect

/-- a docx / odt table with merged cells, any cell contents, reads back as its grid -/
theorem gfmTable_renderSpan_any (w : Writer) (hw : w ≠ .model) (t : List (List SCell)) (hc : colCount t ≠ 0) :
    gfmTable (renderSpan w t) = some (t.map (gridRow w (colCount t))) := by
  rw [← gfmTableL_spanLines w t hc, gfmTableL_spanLines_grid w hw t hc]

theorem bodyRows_rows (w : Writer) (n : Nat) (hn : 1 ≤ n) (rows : List (List Str))
    (hlen : ∀ r ∈ rows, r.length = n) (_hbs : ∀ r ∈ rows, ∀ c ∈ r, 92 ∉ c) :
    bodyRows n (rows.map (renderRow w) ++ [[]]) = rows.map (List.map (normCell w)) := by
  have hpad := padCells_props w n rows hlen
  rw [bodyRows_end_blank, map_renderRow_eq w rows fun r hr => ne_nil_of_length r n hn (hlen r hr),
    bodyRows_rowLines n _ (fun ps h => (hpad ps h).1) fun ps h => (hpad ps h).2]
  simp [trim_padCell]

theorem bodyRows_psLines (n : Nat) (bps : List (List Str)) (hlen : ∀ ps ∈ bps, ps.length = n)
    (h92 : ∀ ps ∈ bps, ∀ p ∈ ps, 92 ∉ p) :
    bodyRows n (bps.map (fun ps => 124 :: rowBody ps) ++ [[]]) = bps.map (List.map trim) := by
  rw [bodyRows_end_blank]
  exact bodyRows_rowLines n bps hlen fun ps hps p hp => getLast?_ne_of_not_mem p 92 (h92 ps hps p hp)

theorem gfmTable_psLines (n : Nat) (hn : 1 ≤ n) (hp : List Str) (dp : Str) (bps : List (List Str))
    (hh : hp.length = n) (hlen : ∀ ps ∈ bps, ps.length = n)
    (hdp : trim dp = [45, 45, 45]) (hdp92 : 92 ∉ dp) (hdp10 : 10 ∉ dp)
    (h92h : ∀ p ∈ hp, 92 ∉ p) (h10h : ∀ p ∈ hp, 10 ∉ p)
    (h92 : ∀ ps ∈ bps, ∀ p ∈ ps, 92 ∉ p) (h10 : ∀ ps ∈ bps, ∀ p ∈ ps, 10 ∉ p) :
    gfmTable ((124 :: rowBody hp) ++ 10 :: ((124 :: rowBody (List.replicate n dp)) ++ 10 ::
        ((bps.map fun ps => 124 :: rowBody ps).flatMap fun l => l ++ [10])))
      = some ((hp :: bps).map (List.map trim)) := by
  have e : (124 :: rowBody hp) ++ 10 :: ((124 :: rowBody (List.replicate n dp)) ++ 10 ::
        ((bps.map fun ps => 124 :: rowBody ps).flatMap fun l => l ++ [10]))
      = joinLines ((124 :: rowBody hp) :: (124 :: rowBody (List.replicate n dp)) ::
          bps.map fun ps => 124 :: rowBody ps) := by
    rw [joinLines_cons, joinLines_cons]; rfl
  have hnl : ∀ l ∈ (124 :: rowBody hp) :: (124 :: rowBody (List.replicate n dp)) ::
      bps.map fun ps => 124 :: rowBody ps, 10 ∉ l := by
    refine List.forall_mem_cons.mpr ⟨rowLine_noNl hp h10h, List.forall_mem_cons.mpr ⟨rowLine_noNl _ ?_, ?_⟩⟩
    · exact fun p hp' => List.eq_of_mem_replicate hp' ▸ hdp10
    · intro l hl
      obtain ⟨ps, hps, rfl⟩ := List.mem_map.mp hl
      exact rowLine_noNl ps (h10 ps hps)
  rw [e, ← gfmTableL_of_joined _ hnl (by simp)]
  exact gfmTableL_rowLines n hn hp dp bps (List.forall_mem_cons.mpr ⟨hh, hlen⟩) hdp
    (getLast?_ne_of_not_mem dp 92 hdp92)
    (List.forall_mem_cons.mpr ⟨fun p hp' => getLast?_ne_of_not_mem p 92 (h92h p hp'),
      fun ps hps p hp' => getLast?_ne_of_not_mem p 92 (h92 ps hps p hp')⟩)

end Tabula.Markdown
