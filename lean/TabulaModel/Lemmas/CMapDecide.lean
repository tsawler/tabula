import TabulaModel.Lemmas.CMapItems
/-!
The well-formedness predicates of `Lemmas/CMapItems.lean` are decidable, so that a concrete program
or map is shown to satisfy the hypotheses of the round-trip theorems by evaluation.
-/
namespace Tabula.CMap
open Tabula.UTF16

instance (t : List Nat) : Decidable (AllScalar t) := inferInstanceAs (Decidable (∀ x ∈ t, IsScalar x))

instance (t : List Nat) : Decidable (TextOK t) :=
  inferInstanceAs (Decidable (AllScalar t ∧ t ≠ [] ∧ t.head? ≠ some 0xFEFF))

instance (w : Nat) (r : Run) : Decidable (RunOK w r) :=
  inferInstanceAs (Decidable (r.texts ≠ [] ∧ r.lo + r.texts.length ≤ 256 ^ w ∧ ∀ t ∈ r.texts, TextOK t))

/-- `RunOffsetOK` speaks about the positions of the run only -/
theorem runOffsetOK_iff (r : Run) : RunOffsetOK r ↔
    ∀ i, i < r.texts.length → encodeUnits (r.texts.getD i []) = bumpUnits (encodeUnits (r.texts.headD [])) i := by
  constructor
  · intro h i hi
    exact h i _ (by rw [List.getD_eq_getElem?_getD, List.getElem?_eq_getElem hi]; rfl)
  · intro h i t hi
    obtain ⟨hlt, rfl⟩ := List.getElem?_eq_some_iff.mp hi
    have := h i hlt
    rwa [List.getD_eq_getElem?_getD, List.getElem?_eq_getElem hlt] at this

instance (r : Run) : Decidable (RunOffsetOK r) := decidable_of_iff _ (runOffsetOK_iff r).symm

instance (w : Nat) : (it : Item) → Decidable (ItemOK w it)
  | .char c t => inferInstanceAs (Decidable (c < 256 ^ w ∧ TextOK t))
  | .offset r => inferInstanceAs (Decidable (RunOK w r ∧ RunOffsetOK r))
  | .array r => inferInstanceAs (Decidable (RunOK w r))

instance : (k : Kind) → (it : Item) → Decidable (it.fits k)
  | .bfchar, .char _ _ => isTrue trivial
  | .bfrange, .offset _ => isTrue trivial
  | .bfrange, .array _ => isTrue trivial
  | .bfchar, .offset _ => isFalse id
  | .bfchar, .array _ => isFalse id
  | .bfrange, .char _ _ => isFalse id

instance (w : Nat) (s : Section) : Decidable (SectionOK w s) :=
  inferInstanceAs (Decidable (∀ it ∈ s.items, ItemOK w it ∧ it.fits s.kind))


end Tabula.CMap
