import TabulaModel.Model.HtmlLost
import TabulaModel.Lemmas.HtmlSrc
import TabulaModel.Lemmas.HtmlRepair
/-!
Helper lemmas for C19 (Props/C19Lost.lean): the wanted text is an order-preserving interleaving
(`Shuffle`) of the source text and the lost text, for every tree, predicate and position — no
hypothesis on the document.  On a tree in which no paragraph with block-level children has a
wrapper with text of its own (`noWrapped`) nothing is lost, hence source text and wanted text
agree (up to white space).
-/
namespace Tabula.Html

/-- `c` is an interleaving of `a` and `b`: every element of `c` comes from exactly one of the two,
and each of them keeps its order -/
inductive Shuffle {α : Type} : List α → List α → List α → Prop
  | nil : Shuffle [] [] []
  | left (x : α) {a b c : List α} : Shuffle a b c → Shuffle (x :: a) b (x :: c)
  | right (x : α) {a b c : List α} : Shuffle a b c → Shuffle a (x :: b) (x :: c)

namespace Shuffle
variable {α : Type}

theorem nil_right : ∀ (a : List α), Shuffle a [] a
  | [] => .nil
  | x :: xs => .left x (nil_right xs)

theorem nil_left : ∀ (b : List α), Shuffle [] b b
  | [] => .nil
  | x :: xs => .right x (nil_left xs)

theorem append {a b c a' b' c' : List α} (h : Shuffle a b c) (h' : Shuffle a' b' c') :
    Shuffle (a ++ a') (b ++ b') (c ++ c') := by
  induction h with
  | nil => exact h'
  | left x _ ih => exact .left x ih
  | right x _ ih => exact .right x ih

theorem sublist_left {a b c : List α} (h : Shuffle a b c) : a.Sublist c := by
  induction h with
  | nil => exact .slnil
  | left x _ ih => exact ih.cons_cons x
  | right x _ ih => exact ih.cons x

theorem sublist_right {a b c : List α} (h : Shuffle a b c) : b.Sublist c := by
  induction h with
  | nil => exact .slnil
  | left x _ ih => exact ih.cons x
  | right x _ ih => exact ih.cons_cons x

theorem perm {a b c : List α} (h : Shuffle a b c) : c.Perm (a ++ b) := by
  induction h with
  | nil => exact .nil
  | left x _ ih => exact ih.cons x
  | right x _ ih => exact (ih.cons x).trans List.perm_middle.symm

theorem length {a b c : List α} (h : Shuffle a b c) : c.length = a.length + b.length := by
  induction h with
  | nil => rfl
  | left x _ ih => simp [ih]; omega
  | right x _ ih => simp [ih]; omega

theorem of_nil_right {a c : List α} (h : Shuffle a [] c) : c = a := by
  generalize hb : ([] : List α) = b at h
  induction h with
  | nil => rfl
  | left x _ ih => rw [ih hb]
  | right x _ _ => cases hb

/-- nothing is missing exactly when the second part is empty -/
theorem eq_left_iff {a b c : List α} (h : Shuffle a b c) : c = a ↔ b = [] := by
  constructor
  · intro e
    have := h.length
    rw [e] at this
    exact List.eq_nil_of_length_eq_zero (by omega)
  · intro e; subst e; exact h.of_nil_right

end Shuffle

/-- inline content has no source text of its own (it is only ever part of a run) -/
theorem src_inline_blank (p : Pos → Dom → Bool) (w : Bool) (k : Dom) (pos : Pos)
    (h : isInline k = true) : squeeze (src p w pos k) = [] := by
  rw [← atoms_src p w k pos ⟨false, 0⟩, atoms_inline p w k pos _ h]; rfl

mutual
theorem want_shuffle (p : Pos → Dom → Bool) (w : Bool) :
    ∀ (t : Dom) (pos : Pos) (inP : Bool),
      Shuffle (squeeze (src p w pos t)) (squeeze (lost p w pos inP t)) (squeeze (want p w pos inP t))
  | .text _, pos, inP => by simp [src, want, lost, squeeze]; exact .nil
  | .other kids, pos, inP => by
      simp only [src, want, lost]
      cases inP with
      | false =>
        simp only [Bool.false_eq_true, if_false]
        exact wantL_shuffle p w kids _
      | true =>
        simp only [if_true]
        exact wantW_shuffle p w kids _
  | .elem tag attrs kids, pos, inP => by
      unfold src want lost
      by_cases hs : isSkip tag = true
      · rw [if_pos hs, if_pos hs, if_pos hs]; exact .nil
      · by_cases hp : p pos (.elem tag attrs kids) = true
        · rw [if_neg hs, if_pos hp, if_neg hs, if_pos hp, if_neg hs, if_pos hp]; exact .nil
        · rw [if_neg hs, if_neg hp, if_neg hs, if_neg hp, if_neg hs, if_neg hp]
          cases hc : classify tag with
          | pdiv isP =>
            cases isP with
            | false =>
              simp only []
              split
              · exact Shuffle.nil_right _
              · exact wantD_shuffle p w kids _ inP
            | true =>
              simp only []
              by_cases hb : isBlockContainer kids = true
              · simp only [hb, Bool.not_true, Bool.and_false, Bool.false_eq_true, if_false]
                exact wantD_shuffle p w kids _ true
              · have hb' : isBlockContainer kids = false := by simpa using hb
                simp only [hb', Bool.not_false, Bool.and_true, if_true]
                by_cases ht : (squeeze (tnFlatL kids) != []) = true
                · simp only [ht, if_true]; exact Shuffle.nil_right _
                · have ht' : squeeze (tnFlatL kids) = [] := by simpa using ht
                  simp only [ht, Bool.false_eq_true, if_false]
                  rw [srcM_blank p w kids _ ht', ht']
                  exact .nil
          | list ord => exact wantL_shuffle p w kids _
          | li =>
            simp only []
            rw [squeeze_append, squeeze_append]
            exact (Shuffle.nil_right _).append (wantLi_shuffle p w kids _)
          | other =>
            simp only []
            cases inP with
            | false =>
              simp only [Bool.false_eq_true, if_false]
              exact wantL_shuffle p w kids _
            | true =>
              simp only [if_true]
              exact wantW_shuffle p w kids _
          | _ => exact Shuffle.nil_right _
theorem wantL_shuffle (p : Pos → Dom → Bool) (w : Bool) :
    ∀ (ts : List Dom) (kp : Pos),
      Shuffle (squeeze (srcL p w kp ts)) (squeeze (lostL p w kp ts)) (squeeze (wantL p w kp ts))
  | [], kp => by simp [srcL, wantL, lostL, squeeze]; exact .nil
  | k :: ks, kp => by
      simp only [srcL, wantL, lostL, squeeze_append]
      exact (want_shuffle p w k kp false).append (wantL_shuffle p w ks kp)
theorem wantLi_shuffle (p : Pos → Dom → Bool) (w : Bool) :
    ∀ (ts : List Dom) (kp : Pos),
      Shuffle (squeeze (srcLi p w kp ts)) (squeeze (lostLi p w kp ts)) (squeeze (wantLi p w kp ts))
  | [], kp => by simp [srcLi, wantLi, lostLi, squeeze]; exact .nil
  | k :: ks, kp => by
      simp only [srcLi, wantLi, lostLi, squeeze_append]
      refine Shuffle.append ?_ (wantLi_shuffle p w ks kp)
      by_cases hk : isListElem k = true
      · simp only [hk, if_true]; exact want_shuffle p w k kp false
      · simp only [hk, Bool.false_eq_true, if_false]; exact .nil
theorem wantD_shuffle (p : Pos → Dom → Bool) (w : Bool) :
    ∀ (ts : List Dom) (kp : Pos) (inP : Bool),
      Shuffle (squeeze (srcM p w kp ts)) (squeeze (lostD p w kp inP ts)) (squeeze (wantD p w kp inP ts))
  | [], kp, inP => by simp [srcM, wantD, lostD, squeeze]; exact .nil
  | k :: ks, kp, inP => by
      simp only [srcM, wantD, lostD, squeeze_append]
      refine Shuffle.append ?_ (wantD_shuffle p w ks kp inP)
      by_cases hk : isInline k = true
      · simp only [hk, if_true]; exact Shuffle.nil_right _
      · simp only [hk, Bool.false_eq_true, if_false]; exact want_shuffle p w k kp inP
theorem wantW_shuffle (p : Pos → Dom → Bool) (w : Bool) :
    ∀ (ts : List Dom) (kp : Pos),
      Shuffle (squeeze (srcL p w kp ts)) (squeeze (lostW p w kp ts)) (squeeze (wantD p w kp true ts))
  | [], kp => by simp [srcL, wantD, lostW, squeeze]; exact .nil
  | k :: ks, kp => by
      simp only [srcL, wantD, lostW, squeeze_append]
      refine Shuffle.append ?_ (wantW_shuffle p w ks kp)
      by_cases hk : isInline k = true
      · simp only [hk, if_true]
        rw [src_inline_blank p w k kp hk]
        exact Shuffle.nil_left _
      · simp only [hk, Bool.false_eq_true, if_false]; exact want_shuffle p w k kp true
end

/-! ### `noWrapped` documents lose nothing, under every predicate -/

mutual
theorem lost_of_okP (p : Pos → Dom → Bool) (w : Bool) :
    ∀ (t : Dom) (pos : Pos) (inP : Bool), okP inP t = true → squeeze (lost p w pos inP t) = []
  | .text _, _, _, _ => rfl
  | .other kids, pos, inP, h => by
      simp only [lost]
      cases inP with
      | false =>
        simp only [okP, Bool.false_eq_true, if_false] at h ⊢
        exact lostL_of_ok p w kids _ h
      | true =>
        simp only [okP, if_true, Bool.and_eq_true] at h ⊢
        exact lostW_of_ok p w kids _ h.1 h.2
  | .elem tag attrs kids, pos, inP, h => by
      unfold lost
      by_cases hs : isSkip tag = true
      · rw [if_pos hs]; rfl
      · by_cases hp : p pos (.elem tag attrs kids) = true
        · rw [if_neg hs, if_pos hp]; rfl
        · rw [if_neg hs, if_neg hp]
          simp only [okP, hs, Bool.false_eq_true, if_false] at h
          cases hc : classify tag with
          | pdiv isP =>
            rw [hc] at h
            cases isP with
            | false =>
              simp only [] at h ⊢
              split
              · rfl
              · rename_i hcnd
                simp only [hcnd, Bool.false_eq_true, if_false] at h
                exact lostD_of_ok p w kids _ inP h
            | true =>
              simp only [] at h ⊢
              split
              · rfl
              · rename_i hb
                simp only [hb, Bool.false_eq_true, if_false] at h
                exact lostD_of_ok p w kids _ true h
          | list ord =>
            rw [hc] at h
            exact lostL_of_ok p w kids _ h
          | li =>
            rw [hc] at h
            exact lostLi_of_ok p w kids _ h
          | other =>
            rw [hc] at h
            simp only [] at h ⊢
            cases inP with
            | false =>
              simp only [Bool.false_eq_true, if_false] at h ⊢
              exact lostL_of_ok p w kids _ h
            | true =>
              simp only [if_true, Bool.and_eq_true] at h ⊢
              exact lostW_of_ok p w kids _ h.1 h.2
          | _ => rfl
theorem lostL_of_ok (p : Pos → Dom → Bool) (w : Bool) :
    ∀ (ts : List Dom) (kp : Pos), okL ts = true → squeeze (lostL p w kp ts) = []
  | [], _, _ => rfl
  | k :: ks, kp, h => by
      simp only [okL, Bool.and_eq_true] at h
      rw [lostL, squeeze_append, lost_of_okP p w k kp false h.1, lostL_of_ok p w ks kp h.2]; rfl
theorem lostLi_of_ok (p : Pos → Dom → Bool) (w : Bool) :
    ∀ (ts : List Dom) (kp : Pos), okLi ts = true → squeeze (lostLi p w kp ts) = []
  | [], _, _ => rfl
  | k :: ks, kp, h => by
      simp only [okLi, Bool.and_eq_true] at h
      rw [lostLi, squeeze_append, lostLi_of_ok p w ks kp h.2, List.append_nil]
      split
      · rename_i hk
        rw [hk] at h
        exact lost_of_okP p w k kp false h.1
      · rfl
theorem lostD_of_ok (p : Pos → Dom → Bool) (w : Bool) :
    ∀ (ts : List Dom) (kp : Pos) (inP : Bool), okD inP ts = true → squeeze (lostD p w kp inP ts) = []
  | [], _, _, _ => rfl
  | k :: ks, kp, inP, h => by
      simp only [okD, Bool.and_eq_true, Bool.or_eq_true] at h
      rw [lostD, squeeze_append, lostD_of_ok p w ks kp inP h.2, List.append_nil]
      split
      · rfl
      · rename_i hk
        exact lost_of_okP p w k kp inP (h.1.resolve_left hk)
/-- the children of a wrapper inside a paragraph: its inline children are what is lost, and they
are blank -/
theorem lostW_of_ok (p : Pos → Dom → Bool) (w : Bool) :
    ∀ (ts : List Dom) (kp : Pos), blankInline ts = true → okD true ts = true →
      squeeze (lostW p w kp ts) = []
  | [], _, _, _ => rfl
  | k :: ks, kp, hb, h => by
      simp only [okD, Bool.and_eq_true, Bool.or_eq_true] at h
      simp only [blankInline, List.all_cons, Bool.and_eq_true] at hb
      rw [lostW, squeeze_append, lostW_of_ok p w ks kp hb.2 h.2, List.append_nil]
      split
      · rename_i hk
        simpa [hk] using hb.1
      · rename_i hk
        exact lost_of_okP p w k kp true (h.1.resolve_left hk)
end

theorem lost_of_ok (p : Pos → Dom → Bool) (w : Bool) (t : Dom) (pos : Pos) (inP : Bool)
    (h : okP inP t = true) : squeeze (lost p w pos inP t) = [] :=
  lost_of_okP p w t pos inP h

/-! ### so on such documents the source text is the wanted text -/

theorem src_want (p : Pos → Dom → Bool) (w : Bool) :
    ∀ (t : Dom) (pos : Pos) (inP : Bool), okP inP t = true →
      squeeze (src p w pos t) = squeeze (want p w pos inP t) :=
  fun t pos inP h => (lost_of_okP p w t pos inP h ▸ want_shuffle p w t pos inP).of_nil_right.symm

theorem srcL_want (p : Pos → Dom → Bool) (w : Bool) :
    ∀ (ts : List Dom) (kp : Pos), okL ts = true → squeeze (srcL p w kp ts) = squeeze (wantL p w kp ts) :=
  fun ts kp h => (lostL_of_ok p w ts kp h ▸ wantL_shuffle p w ts kp).of_nil_right.symm

theorem srcLi_want (p : Pos → Dom → Bool) (w : Bool) :
    ∀ (ts : List Dom) (kp : Pos), okLi ts = true → squeeze (srcLi p w kp ts) = squeeze (wantLi p w kp ts) :=
  fun ts kp h => (lostLi_of_ok p w ts kp h ▸ wantLi_shuffle p w ts kp).of_nil_right.symm

/-- the children of a p/div with block-level children: inline children whole, the others by their
own rules (inside a paragraph: wrappers transparent) -/
theorem srcM_wantD (p : Pos → Dom → Bool) (w : Bool) :
    ∀ (ts : List Dom) (kp : Pos) (inP : Bool), okD inP ts = true →
      squeeze (srcM p w kp ts) = squeeze (wantD p w kp inP ts) :=
  fun ts kp inP h => (lostD_of_ok p w ts kp inP h ▸ wantD_shuffle p w ts kp inP).of_nil_right.symm

/-- the children of a wrapper inside a paragraph: the reader traverses them all, `want` keeps the
inline ones whole — the same when those are blank -/
theorem srcL_wantD (p : Pos → Dom → Bool) (w : Bool) :
    ∀ (ts : List Dom) (kp : Pos), blankInline ts = true → okD true ts = true →
      squeeze (srcL p w kp ts) = squeeze (wantD p w kp true ts) :=
  fun ts kp hb h => (lostW_of_ok p w ts kp hb h ▸ wantW_shuffle p w ts kp).of_nil_right.symm

end Tabula.Html
