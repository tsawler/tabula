import TabulaModel.Lemmas.ChunkLayout
import TabulaModel.Lemmas.ChunkLayoutLoops
/-!
Helper lemmas for property C12, layout-based chunker: the cover theorem. The section splitter emits
`emittedText` (`Lemmas/ChunkLayoutLoops.lean`); when the sentence splitter conserves the over-long texts
(`SentsOK`) these are the texts of the section's elements in the order `emitOrder`. The one reordering
`splitSectionByParagraphs` performs (the sentence chunks of an over-long list are appended while its
introducing paragraph is still pending in `currentText`) exchanges a paragraph with the list behind it and
nothing else, so every element is still emitted exactly once and each kind keeps its order.
-/
namespace Tabula.ChunkLayout
open Tabula.Chunk

/-- a section's own chunks carry the section's content in the order `f` of its elements, white
space aside -/
def SectionCover (cfg : Cfg) (f : List CE → List CE) (x : SecInfo × List CE) : Prop :=
  ∀ idx, strip (textsOf (chunkSection cfg x.1 x.2 idx)) = strip (ceTexts (f x.2))

theorem chunkFlat_cover (cfg : Cfg) (f : List CE → List CE) (l : List (SecInfo × List CE))
    (h : ∀ x ∈ l, SectionCover cfg f x) (idx : Nat) :
    strip (textsOf (chunkFlat cfg l idx)) = strip (ceTexts (l.flatMap fun x => f x.2)) := by
  induction l generalizing idx with
  | nil => rfl
  | cons x xs ih =>
    obtain ⟨info, content⟩ := x
    have hx := h (info, content) (List.mem_cons_self ..) idx
    have hxs := ih (fun y hy => h y (List.mem_cons_of_mem _ hy)) (idx + (chunkSection cfg info content idx).length)
    simp only [chunkFlat, textsOf_append, strip_append]
    simp only at hx
    rw [hx, hxs]
    simp [ceTexts, strip_append]

/-- the section needs no splitting: its joined text is within `MaxChunkSize` -/
def Fits (cfg : Cfg) (content : List CE) : Prop :=
  lenGt (content.foldl (fun acc e => joinPara acc e.text) []) cfg.maxSize = false

instance (cfg : Cfg) (content : List CE) : Decidable (Fits cfg content) := by
  unfold Fits; infer_instance

theorem sectionCover_of_fits (cfg : Cfg) (info : SecInfo) (content : List CE) (h : Fits cfg content) :
    SectionCover cfg id (info, content) := by
  intro idx
  show _ = strip (ceTexts content)
  unfold Fits at h
  simp only [chunkSection]
  have hj := joinAll_strip content []
  simp only [strip_nil, List.nil_append] at hj
  by_cases hb : (trim (content.foldl (fun acc e => joinPara acc e.text) [])).isEmpty = true
  · rw [if_pos hb, ← hj, trim_empty_strip _ hb]; rfl
  · rw [if_neg hb, h]
    simp [textsOf, createChunk, hj]

/-- the sentence splitter conserves the text of the elements it is applied to -/
def SentsOK (cfg : Cfg) (e : CE) : Prop :=
  lenGt e.text cfg.maxSize = true → strip e.sents.flatten = strip e.text

/-- lists are within `MaxChunkSize` (excludes the one reordering the code performs: the
sentence chunks of an over-long list are emitted before its pending introduction) -/
def ListFits (cfg : Cfg) (e : CE) : Prop := e.kind = .list → lenGt e.text cfg.maxSize = false

/-- the hypotheses on the two library parameters, for every content element of the document -/
def ParamsOK (cfg : Cfg) (d : LDoc) : Prop := ∀ e ∈ canon cfg d, SentsOK cfg e ∧ ListFits cfg e

theorem ceTexts_strip_nil (l : List CE) : strip (ceTexts l) = [] ↔ ∀ e ∈ l, strip e.text = [] := by
  rw [ceTexts, strip_flatMap, List.flatMap_eq_nil_iff]

theorem fallback_sub (cfg : Cfg) (d : LDoc) : ∀ e ∈ fallbackContent d, e ∈ canon cfg d := by
  intro e he
  unfold fallbackContent at he
  obtain ⟨pg, hpg, hin⟩ := List.mem_flatMap.mp he
  refine List.mem_flatMap.mpr ⟨pg, hpg, ?_⟩
  unfold pageCanon
  cases hl : pg.layout with
  | none => simp [hl] at hin
  | some lay =>
    simp only [hl] at hin ⊢
    rcases List.mem_append.mp hin with h1 | h1
    · exact List.mem_append.mpr (Or.inl (List.mem_append.mpr (Or.inr h1)))
    · exact List.mem_append.mpr (Or.inr h1)

theorem chunkByParagraphs_eq (cfg : Cfg) (title : Str) (d : LDoc) :
    chunkByParagraphs cfg title d = [] ∨
      ∃ info, chunkByParagraphs cfg title d = splitSectionByParagraphs cfg info (fallbackContent d) 0 := by
  unfold chunkByParagraphs
  split
  · exact Or.inr ⟨_, rfl⟩
  · exact Or.inl rfl

/-- the order in which `splitSectionByParagraphs` emits the elements of a section: document
order, except that an introducing paragraph that fits is emitted behind its list when the list
exceeds `MaxChunkSize` and lists are atomic -/
def emitOrder (cfg : Cfg) : List CE → List CE
  | [] => []
  | [e] => [e]
  | e :: n :: rest =>
    if cfg.keepLists && e.kind == .list then e :: emitOrder cfg (n :: rest)
    else if e.kind == .para && n.kind == .list && e.intro then
      if cfg.keepLists && !lenGt e.text cfg.maxSize && lenGt n.text cfg.maxSize then
        n :: e :: emitOrder cfg rest
      else e :: n :: emitOrder cfg rest
    else e :: emitOrder cfg (n :: rest)

theorem emitOrder_perm (cfg : Cfg) (es : List CE) : (emitOrder cfg es).Perm es := by
  fun_induction emitOrder cfg es with
  | case1 => exact .nil
  | case2 e => exact .refl _
  | case3 e n rest _ ih => exact ih.cons e
  | case4 e n rest _ _ _ ih => exact (List.Perm.swap e n _).trans ((ih.cons n).cons e)
  | case5 e n rest _ _ _ ih => exact (ih.cons n).cons e
  | case6 e n rest _ _ ih => exact ih.cons e

/-- each kind keeps its order -/
theorem emitOrder_kind (cfg : Cfg) (k : Kind) (es : List CE) :
    (emitOrder cfg es).filter (fun e => e.kind == k) = es.filter (fun e => e.kind == k) := by
  fun_induction emitOrder cfg es with
  | case1 => rfl
  | case2 e => rfl
  | case3 e n rest _ ih => rw [List.filter_cons, ih, List.filter_cons (x := e) (xs := n :: rest)]
  | case4 e n rest _ hi _ ih =>
    simp only [Bool.and_eq_true, beq_iff_eq] at hi
    obtain ⟨⟨he, hn⟩, _⟩ := hi
    simp only [List.filter_cons, ih, he, hn]
    cases k <;> simp
  | case5 e n rest _ _ _ ih => simp only [List.filter_cons, ih]
  | case6 e n rest _ _ ih => rw [List.filter_cons, ih, List.filter_cons (x := e) (xs := n :: rest)]

/-- nothing moves when no list exceeds the maximum -/
theorem emitOrder_of_listFits (cfg : Cfg) (es : List CE) (h : ∀ e ∈ es, ListFits cfg e) :
    emitOrder cfg es = es := by
  fun_induction emitOrder cfg es with
  | case1 => rfl
  | case2 e => rfl
  | case3 e n rest _ ih => rw [ih (fun x hx => h x (List.mem_cons_of_mem _ hx))]
  | case4 e n rest _ hi hsw ih =>
    exfalso
    simp only [Bool.and_eq_true, beq_iff_eq] at hi hsw
    have := h n (List.mem_cons_of_mem _ (List.mem_cons_self ..)) hi.1.2
    rw [this] at hsw
    exact absurd hsw.2 (by decide)
  | case5 e n rest _ _ _ ih =>
    rw [ih (fun x hx => h x (List.mem_cons_of_mem _ (List.mem_cons_of_mem _ hx)))]
  | case6 e n rest _ _ ih => rw [ih (fun x hx => h x (List.mem_cons_of_mem _ hx))]

theorem emitText_strip {cfg : Cfg} {e : CE} (h : SentsOK cfg e) : strip (emitText cfg e) = strip e.text := by
  unfold emitText
  split
  · next hg => exact h hg
  · rfl

/-- when the sentence splitter conserves the over-long texts, the splitter emits the elements' texts in `emitOrder` -/
theorem emittedText_strip (cfg : Cfg) (es : List CE) (h : ∀ e ∈ es, SentsOK cfg e) :
    strip (emittedText cfg es) = strip (ceTexts (emitOrder cfg es)) := by
  fun_induction emitOrder cfg es with
  | case1 => rfl
  | case2 e => exact (emitText_strip (h e (List.mem_cons_self ..))).trans (by simp [ceTexts])
  | case3 e n rest hk ih =>
    obtain ⟨he, h⟩ := List.forall_mem_cons.mp h
    rw [emittedText, if_pos hk, strip_append, ih h, emitText_strip he]
    simp only [ceTexts, List.flatMap_cons, strip_append]
  | case4 e n rest hk hi hsw ih =>
    obtain ⟨he, h⟩ := List.forall_mem_cons.mp h
    obtain ⟨hn, h⟩ := List.forall_mem_cons.mp h
    have hkeep : cfg.keepLists = true := by simp only [Bool.and_eq_true] at hsw; exact hsw.1.1
    rw [emittedText, if_neg hk, if_pos hi, if_pos hkeep, if_pos (by simpa [hkeep] using hsw)]
    simp only [ceTexts, List.flatMap_cons, strip_append, emitText_strip he, emitText_strip hn, ih h, List.append_assoc]
  | case5 e n rest hk hi hsw ih =>
    obtain ⟨he, h⟩ := List.forall_mem_cons.mp h
    obtain ⟨hn, h⟩ := List.forall_mem_cons.mp h
    rw [emittedText, if_neg hk, if_pos hi]
    by_cases hkeep : cfg.keepLists = true
    · rw [if_pos hkeep, if_neg (by simpa [hkeep] using hsw)]
      simp only [ceTexts, List.flatMap_cons, strip_append, emitText_strip he, emitText_strip hn, ih h,
        List.append_assoc]
    · rw [if_neg hkeep]; simp only [ceTexts, List.flatMap_cons, strip_append, ih h, List.append_assoc]
  | case6 e n rest hk hi ih =>
    obtain ⟨he, h⟩ := List.forall_mem_cons.mp h
    rw [emittedText, if_neg hk, if_neg hi, strip_append, ih h, emitText_strip he]
    simp only [ceTexts, List.flatMap_cons, strip_append]

theorem splitSection_cover_full (cfg : Cfg) (info : SecInfo) (content : List CE) (idx : Nat)
    (h : ∀ e ∈ content, SentsOK cfg e) :
    strip (textsOf (splitSectionByParagraphs cfg info content idx)) =
      strip (ceTexts (emitOrder cfg content)) := by
  rw [(splitSection_adds content idx).2, emittedText_strip cfg content h]

theorem foldl_joinPara_length (es : List CE) (acc : Str) :
    acc.length ≤ (es.foldl (fun acc e => joinPara acc e.text) acc).length ∧
    ∀ e ∈ es, e.text.length ≤ (es.foldl (fun acc e => joinPara acc e.text) acc).length := by
  induction es generalizing acc with
  | nil => exact ⟨Nat.le_refl _, fun e he => by cases he⟩
  | cons x xs ih =>
    obtain ⟨i1, i2⟩ := ih (joinPara acc x.text)
    simp only [List.foldl_cons]
    refine ⟨Nat.le_trans (joinPara_length_left _ _) i1, ?_⟩
    intro e he
    rcases List.mem_cons.mp he with rfl | he
    · exact Nat.le_trans (joinPara_length_right _ _) i1
    · exact i2 e he

theorem fits_elems (cfg : Cfg) (content : List CE) (h : Fits cfg content) :
    ∀ e ∈ content, lenGt e.text cfg.maxSize = false := by
  intro e he
  unfold Fits at h
  cases hg : lenGt e.text cfg.maxSize with
  | false => rfl
  | true =>
    have := lenGt_mono _ _ _ ((foldl_joinPara_length content []).2 e he) hg
    rw [h] at this; cases this

theorem ceTexts_perm_strip_nil {a b : List CE} (hp : a.Perm b) (h : strip (ceTexts b) = []) :
    strip (ceTexts a) = [] := by
  rw [ceTexts_strip_nil] at h ⊢
  exact fun e he => h e (hp.subset he)

theorem sectionCoverO (cfg : Cfg) (info : SecInfo) (content : List CE)
    (h : ∀ e ∈ content, SentsOK cfg e) : SectionCover cfg (emitOrder cfg) (info, content) := by
  intro idx
  by_cases hfit : Fits cfg content
  · rw [emitOrder_of_listFits cfg content (fun e he _ => fits_elems cfg content hfit e he)]
    exact sectionCover_of_fits cfg info content hfit idx
  · simp only [chunkSection]
    by_cases hb : (trim (content.foldl (fun acc e => joinPara acc e.text) [])).isEmpty = true
    · rw [if_pos hb]
      have h0 : strip (ceTexts content) = [] := by
        rw [← (joinAll_strip content []).trans (List.nil_append _)]; exact trim_empty_strip _ hb
      rw [ceTexts_perm_strip_nil (emitOrder_perm cfg content) h0]; rfl
    · rw [if_neg hb, if_neg (by simpa [Fits] using hfit)]
      exact splitSection_cover_full cfg info content idx h

/-- the content elements of the document in the order `Chunk` emits them -/
def emitted (cfg : Cfg) (d : LDoc) : List CE :=
  (flatForest (buildSections cfg d)).flatMap fun x => emitOrder cfg x.2

theorem emitted_perm (cfg : Cfg) (d : LDoc) : (emitted cfg d).Perm (canon cfg d) := by
  rw [← buildSections_contents]
  exact List.Perm.flatMap_left _ fun x _ => emitOrder_perm cfg x.2

theorem emitted_kind (cfg : Cfg) (k : Kind) (d : LDoc) :
    (emitted cfg d).filter (fun e => e.kind == k) = (canon cfg d).filter (fun e => e.kind == k) := by
  rw [← buildSections_contents]
  simp only [emitted, secContents, List.filter_flatMap, emitOrder_kind]

theorem emitted_of_listFits (cfg : Cfg) (d : LDoc) (h : ∀ e ∈ canon cfg d, ListFits cfg e) :
    emitted cfg d = canon cfg d := by
  rw [← buildSections_contents] at h ⊢
  exact List.flatMap_congr fun x hx => emitOrder_of_listFits cfg x.2 fun e he => h e (List.mem_flatMap.mpr ⟨x, hx, he⟩)

theorem forest_cover_full (cfg : Cfg) (d : LDoc) (h : ∀ e ∈ canon cfg d, SentsOK cfg e) :
    strip (textsOf (chunkForest cfg (buildSections cfg d) 0)) = strip (ceTexts (emitted cfg d)) := by
  rw [chunkForest_flat]
  refine chunkFlat_cover cfg (emitOrder cfg) _ (fun x hx => sectionCoverO cfg x.1 x.2 fun e he => h e ?_) 0
  rw [← buildSections_contents]
  exact List.mem_flatMap.mpr ⟨x, hx, he⟩

/-- **cover for `Chunker.Chunk`** with no hypothesis on the sizes -/
theorem chunk_cover_full (cfg : Cfg) (title : Str) (d : LDoc) (h : ∀ e ∈ canon cfg d, SentsOK cfg e) :
    strip (textsOf (chunk cfg title d)) = strip (ceTexts (emitted cfg d)) := by
  unfold chunk
  simp only [setTotal_texts]
  have hf := forest_cover_full cfg d h
  by_cases he : (chunkForest cfg (buildSections cfg d) 0).isEmpty = true
  · rw [if_pos he]
    rw [List.isEmpty_iff.mp he] at hf
    have hnil : strip (ceTexts (emitted cfg d)) = [] := hf.symm
    rw [hnil]
    have hcan : strip (ceTexts (canon cfg d)) = [] :=
      ceTexts_perm_strip_nil (emitted_perm cfg d).symm hnil
    rcases chunkByParagraphs_eq cfg title d with h0 | ⟨info, h1⟩
    · rw [h0]; rfl
    · rw [h1, splitSection_cover_full cfg info _ 0 (fun e he => h e (fallback_sub cfg d e he))]
      apply ceTexts_perm_strip_nil (emitOrder_perm cfg _)
      rw [ceTexts_strip_nil] at hcan ⊢
      exact fun e he => hcan e (fallback_sub cfg d e he)
  · rw [if_neg he]; exact hf

end Tabula.ChunkLayout
