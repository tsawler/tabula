import TabulaModel.Lemmas.CMapProgram
import TabulaModel.Lemmas.CMapSection
/-! # whole ToUnicode CMap programs: the parsed state, the entries, the writer's forms

1. `parse_program_items` / `parse_program_state`: tabula's parser model on a whole rendered program
   (`renderProgram p w secs`) runs the items of the program — the state it reaches: the direct map, the
   ranges and the width fields.
2. what the program specifies (`Functional`, `Specified`), the entries of runs, and `lookupRanges` over the
   ranges of well-formed offset runs for every code (`lookupRanges_total`).
3. the five forms of the writer (`sectionsOf`): their sections are well formed and specify the map's entries
   (`formOK`).

What `Lookup` / `LookupString` return on the parsed program, the round trip included, is in
`Lemmas/CMapArrange.lean`.
-/
namespace Tabula.CMapCompose
open Tabula.UTF16 Tabula.CMap

/-! ## 1. the state of the parsed program -/

def allItems (secs : List Section) : List Item := secs.flatMap (·.items)

/-- direct entries in storage order: bfchar sections first (tabula runs the bfchar pass over the
whole program before the bfrange pass), then the arrays of the bfrange sections -/
def directEntries (secs : List Section) : List (Nat × List Nat) :=
  (allItems (secs.filter fun s => s.kind = .bfchar)).flatMap Item.chars ++
    (allItems (secs.filter fun s => s.kind = .bfrange)).flatMap Item.chars

/-- the offset ranges of the program, in program order -/
def offsetRuns (secs : List Section) : List Run :=
  (allItems secs).filterMap fun it => match it with | .offset r => some r | _ => none

def offsetEntries (secs : List Section) : List (Nat × List Nat) := (offsetRuns secs).flatMap Run.entries

/-- the run of an offset item -/
def offsetOf : Item → Option Run
  | .offset r => some r
  | _ => none

theorem offsetRuns_eq (secs : List Section) : offsetRuns secs = (allItems secs).filterMap offsetOf := by
  unfold offsetRuns
  congr 1

theorem offsetOf_char (c : Nat) (t : List Nat) : offsetOf (.char c t) = none := rfl
theorem offsetOf_offset (r : Run) : offsetOf (.offset r) = some r := rfl
theorem offsetOf_array (r : Run) : offsetOf (.array r) = none := rfl

theorem allItems_cons (s : Section) (ss : List Section) : allItems (s :: ss) = s.items ++ allItems ss := by
  simp [allItems]

theorem allItems_append (a b : List Section) : allItems (a ++ b) = allItems a ++ allItems b := by
  simp [allItems]

theorem mem_allItems (secs : List Section) (it : Item) : it ∈ allItems secs ↔ ∃ s ∈ secs, it ∈ s.items := by
  simp [allItems, List.mem_flatMap]

/-- a pass of a section parser that runs the items of each section runs the items of all of them -/
theorem foldl_sections_items (p : Policy) (w : Nat) (parse : Str → CMap → CMap) (ss : List Section)
    (hstep : ∀ s ∈ ss, ∀ cm, parse (p.eol ++ sectionBody p w s) cm = s.items.foldl (fun cm it => itemStep w it cm) cm)
    (cm : CMap) :
    (ss.map fun s => p.eol ++ sectionBody p w s).foldl (fun cm b => parse b cm) cm =
      (allItems ss).foldl (fun cm it => itemStep w it cm) cm := by
  induction ss generalizing cm with
  | nil => rfl
  | cons s ss ih =>
    rw [List.map_cons, List.foldl_cons, hstep s List.mem_cons_self, ih (fun x hx => hstep x (List.mem_cons_of_mem _ hx)),
      allItems_cons, List.foldl_append]

/-- **parsing a rendered program runs its items**: from the state of a width-`w` code space, the items of
the bfchar sections in program order, then the items of the bfrange sections (tabula runs the bfchar pass
over the whole program before the bfrange pass) -/
theorem parse_program_items (p : Policy) (w : Nat) (hw1 : 1 ≤ w) (hw4 : w ≤ 4) (secs : List Section)
    (hs : ∀ s ∈ secs, SectionOK w s) :
    parseCMapData (renderProgram p w secs) =
      (allItems (secs.filter fun s => s.kind = .bfrange)).foldl (fun cm it => itemStep w it cm)
        ((allItems (secs.filter fun s => s.kind = .bfchar)).foldl (fun cm it => itemStep w it cm) { byteWidth := w }) := by
  have hk : ∀ (k : Kind), ∀ s ∈ secs.filter (fun s => s.kind = k), ∀ it ∈ s.items, ItemOK w it ∧ it.fits k := by
    intro k s h it hit
    obtain ⟨hm, hk⟩ := List.mem_filter.mp h
    exact (of_decide_eq_true hk) ▸ hs s hm it hit
  rw [parse_renderProgram p w secs (fun s h => bodyOK_sectionBody p w s (hs s h))]
  unfold sectionTexts
  rw [foldl_sections_items p w parseBfCharSection _
      (fun s h cm => parseBfCharSection_items p w hw1 hw4 s.items (hk _ s h) p.eol (eol_fill p) cm),
    foldl_sections_items p w parseBfRangeSection _
      (fun s h cm => parseBfRangeSection_items p w hw1 hw4 s.items (hk _ s h) cm)]

/-- the ranges of a list of items are the ranges of its offset runs -/
theorem items_ranges (items : List Item) : items.flatMap Item.ranges = (items.filterMap offsetOf).map Run.range := by
  induction items with
  | nil => rfl
  | cons it items ih =>
    rw [List.flatMap_cons, ih]
    cases it <;> simp [Item.ranges, List.filterMap_cons, offsetOf_char, offsetOf_offset, offsetOf_array]

theorem ranges_of_bfchar (w : Nat) (s : Section) (hs : SectionOK w s) (hk : s.kind = .bfchar) :
    s.items.flatMap Item.ranges = [] := by
  refine List.flatMap_eq_nil_iff.mpr fun it hit => ?_
  have hfit := (hs it hit).2
  rw [hk] at hfit
  cases it with
  | char c t => rfl
  | offset r => exact hfit.elim
  | array r => exact hfit.elim

/-- the state tabula's parser reaches on a whole rendered program: the direct map holds the
direct entries (newest first), the ranges are the offset runs in program order, and the width
fields are those of a width-`w` code space -/
theorem parse_program_state (p : Policy) (w : Nat) (hw1 : 1 ≤ w) (hw4 : w ≤ 4) (secs : List Section)
    (hs : ∀ s ∈ secs, SectionOK w s) :
    let cm := parseCMapData (renderProgram p w secs)
    cm.chars = (directEntries secs).reverse ∧ cm.ranges = (offsetRuns secs).map Run.range ∧ WidthInv w cm := by
  dsimp only
  rw [parse_program_items p w hw1 hw4 secs hs]
  obtain ⟨c1, c2, c3⟩ := foldl_itemStep_state w (allItems (secs.filter fun s => s.kind = .bfchar)) { byteWidth := w }
    ⟨rfl, Or.inl rfl⟩
  obtain ⟨r1, r2, r3⟩ := foldl_itemStep_state w (allItems (secs.filter fun s => s.kind = .bfrange)) _ c3
  refine ⟨?_, ?_, r3⟩
  · rw [r1, c1]
    simp [directEntries]
  · -- the bfchar pass appends no range, and the bfrange pass loses none by skipping the bfchar sections
    have hA : (allItems (secs.filter fun s => s.kind = .bfchar)).flatMap Item.ranges = [] := by
      unfold allItems
      rw [List.flatMap_assoc]
      exact List.flatMap_eq_nil_iff.mpr fun s h =>
        ranges_of_bfchar w s (hs s (List.mem_filter.mp h).1) (of_decide_eq_true (List.mem_filter.mp h).2)
    have hB : (allItems (secs.filter fun s => s.kind = .bfrange)).flatMap Item.ranges =
        (allItems secs).flatMap Item.ranges := by
      unfold allItems
      rw [List.flatMap_assoc, List.flatMap_assoc]
      refine List.flatMap_filter_of_nil _ _ secs fun s hsm hk => ranges_of_bfchar w s (hs s hsm) ?_
      cases hkind : s.kind with
      | bfchar => rfl
      | bfrange => simp [hkind] at hk
    rw [r2, c2, hA, hB, items_ranges, offsetRuns_eq]
    rfl

/-! ## 2. what a program specifies -/

/-- a list of code→text pairs is a function -/
def Functional (l : List (Nat × List Nat)) : Prop := ∀ a ∈ l, ∀ b ∈ l, a.1 = b.1 → a = b

instance (l : List (Nat × List Nat)) : Decidable (Functional l) :=
  inferInstanceAs (Decidable (∀ a ∈ l, ∀ b ∈ l, a.1 = b.1 → a = b))

/-- what the program specifies for a code: a direct entry, or an entry of an offset range that
no direct entry contradicts (a direct definition takes precedence over a range) -/
def Specified (secs : List Section) (e : Nat × List Nat) : Prop :=
  e ∈ directEntries secs ∨ (e ∈ offsetEntries secs ∧ ∀ d ∈ directEntries secs, d.1 = e.1 → d.2 = e.2)

/-- the entries of a run are its texts with their positions, counted from the first code -/
theorem entriesFrom_eq (c : Nat) (ts : List (List Nat)) :
    Run.entriesFrom c ts = (ts.zipIdx c).map fun p => (p.2, p.1) := by
  induction ts generalizing c with
  | nil => rfl
  | cons t ts ih => rw [Run.entriesFrom, ih, List.zipIdx_cons, List.map_cons]

/-- the entries of a run: text `i` belongs to code `lo + i` -/
theorem mem_entriesFrom (c : Nat) (ts : List (List Nat)) (e : Nat × List Nat) :
    e ∈ Run.entriesFrom c ts ↔ ∃ i, ts[i]? = some e.2 ∧ e.1 = c + i := by
  simp only [entriesFrom_eq, List.mem_map, List.mem_zipIdx_iff_le_and_getElem?_sub]
  constructor
  · rintro ⟨p, ⟨hle, hg⟩, rfl⟩
    exact ⟨p.2 - c, hg, by show p.2 = c + (p.2 - c); omega⟩
  · rintro ⟨i, hi, hc⟩
    exact ⟨(e.2, e.1), ⟨by show c ≤ e.1; omega, by show ts[e.1 - c]? = some e.2; rw [hc, Nat.add_sub_cancel_left]; exact hi⟩, rfl⟩

theorem mem_entries (r : Run) (e : Nat × List Nat) :
    e ∈ r.entries ↔ ∃ i, r.texts[i]? = some e.2 ∧ e.1 = r.lo + i := mem_entriesFrom r.lo r.texts e

/-- the entries of a well-formed run fit the width and have target texts -/
theorem entry_ok {w : Nat} {r : Run} (hr : RunOK w r) {e : Nat × List Nat} (he : e ∈ r.entries) :
    e.1 < 256 ^ w ∧ TextOK e.2 := by
  obtain ⟨i, hi, hc⟩ := (mem_entries r e).mp he
  have hlt : i < r.texts.length := (List.getElem?_eq_some_iff.mp hi).1
  have := hr.2.1
  exact ⟨by omega, hr.2.2 _ (List.mem_of_getElem? hi)⟩

/-- the codes of a run lie between `lo` and `hi` -/
theorem entry_between {r : Run} {e : Nat × List Nat} (he : e ∈ r.entries) : r.lo ≤ e.1 ∧ e.1 ≤ r.hi := by
  obtain ⟨i, hi, hc⟩ := (mem_entries r e).mp he
  have hlt : i < r.texts.length := (List.getElem?_eq_some_iff.mp hi).1
  unfold Run.hi
  omega

theorem range_start (r : Run) : r.range.start = r.lo := by
  unfold Run.range; split <;> rfl

theorem range_stop (r : Run) : r.range.stop = r.hi := by
  unfold Run.range; split <;> rfl

/-- a code between `lo` and `hi` of a run is one of its codes; its entry holds the text at its position -/
theorem entry_at {r : Run} (hne : r.texts ≠ []) {c : Nat} (hb : r.lo ≤ c ∧ c ≤ r.hi) :
    r.texts[c - r.lo]? = some (r.texts.getD (c - r.lo) []) ∧ (c, r.texts.getD (c - r.lo) []) ∈ r.entries := by
  have hpos : 0 < r.texts.length := List.length_pos_iff.mpr hne
  have h2 := hb.2
  unfold Run.hi at h2
  have hi : c - r.lo < r.texts.length := by omega
  have hget : r.texts[c - r.lo]? = some (r.texts.getD (c - r.lo) []) := by
    rw [List.getD_eq_getElem?_getD, List.getElem?_eq_getElem hi]; rfl
  exact ⟨hget, (mem_entries r _).mpr ⟨c - r.lo, hget, by show c = r.lo + (c - r.lo); omega⟩⟩

/-- inside a well-formed offset run, `Lookup`'s range arithmetic returns the text at the code's position -/
theorem rangeText_at (w : Nat) {r : Run} (hok : RunOK w r) (hoff : RunOffsetOK r) {c : Nat}
    (hb : r.lo ≤ c ∧ c ≤ r.hi) : rangeText r.range c = r.texts.getD (c - r.lo) [] := by
  have h := rangeText_run w r hok hoff (c - r.lo) _ (entry_at hok.1 hb).1
  rwa [show r.lo + (c - r.lo) = c by omega] at h

/-- `lookupRanges` over the ranges of well-formed offset runs, for every code: the text, by
position, of the first run that contains the code -/
theorem lookupRanges_total (w : Nat) (R : List Run) (hR : ∀ r ∈ R, RunOK w r ∧ RunOffsetOK r) (c : Nat) :
    lookupRanges (R.map Run.range) c =
      match R.find? (fun r => decide (r.lo ≤ c ∧ c ≤ r.hi)) with
      | some r => r.texts.getD (c - r.lo) []
      | none => [] := by
  have hp : ((fun r : Range => decide (r.start ≤ c ∧ c ≤ r.stop)) ∘ Run.range) =
      fun r => decide (r.lo ≤ c ∧ c ≤ r.hi) := funext fun r => by simp only [Function.comp, range_start, range_stop]
  rw [lookupRanges_eq_find, List.find?_map, hp]
  cases hf : R.find? (fun r => decide (r.lo ≤ c ∧ c ≤ r.hi)) with
  | none => rfl
  | some r =>
    have hr := hR r (List.mem_of_find?_eq_some hf)
    exact rangeText_at w hr.1 hr.2 (by simpa using List.find?_some hf)

/-- every direct entry comes from an item of the program -/
theorem mem_directEntries (secs : List Section) (e : Nat × List Nat) :
    e ∈ directEntries secs ↔ ∃ it ∈ allItems secs, e ∈ it.chars := by
  unfold directEntries
  simp only [List.mem_append, List.mem_flatMap, mem_allItems, List.mem_filter, decide_eq_true_eq]
  constructor
  · rintro (⟨it, ⟨s, ⟨hs, _⟩, hit⟩, he⟩ | ⟨it, ⟨s, ⟨hs, _⟩, hit⟩, he⟩)
    · exact ⟨it, ⟨s, hs, hit⟩, he⟩
    · exact ⟨it, ⟨s, hs, hit⟩, he⟩
  · rintro ⟨it, ⟨s, hs, hit⟩, he⟩
    cases hk : s.kind with
    | bfchar => exact Or.inl ⟨it, ⟨s, ⟨hs, hk⟩, hit⟩, he⟩
    | bfrange => exact Or.inr ⟨it, ⟨s, ⟨hs, hk⟩, hit⟩, he⟩

theorem mem_offsetRuns (secs : List Section) (r : Run) : r ∈ offsetRuns secs ↔ Item.offset r ∈ allItems secs := by
  rw [offsetRuns_eq, List.mem_filterMap]
  constructor
  · rintro ⟨it, hit, h⟩
    cases it with
    | char c t => simp [offsetOf_char] at h
    | offset r' => rw [offsetOf_offset] at h; cases h; exact hit
    | array r' => simp [offsetOf_array] at h
  · intro h
    exact ⟨_, h, rfl⟩

theorem itemOK_of_mem (w : Nat) (secs : List Section) (hs : ∀ s ∈ secs, SectionOK w s) (it : Item)
    (hit : it ∈ allItems secs) : ItemOK w it := by
  obtain ⟨s, hsm, him⟩ := (mem_allItems secs it).mp hit
  exact (hs s hsm it him).1

theorem direct_ok (w : Nat) (secs : List Section) (hs : ∀ s ∈ secs, SectionOK w s) (d : Nat × List Nat)
    (hd : d ∈ directEntries secs) : d.1 < 256 ^ w ∧ TextOK d.2 := by
  obtain ⟨it, hit, hdi⟩ := (mem_directEntries secs d).mp hd
  have hok := itemOK_of_mem w secs hs it hit
  cases it with
  | char c t =>
    simp only [Item.chars, List.mem_singleton] at hdi
    subst hdi
    exact hok
  | offset r => simp [Item.chars] at hdi
  | array r => exact entry_ok hok hdi

theorem offsetRuns_ok (w : Nat) (secs : List Section) (hs : ∀ s ∈ secs, SectionOK w s) (r : Run)
    (hr : r ∈ offsetRuns secs) : RunOK w r ∧ RunOffsetOK r :=
  itemOK_of_mem w secs hs _ ((mem_offsetRuns secs r).mp hr)

theorem offset_ok (w : Nat) (secs : List Section) (hs : ∀ s ∈ secs, SectionOK w s) (e : Nat × List Nat)
    (he : e ∈ offsetEntries secs) : e.1 < 256 ^ w ∧ TextOK e.2 := by
  obtain ⟨r, hr, her⟩ := List.mem_flatMap.mp he
  exact entry_ok (offsetRuns_ok w secs hs r hr).1 her

theorem specified_ok (w : Nat) (secs : List Section) (hs : ∀ s ∈ secs, SectionOK w s) (e : Nat × List Nat)
    (he : Specified secs e) : e.1 < 256 ^ w ∧ TextOK e.2 := by
  rcases he with he | ⟨he, _⟩
  · exact direct_ok w secs hs e he
  · exact offset_ok w secs hs e he

/-! ## 3. the writer's five forms -/

/-- hypotheses on a code→text map (`lmap` of the harness): every run fits the width and has
target texts, and no code is defined twice -/
def MapOK (w : Nat) (runs : List Run) : Prop :=
  (∀ r ∈ runs, RunOK w r) ∧ ((runs.flatMap Run.entries).map (·.1)).Nodup

theorem functional_of_nodup (l : List (Nat × List Nat)) (h : (l.map (·.1)).Nodup) : Functional l :=
  fun _ ha _ hb hab => List.inj_on_of_nodup_map h ha hb hab

/-! ### sections of at most 100 items -/

theorem chunksAux_flatten {α : Type} (n : Nat) (hn : 1 ≤ n) (fuel : Nat) (l : List α) (h : l.length ≤ fuel) :
    (chunksAux n fuel l).flatMap id = l := by
  fun_induction chunksAux n fuel l
  case case1 => exact (List.length_eq_zero_iff.mp (Nat.le_zero.mp h)).symm
  case case2 => rfl
  case case3 fuel a l ih =>
    rw [List.flatMap_cons, ih (by simp only [List.length_drop, List.length_cons] at *; omega)]
    exact List.take_append_drop n (a :: l)

theorem chunksAux_mem {α : Type} (n fuel : Nat) (l : List α) : ∀ c ∈ chunksAux n fuel l, ∀ x ∈ c, x ∈ l := by
  fun_induction chunksAux n fuel l
  case case1 => exact List.forall_mem_nil _
  case case2 => exact List.forall_mem_nil _
  case case3 ih =>
    exact List.forall_mem_cons.mpr ⟨fun x hx => List.mem_of_mem_take hx,
      fun c hc x hx => List.mem_of_mem_drop (ih c hc x hx)⟩

/-- the sections of `sectionsOfItems` re-join to the items -/
theorem allItems_sectionsOfItems (k : Kind) (items : List Item) :
    allItems (sectionsOfItems k items) = items := by
  have h : ∀ cs : List (List Item), allItems (cs.map fun c => (⟨k, c⟩ : Section)) = cs.flatMap id := by
    intro cs
    induction cs with
    | nil => rfl
    | cons c cs ih => rw [List.map_cons, allItems_cons, ih]; rfl
  unfold sectionsOfItems
  rw [h]
  exact chunksAux_flatten 100 (by decide) _ _ (Nat.le_refl _)

theorem sectionOK_sectionsOfItems (w : Nat) (k : Kind) (items : List Item)
    (h : ∀ it ∈ items, ItemOK w it ∧ it.fits k) : ∀ s ∈ sectionsOfItems k items, SectionOK w s := by
  intro s hs
  unfold sectionsOfItems at hs
  obtain ⟨c, hc, rfl⟩ := List.mem_map.mp hs
  intro it hit
  exact h it (chunksAux_mem _ _ _ c hc it hit)

/-! ### programs whose items cover a functional map -/

theorem item_chars_sub (it : Item) (e : Nat × List Nat) (h : e ∈ it.chars) : e ∈ it.entries := by
  cases it with
  | char c t => exact h
  | offset r => simp [Item.chars] at h
  | array r => exact h

/-- when the entries of the items of a program are exactly a functional map `E`, every entry of
`E` is specified -/
theorem specified_of_cover (secs : List Section) (E : List (Nat × List Nat)) (hE : Functional E)
    (H : ∀ e, e ∈ (allItems secs).flatMap Item.entries ↔ e ∈ E) :
    Functional (directEntries secs) ∧ Functional (offsetEntries secs) ∧ ∀ e ∈ E, Specified secs e := by
  have H1 : ∀ it ∈ allItems secs, ∀ e ∈ it.entries, e ∈ E := fun it hit e he =>
    (H e).mp (List.mem_flatMap.mpr ⟨it, hit, he⟩)
  have hdE : ∀ e ∈ directEntries secs, e ∈ E := by
    intro e he
    obtain ⟨it, hit, h⟩ := (mem_directEntries secs e).mp he
    exact H1 it hit e (item_chars_sub it e h)
  have hoE : ∀ e ∈ offsetEntries secs, e ∈ E := by
    intro e he
    obtain ⟨r, hr, her⟩ := List.mem_flatMap.mp he
    exact H1 _ ((mem_offsetRuns secs r).mp hr) e her
  refine ⟨fun a ha b hb => hE a (hdE a ha) b (hdE b hb), fun a ha b hb => hE a (hoE a ha) b (hoE b hb), ?_⟩
  intro e he
  obtain ⟨it, hit, hei⟩ := List.mem_flatMap.mp ((H e).mpr he)
  cases it with
  | char c t => left; exact (mem_directEntries secs e).mpr ⟨_, hit, hei⟩
  | array r => left; exact (mem_directEntries secs e).mpr ⟨_, hit, hei⟩
  | offset r =>
    right
    refine ⟨List.mem_flatMap.mpr ⟨r, (mem_offsetRuns secs r).mpr hit, hei⟩, ?_⟩
    intro d hd h1
    exact congrArg Prod.snd (hE d (hdE d hd) e he h1)

/-- what has to be shown of the sections of a form -/
def FormOK (w : Nat) (f : Form) (runs : List Run) : Prop :=
  (∀ s ∈ sectionsOf f runs, SectionOK w s) ∧ Functional (directEntries (sectionsOf f runs)) ∧
    Functional (offsetEntries (sectionsOf f runs)) ∧ ∀ e ∈ entriesFor f runs, Specified (sectionsOf f runs) e

theorem sectionsOfItems_nil (k : Kind) : sectionsOfItems k [] = [] := rfl

/-! ### bfchar entries; bfrange with offset or with array targets -/

/-- a form that writes one item of kind `k` for every element of a list `xs` which carries the
map's entries -/
theorem form_items {α : Type} (w : Nat) (f : Form) (runs : List Run) (hm : MapOK w runs) (k : Kind)
    (xs : List α) (mk : α → Item) (ent : α → List (Nat × List Nat))
    (hsec : sectionsOf f runs = sectionsOfItems k (xs.map mk))
    (hent : entriesFor f runs = runs.flatMap Run.entries)
    (hxs : xs.flatMap ent = runs.flatMap Run.entries)
    (hmk : ∀ x ∈ xs, (mk x).entries = ent x ∧ ItemOK w (mk x) ∧ (mk x).fits k) :
    FormOK w f runs := by
  have hE := functional_of_nodup _ hm.2
  have hall : allItems (sectionsOf f runs) = xs.map mk := by rw [hsec]; exact allItems_sectionsOfItems _ _
  obtain ⟨c1, c2, c3⟩ := specified_of_cover (sectionsOf f runs) (runs.flatMap Run.entries) hE (by
    intro e
    rw [hall, ← hxs, List.flatMap_map]
    simp only [List.mem_flatMap]
    exact exists_congr fun x => and_congr_right fun hx => by rw [(hmk x hx).1])
  refine ⟨?_, c1, c2, by rw [hent]; exact c3⟩
  rw [hsec]
  apply sectionOK_sectionsOfItems
  intro it hit
  obtain ⟨x, hx, rfl⟩ := List.mem_map.mp hit
  exact (hmk x hx).2

theorem form_bfchar (w : Nat) (runs : List Run) (hm : MapOK w runs) : FormOK w .bfchar runs :=
  form_items w .bfchar runs hm .bfchar (runs.flatMap Run.entries) (fun e => Item.char e.1 e.2) (fun e => [e])
    rfl rfl (by simp) (fun e he => by
      obtain ⟨r, hr, her⟩ := List.mem_flatMap.mp he
      exact ⟨rfl, entry_ok (hm.1 r hr) her, trivial⟩)

theorem form_offset (w : Nat) (runs : List Run) (hm : MapOK w runs) (hoff : ∀ r ∈ runs, RunOffsetOK r) :
    FormOK w .offset runs :=
  form_items w .offset runs hm .bfrange runs Item.offset Run.entries rfl rfl rfl
    (fun r hr => ⟨rfl, ⟨hm.1 r hr, hoff r hr⟩, trivial⟩)

theorem form_array (w : Nat) (runs : List Run) (hm : MapOK w runs) : FormOK w .array runs :=
  form_items w .array runs hm .bfrange runs Item.array Run.entries rfl rfl rfl
    (fun r hr => ⟨rfl, hm.1 r hr, trivial⟩)

/-! ### the mixed form -/

theorem entries_of_one (r : Run) (h : r.texts.length = 1) : r.entries = [(r.lo, r.texts.headD [])] := by
  obtain ⟨t, ht⟩ := List.length_eq_one_iff.mp h
  simp [Run.entries, ht, Run.entriesFrom]

theorem mixedItems_ok (w : Nat) (i : Nat) (runs : List Run) (h : ∀ r ∈ runs, RunOK w r ∧ RunOffsetOK r) :
    (∀ it ∈ (mixedItems i runs).1, ItemOK w it ∧ it.fits .bfchar) ∧
      ∀ it ∈ (mixedItems i runs).2, ItemOK w it ∧ it.fits .bfrange := by
  fun_induction mixedItems i runs with
  | case1 => simp
  | case2 i r rs rest c1 ih =>
    obtain ⟨ih1, ih2⟩ := ih (fun x hx => h x (List.mem_cons_of_mem _ hx))
    refine ⟨List.forall_mem_cons.mpr ⟨⟨?_, trivial⟩, ih1⟩, ih2⟩
    exact entry_ok (h r List.mem_cons_self).1 (by rw [entries_of_one r c1.1]; exact List.mem_singleton_self _)
  | case3 i r rs rest c1 c2 ih =>
    obtain ⟨ih1, ih2⟩ := ih (fun x hx => h x (List.mem_cons_of_mem _ hx))
    exact ⟨ih1, List.forall_mem_cons.mpr ⟨⟨(h r List.mem_cons_self).1, trivial⟩, ih2⟩⟩
  | case4 i r rs rest c1 c2 ih =>
    obtain ⟨ih1, ih2⟩ := ih (fun x hx => h x (List.mem_cons_of_mem _ hx))
    exact ⟨ih1, List.forall_mem_cons.mpr ⟨⟨h r List.mem_cons_self, trivial⟩, ih2⟩⟩

theorem mixedItems_entries (i : Nat) (runs : List Run) (e : Nat × List Nat) :
    e ∈ ((mixedItems i runs).1 ++ (mixedItems i runs).2).flatMap Item.entries ↔ e ∈ runs.flatMap Run.entries := by
  fun_induction mixedItems i runs with
  | case1 => simp
  | case2 i r rs rest c1 ih =>
    simp only [List.flatMap_append, List.flatMap_cons, List.mem_append] at ih ⊢
    rw [← ih, entries_of_one r c1.1, or_assoc]
    rfl
  | case3 i r rs rest c1 c2 ih =>
    simp only [List.flatMap_append, List.flatMap_cons, List.mem_append] at ih ⊢
    rw [← ih, or_left_comm]
    rfl
  | case4 i r rs rest c1 c2 ih =>
    simp only [List.flatMap_append, List.flatMap_cons, List.mem_append] at ih ⊢
    rw [← ih, or_left_comm]
    rfl
theorem form_mixed (w : Nat) (runs : List Run) (hm : MapOK w runs) (hoff : ∀ r ∈ runs, RunOffsetOK r) :
    FormOK w .mixed runs := by
  have hE := functional_of_nodup _ hm.2
  obtain ⟨m1, m2⟩ := mixedItems_ok w 0 runs (fun r hr => ⟨hm.1 r hr, hoff r hr⟩)
  have hall : allItems (sectionsOf .mixed runs) = (mixedItems 0 runs).1 ++ (mixedItems 0 runs).2 := by
    show allItems (_ ++ _) = _
    rw [allItems_append, allItems_sectionsOfItems, allItems_sectionsOfItems]
  obtain ⟨c1, c2, c3⟩ := specified_of_cover (sectionsOf .mixed runs) (runs.flatMap Run.entries) hE
    (fun e => by rw [hall]; exact mixedItems_entries 0 runs e)
  refine ⟨?_, c1, c2, c3⟩
  intro s hs
  rcases List.mem_append.mp hs with hs | hs
  · exact sectionOK_sectionsOfItems w _ _ m1 s hs
  · exact sectionOK_sectionsOfItems w _ _ m2 s hs

/-! ### a range, then a bfchar entry that overrides one of its codes -/

/-- the overridden code is a code of the run; its later text is `#` followed by the run's -/
theorem overridden_spec (r : Run) (o : Nat × List Nat) (h : overridden r = some o) :
    ∃ t, o.2 = 35 :: t ∧ (o.1, t) ∈ r.entries := by
  unfold overridden at h
  split at h
  · simp at h
  · rename_i hlen
    simp only [Option.some.injEq] at h
    subst h
    refine ⟨r.texts.getD (r.texts.length / 2) [], rfl, ?_⟩
    have hlt : r.texts.length / 2 < r.texts.length := by omega
    refine (mem_entries r _).mpr ⟨r.texts.length / 2, ?_, rfl⟩
    rw [List.getD_eq_getElem?_getD, List.getElem?_eq_getElem hlt]
    rfl

theorem textOK_hash (t : List Nat) (ht : TextOK t) : TextOK (35 :: t) :=
  ⟨allScalar_cons (by unfold IsScalar; omega) ht.1, by simp, by simp⟩

theorem allItems_override (runs : List Run) :
    allItems (sectionsOf .override runs) =
      runs.map Item.offset ++ (runs.filterMap overridden).map fun o => Item.char o.1 o.2 := by
  show allItems (_ ++ _) = _
  rw [allItems_append, allItems_sectionsOfItems, allItems_sectionsOfItems, List.map_filterMap]

theorem mem_direct_override (runs : List Run) (d : Nat × List Nat) :
    d ∈ directEntries (sectionsOf .override runs) ↔ d ∈ runs.filterMap overridden := by
  have h1 : (runs.map Item.offset).flatMap Item.chars = [] := by
    simp [List.flatMap_map, Item.chars]
  have h2 : ∀ l : List (Nat × List Nat), (l.map fun o => Item.char o.1 o.2).flatMap Item.chars = l := by
    intro l; simp [List.flatMap_map, Item.chars]
  rw [mem_directEntries, allItems_override, ← List.mem_flatMap, List.flatMap_append, h1, h2, List.nil_append]

theorem mem_offsetRuns_override (runs : List Run) (r : Run) :
    r ∈ offsetRuns (sectionsOf .override runs) ↔ r ∈ runs := by
  rw [mem_offsetRuns, allItems_override]
  simp
theorem mem_offsetEntries_override (runs : List Run) (e : Nat × List Nat) :
    e ∈ offsetEntries (sectionsOf .override runs) ↔ e ∈ runs.flatMap Run.entries := by
  unfold offsetEntries
  simp only [List.mem_flatMap, mem_offsetRuns_override]

theorem form_override (w : Nat) (runs : List Run) (hm : MapOK w runs) (hoff : ∀ r ∈ runs, RunOffsetOK r) :
    FormOK w .override runs := by
  have hE := functional_of_nodup _ hm.2
  -- an overridden pair: a code of the map, with `#` before its text
  have hO : ∀ o ∈ runs.filterMap overridden,
      ∃ t, o.2 = 35 :: t ∧ (o.1, t) ∈ runs.flatMap Run.entries ∧ o.1 < 256 ^ w ∧ TextOK t := by
    intro o ho
    obtain ⟨r, hr, hor⟩ := List.mem_filterMap.mp ho
    obtain ⟨t, h1, h2⟩ := overridden_spec r o hor
    have := entry_ok (hm.1 r hr) h2
    exact ⟨t, h1, List.mem_flatMap.mpr ⟨r, hr, h2⟩, this.1, this.2⟩
  refine ⟨?_, ?_, ?_, ?_⟩
  · intro s hs
    rcases List.mem_append.mp hs with hs | hs
    · refine sectionOK_sectionsOfItems w _ _ ?_ s hs
      intro it hit
      obtain ⟨r, hr, rfl⟩ := List.mem_map.mp hit
      exact ⟨⟨hm.1 r hr, hoff r hr⟩, trivial⟩
    · refine sectionOK_sectionsOfItems w _ _ ?_ s hs
      intro it hit
      rw [← List.map_filterMap] at hit
      obtain ⟨o, ho, rfl⟩ := List.mem_map.mp hit
      obtain ⟨t, h1, _, h3, h4⟩ := hO o ho
      refine ⟨⟨h3, ?_⟩, trivial⟩
      rw [h1]; exact textOK_hash t h4
  · intro a ha b hb hab
    rw [mem_direct_override] at ha hb
    obtain ⟨ta, a1, a2, _⟩ := hO a ha
    obtain ⟨tb, b1, b2, _⟩ := hO b hb
    have := congrArg Prod.snd (hE _ a2 _ b2 hab)
    simp only at this
    apply Prod.ext hab
    rw [a1, b1, this]
  · intro a ha b hb hab
    rw [mem_offsetEntries_override] at ha hb
    exact hE a ha b hb hab
  · intro e' he'
    obtain ⟨e, he, rfl⟩ := List.mem_map.mp he'
    split
    · rename_i o hfind
      left
      rw [mem_direct_override]
      have hmem := List.mem_of_find?_eq_some hfind
      have hq := List.find?_some hfind
      simp only [beq_iff_eq] at hq
      rw [← hq]
      exact hmem
    · rename_i hfind
      right
      refine ⟨(mem_offsetEntries_override runs e).mpr he, ?_⟩
      intro d hd h1
      rw [mem_direct_override] at hd
      have := List.find?_eq_none.mp hfind d hd
      simp only [beq_iff_eq] at this
      exact absurd h1 this

/-! ### all forms -/

theorem formOK (w : Nat) (f : Form) (runs : List Run) (hm : MapOK w runs)
    (hoff : f = .bfchar ∨ f = .array ∨ ∀ r ∈ runs, RunOffsetOK r) : FormOK w f runs := by
  rcases hoff with rfl | rfl | h
  · exact form_bfchar w runs hm
  · exact form_array w runs hm
  · cases f with
    | bfchar => exact form_bfchar w runs hm
    | array => exact form_array w runs hm
    | offset => exact form_offset w runs hm h
    | mixed => exact form_mixed w runs hm h
    | override => exact form_override w runs hm h

end Tabula.CMapCompose
