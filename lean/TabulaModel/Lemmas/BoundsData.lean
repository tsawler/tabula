import TabulaModel.Model.BoundsData
/-!
Lemmas about `Model/BoundsData.lean`, in the order of its sections, each for every input: `ccittDecode` in one
equation; the histogram of `findVerticalGaps` built from a difference array counts, for every bucket, the
fragments that cover it (`psum_histDiff`, `prefixSumsGo_spec`); the cap on reported gaps; what a call of
`parseColorSpaceAt` from any level and what a successful `toPNG` say; the clamps and the padding of
`extractPreserveLayout`.
-/
namespace Tabula.BoundsData

/-- `CCITTFaxDecode` by what the decoder could deliver: at most `maxCCITTOutput + 1` bytes are read, and
that one byte too many is the sign that the image is too large -/
theorem ccittDecode_eq (columns rows : Int) (avail : Nat) :
    ccittDecode columns rows avail =
      if columns < 1 ∨ rows < 0 then (.badParams, 0)
      else if maxCCITTOutput < avail then (.tooLarge, min avail (maxCCITTOutput + 1))
      else (.ok avail, avail) := by
  unfold ccittDecode
  generalize maxCCITTOutput = M
  by_cases hc : columns < 1
  · rw [if_pos hc, if_pos (Or.inl hc)]
  by_cases hr : rows < 0
  · rw [if_neg hc, if_pos hr, if_pos (Or.inr hr)]
  rw [if_neg hc, if_neg hr, if_neg (by omega : ¬ (columns < 1 ∨ rows < 0))]
  -- `read` is `min avail (M + 1)`
  have hread : (if avail > M + 1 then M + 1 else avail) = min avail (M + 1) := by
    rw [Nat.min_def]; split <;> split <;> omega
  dsimp only
  rw [hread]
  by_cases ha : M < avail
  · rw [if_pos ha, if_pos (Nat.lt_min.mpr ⟨ha, Nat.lt_succ_self M⟩)]
  · rw [if_neg ha, if_neg fun h => ha (Nat.lt_of_lt_of_le h (Nat.min_le_left _ _)), Nat.min_eq_left (by omega)]

/-- an accepted run is the two clamped ends, in order and inside the `nb` buckets -/
theorem clampRun_some {nb : Nat} {s e : Int} {a b : Nat} (h : clampRun nb s e = some (a, b)) :
    (a : Int) = clampStart s ∧ (b : Int) = clampEnd nb e ∧ a ≤ b ∧ b < nb := by
  unfold clampRun at h
  have h0 : 0 ≤ clampStart s := by unfold clampStart; split <;> omega
  have h1 : clampEnd nb e < nb := by unfold clampEnd; split <;> omega
  split at h
  · cases h; omega
  · cases h

/-! the difference array: `psum h i`, the sum of the entries `0..i`, is what the prefix-sum pass leaves at `i`
(`prefixSumsGo_spec`), and one fragment raises it by one exactly on its run (`psum_bump`, `psum_histDiff`) -/

theorem bump_length (h : List Int) (i : Nat) (d : Int) : (bump h i d).length = h.length := by
  unfold bump; split <;> simp

theorem histDiff_length (nb : Nat) (frags : List (Int × Int)) (h : List Int) :
    (histDiff nb frags h).length = h.length := by
  fun_induction histDiff nb frags h with
  | case1 => rfl
  | case2 s e rest h a b hc ih => rw [ih, bump_length, bump_length]
  | case3 s e rest h hc ih => exact ih

/-- the sum of the entries 0..i of a list -/
def psum : List Int → Nat → Int
  | [], _ => 0
  | x :: _, 0 => x
  | x :: rest, i + 1 => x + psum rest i

theorem range_map_cons (x : Int) (rest : List Int) (acc : Int) :
    (List.range (rest.length + 1)).map (fun i => acc + psum (x :: rest) i) =
      (acc + x) :: (List.range rest.length).map (fun i => acc + x + psum rest i) := by
  rw [List.range_succ_eq_map]
  simp only [List.map_cons, List.map_map, psum, List.cons.injEq, true_and]
  apply List.map_congr_left
  intro i _
  simp only [Function.comp, psum]
  omega

theorem prefixSumsGo_spec (l : List Int) (acc : Int) (out : List Int) :
    prefixSumsGo l acc out = out.reverse ++ (List.range l.length).map (fun i => acc + psum l i) := by
  induction l generalizing acc out with
  | nil => simp [prefixSumsGo]
  | cons x rest ih =>
    rw [prefixSumsGo, ih, List.length_cons, range_map_cons]
    simp

theorem prefixSumsGo_length (l : List Int) (acc : Int) (out : List Int) :
    (prefixSumsGo l acc out).length = l.length + out.length := by
  rw [prefixSumsGo_spec, List.length_append, List.length_reverse, List.length_map, List.length_range, Nat.add_comm]

theorem prefixSums_length (l : List Int) (acc : Int) : (prefixSums l acc).length = l.length := by
  simp [prefixSums, prefixSumsGo_length]

theorem psum_set (h : List Int) (a i : Nat) (v x : Int) (ha : h[a]? = some v) :
    psum (h.set a x) i = psum h i + (if a ≤ i then x - v else 0) := by
  induction h generalizing a i with
  | nil => simp at ha
  | cons y rest ih =>
    cases a with
    | zero =>
      simp only [List.getElem?_cons_zero, Option.some.injEq] at ha
      subst ha
      cases i with
      | zero => simp [psum]; omega
      | succ i => simp [psum]; omega
    | succ a =>
      simp only [List.getElem?_cons_succ] at ha
      cases i with
      | zero => simp [psum]
      | succ i =>
        simp only [List.set_cons_succ, psum, ih a i ha]
        by_cases h1 : a ≤ i
        · simp [h1]; omega
        · simp [h1]

theorem psum_bump (h : List Int) (a i : Nat) (d : Int) (ha : a < h.length) :
    psum (bump h a d) i = psum h i + (if a ≤ i then d else 0) := by
  unfold bump
  have : h[a]? = some h[a] := List.getElem?_eq_getElem ha
  rw [this]
  simp only
  rw [psum_set h a i h[a] (h[a] + d) this]
  split <;> omega

theorem cover_cons (nb : Nat) (s e : Int) (rest : List (Int × Int)) (b : Nat) :
    cover nb ((s, e) :: rest) b =
      (match clampRun nb s e with
        | some (a, c) => if a ≤ b ∧ b ≤ c then 1 else 0
        | none => 0) + cover nb rest b := by
  simp only [cover, ← List.countP_eq_length_filter, List.countP_cons]
  cases clampRun nb s e with
  | none => simp
  | some p =>
    obtain ⟨a, c⟩ := p
    by_cases h : a ≤ b ∧ b ≤ c <;> simp [h] <;> omega
theorem psum_histDiff (nb : Nat) (frags : List (Int × Int)) (h : List Int) (hl : h.length = nb + 1)
    (b : Nat) :
    psum (histDiff nb frags h) b = psum h b + cover nb frags b := by
  fun_induction histDiff nb frags h with
  | case1 => simp [cover]
  | case2 s e rest h a c hc ih =>
    have hr := clampRun_some hc
    rw [cover_cons, hc, ih (by rw [bump_length, bump_length]; exact hl),
      psum_bump _ (c + 1) b (-1) (by rw [bump_length]; omega), psum_bump h a b 1 (by omega)]
    by_cases h1 : a ≤ b <;> by_cases h2 : b ≤ c <;> simp [h1, h2] <;> omega
  | case3 s e rest h hc ih =>
    rw [cover_cons, hc, ih hl]
    simp only [Int.zero_add]

theorem psum_replicate (n i : Nat) : psum (List.replicate n 0) i = 0 := by
  induction n generalizing i with
  | zero => simp [psum]
  | succ n ih =>
    cases i with
    | zero => simp [List.replicate_succ, psum]
    | succ i => simp [List.replicate_succ, psum, ih]

theorem capGaps_length (gaps : List (Nat × Nat)) : (capGaps gaps).length ≤ 5 := by
  unfold capGaps
  split
  · rw [List.length_take]; omega
  · omega

theorem gapsIn_length (nb : Nat) (hist : List Int) (minStart maxEnd : Int) :
    (gapsIn nb hist minStart maxEnd).length ≤ 5 := by
  unfold gapsIn
  dsimp only
  split
  · exact Nat.zero_le _
  · exact capGaps_length _

/-- a call that starts at most one level beyond the limit, with fuel for the levels that are left, ends
without having gone further than that one level: only an `/Indexed` space within the limit goes on -/
theorem parseColorSpaceAt_bounded (g : List (Nat × CS)) (fuel : Nat) (obj : CS) (depth : Nat)
    (hf : maxColorSpaceDepth + 2 ≤ fuel + depth) (hd : depth ≤ maxColorSpaceDepth + 1) :
    ∃ name d, parseColorSpaceAt g fuel obj depth = some (name, d) ∧ d ≤ maxColorSpaceDepth + 1 := by
  fun_induction parseColorSpaceAt g fuel obj depth with
  | case1 => omega
  | case5 _ _ _ _ _ _ _ ih => exact ih (by omega) (by omega)
  | _ => exact ⟨_, _, rfl, hd⟩

/-- every branch of `toPNG` answers an error or `W * H` pixels, the latter only for an image that fits -/
theorem toPNG_ok {cs : ImgCS} {bpc w h : Int} {len p : Nat} (hp : toPNG cs bpc w h len = .ok p) :
    imageFits w h len = true ∧ p = w.toNat * h.toNat := by
  revert hp
  fun_cases toPNG cs bpc w h len
  case case3 | case5 | case7 | case11 | case14 =>
    rintro ⟨⟩
    exact ⟨by simpa using ‹¬(!imageFits w h len) = true›, rfl⟩
  all_goals exact fun h => nomatch h

theorem clampGap_le (g : Int) : 1 ≤ clampGap g ∧ clampGap g ≤ maxGapLines := by
  unfold clampGap maxGapLines
  split
  · omega
  · split <;> omega

theorem clampCol_le (c : Int) : clampCol c ≤ maxCharsPerLine := by
  unfold clampCol maxCharsPerLine
  split
  · omega
  · split <;> omega

/-- the padding of one line adds up to at most 200 columns, wherever its fragments claim to be -/
theorem linePads_sum_le (frags : List (Int × Nat)) (cur : Nat) :
    (linePads frags cur).sum + min cur maxCharsPerLine ≤ maxCharsPerLine := by
  fun_induction linePads frags cur with
  | case1 => simp; omega
  | case2 c len rest cur t ht ih =>
    have hc : t ≤ maxCharsPerLine := clampCol_le c
    simp only [List.sum_cons]
    omega
  | case3 c len rest cur t ht ih =>
    simp only [List.sum_cons]
    omega

theorem linePads_length (frags : List (Int × Nat)) (cur : Nat) :
    (linePads frags cur).length = frags.length := by
  fun_induction linePads frags cur with
  | case1 => rfl
  | case2 c len rest cur t ht ih => simp [ih]
  | case3 c len rest cur t ht ih => simp [ih]

theorem zip_sum (a b : List Nat) (h : a.length = b.length) :
    ((a.zip b).map (fun p => p.1 + p.2)).sum = a.sum + b.sum := by
  induction a generalizing b with
  | nil => cases b <;> simp_all
  | cons x xs ih =>
    cases b with
    | nil => simp at h
    | cons y ys =>
      simp only [List.length_cons, Nat.add_right_cancel_iff] at h
      simp only [List.zip_cons_cons, List.map_cons, List.sum_cons, ih ys h]
      omega

end Tabula.BoundsData
