import TabulaModel.Model.XmlTree
namespace Tabula.Xml

/-- Induction over an element tree: a fact about every node follows from the fact for character
data and, for an element, from the fact for each of its children. (`Node.rec` asks for a second
motive about child lists; here it is "every member", so a statement about a child list is
proved separately, once, from the statement about its members.) -/
theorem Node.induct {P : Node → Prop} (text : ∀ s, P (.text s))
    (elem : ∀ tag attrs kids, (∀ n ∈ kids, P n) → P (.elem tag attrs kids)) (n : Node) : P n :=
  Node.rec (motive_1 := P) (motive_2 := fun l => ∀ n ∈ l, P n) elem text
    (fun _ h => nomatch h) (fun _ _ ihn ihr => List.forall_mem_cons.2 ⟨ihn, ihr⟩) n

/-- a span / repetition attribute never yields less than 1 or more than `maxCellSpan`,
whatever the attribute says (sign, zero, huge, not a number) -/
theorem boundedSpan_bounds (s : Str) : 1 ≤ boundedSpan s ∧ boundedSpan s ≤ 1024 := by
  unfold boundedSpan
  cases atoi? s with
  | none => exact ⟨Nat.le_refl 1, by decide⟩
  | some v =>
    by_cases h : 0 < v ∧ v ≤ 1024
    · simp only [h, and_self, if_true]
      omega
    · simp only [h, if_false]
      omega

end Tabula.Xml
