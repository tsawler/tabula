import TabulaModel.Lemmas.XrefIndirect
import TabulaModel.Lemmas.XrefLines
import TabulaModel.Lemmas.XrefRecords
import TabulaModel.Lemmas.SpelledDict
/-!
`ParseXRef` on a cross-reference stream object laid out `N G obj EOL << … >> stream …`.
-/
namespace Tabula.XrefFile
open Tabula.Pdf Tabula.A1 Tabula.Pdf.Prs Tabula.Reader Tabula.XrefBytes

def eolUnits : Eol → Sep
  | .lf => [.ws 10]
  | .crlf => [.ws 13, .ws 10]
  | .cr => [.ws 13]

theorem renderSep_eolUnits (e : Eol) : renderSep (eolUnits e) = e.bytes := by
  cases e <;> rfl

theorem sepOk_ws_cons (b : Nat) (hb : isWs b = true) (us : Sep) (hus : SepOk us) :
    SepOk (.ws b :: us) :=
  List.forall_mem_cons.2 ⟨hb, hus⟩

theorem sepOk_eolUnits (e : Eol) : SepOk (eolUnits e) := by
  have nil : SepOk [] := fun _ h => nomatch h
  cases e
  · exact sepOk_ws_cons 10 rfl _ nil
  · exact sepOk_ws_cons 13 rfl _ (sepOk_ws_cons 10 rfl _ nil)
  · exact sepOk_ws_cons 13 rfl _ nil

/-- `N G obj`, the first line of the object -/
def objLine (num gen : Nat) : Str := dec num ++ 32 :: (dec gen ++ 32 :: kwObj)

theorem word_kwObj : Word kwObj := by
  unfold Word kwObj; decide

theorem objLine_words (num gen : Nat) : ∀ w ∈ [dec num, dec gen, kwObj], Word w ∧ w ≠ [] :=
  List.forall_mem_cons.2 ⟨dec_word _, List.forall_mem_cons.2 ⟨dec_word _,
    List.forall_mem_cons.2 ⟨⟨word_kwObj, by decide⟩, fun _ h => nomatch h⟩⟩⟩

theorem objLine_fields (num gen : Nat) : fieldsU (objLine num gen) = [dec num, dec gen, kwObj] :=
  fieldsU_joinSp _ (objLine_words num gen)

theorem objLine_word_or_space (num gen : Nat) : ∀ c ∈ objLine num gen, c < 128 ∧ c ≠ 10 ∧ c ≠ 13 :=
  joinSp_chars _ fun w hw => (objLine_words num gen w hw).1

theorem trimSpaceU_objLine (num gen : Nat) : trimSpaceU (objLine num gen) = objLine num gen :=
  trimSpaceU_joinSp [dec num, dec gen, kwObj] (objLine_words num gen)

theorem objLine_ne_xref (num gen : Nat) : objLine num gen ≠ kwXref :=
  dec_append_ne num _ 120 _ (by decide)

theorem objLine_length (num gen : Nat) (hn : num ≤ maxInt64) (hg : gen ≤ maxInt64) : (objLine num gen).length ≤ 65534 := by
  rw [objLine, List.length_append, List.length_cons, List.length_append]
  exact Nat.le_trans (Nat.add_le_add (dec_length_int64 num hn)
    (Nat.succ_le_succ (Nat.add_le_add_right (dec_length_int64 gen hg) _))) (by decide)

theorem renderIndirect_objLine (num gen : Nat) (eol : Eol) (pre : Sep) (kvs : List SObj) (close s3 : Sep)
    (seol : StreamEol) (raw w4 : Str) (s5 : Sep) (rest : Str) :
    renderIndirect num gen [.ws 32] [.ws 32] (.stream (eolUnits eol ++ pre) kvs close s3 seol raw w4 s5) rest =
      objLine num gen ++ (eol.bytes ++ (Body.stream pre kvs close s3 seol raw w4 s5).render rest) := by
  rw [renderIndirect, Body.render, Body.render, render_dict, render_dict, renderSep_append,
    renderSep_eolUnits, objLine]
  simp only [List.append_assoc, List.cons_append]
  rfl

theorem parseXRefStream_of_parse (ext : Reader.Ext) {data raw dec : Str} {n g : Int} {kv : Dict}
    {sec : RawSection} (hp : parseIndirect data (fun _ => none) = some (n, g, .stream kv raw))
    (ht : dget kv XrefFile.kType = some (.name kXRef)) (hd : Reader.decodeStream ext kv raw = some dec)
    (hb : xrefStreamBody kv dec = some sec) : parseXRefStream ext data = .ok (sec, kv) := by
  simp only [parseXRefStream, hp, ht, ne_eq, not_true_eq_false, if_false, hd, hb]

end Tabula.XrefFile
