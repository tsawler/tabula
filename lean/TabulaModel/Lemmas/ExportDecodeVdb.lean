import TabulaModel.Model.ExportDecodeVdb
import TabulaModel.Lemmas.ExportDecode
import TabulaModel.Lemmas.ExportApi
/-!
Lemmas about the inverse readers of the vector-database exports (`Model/ExportDecodeVdb.lean`):
each record the exporters build (`weaviateOf`, `pineconeOf`, the parallel arrays of
`chromaRecord`) is decoded to the view of its chunk, for `Props/C14Vdb.lean`.
-/
set_option linter.unusedSimpArgs false
namespace Tabula.Export
open Tabula.Csv (Str)
open Tabula.Json

theorem jNumItems_map (l : List Str) : jNumItems (l.map J.num) = some l := by
  induction l with
  | nil => rfl
  | cons a r ih => simp only [List.map_cons, jNumItems, ih, Option.map_some]

/-- an entry of the `embeddings` array (absent, `null` or an array of numbers) reads back to `embAt` -/
theorem jVecOpt_embToJ (embs : List (Emb Str)) (i : Nat) :
    jVecOpt (embs.map embToJ)[i]? = some (embAt embs i) := by
  rw [List.getElem?_map]
  unfold embAt
  cases embs[i]? with
  | none => rfl
  | some e =>
    cases e with
    | none => rfl
    | some l => simp only [Option.map_some, embToJ, jVecOpt, jNumItems_map]

/-- the `omitempty` vector member of a Weaviate object -/
theorem jVecOpt_omit (v : List Str) :
    jVecOpt (getMember kVector (if v.isEmpty then [] else [(kVector, J.arr (v.map J.num))])) = some v := by
  cases v with
  | nil => rfl
  | cons a r =>
    simp only [List.isEmpty_cons, Bool.false_eq_true, if_false, getMember, if_true, jVecOpt, jNumItems_map]

/-! ### metadata maps as JSON objects -/

theorem getMember_mapToJ (m : MapSV) (h : (mapKeys m).Nodup) (k : Str) :
    getMember k (sortMembers (valsToJ m)) = (mapLookup m k).map valToJ :=
  mapToJ_get m h k

theorem weaviateProps_members (c : Chunk) :
    getMember kContent (sortMembers (valsToJ (weaviateProps c))) = some (.str c.text) ∧
    getMember kDocumentTitleC (sortMembers (valsToJ (weaviateProps c))) = some (.str c.md.documentTitle) ∧
    getMember kPageStartC (sortMembers (valsToJ (weaviateProps c))) = some (.num (decInt c.md.pageStart)) ∧
    getMember kSectionTitleC (sortMembers (valsToJ (weaviateProps c))) = some (.str c.md.sectionTitle) ∧
    getMember kChunkIndexC (sortMembers (valsToJ (weaviateProps c))) = some (.num (decInt c.md.chunkIndex)) := by
  have n : (mapKeys (weaviateProps c)).Nodup := by simp (decide := true) [weaviateProps, mapKeys]
  refine ⟨?_, ?_, ?_, ?_, ?_⟩ <;> rw [getMember_mapToJ _ n] <;> rfl

theorem pineconeMetadata_members (c : Chunk) :
    getMember kText (sortMembers (valsToJ (pineconeMetadata c))) = some (.str c.text) ∧
    getMember kDocumentTitle (sortMembers (valsToJ (pineconeMetadata c))) = some (.str c.md.documentTitle) ∧
    getMember kPageStart (sortMembers (valsToJ (pineconeMetadata c))) = some (.num (decInt c.md.pageStart)) ∧
    getMember kSectionTitle (sortMembers (valsToJ (pineconeMetadata c))) = some (.str c.md.sectionTitle) := by
  have n : (mapKeys (pineconeMetadata c)).Nodup := by simp (decide := true) [pineconeMetadata, mapKeys]
  refine ⟨?_, ?_, ?_, ?_⟩ <;> rw [getMember_mapToJ _ n] <;> rfl

theorem chromaMetadata_members (m : Meta) :
    getMember kDocumentTitle (sortMembers (valsToJ (chromaMetadata m))) = some (.str m.documentTitle) ∧
    getMember kPageStart (sortMembers (valsToJ (chromaMetadata m))) = some (.num (decInt m.pageStart)) ∧
    getMember kSectionTitle (sortMembers (valsToJ (chromaMetadata m))) = some (.str m.sectionTitle) ∧
    getMember kChunkIndex (sortMembers (valsToJ (chromaMetadata m))) = some (.num (decInt m.chunkIndex)) := by
  have n : (mapKeys (chromaMetadata m)).Nodup := by simp (decide := true) [chromaMetadata, mapKeys]
  refine ⟨?_, ?_, ?_, ?_⟩ <;> rw [getMember_mapToJ _ n] <;> rfl

/-- an `omitempty` vector member reads back to the vector -/
theorem jVecOpt_omitempty (v : List Str) :
    jVecOpt (if v.isEmpty then none else some (.arr (v.map J.num))) = some v := by
  cases v with
  | nil => rfl
  | cons a r => exact jNumItems_map (a :: r)

/-- the object of chunk `p.1` at index `p.2` decodes to the class name and the chunk's view -/
theorem decodeWeaviate_weaviateOf (cls : Str) (embs : List (Emb Str)) (p : Chunk × Nat) :
    decodeWeaviate (weaviateObjectToJ (weaviateOf cls embs p)) =
      some (cls, vdbView true p.1 (embAt embs p.2)) := by
  obtain ⟨c, i⟩ := p
  obtain ⟨p1, p2, p3, p4, p5⟩ := weaviateProps_members c
  -- the members of the object, with the fields of `weaviateOf` put in
  obtain ⟨g1, g3, g2, g4⟩ := weaviateObjectToJ_get (weaviateOf cls embs (c, i))
  have h1 : (weaviateObjectToJ (weaviateOf cls embs (c, i))).get kClass = some (.str cls) := g1
  have h2 : (weaviateObjectToJ (weaviateOf cls embs (c, i))).get kId =
      (if c.id.isEmpty then none else some (.str c.id)) := g2
  have h3 : (weaviateObjectToJ (weaviateOf cls embs (c, i))).get kProperties =
      some (.obj (sortMembers (valsToJ (weaviateProps c)))) := g3
  have h4 : jVecOpt ((weaviateObjectToJ (weaviateOf cls embs (c, i))).get kVector) = some (embAt embs i) := by
    rw [g4]; exact jVecOpt_omitempty _
  obtain ⟨ms, hms⟩ : ∃ ms, weaviateObjectToJ (weaviateOf cls embs (c, i)) = .obj ms := ⟨_, rfl⟩
  rw [hms] at h1 h2 h3 h4 ⊢
  simp only [J.get] at h1 h2 h3 h4
  simp only [decodeWeaviate, h1, h2, h3, h4, p1, p2, p3, p4, p5, jReqStr, jReqObj, jReqInt, jStrOpt_omit,
    readInt_decInt, Option.bind_some]
  rfl

/-- the record of a chunk with a vector decodes to the chunk's view (without index) -/
theorem decodePineconeRecord_of (c : Chunk) (v : List Str) :
    decodePineconeRecord (pineconeRecordToJ { id := c.id, values := v, metadata := pineconeMetadata c }) =
      some (vdbView false c v) := by
  obtain ⟨p1, p2, p3, p4⟩ := pineconeMetadata_members c
  have hne : (pineconeMetadata c).isEmpty = false := rfl
  have h1 : (pineconeRecordToJ { id := c.id, values := v, metadata := pineconeMetadata c }).get kId =
      some (.str c.id) := rfl
  have h2 : (pineconeRecordToJ { id := c.id, values := v, metadata := pineconeMetadata c }).get kValues =
      some (.arr (v.map J.num)) := rfl
  have h3 : (pineconeRecordToJ { id := c.id, values := v, metadata := pineconeMetadata c }).get kMetadata =
      some (.obj (sortMembers (valsToJ (pineconeMetadata c)))) := rfl
  obtain ⟨ms, hms⟩ : ∃ ms, pineconeRecordToJ { id := c.id, values := v, metadata := pineconeMetadata c } = .obj ms :=
    ⟨_, rfl⟩
  rw [hms] at h1 h2 h3 ⊢
  simp only [J.get] at h1 h2 h3
  simp only [decodePineconeRecord, h1, h2, h3, p1, p2, p3, p4, jReqStr, jReqObj, jReqInt, jNumItems_map,
    readInt_decInt, Option.bind_some]
  rfl

/-- the `vectors` array of the records of `pinecone_records` decodes to the views of exactly the
chunks with a non-empty vector at their index -/
theorem decodePinecone_records (embs : List (Emb Str)) (l : List (Chunk × Nat)) :
    mapOpt decodePineconeRecord ((l.filterMap (pineconeOf embs)).map pineconeRecordToJ) =
      some (l.filterMap (fun p => if embAt embs p.2 = [] then none else some (vdbView false p.1 (embAt embs p.2)))) := by
  induction l with
  | nil => rfl
  | cons p rest ih =>
    simp only [List.filterMap_cons, pineconeOf]
    cases he : embAt embs p.2 with
    | nil => simp only [if_true]; exact ih
    | cons a r =>
      have hne : ¬ (a :: r = []) := by simp
      simp only [hne, if_false, List.map_cons, mapOpt, decodePineconeRecord_of, ih]

/-- the parallel arrays of `chroma_parallel`, with the caller's embeddings, zip back to one view per
chunk; `i` = index of the first chunk -/
theorem chromaZip_chunks (embs : List (Emb Str)) (cs : List Chunk) (i : Nat) :
    chromaZip ((cs.map (·.id)).map J.str) ((cs.map (·.text)).map J.str)
        (cs.map (fun c => mapToJ (chromaMetadata c.md))) i (embs.map embToJ) =
      some ((cs.zipIdx i).map (fun p => vdbView true p.1 (embAt embs p.2))) := by
  induction cs generalizing i with
  | nil => rfl
  | cons c rest ih =>
    obtain ⟨p1, p2, p3, p4⟩ := chromaMetadata_members c.md
    simp only [List.map_cons, mapToJ, chromaZip, p1, p2, p3, p4, jReqStr, jReqInt, readInt_decInt,
      jVecOpt_embToJ, Option.bind_some, List.zipIdx_cons]
    have := ih (i + 1)
    simp only [mapToJ] at this
    rw [this]
    rfl

/-- the members of the Chroma document a reader looks at -/
theorem chromaRecordToJ_members (chunks : List Chunk) (embs : List (Emb Str)) :
    ∃ ms, chromaRecordToJ (chromaRecord chunks embs) = .obj ms ∧
      getMember kIds ms = some (.arr ((chunks.map (·.id)).map J.str)) ∧
      getMember kDocuments ms = some (.arr ((chunks.map (·.text)).map J.str)) ∧
      jArrOpt (getMember kMetadatas ms) = some (chunks.map (fun c => mapToJ (chromaMetadata c.md))) ∧
      jArrOpt (getMember kEmbeddings ms) = some (embs.map embToJ) := by
  obtain ⟨g1, g2, g3, g4⟩ := chromaRecordToJ_get (chromaRecord chunks embs)
  refine ⟨_, rfl, g1.trans ?_, g2.trans ?_, (congrArg jArrOpt g4).trans ?_, (congrArg jArrOpt g3).trans ?_⟩
  all_goals simp only [chromaRecord, chromaLoop_eq]
  · rfl
  · rfl
  · cases chunks <;> simp only [List.map_map] <;> rfl
  · cases embs <;> rfl

/-- a text that reads back to the Chroma document of a collection decodes to one view per chunk -/
theorem decodeChromaText_of_read (text : Str) (chunks : List Chunk) (embs : List (Emb Str))
    (h : jsonRead text = some (chromaRecordToJ (chromaRecord chunks embs))) :
    decodeChromaText text = some (chunks.zipIdx.map (fun p => vdbView true p.1 (embAt embs p.2))) := by
  obtain ⟨ms, hms, h1, h2, h3, h4⟩ := chromaRecordToJ_members chunks embs
  rw [hms] at h
  simp only [decodeChromaText, h, h1, h2, h3, h4, Option.bind_some]
  exact chromaZip_chunks embs chunks 0

/-- a text that reads back to the Pinecone document of a collection decodes to the views of the
chunks that have a vector -/
theorem decodePineconeText_of_read (text : Str) (chunks : List Chunk) (embs : List (Emb Str))
    (h : jsonRead text = some (.obj [(kVectors, .arr ((pineconeVectors chunks embs).map pineconeRecordToJ))])) :
    decodePineconeText text =
      some (chunks.zipIdx.filterMap (fun p => if embAt embs p.2 = [] then none else some (vdbView false p.1 (embAt embs p.2)))) := by
  have hv : pineconeVectors chunks embs = chunks.zipIdx.filterMap (pineconeOf embs) := pineconeLoop_eq embs chunks 0
  rw [hv] at h
  simp only [decodePineconeText, h, getMember, if_true]
  exact decodePinecone_records embs chunks.zipIdx

/-- lines that read back to the Weaviate objects of a collection decode to one view per chunk -/
theorem decodeWeaviateText_of_read (text cls : Str) (chunks : List Chunk) (embs : List (Emb Str))
    (h : jsonlRead text = some ((weaviateObjects cls chunks embs).map weaviateObjectToJ)) :
    decodeWeaviateText text = some (chunks.zipIdx.map (fun p => (cls, vdbView true p.1 (embAt embs p.2)))) := by
  have hv : weaviateObjects cls chunks embs = chunks.zipIdx.map (weaviateOf cls embs) := weaviateLoop_eq cls embs chunks 0
  rw [hv, List.map_map] at h
  simp only [decodeWeaviateText, h, Option.bind_some]
  exact mapOpt_map decodeWeaviate _ _ chunks.zipIdx (fun p _ => decodeWeaviate_weaviateOf cls embs p)

end Tabula.Export
