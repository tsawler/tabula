import TabulaModel.Model.XrefFile
/-!
The limit on objects being loaded inside each other (`maxNestedLoads`, reader/reader.go since
129dd3d) in `getObjectB`: beyond the limit the answer is an error, and the structural `fuel` of
the model is never what ends a lookup.
-/
namespace Tabula.XrefFile
open Tabula.Pdf Tabula.Reader

/-- with `maxNestedLoads` objects already being loaded, every further `GetObject` is an error
(whatever the table and the file say about the object) -/
theorem getObjectB_limit (ext : Reader.Ext) (file : Str) (x : RawSection) (fuel : Nat) (loading : List Int)
    (n : Int) (h : maxNestedLoads ≤ loading.length) : getObjectB ext file x fuel loading n = none := by
  cases fuel with
  | zero => rfl
  | succ f =>
    rw [getObjectB]
    cases getLastI x n with
    | none => rfl
    | some e =>
      have : loading.length ≥ maxNestedLoads := h
      simp only [this, if_true, ite_self]

/-- a function by recursion on structural fuel - one unit per nested call, made on a longer list -
that stops once the list is longer than `lim` does not depend on the fuel, as soon as the fuel
covers what the limit still allows -/
theorem fuel_irrelevant {α : Type} (G : Nat → List Int → α) (lim : Nat)
    (hlim : ∀ f L, lim + 1 ≤ L.length → G f L = G 0 L)
    (hstep : ∀ f f' L, (∀ n, G f (n :: L) = G f' (n :: L)) → G (f + 1) L = G (f' + 1) L) :
    ∀ (f f' : Nat) (L : List Int), lim + 1 ≤ f + L.length → lim + 1 ≤ f' + L.length → G f L = G f' L := by
  intro f
  induction f with
  | zero => intro f' L h _; exact (hlim f' L (by omega)).symm
  | succ f ih =>
    intro f' L h h'
    cases f' with
    | zero => exact hlim (f + 1) L (by omega)
    | succ f' =>
      exact hstep f f' L fun n =>
        ih f' (n :: L) (by simp only [List.length_cons]; omega) (by simp only [List.length_cons]; omega)

/-- **fuel independence**: any two amounts of fuel that cover what the limit still allows
(`maxNestedLoads + 1 - loading.length` nested calls) give the same answer -/
theorem getObjectB_fuel (ext : Reader.Ext) (file : Str) (x : RawSection) :
    ∀ (f f' : Nat) (loading : List Int) (n : Int),
      maxNestedLoads + 1 ≤ f + loading.length → maxNestedLoads + 1 ≤ f' + loading.length →
      getObjectB ext file x f loading n = getObjectB ext file x f' loading n :=
  fun f f' loading n h h' => congrFun (fuel_irrelevant (getObjectB ext file x) maxNestedLoads
    (fun f L hL => funext fun n => by
      rw [getObjectB_limit ext file x f L n (by omega), getObjectB_limit ext file x 0 L n (by omega)])
    (fun f f' L hn => funext fun n => by rw [getObjectB, getObjectB, hn n]) f f' loading h h') n

end Tabula.XrefFile
