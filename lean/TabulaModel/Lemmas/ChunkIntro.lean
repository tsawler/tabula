import TabulaModel.Model.ChunkIntro
import TabulaModel.Lemmas.ChunkLayoutSections
import TabulaModel.Lemmas.ChunkSent
/-!
Lemmas for `Props/C12Intro.lean`: `withIntro` changes nothing but the `intro` flags of paragraphs,
and sets every one of them to what `isListIntro` says of the paragraph's text. Then the expressions
of `isListIntro` as languages (`CharLang`, `LitLang`, `GapLang`, `Lang`) and the backward matcher as
their decision procedure at the end of a text (`matchRev_iff`, for well-formed phrases `WF`).
-/
namespace Tabula.ChunkIntro
open Tabula.Chunk Tabula.ChunkLayout

theorem withIntro_numbers (d : LDoc) : (withIntro d).map (·.number) = d.map (·.number) := by
  simp [withIntro, List.map_map, Function.comp_def]

theorem ascFrom_withIntro (b : Int) (d : LDoc) (h : AscFrom b d) : AscFrom b (withIntro d) :=
  h.of_numbers (withIntro_numbers d)

/-- the element without its introduction flag -/
def CE.noIntro (e : CE) : Kind × Str × Int × List Str := (e.kind, e.text, e.page, e.sents)

/-- what `withIntro` does to the content: every paragraph gets `isListIntro` of its own text as its flag -/
theorem canon_withIntro (cfg : Cfg) (d : LDoc) :
    canon cfg (withIntro d) =
      (canon cfg d).map fun e => if e.kind = .para then { e with intro := isListIntro e.text } else e := by
  unfold canon withIntro
  rw [List.flatMap_map, List.map_flatMap]
  congr 1
  funext pg
  unfold pageCanon
  cases pg.layout with
  | none => rfl
  | some lay =>
    simp only [Option.map_some, List.map_append, List.map_map]
    rfl

theorem withIntro_canon (cfg : Cfg) (d : LDoc) :
    (canon cfg (withIntro d)).map CE.noIntro = (canon cfg d).map CE.noIntro := by
  rw [canon_withIntro, List.map_map]
  exact List.map_congr_left fun e _ => by simp only [Function.comp]; split <;> rfl

/-- every paragraph's flag is `isListIntro` of its text; the other elements keep `false` -/
theorem withIntro_flags (cfg : Cfg) (d : LDoc) :
    ∀ e ∈ canon cfg (withIntro d), e.kind = .para → e.intro = isListIntro e.text := by
  intro e he hk
  rw [canon_withIntro] at he
  obtain ⟨e0, _, rfl⟩ := List.mem_map.mp he
  by_cases h0 : e0.kind = .para
  · rw [if_pos h0]
  · rw [if_neg h0] at hk; exact absurd hk h0

/-- a text whose trimmed form ends with a colon -/
theorem tailRev_colon (t pre : Str) (h : Tabula.Split.trimSpace t = pre ++ [58]) : tailRev t = 58 :: pre.reverse := by
  unfold tailRev
  rw [h, List.reverse_append]
  rfl

/-- what one pattern character (lower-case letter or `.`) matches under `(?i)`: itself, its upper
case, and for `s` also U+017F -/
def CharLang (c : Nat) (w : Str) : Prop :=
  w = [c] ∨ (97 ≤ c ∧ c ≤ 122 ∧ w = [c - 32]) ∨ (c = 115 ∧ w = [0xC5, 0xBF])

/-- a word: its characters one after the other -/
def LitLang : Str → Str → Prop
  | [], w => w = []
  | c :: cs, w => ∃ a b, w = a ++ b ∧ CharLang c a ∧ LitLang cs b

/-- `\s+` -/
def GapLang (w : Str) : Prop := w ≠ [] ∧ ∀ b ∈ w, reSpace b = true

def TokLang : Tok → Str → Prop
  | .lit l, w => LitLang l w
  | .gap, w => GapLang w

/-- a phrase: its tokens one after the other -/
def Lang : List Tok → Str → Prop
  | [], w => w = []
  | t :: ts, w => ∃ a b, w = a ++ b ∧ TokLang t a ∧ Lang ts b

theorem matchCharRev_iff (c : Nat) (r r' : Str) :
    matchCharRev c r = some r' ↔ ∃ w, CharLang c w ∧ r = w.reverse ++ r' := by
  constructor
  · intro h
    rcases r with _ | ⟨b, rest⟩
    · cases h
    simp only [matchCharRev] at h
    by_cases h1 : (b == c) = true
    · rw [if_pos h1] at h
      cases h; cases eq_of_beq h1
      exact ⟨_, Or.inl rfl, rfl⟩
    rw [if_neg h1] at h
    by_cases h2 : (decide (97 ≤ c) && decide (c ≤ 122) && b + 32 == c) = true
    · rw [if_pos h2] at h
      cases h
      simp only [Bool.and_eq_true, decide_eq_true_eq, beq_iff_eq] at h2
      obtain ⟨⟨hl, hu⟩, rfl⟩ := h2
      exact ⟨[b], Or.inr (Or.inl ⟨hl, hu, by rw [Nat.add_sub_cancel]⟩), rfl⟩
    rw [if_neg h2] at h
    by_cases h3 : (c == 115 && b == 0xBF) = true
    · rw [if_pos h3] at h
      simp only [Bool.and_eq_true, beq_iff_eq] at h3
      obtain ⟨rfl, rfl⟩ := h3
      split at h
      · cases h; exact ⟨[0xC5, 0xBF], Or.inr (Or.inr ⟨rfl, rfl⟩), rfl⟩
      · cases h
    · rw [if_neg h3] at h; cases h
  · rintro ⟨w, hw, rfl⟩
    rcases hw with rfl | ⟨h1, h2, rfl⟩ | ⟨rfl, rfl⟩
    · simp only [List.reverse_singleton, List.singleton_append, matchCharRev, beq_self_eq_true, if_true]
    · have hne : (c - 32 == c) = false := beq_false_of_ne (by omega)
      have hle : (decide (97 ≤ c) && decide (c ≤ 122) && c - 32 + 32 == c) = true := by
        rw [Nat.sub_add_cancel (by omega), decide_eq_true h1, decide_eq_true h2, beq_self_eq_true]; rfl
      simp only [List.reverse_singleton, List.singleton_append, matchCharRev, hne, hle, if_true]
      rfl
    · rfl

/-- A language given by concatenation along a list (`LitLang` along the characters of a word, `Lang`
along the tokens of a phrase) can as well be split off at the last element. -/
theorem cat_snoc {α : Type} (L : α → Str → Prop) (C : List α → Str → Prop) (hnil : ∀ w, C [] w ↔ w = [])
    (hcons : ∀ x xs w, C (x :: xs) w ↔ ∃ a b, w = a ++ b ∧ L x a ∧ C xs b) (xs : List α) (x : α) (w : Str) :
    C (xs ++ [x]) w ↔ ∃ a b, w = a ++ b ∧ C xs a ∧ L x b := by
  induction xs generalizing w with
  | nil =>
    simp only [List.nil_append, hcons, hnil]
    constructor
    · rintro ⟨a, b, rfl, ha, rfl⟩; exact ⟨[], a, (List.append_nil a), rfl, ha⟩
    · rintro ⟨a, b, rfl, rfl, hb⟩; exact ⟨b, [], (List.append_nil b).symm, hb, rfl⟩
  | cons y ys ih =>
    simp only [List.cons_append, hcons]
    constructor
    · rintro ⟨a, b, rfl, ha, hb⟩
      obtain ⟨a2, b2, rfl, h1, h2⟩ := (ih b).mp hb
      exact ⟨a ++ a2, b2, (List.append_assoc ..).symm, ⟨a, a2, rfl, ha, h1⟩, h2⟩
    · rintro ⟨a, b, rfl, ⟨a1, a2, rfl, h1, h2⟩, hb⟩
      exact ⟨a1, a2 ++ b, List.append_assoc .., h1, (ih _).mpr ⟨a2, b, rfl, h2, hb⟩⟩

theorem litLang_snoc (xs : Str) (c : Nat) (w : Str) :
    LitLang (xs ++ [c]) w ↔ ∃ a b, w = a ++ b ∧ LitLang xs a ∧ CharLang c b :=
  cat_snoc CharLang LitLang (fun _ => Iff.rfl) (fun _ _ _ => Iff.rfl) xs c w
/-- the backward word matcher decides the word's language at the end of the text -/
theorem matchLitRev_iff (cs r r' : Str) :
    matchLitRev cs r = some r' ↔ ∃ w, LitLang cs.reverse w ∧ r = w.reverse ++ r' := by
  induction cs generalizing r with
  | nil =>
    simp only [matchLitRev, List.reverse_nil, LitLang]
    constructor
    · intro h; cases h; exact ⟨[], rfl, rfl⟩
    · rintro ⟨w, rfl, rfl⟩; rfl
  | cons c cs ih =>
    simp only [matchLitRev, List.reverse_cons]
    constructor
    · intro h
      split at h
      · rename_i r1 h1
        obtain ⟨b, hb, rfl⟩ := (matchCharRev_iff c r r1).mp h1
        obtain ⟨a, ha, rfl⟩ := (ih r1).mp h
        exact ⟨a ++ b, (litLang_snoc _ _ _).mpr ⟨a, b, rfl, ha, hb⟩, by simp⟩
      · cases h
    · rintro ⟨w, hw, rfl⟩
      obtain ⟨a, b, rfl, ha, hb⟩ := (litLang_snoc _ _ _).mp hw
      have h1 : matchCharRev c ((a ++ b).reverse ++ r') = some (a.reverse ++ r') :=
        (matchCharRev_iff c _ _).mpr ⟨b, hb, by simp⟩
      rw [h1]
      exact (ih _).mpr ⟨a, ha, rfl⟩

theorem lang_snoc (ts : List Tok) (t : Tok) (w : Str) :
    Lang (ts ++ [t]) w ↔ ∃ a b, w = a ++ b ∧ Lang ts a ∧ TokLang t b :=
  cat_snoc TokLang Lang (fun _ => Iff.rfl) (fun _ _ _ => Iff.rfl) ts t w

theorem matchGapRev_sound (r r' : Str) (h : matchGapRev r = some r') : ∃ g, GapLang g ∧ r = g.reverse ++ r' := by
  cases r with
  | nil => cases h
  | cons b rest =>
    simp only [matchGapRev] at h
    split at h
    · rename_i hb
      cases h
      refine ⟨(b :: rest.takeWhile reSpace).reverse, ⟨by simp, ?_⟩, by simp⟩
      intro x hx
      simp only [List.mem_reverse, List.mem_cons] at hx
      rcases hx with rfl | hx
      · exact hb
      · exact List.mem_takeWhile_imp hx
    · cases h

/-- **soundness**: when the backward matcher accepts, a word of the phrase's language ends the text -/
theorem matchRev_sound (ts : List Tok) (r : Str) (h : matchRev ts r = true) :
    ∃ w rest, Lang ts.reverse w ∧ r = w.reverse ++ rest := by
  induction ts generalizing r with
  | nil => exact ⟨[], r, rfl, rfl⟩
  | cons t ts ih =>
    cases t with
    | lit l =>
      simp only [matchRev] at h
      split at h
      · rename_i r1 h1
        obtain ⟨b, hb, rfl⟩ := (matchLitRev_iff _ _ _).mp h1
        rw [List.reverse_reverse] at hb
        obtain ⟨a, rest, ha, rfl⟩ := ih r1 h
        exact ⟨a ++ b, rest, by rw [List.reverse_cons]; exact (lang_snoc _ _ _).mpr ⟨a, b, rfl, ha, hb⟩, by simp⟩
      · cases h
    | gap =>
      simp only [matchRev] at h
      split at h
      · rename_i r1 h1
        obtain ⟨g, hg, rfl⟩ := matchGapRev_sound _ _ h1
        obtain ⟨a, rest, ha, rfl⟩ := ih r1 h
        exact ⟨a ++ g, rest, by rw [List.reverse_cons]; exact (lang_snoc _ _ _).mpr ⟨a, g, rfl, ha, hg⟩, by simp⟩
      · cases h

/-- a pattern character none of whose spellings ends in regexp white space -/
def solidChar (c : Nat) : Bool := !reSpace c && !reSpace (c - 32)

/-- reversed token list in which every `\s+` is followed by a non-empty word whose last
character is solid: then taking all white space greedily loses no match -/
def WF : List Tok → Bool
  | [] => true
  | .lit _ :: ts => WF ts
  | .gap :: [] => false
  | .gap :: .lit l :: ts => (match l.getLast? with | some c => solidChar c | none => false) && WF (.lit l :: ts)
  | .gap :: .gap :: _ => false

theorem charLang_last_solid (c : Nat) (w : Str) (hc : solidChar c = true) (hw : CharLang c w) :
    ∃ x pre, w = pre ++ [x] ∧ reSpace x = false := by
  simp only [solidChar, Bool.and_eq_true, Bool.not_eq_true'] at hc
  rcases hw with rfl | ⟨_, _, rfl⟩ | ⟨_, rfl⟩
  · exact ⟨c, [], rfl, hc.1⟩
  · exact ⟨c - 32, [], rfl, hc.2⟩
  · exact ⟨0xBF, [0xC5], rfl, by decide⟩

theorem litLang_last_solid (l : Str) (c : Nat) (hl : l.getLast? = some c) (hc : solidChar c = true) (w : Str)
    (hw : LitLang l w) : ∃ x pre, w = pre ++ [x] ∧ reSpace x = false := by
  obtain ⟨xs, rfl⟩ : ∃ xs, l = xs ++ [c] := by
    rcases List.eq_nil_or_concat l with rfl | ⟨xs, y, rfl⟩
    · cases hl
    · simp at hl; subst hl; exact ⟨xs, by simp⟩
  obtain ⟨a, b, rfl, _, hb⟩ := (litLang_snoc _ _ _).mp hw
  obtain ⟨x, pre, rfl, hx⟩ := charLang_last_solid c b hc hb
  exact ⟨x, a ++ pre, by simp, hx⟩

theorem matchGapRev_complete (g : Str) (hg : GapLang g) (tail : Str) (ht : ∀ x rest, tail = x :: rest → reSpace x = false) :
    matchGapRev (g.reverse ++ tail) = some tail := by
  obtain ⟨hne, hall⟩ := hg
  obtain ⟨b, g', hg'⟩ : ∃ b g', g.reverse = b :: g' := by
    cases h : g.reverse with
    | nil => exact absurd (List.reverse_eq_nil_iff.mp h) hne
    | cons b g' => exact ⟨b, g', rfl⟩
  have hb : reSpace b = true := hall b (by rw [← List.mem_reverse, hg']; exact List.mem_cons_self ..)
  have hg'all : ∀ x ∈ g', reSpace x = true := fun x hx =>
    hall x (by rw [← List.mem_reverse, hg']; exact List.mem_cons_of_mem _ hx)
  rw [hg']
  simp only [List.cons_append, matchGapRev, hb, if_true]
  congr 1
  cases tail with
  | nil => rw [List.append_nil]; exact List.dropWhile_eq_nil hg'all
  | cons x rest => exact List.dropWhile_append_cons_of_neg hg'all (ht x rest rfl)

/-- **completeness**: when a word of the phrase's language ends the text, the backward matcher accepts -/
theorem matchRev_complete (ts : List Tok) (hwf : WF ts = true) (w rest : Str) (hw : Lang ts.reverse w) :
    matchRev ts (w.reverse ++ rest) = true := by
  induction ts generalizing w rest with
  | nil => rfl
  | cons t ts ih =>
    rw [List.reverse_cons] at hw
    obtain ⟨a, b, rfl, ha, hb⟩ := (lang_snoc _ _ _).mp hw
    cases t with
    | lit l =>
      simp only [TokLang] at hb
      have hwf' : WF ts = true := by simpa [WF] using hwf
      have h1 : matchLitRev l.reverse ((a ++ b).reverse ++ rest) = some (a.reverse ++ rest) :=
        (matchLitRev_iff _ _ _).mpr ⟨b, by rw [List.reverse_reverse]; exact hb, by simp⟩
      simp only [matchRev, h1]
      exact ih hwf' a rest ha
    | gap =>
      simp only [TokLang] at hb
      have htail : ∀ x r0, a.reverse ++ rest = x :: r0 → reSpace x = false := by
        cases ts with
        | nil => simp [WF] at hwf
        | cons t2 ts2 =>
          cases t2 with
          | gap => simp [WF] at hwf
          | lit l =>
            simp only [WF, Bool.and_eq_true] at hwf
            rw [List.reverse_cons] at ha
            obtain ⟨a1, b1, rfl, _, hb1⟩ := (lang_snoc _ _ _).mp ha
            simp only [TokLang] at hb1
            cases hl : l.getLast? with
            | none => rw [hl] at hwf; simp at hwf
            | some c =>
              rw [hl] at hwf
              obtain ⟨x0, pre, rfl, hx0⟩ := litLang_last_solid l c hl hwf.1 b1 hb1
              intro x r0 e
              simp at e
              rw [← e.1]; exact hx0
      have hwf' : WF ts = true := by
        cases ts with
        | nil => simp [WF] at hwf
        | cons t2 ts2 =>
          cases t2 with
          | gap => simp [WF] at hwf
          | lit l => simp only [WF, Bool.and_eq_true] at hwf; exact hwf.2
      have h1 : matchGapRev ((a ++ b).reverse ++ rest) = some (a.reverse ++ rest) := by
        rw [List.reverse_append, List.append_assoc]
        exact matchGapRev_complete b hb _ htail
      simp only [matchRev, h1]
      exact ih hwf' a rest ha

/-- **the backward matcher decides the phrase's language at the end of the text** (well-formed phrases) -/
theorem matchRev_iff (ts : List Tok) (hwf : WF ts = true) (r : Str) :
    matchRev ts r = true ↔ ∃ pre w, r.reverse = pre ++ w ∧ Lang ts.reverse w := by
  constructor
  · intro h
    obtain ⟨w, rest, hw, rfl⟩ := matchRev_sound ts r h
    exact ⟨rest.reverse, w, by simp, hw⟩
  · rintro ⟨pre, w, e, hw⟩
    obtain rfl : r = w.reverse ++ pre.reverse := by
      rw [← List.reverse_append, ← e, List.reverse_reverse]
    exact matchRev_complete ts hwf w pre.reverse hw

/-- A word is in the language of a pattern word iff the backward word matcher consumes it entirely:
this decides `LitLang` on concrete words. -/
theorem litLang_iff_match (cs w : Str) : LitLang cs w ↔ matchLitRev cs.reverse w.reverse = some [] := by
  rw [matchLitRev_iff, List.reverse_reverse]
  constructor
  · intro h; exact ⟨w, h, (List.append_nil _).symm⟩
  · rintro ⟨w', h, e⟩
    rw [List.append_nil] at e
    rwa [List.reverse_inj.mp e]

/-- The phrases as code points. Nearly all the work of evaluating `isListIntro` on a concrete text in
the kernel is turning the string literals of `phrases` into lists; it is done here once. -/
theorem phrases_eq : phrases =
    [ [.lit [116, 104, 101], .gap, .lit [102, 111, 108, 108, 111, 119, 105, 110, 103]],
      [.lit [104, 101, 114, 101], .gap, .lit [97, 114, 101]],
      [.lit [116, 104, 101, 115, 101], .gap, .lit [97, 114, 101]],
      [.lit [116, 104, 101, 115, 101], .gap, .lit [105, 110, 99, 108, 117, 100, 101]],
      [.lit [98, 101, 108, 111, 119], .gap, .lit [97, 114, 101]],
      [.lit [98, 101, 108, 111, 119], .gap, .lit [105, 115]],
      [.lit [97, 115], .gap, .lit [102, 111, 108, 108, 111, 119, 115]],
      [.lit [115, 116, 101, 112]], [.lit [115, 116, 101, 112, 115]],
      [.lit [102, 101, 97, 116, 117, 114, 101]], [.lit [102, 101, 97, 116, 117, 114, 101, 115]],
      [.lit [105, 116, 101, 109]], [.lit [105, 116, 101, 109, 115]],
      [.lit [112, 111, 105, 110, 116]], [.lit [112, 111, 105, 110, 116, 115]],
      [.lit [114, 101, 97, 115, 111, 110]], [.lit [114, 101, 97, 115, 111, 110, 115]],
      [.lit [98, 101, 110, 101, 102, 105, 116]], [.lit [98, 101, 110, 101, 102, 105, 116, 115]],
      [.lit [97, 100, 118, 97, 110, 116, 97, 103, 101]], [.lit [97, 100, 118, 97, 110, 116, 97, 103, 101, 115]],
      [.lit [111, 112, 116, 105, 111, 110]], [.lit [111, 112, 116, 105, 111, 110, 115]],
      [.lit [101, 120, 97, 109, 112, 108, 101]], [.lit [101, 120, 97, 109, 112, 108, 101, 115]],
      [.lit [105, 110, 99, 108, 117, 100, 101]], [.lit [105, 110, 99, 108, 117, 100, 101, 115]],
      [.lit [105, 110, 99, 108, 117, 100, 105, 110, 103]],
      [.lit [115, 117, 99, 104], .gap, .lit [97, 115]],
      [.lit [102, 111, 114], .gap, .lit [101, 120, 97, 109, 112, 108, 101]],
      [.lit [101, 46, 103, 46]], [.lit [105, 46, 101, 46]] ] := by decide +kernel

end Tabula.ChunkIntro
