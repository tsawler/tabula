import TabulaModel.Model.MapOrder
/-!
Insertion sort, once for every element type, order and spelling: the models write `sort.Ints`,
`sort.Strings`, `sort.Slice`, `sort.SliceStable` as an `ins` that puts `x` in front of the first
`y` with `c x y` and a `sort` that inserts the head into the sorted tail.  A pair of functions that
satisfies these recursion equations is a sort in the sense of `IsSort le`, provided `c x y` puts `x`
before `y` only when `le x y`, and leaves `x` behind `y` only when `le y x` (for `c = le` that is
totality; for a strict `c` take `le x y := !c y x`).
-/
namespace Tabula.MapOrder

variable {α : Type} {c : α → α → Prop} [DecidableRel c] {ins : α → List α → List α} {le : α → α → Bool}
  {sort : List α → List α}
  (trans : ∀ x y z, le x y = true → le y z = true → le x z = true)
  (before : ∀ x y, c x y → le x y = true) (after : ∀ x y, ¬ c x y → le y x = true)
  (ins_nil : ∀ x, ins x [] = [x])
  (ins_cons : ∀ x y ys, ins x (y :: ys) = if c x y then x :: y :: ys else y :: ins x ys)
include ins_nil ins_cons

theorem insertion_perm (x : α) (l : List α) : (ins x l).Perm (x :: l) := by
  induction l with
  | nil => rw [ins_nil]
  | cons y ys ih =>
    rw [ins_cons]
    split
    · exact List.Perm.refl _
    · exact (List.Perm.cons y ih).trans (List.Perm.swap x y ys)

include trans before after

theorem insertion_sorted (x : α) (l : List α) (h : l.Pairwise (fun a b => le a b = true)) :
    (ins x l).Pairwise (fun a b => le a b = true) := by
  induction l with
  | nil => rw [ins_nil]; exact List.pairwise_singleton _ _
  | cons y ys ih =>
    obtain ⟨hy, hys⟩ := List.pairwise_cons.mp h
    rw [ins_cons]
    split
    · next hxy =>
      refine List.pairwise_cons.mpr ⟨fun b hb => ?_, h⟩
      rcases List.mem_cons.mp hb with rfl | hb
      · exact before _ _ hxy
      · exact trans _ _ _ (before _ _ hxy) (hy b hb)
    · next hxy =>
      refine List.pairwise_cons.mpr ⟨fun b hb => ?_, ih hys⟩
      rcases List.mem_cons.mp ((insertion_perm ins_nil ins_cons x ys).subset hb) with rfl | hb
      · exact after _ _ hxy
      · exact hy b hb

theorem isSort_of_insertion (sort_nil : sort [] = [])
    (sort_cons : ∀ x xs, sort (x :: xs) = ins x (sort xs)) : IsSort le sort where
  perm l := by
    induction l with
    | nil => rw [sort_nil]
    | cons x xs ih => rw [sort_cons]; exact (insertion_perm ins_nil ins_cons x _).trans (List.Perm.cons x ih)
  sorted l := by
    induction l with
    | nil => rw [sort_nil]; exact List.Pairwise.nil
    | cons x xs ih => rw [sort_cons]; exact insertion_sorted trans before after ins_nil ins_cons x _ ih

end Tabula.MapOrder
