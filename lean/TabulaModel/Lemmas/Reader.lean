import TabulaModel.Model.Reader
import TabulaModel.Lemmas.Xref
/-!
The object layer of the end-to-end reader model (`Reader.getObject` and what it calls, Model/Reader.lean):
the fuel bound is a function of the set of numbers that have an entry; `getObject` is a function of the
newest entries and of the objects at the offsets they name; it answers for no number above the largest
key and fails with tabula's error only. Last, what the layers above make of a resolver's errors (`FromRes`).
-/
namespace Tabula.Reader
open Tabula.Xref (getLast)

/-- a dictionary is read by core's `List.lookup` -/
theorem dget_eq_lookup (kv : Dict) (k : Str) : dget kv k = kv.lookup k := by
  induction kv with
  | nil => rfl
  | cons p r ih =>
    obtain ⟨k', v⟩ := p
    rw [dget, List.lookup_cons, ih]
    by_cases h : k' = k
    · rw [if_pos h, h, beq_self_eq_true]
    · rw [if_neg h, beq_false_of_ne (Ne.symm h)]

theorem mem_keys_iff {α : Type} (l : List (Nat × α)) (n : Nat) :
    n ∈ l.map Prod.fst ↔ (getLast l n).isSome = true := by
  simp only [Xref.getLast_eq_lookup, List.lookup_isSome_iff, List.mem_reverse, List.mem_map, beq_iff_eq]
  constructor <;> rintro ⟨p, hp, e⟩ <;> exact ⟨p, hp, e.symm⟩

/-- the fuel bound's key is core's maximum of the numbers that have an entry (0 for the empty table) -/
theorem maxKey_eq_max? (l : Xref.Section) : maxKey l = ((l.map Prod.fst).max?).getD 0 := by
  induction l with
  | nil => rfl
  | cons kv l ih =>
    rw [maxKey, ih, List.map_cons, List.max?_cons]
    cases (l.map Prod.fst).max? <;> simp

theorem le_maxKey (l : Xref.Section) (n : Nat) (h : n ∈ l.map Prod.fst) : n ≤ maxKey l := by
  rw [maxKey_eq_max?]
  cases hm : (l.map Prod.fst).max? with
  | none => rw [List.max?_eq_none_iff.mp hm] at h; cases h
  | some a => exact (List.max?_eq_some_iff.mp hm).2 n h

theorem maxKey_mem (l : Xref.Section) (h : maxKey l ≠ 0) : maxKey l ∈ l.map Prod.fst := by
  rw [maxKey_eq_max?] at h ⊢
  cases hm : (l.map Prod.fst).max? with
  | none => rw [hm] at h; exact absurd rfl h
  | some a => exact (List.max?_eq_some_iff.mp hm).1

theorem maxKey_le_of_keys (l l' : Xref.Section)
    (h : ∀ n, (getLast l n).isSome = true → (getLast l' n).isSome = true) : maxKey l ≤ maxKey l' := by
  by_cases h0 : maxKey l = 0
  · omega
  · have := maxKey_mem l h0
    have := h _ ((mem_keys_iff l _).mp this)
    exact le_maxKey l' _ ((mem_keys_iff l' _).mpr this)

/-- the fuel bound depends only on which numbers have an entry -/
theorem maxKey_congr (l l' : Xref.Section) (h : ∀ n, (getLast l n).isSome = (getLast l' n).isSome) :
    maxKey l = maxKey l' :=
  Nat.le_antisymm (maxKey_le_of_keys l l' fun n hn => by rw [← h n]; exact hn)
    (maxKey_le_of_keys l' l fun n hn => by rw [h n]; exact hn)

theorem fuelOf_congr (f f' : AbsFile) (h : ∀ n, (entry f n).isSome = (entry f' n).isSome) :
    fuelOf f = fuelOf f' := by
  unfold fuelOf
  rw [maxKey_congr (xref f) (xref f') h]

theorem objectAt_congr (f f' : AbsFile) (n off : Nat) (h : getLast f.objs off = getLast f'.objs off) :
    objectAt f n off = objectAt f' n off := by
  unfold objectAt
  rw [h]

theorem objStmAt_congr (f f' : AbsFile) (ext : Ext) (stm off : Nat)
    (h : getLast f.objs off = getLast f'.objs off) : objStmAt f ext stm off = objStmAt f' ext stm off := by
  unfold objStmAt
  rw [objectAt_congr f f' stm off h]

/-- the offsets a lookup of `n` may read an object from -/
def Names (f : AbsFile) (off : Nat) : Prop :=
  ∃ n, entry f n = some (.at off) ∨ entry f n = some (.free off)

/-- an object stream is loaded alike from two files that give its number the same entry and hold
the same object stream where that entry points -/
theorem loadObjStm_congr_at {f f' : AbsFile} {ext : Ext} {stm : Nat} (he : entry f stm = entry f' stm)
    (hs : ∀ off, entry f stm = some (.at off) ∨ entry f stm = some (.free off) →
      objStmAt f ext stm off = objStmAt f' ext stm off) :
    loadObjStm f ext stm = loadObjStm f' ext stm := by
  unfold loadObjStm
  rw [← he]
  cases h : entry f stm with
  | none => rfl
  | some e =>
    cases e with
    | free nx => exact hs nx (Or.inr h)
    | «at» off => exact hs off (Or.inl h)
    | inStm a b => rfl

/-- object `n` is the same in two files that give it the same entry and in which what the entry
points at (the object at an offset as the caller sees it, or the object stream) is the same -/
theorem getObject_congr_at {f f' : AbsFile} {ext : Ext} {n : Nat} (he : entry f n = entry f' n)
    (ha : ∀ off, entry f n = some (.at off) →
      (objectAt f n off).map (toSVal ext) = (objectAt f' n off).map (toSVal ext))
    (hl : ∀ stm idx, entry f n = some (.inStm stm idx) → loadObjStm f ext stm = loadObjStm f' ext stm) :
    getObject f ext n = getObject f' ext n := by
  unfold getObject
  rw [← he]
  cases h : entry f n with
  | none => rfl
  | some e =>
    cases e with
    | free nx => rfl
    | «at» off =>
      have := ha off h
      simp only
      cases h1 : objectAt f n off <;> cases h2 : objectAt f' n off <;> rw [h1, h2] at this <;> exact this
    | inStm stm idx => simp only [hl stm idx h]

theorem loadObjStm_congr (f f' : AbsFile) (ext : Ext) (he : ∀ n, entry f n = entry f' n)
    (ho : ∀ off, Names f off → getLast f.objs off = getLast f'.objs off) (stm : Nat) :
    loadObjStm f ext stm = loadObjStm f' ext stm :=
  loadObjStm_congr_at (he stm) fun off h => objStmAt_congr f f' ext stm off (ho off ⟨stm, h⟩)

theorem getObject_congr (f f' : AbsFile) (ext : Ext) (he : ∀ n, entry f n = entry f' n)
    (ho : ∀ off, Names f off → getLast f.objs off = getLast f'.objs off) (n : Nat) :
    getObject f ext n = getObject f' ext n :=
  getObject_congr_at (he n) (fun off h => by rw [objectAt_congr f f' n off (ho off ⟨n, Or.inl h⟩)])
    fun stm _ _ => loadObjStm_congr f f' ext he ho stm

/-- the reader is a function of: the object lookup, the fuel bound, the root, and whether the
file is inside the modelled fragment (the fuel bound can be left out: `readPages_objects`,
Lemmas/ReaderFuel.lean) -/
theorem readPages_congr (f f' : AbsFile) (ext : Ext) (hobj : ∀ n, getObject f ext n = getObject f' ext n)
    (hfuel : fuelOf f = fuelOf f') (hroot : rootOf f = rootOf f') (hd : prevDangling f = prevDangling f') :
    readPages f ext = readPages f' ext := by
  unfold readPages
  have : getObject f ext = getObject f' ext := funext hobj
  rw [this, hfuel, hroot, hd]

theorem isSome_of_getObject_congr (f f' : AbsFile) (he : ∀ n, entry f n = entry f' n) :
    ∀ n, (entry f n).isSome = (entry f' n).isSome := fun n => by rw [he n]

theorem newest_append (a b : List Xref.Section) (n : Nat) :
    Xref.newest (a ++ b) n = (Xref.newest b n).or (Xref.newest a n) := by
  simp only [← Xref.getLast_flatten, List.flatten_append, Xref.getLast_append]

theorem getObject_ok_le (f : AbsFile) (ext : Ext) (n : Nat) (v : SVal) (h : getObject f ext n = .ok v) :
    n ≤ maxKey (xref f) := by
  apply le_maxKey
  rw [mem_keys_iff]
  unfold getObject at h
  cases he : entry f n with
  | none => rw [he] at h; cases h
  | some e => unfold entry at he; rw [he]; rfl

theorem parseBody_err (b : RawBody) (e : Err) (h : parseBody b = .error e) : e = .err := by
  cases b with
  | plain body =>
    simp only [parseBody] at h
    split at h <;> cases h
    rfl
  | stream d data =>
    simp only [parseBody] at h
    split at h <;> cases h
    rfl

theorem objectAt_err (f : AbsFile) (n off : Nat) (e : Err) (h : objectAt f n off = .error e) : e = .err := by
  unfold objectAt at h
  split at h
  · cases h; rfl
  · split at h
    · exact parseBody_err _ e h
    · cases h; rfl

theorem mkObjStm_err (ext : Ext) (kv : Dict) (data : Str) (e : Err) (h : mkObjStm ext kv data = .error e) :
    e = .err := by
  unfold mkObjStm at h
  repeat' split at h
  all_goals first
    | (cases h; done)
    | (cases h; rfl)

theorem loadObjStm_err (f : AbsFile) (ext : Ext) (stm : Nat) (e : Err) (h : loadObjStm f ext stm = .error e) :
    e = .err := by
  have hat : ∀ off, objStmAt f ext stm off = .error e → e = .err := by
    intro off h
    unfold objStmAt at h
    split at h
    · exact mkObjStm_err ext _ _ e h
    · cases h; rfl
  unfold loadObjStm at h
  split at h
  · cases h; rfl
  · cases h; rfl
  · exact hat _ h
  · exact hat _ h

/-- `GetObject` fails with an error of tabula's, never with one of the model's own -/
theorem getObject_err (f : AbsFile) (ext : Ext) (n : Nat) (e : Err) (h : getObject f ext n = .error e) :
    e = .err := by
  unfold getObject at h
  split at h
  · cases h; rfl
  · cases h; rfl
  · split at h
    · cases h
    · next e' he => cases h; exact objectAt_err f n _ e he
  · split at h
    · next e' he => cases h; exact loadObjStm_err f ext _ e he
    · next os _ =>
      split at h
      · cases h
      · next e' he =>
        cases h
        unfold memberAt at he
        repeat' split at he
        all_goals first
          | (cases he; done)
          | (cases he; rfl)

/-- where an error that the reader passes on comes from: it is tabula's own, the model's `unsupported`,
or what the resolver answered for some number -/
def FromRes (res : Res) (e : Err) : Prop := e = .err ∨ e = .unsupported ∨ ∃ n, res n = .error e

theorem FromRes.of_res {res : Res} {n : Nat} {e : Err} (h : res n = .error e) : FromRes res e :=
  Or.inr (Or.inr ⟨n, h⟩)

theorem resolve_error {res : Res} {o : Pdf.Obj} {e : Err} (h : resolve res o = .error e) : FromRes res e := by
  cases o with
  | ref n g =>
    rw [resolve] at h
    split at h
    · cases h; exact Or.inl rfl
    · exact .of_res h
  | _ => cases h

end Tabula.Reader
