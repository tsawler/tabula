import TabulaModel.Model.Html
/-!
Locality of the specification `atoms` (Model/Html.lean; for Props/C19.lean): siblings contribute
consecutive segments, the inline children of a block container extend its pending run, and two
predicates that decide alike at every element of a subtree (`agree`) give the same atoms.
-/
namespace Tabula.Html

theorem forall_mem_snoc {α} {P : α → Prop} {l : List α} {a : α} (hl : ∀ x ∈ l, P x) (ha : P a) :
    ∀ x ∈ l ++ [a], P x := fun x hx =>
  (List.mem_append.1 hx).elim (hl x) fun h => List.mem_singleton.1 h ▸ ha

/-! ### locality: siblings contribute independent, consecutive segments -/

theorem atomsL_append (p : Pos → Dom → Bool) (w : Bool) (kp : Pos) (lc : LC) (a b : List Dom) :
    atomsL p w kp lc (a ++ b) = atomsL p w kp lc a ++ atomsL p w kp lc b := by
  induction a with
  | nil => simp [atomsL]
  | cons k ks ih => simp [atomsL, ih, List.append_assoc]

theorem atomsLi_append (p : Pos → Dom → Bool) (w : Bool) (kp : Pos) (lc : LC) (a b : List Dom) :
    atomsLi p w kp lc (a ++ b) = atomsLi p w kp lc a ++ atomsLi p w kp lc b := by
  induction a with
  | nil => simp [atomsLi]
  | cons k ks ih => simp [atomsLi, ih, List.append_assoc]

/-- the children of a block container, read by runs: inline children `a` extend the pending run -/
theorem atomsM_inline (p : Pos → Dom → Bool) (w : Bool) (kp : Pos) (lc : LC) :
    ∀ (a rest : List Dom) (run : Str), isInlineL a = true →
      atomsM p w kp lc (a ++ rest) run = atomsM p w kp lc rest (run ++ textRecL a)
  | [], rest, run, _ => by simp [textRecL]
  | k :: ks, rest, run, h => by
      have h' : isInline k = true ∧ isInlineL ks = true := by simpa [isInlineL] using h
      simp only [List.cons_append, atomsM, h'.1, if_true]
      rw [atomsM_inline p w kp lc ks rest _ h'.2]
      simp [textRecL, List.append_assoc]

/-- … and a child that is not inline ends the run: the run's paragraph, the child's atoms, then the
rest with a fresh run -/
theorem atomsM_block (p : Pos → Dom → Bool) (w : Bool) (kp : Pos) (lc : LC) (k : Dom) (rest : List Dom)
    (run : Str) (hk : isInline k = false) :
    atomsM p w kp lc (k :: rest) run = runAtoms run ++ atoms p w kp lc k ++ atomsM p w kp lc rest [] := by
  simp [atomsM, hk]

theorem textRecL_append (a b : List Dom) : textRecL (a ++ b) = textRecL a ++ textRecL b := by
  induction a with
  | nil => simp [textRecL]
  | cons k ks ih => simp [textRecL, ih, List.append_assoc]

/-! ### two predicates that take the same decision at every node of a subtree -/

mutual
/-- `p` and `q` decide alike at every element of the subtree (at the position it has there) -/
def agree (p q : Pos → Dom → Bool) (w : Bool) (pos : Pos) : Dom → Prop
  | .text _ => True
  | .other kids => agreeL p q w (pos.kid w []) kids
  | .elem tag attrs kids => p pos (.elem tag attrs kids) = q pos (.elem tag attrs kids) ∧ agreeL p q w (pos.kid w tag) kids
def agreeL (p q : Pos → Dom → Bool) (w : Bool) (kp : Pos) : List Dom → Prop
  | [] => True
  | k :: ks => agree p q w kp k ∧ agreeL p q w kp ks
end

mutual
theorem atoms_agree (p q : Pos → Dom → Bool) (w : Bool) :
    ∀ (t : Dom) (pos : Pos) (lc : LC), agree p q w pos t → atoms q w pos lc t = atoms p w pos lc t
  | .text _, pos, lc, _ => by simp [atoms]
  | .other kids, pos, lc, h => by
      simp only [atoms]
      exact atomsL_agree p q w kids _ lc (by simpa [agree] using h)
  | .elem tag attrs kids, pos, lc, h => by
      have h' : p pos (.elem tag attrs kids) = q pos (.elem tag attrs kids) ∧ agreeL p q w (pos.kid w tag) kids := by
        simpa [agree] using h
      unfold atoms
      rw [h'.1]
      by_cases hs : isSkip tag = true
      · simp [hs]
      · by_cases hq : q pos (.elem tag attrs kids) = true
        · simp [hs, hq]
        · simp only [hs, hq, if_false, Bool.false_eq_true]
          cases classify tag with
          | pdiv isP =>
            simp only []
            split
            · rfl
            · exact atomsM_agree p q w kids _ lc [] h'.2
          | list ord => exact atomsL_agree p q w kids _ _ h'.2
          | li => simp only []; rw [atomsLi_agree p q w kids _ _ h'.2]
          | other => exact atomsL_agree p q w kids _ lc h'.2
          | _ => rfl
theorem atomsL_agree (p q : Pos → Dom → Bool) (w : Bool) :
    ∀ (ts : List Dom) (kp : Pos) (lc : LC), agreeL p q w kp ts → atomsL q w kp lc ts = atomsL p w kp lc ts
  | [], kp, lc, _ => by simp [atomsL]
  | k :: ks, kp, lc, h => by
      have h' : agree p q w kp k ∧ agreeL p q w kp ks := by simpa [agreeL] using h
      simp only [atomsL]
      rw [atoms_agree p q w k kp lc h'.1, atomsL_agree p q w ks kp lc h'.2]
theorem atomsLi_agree (p q : Pos → Dom → Bool) (w : Bool) :
    ∀ (ts : List Dom) (kp : Pos) (lc : LC), agreeL p q w kp ts → atomsLi q w kp lc ts = atomsLi p w kp lc ts
  | [], kp, lc, _ => by simp [atomsLi]
  | k :: ks, kp, lc, h => by
      have h' : agree p q w kp k ∧ agreeL p q w kp ks := by simpa [agreeL] using h
      simp only [atomsLi]
      rw [atoms_agree p q w k kp lc h'.1, atomsLi_agree p q w ks kp lc h'.2]
theorem atomsM_agree (p q : Pos → Dom → Bool) (w : Bool) :
    ∀ (ts : List Dom) (kp : Pos) (lc : LC) (run : Str), agreeL p q w kp ts → atomsM q w kp lc ts run = atomsM p w kp lc ts run
  | [], kp, lc, run, _ => by simp [atomsM]
  | k :: ks, kp, lc, run, h => by
      have h' : agree p q w kp k ∧ agreeL p q w kp ks := by simpa [agreeL] using h
      simp only [atomsM]
      rw [atoms_agree p q w k kp lc h'.1, atomsM_agree p q w ks kp lc _ h'.2, atomsM_agree p q w ks kp lc [] h'.2]
end

end Tabula.Html
