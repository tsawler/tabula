import TabulaModel.Model.GState
import TabulaModel.Lemmas.Matrix
/-!
Helper lemmas about the operator loop of the text extractor (`Model/GState.lean`):

* `Save`/`Restore`, `formEnter`/`formExit`, `AdvanceText`;
* what a show or a `TJ` array leaves of a state (`SameLine`), `TJ` arrays concatenate;
* every operator but `q`, `Q`, `cm` edits the text state and then shows an array (`Op.view`);
* the equations of `exec`, `runForm` and `step`, sequencing (`exec_append`, `runForm_append`);
* balanced programs run without error and leave the graphics-state stack as they found it
  (`balanced_exec`); `q body Q` (`exec_qQ`);
* `Do`-free programs (`FormFree`).
-/
namespace Tabula.GState
open Tabula

section
variable {α : Type}

/-- an operator that is neither `q`, `Q` nor `Do` -/
def Op.plain : Op α → Bool
  | .q | .Q | .form _ _ => false
  | _ => true

theorem plain_not_form {op : Op α} (h : op.plain = true) : ∀ m b, op ≠ Op.form m b := by
  intro m b hc; subst hc; cases h

/-- balanced programs: every `Q` closes a `q` of the same program (or of the same form's
content stream), to any depth -/
inductive Balanced : List (Op α) → Prop where
  | nil : Balanced []
  | plain (op : Op α) (rest : List (Op α)) : op.plain = true → Balanced rest → Balanced (op :: rest)
  | qQ (body rest : List (Op α)) : Balanced body → Balanced rest →
      Balanced (Op.q :: (body ++ Op.Q :: rest))
  | form (m : Option (Matrix α)) (body rest : List (Op α)) : Balanced body → Balanced rest →
      Balanced (Op.form m body :: rest)

theorem mapText_stack (s : State α) (f : TextState α → TextState α) :
    (s.mapText f).stack = s.stack ∧ (s.mapText f).xdepth = s.xdepth ∧ (s.mapText f).cur.ctm = s.cur.ctm :=
  ⟨rfl, rfl, rfl⟩

theorem restore_cons {s : State α} {f : Frame α} {st : List (Frame α)} (h : s.stack = f :: st) :
    s.restore = some { s with cur := f, stack := st } := by
  obtain ⟨c, st', d⟩ := s
  cases h; rfl

/-- `Restore` gives back the state that was saved when stack and depth are what `Save` left -/
theorem restore_save {s s1 : State α} (hst : s1.stack = s.cur :: s.stack) (hd : s1.xdepth = s.xdepth) :
    s1.restore = some s := by
  obtain ⟨c, st, d⟩ := s1
  cases hst; cases hd; rfl

theorem formExit_xdepth (s : State α) : (formExit s).xdepth = s.xdepth - 1 := by
  obtain ⟨c, st, d⟩ := s
  cases st <;> rfl

/-- what a show or a `TJ` number leaves of a state: everything but the text matrix and
the ghost flag -/
def SameLine (s s' : State α) : Prop :=
  s' = s.mapText fun t => { t with tm := s'.cur.text.tm, dirty := s'.cur.text.dirty }

theorem SameLine.refl (s : State α) : SameLine s s := by
  cases s with | mk c st d =>
  cases c with | mk ctm t =>
  cases t
  rfl

theorem SameLine.trans {a b c : State α} (h1 : SameLine a b) (h2 : SameLine b c) : SameLine a c := by
  unfold SameLine at *
  rw [h2]
  conv => lhs; rw [h1]
  simp [State.mapText]

theorem SameLine.frame {s s' : State α} (h : SameLine s s') :
    s'.stack = s.stack ∧ s'.xdepth = s.xdepth ∧ s'.cur.ctm = s.cur.ctm := by
  unfold SameLine at h
  rw [h]
  exact mapText_stack s _

end

section
variable {α : Type} [Lean.Grind.CommRing α]

/-- **`AdvanceText` pre-multiplies**: `Tm := T(tx,0) × Tm` -/
theorem advanceText_tm (s : State α) (tx : α) :
    (s.advanceText tx).cur.text.tm = (Matrix.translate tx 0).mul s.cur.text.tm := by
  simp only [State.advanceText, State.mapText, Matrix.mul, Matrix.translate, Matrix.mk.injEq]
  refine ⟨?_, ?_, ?_, ?_, ?_, ?_⟩ <;> grind

theorem formEnter_stack (m : Option (Matrix α)) (s : State α) : (formEnter m s).stack = s.cur :: s.stack := by
  cases m <;> rfl

theorem formEnter_xdepth (m : Option (Matrix α)) (s : State α) : (formEnter m s).xdepth = s.xdepth + 1 := by
  cases m <;> rfl

/-- entering and leaving a form around a computation that preserves stack and depth gives
back the frame, the stack and the depth -/
theorem formExit_formEnter (m : Option (Matrix α)) (s s1 : State α)
    (hst : s1.stack = (formEnter m s).stack) (hd : s1.xdepth = (formEnter m s).xdepth) :
    formExit s1 = s := by
  rw [formEnter_stack] at hst; rw [formEnter_xdepth] at hd
  obtain ⟨c, st, d⟩ := s1
  cases hst; cases hd; rfl

theorem sameLine_advanceText (s : State α) (tx : α) : SameLine s (s.advanceText tx) := by
  simp [SameLine, State.advanceText, State.mapText]

/-- `Td` on the text state -/
def tdText (tx ty : α) (t : TextState α) : TextState α :=
  { t with tm := (Matrix.translate tx ty).mul t.tlm, tlm := (Matrix.translate tx ty).mul t.tlm, dirty := false }

/-- the text state an operator leaves before it shows anything -/
def Op.textAfter : Op α → TextState α → TextState α
  | .BT, t => { t with tm := Matrix.identity, tlm := Matrix.identity, dirty := false }
  | .Tf size, t => { t with fontSize := size }
  | .Tm m, t => { t with tm := m, tlm := m, dirty := false }
  | .Td tx ty, t => tdText tx ty t
  | .TD tx ty, t => tdText tx ty { t with leading := -ty }
  | .Tstar, t => tdText 0 (-t.leading) t
  | .TL l, t => { t with leading := l }
  | .Tc c, t => { t with charSpacing := c }
  | .Tw w, t => { t with wordSpacing := w }
  | .Tz z, t => { t with hScaling := z }
  | .Ts r, t => { t with rise := r }
  | .quote _, t => tdText 0 (-t.leading) t
  | .dquote aw ac _, t => tdText 0 (-t.leading) { t with wordSpacing := aw, charSpacing := ac }
  | _, t => t

/-- what the operator then shows, as a `TJ` array -/
def Op.shown : Op α → List (TJItem α)
  | .Tj sid | .quote sid | .dquote _ _ sid => [.str sid]
  | .TJ items => items
  | _ => []

theorem textAfter_hScaling {op : Op α} (h : ∀ z, op ≠ .Tz z) (t : TextState α) :
    (op.textAfter t).hScaling = t.hScaling := by
  cases op <;> first | rfl | exact absurd rfl (h _)

end

variable {α : Type} [Lean.Grind.CommRing α] [DecidableEq α] [LT α] [DecidableLT α]

omit [DecidableEq α] in
/-- the size factor of the text matrix does not depend on its translation part -/
theorem tmScale2_linear (m : Matrix α) : tmScale2 m.linear = tmScale2 m := rfl

theorem sameLine_showText (adv : Adv α) (sid : Nat) (s : State α) : SameLine s (showText adv sid s).1 :=
  sameLine_advanceText s _

theorem sameLine_showTextArray (adv : Adv α) (items : List (TJItem α)) (s : State α) :
    SameLine s (showTextArray adv items s).1 := by
  induction items generalizing s with
  | nil => exact SameLine.refl s
  | cons it rest ih =>
    cases it with
    | str sid => exact (sameLine_showText adv sid s).trans (ih _)
    | num v => exact (sameLine_advanceText s _).trans (ih _)

/-- a `TJ` array touches neither the stack, the nesting depth nor the CTM -/
theorem showTextArray_frame (adv : Adv α) (items : List (TJItem α)) (s : State α) :
    (showTextArray adv items s).1.stack = s.stack ∧ (showTextArray adv items s).1.xdepth = s.xdepth ∧
      (showTextArray adv items s).1.cur.ctm = s.cur.ctm :=
  (sameLine_showTextArray adv items s).frame

theorem showTextArray_append (adv : Adv α) (a b : List (TJItem α)) (s : State α) :
    showTextArray adv (a ++ b) s =
      ((showTextArray adv b (showTextArray adv a s).1).1,
        (showTextArray adv a s).2 ++ (showTextArray adv b (showTextArray adv a s).1).2) := by
  induction a generalizing s with
  | nil => simp [showTextArray]
  | cons it rest ih =>
    cases it with
    | str sid => simp only [List.cons_append, showTextArray, ih, List.cons_append]
    | num v => simp only [List.cons_append, showTextArray, ih]

/-- an operator is `q`, `Q`, `cm`, or edits the text state and shows an array (empty for the
operators that show nothing, `Do` and `line` among them) -/
theorem Op.view (op : Op α) :
    op = .q ∨ op = .Q ∨ (∃ m, op = .cm m) ∨
      ∀ (adv : Adv α) (s : State α), stepBasic adv op s =
        ((showTextArray adv op.shown (s.mapText op.textAfter)).1,
          (showTextArray adv op.shown (s.mapText op.textAfter)).2, false) := by
  cases op with
  | q => exact .inl rfl
  | Q => exact .inr (.inl rfl)
  | cm m => exact .inr (.inr (.inl ⟨m, rfl⟩))
  | _ => exact .inr (.inr (.inr fun _ _ => rfl))

/-- a plain operator never fails and never touches the stack or the nesting depth -/
theorem stepBasic_plain (adv : Adv α) (op : Op α) (h : op.plain = true) (s : State α) :
    (stepBasic adv op s).2.2 = false ∧ (stepBasic adv op s).1.stack = s.stack ∧
      (stepBasic adv op s).1.xdepth = s.xdepth := by
  rcases op.view with rfl | rfl | ⟨m, rfl⟩ | hv
  · cases h
  · cases h
  · exact ⟨rfl, rfl, rfl⟩
  · rw [hv]
    exact ⟨rfl, (showTextArray_frame adv _ _).1, (showTextArray_frame adv _ _).2.1⟩

theorem stepBasic_xdepth (adv : Adv α) (op : Op α) (s : State α) :
    (stepBasic adv op s).1.xdepth = s.xdepth := by
  rcases op.view with rfl | rfl | ⟨m, rfl⟩ | hv
  · rfl
  · obtain ⟨c, st, d⟩ := s; cases st <;> rfl
  · rfl
  · rw [hv]; exact (showTextArray_frame adv _ _).2.1

theorem step_of_not_form (adv : Adv α) {op : Op α} (h : ∀ m b, op ≠ Op.form m b) (s : State α) :
    step adv op s = stepBasic adv op s := by
  unfold step
  split
  · exact absurd rfl (h _ _)
  · rfl

theorem exec_cons (adv : Adv α) (op : Op α) (rest : List (Op α)) (s : State α) :
    exec adv (op :: rest) s =
      if (step adv op s).2.2 then none
      else (exec adv rest (step adv op s).1).map fun r => (r.1, (step adv op s).2.1 ++ r.2) := by
  rw [exec]
  split
  · rfl
  · cases exec adv rest (step adv op s).1 <;> rfl

theorem exec_append (adv : Adv α) (a b : List (Op α)) (s : State α) :
    exec adv (a ++ b) s =
      match exec adv a s with
      | none => none
      | some r => match exec adv b r.1 with
        | none => none
        | some r2 => some (r2.1, r.2 ++ r2.2) := by
  induction a generalizing s with
  | nil =>
    simp only [List.nil_append, exec]
    cases exec adv b s <;> simp
  | cons op rest ih =>
    simp only [List.cons_append, exec]
    split
    · rfl
    · rw [ih]
      cases exec adv rest (step adv op s).1 with
      | none => rfl
      | some r =>
        simp only
        cases exec adv b r.1 with
        | none => rfl
        | some r2 => simp [List.append_assoc]

theorem exec_cons_some {adv : Adv α} {op : Op α} {rest : List (Op α)} {s s1 s2 : State α}
    {o1 o2 : List (Show α)} (h1 : step adv op s = (s1, o1, false)) (h2 : exec adv rest s1 = some (s2, o2)) :
    exec adv (op :: rest) s = some (s2, o1 ++ o2) := by
  rw [exec_cons, h1, if_neg Bool.false_ne_true, h2]; rfl

theorem exec_append_some {adv : Adv α} {a b : List (Op α)} {s s1 s2 : State α} {o1 o2 : List (Show α)}
    (h1 : exec adv a s = some (s1, o1)) (h2 : exec adv b s1 = some (s2, o2)) :
    exec adv (a ++ b) s = some (s2, o1 ++ o2) := by
  rw [exec_append, h1]; simp only; rw [h2]

theorem runForm_cons (adv : Adv α) {op : Op α} (h : ∀ m b, op ≠ Op.form m b) (rest : List (Op α))
    (s : State α) :
    runForm adv (op :: rest) s =
      ((runForm adv rest (stepBasic adv op s).1).1,
        (stepBasic adv op s).2.1 ++ (runForm adv rest (stepBasic adv op s).1).2) := by
  rw [runForm]
  exact h

theorem runForm_cons_form (adv : Adv α) (m : Option (Matrix α)) (body rest : List (Op α)) (s : State α) :
    runForm adv (.form m body :: rest) s =
      if s.xdepth ≥ maxXObjectDepth then runForm adv rest s
      else ((runForm adv rest (formExit (runForm adv body (formEnter m s)).1)).1,
        (runForm adv body (formEnter m s)).2
          ++ (runForm adv rest (formExit (runForm adv body (formEnter m s)).1)).2) := by
  simp only [runForm]

theorem runForm_append (adv : Adv α) (a b : List (Op α)) (s : State α) :
    runForm adv (a ++ b) s =
      ((runForm adv b (runForm adv a s).1).1, (runForm adv a s).2 ++ (runForm adv b (runForm adv a s).1).2) := by
  fun_induction runForm adv a s with
  | case1 s => rfl
  | case2 m body rest s hd ih =>
    rw [List.cons_append, runForm_cons_form, if_pos hd]
    exact ih
  | case3 m body rest s hd r r2 _ ih =>
    rw [List.cons_append, runForm_cons_form, if_neg hd, show runForm adv (rest ++ b) _ = _ from ih,
      List.append_assoc]
  | case4 op rest s hf r r2 ih =>
    rw [List.cons_append, runForm_cons adv hf, show runForm adv (rest ++ b) _ = _ from ih, List.append_assoc]

theorem runForm_cons_eq {adv : Adv α} {op : Op α} (h : ∀ m b, op ≠ Op.form m b) {rest : List (Op α)}
    {s s1 s2 : State α} {o1 o2 : List (Show α)} {e : Bool} (h1 : stepBasic adv op s = (s1, o1, e))
    (h2 : runForm adv rest s1 = (s2, o2)) : runForm adv (op :: rest) s = (s2, o1 ++ o2) := by
  rw [runForm_cons adv h, h1, h2]

theorem runForm_append_eq {adv : Adv α} {a b : List (Op α)} {s s1 s2 : State α} {o1 o2 : List (Show α)}
    (h1 : runForm adv a s = (s1, o1)) (h2 : runForm adv b s1 = (s2, o2)) :
    runForm adv (a ++ b) s = (s2, o1 ++ o2) := by
  rw [runForm_append, h1, h2]

/-- `q body Q` gives the state back when `body` returns the stack and the depth it was given -/
theorem exec_qQ {adv : Adv α} {body : List (Op α)} {s s1 : State α} {out : List (Show α)}
    (h : exec adv body s.save = some (s1, out)) (hst : s1.stack = s.cur :: s.stack) (hd : s1.xdepth = s.xdepth) :
    exec adv (Op.q :: (body ++ [Op.Q])) s = some (s, out) := by
  have hQ : step adv Op.Q s1 = (s, [], false) := by simp only [step, stepBasic, restore_save hst hd]
  have e := exec_cons_some (rfl : step adv Op.q s = (s.save, [], false))
    (exec_append_some h (exec_cons_some hQ (rfl : exec adv [] s = some (s, []))))
  rwa [List.nil_append, List.nil_append, List.append_nil] at e

/-- **balanced programs run without error**, identically under `exec` (top level) and
`runForm` (inside a form), and give back the stack and nesting depth they started with -/
theorem balanced_exec (adv : Adv α) {ops : List (Op α)} (hb : Balanced ops) :
    ∀ s : State α, ∃ s' out, exec adv ops s = some (s', out) ∧ runForm adv ops s = (s', out) ∧
      s'.stack = s.stack ∧ s'.xdepth = s.xdepth := by
  induction hb with
  | nil => intro s; exact ⟨s, [], rfl, by simp only [runForm], rfl, rfl⟩
  | plain op rest hp _ ih =>
    intro s
    obtain ⟨he, hs, hd⟩ := stepBasic_plain adv op hp s
    obtain ⟨s', out, h1, h2, h3, h4⟩ := ih (stepBasic adv op s).1
    have hf := plain_not_form hp
    have hst : stepBasic adv op s = ((stepBasic adv op s).1, (stepBasic adv op s).2.1, false) := by
      rw [← he]
    exact ⟨s', _, exec_cons_some ((step_of_not_form adv hf s).trans hst) h1, runForm_cons_eq hf hst h2,
      h3.trans hs, h4.trans hd⟩
  | qQ body rest _ _ ihb ihr =>
    intro s
    obtain ⟨s1, o1, h1, h2, h3, h4⟩ := ihb s.save
    obtain ⟨s2, o2, g1, g2, g3, g4⟩ := ihr { s1 with cur := s.cur, stack := s.stack }
    have hQ : stepBasic adv .Q s1 = ({ s1 with cur := s.cur, stack := s.stack }, [], false) := by
      simp only [stepBasic, restore_cons h3]
    have hq : stepBasic adv .q s = (s.save, [], false) := rfl
    have e : exec adv (Op.q :: (body ++ Op.Q :: rest)) s = some (s2, [] ++ (o1 ++ ([] ++ o2))) :=
      exec_cons_some hq (exec_append_some h1 (exec_cons_some hQ g1))
    have r : runForm adv (Op.q :: (body ++ Op.Q :: rest)) s = (s2, [] ++ (o1 ++ ([] ++ o2))) :=
      runForm_cons_eq (by intro m b h; cases h) hq
        (runForm_append_eq h2 (runForm_cons_eq (by intro m b h; cases h) hQ g2))
    exact ⟨s2, o1 ++ o2, e, r, g3, g4.trans h4⟩
  | form m body rest _ _ ihb ihr =>
    intro s
    obtain ⟨s2, o2, g1, g2, g3, g4⟩ := ihr s
    by_cases hdep : s.xdepth ≥ maxXObjectDepth
    · have hst : step adv (.form m body) s = (s, [], false) := by simp only [step, if_pos hdep]
      exact ⟨s2, o2, exec_cons_some hst g1, by rw [runForm_cons_form, if_pos hdep, g2], g3, g4⟩
    · obtain ⟨s1, o1, _, h2, h3, h4⟩ := ihb (formEnter m s)
      have hx := formExit_formEnter m s s1 h3 h4
      have hst : step adv (.form m body) s = (s, o1, false) := by simp only [step, if_neg hdep, h2, hx]
      exact ⟨s2, o1 ++ o2, exec_cons_some hst g1, by rw [runForm_cons_form, if_neg hdep, h2, hx, g2], g3, g4⟩

/-- `Do` of a form with balanced content gives the page its state back and reports the
fragments of the content (none at the nesting limit) -/
theorem step_form_of_balanced (adv : Adv α) (m : Option (Matrix α)) {body : List (Op α)} (hb : Balanced body)
    (s : State α) :
    step adv (.form m body) s =
      (s, if s.xdepth ≥ maxXObjectDepth then [] else (runForm adv body (formEnter m s)).2, false) := by
  by_cases hdep : s.xdepth ≥ maxXObjectDepth
  · simp only [step, if_pos hdep]
  · obtain ⟨s1, o1, _, h2, h3, h4⟩ := balanced_exec adv hb (formEnter m s)
    simp only [step, if_neg hdep, h2, formExit_formEnter m s s1 h3 h4]

end Tabula.GState

namespace Tabula.XDoc
open Tabula Tabula.GState

variable {α : Type}

/-- no `Do` left in a typed operator list -/
def FormFree (l : List (Op α)) : Prop := ∀ op ∈ l, ∀ m b, op ≠ Op.form m b

theorem FormFree.nil : FormFree ([] : List (Op α)) := nofun

theorem FormFree.append {a b : List (Op α)} (ha : FormFree a) (hb : FormFree b) : FormFree (a ++ b) :=
  fun op h => (List.mem_append.mp h).elim (ha op) (hb op)

theorem FormFree.tail {op : Op α} {l : List (Op α)} (h : FormFree (op :: l)) : FormFree l :=
  fun o ho => h o (List.mem_cons_of_mem _ ho)

theorem FormFree.cons {op : Op α} {l : List (Op α)} (h : ∀ m b, op ≠ Op.form m b) (hl : FormFree l) :
    FormFree (op :: l) :=
  List.forall_mem_cons.mpr ⟨h, hl⟩

end Tabula.XDoc
