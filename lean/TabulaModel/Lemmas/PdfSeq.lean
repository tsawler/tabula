import TabulaModel.Lemmas.PdfParse
import TabulaModel.Lemmas.PdfDepth
import TabulaModel.Lemmas.PdfErrors
/-!
A whole SEQUENCE of objects at top level, each in any legal spelling, is read back by a run of
`ParseObject` calls, which then ends with `io.EOF` (what the correspondence op `c06.obj` observes).
Induction over the sequence with the single-object round trip (`Lemmas/PdfParse.lean`); the bounds of
`coreParseAll` (fuel `4·length + 8`, `length + 2` calls) cover every printed sequence.  Core Lean only.
-/
namespace Tabula.Pdf
namespace Seq
open Prog Prs

/-- the window at the end of the input (behind trailing white space and comments): clean end of input -/
theorem eof_state (trail : Sep) (ht : SepOk trail) :
    (stateAt (renderSep trail)).cur = some .eof ∧ (stateAt (renderSep trail)).err = false := by
  have hE := starts_eof trail ht
  refine ⟨hE.cur, ?_⟩
  exact stateAt_err_false _ _ _ .eof [] hE.lex hE.ns (by decide)

theorem seq_rt (xs : List SObj) : ∀ (need : Bool) (trail : Sep) (F n : Nat) (acc : List Obj),
    ValidList need xs → SepOk trail → sizeList xs + 1 ≤ F → xs.length + 1 ≤ n →
    sdepthList xs ≤ maxNestingDepth →
    parseSeq F n (stateAt (renderList xs ++ renderSep trail)) acc = (acc ++ valueList xs, some .eof) := by
  induction xs with
  | nil =>
    intro need trail F n acc _ ht hF hn _
    obtain ⟨n, rfl⟩ : ∃ m, n = m + 1 := ⟨n - 1, by simp at hn; omega⟩
    obtain ⟨F, rfl⟩ : ∃ m, F = m + 1 := ⟨F - 1, by omega⟩
    simp only [renderList, List.nil_append, valueList, List.append_nil]
    rw [parseSeq, (Errs.parseObject_eof_iff F 0 _).2 (eof_state trail ht)]
  | cons x xs ih =>
    intro need trail F n acc hv ht hF hn hd
    obtain ⟨n, rfl⟩ : ∃ m, n = m + 1 := ⟨n - 1, by simp at hn; omega⟩
    simp only [ValidList] at hv
    simp only [sizeList] at hF
    simp only [sdepthList] at hd
    simp only [List.length_cons] at hn
    simp only [renderList, List.append_assoc, valueList]
    have hE := starts_eof trail ht
    have hT : Terminated (renderSep trail) := term_trail trail ht
    have hT1 : FirstNotR (renderSep trail) := firstNotR_of_starts hE (by simp)
    have hT2 : NoRefAhead (renderSep trail) := noRefAhead_of_starts hE (by intro v h; cases h)
    have hterm : x.endsRegular = true → Terminated (renderList xs ++ renderSep trail) := by
      intro he
      have hv2 := hv.2
      rw [he] at hv2
      exact term_list xs hv2 _ hT
    have hx := obj_rt x need (renderList xs ++ renderSep trail) F 0 hv.1 (by omega) (by omega) hterm
      (noRefAhead_list xs _ hv.2 _ hT hT1 hT2)
    rw [parseSeq, hx]
    dsimp only
    rw [ih x.endsRegular trail F n (acc ++ [x.value]) hv.2 ht (by omega) (by omega) (by omega)]
    simp

/-- `core.NewParser(r)`, then `ParseObject()` until it fails, on a sequence of legally spelled objects: exactly
the objects written, then `io.EOF` -/
theorem core_sequence_roundtrip (xs : List SObj) (trail : Sep) (hv : ValidList false xs) (ht : SepOk trail)
    (hd : sdepthList xs ≤ maxNestingDepth) :
    coreParseAll (renderList xs ++ renderSep trail) = (valueList xs, .eof) := by
  have hsz := sizeList_le xs
  have hlen := length_le xs
  unfold coreParseAll
  rw [coreParseAll_go_eq, show newParser _ = stateAt (renderList xs ++ renderSep trail) from rfl,
    seq_rt xs false trail _ _ [] hv ht (by unfold fuelFor; rw [List.length_append]; omega)
      (by rw [List.length_append]; omega) hd]
  rfl

end Seq
end Tabula.Pdf
