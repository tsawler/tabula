import TabulaModel.Lemmas.Chunk
/-!
Helper lemmas for property C12: the specification of the section path. `openSpec` keeps of a history of
headings those all of whose successors are strictly deeper; the code's stack of open headings is its
mirror image (`StackRel`, `stack_sim`), so the stack tracker and the history tracker report the same paths.
-/
namespace Tabula.Chunk

theorem openSpec_snoc (hs : List H) (h : H) :
    openSpec (hs ++ [h]) = (openSpec hs).filter (fun e => decide (e.1 < h.1)) ++ [h] := by
  induction hs with
  | nil => simp [openSpec]
  | cons x hs ih =>
    simp only [List.cons_append, openSpec, List.all_append, List.all_cons, List.all_nil, Bool.and_true]
    by_cases h1 : (hs.all fun r => decide (x.1 < r.1)) = true
    · by_cases h2 : x.1 < h.1
      · simp [h1, h2, ih]
      · simp [h1, h2, ih]
    · simp [h1, ih]

theorem openSpec_sublist (hs : List H) : (openSpec hs).Sublist hs := by
  induction hs with
  | nil => exact List.Sublist.slnil
  | cons x hs ih =>
    simp only [openSpec]
    split
    · exact List.Sublist.cons_cons x ih
    · exact List.Sublist.cons x ih

/-- levels strictly increase along the chain of open headings -/
theorem openSpec_pairwise (hs : List H) : (openSpec hs).Pairwise (fun a b => a.1 < b.1) := by
  induction hs with
  | nil => exact List.Pairwise.nil
  | cons x hs ih =>
    simp only [openSpec]
    split
    · rename_i hall
      refine List.Pairwise.cons ?_ ih
      intro y hy
      have := (openSpec_sublist hs).subset hy
      have := List.all_eq_true.mp hall y this
      simpa using this
    · exact ih

/-- on a chain whose levels decrease towards the end of the list, popping from the inner end while the level is
>= `l` is the same as keeping the levels < `l` -/
theorem dropWhile_eq_filter_of_pairwise (st : List H) (l : Int)
    (hp : st.Pairwise (fun a b => b.1 < a.1)) :
    st.dropWhile (fun e => decide (l ≤ e.1)) = st.filter (fun e => decide (e.1 < l)) := by
  induction st with
  | nil => rfl
  | cons x st ih =>
    rw [List.pairwise_cons] at hp
    rw [List.dropWhile_cons, List.filter_cons]
    by_cases h : l ≤ x.1
    · have h' : ¬ x.1 < l := by omega
      simp only [h, h', decide_true, decide_false, if_true]
      exact ih hp.2
    · have h' : x.1 < l := by omega
      simp only [h, h', decide_true, decide_false]
      have : st.filter (fun e => decide (e.1 < l)) = st := by
        rw [List.filter_eq_self]
        intro y hy
        have := hp.1 y hy
        simp; omega
      simp [this]

/-- the relation between the code's stack (innermost first) and the history of headings -/
def StackRel (st : List H) (hist : List H) : Prop := st.reverse = openSpec hist

/-- pushing a heading on the chain of open ones (innermost first) against the history -/
theorem stackRel_push (st hist : List H) (l : Int) (t : Str) (h : StackRel st hist) :
    StackRel ((l, t) :: st.dropWhile fun e => decide (l ≤ e.1)) (hist ++ [(l, t)]) := by
  unfold StackRel at *
  rw [openSpec_snoc, ← h]
  have hp : st.Pairwise (fun a b => b.1 < a.1) := by
    have := openSpec_pairwise hist
    rw [← h, List.pairwise_reverse] at this
    exact this
  rw [dropWhile_eq_filter_of_pairwise st l hp]
  simp [List.filter_reverse]

theorem stack_sim : TrackerSim stackTracker histTracker StackRel where
  init := rfl
  push := fun st hist l t h => stackRel_push st hist l (trim t) h
  path := fun _ _ h => congrArg (List.map fun e : H => e.2) h

/-- membership in `openSpec`: exactly the headings all of whose successors are deeper -/
theorem mem_openSpec (hs : List H) (h : H) :
    h ∈ openSpec hs ↔ ∃ pre post, hs = pre ++ h :: post ∧ ∀ r ∈ post, h.1 < r.1 := by
  induction hs with
  | nil => simp [openSpec]
  | cons x hs ih =>
    -- `h` is the head, kept because everything behind it is deeper, or it is open in the tail
    have hall : (hs.all fun r => decide (x.1 < r.1)) = true ↔ ∀ r ∈ hs, x.1 < r.1 := by
      rw [List.all_eq_true]; exact forall₂_congr fun _ _ => decide_eq_true_iff
    have hmem : h ∈ openSpec (x :: hs) ↔ (h = x ∧ ∀ r ∈ hs, x.1 < r.1) ∨ h ∈ openSpec hs := by
      by_cases ha : ∀ r ∈ hs, x.1 < r.1
      · rw [openSpec, if_pos (hall.mpr ha), List.mem_cons, and_iff_left ha]
      · rw [openSpec, if_neg (mt hall.mp ha)]
        exact ⟨Or.inr, fun hm => hm.elim (fun hx => absurd hx.2 ha) id⟩
    rw [hmem, ih]
    constructor
    · rintro (⟨rfl, ha⟩ | ⟨pre, post, rfl, hp⟩)
      · exact ⟨[], hs, rfl, ha⟩
      · exact ⟨x :: pre, post, rfl, hp⟩
    · rintro ⟨pre, post, e, hp⟩
      cases pre with
      | nil => cases e; exact Or.inl ⟨rfl, hp⟩
      | cons y pre => cases e; exact Or.inr ⟨pre, post, rfl, hp⟩

theorem openSpec_of_pairwise (hs : List H) (hp : hs.Pairwise (fun a b => a.1 < b.1)) :
    openSpec hs = hs := by
  induction hs with
  | nil => rfl
  | cons x hs ih =>
    rw [List.pairwise_cons] at hp
    have hall : (hs.all fun r => decide (x.1 < r.1)) = true := by
      rw [List.all_eq_true]
      intro r hr
      exact decide_eq_true (hp.1 r hr)
    simp only [openSpec, hall, if_true, ih hp.2]

theorem openSpec_append_forget (hs ks : List H) :
    openSpec (hs ++ ks) = openSpec (openSpec hs ++ ks) := by
  induction hs with
  | nil => rfl
  | cons x hs ih =>
    by_cases h1 : (hs.all fun r => decide (x.1 < r.1)) = true
    · have h2 : ((openSpec hs).all fun r => decide (x.1 < r.1)) = true :=
        List.all_eq_true.mpr fun r hr => List.all_eq_true.mp h1 r ((openSpec_sublist hs).subset hr)
      have e1 : openSpec (x :: hs) = x :: openSpec hs := by simp only [openSpec, h1, if_true]
      rw [e1]
      simp only [List.cons_append, openSpec, List.all_append, h1, h2, Bool.true_and, ih]
    · have e1 : openSpec (x :: hs) = openSpec hs := by simp only [openSpec, h1]; rfl
      rw [e1, ← ih]
      have h3 : ((hs ++ ks).all fun r => decide (x.1 < r.1)) ≠ true := by
        rw [List.all_append]
        intro h
        rw [Bool.and_eq_true] at h
        exact h1 h.1
      simp only [List.cons_append, openSpec, h3]
      rfl

/-- strictly increasing integer levels between `lo` and `hi`: at most `hi - lo + 1` of them -/
theorem pairwise_length_le (l : List H) (lo hi : Int)
    (hp : l.Pairwise (fun a b => a.1 < b.1))
    (hlo : ∀ x ∈ l, lo ≤ x.1) (hhi : ∀ x ∈ l, x.1 ≤ hi) :
    l.length ≤ (hi - lo + 1).toNat := by
  induction l generalizing lo with
  | nil => exact Nat.zero_le _
  | cons x l ih =>
    rw [List.pairwise_cons] at hp
    have h1 := hlo x (List.mem_cons_self ..)
    have h2 := hhi x (List.mem_cons_self ..)
    have := ih (lo + 1) hp.2
      (fun y hy => by have := hp.1 y hy; have := hlo x (List.mem_cons_self ..); omega)
      (fun y hy => hhi y (List.mem_cons_of_mem _ hy))
    simp only [List.length_cons]
    omega

end Tabula.Chunk
