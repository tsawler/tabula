import TabulaModel.Lemmas.MarkdownLines
/-!
Lemmas about the document reading spec of `Model/MarkdownDoc.lean`: classification of the lines
the writers emit, pipe blocks, the reader on lines that are put together from pieces none of which
ends in a pipe line (`readRaw_append`, `LinesRead`), its indifference to empty lines at both ends
(so to `strings.Trim(s, "\n")`), and the front matter and TOC blocks it skips (`Skipped`).
-/
namespace Tabula.MarkdownDoc
open Tabula.A1 (Str dec decInt)
open Tabula.Markdown

theorem isBlank_nil : isBlank [] = true := rfl

theorem classify_nil : classify [] = .skip := by decide

theorem classify_pipe (r : Str) : classify (124 :: r) = .pipe := by
  have hb : isBlank (124 :: r) = false := isBlank_rowLine r
  have hh : ((124 :: r) == hrLine) = false := by
    simp [hrLine]
  simp [classify, hb, hh, isPipeLine]

theorem isPipeLine_iff (l : Str) : isPipeLine l = true ↔ ∃ r, l = 124 :: r := by
  unfold isPipeLine
  split
  · exact ⟨fun _ => ⟨_, rfl⟩, fun _ => rfl⟩
  · rename_i h
    exact ⟨fun e => Bool.noConfusion e, fun ⟨r, e⟩ => absurd e (h r)⟩

theorem classify_of_isPipe (l : Str) (h : isPipeLine l = true) : classify l = .pipe := by
  obtain ⟨r, rfl⟩ := (isPipeLine_iff l).mp h
  exact classify_pipe r

theorem atxAny_atxLine (level : Nat) (text : Str) (h1 : 1 ≤ level) :
    atxAny (atxLine level text) = some (level, text) := by
  obtain ⟨ht, hd⟩ := atxLine_span level text
  unfold atxAny
  simp only [ht, hd, List.length_replicate]
  simp [h1]

theorem atxLine_succ (level : Nat) (text : Str) :
    atxLine (level + 1) text = 35 :: atxLine level text := by
  simp [atxLine, List.replicate_succ]

theorem classify_atxLine (level : Nat) (text : Str) (h1 : 1 ≤ level) :
    classify (atxLine level text) = .heading level text := by
  obtain ⟨k, rfl⟩ : ∃ k, level = k + 1 := ⟨level - 1, by omega⟩
  -- the line starts with `#`: not blank, not `---`, no pipe line, no quote
  have ha := atxAny_atxLine (k + 1) text h1
  rw [atxLine_succ] at ha ⊢
  have hq : isQuoteLine (35 :: atxLine k text) = false := by
    cases k <;> simp [atxLine, isQuoteLine, List.replicate_succ]
  simp [classify, isBlank, isWs, hrLine, isPipeLine, hq, ha]

theorem headingOf_atxLine (level : Nat) (text : Str) (h1 : 1 ≤ level) :
    headingOf (atxLine level text) = some (level, text) := by
  simp [headingOf, classify_atxLine _ _ h1]

theorem itemOf_atxLine (level : Nat) (text : Str) (h1 : 1 ≤ level) :
    itemOf (atxLine level text) = none := by
  simp [itemOf, classify_atxLine _ _ h1]

theorem isPara_atxLine (level : Nat) (text : Str) (h1 : 1 ≤ level) :
    isPara (atxLine level text) = false := by
  simp [isPara, classify_atxLine _ _ h1]

theorem headingOf_nil : headingOf [] = none := by decide
theorem itemOf_nil : itemOf [] = none := by decide
theorem isPara_nil : isPara [] = false := by decide

theorem headingOf_pipe (l : Str) (h : isPipeLine l = true) : headingOf l = none := by
  simp [headingOf, classify_of_isPipe l h]
theorem itemOf_pipe (l : Str) (h : isPipeLine l = true) : itemOf l = none := by
  simp [itemOf, classify_of_isPipe l h]
theorem isPara_pipe (l : Str) (h : isPipeLine l = true) : isPara l = false := by
  simp [isPara, classify_of_isPipe l h]

/-- a line that starts with a space, a dash or a digit and that `parseListLine` reads as an item -/
theorem classify_item_line (c : Nat) (r : Str) (d : Nat) (o : Bool) (t : Str)
    (hc : c = 32 ∨ c = 45 ∨ (48 ≤ c ∧ c ≤ 57))
    (hhr : c :: r ≠ hrLine) (hnb : isBlank (c :: r) = false)
    (hp : parseListLine (c :: r) = some (d, o, t)) : classify (c :: r) = .item d o t := by
  have h1 : isPipeLine (c :: r) = false := by
    cases h : isPipeLine (c :: r) with
    | false => rfl
    | true => obtain ⟨r', e⟩ := (isPipeLine_iff _).mp h; injection e; omega
  have h2 : isQuoteLine (c :: r) = false := by
    unfold isQuoteLine
    split
    · rename_i heq; injection heq; omega
    · rfl
  have h3 : atxAny (c :: r) = none := by
    have hc35 : (c == 35) = false := by simp; omega
    simp [atxAny, List.takeWhile, hc35]
  have h4 : ((c :: r) == hrLine) = false := by
    simpa using hhr
  simp [classify, hnb, h4, h1, h2, h3, hp]

theorem listLine_head (it : Item) :
    ∃ c r, listLine it = c :: r ∧ (c = 32 ∨ c = 45 ∨ (48 ≤ c ∧ c ≤ 57)) := by
  obtain ⟨d, ds, hdec, hd1, hd2⟩ := Tabula.A1.dec_head it.num
  unfold listLine
  cases 2 * it.depth with
  | succ k => exact ⟨32, _, rfl, Or.inl rfl⟩
  | zero =>
    cases it.ordered with
    | false => exact ⟨45, 32 :: it.text, rfl, Or.inr (Or.inl rfl)⟩
    | true => exact ⟨d, ds ++ [46, 32] ++ it.text, by rw [if_pos rfl, hdec]; rfl, Or.inr (Or.inr ⟨hd1, hd2⟩)⟩

/-- the marker holds a `-` or a `.` -/
theorem isBlank_listLine (it : Item) : isBlank (listLine it) = false := by
  have hm : (if it.ordered = true then dec it.num ++ [46, 32] else [45, 32]).all isWs = false := by
    cases it.ordered with
    | false => rfl
    | true => rw [if_pos rfl, List.all_append, show [46, 32].all isWs = false from rfl, Bool.and_false]
  unfold listLine isBlank
  rw [List.all_append, List.all_append, hm, Bool.and_false, Bool.false_and]

/-- `---` is not read as a list item -/
theorem listLine_ne_hr (it : Item) : listLine it ≠ hrLine := by
  intro e
  have := parseListLine_listLine it
  rw [e, show parseListLine hrLine = none by decide] at this
  cases this

theorem classify_listLine (it : Item) : classify (listLine it) = .item it.depth it.ordered it.text := by
  obtain ⟨c, r, hcr, hc⟩ := listLine_head it
  have h := classify_item_line c r it.depth it.ordered it.text hc
  rw [← hcr] at h
  exact h (listLine_ne_hr it) (isBlank_listLine it) (parseListLine_listLine it)

theorem headingOf_listLine (it : Item) : headingOf (listLine it) = none := by
  simp [headingOf, classify_listLine]
theorem itemOf_listLine (it : Item) : itemOf (listLine it) = some (it.depth, it.ordered, it.text) := by
  simp [itemOf, classify_listLine]
theorem isPara_listLine (it : Item) : isPara (listLine it) = false := by
  simp [isPara, classify_listLine]

theorem isPipeLine_listLine (it : Item) : isPipeLine (listLine it) = false := by
  cases h : isPipeLine (listLine it) with
  | false => rfl
  | true => have := classify_listLine it; rw [classify_of_isPipe _ h] at this; cases this

theorem isPipeLine_atxLine (level : Nat) (text : Str) (h1 : 1 ≤ level) : isPipeLine (atxLine level text) = false := by
  obtain ⟨k, rfl⟩ : ∃ k, level = k + 1 := ⟨level - 1, by omega⟩
  rw [atxLine_succ]; rfl

theorem classify_para_props (l : Str) (h : classify l = .para) :
    headingOf l = none ∧ itemOf l = none ∧ isPara l = true ∧ isPipeLine l = false ∧ l ≠ hrLine ∧ l ≠ tocTitle := by
  refine ⟨by simp [headingOf, h], by simp [itemOf, h], by simp [isPara, h], ?_, ?_, ?_⟩
  · cases hp : isPipeLine l with
    | false => rfl
    | true => rw [classify_of_isPipe l hp] at h; cases h
  · intro e; rw [e] at h; revert h; decide
  · intro e; rw [e] at h; revert h; decide

theorem classify_para_props' (l : Str) (h : classify l = .para) :
    headingOf l = none ∧ itemOf l = none ∧ isPara l = true ∧ isPipeLine l = false ∧ l ≠ hrLine ∧ l ≠ tocTitle :=
  classify_para_props l h

theorem pipeBlocksAux_cons (l : Str) (ls cur : List Str) :
    pipeBlocksAux (l :: ls) cur = if isPipeLine l then pipeBlocksAux ls (cur ++ [l])
      else (if cur.isEmpty then [] else [cur]) ++ pipeBlocksAux ls [] := rfl

theorem pipeBlocksAux_nonpipe (ls rest : List Str) (h : ∀ l ∈ ls, isPipeLine l = false) :
    pipeBlocksAux (ls ++ rest) [] = pipeBlocksAux rest [] := by
  induction ls with
  | nil => rfl
  | cons l ls ih =>
    have hl := h l (by simp)
    simp only [List.cons_append, pipeBlocksAux, hl]
    simpa using ih (fun x hx => h x (List.mem_cons_of_mem _ hx))

theorem pipeBlocksAux_pipe (T rest cur : List Str) (h : ∀ l ∈ T, isPipeLine l = true) :
    pipeBlocksAux (T ++ rest) cur = pipeBlocksAux rest (cur ++ T) := by
  induction T generalizing cur with
  | nil => simp
  | cons l T ih =>
    have hl := h l (by simp)
    simp only [List.cons_append, pipeBlocksAux, hl, if_true]
    rw [ih (cur ++ [l]) (fun x hx => h x (List.mem_cons_of_mem _ hx))]
    simp

theorem pipeBlocksAux_flush (cur rest : List Str) (l : Str) (hl : isPipeLine l = false) (hne : cur ≠ []) :
    pipeBlocksAux (l :: rest) cur = cur :: pipeBlocksAux rest [] := by
  cases cur with
  | nil => exact absurd rfl hne
  | cons a b => simp [pipeBlocksAux, hl]

theorem pipeBlocksAux_end_blank (X cur : List Str) :
    pipeBlocksAux (X ++ [[]]) cur = pipeBlocksAux X cur := by
  induction X generalizing cur with
  | nil => simp [pipeBlocksAux, isPipeLine]
  | cons l X ih =>
    simp only [List.cons_append, pipeBlocksAux]
    split
    · exact ih _
    · rw [ih]

theorem skipFront_id (L : List Str) (h : L.head? ≠ some hrLine) : skipFront L = L := by
  cases L with
  | nil => rfl
  | cons l ls =>
    have : (l == hrLine) = false := by
      simp only [List.head?_cons, ne_eq, Option.some.injEq] at h
      simpa using h
    simp [skipFront, this]

theorem dropToc_id (L : List Str) (h : tocTitle ∉ L) : dropToc L = L := by
  induction L with
  | nil => rfl
  | cons l ls ih =>
    have h1 : (l == tocTitle) = false := by
      have : l ≠ tocTitle := fun e => h (by simp [e])
      simpa using this
    simp [dropToc, h1, ih (fun e => h (List.mem_cons_of_mem _ e))]

theorem dropWhile_ne_append (fm rest : List Str) (h : hrLine ∉ fm) :
    (fm ++ hrLine :: rest).dropWhile (· != hrLine) = hrLine :: rest :=
  List.dropWhile_append_cons_of_neg (fun l hl => bne_iff_ne.mpr fun e => h (e ▸ hl)) (by simp)

theorem skipFront_front (fm rest : List Str) (h : hrLine ∉ fm) :
    skipFront (hrLine :: (fm ++ hrLine :: rest)) = rest := by
  simp [skipFront, dropWhile_ne_append fm rest h]

theorem dropToc_toc (pre toc rest : List Str) (hpre : tocTitle ∉ pre) (htoc : hrLine ∉ toc) :
    dropToc (pre ++ tocTitle :: (toc ++ hrLine :: rest)) = pre ++ rest := by
  induction pre with
  | nil => simp [dropToc, dropWhile_ne_append toc rest htoc]
  | cons l pre ih =>
    have h1 : (l == tocTitle) = false := by
      have : l ≠ tocTitle := fun e => hpre (by simp [e])
      simpa using this
    simp [dropToc, h1, ih (fun e => hpre (List.mem_cons_of_mem _ e))]

/-- the four projections on the lines as they are (no front matter / TOC skipping) -/
def readRaw (L : List Str) : MdDoc :=
  { headings := L.filterMap headingOf, items := L.filterMap itemOf,
    tables := (pipeBlocks L).map gfmTableL, paras := L.filter isPara }

theorem content_plain (L : List Str) (h1 : L.head? ≠ some hrLine) (h2 : tocTitle ∉ L) : content L = L := by
  unfold content; rw [skipFront_id L h1, dropToc_id L h2]

/-- what the reader gives on lines without front matter and without a TOC -/
theorem readLines_plain (L : List Str) (h1 : L.head? ≠ some hrLine) (h2 : tocTitle ∉ L) :
    readLines L = readRaw L := by
  unfold readLines; rw [content_plain L h1 h2]; rfl

/-- `"Table of Contents"` -/
def tocText : Str := [84, 97, 98, 108, 101, 32, 111, 102, 32, 67, 111, 110, 116, 101, 110, 116, 115]

theorem headingOf_tocTitle : headingOf tocTitle = some (2, tocText) := by decide

theorem atxLine_ne_hr (n : Nat) (t : Str) (h1 : 1 ≤ n) : atxLine n t ≠ hrLine := by
  intro e
  have := classify_atxLine n t h1
  rw [e, show classify hrLine = .skip by decide] at this
  cases this

/-- the readings of two documents one after the other -/
def MdDoc.append (a b : MdDoc) : MdDoc :=
  { headings := a.headings ++ b.headings, items := a.items ++ b.items,
    tables := a.tables ++ b.tables, paras := a.paras ++ b.paras }

/-- lines the last of which is no pipe line: a pipe block among them ends among them -/
def EndsPlain (A : List Str) : Prop := ∀ l, A.getLast? = some l → isPipeLine l = false

theorem pipeBlocksAux_append (B A : List Str) (hA : EndsPlain A) : ∀ cur, (A = [] → cur = []) →
    pipeBlocksAux (A ++ B) cur = pipeBlocksAux A cur ++ pipeBlocksAux B [] := by
  induction A with
  | nil => intro cur hc; rw [hc rfl]; rfl
  | cons x A ih =>
    intro cur _
    rw [List.cons_append, pipeBlocksAux_cons, pipeBlocksAux_cons]
    cases A with
    | nil =>
      rw [hA x rfl, if_neg Bool.false_ne_true, if_neg Bool.false_ne_true, List.nil_append]
      show _ = _ ++ [] ++ _
      rw [List.append_nil]
    | cons y r =>
      have ih := ih fun l hl => hA l (by rw [List.getLast?_cons_cons]; exact hl)
      by_cases hx : isPipeLine x = true
      · rw [if_pos hx, if_pos hx]; exact ih _ (fun h => nomatch h)
      · rw [if_neg hx, if_neg hx, ih [] (fun h => nomatch h), List.append_assoc]

/-- behind lines that do not end in a pipe line the reader starts afresh -/
theorem readRaw_append (A B : List Str) (hA : EndsPlain A) :
    readRaw (A ++ B) = (readRaw A).append (readRaw B) := by
  unfold readRaw MdDoc.append pipeBlocks
  rw [pipeBlocksAux_append B A hA [] fun _ => rfl]
  simp only [List.filterMap_append, List.filter_append, List.map_append]

/-- The lines `L` — none holding a newline or being a thematic break, the last of them no pipe line —
hold the headings `H`, the list items `I`, the paragraph lines `P` and the pipe blocks `T`, and nothing
else, for the reader that takes them as they stand. -/
structure LinesRead (L : List Str) (H : List (Nat × Str)) (I : List (Nat × Bool × Str))
    (P : List Str) (T : List (List Str)) : Prop where
  line : ∀ l ∈ L, 10 ∉ l ∧ l ≠ hrLine
  ends : EndsPlain L
  raw : readRaw L = { headings := H, items := I, tables := T.map gfmTableL, paras := P }

namespace LinesRead

theorem nil : LinesRead [] [] [] [] [] :=
  ⟨fun _ h => (nomatch h), fun _ h => (nomatch h), rfl⟩

theorem append {a b H I P T H' I' P' T'} (ha : LinesRead a H I P T) (hb : LinesRead b H' I' P' T') :
    LinesRead (a ++ b) (H ++ H') (I ++ I') (P ++ P') (T ++ T') where
  line := fun l h => (List.mem_append.mp h).elim (ha.line l) (hb.line l)
  ends := fun l hl => by
    rw [List.getLast?_append] at hl
    cases hb' : b.getLast? with
    | none => rw [hb'] at hl; exact ha.ends l hl
    | some x => rw [hb'] at hl; cases hl; exact hb.ends _ hb'
  raw := by rw [readRaw_append a b ha.ends, ha.raw, hb.raw, List.map_append]; rfl

theorem of_eq {L H I P T H' I' P' T'} (h : LinesRead L H I P T)
    (hH : H = H') (hI : I = I') (hP : P = P') (hT : T = T') : LinesRead L H' I' P' T' := by
  subst hH hI hP hT; exact h

/-- one line that is not a pipe line, by what the reader takes it for (`generalizing := false`: the
matches are on `k` alone, `hk` and `hp` are not to be abstracted with it) -/
theorem plainLine {l : Str} {k : Kind} (hk : classify l = k) (hp : k ≠ .pipe) (hnl : 10 ∉ l) (hhr : l ≠ hrLine) :
    LinesRead [l] (match (generalizing := false) k with | .heading n t => [(n, t)] | _ => [])
      (match (generalizing := false) k with | .item d o t => [(d, o, t)] | _ => [])
      (match (generalizing := false) k with | .para => [l] | _ => []) [] := by
  have hpl : isPipeLine l = false := by
    cases hpl : isPipeLine l with
    | false => rfl
    | true => exact absurd ((classify_of_isPipe l hpl).symm.trans hk).symm hp
  refine ⟨fun x hx => List.mem_singleton.mp hx ▸ ⟨hnl, hhr⟩, fun x hx => by cases hx; exact hpl, ?_⟩
  cases k <;> simp [readRaw, pipeBlocks, pipeBlocksAux, hpl, headingOf, itemOf, isPara, hk]

theorem blank : LinesRead [[]] [] [] [] [] :=
  plainLine classify_nil (by simp) (by simp) (by decide)

/-- the empty line a writer puts in when `b` holds -/
theorem sep (b : Bool) : LinesRead (if b then [[]] else []) [] [] [] [] := by
  cases b
  · exact nil
  · exact blank

theorem heading (n : Nat) (t : Str) (h1 : 1 ≤ n) (hnl : 10 ∉ t) : LinesRead [atxLine n t] [(n, t)] [] [] [] :=
  plainLine (classify_atxLine n t h1) (by simp) (atxLine_noNl n t hnl) (atxLine_ne_hr n t h1)

theorem item (it : Item) (hnl : 10 ∉ it.text) :
    LinesRead [listLine it] [] [(it.depth, it.ordered, it.text)] [] [] :=
  plainLine (classify_listLine it) (by simp) (listLine_noNl it hnl) (listLine_ne_hr it)

theorem para (t : Str) (h : classify t = .para) (hnl : 10 ∉ t) : LinesRead [t] [] [] [t] [] :=
  plainLine h (by simp) hnl fun e => by rw [e] at h; exact absurd h (by decide)

/-- a pipe block: its lines and the empty line that ends it -/
theorem table (T : List Str) (hne : T ≠ []) (hT : ∀ l ∈ T, isPipeLine l = true ∧ 10 ∉ l) :
    LinesRead (T ++ [[]]) [] [] [] [T] where
  line := fun x hx => by
    rcases List.mem_append.mp hx with hx | hx
    · exact ⟨(hT x hx).2, fun e => by have := (hT x hx).1; rw [e] at this; exact absurd this (by decide)⟩
    · rw [List.mem_singleton.mp hx]; exact ⟨List.not_mem_nil, by decide⟩
  ends := fun l hl => by
    rw [List.getLast?_append] at hl; cases hl; rfl
  raw := by
    have hf {β} (f : Str → Option β) (hp : ∀ l, isPipeLine l = true → f l = none) : T.filterMap f = [] :=
      List.filterMap_eq_nil_iff.mpr fun l hl => hp l (hT l hl).1
    unfold readRaw pipeBlocks
    rw [pipeBlocksAux_pipe T _ [] fun l hl => (hT l hl).1, List.nil_append, pipeBlocksAux_flush T [] [] rfl hne,
      List.filterMap_append, List.filterMap_append, hf headingOf headingOf_pipe, hf itemOf itemOf_pipe,
      ← List.filterMap_eq_filter, List.filterMap_append, hf _ fun l hl => by simp [Option.guard, isPara_pipe l hl]]
    rfl

theorem itemLines {α} (f : α → Item) (xs : List α) (hnl : ∀ x ∈ xs, 10 ∉ (f x).text) :
    LinesRead (xs.map fun x => listLine (f x)) [] (xs.map fun x => ((f x).depth, (f x).ordered, (f x).text))
      [] [] := by
  induction xs with
  | nil => exact nil
  | cons x rest ih =>
    exact (item (f x) (hnl x (by simp))).append (ih fun y hy => hnl y (List.mem_cons_of_mem _ hy))

/-- the reader on the lines (no front matter, no table of contents among them) -/
theorem read {L H I P T} (h : LinesRead L H I P T) (htoc : (2, tocText) ∉ H) :
    (∀ l ∈ L, 10 ∉ l) ∧ hrLine ∉ L ∧ tocTitle ∉ L ∧
    readLines L = { headings := H, items := I, tables := T.map gfmTableL, paras := P } := by
  have hhr : hrLine ∉ L := fun hm => (h.line _ hm).2 rfl
  have hh : L.filterMap headingOf = H := congrArg MdDoc.headings h.raw
  have htt : tocTitle ∉ L := fun hm =>
    htoc (hh ▸ List.mem_filterMap.mpr ⟨tocTitle, hm, headingOf_tocTitle⟩)
  exact ⟨fun l hl => (h.line l hl).1, hhr, htt,
    (readLines_plain _ (fun e => hhr (List.mem_of_mem_head? e)) htt).trans h.raw⟩

end LinesRead

theorem readLines_nil : readLines [] = { headings := [], items := [], tables := [], paras := [] } := by decide

theorem readLines_cons_blank (L : List Str) (h : L.head? ≠ some hrLine) :
    readLines ([] :: L) = readLines L := by
  have e1 : content ([] :: L) = [] :: content L := by
    unfold content
    rw [skipFront_id L h]
    have : skipFront ([] :: L) = [] :: L := by simp [skipFront, hrLine]
    rw [this]
    simp [dropToc, tocTitle]
  unfold readLines
  rw [e1]
  simp [headingOf_nil, itemOf_nil, isPara_nil, pipeBlocks, pipeBlocksAux, isPipeLine]

/-- what `skipFront` and `dropToc` keep after the next `---` line, with one more empty line at the end -/
theorem dropToHr_end_blank (ls : List Str) :
    ((ls ++ [[]]).dropWhile (· != hrLine)).drop 1 = (ls.dropWhile (· != hrLine)).drop 1 ++ [[]] ∨
    ((ls ++ [[]]).dropWhile (· != hrLine)).drop 1 = (ls.dropWhile (· != hrLine)).drop 1 := by
  induction ls with
  | nil => right; rfl
  | cons x xs ih =>
    by_cases hx : (x != hrLine) = true
    · simp only [List.cons_append, List.dropWhile_cons, hx, if_true]
      exact ih
    · left
      simp only [List.cons_append, List.dropWhile_cons, hx, Bool.false_eq_true, if_false,
        List.drop_succ_cons, List.drop_zero]

theorem skipFront_end_blank (L : List Str) :
    skipFront (L ++ [[]]) = skipFront L ++ [[]] ∨ skipFront (L ++ [[]]) = skipFront L := by
  cases L with
  | nil => left; rfl
  | cons l ls =>
    simp only [List.cons_append, skipFront]
    split
    · exact dropToHr_end_blank ls
    · left; rfl

theorem dropToc_end_blank (L : List Str) :
    dropToc (L ++ [[]]) = dropToc L ++ [[]] ∨ dropToc (L ++ [[]]) = dropToc L := by
  induction L with
  | nil => left; rfl
  | cons l ls ih =>
    simp only [List.cons_append, dropToc]
    split
    · exact dropToHr_end_blank ls
    · rcases ih with h | h
      · left; rw [h]; rfl
      · right; rw [h]

theorem content_end_blank (L : List Str) :
    content (L ++ [[]]) = content L ++ [[]] ∨ content (L ++ [[]]) = content L := by
  unfold content
  rcases skipFront_end_blank L with h | h
  · rw [h]; exact dropToc_end_blank _
  · right; rw [h]

theorem readLines_end_blank (L : List Str) : readLines (L ++ [[]]) = readLines L := by
  unfold readLines
  rcases content_end_blank L with h | h
  · rw [h]
    simp [headingOf_nil, itemOf_nil, isPara_nil, pipeBlocks, pipeBlocksAux_end_blank]
  · rw [h]

theorem readLines_end_blanks (L : List Str) (k : Nat) : readLines (L ++ List.replicate k []) = readLines L := by
  induction k with
  | zero => simp
  | succ k ih =>
    rw [List.replicate_succ', ← List.append_assoc, readLines_end_blank, ih]

theorem readLines_cons_blanks (L : List Str) (k : Nat) (h : L.head? ≠ some hrLine) :
    readLines (List.replicate k [] ++ L) = readLines L := by
  induction k with
  | zero => simp
  | succ k ih =>
    rw [List.replicate_succ, List.cons_append, readLines_cons_blank, ih]
    cases k with
    | zero => simpa using h
    | succ k => simp [List.replicate_succ, hrLine]

/-- what `dropWhile` drops when the predicate holds of one value only -/
theorem dropWhile_split {α} (p : α → Bool) (a : α) (hp : ∀ x, p x = true → x = a) (l : List α) :
    ∃ k, l = List.replicate k a ++ l.dropWhile p :=
  ⟨(l.takeWhile p).length, List.takeWhile_append_dropWhile.symm.trans
    (congrArg (· ++ l.dropWhile p) (List.eq_replicate_iff.mpr ⟨rfl, fun b hb => hp b (List.mem_takeWhile_imp hb)⟩))⟩

theorem dropWhile_nl_split (s : Str) : ∃ k, s = List.replicate k 10 ++ s.dropWhile (· == 10) :=
  dropWhile_split (· == 10) 10 (fun _ h => by simpa using h) s

theorem splitLines_replicate_append (k : Nat) (s : Str) :
    splitLines (List.replicate k 10 ++ s) = List.replicate k [] ++ splitLines s := by
  induction k with
  | zero => simp
  | succ k ih => simp [List.replicate_succ, splitLines, ih]

theorem splitLines_append_replicate (s : Str) (j : Nat) :
    splitLines (s ++ List.replicate j 10) = splitLines s ++ List.replicate j [] := by
  cases j with
  | zero => simp
  | succ j =>
    rw [List.replicate_succ, splitLines_eq_splitOn, List.splitOn_append_cons_self, ← splitLines_eq_splitOn,
      ← splitLines_eq_splitOn, splitLines_replicate_nl]

theorem trimRight_nl_split (s : Str) :
    ∃ j, s = (s.reverse.dropWhile (· == 10)).reverse ++ List.replicate j 10 := by
  obtain ⟨k, hk⟩ := dropWhile_nl_split s.reverse
  refine ⟨k, ?_⟩
  have := congrArg List.reverse hk
  simpa using this

/-- `strings.Trim(s, "\n")` takes empty lines away at both ends and nothing else -/
theorem splitLines_trimNl (s : Str) :
    ∃ k j, splitLines s = List.replicate k [] ++ splitLines (trimNl s) ++ List.replicate j [] := by
  obtain ⟨k, hk⟩ := dropWhile_nl_split s
  obtain ⟨j, hj⟩ := trimRight_nl_split (s.dropWhile (· == 10))
  refine ⟨k, j, ?_⟩
  conv => lhs; rw [hk, hj]
  rw [splitLines_replicate_append, splitLines_append_replicate, List.append_assoc]
  rfl

/-- empty lines at both ends are nothing to the reader, unless one in front hides a front matter -/
theorem readLines_blanks (k j : Nat) (M : List Str) (h : k ≠ 0 → M.head? ≠ some hrLine) :
    readLines (List.replicate k [] ++ M ++ List.replicate j []) = readLines M := by
  rw [readLines_end_blanks]
  cases k with
  | zero => rfl
  | succ k => exact readLines_cons_blanks M _ (h (Nat.succ_ne_zero k))

theorem joinLines_replicate_nil (k : Nat) : joinLines (List.replicate k []) = List.replicate k 10 := by
  induction k with
  | zero => rfl
  | succ k ih => simp [List.replicate_succ, joinLines_cons, ih]

theorem readMd_joinLines (L : List Str) (hnl : ∀ l ∈ L, 10 ∉ l) : readMd (joinLines L) = readLines L := by
  unfold readMd
  rw [splitLines_joinLines L hnl, readLines_end_blank]

/-- the lines of a builder that holds whole lines, after `strings.Trim(s, "\n")`: what the reader
sees is what it sees on the lines themselves -/
theorem readMd_trimNl_joinLines (L : List Str) (hnl : ∀ l ∈ L, 10 ∉ l)
    (h : L.head? = some [] → hrLine ∉ L) : readMd (trimNl (joinLines L)) = readLines L := by
  obtain ⟨k, j, e⟩ := splitLines_trimNl (joinLines L)
  rw [splitLines_joinLines L hnl] at e
  unfold readMd
  rw [← readLines_end_blank L, e]
  refine (readLines_blanks k j _ fun hk hM => ?_).symm
  -- the trimmed text starts with `---` behind an empty line: both are lines of `L`
  have hm : hrLine ∈ L ++ [[]] := e ▸ List.mem_append_left _ (List.mem_append_right _ (List.mem_of_mem_head? hM))
  have hm : hrLine ∈ L := (List.mem_append.mp hm).resolve_right (by decide)
  obtain ⟨k, rfl⟩ := Nat.exists_eq_succ_of_ne_zero hk
  cases L with
  | nil => cases hm
  | cons l ls =>
    rw [List.replicate_succ] at e
    injection e with e1 _
    exact h (congrArg some e1) hm

theorem readLines_congr (X Y : List Str) (h : content X = content Y) : readLines X = readLines Y := by
  unfold readLines; rw [h]

/-- the lines of a front matter block: `---`, the key lines, `---`, an empty line -/
def fmBlock (fm : List Str) : List Str := hrLine :: (fm ++ [hrLine, []])

/-- the lines of a generated TOC: the title, the entry lines (with the empty lines around them),
`---`, an empty line -/
def tocBlock (toc : List Str) : List Str := tocTitle :: (toc ++ [hrLine, []])

theorem content_fm (fm M : List Str) (hfm : hrLine ∉ fm) :
    content (fmBlock fm ++ M) = content ([] :: M) := by
  unfold content fmBlock
  have : hrLine :: (fm ++ [hrLine, []]) ++ M = hrLine :: (fm ++ hrLine :: ([] :: M)) := by simp
  rw [this, skipFront_front fm _ hfm, skipFront_id ([] :: M) (by simp [hrLine])]

theorem content_toc (toc L : List Str) (htoc : hrLine ∉ toc) :
    content (tocBlock toc ++ L) = [] :: L := by
  unfold content tocBlock
  have e : tocTitle :: (toc ++ [hrLine, []]) ++ L = [] ++ tocTitle :: (toc ++ hrLine :: ([] :: L)) := by simp
  rw [skipFront_id _ (by simp [tocTitle, hrLine]), e, dropToc_toc [] toc _ (by simp) htoc]
  rfl

/-- Lines in front of a document that the reader skips: whole lines, the first of them not empty, and
behind them any body (not starting with `---`, without the TOC title) reads as it does on its own. -/
structure Skipped (P : List Str) : Prop where
  noNl : ∀ l ∈ P, 10 ∉ l
  head : P.head? ≠ some []
  skip : ∀ L, L.head? ≠ some hrLine → tocTitle ∉ L → readLines (P ++ L) = readLines L

namespace Skipped

theorem nil : Skipped [] := ⟨fun _ h => (nomatch h), fun h => (nomatch h), fun _ _ _ => rfl⟩

/-- a TOC block: the reader drops it and is left with an empty line -/
theorem toc (B : List Str) (hB : ∀ l ∈ B, 10 ∉ l ∧ l ≠ hrLine) : Skipped (tocBlock B) where
  noNl := by
    intro l hl
    simp only [tocBlock, List.mem_cons, List.mem_append, List.not_mem_nil, or_false] at hl
    rcases hl with rfl | hl | rfl | rfl
    · decide
    · exact (hB l hl).1
    · decide
    · exact List.not_mem_nil
  head := by simp [tocBlock, tocTitle]
  skip := fun L h1 h2 => by
    have hb : tocTitle ∉ [] :: L := fun h => (List.mem_cons.mp h).elim (fun e => absurd e (by decide)) h2
    rw [readLines_congr _ ([] :: L) (by
      rw [content_toc B L fun h => (hB _ h).2 rfl, content_plain _ (by simp [hrLine]) hb]), readLines_cons_blank L h1]

/-- a front matter block in front of skipped lines that do not start with `---` -/
theorem fm (A : List Str) (hA : ∀ l ∈ A, 10 ∉ l ∧ l ≠ hrLine) {P : List Str} (hP : Skipped P)
    (hh : P.head? ≠ some hrLine) : Skipped (fmBlock A ++ P) where
  noNl := by
    intro l hl
    simp only [fmBlock, List.cons_append, List.mem_cons, List.mem_append, List.not_mem_nil, or_false] at hl
    rcases hl with rfl | (hl | rfl | rfl) | hl
    · decide
    · exact (hA l hl).1
    · decide
    · exact List.not_mem_nil
    · exact hP.noNl l hl
  head := by simp [fmBlock, hrLine]
  skip := fun L h1 h2 => by
    have hhead : (P ++ L).head? ≠ some hrLine := by
      cases P with
      | nil => exact h1
      | cons x r => exact hh
    rw [List.append_assoc, readLines_congr _ _ (content_fm A _ fun h => (hA _ h).2 rfl), readLines_cons_blank _ hhead,
      hP.skip L h1 h2]

end Skipped

end Tabula.MarkdownDoc
