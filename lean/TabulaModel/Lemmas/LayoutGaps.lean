import TabulaModel.Model.LayoutGaps
/-
Lemmas about `Model/LayoutGaps.lean`: the difference array of 541d4a6 summed once is the
per-bucket count of the loop it replaced; lengths; the guard of 988a551 in plain terms.
-/
namespace Tabula.Layout

/-! ## `scan` of a point update is a suffix update -/

/-- `v` added to every entry at index `≥ s` -/
def addFrom : Nat → Int → List Int → List Int
  | _, _, [] => []
  | 0, v, x :: xs => (x + v) :: addFrom 0 v xs
  | s + 1, v, x :: xs => x :: addFrom s v xs

theorem scan_shift (a v : Int) (xs : List Int) : scan (a + v) xs = addFrom 0 v (scan a xs) := by
  induction xs generalizing a with
  | nil => rfl
  | cons x xs ih =>
    simp only [scan, addFrom]
    have h : a + v + x = a + x + v := by omega
    rw [h, ih]

theorem scan_addAt (acc : Int) (s : Nat) (v : Int) (d : List Int) :
    scan acc (addAt s v d) = addFrom s v (scan acc d) := by
  induction d generalizing s acc with
  | nil => cases s <;> rfl
  | cons x xs ih =>
    cases s with
    | zero =>
      simp only [addAt, scan, addFrom]
      have h : acc + (x + v) = acc + x + v := by omega
      rw [h, scan_shift]
    | succ s => simp only [addAt, scan, addFrom, ih]

theorem scan_bump (d : List Int) (r : Nat × Nat) :
    scan 0 (bump d r) = addFrom (r.2 + 1) (-1) (addFrom r.1 1 (scan 0 d)) := by
  simp only [bump, scan_addAt]

theorem scan_zeros (n : Nat) : scan 0 (List.replicate n 0) = List.replicate n 0 := by
  induction n with
  | zero => rfl
  | succ n ih => simp only [List.replicate_succ, scan, Int.add_zero, ih]

theorem addFrom_eq_mapIdx (s : Nat) (v : Int) (l : List Int) :
    addFrom s v l = l.mapIdx fun i x => if s ≤ i then x + v else x := by
  induction l generalizing s with
  | nil => cases s <;> rfl
  | cons x xs ih =>
    cases s with
    | zero => rw [addFrom, ih, List.mapIdx_cons]; simp only [Nat.zero_le, if_true]
    | succ s =>
      rw [addFrom, ih, List.mapIdx_cons]
      simp only [Nat.succ_le_succ_iff, Nat.le_zero_eq, Nat.add_one_ne_zero, if_false]

theorem addFrom_getElem? (s : Nat) (v : Int) (l : List Int) (i : Nat) :
    (addFrom s v l)[i]? = l[i]?.map (fun x => if s ≤ i then x + v else x) := by
  rw [addFrom_eq_mapIdx, List.getElem?_mapIdx]

/-- `histogram[b]++` for the buckets of a run, as an indexed map -/
theorem incrRange_eq_mapIdx (k s e : Nat) (l : List Int) :
    incrRange k s e l = l.mapIdx fun i x => if s ≤ k + i ∧ k + i ≤ e then x + 1 else x := by
  induction l generalizing k with
  | nil => rfl
  | cons x xs ih =>
    rw [incrRange, ih, List.mapIdx_cons]
    simp only [Nat.add_zero, Nat.add_assoc, Nat.add_comm 1]

theorem incrRange_getElem? (k s e : Nat) (l : List Int) (i : Nat) :
    (incrRange k s e l)[i]? = l[i]?.map (fun x => if s ≤ k + i ∧ k + i ≤ e then x + 1 else x) := by
  rw [incrRange_eq_mapIdx, List.getElem?_mapIdx]

/-- one `++` at the start and one `--` behind the end, summed, is one `++` per bucket of the run
(in the list model a `--` behind the array is a no-op, so `e < nb` is not needed here) -/
theorem addFrom_pair_take (nb s e : Nat) (l : List Int) (hse : s ≤ e) :
    (addFrom (e + 1) (-1) (addFrom s 1 l)).take nb = incrRange 0 s e (l.take nb) := by
  apply List.ext_getElem?
  intro i
  rw [List.getElem?_take, incrRange_getElem?, List.getElem?_take]
  by_cases hi : i < nb
  · simp only [hi, if_true, addFrom_getElem?, Option.map_map]
    congr 1
    funext x
    simp only [Function.comp, Nat.zero_add]
    -- up to `e` only the `++` is seen; behind `e` the `--` cancels it
    by_cases h3 : i ≤ e
    · rw [if_neg (by omega : ¬ e + 1 ≤ i)]; simp only [h3, and_true]
    · rw [if_pos (by omega : e + 1 ≤ i), if_pos (by omega : s ≤ i), if_neg (fun h => h3 h.2)]; omega
  · simp [hi]

theorem hist_fold (nb : Nat) (runs : List (Nat × Nat)) (h : ∀ r ∈ runs, r.1 ≤ r.2) (d : List Int) :
    (scan 0 (runs.foldl bump d)).take nb
      = runs.foldl (fun h r => incrRange 0 r.1 r.2 h) ((scan 0 d).take nb) := by
  induction runs generalizing d with
  | nil => rfl
  | cons r rs ih =>
    have hr := h r (List.mem_cons_self)
    simp only [List.foldl_cons]
    rw [ih (fun r' hr' => h r' (List.mem_cons_of_mem _ hr')), scan_bump,
      addFrom_pair_take nb r.1 r.2 _ hr]

theorem addAt_length (i : Nat) (v : Int) (l : List Int) : (addAt i v l).length = l.length := by
  induction l generalizing i with
  | nil => cases i <;> rfl
  | cons x xs ih => cases i <;> simp [addAt, ih]

theorem scan_length (a : Int) (l : List Int) : (scan a l).length = l.length := by
  induction l generalizing a with
  | nil => rfl
  | cons x xs ih => simp [scan, ih]

theorem bump_length (d : List Int) (r : Nat × Nat) : (bump d r).length = d.length := by
  simp only [bump, addAt_length]

theorem foldl_bump_length (runs : List (Nat × Nat)) (d : List Int) :
    (runs.foldl bump d).length = d.length :=
  List.foldlRecOn (motive := fun x => x.length = d.length) runs _ rfl fun x hx r _ => (bump_length x r).trans hx

theorem runOf_some (nb : Nat) (f : Frag) (r : Nat × Nat) (h : runOf nb f = some r) :
    r.1 ≤ r.2 ∧ r.2 < nb := by
  unfold runOf at h
  generalize truncInt (f.x / 5) = s at h
  generalize truncInt ((f.x + f.w) / 5) = e at h
  simp only at h
  -- the clamped start is not negative, the clamped end is below `nb`
  have hlo : 0 ≤ (if s < 0 then 0 else s) := by split <;> omega
  have hhi : (if e ≥ (nb : Int) then (nb : Int) - 1 else e) < nb := by split <;> omega
  generalize (if s < 0 then 0 else s) = lo at h hlo
  generalize (if e ≥ (nb : Int) then (nb : Int) - 1 else e) = hi at h hhi
  split at h
  · cases h; omega
  · cases h

theorem runs_valid (nb : Nat) (fs : List Frag) :
    ∀ r ∈ fs.filterMap (runOf nb), r.1 ≤ r.2 ∧ r.2 < nb := by
  intro r hr
  obtain ⟨f, _, hf⟩ := List.mem_filterMap.mp hr
  exact runOf_some nb f r hf

theorem maxBuckets_mul5 : ((maxBuckets : Nat) : Rat) * 5 = 5242880 := by decide +kernel

theorem div5_ge_iff (pw : Rat) : pw / 5 ≥ (maxBuckets : Rat) ↔ pw ≥ 5242880 := by
  have h5 : (0 : Rat) < 5 := by decide +kernel
  have h := @Rat.div_lt_iff pw 5 (maxBuckets : Rat) h5
  rw [maxBuckets_mul5] at h
  constructor
  · intro h1
    exact Rat.not_lt.mp (fun h2 => Rat.not_lt.mpr h1 (h.mpr h2))
  · intro h1
    exact Rat.not_lt.mp (fun h2 => Rat.not_lt.mpr h1 (h.mp h2))

theorem capGaps_length (maxCols : Nat) (gs : List Gap) (h : 1 ≤ maxCols) :
    (capGaps maxCols gs).length < maxCols := by
  unfold capGaps
  split
  · rw [List.length_take]; omega
  · omega

theorem ite_cap_length (c : Prop) [Decidable c] (maxCols : Nat) (gs : List Gap) (h : 1 ≤ maxCols) :
    (if c then capGaps maxCols gs else []).length < maxCols := by
  split
  · exact capGaps_length _ _ h
  · simp only [List.length_nil]; omega

theorem gapsOfHist_length (minGap : Rat) (maxCols nb : Nat) (hist : List Int) (f0 : Frag)
    (fs : List Frag) (h : 1 ≤ maxCols) :
    (gapsOfHist minGap maxCols nb hist f0 fs).length < maxCols := by
  unfold gapsOfHist
  exact ite_cap_length _ _ _ h

end Tabula.Layout
