import TabulaModel.Model.XrefFile
import TabulaModel.Lemmas.Xref
import TabulaModel.Lemmas.AndThen
/-!
`core.ObjectStream`: whatever was asked of it before, `GetObjectByIndex` answers what the
stream means.
-/
namespace Tabula.XrefFile
open Tabula.Pdf Tabula.Reader

theorem memberSlice_num (os : ObjStm) (i : Nat) (num : Int) (rel : Nat) (h : os.offsets[i]? = some (num, rel))
    (n' : Int) (bytes : Str) (hs : memberSlice os i = some (n', bytes)) : n' = num := by
  unfold memberSlice at hs
  rw [h] at hs
  simp only at hs
  split at hs
  · cases hs
  · cases hs; rfl

theorem memberSlice_none_of_offsets (os : ObjStm) (i : Nat) (h : os.offsets[i]? = none) :
    memberSlice os i = none := by
  unfold memberSlice; rw [h]

/-- everything the object remembers is what the stream means -/
def OSOk (dec : Except Reader.Err ObjStm) (st : OSState) : Prop :=
  (∀ os, st.decoded = some os → dec = .ok os) ∧
  (∀ i o, Xref.getLast st.objects i = some o →
    ∃ os num bytes s', dec = .ok os ∧ memberSlice os i = some (num, bytes) ∧ coreParse bytes = .ok (o, s'))

theorem osOk_empty (dec : Except Reader.Err ObjStm) : OSOk dec {} :=
  ⟨nofun, nofun⟩

theorem osGetByIndex_eq (dec : Except Reader.Err ObjStm) (st : OSState) (idx : Int) :
    osGetByIndex dec st idx =
      match osDecode dec st with
      | (none, st') => (none, st')
      | (some os, st') =>
        ((osAnswer os st'.objects idx).1, { st' with objects := (osAnswer os st'.objects idx).2 }) := by
  unfold osGetByIndex
  cases osDecode dec st with
  | mk r st' =>
    cases r with
    | none => rfl
    | some os => fun_cases osAnswer os st'.objects idx <;> simp only [osAnswer, *, if_true, if_false]

/-- the answer behind `decode()`, once the stream is known to decode to `os` (whether it was
decoded before or now) -/
theorem osAnswer_spec (os : ObjStm) (st : OSState) (idx : Int) (h : OSOk (.ok os) st) :
    (osAnswer os st.objects idx).1 = osSpec (.ok os) idx ∧
      OSOk (.ok os) { st with objects := (osAnswer os st.objects idx).2 } := by
  unfold osAnswer osSpec
  by_cases hneg : idx < 0
  · simp only [hneg, if_true]
    exact ⟨trivial, h⟩
  · simp only [hneg, if_false]
    cases hoff : os.offsets[idx.toNat]? with
    | none =>
      simp only [memberSlice_none_of_offsets os _ hoff]
      exact ⟨trivial, h⟩
    | some p =>
      obtain ⟨num, rel⟩ := p
      simp only
      cases hc : Xref.getLast st.objects idx.toNat with
      | some o =>
        obtain ⟨os', num', bytes, s', e1, e2, e3⟩ := h.2 _ o hc
        cases e1
        cases memberSlice_num os _ num rel hoff num' bytes e2
        simp only [e2, e3]
        exact ⟨trivial, h⟩
      | none =>
        simp only
        cases hs : memberSlice os idx.toNat with
        | none => exact ⟨rfl, h⟩
        | some q =>
          obtain ⟨n', bytes⟩ := q
          cases memberSlice_num os _ num rel hoff n' bytes hs
          simp only
          cases hp : coreParse bytes with
          | error e => exact ⟨rfl, h⟩
          | ok r => exact ⟨rfl, h.1, Xref.getLast_snoc_forall h.2 ⟨os, num, bytes, r.2, rfl, hs, hp⟩⟩

theorem osGetByIndex_spec (dec : Except Reader.Err ObjStm) (st : OSState) (idx : Int) (h : OSOk dec st) :
    (osGetByIndex dec st idx).1 = osSpec dec idx ∧ OSOk dec (osGetByIndex dec st idx).2 := by
  rw [osGetByIndex_eq]
  unfold osDecode
  cases hd : st.decoded with
  | none =>
    cases dec with
    | error e => exact ⟨rfl, h⟩
    | ok os => exact osAnswer_spec os { st with decoded := some os } idx ⟨fun _ e => congrArg Except.ok (Option.some.inj e), h.2⟩
  | some os =>
    cases h.1 os hd
    exact osAnswer_spec os st idx h

theorem osRun_refines (dec : Except Reader.Err ObjStm) (is : List Int) (st : OSState) (h : OSOk dec st) :
    osRun dec st is = is.map (osSpec dec) := by
  induction is generalizing st with
  | nil => rfl
  | cons i is ih =>
    obtain ⟨h1, h2⟩ := osGetByIndex_spec dec st i h
    simp only [osRun, List.map_cons]
    rw [h1, ih _ h2]

/-- `getCompressedObject`'s member: what the index means, with the number checked -/
theorem memberAtI_eq_osSpec (os : Reader.ObjStm) (n idx : Int) :
    memberAtI os n idx = (osSpec (.ok os) idx).bind fun p => if p.1 = n then some p.2 else none := by
  simp only [memberAtI, osSpec]
  by_cases hneg : idx < 0
  · simp only [hneg, if_true, Option.bind_none]
  · simp only [hneg, if_false]
    cases Reader.memberSlice os idx.toNat with
    | none => rfl
    | some p =>
      obtain ⟨num, bytes⟩ := p
      simp only
      cases Tabula.Pdf.coreParse bytes with
      | error _ => rfl
      | ok r => rfl

/-! ### the object as the code has it since c437385 (the header error is kept) -/

/-- what the two state machines have in common: the same decoded stream and per-index cache;
and a kept header error means the stream is one that does not decode -/
def OSRel (dec : Except Reader.Err ObjStm) (sk : OSStateK) (s : OSState) : Prop :=
  s.decoded = sk.decoded ∧ s.objects = sk.objects ∧
    (sk.headerErr = true → sk.decoded = none ∧ ∃ e, dec = .error e)

theorem osRel_empty (dec : Except Reader.Err ObjStm) : OSRel dec {} {} :=
  ⟨rfl, rfl, by intro h; cases h⟩

theorem osDecodeK_rel (keep : Bool) (dec : Except Reader.Err ObjStm) (sk : OSStateK) (s : OSState)
    (h : OSRel dec sk s) :
    (osDecodeK keep dec sk).1 = (osDecode dec s).1 ∧
      OSRel dec (osDecodeK keep dec sk).2 (osDecode dec s).2 := by
  obtain ⟨hd, ho, he⟩ := h
  unfold osDecodeK osDecode
  rw [hd]
  by_cases hk : sk.headerErr = true
  · obtain ⟨hnone, e, rfl⟩ := he hk
    rw [if_pos hk, hnone]
    exact ⟨rfl, hd, ho, he⟩
  · rw [if_neg hk]
    cases hsd : sk.decoded with
    | some os => exact ⟨rfl, hd, ho, he⟩
    | none =>
      cases dec with
      | ok os => exact ⟨rfl, rfl, ho, fun h => absurd h hk⟩
      | error e => exact ⟨rfl, hd.trans hsd, ho, fun _ => ⟨rfl, e, rfl⟩⟩

theorem osGetByIndexK_rel (keep : Bool) (dec : Except Reader.Err ObjStm) (sk : OSStateK) (s : OSState)
    (idx : Int) (h : OSRel dec sk s) :
    (osGetByIndexK keep dec sk idx).1 = (osGetByIndex dec s idx).1 ∧
      OSRel dec (osGetByIndexK keep dec sk idx).2 (osGetByIndex dec s idx).2 := by
  obtain ⟨r, sk', s', e₁, e₂, hd, ho, he⟩ := RelR.split (S := OSRel dec) (osDecodeK_rel keep dec sk s h)
  rw [osGetByIndex_eq, osGetByIndexK, e₁, e₂]
  cases r with
  | none => exact ⟨rfl, hd, ho, he⟩
  | some os =>
    simp only at ho ⊢
    rw [ho]
    exact ⟨rfl, hd, rfl, he⟩

/-- the code of c437385 answers every call sequence exactly as the "stays undecoded" machine -/
theorem osRunK_eq (keep : Bool) (dec : Except Reader.Err ObjStm) (is : List Int) (sk : OSStateK) (s : OSState)
    (h : OSRel dec sk s) : osRunK keep dec sk is = osRun dec s is := by
  induction is generalizing sk s with
  | nil => rfl
  | cons i is ih =>
    obtain ⟨h1, h2⟩ := osGetByIndexK_rel keep dec sk s i h
    simp only [osRunK, osRun]
    rw [h1, ih _ _ h2]

end Tabula.XrefFile
