import TabulaModel.Model.Chunk
import TabulaModel.Lemmas.A1
import TabulaModel.Lemmas.ListBasics
/-!
Helper lemmas for property C12 (element-based chunker): white-space stripping, the
per-step invariants of `chunkPage` (indices and page numbers for any splitter, cover for a
splitter that meets its contract on the texts it is shown), what `resolveRepeatedHeadings` delivers,
numbering (`setTotal_numbering`, for both chunkers) and the simulation between two section trackers.
-/
namespace Tabula.Chunk

theorem strip_append (a b : Str) : strip (a ++ b) = strip a ++ strip b := by
  unfold strip; exact List.filter_append a b

theorem strip_nil : strip [] = [] := rfl

theorem strip_flatMap {α} (f : α → Str) (l : List α) : strip (l.flatMap f) = l.flatMap fun a => strip (f a) :=
  List.filter_flatMap

theorem strip_reverse (a : Str) : strip a.reverse = (strip a).reverse := by
  unfold strip; exact List.filter_reverse

theorem strip_dropWhile (a : Str) : strip (a.dropWhile isSpace) = strip a := by
  conv => rhs; rw [← List.takeWhile_append_dropWhile (p := isSpace) (l := a), strip_append]
  rw [show strip (a.takeWhile isSpace) = [] from
    List.filter_eq_nil_iff.mpr fun c hc => by simp [List.mem_takeWhile_imp hc], List.nil_append]

theorem strip_trim (a : Str) : strip (trim a) = strip a := by
  unfold trim
  rw [strip_reverse, strip_dropWhile, strip_reverse, List.reverse_reverse, strip_dropWhile]

theorem strip_nn : strip [10, 10] = [] := by decide

theorem trim_eq_trimRight (a : Str) : trim a = trimRight (a.dropWhile isSpace) := rfl

theorem strip_trimRight (a : Str) : strip (trimRight a) = strip a := by
  unfold trimRight
  rw [strip_reverse, strip_dropWhile, strip_reverse, List.reverse_reverse]

/-- trimming the end takes white space from the end and nothing else -/
theorem trimRight_tail (s : Str) : ∃ ws, (∀ c ∈ ws, isSpace c = true) ∧ trimRight s ++ ws = s := by
  refine ⟨(s.reverse.takeWhile isSpace).reverse, ?_, ?_⟩
  · intro c hc
    exact List.mem_takeWhile_imp (List.mem_reverse.mp hc)
  · unfold trimRight
    rw [← List.reverse_append, List.takeWhile_append_dropWhile, List.reverse_reverse]

/-- everything up to a byte that is not white space survives the trimming of the end -/
theorem trimRight_keep (a : Str) (c : Nat) (b : Str) (hc : isSpace c = false) :
    trimRight (a ++ c :: b) = a ++ c :: trimRight b := by
  unfold trimRight
  rw [List.reverse_append, List.reverse_cons, List.append_assoc, List.singleton_append, List.dropWhile_append]
  split
  · next h =>
    rw [List.isEmpty_iff.mp h, List.dropWhile_cons_of_neg (by rw [hc]; exact Bool.false_ne_true), List.reverse_cons,
      List.reverse_reverse]
    rfl
  · rw [List.reverse_append, List.reverse_cons, List.reverse_reverse, List.append_assoc]
    rfl

/-- concatenated chunk texts -/
def textsOf (cs : List Chunk) : Str := (cs.map (·.text)).flatten

theorem textsOf_nil : textsOf [] = [] := rfl

theorem textsOf_append (a b : List Chunk) : textsOf (a ++ b) = textsOf a ++ textsOf b := by
  unfold textsOf; rw [List.map_append, List.flatten_append]

theorem textsOf_cons (c : Chunk) (cs : List Chunk) : textsOf (c :: cs) = c.text ++ textsOf cs := rfl

theorem textsOf_flatten (gs : List (List Chunk)) : textsOf gs.flatten = (gs.map textsOf).flatten := by
  rw [textsOf, List.map_flatten, List.flatten_flatten, List.map_map]; rfl

/-- the contract the text splitter has to meet (property C13, `split_conserves`) -/
def SplitOK (sp : Splitter) : Prop := ∀ t ps, sp t = some ps → strip ps.flatten = strip t

/-- the contract on the texts of a class `J` only. The chunker shows the splitter nothing but paragraphs joined by
blank lines, so a class that holds the paragraphs and is `JoinClosed` is all the cover theorem needs -/
def SplitOKOn (J : Str → Prop) (sp : Splitter) : Prop :=
  ∀ t ps, J t → sp t = some ps → strip ps.flatten = strip t

theorem SplitOK.on {sp : Splitter} (h : SplitOK sp) : SplitOKOn (fun _ => True) sp := fun t ps _ => h t ps

/-- joining two texts of the class by a blank line, as `chunkPage` joins paragraphs, stays in it -/
def JoinClosed (J : Str → Prop) : Prop := ∀ b t, J b → J t → J (b ++ [10, 10] ++ t)

theorem joinClosed_true : JoinClosed fun _ => True := fun _ _ _ _ => trivial

/-- `createTextChunk` for each piece: the pieces numbered from `idx` on -/
theorem piecesToChunks_eq (path : List Str) (page : Int) (ps : List Str) (idx : Nat) :
    piecesToChunks path page ps idx = (ps.zipIdx idx).map fun p => mkChunk (trim p.1) path page p.2 := by
  induction ps generalizing idx with
  | nil => rfl
  | cons t ts ih => rw [piecesToChunks, ih, List.zipIdx_cons, List.map_cons]

theorem piecesToChunks_length (path : List Str) (page : Int) (ps : List Str) (idx : Nat) :
    (piecesToChunks path page ps idx).length = ps.length := by
  rw [piecesToChunks_eq, List.length_map, List.length_zipIdx]

theorem piecesToChunks_idx (path : List Str) (page : Int) (ps : List Str) (idx : Nat) :
    (piecesToChunks path page ps idx).map (·.idx) = List.range' idx ps.length := by
  rw [piecesToChunks_eq, List.map_map, ← List.zipIdx_map_snd]; rfl

theorem piecesToChunks_texts (path : List Str) (page : Int) (ps : List Str) (idx : Nat) :
    strip (textsOf (piecesToChunks path page ps idx)) = strip ps.flatten := by
  induction ps generalizing idx with
  | nil => rfl
  | cons t ts ih =>
    simp only [piecesToChunks, textsOf_cons, List.flatten_cons, strip_append, ih]
    simp [mkChunk, strip_trim]

theorem piecesToChunks_mem (path : List Str) (page : Int) (ps : List Str) (idx : Nat) :
    ∀ c ∈ piecesToChunks path page ps idx,
      c.pageStart = page ∧ c.pageEnd = page ∧ c.path = path ∧ c.id = chunkId c.idx := by
  rw [piecesToChunks_eq]
  intro c hc
  obtain ⟨p, _, rfl⟩ := List.mem_map.mp hc
  exact ⟨rfl, rfl, rfl, rfl⟩

/-- what is true of every chunk produced on page `page` -/
def ChunkOK (page : Int) (c : Chunk) : Prop :=
  c.pageStart = page ∧ c.pageEnd = page ∧ c.id = chunkId c.idx

/-- the chunks `cs` emitted from a state with index `i` are numbered `i, i+1, …` -/
def Seq (i : Nat) (cs : List Chunk) : Prop := cs.map (·.idx) = List.range' i cs.length

theorem Seq_nil (i : Nat) : Seq i [] := rfl

theorem Seq_append {i : Nat} {a b : List Chunk} (ha : Seq i a) (hb : Seq (i + a.length) b) :
    Seq i (a ++ b) := by
  unfold Seq at *
  rw [List.map_append, ha, hb, List.length_append]
  simp

theorem textBlockToChunks_seq (sp : Splitter) (text : Str) (path : List Str) (page : Int) (i : Nat) :
    Seq i (textBlockToChunks sp text path page i) := by
  unfold textBlockToChunks Seq
  split <;> rw [piecesToChunks_idx, piecesToChunks_length]

theorem textBlockToChunks_ok (sp : Splitter) (text : Str) (path : List Str) (page : Int) (i : Nat) :
    ∀ c ∈ textBlockToChunks sp text path page i, ChunkOK page c ∧ c.path = path := by
  intro c h
  unfold textBlockToChunks at h
  split at h <;>
  · have := piecesToChunks_mem path page _ i c h
    exact ⟨⟨this.1, this.2.1, this.2.2.2⟩, this.2.2.1⟩

theorem textBlockToChunks_texts {J : Str → Prop} (sp : Splitter) (hsp : SplitOKOn J sp) (text : Str) (hJ : J text)
    (path : List Str) (page : Int) (i : Nat) :
    strip (textsOf (textBlockToChunks sp text path page i)) = strip text := by
  unfold textBlockToChunks
  split
  · rw [piecesToChunks_texts]; simp
  · rename_i ps h
    rw [piecesToChunks_texts]; exact hsp text ps hJ h

/-- Result of a step from state `st`: the emitted chunks are well-formed for the page and numbered
from `st.idx`, and the new index accounts for them. This holds whatever the splitter returns; only
`Cover` below needs its contract. -/
structure StepM {σ} (page : Int) (st : St σ) (r : St σ × List Chunk) : Prop where
  seq : Seq st.idx r.2
  idx : r.1.idx = st.idx + r.2.length
  ok : ∀ c ∈ r.2, ChunkOK page c

theorem StepM.nil {σ} (page : Int) (st : St σ) : StepM page st (st, []) :=
  ⟨Seq_nil _, rfl, fun c hc => by cases hc⟩

theorem StepM.append {σ} {page : Int} {st : St σ} {r1 r2 : St σ × List Chunk}
    (h1 : StepM page st r1) (h2 : StepM page r1.1 r2) : StepM page st (r2.1, r1.2 ++ r2.2) where
  seq := Seq_append h1.seq (by rw [← h1.idx]; exact h2.seq)
  idx := by simp only [List.length_append]; rw [h2.idx, h1.idx]; omega
  ok := fun c hc => (List.mem_append.mp hc).elim (h1.ok c) (h2.ok c)

theorem flush_m {σ} (sp : Splitter) (page : Int) (st : St σ) : StepM page st (flush sp page st) := by
  unfold flush
  by_cases h : st.block = []
  · rw [if_pos h]; exact StepM.nil page st
  · rw [if_neg h]
    exact ⟨textBlockToChunks_seq _ _ _ _ _, rfl, fun c hc => (textBlockToChunks_ok _ _ _ _ _ c hc).1⟩

theorem emitOne_m {σ} (sp : Splitter) (page : Int) (st : St σ) (sec : σ) (text : Str) (path : List Str) :
    StepM page st (emitOne sp page st sec text path) := by
  have h1 := flush_m sp page st
  unfold emitOne
  generalize flush sp page st = r at h1
  exact h1.append (r2 := ({ r.1 with sec := sec, idx := r.1.idx + 1 }, [mkChunk text path page r.1.idx]))
    ⟨rfl, rfl, fun c hc => by rw [List.mem_singleton.mp hc]; exact ⟨rfl, rfl, rfl⟩⟩

theorem stepElem_m {σ} (tr : Tracker σ) (sp : Splitter) (toc : List TOCEntry) (page : Int) (st : St σ) (e : Elem) :
    StepM page st (stepElem tr sp toc page st e) := by
  cases e with
  | image alt =>
    simp only [stepElem]
    split
    · exact flush_m sp page st
    · exact emitOne_m sp page st _ _ _
  | para t =>
    simp only [stepElem]
    split
    · exact emitOne_m sp page st _ _ _
    · exact ⟨Seq_nil _, rfl, fun c hc => by cases hc⟩
  | _ => exact emitOne_m sp page st _ _ _

theorem runElems_m {σ} (tr : Tracker σ) (sp : Splitter) (toc : List TOCEntry) (page : Int) (st : St σ) (es : List Elem) :
    StepM page st (runElems tr sp toc page st es) := by
  induction es generalizing st with
  | nil => exact StepM.nil page st
  | cons e es ih => exact (stepElem_m tr sp toc page st e).append (ih _)

theorem chunkPage_m {σ} (tr : Tracker σ) (sp : Splitter) (toc : List TOCEntry) (st : St σ) (pg : Page) :
    StepM pg.number st (chunkPage tr sp toc st pg) :=
  (runElems_m tr sp toc pg.number st (resolveRepeatedHeadings pg)).append (flush_m sp pg.number _)

/-- the pending text block, if there is one, is in the class -/
def BlockIn {σ} (J : Str → Prop) (st : St σ) : Prop := st.block ≠ [] → J st.block

/-- from a state whose pending block is in the class `J`: the stripped texts emitted by a step plus the stripped
pending block equal the stripped old block plus `added`, and the pending block is in the class again -/
def Cover {σ} (J : Str → Prop) (st : St σ) (r : St σ × List Chunk) (added : Str) : Prop :=
  BlockIn J st → strip (textsOf r.2) ++ strip r.1.block = strip st.block ++ strip added ∧ BlockIn J r.1

theorem Cover.append {σ} {J : Str → Prop} {st : St σ} {r1 r2 : St σ × List Chunk} {a1 a2 : Str}
    (h1 : Cover J st r1 a1) (h2 : Cover J r1.1 r2 a2) : Cover J st (r2.1, r1.2 ++ r2.2) (a1 ++ a2) := by
  intro hb
  obtain ⟨e1, b1⟩ := h1 hb
  obtain ⟨e2, b2⟩ := h2 b1
  refine ⟨?_, b2⟩
  simp only [textsOf_append, strip_append]
  rw [List.append_assoc, e2, ← List.append_assoc, e1, List.append_assoc]

theorem flush_block_nil {σ} (sp : Splitter) (page : Int) (st : St σ) : (flush sp page st).1.block = [] := by
  unfold flush
  split
  · assumption
  · rfl

theorem flush_cover {σ} {J : Str → Prop} (sp : Splitter) (hsp : SplitOKOn J sp) (page : Int) (st : St σ) :
    Cover J st (flush sp page st) [] := by
  intro hb
  unfold flush
  by_cases h : st.block = []
  · rw [if_pos h, h]; exact ⟨rfl, fun hne => absurd h hne⟩
  · rw [if_neg h]
    exact ⟨by simp only [textBlockToChunks_texts sp hsp _ (hb h)], fun hne => absurd rfl hne⟩

theorem emitOne_cover {σ} {J : Str → Prop} (sp : Splitter) (hsp : SplitOKOn J sp) (page : Int) (st : St σ) (sec : σ)
    (text : Str) (path : List Str) : Cover J st (emitOne sp page st sec text path) text := by
  have h1 := flush_cover sp hsp page st
  have hb := flush_block_nil sp page st
  unfold emitOne
  generalize flush sp page st = r at h1 hb
  have h2 : Cover J r.1 ({ r.1 with sec := sec, idx := r.1.idx + 1 }, [mkChunk text path page r.1.idx]) text :=
    fun hj => ⟨by simp only [hb, textsOf_cons, textsOf_nil, List.append_nil, strip_nil, List.nil_append, mkChunk], hj⟩
  exact h1.append h2

theorem stepElem_cover {σ} {J : Str → Prop} (hJ : JoinClosed J) (tr : Tracker σ) (sp : Splitter) (hsp : SplitOKOn J sp)
    (toc : List TOCEntry) (page : Int) (st : St σ) (e : Elem) (he : ∀ t, e = .para t → J t) :
    Cover J st (stepElem tr sp toc page st e) (render e) := by
  cases e with
  | image alt =>
    simp only [stepElem, render]
    by_cases h : alt = []
    · rw [if_pos h, if_pos h]; exact flush_cover sp hsp page st
    · rw [if_neg h, if_neg h]; exact emitOne_cover sp hsp page st _ _ _
  | para t =>
    simp only [stepElem, render]
    by_cases h : isHeadingElement t toc page = true
    · rw [if_pos h]; exact emitOne_cover sp hsp page st _ _ _
    · rw [if_neg h]
      intro hb
      by_cases hbn : st.block = []
      · rw [if_pos hbn]; exact ⟨by rw [hbn]; rfl, fun _ => he t rfl⟩
      · rw [if_neg hbn]
        exact ⟨by simp only [textsOf_nil, strip_nil, strip_append, strip_nn, List.nil_append, List.append_nil],
          fun _ => hJ _ _ (hb hbn) (he t rfl)⟩
  | _ => exact emitOne_cover sp hsp page st _ _ _

theorem runElems_cover {σ} {J : Str → Prop} (hJ : JoinClosed J) (tr : Tracker σ) (sp : Splitter) (hsp : SplitOKOn J sp)
    (toc : List TOCEntry) (page : Int) (st : St σ) (es : List Elem) (he : ∀ t, Elem.para t ∈ es → J t) :
    Cover J st (runElems tr sp toc page st es) (es.flatMap render) := by
  induction es generalizing st with
  | nil => exact fun hb => ⟨(List.nil_append _).trans (List.append_nil _).symm, hb⟩
  | cons e es ih =>
    exact (stepElem_cover hJ tr sp hsp toc page st e fun t ht => he t (ht ▸ List.mem_cons_self ..)).append
      (ih _ fun t ht => he t (List.mem_cons_of_mem _ ht))

/-- `resolveRepeatedHeadings` changes how a paragraph is delivered (as the heading it repeats) and nothing else: a
function that does not tell a heading from a paragraph with the same text sees the elements of the page -/
theorem resolveElems_map {α} (g : Elem → α) (hg : ∀ l t, g (.heading l t) = g (.para t))
    (layout : List (Int × Str)) (seen : List Str) (es : List Elem) :
    (resolveElems layout seen es).map g = es.map g := by
  induction es generalizing seen with
  | nil => rfl
  | cons e es ih =>
    cases e with
    | para t =>
      simp only [resolveElems]
      split
      · rw [List.map_cons, ih]; rfl
      · rw [List.map_cons, ih]; split <;> simp [hg]
    | _ => simp only [resolveElems, List.map_cons, ih]

theorem nthClamped_mem (ls : List Int) (n : Nat) (d : Int) : nthClamped ls n d ∈ ls ∨ nthClamped ls n d = d := by
  induction ls generalizing n d with
  | nil => right; rfl
  | cons l ls ih =>
    cases n with
    | zero => exact Or.inl (List.mem_cons_self ..)
    | succ n =>
      rw [nthClamped]
      rcases ih n l with h | h
      · exact Or.inl (List.mem_cons_of_mem _ h)
      · exact Or.inl (by rw [h]; exact List.mem_cons_self ..)

theorem levelsOf_mem (layout : List (Int × Str)) (key : Str) :
    ∀ l ∈ levelsOf layout key, ∃ h ∈ layout, h.1 = l := by
  intro l hl
  obtain ⟨h, hm, rfl⟩ := List.mem_map.mp hl
  exact ⟨h, (List.mem_filter.mp hm).1, rfl⟩

/-- what `resolveRepeatedHeadings` delivers: the elements of the page, except that a paragraph may
come as a heading with its own text and a level of the layout headings with that text (or 1) -/
theorem resolveElems_mem (layout : List (Int × Str)) (seen : List Str) (es : List Elem) (x : Elem)
    (h : x ∈ resolveElems layout seen es) :
    x ∈ es ∨ ∃ t l, x = .heading l t ∧ Elem.para t ∈ es ∧ (l ∈ levelsOf layout (trim t) ∨ l = 1) := by
  induction es generalizing seen with
  | nil => cases h
  | cons e es ih =>
    have tail : ∀ seen', x ∈ resolveElems layout seen' es →
        x ∈ e :: es ∨ ∃ t l, x = .heading l t ∧ Elem.para t ∈ e :: es ∧ (l ∈ levelsOf layout (trim t) ∨ l = 1) :=
      fun seen' h' => (ih seen' h').imp (List.mem_cons_of_mem _)
        fun ⟨t, l, hx, hp, hl⟩ => ⟨t, l, hx, List.mem_cons_of_mem _ hp, hl⟩
    cases e with
    | para t' =>
      simp only [resolveElems] at h
      split at h
      · rcases List.mem_cons.mp h with rfl | h
        · exact Or.inl (List.mem_cons_self ..)
        · exact tail _ h
      · rcases List.mem_cons.mp h with rfl | h
        · split
          · exact Or.inl (List.mem_cons_self ..)
          · exact Or.inr ⟨t', _, rfl, List.mem_cons_self .., nthClamped_mem ..⟩
        · exact tail _ h
    | _ =>
      simp only [resolveElems] at h
      rcases List.mem_cons.mp h with rfl | h
      · exact Or.inl (List.mem_cons_self ..)
      · exact tail _ h

/-- the same for a whole page -/
theorem resolve_mem (pg : Page) (x : Elem) (h : x ∈ resolveRepeatedHeadings pg) :
    x ∈ pg.elems ∨ ∃ t l, x = .heading l t ∧ Elem.para t ∈ pg.elems ∧
      ((∃ hs, pg.layout = some hs ∧ ∃ y ∈ hs, y.1 = l) ∨ l = 1) := by
  unfold resolveRepeatedHeadings at h
  cases hlay : pg.layout with
  | none => rw [hlay] at h; exact Or.inl h
  | some hs =>
    rw [hlay] at h
    exact (resolveElems_mem hs [] pg.elems x h).imp_right fun ⟨t, l, e, hp, hl⟩ =>
      ⟨t, l, e, hp, hl.imp_left fun hm => ⟨hs, rfl, levelsOf_mem hs _ l hm⟩⟩

/-- a heading among the resolved elements is a heading of the page, or a paragraph of the page
with a level of the page's layout headings (or 1) -/
theorem resolveElems_heading (layout : List (Int × Str)) (seen : List Str) (es : List Elem)
    (l : Int) (t : Str) (h : Elem.heading l t ∈ resolveElems layout seen es) :
    Elem.heading l t ∈ es ∨ (Elem.para t ∈ es ∧ ((∃ x ∈ layout, x.1 = l) ∨ l = 1)) := by
  rcases resolveElems_mem layout seen es _ h with h | ⟨t', l', e, hp, hl⟩
  · exact Or.inl h
  · cases e
    exact Or.inr ⟨hp, hl.imp_left (levelsOf_mem layout _ _)⟩

theorem resolveElems_para (layout : List (Int × Str)) (seen : List Str) (es : List Elem)
    (t : Str) (h : Elem.para t ∈ resolveElems layout seen es) : Elem.para t ∈ es :=
  (resolveElems_mem layout seen es _ h).elim id fun ⟨_, _, e, _⟩ => by cases e

theorem resolve_map {α} (g : Elem → α) (hg : ∀ l t, g (.heading l t) = g (.para t)) (pg : Page) :
    (resolveRepeatedHeadings pg).map g = pg.elems.map g := by
  unfold resolveRepeatedHeadings
  split
  · rfl
  · exact resolveElems_map g hg _ _ _

/-- in particular it changes no text -/
theorem resolve_render (pg : Page) :
    (resolveRepeatedHeadings pg).flatMap render = pg.elems.flatMap render := by
  rw [List.flatMap_def, List.flatMap_def, resolve_map render fun _ _ => rfl]

theorem chunkPage_block_nil {σ} (tr : Tracker σ) (sp : Splitter) (toc : List TOCEntry)
    (st : St σ) (pg : Page) : (chunkPage tr sp toc st pg).1.block = [] :=
  flush_block_nil sp pg.number _

/-- a paragraph that `resolveRepeatedHeadings` delivers is a paragraph of the page -/
theorem resolve_para (pg : Page) (t : Str) (h : Elem.para t ∈ resolveRepeatedHeadings pg) : Elem.para t ∈ pg.elems :=
  (resolve_mem pg _ h).elim id fun ⟨_, _, e, _⟩ => by cases e

theorem chunkPage_cover {σ} {J : Str → Prop} (hJ : JoinClosed J) (tr : Tracker σ) (sp : Splitter)
    (hsp : SplitOKOn J sp) (toc : List TOCEntry) (st : St σ) (pg : Page) (he : ∀ t, Elem.para t ∈ pg.elems → J t) :
    Cover J st (chunkPage tr sp toc st pg) (pg.elems.flatMap render) := by
  have h := (runElems_cover hJ tr sp hsp toc pg.number st (resolveRepeatedHeadings pg)
    fun t ht => he t (resolve_para pg t ht)).append (flush_cover sp hsp pg.number _)
  rwa [resolve_render, List.append_nil] at h

/-- page by page: every chunk of group `i` reports the number of page `i` -/
def PagesM : List Page → List (List Chunk) → Prop
  | [], [] => True
  | pg :: pgs, g :: gs => (∀ c ∈ g, c.pageStart = pg.number ∧ c.pageEnd = pg.number) ∧ PagesM pgs gs
  | _, _ => False

theorem chunkPages_m {σ} (tr : Tracker σ) (sp : Splitter) (toc : List TOCEntry) (st : St σ) (pgs : List Page) :
    PagesM pgs (chunkPages tr sp toc st pgs) ∧
      Seq st.idx (chunkPages tr sp toc st pgs).flatten ∧
      (∀ c ∈ (chunkPages tr sp toc st pgs).flatten, c.id = chunkId c.idx) := by
  induction pgs generalizing st with
  | nil => exact ⟨trivial, Seq_nil _, (by intro c hc; cases hc)⟩
  | cons pg pgs ih =>
    have h1 := chunkPage_m tr sp toc st pg
    obtain ⟨i1, i2, i3⟩ := ih (chunkPage tr sp toc st pg).1
    simp only [chunkPages, List.flatten_cons]
    refine ⟨⟨?_, i1⟩, ?_, ?_⟩
    · intro c hc; exact ⟨(h1.ok c hc).1, (h1.ok c hc).2.1⟩
    · exact Seq_append h1.seq (by rw [← h1.idx]; exact i2)
    · intro c hc
      rcases List.mem_append.mp hc with h | h
      · exact (h1.ok c h).2.2
      · exact i3 c h

theorem pagesM_mem (d : List Page) (gs : List (List Chunk)) (h : PagesM d gs) :
    ∀ g ∈ gs, ∀ c ∈ g, ∃ pg ∈ d, c.pageStart = pg.number ∧ c.pageEnd = pg.number := by
  fun_induction PagesM d gs with
  | case1 => intro g hg; cases hg
  | case2 pg pgs g0 gs ih =>
    intro g hg c hc
    rcases List.mem_cons.mp hg with rfl | hg
    · exact ⟨pg, List.mem_cons_self .., h.1 c hc⟩
    · obtain ⟨p, hp, e⟩ := ih h.2 g hg c hc
      exact ⟨p, List.mem_cons_of_mem _ hp, e⟩
  | case3 => exact h.elim

/-- what the chunks of one page look like -/
def PageOK (pg : Page) (g : List Chunk) : Prop :=
  (∀ c ∈ g, c.pageStart = pg.number ∧ c.pageEnd = pg.number) ∧
    strip (textsOf g) = strip (pg.elems.flatMap render)

/-- page by page: chunk group `i` belongs to page `i` -/
def PagesOK : List Page → List (List Chunk) → Prop
  | [], [] => True
  | pg :: pgs, g :: gs => PageOK pg g ∧ PagesOK pgs gs
  | _, _ => False

/-- every paragraph of the pages is in the class -/
def ParasIn (J : Str → Prop) (d : List Page) : Prop := ∀ pg ∈ d, ∀ t, Elem.para t ∈ pg.elems → J t

/-- **the page loop covers every page**, for a splitter that conserves the texts of a class which holds the
paragraphs of the document and is closed under the join -/
theorem chunkPages_okOn {σ} {J : Str → Prop} (hJ : JoinClosed J) (tr : Tracker σ) (sp : Splitter)
    (hsp : SplitOKOn J sp) (toc : List TOCEntry) (st : St σ) (hst : st.block = []) (pgs : List Page)
    (hd : ParasIn J pgs) : PagesOK pgs (chunkPages tr sp toc st pgs) := by
  have hm := (chunkPages_m tr sp toc st pgs).1
  induction pgs generalizing st with
  | nil => trivial
  | cons pg pgs ih =>
    have hb := chunkPage_block_nil tr sp toc st pg
    obtain ⟨hc, _⟩ := chunkPage_cover hJ tr sp hsp toc st pg (hd pg (List.mem_cons_self ..)) (fun h => absurd hst h)
    refine ⟨⟨hm.1, ?_⟩, ih _ hb (fun q hq => hd q (List.mem_cons_of_mem _ hq)) hm.2⟩
    rw [hb, hst] at hc
    simpa [strip_nil] using hc

theorem chunkPages_ok {σ} (tr : Tracker σ) (sp : Splitter) (hsp : SplitOK sp) (toc : List TOCEntry)
    (st : St σ) (hst : st.block = []) (pgs : List Page) :
    PagesOK pgs (chunkPages tr sp toc st pgs) ∧
      Seq st.idx (chunkPages tr sp toc st pgs).flatten ∧
      (∀ c ∈ (chunkPages tr sp toc st pgs).flatten, c.id = chunkId c.idx) :=
  ⟨chunkPages_okOn joinClosed_true tr sp hsp.on toc st hst pgs fun _ _ _ _ => trivial,
    (chunkPages_m tr sp toc st pgs).2⟩

/-- the texts of the page groups are the rendered elements of the pages -/
theorem pagesOK_texts (d : List Page) (gs : List (List Chunk)) (h : PagesOK d gs) :
    strip (textsOf gs.flatten) = strip ((d.flatMap (·.elems)).flatMap render) := by
  fun_induction PagesOK d gs with
  | case1 => rfl
  | case2 pg pgs g gs ih =>
    simp only [List.flatten_cons, List.flatMap_cons, List.flatMap_append, textsOf_append, strip_append]
    rw [h.1.2, ih h.2]
  | case3 => exact h.elim

theorem setTotal_length (cs : List Chunk) : (setTotal cs).length = cs.length := by
  simp [setTotal]

theorem setTotal_texts (cs : List Chunk) : textsOf (setTotal cs) = textsOf cs := by
  simp [setTotal, textsOf, List.map_map, Function.comp_def]

theorem setTotal_idx (cs : List Chunk) : (setTotal cs).map (·.idx) = cs.map (·.idx) := by
  simp [setTotal, List.map_map, Function.comp_def]

theorem setTotal_id (cs : List Chunk) : (setTotal cs).map (·.id) = cs.map (·.id) := by
  simp [setTotal, List.map_map, Function.comp_def]

theorem setTotal_path (cs : List Chunk) : (setTotal cs).map (·.path) = cs.map (·.path) := by
  simp [setTotal, List.map_map, Function.comp_def]

theorem dec_injective {a b : Nat} (h : Tabula.A1.dec a = Tabula.A1.dec b) : a = b :=
  Tabula.A1.dec_injective h

theorem chunkId_injective {a b : Nat} (h : chunkId a = chunkId b) : a = b := by
  unfold chunkId at h
  exact Tabula.A1.dec_injective (List.append_cancel_left h)

/-- Stamping the total on chunks numbered from 0 whose ids are an injective function `idOf` of the
index: indices `0..n-1`, ids as before and pairwise distinct, every chunk reports `n`. Both
chunkers end this way (`chunkId`, `layoutId`). -/
theorem setTotal_numbering (idOf : Nat → Str) (hinj : ∀ a b, idOf a = idOf b → a = b) (cs : List Chunk)
    (hseq : Seq 0 cs) (hid : ∀ c ∈ cs, c.id = idOf c.idx) :
    (setTotal cs).map (·.idx) = List.range (setTotal cs).length ∧
    (∀ c ∈ setTotal cs, c.id = idOf c.idx) ∧
    ((setTotal cs).map (·.id)).Nodup ∧
    ∀ c ∈ setTotal cs, c.total = (setTotal cs).length := by
  have hidx : (setTotal cs).map (·.idx) = List.range (setTotal cs).length := by
    rw [setTotal_idx, setTotal_length, List.range_eq_range']; exact hseq
  have hid' : ∀ c ∈ setTotal cs, c.id = idOf c.idx := by
    intro c hc
    obtain ⟨c0, h0, rfl⟩ := List.mem_map.mp hc
    exact hid c0 h0
  refine ⟨hidx, hid', ?_, ?_⟩
  · have hids : (setTotal cs).map (·.id) = ((setTotal cs).map (·.idx)).map idOf := by
      rw [List.map_map]; exact List.map_congr_left hid'
    rw [hids, hidx, List.nodup_iff_pairwise_ne, List.pairwise_map]
    exact (List.nodup_iff_pairwise_ne.mp List.nodup_range).imp fun hne he => hne (hinj _ _ he)
  · intro c hc
    obtain ⟨c0, _, rfl⟩ := List.mem_map.mp hc
    rw [setTotal_length]

/-- indices `0..n-1`, ids `chunk-<index>` and pairwise distinct, total `n` — whatever the splitter does -/
theorem chunkDocument_numbering (sp : Splitter) (d : Doc) :
    (chunkDocument sp d).map (·.idx) = List.range (chunkDocument sp d).length ∧
    (∀ c ∈ chunkDocument sp d, c.id = chunkId c.idx) ∧
    ((chunkDocument sp d).map (·.id)).Nodup ∧
    ∀ c ∈ chunkDocument sp d, c.total = (chunkDocument sp d).length := by
  obtain ⟨_, hseq, hid⟩ := chunkPages_m stackTracker sp (tableOfContents d) (initSt stackTracker) d
  exact setTotal_numbering chunkId (fun _ _ => chunkId_injective) _ hseq hid

/-- table-of-contents entries of other pages match nothing on page `n` -/
theorem any_of_other (l : List TOCEntry) (t : Str) (n : Int) (h : ∀ e ∈ l, (e.page == n) = false) :
    l.any (tocMatches t n) = false := by
  rw [List.any_eq_false]
  intro e he
  simp [tocMatches, h e he]

theorem find_of_other (l : List TOCEntry) (t : Str) (n : Int) (h : ∀ e ∈ l, (e.page == n) = false) :
    l.find? (tocMatches t n) = none := by
  rw [List.find?_eq_none]
  intro e he
  simp [tocMatches, h e he]

/-- two states that differ only in how the section path is tracked -/
def SimSt {σ τ} (R : σ → τ → Prop) (a : St σ) (b : St τ) : Prop :=
  R a.sec b.sec ∧ a.block = b.block ∧ a.blockPath = b.blockPath ∧ a.idx = b.idx

/-- a simulation relation: related states report the same path and stay related -/
structure TrackerSim {σ τ} (t1 : Tracker σ) (t2 : Tracker τ) (R : σ → τ → Prop) : Prop where
  init : R t1.init t2.init
  push : ∀ a b l t, R a b → R (t1.push a l t) (t2.push b l t)
  path : ∀ a b, R a b → t1.path a = t2.path b

theorem flush_sim {σ τ} (R : σ → τ → Prop) (sp : Splitter) (page : Int) (a : St σ) (b : St τ)
    (h : SimSt R a b) :
    SimSt R (flush sp page a).1 (flush sp page b).1 ∧ (flush sp page a).2 = (flush sp page b).2 := by
  obtain ⟨h1, h2, h3, h4⟩ := h
  unfold flush
  rw [← h2, ← h3, ← h4]
  by_cases hb : a.block = []
  · rw [if_pos hb, if_pos hb]; exact ⟨⟨h1, h2, h3, h4⟩, rfl⟩
  · rw [if_neg hb, if_neg hb]; exact ⟨⟨h1, rfl, rfl, rfl⟩, rfl⟩

theorem emitOne_sim {σ τ} (R : σ → τ → Prop) (sp : Splitter) (page : Int) (a : St σ) (b : St τ)
    (h : SimSt R a b) (s1 : σ) (s2 : τ) (hs : R s1 s2) (text : Str) (path : List Str) :
    SimSt R (emitOne sp page a s1 text path).1 (emitOne sp page b s2 text path).1 ∧
      (emitOne sp page a s1 text path).2 = (emitOne sp page b s2 text path).2 := by
  obtain ⟨⟨f1, f2, f3, f4⟩, fc⟩ := flush_sim R sp page a b h
  unfold emitOne
  generalize flush sp page a = ra at *
  generalize flush sp page b = rb at *
  obtain ⟨sa, ca⟩ := ra
  obtain ⟨sb, cb⟩ := rb
  simp only at f1 f2 f3 f4 fc ⊢
  subst fc
  exact ⟨⟨hs, f2, f3, by simp [f4]⟩, by simp [f4]⟩

theorem stepElem_sim {σ τ} (t1 : Tracker σ) (t2 : Tracker τ) (R : σ → τ → Prop)
    (hR : TrackerSim t1 t2 R) (sp : Splitter) (toc : List TOCEntry) (page : Int)
    (a : St σ) (b : St τ) (h : SimSt R a b) (e : Elem) :
    SimSt R (stepElem t1 sp toc page a e).1 (stepElem t2 sp toc page b e).1 ∧
      (stepElem t1 sp toc page a e).2 = (stepElem t2 sp toc page b e).2 := by
  have hsec := h.1
  have hp := hR.path _ _ hsec
  cases e with
  | heading l t =>
    simp only [stepElem]
    have hs := hR.push _ _ l t hsec
    rw [hR.path _ _ hs]
    exact emitOne_sim R sp page a b h _ _ hs _ _
  | image alt =>
    simp only [stepElem]
    by_cases ha : alt = []
    · rw [if_pos ha, if_pos ha]; exact flush_sim R sp page a b h
    · rw [if_neg ha, if_neg ha, hp]; exact emitOne_sim R sp page a b h _ _ hsec _ _
  | para t =>
    simp only [stepElem]
    by_cases hh : isHeadingElement t toc page = true
    · rw [if_pos hh, if_pos hh]
      have hs := hR.push _ _ (getHeadingLevel t toc page) t hsec
      rw [hR.path _ _ hs]
      exact emitOne_sim R sp page a b h _ _ hs _ _
    · rw [if_neg hh, if_neg hh]
      obtain ⟨h1, h2, h3, h4⟩ := h
      rw [hp, h2]
      exact ⟨⟨h1, rfl, rfl, h4⟩, rfl⟩
  | _ => simp only [stepElem]; rw [hp]; exact emitOne_sim R sp page a b h _ _ hsec _ _

theorem runElems_sim {σ τ} (t1 : Tracker σ) (t2 : Tracker τ) (R : σ → τ → Prop)
    (hR : TrackerSim t1 t2 R) (sp : Splitter) (toc : List TOCEntry) (page : Int)
    (a : St σ) (b : St τ) (h : SimSt R a b) (es : List Elem) :
    SimSt R (runElems t1 sp toc page a es).1 (runElems t2 sp toc page b es).1 ∧
      (runElems t1 sp toc page a es).2 = (runElems t2 sp toc page b es).2 := by
  induction es generalizing a b with
  | nil => exact ⟨h, rfl⟩
  | cons e es ih =>
    obtain ⟨s1, c1⟩ := stepElem_sim t1 t2 R hR sp toc page a b h e
    obtain ⟨s2, c2⟩ := ih _ _ s1
    simp only [runElems]
    exact ⟨s2, by rw [c1, c2]⟩

theorem chunkPages_sim {σ τ} (t1 : Tracker σ) (t2 : Tracker τ) (R : σ → τ → Prop)
    (hR : TrackerSim t1 t2 R) (sp : Splitter) (toc : List TOCEntry)
    (a : St σ) (b : St τ) (h : SimSt R a b) (pgs : List Page) :
    chunkPages t1 sp toc a pgs = chunkPages t2 sp toc b pgs := by
  induction pgs generalizing a b with
  | nil => rfl
  | cons pg pgs ih =>
    obtain ⟨s1, c1⟩ := runElems_sim t1 t2 R hR sp toc pg.number a b h (resolveRepeatedHeadings pg)
    obtain ⟨s2, c2⟩ := flush_sim R sp pg.number _ _ s1
    simp only [chunkPages, chunkPage]
    rw [c1, c2, ih _ _ s2]

theorem runElems_append {σ} (tr : Tracker σ) (sp : Splitter) (toc : List TOCEntry) (page : Int)
    (st : St σ) (es fs : List Elem) :
    runElems tr sp toc page st (es ++ fs) =
      ((runElems tr sp toc page (runElems tr sp toc page st es).1 fs).1,
       (runElems tr sp toc page st es).2 ++ (runElems tr sp toc page (runElems tr sp toc page st es).1 fs).2) := by
  induction es generalizing st with
  | nil => simp [runElems]
  | cons e es ih => simp only [List.cons_append, runElems, ih, List.append_assoc]

/-- the state `chunkPages` reaches after the pages `pgs` -/
def stateAfter {σ} (tr : Tracker σ) (sp : Splitter) (toc : List TOCEntry) : St σ → List Page → St σ
  | st, [] => st
  | st, pg :: pgs => stateAfter tr sp toc (chunkPage tr sp toc st pg).1 pgs

theorem chunkPages_append {σ} (tr : Tracker σ) (sp : Splitter) (toc : List TOCEntry)
    (st : St σ) (ps qs : List Page) :
    chunkPages tr sp toc st (ps ++ qs) =
      chunkPages tr sp toc st ps ++ chunkPages tr sp toc (stateAfter tr sp toc st ps) qs := by
  induction ps generalizing st with
  | nil => rfl
  | cons p ps ih => simp only [List.cons_append, chunkPages, stateAfter, ih]

theorem chunkPages_length {σ} (tr : Tracker σ) (sp : Splitter) (toc : List TOCEntry)
    (st : St σ) (ps : List Page) : (chunkPages tr sp toc st ps).length = ps.length := by
  induction ps generalizing st with
  | nil => rfl
  | cons p ps ih => simp [chunkPages, ih]

theorem stateAfter_block_nil {σ} (tr : Tracker σ) (sp : Splitter) (toc : List TOCEntry)
    (st : St σ) (h : st.block = []) (ps : List Page) :
    (stateAfter tr sp toc st ps).block = [] := by
  induction ps generalizing st with
  | nil => exact h
  | cons p ps ih => exact ih _ (chunkPage_block_nil tr sp toc st p)

/-- a page without elements, met with an empty text block, changes nothing -/
theorem chunkPage_empty {σ} (tr : Tracker σ) (sp : Splitter) (toc : List TOCEntry)
    (st : St σ) (h : st.block = []) (pg : Page) (he : pg.elems = []) :
    chunkPage tr sp toc st pg = (st, []) := by
  have hr : resolveRepeatedHeadings pg = [] := by
    unfold resolveRepeatedHeadings
    cases hl : pg.layout with
    | none => exact he
    | some hs => simp only [he, resolveElems]
  unfold chunkPage
  simp only [hr, runElems, flush, h, if_true, List.append_nil]

theorem cellText_cons (b : Nat) (bs : Str) :
    cellText (b :: bs) = (if b == 10 then [32] else if b == 124 then [92, 124] else [b]) ++ cellText bs := rfl

/-- the loop of `createListChunk` writes every item's text once, in order, each on its own line
behind its indentation and its marker (`- ` or `n. `), whatever the counters it starts with -/
theorem fmtListItems_lines (ordered : Bool) (items : List (Int × Str)) (ctrs : List (Int × Nat)) (last : Int) :
    ∃ marks : List Str, marks.length = items.length ∧
      fmtListItems ordered items ctrs last = (marks.zip items).flatMap (fun m => m.1 ++ m.2.2 ++ [10]) := by
  induction items generalizing ctrs last with
  | nil => exact ⟨[], rfl, rfl⟩
  | cons it rest ih =>
    obtain ⟨lvl, txt⟩ := it
    simp only [fmtListItems]
    generalize (if lvl ≤ last then ctrs.filter (fun e => !(decide (lvl < e.1))) else ctrs) = c
    split
    · obtain ⟨ms, hl, he⟩ := ih (ctrSet c lvl (ctrGet c lvl + 1)) lvl
      exact ⟨(indent lvl ++ Tabula.A1.dec (ctrGet c lvl + 1) ++ [46, 32]) :: ms, congrArg (· + 1) hl, by rw [he]; rfl⟩
    · obtain ⟨ms, hl, he⟩ := ih c lvl
      exact ⟨(indent lvl ++ [45, 32]) :: ms, congrArg (· + 1) hl, by rw [he]; rfl⟩

end Tabula.Chunk
