import TabulaModel.Lemmas.OverlapChar
/-!
C13: the paragraph splitter of `rag/overlap.go` for ANY bytes, under every reading `f` of the
characters of a string that follows the scan (`Split.Reads`): separators are ASCII, so the
paragraphs carry exactly what the text carries, and the paragraph overlap carries a suffix of it.
-/
set_option linter.unusedVariables false
namespace Tabula.Overlap
open Tabula.Split

/-- `strings.Split(text, "\n")` is the library's `splitOn` -/
theorem splitLines_eq (text acc : Str) : splitLines text acc = text.splitOnPPrepend (· == 10) acc := by
  induction text generalizing acc with
  | nil => rfl
  | cons c rest ih =>
    rw [splitLines, List.splitOnPPrepend, ih, ih]
    by_cases h : c = 10 <;> simp [h]

/-- one iteration of the loop of `splitIntoParagraphs` -/
def paraStep (st : Str × List Str) (line : Str) : Str × List Str :=
  let trimmed := trimSpace line
  if trimmed = [] then
    (if st.1 ≠ [] then ([], trimSpace st.1 :: st.2) else st)
  else ((if st.1 ≠ [] then st.1 ++ [32] else st.1) ++ trimmed, st.2)

def paraFinish (st : Str × List Str) : List Str :=
  (if st.1 ≠ [] then trimSpace st.1 :: st.2 else st.2).reverse

theorem splitIntoParagraphs_eq (text : Str) :
    splitIntoParagraphs text = paraFinish ((splitLines text []).foldl paraStep ([], [])) := rfl

section
variable {f : Str → Str} (hf : Reads f)
include hf

/-- joining ANY pieces with an ASCII whitespace separator keeps exactly what `f` reads of them -/
theorem reads_joinWith (b : Nat) (t : Str) (hb : b < 0x80) (hs : WsOnly (b :: t)) (ps : List Str) :
    f (joinWith (b :: t) ps) = ps.flatMap f := by
  induction ps with
  | nil => simp [joinWith, hf.nil]
  | cons p rest ih =>
    rw [joinWith_cons]
    split
    · rename_i h; subst h; simp
    · rw [hf.sep p hb hs, ih, List.flatMap_cons]

theorem reads_splitLines (text : Str) : (splitLines text []).flatMap f = f text := by
  rw [← reads_joinWith hf 10 [] (by decide) wsOnly_nl, joinWith_eq_intercalate, splitLines_eq]
  exact congrArg f (List.intercalate_splitOn 10)

/-- the paragraph loop: finished paragraphs and current paragraph carry what was read so far -/
theorem reads_paraStep (content : Str) (st : Str × List Str) (line : Str)
    (h : st.2.reverse.flatMap f ++ f st.1 = content) :
    (paraStep st line).2.reverse.flatMap f ++ f (paraStep st line).1 = content ++ f line := by
  unfold paraStep
  simp only
  have hts := hf.trim line
  by_cases ht : trimSpace line = []
  · rw [if_pos ht]
    have hz : f line = [] := by rw [← hts, ht, hf.nil]
    rw [hz, List.append_nil]
    by_cases hc : st.1 ≠ []
    · rw [if_pos hc]
      simp only [List.reverse_cons, List.flatMap_append, List.flatMap_cons, List.flatMap_nil,
        List.append_nil, hf.nil]
      rw [hf.trim]; exact h
    · rw [if_neg hc]; exact h
  · rw [if_neg ht]
    simp only
    rw [hf.sep_ite st.1 (by decide) wsOnly_space, hts, ← List.append_assoc, h]

/-- `splitIntoParagraphs` keeps exactly the characters of ANY byte string -/
theorem reads_splitIntoParagraphs (text : Str) : (splitIntoParagraphs text).flatMap f = f text := by
  have inv := foldl_content
    (P := fun content (st : Str × List Str) => st.2.reverse.flatMap f ++ f st.1 = content)
    (Q := fun _ => True) (fun content st l _ h => reads_paraStep hf content st l h)
    (splitLines text []) [] ([], []) (fun _ _ => trivial) (by simp [hf.nil])
  rw [List.nil_append, reads_splitLines hf text] at inv
  rw [splitIntoParagraphs_eq]
  generalize (splitLines text []).foldl paraStep ([], []) = st at inv
  unfold paraFinish
  by_cases hc : st.1 ≠ []
  · rw [if_pos hc]
    simp only [List.reverse_cons, List.flatMap_append, List.flatMap_cons, List.flatMap_nil,
      List.append_nil]
    rw [hf.trim]; exact inv
  · rw [if_neg hc]
    have hc' : st.1 = [] := by simpa using hc
    rw [hc', hf.nil, List.append_nil] at inv
    exact inv

/-- the paragraph overlap of ANY byte string carries a suffix of its characters -/
theorem suffix_paragraphOverlap (cl : Classes) (c : OverlapConfig) (text : Str) :
    Suffix f text (generateParagraphOverlap cl c text).1 := by
  unfold generateParagraphOverlap
  simp only
  split
  · exact suffix_nil hf text
  · generalize (splitIntoParagraphs text).length - min c.size (splitIntoParagraphs text).length = k
    refine ⟨((splitIntoParagraphs text).take k).flatMap f, ?_⟩
    rw [hf.trim, reads_joinWith hf 10 [10] (by decide) wsOnly_nlnl,
      ← List.flatMap_append, List.take_append_drop, reads_splitIntoParagraphs hf]

end

theorem splitIntoParagraphs_valid (text : Str) (hv : validUtf8 text = true) :
    ∀ p ∈ splitIntoParagraphs text, validUtf8 p = true :=
  valid_of_flatMap_illFormed (reads_splitIntoParagraphs reads_illFormed text) hv

end Tabula.Overlap
