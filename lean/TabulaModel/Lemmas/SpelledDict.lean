import TabulaModel.Model.Spell
/-!
# Spelled dictionaries: their bytes, and the smallest ones, `<</Key n>>`

A dictionary with one entry, a name written in raw regular characters and a non-negative integer
behind one space, is what the satisfiability witnesses of the cross-reference theorems use as
trailer or stream dictionary (`<</Size 2>>`, `<</Prev 9>>`, `<</Length 3>>`): its legality and its
bytes, for every key and every integer.
-/
namespace Tabula.Pdf

theorem sepOk_nil : SepOk [] := fun _ hu => by cases hu

theorem sepOk_ws {b : Nat} (h : isWs b = true) : SepOk [.ws b] := fun u hu => by
  cases hu with
  | head => exact h
  | tail _ h' => cases h'

theorem renderSep_append (a b : Sep) : renderSep (a ++ b) = renderSep a ++ renderSep b :=
  List.flatMap_append

/-- the bytes of a dictionary: `<<` and `>>` around its entries, the closing separator in front of `>>` -/
theorem render_dict (pre : Sep) (kvs : List SObj) (close : Sep) :
    (SObj.dict pre kvs close).render =
      renderSep pre ++ 60 :: 60 :: (renderList kvs ++ (renderSep close ++ [62, 62])) := by
  rw [SObj.render]

/-- the key `bs`, every byte a regular character other than `#` -/
def RegularName (bs : Str) : Prop := ∀ b ∈ bs, isWs b = false ∧ isDelim b = false ∧ b ≠ 35

instance (bs : Str) : Decidable (RegularName bs) := by unfold RegularName; infer_instance

theorem regularName_ok {bs : Str} (hbs : RegularName bs) : ∀ p ∈ bs.map NPiece.raw, p.Ok := by
  intro p hp
  obtain ⟨b, hb, rfl⟩ := List.mem_map.mp hp
  exact hbs b hb

theorem valid_singleDict {pre np close : Sep} {ps : List NPiece} {v : SObj} (hpre : SepOk pre) (hnp : SepOk np)
    (hclose : SepOk close) (hps : ∀ p ∈ ps, p.Ok) (hv : v.Valid true) (need : Bool) :
    (SObj.dict pre [SObj.name np ps, v] close).Valid need :=
  ⟨hpre, hclose, ⟨rfl, ⟨hnp, hps⟩, hv, trivial⟩, List.nodup_cons.mpr ⟨List.not_mem_nil, List.nodup_nil⟩⟩

theorem valid_nameIntDict {pre np close : Sep} {bs : Str} {i : Int} (hpre : SepOk pre) (hnp : SepOk np)
    (hclose : SepOk close) (hbs : RegularName bs) (hlo : -(2 ^ 63 : Int) ≤ i) (hhi : i < (2 ^ 63 : Int))
    (need : Bool) :
    (SObj.dict pre [SObj.name np (bs.map .raw), SObj.int [.ws 32] false 0 i] close).Valid need :=
  valid_singleDict (v := SObj.int [.ws 32] false 0 i) hpre hnp hclose (regularName_ok hbs)
    ⟨sepOk_ws rfl, fun _ => List.cons_ne_nil _ _, hlo, hhi⟩ need

theorem renderName_raw (bs : Str) : renderName (bs.map .raw) = bs := by
  induction bs with
  | nil => rfl
  | cons b bs ih => simp only [renderName, List.map_cons, List.flatMap_cons, NPiece.render] at ih ⊢; rw [ih]; rfl

theorem render_nameIntDict (pre np close : Sep) (bs : Str) (n : Nat) :
    (SObj.dict pre [SObj.name np (bs.map .raw), SObj.int [.ws 32] false 0 (n : Int)] close).render =
      renderSep pre ++ 60 :: 60 :: (renderSep np ++ 47 :: (bs ++ 32 :: (Tabula.A1.dec n ++ (renderSep close ++ [62, 62])))) := by
  have hn : ¬ ((n : Int) < 0) := by omega
  simp only [SObj.render, renderList, renderSep, List.flatMap_nil, List.flatMap_cons, SepUnit.render,
    renderName_raw, printInt, hn, if_false, Bool.false_eq_true, List.replicate_zero, Int.natAbs_natCast,
    List.nil_append, List.append_nil, List.cons_append, List.append_assoc]

end Tabula.Pdf
