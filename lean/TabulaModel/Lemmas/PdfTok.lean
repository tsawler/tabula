import TabulaModel.Model.Spell
import TabulaModel.Lemmas.A1
import TabulaModel.Lemmas.PdfName
import TabulaModel.Lemmas.PdfStr
import TabulaModel.Lemmas.PdfHex
import TabulaModel.Lemmas.PdfLexGrammar
import TabulaModel.Lemmas.PdfNumLoop
namespace Tabula.Pdf
open Tabula.A1 (atoi dec)

/-! Token level of property C06: `nextToken` reads every legal spelling of every token back,
and `lexSkip` reads through every legal separator.  Core Lean only. -/

namespace Tok

theorem skipWs_allWs (w rest : Str) (h : AllWs w) : skipWs (w ++ rest) = skipWs rest :=
  skip_allWs skipWs (fun c r hc => by rw [skipWs, if_pos hc]) w rest h

theorem skipWs_nonws (b : Nat) (r : Str) (h : isWs b = false) : skipWs (b :: r) = b :: r := by
  rw [skipWs]; simp [h]

/-- the body of `nextToken` after white space has been skipped -/
def dispatch (b : Nat) (r : Str) : Option (Token × Str) :=
  if b = 37 then
    let p := commentBody r
    some (.comment (37 :: p.1), p.2)
  else if b = 91 then some (.arrStart, r)
  else if b = 93 then some (.arrEnd, r)
  else if b = 40 then
    match strLoop 1 r with
    | none => none
    | some (v, r') => some (.str v, r')
  else if b = 60 then
    match r with
    | 60 :: r' => some (.dictStart, r')
    | _ =>
      match hexLoop r with
      | none => none
      | some (v, r') => some (.hexstr v, r')
  else if b = 62 then
    match r with
    | 62 :: r' => some (.dictEnd, r')
    | _ => none
  else if b = 47 then
    match nameLoop r with
    | none => none
    | some (v, r') => some (.name v, r')
  else if isDigit b || b = 45 || b = 43 || b = 46 then
    let p := numLoop false true (b :: r)
    some (if p.2.1 then .real p.1 else .integer p.1, p.2.2)
  else if isAlpha b then
    let v := (b :: r).takeWhile isAlnum
    let r' := (b :: r).dropWhile isAlnum
    some (if v = [82] then .ref else .keyword v, r')
  else none

theorem nextToken_of_skipWs {inp : Str} {b : Nat} {r : Str} (h : skipWs inp = b :: r) :
    nextToken inp = dispatch b r := by
  unfold nextToken
  rw [h]
  rfl

theorem nextToken_of_skipWs_nil {inp : Str} (h : skipWs inp = []) : nextToken inp = some (.eof, []) := by
  unfold nextToken
  rw [h]

theorem nextToken_cons (b : Nat) (r : Str) (h : isWs b = false) : nextToken (b :: r) = dispatch b r :=
  nextToken_of_skipWs (skipWs_nonws b r h)

/-! `dispatch` on each class of first byte -/

theorem dispatch_comment (r : Str) :
    dispatch 37 r = some (.comment (37 :: (commentBody r).1), (commentBody r).2) := rfl

theorem dispatch_arrStart (r : Str) : dispatch 91 r = some (.arrStart, r) := rfl

theorem dispatch_arrEnd (r : Str) : dispatch 93 r = some (.arrEnd, r) := rfl

theorem dispatch_str (r : Str) :
    dispatch 40 r = (match strLoop 1 r with
      | none => none
      | some (v, r') => some (.str v, r')) := rfl

theorem dispatch_dictStart (r : Str) : dispatch 60 (60 :: r) = some (.dictStart, r) := rfl

theorem dispatch_hexstr (r : Str) (h : r.head? ≠ some 60) :
    dispatch 60 r = (match hexLoop r with
      | none => none
      | some (v, r') => some (.hexstr v, r')) := by
  cases r with
  | nil => rfl
  | cons c r' =>
    have hc : c ≠ 60 := fun e => h (by rw [e]; rfl)
    unfold dispatch
    rw [if_neg (by decide), if_neg (by decide), if_neg (by decide), if_neg (by decide), if_pos rfl]
    split
    · next e => cases e; exact absurd rfl hc
    · rfl

theorem dispatch_dictEnd (r : Str) : dispatch 62 (62 :: r) = some (.dictEnd, r) := rfl

theorem dispatch_gt (r : Str) (h : r.head? ≠ some 62) : dispatch 62 r = none := by
  cases r with
  | nil => rfl
  | cons c r' =>
    have hc : c ≠ 62 := fun e => h (by rw [e]; rfl)
    unfold dispatch
    rw [if_neg (by decide), if_neg (by decide), if_neg (by decide), if_neg (by decide), if_neg (by decide),
      if_pos rfl]
    split
    · next e => cases e; exact absurd rfl hc
    · rfl

theorem dispatch_name (r : Str) :
    dispatch 47 r = (match nameLoop r with
      | none => none
      | some (v, r') => some (.name v, r')) := rfl

/-- on a byte that is none of `% [ ] ( < > /` the lexer reads a number or a word -/
theorem dispatch_regular (b : Nat) (r : Str)
    (h : b ≠ 37 ∧ b ≠ 91 ∧ b ≠ 93 ∧ b ≠ 40 ∧ b ≠ 60 ∧ b ≠ 62 ∧ b ≠ 47) :
    dispatch b r =
      if isDigit b || b = 45 || b = 43 || b = 46 then
        some (if (numLoop false true (b :: r)).2.1 then .real (numLoop false true (b :: r)).1
              else .integer (numLoop false true (b :: r)).1, (numLoop false true (b :: r)).2.2)
      else if isAlpha b then
        some (if (b :: r).takeWhile isAlnum = [82] then .ref else .keyword ((b :: r).takeWhile isAlnum),
          (b :: r).dropWhile isAlnum)
      else none := by
  obtain ⟨h37, h91, h93, h40, h60, h62, h47⟩ := h
  unfold dispatch
  rw [if_neg h37, if_neg h91, if_neg h93, if_neg h40, if_neg h60, if_neg h62, if_neg h47]

/-- the test that sends `NextToken` to `readNumber` -/
theorem numStart_iff (b : Nat) :
    (isDigit b || b = 45 || b = 43 || b = 46) = true ↔ b = 45 ∨ b = 43 ∨ b = 46 ∨ isDigit b = true := by
  simp only [isDigit, Bool.or_eq_true, Bool.and_eq_true, decide_eq_true_eq]
  omega

theorem dispatch_numStart (b : Nat) (r : Str) (h : b = 45 ∨ b = 43 ∨ b = 46 ∨ isDigit b = true) :
    dispatch b r =
      some (if (numLoop false true (b :: r)).2.1 then .real (numLoop false true (b :: r)).1
            else .integer (numLoop false true (b :: r)).1, (numLoop false true (b :: r)).2.2) := by
  have hne : b ≠ 37 ∧ b ≠ 91 ∧ b ≠ 93 ∧ b ≠ 40 ∧ b ≠ 60 ∧ b ≠ 62 ∧ b ≠ 47 := by
    simp only [isDigit, Bool.and_eq_true, decide_eq_true_eq] at h
    omega
  rw [dispatch_regular b r hne, if_pos ((numStart_iff b).2 h)]

theorem dispatch_alpha (b : Nat) (r : Str) (h : isAlpha b = true) :
    dispatch b r =
      some (if (b :: r).takeWhile isAlnum = [82] then .ref else .keyword ((b :: r).takeWhile isAlnum),
        (b :: r).dropWhile isAlnum) := by
  have hb : (b ≠ 37 ∧ b ≠ 91 ∧ b ≠ 93 ∧ b ≠ 40 ∧ b ≠ 60 ∧ b ≠ 62 ∧ b ≠ 47) ∧
      ¬ (b = 45 ∨ b = 43 ∨ b = 46 ∨ isDigit b = true) := by
    simp only [isAlpha, isDigit, Bool.or_eq_true, Bool.and_eq_true, decide_eq_true_eq] at h ⊢
    omega
  rw [dispatch_regular b r hb.1, if_neg (fun hn => hb.2 ((numStart_iff b).1 hn)), if_pos h]

/-- the bytes on which `dispatch` produces a token of each kind -/
def FirstByte : Token → Nat → Prop
  | .eof, _ => False
  | .comment _, b => b = 37
  | .arrStart, b => b = 91
  | .arrEnd, b => b = 93
  | .str _, b => b = 40
  | .dictStart, b => b = 60
  | .hexstr _, b => b = 60
  | .dictEnd, b => b = 62
  | .name _, b => b = 47
  | .integer _, b => b = 45 ∨ b = 43 ∨ b = 46 ∨ isDigit b = true
  | .real _, b => b = 45 ∨ b = 43 ∨ b = 46 ∨ isDigit b = true
  | .ref, b => b = 82
  | .keyword _, b => isAlpha b = true

end Tok

theorem nextToken_ws (w rest : Str) (h : AllWs w) : nextToken (w ++ rest) = nextToken rest := by
  unfold nextToken
  rw [Tok.skipWs_allWs w rest h]

theorem nextToken_name (ps : List NPiece) (tail : Str) (hok : ∀ p ∈ ps, p.Ok) (ht : Terminated tail) :
    nextToken (47 :: renderName ps ++ tail) = some (.name (ps.map NPiece.byte), tail) := by
  rw [List.cons_append, Tok.nextToken_cons 47 _ (by decide), Tok.dispatch_name,
    nameLoop_roundtrip ps tail hok ht]

theorem nextToken_lit (ps : List SPiece) (tail : Str) (h : ValidStr 0 ps) :
    nextToken (renderStr ps ++ tail) = some (.str (strBytes ps), tail) := by
  have e : renderStr ps ++ tail = 40 :: (renderStrBody ps ++ 41 :: tail) := by
    simp [renderStr]
  rw [e, Tok.nextToken_cons 40 _ (by decide), Tok.dispatch_str, litstr_roundtrip ps tail h]

namespace Tok

theorem dispatch_hex (r ds tail : Str) (h : hexLoop r = some (ds, tail)) :
    dispatch 60 r = some (.hexstr ds, tail) := by
  have hr : r.head? ≠ some 60 := by
    cases r with
    | nil => exact fun e => nomatch e
    | cons c r' =>
      intro e
      cases e
      rw [hexLoop_bad 60 r' (by decide) (by decide) (by decide)] at h
      cases h
  rw [dispatch_hexstr r hr, h]

end Tok

theorem nextToken_hex (ps : List HPiece) (last : Option HLast) (wEnd tail : Str)
    (hps : ∀ p ∈ ps, p.Ok) (hlast : ∀ l, last = some l → l.Ok) (hw : AllWs wEnd) :
    ∃ ds, nextToken (renderHex ps last wEnd ++ tail) = some (.hexstr ds, tail) ∧ hexPairs ds = hexValueOf ps last := by
  obtain ⟨ds, h1, h2⟩ := hexstr_roundtrip ps last wEnd tail hps hlast hw
  refine ⟨ds, ?_, h2⟩
  rw [renderHex, List.cons_append, Tok.nextToken_cons 60 _ (by decide)]
  exact Tok.dispatch_hex _ ds tail h1

theorem nextToken_arrStart (tail : Str) : nextToken (91 :: tail) = some (.arrStart, tail) := by
  rw [Tok.nextToken_cons 91 _ (by decide), Tok.dispatch_arrStart]
theorem nextToken_arrEnd (tail : Str) : nextToken (93 :: tail) = some (.arrEnd, tail) := by
  rw [Tok.nextToken_cons 93 _ (by decide), Tok.dispatch_arrEnd]
theorem nextToken_dictStart (tail : Str) : nextToken (60 :: 60 :: tail) = some (.dictStart, tail) := by
  rw [Tok.nextToken_cons 60 _ (by decide), Tok.dispatch_dictStart]
theorem nextToken_dictEnd (tail : Str) : nextToken (62 :: 62 :: tail) = some (.dictEnd, tail) := by
  rw [Tok.nextToken_cons 62 _ (by decide), Tok.dispatch_dictEnd]

namespace Tok

def IsDigits (ds : Str) : Prop := ∀ c ∈ ds, 48 ≤ c ∧ c ≤ 57

theorem isDigit_of (c : Nat) (h : 48 ≤ c ∧ c ≤ 57) : isDigit c = true := by
  simp [isDigit, h.1, h.2]

theorem dec_digitStr (n : Nat) : DigitStr (dec n) :=
  fun c hc => isDigit_of c (Tabula.A1.dec_all_digits n c hc)

theorem term_not_alnum (c : Nat) (h : (isWs c || isDelim c) = true) : isAlnum c = false := by
  simp only [isWs, isDelim, Bool.or_eq_true, beq_iff_eq] at h
  cases ha : isAlnum c with
  | false => rfl
  | true =>
    simp only [isAlnum, isAlpha, isDigit, Bool.or_eq_true, Bool.and_eq_true, decide_eq_true_eq] at ha
    omega

theorem dispatch_num (b : Nat) (r : Str) (hb : (48 ≤ b ∧ b ≤ 57) ∨ b = 45 ∨ b = 43) :
    dispatch b r =
      some (if (numLoop false true (b :: r)).2.1 then .real (numLoop false true (b :: r)).1
            else .integer (numLoop false true (b :: r)).1, (numLoop false true (b :: r)).2.2) := by
  apply dispatch_numStart
  rcases hb with h | h | h
  · exact Or.inr (Or.inr (Or.inr (isDigit_of b h)))
  · exact Or.inl h
  · exact Or.inr (Or.inl h)

theorem isWs_num (b : Nat) (hb : (48 ≤ b ∧ b ≤ 57) ∨ b = 45 ∨ b = 43) : isWs b = false := by
  simp [isWs]; omega

/-- optional sign, then at least one digit -/
theorem nextToken_numText (sign ds tail : Str) (hs : sign = [] ∨ sign = [45] ∨ sign = [43])
    (hd : DigitStr ds) (hne : ds ≠ []) (ht : Terminated tail) :
    nextToken (sign ++ ds ++ tail) = some (.integer (sign ++ ds), tail) := by
  have signed : ∀ c, c = 45 ∨ c = 43 → nextToken ([c] ++ ds ++ tail) = some (.integer ([c] ++ ds), tail) := by
    intro c hc
    simp only [List.cons_append, List.nil_append]
    rw [nextToken_cons c _ (isWs_num c (Or.inr hc)), dispatch_num c _ (Or.inr hc),
      Prog.numLoop_sign_first c _ hc, Num.numBody_int ds tail hd ht]
    simp
  rcases hs with e | e | e
  · subst e
    cases ds with
    | nil => exact absurd rfl hne
    | cons c ds' =>
      have hd0 := hd c (by simp)
      have hc : 48 ≤ c ∧ c ≤ 57 := by simpa [isDigit] using hd0
      simp only [List.nil_append]
      rw [List.cons_append, nextToken_cons c _ (isWs_num c (Or.inl hc)), dispatch_num c _ (Or.inl hc),
        Prog.numLoop_body_first c _ (.inr hd0), ← List.cons_append, Num.numBody_int (c :: ds') tail hd ht]
      simp
  · subst e; exact signed 45 (Or.inl rfl)
  · subst e; exact signed 43 (Or.inr rfl)

theorem digitStr_zeros_dec (zeros n : Nat) : DigitStr (List.replicate zeros 48 ++ dec n) := by
  intro c hc
  rcases List.mem_append.mp hc with hc | hc
  · rw [List.eq_of_mem_replicate hc]; rfl
  · exact dec_digitStr n c hc

theorem zeros_dec_ne (zeros n : Nat) : List.replicate zeros 48 ++ dec n ≠ [] := by
  obtain ⟨d, ds, h, _⟩ := Tabula.A1.dec_head n
  rw [h]; simp

end Tok

theorem nextToken_int (plus : Bool) (zeros : Nat) (i : Int) (tail : Str) (ht : Terminated tail) :
    nextToken (printInt plus zeros i ++ tail) = some (.integer (printInt plus zeros i), tail) := by
  have e : printInt plus zeros i =
      (if i < 0 then [45] else if plus then [43] else []) ++ (List.replicate zeros 48 ++ dec i.natAbs) := by
    simp [printInt]
  rw [e]
  apply Tok.nextToken_numText _ _ tail _ (Tok.digitStr_zeros_dec zeros i.natAbs) (Tok.zeros_dec_ne zeros i.natAbs) ht
  split
  · simp
  · split <;> simp

theorem nextToken_dec (n : Nat) (tail : Str) (ht : Terminated tail) :
    nextToken (dec n ++ tail) = some (.integer (dec n), tail) := by
  have := Tok.nextToken_numText [] (dec n) tail (Or.inl rfl) (Tok.dec_digitStr n) ?_ ht
  · simpa using this
  · obtain ⟨d, ds, h, _⟩ := Tabula.A1.dec_head n
    rw [h]; simp

namespace Tok
open Tabula.A1 (digitsAcc maxInt64)

theorem digitsAcc_zeros_dec (z n : Nat) : digitsAcc (List.replicate z 48 ++ dec n) 0 = some n := by
  rw [Tabula.A1.digitsAcc_zeros, Tabula.A1.digitsAcc_dec]

/-- `strconv.ParseInt` as modelled, on an optional sign followed by a non-empty text with the decimal value `v` -/
theorem atoi_signed (sign ds : Str) (v : Nat) (hs : sign = [] ∨ sign = [43] ∨ sign = [45]) (hne : ds ≠ [])
    (h : digitsAcc ds 0 = some v) :
    atoi (sign ++ ds) =
      if sign = [45] then (if v ≤ maxInt64 + 1 then some (-(v : Int)) else none)
      else (if v ≤ maxInt64 then some (v : Int) else none) := by
  rcases hs with rfl | rfl | rfl
  · rw [List.nil_append, Tabula.A1.atoi_unsigned hne h]
    exact (if_neg (by decide)).symm
  · cases ds with
    | nil => exact absurd rfl hne
    | cons d ds' => simp [atoi, h]
  · cases ds with
    | nil => exact absurd rfl hne
    | cons d ds' => simp [atoi, h]

end Tok

theorem atoi_printInt (plus : Bool) (zeros : Nat) (i : Int) (h1 : -(2 ^ 63 : Int) ≤ i) (h2 : i < (2 ^ 63 : Int)) :
    atoi (printInt plus zeros i) = some i := by
  have hp : (2 : Int) ^ 63 = 9223372036854775808 := by decide
  rw [hp] at h1 h2
  have e : printInt plus zeros i =
      (if i < 0 then [45] else if plus then [43] else []) ++ (List.replicate zeros 48 ++ dec i.natAbs) := by
    simp [printInt]
  have key := fun hs => Tok.atoi_signed (if i < 0 then [45] else if plus then [43] else []) _ i.natAbs hs
    (Tok.zeros_dec_ne zeros i.natAbs) (Tok.digitsAcc_zeros_dec zeros i.natAbs)
  rw [e]
  by_cases hneg : i < 0
  · rw [if_pos hneg] at key ⊢
    rw [key (by simp), if_pos rfl, if_pos (by unfold Tabula.A1.maxInt64; omega)]
    congr 1; omega
  · rw [if_neg hneg] at key ⊢
    rw [key (by cases plus <;> simp), if_neg (by cases plus <;> simp), if_pos (by unfold Tabula.A1.maxInt64; omega)]
    congr 1; omega

namespace Tok

theorem alnum_split (v tail : Str) (hv : ∀ c ∈ v, isAlnum c = true) (ht : Terminated tail) :
    (v ++ tail).takeWhile isAlnum = v ∧ (v ++ tail).dropWhile isAlnum = tail :=
  List.span_append_of_head hv fun _ _ e => term_not_alnum _ (Terminated.head ht e)

theorem isWs_alpha (b : Nat) (h : isAlpha b = true) : isWs b = false := by
  have hb : (97 ≤ b ∧ b ≤ 122) ∨ (65 ≤ b ∧ b ≤ 90) := by
    simpa [isAlpha] using h
  simp [isWs]; omega

/-- a word of letters and digits that starts with a letter -/
theorem nextToken_word (b : Nat) (v tail : Str) (hb : isAlpha b = true) (hv : ∀ c ∈ v, isAlnum c = true)
    (ht : Terminated tail) :
    nextToken (b :: v ++ tail) = some (if b :: v = [82] then .ref else .keyword (b :: v), tail) := by
  have hbv : ∀ c ∈ b :: v, isAlnum c = true := by
    intro c hc
    simp only [List.mem_cons] at hc
    rcases hc with hc | hc
    · subst hc; simp [isAlnum, hb]
    · exact hv c hc
  have hs := alnum_split (b :: v) tail hbv ht
  rw [List.cons_append] at hs ⊢
  rw [nextToken_cons b _ (isWs_alpha b hb), dispatch_alpha b _ hb, hs.1, hs.2]

end Tok

theorem nextToken_kw (kw tail : Str) (hkw : kw = kwNull ∨ kw = kwTrue ∨ kw = kwFalse) (ht : Terminated tail) :
    nextToken (kw ++ tail) = some (.keyword kw, tail) := by
  rcases hkw with e | e | e <;> subst e
  · have := Tok.nextToken_word 110 [117, 108, 108] tail (by decide) (by decide) ht
    simpa [kwNull] using this
  · have := Tok.nextToken_word 116 [114, 117, 101] tail (by decide) (by decide) ht
    simpa [kwTrue] using this
  · have := Tok.nextToken_word 102 [97, 108, 115, 101] tail (by decide) (by decide) ht
    simpa [kwFalse] using this

theorem nextToken_R (tail : Str) (ht : Terminated tail) : nextToken (82 :: tail) = some (.ref, tail) := by
  have := Tok.nextToken_word 82 [] tail (by decide) (by simp) ht
  simpa using this

namespace Tok

theorem lexSkip_ws (f : Nat) (w rest : Str) (h : AllWs w) : lexSkip f (w ++ rest) = lexSkip f rest := by
  cases f with
  | zero => rfl
  | succ f => simp only [lexSkip, nextToken_ws w rest h]

theorem lexSkip_comment (f : Nat) (r : Str) : lexSkip (f + 1) (37 :: r) = lexSkip f (commentBody r).2 := by
  simp only [lexSkip, nextToken_cons 37 r (by decide), dispatch_comment]

theorem lexSkip_token (f : Nat) (X : Str) (t : Token) (r : Str) (hX : nextToken X = some (t, r))
    (hc : ∀ v, t ≠ .comment v) : lexSkip (f + 1) X = some (t, r) := by
  cases t with
  | comment v => exact absurd rfl (hc v)
  | _ => simp only [lexSkip, hX]

/-- behind a comment - text without CR and LF, then CR, LF or CR LF - a reader that does not see a leading LF goes on
as if it stood right behind the end-of-line marker: `readComment` takes CR LF as one marker also when the CR was meant
alone and the LF is the next byte of the input -/
theorem after_comment {α : Type} (g : Str → α) (hg : ∀ x, g (10 :: x) = g x) (t e rest : Str)
    (ht : ∀ c ∈ t, c ≠ 10 ∧ c ≠ 13) (he : e = [10] ∨ e = [13] ∨ e = [13, 10]) :
    g (commentBody ((t ++ e) ++ rest)).2 = g rest := by
  rw [List.append_assoc, Gram.commentBody_rest, Gram.dropWhile_text t _ ht, ← Gram.commentBody_rest]
  rcases he with rfl | rfl | rfl
  · rw [List.singleton_append, Gram.commentBody_lf]
  · cases rest with
    | nil => rw [List.append_nil, Gram.commentBody_cr_end]
    | cons c r' =>
      by_cases hc : c = 10
      · rw [hc, hg]; exact congrArg g (congrArg Prod.snd (Gram.commentBody_crlf r'))
      · exact congrArg g (congrArg Prod.snd (Gram.commentBody_cr c r' hc))
  · exact congrArg g (congrArg Prod.snd (Gram.commentBody_crlf rest))

/-- after a comment the lexer goes on as if it stood right behind the end-of-line marker -/
theorem lexSkip_after_comment (f : Nat) (t e rest : Str) (ht : ∀ c ∈ t, c ≠ 10 ∧ c ≠ 13)
    (he : e = [10] ∨ e = [13] ∨ e = [13, 10]) :
    lexSkip (f + 1) (37 :: (t ++ e) ++ rest) = lexSkip f rest := by
  rw [List.cons_append, lexSkip_comment]
  exact after_comment (lexSkip f) (fun x => lexSkip_ws f [10] x (by unfold AllWs; decide)) t e rest ht he

end Tok

/-- lexing through a separator: white space is skipped, comments are dropped by `lexSkip`.
`X` is what follows the separator -/
theorem lexSkip_sep (us : Sep) (X : Str) (t : Token) (r : Str) (f : Nat)
    (hus : SepOk us) (hX : nextToken X = some (t, r)) (hc : ∀ v, t ≠ .comment v)
    (hf : us.length + 1 ≤ f) :
    lexSkip f (renderSep us ++ X) = some (t, r) := by
  induction us generalizing f with
  | nil =>
    cases f with
    | zero => simp at hf
    | succ f => simpa [renderSep] using Tok.lexSkip_token f X t r hX hc
  | cons u us ih =>
    have hu : u.Ok := hus u (by simp)
    have hus' : SepOk us := fun x hx => hus x (by simp [hx])
    have e : renderSep (u :: us) ++ X = u.render ++ (renderSep us ++ X) := by
      simp [renderSep]
    rw [e]
    cases u with
    | ws b =>
      have hw : AllWs [b] := by intro c hc; simp at hc; subst hc; exact hu
      simp only [SepUnit.render]
      rw [Tok.lexSkip_ws f [b] _ hw]
      exact ih f hus' (by simp only [List.length_cons] at hf; omega)
    | comment tx el =>
      obtain ⟨ht, he⟩ := hu
      cases f with
      | zero => simp at hf
      | succ f =>
        simp only [SepUnit.render]
        rw [Tok.lexSkip_after_comment f tx el _ ht he]
        exact ih f hus' (by simp only [List.length_cons] at hf; omega)

/-- a non-empty legal separator starts with white space or `%`, so it terminates any token -/
theorem sep_terminated (us : Sep) (rest : Str) (hus : SepOk us) (hne : us ≠ []) : Terminated (renderSep us ++ rest) := by
  cases us with
  | nil => exact absurd rfl hne
  | cons u us =>
    have hu : u.Ok := hus u (by simp)
    right
    cases u with
    | ws b =>
      refine ⟨b, renderSep us ++ rest, by simp [renderSep, SepUnit.render], ?_⟩
      have : isWs b = true := hu
      simp [this]
    | comment tx el =>
      refine ⟨37, (tx ++ el) ++ (renderSep us ++ rest), by simp [renderSep, SepUnit.render], by decide⟩

end Tabula.Pdf
