import TabulaModel.Lemmas.Workbook
/-!
The lines of `TextWithOptions` over several sheets (C17): blocks joined by a blank line.
-/
namespace Tabula.Wb
open Tabula.A1 Tabula.Sheet

/-- the line lists of the blocks, a blank line between consecutive blocks -/
def joinBlocks : List (List Str) → List Str
  | [] => [[]]
  | [b] => b
  | b :: bs => b ++ [[]] ++ joinBlocks bs

theorem splitOn_blocks (bs : List Str) :
    splitOn 10 (intercalate [10, 10] bs) = joinBlocks (bs.map (splitOn 10)) := by
  induction bs with
  | nil => rfl
  | cons b rest ih =>
    cases rest with
    | nil => rfl
    | cons b' rest' =>
      have e : intercalate [10, 10] (b :: b' :: rest') = b ++ 10 :: (10 :: intercalate [10, 10] (b' :: rest')) := by
        simp [intercalate]
      rw [e, splitOn_append_sep]
      have e2 : splitOn 10 (10 :: intercalate [10, 10] (b' :: rest')) = [] :: splitOn 10 (intercalate [10, 10] (b' :: rest')) := by
        simp [splitOn, splitAux]
      rw [e2, ih]
      simp [joinBlocks]

/-- number of lines before block `k`: the lines of the earlier blocks and one blank line each -/
def lineOffset (pre : List (List Str)) : Nat := (pre.map fun b => b.length + 1).sum

theorem joinBlocks_get (pre : List (List Str)) (b : List Str) (post : List (List Str)) (i : Nat)
    (hi : i < b.length) : (joinBlocks (pre ++ b :: post))[lineOffset pre + i]? = b[i]? := by
  induction pre with
  | nil =>
    simp only [List.nil_append, lineOffset, List.map_nil, List.sum_nil, Nat.zero_add]
    cases post with
    | nil => rfl
    | cons p ps =>
      simp only [joinBlocks, List.append_assoc]
      rw [List.getElem?_append_left hi]
  | cons p pre ih =>
    have hne : pre ++ b :: post ≠ [] := by simp
    have e : joinBlocks (p :: (pre ++ b :: post)) = p ++ [[]] ++ joinBlocks (pre ++ b :: post) := by
      cases h : pre ++ b :: post with
      | nil => exact absurd h hne
      | cons _ _ => rfl
    simp only [List.cons_append, e, lineOffset, List.map_cons, List.sum_cons]
    rw [List.getElem?_append_right (by simp; omega)]
    have : p.length + 1 + (List.map (fun b => b.length + 1) pre).sum + i - (p ++ [[]]).length =
        lineOffset pre + i := by
      simp [lineOffset]; omega
    rw [this]; exact ih

end Tabula.Wb
