import TabulaModel.Model.Odt
import TabulaModel.Lemmas.XmlTree
import TabulaModel.Lemmas.ListFold
import TabulaModel.Lemmas.Grid
/-!
Lemmas about the ODT model (`Model/Odt.lean`): the streaming body walk against the elements a
subtree stands for (`elemsOfNode`, `walk_inside_node`; the walk before the repair against
`residualNode`), where the inline decoder gives up (`residual_inline`), the length of inline text,
the row-span pass (`spanRows_inv`), the grid limit (`Lemmas/Grid.lean` at `spans`).
-/
namespace Tabula.Odt
open Tabula.Xml

theorem inlineList_append (a b : List Node) : inlineList (a ++ b) = inlineList a ++ inlineList b := by
  induction a with
  | nil => simp [inlineList]
  | cons n rest ih => simp [inlineList, ih]

mutual
/-- no `office:text` element anywhere in the subtree -/
def noTextNode : Node → Bool
  | .text _ => true
  | .elem tag _ kids => tag != sOfficeText && noTextList kids
def noTextList : List Node → Bool
  | [] => true
  | n :: rest => noTextNode n && noTextList rest
end

mutual
/-- the elements a subtree of the text body stands for, as a function of the tree alone:
`p`, `h`, `list`, `table` give their elements; any other element (a section, …) gives what
its children give, in order -/
def elemsOfNode (defs : List StyleDef) : Node → List Elem
  | .text _ => []
  | .elem tag attrs kids =>
    if localName tag == sP then [.para (processParagraph (.elem tag attrs kids))]
    else if localName tag == sH then [.para (processHeading defs (.elem tag attrs kids))]
    else if localName tag == sList then listElems (.elem tag attrs kids)
    else if localName tag == sTable then [.table (parseTable (.elem tag attrs kids))]
    else elemsOfList defs kids
def elemsOfList (defs : List StyleDef) : List Node → List Elem
  | [] => []
  | n :: rest => elemsOfNode defs n ++ elemsOfList defs rest
end

theorem walkList_append (defs : List StyleDef) (a b : List Node) (w : Walk) :
    walkList defs (a ++ b) w = walkList defs b (walkList defs a w) := by
  induction a generalizing w with
  | nil => simp [walkList]
  | cons n rest ih => simp only [List.cons_append, walkList]; rw [ih]

/-- once `parseBodyElements` has returned the depth error nothing is read any more -/
theorem walk_failed_node (defs : List StyleDef) (n : Node) (w : Walk) (h : w.failed = true) : walkNode defs n w = w := by
  cases n with
  | text s => rfl
  | elem tag attrs kids => simp [walkNode, h]

theorem walk_failed_list (defs : List StyleDef) (l : List Node) (w : Walk) (h : w.failed = true) : walkList defs l w = w := by
  induction l with
  | nil => rfl
  | cons n rest ih => simp only [walkList]; rw [walk_failed_node defs n w h]; exact ih

mutual
/-- every `text:p`, `text:h`, `text:list`, `table:table` the body walk hands to
`DecodeElement` is decoded to its end: no paragraph below them nests `text:span` / `text:a`
deeper than `maxInlineDepth` (a decidable property of the tree) -/
def decodesNode : Node → Bool
  | .text _ => true
  | .elem tag _ kids =>
    if localName tag == sP then decodes (.inline 0) kids
    else if localName tag == sH then decodes (.inline 0) kids
    else if localName tag == sList then decodes .list kids
    else if localName tag == sTable then decodes .table kids
    else decodesList kids
def decodesList : List Node → Bool
  | [] => true
  | n :: rest => decodesNode n && decodesList rest
end

/-! ### an element inside the body, by the decoder it is handed to

`walkNode`, `elemsOfNode` and `decodesNode` branch on the same four local names. `bodyCtx` names
the branch once, and each of the three is characterised through it. -/

/-- the decoder `parseBodyElements` hands an element of the body to, by its local name; `none`
for any other element, which the walk goes through -/
def bodyCtx (loc : Str) : Option Ctx :=
  if loc == sP || loc == sH then some (.inline 0)
  else if loc == sList then some .list
  else if loc == sTable then some .table
  else none

theorem bodyCtx_para {loc : Str} (h : loc = sP ∨ loc = sH) : bodyCtx loc = some (.inline 0) := by
  cases h with
  | inl h => rw [h]; rfl
  | inr h => rw [h]; rfl

theorem bodyCtx_none {loc : Str} (h : bodyCtx loc = none) :
    (loc == sP) = false ∧ (loc == sH) = false ∧ (loc == sList) = false ∧ (loc == sTable) = false := by
  unfold bodyCtx at h
  cases hp : loc == sP
  · cases hh : loc == sH
    · cases hl : loc == sList
      · cases ht : loc == sTable
        · exact ⟨rfl, rfl, rfl, rfl⟩
        · simp [hp, hh, hl, ht] at h
      · simp [hp, hh, hl] at h
    · simp [hp, hh] at h
  · simp [hp] at h

/-- inside the body, while the loop is reading, an element other than `office:text` is decoded
whole and recorded - or makes the walk fail -, or is walked through -/
theorem walkNode_body (defs : List StyleDef) (tag : Str) (attrs : List (Str × Str)) (kids : List Node) (w : Walk)
    (hb : w.inBody = true) (hd : w.failed = false) (ht : tag ≠ sOfficeText) :
    walkNode defs (.elem tag attrs kids) w =
      match bodyCtx (localName tag) with
      | some c =>
        if decodes c kids then { w with acc := w.acc ++ elemsOfNode defs (.elem tag attrs kids) }
        else { w with failed := true }
      | none => walkList defs kids w := by
  simp only [walkNode, elemsOfNode, bodyCtx, hd, beq_false_of_ne ht, hb, Bool.false_eq_true, if_false, Bool.not_true]
  cases localName tag == sP
  · cases localName tag == sH
    · cases localName tag == sList
      · cases localName tag == sTable <;> rfl
      · rfl
    · rfl
  · rfl

theorem decodesNode_elem (tag : Str) (attrs : List (Str × Str)) (kids : List Node) :
    decodesNode (.elem tag attrs kids) =
      match bodyCtx (localName tag) with
      | some c => decodes c kids
      | none => decodesList kids := by
  simp only [decodesNode, bodyCtx]
  cases localName tag == sP
  · cases localName tag == sH
    · cases localName tag == sList
      · cases localName tag == sTable <;> rfl
      · rfl
    · rfl
  · rfl

theorem elemsOfNode_through (defs : List StyleDef) (tag : Str) (attrs : List (Str × Str)) (kids : List Node)
    (h : bodyCtx (localName tag) = none) : elemsOfNode defs (.elem tag attrs kids) = elemsOfList defs kids := by
  obtain ⟨hp, hh, hl, ht⟩ := bodyCtx_none h
  simp only [elemsOfNode, hp, hh, hl, ht, Bool.false_eq_true, if_false]

mutual
/-- inside the text body, while the loop is reading: a subtree whose body elements are all decoded
to their end (`decodesNode`) appends exactly `elemsOfNode`, in source order; one in which some body
element is not makes `parseBodyElements` return the depth error -/
theorem walk_inside_node (defs : List StyleDef) (n : Node) :
    ∀ w : Walk, w.inBody = true → w.failed = false → noTextNode n = true →
      (decodesNode n = true → walkNode defs n w = { w with acc := w.acc ++ elemsOfNode defs n }) ∧
      (decodesNode n = false → (walkNode defs n w).failed = true) :=
  match n with
  | .text s => fun w _ _ _ => ⟨fun _ => by simp [walkNode, elemsOfNode], fun h => nomatch h⟩
  | .elem tag attrs kids => fun w hb hd hn => by
    simp only [noTextNode, Bool.and_eq_true, bne_iff_ne, ne_eq] at hn
    rw [walkNode_body defs tag attrs kids w hb hd hn.1, decodesNode_elem]
    cases hc : bodyCtx (localName tag) with
    | some c => exact ⟨fun h => if_pos h, fun h => by simp only [h, Bool.false_eq_true, if_false]⟩
    | none =>
      rw [elemsOfNode_through defs tag attrs kids hc]
      exact walk_inside_list defs kids w hb hd hn.2
/-- a child list is refused as soon as a member is: the members before it are walked, nothing
behind it is read -/
theorem walk_inside_list (defs : List StyleDef) (l : List Node) :
    ∀ w : Walk, w.inBody = true → w.failed = false → noTextList l = true →
      (decodesList l = true → walkList defs l w = { w with acc := w.acc ++ elemsOfList defs l }) ∧
      (decodesList l = false → (walkList defs l w).failed = true) :=
  match l with
  | [] => fun w _ _ _ => ⟨fun _ => by simp [walkList, elemsOfList], fun h => nomatch h⟩
  | n :: rest => fun w hb hd hn => by
    simp only [noTextList, Bool.and_eq_true] at hn
    rw [walkList, decodesList, elemsOfList]
    cases hdn : decodesNode n with
    | false =>
      have hf := (walk_inside_node defs n w hb hd hn.1).2 hdn
      rw [walk_failed_list defs rest _ hf]
      exact ⟨fun h => absurd h (by simp), fun _ => hf⟩
    | true =>
      rw [(walk_inside_node defs n w hb hd hn.1).1 hdn, Bool.true_and, ← List.append_assoc]
      exact walk_inside_list defs rest _ hb hd hn.2
end

/-- outside the body an element other than `office:text` is walked through -/
theorem walkNode_outside (defs : List StyleDef) (tag : Str) (attrs : List (Str × Str)) (kids : List Node) (w : Walk)
    (hb : w.inBody = false) (hd : w.failed = false) (ht : tag ≠ sOfficeText) :
    walkNode defs (.elem tag attrs kids) w = walkList defs kids w := by
  simp only [walkNode, hd, beq_false_of_ne ht, hb, Bool.false_eq_true, if_false, Bool.not_false, if_true]

mutual
/-- outside the text body nothing is recorded -/
theorem walk_outside_node (defs : List StyleDef) (n : Node) :
    ∀ w : Walk, w.inBody = false → noTextNode n = true → walkNode defs n w = w :=
  match n with
  | .text s => fun w _ _ => rfl
  | .elem tag attrs kids => fun w hb hn => by
    simp only [noTextNode, Bool.and_eq_true, bne_iff_ne, ne_eq] at hn
    simp only [walkNode, beq_false_of_ne hn.1, hb, Bool.false_eq_true, if_false, Bool.not_false, if_true]
    split
    · rfl
    · exact walk_outside_list defs kids w hb hn.2
theorem walk_outside_list (defs : List StyleDef) (l : List Node) :
    ∀ w : Walk, w.inBody = false → noTextList l = true → walkList defs l w = w :=
  match l with
  | [] => fun w _ _ => rfl
  | n :: rest => fun w hb hn => by
    simp only [noTextList, Bool.and_eq_true] at hn
    rw [walkList, walk_outside_node defs n w hb hn.1, walk_outside_list defs rest w hb hn.2]
end

theorem walkListOld_append (defs : List StyleDef) (a b : List Node) (w : WalkOld) :
    walkListOld defs (a ++ b) w = walkListOld defs b (walkListOld defs a w) := by
  induction a generalizing w with
  | nil => simp [walkListOld]
  | cons n rest ih => simp only [List.cons_append, walkListOld]; rw [ih]

mutual
/-- when the decoder `ctx` gave up below a child, the old walk went on over exactly the nodes
`residualNode` names; otherwise nothing happened -/
theorem scanOld_residual_node (defs : List StyleDef) (n : Node) :
    ∀ (ctx : Ctx) (w : WalkOld), scanNodeOld defs ctx n w = (residualNode ctx n).map fun r => walkListOld defs r w :=
  match n with
  | .text s => fun _ _ => rfl
  | .elem tag attrs kids => fun ctx w => by
    simp only [scanNodeOld, residualNode]
    cases descend ctx (localName tag) with
    | skip => rfl
    | fail => rfl
    | into c => exact scanOld_residual defs c kids w
theorem scanOld_residual (defs : List StyleDef) (ctx : Ctx) (l : List Node) (w : WalkOld) :
    scanListOld defs ctx l w = (residualList ctx l).map fun r => walkListOld defs r w :=
  match l with
  | [] => rfl
  | n :: rest => by
    simp only [scanListOld, residualList]
    rw [scanOld_residual_node defs n ctx w]
    cases residualNode ctx n with
    | none => exact scanOld_residual defs ctx rest w
    | some r =>
      cases hi : ctx.isInline
      · simp
      · simp [walkListOld_append]
end

/-- the old walk inside the body, while the loop was reading, at an element other than
`office:text` (`walkNode_body` for the walk before the repair) -/
theorem walkNodeOld_body (defs : List StyleDef) (tag : Str) (attrs : List (Str × Str)) (kids : List Node) (w : WalkOld)
    (hb : w.inBody = true) (hd : w.done = false) (ht : tag ≠ sOfficeText) :
    walkNodeOld defs (.elem tag attrs kids) w =
      match bodyCtx (localName tag) with
      | some c =>
        (match scanListOld defs c kids w with
         | some w' => { w' with done := true }
         | none => { w with acc := w.acc ++ elemsOfNode defs (.elem tag attrs kids) })
      | none => walkListOld defs kids w := by
  simp only [walkNodeOld, elemsOfNode, bodyCtx, hd, beq_false_of_ne ht, hb, Bool.false_eq_true, if_false, Bool.not_true]
  cases localName tag == sP
  · cases localName tag == sH
    · cases localName tag == sList
      · cases localName tag == sTable <;> rfl
      · rfl
    · rfl
  · rfl

/-- once `Token` had answered `io.EOF` nothing was read any more -/
theorem walkOld_done_node (defs : List StyleDef) (n : Node) (w : WalkOld) (h : w.done = true) : walkNodeOld defs n w = w := by
  cases n with
  | text s => rfl
  | elem tag attrs kids => simp [walkNodeOld, h]

theorem walkOld_done_list (defs : List StyleDef) (l : List Node) (w : WalkOld) (h : w.done = true) : walkListOld defs l w = w := by
  induction l with
  | nil => rfl
  | cons n rest ih => simp only [walkListOld]; rw [walkOld_done_node defs n w h]; exact ih

mutual
/-- how deep `text:span` / `text:a` nest below a child of a paragraph (anything that is
skipped counts 0, a span or link one more than its content) -/
def spanNestNode : Node → Nat
  | .text _ => 0
  | .elem tag _ kids => if localName tag == sSpan || localName tag == sA then spanNestList kids + 1 else 0
def spanNestList : List Node → Nat
  | [] => 0
  | n :: rest => max (spanNestNode n) (spanNestList rest)
end

mutual
/-- the inline decoder entered with `d ≤ maxInlineDepth` reads a child to its end exactly when
the spans below it nest no deeper than the limit allows -/
theorem residual_inline_node (n : Node) : ∀ d, d ≤ maxInlineDepth →
    (residualNode (.inline d) n = none ↔ d + spanNestNode n ≤ maxInlineDepth) :=
  match n with
  | .text s => fun d hd => by simp [residualNode, spanNestNode, hd]
  | .elem tag attrs kids => fun d hd => by
    by_cases hs : (localName tag == sSpan || localName tag == sA) = true
    · by_cases h : d + 1 > maxInlineDepth
      · simp only [residualNode, descend, spanNestNode, hs, h, if_true]
        constructor
        · intro hc; cases hc
        · intro hc; omega
      · simp only [residualNode, descend, spanNestNode, hs, h, if_true, if_false]
        rw [residual_inline kids (d + 1) (by omega)]
        omega
    · simp only [residualNode, descend, spanNestNode, hs]
      exact ⟨fun _ => hd, fun _ => rfl⟩
theorem residual_inline (l : List Node) : ∀ d, d ≤ maxInlineDepth →
    (residualList (.inline d) l = none ↔ d + spanNestList l ≤ maxInlineDepth) :=
  match l with
  | [] => fun d hd => by simp [residualList, spanNestList, hd]
  | n :: rest => fun d hd => by
    simp only [residualList, spanNestList]
    cases hr : residualNode (.inline d) n with
    | none =>
      have h1 := (residual_inline_node n d hd).mp hr
      simp only
      rw [residual_inline rest d hd]
      omega
    | some r =>
      have h1 : ¬ (d + spanNestNode n ≤ maxInlineDepth) := fun hle => by
        have := (residual_inline_node n d hd).mpr hle
        rw [hr] at this; cases this
      simp only [Ctx.isInline, if_true]
      constructor
      · intro hc; cases hc
      · intro hc; omega
end

/-- `k` nested `text:span`s around `inner` -/
def spanN (stag : Str) : Nat → List Node → List Node
  | 0, inner => inner
  | k + 1, inner => [.elem stag [] (spanN stag k inner)]

theorem spanNest_spanN (stag : Str) (hs : (localName stag == sSpan || localName stag == sA) = true) (inner : List Node) :
    ∀ k, spanNestList (spanN stag k inner) = k + spanNestList inner := by
  intro k
  induction k with
  | zero => simp [spanN]
  | succ k ih =>
    simp only [spanN, spanNestList, spanNestNode, hs, if_true]
    rw [ih]; omega

theorem inline_spanN (stag : Str) (hs : (localName stag == sSpan || localName stag == sA) = true) (inner : List Node) :
    ∀ k, inlineList (spanN stag k inner) = inlineList inner := by
  intro k
  induction k with
  | zero => simp [spanN]
  | succ k ih =>
    simp only [spanN, inlineList, inlineNode, hs, if_true, List.append_nil]
    exact ih

theorem spaceRun_range (c : Str) : 1 ≤ spaceRun c ∧ spaceRun c ≤ maxSpaceRun := by
  unfold spaceRun maxSpaceRun
  cases atoi? c with
  | none => simp
  | some v =>
    simp only
    split
    · omega
    · omega

mutual
/-- bytes of character data / number of elements below a node -/
def textBytesNode : Node → Nat
  | .text s => s.length
  | .elem _ _ kids => textBytesList kids
def textBytesList : List Node → Nat
  | [] => 0
  | n :: rest => textBytesNode n + textBytesList rest
end

mutual
def elemCountNode : Node → Nat
  | .text _ => 0
  | .elem _ _ kids => 1 + elemCountList kids
def elemCountList : List Node → Nat
  | [] => 0
  | n :: rest => elemCountNode n + elemCountList rest
end

/-- an element gives its children's text (a span, a link) or at most `maxSpaceRun` bytes of its own -/
theorem inlineNode_elem_length (tag : Str) (attrs : List (Str × Str)) (kids : List Node) :
    (inlineNode (.elem tag attrs kids)).length ≤ (inlineList kids).length + maxSpaceRun := by
  have hs : (List.replicate (spaceRun (attrOf attrs sC)) 32).length ≤ maxSpaceRun := by
    rw [List.length_replicate]; exact (spaceRun_range _).2
  have h1 : 1 ≤ maxSpaceRun := by decide
  simp only [inlineNode]
  cases localName tag == sSpan || localName tag == sA
  · refine Nat.le_trans ?_ (Nat.le_add_left _ _)
    cases localName tag == sS
    · cases localName tag == sTab
      · cases localName tag == sLineBreak
        · exact Nat.zero_le _
        · exact h1
      · exact h1
    · exact hs
  · exact Nat.le_add_right _ _

mutual
/-- the text of a paragraph is at most its character data plus `maxSpaceRun` bytes per element -/
theorem inline_length_node (n : Node) :
    (inlineNode n).length ≤ textBytesNode n + maxSpaceRun * elemCountNode n :=
  match n with
  | .text s => by simp [inlineNode, textBytesNode]
  | .elem tag attrs kids => by
    have := inline_length_list kids
    have := inlineNode_elem_length tag attrs kids
    rw [textBytesNode, elemCountNode, Nat.mul_add, Nat.mul_one]
    omega
theorem inline_length_list (l : List Node) :
    (inlineList l).length ≤ textBytesList l + maxSpaceRun * elemCountList l :=
  match l with
  | [] => by simp [inlineList]
  | n :: rest => by
    have := inline_length_node n
    have := inline_length_list rest
    simp only [inlineList, textBytesList, elemCountList, List.length_append]
    rw [Nat.mul_add]
    omega
end

/-! ### row spans: the pass only inserts covered placeholders

The three loops of `processRowSpans` (`skipCovered` inside `spanRow` inside `spanRows`) are gone
through once, for an arbitrary invariant `P taken col out` of the cells of the authored row placed
so far, the column reached and the cells put out; what the pass keeps is then a choice of `P`, and of
how the rows are collected (`R`: every row put out, or output and authored rows pair by pair). -/

def live (cs : List Cell) : List Cell := cs.filter fun c => !c.covered

/-- row by row: the output row without its covered placeholders is a prefix of the authored row -/
inductive RowsKept : List (List Cell) → List (List Cell) → Prop
  | nil : RowsKept [] []
  | cons {out row : List Cell} {outs rows : List (List Cell)} :
      live out <+: row → RowsKept outs rows → RowsKept (out :: outs) (row :: rows)

theorem skipCovered_inv (cc : Nat) (P : Nat → List Cell → Prop)
    (hcov : ∀ col out, col < cc → P col out → P (col + 1) (out ++ [coveredCell])) :
    ∀ (fuel col : Nat) (rem : List Nat) (out : List Cell), P col out →
      P (skipCovered fuel cc col rem out).1 (skipCovered fuel cc col rem out).2.2 := by
  intro fuel
  induction fuel with
  | zero => intro col rem out h; exact h
  | succ n ih =>
    intro col rem out h
    rw [skipCovered]
    split
    · rename_i hc; exact ih _ _ _ (hcov col out hc.1 h)
    · exact h

theorem spanRow_inv (cc : Nat) (P : List Cell → Nat → List Cell → Prop)
    (hcov : ∀ done col out, col < cc → P done col out → P done (col + 1) (out ++ [coveredCell])) :
    ∀ (cells done : List Cell) (col : Nat) (rem : List Nat) (out : List Cell),
      (∀ c ∈ cells, ∀ done col out, col < cc → P done col out → P (done ++ [c]) (col + c.colSpan) (out ++ [c])) →
      P done col out →
      ∃ taken, taken <+: cells ∧
        P (done ++ taken) (spanRow cc cells col rem out).1 (spanRow cc cells col rem out).2.2 := by
  intro cells
  induction cells with
  | nil => intro done col rem out _ h; exact ⟨[], List.prefix_refl _, by rw [List.append_nil]; exact h⟩
  | cons c rest ih =>
    intro done col rem out hcell h
    rw [List.forall_mem_cons] at hcell
    rw [spanRow]
    have hs := skipCovered_inv cc (P done) (hcov done) cc col rem out h
    generalize skipCovered cc cc col rem out = r at hs
    obtain ⟨col1, rem1, out1⟩ := r
    simp only at hs ⊢
    split
    · exact ⟨[], List.nil_prefix, by rw [List.append_nil]; exact hs⟩
    · rename_i hlt
      obtain ⟨taken, hpre, hP⟩ := ih (done ++ [c]) (col1 + c.colSpan)
        (if c.rowSpan > 1 then markSpan c.colSpan cc col1 (c.rowSpan - 1) rem1 else rem1) (out1 ++ [c]) hcell.2
        (hcell.1 done col1 out1 (by omega) hs)
      refine ⟨c :: taken, List.cons_prefix_cons.2 ⟨rfl, hpre⟩, ?_⟩
      rw [List.append_assoc] at hP
      exact hP

/-- an invariant of `processRowSpans`, row by row: what holds of the empty row at column 0 and is kept
by a placeholder and by a cell placed inside the width holds of every row put out, with the cells of
its authored row that were placed (`taken`) and the column reached; `R` collects it over the rows -/
theorem spanRows_inv (cc : Nat) (P : List Cell → Nat → List Cell → Prop)
    (hcov : ∀ done col out, col < cc → P done col out → P done (col + 1) (out ++ [coveredCell]))
    (h0 : P [] 0 []) (R : List (List Cell) → List (List Cell) → Prop) (hnil : R [] [])
    (hcons : ∀ out row outs rows taken col, taken <+: row → P taken col out → R outs rows → R (out :: outs) (row :: rows)) :
    ∀ (rows : List (List Cell)) (rem : List Nat),
      (∀ row ∈ rows, ∀ c ∈ row, ∀ done col out, col < cc → P done col out → P (done ++ [c]) (col + c.colSpan) (out ++ [c])) →
      R (spanRows cc rows rem) rows := by
  intro rows
  induction rows with
  | nil => intro rem _; exact hnil
  | cons row rest ih =>
    intro rem hcell
    rw [List.forall_mem_cons] at hcell
    simp only [spanRows]
    obtain ⟨taken, hpre, h1⟩ := spanRow_inv cc P hcov row [] 0 rem [] hcell.1 h0
    rw [List.nil_append] at h1
    generalize spanRow cc row 0 rem [] = r at h1
    obtain ⟨col1, rem1, out1⟩ := r
    have h2 := skipCovered_inv cc (P taken) (hcov taken) cc col1 rem1 out1 h1
    generalize skipCovered cc cc col1 rem1 out1 = r2 at h2
    obtain ⟨col2, rem2, out2⟩ := r2
    exact hcons _ _ _ _ taken col2 hpre h2 (ih rem2 hcell.2)

/-- … so what the invariant says of a row holds of every row put out -/
theorem spanRows_forall (cc : Nat) (P : List Cell → Nat → List Cell → Prop) (Q : List Cell → Prop)
    (hcov : ∀ done col out, col < cc → P done col out → P done (col + 1) (out ++ [coveredCell]))
    (h0 : P [] 0 []) (hQ : ∀ taken col out, P taken col out → Q out) (rows : List (List Cell)) (rem : List Nat)
    (hcell : ∀ row ∈ rows, ∀ c ∈ row, ∀ done col out, col < cc → P done col out → P (done ++ [c]) (col + c.colSpan) (out ++ [c])) :
    ∀ out ∈ spanRows cc rows rem, Q out :=
  spanRows_inv cc P hcov h0 (fun outs _ => ∀ out ∈ outs, Q out) (fun _ h => nomatch h)
    (fun _ _ _ _ _ _ _ hP ih => List.forall_mem_cons.2 ⟨hQ _ _ _ hP, ih⟩) rows rem hcell

/-- every output row, with the covered placeholders removed, is the authored row or a prefix of it
(a row that overflows the grid is cut short) -/
theorem live_spanRows (cc : Nat) (rows : List (List Cell)) (rem : List Nat)
    (h : ∀ row ∈ rows, ∀ c ∈ row, c.covered = false) : RowsKept (spanRows cc rows rem) rows :=
  spanRows_inv cc (fun done _ out => live out = done)
    (fun _ _ out _ hP => by rw [← hP]; simp [live, coveredCell]) rfl
    RowsKept .nil (fun _ _ _ _ _ _ hpre hP ih => .cons (hP ▸ hpre) ih) rows rem
    (fun row hrow c hc _ _ out _ hP => by rw [← hP]; simp [live, h row hrow c hc])

theorem spanRows_length (cc : Nat) (rows : List (List Cell)) (rem : List Nat) : (spanRows cc rows rem).length = rows.length :=
  spanRows_inv cc (fun _ _ _ => True) (fun _ _ _ _ _ => trivial) trivial (fun outs rows => outs.length = rows.length) rfl
    (fun _ _ _ _ _ _ _ _ ih => congrArg (· + 1) ih) rows rem (fun _ _ _ _ _ _ _ _ _ => trivial)

/-- what `tableXML.UnmarshalXML` collects from a list of children is what it collects from each, one after the other -/
theorem tableItemsList_flatMap (l : List Node) : tableItemsList l = l.flatMap tableItemsNode := by
  induction l with
  | nil => rfl
  | cons n rest ih => rw [tableItemsList, ih, List.flatMap_cons]

theorem mem_tableItemsList {m : Node} {l : List Node} (h : m ∈ tableItemsList l) : ∃ n ∈ l, m ∈ tableItemsNode n :=
  List.mem_flatMap.1 (tableItemsList_flatMap l ▸ h)

/-- a cell of the authored rows is a parsed `table:table-cell` -/
theorem mem_parseRows {tbl : Node} {row : List Cell} {c : Cell} (hrow : row ∈ parseRows tbl) (hc : c ∈ row) :
    ∃ tc, c = parseCell tc := by
  simp only [parseRows, List.mem_map] at hrow
  obtain ⟨tr, _, rfl⟩ := hrow
  simp only [List.mem_map] at hc
  obtain ⟨tc, _, rfl⟩ := hc
  exact ⟨tc, rfl⟩

theorem parseRows_live (tbl : Node) : ∀ row ∈ parseRows tbl, ∀ c ∈ row, c.covered = false := by
  intro row hrow c hc
  obtain ⟨tc, rfl⟩ := mem_parseRows hrow hc
  rfl

theorem parseRows_pos (tbl : Node) : ∀ row ∈ parseRows tbl, ∀ c ∈ row, 1 ≤ c.colSpan := by
  intro row hrow c hc
  obtain ⟨tc, rfl⟩ := mem_parseRows hrow hc
  exact (boundedSpan_bounds _).1

/-- placeholders carry nothing -/
theorem covered_blank_spanRows (cc : Nat) (rows : List (List Cell)) (rem : List Nat)
    (h : ∀ row ∈ rows, ∀ c ∈ row, c.covered = false) :
    ∀ out ∈ spanRows cc rows rem, ∀ c ∈ out, c.covered = true → c = coveredCell :=
  spanRows_forall cc (fun _ _ out => ∀ c ∈ out, c.covered = true → c = coveredCell) _
    (fun _ _ out _ hP c hc hcov => (List.mem_append.1 hc).elim (fun hm => hP c hm hcov) List.mem_singleton.1)
    (fun c hc => nomatch hc) (fun _ _ _ hP => hP) rows rem
    (fun row hrow c0 hc0 _ _ out _ hP c hc hcov => (List.mem_append.1 hc).elim (fun hm => hP c hm hcov)
      (fun he => by rw [List.mem_singleton.1 he, h row hrow c0 hc0] at hcov; cases hcov))

/-- every span of the table set to 1 (what `limitTableGrid` does beyond the limit) -/
def resetSpans (rows : List (List Cell)) : List (List Cell) :=
  rows.map fun row => row.map fun c => { c with colSpan := 1, rowSpan := 1 }

/-- the widest row counted in cells -/
def widest (rows : List (List Cell)) : Nat := rows.foldl (fun m row => max m row.length) 0

/-- the number of cells of a table -/
def cellCount (rows : List (List Cell)) : Nat := (rows.map List.length).sum

/-- what `limitTableGrid` reads and writes of a cell. `colCount`, `hasSpans`, `limitTableGrid`,
`resetSpans`, `widest` are `Grid.width spans.colSpan`, `Grid.hasSpans spans`,
`Grid.limit spans maxTableGridCells`, `Grid.resetSpans spans`, `Grid.widest` by `rfl`: the facts
below are those of `Lemmas/Grid.lean` read at `spans`. -/
def spans : Grid.Spans Cell where
  colSpan := (·.colSpan)
  rowSpan := (·.rowSpan)
  reset := fun c => { c with colSpan := 1, rowSpan := 1 }
  colSpan_reset := fun _ => rfl
  rowSpan_reset := fun _ => rfl

/-- a cell of the table with its spans reset is an authored cell with spans 1 -/
theorem mem_resetSpans {rows : List (List Cell)} {row : List Cell} {c : Cell} (hrow : row ∈ resetSpans rows) (hc : c ∈ row) :
    ∃ r0 ∈ rows, ∃ c0 ∈ r0, c = { c0 with colSpan := 1, rowSpan := 1 } :=
  Grid.mem_resetSpans spans hrow hc

/-- `limitTableGrid` with the test of the code (an integer division) as a product: every span is
reset exactly when the table has spans and rows x spanned columns exceed `maxTableGridCells` -/
theorem limit_eq (rows : List (List Cell)) :
    limitTableGrid rows =
      if hasSpans rows = true ∧ rows.length * colCount rows > maxTableGridCells then resetSpans rows else rows :=
  Grid.limit_eq spans _ rows

/-- within the limit (rows x spanned columns ≤ 2^20) the table is left as it is -/
theorem limit_within (rows : List (List Cell)) (h : rows.length * colCount rows ≤ maxTableGridCells) :
    limitTableGrid rows = rows :=
  Grid.limit_within spans _ rows h

/-- a table without spans is left as it is, whatever its size -/
theorem limit_nospans (rows : List (List Cell)) (h : hasSpans rows = false) : limitTableGrid rows = rows :=
  Grid.limit_nospans spans _ rows h

/-- beyond the limit a table that has spans loses all of them -/
theorem limit_beyond (rows : List (List Cell)) (hs : hasSpans rows = true)
    (h : rows.length * colCount rows > maxTableGridCells) : limitTableGrid rows = resetSpans rows :=
  Grid.limit_beyond spans _ rows hs h

/-- the limit touches spans only: texts, covered flags, the number of rows and of cells in
every row stay -/
theorem limit_content (rows : List (List Cell)) :
    (limitTableGrid rows).map (·.map fun c => (c.text, c.covered)) = rows.map (·.map fun c => (c.text, c.covered)) :=
  Grid.limit_map spans (fun c => (c.text, c.covered)) (fun _ => rfl) _ rows

theorem limit_length (rows : List (List Cell)) : (limitTableGrid rows).length = rows.length :=
  Grid.limit_length spans _ rows

theorem cellCount_resetSpans (rows : List (List Cell)) : cellCount (resetSpans rows) = cellCount rows := by
  simp [cellCount, resetSpans, List.map_map, Function.comp_def]

theorem limit_live (rows : List (List Cell)) (h : ∀ row ∈ rows, ∀ c ∈ row, c.covered = false) :
    ∀ row ∈ limitTableGrid rows, ∀ c ∈ row, c.covered = false :=
  Grid.limit_forall spans (·.covered = false) (fun _ hc => hc) _ rows h

theorem hasSpans_false (rows : List (List Cell)) (h : hasSpans rows = false) :
    ∀ row ∈ rows, ∀ c ∈ row, c.colSpan ≤ 1 ∧ c.rowSpan ≤ 1 :=
  Grid.hasSpans_false spans rows h

theorem rowWidth_le_colCount (rows : List (List Cell)) (row : List Cell) (h : row ∈ rows) :
    (row.map (·.colSpan)).sum ≤ colCount rows :=
  Grid.row_le_width _ rows row h

/-- no row span is in progress -/
def ZeroRem (rem : List Nat) : Prop := ∀ i, rem.getD i 0 = 0

theorem zeroRem_replicate (n : Nat) : ZeroRem (List.replicate n 0) := by
  intro i
  simp only [List.getD_eq_getElem?_getD, List.getElem?_replicate]
  split <;> rfl

theorem skipCovered_zero (cc : Nat) (rem : List Nat) (hz : ZeroRem rem) : ∀ (fuel col : Nat) (out : List Cell),
    skipCovered fuel cc col rem out = (col, rem, out) := by
  intro fuel
  cases fuel with
  | zero => intro col out; rfl
  | succ n =>
    intro col out
    simp only [skipCovered]
    have h0 := hz col
    have : ¬ (col < cc ∧ rem.getD col 0 > 0) := by rw [h0]; omega
    simp only [this, if_false]

theorem spanRow_zero (cc : Nat) (rem : List Nat) (hz : ZeroRem rem) : ∀ (cells : List Cell) (col : Nat) (out : List Cell),
    (∀ c ∈ cells, 1 ≤ c.colSpan ∧ c.rowSpan ≤ 1) → col + (cells.map (·.colSpan)).sum ≤ cc →
    spanRow cc cells col rem out = (col + (cells.map (·.colSpan)).sum, rem, out ++ cells) := by
  intro cells
  induction cells with
  | nil => intro col out _ _; simp [spanRow]
  | cons c rest ih =>
    intro col out hg hw
    simp only [spanRow]
    rw [skipCovered_zero cc rem hz]
    simp only [List.map_cons, List.sum_cons] at hw ⊢
    have hc := hg c List.mem_cons_self
    have hlt : ¬ (col ≥ cc) := by omega
    have hrs : ¬ (c.rowSpan > 1) := by omega
    simp only [hlt, hrs, if_false]
    rw [ih (col + c.colSpan) (out ++ [c]) (fun x hx => hg x (List.mem_cons_of_mem _ hx)) (by omega)]
    simp [Nat.add_assoc]

theorem spanRows_zero (cc : Nat) (rem : List Nat) (hz : ZeroRem rem) : ∀ (rows : List (List Cell)),
    (∀ row ∈ rows, (∀ c ∈ row, 1 ≤ c.colSpan ∧ c.rowSpan ≤ 1) ∧ (row.map (·.colSpan)).sum ≤ cc) →
    spanRows cc rows rem = rows := by
  intro rows
  induction rows with
  | nil => intro _; rfl
  | cons row rest ih =>
    intro h
    have hr := h row List.mem_cons_self
    simp only [spanRows]
    rw [spanRow_zero cc rem hz row 0 [] hr.1 (by omega)]
    simp only
    rw [skipCovered_zero cc rem hz]
    simp only [List.nil_append]
    rw [ih (fun r hr' => h r (List.mem_cons_of_mem _ hr'))]

/-- **no row span, no placeholder**: a table whose cells are all one row high (and at least one
column wide) comes out of `processRowSpans` as it went in -/
theorem processRowSpans_flat (rows : List (List Cell)) (h : ∀ row ∈ rows, ∀ c ∈ row, 1 ≤ c.colSpan ∧ c.rowSpan ≤ 1) :
    processRowSpans rows = rows := by
  unfold processRowSpans
  apply spanRows_zero _ _ (zeroRem_replicate _)
  intro row hrow
  exact ⟨h row hrow, rowWidth_le_colCount rows row hrow⟩

/-- a table whose spans were all set to 1 passes `processRowSpans` as it is -/
theorem processRowSpans_resetSpans (rows : List (List Cell)) : processRowSpans (resetSpans rows) = resetSpans rows := by
  apply processRowSpans_flat
  intro row hrow c hc
  obtain ⟨_, _, _, _, rfl⟩ := mem_resetSpans hrow hc
  exact ⟨Nat.le_refl 1, Nat.le_refl 1⟩

theorem widest_resetSpans (rows : List (List Cell)) : widest (resetSpans rows) = widest rows :=
  Grid.widest_resetSpans spans rows

/-- what `ParseTable` makes of the authored rows: within the grid limit the row spans are
expanded; beyond it every span is 1 and nothing is inserted; a table without spans stays as
authored -/
theorem parseTable_cases (tbl : Node) :
    (parseTable tbl = processRowSpans (parseRows tbl)
        ∧ (parseRows tbl).length * colCount (parseRows tbl) ≤ maxTableGridCells)
    ∨ parseTable tbl = resetSpans (parseRows tbl)
    ∨ (parseTable tbl = parseRows tbl ∧ hasSpans (parseRows tbl) = false) := by
  unfold parseTable
  cases hs : hasSpans (parseRows tbl) with
  | true =>
    by_cases hin : (parseRows tbl).length * colCount (parseRows tbl) ≤ maxTableGridCells
    · exact Or.inl ⟨by rw [limit_within _ hin], hin⟩
    · exact Or.inr (Or.inl (by rw [limit_beyond _ hs (by omega), processRowSpans_resetSpans]))
  | false =>
    refine Or.inr (Or.inr ⟨?_, rfl⟩)
    rw [limit_nospans _ hs]
    exact processRowSpans_flat _ fun row hrow c hc =>
      ⟨parseRows_pos tbl row hrow c hc, (hasSpans_false _ hs row hrow c hc).2⟩

/-- every row `processRowSpans` writes is at most as long as the grid is wide -/
theorem spanRows_row_le (cc : Nat) (rows : List (List Cell)) (rem : List Nat)
    (h : ∀ row ∈ rows, ∀ c ∈ row, 1 ≤ c.colSpan) : ∀ out ∈ spanRows cc rows rem, out.length ≤ cc :=
  spanRows_forall cc (fun _ col out => out.length ≤ col ∧ out.length ≤ cc) _
    (fun _ col out hlt hP => by rw [List.length_append, List.length_singleton]; omega)
    ⟨Nat.le_refl 0, Nat.zero_le cc⟩ (fun _ _ _ hP => hP.2) rows rem
    (fun row hrow c hc _ col out hlt hP => by
      have := h row hrow c hc
      rw [List.length_append, List.length_singleton]; omega)

theorem cellCount_le (rows : List (List Cell)) (b : Nat) (h : ∀ row ∈ rows, row.length ≤ b) : cellCount rows ≤ rows.length * b :=
  sum_map_le_mul List.length b rows h

/-- `processRowSpans` writes at most rows x width cells -/
theorem processRowSpans_cells (rows : List (List Cell)) (h : ∀ row ∈ rows, ∀ c ∈ row, 1 ≤ c.colSpan) :
    cellCount (processRowSpans rows) ≤ rows.length * colCount rows := by
  unfold processRowSpans
  have := cellCount_le (spanRows (colCount rows) rows (List.replicate (colCount rows) 0)) (colCount rows)
    (spanRows_row_le _ rows _ h)
  rw [spanRows_length] at this
  exact this

end Tabula.Odt
