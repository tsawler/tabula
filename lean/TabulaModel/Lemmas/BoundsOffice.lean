import TabulaModel.Model.BoundsOffice
import TabulaModel.Lemmas.DivGuard
import TabulaModel.Lemmas.A1Ref
import TabulaModel.Lemmas.Grid
import TabulaModel.Lemmas.InsertionSort
import TabulaModel.Lemmas.Unseen
/-!
Lemmas about `Model/BoundsOffice.lean`, in the order of its sections, each for every input: the digit loop of
`parseListLevel`; style chains grow by styles not met before (potential `unseen`); `columnToIndex` is the
`ColumnToIndex` of `Model/A1.lean`, which C17 specifies exactly; what `loadSheet` has checked when it accepts a
sheet and what it does to the workbook's state; `limitTableGrid` is `Grid.limit` of `Lemmas/Grid.lean` at the
cells `(ColSpan, RowSpan)`; the walk of `treeDeeperThan` ends and answers what is so; the codes
`parseCmapFormat4` writes lie below its running `next`.
-/
namespace Tabula.BoundsOffice

theorem parseListLevelGo_le (s : List Nat) (level : Nat) (h : level ≤ maxListLevel) :
    parseListLevelGo s level ≤ maxListLevel := by
  fun_induction parseListLevelGo s level with
  | case1 => exact h
  | case2 => exact Nat.le_refl _
  | case3 c rest level hc l hl ih => exact ih (by omega)
  | case4 c rest level hc ih => exact ih h

/-- the chain grows only by styles of the table that it did not hold yet, each of which leaves `unseen` -/
theorem chainGo_spec (styles : List (Nat × Nat)) (fuel cur : Nat) (acc : List Nat)
    (hnd : acc.Nodup) (hlen : acc.length + unseen (fun _ => 1) styles acc ≤ styles.length)
    (hf : unseen (fun _ => 1) styles acc < fuel) :
    ∃ ch, chainGo styles fuel cur acc = some ch ∧ ch.Nodup ∧ ch.length ≤ styles.length + 1 := by
  fun_induction chainGo styles fuel cur acc with
  | case1 => omega
  | case2 fuel cur acc hc => exact ⟨acc, rfl, hnd, by omega⟩
  | case3 fuel cur acc hc parent hl ih =>
    simp only [not_or, List.contains_eq_mem, decide_eq_true_eq] at hc
    have hm : unseen (fun _ => 1) styles (cur :: acc) + 1 ≤ unseen (fun _ => 1) styles acc := by
      unfold lookupS at hl
      cases hfind : styles.find? (·.1 = cur) with
      | none => rw [hfind] at hl; cases hl
      | some p => exact unseen_mark (w := fun _ => 1) hfind (by simpa using hc.2)
    exact ih (List.nodup_cons.mpr ⟨hc.2, hnd⟩) (by simp only [List.length_cons]; omega) (by omega)
  | case4 fuel cur acc hc hl =>
    simp only [not_or, List.contains_eq_mem, decide_eq_true_eq] at hc
    exact ⟨cur :: acc, rfl, List.nodup_cons.mpr ⟨hc.2, hnd⟩, by simp only [List.length_cons]; omega⟩

theorem columnGo_eq (s : List Nat) (r : Nat) : columnGo s r = A1.colAcc s r := by
  have hu : ∀ c, upper c = A1.upper c := fun c => by unfold upper A1.upper; simp
  induction s generalizing r with
  | nil => rfl
  | cons c cs ih =>
    simp only [columnGo, A1.colAcc, hu, ih, Bool.and_eq_true, decide_eq_true_eq]
    by_cases h : 65 ≤ A1.upper c ∧ A1.upper c ≤ 90
    · rw [if_pos h, if_neg (by omega : ¬ (A1.upper c < 65 ∨ A1.upper c > 90))]; rfl
    · rw [if_neg h, if_pos (by omega : A1.upper c < 65 ∨ A1.upper c > 90)]

theorem columnToIndex_eq (s : List Nat) : columnToIndex s = A1.columnToIndex s := by
  unfold columnToIndex A1.columnToIndex; rw [columnGo_eq]; cases A1.colAcc s 0 <;> rfl

theorem loadSheet_accepted (wb : WB) (s : SheetReq) (h : (loadSheet wb s).1 = true) :
    s.maxRow * (s.maxCol + 1) ≤ maxGridCells - wb.gridCells + allowanceFor wb s := by
  unfold loadSheet at h
  simp only [div_guard_iff] at h
  split at h
  · cases h
  · omega

theorem loadSheet_parts (wb : WB) (s : SheetReq) : (loadSheet wb s).2.parts = s.member :: wb.parts := by
  unfold loadSheet; split <;> rfl

/-- what an entry adds to the cells counted against the budget -/
theorem loadSheet_gridCells (wb : WB) (s : SheetReq) :
    (loadSheet wb s).2.gridCells = wb.gridCells +
      (if (loadSheet wb s).1 = true then s.maxRow * (s.maxCol + 1) - allowanceFor wb s else 0) := by
  unfold loadSheet; split <;> rfl

/-- what `limitTableGrid` reads and writes of a cell `(ColSpan, RowSpan)`: `hasSpans` and
`limitTableGrid` are `Grid.hasSpans spans` and `Grid.limit spans maxTableGridCells` of
`Lemmas/Grid.lean` (`limitTableGrid_eq_limit`), where the facts about the limit are proved -/
def spans : Grid.Spans (Nat × Nat) := ⟨Prod.fst, Prod.snd, fun _ => (1, 1), fun _ => rfl, fun _ => rfl⟩

/-- a maximum written as a recursion over the list is the fold of `Lemmas/ListFold.lean` -/
theorem foldl_max_eq_rec {α : Type} (f : α → Nat) (g : List α → Nat) (hnil : g [] = 0)
    (hcons : ∀ x l, g (x :: l) = max (f x) (g l)) (l : List α) (a : Nat) :
    l.foldl (fun m x => max m (f x)) a = max a (g l) := by
  induction l generalizing a with
  | nil => rw [List.foldl_nil, hnil, Nat.max_zero]
  | cons x l ih => rw [List.foldl_cons, ih, hcons, Nat.max_assoc]

theorem gridCols_eq_width (rows : TRows) : gridCols rows = Grid.width Prod.fst rows := by
  have := foldl_max_eq_rec rowCols gridCols rfl (fun _ _ => rfl) rows 0
  simp only [rowCols] at this
  simp only [Grid.width, foldl_add_sum, Nat.zero_add, this, Nat.zero_max]

theorem limitTableGrid_eq_limit (rows : TRows) : limitTableGrid rows = Grid.limit spans maxTableGridCells rows := by
  unfold limitTableGrid Grid.limit
  rw [gridCols_eq_width]
  rfl

theorem limitTableGrid_flatten (rows : TRows) (hs : hasSpans rows = true)
    (h : rows.length * gridCols rows > maxTableGridCells) :
    limitTableGrid rows = rows.map (fun r => r.map (fun _ => (1, 1))) := by
  rw [limitTableGrid_eq_limit]
  exact Grid.limit_beyond spans _ rows hs (gridCols_eq_width rows ▸ h)

theorem gridCols_ones (rows : TRows) :
    hasSpans (rows.map (fun r => r.map (fun _ => ((1 : Nat), (1 : Nat))))) = false :=
  Grid.hasSpans_resetSpans spans rows

theorem limitTableGrid_shape (rows : TRows) :
    (limitTableGrid rows).map List.length = rows.map List.length := by
  have := Grid.limit_map spans (fun _ => ()) (fun _ => rfl) maxTableGridCells rows
  rw [← limitTableGrid_eq_limit] at this
  simpa [List.map_map, Function.comp_def] using congrArg (List.map List.length) this

/-! ### `treeDeeperThan`: the walk ends (every move takes a node off what is left to visit) and answers what is so -/

def pathSize : List (List HT) → Nat
  | [] => 0
  | l :: rest => HT.sizeList l + pathSize rest

theorem climb_size (path : List (List HT)) (z : Zip) (h : climb path = some z) :
    z.cur.size + pathSize z.path = pathSize path := by
  induction path with
  | nil => simp [climb] at h
  | cons l rest ih =>
    cases l with
    | nil => simp only [climb] at h; simp [pathSize, HT.sizeList, ih h]
    | cons s ss =>
      simp only [climb, Option.some.injEq] at h
      subst h
      simp [pathSize, HT.sizeList]; omega

theorem zstep_next_size (limit : Nat) (z z' : Zip) (h : zstep limit z = .next z') :
    z'.cur.size + pathSize z'.path + 1 ≤ z.cur.size + pathSize z.path := by
  obtain ⟨⟨kids⟩, path⟩ := z
  rw [zstep] at h
  cases kids with
  | nil =>
    simp only [HT.kids] at h
    cases hc : climb path with
    | none => rw [hc] at h; cases h
    | some z'' =>
      rw [hc] at h
      cases h
      have := climb_size path z' hc
      simp only [HT.size, HT.sizeList]
      omega
  | cons k ks =>
    simp only [HT.kids] at h
    split at h
    · cases h
    · cases h
      simp only [HT.size, HT.sizeList, pathSize]
      omega

/-- every move that goes on takes a node off what is left to visit -/
theorem zrun_terminates (limit fuel : Nat) (z : Zip) (h : z.cur.size + pathSize z.path < fuel) :
    zrun limit fuel z ≠ none := by
  fun_induction zrun limit fuel z with
  | case1 => omega
  | case2 | case3 => exact fun h => nomatch h
  | case4 fuel z z' hz ih => exact ih (by have := zstep_next_size limit z z' hz; omega)

/-- some tree of the list, standing at depth `n`, reaches below `limit` -/
def DeepL (limit n : Nat) : List HT → Prop
  | [] => False
  | t :: ts => n + t.height > limit ∨ DeepL limit n ts

/-- some pending sibling on the path reaches below `limit` (the head level is at depth = length) -/
def DeepP (limit : Nat) : List (List HT) → Prop
  | [] => False
  | l :: rest => DeepL limit (rest.length + 1) l ∨ DeepP limit rest

def DeepZ (limit : Nat) (z : Zip) : Prop :=
  z.path.length + z.cur.height > limit ∨ DeepP limit z.path

theorem heightList_deep (limit n : Nat) (hn : n ≤ limit) (l : List HT) :
    n + HT.heightList l > limit ↔ DeepL limit (n + 1) l := by
  induction l with
  | nil => simp [HT.heightList, DeepL]; omega
  | cons t ts ih =>
    simp only [HT.heightList, DeepL]
    rw [← ih]
    omega

theorem climb_deep (limit : Nat) (path : List (List HT)) :
    (climb path = none → ¬ DeepP limit path) ∧
    (∀ z', climb path = some z' → (DeepP limit path ↔ DeepZ limit z') ∧ z'.path.length ≤ path.length) := by
  induction path with
  | nil => simp [climb, DeepP]
  | cons l rest ih =>
    cases l with
    | nil =>
      simp only [climb, DeepP, DeepL, false_or]
      refine ⟨ih.1, ?_⟩
      intro z' hz
      have := ih.2 z' hz
      exact ⟨this.1, by simp; omega⟩
    | cons s ss =>
      simp only [climb]
      refine ⟨by simp, ?_⟩
      intro z' hz
      simp only [Option.some.injEq] at hz
      subst hz
      simp only [DeepP, DeepL, DeepZ, List.length_cons]
      exact ⟨or_assoc, by omega⟩

/-- what one move of the walk says about the tree: it answers only what is so, and where it goes on the
question stays the same -/
theorem zstep_deep (limit : Nat) (z : Zip) (hd : z.path.length ≤ limit) :
    match zstep limit z with
    | .deeper => DeepZ limit z
    | .notDeeper => ¬ DeepZ limit z
    | .next z' => (DeepZ limit z ↔ DeepZ limit z') ∧ z'.path.length ≤ limit := by
  obtain ⟨⟨kids⟩, path⟩ := z
  dsimp only at hd
  rw [zstep]
  cases kids with
  | nil =>
    -- a leaf: the walk goes on at the next pending sibling, if there is one
    simp only [HT.kids, DeepZ, HT.height, HT.heightList, Nat.add_zero]
    cases hc : climb path with
    | none => exact not_or.mpr ⟨by omega, (climb_deep limit path).1 hc⟩
    | some z' =>
      obtain ⟨hiff, hlen⟩ := (climb_deep limit path).2 z' hc
      exact ⟨⟨fun h => hiff.mp (h.resolve_left (by omega)), fun h => Or.inr (hiff.mpr h)⟩, by omega⟩
  | cons k ks =>
    simp only [HT.kids, DeepZ, HT.height]
    rw [heightList_deep limit path.length hd (k :: ks)]
    by_cases hlim : path.length + 1 > limit
    · -- the first child already stands below the limit
      rw [if_pos hlim]
      exact Or.inl (Or.inl (by omega))
    · rw [if_neg hlim]
      exact ⟨by simp only [DeepP, DeepL, List.length_cons, or_assoc], by simp only [List.length_cons]; omega⟩

theorem zrun_deep (limit fuel : Nat) (z : Zip) (b : Bool) (hd : z.path.length ≤ limit)
    (h : zrun limit fuel z = some b) : b = true ↔ DeepZ limit z := by
  have hs := zstep_deep limit z hd
  fun_induction zrun limit fuel z with
  | case1 => cases h
  | case2 fuel z hz => rw [hz] at hs; cases h; exact iff_of_true rfl hs
  | case3 fuel z hz => rw [hz] at hs; cases h; exact iff_of_false (fun h => nomatch h) hs
  | case4 fuel z z' hz ih =>
    rw [hz] at hs
    exact (ih hs.2 h (zstep_deep limit z' hs.2)).trans hs.1.symm

/-! ### cmap format 4: the codes written lie below the running `next` -/

theorem cmap4Walk_writes (segs : List (Nat × Nat)) (next bound : Nat) (hn : next ≤ bound)
    (hb : ∀ s ∈ segs, s.2 < bound) : (cmap4Walk segs next).2 + next ≤ bound := by
  induction segs generalizing next with
  | nil => simpa [cmap4Walk] using hn
  | cons s rest ih =>
    obtain ⟨lo, hi⟩ := s
    have hhi : hi < bound := hb (lo, hi) List.mem_cons_self
    have hrest : ∀ s ∈ rest, s.2 < bound := fun s hs => hb s (List.mem_cons_of_mem _ hs)
    -- the codes written for this segment, `c .. hi` with `next ≤ c`, lie below the new `next`
    have hc : next ≤ (if lo < next then next else lo) := by split <;> omega
    have hn' : next ≤ (if hi + 1 > next then hi + 1 else next) ∧ hi + 1 ≤ (if hi + 1 > next then hi + 1 else next) := by
      split <;> omega
    have := ih (if hi + 1 > next then hi + 1 else next) (by split <;> omega) hrest
    simp only [cmap4Walk]
    generalize (if lo < next then next else lo) = c at hc ⊢
    generalize (if hi + 1 > next then hi + 1 else next) = n' at this hn' ⊢
    generalize cmap4Walk rest n' = r at this ⊢
    obtain ⟨runs, w⟩ := r
    dsimp only at this ⊢
    split <;> dsimp only <;> omega

theorem sortSegs_mem (segs : List (Nat × Nat)) : ∀ s, s ∈ sortSegs segs → s ∈ segs := by
  have hperm : (sortSegs segs).Perm segs := by
    induction segs with
    | nil => exact List.Perm.refl _
    | cons x rest ih =>
      exact (MapOrder.insertion_perm (c := fun x y => x.1 < y.1) (ins := insertSeg) (fun _ => rfl)
        (fun _ _ _ => rfl) x _).trans (List.Perm.cons x ih)
  exact fun s hs => hperm.subset hs

theorem cmap4Segs_mem (st en : List Nat) : ∀ s, s ∈ cmap4Segs st en → s.2 ∈ en := by
  intro x hx
  fun_induction cmap4Segs st en with
  | case1 s ss e es hle ih =>
    rcases List.mem_cons.mp hx with h | h
    · simp [h]
    · exact List.mem_cons_of_mem _ (ih h)
  | case2 s ss e es hle ih => exact List.mem_cons_of_mem _ (ih hx)
  | case3 => cases hx

end Tabula.BoundsOffice
