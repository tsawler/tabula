import TabulaModel.Lemmas.MarkdownDoc
/-!
The text `pptx.(*Reader).markdown` builds, as lines: what a paragraph, a block, a slide and a deck
contribute (`paraLines`, `blockLines`, `slideLines`, `deckLines`), and where a line of the deck comes
from (`mem_deckLines`, `mem_slideLines`, `mem_paraLines`).
-/
namespace Tabula.C15More
open Tabula.A1 (Str dec)
open Tabula.Markdown Tabula.MarkdownDoc

/-- the lines one paragraph contributes: nothing when empty, its list item line, or its text and
an empty line -/
def paraLines (p : PPara) : List Str :=
  if p.text.isEmpty then []
  else if p.isBullet || p.isNumbered then [listLine ⟨p.level.toNat, p.isNumbered, 1, p.text⟩]
  else [p.text, []]

/-- a block is written unless it is the title block or an excluded footer / header placeholder -/
def blockShown (exH exF : Bool) (b : PBlock) : Bool :=
  !b.isTitle && !(exF && Tabula.HF.isFooterPlaceholder b.placeholder)
    && !(exH && Tabula.HF.isHeaderPlaceholder b.placeholder)

def blockLines (exH exF : Bool) (b : PBlock) : List Str :=
  if blockShown exH exF b then b.paras.flatMap paraLines else []

def slideLines (exH exF : Bool) (titleLevel : Int) (s : PSlide) : List Str :=
  (if s.title.isEmpty then [] else [atxLine titleLevel.toNat s.title, []])
    ++ s.content.flatMap (blockLines exH exF)

/-- the lines of the slide loop: `""`, `---`, `""` between two slides -/
def deckLines (exH exF : Bool) (titleLevel : Int) : List PSlide → Bool → List Str
  | [], _ => []
  | s :: rest, first =>
    (if first then [] else [[], hrLine, []]) ++ slideLines exH exF titleLevel s
      ++ deckLines exH exF titleLevel rest false

/-- the paragraphs of a slide that are written, in order -/
def slideParas (exH exF : Bool) (s : PSlide) : List PPara :=
  s.content.flatMap fun b => if blockShown exH exF b then b.paras else []

/-- the written blocks of a slide contribute the lines of the written paragraphs -/
theorem content_lines (exH exF : Bool) (s : PSlide) :
    s.content.flatMap (blockLines exH exF) = (slideParas exH exF s).flatMap paraLines := by
  unfold slideParas
  rw [List.flatMap_assoc]
  refine List.flatMap_congr fun b _ => ?_
  unfold blockLines
  cases blockShown exH exF b <;> rfl

theorem mem_paraLines {p : PPara} {l : Str} (h : l ∈ paraLines p) :
    l = [] ∨ l = p.text ∨ l = listLine ⟨p.level.toNat, p.isNumbered, 1, p.text⟩ := by
  unfold paraLines at h
  split at h
  · cases h
  · split at h
    · exact Or.inr (Or.inr (List.mem_singleton.mp h))
    · rcases List.mem_cons.mp h with h | h
      · exact Or.inr (Or.inl h)
      · exact Or.inl (List.mem_singleton.mp h)

/-- a line of a slide is empty, the title line, or a line of a written paragraph -/
theorem mem_slideLines {exH exF : Bool} {titleLevel : Int} {s : PSlide} {l : Str}
    (h : l ∈ slideLines exH exF titleLevel s) :
    l = [] ∨ l = atxLine titleLevel.toNat s.title ∨ ∃ p ∈ slideParas exH exF s, l ∈ paraLines p := by
  unfold slideLines at h
  rw [content_lines] at h
  rcases List.mem_append.mp h with h | h
  · split at h
    · cases h
    · rcases List.mem_cons.mp h with h | h
      · exact Or.inr (Or.inl h)
      · exact Or.inl (List.mem_singleton.mp h)
  · exact Or.inr (Or.inr (List.mem_flatMap.mp h))

/-- a line of the deck is empty, `---`, or a line of one of its slides -/
theorem mem_deckLines {exH exF : Bool} {titleLevel : Int} {l : Str} : ∀ {ss : List PSlide} {first : Bool},
    l ∈ deckLines exH exF titleLevel ss first → l = [] ∨ l = hrLine ∨ ∃ s ∈ ss, l ∈ slideLines exH exF titleLevel s
  | [], _, h => nomatch h
  | s :: rest, first, h => by
    unfold deckLines at h
    rcases List.mem_append.mp h with h | h
    · rcases List.mem_append.mp h with h | h
      · cases first
        · simp only [Bool.false_eq_true, if_false, List.mem_cons, List.not_mem_nil, or_false] at h
          rcases h with h | h | h
          · exact Or.inl h
          · exact Or.inr (Or.inl h)
          · exact Or.inl h
        · cases h
      · exact Or.inr (Or.inr ⟨s, List.mem_cons_self, h⟩)
    · rcases mem_deckLines h with h | h | ⟨x, hx, h⟩
      · exact Or.inl h
      · exact Or.inr (Or.inl h)
      · exact Or.inr (Or.inr ⟨x, List.mem_cons_of_mem _ hx, h⟩)

end Tabula.C15More
