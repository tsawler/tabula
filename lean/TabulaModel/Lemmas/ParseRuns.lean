import TabulaModel.Model.CSParser
/-
What the two recursive-descent readers (`parseObject` of core/parser.go, `CS.parseOperand` of
contentstream/parser.go, each with its array and dictionary loops) can return: the case analysis of
their definitions, done once.  Core Lean only.
-/
namespace Tabula.Pdf

theorem parseReal_real {t : Str} {o : Obj} (h : parseReal t = some o) : ∃ n m e, o = .real n m e := by
  unfold parseReal at h
  dsimp only at h
  have h := (Option.ite_none_left_eq_some.mp h).2
  generalize A1.digitsAcc _ 0 = x at h
  cases x with
  | none => cases h
  | some m => cases h; exact ⟨_, _, _, rfl⟩

/-- what a successful `parseNumber` did: one token consumed - a real when `ParseInt` fails, else the
integer - or, with an integer and `R` in the two lookahead slots, a reference and three tokens consumed -/
theorem parseNumber_inv {s : PState} {v : Str} {o : Obj} {s' : PState} (h : parseNumber s v = .ok (o, s')) :
    (s' = s.next ∧ (A1.atoi v = none ∧ parseReal v = some o ∨ ∃ n, A1.atoi v = some n ∧ o = .int n)) ∨
    (∃ n v2 g, A1.atoi v = some n ∧ s.peek = some (.integer v2) ∧ A1.atoi v2 = some g ∧
      s.next.peek = some .ref ∧ o = .ref n g ∧ s' = s.next.next.next) := by
  unfold parseNumber at h
  split at h
  · next hat =>
    split at h
    · cases h
    · next hr => cases h; exact .inl ⟨rfl, .inl ⟨hat, hr⟩⟩
  · next a hat =>
    -- an integer: every branch answers `.int a` and `s.next`, except the one that finds `integer R`
    split at h
    · next v2 hp =>
      split at h
      · next g hg =>
        dsimp only at h
        split at h
        · next hr => cases h; exact .inr ⟨a, v2, g, hat, hp, hg, hr, rfl, rfl⟩
        · cases h; exact .inl ⟨rfl, .inr ⟨a, hat, rfl⟩⟩
      · cases h; exact .inl ⟨rfl, .inr ⟨a, hat, rfl⟩⟩
    · cases h; exact .inl ⟨rfl, .inr ⟨a, hat, rfl⟩⟩

theorem parseNumber_shape {s : PState} {v : Str} {o : Obj} {s' : PState} (h : parseNumber s v = .ok (o, s')) :
    o.depth = 0 ∧ (s' = s.next ∨ s' = s.next.next.next) := by
  rcases parseNumber_inv h with ⟨hs, ⟨_, hr⟩ | ⟨n, _, rfl⟩⟩ | ⟨n, v2, g, _, _, _, _, rfl, hs⟩
  · obtain ⟨_, _, _, rfl⟩ := parseReal_real hr
    exact ⟨rfl, .inl hs⟩
  · exact ⟨rfl, .inl hs⟩
  · exact ⟨rfl, .inr hs⟩

/-- the array loop on a token that neither closes the array nor ends the input -/
theorem parseArray_step {f d : Nat} {s : PState} {acc : List Obj} {t : Token} (h : s.cur = some t)
    (h1 : t ≠ .arrEnd) (h2 : t ≠ .eof) :
    parseArray (f + 1) d s acc =
      match parseObject f d s with
      | .error _ => .error .err
      | .ok (o, s') => parseArray f d s' (acc ++ [o]) := by
  cases t <;> first
    | exact absurd rfl h1
    | exact absurd rfl h2
    | (rw [parseArray]; simp only [h]; rfl)

/-- one successful round of the array loop: it stood on `]`, or it read a member and went on -/
theorem parseArray_inv {f d : Nat} {s : PState} {acc : List Obj} {a : Obj} {s' : PState}
    (h : parseArray (f + 1) d s acc = .ok (a, s')) :
    (s.cur = some .arrEnd ∧ a = .arr acc ∧ s' = s.next) ∨
    (s.cur ≠ some .arrEnd ∧ ∃ o1 s1, parseObject f d s = .ok (o1, s1) ∧
      parseArray f d s1 (acc ++ [o1]) = .ok (a, s')) := by
  cases hc : s.cur with
  | none => rw [parseArray, hc] at h; cases h
  | some t =>
    by_cases h1 : t = .arrEnd
    · subst h1; rw [parseArray, hc] at h; cases h; exact .inl ⟨rfl, rfl, rfl⟩
    by_cases h2 : t = .eof
    · subst h2; rw [parseArray, hc] at h; cases h
    rw [parseArray_step hc h1 h2] at h
    cases hp : parseObject f d s with
    | error e => rw [hp] at h; cases h
    | ok p => rw [hp] at h; exact .inr ⟨fun e => h1 (Option.some.inj e), p.1, p.2, rfl, h⟩

/-- one successful call of `ParseObject`: the token it stood on and what it did there; in the two
container cases, the successful run of the loop it handed over to -/
theorem parseObject_inv {f d : Nat} {s : PState} {o : Obj} {s' : PState}
    (h : parseObject (f + 1) d s = .ok (o, s')) :
    ∃ t, s.cur = some t ∧
      match t with
      | .keyword v =>
        (v = kwNull ∧ o = .null ∨ v = kwTrue ∧ o = .bool true ∨ v = kwFalse ∧ o = .bool false) ∧ s' = s.next
      | .integer v => parseNumber s v = .ok (o, s')
      | .real v => parseReal v = some o ∧ s' = s.next
      | .str v => o = .str v ∧ s' = s.next
      | .hexstr v => o = .str (hexPairs v) ∧ s' = s.next
      | .name v => o = .name v ∧ s' = s.next
      | .arrStart => ¬ maxNestingDepth ≤ d ∧ parseArray f (d + 1) s.next [] = .ok (o, s')
      | .dictStart => ¬ maxNestingDepth ≤ d ∧ parseDict f (d + 1) s.next [] = .ok (o, s')
      | _ => False := by
  rw [parseObject] at h
  cases hc : s.cur with
  | none => rw [hc] at h; cases h
  | some t =>
    rw [hc] at h
    refine ⟨t, rfl, ?_⟩
    cases t with
    | eof => dsimp only at h; split at h <;> cases h
    | keyword v =>
      dsimp only at h ⊢
      by_cases k1 : v = kwNull
      · rw [if_pos k1] at h; cases h; exact ⟨.inl ⟨k1, rfl⟩, rfl⟩
      rw [if_neg k1] at h
      by_cases k2 : v = kwTrue
      · rw [if_pos k2] at h; cases h; exact ⟨.inr (.inl ⟨k2, rfl⟩), rfl⟩
      rw [if_neg k2] at h
      by_cases k3 : v = kwFalse
      · rw [if_pos k3] at h; cases h; exact ⟨.inr (.inr ⟨k3, rfl⟩), rfl⟩
      rw [if_neg k3] at h; cases h
    | integer v => exact h
    | real v =>
      dsimp only at h ⊢
      cases hp : parseReal v with
      | none => rw [hp] at h; cases h
      | some o' => rw [hp] at h; cases h; exact ⟨rfl, rfl⟩
    | str v => cases h; exact ⟨rfl, rfl⟩
    | hexstr v => cases h; exact ⟨rfl, rfl⟩
    | name v => cases h; exact ⟨rfl, rfl⟩
    | arrStart =>
      dsimp only at h ⊢
      by_cases hd : maxNestingDepth ≤ d
      · rw [if_pos hd] at h; cases h
      · rw [if_neg hd] at h; exact ⟨hd, h⟩
    | dictStart =>
      dsimp only at h ⊢
      by_cases hd : maxNestingDepth ≤ d
      · rw [if_pos hd] at h; cases h
      · rw [if_neg hd] at h; exact ⟨hd, h⟩
    | _ => cases h

/-- one successful round of the dictionary loop: it stood on `>>`, or on a key, read the value and went on -/
theorem parseDict_inv {f d : Nat} {s : PState} {acc : List (Str × Obj)} {a : Obj} {s' : PState}
    (h : parseDict (f + 1) d s acc = .ok (a, s')) :
    (s.cur = some .dictEnd ∧ a = .dict acc ∧ s' = s.next) ∨
    (∃ k o1 s1, s.cur = some (.name k) ∧ parseObject f d s.next = .ok (o1, s1) ∧
      parseDict f d s1 (dictSet acc k o1) = .ok (a, s')) := by
  rw [parseDict] at h
  cases hc : s.cur with
  | none => rw [hc] at h; cases h
  | some t =>
    rw [hc] at h
    cases t with
    | dictEnd => cases h; exact .inl ⟨rfl, rfl, rfl⟩
    | name k =>
      dsimp only at h
      cases hp : parseObject f d s.next with
      | error e => rw [hp] at h; cases h
      | ok p => rw [hp] at h; exact .inr ⟨k, p.1, p.2, rfl, rfl, h⟩
    | _ => cases h

/-- Rule induction over the successful runs of `ParseObject` / `parseArray` / `parseDict`: one rule per
way a call can succeed, with the token it stands on.  `d` is `p.depth`, the states are the parser
before and after.  (The binders `s : PState` carry their type: without it every `s.cur` is postponed
and elaborating the statement costs three times as much with each further rule.) -/
theorem parse_induction
    {PO : Nat → PState → Obj → PState → Prop}
    {PA : Nat → PState → List Obj → Obj → PState → Prop}
    {PD : Nat → PState → List (Str × Obj) → Obj → PState → Prop}
    (kw : ∀ d (s : PState) v o, s.cur = some (.keyword v) →
      v = kwNull ∧ o = .null ∨ v = kwTrue ∧ o = .bool true ∨ v = kwFalse ∧ o = .bool false →
      PO d s o s.next)
    (int : ∀ d (s : PState) v o s', s.cur = some (.integer v) → parseNumber s v = .ok (o, s') → PO d s o s')
    (real : ∀ d (s : PState) v o, s.cur = some (.real v) → parseReal v = some o → PO d s o s.next)
    (str : ∀ d (s : PState) v, s.cur = some (.str v) → PO d s (.str v) s.next)
    (hex : ∀ d (s : PState) v, s.cur = some (.hexstr v) → PO d s (.str (hexPairs v)) s.next)
    (name : ∀ d (s : PState) v, s.cur = some (.name v) → PO d s (.name v) s.next)
    (arr : ∀ d (s : PState) o s', s.cur = some .arrStart → ¬ maxNestingDepth ≤ d → PA (d + 1) s.next [] o s' →
      PO d s o s')
    (dict : ∀ d (s : PState) o s', s.cur = some .dictStart → ¬ maxNestingDepth ≤ d → PD (d + 1) s.next [] o s' →
      PO d s o s')
    (arrEnd : ∀ d (s : PState) acc, s.cur = some .arrEnd → PA d s acc (.arr acc) s.next)
    (arrStep : ∀ d (s : PState) acc o1 s1 o s', PO d s o1 s1 → PA d s1 (acc ++ [o1]) o s' → PA d s acc o s')
    (dictEnd : ∀ d (s : PState) acc, s.cur = some .dictEnd → PD d s acc (.dict acc) s.next)
    (dictStep : ∀ d (s : PState) acc k o1 s1 o s', s.cur = some (.name k) → PO d s.next o1 s1 →
      PD d s1 (dictSet acc k o1) o s' → PD d s acc o s')
    (f : Nat) :
    (∀ d s o s', parseObject f d s = .ok (o, s') → PO d s o s') ∧
    (∀ d s acc o s', parseArray f d s acc = .ok (o, s') → PA d s acc o s') ∧
    (∀ d s acc o s', parseDict f d s acc = .ok (o, s') → PD d s acc o s') := by
  induction f with
  | zero =>
    refine ⟨?_, ?_, ?_⟩
    · intro d s o s' h; rw [parseObject] at h; cases h
    · intro d s acc o s' h; rw [parseArray] at h; cases h
    · intro d s acc o s' h; rw [parseDict] at h; cases h
  | succ f ih =>
    obtain ⟨ihO, ihA, ihD⟩ := ih
    refine ⟨?_, ?_, ?_⟩
    · intro d s o s' h
      obtain ⟨t, hc, ht⟩ := parseObject_inv h
      cases t with
      | keyword v => obtain ⟨ho, rfl⟩ := ht; exact kw d s v o hc ho
      | integer v => exact int d s v o s' hc ht
      | real v => obtain ⟨hp, rfl⟩ := ht; exact real d s v o hc hp
      | str v => obtain ⟨rfl, rfl⟩ := ht; exact str d s v hc
      | hexstr v => obtain ⟨rfl, rfl⟩ := ht; exact hex d s v hc
      | name v => obtain ⟨rfl, rfl⟩ := ht; exact name d s v hc
      | arrStart => exact arr d s o s' hc ht.1 (ihA _ _ _ _ _ ht.2)
      | dictStart => exact dict d s o s' hc ht.1 (ihD _ _ _ _ _ ht.2)
      | _ => exact ht.elim
    · intro d s acc o s' h
      rcases parseArray_inv h with ⟨hc, rfl, rfl⟩ | ⟨_, o1, s1, hp, ha⟩
      · exact arrEnd d s acc hc
      · exact arrStep d s acc o1 s1 o s' (ihO _ _ _ _ hp) (ihA _ _ _ _ _ ha)
    · intro d s acc o s' h
      rcases parseDict_inv h with ⟨hc, rfl, rfl⟩ | ⟨k, o1, s1, hc, hp, hd'⟩
      · exact dictEnd d s acc hc
      · exact dictStep d s acc k o1 s1 o s' hc (ihO _ _ _ _ hp) (ihD _ _ _ _ _ hd')

namespace CS

theorem parseNumber_num {inp : Str} {o : Obj} {r : Str} (h : parseNumber inp = some (o, r)) :
    (∃ n m e, o = .real n m e) ∨ ∃ v, o = .int v := by
  unfold parseNumber at h
  dsimp only at h
  generalize hx : parseReal _ = x at h
  generalize A1.atoi _ = y at h
  generalize (numBody false _).2.1 = b at h
  cases b with
  | true =>
    cases x with
    | none => cases h
    | some o' => cases h; exact .inl (parseReal_real hx)
  | false =>
    cases y with
    | none => cases h
    | some v => cases h; exact .inr ⟨v, rfl⟩

/-- one successful call of `parseOperand`: the byte it found after white space and what it did there;
in the two container cases, the successful run of the loop it handed over to -/
theorem parseOperand_inv {f d : Nat} {inp : Str} {o : Obj} {r : Str}
    (h : parseOperand (f + 1) d inp = some (o, r)) :
    ∃ c r0, skipSpace inp = c :: r0 ∧
      (((c = 45 ∨ c = 43 ∨ c = 46 ∨ isDigit c = true) ∧ parseNumber (c :: r0) = some (o, r)) ∨
       (c = 40 ∧ ∃ v, strLoop 1 r0 = some (v, r) ∧ o = .str v) ∨
       (c = 60 ∧ r0 ≠ [] ∧ r0.head? ≠ some 60 ∧ ∃ v, hexLoop r0 = some (v, r) ∧ o = .str v) ∨
       (c = 47 ∧ o = .name (nameLoop r0).1 ∧ r = (nameLoop r0).2) ∨
       (c = 91 ∧ ¬ maxNestingDepth ≤ d ∧ parseArray f (d + 1) r0 [] = some (o, r)) ∨
       (c = 60 ∧ ∃ r1, r0 = 60 :: r1 ∧ ¬ maxNestingDepth ≤ d ∧ parseDict f (d + 1) r1 [] = some (o, r)) ∨
       ((c = 116 ∨ c = 102 ∨ c = 110) ∧ ∃ t, regularToken (c :: r0) = t ∧
         (t = kwTrue ∧ o = .bool true ∨ t = kwFalse ∧ o = .bool false ∨ t = kwNull ∧ o = .null) ∧
         r = (c :: r0).drop t.length)) := by
  rw [parseOperand] at h
  cases hs : skipSpace inp with
  | nil => rw [hs] at h; cases h
  | cons c r0 =>
    rw [hs] at h
    dsimp only at h
    refine ⟨c, r0, rfl, ?_⟩
    by_cases h1 : c = 45 ∨ c = 43 ∨ c = 46 ∨ isDigit c = true
    · rw [if_pos h1] at h; exact .inl ⟨h1, h⟩
    rw [if_neg h1] at h
    by_cases h2 : c = 40
    · rw [if_pos h2] at h
      cases hv : strLoop 1 r0 with
      | none => rw [hv] at h; cases h
      | some p => rw [hv] at h; cases h; exact .inr (.inl ⟨h2, _, rfl, rfl⟩)
    rw [if_neg h2] at h
    by_cases h3 : c = 60 ∧ r0 ≠ [] ∧ r0.head? ≠ some 60
    · rw [if_pos h3] at h
      cases hv : hexLoop r0 with
      | none => rw [hv] at h; cases h
      | some p => rw [hv] at h; cases h; exact .inr (.inr (.inl ⟨h3.1, h3.2.1, h3.2.2, _, rfl, rfl⟩))
    rw [if_neg h3] at h
    by_cases h4 : c = 47
    · rw [if_pos h4] at h; cases h; exact .inr (.inr (.inr (.inl ⟨h4, rfl, rfl⟩)))
    rw [if_neg h4] at h
    by_cases h5 : c = 91
    · rw [if_pos h5] at h
      by_cases hd : maxNestingDepth ≤ d
      · rw [if_pos hd] at h; cases h
      · rw [if_neg hd] at h; exact .inr (.inr (.inr (.inr (.inl ⟨h5, hd, h⟩))))
    rw [if_neg h5] at h
    by_cases h6 : c = 60 ∧ r0.head? = some 60
    · rw [if_pos h6] at h
      by_cases hd : maxNestingDepth ≤ d
      · rw [if_pos hd] at h; cases h
      · rw [if_neg hd] at h
        cases r0 with
        | nil => cases h6.2
        | cons c2 r1 =>
          obtain rfl : c2 = 60 := Option.some.inj h6.2
          exact .inr (.inr (.inr (.inr (.inr (.inl ⟨h6.1, r1, rfl, hd, h⟩)))))
    rw [if_neg h6] at h
    by_cases h7 : c = 116 ∨ c = 102 ∨ c = 110
    · rw [if_pos h7] at h
      refine .inr (.inr (.inr (.inr (.inr (.inr ⟨h7, _, rfl, ?_⟩)))))
      by_cases k1 : regularToken (c :: r0) = kwTrue
      · rw [if_pos k1] at h; cases h; exact ⟨.inl ⟨k1, rfl⟩, rfl⟩
      rw [if_neg k1] at h
      by_cases k2 : regularToken (c :: r0) = kwFalse
      · rw [if_pos k2] at h; cases h; exact ⟨.inr (.inl ⟨k2, rfl⟩), rfl⟩
      rw [if_neg k2] at h
      by_cases k3 : regularToken (c :: r0) = kwNull
      · rw [if_pos k3] at h; cases h; exact ⟨.inr (.inr ⟨k3, rfl⟩), rfl⟩
      rw [if_neg k3] at h; cases h
    rw [if_neg h7] at h; cases h

/-- one successful round of the array loop: the data had ended, it found `]`, or it read a member and
went on -/
theorem parseArray_inv {f d : Nat} {inp : Str} {acc : List Obj} {o : Obj} {r : Str}
    (h : parseArray (f + 1) d inp acc = some (o, r)) :
    (inp = [] ∧ o = .arr acc ∧ r = []) ∨
    (∃ r0, skipSpace inp = 93 :: r0 ∧ o = .arr acc ∧ r = r0) ∨
    (∃ c r0 o1 r1, skipSpace inp = c :: r0 ∧ c ≠ 93 ∧ parseOperand f d (c :: r0) = some (o1, r1) ∧
      parseArray f d r1 (acc ++ [o1]) = some (o, r)) := by
  rw [parseArray] at h
  by_cases h0 : inp = []
  · rw [if_pos h0] at h; cases h; exact .inl ⟨h0, rfl, rfl⟩
  rw [if_neg h0] at h
  cases hs : skipSpace inp with
  | nil => rw [hs] at h; cases h
  | cons c r0 =>
    rw [hs] at h
    dsimp only at h
    by_cases h1 : c = 93
    · rw [if_pos h1] at h; subst h1; cases h; exact .inr (.inl ⟨_, rfl, rfl, rfl⟩)
    rw [if_neg h1] at h
    cases hp : parseOperand f d (c :: r0) with
    | none => rw [hp] at h; cases h
    | some p => rw [hp] at h; exact .inr (.inr ⟨c, r0, p.1, p.2, rfl, h1, hp, h⟩)

/-- one successful round of the dictionary loop: the data had ended, it found `>>`, or it read a key
and its value and went on -/
theorem parseDict_inv {f d : Nat} {inp : Str} {acc : List (Str × Obj)} {o : Obj} {r : Str}
    (h : parseDict (f + 1) d inp acc = some (o, r)) :
    (inp = [] ∧ o = .dict acc ∧ r = []) ∨
    (∃ r1, skipSpace inp = 62 :: 62 :: r1 ∧ o = .dict acc ∧ r = r1) ∨
    (∃ r0 o1 r1, skipSpace inp = 47 :: r0 ∧ parseOperand f d (nameLoop r0).2 = some (o1, r1) ∧
      parseDict f d r1 (dictSet acc (nameLoop r0).1 o1) = some (o, r)) := by
  rw [parseDict] at h
  by_cases h0 : inp = []
  · rw [if_pos h0] at h; cases h; exact .inl ⟨h0, rfl, rfl⟩
  rw [if_neg h0] at h
  cases hs : skipSpace inp with
  | nil => rw [hs] at h; cases h
  | cons c r0 =>
    rw [hs] at h
    dsimp only at h
    by_cases h1 : c = 62 ∧ r0.head? = some 62
    · rw [if_pos h1] at h
      cases h
      cases r0 with
      | nil => cases h1.2
      | cons c2 r1 =>
        obtain rfl : c2 = 62 := Option.some.inj h1.2
        exact .inr (.inl ⟨r1, by rw [h1.1], rfl, rfl⟩)
    rw [if_neg h1] at h
    by_cases h2 : c ≠ 47
    · rw [if_pos h2] at h; cases h
    rw [if_neg h2] at h
    obtain rfl : c = 47 := Decidable.not_not.mp h2
    cases hp : parseOperand f d (nameLoop r0).2 with
    | none => rw [hp] at h; cases h
    | some p => rw [hp] at h; exact .inr (.inr ⟨r0, p.1, p.2, rfl, hp, h⟩)

/-- Rule induction over the successful runs of the three mutually recursive readers: one rule per
way a call can succeed, with the premises the definition tests on that way.  `d` is `p.depth`,
the strings are the input given and the input left. -/
theorem parse_induction
    {PO : Nat → Str → Obj → Str → Prop}
    {PA : Nat → Str → List Obj → Obj → Str → Prop}
    {PD : Nat → Str → List (Str × Obj) → Obj → Str → Prop}
    (num : ∀ d (inp : Str) c r0 o r, skipSpace inp = c :: r0 → (c = 45 ∨ c = 43 ∨ c = 46 ∨ isDigit c) →
      parseNumber (c :: r0) = some (o, r) → PO d inp o r)
    (str : ∀ d (inp : Str) r0 v r, skipSpace inp = 40 :: r0 → strLoop 1 r0 = some (v, r) → PO d inp (.str v) r)
    (hex : ∀ d (inp : Str) r0 v r, skipSpace inp = 60 :: r0 → r0 ≠ [] → r0.head? ≠ some 60 →
      hexLoop r0 = some (v, r) → PO d inp (.str v) r)
    (name : ∀ d (inp : Str) r0, skipSpace inp = 47 :: r0 → PO d inp (.name (nameLoop r0).1) (nameLoop r0).2)
    (arr : ∀ d (inp : Str) r0 o r, skipSpace inp = 91 :: r0 → ¬ maxNestingDepth ≤ d →
      PA (d + 1) r0 [] o r → PO d inp o r)
    (dict : ∀ d (inp : Str) r0 o r, skipSpace inp = 60 :: r0 → r0.head? = some 60 → ¬ maxNestingDepth ≤ d →
      PD (d + 1) (r0.drop 1) [] o r → PO d inp o r)
    (kw : ∀ d (inp : Str) c r0 t o, skipSpace inp = c :: r0 → regularToken (c :: r0) = t →
      t = kwTrue ∧ o = .bool true ∨ t = kwFalse ∧ o = .bool false ∨ t = kwNull ∧ o = .null →
      PO d inp o ((c :: r0).drop t.length))
    (arrNil : ∀ d acc, PA d [] acc (.arr acc) [])
    (arrEnd : ∀ d (inp : Str) acc r0, skipSpace inp = 93 :: r0 → PA d inp acc (.arr acc) r0)
    (arrStep : ∀ d (inp : Str) acc c r0 o1 r1 o r, skipSpace inp = c :: r0 → c ≠ 93 → PO d (c :: r0) o1 r1 →
      PA d r1 (acc ++ [o1]) o r → PA d inp acc o r)
    (dictNil : ∀ d acc, PD d [] acc (.dict acc) [])
    (dictEnd : ∀ d (inp : Str) acc r0, skipSpace inp = 62 :: r0 → r0.head? = some 62 →
      PD d inp acc (.dict acc) (r0.drop 1))
    (dictStep : ∀ d (inp : Str) acc r0 o1 r1 o r, skipSpace inp = 47 :: r0 → PO d (nameLoop r0).2 o1 r1 →
      PD d r1 (dictSet acc (nameLoop r0).1 o1) o r → PD d inp acc o r)
    (f : Nat) :
    (∀ d inp o r, parseOperand f d inp = some (o, r) → PO d inp o r) ∧
    (∀ d inp acc o r, parseArray f d inp acc = some (o, r) → PA d inp acc o r) ∧
    (∀ d inp acc o r, parseDict f d inp acc = some (o, r) → PD d inp acc o r) := by
  induction f with
  | zero =>
    refine ⟨?_, ?_, ?_⟩
    · intro d inp o r h; rw [parseOperand] at h; cases h
    · intro d inp acc o r h; rw [parseArray] at h; cases h
    · intro d inp acc o r h; rw [parseDict] at h; cases h
  | succ f ih =>
    obtain ⟨ihO, ihA, ihD⟩ := ih
    refine ⟨?_, ?_, ?_⟩
    · intro d inp o r h
      obtain ⟨c, r0, hs, hc⟩ := parseOperand_inv h
      rcases hc with ⟨hc, hn⟩ | ⟨rfl, v, hv, rfl⟩ | ⟨rfl, hne, h60, v, hv, rfl⟩ | ⟨rfl, rfl, rfl⟩ | ⟨rfl, hd, ha⟩ |
        ⟨rfl, r1, rfl, hd, hd'⟩ | ⟨_, t, ht, ho, rfl⟩
      · exact num d inp c r0 o r hs hc hn
      · exact str d inp r0 v r hs hv
      · exact hex d inp r0 v r hs hne h60 hv
      · exact name d inp r0 hs
      · exact arr d inp r0 o r hs hd (ihA _ _ _ _ _ ha)
      · exact dict d inp (60 :: r1) o r hs rfl hd (ihD _ _ _ _ _ hd')
      · exact kw d inp c r0 t o hs ht ho
    · intro d inp acc o r h
      rcases parseArray_inv h with ⟨rfl, rfl, rfl⟩ | ⟨r0, hs, rfl, rfl⟩ | ⟨c, r0, o1, r1, hs, hc, hp, ha⟩
      · exact arrNil d acc
      · exact arrEnd d inp acc _ hs
      · exact arrStep d inp acc c r0 o1 r1 o r hs hc (ihO _ _ _ _ hp) (ihA _ _ _ _ _ ha)
    · intro d inp acc o r h
      rcases parseDict_inv h with ⟨rfl, rfl, rfl⟩ | ⟨r1, hs, rfl, rfl⟩ | ⟨r0, o1, r1, hs, hp, hd'⟩
      · exact dictNil d acc
      · exact dictEnd d inp acc _ hs rfl
      · exact dictStep d inp acc r0 o1 r1 o r hs (ihO _ _ _ _ hp) (ihD _ _ _ _ _ hd')

/-- Rule induction over the successful runs of `Parse`'s loop: the input ends after white space, an
operator takes the operand stack, or one more operand is pushed. -/
theorem parseLoop_induction {fuel : Nat} {P : Str → List Obj → List Operation → List Operation → Prop}
    (stop : ∀ inp stack ops, skipSpace inp = [] → P inp stack ops ops)
    (operator : ∀ inp c r stack ops res, skipSpace inp = c :: r → (opName false (c :: r)).1 ≠ [] →
      P (opName false (c :: r)).2 [] (ops ++ [{ op := (opName false (c :: r)).1, operands := stack }]) res →
      P inp stack ops res)
    (operand : ∀ inp c r o r' stack ops res, skipSpace inp = c :: r →
      parseOperand fuel 0 (c :: r) = some (o, r') → P r' (stack ++ [o]) ops res → P inp stack ops res)
    (n : Nat) : ∀ inp stack ops res, parseLoop n fuel inp stack ops = some res → P inp stack ops res := by
  induction n with
  | zero => intro inp stack ops res h; rw [parseLoop] at h; cases h
  | succ n ih =>
    intro inp stack ops res h
    rw [parseLoop] at h
    cases hs : skipSpace inp with
    | nil => rw [hs] at h; cases h; exact stop inp stack ops hs
    | cons c r =>
      rw [hs] at h
      dsimp only at h
      split at h
      · split at h
        · cases h
        · next hp => exact operator inp c r stack ops res hs hp (ih _ _ _ _ h)
      · split at h
        · cases h
        · next o r' hp => exact operand inp c r o r' stack ops res hs hp (ih _ _ _ _ h)
end CS

namespace CSL

theorem po_num (f d : Nat) (X : Str) (c : Nat) (r : Str) (h : CS.skipSpace X = c :: r)
    (hc : c = 45 ∨ c = 43 ∨ c = 46 ∨ isDigit c = true) :
    CS.parseOperand (f + 1) d X = CS.parseNumber (c :: r) := by
  rw [CS.parseOperand, h]; simp only [hc, if_true]

end CSL
end Tabula.Pdf
