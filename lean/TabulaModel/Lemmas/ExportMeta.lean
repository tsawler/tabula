import TabulaModel.Model.ExportApi
import TabulaModel.Lemmas.ExportMap
/-!
The metadata map of a chunk, the exported selection of it, the cells and the column names of `Model/Export.lean`
in terms of the chunk's own fields (`metaField`, `exportedMeta`, `cellSpec` of `Model/ExportApi.lean`).
-/
set_option linter.unusedSimpArgs false
namespace Tabula.Export
open Tabula.Csv (Str)

/-! ### the metadata map of a chunk: eighteen distinct keys, no nested map, no empty list -/

def allKeysApp : List Str :=
  [kDocumentTitle] ++ [kSectionPath] ++ [kSectionTitle] ++ [kHeadingLevel] ++ [kPageStart] ++ [kPageEnd] ++
  [kChunkIndex] ++ [kTotalChunks] ++ [kLevel] ++ [kParentId] ++ [kChildIds] ++ [kElementTypes] ++
  [kHasTable] ++ [kHasList] ++ [kHasImage] ++ [kCharCount] ++ [kWordCount] ++ [kEstimatedTokens]

theorem allKeysApp_nodup : allKeysApp.Nodup := by decide +kernel

theorem keys_sublist (m : Meta) : List.Sublist (mapKeys (chunkMetadataToMap m)) allKeysApp := by
  unfold chunkMetadataToMap allKeysApp
  simp only [mapKeys_append]
  repeat (first | apply List.Sublist.append | exact sub_if _ _ _ | exact List.Sublist.refl _)

/-- a list-valued entry is never empty (empty lists are not exported) -/
def listNonEmpty : Val → Prop
  | .strs l => l ≠ []
  | _ => True

/-- every value of a chunk's metadata map is a scalar or a non-empty list of strings -/
theorem values_flat_nonEmpty (m : Meta) : ∀ e ∈ chunkMetadataToMap m, isFlat e.2 ∧ listNonEmpty e.2 := by
  unfold chunkMetadataToMap
  repeat (first | apply allE_append | exact allE_if _ _ _ (fun h => ⟨trivial, h⟩)
                | exact allE_if _ _ _ (fun _ => ⟨trivial, trivial⟩) | exact allE_single _ _ ⟨trivial, trivial⟩)

theorem values_flat (m : Meta) : ∀ e ∈ chunkMetadataToMap m, isFlat e.2 :=
  fun e he => (values_flat_nonEmpty m e he).1

theorem flatten_chunk_metadata (m : Meta) : flattenMetadata (chunkMetadataToMap m) [] = chunkMetadataToMap m := by
  unfold flattenMetadata
  rw [flattenGo_flat _ [] (values_flat m)]
  · simp
  · simpa [mapKeys] using (keys_sublist m).nodup allKeysApp_nodup

theorem lookup_chunkMetadataToMap (m : Meta) (k : Str) :
    mapLookup (chunkMetadataToMap m) k = metaField m k := by
  have h := or_eq_tabLookup
    [(kDocumentTitle, if m.documentTitle ≠ [] then some (Val.str m.documentTitle) else none),
     (kSectionPath, if m.sectionPath ≠ [] then some (.strs m.sectionPath) else none),
     (kSectionTitle, if m.sectionTitle ≠ [] then some (.str m.sectionTitle) else none),
     (kHeadingLevel, if m.headingLevel > 0 then some (.int m.headingLevel) else none),
     (kPageStart, if m.pageStart > 0 then some (.int m.pageStart) else none),
     (kPageEnd, if m.pageEnd > 0 then some (.int m.pageEnd) else none),
     (kChunkIndex, some (.int m.chunkIndex)),
     (kTotalChunks, if m.totalChunks > 0 then some (.int m.totalChunks) else none),
     (kLevel, some (.str (levelString m.level))),
     (kParentId, if m.parentID ≠ [] then some (.str m.parentID) else none),
     (kChildIds, if m.childIDs ≠ [] then some (.strs m.childIDs) else none),
     (kElementTypes, if m.elementTypes ≠ [] then some (.strs m.elementTypes) else none),
     (kHasTable, if m.hasTable then some (.bool true) else none),
     (kHasList, if m.hasList then some (.bool true) else none),
     (kHasImage, if m.hasImage then some (.bool true) else none),
     (kCharCount, if m.charCount > 0 then some (.int m.charCount) else none),
     (kWordCount, if m.wordCount > 0 then some (.int m.wordCount) else none),
     (kEstimatedTokens, if m.estimatedTokens > 0 then some (.int m.estimatedTokens) else none)]
    allKeysApp_nodup k none
  -- the table lookup unfolds to `metaField`, the fold to the lookups in the segments of the map
  refine Eq.trans ?_ (h.trans rfl)
  simp only [chunkMetadataToMap, mapLookup_append, mapLookup_seg, mapLookup_single, List.foldl_cons, List.foldl_nil,
    Option.none_or]

/-! ### rows of the table `metaField` (the closed key selects its branch by evaluation) -/

theorem metaField_headingLevel (m : Meta) :
    metaField m kHeadingLevel = (if m.headingLevel > 0 then some (.int m.headingLevel) else none) := rfl
theorem metaField_totalChunks (m : Meta) :
    metaField m kTotalChunks = (if m.totalChunks > 0 then some (.int m.totalChunks) else none) := rfl
theorem metaField_level (m : Meta) :
    metaField m kLevel = some (.str (levelString m.level)) := rfl
theorem metaField_parentId (m : Meta) :
    metaField m kParentId = (if m.parentID ≠ [] then some (.str m.parentID) else none) := rfl
theorem metaField_childIds (m : Meta) :
    metaField m kChildIds = (if m.childIDs ≠ [] then some (.strs m.childIDs) else none) := rfl
theorem metaField_elementTypes (m : Meta) :
    metaField m kElementTypes = (if m.elementTypes ≠ [] then some (.strs m.elementTypes) else none) := rfl
theorem metaField_sectionPath (m : Meta) :
    metaField m kSectionPath = (if m.sectionPath ≠ [] then some (.strs m.sectionPath) else none) := rfl
theorem metaField_charCount (m : Meta) :
    metaField m kCharCount = (if m.charCount > 0 then some (.int m.charCount) else none) := rfl
theorem metaField_wordCount (m : Meta) :
    metaField m kWordCount = (if m.wordCount > 0 then some (.int m.wordCount) else none) := rfl
theorem metaField_estimatedTokens (m : Meta) :
    metaField m kEstimatedTokens = (if m.estimatedTokens > 0 then some (.int m.estimatedTokens) else none) := rfl

/-! ### `filterMetadata` on chunk metadata -/

/-- on chunk metadata `filterMetadata` is the field selection alone — `FlattenMetadata` has nothing
to flatten -/
theorem filterMetadata_unflattened (cfg : Config) (m : Meta) :
    filterMetadata cfg (chunkMetadataToMap m) =
      (match cfg.metadataFields with
       | none => chunkMetadataToMap m
       | some fs => filterFields fs (chunkMetadataToMap m) []) := by
  have hfl := values_flat m
  unfold filterMetadata
  cases hf : cfg.metadataFields with
  | none =>
    simp only
    split
    · exact flatten_chunk_metadata m
    · rfl
  | some fs =>
    obtain ⟨h1, h2, _⟩ := filterFields_spec fs (chunkMetadataToMap m) [] (by simp [mapKeys]) (by simp) hfl
    simp only
    split
    · unfold flattenMetadata
      rw [flattenGo_flat _ [] h2 (by simpa [mapKeys] using h1)]
      simp
    · rfl

theorem filterMetadata_chunk_spec (cfg : Config) (m : Meta) :
    (mapKeys (filterMetadata cfg (chunkMetadataToMap m))).Nodup ∧
    (∀ e ∈ filterMetadata cfg (chunkMetadataToMap m), isFlat e.2) ∧
    ∀ k, mapLookup (filterMetadata cfg (chunkMetadataToMap m)) k =
      if allowedField cfg k then metaField m k else none := by
  have hfl := values_flat m
  rw [filterMetadata_unflattened]
  unfold allowedField
  cases cfg.metadataFields with
  | none =>
    exact ⟨(keys_sublist m).nodup allKeysApp_nodup, hfl, fun k => by simp [lookup_chunkMetadataToMap]⟩
  | some fs =>
    obtain ⟨h1, h2, h3⟩ := filterFields_spec fs (chunkMetadataToMap m) [] (by simp [mapKeys]) (by simp) hfl
    refine ⟨h1, h2, ?_⟩
    intro k
    rw [h3 k]
    simp [mapLookup, lookup_chunkMetadataToMap]

/-- the metadata map of an exported record, key by key, in terms of the chunk's fields -/
theorem lookup_filterMetadata (cfg : Config) (m : Meta) (k : Str) :
    mapLookup (filterMetadata cfg (chunkMetadataToMap m)) k =
      if allowedField cfg k then metaField m k else none :=
  (filterMetadata_chunk_spec cfg m).2.2 k

theorem chunkKeys_eq (cfg : Config) (c : Chunk) :
    chunkKeys cfg c = mapKeys (filterMetadata cfg (chunkMetadataToMap c.md)) := by
  unfold chunkKeys
  simp only [flatten_chunk_metadata, ite_self]

theorem mem_chunkKeys_iff (cfg : Config) (c : Chunk) (k : Str) :
    k ∈ chunkKeys cfg c ↔ (allowedField cfg k = true ∧ (metaField c.md k).isSome = true) := by
  rw [chunkKeys_eq, mem_mapKeys_iff, lookup_filterMetadata]
  by_cases h : allowedField cfg k = true <;> simp [h]

/-! ### every metadata value is flat, so `json.Marshal` (the `marshal` parameter) is never reached -/

theorem metaField_flat (m : Meta) (k : Str) (v : Val) (h : metaField m k = some v) : isFlat v := by
  rw [← lookup_chunkMetadataToMap] at h
  exact flat_of_lookup _ k v (values_flat m) h

theorem formatValue_flat (marshal marshal' : MapSV → Str) (v : Val) (h : isFlat v) :
    formatValue marshal v = formatValue marshal' v := by
  cases v with
  | obj kvs => exact absurd h (by simp [isFlat])
  | _ => rfl

/-! ### cells in terms of the chunk's fields -/

theorem getColumnValue_eq_cellSpec (marshal : MapSV → Str) (cfg : Config) (c : Chunk) (col : Str) :
    getColumnValue marshal cfg (prepareChunkForExport cfg c) col = cellSpec cfg c col := by
  unfold getColumnValue cellSpec
  -- the same `switch`, case by case, up to the `meta_` columns
  iterate 11 refine ite_congr rfl (fun _ => rfl) (fun _ => ?_)
  cases stripMeta col with
  | none => rfl
  | some key =>
    simp only [prepareChunkForExport, exportedMeta]
    by_cases hm : cfg.includeMetadata = true
    · simp only [hm, if_true, Bool.true_and, lookup_filterMetadata]
      by_cases ha : allowedField cfg key = true
      · simp only [ha, if_true]
        cases hv : metaField c.md key with
        | none => rfl
        | some v => exact formatValue_flat _ _ v (metaField_flat c.md key v hv)
      · simp only [ha]
        rfl
    · simp only [hm]
      rfl

theorem getColumnValue_fun (marshal : MapSV → Str) (cfg : Config) (c : Chunk) :
    getColumnValue marshal cfg (prepareChunkForExport cfg c) = cellSpec cfg c :=
  funext (getColumnValue_eq_cellSpec marshal cfg c)

/-- the records handed to the CSV writer, in terms of the chunks' own fields -/
theorem exportCSVRecords_eq (marshal : MapSV → Str) (cfg : Config) (chunks : List Chunk) :
    exportCSVRecords marshal cfg chunks =
      (if cfg.includeHeader then [collectCSVColumns cfg chunks] else []) ++
        chunks.map (fun c => (collectCSVColumns cfg chunks).map (cellSpec cfg c)) := by
  simp only [exportCSVRecords, csvDataRows_eq_map, chunkToCSVRow_eq_map, getColumnValue_fun]

/-! ### list-valued metadata is never empty -/

theorem values_listNonEmpty (m : Meta) : ∀ e ∈ chunkMetadataToMap m, listNonEmpty e.2 :=
  fun e he => (values_flat_nonEmpty m e he).2

theorem metaField_strs_ne_nil (m : Meta) (k : Str) (l : List Str) (h : metaField m k = some (.strs l)) :
    l ≠ [] := by
  rw [← lookup_chunkMetadataToMap] at h
  exact values_listNonEmpty m _ (mem_of_mapLookup _ _ _ h)


theorem stripMeta_meta (k : Str) : stripMeta (kMeta ++ k) = some k := by
  simp [stripMeta, kMeta]

theorem fixedColumns_eq (cfg : Config) :
    fixedColumns cfg = cfg.chunkIDColumnName :: ((if cfg.includeText then [cfg.textColumnName] else []) ++ positionalColumns) := by
  simp [fixedColumns, positionalColumns]

theorem stripMeta_positional : ∀ x ∈ kEmbeddings :: positionalColumns, stripMeta x = none := by decide

theorem positional_nodup : (kEmbeddings :: positionalColumns).Nodup := by decide

/-- a `meta_<key>` column name is none of the fixed column names -/
theorem meta_ne_positional (k : Str) : ∀ x ∈ kEmbeddings :: positionalColumns, ¬ kMeta ++ k = x := by
  intro x hx e
  have := stripMeta_positional x hx
  rw [← e, stripMeta_meta] at this
  cases this

theorem stripMeta_fixed (cfg : Config) (h : namesOk cfg = true) :
    ∀ x ∈ kEmbeddings :: fixedColumns cfg, stripMeta x = none := by
  simp only [namesOk, Bool.and_eq_true, Option.isNone_iff_eq_none] at h
  obtain ⟨⟨⟨⟨_, _⟩, _⟩, h4⟩, h5⟩ := h
  intro x hx
  rw [fixedColumns_eq] at hx
  simp only [List.mem_cons, List.mem_append] at hx
  rcases hx with hx | hx | hx | hx
  · exact stripMeta_positional x (by simp [hx])
  · rw [hx]; exact h4
  · split at hx
    · simp only [List.mem_singleton] at hx; rw [hx]; exact h5
    · simp at hx
  · exact stripMeta_positional x (List.mem_cons_of_mem _ hx)

/-- … nor, for non-colliding configured names, the id column, the text column or `embeddings` -/
theorem meta_not_fixed (cfg : Config) (h : namesOk cfg = true) (k : Str) :
    ∀ x ∈ kEmbeddings :: fixedColumns cfg, ¬ kMeta ++ k = x := by
  intro x hx e
  have := stripMeta_fixed cfg h x hx
  rw [← e, stripMeta_meta] at this
  cases this

theorem fixed_nodup (cfg : Config) (h : namesOk cfg = true) : (kEmbeddings :: fixedColumns cfg).Nodup := by
  simp only [namesOk, Bool.and_eq_true, bne_iff_ne, ne_eq, Bool.not_eq_true', List.contains_eq_mem,
    decide_eq_false_iff_not] at h
  obtain ⟨⟨⟨⟨h1, h2⟩, h3⟩, _⟩, _⟩ := h
  have hp := positional_nodup
  rw [fixedColumns_eq]
  rw [List.nodup_cons] at hp ⊢
  simp only [List.mem_cons, not_or] at h2 h3
  by_cases ht : cfg.includeText = true
  · simp only [ht, if_true, List.singleton_append, List.mem_cons, not_or, List.nodup_cons]
    refine ⟨⟨fun e => h2.1 e.symm, fun e => h3.1 e.symm, hp.1⟩, ⟨fun e => h1 e.symm, h2.2⟩, h3.2, hp.2⟩
  · simp only [ht, List.nil_append, List.mem_cons, not_or, List.nodup_cons, Bool.false_eq_true, if_false]
    exact ⟨⟨fun e => h2.1 e.symm, hp.1⟩, h2.2, hp.2⟩

theorem nodup_of_strict {l : List Str} (h : l.Pairwise strLt) : l.Nodup :=
  h.imp And.right

theorem nodup_map_meta {l : List Str} (h : l.Nodup) : (l.map (kMeta ++ ·)).Nodup :=
  h.map fun _ _ => List.append_cancel_left

theorem sortedMetaKeys_strict (cfg : Config) (chunks : List Chunk) : (sortedMetaKeys cfg chunks).Pairwise strLt := by
  unfold sortedMetaKeys
  split
  · exact strict_of_sorted_nodup (pairwise_sortStrings _) (nodup_sortStrings (nodup_collectKeys List.nodup_nil))
  · exact List.Pairwise.nil

theorem mem_sortedMetaKeys (cfg : Config) (chunks : List Chunk) (k : Str) :
    k ∈ sortedMetaKeys cfg chunks ↔
      (cfg.includeMetadata = true ∧ isStandardColumn k = false ∧ ∃ c ∈ chunks, (exportedMeta cfg c.md k).isSome = true) := by
  unfold sortedMetaKeys exportedMeta
  by_cases h : cfg.includeMetadata = true
  · simp only [h, if_true, mem_sortStrings, mem_collectKeys, List.not_mem_nil, false_or, true_and, Bool.true_and,
      mem_chunkKeys_iff]
    constructor
    · rintro ⟨c, hc, ⟨ha, hm⟩, hs⟩
      exact ⟨hs, c, hc, by simp [ha, hm]⟩
    · rintro ⟨hs, c, hc, hm⟩
      refine ⟨c, hc, ?_, hs⟩
      by_cases ha : allowedField cfg k = true
      · simp only [ha, if_true] at hm; exact ⟨ha, hm⟩
      · simp [ha] at hm
  · simp [h]

end Tabula.Export
