import TabulaModel.Model.HtmlGrid
import TabulaModel.Lemmas.ListFold
/-!
Lemmas about the table grid of htmldoc (Model/HtmlGrid.lean), generic in the cell type:
the grid is rectangular, keeps every cell of every row in order, is the row list itself for
tables without spans, puts a cell's covered columns behind it, and `dropEmptyRows` removes
nothing but rows without cells.
-/
namespace Tabula.HtmlGrid

variable {α : Type}

theorem takeWhile_length_add_dropWhile (p : Nat → Bool) (l : List Nat) :
    (l.takeWhile p).length + (l.dropWhile p).length = l.length := by
  rw [← List.length_append, List.takeWhile_append_dropWhile]

/-- the `covered` slice after a row is as long as the longer of the slice before and the line -/
theorem placeRow_width (sp : α → Nat × Nat) : ∀ (r : List α) (cov : List Nat),
    (placeRow sp cov r).2.length = max cov.length (placeRow sp cov r).1.length
  | [], cov => by simp [placeRow]
  | c :: cs, cov => by
      have ih := placeRow_width sp cs (List.drop ((sp c).1 + 1) (cov.dropWhile (0 < ·)))
      have hl := takeWhile_length_add_dropWhile (0 < ·) cov
      simp only [placeRow, List.length_append, List.length_map, List.length_cons,
        List.length_replicate]
      rw [List.length_drop] at ih
      omega

theorem placeRow_length (sp : α → Nat × Nat) (r : List α) (cov : List Nat) :
    (placeRow sp cov r).1.length ≤ (placeRow sp cov r).2.length ∧
      cov.length ≤ (placeRow sp cov r).2.length := by
  rw [placeRow_width]
  exact ⟨Nat.le_max_right _ _, Nat.le_max_left _ _⟩

theorem layoutRows_length (sp : α → Nat × Nat) : ∀ (t : List (List α)) (cov : List Nat),
    (∀ l ∈ (layoutRows sp cov t).1, l.length ≤ (layoutRows sp cov t).2.length) ∧
      cov.length ≤ (layoutRows sp cov t).2.length
  | [], cov => by simp [layoutRows]
  | r :: rs, cov => by
      have hp := placeRow_length sp r cov
      have ih := layoutRows_length sp rs ((placeRow sp cov r).2.map (· - 1))
      rw [List.length_map] at ih
      simp only [layoutRows]
      refine ⟨?_, by omega⟩
      intro l hl
      rcases List.mem_cons.mp hl with h | h
      · subst h; omega
      · exact ih.1 l h

theorem layoutRows_rows (sp : α → Nat × Nat) : ∀ (t : List (List α)) (cov : List Nat),
    (layoutRows sp cov t).1.length = t.length
  | [], _ => rfl
  | r :: rs, cov => by simp [layoutRows, layoutRows_rows sp rs]

/-- **the grid is rectangular**: every line has the width of the grid -/
theorem layoutGrid_rect (sp : α → Nat × Nat) (t : List (List α)) :
    ∀ l ∈ layoutGrid sp t, l.length = widthOf sp t := by
  intro l hl
  unfold layoutGrid at hl
  rcases List.mem_map.mp hl with ⟨l0, h0, rfl⟩
  have := (layoutRows_length sp t []).1 l0 h0
  simp only [List.length_append, List.length_replicate]
  unfold widthOf
  omega

/-- one line per row -/
theorem layoutGrid_rows (sp : α → Nat × Nat) (t : List (List α)) :
    (layoutGrid sp t).length = t.length := by
  simp [layoutGrid, layoutRows_rows]

/-- the layout depends on the span function only through its values on the cells of the table -/
theorem placeRow_congr (sp sp2 : α → Nat × Nat) : ∀ (r : List α), (∀ c ∈ r, sp c = sp2 c) →
    ∀ cov, placeRow sp cov r = placeRow sp2 cov r
  | [], _, _ => rfl
  | c :: cs, h, cov => by
      simp only [placeRow]
      rw [h c List.mem_cons_self, placeRow_congr sp sp2 cs fun x hx => h x (List.mem_cons_of_mem _ hx)]

theorem layoutRows_congr (sp sp2 : α → Nat × Nat) : ∀ (t : List (List α)),
    (∀ r ∈ t, ∀ c ∈ r, sp c = sp2 c) → ∀ cov, layoutRows sp cov t = layoutRows sp2 cov t
  | [], _, _ => rfl
  | r :: rs, h, cov => by
      simp only [layoutRows]
      rw [placeRow_congr sp sp2 r (h r List.mem_cons_self) cov,
        layoutRows_congr sp sp2 rs fun x hx => h x (List.mem_cons_of_mem _ hx)]

theorem layoutGrid_congr (sp sp2 : α → Nat × Nat) (t : List (List α)) (h : ∀ r ∈ t, ∀ c ∈ r, sp c = sp2 c) :
    layoutGrid sp t = layoutGrid sp2 t := by
  unfold layoutGrid widthOf
  rw [layoutRows_congr sp sp2 t h []]

theorem filterMap_id_map_none (l : List Nat) :
    (l.map fun _ => (none : Option α)).filterMap id = [] := by
  simp

theorem placeRow_cells (sp : α → Nat × Nat) : ∀ (r : List α) (cov : List Nat),
    (placeRow sp cov r).1.filterMap id = r
  | [], _ => rfl
  | c :: cs, cov => by
      simp only [placeRow, List.filterMap_append, List.filterMap_cons, id,
        filterMap_id_map_none, List.filterMap_replicate_of_none, List.nil_append]
      rw [placeRow_cells sp cs]
      rfl

theorem layoutRows_cells (sp : α → Nat × Nat) : ∀ (t : List (List α)) (cov : List Nat),
    (layoutRows sp cov t).1.map (·.filterMap id) = t
  | [], _ => rfl
  | r :: rs, cov => by
      simp only [layoutRows, List.map_cons]
      rw [placeRow_cells, layoutRows_cells sp rs]

/-- **no cell is lost or moved past another**: the cells of line `i` of the grid, read from
left to right, are the cells of row `i` -/
theorem layoutGrid_cells (sp : α → Nat × Nat) (t : List (List α)) :
    (layoutGrid sp t).map (·.filterMap id) = t := by
  unfold layoutGrid
  rw [List.map_map]
  have : ((fun l : List (Option α) => l.filterMap id) ∘
      fun l => l ++ List.replicate (widthOf sp t - l.length) none)
        = fun l : List (Option α) => l.filterMap id := by
    funext l
    simp [List.filterMap_append]
  rw [this]
  exact layoutRows_cells sp t []

def AllZero (cov : List Nat) : Prop := ∀ x ∈ cov, x = 0

theorem takeWhile_allZero (cov : List Nat) (h : AllZero cov) : cov.takeWhile (0 < ·) = [] := by
  cases cov with
  | nil => rfl
  | cons x xs =>
    have : x = 0 := h x (by simp)
    simp [List.takeWhile, this]

theorem dropWhile_allZero (cov : List Nat) (h : AllZero cov) : cov.dropWhile (0 < ·) = cov := by
  cases cov with
  | nil => rfl
  | cons x xs =>
    have : x = 0 := h x (by simp)
    simp [List.dropWhile, this]

theorem allZero_drop (cov : List Nat) (k : Nat) (h : AllZero cov) : AllZero (cov.drop k) :=
  fun x hx => h x (List.mem_of_mem_drop hx)

/-- what one cell writes on free columns: itself, then `none` for the further columns it covers -/
def cellLine (sp : α → Nat × Nat) (c : α) : List (Option α) := some c :: List.replicate (sp c).1 none

/-- over columns none of which is covered from above a row is its cells, each followed by the
columns it covers (the grid row of docx/odt) -/
theorem placeRow_free (sp : α → Nat × Nat) : ∀ (r : List α) (cov : List Nat), AllZero cov →
    (placeRow sp cov r).1 = r.flatMap (cellLine sp)
  | [], _, _ => rfl
  | c :: cs, cov, h => by
      simp only [placeRow, takeWhile_allZero cov h, dropWhile_allZero cov h, List.map_nil,
        List.nil_append, List.flatMap_cons, cellLine]
      rw [placeRow_free sp cs _ (allZero_drop cov _ h)]

/-- … and when no cell spans more than one row, nothing is covered for the next row either -/
theorem placeRow_free_cov (sp : α → Nat × Nat) :
    ∀ (r : List α) (cov : List Nat), (∀ c ∈ r, (sp c).2 ≤ 1) → AllZero cov →
      AllZero ((placeRow sp cov r).2.map (· - 1))
  | [], cov, _, h => by
      intro x hx
      rcases List.mem_map.mp hx with ⟨y, hy, rfl⟩
      simp [placeRow] at hy
      rw [h y hy]
  | c :: cs, cov, hsp, h => by
      have ih := placeRow_free_cov sp cs _ (fun x hx => hsp x (List.mem_cons_of_mem _ hx))
        (allZero_drop cov ((sp c).1 + 1) h)
      simp only [placeRow, takeWhile_allZero cov h, dropWhile_allZero cov h, List.nil_append,
        List.map_append, List.map_replicate]
      intro x hx
      rcases List.mem_append.mp hx with h1 | h1
      · have := List.eq_of_mem_replicate h1
        have := hsp c List.mem_cons_self
        omega
      · exact ih x h1

/-- **tables without rowspan**: every line of the grid is the row's cells, each followed by
`none` for the further columns of its colspan -/
theorem layoutRows_noRowSpan (sp : α → Nat × Nat) :
    ∀ (t : List (List α)) (cov : List Nat), (∀ r ∈ t, ∀ c ∈ r, (sp c).2 ≤ 1) → AllZero cov →
      (layoutRows sp cov t).1 = t.map fun r => r.flatMap (cellLine sp)
  | [], _, _, _ => rfl
  | r :: rs, cov, hsp, h => by
      simp only [layoutRows, List.map_cons]
      rw [placeRow_free sp r cov h,
        layoutRows_noRowSpan sp rs _ (fun x hx => hsp x (List.mem_cons_of_mem _ hx))
          (placeRow_free_cov sp r cov (hsp r List.mem_cons_self) h)]

/-- the first row of any table stands on free columns -/
theorem layoutRows_first (sp : α → Nat × Nat) (r : List α) (rs : List (List α)) :
    (layoutRows sp [] (r :: rs)).1.head? = some (r.flatMap (cellLine sp)) := by
  simp only [layoutRows, List.head?_cons]
  rw [placeRow_free sp r [] (fun _ h => by cases h)]

theorem flatMap_cellLine_plain (sp : α → Nat × Nat) (hsp : ∀ c, (sp c).1 = 0) (r : List α) :
    r.flatMap (cellLine sp) = r.map some := by
  induction r with
  | nil => rfl
  | cons c cs ih => simp [List.flatMap_cons, cellLine, hsp c, ih]

theorem placeRow_plain_cov (sp : α → Nat × Nat) (hsp : ∀ c, sp c = (0, 1)) (r : List α) (cov : List Nat)
    (h : AllZero cov) : (placeRow sp cov r).2.length = max cov.length r.length := by
  rw [placeRow_width, placeRow_free sp r cov h, flatMap_cellLine_plain sp (fun c => by rw [hsp c]) r, List.length_map]

/-- width of a table without spans: its longest row -/
theorem layoutRows_plain_width (sp : α → Nat × Nat) (hsp : ∀ c, sp c = (0, 1)) :
    ∀ (t : List (List α)) (cov : List Nat), AllZero cov →
      (layoutRows sp cov t).2.length = t.foldl (fun m r => max m r.length) cov.length
  | [], _, _ => rfl
  | r :: rs, cov, h => by
      have h2 : ∀ c, (sp c).2 ≤ 1 := fun c => by rw [hsp c]; exact Nat.le_refl 1
      simp only [layoutRows, List.foldl_cons]
      rw [layoutRows_plain_width sp hsp rs _ (placeRow_free_cov sp r cov (fun c _ => h2 c) h), List.length_map,
        placeRow_plain_cov sp hsp r cov h]

theorem foldl_max_rect (n : Nat) : ∀ (t : List (List α)) (m : Nat), m ≤ n → (∀ r ∈ t, r.length = n) →
    t ≠ [] → t.foldl (fun m r => max m r.length) m = n := by
  intro t m hm hr hne
  obtain ⟨r, hrt⟩ := List.exists_mem_of_ne_nil t hne
  have h := (foldl_max_bounds (fun r : List α => r.length) t m).2 r hrt
  rw [hr r hrt] at h
  exact Nat.le_antisymm (foldl_max_le_of _ n t m hm fun x hx => Nat.le_of_eq (hr x hx)) h

/-- **tables without spans whose rows have equal length are their own grid** -/
theorem layoutGrid_plain (sp : α → Nat × Nat) (hsp : ∀ c, sp c = (0, 1)) (n : Nat)
    (t : List (List α)) (hrect : ∀ r ∈ t, r.length = n) :
    layoutGrid sp t = t.map (·.map some) := by
  by_cases hne : t = []
  · subst hne; rfl
  have h2 : ∀ c, (sp c).2 ≤ 1 := fun c => by rw [hsp c]; exact Nat.le_refl 1
  have h1 : ∀ c, (sp c).1 = 0 := fun c => by rw [hsp c]
  have hz : AllZero ([] : List Nat) := fun _ h => by cases h
  have hw : widthOf sp t = n := by
    unfold widthOf
    rw [layoutRows_plain_width sp hsp t [] hz]
    exact foldl_max_rect n t 0 (Nat.zero_le _) hrect hne
  unfold layoutGrid
  rw [hw, layoutRows_noRowSpan sp t [] (fun _ _ c _ => h2 c) hz, List.map_map]
  apply List.map_congr_left
  intro r hr
  simp only [Function.comp]
  rw [flatMap_cellLine_plain sp h1, List.length_map, hrect r hr, Nat.sub_self]
  simp

/-- **tables whose cells do not span and whose rows have equal length are their own grid** as `grid`
lays it out, on either side of the grid limit: the span function `grid` uses agrees with the
constant one on the cells of the table -/
theorem grid_plain (colSpan rowSpan : α → Int) (n : Nat) (t : List (List α)) (hrect : ∀ r ∈ t, r.length = n)
    (hplain : ∀ r ∈ t, ∀ c ∈ r, cellSpan (colSpan c) = 1 ∧ cellSpan (rowSpan c) = 1) :
    grid colSpan rowSpan t = t.map (·.map some) := by
  have hag : ∀ r ∈ t, ∀ c ∈ r, (fun _ : α => ((0, 1) : Nat × Nat)) c = gridSpan colSpan rowSpan t c := by
    intro r hr c hc
    obtain ⟨h1, h2⟩ := hplain r hr c hc
    unfold gridSpan spanOf
    split
    · show (0, 1) = (cellSpan (colSpan c) - 1, cellSpan (rowSpan c)); rw [h1, h2]
    · rfl
  unfold grid
  rw [← layoutGrid_congr _ _ t hag, layoutGrid_plain _ (fun _ => rfl) n t hrect]

theorem placeRow_width_pos (sp : α → Nat × Nat) (r : List α) (cov : List Nat) (h : r ≠ []) :
    0 < (placeRow sp cov r).2.length := by
  cases r with
  | nil => exact absurd rfl h
  | cons c cs => simp [placeRow]; omega

/-- a table with a cell has at least one column -/
theorem layoutRows_width_pos (sp : α → Nat × Nat) : ∀ (t : List (List α)) (cov : List Nat),
    (∃ r ∈ t, r ≠ []) → 0 < (layoutRows sp cov t).2.length
  | [], _, h => by rcases h with ⟨_, hr, _⟩; cases hr
  | r :: rs, cov, h => by
      simp only [layoutRows]
      by_cases hr : r = []
      · apply layoutRows_width_pos sp rs
        rcases h with ⟨x, hx, hxe⟩
        rcases List.mem_cons.mp hx with e | e
        · exact absurd (e ▸ hr) hxe
        · exact ⟨x, e, hxe⟩
      · have h1 := placeRow_width_pos sp r cov hr
        have h2 := (layoutRows_length sp rs ((placeRow sp cov r).2.map (· - 1))).2
        rw [List.length_map] at h2
        omega

theorem widthOf_pos (sp : α → Nat × Nat) (t : List (List α)) (h : ∃ r ∈ t, r ≠ []) :
    0 < widthOf sp t := layoutRows_width_pos sp t [] h

theorem getD_append_right' (a b : List Nat) (k : Nat) (h : a.length ≤ k) :
    (a ++ b).getD k 0 = b.getD (k - a.length) 0 := by
  simp [List.getD, List.getElem?_append_right h]

theorem dropWhile_head_zero : ∀ (cov : List Nat) (x : Nat) (xs : List Nat),
    cov.dropWhile (0 < ·) = x :: xs → x = 0
  | [], _, _, h => by cases h
  | y :: ys, x, xs, h => by
      by_cases hy : 0 < y
      · rw [List.dropWhile_cons_of_pos (by simpa using hy)] at h
        exact dropWhile_head_zero ys x xs h
      · rw [List.dropWhile_cons_of_neg (by simpa using hy)] at h
        cases h; omega

/-- if line position `k` holds a cell, column `k` was not covered when the row was placed -/
theorem placeRow_cell_free (sp : α → Nat × Nat) : ∀ (r : List α) (cov : List Nat) (k : Nat) (c : α),
    (placeRow sp cov r).1[k]? = some (some c) → cov.getD k 0 = 0
  | [], _, k, c, h => by simp [placeRow] at h
  | c0 :: cs, cov, k, c, h => by
      have hsplit : cov = cov.takeWhile (0 < ·) ++ cov.dropWhile (0 < ·) :=
        (List.takeWhile_append_dropWhile).symm
      simp only [placeRow] at h
      by_cases h1 : k < (cov.takeWhile (0 < ·)).length
      · rw [List.getElem?_append_left (by simpa using h1)] at h
        simp at h
      · have h1' : (cov.takeWhile (0 < ·)).length ≤ k := Nat.le_of_not_lt h1
        rw [List.getElem?_append_right (by simpa using h1')] at h
        simp only [List.length_map] at h
        rw [hsplit, getD_append_right' _ _ _ h1']
        generalize k - (cov.takeWhile (0 < ·)).length = j at h ⊢
        by_cases h2 : j < (some c0 :: List.replicate (sp c0).1 (none : Option α)).length
        · rw [List.getElem?_append_left h2] at h
          cases j with
          | zero =>
            -- the first column that is not covered
            cases hd : cov.dropWhile (0 < ·) with
            | nil => rfl
            | cons x xs =>
              have := dropWhile_head_zero cov x xs hd
              simp [List.getD, this]
          | succ j =>
            rw [List.getElem?_cons_succ] at h
            simp only [List.length_cons, List.length_replicate] at h2
            rw [List.getElem?_replicate] at h
            split at h <;> cases h
        · have h2' : (some c0 :: List.replicate (sp c0).1 (none : Option α)).length ≤ j :=
            Nat.le_of_not_lt h2
          rw [List.getElem?_append_right h2'] at h
          simp only [List.length_cons, List.length_replicate] at h h2'
          have ih := placeRow_cell_free sp cs _ _ c h
          simp only [List.getD, List.getElem?_drop] at ih ⊢
          have : (sp c0).1 + 1 + (j - ((sp c0).1 + 1)) = j := by omega
          rw [this] at ih
          exact ih

theorem dropEmptyRowsFrom_flatten (rowSpan : α → Int) : ∀ (rows : List (List α)) (reach : Nat),
    (dropEmptyRowsFrom rowSpan reach rows).flatten = rows.flatten
  | [], _ => rfl
  | r :: rs, reach => by
      unfold dropEmptyRowsFrom
      split
      · rename_i h
        have : r = [] := by simpa using h.1
        subst this
        simpa using dropEmptyRowsFrom_flatten rowSpan rs reach
      · simp [dropEmptyRowsFrom_flatten rowSpan rs]

/-- nothing but rows without cells is dropped, nothing is reordered -/
theorem dropEmptyRowsFrom_sublist (rowSpan : α → Int) : ∀ (rows : List (List α)) (reach : Nat),
    (dropEmptyRowsFrom rowSpan reach rows).Sublist rows
  | [], _ => List.Sublist.slnil
  | r :: rs, reach => by
      unfold dropEmptyRowsFrom
      split
      · exact (dropEmptyRowsFrom_sublist rowSpan rs reach).cons _
      · exact (dropEmptyRowsFrom_sublist rowSpan rs _).cons_cons _

/-- a table whose rows all have cells is kept as it is -/
theorem dropEmptyRowsFrom_nonEmpty (rowSpan : α → Int) : ∀ (rows : List (List α)) (reach : Nat),
    (∀ r ∈ rows, r ≠ []) → dropEmptyRowsFrom rowSpan reach rows = rows
  | [], _, _ => rfl
  | r :: rs, reach, h => by
      have hr : r ≠ [] := h r (by simp)
      unfold dropEmptyRowsFrom
      have : ¬ (r.isEmpty = true ∧ reach = 0) := by
        intro hh; exact hr (by simpa using hh.1)
      rw [if_neg this]
      simp only []
      rw [dropEmptyRowsFrom_nonEmpty rowSpan rs _ (fun x hx => h x (List.mem_cons_of_mem _ hx))]

/-- a row without cells that a rowspan from above reaches is kept -/
theorem dropEmptyRowsFrom_reached (rowSpan : α → Int) (reach : Nat) (rs : List (List α)) :
    dropEmptyRowsFrom rowSpan (reach + 1) ([] :: rs) = [] :: dropEmptyRowsFrom rowSpan reach rs := by
  rw [dropEmptyRowsFrom]
  simp

theorem foldl_reach_noSpan (rowSpan : α → Int) : ∀ (r : List α) (m : Nat),
    (∀ c ∈ r, cellSpan (rowSpan c) = 1) →
      r.foldl (fun m c => if cellSpan (rowSpan c) - 1 > m then cellSpan (rowSpan c) - 1 else m) m = m
  | [], _, _ => rfl
  | c :: cs, m, h => by
      have hc := h c (by simp)
      simp only [List.foldl_cons, hc]
      have : ¬ (1 - 1 > m) := by omega
      rw [if_neg this]
      exact foldl_reach_noSpan rowSpan cs m (fun x hx => h x (List.mem_cons_of_mem _ hx))

/-- **without rowspans** `dropEmptyRows` is what parseTable did before: the rows without cells
are dropped, all of them -/
theorem dropEmptyRows_noRowSpan (rowSpan : α → Int) : ∀ (rows : List (List α)),
    (∀ r ∈ rows, ∀ c ∈ r, cellSpan (rowSpan c) = 1) →
      dropEmptyRowsFrom rowSpan 0 rows = rows.filter (fun r => !r.isEmpty)
  | [], _ => rfl
  | r :: rs, h => by
      have ih := dropEmptyRows_noRowSpan rowSpan rs (fun x hx => h x (List.mem_cons_of_mem _ hx))
      unfold dropEmptyRowsFrom
      by_cases he : r.isEmpty = true
      · simp [he, ih]
      · have : ¬ (r.isEmpty = true ∧ (0 : Nat) = 0) := fun hh => he hh.1
        rw [if_neg this]
        simp only [Nat.zero_sub]
        rw [foldl_reach_noSpan rowSpan r 0 (h r (by simp)), ih]
        simp [he]

end Tabula.HtmlGrid
