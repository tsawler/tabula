import TabulaModel.Model.XrefCached
/-!
`XrefC.parseIndirectK` is `XrefFile.parseIndirect` with the resolver call made explicit
(`Ask.Models`): running the suspended computation with a resolver is the original function, and a
question that gets no answer ends the parse with an error. Proved stage by stage, from `parseStream`
up to `getUncompressedObject` (`uncompressedAtK_models`).
-/
namespace Tabula.XrefC
open Tabula.Pdf (Obj PState parseObject newParser fuelFor kwStream)
open Tabula.Reader (Dict dget PVal)
open Tabula.XrefFile

theorem Ask.run_map {α β : Type} (f : α → β) (a : Ask α) (lenOf : Int → Option Int) :
    (a.map f).run lenOf = f (a.run lenOf) := by
  cases a <;> rfl

theorem Ask.asked_map {α β : Type} (f : α → β) (a : Ask α) : (a.map f).asked = a.asked := by
  cases a <;> rfl

theorem Ask.asked_some {α : Type} {a : Ask α} {m : Int} (h : a.asked = some m) : ∃ k, a = .ask m k := by
  cases a with
  | fin r => cases h
  | ask m' k => simp only [Ask.asked, Option.some.injEq] at h; subst h; exact ⟨k, rfl⟩

/-- an indirect `/Length` the resolver does not answer is an error -/
theorem streamWithLen_none (s : Tabula.Pdf.PState) : streamWithLen s none = none := rfl

/-- `a` is `f` with its one resolver call made explicit: running `a` with a resolver is `f` of that
resolver, and a question that gets no answer ends in an error -/
def Ask.Models {α : Type} (a : Ask (Option α)) (f : (Int → Option Int) → Option α) : Prop :=
  (∀ lenOf, f lenOf = a.run lenOf) ∧ ∀ m k, a = .ask m k → k none = none

theorem Ask.Models.fin {α : Type} {r : Option α} {f : (Int → Option Int) → Option α} (h : ∀ lenOf, f lenOf = r) :
    (Ask.fin r).Models f :=
  ⟨h, fun _ _ h => nomatch h⟩

theorem Ask.Models.map {α β : Type} {a : Ask (Option α)} {f : (Int → Option Int) → Option α} (h : a.Models f)
    {g : Option α → Option β} (hg : g none = none) : (a.map g).Models fun lenOf => g (f lenOf) := by
  refine ⟨fun lenOf => (congrArg g (h.1 lenOf)).trans (Ask.run_map g a lenOf).symm, fun m k e => ?_⟩
  cases a with
  | fin r => cases e
  | ask m' k' =>
    injection e with _ hk
    subst hk
    exact (congrArg g (h.2 m' k' rfl)).trans hg

theorem parseStreamDataK_models (kv : Dict) (s : PState) : (parseStreamDataK kv s).Models (parseStreamData kv s) := by
  unfold parseStreamData parseStreamDataK
  cases dget kv kLength with
  | none => exact .fin fun _ => rfl
  | some o => cases o <;> first | exact .fin fun _ => rfl | exact ⟨fun _ => rfl, fun _ _ h => by cases h; rfl⟩

theorem indirectBodyK_models (fuel : Nat) (num gen : Int) (s : PState) :
    (indirectBodyK fuel num gen s).Models (indirectBody fuel num gen s) := by
  unfold indirectBody indirectBodyK
  cases parseObject fuel 0 s with
  | error e => exact .fin fun _ => rfl
  | ok r =>
    obtain ⟨o, s4⟩ := r
    dsimp only
    by_cases h1 : s4.cur = some (.keyword kwStream)
    · simp only [if_pos h1]
      cases o with
      | dict kv => exact (parseStreamDataK_models kv s4).map rfl
      | _ => exact .fin fun _ => rfl
    · simp only [if_neg h1]
      split <;> exact .fin fun _ => rfl

theorem parseIndirectK_models (inp : Str) : (parseIndirectK inp).Models (parseIndirect inp) := by
  unfold parseIndirect parseIndirectK
  dsimp only
  cases (newParser inp).cur with
  | none => exact .fin fun _ => rfl
  | some t0 =>
    cases t0 <;> try exact .fin fun _ => rfl
    rename_i v
    dsimp only
    cases Tabula.A1.atoi v with
    | none => exact .fin fun _ => rfl
    | some num =>
      dsimp only
      cases (newParser inp).next.cur with
      | none => exact .fin fun _ => rfl
      | some t2 =>
        cases t2 <;> try exact .fin fun _ => rfl
        rename_i v2
        dsimp only
        cases Tabula.A1.atoi v2 with
        | none => exact .fin fun _ => rfl
        | some gen =>
          dsimp only
          split
          · exact indirectBodyK_models _ _ _ _
          · exact .fin fun _ => rfl

theorem uncompressedAtK_models (file : Str) (n off : Int) :
    (uncompressedAtK file n off).Models (uncompressedAt file n off) := by
  unfold uncompressedAt uncompressedAtK
  split
  · exact .fin fun _ => rfl
  · exact (parseIndirectK_models _).map rfl

end Tabula.XrefC
