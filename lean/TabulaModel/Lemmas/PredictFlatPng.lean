import TabulaModel.Model.PredictFlat
import TabulaModel.Lemmas.FiltersPredict
/-!
Refinement of the PNG predictor, loop by loop: the row loop of the buffer-level transcription
(`Model/PredictFlat.lean`: one flat result buffer, the previous row read by index, `goSet`, `goSlice`, `goCopy`) is the
row loop `pngRows` of the row-wise model (`pngFlatLoop_eq`), for all data; the buffer holds the decoded rows followed
by zeros. `C05Lit.png_buffers_refine` puts the frame around it. In particular none of the index or slice panics of
the flat model can happen where the row-wise model succeeds. Core Lean only.
-/
namespace Tabula.Filters

theorem applyPNGPredictorFlat_onRows (data : Str) (p : Params) : applyPNGPredictorFlat data p =
    onRows p data 1 fun rb => pngFlatLoop data (rb + 1) (p.colors.getD 1).toNat rb (data.length / (rb + 1)) 0
      (List.replicate (data.length / (rb + 1) * rb) 0) := by
  unfold applyPNGPredictorFlat onRows; rfl

theorem flatten_length_rows (cc : Nat) (rows : List Str) (h : ∀ r ∈ rows, r.length = cc) :
    rows.flatten.length = rows.length * cc := by
  rw [List.length_flatten, List.map_eq_replicate_iff.mpr h, List.sum_replicate_nat]

/-- how the flat result buffer `prevRows` relates to the previous decoded row at row `rowNum` -/
def PrevOK (rowNum : Nat) (prevRows : Str) (cc : Nat) (prev : Option Str) : Prop :=
  (rowNum = 0 ∧ prev = none) ∨
  (0 < rowNum ∧ ∃ pr, prev = some pr ∧ pr.length = cc ∧ (∀ b ∈ pr, b < 256) ∧
    ∀ i, i < cc → prevRows[(rowNum - 1) * cc + i]? = pr[i]?)

/-- `result[i-bytesPerPixel]` only looks at the decoded prefix -/
theorem leftFlat_eq (bpp : Nat) (hb : 1 ≤ bpp) (done zs : Str) :
    leftFlat bpp (done ++ zs) done.length = leftOf bpp done := by
  unfold leftFlat leftOf
  split
  · rename_i h
    cases hd : done.length with
    | zero => omega
    | succ n =>
      rw [List.getElem?_append_left (by omega)]
  · rfl

/-- `prevRows[(rowNum-1)*rowLength+i]` is the byte above -/
theorem upFlat_eq (rowNum : Nat) (prevRows : Str) (cc : Nat) (prev : Option Str)
    (h : PrevOK rowNum prevRows cc prev) (i : Nat) (hi : i < cc) :
    upFlat rowNum prevRows cc i = upOf prev i := by
  unfold upFlat upOf
  rcases h with ⟨h0, hp⟩ | ⟨h0, pr, hp, _, _, hrd⟩
  · subst h0; subst hp; simp
  · subst hp
    simp only [gt_iff_lt, h0, if_true]
    exact hrd i hi

/-- `prevRows[(rowNum-1)*rowLength+i-bytesPerPixel]` is the byte above left -/
theorem upLeftFlat_eq (bpp rowNum : Nat) (prevRows : Str) (cc : Nat) (prev : Option Str)
    (h : PrevOK rowNum prevRows cc prev) (i : Nat) (hi : i < cc) :
    upLeftFlat bpp rowNum prevRows cc i = upLeftOf bpp prev i := by
  unfold upLeftFlat upLeftOf
  rcases h with ⟨h0, hp⟩ | ⟨h0, pr, hp, _, _, hrd⟩
  · subst h0; subst hp; simp
  · subst hp
    simp only [gt_iff_lt, h0, if_true]
    split
    · rename_i hge
      have : (rowNum - 1) * cc + i - bpp = (rowNum - 1) * cc + (i - bpp) := by omega
      rw [this]
      exact hrd (i - bpp) (by omega)
    · rfl

theorem leftOf_lt (bpp : Nat) (done : Str) (hd : ∀ b ∈ done, b < 256) (l : Nat)
    (h : leftOf bpp done = some l) : l < 256 := by
  unfold leftOf at h
  split at h
  · exact hd l (List.mem_of_getElem? h)
  · simp only [Option.some.injEq] at h; omega

theorem upOf_lt (rowNum : Nat) (prevRows : Str) (cc : Nat) (prev : Option Str)
    (hp : PrevOK rowNum prevRows cc prev) (i u : Nat) (h : upOf prev i = some u) : u < 256 := by
  unfold upOf at h
  rcases hp with ⟨_, hp⟩ | ⟨_, pr, hp, _, hb, _⟩
  · subst hp
    simp only [Option.some.injEq] at h; omega
  · subst hp
    exact hb u (List.mem_of_getElem? h)

/-- the `switch predictor` on the buffers is the `switch predictor` of the row-wise model -/
theorem pngPredictedFlat_eq (tag bpp rowNum : Nat) (prevRows : Str) (cc : Nat) (prev : Option Str)
    (hb : 1 ≤ bpp) (hp : PrevOK rowNum prevRows cc prev) (done zs : Str)
    (hd : ∀ b ∈ done, b < 256) (hl : done.length < cc) :
    pngPredictedFlat tag bpp rowNum prevRows cc (done ++ zs) done.length = pngPredicted tag bpp prev done := by
  unfold pngPredictedFlat pngPredicted
  rw [leftFlat_eq bpp hb, upFlat_eq rowNum prevRows cc prev hp _ hl,
    upLeftFlat_eq bpp rowNum prevRows cc prev hp _ hl]
  match tag with
  | 0 | 1 | 2 | 4 | _ + 5 => rfl
  | 3 =>
    -- the only place where the buffer code converts: `byte((int(left) + int(up)) / 2)` of two bytes
    cases h1 : leftOf bpp done with
    | none => rfl
    | some l =>
      cases h2 : upOf prev done.length with
      | none => rfl
      | some u =>
        have := leftOf_lt bpp done hd l h1
        have := upOf_lt rowNum prevRows cc prev hp _ u h2
        simp only [toByte]
        rw [Nat.mod_eq_of_lt (by omega)]

/-- the row loop on the row buffer (decoded prefix `done`, zeros after it) is `decRow` -/
theorem pngRowFlatLoop_eq (tag bpp rowNum : Nat) (prevRows : Str) (cc : Nat) (prev : Option Str)
    (hb : 1 ≤ bpp) (hp : PrevOK rowNum prevRows cc prev) (rowData : Str) (hrl : rowData.length = cc) :
    ∀ (fs pre done : Str), rowData = pre ++ fs → pre.length = done.length → (∀ b ∈ done, b < 256) →
      pngRowFlatLoop rowData tag bpp rowNum prevRows cc fs.length done.length
        (done ++ List.replicate fs.length 0) = decRow (pngPredicted tag bpp prev) fs done := by
  intro fs
  induction fs with
  | nil =>
    intro pre done _ _ _
    simp [pngRowFlatLoop, decRow]
  | cons f fs ih =>
    intro pre done hrd hpl hd
    have hlen : done.length < cc := by
      rw [← hrl, hrd, List.length_append, List.length_cons]
      omega
    simp only [List.length_cons, List.replicate_succ, pngRowFlatLoop, decRow]
    rw [pngPredictedFlat_eq tag bpp rowNum prevRows cc prev hb hp done _ hd hlen]
    cases hP : pngPredicted tag bpp prev done with
    | none => rfl
    | some p =>
      have hget : rowData[done.length]? = some f := by
        rw [hrd, ← hpl, List.getElem?_append_right (Nat.le_refl _), Nat.sub_self]
        rfl
      have hset : goSet (done ++ 0 :: List.replicate fs.length 0) done.length (toByte (f + p)) =
          some ((done ++ [(f + p) % 256]) ++ List.replicate fs.length 0) := by
        unfold goSet
        rw [if_pos (by simp only [List.length_append, List.length_cons]; omega), set_mid]
        simp only [toByte, List.append_assoc, List.singleton_append]
      simp only [hget, hset]
      have := ih (pre ++ [f]) (done ++ [(f + p) % 256]) (by rw [hrd]; simp)
        (by simp only [List.length_append, List.length_cons, List.length_nil]; omega)
        (List.forall_mem_append.mpr ⟨hd, List.forall_mem_singleton.mpr (Nat.mod_lt _ (by decide))⟩)
      simp only [List.length_append, List.length_cons, List.length_nil] at this
      exact this

/-- `decodePNGRow` on the flat buffer is `decodePNGRow` on the previous row -/
theorem decodePNGRowFlat_eq (tag bpp rowNum : Nat) (prevRows : Str) (cc : Nat) (prev : Option Str)
    (hb : 1 ≤ bpp) (hp : PrevOK rowNum prevRows cc prev) (rowData : Str) (hrl : rowData.length = cc) :
    decodePNGRowFlat rowData tag bpp rowNum prevRows cc = decodePNGRow rowData tag bpp prev := by
  have := pngRowFlatLoop_eq tag bpp rowNum prevRows cc prev hb hp rowData hrl rowData [] [] rfl rfl
    (by intro b hb; cases hb)
  simpa [decodePNGRowFlat, decodePNGRow] using this

/-- the result buffer holds the previous decoded row where `decodePNGRow` looks for it -/
theorem prevOK_buffer (cc : Nat) (acc : List Str) (hacc : ∀ r ∈ acc, r.length = cc ∧ ∀ b ∈ r, b < 256)
    (zs : Str) : PrevOK acc.length (acc.reverse.flatten ++ zs) cc acc.head? := by
  cases acc with
  | nil => exact Or.inl ⟨rfl, rfl⟩
  | cons pr acc' =>
    obtain ⟨hl, hbts⟩ := hacc pr (by simp)
    refine Or.inr ⟨by simp, pr, rfl, hl, hbts, ?_⟩
    intro i hi
    have hfl : acc'.reverse.flatten.length = acc'.length * cc := by
      have := flatten_length_rows cc acc'.reverse
        (fun r hr => (hacc r (by simp [List.mem_reverse.mp hr])).1)
      simpa using this
    simp only [List.reverse_cons, List.flatten_append, List.flatten_cons, List.flatten_nil,
      List.append_nil, List.length_cons, Nat.add_sub_cancel]
    rw [← hfl]
    rw [List.append_assoc]
    exact getElem?_mid _ _ _ _ (by omega)

/-- `copy(result[row*cc:(row+1)*cc], decodedRow)` at the end of the decoded part -/
theorem goCopy_seam (A drow : Str) (m cc : Nat) (hd : drow.length = cc) :
    goCopy (A ++ List.replicate (m + cc) 0) A.length (A.length + cc) drow =
      some (A ++ drow ++ List.replicate m 0) := by
  unfold goCopy
  rw [if_pos ⟨by omega, by simp only [List.length_append, List.length_replicate]; omega⟩]
  have h1 : A.length + cc - A.length = cc := by omega
  rw [h1, hd, Nat.min_self, List.take_left, List.take_of_length_le (by omega), List.drop_append,
    List.drop_of_length_le (by omega), List.drop_replicate]
  have h2 : m + cc - (A.length + cc - A.length) = m := by omega
  rw [h2]
  rfl

/-- `data[rowStart+1 : rowStart+rowSize]` is the row after the tag -/
theorem goSlice_row (data : Str) (rs cc : Nat) (h : rs + cc + 1 ≤ data.length) :
    goSlice data (rs + 1) (rs + (cc + 1)) = some ((data.drop (rs + 1)).take cc) := by
  unfold goSlice
  rw [if_pos ⟨by omega, by omega⟩, List.take_drop]
  have : rs + 1 + cc = rs + (cc + 1) := by omega
  rw [this]

/-- the row loop of `applyPNGPredictor` on the flat buffer: `acc` are the decoded rows, newest
first, the buffer holds them followed by zeros -/
theorem pngFlatLoop_eq (data : Str) (bpp cc : Nat) (hb : 1 ≤ bpp) :
    ∀ (k row : Nat) (acc : List Str), (∀ r ∈ acc, r.length = cc ∧ ∀ b ∈ r, b < 256) →
      acc.length = row → data.length = (row + k) * (cc + 1) →
      pngFlatLoop data (cc + 1) bpp cc k row (acc.reverse.flatten ++ List.replicate (k * cc) 0) =
        pngRows k cc bpp (data.drop (row * (cc + 1))) acc.head? acc := by
  intro k
  induction k with
  | zero =>
    intro row acc _ _ _
    simp [pngFlatLoop, pngRows]
  | succ k ih =>
    intro row acc hacc hrow hdl
    have hfl : acc.reverse.flatten.length = row * cc := by
      have := flatten_length_rows cc acc.reverse
        (fun r hr => (hacc r (List.mem_reverse.mp hr)).1)
      simpa [hrow] using this
    have hexp : (row + (k + 1)) * (cc + 1) = row * (cc + 1) + (k * (cc + 1) + (cc + 1)) := by
      rw [Nat.add_mul, Nat.succ_mul]
    have hlt : row * (cc + 1) < data.length := by omega
    rw [List.drop_eq_getElem_cons hlt]
    simp only [pngFlatLoop, pngRows, List.getElem?_eq_getElem hlt]
    rw [goSlice_row data (row * (cc + 1)) cc (by omega)]
    have hrlen : ((data.drop (row * (cc + 1) + 1)).take cc).length = cc := by
      rw [List.length_take, List.length_drop]
      omega
    have hp := prevOK_buffer cc acc hacc (List.replicate ((k + 1) * cc) 0)
    rw [hrow] at hp
    simp only []
    rw [decodePNGRowFlat_eq _ bpp row _ cc acc.head? hb hp _ hrlen]
    cases hdec : decodePNGRow ((data.drop (row * (cc + 1) + 1)).take cc) data[row * (cc + 1)] bpp acc.head? with
    | none => rfl
    | some drow =>
      have hdl' : drow.length = cc := by
        have := decRow_length _ _ _ _ hdec
        simpa [hrlen] using this
      have hdb : ∀ b ∈ drow, b < 256 := decRow_bytes _ _ _ _ (by intro b hb; cases hb) hdec
      have e1 : row * cc = acc.reverse.flatten.length := hfl.symm
      have e2 : (row + 1) * cc = acc.reverse.flatten.length + cc := by rw [Nat.succ_mul, hfl]
      have e3 : (k + 1) * cc = k * cc + cc := Nat.succ_mul _ _
      have hcopy : goCopy (acc.reverse.flatten ++ List.replicate ((k + 1) * cc) 0) (row * cc)
          ((row + 1) * cc) drow = some ((drow :: acc).reverse.flatten ++ List.replicate (k * cc) 0) := by
        rw [e3, e2, e1, goCopy_seam _ _ _ _ hdl']
        simp
      simp only [hcopy]
      have hnext := ih (row + 1) (drow :: acc)
        (List.forall_mem_cons.mpr ⟨⟨hdl', hdb⟩, hacc⟩)
        (by simp [hrow])
        (by rw [hdl, Nat.add_right_comm row 1 k, Nat.add_assoc])
      rw [hnext, List.drop_drop]
      have e4 : (row + 1) * (cc + 1) = row * (cc + 1) + 1 + cc := by rw [Nat.succ_mul]; omega
      rw [e4]
      rfl

end Tabula.Filters
