import TabulaModel.Model.ExportIO
import TabulaModel.Lemmas.ExportApi
/-!
Lemmas about `Model/ExportIO.lean`: the abstract file system, batch numbers of the partition.
-/
set_option linter.unusedSimpArgs false
namespace Tabula.Export
open Tabula.Csv (Str)

theorem fsRead_fsWrite_self (fs : FS) (name data : Str) : fsRead (fsWrite fs name data) name = some data := by
  induction fs with
  | nil => simp [fsWrite, fsRead]
  | cons e rest ih =>
    obtain ⟨n, d⟩ := e
    by_cases h : n = name
    · simp [fsWrite, fsRead, h]
    · simp [fsWrite, fsRead, h, ih]

theorem fsRead_fsWrite_other (fs : FS) (name data n' : Str) (h : n' ≠ name) :
    fsRead (fsWrite fs name data) n' = fsRead fs n' := by
  induction fs with
  | nil =>
    have : ¬ name = n' := fun e => h e.symm
    simp [fsWrite, fsRead, this]
  | cons e rest ih =>
    obtain ⟨n, d⟩ := e
    by_cases hn : n = name
    · subst hn
      have : ¬ n = n' := fun e => h e.symm
      simp [fsWrite, fsRead, this]
    · by_cases hn' : n = n'
      · subst hn'
        simp [fsWrite, fsRead, hn]
      · simp [fsWrite, fsRead, hn, hn', ih]

/-- a sequence of writes under pairwise different names: every file holds what was written to it,
every other name is untouched -/
theorem fsRead_foldl_writes (kvs : List (Str × Str)) (hn : (kvs.map (·.1)).Nodup) (fs : FS) :
    (∀ kv ∈ kvs, fsRead (kvs.foldl (fun f kv => fsWrite f kv.1 kv.2) fs) kv.1 = some kv.2) ∧
    (∀ name, name ∉ kvs.map (·.1) → fsRead (kvs.foldl (fun f kv => fsWrite f kv.1 kv.2) fs) name = fsRead fs name) := by
  induction kvs generalizing fs with
  | nil => simp
  | cons kv rest ih =>
    simp only [List.map_cons, List.nodup_cons] at hn
    obtain ⟨ih1, ih2⟩ := ih hn.2 (fsWrite fs kv.1 kv.2)
    refine ⟨List.forall_mem_cons.mpr ⟨?_, ih1⟩, ?_⟩
    · rw [List.foldl_cons, ih2 kv.1 hn.1, fsRead_fsWrite_self]
    · intro name hname
      simp only [List.map_cons, List.mem_cons, not_or] at hname
      simp only [List.foldl_cons]
      rw [ih2 name hname.2, fsRead_fsWrite_other _ _ _ _ hname.1]

/-- the batches of the loop started at `i` are numbered `i / size`, `i / size + 1`, … -/
theorem batchLoop_numbers {α : Type} (size : Nat) (hs : 0 < size) (chunks : List α) (i : Nat) :
    (batchLoop size hs chunks i).map (·.batchNumber) =
      List.range' (i / size) (batchLoop size hs chunks i).length := by
  induction i using batchLoop.induct_unfolding size hs chunks with
  | case1 i _ e ih => rw [List.map_cons, List.length_cons, List.range'_succ, ih, Nat.add_div_right _ hs]
  | case2 i _ => rfl

theorem batchExport_numbers {α : Type} (size : Nat) (chunks : List α) (bs : List (Batch α))
    (h : batchExport size chunks = some bs) : bs.map (·.batchNumber) = List.range bs.length := by
  unfold batchExport at h
  split at h
  · injection h with h
    rw [← h, batchLoop_numbers, Nat.zero_div, List.range_eq_range']
  · cases h

theorem toI_ok (r : BatchResult) : r.toI = .ok ↔ r = .ok := by
  cases r <;> simp [BatchResult.toI]

end Tabula.Export
