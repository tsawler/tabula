import TabulaModel.Model.ReaderHist
/-
Invariants of the reader caches of `Model/ReaderHist.lean`: everything cached is what the file
says (`Inv`), every look-up keeps that and answers with what the file says; the same for the lazily
loaded page list (`PagesOk`).
-/
namespace Tabula.ReaderHist

/-- a `*core.ObjectStream` agrees with the bytes of its stream -/
def StmOk (st : StmState) : Prop :=
  (st.decoded = true → st.data.decodes = true ∧
     ((st.data.header = none ∧ st.headerErr = true) ∨
      (st.data.header = some st.offsets ∧ st.headerErr = false))) ∧
  (st.decoded = false → st.headerErr = false) ∧
  (∀ i v, st.objects i = some v → st.data.member[i]? = some (some v))

/-- the caches of a reader agree with the file -/
def Inv (x : Xref) (r : Reader) : Prop :=
  (∀ n o, r.objCache n = some o → specGet x n = some o) ∧
  (∀ s st, r.stmCache s = some st → specStm x s = some st.data ∧ StmOk st)

theorem inv_empty (x : Xref) : Inv x Reader.empty :=
  ⟨fun _ _ h => by simp [Reader.empty] at h, fun _ _ h => by simp [Reader.empty] at h⟩

theorem stmOk_fresh (d : StmData) : StmOk { data := d } :=
  ⟨fun h => by simp at h, fun _ => rfl, fun _ _ h => by simp at h⟩

theorem upd_eq {β : Type} (m : Nat → Option β) (k : Nat) (v : β) : upd m k v k = some v := by
  simp [upd]

theorem upd_some {β : Type} {m : Nat → Option β} {k : Nat} {v w : β} {j : Nat}
    (h : upd m k v j = some w) : (j = k ∧ w = v) ∨ (j ≠ k ∧ m j = some w) := by
  unfold upd at h
  split at h
  · rename_i hj
    exact .inl ⟨hj, by simpa using h.symm⟩
  · rename_i hj
    exact .inr ⟨hj, h⟩

/-- a property of everything cached survives caching one more entry that has it -/
theorem upd_forall {β : Type} {m : Nat → Option β} {P : Nat → β → Prop} (h : ∀ j w, m j = some w → P j w)
    {k : Nat} {v : β} (hk : P k v) : ∀ j w, upd m k v j = some w → P j w := by
  intro j w hj
  rcases upd_some hj with ⟨rfl, rfl⟩ | ⟨_, hj'⟩
  · exact hk
  · exact h j w hj'

/-- caching what the file says keeps the caches in agreement with it -/
theorem inv_upd_obj {x : Xref} {r : Reader} (h : Inv x r) {n : Nat} {o : Obj}
    (hs : specGet x n = some o) : Inv x { r with objCache := upd r.objCache n o } :=
  ⟨upd_forall h.1 hs, h.2⟩

theorem inv_upd_stm {x : Xref} {r : Reader} (h : Inv x r) {s : Nat} {st : StmState}
    (hs : specStm x s = some st.data) (hk : StmOk st) :
    Inv x { r with stmCache := upd r.stmCache s st } :=
  ⟨h.1, upd_forall (P := fun s st => specStm x s = some st.data ∧ StmOk st) h.2 ⟨hs, hk⟩⟩

/-- `decode`: the state stays in agreement with the bytes; it succeeds exactly when the stream
decodes and the header parses, and then `offsets` is the header -/
theorem decode_spec (st : StmState) (h : StmOk st) :
    StmOk st.decode.1 ∧ st.decode.1.data = st.data ∧
    (st.decode.2 = true → st.data.decodes = true ∧ st.data.header = some st.decode.1.offsets) ∧
    (st.decode.2 = false → st.data.decodes = false ∨ st.data.header = none) := by
  obtain ⟨h1, h3, h2⟩ := h
  unfold StmState.decode
  split
  next hd =>
    obtain ⟨hdec, hh⟩ := h1 hd
    refine ⟨⟨h1, h3, h2⟩, rfl, fun he => ?_, fun he => ?_⟩
    · rcases hh with ⟨_, he'⟩ | ⟨hh, _⟩
      · simp [he'] at he
      · exact ⟨hdec, hh⟩
    · rcases hh with ⟨hh, _⟩ | ⟨_, he'⟩
      · exact .inr hh
      · simp [he'] at he
  next hd =>
    split
    next hc =>
      exact ⟨⟨h1, h3, h2⟩, rfl, fun he => Bool.noConfusion he, fun _ => .inl (by simpa using hc)⟩
    next hc =>
      have hc' : st.data.decodes = true := by simpa using hc
      split
      next hh =>
        exact ⟨⟨fun _ => ⟨hc', .inl ⟨hh, rfl⟩⟩, fun hq => Bool.noConfusion hq, h2⟩, rfl,
          fun he => Bool.noConfusion he, fun _ => .inr hh⟩
      next hdr hh =>
        exact ⟨⟨fun _ => ⟨hc', .inr ⟨hh, h3 (by simpa using hd)⟩⟩, fun hq => Bool.noConfusion hq, h2⟩, rfl,
          fun _ => ⟨hc', hh⟩, fun he => Bool.noConfusion he⟩

/-- what `getCompressedObject` makes of the answer of `GetObjectByIndex` -/
def memberAns (n : Nat) : Option (Int × Nat) → Option Obj
  | some (v, num) => if num = n then some (.val v) else none
  | none => none

/-- `GetObjectByIndex`: agreement is kept, the answer is the file's -/
theorem getByIndex_spec (st : StmState) (h : StmOk st) (n i : Nat) :
    StmOk (st.getByIndex i).1 ∧ (st.getByIndex i).1.data = st.data ∧
    memberAns n (st.getByIndex i).2 = specMember st.data n i := by
  obtain ⟨hok, hdata, ht, hf⟩ := decode_spec st h
  unfold StmState.getByIndex specMember
  split
  next st1 hdec =>
    rw [hdec] at hok hdata hf
    refine ⟨hok, hdata, ?_⟩
    rcases hf rfl with hc | hh
    · rw [hc]; rfl
    · rw [hh]; split <;> rfl
  next st1 hdec =>
    rw [hdec] at hok hdata ht
    obtain ⟨hc, hh⟩ := ht rfl
    simp only at hok hdata hh
    rw [hc, hh, if_pos rfl, ← hdata]
    dsimp only
    -- the cached members are the file's, so every branch answers from `st1.data.member`
    split
    next ho => exact ⟨hok, rfl, rfl⟩
    next num ho =>
      split
      next v hob => exact ⟨hok, rfl, by rw [hok.2.2 i v hob]; rfl⟩
      next hob =>
        split
        next v hm =>
          exact ⟨⟨hok.1, hok.2.1, upd_forall hok.2.2 hm⟩, rfl, rfl⟩
        next => exact ⟨hok, rfl, rfl⟩

/-- `getObjectStream`: the stream handed out is the file's and agrees with it; the caches stay in
agreement; it fails exactly when the file has no object stream under that number -/
theorem getObjectStream_spec (x : Xref) (r : Reader) (h : Inv x r) (s : Nat) :
    Inv x (getObjectStream x r s).1 ∧
    (match (getObjectStream x r s).2 with
     | some st => specStm x s = some st.data ∧ StmOk st
     | none => specStm x s = none) := by
  unfold getObjectStream
  split
  next st hc => exact ⟨h, h.2 s st hc⟩
  next =>
    split
    next d hx =>
      have hs : specStm x s = some d := by rw [specStm, hx]
      exact ⟨inv_upd_stm h hs (stmOk_fresh d), hs, stmOk_fresh d⟩
    next hx =>
      refine ⟨h, ?_⟩
      show specStm x s = none
      unfold specStm
      split
      · next d hd => exact absurd hd (hx d)
      · rfl

/-- `getCompressedObject` -/
theorem getCompressed_spec (x : Xref) (r : Reader) (h : Inv x r) (n s i : Nat) :
    Inv x (getCompressed x r n s i).1 ∧ (getCompressed x r n s i).2 = specIn x n s i := by
  obtain ⟨hinv, hres⟩ := getObjectStream_spec x r h s
  unfold getCompressed specIn
  split
  next r1 hg =>
    rw [hg] at hinv hres
    exact ⟨hinv, by rw [show specStm x s = none from hres]⟩
  next r1 st hg =>
    rw [hg] at hinv hres
    obtain ⟨hs, hst⟩ := hres
    obtain ⟨hok, hdata, hans⟩ := getByIndex_spec st hst n i
    rw [hs]
    -- the stream is shared with the cache, so what `GetObjectByIndex` did to it is cached
    split
    next st1 v num hgi =>
      rw [hgi] at hok hdata hans
      exact ⟨inv_upd_stm hinv (hdata ▸ hs) hok, hans⟩
    next st1 hgi =>
      rw [hgi] at hok hdata hans
      exact ⟨inv_upd_stm hinv (hdata ▸ hs) hok, hans⟩

/-- `GetObject`: the caches stay in agreement with the file, and the answer is the file's -/
theorem getObject_spec (x : Xref) (r : Reader) (h : Inv x r) (n : Nat) :
    Inv x (getObject x r n).1 ∧ (getObject x r n).2 = specGet x n := by
  unfold getObject
  split
  next o hc => exact ⟨h, (h.1 n o hc).symm⟩
  next =>
    split
    next o hx =>
      have hs : specGet x n = some o := by rw [specGet, hx]
      exact ⟨inv_upd_obj h hs, hs.symm⟩
    next s i hx =>
      obtain ⟨hinv, hres⟩ := getCompressed_spec x r h n s i
      have hs : specGet x n = (getCompressed x r n s i).2 := by rw [specGet, hx, hres]
      split
      next r1 o hg => rw [hg] at hinv hs; exact ⟨inv_upd_obj hinv hs, hs.symm⟩
      next r1 hg => rw [hg] at hinv hs; exact ⟨hinv, hs.symm⟩
    next hown hin =>
      refine ⟨h, ?_⟩
      show none = specGet x n
      unfold specGet
      split
      · next o hx =>
        cases o with
        | none => rfl
        | some o => exact absurd hx (hown o)
      · next s i hx => exact absurd hx (hin s i)
      · rfl

theorem step_spec (x : Xref) (r : Reader) (h : Inv x r) (a : Access) :
    Inv x (step x r a).1 ∧ (step x r a).2 = specAccess x a := by
  cases a with
  | get n => exact getObject_spec x r h n
  | clear => exact ⟨inv_empty x, rfl⟩

theorem run_spec (x : Xref) (as : List Access) :
    ∀ r, Inv x r → run x r as = as.map (specAccess x) ∧ Inv x (exec x r as) := by
  induction as with
  | nil => intro r h; exact ⟨rfl, h⟩
  | cons a as ih =>
    intro r h
    obtain ⟨hi, ha⟩ := step_spec x r h a
    obtain ⟨h1, h2⟩ := ih _ hi
    exact ⟨by simp only [run, List.map_cons, ha, h1], by simpa only [exec] using h2⟩

/-- after any history from the fresh reader, a look-up is answered with what the file says -/
theorem getObject_exec (x : Xref) (pre : List Access) (n : Nat) :
    (getObject x (exec x Reader.empty pre) n).2 = specGet x n :=
  (getObject_spec x _ ((run_spec x pre) _ (inv_empty x)).2 n).2

/-- a fold that appends one output per input and keeps an invariant of its state under which every
output is the specified one -/
theorem foldl_outputs {σ α β : Type} (I : σ → Prop) (step : σ × List β → α → σ × List β) (spec : α → β)
    (h : ∀ s out a, I s → I (step (s, out) a).1 ∧ (step (s, out) a).2 = out ++ [spec a]) (l : List α) :
    ∀ s out, I s → (l.foldl step (s, out)).2 = out ++ l.map spec := by
  induction l with
  | nil => intro s out _; simp
  | cons a as ih =>
    intro s out hs
    obtain ⟨h1, h2⟩ := h s out a hs
    rw [List.foldl_cons, ← Prod.eta (step (s, out) a), ih _ _ h1, h2]
    simp

/-- what is kept of the page tree is what the file says: a tree only if the file has a root, a
page list only if it is the file's walk -/
structure PagesOk {P : Type} (f : TreeFile P) (s : TreeState P) : Prop where
  pages : ∀ l, s.pages = some l → f.walk = some l
  tree : s.tree = true → f.hasRoot = true

theorem pagesOk_fresh {P : Type} (f : TreeFile P) : PagesOk f {} :=
  ⟨fun _ h => (nomatch h), fun h => (nomatch h)⟩

/-- on such a state the two lazy loaders are plain assignments of what the file says:
`ensurePageTree` succeeds exactly when the file has a root … -/
theorem ensureTree_eq {P : Type} (f : TreeFile P) (s : TreeState P) (ht : s.tree = true → f.hasRoot = true) :
    ensureTree f s = ({ s with tree := s.tree || f.hasRoot }, f.hasRoot) := by
  obtain ⟨tree, pages⟩ := s
  unfold ensureTree
  cases tree with
  | true => simp [ht rfl]
  | false => cases f.hasRoot <;> rfl

/-- … and the lazy load answers with the file's walk and keeps it (nothing, when the walk fails) -/
theorem ensurePages_eq {P : Type} (f : TreeFile P) (s : TreeState P)
    (h : ∀ l, s.pages = some l → f.walk = some l) :
    ensurePages f s = ({ s with pages := f.walk }, f.walk) := by
  obtain ⟨tree, pages⟩ := s
  unfold ensurePages
  cases pages with
  | some l => simp [h l rfl]
  | none => cases f.walk <;> rfl

theorem pageStep_spec {P : Type} (f : TreeFile P) (s : TreeState P) (hs : PagesOk f s) (c : PageCall) :
    (pageStep f s c).2 = pageSpec f c ∧ PagesOk f (pageStep f s c).1 := by
  unfold pageStep pageStepWith pageSpec
  rw [ensureTree_eq f s hs.tree]
  cases hr : f.hasRoot with
  | false => exact ⟨rfl, hs.pages, fun h => hr ▸ hs.tree (by simpa using h)⟩
  | true =>
    have e := ensurePages_eq f { s with tree := s.tree || true } hs.pages
    generalize hw : f.walk = w at e ⊢
    have ok : PagesOk f { s with tree := s.tree || true, pages := w } := ⟨fun _ h => hw.trans h, fun _ => hr⟩
    dsimp only
    cases c with
    | count =>
      cases f.declared with
      | false => exact ⟨rfl, hs.pages, fun _ => hr⟩
      | true => rw [if_pos rfl, if_pos rfl, e]; cases w <;> exact ⟨rfl, ok⟩
    | page i => rw [if_pos rfl, e]; cases w <;> exact ⟨rfl, ok⟩
    | pages => rw [if_pos rfl, e]; cases w <;> exact ⟨rfl, ok⟩

theorem pageRun_spec {P : Type} (f : TreeFile P) (cs : List PageCall) :
    ∀ s : TreeState P, PagesOk f s → pageRun f s cs = cs.map (pageSpec f) := by
  induction cs with
  | nil => intro s _; rfl
  | cons c cs ih =>
    intro s h
    obtain ⟨h1, h2⟩ := pageStep_spec f s h c
    have := ih _ h2
    unfold pageRun at this ⊢
    simp only [pageRunWith, List.map_cons, h1, this]

end Tabula.ReaderHist
