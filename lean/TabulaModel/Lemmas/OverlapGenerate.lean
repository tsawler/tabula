import TabulaModel.Lemmas.OverlapSentences
import TabulaModel.Lemmas.OverlapParagraphs
/-!
C13: `GenerateOverlap` as a whole.  What the backward loop of `truncateOverlap` selects is a
suffix of the sentence list within `MaxOverlap` (`fitLast_suffix`, `fitLast_length`); the overlap
of every strategy has at most `MaxOverlap` bytes; for ANY bytes and under every reading that
follows the scan it carries a suffix of the text (`generateOverlap_suffix`: the character
overlap, `tailAtRuneBoundary`, the paragraphs and `TrimSpace` do so for every reading, the
sentence splitter re-encodes, so what joined sentences carry is a hypothesis).  The instance
`illFormed` is UTF-8 integrity (`valid_generateOverlap`).
-/
set_option linter.unusedVariables false
namespace Tabula.Overlap
open Tabula.Split

theorem fitLast_cons (max : Nat) (s : Str) (rest : List Str) (size : Nat) (acc : List Str) :
    fitLast max (s :: rest) size acc =
      if size + (s.length + (if size > 0 then 1 else 0)) > max then acc
      else fitLast max rest (size + (s.length + (if size > 0 then 1 else 0))) (s :: acc) := by
  simp [fitLast]

/-- the backward loop of `truncateOverlap` keeps `size` the length of the selection joined by
spaces, so what it selects stays within the maximum -/
theorem fitLast_length (max : Nat) (rev : List Str) (hne : ∀ s ∈ rev, s ≠ []) (acc : List Str)
    (hacc : ∀ s ∈ acc, s ≠ []) (hsz : (joinWith [32] acc).length ≤ max) :
    (joinWith [32] (fitLast max rev (joinWith [32] acc).length acc)).length ≤ max := by
  induction rev generalizing acc with
  | nil => exact hsz
  | cons s rest ih =>
    have hs : s ≠ [] := hne s (List.mem_cons_self ..)
    -- the size the loop computes for `s :: acc` is the length of its join
    have hnew : (joinWith [32] acc).length + (s.length + (if (joinWith [32] acc).length > 0 then 1 else 0))
        = (joinWith [32] (s :: acc)).length := by
      rw [joinWith_cons]
      by_cases h : acc = []
      · subst h; simp [joinWith]
      · have : 0 < (joinWith [32] acc).length :=
          List.length_pos_iff.mpr (mt (joinWith_eq_nil _ acc hacc).mp h)
        simp only [h, if_false, if_pos this, List.length_append, List.length_cons, List.length_nil]
        omega
    rw [fitLast_cons, hnew]
    split
    · exact hsz
    · exact ih (fun t ht => hne t (List.mem_cons_of_mem _ ht)) (s :: acc)
        (List.forall_mem_cons.mpr ⟨hs, hacc⟩) (by omega)

/-- what the backward loop of `truncateOverlap` selects is a suffix of the sentence list -/
theorem fitLast_suffix (max : Nat) (rev : List Str) (size : Nat) (acc : List Str) :
    ∃ pre, rev.reverse ++ acc = pre ++ fitLast max rev size acc := by
  induction rev generalizing size acc with
  | nil => exact ⟨[], by simp [fitLast]⟩
  | cons s rest ih =>
    rw [fitLast_cons]
    by_cases hfit : size + (s.length + (if size > 0 then 1 else 0)) > max
    · rw [if_pos hfit]; exact ⟨(s :: rest).reverse, rfl⟩
    · rw [if_neg hfit]
      obtain ⟨pre, e⟩ := ih (size + (s.length + (if size > 0 then 1 else 0))) (s :: acc)
      exact ⟨pre, by rw [← e]; simp⟩

theorem truncate_selection (cl : Classes) (c : OverlapConfig) (o : Str) :
    ∃ pre, splitIntoSentences cl o
      = pre ++ fitLast c.maxOverlap (splitIntoSentences cl o).reverse 0 [] := by
  obtain ⟨pre, e⟩ := fitLast_suffix c.maxOverlap (splitIntoSentences cl o).reverse 0 []
  rw [List.reverse_reverse, List.append_nil] at e
  exact ⟨pre, e⟩

theorem truncateOverlap_length_le (cl : Classes) (c : OverlapConfig) (o : Str) :
    (truncateOverlap cl c o).length ≤ c.maxOverlap := by
  unfold truncateOverlap
  split
  · assumption
  · simp only
    have hchar : (generateCharacterOverlap c (tailAtRuneBoundary o c.maxOverlap)).length ≤ c.maxOverlap :=
      Nat.le_trans (generateCharacterOverlap_length_le _ _) (tailAtRuneBoundary_length_le _ _)
    split
    · exact hchar
    · split
      · exact hchar
      · exact fitLast_length _ _ (fun s hs => splitIntoSentences_ne_nil cl o s (List.mem_reverse.mp hs))
          [] (fun _ h => nomatch h) (Nat.zero_le _)

theorem capOverlap_length_le (cl : Classes) (c : OverlapConfig) (o : Str) :
    (capOverlap cl c o).length ≤ c.maxOverlap := by
  unfold capOverlap
  split
  · exact truncateOverlap_length_le ..
  · omega

/-- **overlap bound**: whatever the strategy, the generated overlap has at most `MaxOverlap` bytes -/
theorem generateOverlap_length_le (cl : Classes) (c : OverlapConfig) (text : Str) :
    (generateOverlap cl c text).length ≤ c.maxOverlap := by
  unfold generateOverlap
  split
  · simp
  · exact capOverlap_length_le ..

theorem overlapFrom_length_le (cl : Classes) (c : OverlapConfig) (prev : Option Str) :
    (overlapFrom cl c prev).length ≤ c.maxOverlap := by
  cases prev with
  | none => exact Nat.zero_le _
  | some p =>
    rcases overlapFrom_some cl c p with e | e <;> rw [e]
    · exact Nat.zero_le _
    · exact generateOverlap_length_le cl c p

/-- with the character strategy and `Size ≤ MaxOverlap` nothing is truncated: `GenerateOverlap`
returns nothing or the character overlap itself -/
theorem generateOverlap_character (cl : Classes) (c : OverlapConfig) (text : Str)
    (hs : c.strategy = 1) (hle : c.size ≤ c.maxOverlap) :
    generateOverlap cl c text = [] ∨ generateOverlap cl c text = generateCharacterOverlap c text := by
  unfold generateOverlap
  split
  · exact .inl rfl
  · have h1 := generateCharacterOverlap_length_le_size c text
    simp only [rawOverlap, hs, if_true]
    have : ¬ (1 = 2) := by decide
    simp only [this, false_and, and_false, if_false]
    unfold capOverlap
    exact .inr (if_neg (by omega))

section
variable {f : Str → Str} (hf : Reads f)
include hf

/-- the sentence splitter re-encodes the text, so what joined sentences carry is asked of `f` -/
theorem suffix_sentenceOverlap (cl : Classes)
    (hsel : ∀ s pre sel, splitIntoSentences cl s = pre ++ sel → Suffix f s (joinWith [32] sel))
    (c : OverlapConfig) (text : Str) : Suffix f text (generateSentenceOverlap cl c text).1 := by
  unfold generateSentenceOverlap
  simp only
  split
  · exact suffix_nil hf text
  · exact (hsel text _ _ (List.take_append_drop _ _).symm).trans (suffix_trimSpace hf _)

/-- **`GenerateOverlap` under a reading**, any bytes, every strategy, truncation included.  The
character overlap, `tailAtRuneBoundary`, the paragraphs and `TrimSpace` carry a suffix under every
reading that follows the scan; for the sentences see `suffix_sentenceOverlap`. -/
theorem generateOverlap_suffix (cl : Classes)
    (hsel : ∀ s pre sel, splitIntoSentences cl s = pre ++ sel → Suffix f s (joinWith [32] sel))
    (c : OverlapConfig) (text : Str) : Suffix f text (generateOverlap cl c text) := by
  have hchar := suffix_charOverlap hf c
  have hcap : ∀ o, Suffix f o (capOverlap cl c o) := by
    intro o
    have hfall := (suffix_tail hf o c.maxOverlap).trans (hchar _)
    unfold capOverlap truncateOverlap
    split
    · split
      · exact .refl o
      · simp only
        split
        · exact hfall
        · split
          · exact hfall
          · obtain ⟨pre, e⟩ := truncate_selection cl c o
            exact hsel o pre _ e
    · exact .refl o
  have hraw : Suffix f text (rawOverlap cl c text).1 := by
    unfold rawOverlap
    split
    · exact hchar text
    · split
      · exact suffix_sentenceOverlap hf cl hsel c text
      · exact suffix_paragraphOverlap hf cl c text
  unfold generateOverlap
  split
  · exact suffix_nil hf text
  · simp only
    exact Suffix.trans (by split; exact hchar text; exact hraw) (hcap _)

end

/-- **every strategy**: the overlap of a valid UTF-8 chunk is valid UTF-8 (joined sentences are
valid whatever the text, so they have no ill-formed byte to account for) -/
theorem valid_generateOverlap (cl : Classes) (c : OverlapConfig) (text : Str)
    (hv : validUtf8 text = true) : validUtf8 (generateOverlap cl c text) = true := by
  refine valid_of_suffix (generateOverlap_suffix reads_illFormed cl (fun s pre sel e => ?_) c text) hv
  have hj : validUtf8 (joinWith [32] sel) = true :=
    valid_joinWith _ (valid_wsOnly wsOnly_space) _ fun p hp =>
      splitIntoSentences_valid cl s p (by rw [e]; exact List.mem_append_right _ hp)
  exact ⟨illFormed s, by rw [(validUtf8_iff_illFormed _).mp hj, List.append_nil]⟩

end Tabula.Overlap
