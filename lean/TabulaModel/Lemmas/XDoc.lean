import TabulaModel.Model.XDoc
import TabulaModel.Lemmas.GState
/-!
Helper lemmas about the model of the extractor's entry points (`Model/XDoc.lean`): the
budget invariant of Form XObject execution, the decision `invokeXObject` takes about a `Do`
(`admission`), what every call leaves untouched (nesting depth, resources: `Kept`), that the ghost
counters of the accounting are invisible to the code, the typed operators a raw operation decodes
to, and `deduplicateFragments`.  (The unfolding of a form
graph into the form tree of `Model/GState.lean` is in `Lemmas/Expand.lean`.)
-/
namespace Tabula.XDoc
open Tabula Tabula.GState

variable {α : Type}

def Decoded.formFree : Decoded α → Prop
  | .ops l => FormFree l
  | .xobj _ => True

/-- the pieces of a `"` are `Tw`, `Tc` and `'` or `T*`: none of them `q`, `Q` or `Do` -/
theorem dquoteOps_plain (w c s : Operand α) : ∀ op ∈ dquoteOps w c s, op.plain = true := by
  intro op hm
  simp only [dquoteOps, List.mem_append, List.mem_singleton] at hm
  rcases hm with (hm | hm) | rfl
  · split at hm
    · rw [List.mem_singleton.mp hm]; rfl
    · nomatch hm
  · split at hm
    · rw [List.mem_singleton.mp hm]; rfl
    · nomatch hm
  · split <;> rfl

theorem dquoteOps_formFree (w c s : Operand α) : FormFree (dquoteOps w c s) :=
  fun op hm => plain_not_form (dquoteOps_plain w c s op hm)

/-- what one `case` of `processOperation` comes to: an XObject invocation, nothing, one typed
operator that is not a form, or the pieces of a malformed `"` -/
theorem decodeOp_cases [Lean.Grind.CommRing α] (r : RawOp α) :
    (∃ n, decodeOp r = .xobj n) ∨ decodeOp r = .ops [] ∨
    (∃ op, decodeOp r = .ops [op] ∧ ∀ m b, op ≠ Op.form m b) ∨
    ∃ w c s, decodeOp r = .ops (dquoteOps w c s) := by
  fun_cases decodeOp r <;>
    first
    | exact .inr (.inl rfl)
    | exact .inr (.inr (.inl ⟨_, rfl, by intro _ _ h; cases h⟩))
    | exact .inl ⟨_, rfl⟩
    | exact .inr (.inr (.inr ⟨_, _, _, rfl⟩))

/-- a raw operation never decodes to a form: `Do` is the only way into one -/
theorem decodeOp_formFree [Lean.Grind.CommRing α] (r : RawOp α) : (decodeOp r).formFree := by
  rcases decodeOp_cases r with ⟨n, h⟩ | h | ⟨op, h, hop⟩ | ⟨w, c, s, h⟩ <;> rw [h]
  · trivial
  · exact FormFree.nil
  · intro o ho; rw [List.mem_singleton.mp ho]; exact hop
  · exact dquoteOps_formFree w c s

/-- `b` is reached from `a` by charging forms: `bytes` only grows; every executed form was
charged its content plus `xobjectCallCost` while the total stayed within
`maxXObjectBytes`; every executed form has non-empty content. -/
def Charged (a b : Acct) : Prop :=
  a.bytes ≤ b.bytes ∧ a.calls ≤ b.calls ∧ a.work ≤ b.work ∧
  b.calls * xobjectCallCost + b.work + min a.bytes maxXObjectBytes
    ≤ a.calls * xobjectCallCost + a.work + min b.bytes maxXObjectBytes ∧
  b.calls + a.work ≤ a.calls + b.work

theorem Charged.refl (a : Acct) : Charged a a := by
  simp only [Charged]; omega

theorem Charged.trans {a b c : Acct} (h1 : Charged a b) (h2 : Charged b c) : Charged a c := by
  simp only [Charged, xobjectCallCost] at *; generalize maxXObjectBytes = B at *; omega

theorem Charged.refuse (a : Acct) (len : Nat) : Charged a (a.refuse len) := by
  simp only [Charged, Acct.refuse, xobjectCallCost]; generalize maxXObjectBytes = B; omega

theorem Charged.charge (a : Acct) (len : Nat) (hl : len ≠ 0)
    (hb : ¬ a.bytes + len + xobjectCallCost > maxXObjectBytes) : Charged a (a.charge len) := by
  simp only [Charged, Acct.charge, xobjectCallCost] at *; generalize maxXObjectBytes = B at *; omega

/-- the outcome of the checks of `invokeXObject` below a resource context -/
inductive Admission (α : Type) where
  /-- nothing happens: too deep, the name leads to no form, empty content -/
  | skip
  /-- over budget: only the charge is recorded -/
  | refuse (f : FormObj α)
  | run (f : FormObj α)

/-- the checks themselves; of the extractor they read the nesting depth and `xobjectBytes` only.
`invokeXObject` and the unfolding `expandForm` (`Lemmas/Expand.lean`) both branch on this. -/
def admission (doc : Doc α) (res : Res) (depth bytes : Nat) (name : Name) : Admission α :=
  if depth ≥ maxXObjectDepth then .skip
  else match lookupForm doc res name with
    | none => .skip
    | some f =>
      if f.len = 0 then .skip
      else if bytes + f.len + xobjectCallCost > maxXObjectBytes then .refuse f
      else .run f

theorem admission_run {doc : Doc α} {res : Res} {depth bytes : Nat} {name : Name} {f : FormObj α}
    (h : admission doc res depth bytes name = .run f) :
    depth < maxXObjectDepth ∧ lookupForm doc res name = some f ∧ f.len ≠ 0 ∧
      ¬ bytes + f.len + xobjectCallCost > maxXObjectBytes := by
  revert h
  fun_cases admission doc res depth bytes name <;> intro h <;> cases h
  exact ⟨Nat.not_le.mp ‹_›, ‹_›, ‹_›, ‹_›⟩

section
variable [Lean.Grind.CommRing α] [DecidableEq α] [LT α] [DecidableLT α]

/-- `invokeXObject` with recursion left: no resource context, or what `admission` decides -/
theorem invokeXObject_succ (adv : Adv α) (doc : Doc α) (fuel : Nat) (name : Name) (x : XState α) :
    invokeXObject adv doc (fuel + 1) name x =
      match x.resources with
      | none => (x, [])
      | some res =>
        match admission doc res x.gs.xdepth x.acct.bytes name with
        | .skip => (x, [])
        | .refuse f => ({ x with acct := x.acct.refuse f.len }, [])
        | .run f =>
          (leaveForm x (formLoop adv (invokeXObject adv doc fuel) (formBody f) (enterForm doc res f x)).1,
            (formLoop adv (invokeXObject adv doc fuel) (formBody f) (enterForm doc res f x)).2) := by
  -- every branch of the definition is a branch of `admission`
  unfold admission
  generalize hk : fuel + 1 = k
  fun_cases invokeXObject adv doc k name x <;> cases hk <;> simp only [*, if_true, if_false] <;> rfl

omit [Lean.Grind.CommRing α] [DecidableEq α] [LT α] [DecidableLT α] in
/-- tagging fragments with their strings does not change the fragments -/
@[simp] theorem tagShows_sh (sids : List Nat) (shows : List (Show α)) :
    (tagShows sids shows).map (·.sh) = shows := by
  induction shows generalizing sids with
  | nil => cases sids <;> rfl
  | cons sh rest ih => cases sids <;> simp [tagShows, ih]

omit [Lean.Grind.CommRing α] [DecidableEq α] [LT α] [DecidableLT α] in
@[simp] theorem tagShows_length (sids : List Nat) (shows : List (Show α)) :
    (tagShows sids shows).length = shows.length := by
  induction shows generalizing sids with
  | nil => cases sids <;> rfl
  | cons sh rest ih => cases sids <;> simp [tagShows, ih]

theorem stepOps_xdepth (adv : Adv α) (l : List (Op α)) (s : State α) :
    (stepOps adv l s).1.xdepth = s.xdepth := by
  induction l generalizing s with
  | nil => rfl
  | cons op rest ih => simp only [stepOps]; rw [ih, stepBasic_xdepth]

/-- what a relation between the extractor before and after must satisfy to hold across every
`Do` and every `Extract`: kept by the typed operators of one `case`, by a refused form, and
by entering and leaving a form around whatever keeps it -/
structure Kept (adv : Adv α) (doc : Doc α) (R : XState α → XState α → Prop) : Prop where
  refl : ∀ x, R x x
  trans : ∀ {x y z}, R x y → R y z → R x z
  ops : ∀ l x, R x { x with gs := (stepOps adv l x.gs).1 }
  refuse : ∀ x len, R x { x with acct := x.acct.refuse len }
  call : ∀ x res f y, f.len ≠ 0 → ¬ x.acct.bytes + f.len + xobjectCallCost > maxXObjectBytes →
    R (enterForm doc res f x) y → R x (leaveForm x y)

variable {adv : Adv α} {doc : Doc α} {R : XState α → XState α → Prop}

theorem Kept.step (K : Kept adv doc R) (invoke : Name → XState α → XState α × List (Frag α))
    (hinv : ∀ n x, R x (invoke n x).1) (op : RawOp α) (x : XState α) :
    R x (processOperation adv invoke op x).1 := by
  unfold processOperation
  split
  · exact K.ops _ _
  · exact hinv _ _

theorem Kept.loop (K : Kept adv doc R) (invoke : Name → XState α → XState α × List (Frag α))
    (hinv : ∀ n x, R x (invoke n x).1) (ops : List (RawOp α)) (x : XState α) :
    R x (formLoop adv invoke ops x).1 := by
  induction ops generalizing x with
  | nil => exact K.refl x
  | cons op rest ih => exact K.trans (K.step invoke hinv op x) (ih _)

theorem Kept.invoke (K : Kept adv doc R) (fuel : Nat) :
    ∀ (name : Name) (x : XState α), R x (invokeXObject adv doc fuel name x).1 := by
  induction fuel with
  | zero => intro name x; exact K.refl x
  | succ fuel ih =>
    intro name x
    obtain ⟨gs, resources, acct⟩ := x
    rw [invokeXObject_succ]
    cases resources with
    | none => exact K.refl _
    | some res =>
      dsimp only
      cases hadm : admission doc res gs.xdepth acct.bytes name with
      | skip => exact K.refl _
      | refuse f => exact K.refuse _ _
      | run f =>
        obtain ⟨_, _, hl, hb⟩ := admission_run hadm
        exact K.call _ res f _ hl hb (K.loop _ ih _ _)

theorem Kept.extract (K : Kept adv doc R) (ops : List (RawOp α)) (x : XState α) :
    R x (extractLoop adv doc ops x).1 := by
  induction ops generalizing x with
  | nil => exact K.refl x
  | cons op rest ih =>
    have h1 := K.step _ (K.invoke maxXObjectDepth) op x
    simp only [extractLoop]
    split
    · exact h1
    · exact K.trans h1 (ih _)

theorem charged_kept (adv : Adv α) (doc : Doc α) : Kept adv doc fun x y => Charged x.acct y.acct where
  refl _ := Charged.refl _
  trans := Charged.trans
  ops _ _ := Charged.refl _
  refuse _ _ := Charged.refuse _ _
  call _ _ _ _ hl hb h := (Charged.charge _ _ hl hb).trans h

/-- nothing but the graphics state and the accounting moves, and the depth comes back -/
def Framed (x y : XState α) : Prop := y.resources = x.resources ∧ y.gs.xdepth = x.gs.xdepth

theorem framed_kept (adv : Adv α) (doc : Doc α) : Kept adv doc Framed where
  refl _ := ⟨rfl, rfl⟩
  trans h1 h2 := ⟨h2.1.trans h1.1, h2.2.trans h1.2⟩
  ops l x := ⟨rfl, stepOps_xdepth adv l x.gs⟩
  refuse _ _ := ⟨rfl, rfl⟩
  call x res f y _ _ h := ⟨rfl, by
    show (formExit y.gs).xdepth = _
    rw [formExit_xdepth, h.2]
    show (formEnter _ x.gs).xdepth - 1 = _
    rw [formEnter_xdepth]; rfl⟩

/-- equal in everything the code has: graphics state, resources, `xobjectBytes` (the ghost
counters may differ) -/
def SameVisible (x y : XState α) : Prop :=
  x.gs = y.gs ∧ x.resources = y.resources ∧ x.acct.bytes = y.acct.bytes

/-- `f` cannot tell states apart that differ in the ghost counters only -/
def GhostBlind (f : XState α → XState α × List (Frag α)) : Prop :=
  ∀ x y, SameVisible x y → SameVisible (f x).1 (f y).1 ∧ (f x).2 = (f y).2

theorem processOperation_ghostBlind (adv : Adv α) (invoke : Name → XState α → XState α × List (Frag α))
    (hinv : ∀ n, GhostBlind (invoke n)) (op : RawOp α) (x y : XState α) (h : SameVisible x y) :
    SameVisible (processOperation adv invoke op x).1 (processOperation adv invoke op y).1 ∧
      (processOperation adv invoke op x).2 = (processOperation adv invoke op y).2 := by
  obtain ⟨h1, h2, h3⟩ := h
  unfold processOperation
  split
  · rw [h1]; exact ⟨⟨rfl, h2, h3⟩, rfl⟩
  · obtain ⟨i1, i2⟩ := hinv _ x y ⟨h1, h2, h3⟩
    exact ⟨i1, by simp only [i2]⟩

theorem formLoop_ghostBlind (adv : Adv α) (invoke : Name → XState α → XState α × List (Frag α))
    (hinv : ∀ n, GhostBlind (invoke n)) (ops : List (RawOp α)) : GhostBlind (formLoop adv invoke ops) := by
  induction ops with
  | nil => intro x y h; exact ⟨h, rfl⟩
  | cons op rest ih =>
    intro x y h
    obtain ⟨i1, i2⟩ := processOperation_ghostBlind adv invoke hinv op x y h
    obtain ⟨j1, j2⟩ := ih _ _ i1
    simp only [formLoop]
    exact ⟨j1, by rw [congrArg Prod.fst i2, j2]⟩

theorem invoke_ghostBlind (adv : Adv α) (doc : Doc α) (fuel : Nat) :
    ∀ name, GhostBlind (invokeXObject adv doc fuel name) := by
  induction fuel with
  | zero => intro name x y h; exact ⟨h, rfl⟩
  | succ fuel ih =>
    intro name x y h
    obtain ⟨gs, res, ⟨b, c1, w1⟩⟩ := x
    obtain ⟨gs', res', ⟨b', c2, w2⟩⟩ := y
    obtain ⟨h1, h2, h3⟩ := h
    cases h1; cases h2; cases h3
    -- `admission` reads what the two states share
    rw [invokeXObject_succ, invokeXObject_succ]
    cases res with
    | none => exact ⟨⟨rfl, rfl, rfl⟩, rfl⟩
    | some r =>
      dsimp only
      cases admission doc r gs.xdepth b name with
      | skip => exact ⟨⟨rfl, rfl, rfl⟩, rfl⟩
      | refuse f => exact ⟨⟨rfl, rfl, rfl⟩, rfl⟩
      | run f =>
        obtain ⟨⟨k1, _, k3⟩, j2⟩ := formLoop_ghostBlind adv (invokeXObject adv doc fuel) ih (formBody f)
          (enterForm doc r f ⟨gs, some r, ⟨b, c1, w1⟩⟩) (enterForm doc r f ⟨gs, some r, ⟨b, c2, w2⟩⟩)
          ⟨rfl, rfl, rfl⟩
        exact ⟨⟨by simp only [leaveForm, k1], rfl, k3⟩, j2⟩

theorem extractLoop_ghostBlind (adv : Adv α) (doc : Doc α) (ops : List (RawOp α)) (x y : XState α)
    (h : SameVisible x y) :
    SameVisible (extractLoop adv doc ops x).1 (extractLoop adv doc ops y).1 ∧
      (extractLoop adv doc ops x).2 = (extractLoop adv doc ops y).2 := by
  induction ops generalizing x y with
  | nil => exact ⟨h, rfl⟩
  | cons op rest ih =>
    obtain ⟨i1, i2⟩ := processOperation_ghostBlind adv _ (invoke_ghostBlind adv doc maxXObjectDepth) op x y h
    obtain ⟨j1, j2⟩ := ih _ _ i1
    simp only [extractLoop]
    rw [← congrArg Prod.snd i2, ← congrArg Prod.fst i2]
    split
    · exact ⟨i1, rfl⟩
    · exact ⟨j1, by rw [j2]⟩
end

section
variable {β κ : Type} [DecidableEq κ]

theorem dedupBy_sublist (key : β → κ) (l : List β) (seen : List κ) :
    (dedupBy key l seen).Sublist l := by
  fun_induction dedupBy key l seen with
  | case1 => exact List.Sublist.slnil
  | case2 g rest seen hg ih => exact ih.cons _
  | case3 g rest seen hg ih => exact ih.cons_cons _

theorem dedupBy_not_seen (key : β → κ) (l : List β) (seen : List κ) :
    ∀ f ∈ dedupBy key l seen, key f ∉ seen := by
  fun_induction dedupBy key l seen with
  | case1 => nofun
  | case2 g rest seen hg ih => exact ih
  | case3 g rest seen hg ih =>
    intro f hf
    rcases List.mem_cons.mp hf with rfl | h
    · exact hg
    · exact fun hc => ih f h (List.mem_cons_of_mem _ hc)

theorem dedupBy_nodup (key : β → κ) (l : List β) (seen : List κ) :
    ((dedupBy key l seen).map key).Nodup := by
  fun_induction dedupBy key l seen with
  | case1 => exact List.nodup_nil
  | case2 g rest seen hg ih => exact ih
  | case3 g rest seen hg ih =>
    refine List.nodup_cons.mpr ⟨fun hc => ?_, ih⟩
    obtain ⟨f, hf, hk⟩ := List.mem_map.mp hc
    exact dedupBy_not_seen key rest (key g :: seen) f hf (hk ▸ List.mem_cons_self)

theorem dedupBy_complete (key : β → κ) (l : List β) (seen : List κ) :
    ∀ f ∈ l, key f ∈ seen ∨ key f ∈ (dedupBy key l seen).map key := by
  fun_induction dedupBy key l seen with
  | case1 => nofun
  | case2 g rest seen hg ih =>
    intro f hf
    rcases List.mem_cons.mp hf with rfl | h
    · exact .inl hg
    · exact ih f h
  | case3 g rest seen hg ih =>
    intro f hf
    rw [List.map_cons, List.mem_cons]
    rcases List.mem_cons.mp hf with rfl | h
    · exact .inr (.inl rfl)
    · rcases ih f h with h1 | h1
      · rcases List.mem_cons.mp h1 with h2 | h2
        · exact .inr (.inl h2)
        · exact .inl h2
      · exact .inr (.inr h1)

theorem dedupBy_eq_self (key : β → κ) (l : List β) (seen : List κ)
    (hnd : (l.map key).Nodup) (hs : ∀ f ∈ l, key f ∉ seen) : dedupBy key l seen = l := by
  fun_induction dedupBy key l seen with
  | case1 => rfl
  | case2 g rest seen hg ih => exact absurd hg (hs g List.mem_cons_self)
  | case3 g rest seen hg ih =>
    obtain ⟨hg', hnd'⟩ := List.nodup_cons.mp hnd
    rw [ih hnd' fun f hf hc => ?_]
    rcases List.mem_cons.mp hc with h | h
    · exact hg' (h ▸ List.mem_map_of_mem hf)
    · exact hs f (List.mem_cons_of_mem _ hf) h
end
end Tabula.XDoc
