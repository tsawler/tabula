import TabulaModel.Lemmas.HtmlGrid
import TabulaModel.Lemmas.HtmlSrc
import TabulaModel.Lemmas.HtmlDepth
import TabulaModel.Lemmas.Nav
/-!
Helper lemmas for C19 (Props/C19Api.lean): raw mode values, the reader's cache over call
sequences, the plain-text view and the Document view as functions of the atoms, the EPUB chapter loop.
-/
namespace Tabula.Html

/-- the thresholds of `shouldExclude` on the raw value are those on the rank of the clamped mode -/
theorem clampMode_rank (m : Int) :
    decide (1 ≤ (clampMode m).rank) = (m != 0) ∧ decide (2 ≤ (clampMode m).rank) = decide (m ≥ 2) ∧
    decide (3 ≤ (clampMode m).rank) = decide (m ≥ 3) := by
  unfold clampMode
  by_cases h0 : m = 0
  · subst h0; decide
  · by_cases h3 : m ≥ 3
    · simp [h0, h3, Mode.rank]; omega
    · by_cases h2 : m = 2
      · subst h2; decide
      · simp [h0, h3, h2, Mode.rank]; omega

theorem excludedI_clamp (m : Int) (pos : Pos) (n : Dom) : excludedI m pos n = excluded (clampMode m) pos n := by
  cases n with
  | elem tag attrs kids =>
    have h := clampMode_rank m
    rw [excluded_elem, h.1, h.2.1, h.2.2]; rfl
  | _ => rfl

theorem clampMode_toInt (m : Mode) : clampMode m.toInt = m := by
  cases m <;> decide

theorem pred_clamp (m : Int) :
    (if m = 0 then fun _ _ => false else excludedI m) = excluded (clampMode m) := by
  funext pos n
  by_cases h0 : m = 0
  · subst h0
    simp only [if_true]
    cases n <;> simp [clampMode, excluded]
  · simp only [h0, if_false]
    exact excludedI_clamp m pos n

/-- a raw mode value behaves as the documented mode it clamps to -/
theorem extractI_clamp (m : Int) (doc : Dom) : extractI m doc = extract (clampMode m) (bodyOf doc) := by
  unfold extractI extract
  rw [pred_clamp]

/-- a view that only narrows under a stricter raw mode value: the documented values form a chain,
and mode 0 returns everything any value returns -/
theorem chain_of_monotone {α : Type} (v : Int → List α)
    (h : ∀ a b : Int, (clampMode a).rank ≤ (clampMode b).rank → (v b).Sublist (v a)) :
    (v 3).Sublist (v 2) ∧ (v 2).Sublist (v 1) ∧ (v 1).Sublist (v 0) ∧ ∀ m : Int, (v m).Sublist (v 0) :=
  ⟨h 2 3 (by decide), h 1 2 (by decide), h 0 1 (by decide), fun m => h 0 m (Nat.zero_le _)⟩

/-- the reader was opened on `doc` and every cached list is the list of its own key -/
def ReaderOk (doc : Dom) (r : ReaderI) : Prop :=
  r.doc = doc ∧ r.elements = extractI 0 doc ∧ ∀ m v, lookupI r.cache m = some v → v = extractI m doc

theorem openReader_ok (doc : Dom) : ReaderOk doc (openReader doc) :=
  ⟨rfl, rfl, fun m v hv => by simp [openReader, lookupI] at hv⟩

theorem getElementsI_correct (doc : Dom) (r : ReaderI) (m : Int) (h : ReaderOk doc r) :
    (getElementsI r m).1 = extractI m doc ∧ ReaderOk doc (getElementsI r m).2 := by
  unfold getElementsI
  by_cases hm : m = 0
  · subst hm; simp only [if_true]; exact ⟨h.2.1, h⟩
  · simp only [hm, if_false]
    cases hl : lookupI r.cache m with
    | some v => exact ⟨h.2.2 m v hl, h⟩
    | none =>
      refine ⟨by simp [h.1], h.1, h.2.1, ?_⟩
      intro m' v' hv
      simp only [lookupI] at hv
      by_cases e : m = m'
      · subst e; simp at hv; rw [← hv, h.1]
      · simp [e] at hv; exact h.2.2 m' v' hv

theorem call_correct (doc : Dom) (r : ReaderI) (c : Call) (h : ReaderOk doc r) :
    (call r c).1 = c.render (extractI c.mode doc) ∧ ReaderOk doc (call r c).2 := by
  have g := getElementsI_correct doc r c.mode h
  unfold call
  cases hg : getElementsI r c.mode with
  | mk els r' =>
    rw [hg] at g
    have g1 : els = extractI c.mode doc := g.1
    exact ⟨by show c.render els = _; rw [g1], g.2⟩

theorem fresh_eq (doc : Dom) (c : Call) : fresh doc c = c.render (extractI c.mode doc) :=
  (call_correct doc (openReader doc) c (openReader_ok doc)).1

theorem runCalls_correct (doc : Dom) : ∀ (cs : List Call) (r : ReaderI), ReaderOk doc r →
    runCalls r cs = cs.map (fresh doc)
  | [], _, _ => rfl
  | c :: cs, r, h => by
      have g := call_correct doc r c h
      simp only [runCalls, List.map_cons]
      rw [g.1, runCalls_correct doc cs _ g.2, fresh_eq]

/-! ### the plain-text view up to white space -/

theorem squeeze_sep (acc : Str) : squeeze (sep acc) = [] := by
  unfold sep; split <;> rfl

theorem squeeze_spaces : ∀ n, squeeze (spaces n) = []
  | 0 => rfl
  | n + 1 => squeeze_spaces n

theorem squeeze_renderItems : ∀ (items : List Item) (first : Bool),
    squeeze (renderItems items first) = items.flatMap fun i => 0x2022 :: squeeze i.text
  | [], _ => rfl
  | i :: rest, first => by
      simp only [renderItems, squeeze_append, squeeze_spaces, squeeze_renderItems rest false,
        List.flatMap_cons]
      have h1 : squeeze (if first = true then [] else [10]) = [] := by split <;> rfl
      have h2 : squeeze [0x2022, 32] = [0x2022] := by decide
      rw [h1, h2]; simp

theorem squeeze_renderRow : ∀ (cells : List Cell) (first : Bool),
    squeeze (renderRow cells first) = cells.flatMap fun c => squeeze c.text
  | [], _ => rfl
  | c :: rest, first => by
      simp only [renderRow, squeeze_append, squeeze_renderRow rest false, List.flatMap_cons]
      have h1 : squeeze (if first = true then [] else [9]) = [] := by split <;> rfl
      rw [h1]; simp

theorem squeeze_renderRows (rows : List (List Cell)) :
    squeeze (rows.flatMap (renderRow · true)) = rows.flatten.flatMap fun c => squeeze c.text := by
  rw [squeeze_flatMap, List.flatten_eq_flatMap, List.flatMap_assoc]
  simp only [squeeze_renderRow, id]

theorem items_sq (items : List Item) :
    (items.map fun i => Atom.item i.level i.text).flatMap Atom.sq
      = items.flatMap fun i => 0x2022 :: squeeze i.text :=
  List.flatMap_map ..

theorem cells_sq (cs : List Cell) :
    (cs.map Atom.cell).flatMap Atom.sq = cs.flatMap fun c => squeeze c.text :=
  List.flatMap_map ..

/-- Up to white space the plain-text view is a function of the atoms alone (how the items are
grouped into list elements does not show). -/
theorem squeeze_renderText : ∀ (els : List Element) (acc : Str),
    squeeze (renderText els acc) = squeeze acc ++ (flatten els).flatMap Atom.sq
  | [], acc => by simp [renderText, flatten]
  | e :: rest, acc => by
      have hf : flatten (e :: rest) = e.atoms ++ flatten rest := by simp [flatten]
      rw [hf, List.flatMap_append, ← List.append_assoc]
      unfold renderText
      simp only []
      rw [squeeze_renderText rest]
      congr 1
      cases e with
      | list o items =>
        simp only [squeeze_append, squeeze_sep, Element.atoms, squeeze_renderItems, items_sq,
          List.append_nil]
      | table hd rows =>
        simp only [Element.atoms, cells_sq]
        by_cases hr : rows = []
        · simp [hr]
        · simp only [hr, if_false, squeeze_append, squeeze_sep, squeeze_renderRows, List.append_nil]
      | _ => simp [squeeze_append, squeeze_sep, Element.atoms, Atom.sq, Atom.text]

/-- the texts a page element carries -/
def DocEl.texts : DocEl → List Str
  | .heading _ t => [t]
  | .para t => [t]
  | .list _ items => items.map (·.2)
  | .table rows => rows.flatten.map (·.text)

def docTexts (ds : List DocEl) : List Str := ds.flatMap DocEl.texts

/-- drop empty strings (the grid cells `model.NewTable` adds beyond a short row are empty) -/
def nonEmpty (l : List Str) : List Str := l.filter (· != [])

theorem nonEmpty_append (a b : List Str) : nonEmpty (a ++ b) = nonEmpty a ++ nonEmpty b := by
  simp [nonEmpty]

theorem nonEmpty_pad (k : Nat) : nonEmpty ((List.replicate k (⟨[], false, 1, 1⟩ : Cell)).map (·.text)) = [] := by
  induction k with
  | zero => rfl
  | succ n ih =>
    rw [List.replicate_succ, List.map_cons]
    simp [nonEmpty] at ih ⊢

theorem tableToMarkdown_nil : tableToMarkdown [] = [] := rfl

/-- the texts of a grid line: the positions without a cell are empty cells -/
theorem nonEmpty_gridLine (l : List (Option Cell)) :
    nonEmpty ((l.map gridCell).map (·.text)) = nonEmpty ((l.filterMap id).map (·.text)) := by
  induction l with
  | nil => rfl
  | cons o rest ih =>
    cases o with
    | none =>
      simp only [List.map_cons, List.filterMap_cons, id, gridCell]
      have : nonEmpty (([] : Str) :: (rest.map gridCell).map (·.text)) = nonEmpty ((rest.map gridCell).map (·.text)) := by
        simp [nonEmpty]
      rw [this, ih]
    | some c =>
      simp only [List.map_cons, List.filterMap_cons, id, gridCell]
      have h1 : ∀ (x : Str) (xs : List Str), nonEmpty (x :: xs) = nonEmpty [x] ++ nonEmpty xs := by
        intro x xs; simp [nonEmpty, List.filter_cons]; split <;> simp
      rw [h1 c.text (List.map (fun x => x.text) (List.map gridCell rest)), ih,
        ← h1 c.text (List.map (fun x => x.text) (List.filterMap id rest))]

theorem nonEmpty_gridLines (g : List (List (Option Cell))) :
    nonEmpty ((g.map (·.map gridCell)).flatten.map (·.text))
      = nonEmpty ((g.map (·.filterMap id)).flatten.map (·.text)) := by
  induction g with
  | nil => rfl
  | cons l ls ih =>
    simp only [List.map_cons, List.flatten_cons, List.map_append, nonEmpty_append, ih, nonEmpty_gridLine]

/-- the grid of a table carries the texts of its cells, in order, and empty cells besides -/
theorem nonEmpty_tableGrid (rows : List (List Cell)) :
    nonEmpty ((tableGrid rows).flatten.map (·.text)) = nonEmpty (rows.flatten.map (·.text)) := by
  unfold tableGrid
  rw [nonEmpty_gridLines]
  unfold HtmlGrid.grid
  rw [HtmlGrid.layoutGrid_cells]

theorem items_texts (items : List Item) :
    (items.map fun i => (i.level, i.text)).map (·.2) = (items.map fun i => Atom.item i.level i.text).map Atom.text := by
  rw [List.map_map, List.map_map]; rfl

theorem docElements_cons (e : Element) (rest : List Element) :
    docElements (e :: rest) = docElements [e] ++ docElements rest := by
  simp [docElements]

theorem docElements_one (e : Element) :
    nonEmpty (docTexts (docElements [e])) = nonEmpty (e.atoms.map Atom.text) := by
  simp only [docElements, docTexts, List.append_nil]
  cases e with
  | heading l t => simp [DocEl.texts, Element.atoms, Atom.text]
  | para t => simp [DocEl.texts, Element.atoms, Atom.text]
  | code t => simp [DocEl.texts, Element.atoms, Atom.text]
  | quote t => simp [DocEl.texts, Element.atoms, Atom.text]
  | list o items =>
    simp only [List.flatMap_cons, List.flatMap_nil, List.append_nil, DocEl.texts, Element.atoms]
    rw [items_texts]
  | table hd rows =>
    simp only [Element.atoms]
    by_cases hr : rows = []
    · simp [hr, nonEmpty]
    · simp only [hr, if_false, List.flatMap_cons, List.flatMap_nil, List.append_nil, DocEl.texts]
      rw [nonEmpty_tableGrid]
      congr 1
      simp [Atom.text, List.map_map, Function.comp_def]

/-- the Document view carries exactly the non-empty texts of the elements, in the same order -/
theorem docElements_texts : ∀ els : List Element,
    nonEmpty (docTexts (docElements els)) = nonEmpty ((flatten els).map Atom.text)
  | [] => rfl
  | e :: rest => by
      have hf : flatten (e :: rest) = e.atoms ++ flatten rest := by simp [flatten]
      rw [hf, List.map_append, nonEmpty_append, ← docElements_texts rest, docElements_cons]
      unfold docTexts
      rw [List.flatMap_append, nonEmpty_append]
      congr 1
      exact docElements_one e

theorem squeeze_joinWith (sepr : Str) (h : squeeze sepr = []) :
    ∀ parts : List Str, squeeze (joinWith sepr parts) = parts.flatMap squeeze
  | [] => rfl
  | [x] => by simp [joinWith]
  | x :: y :: rest => by
      rw [joinWith, squeeze_append, squeeze_append, h, squeeze_joinWith sepr h (y :: rest)]
      simp

/-- the chapter loop: the trimmed views of the admitted chapters, the empty ones left out -/
theorem epubParts_eq (view : Dom → Str) (chapters : List Dom) :
    epubParts view chapters = ((chapters.filter admitted).map fun d => trim (view d)).filter (· != []) := by
  unfold epubParts
  induction chapters with
  | nil => rfl
  | cons d rest ih =>
    rw [List.filterMap_cons, guarded_eq, List.filter_cons, ih]
    by_cases ha : admitted d = true
    · by_cases ht : trim (view d) = [] <;> simp [ha, ht]
    · simp [ha]

theorem flatMap_squeeze_filter (l : List Str) : (l.filter (· != [])).flatMap squeeze = l.flatMap squeeze := by
  induction l with
  | nil => rfl
  | cons x xs ih =>
    rw [List.filter_cons]
    by_cases hx : x = []
    · simp [hx, ih, squeeze]
    · simp [hx, ih]

/-- up to white space the parts are the views of the admitted chapters (a refused chapter
contributes nothing, an empty one nothing visible) -/
theorem epubParts_squeeze (view : Dom → Str) (chapters : List Dom) :
    (epubParts view chapters).flatMap squeeze = (chapters.filter admitted).flatMap fun d => squeeze (view d) := by
  rw [epubParts_eq, flatMap_squeeze_filter, List.flatMap_map]
  simp only [squeeze_trim]

/-! ### joining non-empty parts with a visible separator (EPUB Markdown) -/

theorem squeeze_joinWith_map (sepr : Str) : ∀ parts : List Str,
    squeeze (joinWith sepr parts) = joinWith (squeeze sepr) (parts.map squeeze)
  | [] => rfl
  | [x] => by simp [joinWith]
  | x :: y :: rest => by
      rw [joinWith, squeeze_append, squeeze_append, squeeze_joinWith_map sepr (y :: rest)]
      simp [joinWith]

/-- the parts of the chapter loop, squeezed: the non-empty squeezed views of the admitted chapters -/
theorem epubParts_map_squeeze (view : Dom → Str) (chapters : List Dom) :
    (epubParts view chapters).map squeeze =
      ((chapters.filter admitted).map fun d => squeeze (view d)).filter (· != []) := by
  -- a view trims to nothing exactly when it is blank
  have e : ((· != []) ∘ fun d => trim (view d)) = ((· != []) ∘ fun d => squeeze (view d)) := by
    funext d
    show (trim (view d) != []) = (squeeze (view d) != [])
    rw [Bool.eq_iff_iff]; simp [trim_eq_nil_iff]
  rw [epubParts_eq, List.filter_map, List.filter_map, List.map_map, e]
  exact List.map_congr_left fun d _ => squeeze_trim _

/-- the loop never looks at the view of a chapter `OpenReader` refuses -/
theorem epubParts_congr (view view' : Dom → Str) (h : ∀ d, depth d ≤ maxTreeDepth → view d = view' d)
    (chapters : List Dom) : epubParts view chapters = epubParts view' chapters := by
  rw [epubParts_eq, epubParts_eq]
  congr 1
  exact List.map_congr_left fun d hd => by rw [h d (by simpa [admitted] using (List.mem_filter.mp hd).2)]

theorem epubParts_length (view : Dom → Str) (chapters : List Dom) :
    (epubParts view chapters).length ≤ (chapters.filter admitted).length := by
  rw [epubParts_eq]
  exact Nat.le_trans (List.length_filter_le _ _) (Nat.le_of_eq (List.length_map _))

/-- with a separator in front of every part the joined text is a `flatMap` -/
theorem sep_joinWith (sepr : Str) : ∀ parts : List Str, parts ≠ [] →
    sepr ++ joinWith sepr parts = parts.flatMap (sepr ++ ·)
  | [], h => absurd rfl h
  | [x], _ => by simp [joinWith]
  | x :: y :: rest, _ => by
      rw [joinWith, List.flatMap_cons, ← sep_joinWith sepr (y :: rest) (List.cons_ne_nil _ _)]
      simp [List.append_assoc]

theorem joinWith_filter_sublist (sepr : Str) (f g : Dom → Str) (h : ∀ d, (g d).Sublist (f d)) (l : List Dom) :
    (joinWith sepr ((l.map g).filter (· != []))).Sublist (joinWith sepr ((l.map f).filter (· != []))) := by
  -- part by part, each with its separator in front
  have hT : (((l.map g).filter (· != [])).flatMap (sepr ++ ·)).Sublist
      (((l.map f).filter (· != [])).flatMap (sepr ++ ·)) := by
    induction l with
    | nil => exact .slnil
    | cons d rest ih =>
      simp only [List.map_cons, List.filter_cons]
      by_cases hg : g d = []
      · rw [if_neg (by simp [hg])]
        split
        · exact ih.trans (List.sublist_append_right _ _)
        · exact ih
      · have hf : f d ≠ [] := fun e => hg (List.sublist_nil.mp (e ▸ h d))
        rw [if_pos (by simpa using hg), if_pos (by simpa using hf), List.flatMap_cons, List.flatMap_cons]
        exact ((List.Sublist.refl _).append (h d)).append ih
  by_cases hA : (l.map g).filter (· != []) = []
  · rw [hA]; exact List.nil_sublist _
  · have hB : (l.map f).filter (· != []) ≠ [] := by
      obtain ⟨y, hy⟩ := List.exists_mem_of_ne_nil _ hA
      obtain ⟨hy1, hy2⟩ := List.mem_filter.mp hy
      obtain ⟨d, hd, rfl⟩ := List.mem_map.mp hy1
      have hf : f d ≠ [] := fun e => (by simpa using hy2 : g d ≠ []) (List.sublist_nil.mp (e ▸ h d))
      exact List.ne_nil_of_mem (List.mem_filter.mpr ⟨List.mem_map.mpr ⟨d, hd, rfl⟩, by simpa using hf⟩)
    rw [← sep_joinWith sepr _ hA, ← sep_joinWith sepr _ hB] at hT
    exact (List.append_sublist_append_left _).mp hT
end Tabula.Html
