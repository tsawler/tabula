import TabulaModel.Model.Session
import TabulaModel.Lemmas.MapOrder
/-!
The font table of `Model/Session.lean`: under which keys a font is stored (`mem_keysOf_iff`), and
that the entry which has `k` among its keys decides what the table holds under `k`
(`registerAll_of_key`, `registerAll_none`): the table is a function of the set of entries.
-/
namespace Tabula.Session
open Tabula.MapOrder

/-- the keys of a font: its name, and `"/"+name` when the name has no leading slash and the
dictionary has no entry of that spelling -/
theorem mem_keysOf_iff (ex : Name → Bool) (n a : Name) :
    a ∈ keysOf ex n ↔ a = n ∨ (a = 47 :: n ∧ (∀ t, n ≠ 47 :: t) ∧ ex (47 :: n) = false) := by
  unfold keysOf
  split
  · next t => simp
  · next hs =>
    have hs' : ∀ t, n ≠ 47 :: t := fun t h => hs t h
    cases hx : ex (47 :: n) <;> simp [hs']

/-- with the explicit-name test, entries with different names never share a key -/
theorem keys_disjoint (ex : Name → Bool) (n1 n2 : Name) (hne : n1 ≠ n2)
    (h1 : ex n1 = true) (h2 : ex n2 = true) : ∀ a ∈ keysOf ex n1, a ∉ keysOf ex n2 := by
  intro a ha hb
  rcases (mem_keysOf_iff ex n1 a).mp ha with rfl | ⟨rfl, _, hx1⟩
  · rcases (mem_keysOf_iff ex n2 a).mp hb with rfl | ⟨rfl, _, hx2⟩
    · exact hne rfl
    · rw [h1] at hx2; cases hx2
  · rcases (mem_keysOf_iff ex n2 _).mp hb with h | ⟨h, _, _⟩
    · rw [h, h2] at hx1; cases hx1
    · exact hne (List.cons.inj h).2

/-- **the font table** of a /Font dictionary (names distinct, as in any dictionary) is a loop of
writes (`MapOrder.foldl_sets_of_mem`) in which no two entries share a key: the entry that has `k`
among its keys decides what is found under `k` -/
theorem registerAll_of_key (fonts : List (Name × Nat)) (hnd : (fonts.map Prod.fst).Nodup) (k : Name)
    (e : Name × Nat) (he : e ∈ fonts) (hk : k ∈ keysOf (fun k => (fonts.map Prod.fst).contains k) e.1) :
    registerAll fonts k = some e.2 :=
  foldl_sets_of_mem (fun e : Name × Nat => keysOf _ e.1) Prod.snd fonts
    ((List.pairwise_map.mp hnd).imp_of_mem fun hx hy hne => keys_disjoint _ _ _ hne
      (List.contains_iff_mem.mpr (List.mem_map_of_mem hx)) (List.contains_iff_mem.mpr (List.mem_map_of_mem hy)))
    _ k e he hk

/-- … and a key of no entry is not in the table -/
theorem registerAll_none (fonts : List (Name × Nat)) (k : Name)
    (h : ∀ e ∈ fonts, k ∉ keysOf (fun k => (fonts.map Prod.fst).contains k) e.1) : registerAll fonts k = none :=
  foldl_sets_other (fun e : Name × Nat => keysOf _ e.1) Prod.snd fonts _ k h

end Tabula.Session
