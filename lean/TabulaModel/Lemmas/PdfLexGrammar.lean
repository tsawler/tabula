import TabulaModel.Lemmas.PdfHex
import TabulaModel.Lemmas.PdfName
/-!
The token readers of the document-level lexer (core/lexer.go), characterised for EVERY input (not
only for printed spellings): names (with `contentstream.parseName` beside `readName`), comments, literal strings
(hex strings: `PdfHex.lean`).  Core Lean only.
-/
namespace Tabula.Pdf

namespace Gram

/-- regular characters: neither white space nor delimiter -/
def isRegular (c : Nat) : Bool := !isWs c && !isDelim c

theorem regular_of {c : Nat} (h1 : isWs c = false) (h2 : isDelim c = false) : isRegular c = true := by
  simp [isRegular, h1, h2]

theorem not_regular_of {c : Nat} (h : (isWs c || isDelim c) = true) : isRegular c = false := by
  cases h1 : isWs c <;> cases h2 : isDelim c <;> simp_all [isRegular]

theorem hex_regular {c : Nat} (h : isHexDigit c = true) : isRegular c = true :=
  regular_of (hex_not_ws h) (hex_not_delim h)

theorem hash_regular : isRegular 35 = true := by decide

theorem hexpair_split {a b : Nat} (h : (isHexDigit a && isHexDigit b) = true) :
    isHexDigit a = true ∧ isHexDigit b = true := by
  simpa using h

/-- the classification of the head used by both name readers -/
theorem head_cases (c : Nat) :
    ((isWs c || isDelim c) = true ∧ isRegular c = false) ∨
    (isWs c = false ∧ isDelim c = false ∧ isRegular c = true) := by
  cases h1 : isWs c <;> cases h2 : isDelim c <;> simp [isRegular, h1, h2]

/-- **`parseName`, every input**: it stops exactly behind the run of regular characters -/
theorem cs_nameLoop_rest (inp : Str) : (CS.nameLoop inp).2 = inp.dropWhile isRegular := by
  fun_induction CS.nameLoop inp with
  | case1 => rfl
  | case2 c r hterm => simp [not_regular_of hterm]
  | case3 h1 h2 r' hh _ _ ih =>
    obtain ⟨x1, x2⟩ := hexpair_split hh
    simpa [hash_regular, hex_regular x1, hex_regular x2] using ih
  | case4 h1 h2 r' _ _ _ ih => simpa [hash_regular] using ih
  | case5 r1 _ _ _ ih => simpa [hash_regular] using ih
  | case6 c r hterm _ _ ih =>
    have hreg : isRegular c = true := by simpa [isRegular] using hterm
    simpa [hreg] using ih

/-- **`readName`, every input**: when it succeeds it has consumed exactly the run of regular characters (it stops
where `parseName` stops) -/
theorem nameLoop_consumes (inp v r : Str) (h : nameLoop inp = some (v, r)) :
    r = inp.dropWhile isRegular ∧ inp = inp.takeWhile isRegular ++ r := by
  have : r = inp.dropWhile isRegular := by rw [← cs_nameLoop_rest, cs_nameLoop_agree inp v r h]
  exact ⟨this, by rw [this, List.takeWhile_append_dropWhile]⟩

/-- `readName` fails on a `#` that is not followed by two hex digits, where `parseName` keeps the `#` literally; when it
succeeds the two return the same name and stop at the same place -/
theorem name_never_two_values (inp v r : Str) (h : nameLoop inp = some (v, r)) : CS.nameLoop inp = (v, r) :=
  cs_nameLoop_agree inp v r h

/-- not an end-of-line byte -/
def notEol (c : Nat) : Bool := c != 10 && c != 13

theorem notEol_lf : notEol 10 = false := by decide
theorem notEol_cr : notEol 13 = false := by decide
theorem notEol_other {c : Nat} (h1 : c ≠ 10) (h2 : c ≠ 13) : notEol c = true := by
  simp [notEol, h1, h2]

theorem commentBody_lf (r : Str) : commentBody (10 :: r) = ([], r) := by
  simp [commentBody]

theorem commentBody_crlf (r : Str) : commentBody (13 :: 10 :: r) = ([], r) := by
  simp [commentBody]

theorem commentBody_cr_end : commentBody [13] = ([], []) := by
  simp [commentBody]

theorem commentBody_cr (c : Nat) (r : Str) (h : c ≠ 10) : commentBody (13 :: c :: r) = ([], c :: r) := by
  simp [commentBody, h]

theorem commentBody_other (c : Nat) (r : Str) (h1 : c ≠ 10) (h2 : c ≠ 13) :
    commentBody (c :: r) = (c :: (commentBody r).1, (commentBody r).2) := by
  simp [commentBody, h1, h2]

/-- what is left after a comment, from the end-of-line marker on -/
def afterEol : Str → Str
  | [] => []
  | 13 :: 10 :: rest => rest
  | _ :: rest => rest

theorem afterEol_suffix (s : Str) : afterEol s <:+ s := by
  unfold afterEol
  split
  · exact List.suffix_refl _
  · exact List.IsSuffix.trans (List.suffix_cons _ _) (List.suffix_cons _ _)
  · exact List.suffix_cons _ _

/-- **`readComment`, every input**: the text is everything up to the first CR or LF (or the end), and one
end-of-line marker behind it is consumed -/
theorem commentBody_eq (r : Str) : commentBody r = (r.takeWhile notEol, afterEol (r.dropWhile notEol)) := by
  fun_induction commentBody r with
  | case1 => rfl
  | case2 r => simp [notEol_lf, afterEol]
  | case3 r' _ => simp [notEol_cr, afterEol]
  | case4 c r' hc _ =>
    simp only [List.takeWhile_cons, List.dropWhile_cons, notEol_cr, Bool.false_eq_true, if_false]
    rw [afterEol]
    intro rest _ he
    cases he
    exact hc rfl
  | case5 _ => simp [notEol_cr, afterEol]
  | case6 b r h10 h13 p ih =>
    simp only [List.takeWhile_cons, List.dropWhile_cons, notEol_other h10 h13, if_true]
    exact congrArg (fun q : Str × Str => (b :: q.1, q.2)) ih

theorem commentBody_text (r : Str) : (commentBody r).1 = r.takeWhile notEol := by rw [commentBody_eq]

theorem commentBody_rest (r : Str) : (commentBody r).2 = afterEol (r.dropWhile notEol) := by rw [commentBody_eq]

/-- the content-stream parser stops in front of the end-of-line marker -/
theorem cs_skipLine_eq (r : Str) : CS.skipLine r = r.dropWhile notEol := by
  induction r with
  | nil => rfl
  | cons c r ih =>
    simp only [CS.skipLine, List.dropWhile_cons]
    by_cases h10 : c = 10
    · subst h10; simp [notEol]
    by_cases h13 : c = 13
    · subst h13; simp [notEol]
    simp [notEol, h10, h13, ih]

theorem dropWhile_text (t s : Str) (ht : ∀ c ∈ t, c ≠ 10 ∧ c ≠ 13) :
    (t ++ s).dropWhile notEol = s.dropWhile notEol :=
  List.dropWhile_append_of_pos fun c hc => notEol_other (ht c hc).1 (ht c hc).2

theorem afterCR_suffix (r : Str) : afterCR r <:+ r := by
  unfold afterCR
  split
  · split
    · exact List.suffix_cons _ _
    · exact List.suffix_refl _
  · exact List.suffix_refl _

theorem readOctal_suffix (c : Nat) (r : Str) : (readOctal c r).2 <:+ r := by
  unfold readOctal
  split
  · split
    · split
      · split
        · exact List.IsSuffix.trans (List.suffix_cons _ _) (List.suffix_cons _ _)
        · exact List.suffix_cons _ _
      · exact List.suffix_cons _ _
    · exact List.suffix_refl _
  · exact List.suffix_refl _

theorem readEscape_suffix {inp bs r : Str} (h : readEscape inp = some (bs, r)) : r <:+ inp := by
  cases inp with
  | nil => simp [readEscape] at h
  | cons c r0 =>
    simp only [readEscape] at h
    split at h
    · cases h; exact List.suffix_cons _ _
    · split at h
      · cases h; exact List.IsSuffix.trans (afterCR_suffix r0) (List.suffix_cons _ _)
      · split at h
        · cases h; exact List.suffix_cons _ _
        · split at h
          · cases h; exact List.IsSuffix.trans (readOctal_suffix c r0) (List.suffix_cons _ _)
          · cases h; exact List.suffix_cons _ _

/-- **`readString`, every input**: when it succeeds, the unread rest starts right behind a `)` of the input -/
theorem strLoop_ends_behind_paren (inp : Str) (d : Nat) (v r : Str) (h : strLoop d inp = some (v, r)) :
    ∃ body, inp = body ++ 41 :: r := by
  fun_induction strLoop d inp generalizing v with
  | case1 | case5 => cases h
  | case4 => cases h; exact ⟨[], rfl⟩
  | case2 _ _ ih | case3 _ _ _ _ ih | case7 _ _ _ _ _ _ ih =>
    obtain ⟨v', h', _⟩ := Prog.pre_some h
    obtain ⟨body, e⟩ := ih v' h'
    exact ⟨_ :: body, by rw [e]; rfl⟩
  | case6 _ _ bs r' he _ _ ih =>
    -- an escape: what `readEscape` consumed stands between the backslash and the rest of the body
    obtain ⟨v', h', _⟩ := Prog.pre_some h
    obtain ⟨p, hp⟩ := readEscape_suffix he
    obtain ⟨body, e⟩ := ih v' h'
    exact ⟨92 :: (p ++ body), by rw [← hp, e]; simp⟩

end Gram
end Tabula.Pdf
