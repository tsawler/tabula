import TabulaModel.Lemmas.HFExtract
/-!
The witness documents that the examples of C11 share, each with what the detector finds on it, evaluated
once: an example about the filter then starts from the regions, not from the pages.
-/
namespace Tabula.HF

theorem Result.eq_mk {res : Result} {hs ft : List Region} {cfg : Config}
    (h : res.headers = hs ∧ res.footers = ft ∧ res.cfg = cfg) : res = ⟨hs, ft, cfg⟩ := by
  cases res
  obtain ⟨rfl, rfl, rfl⟩ := h
  rfl

end Tabula.HF

namespace Tabula.C11
open Tabula.HF

/-- a small three-page document used to show that hypotheses are satisfiable:
"ACME Report" at y = 760 on every 792 pt page, a body line, a running page number at y = 30 -/
def exPage (i : Int) (body : Str) (num : Nat) : Page :=
  { index := i, height := 792,
    frags := [ { text := [65, 67, 77, 69, 32, 82, 101, 112, 111, 114, 116], x := 72, y := 760, w := 74, h := 12, fs := 12 },
               { text := body, x := 72, y := 400, w := 120, h := 12, fs := 12 },
               { text := [48 + num], x := 300, y := 30, w := 7, h := 12, fs := 12 } ] }

def exDoc : List Page :=
  [exPage 0 [66, 111, 100, 121, 32, 111, 110, 101] 1, exPage 1 [66, 111, 100, 121, 32, 116, 119, 111] 2,
   exPage 2 [66, 111, 100, 121, 32, 116, 104, 114, 101, 101] 3]

/-- a character-level page (one fragment per character): "Abc" at y = 760, optionally the unique
line "Xy" at y = 740 (20 pt lower, still inside the 72 pt top band), body characters at y = 400 -/
def clPage (i : Int) (extra : Bool) : Page :=
  let ch (c : Nat) (x y : Rat) : Frag := { text := [c], x := x, y := y, w := 6, h := 12, fs := 12 }
  { index := i, height := 792,
    frags := [ch 65 72 760, ch 98 78 760, ch 99 84 760] ++
             (if extra then [ch 88 72 740, ch 121 78 740] else []) ++ [ch 66 72 400, ch 111 78 400] }

def clDoc : List Page := [clPage 0 false, clPage 1 true, clPage 2 false]

/-- on `exDoc` the running title is a header of all three pages and the running number a page-number footer -/
theorem detect_exDoc : detect defaultConfig exDoc =
    ⟨[⟨.header, [65, 67, 77, 69, 32, 82, 101, 112, 111, 114, 116], false, [0, 1, 2],
        [65, 67, 77, 69, 32, 82, 101, 112, 111, 114, 116]⟩],
     [⟨.footer, pageNumberLabel, true, [0, 1, 2], [35]⟩], defaultConfig⟩ :=
  Result.eq_mk (by decide +kernel)

/-- on `clDoc` the assembled line "Abc" is a header of all three pages; there is no footer -/
theorem detect_clDoc : detect defaultConfig clDoc =
    ⟨[⟨.header, [65, 98, 99], false, [0, 1, 2], [65, 98, 99]⟩], [], defaultConfig⟩ :=
  Result.eq_mk (by decide +kernel)

end Tabula.C11

namespace Tabula.C11X
open Tabula.HF Tabula.HFX Tabula.PageSel Tabula.Builder Tabula.TextPipe Tabula.C11

/-- "Quarterly" at the top and a running page number at the bottom of four 792 pt pages; page 3
(index 2) cannot be read -/
def exRaw (body : HF.Str) (num : Nat) : RawPage :=
  { height := 792,
    frags := [ { text := [81, 117, 97, 114, 116, 101, 114, 108, 121], x := 72, y := 738, w := 60, h := 12, fs := 12 },
               { text := body, x := 72, y := 400, w := 120, h := 12, fs := 12 },
               { text := [48 + num], x := 300, y := 30, w := 7, h := 12, fs := 12 } ] }

def exSrc : Source := [some (exRaw [66, 49] 1), some (exRaw [66, 50] 2), none, some (exRaw [66, 52] 4)]

/-- on `exSrc` detection runs on the readable pages 0, 1, 3: "Quarterly" is their header, the running
number their page-number footer -/
theorem hfResult_exSrc (o : Options) : hfResult o exSrc = if needHF o then
    some ⟨[⟨.header, [81, 117, 97, 114, 116, 101, 114, 108, 121], false, [0, 1, 3],
        [81, 117, 97, 114, 116, 101, 114, 108, 121]⟩],
      [⟨.footer, pageNumberLabel, true, [0, 1, 3], [35]⟩], defaultConfig⟩ else none := by
  rw [hfResult_of_readable (k := 0) rfl]
  exact congrArg (fun r => if needHF o then some r else none) (Result.eq_mk (by decide +kernel))

end Tabula.C11X
