import TabulaModel.Model.Process
import TabulaModel.Lemmas.BuilderHist
/-!
Lemmas for `Model/Process.lean`: a call touches the family it names and nothing else; the
answers a family gets in any schedule are those of its own calls run alone; each of them is a
function of the document and of the chain of configuration calls behind its receiver.
-/
namespace Tabula.Process
open Tabula.Builder

theorem chainFrom_format (e0 : Ext) (cs : List BCall) : (chainFrom e0 cs).format = e0.format :=
  (chainFrom_cfg cs e0).2.2.1

theorem loopWarnings_zero (d : Doc) (r : Res) (h : reachedLoop r = false) : loopWarnings d r = 0 := by
  cases r <;> simp_all [reachedLoop, loopWarnings]

/-- what holds of a family in every state it can reach: the store invariants of
`Lemmas/Builder*.lean` with `L` the chains of configuration calls behind its extractors, and a
family that is not a PDF never holds a warning -/
structure Fam.Ok (d : Doc) (L : List (List BCall)) (f : Fam) : Prop where
  store : StoreInv f.st
  fam : FamInv d.world f.st
  lin : LinInv d.base L f.st
  zero : d.base.format ≠ .pdf → ∀ n ∈ f.warns, n = 0

/-- the number of warnings a terminal operation returns, from its result class and the count `w`
the receiver held -/
def termWarns (d : Doc) (k : Term) (w : Nat) (r : Res) : Nat :=
  if returnsWarnings k then
    match r with
    | .pages _ => loopWarnings d r
    | .whole => w
    | _ => 0
  else 0

/-- a terminal operation on a family, in one piece: store and result class are those of
`Builder.terminal`; the receiver's count is replaced exactly when a page loop ran -/
theorem famTerminal_eq (d : Doc) (k : Term) (f : Fam) (i : Nat) :
    famTerminal d k f i =
      let T := terminal d.world k f.st i
      let n := termWarns d k (match f.warns[i]? with | some n => n | none => 0) T.2
      ({ st := T.1, warns := if returnsWarnings k && reachedLoop T.2 then f.warns.set i n else f.warns },
       (T.2, n)) := by
  unfold famTerminal termWarns
  generalize terminal d.world k f.st i = T
  obtain ⟨s, r⟩ := T
  cases returnsWarnings k <;> cases r <;> rfl

/-- unless a non-PDF document was answered from a count that is not zero, the warnings returned
are those of one page loop -/
theorem termWarns_eq (d : Doc) (k : Term) (w : Nat) (r : Res) (h : r = .whole → w = 0) :
    termWarns d k w r = if returnsWarnings k then loopWarnings d r else 0 := by
  unfold termWarns
  cases returnsWarnings k
  · rfl
  · cases r <;> first | rfl | exact h rfl

theorem famStep_st (d : Doc) (f : Fam) (op : Op) :
    (famStep d f op).1.st = (step d.world f.st op).1 ∧ (famStep d f op).2.1 = (step d.world f.st op).2 := by
  cases op with
  | term i k => rw [show famStep d f (.term i k) = famTerminal d k f i from rfl, famTerminal_eq]; exact ⟨rfl, rfl⟩
  | _ => exact ⟨rfl, rfl⟩

theorem base_format_of_lin {d : Doc} {L : List (List BCall)} {i : Nat} {cs : List BCall}
    (_ : L[i]? = some cs) : (chainFrom d.base cs).format = d.base.format :=
  chainFrom_format _ _

/-- the result class of a terminal operation on a family that is not a PDF is never a page list -/
theorem static_pages_pdf (d : Doc) (L : List (List BCall)) (i : Nat) (k : Term) (idx : List Nat)
    (h : staticAnswer d.world d.base L (.term i k) = .pages idx) : d.base.format = .pdf := by
  simp only [staticAnswer] at h
  split at h
  · next cs _ => exact chainFrom_format d.base cs ▸ termStatic_pages _ _ _ _ h
  · cases h

theorem static_whole_nonpdf (d : Doc) (L : List (List BCall)) (i : Nat) (k : Term)
    (h : staticAnswer d.world d.base L (.term i k) = .whole) : d.base.format ≠ .pdf := by
  simp only [staticAnswer] at h
  split at h
  · next cs _ => exact chainFrom_format d.base cs ▸ termStatic_whole _ _ _ h
  · cases h

/-- **one call, answered as if alone**: in any state a family can reach, the answer to a call —
result class and warnings — is the one predicted from the document and the chain of
configuration calls behind the receiver -/
theorem famStep_answer (d : Doc) {L : List (List BCall)} {f : Fam} (h : Fam.Ok d L f) (op : Op) :
    (famStep d f op).2 = aloneAnswer d L op := by
  have hr := step_answer d.world d.base h.store h.fam h.lin op
  cases op with
  | derive i c | nonTerm i k | close i => exact Prod.ext (by rw [(famStep_st d f _).2, hr]; rfl) rfl
  | term i k =>
    rw [show famStep d f (.term i k) = famTerminal d k f i from rfl, famTerminal_eq]
    simp only [step] at hr
    simp only [aloneAnswer, hr]
    rw [termWarns_eq]
    · split <;> rfl
    · -- the whole document is answered for non-PDF families only, and those hold no warning
      intro hwhole
      have hnp := static_whole_nonpdf d L i k hwhole
      cases hwi : f.warns[i]? with
      | none => rfl
      | some n => exact h.zero hnp n (List.mem_of_getElem? hwi)

theorem reachedLoop_pages {r : Res} (h : reachedLoop r = true) : ∃ idx, r = .pages idx := by
  cases r <;> first | exact ⟨_, rfl⟩ | cases h

/-- a call keeps `Fam.Ok`, the chains growing with the call.  For the counts: a page loop that ran
sets the receiver's count (and it ran on a PDF), a configuration method copies the receiver's
count for the new extractor, nothing else changes them -/
theorem famStep_ok (d : Doc) {L : List (List BCall)} {f : Fam} (h : Fam.Ok d L f) (op : Op) :
    Fam.Ok d (lineage L [op]) (famStep d f op).1 := by
  have hst := (famStep_st d f op).1
  suffices hw : d.base.format ≠ .pdf → ∀ n ∈ (famStep d f op).1.warns, n = 0 from
    ⟨hst ▸ inv_step d.world h.store op, hst ▸ fam_step d.world h.store h.fam op,
      hst ▸ lin_exec d.world d.base [op] h.lin, hw⟩
  cases op with
  | nonTerm i k | close i => exact h.zero
  | term i k =>
    rw [show famStep d f (.term i k) = famTerminal d k f i from rfl, famTerminal_eq]
    dsimp only
    split
    · next hc =>
      intro hnp
      obtain ⟨idx, hp⟩ := reachedLoop_pages (Bool.and_eq_true_iff.mp hc).2
      have := step_answer d.world d.base h.store h.fam h.lin (.term i k)
      exact absurd (static_pages_pdf d L i k idx (this ▸ hp)) hnp
    · exact h.zero
  | derive i c =>
    intro hnp m hm
    simp only [famStep, famDerive] at hm
    cases hwi : f.warns[i]? with
    | none => rw [hwi] at hm; exact h.zero hnp m hm
    | some n =>
      rw [hwi] at hm
      rcases List.mem_append.mp hm with hm | hm
      · exact h.zero hnp m hm
      · rw [List.mem_singleton.mp hm]
        exact h.zero hnp n (List.mem_of_getElem? hwi)

/-- **a family's program, answered as if alone**: the answers of any program of calls on the
extractors of one family are those predicted call by call from the chains of configuration calls -/
theorem famRun_alone (d : Doc) (ops : List Op) :
    ∀ (L : List (List BCall)) (f : Fam), Fam.Ok d L f → famRun d f ops = aloneRun d L ops := by
  induction ops with
  | nil => intro L f _; rfl
  | cons op ops ih =>
    intro L f h
    simp only [famRun, aloneRun]
    rw [famStep_answer d h op, ih _ _ (famStep_ok d h op)]

theorem fam0_ok (d : Doc) : Fam.Ok d [[]] d.fam0 := by
  suffices h : StoreInv d.fam0.st ∧ FamInv d.world d.fam0.st ∧ LinInv d.base [[]] d.fam0.st from
    ⟨h.1, h.2.1, h.2.2, fun _ n hn => by simpa [Doc.fam0] using hn⟩
  unfold Doc.fam0 Doc.store0 Doc.base
  by_cases h : d.fromReader = true
  · simp only [h, if_true]
    exact ⟨inv_readerBase, fam_readerBase _, lin_base _ [true]⟩
  · simp only [h, Bool.false_eq_true, if_false]
    exact ⟨inv_openBaseF _, fam_openBaseF _ _, lin_base _ []⟩

/-- **non_interference**: a call leaves every family but the one it names exactly as it was -/
theorem procStep_other (docs : List Doc) (p : Proc) (c : Call) (d : Nat) (h : d ≠ c.fam) :
    (procStep docs p c).1[d]? = p[d]? := by
  unfold procStep
  split
  · simp only
    rw [List.getElem?_set_ne (fun x => h x.symm)]
  · rfl

theorem procStep_same (docs : List Doc) (p : Proc) (c : Call) (doc : Doc) (f : Fam)
    (hd : docs[c.fam]? = some doc) (hp : p[c.fam]? = some f) :
    (procStep docs p c).1[c.fam]? = some (famStep doc f c.op).1 ∧ (procStep docs p c).2 = (famStep doc f c.op).2 := by
  unfold procStep
  simp only [hd, hp, and_true]
  rw [List.getElem?_set_self]
  exact (List.getElem?_eq_some_iff.mp hp).1

/-- **sequential consistency of the schedule**: whatever the interleaving of the calls of all
families, the answers that go to family `d` are exactly the answers of `d`'s own calls, in
their order, run on `d` alone -/
theorem procRun_project (docs : List Doc) (cs : List Call) :
    ∀ (p : Proc) (d : Nat) (doc : Doc) (f : Fam), docs[d]? = some doc → p[d]? = some f →
      projectAns d cs (procRun docs p cs) = famRun doc f (project d cs) := by
  induction cs with
  | nil => intro p d doc f _ _; rfl
  | cons c cs ih =>
    intro p d doc f hd hp
    simp only [procRun, projectAns, project, List.filter_cons]
    by_cases hc : c.fam = d
    · subst hc
      obtain ⟨h1, h2⟩ := procStep_same docs p c doc f hd hp
      simp only [decide_true, if_true, List.map_cons, famRun]
      rw [h2]
      congr 1
      exact ih _ _ doc _ hd h1
    · simp only [hc, decide_false, if_false, Bool.false_eq_true]
      have := procStep_other docs p c d (fun x => hc x.symm)
      exact ih _ d doc f hd (by rw [this]; exact hp)

theorem proc0_get (docs : List Doc) (d : Nat) (doc : Doc) (h : docs[d]? = some doc) :
    (proc0 docs)[d]? = some doc.fam0 := by
  simp [proc0, List.getElem?_map, h]

/-- everything in the cache is what the file says -/
def CacheInv {κ β : Type} (spec : κ → Option β) (cache : List (κ × β)) : Prop :=
  ∀ e ∈ cache, spec e.1 = some e.2

theorem readCached_spec {κ β : Type} [DecidableEq κ] (spec : κ → Option β) (cache : List (κ × β)) (n : κ)
    (h : CacheInv spec cache) :
    (readCached spec cache n).2 = spec n ∧ CacheInv spec (readCached spec cache n).1 := by
  unfold readCached
  cases hf : cache.find? (fun e => decide (e.1 = n)) with
  | some e =>
    simp only
    have hm := List.mem_of_find?_eq_some hf
    have hp := List.find?_some hf
    simp only [decide_eq_true_eq] at hp
    exact ⟨by rw [← hp]; exact (h e hm).symm, h⟩
  | none =>
    simp only
    cases hs : spec n with
    | none => exact ⟨rfl, h⟩
    | some v =>
      refine ⟨rfl, ?_⟩
      intro e he
      rcases List.mem_cons.mp he with rfl | he
      · exact hs
      · exact h e he

/-- **cache_transparent**: whatever was looked up or cleared before on a reader, every look-up
returns what the file says -/
theorem accessRun_spec {κ β : Type} [DecidableEq κ] (spec : κ → Option β) (as : List (Access κ)) :
    ∀ (cache : List (κ × β)), CacheInv spec cache →
      (accessRun spec cache as).2 = as.map (accessSpec spec) ∧ CacheInv spec (accessRun spec cache as).1 := by
  induction as with
  | nil => intro c h; exact ⟨rfl, h⟩
  | cons a as ih =>
    intro c h
    cases a with
    | get n =>
      obtain ⟨h1, h2⟩ := readCached_spec spec c n h
      obtain ⟨g1, g2⟩ := ih _ h2
      simp only [accessRun, accessStep, List.map_cons, accessSpec]
      exact ⟨by rw [g1, h1], g2⟩
    | clear =>
      obtain ⟨g1, g2⟩ := ih [] (by intro e he; cases he)
      simp only [accessRun, accessStep, List.map_cons, accessSpec]
      exact ⟨by rw [g1], g2⟩

end Tabula.Process
