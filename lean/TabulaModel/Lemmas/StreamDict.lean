import TabulaModel.Model.StreamDict
import TabulaModel.Lemmas.Filters
/-!
Helper lemmas for the dictionary level of C05 (`Model/StreamDict.lean`): what `dictToParams`
and `getIntParam` read from a dictionary (`intOpt_dictToParams`), `Decode()` by the kind of its `Filter` entry
(`streamDecodeD_cases`), when the loop over a `Filter` array fails and when it returns bytes
(`decodeChain_eq_none_iff`, `decodeChain_eq_some_iff`, `streamDecodeD_some_iff`), and the theorem that `Decode()`
undoes a pipeline described by its dictionary, stated once for any notion of stage (`streamDecodeD_inverts`).
-/
namespace Tabula.Filters

theorem lookup_dictToParams (d : Dict) (k : Str) :
    (dictToParams d).lookup k = (d.lookup k).map toPVal := by
  induction d with
  | nil => rfl
  | cons kv rest ih =>
    obtain ⟨k', v⟩ := kv
    simp only [dictToParams, List.map_cons, List.lookup_cons]
    cases h : k == k'
    · simpa [dictToParams] using ih
    · simp

/-- a Real whose value is the integer `v` reads as `v` -/
theorem truncReal_integral (v : Int) (e : Nat) : truncReal (v * (2 : Int) ^ e) e = v := by
  unfold truncReal
  exact Int.mul_tdiv_cancel _ (Int.ne_of_gt (Int.pow_pos (by omega)))

/-- a Real with the value `(v·2^e + f) / 2^e`, `0 ≤ f < 2^e`, `v ≥ 0`, reads as `v`: `int(v)` cuts
the fraction off -/
theorem truncReal_fraction_nonneg (v : Nat) (e f : Nat) (hf : f < 2 ^ e) :
    truncReal ((v : Int) * (2 : Int) ^ e + (f : Int)) e = v := by
  unfold truncReal
  have h2 : ((2 : Int) ^ e) = ((2 ^ e : Nat) : Int) := by simp
  have hn : (v : Int) * (2 : Int) ^ e + (f : Int) = ((v * 2 ^ e + f : Nat) : Int) := by simp
  rw [hn, h2, Int.tdiv_eq_ediv_of_nonneg (by omega), ← Int.natCast_ediv]
  congr 1
  have hpos : 0 < 2 ^ e := Nat.pos_of_ne_zero (by simp)
  rw [Nat.mul_comm, Nat.mul_add_div hpos, Nat.div_eq_of_lt hf]
  simp

/-- toward zero, not down: `-(v + f/2^e)` reads as `-v` -/
theorem truncReal_fraction_neg (v : Nat) (e f : Nat) (hf : f < 2 ^ e) :
    truncReal (-((v : Int) * (2 : Int) ^ e + (f : Int))) e = -(v : Int) := by
  have := truncReal_fraction_nonneg v e f hf
  unfold truncReal at this ⊢
  rw [Int.neg_tdiv, this]

/-- what `getIntParam` finds under a key of `dictToParams d`, by the kind of object the dictionary holds there: an Int
is itself, a Real is cut toward zero, anything else (and a missing key) counts as missing -/
theorem intOpt_dictToParams (d : Dict) (k : Str) : intOpt (dictToParams d) k =
    match dictGet d k with
    | some (.int n) => some n
    | some (.real m e) => some (truncReal m e)
    | _ => none := by
  unfold intOpt dictGet
  rw [lookup_dictToParams]
  cases d.lookup k with
  | none => rfl
  | some o => cases o <;> rfl

/-- `getIntParam` is the read value or the default -/
theorem getIntParam_eq (ps : GoParams) (k : Str) (dflt : Int) :
    getIntParam (some ps) k dflt = (intOpt ps k).getD dflt := rfl

/-- what a single `Filter` name is handed as its parameters: the `DecodeParms` entry, unless that is an array
(`Decode` looks into an array only next to a `Filter` array) -/
theorem streamDecode_one (ext : Ext) (n : Str) (o : Option Obj) (data : Str) :
    streamDecode ext (.one (.name n)) (objToDParms o) data =
      decodeWithFilter ext data n (paramsObjToDict (objToPObj (match o with
        | some (.array _) => none | o => o))) := by
  cases o with
  | none => rfl
  | some po => cases po <;> rfl

theorem streamDecodeD_cases (ext : Ext) (d : Dict) (data : Str) :
    ((dictGet d kFilter = none ∨ dictGet d kFilter = some .nil) ∧ streamDecodeD ext d data = some data) ∨
    (∃ n, dictGet d kFilter = some (.name n) ∧
      streamDecodeD ext d data = decodeWithFilter ext data n (paramsObjToDict (objToPObj
        (match dictGet d kDecodeParms with | some (.array _) => none | o => o)))) ∨
    (∃ xs, dictGet d kFilter = some (.array xs) ∧
      streamDecodeD ext d data =
        decodeChain ext (objToDParms (dictGet d kDecodeParms)) (xs.map objToFObj) 0 data) ∨
    (∃ o, dictGet d kFilter = some o ∧ o ≠ .nil ∧ (∀ s, o ≠ .name s) ∧ (∀ xs, o ≠ .array xs) ∧
      streamDecodeD ext d data = none) := by
  unfold streamDecodeD
  cases hf : dictGet d kFilter with
  | none => exact .inl ⟨.inl rfl, rfl⟩
  | some o =>
    cases o with
    | nil => exact .inl ⟨.inr rfl, rfl⟩
    | name n => exact .inr (.inl ⟨n, rfl, streamDecode_one ext n _ data⟩)
    | array xs => exact .inr (.inr (.inl ⟨xs, rfl, rfl⟩))
    | _ => exact .inr (.inr (.inr ⟨_, rfl, nofun, nofun, nofun, rfl⟩))

theorem map_name_objToFObj (ns : List Str) : (ns.map Obj.name).map objToFObj = ns.map FObj.name := by
  rw [List.map_map]; rfl

/-- the filter loop over the digested `Filter` array fails exactly at a first position `k`: the `k` entries before it
are names whose filters succeed one after the other, and entry `k` is no name, or its filter fails on what the prefix
produced -/
theorem decodeChain_eq_none_iff (ext : Ext) (dp : DParms) : ∀ (xs : List Obj) (i : Nat) (inp : Str),
    decodeChain ext dp (xs.map objToFObj) i inp = none ↔
      ∃ (pre : List Str) (x : Obj) (post : List Obj) (mid : Str), xs = pre.map Obj.name ++ x :: post ∧
        decodeChain ext dp (pre.map FObj.name) i inp = some mid ∧
        ((∀ s, x ≠ .name s) ∨ ∃ n, x = .name n ∧ decodeWithFilter ext mid n (chainParams dp (i + pre.length)) = none) := by
  intro xs i inp
  constructor
  · -- the first failing position, by induction over the entries
    induction xs generalizing i inp with
    | nil => intro h; cases h
    | cons x xs ih =>
      intro h
      cases x with
      | name n =>
        rw [List.map_cons, objToFObj, decodeChain] at h
        cases hs : decodeWithFilter ext inp n (chainParams dp i) with
        | none => exact ⟨[], .name n, xs, inp, rfl, rfl, .inr ⟨n, rfl, hs⟩⟩
        | some m =>
          rw [hs] at h
          obtain ⟨pre, x, post, mid, rfl, hpre, hx⟩ := ih (i + 1) m h
          refine ⟨n :: pre, x, post, mid, rfl, by rw [List.map_cons, decodeChain, hs]; exact hpre, ?_⟩
          rwa [List.length_cons, Nat.add_comm pre.length 1, ← Nat.add_assoc]
      | _ => exact ⟨[], _, xs, inp, rfl, rfl, .inl nofun⟩
  · rintro ⟨pre, x, post, mid, rfl, hpre, hx⟩
    rw [List.map_append, map_name_objToFObj, List.map_cons, decodeChain_append, hpre, List.length_map]
    rcases hx with hx | ⟨n, rfl, hbad⟩
    · cases x with
      | name s => exact absurd rfl (hx s)
      | _ => rfl
    · simp only [Option.bind, objToFObj, decodeChain, hbad]
/-- the loop over a `Filter` array returns `out` exactly when the array holds names only and the data passes stage by
stage: for any relation `CR` that unfolds like the loop -/
theorem decodeChain_eq_some_iff (ext : Ext) (dp : DParms) (CR : List Str → Nat → Str → Str → Prop)
    (hnil : ∀ i inp out, CR [] i inp out ↔ out = inp)
    (hcons : ∀ n ns i inp out, CR (n :: ns) i inp out ↔
      ∃ mid, decodeWithFilter ext inp n (chainParams dp i) = some mid ∧ CR ns (i + 1) mid out) :
    ∀ (xs : List Obj) (i : Nat) (inp out : Str),
      decodeChain ext dp (xs.map objToFObj) i inp = some out ↔ ∃ ns : List Str, xs = ns.map Obj.name ∧ CR ns i inp out := by
  intro xs
  induction xs with
  | nil =>
    intro i inp out
    refine ⟨fun h => ⟨[], rfl, (hnil ..).mpr (Option.some.inj h).symm⟩, ?_⟩
    rintro ⟨ns, hns, h⟩
    obtain rfl : ns = [] := List.map_eq_nil_iff.mp hns.symm
    exact congrArg some ((hnil ..).mp h).symm
  | cons x xs ih =>
    intro i inp out
    cases x with
    | name n =>
      rw [List.map_cons, objToFObj, decodeChain]
      constructor
      · intro h
        cases hs : decodeWithFilter ext inp n (chainParams dp i) with
        | none => rw [hs] at h; cases h
        | some mid =>
          rw [hs] at h
          obtain ⟨ns, rfl, hc⟩ := (ih (i + 1) mid out).mp h
          exact ⟨n :: ns, rfl, (hcons ..).mpr ⟨mid, hs, hc⟩⟩
      · rintro ⟨ns, hns, h⟩
        obtain ⟨n', ns', rfl, hn, hxs⟩ := List.map_eq_cons_iff.mp hns.symm
        cases hn
        obtain ⟨mid, hs, hc⟩ := (hcons ..).mp h
        rw [hs]
        exact (ih (i + 1) mid out).mpr ⟨ns', hxs.symm, hc⟩
    | _ =>
      refine ⟨nofun, ?_⟩
      rintro ⟨ns, hns, _⟩
      obtain ⟨_, _, _, hn, _⟩ := List.map_eq_cons_iff.mp hns.symm
      cases hn
/-- `Decode()` returns `y` exactly when `Filter` is absent (or a Go nil) and `y` is the data, or a name whose
filter returns `y`, or an array of names through which the data passes stage by stage: for any relation `CR`
that unfolds like the loop -/
theorem streamDecodeD_some_iff (ext : Ext) (d : Dict) (data y : Str) (CR : List Str → Nat → Str → Str → Prop)
    (hnil : ∀ i inp out, CR [] i inp out ↔ out = inp)
    (hcons : ∀ n ns i inp out, CR (n :: ns) i inp out ↔
      ∃ mid, decodeWithFilter ext inp n (chainParams (objToDParms (dictGet d kDecodeParms)) i) = some mid ∧
        CR ns (i + 1) mid out) :
    streamDecodeD ext d data = some y ↔
      (((dictGet d kFilter = none ∨ dictGet d kFilter = some .nil) ∧ y = data) ∨
       (∃ n, dictGet d kFilter = some (.name n) ∧
         decodeWithFilter ext data n (paramsObjToDict (objToPObj (match dictGet d kDecodeParms with
           | some (.array _) => none | o => o))) = some y) ∨
       (∃ ns : List Str, dictGet d kFilter = some (.array (ns.map Obj.name)) ∧ CR ns 0 data y)) := by
  rcases streamDecodeD_cases ext d data with ⟨hf, e⟩ | ⟨n, hf, e⟩ | ⟨xs, hf, e⟩ | ⟨o, hf, h0, h1, h2, e⟩ <;>
    rw [e]
  · have : (some data = some y) ↔ y = data := ⟨fun h => (Option.some.inj h).symm, fun h => h ▸ rfl⟩
    rcases hf with hf | hf <;> simp [hf, this]
  · simp [hf]
  · rw [decodeChain_eq_some_iff ext _ CR hnil hcons]
    constructor
    · rintro ⟨ns, rfl, hc⟩
      exact .inr (.inr ⟨ns, hf, hc⟩)
    · rintro (⟨hf' | hf', _⟩ | ⟨n, hf', _⟩ | ⟨ns, hf', hc⟩) <;> rw [hf] at hf' <;> cases hf'
      exact ⟨ns, rfl, hc⟩
  · refine ⟨nofun, ?_⟩
    rintro (⟨hf' | hf', _⟩ | ⟨n, hf', _⟩ | ⟨ns, hf', _⟩) <;> rw [hf] at hf'
    · cases hf'
    · exact absurd (Option.some.inj hf') h0
    · exact absurd (Option.some.inj hf') (h1 n)
    · exact absurd (Option.some.inj hf') (h2 _)

/-! ### a pipeline decoded through the dictionary, for any notion of stage

`σ` is a type of stages with their filter names; `C ss x y` says that `y` encodes `x` through the stages
`ss` (the last one applied to the data first). All that is asked of a stage is that decoding under its name
inverts its encoding when it is handed acceptable parameters. -/

section
variable {σ : Type} (name : σ → Str) (ext : Ext) (x : Str) (C : List σ → Str → Str → Prop)
  (hnil : ∀ y, C [] x y → y = x)

theorem objToDParms_nonarray (o : Option Obj) (h : ∀ os, o ≠ some (.array os)) :
    objToDParms o = .one (objToPObj o) := by
  cases o with
  | none => rfl
  | some ob =>
    cases ob with
    | array os => exact absurd rfl (h os)
    | _ => rfl

include hnil in
/-- the filter loop undoes the chain when stage `j` is handed acceptable parameters (`Q`) -/
theorem decodeChain_inverts (dp : DParms) (Q : σ → Option Params → Prop)
    (hcons : ∀ s ss y, C (s :: ss) x y →
      ∃ m, C ss x m ∧ ∀ p, Q s p → decodeWithFilter ext y (name s) p = some m) :
    ∀ (ss : List σ) (i : Nat) (y : Str), (∀ j s, ss[j]? = some s → Q s (chainParams dp (i + j))) → C ss x y →
      decodeChain ext dp (ss.map fun s => FObj.name (name s)) i y = some x := by
  intro ss
  induction ss with
  | nil =>
    intro i y _ hw
    rw [hnil y hw]
    rfl
  | cons s ss ih =>
    intro i y hp hw
    obtain ⟨m, hrest, hs⟩ := hcons s ss y hw
    rw [List.map_cons, decodeChain, hs (chainParams dp i) (hp 0 s rfl)]
    refine ih (i + 1) m (fun j s' hj => ?_) hrest
    have := hp (j + 1) s' (by rwa [List.getElem?_cons_succ])
    rwa [show i + (j + 1) = i + 1 + j by omega] at this

include hnil in
/-- `Decode()` undoes the chain for every dictionary that describes it: `Filter` the array of the names
with `DecodeParms` an array of acceptable objects (`P`) or one non-array object acceptable to every stage;
one stage under its name with its object; no stage and no `Filter` -/
theorem streamDecodeD_inverts (P : σ → Option Obj → Prop) (d : Dict) (stages : List σ) (y : Str)
    (hd : (dictGet d kFilter = some (.array (stages.map fun s => Obj.name (name s))) ∧
        ((∃ os : List Obj, dictGet d kDecodeParms = some (.array os) ∧
            ∀ (i : Nat) (s : σ), stages[i]? = some s → P s os[i]?) ∨
         ((∀ os, dictGet d kDecodeParms ≠ some (.array os)) ∧ ∀ s ∈ stages, P s (dictGet d kDecodeParms)))) ∨
      (∃ s, stages = [s] ∧ dictGet d kFilter = some (.name (name s)) ∧ P s (dictGet d kDecodeParms)) ∨
      (stages = [] ∧ dictGet d kFilter = none))
    (hcons : ∀ s ss y, C (s :: ss) x y → ∃ m, C ss x m ∧
      ∀ o, P s o → decodeWithFilter ext y (name s) (paramsObjToDict (objToPObj o)) = some m)
    (hw : C stages x y) : streamDecodeD ext d y = some x := by
  unfold streamDecodeD
  rcases hd with ⟨hf, hp⟩ | ⟨s, rfl, hf, hp⟩ | ⟨rfl, hf⟩
  · rw [hf]
    simp only [objToFilter, streamDecode, List.map_map]
    refine decodeChain_inverts name ext x C hnil _ (fun s p => ∃ o, P s o ∧ p = paramsObjToDict (objToPObj o))
      (fun s ss y h => ?_) stages 0 y (fun j s hj => ?_) hw
    · obtain ⟨m, hrest, hs⟩ := hcons s ss y h
      exact ⟨m, hrest, fun p ⟨o, ho, hpo⟩ => hpo ▸ hs o ho⟩
    · rw [Nat.zero_add]
      rcases hp with ⟨os, hdp, hall⟩ | ⟨hna, hall⟩
      · refine ⟨os[j]?, hall j s hj, ?_⟩
        rw [hdp]
        simp only [objToDParms, chainParams, List.getElem?_map]
        cases os[j]? <;> rfl
      · refine ⟨dictGet d kDecodeParms, hall s (List.mem_of_getElem? hj), ?_⟩
        rw [objToDParms_nonarray _ hna]
        rfl
  · obtain ⟨m, hbase, hs⟩ := hcons s [] y hw
    rw [hf, ← hnil m hbase, ← hs _ hp]
    cases hdp : dictGet d kDecodeParms with
    | none => rfl
    | some ob => cases ob <;> rfl
  · rw [hf, hnil y hw]
    rfl

end

end Tabula.Filters
