import TabulaModel.Lemmas.CMap
import TabulaModel.Model.CMapRender
import TabulaModel.Lemmas.ListBasics
/-!
The arithmetic shared by the CMap round trips: hex text of byte strings through tabula's hex
readers, code bytes and their values, UTF-16BE targets through `hexToUnicode`, and `LookupString`
under a positive code width without the loop counter of the model (fewer bytes than a code; one
whole code and the rest; whole codes followed by a remainder).
-/
namespace Tabula.CMap
open Tabula.UTF16

/-! ## hex text in either case -/

/-- an ASCII hex digit (either case) -/
def IsHexCh (c : Nat) : Prop := (48 ≤ c ∧ c ≤ 57) ∨ (65 ≤ c ∧ c ≤ 70) ∨ (97 ≤ c ∧ c ≤ 102)

/-- the sixteen digits of either case read back as their values -/
theorem hexVal_hexDigitP (up : Bool) (d : Nat) (h : d < 16) : hexVal (hexDigitP up d) = some d :=
  (by decide : ∀ (up : Bool) (d : Fin 16), hexVal (hexDigitP up d) = some d.val) up ⟨d, h⟩

theorem hexDigitP_hex (up : Bool) (d : Nat) (h : d < 16) : IsHexCh (hexDigitP up d) :=
  (by unfold IsHexCh; decide : ∀ (up : Bool) (d : Fin 16), IsHexCh (hexDigitP up d)) up ⟨d, h⟩

theorem hexOfBytesP_length (up : Bool) (bs : List Nat) : (hexOfBytesP up bs).length = 2 * bs.length := by
  induction bs with
  | nil => rfl
  | cons b t ih => simp only [hexOfBytesP, List.length_cons, ih]; omega

theorem hexOfBytesP_mem (up : Bool) (bs : List Nat) (hb : AllBytes bs) :
    ∀ c ∈ hexOfBytesP up bs, IsHexCh c := by
  induction bs with
  | nil => intro c hc; simp [hexOfBytesP] at hc
  | cons b t ih =>
    intro c hc
    have hb0 : b < 256 := hb b (by simp)
    simp only [hexOfBytesP, List.mem_cons] at hc
    rcases hc with hc | hc | hc
    · subst hc; exact hexDigitP_hex _ _ (by omega)
    · subst hc; exact hexDigitP_hex _ _ (by omega)
    · exact ih (allBytes_tail hb) c hc

theorem hexDecode_hexOfBytesP (up : Bool) (bs : List Nat) (hb : AllBytes bs) :
    hexDecode (hexOfBytesP up bs) = some bs := by
  induction bs with
  | nil => rfl
  | cons b t ih =>
    have hb0 : b < 256 := hb b (by simp)
    simp only [hexOfBytesP, hexDecode, hexVal_hexDigitP _ _ (show b / 16 < 16 by omega),
      hexVal_hexDigitP _ _ (show b % 16 < 16 by omega), ih (allBytes_tail hb)]
    congr 2
    omega

theorem hexDigitsVal_hexOfBytesP (up : Bool) (bs : List Nat) (hb : AllBytes bs) (acc : Nat) :
    hexDigitsVal (hexOfBytesP up bs) acc = some (bs.foldl (fun a b => a * 256 + b) acc) := by
  induction bs generalizing acc with
  | nil => rfl
  | cons b t ih =>
    have hb0 : b < 256 := hb b (by simp)
    simp only [hexOfBytesP, hexDigitsVal, hexVal_hexDigitP _ _ (show b / 16 < 16 by omega),
      hexVal_hexDigitP _ _ (show b % 16 < 16 by omega), List.foldl_cons]
    rw [ih (allBytes_tail hb)]
    congr 2
    omega

/-- `parseHexToUint32` reads the hex text of a non-empty byte string back as its
big-endian value (when that fits 32 bits) -/
theorem parseHex_hexOfBytesP (up : Bool) (bs : List Nat) (hb : AllBytes bs) (hne : bs ≠ [])
    (hv : bs.foldl (fun a b => a * 256 + b) 0 < 4294967296) :
    parseHexToUint32 (hexOfBytesP up bs) = some (bs.foldl (fun a b => a * 256 + b) 0) := by
  unfold parseHexToUint32
  have hl : (hexOfBytesP up bs).length % 2 = 0 := by rw [hexOfBytesP_length]; omega
  simp only [hl, ne_eq, not_true_eq_false, if_false]
  unfold parseUint32
  have hne' : hexOfBytesP up bs ≠ [] := by
    intro h
    have := congrArg List.length h
    rw [hexOfBytesP_length] at this
    cases bs with
    | nil => exact hne rfl
    | cons b t => simp at this
  simp only [hne', if_false]
  rw [hexDigitsVal_hexOfBytesP _ _ hb]
  simp only
  rw [if_pos hv]

/-- the upper-case hex of the one-entry-per-line writer is the policy writer's with `upper := true` -/
theorem hexOfBytes_eq (bs : List Nat) : hexOfBytes bs = hexOfBytesP true bs := by
  induction bs with
  | nil => rfl
  | cons b t ih => rw [hexOfBytes, hexOfBytesP, ih]; rfl

/-! ## codes -/

theorem codeBytes_length (w c : Nat) : (codeBytes w c).length = w := by
  induction w generalizing c with
  | zero => rfl
  | succ w ih => simp [codeBytes, ih]

theorem codeBytes_bytes (w c : Nat) : AllBytes (codeBytes w c) := by
  induction w generalizing c with
  | zero => intro b hb; simp [codeBytes] at hb
  | succ w ih =>
    intro b hb
    simp only [codeBytes, List.mem_append, List.mem_singleton] at hb
    rcases hb with hb | hb
    · exact ih _ b hb
    · subst hb; omega

theorem codeBytes_val (w c : Nat) : (codeBytes w c).foldl (fun a b => a * 256 + b) 0 = c % 256 ^ w := by
  induction w generalizing c with
  | zero => simp [codeBytes, Nat.mod_one]
  | succ w ih =>
    simp only [codeBytes, List.foldl_append, List.foldl_cons, List.foldl_nil, ih]
    rw [Nat.pow_succ, Nat.mul_comm (256 ^ w) 256, Nat.mod_mul]
    omega

theorem pow256_le (w : Nat) (h : w ≤ 4) : 256 ^ w ≤ 4294967296 := by
  have : 256 ^ w ≤ 256 ^ 4 := Nat.pow_le_pow_right (by decide) h
  simpa using this

/-! ## targets -/

/-- the `match data with` of `hexToUnicode` on at least two bytes that are not a BOM -/
theorem hexToUnicode_match (a b : Nat) (rest : List Nat) (hnb : ¬ (a = 0xFE ∧ b = 0xFF)) :
    (match (a :: b :: rest) with
      | 0xFE :: 0xFF :: r => cmapDecodeUTF16BE r
      | _ :: _ :: _ => cmapDecodeUTF16BE (a :: b :: rest)
      | [x] => some [toRune x]
      | [] => none) = cmapDecodeUTF16BE (a :: b :: rest) := by
  split
  · rename_i r heq
    simp only [List.cons.injEq] at heq
    exact absurd ⟨heq.1, heq.2.1⟩ hnb
  · rfl
  · rename_i heq; simp at heq
  · rename_i heq; simp at heq

/-- what `hexToUnicode` does with the hex text (either case) of a byte string -/
theorem hexToUnicode_hexOfBytesP (upper : Bool) (bs : List Nat) : AllBytes bs →
    hexToUnicode (hexOfBytesP upper bs) =
      (match bs with
       | 0xFE :: 0xFF :: rest => cmapDecodeUTF16BE rest
       | _ :: _ :: _ => cmapDecodeUTF16BE bs
       | [b] => some [toRune b]
       | [] => none) := by
  intro hb
  unfold hexToUnicode
  have hfilter : (hexOfBytesP upper bs).filter
      (fun c => !(c = 32 || c = 9 || c = 10 || c = 13)) = hexOfBytesP upper bs := by
    rw [List.filter_eq_self]
    intro c hc
    have := hexOfBytesP_mem _ _ hb c hc
    unfold IsHexCh at this
    have h : c ≠ 32 ∧ c ≠ 9 ∧ c ≠ 10 ∧ c ≠ 13 := by omega
    simp [h]
  simp only [hfilter]
  have hl : (hexOfBytesP upper bs).length % 2 = 0 := by rw [hexOfBytesP_length]; omega
  simp only [hl, ne_eq, not_true_eq_false, if_false]
  rw [hexDecode_hexOfBytesP _ _ hb]
  simp only
  rfl

/-! ## code bytes back to the code (`lookupStringWithWidth`'s shift-or loop) -/

theorem or_low (x b : Nat) (hb : b < 256) :
    ((x * 256) % 4294967296) ||| b = (x * 256) % 4294967296 + b := by
  have h1 : (x * 256) % 4294967296 = (x % 16777216) <<< 8 := by
    rw [Nat.shiftLeft_eq]; omega
  rw [h1, ← Nat.shiftLeft_add_eq_or_of_lt (by simpa using hb)]

theorem codeOf_snoc (bs : List Nat) (b : Nat) :
    codeOf (bs ++ [b]) = ((codeOf bs * 256) % 4294967296) ||| b := by
  unfold codeOf; rw [List.foldl_append]; rfl

/-- the shift-or code assembly of `lookupStringWithWidth` is the big-endian number, for up to four
bytes (no 32-bit wrap) -/
theorem codeOf_rev (bs : List Nat) (hb : AllBytes bs) (hl : bs.length ≤ 4) :
    codeOf bs.reverse = bs.reverse.foldl (fun a b => a * 256 + b) 0 ∧
      bs.reverse.foldl (fun a b => a * 256 + b) 0 < 256 ^ bs.length := by
  induction bs with
  | nil => exact ⟨rfl, by simp⟩
  | cons b t ih =>
    have hlt : t.length ≤ 4 := by simp at hl; omega
    obtain ⟨h1, h2⟩ := ih (allBytes_tail hb) hlt
    have hb256 : b < 256 := hb b (by simp)
    have hP := pow256_le (t.length + 1) (by simpa using hl)
    rw [List.reverse_cons, codeOf_snoc, List.foldl_append, h1, or_low _ _ hb256, List.length_cons]
    rw [Nat.pow_succ] at hP ⊢
    generalize 256 ^ t.length = P at h2 hP
    generalize t.reverse.foldl (fun a b => a * 256 + b) 0 = X at h2
    rw [Nat.mod_eq_of_lt (by omega)]
    exact ⟨rfl, by simp only [List.foldl_cons, List.foldl_nil]; omega⟩

theorem codeOf_eq_foldl (bs : List Nat) (hb : AllBytes bs) (hl : bs.length ≤ 4) :
    codeOf bs = bs.foldl (fun a b => a * 256 + b) 0 := by
  have h := (codeOf_rev bs.reverse (by intro x hx; exact hb x (by simpa using hx)) (by simpa using hl)).1
  rwa [List.reverse_reverse] at h

theorem codeOf_codeBytes (w : Nat) (hw4 : w ≤ 4) (c : Nat) : codeOf (codeBytes w c) = c % 256 ^ w := by
  rw [codeOf_eq_foldl _ (codeBytes_bytes w c) (by rw [codeBytes_length]; exact hw4), codeBytes_val]

/-! ## well-formed entries, the width fields -/

/-- a well-formed entry: the code fits the width, the text is a non-empty scalar string that
does not start with U+FEFF -/
def EntryOK (w : Nat) (e : Nat × List Nat) : Prop :=
  e.1 < 256 ^ w ∧ AllScalar e.2 ∧ e.2 ≠ [] ∧ e.2.head? ≠ some 0xFEFF

/-- the width fields after a step: `byteWidth` is untouched, `actualByteWidth` is 0 or `w` -/
def WidthInv (w : Nat) (cm : CMap) : Prop := cm.byteWidth = w ∧ (cm.actualByteWidth = 0 ∨ cm.actualByteWidth = w)

theorem emit_of_lookup (cm : CMap) (c : Nat) (t : List Nat) (h : lookup cm c = t) (hne : t ≠ []) :
    emit cm c = t := by
  unfold emit
  simp [h, hne]

theorem effectiveWidth_of_inv (w : Nat) (cm : CMap) (h : WidthInv w cm) : effectiveWidth cm = w := by
  unfold effectiveWidth
  obtain ⟨h1, h2 | h2⟩ := h
  · simp [h1, h2]
  · simp [h1, h2]

/-! ## `LookupString` with a positive effective width, without the loop counter

Stated for every CMap value; `Props/C07More.lean` (section 2) presents the same four laws. -/

theorem lookupWidth_fuel (cm : CMap) (w : Nat) (hw : 0 < w) (f1 f2 : Nat) (data : List Nat)
    (h1 : data.length < f1) (h2 : data.length < f2) :
    lookupWidth cm w f1 data = lookupWidth cm w f2 data := by
  induction f1 generalizing f2 data with
  | zero => omega
  | succ f1 ih =>
    cases f2 with
    | zero => omega
    | succ f2 =>
      cases data with
      | nil => simp [lookupWidth]
      | cons b rest =>
        simp only [lookupWidth]
        split
        · rfl
        · rw [ih f2 _ (by simp at h1 ⊢; omega) (by simp at h2 ⊢; omega)]

theorem lookupString_short (cm : CMap) (data : List Nat) (h : data.length < effectiveWidth cm) :
    lookupString cm data = data.flatMap (emit cm) := by
  unfold lookupString
  rw [if_pos (by omega)]
  cases data with
  | nil => simp [lookupWidth]
  | cons b rest => simp only [lookupWidth]; rw [if_pos h]

theorem lookupString_step (cm : CMap) (data : List Nat) (hw : 0 < effectiveWidth cm)
    (h : effectiveWidth cm ≤ data.length) :
    lookupString cm data
      = emit cm (codeOf (data.take (effectiveWidth cm))) ++ lookupString cm (data.drop (effectiveWidth cm)) := by
  unfold lookupString
  rw [if_pos hw, if_pos hw]
  cases data with
  | nil => simp at h; omega
  | cons b rest =>
    simp only [lookupWidth]
    rw [if_neg (by omega)]
    congr 1
    apply lookupWidth_fuel cm _ hw
    · simp only [List.length_drop, List.length_cons]; omega
    · omega

theorem lookupString_whole_codes (cm : CMap) (hw : 0 < effectiveWidth cm) (codes : List (List Nat))
    (hc : ∀ c ∈ codes, c.length = effectiveWidth cm) (rest : List Nat) :
    lookupString cm (codes.flatten ++ rest)
      = codes.flatMap (fun c => emit cm (codeOf c)) ++ lookupString cm rest := by
  induction codes with
  | nil => simp
  | cons c cs ih =>
    have hlen := hc c (by simp)
    have hshape : (c :: cs).flatten ++ rest = c ++ (cs.flatten ++ rest) := by simp
    rw [hshape, lookupString_step cm _ hw (by rw [List.length_append]; omega)]
    rw [← hlen, List.take_left, List.drop_left, ih (fun x hx => hc x (by simp [hx]))]
    simp

/-- `lookupString` of a width-`w` state on whole codes followed by a remainder shorter than a code -/
theorem lookupString_codes_tail (cm : CMap) (w : Nat) (hw4 : w ≤ 4) (hinv : WidthInv w cm)
    (codes : List Nat) (hc : ∀ c ∈ codes, c < 256 ^ w) (tail : List Nat) (ht : tail.length < w) :
    lookupString cm (codes.flatMap (codeBytes w) ++ tail) = codes.flatMap (emit cm) ++ tail.flatMap (emit cm) := by
  have hew := effectiveWidth_of_inv w cm hinv
  have h := lookupString_whole_codes cm (by omega) (codes.map (codeBytes w))
    (fun c hc => by obtain ⟨x, _, rfl⟩ := List.mem_map.mp hc; rw [codeBytes_length, hew]) tail
  rw [← List.flatMap_def, List.flatMap_map, lookupString_short cm tail (by omega)] at h
  rw [h, List.flatMap_congr fun c hcm => by rw [codeOf_codeBytes w hw4 c, Nat.mod_eq_of_lt (hc c hcm)]]

/-- `lookupString` of a width-`w` state over the codes of a selection of entries each of which
`emit` answers with its text -/
theorem lookupString_codes (cm : CMap) (w : Nat) (hw1 : 1 ≤ w) (hw4 : w ≤ 4) (hinv : WidthInv w cm)
    (sel : List (Nat × List Nat)) (hsel : ∀ e ∈ sel, e.1 < 256 ^ w ∧ emit cm e.1 = e.2) :
    lookupString cm ((sel.map (·.1)).flatMap (codeBytes w)) = sel.flatMap (·.2) := by
  have h := lookupString_codes_tail cm w hw4 hinv (sel.map (·.1))
    (fun c hc => by obtain ⟨e, he, rfl⟩ := List.mem_map.mp hc; exact (hsel e he).1) [] hw1
  rw [List.append_nil, List.flatMap_nil, List.append_nil] at h
  rw [h, List.flatMap_map, List.flatMap_def, List.flatMap_def, List.map_congr_left fun e he => (hsel e he).2]

/-! ## the white space of a policy -/

/-- the three ends of line -/
theorem eol_cases (p : Policy) : p.eol = [32] ∨ p.eol = [13, 10] ∨ p.eol = [10] := by
  unfold Policy.eol
  split
  · exact Or.inl rfl
  · split
    · exact Or.inr (Or.inl rfl)
    · exact Or.inr (Or.inr rfl)

theorem sep_cases (p : Policy) : p.sep = [] ∨ p.sep = [32] := by
  unfold Policy.sep
  split
  · exact Or.inl rfl
  · exact Or.inr rfl

end Tabula.CMap
