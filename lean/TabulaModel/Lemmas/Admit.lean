import TabulaModel.Lemmas.Detect
import TabulaModel.Lemmas.Drm
import TabulaModel.Model.Admit
/-!
Lemmas about `Model/Admit.lean` up to one operation on one extractor: the archive seen by sniffer
and DRM gate at once, the EPUB reader's gate, the cross-check with the reader switch behind it
(`admitWith`), what every reachable extractor value satisfies (`Ext.WF`) and what `clone`, `derive` and
`Close` keep of a value (`Ext.Kept`), `ensureReader`, and one operation: every operation is one of two frames
(`run_eq`), the ways through it (`run_cases`), what it guarantees (`RunSpec`, `run_spec`), its outcome
on an extractor that holds no reader (`run_unopened`).  Call histories: `Lemmas/AdmitHistory.lean`.
-/
set_option autoImplicit false
namespace Tabula.Admit
open Tabula.Detect Tabula.Drm

/-! ### one archive for the sniffer and the DRM gate -/

theorem nRights_ne_nEncryption : nRights ≠ nEncryption := by decide

theorem toMember_names (ms : List AMember) :
    (ms.map AMember.toMember).map (·.name) = ms.map (·.name) := by
  simp [AMember.toMember, Function.comp_def]

/-- a member that makes `checkForDRM` on the archive answer true -/
def amemberBad (m : AMember) : Bool := memberBad (classify m)

theorem archiveDRM_eq_any (ms : List AMember) : archiveDRM ms = ms.any amemberBad := by
  unfold archiveDRM
  rw [checkForDRM_eq_any, List.any_map]
  rfl

theorem amemberBad_iff (m : AMember) :
    amemberBad m = true ↔
      m.name = nRights ∨ (m.name = nEncryption ∧ m.enc = none) ∨
      (m.name = nEncryption ∧ ∃ es, m.enc = some es ∧
        ∃ e ∈ es, isFontObfuscation e.algorithm = false ∧ isContentFile e.uri = true) := by
  unfold amemberBad classify
  by_cases hr : m.name = nRights
  · simp [hr, memberBad]
  · rw [if_neg hr]
    by_cases he : m.name = nEncryption
    · rw [if_pos he]
      cases henc : m.enc with
      | none => simp [memberBad, he]
      | some es =>
        have hne : ¬ nEncryption = nRights := fun h => nRights_ne_nEncryption h.symm
        simp only [memberBad, he, hne, false_or, true_and, reduceCtorEq, Option.some.injEq,
          exists_eq_left']
        exact hasEncryptedContent_iff
    · rw [if_neg he]
      simp [memberBad, hr, he]

theorem archiveDRM_perm {ms ms' : List AMember} (hp : ms.Perm ms') : archiveDRM ms = archiveDRM ms' := by
  rw [archiveDRM_eq_any, archiveDRM_eq_any]
  exact hp.any_eq

theorem detectFile_zip (rest : Str) (ms : List AMember) :
    detectFile (sZipMagic ++ rest) (some ms) = some (archiveFormat ms) :=
  detectFromReader_zip_magic rest _

/-- no member of the archive is named `n` -/
def NoMember (n : Str) (ms : List AMember) : Prop := ∀ m ∈ ms, m.name ≠ n

theorem hasMember_toMember_true {n : Str} {ms : List AMember} {m : AMember} (hm : m ∈ ms) (hn : m.name = n) :
    hasMember n (ms.map AMember.toMember) = true := by
  unfold hasMember
  rw [List.any_eq_true]
  exact ⟨m.toMember, List.mem_map_of_mem hm, by simp [AMember.toMember, hn]⟩

theorem hasMember_toMember_false {n : Str} {ms : List AMember} (h : NoMember n ms) :
    hasMember n (ms.map AMember.toMember) = false := by
  apply hasMember_false_of_forall
  intro d hd
  obtain ⟨m, hm, rfl⟩ := List.mem_map.1 hd
  exact h m hm

theorem firstMime_none_of_noMember {ms : List AMember} (h : NoMember nMimetype ms) :
    firstMime (ms.map AMember.toMember) = none := by
  rw [firstMime_eq_none]
  intro d hd
  obtain ⟨m, hm, rfl⟩ := List.mem_map.1 hd
  exact mimeVerdict_none_of_name (h m hm)

/-! ### the EPUB reader's gate -/

theorem epubInit_eq (ms : List AMember) (rest : Bool) :
    epubInit ms rest = if archiveDRM ms then .drm else if rest then .ok else .structure := by
  unfold epubInit; rfl

theorem epubOpen_some (ms : List AMember) (rest : Bool) : epubOpen (some ms) rest = epubInit ms rest := rfl

theorem epubOpen_ok_iff (zip : Option (List AMember)) (rest : Bool) :
    epubOpen zip rest = .ok ↔ ∃ ms, zip = some ms ∧ archiveDRM ms = false ∧ rest = true := by
  cases zip with
  | none => simp [epubOpen]
  | some ms =>
    rw [epubOpen_some, epubInit_eq]
    cases hd : archiveDRM ms <;> cases rest <;> simp [hd]

theorem epubOpen_drm_iff (zip : Option (List AMember)) (rest : Bool) :
    epubOpen zip rest = .drm ↔ ∃ ms, zip = some ms ∧ archiveDRM ms = true := by
  cases zip with
  | none => simp [epubOpen]
  | some ms =>
    rw [epubOpen_some, epubInit_eq]
    cases hd : archiveDRM ms <;> cases rest <;> simp [hd]

/-! ### the cross-check and the reader switch -/

/-- what follows the cross-check in `ensureReader`: its three refusals, or the reader switch —
the EPUB reader (whose answer is `ep`) with its gate, any other reader as `acc` decides.
`admitFile` and its byte-exact counterpart in `Model/DetectBytes.lean` differ only in the
sniffer and the EPUB reader they call. -/
def admitWith (a : Detect.Admit) (ep : EpubOpen) (acc : Format → Bool) : Except Outcome Format :=
  match a with
  | .detectFailed => .error .detectFailed
  | .mismatch => .error .mismatch
  | .unsupported => .error .unsupported
  | .proceed f =>
    if f = .epub then
      match ep with
      | .ok => .ok f
      | .drm => .error .drm
      | _ => .error .readerFailed
    else if acc f then .ok f
    else .error .readerFailed

theorem admitFile_file (extF : Format) (head : Str) (zip : Option (List AMember)) (acc : Format → Bool) :
    admitFile extF (.file head zip acc) =
      admitWith (Detect.ensureReader extF (detectFile head zip)) (epubOpen zip (acc .epub)) acc := by
  simp only [admitFile, admitWith]
  cases Detect.ensureReader extF (detectFile head zip) <;> rfl

theorem admitWith_ok {a : Detect.Admit} {ep : EpubOpen} {acc : Format → Bool} {f : Format}
    (h : admitWith a ep acc = .ok f) : a = .proceed f ∧ (f = .epub → ep = .ok) := by
  revert h
  -- of the eight ways through the switch two succeed: the EPUB reader opens, or `acc` accepts another format
  fun_cases admitWith a ep acc <;> intro h <;> cases h
  case case4 => exact ⟨rfl, fun _ => rfl⟩
  case case7 hg _ => exact ⟨rfl, fun he => absurd he hg⟩

/-- the errors are errors of the cross-check or of a reader -/
theorem admitWith_error {a : Detect.Admit} {ep : EpubOpen} {acc : Format → Bool} {o : Outcome}
    (h : admitWith a ep acc = .error o) : o ≠ .reached ∧ o ≠ .nilReader ∧ o ≠ .notPdf := by
  revert h
  fun_cases admitWith a ep acc <;> intro h <;> cases h <;> decide

/-- what `admitFile` accepts: the format the name asks for, on a regular file that the
sniffer classifies as that format or not at all and, for an EPUB, that passes the DRM gate -/
theorem admitFile_ok {extF f : Format} {fs : FileState} (h : admitFile extF fs = .ok f) :
    f = extF ∧ extF ≠ .unknown ∧ ∃ head zip acc, fs = .file head zip acc ∧
      (detectFile head zip = some extF ∨ detectFile head zip = some .unknown) ∧
      (extF = .epub → ∃ ms, zip = some ms ∧ archiveDRM ms = false) := by
  cases fs with
  | missing => cases h
  | unreadable => cases h
  | file head zip acc =>
    rw [admitFile_file] at h
    obtain ⟨hE, hep⟩ := admitWith_ok h
    obtain ⟨hg, hne, hdet⟩ := ensureReader_proceed hE
    subst hg
    refine ⟨rfl, hne, head, zip, acc, rfl, hdet, fun he => ?_⟩
    obtain ⟨ms, hz, hd, _⟩ := (epubOpen_ok_iff _ _).1 (hep he)
    exact ⟨ms, hz, hd⟩

theorem admitFile_error_out {extF : Format} {fs : FileState} {o : Outcome} (h : admitFile extF fs = .error o) :
    o ≠ .reached ∧ o ≠ .nilReader ∧ o ≠ .notPdf := by
  cases fs with
  | missing => cases h; decide
  | unreadable => cases h; decide
  | file head zip acc => rw [admitFile_file] at h; exact admitWith_error h

/-! ### extractor values: construction, `clone`, `Close` -/

/-- what every reachable extractor value satisfies -/
structure Ext.WF (e : Ext) : Prop where
  /-- `readerOpened` says whether a reader field is set -/
  opened_reader : e.opened = e.reader.isSome
  owns_opened : e.owns = true → e.opened = true
  /-- an extractor with a file name got its format from that name, … -/
  named_format : e.name ≠ [] → e.format = detect e.name
  /-- … owns the reader it holds, … -/
  named_owns : e.name ≠ [] → e.opened = true → e.owns = true
  /-- … and that reader was opened on bytes that passed `validateFormat` and the
  reader's own gate at that moment -/
  checked : e.name ≠ [] → ∀ r, e.reader = some r →
    ∃ fs, r.src = some fs ∧ admitFile e.format fs = .ok r.fmt

theorem openExt_wf (name : Str) : (openExt name).WF :=
  ⟨rfl, by simp [openExt], fun _ => rfl, by simp [openExt], by simp [openExt]⟩

theorem fromHTML_wf (ok : Bool) : (fromHTML ok).WF := by
  cases ok <;> exact ⟨rfl, by simp [fromHTML], by simp [fromHTML], by simp [fromHTML], by simp [fromHTML]⟩

theorem fromReader_wf : fromReader.WF :=
  ⟨rfl, by simp [fromReader], by simp [fromReader], by simp [fromReader], by simp [fromReader]⟩

theorem reset_wf {e : Ext} (h : e.WF) :
    ({ e with reader := none, owns := false, opened := false } : Ext).WF :=
  ⟨rfl, by simp, h.named_format, by simp, by simp⟩

/-- what the configuration methods and `Close` keep of an extractor value: file name and format,
well-formedness, and holding no reader -/
structure Ext.Kept (e e' : Ext) : Prop where
  name : e'.name = e.name
  format : e'.format = e.format
  wf : e.WF → e'.WF
  unopened : e.opened = false → e'.opened = false

theorem Ext.Kept.refl (e : Ext) : e.Kept e := ⟨rfl, rfl, id, id⟩

theorem reset_kept (e : Ext) : e.Kept { e with reader := none, owns := false, opened := false } :=
  ⟨rfl, rfl, reset_wf, fun _ => rfl⟩

theorem clone_kept (e : Ext) : e.Kept e.clone := by
  unfold Ext.clone
  split
  · exact .refl e
  · exact reset_kept e

theorem derive_kept (e : Ext) (bad : Bool) : e.Kept (e.derive bad) := by
  have hc := clone_kept e
  unfold Ext.derive
  cases bad
  · exact hc
  · exact ⟨hc.name, hc.format, fun h => let w := hc.wf h
      ⟨w.opened_reader, w.owns_opened, w.named_format, w.named_owns, w.checked⟩, hc.unopened⟩

theorem close_kept (e : Ext) : e.Kept e.close := by
  -- `Close`: an owned reader is released (1); nothing is held (2) or it is not the extractor's (3): no change
  fun_cases Ext.close e
  · exact reset_kept e
  · exact .refl e
  · exact .refl e

/-- the extractor an operation leaves behind: closed (by the deferred `Close`, or by the
early one of `ensurePDFReader`) or as `ensureReader` delivered it -/
theorem ite_close_kept (c : Bool) (e1 : Ext) : e1.Kept (if c then e1.close else e1) := by
  cases c
  · exact .refl e1
  · exact close_kept e1

theorem close_of_unopened {e : Ext} (h : e.WF) (ho : e.opened = false) : e.close = e := by
  fun_cases Ext.close e
  case case1 _ r hr => have := h.opened_reader; rw [ho, hr] at this; cases this
  all_goals rfl

/-- a reader that a named extractor opened from its file is closed by `Close` -/
theorem close_named_unopened {e : Ext} (h : e.WF) (hn : e.name ≠ []) : e.close.opened = false := by
  fun_cases Ext.close e
  case case1 => rfl
  case case2 _ hr =>
    have := h.opened_reader
    rwa [hr] at this
  case case3 hw =>
    cases ho : e.opened with
    | false => rfl
    | true => exact absurd (h.named_owns hn ho) hw

theorem close_named_released {e : Ext} (h : e.WF) (hn : e.name ≠ []) :
    e.close.opened = false ∧ e.close.reader = none ∧ e.close.owns = false := by
  have ho := close_named_unopened h hn
  have hw := (close_kept e).wf h
  refine ⟨ho, ?_, ?_⟩
  · have := hw.opened_reader
    rw [ho] at this
    cases hr : e.close.reader with
    | none => rfl
    | some r => rw [hr] at this; cases this
  · cases hown : e.close.owns with
    | false => rfl
    | true => have := hw.owns_opened hown; rw [ho] at this; cases this

/-- the reader an operation's body runs on -/
theorem bodyOn_of_opened {e : Ext} (h : e.WF) (ho : e.opened = true) :
    ∃ r, e.reader = some r ∧ bodyOn e = { out := .reached, on := some r } := by
  have := h.opened_reader
  rw [ho] at this
  cases hr : e.reader with
  | none => rw [hr] at this; cases this
  | some r => exact ⟨r, rfl, by simp [bodyOn, hr]⟩

/-- the reader a named extractor holds is of the format its name asks for -/
theorem reader_fmt_of_named {e : Ext} (h : e.WF) (hn : e.name ≠ []) {r : RInfo} (hr : e.reader = some r) :
    r.fmt = e.format := by
  obtain ⟨fs, _, hadm⟩ := h.checked hn r hr
  exact (admitFile_ok hadm).1

/-! ### `ensureReader` and the test of `ensurePDFReader` -/

theorem ensureReader_wf {e e1 : Ext} {cur : FileState} (h : e.WF) (he : e.ensureReader cur = .ok e1) :
    e1.WF ∧ e1.opened = true ∧ e1.name = e.name ∧ e1.format = e.format ∧ e1.err = e.err ∧
      (e.opened = true → e1 = e) ∧
      (e.opened = false → e.name ≠ [] ∧ ∃ f, admitFile e.format cur = .ok f ∧ e1.reader = some ⟨f, some cur⟩) := by
  revert he
  -- of the four ways through `ensureReader` two succeed: a reader is held already, or `admitFile` accepts
  fun_cases Ext.ensureReader e cur <;> intro he <;> cases he
  case case1 ho => exact ⟨h, ho, rfl, rfl, rfl, fun _ => rfl, fun hf => by rw [ho] at hf; cases hf⟩
  case case4 ho hn f ha =>
    have hne : e.name ≠ [] := fun h0 => hn (by rw [h0]; rfl)
    refine ⟨⟨rfl, fun _ => rfl, h.named_format, fun _ _ => rfl, ?_⟩, rfl, rfl, rfl, rfl, fun h1 => absurd h1 ho,
      fun _ => ⟨hne, f, ha, rfl⟩⟩
    intro _ r hr
    cases hr
    exact ⟨cur, rfl, ha⟩

theorem ensureReader_err_nochange {e : Ext} {cur : FileState} {o : Outcome}
    (he : e.ensureReader cur = .error o) : e.opened = false := by
  unfold Ext.ensureReader at he
  by_cases ho : e.opened = true
  · rw [if_pos ho] at he; cases he
  · simpa using ho

theorem ensureReader_error_out {e : Ext} {cur : FileState} {o : Outcome}
    (he : e.ensureReader cur = .error o) : o ≠ .reached ∧ o ≠ .nilReader ∧ o ≠ .notPdf := by
  revert he
  -- two of the four ways through `ensureReader` fail: no file name, or `admitFile` refuses
  fun_cases Ext.ensureReader e cur <;> intro he <;> cases he
  case case2 => decide
  case case3 _ _ ha => exact admitFile_error_out ha

theorem ensureReader_unopened {e : Ext} (hn : e.name ≠ []) (ho : e.opened = false) (cur : FileState) :
    e.ensureReader cur =
      match admitFile e.format cur with
      | .error o => .error o
      | .ok f => .ok { e with reader := some ⟨f, some cur⟩, owns := true, opened := true } := by
  unfold Ext.ensureReader
  rw [if_neg (by rw [ho]; exact Bool.false_ne_true), if_neg (fun h => hn (List.isEmpty_iff.1 h))]
  cases admitFile e.format cur <;> rfl

theorem pdfEarly_of_named {e : Ext} (hn : e.name ≠ []) (hf : e.format ≠ .pdf) : e.pdfEarly = true := by
  unfold Ext.pdfEarly
  cases hne : e.name with
  | nil => exact absurd hne hn
  | cons _ _ => simp [hf]

theorem pdfEarly_of_unnamed {e : Ext} (hn : e.name = []) : e.pdfEarly = false := by
  unfold Ext.pdfEarly; simp [hn]

/-- `ensurePDFReader`'s test `e.format != PDF || e.reader == nil` fires on a named
extractor with an open reader only because of the format: a named PDF extractor that is
open holds the PDF reader -/
theorem not_pdf_of_refused {e1 : Ext} (hw : e1.WF) (ho : e1.opened = true) (hn : e1.name ≠ [])
    (hc : (e1.format != .pdf || e1.pdfReaderNil) = true) : e1.format ≠ .pdf := by
  intro hf
  obtain ⟨ri, hri, _⟩ := bodyOn_of_opened hw ho
  have hfmt := reader_fmt_of_named hw hn hri
  rw [hf] at hc hfmt
  simp [Ext.pdfReaderNil, hri, hfmt] at hc

/-! ### one operation -/

/-- what one operation does: facts about the new extractor value and the result -/
structure RunSpec (e : Ext) (cur : FileState) (e' : Ext) (r : Res) : Prop where
  wf : e'.WF
  name : e'.name = e.name
  format : e'.format = e.format
  not_nil : r.out ≠ .nilReader
  reached : r.out = .reached → ∃ ri, r.on = some ri ∧
    (e.name ≠ [] → ∃ fs, ri.src = some fs ∧ admitFile e.format fs = .ok ri.fmt) ∧
    (e.opened = false → ri.src = some cur)
  failed : r.out ≠ .reached → r.out ≠ .notPdf → e' = e

/-- an operation that ends before a reader is there leaves the extractor as it was -/
theorem refused_spec {e : Ext} (h : e.WF) (cur : FileState) {o : Outcome} (h1 : o ≠ .reached)
    (h2 : o ≠ .nilReader) : RunSpec e cur e { out := o } :=
  ⟨h, rfl, rfl, h2, fun hr => absurd hr h1, fun _ _ => rfl⟩

/-- the body of an operation on the reader `ensureReader` delivered, the extractor closed
afterwards or not -/
theorem body_spec {e e1 : Ext} {cur : FileState} (h : e.WF) (he : e.ensureReader cur = .ok e1) (c : Bool) :
    RunSpec e cur (if c then e1.close else e1) (bodyOn e1) := by
  obtain ⟨hw, ho, hn, hf, _, _, hnew⟩ := ensureReader_wf h he
  obtain ⟨ri, hri, hb⟩ := bodyOn_of_opened hw ho
  have K := ite_close_kept c e1
  refine ⟨K.wf hw, K.name.trans hn, K.format.trans hf, by simp [hb], ?_,
    fun hr => by simp [hb] at hr⟩
  intro _
  refine ⟨ri, by simp [hb], ?_, ?_⟩
  · intro hne
    have := hw.checked (by rw [hn]; exact hne) ri hri
    rw [hf] at this
    exact this
  · intro hcl
    obtain ⟨_, f, _, hrd⟩ := hnew hcl
    rw [hrd] at hri
    cases hri
    rfl

/-- does the frame of operation `k` look at `e.err`?  `ToMarkdown` of the six non-PDF formats
does not -/
def checksErr (f : Format) (k : TKind) : Bool := !(k == .markdown && f != .pdf && f != .unknown)

theorem run_eq (e : Ext) (cur : FileState) (k : TKind) :
    e.run cur k =
      if k = .pdfOnly ∨ k = .pdfProbe then framePdf e cur (k == .pdfOnly)
      else frame e cur (checksErr e.format k) (k != .pageCount) := by
  cases k with
  | markdown =>
    show (if e.format = .pdf ∨ e.format = .unknown then frame e cur true true else frame e cur false true) = _
    cases e.format <;> rfl
  | text => rfl
  | document => rfl
  | pdfOnly => rfl
  | pageCount => rfl
  | pdfProbe => rfl

/-- the ways through one operation on a well-formed extractor: its configuration error; an
error of `ensureReader` (no reader is held then, so the early `Close` of `ensurePDFReader`
finds nothing to release); the refusal of a PDF-only operation, behind which that early `Close`
has run if the guard `pdfEarly` put it in place; or the body, with the deferred `Close` of
every operation but `PageCount`, `IsCharacterLevel` and `IsMultiColumn` -/
theorem run_cases {e : Ext} (h : e.WF) (cur : FileState) (k : TKind) :
    e.run cur k = (e, { out := .errSet }) ∨
    (∃ o, e.ensureReader cur = .error o ∧ e.run cur k = (e, { out := o })) ∨
    (∃ e1, e.ensureReader cur = .ok e1 ∧ (k = .pdfOnly ∨ k = .pdfProbe) ∧
      (e1.format != .pdf || e1.pdfReaderNil) = true ∧
      e.run cur k = (if e.pdfEarly then e1.close else e1, { out := .notPdf })) ∨
    (∃ e1, e.ensureReader cur = .ok e1 ∧
      e.run cur k = (if k != .pageCount && k != .pdfProbe then e1.close else e1, bodyOn e1)) := by
  rw [run_eq]
  by_cases hk : k = .pdfOnly ∨ k = .pdfProbe
  · rw [if_pos hk]
    -- `framePdf`: configuration error, `ensureReader` fails, the PDF test refuses, the body
    fun_cases framePdf e cur (k == .pdfOnly)
    case case1 => exact Or.inl rfl
    case case2 _ o he =>
      refine Or.inr (Or.inl ⟨o, he, ?_⟩)
      rw [close_of_unopened h (ensureReader_err_nochange he), ite_self]
    case case3 _ e1 he hc => exact Or.inr (Or.inr (Or.inl ⟨e1, he, hk, hc, rfl⟩))
    case case4 _ e1 he hc => exact Or.inr (Or.inr (Or.inr ⟨e1, he, by rcases hk with rfl | rfl <;> rfl⟩))
  · rw [if_neg hk]
    fun_cases frame e cur (checksErr e.format k) (k != .pageCount)
    case case1 => exact Or.inl rfl
    case case2 _ o he => exact Or.inr (Or.inl ⟨o, he, rfl⟩)
    case case3 _ e1 he =>
      exact Or.inr (Or.inr (Or.inr ⟨e1, he, by cases k <;> first | rfl | exact absurd (by simp) hk⟩))

theorem run_spec {e : Ext} (h : e.WF) (cur : FileState) (k : TKind) :
    RunSpec e cur (e.run cur k).1 (e.run cur k).2 := by
  rcases run_cases h cur k with hf | ⟨o, he, hf⟩ | ⟨e1, he, _, _, hf⟩ | ⟨e1, he, hf⟩ <;> rw [hf]
  · exact refused_spec h cur (by decide) (by decide)
  · exact refused_spec h cur (ensureReader_error_out he).1 (ensureReader_error_out he).2.1
  · obtain ⟨hw, _, hn, hf', _⟩ := ensureReader_wf h he
    have K := ite_close_kept e.pdfEarly e1
    exact ⟨K.wf hw, K.name.trans hn, K.format.trans hf',
      by simp, by simp, fun _ hr => absurd rfl hr⟩
  · exact body_spec h he _

/-- the outcome of every operation on an extractor with a file name that holds no reader:
its configuration error if the operation looks at it, else the cross-check and the reader's
gate on the bytes now stored under the name, then the PDF-only test -/
theorem run_unopened (e : Ext) (hn : e.name ≠ []) (ho : e.opened = false) (cur : FileState) (k : TKind) :
    (e.run cur k).2.out =
      if e.err = true ∧ checksErr e.format k = true then .errSet
      else
        match admitFile e.format cur with
        | .error o => o
        | .ok _ => if (k = .pdfOnly ∨ k = .pdfProbe) ∧ e.format ≠ .pdf then .notPdf else .reached := by
  rw [run_eq]
  by_cases hk : k = .pdfOnly ∨ k = .pdfProbe
  · have hc : checksErr e.format k = true := by rcases hk with rfl | rfl <;> rfl
    rw [if_pos hk, hc]
    unfold framePdf
    rw [ensureReader_unopened hn ho]
    cases herr : e.err with
    | true => simp
    | false =>
      cases ha : admitFile e.format cur with
      | error o => simp
      | ok f =>
        have hf := (admitFile_ok ha).1
        subst hf
        by_cases hp : e.format = .pdf
        · simp [hp, hk, Ext.pdfReaderNil, bodyOn]
        · simp [hp, hk]
  · rw [if_neg hk]
    unfold frame
    rw [ensureReader_unopened hn ho]
    cases herr : e.err with
    | true => cases checksErr e.format k <;> cases admitFile e.format cur <;> simp [hk, bodyOn]
    | false => cases admitFile e.format cur <;> simp [hk, bodyOn]

/-- an unopened extractor whose name asks for another format than the bytes are detected
as is refused by every operation, and stays as it is.  (`e.WF` is needed since
`ensurePDFReader` closes early: the `Close` it defers finds no reader to release on an
unopened extractor only because `readerOpened` is kept in step with the reader fields.) -/
theorem run_mismatch {e : Ext} (h : e.WF) (hn : e.name ≠ []) (ho : e.opened = false)
    {head : Str} {zip : Option (List AMember)} {acc : Format → Bool} {d : Format}
    (hdet : detectFile head zip = some d) (hmis : Detect.ensureReader e.format (some d) = .mismatch)
    (k : TKind) :
    (e.run (.file head zip acc) k).1 = e ∧
      ((e.run (.file head zip acc) k).2.out = .mismatch ∨ (e.run (.file head zip acc) k).2.out = .errSet) := by
  have hadm : admitFile e.format (.file head zip acc) = .error .mismatch := by
    simp only [admitFile, hdet, hmis]
  have hout := run_unopened e hn ho (.file head zip acc) k
  rw [hadm] at hout
  have hor : (e.run (.file head zip acc) k).2.out = .mismatch ∨ (e.run (.file head zip acc) k).2.out = .errSet := by
    rw [hout]; split
    · exact Or.inr rfl
    · exact Or.inl rfl
  refine ⟨(run_spec h _ k).failed ?_ ?_, hor⟩ <;> rcases hor with h' | h' <;> rw [h'] <;> decide

/-- an operation that defers `Close` leaves a named extractor without a reader on every way
out that changes it: it closes after its body, and `ensurePDFReader` closes when it refuses
another format than PDF -/
theorem run_closes_named {e : Ext} (h : e.WF) (hn : e.name ≠ []) (cur : FileState) {k : TKind}
    (hk : k = .text ∨ k = .document ∨ k = .markdown ∨ k = .pdfOnly) :
    (e.run cur k).1.opened = false ∨ (e.run cur k).1 = e := by
  rcases run_cases h cur k with hf | ⟨o, _, hf⟩ | ⟨e1, he, _, hc, hf⟩ | ⟨e1, he, hf⟩ <;> rw [hf]
  · exact Or.inr rfl
  · exact Or.inr rfl
  · obtain ⟨hw, ho, hn1, hf1, _⟩ := ensureReader_wf h he
    have hn1' : e1.name ≠ [] := by rw [hn1]; exact hn
    have hnp : e.format ≠ .pdf := by rw [← hf1]; exact not_pdf_of_refused hw ho hn1' hc
    left
    show (if e.pdfEarly then e1.close else e1).opened = false
    rw [pdfEarly_of_named hn hnp, if_pos rfl]
    exact close_named_unopened hw hn1'
  · obtain ⟨hw, _, hn1, _⟩ := ensureReader_wf h he
    left
    show (if k != .pageCount && k != .pdfProbe then e1.close else e1).opened = false
    rw [if_pos (by rcases hk with rfl | rfl | rfl | rfl <;> rfl)]
    exact close_named_unopened hw (by rw [hn1]; exact hn)

/-! ### spellings of a container path -/

theorem pctEsc_append (keep : Nat → Bool) (a b : Str) : pctEsc keep (a ++ b) = pctEsc keep a ++ pctEsc keep b := by
  unfold pctEsc; simp

/-- a string whose characters all stay unescaped is its own percent-encoding -/
theorem pctEsc_id (keep : Nat → Bool) (s : Str) (h : ∀ c ∈ s, (isUnreservedOrSlash c || keep c) = true) :
    pctEsc keep s = s :=
  (List.flatMap_congr fun c hc => if_pos (h c hc)).trans (List.flatMap_singleton' s)

theorem pctEsc_unreserved (keep : Nat → Bool) (s : Str) (h : ∀ c ∈ s, isUnreservedOrSlash c = true) :
    pctEsc keep s = s :=
  pctEsc_id keep s fun c hc => by rw [h c hc]; rfl

theorem pctEsc_keep_all (s : Str) : pctEsc (fun _ => true) s = s :=
  pctEsc_id _ s fun _ _ => Bool.or_true _

theorem unreserved_of_lowerB (c : Nat) (h : isUnreservedOrSlash (lowerB c) = true) :
    isUnreservedOrSlash c = true := by
  unfold isUnreservedOrSlash at h ⊢
  simp only [Bool.or_eq_true, Bool.and_eq_true, decide_eq_true_eq, beq_iff_eq] at h ⊢
  unfold lowerB at h
  split at h <;> omega

theorem unreserved_of_lower (s t : Str) (hs : lower s = t) (ht : ∀ c ∈ t, isUnreservedOrSlash c = true) :
    ∀ c ∈ s, isUnreservedOrSlash c = true := by
  intro c hc
  apply unreserved_of_lowerB
  apply ht
  rw [← hs]
  unfold lower
  exact List.mem_map_of_mem hc

theorem hasSuffix_iff (s sfx : Str) : hasSuffix s sfx = true ↔ ∃ pre, s = pre ++ sfx :=
  -- `hasSuffix s sfx` unfolds to core's `sfx.isSuffixOf s`
  (List.isSuffixOf_iff_suffix (l₁ := sfx) (l₂ := s)).trans ⟨fun ⟨t, h⟩ => ⟨t, h.symm⟩, fun ⟨t, h⟩ => ⟨t, h.symm⟩⟩

theorem hasSuffix_append (a b : Str) : hasSuffix (a ++ b) b = true :=
  (hasSuffix_iff _ _).2 ⟨a, rfl⟩

theorem lower_length (s : Str) : (lower s).length = s.length := by unfold lower; simp

theorem lower_take (s : Str) (n : Nat) : lower (s.take n) = (lower s).take n := by
  unfold lower; simp [List.map_take]

theorem lower_drop (s : Str) (n : Nat) : lower (s.drop n) = (lower s).drop n := by
  unfold lower; simp [List.map_drop]

/-- the extensions of (X)HTML content documents -/
def contentExts : List Str := [sfxXhtml, sfxHtml, sfxHtm]

theorem contentExts_unreserved : ∀ x ∈ contentExts, ∀ c ∈ x, isUnreservedOrSlash c = true := by decide

/-- a URI that ends, in any letter case, in `.xhtml`, `.html` or `.htm` is a content file
for the DRM gate, whatever comes before -/
theorem isContentFile_of_ext (pre sfx : Str) (h : lower sfx ∈ contentExts) :
    isContentFile (pre ++ sfx) = true := by
  unfold isContentFile
  rw [lower_append]
  simp only [contentExts, List.mem_cons, List.not_mem_nil, or_false] at h
  rcases h with h | h | h <;> rw [h] <;> simp [hasSuffix_append]

end Tabula.Admit
