import TabulaModel.Lemmas.Layout
/-!
Lemmas about column detection in `Model/Layout.lean` (`layout/columns.go`): the assignment fold of
`createColumnsFromGaps` cell by cell, `validateColumns`, the bands of `groupFragmentsIntoLines` and their Ys,
`separate`, `detectColumns`.
-/
namespace Tabula.Layout
open List

/-- `columns[i].Fragments = append(columns[i].Fragments, f)` is core's `modify` -/
theorem appendAt_eq_modify (i : Nat) (f : Frag) (cs : List (List Frag)) :
    appendAt i f cs = cs.modify i (· ++ [f]) := by
  fun_induction appendAt i f cs with
  | case1 => exact (List.modify_nil _ _).symm
  | case2 f c cs => rfl
  | case3 i f c cs ih => rw [List.modify_succ_cons, ih]

theorem appendAt_length (i : Nat) (f : Frag) (cs : List (List Frag)) :
    (appendAt i f cs).length = cs.length := by
  rw [appendAt_eq_modify, List.length_modify]

theorem appendAt_perm (i : Nat) (f : Frag) (cs : List (List Frag)) (h : i < cs.length) :
    (appendAt i f cs).flatten.Perm (f :: cs.flatten) := by
  fun_induction appendAt i f cs with
  | case1 => cases h
  | case2 f c cs => exact perm_snoc_append c f _
  | case3 i f c cs ih => exact ((ih (Nat.lt_of_succ_lt_succ h)).append_left c).trans List.perm_middle

theorem appendAt_getElem? (j : Nat) (f : Frag) (cs : List (List Frag)) (i : Nat) :
    (appendAt j f cs)[i]? = if i = j then cs[i]?.map (· ++ [f]) else cs[i]? := by
  rw [appendAt_eq_modify, List.getElem?_modify]
  by_cases h : i = j
  · subst h; simp only [if_true]; rfl
  · rw [if_neg h]; simp only [if_neg (Ne.symm h)]; exact Option.map_id'

theorem findCol_lt (c : Rat) (bs : List (Rat × Rat)) (i : Nat) (h : findCol c bs = some i) :
    i < bs.length := by
  fun_induction findCol c bs generalizing i with
  | case1 => cases h
  | case2 l r bs _ => cases h; exact Nat.zero_lt_succ _
  | case3 l r bs _ ih =>
    obtain ⟨j, hj, rfl⟩ := Option.map_eq_some_iff.mp h
    exact Nat.succ_lt_succ (ih j hj)

theorem assignCol_lt (bs : List (Rat × Rat)) (f : Frag) (h : bs ≠ []) : assignCol bs f < bs.length := by
  unfold assignCol
  cases hf : findCol (centre f) bs with
  | some i => exact findCol_lt _ _ _ hf
  | none =>
    cases bs with
    | nil => exact absurd rfl h
    | cons b bs =>
      obtain ⟨l, r⟩ := b
      simp only
      split <;> simp

theorem foldl_appendAt_perm (g : Frag → Nat) (fs : List Frag) (cols : List (List Frag))
    (hg : ∀ f, g f < cols.length) :
    (fs.foldl (fun cols f => appendAt (g f) f cols) cols).flatten.Perm (cols.flatten ++ fs) := by
  induction fs generalizing cols with
  | nil => simp
  | cons f fs ih =>
    have h1 := ih (appendAt (g f) f cols) (by intro x; rw [appendAt_length]; exact hg x)
    have h2 := appendAt_perm (g f) f cols (hg f)
    exact h1.trans ((h2.append_right fs).trans List.perm_middle.symm)

theorem foldl_appendAt_getElem? (g : Frag → Nat) (fs : List Frag) (cols : List (List Frag)) (i : Nat) :
    (fs.foldl (fun cols f => appendAt (g f) f cols) cols)[i]? =
      cols[i]?.map (· ++ fs.filter (fun f => g f == i)) := by
  induction fs generalizing cols with
  | nil =>
    simp only [List.foldl_nil, List.filter_nil, List.append_nil]
    generalize cols[i]? = o
    cases o <;> rfl
  | cons f fs ih =>
    simp only [List.foldl_cons, ih, appendAt_getElem?, List.filter_cons]
    by_cases h : i = g f
    · have h2 : (g f == i) = true := by simp [h]
      simp only [h2, if_true, if_pos h]
      generalize cols[i]? = o
      cases o <;> simp
    · have h2 : (g f == i) = false := by
        simp only [beq_eq_false_iff_ne, ne_eq]; exact fun e => h e.symm
      simp only [h2, if_neg h, Bool.false_eq_true, if_false]

theorem foldl_appendAt_length (g : Frag → Nat) (fs : List Frag) (cols : List (List Frag)) :
    (fs.foldl (fun cols f => appendAt (g f) f cols) cols).length = cols.length :=
  List.foldlRecOn (motive := fun c => c.length = cols.length) fs _ rfl
    fun c hc f _ => (appendAt_length _ f c).trans hc

theorem boundaries_ne_nil (gs : List Gap) (a b : Rat) : boundaries gs a b ≠ [] := by
  unfold boundaries
  cases gs <;> simp

theorem boundaries_length (gs : List Gap) (a b : Rat) : (boundaries gs a b).length = gs.length + 1 := by
  simp [boundaries]

theorem createColumns_perm (gaps : List Gap) (fs : List Frag) :
    (createColumns gaps fs).flatten.Perm fs := by
  unfold createColumns
  split
  · rename_i h
    have : fs = [] := List.isEmpty_iff.mp h
    subst this; simp
  · simp only
    generalize hbs : boundaries _ _ _ = bs
    have hne : bs ≠ [] := by rw [← hbs]; exact boundaries_ne_nil _ _ _
    have := foldl_appendAt_perm (assignCol bs) fs (bs.map fun _ => [])
      (by intro f; simp only [List.length_map]; exact assignCol_lt bs f hne)
    rw [List.map_const'] at this ⊢
    rwa [List.flatten_replicate_nil, List.nil_append] at this

theorem validateStep_perm (m : Rat) (st : List (List Frag) × List Frag) (col : List Frag) :
    ((validateStep m st col).1.flatten ++ (validateStep m st col).2).Perm (st.1.flatten ++ st.2 ++ col) := by
  unfold validateStep
  split
  · rename_i h
    have : col = [] := List.isEmpty_iff.mp h
    subst this; simp
  · split
    · obtain ⟨v, p⟩ := st
      cases v with
      | nil => simp
      | cons last r =>
        -- `col` moves from behind `last` to the end
        simp only [List.flatten_cons, List.append_assoc]
        exact ((List.perm_append_comm_assoc col _ p).trans (List.perm_append_comm.append_left _)).append_left last
    · simp only [List.flatten_cons, List.append_nil]
      exact List.perm_append_comm.trans (List.Perm.of_eq (List.append_assoc _ _ _).symm)

theorem foldl_validateStep_perm (m : Rat) (cols : List (List Frag)) (st : List (List Frag) × List Frag) :
    ((cols.foldl (validateStep m) st).1.flatten ++ (cols.foldl (validateStep m) st).2).Perm
      (st.1.flatten ++ st.2 ++ cols.flatten) := by
  induction cols generalizing st with
  | nil => simp
  | cons c cols ih =>
    simp only [List.foldl_cons, List.flatten_cons]
    exact (ih _).trans (((validateStep_perm m st c).append_right cols.flatten).trans
      (List.Perm.of_eq (List.append_assoc _ _ _)))

theorem validateColumns_perm (m : Rat) (cols : List (List Frag)) :
    (validateColumns m cols).flatten.Perm cols.flatten := by
  unfold validateColumns
  simp only
  generalize hst : cols.foldl (validateStep m) ([], []) = st
  have h := foldl_validateStep_perm m cols ([], [])
  rw [hst] at h
  simp only [List.flatten_nil, List.nil_append] at h
  rw [List.flatten_append]
  have h1 : st.1.reverse.flatten.Perm st.1.flatten := (List.reverse_perm st.1).flatten
  rw [flatten_ite_isEmpty]
  exact (h1.append_right st.2).trans h

theorem validateStep_nonempty (m : Rat) (st : List (List Frag) × List Frag) (col : List Frag)
    (h : ∀ c ∈ st.1, c ≠ []) : ∀ c ∈ (validateStep m st col).1, c ≠ [] := by
  unfold validateStep
  split
  · exact h
  · next he =>
    have hne : col ≠ [] := fun e => he (e ▸ rfl)
    split
    · split
      · next last r hst =>
        rw [hst] at h
        exact List.forall_mem_cons.mpr ⟨fun e => hne (List.append_eq_nil_iff.mp e).2, (List.forall_mem_cons.mp h).2⟩
      · exact fun _ hc => nomatch hc
    · exact List.forall_mem_cons.mpr ⟨fun e => hne (List.append_eq_nil_iff.mp e).2, h⟩

theorem foldl_validateStep_nonempty (m : Rat) (cols : List (List Frag))
    (st : List (List Frag) × List Frag) (h : ∀ c ∈ st.1, c ≠ []) :
    ∀ c ∈ (cols.foldl (validateStep m) st).1, c ≠ [] :=
  List.foldlRecOn (motive := fun st => ∀ c ∈ st.1, c ≠ []) cols _ h fun st hst c _ => validateStep_nonempty m st c hst

theorem foldl_validateStep_wide (m : Rat) (cols : List (List Frag)) (vr : List (List Frag))
    (h : ∀ c ∈ cols, c ≠ [] ∧ ¬ bboxW c < m) :
    cols.foldl (validateStep m) (vr, []) = (cols.reverse ++ vr, []) := by
  induction cols generalizing vr with
  | nil => rfl
  | cons c cols ih =>
    obtain ⟨hne, hw⟩ := h c List.mem_cons_self
    have hstep : validateStep m (vr, []) c = (c :: vr, []) := by
      rw [validateStep, if_neg (by rwa [List.isEmpty_iff]), if_neg hw]; rfl
    rw [List.foldl_cons, hstep, ih _ (fun d hd => h d (List.mem_cons_of_mem _ hd)), List.reverse_cons,
      List.append_assoc]
    rfl

theorem addToBands_perm (f : Frag) (bs : List Band) :
    ((addToBands f bs).map (·.frs)).flatten.Perm (f :: (bs.map (·.frs)).flatten) := by
  fun_induction addToBands f bs with
  | case1 => exact .refl _
  | case2 b bs _ => exact perm_snoc_append b.frs f _
  | case3 b bs _ ih => exact (ih.append_left b.frs).trans List.perm_middle

theorem foldl_addToBands_perm (fs : List Frag) (bs : List Band) :
    ((fs.foldl (fun bs f => addToBands f bs) bs).map (·.frs)).flatten.Perm
      ((bs.map (·.frs)).flatten ++ fs) := by
  induction fs generalizing bs with
  | nil => simp
  | cons f fs ih =>
    exact (ih _).trans (((addToBands_perm f bs).append_right fs).trans List.perm_middle.symm)

theorem bands_perm (fs : List Frag) : (bands fs).flatten.Perm fs := by
  unfold bands
  have h1 : (((bandsUnsorted fs).mergeSort (fun a b => decide (a.y ≥ b.y))).map (·.frs)).flatten.Perm
      ((bandsUnsorted fs).map (·.frs)).flatten :=
    ((List.mergeSort_perm _ _).map _).flatten
  have h2 := foldl_addToBands_perm fs []
  simp only [List.map_nil, List.flatten_nil, List.nil_append] at h2
  exact h1.trans h2

theorem bands_split (p : List Frag → Bool) (fs : List Frag) :
    (((bands fs).filter fun l => !p l).flatten ++ ((bands fs).filter p).flatten).Perm fs := by
  rw [← List.flatten_append]
  exact (List.perm_append_comm.trans (List.filter_append_perm p (bands fs))).flatten.trans (bands_perm fs)

theorem absR_self_le_bandTol (f : Frag) : absR (f.y - f.y) ≤ bandTol f := by
  have h0 : absR (f.y - f.y) = 0 := by rw [Rat.sub_self]; decide +kernel
  rw [h0]
  -- the tolerance is at least 2
  unfold bandTol
  split
  · decide +kernel
  · next h => exact Rat.le_trans (by decide +kernel : (0 : Rat) ≤ 2) (Rat.not_lt.mp h)

theorem addToBands_ys (f : Frag) (bs : List Band) :
    (addToBands f bs).map (·.y) = bs.map (·.y) ∨
      ((addToBands f bs).map (·.y) = bs.map (·.y) ++ [f.y] ∧ ∀ b ∈ bs, f.y ≠ b.y) := by
  fun_induction addToBands f bs with
  | case1 => exact Or.inr ⟨rfl, fun _ h => (nomatch h)⟩
  | case2 b bs hc => exact Or.inl rfl
  | case3 b bs hc ih =>
    have hne : f.y ≠ b.y := fun e => hc (e ▸ absR_self_le_bandTol f)
    rcases ih with h | ⟨h, hall⟩
    · exact Or.inl (congrArg (b.y :: ·) h)
    · exact Or.inr ⟨congrArg (b.y :: ·) h, List.forall_mem_cons.mpr ⟨hne, hall⟩⟩

theorem addToBands_nodup (f : Frag) (bs : List Band) (h : (bs.map (·.y)).Nodup) :
    ((addToBands f bs).map (·.y)).Nodup := by
  rcases addToBands_ys f bs with e | ⟨e, hall⟩
  · rw [e]; exact h
  · rw [e, List.nodup_append]
    refine ⟨h, by simp, ?_⟩
    intro a ha b hb
    simp only [List.mem_singleton] at hb
    subst hb
    rcases List.mem_map.mp ha with ⟨c, hc, rfl⟩
    exact fun e' => hall c hc e'.symm

theorem foldl_addToBands_nodup (fs : List Frag) (bs : List Band) (h : (bs.map (·.y)).Nodup) :
    ((fs.foldl (fun bs f => addToBands f bs) bs).map (·.y)).Nodup :=
  List.foldlRecOn (motive := fun bs => (bs.map (·.y)).Nodup) fs _ h fun bs hb f _ => addToBands_nodup f bs hb

/-- Keys that are pairwise different leave a descending sort no freedom: any arrangement of `bs`
that is sorted by key, highest first, is the one `mergeSort` computes. -/
theorem sortedDesc_unique {α : Type} (key : α → Rat) (bs l : List α) (hn : (bs.map key).Nodup)
    (hp : l.Perm bs) (hs : l.Pairwise (fun a b => decide (key a ≥ key b) = true)) :
    l = bs.mergeSort (fun a b => decide (key a ≥ key b)) := by
  have hm := List.mergeSort_perm bs (fun a b => decide (key a ≥ key b))
  have hsorted : (bs.mergeSort (fun a b => decide (key a ≥ key b))).Pairwise
      (fun a b => decide (key a ≥ key b) = true) :=
    List.pairwise_mergeSort (le := fun a b => decide (key a ≥ key b))
      (fun a b c h1 h2 => by
        simp only [ge_iff_le, decide_eq_true_eq] at *; exact Rat.le_trans h2 h1)
      (fun a b => by
        simp only [ge_iff_le, Bool.or_eq_true, decide_eq_true_eq]; exact Rat.le_total) _
  refine List.Perm.eq_of_pairwise (le := fun a b => decide (key a ≥ key b) = true)
    ?_ hs hsorted (hp.trans hm.symm)
  intro a b ha hb h1 h2
  simp only [ge_iff_le, decide_eq_true_eq] at h1 h2
  exact nodup_map_inj key bs hn a (hp.subset ha) b (hm.subset hb) (Rat.le_antisymm h2 h1)

theorem separate_perm (isSpan keep : List Frag → List Frag → Bool) (fs : List Frag) :
    ((separate isSpan keep fs).1 ++ (separate isSpan keep fs).2).Perm fs := by
  unfold separate
  simp only
  split
  · exact bands_split (isSpan fs) fs
  · rw [List.append_assoc]
    exact ((bands_split _ _).append_left _).trans (bands_split (isSpan fs) fs)

theorem detectColumns_perm (gaps : List Gap) (m : Rat) (isSpan keep : List Frag → List Frag → Bool)
    (fs : List Frag) : (detectColumns gaps m isSpan keep fs).all.Perm fs := by
  unfold detectColumns ColumnLayout.all
  split
  · rename_i h; rw [List.isEmpty_iff.mp h]; simp
  · split
    · simp
    · simp only
      have h1 := validateColumns_perm m (createColumns gaps (separate isSpan keep fs).1)
      have h2 := createColumns_perm gaps (separate isSpan keep fs).1
      exact ((h1.trans h2).append_right _).trans (separate_perm isSpan keep fs)

end Tabula.Layout
