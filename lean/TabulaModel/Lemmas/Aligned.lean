import TabulaModel.Lemmas.SplitScans
import TabulaModel.Lemmas.Conserve
/-!
C13: what conservation of the non-whitespace characters by `SplitToSize` rests on for ANY
bytes (ill-formed UTF-8 included).  A split point is never strictly inside a well-formed
character (`NotCovered`), hence the rune scan, which is the scan of `stripWs`, passes through it
(`Aligned`), hence `stripWs`, and every other reading of a string that follows the scan
(`Reads`), distributes over the cut.  The ill-formed bytes of a string are such a reading
(`illFormed`), empty exactly on valid UTF-8: whatever conserves every reading keeps UTF-8 valid.
-/
set_option linter.unusedVariables false
namespace Tabula.Split

/-- no well-formed character of `s` has position `p` strictly inside it -/
def NotCovered (s : Str) (p : Nat) : Prop := ∀ q, q < p → ¬ (p < q + charLen (s.drop q))

theorem notCovered_zero (s : Str) : NotCovered s 0 := fun q h => absurd h (Nat.not_lt_zero _)

theorem notCovered_of_ge (s : Str) (p : Nat) (h : s.length ≤ p) : NotCovered s p := by
  intro q hq hc
  have := charLen_le_length (s.drop q)
  simp only [List.length_drop] at this
  omega

theorem notCovered_of_runeStart (s : Str) (p b : Nat) (hb : s[p]? = some b) (hr : runeStart b = true) :
    NotCovered s p := by
  intro q hq hc
  obtain ⟨c, hc1, hc2⟩ := drop_cont s q p hq hc
  rw [hb] at hc1; cases hc1
  exact isCont_not_runeStart hc2 hr

theorem notCovered_after_ascii (s : Str) (i b : Nat) (hb : s[i]? = some b) (hlt : b < 0x80) :
    NotCovered s (i + 1) := by
  intro q hq hc
  by_cases e : q = i
  · subst e
    have hl : q < s.length := (List.getElem?_eq_some_iff.mp hb).1
    have hd : s.drop q = b :: s.drop (q + 1) := by
      rw [List.drop_eq_getElem_cons hl]
      have := (List.getElem?_eq_some_iff.mp hb).2
      rw [this]
    rw [hd, charLen_one hlt] at hc
    omega
  · obtain ⟨c, hc1, hc2⟩ := drop_cont s q i (by omega) (by omega)
    rw [hb] at hc1; cases hc1
    have := isCont_ge hc2
    omega

/-- The scan that reads one rune (`utf8.DecodeRuneInString`) after the other passes through
position `p`.  `stripWs` scans this way: a White_Space pattern is the rune at the head
(`runeLen_of_spaceLen`). -/
inductive Aligned : Str → Nat → Prop
  | zero (s : Str) : Aligned s 0
  | next {s : Str} {p : Nat} : s ≠ [] → Aligned (s.drop (runeLen s)) p → Aligned s (runeLen s + p)

theorem Aligned.trans {s : Str} {p q : Nat} (h1 : Aligned s p) (h2 : Aligned (s.drop p) q) :
    Aligned s (p + q) := by
  induction h1 with
  | zero s => simpa using h2
  | @next s p hs _ ih =>
    rw [Nat.add_assoc]
    exact .next hs (ih (by rwa [List.drop_drop]))

/-- A reading given by a head function, `f s = hd s ++ f (s.drop (runeLen s))`, whose head does
not change when the string is cut behind the rune at the head, distributes over every cut the
scan passes through. -/
theorem Aligned.reads_of_step {f hd : Str → Str} (hnil : f [] = [])
    (hstep : ∀ s, s ≠ [] → f s = hd s ++ f (s.drop (runeLen s)))
    (htake : ∀ s n, runeLen s ≤ n → hd (s.take n) = hd s)
    {s : Str} {p : Nat} (h : Aligned s p) : f s = f (s.take p) ++ f (s.drop p) := by
  induction h with
  | zero s => simp [hnil]
  | @next s p hs _ ih =>
    have hk := runeLen_pos s
    have hkl := runeLen_le_length s hs
    have htne : s.take (runeLen s + p) ≠ [] := by
      intro e
      have := congrArg List.length e
      have hpos : 0 < s.length := List.length_pos_iff.mpr hs
      simp only [List.length_take, List.length_nil] at this
      omega
    have hdt : (s.take (runeLen s + p)).drop (runeLen s) = (s.drop (runeLen s)).take p := by
      rw [List.drop_take]
      congr 1
      omega
    rw [hstep s hs, hstep _ htne, htake s _ (by omega), runeLen_take s _ (by omega), hdt,
      ← List.drop_drop, ih, List.append_assoc]

/-- a position no well-formed character covers is passed by the scan -/
theorem aligned_of_notCovered (p : Nat) : ∀ s : Str, p ≤ s.length → NotCovered s p → Aligned s p := by
  induction p using Nat.strongRecOn with
  | _ p ih =>
    intro s hp hn
    by_cases h0 : p = 0
    · subst h0; exact .zero s
    · have hs : s ≠ [] := by
        intro e; subst e; simp at hp; exact h0 hp
      have hk := runeLen_pos s
      -- the rune at the head is one ill-formed byte or a character, which does not cover `p`
      have hkp : runeLen s ≤ p := by
        unfold runeLen
        split
        · omega
        · have := hn 0 (by omega)
          rw [List.drop_zero] at this
          omega
      have hrec : Aligned (s.drop (runeLen s)) (p - runeLen s) := by
        apply ih (p - runeLen s) (by omega)
        · simp only [List.length_drop]; omega
        · intro q hq hc
          rw [List.drop_drop] at hc
          exact hn (runeLen s + q) (by omega) (by omega)
      have e : p = runeLen s + (p - runeLen s) := by omega
      rw [e]
      exact .next hs hrec

theorem backToStart_le (s : Str) (i k : Nat) : backToStart s i k ≤ i := by
  induction k generalizing i with
  | zero => exact Nat.le_refl _
  | succ n ih =>
    unfold backToStart
    split
    · omega
    · split
      · split
        · exact Nat.le_refl _
        · exact Nat.le_trans (ih (i - 1)) (Nat.sub_le _ _)
      · exact Nat.le_refl _

theorem notCovered_charLen (s : Str) : NotCovered s (charLen s) := by
  intro q hq hc
  by_cases e : q = 0
  · subst e; rw [List.drop_zero] at hc; omega
  · obtain ⟨b, hb1, hb2⟩ := drop_cont s 0 q (by omega) (by rw [List.drop_zero]; omega)
    obtain ⟨b', hb1', hb2'⟩ := drop_head s q (by omega)
    rw [hb1] at hb1'; cases hb1'
    exact isCont_not_runeStart hb2 hb2'

theorem notCovered_runeBoundaryNear (s : Str) (pos : Nat) : NotCovered s (runeBoundaryNear s pos) := by
  unfold runeBoundaryNear
  by_cases h0 : pos = 0 ∨ pos ≥ s.length
  · rw [if_pos h0]
    rcases h0 with rfl | h
    · exact notCovered_zero s
    · exact notCovered_of_ge s pos h
  · rw [if_neg h0]
    have hpos : pos < s.length := by omega
    have hb : s[pos]? = some s[pos] := List.getElem?_eq_getElem hpos
    rw [hb]
    simp only
    cases hr : runeStart s[pos]
    · simp only [Bool.false_eq_true, if_false]
      by_cases hcov : ∃ q, q < pos ∧ pos < q + charLen (s.drop q)
      · obtain ⟨q, hq1, hq2⟩ := hcov
        rw [backToStart_char s q pos hq1 hq2]
        have hn : charLen (s.drop q) ≠ 0 := by omega
        have hsz : runeLen (s.drop q) = charLen (s.drop q) := by
          unfold runeLen; rw [if_neg hn]
        rw [hsz, if_neg (by omega)]
        by_cases hq0 : q > 0
        · rw [if_pos hq0]
          obtain ⟨a, ha1, ha2⟩ := drop_head s q hn
          exact notCovered_of_runeStart s q a ha1 ha2
        · rw [if_neg hq0]
          have : q = 0 := by omega
          subst this
          rw [List.drop_zero] at hn ⊢
          exact notCovered_charLen s
      · have hnc : NotCovered s pos := fun q hq hc => hcov ⟨q, hq, hc⟩
        have hst := backToStart_le s (pos - 1) 2
        generalize backToStart s (pos - 1) 2 = start at hst ⊢
        by_cases hle : start + runeLen (s.drop start) ≤ pos
        · rw [if_pos hle]; exact hnc
        · exfalso
          by_cases hc : charLen (s.drop start) = 0
          · have : runeLen (s.drop start) = 1 := by simp [runeLen, hc]
            omega
          · have : runeLen (s.drop start) = charLen (s.drop start) := by simp [runeLen, hc]
            exact hcov ⟨start, by omega, by omega⟩
    · simp only [if_true]
      exact notCovered_of_runeStart s pos _ hb hr

theorem notCovered_of_drop_ascii (s : Str) (T k b q : Nat)
    (e : q = T + k + 1) (hb : (s.drop T)[k]? = some b) (hlt : b < 0x80) : NotCovered s q := by
  subst e
  rw [List.getElem?_drop] at hb
  exact notCovered_after_ascii s (T + k) b hb hlt

theorem notCovered_findWordBoundaryNear (s : Str) (T : Nat) : NotCovered s (findWordBoundaryNear s T) := by
  unfold findWordBoundaryNear
  split
  · exact notCovered_of_ge s _ (Nat.le_refl _)
  · simp only
    split
    · rename_i hp
      obtain ⟨j, b, e, hb, hlt⟩ := findWordBoundaryBefore_spec s T hp
      rw [e]; exact notCovered_after_ascii s j b hb hlt
    · split
      · rename_i q hq
        obtain ⟨k, b, e, hb, hlt⟩ := wordFwd_spec _ _ _ _ hq
        exact notCovered_of_drop_ascii s T k b q e hb hlt
      · exact notCovered_runeBoundaryNear s T

theorem notCovered_findSentenceEndNear (s : Str) (T : Nat) : NotCovered s (findSentenceEndNear s T) := by
  unfold findSentenceEndNear
  split
  · exact notCovered_of_ge s _ (Nat.le_refl _)
  · split
    · rename_i p hp
      split at hp
      · simp at hp
      · obtain ⟨-, -, b, hb, hlt⟩ := sentBack_spec s _ _ p hp
        exact notCovered_of_runeStart s p b hb (runeStart_of_lt hlt)
    · simp only
      split
      · rename_i hp
        obtain ⟨j, b, e, hb, hlt⟩ := findWordBoundaryBefore_spec s T hp
        rw [e]; exact notCovered_after_ascii s j b hb hlt
      · split
        · rename_i q hq
          obtain ⟨k, b, e, hb, hlt⟩ := sentFwd_spec _ _ _ _ hq
          exact notCovered_of_drop_ascii s T k b q e hb hlt
        · exact notCovered_findWordBoundaryNear s T

theorem wsOnly_head (r : Str) (hr : WsOnly r) (hne : r ≠ []) : ∃ b, r[0]? = some b ∧ runeStart b = true := by
  cases hr with
  | nil => exact absurd rfl hne
  | @cons c t hc _ =>
    have h0 : spaceLen c ≠ 0 := by
      rw [hc.2]; exact Nat.ne_of_gt (List.length_pos_iff.mpr hc.1)
    have e := charLen_of_spaceLen c h0
    obtain ⟨b, hb1, hb2⟩ := charLen_head c (by rw [e]; exact h0)
    refine ⟨b, ?_, hb2⟩
    have hl : 0 < c.length := List.length_pos_iff.mpr hc.1
    rw [List.getElem?_append_left hl]; exact hb1

/-- A reading `f` of the characters of a byte string that follows the scan of `stripWs`: it
ignores white space in front and distributes over every cut the scan passes through.  `stripWs`
is one; what Go's `range` sees of a string, white space dropped, is another (`Overlap.content`). -/
structure Reads (f : Str → Str) : Prop where
  nil : f [] = []
  wsOnly_append : ∀ {g : Str}, WsOnly g → ∀ x, f (g ++ x) = f x
  aligned : ∀ {s : Str} {p : Nat}, Aligned s p → f s = f (s.take p) ++ f (s.drop p)

theorem Reads.wsOnly {f : Str → Str} (hf : Reads f) {g : Str} (hg : WsOnly g) : f g = [] := by
  have := hf.wsOnly_append hg []
  rwa [List.append_nil, hf.nil] at this

/-- A reading is given by what it reads of the rune at the head, `f s = hd s ++ f (s.drop (runeLen s))`,
where `hd` looks at that rune only and reads nothing of a White_Space character. -/
theorem Reads.of_step {f hd : Str → Str} (hnil : f [] = [])
    (hstep : ∀ s, s ≠ [] → f s = hd s ++ f (s.drop (runeLen s)))
    (htake : ∀ s n, runeLen s ≤ n → hd (s.take n) = hd s)
    (hws : ∀ s, spaceLen s ≠ 0 → hd s = []) : Reads f := by
  refine ⟨hnil, fun {g} hg x => ?_, Aligned.reads_of_step hnil hstep htake⟩
  induction hg with
  | nil => rfl
  | @cons c s hc _ ih =>
    have e := spaceLen_wsChar_append hc (s ++ x)
    have hpos : 0 < c.length := List.length_pos_iff.mpr hc.1
    rw [List.append_assoc, hstep _ (by simp [hc.1]), hws _ (by omega), runeLen_of_spaceLen _ (by omega),
      e, List.drop_left]
    exact ih

/-- … hence over every cut no well-formed character covers -/
theorem Reads.cut {f : Str → Str} (hf : Reads f) (s : Str) (p : Nat) (hn : NotCovered s p) :
    f s = f (s.take p) ++ f (s.drop p) := by
  by_cases hp : p ≤ s.length
  · exact hf.aligned (aligned_of_notCovered p s hp hn)
  · rw [List.take_of_length_le (by omega), List.drop_eq_nil_of_le (by omega), hf.nil, List.append_nil]

/-- a cut in front of an ASCII byte is never inside a character, whatever precedes it -/
theorem Reads.before_ascii {f : Str → Str} (hf : Reads f) (A : Str) (b : Nat) (rest : Str)
    (hb : b < 0x80) : f (A ++ b :: rest) = f A ++ f (b :: rest) := by
  have hn : NotCovered (A ++ b :: rest) A.length :=
    notCovered_of_runeStart _ _ b (by rw [List.getElem?_append_right (Nat.le_refl _)]; simp)
      (runeStart_of_lt hb)
  have := hf.cut _ _ hn
  rwa [List.take_left, List.drop_left] at this

/-- an ASCII white-space separator between two strings contributes nothing and keeps them
apart, whatever their bytes -/
theorem Reads.sep {f : Str → Str} (hf : Reads f) (a : Str) {b : Nat} {t : Str} (hb : b < 0x80)
    (hs : WsOnly (b :: t)) (x : Str) : f (a ++ (b :: t) ++ x) = f a ++ f x := by
  rw [List.append_assoc, List.cons_append, hf.before_ascii a b _ hb, ← List.cons_append,
    hf.wsOnly_append hs]

/-- … put only behind a non-empty string, as the joining loops do -/
theorem Reads.sep_ite {f : Str → Str} (hf : Reads f) (a : Str) {b : Nat} {t : Str} (hb : b < 0x80)
    (hs : WsOnly (b :: t)) (x : Str) :
    f ((if a ≠ [] then a ++ (b :: t) else a) ++ x) = f a ++ f x := by
  split
  · exact hf.sep a hb hs x
  · rename_i h
    rw [Decidable.not_not.mp h, List.nil_append, hf.nil, List.nil_append]

/-- the paragraphs of a page joined by blank lines carry what the paragraphs carry -/
theorem reads_joinParagraphs {f : Str → Str} (hf : Reads f) (paras : List Str) :
    f (joinParagraphs paras) = paras.flatMap f := by
  have := foldl_content (P := fun content acc => f acc = content) (Q := fun _ => True) (g := f)
    (step := fun acc p => (if acc = [] then acc else acc ++ [10, 10]) ++ p)
    (fun content acc p _ hc => by
      have e := hf.sep_ite acc (by decide) wsOnly_nlnl p
      rw [ite_not] at e
      rw [e, hc])
    paras [] [] (fun _ _ => trivial) hf.nil
  rwa [List.nil_append] at this

/-- `strings.TrimSpace` removes nothing that `f` reads, whatever the bytes -/
theorem Reads.trim {f : Str → Str} (hf : Reads f) (x : Str) : f (trimSpace x) = f x := by
  obtain ⟨l, r, hl, hr, e⟩ := trimSpace_decomp x
  have hcut : NotCovered (trimSpace x ++ r) (trimSpace x).length := by
    by_cases hne : r = []
    · subst hne; exact notCovered_of_ge _ _ (by simp)
    · obtain ⟨b, hb1, hb2⟩ := wsOnly_head r hr hne
      apply notCovered_of_runeStart _ _ b _ hb2
      rw [List.getElem?_append_right (Nat.le_refl _)]
      simpa using hb1
  have h1 := hf.cut _ _ hcut
  rw [List.take_left, List.drop_left, hf.wsOnly hr, List.append_nil] at h1
  conv => rhs; rw [e, List.append_assoc, hf.wsOnly_append hl, h1]

theorem Reads.emit {f : Str → Str} (hf : Reads f) (x : Str) : (emit x).flatMap f = f x := by
  rw [← hf.trim x]
  unfold Split.emit
  split
  · rename_i h; rw [h, hf.nil]; rfl
  · simp

theorem reads_stripWs : Reads stripWs :=
  .of_step (hd := fun s => if spaceLen s ≠ 0 then [] else s.take (runeLen s)) stripWs_nil stripWs_step
    (fun s n hn => by
      simp only [spaceLen_take s n hn, runeLen_take s n hn, List.take_take, Nat.min_eq_left hn])
    (fun _ h => if_pos h)

theorem stripWs_cut (s : Str) (p : Nat) (hn : NotCovered s p) :
    stripWs s = stripWs (s.take p) ++ stripWs (s.drop p) :=
  reads_stripWs.cut s p hn

/-- `strings.TrimSpace` removes no non-whitespace character, whatever the bytes -/
theorem stripWs_trimSpace_any (x : Str) : stripWs (trimSpace x) = stripWs x :=
  reads_stripWs.trim x

/-- the scan of a string with a valid prefix passes through the end of the prefix -/
theorem aligned_valid_prefix (a b : Str) (hv : validUtf8 a = true) : Aligned (a ++ b) a.length := by
  induction a using validUtf8.induct with
  | case1 => exact .zero _
  | case2 x hx h0 => rw [validUtf8_bad x hx h0] at hv; exact Bool.noConfusion hv
  | case3 x hx h0 ih =>
    rw [validUtf8_step x h0] at hv
    have hcl : charLen (x ++ b) = charLen x := charLen_append x b h0
    have hk : runeLen (x ++ b) = charLen x := by
      unfold runeLen; rw [if_neg (by rw [hcl]; exact h0), hcl]
    have hle := charLen_le_length x
    have hne : x ++ b ≠ [] := by simp [hx]
    have hrec : Aligned ((x ++ b).drop (runeLen (x ++ b))) (x.drop (charLen x)).length := by
      rw [hk, List.drop_append_of_le_length hle]
      exact ih hv
    have e : x.length = runeLen (x ++ b) + (x.drop (charLen x)).length := by
      rw [hk, List.length_drop]; omega
    rw [e]
    exact .next hne hrec

/-- a valid UTF-8 piece contributes what `f` reads of it, whatever follows -/
theorem Reads.valid_append {f : Str → Str} (hf : Reads f) (a b : Str) (hv : validUtf8 a = true) :
    f (a ++ b) = f a ++ f b := by
  have := hf.aligned (aligned_valid_prefix a b hv)
  rwa [List.take_left, List.drop_left] at this

theorem stripWs_valid_append (p r : Str) (hv : validUtf8 p = true) :
    stripWs (p ++ r) = stripWs p ++ stripWs r :=
  reads_stripWs.valid_append p r hv

/-- **conservation**: in-order substrings with whitespace-only gaps, each valid UTF-8, carry
exactly what the text carries under every reading (for `stripWs`: its non-whitespace characters,
in order) -/
theorem Pieces.reads_eq {f : Str → Str} (hf : Reads f) {t : Str} {ps : List Str} (h : Pieces t ps)
    (hv : ∀ p ∈ ps, validUtf8 p = true) : ps.flatMap f = f t := by
  induction h with
  | done hg => rw [hf.wsOnly hg]; rfl
  | @piece g p r ps hg _ ih =>
    rw [List.append_assoc, hf.wsOnly_append hg, hf.valid_append p r (hv p (List.mem_cons_self ..)),
      List.flatMap_cons, ih (fun q hq => hv q (List.mem_cons_of_mem _ hq))]

/-- The bytes of `s` that belong to no well-formed character (each one a U+FFFD for Go's
`range`), in order.  A reading that follows the scan and is empty exactly on valid UTF-8, so
UTF-8 integrity of a function is the instance `illFormed` of its conservation theorem for every
reading. -/
def illFormed (s : Str) : Str :=
  if h : s = [] then []
  else (if charLen s = 0 then s.take 1 else []) ++ illFormed (s.drop (runeLen s))
termination_by s.length
decreasing_by
  have : 0 < s.length := List.length_pos_iff.mpr h
  have := runeLen_pos s
  simp only [List.length_drop]; omega

theorem illFormed_nil : illFormed [] = [] := by rw [illFormed]; rfl

theorem illFormed_step (s : Str) (hs : s ≠ []) :
    illFormed s = (if charLen s = 0 then s.take 1 else []) ++ illFormed (s.drop (runeLen s)) := by
  conv => lhs; rw [illFormed]
  rw [dif_neg hs]

theorem validUtf8_iff_illFormed (s : Str) : validUtf8 s = true ↔ illFormed s = [] := by
  induction s using validUtf8.induct with
  | case1 => simp [validUtf8_nil, illFormed_nil]
  | case2 x hx h0 =>
    rw [validUtf8_bad x hx h0, illFormed_step x hx, if_pos h0]
    cases x with
    | nil => exact absurd rfl hx
    | cons a r => simp
  | case3 x hx h0 ih =>
    rw [validUtf8_step x h0, illFormed_step x hx, if_neg h0, List.nil_append, runeLen, if_neg h0]
    exact ih

theorem reads_illFormed : Reads illFormed := by
  refine .of_step (hd := fun s => if charLen s = 0 then s.take 1 else []) illFormed_nil illFormed_step
    (fun s n hn => ?_) (fun s h => if_neg (by rw [charLen_of_spaceLen s h]; exact h))
  have h1 := runeLen_pos s
  by_cases hc : charLen s = 0
  · rw [charLen_take_zero s n hc, hc, if_pos rfl, if_pos rfl, List.take_take, Nat.min_eq_left (by omega)]
  · have : runeLen s = charLen s := by rw [runeLen, if_neg hc]
    rw [charLen_take s n hc (by omega), if_neg hc, if_neg hc]

theorem valid_wsOnly {g : Str} (hg : WsOnly g) : validUtf8 g = true :=
  (validUtf8_iff_illFormed g).mpr (reads_illFormed.wsOnly hg)

theorem flatMap_illFormed {ps : List Str} :
    ps.flatMap illFormed = [] ↔ ∀ p ∈ ps, validUtf8 p = true := by
  rw [List.flatMap_eq_nil_iff]
  exact forall_congr' fun p => imp_congr_right fun _ => (validUtf8_iff_illFormed p).symm

/-- pieces that carry exactly the ill-formed bytes of a valid text are valid -/
theorem valid_of_flatMap_illFormed {t : Str} {ps : List Str} (h : ps.flatMap illFormed = illFormed t)
    (hv : validUtf8 t = true) : ∀ p ∈ ps, validUtf8 p = true :=
  flatMap_illFormed.mp (h.trans ((validUtf8_iff_illFormed t).mp hv))

/-- … and pieces that carry exactly the ill-formed bytes of valid pieces are valid -/
theorem valid_of_flatMap_illFormed_eq {ps qs : List Str} (h : ps.flatMap illFormed = qs.flatMap illFormed)
    (hv : ∀ q ∈ qs, validUtf8 q = true) : ∀ p ∈ ps, validUtf8 p = true :=
  flatMap_illFormed.mp (h.trans (flatMap_illFormed.mpr hv))

/-- in valid UTF-8 a position that no character covers is a character boundary -/
theorem valid_cut {s : Str} (hv : validUtf8 s = true) {p : Nat} (hn : NotCovered s p) :
    validUtf8 (s.take p) = true ∧ validUtf8 (s.drop p) = true := by
  have h := reads_illFormed.cut s p hn
  rw [(validUtf8_iff_illFormed s).mp hv] at h
  obtain ⟨h1, h2⟩ := List.append_eq_nil_iff.mp h.symm
  exact ⟨(validUtf8_iff_illFormed _).mpr h1, (validUtf8_iff_illFormed _).mpr h2⟩

theorem valid_trimSpace (s : Str) (hv : validUtf8 s = true) : validUtf8 (trimSpace s) = true := by
  rw [validUtf8_iff_illFormed, reads_illFormed.trim]
  exact (validUtf8_iff_illFormed s).mp hv

theorem valid_drop_of_valid_take (s : Str) (hv : validUtf8 s = true) (p : Nat)
    (ht : validUtf8 (s.take p) = true) : validUtf8 (s.drop p) = true := by
  have h := reads_illFormed.valid_append (s.take p) (s.drop p) ht
  rw [List.take_append_drop, (validUtf8_iff_illFormed s).mp hv] at h
  exact (validUtf8_iff_illFormed _).mpr (List.append_eq_nil_iff.mp h.symm).2

end Tabula.Split
