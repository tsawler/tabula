import TabulaModel.Model.CMap
import TabulaModel.Lemmas.UTF16
/-!
Lemmas about the CMap model: every text a parsed CMap can return consists of scalar values
(so its UTF-8 is valid), and the lookup rule (the first range that contains the code; the direct map
read as a function when no code has two texts).
-/
namespace Tabula.CMap
open Tabula.UTF16

/-- all elements are Unicode scalar values -/
def AllScalar (l : List Nat) : Prop := ∀ x ∈ l, IsScalar x

theorem allScalar_nil : AllScalar [] := by intro x hx; simp at hx

theorem allScalar_cons {a : Nat} {l : List Nat} (ha : IsScalar a) (hl : AllScalar l) : AllScalar (a :: l) := by
  intro x hx
  rcases List.mem_cons.mp hx with h | h
  · subst h; exact ha
  · exact hl x h

theorem allScalar_append {a b : List Nat} (ha : AllScalar a) (hb : AllScalar b) : AllScalar (a ++ b) := by
  intro x hx
  rcases List.mem_append.mp hx with h | h
  · exact ha x h
  · exact hb x h

theorem hexToUnicode_scalar (h : Str) (u : List Nat) (hu : hexToUnicode h = some u) : AllScalar u := by
  unfold hexToUnicode at hu
  simp only at hu
  split at hu
  · cases hu
  · split at hu
    · exact cmapDecodeUTF16BE_scalar _ u hu
    · exact cmapDecodeUTF16BE_scalar _ u hu
    · cases hu; exact allScalar_cons (toRune_isScalar _) allScalar_nil
    · cases hu

/-! ## the parser keeps `CharsOK` -/

/-- every direct mapping of the CMap is a list of scalar values -/
def CharsOK (cm : CMap) : Prop := ∀ p ∈ cm.chars, AllScalar p.2

theorem charsOK_empty : CharsOK {} := by intro p hp; simp at hp

theorem charsOK_setChar {cm : CMap} (h : CharsOK cm) (c : Nat) (u : List Nat) (hu : AllScalar u) :
    CharsOK (cm.setChar c u) := by
  intro p hp
  simp only [CMap.setChar, List.mem_cons] at hp
  rcases hp with hp | hp
  · subst hp; exact hu
  · exact h p hp

theorem charsOK_of_chars_eq {cm cm' : CMap} (h : CharsOK cm) (e : cm'.chars = cm.chars) : CharsOK cm' := by
  intro p hp; rw [e] at hp; exact h p hp

theorem charsOK_noteWidth {cm : CMap} (h : CharsOK cm) (s : Str) : CharsOK (cm.noteWidth s) := by
  unfold CMap.noteWidth; split
  · exact charsOK_of_chars_eq h rfl
  · exact h

theorem charsOK_bfCharStep {cm : CMap} (h : CharsOK cm) (s d : Str) : CharsOK (bfCharStep s d cm) := by
  unfold bfCharStep
  split
  · exact h
  · simp only
    split
    · exact charsOK_noteWidth h s
    · split
      · exact charsOK_noteWidth h s
      · rename_i u hu
        exact charsOK_setChar (charsOK_noteWidth h s) _ u (hexToUnicode_scalar _ u hu)

theorem charsOK_bfCharPairs (l : List Str) (cm : CMap) (h : CharsOK cm) : CharsOK (bfCharPairs l cm) := by
  fun_induction bfCharPairs l cm with
  | case1 s d rest cm ih => exact ih (charsOK_bfCharStep h s d)
  | case2 l cm hne => exact h

theorem charsOK_bfRangeStep {cm : CMap} (h : CharsOK cm) (s e d : Str) : CharsOK (bfRangeStep s e d cm) := by
  unfold bfRangeStep
  split
  · exact h
  · simp only
    split
    · exact charsOK_of_chars_eq (charsOK_noteWidth h s) rfl
    · exact charsOK_noteWidth h s

theorem charsOK_bfRangeTriples (l : List Str) (cm : CMap) (h : CharsOK cm) : CharsOK (bfRangeTriples l cm) := by
  fun_induction bfRangeTriples l cm with
  | case1 s e d rest cm ih => exact ih (charsOK_bfRangeStep h s e d)
  | case2 l cm hne => exact h

theorem charsOK_arrayLoop (l : List Str) (cur stop : Nat) (cm : CMap) (h : CharsOK cm) :
    CharsOK (arrayLoop l cur stop cm) := by
  fun_induction arrayLoop l cur stop cm
  case case1 => exact h
  case case2 ih => exact ih h
  case case3 a t cur stop cm _ cm' ih =>
    apply ih
    -- the state after the element: the text, if any, is a decoded one
    show CharsOK (match hexToUnicode a with | some u => if cur ≤ stop then cm.setChar cur u else cm | none => cm)
    split
    · rename_i u hu
      split
      · exact charsOK_setChar h _ u (hexToUnicode_scalar _ u hu)
      · exact h
    · exact h

theorem charsOK_addBfRangeArray (s e : Str) (arr : List Str) (cm : CMap) (h : CharsOK cm) :
    CharsOK (addBfRangeArray s e arr cm) := by
  unfold addBfRangeArray
  split
  · exact charsOK_arrayLoop _ _ _ _ h
  · exact h

theorem charsOK_tokenStep (l l' : List Tok) (cm cm' : CMap) (h : CharsOK cm)
    (hs : tokenStep l cm = some (l', cm')) : CharsOK cm' := by
  unfold tokenStep at hs
  split at hs
  · simp only [Option.some.injEq, Prod.mk.injEq] at hs
    rw [← hs.2]; exact charsOK_bfRangeStep h _ _ _
  · split at hs
    · simp only [Option.some.injEq, Prod.mk.injEq] at hs
      rw [← hs.2]; exact charsOK_addBfRangeArray _ _ _ _ h
    · simp only [Option.some.injEq, Prod.mk.injEq] at hs
      rw [← hs.2]; exact h
  · simp only [Option.some.injEq, Prod.mk.injEq] at hs
    rw [← hs.2]; exact h
  · simp at hs

theorem charsOK_tokenLoop (f : Nat) (l : List Tok) (cm : CMap) (h : CharsOK cm) : CharsOK (tokenLoop f l cm) := by
  fun_induction tokenLoop f l cm with
  | case1 => exact h
  | case2 f l cm l' cm' hs ih => exact ih (charsOK_tokenStep l l' cm cm' h hs)
  | case3 => exact h

theorem charsOK_parseBfRangeSection (sec : Str) (cm : CMap) (h : CharsOK cm) : CharsOK (parseBfRangeSection sec cm) := by
  unfold parseBfRangeSection
  split
  · exact charsOK_tokenLoop _ _ _ h
  · exact charsOK_bfRangeTriples _ _ h

theorem charsOK_sectionsLoop (kb ke : Str) (g : Str → CMap → CMap) (hg : ∀ s cm, CharsOK cm → CharsOK (g s cm))
    (f : Nat) (content : Str) (cm : CMap) (h : CharsOK cm) : CharsOK (sectionsLoop kb ke g f content cm) := by
  fun_induction sectionsLoop kb ke g f content cm
  case case1 => exact h
  case case2 => exact h
  case case3 => exact h
  case case4 ih => exact ih (hg _ _ h)

theorem charsOK_codeSpaceLines (ls : List Str) (cm : CMap) (h : CharsOK cm) : CharsOK (codeSpaceLines ls cm) := by
  fun_induction codeSpaceLines ls cm
  case case1 => exact h
  case case2 ih => exact ih h
  case case3 => exact charsOK_of_chars_eq h rfl
  case case4 ih => exact ih h

/-- every direct mapping of a parsed CMap consists of scalar values -/
theorem charsOK_parse (data : Str) : CharsOK (parseCMapData data) := by
  unfold parseCMapData parseBfRange parseBfChar
  apply charsOK_sectionsLoop _ _ _ charsOK_parseBfRangeSection
  apply charsOK_sectionsLoop _ _ _ (fun s cm h => charsOK_bfCharPairs _ cm h)
  unfold parseCodeSpaceRange
  split
  · exact charsOK_empty
  · simp only
    split
    · exact charsOK_empty
    · exact charsOK_codeSpaceLines _ _ charsOK_empty

/-! ## lookups yield scalars -/

theorem rangeText_scalar (r : Range) (c : Nat) : AllScalar (rangeText r c) := by
  unfold rangeText
  simp only
  split
  · exact stdDecodeUnits_scalar _
  · exact allScalar_cons (toRune_isScalar _) allScalar_nil

/-- `Lookup`'s loop over the ranges is the library's `find?` -/
theorem lookupRanges_eq_find (rs : List Range) (c : Nat) :
    lookupRanges rs c =
      match rs.find? (fun r => decide (r.start ≤ c ∧ c ≤ r.stop)) with
      | some r => rangeText r c
      | none => [] := by
  induction rs with
  | nil => rfl
  | cons r rs ih =>
    rw [lookupRanges, List.find?_cons]
    by_cases h : r.start ≤ c ∧ c ≤ r.stop
    · rw [if_pos h, decide_eq_true h]
    · rw [if_neg h, decide_eq_false h, ih]

theorem lookupRanges_scalar (rs : List Range) (c : Nat) : AllScalar (lookupRanges rs c) := by
  rw [lookupRanges_eq_find]
  split
  · exact rangeText_scalar _ c
  · exact allScalar_nil

/-- no range contains the code: nothing is found -/
theorem lookupRanges_none (rs : List Range) (c : Nat)
    (h : ∀ r ∈ rs, ¬ (r.start ≤ c ∧ c ≤ r.stop)) : lookupRanges rs c = [] := by
  rw [lookupRanges_eq_find, List.find?_eq_none.mpr (by simpa using h)]

/-- the first range that contains the code decides -/
theorem lookupRanges_first (pre : List Range) (r : Range) (post : List Range) (c : Nat)
    (hpre : ∀ q ∈ pre, ¬ (q.start ≤ c ∧ c ≤ q.stop)) (hin : r.start ≤ c ∧ c ≤ r.stop) :
    lookupRanges (pre ++ r :: post) c = rangeText r c := by
  rw [lookupRanges_eq_find, List.find?_append, List.find?_eq_none.mpr (by simpa using hpre), Option.none_or,
    List.find?_cons_of_pos (by simpa using hin)]

theorem getChar_some_mem (cm : CMap) (c : Nat) (u : List Nat) (h : cm.getChar c = some u) :
    (c, u) ∈ cm.chars := by
  obtain ⟨q, hf, rfl⟩ := Option.map_eq_some_iff.mp h
  have hq : q.1 = c := by simpa using List.find?_some hf
  exact hq ▸ List.mem_of_find?_eq_some hf

theorem find_unique (l : List (Nat × List Nat)) (c : Nat) (t : List Nat) (hm : (c, t) ∈ l)
    (hu : ∀ p ∈ l, p.1 = c → p = (c, t)) : l.find? (fun p => p.1 == c) = some (c, t) := by
  cases hf : l.find? (fun p => p.1 == c) with
  | none => exact absurd (List.find?_eq_none.mp hf _ hm) (by simp)
  | some q => rw [hu q (List.mem_of_find?_eq_some hf) (by simpa using List.find?_some hf)]

theorem find_key_functional (l : List (Nat × List Nat)) (hf : ∀ a ∈ l, ∀ b ∈ l, a.1 = b.1 → a = b) (c : Nat) (u : List Nat) :
    (l.find? fun p => p.1 == c) = some (c, u) ↔ (c, u) ∈ l :=
  ⟨List.mem_of_find?_eq_some, fun hm => find_unique l c u hm (fun p hp h => hf p hp (c, u) hm h)⟩

/-- the direct map read as a function: for an association list that gives no code two texts, `getChar` is
membership -/
theorem getChar_functional (cm : CMap) (hf : ∀ a ∈ cm.chars, ∀ b ∈ cm.chars, a.1 = b.1 → a = b) (c : Nat)
    (u : List Nat) : cm.getChar c = some u ↔ (c, u) ∈ cm.chars := by
  refine ⟨getChar_some_mem cm c u, fun hm => ?_⟩
  unfold CMap.getChar
  rw [(find_key_functional cm.chars hf c u).mpr hm]
  rfl

theorem lookup_scalar (cm : CMap) (h : CharsOK cm) (c : Nat) : AllScalar (lookup cm c) := by
  unfold lookup
  split
  · rename_i u hu
    exact h (c, u) (getChar_some_mem cm c u hu)
  · exact lookupRanges_scalar _ _

theorem emit_scalar (cm : CMap) (h : CharsOK cm) (c : Nat) : AllScalar (emit cm c) := by
  unfold emit
  simp only
  split
  · exact lookup_scalar cm h c
  · split
    · exact allScalar_cons (toRune_isScalar _) allScalar_nil
    · exact allScalar_nil

theorem allScalar_flatMap {α : Type} (l : List α) (g : α → List Nat) (hg : ∀ a, AllScalar (g a)) :
    AllScalar (l.flatMap g) := by
  intro x hx
  obtain ⟨a, _, ha⟩ := List.mem_flatMap.mp hx
  exact hg a x ha

theorem lookupWidth_scalar (cm : CMap) (h : CharsOK cm) (w f : Nat) (data : List Nat) :
    AllScalar (lookupWidth cm w f data) := by
  fun_induction lookupWidth cm w f data
  case case1 => exact allScalar_nil
  case case2 => exact allScalar_nil
  case case3 => exact allScalar_flatMap _ _ (emit_scalar cm h)
  case case4 ih => exact allScalar_append (emit_scalar cm h _) ih

theorem lookupFallback_scalar (cm : CMap) (h : CharsOK cm) (data : List Nat) :
    AllScalar (lookupFallback cm data) := by
  fun_induction lookupFallback cm data with
  | case1 => exact allScalar_nil
  | case2 b u hu => exact lookup_scalar cm h b
  | case3 b u hu => exact allScalar_cons (toRune_isScalar _) allScalar_nil
  | case4 b b2 rest u1 h1 ih => exact allScalar_append (lookup_scalar cm h b) ih
  | case5 b b2 rest u1 h1 u2 h2 ih => exact allScalar_append (lookup_scalar cm h _) ih
  | case6 b b2 rest u1 h1 u2 h2 ih => exact allScalar_cons (toRune_isScalar _) ih

/-- without a code-space width `LookupString` is the fallback loop -/
theorem lookupString_fallback (cm : CMap) (hw : cm.byteWidth = 0) (data : List Nat) :
    lookupString cm data = lookupFallback cm data := by
  have he : effectiveWidth cm = 0 := by
    unfold effectiveWidth
    split <;> omega
  unfold lookupString
  rw [he, if_neg (Nat.lt_irrefl 0)]

/-- `LookupString` of a CMap whose direct mappings are scalar lists returns scalars only -/
theorem lookupString_scalar (cm : CMap) (h : CharsOK cm) (data : List Nat) : AllScalar (lookupString cm data) := by
  unfold lookupString
  split
  · exact lookupWidth_scalar cm h _ _ _
  · exact lookupFallback_scalar cm h _

end Tabula.CMap
