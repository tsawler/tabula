/-
Size bound for the model of `SplitToSize` (C13): on a text with a space at least every 50
bytes every split point lies in `1..T`, `T` the byte position of the limit, so every piece has
at most `T` bytes or is a remainder within the limit (`splitToSize_length_bound`); with a hard
maximum in characters or tokens, `M ≥ 200` and at most 4 tokens per byte that is size `≤ M`
(`C13.split_bound`).  Core Lean only.
-/
import TabulaModel.Lemmas.Split
import TabulaModel.Lemmas.SplitScans
namespace Tabula.Split

/-- every window of 50 consecutive bytes contains a space (0x20) -/
def Spaced (s : Str) : Prop := ∀ k, k + 50 ≤ s.length → ∃ j, k ≤ j ∧ j < k + 50 ∧ s[j]? = some 32

theorem trimSpace_infix (s : Str) : trimSpace s <:+: s := by
  obtain ⟨l, r, _, _, e⟩ := trimSpace_decomp s
  exact ⟨l, r, e.symm⟩

theorem Spaced.of_infix {s t : Str} (h : t <:+: s) (hs : Spaced s) : Spaced t := by
  obtain ⟨a, b, rfl⟩ := h
  intro k hk
  obtain ⟨j, h1, h2, h3⟩ := hs (a.length + k) (by simp only [List.length_append]; omega)
  obtain ⟨i, rfl⟩ : ∃ i, j = a.length + i := ⟨j - a.length, by omega⟩
  refine ⟨i, by omega, by omega, ?_⟩
  rw [List.append_assoc, List.getElem?_append_right (by omega),
    Nat.add_sub_cancel_left, List.getElem?_append_left (by omega)] at h3
  exact h3

theorem Spaced.trimSpace_drop {s : Str} (hs : Spaced s) (n : Nat) :
    Spaced (trimSpace (s.drop n)) :=
  Spaced.of_infix ((trimSpace_infix _).trans (List.drop_suffix n s).isInfix) hs

theorem wordBack_found (text : Str) :
    ∀ steps i j, j ≤ i → i + 1 ≤ j + steps → isBreakAt text j = true →
      ∃ p, wordBack text i steps = some p ∧ 1 ≤ p ∧ p ≤ i + 1 := by
  intro steps
  induction steps with
  | zero => intro i j h1 h2 _; omega
  | succ n ih =>
    intro i j h1 h2 hb
    rw [wordBack]
    split
    · exact ⟨i + 1, rfl, by omega, by omega⟩
    · rename_i hi
      have hne : j ≠ i := by intro e; subst e; exact hi hb
      rw [if_neg (by omega)]
      obtain ⟨p, hp, hp1, hp2⟩ := ih (i - 1) j (by omega) (by omega) hb
      exact ⟨p, hp, hp1, by omega⟩

theorem isBreakAt_of_space {text : Str} {j : Nat} (h : text[j]? = some 32) :
    isBreakAt text j = true := by
  simp [isBreakAt, h, isBreak]

theorem findWordBoundaryBefore_bound {text : Str} {T : Nat} (hs : Spaced text)
    (hT : 50 ≤ T) (hlen : T ≤ text.length) :
    1 ≤ findWordBoundaryBefore text T ∧ findWordBoundaryBefore text T ≤ T := by
  obtain ⟨j, h1, h2, h3⟩ := hs (T - 50) (by omega)
  obtain ⟨p, hp, hp1, hp2⟩ :=
    wordBack_found text 50 (T - 1) j (by omega) (by omega) (isBreakAt_of_space h3)
  rw [findWordBoundaryBefore, if_neg (by omega), hp]
  simp only [Option.getD_some]
  omega

theorem findSentenceEndNear_bound {text : Str} {T : Nat} (hs : Spaced text)
    (hT : 50 ≤ T) (hlen : T < text.length) :
    1 ≤ findSentenceEndNear text T ∧ findSentenceEndNear text T ≤ T := by
  have hT0 : ¬ T = 0 := by omega
  have hge : ¬ T ≥ text.length := by omega
  have hw := findWordBoundaryBefore_bound hs hT (Nat.le_of_lt hlen)
  simp only [findSentenceEndNear, if_neg hT0, if_neg hge]
  cases hsb : sentBack text (T - 1) 99 with
  | some p =>
    have := sentBack_spec text _ _ _ hsb
    simp only
    omega
  | none =>
    simp only
    rw [if_pos (by omega)]
    exact hw

theorem findSplitPointAt_nil_bound {c : SizeConfig} {text : Str} {M : Nat} {u : SizeUnit}
    (hs : Spaced text) (hT : 50 ≤ targetPosOf c M u) (hlen : targetPosOf c M u < text.length) :
    1 ≤ findSplitPointAt c text [] M u ∧ findSplitPointAt c text [] M u ≤ targetPosOf c M u := by
  have hge : ¬ targetPosOf c M u ≥ text.length := by omega
  simp only [findSplitPointAt, if_neg hge, List.isEmpty_nil, Bool.not_true, Bool.and_false,
    Bool.false_eq_true, if_false]
  exact findSentenceEndNear_bound hs hT hlen

theorem ratio_pos (c : SizeConfig) : 0 < c.ratio.1 ∧ 0 < c.ratio.2 := by
  unfold SizeConfig.ratio
  split
  · exact ⟨by decide, by decide⟩
  · rename_i h
    simp only
    omega

theorem targetPos_ge_50 {c : SizeConfig}
    (hunit : c.maxUnit = .characters ∨ c.maxUnit = .tokens)
    (hM : 200 ≤ c.maxValue) (hratio : c.ratio.1 ≤ 4 * c.ratio.2) :
    50 ≤ targetPosOf c c.maxValue c.maxUnit := by
  obtain ⟨hp, hq⟩ := ratio_pos c
  rcases hunit with h | h <;> rw [h] <;> simp only [targetPosOf]
  · omega
  · rw [Nat.le_div_iff_mul_le hp]
    have : 200 * c.ratio.2 ≤ c.maxValue * c.ratio.2 := Nat.mul_le_mul_right _ hM
    omega

/-- Characters and tokens: what the conversion of the limit to a byte position loses is on the
safe side.  A text of at most `p/q` times the byte position of the limit has at most `p/q` times
the limit in its unit. -/
theorem getSize_scaled_le {c : SizeConfig} {s : Str} {p q : Nat}
    (hunit : c.maxUnit = .characters ∨ c.maxUnit = .tokens)
    (hl : q * s.length ≤ p * targetPosOf c c.maxValue c.maxUnit) :
    q * getSize c s c.maxUnit ≤ p * c.maxValue := by
  rcases hunit with h | h <;> rw [h] at hl ⊢ <;>
    simp only [targetPosOf, getSize, estimateTokens] at hl ⊢
  · exact hl
  · -- with the ratio `n/d`: `q·L ≤ p·(M·d/n)` gives `q·(L·n) ≤ p·M·d`
    have h3 : q * (s.length * c.ratio.1) ≤ p * c.maxValue * c.ratio.2 :=
      calc q * (s.length * c.ratio.1) = q * s.length * c.ratio.1 := (Nat.mul_assoc ..).symm
        _ ≤ p * (c.maxValue * c.ratio.2 / c.ratio.1) * c.ratio.1 := Nat.mul_le_mul_right _ hl
        _ = p * (c.maxValue * c.ratio.2 / c.ratio.1 * c.ratio.1) := Nat.mul_assoc ..
        _ ≤ p * (c.maxValue * c.ratio.2) := Nat.mul_le_mul_left _ (Nat.div_mul_le_self _ _)
        _ = p * c.maxValue * c.ratio.2 := (Nat.mul_assoc ..).symm
    exact Nat.le_trans (Nat.mul_div_le_mul_div_assoc ..)
      (Nat.div_le_of_le_mul (by rw [Nat.mul_comm c.ratio.2]; exact h3))

theorem getSize_le_of_length_le {c : SizeConfig} {s : Str}
    (hunit : c.maxUnit = .characters ∨ c.maxUnit = .tokens)
    (hl : s.length ≤ targetPosOf c c.maxValue c.maxUnit) :
    getSize c s c.maxUnit ≤ c.maxValue := by
  have := getSize_scaled_le (s := s) (p := 1) (q := 1) hunit (by omega)
  omega

theorem adjustBoundaryPositions_nil (n : Nat) : adjustBoundaryPositions [] n = [] := rfl

theorem findSplitPointAt_of_ge {c : SizeConfig} {text : Str} {bs : List Boundary} {M : Nat}
    {u : SizeUnit} (h : targetPosOf c M u ≥ text.length) :
    findSplitPointAt c text bs M u = text.length := by
  unfold findSplitPointAt
  simp only
  rw [if_pos h]

/-- The byte-length bound behind the size bounds.  `Good` is a class of boundary lists closed
under the loop's adjustment for which every split point inside a spaced text is in `1..B`:
every piece has at most `B` bytes or is a remainder within the limit in its own unit. -/
theorem splitToSize_length_bound_of {c : SizeConfig} {Good : List Boundary → Prop} {B : Nat}
    (hclosed : ∀ bs n, Good bs → Good (adjustBoundaryPositions bs n))
    (hB : targetPosOf c c.maxValue c.maxUnit ≤ B)
    (hsp : ∀ (rem : Str) (bs : List Boundary), Good bs → Spaced rem →
      targetPosOf c c.maxValue c.maxUnit < rem.length →
      1 ≤ findSplitPointAt c rem bs c.maxValue c.maxUnit
        ∧ findSplitPointAt c rem bs c.maxValue c.maxUnit ≤ B)
    (text : Str) (bs : List Boundary) (hg : Good bs) (hs : Spaced text) :
    ∀ p ∈ splitToSize c text bs, p.length ≤ B ∨ getSize c p c.maxUnit ≤ c.maxValue := by
  -- the split point is the end of a text of at most `B` bytes (limit not inside it), or in `1..B`
  have key : ∀ rem bs, Good bs → Spaced rem →
      rem.length ≤ findSplitPointAt c rem bs c.maxValue c.maxUnit ∧ rem.length ≤ B
        ∨ 1 ≤ findSplitPointAt c rem bs c.maxValue c.maxUnit
          ∧ findSplitPointAt c rem bs c.maxValue c.maxUnit ≤ B := by
    intro rem bs hg hs
    by_cases hlen : targetPosOf c c.maxValue c.maxUnit < rem.length
    · exact .inr (hsp rem bs hg hs hlen)
    · rw [findSplitPointAt_of_ge (by omega)]
      exact .inl ⟨Nat.le_refl _, by omega⟩
  refine splitToSize_forall (Inv := fun rem bs => Good bs ∧ Spaced rem) ?_ ?_ text bs ⟨hg, hs⟩
  · rintro rem bs sp ⟨hg, hs⟩ _ rfl (hfit | hstuck)
    · right; simpa [isAboveMax] using hfit
    · left; have := key rem bs hg hs; omega
  · rintro rem bs sp ⟨hg, hs⟩ rfl _ h0 hlt
    refine ⟨⟨hclosed _ _ hg, hs.trimSpace_drop _⟩, fun _ => .inl ?_⟩
    have := key rem bs hg hs
    have hl := trimSpace_length_le (rem.take (findSplitPointAt c rem bs c.maxValue c.maxUnit))
    rw [List.length_take] at hl
    omega

/-- **every unit, no boundaries**: a piece has at most `targetPos` bytes or is within the
limit in its own unit -/
theorem splitToSize_length_bound (c : SizeConfig) (text : Str) (hs : Spaced text)
    (hT : 50 ≤ targetPosOf c c.maxValue c.maxUnit) :
    ∀ p ∈ splitToSize c text [],
      p.length ≤ targetPosOf c c.maxValue c.maxUnit ∨ getSize c p c.maxUnit ≤ c.maxValue :=
  splitToSize_length_bound_of (Good := (· = [])) (fun _ _ h => by subst h; rfl) (Nat.le_refl _)
    (fun _ _ hb hsr hlen => by subst hb; exact findSplitPointAt_nil_bound hsr hT hlen) text [] rfl hs

/-- Executable check of `Spaced` in one pass: `g` counts how many more bytes other than a
space may follow before 50 of them are in a row. -/
def spacedFrom : Nat → Str → Bool
  | _, [] => true
  | 0, b :: r => b = 32 && spacedFrom 49 r
  | g + 1, b :: r => if b = 32 then spacedFrom 49 r else spacedFrom g r

theorem Spaced.cons {b : Nat} {r : Str} (hr : Spaced r)
    (h0 : 50 ≤ r.length + 1 → ∃ j, j < 50 ∧ (b :: r)[j]? = some 32) : Spaced (b :: r) := by
  intro k hk
  cases k with
  | zero => obtain ⟨j, hj, e⟩ := h0 (by simpa using hk); exact ⟨j, Nat.zero_le _, by omega, e⟩
  | succ k =>
    obtain ⟨j, h1, h2, e⟩ := hr k (by simp only [List.length_cons] at hk; omega)
    exact ⟨j + 1, by omega, by omega, by simpa using e⟩

theorem spacedFrom_sound : ∀ (s : Str) (g : Nat), g ≤ 49 → spacedFrom g s = true →
    (g < s.length → ∃ j, j ≤ g ∧ s[j]? = some 32) ∧ Spaced s
  | [], _, _, _ => ⟨fun h => absurd h (Nat.not_lt_zero _), fun k hk => by simp at hk⟩
  | b :: r, g, hg, h => by
    by_cases hb : b = 32
    · subst hb
      have hr : spacedFrom 49 r = true := by cases g <;> simpa [spacedFrom] using h
      exact ⟨fun _ => ⟨0, Nat.zero_le _, rfl⟩,
        (spacedFrom_sound r 49 (Nat.le_refl _) hr).2.cons fun _ => ⟨0, by omega, rfl⟩⟩
    · cases g with
      | zero => simp [spacedFrom, hb] at h
      | succ g =>
        rw [spacedFrom, if_neg hb] at h
        obtain ⟨h1, h2⟩ := spacedFrom_sound r g (by omega) h
        refine ⟨fun hl => ?_, h2.cons fun hl => ?_⟩
        · obtain ⟨j, hj, e⟩ := h1 (by simpa using hl)
          exact ⟨j + 1, by omega, by simpa using e⟩
        · obtain ⟨j, hj, e⟩ := h1 (by omega)
          exact ⟨j + 1, by omega, by simpa using e⟩

theorem Spaced.of_spacedFrom {s : Str} (h : spacedFrom 49 s = true) : Spaced s :=
  (spacedFrom_sound s 49 (Nat.le_refl _) h).2

/-- "word " × 60 (300 bytes) -/
def exampleText : Str := (List.replicate 60 [119, 111, 114, 100, 32]).flatten

def exampleConfig : SizeConfig :=
  { maxValue := 200, maxUnit := .characters, tpcNum := 1, tpcDen := 4, sem := true }

theorem spaced_exampleText : Spaced exampleText := .of_spacedFrom (by decide +kernel)

/-- "word " × 40 and "word " × 20, each without its last space -/
theorem splitToSize_exampleText :
    splitToSize exampleConfig exampleText [] = [exampleText.take 199, (exampleText.drop 200).take 99] := by
  decide +kernel

theorem splitToSize_exampleText_lengths :
    (splitToSize exampleConfig exampleText []).map List.length = [199, 99] := by
  rw [splitToSize_exampleText]; decide +kernel

/-- 100 two-byte words "a " at a hard maximum of 10 words (60 bytes): three pieces of 30 words
and one of 10 -/
theorem splitToSize_short_words :
    splitToSize { maxValue := 10, maxUnit := .words, tpcNum := 1, tpcDen := 4, sem := true }
        (List.replicate 100 [97, 32]).flatten []
      = [(List.replicate 29 [97, 32]).flatten ++ [97], (List.replicate 29 [97, 32]).flatten ++ [97],
         (List.replicate 29 [97, 32]).flatten ++ [97], (List.replicate 9 [97, 32]).flatten ++ [97]] := by
  decide +kernel

/-- the hypotheses of the size bound are satisfiable and the split is not trivial -/
example :
    (exampleConfig.maxUnit = .characters ∨ exampleConfig.maxUnit = .tokens)
    ∧ 200 ≤ exampleConfig.maxValue
    ∧ exampleConfig.ratio.1 ≤ 4 * exampleConfig.ratio.2
    ∧ Spaced exampleText
    ∧ (splitToSize exampleConfig exampleText []).map List.length = [199, 99] :=
  ⟨Or.inl rfl, by decide, by decide, spaced_exampleText, splitToSize_exampleText_lengths⟩

end Tabula.Split
