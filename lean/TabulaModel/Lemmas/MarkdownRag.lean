import TabulaModel.Lemmas.MarkdownDoc
import TabulaModel.Lemmas.MarkdownItems
/-!
The chunk loop of `rag.(*ChunkCollection).ToMarkdownWithOptions` as chunk outputs joined by blank
lines, and the reading spec on such a join: the reading of the whole is the concatenation of the
readings of the parts; single chunks (a heading, a table) as the reader sees them; the text of the
list chunk (`createListChunk`) as the lines of its item loop (`ragListLines`).
-/
namespace Tabula.MarkdownDoc
open Tabula.A1 (Str dec decInt)
open Tabula.Markdown

def MdDoc.empty : MdDoc := { headings := [], items := [], tables := [], paras := [] }

theorem MdDoc.append_empty (a : MdDoc) : a.append .empty = a := by
  cases a; simp [MdDoc.append, MdDoc.empty]

/-- two documents separated by an empty line read as the two readings one after the other -/
theorem readRaw_blank_split (A B : List Str) : readRaw (A ++ [] :: B) = (readRaw A).append (readRaw B) := by
  have e : A ++ [] :: B = (A ++ [[]]) ++ B := by simp
  have hA : readRaw (A ++ [[]]) = readRaw A := by
    unfold readRaw pipeBlocks
    simp [List.filterMap_append, headingOf_nil, itemOf_nil, isPara_nil, pipeBlocksAux_end_blank]
  rw [e, readRaw_append _ _ (fun l hl => by rw [List.getLast?_append] at hl; cases hl; rfl), hA]

theorem readLines_eq_raw (L : List Str) (h1 : L.head? ≠ some hrLine) (h2 : tocTitle ∉ L) :
    readLines L = readRaw L := readLines_plain L h1 h2

theorem splitLines_blank_join (a b : Str) : splitLines (a ++ [10, 10] ++ b) = splitLines a ++ [] :: splitLines b := by
  have : a ++ [10, 10] ++ b = a ++ 10 :: (10 :: b) := by simp
  rw [this, splitLines_eq_splitOn, List.splitOn_append_cons_self, ← splitLines_eq_splitOn, ← splitLines_eq_splitOn]
  simp [splitLines]

/-- is the chunk written with its section heading -/
def writesHeading (c : RChunk) (cur : Str) : Bool :=
  (!c.sectionTitle.isEmpty && c.sectionTitle != cur) || isSectionHeading c

/-- what the loop writes for one chunk (after the separator) -/
def chunkOut (o : MdOpts) (c : RChunk) (cur : Str) : Str :=
  if writesHeading c cur then chunkMd o c else contentMd o c

/-- `currentSection` after the chunk -/
def nextCur (c : RChunk) (cur : Str) : Str :=
  if !c.sectionTitle.isEmpty && c.sectionTitle != cur then c.sectionTitle else cur

theorem ragChunks_cons (o : MdOpts) (c : RChunk) (rest : List RChunk) (cur : Str) (first : Bool) :
    ragChunks o (c :: rest) cur first
      = (if first then [] else if o.seps then o.sectionSep else [10, 10]) ++ chunkOut o c cur
          ++ ragChunks o rest (nextCur c cur) false := by
  conv => lhs; rw [ragChunks]
  unfold chunkOut nextCur writesHeading
  cases (!c.sectionTitle.isEmpty && c.sectionTitle != cur)
  · cases isSectionHeading c <;> simp
  · simp

/-- the outputs of the loop, one per chunk -/
def ragOutputs (o : MdOpts) : List RChunk → Str → List Str
  | [], _ => []
  | c :: rest, cur => chunkOut o c cur :: ragOutputs o rest (nextCur c cur)

/-- the readings of the chunk outputs, one after the other -/
def readOutputs : List Str → MdDoc
  | [] => .empty
  | s :: rest => (readRaw (splitLines s)).append (readOutputs rest)

theorem readRaw_nil_line : readRaw [[]] = .empty := by decide

/-- **the chunk loop is compositional for a reader**: without chunk separators (every chunk is
separated from the next by a blank line), the reading of the whole body is the concatenation of
the readings of the chunk outputs, in order — no chunk's structure leaks into its neighbour's
(tables of adjacent chunks do not merge, a heading line is not continued by the next chunk) -/
theorem ragChunks_read (o : MdOpts) (hs : o.seps = false) (cs : List RChunk) : ∀ (cur : Str),
    cs ≠ [] → readRaw (splitLines (ragChunks o cs cur true)) = readOutputs (ragOutputs o cs cur) := by
  induction cs with
  | nil => intro _ h; exact absurd rfl h
  | cons c rest ih =>
    intro cur _
    rw [ragChunks_cons]
    simp only [if_true, List.nil_append, ragOutputs, readOutputs]
    cases rest with
    | nil => simp [ragChunks, ragOutputs, readOutputs, MdDoc.append_empty]
    | cons c2 rest2 =>
      have ih' := ih (nextCur c cur) (by simp)
      -- the rest starts with the separator
      have e : ragChunks o (c2 :: rest2) (nextCur c cur) false
          = [10, 10] ++ (chunkOut o c2 (nextCur c cur) ++ ragChunks o rest2 (nextCur c2 (nextCur c cur)) false) := by
        rw [ragChunks_cons]; simp [hs]
      have e2 : ragChunks o (c2 :: rest2) (nextCur c cur) true
          = chunkOut o c2 (nextCur c cur) ++ ragChunks o rest2 (nextCur c2 (nextCur c cur)) false := by
        rw [ragChunks_cons]; simp
      rw [e, ← List.append_assoc, splitLines_blank_join, readRaw_blank_split, ← e2, ih']

/-- the text of a table, read on its own: one pipe block, nothing else -/
theorem readRaw_table (w : Writer) (hdr : List Str) (rest : List (List Str)) (hne : ∀ r ∈ hdr :: rest, r ≠ []) :
    readRaw (splitLines (render w (hdr :: rest)))
      = { headings := [], items := [], tables := [gfmTable (render w (hdr :: rest))], paras := [] } := by
  have hp := tableLines_props w hdr rest hne
  rw [render_lines, splitLines_joinLines _ (fun l hl => (hp l hl).2),
    (LinesRead.table (tableLines w hdr rest) (List.cons_ne_nil _ _) hp).raw,
    ← gfmTableL_of_joined _ (fun l hl => (hp l hl).2) (by simp [tableLines])]
  rfl

/-- a chunk whose text is a table of `model.Table.ToMarkdown` with `n ≥ 1` columns, written without
heading, chunk id or page reference, is that one table for the reader: the grid of normalised cell
texts, whatever the cells hold -/
theorem readRaw_table_chunk (o : MdOpts) (c : RChunk) (cur : Str) (n : Nat) (hn : 1 ≤ n) (hdr : List Str)
    (rest : List (List Str)) (hid : o.ids = false) (hpg : o.pages = false) (hw : writesHeading c cur = false)
    (htext : c.text = render .model (hdr :: rest)) (hrect : ∀ r ∈ hdr :: rest, r.length = n) :
    readRaw (splitLines (chunkOut o c cur))
      = { headings := [], items := [],
          tables := [some ((hdr :: rest).map (List.map (normCell .model)))], paras := [] } := by
  have e : chunkOut o c cur = render .model (hdr :: rest) := by
    simp [chunkOut, hw, contentMd, chunkIdComment, chunkPageRef, hid, hpg, htext]
  rw [e, readRaw_table .model hdr rest fun r hr => ne_nil_of_length r n hn (hrect r hr),
    gfmTable_render_any .model n hn hdr rest hrect]

/-- `strings.TrimRightFunc(·, unicode.IsSpace)` on lines each followed by `\n`: when the last line
ends in a byte that is not white space only the final newline goes, and splitting the result at
`\n` gives the lines back — the first line with its indentation -/
theorem splitLines_trimRight_joinLines (L : List Str) (l : Str) (c : Nat)
    (hnl : ∀ x ∈ L ++ [l], 10 ∉ x) (hc : l.getLast? = some c) (hws : isWs c = false) :
    splitLines (trimRight (joinLines (L ++ [l]))) = L ++ [l] := by
  have e : joinLines (L ++ [l]) = (joinLines L ++ l) ++ [10] := by
    rw [joinLines_append, joinLines_singleton, List.append_assoc]
  rw [e, trimRight_append_ws _ _ (by decide), trimRight_eq_self _ (by
    intro d hd
    rw [List.getLast?_append, hc] at hd
    simp only [Option.some_or, Option.some.injEq] at hd
    subst hd; exact hws)]
  rw [splitLines_joinLines_append L (fun x hx => hnl x (by simp [hx])) l,
    splitLines_eq_splitOn l, List.splitOn_eq_singleton (hnl l (by simp))]

/-- a heading chunk (text = section title) written without chunk id and page reference is its
heading line and an empty line -/
theorem chunkMd_heading (o : MdOpts) (c : RChunk) (hid : o.ids = false) (hpg : o.pages = false)
    (ht : c.sectionTitle ≠ []) (htext : c.text = c.sectionTitle) (hnl : 10 ∉ c.sectionTitle) :
    ∃ ls, chunkMd o c = joinLines ls ∧
      LinesRead ls [((headingLevelRag c.headingLevel o.offset o.max).toNat, c.sectionTitle)] [] [] [] := by
  have hr := headingLevelRag_range c.headingLevel o.offset o.max
  have hemp : c.sectionTitle.isEmpty = false := List.isEmpty_eq_false_iff.mpr ht
  exact ⟨_, by simp [chunkMd, chunkIdComment, chunkPageRef, hid, hpg, hemp, htext, joinLines],
    (LinesRead.heading _ _ (by omega) hnl).append LinesRead.blank⟩

end Tabula.MarkdownDoc

namespace Tabula.C15Rag
open Tabula.A1 (Str dec decInt)
open Tabula.Markdown Tabula.MarkdownDoc

/-- the lines the item loop writes (each is followed by `\n` in `ragListItems`) -/
def ragListLines (ordered : Bool) : List (Int × Str) → Ctr → Int → List Str
  | [], _, _ => []
  | (lvl, txt) :: rest, ctrs, last =>
    let ctrs := if lvl ≤ last then ctrs.filter (fun e => !(decide (e.1 > lvl))) else ctrs
    if ordered then
      let n := ctrGet ctrs lvl + 1
      (indent2 lvl ++ decInt n ++ [46, 32] ++ txt) :: ragListLines ordered rest (ctrSet ctrs lvl n) lvl
    else
      (indent2 lvl ++ [45, 32] ++ txt) :: ragListLines ordered rest ctrs lvl

/-- One turn of the item loop: the line is the item's text behind a marker without newline; from
counters that are not negative it is the list item line of the item, and the counters stay so. -/
theorem ragListLines_cons (ordered : Bool) (lvl : Int) (txt : Str) (rest : List (Int × Str)) (ctrs : Ctr)
    (last : Int) :
    ∃ (pre : Str) (c' : Ctr),
      ragListLines ordered ((lvl, txt) :: rest) ctrs last = (pre ++ txt) :: ragListLines ordered rest c' lvl ∧
      10 ∉ pre ∧
      (ctrNN ctrs → ctrNN c' ∧ ∃ num, pre ++ txt = listLine ⟨lvl.toNat, ordered, num, txt⟩) := by
  have hf : ctrNN ctrs → ctrNN (if lvl ≤ last then ctrs.filter (fun e => !(decide (e.1 > lvl))) else ctrs) := by
    intro hnn
    split
    · exact ctrNN_filter _ _ hnn
    · exact hnn
  have hi := indent2_noNl lvl
  generalize hc : (if lvl ≤ last then ctrs.filter (fun e => !(decide (e.1 > lvl))) else ctrs) = c1 at hf
  cases ordered with
  | false =>
    exact ⟨indent2 lvl ++ [45, 32], c1, by simp [ragListLines, hc], by simp [hi], fun hnn => ⟨hf hnn, 1, itemLine_bullet lvl txt⟩⟩
  | true =>
    refine ⟨indent2 lvl ++ decInt (ctrGet c1 lvl + 1) ++ [46, 32], ctrSet c1 lvl (ctrGet c1 lvl + 1),
      by simp [ragListLines, hc],
      by simp [hi, decInt_noNl], fun hnn => ?_⟩
    have h3 := ctrGet_nonneg c1 lvl (hf hnn)
    exact ⟨ctrNN_set _ _ _ (hf hnn) (by omega), _, itemLine_number _ _ (by omega) _⟩

end Tabula.C15Rag
