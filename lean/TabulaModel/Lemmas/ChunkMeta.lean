import TabulaModel.Model.ChunkMeta
import TabulaModel.Lemmas.ChunkToc
/-!
Lemmas for `Props/C12Meta.lean`: the labelled walk of `Model/ChunkMeta.lean` projects to the
walk of `Model/Chunk.lean`; the chunks that are not text chunks are the solo elements; what is
true of every single chunk — its path, a text chunk's text, a heading chunk's own entry (`Shape`),
for any invariant of the section tracker (`TrackInv`) that the headings of the document keep (`stepL_of_doc`).
-/
namespace Tabula.ChunkMeta
open Tabula.Chunk

/-- `createTextChunk` for each piece, every chunk with the piece it was made from -/
theorem piecesX_eq (path : List Str) (page : Int) (ps : List Str) (idx : Nat) :
    piecesX path page ps idx = (ps.zipIdx idx).map fun p => ⟨mkChunk (trim p.1) path page p.2, .text p.1⟩ := by
  induction ps generalizing idx with
  | nil => rfl
  | cons t ts ih => rw [piecesX, ih, List.zipIdx_cons, List.map_cons]

theorem piecesX_c (path : List Str) (page : Int) (ps : List Str) (idx : Nat) :
    (piecesX path page ps idx).map (·.c) = piecesToChunks path page ps idx := by
  rw [piecesX_eq, piecesToChunks_eq, List.map_map]; rfl

theorem textBlockX_c (sp : Splitter) (text : Str) (path : List Str) (page : Int) (idx : Nat) :
    (textBlockX sp text path page idx).map (·.c) = textBlockToChunks sp text path page idx := by
  unfold textBlockX textBlockToChunks
  cases sp text <;> exact piecesX_c _ _ _ _

theorem flushX_c {σ} (sp : Splitter) (page : Int) (st : St σ) :
    (flushX sp page st).1 = (flush sp page st).1 ∧ (flushX sp page st).2.map (·.c) = (flush sp page st).2 := by
  unfold flushX flush
  split
  · exact ⟨rfl, rfl⟩
  · have h := textBlockX_c sp st.block st.blockPath page st.idx
    have hl : (textBlockX sp st.block st.blockPath page st.idx).length =
        (textBlockToChunks sp st.block st.blockPath page st.idx).length := by
      rw [← h, List.length_map]
    exact ⟨by simp only [hl], h⟩

theorem emitOneX_c {σ} (sp : Splitter) (page : Int) (st : St σ) (sec : σ) (text : Str) (path : List Str) (o : Origin) :
    (emitOneX sp page st sec text path o).1 = (emitOne sp page st sec text path).1 ∧
    (emitOneX sp page st sec text path o).2.map (·.c) = (emitOne sp page st sec text path).2 := by
  obtain ⟨h1, h2⟩ := flushX_c sp page st
  unfold emitOneX emitOne
  generalize flushX sp page st = rx at h1 h2
  generalize flush sp page st = r at h1 h2
  obtain ⟨sx, cx⟩ := rx
  obtain ⟨s, c⟩ := r
  simp only at h1 h2
  subst h1
  subst h2
  simp

theorem stepElemX_c {σ} (tr : Tracker σ) (sp : Splitter) (toc : List TOCEntry) (page : Int) (st : St σ) (e : Elem) :
    (stepElemX tr sp toc page st e).1 = (stepElem tr sp toc page st e).1 ∧
    (stepElemX tr sp toc page st e).2.map (·.c) = (stepElem tr sp toc page st e).2 := by
  cases e with
  | para text =>
    simp only [stepElemX, stepElem]
    split
    · exact emitOneX_c _ _ _ _ _ _ _
    · exact ⟨rfl, rfl⟩
  | image alt =>
    simp only [stepElemX, stepElem]
    split
    · exact flushX_c _ _ _
    · exact emitOneX_c _ _ _ _ _ _ _
  | _ => exact emitOneX_c _ _ _ _ _ _ _

theorem runElemsX_c {σ} (tr : Tracker σ) (sp : Splitter) (toc : List TOCEntry) (page : Int) (st : St σ) (es : List Elem) :
    (runElemsX tr sp toc page st es).1 = (runElems tr sp toc page st es).1 ∧
    (runElemsX tr sp toc page st es).2.map (·.c) = (runElems tr sp toc page st es).2 := by
  induction es generalizing st with
  | nil => exact ⟨rfl, rfl⟩
  | cons e es ih =>
    obtain ⟨h1, h2⟩ := stepElemX_c tr sp toc page st e
    simp only [runElemsX, runElems]
    rw [h1]
    obtain ⟨i1, i2⟩ := ih (stepElem tr sp toc page st e).1
    exact ⟨i1, by rw [List.map_append, h2, i2]⟩

theorem chunkPageX_c {σ} (tr : Tracker σ) (sp : Splitter) (toc : List TOCEntry) (st : St σ) (pg : Page) :
    (chunkPageX tr sp toc st pg).1 = (chunkPage tr sp toc st pg).1 ∧
    (chunkPageX tr sp toc st pg).2.map (·.c) = (chunkPage tr sp toc st pg).2 := by
  obtain ⟨h1, h2⟩ := runElemsX_c tr sp toc pg.number st (resolveRepeatedHeadings pg)
  simp only [chunkPageX, chunkPage]
  rw [h1]
  obtain ⟨f1, f2⟩ := flushX_c sp pg.number (runElems tr sp toc pg.number st (resolveRepeatedHeadings pg)).1
  exact ⟨f1, by rw [List.map_append, h2, f2]⟩

theorem chunkPagesX_c {σ} (tr : Tracker σ) (sp : Splitter) (toc : List TOCEntry) (st : St σ) (d : List Page) :
    (chunkPagesX tr sp toc st d).map (fun g => g.map (·.c)) = chunkPages tr sp toc st d := by
  induction d generalizing st with
  | nil => rfl
  | cons pg pgs ih =>
    obtain ⟨h1, h2⟩ := chunkPageX_c tr sp toc st pg
    simp only [chunkPagesX, chunkPages, List.map_cons]
    rw [h1, h2, ih]

theorem setTotalX_c (xs : List XChunk) : (setTotalX xs).map (·.c) = setTotal (xs.map (·.c)) := by
  simp [setTotalX, setTotal, List.map_map, Function.comp_def]

theorem chunkDocumentX_c (sp : Splitter) (d : Doc) : (chunkDocumentX sp d).map (·.c) = chunkDocument sp d := by
  unfold chunkDocumentX chunkDocument chunkDocumentWith pageGroupsX pageGroups
  rw [setTotalX_c, List.map_flatten, chunkPagesX_c]

/-- origin, text and page of the chunks that no text block made -/
def solos (xs : List XChunk) : List (Origin × Str × Int) :=
  (xs.filter fun x => !x.o.isText).map fun x => (x.o, x.c.text, x.c.pageStart)

theorem solos_append (a b : List XChunk) : solos (a ++ b) = solos a ++ solos b := by
  simp [solos, List.filter_append]

theorem solos_nil : solos [] = [] := rfl

theorem solos_piecesX (path : List Str) (page : Int) (ps : List Str) (idx : Nat) :
    solos (piecesX path page ps idx) = [] := by
  rw [piecesX_eq, solos, List.filter_map, List.filter_eq_nil_iff.mpr fun _ _ => by simp [Origin.isText]]; rfl

theorem solos_flushX {σ} (sp : Splitter) (page : Int) (st : St σ) : solos (flushX sp page st).2 = [] := by
  unfold flushX
  split
  · rfl
  · simp only [textBlockX]
    split <;> exact solos_piecesX _ _ _ _

theorem solos_emitOneX {σ} (sp : Splitter) (page : Int) (st : St σ) (sec : σ) (text : Str) (path : List Str)
    (o : Origin) (ho : o.isText = false) :
    solos (emitOneX sp page st sec text path o).2 = [(o, text, page)] := by
  have hf := solos_flushX sp page st
  unfold emitOneX
  generalize flushX sp page st = r at hf
  obtain ⟨s, c⟩ := r
  simp only at hf ⊢
  rw [solos_append, hf]
  simp [solos, mkChunk, ho]

theorem solos_stepElemX {σ} (tr : Tracker σ) (sp : Splitter) (toc : List TOCEntry) (page : Int) (st : St σ) (e : Elem) :
    solos (stepElemX tr sp toc page st e).2 = ((solo toc page e).map fun r => (r.1, r.2, page)).toList := by
  cases e with
  | para text =>
    simp only [stepElemX, solo]
    split
    · rw [solos_emitOneX _ _ _ _ _ _ _ rfl]; rfl
    · rfl
  | image alt =>
    simp only [stepElemX, solo]
    split
    · rw [solos_flushX]; rfl
    · rw [solos_emitOneX _ _ _ _ _ _ _ rfl]; rfl
  | _ => simp only [stepElemX, solo]; rw [solos_emitOneX _ _ _ _ _ _ _ rfl]; rfl

theorem solos_runElemsX {σ} (tr : Tracker σ) (sp : Splitter) (toc : List TOCEntry) (page : Int) (st : St σ) (es : List Elem) :
    solos (runElemsX tr sp toc page st es).2 =
      es.filterMap fun e => (solo toc page e).map fun r => (r.1, r.2, page) := by
  induction es generalizing st with
  | nil => rfl
  | cons e es ih =>
    simp only [runElemsX, solos_append, solos_stepElemX, ih, List.filterMap_cons]
    cases solo toc page e <;> rfl

theorem solos_chunkPageX {σ} (tr : Tracker σ) (sp : Splitter) (toc : List TOCEntry) (st : St σ) (pg : Page) :
    solos (chunkPageX tr sp toc st pg).2 =
      (resolveRepeatedHeadings pg).filterMap fun e => (solo toc pg.number e).map fun r => (r.1, r.2, pg.number) := by
  simp only [chunkPageX, solos_append, solos_runElemsX, solos_flushX, List.append_nil]

theorem solos_chunkPagesX {σ} (tr : Tracker σ) (sp : Splitter) (toc : List TOCEntry) (st : St σ) (d : List Page) :
    solos (chunkPagesX tr sp toc st d).flatten =
      d.flatMap fun pg => (resolveRepeatedHeadings pg).filterMap fun e =>
        (solo toc pg.number e).map fun r => (r.1, r.2, pg.number) := by
  induction d generalizing st with
  | nil => rfl
  | cons pg pgs ih =>
    simp only [chunkPagesX, List.flatten_cons, solos_append, solos_chunkPageX, ih, List.flatMap_cons]

theorem solos_setTotalX (xs : List XChunk) : solos (setTotalX xs) = solos xs := by
  simp [solos, setTotalX, List.filter_map, List.map_map, Function.comp_def]

theorem filter_origin (xs : List XChunk) (o : Origin) (ho : o.isText = false) :
    (xs.filter fun x => x.o == o).map (fun x => (x.c.text, x.c.pageStart)) =
      ((solos xs).filter fun r => r.1 == o).map (·.2) := by
  unfold solos
  rw [List.filter_map, List.map_map, List.filter_filter]
  congr 1
  apply List.filter_congr
  intro x _
  -- a chunk of origin `o` is no text chunk
  cases h : x.o == o with
  | false => simp [h]
  | true => simp [eq_of_beq h, ho]

theorem resolve_filterMap {α} (f : Elem → Option α) (hp : ∀ t, f (.para t) = none) (hh : ∀ l t, f (.heading l t) = none)
    (pg : Page) : (resolveRepeatedHeadings pg).filterMap f = pg.elems.filterMap f := by
  have e : ∀ l : List Elem, l.filterMap f = (l.map f).filterMap id := fun l => by rw [List.filterMap_map]; rfl
  rw [e, e, resolve_map f fun l t => (hh l t).trans (hp t).symm]

theorem filterMap_filter_map {α β γ} (g : α → Option β) (p : β → Bool) (h : β → γ) (l : List α) :
    ((l.filterMap g).filter p).map h = l.filterMap fun e => (g e).bind fun r => if p r then some (h r) else none := by
  rw [List.filter_filterMap, List.map_filterMap]
  congr 1
  funext e
  cases g e with
  | none => rfl
  | some r => simp only [Option.filter_some, Option.bind_some]; split <;> rfl

/-- the chunks of one origin (not a text block) are what the elements yield through `f`, when `f`
is `solo` restricted to that origin -/
theorem origin_exact (xs : List XChunk) (d : Doc) (toc : List TOCEntry) (o : Origin) (ho : o.isText = false)
    (hx : solos xs = d.flatMap fun pg => (resolveRepeatedHeadings pg).filterMap fun e =>
      (solo toc pg.number e).map fun r => (r.1, r.2, pg.number))
    (f : Int → Elem → Option (Str × Int))
    (hp : ∀ n t, f n (.para t) = none) (hh : ∀ n l t, f n (.heading l t) = none)
    (hf : ∀ page e, ((solo toc page e).map fun r => (r.1, r.2, page)).bind
        (fun r => if r.1 == o then some r.2 else none) = f page e) :
    (xs.filter fun x => x.o == o).map (fun x => (x.c.text, x.c.pageStart)) =
      d.flatMap fun pg => pg.elems.filterMap (f pg.number) := by
  rw [filter_origin _ o ho, hx]
  clear hx
  induction d with
  | nil => rfl
  | cons pg pgs ih =>
    simp only [List.flatMap_cons, List.filter_append, List.map_append, ih]
    congr 1
    rw [filterMap_filter_map, ← resolve_filterMap (f pg.number) (hp pg.number) (hh pg.number) pg]
    congr 1
    funext e
    exact hf pg.number e

end Tabula.ChunkMeta

namespace Tabula.Chunk

/-- `P` holds of every tracker state reached by pushing headings that satisfy `L`; `Q` holds of
the path of such a state -/
structure TrackInv {σ} (tr : Tracker σ) (L : Int → Str → Prop) (P : σ → Prop)
    (Q : List Str → Prop) : Prop where
  init : P tr.init
  push : ∀ s l t, P s → L l t → P (tr.push s l t)
  path : ∀ s, P s → Q (tr.path s)

def StI {σ} (P : σ → Prop) (Q : List Str → Prop) (st : St σ) : Prop :=
  P st.sec ∧ (st.block ≠ [] → Q st.blockPath)

/-- the headings `stepElem` pushes for the element `e` satisfy `L` -/
def StepL (L : Int → Str → Prop) (toc : List TOCEntry) (page : Int) : Elem → Prop
  | .heading l t => L l t
  | .para text => isHeadingElement text toc page = true → L (getHeadingLevel text toc page) text
  | _ => True

end Tabula.Chunk

namespace Tabula.ChunkMeta
open Tabula.Chunk

/-- the tracker's path ends with the heading just pushed -/
def TrackerLast {σ} (tr : Tracker σ) : Prop := ∀ s l t, (tr.path (tr.push s l t)).getLast? = some (trim t)

theorem stackTracker_last : TrackerLast stackTracker := by
  intro s l t
  simp [stackTracker, pushSection, List.getLast?_append]

/-- What is true of every chunk: `Q` holds of its path; a text chunk is the trimmed form of its raw text; a heading
chunk carries the path the tracker reports once its own heading is pushed. -/
structure Shape {σ} (tr : Tracker σ) (Q : List Str → Prop) (x : XChunk) : Prop where
  path : Q x.c.path
  text : ∀ raw, x.o = .text raw → x.c.text = trim raw
  pushed : ∀ l, x.o = .heading l → ∃ s, x.c.path = tr.path (tr.push s l x.c.text)

theorem Shape.heading {σ} {tr : Tracker σ} {Q : List Str → Prop} {x : XChunk} (h : Shape tr Q x)
    (htr : TrackerLast tr) (l : Int) (ho : x.o = .heading l) : x.c.path.getLast? = some (trim x.c.text) := by
  obtain ⟨s, e⟩ := h.pushed l ho
  rw [e]; exact htr s l _

variable {σ} (tr : Tracker σ) (L : Int → Str → Prop) (P : σ → Prop) (Q : List Str → Prop)

theorem piecesX_shape (path : List Str) (hq : Q path) (page : Int) (ps : List Str) (idx : Nat) :
    ∀ x ∈ piecesX path page ps idx, Shape tr Q x := by
  rw [piecesX_eq]
  intro x hx
  obtain ⟨p, _, rfl⟩ := List.mem_map.mp hx
  exact ⟨hq, fun raw h => by cases h; rfl, fun l h => by cases h⟩

theorem flushX_shape (sp : Splitter) (page : Int) (st : St σ) (h : StI P Q st) :
    StI P Q (flushX sp page st).1 ∧ ∀ x ∈ (flushX sp page st).2, Shape tr Q x := by
  unfold flushX
  by_cases hb : st.block = []
  · rw [if_pos hb]; exact ⟨h, fun x hx => by cases hx⟩
  · rw [if_neg hb]
    refine ⟨⟨h.1, fun hne => absurd rfl hne⟩, ?_⟩
    simp only [textBlockX]
    cases sp st.block <;> exact piecesX_shape tr Q _ (h.2 hb) page _ _

theorem emitOneX_shape (sp : Splitter) (page : Int) (st : St σ) (h : StI P Q st) (sec : σ) (hsec : P sec)
    (text : Str) (path : List Str) (hq : Q path) (o : Origin) (ho : o.isText = false)
    (hh : ∀ l, o = .heading l → ∃ s, path = tr.path (tr.push s l text)) :
    StI P Q (emitOneX sp page st sec text path o).1 ∧ ∀ x ∈ (emitOneX sp page st sec text path o).2, Shape tr Q x := by
  obtain ⟨h1, h2⟩ := flushX_shape tr P Q sp page st h
  unfold emitOneX
  generalize flushX sp page st = r at h1 h2
  refine ⟨⟨hsec, h1.2⟩, fun x hx => ?_⟩
  rcases List.mem_append.mp hx with hx | hx
  · exact h2 x hx
  · rw [List.mem_singleton.mp hx]
    exact ⟨hq, fun raw e => (by rw [show o = .text raw from e] at ho; cases ho), hh⟩

/-- one step keeps `StI` and emits chunks of the shape -/
theorem stepElemX_shape (hinv : TrackInv tr L P Q) (sp : Splitter) (toc : List TOCEntry) (page : Int)
    (st : St σ) (h : StI P Q st) (e : Elem) (hl : StepL L toc page e) :
    StI P Q (stepElemX tr sp toc page st e).1 ∧ ∀ x ∈ (stepElemX tr sp toc page st e).2, Shape tr Q x := by
  have keep := fun text o ho hh =>
    emitOneX_shape tr P Q sp page st h st.sec h.1 text _ (hinv.path _ h.1) o ho hh
  have push := fun l text hlt =>
    emitOneX_shape tr P Q sp page st h _ (hinv.push _ l text h.1 hlt) text _ (hinv.path _ (hinv.push _ l text h.1 hlt))
      (.heading l) rfl fun l' e => by cases e; exact ⟨_, rfl⟩
  cases e with
  | heading l t => exact push l t hl
  | para t =>
    simp only [stepElemX]
    split
    · rename_i hh; exact push _ t (hl hh)
    · exact ⟨⟨h.1, fun _ => hinv.path _ h.1⟩, fun x hx => by cases hx⟩
  | image alt =>
    simp only [stepElemX]
    split
    · exact flushX_shape tr P Q sp page st h
    · exact keep _ .image rfl fun l e => by cases e
  | list o items => exact keep _ .list rfl fun l e => by cases e
  | table rows => exact keep _ .table rfl fun l e => by cases e

theorem runElemsX_shape (hinv : TrackInv tr L P Q) (sp : Splitter) (toc : List TOCEntry) (page : Int)
    (st : St σ) (h : StI P Q st) (es : List Elem) (hl : ∀ e ∈ es, StepL L toc page e) :
    StI P Q (runElemsX tr sp toc page st es).1 ∧ ∀ x ∈ (runElemsX tr sp toc page st es).2, Shape tr Q x := by
  induction es generalizing st with
  | nil => exact ⟨h, fun x hx => by cases hx⟩
  | cons e es ih =>
    obtain ⟨h1, c1⟩ := stepElemX_shape tr L P Q hinv sp toc page st h e (hl e (List.mem_cons_self ..))
    obtain ⟨h2, c2⟩ := ih _ h1 fun x hx => hl x (List.mem_cons_of_mem _ hx)
    exact ⟨h2, fun x hx => (List.mem_append.mp hx).elim (c1 x) (c2 x)⟩

/-- **every chunk of the page loop has the shape** -/
theorem chunkPagesX_shape (hinv : TrackInv tr L P Q) (sp : Splitter) (toc : List TOCEntry) (st : St σ)
    (h : StI P Q st) (d : List Page)
    (hl : ∀ pg ∈ d, ∀ e ∈ resolveRepeatedHeadings pg, StepL L toc pg.number e) :
    ∀ x ∈ (chunkPagesX tr sp toc st d).flatten, Shape tr Q x := by
  induction d generalizing st with
  | nil => intro x hx; cases hx
  | cons pg pgs ih =>
    obtain ⟨h1, c1⟩ := runElemsX_shape tr L P Q hinv sp toc pg.number st h _ (hl pg (List.mem_cons_self ..))
    obtain ⟨h2, c2⟩ := flushX_shape tr P Q sp pg.number _ h1
    intro x hx
    simp only [chunkPagesX, List.flatten_cons, chunkPageX] at hx
    rcases List.mem_append.mp hx with hx | hx
    · exact (List.mem_append.mp hx).elim (c1 x) (c2 x)
    · exact ih _ h2 (fun q hq => hl q (List.mem_cons_of_mem _ hq)) x hx

theorem chunkDocumentX_shape (sp : Splitter) (d : Doc) :
    ∀ x ∈ chunkDocumentX sp d, Shape stackTracker (fun _ => True) x := by
  intro x hx
  simp only [chunkDocumentX, setTotalX, List.mem_map] at hx
  obtain ⟨y, hy, rfl⟩ := hx
  have h := chunkPagesX_shape stackTracker (fun _ _ => True) (fun _ => True) (fun _ => True)
    ⟨trivial, fun _ _ _ _ _ => trivial, fun _ _ => trivial⟩ sp _ _ ⟨trivial, fun _ => trivial⟩ d
    (fun _ _ e _ => by cases e <;> simp [StepL]) y hy
  exact ⟨h.path, h.text, h.pushed⟩

end Tabula.ChunkMeta

namespace Tabula.Chunk
open Tabula.ChunkMeta

/-- a property `Q` of the paths a tracker reports (`TrackInv`) holds of the `SectionPath` of every chunk of the page
loop, text chunks and split pieces included -/
theorem chunkPages_p {σ} (tr : Tracker σ) (L : Int → Str → Prop) (P : σ → Prop) (Q : List Str → Prop)
    (hinv : TrackInv tr L P Q) (sp : Splitter) (toc : List TOCEntry) (st : St σ) (ps : List Page)
    (h : StI P Q st)
    (hl : ∀ pg ∈ ps, ∀ e ∈ resolveRepeatedHeadings pg, StepL L toc pg.number e) :
    ∀ g ∈ chunkPages tr sp toc st ps, ∀ c ∈ g, Q c.path := by
  intro g hg c hc
  have hm : c ∈ ((chunkPagesX tr sp toc st ps).flatten).map (·.c) := by
    rw [List.map_flatten, chunkPagesX_c]; exact List.mem_flatten.mpr ⟨g, hg, hc⟩
  obtain ⟨x, hx, rfl⟩ := List.mem_map.mp hm
  exact (chunkPagesX_shape tr L P Q hinv sp toc st h ps hl x hx).path

/-- a property of every heading of the history is an invariant of the history tracker; what it implies for the
chain of open headings holds of every path the tracker reports -/
theorem histTracker_inv (T : H → Prop) (Q : List Str → Prop)
    (hq : ∀ hist, (∀ x ∈ hist, T x) → Q ((openSpec hist).map (·.2))) :
    TrackInv histTracker (fun l t => T (l, trim t)) (fun hist => ∀ x ∈ hist, T x) Q where
  init := fun x hx => by cases hx
  push := fun s l t hs hl x hx => by
    rcases List.mem_append.mp hx with hx | hx
    · exact hs x hx
    · rw [List.mem_singleton.mp hx]; exact hl
  path := hq

/-- **the headings the chunker pushes for a document**: a `model.Heading` with its own level, or a paragraph of a
page with level 1 or the level of a layout heading of some page (table of contents, repeated headings) -/
theorem stepL_of_doc (L : Int → Str → Prop) (d : Doc)
    (hH : ∀ pg ∈ d, ∀ l t, Elem.heading l t ∈ pg.elems → L l t)
    (hP : ∀ pg ∈ d, ∀ t, Elem.para t ∈ pg.elems →
      ∀ l, (l = 1 ∨ ∃ q ∈ d, ∃ hs, q.layout = some hs ∧ ∃ h ∈ hs, h.1 = l) → L l t) :
    ∀ pg ∈ d, ∀ e ∈ resolveRepeatedHeadings pg, StepL L (tableOfContents d) pg.number e := by
  intro pg hpg e he
  cases e with
  | heading l t =>
    rcases resolve_mem pg _ he with he | ⟨_, _, e, hp, hl⟩
    · exact hH pg hpg l t he
    · cases e
      exact hP pg hpg _ hp l (hl.symm.imp_right fun ⟨hs, hlay, x, hx, e⟩ => ⟨pg, hpg, hs, hlay, x, hx, e⟩)
  | para text =>
    intro _
    refine hP pg hpg text (resolve_para pg text he) _ ?_
    exact (getHeadingLevel_mem text (tableOfContents d) pg.number).symm.imp_right fun ⟨e, he, hlev⟩ =>
      hlev ▸ tableOfContents_level d e he
  | _ => trivial

end Tabula.Chunk
