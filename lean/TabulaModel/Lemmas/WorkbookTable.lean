import TabulaModel.Lemmas.WorkbookBounds
/-!
The outputs of the xlsx reader as renderings of one table of displayed values (C17):
`shownGrid` (all positions, for the text) and `boxTable` (the content box, for Markdown,
Document and Tables).
-/
namespace Tabula.Wb
open Tabula.A1 Tabula.Sheet

/-- a loop over `a, a+1, …, a+n-1` indexing a list = a walk over that slice of the list -/
theorem range'_map_getElem? {α β : Type} (f : Option α → β) (l : List α) (a n : Nat) (h : a + n ≤ l.length) :
    (List.range' a n).map (fun i => f l[i]?) = ((l.drop a).take n).map (fun x => f (some x)) := by
  induction n generalizing a with
  | zero => simp
  | succ n ih =>
    have ha : a < l.length := by omega
    rw [List.range'_succ, List.map_cons, ih (a + 1) (by omega), List.drop_eq_getElem_cons ha,
      List.take_succ_cons, List.map_cons, List.getElem?_eq_getElem ha]

/-- the displayed text of every cell of the grid, row by row -/
def shownGrid (g : Grid) : List (List Str) := g.map fun row => row.map cellText

/-- rows `r0 … r0+nR-1`, columns `c0 … c0+nC-1` of a table -/
def subTable {α : Type} (t : List (List α)) (r0 nR c0 nC : Nat) : List (List α) :=
  ((t.drop r0).take nR).map fun row => (row.drop c0).take nC

def Bounds.r0 (b : Bounds) : Nat := b.minRow.toNat
def Bounds.nR (b : Bounds) : Nat := (b.maxRow - b.minRow + 1).toNat
def Bounds.c0 (b : Bounds) : Nat := b.minCol.toNat
def Bounds.nC (b : Bounds) : Nat := (b.maxCol - b.minCol + 1).toNat

/-- **the content box**: the displayed values of the positions inside `findContentBounds` -/
def boxTable (s : Sheet) : List (List Str) :=
  let b := findContentBounds s
  subTable (shownGrid s.rows) b.r0 b.nR b.c0 b.nC

theorem shownGrid_get (g : Grid) (r c : Nat) :
    ((shownGrid g)[r]?).bind (·[c]?) = (g.get r c).map cellText := by
  unfold shownGrid Grid.get
  rw [List.getElem?_map]
  cases g[r]? with
  | none => rfl
  | some row => simp [List.getElem?_map]

/-- entry `i` of the slice `a … a+n-1` of a list -/
theorem getElem?_slice {α : Type} (l : List α) (a n i : Nat) :
    ((l.drop a).take n)[i]? = if i < n then l[a + i]? else none := by
  rw [List.getElem?_take, List.getElem?_drop]

theorem subTable_get {α : Type} (t : List (List α)) (r0 nR c0 nC i j : Nat) :
    ((subTable t r0 nR c0 nC)[i]?).bind (·[j]?) =
      if i < nR ∧ j < nC then (t[r0 + i]?).bind (·[c0 + j]?) else none := by
  unfold subTable
  rw [List.getElem?_map, getElem?_slice]
  by_cases hi : i < nR
  · rw [if_pos hi]
    cases t[r0 + i]? with
    | none => simp
    | some row => simp only [Option.map_some, Option.bind_some, getElem?_slice, hi, true_and]
  · rw [if_neg hi, if_neg (fun h => hi h.1)]
    rfl

theorem boxTable_get (s : Sheet) (i j : Nat) :
    ((boxTable s)[i]?).bind (·[j]?) =
      if i < (findContentBounds s).nR ∧ j < (findContentBounds s).nC then
        (s.rows.get ((findContentBounds s).r0 + i) ((findContentBounds s).c0 + j)).map cellText
      else none := by
  unfold boxTable
  simp only
  rw [subTable_get, shownGrid_get]

theorem subTable_length {α : Type} (t : List (List α)) (r0 nR c0 nC : Nat) (h : r0 + nR ≤ t.length) :
    (subTable t r0 nR c0 nC).length = nR := by
  unfold subTable
  rw [List.length_map, List.length_take, List.length_drop]
  omega

theorem subTable_row_length {α : Type} (t : List (List α)) (r0 nR c0 nC n : Nat)
    (hrect : ∀ row ∈ t, row.length = n) (h : c0 + nC ≤ n) :
    ∀ row ∈ subTable t r0 nR c0 nC, row.length = nC := by
  intro row hrow
  unfold subTable at hrow
  simp only [List.mem_map] at hrow
  obtain ⟨row', hr', rfl⟩ := hrow
  have : row' ∈ t := List.mem_of_mem_drop (List.mem_of_mem_take hr')
  rw [List.length_take, List.length_drop, hrect row' this]
  omega

/-- one side of a box `lo … hi` of Go ints inside `0 … n-1`, in natural numbers: offset and
length -/
theorem span_arith (lo hi : Int) (n : Nat) (h0 : 0 ≤ lo) (h1 : lo ≤ hi) (h2 : hi < n) :
    lo.toNat + (hi - lo + 1).toNat ≤ n ∧ 1 ≤ (hi - lo + 1).toNat ∧
      (lo + 1).toNat = lo.toNat + 1 ∧ (hi - (lo + 1) + 1).toNat = (hi - lo + 1).toNat - 1 := by
  omega

theorem span_index (lo hi : Int) (x : Nat) (h1 : lo ≤ x) (h2 : (x : Int) ≤ hi) :
    x - lo.toNat < (hi - lo + 1).toNat ∧ lo.toNat + (x - lo.toNat) = x := by
  omega

theorem box_facts (s : Sheet) (hrect : Rect (s.maxCol + 1) s.rows)
    (hne : (findContentBounds s).isEmpty = false) :
    (findContentBounds s).r0 + (findContentBounds s).nR ≤ s.rows.length ∧
    (findContentBounds s).c0 + (findContentBounds s).nC ≤ s.maxCol + 1 ∧
    1 ≤ (findContentBounds s).nR ∧ 1 ≤ (findContentBounds s).nC ∧
    span (findContentBounds s).minCol (findContentBounds s).maxCol =
      List.range' (findContentBounds s).c0 (findContentBounds s).nC ∧
    span ((findContentBounds s).minRow + 1) (findContentBounds s).maxRow =
      List.range' ((findContentBounds s).r0 + 1) ((findContentBounds s).nR - 1) := by
  obtain ⟨h1, h2, h3, h4, h5, h6⟩ := bounds_in_grid s hrect hne
  obtain ⟨r1, r2, r3, r4⟩ := span_arith _ _ _ h1 h2 h3
  obtain ⟨c1, c2, _, _⟩ := span_arith _ _ (s.maxCol + 1) h4 h5 (by omega)
  unfold Bounds.r0 Bounds.nR Bounds.c0 Bounds.nC span
  rw [r3, r4]
  exact ⟨r1, c1, r2, c2, rfl, rfl⟩

/-- a grid position inside the content box, looked up in the box: row and column count from the
box's corner -/
theorem boxTable_get_at (s : Sheet) (r c : Nat)
    (b1 : (findContentBounds s).minRow ≤ r) (b2 : (r : Int) ≤ (findContentBounds s).maxRow)
    (b3 : (findContentBounds s).minCol ≤ c) (b4 : (c : Int) ≤ (findContentBounds s).maxCol) :
    ((boxTable s)[r - (findContentBounds s).r0]?).bind (·[c - (findContentBounds s).c0]?) =
      (s.rows.get r c).map cellText := by
  obtain ⟨hi, ei⟩ := span_index _ _ r b1 b2
  obtain ⟨hj, ej⟩ := span_index _ _ c b3 b4
  rw [boxTable_get]
  unfold Bounds.r0 Bounds.nR Bounds.c0 Bounds.nC
  rw [if_pos ⟨hi, hj⟩, ei, ej]

/-- for a non-empty box the guards of `sheetToTable` and `markdown` pass: the first row of the box
is a row of the grid and the box has a column -/
theorem box_guards (s : Sheet) (hrect : Rect (s.maxCol + 1) s.rows)
    (hne : (findContentBounds s).isEmpty = false) :
    (findContentBounds s).minRow.toNat < s.rows.length ∧
      (span (findContentBounds s).minCol (findContentBounds s).maxCol).isEmpty = false := by
  obtain ⟨p1, p2, p3, p4, p5, p6⟩ := bounds_in_grid s hrect hne
  refine ⟨by omega, ?_⟩
  unfold span
  obtain ⟨n, hn⟩ : ∃ n, ((findContentBounds s).maxCol - (findContentBounds s).minCol + 1).toNat = n + 1 :=
    ⟨((findContentBounds s).maxCol - (findContentBounds s).minCol).toNat, by omega⟩
  rw [hn]; rfl

theorem subTable_map {α β : Type} (f : α → β) (t : List (List α)) (r0 nR c0 nC : Nat) :
    subTable (t.map fun row => row.map f) r0 nR c0 nC = (subTable t r0 nR c0 nC).map fun row => row.map f := by
  unfold subTable
  rw [← List.map_drop, ← List.map_take, List.map_map, List.map_map]
  apply List.map_congr_left
  intro row _
  simp [List.map_drop, List.map_take]

theorem tableCell_eq (g : Grid) (row : Nat) :
    tableCell g row = fun col => match (g[row]?).bind (·[col]?) with | some cell => cellText cell | none => [] := rfl

theorem sheetToTable_box (s : Sheet) (hrect : Rect (s.maxCol + 1) s.rows)
    (hne : (findContentBounds s).isEmpty = false) :
    (sheetToTable s).name = s.name ∧
    boxTable s = (sheetToTable s).headers :: (sheetToTable s).rows := by
  obtain ⟨f1, f2, f3, f4, f5, f6⟩ := box_facts s hrect hne
  obtain ⟨hrow, _⟩ := box_guards s hrect hne
  unfold sheetToTable
  simp only [hne, Bool.false_eq_true, if_false, hrow, if_true, f5, f6]
  refine ⟨trivial, ?_⟩
  -- header row and data rows together: the rows `r0 … r0+nR-1` of the grid, each cut to the columns
  have e0 : (findContentBounds s).minRow.toNat = (findContentBounds s).r0 := rfl
  rw [e0, ← List.map_cons (f := fun row => (List.range' (findContentBounds s).c0 (findContentBounds s).nC).map
      (tableCell s.rows row)), ← List.range'_succ, show (findContentBounds s).nR - 1 + 1 = (findContentBounds s).nR by omega]
  simp only [tableCell_eq]
  refine Eq.trans ?_ (range'_map_getElem? (fun o => (List.range' (findContentBounds s).c0 (findContentBounds s).nC).map
      (fun col => match (o : Option (List Cell)).bind (·[col]?) with | some cell => cellText cell | none => ([] : Str)))
      s.rows _ _ f1).symm
  unfold boxTable shownGrid
  simp only
  rw [subTable_map]
  unfold subTable
  rw [List.map_map]
  apply List.map_congr_left
  intro row hrow'
  have hmem : row ∈ s.rows := List.mem_of_mem_drop (List.mem_of_mem_take hrow')
  have := range'_map_getElem? (fun o => match o with | some cell => cellText cell | none => ([] : Str)) row
    (findContentBounds s).c0 (findContentBounds s).nC (by rw [hrect row hmem]; exact f2)
  simpa using this.symm

theorem mdCell_eq_escape (g : Grid) (row col : Nat) :
    mdCell g row col = escapeMarkdown (tableCell g row col) := by
  unfold mdCell tableCell
  cases g.get row col with
  | none => rfl
  | some cell =>
    simp only
    unfold cellText
    cases cell.merged <;> cases cell.root <;> rfl

theorem mdRow_eq_ptRow (g : Grid) (cols : List Nat) :
    mdRow g cols = fun row => ptRow (cols.map (tableCell g row)) := by
  funext row
  unfold mdRow ptRow
  rw [List.flatMap_map]
  simp only [mdCell_eq_escape]

/-- **the Markdown table of a sheet is the Markdown of its `Tables()` entry**: the two loops write
the same cells (`mdCell` is the escaped `tableCell`); a non-empty box only serves to show that the
guards of the two agree -/
theorem sheetTableMd_eq (s : Sheet) (hrect : Rect (s.maxCol + 1) s.rows) :
    sheetTableMd s = (sheetToTable s).toMarkdown := by
  cases hne : (findContentBounds s).isEmpty with
  | true =>
    have h1 : sheetTableMd s = [] := by
      unfold sheetTableMd; simp only [hne]; split <;> rfl
    have h2 : sheetToTable s = ⟨s.name, [], []⟩ := by
      unfold sheetToTable; simp only [hne, if_true]
    rw [h1, h2]; rfl
  | false =>
    obtain ⟨hrow, hcols⟩ := box_guards s hrect hne
    have hnonempty : s.rows.isEmpty = false := by
      cases hs : s.rows with
      | nil => rw [hs] at hrow; exact absurd hrow (Nat.not_lt_zero _)
      | cons _ _ => rfl
    unfold sheetTableMd sheetToTable PTable.toMarkdown
    simp only [hnonempty, hne, hrow, if_true, Bool.false_eq_true, if_false, List.isEmpty_map, hcols, false_and,
      mdRow_eq_ptRow, List.flatMap_map]
    rfl

theorem toDCell_text (h : Bool) (cell : Cell) : (toDCell h cell).text = cellText cell := rfl

theorem docTable_texts (g : Grid) (b : Bounds) :
    (docTable g b).map (fun row => row.map (·.text)) = subTable (shownGrid g) b.r0 b.nR b.c0 b.nC := by
  unfold docTable shownGrid
  rw [subTable_map]
  unfold subTable Bounds.r0 Bounds.nR Bounds.c0 Bounds.nC
  simp only [List.map_map]
  -- the texts do not depend on the row index
  conv => rhs; rw [← List.zipIdx_map_fst 0 (List.take _ _), List.map_map]
  apply List.map_congr_left
  intro x _
  simp only [Function.comp, List.map_map]
  rfl

/-- entry `(i,j)` of the document table is built from grid cell `(r0+i, c0+j)`; the first row is
the header row -/
theorem docTable_get (g : Grid) (b : Bounds) (i j : Nat) :
    ((docTable g b)[i]?).bind (·[j]?) =
      if i < b.nR ∧ j < b.nC then (g.get (b.r0 + i) (b.c0 + j)).map (toDCell (i == 0)) else none := by
  unfold docTable Grid.get Bounds.r0 Bounds.nR Bounds.c0 Bounds.nC
  simp only [List.getElem?_map, List.getElem?_zipIdx, getElem?_slice]
  by_cases hi : i < (b.maxRow - b.minRow + 1).toNat
  · rw [if_pos hi]
    cases g[b.minRow.toNat + i]? with
    | none => simp
    | some row =>
      simp only [Option.map_some, Option.bind_some, List.getElem?_map, getElem?_slice, hi, true_and, Nat.zero_add]
      split <;> rfl
  · rw [if_neg hi, if_neg (fun h => hi h.1)]
    rfl

end Tabula.Wb
