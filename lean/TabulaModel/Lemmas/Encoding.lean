import TabulaModel.Model.Encoding
/-!
Helper lemmas for the table theorems of C07, proved once, independent of the regenerated tables: a
linear Boolean check of a table against a reference and its soundness (`checkAll_sound`), a table
compared with a function on a segment of codes in one walk (`all_range_of_segment`), and an encoding
shown with its table as a list determines the table (`table_of_shown`).
-/
namespace Tabula.Encoding

/-- every table entry is allowed by the reference entry at the same index (an empty
reference entry allows anything); the lengths must agree -/
def checkAll : List Nat → List (List Nat) → Bool
  | v :: t, r :: rs => (r.isEmpty || r.contains v) && checkAll t rs
  | [], [] => true
  | _, _ => false

theorem checkAll_sound (t : List Nat) (r : List (List Nat)) (h : checkAll t r = true)
    (i : Nat) (allowed : List Nat) (hr : r[i]? = some allowed) (hne : allowed ≠ []) :
    ∃ v, t[i]? = some v ∧ v ∈ allowed := by
  induction t generalizing r i with
  | nil =>
    cases r with
    | nil => simp at hr
    | cons a b => simp [checkAll] at h
  | cons v t ih =>
    cases r with
    | nil => simp [checkAll] at h
    | cons a rs =>
      simp only [checkAll, Bool.and_eq_true, Bool.or_eq_true] at h
      cases i with
      | zero =>
        simp only [List.getElem?_cons_zero, Option.some.injEq] at hr
        subst hr
        refine ⟨v, by simp, ?_⟩
        rcases h.1 with h1 | h1
        · cases a with
          | nil => exact absurd rfl hne
          | cons _ _ => simp at h1
        · simpa using h1
      | succ j =>
        simp only [List.getElem?_cons_succ] at hr ⊢
        exact ih rs h.2 j hr

/-- every entry of a table is a scalar value or 0 -/
def allScalarOrZero (t : List Nat) : Bool := t.all fun v => decide (v < 0xD800 ∨ (0xE000 ≤ v ∧ v < 0x110000))

/-- a table agrees with `f` at every position of `[lo, n)` when that segment of it, as a list,
is `f` of the positions; comparing the segment walks the table once, where looking up every
position walks it once per position -/
theorem all_range_of_segment (t : Array Nat) (f : Nat → Nat) (lo n : Nat)
    (h : (t.toList.take n).drop lo = (List.range' lo (n - lo)).map f) :
    ((List.range n).all fun b => b < lo || t[b]? == some (f b)) = true := by
  rw [List.all_eq_true]
  intro b hb
  have hbn : b < n := List.mem_range.1 hb
  rcases Nat.lt_or_ge b lo with hlo | hlo
  · simp [hlo]
  · have hseg := congrArg (·[b - lo]?) h
    simp only [List.getElem?_drop, List.getElem?_take, List.getElem?_map,
      List.getElem?_range' (show b - lo < n - lo by omega), Nat.one_mul, Nat.add_sub_cancel' hlo,
      if_pos hbn, Array.getElem?_toList, Option.map_some] at hseg
    simp [hseg]

/-- an optional encoding shown with its table as a list determines the table -/
theorem table_of_shown (o : Option Enc) (n : String) (tbl : Array Nat)
    (h : (o.map fun e => (e.name, e.table.toList)) = some (n, tbl.toList)) :
    ∃ e, o = some e ∧ e.table = tbl := by
  cases o with
  | none => simp at h
  | some e =>
    simp only [Option.map_some, Option.some.injEq, Prod.mk.injEq] at h
    exact ⟨e, rfl, Array.toList_inj.mp h.2⟩

end Tabula.Encoding
