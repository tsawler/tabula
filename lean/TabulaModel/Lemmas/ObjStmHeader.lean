import TabulaModel.Model.Reader
/-!
# The header loop of an object stream, read backwards

`Reader.headerPairs` (core/objstm.go `parseHeader`) succeeds only on a list that starts with as
many integer pairs as it was asked for, every offset within `0 .. len`: one inversion of its
successor case, and what it says of the pair at each index.
-/
namespace Tabula.Reader
open Tabula.Pdf

theorem headerPairs_succ_some {len n : Nat} {objs : List Obj} {ps : List (Int × Nat)}
    (h : headerPairs len (n + 1) objs = some ps) :
    ∃ a b r qs, objs = .int a :: .int b :: r ∧ ¬ (b < 0 ∨ b > (len : Int)) ∧
      headerPairs len n r = some qs ∧ ps = (a, b.toNat) :: qs := by
  unfold headerPairs at h
  split at h
  · rename_i heq; cases heq
  · rename_i n' a b r heq
    cases heq
    split at h
    · cases h
    · rename_i hb
      cases hr : headerPairs len n r with
      | none => rw [hr] at h; cases h
      | some qs =>
        rw [hr] at h
        exact ⟨a, b, r, qs, rfl, hb, hr, (Option.some.inj h).symm⟩
  · cases h

/-- what a successful header loop has read: pair `i` is two integers, the offset within `0 .. len` -/
theorem headerPairs_some_get {len : Nat} : ∀ {n : Nat} {objs : List Obj} {ps : List (Int × Nat)},
    headerPairs len n objs = some ps → ∀ i, i < n →
      ∃ a b, objs[2 * i]? = some (.int a) ∧ objs[2 * i + 1]? = some (.int b) ∧ 0 ≤ b ∧ b ≤ (len : Int)
  | 0, _, _, _, i, hi => by omega
  | n + 1, objs, ps, h, i, hi => by
    obtain ⟨a, b, r, qs, rfl, hb, hr, _⟩ := headerPairs_succ_some h
    cases i with
    | zero => exact ⟨a, b, rfl, rfl, by omega, by omega⟩
    | succ i =>
      obtain ⟨a', b', h1, h2, h3⟩ := headerPairs_some_get hr i (by omega)
      refine ⟨a', b', ?_, ?_, h3⟩
      · rw [show 2 * (i + 1) = 2 * i + 1 + 1 by omega]; exact h1
      · rw [show 2 * (i + 1) + 1 = 2 * i + 1 + 1 + 1 by omega]; exact h2
end Tabula.Reader
