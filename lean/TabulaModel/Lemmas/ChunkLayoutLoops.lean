import TabulaModel.Model.ChunkLayout
import TabulaModel.Lemmas.Chunk
/-!
Helper lemmas for property C12, layout-based chunker: the loops of `splitSectionByParagraphs` / `splitBySentences` on
their state `LS`. Each loop is described once, by `Adds`: it keeps the state consistent (`LSOK`: indices, ids, the
section's metadata on every chunk) and adds a text, given in closed form, to what is emitted or pending (`pend`).
Numbering, stamped metadata and cover of a section's chunks are read off `splitSection_adds`.
-/
namespace Tabula.ChunkLayout
open Tabula.Chunk

def ceTexts (l : List CE) : Str := l.flatMap (·.text)

theorem joinPara_strip (acc t : Str) : strip (joinPara acc t) = strip acc ++ strip t := by
  unfold joinPara
  cases acc with
  | nil => simp [strip_nil]
  | cons a as =>
    have : (a :: as).isEmpty = false := rfl
    rw [this]
    simp only [Bool.false_eq_true, if_false, strip_append, strip_nn, List.append_nil]

theorem joinAll_strip (es : List CE) (acc : Str) :
    strip (es.foldl (fun acc e => joinPara acc e.text) acc) = strip acc ++ strip (ceTexts es) := by
  induction es generalizing acc with
  | nil => simp [ceTexts, strip_nil]
  | cons e es ih =>
    simp only [List.foldl_cons, ih, joinPara_strip, ceTexts, List.flatMap_cons, strip_append, List.append_assoc]

theorem trim_empty_strip (t : Str) (h : (trim t).isEmpty = true) : strip t = [] := by
  rw [← strip_trim, List.isEmpty_iff.mp h]; rfl

theorem textsOf_snoc (cs : List Chunk) (c : Chunk) : textsOf (cs ++ [c]) = textsOf cs ++ c.text := by
  rw [textsOf_append]; simp [textsOf]

theorem setLastText_snoc (cs : List Chunk) (c : Chunk) (t : Str) :
    setLastText (cs ++ [c]) t = cs ++ [{ c with text := t }] := by
  induction cs with
  | nil => rfl
  | cons x xs ih =>
    cases xs with
    | nil => rfl
    | cons y ys => simp only [List.cons_append, setLastText] at ih ⊢; rw [ih]

theorem strip_sp : strip [32] = [] := by decide

theorem lenGt_mono (a b : Str) (n : Int) (h : a.length ≤ b.length) (ha : lenGt a n = true) :
    lenGt b n = true := by
  unfold lenGt at *
  simp only [decide_eq_true_eq] at *
  omega

theorem joinPara_length_right (acc t : Str) : t.length ≤ (joinPara acc t).length := by
  unfold joinPara
  split
  · exact Nat.le_refl _
  · simp only [List.length_append]; omega

theorem joinPara_length_left (acc t : Str) : acc.length ≤ (joinPara acc t).length := by
  unfold joinPara
  split
  · rename_i h; rw [List.isEmpty_iff.mp h]; exact Nat.zero_le _
  · simp only [List.length_append]; omega

def layoutId (cfg : Cfg) (i : Nat) : Str := cfg.idPrefix ++ [95] ++ Tabula.A1.dec i

/-- what `createChunk` stamps on a chunk of the section `info` -/
def MetaOK (cfg : Cfg) (info : SecInfo) (c : Chunk) : Prop :=
  c.id = layoutId cfg c.idx ∧ c.path = info.path ∧ c.pageStart = info.pageStart ∧ c.pageEnd = info.pageEnd

/-- the loop state is consistent: indices run from `i0`, `chunkIndex` is the next free one -/
structure LSOK (cfg : Cfg) (info : SecInfo) (i0 : Nat) (s : LS) : Prop where
  seq : Chunk.Seq i0 s.chunks
  next : s.idx = i0 + s.chunks.length
  stamped : ∀ c ∈ s.chunks, MetaOK cfg info c

theorem LSOK.push {cfg : Cfg} {info : SecInfo} {i0 : Nat} {s : LS} (h : LSOK cfg info i0 s) (t cur : Str) :
    LSOK cfg info i0 ⟨s.chunks ++ [createChunk cfg info t s.idx], cur, s.idx + 1⟩ where
  seq := by
    refine Seq_append h.seq ?_
    unfold Chunk.Seq
    simp only [List.map_cons, List.map_nil, List.length_cons, List.length_nil, createChunk, h.next]
    rfl
  next := by simp only [List.length_append, List.length_cons, List.length_nil, h.next]; omega
  stamped := by
    intro c hc
    rcases List.mem_append.mp hc with hc | hc
    · exact h.stamped c hc
    · simp only [List.mem_singleton] at hc
      subst hc
      exact ⟨rfl, rfl, rfl, rfl⟩

theorem LSOK.setCur {cfg : Cfg} {info : SecInfo} {i0 : Nat} {s : LS} (h : LSOK cfg info i0 s) (cur : Str) :
    LSOK cfg info i0 { s with cur := cur } := ⟨h.seq, h.next, h.stamped⟩

/-- everything emitted or pending, white space aside -/
def pend (s : LS) : Str := strip (textsOf s.chunks) ++ strip s.cur

/-- what the loops emit for an element: its sentences when it exceeds `MaxChunkSize`, else its text -/
def emitText (cfg : Cfg) (e : CE) : Str := if lenGt e.text cfg.maxSize then e.sents.flatten else e.text

/-- a loop takes `s` to `s'` and handles the text `a`: the state stays consistent, and what is emitted or pending
grows by `a`, white space aside -/
structure Adds (cfg : Cfg) (info : SecInfo) (s s' : LS) (a : Str) : Prop where
  ok : ∀ {i0}, LSOK cfg info i0 s → LSOK cfg info i0 s'
  pend : pend s' = pend s ++ strip a

/-- the same with the emitted chunks and `currentText` told apart: `a` goes into chunks while what is pending stays
pending (this is how an element overtakes another), `b` joins `currentText` -/
structure Emits (cfg : Cfg) (info : SecInfo) (s s' : LS) (a b : Str) : Prop where
  ok : ∀ {i0}, LSOK cfg info i0 s → LSOK cfg info i0 s'
  texts : strip (textsOf s'.chunks) = strip (textsOf s.chunks) ++ strip a
  cur : strip s'.cur = strip s.cur ++ strip b

variable {cfg : Cfg} {info : SecInfo}

theorem Adds.refl (s : LS) : Adds cfg info s s [] := ⟨id, (List.append_nil _).symm⟩

theorem Adds.trans {s s' s'' : LS} {a b : Str} (h1 : Adds cfg info s s' a) (h2 : Adds cfg info s' s'' b) :
    Adds cfg info s s'' (a ++ b) :=
  ⟨fun h => h2.ok (h1.ok h), by rw [h2.pend, h1.pend, strip_append, List.append_assoc]⟩

theorem Adds.ite (c : Prop) [Decidable c] {s x y : LS} {a : Str} (hx : Adds cfg info s x a) (hy : Adds cfg info s y a) :
    Adds cfg info s (if c then x else y) a := by
  split <;> assumption

/-- `currentText` becomes a chunk -/
theorem Adds.emit (s : LS) : Adds cfg info s ⟨s.chunks ++ [createChunk cfg info s.cur s.idx], [], s.idx + 1⟩ [] :=
  ⟨fun h => h.push _ _, by simp [ChunkLayout.pend, textsOf_snoc, createChunk, strip_append, strip_nil]⟩

/-- `currentText` is merged into the last chunk -/
theorem Adds.merge {s : LS} {prev : Chunk} (hl : s.chunks.getLast? = some prev) :
    Adds cfg info s ⟨setLastText s.chunks (prev.text ++ [10, 10] ++ s.cur), [], s.idx⟩ [] := by
  obtain ⟨ys, hys⟩ := List.getLast?_eq_some_iff.mp hl
  rw [hys, setLastText_snoc]
  refine ⟨fun h => ?_, ?_⟩
  · have hs := h.seq
    have hn := h.next
    have hm := h.stamped
    rw [hys] at hs hn hm
    refine ⟨by simpa [Chunk.Seq] using hs, by simpa using hn, fun c hc => ?_⟩
    rcases List.mem_append.mp hc with hc | hc
    · exact hm c (List.mem_append_left _ hc)
    · rw [List.mem_singleton.mp hc]; exact hm prev (List.mem_append_right _ (List.mem_singleton_self _))
  · simp only [ChunkLayout.pend, hys, textsOf_append, textsOf_cons, textsOf_nil, strip_append, strip_nn, strip_nil,
      List.append_nil, List.nil_append, List.append_assoc]

theorem Emits.refl (s : LS) : Emits cfg info s s [] [] := ⟨id, (List.append_nil _).symm, (List.append_nil _).symm⟩

theorem Emits.trans {s s' s'' : LS} {a b a' b' : Str} (h1 : Emits cfg info s s' a b) (h2 : Emits cfg info s' s'' a' b') :
    Emits cfg info s s'' (a ++ a') (b ++ b') :=
  ⟨fun h => h2.ok (h1.ok h), by rw [h2.texts, h1.texts, strip_append, List.append_assoc],
    by rw [h2.cur, h1.cur, strip_append, List.append_assoc]⟩

/-- `t` joins `currentText` -/
theorem Emits.queue (s : LS) (t : Str) : Emits cfg info s { s with cur := joinPara s.cur t } [] t :=
  ⟨fun h => h.setCur _, (List.append_nil _).symm, joinPara_strip _ _⟩

/-- nothing is overtaken when nothing is pending -/
theorem Emits.adds {s s' : LS} {a b : Str} (h : Emits cfg info s s' a b) (hc : strip s.cur = []) :
    Adds cfg info s s' (a ++ b) :=
  ⟨h.ok, by simp only [ChunkLayout.pend, h.texts, h.cur, hc, strip_append, List.append_assoc, List.nil_append,
    List.append_nil]⟩

/-- `t` joins `currentText` -/
theorem Adds.queue (s : LS) (t : Str) : Adds cfg info s { s with cur := joinPara s.cur t } t :=
  ⟨fun h => h.setCur _, by simp only [ChunkLayout.pend, joinPara_strip, List.append_assoc]⟩

theorem flushChunk_adds (s : LS) :
    Adds cfg info s (flushChunk cfg info s) [] ∧ strip (flushChunk cfg info s).cur = [] := by
  unfold flushChunk
  by_cases hb : (trim s.cur).isEmpty = true
  · rw [if_pos hb]; exact ⟨Adds.refl s, trim_empty_strip _ hb⟩
  · rw [if_neg hb]
    cases hl : s.chunks.getLast? with
    | none => exact ⟨Adds.emit s, rfl⟩
    | some prev =>
      simp only
      split
      · exact ⟨Adds.merge hl, rfl⟩
      · exact ⟨Adds.emit s, rfl⟩

theorem flushIfPending_adds (s : LS) :
    Adds cfg info s (flushIfPending cfg info s) [] ∧ strip (flushIfPending cfg info s).cur = [] := by
  unfold flushIfPending
  by_cases hb : s.cur.isEmpty = true
  · rw [if_pos hb]; exact ⟨Adds.refl s, by rw [List.isEmpty_iff.mp hb]; rfl⟩
  · rw [if_neg hb]; exact flushChunk_adds s

theorem flushIfOver_adds (added : Int) (s : LS) : Adds cfg info s (flushIfOver cfg info added s) [] :=
  Adds.ite _ (flushChunk_adds s).1 (Adds.refl s)

theorem sentEmit_adds (t : Str) (s : LS) : Adds cfg info s (sentEmit cfg info t s) [] :=
  Adds.ite _ (Adds.emit s) (Adds.refl s)

theorem sentAdd_adds (t : Str) (s : LS) : Adds cfg info s (sentAdd t s) t := by
  refine ⟨fun h => h.setCur _, ?_⟩
  unfold sentAdd pend
  by_cases he : s.cur.isEmpty = true
  · rw [if_pos he, List.isEmpty_iff.mp he]; simp [strip_nil]
  · rw [if_neg he]; simp only [strip_append, strip_sp, List.nil_append, List.append_assoc]

theorem sentLoop_adds (ts : List Str) (s : LS) :
    Adds cfg info s (sentLoop cfg info ts s) ts.flatten ∧ (sentLoop cfg info ts s).cur = [] := by
  induction ts generalizing s with
  | nil =>
    simp only [sentLoop]
    by_cases hb : s.cur.isEmpty = true
    · rw [if_pos hb]; exact ⟨Adds.refl s, List.isEmpty_iff.mp hb⟩
    · rw [if_neg hb]; exact ⟨Adds.emit s, rfl⟩
  | cons t ts ih =>
    exact ⟨((sentEmit_adds t s).trans (sentAdd_adds t _)).trans (ih _).1, (ih _).2⟩

/-- the sentences go into chunks at once; the caller's `currentText` stays pending -/
theorem splitBySentences_emits (sents : List Str) (s : LS) :
    Emits cfg info s (splitBySentences cfg info sents s) sents.flatten [] := by
  obtain ⟨h1, h2⟩ := sentLoop_adds (cfg := cfg) (info := info) sents ⟨s.chunks, [], s.idx⟩
  refine ⟨fun h => (h1.ok (h.setCur [])).setCur s.cur, ?_, (List.append_nil _).symm⟩
  simpa only [splitBySentences, pend, h2, strip_nil, List.append_nil] using h1.pend

theorem splitBySentences_adds (sents : List Str) (s : LS) (hc : strip s.cur = []) :
    Adds cfg info s (splitBySentences cfg info sents s) sents.flatten :=
  have h := splitBySentences_emits (cfg := cfg) (info := info) sents s
  ⟨h.ok, by simp only [pend, h.texts, h.cur, hc, strip_nil, List.append_nil]⟩

theorem plainElem_adds (e : CE) (s : LS) : Adds cfg info s (plainElem cfg info e s) (emitText cfg e) := by
  simp only [plainElem]
  have h1 := flushIfOver_adds (cfg := cfg) (info := info) ((e.text.length : Int) + (if s.cur.isEmpty then 0 else 2)) s
  generalize flushIfOver cfg info ((e.text.length : Int) + (if s.cur.isEmpty then 0 else 2)) s = s1 at h1 ⊢
  by_cases hg : lenGt e.text cfg.maxSize = true
  · obtain ⟨f1, f2⟩ := flushIfPending_adds (cfg := cfg) (info := info) s1
    rw [if_pos hg, show emitText cfg e = e.sents.flatten from if_pos hg]
    exact h1.trans (f1.trans (splitBySentences_adds e.sents _ f2))
  · rw [if_neg hg, show emitText cfg e = e.text from if_neg hg]
    exact h1.trans (Adds.queue s1 e.text)

/-- an over-long atomic block: the sentences of its over-long elements go into chunks at once, in order, while the
texts of the others queue up in `currentText` behind what is pending there -/
theorem atomicOversize_emits (es : List CE) (s : LS) :
    Emits cfg info s (atomicOversize cfg info es s)
      ((es.filter fun e => lenGt e.text cfg.maxSize).flatMap (emitText cfg))
      ((es.filter fun e => !lenGt e.text cfg.maxSize).flatMap (emitText cfg)) := by
  induction es generalizing s with
  | nil => exact Emits.refl s
  | cons e es ih =>
    by_cases hg : lenGt e.text cfg.maxSize = true
    · rw [atomicOversize, if_pos hg]
      simpa [hg, emitText] using (splitBySentences_emits e.sents s).trans (ih _)
    · rw [atomicOversize, if_neg hg]
      simpa [hg, emitText] using (Emits.queue s e.text).trans (ih _)

theorem atomicBlock_adds (es : List CE) (s : LS) :
    Adds cfg info s (atomicBlock cfg info es s)
      (if lenGt (es.foldl (fun acc e => joinPara acc e.text) []) cfg.maxSize then
        (es.filter fun e => lenGt e.text cfg.maxSize).flatMap (emitText cfg) ++
          (es.filter fun e => !lenGt e.text cfg.maxSize).flatMap (emitText cfg)
      else ceTexts es) := by
  obtain ⟨f1, f2⟩ := flushIfPending_adds (cfg := cfg) (info := info) s
  unfold atomicBlock
  simp only
  generalize flushIfPending cfg info s = s1 at f1 f2
  split
  · exact f1.trans ((atomicOversize_emits es s1).adds f2)
  · refine f1.trans ⟨fun h => h.push _ _, ?_⟩
    simp only [pend, textsOf_snoc, strip_append, createChunk, joinAll_strip, strip_nil, List.nil_append, f2,
      List.append_nil, ceTexts, List.flatMap_def]

theorem atomic1_adds (e : CE) (s : LS) : Adds cfg info s (atomicBlock cfg info [e] s) (emitText cfg e) := by
  have h := atomicBlock_adds (cfg := cfg) (info := info) [e] s
  have : lenGt ([e].foldl (fun acc e => joinPara acc e.text) []) cfg.maxSize = lenGt e.text cfg.maxSize := rfl
  rw [this] at h
  cases hef : lenGt e.text cfg.maxSize <;> simpa [hef, emitText, ceTexts] using h

theorem atomic2_adds (e n : CE) (s : LS) :
    Adds cfg info s (atomicBlock cfg info [e, n] s)
      (if !lenGt e.text cfg.maxSize && lenGt n.text cfg.maxSize then emitText cfg n ++ emitText cfg e
        else emitText cfg e ++ emitText cfg n) := by
  have h := atomicBlock_adds (cfg := cfg) (info := info) [e, n] s
  have : lenGt ([e, n].foldl (fun acc e => joinPara acc e.text) []) cfg.maxSize =
      lenGt (joinPara e.text n.text) cfg.maxSize := rfl
  rw [this] at h
  -- the block is over-long as soon as one of the two is
  have hl := fun h => lenGt_mono _ _ cfg.maxSize (joinPara_length_left e.text n.text) h
  have hr := fun h => lenGt_mono _ _ cfg.maxSize (joinPara_length_right e.text n.text) h
  cases hef : lenGt e.text cfg.maxSize <;> cases hnf : lenGt n.text cfg.maxSize <;>
    simpa [hef, hnf, hl, hr, emitText, ceTexts] using h

/-- what `splitSectionByParagraphs` makes chunks of, in the order of emission: an element's text, or its sentences
when it exceeds `MaxChunkSize`; an introducing paragraph kept with its list (lists not atomic) goes in whole, with
the list, whatever their sizes -/
def emittedText (cfg : Cfg) : List CE → Str
  | [] => []
  | [e] => emitText cfg e
  | e :: n :: rest =>
    if cfg.keepLists && e.kind == .list then emitText cfg e ++ emittedText cfg (n :: rest)
    else if e.kind == .para && n.kind == .list && e.intro then
      if cfg.keepLists then
        (if !lenGt e.text cfg.maxSize && lenGt n.text cfg.maxSize then emitText cfg n ++ emitText cfg e
          else emitText cfg e ++ emitText cfg n) ++ emittedText cfg rest
      else e.text ++ n.text ++ emittedText cfg rest
    else emitText cfg e ++ emittedText cfg (n :: rest)

theorem paraLoop_adds (es : List CE) (s : LS) : Adds cfg info s (paraLoop cfg info es s) (emittedText cfg es) := by
  fun_induction paraLoop cfg info es s with
  | case1 s => exact Adds.refl s
  | case2 e s hk => exact atomic1_adds e s
  | case3 e s hk => exact plainElem_adds e s
  | case4 e n rest s hk ih => rw [emittedText, if_pos hk]; exact (atomic1_adds e s).trans ih
  | case5 e n rest s hk hi hkeep ih =>
    rw [emittedText, if_neg hk, if_pos hi, if_pos hkeep]; exact (atomic2_adds e n s).trans ih
  | case6 e n rest s hk hi hkeep s1 ih =>
    rw [emittedText, if_neg hk, if_pos hi, if_neg hkeep]
    refine ((flushIfOver_adds _ s).trans (⟨fun h => h.setCur _, ?_⟩ : Adds cfg info s1 _ (e.text ++ n.text))).trans ih
    simp only [pend, strip_append, joinPara_strip, strip_nn, List.nil_append, List.append_assoc]
  | case7 e n rest s hk hi ih => rw [emittedText, if_neg hk, if_neg hi]; exact (plainElem_adds e s).trans ih

/-- **`splitSectionByParagraphs`, every input**: its chunks are numbered from `idx` and stamped with the section's
metadata, and their texts are `emittedText` of the content, white space aside -/
theorem splitSection_adds (content : List CE) (idx : Nat) :
    LSOK cfg info idx (flushChunk cfg info (paraLoop cfg info content ⟨[], [], idx⟩)) ∧
    strip (textsOf (splitSectionByParagraphs cfg info content idx)) = strip (emittedText cfg content) := by
  obtain ⟨f1, f2⟩ := flushChunk_adds (cfg := cfg) (info := info) (paraLoop cfg info content ⟨[], [], idx⟩)
  have h := (paraLoop_adds content ⟨[], [], idx⟩).trans f1
  refine ⟨h.ok ⟨Seq_nil idx, rfl, fun c hc => by cases hc⟩, ?_⟩
  simpa [pend, splitSectionByParagraphs, f2, textsOf_nil, strip_nil] using h.pend

end Tabula.ChunkLayout
