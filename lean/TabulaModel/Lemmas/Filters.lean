import TabulaModel.Lemmas.FiltersPredict
/-!
Lemmas about `Model/Filters.lean` other than the predictors (`Lemmas/FiltersPredict.lean`): ASCIIHex, ASCII85 (the
base-85 arithmetic of a group, then the state machine), the CCITT wrapper, the filter loop, and the `switch` of
`decodeWithFilter` (`decodeWithFilter_cases` with its one-branch equations), through which the other files use these
definitions without unfolding them.
-/
namespace Tabula.Filters

theorem isWs_ge33 (c : Nat) (h : 33 ≤ c) : isWs c = false := by
  simp [isWs]; omega

theorem hexVal_some_props (c v : Nat) (h : hexVal c = some v) : isWs c = false ∧ c ≠ 62 ∧ v < 16 := by
  unfold hexVal at h
  by_cases h1 : 48 ≤ c ∧ c ≤ 57
  · rw [if_pos h1] at h; cases h
    exact ⟨isWs_ge33 c (by omega), by omega, by omega⟩
  rw [if_neg h1] at h
  by_cases h2 : 65 ≤ c ∧ c ≤ 70
  · rw [if_pos h2] at h; cases h
    exact ⟨isWs_ge33 c (by omega), by omega, by omega⟩
  rw [if_neg h2] at h
  by_cases h3 : 97 ≤ c ∧ c ≤ 102
  · rw [if_pos h3] at h; cases h
    exact ⟨isWs_ge33 c (by omega), by omega, by omega⟩
  rw [if_neg h3] at h
  cases h

theorem hexGo_ws (w t : Str) (p : Option Nat) (acc : Str) (hw : ∀ c ∈ w, isWs c = true) :
    hexGo (w ++ t) p acc = hexGo t p acc := by
  induction w with
  | nil => rfl
  | cons c cs ih =>
    have hc : isWs c = true := hw c (by simp)
    simp only [List.cons_append, hexGo, hc, if_true]
    exact ih (fun c' h' => hw c' (by simp [h']))

theorem hexGo_digit (c v : Nat) (rest : Str) (p : Option Nat) (acc : Str) (h : hexVal c = some v) :
    hexGo (c :: rest) p acc =
      match p with
      | none => hexGo rest (some v) acc
      | some hi => hexGo rest none ((hi * 16 + v) :: acc) := by
  obtain ⟨h1, h2, _⟩ := hexVal_some_props c v h
  simp only [hexGo, h1, h2, h, if_false, Bool.false_eq_true]
  cases p <;> rfl

theorem hexGo_enc (s x : Str) (h : HexEnc s x) : ∀ (t acc : Str),
    hexGo (s ++ t) none acc = hexGo t none (x.reverse ++ acc) := by
  induction h with
  | nil => intro t acc; rfl
  | ws c s x hc _ ih =>
    intro t acc
    simp only [List.cons_append, hexGo, hc, if_true]
    exact ih t acc
  | byte h l b w s x hh hl hw _ ih =>
    intro t acc
    simp only [List.cons_append]
    rw [hexGo_digit h (b / 16) _ none acc hh]
    simp only [List.append_assoc]
    rw [hexGo_ws w _ _ _ hw]
    simp only [List.cons_append]
    rw [hexGo_digit l (b % 16) _ (some (b / 16)) acc hl]
    simp only
    rw [ih t]
    have : b / 16 * 16 + b % 16 = b := by omega
    simp [this]

theorem hexVal_hexDigit (u : Bool) (n : Nat) (h : n < 16) : hexVal (hexDigit u n) = some n := by
  unfold hexDigit hexVal
  by_cases h10 : n < 10
  · rw [if_pos h10, if_pos (by omega), Nat.add_sub_cancel_left]
  · rw [if_neg h10]
    cases u
    · rw [if_neg Bool.false_ne_true, if_neg (by omega), if_neg (by omega), if_pos (by omega)]
      congr 1; omega
    · rw [if_pos rfl, if_neg (by omega), if_pos (by omega)]
      congr 1; omega

/-- the canonical encoder's output (without the EOD) is an accepted writing -/
theorem hexBody_HexEnc (u : Bool) (x : Str) (hx : ∀ b ∈ x, b < 256) : HexEnc (hexBody u x) x := by
  induction x with
  | nil => exact HexEnc.nil
  | cons b bs ih =>
    have hb : b < 256 := hx b (by simp)
    have := HexEnc.byte (hexDigit u (b / 16)) (hexDigit u (b % 16)) b [] (hexBody u bs) bs
      (hexVal_hexDigit u _ (by omega)) (hexVal_hexDigit u _ (by omega)) (by simp)
      (ih (fun c hc => hx c (by simp [hc])))
    simpa [hexBody] using this

/-- `>`, whatever follows it, ends decoding like the end of the data -/
theorem hexGo_eod (t : Str) (p : Option Nat) (acc : Str) : hexGo (62 :: t) p acc = some (hexFinish p acc) := by
  simp [hexGo, isWs]

/-- a writing of `x`, followed by something that makes the decoder stop, decodes to `x` -/
theorem hexDecode_enc (s x tail : Str) (h : HexEnc s x)
    (htail : ∀ p acc, hexGo tail p acc = some (hexFinish p acc)) : hexDecode (s ++ tail) = some x := by
  unfold hexDecode
  rw [hexGo_enc s x h, htail]
  simp [hexFinish]

/-- … and with an odd final digit (white space behind it allowed) the digit counts as followed by `0` -/
theorem hexDecode_odd (s x w tail : Str) (c v : Nat) (h : HexEnc s x) (hc : hexVal c = some v)
    (hw : ∀ c ∈ w, isWs c = true) (htail : ∀ p acc, hexGo tail p acc = some (hexFinish p acc)) :
    hexDecode (s ++ c :: (w ++ tail)) = some (x ++ [v * 16]) := by
  unfold hexDecode
  rw [hexGo_enc s x h, hexGo_digit c v _ none _ hc]
  simp only
  rw [hexGo_ws w _ _ _ hw, htail]
  simp [hexFinish]

/-- what stands in front of the rest of the data is read the same way whatever the rest is, as long as
the rest is read the same way -/
theorem hexGo_congr {r r' : Str} (h : ∀ p acc, hexGo r p acc = hexGo r' p acc) :
    ∀ (a : Str) (p : Option Nat) (acc : Str), hexGo (a ++ r) p acc = hexGo (a ++ r') p acc := by
  intro a
  induction a with
  | nil => exact h
  | cons x a ih =>
    intro p acc
    rw [List.cons_append, List.cons_append, hexGo, hexGo]
    simp only [ih]

theorem a85Value_5 (d0 d1 d2 d3 d4 : Nat) :
    a85Value [d0, d1, d2, d3, d4] = (((d0 * 85 + d1) * 85 + d2) * 85 + d3) * 85 + d4 := by
  simp [a85Value]

/-- the leading base-85 digits of `V` recompose to `V` without its last `k` digits: one digit re-attached at a time -/
theorem digits_recompose2 (V x : Nat) :
    (V / 52200625 * 85 + V / 614125 % 85) * 85 + x = V / 614125 * 85 + x := by
  have h3 : V / 614125 / 85 = V / 52200625 := Nat.div_div_eq_div_mul V 614125 85
  rw [← h3, Nat.div_add_mod']

theorem digits_recompose3 (V x : Nat) :
    ((V / 52200625 * 85 + V / 614125 % 85) * 85 + V / 7225 % 85) * 85 + x = V / 7225 * 85 + x := by
  have h2 : V / 7225 / 85 = V / 614125 := Nat.div_div_eq_div_mul V 7225 85
  rw [digits_recompose2, ← h2, Nat.div_add_mod']

theorem digits_recompose4 (V x : Nat) :
    (((V / 52200625 * 85 + V / 614125 % 85) * 85 + V / 7225 % 85) * 85 + V / 85 % 85) * 85 + x
      = V / 85 * 85 + x := by
  have h1 : V / 85 / 85 = V / 7225 := Nat.div_div_eq_div_mul V 85 85
  rw [digits_recompose3, ← h1, Nat.div_add_mod']
theorem a85Flush_5 (d0 d1 d2 d3 d4 : Nat) : a85Flush [d0, d1, d2, d3, d4] =
    if (((d0 * 85 + d1) * 85 + d2) * 85 + d3) * 85 + d4 > 4294967295 then none
    else some (bytes4 ((((d0 * 85 + d1) * 85 + d2) * 85 + d3) * 85 + d4)) := by
  simp [a85Flush, a85Value, bytes4]

theorem a85Flush_4 (d0 d1 d2 d3 : Nat) : a85Flush [d0, d1, d2, d3] =
    if (((d0 * 85 + d1) * 85 + d2) * 85 + d3) * 85 + 84 > 4294967295 then none
    else some ((bytes4 ((((d0 * 85 + d1) * 85 + d2) * 85 + d3) * 85 + 84)).take 3) := by
  simp [a85Flush, a85Value, bytes4]

theorem a85Flush_3 (d0 d1 d2 : Nat) : a85Flush [d0, d1, d2] =
    if (((d0 * 85 + d1) * 85 + d2) * 85 + 84) * 85 + 84 > 4294967295 then none
    else some ((bytes4 ((((d0 * 85 + d1) * 85 + d2) * 85 + 84) * 85 + 84)).take 2) := by
  simp [a85Flush, a85Value, bytes4, List.replicate]

theorem a85Flush_2 (d0 d1 : Nat) : a85Flush [d0, d1] =
    if (((d0 * 85 + d1) * 85 + 84) * 85 + 84) * 85 + 84 > 4294967295 then none
    else some ((bytes4 ((((d0 * 85 + d1) * 85 + 84) * 85 + 84) * 85 + 84)).take 1) := by
  simp [a85Flush, a85Value, bytes4, List.replicate]

/-- the last base-256 digit of a number, and the rest -/
theorem byte_split (X d : Nat) (hd : d < 256) : (X * 256 + d) / 256 = X ∧ (X * 256 + d) % 256 = d := by
  constructor <;> omega

theorem bytes4_word (a b c d : Nat) (ha : a < 256) (hb : b < 256) (hc : c < 256) (hd : d < 256) :
    bytes4 (word a b c d) = [a, b, c, d] := by
  have hw : word a b c d = ((a * 256 + b) * 256 + c) * 256 + d := by unfold word; omega
  have e2 : ∀ Z, Z / 65536 = Z / 256 / 256 := fun Z => (Nat.div_div_eq_div_mul Z 256 256).symm
  have e3 : ∀ Z, Z / 16777216 = Z / 256 / 256 / 256 := fun Z => by
    rw [Nat.div_div_eq_div_mul, Nat.div_div_eq_div_mul]
  obtain ⟨q1, r1⟩ := byte_split ((a * 256 + b) * 256 + c) d hd
  obtain ⟨q2, r2⟩ := byte_split (a * 256 + b) c hc
  obtain ⟨q3, r3⟩ := byte_split a b hb
  rw [hw, bytes4, e3, e2, q1, r1, q2, r2, q3, r3, Nat.mod_eq_of_lt ha]

theorem bytes4_lt (v : Nat) : ∀ b ∈ bytes4 v, b < 256 := by
  intro b hb
  simp only [bytes4, List.mem_cons, List.not_mem_nil, or_false] at hb
  rcases hb with rfl | rfl | rfl | rfl <;> exact Nat.mod_lt _ (by decide)

/-- the leading bytes of a 32-bit value depend only on the value without its low bytes -/
theorem bytes4_take3_congr {X Y : Nat} (h : X / 256 = Y / 256) : (bytes4 X).take 3 = (bytes4 Y).take 3 := by
  have e2 : ∀ Z, Z / 65536 = Z / 256 / 256 := fun Z => (Nat.div_div_eq_div_mul Z 256 256).symm
  have e3 : ∀ Z, Z / 16777216 = Z / 256 / 65536 := fun Z => (Nat.div_div_eq_div_mul Z 256 65536).symm
  simp only [bytes4, List.take, e2, e3, h]

theorem bytes4_take2_congr {X Y : Nat} (h : X / 65536 = Y / 65536) : (bytes4 X).take 2 = (bytes4 Y).take 2 := by
  have e3 : ∀ Z, Z / 16777216 = Z / 65536 / 256 := fun Z => (Nat.div_div_eq_div_mul Z 65536 256).symm
  simp only [bytes4, List.take, e3, h]

theorem bytes4_take1_congr {X Y : Nat} (h : X / 16777216 = Y / 16777216) : (bytes4 X).take 1 = (bytes4 Y).take 1 := by
  simp only [bytes4, List.take, h]

/-- base-85 padding with `u` does not reach the bytes that count: replacing the remainder of `w * M` modulo an
`m ≤ M` by the largest one, `m - 1`, stays below `(w + 1) * M`, so the quotient by `M` is still `w` -/
theorem pad_div (w m M : Nat) (hm : 0 < m) (hM : m ≤ M) :
    (w * M / m * m + (m - 1)) / M = w * M / M ∧ w * M / m * m + (m - 1) < (w + 1) * M := by
  have h1 := Nat.div_add_mod' (w * M) m
  have h2 := Nat.mod_lt (w * M) hm
  have lo : w * M ≤ w * M / m * m + (m - 1) := by omega
  have hi : w * M / m * m + (m - 1) < (w + 1) * M := by rw [Nat.succ_mul]; omega
  exact ⟨(Nat.div_eq_of_lt_le lo hi).trans (Nat.mul_div_cancel _ (Nat.lt_of_lt_of_le hm hM)).symm, hi⟩

/-- full group: the decoder's value of the encoder's digits is the word itself -/
theorem flush_full (a b c d : Nat) (ha : a < 256) (hb : b < 256) (hc : c < 256) (hd : d < 256) :
    a85Flush [word a b c d / 52200625, word a b c d / 614125 % 85, word a b c d / 7225 % 85,
      word a b c d / 85 % 85, word a b c d % 85] = some [a, b, c, d] := by
  have hV : word a b c d < 4294967296 := by unfold word; omega
  rw [a85Flush_5, digits_recompose4]
  have e : word a b c d / 85 * 85 + word a b c d % 85 = word a b c d := by omega
  rw [e]
  have : ¬ (word a b c d > 4294967295) := by omega
  simp only [this, if_false]
  rw [bytes4_word a b c d ha hb hc hd]

/-- partial group of three bytes: four digits, padded with 84 -/
theorem flush_3 (a b c : Nat) (ha : a < 256) (hb : b < 256) (hc : c < 256) :
    a85Flush [word a b c 0 / 52200625, word a b c 0 / 614125 % 85, word a b c 0 / 7225 % 85,
      word a b c 0 / 85 % 85] = some [a, b, c] := by
  rw [a85Flush_4, digits_recompose4]
  have hb4 := bytes4_word a b c 0 ha hb hc (by decide)
  have hV : word a b c 0 = (a * 65536 + b * 256 + c) * 256 := by unfold word; omega
  rw [hV] at hb4 ⊢
  -- the word is a multiple of 256 and the padding replaces its remainder modulo 85: the leading three bytes stay
  obtain ⟨hq, hlt⟩ := pad_div (a * 65536 + b * 256 + c) 85 256 (by decide) (by decide)
  rw [if_neg (by omega), bytes4_take3_congr hq, hb4]
  rfl

theorem flush_2 (a b : Nat) (ha : a < 256) (hb : b < 256) :
    a85Flush [word a b 0 0 / 52200625, word a b 0 0 / 614125 % 85, word a b 0 0 / 7225 % 85] = some [a, b] := by
  rw [a85Flush_3, digits_recompose3]
  have hb4 := bytes4_word a b 0 0 ha hb (by decide) (by decide)
  have hV : word a b 0 0 = (a * 256 + b) * 65536 := by unfold word; omega
  rw [hV] at hb4 ⊢
  obtain ⟨hq, hlt⟩ := pad_div (a * 256 + b) 7225 65536 (by decide) (by decide)
  have hH : ∀ q, (q * 85 + 84) * 85 + 84 = q * 7225 + (7225 - 1) := fun q => by omega
  rw [hH, if_neg (by omega), bytes4_take2_congr hq, hb4]
  rfl

theorem flush_1 (a : Nat) (ha : a < 256) :
    a85Flush [word a 0 0 0 / 52200625, word a 0 0 0 / 614125 % 85] = some [a] := by
  rw [a85Flush_2, digits_recompose2]
  have hb4 := bytes4_word a 0 0 0 ha (by decide) (by decide) (by decide)
  have hV : word a 0 0 0 = a * 16777216 := by unfold word; omega
  rw [hV] at hb4 ⊢
  obtain ⟨hq, hlt⟩ := pad_div a 614125 16777216 (by decide) (by decide)
  have hH : ∀ q, ((q * 85 + 84) * 85 + 84) * 85 + 84 = q * 614125 + (614125 - 1) := fun q => by omega
  rw [hH, if_neg (by omega), bytes4_take1_congr hq, hb4]
  rfl

/-- one digit character `d+33` (d < 85) read by the decoder inside a group that stays incomplete -/
theorem a85Go_step (d : Nat) (hd : d < 85) (rest ds acc : Str) (hl : ds.length < 4) :
    a85Go ((d + 33) :: rest) ds acc = a85Go rest (ds ++ [d]) acc := by
  have h1 : isWs (d + 33) = false := isWs_ge33 _ (by omega)
  have h2 : ¬ (d + 33 = 126 ∧ rest.head? = some 62) := by omega
  have h3 : ¬ (ds = [] ∧ d + 33 = 122) := by omega
  have h4 : ¬ (d + 33 < 33 ∨ d + 33 > 117) := by omega
  have h5 : ¬ ((ds ++ [d]).length = 5) := by simp; omega
  rw [a85Go]
  simp only [h1, h2, h3, h4, if_false, Bool.false_eq_true, Nat.add_sub_cancel, h5]

theorem a85Go_step5 (d : Nat) (hd : d < 85) (rest ds acc : Str) (hl : ds.length = 4) :
    a85Go ((d + 33) :: rest) ds acc =
      match a85Flush (ds ++ [d]) with
      | none => none
      | some g => a85Go rest [] (g.reverse ++ acc) := by
  have h1 : isWs (d + 33) = false := isWs_ge33 _ (by omega)
  have h2 : ¬ (d + 33 = 126 ∧ rest.head? = some 62) := by omega
  have h3 : ¬ (ds = [] ∧ d + 33 = 122) := by omega
  have h4 : ¬ (d + 33 < 33 ∨ d + 33 > 117) := by omega
  have h5 : (ds ++ [d]).length = 5 := by simp; omega
  rw [a85Go]
  simp only [h1, h2, h3, h4, if_false, Bool.false_eq_true, Nat.add_sub_cancel, h5, if_true]
  cases a85Flush (ds ++ [d]) <;> rfl

theorem a85Go_z (rest acc : Str) : a85Go (122 :: rest) [] acc = a85Go rest [] (0 :: 0 :: 0 :: 0 :: acc) := by
  rw [a85Go]
  simp [isWs]

theorem a85Go_eod (t ds acc : Str) : a85Go (126 :: 62 :: t) ds acc = a85Finish ds acc := by
  rw [a85Go]
  simp [isWs]

theorem a85Go_end (ds acc : Str) : a85Go [] ds acc = a85Finish ds acc := by
  rw [a85Go]

theorem word_lt (a b c d : Nat) (ha : a < 256) (hb : b < 256) (hc : c < 256) (hd : d < 256) :
    word a b c d < 4294967296 := by
  unfold word; omega

theorem digit_lt (V : Nat) (hV : V < 4294967296) :
    V / 52200625 < 85 ∧ V / 614125 % 85 < 85 ∧ V / 7225 % 85 < 85 ∧ V / 85 % 85 < 85 ∧ V % 85 < 85 := by
  refine ⟨?_, ?_, ?_, ?_, ?_⟩ <;> omega

theorem a85Go_four (d0 d1 d2 d3 : Nat) (h0 : d0 < 85) (h1 : d1 < 85) (h2 : d2 < 85) (h3 : d3 < 85) (t acc : Str) :
    a85Go ((d0 + 33) :: (d1 + 33) :: (d2 + 33) :: (d3 + 33) :: t) [] acc = a85Go t [d0, d1, d2, d3] acc := by
  rw [a85Go_step d0 h0 _ [] acc (by simp), a85Go_step d1 h1 _ _ acc (by simp), a85Go_step d2 h2 _ _ acc (by simp),
    a85Go_step d3 h3 _ _ acc (by simp)]
  rfl

theorem a85Go_three (d0 d1 d2 : Nat) (h0 : d0 < 85) (h1 : d1 < 85) (h2 : d2 < 85) (t acc : Str) :
    a85Go ((d0 + 33) :: (d1 + 33) :: (d2 + 33) :: t) [] acc = a85Go t [d0, d1, d2] acc := by
  rw [a85Go_step d0 h0 _ [] acc (by simp), a85Go_step d1 h1 _ _ acc (by simp), a85Go_step d2 h2 _ _ acc (by simp)]
  rfl

theorem a85Go_two (d0 d1 : Nat) (h0 : d0 < 85) (h1 : d1 < 85) (t acc : Str) :
    a85Go ((d0 + 33) :: (d1 + 33) :: t) [] acc = a85Go t [d0, d1] acc := by
  rw [a85Go_step d0 h0 _ [] acc (by simp), a85Go_step d1 h1 _ _ acc (by simp)]
  rfl

theorem a85Go_five (d0 d1 d2 d3 d4 : Nat) (h0 : d0 < 85) (h1 : d1 < 85) (h2 : d2 < 85) (h3 : d3 < 85)
    (h4 : d4 < 85) (t acc g : Str) (hg : a85Flush [d0, d1, d2, d3, d4] = some g) :
    a85Go ((d0 + 33) :: (d1 + 33) :: (d2 + 33) :: (d3 + 33) :: (d4 + 33) :: t) [] acc
      = a85Go t [] (g.reverse ++ acc) := by
  rw [a85Go_four d0 d1 d2 d3 h0 h1 h2 h3, a85Go_step5 d4 h4 _ _ acc (by simp)]
  simp only [List.cons_append, List.nil_append, hg]

/-- white space is invisible to the decoder (as long as it does not split the EOD marker) -/
theorem a85Go_strip (s t : Str) (hs : ∀ c ∈ s, c ≠ 126) : ∀ (ds acc : Str),
    a85Go (s ++ t) ds acc = a85Go (s.filter (fun c => !isWs c) ++ t) ds acc := by
  induction s with
  | nil => intro ds acc; rfl
  | cons c cs ih =>
    intro ds acc
    have ih' := ih (fun c' h' => hs c' (by simp [h']))
    have hc : c ≠ 126 := hs c (by simp)
    cases hw : isWs c
    · have h2 : ∀ (r : Str), ¬ (c = 126 ∧ r.head? = some 62) := fun r h => hc h.1
      simp only [List.filter_cons, hw, Bool.not_false, if_true, List.cons_append]
      rw [a85Go, a85Go]
      simp only [hw, Bool.false_eq_true, if_false, h2, ih']
    · simp only [List.filter_cons, hw, Bool.not_true, Bool.false_eq_true, if_false, List.cons_append]
      rw [a85Go]
      simp only [hw, if_true]
      exact ih' ds acc

/-- the encoder's digit characters are `!`..`u` -/
theorem a85Digits_range (v : Nat) (hv : v < 4294967296) : ∀ c ∈ a85Digits v, 33 ≤ c ∧ c ≤ 117 := by
  intro c hc
  obtain ⟨h0, h1, h2, h3, h4⟩ := digit_lt v hv
  have key : ∀ d, d < 85 → 33 ≤ d + 33 ∧ d + 33 ≤ 117 := fun d h => by omega
  simp only [a85Digits, List.mem_cons, List.not_mem_nil, or_false] at hc
  rcases hc with rfl | rfl | rfl | rfl | rfl
  · exact key _ h0
  · exact key _ h1
  · exact key _ h2
  · exact key _ h3
  · exact key _ h4

theorem a85Digits_word_range (a b c d : Nat) (ha : a < 256) (hb : b < 256) (hc : c < 256) (hd : d < 256) :
    ∀ ch ∈ a85Digits (word a b c d), 33 ≤ ch ∧ ch ≤ 122 := fun ch h =>
  have := a85Digits_range _ (word_lt a b c d ha hb hc hd) ch h
  ⟨this.1, by omega⟩

/-- data whose cleaned form `body` holds no `~` is read as `body` -/
theorem a85Go_clean (s body t : Str) (hs : s.filter (fun c => !isWs c) = body) (hb : ∀ c ∈ body, c ≠ 126)
    (ds acc : Str) : a85Go (s ++ t) ds acc = a85Go (body ++ t) ds acc := by
  rw [a85Go_strip s t, hs]
  intro c hc h126
  refine hb c ?_ h126
  rw [← hs, List.mem_filter, h126]
  exact ⟨h126 ▸ hc, by decide⟩

/-- what stands in front of the rest of the data is read the same way whatever the rest is, as long as the rest is
read the same way; the byte behind a final `~` is looked at as well -/
theorem a85Go_congr {r r' : Str} (h : ∀ ds acc, a85Go r ds acc = a85Go r' ds acc) :
    ∀ (a : Str), (a.getLast? = some 126 → r.head? = r'.head?) → ∀ (ds acc : Str),
      a85Go (a ++ r) ds acc = a85Go (a ++ r') ds acc := by
  intro a
  induction a with
  | nil => intro _; exact h
  | cons x a ih =>
    intro hh ds acc
    have hheads : (x = 126 ∧ (a ++ r).head? = some 62) ↔ (x = 126 ∧ (a ++ r').head? = some 62) := by
      cases a with
      | nil => exact and_congr_right fun hx => by rw [List.nil_append, List.nil_append, hh (by rw [hx]; rfl)]
      | cons y a' => exact Iff.rfl
    have ih' := ih (fun hl => hh (by
      cases a with
      | nil => cases hl
      | cons y a' => rwa [List.getLast?_cons_cons]))
    rw [List.cons_append, List.cons_append, a85Go, a85Go]
    simp only [ih', hheads]

theorem a85Go_ws (w t : Str) (ds acc : Str) (hw : ∀ c ∈ w, isWs c = true) :
    a85Go (w ++ t) ds acc = a85Go t ds acc := by
  have hnil : w.filter (fun c => !isWs c) = [] := List.filter_eq_nil_iff.mpr fun c hc => by simp [hw c hc]
  rw [a85Go_strip w t (fun c hc h => absurd (hw c hc) (h ▸ by decide)), hnil, List.nil_append]

/-- up to four digit characters are collected into the current group -/
theorem a85Go_partial (g t acc : Str) (hg : ∀ c ∈ g, 33 ≤ c ∧ c ≤ 117) : ∀ (ds : Str),
    ds.length + g.length ≤ 4 → a85Go (g ++ t) ds acc = a85Go t (ds ++ g.map (· - 33)) acc := by
  induction g with
  | nil => intro ds _; simp
  | cons c cs ih =>
    intro ds hl
    simp only [List.length_cons] at hl
    obtain ⟨h1, h2⟩ := hg c (by simp)
    have e : c = (c - 33) + 33 := by omega
    rw [List.cons_append, e, a85Go_step (c - 33) (by omega) _ ds acc (by omega)]
    rw [ih (fun c' h' => hg c' (by simp [h'])) (ds ++ [c - 33]) (by simp; omega)]
    simp

theorem a85Go_z_in_group (post ds acc : Str) (h : ds ≠ []) : a85Go (122 :: post) ds acc = none := by
  rw [a85Go]
  simp [isWs, h]

/-- a byte other than `~` in front of data that fails from every state: it is skipped, stored, flushed
or refused, and the failure remains -/
theorem a85Go_cons_none (b : Nat) (rest : Str) (hb : b ≠ 126) (h : ∀ ds acc, a85Go rest ds acc = none) :
    ∀ ds acc, a85Go (b :: rest) ds acc = none := by
  intro ds acc
  rw [a85Go]
  by_cases hws : isWs b = true
  · rw [if_pos hws]; exact h _ _
  rw [if_neg hws, if_neg (fun e => hb e.1)]
  by_cases hz : ds = [] ∧ b = 122
  · rw [if_pos hz]; exact h _ _
  rw [if_neg hz]
  by_cases hbad : b < 33 ∨ b > 117
  · rw [if_pos hbad]
  rw [if_neg hbad]
  dsimp only
  by_cases h5 : (ds ++ [b - 33]).length = 5
  · rw [if_pos h5]
    cases a85Flush (ds ++ [b - 33]) with
    | none => rfl
    | some g => exact h _ _
  · rw [if_neg h5]; exact h _ _

/-- a byte that cannot occur in ASCII85 data makes the decoder fail wherever it stands before the EOD -/
theorem a85Go_bad (post : Str) (c : Nat) (h1 : isWs c = false) (h2 : c ≠ 122) (h3 : c < 33 ∨ c > 117)
    (h4 : ¬ (c = 126 ∧ post.head? = some 62)) :
    ∀ (pre : Str), (∀ b ∈ pre, b ≠ 126) → ∀ (ds acc : Str), a85Go (pre ++ c :: post) ds acc = none := by
  intro pre
  induction pre with
  | nil =>
    intro _ ds acc
    rw [List.nil_append, a85Go, if_neg (by rw [h1]; exact Bool.false_ne_true), if_neg h4,
      if_neg (fun h => h2 h.2), if_pos h3]
  | cons b bs ih =>
    intro hpre
    exact a85Go_cons_none b _ (hpre b (List.mem_cons_self ..))
      (ih (fun b' h' => hpre b' (List.mem_cons_of_mem _ h')))

theorem ccittKept_length (out : Str) : (ccittKept out).length = min (maxCCITTOutput + 1) out.length := by
  simp [ccittKept, List.length_take]

theorem ccittKept_of_le (out : Str) (h : out.length ≤ maxCCITTOutput + 1) : ccittKept out = out := by
  unfold ccittKept
  exact List.take_of_length_le h

theorem ccittKept_idem (out : Str) : ccittKept (ccittKept out) = ccittKept out :=
  ccittKept_of_le _ (by rw [ccittKept_length]; omega)

/-- within the limit the reader's bytes are handed on unchanged -/
theorem ccittLimit_within (out : Str) (h : out.length ≤ maxCCITTOutput) : ccittLimit (some out) = some out := by
  have hk : ccittKept out = out := ccittKept_of_le out (by omega)
  simp only [ccittLimit, hk]
  rw [if_neg (by omega)]

theorem ccittLimit_beyond (out : Str) (h : out.length > maxCCITTOutput) : ccittLimit (some out) = none := by
  have hk : (ccittKept out).length = maxCCITTOutput + 1 := by rw [ccittKept_length]; omega
  simp only [ccittLimit, hk]
  rw [if_pos (by omega)]

theorem ccittLimit_of_le (r : Option Str) (h : ∀ out, r = some out → out.length ≤ maxCCITTOutput) :
    ccittLimit r = r := by
  cases r with
  | none => rfl
  | some out => exact ccittLimit_within out (h out rfl)

/-- `ccittLimit` without the reader: an answer of more than `maxCCITTOutput` bytes becomes an error,
every other answer is kept -/
theorem ccittLimit_eq (r : Option Str) :
    ccittLimit r = r.bind fun out => if out.length > maxCCITTOutput then none else some out := by
  cases r with
  | none => rfl
  | some out =>
    by_cases h : out.length > maxCCITTOutput
    · rw [ccittLimit_beyond out h]; simp [h]
    · rw [ccittLimit_within out (by omega)]; simp [h]

theorem ccittLimit_some_iff (r : Option Str) (out : Str) :
    ccittLimit r = some out ↔ r = some out ∧ out.length ≤ maxCCITTOutput := by
  cases r with
  | none => exact ⟨nofun, fun h => nomatch h.1⟩
  | some o =>
    by_cases h : o.length > maxCCITTOutput
    · rw [ccittLimit_beyond o h]
      exact ⟨nofun, fun ⟨h1, h2⟩ => absurd (Option.some.inj h1 ▸ h2) (by omega)⟩
    · rw [ccittLimit_within o (by omega)]
      exact ⟨fun h' => ⟨h', Option.some.inj h' ▸ by omega⟩, fun h' => h'.1⟩

/-- the result depends on the reader's answer only through its first `maxCCITTOutput + 1` bytes -/
theorem ccittLimit_prefix (r : Option Str) : ccittLimit (r.map ccittKept) = ccittLimit r := by
  cases r with
  | none => rfl
  | some out => simp only [Option.map_some, ccittLimit, ccittKept_idem]

/-- what `ccittFaxDecode` asks the library for -/
def ccittArgsOf (params : Option Params) : CcittArgs :=
  { group4 := decide ((params.getD {}).k.getD 0 < 0), invert := (params.getD {}).blackIs1.getD false,
    columns := (params.getD {}).columns.getD 1728,
    rows := if (params.getD {}).rows.getD 0 = 0 then -1 else (params.getD {}).rows.getD 0 }

section
variable (rd : CcittArgs → Str → Option Str) (data : Str) (params : Option Params)

theorem ccittFaxDecode_refused (h : (params.getD {}).columns.getD 1728 < 1 ∨ (params.getD {}).rows.getD 0 < 0) :
    ccittFaxDecode rd data params = none := by
  unfold ccittFaxDecode
  rcases h with h | h
  · exact if_pos h
  · simp only [if_pos h, ite_self]

theorem ccittFaxDecode_eq (h1 : 1 ≤ (params.getD {}).columns.getD 1728) (h2 : 0 ≤ (params.getD {}).rows.getD 0) :
    ccittFaxDecode rd data params = ccittLimit (rd (ccittArgsOf params) data) := by
  unfold ccittFaxDecode
  exact (if_neg (by omega)).trans (if_neg (by omega))

/-- past the two tests the library is asked for a width ≥ 1 and a height that is "detect" or ≥ 1 -/
theorem ccittArgsOf_guarded (h1 : 1 ≤ (params.getD {}).columns.getD 1728) (h2 : 0 ≤ (params.getD {}).rows.getD 0) :
    1 ≤ (ccittArgsOf params).columns ∧ ((ccittArgsOf params).rows = -1 ∨ 1 ≤ (ccittArgsOf params).rows) := by
  refine ⟨h1, ?_⟩
  show (if _ then (-1 : Int) else _) = -1 ∨ 1 ≤ (if _ then (-1 : Int) else _)
  by_cases h0 : (params.getD {}).rows.getD 0 = 0
  · rw [if_pos h0]; exact .inl rfl
  · rw [if_neg h0]; exact .inr (by omega)

theorem ccittFaxDecode_cases :
    (((params.getD {}).columns.getD 1728 < 1 ∨ (params.getD {}).rows.getD 0 < 0) ∧
      ccittFaxDecode rd data params = none) ∨
    ((1 ≤ (params.getD {}).columns.getD 1728 ∧ 0 ≤ (params.getD {}).rows.getD 0) ∧
      ccittFaxDecode rd data params = ccittLimit (rd (ccittArgsOf params) data)) := by
  by_cases h : (params.getD {}).columns.getD 1728 < 1 ∨ (params.getD {}).rows.getD 0 < 0
  · exact .inl ⟨h, ccittFaxDecode_refused rd data params h⟩
  · exact .inr ⟨by omega, ccittFaxDecode_eq rd data params (by omega) (by omega)⟩

theorem ccittFaxDecode_prefix :
    ccittFaxDecode (fun a x => (rd a x).map ccittKept) data params = ccittFaxDecode rd data params := by
  rcases ccittFaxDecode_cases rd data params with ⟨h, e⟩ | ⟨h, e⟩
  · rw [e, ccittFaxDecode_refused _ data params h]
  · rw [e, ccittFaxDecode_eq _ data params h.1 h.2, ccittLimit_prefix]

end

/-- the loop over `fs ++ gs` is the loop over `fs` followed by the loop over `gs`, which goes on
counting where the first stopped -/
theorem decodeChain_append (ext : Ext) (dp : DParms) : ∀ (fs gs : List FObj) (i : Nat) (d : Str),
    decodeChain ext dp (fs ++ gs) i d =
      (decodeChain ext dp fs i d).bind (decodeChain ext dp gs (i + fs.length)) := by
  intro fs
  induction fs with
  | nil => intro gs i d; rfl
  | cons f fs ih =>
    intro gs i d
    cases f with
    | other => rfl
    | name n =>
      rw [List.cons_append, decodeChain, decodeChain]
      cases decodeWithFilter ext d n (chainParams dp i) with
      | none => rfl
      | some d' =>
        rw [List.length_cons, Nat.add_comm fs.length 1, ← Nat.add_assoc]
        exact ih gs (i + 1) d'

variable {name : Str}

theorem decodeWithFilter_flate (h : name = nFlateDecode ∨ name = nFl) (ext : Ext) (data : Str)
    (p : Option Params) : decodeWithFilter ext data name p = flateDecode ext.inflate data p := by
  rcases h with rfl | rfl <;> rfl

theorem decodeWithFilter_hex (h : name = nASCIIHexDecode ∨ name = nAHx) (ext : Ext) (data : Str)
    (p : Option Params) : decodeWithFilter ext data name p = hexDecode data := by
  rcases h with rfl | rfl <;> rfl

theorem decodeWithFilter_a85 (h : name = nASCII85Decode ∨ name = nA85) (ext : Ext) (data : Str)
    (p : Option Params) : decodeWithFilter ext data name p = a85Decode data := by
  rcases h with rfl | rfl <;> rfl

theorem decodeWithFilter_ccitt (h : name = nCCITTFaxDecode ∨ name = nCCF) (ext : Ext) (data : Str)
    (p : Option Params) : decodeWithFilter ext data name p = ccittFaxDecode ext.ccitt data p := by
  rcases h with rfl | rfl <;> rfl

theorem decodeWithFilter_pass (h : name = nDCTDecode ∨ name = nDCT ∨ name = nJPXDecode) (ext : Ext)
    (data : Str) (p : Option Params) : decodeWithFilter ext data name p = some data := by
  rcases h with rfl | rfl | rfl <;> rfl

/-- LZW, RunLength, JBIG2, Crypt and every unknown name -/
theorem decodeWithFilter_refused
    (h : name ∉ [nFlateDecode, nFl, nASCIIHexDecode, nAHx, nASCII85Decode, nA85, nCCITTFaxDecode, nCCF,
      nDCTDecode, nDCT, nJPXDecode]) (ext : Ext) (data : Str) (p : Option Params) :
    decodeWithFilter ext data name p = none := by
  simp only [List.mem_cons, List.not_mem_nil, or_false, not_or] at h
  obtain ⟨a1, a2, b1, b2, c1, c2, d1, d2, e1, e2, e3⟩ := h
  simp only [decodeWithFilter, a1, a2, b1, b2, c1, c2, d1, d2, e1, e2, e3, or_self, if_false, ite_self]

/-- every name falls into one of the six classes, and the class fixes what `decodeWithFilter` does -/
theorem decodeWithFilter_cases (name : Str) :
    ((name = nFlateDecode ∨ name = nFl) ∧
      ∀ ext data p, decodeWithFilter ext data name p = flateDecode ext.inflate data p) ∨
    ((name = nASCIIHexDecode ∨ name = nAHx) ∧ ∀ ext data p, decodeWithFilter ext data name p = hexDecode data) ∨
    ((name = nASCII85Decode ∨ name = nA85) ∧ ∀ ext data p, decodeWithFilter ext data name p = a85Decode data) ∨
    ((name = nCCITTFaxDecode ∨ name = nCCF) ∧
      ∀ ext data p, decodeWithFilter ext data name p = ccittFaxDecode ext.ccitt data p) ∨
    ((name = nDCTDecode ∨ name = nDCT ∨ name = nJPXDecode) ∧
      ∀ ext data p, decodeWithFilter ext data name p = some data) ∨
    (name ∉ [nFlateDecode, nFl, nASCIIHexDecode, nAHx, nASCII85Decode, nA85, nCCITTFaxDecode, nCCF,
        nDCTDecode, nDCT, nJPXDecode] ∧ ∀ ext data p, decodeWithFilter ext data name p = none) := by
  by_cases h1 : name = nFlateDecode ∨ name = nFl
  · exact .inl ⟨h1, decodeWithFilter_flate h1⟩
  by_cases h2 : name = nASCIIHexDecode ∨ name = nAHx
  · exact .inr (.inl ⟨h2, decodeWithFilter_hex h2⟩)
  by_cases h3 : name = nASCII85Decode ∨ name = nA85
  · exact .inr (.inr (.inl ⟨h3, decodeWithFilter_a85 h3⟩))
  by_cases h4 : name = nCCITTFaxDecode ∨ name = nCCF
  · exact .inr (.inr (.inr (.inl ⟨h4, decodeWithFilter_ccitt h4⟩)))
  by_cases h5 : name = nDCTDecode ∨ name = nDCT ∨ name = nJPXDecode
  · exact .inr (.inr (.inr (.inr (.inl ⟨h5, decodeWithFilter_pass h5⟩))))
  have h : name ∉ [nFlateDecode, nFl, nASCIIHexDecode, nAHx, nASCII85Decode, nA85, nCCITTFaxDecode, nCCF,
      nDCTDecode, nDCT, nJPXDecode] := by
    rw [not_or] at h1 h2 h3 h4
    simp only [not_or] at h5
    simp only [List.mem_cons, List.not_mem_nil, or_false, not_or]
    exact ⟨h1.1, h1.2, h2.1, h2.2, h3.1, h3.2, h4.1, h4.2, h5.1, h5.2.1, h5.2.2⟩
  exact .inr (.inr (.inr (.inr (.inr ⟨h, decodeWithFilter_refused h⟩))))

end Tabula.Filters
