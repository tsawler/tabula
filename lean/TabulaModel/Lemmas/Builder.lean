import TabulaModel.Lemmas.BuilderCalls
/-!
Helper lemmas for C10 (builder / reader life cycle): first the facts about conditionals and about
`set` / `++ [a]` on lists that the files of C10 share; then the ownership invariant of the handle
store, its preservation by every operation (`step_moves`: the five moves an operation can make), and
the answer of every operation as a function of the record of its receiver, which no operation on
another extractor touches.
-/
namespace Tabula.Builder
open Tabula.PageSel

theorem ite_some_eq_some {α : Type} {c : Prop} [Decidable c] {a x : α} {b : Option α} :
    (if c then some a else b) = some x ↔ (c ∧ a = x) ∨ (¬ c ∧ b = some x) := by
  split <;> simp [*]

theorem ite_some_eq_none {α : Type} {c : Prop} [Decidable c] {a : α} {b : Option α} :
    (if c then some a else b) = none ↔ ¬ c ∧ b = none := by
  split <;> simp [*]

theorem ite_ne_left {α : Type} {c : Prop} [Decidable c] {a x : α} :
    (if c then a else x) ≠ a ↔ ¬ c ∧ x ≠ a := by
  split <;> simp [*]

theorem ite_ne_right {α : Type} {c : Prop} [Decidable c] {a x : α} :
    (if c then x else a) ≠ a ↔ c ∧ x ≠ a := by
  split <;> simp [*]

theorem iff_isSome_of_none_iff {α : Type} {o : Option α} {p : Prop} (h : o = none ↔ ¬ p) :
    p ↔ o.isSome = true := by
  rw [Option.isSome_iff_ne_none, Ne, h, Classical.not_not]

theorem lt_of_getElem? {α : Type} {l : List α} {i : Nat} {a : α} (h : l[i]? = some a) :
    i < l.length := (List.getElem?_eq_some_iff.mp h).1

theorem set_same {α : Type} (l : List α) (i : Nat) (a : α) (h : l[i]? = some a) : l.set i a = l := by
  obtain ⟨hi, rfl⟩ := List.getElem?_eq_some_iff.mp h
  exact List.set_getElem_self hi

/-- core's `List.countP_set` without the truncated subtraction -/
theorem countP_set {α : Type} (p : α → Bool) (l : List α) (i : Nat) (a b : α)
    (h : l[i]? = some a) :
    (l.set i b).countP p + (if p a then 1 else 0) = l.countP p + (if p b then 1 else 0) := by
  obtain ⟨hi, rfl⟩ := List.getElem?_eq_some_iff.mp h
  have : (if p l[i] = true then 1 else 0) ≤ l.countP p := by
    split
    · exact List.countP_pos_iff.mpr ⟨_, List.getElem_mem hi, ‹_›⟩
    · exact Nat.zero_le _
  rw [List.countP_set hi]
  omega

theorem count_set_false (l : List Bool) (r : Nat) (h : l[r]? = some true) :
    (l.set r false).count true + 1 = l.count true := by
  simpa [List.count] using countP_set (· == true) l r true false h

/-- counting the members with a property position by position -/
theorem countP_eq_filter_range {α : Type} (p : α → Bool) (g : Nat → Bool) (l : List α) : ∀ (k : Nat),
    (∀ i (hi : i < l.length), p l[i] = g (k + i)) →
    l.countP p = ((List.range' k l.length).filter g).length := by
  induction l with
  | nil => intro k _; rfl
  | cons a l ih =>
    intro k hg
    have h0 := hg 0 (Nat.zero_lt_succ _)
    have hrest : ∀ i (hi : i < l.length), p l[i] = g (k + 1 + i) := fun i hi => by
      have := hg (i + 1) (Nat.succ_lt_succ hi)
      rw [List.getElem_cons_succ] at this
      rw [this]; congr 1; omega
    simp only [List.countP_cons, List.length_cons, List.range'_succ, List.filter_cons]
    rw [ih (k + 1) hrest, ← (by simpa using h0 : p a = g k)]
    cases p a <;> simp

theorem getElem?_set_some {α : Type} {l : List α} {i j : Nat} {a b : α}
    (h : (l.set i a)[j]? = some b) : (i = j ∧ b = a) ∨ (i ≠ j ∧ l[j]? = some b) := by
  by_cases hij : i = j
  · subst hij
    have hi : i < l.length := by simpa using lt_of_getElem? h
    rw [List.getElem?_set_self hi] at h
    exact .inl ⟨rfl, (Option.some.inj h).symm⟩
  · rw [List.getElem?_set_ne hij] at h
    exact .inr ⟨hij, h⟩

theorem getElem?_concat {α : Type} (l : List α) (a : α) (j : Nat) (b : α)
    (h : (l ++ [a])[j]? = some b) : l[j]? = some b ∨ (j = l.length ∧ b = a) := by
  rcases Nat.lt_trichotomy j l.length with hj | rfl | hj
  · rw [List.getElem?_append_left hj] at h; exact .inl h
  · rw [List.getElem?_concat_length] at h; exact .inr ⟨rfl, (Option.some.inj h).symm⟩
  · rw [List.getElem?_eq_none (by simp only [List.length_append, List.length_singleton]; omega)] at h
    cases h

theorem getElem?_singleton {α : Type} {a e : α} {i : Nat} (h : [a][i]? = some e) :
    i = 0 ∧ e = a := by
  cases i with
  | zero => exact ⟨rfl, (Option.some.inj h).symm⟩
  | succ k => cases h

theorem set_concat_false (l : List Bool) : (l ++ [true]).set l.length false = l ++ [false] := by
  induction l with
  | nil => rfl
  | cons b bs ih => simp [ih]

theorem validateFormat_iff (f : FileFacts) (fmt : Fmt) :
    validateFormat f fmt = true ↔
      f.present = true ∧ (f.detected = some .unknown ∨ f.detected = some fmt) := by
  unfold validateFormat
  rw [Bool.and_eq_true]
  refine and_congr_right fun _ => ?_
  split
  · rename_i h; simp [h]
  · rename_i h; simp [h]
  · rename_i d hne h
    simp only [h, beq_iff_eq, Option.some.injEq]
    exact ⟨Or.inr, fun hd => hd.resolve_left hne⟩

/-- the state after `ensureReader` had to open the file -/
def openNew (s : Store) (i : Nat) (e : Ext) : Store × Ext :=
  ({ readers := s.readers ++ [true],
     exts := s.exts.set i { e with reader := some s.readers.length, owns := true, opened := true } },
   { e with reader := some s.readers.length, owns := true, opened := true })

theorem ensureReader_eq (w : World) (s : Store) (i : Nat) (e : Ext) :
    ensureReader w s i e =
      if e.opened then .ok (s, e)
      else if e.hasFile && w.openOk then .ok (openNew s i e) else .error .open := by
  unfold ensureReader openNew
  cases e.opened <;> cases e.hasFile <;> cases w.openOk <;> rfl

theorem ensureReader_cases (w : World) (s : Store) (i : Nat) (e : Ext) :
    (e.opened = true ∧ ensureReader w s i e = .ok (s, e)) ∨
    (e.opened = false ∧ (e.hasFile = false ∨ w.openOk = false) ∧
      ∃ x, ensureReader w s i e = .error x) ∨
    (e.opened = false ∧ e.hasFile = true ∧ w.openOk = true ∧
      ensureReader w s i e = .ok (openNew s i e)) := by
  rw [ensureReader_eq]
  cases e.opened with
  | true => exact .inl ⟨rfl, rfl⟩
  | false =>
    cases e.hasFile with
    | false => exact .inr (.inl ⟨rfl, .inl rfl, _, rfl⟩)
    | true =>
      cases w.openOk with
      | false => exact .inr (.inl ⟨rfl, .inr rfl, _, rfl⟩)
      | true => exact .inr (.inr ⟨rfl, rfl, rfl, rfl⟩)

/-- `Close` does nothing, or marks the reader of an owner closed and clears the owner's record -/
theorem closeExt_cases (s : Store) (i : Nat) (e : Ext) :
    closeExt s i e = s ∨ ∃ r, e.owns = true ∧ e.reader = some r ∧
      closeExt s i e =
        { readers := s.readers.set r false,
          exts := s.exts.set i { e with reader := none, owns := false, opened := false } } := by
  unfold closeExt
  split
  next hown =>
    split
    next r hr => exact .inr ⟨r, hown, hr, rfl⟩
    next => exact .inl rfl
  next => exact .inl rfl

theorem closeExt_length (s : Store) (i : Nat) (e : Ext) :
    (closeExt s i e).exts.length = s.exts.length := by
  rcases closeExt_cases s i e with h | ⟨_, _, _, h⟩ <;> rw [h]
  exact List.length_set

theorem openNew_length (s : Store) (i : Nat) (e : Ext) :
    (openNew s i e).1.exts.length = s.exts.length := List.length_set

/-- ownership invariant of the handle store (holds in every state reachable
from `Open` / `FromReader` after the fix) -/
structure StoreInv (s : Store) : Prop where
  /-- an extractor that is not opened holds nothing -/
  unopened : ∀ (i : Nat) (e : Ext), s.exts[i]? = some e → e.opened = false → e.owns = false ∧ e.reader = none
  /-- an opened extractor points at a reader whose file is open -/
  live : ∀ (i : Nat) (e : Ext), s.exts[i]? = some e → e.opened = true →
    ∃ r, e.reader = some r ∧ s.readers[r]? = some true
  /-- a reader owned by one extractor is referenced by no other -/
  unique : ∀ (i j : Nat) (ei ej : Ext) (r : Nat), i ≠ j → s.exts[i]? = some ei → s.exts[j]? = some ej →
    ei.owns = true → ei.reader = some r → ej.reader ≠ some r
  /-- only extractors with a file name own readers -/
  ownsFile : ∀ (i : Nat) (e : Ext), s.exts[i]? = some e → e.owns = true → e.hasFile = true
  /-- an extractor carrying a builder error never opened anything -/
  errNoOwn : ∀ (i : Nat) (e : Ext), s.exts[i]? = some e → e.err = true → e.owns = false

theorem StoreInv.bound {s : Store} (h : StoreInv s) {i : Nat} {e : Ext} {r : Nat}
    (he : s.exts[i]? = some e) (hr : e.reader = some r) : r < s.readers.length := by
  by_cases ho : e.opened = true
  · obtain ⟨r', hr', hl⟩ := h.live i e he ho
    rw [hr] at hr'; cases hr'
    exact (List.getElem?_eq_some_iff.mp hl).1
  · have := (h.unopened i e he (by simpa using ho)).2
    rw [hr] at this; cases this

theorem StoreInv.owns_opened {s : Store} (h : StoreInv s) {i : Nat} {e : Ext}
    (he : s.exts[i]? = some e) (ho : e.owns = true) : e.opened = true := by
  by_cases hop : e.opened = true
  · exact hop
  · have := (h.unopened i e he (by simpa using hop)).1
    rw [ho] at this; cases this

/-- Replacing the record of extractor `i`, and the readers, keeps the invariant when the new record
meets the clauses about a single record, the readers of the other extractors stay live, and the new
record shares a reader with another one only if neither owns it. -/
theorem inv_set {s : Store} (h : StoreInv s) {i : Nat} {e' : Ext} {rs : List Bool}
    (hun : e'.opened = false → e'.owns = false ∧ e'.reader = none)
    (hlive : e'.opened = true → ∃ r, e'.reader = some r ∧ rs[r]? = some true)
    (hold : ∀ j ej r, i ≠ j → s.exts[j]? = some ej → ej.reader = some r →
      s.readers[r]? = some true → rs[r]? = some true)
    (hshare : ∀ j ej r, i ≠ j → s.exts[j]? = some ej → e'.reader = some r → ej.reader = some r →
      e'.owns = false ∧ ej.owns = false)
    (hfile : e'.owns = true → e'.hasFile = true) (herr : e'.err = true → e'.owns = false) :
    StoreInv { readers := rs, exts := s.exts.set i e' } := by
  constructor
  · intro j ej hj hoj
    rcases getElem?_set_some hj with ⟨_, rfl⟩ | ⟨_, hj⟩
    · exact hun hoj
    · exact h.unopened j ej hj hoj
  · intro j ej hj hoj
    rcases getElem?_set_some hj with ⟨_, rfl⟩ | ⟨hij, hj⟩
    · exact hlive hoj
    · obtain ⟨r, hr, hl⟩ := h.live j ej hj hoj
      exact ⟨r, hr, hold j ej r hij hj hr hl⟩
  · intro j k ej ek r hjk hj hk hown hr hkr
    rcases getElem?_set_some hj with ⟨rfl, rfl⟩ | ⟨hij, hj'⟩
    · rcases getElem?_set_some hk with ⟨hik, _⟩ | ⟨hik, hk⟩
      · exact hjk hik
      · have := (hshare k ek r hik hk hr hkr).1
        rw [hown] at this; cases this
    · rcases getElem?_set_some hk with ⟨_, rfl⟩ | ⟨_, hk⟩
      · have := (hshare j ej r hij hj' hkr hr).2
        rw [hown] at this; cases this
      · exact h.unique j k ej ek r hjk hj' hk hown hr hkr
  · intro j ej hj hoj
    rcases getElem?_set_some hj with ⟨_, rfl⟩ | ⟨_, hj⟩
    · exact hfile hoj
    · exact h.ownsFile j ej hj hoj
  · intro j ej hj hej
    rcases getElem?_set_some hj with ⟨_, rfl⟩ | ⟨_, hj⟩
    · exact herr hej
    · exact h.errNoOwn j ej hj hej

theorem inv_openNew {s : Store} (h : StoreInv s) {i : Nat} {e : Ext} (hf : e.hasFile = true)
    (herr : e.err = false) : StoreInv (openNew s i e).1 :=
  -- no reader in use has the number of the new one
  inv_set h (fun ho => Bool.noConfusion ho) (fun _ => ⟨_, rfl, List.getElem?_concat_length⟩)
    (fun _ _ _ _ _ _ hl => (List.getElem?_append_left (lt_of_getElem? hl)).trans hl)
    (fun _ _ _ _ hj hr hjr => by cases hr; exact absurd (h.bound hj hjr) (Nat.lt_irrefl _))
    (fun _ => hf) (fun he => by rw [herr] at he; cases he)

theorem inv_closeExt {s : Store} (h : StoreInv s) {i : Nat} {e : Ext}
    (he : s.exts[i]? = some e) : StoreInv (closeExt s i e) := by
  rcases closeExt_cases s i e with h' | ⟨r, hown, hr, h'⟩ <;> rw [h']
  · exact h
  refine inv_set h (fun _ => ⟨rfl, rfl⟩) (fun ho => Bool.noConfusion ho)
    (fun j ej r' hij hj hr' hl => ?_) (fun _ _ _ _ _ hn => nomatch hn)
    (fun ho => Bool.noConfusion ho) (fun _ => rfl)
  -- the reader that is closed is referenced by its owner only
  have hne : r ≠ r' := fun hrr => h.unique i j e ej r hij he hj hown hr (hrr ▸ hr')
  exact (List.getElem?_set_ne hne).trans hl

/-- the copy made by a configuration method owns nothing: it shares a reader only with a parent
that does not own one from a file -/
theorem derive_owns {s : Store} (h : StoreInv s) {i : Nat} {e : Ext} (he : s.exts[i]? = some e)
    (c : BCall) : (e.derive c).owns = false := by
  rcases derive_life e c with ⟨_, hnot, _, hw, _⟩ | ⟨_, hw, _⟩
  · rw [hw]
    cases ho : e.owns with
    | false => rfl
    | true => rw [ho, h.ownsFile i e he ho] at hnot; cases hnot
  · exact hw

theorem inv_append {s : Store} (h : StoreInv s) {i : Nat} {e : Ext} (c : BCall)
    (he : s.exts[i]? = some e) : StoreInv { s with exts := s.exts ++ [e.derive c] } := by
  have hlife := derive_life e c
  have hown := derive_owns h he c
  constructor
  · intro j ej hj hoj
    rcases getElem?_concat _ _ _ _ hj with hj | ⟨_, rfl⟩
    · exact h.unopened j ej hj hoj
    · rcases hlife with ⟨_, _, _, _, ho⟩ | ⟨hr, _, _⟩
      · rw [ho] at hoj; cases hoj
      · exact ⟨hown, hr⟩
  · intro j ej hj hoj
    rcases getElem?_concat _ _ _ _ hj with hj | ⟨_, rfl⟩
    · exact h.live j ej hj hoj
    · rcases hlife with ⟨ho, _, hr, _, _⟩ | ⟨_, _, ho⟩
      · obtain ⟨r, hr', hl⟩ := h.live i e he ho
        exact ⟨r, by rw [hr, hr'], hl⟩
      · rw [ho] at hoj; cases hoj
  · intro j k ej ek r hjk hj hk hownj hr
    rcases getElem?_concat _ _ _ _ hj with hj | ⟨_, rfl⟩
    · rcases getElem?_concat _ _ _ _ hk with hk | ⟨_, rfl⟩
      · exact h.unique j k ej ek r hjk hj hk hownj hr
      · -- the copy references at most the reader of `e`, and `e` itself is not an owner
        rcases hlife with ⟨_, _, hrd, hw, _⟩ | ⟨hrd, _, _⟩
        · rw [hrd]
          by_cases hji : j = i
          · subst hji
            rw [he] at hj; cases hj
            rw [hw, hownj] at hown; cases hown
          · exact h.unique j i ej e r hji hj he hownj hr
        · rw [hrd]; exact fun hc => nomatch hc
    · rw [hown] at hownj; cases hownj
  · intro j ej hj hoj
    rcases getElem?_concat _ _ _ _ hj with hj | ⟨_, rfl⟩
    · exact h.ownsFile j ej hj hoj
    · rw [hown] at hoj; cases hoj
  · intro j ej hj hej
    rcases getElem?_concat _ _ _ _ hj with hj | ⟨_, rfl⟩
    · exact h.errNoOwn j ej hj hej
    · exact hown

theorem set_self_getElem? {s : Store} {i : Nat} {e : Ext} (he : s.exts[i]? = some e) :
    (openNew s i e).1.exts[i]? = some (openNew s i e).2 := by
  simp only [openNew, List.getElem?_set_self (lt_of_getElem? he)]

/-- the store after `ensureReader … defer e.Close()` (a terminal operation that got past its
first tests) -/
def termStore (w : World) (s : Store) (i : Nat) (e : Ext) : Store :=
  match ensureReader w s i e with
  | .error _ => s
  | .ok (s1, e1) => closeExt s1 i e1

/-- the store after `ensureReader` alone (non-terminal operations) -/
def ntStore (w : World) (s : Store) (i : Nat) (e : Ext) : Store :=
  match ensureReader w s i e with
  | .error _ => s
  | .ok (s1, _) => s1

theorem termStore_cases (w : World) (s : Store) (i : Nat) (e : Ext) :
    (e.opened = true ∧ termStore w s i e = closeExt s i e) ∨
    (e.opened = false ∧ (e.hasFile = false ∨ w.openOk = false) ∧ termStore w s i e = s) ∨
    (e.opened = false ∧ e.hasFile = true ∧ w.openOk = true ∧
      termStore w s i e = closeExt (openNew s i e).1 i (openNew s i e).2) := by
  unfold termStore
  rcases ensureReader_cases w s i e with ⟨ho, hr⟩ | ⟨ho, hb, x, hr⟩ | ⟨ho, hf, hw, hr⟩
  · left; rw [hr]; exact ⟨ho, rfl⟩
  · right; left; rw [hr]; exact ⟨ho, hb, rfl⟩
  · right; right; rw [hr]; exact ⟨ho, hf, hw, rfl⟩

theorem ntStore_cases (w : World) (s : Store) (i : Nat) (e : Ext) :
    (e.opened = true ∧ ntStore w s i e = s) ∨
    (e.opened = false ∧ (e.hasFile = false ∨ w.openOk = false) ∧ ntStore w s i e = s) ∨
    (e.opened = false ∧ e.hasFile = true ∧ w.openOk = true ∧
      ntStore w s i e = (openNew s i e).1) := by
  unfold ntStore
  rcases ensureReader_cases w s i e with ⟨ho, hr⟩ | ⟨ho, hb, x, hr⟩ | ⟨ho, hf, hw, hr⟩
  · left; rw [hr]; exact ⟨ho, rfl⟩
  · right; left; rw [hr]; exact ⟨ho, hb, rfl⟩
  · right; right; rw [hr]; exact ⟨ho, hf, hw, rfl⟩

theorem closeExt_unopened {s : Store} (h : StoreInv s) {i : Nat} {e : Ext}
    (he : s.exts[i]? = some e) (ho : e.opened = false) : closeExt s i e = s := by
  unfold closeExt
  rw [(h.unopened i e he ho).1]
  rfl

/-- opening the file and closing it again leaves one more, closed, reader behind and
nothing else -/
theorem close_openNew {s : Store} (h : StoreInv s) {i : Nat} {e : Ext}
    (he : s.exts[i]? = some e) (ho : e.opened = false) :
    closeExt (openNew s i e).1 i (openNew s i e).2 = { s with readers := s.readers ++ [false] } := by
  obtain ⟨hw, hr⟩ := h.unopened i e he ho
  have hee : ({ e with reader := none, owns := false, opened := false } : Ext) = e := by
    cases e; simp_all
  simp only [closeExt, openNew, if_true, List.set_set, set_concat_false, hee, set_same _ _ _ he]

theorem inv_deadReader {s : Store} (h : StoreInv s) :
    StoreInv { s with readers := s.readers ++ [false] } := by
  constructor
  · exact h.unopened
  · intro j ej hj hoj
    obtain ⟨r, hr, hl⟩ := h.live j ej hj hoj
    exact ⟨r, hr, by
      show (s.readers ++ [false])[r]? = some true
      rw [List.getElem?_append_left (lt_of_getElem? hl)]; exact hl⟩
  · exact h.unique
  · exact h.ownsFile
  · exact h.errNoOwn

/-- the path through a failing `ensurePDFReader`: for a file-based extractor it is the frame
of a terminal operation, for any other nothing happens -/
theorem mismatchStore_eq (w : World) {s : Store} (h : StoreInv s) {i : Nat} {e : Ext}
    (he : s.exts[i]? = some e) :
    mismatchStore w s i e = if e.hasFile then termStore w s i e else s := by
  unfold mismatchStore termStore
  rcases ensureReader_cases w s i e with ⟨ho, hr⟩ | ⟨ho, hb, x, hr⟩ | ⟨ho, hf, hw, hr⟩
  · rw [hr]
  · rw [hr]
    cases hf : e.hasFile
    · rfl
    · exact if_pos rfl ▸ closeExt_unopened h he ho
  · rw [hr, hf]; rfl

theorem terminal_fst (w : World) (k : Term) (s : Store) (i : Nat) (e : Ext)
    (he : s.exts[i]? = some e) :
    (terminal w k s i).1 =
      if (k.checksErr e.format && e.err) = true then s
      else if (k.pdfOnly && e.format != .pdf) = true then mismatchStore w s i e
      else termStore w s i e := by
  unfold terminal termStore
  rw [he]
  dsimp only
  rw [apply_ite Prod.fst, apply_ite Prod.fst]
  cases ensureReader w s i e <;> rfl

theorem nonTerminal_fst (w : World) (k : NonTerm) (s : Store) (i : Nat) (e : Ext)
    (he : s.exts[i]? = some e) :
    (nonTerminal w k s i).1 =
      if e.err = true then s
      else if (k.pdfOnly && e.format != .pdf) = true then mismatchStore w s i e
      else ntStore w s i e := by
  unfold nonTerminal ntStore
  rw [he]
  dsimp only
  rw [apply_ite Prod.fst, apply_ite Prod.fst]
  cases ensureReader w s i e <;> rfl

/-- The store after an operation is the old one, or the old one after `Close` on the receiver,
after `ensureReader` opened the receiver's file, after that file was opened and closed again, or
with a derived extractor appended.  So a property of stores that these moves establish holds
after every operation. -/
theorem step_moves (w : World) (s : Store) (P : Store → Prop) (op : Op) (same : P s)
    (close : ∀ e, s.exts[op.target]? = some e → op.mutates = true → P (closeExt s op.target e))
    (opened : ∀ e, s.exts[op.target]? = some e → op.mutates = true → e.opened = false →
      e.hasFile = true → w.openOk = true → e.err = false → P (openNew s op.target e).1)
    (reopened : ∀ e, s.exts[op.target]? = some e → op.mutates = true → e.opened = false →
      P (closeExt (openNew s op.target e).1 op.target (openNew s op.target e).2))
    (derived : ∀ e c, s.exts[op.target]? = some e → op.mutates = false →
      P { s with exts := s.exts ++ [e.derive c] }) :
    P (step w s op).1 := by
  have term : ∀ e, s.exts[op.target]? = some e → op.mutates = true →
      P (termStore w s op.target e) := by
    intro e he hm
    rcases termStore_cases w s op.target e with ⟨_, hr⟩ | ⟨_, _, hr⟩ | ⟨ho, _, _, hr⟩
    · rw [hr]; exact close e he hm
    · rw [hr]; exact same
    · rw [hr]; exact reopened e he hm ho
  have mismatch : ∀ e, s.exts[op.target]? = some e → op.mutates = true →
      P (mismatchStore w s op.target e) := by
    intro e he hm
    unfold mismatchStore
    rcases ensureReader_cases w s op.target e with ⟨_, hr⟩ | ⟨_, _, x, hr⟩ | ⟨ho, hf, _, hr⟩
    · simp only [hr]; exact iteInduction (motive := P) (fun _ => close e he hm) fun _ => same
    · simp only [hr]; exact iteInduction (motive := P) (fun _ => close e he hm) fun _ => same
    · simp only [hr, hf, if_true]; exact reopened e he hm ho
  cases op with
  | derive i c =>
    simp only [step, deriveOp]
    cases he : s.exts[i]? with
    | none => exact same
    | some e => exact derived e c he rfl
  | term i k =>
    simp only [step]
    cases he : s.exts[i]? with
    | none => simp only [terminal, he]; exact same
    | some e =>
      rw [terminal_fst w k s i e he]
      exact iteInduction (motive := P) (fun _ => same)
        fun _ => iteInduction (motive := P) (fun _ => mismatch e he rfl) fun _ => term e he rfl
  | nonTerm i k =>
    simp only [step]
    cases he : s.exts[i]? with
    | none => simp only [nonTerminal, he]; exact same
    | some e =>
      rw [nonTerminal_fst w k s i e he]
      refine iteInduction (motive := P) (fun _ => same)
        fun herr => iteInduction (motive := P) (fun _ => mismatch e he rfl) fun _ => ?_
      rcases ntStore_cases w s i e with ⟨_, hr⟩ | ⟨_, _, hr⟩ | ⟨ho, hf, hw, hr⟩
      · rw [hr]; exact same
      · rw [hr]; exact same
      · rw [hr]; exact opened e he rfl ho hf hw (Bool.eq_false_iff.mpr herr)
  | close i =>
    simp only [step, closeOp]
    cases he : s.exts[i]? with
    | none => exact same
    | some e => exact close e he rfl

/-- Case rule for one operation on a store with the ownership invariant: the store afterwards is the
old one, or the old one after `closeExt`, after `openNew`, with a dead reader appended, or with a derived
extractor appended; a property that holds in each of these cases holds of `step`. -/
theorem step_induction (w : World) {s : Store} (h : StoreInv s) (P : Store → Prop) (op : Op)
    (same : P s)
    (close : ∀ e, s.exts[op.target]? = some e → op.mutates = true → P (closeExt s op.target e))
    (opened : ∀ e, s.exts[op.target]? = some e → op.mutates = true → e.opened = false →
      e.hasFile = true → w.openOk = true → e.err = false → P (openNew s op.target e).1)
    (dead : P { s with readers := s.readers ++ [false] })
    (derived : ∀ e c, s.exts[op.target]? = some e →
      P { s with exts := s.exts ++ [e.derive c] }) :
    P (step w s op).1 :=
  step_moves w s P op same close opened
    (fun _ he _ ho => by rw [close_openNew h he ho]; exact dead) fun e c he _ => derived e c he

theorem inv_step (w : World) {s : Store} (h : StoreInv s) (op : Op) : StoreInv (step w s op).1 :=
  step_induction w h StoreInv op h (fun _ he _ => inv_closeExt h he)
    (fun _ _ _ _ hf _ herr => inv_openNew h hf herr) (inv_deadReader h)
    (fun _ c he => inv_append h c he)

theorem inv_exec (w : World) (ops : List Op) : ∀ {s : Store}, StoreInv s → StoreInv (exec w s ops) := by
  induction ops with
  | nil => intro s h; exact h
  | cons op ops ih => intro s h; exact ih (inv_step w h op)

theorem inv_openBaseF (f : Fmt) : StoreInv (openBaseF f) := by
  constructor
  · intro i e he _; obtain ⟨rfl, rfl⟩ := getElem?_singleton he; exact ⟨rfl, rfl⟩
  · intro i e he ho; obtain ⟨rfl, rfl⟩ := getElem?_singleton he; cases ho
  · intro i j ei ej r _ hi _ hown; obtain ⟨rfl, rfl⟩ := getElem?_singleton hi; cases hown
  · intro i e he ho; obtain ⟨rfl, rfl⟩ := getElem?_singleton he; cases ho
  · intro i e he herr; obtain ⟨rfl, rfl⟩ := getElem?_singleton he; cases herr

theorem inv_openBase : StoreInv openBase := inv_openBaseF .pdf

theorem inv_readerBase : StoreInv readerBase := by
  constructor
  · intro i e he ho; obtain ⟨rfl, rfl⟩ := getElem?_singleton he; cases ho
  · intro i e he _; obtain ⟨rfl, rfl⟩ := getElem?_singleton he; exact ⟨0, rfl, rfl⟩
  · intro i j ei ej r _ hi _ hown; obtain ⟨rfl, rfl⟩ := getElem?_singleton hi; cases hown
  · intro i e he ho; obtain ⟨rfl, rfl⟩ := getElem?_singleton he; cases ho
  · intro i e he herr; obtain ⟨rfl, rfl⟩ := getElem?_singleton he; cases herr

theorem readerLive_openNew (s : Store) (i : Nat) (e : Ext) :
    readerLive (openNew s i e).1 (openNew s i e).2 = true := by
  simp [readerLive, openNew]

theorem termBodyF_openNew (w : World) (k : Term) (s : Store) (i : Nat) (e : Ext) :
    termBodyF w k (openNew s i e).2 = termBodyF w k e := rfl

/-- an extractor can read from its reader exactly when it is opened: an opened one points at an
open file, an unopened one at nothing -/
theorem readerLive_eq_opened {s : Store} (h : StoreInv s) {i : Nat} {e : Ext}
    (he : s.exts[i]? = some e) : readerLive s e = e.opened := by
  unfold readerLive
  cases ho : e.opened with
  | true =>
    obtain ⟨r, hr, hl⟩ := h.live i e he ho
    simp [hr, hl]
  | false => rw [(h.unopened i e he ho).2]

/-- the answer of the frame `ensureReader; body`: an opened extractor reads from the reader it
has, an unopened one opens its file first -/
def frameRes (w : World) (e : Ext) (body : Res) : Res :=
  if e.opened || (e.hasFile && w.openOk) then body else .err

theorem frameRes_eq (w : World) {s : Store} (h : StoreInv s) {i : Nat} {e : Ext}
    (he : s.exts[i]? = some e) (body : Ext → Res) (hb : body (openNew s i e).2 = body e) :
    (match ensureReader w s i e with
      | .error _ => Res.err
      | .ok (s1, e1) => if readerLive s1 e1 then body e1 else .err) =
    frameRes w e (body e) := by
  unfold frameRes
  rw [ensureReader_eq]
  cases ho : e.opened with
  | true => simp only [if_true, readerLive_eq_opened h he, ho, Bool.true_or]
  | false =>
    cases (e.hasFile && w.openOk) with
    | false => rfl
    | true => simp only [Bool.false_eq_true, if_false, if_true, readerLive_openNew, hb, Bool.or_true]

/-- the answer to an operation, from the record of its receiver -/
def recRes (w : World) : Op → Option Ext → Res
  | _, none => .bad
  | .derive _ _, some _ => .none
  | .close _, some _ => .closed
  | .term _ k, some e =>
    if k.checksErr e.format && e.err then .err
    else if k.pdfOnly && e.format != .pdf then .err
    else frameRes w e (termBodyF w k e)
  | .nonTerm _ k, some e =>
    if e.err then .err
    else if k.pdfOnly && e.format != .pdf then .err
    else frameRes w e (nonTermBody w k)

theorem step_res (w : World) {s : Store} (h : StoreInv s) (op : Op) :
    (step w s op).2 = recRes w op s.exts[op.target]? := by
  cases he : s.exts[op.target]? with
  | none =>
    cases op <;> simp only [Op.target] at he <;>
      simp only [step, deriveOp, terminal, nonTerminal, closeOp, he, recRes]
  | some e =>
    cases op with
    | derive i c => simp only [Op.target] at he; simp only [step, deriveOp, he, recRes]
    | close i => simp only [Op.target] at he; simp only [step, closeOp, he, recRes]
    | term i k =>
      simp only [Op.target] at he
      simp only [step, terminal, he, recRes]
      rw [apply_ite Prod.snd, apply_ite Prod.snd, ← frameRes_eq w h he (termBodyF w k) rfl]
      cases ensureReader w s i e <;> rfl
    | nonTerm i k =>
      simp only [Op.target] at he
      simp only [step, nonTerminal, he, recRes]
      rw [apply_ite Prod.snd, apply_ite Prod.snd, ← frameRes_eq w h he (fun _ => nonTermBody w k) rfl]
      cases ensureReader w s i e <;> rfl

theorem terminal_res (w : World) (k : Term) {s : Store} (h : StoreInv s) {i : Nat} {e : Ext}
    (he : s.exts[i]? = some e) : (terminal w k s i).2 = recRes w (.term i k) (some e) :=
  (step_res w h (.term i k)).trans (congrArg _ he)

theorem nonTerminal_res (w : World) (k : NonTerm) {s : Store} (h : StoreInv s) {i : Nat} {e : Ext}
    (he : s.exts[i]? = some e) : (nonTerminal w k s i).2 = recRes w (.nonTerm i k) (some e) :=
  (step_res w h (.nonTerm i k)).trans (congrArg _ he)

/-- an operation writes the record of its receiver only -/
theorem get_step (w : World) (s : Store) {i : Nat} (hi : i < s.exts.length) (op : Op)
    (hop : op.mutates = true → op.target ≠ i) : (step w s op).1.exts[i]? = s.exts[i]? := by
  have hcl : ∀ (t : Store) (e : Ext), op.mutates = true →
      (closeExt t op.target e).exts[i]? = t.exts[i]? := by
    intro t e hm
    rcases closeExt_cases t op.target e with h | ⟨_, _, _, h⟩ <;> rw [h]
    exact List.getElem?_set_ne (hop hm)
  have hopen : ∀ e, op.mutates = true → (openNew s op.target e).1.exts[i]? = s.exts[i]? :=
    fun e hm => List.getElem?_set_ne (hop hm)
  exact step_moves w s (fun t => t.exts[i]? = s.exts[i]?) op rfl (fun e _ hm => hcl s e hm)
    (fun e _ hm _ _ _ _ => hopen e hm) (fun e _ hm _ => (hcl _ _ hm).trans (hopen e hm))
    (fun _ _ _ _ => List.getElem?_append_left hi)

theorem get_exec (w : World) (i : Nat) (ops : List Op) :
    ∀ {s : Store}, i < s.exts.length → (∀ op ∈ ops, op.mutates = true → op.target ≠ i) →
      (exec w s ops).exts[i]? = s.exts[i]? := by
  induction ops with
  | nil => intro s _ _; rfl
  | cons op ops ih =>
    intro s hi hops
    have h1 := get_step w s hi op (hops op List.mem_cons_self)
    exact (ih (lt_of_getElem? (h1.trans (List.getElem?_eq_getElem hi)))
      fun o ho => hops o (List.mem_cons_of_mem _ ho)).trans h1

/-- `Close` releases what the extractor holds: afterwards it owns nothing and
the descriptor count has dropped by exactly what it held -/
theorem closeExt_releases {s : Store} (h : StoreInv s) {i : Nat} {e : Ext}
    (he : s.exts[i]? = some e) :
    ∃ e', (closeExt s i e).exts[i]? = some e' ∧ e'.owns = false ∧
      (closeExt s i e).fdCount + (if e.owns then 1 else 0) = s.fdCount := by
  have hi := lt_of_getElem? he
  unfold closeExt
  cases hown : e.owns with
  | false => exact ⟨e, by simpa using he, hown, by simp⟩
  | true =>
    obtain ⟨r, hr, hl⟩ := h.live i e he (h.owns_opened he hown)
    simp only [if_true, hr]
    refine ⟨_, List.getElem?_set_self hi, rfl, ?_⟩
    simp only [Store.fdCount]
    exact count_set_false s.readers r hl

theorem termStore_releases (w : World) {s : Store} (h : StoreInv s) {i : Nat} {e : Ext}
    (he : s.exts[i]? = some e) :
    ∃ e', (termStore w s i e).exts[i]? = some e' ∧ e'.owns = false ∧
      (termStore w s i e).fdCount + (if e.owns then 1 else 0) = s.fdCount := by
  rcases termStore_cases w s i e with ⟨_, hr⟩ | ⟨ho, _, hr⟩ | ⟨ho, _, _, hr⟩
  · rw [hr]; exact closeExt_releases h he
  · rw [hr]
    have := (h.unopened i e he ho).1
    exact ⟨e, he, this, by simp [this]⟩
  · rw [hr, close_openNew h he ho]
    have := (h.unopened i e he ho).1
    refine ⟨e, he, this, ?_⟩
    simp [this, Store.fdCount, List.count_append]

theorem mismatch_releases (w : World) {s : Store} (h : StoreInv s) {i : Nat} {e : Ext}
    (he : s.exts[i]? = some e) :
    ∃ e', (mismatchStore w s i e).exts[i]? = some e' ∧ e'.owns = false ∧
      (mismatchStore w s i e).fdCount + (if e.owns then 1 else 0) = s.fdCount := by
  rw [mismatchStore_eq w h he]
  cases hf : e.hasFile with
  | true => simpa using termStore_releases w h he
  | false =>
    have hown : e.owns = false := by
      cases ho : e.owns with
      | false => rfl
      | true => have := h.ownsFile i e he ho; rw [hf] at this; cases this
    exact ⟨e, by simpa using he, hown, by simp [hown]⟩

end Tabula.Builder
