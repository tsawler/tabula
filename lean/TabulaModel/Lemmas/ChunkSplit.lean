import TabulaModel.Model.ChunkSplit
import TabulaModel.Lemmas.Chunk
import TabulaModel.Lemmas.Conserve
/-!
Helper lemmas for property C12: the splitter of property C13 (`Model/Split.lean`) meets the
contract that the cover theorem of the element-based chunker asks of its parameter (`SplitOKOn`)
on the texts whose white space is ASCII, a class that joining paragraphs does not leave.
-/
namespace Tabula.ChunkSplit
open Tabula.Chunk
open Tabula.Split (spaceLen isAsciiSpace isSpace2 isSpace3 IsWsChar WsOnly Pieces)

theorem isSpace_of_ascii {b : Nat} (h : isAsciiSpace b = true) : isSpace b = true := by
  simp only [isAsciiSpace, Bool.or_eq_true, Bool.and_eq_true, decide_eq_true_eq, beq_iff_eq] at h
  simp only [isSpace, Bool.or_eq_true, Bool.and_eq_true, decide_eq_true_eq, beq_iff_eq]
  omega

theorem noWide_suffix (a b : Str) (h : noWide (a ++ b) = true) : noWide b = true := by
  induction a with
  | nil => exact h
  | cons x xs ih =>
    simp only [List.cons_append, noWide, Bool.and_eq_true] at h
    exact ih h.2

theorem noWide_head (b : Nat) (rest : Str) (h : noWide (b :: rest) = true) : spaceLen (b :: rest) ≤ 1 := by
  simp only [noWide, Bool.and_eq_true, decide_eq_true_eq] at h
  exact h.1

/-- a white-space-only gap at the head of a text without wide white space is ASCII white space -/
theorem strip_gap (g rest : Str) (hg : WsOnly g) (hn : noWide (g ++ rest) = true) : strip g = [] := by
  induction hg with
  | nil => rfl
  | @cons c s hc _ ih =>
    rw [List.append_assoc] at hn
    have hlen := Tabula.Split.spaceLen_wsChar_append hc (s ++ rest)
    obtain ⟨hne, hl⟩ := hc
    rcases c with _ | ⟨b, c1⟩
    · exact absurd rfl hne
    · have h1 := noWide_head b (c1 ++ (s ++ rest)) hn
      rw [List.cons_append] at hlen
      rw [hlen] at h1
      obtain rfl : c1 = [] := by simpa using h1
      have hb : isAsciiSpace b = true := by
        by_cases hb : isAsciiSpace b = true
        · exact hb
        · simp [spaceLen, hb] at hl
      have hrest : noWide (s ++ rest) = true := noWide_suffix [b] _ hn
      rw [strip_append, ih hrest, List.append_nil]
      simp [strip, isSpace_of_ascii hb]

/-- **C13's conservation in C12's terms**: pieces of a text without wide white space carry
the text, ASCII white space aside -/
theorem pieces_strip {t : Str} {ps : List Str} (h : Pieces t ps) (hn : noWide t = true) :
    strip ps.flatten = strip t := by
  induction h with
  | @done g hg =>
    have := strip_gap g [] hg (by simpa using hn)
    rw [this]; rfl
  | @piece g p r ps hg _ ih =>
    rw [List.append_assoc] at hn
    have h1 := strip_gap g (p ++ r) hg hn
    have h2 : noWide r = true := noWide_suffix p r (noWide_suffix g _ hn)
    rw [List.flatten_cons, strip_append, ih h2, List.append_assoc, strip_append, h1, strip_append]
    rfl

theorem spaceLen_join (x : Nat) (xs b : Str) (h : spaceLen (x :: xs) ≤ 1) :
    spaceLen (x :: (xs ++ 10 :: 10 :: b)) ≤ 1 := by
  by_cases hx : isAsciiSpace x = true
  · simp [spaceLen, hx]
  · rcases xs with _ | ⟨c, xs2⟩
    · simp [spaceLen, hx, isSpace2, isSpace3]
    · by_cases hc : isSpace2 x c = true
      · simp [spaceLen, hx, hc] at h
      · rcases xs2 with _ | ⟨d, xs3⟩
        · simp [spaceLen, hx, hc, isSpace3]
        · simpa [spaceLen, hx, hc] using h

theorem noWide_join (a b : Str) (ha : noWide a = true) (hb : noWide b = true) :
    noWide (a ++ [10, 10] ++ b) = true := by
  induction a with
  | nil =>
    simp only [List.nil_append, List.cons_append, noWide, Bool.and_eq_true, decide_eq_true_eq]
    exact ⟨by simp [spaceLen, isAsciiSpace], by simp [spaceLen, isAsciiSpace], hb⟩
  | cons x xs ih =>
    simp only [noWide, Bool.and_eq_true, decide_eq_true_eq] at ha
    simp only [List.cons_append, List.append_assoc, noWide, Bool.and_eq_true, decide_eq_true_eq]
    refine ⟨?_, by simpa [List.append_assoc] using ih ha.2⟩
    exact spaceLen_join x xs b ha.1

/-- **C13's splitter meets C12's contract** on the texts without wide white space -/
theorem splitterOf_ok (c : Tabula.Split.SizeConfig) : SplitOKOn (fun t => noWide t = true) (splitterOf c) := by
  intro t ps hn h
  unfold splitterOf at h
  split at h
  · cases h
    exact pieces_strip (Tabula.Split.splitToSize_pieces c t []) hn
  · cases h

theorem noWide_joinClosed : JoinClosed fun t => noWide t = true := fun a b => noWide_join a b

/-- every paragraph of the page is free of wide white space -/
def ParasNoWide (es : List Elem) : Prop := ∀ t, Elem.para t ∈ es → noWide t = true

def DocNoWide (d : Doc) : Prop := ∀ pg ∈ d, ParasNoWide pg.elems

end Tabula.ChunkSplit
