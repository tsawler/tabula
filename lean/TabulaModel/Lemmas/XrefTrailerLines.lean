import TabulaModel.Lemmas.XrefClassic
import TabulaModel.Lemmas.SpelledDict
/-!
The trailer dictionary of a classic cross-reference table spelled over SEVERAL lines: the
scanner (`linesOf`) on a text whose only end-of-line bytes are line feeds, and the loop of
`parseTrailer` (`trailerText`) putting the text together again.
-/
namespace Tabula.XrefFile
open Tabula.XrefBytes Tabula.A1 Tabula.Pdf

/-- the first LF-separated line of a text, and the lines after it -/
def lfSplit : Str → Str × List Str
  | [] => ([], [])
  | c :: r =>
    if c = 10 then ([], (lfSplit r).1 :: (lfSplit r).2)
    else (c :: (lfSplit r).1, (lfSplit r).2)

/-- the LF-separated lines of a text (`strings.Split(t, "\n")`): never empty; a text ending in
LF has a last line `[]` -/
def lfLines (t : Str) : List Str := (lfSplit t).1 :: (lfSplit t).2

theorem lfLines_nil : lfLines [] = [[]] := rfl

theorem lfLines_cons (c : Nat) (r : Str) :
    lfLines (c :: r) = if c = 10 then [] :: lfLines r else (c :: (lfSplit r).1) :: (lfSplit r).2 := by
  rw [lfLines, lfSplit]
  split <;> rfl

theorem lfLines_lf (t : Str) : lfLines (10 :: t) = [] :: lfLines t := by
  rw [lfLines_cons, if_pos rfl]

theorem lfLines_ne_nil (t : Str) : lfLines t ≠ [] := List.cons_ne_nil _ _

/-- the lines of a text are core's split at the line feed -/
theorem lfLines_eq_splitOn (t : Str) : lfLines t = t.splitOn 10 := by
  induction t with
  | nil => rfl
  | cons c r ih =>
    rw [lfLines_cons, List.splitOn_cons_eq_if_modifyHead, ← ih]
    by_cases h : c = 10
    · rw [if_pos h, if_pos (by rw [h]; rfl)]
    · rw [if_neg h, if_neg (by simpa using h)]; rfl

/-- `strings.Split(a + "\n" + b, "\n")` -/
theorem lfLines_append_lf (a b : Str) : lfLines (a ++ 10 :: b) = lfLines a ++ lfLines b := by
  simp only [lfLines_eq_splitOn]; exact List.splitOn_append_cons_self a b

theorem lfLines_line (l : Str) (h : 10 ∉ l) : lfLines l = [l] := by
  rw [lfLines_eq_splitOn]; exact List.splitOn_eq_singleton h

theorem lfLines_line_lf (l r : Str) (h : 10 ∉ l) : lfLines (l ++ 10 :: r) = l :: lfLines r := by
  rw [lfLines_append_lf, lfLines_line l h]; rfl

/-- a text is a line without LF, or such a line, LF and a text: induction along the lines -/
theorem lf_induction {P : Str → Prop} (line : ∀ l, 10 ∉ l → P l)
    (step : ∀ l r, 10 ∉ l → P r → P (l ++ 10 :: r)) (t : Str) : P t := by
  have h : ∀ l, 10 ∉ l → P (l ++ t) := by
    induction t with
    | nil => intro l hl; rw [List.append_nil]; exact line l hl
    | cons c r ih =>
      intro l hl
      by_cases hc : c = 10
      · rw [hc]; exact step l r hl (ih [] List.not_mem_nil)
      · rw [List.append_cons]
        exact ih (l ++ [c]) fun hm =>
          (List.mem_append.1 hm).elim hl fun h1 => hc (List.mem_singleton.1 h1).symm
  exact h [] List.not_mem_nil

theorem followOk_lf (rest : Str) : Eol.lf.FollowOk rest := fun h => by cases h

/-- **the scanner on a multi-line text**: a text without CR whose LF-separated lines all fit
the buffer, followed by an end-of-line marker, comes out as exactly its LF-separated lines;
the scanner then goes on behind the marker -/
theorem linesOf_text (t : Str) (hcr : 13 ∉ t) (hfit : ∀ l ∈ lfLines t, l.length ≤ 65534)
    (e : Eol) (rest : Str) (hr : e.FollowOk rest) :
    linesOf (t ++ (e.bytes ++ rest)) = (lfLines t ++ (linesOf rest).1, (linesOf rest).2) := by
  induction t using lf_induction with
  | line l hl =>
    rw [lfLines_line l hl] at hfit ⊢
    rw [linesOf_line l (fun c hc => ⟨fun h => hl (h ▸ hc), fun h => hcr (h ▸ hc)⟩)
      (hfit l (List.mem_cons_self ..)) e rest hr]
    rfl
  | step l r hl ih =>
    rw [lfLines_line_lf l r hl] at hfit ⊢
    have hcr' : 13 ∉ l ∧ 13 ∉ r := ⟨fun h => hcr (List.mem_append_left _ h),
      fun h => hcr (List.mem_append_right _ (List.mem_cons_of_mem _ h))⟩
    rw [List.append_assoc]
    exact (linesOf_line l (fun c hc => ⟨fun h => hl (h ▸ hc), fun h => hcr'.1 (h ▸ hc)⟩)
      (hfit l (List.mem_cons_self ..)) .lf (r ++ (e.bytes ++ rest)) (followOk_lf _)).trans
      (by rw [ih hcr'.2 fun x hx => hfit x (List.mem_cons_of_mem _ hx)]; rfl)

/-- … with LF itself as the marker: `linesOf (t ++ 10 :: k)` -/
theorem linesOf_text_lf (t : Str) (hcr : 13 ∉ t) (hfit : ∀ l ∈ lfLines t, l.length ≤ 65534) (k : Str) :
    linesOf (t ++ 10 :: k) = (lfLines t ++ (linesOf k).1, (linesOf k).2) :=
  linesOf_text t hcr hfit .lf k (followOk_lf k)

theorem followOk_append (e : Eol) (t k : Str) (hne : t ≠ []) (h : e.FollowOk t) : e.FollowOk (t ++ k) := by
  intro he t' heq
  cases t with
  | nil => exact hne rfl
  | cons c r =>
    simp only [List.cons_append, List.cons.injEq] at heq
    exact h he r (by rw [heq.1])

/-- the lines of a rendered table whose trailer text runs over several lines: `xref`, headers
and entries, `trailer`, the LF-separated lines of the text, then whatever the rest of the file
yields - of which nothing is asked -/
theorem linesOf_classic_lines (eol : Eol) (ee : EntEol) (subs : List CSub) (hss : ∀ s ∈ subs, s.Ok)
    (trailer rest : Str) (hcr : 13 ∉ trailer) (hfit : ∀ l ∈ lfLines trailer, l.length ≤ 65534)
    (hne : trailer ≠ []) (hfirst : eol.FollowOk trailer) :
    ∃ more tl, linesOf (renderClassic eol ee subs trailer rest) =
      (kwXref :: (subLines ee subs ++ kwTrailer :: (lfLines trailer ++ more)), tl) := by
  obtain ⟨e', rest', he, hf⟩ := eol_follow eol rest
  rw [renderClassic, he, linesOf_classic_upto eol eol ee subs hss _ (followOk_append eol _ _ hne hfirst),
    linesOf_text trailer hcr hfit e' rest' hf]
  exact ⟨_, _, rfl⟩

/-- the same when the marker is a lone CR and the text begins with LF: `trailer CR LF` is one
end of line, and the scanner does not deliver the empty first line of the text -/
theorem linesOf_classic_lines_crlf (ee : EntEol) (subs : List CSub) (hss : ∀ s ∈ subs, s.Ok)
    (t' rest : Str) (hcr : 13 ∉ t') (hfit : ∀ l ∈ lfLines t', l.length ≤ 65534) :
    ∃ more tl, linesOf (renderClassic .cr ee subs (10 :: t') rest) =
      (kwXref :: (subLines ee subs ++ kwTrailer :: (lfLines t' ++ more)), tl) := by
  obtain ⟨e', rest', he, hf⟩ := eol_follow .cr rest
  have ht : linesOf (t' ++ (Eol.cr.bytes ++ rest)) = _ := he ▸ linesOf_text t' hcr hfit e' rest' hf
  exact ⟨_, _, (linesOf_classic_upto .cr .crlf ee subs hss (t' ++ (Eol.cr.bytes ++ rest))
    (fun h => nomatch h)).trans (by rw [ht])⟩

theorem lfLines_of_noEol (t : Str) (h : NoEol t) : lfLines t = [t] :=
  lfLines_line t fun hm => (h 10 hm).1 rfl

theorem containsGtGt_false_of_append (a b : Str) (h : containsGtGt (a ++ b) = false) :
    containsGtGt b = false :=
  Bool.eq_false_iff.2 fun hb => Bool.eq_false_iff.1 h (containsGtGt_append a b hb)

/-- `>>` cannot straddle a line feed -/
theorem containsGtGt_lf (a b : Str) (h : containsGtGt (a ++ 10 :: b) = true) :
    containsGtGt a = true ∨ containsGtGt b = true := by
  simp only [containsGtGt_iff] at h ⊢
  rcases List.infix_append_iff_ne_nil.1 h with h | h | ⟨l₁, l₂, h1, h2, e, -, hp⟩
  · exact .inl h
  · rcases List.infix_cons_iff.1 h with ⟨t, ht⟩ | h
    · cases ht
    · exact .inr h
  · -- the part of `>>` behind the seam would begin with the line feed
    obtain ⟨t, ht⟩ := hp
    cases l₁ with
    | nil => exact absurd rfl h1
    | cons x l₁ =>
      cases l₂ with
      | nil => exact absurd rfl h2
      | cons y l₂ =>
        cases (List.cons.inj ht).1
        cases l₁ with
        | nil => cases e
        | cons z l₁ => cases l₁ <;> cases e
/-- **the loop of `parseTrailer` on several lines**: when no line but the last contains `>>`
and the text as a whole does, the loop reads every line and returns the text, LF behind every
line — the text as written followed by one LF -/
theorem trailerText_text (t : Str) (more : List Str)
    (hno : ∀ l ∈ (lfLines t).dropLast, containsGtGt l = false) (hgt : containsGtGt t = true) :
    trailerText (lfLines t ++ more) = (t ++ [10], false) := by
  induction t using lf_induction with
  | line l hl => rw [lfLines_line l hl, List.cons_append, trailerText, if_pos hgt]
  | step l r hl ih =>
    rw [lfLines_line_lf l r hl] at hno ⊢
    rw [List.dropLast_cons_of_ne_nil (lfLines_ne_nil r)] at hno
    have hl' : containsGtGt l = false := hno l (List.mem_cons_self ..)
    have hr : containsGtGt r = true :=
      (containsGtGt_lf _ _ hgt).resolve_left (by rw [hl']; exact Bool.false_ne_true)
    rw [List.cons_append, trailerText, if_neg (by rw [hl']; exact Bool.false_ne_true),
      ih (fun x hx => hno x (List.mem_cons_of_mem _ hx)) hr, List.append_assoc]
    rfl

/-- **`parseTraditionalXRef` on the lines of a table**: `xref`, the subsections, `trailer`, then the
lines of a text of which only the last contains `>>` and which, with the line feed `parseTrailer`
puts behind it, parses to a dictionary: the entries and that dictionary, whatever lines follow -/
theorem parseClassic_table (tl : Bool) (ee : EntEol) (subs : List CSub) (hss : ∀ s ∈ subs, s.Ok)
    (t : Str) (kv : Reader.Dict) (st : PState) (more : List Str)
    (hno : ∀ l ∈ (lfLines t).dropLast, containsGtGt l = false) (hgt : containsGtGt t = true)
    (hp : coreParse (t ++ [10]) = .ok (.dict kv, st)) :
    parseClassic (kwXref :: (subLines ee subs ++ kwTrailer :: (lfLines t ++ more))) tl =
      .ok (classicSection subs, kv) := by
  rw [parseClassic_subs tl ee subs hss, classicLoop_trailerLine tl _ _ 0 _ trimSpaceU_kwTrailer,
    parseTrailer_text _ tl _ kv st (trailerText_text t more hno hgt) hp]
  rfl

/-- no `>>` before the last line feed of the text: no line but the last contains `>>` -/
theorem lfLines_noGtGt (t : Str) (h : ∀ a b, t = a ++ 10 :: b → containsGtGt a = false) :
    ∀ l ∈ (lfLines t).dropLast, containsGtGt l = false := by
  induction t using lf_induction with
  | line l hl => rw [lfLines_line l hl]; exact fun _ hx => nomatch hx
  | step l r hl ih =>
    rw [lfLines_line_lf l r hl, List.dropLast_cons_of_ne_nil (lfLines_ne_nil r)]
    intro x hx
    rcases List.mem_cons.1 hx with rfl | hx
    · exact h x r rfl
    · exact ih (fun a b hab => containsGtGt_false_of_append (l ++ [10]) a
        (by rw [List.append_assoc]; exact h (l ++ 10 :: a) b (by rw [hab, List.append_assoc]; rfl))) x hx

/-- every stretch of the text without LF fits: every line fits -/
theorem lfLines_fit (N : Nat) (t : Str) (h : ∀ a l b, t = a ++ l ++ b → 10 ∉ l → l.length ≤ N) :
    ∀ l ∈ lfLines t, l.length ≤ N := by
  induction t using lf_induction with
  | line l hl =>
    rw [lfLines_line l hl]
    intro x hx
    rw [List.mem_singleton.1 hx]
    exact h [] l [] (List.append_nil _).symm hl
  | step l r hl ih =>
    rw [lfLines_line_lf l r hl]
    intro x hx
    rcases List.mem_cons.1 hx with rfl | hx
    · exact h [] x (10 :: r) rfl hl
    · exact ih (fun a y b hab hy => h (l ++ 10 :: a) y b
        (by rw [hab, List.append_assoc, List.append_assoc, List.append_assoc]; rfl) hy) x hx

theorem noGtGt_of_lines (a : Str) (h : ∀ l ∈ lfLines a, containsGtGt l = false) :
    containsGtGt a = false := by
  induction a using lf_induction with
  | line l hl => rw [lfLines_line l hl] at h; exact h l (List.mem_cons_self ..)
  | step l r hl ih =>
    rw [lfLines_line_lf l r hl] at h
    cases hc : containsGtGt (l ++ 10 :: r) with
    | false => rfl
    | true =>
      rcases containsGtGt_lf _ _ hc with h' | h'
      · rw [h l (List.mem_cons_self ..)] at h'; cases h'
      · rw [ih fun x hx => h x (List.mem_cons_of_mem _ hx)] at h'; cases h'

/-- … and back: when no line but the last contains `>>`, no `>>` stands before the last line feed -/
theorem noGtGt_of_lfLines (t : Str) (h : ∀ l ∈ (lfLines t).dropLast, containsGtGt l = false) :
    ∀ a b, t = a ++ 10 :: b → containsGtGt a = false := by
  intro a b hab
  subst hab
  rw [lfLines_append_lf, List.dropLast_append_of_ne_nil (lfLines_ne_nil b)] at h
  exact noGtGt_of_lines a fun x hx => h x (List.mem_append_left _ hx)

theorem lfSplit_append_no10 (x b : Str) (h : 10 ∉ x) : (lfSplit (x ++ b)).1 = x ++ (lfSplit b).1 := by
  induction x with
  | nil => rfl
  | cons c x ih =>
    have hc : c ≠ 10 := fun e => h (by simp [e])
    simp only [List.cons_append, lfSplit, hc, if_false]
    rw [ih (fun hm => h (List.mem_cons_of_mem _ hm))]

/-- the first line of `y` is the end of a line of `a ++ y` -/
theorem lfLines_first_le (a y : Str) : ∃ L ∈ lfLines (a ++ y), (lfSplit y).1.length ≤ L.length := by
  induction a using lf_induction with
  | line l hl =>
    exact ⟨_, List.mem_cons_self .., by
      rw [lfSplit_append_no10 l y hl, List.length_append]; exact Nat.le_add_left ..⟩
  | step l r hl ih =>
    obtain ⟨L, hL, hle⟩ := ih
    rw [List.append_assoc, List.cons_append, lfLines_line_lf l _ hl]
    exact ⟨L, List.mem_cons_of_mem _ hL, hle⟩

/-- … and back: when every line fits, every stretch without a line feed fits -/
theorem fit_of_lfLines (N : Nat) (t : Str) (h : ∀ l ∈ lfLines t, l.length ≤ N) :
    ∀ a l b, t = a ++ l ++ b → 10 ∉ l → l.length ≤ N := by
  intro a l b hab hl
  subst hab
  rw [List.append_assoc] at h
  obtain ⟨L, hL, hle⟩ := lfLines_first_le a (l ++ b)
  have := h L hL
  rw [lfSplit_append_no10 l b hl, List.length_append] at hle
  omega

theorem dict_render_ne_nil (pre : Sep) (kvs : List SObj) (close : Sep) :
    (SObj.dict pre kvs close).render ≠ [] := by
  rw [render_dict]
  exact List.append_ne_nil_of_right_ne_nil _ (List.cons_ne_nil _ _)

theorem dict_render_gtgt (pre : Sep) (kvs : List SObj) (close : Sep) :
    containsGtGt (SObj.dict pre kvs close).render = true :=
  (containsGtGt_iff _).2 ⟨renderSep pre ++ 60 :: 60 :: (renderList kvs ++ renderSep close), [], by
    rw [render_dict]; simp only [List.append_assoc, List.cons_append, List.append_nil]⟩

end Tabula.XrefFile
