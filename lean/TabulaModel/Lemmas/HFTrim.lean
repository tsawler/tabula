import TabulaModel.Model.HeaderFooter
/-!
Lemmas about the model of `strings.TrimSpace` in `Model/HeaderFooter.lean` (a table of the encodings of the
space runes, stripped from both ends): what one stripping step does, `trimSpace` is idempotent, and a byte
that occurs in no space rune stops the trimming (used for the workbook writers as well).
-/
namespace Tabula.HF

theorem dropPrefix?_eq_some {p s r : Str} : dropPrefix? p s = some r ↔ s = p ++ r := by
  induction p generalizing s with
  | nil => simp [dropPrefix?, eq_comm]
  | cons a p ih =>
    cases s with
    | nil => simp [dropPrefix?]
    | cons b s =>
      simp only [dropPrefix?]
      by_cases h : a = b
      · subst h; simp [ih]
      · simp [h]; intro h'; exact absurd h'.symm h

/-- `stripOne` tries the encodings of the table in turn: core's `findSome?` -/
theorem stripOne_eq_findSome? (tbl : List Str) (s : Str) :
    stripOne tbl s = tbl.findSome? (dropPrefix? · s) := by
  induction tbl with
  | nil => rfl
  | cons q qs ih => rw [stripOne, List.findSome?, ih]; cases dropPrefix? q s <;> rfl

theorem stripOne_eq_some {tbl : List Str} {s r : Str} (h : stripOne tbl s = some r) :
    ∃ q ∈ tbl, s = q ++ r := by
  obtain ⟨q, hq, hr⟩ := List.exists_of_findSome?_eq_some (stripOne_eq_findSome? tbl s ▸ h)
  exact ⟨q, hq, dropPrefix?_eq_some.mp hr⟩

theorem stripOne_eq_none {tbl : List Str} {s : Str} :
    stripOne tbl s = none ↔ ∀ q ∈ tbl, ∀ r, s ≠ q ++ r := by
  rw [stripOne_eq_findSome?, List.findSome?_eq_none_iff]
  exact forall_congr' fun q => imp_congr_right fun _ =>
    Option.eq_none_iff_forall_ne_some.trans (forall_congr' fun r => not_congr dropPrefix?_eq_some)

def NonEmptyTbl (tbl : List Str) : Prop := ∀ q ∈ tbl, q ≠ []

theorem stripOne_length {tbl : List Str} (ht : NonEmptyTbl tbl) {s r : Str}
    (h : stripOne tbl s = some r) : r.length < s.length := by
  obtain ⟨q, hq, e⟩ := stripOne_eq_some h
  have := ht q hq
  subst e
  cases q with
  | nil => exact absurd rfl this
  | cons a q => simp; omega

theorem stripOne_nil {tbl : List (List Nat)} (ht : NonEmptyTbl tbl) : stripOne tbl [] = none :=
  stripOne_eq_none.mpr fun q hq _ e => ht q hq (List.append_eq_nil_iff.mp e.symm).1

theorem stripMany_of_none {tbl : List Str} {s : Str} (h : stripOne tbl s = none) (n : Nat) :
    stripMany tbl n s = s := by
  cases n with
  | zero => rfl
  | succ n => simp [stripMany, h]

theorem stripMany_fix {tbl : List Str} (ht : NonEmptyTbl tbl) (n : Nat) (s : Str) (hs : s.length ≤ n) :
    stripOne tbl (stripMany tbl n s) = none := by
  fun_induction stripMany tbl n s with
  | case1 s =>
    rw [List.length_eq_zero_iff.mp (Nat.le_zero.mp hs)]
    exact stripOne_nil ht
  | case2 n s r hr ih => exact ih (Nat.le_of_lt_succ (Nat.lt_of_lt_of_le (stripOne_length ht hr) hs))
  | case3 n s hn => exact hn

theorem stripMany_suffix {tbl : List Str} (n : Nat) (s : Str) : ∃ pre, s = pre ++ stripMany tbl n s := by
  fun_induction stripMany tbl n s with
  | case1 s => exact ⟨[], rfl⟩
  | case2 n s r hr ih =>
    obtain ⟨q, _, e⟩ := stripOne_eq_some hr
    obtain ⟨pre, e'⟩ := ih
    exact ⟨q ++ pre, by rw [e, List.append_assoc, ← e']⟩
  | case3 n s hn => exact ⟨[], rfl⟩

theorem spaceSeqs_nonEmpty : NonEmptyTbl spaceSeqs := by
  unfold NonEmptyTbl; decide

theorem spaceSeqsRev_nonEmpty : NonEmptyTbl (spaceSeqs.map List.reverse) := by
  intro q hq
  obtain ⟨q', hq', rfl⟩ := List.mem_map.mp hq
  have := spaceSeqs_nonEmpty q' hq'
  simpa using this

theorem stripOne_trimLeft (s : Str) : stripOne spaceSeqs (trimLeft s) = none :=
  stripMany_fix spaceSeqs_nonEmpty s.length s (Nat.le_refl _)

theorem trimLeft_of_none {s : Str} (h : stripOne spaceSeqs s = none) : trimLeft s = s :=
  stripMany_of_none h _

theorem trimRight_prefix (s : Str) : ∃ suf, s = trimRight s ++ suf := by
  obtain ⟨pre, e⟩ := stripMany_suffix (tbl := spaceSeqs.map List.reverse) s.length s.reverse
  refine ⟨pre.reverse, ?_⟩
  have := congrArg List.reverse e
  simpa [trimRight] using this

theorem trimRight_idem (s : Str) : trimRight (trimRight s) = trimRight s := by
  have h := stripMany_fix spaceSeqsRev_nonEmpty s.length s.reverse (by simp)
  unfold trimRight
  rw [List.reverse_reverse, stripMany_of_none h]

/-- a prefix of a string without a leading space rune has no leading space rune -/
theorem stripOne_none_of_prefix {tbl : List Str} {s p suf : Str} (h : stripOne tbl s = none)
    (e : s = p ++ suf) : stripOne tbl p = none := by
  apply stripOne_eq_none.mpr
  intro q hq r e'
  exact stripOne_eq_none.mp h q hq (r ++ suf) (by rw [e, e', List.append_assoc])

/-- `strings.TrimSpace` is idempotent (candidates carry trimmed text and `textsMatch` trims again). -/
theorem trimSpace_idem (s : Str) : trimSpace (trimSpace s) = trimSpace s := by
  unfold trimSpace
  obtain ⟨suf, e⟩ := trimRight_prefix (trimLeft s)
  have h := stripOne_none_of_prefix (stripOne_trimLeft s) e
  rw [trimLeft_of_none h, trimRight_idem]

/-! a byte that occurs in no space rune stops the trimming: what stands before it is kept, what follows is
trimmed on its own -/

theorem dropPrefix?_append (q Q R : List Nat) (c : Nat) (hc : c ∉ q) :
    dropPrefix? q (Q ++ c :: R) = (dropPrefix? q Q).map (· ++ c :: R) := by
  induction q generalizing Q with
  | nil => simp [dropPrefix?]
  | cons a q ih =>
    have hac : a ≠ c := fun h => hc (by simp [h])
    have hcq : c ∉ q := fun h => hc (by simp [h])
    cases Q with
    | nil => simp [dropPrefix?, hac]
    | cons b Q =>
      simp only [List.cons_append, dropPrefix?]
      split
      · exact ih Q hcq
      · rfl

theorem stripOne_append (tbl : List (List Nat)) (Q R : List Nat) (c : Nat) (hc : ∀ q ∈ tbl, c ∉ q) :
    stripOne tbl (Q ++ c :: R) = (stripOne tbl Q).map (· ++ c :: R) := by
  induction tbl with
  | nil => rfl
  | cons q qs ih =>
    simp only [stripOne]
    rw [dropPrefix?_append q Q R c (hc q (by simp))]
    cases dropPrefix? q Q with
    | some r => rfl
    | none => exact ih (fun q' hq' => hc q' (by simp [hq']))

theorem stripMany_append (tbl : List (List Nat)) (ht : NonEmptyTbl tbl) (c : Nat) (hc : ∀ q ∈ tbl, c ∉ q)
    (n : Nat) (Q R : List Nat) (hn : Q.length ≤ n) :
    stripMany tbl n (Q ++ c :: R) = stripMany tbl n Q ++ c :: R := by
  induction n generalizing Q with
  | zero => rfl
  | succ n ih =>
    simp only [stripMany]
    rw [stripOne_append tbl Q R c hc]
    cases h : stripOne tbl Q with
    | none => rfl
    | some r =>
      have := stripOne_length ht h
      exact ih r (by omega)

theorem stripOne_cons_of_not_mem {tbl : List (List Nat)} (ht : NonEmptyTbl tbl) (c : Nat) (z : List Nat)
    (hc : ∀ q ∈ tbl, c ∉ q) : stripOne tbl (c :: z) = none := by
  have := stripOne_append tbl [] z c hc
  rwa [stripOne_nil ht] at this

theorem stripMany_nil {tbl : List (List Nat)} (ht : NonEmptyTbl tbl) (k : Nat) : stripMany tbl k [] = [] := by
  cases k with
  | zero => rfl
  | succ k => simp [stripMany, stripOne_nil ht]

theorem stripMany_fuel (tbl : List (List Nat)) (ht : NonEmptyTbl tbl) (n m : Nat) (Q : List Nat)
    (hn : Q.length ≤ n) (hm : Q.length ≤ m) : stripMany tbl n Q = stripMany tbl m Q := by
  induction n generalizing m Q with
  | zero => rw [List.eq_nil_of_length_eq_zero (Nat.le_zero.mp hn), stripMany_nil ht, stripMany_nil ht]
  | succ n ih =>
    cases m with
    | zero => rw [List.eq_nil_of_length_eq_zero (Nat.le_zero.mp hm), stripMany_nil ht, stripMany_nil ht]
    | succ m =>
      simp only [stripMany]
      cases h : stripOne tbl Q with
      | none => rfl
      | some r =>
        have := stripOne_length ht h
        exact ih m r (by omega) (by omega)

/-- a byte that occurs in no space rune stops the right trim -/
theorem trimRight_append (P V : List Nat) (c : Nat) (hc : ∀ q ∈ spaceSeqs, c ∉ q) :
    trimRight (P ++ c :: V) = P ++ c :: trimRight V := by
  have hc' : ∀ q ∈ spaceSeqs.map List.reverse, c ∉ q := by
    intro q hq
    obtain ⟨q', hq', rfl⟩ := List.mem_map.mp hq
    simpa using hc q' hq'
  unfold trimRight
  have hrev : (P ++ c :: V).reverse = V.reverse ++ c :: P.reverse := by simp
  rw [hrev, stripMany_append _ spaceSeqsRev_nonEmpty c hc' _ _ _ (by simp; omega)]
  rw [stripMany_fuel _ spaceSeqsRev_nonEmpty (P ++ c :: V).length V.length V.reverse (by simp; omega) (by simp)]
  simp

theorem trimSpace_of_nonSpace (c : Nat) (z : List Nat) (hc : ∀ q ∈ spaceSeqs, c ∉ q) :
    trimSpace (c :: z) = trimRight (c :: z) := by
  unfold trimSpace
  rw [trimLeft_of_none (stripOne_cons_of_not_mem spaceSeqs_nonEmpty c z hc)]

end Tabula.HF
