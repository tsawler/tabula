import TabulaModel.Lemmas.Reader
import TabulaModel.Lemmas.ReaderWalk
import TabulaModel.Lemmas.ReaderFuel
import TabulaModel.Lemmas.PdfDoc
/-!
Renumbering the objects of a file (Props/C01Reader.lean, `read_renumber_invariant`): every
function of the reader above the object layer commutes with rewriting the object numbers in
references by an injective map.
-/
namespace Tabula.Reader
open Tabula.Pdf (Obj)

/-- a reference's object number after renumbering (a negative number names nothing) -/
def renNum (σ : Nat → Nat) (n : Int) : Int := if n < 0 then n else ((σ n.toNat : Nat) : Int)

mutual
/-- rewrite the object numbers of all references inside an object -/
def renObj (σ : Nat → Nat) : Obj → Obj
  | .ref n g => .ref (renNum σ n) g
  | .arr xs => .arr (renList σ xs)
  | .dict kv => .dict (renKV σ kv)
  | .null => .null
  | .bool b => .bool b
  | .int i => .int i
  | .real a b c => .real a b c
  | .str s => .str s
  | .name s => .name s
def renList (σ : Nat → Nat) : List Obj → List Obj
  | [] => []
  | x :: xs => renObj σ x :: renList σ xs
def renKV (σ : Nat → Nat) : List (Str × Obj) → List (Str × Obj)
  | [] => []
  | (k, v) :: r => (k, renObj σ v) :: renKV σ r
end

def renSVal (σ : Nat → Nat) : SVal → SVal
  | .obj o => .obj (renObj σ o)
  | .stream d => .stream d

/-- `res'` holds under number `σ n` what `res` holds under `n`, with the references rewritten -/
def Renumbered (σ : Nat → Nat) (res res' : Res) : Prop :=
  ∀ n, res' (σ n) = (res n).map (renSVal σ)

theorem renList_eq_map (σ : Nat → Nat) (xs : List Obj) : renList σ xs = xs.map (renObj σ) := by
  induction xs with
  | nil => rfl
  | cons x xs ih => simp [renList, ih]

theorem dget_ren (σ : Nat → Nat) (kv : Dict) (k : Str) :
    dget (renKV σ kv) k = (dget kv k).map (renObj σ) := by
  induction kv with
  | nil => rfl
  | cons p r ih =>
    obtain ⟨k', v⟩ := p
    simp only [renKV, dget]
    split
    · rfl
    · exact ih

theorem resolve_ren {σ : Nat → Nat} {res res' : Res} (h : Renumbered σ res res') (o : Obj) :
    resolve res' (renObj σ o) = (resolve res o).map (renSVal σ) := by
  cases o with
  | ref n g =>
    by_cases hn : n < 0
    · simp [renObj, renNum, resolve, hn, Except.map]
    · have h2 : ¬ ((σ n.toNat : Nat) : Int) < 0 := by omega
      simp only [renObj, renNum, resolve, hn, h2, if_false, Int.toNat_natCast]
      exact h n.toNat
  | _ => simp [renObj, resolve, Except.map, renSVal]

mutual
def renTree (σ : Nat → Nat) : RTree → RTree
  | .leaf d => .leaf (renKV σ d)
  | .node d kids => .node (renKV σ d) (renTreeList σ kids)
def renTreeList (σ : Nat → Nat) : List RTree → List RTree
  | [] => []
  | t :: ts => renTree σ t :: renTreeList σ ts
end

theorem contains_map_inj (σ : Nat → Nat) (hinj : ∀ a b, σ a = σ b → a = b) (vis : List Nat) (n : Nat) :
    (vis.map σ).contains (σ n) = vis.contains n := by
  simp only [List.contains_eq_mem, List.mem_map]
  exact decide_eq_decide.mpr ⟨fun ⟨a, ha, e⟩ => hinj _ _ e ▸ ha, fun h => ⟨n, h, rfl⟩⟩

/-- the result of the page-tree walk on the renumbered store -/
def renBuilt (σ : Nat → Nat) (p : RTree × List Nat) : RTree × List Nat := (renTree σ p.1, p.2.map σ)
def renBuiltList (σ : Nat → Nat) (p : List RTree × List Nat) : List RTree × List Nat :=
  (renTreeList σ p.1, p.2.map σ)

theorem visitKidsRef_ren (σ : Nat → Nat) (hinj : ∀ a b, σ a = σ b → a = b) (vis : List Nat) (k : Obj) :
    visitKidsRef (vis.map σ) (renObj σ k) = (visitKidsRef vis k).map (List.map σ) := by
  cases k with
  | ref n g =>
    by_cases hn : n < 0
    · simp [renObj, renNum, visitKidsRef, hn]
    · have h2 : ¬ ((σ n.toNat : Nat) : Int) < 0 := by omega
      simp only [renObj, renNum, visitKidsRef, hn, h2, if_false, Int.toNat_natCast, contains_map_inj σ hinj]
      split <;> simp
  | _ => simp [renObj, visitKidsRef]

/-- the classification of a node of the renumbered store -/
def NodeKind.ren (σ : Nat → Nat) : NodeKind → NodeKind
  | .fail e => .fail e
  | .leaf => .leaf
  | .kids vis0 ks => .kids (vis0.map σ) (renList σ ks)

def KidKind.ren (σ : Nat → Nat) : KidKind → KidKind
  | .fail e => .fail e
  | .node n kd => .node (σ n) (renKV σ kd)

theorem nodeKind_ren {σ : Nat → Nat} (hinj : ∀ a b, σ a = σ b → a = b) {res res' : Res}
    (h : Renumbered σ res res') (dep : Nat) (vis : List Nat) (d : Dict) :
    nodeKind res' dep (vis.map σ) (renKV σ d) = (nodeKind res dep vis d).ren σ := by
  simp only [nodeKind, dget_ren]
  by_cases hdep : dep ≥ PdfDoc.maxPageTreeDepth
  · rw [if_pos hdep, if_pos hdep]; rfl
  rw [if_neg hdep, if_neg hdep]
  cases dget d kType with
  | none => rfl
  | some o =>
    cases o with
    | name t =>
      simp only [Option.map_some, renObj]
      by_cases hp : t = kPages
      · rw [if_pos hp, if_pos hp]
        cases dget d kKids with
        | none => rfl
        | some k =>
          simp only [Option.map_some, resolve_ren h, visitKidsRef_ren σ hinj]
          cases visitKidsRef vis k with
          | none => rfl
          | some vis0 =>
            simp only [Option.map_some]
            cases resolve res k with
            | error e => rfl
            | ok v =>
              cases v with
              | stream dd => rfl
              | obj ko => cases ko <;> rfl
      · rw [if_neg hp, if_neg hp]
        by_cases hq : t = kPage
        · rw [if_pos hq]; rfl
        · rw [if_neg hq]; rfl
    | _ => rfl

theorem kidKind_ren {σ : Nat → Nat} (hinj : ∀ a b, σ a = σ b → a = b) {res res' : Res}
    (h : Renumbered σ res res') (vis : List Nat) (k : Obj) :
    kidKind res' (vis.map σ) (renObj σ k) = (kidKind res vis k).ren σ := by
  cases k with
  | ref n g =>
    by_cases hn : n < 0
    · simp [renObj, renNum, kidKind, hn, KidKind.ren]
    · have h2 : ¬ ((σ n.toNat : Nat) : Int) < 0 := by omega
      simp only [renObj, renNum, kidKind, hn, h2, if_false, Int.toNat_natCast, contains_map_inj σ hinj, h n.toNat]
      cases vis.contains n.toNat with
      | true => rfl
      | false =>
        rw [if_neg Bool.false_ne_true, if_neg Bool.false_ne_true]
        cases res n.toNat with
        | error e => rfl
        | ok v =>
          cases v with
          | stream dd => rfl
          | obj ko => cases ko <;> rfl
  | _ => rfl

theorem pagesRoot_ren {σ : Nat → Nat} {res res' : Res} (h : Renumbered σ res res') (r : Nat) :
    pagesRoot res' (some (σ r)) = (pagesRoot res (some r)).map (renKV σ) := by
  simp only [pagesRoot, h r]
  cases res r with
  | error e => rfl
  | ok v =>
    cases v with
    | stream dd => rfl
    | obj o =>
      cases o with
      | dict cat =>
        simp only [Except.map, renSVal, renObj, dget_ren]
        cases dget cat kPages with
        | none => rfl
        | some p =>
          simp only [Option.map_some, resolve_ren h]
          cases resolve res p with
          | error e => rfl
          | ok pv =>
            cases pv with
            | stream dd => rfl
            | obj po =>
              cases po with
              | dict pd =>
                simp only [Except.map, renSVal, renObj, dget_ren]
                cases dget pd kCount with
                | none => rfl
                | some c => cases c <;> rfl
              | _ => rfl
      | _ => rfl

theorem build_ren {σ : Nat → Nat} (hinj : ∀ a b, σ a = σ b → a = b) {res res' : Res}
    (h : Renumbered σ res res') : ∀ fuel,
    (∀ dep vis d, buildNode res' fuel dep (vis.map σ) (renKV σ d) = (buildNode res fuel dep vis d).map (renBuilt σ)) ∧
    (∀ dep vis ks, buildKids res' fuel dep (vis.map σ) (renList σ ks) = (buildKids res fuel dep vis ks).map (renBuiltList σ)) := by
  intro fuel
  induction fuel with
  | zero => exact ⟨fun _ _ _ => rfl, fun _ _ _ => rfl⟩
  | succ fuel ih =>
    refine ⟨fun dep vis d => ?_, fun dep vis ks => ?_⟩
    · rw [buildNode_succ, buildNode_succ, nodeKind_ren hinj h]
      cases nodeKind res dep vis d with
      | fail e => rfl
      | leaf => rfl
      | kids vis0 kids =>
        simp only [NodeKind.ren, ih.2]
        cases buildKids res fuel (dep + 1) vis0 kids <;> rfl
    · cases ks with
      | nil => rfl
      | cons k ks =>
        rw [renList, buildKids_cons, buildKids_cons, kidKind_ren hinj h]
        cases kidKind res vis k with
        | fail e => rfl
        | node n kd =>
          simp only [KidKind.ren, ← List.map_cons, ih.1]
          cases buildNode res fuel dep (n :: vis) kd with
          | error e => rfl
          | ok p =>
            simp only [Except.map, renBuilt, ih.2]
            cases buildKids res fuel dep p.2 ks <;> rfl

theorem pageTree_ren {σ : Nat → Nat} (hinj : ∀ a b, σ a = σ b → a = b) {res res' : Res}
    (h : Renumbered σ res res') (fuel r : Nat) :
    pageTree res' fuel (some (σ r)) = (pageTree res fuel (some r)).map (renTree σ) := by
  rw [pageTree_eq, pageTree_eq, pagesRoot_ren h]
  cases pagesRoot res (some r) with
  | error e => rfl
  | ok pd =>
    have := (build_ren hinj h fuel).1 0 [] pd
    rw [List.map_nil] at this
    simp only [Except.map, this]
    cases buildNode res fuel 0 [] pd <;> rfl

mutual
theorem leafDicts_ren (σ : Nat → Nat) (t : RTree) : leafDicts (renTree σ t) = (leafDicts t).map (renKV σ) := by
  cases t with
  | leaf d => simp [renTree, leafDicts]
  | node d kids => simp only [renTree, leafDicts]; exact leafDictsList_ren σ kids
theorem leafDictsList_ren (σ : Nat → Nat) (ts : List RTree) :
    leafDictsList (renTreeList σ ts) = (leafDictsList ts).map (renKV σ) := by
  cases ts with
  | nil => rfl
  | cons t ts => simp only [renTreeList, leafDictsList, List.map_append, leafDicts_ren σ t, leafDictsList_ren σ ts]
end

theorem attrsOf_ren (σ : Nat → Nat) (d : Dict) :
    attrsOf (renKV σ d) = (attrsOf d).mapRes (renObj σ) := by
  simp [attrsOf, PdfDoc.AttrsOf.mapRes, dget_ren]

mutual
theorem toPTree_ren (σ : Nat → Nat) (t : RTree) : toPTree (renTree σ t) = (toPTree t).mapRes (renObj σ) := by
  cases t with
  | leaf d => simp [renTree, toPTree, PdfDoc.PTreeOf.mapRes, attrsOf_ren]
  | node d kids =>
    simp only [renTree, toPTree, PdfDoc.PTreeOf.mapRes, attrsOf_ren]
    rw [toPTreeList_ren σ kids]
theorem toPTreeList_ren (σ : Nat → Nat) (ts : List RTree) :
    toPTreeList (renTreeList σ ts) = PdfDoc.mapResList (renObj σ) (toPTreeList ts) := by
  cases ts with
  | nil => rfl
  | cons t ts => simp only [renTreeList, toPTreeList, PdfDoc.mapResList, toPTree_ren σ t, toPTreeList_ren σ ts]
end

theorem pageSpecs_ren (σ : Nat → Nat) (t : RTree) :
    pageSpecs (renTree σ t) = (pageSpecs t).map fun p => (p.1.map (renObj σ), p.2.map (renObj σ)) := by
  unfold pageSpecs
  have hf : PdfDoc.flatten ((toPTree t).mapRes (renObj σ)) {} =
      (PdfDoc.flatten (toPTree t) {}).map (PdfDoc.AttrsOf.mapRes (renObj σ)) :=
    PdfDoc.flatten_mapRes (renObj σ) (toPTree t) {}
  rw [leafDicts_ren, toPTree_ren, hf]
  simp only [List.map_map, List.zip_map]
  apply List.map_congr_left
  intro p _
  simp [Prod.map, dget_ren, PdfDoc.AttrsOf.mapRes]

theorem resolveAll_ren {σ : Nat → Nat} {res res' : Res} (h : Renumbered σ res res') (xs : List Obj) :
    resolveAll res' (renList σ xs) = (resolveAll res xs).map (List.map (renSVal σ)) := by
  induction xs with
  | nil => rfl
  | cons x xs ih =>
    simp only [renList, resolveAll, resolve_ren h, ih]
    cases resolve res x with
    | error e => rfl
    | ok v =>
      simp only [Except.map]
      cases resolveAll res xs with
      | error e => rfl
      | ok vs => rfl

theorem decodedParts_ren (σ : Nat → Nat) (vs : List SVal) :
    decodedParts (vs.map (renSVal σ)) = decodedParts vs := by
  induction vs with
  | nil => rfl
  | cons v vs ih =>
    cases v with
    | obj o => simp only [List.map_cons, renSVal, decodedParts, ih]
    | stream d =>
      cases d with
      | none => rfl
      | some d => simp only [List.map_cons, renSVal, decodedParts, ih]

theorem contentBytes_ren {σ : Nat → Nat} {res res' : Res} (h : Renumbered σ res res') (c : Option Obj) :
    contentBytes res' (c.map (renObj σ)) = contentBytes res c := by
  cases c with
  | none => rfl
  | some c =>
    simp only [Option.map_some, contentBytes, resolve_ren h]
    cases resolve res c with
    | error e => rfl
    | ok v =>
      cases v with
      | stream d => rfl
      | obj o =>
        cases o with
        | arr xs =>
          simp only [Except.map, renSVal, renObj, resolveAll_ren h]
          cases resolveAll res xs with
          | error e => rfl
          | ok vs => simp only [decodedParts_ren]
        | _ => simp [Except.map, renSVal, renObj]

theorem isNum_ren (σ : Nat → Nat) (o : Obj) : isNum (renObj σ o) = isNum o := by
  cases o <;> rfl

theorem extractName_ren (σ : Nat → Nat) (x : Option Obj) : extractName (x.map (renObj σ)) = extractName x := by
  cases x with
  | none => rfl
  | some o => cases o <;> rfl

theorem all_ren (σ : Nat → Nat) (p : Obj → Bool) (hp : ∀ o, p (renObj σ o) = p o) (xs : List Obj) :
    (renList σ xs).all p = xs.all p := by
  rw [renList_eq_map, List.all_map]
  exact congrArg _ (funext hp)

theorem baseEncoding_ren (σ : Nat → Nat) (ed : Dict) (std : Str) :
    baseEncoding (renKV σ ed) std = baseEncoding ed std := by
  simp only [baseEncoding, dget_ren]
  cases dget ed kBaseEncoding with
  | none => rfl
  | some b => cases b <;> rfl

theorem type0Encoding_ren (σ : Nat → Nat) (fd : Dict) : type0Encoding (renKV σ fd) = type0Encoding fd := by
  simp only [type0Encoding, dget_ren]
  cases dget fd kEncoding with
  | none => rfl
  | some e => exact extractName_ren σ (some e)

theorem parseDiffsLoop_ren (σ : Nat → Nat) (xs : List Obj) (code : Int) (acc : FontDecode.Diffs) :
    parseDiffsLoop (renList σ xs) code acc = parseDiffsLoop xs code acc := by
  induction xs generalizing code acc with
  | nil => rfl
  | cons x xs ih =>
    cases x <;> simp only [renList, renObj, parseDiffsLoop, ih]

theorem simpleEncoding_ren {σ : Nat → Nat} {res res' : Res} (h : Renumbered σ res res') (fd : Dict)
    (std : Str) (strict : Bool) :
    simpleEncoding res' (renKV σ fd) std strict = simpleEncoding res fd std strict := by
  simp only [simpleEncoding, dget_ren]
  cases dget fd kEncoding with
  | none => rfl
  | some e =>
    simp only [Option.map_some, resolve_ren h]
    cases resolve res e with
    | error er => rfl
    | ok v =>
      cases v with
      | stream d => rfl
      | obj o =>
        cases o with
        | name n => rfl
        | dict ed =>
          simp only [Except.map, renSVal, renObj, dget_ren, baseEncoding_ren]
          cases dget ed kDifferences with
          | none => rfl
          | some dobj =>
            simp only [Option.map_some, resolve_ren h]
            cases resolve res dobj with
            | error er => rfl
            | ok dv =>
              cases dv with
              | stream d => rfl
              | obj dd =>
                cases dd with
                | arr xs =>
                  simp only [Except.map, renSVal, renObj, parseDifferences, parseDiffsLoop_ren]
                | _ => simp [Except.map, renSVal, renObj]
        | _ => simp [Except.map, renSVal, renObj]

theorem widthsOk_ren {σ : Nat → Nat} {res res' : Res} (h : Renumbered σ res res') (fd : Dict) :
    widthsOk res' (renKV σ fd) = widthsOk res fd := by
  simp only [widthsOk, dget_ren]
  cases dget fd kWidths with
  | none => rfl
  | some w =>
    simp only [Option.map_some, resolve_ren h]
    cases resolve res w with
    | error er => rfl
    | ok v =>
      cases v with
      | stream d => rfl
      | obj o =>
        cases o with
        | arr xs =>
          simp only [Except.map, renSVal, renObj]
          exact all_ren σ isNum (isNum_ren σ) xs
        | _ => simp [Except.map, renSVal, renObj]

theorem toUnicodeOf_ren {σ : Nat → Nat} {res res' : Res} (h : Renumbered σ res res') (fd : Dict) :
    toUnicodeOf res' (renKV σ fd) = toUnicodeOf res fd := by
  simp only [toUnicodeOf, dget_ren]
  cases dget fd kToUnicode with
  | none => rfl
  | some o =>
    cases o with
    | ref n g =>
      simp only [Option.map_some, renObj]
      have := resolve_ren h (.ref n g)
      simp only [renObj] at this
      rw [this]
      cases resolve res (.ref n g) with
      | error er => rfl
      | ok v =>
        cases v with
        | stream d => rfl
        | obj o => rfl
    | _ => rfl

theorem descendantOk_ren {σ : Nat → Nat} {res res' : Res} (h : Renumbered σ res res') (fd : Dict) :
    descendantOk res' (renKV σ fd) = descendantOk res fd := by
  simp only [descendantOk, dget_ren]
  cases dget fd kDescendantFonts with
  | none => rfl
  | some d =>
    simp only [Option.map_some, resolve_ren h]
    cases resolve res d with
    | error er => rfl
    | ok v =>
      cases v with
      | stream dd => rfl
      | obj o =>
        cases o with
        | arr xs =>
          cases xs with
          | nil => rfl
          | cons x xs =>
            simp only [Except.map, renSVal, renObj, renList, resolve_ren h]
            cases resolve res x with
            | error er => rfl
            | ok xv =>
              cases xv with
              | stream dd => rfl
              | obj xo =>
                cases xo with
                | dict cd =>
                  simp only [renObj, dget_ren, extractName_ren]
                  split
                  · cases dget cd kCIDSystemInfo with
                    | none => rfl
                    | some si =>
                      simp only [Option.map_some, resolve_ren h]
                      cases resolve res si with
                      | error er => rfl
                      | ok sv =>
                        cases sv with
                        | stream dd => rfl
                        | obj so => cases so <;> simp [Except.map, renSVal, renObj]
                  · rfl
                | _ => simp [renObj]
        | _ => simp [Except.map, renSVal, renObj]

theorem parseFont_ren {σ : Nat → Nat} {res res' : Res} (h : Renumbered σ res res') (o : Obj) :
    parseFont res' (renObj σ o) = parseFont res o := by
  simp only [parseFont, resolve_ren h]
  cases resolve res o with
  | error er => rfl
  | ok v =>
    cases v with
    | stream d => rfl
    | obj fo =>
      cases fo with
      | dict fd =>
        simp only [Except.map, renSVal, renObj, dget_ren]
        cases hS : dget fd kSubtype with
        | none => rfl
        | some st =>
          cases st with
          | name n =>
            simp only [Option.map_some, renObj, simpleEncoding_ren h, widthsOk_ren h,
              toUnicodeOf_ren h, descendantOk_ren h, type0Encoding_ren]
          | _ => simp [renObj]
      | _ => simp [Except.map, renSVal, renObj]

theorem registered_ren {σ : Nat → Nat} {res res' : Res} (h : Renumbered σ res res') (fonts : Dict) (name : Str) :
    registered res' (renKV σ fonts) name = registered res fonts name := by
  simp only [registered, dget_ren]
  cases dget fonts name with
  | some o => simp only [Option.map_some, parseFont_ren h]
  | none =>
    simp only [Option.map_none]
    cases name with
    | nil => rfl
    | cons c k =>
      split
      · next k' _ =>
        split
        · rfl
        · cases dget fonts k' with
          | none => rfl
          | some o => simp [parseFont_ren h]
      · rfl

theorem resourcesDict_ren {σ : Nat → Nat} {res res' : Res} (h : Renumbered σ res res') (r : Option Obj) :
    resourcesDict res' (r.map (renObj σ)) = (resourcesDict res r).map (renKV σ) := by
  cases r with
  | none => rfl
  | some r =>
    simp only [Option.map_some, resourcesDict, resolve_ren h]
    cases resolve res r with
    | error er => rfl
    | ok v =>
      cases v with
      | stream d => rfl
      | obj o => cases o <;> simp [Except.map, renSVal, renObj]

theorem fontsOf_ren {σ : Nat → Nat} {res res' : Res} (h : Renumbered σ res res') (rd : Option Dict) :
    fontsOf res' (rd.map (renKV σ)) = (fontsOf res rd).map (renKV σ) := by
  cases rd with
  | none => rfl
  | some rd =>
    simp only [Option.map_some, fontsOf, dget_ren]
    cases dget rd kFont with
    | none => rfl
    | some fo =>
      simp only [Option.map_some, resolve_ren h]
      cases resolve res fo with
      | error er => rfl
      | ok v =>
        cases v with
        | stream d => rfl
        | obj o => cases o <;> simp [Except.map, renSVal, renObj]

theorem decodeShown_ren {σ : Nat → Nat} {res res' : Res} (h : Renumbered σ res res') (ext : Ext)
    (fonts : Option Dict) (cur data : Str) :
    decodeShown res' ext (fonts.map (renKV σ)) cur data = decodeShown res ext fonts cur data := by
  unfold decodeShown
  have : ((fonts.map (renKV σ)).bind fun fd => registered res' fd cur) = fonts.bind fun fd => registered res fd cur := by
    cases fonts with
    | none => rfl
    | some fd => simp [registered_ren h]
  rw [this]

/-- the environment of a page on the renumbered store -/
def renEnv (σ : Nat → Nat) (res' : Res) (env : Env) : Env :=
  { res := res', ext := env.ext, rdict := env.rdict.map (renKV σ), fonts := env.fonts.map (renKV σ) }

theorem showOne_ren {σ : Nat → Nat} {res' : Res} {env : Env} (h : Renumbered σ env.res res') (st : IState) (data : Str) :
    showOne (renEnv σ res' env) st data = showOne env st data := by
  simp only [showOne, renEnv, decodeShown_ren h]

theorem showArray_ren {σ : Nat → Nat} {res' : Res} {env : Env} (h : Renumbered σ env.res res') (xs : List Obj) :
    ∀ st, showArray (renEnv σ res' env) st xs = showArray env st xs := by
  induction xs with
  | nil => intro st; rfl
  | cons x xs ih =>
    intro st
    cases x with
    | str s =>
      simp only [showArray, showOne_ren h]
      cases showOne env st s with
      | error e => rfl
      | ok st' => exact ih st'
    | _ => simp only [showArray]; exact ih st

theorem step_ren {σ : Nat → Nat} {res' : Res} {env : Env} (h : Renumbered σ env.res res') (st : IState)
    (op : Pdf.CS.Operation) : step (renEnv σ res' env) st op = step env st op := by
  simp only [step, showOne_ren h, showArray_ren h]
  have : (renEnv σ res' env).rdict = env.rdict.map (renKV σ) := rfl
  rw [this]
  cases env.rdict with
  | none => rfl
  | some rd => simp only [Option.map_some, dget_ren, Option.isSome_map]

theorem run_ren {σ : Nat → Nat} {res' : Res} {env : Env} (h : Renumbered σ env.res res') (ops : List Pdf.CS.Operation) :
    ∀ st, run (renEnv σ res' env) st ops = run env st ops := by
  intro st
  rw [run_eq_foldlM, run_eq_foldlM]
  exact congrArg (List.foldlM · st ops) (funext fun st => funext fun op => step_ren h st op)

theorem showStrings_ren {σ : Nat → Nat} {res res' : Res} (h : Renumbered σ res res') (ext : Ext)
    (r : Option Obj) (content : Str) :
    showStrings res' ext (r.map (renObj σ)) content = showStrings res ext r content := by
  unfold showStrings
  cases Pdf.CS.csParse content with
  | none => rfl
  | some ops =>
    simp only [resourcesDict_ren h, fontsOf_ren h]
    have := run_ren (env := { res := res, ext := ext, rdict := resourcesDict res r, fonts := fontsOf res (resourcesDict res r) }) h ops {}
    simp only [renEnv] at this
    rw [this]

theorem pageStrings_ren {σ : Nat → Nat} {res res' : Res} (h : Renumbered σ res res') (ext : Ext)
    (c r : Option Obj) :
    pageStrings res' ext (c.map (renObj σ)) (r.map (renObj σ)) = pageStrings res ext c r := by
  unfold pageStrings
  rw [contentBytes_ren h]
  cases contentBytes res c with
  | error e => rfl
  | ok oc =>
    cases oc with
    | none => rfl
    | some content => simp only [showStrings_ren h]

theorem pagesOfSpecs_ren {σ : Nat → Nat} {res res' : Res} (h : Renumbered σ res res') (ext : Ext)
    (specs : List (Option Obj × Option Obj)) :
    pagesOfSpecs res' ext (specs.map fun p => (p.1.map (renObj σ), p.2.map (renObj σ))) = pagesOfSpecs res ext specs := by
  rw [pagesOfSpecs_eq_mapM, pagesOfSpecs_eq_mapM, List.mapM_map]
  exact congrArg (List.mapM · specs) (funext fun p => pageStrings_ren h ext p.1 p.2)

/-- everything above the object layer commutes with renumbering -/
theorem readWith_ren {σ : Nat → Nat} (hinj : ∀ a b, σ a = σ b → a = b) {res res' : Res}
    (h : Renumbered σ res res') (ext : Ext) (fuel r : Nat) :
    readWith res' ext fuel (some (σ r)) = readWith res ext fuel (some r) := by
  unfold readWith
  rw [pageTree_ren hinj h]
  cases pageTree res fuel (some r) with
  | error e => rfl
  | ok t => simp only [Except.map, pagesOfTree, pageSpecs_ren, pagesOfSpecs_ren h]

/-- … and so does the reader on two files, whatever the sizes of their cross-reference tables -/
theorem readPages_ren {σ : Nat → Nat} (hinj : ∀ a b, σ a = σ b → a = b) {f f' : AbsFile} {ext : Ext}
    (h : Renumbered σ (getObject f ext) (getObject f' ext))
    (hroot : rootOf f' = (rootOf f).map σ) (hd : prevDangling f' = prevDangling f) :
    readPages f' ext = readPages f ext := by
  rw [readPages, readPages, hd, hroot]
  split
  · rfl
  · cases rootOf f with
    | none => rfl
    | some r =>
      -- the bound of `f` is enough for `f'` too: under it `f'` answers what `f` answers
      have hne := readWith_fuelOf f ext (some r)
      rw [Option.map_some, ← readWith_ren hinj h ext (fuelOf f) r] at *
      exact readWith_fuel_irrelevant _ ext _ _ _ (readWith_fuelOf f' ext _) hne

end Tabula.Reader
