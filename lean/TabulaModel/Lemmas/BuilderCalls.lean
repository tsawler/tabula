import TabulaModel.Model.Builder
/-!
Lemmas about extractor VALUES (no store): `clone`, the configuration methods, chains of them.

The options are a monoid (`Options.add`: page lists appended, flags or-ed) and a configuration
method adds a fixed element of it, `callOpts c`, to the options of the clone (`applyCall_eq`,
`derive_eq`); so a chain adds `chainOpts cs` (`chainFrom_static`), whose fields are written out
in `chainOpts_eq`.  Everything else about what calls and chains configure is a projection of
these.  `Ext.static` is the configuration of a record, the part no operation of the store changes.
-/
namespace Tabula.Builder
open Tabula.PageSel

theorem clone_opts (e : Ext) : e.clone.opts = e.opts := by
  unfold Ext.clone Options.clone; split <;> rfl

theorem clone_err (e : Ext) : e.clone.err = e.err := by
  unfold Ext.clone; split <;> rfl

theorem clone_hasFile (e : Ext) : e.clone.hasFile = e.hasFile := by
  unfold Ext.clone; split <;> rfl

theorem clone_format (e : Ext) : e.clone.format = e.format := by
  unfold Ext.clone; split <;> rfl

theorem mem_rangeList (s t p : Int) : p ∈ rangeList s t ↔ s ≤ p ∧ p ≤ t := by
  unfold rangeList
  simp only [List.mem_map, List.mem_range]
  constructor
  · rintro ⟨i, hi, rfl⟩
    omega
  · rintro ⟨h1, h2⟩
    exact ⟨(p - s).toNat, by omega, by omega⟩

theorem selOf_cons (c : BCall) (cs : List BCall) : selOf (c :: cs) = selOf [c] ++ selOf cs := by
  cases c <;> simp [selOf]

/-- the page numbers of a chain are those of its calls, one after the other -/
theorem selOf_eq_flatMap (cs : List BCall) : selOf cs = cs.flatMap fun c => selOf [c] := by
  induction cs with
  | nil => rfl
  | cons c cs ih => rw [selOf_cons, ih, List.flatMap_cons]

theorem mem_selOf_one (c : BCall) (p : Int) :
    p ∈ selOf [c] ↔ (∃ ps, c = .pages ps ∧ p ∈ ps) ∨ (∃ s t, c = .pageRange s t ∧ s ≤ p ∧ p ≤ t) := by
  cases c with
  | pages ps => simp [selOf]
  | pageRange s t =>
    simp only [selOf, List.append_nil, reduceCtorEq, false_and, exists_false, false_or,
      BCall.pageRange.injEq]
    by_cases hst : s > t
    · simp only [hst, if_true, List.not_mem_nil, false_iff]
      rintro ⟨_, _, ⟨rfl, rfl⟩, _, _⟩
      omega
    · simp only [hst, if_false, mem_rangeList]
      exact ⟨fun h => ⟨s, t, ⟨rfl, rfl⟩, h⟩, fun ⟨_, _, ⟨rfl, rfl⟩, h⟩ => h⟩
  | _ =>
    refine ⟨fun h => absurd h List.not_mem_nil, ?_⟩
    rintro (⟨_, hc, _⟩ | ⟨_, _, hc, _⟩) <;> cases hc

theorem badRange_cons (c : BCall) (cs : List BCall) :
    badRange (c :: cs) = (badRange [c] || badRange cs) := by
  cases c <;> simp [badRange]

/-! ### a call adds to the options -/

/-- what one configuration method contributes: the page numbers it appends, the flags it sets -/
def callOpts : BCall → Options
  | .pages ps => { pages := ps }
  | .pageRange s t => { pages := if s > t then [] else rangeList s t }
  | .excludeHeaders => { excludeHeaders := true }
  | .excludeFooters => { excludeFooters := true }
  | .excludeHeadersAndFooters => { excludeHeaders := true, excludeFooters := true }
  | .joinParagraphs => { joinParagraphs := true }
  | .byColumn => { byColumn := true }
  | .preserveLayout => { preserveLayout := true }

/-- options accumulate: page lists are appended, flags are or-ed -/
def Options.add (o d : Options) : Options :=
  { pages := o.pages ++ d.pages
    excludeHeaders := o.excludeHeaders || d.excludeHeaders
    excludeFooters := o.excludeFooters || d.excludeFooters
    byColumn := o.byColumn || d.byColumn
    preserveLayout := o.preserveLayout || d.preserveLayout
    joinParagraphs := o.joinParagraphs || d.joinParagraphs }

theorem Options.add_assoc (a b c : Options) : (a.add b).add c = a.add (b.add c) := by
  simp only [Options.add, List.append_assoc, Bool.or_assoc]

theorem Options.add_default (a : Options) : a.add {} = a := by
  simp only [Options.add, List.append_nil, Bool.or_false]

theorem applyCall_eq (c : BCall) (e : Ext) :
    applyCall c e = { e with opts := e.opts.add (callOpts c), err := e.err || badRange [c] } := by
  obtain ⟨⟨_, _, _, _, _, _⟩, _, _, _, _, _, _⟩ := e
  cases c with
  | pageRange s t => by_cases h : s > t <;> simp [applyCall, callOpts, Options.add, badRange, h]
  | _ => simp [applyCall, callOpts, Options.add, badRange]

theorem applyCall_format (c : BCall) (e : Ext) : (applyCall c e).format = e.format := by
  rw [applyCall_eq]

/-- a configuration method: the clone, with the call's contribution added; the reader, the
life-cycle flags, format and file name of the result are those of the clone -/
theorem derive_eq (e : Ext) (c : BCall) :
    e.derive c = { e.clone with opts := e.opts.add (callOpts c), err := e.err || badRange [c] } := by
  rw [Ext.derive, applyCall_eq, clone_opts, clone_err]

/-- life-cycle fields of a derived extractor: shared only when the parent has
an open reader it does not own from a file -/
theorem derive_life (e : Ext) (c : BCall) :
    (e.opened = true ∧ (e.owns && e.hasFile) = false ∧
      (e.derive c).reader = e.reader ∧ (e.derive c).owns = e.owns ∧ (e.derive c).opened = true) ∨
    ((e.derive c).reader = none ∧ (e.derive c).owns = false ∧ (e.derive c).opened = false) := by
  rw [derive_eq]
  unfold Ext.clone
  by_cases h : (e.opened && !(e.owns && e.hasFile)) = true
  · left
    rw [if_pos h]
    have h' := h
    simp only [Bool.and_eq_true, Bool.not_eq_true'] at h'
    exact ⟨h'.1, h'.2, rfl, rfl, h'.1⟩
  · right
    rw [if_neg h]
    exact ⟨rfl, rfl, rfl⟩

/-! ### the configuration of a record -/

/-- the configuration of an extractor: options, builder error, format, file name present -/
def Ext.static (e : Ext) : Options × Bool × Fmt × Bool := (e.opts, e.err, e.format, e.hasFile)

/-- the record with the configuration of `e` and no reader -/
def Ext.cfg (e : Ext) : Ext := { opts := e.opts, err := e.err, format := e.format, hasFile := e.hasFile }

theorem cfg_of_static {e e' : Ext} (h : e.static = e'.static) : e.cfg = e'.cfg := by
  simp only [Ext.static, Prod.mk.injEq] at h
  unfold Ext.cfg
  rw [h.1, h.2.1, h.2.2.1, h.2.2.2]

/-- A function that reads the configuration only (`hf` is `rfl` for the frames, bodies and static
answers of the model) agrees on records with the same configuration. -/
theorem static_congr {α : Sort _} (f : Ext → α) (hf : ∀ e, f e = f e.cfg) {e e' : Ext}
    (h : e.static = e'.static) : f e = f e' := by
  rw [hf e, hf e', cfg_of_static h]

theorem derive_static (e : Ext) (c : BCall) :
    (e.derive c).static = (e.opts.add (callOpts c), e.err || badRange [c], e.format, e.hasFile) := by
  rw [derive_eq, Ext.static, clone_format, clone_hasFile]

theorem derive_static_congr (e e' : Ext) (c : BCall) (h : e.static = e'.static) :
    (e.derive c).static = (e'.derive c).static := by
  rw [derive_static, derive_static]
  simp only [Ext.static, Prod.mk.injEq] at h
  rw [h.1, h.2.1, h.2.2.1, h.2.2.2]

/-! ### chains -/

theorem chainFrom_snoc (e0 : Ext) (cs : List BCall) (c : BCall) :
    chainFrom e0 (cs ++ [c]) = (chainFrom e0 cs).derive c := by
  simp [chainFrom, List.foldl_append]

/-- what a chain of calls contributes to the options -/
def chainOpts (cs : List BCall) : Options := cs.foldr (fun c o => (callOpts c).add o) {}

theorem chainOpts_cons (c : BCall) (cs : List BCall) :
    chainOpts (c :: cs) = (callOpts c).add (chainOpts cs) := rfl

/-- the configuration of `base.c₁…cₙ`: the base's options with the contribution of the chain added,
an error value iff the base was one or some range was inverted, format and file name of the base -/
theorem chainFrom_static (cs : List BCall) : ∀ e0 : Ext,
    (chainFrom e0 cs).static =
      (e0.opts.add (chainOpts cs), e0.err || badRange cs, e0.format, e0.hasFile) := by
  induction cs with
  | nil => intro e0; simp only [chainFrom, List.foldl_nil, chainOpts, List.foldr_nil, Options.add_default,
      badRange, Bool.or_false, Ext.static]
  | cons c cs ih =>
    intro e0
    have hd := derive_static e0 c
    simp only [Ext.static, Prod.mk.injEq] at hd
    have hc : chainFrom e0 (c :: cs) = chainFrom (e0.derive c) cs := rfl
    rw [hc, ih, hd.1, hd.2.1, hd.2.2.1, hd.2.2.2, chainOpts_cons, Options.add_assoc, badRange_cons c cs,
      Bool.or_assoc]

/-- the contribution of a chain, field by field: the page arguments of the calls in call order, and
each flag set iff some call of the chain sets it -/
theorem chainOpts_eq (cs : List BCall) :
    chainOpts cs =
      { pages := selOf cs
        excludeHeaders := cs.any fun c => (callOpts c).excludeHeaders
        excludeFooters := cs.any fun c => (callOpts c).excludeFooters
        byColumn := cs.any fun c => (callOpts c).byColumn
        preserveLayout := cs.any fun c => (callOpts c).preserveLayout
        joinParagraphs := cs.any fun c => (callOpts c).joinParagraphs } := by
  induction cs with
  | nil => rfl
  | cons c cs ih =>
    have hp : (callOpts c).pages = selOf [c] := by cases c <;> simp [callOpts, selOf]
    rw [chainOpts_cons, ih, selOf_cons c cs, ← hp]
    simp only [Options.add, List.any_cons]

/-- what a chain of calls configures: the base's page list followed by the page arguments of the
calls in call order, an error value iff the base was one or some range was inverted, format and
file name of the base -/
theorem chainFrom_cfg (cs : List BCall) (e0 : Ext) :
    (chainFrom e0 cs).opts.pages = e0.opts.pages ++ selOf cs ∧
    (chainFrom e0 cs).err = (e0.err || badRange cs) ∧
    (chainFrom e0 cs).format = e0.format ∧ (chainFrom e0 cs).hasFile = e0.hasFile := by
  have h := chainFrom_static cs e0
  simp only [Ext.static, Prod.mk.injEq] at h
  rw [h.1, chainOpts_eq]
  exact ⟨rfl, h.2⟩

end Tabula.Builder
