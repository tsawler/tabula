import TabulaModel.Model.ChunkApi
import TabulaModel.Lemmas.ChunkLayoutSections
/-!
Helper lemmas for property C12: `updateSectionPath` over a history of headings (with consecutive
levels it is `pushSection`; for every history its path is a sub-sequence of the chain of enclosing
headings), and the page numbers `Document.AddPage` assigns.
-/
namespace Tabula.ChunkApi
open Tabula.Chunk Tabula.ChunkLayout

/-- the open headings are one level apart, the innermost at level `c` -/
def Consec : Int → List H → Prop
  | _, [] => True
  | c, (l, _) :: rest => l = c ∧ Consec (c - 1) rest

theorem assumed_of_consec (st : List H) (c : Int) (h : Consec c st) : assumedStack (st.map (·.2)) c = st := by
  induction st generalizing c with
  | nil => rfl
  | cons x xs ih =>
    obtain ⟨l, t⟩ := x
    obtain ⟨e, hr⟩ := h
    subst e
    simp only [List.map_cons, assumedStack, ih _ hr]

theorem consec_dropWhile (st : List H) (c l : Int) (h : Consec c st) (hl : l ≤ c + 1) :
    Consec (l - 1) (st.dropWhile fun e => decide (l ≤ e.1)) := by
  induction st generalizing c with
  | nil => trivial
  | cons x xs ih =>
    obtain ⟨l', t⟩ := x
    obtain ⟨e, hr⟩ := h
    subst e
    rw [List.dropWhile_cons]
    by_cases hle : l ≤ l'
    · simp only [hle, decide_true, if_true]
      exact ih (l' - 1) hr (by omega)
    · simp only [hle, decide_false, Bool.false_eq_true, if_false]
      have : l - 1 = l' := by omega
      rw [this]
      exact ⟨rfl, hr⟩

/-- no heading is more than one level deeper than the heading before it -/
def NoSkip : Option Int → List (Int × Str) → Prop
  | _, [] => True
  | none, (l, _) :: hs => NoSkip (some l) hs
  | some c, (l, _) :: hs => l ≤ c + 1 ∧ NoSkip (some l) hs

/-- the history as the specification reads it (`pushSection` trims the heading text) -/
def trimmed (hs : List (Int × Str)) : List H := hs.map fun h => (h.1, trim h.2)

/-- on open headings one level apart, `updateSectionPath` does what `pushSection` does -/
theorem updateSectionPath_consec (st : List H) (cur lvl : Int) (text : Str) (h : Consec cur st) :
    updateSectionPath (st.reverse.map (·.2)) cur lvl text = ((pushSection st lvl text).reverse.map (·.2), lvl) := by
  unfold updateSectionPath
  have : (st.reverse.map (·.2)).reverse = st.map (·.2) := by
    rw [← List.map_reverse, List.reverse_reverse]
  rw [this, assumed_of_consec st cur h]

theorem runUpdate_spec (st hist : List H) (cur : Int) (hs : List (Int × Str))
    (hrel : StackRel st hist) (hcon : Consec cur st)
    (hns : NoSkip (if st = [] then none else some cur) hs) :
    (runUpdate (st.reverse.map (·.2)) cur hs).1 = (openSpec (hist ++ trimmed hs)).map (·.2) := by
  induction hs generalizing st hist cur with
  | nil =>
    unfold StackRel at hrel
    simp [runUpdate, trimmed, ← hrel]
  | cons x xs ih =>
    obtain ⟨l, t⟩ := x
    have hstep := updateSectionPath_consec st cur l t hcon
    have hrel' : StackRel (pushSection st l t) (hist ++ [(l, trim t)]) := stack_sim.push st hist l t hrel
    have hcon' : Consec l (pushSection st l t) := by
      unfold pushSection
      refine ⟨rfl, ?_⟩
      by_cases he : st = []
      · subst he; trivial
      · rw [if_neg he] at hns
        exact consec_dropWhile st cur l hcon hns.1
    have hns' : NoSkip (if pushSection st l t = [] then none else some l) xs := by
      have hne : pushSection st l t ≠ [] := by unfold pushSection; simp
      rw [if_neg hne]
      by_cases he : st = []
      · rw [if_pos he] at hns; exact hns
      · rw [if_neg he] at hns; exact hns.2
    have := ih (pushSection st l t) (hist ++ [(l, trim t)]) l hrel' hcon' hns'
    simp only [runUpdate, hstep]
    rw [this]
    simp [trimmed, List.append_assoc]

theorem addPages_unset (nums : List Int) (k : Nat) :
    addPages nums (List.replicate k 0) = nums ++ (List.range' (nums.length + 1) k).map Int.ofNat := by
  induction k generalizing nums with
  | zero => simp [addPages]
  | succ k ih =>
    simp only [List.replicate_succ, addPages, addPage, BEq.rfl, if_true]
    rw [ih]
    simp only [List.length_append, List.length_cons, List.length_nil, List.range'_succ, List.map_cons,
      List.append_assoc, List.cons_append, List.nil_append]
    rfl

theorem addPages_preset (nums ns : List Int) (h : ∀ n ∈ ns, n ≠ 0) : addPages nums ns = nums ++ ns := by
  induction ns generalizing nums with
  | nil => simp [addPages]
  | cons n ns ih =>
    have hn : (n == 0) = false := by simpa using h n (List.mem_cons_self ..)
    simp only [addPages, addPage, hn, Bool.false_eq_true, if_false]
    rw [ih _ (fun m hm => h m (List.mem_cons_of_mem _ hm))]
    simp

theorem ascFrom_of_range (d : LDoc) (b : Int) (s : Nat) (hb : b ≤ s) (hs : 1 ≤ s)
    (h : d.map (·.number) = (List.range' s d.length).map Int.ofNat) : AscFrom b d := by
  induction d generalizing b s with
  | nil => trivial
  | cons pg pgs ih =>
    simp only [List.map_cons, List.length_cons, List.range'_succ, List.cons.injEq] at h
    obtain ⟨h1, h2⟩ := h
    have h1' : pg.number = (s : Int) := h1
    refine ⟨by omega, by omega, ?_⟩
    exact ih pg.number (s + 1) (by omega) (by omega) h2

theorem assumed_map (l : List Str) (c : Int) : (assumedStack l c).map (·.2) = l := by
  induction l generalizing c with
  | nil => rfl
  | cons t r ih => simp only [assumedStack, List.map_cons, ih]

/-- what the `dropWhile` of `pushSection` does on the assumed levels: it drops `cur - lvl + 1`
entries (none when that is negative) -/
theorem assumed_dropWhile (l : List Str) (cur lvl : Int) :
    (assumedStack l cur).dropWhile (fun e => decide (lvl ≤ e.1)) =
      assumedStack (l.drop (cur - lvl + 1).toNat) (cur - ((cur - lvl + 1).toNat : Int)) := by
  induction l generalizing cur with
  | nil => simp [assumedStack]
  | cons t r ih =>
    simp only [assumedStack, List.dropWhile_cons]
    by_cases h : lvl ≤ cur
    · have hk : (cur - lvl + 1).toNat = (cur - 1 - lvl + 1).toNat + 1 := by omega
      simp only [h, decide_true, if_true]
      rw [ih (cur - 1), hk, List.drop_succ_cons]
      congr 1
      omega
    · have hk : (cur - lvl + 1).toNat = 0 := by omega
      simp only [h, decide_false, hk, List.drop_zero, assumedStack]
      simp

theorem update_formula (path : List Str) (cur lvl : Int) (text : Str) :
    updateSectionPath path cur lvl text =
      ((path.reverse.drop (cur - lvl + 1).toNat).reverse ++ [trim text], lvl) := by
  unfold updateSectionPath pushSection
  rw [assumed_dropWhile]
  simp only [List.reverse_cons, List.map_append, List.map_cons, List.map_nil, List.map_reverse,
    assumed_map]

/-- the assumed levels (`c`, `c - 1`, …, innermost first) are at least the true ones -/
def Dom : Int → List H → Prop
  | _, [] => True
  | c, x :: rest => x.1 ≤ c ∧ Dom (c - 1) rest

theorem dom_mono (st : List H) (c c' : Int) (h : c ≤ c') (hd : Dom c st) : Dom c' st := by
  induction st generalizing c c' with
  | nil => trivial
  | cons x r ih => exact ⟨Int.le_trans hd.1 h, ih (c - 1) (c' - 1) (by omega) hd.2⟩

theorem dom_all (st : List H) (c : Int) (hd : Dom c st) : ∀ x ∈ st, x.1 ≤ c := by
  induction st generalizing c with
  | nil => intro x hx; cases hx
  | cons y r ih =>
    intro x hx
    rcases List.mem_cons.mp hx with rfl | hx
    · exact hd.1
    · have := ih (c - 1) hd.2 x hx; omega

theorem dom_drop (st : List H) (c : Int) (k : Nat) (hd : Dom c st) : Dom (c - k) (st.drop k) := by
  induction k generalizing st c with
  | zero => simpa using hd
  | succ k ih =>
    cases st with
    | nil => trivial
    | cons x r =>
      rw [List.drop_succ_cons]
      have := ih r (c - 1) hd.2
      have e : c - 1 - (k : Int) = c - ((k + 1 : Nat) : Int) := by omega
      rwa [e] at this

/-- the invariant of a history of `updateSectionPath` calls, for EVERY history: the path is a
sub-sequence of the chain of enclosing headings -/
theorem runUpdate_sublist (st hist : List H) (cur : Int) (hs : List (Int × Str)) (path : List Str)
    (hpath : path = (st.map (·.2)).reverse) (hd : Dom cur st)
    (hsub : st.reverse.Sublist (openSpec hist)) :
    ((runUpdate path cur hs).1).Sublist ((openSpec (hist ++ trimmed hs)).map (·.2)) := by
  induction hs generalizing st hist cur path with
  | nil =>
    simp only [runUpdate, trimmed, List.map_nil, List.append_nil]
    rw [hpath, ← List.map_reverse]
    exact hsub.map _
  | cons h hs ih =>
    obtain ⟨l, t⟩ := h
    simp only [runUpdate]
    rw [update_formula]
    have hh : hist ++ trimmed ((l, t) :: hs) = (hist ++ [(l, trim t)]) ++ trimmed hs := by
      simp [trimmed]
    rw [hh]
    let k := (cur - l + 1).toNat
    have hdk : Dom (l - 1) (st.drop k) := by
      have := dom_drop st cur k hd
      exact dom_mono _ _ _ (by omega) this
    apply ih ((l, trim t) :: st.drop k) (hist ++ [(l, trim t)]) l
    · rw [hpath, List.reverse_reverse, List.map_cons, List.reverse_cons, List.map_drop]
    · exact ⟨Int.le_refl _, hdk⟩
    · rw [List.reverse_cons, openSpec_snoc]
      apply List.Sublist.append _ (List.Sublist.refl _)
      have hall : ∀ x ∈ (st.drop k).reverse, decide (x.1 < l) = true := by
        intro x hx
        have := dom_all _ _ hdk x (List.mem_reverse.mp hx)
        exact decide_eq_true (by omega)
      rw [← List.filter_eq_self.mpr hall]
      exact (((List.drop_sublist k st).reverse).trans hsub).filter _

end Tabula.ChunkApi
