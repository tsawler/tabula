import TabulaModel.Lemmas.WorkbookMd
/-!
The Markdown of several sheets read back sheet by sheet (C17): the text is the sheets' lines with
two blank lines between sheets; a reader that cuts it at the heading lines finds each table.
-/
namespace Tabula.Wb
open Tabula.A1 Tabula.Sheet

/-- the lines of the Markdown table of a sheet ([] for a sheet without content) -/
def tableLines (s : Sheet) : List Str :=
  if (sheetToTable s).headers.isEmpty then []
  else ptLines (sheetToTable s)

/-- the lines of one sheet's block: heading, blank line, table lines -/
def sheetLines (lvl : Nat) (s : Sheet) : List Str := [headingLine lvl s.name, []] ++ tableLines s

theorem headers_isEmpty_iff (s : Sheet) (hrect : Rect (s.maxCol + 1) s.rows) :
    (sheetToTable s).headers.isEmpty = (findContentBounds s).isEmpty := by
  cases hne : (findContentBounds s).isEmpty with
  | true => simp [sheetToTable, hne]
  | false =>
    obtain ⟨hrow, hcols⟩ := box_guards s hrect hne
    simp only [sheetToTable, hne, hrow, if_true, Bool.false_eq_true, if_false, List.isEmpty_map, hcols]

theorem sheetMd_lines (lvl : Nat) (s : Sheet) (hrect : Rect (s.maxCol + 1) s.rows) :
    sheetMd lvl s = (sheetLines lvl s).flatMap nl := by
  unfold sheetMd sheetHeading sheetLines tableLines
  rw [sheetTableMd_eq s hrect]
  cases hh : (sheetToTable s).headers.isEmpty with
  | true =>
    have : (sheetToTable s).toMarkdown = [] := by
      have hne : (findContentBounds s).isEmpty = true := by rw [← headers_isEmpty_iff s hrect]; exact hh
      simp [sheetToTable, hne, PTable.toMarkdown]
    rw [this]
    simp [nl, headingLine]
  | false =>
    rw [toMarkdown_lines _ hh]
    simp [nl, headingLine]

/-- the sheets' line lists with two blank lines between consecutive sheets -/
def joinSheets : List (List Str) → List Str
  | [] => []
  | [L] => L
  | L :: rest => L ++ [[], []] ++ joinSheets rest

theorem intercalate_sheets (Ls : List (List Str)) :
    intercalate [10, 10] (Ls.map fun L => L.flatMap nl) = (joinSheets Ls).flatMap nl := by
  induction Ls with
  | nil => rfl
  | cons L rest ih =>
    cases rest with
    | nil => rfl
    | cons L' rest' =>
      have e : intercalate [10, 10] ((L :: L' :: rest').map fun L => L.flatMap nl) =
          L.flatMap nl ++ [10, 10] ++ intercalate [10, 10] ((L' :: rest').map fun L => L.flatMap nl) := by
        simp [intercalate]
      rw [e, ih]
      simp [joinSheets, List.flatMap_append, nl]

def isHeading (l : Str) : Bool := l.head? == some 35

/-- the lines after the `(k+1)`-th heading line -/
def dropHeadings : Nat → List Str → List Str
  | _, [] => []
  | k, l :: ls =>
    if isHeading l then (match k with | 0 => ls | k + 1 => dropHeadings k ls)
    else dropHeadings k ls

/-- the lines of section `k`: after its heading, up to the next heading -/
def sectionLines (k : Nat) (lines : List Str) : List Str :=
  (dropHeadings k lines).takeWhile fun l => !isHeading l

/-- **reader of the Markdown of a workbook**: the table under the `(k+1)`-th heading -/
def mdReadSheet (k : Nat) (md : Str) : List (List Str) :=
  dropSecond ((sectionLines k (splitOn 10 md)).filterMap mdParseLine)

theorem isHeading_headingLine (lvl : Nat) (name : Str) (hl : 1 ≤ lvl) : isHeading (headingLine lvl name) = true := by
  obtain ⟨k, rfl⟩ : ∃ k, lvl = k + 1 := ⟨lvl - 1, by omega⟩
  simp [isHeading, headingLine, List.replicate_succ]

theorem tableLines_not_heading (s : Sheet) : ∀ l ∈ tableLines s, isHeading l = false := by
  intro l hl
  unfold tableLines at hl
  split at hl
  · cases hl
  · simp only [ptLines, List.mem_cons, List.mem_map] at hl
    rcases hl with rfl | rfl | ⟨r, _, rfl⟩ <;> simp [isHeading, rowLine, sepLine]

theorem dropHeadings_not_heading (k : Nat) (pre rest : List Str) (h : ∀ l ∈ pre, isHeading l = false) :
    dropHeadings k (pre ++ rest) = dropHeadings k rest := by
  induction pre with
  | nil => rfl
  | cons p ps ih =>
    simp only [List.cons_append, dropHeadings, h p (by simp), Bool.false_eq_true, if_false]
    exact ih (fun l hl => h l (by simp [hl]))

theorem takeWhile_not_heading (pre rest : List Str) (h : ∀ l ∈ pre, isHeading l = false) :
    (pre ++ rest).takeWhile (fun l => !isHeading l) = pre ++ rest.takeWhile (fun l => !isHeading l) :=
  List.takeWhile_append_of_pos fun l hl => by rw [h l hl]; rfl

/-- the sections of a heading, lines that are no headings, then more lines: section 0 is those
lines and what follows up to the next heading; a later section is read in what follows -/
theorem sectionLines_heading (k : Nat) (h : Str) (body rest : List Str) (hh : isHeading h = true)
    (hb : ∀ l ∈ body, isHeading l = false) :
    sectionLines k (h :: (body ++ rest)) =
      match k with
      | 0 => body ++ rest.takeWhile (fun l => !isHeading l)
      | k + 1 => sectionLines k rest := by
  unfold sectionLines
  cases k with
  | zero => simp only [dropHeadings, hh, if_true]; exact takeWhile_not_heading body rest hb
  | succ k => simp only [dropHeadings, hh, if_true]; rw [dropHeadings_not_heading k body rest hb]

theorem joinSheets_head (lvl : Nat) (s1 : Sheet) (rest : List Sheet) :
    ∃ xs, joinSheets ((s1 :: rest).map (sheetLines lvl)) = headingLine lvl s1.name :: xs := by
  cases rest with
  | nil => exact ⟨_, rfl⟩
  | cons s2 rest' => exact ⟨_, rfl⟩

theorem joinSheets_mem (Ls : List (List Str)) (l : Str) (h : l ∈ joinSheets Ls) : l = [] ∨ ∃ L ∈ Ls, l ∈ L := by
  induction Ls with
  | nil => cases h
  | cons L rest ih =>
    cases rest with
    | nil => exact Or.inr ⟨L, by simp, by simpa [joinSheets] using h⟩
    | cons L' rest' =>
      have h' : l ∈ L ∨ l = [] ∨ l = [] ∨ l ∈ joinSheets (L' :: rest') := by
        simpa [joinSheets] using h
      rcases h' with h | h | h | h
      · exact Or.inr ⟨L, by simp, h⟩
      · exact Or.inl h
      · exact Or.inl h
      · rcases ih h with h' | ⟨M, hM, h'⟩
        · exact Or.inl h'
        · exact Or.inr ⟨M, by simp [hM], h'⟩

theorem tableLines_clean (s : Sheet) : ∀ l ∈ tableLines s, 10 ∉ l := by
  intro l hl
  unfold tableLines at hl
  split at hl
  · cases hl
  · exact ptLines_clean _ l hl

theorem headingLine_clean (lvl : Nat) (name : Str) (h : 10 ∉ name) : 10 ∉ headingLine lvl name := by
  unfold headingLine
  intro h'
  simp only [List.mem_append, List.mem_replicate, List.mem_singleton] at h'
  rcases h' with (⟨_, h'⟩ | h') | h'
  · cases h'
  · cases h'
  · exact h h'

theorem joinSheets_clean (lvl : Nat) (ss : List Sheet) (hnames : ∀ s ∈ ss, 10 ∉ s.name) :
    ∀ l ∈ joinSheets (ss.map (sheetLines lvl)), 10 ∉ l := by
  intro l hl
  rcases joinSheets_mem _ l hl with rfl | ⟨L, hL, hl'⟩
  · simp
  · obtain ⟨t, ht, rfl⟩ := List.mem_map.mp hL
    simp only [sheetLines, List.cons_append, List.nil_append, List.mem_cons] at hl'
    rcases hl' with rfl | rfl | hl'
    · exact headingLine_clean lvl t.name (hnames t ht)
    · simp
    · exact tableLines_clean t l hl'

theorem tableLines_last_ends (s : Sheet) (hne : (sheetToTable s).headers.isEmpty = false) :
    ∃ T i, tableLines s = T ++ [i ++ [124]] := by
  unfold tableLines
  simp only [hne, Bool.false_eq_true, if_false, ptLines]
  rcases List.eq_nil_or_concat (sheetToTable s).rows with h | ⟨R, b, h⟩
  · obtain ⟨i, hi⟩ := sepLine_ends (sheetToTable s).headers
    exact ⟨[rowLine (sheetToTable s).headers], i, by rw [h, hi]; rfl⟩
  · obtain ⟨i, hi⟩ := rowLine_ends b
    exact ⟨rowLine (sheetToTable s).headers :: sepLine (sheetToTable s).headers :: R.map rowLine, i, by
      rw [h, List.concat_eq_append, List.map_append, ← hi]; rfl⟩

/-- the table lines of a sheet read back: its content box (nothing for a sheet without content) -/
theorem tableLines_read (s : Sheet) (hrect : Rect (s.maxCol + 1) s.rows) :
    dropSecond ((tableLines s).filterMap mdParseLine) =
      if (findContentBounds s).isEmpty then [] else (boxTable s).map (·.map pad) := by
  unfold tableLines
  rw [headers_isEmpty_iff s hrect]
  cases hne : (findContentBounds s).isEmpty with
  | true => rfl
  | false =>
    simp only [Bool.false_eq_true, if_false]
    rw [mdRead_lines, (sheetToTable_box s hrect hne).2]

end Tabula.Wb
