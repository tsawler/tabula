import TabulaModel.Lemmas.PdfLexProgress
import TabulaModel.Model.LexPos
import TabulaModel.Lemmas.ParseRuns
/-!
Progress of the parser of core/parser.go, for EVERY parser state (no well-formedness hypotheses):
every successful call of `ParseObject` / `parseArray` / `parseDict` consumes input (measured by the
unread bytes plus the tokens held in the two-token window), so the fuel of the model is never the
reason for an error, and a sequence of `ParseObject` calls terminates.  Core Lean only.
-/
namespace Tabula.Pdf
namespace Prog

/-- a window slot holds a token still to be parsed -/
def weight : Option Token → Nat
  | none => 0
  | some .eof => 0
  | some _ => 1

/-- what is left to parse: unread bytes plus the tokens in the window -/
def measure (s : PState) : Nat := s.inp.length + weight s.cur + weight s.peek

theorem weight_none : weight none = 0 := rfl

theorem weight_eof : weight (some .eof) = 0 := rfl

theorem weight_le_one (o : Option Token) : weight o ≤ 1 := by
  cases o with
  | none => exact Nat.zero_le _
  | some t => cases t <;> first | exact Nat.zero_le _ | exact Nat.le_refl _

theorem weight_some {t : Token} (h : t ≠ .eof) : weight (some t) = 1 := by
  cases t <;> first | rfl | exact absurd rfl h

/-- `(*Parser).nextToken` never increases the measure and pays for the token it drops -/
theorem next_measure (s : PState) : measure s.next + weight s.cur ≤ measure s := by
  have h0 := weight_none
  have he := weight_eof
  unfold PState.next
  split
  · simp only [measure]; omega
  · split
    · simp only [measure]; omega
    · split
      · simp only [measure]; omega
      · next t r h =>
        have hp := lexSkip_progress _ _ _ _ h
        have hl := hp.1.length_le
        have : r.length + weight (some t) ≤ s.inp.length := by
          by_cases ht : t = .eof
          · subst ht; omega
          · rw [weight_some ht]; have := hp.2.1 ht; omega
        simp only [measure]; omega

theorem next_le (s : PState) : measure s.next ≤ measure s := by
  have := next_measure s; omega

/-- dropping a real token costs one unit -/
theorem next_lt (s : PState) (t : Token) (hc : s.cur = some t) (ht : t ≠ .eof) :
    measure s.next + 1 ≤ measure s := by
  have := next_measure s
  rw [hc, weight_some ht] at this
  exact this

/-- every successful call of ParseObject / parseArray / parseDict strictly decreases the measure -/
theorem parse_progress (f : Nat) :
    (∀ d s o s', parseObject f d s = .ok (o, s') → measure s' < measure s) ∧
    (∀ d s acc o s', parseArray f d s acc = .ok (o, s') → measure s' < measure s) ∧
    (∀ d s acc o s', parseDict f d s acc = .ok (o, s') → measure s' < measure s) := by
  refine parse_induction (PO := fun _ s _ s' => measure s' < measure s)
    (PA := fun _ s _ _ s' => measure s' < measure s) (PD := fun _ s _ _ s' => measure s' < measure s)
    ?_ ?_ ?_ ?_ ?_ ?_ ?_ ?_ ?_ ?_ ?_ ?_ f
  · intro d s v o hc _
    exact next_lt s _ hc (by simp)
  · intro d s v o s' hc h
    have nl := next_lt s _ hc (by simp)
    have h1 := next_le s.next
    have h2 := next_le s.next.next
    rcases (parseNumber_shape h).2 with rfl | rfl <;> omega
  · intro d s v o hc _
    exact next_lt s _ hc (by simp)
  · intro d s v hc
    exact next_lt s _ hc (by simp)
  · intro d s v hc
    exact next_lt s _ hc (by simp)
  · intro d s v hc
    exact next_lt s _ hc (by simp)
  · intro d s o s' hc _ ih
    have nl := next_lt s _ hc (by simp); omega
  · intro d s o s' hc _ ih
    have nl := next_lt s _ hc (by simp); omega
  · intro d s acc hc
    exact next_lt s _ hc (by simp)
  · intro d s acc o1 s1 o s' ihO ihA
    omega
  · intro d s acc hc
    exact next_lt s _ hc (by simp)
  · intro d s acc k o1 s1 o s' hc ihO ihD
    have nl := next_lt s _ hc (by simp); omega

/-- fuel above 2·measure+1 (objects) / 2·measure+2 (the container loops) is never used up: any two
such amounts give the same result -/
theorem fuel_stable (f1 : Nat) :
    (∀ f2 d s, 2 * measure s + 1 ≤ f1 → 2 * measure s + 1 ≤ f2 → parseObject f1 d s = parseObject f2 d s) ∧
    (∀ f2 d s acc, 2 * measure s + 2 ≤ f1 → 2 * measure s + 2 ≤ f2 → parseArray f1 d s acc = parseArray f2 d s acc) ∧
    (∀ f2 d s acc, 2 * measure s + 2 ≤ f1 → 2 * measure s + 2 ≤ f2 → parseDict f1 d s acc = parseDict f2 d s acc) := by
  induction f1 with
  | zero =>
    refine ⟨?_, ?_, ?_⟩
    · intro f2 d s h; omega
    · intro f2 d s acc h; omega
    · intro f2 d s acc h; omega
  | succ g1 ih =>
    obtain ⟨ihO, ihA, ihD⟩ := ih
    refine ⟨?_, ?_, ?_⟩
    · intro f2 d s h1 h2
      obtain ⟨g2, rfl⟩ : ∃ g, f2 = g + 1 := ⟨f2 - 1, by omega⟩
      rw [parseObject, parseObject]
      cases hc : s.cur with
      | none => rfl
      | some t =>
        cases t with
        | arrStart =>
          have nl := next_lt s _ hc (by simp)
          dsimp only
          rw [ihA g2 (d + 1) s.next [] (by omega) (by omega)]
        | dictStart =>
          have nl := next_lt s _ hc (by simp)
          dsimp only
          rw [ihD g2 (d + 1) s.next [] (by omega) (by omega)]
        | _ => rfl
    · intro f2 d s acc h1 h2
      obtain ⟨g2, rfl⟩ : ∃ g, f2 = g + 1 := ⟨f2 - 1, by omega⟩
      cases hc : s.cur with
      | none => rw [parseArray, parseArray, hc]
      | some t =>
        by_cases ha : t = .arrEnd
        · rw [parseArray, parseArray, hc, ha]
        by_cases he : t = .eof
        · rw [parseArray, parseArray, hc, he]
        rw [parseArray_step hc ha he, parseArray_step hc ha he, ihO g2 d s (by omega) (by omega)]
        cases hres : parseObject g2 d s with
        | error e => rfl
        | ok p =>
          have := (parse_progress g2).1 d s p.1 p.2 hres
          exact ihA g2 d p.2 _ (by omega) (by omega)
    · intro f2 d s acc h1 h2
      obtain ⟨g2, rfl⟩ : ∃ g, f2 = g + 1 := ⟨f2 - 1, by omega⟩
      rw [parseDict, parseDict]
      cases hc : s.cur with
      | none => rfl
      | some t =>
        cases t with
        | name k =>
          have nl := next_lt s _ hc (by simp)
          dsimp only
          rw [ihO g2 d s.next (by omega) (by omega)]
          cases hres : parseObject g2 d s.next with
          | error e => rfl
          | ok p =>
            obtain ⟨o, s'⟩ := p
            have := (parse_progress g2).1 d s.next o s' hres
            dsimp only
            exact ihD g2 d s' _ (by omega) (by omega)
        | _ => rfl

theorem measure_newParser (inp : Str) : measure (newParser inp) ≤ inp.length := by
  unfold newParser
  have h1 := next_le (PState.next { cur := none, peek := none, inp := inp, err := false })
  have h2 := next_le { cur := none, peek := none, inp := inp, err := false }
  have h3 : measure { cur := none, peek := none, inp := inp, err := false } = inp.length := by
    simp only [measure, weight_none]; omega
  omega

/-- the fuel `coreParse` is given is irrelevant: any larger amount gives the same result -/
theorem coreParse_fuel_irrelevant (inp : Str) (f : Nat) (h : 2 * inp.length + 1 ≤ f) :
    parseObject f 0 (newParser inp) = coreParse inp := by
  have hm := measure_newParser inp
  unfold coreParse fuelFor
  exact (fuel_stable f).1 _ 0 _ (by omega) (by omega)

/-- `ParseObject` called until it fails, `F` units of fuel per call, at most `n` calls -/
def parseSeq (F : Nat) : Nat → PState → List Obj → List Obj × Option PErr
  | 0, _, acc => (acc, none)
  | n + 1, s, acc =>
    match parseObject F 0 s with
    | .error e => (acc, some e)
    | .ok (o, s') => parseSeq F n s' (acc ++ [o])

theorem coreParseAll_go_eq (inp : Str) (n : Nat) (s : PState) (acc : List Obj) :
    coreParseAll.go inp n s acc = parseSeq (fuelFor inp) n s acc := by
  induction n generalizing s acc with
  | zero => rw [coreParseAll.go, parseSeq]
  | succ n ih =>
    rw [coreParseAll.go, parseSeq]
    cases hres : parseObject (fuelFor inp) 0 s with
    | error e => rfl
    | ok p => obtain ⟨o, s'⟩ := p; dsimp only; exact ih s' _

/-- a sequence of ParseObject calls ends with an error or the end of input before the bound on the
number of calls is reached (whatever the per-call fuel) -/
theorem parseSeq_terminates (F : Nat) : ∀ (n : Nat) (s : PState) (acc : List Obj), measure s < n →
    ∃ os e, parseSeq F n s acc = (os, some e) := by
  intro n
  induction n with
  | zero => intro s acc h; omega
  | succ n ih =>
    intro s acc h
    rw [parseSeq]
    cases hres : parseObject F 0 s with
    | error e => exact ⟨acc, e, rfl⟩
    | ok p =>
      obtain ⟨o, s'⟩ := p
      have := (parse_progress F).1 0 s o s' hres
      dsimp only
      exact ih s' _ (by omega)

/-- ... and its result does not depend on the two bounds once they are large enough -/
theorem parseSeq_stable (F1 F2 : Nat) : ∀ (n1 n2 : Nat) (s : PState) (acc : List Obj),
    2 * measure s + 1 ≤ F1 → 2 * measure s + 1 ≤ F2 → measure s < n1 → measure s < n2 →
    parseSeq F1 n1 s acc = parseSeq F2 n2 s acc := by
  intro n1
  induction n1 with
  | zero => intro n2 s acc _ _ h; omega
  | succ n1 ih =>
    intro n2 s acc hF1 hF2 h1 h2
    obtain ⟨m2, rfl⟩ : ∃ m, n2 = m + 1 := ⟨n2 - 1, by omega⟩
    rw [parseSeq, parseSeq, (fuel_stable F1).1 F2 0 s hF1 hF2]
    cases hres : parseObject F2 0 s with
    | error e => rfl
    | ok p =>
      obtain ⟨o, s'⟩ := p
      have := (parse_progress F2).1 0 s o s' hres
      dsimp only
      exact ih m2 s' _ (by omega) (by omega) (by omega) (by omega)

/-- at most one object per unit of measure -/
theorem parseSeq_count (F : Nat) : ∀ (n : Nat) (s : PState) (acc : List Obj),
    (parseSeq F n s acc).1.length ≤ acc.length + measure s := by
  intro n
  induction n with
  | zero => intro s acc; rw [parseSeq]; exact Nat.le_add_right _ _
  | succ n ih =>
    intro s acc
    rw [parseSeq]
    cases hres : parseObject F 0 s with
    | error e => exact Nat.le_add_right _ _
    | ok p =>
      obtain ⟨o, s'⟩ := p
      have := (parse_progress F).1 0 s o s' hres
      have h := ih s' (acc ++ [o])
      rw [List.length_append, List.length_singleton] at h
      dsimp only
      omega

theorem coreParseAll_never_out_of_fuel (inp : Str) :
    ∃ os e, coreParseAll.go inp (inp.length + 2) (newParser inp) [] = (os, some e) := by
  rw [coreParseAll_go_eq]
  have := measure_newParser inp
  exact parseSeq_terminates _ _ _ _ (by omega)

/-- `coreParseAll` is the un-fuelled sequence: any larger bounds give the same objects and the same
end -/
theorem coreParseAll_stable (inp : Str) (F n : Nat) (hF : fuelFor inp ≤ F) (hn : inp.length + 2 ≤ n) :
    parseSeq F n (newParser inp) [] = coreParseAll.go inp (inp.length + 2) (newParser inp) [] := by
  rw [coreParseAll_go_eq]
  have := measure_newParser inp
  unfold fuelFor at hF ⊢
  exact parseSeq_stable _ _ _ _ _ _ (by omega) (by omega) (by omega) (by omega)

theorem coreParseAll_count (inp : Str) : (coreParseAll inp).1.length ≤ inp.length := by
  have hm := measure_newParser inp
  have hc := parseSeq_count (fuelFor inp) (inp.length + 2) (newParser inp) []
  rw [← coreParseAll_go_eq] at hc
  unfold coreParseAll
  revert hc
  generalize coreParseAll.go inp (inp.length + 2) (newParser inp) [] = X
  intro hc
  rcases X with ⟨os, _ | e⟩
  · simp only [List.length_nil] at hc ⊢; omega
  · simp only [List.length_nil] at hc ⊢; omega

theorem windowTrace_go_terminates (inp : Str) : ∀ (n : Nat) (s : PState) (acc : List Window),
    measure s < n → ∃ e, (windowTrace.go inp n s acc).2 = some e := by
  intro n
  induction n with
  | zero => intro s acc h; omega
  | succ n ih =>
    intro s acc h
    rw [windowTrace.go]
    cases hres : parseObject (fuelFor inp) 0 s with
    | error e => exact ⟨e, rfl⟩
    | ok p =>
      obtain ⟨o, s'⟩ := p
      have := (parse_progress (fuelFor inp)).1 0 s o s' hres
      dsimp only
      exact ih s' _ (by omega)

/-- the same for the window trace of Model/LexPos.lean: its `go` never returns `none` as the end -/
theorem windowTrace_never_out_of_fuel (inp : Str) : ∃ e, (windowTrace inp).2 = some e := by
  have := measure_newParser inp
  unfold windowTrace
  exact windowTrace_go_terminates inp _ _ _ (by omega)

end Prog
end Tabula.Pdf
