import TabulaModel.Lemmas.Workbook
import TabulaModel.Lemmas.ListBasics
/-!
Lemmas for the two budgets of the xlsx loader (C17; the bounded-work facts are the ones C02 asks
about): the merge loop applies regions while their clipped rectangles add up to at most one grid,
and the grids of one workbook add up to at most `maxGridCells`.

* counting: the cells the merge pass visits for a region are `clipArea` many and distinct;
  pairwise disjoint regions cover at most the grid, so all of them are applied;
* `mergeVisits`: the cell visits of the merge pass of one sheet, at most one grid;
* `stateAfter`: the members recorded and the cells taken out of the workbook's budget, from the
  file only; `loadParts_cons`: `parseWorksheets` one entry at a time.
-/
namespace Tabula.Wb
open Tabula.A1 Tabula.Sheet

theorem nodup_visited (nrows ncols : Nat) (m : Region) : (visited nrows ncols m).Nodup := by
  rw [visited_eq]; exact nodup_rect _ _ _ _

/-- the positions of a grid of `nrows` x `ncols` cells -/
def gridPos (nrows ncols : Nat) : List (Nat × Nat) :=
  (List.range nrows).flatMap fun r => (List.range ncols).map fun c => (r, c)

theorem gridPos_eq (nrows ncols : Nat) : gridPos nrows ncols = rect 0 nrows 0 ncols := by
  simp only [gridPos, rect, Nat.zero_add]

theorem length_gridPos (nrows ncols : Nat) : (gridPos nrows ncols).length = nrows * ncols := by
  rw [gridPos_eq, length_rect]

theorem mem_gridPos (nrows ncols r c : Nat) : (r, c) ∈ gridPos nrows ncols ↔ r < nrows ∧ c < ncols := by
  rw [gridPos_eq, mem_rect]; omega

/-- no position of the grid lies in two of the regions (entries of the list are compared by
place, so a region listed twice overlaps itself) — what every valid sheet satisfies: its merged
regions do not overlap at all -/
def DisjointInGrid (nrows ncols : Nat) (ms : List Region) : Prop :=
  ms.Pairwise fun a b => ∀ r c, r < nrows → c < ncols → ¬ (covers a r c ∧ covers b r c)

theorem disjointInGrid_of_disjoint (nrows ncols : Nat) (ms : List Region)
    (h : ms.Pairwise fun a b => ∀ r c, ¬ (covers a r c ∧ covers b r c)) : DisjointInGrid nrows ncols ms :=
  List.Pairwise.imp (fun hab r c _ _ => hab r c) h

theorem areaSum_eq_length (nrows ncols : Nat) (ms : List Region) :
    areaSum nrows ncols ms = (ms.flatMap (visited nrows ncols)).length := by
  rw [List.length_flatMap]
  unfold areaSum
  congr 1
  apply List.map_congr_left
  intro m _
  exact (length_visited nrows ncols m).symm

/-- **disjoint regions cover at most the grid**: their clipped areas add up to at most
`nrows * ncols` -/
theorem areaSum_le_of_disjoint (nrows ncols : Nat) (ms : List Region) (h : DisjointInGrid nrows ncols ms) :
    areaSum nrows ncols ms ≤ nrows * ncols := by
  rw [areaSum_eq_length, ← length_gridPos]
  apply List.Nodup.length_le_of_subset
  · rw [List.nodup_iff_pairwise_ne, List.pairwise_flatMap]
    refine ⟨fun m _ => List.nodup_iff_pairwise_ne.mp (nodup_visited nrows ncols m), ?_⟩
    refine List.Pairwise.imp ?_ h
    intro a b hab p hp q hq e
    subst e
    obtain ⟨r, c⟩ := p
    rw [mem_visited] at hp hq
    exact hab r c hp.2.1 hp.2.2 ⟨hp.1, hq.1⟩
  · rintro ⟨r, c⟩ hp
    simp only [List.mem_flatMap] at hp
    obtain ⟨m, _, hm⟩ := hp
    rw [mem_visited] at hm
    exact (mem_gridPos nrows ncols r c).mpr hm.2

theorem applied_all_of_fit (x : SheetXML)
    (h : areaSum (maxRowOf x.rows) (maxColOf x.rows + 1) (fileRegions x) ≤ gridSize x) :
    appliedRegions x = fileRegions x :=
  (applied_all_iff _ _ _ _).mpr h

/-- **the cell visits of the merge pass of one sheet**, in the order the Go loops make them:
for every applied region the positions of its rectangle inside the grid, each with the region
it is visited for -/
def mergeVisits (x : SheetXML) : List (Region × (Nat × Nat)) :=
  (appliedRegions x).flatMap fun m => (visited (maxRowOf x.rows) (maxColOf x.rows + 1) m).map fun rc => (m, rc)

theorem length_mergeVisits (x : SheetXML) :
    (mergeVisits x).length = areaSum (maxRowOf x.rows) (maxColOf x.rows + 1) (appliedRegions x) := by
  unfold mergeVisits
  rw [List.length_flatMap]
  unfold areaSum
  congr 1
  apply List.map_congr_left
  intro m _
  rw [List.length_map, length_visited]

theorem foldl_applyRegionC_eq_visits (ncols : Nat) (ms : List Region) (g : Grid) :
    ms.foldl (applyRegionC ncols) g =
      (ms.flatMap fun m => (visited g.length ncols m).map fun rc => (m, rc)).foldl
        (fun g (v : Region × (Nat × Nat)) => g.modify v.2.1 v.2.2 (markCell v.1 v.2)) g := by
  induction ms generalizing g with
  | nil => rfl
  | cons m ms ih =>
    simp only [List.foldl_cons, List.flatMap_cons, List.foldl_append]
    rw [ih, length_applyRegionC]
    congr 1
    unfold applyRegionC
    rw [List.foldl_map]

/-- the sheet fits: its grid is at most what is left of `maxGridCells` plus the allowance of its
part (the negation of the "too large to load" test) -/
def fits (used : Nat) (fresh : Bool) (x : SheetXML) : Prop :=
  gridSize x ≤ maxGridCells - used + allowance fresh x

instance (used : Nat) (fresh : Bool) (x : SheetXML) : Decidable (fits used fresh x) := by
  unfold fits; infer_instance

/-- `(r.gridParts, r.gridCells)` after `parseWorksheets` has gone through `parts`, starting from
`(seen, used)`: from the file only.  A missing part records nothing; every other entry records its
member; an entry that fits is charged `cells - allowance`. -/
def stateAfter : List (Option SheetXML) → List Str → Nat → List Str × Nat
  | [], seen, u => (seen, u)
  | none :: ps, seen, u => stateAfter ps seen u
  | some x :: ps, seen, u =>
    stateAfter ps (x.member :: seen)
      (if fits u (!seen.contains x.member) x then u + charge (!seen.contains x.member) x else u)

theorem loadSheet_none_iff (shared : List Str) (i used : Nat) (fresh : Bool) (x : SheetXML) :
    loadSheet shared i used fresh x = none ↔ ¬ fits used fresh x := by
  rw [loadSheet_eq]
  unfold fits
  split <;> simp [*]

theorem loadSheet_isSome_iff (shared : List Str) (i used : Nat) (fresh : Bool) (x : SheetXML) :
    (∃ s, loadSheet shared i used fresh x = some s) ↔ fits used fresh x := by
  rw [← Option.ne_none_iff_exists', ne_eq, loadSheet_none_iff, Classical.not_not]

theorem stateAfter_cons (p : Option SheetXML) (ps : List (Option SheetXML)) (seen : List Str) (u : Nat) :
    stateAfter (p :: ps) seen u = stateAfter ps (stateAfter [p] seen u).1 (stateAfter [p] seen u).2 := by
  cases p <;> rfl

/-- **one step of `parseWorksheets`**: the entry contributes the sheet it loads, if any, and the
later entries are gone through in the state it leaves -/
theorem loadParts_cons (shared : List Str) (p : Option SheetXML) (ps : List (Option SheetXML)) (k : Nat)
    (seen : List Str) (used : Nat) :
    loadParts shared (p :: ps) k seen used =
      (p.bind fun x => loadSheet shared k used (!seen.contains x.member) x).toList ++
        loadParts shared ps (k + 1) (stateAfter [p] seen used).1 (stateAfter [p] seen used).2 := by
  cases p with
  | none => rfl
  | some x =>
    simp only [loadParts, stateAfter, Option.bind_some]
    cases hl : loadSheet shared k used (!seen.contains x.member) x with
    | none => rw [if_neg ((loadSheet_none_iff shared k used _ x).mp hl)]; rfl
    | some s => rw [if_pos ((loadSheet_isSome_iff shared k used _ x).mp ⟨s, hl⟩)]; rfl

/-- **`parseWorksheets` in closed form**: entry `j` contributes the sheet it loads, if any, under
index `k + j` in the state the entries before it leave -/
theorem loadParts_eq (shared : List Str) (parts : List (Option SheetXML)) (k : Nat) (seen : List Str) (used : Nat) :
    loadParts shared parts k seen used = parts.zipIdx.filterMap fun pj => pj.1.bind fun x =>
      loadSheet shared (k + pj.2) (stateAfter (parts.take pj.2) seen used).2
        (!(stateAfter (parts.take pj.2) seen used).1.contains x.member) x := by
  induction parts generalizing k seen used with
  | nil => rfl
  | cons p ps ih =>
    rw [loadParts_cons, ih, List.zipIdx_cons, List.zipIdx_succ, List.filterMap_cons, List.filterMap_map]
    simp only [Function.comp_def, List.take_succ_cons, stateAfter_cons p (List.take _ ps), Nat.add_assoc,
      Nat.add_comm 1, Nat.add_zero, List.take_zero, stateAfter]
    cases p.bind fun x => loadSheet shared k used (!seen.contains x.member) x <;> rfl

theorem mem_loadParts {shared : List Str} {parts : List (Option SheetXML)} {k : Nat} {seen : List Str} {used : Nat}
    {s : Sheet} :
    s ∈ loadParts shared parts k seen used ↔ ∃ j x, parts[j]? = some (some x) ∧
      loadSheet shared (k + j) (stateAfter (parts.take j) seen used).2
        (!(stateAfter (parts.take j) seen used).1.contains x.member) x = some s := by
  rw [loadParts_eq]
  simp only [List.mem_filterMap, List.mem_zipIdx_iff_getElem?, Prod.exists, Option.bind_eq_some_iff]
  constructor
  · rintro ⟨p, j, hj, x, rfl, hl⟩; exact ⟨j, x, hj, hl⟩
  · rintro ⟨j, x, hj, hl⟩; exact ⟨some x, j, hj, x, rfl, hl⟩

/-- an opened workbook: its sheets are those `parseWorksheets` keeps, at least one -/
theorem openWorkbook_some {sis : List SI} {parts : List (Option SheetXML)} {r : Reader}
    (h : openWorkbook sis parts = some r) :
    r.sheets = loadParts (parseSharedStrings sis) parts 0 [] 0 ∧ r.sheets ≠ [] := by
  unfold openWorkbook at h
  simp only at h
  split at h
  · cases h
  · rename_i hne
    cases h
    exact ⟨rfl, fun (e : loadParts (parseSharedStrings sis) parts 0 [] 0 = []) => hne (by rw [e]; rfl)⟩

/-- the invariant behind the `int` arithmetic of the Go code: `r.gridCells` never exceeds
`maxGridCells` -/
theorem stateAfter_le (parts : List (Option SheetXML)) (seen : List Str) (u : Nat) (hu : u ≤ maxGridCells) :
    (stateAfter parts seen u).2 ≤ maxGridCells := by
  induction parts generalizing seen u with
  | nil => exact hu
  | cons p ps ih =>
    cases p with
    | none => exact ih seen u hu
    | some x =>
      simp only [stateAfter]
      apply ih
      split
      · rename_i hf
        unfold fits at hf; unfold charge; omega
      · exact hu

/-- the cells of a sheet's grid -/
def sheetCells (s : Sheet) : Nat := (s.rows.map List.length).sum

theorem sum_const_length (n : Nat) (g : Grid) (h : Rect n g) : (g.map List.length).sum = g.length * n := by
  rw [List.map_congr_left (g := fun _ => n) h, List.map_const', List.sum_replicate_nat]

theorem sheetCells_of_load {shared : List Str} {i used : Nat} {fresh : Bool} {x : SheetXML} {s : Sheet}
    (h : loadSheet shared i used fresh x = some s) : sheetCells s = gridSize x := by
  obtain ⟨h1, h2⟩ := loadSheet_shape h
  unfold sheetCells gridSize
  rw [sum_const_length _ _ h2, h1, (loadSheet_some h).2.2.1]

/-- the `<c>` elements whose allowance was granted: those of the entries that are fresh and load
(each distinct member at most once), from the file only -/
def grantedElements : List (Option SheetXML) → List Str → Nat → Nat
  | [], _, _ => 0
  | none :: ps, seen, u => grantedElements ps seen u
  | some x :: ps, seen, u =>
    if fits u (!seen.contains x.member) x then
      (if !seen.contains x.member then elements x else 0) +
        grantedElements ps (x.member :: seen) (u + charge (!seen.contains x.member) x)
    else grantedElements ps (x.member :: seen) u

/-- the `<c>` elements of the distinct members among the present parts (each member counted at
its first entry) -/
def distinctElements : List (Option SheetXML) → List Str → Nat
  | [], _ => 0
  | none :: ps, seen => distinctElements ps seen
  | some x :: ps, seen =>
    (if !seen.contains x.member then elements x else 0) + distinctElements ps (x.member :: seen)

theorem grantedElements_le (parts : List (Option SheetXML)) (seen : List Str) (u : Nat) :
    grantedElements parts seen u ≤ distinctElements parts seen := by
  induction parts generalizing seen u with
  | nil => exact Nat.le_refl _
  | cons p ps ih =>
    cases p with
    | none => exact ih seen u
    | some x =>
      simp only [grantedElements, distinctElements]
      split
      · have := ih (x.member :: seen) (u + charge (!seen.contains x.member) x); omega
      · have := ih (x.member :: seen) u; omega

theorem distinctElements_replicate (x : SheetXML) (k : Nat) (seen : List Str) :
    distinctElements (List.replicate (k + 1) (some x)) seen =
      if seen.contains x.member then 0 else elements x := by
  have hrest : ∀ (n : Nat) (seen' : List Str), x.member ∈ seen' →
      distinctElements (List.replicate n (some x)) seen' = 0 := by
    intro n
    induction n with
    | zero => intro _ _; rfl
    | succ n ih =>
      intro seen' hm
      simp only [List.replicate_succ, distinctElements]
      have : seen'.contains x.member = true := by simpa using hm
      rw [this, ih _ (by simp [hm])]; rfl
  simp only [List.replicate_succ, distinctElements]
  rw [hrest k (x.member :: seen) (by simp)]
  cases seen.contains x.member <;> simp

/-- **the grids of the sheets `parseWorksheets` loads**: their cells are at most what was charged
to the budget plus the allowances granted -/
theorem loadParts_cells_le (shared : List Str) (parts : List (Option SheetXML)) (k : Nat) (seen : List Str) (used : Nat) :
    used + ((loadParts shared parts k seen used).map sheetCells).sum ≤
      (stateAfter parts seen used).2 + gridCellsPerElement * grantedElements parts seen used := by
  induction parts generalizing k seen used with
  | nil => simp [loadParts, stateAfter, grantedElements]
  | cons p ps ih =>
    cases p with
    | none => simp only [loadParts, stateAfter, grantedElements]; exact ih _ _ _
    | some x =>
      simp only [loadParts, stateAfter, grantedElements]
      cases hl : loadSheet shared k used (!seen.contains x.member) x with
      | none =>
        have hn := (loadSheet_none_iff shared k used _ x).mp hl
        simp only [hn, if_false]
        exact ih _ _ _
      | some s =>
        have hf : fits used (!seen.contains x.member) x := (loadSheet_isSome_iff shared k used _ x).mp ⟨s, hl⟩
        simp only [hf, if_true, List.map_cons, List.sum_cons]
        rw [sheetCells_of_load hl]
        have := ih (k + 1) (x.member :: seen) (used + charge (!seen.contains x.member) x)
        have hc : gridSize x ≤ charge (!seen.contains x.member) x +
            gridCellsPerElement * (if !seen.contains x.member then elements x else 0) := by
          unfold charge allowance
          cases seen.contains x.member <;> simp <;> omega
        rw [Nat.mul_add]
        omega

/-- a dense part: its grid has at most `gridCellsPerElement` cells per `<c>` element -/
theorem dense_fits (used : Nat) (x : SheetXML) (h : gridSize x ≤ gridCellsPerElement * elements x) :
    fits used true x ∧ charge true x = 0 := by
  unfold fits charge allowance
  simp only [if_true]
  omega

/-- the members recorded: those of the present parts, the latest first, before what was recorded
already; what is charged plays no part -/
theorem stateAfter_seen (parts : List (Option SheetXML)) (seen : List Str) (u : Nat) :
    (stateAfter parts seen u).1 = (parts.filterMap fun p => p.map (·.member)).reverse ++ seen := by
  induction parts generalizing seen u with
  | nil => rfl
  | cons p ps ih =>
    cases p with
    | none => exact ih seen u
    | some x => simp only [stateAfter, ih, List.filterMap_cons, Option.map_some, List.reverse_cons, List.append_assoc,
        List.singleton_append]

theorem member_seen (parts : List (Option SheetXML)) (seen : List Str) (u : Nat) (x : SheetXML)
    (h : some x ∈ parts) : x.member ∈ (stateAfter parts seen u).1 := by
  rw [stateAfter_seen]
  exact List.mem_append_left _ (List.mem_reverse.mpr (List.mem_filterMap.mpr ⟨some x, h, rfl⟩))

end Tabula.Wb
