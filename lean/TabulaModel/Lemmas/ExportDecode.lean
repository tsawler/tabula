import TabulaModel.Model.ExportDecode
import TabulaModel.Lemmas.ExportJson
import TabulaModel.Lemmas.ExportMeta
/-!
Lemmas about the inverse reader of `Model/ExportDecode.lean`: every textual convention of
`rag/export.go` (`%d`, `%t`, level names, `omitempty`, `[a,b,c]` cells) is undone by its reader.
-/
set_option linter.unusedSimpArgs false
namespace Tabula.Export
open Tabula.Csv (Str)
open Tabula.Json

/-- on digits the strict reader computes the value of the digit string -/
theorem digitsVal_digits (s : Str) (acc : Nat) (h : ∀ c ∈ s, 48 ≤ c ∧ c ≤ 57) :
    digitsVal s acc = some (s.foldl (fun a c => a * 10 + (c - 48)) acc) := by
  induction s generalizing acc with
  | nil => rfl
  | cons c cs ih =>
    obtain ⟨hc, hcs⟩ := List.forall_mem_cons.mp h
    rw [digitsVal, if_pos hc, ih _ hcs, List.foldl_cons]

theorem digitsVal_dec (n : Nat) : digitsVal (dec n) 0 = some n :=
  (digitsVal_digits _ 0 (dec_digits n)).trans (congrArg some (valDigits_dec n))

theorem readNat_dec (n : Nat) : readNat (dec n) = some n := by
  obtain ⟨d, ds, e, _, _⟩ := dec_head n
  have := digitsVal_dec n
  rw [e] at this ⊢
  simpa [readNat] using this

/-- `%d` text reads back to the integer, for every Go int -/
theorem readInt_decInt (i : Int) : readInt (decInt i) = some i := by
  unfold decInt
  by_cases h : i < 0
  · simp only [h, if_true, readInt, readNat_dec, Option.map_some, Option.some.injEq]
    omega
  · simp only [h, if_false]
    obtain ⟨d, ds, e, h1, _⟩ := dec_head i.natAbs
    have hv := readNat_dec i.natAbs
    rw [e] at hv ⊢
    have hd : d ≠ 45 := by omega
    simp only [readInt, hd, if_false, hv, Option.map_some, Option.some.injEq]
    omega

theorem decInt_ne_nil (i : Int) : decInt i ≠ [] := by
  intro e
  have := readInt_decInt i
  rw [e] at this
  simp [readInt] at this

theorem readIntCellS_decInt (i : Int) : readIntCellS (decInt i) = some i := by
  simp [readIntCellS, decInt_ne_nil, readInt_decInt]

theorem levelOfString_levelString (l : Int) (h0 : 0 ≤ l) (h3 : l ≤ 3) :
    levelOfString (levelString l) = some l := by
  have : l = 0 ∨ l = 1 ∨ l = 2 ∨ l = 3 := by omega
  rcases this with h | h | h | h <;> subst h <;> decide

theorem levelString_ne_nil (l : Int) : levelString l ≠ [] :=
  (by decide : ∀ s ∈ [kDocument, kSection, kParagraph, kSentence, kUnknown], s ≠ []) _ (levelString_mem l)
/-! ### JSON members written with `omitempty` -/

theorem jStrOpt_omit (s : Str) : jStrOpt (if s.isEmpty then none else some (.str s)) = some s := by
  cases s with
  | nil => rfl
  | cons c r => rfl

theorem jIntOpt_omit (i : Int) : jIntOpt (if i = 0 then none else some (.num (decInt i))) = some i := by
  by_cases h : i = 0
  · simp [h, jIntOpt]
  · simp [h, jIntOpt, readInt_decInt]

theorem jBoolOpt_omit (b : Bool) : jBoolOpt (if b then some (.bool true) else none) = some b := by
  cases b <;> rfl

theorem jStrItems_map (l : List Str) : jStrItems (l.map J.str) = some l := by
  induction l with
  | nil => rfl
  | cons s r ih => simp [jStrItems, ih]

theorem jStrsOpt_omit (l : List Str) : jStrsOpt (if l.isEmpty then none else some (jStrs l)) = some l := by
  cases l with
  | nil => rfl
  | cons s r =>
    simp only [List.isEmpty_cons, Bool.false_eq_true, if_false, jStrsOpt, jStrs]
    exact jStrItems_map _

theorem jStrOpt_text (incl : Bool) (s : Str) :
    jStrOpt (if incl = false ∨ s.isEmpty then none else some (.str s)) = some (if incl then s else []) := by
  cases incl <;> cases s <;> simp [jStrOpt]

/-! ### metadata values through `exportedMeta` -/

theorem exportedMeta_keep (cfg : Config) (m : Meta) (k : Str) :
    exportedMeta cfg m k = if keepMeta cfg k then metaField m k else none := rfl

/-- an "exported only when positive" integer, read from its optional JSON member -/
theorem jIntOpt_positive (keep : Bool) (i : Int) (h : 0 ≤ i) :
    jIntOpt ((if keep then (if i > 0 then some (Val.int i) else none) else none).map valToJ) =
      some (if keep then i else 0) := by
  cases keep with
  | false => rfl
  | true =>
    by_cases hi : i > 0
    · simp [hi, valToJ, jIntOpt, readInt_decInt]
    · have : i = 0 := by omega
      simp [this, jIntOpt]

theorem jLevelOpt_level (keep : Bool) (l : Int) (h0 : 0 ≤ l) (h3 : l ≤ 3) :
    jLevelOpt ((if keep then some (Val.str (levelString l)) else none).map valToJ) = some (if keep then l else 0) := by
  cases keep with
  | false => rfl
  | true => simp [valToJ, jLevelOpt, levelOfString_levelString l h0 h3]

theorem jStrOpt_nonempty (keep : Bool) (s : Str) :
    jStrOpt ((if keep then (if s ≠ [] then some (Val.str s) else none) else none).map valToJ) =
      some (if keep then s else []) := by
  cases keep with
  | false => rfl
  | true => cases s <;> simp [valToJ, jStrOpt]

theorem jStrsOpt_nonempty (keep : Bool) (l : List Str) :
    jStrsOpt ((if keep then (if l ≠ [] then some (Val.strs l) else none) else none).map valToJ) =
      some (if keep then l else []) := by
  cases keep with
  | false => rfl
  | true =>
    cases l with
    | nil => simp [jStrsOpt]
    | cons s r =>
      have := jStrItems_map (s :: r)
      simp only [List.map_cons] at this
      simp [valToJ, jStrsOpt, jStrs, this]

theorem mapOpt_append {α β : Type} (f : α → Option β) (a b : List α) :
    mapOpt f (a ++ b) = (mapOpt f a).bind (fun x => (mapOpt f b).map (x ++ ·)) := by
  rw [mapOpt_eq_mapM, mapOpt_eq_mapM, mapOpt_eq_mapM, List.mapM_append]
  cases a.mapM f <;> cases b.mapM f <;> rfl

theorem cellAt_map (f : Str → Str) (header : List Str) (name : Str) :
    cellAt header (header.map f) name = if name ∈ header then f name else [] := by
  induction header with
  | nil => simp [cellAt]
  | cons h hs ih =>
    simp only [List.map_cons, cellAt]
    by_cases e : h = name
    · subst e; simp
    · have : ¬ name = h := fun x => e x.symm
      simp [e, ih, this]

theorem splitCommas_eq (s cur : Str) : splitCommas s cur = splitAcc s cur := by
  induction s generalizing cur with
  | nil => rfl
  | cons c cs ih =>
    simp only [splitCommas, splitAcc]
    split
    · rw [ih]
    · rw [ih]

/-- a list cell reads back when it is not empty and no element contains a comma -/
theorem readListCellS_format (marshal : MapSV → Str) (l : List Str) (hne : l ≠ []) (h : ∀ s ∈ l, 44 ∉ s) :
    readListCellS (formatValue marshal (.strs l)) = some l := by
  simp only [formatValue, readListCellS, List.getLast?_append, List.getLast?_singleton,
    Option.some_or, and_self, if_true, List.dropLast_concat, splitCommas_eq]
  rw [(splitAcc_joinComma_iff l).mpr ⟨hne, h⟩]

theorem readBoolCellS_boolStr (b : Bool) : readBoolCellS (boolStr b) = some b := by
  cases b <;> decide

/-- the cell of an optional metadata value: its `formatValue`, empty when there is none -/
def optCell (marshal : MapSV → Str) : Option Val → Str
  | some v => formatValue marshal v
  | none => []

/-- an "exported only when positive" integer, read from its (possibly empty) cell -/
theorem readIntCellS_positive (marshal : MapSV → Str) (keep : Bool) (i : Int) (h : 0 ≤ i) :
    readIntCellS (optCell marshal (if keep then (if i > 0 then some (Val.int i) else none) else none)) = some (if keep then i else 0) := by
  cases keep with
  | false => rfl
  | true =>
    by_cases hi : i > 0
    · simp [hi, optCell, formatValue, readIntCellS_decInt]
    · have : i = 0 := by omega
      simp [this, optCell, readIntCellS]

theorem readLevelCellS_level (marshal : MapSV → Str) (keep : Bool) (l : Int) (h0 : 0 ≤ l) (h3 : l ≤ 3) :
    readLevelCellS (optCell marshal (if keep then some (Val.str (levelString l)) else none)) = some (if keep then l else 0) := by
  cases keep with
  | false => rfl
  | true => simp [optCell, formatValue, readLevelCellS, levelString_ne_nil, levelOfString_levelString l h0 h3]

theorem strCell_nonempty (marshal : MapSV → Str) (keep : Bool) (s : Str) :
    (optCell marshal (if keep then (if s ≠ [] then some (Val.str s) else none) else none)) = (if keep then s else []) := by
  cases keep with
  | false => rfl
  | true => cases s <;> simp [optCell, formatValue]

theorem readListCellS_nonempty (marshal : MapSV → Str) (keep : Bool) (l : List Str) (h : ∀ s ∈ l, 44 ∉ s) :
    readListCellS (optCell marshal (if keep then (if l ≠ [] then some (Val.strs l) else none) else none)) = some (if keep then l else []) := by
  cases keep with
  | false => rfl
  | true =>
    by_cases hl : l = []
    · subst hl; simp [optCell, readListCellS]
    · simp only [if_true, hl, ne_eq, not_false_eq_true, optCell]
      exact readListCellS_format marshal l hl h

end Tabula.Export
