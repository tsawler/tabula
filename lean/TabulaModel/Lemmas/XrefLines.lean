import TabulaModel.Model.XrefFile
import TabulaModel.Lemmas.XrefBytes
/-!
The line level of the byte-level cross-reference model: the scanner (`splitLine`, `scanLines`,
`linesOf`) on a line followed by an end-of-line marker, and `ParseXRef` as far as the first line
decides. (`strings.TrimSpace` / `strings.Fields` on the lines are in Lemmas/XrefBytes.lean.)
-/
namespace Tabula.XrefFile
open Tabula.XrefBytes Tabula.A1

/-- no end-of-line byte inside -/
def NoEol (s : Str) : Prop := ∀ c ∈ s, c ≠ 10 ∧ c ≠ 13

theorem splitLine_rest_lt (data t r : Str) (k : Term) (h : splitLine data = some (t, k, r)) :
    r.length < data.length := by
  fun_induction splitLine data generalizing t k r with
  | case1 => cases h
  -- LF; a lone CR
  | case2 | case4 => cases h; exact Nat.lt_succ_self _
  -- CR LF
  | case3 => cases h; exact Nat.lt_succ_of_lt (Nat.lt_succ_self _)
  -- the data ends inside the line
  | case5 => cases h; exact Nat.succ_pos _
  | case6 _ _ _ _ _ _ _ hs ih => cases h; exact Nat.lt_succ_of_lt (ih _ _ _ hs)

theorem scanLines_fuel (f f' : Nat) (data : Str) (h : data.length < f) (h' : data.length < f') :
    scanLines f data = scanLines f' data := by
  induction f generalizing f' data with
  | zero => exact absurd h (Nat.not_lt_zero _)
  | succ f ih =>
    cases f' with
    | zero => exact absurd h' (Nat.not_lt_zero _)
    | succ f' =>
      rw [scanLines, scanLines]
      cases hs : splitLine data with
      | none => rfl
      | some p =>
        obtain ⟨t, k, r⟩ := p
        have hr := splitLine_rest_lt data t r k hs
        simp only
        rw [ih f' r (Nat.lt_of_lt_of_le hr (Nat.le_of_lt_succ h))
          (Nat.lt_of_lt_of_le hr (Nat.le_of_lt_succ h'))]

theorem linesOf_step (data t r : Str) (k : Term) (h : splitLine data = some (t, k, r))
    (hf : fits t k = true) : linesOf data = (t :: (linesOf r).1, (linesOf r).2) := by
  rw [linesOf, scanLines, h]
  simp only [hf, if_true]
  rw [scanLines_fuel data.length (r.length + 1) r (splitLine_rest_lt data t r k h)
    (Nat.lt_succ_self _), linesOf]

/-- the three end-of-line markers of ISO 32000-1 7.2.3 -/
inductive Eol | lf | crlf | cr
  deriving DecidableEq, Repr

def Eol.bytes : Eol → Str
  | .lf => [10]
  | .crlf => [13, 10]
  | .cr => [13]

def Eol.term : Eol → Term
  | .lf => .lf
  | _ => .cr

/-- after a lone CR the next byte must not be LF (it would be taken for CR LF) -/
def Eol.FollowOk (e : Eol) (rest : Str) : Prop := e = .cr → ∀ t, rest ≠ 10 :: t

theorem splitLine_line (l : Str) (hl : NoEol l) (e : Eol) (rest : Str) (hr : e.FollowOk rest) :
    splitLine (l ++ (e.bytes ++ rest)) = some (l, e.term, rest) := by
  induction l with
  | nil =>
    cases e with
    | lf => rfl
    | crlf => rfl
    | cr =>
      show splitLine (13 :: rest) = _
      rw [splitLine, if_neg (by decide), if_pos rfl]
      · rfl
      · exact hr rfl
  | cons c l ih =>
    have hc := hl c (List.mem_cons_self ..)
    simp only [List.cons_append, splitLine, hc.1, hc.2, if_false]
    rw [ih (fun x hx => hl x (List.mem_cons_of_mem _ hx))]

theorem fits_short (l : Str) (k : Term) (h : l.length ≤ 65534) : fits l k = true := by
  cases k <;> exact decide_eq_true (by first | exact h | exact Nat.le_succ_of_le h)

/-- the scanner delivers a line that has no end-of-line byte inside, fits the buffer and is
followed by an end-of-line marker, and goes on behind the marker -/
theorem linesOf_line (l : Str) (hl : NoEol l) (hlen : l.length ≤ 65534) (e : Eol) (rest : Str)
    (hr : e.FollowOk rest) :
    linesOf (l ++ (e.bytes ++ rest)) = (l :: (linesOf rest).1, (linesOf rest).2) :=
  linesOf_step _ l rest e.term (splitLine_line l hl e rest hr) (fits_short l _ hlen)

/-- a marker and what follows it can be read as a marker with a legal follower: a lone CR in front
of `LF …` is the marker CR LF in front of `…` -/
theorem eol_follow (e : Eol) (rest : Str) :
    ∃ (e' : Eol) (rest' : Str), e.bytes ++ rest = e'.bytes ++ rest' ∧ e'.FollowOk rest' := by
  by_cases h : e = .cr ∧ ∃ t, rest = 10 :: t
  · obtain ⟨rfl, t, rfl⟩ := h; exact ⟨.crlf, t, rfl, fun h => nomatch h⟩
  · exact ⟨e, rest, rfl, fun he t ht => h ⟨he, t, ht⟩⟩

theorem linesOf_first (l : Str) (hl : NoEol l) (hlen : l.length ≤ 65534) (e : Eol) (rest : Str) :
    ∃ ls, (linesOf (l ++ (e.bytes ++ rest))).1 = l :: ls := by
  obtain ⟨e', rest', he, hf⟩ := eol_follow e rest
  rw [he, linesOf_line l hl hlen e' rest' hf]
  exact ⟨_, rfl⟩

/-- `ParseXRef(offset)` looks at the bytes from the offset on and at nothing else -/
theorem parseXRef_at (ext : Reader.Ext) (before txt : Str) :
    parseXRef ext (before ++ txt) before.length = parseXRef ext txt 0 := by
  unfold parseXRef
  rw [if_neg (Int.not_lt.2 (Int.natCast_nonneg _)), if_neg (Int.lt_irrefl 0), Int.toNat_natCast,
    List.drop_left]
  rfl

/-- a first line `xref`: the rest is `parseTraditionalXRef` on the scanner's lines -/
theorem parseXRef_of_xrefLine (ext : Reader.Ext) {data l0 : Str} {ls : List Str}
    (h : (linesOf data).1 = l0 :: ls) (hx : trimSpaceU l0 = kwXref) :
    parseXRef ext data 0 = parseClassic (linesOf data).1 (linesOf data).2 := by
  rw [parseXRef, if_neg (Int.lt_irrefl 0)]
  simp only [Int.toNat_zero, List.drop_zero, h, hx, if_true]

/-- a first line `N G obj`: the object there is read as a cross-reference stream -/
theorem parseXRef_of_objLine (ext : Reader.Ext) {data l0 a b : Str} {ls r : List Str}
    (h : (linesOf data).1 = l0 :: ls) (hx : trimSpaceU l0 ≠ kwXref)
    (hf : fieldsU (trimSpaceU l0) = a :: b :: kwObj :: r) :
    parseXRef ext data 0 = parseXRefStream ext data := by
  rw [parseXRef, if_neg (Int.lt_irrefl 0)]
  simp only [Int.toNat_zero, List.drop_zero, h, hx, if_false, hf, true_or, if_true]

end Tabula.XrefFile
