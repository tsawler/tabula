import TabulaModel.Lemmas.XrefLines
import TabulaModel.Lemmas.XrefRecords
/-!
The classic cross-reference table as a writer lays it out (ISO 32000-1 7.5.4), and the proof
that `parseClassic` reads it back.
-/
namespace Tabula.XrefFile
open Tabula.XrefBytes Tabula.A1

/-- an entry of a classic table as authored -/
structure CEnt where
  off : Nat
  gen : Nat
  inUse : Bool
  deriving Repr, DecidableEq

def CEnt.raw (e : CEnt) : RawEntry := entryOf ((e.off : Int), (e.gen : Int), e.inUse)

/-- ten digits of offset, five of generation -/
def CEnt.Ok (e : CEnt) : Prop := e.off < 10 ^ 10 ∧ e.gen < 10 ^ 5

/-- the two-byte entry terminators: SP LF, SP CR, CR LF -/
inductive EntEol | spLf | spCr | crLf
  deriving DecidableEq, Repr

def EntEol.pad : EntEol → Str
  | .spLf => [32]
  | .spCr => [32]
  | .crLf => []

def EntEol.eol : EntEol → Eol
  | .spLf => .lf
  | .spCr => .cr
  | .crLf => .crlf

/-- an entry line as the scanner delivers it -/
def entryLine (ee : EntEol) (e : CEnt) : Str := fmtEntry e.off e.gen e.inUse ++ ee.pad

/-- the entries of a subsection, then `k` -/
def renderEntries (ee : EntEol) : List CEnt → Str → Str
  | [], k => k
  | e :: es, k => entryLine ee e ++ (ee.eol.bytes ++ renderEntries ee es k)

/-- a subsection: first object number and its entries -/
abbrev CSub := Nat × List CEnt

/-- `first count` -/
def headerLine (s : CSub) : Str := dec s.1 ++ 32 :: dec s.2.length

def renderSubs (eol : Eol) (ee : EntEol) : List CSub → Str → Str
  | [], k => k
  | s :: ss, k => headerLine s ++ (eol.bytes ++ renderEntries ee s.2 (renderSubs eol ee ss k))

/-- `xref` EOL subsections `trailer` EOL dictionary EOL, then `rest` -/
def renderClassic (eol : Eol) (ee : EntEol) (subs : List CSub) (trailer rest : Str) : Str :=
  kwXref ++ (eol.bytes ++ renderSubs eol ee subs (kwTrailer ++ (eol.bytes ++ (trailer ++ (eol.bytes ++ rest)))))

def classicSection : List CSub → RawSection
  | [] => []
  | s :: ss => numberFrom (s.1 : Int) (s.2.map CEnt.raw) ++ classicSection ss

def subLines (ee : EntEol) : List CSub → List Str
  | [] => []
  | s :: ss => headerLine s :: (s.2.map (entryLine ee) ++ subLines ee ss)

def CSub.Ok (s : CSub) : Prop := s.1 + s.2.length < 9223372036854775808 ∧ ∀ e ∈ s.2, e.Ok

theorem noEol_of_chars (s : Str) (h : ∀ c ∈ s, c < 128 ∧ c ≠ 10 ∧ c ≠ 13) : NoEol s :=
  fun c hc => (h c hc).2

theorem ascii_of_chars (s : Str) (h : ∀ c ∈ s, c < 128 ∧ c ≠ 10 ∧ c ≠ 13) : Ascii s :=
  fun c hc => (h c hc).1

/-- digits, space, `n`, `f` -/
theorem entryLine_chars (ee : EntEol) (e : CEnt) :
    ∀ c ∈ entryLine ee e, c < 128 ∧ c ≠ 10 ∧ c ≠ 13 := by
  have dig : ∀ s, IsDigits s → ∀ c ∈ s, c < 128 ∧ c ≠ 10 ∧ c ≠ 13 := fun s h =>
    word_chars s (word_digits s h)
  rw [entryLine, fmtEntry]
  simp only [List.forall_mem_append]
  refine ⟨⟨⟨⟨⟨dig _ (padDec_digits 10 e.off), by decide⟩, dig _ (padDec_digits 5 e.gen)⟩,
    by decide⟩, ?_⟩, ?_⟩
  · cases e.inUse <;> decide
  · cases ee <;> decide

theorem headerLine_words (s : CSub) : ∀ w ∈ [dec s.1, dec s.2.length], Word w ∧ w ≠ [] :=
  List.forall_mem_cons.2 ⟨dec_word _, List.forall_mem_cons.2 ⟨dec_word _, fun _ h => nomatch h⟩⟩

theorem headerLine_chars (s : CSub) : ∀ c ∈ headerLine s, c < 128 ∧ c ≠ 10 ∧ c ≠ 13 :=
  joinSp_chars _ fun w hw => (headerLine_words s w hw).1

theorem fmtEntry_length (off gen : Nat) (inUse : Bool) (hoff : off < 10 ^ 10) (hgen : gen < 10 ^ 5) :
    (fmtEntry off gen inUse).length = 18 := by
  simp only [fmtEntry, List.length_append, List.length_singleton,
    padDec_length 10 off (dec_length_le off 9 hoff), padDec_length 5 gen (dec_length_le gen 4 hgen)]

theorem entryLine_length (ee : EntEol) (e : CEnt) (h : e.Ok) : (entryLine ee e).length ≤ 65534 := by
  rw [entryLine, List.length_append, fmtEntry_length _ _ _ h.1 h.2]
  cases ee <;> decide

theorem headerLine_length (s : CSub) (h : s.1 + s.2.length < 9223372036854775808) :
    (headerLine s).length ≤ 65534 := by
  have h19 : ∀ n, n ≤ s.1 + s.2.length → (dec n).length ≤ 19 := fun n hn =>
    dec_length_int64 n (Nat.le_of_lt_succ (Nat.lt_of_le_of_lt hn h))
  rw [headerLine, List.length_append, List.length_cons]
  exact Nat.le_trans (Nat.add_le_add (h19 _ (Nat.le_add_right ..))
    (Nat.succ_le_succ (h19 _ (Nat.le_add_left ..)))) (by decide)

/-- does not start with LF (what may follow a lone CR) -/
def NotLf (r : Str) : Prop := ∀ t, r ≠ 10 :: t

theorem notLf_cons (c : Nat) (t : Str) (h : c ≠ 10) : NotLf (c :: t) := by
  intro t' e; simp at e; exact h e.1

theorem followOk_of_notLf (e : Eol) (r : Str) (h : NotLf r) : e.FollowOk r := fun _ => h

theorem notLf_append (t k : Str) (hne : t ≠ []) (h : NoEol t) : NotLf (t ++ k) := by
  cases t with
  | nil => exact absurd rfl hne
  | cons c t => exact notLf_cons c _ (h c (List.mem_cons_self ..)).1

theorem headerLine_ne_nil (s : CSub) : headerLine s ≠ [] :=
  List.append_ne_nil_of_left_ne_nil (dec_ne_nil s.1) _

theorem entryLine_notLf (ee : EntEol) (e : CEnt) (k : Str) : NotLf (entryLine ee e ++ k) :=
  notLf_append _ k
    (List.append_ne_nil_of_left_ne_nil
      (List.append_ne_nil_of_right_ne_nil _ (List.cons_ne_nil _ _)) _)
    (noEol_of_chars _ (entryLine_chars ee e))

theorem headerLine_notLf (s : CSub) (k : Str) : NotLf (headerLine s ++ k) :=
  notLf_append _ k (headerLine_ne_nil s) (noEol_of_chars _ (headerLine_chars s))

theorem renderEntries_notLf (ee : EntEol) (es : List CEnt) (k : Str) (hk : NotLf k) :
    NotLf (renderEntries ee es k) := by
  cases es with
  | nil => exact hk
  | cons e es => exact entryLine_notLf ee e _

theorem renderSubs_notLf (eol : Eol) (ee : EntEol) (ss : List CSub) (k : Str) (hk : NotLf k) :
    NotLf (renderSubs eol ee ss k) := by
  cases ss with
  | nil => exact hk
  | cons s ss => exact headerLine_notLf s _

theorem linesOf_entries (ee : EntEol) (es : List CEnt) (hes : ∀ e ∈ es, e.Ok) (k : Str) (hk : NotLf k) :
    linesOf (renderEntries ee es k) = (es.map (entryLine ee) ++ (linesOf k).1, (linesOf k).2) := by
  induction es with
  | nil => rfl
  | cons e es ih =>
    rw [renderEntries, linesOf_line (entryLine ee e) (noEol_of_chars _ (entryLine_chars ee e))
      (entryLine_length ee e (hes e (List.mem_cons_self ..))) ee.eol _
      (followOk_of_notLf _ _ (renderEntries_notLf ee es k hk)),
      ih fun x hx => hes x (List.mem_cons_of_mem _ hx)]
    rfl

theorem linesOf_subs (eol : Eol) (ee : EntEol) (ss : List CSub) (hss : ∀ s ∈ ss, s.Ok) (k : Str)
    (hk : NotLf k) :
    linesOf (renderSubs eol ee ss k) = (subLines ee ss ++ (linesOf k).1, (linesOf k).2) := by
  induction ss with
  | nil => rfl
  | cons s ss ih =>
    have hok := hss s (List.mem_cons_self ..)
    have hk' := renderSubs_notLf eol ee ss k hk
    rw [renderSubs, linesOf_line (headerLine s) (noEol_of_chars _ (headerLine_chars s))
      (headerLine_length s hok.1) eol _ (followOk_of_notLf _ _ (renderEntries_notLf ee s.2 _ hk')),
      linesOf_entries ee s.2 hok.2 _ hk', ih fun x hx => hss x (List.mem_cons_of_mem _ hx), subLines]
    simp only [List.cons_append, List.append_assoc]

theorem kwXref_noEol : NoEol kwXref := by unfold NoEol kwXref; decide
theorem kwTrailer_noEol : NoEol kwTrailer := by unfold NoEol kwTrailer; decide

theorem kwTrailer_notLf (k : Str) : NotLf (kwTrailer ++ k) :=
  notLf_append _ k (by decide) kwTrailer_noEol

/-- the lines of a rendered table up to and including the `trailer` line (whose end-of-line
marker `e2` may differ from the table's), then whatever follows -/
theorem linesOf_classic_upto (eol e2 : Eol) (ee : EntEol) (subs : List CSub) (hss : ∀ s ∈ subs, s.Ok)
    (after : Str) (hf : e2.FollowOk after) :
    linesOf (kwXref ++ (eol.bytes ++ renderSubs eol ee subs (kwTrailer ++ (e2.bytes ++ after)))) =
      (kwXref :: (subLines ee subs ++ kwTrailer :: (linesOf after).1), (linesOf after).2) := by
  have hk := kwTrailer_notLf (e2.bytes ++ after)
  rw [linesOf_line kwXref kwXref_noEol (by decide) eol _
      (followOk_of_notLf _ _ (renderSubs_notLf eol ee subs _ hk)),
    linesOf_subs eol ee subs hss _ hk, linesOf_line kwTrailer kwTrailer_noEol (by decide) e2 _ hf]

open Tabula.Pdf

theorem classicLoop_entry (tl : Bool) (l : Str) (ls : List Str) (pending : Nat) (num : Int)
    (acc : RawSection) (e : Int × Int × Bool) (h : parseEntryU l = some e) :
    classicLoop tl (l :: ls) (pending + 1) num acc =
      classicLoop tl ls pending (wrap64 (num + 1)) (acc ++ [(num, entryOf e)]) := by
  rw [classicLoop, h]

theorem classicLoop_fields (tl : Bool) (l : Str) (ls : List Str) (n : Int) (acc : RawSection)
    (hne : trimSpaceU l ≠ []) (htr : trimSpaceU l ≠ kwTrailer) (a b : Str)
    (hf : fieldsU (trimSpaceU l) = [a, b]) (first count : Int) (ha : atoi a = some first)
    (hb : atoi b = some count) :
    classicLoop tl (l :: ls) 0 n acc = classicLoop tl ls count.toNat first acc := by
  rw [classicLoop]
  simp only [if_neg hne, if_neg htr, hf, ha, hb]

/-- between subsections the object number is not looked at -/
theorem classicLoop_zero_num (tl : Bool) (ls : List Str) (n : Int) (acc : RawSection) :
    classicLoop tl ls 0 n acc = classicLoop tl ls 0 0 acc := by
  cases ls with
  | nil => rfl
  | cons l ls => rw [classicLoop, classicLoop]

theorem parseEntryU_entryLine (ee : EntEol) (e : CEnt) (h : e.Ok) :
    parseEntryU (entryLine ee e) = some ((e.off : Int), (e.gen : Int), e.inUse) := by
  rw [parseEntryU_ascii _ (ascii_of_chars _ (entryLine_chars ee e))]
  exact parseEntry_fmtEntry e.off e.gen e.inUse ee.pad h.1 h.2

/-- the entries of a subsection that announces `p` more than these -/
theorem classicLoop_entries_then (tl : Bool) (ee : EntEol) (es : List CEnt) (hes : ∀ e ∈ es, e.Ok)
    (more : List Str) (p : Nat) :
    ∀ (num : Int) (acc : RawSection), 0 ≤ num → num + es.length < 9223372036854775808 →
      classicLoop tl (es.map (entryLine ee) ++ more) (es.length + p) num acc =
        classicLoop tl more p (num + es.length) (acc ++ numberFrom num (es.map CEnt.raw)) := by
  induction es with
  | nil =>
    intro num acc _ _
    rw [List.map_nil, List.map_nil, numberFrom, List.append_nil, List.nil_append, List.length_nil,
      Nat.zero_add, Int.natCast_zero, Int.add_zero]
  | cons e es ih =>
    intro num acc h0 hb
    obtain ⟨hw, h0', hb'⟩ := wrap64_succ num es.length h0 hb
    have hn : num + 1 + (es.length : Int) = num + ((es.length + 1 : Nat) : Int) := by
      rw [Int.natCast_succ, Int.add_assoc, Int.add_comm 1]
    rw [List.map_cons, List.cons_append, List.length_cons, Nat.add_right_comm,
      classicLoop_entry tl _ _ _ num acc _ (parseEntryU_entryLine ee e (hes e (List.mem_cons_self ..))),
      hw, ih (fun x hx => hes x (List.mem_cons_of_mem _ hx)) (num + 1) _ h0' hb', hn,
      List.map_cons, numberFrom, List.append_assoc]
    rfl

theorem trimSpaceU_headerLine (s : CSub) : trimSpaceU (headerLine s) = headerLine s :=
  trimSpaceU_joinSp [dec s.1, dec s.2.length] (headerLine_words s)

theorem headerLine_ne_trailer (s : CSub) : headerLine s ≠ kwTrailer :=
  dec_append_ne s.1 _ 116 _ (by decide)

theorem classicLoop_header (tl : Bool) (s : CSub) (hs : s.1 + s.2.length < 9223372036854775808) (ls : List Str)
    (n : Int) (acc : RawSection) :
    classicLoop tl (headerLine s :: ls) 0 n acc = classicLoop tl ls s.2.length (s.1 : Int) acc := by
  have hmax : ∀ k, k ≤ s.1 + s.2.length → k ≤ maxInt64 := fun k hk =>
    Nat.le_of_lt_succ (Nat.lt_of_le_of_lt hk hs)
  have e := classicLoop_fields tl (headerLine s) ls n acc
  rw [trimSpaceU_headerLine] at e
  exact e (headerLine_ne_nil s) (headerLine_ne_trailer s) _ _
    (fieldsU_joinSp _ (headerLine_words s)) _ _ (atoi_dec s.1 (hmax _ (Nat.le_add_right ..)))
    (atoi_dec s.2.length (hmax _ (Nat.le_add_left ..)))

/-- the subsections of a table, read from between two subsections (where the object number is
not looked at) -/
theorem classicLoop_subs (tl : Bool) (ee : EntEol) (subs : List CSub) (hss : ∀ s ∈ subs, s.Ok)
    (more : List Str) :
    ∀ (n : Int) (acc : RawSection),
      classicLoop tl (subLines ee subs ++ more) 0 n acc =
        classicLoop tl more 0 0 (acc ++ classicSection subs) := by
  induction subs with
  | nil => intro n acc; rw [classicSection, List.append_nil]; exact classicLoop_zero_num ..
  | cons s ss ih =>
    intro n acc
    have hok := hss s (List.mem_cons_self ..)
    have e : classicLoop tl (s.2.map (entryLine ee) ++ (subLines ee ss ++ more)) s.2.length s.1 acc = _ :=
      classicLoop_entries_then tl ee s.2 hok.2 _ 0 (s.1 : Int) acc (Int.natCast_nonneg _)
        (by have := hok.1; omega)
    rw [subLines, List.cons_append, List.append_assoc, classicLoop_header tl s hok.1, e,
      ih (fun x hx => hss x (List.mem_cons_of_mem _ hx)), classicSection, List.append_assoc]

/-- `containsGtGt` looks for `>>` somewhere in the line -/
theorem containsGtGt_iff (s : Str) : containsGtGt s = true ↔ [62, 62] <:+: s := by
  induction s with
  | nil => exact ⟨fun h => (nomatch h), fun h => (nomatch List.infix_nil.1 h)⟩
  | cons c r ih =>
    rw [List.infix_cons_iff, ← ih]
    conv => lhs; unfold containsGtGt
    split
    · rename_i heq
      cases heq
      exact ⟨fun _ => .inl ⟨_, rfl⟩, fun _ => rfl⟩
    · rename_i hno heq
      cases heq
      refine ⟨.inr, fun h => h.elim (fun ⟨t, ht⟩ => ?_) id⟩
      cases ht
      exact (hno _ rfl rfl).elim
    · rename_i heq; cases heq

theorem containsGtGt_append (a b : Str) (h : containsGtGt b = true) : containsGtGt (a ++ b) = true :=
  (containsGtGt_iff _).2 (List.infix_append_of_infix_right ((containsGtGt_iff _).1 h))

theorem trimSpaceU_kwTrailer : trimSpaceU kwTrailer = kwTrailer := by decide
theorem trimSpaceU_kwXref : trimSpaceU kwXref = kwXref := by decide

/-- `parseTraditionalXRef` on the lines of a table: behind the `xref` line and the subsections the
loop stands between subsections with exactly their entries -/
theorem parseClassic_subs (tl : Bool) (ee : EntEol) (subs : List CSub) (hss : ∀ s ∈ subs, s.Ok)
    (more : List Str) :
    parseClassic (kwXref :: (subLines ee subs ++ more)) tl = classicLoop tl more 0 0 (classicSection subs) := by
  rw [parseClassic, if_pos trimSpaceU_kwXref, classicLoop_subs tl ee subs hss, List.nil_append]

/-- the `trailer` line between subsections: the rest is `parseTrailer`'s -/
theorem classicLoop_trailerLine (tl : Bool) (l : Str) (ls : List Str) (n : Int) (acc : RawSection)
    (hl : trimSpaceU l = kwTrailer) :
    classicLoop tl (l :: ls) 0 n acc = (parseTrailer ls tl).map fun kv => (acc, kv) := by
  rw [classicLoop]
  simp only [hl, if_neg (show kwTrailer ≠ [] by decide), if_true]
  cases parseTrailer ls tl <;> rfl

theorem parseTrailer_text (ls : List Str) (tl : Bool) (text : Str) (kv : Reader.Dict) (st : PState)
    (ht : trailerText ls = (text, false)) (hp : coreParse text = .ok (.dict kv, st)) :
    parseTrailer ls tl = .ok kv := by
  simp only [parseTrailer, ht, hp, Bool.false_and, Bool.false_eq_true, if_false]

theorem linesOf_classic_head (eol : Eol) (ee : EntEol) (subs : List CSub) (trailer rest : Str) :
    ∃ ls, (linesOf (renderClassic eol ee subs trailer rest)).1 = kwXref :: ls :=
  linesOf_first kwXref kwXref_noEol (by decide) eol _

/-- `ParseXRef(offset)` at the offset where a rendered table starts is `parseTraditionalXRef`
on the scanner's lines from there, whatever precedes the table -/
theorem parseXRef_renderClassic (ext : Reader.Ext) (before : Str) (eol : Eol) (ee : EntEol)
    (subs : List CSub) (trailer rest : Str) :
    parseXRef ext (before ++ renderClassic eol ee subs trailer rest) before.length =
      parseClassic (linesOf (renderClassic eol ee subs trailer rest)).1
        (linesOf (renderClassic eol ee subs trailer rest)).2 := by
  obtain ⟨ls, hls⟩ := linesOf_classic_head eol ee subs trailer rest
  rw [parseXRef_at, parseXRef_of_xrefLine ext hls trimSpaceU_kwXref]

end Tabula.XrefFile
