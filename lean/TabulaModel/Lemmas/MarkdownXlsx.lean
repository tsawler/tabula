import TabulaModel.Lemmas.MarkdownDoc
/-!
The inline table writer of `xlsx.(*Reader).markdown` is the table writer on the grid the bounds cut
out (`xTable_eq_render`); `findContentBounds` as minima and maxima, and what its two loops keep.
-/
namespace Tabula.MarkdownDoc
open Tabula.A1 (Str dec decInt)
open Tabula.Markdown

/-- the value a grid position shows: the cell's value when the cell exists and is not covered by
a merged region, else nothing -/
def xVal (rows : List (List XCell)) (r c : Nat) : Str :=
  match rows[r]? with
  | none => []
  | some row =>
    match row[c]? with
    | none => []
    | some cell => if cell.shown then cell.value else []

theorem escCell_xlsx_nil : escCell .xlsx [] = [] := rfl

theorem xCellOut_eq (rows : List (List XCell)) (r c : Nat) :
    xCellOut rows r c = escCell .xlsx (xVal rows r c) := by
  unfold xCellOut xVal
  cases h1 : rows[r]? with
  | none => rfl
  | some row =>
    simp only
    cases h2 : row[c]? with
    | none => rfl
    | some cell =>
      simp only
      by_cases hs : cell.shown = true
      · simp [hs]
      · simp [hs, escCell_xlsx_nil]

/-- the cells of grid row `r`: `n` columns from `minCol` -/
def xRowVals (rows : List (List XCell)) (r minCol n : Nat) : List Str :=
  (List.range n).map fun k => xVal rows r (minCol + k)

theorem xRow_eq (rows : List (List XCell)) (r minCol n : Nat) :
    xRow rows r minCol n = renderRow .xlsx (xRowVals rows r minCol n) ++ [10] := by
  unfold xRow xRowVals
  simp only [renderRow, rowPipe, List.map_map, List.flatMap_map]
  congr 2
  · congr 1
    funext k
    simp [xCellOut_eq]

/-- the grid the bounds cut out of the sheet: rows `minRow..maxRow`, columns `minCol..maxCol` -/
def xGrid (rows : List (List XCell)) (b : Bounds) : List (List Str) :=
  (List.range ((b.maxRow - b.minRow).toNat + 1)).map fun i =>
    xRowVals rows (b.minRow.toNat + i) b.minCol.toNat (b.maxCol - b.minCol + 1).toNat

theorem xGrid_cons (rows : List (List XCell)) (b : Bounds) :
    xGrid rows b = xRowVals rows b.minRow.toNat b.minCol.toNat (b.maxCol - b.minCol + 1).toNat ::
      (List.range (b.maxRow - b.minRow).toNat).map fun k =>
        xRowVals rows (b.minRow.toNat + 1 + k) b.minCol.toNat (b.maxCol - b.minCol + 1).toNat := by
  unfold xGrid
  rw [List.range_succ_eq_map]
  simp only [List.map_cons, Nat.add_zero, List.map_map]
  congr 1
  apply List.map_congr_left
  intro k _
  simp only [Function.comp]
  congr 1
  omega

/-- **the inline writer is the table writer**: what `markdown` writes for a sheet's used range is
`ParsedTable.ToMarkdown` of the grid (`render .xlsx`) -/
theorem xTable_eq_render (rows : List (List XCell)) (b : Bounds) :
    xTable rows b = render .xlsx (xGrid rows b) := by
  rw [xGrid_cons]
  simp only [xTable, render, xRow_eq]
  have hlen : (xRowVals rows b.minRow.toNat b.minCol.toNat (b.maxCol - b.minCol + 1).toNat).length
      = (b.maxCol - b.minCol + 1).toNat := by simp [xRowVals]
  rw [hlen]
  simp only [renderDelim, delimPipe, delimPiece, List.flatMap_map, List.append_assoc, List.cons_append]

theorem xGrid_rect (rows : List (List XCell)) (b : Bounds) :
    ∀ r ∈ xGrid rows b, r.length = (b.maxCol - b.minCol + 1).toNat := by
  intro r hr
  simp only [xGrid, List.mem_map, List.mem_range] at hr
  obtain ⟨i, _, rfl⟩ := hr
  simp [xRowVals]

/-- the table written for bounds with `minCol ≤ maxCol` reads back as the grid of the bounds, whatever
the cells hold -/
theorem xTable_roundtrip (rows : List (List XCell)) (b : Bounds) (hc : b.minCol ≤ b.maxCol) :
    gfmTable (xTable rows b) = some ((xGrid rows b).map (List.map (normCell .xlsx))) := by
  rw [xTable_eq_render]
  exact gfmTable_render_table .xlsx (b.maxCol - b.minCol + 1).toNat (by omega) _ (by simp [xGrid]) (xGrid_rect rows b)

def XCell.content (c : XCell) : Bool := !c.isEmpty && c.shown

def Bounds.covers (b : Bounds) (r c : Int) : Prop :=
  b.minRow ≤ r ∧ r ≤ b.maxRow ∧ b.minCol ≤ c ∧ c ≤ b.maxCol

/-- `findContentBounds` takes minima and maxima: a content cell widens the bounds to its position -/
theorem boundsCell_eq (r c : Int) (b : Bounds) (cell : XCell) :
    boundsCell r c b cell =
      if cell.content then
        { minRow := min r b.minRow, maxRow := max r b.maxRow, minCol := min c b.minCol, maxCol := max c b.maxCol }
      else b := by
  have hmin (x y : Int) : (if x < y then x else y) = min x y := by omega
  have hmax (x y : Int) : (if x > y then x else y) = max x y := by omega
  simp only [boundsCell, XCell.content, hmin, hmax]
  rfl

theorem boundsCell_mono (r c : Int) (b : Bounds) (cell : XCell) (r' c' : Int) (h : b.covers r' c') :
    (boundsCell r c b cell).covers r' c' := by
  rw [boundsCell_eq]
  split
  · exact ⟨Int.le_trans (Int.min_le_right _ _) h.1, Int.le_trans h.2.1 (Int.le_max_right _ _),
      Int.le_trans (Int.min_le_right _ _) h.2.2.1, Int.le_trans h.2.2.2 (Int.le_max_right _ _)⟩
  · exact h

theorem boundsCell_self (r c : Int) (b : Bounds) (cell : XCell) (h : cell.content = true) :
    (boundsCell r c b cell).covers r c := by
  rw [boundsCell_eq, if_pos h]
  exact ⟨Int.min_le_left _ _, Int.le_max_left _ _, Int.min_le_left _ _, Int.le_max_left _ _⟩

theorem boundsCell_nonneg (r c : Int) (b : Bounds) (cell : XCell) (hr : 0 ≤ r) (hc : 0 ≤ c)
    (h1 : 0 ≤ b.minRow) (h2 : 0 ≤ b.minCol) :
    0 ≤ (boundsCell r c b cell).minRow ∧ 0 ≤ (boundsCell r c b cell).minCol := by
  rw [boundsCell_eq]
  split
  · exact ⟨Int.le_min.mpr ⟨hr, h1⟩, Int.le_min.mpr ⟨hc, h2⟩⟩
  · exact ⟨h1, h2⟩

/-- what `boundsCell` keeps at every position from column `c0` on in row `r`, the cell loop keeps -/
theorem boundsRow_inv (P : Bounds → Prop) (r c0 : Int)
    (hP : ∀ c b cell, c0 ≤ c → P b → P (boundsCell r c b cell)) (cells : List XCell) :
    ∀ (c : Int) (b : Bounds), c0 ≤ c → P b → P (boundsRow r c b cells) := by
  induction cells with
  | nil => exact fun _ _ _ h => h
  | cons cell rest ih => exact fun c b hc h => ih (c + 1) _ (by omega) (hP c b cell hc h)

/-- … and so does the row loop, from row `r0` on -/
theorem boundsRows_inv (P : Bounds → Prop) (r0 : Int)
    (hP : ∀ r c b cell, r0 ≤ r → 0 ≤ c → P b → P (boundsCell r c b cell)) (rows : List (List XCell)) :
    ∀ (r : Int) (b : Bounds), r0 ≤ r → P b → P (boundsRows r b rows) := by
  induction rows with
  | nil => exact fun _ _ _ h => h
  | cons row rest ih =>
    exact fun r b hr h => ih (r + 1) _ (by omega)
      (boundsRow_inv P r 0 (fun c b cell hc => hP r c b cell hr hc) row 0 b (Int.le_refl 0) h)

theorem boundsRow_mono (r : Int) (cells : List XCell) (c : Int) (b : Bounds) (r' c' : Int)
    (h : b.covers r' c') : (boundsRow r c b cells).covers r' c' :=
  boundsRow_inv (·.covers r' c') r c (fun c b cell _ h => boundsCell_mono r c b cell r' c' h) cells c b (Int.le_refl c) h

theorem boundsRow_covers (r : Int) (cells : List XCell) : ∀ (c : Int) (b : Bounds) (j : Nat) (cell : XCell),
    cells[j]? = some cell → cell.content = true → (boundsRow r c b cells).covers r (c + j) := by
  induction cells with
  | nil => intro c b j cell h; simp at h
  | cons x rest ih =>
    intro c b j cell hj hc
    cases j with
    | zero =>
      simp only [List.getElem?_cons_zero, Option.some.injEq] at hj
      subst hj
      have := boundsRow_mono r rest (c + 1) _ r c (boundsCell_self r c b x hc)
      simpa [boundsRow] using this
    | succ j =>
      simp only [List.getElem?_cons_succ] at hj
      have := ih (c + 1) (boundsCell r c b x) j cell hj hc
      simp only [boundsRow]
      have e : c + 1 + (j : Int) = c + ((j + 1 : Nat) : Int) := by omega
      rw [← e]
      exact this

theorem boundsRows_mono (rows : List (List XCell)) (r : Int) (b : Bounds) (r' c' : Int)
    (h : b.covers r' c') : (boundsRows r b rows).covers r' c' :=
  boundsRows_inv (·.covers r' c') r (fun r c b cell _ _ h => boundsCell_mono r c b cell r' c' h) rows r b (Int.le_refl r) h

theorem boundsRows_covers (rows : List (List XCell)) : ∀ (r : Int) (b : Bounds) (i j : Nat) (row : List XCell)
    (cell : XCell), rows[i]? = some row → row[j]? = some cell → cell.content = true →
    (boundsRows r b rows).covers (r + i) j := by
  induction rows with
  | nil => intro r b i j row cell h; simp at h
  | cons x rest ih =>
    intro r b i j row cell hi hj hc
    cases i with
    | zero =>
      simp only [List.getElem?_cons_zero, Option.some.injEq] at hi
      subst hi
      have h1 := boundsRow_covers r x 0 b j cell hj hc
      have := boundsRows_mono rest (r + 1) _ r (0 + j) h1
      simpa [boundsRows] using this
    | succ i =>
      simp only [List.getElem?_cons_succ] at hi
      have := ih (r + 1) (boundsRow r 0 b x) i j row cell hi hj hc
      simp only [boundsRows]
      have e : r + 1 + (i : Int) = r + ((i + 1 : Nat) : Int) := by omega
      rw [← e]
      exact this

end Tabula.MarkdownDoc
