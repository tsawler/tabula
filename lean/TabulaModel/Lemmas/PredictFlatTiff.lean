import TabulaModel.Model.PredictFlat
import TabulaModel.Lemmas.FiltersPredict
/-!
Refinement of the TIFF predictor, loop by loop: the row and column loops of the buffer-level transcription
(`Model/PredictFlat.lean`: one flat buffer, `result[rowStart+col] = data[rowStart+col] + result[rowStart+col-colors]`) are
`tiffRows` / `decRow` of the row-wise model (`tiffRowLoop_eq`, `tiffColLoop_eq`), for all byte strings;
`C05Lit.tiff_buffers_refine` puts the frame around them. In particular none of the index checks of the flat model
(= Go run-time panics) can fail. Core Lean only.
-/
namespace Tabula.Filters

theorem applyTIFFPredictor2Flat_onRows (data : Str) (p : Params) : applyTIFFPredictor2Flat data p =
    onRows p data 0 fun rb => tiffRowLoop data rb (p.colors.getD 1).toNat (data.length / rb) 0
      (List.replicate data.length 0) := by
  unfold applyTIFFPredictor2Flat onRows; rfl

/-- `goSet` at index `len(pre)+len(done)` of `pre ++ done ++ z :: rest` succeeds and appends the
value to `done` -/
theorem tiff_goSet_mid (pre done : Str) (z v : Nat) (rest : Str) :
    goSet (pre ++ (done ++ z :: rest)) (pre.length + done.length) v = some (pre ++ ((done ++ [v]) ++ rest)) := by
  have h1 : pre ++ (done ++ z :: rest) = (pre ++ done) ++ z :: rest := by simp only [List.append_assoc]
  have h2 : pre ++ ((done ++ [v]) ++ rest) = (pre ++ done) ++ v :: rest := by
    simp only [List.append_assoc, List.cons_append, List.nil_append]
  have h3 : pre.length + done.length = (pre ++ done).length := by simp only [List.length_append]
  rw [h1, h2, h3]
  unfold goSet
  rw [set_mid]
  have : (pre ++ done).length < (pre ++ done ++ z :: rest).length := by
    simp only [List.length_append, List.length_cons]; omega
  simp only [this, if_true]

/-- column loop: on the buffer `pre ++ done ++ rest` (earlier rows, decoded prefix of this
row, untouched cells) the `for col` loop of `applyTIFFPredictor2` computes `decRow` of the raw
bytes `fs` that `data` holds at `rowStart + col ..`, leaving `pre` and the cells after the row alone -/
theorem tiffColLoop_eq (data : Str) (colors : Nat) (hc : 1 ≤ colors) (hd : ∀ b ∈ data, b < 256) (pre : Str) :
    ∀ (fs done rest : Str), (∃ tail, data.drop (pre.length + done.length) = fs ++ tail) → fs.length ≤ rest.length →
      tiffColLoop data colors pre.length fs.length done.length (pre ++ (done ++ rest)) =
        (decRow (tiffPredicted colors) fs done).map (fun row => pre ++ (row ++ rest.drop fs.length)) := by
  intro fs
  induction fs with
  | nil =>
    intro done rest _ _
    simp only [List.length_nil, tiffColLoop, decRow, Option.map_some, List.drop_zero]
  | cons f fs ih =>
    intro done rest ⟨tail, hdat⟩ hlen
    match rest, hlen with
    | [], hlen => simp only [List.length_cons, List.length_nil] at hlen; omega
    | z :: rest, hlen =>
      have h0 : data[pre.length + done.length]? = some f := by
        rw [← Nat.add_zero (pre.length + done.length), ← List.getElem?_drop, hdat]; rfl
      have hf : f < 256 := hd f (List.mem_of_getElem? h0)
      -- the next turn, whatever byte `v` this one wrote
      have hstep : ∀ v : Nat,
          tiffColLoop data colors pre.length fs.length (done.length + 1) (pre ++ ((done ++ [v]) ++ rest)) =
            (decRow (tiffPredicted colors) fs (done ++ [v])).map
              (fun row => pre ++ (row ++ (z :: rest).drop (f :: fs).length)) := by
        intro v
        have := ih (done ++ [v]) rest ⟨tail, by
          rw [List.length_append, List.length_singleton, ← Nat.add_assoc, ← List.drop_drop, hdat]; rfl⟩
          (Nat.le_of_succ_le_succ hlen)
        rwa [List.length_append, List.length_singleton] at this
      simp only [List.length_cons]
      rw [tiffColLoop]
      simp only [h0]
      by_cases hcol : done.length < colors
      · have hp : tiffPredicted colors done = some 0 := by
          unfold tiffPredicted; simp only [hcol, if_true]
        simp only [hcol, if_true, tiff_goSet_mid, decRow, hp]
        have : (f + 0) % 256 = f := by omega
        rw [this]
        exact hstep f
      · have hp : tiffPredicted colors done = done[done.length - colors]? := by
          unfold tiffPredicted; simp only [hcol, if_false]
        have hidx : pre.length + done.length - colors = pre.length + (done.length - colors) := by omega
        have hrd : (pre ++ (done ++ z :: rest))[pre.length + done.length - colors]? = done[done.length - colors]? := by
          rw [hidx]
          exact getElem?_mid pre done (z :: rest) _ (by omega)
        simp only [hcol, if_false, hrd, decRow, hp]
        cases hl : done[done.length - colors]? with
        | none => simp only [Option.map_none]
        | some l =>
          simp only [tiff_goSet_mid, toByte]
          exact hstep ((f + l) % 256)

/-- row loop: with `row` rows decoded (`acc`, newest first, flattened at the front of the
buffer) and `k` rows left (`rest`, the untouched cells), the `for row` loop of
`applyTIFFPredictor2` is `tiffRows` on the remaining data -/
theorem tiffRowLoop_eq (data : Str) (rowSize colors : Nat) (hc : 1 ≤ colors) (hd : ∀ b ∈ data, b < 256) :
    ∀ (k row : Nat) (acc : List Str) (rest : Str),
      acc.reverse.flatten.length = row * rowSize → rest.length = k * rowSize →
      data.length = row * rowSize + rest.length →
      tiffRowLoop data rowSize colors k row (acc.reverse.flatten ++ rest) =
        tiffRows k rowSize colors (data.drop (row * rowSize)) acc := by
  intro k
  induction k with
  | zero =>
    intro row acc rest _ hrest _
    obtain rfl : rest = [] := List.eq_nil_of_length_eq_zero (hrest.trans (Nat.zero_mul _))
    simp only [tiffRowLoop, tiffRows, List.append_nil]
  | succ k ih =>
    intro row acc rest hpre hrest hlen
    rw [Nat.succ_mul] at hrest
    have hfl : ((data.drop (row * rowSize)).take rowSize).length = rowSize := by
      rw [List.length_take, List.length_drop]; omega
    have hcol := tiffColLoop_eq data colors hc hd acc.reverse.flatten
      ((data.drop (row * rowSize)).take rowSize) [] rest
      ⟨_, by rw [List.length_nil, Nat.add_zero, hpre, List.take_append_drop]⟩ (by rw [hfl]; omega)
    rw [hfl, hpre] at hcol
    simp only [List.length_nil, List.nil_append] at hcol
    rw [tiffRowLoop, tiffRows, hcol]
    cases hr : decRow (tiffPredicted colors) ((data.drop (row * rowSize)).take rowSize) [] with
    | none => rfl
    | some r =>
      have hrl : r.length = rowSize := by
        have := decRow_length _ _ _ _ hr
        rwa [hfl, List.length_nil, Nat.zero_add] at this
      have hfl' : (r :: acc).reverse.flatten = acc.reverse.flatten ++ r := by
        simp only [List.reverse_cons, List.flatten_append, List.flatten_cons, List.flatten_nil, List.append_nil]
      have := ih (row + 1) (r :: acc) (rest.drop rowSize)
        (by rw [hfl', List.length_append, hpre, hrl, Nat.succ_mul])
        (by rw [List.length_drop, hrest, Nat.add_sub_cancel])
        (by rw [List.length_drop, hlen, Nat.succ_mul]; omega)
      rwa [hfl', List.append_assoc, Nat.succ_mul, ← List.drop_drop] at this

end Tabula.Filters
