import TabulaModel.Model.XrefResolve
import TabulaModel.Lemmas.AndThen
/-!
# `Resolve` / `ResolveDeep`: general facts about the model of `Model/XrefResolve.lean`

Everything here is one statement, read in three ways: run the same resolution twice, over two
lookups `get₁`, `get₂` on states of two kinds that answer alike on related states (`GetRel`), with
any two amounts of fuel that suffice; then the answers are equal, the resolver ends in the same
state with the depth counter where it was, and the readers' states are related again
(`rdeep_rel`, `resolveP_rel`, `api_run_rel`).

* A. refinement (`get₂` stateless, the relation an invariant of `get₁`'s state: `Sim`): the cached
  reader may replace the stateless lookup under every sequence of public calls, each answer being
  that of the same call made alone (`api_run_alone`);
* B. the resolver's own fields never influence an answer (`get₁ = get₂`): every call gives the
  depth counter back (`resolveP_depth`) and looks at the resolver's state only through `pre`
  (`resolveP_pre`), so the answers of a call sequence do not depend on the resolver's history
  (`api_run_resolver_history_free`);
* C. the structural fuel is never what ends a call (`rdeep_fuel`, `resolveP_fuel`).

`stepP` is one level of `resolveP` with the nested call as an argument (`resolveP_succ`), so the
statement is proved once about `stepP` and carried through the recursion. `rdeep` is read through
one equation per kind of object (`rdeep_ref`, `rdeep_arr`, `rdeep_dict`, `rdeep_leaf`, `rdeep_beyond`),
the two container loops through `foldRes_cons` / `foldP_cons`: chains of steps in the sense of
`Lemmas/AndThen.lean`, compared step by step with `RelR.andThen`.
Core Lean only.
-/
namespace Tabula.XrefR
open Tabula.Reader (PVal)
open Tabula.XrefFile (Str)

/-- a stateless lookup as a stateful one -/
def pureGet (spec : Int → Option PVal) : Int → Unit → Option PVal × Unit := fun n _ => (spec n, ())

/-- the stateful lookup `get` answers like `spec` on every state that satisfies `I`, and keeps `I` -/
def Sim {σ : Type} (get : Int → σ → Option PVal × σ) (spec : Int → Option PVal) (I : σ → Prop) : Prop :=
  ∀ n s, I s → (get n s).1 = spec n ∧ I (get n s).2

/-- two lookups answer alike on related states, and leave related states -/
def GetRel {σ τ : Type} (S : σ → τ → Prop) (get₁ : Int → σ → Option PVal × σ)
    (get₂ : Int → τ → Option PVal × τ) : Prop :=
  ∀ n s t, S s t → RelR S (get₁ n s) (get₂ n t)

variable {σ τ : Type} {S : σ → τ → Prop} {get₁ : Int → σ → Option PVal × σ} {get₂ : Int → τ → Option PVal × τ}

theorem Sim.getRel {σ : Type} {get : Int → σ → Option PVal × σ} {spec : Int → Option PVal} {I : σ → Prop}
    (h : Sim get spec I) : GetRel (fun s (_ : Unit) => I s) get (pureGet spec) :=
  fun n s _ hs => h n s hs

theorem GetRel.refl {σ : Type} (get : Int → σ → Option PVal × σ) : GetRel Eq get get :=
  fun _ _ _ h => h ▸ ⟨rfl, rfl⟩

theorem foldRes_cons {δ σ : Type} (f : DObj → δ → σ → Option (DObj × δ) × σ) (e : DObj) (es : List DObj) (d : δ)
    (s : σ) :
    foldRes f (e :: es) d s = andThen (f e d s) fun p s' =>
      andThen (foldRes f es p.2 s') fun q s'' => (some (p.1 :: q.1, q.2), s'') := by
  rw [foldRes]
  rcases f e d s with ⟨_ | ⟨e', d'⟩, s'⟩
  · rfl
  · simp only [andThen]
    rcases foldRes f es d' s' with ⟨_ | ⟨es', d''⟩, s''⟩ <;> rfl

/-! ## the reader's `Resolve` / `ResolveDeep` -/

theorem foldRes_rel {δ σ τ : Type} {S : σ → τ → Prop}
    (f : DObj → δ → σ → Option (DObj × δ) × σ) (g : DObj → δ → τ → Option (DObj × δ) × τ)
    (hfg : ∀ e d s t, S s t → RelR S (f e d s) (g e d t)) :
    ∀ xs d s t, S s t → RelR S (foldRes f xs d s) (foldRes g xs d t) := by
  intro xs
  induction xs with
  | nil => exact fun _ _ _ hs => ⟨rfl, hs⟩
  | cons e es ih =>
    intro d s t hs
    rw [foldRes_cons, foldRes_cons]
    exact (hfg e d s t hs).andThen fun p s' t' hs' => (ih p.2 s' t' hs').andThen fun _ _ _ hs'' => ⟨rfl, hs''⟩

/-- an object that holds nothing `resolveDeep` looks into -/
def Leaf : DObj → Prop
  | .ref _ _ | .arr _ | .dict _ => False
  | _ => True

section
variable {σ : Type} {get : Int → σ → Option PVal × σ} {fuel : Nat} {active : List Ref} {depth : Nat}
  {done : List (Ref × DObj)} {s : σ}

theorem rdeep_beyond {obj : DObj} (hd : depth > maxResolveDepth) :
    rdeep get (fuel + 1) active obj depth done s = (none, s) := by
  unfold rdeep
  exact if_pos hd

theorem rdeep_ref {n g : Int} (hd : ¬ depth > maxResolveDepth) :
    rdeep get (fuel + 1) active (.ref n g) depth done s =
      match done.lookup (n, g) with
      | some res => (some (res, done), s)
      | none =>
        if active.contains (n, g) then (some (.ref n g, done), s)
        else andThen (get n s) fun target s1 =>
          andThen (rdeep get fuel ((n, g) :: active) (ofPVal target) (depth + 1) done s1) fun r s2 =>
            (some (r.1, ((n, g), r.1) :: r.2), s2) := by
  rw [rdeep, if_neg hd]
  cases done.lookup (n, g) with
  | some res => rfl
  | none =>
    dsimp only
    split
    · rfl
    · rcases get n s with ⟨_ | target, s1⟩
      · rfl
      · simp only [andThen]
        rcases rdeep get fuel ((n, g) :: active) (ofPVal target) (depth + 1) done s1 with ⟨_ | ⟨res, d2⟩, s2⟩ <;> rfl

theorem rdeep_arr {xs : List DObj} (hd : ¬ depth > maxResolveDepth) :
    rdeep get (fuel + 1) active (.arr xs) depth done s =
      andThen (foldRes (fun e d s => rdeep get fuel active e (depth + 1) d s) xs done s) fun r s' =>
        (some (.arr r.1, r.2), s') := by
  rw [rdeep, if_neg hd]
  rcases foldRes (fun e d s => rdeep get fuel active e (depth + 1) d s) xs done s with ⟨_ | ⟨ys, d'⟩, s'⟩ <;> rfl

theorem rdeep_dict {kv : List (Str × DObj)} (hd : ¬ depth > maxResolveDepth) :
    rdeep get (fuel + 1) active (.dict kv) depth done s =
      andThen (foldRes (fun e d s => rdeep get fuel active e (depth + 1) d s) ((sortKV kv).map Prod.snd) done s)
        fun r s' => (some (.dict (((sortKV kv).map Prod.fst).zip r.1), r.2), s') := by
  rw [rdeep, if_neg hd]
  dsimp only
  rcases foldRes (fun e d s => rdeep get fuel active e (depth + 1) d s) ((sortKV kv).map Prod.snd) done s
    with ⟨_ | ⟨ys, d'⟩, s'⟩ <;> rfl

theorem rdeep_leaf {obj : DObj} (ho : Leaf obj) (hd : ¬ depth > maxResolveDepth) :
    rdeep get (fuel + 1) active obj depth done s = (some (obj, done), s) := by
  unfold rdeep
  rw [if_neg hd]
  cases obj <;> first | rfl | exact False.elim ho

/-- without fuel the depth is beyond the limit, which is what any fuel answers there -/
theorem rdeep_limit {f : Nat} {obj : DObj} (hd : maxResolveDepth + 2 ≤ depth) :
    rdeep get f active obj depth done s = (none, s) := by
  cases f with
  | zero => rfl
  | succ f => exact rdeep_beyond (by omega)

end

theorem rdeep_rel (h : GetRel S get₁ get₂) :
    ∀ (f₁ f₂ : Nat) (active : List Ref) (obj : DObj) (depth : Nat) (done : List (Ref × DObj)) (s : σ) (t : τ),
      S s t → maxResolveDepth + 2 ≤ f₁ + depth → maxResolveDepth + 2 ≤ f₂ + depth →
      RelR S (rdeep get₁ f₁ active obj depth done s) (rdeep get₂ f₂ active obj depth done t) := by
  intro f₁
  induction f₁ with
  | zero =>
    intro f₂ active obj depth done s t hs h1 _
    rw [rdeep_limit (by omega), rdeep_limit (by omega)]
    exact ⟨rfl, hs⟩
  | succ f₁ ih =>
    intro f₂ active obj depth done s t hs h1 h2
    cases f₂ with
    | zero =>
      rw [rdeep_limit (by omega), rdeep_limit (by omega)]
      exact ⟨rfl, hs⟩
    | succ f₂ =>
      by_cases hd : depth > maxResolveDepth
      · rw [rdeep_beyond hd, rdeep_beyond hd]; exact ⟨rfl, hs⟩
      · have ih' : ∀ active e d s t, S s t → RelR S (rdeep get₁ f₁ active e (depth + 1) d s)
            (rdeep get₂ f₂ active e (depth + 1) d t) :=
          fun active e d s t hs => ih f₂ active e (depth + 1) d s t hs (by omega) (by omega)
        -- a container: the loop over its elements, then the same wrapping on both sides
        have hfold := fun xs => foldRes_rel _ _ (ih' active) xs done s t hs
        cases obj with
        | ref n g =>
          rw [rdeep_ref hd, rdeep_ref hd]
          cases List.lookup (n, g) done with
          | some res => exact ⟨rfl, hs⟩
          | none =>
            dsimp only
            split
            · exact ⟨rfl, hs⟩
            · exact (h n s t hs).andThen fun target s1 t1 hs1 =>
                (ih' _ _ _ s1 t1 hs1).andThen fun _ _ _ hs2 => ⟨rfl, hs2⟩
        | arr xs =>
          rw [rdeep_arr hd, rdeep_arr hd]
          exact (hfold xs).andThen fun _ _ _ hs' => ⟨rfl, hs'⟩
        | dict kv =>
          rw [rdeep_dict hd, rdeep_dict hd]
          exact (hfold _).andThen fun _ _ _ hs' => ⟨rfl, hs'⟩
        | _ => rw [rdeep_leaf (by trivial) hd, rdeep_leaf (by trivial) hd]; exact ⟨rfl, hs⟩

theorem resolveR_rel (h : GetRel S get₁ get₂) (obj : DObj) (s : σ) (t : τ) (hs : S s t) :
    RelR S (resolveR get₁ obj s) (resolveR get₂ obj t) := by
  cases obj with
  | ref n g => exact (h n s t hs).map (Option.map ofPVal)
  | _ => exact ⟨rfl, hs⟩

theorem resolveDeepR_rel (h : GetRel S get₁ get₂) (obj : DObj) (s : σ) (t : τ) (hs : S s t) :
    RelR S (resolveDeepR get₁ obj s) (resolveDeepR get₂ obj t) :=
  (rdeep_rel h (maxResolveDepth + 2) (maxResolveDepth + 2) [] obj 0 [] s t hs (Nat.le_refl _) (Nat.le_refl _)).map
    (Option.map Prod.fst)

theorem rdeep_fuel {σ : Type} (get : Int → σ → Option PVal × σ) (f f' : Nat) (active : List Ref) (obj : DObj)
    (depth : Nat) (done : List (Ref × DObj)) (s : σ) (h : maxResolveDepth + 2 ≤ f + depth)
    (h' : maxResolveDepth + 2 ≤ f' + depth) :
    rdeep get f active obj depth done s = rdeep get f' active obj depth done s :=
  have r := rdeep_rel (GetRel.refl get) f f' active obj depth done s s rfl h h'
  Prod.ext r.1 r.2

/-! ## the resolver: one level with the nested call as an argument -/

/-- the state a call starts from: fresh maps when it comes from outside (depth counter 0) -/
def pre (p : PSt) : PSt :=
  if p.depth = 0 then ({ visited := [], done := [], reach := 0, depth := 0 } : PSt) else p

theorem pre_depth (p : PSt) : (pre p).depth = p.depth := by
  unfold pre
  split
  · rename_i h; exact h.symm
  · rfl

theorem pre_pos (p : PSt) (h : p.depth ≠ 0) : pre p = p := if_neg h

theorem pre_zero (p : PSt) (h : p.depth = 0) : pre p = { visited := [], done := [], reach := 0, depth := 0 } :=
  if_pos h

theorem pre_pre (p : PSt) : pre (pre p) = pre p := by
  by_cases h : p.depth = 0
  · rw [pre_zero p h]; rfl
  · rw [pre_pos p h, pre_pos p h]

/-- `r.reach` brought up to the current depth, as a call does behind the depth check -/
def enter (p : PSt) : PSt := { p with reach := max p.reach p.depth }

/-- one level of `resolveP` behind the depth check; `down` is the nested call -/
def bodyP {σ : Type} (get : Int → σ → Option PVal × σ) (maxDepth : Nat)
    (ord : List (Str × DObj) → List (Str × DObj)) (deep : Bool)
    (down : DObj → PSt → σ → Option DObj × PSt × σ) (obj : DObj) (p : PSt) (s : σ) :
    Option DObj × PSt × σ :=
  match obj with
  | .ref n g =>
    match (if deep then p.done.lookup (n, g) else none) with
    | some (res, need) =>
      if p.depth + need ≥ maxDepth then (none, p, s)
      else (some res, { p with reach := max p.reach (p.depth + need) }, s)
    | none =>
      if p.visited.contains n then (none, p, s)
      else
        let p1 : PSt := { p with visited := n :: p.visited }
        match get n s with
        | (none, s1) => (none, unmark n p1, s1)
        | (some target, s1) =>
          if deep then
            let r := down (ofPVal target) { p1 with reach := p1.depth } s1
            let need := r.2.1.reach - r.2.1.depth
            let p3 : PSt := { r.2.1 with reach := max r.2.1.reach p1.reach }
            match r.1 with
            | none => (none, unmark n p3, r.2.2)
            | some res => (some res, unmark n { p3 with done := ((n, g), (res, need)) :: p3.done }, r.2.2)
          else (some (ofPVal target), unmark n p1, s1)
  | .dict kv =>
    if deep then
      let okv := ord kv
      let r := foldP down (okv.map Prod.snd) p s
      (r.1.map fun ys => .dict (sortKV ((okv.map Prod.fst).zip ys)), r.2)
    else (some obj, p, s)
  | .arr xs =>
    if deep then
      let r := foldP down xs p s
      (r.1.map .arr, r.2)
    else (some obj, p, s)
  | .stream kv data =>
    if deep then
      match down (.dict kv) p s with
      | (some (.dict kv'), q, s') => (some (.stream kv' data), q, s')
      | (_, q, s') => (none, q, s')
    else (some obj, p, s)
  | o => (some o, p, s)

/-- one level of `resolveP`; `down` is the nested call -/
def stepP {σ : Type} (get : Int → σ → Option PVal × σ) (maxDepth : Nat)
    (ord : List (Str × DObj) → List (Str × DObj)) (deep : Bool)
    (down : DObj → PSt → σ → Option DObj × PSt × σ) (obj : DObj) (p0 : PSt) (s : σ) :
    Option DObj × PSt × σ :=
  if (pre p0).depth ≥ maxDepth then (none, pre p0, s)
  else bodyP get maxDepth ord deep down obj (enter (pre p0)) s

/-- one level down: `r.currentDepth++; r.resolve(x, deep); r.currentDepth--` -/
def downP {σ : Type} (get : Int → σ → Option PVal × σ) (maxDepth : Nat)
    (ord : List (Str × DObj) → List (Str × DObj)) (deep : Bool) (fuel : Nat) :
    DObj → PSt → σ → Option DObj × PSt × σ := fun e q s =>
  let r := resolveP get maxDepth ord deep fuel e { q with depth := q.depth + 1 } s
  (r.1, { r.2.1 with depth := r.2.1.depth - 1 }, r.2.2)

theorem resolveP_succ {σ : Type} (get : Int → σ → Option PVal × σ) (maxDepth : Nat)
    (ord : List (Str × DObj) → List (Str × DObj)) (deep : Bool) (fuel : Nat) (obj : DObj) (p0 : PSt) (s : σ) :
    resolveP get maxDepth ord deep (fuel + 1) obj p0 s
      = stepP get maxDepth ord deep (downP get maxDepth ord deep fuel) obj p0 s := rfl

/-- a call looks at the resolver's state through `pre` only -/
theorem resolveP_pre {σ : Type} (get : Int → σ → Option PVal × σ) (maxDepth : Nat)
    (ord : List (Str × DObj) → List (Str × DObj)) (deep : Bool) (fuel : Nat) (obj : DObj) (p : PSt) (s : σ) :
    resolveP get maxDepth ord deep (fuel + 1) obj p s = resolveP get maxDepth ord deep (fuel + 1) obj (pre p) s := by
  rw [resolveP_succ, resolveP_succ, stepP, stepP, pre_pre]

/-- beyond the limit a call answers an error and leaves everything as it is, fuel or no fuel -/
theorem resolveP_limit {σ : Type} (get : Int → σ → Option PVal × σ) (maxDepth : Nat)
    (ord : List (Str × DObj) → List (Str × DObj)) (deep : Bool) (fuel : Nat) (obj : DObj) (p : PSt) (s : σ)
    (hp : maxDepth + 1 ≤ p.depth) : resolveP get maxDepth ord deep fuel obj p s = (none, p, s) := by
  cases fuel with
  | zero => rfl
  | succ fuel =>
    rw [resolveP_succ, stepP, pre_pos p (by omega), if_pos (by omega)]

/-- the resolver's states are equal with the depth counter at `k`, the readers' states related -/
def SP {σ τ : Type} (S : σ → τ → Prop) (k : Nat) (x : PSt × σ) (y : PSt × τ) : Prop :=
  x.1 = y.1 ∧ x.1.depth = k ∧ S x.2 y.2

/-- same answer, same resolver state with the depth counter at `k`, related reader states -/
abbrev RelP {α σ τ : Type} (S : σ → τ → Prop) (k : Nat) (x : α × PSt × σ) (y : α × PSt × τ) : Prop :=
  RelR (SP S k) x y

theorem RelP.intro {α σ τ : Type} {S : σ → τ → Prop} {k : Nat} {a : α} {p : PSt} {s : σ} {t : τ} (hp : p.depth = k)
    (hs : S s t) : RelP S k (a, p, s) (a, p, t) :=
  ⟨rfl, rfl, hp, hs⟩

theorem RelP.split {α σ τ : Type} {S : σ → τ → Prop} {k : Nat} {x : α × PSt × σ} {y : α × PSt × τ}
    (h : RelP S k x y) : ∃ a p s t, x = (a, p, s) ∧ y = (a, p, t) ∧ p.depth = k ∧ S s t :=
  ⟨x.1, x.2.1, x.2.2, y.2.2, rfl, Prod.ext h.1.symm (Prod.ext h.2.1.symm rfl), h.2.2.1, h.2.2.2⟩

/-- two nested calls that do the same when the depth counter is `k` -/
def DownRel {σ τ : Type} (S : σ → τ → Prop) (k : Nat) (d₁ : DObj → PSt → σ → Option DObj × PSt × σ)
    (d₂ : DObj → PSt → τ → Option DObj × PSt × τ) : Prop :=
  ∀ e q s t, q.depth = k → S s t → RelP S k (d₁ e q s) (d₂ e q t)

theorem foldP_cons {σ : Type} (f : DObj → PSt → σ → Option DObj × PSt × σ) (e : DObj) (es : List DObj) (p : PSt)
    (s : σ) :
    foldP f (e :: es) p s = andThen (f e p s) fun e' q =>
      andThen (foldP f es q.1 q.2) fun es' q' => (some (e' :: es'), q') := by
  rw [foldP]
  rcases f e p s with ⟨_ | e', p', s'⟩
  · rfl
  · simp only [andThen]
    rcases foldP f es p' s' with ⟨_ | es', p'', s''⟩ <;> rfl

theorem foldP_rel {σ τ : Type} {S : σ → τ → Prop} {k : Nat} {f : DObj → PSt → σ → Option DObj × PSt × σ}
    {g : DObj → PSt → τ → Option DObj × PSt × τ} (hfg : DownRel S k f g) :
    ∀ xs p s t, p.depth = k → S s t → RelP S k (foldP f xs p s) (foldP g xs p t) := by
  intro xs
  induction xs with
  | nil => exact fun _ _ _ hp hs => .intro hp hs
  | cons e es ih =>
    intro p s t hp hs
    rw [foldP_cons, foldP_cons]
    refine (hfg e p s t hp hs).andThen fun e' ⟨q, s'⟩ ⟨q', t'⟩ hq => ?_
    obtain ⟨rfl, hq1, hq2⟩ : q = q' ∧ q.depth = k ∧ S s' t' := hq
    exact (ih q s' t' hq1 hq2).andThen fun _ _ _ h => ⟨rfl, h⟩

theorem bodyP_rel (h : GetRel S get₁ get₂) (maxDepth : Nat)
    (ord : List (Str × DObj) → List (Str × DObj)) (deep : Bool) {k : Nat}
    {d₁ : DObj → PSt → σ → Option DObj × PSt × σ} {d₂ : DObj → PSt → τ → Option DObj × PSt × τ}
    (hd : DownRel S k d₁ d₂) (obj : DObj) (p : PSt) (s : σ) (t : τ) (hp : p.depth = k) (hs : S s t) :
    RelP S k (bodyP get₁ maxDepth ord deep d₁ obj p s) (bodyP get₂ maxDepth ord deep d₂ obj p t) := by
  cases obj with
  | ref n g =>
    simp only [bodyP]
    cases (if deep = true then List.lookup (n, g) p.done else none) with
    | some rn =>
      simp only
      split <;> exact .intro hp hs
    | none =>
      simp only
      split
      · exact .intro hp hs
      · obtain ⟨o, s1, t1, e₁, e₂, hs1⟩ := (h n s t hs).split
        rw [e₁, e₂]
        cases o with
        | none => exact .intro hp hs1
        | some target =>
          cases deep with
          | false => exact .intro hp hs1
          | true =>
            obtain ⟨a, p', s', t', e₁, e₂, hp', hs'⟩ := (hd (ofPVal target)
              { visited := n :: p.visited, done := p.done, reach := p.depth, depth := p.depth } s1 t1 hp hs1).split
            simp only [if_true, e₁, e₂]
            cases a <;> exact .intro hp' hs'
  | dict kv =>
    cases deep with
    | false => exact .intro hp hs
    | true => exact (foldP_rel hd ((ord kv).map Prod.snd) p s t hp hs).map _
  | arr xs =>
    cases deep with
    | false => exact .intro hp hs
    | true => exact (foldP_rel hd xs p s t hp hs).map _
  | stream kv data =>
    cases deep with
    | false => exact .intro hp hs
    | true =>
      obtain ⟨a, p', s', t', e₁, e₂, hp', hs'⟩ := (hd (.dict kv) p s t hp hs).split
      simp only [bodyP, if_true, e₁, e₂]
      rcases a with _ | r
      · exact .intro hp' hs'
      · cases r <;> exact .intro hp' hs'
  | _ => exact .intro hp hs

theorem stepP_rel (h : GetRel S get₁ get₂) (maxDepth : Nat)
    (ord : List (Str × DObj) → List (Str × DObj)) (deep : Bool)
    {d₁ : DObj → PSt → σ → Option DObj × PSt × σ} {d₂ : DObj → PSt → τ → Option DObj × PSt × τ}
    (obj : DObj) (p0 : PSt) (hd : DownRel S p0.depth d₁ d₂) (s : σ) (t : τ) (hs : S s t) :
    RelP S p0.depth (stepP get₁ maxDepth ord deep d₁ obj p0 s) (stepP get₂ maxDepth ord deep d₂ obj p0 t) := by
  unfold stepP
  split
  · exact .intro (pre_depth p0) hs
  · exact bodyP_rel h maxDepth ord deep hd obj _ s t (pre_depth p0) hs

/-- **the one statement**: over two lookups that answer alike on related states, with any two
amounts of fuel that suffice, a call gives the same answer and the same resolver state, the depth
counter as it got it (on every path, errors included), and related reader states -/
theorem resolveP_rel (h : GetRel S get₁ get₂) (maxDepth : Nat)
    (ord : List (Str × DObj) → List (Str × DObj)) (deep : Bool) :
    ∀ (f₁ f₂ : Nat) (obj : DObj) (p : PSt) (s : σ) (t : τ), S s t →
      maxDepth + 1 ≤ f₁ + p.depth → maxDepth + 1 ≤ f₂ + p.depth →
      RelP S p.depth (resolveP get₁ maxDepth ord deep f₁ obj p s) (resolveP get₂ maxDepth ord deep f₂ obj p t) := by
  intro f₁
  induction f₁ with
  | zero =>
    intro f₂ obj p s t hs h1 _
    rw [resolveP_limit get₁ maxDepth ord deep 0 obj p s (by omega), resolveP_limit get₂ maxDepth ord deep f₂ obj p t (by omega)]
    exact .intro rfl hs
  | succ f₁ ih =>
    intro f₂ obj p s t hs h1 h2
    cases f₂ with
    | zero =>
      rw [resolveP_limit get₁ maxDepth ord deep (f₁ + 1) obj p s (by omega), resolveP_limit get₂ maxDepth ord deep 0 obj p t (by omega)]
      exact .intro rfl hs
    | succ f₂ =>
      rw [resolveP_succ, resolveP_succ]
      refine stepP_rel h maxDepth ord deep obj p ?_ s t hs
      intro e q s t hq hs
      obtain ⟨a, p', s', t', e₁, e₂, hp', hs'⟩ := (ih f₂ e { q with depth := q.depth + 1 } s t hs
        (by simp only; omega) (by simp only; omega)).split
      simp only [downP, e₁, e₂]
      exact .intro (by rw [hp']; exact hq) hs'

theorem resolveP_sim {σ : Type} {get : Int → σ → Option PVal × σ} {spec : Int → Option PVal} {I : σ → Prop}
    (h : Sim get spec I) (maxDepth : Nat) (ord : List (Str × DObj) → List (Str × DObj)) (deep : Bool)
    (obj : DObj) (p : PSt) (s : σ) (hs : I s) :
    (resolveP get maxDepth ord deep (maxDepth + 1) obj p s).1
        = (resolveP (pureGet spec) maxDepth ord deep (maxDepth + 1) obj p ()).1 ∧
      I (resolveP get maxDepth ord deep (maxDepth + 1) obj p s).2.2 :=
  have r := resolveP_rel h.getRel maxDepth ord deep (maxDepth + 1) (maxDepth + 1) obj p s () hs (by omega) (by omega)
  ⟨r.1, r.2.2.2⟩

/-- every call gives the depth counter back as it got it -/
theorem resolveP_depth {σ : Type} (get : Int → σ → Option PVal × σ) (maxDepth : Nat)
    (ord : List (Str × DObj) → List (Str × DObj)) (deep : Bool) (obj : DObj) (p : PSt) (s : σ) :
    (resolveP get maxDepth ord deep (maxDepth + 1) obj p s).2.1.depth = p.depth :=
  (resolveP_rel (GetRel.refl get) maxDepth ord deep (maxDepth + 1) (maxDepth + 1) obj p s s rfl (by omega) (by omega)).2.2.1

theorem resolveP_fuel {σ : Type} (get : Int → σ → Option PVal × σ) (maxDepth : Nat)
    (ord : List (Str × DObj) → List (Str × DObj)) (deep : Bool) :
    ∀ (f f' : Nat) (obj : DObj) (p : PSt) (s : σ),
      maxDepth + 1 ≤ f + p.depth → maxDepth + 1 ≤ f' + p.depth →
      resolveP get maxDepth ord deep f obj p s = resolveP get maxDepth ord deep f' obj p s := by
  intro f f' obj p s h1 h2
  have r := resolveP_rel (GetRel.refl get) maxDepth ord deep f f' obj p s s rfl h1 h2
  exact Prod.ext r.1 (Prod.ext r.2.1 r.2.2.2)

/-! ## the public API -/

/-- a call made from outside, on resolver states that start a call alike -/
theorem resolveP_top_rel (h : GetRel S get₁ get₂) (maxDepth : Nat)
    (ord : List (Str × DObj) → List (Str × DObj)) (deep : Bool) (obj : DObj) {p₁ p₂ : PSt} (hp : pre p₁ = pre p₂)
    (s : σ) (t : τ) (hs : S s t) :
    RelP S p₁.depth (resolveP get₁ maxDepth ord deep (maxDepth + 1) obj p₁ s)
      (resolveP get₂ maxDepth ord deep (maxDepth + 1) obj p₂ t) := by
  rw [resolveP_pre get₁, resolveP_pre get₂, ← hp, ← pre_depth p₁]
  exact resolveP_rel h maxDepth ord deep (maxDepth + 1) (maxDepth + 1) obj _ s t hs (by omega) (by omega)

/-- one call on related reader states and resolver states that start a call alike: same answer,
related reader states, resolver states that start the next call alike; and a depth counter at 0
(the resolver between calls) is at 0 again, whatever was called and whatever failed -/
def RelApi {σ τ : Type} (S : σ → τ → Prop) (st₁ : Api.St σ) (x : Option (Option DObj) × Api.St σ)
    (y : Option (Option DObj) × Api.St τ) : Prop :=
  x.1 = y.1 ∧ S x.2.rd y.2.rd ∧ pre x.2.res = pre y.2.res ∧ (st₁.res.depth = 0 → x.2.res.depth = 0)

theorem api_step_rel (h : GetRel S get₁ get₂) (c₁ : σ → σ) (c₂ : τ → τ)
    (hc : ∀ s t, S s t → S (c₁ s) (c₂ t)) (maxDepth : Nat) (ord : List (Str × DObj) → List (Str × DObj))
    (st₁ : Api.St σ) (st₂ : Api.St τ) (hs : S st₁.rd st₂.rd) (hp : pre st₁.res = pre st₂.res) (op : Api.Op) :
    RelApi S st₁ (Api.step get₁ c₁ maxDepth ord st₁ op) (Api.step get₂ c₂ maxDepth ord st₂ op) := by
  obtain ⟨s, p₁⟩ := st₁
  obtain ⟨t, p₂⟩ := st₂
  -- the three things a call is made of: a lookup, the reader's own resolution, the resolver's
  have hg := fun n => h n s t hs
  have hP : ∀ deep obj s1 t1, S s1 t1 →
      RelP S p₁.depth (resolveP get₁ maxDepth ord deep (maxDepth + 1) obj p₁ s1)
        (resolveP get₂ maxDepth ord deep (maxDepth + 1) obj p₂ t1) :=
    fun deep obj s1 t1 hs1 => resolveP_top_rel h maxDepth ord deep obj hp s1 t1 hs1
  -- a call that ends in the resolver, with or without `Reset` behind it
  have hPk : ∀ (r₁ : Option DObj × PSt × σ) (r₂ : Option DObj × PSt × τ), RelP S p₁.depth r₁ r₂ →
      RelApi S ⟨s, p₁⟩ (some r₁.1, { rd := r₁.2.2, res := r₁.2.1 }) (some r₂.1, { rd := r₂.2.2, res := r₂.2.1 }) :=
    fun _ _ r => ⟨congrArg some r.1, r.2.2.2, congrArg pre r.2.1, fun h0 => r.2.2.1.trans h0⟩
  have hPr : ∀ (r₁ : Option DObj × PSt × σ) (r₂ : Option DObj × PSt × τ), RelP S p₁.depth r₁ r₂ →
      RelApi S ⟨s, p₁⟩ (some r₁.1, { rd := r₁.2.2, res := resetP r₁.2.1 })
        (some r₂.1, { rd := r₂.2.2, res := resetP r₂.2.1 }) :=
    fun _ _ r => ⟨congrArg some r.1, r.2.2.2, rfl, fun _ => rfl⟩
  -- a call that starts with a lookup of its own and goes on with the object found
  have hget : ∀ (n : Int) (k₁ : PVal → σ → Option (Option DObj) × Api.St σ)
      (k₂ : PVal → τ → Option (Option DObj) × Api.St τ),
      (∀ v s1 t1, S s1 t1 → RelApi S ⟨s, p₁⟩ (k₁ v s1) (k₂ v t1)) →
      RelApi S ⟨s, p₁⟩
        (match get₁ n s with
          | (none, s1) => (some none, { rd := s1, res := p₁ })
          | (some v, s1) => k₁ v s1)
        (match get₂ n t with
          | (none, t1) => (some none, { rd := t1, res := p₂ })
          | (some v, t1) => k₂ v t1) := by
    intro n k₁ k₂ hk
    obtain ⟨o, s1, t1, e₁, e₂, hs1⟩ := (hg n).split
    rw [e₁, e₂]
    cases o with
    | none => exact ⟨rfl, hs1, hp, id⟩
    | some v => exact hk v s1 t1 hs1
  -- a call that is a lookup, handing out the stored value
  have hstored : ∀ n, (some ((get₁ n s).1.map ofPVal) : Option (Option DObj)) = some ((get₂ n t).1.map ofPVal) :=
    fun n => congrArg (fun o : Option PVal => some (o.map ofPVal)) (hg n).1
  cases op with
  | clear => exact ⟨rfl, hc s t hs, hp, id⟩
  | get n => exact ⟨hstored n, (hg n).2, hp, id⟩
  | pGet n => exact ⟨hstored n, (hg n).2, hp, id⟩
  | pRef n g => exact ⟨hstored n, (hg n).2, rfl, fun _ => rfl⟩
  | resolve n g =>
    exact ⟨congrArg some (resolveR_rel h (.ref n g) s t hs).1, (resolveR_rel h (.ref n g) s t hs).2, hp, id⟩
  | deep n g =>
    exact ⟨congrArg some (resolveDeepR_rel h (.ref n g) s t hs).1, (resolveDeepR_rel h (.ref n g) s t hs).2, hp, id⟩
  | deepObj n =>
    exact hget n _ _ fun v s1 t1 hs1 =>
      ⟨congrArg some (resolveDeepR_rel h (ofPVal v) s1 t1 hs1).1, (resolveDeepR_rel h (ofPVal v) s1 t1 hs1).2, hp, id⟩
  | pResolve n g => exact hPk _ _ (hP false _ s t hs)
  | pDeep n g => exact hPk _ _ (hP true _ s t hs)
  | pRefDeep n g => exact hPr _ _ (hP true _ s t hs)
  | pDeepObj n => exact hget n _ _ fun v s1 t1 hs1 => hPk _ _ (hP true _ s1 t1 hs1)
  | pGetResolved n => exact hget n _ _ fun v s1 t1 hs1 => hPr _ _ (hP false _ s1 t1 hs1)
  | pGetDeep n => exact hget n _ _ fun v s1 t1 hs1 => hPr _ _ (hP true _ s1 t1 hs1)
  | pCont n =>
    refine hget n _ _ fun v s1 t1 hs1 => ?_
    cases ofPVal v with
    | dict kv => exact hPr _ _ (hP true _ s1 t1 hs1)
    | arr xs => exact hPr _ _ (hP true _ s1 t1 hs1)
    | _ => exact ⟨rfl, hs1, hp, id⟩
  | pReset => exact ⟨rfl, hs, rfl, fun _ => rfl⟩

/-- between calls the depth counter is 0, whatever was called and whatever failed -/
theorem api_step_depth {σ : Type} (get : Int → σ → Option PVal × σ) (clear : σ → σ) (maxDepth : Nat)
    (ord : List (Str × DObj) → List (Str × DObj)) (st : Api.St σ) (op : Api.Op) (h : st.res.depth = 0) :
    (Api.step get clear maxDepth ord st op).2.res.depth = 0 :=
  (api_step_rel (GetRel.refl get) clear clear (fun _ _ h => congrArg clear h) maxDepth ord st st rfl rfl op).2.2.2 h

theorem api_run_rel (h : GetRel S get₁ get₂) (c₁ : σ → σ) (c₂ : τ → τ)
    (hc : ∀ s t, S s t → S (c₁ s) (c₂ t)) (maxDepth : Nat) (ord : List (Str × DObj) → List (Str × DObj)) :
    ∀ (ops : List Api.Op) (st₁ : Api.St σ) (st₂ : Api.St τ), S st₁.rd st₂.rd → pre st₁.res = pre st₂.res →
      Api.run get₁ c₁ maxDepth ord st₁ ops = Api.run get₂ c₂ maxDepth ord st₂ ops
  | [], _, _, _, _ => rfl
  | op :: ops, st₁, st₂, hs, hp => by
    obtain ⟨r1, r2, r3, _⟩ := api_step_rel h c₁ c₂ hc maxDepth ord st₁ st₂ hs hp op
    simp only [Api.run]
    rw [r1, api_run_rel h c₁ c₂ hc maxDepth ord ops _ _ r2 r3]

/-- **under every sequence of public calls the cached reader answers like the stateless lookup**, and
every answer is that of the same call made alone with a fresh resolver: between calls the reader's
state satisfies `I` and the depth counter is 0, which is all a call sees of the history -/
theorem api_run_alone {σ : Type} {get : Int → σ → Option PVal × σ} {spec : Int → Option PVal} {I : σ → Prop}
    (h : Sim get spec I) (clear : σ → σ) (hc : ∀ s, I s → I (clear s)) (maxDepth : Nat)
    (ord : List (Str × DObj) → List (Str × DObj)) :
    ∀ (ops : List Api.Op) (st : Api.St σ), I st.rd → st.res.depth = 0 →
      Api.run get clear maxDepth ord st ops =
        ops.map fun op => (Api.step (pureGet spec) id maxDepth ord { rd := (), res := {} } op).1
  | [], _, _, _ => rfl
  | op :: ops, st, hs, hp => by
    obtain ⟨r1, r2, _, r4⟩ := api_step_rel h.getRel clear id (fun s _ => hc s) maxDepth ord st
      { rd := (), res := {} } hs (pre_zero _ hp) op
    simp only [Api.run, List.map_cons]
    rw [r1, api_run_alone h clear hc maxDepth ord ops _ r2 (r4 hp)]

/-- **the answers do not depend on what the resolver was used for before** -/
theorem api_run_resolver_history_free {σ : Type} (get : Int → σ → Option PVal × σ) (clear : σ → σ) (maxDepth : Nat)
    (ord : List (Str × DObj) → List (Str × DObj)) :
    ∀ (ops : List Api.Op) (st1 st2 : Api.St σ), st1.rd = st2.rd → st1.res.depth = 0 → st2.res.depth = 0 →
      Api.run get clear maxDepth ord st1 ops = Api.run get clear maxDepth ord st2 ops :=
  fun ops st1 st2 hrd h1 h2 =>
    api_run_rel (GetRel.refl get) clear clear (fun _ _ h => congrArg clear h) maxDepth ord ops st1 st2 hrd
      ((pre_zero _ h1).trans (pre_zero _ h2).symm)

end Tabula.XrefR
