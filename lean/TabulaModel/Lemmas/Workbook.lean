import TabulaModel.Model.Workbook
import TabulaModel.Lemmas.Sheet
import TabulaModel.Lemmas.ListFold
import TabulaModel.Lemmas.DivGuard
/-!
Lemmas for `Model/Workbook.lean` (C17, workbook level): grid shape, the dimension pass covers
every write, the merge pass position by position, the loader end to end (`loadSheet_eq`, `loadSheet_get`,
`loadSheet_shown`), the accessors `Reader.Sheet`, `Sheet.Cell` and the sheet selection as list lookups.
-/
namespace Tabula.Wb
open Tabula.A1 Tabula.Sheet

/-- every row of the grid has `ncols` cells -/
def Rect (ncols : Nat) (g : Grid) : Prop := ∀ row ∈ g, row.length = ncols

theorem rect_rows_ne {n : Nat} {g : Grid} (h : Rect (n + 1) g) : ∀ row ∈ g, row ≠ [] := by
  intro row hrow e
  have := h row hrow
  rw [e] at this; cases this

theorem List.Perm.eq_of_length_le_one {α : Type} {l l' : List α} (h : l.Perm l') (h1 : l.length ≤ 1) :
    l' = l := by
  match l, h1 with
  | [], _ => exact List.perm_nil.mp h.symm
  | [a], _ => exact List.perm_singleton.mp h.symm

theorem rect_emptyGrid (m n : Nat) : Rect n (emptyGrid m n) := by
  intro row h
  simp only [emptyGrid, List.mem_replicate] at h
  rw [h.2]; simp

theorem length_emptyGrid (m n : Nat) : (emptyGrid m n).length = m := by simp [emptyGrid]

theorem rect_modify {n : Nat} {g : Grid} (h : Rect n g) (r c : Nat) (f : Cell → Cell) :
    Rect n (g.modify r c f) := by
  unfold Grid.modify
  split
  · exact h
  · rename_i row hrow
    split
    · exact h
    · intro x hx
      rcases List.mem_or_eq_of_mem_set hx with hx | hx
      · exact h x hx
      · rw [hx, List.length_set]; exact h row (List.mem_of_getElem? hrow)

/-- the passes of the loader change the grid through `Grid.modify` only: what every `modify`
preserves (the number of rows, the length of the rows), they preserve -/
theorem placeRows_preserves (P : Grid → Prop) (hP : ∀ g r c f, P g → P (g.modify r c f))
    (shared : List Str) (rows : List RowXML) (g : Grid) (h : P g) : P (rows.foldl (placeRow shared) g) := by
  rw [placeRows_eq_writes]
  exact List.foldlRecOn _ _ h fun g hg w _ => hP g w.1 w.2.1 _ hg

theorem applyRegionC_preserves (P : Grid → Prop) (hP : ∀ g r c f, P g → P (g.modify r c f))
    (ncols : Nat) (g : Grid) (m : Region) (h : P g) : P (applyRegionC ncols g m) :=
  List.foldlRecOn _ _ h fun g hg rc _ => hP g rc.1 rc.2 _ hg

theorem applyRegions_preserves (P : Grid → Prop) (hP : ∀ g r c f, P g → P (g.modify r c f))
    (ncols : Nat) (ms : List Region) (g : Grid) (h : P g) : P (ms.foldl (applyRegionC ncols) g) :=
  List.foldlRecOn _ _ h fun g hg m _ => applyRegionC_preserves P hP ncols g m hg

theorem length_modify_eq (k : Nat) (g : Grid) (r c : Nat) (f : Cell → Cell) (h : g.length = k) :
    (g.modify r c f).length = k := (Grid.modify_length g r c f).trans h

theorem rect_placeRows {n : Nat} (shared : List Str) (rows : List RowXML) {g : Grid} (h : Rect n g) :
    Rect n (rows.foldl (placeRow shared) g) :=
  placeRows_preserves (Rect n) (fun _ r c f h => rect_modify h r c f) shared rows g h

theorem length_placeRows (shared : List Str) (rows : List RowXML) (g : Grid) :
    (rows.foldl (placeRow shared) g).length = g.length :=
  placeRows_preserves _ (length_modify_eq g.length) shared rows g rfl

theorem length_applyRegionC (ncols : Nat) (g : Grid) (m : Region) :
    (applyRegionC ncols g m).length = g.length :=
  applyRegionC_preserves _ (length_modify_eq g.length) ncols g m rfl

theorem length_applyRegions (ncols : Nat) (ms : List Region) (g : Grid) :
    (ms.foldl (applyRegionC ncols) g).length = g.length :=
  applyRegions_preserves _ (length_modify_eq g.length) ncols ms g rfl

theorem rect_applyRegions {n : Nat} (ncols : Nat) (ms : List Region) {g : Grid} (h : Rect n g) :
    Rect n (ms.foldl (applyRegionC ncols) g) :=
  applyRegions_preserves (Rect n) (fun _ r c f h => rect_modify h r c f) ncols ms g h

theorem get_isSome_of_rect {n : Nat} {g : Grid} (h : Rect n g) (r c : Nat) :
    (g.get r c).isSome = (decide (r < g.length) && decide (c < n)) := by
  unfold Grid.get
  by_cases hr : r < g.length
  · have hrow := h g[r] (List.getElem_mem hr)
    rw [List.getElem?_eq_getElem hr]
    simp only [Option.bind_some, hr, decide_true, Bool.true_and]
    by_cases hc : c < n
    · rw [List.getElem?_eq_getElem (by omega)]; simp [hc]
    · rw [List.getElem?_eq_none (by omega)]; simp [hc]
  · rw [List.getElem?_eq_none (by omega)]; simp [hr]

def rowStep (m : Nat) (r : RowXML) : Nat := if r.r > (m : Int) then r.r.toNat else m

theorem maxRowOf_eq (rows : List RowXML) : maxRowOf rows = rows.foldl rowStep 0 := rfl

theorem rowStep_eq_max : rowStep = fun m (r : RowXML) => max m r.r.toNat := by
  funext m r; unfold rowStep; split <;> omega

def colStep (m : Nat) (c : CellXML) : Nat :=
  match refCol c.ref with
  | some col => if col > m then col else m
  | none => m

theorem maxColOf_eq (rows : List RowXML) :
    maxColOf rows = rows.foldl (fun m (r : RowXML) => r.cells.foldl colStep m) 0 := rfl

theorem colStep_eq_max : colStep = fun m (c : CellXML) => max m ((refCol c.ref).getD 0) := by
  funext m c; unfold colStep
  cases refCol c.ref with
  | none => simp
  | some col => simp only [Option.getD_some]; split <;> omega

/-- **the dimension pass computes least upper bounds**: of the row numbers … -/
theorem maxRowOf_le_iff (rows : List RowXML) (M : Nat) :
    maxRowOf rows ≤ M ↔ ∀ row ∈ rows, row.r ≤ (M : Int) := by
  rw [maxRowOf_eq, rowStep_eq_max, foldl_max_le_iff]
  simp only [Nat.zero_le, true_and]
  exact forall₂_congr fun _ _ => by omega

/-- … and of the columns of the references that parse -/
theorem maxColOf_le_iff (rows : List RowXML) (M : Nat) :
    maxColOf rows ≤ M ↔ ∀ row ∈ rows, ∀ x ∈ row.cells, ∀ col, refCol x.ref = some col → col ≤ M := by
  rw [maxColOf_eq, colStep_eq_max, ← List.foldl_flatMap, foldl_max_le_iff]
  simp only [Nat.zero_le, true_and, List.mem_flatMap]
  constructor
  · intro h row hrow x hx col hc
    have := h x ⟨row, hrow, hx⟩
    rwa [hc] at this
  · rintro h x ⟨row, hrow, hx⟩
    cases hc : refCol x.ref with
    | none => exact Nat.zero_le _
    | some col => exact h row hrow x hx col hc

theorem row_le_maxRow (rows : List RowXML) (row : RowXML) (h : row ∈ rows) :
    row.r ≤ (maxRowOf rows : Int) :=
  (maxRowOf_le_iff rows _).mp (Nat.le_refl _) row h

theorem col_le_maxCol (rows : List RowXML) (row : RowXML) (h : row ∈ rows)
    (x : CellXML) (hx : x ∈ row.cells) (col : Nat) (hc : refCol x.ref = some col) :
    col ≤ maxColOf rows :=
  (maxColOf_le_iff rows _).mp (Nat.le_refl _) row h x hx col hc

/-- the `<c>` elements addressed to position `(r,c)` (0-indexed), in source order: those in a
`<row>` numbered `r+1` whose reference parses to column `c` -/
def addressed (rows : List RowXML) (r c : Nat) : List CellXML :=
  rows.flatMap fun row => if row.r = (r : Int) + 1 then row.cells.filter (fun cx => refCol cx.ref == some c) else []

theorem filter_rowWrites (n r c : Nat) (hr : r < n) (row : RowXML) :
    ((rowWrites n row).filter (fun w => w.1 = r ∧ w.2.1 = c)).map (·.2.2) =
      if row.r = (r : Int) + 1 then row.cells.filter (fun cx => refCol cx.ref == some c) else [] := by
  unfold rowWrites
  by_cases h : row.r = (r : Int) + 1
  · have e : (row.r - 1).toNat = r := by omega
    rw [if_neg (by omega), if_neg (by omega), if_pos h, e, List.filter_filterMap, List.map_filterMap,
      ← List.filterMap_eq_filter]
    congr 1
    funext x
    cases hx : refCol x.ref with
    | none => simp [Option.guard, hx]
    | some col => by_cases hc : col = c <;> simp [Option.guard, Option.filter, hx, hc]
  · rw [if_neg h]
    split
    · rfl
    · split
      · rfl
      · have e : (row.r - 1).toNat ≠ r := by omega
        generalize (row.r - 1).toNat = ri at e
        rw [List.filter_filterMap, List.map_filterMap, List.filterMap_eq_nil_iff]
        intro x _
        cases refCol x.ref <;> simp [Option.filter, e]

theorem filter_writes (n r c : Nat) (hr : r < n) (rows : List RowXML) :
    ((writes n rows).filter (fun w => w.1 = r ∧ w.2.1 = c)).map (·.2.2) = addressed rows r c := by
  simp only [writes, addressed, List.filter_flatMap, List.map_flatMap, filter_rowWrites n r c hr]

theorem addressed_in_grid (rows : List RowXML) (r c : Nat) (h : addressed rows r c ≠ []) :
    r < maxRowOf rows ∧ c ≤ maxColOf rows := by
  unfold addressed at h
  obtain ⟨x, hx⟩ := List.exists_mem_of_ne_nil _ h
  simp only [List.mem_flatMap] at hx
  obtain ⟨row, hrow, hx⟩ := hx
  split at hx
  · rename_i hr
    simp only [List.mem_filter, beq_iff_eq] at hx
    have h1 := row_le_maxRow rows row hrow
    exact ⟨by omega, col_le_maxCol rows row hrow x hx.1 c hx.2⟩
  · cases hx

/-- position `(r,c)` lies in the region as declared -/
def covers (m : Region) (r c : Nat) : Prop := (m.sr ≤ r ∧ r ≤ m.er) ∧ (m.sc ≤ c ∧ c ≤ m.ec)

instance (m : Region) (r c : Nat) : Decidable (covers m r c) := by unfold covers; infer_instance

theorem clipEnd_succ {a n : Nat} (hn : n ≠ 0) : (if a + 1 ≤ n then a else n - 1) + 1 = min (a + 1) n := by
  split <;> omega

/-- the positions the merge pass visits for a region: the rectangle of its clipped rows and columns -/
theorem visited_eq (nrows ncols : Nat) (m : Region) :
    visited nrows ncols m = rect m.sr (clipRows nrows m) m.sc (clipCols ncols m) := by
  unfold visited clipRows clipCols
  split
  · rename_i h
    -- no row or no column: neither side has a position
    rcases h with rfl | rfl
    · simp [rect]
    · simp [rect]
  · rename_i h
    unfold regionCells clipRegion rect
    simp only [clipEnd_succ (a := m.er) (n := nrows) (by omega), clipEnd_succ (a := m.ec) (n := ncols) (by omega)]

/-- one direction of a clipped rectangle: from `s`, as far as `e` and the grid go -/
theorem clip_iff {s e n x : Nat} : (s ≤ x ∧ x < s + (min (e + 1) n - s)) ↔ (s ≤ x ∧ x ≤ e) ∧ x < n := by omega

theorem mem_visited (nrows ncols : Nat) (m : Region) (r c : Nat) :
    (r, c) ∈ visited nrows ncols m ↔ covers m r c ∧ r < nrows ∧ c < ncols := by
  rw [visited_eq, mem_rect, clipRows, clipCols, clip_iff, clip_iff]
  exact and_and_and_comm

/-- one region: value and type stay, `merged` is set on the positions of the region inside the
grid, `root` on its top-left if that is one of them -/
theorem get_applyRegionC (ncols : Nat) (g : Grid) (m : Region) (r c : Nat) :
    ((applyRegionC ncols g m).get r c).map marksOf =
      ((g.get r c).map marksOf).map fun k =>
        k.mark (decide (covers m r c ∧ r < g.length ∧ c < ncols)) (decide (r = m.sr ∧ c = m.sc)) := by
  unfold applyRegionC
  rw [get_foldl_marks]
  simp only [mem_visited]

theorem get_applyRegions (ncols : Nat) (ms : List Region) (g : Grid) (r c : Nat) :
    ((ms.foldl (applyRegionC ncols) g).get r c).map marksOf =
      ((g.get r c).map marksOf).map fun k => ms.foldl (fun k m =>
        k.mark (decide (covers m r c ∧ r < g.length ∧ c < ncols)) (decide (r = m.sr ∧ c = m.sc))) k := by
  induction ms generalizing g with
  | nil => rw [List.foldl_nil]; cases g.get r c <;> rfl
  | cons m ms ih =>
    rw [List.foldl_cons, ih, length_applyRegionC, get_applyRegionC, Option.map_map]
    rfl

theorem foldl_mark (ms : List Region) (hit corner : Region → Bool) (k : CellMarks) :
    ms.foldl (fun k m => k.mark (hit m) (corner m)) k =
      { k with merged := k.merged || ms.any hit, root := k.root || ms.any fun m => hit m && corner m } := by
  induction ms generalizing k with
  | nil => simp
  | cons m ms ih => rw [List.foldl_cons, ih]; simp [CellMarks.mark, Bool.or_assoc]

theorem get_emptyGrid (m n r c : Nat) (hr : r < m) (hc : c < n) : (emptyGrid m n).get r c = some {} := by
  unfold emptyGrid Grid.get
  rw [List.getElem?_replicate]
  simp [hr, hc]

/-- the merged regions the file declares (ranges that parse) -/
def fileRegions (x : SheetXML) : List Region := x.merges.filterMap parseRegion

/-- the cell the file stores for position `(r,c)`: the addressed `<c>` elements applied in source
order to an empty cell (one element, as producers write: that element's content) -/
def fileCell (shared : List Str) (x : SheetXML) (r c : Nat) : Cell :=
  (addressed x.rows r c).foldl (fun cell cx => cellContent shared cx cell) {}

/-- **the merged regions that are applied**, from the file only: the longest prefix of the
declared regions whose rectangles, clipped to the grid of the dimension pass, add up to at most
the cells of that grid (`Sheet.appliedPrefix`; the merge loop of `parseWorksheet` stops at the
first region that exceeds what is left of this budget).  For every sheet whose regions' clipped
areas fit the grid — in particular pairwise disjoint regions, i.e. every valid sheet — these are
all declared regions (`applied_all_of_fit` in `Lemmas/WorkbookBudget.lean`,
`C17B.all_regions_applied_of_disjoint`). -/
def appliedRegions (x : SheetXML) : List Region :=
  appliedPrefix (maxRowOf x.rows) (maxColOf x.rows + 1) (fileRegions x) (gridSize x)

/-- some applied region covers the position -/
def isCovered (x : SheetXML) (r c : Nat) : Bool := (appliedRegions x).any fun m => decide (covers m r c)

/-- the position is the top-left cell of an applied region -/
def isRoot (x : SheetXML) (r c : Nat) : Bool :=
  (appliedRegions x).any fun m => decide (covers m r c) && decide (r = m.sr ∧ c = m.sc)

/-- **the displayed value** the file gives a position: blank under an applied merged region except
at a top-left corner, else the stored value -/
def displayed (shared : List Str) (x : SheetXML) (r c : Nat) : Str :=
  if isCovered x r c && !isRoot x r c then [] else (fileCell shared x r c).value

theorem cellContent_flags (shared : List Str) (x : CellXML) (old : Cell) :
    (cellContent shared x old).merged = old.merged ∧ (cellContent shared x old).root = old.root ∧
      (cellContent shared x old).mergeRows = old.mergeRows ∧ (cellContent shared x old).mergeCols = old.mergeCols := by
  rcases cellContent_cases shared x old with h | ⟨t, v, _, h⟩ <;> rw [h] <;> exact ⟨rfl, rfl, rfl, rfl⟩

theorem foldl_cellContent_flags (shared : List Str) (xs : List CellXML) (old : Cell) :
    let res := xs.foldl (fun cell cx => cellContent shared cx cell) old
    res.merged = old.merged ∧ res.root = old.root ∧ res.mergeRows = old.mergeRows ∧ res.mergeCols = old.mergeCols := by
  refine List.foldlRecOn (motive := fun res : Cell => res.merged = old.merged ∧ res.root = old.root ∧
    res.mergeRows = old.mergeRows ∧ res.mergeCols = old.mergeCols) xs _ ⟨rfl, rfl, rfl, rfl⟩ fun cell h x _ => ?_
  obtain ⟨a', b', c', d'⟩ := cellContent_flags shared x cell
  exact ⟨a'.trans h.1, b'.trans h.2.1, c'.trans h.2.2.1, d'.trans h.2.2.2⟩

theorem fileCell_typed (shared : List Str) (x : SheetXML) (r c : Nat) :
    (fileCell shared x r c).type = .empty → (fileCell shared x r c).value = [] :=
  List.foldlRecOn (motive := fun cell => cell.type = .empty → cell.value = []) _ _ (fun _ => rfl)
    fun old h cx _ => cellContent_typed shared cx old h

theorem length_visited (nrows ncols : Nat) (m : Region) :
    (visited nrows ncols m).length = clipArea nrows ncols m := by
  rw [visited_eq, length_rect]; rfl

theorem applyRegionC_neutral (ncols : Nat) (g : Grid) (m : Region) (h : clipArea g.length ncols m = 0) :
    applyRegionC ncols g m = g := by
  unfold applyRegionC
  have : visited g.length ncols m = [] := List.eq_nil_of_length_eq_zero (by rw [length_visited, h])
  rw [this]; rfl

/-- **`parseWorksheetPart` in one equation**: the size test (a division in the Go code, so that
no product can overflow) says that the grid is at most what is available; a part that passes it
becomes a sheet with the part's name and dimensions and the grid of the three passes -/
theorem loadSheet_eq (shared : List Str) (i used : Nat) (fresh : Bool) (x : SheetXML) :
    loadSheet shared i used fresh x =
      if gridSize x ≤ maxGridCells - used + allowance fresh x then
        some { name := x.name, index := i,
               rows := mergeLoop (applyRegionC (maxColOf x.rows + 1)) (maxRowOf x.rows) (maxColOf x.rows + 1)
                 (fileRegions x) (gridSize x)
                 (x.rows.foldl (placeRow shared) (emptyGrid (maxRowOf x.rows) (maxColOf x.rows + 1))),
               maxCol := maxColOf x.rows, regions := fileRegions x }
      else none := by
  unfold loadSheet gridSize
  simp only [div_guard_iff]
  simp only [← Nat.not_le, ite_not]
  rfl

theorem loadSheet_some {shared : List Str} {i used : Nat} {fresh : Bool} {x : SheetXML} {s : Sheet}
    (h : loadSheet shared i used fresh x = some s) :
    s.name = x.name ∧ s.index = i ∧ s.maxCol = maxColOf x.rows ∧ s.regions = fileRegions x ∧
      s.rows = (appliedRegions x).foldl (applyRegionC (maxColOf x.rows + 1))
        (x.rows.foldl (placeRow shared) (emptyGrid (maxRowOf x.rows) (maxColOf x.rows + 1))) := by
  rw [loadSheet_eq] at h
  split at h
  · cases h
    refine ⟨rfl, rfl, rfl, rfl, ?_⟩
    -- the regions the loop skips have no cell in a grid of this length
    exact mergeLoop_eq_foldl _ _ _ (fun g => g.length = maxRowOf x.rows)
      (fun g m hg => by rw [length_applyRegionC]; exact hg)
      (fun g m hg hz => applyRegionC_neutral _ g m (by rw [hg]; exact hz))
      _ _ _ (by rw [length_placeRows, length_emptyGrid])
  · cases h

theorem loadSheet_shape {shared : List Str} {i used : Nat} {fresh : Bool} {x : SheetXML} {s : Sheet}
    (h : loadSheet shared i used fresh x = some s) :
    s.rows.length = maxRowOf x.rows ∧ Rect (s.maxCol + 1) s.rows := by
  obtain ⟨_, _, h3, _, h5⟩ := loadSheet_some h
  rw [h5, h3]
  refine ⟨?_, ?_⟩
  · rw [length_applyRegions, length_placeRows, length_emptyGrid]
  · exact rect_applyRegions _ _ (rect_placeRows _ _ (rect_emptyGrid _ _))

/-- **every position of the grid of a loaded sheet**: value and type are those the file stores
for the position, `merged`/`root` say whether an applied region covers it / starts at it -/
theorem loadSheet_get {shared : List Str} {i used : Nat} {fresh : Bool} {x : SheetXML} {s : Sheet}
    (h : loadSheet shared i used fresh x = some s) (r c : Nat) (hr : r < maxRowOf x.rows) (hc : c ≤ maxColOf x.rows) :
    (s.rows.get r c).map marksOf =
      some ⟨(fileCell shared x r c).value, (fileCell shared x r c).type, isCovered x r c, isRoot x r c⟩ := by
  obtain ⟨_, _, _, _, h5⟩ := loadSheet_some h
  simp only [h5, get_applyRegions, foldl_mark]
  have hfold : ((writes (maxRowOf x.rows) x.rows).filter fun w => w.1 = r ∧ w.2.1 = c).foldl
      (fun cell w => cellContent shared w.2.2 cell) {} = fileCell shared x r c := by
    unfold fileCell
    rw [← filter_writes (maxRowOf x.rows) r c hr x.rows, List.foldl_map]
  rw [length_placeRows, length_emptyGrid, placeRows_eq_writes,
    get_foldl_applyWrite, get_emptyGrid _ _ _ _ hr (by omega), length_emptyGrid, Option.map_some, hfold]
  obtain ⟨hm, hroot, _, _⟩ := foldl_cellContent_flags shared (addressed x.rows r c) {}
  have hin : ∀ m : Region, decide (covers m r c ∧ r < maxRowOf x.rows ∧ c < maxColOf x.rows + 1) = decide (covers m r c) := by
    intro m
    have : c < maxColOf x.rows + 1 := by omega
    simp [hr, this]
  have hm' : (fileCell shared x r c).merged = false := hm
  have hr' : (fileCell shared x r c).root = false := hroot
  unfold isCovered isRoot marksOf
  simp [hin, hm', hr']

/-- **what a loaded grid displays**: inside the grid of the dimension pass the displayed value of
the position, and there is no cell outside -/
theorem loadSheet_shown {shared : List Str} {i used : Nat} {fresh : Bool} {x : SheetXML} {s : Sheet}
    (h : loadSheet shared i used fresh x = some s) (r c : Nat) :
    (s.rows.get r c).map cellText =
      if r < maxRowOf x.rows ∧ c ≤ maxColOf x.rows then some (displayed shared x r c) else none := by
  by_cases hin : r < maxRowOf x.rows ∧ c ≤ maxColOf x.rows
  · obtain ⟨cell, hcell, e1, _, e3, e4⟩ := map_marksOf_eq_some (loadSheet_get h r c hin.1 hin.2)
    unfold cellText displayed
    rw [if_pos hin, hcell, Option.map_some, e1, e3, e4]
  · obtain ⟨h4, h5⟩ := loadSheet_shape h
    have := get_isSome_of_rect h5 r c
    rw [h4, (loadSheet_some h).2.2.1] at this
    rw [if_neg hin, Option.map_eq_none_iff, ← Option.not_isSome_iff_eq_none, this]
    simp only [Bool.and_eq_true, decide_eq_true_eq]
    omega

theorem maxRow_foldl_le (rows : List RowXML) (m0 M : Nat) (h0 : m0 ≤ M) (h : ∀ row ∈ rows, row.r ≤ (M : Int)) :
    rows.foldl rowStep m0 ≤ M := by
  rw [rowStep_eq_max, foldl_max_le_iff]
  exact ⟨h0, fun row hr => by have := h row hr; omega⟩

/-- the displayed value depends on the file through the addressed elements, the grid dimensions and
the merge list only -/
theorem displayed_congr (shared : List Str) (x x' : SheetXML) (r c : Nat)
    (hr : maxRowOf x'.rows = maxRowOf x.rows) (hc : maxColOf x'.rows = maxColOf x.rows)
    (hm : x'.merges = x.merges) (ha : addressed x'.rows r c = addressed x.rows r c) :
    displayed shared x' r c = displayed shared x r c := by
  have : appliedRegions x' = appliedRegions x := by
    unfold appliedRegions fileRegions gridSize; rw [hr, hc, hm]
  unfold displayed isCovered isRoot fileCell
  rw [ha, this]

/-- the Go idiom `if i < 0 || i >= len(l) { return nil }; return l[i]`: the upper test is the lookup's own -/
theorem getElem?_guard {α : Type} (l : List α) (i : Int) :
    (if i < 0 ∨ i ≥ (l.length : Int) then none else l[i.toNat]?) = if i < 0 then none else l[i.toNat]? := by
  by_cases h : i < 0
  · rw [if_pos (Or.inl h), if_pos h]
  · rw [if_neg h]
    split
    · rw [List.getElem?_eq_none (by omega)]
    · rfl

/-- `Reader.Sheet(i)`: nil for a negative index, else the list lookup (nil beyond the end) -/
theorem Reader.sheet_eq (r : Reader) (i : Int) :
    r.sheet i = if i < 0 then none else r.sheets[i.toNat]? := getElem?_guard r.sheets i

/-- **the sheet selection of `TextWithOptions` and `markdown`**: all sheets for an empty list, else
`Reader.Sheet` mapped over the list (entries that name no sheet are dropped) -/
theorem selectSheets_eq (r : Reader) (sel : List Int) :
    selectSheets r sel = if sel = [] then r.sheets else sel.filterMap r.sheet := by
  unfold selectSheets
  cases sel with
  | nil => rfl
  | cons a as =>
    rw [if_neg (by simp), if_neg (by simp)]
    congr 1
    funext idx
    rw [Reader.sheet_eq]
    by_cases h : 0 ≤ idx ∧ idx < (r.sheets.length : Int)
    · rw [if_pos h, if_neg (by omega)]
    · rw [if_neg h]
      split
      · rfl
      · rw [List.getElem?_eq_none (by omega)]

/-- `Sheet.Cell(row, col)`: nil for a negative argument, else the grid lookup (nil outside) -/
theorem Sheet.cell_eq (s : Sheet) (row col : Int) :
    s.cell row col = if row < 0 ∨ col < 0 then none else s.rows.get row.toNat col.toNat := by
  have h : s.cell row col = (if row < 0 ∨ row ≥ (s.rows.length : Int) then none else s.rows[row.toNat]?).bind
      fun cells => if col < 0 ∨ col ≥ (cells.length : Int) then none else cells[col.toNat]? := by
    unfold Sheet.cell; split
    · rfl
    · cases s.rows[row.toNat]? <;> rfl
  rw [h, getElem?_guard]
  simp only [getElem?_guard, Grid.get]
  by_cases hr : row < 0
  · simp [hr]
  · by_cases hc : col < 0
    · cases s.rows[row.toNat]? <;> simp [hr, hc]
    · simp [hr, hc]
end Tabula.Wb
