import TabulaModel.Model.OptHeap
import TabulaModel.Lemmas.BuilderCalls
/-!
The heap-level configuration methods (`Model/OptHeap.lean`) refine the value-level ones of
`Model/Builder.lean`: with `ExtractOptions.clone` copying the page list into a backing array of
its own, every write of a later `append` goes to an array allocated after the clone, so no
Extractor that existed before sees it — for every growth policy of `append`.
-/
namespace Tabula.OptHeap
open Tabula.Builder

/-- the slice is within a live backing array of the heap -/
def SlOk (H : Heap) (s : Slice) : Prop :=
  s.arr < H.next ∧ s.len ≤ s.cap ∧ (H.arr s.arr).length = s.cap

def OptOk (H : Heap) : Option Slice → Prop
  | none => True
  | some s => SlOk H s

/-- the slice (if any) lives in an array allocated at `n` or later -/
def FreshFrom (n : Nat) : Option Slice → Prop
  | none => True
  | some s => n ≤ s.arr

/-- `H'` has everything `H` had, unchanged below `n` -/
def Keeps (n : Nat) (H H' : Heap) : Prop := H.next ≤ H'.next ∧ ∀ i, i < n → H'.arr i = H.arr i

theorem Keeps.refl (n : Nat) (H : Heap) : Keeps n H H := ⟨Nat.le_refl _, fun _ _ => rfl⟩

theorem Keeps.trans {n : Nat} {H1 H2 H3 : Heap} (a : Keeps n H1 H2) (b : Keeps n H2 H3) : Keeps n H1 H3 :=
  ⟨Nat.le_trans a.1 b.1, fun i hi => (b.2 i hi).trans (a.2 i hi)⟩

theorem Keeps.mono {n m : Nat} {H H' : Heap} (h : Keeps n H H') (hm : m ≤ n) : Keeps m H H' :=
  ⟨h.1, fun i hi => h.2 i (Nat.lt_of_lt_of_le hi hm)⟩

/-- from `(H, s)` to `(H', s')` the slice has gained `xs`, lives in arrays allocated at `n` or later,
and nothing below `n` was written -/
structure Grown (n : Nat) (H : Heap) (s : Option Slice) (xs : List Int) (H' : Heap) (s' : Option Slice) :
    Prop where
  val : readOpt H' s' = readOpt H s ++ xs
  ok : OptOk H' s'
  fresh : FreshFrom n s'
  keeps : Keeps n H H'

theorem Grown.trans {n : Nat} {H H1 H2 : Heap} {s s1 s2 : Option Slice} {xs ys : List Int}
    (a : Grown n H s xs H1 s1) (b : Grown n H1 s1 ys H2 s2) : Grown n H s (xs ++ ys) H2 s2 :=
  ⟨by rw [b.val, a.val, List.append_assoc], b.ok, b.fresh, a.keeps.trans b.keeps⟩

theorem alloc_keeps (H : Heap) (a : List Int) : Keeps H.next H (H.alloc a).1 := by
  refine ⟨by simp [Heap.alloc], ?_⟩
  intro i hi
  have : i ≠ H.next := by omega
  simp [Heap.alloc, this]

theorem alloc_get (H : Heap) (a : List Int) : (H.alloc a).1.arr H.next = a := by simp [Heap.alloc]

theorem alloc_id (H : Heap) (a : List Int) : (H.alloc a).2 = H.next := rfl

theorem alloc_next (H : Heap) (a : List Int) : (H.alloc a).1.next = H.next + 1 := rfl

theorem readSlice_keeps {H H' : Heap} (h : Keeps H.next H H') {s : Slice} (hs : SlOk H s) :
    readSlice H' s = readSlice H s ∧ SlOk H' s := by
  have := h.2 s.arr hs.1
  refine ⟨by simp [readSlice, this], ?_, hs.2.1, by rw [this]; exact hs.2.2⟩
  exact Nat.lt_of_lt_of_le hs.1 h.1

theorem readOpt_keeps {H H' : Heap} (h : Keeps H.next H H') {s : Option Slice} (hs : OptOk H s) :
    readOpt H' s = readOpt H s ∧ OptOk H' s := by
  cases s with
  | none => exact ⟨rfl, trivial⟩
  | some s => exact readSlice_keeps h hs

theorem readSlice_length {H : Heap} {s : Slice} (hs : SlOk H s) : (readSlice H s).length = s.len := by
  simp only [readSlice, List.length_take]
  have := hs.2.1; have := hs.2.2; omega

/-- **clone_copies**: `ExtractOptions.clone` leaves every array in use as it was, and the copy
shows the same pages from an array of its own -/
theorem cloneDeep_spec (H : Heap) (s : Option Slice) (hs : OptOk H s) :
    Grown H.next H s [] (cloneDeep H s).1 (cloneDeep H s).2 := by
  cases s with
  | none => exact ⟨rfl, trivial, trivial, Keeps.refl _ _⟩
  | some s =>
    have hl := readSlice_length hs
    simp only [cloneDeep]
    refine ⟨?_, ?_, ?_, alloc_keeps _ _⟩
    · simp only [readOpt, readSlice, alloc_id, alloc_get, List.append_nil]
      rw [List.take_of_length_le]
      simp only [List.length_take]
      have := hs.2.1; have := hs.2.2; omega
    · refine ⟨by simp [alloc_id, alloc_next], Nat.le_refl _, ?_⟩
      simp only [alloc_id, alloc_get]
      exact hl
    · simp [FreshFrom, alloc_id]

theorem writeAt_length (a : List Int) (pos : Nat) (xs : List Int) (h : pos + xs.length ≤ a.length) :
    (writeAt a pos xs).length = a.length := by
  simp only [writeAt, List.length_append, List.length_take, List.length_drop]
  omega

theorem writeAt_take (a : List Int) (pos : Nat) (xs : List Int) (h : pos + xs.length ≤ a.length) :
    (writeAt a pos xs).take (pos + xs.length) = a.take pos ++ xs := by
  simp only [writeAt]
  rw [List.take_append_of_le_length]
  · rw [List.take_of_length_le]
    simp only [List.length_append, List.length_take]
    omega
  · simp only [List.length_append, List.length_take]
    omega

/-- a reallocating `append`: the new array holds `A` and then zeros up to the capacity the runtime
chose, the slice shows `A`, and nothing that existed is written -/
theorem realloc_spec (n : Nat) (H : Heap) (A : List Int) (need g : Nat) (hA : A.length = need)
    (hn : n ≤ H.next) :
    readSlice (H.alloc (A ++ List.replicate (max g need - need) 0)).1 ⟨H.next, need, max g need⟩ = A ∧
    SlOk (H.alloc (A ++ List.replicate (max g need - need) 0)).1 ⟨H.next, need, max g need⟩ ∧
    Keeps n H (H.alloc (A ++ List.replicate (max g need - need) 0)).1 := by
  subst hA
  refine ⟨?_, ⟨by simp [alloc_next], Nat.le_max_right _ _, ?_⟩, (alloc_keeps _ _).mono hn⟩
  · simp only [readSlice, alloc_get]
    rw [List.take_append_of_le_length (Nat.le_refl _), List.take_length]
  · simp only [alloc_get, List.length_append, List.length_replicate]
    have := Nat.le_max_right g A.length
    omega

/-- **append_spec**: `append` on a slice that lives in an array allocated at `n` or later shows
the old elements followed by the new ones, and writes nothing below `n` — whatever capacity the
runtime chooses when it reallocates -/
theorem appendSlice_spec (grow : Nat → Nat → Nat) (n : Nat) (H : Heap) (s : Option Slice) (xs : List Int)
    (hs : OptOk H s) (hf : FreshFrom n s) (hn : n ≤ H.next) :
    Grown n H s xs (appendSlice grow H s xs).1 (appendSlice grow H s xs).2 := by
  cases s with
  | none =>
    simp only [appendSlice]
    split
    next hx =>
      rw [List.isEmpty_iff.mp hx]
      exact ⟨rfl, trivial, trivial, Keeps.refl _ _⟩
    next =>
      obtain ⟨r, ok, k⟩ := realloc_spec n H xs xs.length (grow 0 xs.length) rfl hn
      exact ⟨r, ok, hn, k⟩
  | some s =>
    have hl := readSlice_length hs
    simp only [appendSlice]
    split
    next hc =>
      have hlen : s.len + xs.length ≤ (H.arr s.arr).length := by rw [hs.2.2]; exact hc
      refine ⟨?_, ⟨hs.1, hc, ?_⟩, hf, Nat.le_refl _, fun i hi => ?_⟩
      · simp only [readOpt, readSlice, if_true]
        exact writeAt_take _ _ _ hlen
      · simp only [if_true]
        rw [writeAt_length _ _ _ hlen]
        exact hs.2.2
      · -- the array written to was allocated at `n` or later
        have : n ≤ s.arr := hf
        exact if_neg (by omega)
    next =>
      obtain ⟨r, ok, k⟩ := realloc_spec n H (readSlice H s ++ xs) (s.len + xs.length)
        (grow s.cap (s.len + xs.length)) (by rw [List.length_append, hl]) hn
      exact ⟨r, ok, hn, k⟩

theorem appendEach_spec (grow : Nat → Nat → Nat) (n : Nat) (xs : List Int) :
    ∀ (H : Heap) (s : Option Slice), OptOk H s → FreshFrom n s → n ≤ H.next →
    Grown n H s xs (appendEach grow H s xs).1 (appendEach grow H s xs).2 := by
  induction xs with
  | nil => intro H s hs hf _; exact ⟨by simp [appendEach], hs, hf, Keeps.refl _ _⟩
  | cons x xs ih =>
    intro H s hs hf hn
    have a := appendSlice_spec grow n H s [x] hs hf hn
    exact a.trans (ih _ _ a.ok a.fresh (Nat.le_trans hn a.keeps.1))

/-- replace the page list of an Extractor value -/
def withPages (e : Ext) (ps : List Int) : Ext := { e with opts := { e.opts with pages := ps } }

theorem absExt_eq (H : Heap) (x : HExt) : absExt H x = withPages x.e (readOpt H x.sl) := rfl

theorem withPages_withPages (e : Ext) (a b : List Int) : withPages (withPages e a) b = withPages e b := rfl

theorem clone_withPages (e : Ext) (ps : List Int) : (withPages e ps).clone = withPages e.clone ps := by
  unfold Ext.clone
  have hc : ((withPages e ps).opened && !((withPages e ps).owns && (withPages e ps).hasFile))
      = (e.opened && !(e.owns && e.hasFile)) := rfl
  rw [hc]
  cases (e.opened && !(e.owns && e.hasFile)) <;> rfl

/-- a configuration method appends its page arguments to whatever page list it finds -/
theorem applyCall_withPages (c : BCall) (e : Ext) (ps : List Int) :
    applyCall c (withPages e ps) = withPages (applyCall c e) (ps ++ (callOpts c).pages) := by
  rw [applyCall_eq, applyCall_eq]
  rfl

/-- **derive_refines**: a configuration method on the heap (deep-copying `clone`, any growth
policy) produces the Extractor the value-level model produces, keeps every array that was in
use unchanged, and leaves the new Extractor's page list in arrays of its own -/
theorem hderive_spec (grow : Nat → Nat → Nat) (H : Heap) (x : HExt) (c : BCall) (hx : OptOk H x.sl) :
    absExt (hderive grow H x c).1 (hderive grow H x c).2 = (absExt H x).derive c ∧
    OptOk (hderive grow H x c).1 (hderive grow H x c).2.sl ∧
    Keeps H.next H (hderive grow H x c).1 := by
  have k := cloneDeep_spec H x.sl hx
  have hval : (absExt H x).derive c =
      withPages (applyCall c x.e.clone) (readOpt H x.sl ++ (callOpts c).pages) := by
    rw [Ext.derive, absExt_eq, clone_withPages, applyCall_withPages]
  rw [hval]
  cases c with
  | pages ps =>
    have g := k.trans (appendSlice_spec grow H.next _ _ ps k.ok k.fresh k.keeps.1)
    simp only [hderive, hderiveWith, absExt_eq, callOpts]
    exact ⟨by rw [g.val, List.nil_append], g.ok, g.keeps⟩
  | pageRange a b =>
    simp only [hderive, hderiveWith, callOpts]
    by_cases hab : a > b
    · simp only [hab, if_true, absExt_eq]
      exact ⟨by rw [k.val], k.ok, k.keeps⟩
    · simp only [hab, if_false, absExt_eq]
      have g := k.trans (appendEach_spec grow H.next (rangeList a b) _ _ k.ok k.fresh k.keeps.1)
      exact ⟨by rw [g.val, List.nil_append], g.ok, g.keeps⟩
  | _ => exact ⟨by simp only [hderive, hderiveWith, absExt_eq, callOpts, k.val], k.ok, k.keeps⟩

/-- every Extractor's page list is within a live array -/
def FamOk (F : HFam) : Prop := ∀ x ∈ F.xs, OptOk F.H x.sl

theorem famOk_base (e : Ext) : FamOk (hbase e) := by
  intro x hx
  simp only [hbase, List.mem_singleton] at hx
  subst hx
  trivial

/-- **siblings_untouched**: a configuration method adds one Extractor and leaves the value of
every Extractor that existed before as it was -/
theorem derive_abs (grow : Nat → Nat → Nat) (F : HFam) (i : Nat) (c : BCall) (hF : FamOk F) :
    (F.derive grow i c).abs = runValues F.abs [(i, c)] ∧
    FamOk (F.derive grow i c) := by
  simp only [HFam.derive, HFam.abs, List.getElem?_map, runValues]
  cases hx : F.xs[i]? with
  | none => exact ⟨by simp, hF⟩
  | some x =>
    have hxm : x ∈ F.xs := List.mem_of_getElem? hx
    obtain ⟨h1, h2, h3⟩ := hderive_spec grow F.H x c (hF x hxm)
    simp only [Option.map_some, List.map_append, List.map_cons, List.map_nil]
    refine ⟨?_, ?_⟩
    · rw [h1]
      congr 1
      apply List.map_congr_left
      intro y hy
      simp only [absExt, (readOpt_keeps h3 (hF y hy)).1]
    · intro y hy
      rcases List.mem_append.mp hy with hy | hy
      · exact (readOpt_keeps h3 (hF y hy)).2
      · simp only [List.mem_singleton] at hy
        subst hy
        exact h2

/-- **options_copy_on_configure**: after ANY history of configuration calls on the Extractors of
a family — siblings derived from one base in any order, chains of any depth — and for ANY growth
policy of `append`, every Extractor holds exactly the options the value-level model gives it -/
theorem run_abs (grow : Nat → Nat → Nat) (ops : List (Nat × BCall)) :
    ∀ (F : HFam), FamOk F → (F.run grow ops).abs = runValues F.abs ops ∧ FamOk (F.run grow ops) := by
  induction ops with
  | nil => intro F hF; exact ⟨rfl, hF⟩
  | cons op ops ih =>
    intro F hF
    obtain ⟨i, c⟩ := op
    obtain ⟨h1, h2⟩ := derive_abs grow F i c hF
    obtain ⟨g1, g2⟩ := ih (F.derive grow i c) h2
    simp only [HFam.run]
    exact ⟨by rw [g1, h1]; rfl, g2⟩

end Tabula.OptHeap
