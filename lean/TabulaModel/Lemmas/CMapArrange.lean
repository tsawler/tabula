import TabulaModel.Lemmas.CMapArrangeSet
import TabulaModel.Lemmas.CMapArrangeState
/-!
What tabula's `Lookup` / `LookupString` compute on a parsed ToUnicode program, for EVERY code and
EVERY byte string (not only the defined codes): the specification `specText` / `specEmit` /
`specDecode` of `Lemmas/CMapArrangeDefs.lean` (`lookup_total`, `lookupString_total`). Everything else
about parsed programs follows from `lookup_total` and from what `specText` finds (`specText_mem`,
`Lemmas/CMapArrangeSet.lean`):
the round trip over specified codes (`cmap_roundtrip_program`, `cmap_roundtrip`, restated in
`Props/C07CMap.lean`) and the independence of the arrangement (`arrangement_free`).
-/
namespace Tabula.CMapArrange
open Tabula.UTF16 Tabula.CMap Tabula.CMapCompose

/-! ## the parsed program against the specification -/

/-- `Lookup` on a state that holds the program's direct entries and offset ranges, for EVERY code -/
theorem lookup_of_state_total (w : Nat) (secs : List Section) (hs : ∀ s ∈ secs, SectionOK w s)
    (cm : CMap) (hch : cm.chars = (directEntries secs).reverse)
    (hrg : cm.ranges = (offsetRuns secs).map Run.range) (c : Nat) :
    lookup cm c = specText secs c := by
  unfold lookup specText CMap.getChar
  rw [hch, hrg]
  cases hf : (directEntries secs).reverse.find? (fun p => p.1 == c) with
  | some e => rfl
  | none =>
    show lookupRanges ((offsetRuns secs).map Run.range) c = _
    exact lookupRanges_total w (offsetRuns secs) (fun r hr => offsetRuns_ok w secs hs r hr) c

/-- one code, for every code -/
theorem lookup_total (p : Policy) (w : Nat) (hw1 : 1 ≤ w) (hw4 : w ≤ 4) (secs : List Section)
    (hs : ∀ s ∈ secs, SectionOK w s) (c : Nat) :
    lookup (parseCMapData (renderProgram p w secs)) c = specText secs c := by
  obtain ⟨hch, hrg, _⟩ := parse_program_state p w hw1 hw4 secs hs
  exact lookup_of_state_total w secs hs _ hch hrg c

theorem emit_total (p : Policy) (w : Nat) (hw1 : 1 ≤ w) (hw4 : w ≤ 4) (secs : List Section)
    (hs : ∀ s ∈ secs, SectionOK w s) (c : Nat) :
    emit (parseCMapData (renderProgram p w secs)) c = specEmit secs c := by
  unfold emit specEmit
  rw [lookup_total p w hw1 hw4 secs hs c]

/-- the shift-or code assembly of `lookupStringWithWidth` is the big-endian number for up to four bytes -/
theorem codeOf_beVal (bs : List Nat) (hb : AllBytes bs) (hl : bs.length ≤ 4) : codeOf bs = beVal bs :=
  codeOf_eq_foldl bs hb hl

/-- the loop of the specification is the loop of `lookupStringWithWidth` -/
theorem lookupWidth_spec (secs : List Section) (cm : CMap) (hem : ∀ c, emit cm c = specEmit secs c)
    (w : Nat) (hw4 : w ≤ 4) (fuel : Nat) (data : List Nat) (hb : AllBytes data) :
    lookupWidth cm w fuel data = specDecode secs w fuel data := by
  have hfun : (fun x => emit cm x) = specEmit secs := funext hem
  induction fuel generalizing data with
  | zero => simp [lookupWidth, specDecode]
  | succ f ih =>
    cases data with
    | nil => simp [lookupWidth, specDecode]
    | cons b rest =>
      simp only [lookupWidth, specDecode]
      rw [hfun, hem, ih _ (allBytes_drop hb w)]
      rw [codeOf_beVal _ (allBytes_take hb w) (by rw [List.length_take]; exact Nat.le_trans (Nat.min_le_left _ _) hw4)]

/-- **LookupString of a parsed program, for every byte string** -/
theorem lookupString_total (p : Policy) (w : Nat) (hw1 : 1 ≤ w) (hw4 : w ≤ 4) (secs : List Section)
    (hs : ∀ s ∈ secs, SectionOK w s) (data : List Nat) (hb : AllBytes data) :
    lookupString (parseCMapData (renderProgram p w secs)) data = specDecode secs w (data.length + 1) data := by
  unfold lookupString
  rw [effectiveWidth_of_inv w _ (parse_program_state p w hw1 hw4 secs hs).2.2, if_pos (by omega)]
  exact lookupWidth_spec secs _ (emit_total p w hw1 hw4 secs hs) w hw4 _ data hb

/-! ## independence of the arrangement -/

/-- two programs (any policies, any arrangement of entries into items and sections) that specify the
same text for every code decode every string alike -/
theorem lookupString_same_spec (p1 p2 : Policy) (w : Nat) (hw1 : 1 ≤ w) (hw4 : w ≤ 4) (s1 s2 : List Section)
    (h1 : ∀ s ∈ s1, SectionOK w s) (h2 : ∀ s ∈ s2, SectionOK w s)
    (h : ∀ c, specText s1 c = specText s2 c) (data : List Nat) :
    lookupString (parseCMapData (renderProgram p1 w s1)) data = lookupString (parseCMapData (renderProgram p2 w s2)) data := by
  apply lookupString_congr
  · intro c
    rw [lookup_total p1 w hw1 hw4 s1 h1, lookup_total p2 w hw1 hw4 s2 h2, h c]
  · rw [effectiveWidth_of_inv w _ (parse_program_state p1 w hw1 hw4 s1 h1).2.2,
      effectiveWidth_of_inv w _ (parse_program_state p2 w hw1 hw4 s2 h2).2.2]

/-- **arrangement independence**: two programs (any policies, any arrangement of entries into items and sections) that specify the same text for every code decode EVERY byte string alike -/
theorem arrangement_free (p1 p2 : Policy) (w : Nat) (hw1 : 1 ≤ w) (hw4 : w ≤ 4) (s1 s2 : List Section)
    (h1 : ∀ s ∈ s1, SectionOK w s) (h2 : ∀ s ∈ s2, SectionOK w s)
    (h : ∀ c, specText s1 c = specText s2 c) (data : List Nat) (hb : AllBytes data) :
    lookupString (parseCMapData (renderProgram p1 w s1)) data = lookupString (parseCMapData (renderProgram p2 w s2)) data :=
  lookupString_same_spec p1 p2 w hw1 hw4 s1 s2 h1 h2 h data

end Tabula.CMapArrange

namespace Tabula.CMapCompose
open Tabula.UTF16 Tabula.CMap Tabula.CMapArrange

/-! ## the round trip over specified codes -/

/-- looking up a specified code in the parsed program returns the specified text -/
theorem emit_specified (p : Policy) (w : Nat) (hw1 : 1 ≤ w) (hw4 : w ≤ 4) (secs : List Section)
    (hs : ∀ s ∈ secs, SectionOK w s)
    (hd : Functional (directEntries secs)) (ho : Functional (offsetEntries secs))
    (e : Nat × List Nat) (he : Specified secs e) :
    emit (parseCMapData (renderProgram p w secs)) e.1 = e.2 := by
  rw [emit_total p w hw1 hw4 secs hs, specEmit, specText_specified w secs hs hd ho e he,
    if_pos (specified_ok w secs hs e he).2.2.1]

/-- **Whole-program round trip**: for every policy, width 1..4 and list of well-formed sections
whose direct entries and offset entries are functions, parsing the rendered program and looking
up any string of specified codes yields the specified texts. -/
theorem cmap_roundtrip_program (p : Policy) (w : Nat) (hw1 : 1 ≤ w) (hw4 : w ≤ 4) (secs : List Section)
    (hs : ∀ s ∈ secs, SectionOK w s) (hd : Functional (directEntries secs))
    (ho : Functional (offsetEntries secs))
    (sel : List (Nat × List Nat)) (hsel : ∀ e ∈ sel, Specified secs e) :
    lookupString (parseCMapData (renderProgram p w secs)) ((sel.map (·.1)).flatMap (codeBytes w)) =
      sel.flatMap (·.2) :=
  lookupString_codes _ w hw1 hw4 (parse_program_state p w hw1 hw4 secs hs).2.2 sel fun e he =>
    ⟨(specified_ok w secs hs e (hsel e he)).1, emit_specified p w hw1 hw4 secs hs hd ho e (hsel e he)⟩

/-- **The ToUnicode CMap round trip.** For every formatting policy (LF / CR LF / one line, tight,
upper- or lower-case hex, any array wrapping), every form of the writer (bfchar, bfrange with
offset targets, bfrange with array targets, the mixed form, a range followed by a bfchar entry
that overrides one of its codes), every code width 1..4 and every code→text map that fits the
width: parsing the whole program with tabula's parser and looking up any string of specified
codes yields the specified texts. -/
theorem cmap_roundtrip (p : Policy) (f : Form) (w : Nat) (hw1 : 1 ≤ w) (hw4 : w ≤ 4) (runs : List Run)
    (hm : MapOK w runs)
    (hoff : f = .bfchar ∨ f = .array ∨ ∀ r ∈ runs, RunOffsetOK r)
    (sel : List (Nat × List Nat)) (hsel : ∀ e ∈ sel, e ∈ entriesFor f runs) :
    lookupString (parseCMapData (renderMap p f w runs)) ((sel.map (·.1)).flatMap (codeBytes w)) =
      sel.flatMap (·.2) := by
  obtain ⟨hs, hd, ho, hspec⟩ := formOK w f runs hm hoff
  unfold renderMap
  exact cmap_roundtrip_program p w hw1 hw4 (sectionsOf f runs) hs hd ho sel
    (fun e he => hspec e (hsel e he))

end Tabula.CMapCompose
