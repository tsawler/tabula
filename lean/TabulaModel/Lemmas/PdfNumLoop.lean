import TabulaModel.Model.PrintReal
import TabulaModel.Model.CSParser
import TabulaModel.Lemmas.ListBasics
/-!
The loops of the two number readers, `readNumber` of core/lexer.go (`numLoop`) and the loop of
`parseNumber` of contentstream/parser.go (`CS.numBody`): behind the first byte they are one function,
and that function is a scan with `takeWhile` / `dropWhile` - the digits, then, if no point has been
read yet and one follows, the point and more digits.  Core Lean only.
-/
namespace Tabula.Pdf

/-- the byte a terminated tail starts with -/
theorem Terminated.head {tail : Str} {b : Nat} {r : Str} (ht : Terminated tail) (e : tail = b :: r) :
    (isWs b || isDelim b) = true := by
  rcases ht with rfl | ⟨c, r', rfl, hc⟩
  · cases e
  · cases e; exact hc

namespace Num

theorem numBody_digit (hasDec : Bool) (c : Nat) (r : Str) (hc : isDigit c = true) :
    CS.numBody hasDec (c :: r) =
      (c :: (CS.numBody hasDec r).1, (CS.numBody hasDec r).2.1, (CS.numBody hasDec r).2.2) := by
  rw [CS.numBody.eq_def]
  simp [hc]

theorem numBody_point (r : Str) :
    CS.numBody false (46 :: r) =
      (46 :: (CS.numBody true r).1, (CS.numBody true r).2.1, (CS.numBody true r).2.2) := by
  rw [CS.numBody.eq_def]
  simp [isDigit]

theorem numBody_nondigit (hd : Bool) (c : Nat) (r : Str) (hc : isDigit c = false)
    (h : c ≠ 46 ∨ hd = true) : CS.numBody hd (c :: r) = ([], hd, c :: r) := by
  rw [CS.numBody.eq_def]
  rcases h with h | h
  · simp [hc, h]
  · simp [hc, h]

/-- after the point: the digits -/
theorem numBody_true (inp : Str) :
    CS.numBody true inp = (inp.takeWhile isDigit, true, inp.dropWhile isDigit) := by
  induction inp with
  | nil => rfl
  | cons c r ih =>
    by_cases hc : isDigit c = true
    · rw [numBody_digit true c r hc, ih, List.takeWhile_cons_of_pos hc, List.dropWhile_cons_of_pos hc]
    · rw [numBody_nondigit true c r (by simpa using hc) (.inr rfl), List.takeWhile_cons_of_neg hc,
        List.dropWhile_cons_of_neg hc]

/-- before the point: the digits, then, if a point follows, the point and the digits after it -/
theorem numBody_false (inp : Str) :
    CS.numBody false inp =
      match inp.dropWhile isDigit with
      | 46 :: r => (inp.takeWhile isDigit ++ 46 :: r.takeWhile isDigit, true, r.dropWhile isDigit)
      | r => (inp.takeWhile isDigit, false, r) := by
  induction inp with
  | nil => rfl
  | cons c r ih =>
    by_cases hc : isDigit c = true
    · rw [numBody_digit false c r hc, ih, List.takeWhile_cons_of_pos hc, List.dropWhile_cons_of_pos hc]
      split <;> rfl
    · rw [List.takeWhile_cons_of_neg hc, List.dropWhile_cons_of_neg hc]
      by_cases h46 : c = 46
      · subst h46
        rw [numBody_point, numBody_true]
        rfl
      · rw [numBody_nondigit false c r (by simpa using hc) (.inl h46)]
        split
        · next e => exact absurd (List.cons.inj e).1 h46
        · rfl

/-- a byte that ends a token starts no number -/
theorem term_head {c : Nat} (hc : (isWs c || isDelim c) = true) :
    isDigit c = false ∧ c ≠ 46 ∧ c ≠ 45 ∧ c ≠ 43 := by
  simp only [isWs, isDelim, Bool.or_eq_true, beq_iff_eq] at hc
  simp only [isDigit, Bool.and_eq_false_iff, decide_eq_false_iff_not]
  omega

/-- digits in front of what ends a token: the scan takes exactly the digits, and no point follows -/
theorem digits_span (ds tail : Str) (hd : DigitStr ds) (ht : Terminated tail) :
    (ds ++ tail).takeWhile isDigit = ds ∧ (ds ++ tail).dropWhile isDigit = tail ∧ ∀ r, tail ≠ 46 :: r := by
  have hh : ∀ b r, tail = b :: r → isDigit b = false ∧ b ≠ 46 := fun b r e =>
    ⟨(term_head (Terminated.head ht e)).1, (term_head (Terminated.head ht e)).2.1⟩
  exact ⟨(List.span_append_of_head hd fun b r e => (hh b r e).1).1,
    (List.span_append_of_head hd fun b r e => (hh b r e).1).2, fun r e => (hh 46 r e).2 rfl⟩

/-- the loop on the digits of an integer -/
theorem numBody_int (ds tail : Str) (hd : DigitStr ds) (ht : Terminated tail) :
    CS.numBody false (ds ++ tail) = (ds, false, tail) := by
  obtain ⟨h1, h2, h3⟩ := digits_span ds tail hd ht
  rw [numBody_false, h1, h2]
  split
  · exact absurd rfl (h3 _)
  · rfl

/-- the loop on the digits, the point and the digits of a real -/
theorem numBody_real (ip fp tail : Str) (hi : DigitStr ip) (hf : DigitStr fp) (ht : Terminated tail) :
    CS.numBody false (ip ++ 46 :: (fp ++ tail)) = (ip ++ 46 :: fp, true, tail) := by
  obtain ⟨h1, h2, _⟩ := digits_span fp tail hf ht
  have h46 : isDigit 46 = false := by decide
  rw [numBody_false, List.takeWhile_append_cons_of_neg hi h46, List.dropWhile_append_cons_of_neg hi h46]
  simp only [h1, h2]

end Num

namespace Prog

/-- once the first byte is behind, `readNumber` and the loop of `contentstream.parseNumber` are
the same function -/
theorem numLoop_eq_numBody (inp : Str) : ∀ hd : Bool, numLoop hd false inp = CS.numBody hd inp := by
  induction inp with
  | nil => intro hd; simp [numLoop, CS.numBody]
  | cons b r ih =>
    intro hd
    by_cases h46 : b = 46
    · subst h46
      have hnd : isDigit 46 = false := by decide
      cases hd with
      | true => simp [numLoop, CS.numBody, hnd]
      | false => simp [numLoop, CS.numBody, hnd, ih true]
    · by_cases hdg : isDigit b = true
      · simp [numLoop, CS.numBody, h46, hdg, ih hd]
      · have hdg' : isDigit b = false := by cases hh : isDigit b <;> simp_all
        simp [numLoop, CS.numBody, h46, hdg']

/-- `readNumber` entered on a sign -/
theorem numLoop_sign_first (b : Nat) (r : Str) (hb : b = 45 ∨ b = 43) :
    numLoop false true (b :: r) = (b :: (CS.numBody false r).1, (CS.numBody false r).2.1, (CS.numBody false r).2.2) := by
  rw [numLoop.eq_def, ← numLoop_eq_numBody]
  rcases hb with rfl | rfl <;> simp

/-- `readNumber` entered on a digit or the point -/
theorem numLoop_body_first (b : Nat) (r : Str) (hb : b = 46 ∨ isDigit b = true) :
    numLoop false true (b :: r) = CS.numBody false (b :: r) := by
  rw [← numLoop_eq_numBody, numLoop.eq_def, numLoop.eq_def (first := false)]
  rcases hb with rfl | h
  · rfl
  · have h46 : b ≠ 46 := by rintro rfl; exact absurd h (by decide)
    simp [h46, h]

end Prog
end Tabula.Pdf
