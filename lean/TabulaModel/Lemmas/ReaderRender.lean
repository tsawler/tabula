import TabulaModel.Lemmas.Reader
import TabulaModel.Lemmas.ReaderWalk
import TabulaModel.Lemmas.ReaderPage
import TabulaModel.Lemmas.ReaderChunks
import TabulaModel.Lemmas.PdfDoc
/-!
A logical document (pages × lines) laid out as an object store in the simplest way — catalog,
one `/Pages` node that carries the `/Resources` for all its leaves, one Type1/WinAnsi font,
one content stream per page — and what the reader model reports for it (`readWith_base`;
Props/C01Reader.lean, `read_render_partial`). Then the store written out: objects at offsets of their
own in a one-revision abstract file (`fileOf`), the base layout in any legal spelling (`Spelling`,
`renderBase`).
-/
namespace Tabula.Reader
open Tabula.Pdf (Obj)

/-- a logical document: for every page, the byte strings its lines show -/
abbrev LDoc := List (List Str)

/-- `Catalog` -/
def kCatalog : Str := [67, 97, 116, 97, 108, 111, 103]
/-- `F1` -/
def kF1 : Str := [70, 49]
/-- `BT` -/
def opBT : Str := [66, 84]
/-- `ET` -/
def opET : Str := [69, 84]

def leafNum (i : Nat) : Nat := 4 + 2 * i
def contNum (i : Nat) : Nat := 5 + 2 * i

def catObj : Obj := .dict [(kType, .name kCatalog), (kPages, .ref 2 0)]
def fontObj : Obj := .dict [(kType, .name kFont), (kSubtype, .name kType1), (kEncoding, .name kWinAnsiEncoding)]
def resDict : Dict := [(kFont, .dict [(kF1, .ref 3 0)])]
def kidsOf (k m : Nat) : List Obj := (List.range' k m).map fun i => .ref (leafNum i) 0
def pagesDict (n : Nat) : Dict :=
  [(kType, .name kPages), (kKids, .arr (kidsOf 0 n)), (kCount, .int n), (kResources, .dict resDict)]
def leafDict (i : Nat) : Dict := [(kType, .name kPage), (kContents, .ref (contNum i) 0)]

/-- the operations of a page: `BT /F1 12 Tf (line) Tj … ET` -/
def pageOps (lines : List Str) : List Pdf.CS.Operation :=
  [⟨opBT, []⟩, ⟨opTf, [.name kF1, .int 12]⟩] ++ lines.map (fun b => ⟨opTj, [.str b]⟩) ++ [⟨opET, []⟩]

/-- the text a line shows: its bytes through WinAnsiEncoding, then NFC -/
def shown (ext : Ext) (b : Str) : Str := (FontDecode.decodeString ext.nfc defaultFont b).getD []

/-- an object store that holds the document in the base layout; `cont i` is the decoded
content stream of page `i` -/
structure BaseStore (res : Res) (d : LDoc) (cont : Nat → Str) : Prop where
  cat : res 1 = .ok (.obj catObj)
  pages : res 2 = .ok (.obj (.dict (pagesDict d.length)))
  font : res 3 = .ok (.obj fontObj)
  leaf : ∀ i, i < d.length → res (leafNum i) = .ok (.obj (.dict (leafDict i)))
  cont : ∀ i (h : i < d.length), res (contNum i) = .ok (.stream (some (cont i))) ∧
    Pdf.CS.csParse (PdfDoc.joinContents [cont i]) = some (pageOps d[i])

mutual
def leavesTree : List Dict → List RTree
  | [] => []
  | d :: ds => .leaf d :: leavesTree ds
end

theorem buildKids_leaves (res : Res) (n : Nat) (hleaf : ∀ i, i < n → res (leafNum i) = .ok (.obj (.dict (leafDict i))))
    (dep : Nat) (hdep : dep < PdfDoc.maxPageTreeDepth) :
    ∀ (m k fuel : Nat) (vis : List Nat), k + m ≤ n → fuel ≥ 2 * m + 1 →
      (∀ v ∈ vis, ∀ j, k ≤ j → v ≠ leafNum j) →
      ∃ vis', buildKids res fuel dep vis (kidsOf k m) =
        .ok (leavesTree ((List.range' k m).map leafDict), vis') := by
  intro m
  induction m with
  | zero =>
    intro k fuel vis _ hf _
    obtain ⟨f, rfl⟩ : ∃ f, fuel = f + 1 := ⟨fuel - 1, by omega⟩
    exact ⟨vis, rfl⟩
  | succ m ih =>
    intro k fuel vis hk hf hvis
    obtain ⟨f, rfl⟩ : ∃ f, fuel = f + 2 := ⟨fuel - 2, by omega⟩
    have hnot : vis.contains (leafNum k) = false := by
      cases hc : vis.contains (leafNum k) with
      | false => rfl
      | true =>
        have : leafNum k ∈ vis := by simpa using hc
        exact absurd rfl (hvis _ this k (Nat.le_refl k))
    obtain ⟨vis', h2⟩ := ih (k + 1) (f + 1) (leafNum k :: vis) (by omega) (by omega) (by
      intro v hv j hj
      simp only [List.mem_cons] at hv
      rcases hv with rfl | hv
      · unfold leafNum; omega
      · exact hvis v hv j (by omega))
    refine ⟨vis', ?_⟩
    have e1 : kidsOf k (m + 1) = .ref (leafNum k) 0 :: kidsOf (k + 1) m := by
      simp [kidsOf, List.range'_succ]
    have e2 : (List.range' k (m + 1)).map leafDict = leafDict k :: (List.range' (k + 1) m).map leafDict := by
      simp [List.range'_succ]
    rw [e1, e2, buildKids_cons, kidKind_ref hnot (hleaf k (by omega))]
    dsimp only
    rw [buildNode_succ, nodeKind_page hdep rfl]
    dsimp only
    rw [h2]
    rfl

theorem depthList_kidsOf (k m : Nat) : Pdf.Obj.depthList (kidsOf k m) = 0 := by
  induction m generalizing k with
  | zero => rfl
  | succ m ih => simp [kidsOf, List.range'_succ, Pdf.Obj.depthList, Pdf.Obj.depth] at ih ⊢; exact ih (k + 1)

theorem depth_pagesDict (n : Nat) : (Obj.dict (pagesDict n)).depth = 3 := by
  simp [pagesDict, resDict, Pdf.Obj.depth, Pdf.Obj.depthKV, depthList_kidsOf]

/-- the page tree of the base layout -/
def baseTree (n : Nat) : RTree := .node (pagesDict n) (leavesTree ((List.range' 0 n).map leafDict))

theorem pageTree_base (res : Res) (d : LDoc) (cont : Nat → Str) (hs : BaseStore res d cont) (fuel : Nat)
    (hf : fuel ≥ 2 * d.length + 3) :
    pageTree res fuel (some 1) = .ok (baseTree d.length) := by
  obtain ⟨f, rfl⟩ : ∃ f, fuel = f + 1 := ⟨fuel - 1, by omega⟩
  obtain ⟨vis', hk⟩ := buildKids_leaves res d.length hs.leaf 1 (by decide) d.length 0 f [] (by omega) (by omega)
    (fun v hv => by cases hv)
  have hres2 : resolve res (.ref 2 0) = .ok (.obj (.dict (pagesDict d.length))) := hs.pages
  have e1 : dget [(kType, Obj.name kCatalog), (kPages, Obj.ref 2 0)] kPages = some (.ref 2 0) := rfl
  have e2 : dget (pagesDict d.length) kCount = some (.int d.length) := rfl
  have e4 : dget (pagesDict d.length) kKids = some (.arr (kidsOf 0 d.length)) := rfl
  have hroot : pagesRoot res (some 1) = .ok (pagesDict d.length) := by
    simp only [pagesRoot, hs.cat, catObj, e1, hres2, e2]
  rw [pageTree_eq, hroot]
  dsimp only
  rw [buildNode_succ, nodeKind_pages (by decide) rfl e4 rfl rfl]
  dsimp only
  rw [hk]
  rfl

theorem leafDicts_leaves (ds : List Dict) : leafDictsList (leavesTree ds) = ds := by
  induction ds with
  | nil => rfl
  | cons d ds ih => simp [leavesTree, leafDictsList, leafDicts, ih]

theorem flatten_leaves (a : PdfDoc.AttrsOf Obj) (ds : List Dict) (hno : ∀ d ∈ ds, dget d kResources = none) :
    PdfDoc.flattenList (toPTreeList (leavesTree ds)) a = ds.map fun _ => a := by
  induction ds with
  | nil => rfl
  | cons d ds ih =>
    have h1 : attrsOf d = {} := by simp [attrsOf, hno d (by simp)]
    have h2 : (({} : PdfDoc.AttrsOf Obj).over a) = a := by
      cases a; simp [PdfDoc.AttrsOf.over]
    simp only [leavesTree, toPTreeList, toPTree, PdfDoc.flattenList, PdfDoc.flatten, h1, h2, List.map_cons,
      List.singleton_append]
    rw [ih (fun d' hd => hno d' (by simp [hd]))]

theorem pageSpecs_base (n : Nat) :
    pageSpecs (baseTree n) =
      (List.range' 0 n).map fun i => (some (Obj.ref (contNum i) 0), some (Obj.dict resDict)) := by
  unfold pageSpecs baseTree
  simp only [leafDicts, leafDicts_leaves, toPTree, PdfDoc.flatten]
  have ha : (attrsOf (pagesDict n)).over {} = { res := some (Obj.dict resDict) } := rfl
  rw [ha, flatten_leaves _ _ (by
    intro d hd
    obtain ⟨i, _, rfl⟩ := List.mem_map.mp hd
    rfl)]
  simp only [List.map_map]
  rw [List.zip_map]
  have : ∀ l : List Nat, l.zip l = l.map fun i => (i, i) := fun _ => List.zipWith_self
  rw [this, List.map_map]
  apply List.map_congr_left
  intro i _
  rfl

theorem registered_F1 (res : Res) (hfont : res 3 = .ok (.obj fontObj)) :
    registered res [(kF1, .ref 3 0)] (47 :: kF1) = some defaultFont := by
  have hp : parseFont res (.ref 3 0) = some defaultFont := by
    simp [parseFont, resolve, hfont, fontObj, dget, kType, kSubtype, kEncoding, kType1, simpleEncoding,
      widthsOk, kWidths, toUnicodeOf, kToUnicode, defaultFont]
  simp [registered, dget, kF1, hp]

/-- the environment of every page of the base layout -/
def baseEnv (res : Res) (ext : Ext) : Env :=
  { res := res, ext := ext, rdict := some resDict, fonts := some [(kF1, .ref 3 0)] }

theorem run_tjs (res : Res) (ext : Ext) (hfont : res 3 = .ok (.obj fontObj))
    (hdec : ∀ b, (FontDecode.decodeString ext.nfc defaultFont b).isSome = true) (lines : List Str) (out : List Str) :
    run (baseEnv res ext) { cur := 47 :: kF1, stack := [], out := out }
        (lines.map (fun b => ⟨opTj, [.str b]⟩) ++ [⟨opET, []⟩]) =
      .ok { cur := 47 :: kF1, stack := [], out := out ++ lines.map (shown ext) } := by
  induction lines generalizing out with
  | nil => simp [run, step, opET, opq, opQ, opTf, opTj, opQuote, opTJ, opDQuote, opDo]
  | cons b bs ih =>
    have hsome := hdec b
    obtain ⟨s, hs⟩ := Option.isSome_iff_exists.mp hsome
    have hstep : step (baseEnv res ext) { cur := 47 :: kF1, stack := [], out := out } ⟨opTj, [.str b]⟩ =
        .ok { cur := 47 :: kF1, stack := [], out := out ++ [shown ext b] } := by
      simp [step, opTj, opq, opQ, opTf, showOne, decodeShown, baseEnv, registered_F1 res hfont, hs, shown]
    simp only [List.map_cons, List.cons_append, run, hstep]
    rw [ih]
    simp

theorem run_pageOps (res : Res) (ext : Ext) (hfont : res 3 = .ok (.obj fontObj))
    (hdec : ∀ b, (FontDecode.decodeString ext.nfc defaultFont b).isSome = true) (lines : List Str) :
    run (baseEnv res ext) {} (pageOps lines) =
      .ok { cur := 47 :: kF1, stack := [], out := lines.map (shown ext) } := by
  have h1 : step (baseEnv res ext) {} ⟨opBT, []⟩ = .ok {} := by rw [step_eq_perform]; rfl
  have h2 : step (baseEnv res ext) {} ⟨opTf, [.name kF1, .int 12]⟩ = .ok { cur := 47 :: kF1, stack := [], out := [] } := by
    rw [step_eq_perform]; rfl
  unfold pageOps
  simp only [List.cons_append, List.nil_append, run, h1, h2]
  have := run_tjs res ext hfont hdec lines []
  simpa using this

/-- the content of a page that is a single stream: the stream joined, if it fits the limit of 64 MiB;
beyond it `extractTextWithFragments` returns an error -/
theorem contentBytes_one (res : Res) (n : Nat) (c : Str) (hc : res n = .ok (.stream (some c))) :
    contentBytes res (some (.ref n 0)) =
      if c.length ≤ PdfDoc.maxPageContentBytes then .ok (some (PdfDoc.joinContents [c])) else .error .err := by
  have hr : resolve res (.ref n 0) = .ok (.stream (some c)) := by
    rw [resolve, if_neg (by omega), Int.toNat_natCast, hc]
  rw [contentBytes_stream hr, joinParts, PdfDoc.joinBounded_one]
  by_cases hsize : c.length ≤ PdfDoc.maxPageContentBytes
  · rw [if_pos hsize, if_pos hsize]
  · rw [if_neg hsize, if_neg hsize]

theorem pageStrings_base (res : Res) (ext : Ext) (d : LDoc) (cont : Nat → Str) (hs : BaseStore res d cont)
    (hdec : ∀ b, (FontDecode.decodeString ext.nfc defaultFont b).isSome = true) (i : Nat) (hi : i < d.length)
    (hsize : (cont i).length ≤ PdfDoc.maxPageContentBytes) :
    pageStrings res ext (some (.ref (contNum i) 0)) (some (.dict resDict)) = .ok (d[i].map (shown ext)) := by
  obtain ⟨hc, hp⟩ := hs.cont i hi
  have hcb := (contentBytes_one res (contNum i) (cont i) hc).trans (if_pos hsize)
  have hrd : resourcesDict res (some (.dict resDict)) = some resDict := rfl
  have hfo : fontsOf res (some resDict) = some [(kF1, .ref 3 0)] := rfl
  have hrun := run_pageOps res ext hs.font hdec d[i]
  rw [pageStrings_content ext _ hcb, showStrings, hp]
  simp only [hrd, hfo]
  unfold baseEnv at hrun
  rw [hrun]

theorem pageStrings_base_beyond (res : Res) (ext : Ext) (d : LDoc) (cont : Nat → Str) (hs : BaseStore res d cont)
    (i : Nat) (hi : i < d.length) (hsize : (cont i).length > PdfDoc.maxPageContentBytes) :
    pageStrings res ext (some (.ref (contNum i) 0)) (some (.dict resDict)) = .error .err := by
  unfold pageStrings
  rw [contentBytes_one res (contNum i) (cont i) (hs.cont i hi).1, if_neg (by omega)]

theorem pagesOfSpecs_base (res : Res) (ext : Ext) (d : LDoc) (cont : Nat → Str) (hs : BaseStore res d cont)
    (hdec : ∀ b, (FontDecode.decodeString ext.nfc defaultFont b).isSome = true)
    (hsize : ∀ i, i < d.length → (cont i).length ≤ PdfDoc.maxPageContentBytes) :
    ∀ (m k : Nat), k + m = d.length →
      pagesOfSpecs res ext ((List.range' k m).map fun i => (some (Obj.ref (contNum i) 0), some (Obj.dict resDict))) =
        .ok ((d.drop k).map fun ls => ls.map (shown ext)) := by
  intro m
  induction m with
  | zero =>
    intro k hk
    have : d.drop k = [] := List.drop_eq_nil_of_le (by omega)
    simp [pagesOfSpecs, this]
  | succ m ih =>
    intro k hk
    have hi : k < d.length := by omega
    have hd : d.drop k = d[k] :: d.drop (k + 1) := (List.drop_eq_getElem_cons hi)
    simp only [List.range'_succ, List.map_cons, pagesOfSpecs, pageStrings_base res ext d cont hs hdec k hi (hsize k hi),
      ih (k + 1) (by omega), hd]

/-- one page beyond the limit makes the whole read an error (`Fragments()` of that page fails;
the model reports the first failure of any page as the result) -/
theorem pagesOfSpecs_base_beyond (res : Res) (ext : Ext) (d : LDoc) (cont : Nat → Str) (hs : BaseStore res d cont)
    (hdec : ∀ b, (FontDecode.decodeString ext.nfc defaultFont b).isSome = true) :
    ∀ (m k : Nat), k + m = d.length →
      (∃ i, k ≤ i ∧ i < d.length ∧ (cont i).length > PdfDoc.maxPageContentBytes) →
      pagesOfSpecs res ext ((List.range' k m).map fun i => (some (Obj.ref (contNum i) 0), some (Obj.dict resDict))) =
        .error .err := by
  intro m
  induction m with
  | zero =>
    intro k hk ⟨i, h1, h2, _⟩
    omega
  | succ m ih =>
    intro k hk ⟨i, h1, h2, h3⟩
    have hi : k < d.length := by omega
    simp only [List.range'_succ, List.map_cons, pagesOfSpecs]
    by_cases hk' : (cont k).length > PdfDoc.maxPageContentBytes
    · rw [pageStrings_base_beyond res ext d cont hs k hi hk']
    · rw [pageStrings_base res ext d cont hs hdec k hi (by omega)]
      have hne : i ≠ k := fun e => hk' (e ▸ h3)
      rw [ih (k + 1) (by omega) ⟨i, by omega, h2, h3⟩]

/-- the reader model above the object layer on the base layout -/
theorem readWith_base (res : Res) (ext : Ext) (d : LDoc) (cont : Nat → Str) (hs : BaseStore res d cont)
    (hdec : ∀ b, (FontDecode.decodeString ext.nfc defaultFont b).isSome = true)
    (hsize : ∀ i, i < d.length → (cont i).length ≤ PdfDoc.maxPageContentBytes) (fuel : Nat)
    (hf : fuel ≥ 2 * d.length + 3) :
    readWith res ext fuel (some 1) = .ok (d.map fun ls => ls.map (shown ext)) := by
  rw [readWith_of_tree (pageTree_base res d cont hs fuel hf), pageSpecs_base]
  have := pagesOfSpecs_base res ext d cont hs hdec hsize d.length 0 (by omega)
  simpa using this

/-- … and when the content of some page exceeds 64 MiB -/
theorem readWith_base_beyond (res : Res) (ext : Ext) (d : LDoc) (cont : Nat → Str) (hs : BaseStore res d cont)
    (hdec : ∀ b, (FontDecode.decodeString ext.nfc defaultFont b).isSome = true)
    (hbig : ∃ i, i < d.length ∧ (cont i).length > PdfDoc.maxPageContentBytes) (fuel : Nat)
    (hf : fuel ≥ 2 * d.length + 3) :
    readWith res ext fuel (some 1) = .error .err := by
  rw [readWith_of_tree (pageTree_base res d cont hs fuel hf), pageSpecs_base]
  obtain ⟨i, h1, h2⟩ := hbig
  exact pagesOfSpecs_base_beyond res ext d cont hs hdec d.length 0 (by omega) ⟨i, by omega, h1, h2⟩

/-- one object as written: its number and what stands between `obj` and `endobj` -/
structure Printed where
  num : Nat
  body : RawBody

/-- the one-revision file that holds the objects: every object at an offset of its own
(here: its number), one cross-reference section listing them, `/Root root` -/
def fileOf (root : Nat) (ps : List Printed) : AbsFile :=
  { objs := ps.map fun p => (p.num, (p.num, p.body)),
    secs := [(0, { entries := ps.map fun p => (p.num, Xref.Entry.at p.num), prev := none, root := some root })],
    start := 0 }

theorem getLast_map_mem {α : Type} (ps : List Printed) (g : Printed → α) (hnd : (ps.map (·.num)).Nodup)
    (p : Printed) (hp : p ∈ ps) : Xref.getLast (ps.map fun q => (q.num, g q)) p.num = some (g p) := by
  obtain ⟨a, b, rfl⟩ := List.append_of_mem hp
  rw [Xref.getLast_eq_lookup, List.lookup_eq_some_iff]
  refine ⟨(b.map fun q => (q.num, g q)).reverse, (a.map fun q => (q.num, g q)).reverse, by simp, ?_⟩
  -- no number after `p` is `p`'s: the numbers are distinct
  intro q hq
  obtain ⟨q', hq', rfl⟩ := List.mem_map.mp (List.mem_reverse.mp hq)
  rw [List.map_append, List.map_cons, List.nodup_append] at hnd
  exact bne_iff_ne.mpr fun e => (List.nodup_cons.mp hnd.2.1).1 (e ▸ List.mem_map_of_mem hq')

theorem xref_fileOf (root : Nat) (ps : List Printed) :
    xref (fileOf root ps) = ps.map fun p => (p.num, Xref.Entry.at p.num) := by
  simp [xref, sections, fileOf, Xref.parseAllXRefs, Xref.chainFrom, Xref.getLast, Xref.mergeTables]

theorem getObject_fileOf (root : Nat) (ps : List Printed) (ext : Ext) (hnd : (ps.map (·.num)).Nodup)
    (p : Printed) (hp : p ∈ ps) :
    getObject (fileOf root ps) ext p.num = (parseBody p.body).map (toSVal ext) := by
  have he : entry (fileOf root ps) p.num = some (.at p.num) := by
    unfold entry
    rw [xref_fileOf]
    exact getLast_map_mem ps (fun q => Xref.Entry.at q.num) hnd p hp
  have ho : Xref.getLast (fileOf root ps).objs p.num = some (p.num, p.body) :=
    getLast_map_mem ps (fun q => (q.num, q.body)) hnd p hp
  simp only [getObject, he, objectAt, ho, if_true]
  cases parseBody p.body <;> rfl

theorem rootOf_fileOf (root : Nat) (ps : List Printed) : rootOf (fileOf root ps) = some root := by
  simp [rootOf, fileOf, Xref.getLast]

theorem prevDangling_fileOf (root : Nat) (ps : List Printed) : prevDangling (fileOf root ps) = false := by
  simp [prevDangling, fileOf]

open Tabula.Pdf in
/-- one legal spelling of every object and of every page's program -/
structure Spelling where
  cat : SObj
  pages : SObj
  font : SObj
  leaf : Nat → SObj
  cdict : Nat → SObj
  prog : Nat → List SOp
  trail : Nat → Sep

open Tabula.Pdf in
/-- the spelling denotes the base layout of `d` -/
structure Spelling.Ok (sp : Spelling) (d : LDoc) : Prop where
  cat : sp.cat.Valid false ∧ sp.cat.value = catObj
  pages : sp.pages.Valid false ∧ sp.pages.value = .dict (pagesDict d.length)
  font : sp.font.Valid false ∧ sp.font.value = fontObj
  leaf : ∀ i, i < d.length → (sp.leaf i).Valid false ∧ (sp.leaf i).value = .dict (leafDict i)
  cdict : ∀ i, i < d.length → (sp.cdict i).Valid false ∧ (sp.cdict i).value.depth ≤ maxNestingDepth ∧
    ∃ kv, (sp.cdict i).value = .dict kv ∧ dget kv kFilter = none
  prog : ∀ i (h : i < d.length), ValidOps false (sp.prog i) ∧ SepOk (sp.trail i) ∧ (sp.prog i).map opVal = pageOps d[i]

open Tabula.Pdf in
def pagePrinted (sp : Spelling) (i : Nat) : List Printed :=
  [⟨leafNum i, .plain (sp.leaf i).render⟩,
   ⟨contNum i, .stream (sp.cdict i).render (renderOps (sp.prog i) ++ renderSep (sp.trail i))⟩]

open Tabula.Pdf in
def renderBaseList (d : LDoc) (sp : Spelling) : List Printed :=
  [⟨1, .plain sp.cat.render⟩, ⟨2, .plain sp.pages.render⟩, ⟨3, .plain sp.font.render⟩] ++
    (List.range' 0 d.length).flatMap (pagePrinted sp)

/-- **render** (base layout): the document as an abstract file -/
def renderBase (d : LDoc) (sp : Spelling) : AbsFile := fileOf 1 (renderBaseList d sp)

theorem nums_pages (sp : Spelling) (m k : Nat) :
    (((List.range' k m).flatMap (pagePrinted sp)).map (·.num)) = List.range' (4 + 2 * k) (2 * m) := by
  induction m generalizing k with
  | zero => rfl
  | succ m ih =>
    have e : 2 * (m + 1) = (2 * m + 1) + 1 := by omega
    rw [List.range'_succ, List.flatMap_cons, List.map_append, ih (k + 1), e, List.range'_succ, List.range'_succ]
    have e2 : 4 + 2 * (k + 1) = 4 + 2 * k + 1 + 1 := by omega
    simp [pagePrinted, leafNum, contNum, e2]
    omega

theorem nodup_renderBase (d : LDoc) (sp : Spelling) : ((renderBaseList d sp).map (·.num)).Nodup := by
  unfold renderBaseList
  rw [List.map_append, nums_pages]
  simp only [List.map_cons, List.map_nil]
  rw [List.nodup_append]
  refine ⟨by decide, List.nodup_range', ?_⟩
  intro a ha b hb
  have hb' := List.mem_range'_1.mp hb
  simp only [List.mem_cons, List.not_mem_nil, or_false] at ha
  omega

theorem mem_page (d : LDoc) (sp : Spelling) (i : Nat) (hi : i < d.length) (p : Printed) (hp : p ∈ pagePrinted sp i) :
    p ∈ renderBaseList d sp := by
  unfold renderBaseList
  apply List.mem_append_right
  exact List.mem_flatMap.mpr ⟨i, List.mem_range'_1.mpr ⟨by omega, by omega⟩, hp⟩

end Tabula.Reader
