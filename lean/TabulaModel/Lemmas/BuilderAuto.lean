import TabulaModel.Model.BuilderAuto
import TabulaModel.Lemmas.BuilderHist
/-!
Lemmas about `Model/BuilderAuto.lean`.  The life-cycle automaton is an abstraction of the store
model (`abs_step`, `abs_exec`), the state of an extractor is a fold over its own operations
(`life_fold`; `C10Auto.life_local` is stated with it), and the last of them decides whether it
holds a reader (`fold_last`).  At the end, the error model: `firstBad` as `find?`, and when the
body of a terminal operation reports the range error (`bodyErr_eq_range_iff`).
-/
namespace Tabula.BuilderAuto
open Tabula.PageSel Tabula.Builder

/-- the life-cycle states of all extractors of a store -/
def abs (s : Store) : List LS := s.exts.map lsOf

theorem abs_getElem? (s : Store) (i : Nat) : (abs s)[i]? = (s.exts[i]?).map lsOf := by
  simp [abs]

/-- in a reachable store the state determines the three life-cycle fields -/
theorem flags_of_lsOf {s : Store} (h : StoreInv s) {i : Nat} {e : Ext} (he : s.exts[i]? = some e) :
    (lsOf e).owns = e.owns ∧ (lsOf e).opened = e.opened ∧ (lsOf e).hasReader = e.reader.isSome := by
  unfold lsOf
  cases ho : e.opened with
  | false =>
    obtain ⟨h1, h2⟩ := h.unopened i e he ho
    simp [LS.owns, LS.opened, LS.hasReader, h1, h2]
  | true =>
    obtain ⟨r, hr, _⟩ := h.live i e he ho
    cases hw : e.owns <;> simp [LS.owns, LS.opened, LS.hasReader, hr]

theorem lsOf_holding_iff {s : Store} (h : StoreInv s) {i : Nat} {e : Ext} (he : s.exts[i]? = some e) :
    lsOf e = .holding ↔ e.owns = true := by
  have := (flags_of_lsOf h he).1
  constructor
  · intro hl; rw [hl] at this; exact this.symm
  · intro ho
    rw [ho] at this
    cases hl : lsOf e <;> rw [hl] at this <;> simp [LS.owns] at this

theorem abs_closeExt {s : Store} (h : StoreInv s) {i : Nat} {e : Ext} (he : s.exts[i]? = some e) :
    abs (closeExt s i e) = (abs s).set i (lsClose (lsOf e)) := by
  have hi := lt_of_getElem? he
  unfold closeExt
  cases hw : e.owns with
  | false =>
    have hl : lsClose (lsOf e) = lsOf e := by
      unfold lsOf; rw [hw]; cases e.opened <;> rfl
    simp only [Bool.false_eq_true, if_false]
    rw [hl, set_same]
    rw [abs_getElem?, he]; rfl
  | true =>
    have ho := h.owns_opened he hw
    obtain ⟨r, hr, _⟩ := h.live i e he ho
    have hl : lsOf e = .holding := by unfold lsOf; rw [ho, hw]; rfl
    simp only [if_true, hr, abs, List.map_set, hl, lsClose]
    rfl

theorem abs_openNew {s : Store} {i : Nat} {e : Ext} :
    abs (openNew s i e).1 = (abs s).set i .holding := by
  simp only [abs, openNew, List.map_set]
  rfl

theorem lsOf_unopened {e : Ext} (ho : e.opened = false) : lsOf e = .idle := by
  unfold lsOf; rw [ho]; rfl

/-- `ensureReader` on the state of a record: nothing for an opened one; an unopened one ends up
holding exactly when it has a file that opens -/
theorem lsEnsure_lsOf (w : World) (e : Ext) :
    lsEnsure w e (lsOf e) =
      if e.opened then lsOf e else if e.hasFile && w.openOk then .holding else .idle := by
  unfold lsOf
  cases e.opened with
  | false => rfl
  | true => cases e.owns <;> rfl

theorem abs_termStore (w : World) {s : Store} (h : StoreInv s) {i : Nat} {e : Ext}
    (he : s.exts[i]? = some e) :
    abs (termStore w s i e) = (abs s).set i (lsClose (lsEnsure w e (lsOf e))) := by
  have hself : (abs s)[i]? = some (lsOf e) := by rw [abs_getElem?, he]; rfl
  rw [lsEnsure_lsOf]
  rcases termStore_cases w s i e with ⟨ho, hr⟩ | ⟨ho, hb, hr⟩ | ⟨ho, hf, hw, hr⟩
  · rw [hr, abs_closeExt h he, ho]; rfl
  · rw [hr, ho, show (e.hasFile && w.openOk) = false by rcases hb with hb | hb <;> simp [hb]]
    exact (set_same _ _ _ (hself.trans (congrArg some (lsOf_unopened ho)))).symm
  · rw [hr, close_openNew h he ho, ho, hf, hw]
    exact (set_same _ _ _ (hself.trans (congrArg some (lsOf_unopened ho)))).symm

theorem abs_ntStore (w : World) {s : Store} {i : Nat} {e : Ext}
    (he : s.exts[i]? = some e) :
    abs (ntStore w s i e) = (abs s).set i (lsEnsure w e (lsOf e)) := by
  have hself : (abs s)[i]? = some (lsOf e) := by rw [abs_getElem?, he]; rfl
  rw [lsEnsure_lsOf]
  rcases ntStore_cases w s i e with ⟨ho, hr⟩ | ⟨ho, hb, hr⟩ | ⟨ho, hf, hw, hr⟩
  · rw [hr, ho]
    exact (set_same _ _ _ hself).symm
  · rw [hr, ho, show (e.hasFile && w.openOk) = false by rcases hb with hb | hb <;> simp [hb]]
    exact (set_same _ _ _ (hself.trans (congrArg some (lsOf_unopened ho)))).symm
  · rw [hr, abs_openNew, ho, hf, hw]; rfl

theorem abs_mismatch (w : World) {s : Store} (h : StoreInv s) {i : Nat} {e : Ext}
    (he : s.exts[i]? = some e) :
    abs (mismatchStore w s i e) = (abs s).set i (lsMismatch w e (lsOf e)) := by
  rw [mismatchStore_eq w h he]
  unfold lsMismatch
  cases hf : e.hasFile with
  | true => exact abs_termStore w h he
  | false =>
    have hself : (abs s)[i]? = some (lsOf e) := by rw [abs_getElem?, he]; rfl
    rw [lsEnsure_lsOf, hf]
    cases ho : e.opened with
    | true => exact (set_same _ _ _ hself).symm
    | false => exact (set_same _ _ _ (hself.trans (congrArg some (lsOf_unopened ho)))).symm

/-- an owner has a file name, so `clone` hands the reader on exactly when it is borrowed -/
theorem derive_lsOf {s : Store} (h : StoreInv s) {i : Nat} {e : Ext} (he : s.exts[i]? = some e)
    (c : BCall) : lsOf (e.derive c) = (lsOf e).cloned := by
  rw [derive_eq]
  unfold lsOf Ext.clone
  cases e.opened with
  | false => rfl
  | true =>
    cases hw : e.owns with
    | false => rfl
    | true => rw [h.ownsFile i e he hw]; rfl

/-- **simulation**: one operation on a reachable store is one step of the automaton -/
theorem abs_step (w : World) {s : Store} (h : StoreInv s) {e0 : Ext} {L : List (List BCall)}
    (hl : LinInv e0 L s) (op : Op) :
    abs (step w s op).1 = lsStep w (cfgs e0 L) (abs s) op := by
  rcases lin_get hl op.target with ⟨he, _⟩ | ⟨e, cs, he, hL, hst⟩
  · cases op <;> simp only [Op.target] at he <;>
      simp only [step, deriveOp, terminal, nonTerminal, closeOp, lsStep, abs_getElem?, he, Option.map_none]
  · have hself : (abs s)[op.target]? = some (lsOf e) := by rw [abs_getElem?, he]; rfl
    have hC : (cfgs e0 L)[op.target]? = some (chainFrom e0 cs) := by simp [cfgs, hL]
    cases op with
    | derive i c =>
      simp only [Op.target] at he hself
      simp only [step, deriveOp, lsStep, he, hself]
      simp only [abs, List.map_append, List.map_cons, List.map_nil, derive_lsOf h he c]
    | term i k =>
      simp only [Op.target] at he hself hC
      simp only [step, lsStep, hself, hC]
      rw [terminal_fst w k s i e he, ← static_congr (lsTerm w k · (lsOf e)) (fun _ => rfl) hst]
      unfold lsTerm
      rw [apply_ite abs, apply_ite abs, apply_ite ((abs s).set i), apply_ite ((abs s).set i),
        abs_mismatch w h he, abs_termStore w h he, set_same (abs s) i (lsOf e) hself]
    | nonTerm i k =>
      simp only [Op.target] at he hself hC
      simp only [step, lsStep, hself, hC]
      rw [nonTerminal_fst w k s i e he, ← static_congr (lsNonTerm w k · (lsOf e)) (fun _ => rfl) hst]
      unfold lsNonTerm
      rw [apply_ite abs, apply_ite abs, apply_ite ((abs s).set i), apply_ite ((abs s).set i),
        abs_mismatch w h he, abs_ntStore w he, set_same (abs s) i (lsOf e) hself]
    | close i =>
      simp only [Op.target] at he hself
      simp only [step, closeOp, lsStep, he, hself]
      exact abs_closeExt h he

/-- … and a whole history is a run of the automaton -/
theorem abs_exec (w : World) (e0 : Ext) (ops : List Op) :
    ∀ {L : List (List BCall)} {s : Store}, StoreInv s → LinInv e0 L s →
      abs (exec w s ops) = lifeRun w e0 L (abs s) ops := by
  induction ops with
  | nil => intro L s _ _; rfl
  | cons op ops ih =>
    intro L s h hl
    simp only [exec, lifeRun]
    rw [← abs_step w h hl op]
    exact ih (inv_step w h op) (lin_exec w e0 [op] hl)

/-- a history only appends chains -/
theorem lineage_prefix (ops : List Op) : ∀ L : List (List BCall), L <+: lineage L ops := by
  induction ops with
  | nil => intro L; exact List.prefix_rfl
  | cons op ops ih =>
    intro L
    rw [lineage_cons]
    refine List.IsPrefix.trans ?_ (ih _)
    cases op with
    | derive j c => simp only [lineage]; cases L[j]? <;> simp
    | _ => exact List.prefix_rfl

theorem lineage_get_lt (ops : List Op) (L : List (List BCall)) {i : Nat} (hi : i < L.length) :
    (lineage L ops)[i]? = L[i]? := by
  have h := lineage_prefix ops L
  rw [List.getElem?_eq_getElem hi, List.getElem?_eq_getElem (Nat.lt_of_lt_of_le hi h.length_le),
    h.getElem hi]

/-- an operation on its receiver: nothing (no such extractor), or the receiver's state moves by
`lsLocal` -/
theorem lsStep_mut (w : World) (C : List Ext) (S : List LS) (op : Op) (hop : op.mutates = true) :
    lsStep w C S op = S ∨
    ∃ l e, S[op.target]? = some l ∧ lsStep w C S op = S.set op.target (lsLocal w e l op) := by
  cases op with
  | derive j c => cases hop
  | term j k =>
    simp only [lsStep, Op.target, lsLocal]
    split
    next l e hl _ => exact .inr ⟨l, e, hl, rfl⟩
    next => exact .inl rfl
  | nonTerm j k =>
    simp only [lsStep, Op.target, lsLocal]
    split
    next l e hl _ => exact .inr ⟨l, e, hl, rfl⟩
    next => exact .inl rfl
  | close j =>
    simp only [lsStep, Op.target, lsLocal]
    split
    next l hl => exact .inr ⟨l, {}, hl, rfl⟩
    next => exact .inl rfl

theorem lsStep_length_mut (w : World) (C : List Ext) (S : List LS) (op : Op)
    (hop : op.mutates = true) : (lsStep w C S op).length = S.length := by
  rcases lsStep_mut w C S op hop with hr | ⟨_, _, _, hr⟩ <;> rw [hr]
  exact List.length_set

theorem lsStep_length (w : World) (C : List Ext) (S : List LS) (L : List (List BCall)) (op : Op)
    (h : L.length = S.length) : (lineage L [op]).length = (lsStep w C S op).length := by
  cases op with
  | derive j c =>
    simp only [lineage, lsStep]
    by_cases hj : j < S.length
    · rw [List.getElem?_eq_getElem hj, List.getElem?_eq_getElem (h ▸ hj)]
      simp [h]
    · rw [List.getElem?_eq_none_iff.mpr (by omega), List.getElem?_eq_none_iff.mpr (by omega)]
      exact h
  | _ => exact h.trans (lsStep_length_mut w C S _ rfl).symm

theorem lsStep_get_self (w : World) (C : List Ext) (S : List LS) (op : Op) (i : Nat) (l : LS) (e : Ext)
    (hop : op.mutates = true) (ht : op.target = i) (hS : S[i]? = some l) (hC : C[i]? = some e) :
    (lsStep w C S op)[i]? = some (lsLocal w e l op) := by
  have hi := lt_of_getElem? hS
  cases op with
  | derive j c => cases hop
  | term j k =>
    simp only [Op.target] at ht; subst ht
    simp only [lsStep, hS, hC, lsLocal, List.getElem?_set_self hi]
  | nonTerm j k =>
    simp only [Op.target] at ht; subst ht
    simp only [lsStep, hS, hC, lsLocal, List.getElem?_set_self hi]
  | close j =>
    simp only [Op.target] at ht; subst ht
    simp only [lsStep, hS, lsLocal, List.getElem?_set_self hi]

theorem ownOps_cons (i : Nat) (op : Op) (ops : List Op) :
    ownOps i (op :: ops) =
      if (op.mutates && op.target == i) = true then op :: ownOps i ops else ownOps i ops := by
  simp only [ownOps, List.filter_cons]

theorem wellScoped_cons {n : Nat} {op : Op} {ops : List Op} (h : wellScoped n (op :: ops) = true)
    (w : World) (C : List Ext) (S : List LS) (hS : S.length = n) :
    op.target < n ∧ wellScoped (lsStep w C S op).length ops = true := by
  cases op with
  | derive j c =>
    simp only [wellScoped, Bool.and_eq_true, decide_eq_true_eq] at h
    refine ⟨h.1, ?_⟩
    simp only [lsStep]
    rw [List.getElem?_eq_getElem (hS ▸ h.1)]
    simp only [List.length_append, List.length_cons, List.length_nil, hS]
    exact h.2
  | _ =>
    simp only [wellScoped, Bool.and_eq_true, decide_eq_true_eq] at h
    exact ⟨h.1, by rw [lsStep_length_mut w C S _ rfl, hS]; exact h.2⟩

theorem lsEnsure_idle (w : World) (e : Ext) :
    lsEnsure w e .idle = if (e.hasFile && w.openOk) = true then .holding else .idle := rfl
theorem lsEnsure_holding (w : World) (e : Ext) : lsEnsure w e .holding = .holding := rfl
theorem lsEnsure_borrowed (w : World) (e : Ext) : lsEnsure w e .borrowed = .borrowed := rfl
theorem lsClose_idle : lsClose .idle = .idle := rfl
theorem lsClose_holding : lsClose .holding = .idle := rfl
theorem lsClose_borrowed : lsClose .borrowed = .borrowed := rfl

/-- no extractor of the family has a borrowed reader (families grown from `Open(f)`) -/
def NoBorrowed (S : List LS) : Prop := ∀ l ∈ S, l ≠ LS.borrowed

/-- only a borrowed reader is handed on to a copy -/
theorem cloned_idle {l : LS} (h : l ≠ .borrowed) : l.cloned = .idle := by
  cases l with
  | borrowed => exact absurd rfl h
  | _ => rfl

theorem lsClose_nb {l : LS} (h : l ≠ .borrowed) : lsClose l ≠ .borrowed := by
  cases l <;> simp_all [lsClose]

theorem lsEnsure_nb (w : World) (e : Ext) {l : LS} (h : l ≠ .borrowed) : lsEnsure w e l ≠ .borrowed := by
  cases l with
  | idle => rw [lsEnsure_idle]; split <;> simp
  | holding => simp [lsEnsure_holding]
  | borrowed => exact absurd rfl h

/-- what `ensureReader` and `Close` keep, every operation keeps -/
theorem lsLocal_forall (w : World) (e : Ext) (op : Op) (Q : LS → Prop)
    (hens : ∀ l, Q l → Q (lsEnsure w e l)) (hcl : ∀ l, Q l → Q (lsClose l)) {l : LS} (h : Q l) :
    Q (lsLocal w e l op) := by
  have hmis : Q (lsMismatch w e l) := iteInduction (motive := Q) (fun _ => hcl _ (hens _ h)) fun _ => hens _ h
  cases op with
  | derive j c => exact h
  | term j k =>
    exact iteInduction (motive := Q) (fun _ => h) fun _ => iteInduction (motive := Q) (fun _ => hmis) fun _ => hcl _ (hens _ h)
  | nonTerm j k =>
    exact iteInduction (motive := Q) (fun _ => h) fun _ => iteInduction (motive := Q) (fun _ => hmis) fun _ => hens _ h
  | close j => exact hcl _ h

theorem lsLocal_nb (w : World) (e : Ext) {l : LS} (op : Op) (h : l ≠ .borrowed) :
    lsLocal w e l op ≠ .borrowed :=
  lsLocal_forall w e op (· ≠ LS.borrowed) (fun _ => lsEnsure_nb w e) (fun _ => lsClose_nb) h

/-- a property of life-cycle states that `lsLocal` and `clone` keep holds of all states after an
operation if it did before -/
theorem lsStep_forall (w : World) (C : List Ext) {S : List LS} (op : Op) (Q : LS → Prop)
    (hloc : ∀ e l, Q l → Q (lsLocal w e l op)) (hcl : ∀ l, Q l → Q l.cloned)
    (h : ∀ l ∈ S, Q l) : ∀ l ∈ lsStep w C S op, Q l := by
  cases hm : op.mutates with
  | true =>
    rcases lsStep_mut w C S op hm with hr | ⟨l, e, hl, hr⟩ <;> rw [hr]
    · exact h
    · intro x hx
      rcases List.mem_or_eq_of_mem_set hx with hx | hx
      · exact h x hx
      · rw [hx]; exact hloc e l (h _ (List.mem_of_getElem? hl))
  | false =>
    cases op with
    | derive j c =>
      simp only [lsStep]
      cases hj : S[j]? with
      | none => exact h
      | some l =>
        intro x hx
        rcases List.mem_append.mp hx with hx | hx
        · exact h x hx
        · rw [List.mem_singleton.mp hx]; exact hcl l (h l (List.mem_of_getElem? hj))
    | _ => cases hm

theorem lsStep_nb (w : World) (C : List Ext) {S : List LS} (op : Op) (h : NoBorrowed S) :
    NoBorrowed (lsStep w C S op) :=
  lsStep_forall w C op (· ≠ LS.borrowed) (fun e _ hl => lsLocal_nb w e op hl)
    (fun _ hl => cloned_idle hl ▸ LS.noConfusion) h

theorem lifeRun_nb (w : World) (e0 : Ext) (ops : List Op) : ∀ (L : List (List BCall)) {S : List LS},
    NoBorrowed S → NoBorrowed (lifeRun w e0 L S ops) := by
  induction ops with
  | nil => intro L S h; exact h
  | cons op ops ih => intro L S h; exact ih _ (lsStep_nb w _ op h)

/-- in a family without borrowed readers an extractor that owns nothing has nothing -/
theorem idle_of_unowned {s : Store} (hs : StoreInv s) (hnb : NoBorrowed (abs s)) {i : Nat} {e : Ext}
    (he : s.exts[i]? = some e) (ho : e.owns = false) : e.reader = none ∧ e.opened = false := by
  have hl : lsOf e ≠ .borrowed := hnb _ (List.mem_of_getElem? ((abs_getElem? s i).trans (congrArg _ he)))
  cases hop : e.opened with
  | false => exact ⟨(hs.unopened i e he hop).2, rfl⟩
  | true => exact absurd (by unfold lsOf; rw [hop, ho]; rfl) hl

theorem ownOps_none (i n : Nat) (ops : List Op) (hws : wellScoped n ops = true) (hi : n ≤ i)
    (hfuture : ∀ op ∈ ops, op.mutates = true → op.target ≠ i) : ownOps i ops = [] := by
  unfold ownOps
  rw [List.filter_eq_nil_iff]
  intro op hop
  cases hm : op.mutates with
  | false => simp
  | true => have := hfuture op hop hm; simp [this]

/-- the state of an extractor that exists, `idle` for one that does not exist yet: what `clone`
will give it in a family without borrowed readers -/
def stateAt (S : List LS) (i : Nat) : LS := (S[i]?).getD .idle

theorem lsStep_stateAt_other (w : World) (C : List Ext) {S : List LS} (hnb : NoBorrowed S) (op : Op)
    (i : Nat) (h : op.mutates = false ∨ op.target ≠ i) :
    stateAt (lsStep w C S op) i = stateAt S i := by
  unfold stateAt
  cases hm : op.mutates with
  | true =>
    rcases lsStep_mut w C S op hm with hr | ⟨_, _, _, hr⟩ <;> rw [hr]
    rw [List.getElem?_set_ne (h.resolve_left (by rw [hm]; exact Bool.noConfusion))]
  | false =>
    cases op with
    | derive j c =>
      simp only [lsStep]
      cases hj : S[j]? with
      | none => rfl
      | some l =>
        rcases Nat.lt_trichotomy i S.length with hi | rfl | hi
        · rw [List.getElem?_append_left hi]
        · rw [List.getElem?_concat_length, List.getElem?_eq_none (Nat.le_refl _)]
          exact cloned_idle (hnb l (List.mem_of_getElem? hj))
        · rw [List.getElem?_eq_none (by simp; omega), List.getElem?_eq_none (by omega)]
    | _ => cases hm

/-- the final state of every extractor of a history, whether it exists at the start or is created
on the way: the fold of its own operations over its state at the start -/
theorem life_fold (w : World) (e0 : Ext) (ops : List Op) :
    ∀ (L : List (List BCall)) (S : List LS), L.length = S.length → wellScoped S.length ops = true →
      NoBorrowed S → ∀ (i : Nat) (cs : List BCall), (lineage L ops)[i]? = some cs →
        (lifeRun w e0 L S ops)[i]? =
          some ((ownOps i ops).foldl (lsLocal w (chainFrom e0 cs)) (stateAt S i)) := by
  induction ops with
  | nil =>
    intro L S hlen _ _ i cs hL
    have hi : i < S.length := hlen ▸ lt_of_getElem? hL
    show S[i]? = some ((S[i]?).getD .idle)
    rw [List.getElem?_eq_getElem hi]
    rfl
  | cons op ops ih =>
    intro L S hlen hws hnb i cs hL
    obtain ⟨htgt, hws'⟩ := wellScoped_cons hws w (cfgs e0 L) S rfl
    rw [lineage_cons] at hL
    simp only [lifeRun]
    rw [ih _ _ (lsStep_length w (cfgs e0 L) S L op hlen) hws' (lsStep_nb w (cfgs e0 L) op hnb) i cs hL,
      ownOps_cons]
    by_cases hown : (op.mutates && op.target == i) = true
    · rw [if_pos hown, List.foldl_cons]
      simp only [Bool.and_eq_true, beq_iff_eq] at hown
      have hi : i < S.length := hown.2 ▸ htgt
      have hLi : L[i]? = some cs := by
        rw [← lineage_get_lt (op :: ops) L (hlen ▸ hi), lineage_cons]
        exact hL
      congr 2
      unfold stateAt
      rw [lsStep_get_self w (cfgs e0 L) S op i S[i] (chainFrom e0 cs) hown.1 hown.2
        (List.getElem?_eq_getElem hi) (by simp [cfgs, hLi]), List.getElem?_eq_getElem hi]
      rfl
    · rw [if_neg hown, lsStep_stateAt_other w _ hnb op i]
      cases hm : op.mutates with
      | false => exact .inl rfl
      | true => exact .inr fun ht => hown (by simp [hm, ht])

/-- what is true of the state of a file-based extractor at every point of its fold -/
def Jst (w : World) (e : Ext) (l : LS) : Prop :=
  l ≠ .borrowed ∧ (l = .holding → e.hasFile = true ∧ e.err = false ∧ w.openOk = true)

theorem lsClose_ne_holding (l : LS) : lsClose l ≠ .holding := by
  cases l <;> exact LS.noConfusion

/-- `ensureReader` leaves a file-based extractor holding exactly when its file opens: one that
holds already has such a file -/
theorem lsEnsure_eq_holding (w : World) (e : Ext) {l : LS} (hJ : Jst w e l) :
    lsEnsure w e l = .holding ↔ (e.hasFile && w.openOk) = true := by
  cases l with
  | borrowed => exact absurd rfl hJ.1
  | holding =>
    obtain ⟨h1, _, h3⟩ := hJ.2 rfl
    rw [h1, h3]
    exact ⟨fun _ => rfl, fun _ => rfl⟩
  | idle =>
    rw [lsEnsure_idle]
    split <;> simp [*]

theorem lsMismatch_ne_holding {w : World} {e : Ext} {l : LS} (hJ : Jst w e l) :
    lsMismatch w e l ≠ .holding :=
  iteInduction (motive := (· ≠ LS.holding)) (fun _ => lsClose_ne_holding _) fun hf h =>
    hf (Bool.and_eq_true_iff.mp ((lsEnsure_eq_holding w e hJ).mp h)).1

theorem lsLocal_J (w : World) (e : Ext) (l : LS) (op : Op) (hJ : Jst w e l) (hop : op.mutates = true) :
    Jst w e (lsLocal w e l op) ∧ (lsLocal w e l op = .holding ↔ opensReader w e op = true) := by
  have hiff : lsLocal w e l op = .holding ↔ opensReader w e op = true := by
    cases op with
    | derive j c => cases hop
    | close j => exact ⟨fun h => absurd h (lsClose_ne_holding l), fun h => nomatch h⟩
    | term j k =>
      refine ⟨fun h => absurd h ?_, fun h => nomatch h⟩
      refine iteInduction (motive := (· ≠ LS.holding)) (fun hc hl => ?_) fun _ =>
        iteInduction (motive := (· ≠ LS.holding)) (fun _ => lsMismatch_ne_holding hJ) fun _ => lsClose_ne_holding _
      -- a builder error and a reader held do not go together
      rw [(hJ.2 hl).2.1, Bool.and_false] at hc
      cases hc
    | nonTerm j k =>
      show lsNonTerm w k e l = .holding ↔
        (!e.err && !(k.pdfOnly && e.format != .pdf) && e.hasFile && w.openOk) = true
      unfold lsNonTerm
      cases herr : e.err with
      | true =>
        rw [if_pos rfl]
        refine ⟨fun hl => ?_, fun h => by simp at h⟩
        rw [(hJ.2 hl).2.1] at herr
        cases herr
      | false =>
        rw [if_neg Bool.false_ne_true]
        cases hc : (k.pdfOnly && e.format != .pdf) with
        | true =>
          rw [if_pos rfl]
          exact ⟨fun h => absurd h (lsMismatch_ne_holding hJ), fun h => by simp at h⟩
        | false =>
          rw [if_neg Bool.false_ne_true, lsEnsure_eq_holding w e hJ]
          simp
  refine ⟨⟨lsLocal_nb w e op hJ.1, fun h => ?_⟩, hiff⟩
  have ho := hiff.mp h
  cases op with
  | nonTerm j k =>
    simp only [opensReader, Bool.and_eq_true, Bool.not_eq_true'] at ho
    exact ⟨ho.1.2, ho.1.1.1, ho.2⟩
  | _ => cases ho

/-- **the last operation decides**: a fold of mutating operations over a state of a file-based
extractor ends holding a reader iff the last of them opens one (with no operation at all: iff it
held one before) -/
theorem fold_last (w : World) (e : Ext) (own : List Op) : ∀ (l : LS), Jst w e l →
    (∀ op ∈ own, op.mutates = true) →
    Jst w e (own.foldl (lsLocal w e) l) ∧
    (own.foldl (lsLocal w e) l = .holding ↔
      (match own.getLast? with | some op => opensReader w e op = true | none => l = .holding)) := by
  induction own with
  | nil => intro l hJ _; exact ⟨hJ, Iff.rfl⟩
  | cons op rest ih =>
    intro l hJ hall
    have hop := hall op List.mem_cons_self
    obtain ⟨hJ', hiff⟩ := lsLocal_J w e l op hJ hop
    obtain ⟨h1, h2⟩ := ih _ hJ' (fun o ho => hall o (List.mem_cons_of_mem _ ho))
    refine ⟨h1, ?_⟩
    simp only [List.foldl_cons]
    rw [h2, List.getLast?_cons]
    cases hr : rest.getLast? with
    | none => exact hiff
    | some o => rfl

theorem ownOps_mutates (i : Nat) (ops : List Op) : ∀ op ∈ ownOps i ops, op.mutates = true := by
  intro op hop
  simp only [ownOps, List.mem_filter, Bool.and_eq_true] at hop
  exact hop.2.1

/-- `firstBad` is `find?` for "outside `1..n`" -/
theorem firstBad_eq_find? (n : Nat) (sel : List Int) :
    firstBad n sel = sel.find? fun p => decide (p < 1 ∨ p > (n : Int)) := by
  induction sel with
  | nil => rfl
  | cons p ps ih => simp only [firstBad, List.find?_cons, ih]; split <;> simp [*]

/-- the body of a terminal operation reports "page p out of range (1-n)" exactly on a PDF of `n`
pages whose page list has `p` as its first number outside `1..n` -/
theorem bodyErr_eq_range_iff (w : World) (k : Term) (e : Ext) (p : Int) (n : Nat) :
    bodyErr w k e = some (.range p n) ↔
      e.format = .pdf ∧ w.pageCount = some n ∧ firstBad n e.opts.pages = some p := by
  unfold bodyErr
  cases hp : w.pageCount with
  | none => simp only [reduceCtorEq, false_and, and_false, iff_false]; split <;> exact fun h => nomatch h
  | some m =>
    by_cases hf : e.format = .pdf
    · simp only [hf, if_true, true_and, Option.some.injEq]
      cases hem : e.opts.pages with
      | nil =>
        simp only [List.isEmpty_nil, if_true, firstBad, reduceCtorEq, and_false, iff_false]
        split <;> exact fun h => nomatch h
      | cons q qs =>
        simp only [List.isEmpty_cons, Bool.false_eq_true, if_false]
        cases hb : firstBad m (q :: qs) with
        | none => simp only [reduceCtorEq, false_iff]; rintro ⟨rfl, h⟩; rw [hb] at h; cases h
        | some r =>
          simp only [Option.some.injEq, EClass.range.injEq]
          exact ⟨fun ⟨a, b⟩ => ⟨b, by rw [← b, hb, a]⟩,
            fun ⟨b, c⟩ => ⟨Option.some.inj ((b ▸ hb).symm.trans c), b⟩⟩
    · simp only [hf, if_false, reduceCtorEq, false_and]

end Tabula.BuilderAuto
