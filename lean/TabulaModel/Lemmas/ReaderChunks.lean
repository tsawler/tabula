import TabulaModel.Model.Reader
import TabulaModel.Lemmas.PdfCS
import TabulaModel.Lemmas.ListBasics
/-!
A page's content cut into chunks at operation boundaries (Props/C01Reader.lean, `contents_join_guarantee`):
the separator in front of a token re-spelled (`SObj.setPre`, `SOp.setLead`), the program the chunks write one
after another (`glue`), and tabula's join of the chunks, a line feed after every non-empty one (`withLF`).
Legality of the program survives the join (`glue_withLF_valid`), so the joined bytes parse to the operations
of the chunks in order.
-/
namespace Tabula.Pdf

/-- the separator in front of an object's first token -/
def SObj.pre : SObj → Sep
  | .null p | .bool p _ | .int p _ _ _ | .real p _ | .lit p _ | .hex p _ _ _ | .name p _
  | .arr p _ _ | .dict p _ _ | .ref p _ _ _ _ => p

/-- the same object with another separator in front -/
def SObj.setPre (q : Sep) : SObj → SObj
  | .null _ => .null q
  | .bool _ b => .bool q b
  | .int _ a b c => .int q a b c
  | .real _ r => .real q r
  | .lit _ ps => .lit q ps
  | .hex _ a b c => .hex q a b c
  | .name _ ps => .name q ps
  | .arr _ a b => .arr q a b
  | .dict _ a b => .dict q a b
  | .ref _ a b c d => .ref q a b c d

/-- what an object renders after its leading separator -/
def SObj.body (x : SObj) : Str := (x.setPre []).render

theorem renderSep_nil : renderSep [] = [] := rfl

theorem renderSep_append (a b : Sep) : renderSep (a ++ b) = renderSep a ++ renderSep b := by
  simp [renderSep]

theorem SObj.setPre_render (q : Sep) (x : SObj) : (x.setPre q).render = renderSep q ++ x.body := by
  cases x <;> simp [SObj.setPre, SObj.body, SObj.render, renderSep]

theorem SObj.setPre_pre (x : SObj) : x.setPre x.pre = x := by cases x <;> rfl

theorem SObj.render_eq (x : SObj) : x.render = renderSep x.pre ++ x.body := by
  rw [← SObj.setPre_render, SObj.setPre_pre]

theorem SObj.setPre_value (q : Sep) (x : SObj) : (x.setPre q).value = x.value := by
  cases x <;> simp [SObj.setPre, SObj.value]

theorem SObj.setPre_endsRegular (q : Sep) (x : SObj) : (x.setPre q).endsRegular = x.endsRegular := by
  cases x <;> rfl

theorem SObj.setPre_noRef (q : Sep) (x : SObj) : (x.setPre q).noRef = x.noRef := by
  cases x <;> simp [SObj.setPre, SObj.noRef]

/-- a spelling stays legal when the separator in front of it is replaced by any legal separator
that is non-empty if the old one was -/
theorem SObj.setPre_valid (q : Sep) (x : SObj) (need : Bool) (hv : x.Valid need) (hq : SepOk q)
    (hne : x.pre ≠ [] → q ≠ []) : (x.setPre q).Valid need := by
  cases x <;> simp only [SObj.setPre, SObj.Valid, SObj.pre] at hv hne ⊢
  all_goals first
    | exact ⟨hq, fun h => hne (hv.2 h)⟩
    | exact ⟨hq, fun h => hne (hv.2.1 h), hv.2.2⟩
    | exact ⟨hq, hv.2⟩
    | exact ⟨hq, fun h => hne (hv.2.1 h), hv.2.2.1, hv.2.2.2.1, hv.2.2.2.2.1, hv.2.2.2.2.2.1, hv.2.2.2.2.2.2⟩

/-- the separator in front of an operation's first token -/
def SOp.lead (o : SOp) : Sep :=
  match o.operands with
  | [] => o.pre
  | x :: _ => x.pre

def SOp.setLead (q : Sep) (o : SOp) : SOp :=
  match o.operands with
  | [] => { o with pre := q }
  | x :: xs => { o with operands := x.setPre q :: xs }

/-- what an operation renders after its leading separator -/
def SOp.body (o : SOp) : Str := (o.setLead []).render

theorem SOp.setLead_render (q : Sep) (o : SOp) : (o.setLead q).render = renderSep q ++ o.body := by
  obtain ⟨operands, pre, op⟩ := o
  cases operands with
  | nil => simp [SOp.setLead, SOp.body, SOp.render, renderList, renderSep]
  | cons x xs =>
    simp only [SOp.setLead, SOp.body, SOp.render, renderList, SObj.setPre_render]
    simp [renderSep]

theorem SOp.setLead_lead_self (o : SOp) : o.setLead o.lead = o := by
  obtain ⟨operands, pre, op⟩ := o
  cases operands with
  | nil => rfl
  | cons x xs => simp only [SOp.setLead, SOp.lead, SObj.setPre_pre]

theorem SOp.render_eq (o : SOp) : o.render = renderSep o.lead ++ o.body := by
  rw [← SOp.setLead_render, SOp.setLead_lead_self]

theorem SOp.setLead_op (q : Sep) (o : SOp) : (o.setLead q).op = o.op := by
  obtain ⟨operands, pre, op⟩ := o
  cases operands <;> rfl

theorem SOp.setLead_values (q : Sep) (o : SOp) :
    valueList (o.setLead q).operands = valueList o.operands := by
  obtain ⟨operands, pre, op⟩ := o
  cases operands with
  | nil => rfl
  | cons x xs => simp [SOp.setLead, valueList, SObj.setPre_value]

/-- a program stays legal when the separator in front of its first token is replaced by any
legal separator that is non-empty if the old one was -/
theorem ValidOps_setLead (q : Sep) (o : SOp) (os : List SOp) (need : Bool) (hv : ValidOps need (o :: os))
    (hq : SepOk q) (hne : o.lead ≠ [] → q ≠ []) : ValidOps need (o.setLead q :: os) := by
  obtain ⟨operands, pre, op⟩ := o
  cases operands with
  | nil =>
    simp only [ValidOps, SOp.setLead, SOp.lead, lastEndsRegular] at hv hne ⊢
    exact ⟨hv.1, hv.2.1, hq, fun h => hne (hv.2.2.2.1 h), hv.2.2.2.2⟩
  | cons x xs =>
    simp only [ValidOps, SOp.setLead, SOp.lead, ValidList, noRefList, lastEndsRegular,
      SObj.setPre_endsRegular, SObj.setPre_noRef] at hv hne ⊢
    exact ⟨⟨SObj.setPre_valid q x need hv.1.1 hq hne, hv.1.2⟩, hv.2⟩

theorem renderOps_append (a b : List SOp) : renderOps (a ++ b) = renderOps a ++ renderOps b := by
  induction a with
  | nil => rfl
  | cons o os ih => simp [renderOps, ih]

theorem ValidOps_append (a b : List SOp) (need : Bool) (ha : ValidOps need a) (hb : ValidOps true b)
    (hne : a ≠ []) : ValidOps need (a ++ b) := by
  induction a generalizing need with
  | nil => exact absurd rfl hne
  | cons o os ih =>
    simp only [List.cons_append, ValidOps] at ha ⊢
    refine ⟨ha.1, ha.2.1, ha.2.2.1, ha.2.2.2.1, ha.2.2.2.2.1, ?_⟩
    cases os with
    | nil => exact hb
    | cons o' os' => exact ih true ha.2.2.2.2.2 (by simp)

end Tabula.Pdf

namespace Tabula.Reader
open Tabula.Pdf

/-- a chunk of a page's content: some operations (spelled) followed by a separator -/
abbrev Chunk := List SOp × Sep

def chunkBytes (c : Chunk) : Str := renderOps c.1 ++ renderSep c.2

/-- the operation a spelled operation stands for -/
def opVal (o : SOp) : CS.Operation := { op := o.op, operands := valueList o.operands }

/-- the program written by the chunks one after another: the separator left pending by the
chunks so far goes in front of the next chunk's first token; the second component is the
separator pending at the end -/
def glue : Sep → List Chunk → List SOp × Sep
  | pend, [] => ([], pend)
  | pend, ([], tr) :: rest => glue (pend ++ tr) rest
  | pend, (o :: os, tr) :: rest =>
    (o.setLead (pend ++ o.lead) :: (os ++ (glue tr rest).1), (glue tr rest).2)

theorem glue_render (cs : List Chunk) (pend : Sep) :
    renderOps (glue pend cs).1 ++ renderSep (glue pend cs).2 = renderSep pend ++ cs.flatMap chunkBytes := by
  fun_induction glue pend cs with
  | case1 pend => simp [renderOps]
  | case2 pend tr rest ih =>
    simp only [ih, renderSep_append, List.flatMap_cons, chunkBytes, renderOps, List.nil_append, List.append_assoc]
  | case3 pend o os tr rest ih =>
    simp only [renderOps, renderOps_append, SOp.setLead_render, renderSep_append, List.flatMap_cons,
      chunkBytes, SOp.render_eq o, List.append_assoc] at ih ⊢
    rw [ih]

theorem glue_singleton (c : Chunk) : glue [] [c] = c := by
  obtain ⟨ops, tr⟩ := c
  cases ops with
  | nil => rfl
  | cons o os => simp only [glue, List.nil_append, List.append_nil, SOp.setLead_lead_self]

theorem setLead_opVal (q : Sep) (o : SOp) : opVal (o.setLead q) = opVal o := by
  simp [opVal, SOp.setLead_op, SOp.setLead_values]

/-- the bytes of a program cut into chunks are the bytes of the chunks one after another -/
theorem chunkBytes_glue (cs : List Chunk) : chunkBytes (glue [] cs) = cs.flatMap chunkBytes := by
  rw [chunkBytes, glue_render, renderSep_nil, List.nil_append]

theorem glue_values (cs : List Chunk) (pend : Sep) :
    (glue pend cs).1.map opVal = cs.flatMap fun c => c.1.map opVal := by
  fun_induction glue pend cs with
  | case1 => rfl
  | case2 pend tr rest ih => simp [ih]
  | case3 pend o os tr rest ih => simp [ih, setLead_opVal]

/-- every operation of the glued program is an operation of a chunk, up to the separator in
front of it -/
theorem glue_mem (cs : List Chunk) (pend : Sep) (o : SOp) (ho : o ∈ (glue pend cs).1) :
    ∃ c ∈ cs, ∃ o' ∈ c.1, valueList o.operands = valueList o'.operands := by
  fun_induction glue pend cs with
  | case1 => cases ho
  | case2 pend tr rest ih =>
    obtain ⟨c', hc', o', ho', e⟩ := ih ho
    exact ⟨c', by simp [hc'], o', ho', e⟩
  | case3 pend o1 os tr rest ih =>
    simp only [List.mem_cons, List.mem_append] at ho
    rcases ho with rfl | ho | ho
    · exact ⟨(o1 :: os, tr), by simp, o1, by simp, SOp.setLead_values _ _⟩
    · exact ⟨(o1 :: os, tr), by simp, o, by simp [ho], rfl⟩
    · obtain ⟨c', hc', o', ho', e⟩ := ih ho
      exact ⟨c', by simp [hc'], o', ho', e⟩

theorem sepOk_append {a b : Sep} : SepOk (a ++ b) ↔ SepOk a ∧ SepOk b := List.forall_mem_append

theorem sepOk_lf : SepOk [SepUnit.ws 10] := by
  intro u hu
  simp only [List.mem_cons, List.not_mem_nil, or_false] at hu
  subst hu
  show isWs 10 = true
  decide

theorem SObj.valid_pre_ok (x : SObj) (need : Bool) (hv : x.Valid need) : SepOk x.pre := by
  cases x <;> simp only [SObj.Valid, SObj.pre] at hv ⊢ <;> exact hv.1

theorem SOp.setLead_lead (q : Sep) (o : SOp) : (o.setLead q).lead = q := by
  obtain ⟨operands, pre, op⟩ := o
  cases operands with
  | nil => rfl
  | cons x xs => cases x <;> rfl

theorem SOp.setLead_setLead (q q' : Sep) (o : SOp) : (o.setLead q).setLead q' = o.setLead q' := by
  obtain ⟨operands, pre, op⟩ := o
  cases operands with
  | nil => rfl
  | cons x xs => cases x <;> rfl

theorem validOps_lead_ok (o : SOp) (os : List SOp) (need : Bool) (hv : ValidOps need (o :: os)) : SepOk o.lead := by
  obtain ⟨operands, pre, op⟩ := o
  cases operands with
  | nil => exact hv.2.2.1
  | cons x xs => exact SObj.valid_pre_ok x need hv.1.1

theorem validOps_split (a b : List SOp) (need : Bool) (h : ValidOps need (a ++ b)) (hne : a ≠ []) :
    ValidOps need a ∧ ValidOps true b := by
  induction a generalizing need with
  | nil => exact absurd rfl hne
  | cons o os ih =>
    simp only [List.cons_append, ValidOps] at h ⊢
    cases os with
    | nil => exact ⟨⟨h.1, h.2.1, h.2.2.1, h.2.2.2.1, h.2.2.2.2.1, trivial⟩, h.2.2.2.2.2⟩
    | cons o' os' =>
      have := ih true h.2.2.2.2.2 (by simp)
      exact ⟨⟨h.1, h.2.1, h.2.2.1, h.2.2.2.1, h.2.2.2.2.1, this.1⟩, this.2⟩

/-- the separator pending in front of a legal glued program is legal -/
theorem glue_pend_ok (cs : List Chunk) (pend : Sep) (need : Bool) (hv : ValidOps need (glue pend cs).1)
    (ht : SepOk (glue pend cs).2) : SepOk pend := by
  fun_induction glue pend cs generalizing need with
  | case1 => exact ht
  | case2 pend tr rest ih => exact (sepOk_append.mp (ih need hv ht)).1
  | case3 pend o os tr rest ih =>
    have := validOps_lead_ok _ _ need hv
    rw [SOp.setLead_lead] at this
    exact (sepOk_append.mp this).1

/-- what tabula's join does to a chunk: a line feed after every non-empty part -/
def withLF (c : Chunk) : Chunk := if chunkBytes c = [] then c else (c.1, c.2 ++ [SepUnit.ws 10])

theorem withLF_ops (c : Chunk) : (withLF c).1 = c.1 := by unfold withLF; split <;> rfl

theorem chunkBytes_withLF (c : Chunk) :
    chunkBytes (withLF c) = if (chunkBytes c).isEmpty then [] else chunkBytes c ++ [10] := by
  unfold withLF
  by_cases h : chunkBytes c = []
  · simp [h]
  · rw [if_neg h]
    have h' : (chunkBytes c).isEmpty = false := by
      cases hc : chunkBytes c with
      | nil => exact absurd hc h
      | cons a b => rfl
    rw [h']
    simp [chunkBytes, renderSep, SepUnit.render]

theorem join_chunks (cs : List Chunk) :
    PdfDoc.joinContents (cs.map chunkBytes) = (cs.map withLF).flatMap chunkBytes := by
  rw [PdfDoc.joinContents, List.flatMap_map, List.flatMap_map]
  exact List.flatMap_congr fun c _ => (chunkBytes_withLF c).symm

theorem opName_ne_nil (op : Str) (h : OpName op) : op ≠ [] := by
  obtain ⟨⟨c, r, rfl, _⟩, _⟩ := h
  simp

theorem chunkBytes_ne_nil (o : SOp) (os : List SOp) (tr : Sep) (h : OpName o.op) : chunkBytes (o :: os, tr) ≠ [] := by
  have := opName_ne_nil o.op h
  simp [chunkBytes, renderOps, SOp.render, this]

theorem append_ne_nil_of {a b a' b' : Sep} (ha : a ≠ [] → a' ≠ []) (hb : b ≠ [] → b' ≠ []) :
    a ++ b ≠ [] → a' ++ b' ≠ [] := by
  simp only [ne_eq, List.append_eq_nil_iff, Classical.not_and_iff_not_or_not]
  exact Or.imp ha hb

/-- legality survives the join: if the chunks written one after another (after the pending
separator `pend`) are a legal program, so are the chunks with tabula's line feeds, after any
legal pending separator that is non-empty if `pend` was -/
theorem glue_withLF_valid (cs : List Chunk) (pend pend' : Sep) (need : Bool)
    (hv : ValidOps need (glue pend cs).1) (ht : SepOk (glue pend cs).2)
    (hp : SepOk pend') (hne : pend ≠ [] → pend' ≠ []) :
    ValidOps need (glue pend' (cs.map withLF)).1 ∧ SepOk (glue pend' (cs.map withLF)).2 := by
  induction cs generalizing pend pend' need with
  | nil => exact ⟨trivial, hp⟩
  | cons c rest ih =>
    obtain ⟨ops, tr⟩ := c
    cases ops with
    | nil =>
      have hpt := glue_pend_ok rest (pend ++ tr) need hv ht
      have htr := (sepOk_append.mp hpt).2
      simp only [List.map_cons, withLF]
      split
      · exact ih (pend ++ tr) (pend' ++ tr) need hv ht (sepOk_append.mpr ⟨hp, htr⟩)
          (append_ne_nil_of hne id)
      · exact ih (pend ++ tr) (pend' ++ (tr ++ [SepUnit.ws 10])) need hv ht
          (sepOk_append.mpr ⟨hp, sepOk_append.mpr ⟨htr, sepOk_lf⟩⟩) (fun _ => by simp)
    | cons o os =>
      simp only [glue] at hv ht
      have hsplit2 : ValidOps need (o.setLead (pend ++ o.lead) :: os) ∧ ValidOps true (glue tr rest).1 := by
        have h0 : ValidOps need ((o.setLead (pend ++ o.lead) :: os) ++ (glue tr rest).1) := by simpa using hv
        exact validOps_split _ _ need h0 (by simp)
      have hop : OpName o.op := by
        have := hsplit2.1.2.2.2.2.1
        rwa [SOp.setLead_op] at this
      have hlead := validOps_lead_ok _ _ need hsplit2.1
      rw [SOp.setLead_lead] at hlead
      have htr : SepOk tr := glue_pend_ok rest tr true hsplit2.2 ht
      have hrest := ih tr (tr ++ [SepUnit.ws 10]) true hsplit2.2 ht
        (sepOk_append.mpr ⟨htr, sepOk_lf⟩) (fun _ => by simp)
      have hnew : ValidOps need (o.setLead (pend' ++ o.lead) :: os) := by
        have := ValidOps_setLead (pend' ++ o.lead) (o.setLead (pend ++ o.lead)) os need hsplit2.1
          (sepOk_append.mpr ⟨hp, (sepOk_append.mp hlead).2⟩)
          (by
            rw [SOp.setLead_lead]
            exact append_ne_nil_of hne id)
        rwa [SOp.setLead_setLead] at this
      have hw : withLF (o :: os, tr) = (o :: os, tr ++ [SepUnit.ws 10]) := by
        unfold withLF
        rw [if_neg (chunkBytes_ne_nil o os tr hop)]
      simp only [List.map_cons, hw, glue]
      refine ⟨?_, hrest.2⟩
      have := ValidOps_append (o.setLead (pend' ++ o.lead) :: os) _ need hnew hrest.1 (by simp)
      simpa using this

end Tabula.Reader
