import TabulaModel.Lemmas.XrefCacheSpec
import TabulaModel.Lemmas.XrefObjStm
import TabulaModel.Lemmas.ListBasics
/-!
# The reader's caches never change an answer: `XrefC.getC` refines `XrefC.getD`

Invariant `CInv`: every binding of `objCache` is an answer of a fresh reader together with the
nested loads it needs (`objNeed`), every binding of `objStmCache` is the stream a fresh reader
would load, with the nested loads that takes (`stmNeed`), and its wrapper's state is sound.
Under the invariant, `GetObject(n)` with `loading` being loaded answers what the cache-free
lookup answers with the remaining budget - a cache hit being counted as the load it stands
for -, keeps the invariant, and leaves `reach` where a real load would have left it.

That contract is `Refines` (`StmRefines` for `getObjectStream`); it is established for
`getUncompressedObject`, `getObjectStream`, `getCompressedObject` given that the nested
`GetObject` meets it (`NestedOk`), and for `GetObject` by induction on the nesting
(`getC_refines`); `finishC_refines` is where the need is read off `reach`.
-/
namespace Tabula.XrefC
open Tabula.Pdf (Obj)
open Tabula.Reader (Dict dget PVal)
open Tabula.XrefFile

/-- the wrapper state of a cached object stream is sound for what decoding the stream yields -/
def OSGood (dec : Except Reader.Err Reader.ObjStm) (sk : OSStateK) : Prop :=
  ∃ s0 : OSState, OSRel dec sk s0 ∧ OSOk dec s0

theorem osGood_empty (dec : Except Reader.Err Reader.ObjStm) : OSGood dec {} :=
  ⟨{}, osRel_empty dec, osOk_empty dec⟩

theorem osGood_step (keep : Bool) (dec : Except Reader.Err Reader.ObjStm) (sk : OSStateK) (idx : Int)
    (h : OSGood dec sk) :
    (osGetByIndexK keep dec sk idx).1 = osSpec dec idx ∧ OSGood dec (osGetByIndexK keep dec sk idx).2 := by
  obtain ⟨s0, hrel, hok⟩ := h
  have h1 := osGetByIndexK_rel keep dec sk s0 idx hrel
  have h2 := osGetByIndex_spec dec s0 idx hok
  exact ⟨h1.1.trans h2.1, _, h1.2, h2.2⟩

/-- `getCompressedObject`'s number check on what the wrapper answers is `memberAtI` -/
theorem member_of_osSpec (dec : Except Reader.Err Reader.ObjStm) (n idx : Int) :
    (match osSpec dec idx with
     | none => (none : Option PVal)
     | some (num, o) => if num = n then some (.obj o) else none) =
    (match dec with
     | .ok os => (memberAtI os n idx).map .obj
     | .error _ => none) := by
  cases dec with
  | error e => rfl
  | ok os =>
    simp only [memberAtI_eq_osSpec]
    cases osSpec (.ok os) idx with
    | none => rfl
    | some p => dsimp only [Option.bind_some]; split <;> rfl

/-- `core.NewObjectStream` refuses what `mkObjStm` refuses in front of the decoding -/
theorem mkObjStm_of_not_ok (ext : Reader.Ext) (kv : Dict) (data : Str) (h : newObjStmOk kv = false) :
    ∃ e, Reader.mkObjStm ext kv data = .error e := by
  unfold newObjStmOk at h
  unfold Reader.mkObjStm
  split at h
  · rename_i t n first h1 h2 h3
    simp only [h1, h2, h3]
    split at h
    · rename_i hc
      simp only [hc, if_true]
      exact ⟨_, rfl⟩
    · cases h
  · rename_i hx
    split
    · rename_i t n first h1 h2 h3
      exact absurd h3 (hx _ _ _ h1 h2)
    · exact ⟨_, rfl⟩


section
variable (ext : Reader.Ext) (file : Str) (x : RawSection)

/-- `getObjectStream(s)` on a fresh reader with `b` nested loads allowed below it: the stream
the wrapper is made of, and the nested loads its loading takes -/
def stmD (b : Nat) (s : Int) : Option (Dict × Str × Nat) :=
  match getLastI x s with
  | none => none
  | some xe =>
    if xe.kind = .compressed then none
    else
      match plainD file (getD ext file x b) s xe.f1 with
      | some (.stream kv data, j) => if newObjStmOk kv then some (kv, data, j) else none
      | _ => none

/-- an `objStmCache` binding is what a fresh reader would load -/
def StmOk (s : Int) (se : StmEntry) : Prop :=
  stmD ext file x se.need s = some (se.kv, se.data, se.need) ∧
    OSGood (Reader.mkObjStm ext se.kv se.data) se.os

/-- the invariant of the reader's caches -/
structure CInv (st : RSt) : Prop where
  obj : ∀ n v k, st.obj.lookup n = some (v, k) → getD ext file x k n = some (v, k)
  stm : ∀ s se, st.stm.lookup s = some se → StmOk ext file x s se

theorem cinv_empty (reach : Nat) : CInv ext file x { reach := reach } :=
  ⟨fun n v k h => by simp [List.lookup] at h, fun s se h => by simp [List.lookup] at h⟩

theorem cinv_clear (st : RSt) : CInv ext file x (clearC st) := cinv_empty ext file x _

/-- `r`, the answer of a lookup and the reader's state after it, is what the cache-free lookup
`spec` (answer and need) prescribes for a reader in state `st` with `L` objects being loaded: the
same answer, sound caches, and `reach` where a load of that need leaves it -/
def Refines (st : RSt) (L : Nat) (spec : Option (PVal × Nat)) (r : Option PVal × RSt) : Prop :=
  r.1 = spec.map Prod.fst ∧ CInv ext file x r.2 ∧ ∀ v k, spec = some (v, k) → r.2.reach = max st.reach (L + k)

/-- what the nested `GetObject` must do for object `m` at nesting `Lnow` with budget `b` -/
def NestedOk (nested : Int → RSt → Option PVal × RSt) (Lnow b : Nat) (m : Int) : Prop :=
  ∀ s, CInv ext file x s → Refines ext file x s Lnow (getD ext file x b m) (nested m s)

/-- `r`, the answer of `getObjectStream(s)` and the reader's state after it, is what `stmD`
prescribes with `b` nested loads allowed: the same stream with the same need (or none), sound
caches and a sound binding, and `reach` where a load of that need leaves it -/
def StmRefines (st : RSt) (Lnow b : Nat) (s : Int) (r : Option StmEntry × RSt) : Prop :=
  (r.1.map fun se => (se.kv, se.data, se.need)) = stmD ext file x b s ∧ CInv ext file x r.2 ∧
    ∀ se, r.1 = some se → StmOk ext file x s se ∧ r.2.reach = max st.reach (Lnow + se.need)

/-- the end of `GetObject(n)` after a load `r` made with `L + 1` objects being loaded: the answer
goes into `objCache` with the need read off `reach`, and `reach` is restored -/
def finishC (n : Int) (L : Nat) (st : RSt) (r : Option PVal × RSt) : Option PVal × RSt :=
  let st4 : RSt :=
    match r.1 with
    | some v => { r.2 with obj := (n, (v, r.2.reach - (L + 1) + 1)) :: r.2.obj }
    | none => r.2
  (r.1, { st4 with reach := max st4.reach st.reach })

variable {ext} {file} {x}

/-- `reach` is no part of the invariant -/
theorem cinv_reach {st : RSt} (h : CInv ext file x st) (r : Nat) : CInv ext file x { st with reach := r } :=
  ⟨h.obj, h.stm⟩

/-- a new `objCache` binding that is an answer of a fresh reader with its need keeps the invariant -/
theorem CInv.insert_obj {st : RSt} (h : CInv ext file x st) {n : Int} {v : PVal} {k : Nat}
    (hg : getD ext file x k n = some (v, k)) (reach : Nat) :
    CInv ext file x { obj := (n, (v, k)) :: st.obj, stm := st.stm, reach := reach } :=
  ⟨fun n' v' k' => List.lookup_cons_imp (P := fun n p => getD ext file x p.2 n = some p) hg
    (fun n p => h.obj n p.1 p.2) n' (v', k'), h.stm⟩

/-- a new `objStmCache` binding that is what a fresh reader would load keeps the invariant -/
theorem CInv.insert_stm {st : RSt} (h : CInv ext file x st) {s : Int} {se : StmEntry}
    (hs : StmOk ext file x s se) (reach : Nat) :
    CInv ext file x { obj := st.obj, stm := (s, se) :: st.stm, reach := reach } :=
  ⟨h.obj, List.lookup_cons_imp (P := StmOk ext file x) hs h.stm⟩

/-- a cache hit is counted as the load it stands for: with `b` nested loads still allowed it is
refused exactly when a load of that need would be -/
theorem nestCached_eq {need L b : Nat} (h : need ≤ b ↔ L + need ≤ maxNestedLoads) (st : RSt) :
    nestCached need L st =
      if need ≤ b then (true, { st with reach := max st.reach (L + need) }) else (false, st) := by
  unfold nestCached
  by_cases hk : need ≤ b
  · rw [if_pos hk, if_neg (Nat.not_lt.2 (h.1 hk))]
  · rw [if_neg hk, if_pos (Nat.lt_of_not_le fun h' => hk (h.2 h'))]

theorem stmD_eq_some {b : Nat} {s : Int} {kv : Dict} {data : Str} {j : Nat} :
    stmD ext file x b s = some (kv, data, j) ↔
      ∃ xe, getLastI x s = some xe ∧ ¬ xe.kind = .compressed ∧
        plainD file (getD ext file x b) s xe.f1 = some (.stream kv data, j) ∧ newObjStmOk kv = true := by
  unfold stmD
  constructor
  · intro h
    cases hx : getLastI x s with
    | none => rw [hx] at h; cases h
    | some xe =>
      rw [hx] at h
      dsimp only at h
      by_cases hc : xe.kind = .compressed
      · rw [if_pos hc] at h; cases h
      · rw [if_neg hc] at h
        cases hp : plainD file (getD ext file x b) s xe.f1 with
        | none => rw [hp] at h; cases h
        | some r =>
          obtain ⟨v, j'⟩ := r
          rw [hp] at h
          cases v with
          | obj o => cases h
          | stream kv' data' =>
            dsimp only at h
            by_cases hok : newObjStmOk kv' = true
            · rw [if_pos hok] at h; cases h; exact ⟨xe, rfl, hc, hp, hok⟩
            · rw [if_neg hok] at h; cases h
  · rintro ⟨xe, hx, hc, hp, hok⟩
    simp only [hx, hc, if_false, hp, hok, if_true]

theorem stmD_at_budget {s : Int} {kv : Dict} {data : Str} {k : Nat}
    (h : stmD ext file x k s = some (kv, data, k)) (b : Nat) :
    stmD ext file x b s = if k ≤ b then some (kv, data, k) else none :=
  at_budget (F := fun b => stmD ext file x b s) (r := (kv, data, k)) (fun r => r.2.2)
    (fun b b' r hb hr => by
      obtain ⟨xe, h1, h2, h3, h4⟩ := stmD_eq_some.1 hr
      exact stmD_eq_some.2
        ⟨xe, h1, h2, plainD_transfer h3 fun m v hm => getD_mono_le hb hm, h4⟩)
    (fun b r hr => by
      obtain ⟨xe, _, _, h3, _⟩ := stmD_eq_some.1 hr
      exact plainD_need h3 fun m v i hm => (getD_need hm).2) h b

/-- the load of a compressed object through `stmD` -/
theorem loadD_compressed (b : Nat) (n : Int) (e : RawEntry) (he : getLastI x n = some e)
    (hfree : ¬ e.kind = .free) (hin : ¬ e.kind = .inUse) :
    loadD ext file x (getD ext file x b) n =
      (stmD ext file x b e.f1).bind fun r => (pick ext n (some e.f2) (.stream r.1 r.2.1)).map fun w => (w, r.2.2) := by
  rw [loadD, locate_compressed he hfree hin]
  unfold stmAt stmD
  cases getLastI x e.f1 with
  | none => rfl
  | some xe =>
    dsimp only
    by_cases hc : xe.kind = .compressed
    · rw [if_pos hc, if_pos hc]; rfl
    · rw [if_neg hc, if_neg hc]
      dsimp only [Option.map_some, Option.bind_some]
      cases plainD file (getD ext file x b) e.f1 xe.f1 with
      | none => rfl
      | some r =>
        obtain ⟨v, j⟩ := r
        cases v with
        | obj o => rfl
        | stream kv data =>
          dsimp only [Option.bind_some]
          by_cases hok : newObjStmOk kv = true
          · rw [if_pos hok]; rfl
          · rw [if_neg hok]
            obtain ⟨_, herr⟩ := mkObjStm_of_not_ok ext kv data (by simpa using hok)
            simp only [pick, herr, Option.map_none, Option.bind_none]

theorem refines_none {st st' : RSt} {L : Nat} (h : CInv ext file x st') : Refines ext file x st L none (none, st') :=
  ⟨rfl, h, fun _ _ h => nomatch h⟩

/-- `getUncompressedObject` on the reader's state -/
theorem loadAtC_refines (nested : Int → RSt → Option PVal × RSt) (Lnow b : Nat) (n off : Int) (st : RSt)
    (hst : CInv ext file x st) (hr : Lnow ≤ st.reach)
    (hn : ∀ m, (uncompressedAtK file n off).asked = some m → NestedOk ext file x nested Lnow b m) :
    Refines ext file x st Lnow (plainD file (getD ext file x b) n off) (loadAtC file nested n off st) := by
  unfold loadAtC plainD
  cases hu : uncompressedAtK file n off with
  | fin r =>
    refine ⟨by cases r <;> rfl, hst, fun w j hj => ?_⟩
    cases r with
    | none => cases hj
    | some v => cases hj; exact (Nat.max_eq_left hr).symm
  | ask m k =>
    rw [hu] at hn
    obtain ⟨h1, h2, h3⟩ := hn m rfl st hst
    dsimp only
    rw [h1]
    cases hg : getD ext file x b m with
    | none => exact ⟨(uncompressedAtK_models file n off).2 m k hu, h2, fun _ _ h => nomatch h⟩
    | some r =>
      obtain ⟨v, j⟩ := r
      dsimp only [Option.map_some]
      refine ⟨by cases k (lenInt (some v)) <;> rfl, h2, fun w j' hj => ?_⟩
      cases hkv : k (lenInt (some v)) with
      | none => rw [hkv] at hj; cases hj
      | some w' => rw [hkv] at hj; cases hj; exact h3 v j hg

/-- `getObjectStream` on the reader's state -/
theorem openStmC_refines (nested : Int → RSt → Option PVal × RSt) (Lnow b : Nat)
    (hLb : Lnow + b = maxNestedLoads) (s : Int) (st : RSt) (hst : CInv ext file x st)
    (hn : ∀ xe, getLastI x s = some xe → ¬ xe.kind = .compressed →
      ∀ m, (uncompressedAtK file s xe.f1).asked = some m → NestedOk ext file x nested Lnow b m) :
    StmRefines ext file x st Lnow b s (openStmC file x nested Lnow s st) := by
  unfold openStmC
  cases hl : st.stm.lookup s with
  | some se =>
    obtain ⟨hsd, hos⟩ := hst.stm s se hl
    dsimp only
    rw [nestCached_eq (b := b) (by omega)]
    by_cases hk : se.need ≤ b
    · rw [if_pos hk]
      exact ⟨by rw [stmD_at_budget hsd b, if_pos hk]; rfl, cinv_reach hst _,
        fun se' hse' => by cases hse'; exact ⟨⟨hsd, hos⟩, rfl⟩⟩
    · rw [if_neg hk]
      exact ⟨by rw [stmD_at_budget hsd b, if_neg hk]; rfl, hst, fun _ h => nomatch h⟩
  | none =>
    dsimp only
    cases hx : getLastI x s with
    | none =>
      refine ⟨?_, hst, fun _ h => nomatch h⟩
      simp only [stmD, hx]; rfl
    | some xe =>
      dsimp only
      by_cases hc : xe.kind = .compressed
      · rw [if_pos hc]
        refine ⟨?_, hst, fun _ h => nomatch h⟩
        simp only [stmD, hx, hc, if_true]; rfl
      · rw [if_neg hc]
        unfold StmRefines
        simp only [stmD, hx, hc, if_false]
        -- the stream object is read with `reach` set to the present nesting: what `reach` is
        -- afterwards tells the nested loads the reading took
        obtain ⟨h1, h2, h3⟩ := loadAtC_refines nested Lnow b s xe.f1 { st with reach := Lnow }
          (cinv_reach hst _) (Nat.le_refl _) (hn xe hx hc)
        generalize loadAtC file nested s xe.f1 { st with reach := Lnow } = r at h1 h2 h3
        obtain ⟨r1, r2⟩ := r
        dsimp only at h1 h2 h3 ⊢
        cases hp : plainD file (getD ext file x b) s xe.f1 with
        | none =>
          rw [hp] at h1; subst h1
          exact ⟨rfl, cinv_reach h2 _, fun _ h => nomatch h⟩
        | some pr =>
          obtain ⟨sv, j⟩ := pr
          rw [hp] at h1; subst h1
          cases sv with
          | obj o => exact ⟨rfl, cinv_reach h2 _, fun _ h => nomatch h⟩
          | stream kv data =>
            dsimp only [Option.map_some]
            by_cases hok : newObjStmOk kv = true
            · obtain ⟨ro, rs, rr⟩ := r2
              have hreach : rr = Lnow + j := (h3 _ j hp).trans (Nat.max_eq_right (Nat.le_add_right _ _))
              subst hreach
              have hso : StmOk ext file x s { kv := kv, data := data, need := j, os := {} } :=
                ⟨stmD_eq_some.2 ⟨xe, hx, hc,
                  plainD_transfer hp fun m v hm => getD_threshold ext file x b m v j hm, hok⟩, osGood_empty _⟩
              rw [if_pos hok, if_pos hok, Nat.add_sub_cancel_left]
              exact ⟨rfl, h2.insert_stm hso _,
                fun se' hse' => by cases hse'; exact ⟨hso, Nat.max_comm _ _⟩⟩
            · rw [if_neg hok, if_neg hok]
              exact ⟨rfl, cinv_reach h2 _, fun _ h => nomatch h⟩

/-- `getCompressedObject` behind a successful `getObjectStream`: the answer is the member of
the stream, the wrapper's new state goes into `objStmCache` -/
theorem compressedC_some (keep : Bool) (nested : Int → RSt → Option PVal × RSt) (Lnow : Nat) (n : Int) (e : RawEntry)
    (st st' : RSt) (se : StmEntry) (ho : openStmC file x nested Lnow e.f1 st = (some se, st'))
    (hos : OSGood (Reader.mkObjStm ext se.kv se.data) se.os) :
    ∃ os', OSGood (Reader.mkObjStm ext se.kv se.data) os' ∧
      compressedC ext keep file x nested Lnow n e st =
        (pick ext n (some e.f2) (.stream se.kv se.data), { st' with stm := (e.f1, { se with os := os' }) :: st'.stm }) := by
  obtain ⟨a1, a2⟩ := osGood_step keep (Reader.mkObjStm ext se.kv se.data) se.os e.f2 hos
  refine ⟨_, a2, ?_⟩
  unfold compressedC
  rw [ho]
  dsimp only
  rw [a1, show pick ext n (some e.f2) (.stream se.kv se.data) = _ from
    (member_of_osSpec (Reader.mkObjStm ext se.kv se.data) n e.f2).symm]
  cases osSpec (Reader.mkObjStm ext se.kv se.data) e.f2 with
  | none => rfl
  | some p =>
    dsimp only
    by_cases hn : p.1 = n
    · rw [if_pos hn, if_pos hn]
    · rw [if_neg hn, if_neg hn]

/-- `getCompressedObject` on the reader's state -/
theorem compressedC_refines (keep : Bool) (nested : Int → RSt → Option PVal × RSt) (Lnow b : Nat)
    (hLb : Lnow + b = maxNestedLoads) (n : Int) (e : RawEntry) (he : getLastI x n = some e)
    (hfree : ¬ e.kind = .free) (hin : ¬ e.kind = .inUse) (st : RSt) (hst : CInv ext file x st)
    (hn : ∀ xe, getLastI x e.f1 = some xe → ¬ xe.kind = .compressed →
      ∀ m, (uncompressedAtK file e.f1 xe.f1).asked = some m → NestedOk ext file x nested Lnow b m) :
    Refines ext file x st Lnow (loadD ext file x (getD ext file x b) n)
      (compressedC ext keep file x nested Lnow n e st) := by
  obtain ⟨h1, h2, h3⟩ := openStmC_refines nested Lnow b hLb e.f1 st hst hn
  rw [loadD_compressed b n e he hfree hin, ← h1]
  cases ho : openStmC file x nested Lnow e.f1 st with
  | mk o1 st' =>
    rw [ho] at h2 h3
    cases o1 with
    | none =>
      have hc : compressedC ext keep file x nested Lnow n e st = (none, st') := by
        unfold compressedC; rw [ho]
      rw [hc]
      exact refines_none h2
    | some se =>
      obtain ⟨⟨hsd, hos⟩, hreach⟩ := h3 se rfl
      obtain ⟨os', hos', hc⟩ := compressedC_some keep nested Lnow n e st st' se ho hos
      rw [hc]
      dsimp only [Option.map_some, Option.bind_some]
      refine ⟨?_, h2.insert_stm (se := { se with os := os' }) ⟨hsd, hos'⟩ _, fun w k hk => ?_⟩
      · cases pick ext n (some e.f2) (.stream se.kv se.data) <;> rfl
      · cases hpk : pick ext n (some e.f2) (.stream se.kv se.data) with
        | none => rw [hpk] at hk; cases hk
        | some w' => rw [hpk] at hk; cases hk; exact hreach

/-- when the load does what `inner` prescribes, `GetObject(n)` does what `inner`, counted as one
more load, prescribes; what it remembers must be an answer of a fresh reader -/
theorem finishC_refines {n : Int} {L : Nat} {st : RSt} {inner : Option (PVal × Nat)} {r : Option PVal × RSt}
    (h : Refines ext file x { st with reach := L + 1 } (L + 1) inner r)
    (hg : ∀ v j, inner = some (v, j) → getD ext file x (j + 1) n = some (v, j + 1)) :
    Refines ext file x st L (inner.map fun p => (p.1, p.2 + 1)) (finishC n L st r) := by
  obtain ⟨r1, r2⟩ := r
  obtain ⟨h1, h2, h3⟩ := h
  dsimp only at h1 h2 h3
  subst h1
  unfold finishC
  cases inner with
  | none => exact ⟨rfl, cinv_reach h2 _, fun _ _ h => nomatch h⟩
  | some p =>
    obtain ⟨v, j⟩ := p
    obtain ⟨ro, rs, rr⟩ := r2
    have hreach : rr = L + 1 + j := (h3 v j rfl).trans (Nat.max_eq_right (Nat.le_add_right _ _))
    subst hreach
    dsimp only [Option.map_some]
    rw [Nat.add_sub_cancel_left]
    refine ⟨rfl, h2.insert_obj (hg v j rfl) _, fun v' k' hvk => ?_⟩
    cases hvk
    exact (by rw [Nat.max_comm, Nat.add_assoc, Nat.add_comm 1 j] : max (L + 1 + j) st.reach = max st.reach (L + (j + 1)))

variable (ext) (file) (x)

/-- **the reader's caches never change an answer** (`GetObject` at any nesting): under the
invariant, with every object of `loading` on the way to `n`, `getC` answers what the cache-free
`getD` answers with the remaining budget, keeps the invariant, and leaves `reach` where a load
of `n` would have left it -/
theorem getC_refines (keep : Bool) : ∀ (fuel : Nat) (L : List Int) (n : Int) (st : RSt),
    CInv ext file x st → (∀ p ∈ L, Chain file x p n) → maxNestedLoads + 1 ≤ fuel + L.length →
    (getC ext keep file x fuel L n st).1 = (getD ext file x (maxNestedLoads - L.length) n).map Prod.fst ∧
    CInv ext file x (getC ext keep file x fuel L n st).2 ∧
    ∀ v k, getD ext file x (maxNestedLoads - L.length) n = some (v, k) →
      (getC ext keep file x fuel L n st).2.reach = max st.reach (L.length + k) := by
  intro fuel
  induction fuel with
  | zero =>
    intro L n st hst _ hf
    have : maxNestedLoads - L.length = 0 := by omega
    rw [this]
    exact refines_none hst
  | succ fuel ih =>
    intro L n st hst hch hf
    show Refines ext file x st L.length (getD ext file x (maxNestedLoads - L.length) n)
      (getC ext keep file x (fuel + 1) L n st)
    rw [getC]
    cases hl : st.obj.lookup n with
    | some c =>
      obtain ⟨v, need⟩ := c
      have hg := hst.obj n v need hl
      have hneed := (getD_need hg).1
      dsimp only
      rw [getD_of_need hg, nestCached_eq (b := maxNestedLoads - L.length) (by omega)]
      by_cases hk : need ≤ maxNestedLoads - L.length
      · rw [if_pos hk, if_pos hk]
        exact ⟨rfl, cinv_reach hst _, fun v' k' h => by cases h; rfl⟩
      · rw [if_neg hk, if_neg hk]
        exact refines_none hst
    | none =>
      dsimp only
      cases he : getLastI x n with
      | none =>
        rw [getD_no_entry ext file x _ n he]
        exact refines_none hst
      | some e =>
        dsimp only
        by_cases hfree : e.kind = .free
        · rw [if_pos hfree, getD_free ext file x _ n e he hfree]
          exact refines_none hst
        · rw [if_neg hfree]
          by_cases hcon : L.contains n = true
          · rw [if_pos hcon, getD_cycle ext file x _ n (hch n (by simpa using hcon))]
            exact refines_none hst
          · rw [if_neg hcon]
            by_cases hlim : L.length ≥ maxNestedLoads
            · rw [if_pos hlim, show maxNestedLoads - L.length = 0 by omega]
              exact refines_none hst
            · rw [if_neg hlim]
              obtain ⟨b, hb, hb', hLb, hfuel⟩ : ∃ b, maxNestedLoads - L.length = b + 1 ∧
                  maxNestedLoads - (L.length + 1) = b ∧ L.length + 1 + b = maxNestedLoads ∧
                  maxNestedLoads + 1 ≤ fuel + (L.length + 1) := ⟨maxNestedLoads - L.length - 1, by omega⟩
              rw [hb, getD_succ]
              -- the nested lookups, by induction
              have hnest : ∀ m, nextOf file x n = some m →
                  NestedOk ext file x (fun m s => getC ext keep file x fuel (n :: L) m s) (L.length + 1) b m := by
                intro m hm s hs
                have := ih (n :: L) m s hs (Chain.nested hch hm) hfuel
                rw [List.length_cons, hb'] at this
                exact this
              refine finishC_refines (inner := loadD ext file x (getD ext file x b) n) ?_ ?_
              · by_cases hin : e.kind = .inUse
                · rw [if_pos hin, loadD_inUse he hin]
                  exact loadAtC_refines _ (L.length + 1) b n e.f1 _ (cinv_reach hst _)
                    (Nat.le_refl _) (fun m hm => hnest m (by rw [nextOf_eq, locate_inUse he hin]; exact hm))
                · rw [if_neg hin]
                  refine compressedC_refines keep _ (L.length + 1) b hLb n e he hfree hin _
                    (cinv_reach hst _) (fun xe hxe hc m hm => hnest m ?_)
                  rw [nextOf_eq, locate_compressed he hfree hin]
                  simp only [stmAt, hxe, hc, if_false, Option.map_some, Option.bind_some]
                  exact hm
              · intro v j hj
                exact getD_threshold ext file x (b + 1) n v (j + 1) (by rw [getD_succ, stepD, hj]; rfl)

end

/-- beyond the limit nothing happens: with more than `maxNestedLoads` objects being loaded every
`GetObject` is an error and leaves the reader as it is -/
theorem getC_limit (ext : Reader.Ext) (keep : Bool) (file : Str) (x : RawSection) (fuel : Nat) (L : List Int)
    (n : Int) (st : RSt) (h : maxNestedLoads + 1 ≤ L.length) : getC ext keep file x fuel L n st = (none, st) := by
  cases fuel with
  | zero => rfl
  | succ f =>
    rw [getC]
    cases st.obj.lookup n with
    | some c =>
      have : maxNestedLoads < L.length + c.2 := by omega
      simp only [nestCached, this, if_true, Bool.false_eq_true, if_false]
    | none =>
      cases getLastI x n with
      | none => rfl
      | some e =>
        have : L.length ≥ maxNestedLoads := by omega
        simp only [this, if_true, ite_self]

/-- **the structural fuel of the cached reader is never what ends a lookup** -/
theorem getC_fuel (ext : Reader.Ext) (keep : Bool) (file : Str) (x : RawSection) :
    ∀ (f f' : Nat) (L : List Int) (n : Int) (st : RSt),
      maxNestedLoads + 1 ≤ f + L.length → maxNestedLoads + 1 ≤ f' + L.length →
      getC ext keep file x f L n st = getC ext keep file x f' L n st :=
  fun f f' L n st h h' => congrFun (congrFun (fuel_irrelevant (getC ext keep file x) maxNestedLoads
    (fun f L hL => funext fun n => funext fun st => by
      rw [getC_limit ext keep file x f L n st hL, getC_limit ext keep file x 0 L n st hL])
    (fun f f' L hn => funext fun n => funext fun st => by rw [getC, getC, hn n]) f f' L h h') n) st

end Tabula.XrefC
