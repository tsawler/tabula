import TabulaModel.Lemmas.XrefLines
/-!
`FindXRef` on a file that ends the way ISO 32000-1 7.5.5 prescribes.
-/
namespace Tabula.XrefFile
open Tabula.XrefBytes Tabula.A1

/-- a pattern does not occur in a text that lacks its first byte -/
theorem afterLast_none_of_head (c : Nat) (p x : Str) (h : c ∉ x) : afterLast (c :: p) x = none := by
  induction x with
  | nil => rfl
  | cons d r ih =>
    have hc : (c == d) = false := beq_false_of_ne fun e => h (e ▸ List.mem_cons_self ..)
    rw [afterLast, ih fun m => h (List.mem_cons_of_mem _ m)]
    simp only [List.isPrefixOf, hc, Bool.false_and, Bool.false_eq_true, if_false]

theorem afterLast_append (pat a b t : Str) (h : afterLast pat b = some t) : afterLast pat (a ++ b) = some t := by
  induction a with
  | nil => exact h
  | cons c a ih => rw [List.cons_append, afterLast, ih]

/-- an occurrence of the pattern behind which its first byte does not come again is the last one -/
theorem afterLast_self (c : Nat) (p x : Str) (h : c ∉ p ++ x) : afterLast (c :: p) (c :: p ++ x) = some x := by
  rw [List.cons_append, afterLast, afterLast_none_of_head c p _ h]
  simp only [List.isPrefixOf_cons_cons, beq_self_eq_true, Bool.true_and]
  rw [if_pos (List.isPrefixOf_iff_prefix.2 (List.prefix_append p x))]
  simp

/-- `startxref` begins with `s`: behind the keyword nothing starts another when no `s` follows -/
theorem afterLast_keyword (x : Str) (h : 115 ∉ x) : afterLast kwStartxref (kwStartxref ++ x) = some x :=
  afterLast_self 115 [116, 97, 114, 116, 120, 114, 101, 102] x fun hm =>
    (List.mem_append.1 hm).elim (by decide) h

theorem normEolAux_eol (e : Eol) (r : Str) :
    normEolAux false (e.bytes ++ r) = 10 :: normEolAux (decide (e = .cr)) r := by
  cases e <;> rfl

theorem normEolAux_noEol (s : Str) (h : NoEol s) (hne : s ≠ []) (b : Bool) (r : Str) :
    normEolAux b (s ++ r) = s ++ normEolAux false r := by
  induction s generalizing b with
  | nil => exact absurd rfl hne
  | cons d ds ih =>
    obtain ⟨h10, h13⟩ := h d (List.mem_cons_self ..)
    rw [List.cons_append, normEolAux, if_neg h13, if_neg (fun hc => h10 hc.1)]
    cases ds with
    | nil => rfl
    | cons x xs =>
      rw [ih (fun c hc => h c (List.mem_cons_of_mem _ hc)) (List.cons_ne_nil _ _)]
      rfl

theorem drop_window (body s : Str) (h : s.length ≤ 1024) :
    ∃ body', (body ++ s).drop ((body ++ s).length - 1024) = body' ++ s :=
  ⟨body.drop ((body ++ s).length - 1024),
    List.drop_append_of_le_length (by rw [List.length_append]; omega)⟩

end Tabula.XrefFile
