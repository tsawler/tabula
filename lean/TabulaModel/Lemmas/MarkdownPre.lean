import TabulaModel.Lemmas.MarkdownDoc
/-!
The preamble of `MarkdownWithRAGOptions` (YAML front matter, generated table of contents): every
writer puts it together from whole lines that hold no newline and are not `---` (`SafeLines`), so
it is a front matter block and a TOC block of lines, which the reading spec skips (`IsPreamble`).
-/
namespace Tabula.MarkdownDoc
open Tabula.A1 (Str dec decInt)
open Tabula.Markdown

/-- what the theorems need of the external functions: `%q` output has no raw newline (strconv
escapes it), `strings.ToLower` does not introduce one -/
structure ExtOK (ext : Ext) : Prop where
  quoteNl : ∀ s, 10 ∉ ext.quote s
  lowerNl : ∀ s, 10 ∉ s → 10 ∉ ext.lower s

/-- whole lines, each followed by its newline, none holding a newline or being `---` -/
def SafeLines (s : Str) : Prop := ∃ L : List Str, s = joinLines L ∧ ∀ l ∈ L, 10 ∉ l ∧ l ≠ hrLine

namespace SafeLines

theorem nil : SafeLines [] := ⟨[], rfl, fun _ h => nomatch h⟩

theorem append {a b : Str} (ha : SafeLines a) (hb : SafeLines b) : SafeLines (a ++ b) := by
  obtain ⟨A, rfl, hA⟩ := ha
  obtain ⟨B, rfl, hB⟩ := hb
  exact ⟨A ++ B, (joinLines_append A B).symm, fun l hl => (List.mem_append.mp hl).elim (hA l) (hB l)⟩

theorem line {l : Str} (h : 10 ∉ l ∧ l ≠ hrLine) : SafeLines (l ++ [10]) :=
  ⟨[l], (joinLines_singleton l).symm, fun _ hx => List.mem_singleton.mp hx ▸ h⟩

theorem ite (c : Bool) {a : Str} (ha : SafeLines a) : SafeLines (if c then [] else a) := by
  cases c
  · exact ha
  · exact nil

theorem flatMap {α} (xs : List α) (f : α → Str) (h : ∀ x ∈ xs, SafeLines (f x)) : SafeLines (xs.flatMap f) := by
  induction xs with
  | nil => exact nil
  | cons x xs ih =>
    rw [List.flatMap_cons]
    exact (h x List.mem_cons_self).append (ih fun y hy => h y (List.mem_cons_of_mem _ hy))

end SafeLines

/-- a `key: "value"` line: no newline (the quoting escapes it), and not `---` as the key does not
start with a dash -/
theorem kvLine_props (ext : Ext) (hext : ExtOK ext) (key val : Str) (hk : 10 ∉ key)
    (hk2 : ∃ c r, key = c :: r ∧ c ≠ 45) :
    10 ∉ key ++ ext.quote val ∧ key ++ ext.quote val ≠ hrLine := by
  obtain ⟨c, r, hcr, hc⟩ := hk2
  refine ⟨fun h => (List.mem_append.mp h).elim hk (hext.quoteNl _), ?_⟩
  rw [hcr]
  intro e
  injection e with e1 _
  exact hc e1

theorem kvLine_safe (ext : Ext) (hext : ExtOK ext) (key val : Str) (hk : 10 ∉ key)
    (hk2 : ∃ c r, key = c :: r ∧ c ≠ 45) : SafeLines (kvLine ext key val) :=
  SafeLines.ite _ (.line (kvLine_props ext hext key val hk hk2))

theorem kvOpt_safe (ext : Ext) (hext : ExtOK ext) (key : Str) (v : Option Str) (hk : 10 ∉ key)
    (hk2 : ∃ c r, key = c :: r ∧ c ≠ 45) : SafeLines (kvOpt ext key v) := by
  cases v with
  | none => exact .nil
  | some x => exact .line (kvLine_props ext hext key x hk hk2)

theorem replaceByte_noNl (o : Nat) (n s : Str) (hn : 10 ∉ n) (hs : 10 ∉ s) : 10 ∉ replaceByte o n s := by
  intro h
  rcases mem_replaceByte _ _ _ _ h with h1 | h1
  · exact hn h1
  · exact hs h1.1

/-- a bullet TOC entry (docx / odt / rag) is a list item line, its text being the link -/
theorem tocBullet_safe (level : Int) (text anchor : Str) (ht : 10 ∉ text) (ha : 10 ∉ anchor) :
    SafeLines (tocBullet level text anchor) := by
  have e : tocBullet level text anchor
      = listLine ⟨(level - 1).toNat, false, 1, 91 :: (text ++ [93, 40, 35] ++ anchor ++ [41])⟩ ++ [10] := by
    simp [tocBullet, listLine]
  rw [e]
  exact .line ⟨listLine_noNl _ (by simp [ht, ha]), listLine_ne_hr _⟩

/-- a numbered TOC entry (htmldoc, pptx) likewise -/
theorem tocNumbered_safe (n : Nat) (text anchor : Str) (ht : 10 ∉ text) (ha : 10 ∉ anchor) :
    SafeLines (tocNumbered n text anchor) := by
  have e : tocNumbered n text anchor
      = listLine ⟨0, true, n, 91 :: (text ++ [93, 40, 35] ++ anchor ++ [41])⟩ ++ [10] := by
    simp [tocNumbered, listLine]
  rw [e]
  exact .line ⟨listLine_noNl _ (by simp [ht, ha]), listLine_ne_hr _⟩

theorem tocNumberedFrom_safe (ext : Ext) (hext : ExtOK ext) (ts : List Str) (hnl : ∀ t ∈ ts, 10 ∉ t) :
    ∀ k, SafeLines (tocNumberedFrom ext k ts) := by
  induction ts with
  | nil => exact fun _ => .nil
  | cons t ts ih =>
    intro k
    have ht := hnl t List.mem_cons_self
    exact (tocNumbered_safe _ _ _ ht (hext.lowerNl _ (replaceByte_noNl _ _ _ (by simp) ht))).append
      (ih (fun x hx => hnl x (List.mem_cons_of_mem _ hx)) (k + 1))

/-- A preamble: whole lines that the reader skips (`Skipped`). -/
def IsPreamble (pre : Str) : Prop := ∃ P : List Str, pre = joinLines P ∧ Skipped P

namespace IsPreamble

theorem nil : IsPreamble [] := ⟨[], rfl, .nil⟩

/-- front matter (`---`, safe lines, `---`, an empty line) in front of a TOC (the title, an empty
line, safe lines, an empty line, `---`, an empty line), each present or not -/
theorem of_blocks (cf ct : Bool) {a b : Str} (ha : SafeLines a) (hb : SafeLines b) :
    IsPreamble ((if cf then sFmOpen ++ a ++ sFmClose else []) ++ (if ct then sTocHead ++ b ++ sTocEnd else [])) := by
  obtain ⟨A, rfl, hA⟩ := ha
  obtain ⟨B, rfl, hB⟩ := hb
  have hB' : ∀ l ∈ [] :: B ++ [[]], 10 ∉ l ∧ l ≠ hrLine := by
    intro l hl
    simp only [List.cons_append, List.mem_cons, List.mem_append, List.not_mem_nil, or_false] at hl
    rcases hl with rfl | hl | rfl
    · exact ⟨List.not_mem_nil, by decide⟩
    · exact hB l hl
    · exact ⟨List.not_mem_nil, by decide⟩
  -- the TOC part, then the front matter in front of it
  have ht : ∃ P, (if ct then sTocHead ++ joinLines B ++ sTocEnd else []) = joinLines P ∧ Skipped P ∧
      P.head? ≠ some hrLine := by
    cases ct
    · exact ⟨[], rfl, .nil, fun h => nomatch h⟩
    · exact ⟨tocBlock ([] :: B ++ [[]]), by simp [tocBlock, sTocHead, sTocEnd, hrLine, joinLines], .toc _ hB',
        by simp [tocBlock, tocTitle, hrLine]⟩
  obtain ⟨P, e, hP, hh⟩ := ht
  rw [e]
  cases cf
  · exact ⟨P, rfl, hP⟩
  · exact ⟨fmBlock A ++ P, by simp [fmBlock, sFmOpen, sFmClose, hrLine, joinLines], .fm A hA hP hh⟩

end IsPreamble

namespace LinesRead

/-- a builder holding a preamble and then the lines `L`, trimmed: the reader skips the preamble and
finds what the lines hold -/
theorem readMd_doc {L H I P T} (h : LinesRead L H I P T) (htoc : (2, tocText) ∉ H)
    {pre : Str} (hpre : IsPreamble pre) :
    readMd (trimNl (pre ++ joinLines L))
      = { headings := H, items := I, tables := T.map gfmTableL, paras := P } := by
  obtain ⟨hL, hhr, htt, hread⟩ := h.read htoc
  obtain ⟨Q, rfl, hQ⟩ := hpre
  rw [← joinLines_append, readMd_trimNl_joinLines, ← hread]
  · exact hQ.skip _ (fun h => hhr (List.mem_of_mem_head? h)) htt
  · exact fun l hl => (List.mem_append.mp hl).elim (hQ.noNl l) (hL l)
  · -- a first line that is empty: there is no preamble
    intro hh
    cases Q with
    | nil => simpa using hhr
    | cons x r => exact absurd hh hQ.head

end LinesRead

theorem frontMatterDoc_safe (ext : Ext) (hext : ExtOK ext) (m : Meta) :
    ∃ mid, SafeLines mid ∧ frontMatterDoc ext m = sFmOpen ++ mid ++ sFmClose := by
  refine ⟨_, ((((kvLine_safe ext hext sTitle m.title (by decide) ⟨116, _, rfl, by decide⟩).append
    (kvLine_safe ext hext sAuthor m.author (by decide) ⟨97, _, rfl, by decide⟩)).append
    (kvLine_safe ext hext sSubject m.subject (by decide) ⟨115, _, rfl, by decide⟩)).append
    (SafeLines.ite m.keywords.isEmpty ((SafeLines.line (l := [107, 101, 121, 119, 111, 114, 100, 115, 58])
      ⟨by decide, by decide⟩).append (SafeLines.flatMap m.keywords _ fun k _ =>
        SafeLines.line (l := [32, 32, 45, 32] ++ ext.quote k)
          ⟨fun h => (List.mem_append.mp h).elim (by decide) (hext.quoteNl _), by simp [hrLine]⟩)))).append
    (kvLine_safe ext hext sGenerator m.creator (by decide) ⟨103, _, rfl, by decide⟩), ?_⟩
  simp only [frontMatterDoc, sKeywordsNl, List.append_assoc, List.cons_append, List.nil_append]

theorem tocOfHeadings_safe (ext : Ext) (hext : ExtOK ext) (hs : List (Int × Str)) (hnl : ∀ h ∈ hs, 10 ∉ h.2) :
    SafeLines (hs.flatMap fun h => tocBullet h.1 h.2 (anchorLowerFirst ext h.2)) :=
  SafeLines.flatMap hs _ fun h hh =>
    tocBullet_safe _ _ _ (hnl h hh) (replaceByte_noNl _ _ _ (by simp) (hext.lowerNl _ (hnl h hh)))

theorem docPreamble_isPreamble (ext : Ext) (hext : ExtOK ext) (o : MdOpts) (m : Meta) (hs : List (Int × Str))
    (hnl : ∀ h ∈ hs, 10 ∉ h.2) : IsPreamble (docPreamble ext o m hs) := by
  obtain ⟨mid, hmid, e⟩ := frontMatterDoc_safe ext hext m
  have := IsPreamble.of_blocks o.meta (o.toc && !hs.isEmpty) hmid (tocOfHeadings_safe ext hext hs hnl)
  unfold docPreamble tocOfHeadings
  rw [e]
  cases ht : o.toc <;> cases hs <;> simpa [ht] using this

theorem htmlFrontMatter_safe (ext : Ext) (hext : ExtOK ext) (m : HMeta) :
    ∃ mid, SafeLines mid ∧ htmlFrontMatter ext m = sFmOpen ++ mid ++ sFmClose := by
  refine ⟨_, (((kvLine_safe ext hext sTitle m.title (by decide) ⟨116, _, rfl, by decide⟩).append
    (kvOpt_safe ext hext sAuthor m.author (by decide) ⟨97, _, rfl, by decide⟩)).append
    (kvOpt_safe ext hext sDescription m.description (by decide) ⟨100, _, rfl, by decide⟩)).append
    (kvOpt_safe ext hext sKeywords m.keywords (by decide) ⟨107, _, rfl, by decide⟩), ?_⟩
  simp only [htmlFrontMatter, List.append_assoc]

theorem htmlPreamble_isPreamble (ext : Ext) (hext : ExtOK ext) (o : MdOpts) (m : HMeta) (els : List HElem)
    (hnl : ∀ t ∈ htmlHeadingTexts els, 10 ∉ t) :
    IsPreamble ((if o.meta then htmlFrontMatter ext m else []) ++ (if o.toc then htmlToc ext els else [])) := by
  obtain ⟨mid, hmid, e⟩ := htmlFrontMatter_safe ext hext m
  have := IsPreamble.of_blocks o.meta (o.toc && decide ((htmlHeadingTexts els).length > 1)) hmid
    (tocNumberedFrom_safe ext hext _ hnl 0)
  unfold htmlToc
  rw [e]
  cases ht : o.toc <;> by_cases hlen : (htmlHeadingTexts els).length > 1 <;> simpa [ht, hlen] using this

end Tabula.MarkdownDoc
