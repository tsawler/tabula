import TabulaModel.Model.Html
/-!
The traversal `trav` as a sequence of steps of its state machine: whatever node is traversed from
whatever state, the state afterwards is reached from the state before by the eight primitive
operations of `traverseNodeFiltered` (`Steps`).  A fact about the state that every operation keeps —
the output only grows, nothing empty is emitted (Props/C19More.lean) — then holds across `trav` by
induction on `Steps`, without another induction over the tree.
-/
namespace Tabula.Html

/-- the elements `trav` emits itself: a heading, paragraph, code block or quote with text, a table
with rows; a list element is only ever written by `flushList` and `listExit` -/
def Emitted : Element → Prop
  | .heading _ t => t ≠ []
  | .para t => t ≠ []
  | .code t => t ≠ []
  | .quote t => t ≠ []
  | .table _ rows => rows ≠ []
  | .list _ _ => False

/-- the state `s'` is reached from `s` by operations of the state machine, one after the other -/
inductive Steps : St → St → Prop
  | refl (s : St) : Steps s s
  | trans {s s1 s2 : St} : Steps s s1 → Steps s1 s2 → Steps s s2
  | flush (s : St) : Steps s (flushList s)
  | emit (s : St) (e : Element) : Emitted e → Steps s (s.emit e)
  | listEnter (ord : Bool) (s : St) : Steps s (listEnter ord s)
  | listExit (s0 s : St) : Steps s (listExit s0 s)
  | liHead (kids : List Dom) (s : St) : Steps s (liHead kids s)
  | liExit (s : St) : Steps s (liExit s)
  | strayEnter (s : St) : Steps s (strayEnter s)
  | strayExit (s : St) : Steps s (strayExit s)

theorem Steps.flush_emit (s : St) (e : Element) (he : Emitted e) : Steps s ((flushList s).emit e) :=
  (Steps.flush s).trans (.emit _ e he)

theorem emitRun_steps (run : Str) (s : St) : Steps s (emitRun run s) := by
  unfold emitRun
  split
  · rename_i hc
    exact Steps.flush_emit s _ (by simpa [Emitted] using hc)
  · exact .refl s

mutual
theorem trav_steps (p : Pos → Dom → Bool) (w : Bool) :
    ∀ (t : Dom) (pos : Pos) (s : St), Steps s (trav p w pos t s)
  | .text _, pos, s => by simp only [trav]; exact .refl s
  | .other kids, pos, s => by simp only [trav]; exact travL_steps p w kids _ s
  | .elem tag attrs kids, pos, s => by
      unfold trav
      by_cases hs : isSkip tag = true
      · rw [if_pos hs]; exact .refl s
      · by_cases hp : p pos (.elem tag attrs kids) = true
        · rw [if_neg hs, if_pos hp]; exact .refl s
        · rw [if_neg hs, if_neg hp]
          cases hc : classify tag with
          | heading lvl =>
            simp only []
            split
            · rename_i ht
              exact Steps.flush_emit s _ (by simpa [Emitted] using ht)
            · exact .flush s
          | pdiv isP =>
            simp only []
            have h1 : Steps s (if isP = true then flushList s else s) := by
              split
              · exact .flush s
              · exact .refl s
            split
            · rename_i ht
              have hne : trim (getTextContent (.elem tag attrs kids)) ≠ [] := by
                simp at ht; exact ht.1
              exact h1.trans (Steps.flush_emit _ _ hne)
            · exact h1.trans (travM_steps p w kids _ [] _)
          | list ord =>
            simp only []
            exact (Steps.listEnter ord s).trans ((travL_steps p w kids _ _).trans (.listExit s _))
          | li =>
            simp only []
            split
            · exact (Steps.liHead kids s).trans ((travLi_steps p w kids _ _).trans (.liExit _))
            · exact (Steps.strayEnter s).trans ((Steps.liHead kids _).trans
                ((travLi_steps p w kids _ _).trans ((Steps.liExit _).trans (.strayExit _))))
          | table =>
            simp only []
            by_cases hr : ((parseTable kids).1 != []) = true
            · simp only [hr, if_true]
              exact Steps.flush_emit s _ (by simpa [Emitted] using hr)
            · simp only [hr, if_false, Bool.false_eq_true]
              exact .flush s
          | void => exact .refl s
          | other => exact travL_steps p w kids _ s
          | _ =>
            simp only []
            split
            · rename_i ht
              exact Steps.flush_emit s _ (by simpa [Emitted] using ht)
            · exact .refl s
theorem travL_steps (p : Pos → Dom → Bool) (w : Bool) :
    ∀ (ts : List Dom) (kp : Pos) (s : St), Steps s (travL p w kp ts s)
  | [], kp, s => by simp only [travL]; exact .refl s
  | k :: ks, kp, s => by
      simp only [travL]
      exact (trav_steps p w k kp s).trans (travL_steps p w ks kp _)
theorem travLi_steps (p : Pos → Dom → Bool) (w : Bool) :
    ∀ (ts : List Dom) (kp : Pos) (s : St), Steps s (travLi p w kp ts s)
  | [], kp, s => by simp only [travLi]; exact .refl s
  | k :: ks, kp, s => by
      simp only [travLi]
      by_cases hk : isListElem k = true
      · simp only [hk, if_true]
        exact (trav_steps p w k kp s).trans (travLi_steps p w ks kp _)
      · simp only [hk, if_false, Bool.false_eq_true]
        exact travLi_steps p w ks kp s
theorem travM_steps (p : Pos → Dom → Bool) (w : Bool) :
    ∀ (ts : List Dom) (kp : Pos) (run : Str) (s : St), Steps s (travM p w kp ts run s)
  | [], kp, run, s => by simp only [travM]; exact emitRun_steps run s
  | k :: ks, kp, run, s => by
      simp only [travM]
      by_cases hk : isInline k = true
      · simp only [hk, if_true]
        exact travM_steps p w ks kp _ s
      · simp only [hk, if_false, Bool.false_eq_true]
        exact (emitRun_steps run s).trans
          ((trav_steps p w k kp _).trans (travM_steps p w ks kp [] _))
end

end Tabula.Html
