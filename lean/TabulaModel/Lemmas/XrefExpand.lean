import TabulaModel.Model.XrefResolve
import TabulaModel.Lemmas.ListBasics
/-!
# The deep value of an object by the file alone: `expand`

`expand g streams b o`: every reference in `o` replaced by the deep value of the object it
names (`g` = the lookup of a fresh reader), `b` levels allowed - a reference and the object it
leads to, a container and its elements are one level apart. No memory of any kind: no shared
results, no set of objects on the way. A reference cycle uses the budget up (`expand_cycle`).
`streams`: whether the dictionary of a stream is resolved too (the resolver package does,
`Reader.ResolveDeep` hands a stream back as it is).

This is the specification the two `ResolveDeep` implementations are measured against
(`Lemmas/XrefDeepReader.lean`, `Lemmas/XrefDeepResolver.lean`).
-/
namespace Tabula.XrefR
open Tabula.Reader (PVal)
open Tabula.XrefFile (Str)

/-- all elements, or nothing -/
def mapOpt (f : DObj → Option DObj) : List DObj → Option (List DObj)
  | [] => some []
  | e :: es =>
    match f e with
    | none => none
    | some e' => (mapOpt f es).map (e' :: ·)

/-- the deep value with `b` levels allowed; a resolved dictionary has its entries in key order -/
def expand (g : Int → Option PVal) (streams : Bool) : Nat → DObj → Option DObj
  | 0, _ => none
  | b + 1, .ref n _ =>
    match g n with
    | none => none
    | some t => expand g streams b (ofPVal t)
  | b + 1, .arr xs => (mapOpt (expand g streams b) xs).map .arr
  | b + 1, .dict kv =>
    (mapOpt (expand g streams b) (kv.map Prod.snd)).map fun ys => .dict (sortKV ((kv.map Prod.fst).zip ys))
  | b + 1, .stream kv data =>
    if streams then
      match expand g streams b (.dict kv) with
      | some (.dict kv') => some (.stream kv' data)
      | _ => none
    else some (.stream kv data)
  | _ + 1, o => some o

theorem expand_stream (g : Int → Option PVal) (streams : Bool) (b : Nat) (kv : List (Str × DObj)) (data : Str) :
    expand g streams (b + 1) (.stream kv data) =
      if streams then
        match expand g streams b (.dict kv) with
        | some (.dict kv') => some (.stream kv' data)
        | _ => none
      else some (.stream kv data) := by
  cases b <;> simp only [expand]

theorem expand_ref_some {g : Int → Option PVal} {streams : Bool} {n : Int} {t : PVal} (hg : g n = some t)
    (b : Nat) (gen : Int) : expand g streams (b + 1) (.ref n gen) = expand g streams b (ofPVal t) := by
  simp only [expand, hg]

theorem expand_ref_none {g : Int → Option PVal} {streams : Bool} {n : Int} (hg : g n = none) (b : Nat) (gen : Int) :
    expand g streams b (.ref n gen) = none := by
  cases b with
  | zero => rfl
  | succ b => simp only [expand, hg]

/-- `o'` stands one level below `o` -/
inductive Child (g : Int → Option PVal) (streams : Bool) : DObj → DObj → Prop
  | arr {xs : List DObj} {e : DObj} : e ∈ xs → Child g streams (.arr xs) e
  | dict {kv : List (Str × DObj)} {e : DObj} : e ∈ kv.map Prod.snd → Child g streams (.dict kv) e
  | ref {n gen : Int} {t : PVal} : g n = some t → Child g streams (.ref n gen) (ofPVal t)
  | stream {kv : List (Str × DObj)} {data : Str} : streams = true → Child g streams (.stream kv data) (.dict kv)

/-- `o'` stands one or more levels below `o` -/
inductive Below (g : Int → Option PVal) (streams : Bool) : DObj → DObj → Prop
  | one {o o' : DObj} : Child g streams o o' → Below g streams o o'
  | cons {o o' o'' : DObj} : Child g streams o o' → Below g streams o' o'' → Below g streams o o''

theorem mapOpt_cons_inv {f : DObj → Option DObj} {x : DObj} {xs ys : List DObj}
    (h : mapOpt f (x :: xs) = some ys) : ∃ x' rs, f x = some x' ∧ mapOpt f xs = some rs ∧ ys = x' :: rs := by
  simp only [mapOpt] at h
  cases hx : f x with
  | none => rw [hx] at h; cases h
  | some x' =>
    rw [hx] at h
    obtain ⟨rs, hr, rfl⟩ := Option.map_eq_some_iff.mp h
    exact ⟨x', rs, rfl, hr, rfl⟩

theorem mapOpt_mem {f : DObj → Option DObj} {xs ys : List DObj} (h : mapOpt f xs = some ys) {e : DObj}
    (he : e ∈ xs) : ∃ v, f e = some v := by
  induction xs generalizing ys with
  | nil => cases he
  | cons x xs ih =>
    obtain ⟨x', rs, hx, hr, _⟩ := mapOpt_cons_inv h
    cases he with
    | head => exact ⟨x', hx⟩
    | tail _ he' => exact ih hr he'

theorem mapOpt_congr {f g : DObj → Option DObj} {xs ys : List DObj} (h : mapOpt f xs = some ys)
    (hfg : ∀ e ∈ xs, ∀ v, f e = some v → g e = some v) : mapOpt g xs = some ys := by
  induction xs generalizing ys with
  | nil => exact h
  | cons x xs ih =>
    obtain ⟨x', rs, hx, hr, rfl⟩ := mapOpt_cons_inv h
    simp only [mapOpt, hfg x (List.mem_cons_self ..) x' hx,
      ih hr (fun e he v hv => hfg e (List.mem_cons_of_mem _ he) v hv), Option.map_some]

theorem mapOpt_cons_none {f : DObj → Option DObj} {e : DObj} {es : List DObj} (h : f e = none) :
    mapOpt f (e :: es) = none := by
  simp only [mapOpt, h]

theorem mapOpt_cons_some {f : DObj → Option DObj} {e e' : DObj} {es : List DObj} (h : f e = some e') :
    mapOpt f (e :: es) = (mapOpt f es).map (e' :: ·) := by
  simp only [mapOpt, h]

theorem mapOpt_eq_none_iff {f : DObj → Option DObj} : ∀ {xs : List DObj},
    mapOpt f xs = none ↔ ∃ e ∈ xs, f e = none
  | [] => by simp [mapOpt]
  | x :: xs => by
    cases hx : f x with
    | none => simp [mapOpt, hx]
    | some x' => simp [mapOpt, hx, mapOpt_eq_none_iff (xs := xs)]

theorem mapOpt_mem_out {f : DObj → Option DObj} {xs ys : List DObj} (h : mapOpt f xs = some ys) {y : DObj}
    (hy : y ∈ ys) : ∃ e, e ∈ xs ∧ f e = some y := by
  induction xs generalizing ys with
  | nil =>
    simp only [mapOpt] at h
    cases h
    cases hy
  | cons x xs ih =>
    obtain ⟨x', rs, hx, hr, rfl⟩ := mapOpt_cons_inv h
    rcases List.mem_cons.mp hy with rfl | hy
    · exact ⟨x, List.mem_cons_self .., hx⟩
    · obtain ⟨e, he, hfe⟩ := ih hr hy
      exact ⟨e, List.mem_cons_of_mem _ he, hfe⟩

/-- more levels never change a deep value -/
theorem expand_mono_le (g : Int → Option PVal) (streams : Bool) (b b' : Nat) (hb : b ≤ b') (o v : DObj)
    (h : expand g streams b o = some v) : expand g streams b' o = some v := by
  induction b generalizing b' o v with
  | zero => cases h
  | succ b ih =>
    obtain ⟨b', rfl⟩ : ∃ c, b' = c + 1 := ⟨b' - 1, by omega⟩
    have ih := ih b' (Nat.le_of_succ_le_succ hb)
    cases o with
    | ref n gen =>
      simp only [expand] at h ⊢
      cases hg : g n with
      | none => rw [hg] at h; cases h
      | some t => rw [hg] at h; exact ih _ _ h
    | arr xs =>
      simp only [expand] at h ⊢
      obtain ⟨ys, hm, rfl⟩ := Option.map_eq_some_iff.mp h
      rw [mapOpt_congr hm fun e _ => ih e]
      rfl
    | dict kv =>
      simp only [expand] at h ⊢
      obtain ⟨ys, hm, rfl⟩ := Option.map_eq_some_iff.mp h
      rw [mapOpt_congr hm fun e _ => ih e]
      rfl
    | stream kv data =>
      rw [expand_stream] at h ⊢
      cases streams with
      | false => exact h
      | true =>
        simp only [if_true] at h ⊢
        cases hd : expand g true b (.dict kv) with
        | none => rw [hd] at h; cases h
        | some d =>
          rw [hd] at h
          rw [ih _ _ hd]
          exact h
    | _ => exact h

theorem mapOpt_mono_le {g : Int → Option PVal} {streams : Bool} {b b' : Nat} (hb : b ≤ b') {xs ys : List DObj}
    (h : mapOpt (expand g streams b) xs = some ys) : mapOpt (expand g streams b') xs = some ys :=
  mapOpt_congr h (fun e _ v hv => expand_mono_le g streams b b' hb e v hv)

/-- the deep value does not depend on the levels allowed, once they suffice -/
theorem expand_unique (g : Int → Option PVal) (streams : Bool) (b b' : Nat) (o v v' : DObj)
    (h : expand g streams b o = some v) (h' : expand g streams b' o = some v') : v = v' := by
  have h1 := expand_mono_le g streams b (max b b') (Nat.le_max_left _ _) o v h
  have h2 := expand_mono_le g streams b' (max b b') (Nat.le_max_right _ _) o v' h'
  rw [h1] at h2
  exact Option.some.inj h2

/-- what stands one level below a value that expands, expands with one level less -/
theorem expand_child (g : Int → Option PVal) (streams : Bool) (b : Nat) (o o' v : DObj)
    (h : expand g streams (b + 1) o = some v) (hc : Child g streams o o') :
    ∃ v', expand g streams b o' = some v' := by
  cases hc with
  | arr he =>
    simp only [expand] at h
    obtain ⟨ys, hm, _⟩ := Option.map_eq_some_iff.mp h
    exact mapOpt_mem hm he
  | dict he =>
    simp only [expand] at h
    obtain ⟨ys, hm, _⟩ := Option.map_eq_some_iff.mp h
    exact mapOpt_mem hm he
  | ref hg =>
    simp only [expand, hg] at h
    exact ⟨v, h⟩
  | stream hs =>
    subst hs
    rename_i kv data
    rw [expand_stream] at h
    simp only [if_true] at h
    cases hd : expand g true b (.dict kv) with
    | none => rw [hd] at h; cases h
    | some d => exact ⟨d, rfl⟩

theorem expand_below (g : Int → Option PVal) (streams : Bool) (o o' : DObj) (hb : Below g streams o o') :
    ∀ (b : Nat) (v : DObj), expand g streams b o = some v → ∃ b' v', b' < b ∧ expand g streams b' o' = some v' := by
  induction hb with
  | one hc =>
    intro b v h
    cases b with
    | zero => cases h
    | succ b =>
      obtain ⟨v', hv'⟩ := expand_child g streams b _ _ v h hc
      exact ⟨b, v', Nat.lt_succ_self _, hv'⟩
  | cons hc _ ih =>
    intro b v h
    cases b with
    | zero => cases h
    | succ b =>
      obtain ⟨v', hv'⟩ := expand_child g streams b _ _ v h hc
      obtain ⟨b', v'', hlt, hv''⟩ := ih b v' hv'
      exact ⟨b', v'', by omega, hv''⟩

/-- an object that stands below itself has no deep value, whatever the levels allowed -/
theorem expand_cycle (g : Int → Option PVal) (streams : Bool) (o : DObj) (hc : Below g streams o o) :
    ∀ b, expand g streams b o = none := by
  intro b
  induction b using Nat.strongRecOn with
  | _ b ih =>
    cases h : expand g streams b o with
    | none => rfl
    | some v =>
      obtain ⟨b', v', hlt, hv'⟩ := expand_below g streams o o hc b v h
      rw [ih b' hlt] at hv'
      cases hv'

theorem Below.snoc {g : Int → Option PVal} {streams : Bool} {o o' o'' : DObj} (h : Below g streams o o')
    (hc : Child g streams o' o'') : Below g streams o o'' := by
  induction h with
  | one h1 => exact .cons h1 (.one hc)
  | cons h1 _ ih => exact .cons h1 (ih hc)

end Tabula.XrefR
