import TabulaModel.Lemmas.ExportDecode
import TabulaModel.Lemmas.ExportApi
/-!
An export seen as a writer/reader pair on collections: what follows from "the text reads back to the
collection" alone, whatever the format — full configurations give the collection itself, exports are
injective, batches decode to the collection across batch boundaries.
-/
namespace Tabula.Export
open Tabula.Csv (Str)
open Tabula.Json (mapOpt)

/-- `exp` writes a collection, `dec` reads a text: on collections whose chunks meet the two conditions
`g₁`, `g₂` (as the per-format theorems state them: validity, normality) the export succeeds and its text
reads back to the collection, chunk by chunk up to `proj` -/
def ReadsBack (exp : List Chunk → Option Str) (dec : Str → Option (List Chunk)) (g₁ g₂ : Chunk → Prop)
    (proj : Chunk → Chunk) : Prop :=
  ∀ cs, (∀ c ∈ cs, g₁ c) → (∀ c ∈ cs, g₂ c) → ∃ text, exp cs = some text ∧ dec text = some (cs.map proj)

variable {exp : List Chunk → Option Str} {dec : Str → Option (List Chunk)} {g₁ g₂ : Chunk → Prop}
  {proj : Chunk → Chunk}

/-- a projection that keeps every chunk as it is: the collection itself comes back -/
theorem ReadsBack.identity (h : ReadsBack exp dec g₁ g₂ proj) (hp : ∀ c, proj c = c) (cs : List Chunk)
    (h1 : ∀ c ∈ cs, g₁ c) (h2 : ∀ c ∈ cs, g₂ c) : ∃ text, exp cs = some text ∧ dec text = some cs := by
  obtain ⟨text, e1, e2⟩ := h cs h1 h2
  exact ⟨text, e1, e2.trans (congrArg some ((List.map_congr_left fun c _ => hp c).trans (List.map_id cs)))⟩

/-- … so that two collections with the same text are the same collection -/
theorem ReadsBack.injective (h : ReadsBack exp dec g₁ g₂ proj) (hp : ∀ c, proj c = c) (cs cs' : List Chunk)
    (h1 : ∀ c ∈ cs, g₁ c) (h2 : ∀ c ∈ cs, g₂ c) (h1' : ∀ c ∈ cs', g₁ c) (h2' : ∀ c ∈ cs', g₂ c)
    (he : exp cs = exp cs') : cs = cs' := by
  obtain ⟨t, a, b⟩ := h.identity hp cs h1 h2
  obtain ⟨t', a', b'⟩ := h.identity hp cs' h1' h2'
  rw [a, a'] at he
  rw [Option.some.inj he] at b
  exact Option.some.inj (b.symm.trans b')

/-- batches: with a callback that never fails every batch is delivered, and decoding the `Data` of the
batches one after the other gives the collection — every chunk once, in order, across batch boundaries -/
theorem ReadsBack.batches (h : ReadsBack exp dec g₁ g₂ proj) (size : Nat) (hs : 1 ≤ size) (chunks : List Chunk)
    (h1 : ∀ c ∈ chunks, g₁ c) (h2 : ∀ c ∈ chunks, g₂ c) :
    ∃ calls, batchExportRun size exp (fun _ _ => true) chunks = some (calls, .ok) ∧
      (mapOpt (fun p : Batch Chunk × Str => dec p.2) calls).map List.flatten = some (chunks.map proj) := by
  have hs' : 0 < size := hs
  have hcat := (batchLoop_items size hs' chunks 0).trans List.drop_zero
  generalize hbs : batchLoop size hs' chunks 0 = bs at hcat
  -- every batch is a slice of the collection, so it exports and reads back
  have hb : ∀ b ∈ bs, ∃ text, exp b.items = some text ∧ dec text = some (b.items.map proj) := fun b hb =>
    have hm : ∀ c ∈ b.items, c ∈ chunks := fun c hc => hcat ▸ List.mem_flatMap.mpr ⟨b, hb, hc⟩
    h b.items (fun c hc => h1 c (hm c hc)) (fun c hc => h2 c (hm c hc))
  refine ⟨bs.map (fun b => (b, (exp b.items).getD [])), ?_, ?_⟩
  · simp only [batchExportRun, hs', dite_true, batchLoopRun_eq, hbs]
    refine congrArg some (batchRun_total exp (fun l => (exp l).getD []) _ bs (fun b hb' => ?_) (fun _ _ => rfl))
    obtain ⟨t, ht, _⟩ := hb b hb'
    rw [ht]; rfl
  · rw [Json.mapOpt_map _ _ (fun b => b.items.map proj) bs, Option.map_some, ← hcat,
      List.flatMap_def, List.map_flatten, List.map_map]
    · rfl
    · intro b hb'
      obtain ⟨t, ht, hd⟩ := hb b hb'
      simp only [ht, Option.getD_some, hd]

end Tabula.Export
