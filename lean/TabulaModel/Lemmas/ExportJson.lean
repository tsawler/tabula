import TabulaModel.Model.ExportJson
import TabulaModel.Lemmas.Json
import TabulaModel.Lemmas.ExportApi
/-!
Lemmas about `Model/ExportJson.lean`: Go values as JSON values (numbers, sorted maps, struct
fields), their well-formedness when the chunk's strings are well-formed UTF-8.
-/
set_option linter.unusedSimpArgs false
namespace Tabula.Export
open Tabula.Csv (Str)
open Tabula.Json
open Tabula.Split (validUtf8 charLen validUtf8_of_ascii)

/-! ### `%d` output is a JSON number -/

theorem dropDigits_all (r : Str) (h : ∀ x ∈ r, 48 ≤ x ∧ x ≤ 57) : dropDigits r = [] := by
  induction r with
  | nil => rfl
  | cons c cs ih =>
    obtain ⟨hc, hcs⟩ := List.forall_mem_cons.mp h
    simp [dropDigits, isDigit, hc, ih hcs]

theorem dec_numOk (n : Nat) : validUnsigned (dec n) = true ∧ (dec n).all isNumChar = true := by
  refine ⟨?_, List.all_eq_true.mpr fun x hx => isNumChar_iff.mpr (.inl (dec_digits n x hx))⟩
  rcases dec_shape n with ⟨_, e⟩ | ⟨_, c, r, e, h1, h2, h3⟩ <;> rw [e]
  · decide
  · have hc : ¬ c = 48 := by omega
    simp only [validUnsigned, hc, if_false, h1, h2, and_self, if_true, dropDigits_all r h3, validFrac]

/-- `fmt.Sprintf("%d", i)` / the JSON encoding of a Go `int` is a number token of the grammar -/
theorem decInt_numOk (i : Int) : validNum (decInt i) = true ∧ (decInt i).all isNumChar = true := by
  obtain ⟨h1, h2⟩ := dec_numOk i.natAbs
  unfold decInt
  split
  · refine ⟨by simp [validNum, h1], ?_⟩
    simp only [List.all_cons, h2, Bool.and_true]
    decide
  · refine ⟨?_, h2⟩
    rcases dec_shape i.natAbs with ⟨_, e⟩ | ⟨_, c, r, e, h3, h4, _⟩
    · rw [e]; decide
    · have hc : ¬ c = 45 := by omega
      rw [e] at h1 ⊢
      simp only [validNum, hc, if_false, h1]

theorem getMember_append (k : Str) (a b : List (Str × J)) :
    getMember k (a ++ b) = (getMember k a).or (getMember k b) := by
  induction a with
  | nil => simp [getMember]
  | cons e rest ih =>
    obtain ⟨k', v'⟩ := e
    simp only [List.cons_append, getMember]
    split
    · simp
    · exact ih

def memberKeys (l : List (Str × J)) : List Str := l.map (·.1)

theorem getMember_none_of_not_mem (k : Str) (l : List (Str × J)) (h : k ∉ memberKeys l) : getMember k l = none := by
  induction l with
  | nil => rfl
  | cons e rest ih =>
    obtain ⟨k', v'⟩ := e
    simp only [memberKeys, List.map_cons, List.mem_cons, not_or] at h
    have : ¬ k' = k := fun e => h.1 e.symm
    simp only [getMember, this, if_false]
    exact ih h.2

/-- `encoding/json` sorts the members of a map by name (insertion by `strLe` on the names): a permutation -/
theorem sortMembers_isSort : MapOrder.IsSort (fun a b : Str × J => strLe a.1 b.1) sortMembers :=
  MapOrder.isSort_of_insertion (c := fun x y => strLe x.1 y.1 = true) (ins := insertMember)
    (fun _ _ _ => strLe_trans) (fun _ _ h => h) (fun x y h => (strLe_total x.1 y.1).resolve_left h) (fun _ => rfl)
    (fun _ _ _ => rfl) rfl (fun _ _ => rfl)

/-- under distinct names the first member of a name is the only one, so the order does not matter -/
theorem getMember_perm {l₁ l₂ : List (Str × J)} (p : l₁.Perm l₂) (h : (memberKeys l₁).Nodup) (k : Str) :
    getMember k l₁ = getMember k l₂ := by
  induction p with
  | nil => rfl
  | cons x _ ih =>
    rw [memberKeys, List.map_cons, List.nodup_cons] at h
    obtain ⟨kx, vx⟩ := x
    simp only [getMember, ih h.2]
  | swap x y l =>
    obtain ⟨kx, vx⟩ := x
    obtain ⟨ky, vy⟩ := y
    simp only [memberKeys, List.map_cons, List.nodup_cons, List.mem_cons, not_or] at h
    simp only [getMember]
    by_cases h1 : ky = k
    · rw [if_pos h1, if_neg (fun e => h.1.1 (h1.trans e.symm)), if_pos h1]
    · rw [if_neg h1, if_neg h1]
  | trans p₁ _ ih₁ ih₂ => exact (ih₁ h).trans (ih₂ ((p₁.map _).nodup_iff.mp h))

/-- sorting the members of a map (distinct keys) does not change what is found under a key -/
theorem getMember_sortMembers (k : Str) (l : List (Str × J)) (h : (memberKeys l).Nodup) :
    getMember k (sortMembers l) = getMember k l :=
  getMember_perm (sortMembers_isSort.perm l) (((sortMembers_isSort.perm l).map _).nodup_iff.mpr h) k

theorem valsToJ_eq_map (m : MapSV) : valsToJ m = m.map (fun e => (e.1, valToJ e.2)) := by
  induction m with
  | nil => rfl
  | cons e rest ih => obtain ⟨k, v⟩ := e; rw [valsToJ, ih]; rfl

theorem memberKeys_valsToJ (m : MapSV) : memberKeys (valsToJ m) = mapKeys m := by
  rw [valsToJ_eq_map, memberKeys, List.map_map]; rfl

theorem getMember_valsToJ (k : Str) (m : MapSV) : getMember k (valsToJ m) = (mapLookup m k).map valToJ := by
  induction m with
  | nil => rfl
  | cons e rest ih =>
    obtain ⟨k', v'⟩ := e
    simp only [valsToJ, getMember, mapLookup]
    split
    · simp
    · exact ih

/-- a metadata map as a JSON object: under every key the JSON form of the map's value -/
theorem mapToJ_get (m : MapSV) (h : (mapKeys m).Nodup) (k : Str) :
    (mapToJ m).get k = (mapLookup m k).map valToJ := by
  simp only [mapToJ, J.get]
  rw [getMember_sortMembers k _ (by rw [memberKeys_valsToJ]; exact h), getMember_valsToJ]

/-! ### validity (well-formed UTF-8) of everything a chunk carries -/

def strsValid (l : List Str) : Bool := l.all validUtf8

def metaValid (m : Meta) : Bool :=
  validUtf8 m.documentTitle && strsValid m.sectionPath && validUtf8 m.sectionTitle &&
  validUtf8 m.parentID && strsValid m.childIDs && strsValid m.elementTypes

/-- ids, texts, titles, section names/paths, parent/child ids, element types are well-formed UTF-8 -/
def chunkValid (c : Chunk) : Bool := validUtf8 c.id && validUtf8 c.text && metaValid c.md

def valValid : Val → Bool
  | .str s => validUtf8 s
  | .strs l => strsValid l
  | .int _ => true
  | .bool _ => true
  | .obj _ => false

def entryValid (e : Str × Val) : Bool := validUtf8 e.1 && valValid e.2

/-- `ChunkLevel.String` returns one of five names -/
theorem levelString_mem (l : Int) : levelString l ∈ [kDocument, kSection, kParagraph, kSentence, kUnknown] := by
  unfold levelString
  by_cases h0 : l = 0
  · rw [if_pos h0]; decide
  by_cases h1 : l = 1
  · rw [if_neg h0, if_pos h1]; decide
  by_cases h2 : l = 2
  · rw [if_neg h0, if_neg h1, if_pos h2]; decide
  by_cases h3 : l = 3
  · rw [if_neg h0, if_neg h1, if_neg h2, if_pos h3]; decide
  · rw [if_neg h0, if_neg h1, if_neg h2, if_neg h3]; decide

theorem levelString_valid (l : Int) : validUtf8 (levelString l) = true :=
  validUtf8_of_ascii _ ((by decide : ∀ s ∈ [kDocument, kSection, kParagraph, kSentence, kUnknown], ∀ c ∈ s, c < 128) _
    (levelString_mem l))

theorem entryValid_mk (k : Str) (v : Val) (hk : ∀ c ∈ k, c < 128) (hv : valValid v = true) :
    entryValid (k, v) = true := by
  simp [entryValid, validUtf8_of_ascii k hk, hv]

theorem chunkMetadataToMap_valid (m : Meta) (h : metaValid m = true) :
    ∀ e ∈ chunkMetadataToMap m, entryValid e = true := by
  simp only [metaValid, Bool.and_eq_true] at h
  obtain ⟨⟨⟨⟨⟨h1, h2⟩, h3⟩, h4⟩, h5⟩, h6⟩ := h
  unfold chunkMetadataToMap
  repeat (first
    | apply allE_append
    | exact allE_if _ _ _ (fun _ => entryValid_mk _ _ (by decide) (by first | assumption | rfl))
    | exact allE_single _ _ (entryValid_mk _ _ (by decide) (by first | rfl | exact levelString_valid _)))

/-- every entry of an exported metadata map is an entry of `chunkMetadataToMap` -/
theorem mem_filterMetadata_chunk (cfg : Config) (m : Meta) (e : Str × Val)
    (h : e ∈ filterMetadata cfg (chunkMetadataToMap m)) : e ∈ chunkMetadataToMap m := by
  rw [filterMetadata_unflattened] at h
  cases hf : cfg.metadataFields with
  | none => rwa [hf] at h
  | some fs =>
    rw [hf] at h
    rcases mem_filterFields h with h' | h'
    · simp at h'
    · exact h'

/-! ### well-formedness of the JSON values the exporters build -/

theorem wfMembers_append (a b : List (Str × J)) : wfMembers (a ++ b) = (wfMembers a && wfMembers b) := by
  simp only [wfMembers_eq_all, List.all_append]

theorem wfMembers_sortMembers (l : List (Str × J)) : wfMembers (sortMembers l) = wfMembers l := by
  rw [wfMembers_eq_all, wfMembers_eq_all, (sortMembers_isSort.perm l).all_eq]

theorem wfList_map {α : Type} (f : α → J) (l : List α) (h : ∀ a ∈ l, wf (f a) = true) : wfList (l.map f) = true := by
  rw [wfList_eq_all, List.all_map]; exact List.all_eq_true.mpr h

theorem wfList_strs (l : List Str) (h : strsValid l = true) : wfList (l.map J.str) = true :=
  wfList_map J.str l (List.all_eq_true.mp h)

theorem wf_jStrs (l : List Str) (h : strsValid l = true) : wf (jStrs l) = true := by
  simp only [jStrs, wf]; exact wfList_strs l h

theorem wf_numInt (i : Int) : wf (.num (decInt i)) = true := by
  simp only [wf, Bool.and_eq_true]; exact decInt_numOk i

theorem wf_valToJ (v : Val) (h : valValid v = true) : wf (valToJ v) = true := by
  cases v with
  | str s => simpa [valToJ, wf, valValid] using h
  | int i => simp only [valToJ]; exact wf_numInt i
  | bool b => simp [valToJ, wf]
  | strs l => simp only [valToJ]; exact wf_jStrs l h
  | obj kvs => simp [valValid] at h

theorem wfMembers_valsToJ (m : MapSV) (h : ∀ e ∈ m, entryValid e = true) : wfMembers (valsToJ m) = true := by
  rw [valsToJ_eq_map, wfMembers_eq_all, List.all_map]
  refine List.all_eq_true.mpr fun e he => ?_
  have := h e he
  simp only [entryValid, Bool.and_eq_true] at this
  simp only [Function.comp, this.1, wf_valToJ e.2 this.2, Bool.and_self]

theorem wf_mapToJ (m : MapSV) (h : ∀ e ∈ m, entryValid e = true) : wf (mapToJ m) = true := by
  simp only [mapToJ, wf, wfMembers_sortMembers]
  exact wfMembers_valsToJ m h

theorem wfMembers_omitStr (k s : Str) (hk : ∀ c ∈ k, c < 128) (hs : validUtf8 s = true) :
    wfMembers (omitStr k s) = true := by
  unfold omitStr
  split
  · rfl
  · simp [wfMembers, wf, validUtf8_of_ascii k hk, hs]

theorem wfMembers_omitInt (k : Str) (i : Int) (hk : ∀ c ∈ k, c < 128) : wfMembers (omitInt k i) = true := by
  unfold omitInt
  split
  · rfl
  · simp [wfMembers, validUtf8_of_ascii k hk, wf_numInt i]

theorem wfMembers_omitBool (k : Str) (b : Bool) (hk : ∀ c ∈ k, c < 128) : wfMembers (omitBool k b) = true := by
  unfold omitBool
  split
  · simp [wfMembers, wf, validUtf8_of_ascii k hk]
  · rfl

/-- the JSON value of an exported record is well-formed when the chunk's strings are -/
theorem wf_exportedToJ (cfg : Config) (c : Chunk) (h : chunkValid c = true) :
    wf (exportedToJ (prepareChunkForExport cfg c)) = true := by
  simp only [chunkValid, Bool.and_eq_true] at h
  obtain ⟨⟨hid, htext⟩, hmeta⟩ := h
  have hm := hmeta
  simp only [metaValid, Bool.and_eq_true] at hm
  obtain ⟨⟨⟨⟨⟨h1, h2⟩, h3⟩, h4⟩, h5⟩, h6⟩ := hm
  have htext' : validUtf8 (if cfg.includeText = true then c.text else []) = true := by
    split
    · exact htext
    · exact Tabula.Split.validUtf8_nil
  simp only [exportedToJ, wf, wfMembers_append, prepareChunkForExport, Bool.and_eq_true]
  refine ⟨⟨⟨⟨⟨⟨⟨⟨⟨⟨⟨?_, ?_⟩, ?_⟩, ?_⟩, ?_⟩, ?_⟩, ?_⟩, ?_⟩, ?_⟩, ?_⟩, ?_⟩, ?_⟩
  · exact wfMembers_omitStr _ _ (by decide) hid
  · exact wfMembers_omitStr _ _ (by decide) htext'
  · split
    · rename_i md hmd
      split
      · rfl
      · simp only [wfMembers, Bool.and_true, Bool.and_eq_true]
        refine ⟨validUtf8_of_ascii _ (by decide), wf_mapToJ md ?_⟩
        intro e he
        by_cases hi : cfg.includeMetadata = true
        · simp only [hi, if_true, Option.some.injEq] at hmd
          rw [← hmd] at he
          exact chunkMetadataToMap_valid c.md hmeta e (mem_filterMetadata_chunk cfg c.md e he)
        · simp [hi] at hmd
    · rfl
  · exact wfMembers_omitStr _ _ (by decide) h1
  · exact wfMembers_omitInt _ _ (by decide)
  · exact wfMembers_omitInt _ _ (by decide)
  · exact wfMembers_omitInt _ _ (by decide)
  · exact wfMembers_omitStr _ _ (by decide) h3
  · by_cases hp : c.md.sectionPath.isEmpty = true
    · simp [hp, wfMembers]
    · simp [hp, wfMembers, validUtf8_of_ascii kSectionPath (by decide), wf_jStrs _ h2]
  · exact wfMembers_omitBool _ _ (by decide)
  · exact wfMembers_omitBool _ _ (by decide)
  · exact wfMembers_omitBool _ _ (by decide)

/-- the JSON Lines text is one compact `Encode` per record -/
theorem exportJSONLText_eq (cfg : Config) (chunks : List Chunk) :
    exportJSONLText cfg chunks =
      (chunks.map fun c => exportedToJ (prepareChunkForExport cfg c)).flatMap (encode false) := by
  unfold exportJSONLText exportJSONL
  rw [exportRecords_eq_map, List.flatMap_map, List.flatMap_map]
  rfl

/-- … and reads back, line by line, to the records -/
theorem jsonlRead_exportJSONLText (cfg : Config) (chunks : List Chunk) (hv : ∀ c ∈ chunks, chunkValid c = true) :
    jsonlRead (exportJSONLText cfg chunks) =
      some (chunks.map fun c => exportedToJ (prepareChunkForExport cfg c)) := by
  rw [exportJSONLText_eq]
  refine jsonlRead_encode _ (fun v hvm => ?_)
  obtain ⟨c, hc, e⟩ := List.mem_map.mp hvm
  rw [← e]
  exact wf_exportedToJ cfg c (hv c hc)

/-- the JSON text (one `Encode` of the array of records, indented or not) reads back to the records -/
theorem jsonRead_exportJSONText (cfg : Config) (chunks : List Chunk) (hv : ∀ c ∈ chunks, chunkValid c = true) :
    jsonRead (exportJSONText cfg chunks) =
      some (.arr (chunks.map fun c => exportedToJ (prepareChunkForExport cfg c))) := by
  have hw : wf (.arr (chunks.map fun c => exportedToJ (prepareChunkForExport cfg c))) = true :=
    wfList_map _ _ fun c hc => wf_exportedToJ cfg c (hv c hc)
  rw [exportJSONText, exportRecords_eq_map, List.map_map, encode]
  cases cfg.prettyPrint
  · exact jsonRead_write compact compact_ws _ hw [10] (by decide)
  · exact jsonRead_write indent2 indent2_ws _ hw [10] (by decide)

/-! ### reading members of the values built from struct fields -/

theorem getMember_ite_nil (c : Prop) [Decidable c] (k k' : Str) (v : J) :
    getMember k (if c then [] else [(k', v)]) = if k = k' then (if c then none else some v) else none := by
  by_cases hk : k = k'
  · subst hk; by_cases hc : c <;> simp [hc, getMember]
  · have hk' : ¬ k' = k := fun e => hk e.symm
    by_cases hc : c <;> simp [hc, hk, hk', getMember]

theorem getMember_omitStr (k k' s : Str) :
    getMember k (omitStr k' s) = if k = k' then (if s.isEmpty then none else some (.str s)) else none :=
  getMember_ite_nil _ k k' _

theorem getMember_omitInt (k k' : Str) (i : Int) :
    getMember k (omitInt k' i) = if k = k' then (if i = 0 then none else some (.num (decInt i))) else none :=
  getMember_ite_nil _ k k' _

theorem getMember_omitBool (k k' : Str) (b : Bool) :
    getMember k (omitBool k' b) = if k = k' then (if b then some (.bool true) else none) else none := by
  by_cases hk : k = k'
  · subst hk; cases b <;> simp [omitBool, getMember]
  · have hk' : ¬ k' = k := fun e => hk e.symm
    cases b <;> simp [omitBool, hk, hk', getMember]

/-- the members of a record, by name (`omitempty`: an empty or zero field has no member) -/
def recordTable (e : Exported) : List (Str × Option J) :=
  [(kId, if e.id.isEmpty then none else some (.str e.id)),
   (kText, if e.text.isEmpty then none else some (.str e.text)),
   (kMetadata, match e.metadata with
     | some m => if m.isEmpty then none else some (mapToJ m)
     | none => none),
   (kDocumentTitle, if e.documentTitle.isEmpty then none else some (.str e.documentTitle)),
   (kPageStart, if e.pageStart = 0 then none else some (.num (decInt e.pageStart))),
   (kPageEnd, if e.pageEnd = 0 then none else some (.num (decInt e.pageEnd))),
   (kChunkIndex, if e.chunkIndex = 0 then none else some (.num (decInt e.chunkIndex))),
   (kSectionTitle, if e.sectionTitle.isEmpty then none else some (.str e.sectionTitle)),
   (kSectionPath, if e.sectionPath.isEmpty then none else some (jStrs e.sectionPath)),
   (kHasTable, if e.hasTable then some (.bool true) else none),
   (kHasList, if e.hasList then some (.bool true) else none),
   (kHasImage, if e.hasImage then some (.bool true) else none)]

theorem recordTable_nodup (e : Exported) : ((recordTable e).map (·.1)).Nodup :=
  show [kId, kText, kMetadata, kDocumentTitle, kPageStart, kPageEnd, kChunkIndex, kSectionTitle, kSectionPath,
    kHasTable, kHasList, kHasImage].Nodup from by decide +kernel

/-- Member `k` of a record's object is row `k` of `recordTable`; for a concrete name the right side
evaluates (`(exportedToJ_get e k).trans rfl`). -/
theorem exportedToJ_get (e : Exported) (k : Str) : (exportedToJ e).get k = tabLookup (recordTable e) k := by
  refine Eq.trans ?_ ((or_eq_tabLookup _ (recordTable_nodup e) k none).trans Option.none_or)
  simp only [exportedToJ, J.get, getMember_append, getMember_omitStr, getMember_omitInt, getMember_omitBool,
    getMember_ite_nil, recordTable, List.foldl_cons, List.foldl_nil, Option.none_or]
  cases e.metadata with
  | none => simp only [getMember, ite_self]
  | some m => simp only [getMember_ite_nil]

/-- The `metadata` member of a chunk's record: absent, and then the configuration exports no metadata value of
the chunk at all; or (IncludeMetadata) the object of a map with distinct keys whose member `k` is the JSON form
of `exportedMeta cfg c.md k`. -/
theorem record_metadata (cfg : Config) (c : Chunk) :
    ((exportedToJ (prepareChunkForExport cfg c)).get kMetadata = none ∧ ∀ k, exportedMeta cfg c.md k = none) ∨
    (cfg.includeMetadata = true ∧ ∃ m, (exportedToJ (prepareChunkForExport cfg c)).get kMetadata = some (mapToJ m) ∧
      ∀ k, getMember k (sortMembers (valsToJ m)) = (exportedMeta cfg c.md k).map valToJ) := by
  have hget : (exportedToJ (prepareChunkForExport cfg c)).get kMetadata =
      (match (prepareChunkForExport cfg c).metadata with
       | some m => if m.isEmpty then none else some (mapToJ m)
       | none => none) := (exportedToJ_get _ _).trans rfl
  rw [hget]
  unfold exportedMeta
  by_cases hi : cfg.includeMetadata = true
  · obtain ⟨hnd, _, hlook⟩ := filterMetadata_chunk_spec cfg c.md
    have hmd : (prepareChunkForExport cfg c).metadata = some (filterMetadata cfg (chunkMetadataToMap c.md)) :=
      if_pos hi
    rw [hmd, hi]
    generalize filterMetadata cfg (chunkMetadataToMap c.md) = m at hnd hlook
    cases m with
    | nil => exact .inl ⟨rfl, fun k => (hlook k).symm⟩
    | cons e r => exact .inr ⟨rfl, _, rfl, fun k => (mapToJ_get _ hnd k).trans (congrArg _ (hlook k))⟩
  · have hmd : (prepareChunkForExport cfg c).metadata = none := if_neg hi
    rw [hmd, (Bool.not_eq_true _).mp hi]
    exact .inl ⟨rfl, fun _ => rfl⟩

/-! ### the members of the vector-database records (read off the structs' tags; closed names compare by evaluation) -/

theorem getMember_single (k k' : Str) (v : J) : getMember k [(k', v)] = if k = k' then some v else none := by
  simp only [getMember, @eq_comm _ k' k]

/-- `PineconeRecord`: `id`, `values`, and `metadata` unless the map is empty -/
theorem pineconeRecordToJ_get (r : PineconeRecord Str) :
    (pineconeRecordToJ r).get kId = some (.str r.id) ∧
    (pineconeRecordToJ r).get kValues = some (.arr (r.values.map J.num)) ∧
    (pineconeRecordToJ r).get kMetadata = (if r.metadata.isEmpty then none else some (mapToJ r.metadata)) := by
  simp (decide := true) only [pineconeRecordToJ, J.get, getMember_append, getMember_ite_nil, getMember, if_true,
    if_false, Option.or_none, Option.none_or, Option.some_or, and_self]

/-- `ChromaRecord`: `ids`, `documents`, `embeddings` when given, `metadatas` unless empty -/
theorem chromaRecordToJ_get (r : ChromaRecord Str) :
    (chromaRecordToJ r).get kIds = some (jStrs r.ids) ∧
    (chromaRecordToJ r).get kDocuments = some (jStrs r.documents) ∧
    (chromaRecordToJ r).get kEmbeddings = r.embeddings.map (fun es => .arr (es.map embToJ)) ∧
    (chromaRecordToJ r).get kMetadatas =
      (if r.metadatas.isEmpty then none else some (.arr (r.metadatas.map mapToJ))) := by
  obtain ⟨ids, docs, embs, mds⟩ := r
  cases embs <;>
    simp (decide := true) only [chromaRecordToJ, J.get, getMember_append, getMember_ite_nil, getMember, if_true,
      if_false, Option.or_none, Option.none_or, Option.some_or, Option.map_some, Option.map_none, and_self]

/-- `WeaviateObject`: `class`, `properties`, and the `omitempty` members `id`, `vector` -/
theorem weaviateObjectToJ_get (o : WeaviateObject Str) :
    (weaviateObjectToJ o).get kClass = some (.str o.cls) ∧
    (weaviateObjectToJ o).get kProperties = some (mapToJ o.properties) ∧
    (weaviateObjectToJ o).get kId = (if o.id.isEmpty then none else some (.str o.id)) ∧
    (weaviateObjectToJ o).get kVector = (if o.vector.isEmpty then none else some (.arr (o.vector.map J.num))) := by
  simp (decide := true) only [weaviateObjectToJ, J.get, getMember_append, getMember_omitStr, getMember_ite_nil,
    getMember_single, if_true, if_false, Option.or_none, Option.none_or, Option.or_some, Option.getD_none, and_self]

/-- the JSON text of a float is a number token of the grammar (a property of the float printer,
checked on the op line; here a hypothesis on the tokens) -/
def tokOk (t : Str) : Bool := validNum t && t.all isNumChar

def embOk : Emb Str → Bool
  | none => true
  | some l => l.all tokOk

def embsOk (embs : List (Emb Str)) : Bool := embs.all embOk

theorem wfList_nums (l : List Str) (h : l.all tokOk = true) : wfList (l.map J.num) = true :=
  wfList_map J.num l (List.all_eq_true.mp h)

theorem wf_embToJ (e : Emb Str) (h : embOk e = true) : wf (embToJ e) = true := by
  cases e with
  | none => rfl
  | some l => simp only [embToJ, wf]; exact wfList_nums l h

theorem embAt_ok (embs : List (Emb Str)) (h : embsOk embs = true) (i : Nat) : (embAt embs i).all tokOk = true := by
  unfold embAt
  cases hi : embs[i]? with
  | none => rfl
  | some e =>
    cases e with
    | none => rfl
    | some v =>
      have hm : some v ∈ embs := List.mem_of_getElem? hi
      exact List.all_eq_true.mp h (some v) hm

theorem entries_valid_of (l : MapSV) (h : ∀ e ∈ l, entryValid e = true) : ∀ e ∈ l, entryValid e = true := h

theorem pineconeMetadata_valid (c : Chunk) (h : chunkValid c = true) : ∀ e ∈ pineconeMetadata c, entryValid e = true := by
  simp only [chunkValid, metaValid, Bool.and_eq_true] at h
  obtain ⟨⟨_, htext⟩, ⟨⟨⟨⟨⟨h1, _⟩, h3⟩, _⟩, _⟩, _⟩⟩ := h
  intro e he
  simp only [pineconeMetadata, List.mem_cons, List.not_mem_nil, or_false] at he
  rcases he with he | he | he | he <;> subst he
  · exact entryValid_mk _ _ (by decide) htext
  · exact entryValid_mk _ _ (by decide) h1
  · exact entryValid_mk _ _ (by decide) rfl
  · exact entryValid_mk _ _ (by decide) h3

theorem chromaMetadata_valid (m : Meta) (h : metaValid m = true) : ∀ e ∈ chromaMetadata m, entryValid e = true := by
  simp only [metaValid, Bool.and_eq_true] at h
  obtain ⟨⟨⟨⟨⟨h1, _⟩, h3⟩, _⟩, _⟩, _⟩ := h
  intro e he
  simp only [chromaMetadata, List.mem_cons, List.not_mem_nil, or_false] at he
  rcases he with he | he | he | he <;> subst he
  · exact entryValid_mk _ _ (by decide) h1
  · exact entryValid_mk _ _ (by decide) rfl
  · exact entryValid_mk _ _ (by decide) h3
  · exact entryValid_mk _ _ (by decide) rfl

theorem weaviateProps_valid (c : Chunk) (h : chunkValid c = true) : ∀ e ∈ weaviateProps c, entryValid e = true := by
  simp only [chunkValid, metaValid, Bool.and_eq_true] at h
  obtain ⟨⟨_, htext⟩, ⟨⟨⟨⟨⟨h1, _⟩, h3⟩, _⟩, _⟩, _⟩⟩ := h
  intro e he
  simp only [weaviateProps, List.mem_cons, List.not_mem_nil, or_false] at he
  rcases he with he | he | he | he | he <;> subst he
  · exact entryValid_mk _ _ (by decide) htext
  · exact entryValid_mk _ _ (by decide) h1
  · exact entryValid_mk _ _ (by decide) rfl
  · exact entryValid_mk _ _ (by decide) h3
  · exact entryValid_mk _ _ (by decide) rfl

theorem wf_pineconeRecordToJ (r : PineconeRecord Str) (hid : validUtf8 r.id = true)
    (hv : r.values.all tokOk = true) (hm : ∀ e ∈ r.metadata, entryValid e = true) :
    wf (pineconeRecordToJ r) = true := by
  simp only [pineconeRecordToJ, wf, wfMembers_append, wfMembers, Bool.and_true, Bool.and_eq_true]
  refine ⟨⟨⟨validUtf8_of_ascii _ (by decide), hid⟩, validUtf8_of_ascii _ (by decide), wfList_nums _ hv⟩, ?_⟩
  by_cases he : r.metadata.isEmpty = true
  · simp [he, wfMembers]
  · simp [he, wfMembers, validUtf8_of_ascii kMetadata (by decide), wf_mapToJ _ hm]

theorem wf_pineconeDoc (chunks : List Chunk) (embs : List (Emb Str))
    (hc : ∀ c ∈ chunks, chunkValid c = true) (he : embsOk embs = true) :
    wf (.obj [(kVectors, .arr ((pineconeVectors chunks embs).map pineconeRecordToJ))]) = true := by
  simp only [wf, wfMembers, Bool.and_true, Bool.and_eq_true]
  refine ⟨validUtf8_of_ascii _ (by decide), wfList_map _ _ ?_⟩
  intro r hr
  have h0 : pineconeVectors chunks embs = chunks.zipIdx.filterMap (pineconeOf embs) := pineconeLoop_eq embs chunks 0
  rw [h0] at hr
  obtain ⟨p, hp, hpr⟩ := List.mem_filterMap.mp hr
  have hcm : p.1 ∈ chunks := by
    have := List.mem_map_of_mem (f := Prod.fst) hp
    rwa [List.zipIdx_map_fst] at this
  have hcv := hc p.1 hcm
  rw [(pineconeOf_some hpr).2]
  refine wf_pineconeRecordToJ _ ?_ (embAt_ok embs he p.2) (pineconeMetadata_valid p.1 hcv)
  simp only [chunkValid, Bool.and_eq_true] at hcv
  exact hcv.1.1

theorem wf_chromaDoc (chunks : List Chunk) (embs : List (Emb Str))
    (hc : ∀ c ∈ chunks, chunkValid c = true) (he : embsOk embs = true) :
    wf (chromaRecordToJ (chromaRecord chunks embs)) = true := by
  have hids : strsValid (chunks.map (·.id)) = true := by
    simp only [strsValid, List.all_map, List.all_eq_true]
    intro c hcm
    have := hc c hcm
    simp only [chunkValid, Bool.and_eq_true] at this
    exact this.1.1
  have hdocs : strsValid (chunks.map (·.text)) = true := by
    simp only [strsValid, List.all_map, List.all_eq_true]
    intro c hcm
    have := hc c hcm
    simp only [chunkValid, Bool.and_eq_true] at this
    exact this.1.2
  unfold chromaRecord
  rw [chromaLoop_eq]
  simp only [chromaRecordToJ, wf, wfMembers_append, wfMembers, Bool.and_true, Bool.and_eq_true]
  refine ⟨⟨⟨⟨validUtf8_of_ascii _ (by decide), wf_jStrs _ hids⟩, validUtf8_of_ascii _ (by decide), wf_jStrs _ hdocs⟩, ?_⟩, ?_⟩
  · by_cases hl : embs.length > 0
    · simp only [hl, if_true, wfMembers, Bool.and_true, Bool.and_eq_true]
      refine ⟨validUtf8_of_ascii _ (by decide), ?_⟩
      simp only [wf]
      exact wfList_map _ _ (fun e hem => wf_embToJ e (List.all_eq_true.mp he e hem))
    · simp [hl, wfMembers]
  · by_cases hm : (chunks.map (fun c => chromaMetadata c.md)).isEmpty = true
    · simp [hm, wfMembers]
    · simp only [hm, Bool.false_eq_true, if_false, wfMembers, Bool.and_true, Bool.and_eq_true]
      refine ⟨validUtf8_of_ascii _ (by decide), ?_⟩
      simp only [wf]
      refine wfList_map _ _ ?_
      intro m hm'
      obtain ⟨c, hcm, e⟩ := List.mem_map.mp hm'
      rw [← e]
      have := hc c hcm
      simp only [chunkValid, Bool.and_eq_true] at this
      exact wf_mapToJ _ (chromaMetadata_valid c.md this.2)

theorem wf_weaviateObjectToJ (o : WeaviateObject Str) (hcls : validUtf8 o.cls = true) (hid : validUtf8 o.id = true)
    (hp : ∀ e ∈ o.properties, entryValid e = true) (hv : o.vector.all tokOk = true) :
    wf (weaviateObjectToJ o) = true := by
  simp only [weaviateObjectToJ, wf, wfMembers_append, wfMembers, Bool.and_true, Bool.and_eq_true]
  refine ⟨⟨⟨⟨validUtf8_of_ascii _ (by decide), hcls⟩, wfMembers_omitStr _ _ (by decide) hid⟩,
    validUtf8_of_ascii _ (by decide), wf_mapToJ _ hp⟩, ?_⟩
  by_cases he : o.vector.isEmpty = true
  · simp [he, wfMembers]
  · simp [he, wfMembers, validUtf8_of_ascii kVector (by decide), wf, wfList_nums _ hv]

theorem wf_weaviateObjects (cls : Str) (chunks : List Chunk) (embs : List (Emb Str)) (hcls : validUtf8 cls = true)
    (hc : ∀ c ∈ chunks, chunkValid c = true) (he : embsOk embs = true) :
    ∀ o ∈ weaviateObjects cls chunks embs, wf (weaviateObjectToJ o) = true := by
  intro o ho
  have h0 : weaviateObjects cls chunks embs = chunks.zipIdx.map (weaviateOf cls embs) := weaviateLoop_eq cls embs chunks 0
  rw [h0] at ho
  obtain ⟨p, hp, e⟩ := List.mem_map.mp ho
  have hcm : p.1 ∈ chunks := by
    have := List.mem_map_of_mem (f := Prod.fst) hp
    rwa [List.zipIdx_map_fst] at this
  have hcv := hc p.1 hcm
  rw [← e]
  refine wf_weaviateObjectToJ _ hcls ?_ (weaviateProps_valid p.1 hcv) (embAt_ok embs he p.2)
  simp only [chunkValid, Bool.and_eq_true] at hcv
  exact hcv.1.1

end Tabula.Export
