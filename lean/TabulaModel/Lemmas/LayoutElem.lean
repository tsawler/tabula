import TabulaModel.Model.LayoutElem
import TabulaModel.Lemmas.LayoutOrder
import TabulaModel.Lemmas.LayoutTree
/-!
Lemmas about `Model/LayoutElem.lean`: the fragment ids of headings and lists are a sub-multiset
of the ids of the page paragraphs; with distinct ids on the page the headings the tree emits and the
lists together show an id at most as often as the page does.
-/
namespace Tabula.Layout
open List

theorem sublist_flatMap {α β : Type} (f : α → List β) {l1 l2 : List α} (h : l1.Sublist l2) :
    (l1.flatMap f).Sublist (l2.flatMap f) :=
  h.flatMap f

theorem count_eq_ite {l : List Nat} {i : Nat} (h : l.count i ≤ 1) :
    l.count i = if i ∈ l then 1 else 0 := by
  split
  · rename_i hm
    have := List.count_pos_iff.mpr hm
    omega
  · rename_i hm
    exact List.count_eq_zero.mpr hm

theorem map_elem_ids (l : List PPar) :
    (l.map fun p => (⟨p.box, p.ids⟩ : Elem)).flatMap (·.ids) = l.flatMap (·.ids) :=
  List.flatMap_map ..

theorem headingElems_ids_sublist (ps : List PPar) :
    ((headingElems ps).flatMap (·.ids)).Sublist (ps.flatMap (·.ids)) := by
  unfold headingElems
  rw [map_elem_ids]
  exact sublist_flatMap _ List.filter_sublist

/-- the list candidates are the paragraphs with a list type, in order (the index is only carried along) -/
theorem candsFrom_map_snd (i : Nat) (ps : List PPar) :
    (candsFrom i ps).map (·.2) = ps.filter fun p => p.ty != 0 := by
  fun_induction candsFrom i ps with
  | case1 => rfl
  | case2 i p r hp ih => rw [List.map_cons, ih, List.filter_cons_of_pos (p := fun p : PPar => p.ty != 0) hp]
  | case3 i p r hp ih => rw [ih, List.filter_cons_of_neg (p := fun p : PPar => p.ty != 0) hp]

theorem candsFrom_ids_sublist (i : Nat) (ps : List PPar) :
    ((candsFrom i ps).flatMap (·.2.ids)).Sublist (ps.flatMap (·.ids)) := by
  have := (List.filter_sublist (p := fun p : PPar => p.ty != 0) (l := ps)).flatMap (·.ids)
  rwa [← candsFrom_map_snd i, List.flatMap_map] at this

theorem map_listElem_ids (gs : List (List (Nat × PPar))) :
    (gs.map listElem).flatMap (·.ids) = gs.flatten.flatMap (·.2.ids) := by
  rw [List.flatMap_map, ← List.flatMap_id (L := gs), List.flatMap_assoc]; rfl

theorem groupIntoLists_flatten_sublist (maxGap : Rat) (minItems : Nat) (cs : List (Nat × PPar)) :
    (groupIntoLists maxGap minItems cs).flatten.Sublist cs := by
  have h := sublist_flatMap (fun l => l)
    (List.filter_sublist (p := fun g => decide (minItems ≤ g.length)) (l := segment (listBreak maxGap) cs []))
  rwa [List.flatMap_id', List.flatMap_id', segment_flatten] at h

theorem listElems_ids_sublist (maxGap : Rat) (minItems : Nat) (ps : List PPar) :
    ((listElems maxGap minItems ps).flatMap (·.ids)).Sublist (ps.flatMap (·.ids)) := by
  unfold listElems
  rw [map_listElem_ids]
  exact (sublist_flatMap _ (groupIntoLists_flatten_sublist maxGap minItems _)).trans
    (candsFrom_ids_sublist 0 ps)

theorem candsFrom_none (i : Nat) (ps : List PPar) (h : ∀ p ∈ ps, p.ty = 0) : candsFrom i ps = [] :=
  List.map_eq_nil_iff.mp ((candsFrom_map_snd i ps).trans
    (List.filter_eq_nil_iff.mpr fun p hp => by rw [h p hp]; exact Bool.false_ne_true))

theorem headingElems_none (ps : List PPar) (h : ∀ p ∈ ps, p.isH = false) : headingElems ps = [] := by
  rw [headingElems, List.filter_eq_nil_iff.mpr fun p hp => by rw [h p hp]; exact Bool.false_ne_true]; rfl

theorem listElems_none (maxGap : Rat) (minItems : Nat) (ps : List PPar) (h : ∀ p ∈ ps, p.ty = 0) :
    listElems maxGap minItems ps = [] := by
  rw [listElems, candsFrom_none 0 ps h]; rfl

theorem nodup_flatMap_unique {α β : Type} (f : α → List β) {l : List α} (h : (l.flatMap f).Nodup)
    {a b : α} (ha : a ∈ l) (hb : b ∈ l) {x : β} (hxa : x ∈ f a) (hxb : x ∈ f b) : a = b := by
  induction l with
  | nil => simp at ha
  | cons c t ih =>
    rw [List.flatMap_cons, List.nodup_append] at h
    rcases h with ⟨_, ht, hd⟩
    rcases List.mem_cons.mp ha with rfl | ha'
    · rcases List.mem_cons.mp hb with rfl | hb'
      · rfl
      · exact absurd rfl (hd x hxa x (List.mem_flatMap.mpr ⟨b, hb', hxb⟩))
    · rcases List.mem_cons.mp hb with rfl | hb'
      · exact absurd rfl (hd x hxb x (List.mem_flatMap.mpr ⟨a, ha', hxa⟩))
      · exact ih ht ha' hb'

theorem candsFrom_mem (i : Nat) (ps : List PPar) (c : Nat × PPar) (h : c ∈ candsFrom i ps) : c.2 ∈ ps :=
  (List.mem_filter.mp (candsFrom_map_snd i ps ▸ List.mem_map_of_mem (f := Prod.snd) h)).1

theorem listElems_item (maxGap : Rat) (minItems : Nat) (ps : List PPar) (i : Nat)
    (h : i ∈ (listElems maxGap minItems ps).flatMap (·.ids)) :
    ∃ q ∈ ps, i ∈ q.ids ∧ ∀ j ∈ q.ids, j ∈ (listElems maxGap minItems ps).flatMap (·.ids) := by
  unfold listElems at h ⊢
  rw [map_listElem_ids] at h ⊢
  rcases List.mem_flatMap.mp h with ⟨c, hc, hi⟩
  refine ⟨c.2, candsFrom_mem 0 ps c ((groupIntoLists_flatten_sublist maxGap minItems _).subset hc), hi, ?_⟩
  intro j hj
  exact List.mem_flatMap.mpr ⟨c, hc, hj⟩

/-- distinct ids on the page: the headings the tree emits and the lists together show an id at
most as often as the page paragraphs do - a heading that shares an id with a list IS an item of
that list (same page paragraph) and is left to the list -/
theorem shown_le_page (ps : List PPar) (hn : (ps.flatMap (·.ids)).Nodup) (i : Nat) :
    ((shownHeadings (headingElems ps) (listElems 2 2 ps)).flatMap (·.ids)).count i +
      ((listElems 2 2 ps).flatMap (·.ids)).count i ≤ (ps.flatMap (·.ids)).count i := by
  by_cases hl : i ∈ (listElems 2 2 ps).flatMap (·.ids)
  · have h0 : ((shownHeadings (headingElems ps) (listElems 2 2 ps)).flatMap (·.ids)).count i = 0 := by
      rw [List.count_eq_zero]
      intro hm
      obtain ⟨e, he, hie⟩ := List.mem_flatMap.mp hm
      obtain ⟨he1, he2⟩ := List.mem_filter.mp he
      obtain ⟨p, hp, rfl⟩ := List.mem_map.mp he1
      obtain ⟨q, hq, hiq, hall⟩ := listElems_item 2 2 ps i hl
      obtain rfl : p = q := nodup_flatMap_unique (·.ids) hn (List.mem_filter.mp hp).1 hq hie hiq
      -- the heading has ids, all of them shown by the lists: `shownHeadings` leaves it out
      rw [Bool.or_eq_true, List.isEmpty_iff, Bool.not_eq_true', List.all_eq_false] at he2
      rcases he2 with h | ⟨j, hj, hnj⟩
      · rw [h] at hie; cases hie
      · exact hnj (List.contains_iff_mem.mpr (hall j hj))
    rw [h0, Nat.zero_add]
    exact (listElems_ids_sublist 2 2 ps).count_le i
  · rw [List.count_eq_zero.mpr hl, Nat.add_zero]
    exact Nat.le_trans ((sublist_flatMap _ List.filter_sublist).count_le i)
      ((headingElems_ids_sublist ps).count_le i)

theorem flatMap_paraIds (pars : List (List (List Frag))) :
    pars.flatMap paraIds = pars.flatten.flatten.map (·.id) := by
  rw [List.flatten_flatten, List.map_flatten, List.map_map]; rfl

theorem pars_ids (info : List (List Frag) → ParInfo) (pars : List (List (List Frag))) :
    (pars.map (mkPPar info)).flatMap (·.ids) = pars.flatten.flatten.map (·.id) :=
  (List.flatMap_map ..).trans (flatMap_paraIds pars)

theorem ropars_ids (box : List (List Frag) → Box) (pars : List (List (List Frag))) :
    (pars.map fun p => (⟨box p, paraIds p⟩ : Elem)).flatMap (·.ids) = pars.flatten.flatten.map (·.id) :=
  (List.flatMap_map ..).trans (flatMap_paraIds pars)

end Tabula.Layout
