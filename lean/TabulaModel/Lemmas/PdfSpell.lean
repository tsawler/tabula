import TabulaModel.Model.WF
import TabulaModel.Lemmas.Decimal
import TabulaModel.Lemmas.PdfName
import TabulaModel.Lemmas.PdfStr
import TabulaModel.Lemmas.PdfReal
namespace Tabula.Pdf
open Tabula.A1 (dec)
/-
Every well-formed object is the value of some valid spelled tree: a canonical
speller and its correctness.  Core Lean only.
-/

namespace Spl

/-- the `k` low decimal digits of `v`, most significant first (leading zeros kept) -/
def padDigits : Nat → Nat → Str
  | 0, _ => []
  | k + 1, v => padDigits k (v / 10) ++ [48 + v % 10]

theorem padDigits_length (k v : Nat) : (padDigits k v).length = k := by
  induction k generalizing v with
  | zero => rfl
  | succ k ih => simp [padDigits, ih]

theorem padDigits_digits (k v : Nat) : DigitStr (padDigits k v) := by
  induction k generalizing v with
  | zero => intro c hc; simp [padDigits] at hc
  | succ k ih =>
    intro c hc
    simp only [padDigits, List.mem_append, List.mem_singleton] at hc
    rcases hc with hc | hc
    · exact ih _ c hc
    · subst hc
      have h1 : 48 ≤ 48 + v % 10 := by omega
      have h2 : 48 + v % 10 ≤ 57 := by omega
      simp [isDigit, h1, h2]

theorem digitsVal_snoc (s : Str) (c : Nat) : digitsVal (s ++ [c]) = digitsVal s * 10 + (c - 48) := by
  simp [digitsVal, List.foldl_append]

theorem digitsVal_pad (ip : Str) (k v : Nat) :
    digitsVal (ip ++ padDigits k v) = digitsVal ip * 10 ^ k + v % 10 ^ k := by
  induction k generalizing v with
  | zero => simp [padDigits, Nat.mod_one]
  | succ k ih =>
    rw [padDigits, ← List.append_assoc, digitsVal_snoc, ih]
    have e1 : (10 : Nat) ^ (k + 1) = 10 * 10 ^ k := by rw [Nat.pow_succ, Nat.mul_comm]
    rw [e1, Nat.mod_mul, ← Nat.mul_assoc, Nat.mul_right_comm]
    generalize digitsVal ip * 10 ^ k = X
    generalize v / 10 % 10 ^ k = Q
    omega

theorem digitsVal_dec (n : Nat) : digitsVal (dec n) = n := by
  have h1 := Rl.digitsAcc_val (dec n) (Tok.dec_digitStr n)
  rw [Tabula.A1.digitsAcc_dec] at h1
  exact (Option.some.inj h1).symm

theorem normReal_nf (m s : Nat) (h : s = 0 ∨ m % 10 ≠ 0) : normReal m s = (m, s) := by
  cases s with
  | zero => rfl
  | succ s =>
    have h0 : m % 10 ≠ 0 := by
      rcases h with h | h
      · omega
      · exact h
    simp [normReal, h0]

end Spl

/-- the canonical spelling of a real: integer part in decimal, exactly `s` fraction digits -/
def spellReal (neg : Bool) (m s : Nat) : RealSp :=
  { neg := neg, plus := false, ip := dec (m / 10 ^ s), fp := Spl.padDigits s (m % 10 ^ s) }

theorem spellReal_ok (neg : Bool) (m s : Nat) (h1 : s = 0 ∨ m % 10 ≠ 0) (h2 : neg = true → m ≠ 0) :
    (spellReal neg m s).Ok ∧ (spellReal neg m s).value = .real neg m s := by
  constructor
  · refine ⟨Tok.dec_digitStr _, Spl.padDigits_digits _ _, Or.inl ?_⟩
    obtain ⟨d, ds, h, _⟩ := Tabula.A1.dec_head (m / 10 ^ s)
    simp only [spellReal]
    rw [h]; simp
  · have hp : 0 < 10 ^ s := Nat.pow_pos (by decide)
    have hv : digitsVal (dec (m / 10 ^ s) ++ Spl.padDigits s (m % 10 ^ s)) = m := by
      rw [Spl.digitsVal_pad, Spl.digitsVal_dec, Nat.mod_mod, Nat.mul_comm]
      exact Nat.div_add_mod m (10 ^ s)
    simp only [RealSp.value, spellReal, hv, Spl.padDigits_length, Spl.normReal_nf m s h1]
    cases neg with
    | false => simp
    | true => simp [h2 rfl]

mutual
/-- a canonical spelling: one space in front of every token, strings as \ddd, names via canonNPiece -/
def spell : Obj → SObj
  | .null => .null [.ws 32]
  | .bool b => .bool [.ws 32] b
  | .int i => .int [.ws 32] false 0 i
  | .real neg m s => .real [.ws 32] (spellReal neg m s)
  | .str s => .lit [.ws 32] (s.map fun b => SPiece.octal b 3)
  | .name s => .name [.ws 32] (s.map canonNPiece)
  | .arr xs => .arr [.ws 32] (spellList xs) []
  | .dict kv => .dict [.ws 32] (spellKV kv) []
  | .ref n g => .ref [.ws 32] n.toNat g.toNat [.ws 32] [.ws 32]
def spellList : List Obj → List SObj
  | [] => []
  | x :: xs => spell x :: spellList xs
def spellKV : List (Str × Obj) → List SObj
  | [] => []
  | (k, v) :: r => .name [.ws 32] (k.map canonNPiece) :: spell v :: spellKV r
end

namespace Spl

theorem sepOk_sp : SepOk [SepUnit.ws 32] := by
  intro u hu
  simp only [List.mem_singleton] at hu
  subst hu
  show isWs 32 = true
  decide

theorem sepOk_nil : SepOk [] := by
  intro u hu; simp at hu

theorem sp_ne (need : Bool) : need = true → [SepUnit.ws 32] ≠ [] := by
  intro _; simp

end Spl

mutual
theorem spell_valid_value (o : Obj) (h : o.WF) (need : Bool) :
    (spell o).Valid need ∧ (spell o).value = o := by
  cases o with
  | null => simp only [spell, SObj.Valid, SObj.value]; exact ⟨⟨Spl.sepOk_sp, Spl.sp_ne need⟩, trivial⟩
  | bool b => simp only [spell, SObj.Valid, SObj.value]; exact ⟨⟨Spl.sepOk_sp, Spl.sp_ne need⟩, trivial⟩
  | int i =>
    simp only [spell, SObj.Valid, SObj.value]
    exact ⟨⟨Spl.sepOk_sp, Spl.sp_ne need, h.1, h.2⟩, trivial⟩
  | real neg m s =>
    obtain ⟨a, b⟩ := spellReal_ok neg m s h.1 h.2
    simp only [spell, SObj.Valid, SObj.value]
    exact ⟨⟨Spl.sepOk_sp, Spl.sp_ne need, a⟩, b⟩
  | str s =>
    obtain ⟨a, b⟩ := validStr_octal3 s h
    simp only [spell, SObj.Valid, SObj.value]
    exact ⟨⟨Spl.sepOk_sp, a⟩, by rw [b]⟩
  | name s =>
    obtain ⟨a, b⟩ := canonNPiece_ok s h
    simp only [spell, SObj.Valid, SObj.value]
    exact ⟨⟨Spl.sepOk_sp, a⟩, by rw [b]⟩
  | arr xs =>
    obtain ⟨a, b⟩ := spellList_valid_value xs h false
    simp only [spell, SObj.Valid, SObj.value]
    exact ⟨⟨Spl.sepOk_sp, Spl.sepOk_nil, a⟩, by rw [b]⟩
  | dict kv =>
    obtain ⟨a, b, c⟩ := spellKV_valid_value kv h.1
    simp only [spell, SObj.Valid, SObj.value]
    exact ⟨⟨Spl.sepOk_sp, Spl.sepOk_nil, a, by rw [c]; exact h.2⟩, by rw [b]⟩
  | ref n g =>
    obtain ⟨h1, h2, h3, h4⟩ := h
    simp only [spell, SObj.Valid, SObj.value]
    refine ⟨⟨Spl.sepOk_sp, Spl.sp_ne need, Spl.sepOk_sp, by simp, Spl.sepOk_sp, by simp, ?_, ?_⟩, ?_⟩
    · omega
    · omega
    · rw [Int.toNat_of_nonneg h1, Int.toNat_of_nonneg h3]
theorem spellList_valid_value (xs : List Obj) (h : WFList xs) (need : Bool) :
    ValidList need (spellList xs) ∧ valueList (spellList xs) = xs := by
  cases xs with
  | nil => simp only [spellList, ValidList, valueList]; exact ⟨trivial, trivial⟩
  | cons x xs =>
    obtain ⟨a, b⟩ := spell_valid_value x h.1 need
    obtain ⟨c, d⟩ := spellList_valid_value xs h.2 (spell x).endsRegular
    simp only [spellList, ValidList, valueList]
    exact ⟨⟨a, c⟩, by rw [b, d]⟩
theorem spellKV_valid_value (kv : List (Str × Obj)) (h : WFKV kv) :
    ValidKVs (spellKV kv) ∧ valueKVs (spellKV kv) = kv ∧ keysOf (spellKV kv) = keysKV kv := by
  match kv, h with
  | [], _ => simp only [spellKV, ValidKVs, valueKVs, keysOf, keysKV]; exact ⟨trivial, trivial, trivial⟩
  | (k, v) :: r, h =>
    obtain ⟨hk, hv, hr⟩ := h
    obtain ⟨k1, k2⟩ := canonNPiece_ok k hk
    obtain ⟨a, b⟩ := spell_valid_value v hv true
    obtain ⟨c, d, e⟩ := spellKV_valid_value r hr
    simp only [spellKV, ValidKVs, valueKVs, keysOf, keysKV, SObj.keyBytes, SObj.isName, SObj.Valid]
    exact ⟨⟨trivial, ⟨Spl.sepOk_sp, k1⟩, a, c⟩, by rw [k2, b, d], by rw [k2, e]⟩
end

end Tabula.Pdf
