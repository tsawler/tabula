import TabulaModel.Model.Layout
import TabulaModel.Lemmas.ListBasics
/-!
White space and the visible characters of a text (`nonspace`, `textsOf`, `visible`): every renderer of
`Model/Layout.lean` writes the texts of its fragments and white space; what `buildLines` and `validateBlocks`
drop is blank; `trimLeft`.
-/
namespace Tabula.Layout
open List

theorem nonspace_append (a b : Str) : nonspace (a ++ b) = nonspace a ++ nonspace b := by
  simp [nonspace]

theorem nonspace_nil : nonspace [] = [] := rfl

/-- a separator chosen by a test is blank when both choices are -/
theorem nonspace_ite {c : Prop} [Decidable c] {a b : Str} (ha : nonspace a = []) (hb : nonspace b = []) :
    nonspace (if c then a else b) = [] := by
  split <;> assumption

theorem nonspace_replicate {c : Nat} (hc : isSpaceByte c = true) (n : Nat) : nonspace (List.replicate n c) = [] := by
  rw [nonspace, List.filter_replicate, hc]; rfl

theorem textsOf_append (a b : List Frag) : textsOf (a ++ b) = textsOf a ++ textsOf b := by
  simp [textsOf]

theorem textsOf_cons (f : Frag) (l : List Frag) : textsOf (f :: l) = f.text ++ textsOf l := by
  simp [textsOf]

/-- A text made of rendered pieces joined by blank separators shows what the pieces show; `F` is any
function with the three equations of such a joiner. -/
theorem nonspace_joined {α : Type} (F : List α → Str) (render : α → Str)
    (h0 : F [] = []) (h1 : ∀ a, F [a] = render a)
    (h2 : ∀ a b l, ∃ sep, nonspace sep = [] ∧ F (a :: b :: l) = render a ++ sep ++ F (b :: l)) :
    ∀ l, nonspace (F l) = nonspace (l.map render).flatten
  | [] => by rw [h0]; rfl
  | [a] => by rw [h1, List.map_singleton, List.flatten_singleton]
  | a :: b :: l => by
    obtain ⟨sep, hsep, e⟩ := h2 a b l
    rw [e, nonspace_append, nonspace_append, hsep, List.append_nil, nonspace_joined F render h0 h1 h2 (b :: l)]
    simp only [List.map_cons, List.flatten_cons, nonspace_append]

/-- pieces that each show the characters of their fragments, up to order, do so together -/
theorem nonspace_pieces_perm {α : Type} (render : α → Str) (frs : α → List Frag)
    (h : ∀ a, (nonspace (render a)).Perm (nonspace (textsOf (frs a)))) (l : List α) :
    (nonspace (l.map render).flatten).Perm (nonspace (textsOf (l.map frs).flatten)) := by
  induction l with
  | nil => exact .refl _
  | cons a l ih =>
    simp only [List.map_cons, List.flatten_cons, nonspace_append, textsOf_append]
    exact (h a).append ih

/-- pieces that each show the characters of their fragments do so together -/
theorem nonspace_pieces {α : Type} (render : α → Str) (frs : α → List Frag)
    (h : ∀ a, nonspace (render a) = nonspace (textsOf (frs a))) (l : List α) :
    nonspace (l.map render).flatten = nonspace (textsOf (l.flatMap frs)) := by
  induction l with
  | nil => rfl
  | cons a l ih =>
    simp only [List.map_cons, List.flatten_cons, List.flatMap_cons, nonspace_append, textsOf_append, h a, ih]

theorem textsOf_perm {a b : List Frag} (h : a.Perm b) : (nonspace (textsOf a)).Perm (nonspace (textsOf b)) := by
  unfold nonspace textsOf
  exact (h.flatMap_right _).filter _

theorem textsOf_flatten_perm {A B : List (List Frag)} (h : A.flatten.Perm B.flatten) :
    (nonspace (textsOf A.flatten)).Perm (nonspace (textsOf B.flatten)) := textsOf_perm h

theorem visible_false_iff (s : Str) : visible s = false ↔ nonspace s = [] := by
  rw [visible, nonspace, List.any_eq_false, List.filter_eq_nil_iff]

theorem nonspace_lineTextAux (p : Frag) (l : List Frag) :
    nonspace (lineTextAux p l) = nonspace (textsOf l) := by
  induction l generalizing p with
  | nil => rfl
  | cons f fs ih =>
    simp only [lineTextAux, textsOf_cons, nonspace_append, ih, nonspace_ite (a := [32]) (b := []) rfl rfl,
      List.nil_append]

theorem nonspace_lineText (l : List Frag) : nonspace (lineText l) = nonspace (textsOf l) := by
  cases l with
  | nil => rfl
  | cons f fs => simp only [lineText, textsOf_cons, nonspace_append, nonspace_lineTextAux]

theorem lineTexts_nonspace' (L : List (List Frag)) :
    nonspace (textsOf L.flatten) = nonspace (L.map lineText).flatten := by
  rw [nonspace_pieces lineText id nonspace_lineText, List.flatMap_id]

theorem dropped_line_blank (m : Rat) (l : List Frag) (h : keepLine m l = false) :
    nonspace (textsOf l) = [] := by
  unfold keepLine at h
  cases l with
  | nil => rfl
  | cons f fs =>
    simp only [List.isEmpty_cons, Bool.not_false, Bool.true_and, Bool.not_eq_false', Bool.and_eq_true,
      Bool.not_eq_true', decide_eq_true_eq] at h
    have := (visible_false_iff _).mp h.2
    rw [nonspace_lineText] at this
    exact this

/-- dropping members of a list whose fragments hold no visible character changes no visible character -/
theorem nonspace_filter_blank {α : Type} (frs : α → List Frag) (keep : α → Bool) (l : List α)
    (h : ∀ a ∈ l, keep a = false → nonspace (textsOf (frs a)) = []) :
    nonspace (textsOf ((l.filter keep).map frs).flatten) = nonspace (textsOf (l.map frs).flatten) := by
  induction l with
  | nil => rfl
  | cons a l ih =>
    have ih' := ih fun b hb => h b (List.mem_cons_of_mem _ hb)
    rw [List.filter_cons]
    cases hk : keep a with
    | true => simp only [if_true, List.map_cons, List.flatten_cons, textsOf_append, nonspace_append, ih']
    | false =>
      simp only [Bool.false_eq_true, if_false, List.map_cons, List.flatten_cons, textsOf_append, nonspace_append,
        ih', h a List.mem_cons_self hk, List.nil_append]

theorem buildLines_nonspace (m : Rat) (gs : List (List Frag)) :
    nonspace (textsOf (buildLines m gs).flatten) = nonspace (textsOf gs.flatten) := by
  have := nonspace_filter_blank id (keepLine m) gs fun g _ => dropped_line_blank m g
  rwa [List.map_id, List.map_id] at this

theorem nonspace_asmSep (ly lx : Rat) (f : Frag) : nonspace (asmSep ly lx f) = [] :=
  nonspace_ite (nonspace_ite rfl rfl) (nonspace_ite rfl rfl)

theorem nonspace_asmEmit (ly lx : Rat) (l : List Frag) :
    nonspace (asmEmit ly lx l) = nonspace (textsOf l) := by
  induction l generalizing ly lx with
  | nil => rfl
  | cons f fs ih =>
    simp only [asmEmit, textsOf_cons, nonspace_append, nonspace_asmSep, List.nil_append, ih]

theorem nonspace_assembleText (fs : List Frag) :
    nonspace (assembleText fs) = nonspace (textsOf (stableSort asmLess fs)) := by
  unfold assembleText
  cases stableSort asmLess fs with
  | nil => rfl
  | cons f r => simp only [textsOf_cons, nonspace_append, nonspace_asmEmit]

theorem nonspace_plEmit (pad : List Frag → Frag → Nat × Nat) (done l : List Frag) :
    nonspace (plEmit pad done l) = nonspace (textsOf l) := by
  induction l generalizing done with
  | nil => rfl
  | cons f fs ih =>
    simp only [plEmit, textsOf_cons, nonspace_append, nonspace_replicate (c := 10) rfl, nonspace_replicate (c := 32) rfl,
      List.nil_append, ih]

/-- the ASCII `TrimLeft` is core's `dropWhile` -/
theorem trimLeft_eq_dropWhile (s : Str) : trimLeft s = s.dropWhile isSpaceByte := by
  induction s with
  | nil => rfl
  | cons c s ih => rw [trimLeft, List.dropWhile_cons, ih]

theorem nonspace_trimLeft (s : Str) : nonspace (trimLeft s) = nonspace s := by
  have h : nonspace (s.takeWhile isSpaceByte) = [] :=
    List.filter_eq_nil_iff.mpr fun c hc => by rw [List.mem_takeWhile_imp hc]; exact Bool.false_ne_true
  rw [trimLeft_eq_dropWhile, ← List.nil_append (nonspace (s.dropWhile _)), ← h, ← nonspace_append,
    List.takeWhile_append_dropWhile]

theorem nonspace_reverse (s : Str) : nonspace s.reverse = (nonspace s).reverse := by
  simp [nonspace, List.filter_reverse]

theorem nonspace_trimSpace (s : Str) : nonspace (trimSpace s) = nonspace s := by
  unfold trimSpace
  rw [nonspace_reverse, nonspace_trimLeft, nonspace_reverse, nonspace_trimLeft, List.reverse_reverse]

theorem trimLeft_spec (s : Str) :
    ∃ a, s = a ++ trimLeft s ∧ (∀ c ∈ a, isSpaceByte c = true) ∧
      ∀ c, (trimLeft s).head? = some c → isSpaceByte c = false := by
  rw [trimLeft_eq_dropWhile]
  refine ⟨s.takeWhile isSpaceByte, List.takeWhile_append_dropWhile.symm, fun c => List.mem_takeWhile_imp,
    fun c hc => ?_⟩
  have := List.head?_dropWhile_not isSpaceByte s
  rwa [hc] at this

theorem trimLeft_fixed (s : Str) (h : ∀ c, s.head? = some c → isSpaceByte c = false) :
    trimLeft s = s := by
  cases s with
  | nil => rfl
  | cons c s => rw [trimLeft, if_neg (by rw [h c rfl]; exact Bool.false_ne_true)]

theorem nonspace_joinLines (sep : Nat → Str) (hsep : ∀ i, nonspace (sep i) = []) (i : Nat) (ts : List Str) :
    nonspace (joinLines sep i ts) = nonspace ts.flatten := by
  induction ts generalizing i with
  | nil => rfl
  | cons t ts ih =>
    simp only [joinLines, List.flatten_cons, nonspace_append, nonspace_trimSpace, ih,
      nonspace_ite (a := []) (b := sep i) rfl (hsep i), List.nil_append]

theorem nonspace_byColumnAux (sep : Nat → Nat → Str) (hsep : ∀ i j, nonspace (sep i j) = [])
    (si : Nat) (acc : Str) (ss : List (List Str)) :
    nonspace (byColumnAux sep si acc ss) = nonspace acc ++ nonspace (ss.map List.flatten).flatten := by
  induction ss generalizing si acc with
  | nil => simp only [byColumnAux, List.map_nil, List.flatten_nil, nonspace_nil, List.append_nil]
  | cons s ss ih =>
    simp only [byColumnAux, ih, nonspace_append, List.map_cons, List.flatten_cons,
      nonspace_joinLines (sep si) (hsep si), nonspace_ite (a := [10, 10]) (b := []) rfl rfl,
      List.nil_append, List.append_assoc]

theorem nonspace_joinParagraphsAux (i : Nat) (ps : List (List Str)) :
    nonspace (joinParagraphsAux i ps) = nonspace (ps.map List.flatten).flatten := by
  induction ps generalizing i with
  | nil => rfl
  | cons p ps ih =>
    simp only [joinParagraphsAux, nonspace_append, ih, List.map_cons, List.flatten_cons,
      nonspace_joinLines (fun _ => [32]) (fun _ => rfl), nonspace_ite (a := [10, 10]) (b := []) rfl rfl,
      List.nil_append]

/-- the four characters of `isWhitespaceOnly` are white space for `unicode.IsSpace` too -/
theorem isSpaceByte_of_isWs4 {c : Nat} (h : isWs4 c = true) : isSpaceByte c = true := by
  simp only [isWs4, Bool.or_eq_true, beq_iff_eq] at h
  rcases h with ((rfl | rfl) | rfl) | rfl <;> rfl

theorem visible4_false_nonspace (s : Str) (h : visible4 s = false) : nonspace s = [] := by
  rw [visible4, List.any_eq_false] at h
  refine List.filter_eq_nil_iff.mpr fun c hc => ?_
  have hw : isWs4 c = true := by simpa using h c hc
  rw [isSpaceByte_of_isWs4 hw]
  exact Bool.false_ne_true

theorem any_visible4_false (l : List Frag) (h : l.any (fun f => visible4 f.text) = false) :
    nonspace (textsOf l) = [] := by
  induction l with
  | nil => rfl
  | cons f l ih =>
    simp only [List.any_cons, Bool.or_eq_false_iff] at h
    simp only [textsOf_cons, nonspace_append, visible4_false_nonspace _ h.1, ih h.2, List.nil_append]

theorem dropped_block_blank (mw mh : Rat) (b : Block) (h : keepBlock mw mh b = false) :
    nonspace (textsOf b.frags) = [] := by
  unfold keepBlock at h
  cases hb : b.frags with
  | nil => rfl
  | cons f fs =>
    rw [hb] at h
    simp only [List.isEmpty_cons, Bool.not_false, Bool.true_and, Bool.not_eq_false', Bool.and_eq_true,
      Bool.not_eq_true'] at h
    exact any_visible4_false _ h.2

end Tabula.Layout
