import TabulaModel.Lemmas.TraverseOld
import TabulaModel.Lemmas.HtmlText
/-!
Fix 75d57dc against the traversal before it (C19, Props/C19Repair.lean):

* an inline child (`isInline`) produces nothing when it is traversed — no atom, no change of the
  state — in the old and in the repaired traversal, under every predicate: this is why collecting
  its text into a run cannot return text twice;
* the atoms of the old traversal are a sublist of the atoms of the repaired one (nothing that
  was returned is changed, moved or dropped; paragraphs are added);
* on a tree in which every inline child of every p/div block container is blank, the two
  traversals return the same element list.
-/
namespace Tabula.Html

theorem classify_of_plain (tag : Str) (hb : isBlockTag tag = false) (hl : (tag == T.li) = false)
    (hc : (tag == T.code) = false) : classify tag = .void ∨ classify tag = .other := by
  simp only [isBlockTag, Bool.or_eq_false_iff, beq_eq_false_iff_ne, ne_eq] at hb hl hc
  unfold classify
  simp only [hb, hl, hc, if_false, or_false]
  split <;> simp

theorem isInline_elem_eq {tag : Str} (attrs : List (Str × Str)) (kids : List Dom) (hs : isSkip tag = false) :
    isInline (.elem tag attrs kids) = (!(isBlockTag tag || tag == T.li || tag == T.code) && isInlineL kids) := by
  rw [isInline, hs]
  cases (isBlockTag tag || tag == T.li || tag == T.code) <;> rfl

/-- … so an inline element is one the traversal only descends into, if at all -/
theorem isInline_elem {tag : Str} {attrs : List (Str × Str)} {kids : List Dom}
    (h : isInline (.elem tag attrs kids) = true) (hs : isSkip tag = false) :
    (classify tag = .void ∨ classify tag = .other) ∧ isInlineL kids = true := by
  rw [isInline_elem_eq attrs kids hs] at h
  simp only [Bool.and_eq_true, Bool.not_eq_true', Bool.or_eq_false_iff] at h
  exact ⟨classify_of_plain tag h.1.1.1 h.1.1.2 h.1.2, h.2⟩

theorem isBlockTag_not_skip (tag : Str) (h : isBlockTag tag = true) : isSkip tag = false := by
  cases hs : isSkip tag with
  | false => rfl
  | true =>
    -- none of the nine skipped tags is in the block-level list
    simp only [isSkip, Bool.or_eq_true, beq_iff_eq] at hs
    rcases hs with (((((((e | e) | e) | e) | e) | e) | e) | e) | e <;> (subst e; exact absurd h (by decide))

theorem isBlockNode_not_inline (k : Dom) (h : isBlockNode k = true) : isInline k = false := by
  cases k with
  | text s => cases h
  | other ks => cases h
  | elem tag attrs kids =>
    have hb : isBlockTag tag = true := h
    simp [isInline, isBlockTag_not_skip tag hb, hb]

/-! ### an inline child produces nothing when traversed -/

mutual
theorem atoms_inline (p : Pos → Dom → Bool) (w : Bool) :
    ∀ (t : Dom) (pos : Pos) (lc : LC), isInline t = true → atoms p w pos lc t = []
  | .text _, _, _, _ => by simp [atoms]
  | .other kids, pos, lc, h => by
      simp only [atoms]
      exact atomsL_inline p w kids _ lc (by simpa [isInline] using h)
  | .elem tag attrs kids, pos, lc, h => by
      unfold atoms
      by_cases hs : isSkip tag = true
      · rw [if_pos hs]
      · by_cases hp : p pos (.elem tag attrs kids) = true
        · rw [if_neg hs, if_pos hp]
        · have hi := isInline_elem h (by simpa using hs)
          rw [if_neg hs, if_neg hp]
          rcases hi.1 with hc | hc
          · simp only [hc]
          · simp only [hc]; exact atomsL_inline p w kids _ lc hi.2
theorem atomsL_inline (p : Pos → Dom → Bool) (w : Bool) :
    ∀ (ts : List Dom) (kp : Pos) (lc : LC), isInlineL ts = true → atomsL p w kp lc ts = []
  | [], _, _, _ => by simp [atomsL]
  | k :: ks, kp, lc, h => by
      have h' : isInline k = true ∧ isInlineL ks = true := by simpa [isInlineL] using h
      simp only [atomsL, atoms_inline p w k kp lc h'.1, atomsL_inline p w ks kp lc h'.2, List.append_nil]
end

mutual
theorem trav_inline (p : Pos → Dom → Bool) (w : Bool) :
    ∀ (t : Dom) (pos : Pos) (s : St), isInline t = true → trav p w pos t s = s
  | .text _, _, _, _ => by simp [trav]
  | .other kids, pos, s, h => by
      simp only [trav]
      exact travL_inline p w kids _ s (by simpa [isInline] using h)
  | .elem tag attrs kids, pos, s, h => by
      unfold trav
      by_cases hs : isSkip tag = true
      · rw [if_pos hs]
      · by_cases hp : p pos (.elem tag attrs kids) = true
        · rw [if_neg hs, if_pos hp]
        · have hi := isInline_elem h (by simpa using hs)
          rw [if_neg hs, if_neg hp]
          rcases hi.1 with hc | hc
          · simp only [hc]
          · simp only [hc]; exact travL_inline p w kids _ s hi.2
theorem travL_inline (p : Pos → Dom → Bool) (w : Bool) :
    ∀ (ts : List Dom) (kp : Pos) (s : St), isInlineL ts = true → travL p w kp ts s = s
  | [], _, _, _ => by simp [travL]
  | k :: ks, kp, s, h => by
      have h' : isInline k = true ∧ isInlineL ks = true := by simpa [isInlineL] using h
      simp only [travL, trav_inline p w k kp s h'.1, travL_inline p w ks kp s h'.2]
end

mutual
theorem travOld_inline (p : Pos → Dom → Bool) (w : Bool) :
    ∀ (t : Dom) (pos : Pos) (s : St), isInline t = true → travOld p w pos t s = s
  | .text _, _, _, _ => by simp [travOld]
  | .other kids, pos, s, h => by
      simp only [travOld]
      exact travLOld_inline p w kids _ s (by simpa [isInline] using h)
  | .elem tag attrs kids, pos, s, h => by
      unfold travOld
      by_cases hs : isSkip tag = true
      · rw [if_pos hs]
      · by_cases hp : p pos (.elem tag attrs kids) = true
        · rw [if_neg hs, if_pos hp]
        · have hi := isInline_elem h (by simpa using hs)
          rw [if_neg hs, if_neg hp]
          rcases hi.1 with hc | hc
          · simp only [hc]
          · simp only [hc]; exact travLOld_inline p w kids _ s hi.2
theorem travLOld_inline (p : Pos → Dom → Bool) (w : Bool) :
    ∀ (ts : List Dom) (kp : Pos) (s : St), isInlineL ts = true → travLOld p w kp ts s = s
  | [], _, _, _ => by simp [travLOld]
  | k :: ks, kp, s, h => by
      have h' : isInline k = true ∧ isInlineL ks = true := by simpa [isInlineL] using h
      simp only [travLOld, travOld_inline p w k kp s h'.1, travLOld_inline p w ks kp s h'.2]
end

/-! ### the repair only adds paragraphs -/

mutual
theorem atomsOld_sublist (p : Pos → Dom → Bool) (w : Bool) :
    ∀ (t : Dom) (pos : Pos) (lc : LC), (atomsOld p w pos lc t).Sublist (atoms p w pos lc t)
  | .text _, pos, lc => by simp [atoms, atomsOld]
  | .other kids, pos, lc => by
      simp only [atoms, atomsOld]
      exact atomsLOld_sublist p w kids _ lc
  | .elem tag attrs kids, pos, lc => by
      unfold atoms atomsOld
      by_cases hs : isSkip tag = true
      · rw [if_pos hs, if_pos hs]; exact .refl _
      · by_cases hp : p pos (.elem tag attrs kids) = true
        · rw [if_neg hs, if_pos hp, if_neg hs, if_pos hp]; exact .refl _
        · rw [if_neg hs, if_neg hp, if_neg hs, if_neg hp]
          cases classify tag with
          | pdiv isP =>
            simp only []
            split
            · exact List.Sublist.refl _
            · exact atomsLOld_sublistM p w kids _ lc []
          | list ord => exact atomsLOld_sublist p w kids _ _
          | li => exact List.Sublist.append (List.Sublist.refl _) (atomsLiOld_sublist p w kids _ _)
          | other => exact atomsLOld_sublist p w kids _ lc
          | _ => exact List.Sublist.refl _
theorem atomsLOld_sublist (p : Pos → Dom → Bool) (w : Bool) :
    ∀ (ts : List Dom) (kp : Pos) (lc : LC), (atomsLOld p w kp lc ts).Sublist (atomsL p w kp lc ts)
  | [], kp, lc => by simp [atomsL, atomsLOld]
  | k :: ks, kp, lc => by
      simp only [atomsL, atomsLOld]
      exact List.Sublist.append (atomsOld_sublist p w k kp lc) (atomsLOld_sublist p w ks kp lc)
theorem atomsLiOld_sublist (p : Pos → Dom → Bool) (w : Bool) :
    ∀ (ts : List Dom) (kp : Pos) (lc : LC), (atomsLiOld p w kp lc ts).Sublist (atomsLi p w kp lc ts)
  | [], kp, lc => by simp [atomsLi, atomsLiOld]
  | k :: ks, kp, lc => by
      simp only [atomsLi, atomsLiOld]
      refine List.Sublist.append ?_ (atomsLiOld_sublist p w ks kp lc)
      split
      · exact atomsOld_sublist p w k kp lc
      · exact List.Sublist.refl _
/-- the old child loop of a block container against the repaired one, whatever run is pending -/
theorem atomsLOld_sublistM (p : Pos → Dom → Bool) (w : Bool) :
    ∀ (ts : List Dom) (kp : Pos) (lc : LC) (run : Str),
      (atomsLOld p w kp lc ts).Sublist (atomsM p w kp lc ts run)
  | [], kp, lc, run => by simp [atomsLOld]
  | k :: ks, kp, lc, run => by
      simp only [atomsLOld, atomsM]
      by_cases hk : isInline k = true
      · have e : atomsOld p w kp lc k = [] :=
          List.sublist_nil.mp (atoms_inline p w k kp lc hk ▸ atomsOld_sublist p w k kp lc)
        simp only [hk, if_true, e, List.nil_append]
        exact atomsLOld_sublistM p w ks kp lc _
      · simp only [hk, if_false, Bool.false_eq_true, List.append_assoc]
        exact (List.Sublist.append (atomsOld_sublist p w k kp lc) (atomsLOld_sublistM p w ks kp lc [])).trans
          (List.sublist_append_right _ _)
end

/-- so an inline child produced nothing in the old specification either -/
theorem atomsOld_inline (p : Pos → Dom → Bool) (w : Bool) :
    ∀ (t : Dom) (pos : Pos) (lc : LC), isInline t = true → atomsOld p w pos lc t = [] :=
  fun t pos lc h => List.sublist_nil.mp (atoms_inline p w t pos lc h ▸ atomsOld_sublist p w t pos lc)

theorem atomsLOld_inline (p : Pos → Dom → Bool) (w : Bool) :
    ∀ (ts : List Dom) (kp : Pos) (lc : LC), isInlineL ts = true → atomsLOld p w kp lc ts = [] :=
  fun ts kp lc h => List.sublist_nil.mp (atomsL_inline p w ts kp lc h ▸ atomsLOld_sublist p w ts kp lc)

/-! ### without own text in block containers nothing changes -/

mutual
/-- no p/div of the tree that has a block-level child has an inline child with text: the documents
the fix does not concern -/
def quiet : Dom → Bool
  | .text _ => true
  | .other kids => quietL kids
  | .elem tag _ kids =>
    (match classify tag with
      | .pdiv _ => if isBlockContainer kids then blankInline kids else true
      | _ => true) && quietL kids
def quietL : List Dom → Bool
  | [] => true
  | k :: ks => quiet k && quietL ks
end

theorem emitRun_blank (run : Str) (s : St) (h : squeeze run = []) : emitRun run s = s := by
  unfold emitRun
  have : trim run = [] := (trim_eq_nil_iff run).mpr h
  simp [this]

/-- children without any text: in particular the inline ones are blank -/
theorem blankInline_of_blank (ts : List Dom) (h : squeeze (tnFlatL ts) = []) : blankInline ts = true := by
  rw [tnFlatL_eq_flatMap, squeeze_flatMap, List.flatMap_eq_nil_iff] at h
  exact List.all_eq_true.mpr fun k hk => by simp [h k hk]

mutual
theorem trav_quiet (p : Pos → Dom → Bool) (w : Bool) :
    ∀ (t : Dom) (pos : Pos) (s : St), quiet t = true → trav p w pos t s = travOld p w pos t s
  | .text _, _, _, _ => by simp [trav, travOld]
  | .other kids, pos, s, h => by
      simp only [trav, travOld]
      exact travL_quiet p w kids _ s (by simpa [quiet] using h)
  | .elem tag attrs kids, pos, s, h => by
      have hq : quietL kids = true := by
        simp only [quiet, Bool.and_eq_true] at h; exact h.2
      unfold trav travOld
      by_cases hs : isSkip tag = true
      · rw [if_pos hs, if_pos hs]
      · by_cases hp : p pos (.elem tag attrs kids) = true
        · rw [if_neg hs, if_pos hp, if_neg hs, if_pos hp]
        · rw [if_neg hs, if_neg hp, if_neg hs, if_neg hp]
          cases hc : classify tag with
          | pdiv isP =>
            simp only []
            split
            · rfl
            · rename_i hcnd
              by_cases hb : isBlockContainer kids = true
              · have hbl : blankInline kids = true := by
                  simp only [quiet, hc, hb, if_true, Bool.and_eq_true] at h; exact h.1
                exact travM_quiet p w kids _ [] _ rfl hbl hq
              · -- not a block container, hence blank: every child is traversed or skipped alike
                have hb' : isBlockContainer kids = false := by simpa using hb
                have ht : trim (getTextContent (.elem tag attrs kids)) = [] := by
                  simpa [hb'] using hcnd
                have hsq : squeeze (tnFlatL kids) = [] := by
                  have := (trim_eq_nil_iff _).mp ht
                  rw [squeeze_getTextContent, tnFlat_elem tag attrs kids (by simpa using hs)] at this
                  exact this
                exact travM_quiet p w kids _ [] _ rfl (blankInline_of_blank kids hsq) hq
          | list ord => simp only []; rw [travL_quiet p w kids _ _ hq]
          | li =>
            simp only []
            rw [travLi_quiet p w kids _ _ hq, travLi_quiet p w kids _ _ hq]
          | other => simp only []; exact travL_quiet p w kids _ s hq
          | _ => rfl
theorem travL_quiet (p : Pos → Dom → Bool) (w : Bool) :
    ∀ (ts : List Dom) (kp : Pos) (s : St), quietL ts = true → travL p w kp ts s = travLOld p w kp ts s
  | [], _, _, _ => by simp [travL, travLOld]
  | k :: ks, kp, s, h => by
      have h' : quiet k = true ∧ quietL ks = true := by simpa [quietL] using h
      simp only [travL, travLOld, trav_quiet p w k kp s h'.1, travL_quiet p w ks kp _ h'.2]
theorem travLi_quiet (p : Pos → Dom → Bool) (w : Bool) :
    ∀ (ts : List Dom) (kp : Pos) (s : St), quietL ts = true → travLi p w kp ts s = travLiOld p w kp ts s
  | [], _, _, _ => by simp [travLi, travLiOld]
  | k :: ks, kp, s, h => by
      have h' : quiet k = true ∧ quietL ks = true := by simpa [quietL] using h
      simp only [travLi, travLiOld, trav_quiet p w k kp s h'.1, travLi_quiet p w ks kp _ h'.2]
/-- the repaired child loop of a block container whose inline children are blank -/
theorem travM_quiet (p : Pos → Dom → Bool) (w : Bool) :
    ∀ (ts : List Dom) (kp : Pos) (run : Str) (s : St), squeeze run = [] → blankInline ts = true →
      quietL ts = true → travM p w kp ts run s = travLOld p w kp ts s
  | [], _, run, s, hr, _, _ => by simp only [travM, travLOld]; exact emitRun_blank run s hr
  | k :: ks, kp, run, s, hr, hb, h => by
      have h' : quiet k = true ∧ quietL ks = true := by simpa [quietL] using h
      simp only [blankInline, List.all_cons, Bool.and_eq_true] at hb
      simp only [travM, travLOld]
      by_cases hk : isInline k = true
      · have hkb : squeeze (tnFlat k) = [] := by
          have := hb.1
          simpa [hk] using this
        simp only [hk, if_true, travOld_inline p w k kp s hk]
        exact travM_quiet p w ks kp _ s (by rw [squeeze_append, hr, squeeze_textRec, hkb]; rfl) hb.2 h'.2
      · simp only [hk, if_false, Bool.false_eq_true, emitRun_blank run s hr, trav_quiet p w k kp s h'.1]
        exact travM_quiet p w ks kp [] _ rfl hb.2 h'.2
end

/-- … and of a p/div without any text -/
theorem travM_blank (p : Pos → Dom → Bool) (w : Bool) :
    ∀ (ts : List Dom) (kp : Pos) (run : Str) (s : St), squeeze run = [] → squeeze (tnFlatL ts) = [] →
      quietL ts = true → travM p w kp ts run s = travLOld p w kp ts s :=
  fun ts kp run s hr hb h => travM_quiet p w ts kp run s hr (blankInline_of_blank ts hb) h

end Tabula.Html
