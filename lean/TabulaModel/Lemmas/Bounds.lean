import TabulaModel.Model.Bounds
import TabulaModel.Lemmas.BoundsCore
/-!
Lemmas about `Model/Bounds.lean`. The layout check of a cross-reference stream accepts when its two parts
do (`checkXRefStream_eq_some`). The page walk ends because every step that goes on marks an object of the
graph that was not marked before: its potential is the number of unmarked objects (`unseen` with unit
weights), as for the walk of `Model/BoundsCore.lean`.
-/
namespace Tabula.Bounds
open Tabula.BoundsCore (lookupL unseen_lookupL)

theorem checkXRefStream_eq_some (w index : List Int) (dataLen ew n : Nat) :
    checkXRefStream w index dataLen = some (ew, n) ↔
      checkW w = some ew ∧ checkIndex (dataLen / ew) index 0 = some n := by
  unfold checkXRefStream
  cases checkW w with
  | none => exact ⟨fun h => (nomatch h), fun h => (nomatch h.1)⟩
  | some ew' =>
    dsimp only
    cases hi : checkIndex (dataLen / ew') index 0 with
    | none => exact ⟨fun h => (nomatch h), fun ⟨he, h⟩ => by cases he; rw [hi] at h; cases h⟩
    | some n' => exact ⟨fun h => by cases h; exact ⟨rfl, hi⟩, fun ⟨he, h⟩ => by cases he; rw [hi] at h; cases h; rfl⟩

theorem get_eq_lookupL (g : Graph) (n : Nat) : g.get n = lookupL g n := by
  unfold Graph.get lookupL
  cases g.find? (·.1 = n) <;> rfl

theorem get_mem_keys (g : Graph) (n : Nat) (nd : Node) (h : g.get n = some nd) :
    n ∈ g.map Prod.fst :=
  List.mem_map.mpr ⟨_, BoundsCore.lookupL_some_mem g n nd (get_eq_lookupL g n ▸ h), rfl⟩

theorem tstep_done (g : Graph) (s : TState) (l : List Nat) (h : tstep g s = .done l) :
    l = s.out.reverse := by
  revert h
  fun_cases tstep g s
  case case1 => rintro ⟨⟩; rfl
  all_goals exact fun h => nomatch h

theorem tstep_running {g : Graph} {s s' : TState} (h : tstep g s = .running s') :
    unseen (fun _ => 1) g s'.visited + 1 ≤ unseen (fun _ => 1) g s.visited := by
  revert h
  fun_cases tstep g s
  case case1 | case2 | case3 => exact fun h => nomatch h
  case case4 n _ _ hv hg | case5 n _ _ hv _ hg =>
    rintro ⟨⟩
    exact unseen_lookupL (w := fun _ => 1) (get_eq_lookupL g n ▸ hg) (by simpa using hv)

theorem trun_ne_none (g : Graph) (fuel : Nat) (s : TState) (h : unseen (fun _ => 1) g s.visited < fuel) :
    trun g fuel s ≠ none := by
  fun_induction trun g fuel s with
  | case1 => omega
  | case2 | case3 => exact fun h => nomatch h
  | case4 fuel s s' hs ih => exact ih (by have := tstep_running hs; omega)

/-- from a start with nothing marked, as many steps as there are objects, and one to stop, are enough -/
theorem trun_fresh_ne_none (g : Graph) (fuel : Nat) (stack out : List Nat) (hf : g.length < fuel) :
    trun g fuel ⟨stack, [], out⟩ ≠ none :=
  trun_ne_none g fuel _ (Nat.lt_of_le_of_lt (unseen_le_length g []) hf)

end Tabula.Bounds
