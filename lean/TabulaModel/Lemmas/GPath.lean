import TabulaModel.Model.GPath
import TabulaModel.Lemmas.Matrix
/-!
Helper lemmas about the path machinery of the graphics extractor (`Model/GPath.lean`).
-/
namespace Tabula.GPath
open Tabula Tabula.Matrix

variable {α : Type}

section
variable [Lean.Grind.CommRing α] [DecidableEq α] [LT α] [DecidableLT α]

/-- the user-space segments `extractLineSegments` walks over (independent of the CTM) -/
def userSegments : List (Seg α) → Pt α → Pt α → List (Pt α × Pt α)
  | [], _, _ => []
  | .move p :: rest, _, _ => userSegments rest p p
  | .line p :: rest, cur, start => (cur, p) :: userSegments rest p start
  | .curve _ _ p3 :: rest, cur, start => (cur, p3) :: userSegments rest p3 start
  | .close :: rest, cur, start =>
    if pointsEqual cur start then userSegments rest start start
    else (cur, start) :: userSegments rest start start

end

theorem Path.lineTo_has {p : Path α} (h : p.has = true) (pt : Pt α) :
    p.lineTo pt = { p with segs := p.segs ++ [.line pt], cur := pt } := if_pos h

theorem Path.closePath_has {p : Path α} (h : p.has = true) :
    p.closePath = { p with segs := p.segs ++ [.close], cur := p.start } := if_pos h

/-- the path `a m b l c l d l h` -/
theorem Path.quad (p : Path α) (a b c d : Pt α) :
    ((((p.moveTo a).lineTo b).lineTo c).lineTo d).closePath =
      { segs := p.segs ++ [.move a, .line b, .line c, .line d, .close], cur := a, start := a, has := true } := by
  -- `rfl` would evaluate each `if p.has` twice per level; rewrite instead
  rw [Path.closePath_has, Path.lineTo_has, Path.lineTo_has, Path.lineTo_has] <;> first | rfl | skip
  simp only [Path.moveTo, List.append_assoc, List.cons_append, List.nil_append]

section
variable [Lean.Grind.CommRing α] [LT α] [DecidableLT α]

theorem run_cons_some {op : POp α} {s s' : PState α} (h : step op s = some s') (rest : List (POp α)) :
    run (op :: rest) s = run rest s' := by
  rw [run, h]

/-- `a m b l c l d l h` builds that path (by `simp`, not `rfl`: see `Path.quad`) -/
theorem run_quad (a b c d : Pt α) (rest : List (POp α)) (s : PState α) :
    run (.m a.1 a.2 :: .l b.1 b.2 :: .l c.1 c.2 :: .l d.1 d.2 :: .h :: rest) s =
      run rest (onPath s fun p => ((((p.moveTo a).lineTo b).lineTo c).lineTo d).closePath) := by
  simp only [run, step, onPath]

end

section
variable [Lean.Grind.CommRing α] [LE α] [LT α] [Std.IsLinearOrder α] [Std.LawfulOrderLT α]
  [Lean.Grind.OrderedRing α]

theorem sumsq_nonneg (a b : α) : 0 ≤ a * a + b * b := by
  have h1 : 0 ≤ a ^ 2 := Lean.Grind.OrderedRing.sq_nonneg
  have h2 : 0 ≤ b ^ 2 := Lean.Grind.OrderedRing.sq_nonneg
  rw [Lean.Grind.Semiring.pow_two] at h1 h2
  grind

omit [LE α] [LT α] [Std.IsLinearOrder α] [Std.LawfulOrderLT α] [Lean.Grind.OrderedRing α] in
theorem add_sub_self (a b : α) : a + (b - a) = b := by grind

theorem sub_nonneg_of_le {a b c : α} (h1 : a ≤ c) (h2 : c ≤ b) : 0 ≤ b - a := by grind

end

section
variable [Lean.Grind.CommRing α] [LE α] [LT α] [DecidableLT α]
  [Std.IsLinearOrder α] [Std.LawfulOrderLT α] [Lean.Grind.OrderedRing α]

theorem not_lt_zero_sq {a : α} (h : 0 ≤ a) : (!decide (a < 100 * (0 * 0))) = true := by
  have h0 : (100 : α) * (0 * 0) = 0 := by grind
  rw [h0, Bool.not_eq_eq_eq_not, Bool.not_true, decide_eq_false_iff_not]
  grind

/-- a right angle (dot product 0) passes the corner test, whatever the side lengths -/
theorem cornerOk_of_dot_zero (p0 p1 p2 : Pt α)
    (h : (p1.1 - p0.1) * (p2.1 - p1.1) + (p1.2 - p0.2) * (p2.2 - p1.2) = 0) : cornerOk p0 p1 p2 = true := by
  simp only [cornerOk, h]
  split
  · rfl
  · have h1 := sumsq_nonneg (p1.1 - p0.1) (p1.2 - p0.2)
    have h2 := sumsq_nonneg (p2.1 - p1.1) (p2.2 - p1.2)
    exact not_lt_zero_sq (Lean.Grind.OrderedRing.mul_nonneg h1 h2)

/-- every rectangle — a corner `p` and two orthogonal side vectors `u`, `v` of any length,
in any orientation — passes `isRectangle` -/
theorem isRectangle_of_orthogonal (p u v : Pt α) (h : u.1 * v.1 + u.2 * v.2 = 0) :
    isRectangle p (p.1 + u.1, p.2 + u.2) (p.1 + u.1 + v.1, p.2 + u.2 + v.2) (p.1 + v.1, p.2 + v.2) = true := by
  simp only [isRectangle, Bool.and_eq_true]
  refine ⟨⟨⟨?_, ?_⟩, ?_⟩, ?_⟩ <;> apply cornerOk_of_dot_zero <;> simp only <;> grind

/-- every axis-parallel rectangle — any corner, any width and height, negative and zero
included — passes `isRectangle` -/
theorem isRectangle_axis (x y w h : α) :
    isRectangle (x, y) (x + w, y) (x + w, y + h) (x, y + h) = true := by
  have hr := isRectangle_of_orthogonal (x, y) (w, 0) (0, h) (by grind)
  simp only [Lean.Grind.Semiring.add_zero] at hr
  exact hr

/-- a coordinate difference of 0 is within the tolerance 0.5 of the orientation flags -/
theorem flag_of_zero (d : α) (h : d = 0) : decide (2 * GPath.abs d < 1) = true := by
  subst h
  simp only [GPath.abs]
  split <;> grind

theorem min2_le (a b : α) : min2 a b ≤ a ∧ min2 a b ≤ b ∧ (min2 a b = a ∨ min2 a b = b) := by
  simp only [min2]; split <;> grind

theorem le_max2 (a b : α) : a ≤ max2 a b ∧ b ≤ max2 a b ∧ (max2 a b = a ∨ max2 a b = b) := by
  simp only [max2]; split <;> grind

omit [Lean.Grind.CommRing α] [LE α] [Std.IsLinearOrder α] [Std.LawfulOrderLT α] [Lean.Grind.OrderedRing α] in
/-- the loop of `boundingBoxFromPoints` keeps four running selections: `min2` resp. `max2` folded over
the coordinates -/
theorem bboxLoop_eq (pts : List (Pt α)) (a b c d : α) :
    bboxLoop pts a b c d =
      ((pts.map (·.1)).foldl min2 a, (pts.map (·.1)).foldl max2 b, (pts.map (·.2)).foldl min2 c,
        (pts.map (·.2)).foldl max2 d) := by
  induction pts generalizing a b c d with
  | nil => rfl
  | cons p rest ih => simp only [bboxLoop, List.map_cons, List.foldl_cons, min2, max2, ih]

omit [Lean.Grind.CommRing α] [LE α] [LT α] [DecidableLT α] [Std.IsLinearOrder α] [Std.LawfulOrderLT α]
  [Lean.Grind.OrderedRing α] in
/-- a running selection (`sel m x` is one of its two arguments and lies below both in the order `le`)
ends below the start value and below every element, and is one of them; used with `≤`, `min2` and
with `≥`, `max2` -/
theorem foldl_select {le : α → α → Prop} (hrefl : ∀ a, le a a) (htrans : ∀ {a b c}, le a b → le b c → le a c)
    {sel : α → α → α} (hsel : ∀ m x, le (sel m x) m ∧ le (sel m x) x ∧ (sel m x = m ∨ sel m x = x))
    (xs : List α) (m : α) :
    le (xs.foldl sel m) m ∧ (∀ x ∈ xs, le (xs.foldl sel m) x) ∧ (xs.foldl sel m = m ∨ xs.foldl sel m ∈ xs) := by
  induction xs generalizing m with
  | nil => exact ⟨hrefl m, nofun, .inl rfl⟩
  | cons x rest ih =>
    obtain ⟨h1, h2, h3⟩ := ih (sel m x)
    obtain ⟨k1, k2, k3⟩ := hsel m x
    refine ⟨htrans h1 k1, fun y hy => ?_, ?_⟩
    · rcases List.mem_cons.mp hy with rfl | hm
      · exact htrans h1 k2
      · exact h2 y hm
    · rcases h3 with h | h
      · rcases k3 with k | k
        · exact .inl (h.trans k)
        · exact .inr (List.mem_cons.mpr (.inl (h.trans k)))
      · exact .inr (List.mem_cons_of_mem _ h)

end
end Tabula.GPath
