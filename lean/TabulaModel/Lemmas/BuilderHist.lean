import TabulaModel.Lemmas.Builder
import TabulaModel.Lemmas.PageSel
/-!
Helper lemmas for the history theorems of C10 (`Props/C10Hist.lean`):

* `owners` / `FdInv`: at every point of a history the number of open readers is the number
  of extractors that own one (plus the readers the caller lent);
* `FamInv`: what is true of every extractor of a family grown from `Open(f)` or
  `FromReader(r)` and makes the result of an operation a function of the extractor's
  configuration alone (`termStatic`, `nonTermStatic`);
* `lineage` / `LinInv`: the configuration of every extractor is the chain of calls that
  built it;
* `termStatic_pdf` / `chain_answer`: the answer of a terminal operation on a PDF chain as a
  function of the calls and the page count.
-/
namespace Tabula.Builder
open Tabula.PageSel

theorem map_set_same {α β : Type} (f : α → β) (l : List α) (i : Nat) (a b : α)
    (h : l[i]? = some b) (hf : f a = f b) : (l.set i a).map f = l.map f := by
  rw [List.map_set, hf, set_same _ _ _ (by rw [List.getElem?_map, h]; rfl)]

theorem closeExt_static (s : Store) (i : Nat) (e : Ext) (he : s.exts[i]? = some e) :
    (closeExt s i e).exts.map Ext.static = s.exts.map Ext.static := by
  rcases closeExt_cases s i e with h | ⟨_, _, _, h⟩ <;> rw [h]
  exact map_set_same _ _ _ _ _ he rfl

theorem openNew_static (s : Store) (i : Nat) (e : Ext) (he : s.exts[i]? = some e) :
    (openNew s i e).1.exts.map Ext.static = s.exts.map Ext.static := by
  simp only [openNew]
  exact map_set_same _ _ _ _ _ he rfl

theorem step_static (w : World) (s : Store) (op : Op) (hop : op.mutates = true) :
    (step w s op).1.exts.map Ext.static = s.exts.map Ext.static :=
  step_moves w s (fun t => t.exts.map Ext.static = s.exts.map Ext.static) op rfl
    (fun e he _ => closeExt_static s _ e he) (fun e he _ _ _ _ _ => openNew_static s _ e he)
    (fun e he _ _ => (closeExt_static _ _ _ (set_self_getElem? he)).trans (openNew_static s _ e he))
    fun _ _ _ hm => by rw [hop] at hm; cases hm

theorem static_of_map {s t : Store} (h : t.exts.map Ext.static = s.exts.map Ext.static)
    {j : Nat} {e' : Ext} (he' : t.exts[j]? = some e') :
    ∃ e, s.exts[j]? = some e ∧ e'.static = e.static := by
  have h1 : (t.exts.map Ext.static)[j]? = some e'.static := by
    rw [List.getElem?_map, he']; rfl
  rw [h, List.getElem?_map] at h1
  cases hs : s.exts[j]? with
  | none => rw [hs] at h1; cases h1
  | some e =>
    rw [hs] at h1
    simp only [Option.map_some, Option.some.injEq] at h1
    exact ⟨e, rfl, h1.symm⟩

/-- the number of extractors that own a reader -/
def owners (s : Store) : Nat := s.exts.countP (·.owns)

/-- `b` = readers opened by the caller and lent to `FromReader` -/
def FdInv (b : Nat) (s : Store) : Prop := s.fdCount = b + owners s

theorem fd_closeExt {b : Nat} {s : Store} (h : StoreInv s) (hf : FdInv b s) {i : Nat} {e : Ext}
    (he : s.exts[i]? = some e) : FdInv b (closeExt s i e) := by
  unfold FdInv owners at *
  obtain ⟨e', he', hown', hfd⟩ := closeExt_releases h he
  rcases closeExt_cases s i e with h' | ⟨r, hown, hr, h'⟩
  · rw [h']; exact hf
  · have hcp := countP_set (·.owns) s.exts i e { e with reader := none, owns := false, opened := false } he
    simp only [hown, if_true] at hcp hfd
    rw [h'] at hfd ⊢
    dsimp only at hfd ⊢
    simp only [Bool.false_eq_true, if_false, Nat.add_zero] at hcp
    omega

theorem fd_openNew {b : Nat} {s : Store} (h : StoreInv s) (hf : FdInv b s) {i : Nat} {e : Ext}
    (he : s.exts[i]? = some e) (ho : e.opened = false) : FdInv b (openNew s i e).1 := by
  unfold FdInv owners at *
  have hown := (h.unopened i e he ho).1
  have hcp := countP_set (·.owns) s.exts i e { e with reader := some s.readers.length, owns := true, opened := true } he
  simp only [hown, Bool.false_eq_true, if_false, Nat.add_zero, if_true] at hcp
  have hfd : (openNew s i e).1.fdCount = s.fdCount + 1 := by
    simp [openNew, Store.fdCount, List.count_append]
  rw [hfd]
  simp only [openNew]
  omega

theorem fd_deadReader {b : Nat} {s : Store} (hf : FdInv b s) :
    FdInv b { s with readers := s.readers ++ [false] } := by
  unfold FdInv owners Store.fdCount at *
  simp [List.count_append, hf]

theorem fd_step (w : World) {b : Nat} {s : Store} (h : StoreInv s) (hf : FdInv b s) (op : Op) :
    FdInv b (step w s op).1 := by
  refine step_induction w h (FdInv b) op hf (fun _ he _ => fd_closeExt h hf he)
    (fun _ he _ ho _ _ _ => fd_openNew h hf he ho) (fd_deadReader hf) ?_
  intro e c he
  unfold FdInv owners Store.fdCount at *
  simp only [List.countP_append, List.countP_cons, List.countP_nil, derive_owns h he c]
  simpa using hf

theorem fd_exec (w : World) (b : Nat) (ops : List Op) :
    ∀ {s : Store}, StoreInv s → FdInv b s → FdInv b (exec w s ops) := by
  induction ops with
  | nil => intro s _ hf; exact hf
  | cons op ops ih => intro s h hf; exact ih (inv_step w h op) (fd_step w h hf op)

/-- `Close` never makes an extractor an owner -/
theorem closeOp_owns {s : Store} {i j : Nat} {e' : Ext} (hj : (closeOp s i).1.exts[j]? = some e')
    (ho : e'.owns = true) : ∃ e, s.exts[j]? = some e ∧ e.owns = true := by
  unfold closeOp at hj
  cases he : s.exts[i]? with
  | none => rw [he] at hj; exact ⟨e', hj, ho⟩
  | some e =>
    rw [he] at hj
    dsimp only at hj
    rcases closeExt_cases s i e with h | ⟨_, _, _, h⟩ <;> rw [h] at hj
    · exact ⟨e', hj, ho⟩
    · rcases getElem?_set_some hj with ⟨_, rfl⟩ | ⟨_, hj⟩
      · cases ho
      · exact ⟨e', hj, ho⟩

/-- … and leaves its receiver without a reader of its own -/
theorem closeOp_self {s : Store} (h : StoreInv s) {i : Nat} {e' : Ext}
    (hi : (closeOp s i).1.exts[i]? = some e') : e'.owns = false := by
  unfold closeOp at hi
  cases he : s.exts[i]? with
  | none => rw [he] at hi; rw [he] at hi; cases hi
  | some e =>
    rw [he] at hi
    dsimp only at hi
    obtain ⟨e'', he'', ho, _⟩ := closeExt_releases h he
    rw [he''] at hi
    cases hi
    exact ho

theorem closed_after_closeAll (w : World) (idx : List Nat) :
    ∀ {s : Store}, StoreInv s → ∀ j, (j ∈ idx ∨ ∀ e, s.exts[j]? = some e → e.owns = false) →
      ∀ e' : Ext, (exec w s (closeAll idx)).exts[j]? = some e' → e'.owns = false := by
  induction idx with
  | nil =>
    intro s _ j hj e' he'
    exact hj.elim (fun h => nomatch h) fun h => h e' he'
  | cons i idx ih =>
    intro s h j hj
    refine ih (s := (closeOp s i).1) (inv_step w h (.close i)) j ?_
    by_cases hji : j = i
    · exact .inr fun e he => closeOp_self h (hji ▸ he)
    · refine hj.elim (fun hm => .inl ((List.mem_cons.mp hm).resolve_left hji)) fun hu => .inr ?_
      intro e he
      cases ho : e.owns with
      | false => rfl
      | true =>
        obtain ⟨e0, he0, ho0⟩ := closeOp_owns he ho
        rw [hu e0 he0] at ho0
        cases ho0

theorem exec_closeAll_length (w : World) (idx : List Nat) :
    ∀ (s : Store), (exec w s (closeAll idx)).exts.length = s.exts.length := by
  induction idx with
  | nil => intro s; rfl
  | cons i idx ih =>
    intro s
    have := congrArg List.length (step_static w s (.close i) rfl)
    rw [List.length_map, List.length_map] at this
    exact (ih _).trans this

/-- Closing every extractor of a store with the invariants leaves open exactly the readers the
caller lent: no extractor owns one any more. -/
theorem fd_after_closeAll (w : World) {b : Nat} {s : Store} (hs : StoreInv s) (hf : FdInv b s) :
    (exec w s (closeAll (List.range s.exts.length))).fdCount = b := by
  have hfd := fd_exec w b (closeAll (List.range s.exts.length)) hs hf
  have hnone : owners (exec w s (closeAll (List.range s.exts.length))) = 0 := by
    unfold owners
    rw [List.countP_eq_zero]
    intro e he
    obtain ⟨j, hj, hje⟩ := List.getElem_of_mem he
    have hget := (List.getElem?_eq_getElem hj).trans (congrArg some hje)
    rw [exec_closeAll_length] at hj
    simp [closed_after_closeAll w _ hs j (.inl (List.mem_range.mpr hj)) e hget]
  unfold FdInv at hfd
  rw [hfd, hnone, Nat.add_zero]

/-- what every extractor grown from `Open(f)` (file name, no reader of its own yet) or
`FromReader(r)` (no file name, the caller's reader) satisfies -/
structure FamInv (w : World) (s : Store) : Prop where
  /-- a file that some extractor has open can be opened -/
  fileOpen : ∀ (i : Nat) (e : Ext), s.exts[i]? = some e → e.hasFile = true → e.opened = true → w.openOk = true
  /-- an extractor without a file name keeps the reader it was given -/
  noFile : ∀ (i : Nat) (e : Ext), s.exts[i]? = some e → e.hasFile = false → e.opened = true

theorem fam_closeExt {w : World} {s : Store} (h : StoreInv s) (hf : FamInv w s) {i : Nat} {e : Ext}
    (he : s.exts[i]? = some e) : FamInv w (closeExt s i e) := by
  rcases closeExt_cases s i e with h' | ⟨r, hown, hr, h'⟩ <;> rw [h']
  · exact hf
  constructor
  · intro j ej hj hfj hoj
    rcases getElem?_set_some hj with ⟨_, rfl⟩ | ⟨_, hj⟩
    · cases hoj
    · exact hf.fileOpen j ej hj hfj hoj
  · intro j ej hj hfj
    rcases getElem?_set_some hj with ⟨_, rfl⟩ | ⟨_, hj⟩
    · -- an owner has a file name
      exact absurd (h.ownsFile i e he hown) (by rw [show e.hasFile = false from hfj]; exact Bool.noConfusion)
    · exact hf.noFile j ej hj hfj

theorem fam_openNew {w : World} {s : Store} (hf : FamInv w s) {i : Nat} {e : Ext}
    (hw : w.openOk = true) : FamInv w (openNew s i e).1 := by
  refine ⟨fun _ _ _ _ _ => hw, fun j ej hj hfj => ?_⟩
  rcases getElem?_set_some hj with ⟨_, rfl⟩ | ⟨_, hj⟩
  · rfl
  · exact hf.noFile j ej hj hfj

theorem fam_deadReader {w : World} {s : Store} (hf : FamInv w s) :
    FamInv w { s with readers := s.readers ++ [false] } := ⟨hf.fileOpen, hf.noFile⟩

theorem fam_append {w : World} {s : Store} (hf : FamInv w s) {i : Nat} {e : Ext} (c : BCall)
    (he : s.exts[i]? = some e) : FamInv w { s with exts := s.exts ++ [e.derive c] } := by
  have hfile : (e.derive c).hasFile = e.hasFile := by rw [derive_eq]; exact clone_hasFile e
  constructor
  · intro j ej hj hfj hoj
    rcases getElem?_concat _ _ _ _ hj with hj | ⟨_, rfl⟩
    · exact hf.fileOpen j ej hj hfj hoj
    · rcases derive_life e c with ⟨ho, _, _, _, _⟩ | ⟨_, _, ho⟩
      · exact hf.fileOpen i e he (by rw [← hfile]; exact hfj) ho
      · rw [ho] at hoj; cases hoj
  · intro j ej hj hfj
    rcases getElem?_concat _ _ _ _ hj with hj | ⟨_, rfl⟩
    · exact hf.noFile j ej hj hfj
    · have hfe : e.hasFile = false := by rw [← hfile]; exact hfj
      have hoe := hf.noFile i e he hfe
      -- the clone shares whenever the parent is opened and has no file
      rw [derive_eq]
      unfold Ext.clone
      rw [hoe, hfe, Bool.and_false]
      rfl

theorem fam_step (w : World) {s : Store} (h : StoreInv s) (hf : FamInv w s) (op : Op) :
    FamInv w (step w s op).1 :=
  step_induction w h (FamInv w) op hf (fun _ he _ => fam_closeExt h hf he)
    (fun _ _ _ _ _ hw _ => fam_openNew hf hw) (fam_deadReader hf)
    (fun _ c he => fam_append hf c he)

theorem fam_exec (w : World) (ops : List Op) :
    ∀ {s : Store}, StoreInv s → FamInv w s → FamInv w (exec w s ops) := by
  induction ops with
  | nil => intro s _ hf; exact hf
  | cons op ops ih => intro s h hf; exact ih (inv_step w h op) (fam_step w h hf op)

theorem fam_openBaseF (w : World) (f : Fmt) : FamInv w (openBaseF f) := by
  constructor
  · intro i e he _ ho; obtain ⟨rfl, rfl⟩ := getElem?_singleton he; cases ho
  · intro i e he hfl; obtain ⟨rfl, rfl⟩ := getElem?_singleton he; cases hfl

theorem fam_readerBase (w : World) : FamInv w readerBase := by
  constructor
  · intro i e he hfl; obtain ⟨rfl, rfl⟩ := getElem?_singleton he; cases hfl
  · intro i e he _; obtain ⟨rfl, rfl⟩ := getElem?_singleton he; rfl

theorem termStatic_congr (w : World) (k : Term) (e e' : Ext) (h : e.static = e'.static) :
    termStatic w k e = termStatic w k e' := static_congr (termStatic w k) (fun _ => rfl) h

theorem nonTermStatic_congr (w : World) (k : NonTerm) (e e' : Ext) (h : e.static = e'.static) :
    nonTermStatic w k e = nonTermStatic w k e' := static_congr (nonTermStatic w k) (fun _ => rfl) h

/-- on a PDF the frame of a terminal operation is the builder error, or the selection rule if the
reader can be had -/
theorem termStatic_pdf (w : World) (k : Term) (e : Ext) (hf : e.format = .pdf) :
    termStatic w k e =
      if e.err then .err else if !e.hasFile || w.openOk then termBody w k e.opts else .err := by
  unfold termStatic termBodyF Term.checksErr
  simp only [hf, bne_self_eq_false, Bool.and_false, Bool.not_false, Bool.true_and,
    Bool.false_eq_true, if_false, if_true]

/-- The answer of every terminal operation on an extractor configured by the chain `cs` from an
error-free PDF base without selection, on a document of `n` pages: the builder error, the failure
to get a reader, or `resolvePages` on the page numbers of the chain, then "no pages to process"
where the operation has it. -/
theorem chain_answer (w : World) (k : Term) (e0 : Ext) (cs : List BCall) (n : Nat)
    (hf : e0.format = .pdf) (he : e0.err = false) (hp : e0.opts.pages = []) (hn : w.pageCount = some n) :
    termStatic w k (chainFrom e0 cs) =
      if badRange cs then .err else if !e0.hasFile || w.openOk then
        match resolvePages (selOf cs) n with
        | .error _ => .err
        | .ok idx => if k.needsPages && idx.isEmpty then .err else .pages idx
      else .err := by
  obtain ⟨hpages, herr, hfmt, hfile⟩ := chainFrom_cfg cs e0
  rw [termStatic_pdf w k _ (hfmt.trans hf), herr, he, Bool.false_or, hfile]
  unfold termBody
  rw [hn, hpages, hp, List.nil_append]
  rfl

/-- chains that denote the same set of pages, both with or both without an inverted range, configure
extractors that answer every terminal operation alike -/
theorem termStatic_chain_congr (w : World) (k : Term) (e0 : Ext) {cs₁ cs₂ : List BCall}
    (hset : ∀ p, p ∈ selOf cs₁ ↔ p ∈ selOf cs₂) (hbad : badRange cs₁ = badRange cs₂) :
    termStatic w k (chainFrom e0 cs₁) = termStatic w k (chainFrom e0 cs₂) := by
  obtain ⟨p1, e1, f1, g1⟩ := chainFrom_cfg cs₁ e0
  obtain ⟨p2, e2, f2, g2⟩ := chainFrom_cfg cs₂ e0
  have hres : ∀ n, resolvePages (chainFrom e0 cs₁).opts.pages n = resolvePages (chainFrom e0 cs₂).opts.pages n :=
    fun n => resolvePages_congr _ _ n fun p => by rw [p1, p2, List.mem_append, List.mem_append, hset]
  unfold termStatic termBodyF termBody
  simp only [e1, e2, f1, f2, g1, g2, hbad, hres]

/-- the frame answers with an error or with what the body answers -/
theorem termStatic_cases (w : World) (k : Term) (e : Ext) :
    termStatic w k e = .err ∨ termStatic w k e = termBodyF w k e := by
  unfold termStatic
  let P : Res → Prop := fun r => r = .err ∨ r = termBodyF w k e
  exact iteInduction (motive := P) (fun _ => Or.inl rfl) fun _ =>
    iteInduction (motive := P) (fun _ => Or.inl rfl) fun _ => iteInduction (motive := P) (fun _ => Or.inr rfl) fun _ => Or.inl rfl

/-- the selection rule answers with an error or with page indices -/
theorem termBody_not_whole (w : World) (k : Term) (o : Options) : termBody w k o ≠ .whole := by
  intro h
  unfold termBody at h
  cases hp : w.pageCount with
  | none => rw [hp] at h; cases h
  | some n =>
    rw [hp] at h
    dsimp only at h
    cases hr : resolvePages o.pages n with
    | error _ => rw [hr] at h; cases h
    | ok idx => rw [hr] at h; dsimp only at h; split at h <;> cases h

theorem termStatic_whole (w : World) (k : Term) (e : Ext) (h : termStatic w k e = .whole) :
    e.format ≠ .pdf := by
  intro hf
  rcases termStatic_cases w k e with h' | h' <;> rw [h'] at h
  · cases h
  · unfold termBodyF at h
    rw [if_pos hf] at h
    exact termBody_not_whole w k _ h

theorem termStatic_pages (w : World) (k : Term) (e : Ext) (idx : List Nat)
    (h : termStatic w k e = .pages idx) : e.format = .pdf := by
  rcases termStatic_cases w k e with h' | h' <;> rw [h'] at h
  · cases h
  · by_cases hf : e.format = .pdf
    · exact hf
    · unfold termBodyF at h
      rw [if_neg hf] at h
      cases hp : w.pageCount <;> rw [hp] at h <;> cases h

/-- in a family the frame fails only for want of a file that opens: whoever has no file name
has the reader it was given, and a file someone has open can be opened -/
theorem frameRes_fam {w : World} {s : Store} (hf : FamInv w s) {i : Nat} {e : Ext}
    (he : s.exts[i]? = some e) (body : Res) :
    frameRes w e body = if !e.hasFile || w.openOk then body else .err := by
  unfold frameRes
  cases hfl : e.hasFile with
  | false => rw [hf.noFile i e he hfl]; rfl
  | true =>
    cases ho : e.opened with
    | false => rfl
    | true => rw [hf.fileOpen i e he hfl ho]; rfl

theorem terminal_static (w : World) (k : Term) {s : Store} (h : StoreInv s) (hf : FamInv w s)
    {i : Nat} {e : Ext} (he : s.exts[i]? = some e) : (terminal w k s i).2 = termStatic w k e := by
  rw [terminal_res w k h he]
  simp only [recRes, termStatic, frameRes_fam hf he]

theorem lineage_cons (L : List (List BCall)) (op : Op) (ops : List Op) :
    lineage L (op :: ops) = lineage (lineage L [op]) ops := by
  cases op <;> rfl

/-- every extractor's configuration is that of the chain of calls that built it -/
def LinInv (e0 : Ext) (L : List (List BCall)) (s : Store) : Prop :=
  L.length = s.exts.length ∧
  ∀ (i : Nat) (cs : List BCall) (e : Ext), L[i]? = some cs → s.exts[i]? = some e →
    e.static = (chainFrom e0 cs).static

theorem lin_get {e0 : Ext} {L : List (List BCall)} {s : Store} (h : LinInv e0 L s) (i : Nat) :
    (s.exts[i]? = none ∧ L[i]? = none) ∨
    ∃ e cs, s.exts[i]? = some e ∧ L[i]? = some cs ∧ e.static = (chainFrom e0 cs).static := by
  by_cases hi : i < s.exts.length
  · have he := List.getElem?_eq_getElem hi
    have hL := List.getElem?_eq_getElem (h.1 ▸ hi : i < L.length)
    exact .inr ⟨_, _, he, hL, h.2 i _ _ hL he⟩
  · exact .inl ⟨List.getElem?_eq_none_iff.mpr (Nat.le_of_not_lt hi),
      List.getElem?_eq_none_iff.mpr (h.1 ▸ Nat.le_of_not_lt hi)⟩

theorem lin_of_static {e0 : Ext} {L : List (List BCall)} {s t : Store} (hl : LinInv e0 L s)
    (h : t.exts.map Ext.static = s.exts.map Ext.static) : LinInv e0 L t := by
  constructor
  · have := congrArg List.length h
    simp only [List.length_map] at this
    rw [hl.1, this]
  · intro i cs e' hcs he'
    obtain ⟨e, he, hst⟩ := static_of_map h he'
    rw [hst]
    exact hl.2 i cs e hcs he

/-- a configuration method extends the lineage by the chain of the new extractor -/
theorem lin_append {e0 : Ext} {L : List (List BCall)} {s : Store} (h : LinInv e0 L s) {i : Nat}
    {e : Ext} {cs : List BCall} (he : s.exts[i]? = some e) (hL : L[i]? = some cs) (c : BCall) :
    LinInv e0 (L ++ [cs ++ [c]]) { s with exts := s.exts ++ [e.derive c] } := by
  refine ⟨by simp [h.1], fun j cs' e' hcs' he' => ?_⟩
  rcases getElem?_concat _ _ _ _ he' with he' | ⟨rfl, rfl⟩
  · rw [List.getElem?_append_left (h.1 ▸ lt_of_getElem? he')] at hcs'
    exact h.2 j cs' e' hcs' he'
  · rw [← h.1, List.getElem?_concat_length] at hcs'
    cases hcs'
    rw [chainFrom_snoc]
    exact derive_static_congr _ _ c (h.2 i cs e hL he)

theorem lin_exec (w : World) (e0 : Ext) (ops : List Op) :
    ∀ {L : List (List BCall)} {s : Store}, LinInv e0 L s → LinInv e0 (lineage L ops) (exec w s ops) := by
  induction ops with
  | nil => intro L s h; exact h
  | cons op ops ih =>
    intro L s h
    cases op with
    | derive i c =>
      simp only [lineage, exec, step, deriveOp]
      apply ih
      rcases lin_get h i with ⟨he, hL⟩ | ⟨e, cs, he, hL, _⟩
      · simp only [he, hL]; exact h
      · simp only [he, hL]; exact lin_append h he hL c
    | _ =>
      simp only [lineage, exec]
      exact ih (lin_of_static h (step_static w s _ rfl))

/-- in a reachable state of a family, the answer to any operation is the one predicted from
the chain of calls behind its receiver: the answer is `recRes` of the receiver's record
(`step_res`), the frame is static in a family (`frameRes_fam`), and the record has the
configuration of its chain -/
theorem step_answer (w : World) (e0 : Ext) {L : List (List BCall)} {s : Store}
    (hs : StoreInv s) (hf : FamInv w s) (hl : LinInv e0 L s) (op : Op) :
    (step w s op).2 = staticAnswer w e0 L op := by
  rw [step_res w hs]
  rcases lin_get hl op.target with ⟨he, hL⟩ | ⟨e, cs, he, hL, hst⟩ <;> rw [he]
  · cases op <;> simp only [Op.target] at hL <;> simp only [recRes, staticAnswer, hL] <;> rfl
  · cases op <;> simp only [Op.target] at hL he <;> simp only [recRes, staticAnswer, hL]
    · rfl
    · rw [← termStatic_congr w _ _ _ hst]; simp only [termStatic, frameRes_fam hf he]
    · rw [← nonTermStatic_congr w _ _ _ hst]; simp only [nonTermStatic, frameRes_fam hf he]
    · rfl

/-- in a reachable state of a family the terminal and non-terminal operations on the extractor
built by the chain `cs` answer with `termStatic` / `nonTermStatic` of that chain -/
theorem answers_of_lin (w : World) (e0 : Ext) {L : List (List BCall)} {s : Store}
    (hs : StoreInv s) (hf : FamInv w s) (hl : LinInv e0 L s) {i : Nat} {cs : List BCall}
    (hL : L[i]? = some cs) :
    (∀ k : Term, (terminal w k s i).2 = termStatic w k (chainFrom e0 cs)) ∧
    (∀ k : NonTerm, (nonTerminal w k s i).2 = nonTermStatic w k (chainFrom e0 cs)) := by
  constructor <;> intro k
  · have := step_answer w e0 hs hf hl (.term i k)
    simpa [step, staticAnswer, hL] using this
  · have := step_answer w e0 hs hf hl (.nonTerm i k)
    simpa [step, staticAnswer, hL] using this

theorem lin_base (e0 : Ext) (r : List Bool) : LinInv e0 [[]] { readers := r, exts := [e0] } := by
  refine ⟨rfl, ?_⟩
  intro i cs e hcs he
  obtain ⟨rfl, rfl⟩ := getElem?_singleton hcs
  obtain ⟨_, rfl⟩ := getElem?_singleton he
  rfl

end Tabula.Builder
