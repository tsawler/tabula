import TabulaModel.Lemmas.GSim
/-!
Spelling forms out: `Do` of a form with `/Matrix N` and content `body` becomes
`q N cm body Q` (ISO 32000-1 8.10.1), recursively, so that a program with forms nested to
any depth becomes a `Do`-free program.  For programs whose form contents are balanced in
q/Q the extractor model runs both to the same state and the same fragments.
-/
namespace Tabula.GState
open Tabula Tabula.XDoc

variable {α : Type}

/-- the `cm` of a form's `/Matrix` -/
def cmOf : Option (Matrix α) → List (Op α)
  | some N => [Op.cm N]
  | none => []

/-- forms spelled out, `d` = the nesting depth at which the program runs; a `Do` at the
nesting limit is dropped, as the extractor drops it -/
def spellOut : Nat → List (Op α) → List (Op α)
  | _, [] => []
  | d, .form m body :: rest =>
    if d ≥ maxXObjectDepth then spellOut d rest
    else Op.q :: (cmOf m ++ spellOut (d + 1) body ++ [Op.Q]) ++ spellOut d rest
  | d, op :: rest => op :: spellOut d rest

theorem spellOut_cons_plain (d : Nat) (op : Op α) (rest : List (Op α)) (h : ∀ m b, op ≠ Op.form m b) :
    spellOut d (op :: rest) = op :: spellOut d rest := by
  rw [spellOut]
  exact h

theorem spellOut_append (d : Nat) (a b : List (Op α)) : spellOut d (a ++ b) = spellOut d a ++ spellOut d b := by
  fun_induction spellOut d a with
  | case1 d => rfl
  | case2 d m body rest hlim ih => rw [List.cons_append, spellOut, if_pos hlim, ih]
  | case3 d m body rest hlim _ ih =>
    rw [List.cons_append, spellOut, if_neg hlim, ih]
    exact (List.append_assoc _ _ _).symm
  | case4 d op rest hf ih => rw [List.cons_append, spellOut_cons_plain d op _ hf, ih, List.cons_append]

theorem cmOf_formFree (m : Option (Matrix α)) : FormFree (cmOf m) := by
  cases m <;> simp [cmOf, FormFree]

/-- spelling out leaves no `Do`, whatever the program -/
theorem spellOut_formFree (d : Nat) (ops : List (Op α)) : FormFree (spellOut d ops) := by
  fun_induction spellOut d ops with
  | case1 => exact FormFree.nil
  | case2 d m body rest hd ih => exact ih
  | case3 d m body rest hd ihb ihr =>
    exact FormFree.append (FormFree.cons nofun
      (FormFree.append (FormFree.append (cmOf_formFree m) ihb) (FormFree.cons nofun FormFree.nil))) ihr
  | case4 d op rest hf ih => exact FormFree.cons hf ih

/-- the content of every form the program invokes is balanced in q/Q (ISO 32000-1 8.10.1);
`Balanced` reaches through nested forms, the program itself need not be balanced -/
def FormsBalanced (ops : List (Op α)) : Prop := ∀ m body, Op.form m body ∈ ops → Balanced body

theorem FormsBalanced.tail {op : Op α} {l : List (Op α)} (h : FormsBalanced (op :: l)) : FormsBalanced l :=
  fun m b hm => h m b (List.mem_cons_of_mem _ hm)

theorem FormsBalanced.cons {op : Op α} {l : List (Op α)} (hop : ∀ m b, op = Op.form m b → Balanced b)
    (hl : FormsBalanced l) : FormsBalanced (op :: l) :=
  fun m b hm => (List.mem_cons.mp hm).elim (fun e => hop m b e.symm) (hl m b)

theorem FormsBalanced.append {a b : List (Op α)} (ha : FormsBalanced a) (hb : FormsBalanced b) :
    FormsBalanced (a ++ b) :=
  fun m body hm => (List.mem_append.mp hm).elim (ha m body) (hb m body)

theorem Balanced.formsBalanced {ops : List (Op α)} (hb : Balanced ops) : FormsBalanced ops := by
  induction hb with
  | nil => nofun
  | plain op rest hp _ ih => exact ih.cons fun m b e => by subst e; cases hp
  | qQ body rest _ _ ihb ihr => exact (ihb.append (ihr.cons fun _ _ e => by cases e)).cons fun _ _ e => by cases e
  | form m' body rest hbody _ _ ihr => exact ihr.cons fun m b e => by cases e; exact hbody

section
variable [Lean.Grind.CommRing α] [DecidableEq α] [LT α] [DecidableLT α]

omit [DecidableEq α] [LT α] [DecidableLT α] in
/-- the nesting depth plays no part in an operator that is not `Do` -/
theorem depth_aside (k : Nat) : Aside fun t : State α => { t with xdepth := k } where
  cur _ := rfl
  mapText _ _ := rfl
  save _ := rfl
  restore := by
    intro s s' h
    obtain ⟨c, st, d⟩ := s
    cases st <;> cases h
    rfl
  transform _ _ := rfl

/-- the state after `q` and the `cm` of `/Matrix` -/
def afterQcm (m : Option (Matrix α)) (s : State α) : State α :=
  match m with
  | some N => s.save.transform N
  | none => s.save

theorem exec_cmOf (adv : Adv α) (m : Option (Matrix α)) (s : State α) :
    exec adv (cmOf m) s.save = some (afterQcm m s, []) := by
  cases m <;> simp [cmOf, exec, step, stepBasic, afterQcm]

omit [DecidableEq α] [LT α] [DecidableLT α] in
/-- `formEnter` is `q`, `cm`, one level deeper -/
theorem formEnter_eq (m : Option (Matrix α)) (s : State α) :
    formEnter m s = { afterQcm m s with xdepth := s.xdepth + 1 } := by
  cases m <;> rfl

omit [DecidableEq α] [LT α] [DecidableLT α] in
theorem afterQcm_eq (m : Option (Matrix α)) (s : State α) :
    afterQcm m s = { formEnter m s with xdepth := s.xdepth } := by
  cases m <;> rfl

/-- **forms spelled out, whole programs**: a program whose forms have balanced content
(itself balanced or not, failing or not) and the `Do`-free program obtained by spelling
every form out as `q N cm … Q`, to any nesting depth, run to the same result -/
theorem exec_inline (adv : Adv α) (ops : List (Op α)) (h : FormsBalanced ops) :
    ∀ s : State α, exec adv ops s = exec adv (spellOut s.xdepth ops) s := by
  intro s
  generalize hd : s.xdepth = d
  fun_induction spellOut d ops generalizing s with
  | case1 d => rfl
  | case2 d m body rest hlim ih =>
    -- a `Do` at the nesting limit does nothing and is dropped from the spelled-out program
    subst hd
    have hst : step adv (.form m body) s = (s, [], false) := by simp only [step, if_pos hlim]
    rw [exec_cons, hst, ← ih h.tail s rfl]
    cases exec adv rest s <;> rfl
  | case3 d m body rest hlim ihb ihr =>
    subst hd
    have hbb : Balanced body := h m body List.mem_cons_self
    obtain ⟨s1, o1, h1, h2, h3, _⟩ := balanced_exec adv hbb (formEnter m s)
    have hst : step adv (.form m body) s = (s, o1, false) := by
      rw [step_form_of_balanced adv m hbb s, if_neg hlim, h2]
    -- the spelled-out form: q, the cm of /Matrix, the content one level up, Q
    rw [formEnter_stack] at h3
    have hbody : exec adv (spellOut (s.xdepth + 1) body) (afterQcm m s) =
        some ({ s1 with xdepth := s.xdepth }, o1) := by
      -- the spelled-out content is `Do`-free, so it runs the same at the page's nesting depth
      rw [afterQcm_eq]
      exact (depth_aside s.xdepth).exec adv (spellOut_formFree _ body)
        ((ihb hbb.formsBalanced (formEnter m s) (formEnter_xdepth m s)).symm.trans h1)
    have e : exec adv (Op.q :: (cmOf m ++ spellOut (s.xdepth + 1) body ++ [Op.Q])) s = some (s, o1) :=
      exec_qQ (exec_append_some (exec_cmOf adv m s) hbody) h3 rfl
    rw [exec_append, e]
    simp only
    rw [← ihr h.tail s rfl, exec_cons, hst]
    cases exec adv rest s <;> simp
  | case4 d op rest hf ih =>
    -- any other operator stays, and does not change the nesting depth
    subst hd
    rw [exec_cons, exec_cons, step_of_not_form adv hf, ih h.tail _ (stepBasic_xdepth adv op s)]

end
end Tabula.GState
