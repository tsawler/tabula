import TabulaModel.Lemmas.HtmlGrid
import TabulaModel.Lemmas.ListBasics
import TabulaModel.Model.HtmlSpec
/-!
Helper lemmas for C19 (Props/C19Text.lean): text up to white space (`squeeze`), and
`getTextContent` / `getDirectTextContent` / `parseTable` against the text nodes of the tree.
-/
namespace Tabula.Html

theorem squeeze_nil : squeeze [] = [] := rfl

theorem squeeze_append (a b : Str) : squeeze (a ++ b) = squeeze a ++ squeeze b := by
  simp [squeeze]

theorem squeeze_flatMap {α} (f : α → Str) (l : List α) :
    squeeze (l.flatMap f) = l.flatMap fun x => squeeze (f x) :=
  List.filter_flatMap

theorem squeeze_nil_iff (s : Str) : squeeze s = [] ↔ ∀ c ∈ s, isSpace c = true := by
  unfold squeeze
  rw [List.filter_eq_nil_iff]
  constructor
  · intro h c hc; simpa using h c hc
  · intro h c hc; simpa using h c hc

theorem squeeze_dropWhile (s : Str) : squeeze (s.dropWhile isSpace) = squeeze s := by
  have h : squeeze (s.takeWhile isSpace) = [] := (squeeze_nil_iff _).mpr fun _ hc => List.mem_takeWhile_imp hc
  conv => rhs; rw [← List.takeWhile_append_dropWhile (p := isSpace) (l := s), squeeze_append, h]
  rfl

theorem squeeze_reverse (s : Str) : squeeze s.reverse = (squeeze s).reverse := by
  simp [squeeze]

theorem squeeze_trimLeft (s : Str) : squeeze (trimLeft s) = squeeze s := squeeze_dropWhile s

theorem squeeze_trimRight (s : Str) : squeeze (trimRight s) = squeeze s := by
  unfold trimRight
  rw [squeeze_reverse, squeeze_dropWhile, squeeze_reverse, List.reverse_reverse]

/-- trimming removes white space only -/
theorem squeeze_trim (s : Str) : squeeze (trim s) = squeeze s := by
  unfold trim; rw [squeeze_trimRight, squeeze_trimLeft]

/-- a string trims to nothing exactly when it is white space only -/
theorem trim_eq_nil_iff (s : Str) : trim s = [] ↔ squeeze s = [] := by
  constructor
  · intro h; rw [← squeeze_trim, h]; rfl
  · intro h
    unfold trim trimLeft
    rw [List.dropWhile_eq_nil ((squeeze_nil_iff s).mp h)]; rfl

theorem squeeze_idem (s : Str) : squeeze (squeeze s) = squeeze s := by
  simp [squeeze]

theorem squeeze_sublist {a b : Str} (h : a.Sublist b) : (squeeze a).Sublist (squeeze b) :=
  List.Sublist.filter _ h

/-- `if t ≠ "" then [t] else []`, seen through squeeze, is just `t` -/
theorem squeeze_opt (t : Str) : squeeze (if (t != []) = true then t else []) = squeeze t := by
  by_cases h : t = []
  · simp [h]
  · simp [h]

/-! ### getTextContent is the text nodes, once, in document order -/

mutual
theorem textRec_pieces : ∀ t : Dom, textRec t = (pieces t).flatMap Piece.render
  | .text s => by simp [textRec, pieces, Piece.render]
  | .other kids => by simp only [textRec, pieces]; exact textRecL_pieces kids
  | .elem tag attrs kids => by
      unfold textRec pieces
      by_cases hs : isSkip tag = true
      · simp [hs]
      · simp only [hs, if_false, Bool.false_eq_true, List.flatMap_append, textRecL_pieces kids]
        congr 1
        · congr 1
          split <;> simp [Piece.render]
        · split <;> simp [Piece.render]
theorem textRecL_pieces : ∀ ts : List Dom, textRecL ts = (piecesL ts).flatMap Piece.render
  | [] => by simp [textRecL, piecesL]
  | k :: ks => by
      simp only [textRecL, piecesL, List.flatMap_append, textRec_pieces k, textRecL_pieces ks]
end

mutual
theorem pieces_texts : ∀ t : Dom, (pieces t).filterMap Piece.text? = tn t
  | .text s => by simp [pieces, tn, Piece.text?]
  | .other kids => by simp only [pieces, tn]; exact piecesL_texts kids
  | .elem tag attrs kids => by
      unfold pieces tn
      by_cases hs : isSkip tag = true
      · simp [hs]
      · simp only [hs, if_false, Bool.false_eq_true, List.filterMap_append, piecesL_texts kids]
        have h1 : List.filterMap Piece.text? (if tag = T.br then [Piece.nl] else []) = [] := by
          split <;> simp [Piece.text?]
        have h2 : List.filterMap Piece.text? (if spaceAfter tag = true then [Piece.sp] else []) = [] := by
          split <;> simp [Piece.text?]
        rw [h1, h2]; simp
theorem piecesL_texts : ∀ ts : List Dom, (piecesL ts).filterMap Piece.text? = tnL ts
  | [] => by simp [piecesL, tnL]
  | k :: ks => by
      simp only [piecesL, tnL, List.filterMap_append, pieces_texts k, piecesL_texts ks]
end

mutual
theorem tnFlat_eq : ∀ t : Dom, tnFlat t = (tn t).flatten
  | .text s => by simp [tnFlat, tn]
  | .other kids => by simp only [tnFlat, tn]; exact tnFlatL_eq kids
  | .elem tag attrs kids => by
      unfold tnFlat tn
      by_cases hs : isSkip tag = true
      · simp [hs]
      · simp only [hs, if_false, Bool.false_eq_true]; exact tnFlatL_eq kids
theorem tnFlatL_eq : ∀ ts : List Dom, tnFlatL ts = (tnL ts).flatten
  | [] => by simp [tnFlatL, tnL]
  | k :: ks => by simp only [tnFlatL, tnL, List.flatten_append, tnFlat_eq k, tnFlatL_eq ks]
end

theorem tnFlatL_eq_flatMap : ∀ ks : List Dom, tnFlatL ks = ks.flatMap tnFlat
  | [] => rfl
  | k :: ks => by rw [tnFlatL, tnFlatL_eq_flatMap ks, List.flatMap_cons]

/-- what `getTextContentRecursive` writes besides the text nodes is white space -/
theorem squeeze_render_pieces : ∀ ps : List Piece,
    squeeze (ps.flatMap Piece.render) = squeeze (ps.filterMap Piece.text?).flatten
  | [] => rfl
  | pc :: ps => by
      rw [List.flatMap_cons, squeeze_append, squeeze_render_pieces ps]
      cases pc with
      | text s => exact (squeeze_append s _).symm
      | nl => rfl
      | sp => rfl

theorem squeeze_textRec : ∀ t : Dom, squeeze (textRec t) = squeeze (tnFlat t) := fun t => by
  rw [textRec_pieces, squeeze_render_pieces, pieces_texts, tnFlat_eq]

theorem squeeze_textRecL : ∀ ts : List Dom, squeeze (textRecL ts) = squeeze (tnFlatL ts) := fun ts => by
  rw [textRecL_pieces, squeeze_render_pieces, piecesL_texts, tnFlatL_eq]

/-- up to white space `getTextContent` is the concatenation of the text nodes -/
theorem squeeze_getTextContent (t : Dom) : squeeze (getTextContent t) = squeeze (tnFlat t) := by
  unfold getTextContent; rw [squeeze_trim, squeeze_textRec]

theorem tnFlat_elem (tag : Str) (attrs : List (Str × Str)) (kids : List Dom) (h : isSkip tag = false) :
    tnFlat (.elem tag attrs kids) = tnFlatL kids := by
  unfold tnFlat; simp [h]

theorem squeeze_directPiece (k : Dom) : squeeze (directPiece k) = squeeze (directSrc k) := by
  cases k with
  | text s => rfl
  | other ks => rfl
  | elem tag attrs kids =>
    simp only [directPiece, directSrc]
    by_cases h1 : tag = T.ul ∨ tag = T.ol
    · rw [if_pos h1, if_pos h1]
    · rw [if_neg h1, if_neg h1, ← squeeze_getTextContent]
      split
      · -- a block-level child: its text between two spaces, unless it is empty
        split
        · rename_i ht; rw [ht]
        · rw [squeeze_append, squeeze_append, show squeeze [32] = [] from rfl, List.nil_append, List.append_nil]
      · rfl

theorem squeeze_flatMap_directPiece (kids : List Dom) :
    squeeze (kids.flatMap directPiece) = squeeze (kids.flatMap directSrc) := by
  simp only [squeeze_flatMap, squeeze_directPiece]

/-- up to white space the text of a list item is its text nodes outside the nested lists -/
theorem squeeze_getDirectTextContent (kids : List Dom) :
    squeeze (getDirectTextContent kids) = squeeze (kids.flatMap directSrc) := by
  unfold getDirectTextContent; rw [squeeze_trim, squeeze_flatMap_directPiece]

theorem applySpans_text : ∀ (attrs : List (Str × Str)) (c : Cell),
    (applySpans attrs c).text = c.text ∧ (applySpans attrs c).isHeader = c.isHeader
  | [], c => ⟨rfl, rfl⟩
  | (k, v) :: rest, c => by
      unfold applySpans
      simp only []
      have ih := applySpans_text rest
      split
      · split
        · rw [(ih _).1, (ih _).2]; exact ⟨rfl, rfl⟩
        · exact ih c
      · split
        · split
          · rw [(ih _).1, (ih _).2]; exact ⟨rfl, rfl⟩
          · exact ih c
        · exact ih c

/-- the text a cell node is given -/
def cellText (c : Dom) : Str := trim (getTextContent c)

theorem isCellElem_elem (tag : Str) (attrs : List (Str × Str)) (kk : List Dom) :
    isCellElem (.elem tag attrs kk) = decide (tag = T.td ∨ tag = T.th) := by
  rw [Bool.eq_iff_iff]; simp [isCellElem]

theorem parseTableRow_texts (isHeader : Bool) (kids : List Dom) :
    (parseTableRow isHeader kids).map (·.text) = (rowCellNodes kids).map cellText := by
  refine List.map_filterMap_eq_map_filter (fun k => ?_) kids
  cases k with
  | text s => rfl
  | other o => rfl
  | elem tag attrs kk =>
    rw [isCellElem_elem]
    by_cases h : tag = T.td ∨ tag = T.th
    · simp only [h, if_true, decide_true, Option.map_some]
      rw [(applySpans_text attrs _).1, cellText]
    · simp only [h, if_false, decide_false, Bool.false_eq_true, Option.map_none]

theorem parseTableRows_texts (isHeader : Bool) (kids : List Dom) :
    (parseTableRows isHeader kids).flatten.map (·.text) = (sectionCellNodes kids).map cellText := by
  unfold parseTableRows
  induction kids with
  | nil => rfl
  | cons k ks ih =>
    rw [List.filterMap_cons]
    cases k with
    | text s => exact ih
    | other o => exact ih
    | elem tag attrs kk =>
      simp only [sectionCellNodes]
      by_cases h : tag = T.tr
      · rw [if_pos h, if_pos h, List.flatten_cons, List.map_append, List.map_append, parseTableRow_texts, ih]
      · rw [if_neg h, if_neg h]; exact ih

theorem tableSections_texts (kids : List Dom) :
    (tableSections kids).1.flatten.map (·.text) = (tableCellNodes kids).map cellText := by
  induction kids with
  | nil => rfl
  | cons k ks ih =>
    cases k with
    | text s => simpa [tableSections, tableCellNodes] using ih
    | other o => simpa [tableSections, tableCellNodes] using ih
    | elem tag attrs kk =>
      simp only [tableSections, tableCellNodes]
      by_cases h1 : tag = T.thead
      · simp only [h1, if_true, true_or, List.flatten_append, List.map_append]
        rw [parseTableRows_texts, ih]
      · by_cases h2 : tag = T.tbody ∨ tag = T.tfoot
        · have h3 : tag = T.thead ∨ tag = T.tbody ∨ tag = T.tfoot := Or.inr h2
          simp only [h1, h2, if_true, if_false, false_or, List.flatten_append, List.map_append]
          rw [parseTableRows_texts, ih]
        · have h3 : ¬ (tag = T.thead ∨ tag = T.tbody ∨ tag = T.tfoot) := by
            rintro (h | h)
            · exact h1 h
            · exact h2 h
          simp only [h1, h2, if_false, false_or]
          by_cases h4 : tag = T.tr
          · simp only [h4, if_true, List.flatten_cons, List.map_append]
            rw [parseTableRow_texts, ih]
          · simp only [h4, if_false, List.nil_append]
            exact ih

theorem parseTable_rows (kids : List Dom) : (parseTable kids).1 = dropEmptyRows (tableSections kids).1 := by
  unfold parseTable
  cases tableSections kids with
  | mk rows hd => rfl

/-- every td/th of the table's rows is returned as one cell, in document order, with the text
`getTextContent` gives it; rows without cells contribute nothing -/
theorem parseTable_texts (kids : List Dom) :
    (parseTable kids).1.flatten.map (·.text) = (tableCellNodes kids).map cellText := by
  rw [parseTable_rows, dropEmptyRows, HtmlGrid.dropEmptyRows, HtmlGrid.dropEmptyRowsFrom_flatten]
  exact tableSections_texts kids

theorem squeeze_cellText (c : Dom) : squeeze (cellText c) = squeeze (tnFlat c) := by
  rw [cellText, squeeze_trim, squeeze_getTextContent]

theorem squeeze_cellTexts (cs : List Dom) :
    squeeze ((cs.map cellText).flatten) = squeeze (cs.flatMap tnFlat) := by
  simp only [← List.flatMap_def, squeeze_flatMap, squeeze_cellText]

end Tabula.Html
