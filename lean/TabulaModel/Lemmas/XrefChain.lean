import TabulaModel.Model.XrefFile
/-!
The `/Prev` chain on the bytes (`ParseAllXRefs`, `loadXRef`): the sections come out oldest
first, each once; `loadXRef` is their merge on every file; the fuel of the model's loop is never
used up. At the end `reader.Open` and a lookup on the opened file, as functions of `loadXRef`.
-/
namespace Tabula.XrefFile

/-- the table read as a map is core's `lookup` on the assignments newest first -/
theorem getLastI_eq_lookup {α : Type} (l : List (Int × α)) (n : Int) : getLastI l n = l.reverse.lookup n := by
  induction l with
  | nil => rfl
  | cons kv l ih =>
    obtain ⟨k, v⟩ := kv
    rw [getLastI, ih, List.reverse_cons, List.lookup_append, List.lookup_cons, List.lookup_nil]
    cases l.reverse.lookup n with
    | some w => rfl
    | none =>
      by_cases h : k = n
      · rw [if_pos h, h, beq_self_eq_true]; rfl
      · rw [if_neg h, beq_false_of_ne fun e => h e.symm]; rfl

theorem getLastI_append {α : Type} (a b : List (Int × α)) (n : Int) :
    getLastI (a ++ b) n = (getLastI b n).or (getLastI a n) := by
  simp only [getLastI_eq_lookup, List.reverse_append, List.lookup_append]

/-- the newest (last) section of an oldest-first list that mentions `n` decides -/
def newestI : List RawSection → Int → Option RawEntry
  | [], _ => none
  | t :: ts, n => (newestI ts n).or (getLastI t n)

theorem getLastI_flatten (ts : List RawSection) (n : Int) : getLastI ts.flatten n = newestI ts n := by
  induction ts with
  | nil => rfl
  | cons t ts ih => simp [List.flatten_cons, getLastI_append, newestI, ih]

theorem prevOf_of_none {kv : Reader.Dict} (h : Reader.dget kv kPrev = none) : prevOf kv = .absent := by
  rw [prevOf, h]

theorem prevOf_of_int {kv : Reader.Dict} {p : Int} (h : Reader.dget kv kPrev = some (.int p)) :
    prevOf kv = .at p := by
  rw [prevOf, h]

/-- a section can only be read at an offset inside the file -/
theorem parseXRef_ok_range (ext : Reader.Ext) (file : Str) (off : Int) (r : RawSection × Reader.Dict)
    (h : parseXRef ext file off = .ok r) : 0 ≤ off ∧ off < file.length := by
  rw [parseXRef] at h
  by_cases hneg : off < 0
  · rw [if_pos hneg] at h; cases h
  · rw [if_neg hneg] at h
    refine ⟨Int.not_lt.1 hneg, Int.not_le.1 fun hge => ?_⟩
    -- behind the end of the file the scanner finds no line
    rw [List.drop_eq_nil_of_le (by omega)] at h
    cases h

theorem length_le_of_range (l : List Int) (L : Nat) (hnd : l.Nodup) (hr : ∀ x ∈ l, 0 ≤ x ∧ x < L) :
    l.length ≤ L := by
  have hsub : l ⊆ (List.range L).map Int.ofNat := by
    intro x hx
    obtain ⟨h0, h1⟩ := hr x hx
    simp only [List.mem_map, List.mem_range]
    exact ⟨x.toNat, by omega, by simp; omega⟩
  have := List.Nodup.length_le_of_subset hnd hsub
  simpa using this

/-- `path` is the `/Prev` chain of sections that starts at offset `off` and ends at a section
whose trailer has no `/Prev` -/
inductive ChainB (ext : Reader.Ext) (file : Str) : Int → List (Int × RawSection) → Prop
  | last (off : Int) (sec : RawSection) (tr : Reader.Dict) :
      parseXRef ext file off = .ok (sec, tr) → prevOf tr = .absent → ChainB ext file off [(off, sec)]
  | step (off : Int) (sec : RawSection) (tr : Reader.Dict) (p : Int) (rest : List (Int × RawSection)) :
      parseXRef ext file off = .ok (sec, tr) → prevOf tr = .at p → ChainB ext file p rest →
      ChainB ext file off ((off, sec) :: rest)

theorem ChainB.range {ext : Reader.Ext} {file : Str} {off : Int} {path : List (Int × RawSection)}
    (h : ChainB ext file off path) : ∀ x ∈ path.map Prod.fst, 0 ≤ x ∧ x < file.length := by
  induction h with
  | last off sec tr hp _ =>
    intro x hx; simp at hx; subst hx; exact parseXRef_ok_range ext file _ _ hp
  | step off sec tr p rest hp _ _ ih =>
    intro x hx
    simp only [List.map_cons, List.mem_cons] at hx
    rcases hx with rfl | hx
    · exact parseXRef_ok_range ext file _ _ hp
    · exact ih x hx

theorem ChainB.ne_nil {ext : Reader.Ext} {file : Str} {off : Int} {path : List (Int × RawSection)}
    (h : ChainB ext file off path) : path ≠ [] := by
  cases h <;> simp

/-- the chain from an offset is determined by the file: `ParseXRef` is a function -/
theorem ChainB.unique {ext : Reader.Ext} {file : Str} {off : Int} {p p' : List (Int × RawSection)}
    (h : ChainB ext file off p) (h' : ChainB ext file off p') : p = p' := by
  induction h generalizing p' with
  | last off sec tr hp habs =>
    cases h' with
    | last _ sec' tr' hp' _ => rw [hp] at hp'; cases hp'; rfl
    | step _ sec' tr' q rest hp' hprev _ => rw [hp] at hp'; cases hp'; rw [habs] at hprev; cases hprev
  | step off sec tr q rest hp hprev _ ih =>
    cases h' with
    | last _ sec' tr' hp' habs => rw [hp] at hp'; cases hp'; rw [habs] at hprev; cases hprev
    | step _ sec' tr' q' rest' hp' hprev' hrest' =>
      rw [hp] at hp'; cases hp'; rw [hprev] at hprev'; cases hprev'; rw [ih hrest']

theorem ChainB.from_mem {ext : Reader.Ext} {file : Str} {off : Int} {p : List (Int × RawSection)}
    (h : ChainB ext file off p) : ∀ a ∈ p.map Prod.fst, ∃ s, ChainB ext file a s ∧ s.length ≤ p.length := by
  induction h with
  | last off sec tr hp habs =>
    intro a ha
    rw [List.map_singleton, List.mem_singleton] at ha
    exact ha ▸ ⟨_, .last off sec tr hp habs, Nat.le_refl _⟩
  | step off sec tr q rest hp hprev hrest ih =>
    intro a ha
    rcases List.mem_cons.1 ha with rfl | ha
    · exact ⟨_, .step _ sec tr q rest hp hprev hrest, Nat.le_refl _⟩
    · obtain ⟨s, hs, hl⟩ := ih a ha
      exact ⟨s, hs, Nat.le_succ_of_le hl⟩

/-- **a chain never comes back to an offset**: it would go round for ever, and it ends -/
theorem ChainB.nodup {ext : Reader.Ext} {file : Str} {off : Int} {p : List (Int × RawSection)}
    (h : ChainB ext file off p) : (p.map Prod.fst).Nodup := by
  induction h with
  | last off sec tr _ _ => exact List.nodup_cons.2 ⟨List.not_mem_nil, List.nodup_nil⟩
  | step off sec tr q rest hp hprev hrest ih =>
    refine List.nodup_cons.2 ⟨fun hm => ?_, ih⟩
    obtain ⟨s, hs, hl⟩ := hrest.from_mem _ hm
    rw [hs.unique (.step _ sec tr q rest hp hprev hrest)] at hl
    exact Nat.not_succ_le_self _ hl
/-- one round of `ParseAllXRefs`: `/Prev` points at an offset not yet read, where a section is -/
theorem allXRefsLoop_at (ext : Reader.Ext) (file : Str) (fuel : Nat) (visited : List Int)
    (tr0 tr : Reader.Dict) (acc : List RawSection) (off : Int) (sec : RawSection)
    (h0 : prevOf tr0 = .at off) (hv : off ∉ visited) (hp : parseXRef ext file off = .ok (sec, tr)) :
    allXRefsLoop ext file (fuel + 1) visited tr0 acc =
      allXRefsLoop ext file fuel (off :: visited) tr (sec :: acc) := by
  have hc : ¬ visited.contains off = true := fun h => hv (List.contains_iff_mem.1 h)
  rw [allXRefsLoop, h0]
  simp only [if_neg hc, hp]

/-- what comes after a section whose trailer is `tr`: nothing when it has no `/Prev`, else the
chain from the offset `/Prev` names -/
def After (ext : Reader.Ext) (file : Str) (tr : Reader.Dict) (rest : List (Int × RawSection)) : Prop :=
  (prevOf tr = .absent ∧ rest = []) ∨ ∃ p, prevOf tr = .at p ∧ ChainB ext file p rest

/-- a chain is a section at its first offset and what comes after that section's trailer -/
theorem ChainB.head {ext : Reader.Ext} {file : Str} {off : Int} {path : List (Int × RawSection)}
    (h : ChainB ext file off path) :
    ∃ sec tr rest, path = (off, sec) :: rest ∧ parseXRef ext file off = .ok (sec, tr) ∧
      After ext file tr rest := by
  cases h with
  | last off sec tr hp habs => exact ⟨sec, tr, [], rfl, hp, .inl ⟨habs, rfl⟩⟩
  | step off sec tr p rest hp hprev hrest => exact ⟨sec, tr, rest, rfl, hp, .inr ⟨p, hprev, hrest⟩⟩

/-- the loop of `ParseAllXRefs` from a trailer on: the sections that come after it, oldest first,
in front of those read before -/
theorem allXRefsLoop_after (ext : Reader.Ext) (file : Str) (rest : List (Int × RawSection)) :
    ∀ (fuel : Nat) (visited : List Int) (tr0 : Reader.Dict) (acc : List RawSection),
      After ext file tr0 rest → rest.length < fuel → (∀ x ∈ rest.map Prod.fst, x ∉ visited) →
      allXRefsLoop ext file fuel visited tr0 acc = .ok ((rest.map Prod.snd).reverse ++ acc) := by
  induction rest with
  | nil =>
    intro fuel visited tr0 acc h hf _
    obtain ⟨f, rfl⟩ := Nat.exists_eq_succ_of_ne_zero (Nat.ne_zero_of_lt hf)
    rcases h with ⟨habs, _⟩ | ⟨p, _, hc⟩
    · rw [allXRefsLoop, habs]; rfl
    · exact absurd rfl hc.ne_nil
  | cons a rest ih =>
    intro fuel visited tr0 acc h hf hv
    obtain ⟨f, rfl⟩ := Nat.exists_eq_succ_of_ne_zero (Nat.ne_zero_of_lt hf)
    rcases h with ⟨_, h⟩ | ⟨p, h0, hc⟩
    · cases h
    · have hnd := hc.nodup
      obtain ⟨sec, tr, rest', he, hp, hafter⟩ := hc.head
      cases he
      rw [List.map_cons, List.nodup_cons] at hnd
      rw [allXRefsLoop_at ext file _ visited tr0 tr acc p sec h0 (hv p (List.mem_cons_self ..)) hp,
        ih f (p :: visited) tr (sec :: acc) hafter (Nat.lt_of_succ_lt_succ hf)
          (fun x hx hm => (List.mem_cons.1 hm).elim (fun e => hnd.1 (e ▸ hx))
            (hv x (List.mem_cons_of_mem _ hx))),
        List.map_cons, List.reverse_cons, List.append_assoc]
      rfl

/-- `ParseAllXRefs` behind `FindXRef` and the first section -/
theorem allXRefs_of_first {ext : Reader.Ext} {file : Str} {start : Int} {sec : RawSection}
    {tr : Reader.Dict} (hf : findXRef file = .ok start) (hp : parseXRef ext file start = .ok (sec, tr)) :
    allXRefs ext file = allXRefsLoop ext file (file.length + 1) [start] tr [sec] := by
  unfold allXRefs
  simp only [hf, hp]

/-- **`loadXRef` merges what `ParseAllXRefs` yields**, on every file: its shortcut for a file with a
single section (no `/Prev` in the newest trailer) returns that section, which is the merge of the
one-element list `ParseAllXRefs` would return -/
theorem loadXRef_eq_flatten (ext : Reader.Ext) (file : Str) :
    loadXRef ext file = (allXRefs ext file).map List.flatten := by
  unfold loadXRef
  cases hf : findXRef file with
  | error e => unfold allXRefs; rw [hf]; rfl
  | ok start =>
    dsimp only
    cases hp : parseXRef ext file start with
    | error e => unfold allXRefs; rw [hf]; dsimp only; rw [hp]; rfl
    | ok r =>
      obtain ⟨sec, tr⟩ := r
      dsimp only
      cases hd : Reader.dget tr kPrev with
      | none =>
        rw [allXRefs_of_first hf hp, allXRefsLoop, prevOf_of_none hd]
        exact congrArg Except.ok (List.append_nil sec).symm
      | some o => cases allXRefs ext file <;> rfl

/-- `reader.Open` is the header check and `loadXRef` -/
theorem openFile_of_load {ext : Reader.Ext} {file : Str} {x : RawSection} (hh : headerOk file = true)
    (hl : loadXRef ext file = .ok x) : openFile ext file = .ok x := by
  rw [openFile, if_pos hh, hl]

/-- a lookup on a file that opens is `GetObject` on the table it was opened with -/
theorem lookup_of_open {ext : Reader.Ext} {file : Str} {x : RawSection} (h : openFile ext file = .ok x)
    (n : Int) : lookup ext file n = .ok (getObjectB ext file x (maxNestedLoads + 1) [] n) := by
  rw [lookup, h]

/-- the loop of `ParseAllXRefs` never needs more rounds than the file has bytes: with the
offsets read so far distinct and inside the file, any two fuel values above the number of
offsets still unread give the same result -/
theorem allXRefsLoop_fuel (ext : Reader.Ext) (file : Str) :
    ∀ (f1 f2 : Nat) (visited : List Int) (tr : Reader.Dict) (acc : List RawSection),
      visited.Nodup → (∀ x ∈ visited, 0 ≤ x ∧ x < file.length) →
      file.length - visited.length < f1 → file.length - visited.length < f2 →
      allXRefsLoop ext file f1 visited tr acc = allXRefsLoop ext file f2 visited tr acc := by
  intro f1
  induction f1 with
  | zero => intro f2 visited tr acc _ _ h1 _; exact absurd h1 (Nat.not_lt_zero _)
  | succ f1 ih =>
    intro f2 visited tr acc hnd hr h1 h2
    cases f2 with
    | zero => exact absurd h2 (Nat.not_lt_zero _)
    | succ f2 =>
      rw [allXRefsLoop, allXRefsLoop]
      cases hp : prevOf tr with
      | absent => rfl
      | bad => rfl
      | «at» p =>
        simp only
        cases hv : visited.contains p with
        | true => rfl
        | false =>
          simp only [Bool.false_eq_true, if_false]
          cases hx : parseXRef ext file p with
          | error e => rfl
          | ok r =>
            obtain ⟨sec, tr'⟩ := r
            simp only
            have hin := parseXRef_ok_range ext file p _ hx
            have hnot : p ∉ visited := fun hm =>
              absurd (List.contains_iff_mem.2 hm) (by rw [hv]; decide)
            have hnd' : (p :: visited).Nodup := List.nodup_cons.mpr ⟨hnot, hnd⟩
            have hr' : ∀ x ∈ p :: visited, 0 ≤ x ∧ x < file.length := by
              intro x hx'
              simp only [List.mem_cons] at hx'
              rcases hx' with rfl | hx'
              · exact hin
              · exact hr x hx'
            have hlen := length_le_of_range (p :: visited) file.length hnd' hr'
            rw [List.length_cons] at hlen
            -- one more offset read: one fewer left to read
            have hf : ∀ f, file.length - visited.length < f + 1 →
                file.length - (visited.length + 1) < f := fun f h =>
              Nat.lt_of_succ_lt_succ (by
                rw [Nat.sub_add_eq, Nat.succ_eq_add_one, Nat.sub_add_cancel (Nat.sub_pos_of_lt hlen)]
                exact h)
            exact ih f2 (p :: visited) tr' (sec :: acc) hnd' hr' (hf f1 h1) (hf f2 h2)

end Tabula.XrefFile
