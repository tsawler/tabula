import TabulaModel.Lemmas.PdfLexProgress
import TabulaModel.Model.LexPos
import TabulaModel.Lemmas.ParseRuns
/-!
Progress of the content-stream parser of contentstream/parser.go, for EVERY input (legal or not):
every successful operand read consumes at least one byte and leaves a suffix of what it was given,
the fuel of the mutual recursion and the bound of `Parse`'s loop are never the reason for a failure,
and an accepted stream has at most one operator or operand per byte.  Core Lean only.
-/
namespace Tabula.Pdf
namespace Prog

theorem lift_cons {c : Nat} {r x : Str} (hx : x <:+ r) :
    x <:+ (c :: r) ∧ x.length < (c :: r).length :=
  ⟨List.IsSuffix.trans hx (List.suffix_cons _ _), by
    have := hx.length_le; simp only [List.length_cons]; omega⟩

/-- entered on a sign, a digit or the point, `parseNumber` consumes the lexeme `readNumber` would cut
there, which is not empty -/
theorem cs_parseNumber_progress (c : Nat) (r : Str) (o : Obj) (r' : Str)
    (hc : c = 45 ∨ c = 43 ∨ c = 46 ∨ isDigit c = true) (h : CS.parseNumber (c :: r) = some (o, r')) :
    r' <:+ (c :: r) ∧ r'.length < (c :: r).length := by
  rw [cs_parseNumber_lexeme c r hc] at h
  generalize hp : numLoop false true (c :: r) = p at h
  obtain ⟨text, hd, rest⟩ := p
  obtain ⟨e, _, hne, _⟩ := Num.numLoop_lexeme c r hc text hd rest hp
  obtain rfl : r' = rest := by
    dsimp only at h
    split at h <;> split at h <;> cases h <;> rfl
  rw [e, List.length_append]
  exact ⟨List.suffix_append _ _, by have := List.length_pos_iff.mpr hne; omega⟩

/-- `parseHexString` stops behind the closing `>`, or at the end of the data -/
theorem cs_hexLoop_suffix (inp : Str) : ∀ v r, CS.hexLoop inp = some (v, r) → r <:+ inp := by
  intro v r h
  rw [Gram.cs_hexLoop_eq, Gram.pairsOf_some] at h
  obtain ⟨ds, h, _⟩ := h
  rcases (Gram.hexScan_iff inp ds r).mp h with ⟨body, rfl, _⟩ | ⟨rfl, _⟩
  · exact (List.suffix_cons 62 r).trans (List.suffix_append body _)
  · exact List.nil_suffix

theorem cs_nameLoop_hash_keep (r : Str)
    (h : ∀ h1 h2 r', r = h1 :: h2 :: r' → (isHexDigit h1 && isHexDigit h2) = false) :
    CS.nameLoop (35 :: r) = (35 :: (CS.nameLoop r).1, (CS.nameLoop r).2) := by
  rw [CS.nameLoop.eq_def]
  have hw : isWs 35 = false := by decide
  have hd : isDelim 35 = false := by decide
  simp only [hw, hd, Bool.or_self, Bool.false_eq_true, if_false, if_true]
  split
  · next h1 h2 r' =>
    rw [h h1 h2 r' rfl]
    simp
  · rfl

theorem cs_nameLoop_suffix (inp : Str) : (CS.nameLoop inp).2 <:+ inp := by
  rw [Gram.cs_nameLoop_rest]
  exact List.dropWhile_suffix _

theorem lift_skip {inp : Str} {c : Nat} {r x : Str} (hs : CS.skipSpace inp = c :: r)
    (hx : x <:+ (c :: r) ∧ x.length < (c :: r).length) : x <:+ inp ∧ x.length < inp.length := by
  have := skipSpace_suffix inp
  rw [hs] at this
  exact ⟨List.IsSuffix.trans hx.1 this, by have := this.length_le; omega⟩

theorem skipSpace_len {inp : Str} {c : Nat} {r : Str} (hs : CS.skipSpace inp = c :: r) :
    r.length + 1 ≤ inp.length := by
  have := (skipSpace_suffix inp).length_le
  rw [hs] at this
  simpa using this

/-- every successful operand read leaves a strictly shorter suffix; the container loops leave a
suffix -/
theorem cs_progress (f : Nat) :
    (∀ d inp o r, CS.parseOperand f d inp = some (o, r) → r <:+ inp ∧ r.length < inp.length) ∧
    (∀ d inp acc o r, CS.parseArray f d inp acc = some (o, r) → r <:+ inp) ∧
    (∀ d inp acc o r, CS.parseDict f d inp acc = some (o, r) → r <:+ inp) := by
  have sk : ∀ {inp : Str} {c : Nat} {r0 : Str}, CS.skipSpace inp = c :: r0 → (c :: r0) <:+ inp :=
    fun hs => hs ▸ skipSpace_suffix _
  refine CS.parse_induction (PO := fun _ inp _ r => r <:+ inp ∧ r.length < inp.length)
    (PA := fun _ inp _ _ r => r <:+ inp) (PD := fun _ inp _ _ r => r <:+ inp)
    ?_ ?_ ?_ ?_ ?_ ?_ ?_ ?_ ?_ ?_ ?_ ?_ ?_ f
  · intro d inp c r0 o r hs hc h
    exact lift_skip hs (cs_parseNumber_progress c r0 o r hc h)
  · intro d inp r0 v r hs h
    rw [cs_strLoop_eq] at h
    exact lift_skip hs (lift_cons (strLoop_suffix r0 1 v r h).1)
  · intro d inp r0 v r hs _ _ h
    exact lift_skip hs (lift_cons (cs_hexLoop_suffix r0 v r h))
  · intro d inp r0 hs
    exact lift_skip hs (lift_cons (cs_nameLoop_suffix r0))
  · intro d inp r0 o r hs _ ih
    exact lift_skip hs (lift_cons ih)
  · intro d inp r0 o r hs _ _ ih
    exact lift_skip hs (lift_cons (ih.trans (List.drop_suffix 1 r0)))
  · intro d inp c r0 t o hs _ ho
    have ht : 0 < t.length := by
      rcases ho with ⟨rfl, _⟩ | ⟨rfl, _⟩ | ⟨rfl, _⟩ <;> decide
    refine lift_skip hs ⟨List.drop_suffix _ _, ?_⟩
    rw [List.length_drop]
    simp only [List.length_cons]; omega
  · intro d acc
    exact List.suffix_refl _
  · intro d inp acc r0 hs
    exact suffix_tail (sk hs)
  · intro d inp acc c r0 o1 r1 o r hs _ ihO ihA
    exact (ihA.trans ihO.1).trans (sk hs)
  · intro d acc
    exact List.suffix_refl _
  · intro d inp acc r0 hs _
    exact (List.drop_suffix 1 r0).trans (suffix_tail (sk hs))
  · intro d inp acc r0 o1 r1 o r hs ihO ihD
    exact ihD.trans (ihO.1.trans ((cs_nameLoop_suffix r0).trans (suffix_tail (sk hs))))

/-- fuel above 2·length+1 (operands) / 2·length+2 (container loops) is never used up -/
theorem cs_fuel_stable (f1 : Nat) :
    (∀ f2 d inp, 2 * inp.length + 1 ≤ f1 → 2 * inp.length + 1 ≤ f2 →
      CS.parseOperand f1 d inp = CS.parseOperand f2 d inp) ∧
    (∀ f2 d inp acc, 2 * inp.length + 2 ≤ f1 → 2 * inp.length + 2 ≤ f2 →
      CS.parseArray f1 d inp acc = CS.parseArray f2 d inp acc) ∧
    (∀ f2 d inp acc, 2 * inp.length + 2 ≤ f1 → 2 * inp.length + 2 ≤ f2 →
      CS.parseDict f1 d inp acc = CS.parseDict f2 d inp acc) := by
  induction f1 with
  | zero =>
    refine ⟨?_, ?_, ?_⟩
    · intro f2 d inp h; omega
    · intro f2 d inp acc h; omega
    · intro f2 d inp acc h; omega
  | succ g1 ih =>
    obtain ⟨ihO, ihA, ihD⟩ := ih
    -- `f1` only reaches the results through the recursive calls: rewriting those leaves two equal terms
    refine ⟨?_, ?_, ?_⟩
    · intro f2 d inp hf1 hf2
      obtain ⟨g2, rfl⟩ : ∃ g, f2 = g + 1 := ⟨f2 - 1, by omega⟩
      rw [CS.parseOperand, CS.parseOperand]
      cases hs : CS.skipSpace inp with
      | nil => rfl
      | cons c r =>
        have hl := skipSpace_len hs
        have : (r.drop 1).length ≤ r.length := by rw [List.length_drop]; omega
        dsimp only
        rw [ihA g2 (d + 1) r [] (by omega) (by omega),
          ihD g2 (d + 1) (r.drop 1) [] (by omega) (by omega)]
    · intro f2 d inp acc hf1 hf2
      obtain ⟨g2, rfl⟩ : ∃ g, f2 = g + 1 := ⟨f2 - 1, by omega⟩
      rw [CS.parseArray, CS.parseArray]
      cases hs : CS.skipSpace inp with
      | nil => rfl
      | cons c r =>
        have hl := skipSpace_len hs
        dsimp only
        rw [ihO g2 d (c :: r) (by simp only [List.length_cons]; omega) (by simp only [List.length_cons]; omega)]
        cases hp : CS.parseOperand g2 d (c :: r) with
        | none => rfl
        | some p =>
          have := ((cs_progress g2).1 d (c :: r) p.1 p.2 hp).2
          simp only [List.length_cons] at this
          dsimp only
          rw [ihA g2 d p.2 _ (by omega) (by omega)]
    · intro f2 d inp acc hf1 hf2
      obtain ⟨g2, rfl⟩ : ∃ g, f2 = g + 1 := ⟨f2 - 1, by omega⟩
      rw [CS.parseDict, CS.parseDict]
      cases hs : CS.skipSpace inp with
      | nil => rfl
      | cons c r =>
        have hl := skipSpace_len hs
        have hn := (cs_nameLoop_suffix r).length_le
        dsimp only
        rw [ihO g2 d (CS.nameLoop r).2 (by omega) (by omega)]
        cases hp : CS.parseOperand g2 d (CS.nameLoop r).2 with
        | none => rfl
        | some p =>
          have := ((cs_progress g2).1 d _ p.1 p.2 hp).2
          dsimp only
          rw [ihD g2 d p.2 _ (by omega) (by omega)]

theorem opName_suffix (s : Str) : ∀ b : Bool, (CS.opName b s).2 <:+ s := by
  induction s with
  | nil => intro b; simp [CS.opName]
  | cons c r ih =>
    intro b
    rw [CS.opName]
    split
    · exact List.IsSuffix.trans (ih true) (List.suffix_cons _ _)
    · exact List.suffix_refl _

theorem opName_progress (c : Nat) (r : Str) (h : (CS.opName false (c :: r)).1 ≠ []) :
    (CS.opName false (c :: r)).2 <:+ (c :: r) ∧
      (CS.opName false (c :: r)).2.length < (c :: r).length := by
  rw [CS.opName] at h ⊢
  by_cases hc : CS.isOpChar false c = true
  · rw [if_pos hc]
    exact lift_cons (opName_suffix r true)
  · rw [if_neg hc] at h
    exact absurd rfl h

/-- the bounds of `Parse`'s loop are never reached: any two large enough pairs give the same
result -/
theorem parseLoop_stable (n1 : Nat) : ∀ (n2 F1 F2 : Nat) (inp : Str) (stack : List Obj) (ops : List CS.Operation),
    inp.length + 1 ≤ n1 → inp.length + 1 ≤ n2 → 2 * inp.length + 1 ≤ F1 → 2 * inp.length + 1 ≤ F2 →
    CS.parseLoop n1 F1 inp stack ops = CS.parseLoop n2 F2 inp stack ops := by
  induction n1 with
  | zero => intro n2 F1 F2 inp stack ops h; omega
  | succ m1 ih =>
    intro n2 F1 F2 inp stack ops hn1 hn2 hF1 hF2
    obtain ⟨m2, rfl⟩ : ∃ g, n2 = g + 1 := ⟨n2 - 1, by omega⟩
    rw [CS.parseLoop, CS.parseLoop]
    cases hs : CS.skipSpace inp with
    | nil => rfl
    | cons c r =>
      dsimp only
      have hl := skipSpace_len hs
      split
      · by_cases hp : (CS.opName false (c :: r)).1 = []
        · simp only [if_pos hp]
        · simp only [if_neg hp]
          have := (opName_progress c r hp).2
          simp only [List.length_cons] at this
          exact ih m2 F1 F2 _ _ _ (by omega) (by omega) (by omega) (by omega)
      · rw [(cs_fuel_stable F1).1 F2 0 (c :: r) (by simp only [List.length_cons]; omega)
          (by simp only [List.length_cons]; omega)]
        cases hp : CS.parseOperand F2 0 (c :: r) with
        | none => rfl
        | some p =>
          obtain ⟨o, r'⟩ := p
          dsimp only
          have := ((cs_progress F2).1 0 (c :: r) o r' hp).2
          simp only [List.length_cons] at this
          exact ih m2 F1 F2 _ _ _ (by omega) (by omega) (by omega) (by omega)

theorem csParse_stable (inp : Str) (n F : Nat) (hn : inp.length + 2 ≤ n) (hF : CS.fuelFor inp ≤ F) :
    CS.parseLoop n F inp [] [] = CS.csParse inp := by
  unfold CS.csParse
  unfold CS.fuelFor at hF ⊢
  exact parseLoop_stable n _ _ _ inp [] [] (by omega) (by omega) (by omega) (by omega)

/-- one byte at least per operator and per operand -/
theorem parseLoop_count (n F : Nat) : ∀ (inp : Str) (stack : List Obj) (ops res : List CS.Operation),
    CS.parseLoop n F inp stack ops = some res →
    (res.map (fun o => 1 + o.operands.length)).sum ≤
      (ops.map (fun o => 1 + o.operands.length)).sum + stack.length + inp.length := by
  refine CS.parseLoop_induction ?_ ?_ ?_ n
  · intro inp stack ops _
    omega
  · intro inp c r stack ops res hs hp ih
    have hl := skipSpace_len hs
    have hlt := (opName_progress c r hp).2
    simp only [List.length_cons] at hlt
    simp only [List.map_append, List.sum_append, List.map_cons, List.map_nil, List.sum_cons,
      List.sum_nil, List.length_nil] at ih
    omega
  · intro inp c r o r' stack ops res hs hp ih
    have hl := skipSpace_len hs
    have hlt := ((cs_progress F).1 0 (c :: r) o r' hp).2
    simp only [List.length_cons] at hlt
    simp only [List.length_append, List.length_cons, List.length_nil] at ih
    omega

theorem csParse_count (inp : Str) (res : List CS.Operation) (h : CS.csParse inp = some res) :
    (res.map (fun o => 1 + o.operands.length)).sum ≤ inp.length := by
  have := parseLoop_count _ _ inp [] [] res h
  simpa using this

/-- `p.pos` after one `parseOperand` call is positive and inside the data -/
theorem csOperandAt_pos (inp : Str) (o : Obj) (pos : Nat) (h : csOperandAt inp = some (o, pos)) :
    0 < pos ∧ pos ≤ inp.length := by
  unfold csOperandAt at h
  split at h
  · cases h
  · next o1 r hp =>
    cases h
    have := ((cs_progress _).1 0 inp o r hp).2
    omega

end Prog
end Tabula.Pdf
