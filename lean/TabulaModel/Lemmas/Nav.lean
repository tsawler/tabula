import TabulaModel.Model.Nav
/-!
Lemmas about Model/Nav.lean: the case fold branch by branch, `stripWord` as the comparison of a
folded prefix, and the exclusion predicate `excluded` as a function of the rank of the mode — each rule is switched on from one rank upwards,
so a stricter mode excludes whatever a weaker one excludes.
-/
namespace Tabula.Html

theorem fold_upper {c : Nat} (h : 65 ≤ c ∧ c ≤ 90) : fold c = c + 32 := by
  unfold fold
  rw [if_pos (by simpa using h)]

theorem fold_other {c : Nat} (h1 : ¬(65 ≤ c ∧ c ≤ 90)) (h2 : c ≠ 0x17F) (h3 : c ≠ 0x212A) : fold c = c := by
  unfold fold
  rw [if_neg (by simpa using h1), if_neg (by simpa using h2), if_neg (by simpa using h3)]

/-- a fact `P c (fold c)` about a character and its fold holds as soon as it holds on each of the
four branches of `fold` -/
theorem fold_cases (P : Nat → Nat → Prop) (hup : ∀ c, 65 ≤ c ∧ c ≤ 90 → P c (c + 32)) (hs : P 0x17F 115)
    (hk : P 0x212A 107) (hid : ∀ c, ¬(65 ≤ c ∧ c ≤ 90) → c ≠ 0x17F → c ≠ 0x212A → P c c) (c : Nat) :
    P c (fold c) := by
  by_cases h1 : 65 ≤ c ∧ c ≤ 90
  · rw [fold_upper h1]; exact hup c h1
  by_cases h2 : c = 0x17F
  · subst h2; exact hs
  by_cases h3 : c = 0x212A
  · subst h3; exact hk
  rw [fold_other h1 h2 h3]; exact hid c h1 h2 h3

theorem isLetter_iff (c : Nat) :
    isLetter c = true ↔ (97 ≤ c ∧ c ≤ 122) ∨ (65 ≤ c ∧ c ≤ 90) ∨ c = 0x17F ∨ c = 0x212A := by
  simp [isLetter, or_assoc]

/-- `stripWord` compares the prefix of the length of the word, case-folded -/
theorem stripWord_eq : ∀ (w s : Str),
    stripWord w s = if (s.take w.length).map fold = w then some (s.drop w.length) else none
  | [], s => by simp [stripWord]
  | _ :: _, [] => by simp [stripWord]
  | a :: w, c :: cs => by
      rw [stripWord, stripWord_eq w cs]
      by_cases h : fold c = a <;> simp [h]

/-- `shouldExclude` by the rank of the mode: the semantic rule from Explicit, the class/id rule
from Standard, the link-density rule from Aggressive (the vocabulary of the two modes that look at
class/id is the same) -/
theorem excluded_elem (m : Mode) (pos : Pos) (tag : Str) (attrs : List (Str × Str)) (kids : List Dom) :
    excluded m pos (.elem tag attrs kids) =
      (decide (1 ≤ m.rank) && (excludedExplicit pos tag attrs ||
        (decide (2 ≤ m.rank) && excludedPattern vocabExcluded attrs) ||
        (decide (3 ≤ m.rank) && excludedLinkDensity tag kids))) := by
  cases m <;> simp [excluded, Mode.rank, vocabOf]

/-- stricter or equal: every threshold the weaker mode passes, the stricter one passes -/
theorem excluded_mono {m1 m2 : Mode} (h : m1.rank ≤ m2.rank) (pos : Pos) (n : Dom) :
    excluded m1 pos n = true → excluded m2 pos n = true := by
  cases n with
  | elem tag attrs kids =>
    simp only [excluded_elem, Bool.and_eq_true, Bool.or_eq_true, decide_eq_true_eq]
    exact fun ⟨h1, h2⟩ =>
      ⟨by omega, h2.imp (Or.imp_right fun ⟨a, b⟩ => ⟨by omega, b⟩) fun ⟨a, b⟩ => ⟨by omega, b⟩⟩
  | _ => exact id

end Tabula.Html
