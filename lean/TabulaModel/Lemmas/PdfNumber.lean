import TabulaModel.Lemmas.PdfReal
import TabulaModel.Lemmas.PdfLexProgress
import TabulaModel.Lemmas.ListBasics
/-!
The number grammar of property C06 at full strength, for EVERY input: the token `NextToken` makes of what
`readNumber` cuts out (`number_token`; the lexeme itself: `PdfNumLex.lean`), what `strconv.ParseFloat` /
`strconv.ParseInt` (as modelled) make of every text of that grammar (`parseReal_grammar`, `atoi_grammar`), and
`contentstream.parseNumber` as the conversion of that token's text (`CSL.parseNumber_of_token`).  Core Lean only.
-/
namespace Tabula.Pdf
namespace Num
open Tabula.A1 (atoi digitsAcc maxInt64)

/-- the number token of `NextToken`, every input -/
theorem number_token (b : Nat) (r : Str) (hb : b = 45 ∨ b = 43 ∨ b = 46 ∨ isDigit b = true) :
    let p := numLoop false true (b :: r)
    nextToken (b :: r) = some (if p.2.1 then .real p.1 else .integer p.1, p.2.2) := by
  intro p
  have hw : isWs b = false := by
    rcases hb with rfl | rfl | rfl | h
    · decide
    · decide
    · decide
    · exact Tok.isWs_num b (Or.inl (Rl.digit_bounds h))
  rw [Tok.nextToken_cons b r hw, Tok.dispatch_numStart b r hb]

theorem normReal_zero (m : Nat) : normReal m 0 = (m, 0) := rfl

/-- digits without a point -/
theorem core_nopoint (neg : Bool) (ip : Str) (hi : DigitStr ip) (hne : ip ≠ []) :
    Rl.core neg ip = some (.real (neg && digitsVal ip != 0) (digitsVal ip) 0) := by
  have he : ip.isEmpty = false := by
    cases ip with
    | nil => exact absurd rfl hne
    | cons _ _ => rfl
  unfold Rl.core
  simp only [List.takeWhile_eq_self hi, List.dropWhile_eq_nil hi, he, List.append_nil, Bool.false_and,
    Rl.digitsAcc_val ip hi]
  rfl

theorem core_grammar (neg : Bool) (ip fp : Str) (hd : Bool) (hi : DigitStr ip) (hf : DigitStr fp)
    (hfd : hd = false → fp = []) :
    Rl.core neg (ip ++ (if hd then 46 :: fp else [])) =
      if ip = [] ∧ fp = [] then none
      else some (.real (neg && (normReal (digitsVal (ip ++ fp)) fp.length).1 != 0)
        (normReal (digitsVal (ip ++ fp)) fp.length).1 (normReal (digitsVal (ip ++ fp)) fp.length).2) := by
  cases hd with
  | true =>
    simp only [if_true]
    by_cases he : ip = [] ∧ fp = []
    · obtain ⟨e1, e2⟩ := he
      subst e1; subst e2
      rfl
    · rw [if_neg he]
      apply Rl.core_body neg ip fp hi hf
      by_cases h1 : ip = []
      · exact Or.inr (fun h2 => he ⟨h1, h2⟩)
      · exact Or.inl h1
  | false =>
    have e := hfd rfl
    subst e
    simp only [Bool.false_eq_true, if_false, List.append_nil, and_true, List.length_nil]
    by_cases he : ip = []
    · subst he; rfl
    · rw [if_neg he, core_nopoint neg ip hi he]
      rfl

/-- `strconv.ParseFloat` as modelled, on EVERY text of the grammar: an error iff there is no digit at all,
else the exact decimal value  (-1)^neg · digitsVal (ip ++ fp) / 10^|fp|  in normal form -/
theorem parseReal_grammar (sign ip fp : Str) (hd : Bool) (hs : sign = [] ∨ sign = [43] ∨ sign = [45])
    (hi : DigitStr ip) (hf : DigitStr fp) (hfd : hd = false → fp = []) :
    parseReal (sign ++ ip ++ (if hd then 46 :: fp else [])) =
      if ip = [] ∧ fp = [] then none
      else some (.real (decide (sign = [45]) && (normReal (digitsVal (ip ++ fp)) fp.length).1 != 0)
        (normReal (digitsVal (ip ++ fp)) fp.length).1 (normReal (digitsVal (ip ++ fp)) fp.length).2) := by
  have hc := fun neg => core_grammar neg ip fp hd hi hf hfd
  rcases hs with e | e | e
  · subst e
    have hdec : decide (([] : Str) = [45]) = false := by decide
    rw [hdec, ← hc false]
    simp only [List.nil_append]
    cases ip with
    | nil =>
      cases hd with
      | true => exact Rl.parseReal_nosign 46 fp (by decide) (by decide)
      | false => rfl
    | cons c ip' =>
      have hb := Rl.digit_bounds (Rl.DigitStr.head hi)
      exact Rl.parseReal_nosign c _ (by omega) (by omega)
  · subst e
    have hdec : decide (([43] : Str) = [45]) = false := by decide
    rw [hdec, ← hc false]
    exact Rl.parseReal_plus _
  · subst e
    have hdec : decide (([45] : Str) = [45]) = true := by decide
    rw [hdec, ← hc true]
    exact Rl.parseReal_minus _

/-- `strconv.ParseInt` as modelled, on every text of the grammar without a point: a value iff there is a digit
and the number lies in the int64 range -/
theorem atoi_grammar (sign ip : Str) (hs : sign = [] ∨ sign = [43] ∨ sign = [45]) (hi : DigitStr ip) :
    atoi (sign ++ ip) =
      if ip = [] then none
      else if sign = [45] then (if digitsVal ip ≤ maxInt64 + 1 then some (-(digitsVal ip : Int)) else none)
      else (if digitsVal ip ≤ maxInt64 then some (digitsVal ip : Int) else none) := by
  by_cases he : ip = []
  · subst he
    rw [if_pos rfl]
    rcases hs with e | e | e <;> subst e <;> rfl
  · rw [if_neg he]
    exact Tok.atoi_signed sign ip _ hs he (Rl.digitsAcc_val ip hi)

end Num

namespace CSL
open Tabula.A1 (atoi)

/-- where the document-level lexer cuts a number token, `contentstream.parseNumber` converts the same
text and stops at the same byte: the two readers share the lexeme (`Prog.cs_parseNumber_lexeme`) -/
theorem parseNumber_of_token {c : Nat} {r : Str} {tok : Token} {rest : Str}
    (hc : c = 45 ∨ c = 43 ∨ c = 46 ∨ isDigit c = true) (h : nextToken (c :: r) = some (tok, rest)) :
    (∀ text, tok = .integer text → CS.parseNumber (c :: r) = (atoi text).map fun v => (.int v, rest)) ∧
    (∀ text, tok = .real text → CS.parseNumber (c :: r) = (parseReal text).map (·, rest)) := by
  have ht := Num.number_token c r hc
  dsimp only at ht
  rw [ht] at h
  cases h
  rw [Prog.cs_parseNumber_conv c r hc]
  cases hd : (numLoop false true (c :: r)).2.1 with
  | true =>
    rw [if_pos rfl, if_pos rfl]
    exact ⟨fun _ e => (nomatch e), fun _ e => by cases e; rfl⟩
  | false =>
    rw [if_neg (by decide), if_neg (by decide)]
    exact ⟨fun _ e => by cases e; rw [Option.map_map]; rfl, fun _ e => (nomatch e)⟩

end CSL
end Tabula.Pdf
