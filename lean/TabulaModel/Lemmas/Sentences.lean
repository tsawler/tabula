import TabulaModel.Model.Sentences
import TabulaModel.Lemmas.OverlapSentences
import TabulaModel.Lemmas.OverlapParagraphs
import TabulaModel.Lemmas.ListBasics
/-!
C13: the sentence splitter and the sentence / paragraph packing of
`rag/chunker.go` (`Model/Sentences.lean`): the chunks carry what the text carries under every
reading that follows the scan, whatever the bytes; for valid text that is conservation of the
non-whitespace content (`stripWs`) and UTF-8 validity (`illFormed`).  Then their size.
-/
set_option linter.unusedVariables false
namespace Tabula.Sentences
open Tabula.Split Tabula.Overlap

theorem emitTrim_eq (acc : List Str) (x : Str) : emitTrim acc x = emit x ++ acc := by
  unfold emitTrim emit
  split <;> simp

theorem emit_reverse (x : Str) : (emit x).reverse = emit x := by
  unfold emit; split <;> simp

/-- "skip if followed by lowercase letter" -/
def nextLower (cl : Classes) : List Nat → Bool
  | next :: _ => isLower cl next
  | [] => false

theorem sentLoop_cons (cl : Classes) (r : Nat) (rest : List Nat) (i : Nat) (cur : Str) (acc : List Str) :
    sentLoop cl (r :: rest) i cur acc =
      if (r == 46 || r == 33 || r == 63) = true then
        if nextLower cl rest = true then sentLoop cl rest (i + 1) ((encodeRune r).reverse ++ cur) acc
        else if afterCapital i ((encodeRune r).reverse ++ cur) = true then
          sentLoop cl rest (i + 1) ((encodeRune r).reverse ++ cur) acc
        else sentLoop cl rest (i + 1) [] (emitTrim acc ((encodeRune r).reverse ++ cur).reverse)
      else sentLoop cl rest (i + 1) ((encodeRune r).reverse ++ cur) acc := by
  cases rest <;> rfl

theorem packLoop_cons (max : Nat) (s : Str) (rest : List Str) (cur : Str) (acc : List Str) :
    packLoop max (s :: rest) cur acc =
      if cur.length + (s.length + (if cur ≠ [] then 1 else 0)) > max ∧ cur ≠ [] then
        packLoop max rest s (cur :: acc)
      else packLoop max rest ((if cur ≠ [] then cur ++ [32] else cur) ++ s) acc := rfl

/-- whatever the heuristics decide, the sentences are trimmed consecutive segments of the
re-encoded text -/
theorem sentLoop_pieces (cl : Classes) (rs : List Nat) (i : Nat) (cur : Str) (acc : List Str)
    (hc : validUtf8 cur.reverse = true) :
    ∃ rest, sentLoop cl rs i cur acc = acc.reverse ++ rest ∧ Segs (cur.reverse ++ encodeRunes rs) rest := by
  induction rs generalizing i cur acc with
  | nil =>
    exact ⟨emit cur.reverse, by simp [sentLoop, emitTrim_eq, emit_reverse],
      by simpa [encodeRunes] using Segs.emit hc⟩
  | cons r rest ih =>
    have hc' : validUtf8 ((encodeRune r).reverse ++ cur).reverse = true := by
      rw [List.reverse_append, List.reverse_reverse]
      exact validUtf8_append _ _ hc (valid_encodeRune r)
    have htext : cur.reverse ++ encodeRunes (r :: rest)
        = ((encodeRune r).reverse ++ cur).reverse ++ encodeRunes rest := by
      rw [encodeRunes_cons, List.reverse_append, List.reverse_reverse, List.append_assoc]
    rw [htext, sentLoop_cons]
    by_cases hp : (r == 46 || r == 33 || r == 63) = true
    · rw [if_pos hp]
      by_cases hl : nextLower cl rest = true
      · rw [if_pos hl]; exact ih (i + 1) _ acc hc'
      · rw [if_neg hl]
        by_cases hcap : afterCapital i ((encodeRune r).reverse ++ cur) = true
        · rw [if_pos hcap]; exact ih (i + 1) _ acc hc'
        · rw [if_neg hcap]
          obtain ⟨rest', e, hs⟩ := ih (i + 1) [] (emitTrim acc ((encodeRune r).reverse ++ cur).reverse)
            (by simpa using validUtf8_nil)
          exact ⟨emit ((encodeRune r).reverse ++ cur).reverse ++ rest',
            by rw [e, emitTrim_eq, List.reverse_append, emit_reverse, List.append_assoc],
            by simpa using Segs.emit_append hc' .nil hs⟩
    · rw [if_neg hp]; exact ih (i + 1) _ acc hc'

theorem splitIntoSentences_pieces (cl : Classes) (text : Str) :
    Pieces (encodeRunes (decodeRunes text)) (splitIntoSentences cl text)
      ∧ ∀ t ∈ splitIntoSentences cl text, validUtf8 t = true ∧ t ≠ [] := by
  unfold splitIntoSentences
  obtain ⟨rest, e, hs⟩ := sentLoop_pieces cl (decodeRunes text) 0 [] [] (by simpa using validUtf8_nil)
  rw [e]
  simpa [Segs] using hs

/-- the sentences carry what the re-encoded text carries, under every reading, whatever the bytes -/
theorem reads_splitIntoSentences {f : Str → Str} (hf : Reads f) (cl : Classes) (text : Str) :
    (splitIntoSentences cl text).flatMap f = f (encodeRunes (decodeRunes text)) :=
  (splitIntoSentences_pieces cl text).1.reads_eq hf fun t ht =>
    ((splitIntoSentences_pieces cl text).2 t ht).1

/-- The packing loop cuts the list of (non-empty) sentences into consecutive groups and joins
each by spaces; a group is a single sentence, or several that joined stay within the maximum;
`g` is the group being filled, `currentText` its join. -/
theorem packLoop_groups (max : Nat) (ss : List Str) (hss : ∀ s ∈ ss, s ≠ []) :
    ∀ (g : List Str) (acc : List Str), (∀ s ∈ g, s ≠ []) → (g = [] ∨ (∃ s, g = [s]) ∨ (joinWith [32] g).length ≤ max) →
    ∃ gs : List (List Str), packLoop max ss (joinWith [32] g) acc = acc.reverse ++ gs.map (joinWith [32])
      ∧ gs.flatten = g ++ ss ∧ ∀ x ∈ gs, x ≠ [] ∧ ((∃ s, x = [s]) ∨ (joinWith [32] x).length ≤ max) := by
  induction ss with
  | nil =>
    intro g acc hg hfit
    unfold packLoop
    by_cases h : g = []
    · subst h
      exact ⟨[], by simp [joinWith], rfl, fun _ h => nomatch h⟩
    · have hc : joinWith [32] g ≠ [] := mt (joinWith_eq_nil _ g hg).mp h
      exact ⟨[g], by simp [hc], by simp, by simpa using ⟨h, hfit.resolve_left h⟩⟩
  | cons s rest ih =>
    intro g acc hg hfit
    have hs := hss s (List.mem_cons_self ..)
    have ih := ih fun x hx => hss x (List.mem_cons_of_mem _ hx)
    have hne : joinWith [32] g ≠ [] ↔ g ≠ [] := not_congr (joinWith_eq_nil _ g hg)
    rw [packLoop_cons]
    by_cases hfl : (joinWith [32] g).length + (s.length + (if joinWith [32] g ≠ [] then 1 else 0)) > max
        ∧ joinWith [32] g ≠ []
    · -- the group being filled is closed, `s` opens the next one
      rw [if_pos hfl]
      have hgne := hne.mp hfl.2
      obtain ⟨gs, e, hflat, hall⟩ := ih [s] (joinWith [32] g :: acc) (by simpa using hs)
        (.inr (.inl ⟨s, rfl⟩))
      exact ⟨g :: gs, by rw [show s = joinWith [32] [s] from rfl, e]; simp, by simp [hflat],
        List.forall_mem_cons.mpr ⟨⟨hgne, hfit.resolve_left hgne⟩, hall⟩⟩
    · -- `s` joins the group
      rw [if_neg hfl]
      have hcur : (if joinWith [32] g ≠ [] then joinWith [32] g ++ [32] else joinWith [32] g) ++ s
          = joinWith [32] (g ++ [s]) := by
        rw [joinWith_snoc]
        by_cases h : g = []
        · subst h; rfl
        · rw [if_pos (hne.mpr h), if_neg h]
      have hfits : (∃ t, g ++ [s] = [t]) ∨ (joinWith [32] (g ++ [s])).length ≤ max := by
        by_cases h : g = []
        · subst h; exact .inl ⟨s, rfl⟩
        · right
          have := Nat.le_of_not_gt fun hgt => hfl ⟨hgt, hne.mpr h⟩
          rw [if_pos (hne.mpr h)] at this hcur
          rw [← hcur]
          simp only [List.length_append, List.length_cons, List.length_nil]
          omega
      rw [hcur]
      obtain ⟨gs, e, hflat, hall⟩ := ih (g ++ [s]) acc
        (List.forall_mem_append.mpr ⟨hg, by simpa using hs⟩) (.inr hfits)
      exact ⟨gs, e, by rw [hflat]; simp, hall⟩

/-- what `splitBySentences` returns: the sentences in consecutive groups, each joined by spaces -/
theorem splitBySentences_groups (cl : Classes) (max : Nat) (text : Str) :
    ∃ gs : List (List Str), splitBySentences cl max text = gs.map (joinWith [32])
      ∧ gs.flatten = splitIntoSentences cl text ∧ ∀ x ∈ gs, x ≠ [] ∧ ((∃ s, x = [s]) ∨ (joinWith [32] x).length ≤ max) :=
  packLoop_groups max (splitIntoSentences cl text)
    (fun s hs => ((splitIntoSentences_pieces cl text).2 s hs).2) [] [] (fun _ h => nomatch h) (.inl rfl)

/-- … so under every reading that follows the scan the chunks carry what the sentences carry -/
theorem reads_splitBySentences {f : Str → Str} (hf : Reads f) (cl : Classes) (max : Nat) (text : Str) :
    (splitBySentences cl max text).flatMap f = (splitIntoSentences cl text).flatMap f := by
  obtain ⟨gs, e, hflat, -⟩ := splitBySentences_groups cl max text
  rw [e, ← hflat, List.flatMap_map, List.flatten_eq_flatMap, List.flatMap_assoc]
  exact List.flatMap_congr fun g _ => reads_joinWith hf 32 [] (by decide) wsOnly_space g

/-- the sentences are re-encoded from runes, so the chunks are valid whatever the text -/
theorem splitBySentences_valid (cl : Classes) (max : Nat) (text : Str) :
    ∀ o ∈ splitBySentences cl max text, validUtf8 o = true := by
  obtain ⟨gs, e, hflat, -⟩ := splitBySentences_groups cl max text
  rw [e]
  intro o ho
  obtain ⟨g, hg, rfl⟩ := List.mem_map.mp ho
  exact valid_joinWith _ (valid_wsOnly wsOnly_space) g fun s hs =>
    ((splitIntoSentences_pieces cl text).2 s (hflat ▸ List.mem_flatten.mpr ⟨g, hg, hs⟩)).1

/-- every packed chunk is within the maximum or is one single sentence -/
theorem splitBySentences_bound (cl : Classes) (max : Nat) (text : Str) :
    ∀ o ∈ splitBySentences cl max text, o.length ≤ max ∨ o ∈ splitIntoSentences cl text := by
  obtain ⟨gs, e, hflat, hall⟩ := splitBySentences_groups cl max text
  rw [e]
  intro o ho
  obtain ⟨g, hg, rfl⟩ := List.mem_map.mp ho
  rcases (hall g hg).2 with ⟨s, rfl⟩ | h
  · exact .inr (hflat ▸ List.mem_flatten.mpr ⟨[s], hg, List.mem_singleton.mpr rfl⟩)
  · exact .inl h

/-- for a valid text, which re-encoding leaves as it is, the chunks carry what the text carries -/
theorem reads_splitBySentences_valid {f : Str → Str} (hf : Reads f) (cl : Classes) (max : Nat) (e : Str)
    (hv : validUtf8 e = true) : (splitBySentences cl max e).flatMap f = f e := by
  rw [reads_splitBySentences hf, reads_splitIntoSentences hf, encode_decode e hv]

/-- what `flushChunk` does: nothing (the pending text is blank), or the pending text becomes a
chunk of its own, or it is merged into the last chunk (orphan merging) -/
theorem flushChunk_cases (max min : Nat) (s : PState) :
    (trimSpace s.cur = [] ∧ flushChunk max min s = s)
    ∨ flushChunk max min s = { chunks := s.chunks ++ [s.cur], cur := [] }
    ∨ ∃ prev, s.chunks.dropLast ++ [prev] = s.chunks ∧ prev.length + s.cur.length + 2 ≤ max
        ∧ flushChunk max min s
          = { chunks := s.chunks.dropLast ++ [prev ++ [10, 10] ++ s.cur], cur := [] } := by
  unfold flushChunk
  split
  · rename_i ht; exact .inl ⟨ht, rfl⟩
  · split
    · rename_i prev hprev
      split
      · rename_i hm
        obtain ⟨ys, e⟩ := List.getLast?_eq_some_iff.mp hprev
        exact .inr (.inr ⟨prev, by rw [e]; simp, hm.2, rfl⟩)
      · exact .inr (.inl rfl)
    · exact .inr (.inl rfl)

/-- flushing an empty pending text changes nothing, so the test in front of it is redundant -/
theorem flushChunk_ite (max min : Nat) (s : PState) :
    (if s.cur ≠ [] then flushChunk max min s else s) = flushChunk max min s := by
  split
  · rfl
  · rename_i h
    unfold flushChunk
    rw [Decidable.not_not.mp h]
    exact (if_pos trimSpace_nil).symm

/-- `paraStep` in two stages.  First the pending text is flushed when the paragraph does not
fit behind it (`s1`; otherwise the pending text is empty or the two fit together).  Then a
long paragraph is split by sentences behind whatever is still pending, a short one is appended. -/
theorem paraStep_cases (cl : Classes) (max min : Nat) (s : PState) (e : Str) :
    ∃ s1, (s1 = flushChunk max min s ∨ s1 = s ∧ (s.cur = [] ∨ s.cur.length + e.length + 2 ≤ max))
      ∧ paraStep cl max min s e =
        if e.length > max then
          { chunks := (flushChunk max min s1).chunks ++ splitBySentences cl max e,
            cur := (flushChunk max min s1).cur }
        else { chunks := s1.chunks, cur := (if s1.cur ≠ [] then s1.cur ++ [10, 10] else s1.cur) ++ e } := by
  refine ⟨if s.cur.length + (e.length + (if s.cur ≠ [] then 2 else 0)) > max ∧ s.cur ≠ []
    then flushChunk max min s else s, ?_, ?_⟩
  · by_cases hc : s.cur.length + (e.length + (if s.cur ≠ [] then 2 else 0)) > max ∧ s.cur ≠ []
    · exact .inl (if_pos hc)
    · refine .inr ⟨if_neg hc, ?_⟩
      by_cases hcur : s.cur = []
      · exact .inl hcur
      · rw [if_pos hcur] at hc
        have hfit : ¬ s.cur.length + (e.length + 2) > max := fun hh => hc ⟨hh, hcur⟩
        exact .inr (by omega)
  · unfold paraStep
    simp only [flushChunk_ite]

/-- under a reading `f` flushing keeps what chunks and pending text carry together, and leaves
nothing to read in the pending text -/
theorem flushChunk_inv {f : Str → Str} (hf : Reads f) (max min : Nat) (content : Str) (s : PState)
    (h : s.chunks.flatMap f ++ f s.cur = content) :
    (flushChunk max min s).chunks.flatMap f ++ f (flushChunk max min s).cur = content
      ∧ f (flushChunk max min s).cur = [] := by
  rcases flushChunk_cases max min s with ⟨ht, e⟩ | e | ⟨prev, hd, -, e⟩ <;> rw [e]
  · exact ⟨h, hf.wsOnly (wsOnly_of_trimSpace_nil _ ht)⟩
  · exact ⟨by simp [hf.nil, h], hf.nil⟩
  · refine ⟨?_, hf.nil⟩
    simp only [List.flatMap_append, List.flatMap_cons, List.flatMap_nil, List.append_nil, hf.nil]
    rw [hf.sep prev (by decide) wsOnly_nlnl, ← h]
    conv => rhs; rw [← hd]
    simp [List.append_assoc]

theorem paraStep_inv {f : Str → Str} (hf : Reads f) (cl : Classes) (max min : Nat) (content : Str)
    (s : PState) (e : Str) (he : e.length > max → (splitBySentences cl max e).flatMap f = f e)
    (h : s.chunks.flatMap f ++ f s.cur = content) :
    (paraStep cl max min s e).chunks.flatMap f ++ f (paraStep cl max min s e).cur = content ++ f e := by
  obtain ⟨s1, hs1, eq⟩ := paraStep_cases cl max min s e
  have h1 : s1.chunks.flatMap f ++ f s1.cur = content := by
    rcases hs1 with rfl | ⟨rfl, -⟩
    · exact (flushChunk_inv hf max min content s h).1
    · exact h
  rw [eq]
  split
  · rename_i hbig
    obtain ⟨g, hz⟩ := flushChunk_inv hf max min content s1 h1
    simp only [List.flatMap_append]
    rw [he hbig, hz, List.append_nil, ← g, hz, List.append_nil]
  · simp only
    rw [hf.sep_ite _ (by decide) wsOnly_nlnl, ← List.append_assoc, h1]

/-- the paragraph packing under a reading, any bytes: the chunks carry what the paragraphs
carry, provided the sentence packing of each oversized paragraph does -/
theorem reads_splitSectionByParagraphs {f : Str → Str} (hf : Reads f) (cl : Classes) (max min : Nat)
    (paras : List Str)
    (he : ∀ e ∈ paras, e.length > max → (splitBySentences cl max e).flatMap f = f e) :
    (splitSectionByParagraphs cl max min paras).flatMap f = paras.flatMap f := by
  unfold splitSectionByParagraphs
  have inv := foldl_content (P := fun content (s : PState) => s.chunks.flatMap f ++ f s.cur = content)
    (Q := fun e => e.length > max → (splitBySentences cl max e).flatMap f = f e)
    (fun content s e he h => paraStep_inv hf cl max min content s e he h) paras []
    { chunks := [], cur := [] } he (by simp [hf.nil])
  obtain ⟨g, hz⟩ := flushChunk_inv hf max min _ _ inv
  rwa [hz, List.append_nil, List.nil_append] at g

/-- … so for valid paragraphs it does: their non-whitespace characters are conserved (`stripWs`) and
the chunks are valid UTF-8 (`illFormed`) -/
theorem reads_splitSectionByParagraphs_valid {f : Str → Str} (hf : Reads f) (cl : Classes) (max min : Nat)
    (paras : List Str) (hv : ∀ p ∈ paras, validUtf8 p = true) :
    (splitSectionByParagraphs cl max min paras).flatMap f = paras.flatMap f :=
  reads_splitSectionByParagraphs hf cl max min paras fun e he _ =>
    reads_splitBySentences_valid hf cl max e (hv e he)

/-- invariant for the size bound: emitted chunks and the pending text are within the maximum,
and the pending text, unless empty, has a non-whitespace character -/
def PBound (max : Nat) (s : PState) : Prop :=
  (∀ p ∈ s.chunks, p.length ≤ max) ∧ s.cur.length ≤ max ∧ (s.cur ≠ [] → stripWs s.cur ≠ [])

theorem flushChunk_bound (max min : Nat) (s : PState) (h : PBound max s) :
    PBound max (flushChunk max min s) ∧ (flushChunk max min s).cur = [] := by
  obtain ⟨h1, h2, h4⟩ := h
  rcases flushChunk_cases max min s with ⟨ht, e⟩ | e | ⟨prev, hd, hm, e⟩ <;> rw [e]
  · exact ⟨⟨h1, h2, h4⟩, Classical.byContradiction fun hne =>
      h4 hne (reads_stripWs.wsOnly (wsOnly_of_trimSpace_nil _ ht))⟩
  · exact ⟨⟨List.forall_mem_append.mpr ⟨h1, by simpa using h2⟩, Nat.zero_le _,
      fun h => absurd rfl h⟩, rfl⟩
  · refine ⟨⟨List.forall_mem_append.mpr ⟨fun p hp => h1 p (List.dropLast_subset _ hp), ?_⟩,
      Nat.zero_le _, fun h => absurd rfl h⟩, rfl⟩
    simp only [List.mem_singleton, forall_eq, List.length_append, List.length_cons, List.length_nil]
    omega

theorem paraStep_bound (cl : Classes) (max min : Nat) (s : PState) (e : Str) (hne : stripWs e ≠ [])
    (hs : e.length > max → ∀ t ∈ splitIntoSentences cl e, t.length ≤ max)
    (h : PBound max s) : PBound max (paraStep cl max min s e) := by
  obtain ⟨s1, hs1, eq⟩ := paraStep_cases cl max min s e
  have h1 : PBound max s1 ∧ (s1.cur = [] ∨ s1.cur.length + e.length + 2 ≤ max) := by
    rcases hs1 with rfl | ⟨rfl, hfit⟩
    · exact ⟨(flushChunk_bound max min s h).1, .inl (flushChunk_bound max min s h).2⟩
    · exact ⟨h, hfit⟩
  obtain ⟨hb, hfit⟩ := h1
  rw [eq]
  split
  · rename_i hbig
    obtain ⟨g1, g2, g4⟩ := (flushChunk_bound max min s1 hb).1
    refine ⟨List.forall_mem_append.mpr ⟨g1, fun o ho => ?_⟩, g2, g4⟩
    exact (splitBySentences_bound cl max e o ho).elim id (hs hbig o)
  · rename_i hsmall
    obtain ⟨g1, g2, g4⟩ := hb
    refine ⟨g1, ?_, ?_⟩
    · simp only
      rcases hfit with hf | hf
      · rw [hf]; simp; omega
      · split
        · simp only [List.length_append, List.length_cons, List.length_nil]; omega
        · simp only [List.length_append]; omega
    · intro _
      simp only
      rw [reads_stripWs.sep_ite _ (by decide) wsOnly_nlnl]
      intro hz
      exact hne (List.append_eq_nil_iff.mp hz).2

theorem splitSectionByParagraphs_bound (cl : Classes) (max min : Nat) (paras : List Str)
    (hne : ∀ p ∈ paras, stripWs p ≠ [])
    (hs : ∀ p ∈ paras, p.length > max → ∀ t ∈ splitIntoSentences cl p, t.length ≤ max) :
    ∀ o ∈ splitSectionByParagraphs cl max min paras, o.length ≤ max := by
  unfold splitSectionByParagraphs
  have inv : PBound max (paras.foldl (paraStep cl max min) { chunks := [], cur := [] }) :=
    List.foldlRecOn paras _ ⟨by simp, Nat.zero_le _, fun h => absurd rfl h⟩
      fun s h e he => paraStep_bound cl max min s e (hne e he) (hs e he) h
  exact (flushChunk_bound max min _ inv).1.1

/-- `Chunker.Chunk` on a document of paragraphs returns the joined paragraphs as one chunk when
they fit, and otherwise what `splitSectionByParagraphs` makes of them -/
theorem chunkParagraphDoc_cases (cl : Classes) (max min : Nat) (paras : List Str) :
    (chunkParagraphDoc cl max min paras = [joinParagraphs paras] ∧ (joinParagraphs paras).length ≤ max)
      ∨ chunkParagraphDoc cl max min paras = splitSectionByParagraphs cl max min paras := by
  unfold chunkParagraphDoc
  split
  · rename_i h
    subst h
    rw [splitSectionByParagraphs, List.foldl_nil, ← flushChunk_ite]
    exact .inr rfl
  · unfold chunkSection
    simp only
    split
    · exact .inr (if_pos rfl)
    · split
      · rename_i hfit
        exact .inl ⟨if_neg (List.cons_ne_nil _ _), hfit⟩
      · right
        split
        · rfl
        · rfl

/-- `Chunker.Chunk` on a document of valid paragraphs under a reading: the chunks carry what the
paragraphs carry -/
theorem reads_chunkParagraphDoc {f : Str → Str} (hf : Reads f) (cl : Classes) (max min : Nat)
    (paras : List Str) (hv : ∀ p ∈ paras, validUtf8 p = true) :
    (chunkParagraphDoc cl max min paras).flatMap f = paras.flatMap f := by
  rcases chunkParagraphDoc_cases cl max min paras with ⟨e, -⟩ | e <;> rw [e]
  · simp [reads_joinParagraphs hf]
  · exact reads_splitSectionByParagraphs_valid hf cl max min paras hv

/-- the titles `ChunkWithOverlapEnabled` passes for a paragraph document are empty -/
theorem zip_empty_titles (own : List Str) :
    own.zip ([] ++ List.replicate (own.length - ([] : List Str).length) []) = own.map fun t => (t, ([] : Str)) := by
  simp only [List.nil_append, List.length_nil, Nat.sub_zero]
  induction own with
  | nil => rfl
  | cons a rest ih => simp [List.replicate_succ, ih]

/-- `ChunkWithOverlapEnabled` is `ApplyOverlapToChunks` on the chunks of `Chunk`, without titles -/
theorem chunkWithOverlapEnabled_eq (cl : Classes) (max min overlapSize : Nat) (sentences ctx : Bool)
    (paras : List Str) :
    chunkWithOverlapEnabled cl max min overlapSize sentences ctx paras
      = applyOverlapAux cl (chunkerOverlapConfig overlapSize sentences ctx) none
          ((chunkParagraphDoc cl max min paras).map fun t => (t, ([] : Str))) := by
  unfold chunkWithOverlapEnabled applyOverlapToChunks
  rw [zip_empty_titles]

/-- no sentence punctuation among the runes -/
def NoPunct (rs : List Nat) : Prop := ∀ r ∈ rs, (r == 46 || r == 33 || r == 63) = false

theorem sentLoop_noPunct (cl : Classes) (rs : List Nat) (h : NoPunct rs) (i : Nat) (cur : Str) (acc : List Str) :
    sentLoop cl rs i cur acc = (emitTrim acc (cur.reverse ++ encodeRunes rs)).reverse := by
  induction rs generalizing i cur with
  | nil => simp [sentLoop, encodeRunes]
  | cons r rest ih =>
    have hr := h r (List.mem_cons_self ..)
    rw [sentLoop_cons, hr]
    simp only [Bool.false_eq_true, if_false]
    rw [ih (fun x hx => h x (List.mem_cons_of_mem _ hx))]
    simp [encodeRunes_cons, List.append_assoc]

/-- a text without `.`, `!`, `?` is one sentence, however long -/
theorem splitIntoSentences_noPunct (cl : Classes) (text : Str) (hv : validUtf8 text = true)
    (h : NoPunct (decodeRunes text)) : splitIntoSentences cl text = emit text := by
  unfold splitIntoSentences
  rw [sentLoop_noPunct cl _ h]
  simp only [List.reverse_nil, List.nil_append, encode_decode text hv, emitTrim_eq, List.append_nil]
  exact emit_reverse text

end Tabula.Sentences
