import TabulaModel.Model.Xref
import TabulaModel.Lemmas.ListBasics
/-!
The abstract reader of `Model/Xref.lean`: `getLast` reads a list of assignments as a map (the last
assignment wins: `getLast_append`, `getLast_snoc`), so the merged table answers with the newest section
that mentions a number (`getLast_flatten`); the caches hold only what the cache-free lookup `specGet`
answers (`CacheOk`, kept by every `GetObject`: `stepGet_spec`, `run_refines`); the `/Prev` walk on a
chain of distinct offsets (`IsChain`, `chainFrom_path`). Core Lean only.
-/
namespace Tabula.Xref

/-- the table read as a map is core's `lookup` on the assignments newest first -/
theorem getLast_eq_lookup {α : Type} (l : List (Nat × α)) (n : Nat) : getLast l n = l.reverse.lookup n := by
  induction l with
  | nil => rfl
  | cons kv l ih =>
    obtain ⟨k, v⟩ := kv
    rw [getLast, ih, List.reverse_cons, List.lookup_append, List.lookup_cons, List.lookup_nil]
    cases l.reverse.lookup n with
    | some w => rfl
    | none =>
      by_cases h : k = n
      · rw [if_pos h, h, beq_self_eq_true]; rfl
      · rw [if_neg h, beq_false_of_ne fun e => h e.symm]; rfl

theorem getLast_append {α : Type} (a b : List (Nat × α)) (n : Nat) :
    getLast (a ++ b) n = (getLast b n).or (getLast a n) := by
  simp only [getLast_eq_lookup, List.reverse_append, List.lookup_append]

theorem getLast_single {α : Type} (k : Nat) (v : α) (n : Nat) :
    getLast [(k, v)] n = if k = n then some v else none := by
  simp [getLast]

theorem getLast_snoc {α : Type} (l : List (Nat × α)) (k : Nat) (v : α) (n : Nat) :
    getLast (l ++ [(k, v)]) n = if k = n then some v else getLast l n := by
  rw [getLast_append, getLast_single]
  split <;> rfl

theorem getLast_snoc_forall {α : Type} {P : Nat → α → Prop} {l : List (Nat × α)} {k : Nat} {v : α}
    (hl : ∀ n w, getLast l n = some w → P n w) (hk : P k v) :
    ∀ n w, getLast (l ++ [(k, v)]) n = some w → P n w := by
  simp only [getLast_eq_lookup, List.reverse_append, List.reverse_singleton, List.singleton_append] at hl ⊢
  exact List.lookup_cons_imp hk hl

/-- the newest (last) table of an oldest-first list that mentions `n` decides -/
def newest : List Section → Nat → Option Entry
  | [], _ => none
  | t :: ts, n => (newest ts n).or (getLast t n)

theorem getLast_flatten (ts : List Section) (n : Nat) :
    getLast ts.flatten n = newest ts n := by
  induction ts with
  | nil => rfl
  | cons t ts ih => simp [List.flatten_cons, getLast_append, newest, ih]

/-- everything in the caches is what the specification says -/
def CacheOk (f : File) (c : Cache) : Prop :=
  (∀ n v, getLast c.obj n = some v → specGet f n = some v) ∧
  (∀ s ms, getLast c.stm s = some ms → loadObjStm f s = some ms)

theorem cacheOk_empty (f : File) : CacheOk f {} := by
  constructor <;> intro _ _ h <;> simp [getLast] at h

theorem getObjStm_keeps_obj (f : File) (c : Cache) (stm : Nat) : (getObjStm f c stm).2.obj = c.obj := by
  unfold getObjStm
  cases getLast c.stm stm with
  | some ms => rfl
  | none => cases loadObjStm f stm <;> rfl

theorem getObjStm_spec (f : File) (c : Cache) (stm : Nat) (h : CacheOk f c) :
    (getObjStm f c stm).1 = loadObjStm f stm ∧ CacheOk f (getObjStm f c stm).2 := by
  unfold getObjStm
  cases hc : getLast c.stm stm with
  | some ms => exact ⟨(h.2 stm ms hc).symm, h⟩
  | none =>
    cases hl : loadObjStm f stm with
    | none => exact ⟨rfl, h⟩
    | some ms => exact ⟨rfl, h.1, getLast_snoc_forall h.2 hl⟩

/-- the object cache after a load that answered `r` for `n`: only a found object is remembered -/
def cacheAdd (c : Cache) (n : Nat) : Option Val → Cache
  | none => c
  | some v => { c with obj := c.obj ++ [(n, v)] }

theorem cacheOk_cacheAdd {f : File} {c : Cache} {n : Nat} {r : Option Val} (h : CacheOk f c)
    (hr : r = specGet f n) : CacheOk f (cacheAdd c n r) := by
  cases r with
  | none => exact h
  | some v => exact ⟨getLast_snoc_forall h.1 hr.symm, h.2⟩

/-- `GetObject(n)` past `objCache`: it answers some `r` and remembers it on top of a cache `c'`
that differs from `c` at most in `objStmCache`; from sound caches `r` is what the lookup means. -/
theorem stepGet_miss (f : File) (c : Cache) (n : Nat) (hc : getLast c.obj n = none) :
    ∃ c' r, stepGet f c n = (r, cacheAdd c' n r) ∧ c'.obj = c.obj ∧
      (CacheOk f c → CacheOk f c' ∧ r = specGet f n) := by
  unfold stepGet specGet
  rw [hc]
  cases getLast f.xref n with
  | none => exact ⟨c, none, rfl, rfl, fun h => ⟨h, rfl⟩⟩
  | some e =>
    cases e with
    | free nx => exact ⟨c, none, rfl, rfl, fun h => ⟨h, rfl⟩⟩
    | «at» off =>
      simp only
      refine ⟨c, getUncompressed f n off, ?_, rfl, fun h => ⟨h, rfl⟩⟩
      cases getUncompressed f n off <;> rfl
    | inStm stm idx =>
      simp only
      refine ⟨(getObjStm f c stm).2, (getObjStm f c stm).1.bind (memberAt · n idx), ?_, ?_, fun h => ?_⟩
      · cases getObjStm f c stm with
        | mk r c' =>
          cases r with
          | none => rfl
          | some ms => simp only [Option.bind_some]; cases memberAt ms n idx <;> rfl
      · exact getObjStm_keeps_obj f c stm
      · obtain ⟨h1, h2⟩ := getObjStm_spec f c stm h
        rw [h1]
        exact ⟨h2, by cases loadObjStm f stm <;> rfl⟩

theorem stepGet_spec (f : File) (c : Cache) (n : Nat) (h : CacheOk f c) :
    (stepGet f c n).1 = specGet f n ∧ CacheOk f (stepGet f c n).2 := by
  cases hc : getLast c.obj n with
  | some v =>
    have e : stepGet f c n = (some v, c) := by simp only [stepGet, hc]
    rw [e]
    exact ⟨(h.1 n v hc).symm, h⟩
  | none =>
    obtain ⟨c', r, e, _, hok⟩ := stepGet_miss f c n hc
    rw [e]
    exact ⟨(hok h).2, cacheOk_cacheAdd (hok h).1 (hok h).2⟩

/-- the lookup of `n` reads the table at `n` and, when `n` is compressed, at its object stream,
and nowhere else -/
theorem specGet_congr {x1 x2 : Section} {objs : Objects} {n : Nat} (hn : getLast x1 n = getLast x2 n)
    (hs : ∀ stm idx, getLast x2 n = some (.inStm stm idx) → getLast x1 stm = getLast x2 stm) :
    specGet ⟨x1, objs⟩ n = specGet ⟨x2, objs⟩ n := by
  unfold specGet
  simp only [hn]
  cases hx : getLast x2 n with
  | none => rfl
  | some e =>
    cases e with
    | free nx => rfl
    | «at» off => rfl
    | inStm stm idx => simp only [loadObjStm, getUncompressed, hs stm idx hx]

/-- the cache-free answer sequence of an operation list -/
def specRun (f : File) : List Op → List (Option Val)
  | [] => []
  | .get n :: ops => specGet f n :: specRun f ops
  | .clear :: ops => specRun f ops

theorem specRun_append (f : File) (a b : List Op) :
    specRun f (a ++ b) = specRun f a ++ specRun f b := by
  induction a with
  | nil => rfl
  | cons op a ih =>
    cases op with
    | get n => exact congrArg (specGet f n :: ·) ih
    | clear => exact ih

theorem run_refines (f : File) (ops : List Op) (c : Cache) (h : CacheOk f c) :
    run f c ops = specRun f ops := by
  induction ops generalizing c with
  | nil => rfl
  | cons op ops ih =>
    cases op with
    | get n =>
      obtain ⟨h1, h2⟩ := stepGet_spec f c n h
      simp only [run, specRun]
      rw [h1, ih _ h2]
    | clear =>
      simp only [run, specRun]
      exact ih _ (cacheOk_empty f)

theorem getLast_mem_keys {α : Type} (l : List (Nat × α)) (n : Nat) (v : α)
    (h : getLast l n = some v) : n ∈ l.map Prod.fst := by
  rw [getLast_eq_lookup, List.lookup_eq_some_iff] at h
  obtain ⟨l₁, l₂, e, _⟩ := h
  exact List.mem_map.2 ⟨(n, v), List.mem_reverse.1 (e ▸ List.mem_append_right _ List.mem_cons_self), rfl⟩

/-- `path` is the `/Prev` chain that starts at offset `off` and ends at a section without
`/Prev` -/
inductive IsChain (secs : Sections) : Nat → List (Nat × Section) → Prop
  | last (off : Nat) (s : Section) :
      getLast secs off = some (s, none) → IsChain secs off [(off, s)]
  | step (off : Nat) (s : Section) (p : Nat) (rest : List (Nat × Section)) :
      getLast secs off = some (s, some p) → IsChain secs p rest →
      IsChain secs off ((off, s) :: rest)

theorem IsChain.keys_subset {secs : Sections} {off : Nat} {path : List (Nat × Section)}
    (h : IsChain secs off path) : path.map Prod.fst ⊆ secs.map Prod.fst := by
  induction h with
  | last off s hl => exact List.cons_subset.2 ⟨getLast_mem_keys _ _ _ hl, List.nil_subset _⟩
  | step off s p rest hl _ ih => exact List.cons_subset.2 ⟨getLast_mem_keys _ _ _ hl, ih⟩

section chainFrom
variable {secs : Sections} {fuel : Nat} {visited : List Nat} {off : Nat}

theorem chainFrom_visited (hv : visited.contains off = true) : chainFrom secs (fuel + 1) visited off = [] := by
  rw [chainFrom, if_pos hv]

theorem chainFrom_dangling (hl : getLast secs off = none) : chainFrom secs (fuel + 1) visited off = [] := by
  rw [chainFrom, hl]
  split <;> rfl

theorem chainFrom_last {s : Section} (hv : ¬visited.contains off = true)
    (hl : getLast secs off = some (s, none)) : chainFrom secs (fuel + 1) visited off = [s] := by
  rw [chainFrom, if_neg hv, hl]

theorem chainFrom_step {s : Section} {p : Nat} (hv : ¬visited.contains off = true)
    (hl : getLast secs off = some (s, some p)) :
    chainFrom secs (fuel + 1) visited off = s :: chainFrom secs fuel (off :: visited) p := by
  rw [chainFrom, if_neg hv, hl]

end chainFrom

theorem chainFrom_path (secs : Sections) (off : Nat) (path : List (Nat × Section))
    (h : IsChain secs off path) :
    ∀ (fuel : Nat) (visited : List Nat), path.length ≤ fuel →
      (path.map Prod.fst).Nodup → (∀ x ∈ path.map Prod.fst, x ∉ visited) →
      chainFrom secs fuel visited off = path.map Prod.snd := by
  induction h with
  | last off s hl =>
    intro fuel visited hf _ hv
    cases fuel with
    | zero => cases hf
    | succ fuel => exact chainFrom_last (mt List.contains_iff_mem.1 (hv off List.mem_cons_self)) hl
  | step off s p rest hl hrest ih =>
    intro fuel visited hf hnd hv
    cases fuel with
    | zero => cases hf
    | succ fuel =>
      obtain ⟨hoff, hnd⟩ := List.nodup_cons.1 hnd
      rw [chainFrom_step (mt List.contains_iff_mem.1 (hv off List.mem_cons_self)) hl,
        ih fuel (off :: visited) (Nat.le_of_succ_le_succ hf) hnd fun x hx hxv => ?_]
      · rfl
      · rcases List.mem_cons.1 hxv with rfl | hxv
        · exact hoff hx
        · exact hv x (List.mem_cons_of_mem _ hx) hxv

end Tabula.Xref
