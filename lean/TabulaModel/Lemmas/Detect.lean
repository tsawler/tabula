import TabulaModel.Model.Detect
import TabulaModel.Lemmas.ListBasics
/-!
Helper lemmas about `Model/Detect.lean`: case folding, `filepath.Ext` in closed form (`ext_eq`),
ZIP sniffing under permutation and decoys, `detectHTMLMagic` as a disjunction of three tests behind
a white lead, the two content entry points over any front test and archive sniffer (`sniffWith`),
and `validateFormat` / `ensureReader` by the form of the sniffer's answer.
-/
set_option autoImplicit false
namespace Tabula.Detect

/-! ### ASCII case folding -/

theorem lowerB_eq_dot (c : Nat) : lowerB c = 46 ↔ c = 46 := by
  unfold lowerB; split <;> omega

theorem lowerB_eq_slash (c : Nat) : lowerB c = 47 ↔ c = 47 := by
  unfold lowerB; split <;> omega

theorem lowerB_idem (c : Nat) : lowerB (lowerB c) = lowerB c := by
  unfold lowerB
  split
  · rw [if_neg (by omega)]
  · rfl

theorem lower_idem (s : Str) : lower (lower s) = lower s := by
  unfold lower
  rw [List.map_map]
  apply List.map_congr_left
  intro c _
  exact lowerB_idem c

theorem lower_append (a b : Str) : lower (a ++ b) = lower a ++ lower b := by
  unfold lower; simp

theorem lower_reverse (a : Str) : lower a.reverse = (lower a).reverse := by
  unfold lower; simp

/-! ### `filepath.Ext` -/

/-- a byte the loop of `filepath.Ext` walks over: neither dot nor path separator -/
def extPlain (c : Nat) : Bool := c != 46 && c != 47

theorem extPlain_iff {c : Nat} : extPlain c = true ↔ c ≠ 46 ∧ c ≠ 47 := by simp [extPlain]

theorem extPlain_lowerB (c : Nat) : extPlain (lowerB c) = extPlain c := by
  rw [Bool.eq_iff_iff, extPlain_iff, extPlain_iff, Ne, Ne, lowerB_eq_dot, lowerB_eq_slash]

/-- the loop in closed form: over the plain bytes to the first other one; a dot there gives the
extension (the one induction over `extRev`; everything about `ext` is read off `ext_eq`) -/
theorem extRev_eq (s acc : Str) :
    extRev s acc =
      if (s.dropWhile extPlain).head? = some 46 then 46 :: ((s.takeWhile extPlain).reverse ++ acc) else [] := by
  induction s generalizing acc with
  | nil => rfl
  | cons c rest ih =>
    rw [extRev]
    by_cases h47 : c = 47
    · subst h47; rfl
    · by_cases h46 : c = 46
      · subst h46; rfl
      · have hp : extPlain c = true := extPlain_iff.2 ⟨h46, h47⟩
        rw [if_neg h47, if_neg h46, ih, List.dropWhile_cons_of_pos hp, List.takeWhile_cons_of_pos hp]
        simp

/-- `filepath.Ext` in closed form: back from the end of the name over the plain bytes; a dot in
front of them starts the extension, anything else (a separator, the start of the name) means none -/
theorem ext_eq (name : Str) :
    ext name =
      if (name.reverse.dropWhile extPlain).head? = some 46 then 46 :: (name.reverse.takeWhile extPlain).reverse
      else [] := by
  rw [ext, extRev_eq, List.append_nil]

theorem ext_lower (s : Str) : ext (lower s) = lower (ext s) := by
  have hf : extPlain ∘ lowerB = extPlain := funext extPlain_lowerB
  have h46 : ∀ o : Option Nat, o.map lowerB = some 46 ↔ o = some 46 := fun o => by
    cases o <;> simp [lowerB_eq_dot]
  rw [ext_eq, ext_eq, ← lower_reverse]
  generalize s.reverse = r
  simp only [lower, List.dropWhile_map, List.takeWhile_map, hf, List.head?_map, h46]
  split <;> simp [lowerB]

/-- `Detect` looks at the lower-cased name only -/
theorem detect_lower (s : Str) : detect (lower s) = detect s := by
  unfold detect
  rw [ext_lower, lower_idem]

/-- the extension of `stem ++ "." ++ t` is `"." ++ t` when `t` has neither dot nor slash -/
theorem ext_append (stem t : Str) (h : ∀ c ∈ t, c ≠ 46 ∧ c ≠ 47) :
    ext (stem ++ 46 :: t) = 46 :: t := by
  have h' : ∀ c ∈ t.reverse, extPlain c = true := fun c hc => extPlain_iff.2 (h c (List.mem_reverse.1 hc))
  have e : (stem ++ 46 :: t).reverse = t.reverse ++ 46 :: stem.reverse := by simp
  rw [ext_eq, e, List.dropWhile_append_cons_of_neg h' (by decide), List.takeWhile_append_cons_of_neg h' (by decide),
    List.reverse_reverse]
  rfl

theorem ext_nil_of_noDot (s : Str) (h : ∀ c ∈ s, c ≠ 46) : ext s = [] := by
  rw [ext_eq, if_neg]
  intro hd
  exact h 46 (List.mem_reverse.1 ((List.dropWhile_sublist _).subset (List.mem_of_mem_head? hd))) rfl

/-- `filepath.Ext` looks at the last path element only -/
theorem ext_slash (dir base : Str) : ext (dir ++ 47 :: base) = ext base := by
  have e : (dir ++ 47 :: base).reverse = base.reverse ++ 47 :: dir.reverse := by simp
  rw [ext_eq, ext_eq, e]
  generalize base.reverse = b
  rw [List.dropWhile_append, List.takeWhile_append]
  cases hd : b.dropWhile extPlain with
  | nil => simp [extPlain]
  | cons c t =>
    -- the walk stops inside `base`
    have : (b.takeWhile extPlain).length ≠ b.length := by
      intro hl
      have := congrArg List.length (List.takeWhile_append_dropWhile (p := extPlain) (l := b))
      rw [hd] at this; simp at this; omega
    simp [this]

/-! ### the ZIP sniffer: the mimetype loop, permutations, appended members -/

/-- the first loop of `detectZIPFormat` is `findSome?` over the members -/
theorem firstMime_eq_findSome? (ms : List Member) : firstMime ms = ms.findSome? mimeVerdict := by
  induction ms with
  | nil => rfl
  | cons m ms ih =>
    rw [firstMime, List.findSome?_cons, ih]
    cases mimeVerdict m <;> rfl

theorem firstMime_eq_none {ms : List Member} :
    firstMime ms = none ↔ ∀ m ∈ ms, mimeVerdict m = none := by
  rw [firstMime_eq_findSome?]; exact List.findSome?_eq_none_iff

theorem firstMime_some_mem {ms : List Member} {f : Format} (h : firstMime ms = some f) :
    ∃ m ∈ ms, mimeVerdict m = some f :=
  List.exists_of_findSome?_eq_some (firstMime_eq_findSome? ms ▸ h)

/-- all "mimetype" members that name a known type name the same one
(true in particular when member names are pairwise distinct) -/
def MimeAgree (ms : List Member) : Prop :=
  ∀ m ∈ ms, ∀ m' ∈ ms, ∀ f g, mimeVerdict m = some f → mimeVerdict m' = some g → f = g

theorem firstMime_of_mem {ms : List Member} (ha : MimeAgree ms) {m : Member} (hm : m ∈ ms)
    {f : Format} (hv : mimeVerdict m = some f) : firstMime ms = some f := by
  cases h : firstMime ms with
  | none => rw [firstMime_eq_none.1 h m hm] at hv; cases hv
  | some g =>
    obtain ⟨m', hm', hv'⟩ := firstMime_some_mem h
    rw [ha m hm m' hm' f g hv hv']

theorem MimeAgree.perm {ms ms' : List Member} (hp : ms.Perm ms') (ha : MimeAgree ms) : MimeAgree ms' :=
  fun m hm m' hm' f g hf hg => ha m (hp.mem_iff.2 hm) m' (hp.mem_iff.2 hm') f g hf hg

theorem firstMime_perm {ms ms' : List Member} (hp : ms.Perm ms') (ha : MimeAgree ms) :
    firstMime ms = firstMime ms' := by
  cases h : firstMime ms with
  | none =>
    symm
    rw [firstMime_eq_none]
    intro m hm
    exact firstMime_eq_none.1 h m (hp.mem_iff.2 hm)
  | some f =>
    obtain ⟨m, hm, hv⟩ := firstMime_some_mem h
    exact (firstMime_of_mem (ha.perm hp) (hp.mem_iff.1 hm) hv).symm

theorem hasMember_perm (n : Str) {ms ms' : List Member} (hp : ms.Perm ms') :
    hasMember n ms = hasMember n ms' := hp.any_eq

theorem hasDir_perm (p : Str) {ms ms' : List Member} (hp : ms.Perm ms') :
    hasDir p ms = hasDir p ms' := hp.any_eq

theorem detectZip_perm {ms ms' : List Member} (hp : ms.Perm ms') (ha : MimeAgree ms) :
    detectZip ms = detectZip ms' := by
  unfold detectZip
  rw [firstMime_perm hp ha, hasMember_perm _ hp, hasMember_perm _ hp, hasMember_perm _ hp,
    hasMember_perm _ hp, hasDir_perm _ hp, hasDir_perm _ hp, hasDir_perm _ hp]

theorem firstMime_append (a b : List Member) :
    firstMime (a ++ b) = (firstMime a).or (firstMime b) := by
  simp only [firstMime_eq_findSome?, List.findSome?_append]

theorem hasMember_append (n : Str) (a b : List Member) :
    hasMember n (a ++ b) = (hasMember n a || hasMember n b) := by
  unfold hasMember; simp

theorem hasDir_append (p : Str) (a b : List Member) :
    hasDir p (a ++ b) = (hasDir p a || hasDir p b) := by
  unfold hasDir; simp

theorem hasMember_false_of_forall (n : Str) (ds : List Member) (h : ∀ d ∈ ds, d.name ≠ n) :
    hasMember n ds = false := by
  unfold hasMember
  rw [List.any_eq_false]
  intro d hd
  simpa using h d hd

theorem mimeVerdict_none_of_name {m : Member} (h : m.name ≠ nMimetype) : mimeVerdict m = none := by
  unfold mimeVerdict; simp [h]

/-- the test on the content of a "mimetype" member: ODT by substring first, then EPUB by equality -/
theorem mimeTest_eq_some {a : Bool} {b : Prop} [Decidable b] {f : Format} :
    (if a = true then some Format.odt else if b then some .epub else none) = some f ↔
      (a = true ∧ f = .odt) ∨ (a = false ∧ b ∧ f = .epub) := by
  cases a <;> by_cases hb : b <;> simp [hb, eq_comm]

/-- distinct member names (every well-formed archive): at most one member is called `mimetype` -/
theorem MimeAgree.of_nodup {ms : List Member} (h : (ms.map (·.name)).Nodup) : MimeAgree ms := by
  intro m hm m' hm' f g hf hg
  -- both are named `mimetype`, so they are the same member
  have hname : ∀ x : Member, ∀ v, mimeVerdict x = some v → x.name = nMimetype := fun x v hv =>
    Classical.byContradiction fun hne => by rw [mimeVerdict_none_of_name hne] at hv; cases hv
  have : m = m' := List.inj_on_of_nodup_map h hm hm' ((hname m f hf).trans (hname m' g hg).symm)
  subst this
  exact Option.some.inj (hf.symm.trans hg)

/-! ### what a mimetype member says; the range of the ZIP sniffer -/

/-- what the "mimetype" member must contain to decide: ODT by substring, EPUB exactly, after
trimming white space, ODT first -/
theorem mimeVerdict_eq_some_iff (m : Member) (f : Format) :
    mimeVerdict m = some f ↔
      m.name = nMimetype ∧ ∃ d, m.data = some d ∧
        ((hasSub odtMime (trimSpace (d.take 256)) = true ∧ f = .odt) ∨
         (hasSub odtMime (trimSpace (d.take 256)) = false ∧ trimSpace (d.take 256) = epubMime ∧ f = .epub)) := by
  unfold mimeVerdict
  by_cases hn : m.name = nMimetype
  · rw [if_pos hn]
    cases m.data with
    | none => simp
    | some d =>
      simp only [hn, true_and, Option.some.injEq, exists_eq_left']
      exact mimeTest_eq_some
  · simp [hn]

theorem mimeVerdict_range {m : Member} {f : Format} (h : mimeVerdict m = some f) : f = .odt ∨ f = .epub := by
  obtain ⟨_, _, _, ⟨_, hf⟩ | ⟨_, _, hf⟩⟩ := (mimeVerdict_eq_some_iff m f).1 h
  · exact Or.inl hf
  · exact Or.inr hf

theorem detectZip_range (ms : List Member) :
    detectZip ms = .odt ∨ detectZip ms = .epub ∨ detectZip ms = .docx ∨ detectZip ms = .xlsx ∨
      detectZip ms = .pptx ∨ detectZip ms = .unknown := by
  fun_cases detectZip ms
  · rename_i f hf
    obtain ⟨m, _, hv⟩ := firstMime_some_mem hf
    rcases mimeVerdict_range hv with rfl | rfl <;> simp
  all_goals simp

/-! ### HTML white space, prefix tests, `strings.Contains` -/

theorem upperB_eq_lt (c : Nat) (h : upperB c = 60) : c = 60 := by
  unfold upperB at h; split at h <;> omega

theorem isMagicWS_le {c : Nat} (h : isMagicWS c = true) : c ≤ 32 := by
  unfold isMagicWS at h
  simp at h
  omega

theorem isMagicWS_of_gt {c : Nat} (h : 32 < c) : isMagicWS c = false := by
  cases hq : isMagicWS c with
  | false => rfl
  | true => have := isMagicWS_le hq; omega

theorem isMagicWS_ne (c : Nat) (h : isMagicWS c = true) : c ≠ 60 ∧ c ≠ 37 ∧ c ≠ 80 := by
  have := isMagicWS_le h
  omega

theorem split_ws (data : Str) : ∃ ws, data = ws ++ data.dropWhile isMagicWS ∧ ∀ c ∈ ws, isMagicWS c = true :=
  ⟨data.takeWhile isMagicWS, List.takeWhile_append_dropWhile.symm, fun c hc => List.all_eq_true.1 List.all_takeWhile c hc⟩

theorem isPrefixOf_append_self (p r : Str) : p.isPrefixOf (p ++ r) = true := by
  rw [List.isPrefixOf_iff_prefix]; exact List.prefix_append p r

theorem isPrefixOf_head_ne (p t : Str) (a b : Nat) (h : a ≠ b) : (a :: p).isPrefixOf (b :: t) = false := by
  simp [List.isPrefixOf, h]

theorem isPrefixOf_head_eq {p t : Str} {a b : Nat} (h : (a :: p).isPrefixOf (b :: t) = true) : a = b := by
  apply Classical.byContradiction
  intro hne
  rw [isPrefixOf_head_ne p t a b hne] at h
  cases h

theorem isPrefixOf_length {p l : Str} (h : p.isPrefixOf l = true) : p.length ≤ l.length := by
  rw [List.isPrefixOf_iff_prefix] at h
  exact h.length_le

theorem isPrefixOf_short {p l : Str} (h : l.length < p.length) : p.isPrefixOf l = false := by
  cases hq : p.isPrefixOf l with
  | false => rfl
  | true => have := isPrefixOf_length hq; omega

theorem take_append_short (a r : Str) (n : Nat) (h : a.length ≤ n) :
    (a ++ r).take n = a ++ r.take (n - a.length) := by
  rw [List.take_append, List.take_of_length_le h]

/-- `strings.Contains` is the infix relation of lists -/
theorem hasSub_iff_infix {pat s : Str} : hasSub pat s = true ↔ pat <:+: s := by
  induction s with
  | nil => simp [hasSub]
  | cons c cs ih => simp only [hasSub, Bool.or_eq_true, List.isPrefixOf_iff_prefix, ih, List.infix_cons_iff]

theorem hasSub_eq_true_iff {pat s : Str} : hasSub pat s = true ↔ ∃ a b, s = a ++ (pat ++ b) := by
  rw [hasSub_iff_infix]
  exact ⟨fun ⟨a, b, h⟩ => ⟨a, b, by rw [← h, List.append_assoc]⟩, fun ⟨a, b, h⟩ => ⟨a, b, by rw [h, List.append_assoc]⟩⟩

theorem upper_append (a b : Str) : upper (a ++ b) = upper a ++ upper b := by
  unfold upper; simp

theorem upper_length (a : Str) : (upper a).length = a.length := by
  unfold upper; simp

/-- white space is not changed by upper-casing -/
theorem upperB_ws (c : Nat) (h : isMagicWS c = true) : upperB c = c := by
  have := isMagicWS_le h
  unfold upperB
  rw [if_neg (by omega)]

theorem upper_ws (ws : Str) (hws : ∀ c ∈ ws, isMagicWS c = true) : upper ws = ws :=
  (List.map_congr_left fun c hc => upperB_ws c (hws c hc)).trans (List.map_id' ws)

/-- a text whose first non-blank byte is `<` starts neither like a PDF nor like a ZIP -/
theorem not_pdf_zip_prefix_lt (lead r : Str) (hl : ∀ c ∈ lead, isMagicWS c = true) :
    sPdfMagic.isPrefixOf (lead ++ 60 :: r) = false ∧ sZipMagic.isPrefixOf (lead ++ 60 :: r) = false := by
  cases lead with
  | nil => exact ⟨isPrefixOf_head_ne _ _ _ _ (by decide), isPrefixOf_head_ne _ _ _ _ (by decide)⟩
  | cons w ws =>
    have hw := isMagicWS_ne w (hl w (by simp))
    exact ⟨isPrefixOf_head_ne _ _ _ _ (fun h => hw.2.1 h.symm), isPrefixOf_head_ne _ _ _ _ (fun h => hw.2.2 h.symm)⟩

/-! ### `detectHTMLMagic` -/

/-- `<!DOCTYPE`, a non-empty run of white space, `HTML`, then anything is a doctype -/
theorem isHTMLDoctype_ws (ws r : Str) (hne : ws ≠ []) (hws : ∀ c ∈ ws, isMagicWS c = true) :
    isHTMLDoctype (sDoctype ++ (ws ++ (sHtmlName ++ r))) = true := by
  unfold isHTMLDoctype
  have h1 : sDoctype.isPrefixOf (sDoctype ++ (ws ++ (sHtmlName ++ r))) = true :=
    isPrefixOf_append_self _ _
  have h2 : (sDoctype ++ (ws ++ (sHtmlName ++ r))).drop sDoctype.length = ws ++ (sHtmlName ++ r) :=
    List.drop_left
  have h3 : (ws ++ (sHtmlName ++ r)).dropWhile isMagicWS = sHtmlName ++ r := by
    have e : sHtmlName ++ r = 72 :: ([84, 77, 76] ++ r) := rfl
    rw [e]; exact List.dropWhile_append_cons_of_neg hws (by decide)
  have h4 : (sHtmlName ++ r).length < (ws ++ (sHtmlName ++ r)).length := by
    have : 0 < ws.length := List.length_pos_iff.mpr hne
    simp only [List.length_append]; omega
  simp only [h1, h2, h3, isPrefixOf_append_self, h4, decide_true, Bool.and_self]

/-- `format.isHTMLDoctype`, exactly: `<!DOCTYPE`, a NON-EMPTY run of HTML white space,
`HTML`, anything — and nothing else -/
theorem isHTMLDoctype_eq_true_iff (u : Str) :
    isHTMLDoctype u = true ↔ ∃ ws rest, ws ≠ [] ∧ (∀ c ∈ ws, isMagicWS c = true) ∧
      u = sDoctype ++ (ws ++ (sHtmlName ++ rest)) := by
  constructor
  · intro h
    unfold isHTMLDoctype at h
    simp only [Bool.and_eq_true, decide_eq_true_eq] at h
    obtain ⟨hp, hlt, hn⟩ := h
    obtain ⟨r, hr⟩ := List.isPrefixOf_iff_prefix.1 hp
    subst hr
    rw [List.drop_left] at hlt hn
    obtain ⟨rest, hrest⟩ := List.isPrefixOf_iff_prefix.1 hn
    refine ⟨r.takeWhile isMagicWS, rest, ?_, fun c hc => List.all_eq_true.1 List.all_takeWhile c hc, ?_⟩
    · intro he
      have := List.takeWhile_append_dropWhile (p := isMagicWS) (l := r)
      rw [he] at this; simp only [List.nil_append] at this
      rw [this] at hlt; exact absurd hlt (Nat.lt_irrefl _)
    · rw [hrest, List.takeWhile_append_dropWhile]
  · rintro ⟨ws, rest, hne, hws, rfl⟩
    exact isHTMLDoctype_ws ws rest hne hws

/-- the three front tests of `detectHTMLMagic` on the upper-cased text `u`; `w` is the window of
the `<?XML` test (the ASCII model and the byte-exact one differ in `w` only) -/
def htmlTests (u w : Str) : Bool :=
  isHTMLDoctype u || sHtmlTag.isPrefixOf u || (sXmlDecl.isPrefixOf u && hasSub sHtmlTag w)

theorem htmlTests_eq_or (u w : Str) :
    (if isHTMLDoctype u then true
     else if sHtmlTag.isPrefixOf u then true
     else if sXmlDecl.isPrefixOf u && hasSub sHtmlTag w then true
     else false) = htmlTests u w := by
  unfold htmlTests
  cases isHTMLDoctype u <;> cases sHtmlTag.isPrefixOf u <;>
    cases (sXmlDecl.isPrefixOf u && hasSub sHtmlTag w) <;> rfl

/-- what the tests accept, written out -/
theorem htmlTests_iff (u w : Str) :
    htmlTests u w = true ↔
      (∃ ws rest, ws ≠ [] ∧ (∀ c ∈ ws, isMagicWS c = true) ∧ u = sDoctype ++ (ws ++ (sHtmlName ++ rest))) ∨
      (∃ rest, u = sHtmlTag ++ rest) ∨
      (∃ rest a b, u = sXmlDecl ++ rest ∧ w = a ++ (sHtmlTag ++ b)) := by
  have hpre : ∀ p : Str, p.isPrefixOf u = true ↔ ∃ rest, u = p ++ rest := fun p =>
    List.isPrefixOf_iff_prefix.trans ⟨fun ⟨r, hr⟩ => ⟨r, hr.symm⟩, fun ⟨r, hr⟩ => ⟨r, hr.symm⟩⟩
  simp only [htmlTests, Bool.or_eq_true, Bool.and_eq_true, isHTMLDoctype_eq_true_iff, hpre, hasSub_eq_true_iff,
    or_assoc, exists_and_left, exists_and_right]

/-- a text that passes the tests passes them with anything behind it and behind its window -/
theorem htmlTests_mono {u w : Str} (t z : Str) (h : htmlTests u w = true) : htmlTests (u ++ t) (w ++ z) = true := by
  rw [htmlTests_iff] at h ⊢
  rcases h with ⟨ws, rest, hne, hws, rfl⟩ | ⟨rest, rfl⟩ | ⟨rest, a, b, rfl, rfl⟩
  · exact Or.inl ⟨ws, rest ++ t, hne, hws, by simp only [List.append_assoc]⟩
  · exact Or.inr (Or.inl ⟨rest ++ t, by simp only [List.append_assoc]⟩)
  · exact Or.inr (Or.inr ⟨rest ++ t, a, b ++ z, by simp only [List.append_assoc], by simp only [List.append_assoc]⟩)

/-- … each of them starts with `<` -/
theorem htmlTests_lt {c : Nat} {r w : Str} (h : htmlTests (c :: r) w = true) : c = 60 := by
  simp only [htmlTests, Bool.or_eq_true, Bool.and_eq_true] at h
  rcases h with (h | h) | ⟨h, _⟩
  · unfold isHTMLDoctype at h
    exact (isPrefixOf_head_eq (Bool.and_eq_true _ _ ▸ h).1).symm
  · exact (isPrefixOf_head_eq h).symm
  · exact (isPrefixOf_head_eq h).symm

/-- … and all of them fail on fewer than five bytes -/
theorem htmlTests_short {u : Str} (w : Str) (hu : u.length < 5) : htmlTests u w = false := by
  have h1 : isHTMLDoctype u = false := by
    unfold isHTMLDoctype; rw [isPrefixOf_short (Nat.lt_of_lt_of_le hu (by decide))]; rfl
  rw [htmlTests, h1, isPrefixOf_short (p := sHtmlTag) hu, isPrefixOf_short (p := sXmlDecl) hu]
  rfl

/-- what the tests accept behind a white lead is white space followed by `<` -/
theorem htmlTests_dropWhile_lt {data w : Str} (h : htmlTests (upper (data.dropWhile isMagicWS)) w = true) :
    ∃ lead t, data = lead ++ 60 :: t ∧ ∀ c ∈ lead, isMagicWS c = true := by
  obtain ⟨ws, hsplit, hws⟩ := split_ws data
  cases hd : data.dropWhile isMagicWS with
  | nil => rw [hd] at h; cases (htmlTests_short (u := []) w (by decide)).symm.trans h
  | cons c t =>
    rw [hd] at h hsplit
    have hc : c = 60 := upperB_eq_lt c (htmlTests_lt (c := upperB c) (r := upper t) h)
    exact ⟨ws, t, hc ▸ hsplit, hws⟩

/-- `detectHTMLMagic` is the three tests on what follows the white lead, upper-cased (the
empty-input branch is not a case of its own) -/
theorem detectHTMLMagic_eq_or (data : Str) :
    detectHTMLMagic data =
      htmlTests (upper (data.dropWhile isMagicWS)) ((upper (data.dropWhile isMagicWS)).take 500) := by
  unfold detectHTMLMagic
  cases data.dropWhile isMagicWS with
  | nil => decide
  | cons c t => simp only [List.isEmpty_cons, Bool.false_eq_true, if_false, htmlTests_eq_or]

theorem detectHTMLMagic_short {data : Str} (h : data.length < 4) : detectHTMLMagic data = false := by
  rw [detectHTMLMagic_eq_or]
  apply htmlTests_short
  have := (List.dropWhile_sublist (l := data) isMagicWS).length_le
  rw [upper_length]; omega

/-- what `detectHTMLMagic` accepts is white space followed by `<` -/
theorem detectHTMLMagic_lt {data : Str} (h : detectHTMLMagic data = true) :
    ∃ lead t, data = lead ++ 60 :: t ∧ ∀ c ∈ lead, isMagicWS c = true :=
  htmlTests_dropWhile_lt (detectHTMLMagic_eq_or data ▸ h)

/-- the language of `detectHTMLMagic`: any white lead, then a text that passes the tests
(which starts with `<`, so the lead is all the white space there is) -/
theorem detectHTMLMagic_iff (data : Str) :
    detectHTMLMagic data = true ↔ ∃ lead d, data = lead ++ d ∧ (∀ c ∈ lead, isMagicWS c = true) ∧
      htmlTests (upper d) ((upper d).take 500) = true := by
  constructor
  · intro h
    obtain ⟨ws, hsplit, hws⟩ := split_ws data
    exact ⟨ws, _, hsplit, hws, detectHTMLMagic_eq_or data ▸ h⟩
  · rintro ⟨lead, d, rfl, hl, h⟩
    cases d with
    | nil => cases (htmlTests_short (u := []) _ (by decide)).symm.trans h
    | cons c t =>
      have hc : c = 60 := upperB_eq_lt c (htmlTests_lt (c := upperB c) (r := upper t) h)
      subst hc
      rw [detectHTMLMagic_eq_or, List.dropWhile_append_cons_of_neg hl (by decide)]
      exact h

/-- white space, `<!DOCTYPE` in any letter case, a non-empty run of white space
(blanks, tabs, line breaks, form feeds), `html` in any letter case, then anything -/
theorem detectHTMLMagic_doctype_ws (lead d ws n rest : Str) (hl : ∀ c ∈ lead, isMagicWS c = true)
    (hd : upper d = sDoctype) (hne : ws ≠ []) (hws : ∀ c ∈ ws, isMagicWS c = true)
    (hn : upper n = sHtmlName) :
    detectHTMLMagic (lead ++ (d ++ (ws ++ (n ++ rest)))) = true :=
  (detectHTMLMagic_iff _).2 ⟨lead, _, rfl, hl, (htmlTests_iff _ _).2 (Or.inl ⟨ws, upper rest, hne, hws, by
    rw [upper_append, upper_append, upper_append, hd, upper_ws ws hws, hn]⟩)⟩

/-- white space, then `<!DOCTYPE html` in any letter case, then anything -/
theorem detectHTMLMagic_doctype (ws d rest : Str) (hws : ∀ c ∈ ws, isMagicWS c = true)
    (hd : upper d = sDoctypeHtml) : detectHTMLMagic (ws ++ d ++ rest) = true := by
  rw [List.append_assoc]
  exact (detectHTMLMagic_iff _).2 ⟨ws, _, rfl, hws, (htmlTests_iff _ _).2 (Or.inl ⟨[32], upper rest, by simp,
    by decide, by rw [upper_append, hd]; rfl⟩)⟩

/-- white space, `<html` in any letter case, then anything -/
theorem detectHTMLMagic_tag (lead t rest : Str) (hl : ∀ c ∈ lead, isMagicWS c = true)
    (ht : upper t = sHtmlTag) : detectHTMLMagic (lead ++ (t ++ rest)) = true :=
  (detectHTMLMagic_iff _).2 ⟨lead, _, rfl, hl, (htmlTests_iff _ _).2 (Or.inr (Or.inl ⟨upper rest, by
    rw [upper_append, ht]⟩))⟩

/-- white space, `<?xml` in any letter case, anything, `<html` in any letter case — all
within 500 bytes of the `<` — then anything -/
theorem detectHTMLMagic_xmldecl (lead x mid t rest : Str) (hl : ∀ c ∈ lead, isMagicWS c = true)
    (hx : upper x = sXmlDecl) (ht : upper t = sHtmlTag)
    (h500 : x.length + mid.length + t.length ≤ 500) :
    detectHTMLMagic (lead ++ (x ++ (mid ++ (t ++ rest)))) = true := by
  -- the tag lies inside the 500-byte window
  have hlen : (sXmlDecl ++ (upper mid ++ sHtmlTag)).length ≤ 500 := by
    have h1 := upper_length x; rw [hx] at h1
    have h2 := upper_length t; rw [ht] at h2
    simp only [List.length_append, upper_length]; omega
  refine (detectHTMLMagic_iff _).2 ⟨lead, _, rfl, hl, (htmlTests_iff _ _).2 (Or.inr (Or.inr
    ⟨upper (mid ++ (t ++ rest)), sXmlDecl ++ upper mid, (upper rest).take (500 - (sXmlDecl ++ (upper mid ++ sHtmlTag)).length),
      by rw [upper_append, hx], ?_⟩))⟩
  have e : ∀ z : Str, sXmlDecl ++ (upper mid ++ (sHtmlTag ++ z)) = (sXmlDecl ++ (upper mid ++ sHtmlTag)) ++ z :=
    fun z => by simp only [List.append_assoc]
  rw [upper_append, upper_append, upper_append, hx, ht, e, take_append_short _ _ 500 hlen, ← e, List.append_assoc]

/-! ### the content entry points over any HTML front test and any archive sniffer

`detectFromReader` / `detectFromMagic` and their byte-exact counterparts in
`Model/DetectBytes.lean` differ only in the HTML front test and the archive sniffer they call;
what each answer means is proved once, for `sniffWith` / `magicWith`. -/

def sniffWith (html : Str → Bool) (zipF : List Member → Format) (file : Str) (zip : Option (List Member)) :
    Option Format :=
  if sPdfMagic.isPrefixOf (file.take 512) then some .pdf
  else if sZipMagic.isPrefixOf (file.take 512) then zip.map zipF
  else some (if html (file.take 512) then .html else .unknown)

def magicWith (html : Str → Bool) (data : Str) : Format :=
  if data.length < 4 then .unknown
  else if sPdfMagic.isPrefixOf data then .pdf
  else if sZipMagic.isPrefixOf data then .unknown
  else if html data then .html
  else .unknown

theorem detectFromReader_eq_sniffWith (file : Str) (zip : Option (List Member)) :
    detectFromReader file zip = sniffWith detectHTMLMagic detectZip file zip := by
  unfold detectFromReader sniffWith
  dsimp only
  cases zip <;> cases detectHTMLMagic (file.take 512) <;> rfl

theorem detectFromMagic_eq_magicWith (data : Str) : detectFromMagic data = magicWith detectHTMLMagic data := rfl

/-- the two signatures differ in the first byte -/
theorem not_pdf_of_zip {d : Str} (hz : sZipMagic.isPrefixOf d = true) : sPdfMagic.isPrefixOf d = false := by
  cases d with
  | nil => rfl
  | cons c t =>
    have : 80 = c := by
      simp only [sZipMagic, List.isPrefixOf, Bool.and_eq_true, beq_iff_eq] at hz; exact hz.1
    subst this; rfl

section
variable {html : Str → Bool} {zipF : List Member → Format} {file : Str} (zip : Option (List Member))

theorem sniffWith_pdf (hp : sPdfMagic.isPrefixOf (file.take 512) = true) :
    sniffWith html zipF file zip = some .pdf := by
  unfold sniffWith; rw [if_pos hp]

theorem sniffWith_zip (hz : sZipMagic.isPrefixOf (file.take 512) = true) :
    sniffWith html zipF file zip = zip.map zipF := by
  unfold sniffWith; rw [if_neg (Bool.eq_false_iff.1 (not_pdf_of_zip hz)), if_pos hz]

theorem sniffWith_text (hp : sPdfMagic.isPrefixOf (file.take 512) = false)
    (hz : sZipMagic.isPrefixOf (file.take 512) = false) :
    sniffWith html zipF file zip = some (if html (file.take 512) then .html else .unknown) := by
  unfold sniffWith; rw [if_neg (Bool.eq_false_iff.1 hp), if_neg (Bool.eq_false_iff.1 hz)]

end

/-- what each answer of the sniffer means: PDF iff the file starts `%PDF`; HTML iff it starts
with neither signature and the front test accepts the window; an error iff it starts with a
local header and is no readable archive -/
theorem sniffWith_spec (html : Str → Bool) (zipF : List Member → Format)
    (hr : ∀ ms, zipF ms ≠ .pdf ∧ zipF ms ≠ .html) (file : Str) (zip : Option (List Member)) :
    (sniffWith html zipF file zip = some .pdf ↔ sPdfMagic.isPrefixOf (file.take 512) = true) ∧
    (sniffWith html zipF file zip = some .html ↔
      sPdfMagic.isPrefixOf (file.take 512) = false ∧ sZipMagic.isPrefixOf (file.take 512) = false ∧
        html (file.take 512) = true) ∧
    (sniffWith html zipF file zip = none ↔
      sPdfMagic.isPrefixOf (file.take 512) = false ∧ sZipMagic.isPrefixOf (file.take 512) = true ∧ zip = none) := by
  cases hp : sPdfMagic.isPrefixOf (file.take 512) with
  | true => simp [sniffWith_pdf zip hp]
  | false =>
    cases hz : sZipMagic.isPrefixOf (file.take 512) with
    | true =>
      rw [sniffWith_zip zip hz]
      cases zip with
      | none => simp
      | some ms => simp [(hr ms).1, (hr ms).2]
    | false =>
      rw [sniffWith_text zip hp hz]
      cases html (file.take 512) <;> simp

theorem sniffWith_congr {html html' : Str → Bool} {zipF zipF' : List Member → Format} {file : Str}
    {zip : Option (List Member)} (h1 : html (file.take 512) = html' (file.take 512))
    (h2 : ∀ ms, zip = some ms → zipF ms = zipF' ms) :
    sniffWith html zipF file zip = sniffWith html' zipF' file zip := by
  unfold sniffWith
  rw [h1]
  cases zip with
  | none => rfl
  | some ms => rw [Option.map_some, Option.map_some, h2 ms rfl]

/-- on data that fits the window and is no ZIP the two entry points agree, provided the front
test refuses what is shorter than every signature -/
theorem sniffWith_eq_magicWith {html : Str → Bool} (zipF : List Member → Format)
    (hshort : ∀ d : Str, d.length < 4 → html d = false) {data : Str} (zip : Option (List Member))
    (hlen : data.length ≤ 512) (hz : sZipMagic.isPrefixOf data = false) :
    sniffWith html zipF data zip = some (magicWith html data) := by
  unfold sniffWith magicWith
  rw [List.take_of_length_le hlen, if_neg (Bool.eq_false_iff.1 hz), if_neg (Bool.eq_false_iff.1 hz)]
  by_cases h4 : data.length < 4
  · rw [if_pos h4, if_neg (Bool.eq_false_iff.1 (isPrefixOf_short (by exact h4))), hshort data h4]
    rfl
  · rw [if_neg h4]
    split <;> rfl

theorem magicWith_zip {html : Str → Bool} {data : Str} (hz : sZipMagic.isPrefixOf data = true) :
    magicWith html data = .unknown := by
  unfold magicWith
  rw [if_neg (Bool.eq_false_iff.1 (not_pdf_of_zip hz)), if_pos hz]
  split <;> rfl

theorem detectFromReader_zip_magic (rest : Str) (ms : List Member) :
    detectFromReader (sZipMagic ++ rest) (some ms) = some (detectZip ms) := by
  have hz : sZipMagic.isPrefixOf ((sZipMagic ++ rest).take 512) = true := by
    rw [take_append_short sZipMagic rest 512 (by decide)]; exact isPrefixOf_append_self _ _
  rw [detectFromReader_eq_sniffWith, sniffWith_zip _ hz]
  rfl

/-- a front within the sniffer's window that `detectHTMLMagic` accepts whatever follows makes
the file HTML -/
theorem detectFromReader_html_front (front rest : Str) (zip : Option (List Member)) (hlen : front.length ≤ 512)
    (h : ∀ r, detectHTMLMagic (front ++ r) = true) : detectFromReader (front ++ rest) zip = some .html := by
  have hm := h (rest.take (512 - front.length))
  rw [← take_append_short front rest 512 hlen] at hm
  obtain ⟨lead, t, he, hl⟩ := detectHTMLMagic_lt hm
  have hpz := not_pdf_zip_prefix_lt lead t hl
  rw [← he] at hpz
  rw [detectFromReader_eq_sniffWith, sniffWith_text zip hpz.1 hpz.2, hm]
  rfl

/-! ### admission: `validateFormat` and `ensureReader` by the form of the sniffer's answer -/

theorem validateFormat_unknown (extF : Format) : validateFormat extF (some .unknown) = .ok := rfl

theorem validateFormat_self (d : Format) : validateFormat d (some d) = .ok := by
  simp [validateFormat]

theorem validateFormat_ne {extF d : Format} (hd : d ≠ .unknown) (hne : d ≠ extF) :
    validateFormat extF (some d) = .mismatch := by
  simp [validateFormat, hd, hne]

theorem ensureReader_unknown (extF : Format) :
    ensureReader extF (some .unknown) = if extF = .unknown then .unsupported else .proceed extF := rfl

theorem ensureReader_self {d : Format} (hd : d ≠ .unknown) : ensureReader d (some d) = .proceed d := by
  unfold ensureReader; rw [validateFormat_self]; exact if_neg hd

theorem ensureReader_ne {extF d : Format} (hd : d ≠ .unknown) (hne : d ≠ extF) :
    ensureReader extF (some d) = .mismatch := by
  unfold ensureReader; rw [validateFormat_ne hd hne]

/-- the four ways `ensureReader` ends before a reader is opened, for every pair (format the name
asks for, answer of the sniffer) -/
theorem ensureReader_iff (extF : Format) (det : Option Format) :
    (ensureReader extF det = .detectFailed ↔ det = none) ∧
    (ensureReader extF det = .mismatch ↔ ∃ d, det = some d ∧ d ≠ .unknown ∧ d ≠ extF) ∧
    (ensureReader extF det = .unsupported ↔ extF = .unknown ∧ det = some .unknown) ∧
    (∀ f, ensureReader extF det = .proceed f ↔
      f = extF ∧ extF ≠ .unknown ∧ (det = some .unknown ∨ det = some extF)) := by
  cases det with
  | none => simp [ensureReader, validateFormat]
  | some d =>
    by_cases hd : d = .unknown
    · subst hd
      rw [ensureReader_unknown]
      by_cases he : extF = .unknown
      · simp [he]
      · simp [he, eq_comm]
    · by_cases hne : d = extF
      · subst hne; simp [ensureReader_self hd, hd, eq_comm]
      · simp [ensureReader_ne hd hne, hd, hne]

theorem ensureReader_proceed {extF f : Format} {det : Option Format} (h : ensureReader extF det = .proceed f) :
    f = extF ∧ extF ≠ .unknown ∧ (det = some extF ∨ det = some .unknown) :=
  let ⟨h1, h2, h3⟩ := ((ensureReader_iff extF det).2.2.2 f).1 h
  ⟨h1, h2, h3.symm⟩

end Tabula.Detect
