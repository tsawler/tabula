import TabulaModel.Lemmas.OverlapGenerate
import TabulaModel.Lemmas.ListBasics
import TabulaModel.Model.OverlapApi
/-!
C13: the overlap of EVERY strategy for EVERY byte string.

`content s` = the non-whitespace characters of `s` as Go's `range s` / `[]rune(s)` read it: an
ill-formed byte is U+FFFD (`san s = string([]rune(s))`).  On valid UTF-8 `content = stripWs`.
`san` distributes over every cut the rune scan passes through (`san_of_aligned`) and `content`
is a reading that follows the scan (`reads_content`), so `Lemmas/OverlapChar.lean`,
`Lemmas/OverlapParagraphs.lean`, `Lemmas/OverlapGenerate.lean` apply to it: the byte-level code (character overlap,
`tailAtRuneBoundary`, the paragraph splitter, `strings.TrimSpace`) only cuts where no
well-formed character is covered, and the rune-level code (the sentence splitter) works on
`[]rune(s)` in the first place (`suffix_content_sentences`).  So `generateOverlap_any`: the
overlap's content is a suffix of the chunk's, no hypothesis.
-/
set_option linter.unusedVariables false
namespace Tabula.Overlap
open Tabula.Split

theorem san_nil : san [] = [] := rfl

theorem san_step (s : Str) (hs : s ≠ []) :
    san s = encodeRune (codePoint s) ++ san (s.drop (runeLen s)) := by
  unfold san
  rw [decodeRunes_cons s hs, encodeRunes_cons]

theorem valid_san (s : Str) : validUtf8 (san s) = true := valid_encodeRunes _

theorem san_valid (s : Str) (hv : validUtf8 s = true) : san s = s := encode_decode s hv

/-- `string([]rune(s))` distributes over a cut the rune scan passes through -/
theorem san_of_aligned {s : Str} {p : Nat} (h : Aligned s p) :
    san s = san (s.take p) ++ san (s.drop p) :=
  Aligned.reads_of_step san_nil san_step (fun s n hn => by rw [codePoint_take s n hn]) h

theorem content_valid (a : Str) (hv : validUtf8 a = true) : content a = stripWs a := by
  unfold content; rw [san_valid a hv]

theorem content_nil : content [] = [] := by
  unfold content; rw [san_nil, stripWs_nil]

/-- what Go's `range` sees of a string, white space dropped, is a reading that follows the scan:
of the rune at the head it reads the encoding of its code point, unless that is white space -/
theorem reads_content : Reads content := by
  refine .of_step (hd := fun s => stripWs (encodeRune (codePoint s))) content_nil (fun s hs => ?_)
    (fun s n hn => by rw [codePoint_take s n hn]) (fun s h => ?_)
  · unfold content
    rw [san_step s hs, stripWs_valid_append _ _ (valid_encodeRune _)]
  · have hc := charLen_of_spaceLen s h
    rw [encodeRune_codePoint s (by omega), hc]
    exact reads_stripWs.wsOnly (.single (isWsChar_take_spaceLen s h))

/-- the last sentences of a text, joined by spaces, carry a suffix of its content -/
theorem suffix_content_sentences (cl : Classes) (s : Str) (pre sel : List Str)
    (e : splitIntoSentences cl s = pre ++ sel) : Suffix content s (joinWith [32] sel) := by
  refine ⟨pre.flatMap stripWs, ?_⟩
  rw [← show _ = content s from splitIntoSentences_reads reads_stripWs cl s, e, List.flatMap_append,
    reads_joinWith reads_content 32 [] (by decide) wsOnly_space]
  exact congrArg _ (List.flatMap_congr fun p hp => (content_valid p
    (splitIntoSentences_valid cl s p (by rw [e]; exact List.mem_append_right _ hp))).symm)

/-- `b`'s characters (as `range` reads them, white space dropped) are a suffix of `a`'s -/
def RuneSuffix (a b : Str) : Prop := ∃ x, content a = x ++ content b

/-- **every strategy, every byte string**: read as Go's `range` reads strings (an ill-formed byte
is U+FFFD), the overlap's non-whitespace characters are a suffix of the chunk's -/
theorem generateOverlap_any (cl : Classes) (c : OverlapConfig) (text : Str) :
    RuneSuffix text (generateOverlap cl c text) :=
  generateOverlap_suffix reads_content cl (suffix_content_sentences cl) c text

end Tabula.Overlap
