import TabulaModel.Model.PackageApi
import TabulaModel.Lemmas.Package
/-!
`path.Clean` / `path.Join` / `path.Dir` / `path.Base` on paths made of plain segments:
what the resolution functions of the readers compute, in terms of segment lists.
-/
namespace Tabula.Package

/-- a segment that `path.Clean` keeps as it is: not empty, not `.`, not `..`, no `/` -/
def Plain (s : Str) : Prop := s ≠ [] ∧ s ≠ sDot ∧ s ≠ sDotDot ∧ 47 ∉ s

/-- `splitSlash` is the library's splitting at `/` -/
theorem splitSlash_eq_splitOn (s : Str) : splitSlash s = s.splitOn 47 := by
  induction s with
  | nil => rfl
  | cons c rest ih =>
    rw [splitSlash, List.splitOn_cons_eq_if_modifyHead, ih]
    cases h : rest.splitOn 47 with
    | nil => exact absurd h (List.splitOn_ne_nil 47 rest)
    | cons s ss => by_cases hc : c = 47 <;> simp [hc]

theorem joinSlash_eq_intercalate (segs : List Str) : joinSlash segs = [47].intercalate segs :=
  List.eq_intercalate rfl (fun _ => rfl) (fun _ _ _ => by simp [joinSlash]) segs

theorem splitSlash_joinSlash (segs : List Str) (hne : segs ≠ []) (hs : ∀ s ∈ segs, 47 ∉ s) :
    splitSlash (joinSlash segs) = segs := by
  rw [splitSlash_eq_splitOn, joinSlash_eq_intercalate, List.splitOn_intercalate 47 hs hne]

theorem joinSlash_append (sa sb : List Str) (ha : sa ≠ []) (hb : sb ≠ []) :
    joinSlash (sa ++ sb) = joinSlash sa ++ 47 :: joinSlash sb := by
  simp only [joinSlash_eq_intercalate, List.intercalate_append ha hb, List.append_assoc, List.singleton_append]

theorem cleanSegs_push (rooted : Bool) (s : Str) (rest st : List Str) (h : Plain s) :
    cleanSegs rooted (s :: rest) st = cleanSegs rooted rest (s :: st) := by
  obtain ⟨h1, h2, h3, _⟩ := h
  have h12 : ¬ (s = [] ∨ s = sDot) := by
    intro e
    rcases e with e | e
    · exact h1 e
    · exact h2 e
  simp only [cleanSegs, h12, h3, if_false]

theorem cleanSegs_skip (rooted : Bool) (s : Str) (rest st : List Str) (h : s = [] ∨ s = sDot) :
    cleanSegs rooted (s :: rest) st = cleanSegs rooted rest st := by
  simp only [cleanSegs, h, if_true]

theorem cleanSegs_dotdot_pop (rooted : Bool) (top : Str) (rest st : List Str) (h : top ≠ sDotDot) :
    cleanSegs rooted (sDotDot :: rest) (top :: st) = cleanSegs rooted rest st := by
  have h1 : ¬ (sDotDot = [] ∨ sDotDot = sDot) := by decide
  simp only [cleanSegs, h1, h, if_false, if_true]

theorem cleanSegs_plain_append (rooted : Bool) (pre rest st : List Str) (h : ∀ s ∈ pre, Plain s) :
    cleanSegs rooted (pre ++ rest) st = cleanSegs rooted rest (pre.reverse ++ st) := by
  induction pre generalizing st with
  | nil => rfl
  | cons s r ih =>
    rw [List.cons_append, cleanSegs_push rooted s _ _ (h s List.mem_cons_self),
      ih _ (fun u hu => h u (List.mem_cons_of_mem _ hu))]
    simp

theorem cleanSegs_plain (rooted : Bool) (segs st : List Str) (h : ∀ s ∈ segs, Plain s) :
    cleanSegs rooted segs st = segs.reverse ++ st := by
  have := cleanSegs_plain_append rooted segs [] st h
  rwa [List.append_nil] at this

theorem joinSlash_cons_head {s : Str} (rest : List Str) (h1 : s ≠ []) (h4 : 47 ∉ s) :
    joinSlash (s :: rest) ≠ [] ∧ (joinSlash (s :: rest)).head? ≠ some 47 := by
  cases s with
  | nil => exact absurd rfl h1
  | cons c s' =>
    have hc : c ≠ 47 := fun e => h4 (by simp [e])
    cases rest <;> simp [joinSlash, hc]

theorem joinSlash_ne_nil (segs : List Str) (hne : segs ≠ []) (h : ∀ s ∈ segs, s ≠ []) : joinSlash segs ≠ [] := by
  cases segs with
  | nil => exact absurd rfl hne
  | cons s rest =>
    have hs := h s List.mem_cons_self
    cases rest with
    | nil => simpa [joinSlash] using hs
    | cons t rest' =>
      simp only [joinSlash]
      intro e
      exact hs (List.append_eq_nil_iff.mp e).1

theorem joinSlash_head (segs : List Str) (hne : segs ≠ []) (h : ∀ s ∈ segs, Plain s) :
    (joinSlash segs).head? ≠ some 47 := by
  cases segs with
  | nil => exact absurd rfl hne
  | cons s rest => exact (joinSlash_cons_head rest (h s List.mem_cons_self).1 (h s List.mem_cons_self).2.2.2).2

theorem hasPrefix_slash (s : Str) : hasPrefix [47] s = true ↔ s.head? = some 47 := by
  cases s with
  | nil => simp [hasPrefix]
  | cons c r => simp [hasPrefix, List.isPrefixOf, eq_comm (a := c)]

theorem not_hasPrefix_slash {s : Str} (h : s.head? ≠ some 47) : hasPrefix [47] s = false :=
  Bool.eq_false_iff.2 fun e => h ((hasPrefix_slash s).1 e)

/-- `path.Clean` on a relative path that begins with plain segments: the element loop runs
over the remaining segments with those already pushed -/
theorem clean_joinSlash (pre rest : List Str) (hne : pre ≠ []) (hp : ∀ s ∈ pre, Plain s)
    (hr : ∀ s ∈ rest, 47 ∉ s) :
    clean (joinSlash (pre ++ rest)) =
      if joinSlash (cleanSegs false rest pre.reverse).reverse = [] then sDot
      else joinSlash (cleanSegs false rest pre.reverse).reverse := by
  obtain ⟨s, pre', rfl⟩ := List.exists_cons_of_ne_nil hne
  obtain ⟨hnn, hh⟩ : joinSlash ((s :: pre') ++ rest) ≠ [] ∧ (joinSlash ((s :: pre') ++ rest)).head? ≠ some 47 :=
    joinSlash_cons_head (pre' ++ rest) (hp s List.mem_cons_self).1 (hp s List.mem_cons_self).2.2.2
  have hns : ∀ u ∈ (s :: pre') ++ rest, 47 ∉ u :=
    List.forall_mem_append.2 ⟨fun u hu => (hp u hu).2.2.2, hr⟩
  unfold clean
  simp only [hnn, if_false, hh, decide_false]
  rw [splitSlash_joinSlash _ (by simp) hns, cleanSegs_plain_append false _ rest [] hp, List.append_nil]

/-- **`path.Clean` is the identity on a relative path made of plain segments** -/
theorem clean_plain (segs : List Str) (hne : segs ≠ []) (h : ∀ s ∈ segs, Plain s) :
    clean (joinSlash segs) = joinSlash segs := by
  have hc := clean_joinSlash segs [] hne h (by simp)
  rw [List.append_nil] at hc
  rw [hc, cleanSegs, List.reverse_reverse, if_neg (joinSlash_ne_nil segs hne (fun s hs => (h s hs).1))]

theorem plain_append {sa sb : List Str} (hpa : ∀ s ∈ sa, Plain s) (hpb : ∀ s ∈ sb, Plain s) :
    ∀ s ∈ sa ++ sb, Plain s :=
  List.forall_mem_append.2 ⟨hpa, hpb⟩

/-- **`path.Join(a, b)` of two relative paths made of plain segments is `a/b`** -/
theorem join2_plain (sa sb : List Str) (ha : sa ≠ []) (hb : sb ≠ [])
    (hpa : ∀ s ∈ sa, Plain s) (hpb : ∀ s ∈ sb, Plain s) :
    join2 (joinSlash sa) (joinSlash sb) = joinSlash sa ++ 47 :: joinSlash sb := by
  have na := joinSlash_ne_nil sa ha (fun s hs => (hpa s hs).1)
  have nb := joinSlash_ne_nil sb hb (fun s hs => (hpb s hs).1)
  unfold join2
  simp only [na, nb, if_false]
  rw [← joinSlash_append sa sb ha hb]
  exact clean_plain _ (by simp [ha]) (plain_append hpa hpb)

/-- with an empty base (package document in the archive root) the path itself -/
theorem join2_nil_plain (sb : List Str) (hb : sb ≠ []) (hpb : ∀ s ∈ sb, Plain s) :
    join2 [] (joinSlash sb) = joinSlash sb := by
  have nb := joinSlash_ne_nil sb hb (fun s hs => (hpb s hs).1)
  unfold join2
  simp only [nb, if_true, if_false]
  exact clean_plain sb hb hpb

/-- **one `..` climbs one directory**: `path.Join(a/d, ../b) = a/b` -/
theorem join2_dotdot (sa : List Str) (d : Str) (sb : List Str) (hb : sb ≠ [])
    (hpa : ∀ s ∈ sa, Plain s) (hd : Plain d) (hpb : ∀ s ∈ sb, Plain s) :
    join2 (joinSlash (sa ++ [d])) (joinSlash (sDotDot :: sb)) = joinSlash (sa ++ sb) := by
  have hpad : ∀ s ∈ sa ++ [d], Plain s := plain_append hpa (by simpa using hd)
  have na := joinSlash_ne_nil (sa ++ [d]) (by simp) (fun s hs => (hpad s hs).1)
  have nb : joinSlash (sDotDot :: sb) ≠ [] := (joinSlash_cons_head sb (by decide) (by decide)).1
  have hr : ∀ s ∈ sDotDot :: sb, 47 ∉ s :=
    List.forall_mem_cons.2 ⟨by decide, fun s hs => (hpb s hs).2.2.2⟩
  unfold join2
  simp only [na, nb, if_false]
  rw [← joinSlash_append (sa ++ [d]) (sDotDot :: sb) (by simp) (by simp), clean_joinSlash _ _ (by simp) hpad hr]
  -- the element loop: `sa` and `d` are pushed, `..` pops `d`, `sb` is pushed
  have hloop : (cleanSegs false (sDotDot :: sb) (sa ++ [d]).reverse).reverse = sa ++ sb := by
    rw [List.reverse_append, List.reverse_singleton, List.singleton_append,
      cleanSegs_dotdot_pop false d sb _ hd.2.2.1, cleanSegs_plain false sb _ hpb]
    simp
  rw [hloop, if_neg (joinSlash_ne_nil (sa ++ sb) (by simp [hb]) (fun s hs => (plain_append hpa hpb s hs).1))]

/-- a trailing slash is dropped by `path.Clean` -/
theorem clean_trailing_slash (segs : List Str) (hne : segs ≠ []) (h : ∀ s ∈ segs, Plain s) :
    clean (joinSlash segs ++ [47]) = joinSlash segs := by
  have e : joinSlash segs ++ [47] = joinSlash (segs ++ [[]]) := by
    rw [joinSlash_append segs [[]] hne (by simp)]
    rfl
  rw [e, clean_joinSlash segs [[]] hne h (by simp), cleanSegs_skip false [] [] _ (Or.inl rfl), cleanSegs,
    List.reverse_reverse, if_neg (joinSlash_ne_nil segs hne (fun s hs => (h s hs).1))]

/-- all bytes of all segments are bytes -/
def Bytes (segs : List Str) : Prop := ∀ s ∈ segs, ∀ b ∈ s, b < 256

theorem joinSlash_bytes (segs : List Str) (h : Bytes segs) : ∀ b ∈ joinSlash segs, b < 256 := by
  induction segs with
  | nil => simp [joinSlash]
  | cons s rest ih =>
    have hs := h s List.mem_cons_self
    have hr : Bytes rest := fun u hu => h u (List.mem_cons_of_mem _ hu)
    cases rest with
    | nil => simpa [joinSlash] using hs
    | cons t r =>
      intro b hb
      simp only [joinSlash, List.mem_append, List.mem_cons] at hb
      rcases hb with hb | hb | hb
      · exact hs b hb
      · omega
      · exact ih hr b hb

end Tabula.Package

namespace Tabula.PackageApi
open Tabula.Package

/-- **`path.Dir` of `dir/base`** (plain segments, `dir` not empty) is `dir` -/
theorem pathDir_plain (ds : List Str) (b : Str) (hd : ds ≠ []) (hpd : ∀ s ∈ ds, Plain s) (hb : 47 ∉ b) :
    pathDir (joinSlash (ds ++ [b])) = joinSlash ds := by
  unfold pathDir splitDir
  rw [joinSlash_append ds [b] hd (by simp)]
  simp only [joinSlash, List.reverse_append, List.reverse_cons]
  rw [List.append_assoc]
  simp only [List.singleton_append]
  rw [List.dropWhile_append_cons_of_neg (l₁ := b.reverse) (b := 47) (by
    intro x hx
    have : x ≠ 47 := fun e => hb (by simpa [e] using hx)
    simpa using this) (by simp)]
  simp only [List.reverse_cons, List.reverse_reverse]
  exact clean_trailing_slash ds hd hpd

/-- `path.Base` of `pre ++ base` where `pre` is empty or ends in a slash -/
theorem pathBase_of_append (pre b : Str) (b1 : b ≠ []) (b4 : 47 ∉ b)
    (hpre : pre = [] ∨ ∃ pre', pre = pre' ++ [47]) : pathBase (pre ++ b) = b := by
  have hne : pre ++ b ≠ [] := fun e => b1 (List.append_eq_nil_iff.mp e).2
  have hall : ∀ x ∈ b.reverse, decide (x ≠ 47) = true := fun x hx =>
    decide_eq_true fun e => b4 (e ▸ List.mem_reverse.mp hx)
  -- the last byte is no slash, so nothing is stripped; behind `b` the scan for the last slash stops at once
  have hq : (pre ++ b).reverse.dropWhile (fun x => decide (x = 47)) = b.reverse ++ pre.reverse := by
    rw [List.reverse_append]
    cases hb : b.reverse with
    | nil => exact absurd (List.reverse_eq_nil_iff.mp hb) b1
    | cons c b' =>
      have := hall c (hb ▸ List.mem_cons_self)
      simp only [decide_eq_true_eq] at this
      simp [this]
  have ht : pre.reverse.takeWhile (fun x => decide (x ≠ 47)) = [] := by
    rcases hpre with rfl | ⟨pre', rfl⟩ <;> simp
  unfold pathBase
  simp only [hne, if_false, List.reverse_reverse, hq, List.takeWhile_append_of_pos hall, ht, List.append_nil, b1]

/-- **`path.Base` of `dir/base`** is `base` -/
theorem pathBase_plain (ds : List Str) (b : Str) (hb : Plain b) :
    pathBase (joinSlash (ds ++ [b])) = b := by
  obtain ⟨b1, _, _, b4⟩ := hb
  cases ds with
  | nil =>
    have := pathBase_of_append [] b b1 b4 (Or.inl rfl)
    simpa [joinSlash] using this
  | cons d r =>
    rw [joinSlash_append (d :: r) [b] (by simp) (by simp)]
    have := pathBase_of_append (joinSlash (d :: r) ++ [47]) b b1 b4 (Or.inr ⟨_, rfl⟩)
    simpa [joinSlash, List.append_assoc] using this

/-- `"_rels"` and `base ++ ".rels"` are plain segments -/
theorem plain_relsDir : Plain sRelsDir := ⟨by decide, by decide, by decide, by decide⟩

theorem plain_relsName (b : Str) (hb : Plain b) : Plain (b ++ sRelsExt) := by
  obtain ⟨b1, _, _, b4⟩ := hb
  refine ⟨by simp [sRelsExt], ?_, ?_, ?_⟩
  · intro e
    have := congrArg List.length e
    simp only [sRelsExt, sDot, List.length_append, List.length_cons, List.length_nil] at this
    omega
  · intro e
    have := congrArg List.length e
    simp only [sRelsExt, sDotDot, List.length_append, List.length_cons, List.length_nil] at this
    omega
  · intro e
    rcases List.mem_append.mp e with e | e
    · exact b4 e
    · simp [sRelsExt] at e

/-- **the relationship part of `dir/base` is `dir/_rels/base.rels`** (OPC part 2 §8.3.4) -/
theorem slideRelsPath_plain (ds : List Str) (b : Str) (hd : ds ≠ []) (hpd : ∀ s ∈ ds, Plain s) (hb : Plain b) :
    slideRelsPath (joinSlash (ds ++ [b])) = joinSlash (ds ++ [sRelsDir, b ++ sRelsExt]) := by
  unfold slideRelsPath
  rw [pathDir_plain ds b hd hpd hb.2.2.2, pathBase_plain ds b hb]
  have nd := joinSlash_ne_nil ds hd (fun s hs => (hpd s hs).1)
  have nb : b ++ sRelsExt ≠ [] := by simp [sRelsExt]
  unfold pathJoin
  have hall : ([joinSlash ds, sRelsDir, b ++ sRelsExt].all fun x => decide (x = [])) = false := by
    simp [nd]
  simp only [hall, Bool.false_eq_true, if_false]
  have hbuf : joinBuf [] [joinSlash ds, sRelsDir, b ++ sRelsExt] = joinSlash (ds ++ [sRelsDir, b ++ sRelsExt]) := by
    rw [joinSlash_append ds _ hd (by simp)]
    have n1 : sRelsDir ≠ [] := by decide
    simp [joinBuf, nd, joinSlash, List.append_assoc]
  rw [hbuf]
  refine clean_plain _ (by simp) (plain_append hpd ?_)
  simpa using ⟨plain_relsDir, plain_relsName b hb⟩

end Tabula.PackageApi
