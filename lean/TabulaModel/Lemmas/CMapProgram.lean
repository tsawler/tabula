import TabulaModel.Lemmas.CMapSection
import TabulaModel.Lemmas.ListBasics
import TabulaModel.Lemmas.Decimal
/-!
Locating the sections of a rendered CMap program: tabula's parser (`parseCMapData`) run on
`renderProgram p w secs` sets `byteWidth := w` from the code-space section, then hands every
bfchar section body to `parseBfCharSection` and every bfrange section body to
`parseBfRangeSection`, in program order (`parse_renderProgram`).
-/
namespace Tabula.CMap
open Tabula.UTF16

/-! ## occurrences of a keyword -/

/-- no occurrence of `kw` starts inside `a`, whatever follows `a` -/
def NoOcc (kw : Str) : Str → Prop
  | [] => True
  | c :: a => (∀ t, kw.isPrefixOf (c :: (a ++ t)) = false) ∧ NoOcc kw a

theorem noOcc_append {kw a b : Str} (ha : NoOcc kw a) (hb : NoOcc kw b) : NoOcc kw (a ++ b) := by
  induction a with
  | nil => exact hb
  | cons c a ih =>
    show NoOcc kw (c :: (a ++ b))
    refine ⟨fun t => ?_, ih ha.2⟩
    rw [List.append_assoc]
    exact ha.1 (b ++ t)

theorem indexOf_skip {kw a : Str} (h : NoOcc kw a) (t : Str) :
    indexOf kw (a ++ t) = (indexOf kw t).map (· + a.length) := by
  induction a with
  | nil =>
    show indexOf kw t = (indexOf kw t).map (· + 0)
    cases indexOf kw t <;> rfl
  | cons c a ih =>
    show indexOf kw (c :: (a ++ t)) = _
    rw [indexOf, h.1 t, ih h.2]
    cases indexOf kw t with
    | none => rfl
    | some i => simp only [Bool.false_eq_true, if_false, Option.map_some, List.length_cons]; rfl

theorem indexOf_self (kw t : Str) : indexOf kw (kw ++ t) = some 0 := by
  cases h : kw ++ t with
  | nil =>
    have : kw = [] := (List.append_eq_nil_iff.mp h).1
    subst this; rfl
  | cons c s =>
    rw [indexOf, ← h]
    have : kw.isPrefixOf (kw ++ t) = true := List.isPrefixOf_iff_prefix.mpr (List.prefix_append kw t)
    rw [this]; rfl

theorem indexOf_none {kw a : Str} (h : NoOcc kw a) (hk : kw ≠ []) : indexOf kw a = none := by
  have := indexOf_skip h []
  rw [List.append_nil] at this
  rw [this]
  cases kw with
  | nil => exact absurd rfl hk
  | cons k kw => rfl

/-- `kw` could start at the head of `s`: `kw` is a prefix of `s` or `s` is a prefix of `kw` -/
def compat : Str → Str → Bool
  | [], _ => true
  | _ :: _, [] => true
  | k :: kw, c :: s => k == c && compat kw s

theorem compat_iff (kw s : Str) : compat kw s = true ↔ kw <+: s ∨ s <+: kw := by
  induction kw generalizing s with
  | nil => simp [compat]
  | cons k kw ih =>
    cases s with
    | nil => simp [compat]
    | cons c s =>
      simp only [compat, Bool.and_eq_true, beq_iff_eq, ih, List.cons_prefix_cons, and_or_left, eq_comm (a := c)]

theorem compat_of_isPrefixOf {kw s t : Str} (h : kw.isPrefixOf (s ++ t) = true) : compat kw s = true :=
  (compat_iff kw s).mpr (List.prefix_or_prefix_of_prefix (List.isPrefixOf_iff_prefix.mp h) (List.prefix_append s t))

theorem compat_sound (kw s : Str) (h : compat kw s = false) (t : Str) :
    kw.isPrefixOf (s ++ t) = false := by
  cases hp : kw.isPrefixOf (s ++ t) with
  | false => rfl
  | true => rw [compat_of_isPrefixOf hp] at h; cases h

/-- Boolean check of `NoOcc` -/
def noOccB (kw : Str) : Str → Bool
  | [] => true
  | c :: a => !compat kw (c :: a) && noOccB kw a

theorem noOccB_sound (kw a : Str) (h : noOccB kw a = true) : NoOcc kw a := by
  induction a with
  | nil => trivial
  | cons c a ih =>
    simp only [noOccB, Bool.and_eq_true, Bool.not_eq_true'] at h
    exact ⟨fun t => compat_sound kw (c :: a) h.1 t, ih h.2⟩

/-- `kw` cannot start at the head of `s` followed by a foreign byte: then it cannot start at the head
of `s` followed by any non-empty string of bytes foreign to `kw` either -/
theorem isPrefixOf_marked (kw s : Str) (m : Nat) (e : Str) (h : compat kw (s ++ [m]) = false)
    (he : e ≠ []) (hx : ∀ c ∈ e, c ∉ kw) (t : Str) : kw.isPrefixOf (s ++ (e ++ t)) = false := by
  cases hp : kw.isPrefixOf (s ++ (e ++ t)) with
  | false => rfl
  | true =>
    exfalso
    have hkw := List.isPrefixOf_iff_prefix.mp hp
    rcases List.prefix_or_prefix_of_prefix hkw (List.prefix_append s (e ++ t)) with hks | ⟨k', rfl⟩
    · -- the keyword ends inside `s`
      rw [(compat_iff kw _).mpr (Or.inl (hks.trans (List.prefix_append s [m])))] at h
      cases h
    · -- the keyword runs over the end of `s`: its next byte is the first byte of `e`
      rw [List.prefix_append_right_inj] at hkw
      cases k' with
      | nil =>
        rw [List.append_nil] at h
        rw [(compat_iff s _).mpr (Or.inl (List.prefix_append s [m]))] at h
        cases h
      | cons x k' =>
        cases e with
        | nil => exact he rfl
        | cons y e =>
          rw [List.cons_append, List.cons_prefix_cons] at hkw
          exact hx y List.mem_cons_self (by rw [← hkw.1]; simp)

/-- a string of bytes foreign to `kw` holds no occurrence of `kw` -/
theorem noOcc_foreign (kw e : Str) (hk : kw ≠ []) (hx : ∀ c ∈ e, c ∉ kw) : NoOcc kw e := by
  induction e with
  | nil => trivial
  | cons x e ih =>
    refine ⟨fun t => ?_, ih (fun c hc => hx c (List.mem_cons_of_mem _ hc))⟩
    cases kw with
    | nil => exact absurd rfl hk
    | cons k kw =>
      have hkx : k ≠ x := fun h => hx x (by simp) (by simp [h])
      simp [List.isPrefixOf, hkx]

/-- **an occurrence of a keyword cannot span an end of line**: a line checked with one foreign
byte after it holds no occurrence when any non-empty string of foreign bytes follows -/
theorem noOcc_line (kw l e : Str) (m : Nat) (h : noOccB kw (l ++ [m]) = true) (hk : kw ≠ [])
    (he : e ≠ []) (hx : ∀ c ∈ e, c ∉ kw) : NoOcc kw (l ++ e) := by
  induction l with
  | nil => exact noOcc_foreign kw e hk hx
  | cons c l ih =>
    simp only [List.cons_append, noOccB, Bool.and_eq_true, Bool.not_eq_true'] at h
    refine ⟨fun t => ?_, ih h.2⟩
    have := isPrefixOf_marked kw (c :: l) m e h.1 he hx t
    simpa [List.append_assoc] using this

theorem noOcc_lines (kw : Str) (lines : List Str) (e : Str) (m : Nat)
    (h : (lines.all fun l => noOccB kw (l ++ [m])) = true) (hk : kw ≠ [])
    (he : e ≠ []) (hx : ∀ c ∈ e, c ∉ kw) : NoOcc kw (lines.flatMap (· ++ e)) := by
  induction lines with
  | nil => trivial
  | cons l ls ih =>
    simp only [List.all_cons, Bool.and_eq_true] at h
    rw [List.flatMap_cons]
    exact noOcc_append (noOcc_line kw l e m h.1 hk he hx) (ih h.2)

theorem compat_false_of_mark (m : Nat) (kw : Str) (hm : m ∈ kw) (s : Str) (l : Nat)
    (hl : l ∉ kw) (hs : ∀ c ∈ s, c ≠ m) (hlast : s.getLast? = some l) : compat kw s = false := by
  cases hc : compat kw s with
  | false => rfl
  | true =>
    exfalso
    rcases (compat_iff kw s).mp hc with h | h
    · exact hs m (List.IsPrefix.mem hm h) rfl
    · exact hl (List.IsPrefix.mem (List.mem_of_getLast? hlast) h)
/-- a string without the byte `m` that ends in a byte foreign to `kw` holds no occurrence of a
keyword that contains `m` -/
theorem noOcc_of_mark (m : Nat) (kw : Str) (hm : m ∈ kw) (a : Str) (l : Nat)
    (hl : l ∉ kw) (ha : ∀ c ∈ a, c ≠ m) (hlast : a = [] ∨ a.getLast? = some l) : NoOcc kw a := by
  induction a with
  | nil => trivial
  | cons c a ih =>
    have hlast' : (c :: a).getLast? = some l := by
      rcases hlast with h | h
      · simp at h
      · exact h
    refine ⟨fun t => compat_sound kw (c :: a) (compat_false_of_mark m kw hm _ l hl ha hlast') t, ?_⟩
    apply ih (fun x hx => ha x (List.mem_cons_of_mem _ hx))
    cases a with
    | nil => exact Or.inl rfl
    | cons d a => right; rw [List.getLast?_cons_cons] at hlast'; exact hlast'

/-! ## the section loop -/

theorem sectionsLoop_none (kb ke : Str) (f : Str → CMap → CMap) (fuel : Nat) (a : Str) (cm : CMap)
    (h : NoOcc kb a) (hk : kb ≠ []) : sectionsLoop kb ke f fuel a cm = cm := by
  cases fuel with
  | zero => rfl
  | succ n => rw [sectionsLoop, indexOf_none h hk]

/-- the first `kb … ke` section of a text: where `kb` is found, what follows it, and where `ke`
is found in that -/
theorem find_section (kb ke pre body rest : Str) (hpre : NoOcc kb pre) (hbody : NoOcc ke body) :
    indexOf kb (pre ++ (kb ++ (body ++ (ke ++ rest)))) = some pre.length ∧
    (pre ++ (kb ++ (body ++ (ke ++ rest)))).drop (pre.length + kb.length) = body ++ (ke ++ rest) ∧
    indexOf ke (body ++ (ke ++ rest)) = some body.length := by
  refine ⟨?_, ?_, ?_⟩
  · rw [indexOf_skip hpre, indexOf_self]; simp
  · rw [← List.append_assoc pre kb, ← List.length_append]
    exact List.drop_left' rfl
  · rw [indexOf_skip hbody, indexOf_self]; simp

theorem sectionsLoop_step (kb ke : Str) (f : Str → CMap → CMap) (fuel : Nat)
    (pre body rest : Str) (cm : CMap) (hpre : NoOcc kb pre) (hbody : NoOcc ke body) :
    sectionsLoop kb ke f (fuel + 1) (pre ++ (kb ++ (body ++ (ke ++ rest)))) cm =
      sectionsLoop kb ke f fuel rest (f body cm) := by
  obtain ⟨h1, h2, h3⟩ := find_section kb ke pre body rest hpre hbody
  rw [sectionsLoop, h1]
  simp only [h2, h3]
  rw [List.take_left' rfl, ← List.append_assoc body ke, ← List.length_append, List.drop_left' rfl]

/-! ## section bodies -/

/-- every byte of a section body is not the letter `n` (110, which occurs in all six keywords),
and a non-empty body ends in LF or space -/
def BodyOK (b : Str) : Prop :=
  (∀ c ∈ b, c ≠ 110) ∧ (b = [] ∨ b.getLast? = some 10 ∨ b.getLast? = some 32)

/-- the keywords the parser searches for -/
def IsKw (kw : Str) : Prop :=
  kw = kwBeginCodeSpace ∨ kw = kwEndCodeSpace ∨ kw = kwBeginBfChar ∨ kw = kwEndBfChar ∨
    kw = kwBeginBfRange ∨ kw = kwEndBfRange

theorem isKw_facts {kw : Str} (h : IsKw kw) : 110 ∈ kw ∧ 10 ∉ kw ∧ 32 ∉ kw := by
  rcases h with h | h | h | h | h | h <;> subst h <;> decide

theorem noOcc_of_bodyOK {kw b : Str} (hk : IsKw kw) (hb : BodyOK b) : NoOcc kw b := by
  obtain ⟨h110, h10, h32⟩ := isKw_facts hk
  rcases hb.2 with h | h | h
  · exact noOcc_of_mark 110 kw h110 b 10 h10 hb.1 (Or.inl h)
  · exact noOcc_of_mark 110 kw h110 b 10 h10 hb.1 (Or.inr h)
  · exact noOcc_of_mark 110 kw h110 b 32 h32 hb.1 (Or.inr h)

theorem isKw_kwBegin (k : Kind) : IsKw k.kwBegin := by
  cases k <;> simp [IsKw, Kind.kwBegin]

theorem isKw_kwEnd (k : Kind) : IsKw k.kwEnd := by
  cases k <;> simp [IsKw, Kind.kwEnd]

theorem bodyOK_eol (p : Policy) : BodyOK p.eol := by
  rcases eol_cases p with h | h | h <;> rw [h] <;> refine ⟨by decide, ?_⟩ <;> simp

/-- the bytes of an end of line occur in no keyword -/
theorem eol_foreign (p : Policy) {kw : Str} (hk : IsKw kw) : p.eol ≠ [] ∧ ∀ c ∈ p.eol, c ∉ kw := by
  have h13 : 13 ∉ kw := by rcases hk with h | h | h | h | h | h <;> subst h <;> decide
  obtain ⟨_, h10, h32⟩ := isKw_facts hk
  rcases eol_cases p with h | h | h <;> rw [h] <;> refine ⟨by simp, ?_⟩ <;> intro c hc <;> simp at hc
  · rw [hc]; exact h32
  · rcases hc with hc | hc <;> rw [hc] <;> assumption
  · rw [hc]; exact h10

/-- the writer's `%d` is the decimal numeral of `Lemmas/Decimal.lean` -/
theorem natDec_eq (n : Nat) : natDec n = A1.dec n := by
  fun_induction natDec n with
  | case1 n h => rw [A1.dec_lt n h]
  | case2 n h ih => rw [ih, A1.dec_ge n h]

theorem bodyOK_natDec (n : Nat) : BodyOK (natDec n ++ [32]) := by
  refine ⟨?_, Or.inr (Or.inr (by simp))⟩
  intro c hc
  simp only [List.mem_append, List.mem_singleton] at hc
  rcases hc with hc | hc
  · have := A1.dec_all_digits n c (natDec_eq n ▸ hc); omega
  · omega

theorem allBytes_replicate (n b : Nat) (hb : b < 256) : AllBytes (List.replicate n b) := by
  intro x hx
  rw [List.mem_replicate] at hx
  omega

theorem getLast_append_eol (p : Policy) (x : Str) :
    (x ++ p.eol).getLast? = some 10 ∨ (x ++ p.eol).getLast? = some 32 := by
  rcases eol_cases p with h | h | h <;> rw [h] <;> simp [List.getLast?_append]

/-! ## the fixed lines -/

theorem kwBegin_ne_nil (k : Kind) : k.kwBegin ≠ [] := by cases k <;> decide

theorem noOcc_hdr7 (k : Kind) : NoOcc k.kwBegin hdr7 := by
  cases k <;> exact noOccB_sound _ _ (by decide +kernel)

theorem header_lines (p : Policy) : header p = [hdr1, hdr2, hdr3, hdr4, hdr5, hdr6].flatMap (· ++ p.eol) := by
  simp [header, Policy.line, List.append_assoc]

theorem trailer_lines (p : Policy) : trailer p = [trl1, trl2, trl3, trl3].flatMap (· ++ p.eol) := by
  simp [trailer, Policy.line, List.append_assoc]

theorem noOcc_header (k : Kind) (p : Policy) : NoOcc k.kwBegin (header p) := by
  obtain ⟨he, hx⟩ := eol_foreign p (isKw_kwBegin k)
  rw [header_lines]
  exact noOcc_lines _ _ _ 0 (by cases k <;> decide +kernel) (kwBegin_ne_nil k) he hx

theorem noOcc_trailer (k : Kind) (p : Policy) : NoOcc k.kwBegin (trailer p) := by
  obtain ⟨he, hx⟩ := eol_foreign p (isKw_kwBegin k)
  rw [trailer_lines]
  exact noOcc_lines _ _ _ 0 (by cases k <;> decide +kernel) (kwBegin_ne_nil k) he hx

theorem noOcc_header_codeSpace (p : Policy) : NoOcc kwBeginCodeSpace (header p ++ [49, 32]) := by
  obtain ⟨he, hx⟩ := eol_foreign p (kw := kwBeginCodeSpace) (Or.inl rfl)
  rw [header_lines]
  exact noOcc_append (noOcc_lines _ _ _ 0 (by decide +kernel) (by decide) he hx)
    (noOccB_sound _ _ (by decide))

theorem noOcc_endCodeSpace (k : Kind) (p : Policy) : NoOcc k.kwBegin (kwEndCodeSpace ++ p.eol) := by
  obtain ⟨he, hx⟩ := eol_foreign p (isKw_kwBegin k)
  exact noOcc_line _ _ _ 0 (by cases k <;> decide +kernel) (kwBegin_ne_nil k) he hx

theorem noOcc_otherBegin (k k' : Kind) (hk : k' ≠ k) (p : Policy) :
    NoOcc k.kwBegin (k'.kwBegin ++ p.eol) := by
  obtain ⟨he, hx⟩ := eol_foreign p (isKw_kwBegin k)
  refine noOcc_line _ _ _ 0 ?_ (kwBegin_ne_nil k) he hx
  cases k <;> cases k' <;> first | exact absurd rfl hk | decide +kernel

/-- no begin keyword occurs in the line of an end keyword, of the other kind or of its own -/
theorem noOcc_kwEnd (k k' : Kind) (p : Policy) : NoOcc k.kwBegin (k'.kwEnd ++ p.eol) := by
  obtain ⟨he, hx⟩ := eol_foreign p (isKw_kwBegin k)
  refine noOcc_line _ _ _ 0 ?_ (kwBegin_ne_nil k) he hx
  cases k <;> cases k' <;> decide +kernel

/-! ## the code-space section -/

theorem sep_mem (p : Policy) : ∀ c ∈ p.sep, c = 32 := by
  intro c hc
  rcases sep_cases p with h | h <;> rw [h] at hc <;> simp at hc
  exact hc

/-- the code-space body is a stream like the section bodies: an end of line, then `<00…>` sep `<FF…>` EOL -/
theorem codeSpaceBody_stream (p : Policy) (w : Nat) :
    codeSpaceBody p w = p.eol ++ renderToks [(Tok.hex (hexOfBytesP p.upper (List.replicate w 0)), p.sep),
      (Tok.hex (hexOfBytesP p.upper (List.replicate w 255)), p.eol)] := by
  simp [codeSpaceBody, renderToks, List.append_assoc]

theorem codeSpaceToks_ok (p : Policy) (w : Nat) (y : Str) (hy : ∀ c ∈ y, IsFill c) :
    StreamOK [(Tok.hex (hexOfBytesP p.upper (List.replicate w 0)), p.sep),
      (Tok.hex (hexOfBytesP p.upper (List.replicate w 255)), y)] :=
  streamOK_cons (sep_fill p) (hexTok_ok (hexOfBytesP_mem p.upper _ (allBytes_replicate w 0 (by decide))))
    (streamOK_cons hy (hexTok_ok (hexOfBytesP_mem p.upper _ (allBytes_replicate w 255 (by decide)))) streamOK_nil)

theorem bodyOK_codeSpaceBody (p : Policy) (w : Nat) : BodyOK (codeSpaceBody p w) := by
  rw [codeSpaceBody_stream]
  refine ⟨fun c hc => ?_, Or.inr ?_⟩
  · rcases List.mem_append.mp hc with h | h
    · exact (bodyOK_eol p).1 c h
    · exact streamOK_no_n _ (codeSpaceToks_ok p w p.eol (eol_fill p)) c h
  · have h : ∀ a b : Tok, renderToks [(a, p.sep), (b, p.eol)] = (a.text ++ p.sep ++ b.text) ++ p.eol := by
      intro a b; simp [renderToks]
    rw [h, ← List.append_assoc]
    exact getLast_append_eol p _

theorem noOcc_codeSpaceSec (k : Kind) (p : Policy) (w : Nat) : NoOcc k.kwBegin (codeSpaceSec p w) := by
  unfold codeSpaceSec
  rw [List.append_assoc]
  exact noOcc_append (noOcc_append (noOcc_hdr7 k)
    (noOcc_of_bodyOK (isKw_kwBegin k) (bodyOK_codeSpaceBody p w))) (noOcc_endCodeSpace k p)

/-! ## the bfchar / bfrange sections -/

/-- the section texts of one kind, in program order, as the section parser receives them (from
right after the begin keyword to right before the end keyword) -/
def sectionTexts (p : Policy) (w : Nat) (k : Kind) (secs : List Section) : List Str :=
  (secs.filter (fun s => s.kind = k)).map fun s => p.eol ++ sectionBody p w s

theorem renderSec_shape (p : Policy) (w : Nat) (s : Section) : renderSec p w s =
    (natDec s.items.length ++ [32]) ++ (s.kind.kwBegin ++ ((p.eol ++ sectionBody p w s) ++
      (s.kind.kwEnd ++ p.eol))) := by
  simp [renderSec, List.append_assoc]

theorem renderSec_shape' (p : Policy) (w : Nat) (s : Section) : renderSec p w s =
    (natDec s.items.length ++ [32]) ++ ((s.kind.kwBegin ++ p.eol) ++ (sectionBody p w s ++
      (s.kind.kwEnd ++ p.eol))) := by
  simp [renderSec, List.append_assoc]

theorem noOcc_renderSec_other (p : Policy) (w : Nat) (k : Kind) (s : Section) (hk : s.kind ≠ k)
    (hb : BodyOK (sectionBody p w s)) : NoOcc k.kwBegin (renderSec p w s) := by
  rw [renderSec_shape']
  have hkw := isKw_kwBegin k
  exact noOcc_append (noOcc_of_bodyOK hkw (bodyOK_natDec _))
    (noOcc_append (noOcc_otherBegin k s.kind hk p)
      (noOcc_append (noOcc_of_bodyOK hkw hb) (noOcc_kwEnd k s.kind p)))

theorem sectionsLoop_secs (p : Policy) (w : Nat) (k : Kind) (f : Str → CMap → CMap) (tail : Str)
    (htail : NoOcc k.kwBegin tail) (secs : List Section)
    (hb : ∀ s ∈ secs, BodyOK (sectionBody p w s)) :
    ∀ (fuel : Nat), secs.length < fuel → ∀ (pre : Str), NoOcc k.kwBegin pre → ∀ cm : CMap,
    sectionsLoop k.kwBegin k.kwEnd f fuel (pre ++ (secs.flatMap (renderSec p w) ++ tail)) cm =
      (sectionTexts p w k secs).foldl (fun cm b => f b cm) cm := by
  induction secs with
  | nil =>
    intro fuel _ pre hpre cm
    exact sectionsLoop_none _ _ _ _ _ _ (noOcc_append hpre htail) (kwBegin_ne_nil k)
  | cons s secs ih =>
    intro fuel hf pre hpre cm
    have hb' : ∀ x ∈ secs, BodyOK (sectionBody p w x) := fun x hx => hb x (List.mem_cons_of_mem _ hx)
    have hbs := hb s List.mem_cons_self
    have hlen : secs.length + 1 < fuel := by simpa using hf
    by_cases hk : s.kind = k
    · cases fuel with
      | zero => omega
      | succ n =>
        have hshape : pre ++ ((s :: secs).flatMap (renderSec p w) ++ tail) =
            (pre ++ (natDec s.items.length ++ [32])) ++ (k.kwBegin ++ ((p.eol ++ sectionBody p w s) ++
              (k.kwEnd ++ (p.eol ++ (secs.flatMap (renderSec p w) ++ tail))))) := by
          rw [List.flatMap_cons, renderSec_shape, hk]; simp only [List.append_assoc]
        rw [hshape, sectionsLoop_step _ _ _ _ _ _ _ _
          (noOcc_append hpre (noOcc_of_bodyOK (isKw_kwBegin k) (bodyOK_natDec _)))
          (noOcc_append (noOcc_of_bodyOK (isKw_kwEnd k) (bodyOK_eol p))
            (noOcc_of_bodyOK (isKw_kwEnd k) hbs))]
        rw [ih hb' n (by omega) p.eol (noOcc_of_bodyOK (isKw_kwBegin k) (bodyOK_eol p))]
        simp [sectionTexts, hk]
    · have hshape : pre ++ ((s :: secs).flatMap (renderSec p w) ++ tail) =
          (pre ++ renderSec p w s) ++ (secs.flatMap (renderSec p w) ++ tail) := by
        rw [List.flatMap_cons]; simp only [List.append_assoc]
      rw [hshape, ih hb' fuel (by omega) _
        (noOcc_append hpre (noOcc_renderSec_other p w k s hk hbs))]
      simp [sectionTexts, hk]

/-! ## `parseCodeSpaceRange` -/

theorem isSpace_facts {c : Nat} (h : isSpace c = true) : c ≠ 60 ∧ c ≠ 62 := by
  simp only [isSpace, Bool.or_eq_true, decide_eq_true_eq] at h
  omega

theorem hexStringsAux_space (ws : Str) (h : ∀ c ∈ ws, isSpace c = true) (st : Option Str) :
    hexStringsAux st ws = [] := by
  induction ws generalizing st with
  | nil => cases st <;> rfl
  | cons c ws ih =>
    have hc := isSpace_facts (h c (by simp))
    have ih' := fun st => ih (fun x hx => h x (List.mem_cons_of_mem _ hx)) st
    cases st with
    | none => simp only [hexStringsAux, hc.1, if_false, ih']
    | some acc => simp only [hexStringsAux, hc.2, if_false, ih']

theorem hexStringsAux_append_space (l ws : Str) (h : ∀ c ∈ ws, isSpace c = true) (st : Option Str) :
    hexStringsAux st (l ++ ws) = hexStringsAux st l := by
  induction l generalizing st with
  | nil =>
    rw [List.nil_append, hexStringsAux_space ws h]
    cases st <;> rfl
  | cons c l ih =>
    cases st with
    | none =>
      simp only [List.cons_append, hexStringsAux]
      split <;> rw [ih]
    | some acc =>
      simp only [List.cons_append, hexStringsAux]
      split <;> rw [ih]

theorem hexStringsAux_dropWhile (l : Str) :
    hexStringsAux none (l.dropWhile isSpace) = hexStringsAux none l := by
  induction l with
  | nil => rfl
  | cons c l ih =>
    rw [List.dropWhile_cons]
    split
    · rename_i hc
      rw [ih]
      simp only [hexStringsAux, (isSpace_facts hc).1, if_false]
    · rfl

theorem trim_right_decomp (l : Str) :
    ∃ ws, (∀ c ∈ ws, isSpace c = true) ∧ l = (l.reverse.dropWhile isSpace).reverse ++ ws := by
  refine ⟨(l.reverse.takeWhile isSpace).reverse, ?_, ?_⟩
  · intro c hc
    exact List.mem_takeWhile_imp (List.mem_reverse.mp hc)
  · rw [← List.reverse_append, List.takeWhile_append_dropWhile, List.reverse_reverse]

theorem hexStrings_trimSpace (l : Str) : hexStrings (trimSpace l) = hexStrings l := by
  unfold hexStrings trimSpace
  obtain ⟨ws, hws, hl⟩ := trim_right_decomp (l.dropWhile isSpace)
  rw [← hexStringsAux_dropWhile l]
  conv => rhs; rw [hl]
  rw [hexStringsAux_append_space _ ws hws]

/-- trimming decides nothing: a line with two hex tokens or more sets the width, any other line is skipped
(a line that trims to nothing holds no token) -/
theorem codeSpaceLines_cons (l : Str) (rest : List Str) (cm : CMap) :
    codeSpaceLines (l :: rest) cm =
      match hexStrings l with
      | h0 :: _ :: _ => { cm with byteWidth := (h0.length + 1) / 2 }
      | _ => codeSpaceLines rest cm := by
  rw [codeSpaceLines]
  simp only [hexStrings_trimSpace]
  split
  · rename_i he
    have h : hexStrings l = [] := by rw [← hexStrings_trimSpace, he]; rfl
    rw [h]
  · rfl

/-- `strings.Split` at a one-byte separator is the library's `List.splitOn` -/
theorem splitOn_eq (sep : Nat) (s : Str) : splitOn sep s = s.splitOn sep := by
  induction s with
  | nil => rfl
  | cons c t ih =>
    rw [splitOn, ih, List.splitOn_cons_eq_if_modifyHead]
    cases h : t.splitOn sep with
    | nil => exact absurd h (List.splitOn_ne_nil sep t)
    | cons a r => simp

theorem splitOn_ne_nil (sep : Nat) (a : Str) : splitOn sep a ≠ [] := by
  rw [splitOn_eq]
  exact List.splitOn_ne_nil sep a

theorem codeSpaceLines_body (p : Policy) (w : Nat) (cm : CMap) :
    codeSpaceLines (splitOn 10 (codeSpaceBody p w)) cm = { cm with byteWidth := w } := by
  have hlen : ((hexOfBytesP p.upper (List.replicate w 0)).length + 1) / 2 = w := by
    rw [hexOfBytesP_length, List.length_replicate]; omega
  have hok := codeSpaceToks_ok p w
  -- no line feed inside the token line
  have hno : ∀ y : Str, (∀ c ∈ y, IsFill c) → 10 ∉ y → 10 ∉ renderToks
      [(Tok.hex (hexOfBytesP p.upper (List.replicate w 0)), p.sep), (Tok.hex (hexOfBytesP p.upper (List.replicate w 255)), y)] := by
    intro y hy h10
    refine stream_avoids ⟨by unfold IsHexCh; omega, by decide, by decide, by decide, by decide⟩ _ (hok y hy) ?_
    intro tf htf
    simp only [List.mem_cons, List.mem_nil_iff, or_false] at htf
    rcases htf with rfl | rfl
    · intro h; have := sep_mem p 10 h; omega
    · exact h10
  rw [codeSpaceBody_stream]
  generalize hexOfBytesP p.upper (List.replicate w 0) = h0 at *
  generalize hexOfBytesP p.upper (List.replicate w 255) = h1 at *
  generalize p.sep = sep at *
  -- CR LF and LF: white space `ws`, a line feed, the token line followed by `ws`, a line feed
  have lf : ∀ ws : Str, (ws = [13] ∨ ws = []) →
      codeSpaceLines (splitOn 10 ((ws ++ [10]) ++ renderToks [(Tok.hex h0, sep), (Tok.hex h1, ws ++ [10])])) cm =
        { cm with byteWidth := w } := by
    intro ws hws
    have hwsno : 10 ∉ ws := by rcases hws with rfl | rfl <;> simp
    have hwsh : hexStrings ws = [] := by rcases hws with rfl | rfl <;> rfl
    have hwsf : ∀ c ∈ ws, IsFill c := by rcases hws with rfl | rfl <;> simp [IsFill]
    have hshape : (ws ++ [10]) ++ renderToks [(Tok.hex h0, sep), (Tok.hex h1, ws ++ [10])] =
        ws ++ 10 :: (renderToks [(Tok.hex h0, sep), (Tok.hex h1, ws)] ++ 10 :: []) := by
      simp [renderToks]
    rw [hshape, splitOn_eq, List.splitOn_append_cons_self_of_not_mem hwsno,
      List.splitOn_append_cons_self_of_not_mem (hno ws hwsf hwsno), codeSpaceLines_cons, hwsh, codeSpaceLines_cons, ← List.nil_append (renderToks _),
      hexStrings_render [] (by simp) _ (hok ws hwsf)]
    simp only [List.map, tokHexes, hlen]
  rcases eol_cases p with he | he | he <;> rw [he]
  · -- one line
    rw [splitOn_eq, List.splitOn_eq_singleton (fun hc => (List.mem_append.mp hc).elim (by simp)
        (hno [32] (by simp [IsFill]) (by simp))), codeSpaceLines_cons, hexStrings_render [32] (by simp [IsFill]) _ (hok [32] (by simp [IsFill]))]
    simp only [List.map, tokHexes, hlen]
  · exact lf [13] (Or.inl rfl)
  · exact lf [] (Or.inr rfl)

theorem parseCodeSpaceRange_program (p : Policy) (w : Nat) (rest : Str) (cm : CMap) :
    parseCodeSpaceRange (header p ++ codeSpaceSec p w ++ rest) cm = { cm with byteWidth := w } := by
  have hshape : header p ++ codeSpaceSec p w ++ rest =
      (header p ++ [49, 32]) ++ (kwBeginCodeSpace ++ (codeSpaceBody p w ++ (kwEndCodeSpace ++
        (p.eol ++ rest)))) := by
    simp [codeSpaceSec, hdr7, List.append_assoc]
  obtain ⟨h1, h2, h3⟩ := find_section kwBeginCodeSpace kwEndCodeSpace _ (codeSpaceBody p w) (p.eol ++ rest)
    (noOcc_header_codeSpace p) (noOcc_of_bodyOK (Or.inr (Or.inl rfl)) (bodyOK_codeSpaceBody p w))
  rw [hshape, parseCodeSpaceRange, h1]
  simp only [h2, h3]
  rw [List.take_left' rfl, codeSpaceLines_body]

/-! ## the whole program -/

theorem sectionsLoop_program (p : Policy) (w : Nat) (secs : List Section)
    (hb : ∀ s ∈ secs, BodyOK (sectionBody p w s)) (k : Kind) (f : Str → CMap → CMap) (cm : CMap) :
    sectionsLoop k.kwBegin k.kwEnd f ((renderProgram p w secs).length + 1) (renderProgram p w secs) cm =
      (sectionTexts p w k secs).foldl (fun cm b => f b cm) cm := by
  have hshape : renderProgram p w secs =
      (header p ++ codeSpaceSec p w) ++ (secs.flatMap (renderSec p w) ++ trailer p) := by
    simp only [renderProgram, List.append_assoc]
  have hlen := List.length_le_length_flatMap (renderSec p w) secs fun s _ => by
    rw [renderSec_shape]; simp only [List.length_append, List.length_cons]; omega
  rw [hshape]
  apply sectionsLoop_secs p w k f (trailer p) (noOcc_trailer k p) secs hb
  · simp only [List.length_append]; omega
  · exact noOcc_append (noOcc_header k p) (noOcc_codeSpaceSec k p w)

/-- tabula's parser finds exactly the sections the writer wrote: the code-space section sets
`byteWidth := w`, then every bfchar section body goes to `parseBfCharSection` in order, then
every bfrange section body to `parseBfRangeSection` in order -/
theorem parse_renderProgram (p : Policy) (w : Nat) (secs : List Section)
    (hb : ∀ s ∈ secs, BodyOK (sectionBody p w s)) :
    parseCMapData (renderProgram p w secs) =
      (sectionTexts p w .bfrange secs).foldl (fun cm b => parseBfRangeSection b cm)
        ((sectionTexts p w .bfchar secs).foldl (fun cm b => parseBfCharSection b cm)
          { byteWidth := w }) := by
  have hcs : parseCodeSpaceRange (renderProgram p w secs) {} = { byteWidth := w } := by
    have hshape : renderProgram p w secs =
        header p ++ codeSpaceSec p w ++ (secs.flatMap (renderSec p w) ++ trailer p) := by
      simp only [renderProgram, List.append_assoc]
    rw [hshape, parseCodeSpaceRange_program]
  unfold parseCMapData
  rw [hcs]
  have h1 := sectionsLoop_program p w secs hb .bfchar parseBfCharSection { byteWidth := w }
  have h2 := fun cm => sectionsLoop_program p w secs hb .bfrange parseBfRangeSection cm
  unfold parseBfRange parseBfChar
  exact (congrArg _ h1).trans (h2 _)

/-! ## section bodies of well-formed items -/

theorem itemToks_last (p : Policy) (w : Nat) (it : Item) :
    ∃ front tok, itemToks p w it = front ++ [(tok, p.eol)] := by
  cases it with
  | char c t => exact ⟨[_], _, rfl⟩
  | offset r => exact ⟨[_, _], _, rfl⟩
  | array r => exact ⟨_, _, rfl⟩

theorem renderToks_item_ends (p : Policy) (w : Nat) (it : Item) :
    ∃ x, renderToks (itemToks p w it) = x ++ p.eol := by
  obtain ⟨front, tok, h⟩ := itemToks_last p w it
  refine ⟨renderToks front ++ tok.text, ?_⟩
  rw [h, renderToks_append]
  simp [renderToks, List.append_assoc]

theorem sectionBody_ends (p : Policy) (w : Nat) (items : List Item) :
    renderToks (items.flatMap (itemToks p w)) = [] ∨
      ∃ x, renderToks (items.flatMap (itemToks p w)) = x ++ p.eol := by
  induction items with
  | nil => exact Or.inl rfl
  | cons it items ih =>
    right
    rw [List.flatMap_cons, renderToks_append]
    obtain ⟨x, hx⟩ := renderToks_item_ends p w it
    rcases ih with h | ⟨y, hy⟩
    · exact ⟨x, by rw [h, List.append_nil, hx]⟩
    · exact ⟨renderToks (itemToks p w it) ++ y, by rw [hy, List.append_assoc]⟩

/-- the hypothesis of `parse_renderProgram` holds for every section of well-formed items -/
theorem bodyOK_sectionBody (p : Policy) (w : Nat) (s : Section) (hs : SectionOK w s) :
    BodyOK (sectionBody p w s) := by
  unfold sectionBody
  constructor
  · exact streamOK_no_n _ (itemsToks_ok p w s.items (fun it hit => (hs it hit).1))
  · rcases sectionBody_ends p w s.items with h | ⟨x, hx⟩
    · exact Or.inl h
    · right
      rw [hx]
      exact getLast_append_eol p x

end Tabula.CMap
