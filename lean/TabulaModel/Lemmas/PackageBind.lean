import TabulaModel.Model.PackageBind
import TabulaModel.Lemmas.Package
/-!
Lemmas about the attribute binding of `Model/PackageBind.lean` (C18): the value of a
field is the value of the last attribute it takes; attributes it does not take can be
dropped; the loop under a renaming of the namespaces.
-/
namespace Tabula.PackageBind
open Tabula.Package

/-- one step of the attribute loop for one field -/
def step (ns loc : Str) (acc : Str) (a : Attr) : Str := if takes ns loc a then a.2.2 else acc

theorem attrField_eq (ns loc : Str) (attrs : List Attr) :
    attrField ns loc attrs = attrs.foldl (step ns loc) [] := rfl

/-- the value of a field is the value of the LAST attribute it takes, `""` when it takes none -/
theorem attrField_find (ns loc : Str) (attrs : List Attr) :
    attrField ns loc attrs = ((attrs.reverse.find? (takes ns loc)).map (·.2.2)).getD [] := by
  rw [attrField, foldl_last_wins (fun a => takes ns loc a = true)]
  simp only [Bool.decide_eq_true]

theorem attrField_last (ns loc : Str) (pre post : List Attr) (a : Attr)
    (ha : takes ns loc a = true) (hp : ∀ b ∈ post, takes ns loc b = false) :
    attrField ns loc (pre ++ a :: post) = a.2.2 := by
  rw [attrField_find, List.find?_eq_some_iff_append.2 ⟨ha, post.reverse, pre.reverse, by simp, fun b hb => by
    simp [hp b (List.mem_reverse.1 hb)]⟩]
  rfl

/-- a field no attribute is taken by stays empty -/
theorem attrField_none (ns loc : Str) (attrs : List Attr) (h : ∀ a ∈ attrs, takes ns loc a = false) :
    attrField ns loc attrs = [] := by
  rw [attrField_find, List.find?_eq_none.2 fun a ha => by simp [h a (List.mem_reverse.1 ha)]]
  rfl

/-- attributes the field does not take can be dropped -/
theorem attrField_filter (ns loc : Str) (p : Attr → Bool)
    (hp : ∀ a, takes ns loc a = true → p a = true) (attrs : List Attr) :
    attrField ns loc (attrs.filter p) = attrField ns loc attrs := by
  rw [attrField_find, attrField_find, ← List.filter_reverse, List.find?_filter]
  congr 3
  funext a
  cases h : takes ns loc a <;> simp [h, hp a]

theorem foldl_congr_mem {α β : Type} (f g : β → α → β) (l : List α) (init : β)
    (h : ∀ a ∈ l, ∀ acc, f acc a = g acc a) : l.foldl f init = l.foldl g init :=
  List.foldl_congr h init

theorem nsRelT_ne_nil : nsRelT ≠ [] := by decide
theorem nsRelS_ne_nil : nsRelS ≠ [] := by decide
theorem nsRelS_ne_nsRelT : nsRelS ≠ nsRelT := by decide

theorem takes_ns (ns loc : Str) (hns : ns ≠ []) (a : Attr) :
    takes ns loc a = true ↔ a.2.1 = loc ∧ a.1 = ns := by
  simp only [takes, Bool.and_eq_true, Bool.or_eq_true, decide_eq_true_eq]
  constructor
  · intro h
    rcases h with ⟨h1, h2 | h2⟩
    · exact absurd h2 hns
    · exact ⟨h1, h2.symm⟩
  · intro h; exact ⟨h.1, Or.inr h.2.symm⟩

theorem takes_nil (loc : Str) (a : Attr) : takes [] loc a = true ↔ a.2.1 = loc := by
  simp [takes]

theorem takes_false_of (ns loc : Str) (hns : ns ≠ []) (a : Attr) (h : ¬ (a.1 = ns ∧ a.2.1 = loc)) :
    takes ns loc a = false := by
  cases ht : takes ns loc a with
  | false => rfl
  | true => exact absurd ((takes_ns ns loc hns a).1 ht).symm (fun hh => h ⟨hh.1, hh.2⟩)

theorem retag_foldl (f : Str → Str) (ns loc : Str) (attrs : List Attr) (init : Str) :
    (retag f attrs).foldl (step ns loc) init =
      attrs.foldl (fun acc a => step ns loc acc (f a.1, a.2.1, a.2.2)) init := by
  unfold retag; rw [List.foldl_map]

/-- a field bound to `ns` reads the renamed element as a field bound to `ns'` reads the original,
when attribute by attribute the one takes the renamed attribute iff the other takes the original -/
theorem attrField_retag (f : Str → Str) (ns ns' loc : Str) (attrs : List Attr)
    (h : ∀ a ∈ attrs, takes ns loc (f a.1, a.2.1, a.2.2) = takes ns' loc a) :
    attrField ns loc (retag f attrs) = attrField ns' loc attrs := by
  rw [attrField_eq, attrField_eq, retag_foldl]
  apply foldl_congr_mem
  intro a ha acc
  unfold step
  rw [h a ha]

end Tabula.PackageBind
