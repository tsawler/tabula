import TabulaModel.Model.Collection
import TabulaModel.Lemmas.Export
/-!
Loop invariants of the collection accessors of `Model/Collection.lean` (for `Props/C14Coll.lean`).
-/
set_option linter.unusedSimpArgs false
namespace Tabula.Export
open Tabula.Csv (Str)

theorem sectionsLoop_spec (cs : List Chunk) (seen acc : List Str) (hs : ∀ t, t ∈ seen ↔ t ∈ acc) (hn : acc.Nodup) :
    (sectionsLoop cs seen acc).Nodup ∧
    (∀ t, t ∈ sectionsLoop cs seen acc ↔ (t ∈ acc ∨ (t ≠ [] ∧ ∃ c ∈ cs, c.md.sectionTitle = t))) ∧
    ∃ sub, sectionsLoop cs seen acc = acc ++ sub ∧ sub.Sublist (cs.map (·.md.sectionTitle)) := by
  induction cs generalizing seen acc with
  | nil => exact ⟨hn, by simp [sectionsLoop], [], by simp [sectionsLoop], List.Sublist.slnil⟩
  | cons c rest ih =>
    -- one step: the title joins `acc` (and `seen`) iff it is non-empty and new
    obtain ⟨seen', acc', sub, hstep, hs', hn', hmem, hacc, hsub⟩ :
        ∃ seen' acc' sub, sectionsLoop (c :: rest) seen acc = sectionsLoop rest seen' acc' ∧
          (∀ t, t ∈ seen' ↔ t ∈ acc') ∧ acc'.Nodup ∧
          (∀ t, t ∈ acc' ↔ t ∈ acc ∨ (t ≠ [] ∧ c.md.sectionTitle = t)) ∧
          acc' = acc ++ sub ∧ sub.Sublist [c.md.sectionTitle] := by
      rw [sectionsLoop]
      by_cases h : c.md.sectionTitle ≠ [] ∧ c.md.sectionTitle ∉ seen
      · have hnot : c.md.sectionTitle ∉ acc := fun hm => h.2 ((hs _).mpr hm)
        refine ⟨_, _, [c.md.sectionTitle], if_pos h, fun t => by simp [hs t, Or.comm], nodup_snoc hn hnot,
          fun t => ?_, rfl, List.Sublist.refl _⟩
        rw [List.mem_append, List.mem_singleton]
        exact or_congr_right ⟨fun e => ⟨e ▸ h.1, e.symm⟩, fun e => e.2.symm⟩
      · refine ⟨seen, acc, [], if_neg h, hs, hn, fun t => ⟨Or.inl, ?_⟩, (List.append_nil _).symm, List.nil_sublist _⟩
        rintro (h1 | ⟨h1, e⟩)
        · exact h1
        · subst e
          exact (hs _).mp (Classical.not_not.mp (fun hm => h ⟨h1, hm⟩))
    obtain ⟨i1, i2, sub', i3, i4⟩ := ih seen' acc' hs' hn'
    rw [hstep]
    refine ⟨i1, fun t => ?_, sub ++ sub', by rw [i3, hacc, List.append_assoc], hsub.append i4⟩
    rw [i2 t, hmem t]
    simp only [List.mem_cons, exists_eq_or_imp, and_or_left, or_assoc]

/-- a loop that adds one field of every chunk to a running total (given by its two equations) computes the sum -/
theorem sumLoop_eq (loop : List Chunk → Int → Int) (g : Chunk → Int) (h0 : ∀ t, loop [] t = t)
    (hc : ∀ c rest t, loop (c :: rest) t = loop rest (t + g c)) (l : List Chunk) (t : Int) :
    loop l t = t + (l.map g).sum := by
  induction l generalizing t with
  | nil => rw [h0, List.map_nil, List.sum_nil, Int.add_zero]
  | cons c rest ih => rw [hc, ih, List.map_cons, List.sum_cons, Int.add_assoc]

/-- one step of a running minimum: below both, and equal to one of them -/
theorem runMin (a b : Int) :
    (if a < b then a else b) ≤ b ∧ (if a < b then a else b) ≤ a ∧
    ((if a < b then a else b) = b ∨ (if a < b then a else b) = a) := by
  split <;> omega

/-- one step of a running maximum -/
theorem runMax (a b : Int) :
    b ≤ (if a > b then a else b) ∧ a ≤ (if a > b then a else b) ∧
    ((if a > b then a else b) = b ∨ (if a > b then a else b) = a) := by
  split <;> omega

theorem pageRangeLoop_spec (cs : List Chunk) (lo hi : Int) :
    (pageRangeLoop cs lo hi).1 ≤ lo ∧ (∀ c ∈ cs, (pageRangeLoop cs lo hi).1 ≤ c.md.pageStart) ∧
    ((pageRangeLoop cs lo hi).1 = lo ∨ ∃ c ∈ cs, (pageRangeLoop cs lo hi).1 = c.md.pageStart) ∧
    hi ≤ (pageRangeLoop cs lo hi).2 ∧ (∀ c ∈ cs, c.md.pageEnd ≤ (pageRangeLoop cs lo hi).2) ∧
    ((pageRangeLoop cs lo hi).2 = hi ∨ ∃ c ∈ cs, (pageRangeLoop cs lo hi).2 = c.md.pageEnd) := by
  induction cs generalizing lo hi with
  | nil => simp [pageRangeLoop]
  | cons c rest ih =>
    simp only [pageRangeLoop]
    obtain ⟨l1, l2, l3⟩ := runMin c.md.pageStart lo
    obtain ⟨u1, u2, u3⟩ := runMax c.md.pageEnd hi
    generalize (if c.md.pageStart < lo then c.md.pageStart else lo) = lo' at l1 l2 l3 ⊢
    generalize (if c.md.pageEnd > hi then c.md.pageEnd else hi) = hi' at u1 u2 u3 ⊢
    obtain ⟨a1, a2, a3, a4, a5, a6⟩ := ih lo' hi'
    refine ⟨Int.le_trans a1 l1, List.forall_mem_cons.mpr ⟨Int.le_trans a1 l2, a2⟩, ?_, Int.le_trans u1 a4,
      List.forall_mem_cons.mpr ⟨Int.le_trans u2 a4, a5⟩, ?_⟩
    · rcases a3 with e | ⟨c', hc', e⟩
      · rcases l3 with e' | e'
        · exact Or.inl (e.trans e')
        · exact Or.inr ⟨c, by simp, e.trans e'⟩
      · exact Or.inr ⟨c', List.mem_cons_of_mem _ hc', e⟩
    · rcases a6 with e | ⟨c', hc', e⟩
      · rcases u3 with e' | e'
        · exact Or.inl (e.trans e')
        · exact Or.inr ⟨c, by simp, e.trans e'⟩
      · exact Or.inr ⟨c', List.mem_cons_of_mem _ hc', e⟩

/-- one step of a counter that counts the chunks with a flag set -/
theorem countStep (b : Bool) (n k : Nat) :
    (if b = true then n + 1 else n) + k = n + (k + if b = true then 1 else 0) := by
  cases b <;> simp <;> omega

theorem statsLoop_spec (cs : List Chunk) (s : Stats) :
    (statsLoop cs s).totalChunks = s.totalChunks ∧
    (statsLoop cs s).totalTokens = s.totalTokens + (cs.map (·.md.estimatedTokens)).sum ∧
    (statsLoop cs s).totalWords = s.totalWords + (cs.map (·.md.wordCount)).sum ∧
    (statsLoop cs s).totalChars = s.totalChars + (cs.map (·.md.charCount)).sum ∧
    (statsLoop cs s).withTables = s.withTables + cs.countP (·.md.hasTable) ∧
    (statsLoop cs s).withLists = s.withLists + cs.countP (·.md.hasList) ∧
    (statsLoop cs s).withImages = s.withImages + cs.countP (·.md.hasImage) ∧
    (statsLoop cs s).minTokens ≤ s.minTokens ∧ (∀ c ∈ cs, (statsLoop cs s).minTokens ≤ c.md.estimatedTokens) ∧
    s.maxTokens ≤ (statsLoop cs s).maxTokens ∧ (∀ c ∈ cs, c.md.estimatedTokens ≤ (statsLoop cs s).maxTokens) := by
  induction cs generalizing s with
  | nil => simp [statsLoop]
  | cons c rest ih =>
    obtain ⟨hmn1, hmn2, _⟩ := runMin c.md.estimatedTokens s.minTokens
    obtain ⟨hmx1, hmx2, _⟩ := runMax c.md.estimatedTokens s.maxTokens
    rw [statsLoop]
    obtain ⟨a0, a1, a2, a3, a4, a5, a6, a7, a8, a9, a10⟩ := ih _
    refine ⟨a0, ?_, ?_, ?_, ?_, ?_, ?_, Int.le_trans a7 hmn1, List.forall_mem_cons.mpr ⟨Int.le_trans a7 hmn2, a8⟩,
      Int.le_trans hmx1 a9, List.forall_mem_cons.mpr ⟨Int.le_trans hmx2 a9, a10⟩⟩
    · rw [a1, List.map_cons, List.sum_cons, Int.add_assoc]
    · rw [a2, List.map_cons, List.sum_cons, Int.add_assoc]
    · rw [a3, List.map_cons, List.sum_cons, Int.add_assoc]
    · rw [a4, List.countP_cons, countStep]
    · rw [a5, List.countP_cons, countStep]
    · rw [a6, List.countP_cons, countStep]

end Tabula.Export
