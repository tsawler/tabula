import TabulaModel.Lemmas.Docx
import TabulaModel.Model.VMergeSpec
/-!
`processVerticalMerges` (docx/tables.go) against a specification without mutable state.

The pass walks the cells row by row, keeps for every grid column the row of the latest
cell that started there and is no continuation (`mergeStarts`), and for every continuation
cell increments - in the table it is walking - the row span of the cell that covers the
continuation's start column in that row. The specification (`Model/VMergeSpec.lean`) says the same by search
in the original table: `targets rows` lists, for every continuation cell in reading order,
the (row, cell index) it adds a row to; the pass is `bumpAll rows (targets rows)`.
-/
namespace Tabula.Docx
open Tabula.Xml

/-- the pass on one cell -/
def stepEv (st : List (Option Nat) × List (List Cell)) (e : Ev) : List (Option Nat) × List (List Cell) :=
  if !e.cell.cont then (st.1.set e.col (some e.row), st.2)
  else match st.1.getD e.col none with
    | some startRow =>
      match findCellAtColumn (st.2.getD startRow []) e.col 0 0 with
      | some i => (st.1, bumpRowSpan st.2 startRow i)
      | none => st
    | none => st

theorem mergeRow_events (r : Nat) : ∀ (cells : List Cell) (col : Nat) (st : List (Option Nat) × List (List Cell)),
    mergeRow r cells col st = (rowEvents r cells col).foldl stepEv st := by
  intro cells
  induction cells with
  | nil => intro col st; rfl
  | cons c rest ih =>
    intro col st
    obtain ⟨starts, rows⟩ := st
    simp only [mergeRow, rowEvents, List.foldl_cons]
    rw [ih]
    congr 1

theorem mergeRows_events : ∀ (rows : List (List Cell)) (r : Nat) (st : List (Option Nat) × List (List Cell)),
    mergeRows rows r st = (eventsFrom rows r).foldl stepEv st := by
  intro rows
  induction rows with
  | nil => intro r st; rfl
  | cons row rest ih =>
    intro r st
    simp only [mergeRows, eventsFrom, List.foldl_append]
    rw [ih, mergeRow_events]

theorem map_bumpAll {β : Type} (g : Cell → β) (hg : ∀ c, g { c with rowSpan := c.rowSpan + 1 } = g c) :
    ∀ (ts : List (Nat × Nat)) (rows : List (List Cell)), (bumpAll rows ts).map (·.map g) = rows.map (·.map g)
  | [], _ => rfl
  | t :: rest, rows => (map_bumpAll g hg rest (bumpRowSpan rows t.1 t.2)).trans (map_bump g hg rows t.1 t.2)

/-- `findCellAtColumn` reads the column spans only -/
theorem findCell_congr : ∀ (a b : List Cell), a.map strip = b.map strip → ∀ t col i,
    findCellAtColumn a t col i = findCellAtColumn b t col i := by
  intro a
  induction a with
  | nil =>
    intro b h t col i
    cases b with
    | nil => rfl
    | cons _ _ => simp at h
  | cons x xs ih =>
    intro b h t col i
    cases b with
    | nil => simp at h
    | cons y ys =>
      simp only [List.map_cons, List.cons.injEq] at h
      have hs : x.colSpan = y.colSpan := by
        have := congrArg (fun t : Str × Nat × Bool => t.2.1) h.1
        simpa [strip] using this
      simp only [findCellAtColumn, hs]
      rw [ih ys h.2]

theorem getD_stripRows (rows : List (List Cell)) (r : Nat) : (rows.getD r []).map strip = (stripRows rows).getD r [] := by
  simp only [stripRows, List.getD_eq_getElem?_getD, List.getElem?_map]
  cases rows[r]? <;> simp

theorem findCell_bumpAll (rows : List (List Cell)) (ts : List (Nat × Nat)) (r t : Nat) :
    findCellAtColumn ((bumpAll rows ts).getD r []) t 0 0 = findCellAtColumn (rows.getD r []) t 0 0 := by
  apply findCell_congr
  have h : stripRows (bumpAll rows ts) = stripRows rows := map_bumpAll strip (fun _ => rfl) ts rows
  rw [getD_stripRows, getD_stripRows, h]

theorem getD_set (l : List (Option Nat)) (i j : Nat) (v : Option Nat) :
    (l.set i v).getD j none = if i = j ∧ i < l.length then v else l.getD j none := by
  simp only [List.getD_eq_getElem?_getD, List.getElem?_set]
  by_cases h : i = j
  · subst h; by_cases hl : i < l.length <;> simp [hl]
  · simp [h]

/-- `mergeStarts` holds, for every column, the row the specification finds by search -/
def StartsInv (cc : Nat) (starts : List (Option Nat)) (rev : List Ev) : Prop :=
  starts.length = cc ∧ ∀ col, starts.getD col none = lastStart cc rev col

theorem fold_refines (cc : Nat) (rows : List (List Cell)) : ∀ (evs rev : List Ev) (starts : List (Option Nat)) (ts : List (Nat × Nat)),
    StartsInv cc starts rev →
    (evs.foldl stepEv (starts, bumpAll rows ts)).2 = bumpAll rows (ts ++ targetsFrom cc rows evs rev) := by
  intro evs
  induction evs with
  | nil => intro rev starts ts _; simp [targetsFrom]
  | cons e rest ih =>
    intro rev starts ts hinv
    obtain ⟨hlen, hget⟩ := hinv
    simp only [List.foldl_cons, targetsFrom]
    by_cases hc : e.cell.cont = true
    · -- a continuation cell: mergeStarts unchanged, one row added to its target
      have hinv' : StartsInv cc starts (e :: rev) := by
        refine ⟨hlen, fun col => ?_⟩
        rw [hget col]
        simp [lastStart, startsAt, hc]
      simp only [stepEv, hc, Bool.not_true, Bool.false_eq_true, if_false, targetOf, if_true]
      rw [hget e.col]
      cases hls : lastStart cc rev e.col with
      | none =>
        simp only [Option.toList, List.nil_append]
        exact ih (e :: rev) starts ts hinv'
      | some sr =>
        simp only []
        rw [findCell_bumpAll]
        cases hf : findCellAtColumn (rows.getD sr []) e.col 0 0 with
        | none =>
          simp only [Option.map_none, Option.toList, List.nil_append]
          exact ih (e :: rev) starts ts hinv'
        | some i =>
          simp only [Option.map_some, Option.toList]
          have hb : bumpRowSpan (bumpAll rows ts) sr i = bumpAll rows (ts ++ [(sr, i)]) := by
            simp [bumpAll, List.foldl_append]
          rw [hb, ih (e :: rev) starts (ts ++ [(sr, i)]) hinv']
          simp [List.append_assoc]
    · -- any other cell: its start column now points to its row
      have hc' : e.cell.cont = false := by simpa using hc
      have hinv' : StartsInv cc (starts.set e.col (some e.row)) (e :: rev) := by
        refine ⟨by rw [List.length_set]; exact hlen, fun col => ?_⟩
        rw [getD_set, hget col, hlen]
        simp only [lastStart, List.find?_cons, startsAt, hc', Bool.not_false, Bool.true_and]
        by_cases h1 : e.col = col
        · subst h1
          by_cases h2 : e.col < cc
          · simp [h2]
          · simp [h2]
        · have : (e.col == col) = false := by simpa using h1
          simp [h1, this]
      simp only [stepEv, hc', Bool.not_false, if_true, targetOf, Bool.false_eq_true, if_false, Option.toList, List.nil_append]
      exact ih (e :: rev) _ ts hinv'

theorem startsInv_init (cc : Nat) : StartsInv cc (List.replicate cc none) [] := by
  refine ⟨by simp, fun col => ?_⟩
  simp [lastStart, List.getD_eq_getElem?_getD, List.getElem?_replicate]
  split <;> rfl

/-- for every table (any spans, any continuation flags, aligned or not) the pass is: add one row
to each target, in reading order of the continuation cells -/
theorem processVerticalMerges_spec (rows : List (List Cell)) : processVerticalMerges rows = bumpAll rows (targets rows) := by
  unfold processVerticalMerges targets events
  rw [mergeRows_events]
  have := fold_refines (colCount rows) rows (eventsFrom rows 0) [] (List.replicate (colCount rows) none) [] (startsInv_init _)
  simpa [bumpAll] using this

/-- … so it keeps whatever does not read the row span, cell by cell -/
theorem map_processVerticalMerges {β : Type} (g : Cell → β) (hg : ∀ c, g { c with rowSpan := c.rowSpan + 1 } = g c)
    (rows : List (List Cell)) : (processVerticalMerges rows).map (·.map g) = rows.map (·.map g) := by
  rw [processVerticalMerges_spec, map_bumpAll g hg]

/-- text, grid span and continuation flag of every cell -/
theorem stripRows_processVerticalMerges (rows : List (List Cell)) :
    stripRows (processVerticalMerges rows) = stripRows rows :=
  map_processVerticalMerges strip (fun _ => rfl) rows

theorem length_processVerticalMerges (rows : List (List Cell)) : (processVerticalMerges rows).length = rows.length := by
  simpa using congrArg List.length (map_processVerticalMerges (fun _ => ()) (fun _ => rfl) rows)

theorem colCount_processVerticalMerges (rows : List (List Cell)) : colCount (processVerticalMerges rows) = colCount rows := by
  have := congrArg (Grid.width id) (map_processVerticalMerges (·.colSpan) (fun _ => rfl) rows)
  rw [Grid.width_map, Grid.width_map] at this
  exact this

/-- cell number `i` of row `r` -/
def cellAt (rows : List (List Cell)) (r i : Nat) : Option Cell := (rows[r]?).bind (·[i]?)

/-- a cell found by its indices is a cell of a row of the table -/
theorem cellAt_mem {rows : List (List Cell)} {r i : Nat} {c : Cell} (h : cellAt rows r i = some c) :
    ∃ row ∈ rows, c ∈ row := by
  unfold cellAt at h
  cases hr : rows[r]? with
  | none => simp [hr] at h
  | some row =>
    rw [hr] at h
    exact ⟨row, List.mem_of_getElem? hr, List.mem_of_getElem? h⟩

theorem cellAt_bump (rows : List (List Cell)) (r i r' i' : Nat) :
    cellAt (bumpRowSpan rows r i) r' i' =
      (cellAt rows r' i').map fun c => if r = r' ∧ i = i' then { c with rowSpan := c.rowSpan + 1 } else c := by
  unfold cellAt bumpRowSpan
  rw [List.getElem?_modify]
  cases hr : rows[r']? with
  | none => simp
  | some row =>
    simp only [Option.map_eq_map, Option.map_some, Option.bind_some]
    by_cases h1 : r = r'
    · simp only [h1, if_true, true_and]
      rw [List.getElem?_modify]
      cases row[i']? <;> simp
    · simp only [h1, if_false, false_and]
      cases row[i']? <;> simp

theorem rowSpan_bumpAll : ∀ (ts : List (Nat × Nat)) (rows : List (List Cell)) (r i : Nat),
    (cellAt (bumpAll rows ts) r i).map (·.rowSpan) = (cellAt rows r i).map fun c => c.rowSpan + ts.count (r, i) := by
  intro ts
  induction ts with
  | nil => intro rows r i; simp [bumpAll]
  | cons t rest ih =>
    intro rows r i
    have hstep : bumpAll rows (t :: rest) = bumpAll (bumpRowSpan rows t.1 t.2) rest := by simp [bumpAll]
    rw [hstep, ih, cellAt_bump]
    cases cellAt rows r i with
    | none => simp
    | some c =>
      simp only [Option.map_some, List.count_cons]
      by_cases h : t = (r, i)
      · subst h
        simp only [and_self, if_true, BEq.rfl, Option.some.injEq]
        omega
      · have h' : ¬ (t.1 = r ∧ t.2 = i) := fun hh => h (Prod.ext hh.1 hh.2)
        simp [h', beq_false_of_ne h]

end Tabula.Docx
