import TabulaModel.Model.ChunkAtomic
/-!
Helper lemmas for property C12: the index-driven loop of `splitSectionByParagraphs` with
`FindAtomicBlocks` / `GetAtomicBlockAt` (`Model/ChunkAtomic.lean`) computes what the list
recursion `paraLoop` (`Model/ChunkLayout.lean`) computes.
-/
namespace Tabula.ChunkAtomic
open Tabula.Chunk Tabula.ChunkLayout

/-- `blocks[i-1]` when the loop stands behind `pre` -/
def lastOf (prev : Option CE) (pre : List CE) : Option CE :=
  match pre.getLast? with
  | some x => some x
  | none => prev

theorem lastOf_nil (prev : Option CE) : lastOf prev [] = prev := rfl

theorem lastOf_snoc (prev : Option CE) (pre : List CE) (e : CE) : lastOf prev (pre ++ [e]) = some e := by
  simp [lastOf]

theorem lastOf_cons (prev : Option CE) (e : CE) (l : List CE) : lastOf prev (e :: l) = lastOf (some e) l := by
  unfold lastOf
  rw [List.getLast?_cons]
  cases l.getLast? <;> rfl

theorem findFrom_append (keep : Bool) (prev : Option CE) (j : Nat) (a b : List CE) :
    findFrom keep prev j (a ++ b) = findFrom keep prev j a ++ findFrom keep (lastOf prev a) (j + a.length) b := by
  induction a generalizing prev j with
  | nil => simp [findFrom, lastOf_nil]
  | cons e es ih =>
    simp only [List.cons_append, findFrom, List.length_cons, lastOf_cons]
    have : j + (es.length + 1) = j + 1 + es.length := by omega
    split
    · rw [ih, this]; rfl
    · rw [ih, this]

/-- where the blocks found from index `j` on lie -/
theorem findFrom_bounds (keep : Bool) (prev : Option CE) (j : Nat) (l : List CE) :
    ∀ b ∈ findFrom keep prev j l, j ≤ b.2 ∧ b.2 < j + l.length ∧ j ≤ b.1 + 1 := by
  induction l generalizing prev j with
  | nil => intro b hb; simp [findFrom] at hb
  | cons e es ih =>
    intro b hb
    simp only [findFrom] at hb
    have hrest : ∀ b ∈ findFrom keep (some e) (j + 1) es, j ≤ b.2 ∧ b.2 < j + (e :: es).length ∧ j ≤ b.1 + 1 := by
      intro b hb
      obtain ⟨h1, h2, h3⟩ := ih (some e) (j + 1) b hb
      simp only [List.length_cons]
      omega
    split at hb
    · rcases List.mem_cons.mp hb with rfl | hb
      · simp only [List.length_cons]
        refine ⟨Nat.le_refl _, by omega, ?_⟩
        unfold blockStart
        cases prev with
        | none => simp
        | some p => simp only; split <;> omega
      · exact hrest b hb
    · exact hrest b hb

theorem find_skip {α} (p : α → Bool) (xs ys : List α) (h : ∀ x ∈ xs, p x = false) :
    (xs ++ ys).find? p = ys.find? p := by
  rw [List.find?_append, List.find?_eq_none.mpr (fun x hx => by simp [h x hx])]
  rfl

/-- the arrival condition of the loop: it never stands on a list whose introducing paragraph it
has just passed (that paragraph's block would have carried it past the list) -/
def Arr (keep : Bool) (prev : Option CE) (suf : List CE) : Prop :=
  ∀ p e r, keep = true → prev = some p → suf = e :: r → p.kind = .para → p.intro = true → e.kind ≠ .list

/-- what `GetAtomicBlockAt` is to find at position `i`, the rest of the content being `suf` -/
def expectBlock (keep : Bool) (i : Nat) : List CE → Option Block
  | [] => none
  | [e] => if keep && e.kind == .list then some (i, i) else none
  | e :: n :: _ =>
    if keep && e.kind == .list then some (i, i)
    else if keep && n.kind == .list && (e.kind == .para && e.intro) then some (i, i + 1)
    else none

theorem expectBlock_list (keep : Bool) (i : Nat) (e : CE) (rest : List CE)
    (hk : (keep && e.kind == .list) = true) : expectBlock keep i (e :: rest) = some (i, i) := by
  cases rest <;> simp only [expectBlock, hk, if_true]

/-- what the lookup finds among the blocks found from the position `i` on, `prev` standing before it -/
theorem find_findFrom (keep : Bool) (prev : Option CE) (i : Nat) (suf : List CE) (harr : Arr keep prev suf) :
    (findFrom keep prev i suf).find? (fun b => decide (b.1 ≤ i) && decide (i ≤ b.2)) = expectBlock keep i suf := by
  have hnone : ∀ (pv : Option CE) (j : Nat) (l : List CE), i + 1 < j →
      (findFrom keep pv j l).find? (fun b => decide (b.1 ≤ i) && decide (i ≤ b.2)) = none := by
    intro pv j l hj
    rw [List.find?_eq_none]
    intro b hb
    obtain ⟨_, _, h3⟩ := findFrom_bounds keep pv j l b hb
    rw [decide_eq_false (by omega : ¬ b.1 ≤ i)]
    exact Bool.false_ne_true
  cases suf with
  | nil => rfl
  | cons e rest =>
    by_cases hk : (keep && e.kind == .list) = true
    · -- a list: its own block, which starts here
      have hstart : blockStart prev i = i := by
        unfold blockStart
        cases prev with
        | none => rfl
        | some p =>
          simp only
          split
          · rename_i hp
            simp only [Bool.and_eq_true, beq_iff_eq] at hp hk
            exact absurd hk.2 (harr p e rest hk.1 rfl rfl hp.1 hp.2)
          · rfl
      rw [expectBlock_list keep i e rest hk, findFrom, if_pos hk, hstart]
      simp only [List.find?_cons, Nat.le_refl, decide_true, Bool.and_self]
    · rw [findFrom, if_neg hk]
      cases rest with
      | nil => simp only [findFrom, expectBlock, hk, Bool.false_eq_true, if_false, List.find?_nil]
      | cons n r =>
        rw [findFrom]
        simp only [expectBlock, hk, Bool.false_eq_true, if_false]
        by_cases hn : (keep && n.kind == .list) = true
        · rw [if_pos hn]
          by_cases hint : (e.kind == .para && e.intro) = true
          · have hbs : blockStart (some e) (i + 1) = i := by
              unfold blockStart; simp only [hint, if_true]; omega
            rw [hbs, if_pos (by rw [hn, hint]; rfl)]
            simp only [List.find?_cons, Nat.le_refl, Nat.le_succ, decide_true, Bool.and_self]
          · have hbs : blockStart (some e) (i + 1) = i + 1 := by
              unfold blockStart; simp only [hint, Bool.false_eq_true, if_false]
            rw [hbs, if_neg (by rw [hn, Bool.eq_false_iff.mpr hint]; exact Bool.false_ne_true)]
            simp only [List.find?_cons, Nat.not_succ_le_self, decide_false, Bool.false_and]
            exact hnone (some n) (i + 1 + 1) r (by omega)
        · rw [if_neg hn, hnone (some n) (i + 1 + 1) r (by omega),
            if_neg (by rw [Bool.eq_false_iff.mpr hn]; exact Bool.false_ne_true)]

/-- what `GetAtomicBlockAt` finds at the position behind `pre` -/
theorem getBlock (keep : Bool) (pre suf : List CE) (harr : Arr keep (lastOf none pre) suf) :
    getAtomicBlockAt pre.length (findAtomicBlocks keep (pre ++ suf)) = expectBlock keep pre.length suf := by
  unfold findAtomicBlocks getAtomicBlockAt
  have hskip : ∀ b ∈ findFrom keep none 0 pre, (decide (b.1 ≤ pre.length) && decide (pre.length ≤ b.2)) = false := by
    intro b hb
    obtain ⟨_, h2, _⟩ := findFrom_bounds keep none 0 pre b hb
    rw [decide_eq_false (by omega : ¬ pre.length ≤ b.2), Bool.and_false]
  rw [findFrom_append, find_skip _ _ _ hskip, Nat.zero_add]
  exact find_findFrom keep _ _ suf harr
/-- with `keepLists` a list is an atomic block of its own -/
theorem paraLoop_list (cfg : Cfg) (info : SecInfo) (e : CE) (rest : List CE) (s : LS)
    (hk : (cfg.keepLists && e.kind == .list) = true) :
    paraLoop cfg info (e :: rest) s = paraLoop cfg info rest (atomicBlock cfg info [e] s) := by
  cases rest with
  | nil => simp only [paraLoop, hk, if_true]
  | cons n r => rw [paraLoop, if_pos hk]

/-- **the index-driven loop is the list recursion**: standing at index `i` behind `pre`, it computes
what `paraLoop` computes on the rest `suf` of the content -/
theorem paraLoopAt_eq (cfg : Cfg) (info : SecInfo) (content : List CE) (fuel : Nat) (pre suf : List CE)
    (i : Nat) (s : LS) (hc : content = pre ++ suf) (hi : i = pre.length)
    (hf : suf.length ≤ fuel) (harr : Arr cfg.keepLists (lastOf none pre) suf) :
    paraLoopAt cfg info content (findAtomicBlocks cfg.keepLists content) fuel i s = paraLoop cfg info suf s := by
  induction fuel generalizing pre suf i s with
  | zero =>
    obtain rfl : suf = [] := List.eq_nil_of_length_eq_zero (by omega)
    rw [paraLoopAt, paraLoop]
  | succ fuel ih =>
    have hblock : getAtomicBlockAt i (findAtomicBlocks cfg.keepLists content) = expectBlock cfg.keepLists i suf := by
      rw [hc, hi]; exact getBlock cfg.keepLists pre suf harr
    -- the loop moves on past the elements `ys`
    have next : ∀ (ys suf' : List CE) (s' : LS), suf = ys ++ suf' → suf'.length ≤ fuel →
        Arr cfg.keepLists (lastOf none (pre ++ ys)) suf' →
        paraLoopAt cfg info content (findAtomicBlocks cfg.keepLists content) fuel (i + ys.length) s' =
          paraLoop cfg info suf' s' :=
      fun ys suf' s' e hl ha => ih (pre ++ ys) suf' (i + ys.length) s' (by rw [hc, e, List.append_assoc])
        (by rw [List.length_append, hi]) hl ha
    -- behind a list the arrival condition holds
    have arr_list : ∀ (x : CE) (pre' suf' : List CE), x.kind = .list →
        Arr cfg.keepLists (lastOf none (pre' ++ [x])) suf' := by
      intro x pre' suf' hx p e' r _ hp _ hpk _
      rw [lastOf_snoc] at hp
      cases hp
      rw [hx] at hpk; cases hpk
    cases suf with
    | nil =>
      have : content[i]? = none := by rw [hc, hi, List.append_nil]; exact List.getElem?_eq_none (Nat.le_refl _)
      rw [paraLoopAt, this, paraLoop]
    | cons e rest =>
      have he : content[i]? = some e := by rw [hc, hi]; simp
      have h1 : (content.drop i).take (i + 1 - i) = [e] := by
        rw [hc, hi, Nat.add_sub_cancel_left]; simp
      by_cases hk : (cfg.keepLists && e.kind == .list) = true
      · have hel : e.kind = .list := by simp only [Bool.and_eq_true, beq_iff_eq] at hk; exact hk.2
        simp only [paraLoopAt, he, hblock, expectBlock_list _ _ _ _ hk, h1]
        rw [paraLoop_list cfg info e rest s hk]
        exact next [e] rest _ rfl (Nat.le_of_succ_le_succ hf) (arr_list e pre _ hel)
      cases rest with
      | nil =>
        have hnext : content[i + 1]? = none := by
          rw [hc, hi]; exact List.getElem?_eq_none (by rw [List.length_append]; exact Nat.le_refl _)
        simp only [paraLoopAt, he, hblock, expectBlock, hk, Bool.false_eq_true, if_false, hnext]
        rw [paraLoop, if_neg hk]
        exact next [e] [] _ rfl (Nat.zero_le _) (by intro p e' r _ _ hs; cases hs)
      | cons n r =>
        have hn : content[i + 1]? = some n := by
          rw [hc, hi, List.getElem?_append_right (Nat.le_add_right _ _), Nat.add_sub_cancel_left]; rfl
        have h2 : (content.drop i).take (i + 1 + 1 - i) = [e, n] := by
          rw [hc, hi, Nat.add_assoc, Nat.add_sub_cancel_left]; simp
        have hlen : r.length ≤ fuel ∧ (n :: r).length ≤ fuel := by
          simp only [List.length_cons] at hf ⊢; omega
        simp only [paraLoopAt, he, hblock, expectBlock, hk, Bool.false_eq_true, if_false]
        by_cases hi' : (e.kind == .para && n.kind == .list && e.intro) = true
        · have hi2 : e.kind = .para ∧ n.kind = .list ∧ e.intro = true := by
            simp only [Bool.and_eq_true, beq_iff_eq] at hi'; exact ⟨hi'.1.1, hi'.1.2, hi'.2⟩
          by_cases hkeep : cfg.keepLists = true
          · have hcnd : (cfg.keepLists && n.kind == .list && (e.kind == .para && e.intro)) = true := by
              simp [hkeep, hi2.1, hi2.2.1, hi2.2.2]
            simp only [hcnd, if_true, h2]
            rw [paraLoop, if_neg hk, if_pos hi', if_pos hkeep]
            exact next [e, n] r _ rfl hlen.1
              (by rw [show pre ++ [e, n] = (pre ++ [e]) ++ [n] by simp]; exact arr_list n _ _ hi2.2.1)
          · have hkf : cfg.keepLists = false := by simpa using hkeep
            have hcnd : (cfg.keepLists && n.kind == .list && (e.kind == .para && e.intro)) = false := by
              rw [hkf]; rfl
            simp only [hcnd, Bool.false_eq_true, if_false, hn, hi', if_true]
            rw [paraLoop, if_neg hk, if_pos hi', if_neg hkeep]
            exact next [e, n] r _ rfl hlen.1 (by intro p e' r' hkk; rw [hkf] at hkk; cases hkk)
        · have hcnd : (cfg.keepLists && n.kind == .list && (e.kind == .para && e.intro)) = false := by
            rw [Bool.eq_false_iff]
            intro h
            simp only [Bool.and_eq_true] at h
            exact hi' (by simp only [Bool.and_eq_true]; exact ⟨⟨h.2.1, h.1.2⟩, h.2.2⟩)
          simp only [hcnd, Bool.false_eq_true, if_false, hn, hi']
          rw [paraLoop, if_neg hk, if_neg hi']
          refine next [e] (n :: r) _ rfl hlen.2 ?_
          intro p e' r' hkk hp hs hpk hpi hnl
          rw [lastOf_snoc] at hp
          cases hp; cases hs
          exact hi' (by simp [hpk, hnl, hpi])
/-- `splitSectionByParagraphs` written with `FindAtomicBlocks` / `GetAtomicBlockAt` and an index
is the `splitSectionByParagraphs` of `Model/ChunkLayout.lean` -/
theorem splitSectionAt_eq (cfg : Cfg) (info : SecInfo) (content : List CE) (idx : Nat) :
    splitSectionByParagraphsAt cfg info content idx = splitSectionByParagraphs cfg info content idx := by
  unfold splitSectionByParagraphsAt splitSectionByParagraphs
  rw [paraLoopAt_eq cfg info content content.length [] content 0 ⟨[], [], idx⟩ rfl rfl (Nat.le_refl _)
    (by intro p e r _ hp; cases hp)]

theorem chunkSectionAt_eq (cfg : Cfg) (info : SecInfo) (content : List CE) (idx : Nat) :
    chunkSectionAt cfg info content idx = chunkSection cfg info content idx := by
  unfold chunkSectionAt chunkSection
  rw [splitSectionAt_eq]

mutual
theorem chunkTreeAt_eq (cfg : Cfg) : ∀ (s : Sec) (idx : Nat), chunkTreeAt cfg s idx = chunkTree cfg s idx
  | .mk info content children, idx => by
    simp only [chunkTreeAt, chunkTree, chunkSectionAt_eq]
    rw [chunkForestAt_eq cfg children]
theorem chunkForestAt_eq (cfg : Cfg) : ∀ (ss : List Sec) (idx : Nat), chunkForestAt cfg ss idx = chunkForest cfg ss idx
  | [], _ => by simp [chunkForestAt, chunkForest]
  | s :: ss, idx => by
    simp only [chunkForestAt, chunkForest]
    rw [chunkTreeAt_eq cfg s, chunkForestAt_eq cfg ss]
end

theorem chunkByParagraphsAt_eq (cfg : Cfg) (title : Str) (d : LDoc) :
    chunkByParagraphsAt cfg title d = chunkByParagraphs cfg title d := by
  unfold chunkByParagraphsAt chunkByParagraphs
  cases (fallbackContent d).head? <;> cases (fallbackContent d).getLast? <;> simp only [splitSectionAt_eq]

/-- a block is a list, alone or with the paragraph before it -/
theorem findFrom_shape (keep : Bool) (prev : Option CE) (j : Nat) (l : List CE) :
    ∀ b ∈ findFrom keep prev j l, b.1 ≤ b.2 ∧ b.2 ≤ b.1 + 1 := by
  induction l generalizing prev j with
  | nil => intro b hb; simp [findFrom] at hb
  | cons e es ih =>
    intro b hb
    simp only [findFrom] at hb
    split at hb
    · rcases List.mem_cons.mp hb with rfl | hb
      · unfold blockStart
        cases prev with
        | none => simp
        | some p => simp only; split <;> omega
      · exact ih _ _ b hb
    · exact ih _ _ b hb

end Tabula.ChunkAtomic
