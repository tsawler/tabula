/-! The comparison `x < r * c` as the guards of tabula write it, without a product that could overflow. -/
namespace Tabula

theorem div_guard_iff (r c x : Nat) : (r > 0 ∧ c > x / r) ↔ x < r * c := by
  by_cases hr : r > 0
  · rw [Nat.mul_comm, ← Nat.div_lt_iff_lt_mul hr]; exact and_iff_right hr
  · have : r = 0 := by omega
    subst this; simp

end Tabula
