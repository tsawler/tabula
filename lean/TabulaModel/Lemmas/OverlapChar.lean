import TabulaModel.Lemmas.Aligned
import TabulaModel.Lemmas.Overlap
/-!
C13, the character overlap (`generateCharacterOverlap`, `tailAtRuneBoundary`) for ANY bytes.  A
cut by byte index is moved to a rune-start byte, which no well-formed character covers, and the
word search advances by whole decoded runes: the overlap is the text from a position on that the
rune scan passes through, trimmed (`generateCharacterOverlap_eq`).  Hence it is a suffix of the
text up to trailing white space, has at most `Size` bytes, and under every reading `f` of the
characters of a string that follows the scan (`Split.Reads`) carries a suffix of the text's
characters; UTF-8 integrity is the instance `illFormed`.
-/
set_option linter.unusedVariables false
namespace Tabula.Overlap
open Tabula.Split

/-- `skipCont` stops at the end or at a rune-start byte -/
theorem skipCont_eq_drop (t : Str) :
    ∃ j, j ≤ t.length ∧ skipCont t = t.drop j
      ∧ (t.length ≤ j ∨ ∃ b, t[j]? = some b ∧ runeStart b = true) := by
  induction t with
  | nil => exact ⟨0, Nat.le_refl _, rfl, Or.inl (Nat.le_refl _)⟩
  | cons b rest ih =>
    unfold skipCont
    split
    · rename_i hb; exact ⟨0, Nat.zero_le _, rfl, Or.inr ⟨b, rfl, hb⟩⟩
    · obtain ⟨j, hl, e, hj⟩ := ih
      refine ⟨j + 1, by simpa using hl, by simpa using e, ?_⟩
      rcases hj with hj | ⟨b', hb', hs⟩
      · left; simp; omega
      · right; exact ⟨b', by simpa using hb', hs⟩

/-- where `skipCont` stops, as a position of the whole text: the scan passes through it -/
theorem skipCont_drop_aligned (s : Str) (k : Nat) (hk : k ≤ s.length) :
    ∃ p, k ≤ p ∧ skipCont (s.drop k) = s.drop p ∧ Aligned s p := by
  obtain ⟨j, hl, e, hj⟩ := skipCont_eq_drop (s.drop k)
  rw [List.length_drop] at hl hj
  refine ⟨k + j, Nat.le_add_right _ _, by rw [e, List.drop_drop],
    aligned_of_notCovered _ s (by omega) ?_⟩
  rcases hj with hj | ⟨b, hb, hs⟩
  · exact notCovered_of_ge _ _ (by omega)
  · rw [List.getElem?_drop] at hb
    exact notCovered_of_runeStart s (k + j) b hb hs

/-- the word search advances by whole runes -/
theorem skipNonSpace_eq_drop (fuel : Nat) (s : Str) :
    ∃ p, skipNonSpace fuel s = s.drop p ∧ Aligned s p := by
  induction fuel generalizing s with
  | zero => exact ⟨0, rfl, .zero s⟩
  | succ n ih =>
    unfold skipNonSpace
    split
    · rename_i h; subst h; exact ⟨0, rfl, .zero _⟩
    · rename_i hs
      split
      · exact ⟨0, rfl, .zero s⟩
      · obtain ⟨p, e, h⟩ := ih (s.drop (runeLen s))
        exact ⟨runeLen s + p, by rw [e, List.drop_drop], .next hs h⟩

/-- **the character overlap in closed form**: the text itself when it has at most `Size` bytes,
otherwise the text from a position on that lies in the last `Size` bytes and that the rune scan
passes through, trimmed -/
theorem generateCharacterOverlap_eq (c : OverlapConfig) (text : Str) :
    (text.length ≤ c.size ∧ generateCharacterOverlap c text = text)
    ∨ ∃ p, text.length - c.size ≤ p ∧ Aligned text p
        ∧ generateCharacterOverlap c text = trimSpace (text.drop p) := by
  unfold generateCharacterOverlap
  split
  · rename_i h; exact .inl ⟨h, rfl⟩
  · right
    simp only
    obtain ⟨p, hp, e, hal⟩ := skipCont_drop_aligned text (text.length - c.size) (Nat.sub_le _ _)
    rw [e]
    -- `TrimSpace` maps "" to "" and makes the `TrimLeft` behind the word search redundant
    have hite : ∀ t : Str, (if t = [] then [] else trimSpace t) = trimSpace t := by
      intro t
      split
      · rename_i h; rw [h, trimSpace_nil]
      · rfl
    rw [hite]
    split
    · obtain ⟨q, e2, hal2⟩ := skipNonSpace_eq_drop (text.drop p).length (text.drop p)
      exact ⟨p + q, by omega, hal.trans hal2, by rw [trimSpace_trimLeft, e2, List.drop_drop]⟩
    · exact ⟨p, hp, hal, rfl⟩

/-- `generateCharacterOverlap` returns a suffix of the text, up to trailing whitespace -/
theorem generateCharacterOverlap_suffix (c : OverlapConfig) (text : Str) :
    ∃ a r, WsOnly r ∧ text = a ++ generateCharacterOverlap c text ++ r := by
  rcases generateCharacterOverlap_eq c text with ⟨_, e⟩ | ⟨p, _, _, e⟩ <;> rw [e]
  · exact ⟨[], [], .nil, by simp⟩
  · obtain ⟨l, r, _, hr, e2⟩ := trimSpace_decomp (text.drop p)
    refine ⟨text.take p ++ l, r, hr, ?_⟩
    rw [List.append_assoc, List.append_assoc, ← List.append_assoc l, ← e2, List.take_append_drop]

theorem generateCharacterOverlap_length_le (c : OverlapConfig) (text : Str) :
    (generateCharacterOverlap c text).length ≤ text.length := by
  obtain ⟨a, r, _, e⟩ := generateCharacterOverlap_suffix c text
  have := congrArg List.length e
  simp only [List.length_append] at this
  omega

/-- the character overlap has at most `Size` bytes -/
theorem generateCharacterOverlap_length_le_size (c : OverlapConfig) (text : Str) :
    (generateCharacterOverlap c text).length ≤ c.size := by
  rcases generateCharacterOverlap_eq c text with ⟨h, e⟩ | ⟨p, hp, _, e⟩ <;> rw [e]
  · exact h
  · have := trimSpace_length_le (text.drop p)
    rw [List.length_drop] at this
    omega

theorem tailAtRuneBoundary_length_le (s : Str) (n : Nat) : (tailAtRuneBoundary s n).length ≤ n := by
  unfold tailAtRuneBoundary
  split
  · omega
  · obtain ⟨p, hp, e, -⟩ := skipCont_drop_aligned s (s.length - n) (Nat.sub_le _ _)
    rw [e, List.length_drop]
    omega

/-- `b`'s characters, as `f` reads them, are a suffix of `a`'s -/
def Suffix (f : Str → Str) (a b : Str) : Prop := ∃ x, f a = x ++ f b

theorem Suffix.refl {f : Str → Str} (a : Str) : Suffix f a a := ⟨[], rfl⟩

theorem Suffix.trans {f : Str → Str} {a b c : Str} (h1 : Suffix f a b) (h2 : Suffix f b c) :
    Suffix f a c := by
  obtain ⟨x, e1⟩ := h1
  obtain ⟨y, e2⟩ := h2
  exact ⟨x ++ y, by rw [e1, e2, List.append_assoc]⟩

section
variable {f : Str → Str} (hf : Reads f)
include hf

theorem suffix_nil (a : Str) : Suffix f a [] := ⟨f a, by rw [hf.nil, List.append_nil]⟩

theorem suffix_trimSpace (s : Str) : Suffix f s (trimSpace s) :=
  ⟨[], by rw [hf.trim]; rfl⟩

/-- **the character overlap of ANY byte string** carries a suffix of its characters -/
theorem suffix_charOverlap (c : OverlapConfig) (text : Str) :
    Suffix f text (generateCharacterOverlap c text) := by
  rcases generateCharacterOverlap_eq c text with ⟨_, e⟩ | ⟨p, _, hal, e⟩ <;> rw [e]
  · exact .refl text
  · exact ⟨f (text.take p), by rw [hf.trim]; exact hf.aligned hal⟩

theorem suffix_tail (s : Str) (n : Nat) : Suffix f s (tailAtRuneBoundary s n) := by
  unfold tailAtRuneBoundary
  split
  · exact .refl s
  · obtain ⟨p, _, e, hal⟩ := skipCont_drop_aligned s (s.length - n) (Nat.sub_le _ _)
    rw [e]
    exact ⟨_, hf.aligned hal⟩

end

theorem valid_of_suffix {a b : Str} (h : Suffix illFormed a b) (hv : validUtf8 a = true) :
    validUtf8 b = true := by
  obtain ⟨x, e⟩ := h
  rw [(validUtf8_iff_illFormed a).mp hv] at e
  exact (validUtf8_iff_illFormed b).mpr (List.append_eq_nil_iff.mp e.symm).2

/-- the character overlap of valid UTF-8 is valid UTF-8 -/
theorem valid_generateCharacterOverlap (c : OverlapConfig) (text : Str) (hv : validUtf8 text = true) :
    validUtf8 (generateCharacterOverlap c text) = true :=
  valid_of_suffix (suffix_charOverlap reads_illFormed c text) hv

end Tabula.Overlap
