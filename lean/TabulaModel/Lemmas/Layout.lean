import TabulaModel.Model.Layout
import TabulaModel.Lemmas.ListBasics
/-!
Lemmas about the grouping mechanisms of `Model/Layout.lean` that keep every fragment: the sweep `segment`,
line grouping, deduplication, block grouping and merging (a block keeps showing the same fragments in
`Lines` as in `Fragments`: `BlockOk`). Column detection is in `LayoutColumns.lean`, white
space and the renderers in `LayoutNonspace.lean`, the element tree in `LayoutTree.lean`.
-/
namespace Tabula.Layout
open List

theorem segment_flatten {α : Type} (brk : List α → α → List α → Bool) (l cur : List α) :
    (segment brk l cur).flatten = cur ++ l := by
  fun_induction segment brk l cur with
  | case1 cur h => rw [List.isEmpty_iff.mp h]; rfl
  | case2 cur h => rw [List.flatten_singleton, List.append_nil]
  | case3 a rest cur h ih => rw [ih, List.isEmpty_iff.mp h]; rfl
  | case4 a rest cur h hb ih => rw [List.flatten_cons, ih]; rfl
  | case5 a rest cur h hb ih => rw [ih, List.append_assoc]; rfl

theorem segment_nonempty {α : Type} (brk : List α → α → List α → Bool) (l cur : List α) :
    ∀ g ∈ segment brk l cur, g ≠ [] := by
  fun_induction segment brk l cur with
  | case1 cur h => exact fun g hg => nomatch hg
  | case2 cur h => exact fun g hg e => h (List.mem_singleton.mp hg ▸ e ▸ rfl)
  | case3 a rest cur h ih => exact ih
  | case4 a rest cur h hb ih =>
    intro g hg
    rcases List.mem_cons.mp hg with rfl | hg
    · exact fun e => h (e ▸ rfl)
    · exact ih g hg
  | case5 a rest cur h hb ih => exact ih

theorem perm_snoc_append {α : Type} (l : List α) (a : α) (r : List α) :
    (l ++ [a] ++ r).Perm (a :: (l ++ r)) := by
  rw [List.append_assoc]; exact List.perm_middle

theorem flatten_flatMap {α β : Type} (l : List α) (f : α → List (List β)) :
    (l.flatMap f).flatten = l.flatMap fun a => (f a).flatten := by
  simp only [List.flatten_eq_flatMap, List.flatMap_assoc]

/-- sort, sweep, rearrange every group: the groups together are the input, rearranged -/
theorem segment_map_perm {α : Type} (brk : List α → α → List α → Bool) (srt f : List α → List α)
    (hs : ∀ l, (srt l).Perm l) (hf : ∀ l, (f l).Perm l) (l : List α) :
    ((segment brk (srt l) []).map f).flatten.Perm l := by
  have h := List.Perm.flatMap_left (g := id) (segment brk (srt l) []) fun g _ => hf g
  rw [List.flatMap_id, segment_flatten] at h
  exact h.trans (hs l)

theorem stableSort_perm {α : Type} (less : α → α → Bool) (l : List α) : (stableSort less l).Perm l :=
  List.mergeSort_perm l _

theorem orderLine_perm (preserve : List Frag → Bool) (l : List Frag) : (orderLine preserve l).Perm l := by
  unfold orderLine
  split
  · exact List.Perm.refl _
  · exact stableSort_perm _ _

theorem groupIntoLines_perm (tol : Rat) (preserve : List Frag → Bool) (fs : List Frag) :
    (groupIntoLines tol preserve fs).flatten.Perm fs :=
  segment_map_perm _ _ _ (stableSort_perm _) (orderLine_perm preserve) fs

theorem flatten_ite_isEmpty {α : Type} (l : List α) : (if l.isEmpty then [] else [l]).flatten = l := by
  split
  · next h => rw [List.isEmpty_iff.mp h]; rfl
  · exact List.flatten_singleton

theorem nodup_map_inj {α β : Type} (f : α → β) (l : List α) (h : (l.map f).Nodup)
    (a : α) (ha : a ∈ l) (b : α) (hb : b ∈ l) (e : f a = f b) : a = b :=
  List.inj_on_of_nodup_map h ha hb e

theorem dedupeAux_snoc (seen : List Key) (pre : List Frag) (f : Frag) :
    dedupeAux seen (pre ++ [f]) =
      dedupeAux seen pre ++ (if keyOf f ∈ seen ∨ keyOf f ∈ pre.map keyOf then [] else [f]) := by
  induction pre generalizing seen with
  | nil =>
    simp only [List.nil_append, dedupeAux, List.map_nil, List.not_mem_nil, or_false, List.contains_iff_mem]
  | cons g pre ih =>
    simp only [List.cons_append, dedupeAux, List.map_cons, List.mem_cons, List.contains_iff_mem]
    split
    · next hg =>
      rw [ih]
      -- `keyOf g` is in `seen` already, so the middle disjunct adds nothing
      have : keyOf f = keyOf g → keyOf f ∈ seen ∨ keyOf f ∈ pre.map keyOf := fun e => Or.inl (e ▸ hg)
      simp only [or_left_comm (a := keyOf f ∈ seen), or_iff_right_of_imp this]
    · rw [ih]
      simp only [List.cons_append, List.mem_cons, or_assoc, or_left_comm (a := keyOf f ∈ seen)]

theorem dedupeAux_sublist (seen : List Key) (fs : List Frag) : (dedupeAux seen fs).Sublist fs := by
  fun_induction dedupeAux seen fs with
  | case1 => exact .slnil
  | case2 seen f fs _ ih => exact ih.cons _
  | case3 seen f fs _ ih => exact ih.cons_cons _

theorem dedupeAux_keys (seen : List Key) (fs : List Frag) :
    ((dedupeAux seen fs).map keyOf).Nodup ∧ ∀ g ∈ dedupeAux seen fs, keyOf g ∉ seen := by
  fun_induction dedupeAux seen fs with
  | case1 seen => exact ⟨List.nodup_nil, fun _ h => nomatch h⟩
  | case2 seen a fs hc ih => exact ih
  | case3 seen a fs hc ih =>
    rw [List.map_cons, List.nodup_cons, List.forall_mem_cons]
    refine ⟨⟨fun hm => ?_, ih.1⟩, by simpa using hc, fun g hg hs => ih.2 g hg (List.mem_cons_of_mem _ hs)⟩
    obtain ⟨g, hg, hk⟩ := List.mem_map.mp hm
    exact ih.2 g hg (hk ▸ List.mem_cons_self)

theorem dedupeAux_fixed (seen : List Key) (fs : List Frag)
    (hn : (fs.map keyOf).Nodup) (hd : ∀ g ∈ fs, keyOf g ∉ seen) : dedupeAux seen fs = fs := by
  fun_induction dedupeAux seen fs with
  | case1 => rfl
  | case2 seen a fs hc ih => exact absurd (List.contains_iff_mem.mp hc) (hd a List.mem_cons_self)
  | case3 seen a fs hc ih =>
    rw [List.map_cons, List.nodup_cons] at hn
    rw [ih hn.2 fun g hg hs => ?_]
    rcases List.mem_cons.mp hs with h | h
    · exact hn.1 (List.mem_map.mpr ⟨g, hg, h⟩)
    · exact hd g (List.mem_cons_of_mem _ hg) h

def blocksFrags (bs : List Block) : List Frag := (bs.map (·.frags)).flatten
def blocksLines (bs : List Block) : List (List Frag) := (bs.map (·.lines)).flatten

theorem mergeBlocks_frags (a b : Block) : (mergeBlocks a b).frags.Perm (a.frags ++ b.frags) :=
  List.Perm.refl _

theorem mergeBlocks_lines (a b : Block) : (mergeBlocks a b).lines.Perm (a.lines ++ b.lines) :=
  List.mergeSort_perm _ _

theorem mergeInto_perm {β : Type} (proj : Block → List β)
    (hp : ∀ a b, (proj (mergeBlocks a b)).Perm (proj a ++ proj b))
    (ov : Block → Block → Bool) (cur : Block) (bs : List Block) :
    (proj (mergeInto ov cur bs).1 ++ ((mergeInto ov cur bs).2.map proj).flatten).Perm
      (proj cur ++ (bs.map proj).flatten) := by
  induction bs generalizing cur with
  | nil => simp [mergeInto]
  | cons b bs ih =>
    simp only [mergeInto]
    split
    · exact (ih _).trans (((hp cur b).append_right _).trans (List.Perm.of_eq (List.append_assoc _ _ _)))
    · exact (List.perm_append_comm_assoc _ _ _).trans
        (((ih cur).append_left (proj b)).trans (List.perm_append_comm_assoc _ _ _))

theorem mergeAll_perm {β : Type} (proj : Block → List β)
    (hp : ∀ a b, (proj (mergeBlocks a b)).Perm (proj a ++ proj b))
    (ov : Block → Block → Bool) (bs : List Block) :
    ((mergeAll ov bs).map proj).flatten.Perm (bs.map proj).flatten := by
  induction bs using mergeAll.induct (ov := ov) with
  | case1 => simp [mergeAll]
  | case2 b bs _ ih =>
    rw [mergeAll]
    simp only [List.map_cons, List.flatten_cons]
    exact (List.Perm.append_left _ ih).trans (mergeInto_perm proj hp ov b bs)

/-- merging overlapping blocks and sorting the result rearranges what the blocks hold -/
theorem sortedMergeAll_perm {β : Type} (proj : Block → List β)
    (hp : ∀ a b, (proj (mergeBlocks a b)).Perm (proj a ++ proj b))
    (srtB : List Block → List Block) (hb : ∀ l, (srtB l).Perm l) (ov : Block → Block → Bool) (bs : List Block) :
    ((srtB (mergeAll ov bs)).map proj).flatten.Perm (bs.map proj).flatten :=
  (((hb _).map _).flatten).trans (mergeAll_perm proj hp ov bs)

theorem groupBlocks_frags (brk : List (List Frag) → List Frag → List (List Frag) → Bool)
    (lines : List (List Frag)) : blocksFrags (groupBlocks brk lines) = lines.flatten := by
  rw [blocksFrags, groupBlocks, List.map_map]
  exact List.flatten_flatten.symm.trans (congrArg List.flatten (segment_flatten brk lines []))

theorem groupBlocks_lines (brk : List (List Frag) → List Frag → List (List Frag) → Bool)
    (lines : List (List Frag)) : blocksLines (groupBlocks brk lines) = lines := by
  rw [blocksLines, groupBlocks, List.map_map]
  exact (congrArg List.flatten (List.map_id' _)).trans (segment_flatten brk lines [])

theorem mergeInto_none (ov : Block → Block → Bool) (cur : Block) (bs : List Block)
    (h : ∀ b ∈ bs, ov cur b = false) : mergeInto ov cur bs = (cur, bs) := by
  induction bs with
  | nil => rfl
  | cons b bs ih =>
    obtain ⟨hb, ht⟩ := List.forall_mem_cons.mp h
    rw [mergeInto, if_neg (by rw [hb]; exact Bool.false_ne_true), ih ht]

/-- a block shows the same fragments in `Lines` as in `Fragments` -/
def BlockOk (b : Block) : Prop := b.lines.flatten.Perm b.frags

theorem mkBlock_ok (ls : List (List Frag)) : BlockOk (mkBlock ls) := List.Perm.refl _

theorem mergeBlocks_ok (a b : Block) (ha : BlockOk a) (hb : BlockOk b) : BlockOk (mergeBlocks a b) := by
  unfold BlockOk mergeBlocks at *
  simp only
  have h1 : ((a.lines ++ b.lines).mergeSort fun x y => decide (lineMaxY x ≥ lineMaxY y)).Perm (a.lines ++ b.lines) :=
    List.mergeSort_perm _ _
  refine h1.flatten.trans ?_
  rw [List.flatten_append]
  exact ha.append hb

theorem mergeInto_ok (ov : Block → Block → Bool) (cur : Block) (bs : List Block)
    (hc : BlockOk cur) (hb : ∀ b ∈ bs, BlockOk b) :
    BlockOk (mergeInto ov cur bs).1 ∧ ∀ b ∈ (mergeInto ov cur bs).2, BlockOk b := by
  induction bs generalizing cur with
  | nil => exact ⟨hc, fun _ h => nomatch h⟩
  | cons b bs ih =>
    obtain ⟨hb1, hb2⟩ := List.forall_mem_cons.mp hb
    rw [mergeInto]
    split
    · exact ih _ (mergeBlocks_ok _ _ hc hb1) hb2
    · exact ⟨(ih cur hc hb2).1, List.forall_mem_cons.mpr ⟨hb1, (ih cur hc hb2).2⟩⟩

theorem mergeAll_ok (ov : Block → Block → Bool) (bs : List Block) (hb : ∀ b ∈ bs, BlockOk b) :
    ∀ b ∈ mergeAll ov bs, BlockOk b := by
  induction bs using mergeAll.induct (ov := ov) with
  | case1 => intro b hb'; rw [mergeAll] at hb'; cases hb'
  | case2 c cs _ ih =>
    have hm := mergeInto_ok ov c cs (hb c List.mem_cons_self) (fun x hx => hb x (List.mem_cons_of_mem _ hx))
    intro b hb'
    rw [mergeAll] at hb'
    rcases List.mem_cons.mp hb' with rfl | h
    · exact hm.1
    · exact ih hm.2 b h

theorem groupBlocks_ok (brk : List (List Frag) → List Frag → List (List Frag) → Bool) (lines : List (List Frag)) :
    ∀ b ∈ groupBlocks brk lines, BlockOk b := by
  intro b hb
  unfold groupBlocks at hb
  rcases List.mem_map.mp hb with ⟨ls, _, rfl⟩
  exact mkBlock_ok ls

/-- blocks that agree with themselves show in `Lines` what they show in `Fragments` -/
theorem blocksLines_flatten_perm {bs : List Block} (h : ∀ b ∈ bs, BlockOk b) :
    (blocksLines bs).flatten.Perm (blocksFrags bs) := by
  unfold blocksLines
  rw [← List.flatMap_def, flatten_flatMap]
  exact List.Perm.flatMap_left bs h

end Tabula.Layout
