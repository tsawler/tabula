import TabulaModel.Model.DocxRender
import TabulaModel.Lemmas.DocRender
import TabulaModel.Lemmas.Docx
/-!
Lemmas about the DOCX reader's views (`Model/DocxRender.lean`): what each element
contributes to the plain text, to the Markdown buffer and to the page of `Document()`.
-/
namespace Tabula.Docx
open Tabula.Xml Tabula.Render

/-- the marker `writeParagraphText` puts between the indentation and the text of a list item -/
def textMarker (nm : Numbering) (numId : Str) (level : Nat) (cs : Counters) : Str :=
  let r := resolveLevel nm numId level
  if r.1 then formatNumber nm (wrap64 (r.2.2 + (ctrGet cs (numId, level) + 1) - 1)) numId level ++ [46, 32]
  else (if r.2.1 = [] then levelBullet level else r.2.1) ++ [32]

theorem writeParagraphText_plain (nm : Numbering) (p : Para) (cs : Counters) (h : p.list = none) :
    writeParagraphText nm p cs = (p.text, cs) := by
  unfold writeParagraphText; rw [h]

theorem writeParagraphText_item (nm : Numbering) (p : Para) (cs : Counters) (numId : Str) (level : Nat)
    (h : p.list = some (numId, level)) :
    (writeParagraphText nm p cs).1 = indent level ++ textMarker nm numId level cs ++ p.text := by
  unfold writeParagraphText textMarker
  rw [h]
  simp only
  split <;> simp [List.append_assoc]

/-- what a paragraph contributes ends with the paragraph's text -/
theorem writeParagraphText_suffix (nm : Numbering) (p : Para) (cs : Counters) :
    ∃ pre, (writeParagraphText nm p cs).1 = pre ++ p.text := by
  cases h : p.list with
  | none => exact ⟨[], by rw [writeParagraphText_plain nm p cs h]; rfl⟩
  | some nl =>
    obtain ⟨numId, level⟩ := nl
    exact ⟨indent level ++ textMarker nm numId level cs, by rw [writeParagraphText_item nm p cs numId level h]⟩

/-- the texts an element shows in the plain text -/
def textTexts (rd : Reader) (opts : ExtractOptions) (e : Elem) : List Str :=
  match e with
  | .para p => if excluded opts rd.headerTexts rd.footerTexts p.text then [] else [p.text]
  | .table rows => tableTextCells (rrows rows)

theorem textPiece_inOrder (rd : Reader) (opts : ExtractOptions) (e : Elem) (cs : Counters) :
    InOrder (textTexts rd opts e) (textPiece rd opts e cs).1 := by
  cases e with
  | para p =>
    simp only [textTexts, textPiece]
    split
    · exact .nil _
    · obtain ⟨pre, hpre⟩ := writeParagraphText_suffix rd.numbering p cs
      rw [hpre]
      have := InOrder.single p.text pre []
      simpa using this
  | table rows =>
    simp only [textTexts, textPiece]
    exact tableToText_inOrder _

theorem textPieces_pieces (rd : Reader) (opts : ExtractOptions) : ∀ (els : List Elem) (cs : Counters),
    Pieces (els.map (textTexts rd opts)) (textPieces rd opts els cs) := by
  intro els
  induction els with
  | nil => intro cs; exact .nil
  | cons e rest ih =>
    intro cs
    simp only [List.map_cons, textPieces]
    exact .cons (textPiece_inOrder rd opts e cs) (ih _)

theorem textPieces_length (rd : Reader) (opts : ExtractOptions) : ∀ (els : List Elem) (cs : Counters),
    (textPieces rd opts els cs).length = els.length := by
  intro els
  induction els with
  | nil => intro cs; rfl
  | cons e rest ih => intro cs; simp [textPieces, ih]

/-- the number of `#` stays in Markdown's range -/
theorem mdHeadingLevel_range (o : MdOptions) (l : Nat) : 1 ≤ mdHeadingLevel o l ∧ mdHeadingLevel o l ≤ 6 :=
  headingHashes_range o.offset o.maxLevel l

/-- without offset and cap: the level itself, at least 1, at most 6 -/
theorem mdHeadingLevel_default (l : Nat) : mdHeadingLevel {} l = min (max l 1) 6 :=
  headingHashes_uncapped 0 (Or.inl (Int.le_refl 0)) l

/-- `Extractor.ToMarkdown()` passes a cap of 6: the same number of `#` as without options -/
theorem mdHeadingLevel_cap6 (l : Nat) : mdHeadingLevel { offset := 0, maxLevel := 6 } l = mdHeadingLevel {} l :=
  (headingHashes_uncapped 6 (Or.inr (Int.le_refl 6)) l).trans (mdHeadingLevel_default l).symm

/-- the marker `writeMarkdownListItem` writes: "- " or the item's number and ". " -/
def mdMarker (nm : Numbering) (numId : Str) (level : Nat) (cs : Counters) : Str :=
  let cs1 := match ctrGet? cs (numId, -1) with
    | some lastLevel => if (level : Int) ≤ lastLevel then ctrDropDeeper cs numId level else cs
    | none => cs
  let cs2 := ctrSet cs1 (numId, -1) level
  let r := resolveLevel nm numId level
  if r.1 then intToDec (wrap64 (r.2.2 + (ctrGet cs2 (numId, level) + 1) - 1)) ++ [46, 32] else [45, 32]

theorem mdListItem_line (nm : Numbering) (text numId : Str) (level : Nat) (cs : Counters) :
    (mdListItem nm text numId level cs).1 = indent level ++ mdMarker nm numId level cs ++ text ++ [10] := by
  unfold mdListItem mdMarker
  simp only
  split <;> simp only [List.append_assoc] <;> rfl

/-- the texts an element shows in Markdown -/
def mdTexts (rd : Reader) (opts : ExtractOptions) (e : Elem) : List Str :=
  match e with
  | .para p => if excluded opts rd.headerTexts rd.footerTexts p.text then [] else [p.text]
  | .table rows => if mdColCount (rrows rows) = 0 then [] else (rrows rows).flatMap fun row => (ownCells row).map mdCellText

/-- one turn of the Markdown loop appends a chunk that shows the element's texts -/
theorem mdStep_chunk (rd : Reader) (opts : ExtractOptions) (o : MdOptions) (i : Nat) (e : Elem) (s : MdState) :
    ∃ chunk, (mdStep rd opts o i e s).out = s.out ++ chunk ∧ InOrder (mdTexts rd opts e) chunk := by
  -- whatever an element writes (`body`), it writes behind `s.out` and the optional blank line
  have key := inOrder_behind MdState.out s { s with out := s.out ++ [10], inList := false } rfl
  cases e with
  | para p =>
    simp only [mdStep, mdTexts]
    cases hex : excluded opts rd.headerTexts rd.footerTexts p.text with
    | true => exact ⟨[], (List.append_nil _).symm, .nil _⟩
    | false =>
      simp only [Bool.false_eq_true, if_false]
      generalize (decide (i > 0) && s.out != [] && s.inList && (!p.list.isSome || (p.list.map (·.1)).getD [] != s.lastNumId)) = c
      cases hh : p.heading with
      | some l =>
        simp only [List.append_assoc]
        exact key _ _ _ (((InOrder.single p.text [] [10, 10]).prepend [32]).prepend _)
      | none =>
        cases hl : p.list with
        | some nl =>
          obtain ⟨id, level⟩ := nl
          simp only [mdListItem_line, List.append_assoc]
          exact key _ _ _ (((InOrder.single p.text [] [10]).prepend _).prepend _)
        | none =>
          simp only
          cases ht : p.text != []
          · have ht' : p.text = [] := by simpa using ht
            obtain ⟨chunk, hc, ho⟩ := key c [p.text] [] (by rw [ht']; exact InOrder.single [] [] [])
            exact ⟨chunk, (List.append_nil _).symm.trans hc, ho⟩
          · simp only [if_true, List.append_assoc]
            exact key _ _ _ (InOrder.single p.text [] [10, 10])
  | table rows =>
    simp only [mdStep, mdTexts, List.append_assoc]
    refine key _ _ _ ?_
    by_cases hcc : mdColCount (rrows rows) = 0
    · simp only [hcc, if_true]; exact .nil _
    · simp only [hcc, if_false]
      exact (tableToMarkdown_inOrder _ hcc).append_right [10]
theorem mdLoop_chunk (rd : Reader) (opts : ExtractOptions) (o : MdOptions) : ∀ (els : List Elem) (i : Nat) (s : MdState),
    ∃ chunk, (mdLoop rd opts o els i s).out = s.out ++ chunk ∧ InOrder (els.map (mdTexts rd opts)).flatten chunk := by
  intro els
  induction els with
  | nil => intro i s; exact ⟨[], by simp [mdLoop], .nil _⟩
  | cons e rest ih =>
    intro i s
    obtain ⟨c1, h1, o1⟩ := mdStep_chunk rd opts o i e s
    obtain ⟨c2, h2, o2⟩ := ih (i + 1) (mdStep rd opts o i e s)
    refine ⟨c1 ++ c2, ?_, ?_⟩
    · simp only [mdLoop]; rw [h2, h1, List.append_assoc]
    · simp only [List.map_cons, List.flatten_cons]
      exact o1.append o2

/-- two Markdown loops that take the same steps give the same buffer -/
theorem mdLoop_congr_step (rd rd' : Reader) (opts opts' : ExtractOptions) (o o' : MdOptions)
    (h : ∀ i e s, mdStep rd opts o i e s = mdStep rd' opts' o' i e s) :
    ∀ (els : List Elem) (i : Nat) (s : MdState), mdLoop rd opts o els i s = mdLoop rd' opts' o' els i s := by
  intro els
  induction els with
  | nil => intro i s; rfl
  | cons e rest ih => intro i s; rw [mdLoop, mdLoop, h, ih]

/-- an element of the document model, lists taken apart into their items -/
inductive Entry where
  | para (text : Str)
  | heading (level : Nat) (text : Str)
  | item (level : Nat) (text : Str)
  | table (grid : List (List MCell))
deriving Repr, DecidableEq

def flattenElem : DocElem → List Entry
  | .para t => [.para t]
  | .heading l t => [.heading l t]
  | .list _ items => items.map fun it => .item it.level it.text
  | .table g => [.table g]

/-- the page as a flat sequence -/
def flattenDoc (page : List DocElem) : List Entry := page.flatMap flattenElem

/-- what one element of the reader becomes in the document model -/
def entryOf (e : Elem × Nat) : Option Entry :=
  match e.1 with
  | .para p =>
    if p.text = [] then none
    else match p.list with
      | some (_, level) => some (.item level p.text)
      | none => match p.heading with
        | some l => some (.heading l p.text)
        | none => some (.para p.text)
  | .table rows => if (toModelTable rows e.2).length > 0 then some (.table (toModelTable rows e.2)) else none

/-- the page so far plus the items of the list being built -/
def flatState (s : DocState) : List Entry :=
  flattenDoc s.page ++ (match s.cur with
    | some l => l.items.map fun it => .item it.level it.text
    | none => [])

theorem flattenDoc_append (a b : List DocElem) : flattenDoc (a ++ b) = flattenDoc a ++ flattenDoc b := by
  simp [flattenDoc]

theorem flatState_finalize (s : DocState) : flatState (finalizeList s) = flatState s := by
  unfold finalizeList flatState
  cases hc : s.cur with
  | none => simp [hc]
  | some l =>
    by_cases hi : l.items = []
    · simp [hi, flattenDoc]
    · simp [hi, flattenDoc, flattenElem]

theorem finalize_cur (s : DocState) : (finalizeList s).cur = none := by
  unfold finalizeList
  cases hc : s.cur with
  | none => simp [hc]
  | some l => by_cases hi : l.items = [] <;> simp [hi]

/-- once the open list is closed, its items are on the page -/
theorem flattenDoc_finalize (s : DocState) : flattenDoc (finalizeList s).page = flatState s := by
  have h := flatState_finalize s
  rw [flatState, finalize_cur, List.append_nil] at h
  exact h

/-- closing the open list and putting `x` on the page adds the entries of `x` -/
theorem flatState_push (s : DocState) (x : DocElem) :
    flatState { finalizeList s with page := (finalizeList s).page ++ [x] } = flatState s ++ flattenElem x := by
  rw [flatState]
  simp only [finalize_cur, List.append_nil, flattenDoc_append, flattenDoc_finalize]
  simp [flattenDoc]

theorem addItem_items (nm : Numbering) (text numId : Str) (level : Nat) (l : OpenList) :
    (addItem nm text numId level l).items.map (fun it => Entry.item it.level it.text)
      = l.items.map (fun it => Entry.item it.level it.text) ++ [.item level text] := by
  simp [addItem]

theorem openListFor_flat (nm : Numbering) (numId : Str) (level : Nat) (s : DocState) :
    flattenDoc (openListFor nm numId level s).1.page ++ (openListFor nm numId level s).2.items.map (fun it => Entry.item it.level it.text)
      = flatState s := by
  unfold openListFor
  cases hc : s.cur with
  | none => simp [flatState, hc]
  | some l =>
    by_cases hn : l.numId = numId
    · simp [hn, flatState, hc]
    · simp only [hn, if_false, List.map_nil, List.append_nil]
      exact flattenDoc_finalize s

theorem docStep_flat (nm : Numbering) (e : Elem × Nat) (s : DocState) :
    flatState (docStep nm e s) = flatState s ++ (entryOf e).toList := by
  obtain ⟨el, n⟩ := e
  cases el with
  | para p =>
    simp only [docStep, entryOf]
    by_cases ht : p.text = []
    · simp [ht]
    · simp only [ht, if_false]
      cases hl : p.list with
      | some nl =>
        obtain ⟨numId, level⟩ := nl
        simp only [Option.toList]
        rw [flatState]
        simp only
        rw [addItem_items, ← List.append_assoc, openListFor_flat]
      | none =>
        cases hh : p.heading with
        | some lv => exact flatState_push s _
        | none => exact flatState_push s _
  | table rows =>
    simp only [docStep, entryOf]
    by_cases hg : (toModelTable rows n).length > 0
    · simp only [hg, if_true]
      exact flatState_push s _
    · simp only [hg, if_false, Option.toList, List.append_nil]
      exact flatState_finalize s

theorem docLoop_flat (nm : Numbering) : ∀ (els : List (Elem × Nat)) (s : DocState),
    flatState (docLoop nm els s) = flatState s ++ els.filterMap entryOf := by
  intro els
  induction els with
  | nil => intro s; simp [docLoop]
  | cons e rest ih =>
    intro s
    simp only [docLoop]
    rw [ih, docStep_flat, List.filterMap_cons]
    cases entryOf e <;> simp

end Tabula.Docx
