import TabulaModel.Model.ChunkSent
import TabulaModel.Lemmas.ChunkLayoutFull
/-!
Helper lemmas for property C12: `splitIntoSentences` conserves its text (white space aside)
whatever the Unicode table says, so the hypothesis `SentsOK` of the layout-based chunker's
cover theorem is met by the model of the function itself.
-/
namespace Tabula.ChunkSent
open Tabula.Chunk Tabula.ChunkLayout

theorem emitSentence_strip (rcur : Str) : strip (emitSentence rcur).flatten = strip rcur.reverse := by
  unfold emitSentence
  by_cases h : (trim rcur.reverse).isEmpty = true
  · rw [if_pos h]
    exact (trim_empty_strip _ h).symm
  · rw [if_neg h]
    simp [strip_trim]

theorem sentScan_strip (low : Str → Bool) (text rcur : Str) :
    strip (sentScan low text rcur).flatten = strip (rcur.reverse ++ text) := by
  induction text generalizing rcur with
  | nil => simp [sentScan, emitSentence_strip]
  | cons b rest ih =>
    simp only [sentScan]
    split
    · rw [List.flatten_append, strip_append, emitSentence_strip, ih]
      simp only [List.reverse_cons, List.reverse_nil, List.nil_append, strip_append, List.append_assoc]
      rw [← strip_append]; rfl
    · rw [ih]; simp

/-- `splitIntoSentences` loses and invents nothing, white space aside — for every text and
every classification of the non-ASCII characters -/
theorem splitIntoSentences_strip (low : Str → Bool) (text : Str) :
    strip (splitIntoSentences low text).flatten = strip text := by
  unfold splitIntoSentences
  rw [sentScan_strip]; rfl

theorem emitSentence_nonempty (rcur : Str) : ∀ s ∈ emitSentence rcur, s ≠ [] := by
  intro s hs
  unfold emitSentence at hs
  split at hs
  · cases hs
  · rename_i h
    simp only [List.mem_singleton] at hs
    subst hs
    exact fun e => h (by rw [e]; rfl)

theorem sentScan_nonempty (low : Str → Bool) (text rcur : Str) :
    ∀ s ∈ sentScan low text rcur, s ≠ [] := by
  induction text generalizing rcur with
  | nil => exact emitSentence_nonempty rcur
  | cons b rest ih =>
    simp only [sentScan]
    split
    · intro s hs
      rcases List.mem_append.mp hs with h | h
      · exact emitSentence_nonempty _ s h
      · exact ih [] s h
    · exact ih _

/-- the sentences of every content element are those `splitIntoSentences` gives for its text -/
def SentsModel (low : Str → Bool) (cfg : Cfg) (d : LDoc) : Prop :=
  ∀ e ∈ canon cfg d, e.sents = splitIntoSentences low e.text

theorem sentsOK_of_model (low : Str → Bool) (cfg : Cfg) (e : CE)
    (h : e.sents = splitIntoSentences low e.text) : SentsOK cfg e := by
  intro _
  rw [h, splitIntoSentences_strip]

/-- what `withSents` does to the content: every element gets the sentences of its own text -/
theorem canon_withSents (low : Str → Bool) (cfg : Cfg) (d : LDoc) :
    canon cfg (withSents low d) = (canon cfg d).map fun e => { e with sents := splitIntoSentences low e.text } := by
  unfold canon withSents
  rw [List.flatMap_map, List.map_flatMap]
  congr 1
  funext pg
  unfold pageCanon
  cases pg.layout with
  | none => rfl
  | some lay =>
    simp only [Option.map_some, List.map_append, List.map_map, List.filter_map]
    rfl

theorem withSents_model (low : Str → Bool) (cfg : Cfg) (d : LDoc) : SentsModel low cfg (withSents low d) := by
  intro e he
  rw [canon_withSents] at he
  obtain ⟨e0, _, rfl⟩ := List.mem_map.mp he
  rfl

/-- the element as the property sees it: everything but the sentence parameter -/
def CE.core (e : CE) : Kind × Str × Int × Bool := (e.kind, e.text, e.page, e.intro)

theorem withSents_canon (low : Str → Bool) (cfg : Cfg) (d : LDoc) :
    (canon cfg (withSents low d)).map CE.core = (canon cfg d).map CE.core := by
  rw [canon_withSents, List.map_map]; rfl

theorem withSents_texts (low : Str → Bool) (cfg : Cfg) (d : LDoc) :
    ceTexts (canon cfg (withSents low d)) = ceTexts (canon cfg d) := by
  rw [canon_withSents, ceTexts, List.flatMap_map]; rfl

end Tabula.ChunkSent
