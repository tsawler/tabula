import TabulaModel.Model.BoundsCore
import TabulaModel.Lemmas.Unseen
/-!
Lemmas about `Model/BoundsCore.lean`: the loading guard of `GetObject`; the header pairs of an object stream; the
steps of the page-tree walk and the activations of the memoised `ResolveDeep`, both bounded by the potential
`unseen` of Lemmas/Unseen.lean; what a call of `ResolveDeep` leaves behind (`Post`).
-/
namespace Tabula.BoundsCore

/-- the association lists of the models are read by the library's `List.lookup` -/
theorem lookupL_eq_lookup {β : Type} (l : List (Nat × β)) (n : Nat) : lookupL l n = l.lookup n := by
  unfold lookupL
  induction l with
  | nil => rfl
  | cons p l ih =>
    obtain ⟨k, v⟩ := p
    rw [List.find?_cons, List.lookup_cons]
    by_cases h : k = n
    · subst h; simp
    · rw [show (n == k) = false by simpa using Ne.symm h]
      simpa [h] using ih

theorem lookupL_some_mem {β : Type} (l : List (Nat × β)) (n : Nat) (v : β)
    (h : lookupL l n = some v) : (n, v) ∈ l := by
  rw [lookupL_eq_lookup, List.lookup_eq_some_iff] at h
  obtain ⟨l₁, l₂, rfl, -⟩ := h
  simp

theorem lookupL_none_not_mem {β : Type} (l : List (Nat × β)) (n : Nat)
    (h : lookupL l n = none) : n ∉ l.map Prod.fst := by
  rw [lookupL_eq_lookup, List.lookup_eq_none_iff] at h
  rintro hm
  obtain ⟨p, hp, rfl⟩ := List.mem_map.mp hm
  simpa using h p hp
/-- a load never has more than `maxNestedLoads` objects open, and with `maxNestedLoads + 1` units of
fuel above the open ones it ends for a reason of its own -/
theorem getObject_bounded (g : LGraph) (fuel : Nat) (cache : List (Nat × LKind × Nat)) (loading : List Nat)
    (n : Nat) (hl : loading.length ≤ maxNestedLoads) :
    (getObject g fuel cache loading n).peak ≤ maxNestedLoads ∧
    (maxNestedLoads + 1 ≤ fuel + loading.length → (getObject g fuel cache loading n).res ≠ .error .fuel) := by
  fun_induction getObject g fuel cache loading n with
  | case1 => exact ⟨hl, fun h => by omega⟩
  -- answered without a load: a cache hit, a missing object, a self reference, the nesting limit
  | case2 | case3 | case4 | case5 | case6 => exact ⟨hl, fun _ h => nomatch h⟩
  -- an object without an indirect `/Length` is one more load, below the limit
  | case7 _ _ _ _ _ _ hlt | case8 _ _ _ _ _ _ hlt | case9 _ _ _ _ _ _ hlt =>
    exact ⟨Nat.lt_of_not_le hlt, fun _ h => nomatch h⟩
  -- a stream with an indirect `/Length`: the peak is that of the load of the length
  | case10 fuel cache loading n _ _ hlt m r reach _ _ ih | case11 fuel cache loading n _ _ hlt m r reach _ _ _ _ ih =>
    exact ⟨(ih (by simp; omega)).1, fun _ h => nomatch h⟩
  | case12 fuel cache loading n _ _ hlt m r reach e he _ ih =>
    refine ⟨(ih (by simp; omega)).1, fun hf hfu => ?_⟩
    cases hfu
    exact (ih (by simp; omega)).2 (by simp; omega) he

theorem parsePairs_spec (n len : Nat) (toks : List (Option Int)) (ps : List (Int × Nat))
    (h : parsePairs n len toks = some ps) :
    ps.length = n ∧ 2 * n ≤ toks.length ∧ ∀ p ∈ ps, p.2 ≤ len := by
  fun_induction parsePairs n len toks generalizing ps with
  | case1 => cases h; simp
  | case2 n len a off rest hoff => cases h
  | case3 n len a off rest hoff ih =>
    cases hp : parsePairs n len rest with
    | none => rw [hp] at h; cases h
    | some ps' =>
      rw [hp] at h
      cases h
      obtain ⟨h1, h2, h3⟩ := ih ps' hp
      refine ⟨by simp [h1], by simp; omega, ?_⟩
      intro p hp
      rcases List.mem_cons.mp hp with rfl | hp
      · simp only; omega
      · exact h3 p hp
  | case4 => cases h

/-! ### the page-tree walk: potential = size of the stack + weight of the unvisited objects -/

theorem stackSize_map_append (d : Nat) (items : List PV) (rest : List (Nat × PV)) :
    stackSize (items.map (fun v => (d, v)) ++ rest) = PV.sizeList items + stackSize rest := by
  induction items with
  | nil => simp [PV.sizeList]
  | cons v vs ih => simp [stackSize, PV.sizeList, ih]; omega

theorem unseen_lookupL {β : Type} {w : β → Nat} {g : List (Nat × β)} {visited : List Nat} {n : Nat} {v : β}
    (h : lookupL g n = some v) (hn : visited.contains n = false) :
    unseen w g (n :: visited) + w v ≤ unseen w g visited := by
  unfold lookupL at h
  cases hf : g.find? (·.1 = n) with
  | none => rw [hf] at h; cases h
  | some p => rw [hf] at h; cases h; exact unseen_mark hf hn

theorem pweight_eq (g : PGraph) (visited : List Nat) :
    pweight g visited = unseen (fun v => 1 + v.size) g visited := by
  induction g with
  | nil => rfl
  | cons p rest ih => simp only [pweight, unseen, ih]

theorem pweight_mark (g : PGraph) (visited : List Nat) (n : Nat) (v : PV)
    (h : lookupL g n = some v) (hn : visited.contains n = false) :
    pweight g (n :: visited) + 1 + v.size ≤ pweight g visited := by
  have := unseen_lookupL (w := fun v => 1 + v.size) h hn
  simp only [pweight_eq]; omega

/-- the potential of a state -/
def phi (g : PGraph) (s : PState) : Nat := stackSize s.stack + pweight g s.visited

/-- a step of the walk that goes on lowers the potential and keeps the depth within the limit -/
theorem traverseNode_running {g : PGraph} {lim d : Nat} {node : PV} {rest : List (Nat × PV)}
    {visited : List Nat} {pages peak : Nat} {s' : PState}
    (h : traverseNode g lim d node rest visited pages peak = .running s') :
    phi g s' + 1 ≤ node.size + stackSize rest + pweight g visited ∧
    (peak ≤ lim → s'.peak ≤ lim ∧ s'.pages ≤ pages + 1) := by
  have hm : ¬ d ≥ lim → peak ≤ lim → max peak (d + 1) ≤ lim := fun hd hp => Nat.max_le.mpr ⟨hp, by omega⟩
  revert h
  fun_cases traverseNode g lim d node rest visited pages peak
  case case1 | case4 | case6 | case7 => exact fun h => nomatch h
  case case2 hd _ =>
    rintro ⟨⟩
    exact ⟨by simp only [phi, PV.size]; omega, fun hp => ⟨hm hd hp, Nat.le_refl _⟩⟩
  case case3 hd _ items =>
    rintro ⟨⟩
    exact ⟨by simp only [phi, stackSize_map_append, PV.size]; omega, fun hp => ⟨hm hd hp, by simp⟩⟩
  case case5 hd _ a hv items hl =>
    rintro ⟨⟩
    have := pweight_mark g visited a (.arr items) hl (by simpa using hv)
    exact ⟨by simp only [phi, stackSize_map_append, PV.size] at *; omega, fun hp => ⟨hm hd hp, by simp⟩⟩

theorem traverseNode_done {g : PGraph} {lim d : Nat} {node : PV} {rest : List (Nat × PV)}
    {visited : List Nat} {pages peak p k : Nat} :
    traverseNode g lim d node rest visited pages peak ≠ .done p k := by
  fun_cases traverseNode g lim d node rest visited pages peak <;> exact fun h => nomatch h

theorem pstep_running (g : PGraph) (lim : Nat) (s s' : PState) (h : pstep g lim s = .running s') :
    phi g s' + 1 ≤ phi g s ∧ (s.peak ≤ lim → s'.peak ≤ lim ∧ s'.pages ≤ s.pages + 1) := by
  revert h
  fun_cases pstep g lim s
  case case1 | case2 | case5 | case8 => exact fun h => nomatch h
  -- a reference to an unvisited page or node: marking it pays for putting it on the stack
  case case3 d n rest hs hv hl | case4 d n rest hs hv k hl =>
    intro h
    have := traverseNode_running h
    have hm := pweight_mark g s.visited n _ hl (by simpa using hv)
    exact ⟨by simp only [phi, hs, stackSize, PV.size] at *; omega, this.2⟩
  case case6 d rest hs | case7 d k rest hs =>
    intro h
    have := traverseNode_running h
    exact ⟨by simp only [phi, hs, stackSize, PV.size] at *; omega, this.2⟩

theorem pstep_done (g : PGraph) (lim : Nat) (s : PState) (p k : Nat)
    (h : pstep g lim s = .done p k) : p = s.pages ∧ k = s.peak := by
  revert h
  fun_cases pstep g lim s
  case case1 => rintro ⟨⟩; exact ⟨rfl, rfl⟩
  case case2 | case5 | case8 => exact fun h => nomatch h
  case case3 | case4 | case6 | case7 => exact fun h => absurd h traverseNode_done

theorem prun_no_fuel (g : PGraph) (lim fuel : Nat) (s : PState) (h : phi g s < fuel) :
    prun g lim fuel s ≠ .fuel := by
  fun_induction prun g lim fuel s with
  | case1 => omega
  | case2 | case3 => exact fun h => nomatch h
  | case4 fuel s s' hs ih =>
    have := (pstep_running g lim s s' hs).1
    exact ih (by omega)

theorem prun_ok_bounds (g : PGraph) (lim fuel : Nat) (s : PState) (p k : Nat)
    (h : prun g lim fuel s = .ok p k) (hp : s.peak ≤ lim) :
    k ≤ lim ∧ p ≤ s.pages + fuel := by
  fun_induction prun g lim fuel s with
  | case1 | case3 => cases h
  | case2 fuel s p' k' hs =>
    cases h
    obtain ⟨hp', hk'⟩ := pstep_done g lim s p k hs
    omega
  | case4 fuel s s' hs ih =>
    obtain ⟨h1, h2⟩ := (pstep_running g lim s s' hs).2 hp
    have := ih h h1
    omega

/-- `loadPages` from the root: the first step pays for itself like every other, so the walk ends within `pfuel g root`
steps, and a walk that succeeds stayed within the depth limit and found at most one page per step -/
theorem loadPagesWith_spec (g : PGraph) (lim : Nat) (root : PV) :
    loadPagesWith g lim root ≠ .fuel ∧
      ∀ p k, loadPagesWith g lim root = .ok p k → k ≤ lim ∧ p ≤ pfuel g root + 1 := by
  unfold loadPagesWith
  cases ht : traverseNode g lim 0 root [] [] 0 0 with
  | done p' k' => exact absurd ht traverseNode_done
  | error => exact ⟨nofun, nofun⟩
  | running s =>
    obtain ⟨hphi, hpk⟩ := traverseNode_running ht
    obtain ⟨h1, h2⟩ := hpk (Nat.zero_le _)
    simp only [stackSize, pfuel] at *
    refine ⟨prun_no_fuel g lim _ s (by omega), fun p k h => ?_⟩
    obtain ⟨h3, h4⟩ := prun_ok_bounds g lim _ s p k h h1
    omega
theorem seqList_no_fuel (f : RV → RSt → Except RErr RV × RSt)
    (hf : ∀ v st, (f v st).1 ≠ .error .fuel) (items : List RV) (st : RSt) :
    (seqList f items st).1 ≠ .error .fuel := by
  fun_induction seqList f items st with
  | case1 st => exact fun h => nomatch h
  | case2 v rest st e st' h =>
    have := hf v st
    rw [h] at this
    exact fun h' => this (by cases h'; rfl)
  | case3 v rest st v' st' h e st'' h2 ih => rwa [h2] at ih
  | case4 => exact fun h => nomatch h

theorem resolveDeep_no_fuel (g : RGraph) (m : RMode) (fuel : Nat) (active : List Nat) (depth : Nat)
    (v : RV) (st : RSt) (hd : depth ≤ m.lim) (h : m.lim + 1 ≤ fuel + depth) :
    (resolveDeep g m fuel active depth v st).1 ≠ .error .fuel := by
  induction fuel using Nat.strongRecOn generalizing active depth v st with | _ fuel ih => ?_
  fun_cases resolveDeep g m fuel active depth v st
  case case1 => omega
  -- an error is passed on from an item of the array or from the object behind the reference
  case case4 fuel items _ _ _ st1 hs =>
    have := seqList_no_fuel _ (fun v st => ih fuel (Nat.lt_succ_self _) active (depth + 1) v st (by omega) (by omega)) items st1
    rw [hs] at this
    exact fun h' => this (by cases h'; rfl)
  case case11 fuel n target _ _ _ _ _ _ _ st2 hs =>
    have := ih fuel (Nat.lt_succ_self _) (n :: active) (depth + 1) target { st2 with reach := depth } (by omega) (by omega)
    rwa [hs] at this
  all_goals exact fun h => nomatch h

/-- the invariant of the memo table: every object fetched so far is either finished (in `done`)
or being resolved further up (in `active`), and nothing was fetched twice -/
def RInv (active : List Nat) (st : RSt) : Prop :=
  st.fetched.Nodup ∧ ∀ n ∈ st.fetched, n ∈ st.done.map Prod.fst ∨ n ∈ active

/-- what a call, or a run of calls, over values of total size `size` leaves behind when it starts from
`st` with the invariant: nothing fetched twice; every activation paid for by a node of the values or
by the size of an object fetched for the first time; after success the invariant again -/
structure Post (g : RGraph) (active : List Nat) (size : Nat) (st : RSt) {α : Type}
    (r : Except RErr α × RSt) : Prop where
  nodup : r.2.fetched.Nodup
  paid : r.2.calls + unseen RV.size g r.2.fetched ≤ st.calls + unseen RV.size g st.fetched + size
  inv : ∀ x, r.1 = .ok x → RInv active r.2

theorem Post.seq {g : RGraph} {active : List Nat} {a b : Nat} {st : RSt} {α β : Type}
    {r1 : Except RErr α × RSt} {r2 : Except RErr β × RSt}
    (h1 : Post g active a st r1) (h2 : Post g active b r1.2 r2) : Post g active (a + b) st r2 :=
  ⟨h2.nodup, by have := h1.paid; have := h2.paid; omega, h2.inv⟩

theorem Post.error {g : RGraph} {active : List Nat} {a : Nat} {st st' : RSt} {α β : Type} {e : RErr}
    (h : Post g active a st ((.error e : Except RErr α), st')) :
    Post g active a st ((.error e : Except RErr β), st') :=
  ⟨h.nodup, h.paid, fun _ h => nomatch h⟩

/-- the activation itself is paid for by the node of the value it stands at -/
theorem Post.enter {g : RGraph} {active : List Nat} {a : Nat} {st st1 : RSt} {α : Type}
    {r : Except RErr α × RSt} (h : Post g active a st1 r) (hf : st1.fetched = st.fetched)
    (hc : st1.calls = st.calls + 1) : Post g active (1 + a) st r :=
  ⟨h.nodup, by have := h.paid; rw [hf, hc] at this; omega, h.inv⟩

theorem seqList_post {g : RGraph} {active : List Nat} {f : RV → RSt → Except RErr RV × RSt}
    (hf : ∀ v st, RInv active st → Post g active v.size st (f v st)) (items : List RV) (st : RSt)
    (hi : RInv active st) : Post g active (RV.sizeList items) st (seqList f items st) := by
  fun_induction seqList f items st with
  | case1 st => exact ⟨hi.1, Nat.le_refl _, fun _ _ => hi⟩
  | case2 v rest st e st' h =>
    have := hf v st hi
    rw [h] at this
    exact ⟨this.nodup, Nat.le_trans this.paid (by simp only [RV.sizeList]; omega), fun _ h => nomatch h⟩
  | case3 v rest st v' st' h e st'' h2 ih =>
    have h1 := hf v st hi
    rw [h] at h1
    have := ih (h1.inv v' rfl)
    rw [h2] at this
    exact h1.seq this
  | case4 v rest st v' st' h vs st'' h2 ih =>
    have h1 := hf v st hi
    rw [h] at h1
    have := ih (h1.inv v' rfl)
    rw [h2] at this
    exact h1.seq ⟨this.nodup, this.paid, fun _ _ => this.inv vs rfl⟩

theorem resolveDeep_post (g : RGraph) (m : RMode) (fuel : Nat) (active : List Nat) (depth : Nat)
    (v : RV) (st : RSt) (hi : RInv active st) :
    Post g active v.size st (resolveDeep g m fuel active depth v st) := by
  induction fuel using Nat.strongRecOn generalizing active depth v st with | _ fuel ih => ?_
  -- a reference that is neither finished nor being resolved has never been fetched
  have hnew : ∀ n, lookupL st.done n = none → ¬ active.contains n = true → n ∉ st.fetched :=
    fun n hd ha hm => (hi.2 n hm).elim (lookupL_none_not_mem _ _ hd) (fun h => ha (List.contains_iff_mem.mpr h))
  -- fetching it puts it among the objects being resolved
  have hin : ∀ n, n ∉ st.fetched → RInv (n :: active) { st with fetched := n :: st.fetched } :=
    fun n hnf => ⟨List.nodup_cons.mpr ⟨hnf, hi.1⟩, fun k hk =>
      (List.mem_cons.mp hk).elim (fun h => Or.inr (h ▸ List.mem_cons_self))
        (fun hk => (hi.2 k hk).imp id (List.mem_cons_of_mem _))⟩
  fun_cases resolveDeep g m fuel active depth v st
  case case1 => exact ⟨hi.1, Nat.le_add_right _ _, fun _ h => nomatch h⟩
  case case2 fuel hlim st1 =>
    have : 1 ≤ v.size := by cases v <;> simp [RV.size] <;> omega
    exact ⟨hi.1, by simp only [st1]; omega, fun _ h => nomatch h⟩
  -- answered at once, in the state the call was entered with
  case case6 | case9 => exact Post.enter (a := 0) ⟨hi.1, Nat.le_refl _, fun _ h => nomatch h⟩ rfl rfl
  case case3 | case7 | case8 => exact Post.enter (a := 0) ⟨hi.1, Nat.le_refl _, fun _ _ => hi⟩ rfl rfl
  -- an array: its items one after the other
  case case4 fuel items e st'' hlim st1 hs =>
    have := seqList_post (fun v st h => ih fuel (Nat.lt_succ_self _) active (depth + 1) v st h) items st1 hi
    rw [hs] at this
    exact Post.enter this.error rfl rfl
  case case5 fuel items vs st'' hlim st1 hs =>
    have := seqList_post (fun v st h => ih fuel (Nat.lt_succ_self _) active (depth + 1) v st h) items st1 hi
    rw [hs] at this
    exact Post.enter ⟨this.nodup, this.paid, fun _ _ => this.inv vs rfl⟩ rfl rfl
  -- a reference met for the first time: what is fetched leaves `unseen`
  case case10 fuel n hl ha hlim st1 hd st2 =>
    exact Post.enter (a := 0) (st1 := st1) ⟨(hin n (hnew n hd ha)).1,
      Nat.add_le_add_left (unseen_cons_le (w := RV.size) g st.fetched n) _, fun _ h => nomatch h⟩ rfl rfl
  case case11 fuel n target hl e st' ha hlim st1 hd st2 hs =>
    have hnf := hnew n hd ha
    have := ih fuel (Nat.lt_succ_self _) (n :: active) (depth + 1) target { st2 with reach := depth } (hin n hnf)
    rw [hs] at this
    have hm := unseen_lookupL (w := RV.size) hl (visited := st.fetched) (by simpa using hnf)
    exact Post.enter (a := 0) (st1 := st1)
      ⟨this.nodup, by have := this.paid; simp only [st2, st1] at this ⊢; omega, fun _ h => nomatch h⟩ rfl rfl
  case case12 fuel n target hl res st' ha hlim st1 hd st2 hs =>
    have hnf := hnew n hd ha
    have := ih fuel (Nat.lt_succ_self _) (n :: active) (depth + 1) target { st2 with reach := depth } (hin n hnf)
    rw [hs] at this
    have hm := unseen_lookupL (w := RV.size) hl (visited := st.fetched) (by simpa using hnf)
    refine Post.enter (a := 0) (st1 := st1) ⟨this.nodup, by have := this.paid; simp only [st2, st1] at this ⊢; omega,
      fun _ _ => ⟨this.nodup, fun k hk => ?_⟩⟩ rfl rfl
    -- `n` itself is finished now; what waited for it, or was finished, stays so
    rcases (this.inv res rfl).2 k hk with h | h
    · exact Or.inl (List.mem_cons_of_mem _ h)
    · exact (List.mem_cons.mp h).elim (fun h => Or.inl (h ▸ List.mem_cons_self)) Or.inr

/-- the total size of the objects of the graph -/
def totalSize : RGraph → Nat
  | [] => 0
  | (_, v) :: rest => v.size + totalSize rest

theorem totalSize_eq (g : RGraph) : totalSize g = unseen RV.size g [] := by
  induction g with
  | nil => rfl
  | cons p rest ih => simp only [totalSize, unseen, ih, List.contains_nil, Bool.false_eq_true, if_false]

end Tabula.BoundsCore
