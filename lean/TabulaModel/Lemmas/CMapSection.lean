import TabulaModel.Lemmas.CMapItems
import TabulaModel.Lemmas.ListBasics
/-!
What tabula's section parsers (`parseBfCharSection`, `parseBfRangeSection`) do to the CMap
state when they are given the text the independent writer (`Model/CMapRender.lean`) produces
for one section, for every formatting policy, and what `Lookup` computes inside an offset
range (`rangeText_run`).
-/
namespace Tabula.CMap
open Tabula.UTF16

/-! ## codes -/

theorem parseHex_codeTok (p : Policy) (w c : Nat) (hw1 : 1 ≤ w) (hw4 : w ≤ 4) (hc : c < 256 ^ w) :
    parseHexToUint32 (codeTok p w c) = some c := by
  unfold codeTok
  have hne : codeBytes w c ≠ [] := by
    intro h
    have := congrArg List.length h
    rw [codeBytes_length] at this
    simp at this; omega
  have hval : (codeBytes w c).foldl (fun a b => a * 256 + b) 0 = c := by
    rw [codeBytes_val, Nat.mod_eq_of_lt hc]
  have := pow256_le w hw4
  rw [parseHex_hexOfBytesP _ _ (codeBytes_bytes w c) hne (by rw [hval]; omega), hval]

theorem codeTok_length (p : Policy) (w c : Nat) : (codeTok p w c).length = 2 * w := by
  unfold codeTok; rw [hexOfBytesP_length, codeBytes_length]

theorem srcWidth_codeTok (p : Policy) (w c : Nat) : srcWidth (codeTok p w c) = w := by
  unfold srcWidth; rw [codeTok_length]; omega

theorem codeTok_ne_nil (p : Policy) (w c : Nat) (hw1 : 1 ≤ w) : codeTok p w c ≠ [] := by
  intro h
  have := congrArg List.length h
  rw [codeTok_length] at this
  simp at this; omega

theorem codeTok_hex (p : Policy) (w c : Nat) : ∀ x ∈ codeTok p w c, IsHexCh x :=
  hexOfBytesP_mem _ _ (codeBytes_bytes w c)

/-! ## targets -/

theorem textTok_length (p : Policy) (t : List Nat) : (textTok p t).length = 4 * (encodeUnits t).length := by
  unfold textTok; rw [hexOfBytesP_length, bytesBE_length]; omega

theorem textTok_ne_nil (p : Policy) (t : List Nat) (h : t ≠ []) : textTok p t ≠ [] := by
  intro h0
  have h1 := congrArg List.length h0
  rw [textTok_length] at h1
  have h2 := encodeUnits_ne_nil t h
  cases hu : encodeUnits t with
  | nil => exact h2 hu
  | cons a b => rw [hu] at h1; simp at h1

theorem textTok_hex (p : Policy) (t : List Nat) (ht : AllScalar t) : ∀ x ∈ textTok p t, IsHexCh x :=
  hexOfBytesP_mem _ _ (bytesBE_bytes _ (encodeUnits_lt t ht))

/-- the first UTF-16 code unit of a target text is not U+FEFF -/
theorem encodeUnits_head (t : List Nat) (hok : TextOK t) :
    ∃ u us, encodeUnits t = u :: us ∧ u ≠ 0xFEFF := by
  obtain ⟨ht, hne, hbom⟩ := hok
  cases t with
  | nil => exact absurd rfl hne
  | cons c rest =>
    unfold encodeUnits
    rw [List.flatMap_cons]
    rcases encodeScalar_cases c (ht c (by simp)) with ⟨he, _, _⟩ | ⟨u, l, he, hh, _, _⟩
    · exact ⟨c, _, by rw [he]; rfl, fun h => hbom (by rw [h]; rfl)⟩
    · exact ⟨u, _, by rw [he]; rfl, fun h => by rw [h] at hh; exact absurd hh (by decide)⟩

/-- `hexToUnicode` reads back the UTF-16BE hex (either case) of a target text: at least two
bytes that are not a byte-order mark, decoded as UTF-16BE -/
theorem hexToUnicode_textTok (p : Policy) (t : List Nat) (hok : TextOK t) :
    hexToUnicode (textTok p t) = some t := by
  obtain ⟨u, us, hus, hu⟩ := encodeUnits_head t hok
  have hdec := cmapDecodeUTF16BE_bytesBE (encodeUnits t)
  rw [cmapDecodeUnits_encodeUnits t hok.1] at hdec
  unfold textTok
  rw [hexToUnicode_hexOfBytesP _ _ (bytesBE_bytes _ (encodeUnits_lt t hok.1))]
  rw [hus] at hdec ⊢
  simp only [bytesBE, List.flatMap_cons, List.cons_append, List.nil_append] at hdec ⊢
  rw [hexToUnicode_match _ _ _ (by omega), hdec]

/-- a one-unit destination of a `bfrange` is read as a number -/
theorem parseBfRangeDst_textTok_one (p : Policy) (t : List Nat) (u : Nat) (ht : AllScalar t)
    (hu : encodeUnits t = [u]) : parseBfRangeDst (textTok p t) = some (u, []) := by
  have hlen : (textTok p t).length = 4 := by rw [textTok_length, hu]; rfl
  have hult : u < 65536 := encodeUnits_lt t ht u (by rw [hu]; simp)
  have hparse : parseHexToUint32 (textTok p t) = some u := by
    unfold textTok
    rw [hu]
    have hb : AllBytes (bytesBE [u]) := bytesBE_bytes _ (by intro x hx; simp at hx; omega)
    have hval : (bytesBE [u]).foldl (fun a b => a * 256 + b) 0 = u := by
      simp [bytesBE]; omega
    rw [parseHex_hexOfBytesP _ _ hb (by simp [bytesBE]) (by rw [hval]; omega), hval]
  have h1 : (textTok p t).length % 2 = 0 := by omega
  have h2 : ¬ ((textTok p t).length > 4 ∧ (textTok p t).length % 4 = 0) := by omega
  unfold parseBfRangeDst
  simp only [h1, ne_eq, not_true_eq_false, if_false, h2, hparse, Option.map_some]

/-- a destination of two or more units is kept as its code units -/
theorem parseBfRangeDst_textTok_many (p : Policy) (t : List Nat) (ht : AllScalar t)
    (hl : 2 ≤ (encodeUnits t).length) : parseBfRangeDst (textTok p t) = some (0, encodeUnits t) := by
  have hlen := textTok_length p t
  have h1 : (textTok p t).length % 2 = 0 := by omega
  have h2 : (textTok p t).length > 4 ∧ (textTok p t).length % 4 = 0 := by omega
  have hdec : hexDecode (textTok p t) = some (bytesBE (encodeUnits t)) := by
    unfold textTok
    exact hexDecode_hexOfBytesP _ _ (bytesBE_bytes _ (encodeUnits_lt t ht))
  unfold parseBfRangeDst
  simp only [h1, ne_eq, not_true_eq_false, if_false, h2, and_self, if_true, hdec, Option.map_some,
    unitsBE_bytesBE]

/-! ## the scanners on `(token, filler)` streams -/

/-- a character of the white space the writer puts between tokens -/
def IsFill (c : Nat) : Prop := c = 32 ∨ c = 13 ∨ c = 10

theorem eol_fill (p : Policy) : ∀ c ∈ p.eol, IsFill c := by
  rcases eol_cases p with h | h | h <;> rw [h] <;> simp [IsFill]

theorem sep_fill (p : Policy) : ∀ c ∈ p.sep, IsFill c := by
  rcases sep_cases p with h | h <;> rw [h] <;> simp [IsFill]

/-- fillers are white space, hex tokens consist of hex digits -/
def StreamOK (l : List (Tok × Str)) : Prop :=
  ∀ tf ∈ l, (∀ c ∈ tf.2, IsFill c) ∧ (∀ h, tf.1 = Tok.hex h → ∀ c ∈ h, IsHexCh c)

theorem streamOK_tail {a : Tok × Str} {l : List (Tok × Str)} (h : StreamOK (a :: l)) : StreamOK l :=
  fun tf htf => h tf (List.mem_cons_of_mem _ htf)

theorem streamOK_append {a b : List (Tok × Str)} (ha : StreamOK a) (hb : StreamOK b) : StreamOK (a ++ b) := by
  intro tf htf
  rcases List.mem_append.mp htf with h | h
  · exact ha tf h
  · exact hb tf h

theorem renderToks_cons (tf : Tok × Str) (l : List (Tok × Str)) :
    renderToks (tf :: l) = tf.1.text ++ tf.2 ++ renderToks l := by
  unfold renderToks; rw [List.flatMap_cons]

theorem renderToks_append (a b : List (Tok × Str)) : renderToks (a ++ b) = renderToks a ++ renderToks b := by
  unfold renderToks; rw [List.flatMap_append]

/-- a byte that is no hex digit, angle bracket or square bracket occurs in the text of a stream only
in a filler -/
theorem stream_avoids {b : Nat} (hb : ¬ IsHexCh b ∧ b ≠ 60 ∧ b ≠ 62 ∧ b ≠ 91 ∧ b ≠ 93) (l : List (Tok × Str))
    (hl : StreamOK l) (hf : ∀ tf ∈ l, b ∉ tf.2) : b ∉ renderToks l := by
  intro hc
  unfold renderToks at hc
  obtain ⟨⟨tok, f⟩, htf, hc⟩ := List.mem_flatMap.mp hc
  rcases List.mem_append.mp hc with hc | hc
  · cases tok with
    | hex x =>
      simp only [Tok.text, List.mem_cons, List.mem_append, List.mem_nil_iff, or_false] at hc
      rcases hc with hc | hc | hc
      · exact hb.2.1 hc
      · exact hb.1 ((hl _ htf).2 x rfl b hc)
      · exact hb.2.2.1 hc
    | lbr => exact hb.2.2.2.1 (List.mem_singleton.mp hc)
    | rbr => exact hb.2.2.2.2 (List.mem_singleton.mp hc)
  · exact hf _ htf hc

/-- in a stream of hex tokens, brackets and white-space fillers no byte is the letter `n` -/
theorem streamOK_no_n (l : List (Tok × Str)) (h : StreamOK l) : ∀ c ∈ renderToks l, c ≠ 110 := by
  intro c hc e
  refine stream_avoids ⟨by unfold IsHexCh; omega, by decide, by decide, by decide, by decide⟩ l h ?_ (e ▸ hc)
  intro tf htf hm
  have := (h tf htf).1 110 hm
  unfold IsFill at this
  omega

theorem tokensAux_skip (pre rest : Str) (h : ∀ c ∈ pre, IsFill c) :
    tokensAux none (pre ++ rest) = tokensAux none rest := by
  induction pre with
  | nil => rfl
  | cons c t ih =>
    have hc := h c (by simp)
    unfold IsFill at hc
    have h1 : c ≠ 60 := by omega
    have h2 : c ≠ 91 := by omega
    have h3 : c ≠ 93 := by omega
    simp only [List.cons_append, tokensAux, h1, h2, h3, if_false]
    exact ih (fun x hx => h x (by simp [hx]))

theorem tokensAux_hex (h : Str) (hno : ∀ c ∈ h, c ≠ 62) (acc rest : Str) :
    tokensAux (some acc) (h ++ 62 :: rest) = Tok.hex (acc.reverse ++ h) :: tokensAux none rest := by
  induction h generalizing acc with
  | nil => simp [tokensAux]
  | cons c t ih =>
    have hc : c ≠ 62 := hno c (by simp)
    simp only [List.cons_append, tokensAux, hc, if_false]
    rw [ih (fun x hx => hno x (by simp [hx]))]
    simp

theorem hexCh_ne_gt (h : Str) (hh : ∀ c ∈ h, IsHexCh c) : ∀ c ∈ h, c ≠ 62 := by
  intro c hc
  have := hh c hc
  unfold IsHexCh at this
  omega

theorem tokensAux_tok (tok : Tok) (fill rest : Str) (hf : ∀ c ∈ fill, IsFill c)
    (hh : ∀ h, tok = Tok.hex h → ∀ c ∈ h, IsHexCh c) :
    tokensAux none (tok.text ++ fill ++ rest) = tok :: tokensAux none rest := by
  cases tok with
  | hex h =>
    have hno := hexCh_ne_gt h (hh h rfl)
    simp only [Tok.text, List.cons_append, List.nil_append, List.append_assoc, tokensAux, if_true]
    rw [tokensAux_hex h hno [] (fill ++ rest), tokensAux_skip fill rest hf]
    simp
  | lbr =>
    simp only [Tok.text, List.cons_append, List.nil_append, tokensAux, if_true,
      show (91 : Nat) ≠ 60 by decide, if_false]
    rw [tokensAux_skip fill rest hf]
  | rbr =>
    simp only [Tok.text, List.cons_append, List.nil_append, tokensAux, if_true,
      show (93 : Nat) ≠ 60 by decide, show (93 : Nat) ≠ 91 by decide, if_false]
    rw [tokensAux_skip fill rest hf]

/-- `bfRangeTokens` recovers exactly the tokens of a rendered stream -/
theorem bfRangeTokens_render (pre : Str) (hpre : ∀ c ∈ pre, IsFill c) (l : List (Tok × Str))
    (hl : StreamOK l) : bfRangeTokens (pre ++ renderToks l) = l.map (·.1) := by
  unfold bfRangeTokens
  rw [tokensAux_skip pre _ hpre]
  induction l with
  | nil => rfl
  | cons tf l ih =>
    rw [renderToks_cons, tokensAux_tok tf.1 tf.2 _ (hl tf (by simp)).1 (hl tf (by simp)).2,
      ih (streamOK_tail hl)]
    rfl

/-- the hex tokens of a token list -/
def tokHexes : List Tok → List Str
  | [] => []
  | Tok.hex h :: l => h :: tokHexes l
  | _ :: l => tokHexes l

theorem tokHexes_append (a b : List Tok) : tokHexes (a ++ b) = tokHexes a ++ tokHexes b := by
  induction a with
  | nil => rfl
  | cons x t ih => cases x <;> simp [tokHexes, ih]

/-- **the `<`…`>` scanner returns the hex tokens of the token scanner**, on every text -/
theorem hexStringsAux_eq_tokens (st : Option Str) (s : Str) :
    hexStringsAux st s = tokHexes (tokensAux st s) := by
  induction s generalizing st with
  | nil => cases st <;> rfl
  | cons c t ih =>
    cases st with
    | none =>
      simp only [hexStringsAux, tokensAux]
      split
      · exact ih _
      · split
        · exact ih _
        · split <;> exact ih _
    | some acc =>
      simp only [hexStringsAux, tokensAux]
      split
      · rw [tokHexes, ih]
      · exact ih _

/-- the `<`…`>` scanner recovers exactly the hex tokens of a rendered stream -/
theorem hexStrings_render (pre : Str) (hpre : ∀ c ∈ pre, IsFill c) (l : List (Tok × Str))
    (hl : StreamOK l) : hexStrings (pre ++ renderToks l) = tokHexes (l.map (·.1)) := by
  have h := bfRangeTokens_render pre hpre l hl
  unfold bfRangeTokens at h
  unfold hexStrings
  rw [hexStringsAux_eq_tokens, h]

/-! ## the rendered stream of a well-formed item -/

theorem runOK_head {w : Nat} {r : Run} (hr : RunOK w r) : r.texts.headD [] ∈ r.texts := by
  obtain ⟨hne, _, _⟩ := hr
  cases h : r.texts with
  | nil => exact absurd h hne
  | cons a t => simp

theorem streamOK_cons {tok : Tok} {f : Str} {l : List (Tok × Str)} (hf : ∀ c ∈ f, IsFill c)
    (ht : ∀ h, tok = Tok.hex h → ∀ c ∈ h, IsHexCh c) (hl : StreamOK l) : StreamOK ((tok, f) :: l) :=
  List.forall_mem_cons.mpr ⟨⟨hf, ht⟩, hl⟩

theorem streamOK_nil : StreamOK [] := List.forall_mem_nil _

theorem hexTok_ok {h : Str} (hh : ∀ c ∈ h, IsHexCh c) : ∀ h', Tok.hex h = Tok.hex h' → ∀ c ∈ h', IsHexCh c :=
  fun _ e => Tok.hex.inj e ▸ hh

theorem arrayElems_ok (p : Policy) (n i : Nat) (ts : List (List Nat)) (hts : ∀ t ∈ ts, AllScalar t) :
    StreamOK (arrayElems p n i ts) := by
  induction ts generalizing i with
  | nil => exact streamOK_nil
  | cons t ts ih =>
    refine streamOK_cons ?_ (hexTok_ok (textTok_hex p t (hts t List.mem_cons_self)))
      (ih (i + 1) (fun x hx => hts x (List.mem_cons_of_mem _ hx)))
    split
    · exact eol_fill p
    · exact sep_fill p

theorem itemToks_ok (p : Policy) (w : Nat) (it : Item) (hit : ItemOK w it) : StreamOK (itemToks p w it) := by
  cases it with
  | char c t =>
    have ht : TextOK t := hit.2
    exact streamOK_cons (sep_fill p) (hexTok_ok (codeTok_hex p w c))
      (streamOK_cons (eol_fill p) (hexTok_ok (textTok_hex p t ht.1)) streamOK_nil)
  | offset r =>
    have hr : RunOK w r := hit.1
    have ht : TextOK (r.texts.headD []) := hr.2.2 _ (runOK_head hr)
    exact streamOK_cons (sep_fill p) (hexTok_ok (codeTok_hex p w r.lo))
      (streamOK_cons (sep_fill p) (hexTok_ok (codeTok_hex p w r.hi))
        (streamOK_cons (eol_fill p) (hexTok_ok (textTok_hex p _ ht.1)) streamOK_nil))
  | array r =>
    have hr : RunOK w r := hit
    refine streamOK_append (streamOK_append ?_ ?_) (streamOK_cons (eol_fill p) nofun streamOK_nil)
    · exact streamOK_cons (sep_fill p) (hexTok_ok (codeTok_hex p w r.lo))
        (streamOK_cons (sep_fill p) (hexTok_ok (codeTok_hex p w r.hi))
          (streamOK_cons (sep_fill p) nofun streamOK_nil))
    · exact arrayElems_ok p _ 0 r.texts (fun t ht => (hr.2.2 t ht).1)

theorem itemsToks_ok (p : Policy) (w : Nat) (items : List Item) (h : ∀ it ∈ items, ItemOK w it) :
    StreamOK (items.flatMap (itemToks p w)) := by
  intro tf htf
  obtain ⟨it, hit, hmem⟩ := List.mem_flatMap.mp htf
  exact itemToks_ok p w it (h it hit) tf hmem

/-! ## what one item does to the state -/

/-- `noteWidth` of a source token of width `w` -/
def widthStep (w : Nat) (cm : CMap) : CMap :=
  if w > cm.actualByteWidth then { cm with actualByteWidth := w } else cm

/-- the specified effect of one item on the CMap state -/
def itemStep (w : Nat) : Item → CMap → CMap
  | .char c t, cm => (widthStep w cm).setChar c t
  | .offset r, cm => { widthStep w cm with ranges := (widthStep w cm).ranges ++ [r.range] }
  | .array r, cm => { cm with chars := r.entries.reverse ++ cm.chars }

theorem noteWidth_codeTok (p : Policy) (w c : Nat) (cm : CMap) :
    cm.noteWidth (codeTok p w c) = widthStep w cm := by
  unfold CMap.noteWidth widthStep
  rw [srcWidth_codeTok]

theorem widthStep_chars (w : Nat) (cm : CMap) : (widthStep w cm).chars = cm.chars := by
  unfold widthStep; split <;> rfl

theorem widthStep_ranges (w : Nat) (cm : CMap) : (widthStep w cm).ranges = cm.ranges := by
  unfold widthStep; split <;> rfl

theorem widthStep_inv (w : Nat) (cm : CMap) (h : WidthInv w cm) : WidthInv w (widthStep w cm) := by
  unfold WidthInv widthStep at *
  split
  · exact ⟨h.1, Or.inr rfl⟩
  · exact h

theorem itemStep_chars (w : Nat) (it : Item) (cm : CMap) :
    (itemStep w it cm).chars = it.chars.reverse ++ cm.chars := by
  cases it with
  | char c t => simp [itemStep, CMap.setChar, widthStep_chars, Item.chars]
  | offset r => simp [itemStep, widthStep_chars, Item.chars]
  | array r => simp [itemStep, Item.chars]

theorem itemStep_ranges (w : Nat) (it : Item) (cm : CMap) :
    (itemStep w it cm).ranges = cm.ranges ++ it.ranges := by
  cases it with
  | char c t => simp [itemStep, CMap.setChar, widthStep_ranges, Item.ranges]
  | offset r => simp [itemStep, widthStep_ranges, Item.ranges]
  | array r => simp [itemStep, Item.ranges]

theorem itemStep_inv (w : Nat) (it : Item) (cm : CMap) (h : WidthInv w cm) : WidthInv w (itemStep w it cm) := by
  cases it with
  | char c t => exact widthStep_inv w cm h
  | offset r => exact widthStep_inv w cm h
  | array r => exact h

/-- the state after a list of items -/
theorem foldl_itemStep_state (w : Nat) (items : List Item) (cm : CMap) (hinv : WidthInv w cm) :
    (items.foldl (fun cm it => itemStep w it cm) cm).chars = (items.flatMap Item.chars).reverse ++ cm.chars ∧
    (items.foldl (fun cm it => itemStep w it cm) cm).ranges = cm.ranges ++ items.flatMap Item.ranges ∧
    WidthInv w (items.foldl (fun cm it => itemStep w it cm) cm) := by
  induction items generalizing cm with
  | nil => simp [hinv]
  | cons it items ih =>
    have := ih (itemStep w it cm) (itemStep_inv w it cm hinv)
    simp only [List.foldl_cons, List.flatMap_cons, List.reverse_append]
    refine ⟨?_, ?_, this.2.2⟩
    · rw [this.1, itemStep_chars, List.append_assoc]
    · rw [this.2.1, itemStep_ranges, List.append_assoc]

/-! ## one item through the parsers' steps -/

theorem bfCharStep_item (p : Policy) (w : Nat) (hw1 : 1 ≤ w) (hw4 : w ≤ 4) (c : Nat) (t : List Nat)
    (hc : c < 256 ^ w) (ht : TextOK t) (cm : CMap) :
    bfCharStep (codeTok p w c) (textTok p t) cm = itemStep w (.char c t) cm := by
  unfold bfCharStep
  simp only [codeTok_ne_nil p w c hw1, textTok_ne_nil p t ht.2.1, or_self, if_false]
  rw [parseHex_codeTok p w c hw1 hw4 hc, hexToUnicode_textTok p t ht, noteWidth_codeTok]
  rfl

/-- the two shapes of the range of a run -/
theorem range_cases (r : Run) :
    (∃ u, encodeUnits (r.texts.headD []) = [u] ∧ r.range = ⟨r.lo, r.hi, u, []⟩) ∨
    ((∀ u, encodeUnits (r.texts.headD []) ≠ [u]) ∧
      r.range = ⟨r.lo, r.hi, 0, encodeUnits (r.texts.headD [])⟩) := by
  unfold Run.range
  split
  · rename_i u heq
    exact Or.inl ⟨u, heq, rfl⟩
  · rename_i hne
    exact Or.inr ⟨fun u hu => hne u hu, rfl⟩

theorem two_le_length (us : List Nat) (h0 : us ≠ []) (h1 : ∀ u, us ≠ [u]) : 2 ≤ us.length := by
  match us, h0, h1 with
  | [], h0, _ => exact absurd rfl h0
  | [u], _, h1 => exact absurd rfl (h1 u)
  | _ :: _ :: _, _, _ => simp

theorem run_hi_lt {w : Nat} {r : Run} (hr : RunOK w r) : r.hi < 256 ^ w := by
  obtain ⟨hne, hle, _⟩ := hr
  unfold Run.hi
  have : 0 < r.texts.length := List.length_pos_iff.mpr hne
  omega

theorem run_lo_lt {w : Nat} {r : Run} (hr : RunOK w r) : r.lo < 256 ^ w := by
  obtain ⟨hne, hle, _⟩ := hr
  have : 0 < r.texts.length := List.length_pos_iff.mpr hne
  omega

theorem parseBfRangeDst_head (p : Policy) (r : Run) (ht : TextOK (r.texts.headD [])) :
    parseBfRangeDst (textTok p (r.texts.headD [])) = some (r.range.startUnicode, r.range.units) := by
  rcases range_cases r with ⟨u, hu, hr⟩ | ⟨hnu, hr⟩
  · rw [hr, parseBfRangeDst_textTok_one p _ u ht.1 hu]
  · rw [hr, parseBfRangeDst_textTok_many p _ ht.1
      (two_le_length _ (encodeUnits_ne_nil _ ht.2.1) hnu)]

theorem range_eta (r : Run) : (⟨r.lo, r.hi, r.range.startUnicode, r.range.units⟩ : Range) = r.range := by
  rcases range_cases r with ⟨u, _, hr⟩ | ⟨_, hr⟩ <;> rw [hr]

theorem bfRangeStep_item (p : Policy) (w : Nat) (hw1 : 1 ≤ w) (hw4 : w ≤ 4) (r : Run) (hr : RunOK w r)
    (cm : CMap) :
    bfRangeStep (codeTok p w r.lo) (codeTok p w r.hi) (textTok p (r.texts.headD [])) cm =
      itemStep w (.offset r) cm := by
  have ht : TextOK (r.texts.headD []) := hr.2.2 _ (runOK_head hr)
  unfold bfRangeStep
  simp only [codeTok_ne_nil p w _ hw1, textTok_ne_nil p _ ht.2.1, or_self, if_false]
  rw [parseHex_codeTok p w r.lo hw1 hw4 (run_lo_lt hr), parseHex_codeTok p w r.hi hw1 hw4 (run_hi_lt hr),
    parseBfRangeDst_head p r ht, noteWidth_codeTok]
  simp only [itemStep, range_eta]

theorem arrayLoop_texts (p : Policy) (ts : List (List Nat)) (cur stop : Nat) (cm : CMap)
    (hts : ∀ t ∈ ts, TextOK t) (h1 : cur + ts.length ≤ stop + 1) (h2 : stop < 4294967296) :
    arrayLoop (ts.map (textTok p)) cur stop cm =
      { cm with chars := (Run.entriesFrom cur ts).reverse ++ cm.chars } := by
  induction ts generalizing cur cm with
  | nil => simp [arrayLoop, Run.entriesFrom]
  | cons t ts ih =>
    have ht : TextOK t := hts t (by simp)
    have hle : cur ≤ stop := by simp only [List.length_cons] at h1; omega
    simp only [List.map_cons, arrayLoop, textTok_ne_nil p t ht.2.1, if_false,
      hexToUnicode_textTok p t ht, hle, if_true]
    cases ts with
    | nil => simp [arrayLoop, Run.entriesFrom, CMap.setChar]
    | cons t2 ts2 =>
      have hlt : cur + 1 < 4294967296 := by simp only [List.length_cons] at h1; omega
      rw [Nat.mod_eq_of_lt hlt, ih (cur + 1) _ (fun x hx => hts x (by simp [hx]))
        (by simp only [List.length_cons] at h1 ⊢; omega)]
      simp [Run.entriesFrom, CMap.setChar]

theorem addBfRangeArray_item (p : Policy) (w : Nat) (hw1 : 1 ≤ w) (hw4 : w ≤ 4) (r : Run) (hr : RunOK w r)
    (cm : CMap) :
    addBfRangeArray (codeTok p w r.lo) (codeTok p w r.hi) (r.texts.map (textTok p)) cm =
      itemStep w (.array r) cm := by
  unfold addBfRangeArray
  rw [parseHex_codeTok p w r.lo hw1 hw4 (run_lo_lt hr), parseHex_codeTok p w r.hi hw1 hw4 (run_hi_lt hr)]
  have hP := pow256_le w hw4
  have hhi := run_hi_lt hr
  have hpos : 0 < r.texts.length := List.length_pos_iff.mpr hr.1
  simp only
  rw [arrayLoop_texts p r.texts r.lo r.hi cm hr.2.2 (by unfold Run.hi; omega) (by omega)]
  rfl

/-! ## a list of items through the parsers' loops -/

theorem bfCharPairs_items (p : Policy) (w : Nat) (hw1 : 1 ≤ w) (hw4 : w ≤ 4) (items : List Item)
    (h : ∀ it ∈ items, ItemOK w it ∧ it.fits .bfchar) (cm : CMap) :
    bfCharPairs (tokHexes ((items.flatMap (itemToks p w)).map (·.1))) cm =
      items.foldl (fun cm it => itemStep w it cm) cm := by
  induction items generalizing cm with
  | nil => rfl
  | cons it items ih =>
    have hit := h it (by simp)
    cases it with
    | char c t =>
      rw [List.flatMap_cons, List.map_append, tokHexes_append]
      simp only [itemToks, List.map, tokHexes, List.cons_append, List.nil_append, bfCharPairs, List.foldl_cons]
      rw [bfCharStep_item p w hw1 hw4 c t hit.1.1 hit.1.2, ih (fun x hx => h x (by simp [hx]))]
    | offset r => exact False.elim hit.2
    | array r => exact False.elim hit.2

theorem bfRangeTriples_items (p : Policy) (w : Nat) (hw1 : 1 ≤ w) (hw4 : w ≤ 4) (items : List Item)
    (h : ∀ it ∈ items, ItemOK w it ∧ it.fits .bfrange) (hna : ∀ r, Item.array r ∉ items) (cm : CMap) :
    bfRangeTriples (tokHexes ((items.flatMap (itemToks p w)).map (·.1))) cm =
      items.foldl (fun cm it => itemStep w it cm) cm := by
  induction items generalizing cm with
  | nil => rfl
  | cons it items ih =>
    have hit := h it (by simp)
    cases it with
    | char c t => exact False.elim hit.2
    | offset r =>
      rw [List.flatMap_cons, List.map_append, tokHexes_append]
      simp only [itemToks, List.map, tokHexes, List.cons_append, List.nil_append, bfRangeTriples, List.foldl_cons]
      rw [bfRangeStep_item p w hw1 hw4 r hit.1.1,
        ih (fun x hx => h x (by simp [hx])) (fun r hr => hna r (by simp [hr]))]
    | array r => exact absurd (by simp) (hna r)

theorem arrayElems_map_fst (p : Policy) (n i : Nat) (ts : List (List Nat)) :
    (arrayElems p n i ts).map (·.1) = (ts.map (textTok p)).map Tok.hex := by
  induction ts generalizing i with
  | nil => rfl
  | cons t ts ih => simp only [arrayElems, List.map_cons, ih]

theorem spanHex_hexes (hs : List Str) (rest : List Tok) :
    spanHex (hs.map Tok.hex ++ Tok.rbr :: rest) = (hs, Tok.rbr :: rest) := by
  induction hs with
  | nil => simp [spanHex]
  | cons h t ih => simp only [List.map_cons, List.cons_append, spanHex, ih]

theorem tokenStep_array (a b : Str) (hs : List Str) (rest : List Tok) (cm : CMap) :
    tokenStep (Tok.hex a :: Tok.hex b :: Tok.lbr :: (hs.map Tok.hex ++ Tok.rbr :: rest)) cm =
      some (rest, addBfRangeArray a b hs cm) := by
  simp only [tokenStep, spanHex_hexes]

/-- the token loop with enough fuel (one step per item, one more to stop) -/
theorem tokenLoop_items (p : Policy) (w : Nat) (hw1 : 1 ≤ w) (hw4 : w ≤ 4) (items : List Item)
    (h : ∀ it ∈ items, ItemOK w it ∧ it.fits .bfrange) (f : Nat) (hf : items.length < f) (cm : CMap) :
    tokenLoop f ((items.flatMap (itemToks p w)).map (·.1)) cm =
      items.foldl (fun cm it => itemStep w it cm) cm := by
  induction items generalizing f cm with
  | nil =>
    cases f with
    | zero => simp at hf
    | succ f => simp [tokenLoop, tokenStep]
  | cons it items ih =>
    have hit := h it (by simp)
    cases f with
    | zero => simp at hf
    | succ f =>
      have hf' : items.length < f := by simp only [List.length_cons] at hf; omega
      have hrest := ih (fun x hx => h x (by simp [hx])) f hf'
      rw [List.flatMap_cons, List.map_append, List.foldl_cons]
      cases it with
      | char c t => exact False.elim hit.2
      | offset r =>
        simp only [itemToks, List.map_cons, List.map_nil, List.cons_append, List.nil_append, tokenLoop,
          tokenStep]
        rw [bfRangeStep_item p w hw1 hw4 r hit.1.1, hrest]
      | array r =>
        have hr : RunOK w r := hit.1
        simp only [itemToks, List.map_cons, List.map_nil, List.map_append, List.cons_append,
          List.nil_append, List.append_assoc, arrayElems_map_fst, tokenLoop, tokenStep_array]
        rw [addBfRangeArray_item p w hw1 hw4 r hr, hrest]

theorem itemToks_length_pos (p : Policy) (w : Nat) (it : Item) : 1 ≤ (itemToks p w it).length := by
  cases it <;> simp [itemToks]

/-! ## the dispatch of `parseBfRangeSection` -/

/-- `strings.Contains` with a one-byte needle is membership -/
theorem contains_singleton (c : Nat) (s : Str) : contains [c] s = s.contains c := by
  induction s with
  | nil => rfl
  | cons a t ih =>
    rw [List.contains_cons, ← ih]
    unfold contains
    rw [indexOf]
    by_cases h : c = a <;> simp [List.isPrefixOf, h]

theorem lbr_mem_text (p : Policy) (w : Nat) (items : List Item) (pre : Str) (r : Run)
    (hmem : Item.array r ∈ items) : 91 ∈ pre ++ renderToks (items.flatMap (itemToks p w)) := by
  apply List.mem_append_right
  unfold renderToks
  refine List.mem_flatMap.mpr ⟨(Tok.lbr, p.sep), ?_, ?_⟩
  · refine List.mem_flatMap.mpr ⟨Item.array r, hmem, ?_⟩
    simp [itemToks]
  · simp [Tok.text]

/-- a well-formed `bfrange` section through `parseBfRangeSection`, item by item -/
theorem parseBfRangeSection_items (p : Policy) (w : Nat) (hw1 : 1 ≤ w) (hw4 : w ≤ 4) (items : List Item)
    (h : ∀ it ∈ items, ItemOK w it ∧ it.fits .bfrange) (cm : CMap) :
    parseBfRangeSection (p.eol ++ renderToks (items.flatMap (itemToks p w))) cm =
      items.foldl (fun cm it => itemStep w it cm) cm := by
  have hok := itemsToks_ok p w items (fun it hit => (h it hit).1)
  unfold parseBfRangeSection
  split
  · unfold parseBfRangeSectionWithArrays
    simp only
    rw [bfRangeTokens_render p.eol (eol_fill p) _ hok]
    apply tokenLoop_items p w hw1 hw4 items h
    rw [List.length_map]
    have := List.length_le_length_flatMap (itemToks p w) items fun it _ => itemToks_length_pos p w it
    omega
  · rename_i hc
    have hno : 91 ∉ p.eol ++ renderToks (items.flatMap (itemToks p w)) := by
      rw [contains_singleton] at hc
      simpa using hc
    rw [hexStrings_render p.eol (eol_fill p) _ hok]
    exact bfRangeTriples_items p w hw1 hw4 items h
      (fun r hr => hno (lbr_mem_text p w items p.eol r hr)) cm

/-- a well-formed `bfchar` section, after any white space, through `parseBfCharSection` -/
theorem parseBfCharSection_items (p : Policy) (w : Nat) (hw1 : 1 ≤ w) (hw4 : w ≤ 4) (items : List Item)
    (h : ∀ it ∈ items, ItemOK w it ∧ it.fits .bfchar) (pre : Str) (hpre : ∀ c ∈ pre, IsFill c) (cm : CMap) :
    parseBfCharSection (pre ++ renderToks (items.flatMap (itemToks p w))) cm =
      items.foldl (fun cm it => itemStep w it cm) cm := by
  have hok := itemsToks_ok p w items (fun it hit => (h it hit).1)
  unfold parseBfCharSection
  rw [hexStrings_render pre hpre _ hok]
  exact bfCharPairs_items p w hw1 hw4 items h cm

/-- the one-entry-per-line section of `renderSection` is what the policy writer produces for
the same entries as `bfchar` items under the default policy (upper case, one space, LF) -/
theorem renderSection_eq (w : Nat) (es : List (Nat × List Nat)) :
    renderSection w es = renderToks ((es.map fun e => Item.char e.1 e.2).flatMap (itemToks {} w)) := by
  induction es with
  | nil => rfl
  | cons e es ih =>
    rw [renderSection, ih, List.map_cons, List.flatMap_cons]
    simp [renderLine, srcTok, dstTok, hexOfBytes_eq, itemToks, renderToks, codeTok, textTok, Tok.text,
      Policy.sep, Policy.eol]

/-! ## `Lookup` inside an offset range -/

theorem bumpLast_eq (us : List Nat) (hne : us ≠ []) (k : Nat) :
    bumpLast us k = us.dropLast ++ [(us.getLast?.getD 0 + k) % 65536] := by
  induction us with
  | nil => exact absurd rfl hne
  | cons u t ih =>
    cases t with
    | nil => simp [bumpLast]
    | cons v t' =>
      have := ih (by simp)
      simp only [bumpLast, this]
      simp [List.getLast?_cons_cons]

/-- what `Lookup` computes inside an offset range is the run's text -/
theorem rangeText_run (w : Nat) (r : Run) (hr : RunOK w r) (ho : RunOffsetOK r) (i : Nat) (t : List Nat)
    (hi : r.texts[i]? = some t) : rangeText r.range (r.lo + i) = t := by
  have htmem : t ∈ r.texts := List.mem_of_getElem? hi
  have ht : TextOK t := hr.2.2 t htmem
  have ht0 : TextOK (r.texts.headD []) := hr.2.2 _ (runOK_head hr)
  have henc := ho i t hi
  have hdec := stdDecodeUnits_encodeUnits t ht.1
  have hlt := encodeUnits_lt t ht.1
  rcases range_cases r with ⟨u, hu, hrg⟩ | ⟨hnu, hrg⟩
  · rw [hrg]
    unfold rangeText
    simp only [ne_eq, not_true_eq_false, if_false, Nat.add_sub_cancel_left]
    rw [hu] at henc
    have h1 : encodeUnits t = [u + i] := by rw [henc]; simp [bumpUnits]
    have h2 : u + i < 65536 := hlt (u + i) (by rw [h1]; simp)
    rw [h1] at hdec
    simp only [stdDecodeUnits] at hdec
    rw [Nat.mod_eq_of_lt (by omega)]
    exact hdec
  · rw [hrg]
    unfold rangeText
    have hne := encodeUnits_ne_nil _ ht0.2.1
    simp only [ne_eq, hne, not_false_eq_true, if_true, Nat.add_sub_cancel_left]
    rw [bumpLast_eq _ hne]
    have hmem : (encodeUnits (r.texts.headD [])).getLast?.getD 0 + i ∈ encodeUnits t := by
      rw [henc]; simp [bumpUnits]
    rw [Nat.mod_eq_of_lt (hlt _ hmem)]
    unfold bumpUnits at henc
    rw [← henc]
    exact hdec

end Tabula.CMap
