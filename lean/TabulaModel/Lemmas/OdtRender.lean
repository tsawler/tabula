import TabulaModel.Model.OdtRender
import TabulaModel.Lemmas.DocRender
import TabulaModel.Lemmas.Odt
/-!
Lemmas about the ODT reader's views (`Model/OdtRender.lean`): the walk with style names
against the walk of `Model/Odt.lean`, and what each element contributes to the plain text,
to the Markdown buffer and to the page of `Document()`.
-/
namespace Tabula.Odt
open Tabula.Xml Tabula.Render

def eraseW (w : WalkX) : Walk := { inBody := w.inBody, failed := w.failed, acc := w.acc.map (·.elem) }

/-- a child list is walked alike when its members are -/
theorem walkListX_erase_members (defs : List StyleDef) (l : List Node)
    (h : ∀ n ∈ l, ∀ w : WalkX, eraseW (walkNodeX defs n w) = walkNode defs n (eraseW w)) :
    ∀ w : WalkX, eraseW (walkListX defs l w) = walkList defs l (eraseW w) := by
  induction l with
  | nil => intro w; rfl
  | cons n rest ih =>
    intro w
    rw [List.forall_mem_cons] at h
    rw [walkListX, walkList, ih h.2, h.1]

/-- a body element handed to a decoder: the walk with style names records what `walkNode` records
(`walkNode_body`), whatever style name and column count it attaches and whatever list style it
goes on with -/
theorem walkNodeX_body_erase (defs : List StyleDef) (tag : Str) (attrs : List (Str × Str)) (kids : List Node) (w : WalkX)
    (hb : w.inBody = true) (hd : w.failed = false) (ht : tag ≠ sOfficeText) :
    eraseW (walkNodeX defs (.elem tag attrs kids) w) =
      match bodyCtx (localName tag) with
      | some c =>
        if decodes c kids then { eraseW w with acc := (eraseW w).acc ++ elemsOfNode defs (.elem tag attrs kids) }
        else { eraseW w with failed := true }
      | none => eraseW (walkListX defs kids w) := by
  simp only [walkNodeX, elemsOfNode, bodyCtx, hd, beq_false_of_ne ht, hb, Bool.false_eq_true, if_false, Bool.not_true]
  cases localName tag == sP
  · cases localName tag == sH
    · cases localName tag == sList
      · cases localName tag == sTable
        · rfl
        · cases h : decodes .table kids <;> simp [eraseW, h, hb, hd]
      · cases h : decodes .list kids <;> simp [eraseW, h, hb, hd, List.map_map, Function.comp_def]
    · cases h : decodes (.inline 0) kids <;> simp [eraseW, h, hb, hd]
  · cases h : decodes (.inline 0) kids <;> simp [eraseW, h, hb, hd]

/-- the walk with style names is that of `Model/Odt.lean` once the style names and column
counts are forgotten - the elements it records and whether it ends with the depth error -/
theorem walkNodeX_erase (defs : List StyleDef) (n : Node) :
    ∀ w : WalkX, eraseW (walkNodeX defs n w) = walkNode defs n (eraseW w) := by
  induction n using Node.induct with
  | text s => intro w; rfl
  | elem tag attrs kids ih =>
    have ih := walkListX_erase_members defs kids ih
    intro w
    obtain ⟨inBody, failed, st, acc⟩ := w
    cases failed with
    | true => rw [walk_failed_node defs _ _ rfl]; simp only [walkNodeX, if_true]
    | false =>
      by_cases ht : tag = sOfficeText
      · simp only [walkNodeX, walkNode, eraseW, ht, BEq.rfl, Bool.false_eq_true, if_false, if_true]
        exact congrArg (fun x : Walk => { x with inBody := false }) (ih ⟨true, false, st, acc⟩)
      · cases inBody with
        | false =>
          simp only [walkNodeX, walkNode, eraseW, beq_false_of_ne ht, Bool.false_eq_true, if_false, Bool.not_false, if_true]
          exact ih ⟨false, false, st, acc⟩
        | true =>
          rw [walkNodeX_body_erase defs tag attrs kids _ rfl rfl ht, walkNode_body defs tag attrs kids _ rfl rfl ht]
          cases bodyCtx (localName tag) with
          | some c => rfl
          | none => exact ih _

theorem walkListX_erase (defs : List StyleDef) (l : List Node) :
    ∀ w : WalkX, eraseW (walkListX defs l w) = walkList defs l (eraseW w) :=
  walkListX_erase_members defs l fun n _ => walkNodeX_erase defs n

/-- the two walks over content.xml -/
theorem bodyWalkX_erase (content : Node) (styles : Option Node) :
    eraseW (bodyWalkX content styles) = bodyWalk content styles := by
  unfold bodyWalkX bodyWalk
  rw [walkNodeX_erase]
  rfl

/-- … so the two walks fail on the same documents -/
theorem bodyWalkX_failed (content : Node) (styles : Option Node) :
    (bodyWalkX content styles).failed = (bodyWalk content styles).failed :=
  congrArg Walk.failed (bodyWalkX_erase content styles)

/-- the marker `writeParagraphText` puts between the indentation and the text of a list item -/
def textMarker (ls : List ListStyle) (style : Str) (level : Nat) (cs : Counters) : Str :=
  let r := if style ≠ [] then resolveListLevel ls style level else (true, bulletDot)
  if !r.1 then intToDec (ctrGet cs (style, level) + 1) ++ [46, 32] else r.2 ++ [32]

theorem writeParagraphText_plain (ls : List ListStyle) (p : Para) (style : Str) (cs : Counters) (h : p.list = none) :
    writeParagraphText ls p style cs = (p.text, cs) := by
  unfold writeParagraphText; rw [h]

theorem writeParagraphText_item (ls : List ListStyle) (p : Para) (style : Str) (cs : Counters) (level : Nat)
    (h : p.list = some level) :
    (writeParagraphText ls p style cs).1 = indent level ++ textMarker ls style level cs ++ p.text := by
  unfold writeParagraphText textMarker
  rw [h]
  simp only
  generalize (if style ≠ [] then resolveListLevel ls style level else (true, bulletDot)) = r
  split <;> simp [List.append_assoc]

theorem writeParagraphText_suffix (ls : List ListStyle) (p : Para) (style : Str) (cs : Counters) :
    ∃ pre, (writeParagraphText ls p style cs).1 = pre ++ p.text := by
  cases h : p.list with
  | none => exact ⟨[], by rw [writeParagraphText_plain ls p style cs h]; rfl⟩
  | some level => exact ⟨indent level ++ textMarker ls style level cs, by rw [writeParagraphText_item ls p style cs level h]⟩

/-- the texts an element shows in the plain text -/
def textTexts (rd : Reader) (opts : ExtractOptions) (e : Elem) : List Str :=
  match e with
  | .para p => if excluded opts rd.headerTexts rd.footerTexts p.text then [] else [p.text]
  | .table rows => tableTextCells (rrows rows)

theorem textPiece_inOrder (rd : Reader) (opts : ExtractOptions) (e : ElemX) (cs : Counters) :
    InOrder (textTexts rd opts e.elem) (textPiece rd opts e cs).1 := by
  obtain ⟨el, st, n⟩ := e
  cases el with
  | para p =>
    simp only [textTexts, textPiece]
    split
    · exact .nil _
    · obtain ⟨pre, hpre⟩ := writeParagraphText_suffix rd.listStyles p st cs
      rw [hpre]
      have := InOrder.single p.text pre []
      simpa using this
  | table rows =>
    simp only [textTexts, textPiece]
    exact tableToText_inOrder _

theorem textPieces_pieces (rd : Reader) (opts : ExtractOptions) : ∀ (els : List ElemX) (cs : Counters),
    Pieces (els.map fun e => textTexts rd opts e.elem) (textPieces rd opts els cs) := by
  intro els
  induction els with
  | nil => intro cs; exact .nil
  | cons e rest ih =>
    intro cs
    simp only [List.map_cons, textPieces]
    exact .cons (textPiece_inOrder rd opts e cs) (ih _)

theorem textPieces_length (rd : Reader) (opts : ExtractOptions) : ∀ (els : List ElemX) (cs : Counters),
    (textPieces rd opts els cs).length = els.length := by
  intro els
  induction els with
  | nil => intro cs; rfl
  | cons e rest ih => intro cs; simp [textPieces, ih]

theorem mdHeadingLevel_range (o : MdOptions) (l : Nat) : 1 ≤ mdHeadingLevel o l ∧ mdHeadingLevel o l ≤ 6 :=
  headingHashes_range o.offset o.maxLevel l

theorem mdHeadingLevel_default (l : Nat) : mdHeadingLevel {} l = min (max l 1) 6 :=
  headingHashes_uncapped 0 (Or.inl (Int.le_refl 0)) l

/-- `Extractor.ToMarkdown()` passes a cap of 6: the same number of `#` as without options -/
theorem mdHeadingLevel_cap6 (l : Nat) : mdHeadingLevel { offset := 0, maxLevel := 6 } l = mdHeadingLevel {} l :=
  (headingHashes_uncapped 6 (Or.inr (Int.le_refl 6)) l).trans (mdHeadingLevel_default l).symm

/-- the marker `writeMarkdownListItem` writes: "- " or the item's number and ". " -/
def mdMarker (ls : List ListStyle) (style : Str) (level : Nat) (cs : Counters) : Str :=
  let isBullet := if style ≠ [] then (resolveListLevel ls style level).1 else true
  if !isBullet then intToDec (ctrGet cs (style, level) + 1) ++ [46, 32] else [45, 32]

theorem mdListItem_line (ls : List ListStyle) (text style : Str) (level : Nat) (cs : Counters) :
    (mdListItem ls text style level cs).1 = indent level ++ mdMarker ls style level cs ++ text ++ [10] := by
  unfold mdListItem mdMarker
  simp only
  generalize (if style ≠ [] then (resolveListLevel ls style level).1 else true) = b
  split <;> simp [List.append_assoc]

/-- the texts an element shows in Markdown -/
def mdTexts (rd : Reader) (opts : ExtractOptions) (e : Elem) : List Str :=
  match e with
  | .para p => if excluded opts rd.headerTexts rd.footerTexts p.text then [] else [p.text]
  | .table rows => if mdColCount (rrows rows) = 0 then [] else (rrows rows).flatMap fun row => (ownCells row).map mdCellText

theorem mdStep_chunk (rd : Reader) (opts : ExtractOptions) (o : MdOptions) (i : Nat) (e : ElemX) (s : MdState) :
    ∃ chunk, (mdStep rd opts o i e s).out = s.out ++ chunk ∧ InOrder (mdTexts rd opts e.elem) chunk := by
  -- whatever an element writes (`body`), it writes behind `s.out` and the optional blank line
  have key := inOrder_behind MdState.out s { s with out := s.out ++ [10], inList := false } rfl
  obtain ⟨el, st, n⟩ := e
  cases el with
  | para p =>
    simp only [mdStep, mdTexts]
    cases hex : excluded opts rd.headerTexts rd.footerTexts p.text with
    | true => exact ⟨[], (List.append_nil _).symm, .nil _⟩
    | false =>
      simp only [Bool.false_eq_true, if_false]
      generalize (decide (i > 0) && s.out != [] && s.inList && !p.list.isSome) = c
      cases hh : p.heading with
      | some l =>
        simp only [List.append_assoc]
        exact key _ _ _ (((InOrder.single p.text [] [10, 10]).prepend [32]).prepend _)
      | none =>
        cases hl : p.list with
        | some level =>
          simp only [mdListItem_line, List.append_assoc]
          exact key _ _ _ (((InOrder.single p.text [] [10]).prepend _).prepend _)
        | none =>
          simp only
          cases ht : p.text != []
          · have ht' : p.text = [] := by simpa using ht
            obtain ⟨chunk, hc, ho⟩ := key c [p.text] [] (by rw [ht']; exact InOrder.single [] [] [])
            exact ⟨chunk, (List.append_nil _).symm.trans hc, ho⟩
          · simp only [if_true, List.append_assoc]
            exact key _ _ _ (InOrder.single p.text [] [10, 10])
  | table rows =>
    simp only [mdStep, mdTexts, List.append_assoc]
    refine key _ _ _ ?_
    by_cases hcc : mdColCount (rrows rows) = 0
    · simp only [hcc, if_true]; exact .nil _
    · simp only [hcc, if_false]
      exact (tableToMarkdown_inOrder _ hcc).append_right [10]
theorem mdLoop_chunk (rd : Reader) (opts : ExtractOptions) (o : MdOptions) : ∀ (els : List ElemX) (i : Nat) (s : MdState),
    ∃ chunk, (mdLoop rd opts o els i s).out = s.out ++ chunk ∧ InOrder (els.map fun e => mdTexts rd opts e.elem).flatten chunk := by
  intro els
  induction els with
  | nil => intro i s; exact ⟨[], by simp [mdLoop], .nil _⟩
  | cons e rest ih =>
    intro i s
    obtain ⟨c1, h1, o1⟩ := mdStep_chunk rd opts o i e s
    obtain ⟨c2, h2, o2⟩ := ih (i + 1) (mdStep rd opts o i e s)
    refine ⟨c1 ++ c2, ?_, ?_⟩
    · simp only [mdLoop]; rw [h2, h1, List.append_assoc]
    · simp only [List.map_cons, List.flatten_cons]
      exact o1.append o2

/-- two Markdown loops that take the same steps give the same buffer -/
theorem mdLoop_congr_step (rd rd' : Reader) (opts opts' : ExtractOptions) (o o' : MdOptions)
    (h : ∀ i e s, mdStep rd opts o i e s = mdStep rd' opts' o' i e s) :
    ∀ (els : List ElemX) (i : Nat) (s : MdState), mdLoop rd opts o els i s = mdLoop rd' opts' o' els i s := by
  intro els
  induction els with
  | nil => intro i s; rfl
  | cons e rest ih => intro i s; rw [mdLoop, mdLoop, h, ih]

inductive Entry where
  | para (text : Str)
  | heading (level : Nat) (text : Str)
  | item (level : Nat) (text : Str)
  | table (grid : List (List MCell))
deriving Repr, DecidableEq

def flattenElem : DocElem → List Entry
  | .para t => [.para t]
  | .heading l t => [.heading l t]
  | .list _ items => items.map fun it => .item it.level it.text
  | .table g => [.table g]

def flattenDoc (page : List DocElem) : List Entry := page.flatMap flattenElem

/-- what one element of the reader becomes in the document model -/
def entryOf (e : ElemX) : Option Entry :=
  match e.elem with
  | .para p =>
    if p.text = [] then none
    else match p.list with
      | some level => some (.item level p.text)
      | none => match p.heading with
        | some l => some (.heading l p.text)
        | none => some (.para p.text)
  | .table rows => if (toModelTable rows e.cols).length > 0 then some (.table (toModelTable rows e.cols)) else none

def flatState (s : DocState) : List Entry :=
  flattenDoc s.page ++ (match s.cur with
    | some l => l.2.map fun it => .item it.level it.text
    | none => [])

theorem flattenDoc_append (a b : List DocElem) : flattenDoc (a ++ b) = flattenDoc a ++ flattenDoc b := by
  simp [flattenDoc]

theorem flatState_finalize (s : DocState) : flatState (finalizeList s) = flatState s := by
  unfold finalizeList flatState
  cases hc : s.cur with
  | none => simp [hc]
  | some l =>
    obtain ⟨o, items⟩ := l
    by_cases hi : items = []
    · simp [hi, flattenDoc]
    · simp [hi, flattenDoc, flattenElem]

theorem finalize_cur (s : DocState) : (finalizeList s).cur = none := by
  unfold finalizeList
  cases hc : s.cur with
  | none => simp [hc]
  | some l => obtain ⟨o, items⟩ := l; by_cases hi : items = [] <;> simp [hi]

/-- once the open list is closed, its items are on the page -/
theorem flattenDoc_finalize (s : DocState) : flattenDoc (finalizeList s).page = flatState s := by
  have h := flatState_finalize s
  rw [flatState, finalize_cur, List.append_nil] at h
  exact h

/-- closing the open list and putting `x` on the page adds the entries of `x` -/
theorem flatState_push (s : DocState) (x : DocElem) :
    flatState { finalizeList s with page := (finalizeList s).page ++ [x] } = flatState s ++ flattenElem x := by
  rw [flatState]
  simp only [finalize_cur, List.append_nil, flattenDoc_append, flattenDoc_finalize]
  simp [flattenDoc]

theorem docStep_flat (ls : List ListStyle) (e : ElemX) (s : DocState) :
    flatState (docStep ls e s) = flatState s ++ (entryOf e).toList := by
  obtain ⟨el, st, n⟩ := e
  cases el with
  | para p =>
    simp only [docStep, entryOf]
    by_cases ht : p.text = []
    · simp [ht]
    · simp only [ht, if_false]
      cases hl : p.list with
      | some level =>
        simp only [Option.toList]
        rw [flatState, flatState]
        cases hc : s.cur with
        | none => simp
        | some l => simp [List.append_assoc]
      | none =>
        cases hh : p.heading with
        | some lv => exact flatState_push s _
        | none => exact flatState_push s _
  | table rows =>
    simp only [docStep, entryOf]
    by_cases hg : (toModelTable rows n).length > 0
    · simp only [hg, if_true]
      exact flatState_push s _
    · simp only [hg, if_false, Option.toList, List.append_nil]
      exact flatState_finalize s

theorem docLoop_flat (ls : List ListStyle) : ∀ (els : List ElemX) (s : DocState),
    flatState (docLoop ls els s) = flatState s ++ els.filterMap entryOf := by
  intro els
  induction els with
  | nil => intro s; simp [docLoop]
  | cons e rest ih =>
    intro s
    simp only [docLoop]
    rw [ih, docStep_flat, List.filterMap_cons]
    cases entryOf e <;> simp

/-- `declaredCols` with the test of the code (an integer division) as a product -/
theorem declaredCols_eq (n cols : Nat) :
    declaredCols n cols = if n * cols ≤ maxTableGridCells then cols else 0 := by
  simp only [declaredCols, div_guard_iff, Nat.mul_comm n, ← Nat.not_lt, ite_not]

/-- the declared columns size the grid exactly when there are any and rows x declared columns stay
within `maxTableGridCells`; otherwise the cells are counted -/
theorem gridCols_eq (rows : List (List Cell)) (cols : Nat) :
    gridCols rows cols =
      if cols ≠ 0 ∧ rows.length * cols ≤ maxTableGridCells then cols else modelColCount rows := by
  rw [gridCols, declaredCols_eq]
  by_cases h : rows.length * cols ≤ maxTableGridCells
  · by_cases hc : cols = 0 <;> simp [h, hc]
  · simp [h]

/-- the grid columns the cells of one parsed row take in `ToModelTable` -/
def rowGridWidth (cs : List Cell) : Nat := (cs.map gridWidth).sum

theorem rowGridWidth_append (a b : List Cell) : rowGridWidth (a ++ b) = rowGridWidth a + rowGridWidth b := by
  simp [rowGridWidth]

/-- the widest row is no wider than a bound every row keeps (`modelColCount` is `Grid.width gridWidth`) -/
theorem modelColCount_le (rows : List (List Cell)) (b : Nat) (h : ∀ row ∈ rows, rowGridWidth row ≤ b) :
    modelColCount rows ≤ b :=
  Grid.width_le gridWidth rows b h

/-- a table in which every cell takes one grid column is as wide as its longest row -/
theorem modelColCount_unit (rows : List (List Cell)) (h : ∀ row ∈ rows, ∀ c ∈ row, gridWidth c = 1) :
    modelColCount rows = widest rows :=
  Grid.width_unit gridWidth rows h

/-- authored cells (none covered) that span one column each: the grid is as wide as the longest row -/
theorem modelColCount_nospans (rows : List (List Cell)) (hlive : ∀ row ∈ rows, ∀ c ∈ row, c.covered = false)
    (hone : ∀ row ∈ rows, ∀ c ∈ row, c.colSpan = 1) : modelColCount rows = widest rows :=
  modelColCount_unit rows fun row hrow c hc => by
    rw [gridWidth, hlive row hrow c hc, hone row hrow c hc]; rfl

theorem modelColCount_resetSpans (rows : List (List Cell)) (hlive : ∀ row ∈ rows, ∀ c ∈ row, c.covered = false) :
    modelColCount (resetSpans rows) = widest rows := by
  rw [← widest_resetSpans]
  apply modelColCount_nospans
  · intro row hrow c hc
    obtain ⟨r0, hr0, c0, hc0, rfl⟩ := mem_resetSpans hrow hc
    exact hlive r0 hr0 c0 hc0
  · intro row hrow c hc
    obtain ⟨_, _, _, _, rfl⟩ := mem_resetSpans hrow hc
    rfl

/-- a table of equal rows is as wide as one of them -/
theorem modelColCount_replicate (row : List Cell) (n : Nat) :
    modelColCount (List.replicate (n + 1) row) = rowGridWidth row :=
  Grid.width_cons_replicate gridWidth row row n (Nat.le_refl _)

/-- every row fits the widest row -/
theorem rowGridWidth_le_modelColCount (rows : List (List Cell)) (row : List Cell) (h : row ∈ rows) :
    rowGridWidth row ≤ modelColCount rows :=
  Grid.row_le_width gridWidth rows row h

/-- every row `processRowSpans` puts out takes at most `cc + S` grid columns when no cell spans
more than `S` columns: the grid columns of the cells put out are the column reached (a
placeholder takes one, a cell its span), and a placeholder or a cell is only placed when it
STARTS inside the width `cc` -/
theorem spanRows_width (cc S : Nat) (rows : List (List Cell)) (rem : List Nat)
    (h : ∀ row ∈ rows, ∀ c ∈ row, c.covered = false ∧ c.colSpan ≤ S) :
    ∀ row ∈ spanRows cc rows rem, rowGridWidth row ≤ cc + S :=
  spanRows_forall cc (fun _ col out => rowGridWidth out = col ∧ col ≤ cc + S) _
    (fun _ col out hlt hP => by
      have : rowGridWidth [coveredCell] = 1 := rfl
      rw [rowGridWidth_append]; omega)
    ⟨rfl, Nat.zero_le _⟩ (fun _ _ _ hP => hP.1 ▸ hP.2) rows rem
    (fun row hrow c hc _ col out hlt hP => by
      have hcc := h row hrow c hc
      have : rowGridWidth [c] = c.colSpan := by simp [rowGridWidth, gridWidth, hcc.1]
      rw [rowGridWidth_append]; omega)

theorem colSpan_le_rowSum : ∀ (r : List Cell) (c : Cell), c ∈ r → c.colSpan ≤ (r.map (·.colSpan)).sum := by
  intro r c hc
  obtain ⟨s, t, rfl⟩ := List.append_of_mem hc
  simp only [List.map_append, List.sum_append, List.map_cons, List.sum_cons]
  omega

/-- **processRowSpans_width**. After `processRowSpans` no row takes more than twice the width
`colCount` of the table in grid columns (placeholders pushed in front of a row can move its last
cell across the right edge; a cell is never wider than the table). -/
theorem processRowSpans_width (rows : List (List Cell)) (h : ∀ row ∈ rows, ∀ c ∈ row, c.covered = false) :
    modelColCount (processRowSpans rows) ≤ 2 * colCount rows := by
  apply modelColCount_le
  intro row hrow
  unfold processRowSpans at hrow
  have := spanRows_width (colCount rows) (colCount rows) rows _ (fun r hr c hc => ⟨h r hr c hc, by
    have h1 := rowWidth_le_colCount rows r hr
    have h2 := colSpan_le_rowSum r c hc
    omega⟩) row hrow
  omega

end Tabula.Odt
