import TabulaModel.Model.SemBoundary
import TabulaModel.Lemmas.SplitBoundaries
import TabulaModel.Lemmas.OverlapSentences
/-!
C13: every position `DetectBoundaries` returns lies on a character boundary of the
text that joins the blocks with blank lines (behind an ASCII `.`, `!`, `?`, behind the `\n\n`
separator, or at the end of the text), whatever the bytes; the positions are in order.  On ASCII
text the byte-level sentence-end test of boundary.go and the rune-level one of overlap.go agree.
-/
set_option linter.unusedVariables false
namespace Tabula.SemBoundary
open Tabula.Split Tabula.Overlap Tabula.Sentences

theorem isSentenceEndB_punct (text : Array Nat) (i : Nat) (h : isSentenceEndB text i = true) :
    i < text.size ∧ (getB text i = 46 ∨ getB text i = 33 ∨ getB text i = 63) := by
  unfold isSentenceEndB at h
  by_cases h1 : i ≥ text.size
  · rw [if_pos h1] at h; exact Bool.noConfusion h
  · refine ⟨by omega, ?_⟩
    rw [if_neg h1] at h
    simp only at h
    by_cases h2 : (getB text i != 46 && getB text i != 33 && getB text i != 63) = true
    · rw [if_pos h2] at h; exact Bool.noConfusion h
    · simp only [Bool.and_eq_true, bne_iff_ne, ne_eq, not_and, Decidable.not_not] at h2
      by_cases a : getB text i = 46
      · exact Or.inl a
      · by_cases b : getB text i = 33
        · exact Or.inr (Or.inl b)
        · exact Or.inr (Or.inr (h2 ⟨a, b⟩))

theorem detectInternal_mem (b : Block) (pos i : Nat) (d : DBoundary) (hd : d ∈ detectInternal b pos i) :
    ∃ j c, b.text[j]? = some c ∧ c < 0x80 ∧ d.pos = pos + j + 1 ∧ d.ty = .sentence ∧ d.score = 20
      ∧ (c = 46 ∨ c = 33 ∨ c = 63) := by
  unfold detectInternal at hd
  split at hd
  · obtain ⟨j, hj, e⟩ := List.mem_map.mp hd
    obtain ⟨hj1, hj2⟩ := List.mem_filter.mp hj
    obtain ⟨hlt, hp⟩ := isSentenceEndB_punct _ _ hj2
    have hlt' : j < b.text.length := by simpa using hlt
    have hg : getB b.text.toArray j = b.text[j] := by
      unfold getB
      simp [hlt']
    refine ⟨j, b.text[j], List.getElem?_eq_getElem hlt', ?_, ?_, ?_, ?_, ?_⟩
    · rw [← hg]; omega
    · rw [← e]
    · rw [← e]
    · rw [← e]; rfl
    · rw [← hg]; exact hp
  · cases hd

theorem joinBlocks_cons (b : Block) (rest : List Block) :
    joinBlocks (b :: rest) = b.text ++ (if rest = [] then [] else 10 :: 10 :: joinBlocks rest) := by
  unfold joinBlocks
  rw [List.map_cons, joinWith_cons]
  by_cases hr : rest = [] <;> simp [hr]

/-- What one block contributes: a heading boundary at the block's position or nothing (`pre`),
the sentence boundaries inside it, a boundary at the position behind it or nothing (`post`);
then come the boundaries of the blocks behind it. -/
theorem detectAux_cons (b : Block) (rest : List Block) (i pos : Nat) :
    ∃ pre post, detectAux (b :: rest) i pos
        = pre ++ detectInternal b pos i ++ post
          ++ detectAux rest (i + 1) (pos + b.text.length + (if rest ≠ [] then 2 else 0))
      ∧ (∀ d ∈ pre, d.pos = pos ∧ d.ty = .heading ∧ d.score = BType.heading.score)
      ∧ pre.Pairwise (fun x y => x.pos ≤ y.pos)
      ∧ (∀ d ∈ post, d.pos = pos + b.text.length + (if rest ≠ [] then 2 else 0)
          ∧ d.ty ≠ .none ∧ d.score = d.ty.score)
      ∧ post.Pairwise (fun x y => x.pos ≤ y.pos) := by
  rw [detectAux]
  refine ⟨_, _, rfl, ?_, ?_, ?_, ?_⟩
  · intro d hd
    split at hd
    · obtain rfl := List.mem_singleton.mp hd; exact ⟨rfl, rfl, rfl⟩
    · cases hd
  · split
    · exact List.pairwise_singleton _ _
    · exact List.Pairwise.nil
  · intro d hd
    split at hd
    · rename_i hne
      obtain rfl := List.mem_singleton.mp hd; exact ⟨rfl, hne, rfl⟩
    · cases hd
  · split
    · exact List.pairwise_singleton _ _
    · exact List.Pairwise.nil

/-- Every boundary of the loop carries the score of its type, and it stands at the start
`pos`, at the end of the joined text, or behind an ASCII byte of it (a sentence end, or the
second byte of a separator). -/
theorem detectAux_mem : ∀ (blocks : List Block) (i pos : Nat), ∀ d ∈ detectAux blocks i pos,
    (d.score = d.ty.score ∧ d.ty ≠ .none)
    ∧ (d.pos = pos ∨ d.pos = pos + (joinBlocks blocks).length
        ∨ ∃ k c, (joinBlocks blocks)[k]? = some c ∧ c < 0x80 ∧ d.pos = pos + k + 1) := by
  intro blocks
  induction blocks with
  | nil => intro i pos d hd; cases hd
  | cons b rest ih =>
    intro i pos d hd
    obtain ⟨l, r, e, hl, _, hr, _⟩ := detectAux_cons b rest i pos
    rw [e] at hd
    simp only [List.mem_append] at hd
    rw [joinBlocks_cons]
    -- behind a separator: the start of the next block
    have hsep : rest ≠ [] →
        ∃ k c, (b.text ++ (if rest = [] then [] else 10 :: 10 :: joinBlocks rest))[k]? = some c
          ∧ c < 0x80 ∧ pos + b.text.length + 2 = pos + k + 1 := fun hrest =>
      ⟨b.text.length + 1, 10, by rw [if_neg hrest, List.getElem?_append_right (Nat.le_add_right _ _),
        Nat.add_sub_cancel_left]; rfl, by decide, by omega⟩
    rcases hd with ((hd | hd) | hd) | hd
    · obtain ⟨h1, h2, h3⟩ := hl d hd
      exact ⟨by rw [h2, h3]; exact ⟨rfl, by simp⟩, .inl h1⟩
    · obtain ⟨j, c, hj, hc, h3, h4, h5, _⟩ := detectInternal_mem b pos i d hd
      have hjl : j < b.text.length := (List.getElem?_eq_some_iff.mp hj).1
      exact ⟨by rw [h4, h5]; exact ⟨rfl, by simp⟩,
        .inr (.inr ⟨j, c, by rw [List.getElem?_append_left hjl]; exact hj, hc, h3⟩)⟩
    · refine ⟨⟨(hr d hd).2.2, (hr d hd).2.1⟩, .inr ?_⟩
      rw [(hr d hd).1]
      by_cases hrest : rest = []
      · left
        rw [if_pos hrest, if_neg (fun h => h hrest), List.append_nil]
        rfl
      · right
        rw [if_pos hrest]
        exact hsep hrest
    · by_cases hrest : rest = []
      · subst hrest
        cases hd
      · rw [if_pos hrest] at hd
        obtain ⟨hs, h | h | ⟨k, c, hk, hc, h⟩⟩ := ih _ _ d hd
        · exact ⟨hs, .inr (.inr (by rw [h]; exact hsep hrest))⟩
        · refine ⟨hs, .inr (.inl ?_)⟩
          rw [h, if_neg hrest, List.length_append, List.length_cons, List.length_cons]
          omega
        · refine ⟨hs, .inr (.inr ⟨b.text.length + (k + 2), c, ?_, hc, by rw [h]; omega⟩)⟩
          rw [if_neg hrest, List.getElem?_append_right (Nat.le_add_right _ _), Nat.add_sub_cancel_left]
          exact hk

/-- **every detected boundary is on a character boundary** of the joined text, for any bytes -/
theorem detectBoundaries_aligned (blocks : List Block) :
    ∀ d ∈ detectBoundaries blocks,
      NotCovered (joinBlocks blocks) d.pos ∧ d.pos ≤ (joinBlocks blocks).length := by
  intro d hd
  rcases (detectAux_mem blocks 0 0 d hd).2 with h | h | ⟨k, c, hk, hc, h⟩
  · rw [h]
    exact ⟨notCovered_zero _, Nat.zero_le _⟩
  · rw [h, Nat.zero_add]
    exact ⟨notCovered_of_ge _ _ (Nat.le_refl _), Nat.le_refl _⟩
  · rw [h, Nat.zero_add]
    exact ⟨notCovered_after_ascii _ k c hk hc, (List.getElem?_eq_some_iff.mp hk).1⟩

theorem boundariesAligned_detect (blocks : List Block) :
    BoundariesAligned (joinBlocks blocks) ((detectBoundaries blocks).map DBoundary.toBoundary) := by
  intro b hb
  obtain ⟨d, hd, e⟩ := List.mem_map.mp hb
  subst e
  exact (detectBoundaries_aligned blocks d hd).1

theorem detectAux_ge (blocks : List Block) (i pos : Nat) : ∀ d ∈ detectAux blocks i pos, pos ≤ d.pos := by
  intro d hd
  rcases (detectAux_mem blocks i pos d hd).2 with h | h | ⟨k, c, -, -, h⟩ <;> omega

theorem detectInternal_sorted (b : Block) (pos i : Nat) :
    (detectInternal b pos i).Pairwise (fun x y => x.pos ≤ y.pos) := by
  unfold detectInternal
  split
  · rw [List.pairwise_map]
    apply List.Pairwise.imp (R := fun x y => x < y)
    · intro x y h; simp only; omega
    · exact List.Pairwise.filter _ List.pairwise_lt_range
  · exact List.Pairwise.nil

/-- **the boundaries come in the order of their positions** -/
theorem detectAux_sorted : ∀ (blocks : List Block) (i pos : Nat),
    (detectAux blocks i pos).Pairwise (fun x y => x.pos ≤ y.pos) := by
  intro blocks
  induction blocks with
  | nil => intro i pos; exact List.Pairwise.nil
  | cons b rest ih =>
    intro i pos
    have hint : ∀ d ∈ detectInternal b pos i, pos ≤ d.pos ∧ d.pos ≤ pos + b.text.length := by
      intro d hd
      obtain ⟨j, c, hj, _, e, _⟩ := detectInternal_mem b pos i d hd
      have := (List.getElem?_eq_some_iff.mp hj).1
      omega
    obtain ⟨l, r, e, hl, hlp, hr, hrp⟩ := detectAux_cons b rest i pos
    -- everything in front of `post` is at most at the end of the block
    have hfront : ∀ x ∈ l ++ detectInternal b pos i, x.pos ≤ pos + b.text.length := by
      intro x hx
      rcases List.mem_append.mp hx with hx | hx
      · rw [(hl x hx).1]; omega
      · exact (hint x hx).2
    rw [e, List.pairwise_append, List.pairwise_append, List.pairwise_append]
    refine ⟨⟨⟨hlp, detectInternal_sorted b pos i, fun x hx y hy => ?_⟩, hrp, fun x hx y hy => ?_⟩,
      ih _ _, fun x hx y hy => ?_⟩
    · rw [(hl x hx).1]; exact (hint y hy).1
    · rw [(hr y hy).1]; have := hfront x hx; omega
    · have hy' := detectAux_ge rest _ _ y hy
      rcases List.mem_append.mp hx with hx | hx
      · have := hfront x hx; omega
      · rw [(hr x hx).1]; exact hy'

/-- every byte is ASCII -/
def Ascii (text : Array Nat) : Prop := ∀ i, getB text i < 0x80

theorem getB_eq_getR (text : Array Nat) (i : Nat) : getB text i = getR text i := rfl

theorem isUpper_ascii (cl : Classes) {b : Nat} (h : b < 0x80) : isUpper cl b = isUpperLatin1 b := by
  unfold isUpper isUpperLatin1
  rw [if_pos h]
  have h1 : (192 ≤ b) = False := by simp; omega
  have h2 : (216 ≤ b) = False := by simp; omega
  simp [h1, h2]

theorem isLetter_ascii (cl : Classes) {b : Nat} (h : b < 0x80) : isLetter cl b = isLetterLatin1 b := by
  unfold isLetter isLetterLatin1
  rw [if_pos h]
  have h1 : (b == 170) = false := by simp; omega
  have h2 : (b == 181) = false := by simp; omega
  have h3 : (b == 186) = false := by simp; omega
  have h4 : decide (192 ≤ b) = false := by simp; omega
  have h5 : decide (216 ≤ b) = false := by simp; omega
  have h6 : decide (248 ≤ b) = false := by simp; omega
  simp [h1, h2, h3, h4, h5, h6]

theorem isDigit_ascii (cl : Classes) {b : Nat} (h : b < 0x80) : isDigit cl b = isDigitLatin1 b := by
  unfold isDigit isDigitLatin1
  rw [if_pos h]

theorem isSpaceRune_ascii {b : Nat} (h : b < 0x80) : isSpaceRune b = isSpaceLatin1 b := by
  unfold isSpaceRune isSpaceLatin1
  have e : ∀ k : Nat, 0x80 ≤ k → (b == k) = false := by intro k hk; simp; omega
  have h1 : decide (0x2000 ≤ b) = false := by simp; omega
  simp [e 0x85, e 0xA0, e 0x1680, e 0x2028, e 0x2029, e 0x202F, e 0x205F, e 0x3000, h1]

theorem toLower_ascii (cl : Classes) {b : Nat} (h : b < 0x80) : toLower cl b = asciiLower b := by
  unfold toLower asciiLower
  rw [if_pos h]

theorem letterStart_ascii (cl : Classes) (text : Array Nat) (ha : Ascii text) (i : Nat) :
    letterStart cl text i = letterStartB text i := by
  induction i with
  | zero => rfl
  | succ n ih =>
    unfold letterStart letterStartB
    have e : getR text n = getB text n := rfl
    rw [e, isLetter_ascii cl (ha n), ih]

theorem extract_ascii (text : Array Nat) (ha : Ascii text) (a b : Nat) :
    ∀ x ∈ (text.extract a b).toList, x < 0x80 := by
  intro x hx
  have hx' : x ∈ text.toList := by
    have : x ∈ List.take (b - a) (List.drop a text.toList) := by simpa using hx
    exact List.mem_of_mem_drop (List.mem_of_mem_take this)
  obtain ⟨i, hi, e⟩ := List.getElem_of_mem hx'
  have := ha i
  unfold getB at this
  have hi' : i < text.size := by simpa using hi
  simp [hi'] at this
  have e' : text[i] = x := by simpa using e
  omega

theorem isAbbreviation_ascii (cl : Classes) (text : Array Nat) (ha : Ascii text) (i : Nat) :
    isAbbreviationRune cl text i = isAbbreviationB text i := by
  unfold isAbbreviationRune isAbbreviationB
  simp only
  rw [letterStart_ascii cl text ha]
  split
  · rfl
  · congr 1
    apply List.map_congr_left
    intro x hx
    exact toLower_ascii cl (extract_ascii text ha _ _ x hx)

/-- on ASCII text `isSentenceEnd` (boundary.go, bytes read as Latin-1) and `isSentenceEndRune`
(overlap.go, runes with the Unicode tables) give the same answer at every position -/
theorem isSentenceEnd_agree_ascii (cl : Classes) (text : Array Nat) (ha : Ascii text) (i : Nat) :
    isSentenceEndRune cl text i = isSentenceEndB text i := by
  unfold isSentenceEndRune isSentenceEndB
  have e : ∀ j, getR text j = getB text j := fun _ => rfl
  have : (i > 0) = (i ≥ 1) := by apply propext; omega
  simp only [e, isUpper_ascii cl (ha (i - 1)), isLetter_ascii cl (ha (i - 2)), isAbbreviation_ascii cl text ha,
    isDigit_ascii cl (ha (i - 1)), isDigit_ascii cl (ha (i + 1)), isSpaceRune_ascii (ha (i + 1)),
    isUpper_ascii cl (ha (i + 2)), this]

end Tabula.SemBoundary
