import TabulaModel.Lemmas.ReaderBounds
/-!
# The fuel of the page-tree walk does not matter

`Reader.buildNode` / `buildKids` carry a fuel argument only to make the recursion structural.
Here: an answer other than `fuel` stays the same under any larger fuel (`buildNode_mono`), hence two
fuels that are both enough give the same answer (`readWith_fuel_irrelevant`). With
`ReaderBounds.readWith_enough` (enough fuel: `2 * (K + 1) + 2` when the resolver answers for no number
above `K`) no statement about two files that store the same objects under different layouts needs a
"same fuel" side condition (their cross-reference tables have different largest keys).
-/
namespace Tabula.Reader
open Tabula.Pdf (Obj)

theorem build_mono_step (res : Res) : ∀ fuel,
    (∀ dep vis d, buildNode res fuel dep vis d ≠ .error .fuel →
      buildNode res (fuel + 1) dep vis d = buildNode res fuel dep vis d) ∧
    (∀ dep vis ks, buildKids res fuel dep vis ks ≠ .error .fuel →
      buildKids res (fuel + 1) dep vis ks = buildKids res fuel dep vis ks) := by
  intro fuel
  induction fuel with
  | zero => exact ⟨fun _ _ _ h => absurd (by rw [buildNode]) h, fun _ _ _ h => absurd (by rw [buildKids]) h⟩
  | succ fuel ih =>
    -- both fuels classify the node alike; what differs is the fuel of the calls below: induction hypothesis
    constructor
    · intro dep vis d
      rw [buildNode_succ res (fuel + 1), buildNode_succ res fuel]
      cases nodeKind res dep vis d with
      | fail e => intro _; rfl
      | leaf => intro _; rfl
      | kids vis0 kids =>
        dsimp only
        intro h
        rw [ih.2 _ _ _ fun hc => h (by rw [hc]; rfl)]
    · intro dep vis ks
      cases ks with
      | nil => intro _; rw [buildKids, buildKids]
      | cons k ks =>
        rw [buildKids_cons res (fuel + 1), buildKids_cons res fuel]
        cases kidKind res vis k with
        | fail e => intro _; rfl
        | node n kd =>
          dsimp only
          intro h
          rw [ih.1 _ _ _ fun hc => h (by rw [hc])]
          cases hb : buildNode res fuel dep (n :: vis) kd with
          | error e => rfl
          | ok p =>
            rw [hb] at h
            dsimp only at h ⊢
            rw [ih.2 _ _ _ fun hc => h (by rw [hc]; rfl)]

/-- an answer of `buildNode` other than `fuel` is the answer under every larger fuel -/
theorem buildNode_mono (res : Res) (fuel k dep : Nat) (vis : List Nat) (d : Dict)
    (h : buildNode res fuel dep vis d ≠ .error .fuel) :
    buildNode res (fuel + k) dep vis d = buildNode res fuel dep vis d := by
  induction k with
  | zero => rfl
  | succ k ih =>
    have h2 : buildNode res (fuel + k) dep vis d ≠ .error .fuel := by rw [ih]; exact h
    rw [← Nat.add_assoc, (build_mono_step res (fuel + k)).1 _ _ _ h2, ih]

/-- an answer of the page-tree walk other than `fuel` is the answer under every larger fuel -/
theorem pageTree_mono (res : Res) (fuel k : Nat) (root : Option Nat)
    (h : pageTree res fuel root ≠ .error .fuel) :
    pageTree res (fuel + k) root = pageTree res fuel root := by
  revert h
  rw [pageTree_eq, pageTree_eq]
  cases pagesRoot res root with
  | error e => intro _; rfl
  | ok pd =>
    dsimp only
    intro h
    rw [buildNode_mono res fuel k _ _ _ fun hc => h (by rw [hc]; rfl)]

theorem readWith_mono (res : Res) (ext : Ext) (fuel k : Nat) (root : Option Nat)
    (h : readWith res ext fuel root ≠ .error .fuel) :
    readWith res ext (fuel + k) root = readWith res ext fuel root := by
  unfold readWith at h ⊢
  rw [pageTree_mono res fuel k root (fun hc => by rw [hc] at h; exact h rfl)]

/-- **the fuel is irrelevant**: two fuels under which the reader does not answer `fuel` give the
same answer -/
theorem readWith_fuel_irrelevant (res : Res) (ext : Ext) (fuel fuel' : Nat) (root : Option Nat)
    (h : readWith res ext fuel root ≠ .error .fuel) (h' : readWith res ext fuel' root ≠ .error .fuel) :
    readWith res ext fuel root = readWith res ext fuel' root := by
  by_cases hle : fuel ≤ fuel'
  · obtain ⟨k, rfl⟩ := Nat.exists_eq_add_of_le hle
    exact (readWith_mono res ext fuel k root h).symm
  · obtain ⟨k, rfl⟩ := Nat.exists_eq_add_of_le (Nat.le_of_not_le hle)
    exact readWith_mono res ext fuel' k root h'

/-- **two sufficient fuels, one answer**: for a resolver that knows no number above `K` and no
number above `K'` (two bounds, e.g. the largest keys of two cross-reference tables that store
the same objects), the reader's answer under `fuel ≥ 2 (K + 1) + 2` and under
`fuel' ≥ 2 (K' + 1) + 2` is the same -/
theorem readWith_two_bounds (res : Res) (ext : Ext) (K K' : Nat)
    (hK : ∀ n v, res n = .ok v → n ≤ K) (hK' : ∀ n v, res n = .ok v → n ≤ K') (hE : NoFuel res)
    (fuel fuel' : Nat) (hf : fuel ≥ 2 * (K + 1) + 2) (hf' : fuel' ≥ 2 * (K' + 1) + 2) (root : Option Nat) :
    readWith res ext fuel root = readWith res ext fuel' root :=
  readWith_fuel_irrelevant res ext fuel fuel' root
    (readWith_enough res ext K hK hE fuel hf root) (readWith_enough res ext K' hK' hE fuel' hf' root)

/-- `readPages` is the reader above the object layer under ANY fuel that is enough for it -/
theorem readPages_eq_readWith {f : AbsFile} {ext : Ext} {fuel : Nat} {r : Except Err (List (List Str))}
    (hd : prevDangling f = false) (h : readWith (getObject f ext) ext fuel (rootOf f) = r) (hr : r ≠ .error .fuel) :
    readPages f ext = r := by
  rw [readPages, hd, if_neg Bool.false_ne_true, ← h]
  exact readWith_fuel_irrelevant _ ext _ _ _ (readWith_fuelOf f ext _) (h ▸ hr)

/-- the reader sees a file through its objects, its root and whether it is inside the modelled
fragment, and through nothing else: how many numbers the cross-reference table has does not matter -/
theorem readPages_objects (f f' : AbsFile) (ext : Ext) (hobj : ∀ n, getObject f ext n = getObject f' ext n)
    (hroot : rootOf f = rootOf f') (hd : prevDangling f = prevDangling f') :
    readPages f ext = readPages f' ext := by
  have he : getObject f ext = getObject f' ext := funext hobj
  rw [readPages, readPages, hd, hroot, he]
  split
  · rfl
  · exact readWith_two_bounds _ ext (maxKey (xref f)) (maxKey (xref f'))
      (by rw [← he]; exact getObject_ok_le f ext) (getObject_ok_le f' ext) (getObject_noFuel f' ext) _ _
      (by unfold fuelOf; omega) (by unfold fuelOf; omega) _

end Tabula.Reader
