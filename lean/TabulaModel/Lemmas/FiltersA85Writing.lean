import TabulaModel.Lemmas.Filters
/-!
ASCII85 writings, lenient and conforming. §7.4.3 says an all-zero group "shall" be written `z`, and `A85Writing`
(`Model/Filters.lean`: the conforming encoder) does so; encoders in the field also write `!!!!!`, which is the
ordinary five-digit form of the value 0. `a85BodyLax zs x` is the body of `x` where the i-th all-zero group is
written `z` or `!!!!!` as the i-th entry of `zs` says (`z` once `zs` is used up). The decoder inverts every such
writing; the conforming body is the one with `z` everywhere (`a85BodyLax_nil`), so what is proved of the lenient
writings holds of the conforming ones as an instance.
-/
namespace Tabula.Filters

/-- the encoder's body with a free choice, per all-zero group, between `z` (`true`) and `!!!!!` -/
def a85BodyLax : List Bool → Str → Str
  | zs, a :: b :: c :: d :: rest =>
    if a = 0 ∧ b = 0 ∧ c = 0 ∧ d = 0 then
      (if zs.headD true then [122] else a85Digits (word 0 0 0 0)) ++ a85BodyLax zs.tail rest
    else a85Digits (word a b c d) ++ a85BodyLax zs rest
  | _, [a, b, c] => (a85Digits (word a b c 0)).take 4
  | _, [a, b] => (a85Digits (word a b 0 0)).take 3
  | _, [a] => (a85Digits (word a 0 0 0)).take 2
  | _, [] => []

/-- with `z` everywhere it is the conforming encoder's body -/
theorem a85BodyLax_nil : ∀ (x : Str), a85BodyLax [] x = a85Body x := by
  intro x
  induction x using a85Body.induct with
  | case1 a b c d rest ih =>
    rw [a85BodyLax, a85Body]
    simp only [List.tail_nil, List.headD_nil, if_true, ih]
    split <;> rfl
  | case2 a b c => rfl
  | case3 a b => rfl
  | case4 a => rfl
  | case5 => rfl

/-- `s` is a white-space interleaving of such a body of `x` -/
def A85WritingLax (s x : Str) : Prop := ∃ zs, s.filter (fun c => !isWs c) = a85BodyLax zs x

/-- five digits of any 32-bit word — also of 0, `!!!!!` — are read back as its four bytes -/
theorem a85Go_group_digits (a b c d : Nat) (ha : a < 256) (hb : b < 256) (hc : c < 256) (hd : d < 256) (t acc : Str) :
    a85Go (a85Digits (word a b c d) ++ t) [] acc = a85Go t [] (d :: c :: b :: a :: acc) := by
  obtain ⟨h0, h1, h2, h3, h4⟩ := digit_lt _ (word_lt a b c d ha hb hc hd)
  exact a85Go_five _ _ _ _ _ h0 h1 h2 h3 h4 t acc _ (flush_full a b c d ha hb hc hd)

/-- the whole body followed by something that makes the decoder stop (the EOD, or the end of the data) -/
theorem a85Go_bodyLax (tail : Str) (htail : ∀ ds acc, a85Go tail ds acc = a85Finish ds acc) :
    ∀ (x : Str) (zs : List Bool) (acc : Str), (∀ r ∈ x, r < 256) →
      a85Go (a85BodyLax zs x ++ tail) [] acc = some (acc.reverse ++ x) := by
  intro x
  induction x using a85Body.induct with
  | case1 a b c d rest ih =>
    intro zs acc hx
    have hrest : ∀ r ∈ rest, r < 256 := fun r hr => hx r (by simp [hr])
    rw [a85BodyLax]
    split
    · rename_i hz
      obtain ⟨rfl, rfl, rfl, rfl⟩ := hz
      split
      · rw [List.append_assoc, List.singleton_append, a85Go_z, ih _ _ hrest]
        simp
      · rw [List.append_assoc, a85Go_group_digits 0 0 0 0 (by omega) (by omega) (by omega) (by omega), ih _ _ hrest]
        simp
    · rw [List.append_assoc,
        a85Go_group_digits a b c d (hx a (by simp)) (hx b (by simp)) (hx c (by simp)) (hx d (by simp)), ih _ _ hrest]
      simp
  | case2 a b c =>
    intro zs acc hx
    have ha := hx a (by simp); have hb := hx b (by simp); have hc := hx c (by simp)
    obtain ⟨h0, h1, h2, h3, _⟩ := digit_lt _ (word_lt a b c 0 ha hb hc (by omega))
    have e : a85Go (a85BodyLax zs [a, b, c] ++ tail) [] acc = a85Go tail [word a b c 0 / 52200625,
        word a b c 0 / 614125 % 85, word a b c 0 / 7225 % 85, word a b c 0 / 85 % 85] acc :=
      a85Go_four _ _ _ _ h0 h1 h2 h3 tail acc
    rw [e, htail, a85Finish, flush_3 a b c ha hb hc]
  | case3 a b =>
    intro zs acc hx
    have ha := hx a (by simp); have hb := hx b (by simp)
    obtain ⟨h0, h1, h2, _, _⟩ := digit_lt _ (word_lt a b 0 0 ha hb (by omega) (by omega))
    have e : a85Go (a85BodyLax zs [a, b] ++ tail) [] acc = a85Go tail [word a b 0 0 / 52200625,
        word a b 0 0 / 614125 % 85, word a b 0 0 / 7225 % 85] acc := a85Go_three _ _ _ h0 h1 h2 tail acc
    rw [e, htail, a85Finish, flush_2 a b ha hb]
  | case4 a =>
    intro zs acc hx
    have ha := hx a (by simp)
    obtain ⟨h0, h1, _, _, _⟩ := digit_lt _ (word_lt a 0 0 0 ha (by omega) (by omega) (by omega))
    have e : a85Go (a85BodyLax zs [a] ++ tail) [] acc =
        a85Go tail [word a 0 0 0 / 52200625, word a 0 0 0 / 614125 % 85] acc := a85Go_two _ _ h0 h1 tail acc
    rw [e, htail, a85Finish, flush_1 a ha]
  | case5 =>
    intro zs acc _
    rw [a85BodyLax, List.nil_append, htail]
    simp [a85Finish, a85Flush]

/-- a body is made of `!`..`u` and `z` -/
theorem a85BodyLax_range : ∀ (x : Str) (zs : List Bool), (∀ r ∈ x, r < 256) →
    ∀ c ∈ a85BodyLax zs x, 33 ≤ c ∧ c ≤ 122 := by
  intro x
  induction x using a85Body.induct with
  | case1 a b c d rest ih =>
    intro zs hx ch hc
    have hrest : ∀ r ∈ rest, r < 256 := fun r hr => hx r (by simp [hr])
    rw [a85BodyLax] at hc
    by_cases hz : a = 0 ∧ b = 0 ∧ c = 0 ∧ d = 0
    · rw [if_pos hz] at hc
      rcases List.mem_append.mp hc with h | h
      · cases hzs : zs.headD true <;> rw [hzs] at h
        · exact a85Digits_word_range 0 0 0 0 (by omega) (by omega) (by omega) (by omega) ch h
        · rw [if_pos rfl, List.mem_singleton] at h
          omega
      · exact ih _ hrest ch h
    · rw [if_neg hz] at hc
      rcases List.mem_append.mp hc with h | h
      · exact a85Digits_word_range a b c d (hx a (by simp)) (hx b (by simp)) (hx c (by simp)) (hx d (by simp)) ch h
      · exact ih _ hrest ch h
  | case2 a b c =>
    intro zs hx ch hc
    exact a85Digits_word_range a b c 0 (hx a (by simp)) (hx b (by simp)) (hx c (by simp)) (by omega) ch (List.mem_of_mem_take hc)
  | case3 a b =>
    intro zs hx ch hc
    exact a85Digits_word_range a b 0 0 (hx a (by simp)) (hx b (by simp)) (by omega) (by omega) ch (List.mem_of_mem_take hc)
  | case4 a =>
    intro zs hx ch hc
    exact a85Digits_word_range a 0 0 0 (hx a (by simp)) (by omega) (by omega) (by omega) ch (List.mem_of_mem_take hc)
  | case5 => intro zs _ c hc; cases hc

/-- the decoder inverts every lenient writing, followed by anything that makes it stop -/
theorem a85Decode_writingLax (s x tail : Str) (hx : ∀ r ∈ x, r < 256) (h : A85WritingLax s x)
    (htail : ∀ ds acc, a85Go tail ds acc = a85Finish ds acc) : a85Decode (s ++ tail) = some x := by
  obtain ⟨zs, hs⟩ := h
  unfold a85Decode
  rw [a85Go_clean s _ tail hs (fun c hc => by have := a85BodyLax_range x zs hx c hc; omega),
    a85Go_bodyLax tail htail x zs [] hx]
  rfl

theorem a85Body_no_tilde (x : Str) (hx : ∀ r ∈ x, r < 256) :
    ∀ c ∈ a85Body x, c ≠ 126 ∧ isWs c = false ∧ c < 256 := by
  intro c hc
  have := a85BodyLax_range x [] hx c (a85BodyLax_nil x ▸ hc)
  exact ⟨by omega, isWs_ge33 c this.1, by omega⟩

/-- the encoder's own output is a writing (one without white space) -/
theorem a85Body_writing (x : Str) (hx : ∀ r ∈ x, r < 256) : A85Writing (a85Body x) x := by
  unfold A85Writing
  rw [List.filter_eq_self]
  intro c hc
  rw [(a85Body_no_tilde x hx c hc).2.1]
  rfl

theorem a85Decode_writing (s x tail : Str) (hx : ∀ r ∈ x, r < 256) (h : A85Writing s x)
    (htail : ∀ ds acc, a85Go tail ds acc = a85Finish ds acc) : a85Decode (s ++ tail) = some x :=
  a85Decode_writingLax s x tail hx ⟨[], (a85BodyLax_nil x).symm ▸ h⟩ htail

end Tabula.Filters
