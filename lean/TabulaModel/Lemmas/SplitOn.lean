import TabulaModel.Model.Sheet
import TabulaModel.Lemmas.ListBasics
/-!
`Sheet.splitOn` (what `strings.Split` does for a one-byte separator) is the library's `List.splitOn`, and
`Sheet.intercalate` its `List.intercalate` (`splitOn_eq`, `intercalate_eq`); so the library's theory of the two
holds of them, and splitting and joining pieces that do not contain the separator are inverse to one another
(`splitOn_eq_iff`).  `A1.splitOnColon` is the instance for the colon (`Lemmas/A1Range.lean`).
-/
namespace Tabula.Sheet
open Tabula.A1

theorem splitAux_eq (sep : Nat) (s cur : Str) : splitAux sep s cur = s.splitOnPPrepend (· == sep) cur := by
  induction s generalizing cur with
  | nil => rfl
  | cons c cs ih =>
    rw [splitAux, List.splitOnPPrepend, ih, ih]
    by_cases h : c = sep <;> simp [h]

theorem splitOn_eq (sep : Nat) (s : Str) : splitOn sep s = s.splitOn sep := splitAux_eq sep s []

theorem intercalate_eq (sep : Str) (l : List Str) : intercalate sep l = sep.intercalate l :=
  List.eq_intercalate rfl (fun _ => rfl) (fun _ _ _ => rfl) l

theorem splitOn_append_sep (sep : Nat) (a b : Str) :
    splitOn sep (a ++ sep :: b) = splitOn sep a ++ splitOn sep b := by
  simp only [splitOn_eq, List.splitOn_append_cons_self]

theorem splitOn_clean (sep : Nat) (x : Str) (hx : sep ∉ x) : splitOn sep x = [x] := by
  rw [splitOn_eq, List.splitOn_eq_singleton hx]

theorem splitOn_intercalate (sep : Nat) (xs : List Str) (hne : xs ≠ [])
    (hclean : ∀ x ∈ xs, sep ∉ x) : splitOn sep (intercalate [sep] xs) = xs := by
  rw [splitOn_eq, intercalate_eq, List.splitOn_intercalate sep hclean hne]

theorem length_splitAux (sep : Nat) (s cur : Str) : (splitAux sep s cur).length = s.count sep + 1 := by
  induction s generalizing cur with
  | nil => rfl
  | cons c s ih =>
    rw [splitAux, List.count_cons]
    by_cases h : c = sep
    · rw [if_pos h, List.length_cons, ih, h]; simp
    · rw [if_neg h, ih]; simp [h]

theorem not_mem_splitAux (sep : Nat) (s cur : Str) (hcur : sep ∉ cur) : ∀ p ∈ splitAux sep s cur, sep ∉ p := by
  induction s generalizing cur with
  | nil => simpa [splitAux] using hcur
  | cons c s ih =>
    rw [splitAux]
    by_cases h : c = sep
    · rw [if_pos h]
      intro p hp
      rcases List.mem_cons.mp hp with rfl | hp
      · simpa using hcur
      · exact ih [] (by simp) p hp
    · rw [if_neg h]
      exact ih (c :: cur) (by simpa [Ne.symm h] using hcur)

theorem splitOn_eq_iff (sep : Nat) (s : Str) (ps : List Str) :
    splitOn sep s = ps ↔ ps ≠ [] ∧ (∀ p ∈ ps, sep ∉ p) ∧ intercalate [sep] ps = s := by
  constructor
  · rintro rfl
    refine ⟨?_, not_mem_splitAux sep s [] (by simp), ?_⟩
    · rw [splitOn_eq]; exact List.splitOn_ne_nil sep s
    · rw [splitOn_eq, intercalate_eq, List.intercalate_splitOn]
  · rintro ⟨hne, hclean, rfl⟩
    exact splitOn_intercalate sep ps hne hclean

theorem not_mem_intercalate (sep a : Nat) (xs : List Str) (hne : a ≠ sep)
    (h : ∀ x ∈ xs, a ∉ x) : a ∉ intercalate [sep] xs := by
  induction xs with
  | nil => simp [intercalate]
  | cons x rest ih =>
    cases rest with
    | nil => simpa [intercalate] using h x (by simp)
    | cons y ys =>
      simp only [intercalate, List.mem_append, not_or]
      refine ⟨⟨h x (by simp), by simpa using hne⟩, ih (fun z hz => h z (by simp [hz]))⟩

end Tabula.Sheet
