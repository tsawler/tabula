import TabulaModel.Model.LayoutText
import TabulaModel.Lemmas.LayoutOrder
/-!
Lemmas about `Model/LayoutText.lean`: every rendering writes the fragment texts and white space; the block
detector from the fragments on (`blockLinesOf`, `detectBlocksFrom`).
-/
namespace Tabula.Layout
open List

theorem nonspace_nl : nonspace [10] = [] := rfl
theorem nonspace_nlnl : nonspace [10, 10] = [] := rfl
theorem nonspace_sp : nonspace [32] = [] := rfl

theorem nonspace_lineLayoutTextAux (avg : Rat) (ls : List (List Frag)) :
    nonspace (lineLayoutTextAux avg ls) = nonspace (textsOf ls.flatten) := by
  rw [nonspace_joined (lineLayoutTextAux avg) lineText rfl (fun _ => rfl)
    (fun _ _ _ => ⟨_, nonspace_ite nonspace_nlnl nonspace_nl, rfl⟩), lineTexts_nonspace']

theorem nonspace_lineLayoutText (ls : List (List Frag)) :
    nonspace (lineLayoutText ls) = nonspace (textsOf ls.flatten) :=
  nonspace_lineLayoutTextAux _ ls

theorem nonspace_joinBySpacing (avg : Rat) (ts : List (Str × Rat)) :
    nonspace (joinBySpacing avg ts) = nonspace (ts.map (·.1)).flatten :=
  nonspace_joined (joinBySpacing avg) (·.1) rfl (fun _ => rfl)
    (fun _ _ _ => ⟨_, nonspace_ite nonspace_nlnl nonspace_nl, rfl⟩) ts

theorem secSpacingsAfter_length (ls : List (List Frag)) : (secSpacingsAfter ls).length = ls.length := by
  induction ls with
  | nil => rfl
  | cons a ls ih =>
    cases ls with
    | nil => rfl
    | cons b ls => simp only [secSpacingsAfter, List.length_cons] at *; omega

theorem flatMap_lineTexts (ss : List Sec) :
    nonspace (ss.flatMap fun s => s.lines.map lineText).flatten = nonspace (textsOf (ss.flatMap (·.lines)).flatten) := by
  rw [lineTexts_nonspace', List.map_flatMap]

theorem nonspace_roText (ro : ReadingOrder) :
    nonspace (roText ro) = nonspace (textsOf (ro.sections.flatMap (·.lines)).flatten) := by
  unfold roText
  simp only
  rw [nonspace_joinBySpacing, List.map_fst_zip (Nat.le_of_eq ?_), flatMap_lineTexts]
  simp only [List.length_flatMap, List.length_map, secSpacingsAfter_length]

theorem nonspace_colLineTextAux (p : Frag) (l : List Frag) :
    nonspace (colLineTextAux p l) = nonspace (textsOf l) := by
  induction l generalizing p with
  | nil => rfl
  | cons f fs ih =>
    simp only [colLineTextAux, textsOf_cons, nonspace_append, ih,
      nonspace_ite nonspace_sp nonspace_nil, List.nil_append]

theorem nonspace_colLineText (l : List Frag) : nonspace (colLineText l) = nonspace (textsOf l) := by
  cases l with
  | nil => rfl
  | cons f fs => simp only [colLineText, textsOf_cons, nonspace_append, nonspace_colLineTextAux]

theorem nonspace_colLineText_order (preserve : List Frag → Bool) (b : List Frag) :
    (nonspace (colLineText (orderLine preserve b))).Perm (nonspace (textsOf b)) := by
  rw [nonspace_colLineText]
  exact textsOf_perm (orderLine_perm preserve b)

theorem nonspace_spanningTextAux (preserve : List Frag → Bool) (bs : List (List Frag)) :
    (nonspace (spanningTextAux preserve bs)).Perm (nonspace (textsOf bs.flatten)) := by
  rw [nonspace_joined (spanningTextAux preserve) (fun b => colLineText (orderLine preserve b)) rfl (fun _ => rfl)
    (fun _ _ _ => ⟨_, nonspace_nl, rfl⟩)]
  simpa only [List.map_id] using nonspace_pieces_perm _ id (nonspace_colLineText_order preserve) bs

theorem nonspace_getSpanningText (preserve : List Frag → Bool) (sp : List Frag) :
    (nonspace (getSpanningText preserve sp)).Perm (nonspace (textsOf sp)) :=
  (nonspace_spanningTextAux preserve (bands sp)).trans (textsOf_perm (bands_perm sp))

theorem nonspace_columnTextAux (preserve : List Frag → Bool) (bs : List (List Frag)) :
    (nonspace (columnTextAux preserve bs)).Perm (nonspace (textsOf bs.flatten)) := by
  rw [nonspace_joined (columnTextAux preserve) (fun b => colLineText (orderLine preserve b)) rfl (fun _ => rfl)
    (fun _ _ _ => ⟨_, nonspace_ite nonspace_nlnl nonspace_nl, rfl⟩)]
  simpa only [List.map_id] using nonspace_pieces_perm _ id (nonspace_colLineText_order preserve) bs

theorem nonspace_getColumnText (preserve : List Frag → Bool) (col : List Frag) :
    (nonspace (getColumnText preserve col)).Perm (nonspace (textsOf col)) :=
  (nonspace_columnTextAux preserve (bands col)).trans (textsOf_perm (bands_perm col))

theorem nonspace_columnsTextAux (preserve : List Frag → Bool) (cs : List (List Frag)) :
    (nonspace (columnsTextAux preserve cs)).Perm (nonspace (textsOf cs.flatten)) := by
  rw [nonspace_joined (columnsTextAux preserve) (getColumnText preserve) rfl (fun _ => rfl)
    (fun _ _ _ => ⟨_, nonspace_ite nonspace_nil nonspace_nlnl, rfl⟩)]
  simpa only [List.map_id] using nonspace_pieces_perm _ id (nonspace_getColumnText preserve) cs

theorem nonspace_isEmpty {s : Str} (h : s.isEmpty = true) : nonspace s = [] := by
  rw [List.isEmpty_iff.mp h]; rfl

theorem nonspace_columnLayoutText (preserve : List Frag → Bool) (cl : ColumnLayout) :
    (nonspace (columnLayoutText preserve cl)).Perm (nonspace (textsOf cl.all)) := by
  unfold columnLayoutText ColumnLayout.all
  rw [nonspace_append, textsOf_append, nonspace_append]
  refine List.Perm.trans ?_ List.perm_append_comm
  refine List.Perm.append ?_ (nonspace_columnsTextAux preserve cl.columns)
  by_cases h : (cl.spanning.isEmpty || (getSpanningText preserve cl.spanning).isEmpty) = true
  · rw [if_pos h]
    rcases Bool.or_eq_true_iff.mp h with h1 | h1
    · rw [List.isEmpty_iff.mp h1]; exact List.Perm.refl _
    · have := nonspace_getSpanningText preserve cl.spanning
      rw [nonspace_isEmpty h1] at this
      rw [this.symm.eq_nil]; exact List.Perm.refl _
  · rw [if_neg h, nonspace_append, nonspace_nlnl, List.append_nil]
    exact nonspace_getSpanningText preserve cl.spanning

theorem nonspace_blockTextAux (ls : List (List Frag)) :
    nonspace (blockTextAux ls) = nonspace (textsOf ls.flatten) := by
  rw [nonspace_joined blockTextAux lineText rfl (fun _ => rfl) (fun _ _ _ => ⟨_, nonspace_nl, rfl⟩),
    lineTexts_nonspace']

theorem nonspace_blockText (b : Block) : nonspace (blockText b) = nonspace (textsOf b.lines.flatten) :=
  nonspace_blockTextAux b.lines

theorem nonspace_blockLayoutText (bs : List Block) :
    nonspace (blockLayoutText bs) = nonspace (textsOf (blocksLines bs).flatten) := by
  rw [nonspace_joined blockLayoutText blockText rfl (fun _ => rfl)
    (fun _ _ _ => ⟨_, nonspace_ite nonspace_nil nonspace_nlnl, rfl⟩), blocksLines, List.flatten_flatten, List.map_map]
  exact nonspace_pieces blockText (fun b => b.lines.flatten) nonspace_blockText bs

theorem blockLinesOf_perm (srt srtX : List Frag → List Frag)
    (hs : ∀ l, (srt l).Perm l) (hx : ∀ l, (srtX l).Perm l) (fs : List Frag) :
    (blockLinesOf srt srtX fs).flatten.Perm fs :=
  segment_map_perm _ _ _ hs hx fs

section
variable (srt srtX : List Frag → List Frag) (srtB : List Block → List Block)
  (hs : ∀ l, (srt l).Perm l) (hx : ∀ l, (srtX l).Perm l) (hb : ∀ l, (srtB l).Perm l)
  (brk : List (List Frag) → List Frag → List (List Frag) → Bool) (ov : Block → Block → Bool)
  (minW minH : Rat) (fs : List Frag)
include hb

theorem detectBlocksFrom_ok : ∀ b ∈ detectBlocksFrom srt srtX srtB brk ov minW minH fs, BlockOk b := by
  intro b hm
  unfold detectBlocksFrom at hm
  split at hm
  · cases hm
  · exact mergeAll_ok ov _ (groupBlocks_ok brk _) b ((hb _).mem_iff.mp (List.mem_filter.mp hm).1)

include hs hx

theorem detectBlocksFrom_keeps :
    Keeps (blocksFrags (detectBlocksFrom srt srtX srtB brk ov minW minH fs)) fs := by
  unfold detectBlocksFrom
  split
  · next h => rw [List.isEmpty_iff.mp h]; exact .refl _
  · exact (validateBlocks_keeps _ _ _).perm
      ((sortedMergeAll_perm (·.frags) mergeBlocks_frags srtB hb ov _).trans
        ((List.Perm.of_eq (groupBlocks_frags brk _)).trans (blockLinesOf_perm srt srtX hs hx fs)))

end

theorem reorderForReading_perm (keepS rtlOf : List Frag → Bool) (l : List Frag) :
    (reorderForReading keepS rtlOf l).Perm l := by
  unfold reorderForReading
  split
  · exact List.Perm.refl _
  · split
    · exact List.Perm.refl _
    · exact stableSort_perm _ _

theorem nonspace_gtLineAux (spaceOf : Frag → Frag → Bool) (p : Frag) (l : List Frag) :
    nonspace (gtLineAux spaceOf p l) = nonspace (textsOf l) := by
  induction l generalizing p with
  | nil => rfl
  | cons f fs ih =>
    simp only [gtLineAux, textsOf_cons, nonspace_append, ih,
      nonspace_ite nonspace_sp nonspace_nil, List.nil_append]

theorem nonspace_gtLine (spaceOf : Frag → Frag → Bool) (l : List Frag) :
    nonspace (gtLine spaceOf l) = nonspace (textsOf l) := by
  cases l with
  | nil => rfl
  | cons f fs => simp only [gtLine, textsOf_cons, nonspace_append, nonspace_gtLineAux]

theorem nonspace_gtLines (keepS rtlOf : List Frag → Bool) (spaceOf : List Frag → Frag → Frag → Bool)
    (ls : List (List Frag)) :
    (nonspace (gtLines keepS rtlOf spaceOf ls)).Perm (nonspace (textsOf ls.flatten)) := by
  rw [nonspace_joined (gtLines keepS rtlOf spaceOf) (fun l => gtLine (spaceOf l) (reorderForReading keepS rtlOf l)) rfl
    (fun _ => rfl) (fun _ _ _ => ⟨_, nonspace_ite nonspace_nlnl nonspace_nl, rfl⟩)]
  simpa only [List.map_id] using nonspace_pieces_perm _ id
    (fun l => by rw [nonspace_gtLine]; exact textsOf_perm (reorderForReading_perm keepS rtlOf l)) ls

theorem groupFragments_flatten (fs : List Frag) : (groupFragments fs).flatten = fs := by
  simpa [groupFragments] using segment_flatten gfBreak fs []

end Tabula.Layout
