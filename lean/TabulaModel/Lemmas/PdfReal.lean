import TabulaModel.Model.PrintReal
import TabulaModel.Model.CSParser
import TabulaModel.Lemmas.PdfTok
namespace Tabula.Pdf
open Tabula.A1 (digitsAcc)

/-! Reals of property C06: `parseReal` and `nextToken` read every legal spelling of a real number
back (`CS.parseNumber` converts the same lexeme: `CSL.parseNumber_of_token` in Lemmas/PdfCS.lean);
`normReal` keeps the value and gives the normal form.  Core Lean only. -/

namespace Rl

theorem digit_bounds {c : Nat} (h : isDigit c = true) : 48 ≤ c ∧ c ≤ 57 := by
  simpa [isDigit] using h

theorem DigitStr.head {c : Nat} {s : Str} (h : DigitStr (c :: s)) : isDigit c = true :=
  h c (by simp)

theorem DigitStr.tail {c : Nat} {s : Str} (h : DigitStr (c :: s)) : DigitStr s :=
  fun x hx => h x (by simp [hx])

theorem DigitStr.append {s t : Str} (hs : DigitStr s) (ht : DigitStr t) : DigitStr (s ++ t) := by
  intro c hc
  rcases List.mem_append.mp hc with h | h
  · exact hs c h
  · exact ht c h

theorem isDigits_of {s : Str} (h : DigitStr s) : Tok.IsDigits s :=
  fun c hc => digit_bounds (h c hc)

/-- on digit strings `digitsAcc` is the decimal fold -/
theorem digitsAcc_digits (s : Str) (hs : DigitStr s) (a : Nat) :
    digitsAcc s a = some (s.foldl (fun a c => a * 10 + (c - 48)) a) := by
  induction s generalizing a with
  | nil => rfl
  | cons c s ih =>
    have hc := digit_bounds (DigitStr.head hs)
    rw [A1.digitsAcc_digit c s a hc.1 hc.2, List.foldl_cons]
    exact ih (DigitStr.tail hs) _

theorem digitsAcc_val (s : Str) (hs : DigitStr s) : digitsAcc s 0 = some (digitsVal s) :=
  digitsAcc_digits s hs 0

/-- `parseReal` after the sign has been looked at -/
def core (neg : Bool) (ds : Str) : Option Obj :=
  let ip := ds.takeWhile isDigit
  let fp := match ds.dropWhile isDigit with | 46 :: f => f | r => r
  if ip.isEmpty && fp.isEmpty then none else
  match digitsAcc (ip ++ fp) 0 with
  | none => none
  | some m =>
    let p := normReal m fp.length
    some (.real (neg && p.1 != 0) p.1 p.2)

theorem parseReal_minus (r : Str) : parseReal (45 :: r) = core true r := rfl
theorem parseReal_plus (r : Str) : parseReal (43 :: r) = core false r := rfl

theorem parseReal_nosign (c : Nat) (r : Str) (h45 : c ≠ 45) (h43 : c ≠ 43) :
    parseReal (c :: r) = core false (c :: r) := by
  unfold parseReal core
  split
  · rename_i heq; cases heq; exact absurd rfl h45
  · split
    · rename_i heq; cases heq; exact absurd rfl h45
    · rename_i heq; cases heq; exact absurd rfl h43
    · rfl

theorem core_body (neg : Bool) (ip fp : Str) (hi : DigitStr ip) (hf : DigitStr fp)
    (hne : ip ≠ [] ∨ fp ≠ []) :
    core neg (ip ++ 46 :: fp) =
      some (.real (neg && (normReal (digitsVal (ip ++ fp)) fp.length).1 != 0)
        (normReal (digitsVal (ip ++ fp)) fp.length).1 (normReal (digitsVal (ip ++ fp)) fp.length).2) := by
  have he : (ip.isEmpty && fp.isEmpty) = false := by
    rcases hne with h | h
    · cases ip with
      | nil => exact absurd rfl h
      | cons _ _ => rfl
    · cases fp with
      | nil => exact absurd rfl h
      | cons _ _ => simp
  unfold core
  simp only [List.takeWhile_append_cons_of_neg (l₂ := fp) hi (by decide : isDigit 46 = false),
    List.dropWhile_append_cons_of_neg (l₂ := fp) hi (by decide : isDigit 46 = false), he,
    digitsAcc_val _ (DigitStr.append hi hf)]
  rfl

/-- the first byte of an unsigned body is a digit or the point -/
theorem body_head (ip fp : Str) (hi : DigitStr ip) :
    ∃ c r, ip ++ 46 :: fp = c :: r ∧ ((48 ≤ c ∧ c ≤ 57) ∨ c = 46) := by
  cases ip with
  | nil => exact ⟨46, fp, rfl, Or.inr rfl⟩
  | cons c ip => exact ⟨c, ip ++ 46 :: fp, rfl, Or.inl (digit_bounds (DigitStr.head hi))⟩

theorem dispatch_point (r : Str) :
    Tok.dispatch 46 r =
      some (if (numLoop false true (46 :: r)).2.1 then .real (numLoop false true (46 :: r)).1
            else .integer (numLoop false true (46 :: r)).1, (numLoop false true (46 :: r)).2.2) := by
  simp [Tok.dispatch]

end Rl

/-- `strconv.ParseFloat` (as modelled) on every legal spelling of a real gives the number meant -/
theorem parseReal_render (r : RealSp) (h : r.Ok) : parseReal r.render = some r.value := by
  obtain ⟨neg, plus, ip, fp⟩ := r
  obtain ⟨hi, hf, hne⟩ := h
  simp only at hi hf hne
  have hcore := fun n => Rl.core_body n ip fp hi hf hne
  cases neg with
  | true =>
    simp only [RealSp.render, if_true, List.singleton_append]
    rw [Rl.parseReal_minus, hcore]; rfl
  | false =>
    cases plus with
    | true =>
      simp only [RealSp.render, Bool.false_eq_true, if_false, if_true, List.singleton_append]
      rw [Rl.parseReal_plus, hcore]; simp [RealSp.value]
    | false =>
      simp only [RealSp.render, Bool.false_eq_true, if_false, List.nil_append]
      obtain ⟨c, r, e, hc⟩ := Rl.body_head ip fp hi
      rw [e, Rl.parseReal_nosign c r (by omega) (by omega), ← e, hcore]; simp [RealSp.value]

/-- the document-level lexer reads every legal spelling of a real as ONE real token and stops at its end -/
theorem nextToken_real (r : RealSp) (tail : Str) (h : r.Ok) (ht : Terminated tail) :
    nextToken (r.render ++ tail) = some (.real r.render, tail) := by
  obtain ⟨neg, plus, ip, fp⟩ := r
  obtain ⟨hi, hf, hne⟩ := h
  simp only at hi hf hne
  have hbody : CS.numBody false ((ip ++ 46 :: fp) ++ tail) = (ip ++ 46 :: fp, true, tail) := by
    rw [List.append_assoc, List.cons_append]; exact Num.numBody_real ip fp tail hi hf ht
  cases neg with
  | true =>
    simp only [RealSp.render, if_true, List.cons_append, List.nil_append]
    rw [Tok.nextToken_cons 45 _ (by decide), Tok.dispatch_num 45 _ (by omega),
      Prog.numLoop_sign_first 45 _ (.inl rfl), hbody]
    simp
  | false =>
    cases plus with
    | true =>
      simp only [RealSp.render, Bool.false_eq_true, if_false, if_true, List.cons_append, List.nil_append]
      rw [Tok.nextToken_cons 43 _ (by decide), Tok.dispatch_num 43 _ (by omega),
        Prog.numLoop_sign_first 43 _ (.inr rfl), hbody]
      simp
    | false =>
      simp only [RealSp.render, Bool.false_eq_true, if_false, List.nil_append]
      obtain ⟨c, r, e, hc⟩ := Rl.body_head ip fp hi
      rw [e] at hbody ⊢
      simp only [List.cons_append] at hbody ⊢
      rcases hc with hc | hc
      · rw [Tok.nextToken_cons c _ (Tok.isWs_num c (Or.inl hc)), Tok.dispatch_num c _ (Or.inl hc),
          Prog.numLoop_body_first c _ (.inr (Tok.isDigit_of c hc)), hbody]
        simp
      · subst hc
        rw [Tok.nextToken_cons 46 _ (by decide), Rl.dispatch_point, Prog.numLoop_body_first 46 _ (.inl rfl), hbody]
        simp

/-- `normReal` keeps the value and produces the normal form: m / 10^s = m' / 10^s', and m' has no
trailing zero unless s' = 0 -/
theorem normReal_spec (m s : Nat) :
    m * 10 ^ (normReal m s).2 = (normReal m s).1 * 10 ^ s ∧ (normReal m s).2 ≤ s ∧
      ((normReal m s).2 = 0 ∨ (normReal m s).1 % 10 ≠ 0) := by
  induction s generalizing m with
  | zero => simp [normReal]
  | succ s ih =>
    rw [normReal]
    split
    · rename_i h0
      obtain ⟨h1, h2, h3⟩ := ih (m / 10)
      refine ⟨?_, by omega, h3⟩
      have hm : m / 10 * 10 = m := Nat.div_mul_cancel (Nat.dvd_of_mod_eq_zero h0)
      calc m * 10 ^ (normReal (m / 10) s).2
          = (m / 10 * 10) * 10 ^ (normReal (m / 10) s).2 := by rw [hm]
        _ = (m / 10 * 10 ^ (normReal (m / 10) s).2) * 10 := Nat.mul_right_comm _ _ _
        _ = ((normReal (m / 10) s).1 * 10 ^ s) * 10 := by rw [h1]
        _ = (normReal (m / 10) s).1 * 10 ^ (s + 1) := by rw [Nat.mul_assoc, ← Nat.pow_succ]
    · rename_i h0
      exact ⟨rfl, Nat.le_refl _, Or.inr h0⟩

end Tabula.Pdf
