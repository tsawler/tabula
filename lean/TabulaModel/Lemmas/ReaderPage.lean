import TabulaModel.Lemmas.Reader
import TabulaModel.Lemmas.PdfCS
/-!
One page of the reader model. `Reader.step` in normal form: the operation is classified (`action`: decided by
the operator, its operands and the page's resources), then the state is acted on (`perform`); what holds of
every operation (`step_error`, `C01M.step_frame`) is proved action by action over `step_eq_perform`. The pages
one after another (`pagesOfSpecs_cons_ok`). The two loops as core's traversals in `Except` (`run_eq_foldlM`,
`pagesOfSpecs_eq_mapM`). And where the errors of a page come from (`pagesOfSpecs_error`).
-/
namespace Tabula.Reader
open Tabula.Pdf (Obj)

/-- what an operation asks of the interpreter; decided by the operation and the resources alone -/
inductive Action
  | push | pop | setFont (name : Str) | showStr (s : Str) | showArr (xs : List Obj) | unsupported | nop

def action (rdict : Option Dict) (op : Pdf.CS.Operation) : Action :=
  if op.op = opq then .push
  else if op.op = opQ then .pop
  else if op.op = opTf then
    match op.operands with
    | [.name n, sz] => if isNum sz then .setFont (if n.head? = some 47 then n else 47 :: n) else .nop
    | _ => .nop
  else if op.op = opTj ∨ op.op = opQuote then
    match op.operands with
    | [.str s] => .showStr s
    | _ => .nop
  else if op.op = opTJ then
    match op.operands with
    | [.arr xs] => .showArr xs
    | _ => .nop
  else if op.op = opDQuote then
    match op.operands with
    | [_, _, .str s] => .showStr s
    | _ => .nop
  else if op.op = opDo then
    match op.operands with
    | [.name _] =>
      match rdict with
      | none => .nop
      | some rd => if (dget rd kXObject).isSome then .unsupported else .nop
    | _ => .nop
  else .nop

def perform (env : Env) (st : IState) : Action → Except Err IState
  | .push => .ok { st with stack := st.cur :: st.stack }
  | .pop =>
    match st.stack with
    | [] => .error .err
    | c :: r => .ok { st with cur := c, stack := r }
  | .setFont n => .ok { st with cur := n }
  | .showStr s => showOne env st s
  | .showArr xs => showArray env st xs
  | .unsupported => .error .unsupported
  | .nop => .ok st

theorem step_eq_perform (env : Env) (st : IState) (op : Pdf.CS.Operation) :
    step env st op = perform env st (action env.rdict op) := by
  obtain ⟨name, xs⟩ := op
  unfold step action
  dsimp only
  generalize env.rdict = rdict
  -- both sides test the operator name in the same order; `rw` settles each test on the two sides
  -- (`simp only [if_neg h]` would walk through both remaining bodies at every test)
  by_cases h1 : name = opq
  · rw [if_pos h1, if_pos h1]; rfl
  rw [if_neg h1, if_neg h1]
  by_cases h2 : name = opQ
  · rw [if_pos h2, if_pos h2]; rfl
  rw [if_neg h2, if_neg h2]
  by_cases h3 : name = opTf
  · rw [if_pos h3, if_pos h3]
    split
    · split <;> rename_i h <;> simp only [h, ↓reduceIte] <;> rfl
    · split
      · next h => exact absurd rfl (h _ _)
      · rfl
  rw [if_neg h3, if_neg h3]
  by_cases h4 : name = opTj ∨ name = opQuote
  · rw [if_pos h4, if_pos h4]
    split
    · rfl
    · split
      · next h => exact absurd rfl (h _)
      · rfl
  rw [if_neg h4, if_neg h4]
  by_cases h5 : name = opTJ
  · rw [if_pos h5, if_pos h5]
    split
    · rfl
    · split
      · next h => exact absurd rfl (h _)
      · rfl
  rw [if_neg h5, if_neg h5]
  by_cases h6 : name = opDQuote
  · rw [if_pos h6, if_pos h6]
    split
    · rfl
    · split
      · next h => exact absurd rfl (h _ _ _)
      · rfl
  rw [if_neg h6, if_neg h6]
  by_cases h7 : name = opDo
  · rw [if_pos h7, if_pos h7]
    split
    · cases rdict with
      | none => rfl
      | some rd => dsimp only; split <;> rfl
    · split
      · next h => exact absurd rfl (h _)
      · rfl
  rw [if_neg h7, if_neg h7]
  rfl

theorem pagesOfSpecs_cons_ok {res : Res} {ext : Ext} {d r : Option Obj} {specs : List (Option Obj × Option Obj)}
    {ps : List (List Str)} :
    pagesOfSpecs res ext ((d, r) :: specs) = .ok ps ↔
      ∃ p q, pageStrings res ext d r = .ok p ∧ pagesOfSpecs res ext specs = .ok q ∧ ps = p :: q := by
  rw [pagesOfSpecs]
  cases pageStrings res ext d r with
  | error e => exact ⟨fun h => (nomatch h), fun ⟨_, _, h, _⟩ => (nomatch h)⟩
  | ok p =>
    cases pagesOfSpecs res ext specs with
    | error e => exact ⟨fun h => (nomatch h), fun ⟨_, _, _, h, _⟩ => (nomatch h)⟩
    | ok q =>
      exact ⟨fun h => ⟨p, q, rfl, rfl, (Except.ok.inj h).symm⟩,
        fun ⟨_, _, hp, hq, e⟩ => by cases hp; cases hq; rw [e]⟩

theorem csParse_nil : Pdf.CS.csParse [] = some [] := by
  have := Pdf.cs_roundtrip [] [] trivial (fun _ h => by cases h)
  simpa [Pdf.renderOps, Pdf.renderSep] using this

/-- an empty content shows nothing (so the `len(allData) == 0` shortcut of
`extractTextWithFragments` is the general case) -/
theorem showStrings_nil (res : Res) (ext : Ext) (r : Option Obj) : showStrings res ext r [] = .ok [] := by
  rw [showStrings, csParse_nil]
  rfl

/-- a page with content shows what its content shows -/
theorem pageStrings_content {res : Res} {c : Option Obj} {content : Str} (ext : Ext) (r : Option Obj)
    (h : contentBytes res c = .ok (some content)) : pageStrings res ext c r = showStrings res ext r content := by
  rw [pageStrings, h]
  dsimp only
  split
  · next h0 => rw [h0, showStrings_nil]
  · rfl

/-- above a tree that the walk delivered, the reader reads the pages of the tree -/
theorem readWith_of_tree {res : Res} {ext : Ext} {fuel : Nat} {root : Option Nat} {t : RTree}
    (ht : pageTree res fuel root = .ok t) : readWith res ext fuel root = pagesOfSpecs res ext (pageSpecs t) := by
  rw [readWith, ht]; rfl

/-- an answer of the reader is the pages of a tree that the walk delivered -/
theorem readWith_ok {res : Res} {ext : Ext} {fuel : Nat} {root : Option Nat} {pages : List (List Str)}
    (h : readWith res ext fuel root = .ok pages) :
    ∃ t, pageTree res fuel root = .ok t ∧ pagesOfSpecs res ext (pageSpecs t) = .ok pages := by
  cases ht : pageTree res fuel root with
  | error e => rw [readWith, ht] at h; cases h
  | ok t => exact ⟨t, rfl, readWith_of_tree ht ▸ h⟩

/-- the content of a page whose `/Contents` resolves to one stream that decodes -/
theorem contentBytes_stream {res : Res} {c : Obj} {d : Str} (h : resolve res c = .ok (.stream (some d))) :
    contentBytes res (some c) = joinParts [d] := by
  simp only [contentBytes, h, decodedParts]

/-- … and to an array whose elements resolve and whose streams decode -/
theorem contentBytes_array {res : Res} {c : Obj} {xs : List Obj} {vs : List SVal} {ps : List Str}
    (h2 : resolve res c = .ok (.obj (.arr xs))) (h3 : resolveAll res xs = .ok vs) (h4 : decodedParts vs = .ok ps) :
    contentBytes res (some c) = joinParts ps := by
  simp only [contentBytes, h2, h3, h4]

theorem run_eq_foldlM (env : Env) (ops : List Pdf.CS.Operation) :
    ∀ st, run env st ops = ops.foldlM (step env) st := by
  induction ops with
  | nil => intro st; rfl
  | cons op ops ih =>
    intro st
    rw [run, List.foldlM_cons]
    cases step env st op with
    | error e => rfl
    | ok st' => exact ih st'

theorem pagesOfSpecs_eq_mapM (res : Res) (ext : Ext) (specs : List (Option Obj × Option Obj)) :
    pagesOfSpecs res ext specs = specs.mapM fun s => pageStrings res ext s.1 s.2 := by
  induction specs with
  | nil => rfl
  | cons s specs ih =>
    obtain ⟨d, r⟩ := s
    rw [pagesOfSpecs, List.mapM_cons, ← ih]
    cases pageStrings res ext d r with
    | error e => rfl
    | ok p => cases pagesOfSpecs res ext specs <;> rfl

/-! ### where the errors of a page come from

The content of a page fails with tabula's error or the resolver's; the interpreter with `err` (a `Q`
without `q`) or `unsupported`, never with the resolver's: a font that does not resolve is a font that is
not registered. -/

theorem resolveAll_error {res : Res} {xs : List Obj} {e : Err} (h : resolveAll res xs = .error e) : FromRes res e := by
  induction xs with
  | nil => cases h
  | cons x xs ih =>
    simp only [resolveAll] at h
    split at h
    · next e' he => cases h; exact resolve_error he
    · split at h
      · next e' he => cases h; exact ih he
      · cases h

theorem decodedParts_error {vs : List SVal} {e : Err} (h : decodedParts vs = .error e) : e = .err := by
  induction vs with
  | nil => cases h
  | cons v vs ih =>
    cases v with
    | obj o => exact ih (by simpa [decodedParts] using h)
    | stream d =>
      cases d with
      | none => simp only [decodedParts] at h; cases h; rfl
      | some d =>
        simp only [decodedParts] at h
        split at h
        · cases h
        · next e' he => cases h; exact ih he

theorem joinParts_error {ps : List Str} {e : Err} (h : joinParts ps = .error e) : e = .err := by
  unfold joinParts at h
  split at h <;> cases h
  rfl

theorem contentBytes_error {res : Res} {c : Option Obj} {e : Err} (h : contentBytes res c = .error e) :
    FromRes res e := by
  unfold contentBytes at h
  repeat' split at h
  all_goals first
    | (cases h; done)
    | (cases h; exact Or.inl rfl)
    | exact Or.inl (joinParts_error h)
    | skip
  · next e' he => cases h; exact resolve_error he
  · next e' he => cases h; exact Or.inl (decodedParts_error he)
  · next e' he => cases h; exact resolveAll_error he
  · next e' he => cases h; exact Or.inl (decodedParts_error he)

theorem showOne_error {env : Env} {st : IState} {data : Str} {e : Err} (h : showOne env st data = .error e) :
    e = .unsupported := by
  unfold showOne decodeShown at h
  repeat' split at h
  all_goals first
    | (cases h; done)
    | skip
  all_goals
    next he =>
      cases h
      repeat' split at he
      all_goals first
        | (cases he; done)
        | (cases he; rfl)

theorem showArray_error {env : Env} {xs : List Obj} {e : Err} :
    ∀ {st}, showArray env st xs = .error e → e = .unsupported := by
  induction xs with
  | nil => intro st h; cases h
  | cons x xs ih =>
    intro st h
    cases x with
    | str s =>
      simp only [showArray] at h
      split at h
      · exact ih h
      · next e' he => cases h; exact showOne_error he
    | _ => exact ih (by simpa [showArray] using h)

theorem step_error {env : Env} {st : IState} {op : Pdf.CS.Operation} {e : Err} (h : step env st op = .error e) :
    e = .err ∨ e = .unsupported := by
  revert h
  rw [step_eq_perform]
  cases action env.rdict op with
  | pop => rw [perform]; split <;> intro h <;> cases h; exact Or.inl rfl
  | showStr s => exact fun h => Or.inr (showOne_error h)
  | showArr xs => exact fun h => Or.inr (showArray_error h)
  | unsupported => intro h; cases h; exact Or.inr rfl
  | _ => intro h; cases h

theorem run_error {env : Env} {ops : List Pdf.CS.Operation} {e : Err} :
    ∀ {st}, run env st ops = .error e → e = .err ∨ e = .unsupported := by
  induction ops with
  | nil => intro st h; cases h
  | cons op ops ih =>
    intro st h
    simp only [run] at h
    split at h
    · exact ih h
    · next e' he => cases h; exact step_error he

theorem pageStrings_error {res : Res} {ext : Ext} {c r : Option Obj} {e : Err}
    (h : pageStrings res ext c r = .error e) : FromRes res e := by
  unfold pageStrings at h
  split at h
  · next e' he => cases h; exact contentBytes_error he
  · cases h
  · split at h
    · cases h
    · unfold showStrings at h
      split at h
      · cases h; exact Or.inl rfl
      · simp only at h
        split at h
        · cases h
        · next e' he =>
          cases h
          rcases run_error he with rfl | rfl
          · exact Or.inl rfl
          · exact Or.inr (Or.inl rfl)

theorem pagesOfSpecs_error {res : Res} {ext : Ext} {specs : List (Option Obj × Option Obj)} {e : Err}
    (h : pagesOfSpecs res ext specs = .error e) : FromRes res e := by
  induction specs with
  | nil => cases h
  | cons p ps ih =>
    obtain ⟨c, r⟩ := p
    simp only [pagesOfSpecs] at h
    split at h
    · next e' he => cases h; exact pageStrings_error he
    · split at h
      · next e' he => cases h; exact ih he
      · cases h

end Tabula.Reader
