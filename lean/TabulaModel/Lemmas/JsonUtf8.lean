import TabulaModel.Lemmas.Json
/-!
The JSON text of `Model/Json.lean`'s writer is well-formed UTF-8.
-/
set_option linter.unusedSimpArgs false
namespace Tabula.Json
open Tabula.Split

theorem escByte_ascii (b : Nat) (hb : b < 128) : ∀ c ∈ escByte b, c < 128 := fun c h => by
  have := escByte_mem h; omega

/-- what `appendString` writes between the quotes is well-formed UTF-8, for EVERY input -/
theorem escBody_valid (s : Str) : validUtf8 (escBody s) = true := by
  refine escBody_pieces (validUtf8 · = true) validUtf8_nil ?_ ?_ ?_ s
  · intro b r hb hr
    exact validUtf8_append _ _ (validUtf8_of_ascii _ (escByte_ascii b hb)) hr
  · intro w hw
    have hw128 : ∀ c ∈ w, c < 128 := by revert w; decide
    exact fun r hr => validUtf8_append _ _ (validUtf8_of_ascii _ hw128) hr
  · intro b rest r _ h0 hr
    exact validUtf8_append _ _ (validUtf8_take_charLen _ h0) hr
theorem quote_valid (s : Str) : validUtf8 (quote s) = true := by
  unfold quote
  exact (validUtf8_ascii_cons (by decide) _).trans (validUtf8_append _ _ (escBody_valid s) (validUtf8_of_ascii [34] (by decide)))

/-- a layout inserts ASCII only -/
structure StyleAscii (st : Style) : Prop where
  nl : ∀ d, ∀ c ∈ st.nl d, c < 128
  sp : ∀ c ∈ st.sp, c < 128

theorem isWs_ascii {c : Nat} (h : isWs c = true) : c < 128 := by
  have := isWs_iff.mp h; omega

theorem styleAscii_of_ws (st : Style) (h : StyleWs st) : StyleAscii st :=
  ⟨fun d c hc => isWs_ascii (h.nl d c hc), fun c hc => isWs_ascii (h.sp c hc)⟩

theorem numChars_ascii {raw : Str} (h : raw.all isNumChar = true) : ∀ c ∈ raw, c < 128 := by
  intro c hc
  have := isNumChar_iff.mp (List.all_eq_true.mp h c hc)
  omega

/-- The text is UTF-8: every well-formed value (`wf`: number tokens are number characters, strings and
keys are valid UTF-8) is written as well-formed UTF-8. -/
theorem write_valid (st : Style) (hst : StyleAscii st) (v : J) :
    wf v = true → ∀ d, validUtf8 (write st d v) = true :=
  write_concat (validUtf8 · = true) st validUtf8_nil validUtf8_append
    (fun c hc => validUtf8_of_ascii _ (by revert c; decide)) (fun d => validUtf8_of_ascii _ (hst.nl d))
    (validUtf8_of_ascii _ hst.sp) (fun w hw => validUtf8_of_ascii _ (by revert w; decide))
    (fun _ h => validUtf8_of_ascii _ (numChars_ascii h)) quote_valid v
theorem encode_valid (pretty : Bool) (v : J) (hw : wf v = true) : validUtf8 (encode pretty v) = true := by
  unfold encode
  cases pretty with
  | true => exact validUtf8_append _ _ (write_valid indent2 (styleAscii_of_ws _ indent2_ws) v hw 0) (validUtf8_of_ascii [10] (by decide))
  | false => exact validUtf8_append _ _ (write_valid compact (styleAscii_of_ws _ compact_ws) v hw 0) (validUtf8_of_ascii [10] (by decide))

end Tabula.Json
