import TabulaModel.Lemmas.ChunkLayout
/-!
Helper lemmas for property C12, layout-based chunker: what `buildSections` writes into `PageStart`
and `PageEnd` (`buildSections_pages`: for pages numbered from 1 upwards in non-decreasing order,
every section's page range starts and ends on pages of the document and contains the page of
every element of its content), proved of the flat specification of `Lemmas/ChunkLayout.lean`.
-/
namespace Tabula.ChunkLayout
open Tabula.Chunk

/-- the page range of a section starts and ends on pages of the document (`ps`) and contains
the page of every element of the section's content -/
def SecPagesOK (ps : List Int) (x : SecInfo × List CE) : Prop :=
  x.1.pageStart ∈ ps ∧ x.1.pageEnd ∈ ps ∧ x.1.pageStart ≤ x.1.pageEnd ∧
  ∀ ce ∈ x.2, x.1.pageStart ≤ ce.page ∧ ce.page ≤ x.1.pageEnd

/-- a section whose range ends at or before page `b` takes an element of a page from `b` on -/
theorem SecPagesOK.snoc {ps : List Int} {b : Int} {i : SecInfo} {c : List CE} (h : SecPagesOK ps (i, c))
    (he : i.pageEnd ≤ b) {ce : CE} (hmem : ce.page ∈ ps) (hb : b ≤ ce.page) :
    SecPagesOK ps ({ i with pageEnd := ce.page }, c ++ [ce]) := by
  obtain ⟨m1, _, o1, c1⟩ := h
  have hle : i.pageStart ≤ ce.page := Int.le_trans o1 (Int.le_trans he hb)
  refine ⟨m1, hmem, hle, fun x hx => ?_⟩
  rcases List.mem_append.mp hx with hx | hx
  · exact ⟨(c1 x hx).1, Int.le_trans (c1 x hx).2 (Int.le_trans he hb)⟩
  · rw [List.mem_singleton.mp hx]; exact ⟨hle, Int.le_refl _⟩

/-- page numbers start at 1 or above and never decrease -/
def AscFrom : Int → LDoc → Prop
  | _, [] => True
  | b, pg :: pgs => b ≤ pg.number ∧ 1 ≤ pg.number ∧ AscFrom pg.number pgs

/-- `AscFrom` reads the page numbers only -/
theorem AscFrom.of_numbers {b : Int} {d d' : LDoc} (h : AscFrom b d) (e : d'.map (·.number) = d.map (·.number)) :
    AscFrom b d' := by
  induction d generalizing b d' with
  | nil => rw [List.map_eq_nil_iff.mp e]; trivial
  | cons pg pgs ih =>
    obtain ⟨q, qs, rfl⟩ := List.exists_cons_of_ne_nil (l := d') (by intro h0; rw [h0] at e; cases e)
    obtain ⟨e1, e2⟩ := List.cons.inj e
    have e1 : q.number = pg.number := e1
    rw [AscFrom, e1]
    exact ⟨h.1, h.2.1, ih h.2.2 e2⟩

/-- while pages are numbered upwards (`b` is the number of the last page seen): every section's range lies on pages of
the document, ends by `b` and contains the pages of its elements; the section without a heading starts on a page -/
def FSPages (ps : List Int) (b : Int) (s : FS) : Prop :=
  (∀ x ∈ s.rsecs, SecPagesOK ps x ∧ x.1.pageEnd ≤ b) ∧ (s.hist = [] → ∀ x ∈ s.rsecs, 1 ≤ x.1.pageStart)

theorem FSPages.add {ps : List Int} {b : Int} {s : FS} (h : FSPages ps b s) {ce : CE} (hmem : ce.page ∈ ps)
    (hb : b ≤ ce.page) (h1 : 1 ≤ ce.page) : FSPages ps ce.page (s.add ce) := by
  obtain ⟨hs, hp⟩ := h
  unfold FS.add addLast
  split
  · next hr =>
    exact ⟨fun x hx => by rw [List.mem_singleton.mp hx]; exact ⟨⟨hmem, hmem, Int.le_refl _, fun c hc => by
      rw [List.mem_singleton.mp hc]; exact ⟨Int.le_refl _, Int.le_refl _⟩⟩, Int.le_refl _⟩,
      fun _ x hx => by rw [List.mem_singleton.mp hx]; exact h1⟩
  · next i c r hr =>
    rw [hr] at hs hp
    -- the start page stands: it is set already, or the section has a heading
    have hst : (if (s.hist.isEmpty && i.pageStart == 0) = true then ce.page else i.pageStart) = i.pageStart := by
      split
      · next hc =>
        simp only [Bool.and_eq_true, List.isEmpty_iff, beq_iff_eq] at hc
        have := hp hc.1 (i, c) (List.mem_cons_self ..)
        simp only [hc.2] at this
        exact absurd this (by decide)
      · rfl
    simp only [hst]
    obtain ⟨hok, he⟩ := hs (i, c) (List.mem_cons_self ..)
    refine ⟨fun x hx => ?_, fun hh x hx => ?_⟩
    · rcases List.mem_cons.mp hx with rfl | hx
      · exact ⟨hok.snoc he hmem hb, Int.le_refl _⟩
      · exact ⟨(hs x (List.mem_cons_of_mem _ hx)).1, Int.le_trans (hs x (List.mem_cons_of_mem _ hx)).2 hb⟩
    · rcases List.mem_cons.mp hx with rfl | hx
      · exact hp hh (i, c) (List.mem_cons_self ..)
      · exact hp hh x (List.mem_cons_of_mem _ hx)

theorem FSPages.heading {ps : List Int} {b : Int} {s : FS} (h : FSPages ps b s) (cfg : Cfg) {page : Int} (hd : LHeading)
    (hmem : page ∈ ps) (hb : b ≤ page) (h1 : 1 ≤ page) : FSPages ps page (fsHeading cfg page s hd) := by
  unfold fsHeading
  split
  · refine ⟨fun x hx => ?_, fun hh => by simp [FS.opn] at hh⟩
    rcases List.mem_cons.mp hx with rfl | hx
    · exact ⟨⟨hmem, hmem, Int.le_refl _, fun c hc => by cases hc⟩, Int.le_refl _⟩
    · exact ⟨(h.1 x hx).1, Int.le_trans (h.1 x hx).2 hb⟩
  · exact h.add hmem hb h1

theorem specSections_pages (cfg : Cfg) (d : LDoc) (b : Int) (hasc : AscFrom b d) :
    ∀ x ∈ (specSections cfg d).rsecs, SecPagesOK (d.map (·.number)) x := by
  suffices h : ∀ (ps : List Int) (d : LDoc) (b : Int) (s : FS), FSPages ps b s → (∀ pg ∈ d, pg.number ∈ ps) → AscFrom b d →
      ∃ b', FSPages ps b' (d.foldl (fsPage cfg) s) by
    obtain ⟨b', hp⟩ := h (d.map (·.number)) d b ⟨[], []⟩ ⟨fun x hx => (by cases hx), fun _ x hx => (by cases hx)⟩
      (fun pg hpg => List.mem_map.mpr ⟨pg, hpg, rfl⟩) hasc
    exact fun x hx => (hp.1 x hx).1
  intro ps d
  induction d with
  | nil => exact fun b s h _ _ => ⟨b, h⟩
  | cons pg pgs ih =>
    intro b s h hsub ⟨hb, h1, hrest⟩
    have hmem := hsub pg (List.mem_cons_self ..)
    obtain ⟨b', hb', h'⟩ := fsPage_lift cfg (fun s => ∃ b', b' ≤ pg.number ∧ FSPages ps b' s) pg
      (fun _ _ s hd _ ⟨b', hb', h⟩ => ⟨_, Int.le_refl _, h.heading cfg hd hmem hb' h1⟩)
      (fun s ce hce ⟨b', hb', h⟩ => by
        rw [← hce] at hmem hb' h1 ⊢
        exact ⟨_, Int.le_refl _, h.add hmem hb' h1⟩) s ⟨b, hb, h⟩
    have hm : FSPages ps pg.number (fsPage cfg s pg) :=
      ⟨fun x hx => ⟨(h'.1 x hx).1, Int.le_trans (h'.1 x hx).2 hb'⟩, h'.2⟩
    exact ih pg.number _ hm (fun q hq => hsub q (List.mem_cons_of_mem _ hq)) hrest

/-- **every section's page range covers the pages of its content** and lies on pages of the
document, when pages are numbered from 1 upwards in non-decreasing order -/
theorem buildSections_pages (cfg : Cfg) (d : LDoc) (b : Int) (hasc : AscFrom b d) :
    ∀ x ∈ flatForest (buildSections cfg d), SecPagesOK (d.map (·.number)) x := by
  rw [buildSections_spec]
  exact fun x hx => specSections_pages cfg d b hasc x (List.mem_reverse.mp hx)

end Tabula.ChunkLayout
