import TabulaModel.Lemmas.Reader
/-!
The page-tree walk of the reader model (`Reader.buildNode` / `buildKids` / `pageTree`), one call at a
time. A call first decides what it stands on, without recursion and without looking at the fuel
(`nodeKind`, `kidKind`, `pagesRoot`), then descends (`buildNode_succ`, `buildKids_cons`, `pageTree_eq`).
Every statement about the walk is an induction on the fuel over these equations (and the defining ones
for no fuel and for the empty list); nothing else looks into the definitions.
-/
namespace Tabula.Reader
open Tabula.Pdf (Obj)

/-- what `buildNode` finds at a node before it descends: a reason to stop, a `/Page`, or the elements
of the `/Kids` array together with the visited set after `visitKidsRef` -/
inductive NodeKind
  | fail (e : Err)
  | leaf
  | kids (vis0 : List Nat) (kids : List Obj)

def nodeKind (res : Res) (dep : Nat) (vis : List Nat) (d : Dict) : NodeKind :=
  if dep ≥ PdfDoc.maxPageTreeDepth then .fail .err
  else
  match dget d kType with
  | some (.name t) =>
    if t = kPages then
      match dget d kKids with
      | none => .fail .err
      | some k =>
        match visitKidsRef vis k with
        | none => .fail .err
        | some vis0 =>
          match resolve res k with
          | .error e => .fail e
          | .ok (.obj (.arr kids)) => .kids vis0 kids
          | .ok _ => .fail .err
    else if t = kPage then .leaf
    else .fail .err
  | _ => .fail .err

/-- what `buildKids` finds at an element of a `/Kids` array: a reason to stop, or the number and the
dictionary of the node to enter -/
inductive KidKind
  | fail (e : Err)
  | node (n : Nat) (kd : Dict)

def kidKind (res : Res) (vis : List Nat) : Obj → KidKind
  | .ref n _ =>
    if n < 0 then .fail .err
    else if vis.contains n.toNat then .fail .err
    else
      match res n.toNat with
      | .error e => .fail e
      | .ok (.obj (.dict kd)) => .node n.toNat kd
      | .ok _ => .fail .err
  | .dict _ => .fail .unsupported
  | _ => .fail .err

/-- the dictionary the walk starts from: catalog, its `/Pages`, the check of `/Count` -/
def pagesRoot (res : Res) : Option Nat → Except Err Dict
  | none => .error .err
  | some r =>
    match res r with
    | .error e => .error e
    | .ok (.obj (.dict cat)) =>
      match dget cat kPages with
      | none => .error .err
      | some p =>
        match resolve res p with
        | .error e => .error e
        | .ok (.obj (.dict pd)) =>
          match dget pd kCount with
          | some (.int _) => .ok pd
          | _ => .error .err
        | .ok _ => .error .err
    | .ok _ => .error .err

/-! ### the three equations

Each is proved by `cases` on the discriminants, which rewrites them on both sides at once. -/

theorem buildNode_succ (res : Res) (fuel dep : Nat) (vis : List Nat) (d : Dict) :
    buildNode res (fuel + 1) dep vis d =
      match nodeKind res dep vis d with
      | .fail e => .error e
      | .leaf => .ok (.leaf d, vis)
      | .kids vis0 kids => (buildKids res fuel (dep + 1) vis0 kids).map fun p => (.node d p.1, p.2) := by
  rw [buildNode, nodeKind]
  by_cases hdep : dep ≥ PdfDoc.maxPageTreeDepth
  · rw [if_pos hdep, if_pos hdep]
  rw [if_neg hdep, if_neg hdep]
  cases dget d kType with
  | none => rfl
  | some o =>
    cases o with
    | name t =>
      dsimp only
      by_cases hp : t = kPages
      · rw [if_pos hp, if_pos hp]
        cases dget d kKids with
        | none => rfl
        | some k =>
          dsimp only
          cases visitKidsRef vis k with
          | none => rfl
          | some vis0 =>
            dsimp only
            cases resolve res k with
            | error e => rfl
            | ok v =>
              cases v with
              | stream dd => rfl
              | obj o =>
                cases o with
                | arr kids =>
                  dsimp only
                  cases buildKids res fuel (dep + 1) vis0 kids <;> rfl
                | _ => rfl
      · rw [if_neg hp, if_neg hp]
        by_cases hq : t = kPage
        · rw [if_pos hq, if_pos hq]
        · rw [if_neg hq, if_neg hq]
    | _ => rfl

theorem buildKids_cons (res : Res) (fuel dep : Nat) (vis : List Nat) (k : Obj) (ks : List Obj) :
    buildKids res (fuel + 1) dep vis (k :: ks) =
      match kidKind res vis k with
      | .fail e => .error e
      | .node n kd =>
        match buildNode res fuel dep (n :: vis) kd with
        | .error e => .error e
        | .ok (t, vis1) => (buildKids res fuel dep vis1 ks).map fun p => (t :: p.1, p.2) := by
  cases k with
  | ref n g =>
    rw [buildKids, kidKind]
    by_cases hn : n < 0
    · rw [if_pos hn, if_pos hn]
    rw [if_neg hn, if_neg hn]
    cases vis.contains n.toNat with
    | true => rfl
    | false =>
      rw [if_neg Bool.false_ne_true, if_neg Bool.false_ne_true]
      cases res n.toNat with
      | error e => rfl
      | ok v =>
        cases v with
        | stream dd => rfl
        | obj o =>
          cases o with
          | dict kd =>
            dsimp only
            cases buildNode res fuel dep (n.toNat :: vis) kd with
            | error e => rfl
            | ok p => dsimp only; cases buildKids res fuel dep p.2 ks <;> rfl
          | _ => rfl
  | _ => rfl

theorem pageTree_eq (res : Res) (fuel : Nat) (root : Option Nat) :
    pageTree res fuel root =
      match pagesRoot res root with
      | .error e => .error e
      | .ok pd => (buildNode res fuel 0 [] pd).map Prod.fst := by
  unfold pageTree pagesRoot
  cases root with
  | none => rfl
  | some r =>
    dsimp only
    cases res r with
    | error e => rfl
    | ok v =>
      cases v with
      | stream dd => rfl
      | obj o =>
        cases o with
        | dict cat =>
          dsimp only
          cases dget cat kPages with
          | none => rfl
          | some p =>
            dsimp only
            cases resolve res p with
            | error e => rfl
            | ok pv =>
              cases pv with
              | stream dd => rfl
              | obj po =>
                cases po with
                | dict pd =>
                  dsimp only
                  cases dget pd kCount with
                  | none => rfl
                  | some c =>
                    cases c with
                    | int i => dsimp only; cases buildNode res fuel 0 [] pd <;> rfl
                    | _ => rfl
                | _ => rfl
        | _ => rfl

theorem visitKidsRef_sub {vis vis0 : List Nat} {k : Obj} (h : visitKidsRef vis k = some vis0) :
    vis0 = vis ∨ ∃ n, vis0 = n :: vis := by
  cases k with
  | ref n g =>
    simp only [visitKidsRef] at h
    repeat' split at h
    all_goals cases h
    · exact Or.inl rfl
    · exact Or.inr ⟨_, rfl⟩
  | _ => cases h; exact Or.inl rfl

/-- a node that does not stop the walk lies above the depth limit, and the visited set of a `/Pages` node
is what `visitKidsRef` made of it -/
theorem nodeKind_spec {res : Res} {dep : Nat} {vis : List Nat} {d : Dict} {nk : NodeKind}
    (h : nodeKind res dep vis d = nk) :
    match nk with
    | .fail e => FromRes res e
    | .leaf => dep < PdfDoc.maxPageTreeDepth
    | .kids vis0 _ => dep < PdfDoc.maxPageTreeDepth ∧ ∃ k, visitKidsRef vis k = some vis0 := by
  unfold nodeKind at h
  split at h
  · subst h; exact Or.inl rfl
  · next hdep =>
    have hdep : dep < PdfDoc.maxPageTreeDepth := Nat.lt_of_not_ge hdep
    repeat' split at h
    all_goals subst h
    all_goals first
      | exact Or.inl rfl
      | exact hdep
      | skip
    · next e he => exact resolve_error he
    · next hv _ _ _ => exact ⟨hdep, _, hv⟩

/-- an element that does not stop the walk names a number not visited before that holds a dictionary -/
theorem kidKind_spec {res : Res} {vis : List Nat} {k : Obj} {kk : KidKind} (h : kidKind res vis k = kk) :
    match kk with
    | .fail e => FromRes res e
    | .node n kd => vis.contains n = false ∧ res n = .ok (.obj (.dict kd)) := by
  cases k with
  | ref n g =>
    simp only [kidKind] at h
    split at h
    · subst h; exact Or.inl rfl
    · split at h
      · subst h; exact Or.inl rfl
      · next hc =>
        split at h <;> subst h
        · next e he => exact .of_res he
        · next kd hr => exact ⟨by simpa using hc, hr⟩
        · exact Or.inl rfl
  | dict kv => subst h; exact Or.inr (Or.inl rfl)
  | _ => subst h; exact Or.inl rfl

theorem pagesRoot_error {res : Res} {root : Option Nat} {e : Err} (h : pagesRoot res root = .error e) :
    FromRes res e := by
  unfold pagesRoot at h
  repeat' split at h
  all_goals first
    | (cases h; done)
    | (cases h; exact Or.inl rfl)
    | skip
  · next e' he => cases h; exact .of_res he
  · next e' he => cases h; exact resolve_error he

theorem nodeKind_too_deep (res : Res) {dep : Nat} (vis : List Nat) (d : Dict) (h : dep ≥ PdfDoc.maxPageTreeDepth) :
    nodeKind res dep vis d = .fail .err := by
  rw [nodeKind, if_pos h]

theorem nodeKind_page {res : Res} {dep : Nat} {vis : List Nat} {d : Dict}
    (hdep : dep < PdfDoc.maxPageTreeDepth) (ht : dget d kType = some (.name kPage)) :
    nodeKind res dep vis d = .leaf := by
  have hne : kPage ≠ kPages := by decide
  simp only [nodeKind, Nat.not_le.mpr hdep, ht, hne, if_false, if_true]

theorem nodeKind_pages {res : Res} {dep : Nat} {vis vis0 : List Nat} {d : Dict} {k : Obj} {kids : List Obj}
    (hdep : dep < PdfDoc.maxPageTreeDepth) (ht : dget d kType = some (.name kPages)) (hk : dget d kKids = some k)
    (hv : visitKidsRef vis k = some vis0) (hr : resolve res k = .ok (.obj (.arr kids))) :
    nodeKind res dep vis d = .kids vis0 kids := by
  simp only [nodeKind, Nat.not_le.mpr hdep, ht, hk, hv, hr, if_false, if_true]

theorem kidKind_ref {res : Res} {vis : List Nat} {n : Nat} {g : Int} {kd : Dict}
    (hv : vis.contains n = false) (hr : res n = .ok (.obj (.dict kd))) :
    kidKind res vis (.ref (n : Int) g) = .node n kd := by
  have hneg : ¬ ((n : Nat) : Int) < 0 := by omega
  simp only [kidKind, hneg, if_false, Int.toNat_natCast, hv, Bool.false_eq_true, hr]

/-- induction over the successful calls of the walk. A property of (depth, visited set before, what is
walked, what is built, visited set after) holds of every call that answers, if it holds of a leaf above
the depth limit, passes from the `/Kids` of a node (entered with the visited set `visitKidsRef` made) to
the node, holds of the empty list, and passes from an element (a reference to a dictionary under a
number not visited before) and the rest of a list to the list. -/
theorem build_ok_induct (res : Res) {P : Nat → List Nat → Dict → RTree → List Nat → Prop}
    {Q : Nat → List Nat → List Obj → List RTree → List Nat → Prop}
    (leaf : ∀ {dep vis d}, dep < PdfDoc.maxPageTreeDepth → P dep vis d (.leaf d) vis)
    (node : ∀ {dep vis d k vis0 kids ts vis'}, dep < PdfDoc.maxPageTreeDepth → visitKidsRef vis k = some vis0 →
      Q (dep + 1) vis0 kids ts vis' → P dep vis d (.node d ts) vis')
    (nil : ∀ {dep vis}, Q dep vis [] [] vis)
    (cons : ∀ {dep vis k ks n kd t vis1 ts vis'}, vis.contains n = false → res n = .ok (.obj (.dict kd)) →
      P dep (n :: vis) kd t vis1 → Q dep vis1 ks ts vis' → Q dep vis (k :: ks) (t :: ts) vis') :
    ∀ fuel,
      (∀ dep vis d t vis', buildNode res fuel dep vis d = .ok (t, vis') → P dep vis d t vis') ∧
      (∀ dep vis ks ts vis', buildKids res fuel dep vis ks = .ok (ts, vis') → Q dep vis ks ts vis') := by
  intro fuel
  induction fuel with
  | zero => exact ⟨fun _ _ _ _ _ h => (by rw [buildNode] at h; cases h), fun _ _ _ _ _ h => (by rw [buildKids] at h; cases h)⟩
  | succ fuel ih =>
    refine ⟨fun dep vis d t vis' h => ?_, fun dep vis ks ts vis' h => ?_⟩
    · rw [buildNode_succ] at h
      split at h
      · cases h
      · next hk => cases h; exact leaf (nodeKind_spec hk)
      · next vis0 kids hk =>
        obtain ⟨hdep, k, hv⟩ := nodeKind_spec hk
        cases hb : buildKids res fuel (dep + 1) vis0 kids with
        | error e => rw [hb] at h; cases h
        | ok p => rw [hb] at h; cases h; exact node hdep hv (ih.2 _ _ _ _ _ hb)
    · cases ks with
      | nil => rw [buildKids] at h; cases h; exact nil
      | cons k ks =>
        rw [buildKids_cons] at h
        split at h
        · cases h
        · next n kd hk =>
          obtain ⟨hc, hr⟩ := kidKind_spec hk
          split at h
          · cases h
          · next t vis1 hb =>
            cases hb2 : buildKids res fuel dep vis1 ks with
            | error e => rw [hb2] at h; cases h
            | ok q => rw [hb2] at h; cases h; exact cons hc hr (ih.1 _ _ _ _ _ hb) (ih.2 _ _ _ _ _ hb2)

theorem pageTree_ok {res : Res} {fuel : Nat} {root : Option Nat} {t : RTree} (h : pageTree res fuel root = .ok t) :
    ∃ pd vis', buildNode res fuel 0 [] pd = .ok (t, vis') := by
  rw [pageTree_eq] at h
  cases hp : pagesRoot res root with
  | error e => rw [hp] at h; cases h
  | ok pd =>
    rw [hp] at h
    dsimp only at h
    cases hb : buildNode res fuel 0 [] pd with
    | error e => rw [hb] at h; cases h
    | ok p => rw [hb] at h; cases h; exact ⟨pd, p.2, hb⟩

end Tabula.Reader
