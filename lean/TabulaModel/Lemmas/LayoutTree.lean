import TabulaModel.Model.Layout
/-!
The element tree of `Model/Layout.lean` id by id: `paragraphNotShown` as a truncated subtraction of
counts, the tree after the repair 8ee0e52 (`elementTree`) and before it (`elementTreeOld`).
-/
namespace Tabula.Layout
open List

/-- `paragraphNotShown`, counted: what remains of the paragraph is what `shown` does not cover,
what remains of `shown` is what the paragraph did not use (truncated subtractions) -/
theorem count_notShown (shown ids : List Nat) (i : Nat) :
    (notShown shown ids).1.count i = ids.count i - shown.count i ∧
    (notShown shown ids).2.count i = shown.count i - ids.count i := by
  fun_induction notShown shown ids with
  | case1 shown => exact ⟨(Nat.zero_sub _).symm, rfl⟩
  | case2 shown a r hm ih =>
    -- the head is crossed off against one occurrence in `shown`
    obtain ⟨h1, h2⟩ := ih
    have hle : (if (a == i) = true then 1 else 0) ≤ shown.count i := by
      split
      · next e => rw [← beq_iff_eq.mp e]; exact List.count_pos_iff.mpr hm
      · exact Nat.zero_le _
    rw [List.count_erase] at h1 h2
    rw [List.count_cons, h1, h2, Nat.sub_sub_right _ hle, Nat.sub_sub, Nat.add_comm]
    exact ⟨rfl, rfl⟩
  | case3 shown a r hm ih =>
    obtain ⟨h1, h2⟩ := ih
    rw [List.count_cons, List.count_cons, h1, h2]
    split
    · next e =>
      have h0 : shown.count i = 0 := by rw [← beq_iff_eq.mp e]; exact List.count_eq_zero.mpr hm
      simp only [h0, Nat.sub_zero, Nat.zero_sub, and_self]
    · exact ⟨rfl, rfl⟩

theorem notShown_nil (ids : List Nat) : notShown [] ids = (ids, []) := by
  induction ids with
  | nil => rfl
  | cons a r ih => rw [notShown, if_neg List.not_mem_nil, ih]

theorem ids_remainingPars (rbox : Elem → List Nat → Box) (shown : List Nat) (p : Elem) (r : List Elem) :
    (remainingPars rbox shown (p :: r)).flatMap (·.ids) =
      (notShown shown p.ids).1 ++ (remainingPars rbox (notShown shown p.ids).2 r).flatMap (·.ids) := by
  rw [remainingPars]
  split
  · rfl
  · split
    · rename_i h; rw [List.isEmpty_iff.mp h]; rfl
    · rfl

/-- the paragraphs of the repaired tree show of every id what `shown` does not cover -/
theorem count_remainingPars (rbox : Elem → List Nat → Box) (shown : List Nat) (ps : List Elem) (i : Nat) :
    ((remainingPars rbox shown ps).flatMap (·.ids)).count i =
      (ps.flatMap (·.ids)).count i - shown.count i := by
  induction ps generalizing shown with
  | nil => simp [remainingPars]
  | cons p r ih =>
    obtain ⟨h1, h2⟩ := count_notShown shown p.ids i
    rw [ids_remainingPars, List.count_append, ih, List.flatMap_cons, List.count_append, h1, h2]
    -- the paragraph uses up `shown`, or `shown` covers the paragraph and the rest goes on
    rcases Nat.le_total (shown.count i) (p.ids.count i) with h | h
    · rw [Nat.sub_eq_zero_of_le h, Nat.sub_zero, Nat.sub_add_comm h]
    · rw [Nat.sub_eq_zero_of_le h, Nat.zero_add, Nat.sub_sub_right _ h, Nat.add_comm]

/-- the repaired element tree id by id: the headings it shows, the lists, and of the paragraphs
what those do not cover -/
theorem count_elementTree (rbox : Elem → List Nat → Box) (hs ls ps : List Elem) (i : Nat) :
    ((elementTree rbox hs ls ps).flatMap (·.ids)).count i =
      ((shownHeadings hs ls).flatMap (·.ids)).count i + (ls.flatMap (·.ids)).count i +
        ((ps.flatMap (·.ids)).count i -
          ((ls.flatMap (·.ids)).count i + ((shownHeadings hs ls).flatMap (·.ids)).count i)) := by
  unfold elementTree
  rw [List.flatMap_append, List.flatMap_append, List.count_append, List.count_append,
    count_remainingPars, List.count_append]

/-- without headings and lists the repaired tree is the paragraph list -/
theorem remainingPars_nil (rbox : Elem → List Nat → Box) (ps : List Elem) : remainingPars rbox [] ps = ps := by
  induction ps with
  | nil => rfl
  | cons p r ih =>
    rw [remainingPars]
    simp only [notShown_nil, beq_self_eq_true, if_true, ih]

theorem count_elementTreeOld (ov : Box → Box → Bool) (hs ls ps : List Elem) (i : Nat) :
    ((elementTreeOld ov hs ls ps).flatMap (·.ids)).count i =
      (hs.flatMap (·.ids)).count i + (ls.flatMap (·.ids)).count i +
        ((ps.filter fun p => !consumed ov hs ls p).flatMap (·.ids)).count i := by
  unfold elementTreeOld
  rw [List.flatMap_append, List.flatMap_append, List.count_append, List.count_append]

theorem mem_elementTreeOld (ov : Box → Box → Bool) (hs ls ps : List Elem) (i : Nat) :
    i ∈ (elementTreeOld ov hs ls ps).flatMap (·.ids) ↔
      i ∈ hs.flatMap (·.ids) ∨ i ∈ ls.flatMap (·.ids) ∨
        ∃ p ∈ ps, consumed ov hs ls p = false ∧ i ∈ p.ids := by
  unfold elementTreeOld
  rw [List.flatMap_append, List.flatMap_append, List.mem_append, List.mem_append, or_assoc]
  simp only [List.mem_flatMap, List.mem_filter, Bool.not_eq_true', and_assoc]

end Tabula.Layout
