import TabulaModel.Model.DocRender
import TabulaModel.Lemmas.Grid
/-!
Lemmas about the shared rendering helpers: the "occurs in this order" relation on
strings, joins, the table writers, the document-model grid in closed form (`model_grid_eq`), the
number of `#` of a heading line.
-/
namespace Tabula.Render
open Tabula.Xml

/-- `InOrder ts s`: the strings `ts` occur in `s` one after the other, without overlap, in
the order of the list (what the harness's token-order oracle decides by search). -/
inductive InOrder : List Str → Str → Prop
  | nil (s : Str) : InOrder [] s
  | cons (t : Str) (ts : List Str) (a b : Str) : InOrder ts b → InOrder (t :: ts) (a ++ t ++ b)

theorem InOrder.prepend {ts : List Str} {s : Str} (p : Str) (h : InOrder ts s) : InOrder ts (p ++ s) := by
  cases h with
  | nil => exact .nil _
  | cons t ts a b hb =>
    have : p ++ (a ++ t ++ b) = (p ++ a) ++ t ++ b := by simp [List.append_assoc]
    rw [this]
    exact .cons t ts (p ++ a) b hb

theorem InOrder.append_right {ts : List Str} {s : Str} (q : Str) (h : InOrder ts s) : InOrder ts (s ++ q) := by
  induction h with
  | nil => exact .nil _
  | cons t ts a b _ ih =>
    have : a ++ t ++ b ++ q = a ++ t ++ (b ++ q) := by simp [List.append_assoc]
    rw [this]
    exact .cons t ts a (b ++ q) ih

theorem InOrder.append {ts us : List Str} {s u : Str} (h1 : InOrder ts s) (h2 : InOrder us u) :
    InOrder (ts ++ us) (s ++ u) := by
  induction h1 with
  | nil s => exact h2.prepend s
  | cons t ts a b _ ih =>
    have : a ++ t ++ b ++ u = a ++ t ++ (b ++ u) := by simp [List.append_assoc]
    rw [this]
    exact .cons t (ts ++ us) a (b ++ u) ih

theorem InOrder.single (t a b : Str) : InOrder [t] (a ++ t ++ b) := .cons t [] a b (.nil b)

theorem InOrder.self (t : Str) : InOrder [t] t := by
  have := InOrder.single t [] []
  simpa using this

/-- a string in which `ts` occur in order still holds them after text is put around it -/
theorem InOrder.wrap {ts : List Str} {s : Str} (p q : Str) (h : InOrder ts s) : InOrder ts (p ++ s ++ q) :=
  (h.prepend p).append_right q

/-- what is written behind a buffer - read off a state by `out` - and an optional blank line shows
what it shows, behind the buffer -/
theorem inOrder_behind {σ : Type} (out : σ → Str) (s s1 : σ) (h1 : out s1 = out s ++ [10]) (c : Bool)
    (ts : List Str) (body : Str) (hb : InOrder ts body) :
    ∃ chunk, out (if c = true then s1 else s) ++ body = out s ++ chunk ∧ InOrder ts chunk := by
  cases c
  · exact ⟨body, rfl, hb⟩
  · exact ⟨[10] ++ body, by rw [if_pos rfl, h1, List.append_assoc], hb.prepend [10]⟩

/-- `Pieces tss ps`: the lists have the same length and piece number i holds the strings
`tss[i]` in order -/
inductive Pieces : List (List Str) → List Str → Prop
  | nil : Pieces [] []
  | cons {ts : List Str} {p : Str} {tss : List (List Str)} {ps : List Str} :
      InOrder ts p → Pieces tss ps → Pieces (ts :: tss) (p :: ps)

/-- pieces joined by a separator hold, in order, what each piece holds in order -/
theorem inOrder_joinWith (sep : Str) : ∀ (tss : List (List Str)) (pieces : List Str),
    Pieces tss pieces → InOrder tss.flatten (joinWith sep pieces) := by
  intro tss pieces h
  induction h with
  | nil => exact .nil _
  | @cons ts p tss' ps hp hrest ih =>
    cases hrest with
    | nil =>
      simp only [List.flatten_cons, List.flatten_nil, List.append_nil, joinWith]
      exact hp
    | @cons ts2 p2 tss2 ps2 hp2 hrest2 =>
      simp only [List.flatten_cons, joinWith]
      have := InOrder.append hp (ih.prepend sep)
      simpa [List.append_assoc] using this

theorem joinWith_cons_cons (sep a b : Str) (rest : List Str) :
    joinWith sep (a :: b :: rest) = a ++ sep ++ joinWith sep (b :: rest) := rfl

/-- the cell texts a table shows in plain text: every cell of every row, newlines as spaces -/
def tableTextCells (rows : List (List RCell)) : List Str := rows.flatten.map fun c => replaceNL c.text

theorem pieces_map_self {α : Type} (f : α → List Str) (g : α → Str) (h : ∀ x, InOrder (f x) (g x)) :
    ∀ l : List α, Pieces (l.map f) (l.map g) := by
  intro l
  induction l with
  | nil => exact .nil
  | cons x xs ih => exact .cons (h x) ih

/-- **table_text_in_order**. `ToText` shows the cells of the table row by row, cell by cell. -/
theorem tableToText_inOrder (rows : List (List RCell)) : InOrder (tableTextCells rows) (tableToText rows) := by
  unfold tableToText tableTextCells
  have hrow : ∀ row : List RCell, InOrder (row.map fun c => replaceNL c.text) (joinWith [9] (row.map fun c => replaceNL c.text)) := by
    intro row
    have := inOrder_joinWith [9] (row.map fun c => [replaceNL c.text]) (row.map fun c => replaceNL c.text)
      (pieces_map_self (fun c : RCell => [replaceNL c.text]) (fun c => replaceNL c.text) (fun c => InOrder.self _) row)
    rw [← List.flatMap_def, ← List.map_eq_flatMap] at this
    exact this
  have := inOrder_joinWith [10] (rows.map fun row => row.map fun c => replaceNL c.text)
    (rows.map fun row => joinWith [9] (row.map fun c => replaceNL c.text))
    (pieces_map_self _ _ hrow rows)
  rw [← List.map_flatten] at this
  exact this

/-- the text a Markdown cell shows -/
def mdCellText (c : RCell) : Str := trimSpace (escapePipes (replaceNL c.text))

/-- the cells of its own (not covered from above) of a row -/
def ownCells (row : List RCell) : List RCell := row.filter fun c => !c.covered

theorem mdCell_inOrder (c : RCell) : InOrder (if c.covered then [] else [mdCellText c]) (mdCell c) := by
  unfold mdCell
  cases hc : c.covered
  · simp only [Bool.false_eq_true, if_false]
    have := InOrder.single (mdCellText c) [32] ([32, 124] ++ repeatStr [32, 124] (spanOf c - 1))
    simpa [mdCellText, List.append_assoc] using this
  · simp only [if_true]
    exact .nil _

theorem flatMap_inOrder {α : Type} (f : α → List Str) (g : α → Str) (h : ∀ x, InOrder (f x) (g x)) :
    ∀ l : List α, InOrder (l.flatMap f) (l.flatMap g) := by
  intro l
  induction l with
  | nil => exact .nil _
  | cons x xs ih =>
    simp only [List.flatMap_cons]
    exact (h x).append ih

theorem ownCells_flatMap (row : List RCell) :
    (row.flatMap fun c => if c.covered then [] else [mdCellText c]) = (ownCells row).map mdCellText := by
  induction row with
  | nil => rfl
  | cons c cs ih =>
    simp only [List.flatMap_cons, ownCells, List.filter_cons]
    cases hc : c.covered
    · simp only [Bool.false_eq_true, if_false, Bool.not_false, if_true, List.map_cons]
      rw [ih]; rfl
    · simp only [if_true, Bool.not_true, Bool.false_eq_true, if_false]
      rw [ih]; rfl

/-- one Markdown row shows the texts of the row's own cells in order -/
theorem mdRow_inOrder (cc : Nat) (row : List RCell) : InOrder ((ownCells row).map mdCellText) (mdRow cc row) := by
  unfold mdRow
  rw [← ownCells_flatMap]
  have := flatMap_inOrder (fun c : RCell => if c.covered then [] else [mdCellText c]) mdCell mdCell_inOrder row
  have h2 := this.wrap [124] (repeatStr [32, 124] (cc - rowWidth row) ++ [10])
  simpa [List.append_assoc] using h2

/-- **table_markdown_in_order**. `ToMarkdown` shows the own cells of the table row by row,
cell by cell (when the table has any column). -/
theorem tableToMarkdown_inOrder (rows : List (List RCell)) (h : mdColCount rows ≠ 0) :
    InOrder (rows.flatMap fun row => (ownCells row).map mdCellText) (tableToMarkdown rows) := by
  cases rows with
  | nil => exact .nil _
  | cons first rest =>
    simp only [tableToMarkdown, h, if_false, List.flatMap_cons]
    have h1 := mdRow_inOrder (mdColCount (first :: rest)) first
    have h2 := flatMap_inOrder (fun row : List RCell => (ownCells row).map mdCellText) (mdRow (mdColCount (first :: rest)))
      (mdRow_inOrder _) rest
    have := h1.append (h2.prepend (mdSeparator (mdColCount (first :: rest))))
    simpa [List.append_assoc] using this

theorem dropWhile_split (p : Nat → Bool) (s : Str) : ∃ a, s = a ++ s.dropWhile p ∧ ∀ c ∈ a, p c = true :=
  ⟨s.takeWhile p, List.takeWhile_append_dropWhile.symm, List.all_eq_true.1 List.all_takeWhile⟩

/-- **trim_only_newlines**. `strings.Trim(s, "\n")` cuts newlines at the two ends and nothing else
(that it cuts all of them is not stated). -/
theorem trimNL_split (s : Str) : ∃ a b, s = a ++ trimNL s ++ b ∧ (∀ c ∈ a, c = 10) ∧ (∀ c ∈ b, c = 10) := by
  unfold trimNL
  obtain ⟨a, ha, hall⟩ := dropWhile_split (· == 10) s
  obtain ⟨b, hb, hbll⟩ := dropWhile_split (· == 10) (s.dropWhile (· == 10)).reverse
  refine ⟨a, b.reverse, ?_, ?_, ?_⟩
  · have h2 : s.dropWhile (· == 10) = ((s.dropWhile (· == 10)).reverse.dropWhile (· == 10)).reverse ++ b.reverse := by
      have := congrArg List.reverse hb
      simpa using this
    calc s = a ++ s.dropWhile (· == 10) := ha
      _ = a ++ (((s.dropWhile (· == 10)).reverse.dropWhile (· == 10)).reverse ++ b.reverse) := by rw [← h2]
      _ = _ := by simp [List.append_assoc]
  · intro c hc; simpa using hall c hc
  · intro c hc; simpa using hbll c (by simpa using hc)

end Tabula.Render

namespace Tabula.Render

/-- the grid column at which cell number `i` of a row starts: the widths before it added up -/
def startCol {α : Type} (width : α → Nat) (cells : List α) (i : Nat) : Nat := ((cells.take i).map width).sum

/-- `fillRowG` seen on the one grid row it writes -/
def fillLineG {α : Type} (width : α → Nat) (skip : α → Bool) (mk : α → MCell) (colCount : Nat) :
    List α → Nat → List MCell → List MCell
  | [], _, line => line
  | c :: rest, colIdx, line =>
    if colIdx ≥ colCount then line
    else if skip c then fillLineG width skip mk colCount rest (colIdx + width c) line
    else fillLineG width skip mk colCount rest (colIdx + width c) (line.set colIdx (mk c))

variable {α : Type} (width : α → Nat) (skip : α → Bool) (mk : α → MCell)

theorem modify_length_append {β : Type} (f : β → β) (x : β) (xs : List β) : ∀ pre : List β,
    (pre ++ x :: xs).modify pre.length f = pre ++ f x :: xs
  | [] => rfl
  | p :: pre => by rw [List.cons_append, List.length_cons, List.modify_succ_cons, modify_length_append f x xs pre]; rfl

/-- a row of cells writes into its own grid row only, and there what `fillLineG` writes -/
theorem fillRowG_eq_modify (cc rowIdx : Nat) : ∀ (cells : List α) (col : Nat) (g : List (List MCell)),
    fillRowG width skip mk cc rowIdx cells col g = g.modify rowIdx (fillLineG width skip mk cc cells col) := by
  intro cells
  induction cells with
  | nil => intro col g; exact (List.modify_id rowIdx g).symm
  | cons c rest ih =>
    intro col g
    rw [fillRowG]
    by_cases h : col ≥ cc
    · rw [if_pos h]
      have : fillLineG width skip mk cc (c :: rest) col = id := funext fun line => by rw [fillLineG, if_pos h]; rfl
      rw [this, List.modify_id]
    · rw [if_neg h]
      cases hs : skip c
      · have : fillLineG width skip mk cc (c :: rest) col
            = fillLineG width skip mk cc rest (col + width c) ∘ (·.set col (mk c)) :=
          funext fun line => by rw [fillLineG, if_neg h, hs]; rfl
        rw [this, if_neg Bool.false_ne_true, ih, setCell, List.modify_modify_eq]
      · have : fillLineG width skip mk cc (c :: rest) col = fillLineG width skip mk cc rest (col + width c) :=
          funext fun line => by rw [fillLineG, if_neg h, hs]; rfl
        rw [this, if_pos rfl, ih]

theorem fillLineG_length (cc : Nat) : ∀ (cells : List α) (col : Nat) (line : List MCell),
    (fillLineG width skip mk cc cells col line).length = line.length := by
  intro cells
  induction cells with
  | nil => intro col line; rfl
  | cons c rest ih =>
    intro col line
    simp only [fillLineG]
    split
    · rfl
    · split
      · exact ih _ _
      · rw [ih, List.length_set]

/-- positions to the left of the running column are not written any more -/
theorem fillLineG_lt (cc : Nat) : ∀ (cells : List α) (col : Nat) (line : List MCell) (p : Nat), p < col →
    (fillLineG width skip mk cc cells col line)[p]? = line[p]? := by
  intro cells
  induction cells with
  | nil => intro col line p _; rfl
  | cons c rest ih =>
    intro col line p hp
    simp only [fillLineG]
    split
    · rfl
    · split
      · exact ih _ _ _ (by omega)
      · rw [ih _ _ _ (by omega), List.getElem?_set_ne (by omega)]

theorem startCol_zero (cells : List α) : startCol width cells 0 = 0 := by simp [startCol]

theorem startCol_succ (c : α) (rest : List α) (i : Nat) :
    startCol width (c :: rest) (i + 1) = width c + startCol width rest i := by
  simp [startCol]

/-- a cell ends inside its row -/
theorem startCol_add_le : ∀ (cells : List α) (i : Nat) (c : α), cells[i]? = some c →
    startCol width cells i + width c ≤ (cells.map width).sum := by
  intro cells i c h
  obtain ⟨hi, rfl⟩ := List.getElem?_eq_some_iff.1 h
  -- the row is the cells before number `i`, that cell, and the rest
  have hsplit := List.take_append_drop i cells
  rw [List.drop_eq_getElem_cons hi] at hsplit
  rw [startCol, ← congrArg (fun l => (l.map width).sum) hsplit]
  simp only [List.map_append, List.sum_append, List.map_cons, List.sum_cons]
  omega

/-- a cell at least one column wide starts inside the widest row -/
theorem startCol_lt_width (rows : List (List α)) (r i : Nat) (row : List α) (c : α)
    (hr : rows[r]? = some row) (hc : row[i]? = some c) (hw : 1 ≤ width c) :
    startCol width row i < Grid.width width rows := by
  have h1 := Grid.row_le_width width rows row (List.mem_of_getElem? hr)
  have h3 := startCol_add_le width row i c hc
  omega

/-- **own cell at its start column** (one row): cell number `i`, not covered, at least one
column wide, starting inside the grid, is found at its start column -/
theorem fillLineG_at (cc : Nat) : ∀ (cells : List α) (col : Nat) (line : List MCell) (i : Nat) (c : α),
    cells[i]? = some c → skip c = false → 1 ≤ width c →
    col + startCol width cells i < cc → col + startCol width cells i < line.length →
    (fillLineG width skip mk cc cells col line)[col + startCol width cells i]? = some (mk c) := by
  intro cells
  induction cells with
  | nil => intro col line i c h; simp at h
  | cons c0 rest ih =>
    intro col line i c hget hskip hw hcc hlen
    cases i with
    | zero =>
      simp only [List.getElem?_cons_zero, Option.some.injEq] at hget
      subst hget
      simp only [startCol_zero, Nat.add_zero] at hcc hlen ⊢
      simp only [fillLineG]
      have h1 : ¬ col ≥ cc := by omega
      simp only [h1, if_false, hskip, Bool.false_eq_true]
      rw [fillLineG_lt _ _ _ _ _ _ _ _ (by omega), List.getElem?_set_self hlen]
    | succ j =>
      simp only [List.getElem?_cons_succ] at hget
      rw [startCol_succ] at hcc hlen ⊢
      simp only [fillLineG]
      have h1 : ¬ col ≥ cc := by omega
      simp only [h1, if_false]
      have hidx : col + (width c0 + startCol width rest j) = (col + width c0) + startCol width rest j := by omega
      rw [hidx] at hcc hlen ⊢
      split
      · exact ih _ _ _ _ hget hskip hw hcc hlen
      · exact ih _ _ _ _ hget hskip hw hcc (by rw [List.length_set]; exact hlen)

/-- the rows written into fresh lines, behind the grid rows `pre` written before -/
theorem fillRowsG_fresh (cc : Nat) (line : List MCell) : ∀ (rows : List (List α)) (pre : List (List MCell)),
    fillRowsG width skip mk cc rows pre.length (pre ++ List.replicate rows.length line)
      = pre ++ rows.map fun row => fillLineG width skip mk cc row 0 line := by
  intro rows
  induction rows with
  | nil => intro pre; rfl
  | cons row rest ih =>
    intro pre
    rw [fillRowsG, fillRowG_eq_modify, List.length_cons, List.replicate_succ, modify_length_append]
    have := ih (pre ++ [fillLineG width skip mk cc row 0 line])
    rw [List.length_append, List.length_singleton, List.append_assoc, List.append_assoc] at this
    exact this

/-- **model_grid**. The grid `ToModelTable` builds (`fillRowsG` over a fresh grid of `colCount`
columns) is, row by row, the cells of the parsed row written into a blank line. -/
theorem model_grid_eq (cc : Nat) (rows : List (List α)) :
    fillRowsG width skip mk cc rows 0 (newGrid rows.length cc)
      = rows.map fun row => fillLineG width skip mk cc row 0 (List.replicate cc blankCell) :=
  fillRowsG_fresh width skip mk cc _ rows []

/-- **model_grid_cell**. In the grid `ToModelTable` builds (`fillRowsG` over a fresh grid of
`colCount` columns), the cell number `i` of row `r` - not covered from above, at least one
column wide, starting inside the grid - stands at row `r`, column = the widths of the cells
before it in its row added up. -/
theorem model_grid_cell (cc : Nat) (rows : List (List α)) (r i : Nat) (row : List α) (c : α)
    (hr : rows[r]? = some row) (hc : row[i]? = some c) (hskip : skip c = false) (hw : 1 ≤ width c)
    (hcc : startCol width row i < cc) :
    ((fillRowsG width skip mk cc rows 0 (newGrid rows.length cc))[r]?).bind (·[startCol width row i]?) = some (mk c) := by
  rw [model_grid_eq, List.getElem?_map, hr]
  have := fillLineG_at width skip mk cc row 0 (List.replicate cc blankCell) i c hc hskip hw (by simpa using hcc) (by simpa using hcc)
  simpa using this

/-- the number of cells of a grid -/
def gridCells (g : List (List MCell)) : Nat := (g.map List.length).sum

/-- **model_grid_shape**. The grid `ToModelTable` builds has one row per parsed row and
`colCount` cells in every row, whatever the cells say: `n x cc` cells. -/
theorem model_grid_shape (cc : Nat) (rows : List (List α)) :
    (fillRowsG width skip mk cc rows 0 (newGrid rows.length cc)).map List.length = List.replicate rows.length cc := by
  rw [model_grid_eq, List.map_map, List.map_congr_left (g := fun _ => cc) fun row _ => by
    rw [Function.comp_apply, fillLineG_length, List.length_replicate], List.map_const']

theorem model_grid_cells (cc : Nat) (rows : List (List α)) :
    gridCells (fillRowsG width skip mk cc rows 0 (newGrid rows.length cc)) = rows.length * cc := by
  unfold gridCells
  rw [model_grid_shape]
  simp

/-- `Docx.mdHeadingLevel` and `Odt.mdHeadingLevel` take the same steps, each on the options of
its own reader: these steps, on the two options as numbers -/
def headingHashes (offset maxLevel : Int) (level : Nat) : Nat :=
  let l0 : Int := if level < 1 then 1 else level
  let l1 := l0 + offset
  let l2 := if l1 < 1 then 1 else l1
  let l3 := if maxLevel > 0 ∧ l2 > maxLevel then maxLevel else l2
  let l4 := if l3 > 6 then 6 else l3
  l4.toNat

theorem headingHashes_range (offset maxLevel : Int) (l : Nat) :
    1 ≤ headingHashes offset maxLevel l ∧ headingHashes offset maxLevel l ≤ 6 := by
  unfold headingHashes
  simp only
  omega

/-- without offset, no cap (`MaxHeadingLevel` ≤ 0) and a cap of 6 or more (the 6 of
`rag.DefaultMarkdownOptions()`) come to the same: the level itself, at least 1, at most 6 -/
theorem headingHashes_uncapped (m : Int) (h : m ≤ 0 ∨ 6 ≤ m) (l : Nat) : headingHashes 0 m l = min (max l 1) 6 := by
  unfold headingHashes
  simp only
  omega

end Tabula.Render
