import TabulaModel.Lemmas.Html
import TabulaModel.Model.HtmlSpec
/-!
The state of the stateful traversal (`trav`, the model of `traverseNodeFiltered` with its list
context) read as a list of blocks — what was emitted plus the pending list items — and what the
operations of the state machine do to that reading: `flushList`, `emit`, the `ul`/`ol` case, the
`li` case (`RefinesB`).  The reading as atoms (`St.flat`, tables opened, item kinds forgotten) is the
reading as blocks projected (`St.flat_eq_flatB`), so a statement of this file carries over to it
(`St.flat_congr`, `RefinesB.toRefines`).  That `trav` itself refines `blocks`, hence `atoms`, is in
Lemmas/HtmlBlocks.lean.
-/
namespace Tabula.Html

def itemAtom (i : Item) : Atom := .item i.level i.text

/-- atoms already emitted plus the pending list items -/
def St.flat (s : St) : List Atom := flatten s.out ++ s.items.map itemAtom

def St.lc (s : St) : LC := ⟨s.inList, s.level⟩

/-- outside a list nothing is pending and the level is 0 -/
def St.ok (s : St) : Prop := s.inList = false → s.items = [] ∧ s.level = 0

def St.flatB (s : St) : List Block := flattenB s.out ++ s.items.map itemBlock

def St.lcB (s : St) : LCB := ⟨s.inList, s.level, s.inList && s.ordered⟩

theorem flattenB_append (a b : List Element) : flattenB (a ++ b) = flattenB a ++ flattenB b := by
  simp [flattenB]

theorem flattenB_single (e : Element) : flattenB [e] = e.blocks := by
  simp [flattenB]

/-! ### the atoms of a state are its blocks, tables opened and item kinds forgotten -/

theorem itemBlocks_atoms (items : List Item) : (items.map itemBlock).flatMap Block.atoms = items.map itemAtom :=
  (List.flatMap_map ..).trans List.map_eq_flatMap.symm

theorem flatten_eq_flattenB (els : List Element) : flatten els = (flattenB els).flatMap Block.atoms := by
  induction els with
  | nil => rfl
  | cons e rest ih =>
    have he : e.atoms = e.blocks.flatMap Block.atoms := by
      cases e with
      | list o items => exact (itemBlocks_atoms items).symm
      | _ => simp [Element.atoms, Element.blocks, Block.atoms]
    simp only [flatten, flattenB, List.flatMap_cons, List.flatMap_append] at ih ⊢
    rw [ih, he]

theorem St.flat_eq_flatB (s : St) : s.flat = s.flatB.flatMap Block.atoms := by
  rw [St.flat, St.flatB, List.flatMap_append, flatten_eq_flattenB, itemBlocks_atoms]

theorem St.flat_congr {s s' : St} (h : s'.flatB = s.flatB) : s'.flat = s.flat := by
  rw [St.flat_eq_flatB, St.flat_eq_flatB, h]

theorem flushList_flatB (s : St) : (flushList s).flatB = s.flatB := by
  unfold flushList St.flatB
  split
  · simp [flattenB_append, flattenB_single, Element.blocks]
  · rfl

theorem flushList_flat (s : St) : (flushList s).flat = s.flat := St.flat_congr (flushList_flatB s)

theorem flushList_inList (s : St) : (flushList s).inList = s.inList := by
  unfold flushList; split <;> rfl

theorem flushList_level (s : St) : (flushList s).level = s.level := by
  unfold flushList; split <;> rfl

theorem flushList_ordered (s : St) : (flushList s).ordered = s.ordered := by
  unfold flushList; split <;> rfl

theorem flushList_items (s : St) (h : s.ok) : (flushList s).items = [] := by
  unfold flushList
  split
  · rfl
  · rename_i hc
    cases hi : s.inList with
    | false => exact (h hi).1
    | true =>
      simp [hi] at hc
      exact hc

theorem flushList_ok (s : St) (h : s.ok) : (flushList s).ok := by
  intro hi
  rw [flushList_inList] at hi
  rw [flushList_level]
  exact ⟨flushList_items s h, (h hi).2⟩

theorem flushList_outB (s : St) (h : s.ok) : flattenB (flushList s).out = s.flatB := by
  have := flushList_flatB s
  rwa [St.flatB, flushList_items s h, List.map_nil, List.append_nil] at this

/-- after the final flush the output alone holds everything -/
theorem flushList_out (s : St) (h : s.ok) : flatten (flushList s).out = s.flat := by
  rw [flatten_eq_flattenB, flushList_outB s h, St.flat_eq_flatB]

theorem emit_flatB (s : St) (e : Element) (h : s.items = []) : (s.emit e).flatB = s.flatB ++ e.blocks := by
  simp [St.emit, St.flatB, h, flattenB_append, flattenB_single]

/-- `s'` continues `s` by exactly the blocks `bs`, in the same list context -/
structure RefinesB (s s' : St) (bs : List Block) : Prop where
  flat : s'.flatB = s.flatB ++ bs
  inList : s'.inList = s.inList
  level : s'.level = s.level
  ordered : s.inList = true → s'.ordered = s.ordered
  ok : s'.ok

theorem RefinesB.rfl' (s : St) (h : s.ok) : RefinesB s s [] := ⟨by simp, rfl, rfl, fun _ => rfl, h⟩

theorem RefinesB.trans {s s1 s2 : St} {a b : List Block} (h1 : RefinesB s s1 a) (h2 : RefinesB s1 s2 b) :
    RefinesB s s2 (a ++ b) :=
  ⟨by rw [h2.flat, h1.flat, List.append_assoc], h2.inList.trans h1.inList, h2.level.trans h1.level,
   fun hi => (h2.ordered (h1.inList.trans hi)).trans (h1.ordered hi), h2.ok⟩

theorem RefinesB.lc {s s' : St} {a : List Block} (h : RefinesB s s' a) : s'.lcB = s.lcB := by
  cases hi : s.inList with
  | true => simp [St.lcB, h.inList, h.level, hi, h.ordered hi]
  | false => simp [St.lcB, h.inList, h.level, hi]

/-- `s'` continues `s` by exactly the atoms `as`, in the same list context -/
structure Refines (s s' : St) (as : List Atom) : Prop where
  flat : s'.flat = s.flat ++ as
  inList : s'.inList = s.inList
  level : s'.level = s.level
  ok : s'.ok

theorem RefinesB.toRefines {s s' : St} {bs : List Block} (h : RefinesB s s' bs) :
    Refines s s' (bs.flatMap Block.atoms) :=
  ⟨by rw [St.flat_eq_flatB, St.flat_eq_flatB, h.flat, List.flatMap_append], h.inList, h.level, h.ok⟩

theorem refinesB_flush (s : St) (h : s.ok) : RefinesB s (flushList s) [] :=
  ⟨by simp [flushList_flatB], flushList_inList s, flushList_level s, fun _ => flushList_ordered s,
   flushList_ok s h⟩

theorem refinesB_flush_emit (s : St) (h : s.ok) (e : Element) : RefinesB s ((flushList s).emit e) e.blocks :=
  ⟨by rw [emit_flatB _ _ (flushList_items s h), flushList_flatB],
   by simp [St.emit, flushList_inList], by simp [St.emit, flushList_level],
   fun _ => by simp [St.emit, flushList_ordered],
   by
     intro hi
     have := flushList_ok s h
     simp only [St.emit] at hi ⊢
     exact this hi⟩

theorem emitRun_refinesB (run : Str) (s : St) (h : s.ok) : RefinesB s (emitRun run s) (runBlocks run) := by
  unfold emitRun runBlocks
  split
  · have := refinesB_flush_emit s h (.para (trim run))
    simpa [Element.blocks] using this
  · exact RefinesB.rfl' s h

theorem liHead_refinesB (kids : List Dom) (s : St) (hin : s.inList = true) :
    (liHead kids s).flatB = s.flatB ++
      (if getDirectTextContent kids != [] then [Block.item s.level (getDirectTextContent kids) s.ordered] else []) ∧
    (liHead kids s).inList = true ∧ (liHead kids s).level = s.level + 1 ∧ (liHead kids s).ordered = s.ordered := by
  unfold liHead
  by_cases ht : (getDirectTextContent kids != []) = true
  · simp [ht, St.flatB, itemBlock, hin]
  · simp [ht, St.flatB, hin]

/-- what entering a `ul`/`ol` does to the list context -/
theorem listEnter_shape (ord : Bool) (s : St) :
    (listEnter ord s).inList = true ∧ (listEnter ord s).level = (if s.inList then s.level else 0) ∧
    (listEnter ord s).ordered = ord ∧ (listEnter ord s).ok := by
  have e : ∀ s1 : St, s1.inList = s.inList → s1.level = s.level →
      ({ s1 with inList := true, ordered := ord, items := if s1.inList then s1.items else [],
                 level := if s1.inList then s1.level else 0 } : St).level = if s.inList then s.level else 0 := by
    intro s1 h1 h2; simp only [h1, h2]
  unfold listEnter
  refine ⟨rfl, ?_, rfl, fun hc => by cases hc⟩
  split
  · exact e _ (flushList_inList s) (flushList_level s)
  · exact e _ rfl rfl

theorem listEnter_flatB (ord : Bool) (s : St) (h : s.ok) : (listEnter ord s).flatB = s.flatB := by
  have e : ∀ s1 : St, s1.flatB = s.flatB → s1.ok →
      ({ s1 with inList := true, ordered := ord, items := if s1.inList then s1.items else [],
                 level := if s1.inList then s1.level else 0 } : St).flatB = s.flatB := by
    intro s1 hf hok
    rw [← hf]
    cases hin : s1.inList with
    | true => rfl
    | false => simp [St.flatB, (hok hin).1]
  unfold listEnter
  split
  · exact e _ (flushList_flatB s) (flushList_ok s h)
  · exact e _ rfl h

theorem listEnter_lcB (ord : Bool) (s : St) : (listEnter ord s).lcB = s.lcB.enter ord := by
  have sh := listEnter_shape ord s
  unfold St.lcB LCB.enter
  rw [sh.1, sh.2.1, sh.2.2.1]
  cases s.inList <;> rfl

theorem listExit_flatB (s s3 : St) : (listExit s s3).flatB = s3.flatB := by
  unfold listExit
  cases s.inList with
  | true => rfl
  | false =>
    by_cases hit : (s3.items != []) = true
    · simp [hit, St.flatB, St.emit, flattenB_append, flattenB_single, Element.blocks]
    · have : s3.items = [] := by simpa using hit
      simp [St.flatB, this]

/-- … and restores the list context of the state `s` the list was entered from -/
theorem listExit_shape (s s3 : St) (h : s.ok) (h3 : s3.inList = true) :
    (listExit s s3).inList = s.inList ∧ (listExit s s3).level = s.level ∧
    (listExit s s3).ordered = s.ordered ∧ (listExit s s3).ok := by
  unfold listExit
  cases hsi : s.inList with
  | true =>
    refine ⟨h3, rfl, rfl, fun hc => ?_⟩
    have : s3.inList = false := hc
    rw [h3] at this; cases this
  | false => exact ⟨rfl, rfl, rfl, fun _ => ⟨rfl, (h hsi).2⟩⟩

theorem listExit_refinesB (ord : Bool) (s s3 : St) (bs : List Block) (h : s.ok)
    (h2 : RefinesB (listEnter ord s) s3 bs) : RefinesB s (listExit s s3) bs := by
  have sh := listExit_shape s s3 h (h2.inList.trans (listEnter_shape ord s).1)
  exact ⟨by rw [listExit_flatB, h2.flat, listEnter_flatB ord s h], sh.1, sh.2.1, fun _ => sh.2.2.1, sh.2.2.2⟩

/-- the `li` case inside a list, for any child loop `f` that refines `bs` -/
theorem li_refinesB_inList (kids : List Dom) (f : St → St) (bs : LCB → List Block)
    (hf : ∀ s', s'.ok → RefinesB s' (f s') (bs s'.lcB)) (s : St) (hin : s.inList = true) :
    RefinesB s (liExit (f (liHead kids s)))
      ((if getDirectTextContent kids != [] then [Block.item s.level (getDirectTextContent kids) s.ordered] else []) ++
        bs ⟨true, s.level + 1, s.ordered⟩) := by
  have hh := liHead_refinesB kids s hin
  have h2 := hf (liHead kids s) (fun hi => by rw [hh.2.1] at hi; cases hi)
  have hlc : (liHead kids s).lcB = ⟨true, s.level + 1, s.ordered⟩ := by
    simp [St.lcB, hh.2.1, hh.2.2.1, hh.2.2.2]
  rw [hlc] at h2
  have hi : (f (liHead kids s)).inList = true := h2.inList.trans hh.2.1
  -- `liExit` only lowers the level again
  refine ⟨?_, hi.trans hin.symm, ?_, fun _ => (h2.ordered hh.2.1).trans hh.2.2.2, fun hc => ?_⟩
  · show (f (liHead kids s)).flatB = _
    rw [h2.flat, hh.1, List.append_assoc]
  · show (f (liHead kids s)).level - 1 = _
    rw [h2.level, hh.2.2.1]; rfl
  · rw [show (liExit (f (liHead kids s))).inList = true from hi] at hc; cases hc

/-- the `li` case: inside a list as above, outside a list in a list of its own that is closed
(and flushed) afterwards -/
theorem li_refinesB (kids : List Dom) (f : St → St) (bs : LCB → List Block)
    (hf : ∀ s', s'.ok → RefinesB s' (f s') (bs s'.lcB)) (s : St) (h : s.ok) :
    RefinesB s
      (if s.inList then liExit (f (liHead kids s)) else strayExit (liExit (f (liHead kids (strayEnter s)))))
      ((if getDirectTextContent kids != [] then
          [Block.item s.lcB.forItem.level (getDirectTextContent kids) s.lcB.forItem.ordered] else []) ++
        bs ⟨true, s.lcB.forItem.level + 1, s.lcB.forItem.ordered⟩) := by
  cases hin : s.inList with
  | true =>
    have hfi : s.lcB.forItem = ⟨true, s.level, s.ordered⟩ := by simp [St.lcB, LCB.forItem, hin]
    rw [hfi, if_pos rfl]
    exact li_refinesB_inList kids f bs hf s hin
  | false =>
    have hfi : s.lcB.forItem = ⟨true, 0, false⟩ := by simp [St.lcB, LCB.forItem, hin]
    rw [hfi, if_neg Bool.false_ne_true]
    have hs0 := h hin
    have h1 := li_refinesB_inList kids f bs hf (strayEnter s) rfl
    generalize liExit (f (liHead kids (strayEnter s))) = x at h1
    have hx : x.ok := fun hi => by rw [h1.inList] at hi; cases hi
    have hflat0 : (strayEnter s).flatB = s.flatB := by simp [strayEnter, St.flatB, hs0.1]
    have hlev : (flushList x).level = 0 := (flushList_level x).trans h1.level
    refine ⟨?_, hin.symm, hlev.trans hs0.2.symm, fun hi => (by rw [hin] at hi; cases hi),
      fun _ => ⟨rfl, hlev⟩⟩
    have e : (strayExit x).flatB = (flushList x).flatB := by
      simp [strayExit, St.flatB, flushList_items x hx]
    rw [e, flushList_flatB, h1.flat, hflat0]
    rfl

end Tabula.Html
