import TabulaModel.Model.A1
import TabulaModel.Lemmas.ListBasics
import TabulaModel.Lemmas.Decimal
/-!
Column letters of xlsx/cell.go (Model/A1.lean): `ColumnToIndex`'s loop `colAcc` is the bijective
base-26 number `colVal` cut at `maxColumnNumber`, and `IndexToColumn`'s loop `toColAux` prints that
number back.  The decimal row numbers are in Lemmas/Decimal.lean.  Core Lean only.
-/
namespace Tabula.A1

/-- the column number the letters denote in bijective base 26, without any bound (`none`: a
character that is no letter).  This is the loop of `ColumnToIndex` before the fix that rejects
overflowing column letters, kept as the specification the bounded loop `colAcc` is compared
with (`colAcc_eq_colVal`). -/
def colVal : Str → Nat → Option Nat
  | [], acc => some acc
  | c :: cs, acc =>
    let u := upper c
    if 65 ≤ u && u ≤ 90 then colVal cs (acc * 26 + (u - 65) + 1) else none

theorem colVal_ge (s : Str) (a r : Nat) (h : colVal s a = some r) : a ≤ r := by
  induction s generalizing a with
  | nil => simp [colVal] at h; omega
  | cons c cs ih =>
    simp only [colVal] at h
    split at h
    · have := ih _ h; omega
    · cases h

/-- **the bounded loop is the unbounded number cut at `maxColumnNumber`**: the test after every
letter rejects exactly the strings whose number exceeds the bound (the number only grows) -/
theorem colAcc_eq_colVal (s : Str) (a : Nat) (ha : a ≤ maxColumnNumber) :
    colAcc s a = (colVal s a).bind fun r => if r ≤ maxColumnNumber then some r else none := by
  induction s generalizing a with
  | nil => simp [colAcc, colVal, ha]
  | cons c cs ih =>
    simp only [colAcc, colVal]
    split
    · split
      · rename_i hgt
        cases hv : colVal cs (a * 26 + (upper c - 65) + 1) with
        | none => rfl
        | some r =>
          have := colVal_ge cs _ r hv
          have : ¬ r ≤ maxColumnNumber := by omega
          simp [this]
      · rename_i hle
        exact ih _ (by omega)
    · rfl

theorem colVal_append (s t : Str) (a : Nat) :
    colVal (s ++ t) a = (colVal s a).bind (colVal t) := by
  induction s generalizing a with
  | nil => simp [colVal]
  | cons c cs ih =>
    simp only [List.cons_append, colVal]
    split
    · exact ih _
    · rfl

theorem toColAux_acc (n : Nat) (acc : Str) : toColAux n acc = toColAux n [] ++ acc := by
  induction n using Nat.strongRecOn generalizing acc with
  | _ n ih =>
    cases n with
    | zero => simp [toColAux]
    | succ m =>
      rw [toColAux, toColAux]
      rw [ih (m / 26) (by omega) ((65 + m % 26) :: acc), ih (m / 26) (by omega) [65 + m % 26]]
      simp

theorem upper_upperLetter (c : Nat) (h2 : c ≤ 90) : upper c = c := by
  unfold upper
  have : ¬ (97 ≤ c) := by omega
  simp [this]

theorem colVal_upperLetter (c : Nat) (cs : Str) (a : Nat) (h1 : 65 ≤ c) (h2 : c ≤ 90) :
    colVal (c :: cs) a = colVal cs (a * 26 + (c - 65) + 1) := by
  simp only [colVal, upper_upperLetter c h2, h1, h2, decide_true, Bool.and_self, if_true]

theorem colVal_toColAux (n : Nat) : colVal (toColAux n []) 0 = some n := by
  induction n using Nat.strongRecOn with
  | _ n ih =>
    cases n with
    | zero => simp [toColAux, colVal]
    | succ m =>
      rw [toColAux, toColAux_acc, colVal_append, ih (m / 26) (by omega), Option.bind_some,
        colVal_upperLetter _ _ _ (by omega) (by omega), colVal]
      congr 1
      omega

/-- all characters are upper-case ASCII letters -/
def IsUpperCol (s : Str) : Prop := ∀ c ∈ s, 65 ≤ c ∧ c ≤ 90

theorem toColAux_foldl (s : Str) (hs : IsUpperCol s) (a : Nat) :
    toColAux (s.foldl (fun a c => a * 26 + (c - 64)) a) [] = toColAux a [] ++ s := by
  induction s generalizing a with
  | nil => simp
  | cons c cs ih =>
    have hc := hs c (by simp)
    rw [List.foldl_cons, ih (fun d hd => hs d (by simp [hd])),
      show a * 26 + (c - 64) = (a * 26 + (c - 65)) + 1 by omega, toColAux, toColAux_acc,
      show (a * 26 + (c - 65)) / 26 = a by omega, show 65 + (a * 26 + (c - 65)) % 26 = c by omega]
    simp

/-- the number an upper-case letter string denotes in bijective base 26 (A=1 … Z=26, AA=27 …):
`ColumnToIndex` answers this number minus one, if it is at most `maxColumnNumber` -/
def colNumber (s : Str) : Nat := s.foldl (fun a c => a * 26 + (c - 64)) 0

theorem colVal_upper_eq (s : Str) (hs : IsUpperCol s) (a : Nat) :
    colVal s a = some (s.foldl (fun a c => a * 26 + (c - 64)) a) := by
  induction s generalizing a with
  | nil => rfl
  | cons c cs ih =>
    have hc := hs c (by simp)
    rw [colVal_upperLetter c cs a hc.1 hc.2, ih (fun d hd => hs d (by simp [hd])), List.foldl_cons,
      show a * 26 + (c - 65) + 1 = a * 26 + (c - 64) by omega]

/-- `ColumnToIndex`'s loop on the letters `IndexToColumn` prints for the number `n` -/
theorem colAcc_toColAux (n : Nat) :
    colAcc (toColAux n []) 0 = if n ≤ maxColumnNumber then some n else none := by
  rw [colAcc_eq_colVal _ 0 (by decide), colVal_toColAux]; rfl

/-- `ColumnToIndex`'s loop on an upper-case letter string: its number, unless beyond the bound;
and `IndexToColumn`'s loop prints the string back from the number -/
theorem colAcc_upper (s : Str) (hs : IsUpperCol s) :
    colAcc s 0 = (if colNumber s ≤ maxColumnNumber then some (colNumber s) else none) ∧
      (s ≠ [] → 1 ≤ colNumber s) ∧ toColAux (colNumber s) [] = s := by
  have hr : colVal s 0 = some (colNumber s) := colVal_upper_eq s hs 0
  refine ⟨by rw [colAcc_eq_colVal _ 0 (by decide), hr]; rfl, fun hne => ?_, ?_⟩
  · cases s with
    | nil => exact absurd rfl hne
    | cons c cs =>
      have hc := hs c (by simp)
      rw [colVal_upperLetter c cs 0 hc.1 hc.2] at hr
      have := colVal_ge cs _ _ hr
      omega
  · rw [colNumber, toColAux_foldl s hs 0]; simp [toColAux]
theorem foldl_col_bound (s : Str) (hs : IsUpperCol s) (a : Nat) :
    s.foldl (fun a c => a * 26 + (c - 64)) a + 2 ≤ (a + 2) * 26 ^ s.length := by
  induction s generalizing a with
  | nil => simp
  | cons c cs ih =>
    have hc := hs c (by simp)
    have hcs : IsUpperCol cs := fun d hd => hs d (by simp [hd])
    simp only [List.foldl_cons, List.length_cons]
    refine Nat.le_trans (ih hcs _) ?_
    have h1 : a * 26 + (c - 64) + 2 ≤ (a + 2) * 26 := by omega
    calc (a * 26 + (c - 64) + 2) * 26 ^ cs.length ≤ ((a + 2) * 26) * 26 ^ cs.length := Nat.mul_le_mul_right _ h1
      _ = (a + 2) * 26 ^ (cs.length + 1) := by rw [Nat.pow_succ, Nat.mul_assoc, Nat.mul_comm 26]

/-- every column of up to eight letters (a worksheet ends at XFD) is within the bound -/
theorem colNumber_short (s : Str) (hs : IsUpperCol s) (hlen : s.length ≤ 8) :
    colNumber s ≤ maxColumnNumber := by
  have h := foldl_col_bound s hs 0
  have hp : 26 ^ s.length ≤ 26 ^ 8 := Nat.pow_le_pow_right (by omega) hlen
  have h8 : (26 : Nat) ^ 8 = 208827064576 := by decide
  unfold colNumber maxColumnNumber
  omega

theorem toColAux_letters (n : Nat) : ∀ c ∈ toColAux n [], 65 ≤ c ∧ c ≤ 90 := by
  induction n using Nat.strongRecOn with
  | _ n ih =>
    cases n with
    | zero => simp [toColAux]
    | succ m =>
      rw [toColAux, toColAux_acc]
      intro c hc
      simp at hc
      rcases hc with hc | hc
      · exact ih _ (by omega) c hc
      · omega

theorem toColAux_ne_nil (n : Nat) (h : 0 < n) : toColAux n [] ≠ [] := by
  cases n with
  | zero => omega
  | succ m =>
    rw [toColAux, toColAux_acc]
    simp

theorem takeWhile_letters_append (l : Str) (d : Nat) (ds : Str)
    (hl : ∀ c ∈ l, 65 ≤ c ∧ c ≤ 90) (hd : 48 ≤ d ∧ d ≤ 57) :
    (l ++ d :: ds).takeWhile isLetter = l ∧ (l ++ d :: ds).dropWhile isLetter = d :: ds := by
  have h1 : ∀ c ∈ l, isLetter c = true := fun c hc => by
    unfold isLetter; simp [(hl c hc).1, (hl c hc).2]
  have h2 : isLetter d = false := by
    unfold isLetter
    have a : ¬ 65 ≤ d := by omega
    have b : ¬ 97 ≤ d := by omega
    simp [a, b]
  exact ⟨List.takeWhile_append_cons_of_neg h1 h2, List.dropWhile_append_cons_of_neg h1 h2⟩

end Tabula.A1
