import TabulaModel.Model.Split
/-!
Helper lemmas for C13: whitespace-only strings, `strings.TrimSpace` removes only
whitespace from both ends, the decomposition of a text into gaps and pieces, `FindSplitPointAt`
and the loop of `SplitToSize` case by case with the induction along it, and
`ChunkDocumentWithConfig` as that loop.
-/
set_option linter.unusedVariables false
namespace Tabula.Split

/-- Induction along a left fold whose state accounts for what has been consumed: if each step
over an element `a` (of which `Q` holds) takes a state that stands for `content` to one that
stands for `content ++ g a`, the fold over `l` takes it to one for `content ++ l.flatMap g`. -/
theorem foldl_content {α γ σ : Type} {P : List γ → σ → Prop} {Q : α → Prop} {step : σ → α → σ}
    {g : α → List γ} (hstep : ∀ content s a, Q a → P content s → P (content ++ g a) (step s a)) :
    ∀ (l : List α) (content : List γ) (s : σ), (∀ a ∈ l, Q a) → P content s →
      P (content ++ l.flatMap g) (l.foldl step s) := by
  intro l
  induction l with
  | nil => intro content s _ h; simpa using h
  | cons a rest ih =>
    intro content s hq h
    rw [List.foldl_cons, List.flatMap_cons, ← List.append_assoc]
    exact ih _ _ (fun x hx => hq x (List.mem_cons_of_mem _ hx))
      (hstep content s a (hq a (List.mem_cons_self ..)) h)

/-- `c` is the encoding of exactly one White_Space character -/
def IsWsChar (c : Str) : Prop := c ≠ [] ∧ spaceLen c = c.length

/-- a concatenation of White_Space characters -/
inductive WsOnly : Str → Prop
  | nil : WsOnly []
  | cons {c s : Str} : IsWsChar c → WsOnly s → WsOnly (c ++ s)

theorem WsOnly.append {a b : Str} (ha : WsOnly a) (hb : WsOnly b) : WsOnly (a ++ b) := by
  induction ha with
  | nil => simpa using hb
  | cons hc _ ih => rw [List.append_assoc]; exact .cons hc ih

theorem WsOnly.single {c : Str} (h : IsWsChar c) : WsOnly c := by
  have := WsOnly.cons h .nil
  simpa using this

theorem wsOnly_space : WsOnly [32] := WsOnly.single ⟨by simp, by decide⟩
theorem wsOnly_nl : WsOnly [10] := WsOnly.single ⟨by simp, by decide⟩
theorem wsOnly_nlnl : WsOnly [10, 10] := WsOnly.cons (c := [10]) ⟨by simp, by decide⟩ wsOnly_nl

theorem isSpace3_not_ascii {b c d : Nat} (h : isSpace3 b c d = true) :
    isAsciiSpace b = false ∧ isSpace2 b c = false := by
  simp only [isSpace3, Bool.or_eq_true, Bool.and_eq_true, beq_iff_eq,
    decide_eq_true_eq] at h
  constructor
  · simp only [isAsciiSpace, Bool.or_eq_false_iff, Bool.and_eq_false_iff, decide_eq_false_iff_not,
      beq_eq_false_iff_ne]
    omega
  · simp only [isSpace2, Bool.and_eq_false_iff, beq_eq_false_iff_ne]
    omega

theorem isSpace2_not_ascii {b c : Nat} (h : isSpace2 b c = true) : isAsciiSpace b = false := by
  simp only [isSpace2, Bool.and_eq_true, beq_iff_eq] at h
  simp only [isAsciiSpace, Bool.or_eq_false_iff, Bool.and_eq_false_iff, decide_eq_false_iff_not,
    beq_eq_false_iff_ne]
  omega

/-- the shapes with a non-zero `spaceLen` -/
theorem spaceLen_cases (s : Str) :
    spaceLen s = 0
    ∨ (∃ b r, s = b :: r ∧ isAsciiSpace b = true ∧ spaceLen s = 1)
    ∨ (∃ b c r, s = b :: c :: r ∧ isSpace2 b c = true ∧ spaceLen s = 2)
    ∨ (∃ b c d r, s = b :: c :: d :: r ∧ isSpace3 b c d = true ∧ spaceLen s = 3) := by
  match s with
  | [] => left; rfl
  | b :: r =>
    cases h1 : isAsciiSpace b
    · match r with
      | [] => left; simp [spaceLen, h1]
      | c :: r =>
        cases h2 : isSpace2 b c
        · match r with
          | [] => left; simp [spaceLen, h1, h2]
          | d :: r =>
            cases h3 : isSpace3 b c d
            · left; simp [spaceLen, h1, h2, h3]
            · right; right; right; exact ⟨b, c, d, r, rfl, h3, by simp [spaceLen, h1, h2, h3]⟩
        · right; right; left; exact ⟨b, c, r, rfl, h2, by simp [spaceLen, h1, h2]⟩
    · right; left; exact ⟨b, r, rfl, h1, by simp [spaceLen, h1]⟩

/-- … and with a non-zero `spaceLenRev` -/
theorem spaceLenRev_cases (r : Str) :
    spaceLenRev r = 0
    ∨ (∃ d t, r = d :: t ∧ isAsciiSpace d = true ∧ spaceLenRev r = 1)
    ∨ (∃ d c t, r = d :: c :: t ∧ isSpace2 c d = true ∧ spaceLenRev r = 2)
    ∨ (∃ d c b t, r = d :: c :: b :: t ∧ isSpace3 b c d = true ∧ spaceLenRev r = 3) := by
  match r with
  | [] => left; rfl
  | d :: r =>
    cases h1 : isAsciiSpace d
    · match r with
      | [] => left; simp [spaceLenRev, h1]
      | c :: r =>
        cases h2 : isSpace2 c d
        · match r with
          | [] => left; simp [spaceLenRev, h1, h2]
          | b :: r =>
            cases h3 : isSpace3 b c d
            · left; simp [spaceLenRev, h1, h2, h3]
            · right; right; right; exact ⟨d, c, b, r, rfl, h3, by simp [spaceLenRev, h1, h2, h3]⟩
        · right; right; left; exact ⟨d, c, r, rfl, h2, by simp [spaceLenRev, h1, h2]⟩
    · right; left; exact ⟨d, r, rfl, h1, by simp [spaceLenRev, h1]⟩

/-- what `trimLeft` strips in one step is one White_Space character -/
theorem isWsChar_take_spaceLen (s : Str) (h : spaceLen s ≠ 0) : IsWsChar (s.take (spaceLen s)) := by
  rcases spaceLen_cases s with h0 | ⟨b, r, rfl, h1, e⟩ | ⟨b, c, r, rfl, h2, e⟩
    | ⟨b, c, d, r, rfl, h3, e⟩
  · exact absurd h0 h
  · rw [e]; simp [IsWsChar, spaceLen, h1]
  · rw [e]; simp [IsWsChar, spaceLen, h2, isSpace2_not_ascii h2]
  · rw [e]; simp [IsWsChar, spaceLen, h3, isSpace3_not_ascii h3]

/-- what `trimRight` strips in one step (on the reversed string) is one White_Space character -/
theorem isWsChar_take_spaceLenRev (r : Str) (h : spaceLenRev r ≠ 0) :
    IsWsChar (r.take (spaceLenRev r)).reverse := by
  rcases spaceLenRev_cases r with h0 | ⟨d, t, rfl, h1, e⟩ | ⟨d, c, t, rfl, h2, e⟩
    | ⟨d, c, b, t, rfl, h3, e⟩
  · exact absurd h0 h
  · rw [e]; simp [IsWsChar, spaceLen, h1]
  · rw [e]; simp [IsWsChar, spaceLen, h2, isSpace2_not_ascii h2]
  · rw [e]; simp [IsWsChar, spaceLen, h3, isSpace3_not_ascii h3]

theorem trimLeft_decomp (s : Str) : ∃ l, WsOnly l ∧ s = l ++ trimLeft s := by
  induction s using trimLeft.induct with
  | case1 s h => exact ⟨[], .nil, by rw [trimLeft, dif_pos h]; rfl⟩
  | case2 s h ih =>
    obtain ⟨l, hl, e⟩ := ih
    refine ⟨s.take (spaceLen s) ++ l, .cons (isWsChar_take_spaceLen s h) hl, ?_⟩
    rw [trimLeft, dif_neg h, List.append_assoc, ← e, List.take_append_drop]

theorem trimLeftRev_decomp (r : Str) : ∃ l, WsOnly l.reverse ∧ r = l ++ trimLeftRev r := by
  induction r using trimLeftRev.induct with
  | case1 r h => exact ⟨[], .nil, by rw [trimLeftRev, dif_pos h]; rfl⟩
  | case2 r h ih =>
    obtain ⟨l, hl, e⟩ := ih
    refine ⟨r.take (spaceLenRev r) ++ l, ?_, ?_⟩
    · rw [List.reverse_append]
      exact hl.append (.single (isWsChar_take_spaceLenRev r h))
    · rw [trimLeftRev, dif_neg h, List.append_assoc, ← e, List.take_append_drop]

theorem trimRight_decomp (s : Str) : ∃ r, WsOnly r ∧ s = trimRight s ++ r := by
  obtain ⟨l, hl, e⟩ := trimLeftRev_decomp s.reverse
  refine ⟨l.reverse, hl, ?_⟩
  have := congrArg List.reverse e
  rw [List.reverse_reverse, List.reverse_append] at this
  exact this

/-- `strings.TrimSpace` removes only whitespace, from both ends -/
theorem trimSpace_decomp (s : Str) :
    ∃ l r, WsOnly l ∧ WsOnly r ∧ s = l ++ trimSpace s ++ r := by
  obtain ⟨l, hl, e1⟩ := trimLeft_decomp s
  obtain ⟨r, hr, e2⟩ := trimRight_decomp (trimLeft s)
  refine ⟨l, r, hl, hr, ?_⟩
  unfold trimSpace
  rw [List.append_assoc, ← e2, ← e1]

theorem trimSpace_nil : trimSpace [] = [] := by decide +kernel

theorem trimLeft_idem (s : Str) : trimLeft (trimLeft s) = trimLeft s := by
  induction s using trimLeft.induct with
  | case1 s h =>
    have e : trimLeft s = s := by rw [trimLeft, dif_pos h]
    rw [e, e]
  | case2 s h ih =>
    have e : trimLeft s = trimLeft (s.drop (spaceLen s)) := by rw [trimLeft, dif_neg h]
    rw [e]
    exact ih

theorem trimSpace_trimLeft (s : Str) : trimSpace (trimLeft s) = trimSpace s := by
  unfold trimSpace
  rw [trimLeft_idem]

theorem wsOnly_of_trimSpace_nil (s : Str) (h : trimSpace s = []) : WsOnly s := by
  obtain ⟨l, r, hl, hr, e⟩ := trimSpace_decomp s
  rw [h] at e
  rw [e]
  simpa using hl.append hr

/-- `Pieces text ps`: the pieces `ps` are, in order, disjoint substrings of `text`, and
everything between them, before the first and after the last is whitespace only. -/
inductive Pieces : Str → List Str → Prop
  | done {g : Str} : WsOnly g → Pieces g []
  | piece {g p r : Str} {ps : List Str} : WsOnly g → Pieces r ps → Pieces (g ++ p ++ r) (p :: ps)

theorem Pieces.append_right {t : Str} {ps : List Str} (h : Pieces t ps) {r : Str} (hr : WsOnly r) :
    Pieces (t ++ r) ps := by
  induction h with
  | done hg => exact .done (hg.append hr)
  | piece hg _ ih => rw [List.append_assoc]; exact .piece hg ih

theorem Pieces.prepend {t : Str} {ps : List Str} (h : Pieces t ps) {g : Str} (hg : WsOnly g) :
    Pieces (g ++ t) ps := by
  induction h with
  | done hx => exact .done (hg.append hx)
  | @piece g' p r' ps' hg' hrest _ =>
    have : g ++ (g' ++ p ++ r') = (g ++ g') ++ p ++ r' := by simp [List.append_assoc]
    rw [this]
    exact .piece (hg.append hg') hrest

theorem Pieces.surround {t : Str} {ps : List Str} (h : Pieces t ps) {g r : Str}
    (hg : WsOnly g) (hr : WsOnly r) : Pieces (g ++ t ++ r) ps := by
  rw [List.append_assoc]
  exact (h.append_right hr).prepend hg

theorem Pieces.cast {t t' : Str} {ps : List Str} (h : Pieces t ps) (e : t' = t) : Pieces t' ps :=
  e ▸ h

theorem Pieces.map_trimSpace {t : Str} {ps : List Str} (h : Pieces t ps) :
    Pieces t (ps.map trimSpace) := by
  induction h with
  | done hg => exact .done hg
  | @piece g p r ps hg hrest ih =>
    obtain ⟨l, r', hl, hr', e⟩ := trimSpace_decomp p
    have h1 := Pieces.piece (p := trimSpace p) (hg.append hl) (ih.prepend hr')
    refine h1.cast ?_
    have : g ++ p ++ r = g ++ (l ++ trimSpace p ++ r') ++ r := by rw [← e]
    rw [this]; simp [List.append_assoc]

/-- the pieces are sub-lists of the text: their total length is at most its length -/
theorem Pieces.length_le {t : Str} {ps : List Str} (h : Pieces t ps) :
    (ps.map List.length).sum ≤ t.length := by
  induction h with
  | done _ => simp
  | piece _ _ ih => simp only [List.map_cons, List.sum_cons, List.length_append]; omega

theorem Pieces.whole (p : Str) : Pieces p [p] := by
  simpa using Pieces.piece (p := p) .nil (.done .nil)

/-- `trimSpace x` as zero or one piece of `x`: what a loop emits when it closes the segment `x` -/
def emit (x : Str) : List Str := if trimSpace x = [] then [] else [trimSpace x]

theorem forall_mem_emit {P : Str → Prop} {x : Str} :
    (∀ p ∈ emit x, P p) ↔ (trimSpace x ≠ [] → P (trimSpace x)) := by
  unfold emit
  split <;> simp [*]

/-- the segment `x` in front of a text cut into pieces -/
theorem emit_pieces_append (x : Str) {r : Str} {ps : List Str} (h : Pieces r ps) :
    Pieces (x ++ r) (emit x ++ ps) := by
  unfold emit
  split
  · rename_i hx; exact h.prepend (wsOnly_of_trimSpace_nil x hx)
  · obtain ⟨l, r', hl, hr', e⟩ := trimSpace_decomp x
    refine (Pieces.piece (p := trimSpace x) hl (h.prepend hr')).cast ?_
    conv => lhs; rw [e]
    simp [List.append_assoc]

/-- pieces of the trimmed text are pieces of the text -/
theorem Pieces.untrim {x : Str} {ps : List Str} (h : Pieces (trimSpace x) ps) : Pieces x ps := by
  obtain ⟨l, r, hl, hr, e⟩ := trimSpace_decomp x
  exact (h.surround hl hr).cast e

/-- `FindSplitPointAt` returns the text length (limit not inside the text), or the position of
the boundary chosen (semantic splitting on, a boundary in the window), or what the
sentence/word/character search finds -/
theorem findSplitPointAt_cases (c : SizeConfig) (text : Str) (bs : List Boundary) (limit : Nat)
    (u : SizeUnit) :
    (text.length ≤ targetPosOf c limit u ∧ findSplitPointAt c text bs limit u = text.length)
    ∨ targetPosOf c limit u < text.length
      ∧ ((∃ b, c.sem = true
            ∧ findBestBoundaryNear bs (targetPosOf c limit u) (targetPosOf c limit u / 4) = some b
            ∧ findSplitPointAt c text bs limit u = b.pos)
        ∨ findSplitPointAt c text bs limit u = findSentenceEndNear text (targetPosOf c limit u)) := by
  unfold findSplitPointAt
  simp only
  by_cases h1 : targetPosOf c limit u ≥ text.length
  · exact .inl ⟨h1, if_pos h1⟩
  · refine .inr ⟨by omega, ?_⟩
    rw [if_neg h1]
    by_cases h2 : (c.sem && !bs.isEmpty) = true
    · rw [if_pos h2]
      cases hb : findBestBoundaryNear bs (targetPosOf c limit u) (targetPosOf c limit u / 4) with
      | none => exact .inr rfl
      | some b => exact .inl ⟨b, (Bool.and_eq_true _ _ ▸ h2).1, rfl, rfl⟩
    · rw [if_neg h2]; exact .inr rfl

theorem splitToSize_nil (c : SizeConfig) (bs : List Boundary) : splitToSize c [] bs = [] := by
  rw [splitToSize]; rfl

/-- a text that fits, or in which the search finds no split point, is returned whole, untouched -/
theorem splitToSize_whole {c : SizeConfig} {rem : Str} {bs : List Boundary} (hne : rem ≠ [])
    (h : isAboveMax c rem = false ∨ findSplitPointAt c rem bs c.maxValue c.maxUnit = 0
      ∨ findSplitPointAt c rem bs c.maxValue c.maxUnit ≥ rem.length) :
    splitToSize c rem bs = [rem] := by
  rw [splitToSize, if_neg (mt List.length_eq_zero_iff.mp hne)]
  rcases h with h | h
  · rw [h]; rfl
  · split
    · rfl
    · exact dif_pos h

/-- `ChunkDocumentWithConfig` on a page of paragraphs returns the pieces of the accumulated block
text, trimmed: its own tests for an empty text and for a text that fits are the first two of the loop -/
theorem docChunks_eq (c : SizeConfig) (paras : List Str) :
    docChunks c paras = (splitToSize c (joinParagraphs paras) []).map trimSpace := by
  unfold docChunks
  simp only
  split
  · rename_i h; rw [h, splitToSize_nil]; rfl
  · rename_i h
    split
    · rename_i hfit; rw [splitToSize_whole h (.inl (by simpa using hfit))]; rfl
    · rfl

/-- one iteration that cuts at `sp` strictly inside the text -/
theorem splitToSize_step {c : SizeConfig} {rem : Str} {bs : List Boundary} {sp : Nat}
    (hsp : sp = findSplitPointAt c rem bs c.maxValue c.maxUnit) (habove : isAboveMax c rem = true)
    (h0 : 0 < sp) (hlt : sp < rem.length) :
    splitToSize c rem bs = emit (rem.take sp) ++
      splitToSize c (trimSpace (rem.drop sp)) (adjustBoundaryPositions bs (sp + leadingSpace (rem.drop sp))) := by
  subst hsp
  rw [splitToSize, if_neg (by omega), habove, if_neg (by decide), dif_neg (by omega)]
  unfold emit
  split <;> simp [*]

/-- Induction along the loop: `Inv` is an invariant of the pair (remaining text, boundaries),
`R` relates a text to the pieces made of it. -/
theorem splitToSize_induction {c : SizeConfig} {Inv : Str → List Boundary → Prop}
    {R : Str → List Str → Prop} (hnil : R [] [])
    (hwhole : ∀ rem bs sp, Inv rem bs → rem ≠ [] →
      sp = findSplitPointAt c rem bs c.maxValue c.maxUnit →
      isAboveMax c rem = false ∨ sp = 0 ∨ sp ≥ rem.length → R rem [rem])
    (hstep : ∀ rem bs sp, Inv rem bs → sp = findSplitPointAt c rem bs c.maxValue c.maxUnit →
      isAboveMax c rem = true → 0 < sp → sp < rem.length →
      Inv (trimSpace (rem.drop sp)) (adjustBoundaryPositions bs (sp + leadingSpace (rem.drop sp))) ∧
        ∀ ps, R (trimSpace (rem.drop sp)) ps → R rem (emit (rem.take sp) ++ ps))
    (rem : Str) (bs : List Boundary) : Inv rem bs → R rem (splitToSize c rem bs) := by
  generalize hn : rem.length = n
  induction n using Nat.strongRecOn generalizing rem bs with
  | _ n ih =>
    intro hI
    by_cases hne : rem = []
    · subst hne; rw [splitToSize_nil]; exact hnil
    by_cases hw : isAboveMax c rem = false ∨ findSplitPointAt c rem bs c.maxValue c.maxUnit = 0
        ∨ findSplitPointAt c rem bs c.maxValue c.maxUnit ≥ rem.length
    · rw [splitToSize_whole hne hw]; exact hwhole rem bs _ hI hne rfl hw
    · have habove : isAboveMax c rem = true := by simpa using fun h => hw (.inl h)
      have h0 := fun h => hw (.inr (.inl h))
      have hlt := fun h => hw (.inr (.inr h))
      obtain ⟨hI', hR⟩ := hstep rem bs _ hI rfl habove (by omega) (by omega)
      rw [splitToSize_step rfl habove (by omega) (by omega)]
      have hl := trimSpace_length_le (rem.drop (findSplitPointAt c rem bs c.maxValue c.maxUnit))
      rw [List.length_drop] at hl
      exact hR _ (ih _ (by omega) _ _ rfl hI')

/-- the same for a property of every piece -/
theorem splitToSize_forall {c : SizeConfig} {Inv : Str → List Boundary → Prop} {P : Str → Prop}
    (hwhole : ∀ rem bs sp, Inv rem bs → rem ≠ [] →
      sp = findSplitPointAt c rem bs c.maxValue c.maxUnit →
      isAboveMax c rem = false ∨ sp = 0 ∨ sp ≥ rem.length → P rem)
    (hstep : ∀ rem bs sp, Inv rem bs → sp = findSplitPointAt c rem bs c.maxValue c.maxUnit →
      isAboveMax c rem = true → 0 < sp → sp < rem.length →
      Inv (trimSpace (rem.drop sp)) (adjustBoundaryPositions bs (sp + leadingSpace (rem.drop sp))) ∧
        (trimSpace (rem.take sp) ≠ [] → P (trimSpace (rem.take sp))))
    (rem : Str) (bs : List Boundary) (hI : Inv rem bs) : ∀ p ∈ splitToSize c rem bs, P p := by
  refine splitToSize_induction (R := fun _ ps => ∀ p ∈ ps, P p) (fun _ h => nomatch h)
    (fun rem bs sp hI hne hsp h p hp => ?_) (fun rem bs sp hI hsp ha h0 hlt => ?_) rem bs hI
  · obtain rfl := List.mem_singleton.mp hp
    exact hwhole p bs sp hI hne hsp h
  · obtain ⟨hI', hP⟩ := hstep rem bs sp hI hsp ha h0 hlt
    exact ⟨hI', fun ps ih => List.forall_mem_append.mpr ⟨forall_mem_emit.mpr hP, ih⟩⟩

/-- **conservation** for `SplitToSize`, any configuration, any boundaries, any bytes -/
theorem splitToSize_pieces (c : SizeConfig) (text : Str) (bs : List Boundary) :
    Pieces text (splitToSize c text bs) := by
  refine splitToSize_induction (Inv := fun _ _ => True) (.done .nil)
    (fun rem _ _ _ _ _ _ => .whole rem) (fun rem bs sp _ _ _ _ _ => ⟨trivial, fun ps ih => ?_⟩)
    text bs trivial
  exact (emit_pieces_append (rem.take sp) ih.untrim).cast (List.take_append_drop sp rem).symm

end Tabula.Split
