import TabulaModel.Model.FormFonts
import TabulaModel.Lemmas.CSBytes
import TabulaModel.Lemmas.CMap
import TabulaModel.Lemmas.Reader
/-!
Invariants of the extractor's font table over operation histories (`Model/FormFonts.lean`):
what `step` can do to the state (`step_cases`), one induction principle for `step` / `invoke` /
`runForm` (`run_induction_shows`, with or without a condition on the shown strings), the page's run
as a run inside a form (`runPage_ok`), and the
invariants `Props/C07Fonts.lean` carries through it: bindings in force are never replaced
(`Keeps`), the model-failure flag stays clear when every `decodeString` succeeds, and the fonts
in force hold scalar-only CMaps (`Utf8Inv`); also `RegisterFontsFromResources` run over the entries of
the `/Font` dictionary in any order (`registerLoop_eq`).
-/
namespace Tabula.FormFonts
open Tabula.Pdf (Obj)
open Tabula.Reader (Str Dict Err dget)

/-- a show touches neither the bindings, nor the selection, nor the saved graphics states -/
theorem showOne_frame (nfc : List Nat → List Nat) (st : St) (d : Str) :
    (showOne nfc st d).fonts = st.fonts ∧ (showOne nfc st d).sel = st.sel ∧
      (showOne nfc st d).stack = st.stack := by
  unfold showOne
  split
  · split <;> exact ⟨rfl, rfl, rfl⟩
  · exact ⟨rfl, rfl, rfl⟩

theorem showArray_fonts (nfc : List Nat → List Nat) (st : St) (xs : List Obj) : (showArray nfc st xs).fonts = st.fonts := by
  induction xs generalizing st with
  | nil => rfl
  | cons x xs ih =>
    cases x <;> simp only [showArray, ih]
    exact (showOne_frame nfc st _).1

/-- `Q` restores the graphics state only: bindings and the failure flag stay -/
theorem restore_frame {st st' : St} (h : restore st = some st') : st'.fonts = st.fonts ∧ st'.bad = st.bad := by
  unfold restore at h
  split at h
  · simp at h
  · simp only [Option.some.injEq] at h; subst h; exact ⟨rfl, rfl⟩

theorem popOrKeep_frame (st : St) : (popOrKeep st).fonts = st.fonts ∧ (popOrKeep st).bad = st.bad := by
  unfold popOrKeep
  split
  · rename_i s hs; exact restore_frame hs
  · exact ⟨rfl, rfl⟩

/-- **what `step` does to the state**: nothing, or one of six moves - `q`, `Q`, `Tf`, a show of a
string operand, a show of an array operand, `Do`. (By the branches of the definition; `split` on
the whole `if` chain over the operator is very slow to check.) -/
theorem step_cases (nfc : List Nat → List Nat) (res : FRes) (fuel : Nat) (st : St) (op : Pdf.CS.Operation)
    (Q : St → Prop) (hsame : Q st)
    (hq : Q { st with stack := (st.cur, st.sel) :: st.stack })
    (hQ : ∀ st', restore st = some st' → Q st')
    (hTf : ∀ n, Q (setFont st n))
    (hshow : ∀ s, Obj.str s ∈ op.operands → Q (showOne nfc st s))
    (harr : ∀ xs, Obj.arr xs ∈ op.operands → Q (showArray nfc st xs))
    (hDo : ∀ n, Q (invoke nfc res fuel st n)) :
    Q (step nfc res fuel st op).1 := by
  fun_cases step nfc res fuel st op
  case case1 => exact hq
  case case2 hr _ _ => exact hQ _ hr
  case case4 => exact hTf _
  case case7 hx => exact hshow _ (by rw [hx]; simp)
  case case9 hx => exact harr _ (by rw [hx]; simp)
  case case11 hx => exact hshow _ (by rw [hx]; simp)
  case case13 => exact hDo _
  -- a failed `Q`, malformed operands, any other operator: the state stays
  all_goals exact hsame

/-- every string the operation can show - a string operand, a string element of an array
operand - satisfies `B` -/
def Shows (B : Str → Prop) (op : Pdf.CS.Operation) : Prop :=
  ∀ o ∈ op.operands, (∀ s, o = .str s → B s) ∧ (∀ xs, o = .arr xs → ∀ s, Obj.str s ∈ xs → B s)

/-- A relation between the state before and after that holds across every operation history
whose shown strings satisfy `B`, provided it holds across the primitive steps (across a show
only for a string satisfying `B`), the forms' contents show only such strings, charging a form's
bytes keeps it, and it holds across a form once it holds from the entered state on. -/
theorem run_induction_shows (nfc : List Nat → List Nat) (res : FRes) (B : Str → Prop) (P : St → St → Prop)
    (hrefl : ∀ st, P st st) (htrans : ∀ a b c, P a b → P b c → P a c)
    (hq : ∀ st : St, P st { st with stack := (st.cur, st.sel) :: st.stack })
    (hQ : ∀ st st', restore st = some st' → P st st')
    (hTf : ∀ st n, P st (setFont st n))
    (hshow : ∀ st d, B d → P st (showOne nfc st d))
    (hdata : ∀ rd n sd data ops, findForm res rd n = some (sd, data) → Pdf.CS.csParse data = some ops →
      ∀ op ∈ ops, Shows B op)
    (hcharge : ∀ st data, P st { st with bytes := charge st data })
    (hform : ∀ st rd sd data st2, P (enterForm res st rd sd data) st2 → P st (leaveForm res sd rd st.fonts st2)) :
    ∀ fuel, (∀ st n, P st (invoke nfc res fuel st n)) ∧
      (∀ st op, Shows B op → P st (step nfc res fuel st op).1) ∧
      (∀ st ops, (∀ op ∈ ops, Shows B op) → P st (runForm nfc res fuel st ops)) := by
  have harr : ∀ (xs : List Obj) (st : St), (∀ s, Obj.str s ∈ xs → B s) → P st (showArray nfc st xs) := by
    intro xs
    induction xs with
    | nil => intro st _; exact hrefl st
    | cons x xs ih =>
      intro st hx
      have hrest : ∀ s, Obj.str s ∈ xs → B s := fun s hs => hx s (List.mem_cons_of_mem _ hs)
      cases x <;> simp only [showArray] <;> first | exact ih st hrest | skip
      rename_i s
      exact htrans _ _ _ (hshow st s (hx s (by simp))) (ih _ hrest)
  -- from `invoke` at a fuel to `step` and `runForm` at that fuel
  have hlevel : ∀ fuel, (∀ st n, P st (invoke nfc res fuel st n)) →
      (∀ st op, Shows B op → P st (step nfc res fuel st op).1) ∧
      (∀ st ops, (∀ op ∈ ops, Shows B op) → P st (runForm nfc res fuel st ops)) := by
    intro fuel hi
    have hstep : ∀ st op, Shows B op → P st (step nfc res fuel st op).1 := fun st op hop =>
      step_cases nfc res fuel st op (P st) (hrefl st) (hq st) (hQ st) (hTf st)
        (fun s hs => hshow st s ((hop _ hs).1 s rfl)) (fun xs hxs => harr xs st ((hop _ hxs).2 xs rfl)) (hi st)
    refine ⟨hstep, ?_⟩
    intro st ops
    induction ops generalizing st with
    | nil => intro _; rw [runForm.eq_1]; exact hrefl st
    | cons op ops ih =>
      intro hops
      rw [runForm.eq_2]
      exact htrans _ _ _ (hstep st op (hops op (by simp))) (ih _ (fun o ho => hops o (by simp [ho])))
  intro fuel
  induction fuel with
  | zero =>
    have h0 : ∀ st n, P st (invoke nfc res 0 st n) := by
      intro st n; rw [invoke.eq_1]; exact hrefl st
    exact ⟨h0, hlevel 0 h0⟩
  | succ fuel ih =>
    have hi : ∀ st n, P st (invoke nfc res (fuel + 1) st n) := by
      intro st n
      rw [invoke.eq_2]
      split
      · exact hrefl st
      · split
        · exact hrefl st
        · rename_i rd _ _ sd data hfind
          split
          · exact hcharge st data
          · apply hform
            split
            · exact hrefl _
            · rename_i ops hops
              exact ih.2.2 _ ops (hdata rd n sd data ops hfind hops)
    exact ⟨hi, hlevel (fuel + 1) hi⟩

/-- the induction for relations that hold across every show: no condition on the operations -/
theorem run_induction (nfc : List Nat → List Nat) (res : FRes) (P : St → St → Prop)
    (hrefl : ∀ st, P st st) (htrans : ∀ a b c, P a b → P b c → P a c)
    (hq : ∀ st : St, P st { st with stack := (st.cur, st.sel) :: st.stack })
    (hQ : ∀ st st', restore st = some st' → P st st')
    (hTf : ∀ st n, P st (setFont st n))
    (hshow : ∀ st d, P st (showOne nfc st d))
    (hcharge : ∀ st data, P st { st with bytes := charge st data })
    (hform : ∀ st rd sd data st2, P (enterForm res st rd sd data) st2 → P st (leaveForm res sd rd st.fonts st2)) :
    ∀ fuel, (∀ st n, P st (invoke nfc res fuel st n)) ∧ (∀ st op, P st (step nfc res fuel st op).1) ∧
      (∀ st ops, P st (runForm nfc res fuel st ops)) := by
  have any : ∀ op, Shows (fun _ => True) op := fun _ _ _ => ⟨fun _ _ => trivial, fun _ _ _ _ => trivial⟩
  intro fuel
  have h := run_induction_shows nfc res (fun _ => True) P hrefl htrans hq hQ hTf (fun st d _ => hshow st d)
    (fun _ _ _ _ _ _ _ op _ => any op) hcharge hform fuel
  exact ⟨h.1, fun st op => h.2.1 st op (any op), fun st ops => h.2.2 st ops (fun op _ => any op)⟩

/-- every string an operation can show is a byte string: `Shows Pdf.CS.Bytes op`, which is what
`csParse` produces from bytes (`Pdf.CS.csParse_showBytes`) -/
def OpBytes (op : Pdf.CS.Operation) : Prop := ∀ o ∈ op.operands, Pdf.CS.ShowBytes o

def OpsBytes (ops : List Pdf.CS.Operation) : Prop := ∀ op ∈ ops, OpBytes op

/-- the page's run, when no operation ends it with an error, is the run of the same operations inside
a form at the full nesting depth: what holds of `runForm` holds of the page -/
theorem runPage_ok (nfc : List Nat → List Nat) (res : FRes) (st st' : St) (ops : List Pdf.CS.Operation)
    (hrun : runPage nfc res st ops = .ok st') : st' = runForm nfc res maxXObjectDepth st ops := by
  fun_induction runPage nfc res st ops
  case case1 => cases hrun; rw [runForm.eq_1]
  case case2 st op ops st1 hst ih => rw [runForm.eq_2, hst]; exact ih hrun
  case case3 => cases hrun

theorem runPage_error (nfc : List Nat → List Nat) (res : FRes) (st : St) (ops : List Pdf.CS.Operation) (e : Err)
    (h : runPage nfc res st ops = .error e) : e = .err := by
  fun_induction runPage nfc res st ops
  case case1 => cases h
  case case2 ih => exact ih h
  case case3 => cases h; rfl

/-- every binding of `a` is still in force in `b` -/
def Keeps (a b : St) : Prop := ∀ name f, a.fonts name = some f → b.fonts name = some f

theorem keeps_of_fonts_eq {a b : St} (h : b.fonts = a.fonts) : Keeps a b := by
  intro name f hf; rw [h]; exact hf

theorem keeps_setFont (st : St) (n : Str) : Keeps st (setFont st n) := by
  intro name f hf
  unfold setFont
  simp only
  generalize (if n.head? = some 47 then n else 47 :: n) = key
  split
  · exact hf
  · rename_i hnone
    show st.fonts.set key defaultFont name = some f
    unfold FontMap.set
    by_cases hk : name = key
    · subst hk; rw [hf] at hnone; simp at hnone
    · simp only [hk, if_false]; exact hf

/-- leaving a form: a name bound before the form (in `outer`) is bound to the same font
afterwards — by `restoreFonts` when the form had resources of its own, else because the
form's operations kept it -/
theorem leaveForm_keeps (res : FRes) (sd rd : Dict) (outer : FontMap) (st2 : St) (name : Str) (f : FontDecode.Font)
    (ho : outer name = some f) (h2 : formResources res sd = none → st2.fonts name = some f) :
    (leaveForm res sd rd outer st2).fonts name = some f := by
  unfold leaveForm
  simp only
  cases hfr : formResources res sd with
  | some d => simp only [Option.map_some, restoreFonts, ho]
  | none =>
    simp only [Option.map_none, restoreFonts]
    rw [(popOrKeep_frame _).1]
    exact h2 hfr

theorem enterForm_fonts_none (res : FRes) (st : St) (rd sd : Dict) (data : Str) (h : formResources res sd = none) :
    (enterForm res st rd sd data).fonts = st.fonts := by
  unfold enterForm formFonts
  simp only [h]

/-- **bindings are stable**: across `invoke` (a whole Form XObject, whatever it registers or
selects inside, to any nesting depth), `step` and `runForm`, a name that was bound keeps its font -/
theorem keeps_all (nfc : List Nat → List Nat) (res : FRes) (fuel : Nat) :
    (∀ st n, Keeps st (invoke nfc res fuel st n)) ∧ (∀ st op, Keeps st (step nfc res fuel st op).1) ∧
      (∀ st ops, Keeps st (runForm nfc res fuel st ops)) := by
  apply run_induction nfc res Keeps
  · intro st name f hf; exact hf
  · intro a b c hab hbc name f hf; exact hbc name f (hab name f hf)
  · intro st; exact keeps_of_fonts_eq rfl
  · intro st st' h; exact keeps_of_fonts_eq (restore_frame h).1
  · exact keeps_setFont
  · intro st d; exact keeps_of_fonts_eq (showOne_frame nfc st d).1
  · intro st data name f hf; exact hf
  · intro st rd sd data st2 h name f hf
    apply leaveForm_keeps _ _ _ _ _ _ _ hf
    intro hfr
    exact h name f (by rw [enterForm_fonts_none _ _ _ _ _ hfr]; exact hf)

/-! ## `RegisterFontsFromResources`: the order of the map iteration does not matter -/

/-- what the entry `kv` stores under `name`, if anything: its font under its own key, or under the
`/`-prefixed alias -/
def written (res : Reader.Res) (fd : Dict) (name : Str) (kv : Str × Obj) : Option FontDecode.Font :=
  if name = kv.1 ∨ (name = 47 :: kv.1 ∧ kv.1.head? ≠ some 47 ∧ dget fd (47 :: kv.1) = none) then parseFont res kv.2
  else none

theorem FontMap.set_apply (m : FontMap) (k n : Str) (f : FontDecode.Font) :
    m.set k f n = if n = k then some f else m n := rfl

theorem registerEntry_apply (res : Reader.Res) (fd : Dict) (kv : Str × Obj) (m : FontMap) (name : Str) :
    registerEntry res fd kv m name = (written res fd name kv).or (m name) := by
  unfold registerEntry written
  cases parseFont res kv.2 with
  | none => simp
  | some f =>
    simp only [Option.isNone_iff_eq_none]
    by_cases ha : kv.1.head? ≠ some 47 ∧ dget fd (47 :: kv.1) = none
    · by_cases h1 : name = kv.1 <;> by_cases h2 : name = 47 :: kv.1 <;> simp [ha, h1, h2, FontMap.set_apply]
    · by_cases h1 : name = kv.1 <;> simp [ha, h1, FontMap.set_apply]

/-- the last entry of `order` that writes under `name` decides -/
theorem registerLoop_last (res : Reader.Res) (fd : Dict) (name : Str) (order : List (Str × Obj)) (m : FontMap) :
    registerLoop res fd order m name = (order.reverse.findSome? (written res fd name)).or (m name) := by
  unfold registerLoop
  induction order generalizing m with
  | nil => rfl
  | cons kv rest ih =>
    rw [List.foldl_cons, ih, registerEntry_apply, List.reverse_cons, List.findSome?_append, Option.or_assoc]
    cases h : written res fd name kv <;> simp [h]

theorem dget_some_mem {fd : Dict} {k : Str} {o : Obj} (h : dget fd k = some o) : (k, o) ∈ fd := by
  obtain ⟨l₁, l₂, rfl, _⟩ := List.lookup_eq_some_iff.mp (Reader.dget_eq_lookup fd k ▸ h)
  simp

theorem dget_ne_none_of_mem {fd : Dict} {k : Str} {o : Obj} (h : (k, o) ∈ fd) : dget fd k ≠ none := by
  rw [Reader.dget_eq_lookup]
  exact fun hn => by simpa using List.lookup_eq_none_iff.mp hn (k, o) h

theorem dget_of_mem_nodup {fd : Dict} (hnd : (fd.map (·.1)).Nodup) {k : Str} {o : Obj} (h : (k, o) ∈ fd) :
    dget fd k = some o := by
  obtain ⟨l₁, l₂, rfl⟩ := List.append_of_mem h
  rw [Reader.dget_eq_lookup]
  refine List.lookup_eq_some_iff.mpr ⟨l₁, l₂, rfl, fun p hp => ?_⟩
  -- a key of the front part would occur twice
  rw [List.map_append, List.map_cons, List.nodup_append] at hnd
  exact bne_iff_ne.mpr (Ne.symm (hnd.2.2 p.1 (List.mem_map_of_mem hp) k (by simp)))

theorem registered_key (res : Reader.Res) (fd : Dict) (name : Str) (o : Obj) (hd : dget fd name = some o) :
    registered res fd name = parseFont res o := by
  unfold registered; rw [hd]

theorem registered_alias_of (res : Reader.Res) (fd : Dict) (k : Str) (hd : dget fd (47 :: k) = none) :
    registered res fd (47 :: k) =
      if k.head? = some 47 then none else (dget fd k).bind (parseFont res) := by
  unfold registered; rw [hd]
  rfl

theorem registered_no_slash (res : Reader.Res) (fd : Dict) (name : Str) (hd : dget fd name = none)
    (hn : name.head? ≠ some 47) : registered res fd name = none := by
  unfold registered; rw [hd]
  simp only
  split
  · simp at hn
  · rfl

/-- with distinct keys, whatever an entry of the dictionary stores under `name` is `registered` -/
theorem registered_of_written (res : Reader.Res) (fd : Dict) (hnd : (fd.map (·.1)).Nodup) (name : Str)
    (kv : Str × Obj) (hkv : kv ∈ fd) (f : FontDecode.Font) (h : written res fd name kv = some f) :
    registered res fd name = some f := by
  obtain ⟨k, o⟩ := kv
  have hk := dget_of_mem_nodup hnd hkv
  unfold written at h
  split at h
  · rename_i hc
    rcases hc with rfl | ⟨rfl, hs, hn⟩
    · rw [registered_key res fd _ o hk]; exact h
    · rw [registered_alias_of res fd k hn, if_neg hs, hk]; exact h
  · cases h

theorem written_of_registered (res : Reader.Res) (fd : Dict) (name : Str) (f : FontDecode.Font)
    (h : registered res fd name = some f) : ∃ kv ∈ fd, written res fd name kv = some f := by
  unfold registered at h
  split at h
  · rename_i o hd
    exact ⟨(name, o), dget_some_mem hd, by simp [written, h]⟩
  · rename_i hd
    split at h
    · rename_i k
      split at h
      · cases h
      · rename_i hs
        cases hk : dget fd k with
        | none => rw [hk] at h; cases h
        | some o =>
          rw [hk] at h
          exact ⟨(k, o), dget_some_mem hk, by simpa [written, hs, hd] using h⟩
    · cases h

/-- **the iteration order does not matter**: for a dictionary with distinct keys (a Go map),
ranging over its entries in ANY order — any list with the same members — leaves exactly the
table `registerFonts` uses: the key itself, else the `/`-prefixed alias, else the old binding -/
theorem registerLoop_eq (res : Reader.Res) (fd : Dict) (hnd : (fd.map (·.1)).Nodup)
    (order : List (Str × Obj)) (hmem : ∀ kv, kv ∈ order ↔ kv ∈ fd) (m : FontMap) (name : Str) :
    registerLoop res fd order m name =
      match registered res fd name with
      | some f => some f
      | none => m name := by
  have hw : order.reverse.findSome? (written res fd name) = registered res fd name := by
    apply Option.ext
    intro f
    constructor
    · intro h
      obtain ⟨kv, hkv, hf⟩ := List.exists_of_findSome?_eq_some h
      exact registered_of_written res fd hnd name kv ((hmem kv).mp (List.mem_reverse.mp hkv)) f hf
    · intro h
      obtain ⟨kv, hkv, hf⟩ := written_of_registered res fd name f h
      have hs : (order.reverse.findSome? (written res fd name)).isSome := by
        rw [List.findSome?_isSome_iff]
        exact ⟨kv, List.mem_reverse.mpr ((hmem kv).mpr hkv), by rw [hf]; rfl⟩
      obtain ⟨g, hg⟩ := Option.isSome_iff_exists.mp hs
      obtain ⟨kv', hkv', hg'⟩ := List.exists_of_findSome?_eq_some hg
      have := registered_of_written res fd hnd name kv' ((hmem kv').mp (List.mem_reverse.mp hkv')) g hg'
      rw [hg, ← this, h]
  rw [registerLoop_last, hw]
  cases registered res fd name <;> rfl
/-- the model-failure flag is not raised when every font decodes -/
def StaysGood (a b : St) : Prop := a.bad = false → b.bad = false

theorem showOne_bad (nfc : List Nat → List Nat) (hdec : ∀ f d, (FontDecode.decodeString nfc f d).isSome = true)
    (st : St) (d : Str) : StaysGood st (showOne nfc st d) := by
  intro hb
  unfold showOne
  split
  · rename_i f _
    have := hdec f d
    split
    · exact hb
    · rename_i hnone; rw [hnone] at this; simp at this
  · exact hb

theorem staysGood_all (nfc : List Nat → List Nat) (hdec : ∀ f d, (FontDecode.decodeString nfc f d).isSome = true)
    (res : FRes) (fuel : Nat) :
    (∀ st n, StaysGood st (invoke nfc res fuel st n)) ∧ (∀ st op, StaysGood st (step nfc res fuel st op).1) ∧
      (∀ st ops, StaysGood st (runForm nfc res fuel st ops)) := by
  apply run_induction nfc res StaysGood
  · intro st h; exact h
  · intro a b c hab hbc h; exact hbc (hab h)
  · intro st h; exact h
  · intro st st' h hb; rw [(restore_frame h).2]; exact hb
  · intro st n h
    show (setFont st n).bad = false
    unfold setFont
    simp only
    split <;> exact h
  · exact showOne_bad nfc hdec
  · intro st data hb; exact hb
  · intro st rd sd data st2 h hb
    show (popOrKeep _).bad = false
    rw [(popOrKeep_frame _).2]
    exact h hb

/-! ## fonts with scalar-only CMaps; the UTF-8 invariant's building blocks -/

/-- the font's ToUnicode CMap, if any, holds only lists of scalar values -/
def FontOK (f : FontDecode.Font) : Prop := ∀ cm, f.toUnicode = some cm → CMap.CharsOK cm

/-- the fonts saved on the graphics-state stack are `FontOK` -/
def StackOK (stack : List (Str × Option FontDecode.Font)) : Prop := ∀ p ∈ stack, ∀ f, p.2 = some f → FontOK f

/-- all registered fonts, the selected font and the fonts saved on the graphics-state stack
are `FontOK`, all texts so far are lists of scalar values -/
def Utf8Inv (st : St) : Prop :=
  (∀ name f, st.fonts name = some f → FontOK f) ∧ (∀ s ∈ st.out, CMap.AllScalar s) ∧
    (∀ f, st.sel = some f → FontOK f) ∧ StackOK st.stack

theorem stackOK_push {stack : List (Str × Option FontDecode.Font)} (h : StackOK stack) (c : Str)
    (sel : Option FontDecode.Font) (hs : ∀ f, sel = some f → FontOK f) : StackOK ((c, sel) :: stack) := by
  intro p hp f hf
  rcases List.mem_cons.mp hp with hp | hp
  · subst hp; exact hs f hf
  · exact h p hp f hf

theorem restore_utf8 {st st' : St} (hr : restore st = some st') (h : Utf8Inv st) : Utf8Inv st' := by
  unfold restore at hr
  split at hr
  · simp at hr
  · rename_i c r hst
    simp only [Option.some.injEq] at hr; subst hr
    have hstack : StackOK (c :: r) := by rw [← hst]; exact h.2.2.2
    exact ⟨h.1, h.2.1, fun f hf => hstack c (by simp) f hf, fun p hp => hstack p (List.mem_cons_of_mem _ hp)⟩

theorem push_utf8 (st : St) (h : Utf8Inv st) : Utf8Inv { st with stack := (st.cur, st.sel) :: st.stack } :=
  ⟨h.1, h.2.1, h.2.2.1, stackOK_push h.2.2.2 _ _ h.2.2.1⟩

theorem defaultFont_ok : FontOK defaultFont := by
  intro cm hcm; simp [defaultFont, Reader.defaultFont] at hcm

theorem setFont_utf8 (st : St) (n : Str) (h : Utf8Inv st) : Utf8Inv (setFont st n) := by
  unfold setFont
  simp only
  generalize (if n.head? = some 47 then n else 47 :: n) = key
  split
  · rename_i f hf
    exact ⟨h.1, h.2.1, fun g hg => by simp only [Option.some.injEq] at hg; subst hg; exact h.1 key f hf, h.2.2.2⟩
  · refine ⟨?_, h.2.1, fun g hg => by simp only [Option.some.injEq] at hg; subst hg; exact defaultFont_ok, h.2.2.2⟩
    intro name f hf
    have hf' : st.fonts.set key defaultFont name = some f := hf
    unfold FontMap.set at hf'
    by_cases hk : name = key
    · simp only [hk, if_true, Option.some.injEq] at hf'; subst hf'; exact defaultFont_ok
    · simp only [hk, if_false] at hf'; exact h.1 name f hf'

/-- every stream the resolver hands out decodes to a byte string -/
def ResBytes (res : FRes) : Prop := ∀ n d dec, res n = .ok (.stream d (some dec)) → Pdf.CS.Bytes dec

theorem toUnicodeOf_ok (res : Reader.Res) (fd : Dict) (cm : CMap.CMap) (h : Reader.toUnicodeOf res fd = some cm) :
    CMap.CharsOK cm := by
  unfold Reader.toUnicodeOf at h
  split at h
  · split at h
    · simp only [Option.some.injEq] at h; subst h; exact CMap.charsOK_parse _
    · simp at h
  · simp at h

theorem readerParseFont_ok (res : Reader.Res) (o : Obj) (f : FontDecode.Font) (h : Reader.parseFont res o = some f) : FontOK f := by
  intro cm hcm
  revert h
  -- in every branch `parseFont` answers `none` or a font whose CMap is `toUnicodeOf res fd`
  fun_cases Reader.parseFont res o <;> intro h <;> first
    | (simp only [Option.some.injEq] at h; subst h; exact toUnicodeOf_ok _ _ _ hcm)
    | (simp at h)

theorem parseFont_ok (res : Reader.Res) (o : Obj) (f : FontDecode.Font) (h : parseFont res o = some f) : FontOK f := by
  unfold parseFont at h
  split at h
  · rename_i f0 h0
    have := readerParseFont_ok res o f0 h0
    split at h
    · simp only [Option.some.injEq] at h; subst h; exact this
    · simp only [Option.some.injEq] at h; subst h; exact this
  · simp at h

theorem registered_ok (res : Reader.Res) (fd : Dict) (name : Str) (f : FontDecode.Font) (h : registered res fd name = some f) :
    FontOK f := by
  obtain ⟨kv, _, hw⟩ := written_of_registered res fd name f h
  unfold written at hw
  split at hw
  · exact parseFont_ok _ _ _ hw
  · cases hw

theorem registerFonts_ok (res : Reader.Res) (rd : Dict) (m : FontMap) (hm : ∀ name f, m name = some f → FontOK f)
    (name : Str) (f : FontDecode.Font) (h : registerFonts res rd m name = some f) : FontOK f := by
  cases hfo : Reader.fontsOf res (some rd) with
  | none => simp only [registerFonts, hfo] at h; exact hm name f h
  | some fd =>
    simp only [registerFonts, hfo] at h
    cases hreg : registered res fd name with
    | none => rw [hreg] at h; exact hm name f h
    | some f' =>
      rw [hreg] at h
      simp only [Option.some.injEq] at h; subst h
      exact registered_ok _ _ _ _ hreg

theorem setFont_fonts_cases (st : St) (n name : Str) (f : FontDecode.Font) (h : (setFont st n).fonts name = some f) :
    st.fonts name = some f ∨ f = defaultFont := by
  unfold setFont at h
  simp only at h
  generalize (if n.head? = some 47 then n else 47 :: n) = key at h
  split at h
  · exact Or.inl h
  · have h' : st.fonts.set key defaultFont name = some f := h
    unfold FontMap.set at h'
    by_cases hk : name = key
    · simp only [hk, if_true, Option.some.injEq] at h'; exact Or.inr h'.symm
    · simp only [hk, if_false] at h'; exact Or.inl h'

theorem leaveForm_out (res : FRes) (sd rd : Dict) (outer : FontMap) (st2 : St) :
    (leaveForm res sd rd outer st2).out = (popOrKeep st2).out := rfl

theorem leaveForm_fonts_cases (res : FRes) (sd rd : Dict) (outer : FontMap) (st2 : St) (name : Str) (f : FontDecode.Font)
    (h : (leaveForm res sd rd outer st2).fonts name = some f) :
    outer name = some f ∨ (popOrKeep st2).fonts name = some f := by
  unfold leaveForm at h
  simp only at h
  cases hfr : formResources res sd with
  | none => rw [hfr] at h; simp only [Option.map_none, restoreFonts] at h; exact Or.inr h
  | some d =>
    rw [hfr] at h
    simp only [Option.map_some, restoreFonts] at h
    cases ho : outer name with
    | none => rw [ho] at h; exact Or.inr h
    | some g => rw [ho] at h; simp only [Option.some.injEq] at h; subst h; exact Or.inl rfl

theorem popOrKeep_utf8 (st : St) (h : Utf8Inv st) : Utf8Inv (popOrKeep st) := by
  unfold popOrKeep
  split
  · rename_i s hs; exact restore_utf8 hs h
  · exact h

theorem leaveForm_utf8 (res : FRes) (sd rd : Dict) (outer : FontMap) (st2 : St)
    (houter : ∀ name f, outer name = some f → FontOK f) (h2 : Utf8Inv st2) :
    Utf8Inv (leaveForm res sd rd outer st2) := by
  have hpop := popOrKeep_utf8 st2 h2
  refine ⟨?_, by rw [leaveForm_out]; exact hpop.2.1, hpop.2.2.1, hpop.2.2.2⟩
  intro name f hf
  rcases leaveForm_fonts_cases res sd rd outer st2 name f hf with h1 | h1
  · exact houter name f h1
  · exact hpop.1 name f h1

theorem enterForm_utf8 (res : FRes) (st : St) (rd sd : Dict) (data : Str) (h : Utf8Inv st) :
    Utf8Inv (enterForm res st rd sd data) := by
  refine ⟨?_, h.2.1, h.2.2.1, stackOK_push h.2.2.2 _ _ h.2.2.1⟩
  intro name f hf
  have hf' : formFonts res sd st.fonts name = some f := hf
  unfold formFonts at hf'
  cases hfr : formResources res sd with
  | none => rw [hfr] at hf'; exact h.1 name f hf'
  | some d => rw [hfr] at hf'; exact registerFonts_ok _ _ _ h.1 name f hf'

theorem findForm_bytes (res : FRes) (hres : ResBytes res) (rd : Dict) (name : Str) (sd : Dict) (data : Str)
    (h : findForm res rd name = some (sd, data)) : Pdf.CS.Bytes data := by
  revert h
  fun_cases findForm res rd name <;> intro h
  case case3 hr _ _ _ =>
    cases h
    -- the one branch that answers: the stream came from the resolver
    unfold fresolve at hr
    split at hr
    · split at hr
      · simp at hr
      · exact hres _ _ _ hr
    · simp at hr
  all_goals cases h

end Tabula.FormFonts
