import TabulaModel.Lemmas.PdfTok
import TabulaModel.Lemmas.PdfLexGrammar
import TabulaModel.Lemmas.PdfState
import TabulaModel.Lemmas.PdfNumLex
/-!
Progress of the lexer of core/lexer.go, for EVERY input (legal or not): whatever `NextToken`
returns, the unread input is a suffix of what it was given, and it is strictly shorter unless the
token is the end of input.  Consequences: `lexSkip` (the comment-dropping loop of
`(*Parser).nextToken`) never runs out of its fuel, so its result does not depend on it (`tok`,
`PdfState.lean`); the document-level lexer and `contentstream.skipSpace` skip the same bytes
(`tok_of_skipSpace`).  Core Lean only.
-/
namespace Tabula.Pdf
namespace Prog

theorem suffix_tail {a : Nat} {r s : Str} (h : (a :: r) <:+ s) : r <:+ s :=
  List.IsSuffix.trans (List.suffix_cons a r) h

theorem skipWs_suffix (s : Str) : skipWs s <:+ s := by
  rw [skipWs_eq_dropWhile]
  exact List.dropWhile_suffix _

theorem skipWs_split (s : Str) : s = s.takeWhile isWs ++ skipWs s := by
  rw [skipWs_eq_dropWhile, List.takeWhile_append_dropWhile]

/-! The loops of the lexer leave a suffix of their input: read off from what they consume
(`PdfLexGrammar.lean`, `PdfHex.lean`, `PdfNumLex.lean`). -/

theorem commentBody_suffix (r : Str) : (commentBody r).2 <:+ r := by
  rw [Gram.commentBody_rest]
  exact List.IsSuffix.trans (Gram.afterEol_suffix _) (List.dropWhile_suffix _)

/-- `readString`: the closing parenthesis is consumed -/
theorem strLoop_suffix (inp : Str) : ∀ (d : Nat) (v r : Str), strLoop d inp = some (v, r) →
    r <:+ inp ∧ r.length < inp.length := by
  intro d v r h
  obtain ⟨body, rfl⟩ := Gram.strLoop_ends_behind_paren inp d v r h
  exact ⟨List.IsSuffix.trans (List.suffix_cons 41 r) (List.suffix_append body _), by simp; omega⟩

/-- `readHexString`: the closing `>` is consumed -/
theorem hexLoop_suffix (inp : Str) : ∀ (v r : Str), hexLoop inp = some (v, r) →
    r <:+ inp ∧ r.length < inp.length := by
  intro v r h
  obtain ⟨body, rfl, _⟩ := (Gram.hexLoop_iff inp v r).1 h
  exact ⟨List.IsSuffix.trans (List.suffix_cons 62 r) (List.suffix_append body _), by simp; omega⟩

/-- `readName` (after the `/`): may consume nothing -/
theorem nameLoop_suffix (inp : Str) : ∀ (v r : Str), nameLoop inp = some (v, r) → r <:+ inp := by
  intro v r h
  rw [(Gram.nameLoop_consumes inp v r h).1]
  exact List.dropWhile_suffix _

/-- `readNumber` entered on a digit, a sign or a point consumes that byte: its text is not empty -/
theorem numLoop_first_suffix (b : Nat) (r : Str) (hb : b = 45 ∨ b = 43 ∨ b = 46 ∨ isDigit b = true) :
    (numLoop false true (b :: r)).2.2 <:+ r := by
  cases hp : numLoop false true (b :: r) with
  | mk text q =>
    obtain ⟨htile, _, hne, _⟩ := Num.numLoop_lexeme b r hb text q.1 q.2 hp
    cases text with
    | nil => exact absurd rfl hne
    | cons c t => exact ⟨t, (List.cons.inj htile).2.symm⟩

theorem isAlpha_alnum {b : Nat} (h : isAlpha b = true) : isAlnum b = true := by
  simp [isAlnum, h]

/-- the body of `NextToken` behind the white space: the byte it dispatches on decides the kind of
the token and is always consumed -/
theorem dispatch_spec {b : Nat} {r : Str} {t : Token} {r' : Str} (h : Tok.dispatch b r = some (t, r')) :
    Tok.FirstByte t b ∧ r' <:+ r := by
  by_cases h37 : b = 37
  · subst h37; cases h; exact ⟨rfl, commentBody_suffix r⟩
  by_cases h91 : b = 91
  · subst h91; cases h; exact ⟨rfl, List.suffix_refl _⟩
  by_cases h93 : b = 93
  · subst h93; cases h; exact ⟨rfl, List.suffix_refl _⟩
  by_cases h40 : b = 40
  · subst h40
    rw [Tok.dispatch_str] at h
    split at h
    · cases h
    · next v r1 hs => cases h; exact ⟨rfl, (strLoop_suffix r 1 v _ hs).1⟩
  by_cases h60 : b = 60
  · subst h60
    by_cases hr : r.head? = some 60
    · obtain ⟨r1, rfl⟩ := List.head?_eq_some_iff.1 hr
      cases h; exact ⟨rfl, List.suffix_cons _ _⟩
    · rw [Tok.dispatch_hexstr r hr] at h
      split at h
      · cases h
      · next v r1 hs => cases h; exact ⟨rfl, (hexLoop_suffix r v _ hs).1⟩
  by_cases h62 : b = 62
  · subst h62
    by_cases hr : r.head? = some 62
    · obtain ⟨r1, rfl⟩ := List.head?_eq_some_iff.1 hr
      cases h; exact ⟨rfl, List.suffix_cons _ _⟩
    · rw [Tok.dispatch_gt r hr] at h; cases h
  by_cases h47 : b = 47
  · subst h47
    rw [Tok.dispatch_name] at h
    split at h
    · cases h
    · next v r1 hs => cases h; exact ⟨rfl, nameLoop_suffix r v _ hs⟩
  rw [Tok.dispatch_regular b r ⟨h37, h91, h93, h40, h60, h62, h47⟩] at h
  split at h
  · next hn =>
    have hn := (Tok.numStart_iff b).1 hn
    cases h
    refine ⟨?_, numLoop_first_suffix b r hn⟩
    split <;> exact hn
  · split at h
    · next ha =>
      cases h
      rw [List.takeWhile_cons, List.dropWhile_cons, if_pos (isAlpha_alnum ha), if_pos (isAlpha_alnum ha)]
      refine ⟨?_, List.dropWhile_suffix _⟩
      split
      · next e => exact (List.cons.inj e).1
      · exact ha
    · cases h

/-- **one `NextToken` call**, every input: the input is the white space in front, the bytes of the token and the unread
rest; the token has no bytes exactly when it is the end of input, and then nothing is left; otherwise its first byte is
no white space and decides its kind -/
theorem nextToken_spec {inp : Str} {t : Token} {r : Str} (h : nextToken inp = some (t, r)) :
    ∃ lx, inp = inp.takeWhile isWs ++ lx ++ r ∧ skipWs inp = lx ++ r ∧
      (t = .eof → lx = [] ∧ r = []) ∧
      (t ≠ .eof → ∃ b lx', lx = b :: lx' ∧ isWs b = false ∧ Tok.FirstByte t b) := by
  have tile : ∀ lx, skipWs inp = lx ++ r → inp = inp.takeWhile isWs ++ lx ++ r := fun lx e => by
    rw [List.append_assoc, ← e]; exact skipWs_split inp
  cases hs : skipWs inp with
  | nil =>
    rw [Tok.nextToken_of_skipWs_nil hs] at h
    cases h
    exact ⟨[], tile [] hs, rfl, fun _ => ⟨rfl, rfl⟩, fun h => absurd rfl h⟩
  | cons b x =>
    rw [Tok.nextToken_of_skipWs hs] at h
    obtain ⟨hfb, lx, hlx⟩ := dispatch_spec h
    have e : skipWs inp = (b :: lx) ++ r := by rw [hs, ← hlx]; rfl
    exact ⟨b :: lx, tile _ e, hs ▸ e, fun he => (he ▸ hfb : Tok.FirstByte .eof b).elim,
      fun _ => ⟨b, lx, rfl, skipWs_head inp b x hs, hfb⟩⟩

/-- **progress of `NextToken`**, every input: the unread input is a suffix of the input, and a
token other than the end of input consumed at least one byte -/
theorem nextToken_progress (inp : Str) (t : Token) (r : Str) (h : nextToken inp = some (t, r)) :
    r <:+ inp ∧ (t ≠ .eof → r.length < inp.length) ∧ (t = .eof → r = [] ∧ skipWs inp = []) := by
  obtain ⟨lx, h1, h2, he, hne⟩ := nextToken_spec h
  refine ⟨⟨_, h1.symm⟩, fun ht => ?_, fun ht => ?_⟩
  · obtain ⟨b, lx', rfl, _⟩ := hne ht
    have := congrArg List.length h1
    simp only [List.length_append, List.length_cons] at this
    omega
  · obtain ⟨rfl, rfl⟩ := he ht
    exact ⟨rfl, h2⟩

/-- with fuel above the length of the input, `lexSkip` never stops for lack of fuel: more fuel
gives the same answer -/
theorem lexSkip_stable (n : Nat) : ∀ (inp : Str) (f : Nat), inp.length + 1 ≤ n → n ≤ f →
    lexSkip f inp = lexSkip n inp := by
  induction n with
  | zero => intro inp f h; omega
  | succ n ih =>
    intro inp f h1 h2
    obtain ⟨f, rfl⟩ : ∃ g, f = g + 1 := ⟨f - 1, by omega⟩
    simp only [lexSkip]
    cases hn : nextToken inp with
    | none => rfl
    | some p =>
      obtain ⟨t, r⟩ := p
      cases t with
      | comment v =>
        dsimp only
        have := (nextToken_progress inp _ r hn).2.1 (by simp)
        exact ih r f (by omega) (by omega)
      | _ => rfl

theorem lexSkip_eq_tok (inp : Str) (f : Nat) (h : inp.length + 1 ≤ f) : lexSkip f inp = tok inp :=
  lexSkip_stable (inp.length + 1) inp f (Nat.le_refl _) h

/-- Rule induction over what `lexSkip` returns: comments dropped one by one, then a token that is not a comment -/
theorem lexSkip_induction {P : Str → Token → Str → Prop}
    (last : ∀ x t y, nextToken x = some (t, y) → (∀ v, t ≠ .comment v) → P x t y)
    (drop : ∀ x v r t y, nextToken x = some (.comment v, r) → P r t y → P x t y) (f : Nat) :
    ∀ x t y, lexSkip f x = some (t, y) → P x t y := by
  induction f with
  | zero => intro x t y h; simp [lexSkip] at h
  | succ f ih =>
    intro x t y h
    simp only [lexSkip] at h
    cases hn : nextToken x with
    | none => rw [hn] at h; cases h
    | some p =>
      obtain ⟨t0, r0⟩ := p
      rw [hn] at h
      cases t0 with
      | comment v => exact drop x v r0 t y hn (ih r0 t y h)
      | _ => cases h; exact last x _ _ hn (by intro v; simp)

/-- what `lexSkip` returns is never a comment; the unread input is a suffix, strictly shorter
unless the token is the end of input -/
theorem lexSkip_progress (f : Nat) : ∀ (inp : Str) (t : Token) (r : Str), lexSkip f inp = some (t, r) →
    r <:+ inp ∧ (t ≠ .eof → r.length < inp.length) ∧ (t = .eof → r = []) ∧ (∀ v, t ≠ .comment v) := by
  refine lexSkip_induction (fun x t y hn hc => ?_) (fun x v r t y hn ih => ?_) f
  · have hp := nextToken_progress x t y hn
    exact ⟨hp.1, hp.2.1, fun he => (hp.2.2 he).1, hc⟩
  · have hp := nextToken_progress x _ r hn
    have hl := hp.2.1 (by simp)
    have hl2 := ih.1.length_le
    exact ⟨ih.1.trans hp.1, fun hne => by have := ih.2.1 hne; omega, ih.2.2.1, ih.2.2.2⟩

theorem tok_progress (inp : Str) (t : Token) (r : Str) (h : tok inp = some (t, r)) :
    r <:+ inp ∧ (t ≠ .eof → r.length < inp.length) ∧ (t = .eof → r = []) ∧ (∀ v, t ≠ .comment v) :=
  lexSkip_progress _ inp t r h

theorem skipSpace_nil : CS.skipSpace [] = [] := by rw [CS.skipSpace]

theorem skipSpace_ws (b : Nat) (r : Str) (h : isWs b = true) : CS.skipSpace (b :: r) = CS.skipSpace r := by
  rw [CS.skipSpace]; simp [h]

theorem skipSpace_comment (r : Str) : CS.skipSpace (37 :: r) = CS.skipSpace (CS.skipLine r) := by
  rw [CS.skipSpace]; simp [show isWs 37 = false by decide]

theorem skipSpace_other (b : Nat) (r : Str) (h : isWs b = false) (h37 : b ≠ 37) :
    CS.skipSpace (b :: r) = b :: r := by
  rw [CS.skipSpace]; simp [h, h37]

theorem tok_ws (w rest : Str) (h : AllWs w) : tok (w ++ rest) = tok rest := by
  rw [tok, Tok.lexSkip_ws _ w rest h]
  exact lexSkip_eq_tok rest _ (by simp only [List.length_append]; omega)

theorem tok_percent (r : Str) : tok (37 :: r) = tok (commentBody r).2 := by
  have := (commentBody_suffix r).length_le
  rw [tok, List.length_cons, Tok.lexSkip_comment]
  exact lexSkip_eq_tok _ _ (by omega)

theorem skipSpace_allWs (w rest : Str) (h : AllWs w) : CS.skipSpace (w ++ rest) = CS.skipSpace rest :=
  skip_allWs CS.skipSpace skipSpace_ws w rest h

/-- a comment ends at the same place for both parsers: the document-level lexer consumes the
end-of-line marker, the content-stream parser leaves it, as white space, in front of the same rest -/
theorem skipLine_eq (r : Str) : ∃ e, AllWs e ∧ CS.skipLine r = e ++ (commentBody r).2 := by
  have ws : ∀ e : Str, e = [10] ∨ e = [13] ∨ e = [13, 10] → AllWs e := by
    rintro e (rfl | rfl | rfl) <;> unfold AllWs <;> decide
  fun_induction commentBody r with
  | case1 => exact ⟨[], fun _ h => (nomatch h), rfl⟩
  | case2 r => exact ⟨[10], ws _ (.inl rfl), by simp [CS.skipLine]⟩
  | case3 r' _ => exact ⟨[13, 10], ws _ (.inr (.inr rfl)), by simp [CS.skipLine]⟩
  | case4 c r' hc _ => exact ⟨[13], ws _ (.inr (.inl rfl)), by simp [CS.skipLine]⟩
  | case5 _ => exact ⟨[13], ws _ (.inr (.inl rfl)), by simp [CS.skipLine]⟩
  | case6 b r h10 h13 p ih => simpa only [CS.skipLine, h10, h13, or_self, if_false] using ih

theorem tok_skipLine (r : Str) : tok (CS.skipLine r) = tok (commentBody r).2 := by
  obtain ⟨e, he, h⟩ := skipLine_eq r
  rw [h, tok_ws e _ he]

/-- `skipSpace` reads through a comment and its end-of-line marker: what the lexer leaves behind the comment differs
from what `skipLine` leaves by white space only -/
theorem skipSpace_comment_line (t e rest : Str) (ht : ∀ c ∈ t, c ≠ 10 ∧ c ≠ 13)
    (he : e = [10] ∨ e = [13] ∨ e = [13, 10]) : CS.skipSpace (37 :: (t ++ e) ++ rest) = CS.skipSpace rest := by
  obtain ⟨w, hw, h⟩ := skipLine_eq ((t ++ e) ++ rest)
  rw [List.cons_append, skipSpace_comment, h, skipSpace_allWs w _ hw]
  exact Tok.after_comment CS.skipSpace (fun x => skipSpace_ws 10 x (by decide)) t e rest ht he

/-- what `contentstream.skipSpace` stops at is never white space and never `%` -/
theorem skipSpace_head (inp : Str) : ∀ (c : Nat) (x : Str), CS.skipSpace inp = c :: x → isWs c = false ∧ c ≠ 37 := by
  induction inp using CS.skipSpace.induct with
  | case1 => intro c x h; rw [skipSpace_nil] at h; cases h
  | case2 b r hw ih => rw [skipSpace_ws b r hw]; exact ih
  | case3 r _ ih => rw [skipSpace_comment]; exact ih
  | case4 b r hw h37 =>
    have hw' : isWs b = false := by simpa using hw
    rw [skipSpace_other b r hw' h37]
    intro c x h
    cases h
    exact ⟨hw', h37⟩

theorem skipLine_suffix (r : Str) : CS.skipLine r <:+ r := by
  rw [Gram.cs_skipLine_eq]
  exact List.dropWhile_suffix _

theorem skipSpace_suffix (inp : Str) : CS.skipSpace inp <:+ inp := by
  induction inp using CS.skipSpace.induct with
  | case1 => rw [skipSpace_nil]; exact List.suffix_refl _
  | case2 b r hw ih => rw [skipSpace_ws b r hw]; exact List.IsSuffix.trans ih (List.suffix_cons _ _)
  | case3 r _ ih =>
    rw [skipSpace_comment]
    exact List.IsSuffix.trans ih (List.IsSuffix.trans (skipLine_suffix r) (List.suffix_cons _ _))
  | case4 b r hw h37 => rw [skipSpace_other b r (by simpa using hw) h37]; exact List.suffix_refl _

/-- `skipSpace` is idempotent (the parsers call it again at the start of `parseOperand`) -/
theorem skipSpace_idem (inp : Str) : CS.skipSpace (CS.skipSpace inp) = CS.skipSpace inp := by
  cases h : CS.skipSpace inp with
  | nil => exact skipSpace_nil
  | cons c x =>
    have := skipSpace_head inp c x h
    exact skipSpace_other c x this.1 this.2

/-- `parseOperand` sees its input only through what `skipSpace` leaves of it -/
theorem parseOperand_congr {x y : Str} (h : CS.skipSpace x = CS.skipSpace y) (f d : Nat) :
    CS.parseOperand f d x = CS.parseOperand f d y := by
  cases f with
  | zero => rw [CS.parseOperand, CS.parseOperand]
  | succ f => rw [CS.parseOperand, CS.parseOperand, h]

/-- **the two parsers see the same first token**: the first non-comment token of the
document-level lexer is the token that starts at the byte `contentstream.skipSpace` stops at -/
theorem tok_of_skipSpace (inp : Str) :
    (CS.skipSpace inp = [] → tok inp = some (.eof, [])) ∧
    (∀ c x, CS.skipSpace inp = c :: x → tok inp = Tok.dispatch c x) := by
  induction inp using CS.skipSpace.induct with
  | case1 => exact ⟨fun _ => rfl, fun c x h => by rw [skipSpace_nil] at h; cases h⟩
  | case2 b r hw ih =>
    have hws : AllWs [b] := by intro c hc; simp at hc; subst hc; exact hw
    rw [skipSpace_ws b r hw, show b :: r = [b] ++ r from rfl, tok_ws [b] r hws]
    exact ih
  | case3 r _ ih => rw [skipSpace_comment, tok_percent, ← tok_skipLine]; exact ih
  | case4 b r hw h37 =>
    have hw' : isWs b = false := by simpa using hw
    rw [skipSpace_other b r hw' h37]
    refine ⟨fun h => (by cases h), fun c x h => ?_⟩
    cases h
    have e : nextToken (b :: r) = Tok.dispatch b r := Tok.nextToken_cons b r hw'
    cases hd : Tok.dispatch b r with
    | none => simp only [tok, lexSkip, e, hd]
    | some p =>
      rw [hd] at e
      refine Tok.lexSkip_token _ _ p.1 p.2 e (fun v hv => h37 ?_)
      have hfb := (dispatch_spec hd).1
      rw [hv] at hfb
      exact hfb

theorem tok_skipSpace (inp : Str) : tok (CS.skipSpace inp) = tok inp := by
  cases h : CS.skipSpace inp with
  | nil => rw [(tok_of_skipSpace inp).1 h]; rfl
  | cons c x =>
    rw [(tok_of_skipSpace inp).2 c x h]
    have := skipSpace_idem inp
    rw [h] at this
    exact (tok_of_skipSpace (c :: x)).2 c x this

/-- the document-level parser's state does not see the white space and comments that
`contentstream.skipSpace` skips (unless the very first token is a lexical error) -/
theorem stateAt_skipSpace (inp : Str) (h : tok inp ≠ none) : stateAt (CS.skipSpace inp) = stateAt inp := by
  cases ht : tok inp with
  | none => exact absurd ht h
  | some p =>
    obtain ⟨t, r⟩ := p
    exact stateAt_congr _ _ t r (by rw [tok_skipSpace, ht]) ht

end Prog
end Tabula.Pdf
