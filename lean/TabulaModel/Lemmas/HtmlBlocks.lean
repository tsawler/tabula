import TabulaModel.Lemmas.Traverse
import TabulaModel.Model.HtmlSpec
import TabulaModel.Lemmas.ListBasics
/-!
A finer specification than `atoms` for the views that show more than cell texts (Markdown,
Document): `blocks` keeps a table whole (its rows, header flag) and records for every list item
the kind (ordered or not) of the list it was met in.  The stateful traversal refines it, and it
is monotone in the exclusion predicate; `atoms` is `blocks` with tables opened and kinds
forgotten, so both facts come down to `atoms`.  Used by Props/C19.lean and Props/C19Md.lean.
-/
namespace Tabula.Html

mutual
theorem blocks_mono (p q : Pos → Dom → Bool) (h : ∀ pos n, p pos n = true → q pos n = true) (w : Bool) :
    ∀ (t : Dom) (pos : Pos) (lc : LCB), (blocks q w pos lc t).Sublist (blocks p w pos lc t)
  | .text _, pos, lc => by simp [blocks]
  | .other kids, pos, lc => by
      simp only [blocks]
      exact blocksL_mono p q h w kids _ lc
  | .elem tag attrs kids, pos, lc => by
      unfold blocks
      by_cases hs : isSkip tag = true
      · rw [if_pos hs, if_pos hs]; exact .refl _
      · by_cases hq : q pos (.elem tag attrs kids) = true
        · rw [if_neg hs, if_pos hq]; exact List.nil_sublist _
        · have hp : ¬ p pos (.elem tag attrs kids) = true := fun hp => hq (h _ _ hp)
          rw [if_neg hs, if_neg hq, if_neg hs, if_neg hp]
          cases classify tag with
          | pdiv isP =>
            simp only []
            split
            · exact .refl _
            · exact blocksM_mono p q h w kids _ lc []
          | list ord => exact blocksL_mono p q h w kids _ _
          | li => exact .append (.refl _) (blocksLi_mono p q h w kids _ _)
          | other => exact blocksL_mono p q h w kids _ lc
          | _ => exact .refl _
theorem blocksL_mono (p q : Pos → Dom → Bool) (h : ∀ pos n, p pos n = true → q pos n = true) (w : Bool) :
    ∀ (ts : List Dom) (kp : Pos) (lc : LCB), (blocksL q w kp lc ts).Sublist (blocksL p w kp lc ts)
  | [], kp, lc => by simp [blocksL]
  | k :: ks, kp, lc => by
      simp only [blocksL]
      exact List.Sublist.append (blocks_mono p q h w k kp lc) (blocksL_mono p q h w ks kp lc)
theorem blocksLi_mono (p q : Pos → Dom → Bool) (h : ∀ pos n, p pos n = true → q pos n = true) (w : Bool) :
    ∀ (ts : List Dom) (kp : Pos) (lc : LCB), (blocksLi q w kp lc ts).Sublist (blocksLi p w kp lc ts)
  | [], kp, lc => by simp [blocksLi]
  | k :: ks, kp, lc => by
      simp only [blocksLi]
      refine List.Sublist.append ?_ (blocksLi_mono p q h w ks kp lc)
      split
      · exact blocks_mono p q h w k kp lc
      · exact List.Sublist.refl _
theorem blocksM_mono (p q : Pos → Dom → Bool) (h : ∀ pos n, p pos n = true → q pos n = true) (w : Bool) :
    ∀ (ts : List Dom) (kp : Pos) (lc : LCB) (run : Str),
      (blocksM q w kp lc ts run).Sublist (blocksM p w kp lc ts run)
  | [], kp, lc, run => by simp [blocksM]
  | k :: ks, kp, lc, run => by
      simp only [blocksM]
      split
      · exact blocksM_mono p q h w ks kp lc _
      · exact List.Sublist.append (List.Sublist.append (List.Sublist.refl _) (blocks_mono p q h w k kp lc))
          (blocksM_mono p q h w ks kp lc [])
end

/-! ### the traversal refines `blocks` -/

mutual
theorem trav_refinesB (p : Pos → Dom → Bool) (w : Bool) :
    ∀ (t : Dom) (pos : Pos) (s : St), s.ok → RefinesB s (trav p w pos t s) (blocks p w pos s.lcB t)
  | .text _, pos, s, h => by
      simp only [trav, blocks]; exact RefinesB.rfl' s h
  | .other kids, pos, s, h => by
      simp only [trav, blocks]; exact travL_refinesB p w kids _ s h
  | .elem tag attrs kids, pos, s, h => by
      unfold trav blocks
      by_cases hs : isSkip tag = true
      · rw [if_pos hs, if_pos hs]; exact RefinesB.rfl' s h
      · by_cases hp : p pos (.elem tag attrs kids) = true
        · rw [if_neg hs, if_pos hp, if_neg hs, if_pos hp]; exact RefinesB.rfl' s h
        · rw [if_neg hs, if_neg hp, if_neg hs, if_neg hp]
          cases hc : classify tag with
          | heading lvl =>
            simp only []
            split
            · exact refinesB_flush_emit s h _
            · exact refinesB_flush s h
          | pdiv isP =>
            simp only []
            have h1 : RefinesB s (if isP = true then flushList s else s) [] := by
              split
              · exact refinesB_flush s h
              · exact RefinesB.rfl' s h
            by_cases hcnd : (trim (getTextContent (.elem tag attrs kids)) != [] && !isBlockContainer kids) = true
            · simp only [hcnd, if_true]
              have := h1.trans (refinesB_flush_emit _ h1.ok (.para (trim (getTextContent (.elem tag attrs kids)))))
              simpa [Element.blocks] using this
            · simp only [hcnd, if_false, Bool.false_eq_true]
              have h2 := travM_refinesB p w kids (pos.kid w tag) [] _ h1.ok
              rw [h1.lc] at h2
              simpa using h1.trans h2
          | list ord =>
            simp only []
            have h2 := travL_refinesB p w kids (pos.kid w tag) _ (listEnter_shape ord s).2.2.2
            rw [listEnter_lcB] at h2
            exact listExit_refinesB ord s _ _ h h2
          | li =>
            exact li_refinesB kids (travLi p w (pos.kid w tag) kids) (fun lc => blocksLi p w (pos.kid w tag) lc kids)
              (travLi_refinesB p w kids _) s h
          | table =>
            simp only []
            by_cases hr : ((parseTable kids).1 != []) = true
            · simp only [hr, if_true]
              exact refinesB_flush_emit s h _
            · simp only [hr, if_false, Bool.false_eq_true]
              exact refinesB_flush s h
          | void => exact RefinesB.rfl' s h
          | other => exact travL_refinesB p w kids _ s h
          | _ =>
            simp only []
            split
            · exact refinesB_flush_emit s h _
            · exact RefinesB.rfl' s h
theorem travL_refinesB (p : Pos → Dom → Bool) (w : Bool) :
    ∀ (ts : List Dom) (kp : Pos) (s : St), s.ok → RefinesB s (travL p w kp ts s) (blocksL p w kp s.lcB ts)
  | [], kp, s, h => by simp only [travL, blocksL]; exact RefinesB.rfl' s h
  | k :: ks, kp, s, h => by
      simp only [travL, blocksL]
      have h1 := trav_refinesB p w k kp s h
      have h2 := travL_refinesB p w ks kp _ h1.ok
      rw [h1.lc] at h2
      exact h1.trans h2
theorem travLi_refinesB (p : Pos → Dom → Bool) (w : Bool) :
    ∀ (ts : List Dom) (kp : Pos) (s : St), s.ok → RefinesB s (travLi p w kp ts s) (blocksLi p w kp s.lcB ts)
  | [], kp, s, h => by simp only [travLi, blocksLi]; exact RefinesB.rfl' s h
  | k :: ks, kp, s, h => by
      simp only [travLi, blocksLi]
      by_cases hk : isListElem k = true
      · simp only [hk, if_true]
        have h1 := trav_refinesB p w k kp s h
        have h2 := travLi_refinesB p w ks kp _ h1.ok
        rw [h1.lc] at h2
        exact h1.trans h2
      · simp only [hk, if_false, Bool.false_eq_true, List.nil_append]
        exact travLi_refinesB p w ks kp s h
theorem travM_refinesB (p : Pos → Dom → Bool) (w : Bool) :
    ∀ (ts : List Dom) (kp : Pos) (run : Str) (s : St), s.ok →
      RefinesB s (travM p w kp ts run s) (blocksM p w kp s.lcB ts run)
  | [], kp, run, s, h => by simp only [travM, blocksM]; exact emitRun_refinesB run s h
  | k :: ks, kp, run, s, h => by
      simp only [travM, blocksM]
      by_cases hk : isInline k = true
      · simp only [hk, if_true]
        exact travM_refinesB p w ks kp _ s h
      · simp only [hk, if_false, Bool.false_eq_true]
        have h0 := emitRun_refinesB run s h
        have h1 := trav_refinesB p w k kp _ h0.ok
        rw [h0.lc] at h1
        have h2 := travM_refinesB p w ks kp [] _ h1.ok
        rw [h1.lc, h0.lc] at h2
        exact (h0.trans h1).trans h2
end

/-- the element list of a document, with tables whole and item kinds kept, is `blocksOf` -/
theorem extract_blocks (p : Pos → Dom → Bool) (body : Dom) :
    flattenB (extractWith p body) = blocksOf p body := by
  unfold extractWith blocksOf
  have h := trav_refinesB p (hasWrapper body) body .root {} (fun _ => ⟨rfl, rfl⟩)
  rw [flushList_outB _ h.ok, h.flat]
  rfl

/-! ### `atoms` is `blocks` with tables opened and item kinds forgotten -/

def LCB.toLC (lc : LCB) : LC := ⟨lc.inList, lc.level⟩

theorem LCB.toLC_enter (lc : LCB) (ord : Bool) : (lc.enter ord).toLC = lc.toLC.enter := by
  cases h : lc.inList <;> simp [LCB.enter, LCB.toLC, LC.enter, h]

theorem LCB.forItem_level (lc : LCB) : lc.forItem.level = lc.toLC.enter.level := by
  cases h : lc.inList <;> simp [LCB.forItem, LCB.toLC, LC.enter, h]

/-- the shape of every leaf case of `blocks`: at most one block -/
theorem flatMap_atoms_ite {c : Prop} [Decidable c] (b : Block) :
    (if c then [b] else []).flatMap Block.atoms = if c then b.atoms else [] := by
  split <;> simp

theorem runBlocks_atoms (run : Str) : (runBlocks run).flatMap Block.atoms = runAtoms run :=
  flatMap_atoms_ite _

mutual
theorem blocks_atoms (p : Pos → Dom → Bool) (w : Bool) :
    ∀ (t : Dom) (pos : Pos) (lc : LCB),
      (blocks p w pos lc t).flatMap Block.atoms = atoms p w pos lc.toLC t
  | .text _, pos, lc => by simp [blocks, atoms]
  | .other kids, pos, lc => by
      simp only [blocks, atoms]; exact blocksL_atoms p w kids _ lc
  | .elem tag attrs kids, pos, lc => by
      unfold blocks atoms
      by_cases hs : isSkip tag = true
      · simp [hs]
      · by_cases hp : p pos (.elem tag attrs kids) = true
        · simp [hs, hp]
        · rw [if_neg hs, if_neg hp, if_neg hs, if_neg hp]
          cases classify tag with
          | heading lvl => exact flatMap_atoms_ite _
          | pdiv isP =>
            simp only []
            split
            · simp [Block.atoms]
            · exact blocksM_atoms p w kids _ lc []
          | list ord =>
            simp only []
            rw [blocksL_atoms p w kids _ _, LCB.toLC_enter]
          | li =>
            simp only []
            rw [List.flatMap_append, blocksLi_atoms p w kids _ _, flatMap_atoms_ite, LCB.forItem_level]
            rfl
          | table =>
            simp only []
            rw [flatMap_atoms_ite]
            split
            · rfl
            · rename_i hr
              have he : (parseTable kids).1 = [] := by simpa using hr
              rw [he]; rfl
          | code => exact flatMap_atoms_ite _
          | quote => exact flatMap_atoms_ite _
          | void => rfl
          | other => exact blocksL_atoms p w kids _ lc
theorem blocksL_atoms (p : Pos → Dom → Bool) (w : Bool) :
    ∀ (ts : List Dom) (kp : Pos) (lc : LCB),
      (blocksL p w kp lc ts).flatMap Block.atoms = atomsL p w kp lc.toLC ts
  | [], kp, lc => by simp [blocksL, atomsL]
  | k :: ks, kp, lc => by
      simp only [blocksL, atomsL, List.flatMap_append, blocks_atoms p w k kp lc, blocksL_atoms p w ks kp lc]
theorem blocksLi_atoms (p : Pos → Dom → Bool) (w : Bool) :
    ∀ (ts : List Dom) (kp : Pos) (lc : LCB),
      (blocksLi p w kp lc ts).flatMap Block.atoms = atomsLi p w kp lc.toLC ts
  | [], kp, lc => by simp [blocksLi, atomsLi]
  | k :: ks, kp, lc => by
      simp only [blocksLi, atomsLi, List.flatMap_append, blocksLi_atoms p w ks kp lc]
      congr 1
      split
      · exact blocks_atoms p w k kp lc
      · rfl
theorem blocksM_atoms (p : Pos → Dom → Bool) (w : Bool) :
    ∀ (ts : List Dom) (kp : Pos) (lc : LCB) (run : Str),
      (blocksM p w kp lc ts run).flatMap Block.atoms = atomsM p w kp lc.toLC ts run
  | [], kp, lc, run => by simp only [blocksM, atomsM]; exact runBlocks_atoms run
  | k :: ks, kp, lc, run => by
      simp only [blocksM, atomsM]
      split
      · exact blocksM_atoms p w ks kp lc _
      · rw [List.flatMap_append, List.flatMap_append, runBlocks_atoms, blocks_atoms p w k kp lc,
          blocksM_atoms p w ks kp lc []]
end

/-! ### hence the traversal refines `atoms`, and `atoms` is monotone in the predicate -/

theorem trav_refines (p : Pos → Dom → Bool) (w : Bool) :
    ∀ (t : Dom) (pos : Pos) (s : St), s.ok → Refines s (trav p w pos t s) (atoms p w pos s.lc t) :=
  fun t pos s h => blocks_atoms p w t pos s.lcB ▸ (trav_refinesB p w t pos s h).toRefines

theorem travL_refines (p : Pos → Dom → Bool) (w : Bool) :
    ∀ (ts : List Dom) (kp : Pos) (s : St), s.ok → Refines s (travL p w kp ts s) (atomsL p w kp s.lc ts) :=
  fun ts kp s h => blocksL_atoms p w ts kp s.lcB ▸ (travL_refinesB p w ts kp s h).toRefines

theorem travLi_refines (p : Pos → Dom → Bool) (w : Bool) :
    ∀ (ts : List Dom) (kp : Pos) (s : St), s.ok → Refines s (travLi p w kp ts s) (atomsLi p w kp s.lc ts) :=
  fun ts kp s h => blocksLi_atoms p w ts kp s.lcB ▸ (travLi_refinesB p w ts kp s h).toRefines

theorem travM_refines (p : Pos → Dom → Bool) (w : Bool) :
    ∀ (ts : List Dom) (kp : Pos) (run : Str) (s : St), s.ok →
      Refines s (travM p w kp ts run s) (atomsM p w kp s.lc ts run) :=
  fun ts kp run s h => blocksM_atoms p w ts kp s.lcB run ▸ (travM_refinesB p w ts kp run s h).toRefines

/-- a list context of `atoms` as one of `blocks` (the kind of the list is not looked at) -/
def LC.toLCB (lc : LC) : LCB := ⟨lc.inList, lc.level, false⟩

theorem atoms_mono (p q : Pos → Dom → Bool) (h : ∀ pos n, p pos n = true → q pos n = true) (w : Bool) :
    ∀ (t : Dom) (pos : Pos) (lc : LC), (atoms q w pos lc t).Sublist (atoms p w pos lc t) := fun t pos lc =>
  blocks_atoms q w t pos lc.toLCB ▸ blocks_atoms p w t pos lc.toLCB ▸ (blocks_mono p q h w t pos _).flatMap _

theorem atomsL_mono (p q : Pos → Dom → Bool) (h : ∀ pos n, p pos n = true → q pos n = true) (w : Bool) :
    ∀ (ts : List Dom) (kp : Pos) (lc : LC), (atomsL q w kp lc ts).Sublist (atomsL p w kp lc ts) := fun ts kp lc =>
  blocksL_atoms q w ts kp lc.toLCB ▸ blocksL_atoms p w ts kp lc.toLCB ▸ (blocksL_mono p q h w ts kp _).flatMap _

theorem atomsLi_mono (p q : Pos → Dom → Bool) (h : ∀ pos n, p pos n = true → q pos n = true) (w : Bool) :
    ∀ (ts : List Dom) (kp : Pos) (lc : LC), (atomsLi q w kp lc ts).Sublist (atomsLi p w kp lc ts) := fun ts kp lc =>
  blocksLi_atoms q w ts kp lc.toLCB ▸ blocksLi_atoms p w ts kp lc.toLCB ▸ (blocksLi_mono p q h w ts kp _).flatMap _

theorem atomsM_mono (p q : Pos → Dom → Bool) (h : ∀ pos n, p pos n = true → q pos n = true) (w : Bool) :
    ∀ (ts : List Dom) (kp : Pos) (lc : LC) (run : Str), (atomsM q w kp lc ts run).Sublist (atomsM p w kp lc ts run) :=
  fun ts kp lc run =>
  blocksM_atoms q w ts kp lc.toLCB run ▸ blocksM_atoms p w ts kp lc.toLCB run ▸
    (blocksM_mono p q h w ts kp _ run).flatMap _

end Tabula.Html
