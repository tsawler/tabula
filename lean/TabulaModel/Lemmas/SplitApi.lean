import TabulaModel.Lemmas.Split
import TabulaModel.Lemmas.SplitBound
/-!
C13: the choice `findBestBoundaryNear` makes and how far beyond the byte position of the limit it
can take the split point, size monotonicity for the two units of the size bound, boundary lists
that never influence the split.
-/
set_option linter.unusedVariables false
namespace Tabula.Split

/-- the search window of `findBestBoundaryNear` -/
def InWindow (position tolerance : Nat) (b : Boundary) : Prop :=
  position - tolerance ≤ b.pos ∧ b.pos ≤ position + tolerance

/-- one iteration of the loop of `findBestBoundaryNear` -/
def bestStep (minPos maxPos : Nat) (acc : Option Boundary × Int) (b : Boundary) : Option Boundary × Int :=
  if minPos ≤ b.pos ∧ b.pos ≤ maxPos ∧ b.score > acc.2 then (some b, b.score) else acc

theorem findBestBoundaryNear_eq (bs : List Boundary) (position tolerance : Nat) :
    findBestBoundaryNear bs position tolerance
      = (bs.foldl (bestStep (position - tolerance) (position + tolerance)) (none, -1)).1 := rfl

/-- loop invariant: `acc` holds a boundary of highest score (> -1) among `pre` in the window and that
score, or no boundary and -1 (that it is the first such boundary is not recorded) -/
def BestInv (lo hi : Nat) (pre : List Boundary) (acc : Option Boundary × Int) : Prop :=
  -1 ≤ acc.2 ∧ (∀ b ∈ pre, lo ≤ b.pos → b.pos ≤ hi → b.score ≤ acc.2) ∧
    (match acc.1 with
     | none => acc.2 = -1
     | some b => b ∈ pre ∧ lo ≤ b.pos ∧ b.pos ≤ hi ∧ b.score = acc.2 ∧ -1 < b.score)

theorem bestInv_step (lo hi : Nat) (pre : List Boundary) (acc : Option Boundary × Int) (b : Boundary)
    (h : BestInv lo hi pre acc) : BestInv lo hi (pre ++ [b]) (bestStep lo hi acc b) := by
  obtain ⟨h1, h2, h3⟩ := h
  unfold bestStep
  by_cases hc : lo ≤ b.pos ∧ b.pos ≤ hi ∧ b.score > acc.2
  · rw [if_pos hc]
    refine ⟨by simp only; omega, ?_, ?_⟩
    · intro x hx hlo hhi
      rcases List.mem_append.mp hx with hx | hx
      · have := h2 x hx hlo hhi; simp only; omega
      · have : x = b := by simpa using hx
        subst this; exact Int.le_refl _
    · simp only
      exact ⟨by simp, hc.1, hc.2.1, trivial, by omega⟩
  · rw [if_neg hc]
    refine ⟨h1, ?_, ?_⟩
    · intro x hx hlo hhi
      rcases List.mem_append.mp hx with hx | hx
      · exact h2 x hx hlo hhi
      · have : x = b := by simpa using hx
        subst this
        have : ¬ x.score > acc.2 := fun hgt => hc ⟨hlo, hhi, hgt⟩
        omega
    · cases hacc : acc.1 with
      | none => simp only [hacc] at h3 ⊢; exact h3
      | some y =>
        simp only [hacc] at h3 ⊢
        exact ⟨List.mem_append_left _ h3.1, h3.2⟩

theorem bestInv_findBest (bs : List Boundary) (position tolerance : Nat) :
    BestInv (position - tolerance) (position + tolerance) bs
      (bs.foldl (bestStep (position - tolerance) (position + tolerance)) (none, -1)) := by
  have := foldl_content (P := BestInv (position - tolerance) (position + tolerance))
    (Q := fun _ => True) (g := fun b => [b]) (fun pre acc b _ h => bestInv_step _ _ pre acc b h)
    bs [] (none, -1) (fun _ _ => trivial) ⟨Int.le_refl _, by simp, rfl⟩
  simpa using this

/-- **the boundary chosen**: it is one of the given boundaries, lies in `position ± tolerance`,
has a score above -1, and no boundary in the window has a higher score -/
theorem findBestBoundaryNear_some {bs : List Boundary} {position tolerance : Nat} {b : Boundary}
    (h : findBestBoundaryNear bs position tolerance = some b) :
    b ∈ bs ∧ InWindow position tolerance b ∧ -1 < b.score ∧
      ∀ x ∈ bs, InWindow position tolerance x → x.score ≤ b.score := by
  rw [findBestBoundaryNear_eq] at h
  obtain ⟨_, h2, h3⟩ := bestInv_findBest bs position tolerance
  rw [h] at h3
  simp only at h3
  obtain ⟨hm, hlo, hhi, hs, hpos⟩ := h3
  refine ⟨hm, ⟨hlo, hhi⟩, hpos, ?_⟩
  intro x hx hw
  rw [hs]
  exact h2 x hx hw.1 hw.2

/-- no boundary chosen: every boundary in the window has a score ≤ -1 -/
theorem findBestBoundaryNear_none {bs : List Boundary} {position tolerance : Nat}
    (h : findBestBoundaryNear bs position tolerance = none) :
    ∀ x ∈ bs, InWindow position tolerance x → x.score ≤ -1 := by
  rw [findBestBoundaryNear_eq] at h
  obtain ⟨_, h2, h3⟩ := bestInv_findBest bs position tolerance
  rw [h] at h3
  simp only at h3
  intro x hx hw
  rw [← h3]
  exact h2 x hx hw.1 hw.2

/-- where `FindSplitPointAt` can land when the limit lies inside a spaced text: with supplied
boundaries at most a quarter beyond the byte position of the limit -/
theorem findSplitPointAt_bound_boundaries {c : SizeConfig} {text : Str} (bs : List Boundary) {M : Nat}
    {u : SizeUnit} (hs : Spaced text) (hT : 50 ≤ targetPosOf c M u) (hlen : targetPosOf c M u < text.length) :
    1 ≤ findSplitPointAt c text bs M u
      ∧ findSplitPointAt c text bs M u ≤ targetPosOf c M u + targetPosOf c M u / 4 := by
  rcases findSplitPointAt_cases c text bs M u with ⟨h, _⟩ | ⟨_, ⟨b, _, hb, e⟩ | e⟩
  · omega
  · obtain ⟨_, ⟨h1, h2⟩, _, _⟩ := findBestBoundaryNear_some hb
    rw [e]
    exact ⟨by omega, h2⟩
  · have := findSentenceEndNear_bound hs hT hlen
    rw [e]
    omega

/-- characters and tokens are monotone in the byte length -/
theorem getSize_mono {c : SizeConfig} {s t : Str} {u : SizeUnit}
    (hunit : u = .characters ∨ u = .tokens) (hl : s.length ≤ t.length) :
    getSize c s u ≤ getSize c t u := by
  rcases hunit with h | h <;> subst h <;> simp only [getSize, estimateTokens]
  · exact hl
  · exact Nat.div_le_div_right (Nat.mul_le_mul_right _ hl)

/-- what holds of the six parameterless preset configurations of `size_config.go` holds of
whatever `presetByName` returns -/
theorem presetByName_forall {P : SizeConfig → Prop}
    (h : ∀ c ∈ [defaultSizeConfig, smallChunkConfig, largeChunkConfig, openAIEmbeddingConfig,
      cohereEmbeddingConfig, claudeContextConfig], P c)
    {name : String} {c : SizeConfig} (hc : presetByName name = some c) : P c := by
  apply h
  unfold presetByName at hc
  split at hc <;> cases hc <;> simp

/-- Boundary lists that never influence the split point search (a class `Good` closed under
the loop's adjustment) are inert through the whole loop. -/
theorem splitToSize_eq_nil_of {c : SizeConfig} {Good : List Boundary → Prop}
    (hclosed : ∀ bs n, Good bs → Good (adjustBoundaryPositions bs n))
    (hfind : ∀ text bs, Good bs → findSplitPointAt c text bs c.maxValue c.maxUnit
      = findSplitPointAt c text [] c.maxValue c.maxUnit)
    (text : Str) (bs : List Boundary) (hg : Good bs) :
    splitToSize c text bs = splitToSize c text [] := by
  refine splitToSize_induction (Inv := fun _ bs => Good bs)
    (R := fun rem ps => ps = splitToSize c rem []) (splitToSize_nil c []).symm ?_ ?_ text bs hg
  · intro rem bs sp hg hne hsp h
    rw [hfind rem bs hg] at hsp
    subst hsp
    exact (splitToSize_whole hne h).symm
  · intro rem bs sp hg hsp ha h0 hlt
    refine ⟨hclosed _ _ hg, fun ps ih => ?_⟩
    rw [hfind rem bs hg] at hsp
    rw [splitToSize_step hsp ha h0 hlt, ih]
    rfl

end Tabula.Split
