import TabulaModel.Model.XrefTrailer
import TabulaModel.Lemmas.XrefResolveGen
/-!
The calls that start from the trailer see the reader only through `GetObject`: `GetCatalog` and
`GetInfo` hand the reader's state on as the lookup leaves it and answer by a function of what the
lookup answered. So a lookup that answers like a stateless `spec` under an invariant
(`XrefR.Sim`) makes every such call answer like the call on `spec`.
-/
namespace Tabula.XrefT
open Tabula.Pdf (Obj)
open Tabula.Reader (Dict dget PVal)
open Tabula.XrefFile
open Tabula.XrefR (DObj ofPVal ofObj Sim pureGet)

/-- what `GetCatalog` / `GetInfo` make of the object looked up: it must be a dictionary -/
def asDict : Option PVal → Option DObj
  | some (.obj (.dict kv)) => some (ofObj (.dict kv))
  | _ => none

/-- the object number of a trailer entry that is a reference -/
def refNum : Option Obj → Option Int
  | some (.ref n _) => some n
  | _ => none

theorem getCatalog_eq {σ : Type} (get : Int → σ → Option PVal × σ) (tr : Dict) (s : σ) :
    getCatalog get tr s =
      match refNum (dget tr kRoot) with
      | some n => (asDict (get n s).1, (get n s).2)
      | none => (none, s) := by
  unfold getCatalog
  cases dget tr kRoot with
  | none => rfl
  | some o =>
    cases o <;> try rfl
    rename_i n g
    dsimp only [refNum]
    generalize get n s = r
    obtain ⟨a, s'⟩ := r
    cases a with
    | none => rfl
    | some v =>
      cases v with
      | stream _ _ => rfl
      | obj o => cases o <;> rfl

theorem getInfo_eq {σ : Type} (get : Int → σ → Option PVal × σ) (tr : Dict) (s : σ) :
    getInfo get tr s =
      if dget tr kInfo = none then (some none, s)
      else
        match refNum (dget tr kInfo) with
        | some n => ((asDict (get n s).1).map some, (get n s).2)
        | none => (none, s) := by
  unfold getInfo
  cases dget tr kInfo with
  | none => rfl
  | some o =>
    rw [if_neg (fun h => nomatch h)]
    cases o <;> try rfl
    rename_i n g
    dsimp only [refNum]
    generalize get n s = r
    obtain ⟨a, s'⟩ := r
    cases a with
    | none => rfl
    | some v =>
      cases v with
      | stream _ _ => rfl
      | obj o => cases o <;> rfl

/-- one trailer call on a reader whose lookup answers like `spec` under `I`: the answer of the
call on `spec`, and `I` is kept -/
theorem tstep_refines {σ : Type} {get : Int → σ → Option PVal × σ} {spec : Int → Option PVal} {I : σ → Prop}
    (h : Sim get spec I) (clear : σ → σ) (hc : ∀ s, I s → I (clear s)) (tr : Dict) (s : σ) (hs : I s) (op : TOp) :
    (tstep get clear tr s op).1 = (tstep (pureGet spec) id tr () op).1 ∧ I (tstep get clear tr s op).2 := by
  cases op with
  | get n => exact ⟨congrArg (fun a : Option PVal => TAns.val (a.map ofPVal)) (h n s hs).1, (h n s hs).2⟩
  | clear => exact ⟨rfl, hc s hs⟩
  | numObjects => exact ⟨rfl, hs⟩
  | trailer => exact ⟨rfl, hs⟩
  | catalog =>
    simp only [tstep, getCatalog_eq, pureGet]
    cases refNum (dget tr kRoot) with
    | none => exact ⟨rfl, hs⟩
    | some n => exact ⟨congrArg (fun a => TAns.val (asDict a)) (h n s hs).1, (h n s hs).2⟩
  | info =>
    simp only [tstep, getInfo_eq, pureGet]
    by_cases hd : dget tr kInfo = none
    · rw [if_pos hd, if_pos hd]; exact ⟨rfl, hs⟩
    · rw [if_neg hd, if_neg hd]
      cases refNum (dget tr kInfo) with
      | none => exact ⟨rfl, hs⟩
      | some n =>
        dsimp only
        rw [(h n s hs).1]
        cases asDict (spec n) <;> exact ⟨rfl, (h n s hs).2⟩

end Tabula.XrefT
