import TabulaModel.Lemmas.HtmlBlocks
import TabulaModel.Lemmas.HtmlApi
/-!
Helper lemmas for C19 (Props/C19Md.lean): the Markdown view up to white space as a function
of the blocks; heading levels of a parsed document.
-/
namespace Tabula.Html

/-- what one block looks like in the Markdown view (indentation and separators aside) -/
def Block.md (hl : Nat → Nat) : Block → Str
  | .heading l t => hashes (hl l) ++ [32] ++ t
  | .para t => t
  | .item _ t o => (if o then [49, 46, 32] else [45, 32]) ++ t
  | .table _ rows => tableToMarkdown rows
  | .code t => [96, 96, 96, 10] ++ t ++ [10, 96, 96, 96]
  | .quote t => mdQuote t

theorem squeeze_mdItems (hl : Nat → Nat) : ∀ (items : List Item) (first : Bool),
    squeeze (mdItems items first) = items.flatMap fun i => squeeze ((itemBlock i).md hl)
  | [], _ => rfl
  | i :: rest, first => by
      simp only [mdItems, squeeze_append, squeeze_spaces, squeeze_mdItems hl rest false,
        List.flatMap_cons, itemBlock, Block.md]
      have h1 : squeeze (if first = true then [] else [10]) = [] := by split <;> rfl
      rw [h1]; simp

theorem items_md (hl : Nat → Nat) (items : List Item) :
    (items.map itemBlock).flatMap (fun b => squeeze (b.md hl)) =
      items.flatMap fun i => squeeze ((itemBlock i).md hl) :=
  List.flatMap_map ..

/-- Up to white space the Markdown view is a function of the blocks alone. -/
theorem squeeze_renderMd (hl : Nat → Nat) : ∀ (els : List Element) (acc : Str),
    squeeze (renderMd hl els acc) = squeeze acc ++ (flattenB els).flatMap fun b => squeeze (b.md hl)
  | [], acc => by simp [renderMd, flattenB]
  | e :: rest, acc => by
      have hf : flattenB (e :: rest) = e.blocks ++ flattenB rest := by simp [flattenB]
      rw [hf, List.flatMap_append, ← List.append_assoc]
      unfold renderMd
      simp only []
      rw [squeeze_renderMd hl rest]
      congr 1
      cases e with
      | list o items =>
        simp only [squeeze_append, squeeze_sep, Element.blocks, squeeze_mdItems hl, items_md,
          List.append_nil]
      | table hd rows =>
        simp only [Element.blocks, List.flatMap_cons, List.flatMap_nil, List.append_nil, Block.md]
        by_cases hr : rows = []
        · simp [hr, tableToMarkdown_nil, squeeze]
        · simp only [hr, if_false, squeeze_append, squeeze_sep, List.append_nil]
      | _ => simp [squeeze_append, squeeze_sep, Element.blocks, Block.md]

/-- the heading levels the switch of `traverseNodeFiltered` can produce -/
def TagK.levelOk : TagK → Prop
  | .heading l => 1 ≤ l ∧ l ≤ 6
  | _ => True

theorem ite_rec {α : Sort _} {P : α → Prop} {c : Prop} [Decidable c] {a b : α} (ha : P a) (hb : P b) :
    P (ite c a b) := by
  split <;> assumption

theorem classify_levelOk (tag : Str) : (classify tag).levelOk := by
  unfold classify
  -- one goal for each result in the chain of `if`s (`split` is very slow on this chain)
  repeat' apply ite_rec (P := TagK.levelOk)
  all_goals simp [TagK.levelOk]

theorem classify_heading (tag : Str) (l : Nat) (h : classify tag = .heading l) : 1 ≤ l ∧ l ≤ 6 := by
  have := classify_levelOk tag
  rwa [h] at this

def Block.levelOk : Block → Prop
  | .heading l _ => 1 ≤ l ∧ l ≤ 6
  | _ => True

/-- the shape of every leaf case of `blocks`: at most one block -/
theorem levelOk_of_mem_ite {c : Prop} [Decidable c] {x b : Block}
    (hb : b ∈ if c then [x] else []) (hx : x.levelOk) : b.levelOk := by
  split at hb
  · rw [List.mem_singleton.mp hb]; exact hx
  · cases hb

mutual
theorem blocks_levelOk (p : Pos → Dom → Bool) (w : Bool) :
    ∀ (t : Dom) (pos : Pos) (lc : LCB), ∀ b ∈ blocks p w pos lc t, b.levelOk
  | .text _, pos, lc => by simp [blocks]
  | .other kids, pos, lc => by
      simp only [blocks]; exact blocksL_levelOk p w kids _ lc
  | .elem tag attrs kids, pos, lc => by
      unfold blocks
      by_cases hs : isSkip tag = true
      · rw [if_pos hs]; exact fun _ hb => nomatch hb
      · by_cases hp : p pos (.elem tag attrs kids) = true
        · rw [if_neg hs, if_pos hp]; exact fun _ hb => nomatch hb
        · rw [if_neg hs, if_neg hp]
          cases hc : classify tag with
          | heading lvl =>
            simp only []
            exact fun b hb => levelOk_of_mem_ite hb (classify_heading tag lvl hc)
          | pdiv isP =>
            simp only []
            split
            · exact fun b hb => List.mem_singleton.mp hb ▸ trivial
            · exact blocksM_levelOk p w kids _ lc []
          | list ord => exact blocksL_levelOk p w kids _ _
          | li =>
            simp only []
            intro b hb
            rcases List.mem_append.mp hb with hb | hb
            · exact levelOk_of_mem_ite hb trivial
            · exact blocksLi_levelOk p w kids _ _ b hb
          | table => simp only []; exact fun b hb => levelOk_of_mem_ite hb trivial
          | code => simp only []; exact fun b hb => levelOk_of_mem_ite hb trivial
          | quote => simp only []; exact fun b hb => levelOk_of_mem_ite hb trivial
          | void => simp
          | other => exact blocksL_levelOk p w kids _ lc
theorem blocksL_levelOk (p : Pos → Dom → Bool) (w : Bool) :
    ∀ (ts : List Dom) (kp : Pos) (lc : LCB), ∀ b ∈ blocksL p w kp lc ts, b.levelOk
  | [], kp, lc => by simp [blocksL]
  | k :: ks, kp, lc => by
      simp only [blocksL]
      intro b hb
      rcases List.mem_append.mp hb with hb | hb
      · exact blocks_levelOk p w k kp lc b hb
      · exact blocksL_levelOk p w ks kp lc b hb
theorem blocksLi_levelOk (p : Pos → Dom → Bool) (w : Bool) :
    ∀ (ts : List Dom) (kp : Pos) (lc : LCB), ∀ b ∈ blocksLi p w kp lc ts, b.levelOk
  | [], kp, lc => by simp [blocksLi]
  | k :: ks, kp, lc => by
      simp only [blocksLi]
      intro b hb
      rcases List.mem_append.mp hb with hb | hb
      · split at hb
        · exact blocks_levelOk p w k kp lc b hb
        · cases hb
      · exact blocksLi_levelOk p w ks kp lc b hb
theorem blocksM_levelOk (p : Pos → Dom → Bool) (w : Bool) :
    ∀ (ts : List Dom) (kp : Pos) (lc : LCB) (run : Str), ∀ b ∈ blocksM p w kp lc ts run, b.levelOk
  | [], kp, lc, run => by
      simp only [blocksM, runBlocks]
      exact fun b hb => levelOk_of_mem_ite hb trivial
  | k :: ks, kp, lc, run => by
      simp only [blocksM, runBlocks]
      intro b hb
      split at hb
      · exact blocksM_levelOk p w ks kp lc _ b hb
      · rcases List.mem_append.mp hb with hb | hb
        · rcases List.mem_append.mp hb with hb | hb
          · exact levelOk_of_mem_ite hb trivial
          · exact blocks_levelOk p w k kp lc b hb
        · exact blocksM_levelOk p w ks kp lc [] b hb
end

/-- the view only reads `hl` at the levels of the heading elements -/
theorem renderMd_congr (hl1 hl2 : Nat → Nat) : ∀ (els : List Element) (acc : Str),
    (∀ l t, Element.heading l t ∈ els → hl1 l = hl2 l) → renderMd hl1 els acc = renderMd hl2 els acc
  | [], acc, _ => rfl
  | e :: rest, acc, h => by
      have hr : ∀ l t, Element.heading l t ∈ rest → hl1 l = hl2 l :=
        fun l t hm => h l t (List.mem_cons_of_mem _ hm)
      unfold renderMd
      cases e with
      | heading l t =>
        simp only []
        rw [h l t (List.mem_cons_self), renderMd_congr hl1 hl2 rest _ hr]
      | _ => simp only []; exact renderMd_congr hl1 hl2 rest _ hr

theorem heading_mem_flattenB (els : List Element) (l : Nat) (t : Str) (h : Element.heading l t ∈ els) :
    Block.heading l t ∈ flattenB els := by
  unfold flattenB
  rw [List.mem_flatMap]
  exact ⟨_, h, by simp [Element.blocks]⟩

/-- every heading element of a parsed document has a level 1..6 -/
theorem extract_heading_levels (p : Pos → Dom → Bool) (body : Dom) (l : Nat) (t : Str)
    (h : Element.heading l t ∈ extractWith p body) : 1 ≤ l ∧ l ≤ 6 := by
  have hb := heading_mem_flattenB _ l t h
  rw [extract_blocks] at hb
  exact blocks_levelOk p _ body _ _ _ hb

end Tabula.Html
