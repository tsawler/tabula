import TabulaModel.Lemmas.Reader
import TabulaModel.Lemmas.ReaderWalk
import TabulaModel.Lemmas.ReaderPage
import TabulaModel.Lemmas.Unseen
/-!
The resource bounds of the page-tree walk in the end-to-end reader model
(`Reader.buildNode` / `Reader.buildKids`, Model/Reader.lean):

* the depth limit `maxPageTreeDepth = 10000` of `traversePageNode` (repair 86b42aa);
* the visited set, which since cd93b07 also holds the object numbers of indirect `/Kids`
  arrays: every number is entered at most once, so the walk builds at most one node per
  number the resolver answers for (`build_vis`), and `2 * (K + 1) + 2` units of fuel are never used
  up when it answers for no number above `K` (`build_fuel`, `readWith_enough`; `fuelOf` gives twice that).
The edges: a page tree that is a list of `k` nodes above one page (`chainRes`, `pageTree_chain`), two nodes
that share an indirect `/Kids` array (`sharedKidsRes`).
-/
namespace Tabula.Reader
open Tabula.Pdf (Obj)

/-- beyond the limit the walk stops at once, whatever the node is -/
theorem buildNode_too_deep (res : Res) (fuel dep : Nat) (vis : List Nat) (d : Dict)
    (h : dep ≥ PdfDoc.maxPageTreeDepth) : buildNode res (fuel + 1) dep vis d = .error .err := by
  rw [buildNode_succ, nodeKind_too_deep res vis d h]

theorem height_toPTree_pos (t : RTree) : 1 ≤ PdfDoc.height (toPTree t) := by
  cases t <;> simp [toPTree, PdfDoc.height]

/-- a tree the walk builds from depth `dep` on has no node below level `maxPageTreeDepth - 1` -/
theorem build_height (res : Res) : ∀ fuel,
    (∀ dep vis d t vis', buildNode res fuel dep vis d = .ok (t, vis') →
      dep + PdfDoc.height (toPTree t) ≤ PdfDoc.maxPageTreeDepth) ∧
    (∀ dep vis ks ts vis', buildKids res fuel dep vis ks = .ok (ts, vis') → dep ≤ PdfDoc.maxPageTreeDepth →
      dep + PdfDoc.heightList (toPTreeList ts) ≤ PdfDoc.maxPageTreeDepth) :=
  build_ok_induct res
    (P := fun dep _ _ t _ => dep + PdfDoc.height (toPTree t) ≤ PdfDoc.maxPageTreeDepth)
    (Q := fun dep _ _ ts _ => dep ≤ PdfDoc.maxPageTreeDepth →
      dep + PdfDoc.heightList (toPTreeList ts) ≤ PdfDoc.maxPageTreeDepth)
    (fun hdep => by simp only [toPTree, PdfDoc.height]; omega)
    (fun hdep _ ih => by have := ih hdep; simp only [toPTree, PdfDoc.height]; omega)
    (fun hdep => by simpa [toPTreeList, PdfDoc.heightList] using hdep)
    (fun _ _ h1 h2 hdep => by have := h2 hdep; simp only [toPTreeList, PdfDoc.heightList]; omega)

mutual
/-- the number of nodes of a page tree -/
def RTree.size : RTree → Nat
  | .leaf _ => 1
  | .node _ kids => sizeList kids + 1
def sizeList : List RTree → Nat
  | [] => 0
  | t :: ts => t.size + sizeList ts
end

/-- how many of the numbers `0..K` are not in the visited set: the potential `unseen` of the walk, every
number weighing one -/
def unvisited (K : Nat) (vis : List Nat) : Nat := unseen (fun _ => 1) ((List.range (K + 1)).map fun n => (n, ())) vis

/-- a number that has an entry and is visited for the first time leaves one unvisited number less -/
theorem unvisited_cons (K : Nat) (vis : List Nat) (n : Nat) (hn : n ≤ K) (hv : vis.contains n = false) :
    unvisited K (n :: vis) + 1 ≤ unvisited K vis := by
  have hs : (((List.range (K + 1)).map fun n => (n, ())).find? (·.1 = n)).isSome := by
    simp only [List.find?_isSome, List.mem_map, List.mem_range]
    exact ⟨(n, ()), ⟨n, by omega, rfl⟩, decide_eq_true rfl⟩
  obtain ⟨p, hp⟩ := Option.isSome_iff_exists.mp hs
  exact unseen_mark (w := fun _ => 1) hp hv

theorem unvisited_cons_le (K : Nat) (vis : List Nat) (n : Nat) : unvisited K (n :: vis) ≤ unvisited K vis :=
  unseen_cons_le _ vis n

theorem unvisited_nil_le (K : Nat) : unvisited K [] ≤ K + 1 := by
  have := unseen_le_length ((List.range (K + 1)).map fun n => (n, ())) []
  rwa [List.length_map, List.length_range] at this

/-- entering a `/Kids` array keeps what was visited and leaves no more numbers unvisited -/
theorem unvisited_visitKidsRef (K : Nat) {vis vis0 : List Nat} {k : Obj} (h : visitKidsRef vis k = some vis0) :
    (∀ x ∈ vis, x ∈ vis0) ∧ unvisited K vis0 ≤ unvisited K vis := by
  rcases visitKidsRef_sub h with rfl | ⟨n, rfl⟩
  · exact ⟨fun _ hx => hx, Nat.le_refl _⟩
  · exact ⟨fun x hx => List.mem_cons_of_mem _ hx, unvisited_cons_le K vis n⟩

/-- the visited set only grows, and every node the walk builds below the one it starts from is
paid for by a number visited for the first time: nodes built + numbers `0..K` still unvisited
afterwards ≤ numbers unvisited before (+ 1 for the node the walk starts from) -/
theorem build_vis (res : Res) (K : Nat) (hK : ∀ n v, res n = .ok v → n ≤ K) : ∀ fuel,
    (∀ dep vis d t vis', buildNode res fuel dep vis d = .ok (t, vis') →
      (∀ x ∈ vis, x ∈ vis') ∧ t.size + unvisited K vis' ≤ unvisited K vis + 1) ∧
    (∀ dep vis ks ts vis', buildKids res fuel dep vis ks = .ok (ts, vis') →
      (∀ x ∈ vis, x ∈ vis') ∧ sizeList ts + unvisited K vis' ≤ unvisited K vis) :=
  build_ok_induct res
    (P := fun _ vis _ t vis' => (∀ x ∈ vis, x ∈ vis') ∧ t.size + unvisited K vis' ≤ unvisited K vis + 1)
    (Q := fun _ vis _ ts vis' => (∀ x ∈ vis, x ∈ vis') ∧ sizeList ts + unvisited K vis' ≤ unvisited K vis)
    (fun _ => ⟨fun _ hx => hx, by simp only [RTree.size]; omega⟩)
    (fun _ hv ih => by
      have h0 := unvisited_visitKidsRef K hv
      exact ⟨fun x hx => ih.1 x (h0.1 x hx), by simp only [RTree.size]; omega⟩)
    ⟨fun _ hx => hx, by simp [sizeList]⟩
    (fun hc hres h1 h2 => by
      have hu := unvisited_cons K _ _ (hK _ _ hres) hc
      exact ⟨fun x hx => h2.1 x (h1.1 x (List.mem_cons_of_mem _ hx)), by simp only [sizeList]; omega⟩)

/-- the resolver never answers `fuel` -/
def NoFuel (res : Res) : Prop := ∀ n, res n ≠ .error .fuel

theorem FromRes.ne_fuel {res : Res} {e : Err} (hE : NoFuel res) (h : FromRes res e) : e ≠ .fuel := by
  rcases h with rfl | rfl | ⟨n, hn⟩
  · exact fun h => nomatch h
  · exact fun h => nomatch h
  · exact fun h => hE n (h ▸ hn)

/-- **the fuel is never used up**: with `2 * (unvisited numbers) + 2` units the walk ends for a
reason of its own -/
theorem build_fuel (res : Res) (K : Nat) (hK : ∀ n v, res n = .ok v → n ≤ K)
    (hE : ∀ n, res n ≠ .error .fuel) : ∀ fuel,
    (∀ dep vis d, fuel ≥ 2 * unvisited K vis + 2 → buildNode res fuel dep vis d ≠ .error .fuel) ∧
    (∀ dep vis ks, fuel ≥ 2 * unvisited K vis + 1 → buildKids res fuel dep vis ks ≠ .error .fuel) := by
  intro fuel
  induction fuel with
  | zero => exact ⟨fun _ _ _ hf => by omega, fun _ _ _ hf => by omega⟩
  | succ fuel ih =>
    refine ⟨fun dep vis d hf => ?_, fun dep vis ks hf => ?_⟩
    · rw [buildNode_succ]
      generalize hk : nodeKind res dep vis d = nk
      have hs := nodeKind_spec hk
      cases nk with
      | fail e => exact fun h => FromRes.ne_fuel hE hs (by cases h; rfl)
      | leaf => exact fun h => nomatch h
      | kids vis0 kids =>
        obtain ⟨-, k, hv⟩ := hs
        have := ih.2 (dep + 1) vis0 kids (by have := (unvisited_visitKidsRef K hv).2; omega)
        dsimp only
        cases hb : buildKids res fuel (dep + 1) vis0 kids with
        | error e => exact fun h => this (by cases h; exact hb)
        | ok p => exact fun h => nomatch h
    · cases ks with
      | nil => rw [buildKids]; exact fun h => nomatch h
      | cons k ks =>
        rw [buildKids_cons]
        generalize hk : kidKind res vis k = kk
        have hs := kidKind_spec hk
        cases kk with
        | fail e => exact fun h => FromRes.ne_fuel hE hs (by cases h; rfl)
        | node n kd =>
          obtain ⟨hc, hr⟩ := hs
          have hu := unvisited_cons K vis n (hK _ _ hr) hc
          have hn := ih.1 dep (n :: vis) kd (by omega)
          dsimp only
          cases hb : buildNode res fuel dep (n :: vis) kd with
          | error e => exact fun h => hn (by cases h; exact hb)
          | ok p =>
            obtain ⟨t, vis1⟩ := p
            -- the subtree is paid for by numbers it visited first: what is left covers the other elements
            have h1 := ((build_vis res K hK fuel).1 dep _ kd t vis1 hb).2
            have hks := ih.2 dep vis1 ks (by
              have : 1 ≤ t.size := by cases t <;> simp [RTree.size]
              omega)
            dsimp only
            cases hb2 : buildKids res fuel dep vis1 ks with
            | error e => exact fun h => hks (by cases h; exact hb2)
            | ok q => exact fun h => nomatch h

theorem getObject_noFuel (f : AbsFile) (ext : Ext) : NoFuel (getObject f ext) := fun n h => by
  have := getObject_err f ext n _ h
  cases this

/-- enough fuel for any resolver that knows no object number above `K` and never answers
`fuel` itself: `2 * (K + 1) + 2` -/
theorem pageTree_enough (res : Res) (K : Nat) (hK : ∀ n v, res n = .ok v → n ≤ K) (hE : NoFuel res)
    (fuel : Nat) (hf : fuel ≥ 2 * (K + 1) + 2) (root : Option Nat) :
    pageTree res fuel root ≠ .error .fuel := by
  rw [pageTree_eq]
  cases hp : pagesRoot res root with
  | error e => exact fun h => (pagesRoot_error hp).ne_fuel hE (by cases h; rfl)
  | ok pd =>
    have := (build_fuel res K hK hE fuel).1 0 [] pd (by have := unvisited_nil_le K; omega)
    dsimp only
    cases hb : buildNode res fuel 0 [] pd with
    | error e => exact fun h => this (by cases h; exact hb)
    | ok p => exact fun h => nomatch h

/-- **the walk's fuel is never used up** on a file: `fuelOf f` is enough for every file -/
theorem pageTree_fuel_enough (f : AbsFile) (ext : Ext) (root : Option Nat) :
    pageTree (getObject f ext) (fuelOf f) root ≠ .error .fuel :=
  pageTree_enough _ (maxKey (xref f)) (getObject_ok_le f ext) (getObject_noFuel f ext) _
    (by unfold fuelOf; omega) root

/-- `/Pages` node number `n` of the chain: its only kid is object `n + 1` -/
def chainNode (n : Nat) : Dict := [(kType, .name kPages), (kKids, .arr [.ref ((n + 1 : Nat) : Int) 0]), (kCount, .int 1)]
/-- the `/Page` leaf at the end of the chain (with a `/Count`, so that the one-level chain, whose
root is this leaf, passes the `/Count` check of `PageTree.Count` too) -/
def chainLeaf : Dict := [(kType, .name kPage), (kCount, .int 1)]
/-- the dictionary of object `n` in the chain that ends at object `k` -/
def chainDict (k n : Nat) : Dict := if n < k then chainNode n else chainLeaf

/-- an object store: objects `0 … k-1` are `/Pages` nodes with one kid each, object `k` is the
only page, object `k + 1` the catalog: a page tree of `k + 1` levels -/
def chainRes (k : Nat) : Res := fun n =>
  if n ≤ k then .ok (.obj (.dict (chainDict k n)))
  else if n = k + 1 then .ok (.obj (.dict [(kPages, .ref 0 0)]))
  else .error .err

/-- the tree of the last `j + 1` levels of the chain -/
def chainFrom (k : Nat) : Nat → RTree
  | 0 => .leaf chainLeaf
  | j + 1 => .node (chainNode (k - (j + 1))) [chainFrom k j]

theorem buildNode_chain (k : Nat) : ∀ (j dep fuel : Nat) (vis : List Nat), j ≤ k → fuel ≥ 2 * j + 1 →
    (∀ v ∈ vis, v ≤ k - j) →
    (dep + j < PdfDoc.maxPageTreeDepth →
      ∃ vis', buildNode (chainRes k) fuel dep vis (chainDict k (k - j)) = .ok (chainFrom k j, vis')) ∧
    (dep + j ≥ PdfDoc.maxPageTreeDepth →
      buildNode (chainRes k) fuel dep vis (chainDict k (k - j)) = .error .err) := by
  intro j
  induction j with
  | zero =>
    intro dep fuel vis _ hf _
    obtain ⟨f, rfl⟩ : ∃ f, fuel = f + 1 := ⟨fuel - 1, by omega⟩
    have hd : chainDict k (k - 0) = chainLeaf := by simp [chainDict]
    rw [hd]
    exact ⟨fun h => ⟨vis, by rw [buildNode_succ, nodeKind_page (by omega) rfl]; rfl⟩,
      fun h => buildNode_too_deep _ _ _ _ _ (by omega)⟩
  | succ j ih =>
    intro dep fuel vis hj hf hvis
    obtain ⟨f, rfl⟩ : ∃ f, fuel = f + 3 := ⟨fuel - 3, by omega⟩
    have hn : k - (j + 1) < k := by omega
    have hd : chainDict k (k - (j + 1)) = chainNode (k - (j + 1)) := by simp [chainDict, hn]
    have hnext : k - (j + 1) + 1 = k - j := by omega
    rw [hd]
    by_cases hdep : dep ≥ PdfDoc.maxPageTreeDepth
    · exact ⟨fun h => by omega, fun _ => buildNode_too_deep _ _ _ _ _ hdep⟩
    have e2 : dget (chainNode (k - (j + 1))) kKids = some (.arr [.ref ((k - j : Nat) : Int) 0]) := by
      rw [← hnext]; rfl
    have hnot : vis.contains (k - j) = false := by
      cases hc : vis.contains (k - j) with
      | false => rfl
      | true =>
        have : k - j ∈ vis := by simpa using hc
        have := hvis _ this
        omega
    have hres : chainRes k (k - j) = .ok (.obj (.dict (chainDict k (k - j)))) := by
      have : k - j ≤ k := by omega
      simp [chainRes, this]
    have hsub := ih (dep + 1) (f + 1) ((k - j) :: vis) (by omega) (by omega) (by
      intro v hv
      rcases List.mem_cons.mp hv with rfl | hv
      · exact Nat.le_refl _
      · have := hvis v hv; omega)
    rw [buildNode_succ, nodeKind_pages (Nat.lt_of_not_ge hdep) rfl e2 rfl rfl]
    dsimp only
    rw [buildKids_cons, kidKind_ref hnot hres]
    dsimp only
    refine ⟨fun h => ?_, fun h => ?_⟩
    · obtain ⟨vis', hv⟩ := hsub.1 (by omega)
      exact ⟨vis', by rw [hv]; rfl⟩
    · rw [hsub.2 (by omega)]; rfl

/-- **the depth limit at its edge**: the chain of `k + 1` levels is read iff `k + 1 ≤ 10000` -/
theorem pageTree_chain (k fuel : Nat) (hf : fuel ≥ 2 * k + 1) :
    pageTree (chainRes k) fuel (some (k + 1)) =
      if k + 1 ≤ PdfDoc.maxPageTreeDepth then .ok (chainFrom k k) else .error .err := by
  have hcat : chainRes k (k + 1) = .ok (.obj (.dict [(kPages, .ref 0 0)])) := by
    have : ¬ (k + 1 ≤ k) := by omega
    simp [chainRes, this]
  have h0 : chainRes k 0 = .ok (.obj (.dict (chainDict k 0))) := by simp [chainRes]
  have hc : dget (chainDict k 0) kCount = some (.int 1) := by
    by_cases hk : 0 < k
    · simp [chainDict, hk, chainNode, dget, kType, kKids, kCount]
    · simp [chainDict, hk, chainLeaf, dget, kType, kCount]
  have hb := buildNode_chain k k 0 fuel [] (Nat.le_refl _) hf (fun v hv => by cases hv)
  simp only [Nat.sub_self, Nat.zero_add] at hb
  have hp : dget [(kPages, Obj.ref 0 0)] kPages = some (.ref 0 0) := by simp [dget]
  have hr : resolve (chainRes k) (.ref 0 0) = .ok (.obj (.dict (chainDict k 0))) := by
    simp [resolve, h0]
  have hroot : pagesRoot (chainRes k) (some (k + 1)) = .ok (chainDict k 0) := by
    simp only [pagesRoot, hcat, hp, hr, hc]
  rw [pageTree_eq, hroot]
  dsimp only
  by_cases hk : k + 1 ≤ PdfDoc.maxPageTreeDepth
  · obtain ⟨vis', hv⟩ := hb.1 (by omega)
    rw [hv, if_pos hk]; rfl
  · rw [hb.2 (by omega), if_neg hk]; rfl

/-- a page tree of exactly 10000 levels is read … -/
example : pageTree (chainRes 9999) 20000 (some 10000) = .ok (chainFrom 9999 9999) := by
  rw [pageTree_chain 9999 20000 (by omega)]; rfl
/-- … one of 10001 levels is refused -/
example : pageTree (chainRes 10000) 30000 (some 10001) = .error .err := by
  rw [pageTree_chain 10000 30000 (by omega)]; rfl

/-- two `/Pages` nodes (3 and 4) that name the same indirect `/Kids` array (5, empty): before
cd93b07 a page tree without pages, now an error -/
def sharedKidsRes : Res := fun n =>
  if n = 1 then .ok (.obj (.dict [(kPages, .ref 2 0)]))
  else if n = 2 then .ok (.obj (.dict [(kType, .name kPages), (kKids, .arr [.ref 3 0, .ref 4 0]), (kCount, .int 0)]))
  else if n = 3 ∨ n = 4 then .ok (.obj (.dict [(kType, .name kPages), (kKids, .ref 5 0), (kCount, .int 0)]))
  else if n = 5 then .ok (.obj (.arr []))
  else .error .err

theorem pageTree_sharedKids : pageTree sharedKidsRes 20 (some 1) = .error .err := rfl

example : pageTree sharedKidsRes 20 (some 1) = .error .err := pageTree_sharedKids

/-- … while each of the two nodes alone is read (a page tree without pages) -/
example : ∃ t, pageTree (fun n => if n = 4 then .error .err else sharedKidsRes n) 20 (some 1) = .error .err ∧
    buildNode sharedKidsRes 20 0 [] [(kType, .name kPages), (kKids, .ref 5 0), (kCount, .int 0)] = .ok (t, [5]) :=
  ⟨_, rfl, rfl⟩

theorem readWith_enough (res : Res) (ext : Ext) (K : Nat) (hK : ∀ n v, res n = .ok v → n ≤ K) (hE : NoFuel res)
    (fuel : Nat) (hf : fuel ≥ 2 * (K + 1) + 2) (root : Option Nat) :
    readWith res ext fuel root ≠ .error .fuel := by
  intro h
  unfold readWith at h
  split at h
  · next e he => cases h; exact pageTree_enough res K hK hE fuel hf root he
  · exact (pagesOfSpecs_error h).ne_fuel hE rfl

/-- the bound the reader gives the walk on a file is enough -/
theorem readWith_fuelOf (f : AbsFile) (ext : Ext) (root : Option Nat) :
    readWith (getObject f ext) ext (fuelOf f) root ≠ .error .fuel :=
  readWith_enough _ ext (maxKey (xref f)) (getObject_ok_le f ext) (getObject_noFuel f ext) _
    (by unfold fuelOf; omega) root

/-- **the reader model never answers `fuel`**: the bound `fuelOf f` on the page-tree walk is never
the reason for an answer, on any file -/
theorem readPages_never_fuel (f : AbsFile) (ext : Ext) : readPages f ext ≠ .error .fuel := by
  unfold readPages
  split
  · exact fun h => nomatch h
  · exact readWith_fuelOf f ext _

end Tabula.Reader
