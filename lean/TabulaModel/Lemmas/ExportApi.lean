import TabulaModel.Model.ExportApi
import TabulaModel.Lemmas.ExportMeta
/-!
Lemmas about `Model/ExportApi.lean` (batch runs, stream call sequences, vector-database
records) for `Props/C14Api.lean`.
-/
set_option linter.unusedSimpArgs false
namespace Tabula.Export
open Tabula.Csv (Str)

/-- the loop of `(*BatchExporter).Export` = the specification run over the partition of `batchLoop` -/
theorem batchLoopRun_eq {α β : Type} (size : Nat) (hs : 0 < size) (exportFn : List α → Option β)
    (cb : Batch α → β → Bool) (chunks : List α) (i : Nat) :
    batchLoopRun size hs exportFn cb chunks i = batchRun exportFn cb (batchLoop size hs chunks i) := by
  induction hn : chunks.length - i using Nat.strongRecOn generalizing i with
  | _ n ih =>
    rw [batchLoopRun.eq_1, batchLoop.eq_1]
    by_cases h : i < chunks.length
    · simp only [h, dite_true, batchRun]
      cases hx : exportFn (List.take ((if i + size > chunks.length then chunks.length else i + size) - i) (List.drop i chunks)) with
      | none => rfl
      | some d =>
        simp only
        rw [ih (chunks.length - (i + size)) (by omega) (i + size) rfl]
    · simp [h, batchRun]

theorem mem_dropLast_cons {α : Type} {x p : α} {l : List α} (h : p ∈ (x :: l).dropLast) :
    p = x ∨ p ∈ l.dropLast := by
  cases l with
  | nil => simp at h
  | cons y ys => exact List.mem_cons.mp (List.dropLast_cons_cons ▸ h)

/-- what a run over a list of batches delivers -/
theorem batchRun_history {α β : Type} (exportFn : List α → Option β) (cb : Batch α → β → Bool)
    (bs : List (Batch α)) :
    let r := batchRun exportFn cb bs
    -- the callback saw a prefix of the batches, in order, each with the export of its own items
    (r.1.map (·.1) = bs.take r.1.length) ∧
    (∀ p ∈ r.1, exportFn p.1.items = some p.2) ∧
    -- all callbacks but possibly the last succeeded
    (∀ p ∈ r.1.dropLast, cb p.1 p.2 = true) ∧
    (r.2 = .ok → r.1.length = bs.length ∧ ∀ p ∈ r.1, cb p.1 p.2 = true) ∧
    (∀ n, r.2 = .callbackErr n → ∃ p, r.1.getLast? = some p ∧ p.1.batchNumber = n ∧ cb p.1 p.2 = false) ∧
    (∀ s, r.2 = .exportErr s → ∃ b, bs[r.1.length]? = some b ∧ b.startIndex = s ∧ exportFn b.items = none ∧
      ∀ p ∈ r.1, cb p.1 p.2 = true) := by
  induction bs with
  | nil => simp [batchRun]
  | cons b rest ih =>
    simp only [batchRun]
    cases hx : exportFn b.items with
    | none => simp [hx]
    | some d =>
      by_cases hc : cb b d = true
      · simp only [hc, if_true]
        obtain ⟨h1, h2, h3, h4, h5, h6⟩ := ih
        refine ⟨?_, List.forall_mem_cons.mpr ⟨hx, h2⟩, ?_, ?_, ?_, ?_⟩
        · simp only [List.map_cons, List.length_cons, List.take_succ_cons, h1]
        · intro p hp
          rcases mem_dropLast_cons hp with e | e
          · rw [e]; exact hc
          · exact h3 p e
        · intro hr
          exact ⟨by simp [(h4 hr).1], List.forall_mem_cons.mpr ⟨hc, (h4 hr).2⟩⟩
        · intro n hr
          obtain ⟨p, hp, e1, e2⟩ := h5 n hr
          exact ⟨p, by rw [List.getLast?_cons, hp]; rfl, e1, e2⟩
        · intro s hr
          obtain ⟨b', hb, e1, e2, e3⟩ := h6 s hr
          exact ⟨b', by simpa using hb, e1, e2, List.forall_mem_cons.mpr ⟨hc, e3⟩⟩
      · simp only [hc, Bool.false_eq_true, if_false]
        refine ⟨by simp, ?_, by simp, by simp, ?_, by simp⟩
        · intro p hp
          simp only [List.mem_singleton] at hp
          rw [hp]; exact hx
        · intro n hn
          injection hn with hn
          exact ⟨(b, d), rfl, hn, by simpa using hc⟩

/-- when every export and every callback succeeds, the run delivers the whole partition, each batch
with the export of its own items -/
theorem batchRun_total {α β : Type} (exportFn : List α → Option β) (f : List α → β) (cb : Batch α → β → Bool)
    (bs : List (Batch α)) (he : ∀ b ∈ bs, exportFn b.items = some (f b.items))
    (hc : ∀ b ∈ bs, cb b (f b.items) = true) :
    batchRun exportFn cb bs = (bs.map (fun b => (b, f b.items)), .ok) := by
  induction bs with
  | nil => rfl
  | cons b rest ih =>
    obtain ⟨he1, he2⟩ := List.forall_mem_cons.mp he
    obtain ⟨hc1, hc2⟩ := List.forall_mem_cons.mp hc
    simp only [batchRun, he1, hc1, if_true, ih he2 hc2, List.map_cons]

/-- a run in which no export and no callback fails: every batch of the partition is delivered, with the
export of exactly its own slice, and the slices concatenate to the collection -/
theorem batchExportRun_all {α β : Type} (size : Nat) (hs : 1 ≤ size) (exportFn : List α → Option β)
    (cb : Batch α → β → Bool) (chunks : List α) (he : ∀ l, (exportFn l).isSome = true) (hc : ∀ b d, cb b d = true) :
    ∃ calls, batchExportRun size exportFn cb chunks = some (calls, .ok) ∧
      batchExport size chunks = some (calls.map (·.1)) ∧ calls.flatMap (·.1.items) = chunks ∧
      ∀ p ∈ calls, exportFn p.1.items = some p.2 := by
  have hs' : 0 < size := hs
  have hf : ∀ l, exportFn l = some ((exportFn l).get (he l)) := fun l => (Option.some_get (he l)).symm
  refine ⟨(batchLoop size hs' chunks 0).map (fun b => (b, (exportFn b.items).get (he b.items))), ?_, ?_, ?_, ?_⟩
  · simp only [batchExportRun, hs', dite_true, batchLoopRun_eq]
    exact congrArg some (batchRun_total exportFn (fun l => (exportFn l).get (he l)) cb _ (fun b _ => hf b.items)
      (fun b _ => hc b _))
  · simp only [batchExport, hs', dite_true, List.map_map, Function.comp_def, List.map_id']
  · rw [List.flatMap_map]
    exact (batchLoop_items size hs' chunks 0).trans (List.drop_zero)
  · intro p hp
    obtain ⟨b, _, rfl⟩ := List.mem_map.mp hp
    exact hf b.items

def isWrite : StreamCall → Bool
  | .write _ _ => true
  | .close => false

theorem writeChunk_eq (cfg : Config) (w : List Exported) (c : Chunk) :
    writeChunk cfg w c =
      if decide (cfg.format = .jsonl ∨ cfg.format = .json) then some (w ++ [prepareChunkForExport cfg c]) else none := by
  unfold writeChunk
  cases cfg.format <;> rfl

/-- a stream whose `WriteChunk` accepts every chunk (`ok = true`: JSON, JSON Lines) or none
(CSV, TSV): the records written and the results of the calls -/
theorem streamRun_eq (cfg : Config) (ok : Bool)
    (hw : ∀ w c, writeChunk cfg w c = if ok then some (w ++ [prepareChunkForExport cfg c]) else none)
    (calls : List StreamCall) (st : StreamState) :
    (streamRun cfg calls st).written =
      st.written ++ (if ok then (writtenChunks calls).map (prepareChunkForExport cfg) else []) ∧
    (streamRun cfg calls st).results = st.results ++ calls.map (fun c => ok || !isWrite c) := by
  induction calls generalizing st with
  | nil => cases ok <;> simp [streamRun, writtenChunks]
  | cons call rest ih =>
    obtain ⟨h1, h2⟩ := ih (streamCall cfg st call)
    rw [streamRun, h1, h2]
    cases call with
    | write c idx => cases ok <;> simp [streamCall, hw, writtenChunks, isWrite]
    | close => cases ok <;> simp [streamCall, writtenChunks, isWrite]

/-- the caller's loop over such a stream: all records, or an error at the first chunk -/
theorem streamAll_eq (cfg : Config) (ok : Bool)
    (hw : ∀ w c, writeChunk cfg w c = if ok then some (w ++ [prepareChunkForExport cfg c]) else none)
    (cs : List Chunk) (st : List Exported) :
    streamAll cfg cs st = if ok = true ∨ cs = [] then some (st ++ cs.map (prepareChunkForExport cfg)) else none := by
  induction cs generalizing st with
  | nil => simp [streamAll]
  | cons c rest ih =>
    rw [streamAll, hw]
    cases ok
    · simp
    · simp [ih]

/-- the Pinecone record of chunk `c` at position `i`, if it has a vector -/
def pineconeOf {F : Type} (embs : List (Emb F)) (p : Chunk × Nat) : Option (PineconeRecord F) :=
  match embAt embs p.2 with
  | [] => none
  | v :: vs => some { id := p.1.id, values := v :: vs, metadata := pineconeMetadata p.1 }

/-- a record is built exactly for a non-empty vector, from the chunk and that vector -/
theorem pineconeOf_some {F : Type} {embs : List (Emb F)} {p : Chunk × Nat} {r : PineconeRecord F}
    (h : pineconeOf embs p = some r) :
    embAt embs p.2 ≠ [] ∧ r = { id := p.1.id, values := embAt embs p.2, metadata := pineconeMetadata p.1 } := by
  unfold pineconeOf at h
  split at h
  · cases h
  · rename_i v vs hv
    rw [hv]
    exact ⟨List.cons_ne_nil v vs, (Option.some.inj h).symm⟩

theorem pineconeLoop_eq {F : Type} (embs : List (Emb F)) (cs : List Chunk) (i : Nat) :
    pineconeLoop embs cs i = (cs.zipIdx i).filterMap (pineconeOf embs) := by
  induction cs generalizing i with
  | nil => simp [pineconeLoop]
  | cons c rest ih =>
    simp only [pineconeLoop, List.zipIdx_cons, List.filterMap_cons, pineconeOf]
    cases embAt embs i with
    | nil => simp only; exact ih (i + 1)
    | cons v vs => simp only; rw [ih (i + 1)]

def weaviateOf {F : Type} (cls : Str) (embs : List (Emb F)) (p : Chunk × Nat) : WeaviateObject F :=
  { cls := cls, id := p.1.id, properties := weaviateProps p.1, vector := embAt embs p.2 }

theorem weaviateLoop_eq {F : Type} (cls : Str) (embs : List (Emb F)) (cs : List Chunk) (i : Nat) :
    weaviateLoop cls embs cs i = (cs.zipIdx i).map (weaviateOf cls embs) := by
  induction cs generalizing i with
  | nil => simp [weaviateLoop]
  | cons c rest ih =>
    simp only [weaviateLoop, List.zipIdx_cons, List.map_cons, weaviateOf]
    rw [ih (i + 1)]

theorem chromaLoop_eq (cs : List Chunk) :
    chromaLoop cs = (cs.map (·.id), cs.map (·.text), cs.map (fun c => chromaMetadata c.md)) := by
  induction cs with
  | nil => rfl
  | cons c rest ih => simp [chromaLoop, ih]

theorem prepareForVectorDB_eq (cs : List Chunk) :
    prepareForVectorDB cs = cs.map (fun c => { id := c.id, text := c.text, metadata := vdbMetadata c.md }) := by
  induction cs with
  | nil => rfl
  | cons c rest ih => simp [prepareForVectorDB, ih]

theorem zipIdx_map_fst_comp {α β : Type} (f : α → β) (l : List α) (i : Nat) :
    (l.zipIdx i).map (fun p => f p.1) = l.map f :=
  (List.map_map (f := Prod.fst) (g := f)).symm.trans (congrArg (List.map f) (List.zipIdx_map_fst i l))

end Tabula.Export
