import TabulaModel.Model.LayoutApi
import TabulaModel.Lemmas.LayoutText
/-!
Lemmas about `Model/LayoutApi.lean`: what the components of `analyze` are, so that proofs about the
analysis result need not unfold it.
-/
namespace Tabula.Layout
open List

variable (hz : Heur) (bh : BlockHeur) (fs : List Frag)

/-- the guard `len(fragments) == 0` of `Analyze` (the two `if`s of `analyze`) changes nothing: the
detectors return an empty result for an empty page anyway -/
theorem analyze_columns : (analyze hz bh fs).columns = detectColumns hz.gaps hz.minCW hz.isSpan hz.keep fs := by
  unfold analyze
  simp only
  split
  · next h => rw [List.isEmpty_iff.mp h]; rfl
  · rfl

theorem analyze_lines : (analyze hz bh fs).lines = detectLines (hz.tolOf fs) hz.minW hz.preserve fs := by
  unfold analyze
  simp only
  split
  · next h =>
    rw [List.isEmpty_iff.mp h]
    simp [detectLines, groupIntoLines, stableSort, segment, buildLines]
  · rfl

theorem analyze_lines_keeps : Keeps (analyze hz bh fs).lines.flatten fs :=
  analyze_lines hz bh fs ▸ detectLines_keeps _ _ _ fs

theorem analyze_paragraphs_keeps : Keeps (analyze hz bh fs).paragraphs.flatten.flatten fs :=
  roParagraphs_keeps

end Tabula.Layout
