import TabulaModel.Model.ChunkLayout
import TabulaModel.Lemmas.ChunkOpenSpec
/-!
Helper lemmas for property C12, layout-based chunker. `Chunk` visits every section of the tree
`buildSections` builds (subsections included) once, in document order (`chunkForest_flat`), so the
tree is read through its flattening. `buildSections` refines a flat specification (`FS`, `Sim`,
`buildSections_spec`): the sections in document order; a content element goes to the last one, a
section-opening heading appends one under the chain of the headings that enclose it. What is proved
of the sections is proved of the specification: every content element lies in a section whose `Path`
is the chain of the headings enclosing it (`buildSections_labels`; a heading is on the chain iff every
later one is strictly deeper, `openSpec`), hence every content element is in exactly one section, in
order (`buildSections_contents`), under at most `MinHeadingLevel` headings (`labelled_depth`); page
ranges and titles are in `ChunkLayoutSections.lean` and `ChunkLayoutTitle.lean`.
-/
namespace Tabula.ChunkLayout
open Tabula.Chunk

mutual
def flatTree : Sec → List (SecInfo × List CE)
  | .mk info content children => (info, content) :: flatForest children
def flatForest : List Sec → List (SecInfo × List CE)
  | [] => []
  | s :: ss => flatTree s ++ flatForest ss
end

theorem flatForest_append (a b : List Sec) : flatForest (a ++ b) = flatForest a ++ flatForest b := by
  induction a with
  | nil => simp [flatForest]
  | cons s ss ih => simp [flatForest, ih]

/-- the loop of `Chunk` over a flat list of sections -/
def chunkFlat (cfg : Cfg) : List (SecInfo × List CE) → Nat → List Chunk
  | [], _ => []
  | (info, content) :: rest, idx =>
    let own := chunkSection cfg info content idx
    own ++ chunkFlat cfg rest (idx + own.length)

theorem chunkFlat_append (cfg : Cfg) (a b : List (SecInfo × List CE)) (idx : Nat) :
    chunkFlat cfg (a ++ b) idx = chunkFlat cfg a idx ++ chunkFlat cfg b (idx + (chunkFlat cfg a idx).length) := by
  induction a generalizing idx with
  | nil => simp [chunkFlat]
  | cons x xs ih =>
    obtain ⟨info, content⟩ := x
    simp only [List.cons_append, chunkFlat, ih, List.append_assoc, List.length_append, Nat.add_assoc]

mutual
/-- `chunkSectionTree` visits the section and all its descendants, in pre-order -/
theorem chunkTree_flat (cfg : Cfg) : ∀ (s : Sec) (idx : Nat), chunkTree cfg s idx = chunkFlat cfg (flatTree s) idx
  | .mk info content children, idx => by
    simp only [chunkTree, flatTree, chunkFlat]
    rw [chunkForest_flat cfg children]
theorem chunkForest_flat (cfg : Cfg) : ∀ (ss : List Sec) (idx : Nat), chunkForest cfg ss idx = chunkFlat cfg (flatForest ss) idx
  | [], _ => by simp [chunkForest, flatForest, chunkFlat]
  | s :: ss, idx => by
    simp only [chunkForest, flatForest]
    rw [chunkTree_flat cfg s, chunkForest_flat cfg ss, chunkFlat_append]
end

def secContents (l : List (SecInfo × List CE)) : List CE := l.flatMap (·.2)

theorem secContents_append (a b : List (SecInfo × List CE)) :
    secContents (a ++ b) = secContents a ++ secContents b := by
  simp [secContents]

def frameFlat (f : Frame) : List (SecInfo × List CE) := (f.info, f.content) :: flatForest f.children

theorem flatTree_close (f : Frame) : flatTree f.close = frameFlat f := by
  simp [Frame.close, flatTree, frameFlat]

/-- the sections finished or still open, flattened in document order -/
def openFlat (stack : List Frame) (done : List Sec) : List (SecInfo × List CE) :=
  flatForest done ++ stack.reverse.flatMap frameFlat

theorem popFrames_flat (lvl : Int) (stack : List Frame) (path : List Str) (done : List Sec) :
    openFlat (popFrames lvl stack path done).1 (popFrames lvl stack path done).2.2 = openFlat stack done := by
  fun_induction popFrames lvl stack path done with
  | case1 => rfl
  | case2 => rfl
  | case3 path done f hlvl ih =>
    rw [ih]
    simp [openFlat, flatForest_append, flatForest, flatTree_close]
  | case4 path done f hlvl g rest ih =>
    rw [ih]
    simp [openFlat, frameFlat, flatForest_append, flatForest, flatTree_close]

theorem unwind_flat (stack : List Frame) (done : List Sec) :
    flatForest (unwind stack done) = openFlat stack done := by
  fun_induction unwind stack done with
  | case1 => simp [openFlat]
  | case2 f =>
    simp [openFlat, flatForest_append, flatForest, flatTree_close]
  | case3 f g rest ih =>
    rw [ih]
    simp [openFlat, frameFlat, flatForest_append, flatForest, flatTree_close]

/-- invariants of the `buildSections` state between two steps -/
structure Inv (s : BState) : Prop where
  pre_empty : s.stack ≠ [] → s.pre = []
  top_leaf : ∀ f rest, s.stack = f :: rest → f.children = []
  done_empty : s.stack = [] → s.done = []

/-- when a section-opening heading does not close the preamble, there is none -/
theorem Inv.pre_nil_of_kept {s : BState} (h : Inv s) (hc : ¬ (!s.pre.isEmpty && s.stack.isEmpty) = true) :
    s.pre = [] := by
  by_cases hst : s.stack = []
  · simp only [hst, List.isEmpty_nil, Bool.and_true, Bool.not_eq_true', Bool.not_eq_false] at hc
    exact List.isEmpty_iff.mp hc
  · exact h.pre_empty hst

theorem addContent_inv (s : BState) (h : Inv s) (ce : CE) : Inv (addContent s ce) := by
  obtain ⟨done, stack, path, pre, ps, pe⟩ := s
  cases stack with
  | nil => exact ⟨fun hne => absurd rfl hne, fun f rest hfr => (by cases hfr), fun _ => h.done_empty rfl⟩
  | cons f rest =>
    refine ⟨fun _ => h.pre_empty (by simp), ?_, fun hs => by cases hs⟩
    intro f' rest' hfr
    simp only [addContent, List.cons.injEq] at hfr
    rw [← hfr.1]; exact h.top_leaf f rest rfl

def isMinor (cfg : Cfg) (h : LHeading) : Bool := !(decide (h.level ≤ cfg.minHeadingLevel))

def headingCE (page : Int) (h : LHeading) : CE := ⟨.heading, h.text, page, false, h.sents⟩
def paraCE (page : Int) (p : LPara) : CE := ⟨.para, p.text, page, p.intro, p.sents⟩
def listCE (page : Int) (l : LList) : CE := ⟨.list, formatList l.items, page, false, l.sents⟩

/-- a heading that opens no section is content of the open section -/
theorem stepHeading_minor_eq (cfg : Cfg) (page : Int) (s : BState) (hd : LHeading)
    (hmin : ¬ hd.level ≤ cfg.minHeadingLevel) : stepHeading cfg page s hd = addContent s (headingCE page hd) := by
  rw [stepHeading, if_neg hmin]; rfl

theorem openFlat_cons (f : Frame) (rest : List Frame) (done : List Sec) :
    openFlat (f :: rest) done = openFlat rest done ++ frameFlat f := by
  simp [openFlat, List.flatMap_append]

theorem openFlat_cons_leaf (f : Frame) (rest : List Frame) (done : List Sec) (h : f.children = []) :
    openFlat (f :: rest) done = openFlat rest done ++ [(f.info, f.content)] := by
  rw [openFlat_cons]; simp [frameFlat, h, flatForest]

/-- the sections of the state in document order, the unfinished section without a heading included -/
def view (s : BState) : List (SecInfo × List CE) :=
  openFlat s.stack s.done ++ (if s.pre = [] then [] else [((⟨[], 0, [], s.preStart, s.preEnd⟩ : SecInfo), s.pre)])

/-- what a section-opening heading does first: the preamble, if there is one, becomes a section -/
def closePre (s : BState) : BState :=
  if !s.pre.isEmpty && s.stack.isEmpty then { s with done := s.done ++ [preambleSec s], pre := [] } else s

theorem closePre_spec (s : BState) (hi : Inv s) :
    (closePre s).pre = [] ∧ (closePre s).stack = s.stack ∧ (closePre s).path = s.path ∧
    openFlat (closePre s).stack (closePre s).done = view s := by
  unfold closePre view
  by_cases hc : (!s.pre.isEmpty && s.stack.isEmpty) = true
  · rw [if_pos hc]
    simp only [Bool.and_eq_true, Bool.not_eq_true', List.isEmpty_iff] at hc
    obtain ⟨hpre, hst⟩ := hc
    have hpre' : s.pre ≠ [] := List.isEmpty_eq_false_iff.mp hpre
    refine ⟨rfl, rfl, rfl, ?_⟩
    simp [openFlat, hst, hi.done_empty hst, hpre', preambleSec, flatForest, flatTree]
  · rw [if_neg hc]
    have hpre : s.pre = [] := hi.pre_nil_of_kept hc
    exact ⟨hpre, rfl, rfl, by rw [if_pos hpre, List.append_nil]⟩

/-- the branch of `stepHeading` for a section-opening heading: the preamble is closed if it is the
first, sections of the same or a deeper level are closed, the new section is opened on what is left -/
theorem stepHeading_major_eq (cfg : Cfg) (page : Int) (s : BState) (hd : LHeading)
    (hmaj : hd.level ≤ cfg.minHeadingLevel) :
    stepHeading cfg page s hd =
      (let r := popFrames hd.level (closePre s).stack (closePre s).path (closePre s).done
       { closePre s with
         done := r.2.2, path := hd.text :: r.2.1,
         stack := ⟨⟨hd.text, hd.level, (hd.text :: r.2.1).reverse, page, page⟩, [], []⟩ :: r.1 }) := by
  unfold stepHeading closePre
  simp only [hmaj, if_true]

theorem stepHeading_inv (cfg : Cfg) (page : Int) (s : BState) (h : Inv s) (hd : LHeading) :
    Inv (stepHeading cfg page s hd) := by
  by_cases hmaj : hd.level ≤ cfg.minHeadingLevel
  · rw [stepHeading_major_eq cfg page s hd hmaj]
    exact ⟨fun _ => (closePre_spec s h).1, fun f rest hfr => by cases hfr; rfl, fun hs => by cases hs⟩
  · rw [stepHeading_minor_eq cfg page s hd hmaj]
    exact addContent_inv s h _

/-- what the layout-based chunker is given on one page, in the only order its input type
defines: the headings that open no section, then the paragraphs, then the lists -/
def pageCanon (cfg : Cfg) (pg : LPage) : List CE :=
  match pg.layout with
  | none => []
  | some lay =>
    (lay.headings.filter (isMinor cfg)).map (headingCE pg.number) ++
      lay.paras.map (paraCE pg.number) ++ lay.lists.map (listCE pg.number)

def canon (cfg : Cfg) (d : LDoc) : List CE := d.flatMap (pageCanon cfg)

theorem inv_init : Inv ⟨[], [], [], [], 0, 0⟩ :=
  ⟨fun hne => absurd rfl hne, fun f rest hfr => (by cases hfr), fun _ => rfl⟩

def titles (stack : List Frame) : List Str := stack.map (·.info.title)

/-- level and title of every open section, innermost first -/
def levelTitles (stack : List Frame) : List H := stack.map fun f => (f.info.level, f.info.title)

theorem popFrames_levelTitles (lvl : Int) (stack : List Frame) (path : List Str) (done : List Sec) :
    levelTitles (popFrames lvl stack path done).1 =
      (levelTitles stack).dropWhile (fun e => decide (lvl ≤ e.1)) := by
  fun_induction popFrames lvl stack path done with
  | case1 => rfl
  | case2 path done f rest hlvl =>
    have : ¬ lvl ≤ f.info.level := by omega
    simp [levelTitles, this]
  | case3 path done f hlvl ih =>
    have : lvl ≤ f.info.level := by omega
    rw [ih]; simp [levelTitles, this]
  | case4 path done f hlvl g rest ih =>
    have : lvl ≤ f.info.level := by omega
    rw [ih]
    simp only [levelTitles, List.map_cons, List.dropWhile_cons (x := (f.info.level, f.info.title)), this,
      decide_true, if_true]

theorem popFrames_titles (lvl : Int) (stack : List Frame) (path : List Str) (done : List Sec) :
    path = titles stack → (popFrames lvl stack path done).2.1 = titles (popFrames lvl stack path done).1 := by
  fun_induction popFrames lvl stack path done with
  | case1 => intro h; exact h
  | case2 path done f rest hlvl => intro h; exact h
  | case3 path done f hlvl ih => intro h; apply ih; rw [h]; rfl
  | case4 path done f hlvl g rest ih => intro h; apply ih; rw [h]; rfl

/-- a section-opening heading: the preamble is closed if it is the first, sections of the
same or a deeper level are closed, the new section is opened on what is left -/
theorem stepMajor_shape (cfg : Cfg) (page : Int) (s : BState) (hi : Inv s) (hd : LHeading)
    (hmaj : hd.level ≤ cfg.minHeadingLevel) (hpath : s.path = titles s.stack) :
    ∃ st' : List Frame,
      (stepHeading cfg page s hd).stack =
        ⟨⟨hd.text, hd.level, (hd.text :: titles st').reverse, page, page⟩, [], []⟩ :: st' ∧
      (stepHeading cfg page s hd).pre = [] ∧
      (stepHeading cfg page s hd).path = hd.text :: titles st' ∧
      levelTitles st' = (levelTitles s.stack).dropWhile (fun e => decide (hd.level ≤ e.1)) ∧
      view (stepHeading cfg page s hd) =
        view s ++ [((⟨hd.text, hd.level, (hd.text :: titles st').reverse, page, page⟩ : SecInfo), [])] := by
  rw [view, stepHeading_major_eq cfg page s hd hmaj]
  obtain ⟨hp1, hst1, hpa1, hflat⟩ := closePre_spec s hi
  generalize closePre s = s1 at hp1 hst1 hpa1 hflat ⊢
  have hflat' := popFrames_flat hd.level s1.stack s1.path s1.done
  have hlt := popFrames_levelTitles hd.level s1.stack s1.path s1.done
  have htt := popFrames_titles hd.level s1.stack s1.path s1.done (by rw [hpa1, hst1]; exact hpath)
  simp only []
  generalize popFrames hd.level s1.stack s1.path s1.done = r at hflat' hlt htt ⊢
  refine ⟨r.1, ?_, hp1, ?_, by rw [hlt, hst1], ?_⟩
  · simp only [htt]
  · simp only [htt]
  · simp only [htt, hp1, if_true, List.append_nil]
    rw [openFlat_cons_leaf _ _ _ rfl, hflat', hflat]

/-- the chain of section-opening headings that enclose the position behind the history `hist` -/
def chain (hist : List H) : List Str := (openSpec hist).map (·.2)

structure LabSt where
  out : List (CE × List Str)
  hist : List H

/-- the specification walks the document in canonical order, remembers every section-opening
heading it has passed and labels every content element with `chain` of that history -/
def labHeading (cfg : Cfg) (page : Int) (s : LabSt) (h : LHeading) : LabSt :=
  if h.level ≤ cfg.minHeadingLevel then { s with hist := s.hist ++ [(h.level, h.text)] }
  else { s with out := s.out ++ [(headingCE page h, chain s.hist)] }

def labContent (s : LabSt) (ces : List CE) : LabSt :=
  { s with out := s.out ++ ces.map fun ce => (ce, chain s.hist) }

def labPage (cfg : Cfg) (s : LabSt) (pg : LPage) : LabSt :=
  match pg.layout with
  | none => s
  | some lay =>
    labContent (labContent (lay.headings.foldl (labHeading cfg pg.number) s)
      (lay.paras.map (paraCE pg.number))) (lay.lists.map (listCE pg.number))

/-- every content element of the document, in canonical order, with the chain of
section-opening headings enclosing it -/
def labelled (cfg : Cfg) (d : LDoc) : List (CE × List Str) := (d.foldl (labPage cfg) ⟨[], []⟩).out

/-- the content elements of a list of sections, each with the `Path` of its section -/
def labelsOf (l : List (SecInfo × List CE)) : List (CE × List Str) :=
  l.flatMap fun x => x.2.map fun ce => (ce, x.1.path)

theorem labelsOf_append (a b : List (SecInfo × List CE)) : labelsOf (a ++ b) = labelsOf a ++ labelsOf b := by
  simp [labelsOf]

theorem labelsOf_fst (l : List (SecInfo × List CE)) : (labelsOf l).map (·.1) = secContents l := by
  simp [labelsOf, secContents, List.map_flatMap, Function.comp_def]

/-- the builder state against the state of the labelling walk: the elements of the sections made so far (those of the
unfinished section without a heading under the empty path) are the elements labelled so far; the open sections are,
innermost first, the chain of the headings passed, which is the innermost one's `Path` -/
structure Rel (s : BState) (ls : LabSt) : Prop where
  inv : Inv s
  out : labelsOf (openFlat s.stack s.done) ++ s.pre.map (fun ce => (ce, ([] : List Str))) = ls.out
  levels : StackRel (levelTitles s.stack) ls.hist
  path : s.path = titles s.stack
  top : ∀ f rest, s.stack = f :: rest → f.info.path = chain ls.hist
  empty : s.stack = [] → ls.hist = []

/-- state of the flat specification of `buildSections`: the sections made so far, the last one first, and the
section-opening headings passed so far -/
structure FS where
  rsecs : List (SecInfo × List CE)
  hist : List H

/-- a content element goes to the last section and moves its `PageEnd`; before the first section-opening heading
(`pre`) that is the section without a heading, which the first element opens and whose `PageStart` is set while it is 0 -/
def addLast (pre : Bool) (ce : CE) : List (SecInfo × List CE) → List (SecInfo × List CE)
  | [] => [(⟨[], 0, [], ce.page, ce.page⟩, [ce])]
  | (i, c) :: r =>
    ({ i with pageStart := (if pre && i.pageStart == 0 then ce.page else i.pageStart), pageEnd := ce.page }, c ++ [ce]) :: r

def FS.add (s : FS) (ce : CE) : FS := ⟨addLast s.hist.isEmpty ce s.rsecs, s.hist⟩

/-- a section-opening heading starts a section under the chain of the headings that enclose it -/
def FS.opn (s : FS) (l : Int) (t : Str) (page : Int) : FS :=
  ⟨(⟨t, l, chain (s.hist ++ [(l, t)]), page, page⟩, []) :: s.rsecs, s.hist ++ [(l, t)]⟩

def fsHeading (cfg : Cfg) (page : Int) (s : FS) (h : LHeading) : FS :=
  if h.level ≤ cfg.minHeadingLevel then s.opn h.level h.text page else s.add (headingCE page h)

def fsPage (cfg : Cfg) (s : FS) (pg : LPage) : FS :=
  match pg.layout with
  | none => s
  | some lay =>
    (lay.lists.map (listCE pg.number)).foldl FS.add
      ((lay.paras.map (paraCE pg.number)).foldl FS.add (lay.headings.foldl (fsHeading cfg pg.number) s))

/-- `buildSections` against its flat specification -/
structure Sim (s : BState) (fs : FS) : Prop where
  inv : Inv s
  view : (view s).reverse = fs.rsecs
  levels : StackRel (levelTitles s.stack) fs.hist
  path : s.path = titles s.stack
  empty : s.stack = [] ↔ fs.hist = []
  fresh : s.stack = [] → s.pre = [] → s.preStart = 0

theorem addContent_sim (s : BState) (fs : FS) (h : Sim s fs) (ce : CE) : Sim (addContent s ce) (fs.add ce) := by
  have hinv := addContent_inv s h.inv ce
  have hv := h.view
  obtain ⟨done, stack, path, pre, ps, pe⟩ := s
  cases stack with
  | nil =>
    have hd : done = [] := h.inv.done_empty rfl
    subst hd
    refine ⟨hinv, ?_, h.levels, h.path, h.empty, fun _ hp => by simp [addContent] at hp⟩
    rw [FS.add, ← hv, h.empty.mp rfl]
    by_cases hp : pre = []
    · have h0 : ps = 0 := h.fresh rfl hp
      subst hp h0
      simp [view, addContent, openFlat, flatForest, addLast]
    · simp [view, addContent, openFlat, flatForest, addLast, hp]
  | cons f rest =>
    have hpre : pre = [] := h.inv.pre_empty (by simp)
    have hleaf : f.children = [] := h.inv.top_leaf f rest rfl
    have hh : fs.hist ≠ [] := fun e => by have := h.empty.mpr e; cases this
    subst hpre
    refine ⟨hinv, ?_, h.levels, h.path, ⟨fun e => (by cases e), fun e => absurd e hh⟩, fun e => (by cases e)⟩
    rw [FS.add, ← hv, List.isEmpty_eq_false_iff.mpr hh]
    simp only [view, addContent, List.append_nil, if_true]
    rw [openFlat_cons_leaf _ _ _ hleaf, openFlat_cons_leaf _ _ _ (by exact hleaf), List.reverse_append, List.reverse_append]
    rfl

theorem stepHeading_sim (cfg : Cfg) (page : Int) (s : BState) (fs : FS) (h : Sim s fs) (hd : LHeading) :
    Sim (stepHeading cfg page s hd) (fsHeading cfg page fs hd) := by
  by_cases hmaj : hd.level ≤ cfg.minHeadingLevel
  · obtain ⟨st', hst, hpre, hpath, hlt, hflat⟩ := stepMajor_shape cfg page s h.inv hd hmaj h.path
    have hlev : StackRel (levelTitles (stepHeading cfg page s hd).stack) (fs.hist ++ [(hd.level, hd.text)]) := by
      rw [hst]
      have := stackRel_push _ _ hd.level hd.text h.levels
      rw [← hlt] at this
      exact this
    rw [fsHeading, if_pos hmaj]
    refine ⟨stepHeading_inv cfg page s h.inv hd, ?_, hlev, by rw [hpath, hst]; rfl,
      ⟨fun e => (by rw [hst] at e; cases e), fun e => (by simp [FS.opn] at e)⟩, fun e => (by rw [hst] at e; cases e)⟩
    -- the new section's path is the chain of the headings that enclose it
    have hp : (hd.text :: titles st').reverse = chain (fs.hist ++ [(hd.level, hd.text)]) := by
      unfold StackRel at hlev
      rw [hst] at hlev
      simp only [chain, ← hlev, levelTitles, titles, List.map_cons, List.reverse_cons, List.map_append,
        List.map_reverse, List.map_map]
      rfl
    rw [hflat, List.reverse_append, h.view, hp]
    rfl
  · rw [fsHeading, if_neg hmaj, stepHeading_minor_eq cfg page s hd hmaj]
    exact addContent_sim s fs h _

theorem stepPage_sim (cfg : Cfg) (s : BState) (fs : FS) (h : Sim s fs) (pg : LPage) :
    Sim (stepPage cfg s pg) (fsPage cfg fs pg) := by
  have add : ∀ {α : Type} (f : α → CE) (xs : List α) s fs, Sim s fs →
      Sim (xs.foldl (fun s x => addContent s (f x)) s) ((xs.map f).foldl FS.add fs) := by
    intro α f xs
    induction xs with
    | nil => exact fun _ _ h => h
    | cons x xs ih => exact fun s fs h => ih _ _ (addContent_sim s fs h (f x))
  unfold stepPage fsPage
  cases pg.layout with
  | none => exact h
  | some lay =>
    refine add (listCE pg.number) lay.lists _ _ (add (paraCE pg.number) lay.paras _ _ ?_)
    generalize lay.headings = hs
    induction hs generalizing s fs with
    | nil => exact h
    | cons x xs ih => exact ih _ _ (stepHeading_sim cfg pg.number s fs h x)

/-- the flat specification of `buildSections` -/
def specSections (cfg : Cfg) (d : LDoc) : FS := d.foldl (fsPage cfg) ⟨[], []⟩

theorem sim_init : Sim ⟨[], [], [], [], 0, 0⟩ ⟨[], []⟩ :=
  ⟨inv_init, rfl, rfl, rfl, ⟨fun _ => rfl, fun _ => rfl⟩, fun _ _ => rfl⟩

theorem pages_sim (cfg : Cfg) (d : LDoc) (s : BState) (fs : FS) (h : Sim s fs) :
    Sim (d.foldl (stepPage cfg) s) (d.foldl (fsPage cfg) fs) := by
  induction d generalizing s fs with
  | nil => exact h
  | cons pg pgs ih => exact ih _ _ (stepPage_sim cfg s fs h pg)

/-- **`buildSections` makes the sections of its flat specification**, in document order (every section followed by
its subsections) -/
theorem buildSections_spec (cfg : Cfg) (d : LDoc) :
    flatForest (buildSections cfg d) = (specSections cfg d).rsecs.reverse := by
  have h := pages_sim cfg d _ _ sim_init
  have hi := h.inv
  rw [specSections, ← h.view, List.reverse_reverse]
  unfold buildSections view
  generalize d.foldl (stepPage cfg) ⟨[], [], [], [], 0, 0⟩ = s at hi
  simp only
  by_cases hp : s.pre = []
  · simp only [hp, List.isEmpty_nil, Bool.not_true, Bool.false_and, Bool.false_eq_true, if_false, if_true,
      List.append_nil]
    exact unwind_flat _ _
  · have hst : s.stack = [] := Decidable.byContradiction fun hs => hp (hi.pre_empty hs)
    have hd : s.done = [] := hi.done_empty hst
    have hu : unwind s.stack s.done = [] := by rw [hst, hd]; simp [unwind]
    have hne : s.pre.isEmpty = false := List.isEmpty_eq_false_iff.mpr hp
    simp only [hu, hne, Bool.not_false, List.isEmpty_nil, Bool.and_self, if_true, List.nil_append, hp, if_false]
    simp [hst, hd, openFlat, preambleSec, flatForest, flatTree]

theorem chain_snoc (hist : List H) (l : Int) (t : Str) : (chain (hist ++ [(l, t)])).getLast? = some t := by
  simp [chain, openSpec_snoc]

/-- the last section lies under the chain of the headings passed so far; there is one as soon as a heading is passed -/
def FS.WF (s : FS) : Prop :=
  match s.rsecs with
  | [] => s.hist = []
  | (i, _) :: _ => i.path = chain s.hist

theorem FS.WF.add {s : FS} (h : s.WF) (ce : CE) : (s.add ce).WF := by
  unfold FS.WF FS.add addLast at *
  split at h
  · rw [h]; rfl
  · exact h

theorem FS.WF.opn (s : FS) (l : Int) (t : Str) (page : Int) : (s.opn l t page).WF := rfl

/-- an invariant of the specification that every heading and every content element of the page keeps -/
theorem fsPage_lift (cfg : Cfg) (I : FS → Prop) (pg : LPage)
    (hh : ∀ lay, pg.layout = some lay → ∀ s, ∀ hd ∈ lay.headings, I s → I (fsHeading cfg pg.number s hd))
    (hc : ∀ s ce, ce.page = pg.number → I s → I (s.add ce)) (s : FS) (h : I s) : I (fsPage cfg s pg) := by
  unfold fsPage
  cases hl : pg.layout with
  | none => exact h
  | some lay =>
    refine List.foldlRecOn _ _ (List.foldlRecOn _ _ (List.foldlRecOn _ _ h fun s hs hd hm => hh lay hl s hd hm hs) ?_) ?_
    · intro s hs ce hce
      obtain ⟨p, _, rfl⟩ := List.mem_map.mp hce
      exact hc s _ rfl hs
    · intro s hs ce hce
      obtain ⟨l, _, rfl⟩ := List.mem_map.mp hce
      exact hc s _ rfl hs

theorem chain_eq_nil {hist : List H} (h : chain hist = []) : hist = [] := by
  rcases List.eq_nil_or_concat hist with rfl | ⟨hs, x, rfl⟩
  · rfl
  · have := chain_snoc hs x.1 x.2
    rw [List.concat_eq_append] at h
    rw [show (x.1, x.2) = x from rfl, h] at this
    cases this

/-- the specification against the labelling walk: same headings passed, and the sections' elements under their
sections' paths are the labelled elements -/
def LabRel (fs : FS) (ls : LabSt) : Prop := labelsOf fs.rsecs.reverse = ls.out ∧ fs.hist = ls.hist ∧ fs.WF

theorem LabRel.add {fs : FS} {ls : LabSt} (h : LabRel fs ls) (ce : CE) :
    LabRel (fs.add ce) { ls with out := ls.out ++ [(ce, chain ls.hist)] } := by
  obtain ⟨ho, hh, hw⟩ := h
  refine ⟨?_, hh, hw.add ce⟩
  unfold FS.WF at hw
  unfold FS.add addLast
  split at hw
  · next hr =>
    rw [hr] at ho
    rw [← ho, ← hh, hw]
    rfl
  · next i c r hr =>
    rw [hr, List.reverse_cons, labelsOf_append] at ho
    simp only [List.reverse_cons, labelsOf_append, ← ho, ← hh, ← hw]
    simp [labelsOf]

theorem LabRel.heading {fs : FS} {ls : LabSt} (h : LabRel fs ls) (cfg : Cfg) (page : Int) (hd : LHeading) :
    LabRel (fsHeading cfg page fs hd) (labHeading cfg page ls hd) := by
  unfold fsHeading labHeading
  split
  · refine ⟨?_, by rw [FS.opn, h.2.1], FS.WF.opn ..⟩
    simp only [FS.opn, List.reverse_cons, labelsOf_append, h.1]
    simp [labelsOf]
  · exact h.add _

theorem LabRel.addAll {fs : FS} {ls : LabSt} (h : LabRel fs ls) (ces : List CE) :
    LabRel (ces.foldl FS.add fs) (labContent ls ces) := by
  induction ces generalizing fs ls with
  | nil => simpa [labContent] using h
  | cons ce ces ih => simpa [labContent, List.append_assoc] using ih (h.add ce)

/-- **`Section.Path` is the chain of enclosing headings**, for every content element of the specification -/
theorem specSections_labels (cfg : Cfg) (d : LDoc) : labelsOf (specSections cfg d).rsecs.reverse = labelled cfg d := by
  suffices h : ∀ (d : LDoc) fs ls, LabRel fs ls → LabRel (d.foldl (fsPage cfg) fs) (d.foldl (labPage cfg) ls) from
    (h d ⟨[], []⟩ ⟨[], []⟩ ⟨rfl, rfl, rfl⟩).1
  intro d
  induction d with
  | nil => exact fun _ _ h => h
  | cons pg pgs ih =>
    intro fs ls h
    refine ih _ _ ?_
    unfold fsPage labPage
    cases pg.layout with
    | none => exact h
    | some lay =>
      refine LabRel.addAll (LabRel.addAll ?_ _) _
      generalize lay.headings = hs
      induction hs generalizing fs ls with
      | nil => exact h
      | cons x xs ih2 => exact ih2 _ _ (h.heading cfg pg.number x)

/-- **`Section.Path` is the chain of enclosing headings**, for every content element -/
theorem buildSections_labels (cfg : Cfg) (d : LDoc) :
    labelsOf (flatForest (buildSections cfg d)) = labelled cfg d := by
  rw [buildSections_spec, specSections_labels]

theorem labHeadings_fst (cfg : Cfg) (page : Int) (hs : List LHeading) (s : LabSt) :
    ((hs.foldl (labHeading cfg page) s).out).map (·.1) =
      s.out.map (·.1) ++ (hs.filter (isMinor cfg)).map (headingCE page) := by
  induction hs generalizing s with
  | nil => simp
  | cons h hs ih =>
    rw [List.foldl_cons, ih, List.filter_cons]
    unfold labHeading isMinor
    by_cases hm : h.level ≤ cfg.minHeadingLevel <;> simp [hm]

theorem labContent_fst (s : LabSt) (ces : List CE) : ((labContent s ces).out).map (·.1) = s.out.map (·.1) ++ ces := by
  simp [labContent, Function.comp_def]

theorem labPage_fst (cfg : Cfg) (s : LabSt) (pg : LPage) :
    ((labPage cfg s pg).out).map (·.1) = s.out.map (·.1) ++ pageCanon cfg pg := by
  unfold labPage pageCanon
  cases pg.layout with
  | none => simp
  | some lay => simp only [labContent_fst, labHeadings_fst, List.append_assoc]

/-- the labelling walk labels the content elements of the document, in canonical order -/
theorem labelled_fst (cfg : Cfg) (d : LDoc) : (labelled cfg d).map (·.1) = canon cfg d := by
  suffices h : ∀ s : LabSt, ((d.foldl (labPage cfg) s).out).map (·.1) = s.out.map (·.1) ++ canon cfg d from h ⟨[], []⟩
  induction d with
  | nil => simp [canon]
  | cons pg pgs ih => intro s; rw [List.foldl_cons, ih, labPage_fst]; simp [canon]

/-- **`buildSections` loses nothing**: the contents of the sections it returns, read in
document order (every section followed by its subsections), are exactly the content elements
of the document in canonical order. -/
theorem buildSections_contents (cfg : Cfg) (d : LDoc) :
    secContents (flatForest (buildSections cfg d)) = canon cfg d := by
  rw [← labelsOf_fst, buildSections_labels, labelled_fst]

theorem chain_length_le (hist : List H) (m : Int) (h : ∀ x ∈ hist, 1 ≤ x.1 ∧ x.1 ≤ m) :
    (chain hist).length ≤ m.toNat := by
  simp only [chain, List.length_map]
  have hmem : ∀ x ∈ openSpec hist, 1 ≤ x.1 ∧ x.1 ≤ m :=
    fun x hx => h x ((openSpec_sublist hist).subset hx)
  have := pairwise_length_le _ 1 m (openSpec_pairwise hist) (fun x hx => (hmem x hx).1)
    (fun x hx => (hmem x hx).2)
  omega

/-- **no section lies deeper than `MinHeadingLevel`**, when heading levels start at 1: only headings up to that level
open sections, and the open ones are strictly nested -/
theorem specSections_depth (cfg : Cfg) (d : LDoc)
    (h : ∀ pg ∈ d, ∀ lay, pg.layout = some lay → ∀ hd ∈ lay.headings, 1 ≤ hd.level) :
    ∀ x ∈ (specSections cfg d).rsecs, x.1.path.length ≤ cfg.minHeadingLevel.toNat := by
  let I : FS → Prop := fun s => (∀ x ∈ s.hist, 1 ≤ x.1 ∧ x.1 ≤ cfg.minHeadingLevel) ∧
    ∀ x ∈ s.rsecs, x.1.path.length ≤ cfg.minHeadingLevel.toNat
  have hadd : ∀ s ce, I s → I (s.add ce) := by
    intro s ce ⟨h1, h2⟩
    refine ⟨h1, ?_⟩
    unfold FS.add addLast
    split
    · exact fun x hx => by rw [List.mem_singleton.mp hx]; exact Nat.zero_le _
    · next i c r hr =>
      rw [hr] at h2
      exact fun x hx => (List.mem_cons.mp hx).elim (fun e => e ▸ h2 (i, c) (List.mem_cons_self ..))
        fun hx => h2 x (List.mem_cons_of_mem _ hx)
  suffices hI : I (specSections cfg d) from hI.2
  refine List.foldlRecOn (motive := I) d _ ⟨fun x hx => (by cases hx), fun x hx => (by cases hx)⟩ fun s hs pg hpg =>
    fsPage_lift cfg I pg ?_ (fun s ce _ => hadd s ce) s hs
  intro lay hl s hd hm ⟨h1, h2⟩
  unfold fsHeading
  split
  · next hle =>
    have h1' : ∀ x ∈ s.hist ++ [(hd.level, hd.text)], 1 ≤ x.1 ∧ x.1 ≤ cfg.minHeadingLevel := fun x hx =>
      (List.mem_append.mp hx).elim (h1 x) fun hx => by rw [List.mem_singleton.mp hx]; exact ⟨h pg hpg lay hl hd hm, hle⟩
    exact ⟨h1', fun x hx => (List.mem_cons.mp hx).elim (fun e => e ▸ chain_length_le _ _ h1') (h2 x)⟩
  · exact hadd s _ ⟨h1, h2⟩

theorem labelled_depth (cfg : Cfg) (d : LDoc)
    (h : ∀ pg ∈ d, ∀ lay, pg.layout = some lay → ∀ hd ∈ lay.headings, 1 ≤ hd.level) :
    ∀ x ∈ labelled cfg d, x.2.length ≤ cfg.minHeadingLevel.toNat := by
  intro x hx
  rw [← specSections_labels] at hx
  obtain ⟨sec, hsec, hx⟩ := List.mem_flatMap.mp hx
  obtain ⟨_, _, rfl⟩ := List.mem_map.mp hx
  exact specSections_depth cfg d h sec (List.mem_reverse.mp hsec)

end Tabula.ChunkLayout
