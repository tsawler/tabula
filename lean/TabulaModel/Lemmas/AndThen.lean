/-!
# Steps that thread a state and can fail, in sequence

A state-passing model answers `Option α × σ`: an answer or an error, and the state it left. A chain
of such steps stops at the first error and hands on the state the failing step left (`andThen`).
Two runs of the same chain over two kinds of state are compared by `RelR S`: the same answer,
states related by `S`; `RelR.andThen` carries the comparison along a chain, `andThen_eq_some` reads
a successful chain backwards. Core Lean only.
-/
namespace Tabula

/-- same answer, related states -/
def RelR {α σ τ : Type} (S : σ → τ → Prop) (x : α × σ) (y : α × τ) : Prop := x.1 = y.1 ∧ S x.2 y.2

/-- a step, then the rest of the chain on its answer -/
def andThen {α β σ : Type} (r : Option α × σ) (k : α → σ → Option β × σ) : Option β × σ :=
  match r with
  | (none, s) => (none, s)
  | (some a, s) => k a s

section
variable {α β σ τ : Type} {S : σ → τ → Prop} {x : α × σ} {y : α × τ}

/-- the two results as equations, for rewriting -/
theorem RelR.split (h : RelR S x y) : ∃ a s t, x = (a, s) ∧ y = (a, t) ∧ S s t :=
  ⟨x.1, x.2, y.2, rfl, Prod.ext h.1.symm rfl, h.2⟩

/-- what is made of the answer alone keeps the relation -/
theorem RelR.map (h : RelR S x y) (f : α → β) : RelR S (f x.1, x.2) (f y.1, y.2) :=
  ⟨congrArg f h.1, h.2⟩

theorem RelR.andThen {x : Option α × σ} {y : Option α × τ} (h : RelR S x y) {k₁ : α → σ → Option β × σ}
    {k₂ : α → τ → Option β × τ} (hk : ∀ a s t, S s t → RelR S (k₁ a s) (k₂ a t)) :
    RelR S (andThen x k₁) (andThen y k₂) := by
  obtain ⟨a, s, t, rfl, rfl, hs⟩ := h.split
  cases a with
  | none => exact ⟨rfl, hs⟩
  | some a => exact hk a s t hs

/-- a chain answers only if its first step does, and then as the rest does -/
theorem andThen_eq_some {r : Option α × σ} {k : α → σ → Option β × σ} {b : β} {s : σ} :
    andThen r k = (some b, s) ↔ ∃ a s', r = (some a, s') ∧ k a s' = (some b, s) := by
  obtain ⟨_ | a, s'⟩ := r
  · exact ⟨fun h => (by cases h), fun ⟨_, _, h, _⟩ => (by cases h)⟩
  · exact ⟨fun h => ⟨a, s', rfl, h⟩, fun ⟨_, _, h, hk⟩ => by cases h; exact hk⟩

end

end Tabula
