import TabulaModel.Model.TextAdv
/-!
Helper lemmas about the displacement function of `Model/TextAdv.lean`: what the font package
reports for a string (`summarize`) gives the sum of ISO's per-glyph displacements.
-/
namespace Tabula.TextAdv
open Tabula Tabula.GState

variable {α : Type} [Lean.Grind.Field α]

theorem strAdvance_nil (t : TextState α) : strAdvance t (summarize ([] : List (Glyph α))) = 0 := by
  simp only [summarize, strAdvance, hScale]; grind

theorem strAdvance_cons (t : TextState α) (g : Glyph α) (rest : List (Glyph α)) :
    strAdvance t (summarize (g :: rest)) = glyphTx t g + strAdvance t (summarize rest) := by
  cases hg : g.isSpace <;> simp only [summarize, strAdvance, glyphTx, hScale, hg] <;> grind

end Tabula.TextAdv
