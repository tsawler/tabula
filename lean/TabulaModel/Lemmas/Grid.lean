import TabulaModel.Lemmas.ListFold
import TabulaModel.Lemmas.DivGuard
/-!
The table grid of the DOCX and the ODT reader. docx/tables.go and odt/tables.go hold the same
`limitTableGrid` and the same column count, each on its own cell type, and `Model/Docx.lean` and
`Model/Odt.lean` repeat them word for word. Here they are written once, over what they read of a
cell (`Spans`); each reader's functions are these at its own `Spans` by `rfl`, and the facts are
proved here.
-/
namespace Tabula.Grid

/-- the widest row when a cell takes `w c` grid columns (`colCount` of both readers at
`w = colSpan`, `Odt.modelColCount` at `w = gridWidth`) -/
def width {α : Type} (w : α → Nat) (rows : List (List α)) : Nat :=
  rows.foldl (fun m row => max m (row.foldl (fun s c => s + w c) 0)) 0

/-- the widest row counted in cells -/
def widest {α : Type} (rows : List (List α)) : Nat := rows.foldl (fun m row => max m row.length) 0

section Width
variable {α : Type} (w : α → Nat)

/-- every row fits the width of the table -/
theorem row_le_width (rows : List (List α)) (row : List α) (h : row ∈ rows) : (row.map w).sum ≤ width w rows := by
  have h1 := (foldl_max_bounds (fun row : List α => row.foldl (fun s c => s + w c) 0) rows 0).2 row h
  rw [foldl_add_sum w row 0, Nat.zero_add] at h1
  exact h1

/-- the table is no wider than a bound every row keeps -/
theorem width_le (rows : List (List α)) (b : Nat) (h : ∀ row ∈ rows, (row.map w).sum ≤ b) : width w rows ≤ b :=
  foldl_max_le_of _ b rows 0 (Nat.zero_le _) fun row hrow => by
    rw [foldl_add_sum w row 0, Nat.zero_add]
    exact h row hrow

/-- cells of at most one column each: the table is at most as wide as its longest row -/
theorem width_le_widest (rows : List (List α)) (h : ∀ row ∈ rows, ∀ c ∈ row, w c ≤ 1) : width w rows ≤ widest rows :=
  foldl_max_le_foldl_max _ _ rows 0 0 (Nat.le_refl 0) fun row hrow => by
    rw [foldl_add_sum w row 0, Nat.zero_add, ← Nat.mul_one row.length]
    exact sum_map_le_mul w 1 row (h row hrow)

/-- cells of exactly one column each: the table is as wide as its longest row -/
theorem width_unit (rows : List (List α)) (h : ∀ row ∈ rows, ∀ c ∈ row, w c = 1) : width w rows = widest rows := by
  refine Nat.le_antisymm (width_le_widest w rows fun row hr c hc => Nat.le_of_eq (h row hr c hc)) ?_
  refine foldl_max_le_foldl_max _ _ rows 0 0 (Nat.le_refl 0) fun row hrow => Nat.le_of_eq ?_
  rw [foldl_add_sum w row 0, Nat.zero_add, List.map_congr_left (g := fun _ => 1) (h row hrow), List.map_const',
    List.sum_replicate_nat, Nat.mul_one]

/-- the width reads of a cell only what `w` reads -/
theorem width_map {β : Type} (f : β → α) (rows : List (List β)) :
    width w (rows.map (·.map f)) = width (fun c => w (f c)) rows := by
  unfold width
  rw [List.foldl_map]
  simp only [List.foldl_map]

/-- rows that add nothing to the width (empty ones, copies of the first) behind a first row -/
theorem width_cons_replicate (r x : List α) (n : Nat) (hx : (x.map w).sum ≤ (r.map w).sum) :
    width w (r :: List.replicate n x) = (r.map w).sum := by
  unfold width
  rw [List.foldl_cons, foldl_add_sum w r 0, Nat.zero_add, Nat.zero_max]
  exact foldl_max_replicate _ x n _ (by rw [foldl_add_sum w x 0, Nat.zero_add]; exact hx)

end Width

/-- what `limitTableGrid` reads and writes of a cell: its two spans, and the cell with both set
to 1 -/
structure Spans (α : Type) where
  colSpan : α → Nat
  rowSpan : α → Nat
  reset : α → α
  colSpan_reset : ∀ c, colSpan (reset c) = 1
  rowSpan_reset : ∀ c, rowSpan (reset c) = 1

variable {α : Type} (S : Spans α)

/-- `spans` of `limitTableGrid` -/
def hasSpans (rows : List (List α)) : Bool :=
  rows.any fun row => row.any fun c => decide (S.colSpan c > 1) || decide (S.rowSpan c > 1)

/-- every span of the table set to 1 -/
def resetSpans (rows : List (List α)) : List (List α) := rows.map fun row => row.map S.reset

/-- `limitTableGrid` with the limit `m` -/
def limit (m : Nat) (rows : List (List α)) : List (List α) :=
  if !hasSpans S rows || width S.colSpan rows == 0 || decide (rows.length ≤ m / width S.colSpan rows) then rows
  else resetSpans S rows

theorem mem_resetSpans {rows : List (List α)} {row : List α} {c : α} (hrow : row ∈ resetSpans S rows) (hc : c ∈ row) :
    ∃ r0 ∈ rows, ∃ c0 ∈ r0, c = S.reset c0 := by
  simp only [resetSpans, List.mem_map] at hrow
  obtain ⟨r0, hr0, rfl⟩ := hrow
  simp only [List.mem_map] at hc
  obtain ⟨c0, hc0, rfl⟩ := hc
  exact ⟨r0, hr0, c0, hc0, rfl⟩

theorem hasSpans_false (rows : List (List α)) (h : hasSpans S rows = false) :
    ∀ row ∈ rows, ∀ c ∈ row, S.colSpan c ≤ 1 ∧ S.rowSpan c ≤ 1 := by
  simp only [hasSpans, List.any_eq_false, Bool.not_eq_true, Bool.or_eq_false_iff, decide_eq_false_iff_not, Nat.not_lt] at h
  exact h

theorem hasSpans_resetSpans (rows : List (List α)) : hasSpans S (resetSpans S rows) = false := by
  unfold hasSpans resetSpans
  simp [List.any_map, List.any_eq_false, S.colSpan_reset, S.rowSpan_reset]

theorem widest_resetSpans (rows : List (List α)) : widest (resetSpans S rows) = widest rows := by
  unfold widest resetSpans
  rw [List.foldl_map]
  simp

/-- the test of the code (an integer division) as a product: every span is reset exactly when the
table has spans and rows x spanned columns exceed the limit -/
theorem limit_eq (m : Nat) (rows : List (List α)) :
    limit S m rows = if hasSpans S rows = true ∧ rows.length * width S.colSpan rows > m then resetSpans S rows else rows := by
  unfold limit
  simp only [Nat.mul_comm rows.length, GT.gt, ← div_guard_iff]
  cases hasSpans S rows <;> simp [← Nat.not_le, ← not_or]

theorem limit_cases (m : Nat) (rows : List (List α)) : limit S m rows = rows ∨ limit S m rows = resetSpans S rows := by
  rw [limit_eq]
  split
  · exact Or.inr rfl
  · exact Or.inl rfl

theorem limit_within (m : Nat) (rows : List (List α)) (h : rows.length * width S.colSpan rows ≤ m) : limit S m rows = rows := by
  rw [limit_eq, if_neg fun hh => absurd h (Nat.not_le.2 hh.2)]

theorem limit_nospans (m : Nat) (rows : List (List α)) (h : hasSpans S rows = false) : limit S m rows = rows := by
  rw [limit_eq, h, if_neg fun hh => Bool.false_ne_true hh.1]

theorem limit_beyond (m : Nat) (rows : List (List α)) (hs : hasSpans S rows = true)
    (h : rows.length * width S.colSpan rows > m) : limit S m rows = resetSpans S rows := by
  rw [limit_eq, if_pos ⟨hs, h⟩]

/-- a table the limit has reset has no spans left -/
theorem limit_idem (m : Nat) (rows : List (List α)) : limit S m (limit S m rows) = limit S m rows := by
  cases limit_cases S m rows with
  | inl h => rw [h, h]
  | inr h => rw [h]; exact limit_nospans S m _ (hasSpans_resetSpans S rows)

/-- the limit touches spans only: what a cell holds besides them, the number of rows and of cells
in every row stay -/
theorem limit_map {β : Type} (f : α → β) (hf : ∀ c, f (S.reset c) = f c) (m : Nat) (rows : List (List α)) :
    (limit S m rows).map (·.map f) = rows.map (·.map f) := by
  cases limit_cases S m rows with
  | inl h => rw [h]
  | inr h => rw [h]; simp [resetSpans, List.map_map, Function.comp_def, hf]

theorem limit_length (m : Nat) (rows : List (List α)) : (limit S m rows).length = rows.length := by
  have := congrArg List.length (limit_map S (fun _ => ()) (fun _ => rfl) m rows)
  simpa using this

/-- what holds of every cell and of a cell whose spans are reset holds of every cell the limit leaves -/
theorem limit_forall (P : α → Prop) (hP : ∀ c, P c → P (S.reset c)) (m : Nat) (rows : List (List α))
    (h : ∀ row ∈ rows, ∀ c ∈ row, P c) : ∀ row ∈ limit S m rows, ∀ c ∈ row, P c := by
  cases limit_cases S m rows with
  | inl he => rw [he]; exact h
  | inr he =>
    rw [he]
    intro row hrow c hc
    obtain ⟨r0, hr0, c0, hc0, rfl⟩ := mem_resetSpans S hrow hc
    exact hP c0 (h r0 hr0 c0 hc0)

/-- the grid after the limit (rows x spanned columns) holds at most `m` cells, or no more cells
than rows x the widest row counted in cells - no span multiplies it -/
theorem limit_grid_bound (m : Nat) (rows : List (List α)) :
    rows.length * width S.colSpan (limit S m rows) ≤ max m (rows.length * widest rows) := by
  rw [limit_eq]
  split
  · have := width_le_widest S.colSpan (resetSpans S rows) fun row hrow c hc => by
      obtain ⟨_, _, c0, _, rfl⟩ := mem_resetSpans S hrow hc
      exact Nat.le_of_eq (S.colSpan_reset c0)
    rw [widest_resetSpans] at this
    have := Nat.mul_le_mul_left rows.length this
    omega
  · rename_i hn
    by_cases hs : hasSpans S rows = true
    · have : ¬ rows.length * width S.colSpan rows > m := fun hw => hn ⟨hs, hw⟩
      omega
    · have hs' : hasSpans S rows = false := by simpa using hs
      have := width_le_widest S.colSpan rows fun row hrow c hc => (hasSpans_false S rows hs' row hrow c hc).1
      have := Nat.mul_le_mul_left rows.length this
      omega

end Tabula.Grid
