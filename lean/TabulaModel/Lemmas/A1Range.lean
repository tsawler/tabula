import TabulaModel.Lemmas.A1Ref
import TabulaModel.Lemmas.SplitOn
/-!
`ParseRangeRef` (C17): its `strings.Split(ref, ":")` is the split of `Lemmas/SplitOn.lean` at the colon, and the
number of colons decides first.
-/
namespace Tabula.A1

/-- `strings.Split(ref, ":")` is the split of `Lemmas/SplitOn.lean` at the colon -/
theorem splitOnColon_eq (s cur : Str) : splitOnColon s cur = Sheet.splitAux 58 s cur := by
  induction s generalizing cur with
  | nil => rfl
  | cons c s ih => simp only [splitOnColon, Sheet.splitAux, ih]

theorem splitOnColon_two_iff (s a b : Str) :
    splitOnColon s [] = [a, b] ↔ s = a ++ 58 :: b ∧ 58 ∉ a ∧ 58 ∉ b := by
  rw [splitOnColon_eq]
  show Sheet.splitOn 58 s = [a, b] ↔ _
  rw [Sheet.splitOn_eq_iff]
  simp only [ne_eq, List.cons_ne_nil, not_false_eq_true, List.mem_cons, List.not_mem_nil, or_false, forall_eq_or_imp,
    forall_eq, true_and, Sheet.intercalate, List.append_assoc, List.singleton_append]
  exact ⟨fun ⟨⟨ha, hb⟩, h⟩ => ⟨h.symm, ha, hb⟩, fun ⟨h, ha, hb⟩ => ⟨⟨ha, hb⟩, h.symm⟩⟩

theorem splitOnColon_pair (a b : Str) (ha : 58 ∉ a) (hb : 58 ∉ b) :
    splitOnColon (a ++ 58 :: b) [] = [a, b] :=
  (splitOnColon_two_iff _ a b).mpr ⟨rfl, ha, hb⟩

/-- the number of colons decides first: without exactly one the reference is no range, whatever
the pieces are -/
theorem parseRangeRef_of_count_ne (s : Str) (h : s.count 58 ≠ 1) : parseRangeRef s = .error .badRange := by
  unfold parseRangeRef
  have hl := Sheet.length_splitAux 58 s []
  rw [← splitOnColon_eq] at hl
  split
  · rename_i a b hab
    rw [hab] at hl
    simp at hl; omega
  · rfl

end Tabula.A1
