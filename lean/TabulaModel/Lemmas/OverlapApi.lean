import TabulaModel.Model.OverlapApi
import TabulaModel.Lemmas.Overlap
import TabulaModel.Lemmas.Aligned
/-!
C13: `strings.Index`, `GetOriginalText` on what `ApplyOverlapToChunks` builds.
-/
set_option linter.unusedVariables false
namespace Tabula.OverlapApi
open Tabula.Split Tabula.Overlap

theorem indexOf_prefix (p r : Str) : indexOf (p ++ r) p = some 0 := by
  cases h : p ++ r with
  | nil =>
    have : p = [] := (List.append_eq_nil_iff.mp h).1
    simp [indexOf, this]
  | cons c t =>
    unfold indexOf
    have : p.isPrefixOf (c :: t) = true := by
      rw [← h, List.isPrefixOf_iff_prefix]
      exact List.prefix_append p r
    rw [if_pos this]

theorem trimSpace_nlnl (x : Str) : trimSpace ([10, 10] ++ x) = trimSpace x := by
  unfold trimSpace
  rw [trimLeft_run [10, 10] x (by decide +kernel)]

/-- `GetOriginalText` on a chunk as `ApplyOverlapToChunks` leaves it, when the first
occurrence of the overlap in the rewritten text is the overlap itself -/
theorem getOriginalText_of_first_occurrence (c : OverlapConfig) (ov text title : Str)
    (h : ov ≠ [] → indexOf (applyOverlap text ov title c.includeHeadingContext) ov
      = some (if c.includeHeadingContext ∧ title ≠ [] then title.length + 4 else 0)) :
    getOriginalText (outOf c ov text title) = if ov = [] then text else trimSpace text := by
  unfold outOf
  by_cases he : ov = []
  · rw [if_pos he, if_pos he]; rfl
  · rw [if_neg he, if_neg he]
    unfold getOriginalText
    simp only [Bool.not_true, Bool.false_or, decide_eq_true_eq]
    rw [if_neg he, h he]
    simp only
    unfold applyOverlap
    rw [if_neg he]
    by_cases hc : c.includeHeadingContext = true ∧ title ≠ []
    · rw [if_pos hc, if_pos hc]
      have e : [91] ++ title ++ [93, 10, 10] ++ ov ++ [10, 10] ++ text
          = ([91] ++ title ++ [93, 10, 10] ++ ov) ++ ([10, 10] ++ text) := by simp [List.append_assoc]
      have hl : ([91] ++ title ++ [93, 10, 10] ++ ov).length = title.length + 4 + ov.length := by
        simp; omega
      rw [e, ← hl, List.drop_left, trimSpace_nlnl]
    · rw [if_neg hc, if_neg hc]
      have e : ([] : Str) ++ ov ++ [10, 10] ++ text = ov ++ ([10, 10] ++ text) := by simp
      rw [e, Nat.zero_add, List.drop_left, trimSpace_nlnl]

/-- without a bracketed title in front, the overlap is the head of the rewritten text -/
theorem getOriginalText_outOf (c : OverlapConfig) (ov text title : Str)
    (h : c.includeHeadingContext = false ∨ title = []) :
    getOriginalText (outOf c ov text title) = if ov = [] then text else trimSpace text := by
  apply getOriginalText_of_first_occurrence
  intro he
  have hc : ¬ (c.includeHeadingContext = true ∧ title ≠ []) := by
    rcases h with h | h
    · simp [h]
    · simp [h]
  rw [if_neg hc]
  unfold applyOverlap
  rw [if_neg he, if_neg hc]
  have e : ([] : Str) ++ ov ++ [10, 10] ++ text = ov ++ ([10, 10] ++ text) := by simp
  rw [e]
  exact indexOf_prefix ov _

section
variable {f : Str → Str} (hf : Reads f)
include hf

/-- … so `GetOriginalText` returns what the chunk's own text carries, under every reading -/
theorem reads_getOriginalText_outOf (c : OverlapConfig) (ov text title : Str)
    (h : c.includeHeadingContext = false ∨ title = []) :
    f (getOriginalText (outOf c ov text title)) = f text := by
  rw [getOriginalText_outOf c ov text title h]
  split
  · rfl
  · exact hf.trim text

/-- stripping the overlaps recovers what the chunks' own texts carry, chunk by chunk -/
theorem applyOverlapAux_original_reads (cl : Classes) (c : OverlapConfig) (prev : Option Str)
    (items : List (Str × Str)) (h : ∀ it ∈ items, c.includeHeadingContext = false ∨ it.2 = []) :
    (applyOverlapAux cl c prev items).map (fun o => f (getOriginalText o))
      = items.map (fun it => f it.1) := by
  induction items generalizing prev with
  | nil => rfl
  | cons it rest ih =>
    rw [applyOverlapAux_cons, List.map_cons, List.map_cons,
      reads_getOriginalText_outOf hf c _ it.1 it.2 (h it (List.mem_cons_self ..)),
      ih (some it.1) (fun x hx => h x (List.mem_cons_of_mem _ hx))]

end

/-- `strings.Index` finds an occurrence whenever there is one, at or before it -/
theorem indexOf_of_occurs (a sub b : Str) : ∃ k, indexOf (a ++ sub ++ b) sub = some k ∧ k ≤ a.length := by
  induction a with
  | nil =>
    refine ⟨0, ?_, Nat.le_refl _⟩
    rw [List.nil_append]
    exact indexOf_prefix sub b
  | cons c a' ih =>
    obtain ⟨k, hk, hle⟩ := ih
    show ∃ k, indexOf (c :: (a' ++ sub ++ b)) sub = some k ∧ k ≤ (c :: a').length
    unfold indexOf
    split
    · exact ⟨0, rfl, Nat.zero_le _⟩
    · rw [hk]
      exact ⟨k + 1, rfl, by simp; omega⟩

/-- whatever the title, `GetOriginalText` never loses own content: under every reading, what the
chunk's own text carries is a suffix of what the returned text carries -/
theorem getOriginalText_keeps_own {f : Str → Str} (hf : Reads f) (c : OverlapConfig) (ov text title : Str) :
    ∃ x, f (getOriginalText (outOf c ov text title)) = x ++ f text := by
  unfold outOf
  by_cases he : ov = []
  · rw [if_pos he]
    exact ⟨[], rfl⟩
  · rw [if_neg he]
    unfold getOriginalText
    simp only [Bool.not_true, Bool.false_or, decide_eq_true_eq]
    rw [if_neg he]
    unfold applyOverlap
    rw [if_neg he]
    generalize (if c.includeHeadingContext = true ∧ title ≠ [] then [91] ++ title ++ [93, 10, 10] else []) = head
    obtain ⟨k, hk, hle⟩ := indexOf_of_occurs head ov ([10, 10] ++ text)
    rw [List.append_assoc (head ++ ov), hk]
    simp only
    have hlen : k + ov.length ≤ (head ++ ov).length := by simp; omega
    -- what is left of the prefix, the blank line, the own text
    rw [List.drop_append_of_le_length hlen, hf.trim, ← List.append_assoc,
      hf.sep _ (by decide) wsOnly_nlnl]
    exact ⟨_, rfl⟩

end Tabula.OverlapApi
