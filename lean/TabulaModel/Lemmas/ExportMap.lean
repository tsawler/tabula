import TabulaModel.Lemmas.Export
/-!
The maps of `Model/Export.lean` (a Go `map[string]interface{}` as an association list): `mapLookup`,
`mapInsert`, `mapKeys`; `flattenGo` and `filterFields` on maps without nested maps; maps written as a
concatenation of one-entry segments, and the table lookup that reads them.
-/
set_option linter.unusedSimpArgs false
namespace Tabula.Export
open Tabula.Csv (Str)

theorem mapLookup_append (a b : MapSV) (k : Str) :
    mapLookup (a ++ b) k = (mapLookup a k).or (mapLookup b k) := by
  induction a with
  | nil => simp [mapLookup]
  | cons e rest ih =>
    obtain ⟨k', v'⟩ := e
    simp only [List.cons_append, mapLookup]
    split
    · simp
    · exact ih

theorem mapLookup_single (key : Str) (v : Val) (k : Str) :
    mapLookup [(key, v)] k = if k = key then some v else none := by
  simp only [mapLookup]
  by_cases h : key = k
  · simp [h]
  · have : ¬ k = key := fun e => h e.symm
    simp [h, this]

theorem mapLookup_seg (c : Prop) [Decidable c] (key : Str) (v : Val) (k : Str) :
    mapLookup (if c then [(key, v)] else []) k = if k = key then (if c then some v else none) else none := by
  by_cases hc : c
  · simp only [hc, if_true, mapLookup_single]
  · simp [hc, mapLookup]

theorem mapLookup_mapInsert (m : MapSV) (k : Str) (v : Val) (k' : Str) :
    mapLookup (mapInsert m k v) k' = if k' = k then some v else mapLookup m k' := by
  induction m with
  | nil => simp only [mapInsert, mapLookup, @eq_comm _ k' k]
  | cons e rest ih =>
    obtain ⟨k1, v1⟩ := e
    simp only [mapInsert]
    by_cases h1 : k1 = k
    · subst h1
      simp only [if_true, mapLookup, @eq_comm _ k' k1]
      split <;> rfl
    · simp only [h1, if_false, mapLookup, ih]
      by_cases h2 : k1 = k'
      · subst h2
        simp [h1]
      · simp [h2]

theorem mem_mapKeys_iff (m : MapSV) (k : Str) : k ∈ mapKeys m ↔ (mapLookup m k).isSome = true := by
  induction m with
  | nil => simp [mapKeys, mapLookup]
  | cons e rest ih =>
    obtain ⟨k1, v1⟩ := e
    simp only [mapKeys, List.map_cons, List.mem_cons, mapLookup] at ih ⊢
    by_cases h : k1 = k
    · simp [h]
    · have : ¬ k = k1 := fun e => h e.symm
      simp only [this, false_or, h, if_false]
      exact ih

theorem mapKeys_append (a b : MapSV) : mapKeys (a ++ b) = mapKeys a ++ mapKeys b := by
  simp [mapKeys]

theorem mapKeys_mapInsert (m : MapSV) (k : Str) (v : Val) :
    mapKeys (mapInsert m k v) = if k ∈ mapKeys m then mapKeys m else mapKeys m ++ [k] := by
  induction m with
  | nil => simp [mapInsert, mapKeys]
  | cons e rest ih =>
    obtain ⟨k1, v1⟩ := e
    simp only [mapInsert]
    by_cases h1 : k1 = k
    · subst h1; simp [mapKeys]
    · have h1' : ¬ k = k1 := fun e => h1 e.symm
      simp only [h1, if_false, mapKeys, List.map_cons, List.mem_cons, h1', false_or] at ih ⊢
      rw [ih]
      by_cases hk : k ∈ List.map (fun x => x.fst) rest <;> simp [hk]

theorem nodup_mapInsert (m : MapSV) (k : Str) (v : Val) (h : (mapKeys m).Nodup) :
    (mapKeys (mapInsert m k v)).Nodup := by
  rw [mapKeys_mapInsert]
  split
  · exact h
  · exact nodup_snoc h ‹_›

theorem mem_of_mapLookup (m : MapSV) (k : Str) (v : Val) (h : mapLookup m k = some v) : (k, v) ∈ m := by
  induction m with
  | nil => simp [mapLookup] at h
  | cons e0 rest ih =>
    obtain ⟨k1, v1⟩ := e0
    simp only [mapLookup] at h
    split at h
    · rename_i hk
      injection h with h
      rw [hk, h]; exact List.mem_cons_self
    · exact List.mem_cons_of_mem _ (ih h)

theorem mem_mapInsert {m : MapSV} {k : Str} {v : Val} {e : Str × Val} (h : e ∈ mapInsert m k v) :
    e ∈ m ∨ e = (k, v) := by
  induction m with
  | nil => simp only [mapInsert, List.mem_singleton] at h; exact Or.inr h
  | cons e0 rest ih =>
    obtain ⟨k1, v1⟩ := e0
    simp only [mapInsert] at h
    split at h
    · exact (List.mem_cons.mp h).symm.imp (List.mem_cons_of_mem _) id
    · rcases List.mem_cons.mp h with h | h
      · exact Or.inl (h ▸ List.mem_cons_self)
      · exact (ih h).imp (List.mem_cons_of_mem _) id

theorem mapInsert_fresh (acc : MapSV) (k : Str) (v : Val) (h : k ∉ mapKeys acc) :
    mapInsert acc k v = acc ++ [(k, v)] := by
  induction acc with
  | nil => rfl
  | cons e rest ih =>
    obtain ⟨k', v'⟩ := e
    simp only [mapKeys, List.map_cons, List.mem_cons, not_or] at h
    have hne : ¬ k' = k := fun e => h.1 e.symm
    simp only [mapInsert, hne, if_false, List.cons_append]
    rw [ih h.2]

/-! ### maps without nested maps -/

def isFlat : Val → Prop
  | .obj _ => False
  | _ => True

theorem flat_mapInsert (m : MapSV) (k : Str) (v : Val) (hm : ∀ e ∈ m, isFlat e.2) (hv : isFlat v) :
    ∀ e ∈ mapInsert m k v, isFlat e.2 :=
  fun e he => (mem_mapInsert he).elim (hm e) (fun h => h ▸ hv)

theorem flat_of_lookup (m : MapSV) (k : Str) (v : Val) (hm : ∀ e ∈ m, isFlat e.2)
    (h : mapLookup m k = some v) : isFlat v :=
  hm (k, v) (mem_of_mapLookup m k v h)

theorem flattenGo_flat (m acc : MapSV) (hf : ∀ e ∈ m, isFlat e.2) (hn : (mapKeys acc ++ mapKeys m).Nodup) :
    flattenGo m [] acc = acc ++ m := by
  induction m generalizing acc with
  | nil => simp [flattenGo]
  | cons e rest ih =>
    obtain ⟨k, v⟩ := e
    have hk : k ∉ mapKeys acc := by
      intro hm
      simp only [mapKeys, List.map_cons] at hn hm
      rw [List.nodup_append] at hn
      exact hn.2.2 k hm k (by simp) rfl
    have hn' : (mapKeys (acc ++ [(k, v)]) ++ mapKeys rest).Nodup := by
      simpa [mapKeys, List.append_assoc] using hn
    have hrest : ∀ e ∈ rest, isFlat e.2 := fun e he => hf e (List.mem_cons_of_mem _ he)
    have hv : isFlat v := hf (k, v) (by simp)
    cases v with
    | obj kvs => exact absurd hv (by simp [isFlat])
    | _ => simp only [flattenGo, fullKeyOf, if_true]; rw [mapInsert_fresh _ _ _ hk, ih _ hrest hn']; simp

theorem filterFields_spec (fs : List Str) (md acc : MapSV) (hacc : (mapKeys acc).Nodup)
    (hf : ∀ e ∈ acc, isFlat e.2) (hmd : ∀ e ∈ md, isFlat e.2) :
    (mapKeys (filterFields fs md acc)).Nodup ∧ (∀ e ∈ filterFields fs md acc, isFlat e.2) ∧
    ∀ k, mapLookup (filterFields fs md acc) k =
      if fs.contains k then (mapLookup md k).or (mapLookup acc k) else mapLookup acc k := by
  induction fs generalizing acc with
  | nil => exact ⟨hacc, hf, by simp [filterFields]⟩
  | cons f rest ih =>
    simp only [filterFields]
    cases hl : mapLookup md f with
    | none =>
      obtain ⟨h1, h2, h3⟩ := ih acc hacc hf
      refine ⟨h1, h2, ?_⟩
      intro k
      rw [h3 k]
      by_cases hk : k = f
      · subst hk; simp [hl]
      · have : (f == k) = false := by simpa using fun e : f = k => hk e.symm
        simp [hk]
    | some v =>
      have hv : isFlat v := flat_of_lookup md f v hmd hl
      obtain ⟨h1, h2, h3⟩ := ih (mapInsert acc f v) (nodup_mapInsert acc f v hacc) (flat_mapInsert acc f v hf hv)
      refine ⟨h1, h2, ?_⟩
      intro k
      rw [h3 k, mapLookup_mapInsert]
      by_cases hk : k = f
      · subst hk
        simp only [if_true, List.contains_cons, BEq.rfl, Bool.true_or, hl]
        split <;> simp
      · simp [hk]

theorem mem_filterFields {fs : List Str} {md acc : MapSV} {e : Str × Val} (h : e ∈ filterFields fs md acc) :
    e ∈ acc ∨ e ∈ md := by
  induction fs generalizing acc with
  | nil => exact Or.inl h
  | cons f rest ih =>
    simp only [filterFields] at h
    cases hl : mapLookup md f with
    | none => rw [hl] at h; exact ih h
    | some v =>
      rw [hl] at h
      rcases ih h with h' | h'
      · rcases mem_mapInsert h' with h'' | h''
        · exact Or.inl h''
        · exact Or.inr (h'' ▸ mem_of_mapLookup md f v hl)
      · exact Or.inr h'

/-! ### maps written segment by segment -/

theorem sub_if (c : Prop) [Decidable c] (k : Str) (v : Val) :
    List.Sublist (mapKeys (if c then [(k, v)] else [])) [k] := by
  split <;> simp [mapKeys]

theorem allE_append {P : Str × Val → Prop} {a b : MapSV} (ha : ∀ e ∈ a, P e) (hb : ∀ e ∈ b, P e) :
    ∀ e ∈ a ++ b, P e :=
  List.forall_mem_append.mpr ⟨ha, hb⟩

theorem allE_single {P : Str × Val → Prop} (k : Str) (v : Val) (hv : P (k, v)) : ∀ e ∈ [(k, v)], P e :=
  List.forall_mem_singleton.mpr hv

theorem allE_if {P : Str × Val → Prop} (c : Prop) [Decidable c] (k : Str) (v : Val) (hv : c → P (k, v)) :
    ∀ e ∈ (if c then [(k, v)] else []), P e := by
  split
  · rename_i hc; exact allE_single k v (hv hc)
  · intro e he; simp at he

/-! ### tables with distinct row names -/

/-- a table of optional entries: the entry of the first row named `k` -/
def tabLookup {α : Type} : List (Str × Option α) → Str → Option α
  | [], _ => none
  | s :: r, k => if k = s.1 then s.2 else tabLookup r k

theorem tabLookup_none {α : Type} (segs : List (Str × Option α)) (k : Str) (h : k ∉ segs.map (·.1)) :
    tabLookup segs k = none := by
  induction segs with
  | nil => rfl
  | cons s r ih =>
    rw [List.map_cons, List.mem_cons, not_or] at h
    rw [tabLookup, if_neg h.1, ih h.2]

/-- A map or object written as a concatenation of segments, each holding at most the entry of its own
name, is looked up segment by segment (`mapLookup_append`, `getMember_append`); when the names are
distinct that is the table lookup. -/
theorem or_eq_tabLookup {α : Type} (segs : List (Str × Option α)) (hn : (segs.map (·.1)).Nodup) (k : Str)
    (acc : Option α) :
    segs.foldl (fun acc s => acc.or (if k = s.1 then s.2 else none)) acc = acc.or (tabLookup segs k) := by
  induction segs generalizing acc with
  | nil => exact Option.or_none.symm
  | cons s r ih =>
    rw [List.map_cons, List.nodup_cons] at hn
    rw [List.foldl_cons, ih hn.2, Option.or_assoc, tabLookup]
    by_cases hk : k = s.1
    · rw [if_pos hk, if_pos hk, tabLookup_none r k (hk ▸ hn.1), Option.or_none]
    · rw [if_neg hk, if_neg hk, Option.none_or]

end Tabula.Export
