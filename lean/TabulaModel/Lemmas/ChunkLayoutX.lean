import TabulaModel.Model.ChunkLayoutX
import TabulaModel.Lemmas.ChunkLayoutMeta
/-!
Lemmas for `Props/C12LayoutMeta.lean`: the loops of `Model/ChunkLayoutX.lean` (with the bookkeeping of
element types, `HasList` and `Level`) project to the loops of `Model/ChunkLayout.lean`, and every
chunk carries the section it was made for.
-/
namespace Tabula.ChunkLayoutX
open Tabula.Chunk Tabula.ChunkLayout

/-- forgetting the bookkeeping -/
def proj (s : LSX) : LS := ⟨s.chunks.map (·.c), s.cur, s.idx⟩

theorem proj_ite (c : Prop) [Decidable c] (a b : LSX) : proj (if c then a else b) = if c then proj a else proj b := by
  split <;> rfl

theorem sentEmitX_proj (cfg : Cfg) (info : SecInfo) (k : Kind) (t : Str) (s : LSX) :
    proj (sentEmitX cfg info k t s) = sentEmit cfg info t (proj s) := by
  unfold sentEmitX sentEmit
  have hc : (proj s).cur = s.cur := rfl
  rw [hc, proj_ite]
  exact ite_congr rfl (fun _ => by simp [proj, createX]) fun _ => rfl

theorem sentAddX_proj (t : Str) (s : LSX) : proj (sentAddX t s) = sentAdd t (proj s) := rfl

theorem sentLoopX_proj (cfg : Cfg) (info : SecInfo) (k : Kind) (ts : List Str) (s : LSX) :
    proj (sentLoopX cfg info k ts s) = sentLoop cfg info ts (proj s) := by
  induction ts generalizing s with
  | nil =>
    simp only [sentLoopX, sentLoop]
    have hc : (proj s).cur = s.cur := rfl
    rw [hc, proj_ite]
    exact ite_congr rfl (fun _ => rfl) fun _ => by simp [proj, createX]
  | cons t ts ih =>
    simp only [sentLoopX, sentLoop, ih, sentAddX_proj, sentEmitX_proj]

theorem splitBySentencesX_proj (cfg : Cfg) (info : SecInfo) (k : Kind) (sents : List Str) (s : LSX) :
    proj (splitBySentencesX cfg info k sents s) = splitBySentences cfg info sents (proj s) := by
  have h := sentLoopX_proj cfg info k sents { s with cur := [] }
  unfold splitBySentencesX splitBySentences
  unfold proj at h ⊢
  simp only at h ⊢
  rw [← h]

theorem setLastTextX_map (xs : List LX) (t : Str) : (setLastTextX xs t).map (·.c) = setLastText (xs.map (·.c)) t := by
  induction xs with
  | nil => rfl
  | cons x xs ih =>
    cases xs with
    | nil => rfl
    | cons y ys => simp only [setLastTextX, List.map_cons, setLastText] at ih ⊢; rw [ih]

theorem flushChunkX_proj (cfg : Cfg) (info : SecInfo) (s : LSX) :
    proj (flushChunkX cfg info s) = flushChunk cfg info (proj s) := by
  unfold flushChunkX flushChunk
  have hc : (proj s).cur = s.cur := rfl
  have hg : (proj s).chunks.getLast? = s.chunks.getLast?.map (·.c) := List.getLast?_map
  rw [hc, hg]
  by_cases h : (trim s.cur).isEmpty = true
  · rw [if_pos h, if_pos h]
  · rw [if_neg h, if_neg h]
    cases hl : s.chunks.getLast? with
    | none => simp [proj, createX]
    | some prev =>
      simp only [Option.map_some]
      split
      · simp [proj, setLastTextX_map]
      · simp [proj, createX]

theorem flushIfPendingX_proj (cfg : Cfg) (info : SecInfo) (s : LSX) :
    proj (flushIfPendingX cfg info s) = flushIfPending cfg info (proj s) := by
  unfold flushIfPendingX flushIfPending
  have : (proj s).cur = s.cur := rfl
  rw [this]
  split
  · rfl
  · exact flushChunkX_proj cfg info s

theorem atomicOversizeX_proj (cfg : Cfg) (info : SecInfo) (es : List CE) (s : LSX) :
    proj (atomicOversizeX cfg info es s) = atomicOversize cfg info es (proj s) := by
  induction es generalizing s with
  | nil => rfl
  | cons e es ih =>
    simp only [atomicOversizeX, atomicOversize]
    split
    · rw [ih, splitBySentencesX_proj]
    · rw [ih]; rfl

theorem atomicBlockX_proj (cfg : Cfg) (info : SecInfo) (es : List CE) (s : LSX) :
    proj (atomicBlockX cfg info es s) = atomicBlock cfg info es (proj s) := by
  unfold atomicBlockX atomicBlock
  simp only
  rw [← flushIfPendingX_proj]
  split
  · exact atomicOversizeX_proj cfg info es _
  · simp [proj, createX]

theorem flushIfOverX_proj (cfg : Cfg) (info : SecInfo) (added : Int) (s : LSX) :
    proj (flushIfOverX cfg info added s) = flushIfOver cfg info added (proj s) := by
  unfold flushIfOverX flushIfOver
  have : (proj s).cur = s.cur := rfl
  rw [this]
  split
  · exact flushChunkX_proj cfg info s
  · rfl

theorem plainElemX_proj (cfg : Cfg) (info : SecInfo) (e : CE) (s : LSX) :
    proj (plainElemX cfg info e s) = plainElem cfg info e (proj s) := by
  unfold plainElemX plainElem
  have : (proj s).cur = s.cur := rfl
  simp only [this]
  rw [← flushIfOverX_proj]
  split
  · rw [splitBySentencesX_proj, flushIfPendingX_proj]
  · rfl

theorem paraLoopX_proj (cfg : Cfg) (info : SecInfo) (es : List CE) (s : LSX) :
    proj (paraLoopX cfg info es s) = paraLoop cfg info es (proj s) := by
  fun_induction paraLoopX cfg info es s with
  | case1 s => rfl
  | case2 e s hk =>
    rw [paraLoop, if_pos hk]; exact atomicBlockX_proj cfg info [e] s
  | case3 e s hk =>
    rw [paraLoop, if_neg hk]; exact plainElemX_proj cfg info e s
  | case4 e n rest s hk ih =>
    rw [ih, atomicBlockX_proj, paraLoop.eq_3, if_pos hk]
  | case5 e n rest s hk hi hkeep ih =>
    rw [ih, atomicBlockX_proj, paraLoop.eq_3, if_neg hk, if_pos hi, if_pos hkeep]
  | case6 e n rest s hk hi hkeep s1 ih =>
    rw [ih, paraLoop.eq_3, if_neg hk, if_pos hi, if_neg hkeep, ← flushIfOverX_proj]; rfl
  | case7 e n rest s hk hi ih =>
    rw [ih, plainElemX_proj, paraLoop.eq_3, if_neg hk, if_neg hi]

theorem splitSectionX_proj (cfg : Cfg) (info : SecInfo) (content : List CE) (idx : Nat) :
    (splitSectionByParagraphsX cfg info content idx).map (·.c) = splitSectionByParagraphs cfg info content idx := by
  unfold splitSectionByParagraphsX splitSectionByParagraphs
  have h := flushChunkX_proj cfg info (paraLoopX cfg info content ⟨[], [], idx, [], false⟩)
  rw [paraLoopX_proj] at h
  have : proj ⟨[], [], idx, [], false⟩ = ⟨[], [], idx⟩ := rfl
  rw [this] at h
  rw [← h]; rfl

theorem chunkSectionX_proj (cfg : Cfg) (info : SecInfo) (content : List CE) (idx : Nat) :
    (chunkSectionX cfg info content idx).map (·.c) = chunkSection cfg info content idx := by
  unfold chunkSectionX chunkSection
  simp only
  split
  · rfl
  · split
    · rfl
    · exact splitSectionX_proj cfg info content idx

theorem chunkFlatX_proj (cfg : Cfg) (l : List (SecInfo × List CE)) (idx : Nat) :
    (chunkFlatX cfg l idx).map (·.x.c) = chunkFlat cfg l idx := by
  induction l generalizing idx with
  | nil => rfl
  | cons p rest ih =>
    obtain ⟨info, content⟩ := p
    simp only [chunkFlatX, chunkFlat, List.map_append, List.map_map]
    have h := chunkSectionX_proj cfg info content idx
    have hl : (chunkSectionX cfg info content idx).length = (chunkSection cfg info content idx).length := by
      rw [← h, List.length_map]
    rw [hl, ih]
    congr 1

mutual
theorem flatTreeM_eq : ∀ s : Sec, flatTreeM s = flatTree s
  | .mk info content children => by simp only [flatTreeM, flatTree, flatForestM_eq children]
theorem flatForestM_eq : ∀ ss : List Sec, flatForestM ss = flatForest ss
  | [] => by simp [flatForestM, flatForest]
  | s :: ss => by simp only [flatForestM, flatForest, flatTreeM_eq s, flatForestM_eq ss]
end

theorem chunkFlatX_isEmpty (cfg : Cfg) (l : List (SecInfo × List CE)) (idx : Nat) :
    (chunkFlatX cfg l idx).isEmpty = (chunkFlat cfg l idx).isEmpty := by
  rw [← chunkFlatX_proj, List.isEmpty_map]

theorem chunkByParagraphsX_proj (cfg : Cfg) (title : Str) (d : LDoc) :
    (chunkByParagraphsX cfg title d).map (·.x.c) = chunkByParagraphs cfg title d := by
  unfold chunkByParagraphsX chunkByParagraphs
  cases (fallbackContent d).head? with
  | none => rfl
  | some a =>
    cases (fallbackContent d).getLast? with
    | none => rfl
    | some b =>
      simp only [List.map_map]
      exact splitSectionX_proj cfg _ _ 0

theorem setTotalLX_proj (xs : List LXS) : (setTotalLX xs).map (·.x.c) = setTotal (xs.map (·.x.c)) := by
  simp [setTotalLX, setTotal, List.map_map, Function.comp_def]

/-- **forgetting section and bookkeeping gives `Chunker.Chunk`** -/
theorem chunkX_proj (cfg : Cfg) (title : Str) (d : LDoc) : (chunkX cfg title d).map (·.x.c) = chunk cfg title d := by
  unfold chunkX chunk
  simp only
  rw [setTotalLX_proj, flatForestM_eq, chunkForest_flat]
  rw [← chunkFlatX_isEmpty]
  split
  · rw [chunkByParagraphsX_proj]
  · rw [chunkFlatX_proj]

/-- the chunks of one section's group: stamped with that section, and their `Path`, `PageStart`,
`PageEnd` are the section's -/
theorem chunkFlatX_info (cfg : Cfg) (l : List (SecInfo × List CE)) (idx : Nat) :
    ∀ y ∈ chunkFlatX cfg l idx, (∃ content, (y.info, content) ∈ l) ∧
      y.x.c.path = y.info.path ∧ y.x.c.pageStart = y.info.pageStart ∧ y.x.c.pageEnd = y.info.pageEnd := by
  induction l generalizing idx with
  | nil => intro y hy; cases hy
  | cons p rest ih =>
    obtain ⟨info, content⟩ := p
    intro y hy
    simp only [chunkFlatX] at hy
    rcases List.mem_append.mp hy with h | h
    · obtain ⟨x, hx, rfl⟩ := List.mem_map.mp h
      have hc : x.c ∈ chunkSection cfg info content idx := by
        rw [← chunkSectionX_proj]; exact List.mem_map.mpr ⟨x, hx, rfl⟩
      have := ((chunkSection_ok cfg info content idx).2 x.c hc).2
      exact ⟨⟨content, List.mem_cons_self ..⟩, this⟩
    · obtain ⟨⟨c0, hc0⟩, rest'⟩ := ih _ y h
      exact ⟨⟨c0, List.mem_cons_of_mem _ hc0⟩, rest'⟩

theorem chunkByParagraphsX_info (cfg : Cfg) (title : Str) (d : LDoc) :
    ∀ y ∈ chunkByParagraphsX cfg title d, y.info.title = title ∧ y.info.level = 0 ∧ y.info.path = [] ∧
      y.x.c.path = y.info.path ∧ y.x.c.pageStart = y.info.pageStart ∧ y.x.c.pageEnd = y.info.pageEnd := by
  intro y hy
  unfold chunkByParagraphsX at hy
  cases ha : (fallbackContent d).head? with
  | none => rw [ha] at hy; cases hy
  | some a =>
    cases hb : (fallbackContent d).getLast? with
    | none => rw [ha, hb] at hy; cases hy
    | some b =>
      rw [ha, hb] at hy
      simp only at hy
      obtain ⟨x, hx, rfl⟩ := List.mem_map.mp hy
      have hc : x.c ∈ splitSectionByParagraphs cfg ⟨title, 0, [], a.page, b.page⟩ (fallbackContent d) 0 := by
        rw [← splitSectionX_proj]; exact List.mem_map.mpr ⟨x, hx, rfl⟩
      have := ((splitSection_ok cfg ⟨title, 0, [], a.page, b.page⟩ (fallbackContent d) 0).2 x.c hc).2
      exact ⟨rfl, rfl, rfl, this⟩

theorem mem_setTotalLX (xs : List LXS) (y : LXS) (hy : y ∈ setTotalLX xs) :
    ∃ y0 ∈ xs, y.info = y0.info ∧ y.x.m = y0.x.m ∧ y.x.c.path = y0.x.c.path ∧ y.x.c.pageStart = y0.x.c.pageStart ∧
      y.x.c.pageEnd = y0.x.c.pageEnd ∧ y.x.c.text = y0.x.c.text ∧ y.x.c.idx = y0.x.c.idx := by
  simp only [setTotalLX, List.mem_map] at hy
  obtain ⟨y0, h0, rfl⟩ := hy
  exact ⟨y0, h0, rfl, rfl, rfl, rfl, rfl, rfl, rfl⟩

end Tabula.ChunkLayoutX
