import TabulaModel.Lemmas.Workbook
/-!
`findContentBounds` computes the tight bounding box of the content cells (C17).
-/
namespace Tabula.Wb
open Tabula.A1 Tabula.Sheet

/-- content positions of one row, left to right -/
def contentRow (ri : Nat) (cs : List Cell) (ci : Nat) : List (Nat × Nat) :=
  ((cs.zipIdx ci).filter fun x => isContent x.1).map fun x => (ri, x.2)

/-- content positions of a grid, row-major -/
def contentPos (g : Grid) (ri : Nat) : List (Nat × Nat) :=
  (g.zipIdx ri).flatMap fun x => contentRow x.2 x.1 0

theorem boundsRow_eq (ri : Nat) (cs : List Cell) (ci : Nat) (b : Bounds) :
    boundsRow ri cs ci b = (contentRow ri cs ci).foldl stepPos b := by
  induction cs generalizing ci b with
  | nil => rfl
  | cons cell cs ih =>
    rw [boundsRow, ih]
    unfold contentRow
    rw [List.zipIdx_cons, List.filter_cons]
    split <;> rfl

theorem boundsRows_eq (g : Grid) (ri : Nat) (b : Bounds) :
    boundsRows g ri b = (contentPos g ri).foldl stepPos b := by
  induction g generalizing ri b with
  | nil => rfl
  | cons row rs ih =>
    rw [boundsRows, ih, boundsRow_eq]
    unfold contentPos
    rw [List.zipIdx_cons, List.flatMap_cons, List.foldl_append]

theorem mem_contentPos_zero (g : Grid) (r c : Nat) :
    (r, c) ∈ contentPos g 0 ↔ ∃ cell, g.get r c = some cell ∧ isContent cell = true := by
  simp only [contentPos, contentRow, List.mem_flatMap, List.mem_map, List.mem_filter,
    List.mem_zipIdx_iff_getElem?, Prod.exists, Prod.mk.injEq, Grid.get]
  constructor
  · rintro ⟨row, i, hrow, cell, j, ⟨hcell, hc⟩, rfl, rfl⟩
    exact ⟨cell, by rw [hrow]; exact hcell, hc⟩
  · rintro ⟨cell, hget, hc⟩
    cases hrow : g[r]? with
    | none => rw [hrow] at hget; cases hget
    | some row => rw [hrow] at hget; exact ⟨row, r, hrow, cell, c, ⟨hget, hc⟩, rfl, rfl⟩

/-- `m` is the extremum, for an order `lt` (`<` for a minimum, `>` for a maximum), of the start value
`m0` and the keys of `ps`: neither the start value nor a key beats it, and it is one of them -/
def IsExtremum {α : Type} (lt : Int → Int → Prop) (key : α → Int) (ps : List α) (m0 m : Int) : Prop :=
  ¬ lt m0 m ∧ (∀ p ∈ ps, ¬ lt (key p) m) ∧ (m = m0 ∨ ∃ p ∈ ps, key p = m)

theorem IsExtremum.not_lt {α : Type} {lt : Int → Int → Prop} {key : α → Int} {ps : List α} {m0 m : Int}
    (h : IsExtremum lt key ps m0 m) {p : α} (hp : p ∈ ps) : ¬ lt (key p) m := h.2.1 p hp

theorem IsExtremum.attained {α : Type} {lt : Int → Int → Prop} {key : α → Int} {ps : List α} {m0 m : Int}
    (h : IsExtremum lt key ps m0 m) {p : α} (hp : p ∈ ps) (hlt : lt (key p) m0) : ∃ q ∈ ps, key q = m :=
  h.2.2.resolve_left fun e => h.2.1 p hp (e ▸ hlt)

theorem foldl_extremum_spec {α : Type} (lt : Int → Int → Prop) [DecidableRel lt]
    (hasymm : ∀ a b, lt a b → ¬ lt b a) (htrans : ∀ a b c, ¬ lt a b → ¬ lt b c → ¬ lt a c)
    (key : α → Int) (ps : List α) (m0 : Int) :
    IsExtremum lt key ps m0 (ps.foldl (fun m p => if lt (key p) m then key p else m) m0) := by
  unfold IsExtremum
  induction ps generalizing m0 with
  | nil => exact ⟨fun h => hasymm _ _ h h, nofun, .inl rfl⟩
  | cons q ps ih =>
    simp only [List.foldl_cons, List.mem_cons, forall_eq_or_imp, exists_eq_or_imp]
    by_cases hq : lt (key q) m0
    · rw [if_pos hq]
      obtain ⟨h1, h2, h3⟩ := ih (key q)
      exact ⟨htrans _ _ _ (hasymm _ _ hq) h1, ⟨h1, h2⟩, .inr (h3.imp Eq.symm id)⟩
    · rw [if_neg hq]
      obtain ⟨h1, h2, h3⟩ := ih m0
      exact ⟨h1, ⟨htrans _ _ _ hq h1, h2⟩, h3.imp id .inr⟩

/-- the four results of the double loop are four running extrema over the content positions -/
theorem fold_stepPos (ps : List (Nat × Nat)) (b : Bounds) :
    ps.foldl stepPos b =
      ⟨ps.foldl (fun m p => if (p.1 : Int) < m then (p.1 : Int) else m) b.minRow,
       ps.foldl (fun m p => if (p.1 : Int) > m then (p.1 : Int) else m) b.maxRow,
       ps.foldl (fun m p => if (p.2 : Int) < m then (p.2 : Int) else m) b.minCol,
       ps.foldl (fun m p => if (p.2 : Int) > m then (p.2 : Int) else m) b.maxCol⟩ := by
  induction ps generalizing b with
  | nil => rfl
  | cons p ps ih => rw [List.foldl_cons, ih]; rfl

theorem fold_stepPos_spec (ps : List (Nat × Nat)) (b : Bounds) :
    IsExtremum (· < ·) (fun p : Nat × Nat => (p.1 : Int)) ps b.minRow (ps.foldl stepPos b).minRow ∧
    IsExtremum (· > ·) (fun p : Nat × Nat => (p.1 : Int)) ps b.maxRow (ps.foldl stepPos b).maxRow ∧
    IsExtremum (· < ·) (fun p : Nat × Nat => (p.2 : Int)) ps b.minCol (ps.foldl stepPos b).minCol ∧
    IsExtremum (· > ·) (fun p : Nat × Nat => (p.2 : Int)) ps b.maxCol (ps.foldl stepPos b).maxCol := by
  have hmin := fun key m0 => foldl_extremum_spec (α := Nat × Nat) (· < ·) (fun a b => by omega)
    (fun a b c => by omega) key ps m0
  have hmax := fun key m0 => foldl_extremum_spec (α := Nat × Nat) (· > ·) (fun a b => by omega)
    (fun a b c => by omega) key ps m0
  rw [fold_stepPos]
  exact ⟨hmin _ _, hmax _ _, hmin _ _, hmax _ _⟩

theorem findContentBounds_eq (s : Sheet) :
    findContentBounds s = (contentPos s.rows 0).foldl stepPos (initBounds s) := by
  unfold findContentBounds; rw [boundsRows_eq]

/-- position `(r,c)` of the grid holds a content cell -/
def HasContent (g : Grid) (r c : Nat) : Prop := ∃ cell, g.get r c = some cell ∧ isContent cell = true

/-- for a cell that has a value only if it has a type (every cell the loader makes), to be a
content cell is to display something -/
theorem isContent_iff_cellText (c : Cell) (h : c.type = .empty → c.value = []) :
    isContent c = true ↔ cellText c ≠ [] := by
  have hv : (!isEmptyCell c) = true ↔ c.value ≠ [] := by
    unfold isEmptyCell
    constructor
    · intro he hval; simp [hval] at he
    · intro hval
      have : c.type ≠ .empty := fun ht => hval (h ht)
      simp [this, hval]
  unfold isContent cellText
  cases c.merged <;> cases c.root <;> simp [hv]

theorem hasContent_lt {n : Nat} {g : Grid} (hrect : Rect n g) {r c : Nat} (h : HasContent g r c) :
    r < g.length ∧ c < n := by
  obtain ⟨cell, hc, _⟩ := h
  have := get_isSome_of_rect hrect r c
  rw [hc] at this
  simp only [Option.isSome_some] at this
  have h2 : (decide (r < g.length) && decide (c < n)) = true := this.symm
  simpa using h2

theorem bounds_cover (s : Sheet) (r c : Nat) (h : HasContent s.rows r c) :
    (findContentBounds s).minRow ≤ r ∧ (r : Int) ≤ (findContentBounds s).maxRow ∧
      (findContentBounds s).minCol ≤ c ∧ (c : Int) ≤ (findContentBounds s).maxCol := by
  have hmem := (mem_contentPos_zero s.rows r c).mpr h
  obtain ⟨m1, m2, m3, m4⟩ := fold_stepPos_spec (contentPos s.rows 0) (initBounds s)
  rw [findContentBounds_eq]
  exact ⟨Int.not_lt.mp (m1.not_lt hmem), Int.not_lt.mp (m2.not_lt hmem), Int.not_lt.mp (m3.not_lt hmem),
    Int.not_lt.mp (m4.not_lt hmem)⟩

theorem bounds_none (s : Sheet) (h : ¬ ∃ r c, HasContent s.rows r c) :
    findContentBounds s = initBounds s ∧ (findContentBounds s).isEmpty = true := by
  have hnil : contentPos s.rows 0 = [] := by
    cases hps : contentPos s.rows 0 with
    | nil => rfl
    | cons p ps =>
      exfalso; apply h
      refine ⟨p.1, p.2, (mem_contentPos_zero s.rows p.1 p.2).mp ?_⟩
      rw [hps]; simp
  rw [findContentBounds_eq, hnil]
  refine ⟨rfl, ?_⟩
  simp only [List.foldl_nil, Bounds.isEmpty, initBounds]
  have : ((s.rows.length : Nat) : Int) > -1 := by omega
  simp [this]

/-- the box is empty exactly when no cell has content -/
theorem bounds_isEmpty_iff (s : Sheet) :
    (findContentBounds s).isEmpty = true ↔ ¬ ∃ r c, HasContent s.rows r c := by
  refine ⟨?_, fun h => (bounds_none s h).2⟩
  rintro he ⟨r, c, h⟩
  have := bounds_cover s r c h
  simp only [Bounds.isEmpty, Bool.or_eq_true, decide_eq_true_eq] at he
  omega

theorem exists_content (s : Sheet) (hne : (findContentBounds s).isEmpty = false) :
    ∃ r c, HasContent s.rows r c :=
  Classical.byContradiction fun hno => by rw [(bounds_isEmpty_iff s).mpr hno] at hne; cases hne

theorem bounds_attained (s : Sheet) (hrect : Rect (s.maxCol + 1) s.rows) (h : ∃ r c, HasContent s.rows r c) :
    (∃ c, HasContent s.rows (findContentBounds s).minRow.toNat c) ∧
    (∃ c, HasContent s.rows (findContentBounds s).maxRow.toNat c) ∧
    (∃ r, HasContent s.rows r (findContentBounds s).minCol.toNat) ∧
    (∃ r, HasContent s.rows r (findContentBounds s).maxCol.toNat) ∧
    0 ≤ (findContentBounds s).minRow ∧ 0 ≤ (findContentBounds s).minCol ∧
    0 ≤ (findContentBounds s).maxRow ∧ 0 ≤ (findContentBounds s).maxCol := by
  obtain ⟨r0, c0, h0⟩ := h
  obtain ⟨hr0, hc0⟩ := hasContent_lt hrect h0
  have hmem := (mem_contentPos_zero s.rows r0 c0).mpr h0
  obtain ⟨m1, m2, m3, m4⟩ := fold_stepPos_spec (contentPos s.rows 0) (initBounds s)
  rw [← findContentBounds_eq] at m1 m2 m3 m4
  -- the content cell `(r0,c0)` beats each of the four initial values, so every side is attained
  obtain ⟨p1, hp1, e1⟩ := m1.attained hmem (show (r0 : Int) < (s.rows.length : Int) by omega)
  obtain ⟨p2, hp2, e2⟩ := m2.attained hmem (show (r0 : Int) > -1 by omega)
  obtain ⟨p3, hp3, e3⟩ := m3.attained hmem (show (c0 : Int) < (s.maxCol : Int) + 1 by omega)
  obtain ⟨p4, hp4, e4⟩ := m4.attained hmem (show (c0 : Int) > -1 by omega)
  have conv : ∀ p : Nat × Nat, p ∈ contentPos s.rows 0 → HasContent s.rows p.1 p.2 :=
    fun p hp => (mem_contentPos_zero s.rows p.1 p.2).mp hp
  refine ⟨⟨p1.2, ?_⟩, ⟨p2.2, ?_⟩, ⟨p3.1, ?_⟩, ⟨p4.1, ?_⟩, e1 ▸ Int.natCast_nonneg _, e3 ▸ Int.natCast_nonneg _,
    e2 ▸ Int.natCast_nonneg _, e4 ▸ Int.natCast_nonneg _⟩
  · rw [← e1, Int.toNat_natCast]; exact conv p1 hp1
  · rw [← e2, Int.toNat_natCast]; exact conv p2 hp2
  · rw [← e3, Int.toNat_natCast]; exact conv p3 hp3
  · rw [← e4, Int.toNat_natCast]; exact conv p4 hp4

theorem bounds_in_grid (s : Sheet) (hrect : Rect (s.maxCol + 1) s.rows)
    (hne : (findContentBounds s).isEmpty = false) :
    0 ≤ (findContentBounds s).minRow ∧ (findContentBounds s).minRow ≤ (findContentBounds s).maxRow ∧
    (findContentBounds s).maxRow < s.rows.length ∧
    0 ≤ (findContentBounds s).minCol ∧ (findContentBounds s).minCol ≤ (findContentBounds s).maxCol ∧
    (findContentBounds s).maxCol < (s.maxCol : Int) + 1 := by
  obtain ⟨_, ⟨c, hc⟩, _, ⟨r, hr⟩, p1, p2, p3, p4⟩ := bounds_attained s hrect (exists_content s hne)
  have q1 := (hasContent_lt hrect hc).1
  have q2 := (hasContent_lt hrect hr).2
  simp only [Bounds.isEmpty, Bool.or_eq_false_iff, decide_eq_false_iff_not] at hne
  omega

end Tabula.Wb
