import TabulaModel.Lemmas.A1
/-!
Case folding and the reference codec of xlsx/cell.go (C17): `upper` (the `strings.ToUpper` of `ColumnToIndex`,
on ASCII) commutes with every step of `ParseCellRef`: the cut into letters and rest, the digits, `strconv.Atoi`.
-/
namespace Tabula.A1

theorem upper_of_not_lower (c : Nat) (h : ¬ (97 ≤ c ∧ c ≤ 122)) : upper c = c := by
  unfold upper; rw [if_neg (by simpa using h)]

theorem upper_of_lower (c : Nat) (h : 97 ≤ c ∧ c ≤ 122) : upper c = c - 32 := by
  unfold upper; rw [if_pos (by simpa using h)]

theorem upper_idem (c : Nat) : upper (upper c) = upper c := by
  unfold upper; split <;> rename_i h
  · have : ¬ (97 ≤ c - 32) := by simp at h; omega
    simp [this]
  · simp

theorem isLetter_upper (c : Nat) : isLetter (upper c) = isLetter c := by
  unfold isLetter
  by_cases h : 97 ≤ c ∧ c ≤ 122
  · rw [upper_of_lower c h]
    have : 65 ≤ c - 32 ∧ c - 32 ≤ 90 := by omega
    simp [h, this]
  · rw [upper_of_not_lower c h]

theorem isUpperCol_map_upper (ls : Str) (hls : ∀ x ∈ ls, isLetter x = true) : IsUpperCol (ls.map upper) := by
  intro c hc
  obtain ⟨x, hx, rfl⟩ := List.mem_map.mp hc
  have hl := hls x hx
  unfold isLetter at hl
  by_cases h : 97 ≤ x ∧ x ≤ 122
  · rw [upper_of_lower x h]; omega
  · rw [upper_of_not_lower x h]
    simp at hl; omega

theorem map_upper_of_digits (l : Str) (hl : ∀ c ∈ l, 48 ≤ c ∧ c ≤ 57) : l.map upper = l := by
  rw [List.map_congr_left (g := id) fun a ha => upper_of_not_lower a (by have := hl a ha; omega), List.map_id]

theorem takeWhile_map_upper (s : Str) :
    (s.map upper).takeWhile isLetter = (s.takeWhile isLetter).map upper := by
  rw [List.takeWhile_map, show isLetter ∘ upper = isLetter from funext isLetter_upper]

theorem dropWhile_map_upper (s : Str) :
    (s.map upper).dropWhile isLetter = (s.dropWhile isLetter).map upper := by
  rw [List.dropWhile_map, show isLetter ∘ upper = isLetter from funext isLetter_upper]

theorem colAcc_map_upper (s : Str) (a : Nat) : colAcc (s.map upper) a = colAcc s a := by
  induction s generalizing a with
  | nil => rfl
  | cons c cs ih => simp only [List.map_cons, colAcc, upper_idem, ih]

theorem digitsAcc_map_upper (s : Str) (a : Nat) : digitsAcc (s.map upper) a = digitsAcc s a := by
  induction s generalizing a with
  | nil => rfl
  | cons c cs ih =>
    simp only [List.map_cons, digitsAcc]
    by_cases h : 97 ≤ c ∧ c ≤ 122
    · rw [upper_of_lower c h]
      rw [if_neg (by simp; omega), if_neg (by simp; omega)]
    · rw [upper_of_not_lower c h, ih]

theorem atoi_cons_of_ne {c : Nat} (cs : Str) (h43 : c ≠ 43) (h45 : c ≠ 45) :
    atoi (c :: cs) =
      match digitsAcc (c :: cs) 0 with
      | none => none
      | some v => if v ≤ maxInt64 then some (v : Int) else none := by
  unfold atoi
  split
  rename_i heq
  split at heq
  · rename_i h'; simp at h'; exact absurd h'.1 h43
  · rename_i h'; simp at h'; exact absurd h'.1 h45
  · simp at heq; obtain ⟨hn, hds⟩ := heq; subst hn; subst hds; rfl

/-- `strconv.Atoi` does not see the case folding: a sign and digits have no case, and a byte that
is no digit stays one -/
theorem atoi_map_upper (s : Str) : atoi (s.map upper) = atoi s := by
  cases s with
  | nil => rfl
  | cons c cs =>
    by_cases h43 : c = 43
    · subst h43
      have : upper 43 = 43 := by decide
      simp only [List.map_cons, this, atoi, List.isEmpty_map, digitsAcc_map_upper]
    · by_cases h45 : c = 45
      · subst h45
        have : upper 45 = 45 := by decide
        simp only [List.map_cons, this, atoi, List.isEmpty_map, digitsAcc_map_upper]
      · -- folding maps no other byte to a sign
        have hu : upper c ≠ 43 ∧ upper c ≠ 45 := by
          by_cases h : 97 ≤ c ∧ c ≤ 122
          · rw [upper_of_lower c h]; omega
          · rw [upper_of_not_lower c h]; exact ⟨h43, h45⟩
        rw [List.map_cons, atoi_cons_of_ne _ hu.1 hu.2, atoi_cons_of_ne _ h43 h45, ← List.map_cons,
          digitsAcc_map_upper]

end Tabula.A1
