import TabulaModel.Model.Matrix
/-!
Algebra of `model.Matrix` over any commutative ring: the product is associative with
identity, `Transform` is a right action of the product (row-vector convention), and the
determinant is multiplicative; the linear part of a matrix, products of translations along the
text x axis, similarities.  By `grind`'s commutative-ring normaliser (core Lean).
-/
namespace Tabula.Matrix
variable {α : Type} [Lean.Grind.CommRing α]

theorem mul_assoc (x y z : Matrix α) : (x.mul y).mul z = x.mul (y.mul z) := by
  simp only [mul, mk.injEq]
  refine ⟨?_, ?_, ?_, ?_, ?_, ?_⟩ <;> grind

theorem identity_mul (x : Matrix α) : identity.mul x = x := by
  cases x
  simp only [mul, identity, mk.injEq]
  refine ⟨?_, ?_, ?_, ?_, ?_, ?_⟩ <;> grind

theorem mul_identity (x : Matrix α) : x.mul identity = x := by
  cases x
  simp only [mul, identity, mk.injEq]
  refine ⟨?_, ?_, ?_, ?_, ?_, ?_⟩ <;> grind

/-- `Transform` by a product = transform by the left factor, then by the right one -/
theorem transformPoint_mul (x y : Matrix α) (p : α × α) :
    (x.mul y).transformPoint p = y.transformPoint (x.transformPoint p) := by
  simp only [mul, transformPoint, Prod.mk.injEq]
  constructor <;> grind

theorem transformPoint_identity (p : α × α) : (identity : Matrix α).transformPoint p = p := by
  obtain ⟨x, y⟩ := p
  simp only [identity, transformPoint, Prod.mk.injEq]
  constructor <;> grind

/-- a translation moves a point by `(tx,ty)` -/
theorem transformPoint_translate (tx ty : α) (p : α × α) :
    (translate tx ty).transformPoint p = (p.1 + tx, p.2 + ty) := by
  simp only [translate, transformPoint, Prod.mk.injEq]
  constructor <;> grind

/-- the image of the origin is the translation part -/
theorem transformPoint_zero (m : Matrix α) : m.transformPoint (0, 0) = (m.e, m.f) := by
  simp only [transformPoint, Prod.mk.injEq]
  constructor <;> grind

theorem det_mul (x y : Matrix α) : (x.mul y).det = x.det * y.det := by
  simp only [mul, det]; grind

/-- the matrix with its translation part dropped -/
def linear (m : Matrix α) : Matrix α := { m with e := 0, f := 0 }

theorem linear_translate_mul (tx ty : α) (m : Matrix α) :
    ((translate tx ty).mul m).linear = m.linear := by
  simp only [mul, translate, linear, mk.injEq]
  refine ⟨?_, ?_, ?_, ?_, trivial, trivial⟩ <;> grind

theorem translate_mul_e (tx ty : α) (m : Matrix α) :
    ((translate tx ty).mul m).transformPoint (0, 0) = m.transformPoint (tx, ty) := by
  simp only [mul, translate, transformPoint, Prod.mk.injEq]
  constructor <;> grind

/-- the origin through a product is the translation part of the left factor through the
right factor -/
theorem origin_eq (tm ctm : Matrix α) :
    (tm.mul ctm).transformPoint (0, 0) = ctm.transformPoint (tm.e, tm.f) := by
  rw [transformPoint_mul, transformPoint_zero]

/-- two displacements along the text x axis add up -/
theorem translate_translate_mul (a b : α) (m : Matrix α) :
    (translate a 0).mul ((translate b 0).mul m) = (translate (b + a) 0).mul m := by
  simp only [mul, translate, mk.injEq]
  refine ⟨?_, ?_, ?_, ?_, ?_, ?_⟩ <;> grind

/-- `T(0,0)` is the identity -/
theorem translate_zero_mul (m : Matrix α) : (translate (0 : α) 0).mul m = m := identity_mul m

/-- the translation part of `T(x,0) × M` is the image of `(x,0)` under `M` -/
theorem translate_mul_origin (x : α) (m : Matrix α) :
    (((translate x 0).mul m).e, ((translate x 0).mul m).f) = m.transformPoint (x, 0) :=
  (transformPoint_zero _).symm.trans (translate_mul_e x 0 m)

/-- a similarity: uniform scale ∘ rotation ∘ optional reflection (∘ translation): the images
of the two unit vectors have equal length and are orthogonal -/
def IsSimilarity (m : Matrix α) : Prop :=
  m.hScale2 = m.vScale2 ∧ m.a * m.c + m.b * m.d = 0

instance [DecidableEq α] (m : Matrix α) : Decidable (IsSimilarity m) := by
  unfold IsSimilarity; infer_instance

/-- for a similarity the squared scale factor squares to the squared determinant -/
theorem similarity_scale_det (m : Matrix α) (h : IsSimilarity m) :
    m.vScale2 * m.vScale2 = m.det * m.det := by
  obtain ⟨h1, h2⟩ := h
  simp only [hScale2, vScale2, det] at *
  grind

end Tabula.Matrix
