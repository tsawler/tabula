import TabulaModel.Model.LayoutOrder
import TabulaModel.Lemmas.LayoutKeeps
import TabulaModel.Lemmas.LayoutColumns
/-!
Lemmas about `Model/LayoutOrder.lean`: sections, their order, the ByColumn and JoinParagraphs
texts.
-/
namespace Tabula.Layout
open List

theorem reorderLinesByY_perm (ls : List (List Frag)) : (reorderLinesByY ls).Perm ls :=
  stableSort_perm _ _

theorem orderSections_perm (rtl : Bool) (ss : List Sec) : (orderSections rtl ss).Perm ss :=
  stableSort_perm _ _

theorem mkSection_frags (tolOf : List Frag → Rat) (minW : Rat) (preserve : List Frag → Bool) (sp : Bool)
    (frs : List Frag) : (mkSection tolOf minW preserve sp frs).frags = frs := rfl

theorem mkSection_keeps (tolOf : List Frag → Rat) (minW : Rat) (preserve : List Frag → Bool) (sp : Bool)
    (frs : List Frag) : Keeps (mkSection tolOf minW preserve sp frs).lines.flatten frs :=
  (detectLines_keeps _ _ _ _).of_perm_left (reorderLinesByY_perm _).flatten

theorem flatMap_frags_map_mkSection (tolOf : List Frag → Rat) (minW : Rat) (preserve : List Frag → Bool)
    (sp : Bool) (L : List (List Frag)) :
    (L.map (mkSection tolOf minW preserve sp)).flatMap (·.frags) = L.flatten :=
  (List.flatMap_map ..).trans List.flatMap_id'

theorem buildSections_frags (tolOf : List Frag → Rat) (minW : Rat) (preserve : List Frag → Bool)
    (cl : ColumnLayout) :
    (buildSections tolOf minW preserve cl).flatMap (·.frags) = cl.spanning ++ cl.columns.flatten := by
  unfold buildSections
  rw [List.flatMap_append, flatMap_frags_map_mkSection, List.flatten_filter_not_isEmpty]
  congr 1
  split
  · rename_i h; rw [List.isEmpty_iff.mp h]; rfl
  · simp [mkSection_frags]

theorem mem_readingOrderOf_sections {tolOf : List Frag → Rat} {minW : Rat} {preserve : List Frag → Bool}
    {rtl : Bool} {cl : ColumnLayout} {s : Sec} (hs : s ∈ (readingOrderOf tolOf minW preserve rtl cl).sections) :
    ∃ sp frs, s = mkSection tolOf minW preserve sp frs := by
  unfold readingOrderOf at hs
  have hm := (orderSections_perm rtl _).mem_iff.mp hs
  unfold buildSections at hm
  rcases List.mem_append.mp hm with h | h
  · split at h
    · simp at h
    · exact ⟨_, _, List.mem_singleton.mp h⟩
  · rcases List.mem_map.mp h with ⟨c, _, rfl⟩
    exact ⟨_, _, rfl⟩

theorem readingOrderOf_fragments (tolOf : List Frag → Rat) (minW : Rat) (preserve : List Frag → Bool)
    (rtl : Bool) (cl : ColumnLayout) :
    (readingOrderOf tolOf minW preserve rtl cl).fragments.Perm cl.all := by
  unfold readingOrderOf ColumnLayout.all
  simp only
  have h := (orderSections_perm rtl (buildSections tolOf minW preserve cl)).flatMap_right (·.frags)
  rw [buildSections_frags] at h
  exact h.trans List.perm_append_comm

theorem readingOrderOf_lines_eq (tolOf : List Frag → Rat) (minW : Rat) (preserve : List Frag → Bool)
    (rtl : Bool) (cl : ColumnLayout) :
    (readingOrderOf tolOf minW preserve rtl cl).lines =
      (readingOrderOf tolOf minW preserve rtl cl).sections.flatMap (·.lines) := rfl

theorem readingOrderOf_fragments_eq (tolOf : List Frag → Rat) (minW : Rat) (preserve : List Frag → Bool)
    (rtl : Bool) (cl : ColumnLayout) :
    (readingOrderOf tolOf minW preserve rtl cl).fragments =
      (readingOrderOf tolOf minW preserve rtl cl).sections.flatMap (·.frags) := rfl

theorem readingOrderOf_lines_keeps (tolOf : List Frag → Rat) (minW : Rat) (preserve : List Frag → Bool)
    (rtl : Bool) (cl : ColumnLayout) :
    Keeps (readingOrderOf tolOf minW preserve rtl cl).lines.flatten cl.all := by
  rw [readingOrderOf_lines_eq, flatten_flatMap]
  refine (Keeps.flatMap _ Sec.frags _ fun s hs => ?_).perm (readingOrderOf_fragments tolOf minW preserve rtl cl)
  obtain ⟨sp, frs, rfl⟩ := mem_readingOrderOf_sections hs
  exact mkSection_keeps _ _ _ _ _

section
variable {gaps : List Gap} {minCW minW : Rat} {isSpan keep : List Frag → List Frag → Bool}
  {tolOf : List Frag → Rat} {preserve : List Frag → Bool} {rtl : Bool} {fs : List Frag}

/-- the guard `len(fragments) == 0` of `Detect` changes nothing: without fragments the column layout
is empty and so is the reading order built from it -/
theorem readingOrder_eq :
    readingOrder gaps minCW minW isSpan keep tolOf preserve rtl fs =
      readingOrderOf tolOf minW preserve rtl (detectColumns gaps minCW isSpan keep fs) := by
  unfold readingOrder
  split
  · next h =>
    rw [List.isEmpty_iff.mp h]
    simp [readingOrderOf, detectColumns, buildSections, orderSections, stableSort]
  · rfl

theorem readingOrder_lines_eq :
    (readingOrder gaps minCW minW isSpan keep tolOf preserve rtl fs).lines =
      (readingOrder gaps minCW minW isSpan keep tolOf preserve rtl fs).sections.flatMap (·.lines) := by
  rw [readingOrder_eq]; rfl

theorem readingOrder_fragments_eq :
    (readingOrder gaps minCW minW isSpan keep tolOf preserve rtl fs).fragments =
      (readingOrder gaps minCW minW isSpan keep tolOf preserve rtl fs).sections.flatMap (·.frags) := by
  rw [readingOrder_eq]; rfl

theorem mem_readingOrder_sections {s : Sec}
    (hs : s ∈ (readingOrder gaps minCW minW isSpan keep tolOf preserve rtl fs).sections) :
    ∃ sp frs, s = mkSection tolOf minW preserve sp frs :=
  mem_readingOrderOf_sections (readingOrder_eq ▸ hs)

theorem readingOrder_fragments_perm :
    (readingOrder gaps minCW minW isSpan keep tolOf preserve rtl fs).fragments.Perm fs := by
  rw [readingOrder_eq]
  exact (readingOrderOf_fragments _ _ _ _ _).trans (detectColumns_perm _ _ _ _ _)

theorem readingOrder_lines_keeps :
    Keeps (readingOrder gaps minCW minW isSpan keep tolOf preserve rtl fs).lines.flatten fs := by
  rw [readingOrder_eq]
  exact (readingOrderOf_lines_keeps _ _ _ _ _).perm (detectColumns_perm _ _ _ _ _)

end

theorem readingOrder_lines_ids_le (gaps : List Gap) (minCW minW : Rat)
    (isSpan keep : List Frag → List Frag → Bool) (tolOf : List Frag → Rat) (preserve : List Frag → Bool)
    (rtl : Bool) (fs : List Frag) (i : Nat) :
    ((readingOrder gaps minCW minW isSpan keep tolOf preserve rtl fs).lines.flatten.map (·.id)).count i ≤
      (fs.map (·.id)).count i :=
  readingOrder_lines_keeps.ids_le i

theorem readingOrder_empty (gaps : List Gap) (minCW minW : Rat) (isSpan keep : List Frag → List Frag → Bool)
    (tolOf : List Frag → Rat) (preserve : List Frag → Bool) (rtl : Bool) (fs : List Frag)
    (h : fs.isEmpty = true) :
    readingOrder gaps minCW minW isSpan keep tolOf preserve rtl fs = ⟨[], [], [], 0⟩ := by
  unfold readingOrder; rw [if_pos h]

theorem readingOrder_nonempty (gaps : List Gap) (minCW minW : Rat) (isSpan keep : List Frag → List Frag → Bool)
    (tolOf : List Frag → Rat) (preserve : List Frag → Bool) (rtl : Bool) (fs : List Frag)
    (h : ¬ fs.isEmpty = true) :
    readingOrder gaps minCW minW isSpan keep tolOf preserve rtl fs =
      readingOrderOf tolOf minW preserve rtl (detectColumns gaps minCW isSpan keep fs) := by
  unfold readingOrder; rw [if_neg h]

theorem nonspace_sepLines (p c : List Frag) : nonspace (sepLines p c) = [] := by
  unfold sepLines; split <;> rfl

theorem nonspace_sectionTextAux (p : List Frag) (ls : List (List Frag)) :
    nonspace (sectionTextAux p ls) = nonspace (textsOf ls.flatten) := by
  induction ls generalizing p with
  | nil => rfl
  | cons l ls ih =>
    simp only [sectionTextAux, nonspace_append, nonspace_sepLines, nonspace_trimSpace, nonspace_lineText,
      List.nil_append, ih, List.flatten_cons, textsOf_append]

theorem nonspace_sectionText (ls : List (List Frag)) :
    nonspace (sectionText ls) = nonspace (textsOf ls.flatten) := by
  cases ls with
  | nil => rfl
  | cons l ls =>
    simp only [sectionText, nonspace_append, nonspace_trimSpace, nonspace_lineText, nonspace_sectionTextAux,
      List.flatten_cons, textsOf_append]

theorem nonspace_sectionsTextAux (si : Nat) (acc : Str) (ss : List Sec) :
    nonspace (sectionsTextAux si acc ss) = nonspace acc ++ nonspace (textsOf (ss.flatMap (·.lines)).flatten) := by
  induction ss generalizing si acc with
  | nil => simp [sectionsTextAux, textsOf, nonspace_nil]
  | cons s ss ih =>
    simp only [sectionsTextAux, ih, nonspace_append, nonspace_sectionText, List.flatMap_cons,
      List.flatten_append, textsOf_append, List.append_assoc, nonspace_ite (a := [10, 10]) (b := []) rfl rfl,
      List.nil_append]

theorem nonspace_paragraphText (p : List (List Frag)) :
    nonspace (paragraphText p) = nonspace (textsOf p.flatten) := by
  rw [nonspace_joined paragraphText lineText rfl (fun _ => rfl)
    (fun _ _ _ => ⟨_, nonspace_ite (a := []) (b := [32]) rfl rfl, rfl⟩), lineTexts_nonspace']

theorem paragraphTexts_nonspace (ps : List (List (List Frag))) :
    nonspace (ps.map paragraphText).flatten = nonspace (textsOf ps.flatten.flatten) := by
  rw [List.flatten_flatten]
  exact nonspace_pieces paragraphText List.flatten nonspace_paragraphText ps

theorem nonspace_paragraphLayoutText (ps : List (List (List Frag))) :
    nonspace (paragraphLayoutText ps) = nonspace (textsOf ps.flatten.flatten) := by
  rw [nonspace_joined paragraphLayoutText paragraphText rfl (fun _ => rfl) (fun _ _ _ => ⟨[10, 10], rfl, rfl⟩),
    paragraphTexts_nonspace]

theorem nonspace_withParagraphsText (ps : List (List (List Frag))) :
    nonspace (withParagraphsText ps) = nonspace (textsOf ps.flatten.flatten) := by
  unfold withParagraphsText joinParagraphsText
  rw [nonspace_joinParagraphsAux, List.map_map, List.flatten_flatten]
  exact nonspace_pieces _ List.flatten (fun p => (lineTexts_nonspace' p).symm) ps

theorem detectParagraphs_flatten (brk : List (List Frag) → List Frag → List (List Frag) → Bool)
    (lines : List (List Frag)) : (detectParagraphs brk lines).flatten = lines := by
  simpa [detectParagraphs] using segment_flatten brk lines []

theorem flatMap_paragraphs_flatten
    (brkOf : List (List Frag) → List (List Frag) → List Frag → List (List Frag) → Bool) (ss : List Sec) :
    ((ss.filter (fun s => !s.lines.isEmpty)).flatMap fun s => detectParagraphs (brkOf s.lines) s.lines).flatten =
      ss.flatMap (·.lines) := by
  rw [flatten_flatMap]
  simp only [detectParagraphs_flatten]
  exact (congrArg List.flatten (List.filter_map (f := Sec.lines) (p := fun l => !l.isEmpty)).symm).trans
    List.flatten_filter_not_isEmpty

/-- the paragraphs of a reading order are consecutive pieces of its lines, with one section as with many -/
theorem roParagraphs_flatten
    (brkOf : List (List Frag) → List (List Frag) → List Frag → List (List Frag) → Bool) (ro : ReadingOrder)
    (h : ro.lines = ro.sections.flatMap (·.lines)) : (roParagraphs brkOf ro).flatten = ro.lines := by
  unfold roParagraphs
  split
  · next he => rw [List.isEmpty_iff.mp he]; rfl
  · split
    · exact detectParagraphs_flatten _ _
    · rw [flatMap_paragraphs_flatten, h]

theorem roParagraphs_keeps {gaps : List Gap} {minCW minW : Rat} {isSpan keep : List Frag → List Frag → Bool}
    {tolOf : List Frag → Rat} {preserve : List Frag → Bool} {rtl : Bool}
    {brkOf : List (List Frag) → List (List Frag) → List Frag → List (List Frag) → Bool} {fs : List Frag} :
    Keeps (roParagraphs brkOf (readingOrder gaps minCW minW isSpan keep tolOf preserve rtl fs)).flatten.flatten fs := by
  rw [roParagraphs_flatten brkOf _ readingOrder_lines_eq]
  exact readingOrder_lines_keeps

end Tabula.Layout
