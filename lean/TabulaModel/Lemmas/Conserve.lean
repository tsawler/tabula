import TabulaModel.Lemmas.Utf8
import TabulaModel.Lemmas.Split
/-!
The equations of the non-whitespace content (`stripWs`) for C13, prefix determinacy of the
White_Space patterns, and `strings.TrimLeftFunc`/`TrimRightFunc` strip a run of white space
whatever follows it.  (What `stripWs` conserves: `Lemmas/Aligned.lean`.)
-/
set_option linter.unusedVariables false
namespace Tabula.Split

theorem stripWs_nil : stripWs [] = [] := by rw [stripWs]; rfl

theorem stripWs_space (s : Str) (h : spaceLen s ≠ 0) : stripWs s = stripWs (s.drop (spaceLen s)) := by
  have hs : s ≠ [] := by intro e; subst e; exact h rfl
  conv => lhs; rw [stripWs]
  rw [dif_neg hs, dif_pos h]

theorem stripWs_char (s : Str) (hs : s ≠ []) (h : spaceLen s = 0) :
    stripWs s = s.take (runeLen s) ++ stripWs (s.drop (runeLen s)) := by
  conv => lhs; rw [stripWs]
  rw [dif_neg hs, dif_neg (by simpa using h)]

/-- one step of the scan: `stripWs` advances rune by rune and drops the White_Space ones -/
theorem stripWs_step (s : Str) (hs : s ≠ []) :
    stripWs s = (if spaceLen s ≠ 0 then [] else s.take (runeLen s)) ++ stripWs (s.drop (runeLen s)) := by
  split
  · rename_i h
    rw [List.nil_append, runeLen_of_spaceLen s h]
    exact stripWs_space s h
  · rename_i h
    exact stripWs_char s hs (by simpa using h)

/-- prefix determinacy of the White_Space patterns -/
theorem spaceLen_append (s t : Str) (h : spaceLen s ≠ 0) : spaceLen (s ++ t) = spaceLen s := by
  fun_cases spaceLen s <;> simp_all [spaceLen]

/-- … and for the last character, on the reversed string -/
theorem spaceLenRev_append (s t : Str) (h : spaceLenRev s ≠ 0) :
    spaceLenRev (s ++ t) = spaceLenRev s := by
  fun_cases spaceLenRev s <;> simp_all [spaceLenRev]

/-- a run of white-space characters in front is stripped whatever follows -/
theorem trimLeft_run (l y : Str) (hl : trimLeft l = []) : trimLeft (l ++ y) = trimLeft y := by
  induction l using trimLeft.induct with
  | case1 s h =>
    rw [trimLeft, dif_pos h] at hl
    subst hl; rfl
  | case2 s h ih =>
    rw [trimLeft, dif_neg h] at hl
    rw [trimLeft, dif_neg (by rw [spaceLen_append s y h]; exact h), spaceLen_append s y h,
      List.drop_append_of_le_length (spaceLen_le_length s)]
    exact ih hl

theorem trimLeftRev_run (l y : Str) (hl : trimLeftRev l = []) :
    trimLeftRev (l ++ y) = trimLeftRev y := by
  induction l using trimLeftRev.induct with
  | case1 s h =>
    rw [trimLeftRev, dif_pos h] at hl
    subst hl; rfl
  | case2 s h ih =>
    rw [trimLeftRev, dif_neg h] at hl
    rw [trimLeftRev, dif_neg (by rw [spaceLenRev_append s y h]; exact h), spaceLenRev_append s y h,
      List.drop_append_of_le_length (spaceLenRev_le_length s)]
    exact ih hl

/-- the White_Space pattern at the head does not change when the string is cut behind the rune at the head -/
theorem spaceLen_take (s : Str) (n : Nat) (hn : runeLen s ≤ n) : spaceLen (s.take n) = spaceLen s := by
  by_cases hsp : spaceLen s = 0
  · rw [hsp]
    apply Classical.byContradiction
    intro hne
    have := spaceLen_append (s.take n) (s.drop n) hne
    rw [List.take_append_drop] at this
    omega
  · rw [runeLen_of_spaceLen s hsp] at hn
    have hw := (isWsChar_take_spaceLen s hsp).2
    have h3 := spaceLen_append ((s.take n).take (spaceLen s)) ((s.take n).drop (spaceLen s))
    rw [List.take_append_drop, List.take_take, Nat.min_eq_left hn, hw, List.length_take,
      Nat.min_eq_left (spaceLen_le_length s)] at h3
    exact h3 hsp

theorem spaceLen_wsChar_append {c : Str} (hc : IsWsChar c) (t : Str) : spaceLen (c ++ t) = c.length := by
  have h0 : spaceLen c ≠ 0 := by
    rw [hc.2]; exact Nat.ne_of_gt (List.length_pos_iff.mpr hc.1)
  rw [spaceLen_append c t h0, hc.2]

end Tabula.Split
