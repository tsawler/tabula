import TabulaModel.Lemmas.PdfLexProgress
import TabulaModel.Lemmas.ParseRuns
/-!
The two parsers of PDF object syntax - the document-level parser of core/parser.go (over the lexer
of core/lexer.go) and the operand parser of contentstream/parser.go - agree on EVERY byte string on
which both succeed: same value, same place in the input.  The only exception is the indirect
reference `n g R`, which content streams do not have: there the document-level parser returns the
reference and the content-stream parser reads the first integer (and inside an array or a dictionary
it then fails).  Core Lean only.
-/
namespace Tabula.Pdf
namespace Agree
open Prog
open Tabula.A1 (atoi)

theorem tok_nil : tok [] = some (.eof, []) := rfl

/-- the bytes `contentstream.parseOperand` sends to `parseNumber` -/
def NumStart (c : Nat) : Prop := c = 45 ∨ c = 43 ∨ c = 46 ∨ isDigit c = true

theorem numStart_ne {c : Nat} (h : NumStart c) :
    c ≠ 37 ∧ c ≠ 91 ∧ c ≠ 93 ∧ c ≠ 40 ∧ c ≠ 60 ∧ c ≠ 62 ∧ c ≠ 47 ∧ c ≠ 82 := by
  unfold NumStart at h
  simp only [isDigit, Bool.and_eq_true, decide_eq_true_eq] at h
  omega

theorem isAlpha_facts {c : Nat} (h : isAlpha c = true) :
    c ≠ 37 ∧ c ≠ 91 ∧ c ≠ 93 ∧ c ≠ 40 ∧ c ≠ 60 ∧ c ≠ 62 ∧ c ≠ 47 ∧ ¬ NumStart c := by
  unfold NumStart
  simp only [isAlpha, isDigit, Bool.or_eq_true, Bool.and_eq_true, decide_eq_true_eq] at h ⊢
  omega

theorem core_obj_tok_none (f d : Nat) (inp : Str) (h : tok inp = none) (a : Obj) (s' : PState) :
    parseObject f d (stateAt inp) ≠ .ok (a, s') := by
  rw [parseObject_tok_none f d inp h]
  exact fun e => nomatch e

theorem core_dict_tok_none (f d : Nat) (inp : Str) (h : tok inp = none) (acc : List (Str × Obj)) (a : Obj)
    (s' : PState) : parseDict f d (stateAt inp) acc ≠ .ok (a, s') := by
  rw [stateAt_tok_none inp h]
  cases f <;> simp [parseDict]

/-- the exception: the document-level parser read `n g R`, the content-stream parser the integer `n` -/
def RefCase (inp : Str) (a b : Obj) (r : Str) : Prop :=
  ∃ n g va vb r2 r3, a = .ref n g ∧ b = .int n ∧ tok inp = some (.integer va, r) ∧
    tok r = some (.integer vb, r2) ∧ tok r2 = some (.ref, r3)

/-- what a successful `ParseObject` on the window over `inp` returned, by the first token `t` of `inp`: the inversion
`parseObject_inv`, with the window one token further named as the window over what `t` left unread -/
theorem core_obj_on {f d : Nat} {inp : Str} {t : Token} {r : Str} {a : Obj} {s' : PState}
    (htk : tok inp = some (t, r)) (h : parseObject (f + 1) d (stateAt inp) = .ok (a, s')) :
    match (generalizing := false) t with
    | .keyword v => (v = kwNull ∧ a = .null ∨ v = kwTrue ∧ a = .bool true ∨ v = kwFalse ∧ a = .bool false) ∧
        s' = stateAt r
    | .integer v => parseNumber (stateAt inp) v = .ok (a, s')
    | .real v => parseReal v = some a ∧ s' = stateAt r
    | .str v => a = .str v ∧ s' = stateAt r
    | .hexstr v => a = .str (hexPairs v) ∧ s' = stateAt r
    | .name v => a = .name v ∧ s' = stateAt r
    | .arrStart => ¬ maxNestingDepth ≤ d ∧ parseArray f (d + 1) (stateAt r) [] = .ok (a, s')
    | .dictStart => ¬ maxNestingDepth ≤ d ∧ parseDict f (d + 1) (stateAt r) [] = .ok (a, s')
    | _ => False := by
  obtain ⟨t', hc, hm⟩ := parseObject_inv h
  rw [stateAt_cur_of_lex inp t r htk] at hc
  cases hc
  have hs : t ≠ .keyword kwStream := by
    rintro rfl
    rcases hm.1 with ⟨h, _⟩ | ⟨h, _⟩ | ⟨h, _⟩ <;> exact absurd h (by decide)
  rw [stateAt_next inp t r htk hs] at hm
  exact hm

theorem num_step (f d : Nat) (inp : Str) (c : Nat) (x : Str) (a : Obj) (s' : PState) (b : Obj) (r : Str)
    (hs : CS.skipSpace inp = c :: x) (hc : NumStart c)
    (h1 : parseObject (f + 1) d (stateAt inp) = .ok (a, s')) (h2 : CS.parseNumber (c :: x) = some (b, r)) :
    RefCase inp a b r ∨ (a = b ∧ s' = stateAt r) := by
  have htk := (tok_of_skipSpace inp).2 c x hs
  rw [Tok.dispatch_numStart c x hc] at htk
  rw [cs_parseNumber_lexeme c x hc] at h2
  generalize numLoop false true (c :: x) = p at htk h2
  obtain ⟨text, hasDec, r1⟩ := p
  cases hasDec with
  | true =>
    simp only [if_true] at htk h2
    obtain ⟨hpr, hs'⟩ := core_obj_on htk h1
    rw [hpr] at h2
    cases h2
    exact .inr ⟨rfl, hs'⟩
  | false =>
    simp only [Bool.false_eq_true, if_false] at htk h2
    have hnext := stateAt_next inp _ r1 htk (by simp)
    cases hat : atoi text with
    | none => rw [hat] at h2; cases h2
    | some n =>
      rw [hat] at h2
      cases h2
      rcases parseNumber_inv (core_obj_on htk h1) with ⟨hs', ⟨hn, _⟩ | ⟨n', hat', ha⟩⟩ | ⟨n', v2, g, hat', hp, _, hr, ha, _⟩
      · rw [hat] at hn; cases hn
      · rw [hat] at hat'
        cases hat'
        right; rw [ha, hs', hnext]; exact ⟨rfl, rfl⟩
      · left
        rw [hat] at hat'
        cases hat'
        obtain ⟨r2, ht2⟩ := peek_tok htk (by simp) hp (by simp)
        rw [hnext] at hr
        obtain ⟨r3, ht3⟩ := peek_tok ht2 (by simp) hr (by simp)
        exact ⟨n, g, text, v2, r2, r3, ha, rfl, htk, ht2, ht3⟩

theorem name_tok (inp x : Str) (hs : CS.skipSpace inp = 47 :: x) (hne : tok inp ≠ none) :
    tok inp = some (.name (CS.nameLoop x).1, (CS.nameLoop x).2) := by
  have htk := (tok_of_skipSpace inp).2 47 x hs
  rw [Tok.dispatch_name] at htk
  cases hh : nameLoop x with
  | none => rw [hh] at htk; exact absurd htk hne
  | some q =>
    obtain ⟨k, r1⟩ := q
    rw [hh] at htk
    dsimp only at htk
    rw [cs_nameLoop_agree x k r1 hh]
    exact htk

/-- what follows a run of regular characters terminates a token -/
theorem terminated_dropWhile_regular (l : Str) :
    Terminated (l.dropWhile (fun b => !isWs b && !isDelim b)) := by
  cases h : l.dropWhile (fun b => !isWs b && !isDelim b) with
  | nil => exact Or.inl rfl
  | cons a r =>
    have := List.not_of_dropWhile_eq_cons h
    exact Or.inr ⟨a, r, rfl, by cases h1 : isWs a <;> cases h2 : isDelim a <;> simp_all⟩

/-- `true`, `false`, `null` in front of a terminating byte: the document-level lexer reads the same word -/
theorem kw_tok (inp : Str) (c : Nat) (x kw : Str)
    (hs : CS.skipSpace inp = c :: x) (hc : c = 116 ∨ c = 102 ∨ c = 110)
    (hrt : CS.regularToken (c :: x) = kw) (hkw : kw = kwTrue ∨ kw = kwFalse ∨ kw = kwNull) :
    tok inp = some (.keyword kw, (c :: x).drop kw.length) := by
  have hal : isAlpha c = true := by rcases hc with e | e | e <;> subst e <;> decide
  obtain ⟨rest, hsplit, hterm⟩ : ∃ rest, c :: x = kw ++ rest ∧ Terminated rest :=
    ⟨_, by rw [← hrt]; exact List.takeWhile_append_dropWhile.symm, terminated_dropWhile_regular _⟩
  have hkwal : ∀ b ∈ kw, isAlnum b = true := by rcases hkw with e | e | e <;> subst e <;> decide
  have h82 : kw ≠ [82] := by rcases hkw with e | e | e <;> subst e <;> decide
  have htk := (tok_of_skipSpace inp).2 c x hs
  rw [Tok.dispatch_alpha c x hal, hsplit, (Tok.alnum_split kw rest hkwal hterm).1,
    (Tok.alnum_split kw rest hkwal hterm).2, if_neg h82] at htk
  rw [htk, hsplit, List.drop_left]

theorem skipSpace_of_tok {inp r : Str} {t : Token} (h : tok inp = some (t, r)) (ht : t ≠ .eof) :
    inp ≠ [] ∧ ∃ c x, CS.skipSpace inp = c :: x ∧ Tok.dispatch c x = some (t, r) := by
  constructor
  · intro e; subst e; rw [tok_nil] at h; cases h; exact ht rfl
  · cases hs : CS.skipSpace inp with
    | nil => rw [(tok_of_skipSpace inp).1 hs] at h; cases h; exact absurd rfl ht
    | cons c x => rw [(tok_of_skipSpace inp).2 c x hs] at h; exact ⟨c, x, rfl, h⟩

/-- the keyword `R` is not an operand -/
theorem cs_op_R (g d : Nat) (x : Str) : CS.parseOperand g d (82 :: x) = none := by
  cases g with
  | zero => rw [CS.parseOperand]
  | succ g =>
    rw [CS.parseOperand, skipSpace_other 82 x (by decide) (by decide)]
    simp [show isDigit 82 = false by decide]

/-- a dictionary: after the first integer of a reference there is neither a key nor `>>` -/
theorem cs_dict_after_int (g d : Nat) (r1 vb r2 : Str) (acc : List (Str × Obj))
    (h : tok r1 = some (.integer vb, r2)) : CS.parseDict g d r1 acc = none := by
  cases g with
  | zero => rw [CS.parseDict]
  | succ g =>
    obtain ⟨hne, c, x, hs, hd⟩ := skipSpace_of_tok h (by simp)
    have hc : NumStart c := (dispatch_spec hd).1
    obtain ⟨_, _, _, _, _, h62, h47, _⟩ := numStart_ne hc
    rw [CS.parseDict, if_neg hne, hs]
    dsimp only
    rw [if_neg (fun e => h62 e.1), if_pos h47]

/-- an array: the second integer of the reference is read, then `R` is not an operand -/
theorem cs_arr_after_int (g d : Nat) (r1 vb r2 r3 : Str) (acc : List Obj)
    (h : tok r1 = some (.integer vb, r2)) (h' : tok r2 = some (.ref, r3)) : CS.parseArray g d r1 acc = none := by
  cases g with
  | zero => rw [CS.parseArray]
  | succ g =>
    obtain ⟨hne, c, x, hs, hd⟩ := skipSpace_of_tok h (by simp)
    have hc : NumStart c := (dispatch_spec hd).1
    have h93 := (numStart_ne hc).2.2.1
    rw [CS.parseArray, if_neg hne, hs]
    dsimp only
    rw [if_neg h93]
    cases g with
    | zero => rw [CS.parseOperand]
    | succ g =>
      rw [CSL.po_num g d _ c x (by rw [← hs, skipSpace_idem]) hc, cs_parseNumber_lexeme c x hc]
      rw [Tok.dispatch_numStart c x hc] at hd
      generalize numLoop false true (c :: x) = p at hd
      obtain ⟨text, hasDec, rest⟩ := p
      dsimp only at hd ⊢
      cases hasDec with
      | true => simp at hd
      | false =>
        simp only [Bool.false_eq_true, if_false, Option.some.injEq, Prod.mk.injEq, Token.integer.injEq] at hd ⊢
        obtain ⟨_, hr⟩ := hd
        subst hr
        cases atoi text with
        | none => rfl
        | some v =>
          dsimp only
          obtain ⟨hne2, c3, x3, hs3, hd3⟩ := skipSpace_of_tok h' (by simp)
          have h82 : c3 = 82 := (dispatch_spec hd3).1
          subst h82
          rw [CS.parseArray, if_neg hne2, hs3]
          dsimp only
          rw [if_neg (by decide), cs_op_R]

/-- one call of `ParseObject` against one call of `parseOperand`, the container loops given -/
theorem obj_step (f f2 : Nat)
    (ihA : ∀ d inp acc a s' b r, parseArray f d (stateAt inp) acc = .ok (a, s') →
      CS.parseArray f2 d inp acc = some (b, r) → a = b ∧ s' = stateAt r)
    (ihD : ∀ d inp acc a s' b r, parseDict f d (stateAt inp) acc = .ok (a, s') →
      CS.parseDict f2 d inp acc = some (b, r) → a = b ∧ s' = stateAt r)
    (d : Nat) (inp : Str) (a : Obj) (s' : PState) (b : Obj) (r : Str)
    (h1 : parseObject (f + 1) d (stateAt inp) = .ok (a, s'))
    (h2 : CS.parseOperand (f2 + 1) d inp = some (b, r)) :
    RefCase inp a b r ∨ (a = b ∧ s' = stateAt r) := by
  have hne : tok inp ≠ none := fun h => core_obj_tok_none _ _ inp h a s' h1
  obtain ⟨c, x, hs, hcase⟩ := CS.parseOperand_inv h2
  have htk := (tok_of_skipSpace inp).2 c x hs
  rcases hcase with ⟨hc, hnum⟩ | ⟨rfl, v, hstr, rfl⟩ | ⟨rfl, _, hx, v, hhex, rfl⟩ | ⟨rfl, rfl, rfl⟩ | ⟨rfl, hd, hA⟩ |
    ⟨rfl, x', rfl, hd, hD⟩ | ⟨hc, t, hrt, ho, rfl⟩
  · exact num_step f d inp c x a s' b r hs hc h1 hnum
  · rw [Tok.dispatch_str, ← cs_strLoop_eq, hstr] at htk
    exact .inr (core_obj_on htk h1)
  · rw [Tok.dispatch_hexstr x hx] at htk
    cases hh : hexLoop x with
    | none => rw [hh] at htk; exact absurd htk hne
    | some q =>
      rw [hh] at htk
      obtain ⟨rfl, rfl⟩ := Prod.mk.inj (Option.some.inj ((cs_hexLoop_agree x q.1 q.2 hh).symm.trans hhex))
      exact .inr (core_obj_on htk h1)
  · exact .inr (core_obj_on (name_tok inp x hs hne) h1)
  · rw [Tok.dispatch_arrStart] at htk
    exact .inr (ihA _ _ _ _ _ _ _ (core_obj_on htk h1).2 hA)
  · rw [Tok.dispatch_dictStart] at htk
    exact .inr (ihD _ _ _ _ _ _ _ (core_obj_on htk h1).2 hD)
  · have hkw : t = kwTrue ∨ t = kwFalse ∨ t = kwNull := by
      rcases ho with ⟨h, _⟩ | ⟨h, _⟩ | ⟨h, _⟩
      · exact .inl h
      · exact .inr (.inl h)
      · exact .inr (.inr h)
    obtain ⟨hv, hs'⟩ := core_obj_on (kw_tok inp c x t hs hc hrt hkw) h1
    refine .inr ⟨?_, hs'⟩
    -- both sides name the keyword `t`: the same one gives the same value, two different ones are a closed inequality
    rcases ho with ⟨rfl, rfl⟩ | ⟨rfl, rfl⟩ | ⟨rfl, rfl⟩ <;> rcases hv with ⟨h, rfl⟩ | ⟨h, rfl⟩ | ⟨h, rfl⟩ <;>
      first | rfl | exact absurd h (by decide)

/-- one turn of the loop of `parseArray`, both parsers -/
theorem arr_step (f f2 : Nat)
    (ihO : ∀ d inp a s' b r, parseObject f d (stateAt inp) = .ok (a, s') →
      CS.parseOperand f2 d inp = some (b, r) → RefCase inp a b r ∨ (a = b ∧ s' = stateAt r))
    (ihA : ∀ d inp acc a s' b r, parseArray f d (stateAt inp) acc = .ok (a, s') →
      CS.parseArray f2 d inp acc = some (b, r) → a = b ∧ s' = stateAt r)
    (d : Nat) (inp : Str) (acc : List Obj) (a : Obj) (s' : PState) (b : Obj) (r : Str)
    (h1 : parseArray (f + 1) d (stateAt inp) acc = .ok (a, s'))
    (h2 : CS.parseArray (f2 + 1) d inp acc = some (b, r)) : a = b ∧ s' = stateAt r := by
  rcases CS.parseArray_inv h2 with ⟨rfl, _, _⟩ | ⟨x, hs, rfl, rfl⟩ | ⟨c, x, b1, r', hs, hc, hop, hA2⟩
  · rw [parseArray, stateAt_cur_of_lex [] _ _ tok_nil] at h1
    cases h1
  · have htk := (tok_of_skipSpace inp).2 93 _ hs
    rw [Tok.dispatch_arrEnd] at htk
    rw [parseArray, stateAt_cur_of_lex inp _ _ htk] at h1
    cases h1
    exact ⟨rfl, stateAt_next inp _ _ htk (by simp)⟩
  · rcases parseArray_inv h1 with ⟨hcur, _, _⟩ | ⟨_, o1, s1, ho, hA1⟩
    · obtain ⟨r1, htk⟩ := cur_token inp _ hcur (by simp)
      rw [(tok_of_skipSpace inp).2 c x hs] at htk
      exact absurd (dispatch_spec htk).1 hc
    · rw [← hs, parseOperand_congr (skipSpace_idem inp)] at hop
      rcases ihO d inp o1 s1 b1 r' ho hop with ⟨n, g, va, vb, r2, r3, _, _, _, ht2, ht3⟩ | ⟨rfl, rfl⟩
      · rw [cs_arr_after_int f2 d r' vb r2 r3 _ ht2 ht3] at hA2
        cases hA2
      · exact ihA d r' _ a s' b r hA1 hA2

/-- one turn of the loop of `parseDict`, both parsers -/
theorem dict_step (f f2 : Nat)
    (ihO : ∀ d inp a s' b r, parseObject f d (stateAt inp) = .ok (a, s') →
      CS.parseOperand f2 d inp = some (b, r) → RefCase inp a b r ∨ (a = b ∧ s' = stateAt r))
    (ihD : ∀ d inp acc a s' b r, parseDict f d (stateAt inp) acc = .ok (a, s') →
      CS.parseDict f2 d inp acc = some (b, r) → a = b ∧ s' = stateAt r)
    (d : Nat) (inp : Str) (acc : List (Str × Obj)) (a : Obj) (s' : PState) (b : Obj) (r : Str)
    (h1 : parseDict (f + 1) d (stateAt inp) acc = .ok (a, s'))
    (h2 : CS.parseDict (f2 + 1) d inp acc = some (b, r)) : a = b ∧ s' = stateAt r := by
  have hne : tok inp ≠ none := fun h => core_dict_tok_none _ _ inp h acc a s' h1
  rcases CS.parseDict_inv h2 with ⟨rfl, _, _⟩ | ⟨x, hs, rfl, rfl⟩ | ⟨x, b1, r', hs, hop, hD2⟩
  · rw [parseDict, stateAt_cur_of_lex [] _ _ tok_nil] at h1
    cases h1
  · have htk := (tok_of_skipSpace inp).2 62 _ hs
    rw [Tok.dispatch_dictEnd] at htk
    rw [parseDict, stateAt_cur_of_lex inp _ _ htk] at h1
    cases h1
    exact ⟨rfl, stateAt_next inp _ _ htk (by simp)⟩
  · have htk := name_tok inp x hs hne
    rcases parseDict_inv h1 with ⟨hcur, _, _⟩ | ⟨k, o1, s1, hcur, ho, hD1⟩ <;>
      rw [stateAt_cur_of_lex inp _ _ htk] at hcur <;> cases hcur
    rw [stateAt_next inp _ _ htk (by simp)] at ho
    rcases ihO d _ o1 s1 b1 r' ho hop with ⟨n, g, va, vb, r2, r3, _, _, _, ht2, _⟩ | ⟨rfl, rfl⟩
    · rw [cs_dict_after_int f2 d r' vb r2 _ ht2] at hD2
      cases hD2
    · exact ihD d r' _ a s' b r hD1 hD2

/-- the simulation, with the lookahead of the reference case kept: the three tokens of `n g R` -/
theorem agree_sim_ref (f : Nat) :
    (∀ d inp a s' f2 b r, parseObject f d (stateAt inp) = .ok (a, s') → CS.parseOperand f2 d inp = some (b, r) →
        RefCase inp a b r ∨ (a = b ∧ s' = stateAt r)) ∧
    (∀ d inp acc a s' f2 b r, parseArray f d (stateAt inp) acc = .ok (a, s') → CS.parseArray f2 d inp acc = some (b, r) →
        a = b ∧ s' = stateAt r) ∧
    (∀ d inp acc a s' f2 b r, parseDict f d (stateAt inp) acc = .ok (a, s') → CS.parseDict f2 d inp acc = some (b, r) →
        a = b ∧ s' = stateAt r) := by
  induction f with
  | zero =>
    refine ⟨?_, ?_, ?_⟩
    · intro d inp a s' f2 b r h; rw [parseObject] at h; cases h
    · intro d inp acc a s' f2 b r h; rw [parseArray] at h; cases h
    · intro d inp acc a s' f2 b r h; rw [parseDict] at h; cases h
  | succ f ih =>
    obtain ⟨ihO, ihA, ihD⟩ := ih
    refine ⟨?_, ?_, ?_⟩
    · intro d inp a s' f2 b r h1 h2
      cases f2 with
      | zero => rw [CS.parseOperand] at h2; cases h2
      | succ f2 =>
        exact obj_step f f2 (fun d inp acc a s' b r => ihA d inp acc a s' f2 b r)
          (fun d inp acc a s' b r => ihD d inp acc a s' f2 b r) d inp a s' b r h1 h2
    · intro d inp acc a s' f2 b r h1 h2
      cases f2 with
      | zero => rw [CS.parseArray] at h2; cases h2
      | succ f2 =>
        exact arr_step f f2 (fun d inp a s' b r => ihO d inp a s' f2 b r)
          (fun d inp acc a s' b r => ihA d inp acc a s' f2 b r) d inp acc a s' b r h1 h2
    · intro d inp acc a s' f2 b r h1 h2
      cases f2 with
      | zero => rw [CS.parseDict] at h2; cases h2
      | succ f2 =>
        exact dict_step f f2 (fun d inp a s' b r => ihO d inp a s' f2 b r)
          (fun d inp acc a s' b r => ihD d inp acc a s' f2 b r) d inp acc a s' b r h1 h2

/-- simulation: started on the same bytes with the same number `d` of open containers, whenever BOTH parsers succeed
they return the same value and stand at the same place - unless the document-level parser read an indirect
reference (then the content-stream parser, which has no references, read its first integer) -/
theorem agree_sim (f : Nat) :
    (∀ d inp a s' f2 b r, parseObject f d (stateAt inp) = .ok (a, s') → CS.parseOperand f2 d inp = some (b, r) →
        (∃ n g, a = .ref n g ∧ b = .int n) ∨ (a = b ∧ s' = stateAt r)) ∧
    (∀ d inp acc a s' f2 b r, parseArray f d (stateAt inp) acc = .ok (a, s') → CS.parseArray f2 d inp acc = some (b, r) →
        a = b ∧ s' = stateAt r) ∧
    (∀ d inp acc a s' f2 b r, parseDict f d (stateAt inp) acc = .ok (a, s') → CS.parseDict f2 d inp acc = some (b, r) →
        a = b ∧ s' = stateAt r) := by
  obtain ⟨hO, hA, hD⟩ := agree_sim_ref f
  refine ⟨?_, hA, hD⟩
  intro d inp a s' f2 b r h1 h2
  rcases hO d inp a s' f2 b r h1 h2 with ⟨n, g, _, _, _, _, ha, hb, _⟩ | h
  · exact Or.inl ⟨n, g, ha, hb⟩
  · exact Or.inr h

end Agree
end Tabula.Pdf
