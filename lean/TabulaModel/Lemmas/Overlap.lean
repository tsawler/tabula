import TabulaModel.Model.Overlap
import TabulaModel.Lemmas.Split
import TabulaModel.Lemmas.ListBasics
/-!
Helper lemmas for the overlap part of C13: joining with a separator, and which text
`ApplyOverlapToChunks` takes the overlap of chunk i+1 from.
-/
set_option linter.unusedVariables false
namespace Tabula.Overlap
open Tabula.Split

/-- `strings.Join` and the loops that do the same are the library's `intercalate` -/
theorem joinWith_eq_intercalate (sep : Str) (l : List Str) : joinWith sep l = sep.intercalate l :=
  List.eq_intercalate rfl (fun _ => rfl) (fun _ _ _ => rfl) l

theorem joinWith_cons (sep s : Str) (acc : List Str) :
    joinWith sep (s :: acc) = if acc = [] then s else s ++ sep ++ joinWith sep acc := by
  simp only [joinWith_eq_intercalate]
  exact List.intercalate_cons sep s acc

theorem joinWith_snoc (sep : Str) (g : List Str) (s : Str) :
    joinWith sep (g ++ [s]) = (if g = [] then [] else joinWith sep g ++ sep) ++ s := by
  by_cases hg : g = []
  · subst hg; rfl
  · simp only [joinWith_eq_intercalate, if_neg hg]
    rw [List.intercalate_append hg (List.cons_ne_nil _ _), List.intercalate_singleton]

theorem joinWith_eq_nil (sep : Str) (g : List Str) (hg : ∀ s ∈ g, s ≠ []) :
    joinWith sep g = [] ↔ g = [] := by
  cases g with
  | nil => exact ⟨fun _ => rfl, fun _ => rfl⟩
  | cons a g =>
    rw [joinWith_cons]
    have := hg a (List.mem_cons_self ..)
    by_cases h : g = [] <;> simp [h, this]

/-- the overlap `ApplyOverlapToChunks` computes from a previous text -/
def overlapFrom (cl : Classes) (c : OverlapConfig) : Option Str → Str
  | some p => if c.strategy ≠ 0 then generateOverlap cl c p else []
  | none => []

/-- the text chunk `i` takes its overlap from: the ORIGINAL text of chunk `i-1` -/
def prevText (prev : Option Str) (items : List (Str × Str)) : Nat → Option Str
  | 0 => prev
  | i + 1 => items[i]?.map (·.1)

/-- what `ApplyOverlapToChunks` makes of one chunk given the overlap computed for it -/
def outOf (c : OverlapConfig) (ov text title : Str) : OverlapOut :=
  if ov = [] then { has := false, pref := [], text := text }
  else { has := true, pref := ov, text := applyOverlap text ov title c.includeHeadingContext }

theorem outOf_pref (c : OverlapConfig) (ov text title : Str) : (outOf c ov text title).pref = ov := by
  unfold outOf
  split
  · rename_i h; exact h.symm
  · rfl

theorem outOf_has (c : OverlapConfig) (ov text title : Str) : (outOf c ov text title).has = (ov != []) := by
  unfold outOf
  split
  · rename_i h; rw [h]; rfl
  · rename_i h; exact (bne_iff_ne.mpr h).symm

theorem outOf_text (c : OverlapConfig) (ov text title : Str) :
    (outOf c ov text title).text = applyOverlap text ov title c.includeHeadingContext := by
  unfold outOf
  split
  · rename_i h; rw [applyOverlap, if_pos h]
  · rfl

theorem overlapFrom_some (cl : Classes) (c : OverlapConfig) (p : Str) :
    overlapFrom cl c (some p) = [] ∨ overlapFrom cl c (some p) = generateOverlap cl c p := by
  by_cases h : c.strategy ≠ 0
  · exact .inr (if_pos h)
  · exact .inl (if_neg h)

theorem applyOverlapAux_cons (cl : Classes) (c : OverlapConfig) (prev : Option Str) (it : Str × Str)
    (rest : List (Str × Str)) :
    applyOverlapAux cl c prev (it :: rest)
      = outOf c (overlapFrom cl c prev) it.1 it.2 :: applyOverlapAux cl c (some it.1) rest := by
  cases prev <;> rfl

theorem applyOverlapAux_length (cl : Classes) (c : OverlapConfig) (prev : Option Str)
    (items : List (Str × Str)) : (applyOverlapAux cl c prev items).length = items.length := by
  induction items generalizing prev with
  | nil => rfl
  | cons it rest ih => rw [applyOverlapAux_cons, List.length_cons, ih, List.length_cons]

theorem applyOverlapAux_get (cl : Classes) (c : OverlapConfig) (prev : Option Str)
    (items : List (Str × Str)) (i : Nat) :
    (applyOverlapAux cl c prev items)[i]?
      = items[i]?.map fun it => outOf c (overlapFrom cl c (prevText prev items i)) it.1 it.2 := by
  induction items generalizing prev i with
  | nil => rfl
  | cons it rest ih =>
    rw [applyOverlapAux_cons]
    cases i with
    | zero => rfl
    | succ j =>
      rw [List.getElem?_cons_succ, List.getElem?_cons_succ, ih]
      cases j <;> rfl

theorem applyOverlapAux_pref (cl : Classes) (c : OverlapConfig) (prev : Option Str)
    (items : List (Str × Str)) (i : Nat) (hi : i < items.length) :
    ((applyOverlapAux cl c prev items)[i]?).map (·.pref) = some (overlapFrom cl c (prevText prev items i)) := by
  rw [applyOverlapAux_get, List.getElem?_eq_getElem hi, Option.map_some, Option.map_some, outOf_pref]

end Tabula.Overlap
