import TabulaModel.Lemmas.MarkdownLoop
import TabulaModel.Lemmas.MarkdownItems
import TabulaModel.Lemmas.MarkdownPre
/-!
The DOCX Markdown writer (`docxLoop`) as lines appended step by step, and what the reading spec
gives back on them: the loop body is `paraStep` / `tableStep` of `Lemmas/MarkdownLoop.lean` with the
docx list test (`listed`, same `numID` as the item before) and item writer.
-/
namespace Tabula.MarkdownDoc
open Tabula.A1 (Str dec decInt)
open Tabula.Markdown

theorem ctrNN_clear (c : Ctr) (lvl : Int) (h : ctrNN c) : ctrNN (ctrClearDeeper c lvl) := by
  unfold ctrClearDeeper
  split
  · split
    · exact ctrNN_filter _ _ h
    · exact h
  · exact h

/-- the item writer: from counters that are not negative the line is the list item line of the
paragraph (with some number), and the counters stay so -/
theorem docxListItem_spec (fmt : Str → Int → NumFmt) (p : DPara) (cs : Ctrs) (hcs : ctrsNN cs)
    (hl : 0 ≤ p.listLevel) (hs : (fmt p.numID p.listLevel).ordered = true → 0 ≤ (fmt p.numID p.listLevel).startAt) :
    ctrsNN (docxListItem fmt p cs).2 ∧
      ∃ num, (docxListItem fmt p cs).1
        = listLine ⟨p.listLevel.toNat, (fmt p.numID p.listLevel).ordered, num, p.text⟩ ++ [10] := by
  have h2 : ctrNN (ctrSet (ctrClearDeeper (ctrsGet cs p.numID) p.listLevel) (-1) p.listLevel) :=
    ctrNN_set _ (-1) p.listLevel (ctrNN_clear _ _ (ctrNN_get cs p.numID hcs)) hl
  unfold docxListItem
  simp only []
  generalize ctrSet (ctrClearDeeper (ctrsGet cs p.numID) p.listLevel) (-1) p.listLevel = c2 at h2 ⊢
  cases ho : (fmt p.numID p.listLevel).ordered with
  | false => exact ⟨ctrsNN_set _ _ _ hcs h2, 1, rfl⟩
  | true =>
    have h3 := ctrGet_nonneg c2 p.listLevel h2
    have hst := hs ho
    exact ⟨ctrsNN_set _ _ _ hcs (ctrNN_set _ _ _ h2 (by omega)), _,
      congrArg (· ++ [10]) (itemLine_number _ _ (by omega) _)⟩

def dHeadings (excl : Str → Bool) (hl : Int → Int) (els : List DElem) : List (Nat × Str) :=
  els.filterMap fun
    | .para p => if !excl p.text && p.isHeading then some ((hl p.level).toNat, p.text) else none
    | .table _ => none

def dItems (excl : Str → Bool) (fmt : Str → Int → NumFmt) (els : List DElem) : List (Nat × Bool × Str) :=
  els.filterMap fun
    | .para p =>
      if !excl p.text && !p.isHeading && p.listed then
        some (p.listLevel.toNat, (fmt p.numID p.listLevel).ordered, p.text)
      else none
    | .table _ => none

def dParas (excl : Str → Bool) (els : List DElem) : List Str :=
  els.filterMap fun
    | .para p => if !excl p.text && !p.isHeading && !p.listed && !p.text.isEmpty then some p.text else none
    | .table _ => none

def dTables (els : List DElem) : List (List (List SCell)) :=
  els.filterMap fun
    | .para _ => none
    | .table t => if colCount t = 0 then none else some t

/-- well-formed input of the DOCX writer for the read-back theorems -/
structure DocxWF (excl : Str → Bool) (hl : Int → Int) (fmt : Str → Int → NumFmt) (els : List DElem) : Prop where
  /-- heading levels come out in 1..6 -/
  hlRange : ∀ l, 1 ≤ (hl l).toNat ∧ (hl l).toNat ≤ 6
  /-- paragraph texts are single lines -/
  noNl : ∀ p, DElem.para p ∈ els → 10 ∉ p.text
  /-- body paragraphs are paragraph text for a Markdown reader (not `# x`, `- x`, `| x`, `---`, …) -/
  plain : ∀ p, DElem.para p ∈ els → excl p.text = false → p.isHeading = false → p.listed = false →
    p.text.isEmpty = false → classify p.text = .para
  /-- list levels are not negative; ordered lists do not start below zero -/
  level : ∀ p, DElem.para p ∈ els → p.listed = true → 0 ≤ p.listLevel
  start : ∀ p, DElem.para p ∈ els → p.listed = true → (fmt p.numID p.listLevel).ordered = true →
    0 ≤ (fmt p.numID p.listLevel).startAt

/-- the builder and the `inList` flag in the loop state of the docx writer -/
def docxL : LoopSt DSt := ⟨DSt.out, DSt.inList, fun s o b => { s with out := o, inList := b }, fun _ _ _ => rfl⟩

/-- the list branch of `docxStep` -/
def docxItemStep (fmt : Str → Int → NumFmt) (p : DPara) (st : DSt) : DSt :=
  { out := st.out ++ (docxListItem fmt p st.ctrs).1, inList := true, lastNum := p.numID,
    ctrs := (docxListItem fmt p st.ctrs).2 }

theorem docxStep_para (excl : Str → Bool) (hl : Int → Int) (fmt : Str → Int → NumFmt) (i : Nat) (st : DSt)
    (p : DPara) :
    docxStep excl hl fmt i st (.para p) =
      paraStep docxL i st (excl p.text) (!p.isListItem || p.numID != st.lastNum) p.isHeading p.listed
        (hl p.level).toNat p.text (docxItemStep fmt p) := rfl

theorem docxStep_table (excl : Str → Bool) (hl : Int → Int) (fmt : Str → Int → NumFmt) (i : Nat) (st : DSt)
    (t : List (List SCell)) : docxStep excl hl fmt i st (.table t) = tableStep docxL .docx st t := rfl

/-- One iteration of the element loop: the counters stay non-negative, and what it appends to the
builder are lines holding what the element contributes to the reader's four lists. -/
theorem docxStep_read (excl : Str → Bool) (hl : Int → Int) (fmt : Str → Int → NumFmt) (els : List DElem)
    (hwf : DocxWF excl hl fmt els) (e : DElem) (he : e ∈ els) (i : Nat) (st : DSt) (hcs : ctrsNN st.ctrs) :
    ctrsNN (docxStep excl hl fmt i st e).ctrs ∧
    ∃ ls, (docxStep excl hl fmt i st e).out = st.out ++ joinLines ls ∧
      LinesRead ls (dHeadings excl hl [e]) (dItems excl fmt [e]) (dParas excl [e])
        ((dTables [e]).map (spanLines .docx)) := by
  simp only [dHeadings, dItems, dParas, dTables, List.filterMap_singleton]
  cases e with
  | table t =>
    rw [docxStep_table]
    exact tableStep_read docxL (fun s => ctrsNN s.ctrs) (fun _ _ _ h => h) .docx st t hcs
  | para p =>
    rw [docxStep_para]
    refine paraStep_read docxL (fun s => ctrsNN s.ctrs) (fun _ _ _ h => h) i st _ _ _ _ _ _ _ _ _
      (fun hli s hs => ?_) (hwf.hlRange p.level).1 (hwf.noNl p he) (hwf.plain p he) hcs
    obtain ⟨h1, num, h2⟩ := docxListItem_spec fmt p s.ctrs hs (hwf.level p he hli) (hwf.start p he hli)
    exact ⟨h1, num, congrArg (s.out ++ ·) h2⟩

/-- the tables the expected lists hold have a column -/
theorem dTables_colCount (els : List DElem) : ∀ t ∈ dTables els, colCount t ≠ 0 :=
  List.forall_mem_filterMap.mpr fun e _ t hf => by
    cases e with
    | para p => cases hf
    | table t' => dsimp only at hf; split at hf <;> cases hf; assumption

/-- the element loop behind a preamble, trimmed, as the reader sees it: the four lists of the element
list, every table as its grid — whatever the cells hold -/
theorem docxLoop_readMd (excl : Str → Bool) (hl : Int → Int) (fmt : Str → Int → NumFmt) (els : List DElem)
    (hwf : DocxWF excl hl fmt els) (htoc : (2, tocText) ∉ dHeadings excl hl els) {pre : Str} (hpre : IsPreamble pre) :
    readMd (trimNl (docxLoop excl hl fmt 0 { out := pre } els).out)
      = { headings := dHeadings excl hl els, items := dItems excl fmt els,
          tables := (dTables els).map fun t => some (t.map (gridRow .docx (colCount t))),
          paras := dParas excl els } := by
  obtain ⟨ls, hout, hr⟩ := loop_read DSt.out (fun s => ctrsNN s.ctrs) (docxStep excl hl fmt) (docxLoop excl hl fmt)
    (fun _ _ => rfl) (fun _ _ _ _ => rfl) _ _ _ _ _ els (docxStep_read excl hl fmt els hwf) 0 { out := pre }
    fun _ he => absurd he List.not_mem_nil
  rw [hout, hr.readMd_doc htoc hpre, List.map_map]
  exact congrArg (MdDoc.mk _ _ · _) (List.map_congr_left fun t ht =>
    gfmTableL_spanLines_grid .docx (by decide) t (dTables_colCount els t ht))

end Tabula.MarkdownDoc
