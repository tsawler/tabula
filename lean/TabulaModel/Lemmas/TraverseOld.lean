import TabulaModel.Lemmas.HtmlBlocks
import TabulaModel.Model.HtmlOld
/-!
The traversal before fix 75d57dc, `travOld`, refines the old specification `atomsOld`
(Model/HtmlOld.lean).  The two traversals differ only in how a p/div block container is
descended into; everywhere else the statement is the one about `trav`.  The old traversal has no
specification finer than atoms, so the `ul`/`ol` and `li` cases are restated here for the reading
of the state as atoms (`Refines`); what an operation does to that reading is taken from the
block-level lemmas of Lemmas/Traverse.lean by projection.  Used only to relate the old output to
the repaired one (Props/C19Repair.lean).
-/
namespace Tabula.Html

theorem Refines.rfl' (s : St) (h : s.ok) : Refines s s [] := ⟨by simp, rfl, rfl, h⟩

theorem Refines.trans {s s1 s2 : St} {a b : List Atom} (h1 : Refines s s1 a) (h2 : Refines s1 s2 b) :
    Refines s s2 (a ++ b) :=
  ⟨by rw [h2.flat, h1.flat, List.append_assoc], h2.inList.trans h1.inList, h2.level.trans h1.level, h2.ok⟩

theorem Refines.lc {s s' : St} {a : List Atom} (h : Refines s s' a) : s'.lc = s.lc := by
  simp [St.lc, h.inList, h.level]

theorem refines_flush (s : St) (h : s.ok) : Refines s (flushList s) [] :=
  ⟨by simp [flushList_flat], flushList_inList s, flushList_level s, flushList_ok s h⟩

theorem liHead_refines (kids : List Dom) (s : St) (hin : s.inList = true) :
    (liHead kids s).flat = s.flat ++ (if getDirectTextContent kids != [] then [Atom.item s.level (getDirectTextContent kids)] else []) ∧
    (liHead kids s).inList = true ∧ (liHead kids s).level = s.level + 1 := by
  have hh := liHead_refinesB kids s hin
  refine ⟨?_, hh.2.1, hh.2.2.1⟩
  rw [St.flat_eq_flatB, St.flat_eq_flatB, hh.1, List.flatMap_append, flatMap_atoms_ite]
  rfl

theorem listEnter_lc (ord : Bool) (s : St) : (listEnter ord s).lc = s.lc.enter :=
  (congrArg LCB.toLC (listEnter_lcB ord s)).trans (LCB.toLC_enter _ ord)

theorem listExit_refines (ord : Bool) (s s3 : St) (as : List Atom) (h : s.ok)
    (h2 : Refines (listEnter ord s) s3 as) : Refines s (listExit s s3) as := by
  have sh := listExit_shape s s3 h (h2.inList.trans (listEnter_shape ord s).1)
  exact ⟨by rw [St.flat_congr (listExit_flatB s s3), h2.flat, St.flat_congr (listEnter_flatB ord s h)], sh.1, sh.2.1,
    sh.2.2.2⟩

/-- the `li` case inside a list, for any child loop `f` that refines `as` -/
theorem li_refines_inList (kids : List Dom) (f : St → St) (as : LC → List Atom)
    (hf : ∀ s', s'.ok → Refines s' (f s') (as s'.lc)) (s : St) (hin : s.inList = true) :
    Refines s (liExit (f (liHead kids s)))
      ((if getDirectTextContent kids != [] then [Atom.item s.level (getDirectTextContent kids)] else []) ++
        as ⟨true, s.level + 1⟩) := by
  have hh := liHead_refines kids s hin
  have h2 := hf (liHead kids s) (fun hi => by rw [hh.2.1] at hi; cases hi)
  have hlc : (liHead kids s).lc = ⟨true, s.level + 1⟩ := by simp [St.lc, hh.2.1, hh.2.2]
  rw [hlc] at h2
  have hi : (f (liHead kids s)).inList = true := h2.inList.trans hh.2.1
  -- `liExit` only lowers the level again
  refine ⟨?_, hi.trans hin.symm, ?_, fun hc => ?_⟩
  · show (f (liHead kids s)).flat = _
    rw [h2.flat, hh.1, List.append_assoc]
  · show (f (liHead kids s)).level - 1 = _
    rw [h2.level, hh.2.2]; rfl
  · rw [show (liExit (f (liHead kids s))).inList = true from hi] at hc; cases hc

/-- the `li` case: inside a list as above, outside a list in a list of its own that is closed
(and flushed) afterwards -/
theorem li_refines (kids : List Dom) (f : St → St) (as : LC → List Atom)
    (hf : ∀ s', s'.ok → Refines s' (f s') (as s'.lc)) (s : St) (h : s.ok) :
    Refines s
      (if s.inList then liExit (f (liHead kids s)) else strayExit (liExit (f (liHead kids (strayEnter s)))))
      ((if getDirectTextContent kids != [] then [Atom.item s.lc.enter.level (getDirectTextContent kids)] else []) ++
        as ⟨true, s.lc.enter.level + 1⟩) := by
  cases hin : s.inList with
  | true =>
    have hl : s.lc.enter.level = s.level := by simp [St.lc, LC.enter, hin]
    rw [hl, if_pos rfl]
    exact li_refines_inList kids f as hf s hin
  | false =>
    have hl : s.lc.enter.level = 0 := by simp [St.lc, LC.enter, hin]
    rw [hl, if_neg Bool.false_ne_true]
    have hs0 := h hin
    have h1 := li_refines_inList kids f as hf (strayEnter s) rfl
    generalize liExit (f (liHead kids (strayEnter s))) = x at h1
    have hx : x.ok := fun hi => by rw [h1.inList] at hi; cases hi
    have hflat0 : (strayEnter s).flat = s.flat := by simp [strayEnter, St.flat, hs0.1]
    have hlev : (flushList x).level = 0 := (flushList_level x).trans h1.level
    refine ⟨?_, hin.symm, hlev.trans hs0.2.symm, fun _ => ⟨rfl, hlev⟩⟩
    have e : (strayExit x).flat = (flushList x).flat := by
      simp [strayExit, St.flat, flushList_items x hx]
    rw [e, flushList_flat, h1.flat, hflat0]
    rfl

mutual
theorem travOld_refines (p : Pos → Dom → Bool) (w : Bool) :
    ∀ (t : Dom) (pos : Pos) (s : St), s.ok → Refines s (travOld p w pos t s) (atomsOld p w pos s.lc t)
  | .text _, pos, s, h => by
      simp only [travOld, atomsOld]; exact Refines.rfl' s h
  | .other kids, pos, s, h => by
      simp only [travOld, atomsOld]; exact travLOld_refines p w kids _ s h
  | .elem tag attrs kids, pos, s, h => by
      -- where the two traversals and the two specifications read alike, the repaired one answers
      have hnew := trav_refines p w (.elem tag attrs kids) pos s h
      unfold trav atoms at hnew
      unfold travOld atomsOld
      by_cases hs : isSkip tag = true
      · rw [if_pos hs, if_pos hs] at hnew ⊢; exact hnew
      · by_cases hp : p pos (.elem tag attrs kids) = true
        · rw [if_neg hs, if_pos hp, if_neg hs, if_pos hp] at hnew ⊢; exact hnew
        · rw [if_neg hs, if_neg hp, if_neg hs, if_neg hp] at hnew ⊢
          cases hc : classify tag with
          | pdiv isP =>
            rw [hc] at hnew
            by_cases hcnd : (trim (getTextContent (.elem tag attrs kids)) != [] && !isBlockContainer kids) = true
            · simp only [hcnd, if_true] at hnew ⊢; exact hnew
            · simp only [hcnd, if_false, Bool.false_eq_true]
              have h1 : Refines s (if isP = true then flushList s else s) [] := by
                split
                · exact refines_flush s h
                · exact Refines.rfl' s h
              have h2 := travLOld_refines p w kids (pos.kid w tag) _ h1.ok
              rw [h1.lc] at h2
              simpa using h1.trans h2
          | list ord =>
            simp only []
            have h2 := travLOld_refines p w kids (pos.kid w tag) _ (listEnter_shape ord s).2.2.2
            rw [listEnter_lc] at h2
            exact listExit_refines ord s _ _ h h2
          | li =>
            exact li_refines kids (travLiOld p w (pos.kid w tag) kids) (fun lc => atomsLiOld p w (pos.kid w tag) lc kids)
              (travLiOld_refines p w kids _) s h
          | other => simp only []; exact travLOld_refines p w kids _ s h
          | _ => rw [hc] at hnew; exact hnew
theorem travLOld_refines (p : Pos → Dom → Bool) (w : Bool) :
    ∀ (ts : List Dom) (kp : Pos) (s : St), s.ok → Refines s (travLOld p w kp ts s) (atomsLOld p w kp s.lc ts)
  | [], kp, s, h => by simp only [travLOld, atomsLOld]; exact Refines.rfl' s h
  | k :: ks, kp, s, h => by
      simp only [travLOld, atomsLOld]
      have h1 := travOld_refines p w k kp s h
      have h2 := travLOld_refines p w ks kp _ h1.ok
      rw [h1.lc] at h2
      exact h1.trans h2
theorem travLiOld_refines (p : Pos → Dom → Bool) (w : Bool) :
    ∀ (ts : List Dom) (kp : Pos) (s : St), s.ok → Refines s (travLiOld p w kp ts s) (atomsLiOld p w kp s.lc ts)
  | [], kp, s, h => by simp only [travLiOld, atomsLiOld]; exact Refines.rfl' s h
  | k :: ks, kp, s, h => by
      simp only [travLiOld, atomsLiOld]
      by_cases hk : isListElem k = true
      · simp only [hk, if_true]
        have h1 := travOld_refines p w k kp s h
        have h2 := travLiOld_refines p w ks kp _ h1.ok
        rw [h1.lc] at h2
        exact h1.trans h2
      · simp only [hk, if_false, Bool.false_eq_true, List.nil_append]
        exact travLiOld_refines p w ks kp s h
end

theorem extractOld_flatten (p : Pos → Dom → Bool) (body : Dom) :
    flatten (extractOldWith p body) = atomsOldOf p body := by
  unfold extractOldWith atomsOldOf
  have h := travOld_refines p (hasWrapper body) body .root {} (fun _ => ⟨rfl, rfl⟩)
  rw [flushList_out _ h.ok, h.flat]
  rfl

end Tabula.Html
