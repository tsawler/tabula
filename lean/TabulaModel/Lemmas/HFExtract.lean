import TabulaModel.Model.HFExtract
import TabulaModel.Lemmas.HeaderFooter
import TabulaModel.Lemmas.PageSel
/-!
Helper lemmas about `Model/HFExtract.lean` (the extractor-level path of header/footer exclusion):
what `collectAllPages` collects, what a page loop hands its detector, and the source that carries
only what exclusion keeps.
-/
namespace Tabula.HFX
open Tabula.HF Tabula.PageSel Tabula.Builder Tabula.TextPipe

/-- the page `collectAllPages` makes of readable page `k` -/
def pageOf (k : Nat) (rp : RawPage) : Page := { index := (k : Int), height := rp.height, frags := rp.frags }

/-- `collectAllPages`' loop as an indexed map: entry `k` of the rest becomes page `i + k` if it can be read -/
theorem collectFrom_eq (i : Nat) (src : Source) :
    collectFrom i src = (src.mapIdx fun k o => o.map (pageOf (i + k))).filterMap id := by
  fun_induction collectFrom i src with
  | case1 => rfl
  | case2 i rest ih => rw [List.mapIdx_cons, ih]; simp only [Nat.add_right_comm i 1, Nat.add_assoc]; rfl
  | case3 i rp rest ih => rw [List.mapIdx_cons, ih]; simp only [Nat.add_right_comm i 1, Nat.add_assoc]; rfl

theorem mem_collectFrom {p : Page} {src : Source} {i : Nat} :
    p ∈ collectFrom i src ↔ ∃ k rp, src[k]? = some (some rp) ∧ p = pageOf (i + k) rp := by
  rw [collectFrom_eq, List.mem_filterMap]
  simp only [List.mem_iff_getElem?, List.getElem?_mapIdx, Option.map_eq_some_iff, id]
  constructor
  · rintro ⟨_, ⟨k, o, ho, rfl⟩, h⟩
    cases o with
    | none => cases h
    | some rp => exact ⟨k, rp, ho, (Option.some.inj h).symm⟩
  · rintro ⟨k, rp, h, rfl⟩
    exact ⟨_, ⟨k, some rp, h, rfl⟩, rfl⟩

/-- **what feeds detection**: exactly the pages that can be read, each under its own page index
and height — whatever was requested -/
theorem mem_collectAllPages {p : Page} {src : Source} :
    p ∈ collectAllPages src ↔ ∃ k rp, src[k]? = some (some rp) ∧ p = pageOf k rp := by
  unfold collectAllPages
  rw [mem_collectFrom]
  simp

theorem collectFrom_index_ge : ∀ (src : Source) (i : Nat) (p : Page), p ∈ collectFrom i src → (i : Int) ≤ p.index := by
  intro src i p hp
  obtain ⟨k, rp, _, e⟩ := mem_collectFrom.mp hp
  rw [e]; simp only [pageOf]; omega

theorem collectFrom_nodup (src : Source) (i : Nat) : ((collectFrom i src).map (·.index)).Nodup := by
  fun_induction collectFrom i src with
  | case1 => exact List.nodup_nil
  | case2 i rest ih => exact ih
  | case3 i rp rest ih =>
    rw [List.map_cons, List.nodup_cons]
    refine ⟨fun hmem => ?_, ih⟩
    obtain ⟨p, hp, e⟩ := List.mem_map.mp hmem
    have := collectFrom_index_ge rest (i + 1) p hp
    rw [e] at this
    simp at this
    omega

theorem collectAllPages_nodup (src : Source) : ((collectAllPages src).map (·.index)).Nodup :=
  collectFrom_nodup src 0

theorem collectFrom_length_le (src : Source) (i : Nat) : (collectFrom i src).length ≤ src.length := by
  rw [collectFrom_eq]
  exact Nat.le_trans (List.length_filterMap_le _ _) (Nat.le_of_eq List.length_mapIdx)

theorem collectAllPages_length_le (src : Source) : (collectAllPages src).length ≤ src.length :=
  collectFrom_length_le src 0

theorem collectAllPages_ne_nil {src : Source} {k : Nat} {rp : RawPage} (h : src[k]? = some (some rp)) :
    (collectAllPages src).isEmpty = false := by
  have : pageOf k rp ∈ collectAllPages src := mem_collectAllPages.mpr ⟨k, rp, h, rfl⟩
  cases hc : collectAllPages src with
  | nil => rw [hc] at this; cases this
  | cons _ _ => rfl

theorem readPage_ok {src : Source} {k : Nat} {rp : RawPage} :
    readPage src k = .ok rp ↔ src[k]? = some (some rp) := by
  unfold readPage
  cases h : src[k]? with
  | none => simp
  | some o => cases o with
    | none => simp
    | some rp' => simp

theorem readPage_error {src : Source} {k : Nat} {e : E} (h : readPage src k = .error e) :
    e = .page ∧ ∀ rp, src[k]? ≠ some (some rp) := by
  unfold readPage at h
  cases hs : src[k]? with
  | none => rw [hs] at h; simp at h; exact ⟨h.symm, by simp⟩
  | some o => cases o with
    | none => rw [hs] at h; simp at h; exact ⟨h.symm, by simp⟩
    | some rp' => rw [hs] at h; simp at h

/-- the only two outcomes of `hfResult` on a source with a readable page -/
theorem hfResult_of_readable {src : Source} {k : Nat} {rp : RawPage} (h : src[k]? = some (some rp))
    (o : Options) :
    hfResult o src = if needHF o then some (detect defaultConfig (collectAllPages src)) else none := by
  unfold hfResult detectHeaderFooter
  simp [collectAllPages_ne_nil h]

/-- **pageInput_readable**: on a readable page, a page loop hands its detector the page's
fragments, or — with either flag set — `excludePage` of that page w.r.t. all readable pages -/
theorem pageInput_readable {src : Source} {k : Nat} {rp : RawPage} (h : src[k]? = some (some rp))
    (o : Options) :
    pageInput o src k = .ok (if needHF o then excludePage defaultConfig (collectAllPages src) (pageOf k rp)
      else rp.frags) := by
  unfold pageInput
  rw [readPage_ok.mpr h, hfResult_of_readable h]
  cases needHF o <;> simp [filterWith, excludePage, pageOf]

theorem pageInput_unreadable {src : Source} {k : Nat} (h : ∀ rp, src[k]? ≠ some (some rp)) (o : Options) :
    pageInput o src k = .error .page := by
  unfold pageInput
  cases hr : readPage src k with
  | ok rp => exact absurd (readPage_ok.mp hr) (h rp)
  | error e => rw [(readPage_error hr).1]

/-- a page loop either fails on an unreadable page or answers for a readable one -/
theorem pageInput_cases (o : Options) (src : Source) (k : Nat) :
    (∃ rp, src[k]? = some (some rp) ∧
      pageInput o src k = .ok (if needHF o then excludePage defaultConfig (collectAllPages src) (pageOf k rp)
        else rp.frags)) ∨
    ((∀ rp, src[k]? ≠ some (some rp)) ∧ pageInput o src k = .error .page) := by
  by_cases h : ∃ rp, src[k]? = some (some rp)
  · obtain ⟨rp, hrp⟩ := h
    exact Or.inl ⟨rp, hrp, pageInput_readable hrp o⟩
  · have h' : ∀ rp, src[k]? ≠ some (some rp) := fun rp hrp => h ⟨rp, hrp⟩
    exact Or.inr ⟨h', pageInput_unreadable h' o⟩

/-- whether a page loop answers for page `k` does not depend on the options -/
theorem pageInput_isOk_iff {o : Options} {src : Source} {k : Nat} :
    (∃ fs, pageInput o src k = .ok fs) ↔ ∃ rp, src[k]? = some (some rp) := by
  rcases pageInput_cases o src k with ⟨rp, hrp, h⟩ | ⟨hno, h⟩
  · exact ⟨fun _ => ⟨rp, hrp⟩, fun _ => ⟨_, h⟩⟩
  · exact ⟨fun ⟨fs, hfs⟩ => (nomatch h.symm.trans hfs), fun ⟨rp, hrp⟩ => absurd hrp (hno rp)⟩

/-- two lists of the same length whose entries are related position by position
(`List.Forall₂` of Mathlib; core Lean has no such relation) -/
inductive Pointwise {α β : Type} (R : α → β → Prop) : List α → List β → Prop
  | nil : Pointwise R [] []
  | cons {a : α} {b : β} {as : List α} {bs : List β} : R a b → Pointwise R as bs → Pointwise R (a :: as) (b :: bs)

theorem Pointwise.length_eq {α β : Type} {R : α → β → Prop} {as : List α} {bs : List β}
    (h : Pointwise R as bs) : as.length = bs.length := by
  induction h with
  | nil => rfl
  | cons _ _ ih => simp [ih]

theorem Pointwise.get {α β : Type} {R : α → β → Prop} {as : List α} {bs : List β}
    (h : Pointwise R as bs) : ∀ (j : Nat) (a : α) (b : β), as[j]? = some a → bs[j]? = some b → R a b := by
  induction h with
  | nil => intro j a b ha; simp at ha
  | cons h1 _ ih =>
    intro j a b ha hb
    cases j with
    | zero => simp at ha hb; subst ha; subst hb; exact h1
    | succ j => simp at ha hb; exact ih j a b ha hb

theorem Pointwise.imp {α β : Type} {R S : α → β → Prop} (hRS : ∀ a b, R a b → S a b) {as : List α} {bs : List β}
    (h : Pointwise R as bs) : Pointwise S as bs := by
  induction h with
  | nil => exact .nil
  | cons h1 _ ih => exact .cons (hRS _ _ h1) ih

/-- related position by position through two maps into one type: the mapped lists are equal -/
theorem Pointwise.eq_iff_map {α β γ : Type} {f : α → γ} {g : β → γ} {as : List α} {bs : List β} :
    Pointwise (fun a b => f a = g b) as bs ↔ as.map f = bs.map g := by
  induction as generalizing bs with
  | nil =>
    cases bs with
    | nil => exact ⟨fun _ => rfl, fun _ => .nil⟩
    | cons b bs => exact ⟨nofun, nofun⟩
  | cons a as ih =>
    cases bs with
    | nil => exact ⟨nofun, nofun⟩
    | cons b bs =>
      rw [List.map_cons, List.map_cons, List.cons.injEq, ← ih]
      exact ⟨fun h => by cases h with | cons h1 h2 => exact ⟨h1, h2⟩, fun h => .cons h.1 h.2⟩

theorem collect_eq_ok {α : Type} {f : Nat → Except E α} {idx : List Nat} {rs : List α} :
    collect f idx = .ok rs ↔ Pointwise (fun k r => f k = .ok r) idx rs :=
  (collect_eq_ok_iff f idx rs).trans Pointwise.eq_iff_map.symm

theorem collect_eq_error {α : Type} {f : Nat → Except E α} {idx : List Nat} {e : E}
    (h : collect f idx = .error e) : ∃ k ∈ idx, f k = .error e := by
  obtain ⟨a, k, b, rfl, _, hk⟩ := (collect_eq_error_iff f _ e).mp h
  exact ⟨k, List.mem_append_right a List.mem_cons_self, hk⟩

/-- the filtered document as an indexed map -/
theorem filteredFrom_eq (res : Option Result) (src : Source) (i : Nat) :
    filteredFrom res i src =
      src.mapIdx fun k o => o.map fun rp => { rp with frags := filterWith res (i + k) rp } := by
  fun_induction filteredFrom res i src with
  | case1 => rfl
  | case2 i rest ih => rw [List.mapIdx_cons, ih]; simp only [Nat.add_right_comm i 1, Nat.add_assoc]; rfl
  | case3 i rp rest ih => rw [List.mapIdx_cons, ih]; simp only [Nat.add_right_comm i 1, Nat.add_assoc]; rfl

theorem filteredSource_length (src : Source) : (filteredSource src).length = src.length := by
  rw [filteredSource, filteredFrom_eq, List.length_mapIdx]

theorem filteredSource_getElem? (src : Source) (k : Nat) :
    (filteredSource src)[k]? =
      (src[k]?).map fun o => o.map fun rp => { rp with frags := filterWith (hfResult exclOn src) k rp } := by
  rw [filteredSource, filteredFrom_eq, List.getElem?_mapIdx]
  simp only [Nat.zero_add]

theorem readPage_filteredSource (src : Source) (k : Nat) :
    readPage (filteredSource src) k =
      (readPage src k).map fun rp => { rp with frags := filterWith (hfResult exclOn src) k rp } := by
  unfold readPage
  rw [filteredSource_getElem?]
  cases src[k]? with
  | none => rfl
  | some ov => cases ov <;> rfl

theorem needHF_exclOn : needHF exclOn = true := rfl

/-- `hfResult` looks at the two flags only through `needHF` -/
theorem hfResult_congr {o o' : Options} (h : needHF o = needHF o') (src : Source) :
    hfResult o src = hfResult o' src := by
  unfold hfResult; rw [h]

theorem hfResult_off {o : Options} (h : needHF o = false) (src : Source) : hfResult o src = none := by
  unfold hfResult; simp [h]

/-- `Text()` is one more page-level operation: its page pipeline works on `pageInput o src k`, the
fragments every layout operation hands its detector (then the OCR fallback on an empty page, else the
assembler of the mode) -/
theorem pageText_textEnv (R : Renderers) (o : Options) (src : Source) (k : Nat) :
    pageText (textEnv R src) o k =
      match pageInput o src k with
      | .error e => .error e
      | .ok fr =>
        match (if fr.isEmpty then (R.ocr k).filter (· ≠ []) else none) with
        | some t => .ok t
        | none => .ok (R.render (textMode o (charLevelRoot fr) (multiColRoot R (widthOf src k) k fr)) k fr) := by
  unfold pageText pageInput
  simp only [textEnv]
  cases hs : readPage src k with
  | error e => rfl
  | ok rp =>
    have hfr : (if needHF o = true then filterWith (hfResult exclOn src) k { height := heightOf src k, frags := rp.frags }
        else rp.frags) = filterWith (hfResult o src) k rp := by
      cases hn : needHF o with
      | false => rw [hfResult_off hn]; rfl
      | true =>
        rw [hfResult_congr (hn.trans needHF_exclOn.symm), if_pos rfl, heightOf, readPage_ok.mp hs]
        rfl
    simp only [Except.map, hfr]
    rfl

/-- the wrapper analyses `excludePage` of the page at position `j` as soon as THAT page's `PageIndex` is its
position (the filter is asked about page number `j`, the regions list `PageIndex` values) -/
theorem analyzeWithHFInput_of_index {pages : List Page} {j : Nat} {p : Page} (hp : pages[j]? = some p)
    (hidx : p.index = (j : Int)) :
    analyzeWithHFInput pages (j : Int) = some (excludePage defaultConfig pages p) := by
  have hj : j < pages.length := (List.getElem?_eq_some_iff.mp hp).1
  have hne : pages.isEmpty = false := by cases pages with | nil => simp at hj | cons _ _ => rfl
  unfold analyzeWithHFInput
  have h1 : decide ((j : Int) < 0) = false := by simp
  have h2 : decide ((j : Int) ≥ (pages.length : Int)) = false := by simp; omega
  simp only [hne, h1, h2, Bool.or_false, Bool.false_eq_true, if_false, Int.toNat_natCast, hp]
  unfold excludePage
  rw [hidx]

end Tabula.HFX
