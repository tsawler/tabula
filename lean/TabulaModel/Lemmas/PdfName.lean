import TabulaModel.Model.Print
import TabulaModel.Model.CSParser
/-! Names: `#`-escaping round trip for both parsers, and their agreement. -/
namespace Tabula.Pdf
namespace Nm

theorem hexDigitChar_facts (u : Bool) (v : Nat) (hv : v < 16) :
    isHexDigit (hexDigitChar u v) = true ∧ hexValue (hexDigitChar u v) = v := by
  revert u v
  decide

theorem nameLoop_raw (b : Nat) (r : Str) (h1 : isWs b = false) (h2 : isDelim b = false) (h3 : b ≠ 35) :
    nameLoop (b :: r) = pre [b] (nameLoop r) := by
  rw [nameLoop.eq_def]
  simp [h1, h2, h3]

theorem nameLoop_term (c : Nat) (r : Str) (h : (isWs c || isDelim c) = true) :
    nameLoop (c :: r) = some ([], c :: r) := by
  rw [nameLoop.eq_def]
  simp [h]

theorem nameLoop_hash (h1 h2 : Nat) (r : Str) :
    nameLoop (35 :: h1 :: h2 :: r) =
      if (isHexDigit h1 && isHexDigit h2) = true then pre [hexValue h1 * 16 + hexValue h2] (nameLoop r) else none := by
  rw [nameLoop.eq_def]
  have hw : isWs 35 = false := by decide
  have hd : isDelim 35 = false := by decide
  simp [hw, hd]

theorem nameLoop_hash1 (a : Nat) : nameLoop [35, a] = none := by
  rw [nameLoop.eq_def]
  have hw : isWs 35 = false := by decide
  have hd : isDelim 35 = false := by decide
  simp [hw, hd]

theorem nameLoop_hash0 : nameLoop [35] = none := by
  rw [nameLoop.eq_def]
  have hw : isWs 35 = false := by decide
  have hd : isDelim 35 = false := by decide
  simp [hw, hd]

theorem cs_nameLoop_raw (b : Nat) (r : Str) (h1 : isWs b = false) (h2 : isDelim b = false) (h3 : b ≠ 35) :
    CS.nameLoop (b :: r) = (b :: (CS.nameLoop r).1, (CS.nameLoop r).2) := by
  rw [CS.nameLoop.eq_def]
  simp [h1, h2, h3]

theorem cs_nameLoop_term (c : Nat) (r : Str) (h : (isWs c || isDelim c) = true) :
    CS.nameLoop (c :: r) = ([], c :: r) := by
  rw [CS.nameLoop.eq_def]
  simp [h]

theorem cs_nameLoop_hash (h1 h2 : Nat) (r : Str) (h : (isHexDigit h1 && isHexDigit h2) = true) :
    CS.nameLoop (35 :: h1 :: h2 :: r) =
      ((hexValue h1 * 16 + hexValue h2) :: (CS.nameLoop r).1, (CS.nameLoop r).2) := by
  rw [CS.nameLoop.eq_def]
  have hw : isWs 35 = false := by decide
  have hd : isDelim 35 = false := by decide
  simp [hw, hd, h]

theorem nameLoop_esc (b : Nat) (u1 u2 : Bool) (r : Str) (hb : b < 256) :
    nameLoop (35 :: hexDigitChar u1 (b / 16) :: hexDigitChar u2 (b % 16) :: r) = pre [b] (nameLoop r) := by
  have f1 := hexDigitChar_facts u1 (b / 16) (by omega)
  have f2 := hexDigitChar_facts u2 (b % 16) (by omega)
  rw [nameLoop_hash]
  simp only [f1.1, f2.1, Bool.and_self, if_true, f1.2, f2.2]
  have : b / 16 * 16 + b % 16 = b := by omega
  rw [this]

theorem nameLoop_end (tail : Str) (h : Terminated tail) : nameLoop tail = some ([], tail) := by
  rcases h with h | ⟨c, r, h, hc⟩
  · subst h; rfl
  · subst h; exact nameLoop_term c r hc

end Nm

/-- the document-level lexer reads every legal spelling of a name back as the bytes meant -/
theorem nameLoop_roundtrip (ps : List NPiece) (tail : Str) (hok : ∀ p ∈ ps, p.Ok) (ht : Terminated tail) :
    nameLoop (renderName ps ++ tail) = some (ps.map NPiece.byte, tail) := by
  induction ps with
  | nil => simpa [renderName] using Nm.nameLoop_end tail ht
  | cons p ps ih =>
    have hp := hok p (by simp)
    have ih' := ih (fun q hq => hok q (by simp [hq]))
    simp only [renderName] at ih'
    cases p with
    | raw b =>
      obtain ⟨h1, h2, h3⟩ := hp
      simp only [renderName, List.flatMap_cons, NPiece.render, List.cons_append, List.nil_append, List.map_cons,
        NPiece.byte]
      rw [Nm.nameLoop_raw b _ h1 h2 h3, ih']; rfl
    | esc b u1 u2 =>
      simp only [renderName, List.flatMap_cons, NPiece.render, List.cons_append, List.nil_append, List.map_cons,
        NPiece.byte]
      rw [Nm.nameLoop_esc b u1 u2 _ hp, ih']; rfl

/-- whenever the document-level lexer accepts a name, the content-stream reader gives the same
bytes and stops at the same place -/
theorem cs_nameLoop_agree (inp v r : Str) (h : nameLoop inp = some (v, r)) : CS.nameLoop inp = (v, r) := by
  fun_induction nameLoop inp generalizing v with
  | case1 => cases h; rw [CS.nameLoop]
  | case2 c r0 hterm => cases h; exact Nm.cs_nameLoop_term c r0 hterm
  | case3 a b r' hhex _ ih =>
    cases hr : nameLoop r' with
    | none => rw [hr] at h; cases h
    | some p => rw [hr] at h; cases h; rw [Nm.cs_nameLoop_hash a b r' hhex, ih p.1 hr]; rfl
  | case4 | case5 => cases h
  | case6 c r0 hterm h35 ih =>
    obtain ⟨h1, h2⟩ : isWs c = false ∧ isDelim c = false := by simpa using hterm
    cases hr : nameLoop r0 with
    | none => rw [hr] at h; cases h
    | some p => rw [hr] at h; cases h; rw [Nm.cs_nameLoop_raw c r0 h1 h2 h35, ih p.1 hr]; rfl

/-- so the content-stream reader has the same round trip -/
theorem cs_nameLoop_roundtrip (ps : List NPiece) (tail : Str) (hok : ∀ p ∈ ps, p.Ok) (ht : Terminated tail) :
    CS.nameLoop (renderName ps ++ tail) = (ps.map NPiece.byte, tail) :=
  cs_nameLoop_agree _ _ _ (nameLoop_roundtrip ps tail hok ht)

/-- every byte string has a legal spelling as a name -/
theorem canonNPiece_ok (bs : Str) (h : ∀ b ∈ bs, b < 256) :
    (∀ p ∈ bs.map canonNPiece, p.Ok) ∧ (bs.map canonNPiece).map NPiece.byte = bs := by
  constructor
  · intro p hp
    simp only [List.mem_map] at hp
    obtain ⟨b, hb, rfl⟩ := hp
    unfold canonNPiece
    split
    · rename_i hc; exact ⟨hc.1, hc.2.1, hc.2.2.1⟩
    · exact h b hb
  · induction bs with
    | nil => rfl
    | cons b bs ih =>
      simp only [List.map_cons, List.map_map] at ih ⊢
      rw [ih (fun x hx => h x (by simp [hx]))]
      congr 1
      unfold canonNPiece; split <;> rfl

end Tabula.Pdf
