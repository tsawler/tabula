import TabulaModel.Model.XrefFile
import TabulaModel.Lemmas.PdfParse
/-!
`ParseIndirectObject` reads back an indirect object laid out as ISO 32000-1 7.3.10 / 7.3.8
prescribe: `N G obj value endobj` and `N G obj dictionary stream EOL data EOL endstream endobj`.
-/
namespace Tabula.XrefFile
open Tabula.Pdf Tabula.A1 Tabula.Pdf.Prs Tabula.Reader

/-- a keyword (any word but `R`) in front of a delimiter or white space -/
theorem nextToken_keyword (b : Nat) (v rest : Str) (hb : isAlpha b = true) (hv : ∀ c ∈ v, isAlnum c = true)
    (hne : b :: v ≠ [82]) (hT : Terminated rest) :
    nextToken (b :: v ++ rest) = some (.keyword (b :: v), rest) := by
  rw [Tok.nextToken_word b v rest hb hv hT, if_neg hne]

theorem kw_starts (pre : Sep) (b : Nat) (v rest : Str) (hp : SepOk pre) (hb : isAlpha b = true)
    (hv : ∀ c ∈ v, isAlnum c = true) (hne : b :: v ≠ [82]) (hns : b :: v ≠ kwStream) (hT : Terminated rest) :
    Starts (renderSep pre ++ (b :: v ++ rest)) (.keyword (b :: v)) rest :=
  starts_tok pre _ _ _ hp (nextToken_keyword b v rest hb hv hne hT) (fun _ e => nomatch e)
    (fun e => hns (Token.keyword.inj e))

theorem stateAt_stream (pre : Sep) (rest : Str) (hp : SepOk pre) (hT : Terminated rest) :
    stateAt (renderSep pre ++ (kwStream ++ rest)) =
      { cur := some (.keyword kwStream), peek := none, inp := rest, err := false } := by
  have hlex : lexSkip ((renderSep pre ++ (kwStream ++ rest)).length + 1) (renderSep pre ++ (kwStream ++ rest)) =
      some (.keyword kwStream, rest) :=
    lexSkip_sep pre _ _ _ _ hp
      (nextToken_keyword 115 [116, 114, 101, 97, 109] rest (by decide) (by decide) (by decide) hT)
      (fun _ e => nomatch e)
      (Nat.succ_le_succ (Nat.le_trans (sep_len pre) (by rw [List.length_append]; exact Nat.le_add_right ..)))
  rw [stateAt_def, half_of_lex _ _ _ hlex]
  simp [PState.next]

/-- the end-of-line marker that must follow `stream`: LF or CR LF -/
inductive StreamEol | lf | crlf
  deriving DecidableEq, Repr

def StreamEol.bytes : StreamEol → Str
  | .lf => [10]
  | .crlf => [13, 10]

theorem skipStreamEOL_bytes (e : StreamEol) (r : Str) : skipStreamEOL (e.bytes ++ r) = some r := by
  cases e <;> simp [StreamEol.bytes, skipStreamEOL]

theorem streamEol_terminated (e : StreamEol) (r : Str) : Terminated (e.bytes ++ r) := by
  cases e
  · exact term_cons 10 _ (by decide)
  · exact term_cons 13 _ (by decide)

/-- what stands between `obj` and `endobj` -/
inductive Body
  | plain (val : SObj) (s3 : Sep)
  | stream (pre : Sep) (kvs : List SObj) (close : Sep) (s3 : Sep) (seol : StreamEol) (data : Str)
      (w4 : Str) (s5 : Sep)

def Body.render (rest : Str) : Body → Str
  | .plain val s3 => val.render ++ (renderSep s3 ++ (kwEndobj ++ rest))
  | .stream pre kvs close s3 seol data w4 s5 =>
    (SObj.dict pre kvs close).render ++ (renderSep s3 ++ (kwStream ++ (seol.bytes ++ (data ++
      (w4 ++ (kwEndstream ++ (renderSep s5 ++ (kwEndobj ++ rest))))))))

def Body.value : Body → PVal
  | .plain val _ => .obj val.value
  | .stream _ kvs _ _ _ data _ _ => .stream (valueKVs kvs) data

/-- legality of the layout; `lenOf` is the resolver for an indirect `/Length` -/
def Body.Ok (lenOf : Int → Option Int) : Body → Prop
  | .plain val s3 =>
    val.Valid true ∧ val.value.depth ≤ maxNestingDepth ∧ SepOk s3 ∧ (val.endsRegular = true → s3 ≠ [])
  | .stream pre kvs close s3 _ data w4 s5 =>
    (SObj.dict pre kvs close).Valid true ∧ (SObj.dict pre kvs close).value.depth ≤ maxNestingDepth ∧
    SepOk s3 ∧ AllWs w4 ∧ SepOk s5 ∧ s5 ≠ [] ∧
    (dget (valueKVs kvs) kLength = some (.int data.length) ∨
      ∃ n g, dget (valueKVs kvs) kLength = some (.ref n g) ∧ lenOf n = some (data.length : Int))

/-- `N s1 G s2 obj` body `endobj` rest -/
def renderIndirect (num gen : Nat) (s1 s2 : Sep) (b : Body) (rest : Str) : Str :=
  dec num ++ (renderSep s1 ++ (dec gen ++ (renderSep s2 ++ (kwObj ++ b.render rest))))

theorem starts_endobj (pre : Sep) (rest : Str) (hp : SepOk pre) (hT : Terminated rest) :
    Starts (renderSep pre ++ (kwEndobj ++ rest)) (.keyword kwEndobj) rest :=
  kw_starts pre 101 [110, 100, 111, 98, 106] rest hp (by decide) (by decide) (by decide) (by decide) hT

theorem firstNotR_kw {inp : Str} {k : Str} (h : (stateAt inp).cur = some (.keyword k)) : FirstNotR inp := by
  unfold FirstNotR; rw [h]; intro e; cases e

theorem noRefAhead_kw {inp : Str} {k : Str} (h : (stateAt inp).cur = some (.keyword k)) : NoRefAhead inp := by
  intro vb b hc _; rw [h] at hc; cases hc

theorem body_terminated (lenOf : Int → Option Int) (b : Body) (rest : Str) (h : b.Ok lenOf) :
    Terminated (b.render rest) := by
  cases b with
  | plain val s3 => exact term_obj val true h.1 _ (Or.inl rfl)
  | stream pre kvs close s3 seol data w4 s5 => exact term_obj _ true h.1 _ (Or.inl rfl)

/-- the parser's fuel covers every object spelled somewhere in the input -/
theorem fuel_of_infix (so : SObj) (inp : Str) (h : so.render <:+: inp) : so.size ≤ fuelFor inp := by
  have h1 := size_le so
  have h2 := h.length_le
  rw [fuelFor]
  omega

theorem fuel_ok (so : SObj) (a b c d e X : Str) :
    so.size ≤ fuelFor (a ++ (b ++ (c ++ (d ++ (e ++ (so.render ++ X)))))) :=
  fuel_of_infix so _ ⟨a ++ (b ++ (c ++ (d ++ e))), X, by simp only [List.append_assoc]⟩

/-- the head `N G obj` of an indirect object: what follows is read by `indirectBody` -/
theorem parseIndirect_head (lenOf : Int → Option Int) (num gen : Nat) (s1 s2 : Sep) (body : Str)
    (hn : num ≤ maxInt64) (hg : gen ≤ maxInt64)
    (h1 : SepOk s1) (h1n : s1 ≠ []) (h2 : SepOk s2) (h2n : s2 ≠ []) (hT : Terminated body) :
    parseIndirect (dec num ++ (renderSep s1 ++ (dec gen ++ (renderSep s2 ++ (kwObj ++ body))))) lenOf =
      indirectBody (fuelFor (dec num ++ (renderSep s1 ++ (dec gen ++ (renderSep s2 ++ (kwObj ++ body))))))
        (num : Int) (gen : Int) (stateAt body) lenOf := by
  have st0 := starts_dec [] num (renderSep s1 ++ (dec gen ++ (renderSep s2 ++ (kwObj ++ body))))
    (fun _ hu => nomatch hu) (sep_terminated s1 _ h1 h1n)
  rw [show renderSep [] = [] from rfl, List.nil_append] at st0
  have st1 := starts_dec s1 gen (renderSep s2 ++ (kwObj ++ body)) h1 (sep_terminated s2 _ h2 h2n)
  have st2 : Starts (renderSep s2 ++ (kwObj ++ body)) (.keyword kwObj) body :=
    kw_starts s2 111 [98, 106] body h2 (by decide) (by decide) (by decide) (by decide) hT
  rw [parseIndirect, show newParser _ = stateAt _ from rfl]
  simp only [st0.cur, atoi_dec num hn, st0.next, st1.cur, atoi_dec gen hg, st1.next, st2.cur, st2.next,
    if_true]

theorem indirectBody_plain (f : Nat) (num gen : Int) (lenOf : Int → Option Int) (val : SObj) (s3 : Sep)
    (rest : Str) (hv : val.Valid true) (hd : val.value.depth ≤ maxNestingDepth) (h3 : SepOk s3)
    (h3n : val.endsRegular = true → s3 ≠ []) (hT : Terminated rest) (hf : val.size ≤ f) :
    indirectBody f num gen (stateAt (val.render ++ (renderSep s3 ++ (kwEndobj ++ rest)))) lenOf =
      some (num, gen, .obj val.value) := by
  have st3 := starts_endobj s3 rest h3 hT
  rw [indirectBody, parse_roundtrip val true _ f 0 hv hf (by rw [Nat.zero_add]; exact hd)
    (fun he => sep_terminated s3 _ h3 (h3n he)) (firstNotR_kw st3.cur) (noRefAhead_kw st3.cur)]
  simp only [st3.cur]
  rw [if_neg (fun h => absurd (Token.keyword.inj (Option.some.inj h)) (by decide)), if_pos trivial]

/-- a dictionary, then `stream`: the data is read by `parseStreamData`, then comes `endobj` -/
theorem indirectBody_stream (f : Nat) (num gen : Int) (lenOf : Int → Option Int) (pre : Sep)
    (kvs : List SObj) (close s3 : Sep) (after : Str) (hv : (SObj.dict pre kvs close).Valid true)
    (hd : (SObj.dict pre kvs close).value.depth ≤ maxNestingDepth) (h3 : SepOk s3)
    (hT : Terminated after) (hf : (SObj.dict pre kvs close).size ≤ f) :
    indirectBody f num gen
        (stateAt ((SObj.dict pre kvs close).render ++ (renderSep s3 ++ (kwStream ++ after)))) lenOf =
      (parseStreamData (valueKVs kvs)
        { cur := some (.keyword kwStream), peek := none, inp := after, err := false } lenOf).bind
        fun p => if p.2.cur = some (.keyword kwEndobj) then some (num, gen, .stream (valueKVs kvs) p.1)
          else none := by
  have hst := stateAt_stream s3 after h3 hT
  have hcur : (stateAt (renderSep s3 ++ (kwStream ++ after))).cur = some (.keyword kwStream) := by
    rw [hst]
  rw [indirectBody, parse_roundtrip (SObj.dict pre kvs close) true
    (renderSep s3 ++ (kwStream ++ after)) f 0 hv hf (by rw [Nat.zero_add]; exact hd)
    (fun he => by simp [SObj.endsRegular] at he) (firstNotR_kw hcur) (noRefAhead_kw hcur), hst]
  simp only [SObj.value, if_true]
  cases parseStreamData (valueKVs kvs) _ lenOf <;> rfl

theorem parseStreamData_unresolved (kv : Dict) (s : PState) (lenOf : Int → Option Int) (m g : Int)
    (h : dget kv kLength = some (.ref m g)) (hl : lenOf m = none) : parseStreamData kv s lenOf = none := by
  simp only [parseStreamData, h, hl]

/-- `/Length` (direct, or as the resolver answers) is the number of data bytes; behind the data
come white space and `endstream` -/
theorem parseStreamData_data (kv : Dict) (lenOf : Int → Option Int) (seol : StreamEol) (data w4 : Str)
    (s5 : Sep) (rest : Str) (cur peek : Option Token) (h4 : AllWs w4) (h5 : SepOk s5) (h5n : s5 ≠ [])
    (hlen : dget kv kLength = some (.int data.length) ∨
      ∃ n g, dget kv kLength = some (.ref n g) ∧ lenOf n = some (data.length : Int)) :
    parseStreamData kv
        { cur := cur, peek := peek, err := false,
          inp := seol.bytes ++ (data ++ (w4 ++ (kwEndstream ++ (renderSep s5 ++ rest)))) } lenOf =
      some (data, stateAt (renderSep s5 ++ rest)) := by
  have hend : nextToken (w4 ++ (kwEndstream ++ (renderSep s5 ++ rest))) =
      some (.keyword kwEndstream, renderSep s5 ++ rest) := by
    rw [nextToken_ws w4 _ h4]
    exact nextToken_keyword 101 [110, 100, 115, 116, 114, 101, 97, 109] (renderSep s5 ++ rest)
      (by decide) (by decide) (by decide) (sep_terminated s5 _ h5 h5n)
  have hnl : ¬ ((data.length : Int) < 0) := Int.not_lt.2 (Int.natCast_nonneg _)
  have hshort : ¬ ((data ++ (w4 ++ (kwEndstream ++ (renderSep s5 ++ rest)))).length < data.length) := by
    rw [List.length_append]; exact Nat.not_lt.2 (Nat.le_add_right ..)
  rcases hlen with h | ⟨n, g, h, hl⟩
  · simp only [parseStreamData, h, hnl, if_false, skipStreamEOL_bytes, Int.toNat_natCast, hshort,
      List.drop_left, List.take_left, hend, if_true]
    rfl
  · simp only [parseStreamData, h, hl, hnl, if_false, skipStreamEOL_bytes, Int.toNat_natCast, hshort,
      List.drop_left, List.take_left, hend, if_true]
    rfl

theorem parseIndirect_render (lenOf : Int → Option Int) (num gen : Nat) (s1 s2 : Sep) (b : Body) (rest : Str)
    (hn : num ≤ maxInt64) (hg : gen ≤ maxInt64)
    (h1 : SepOk s1) (h1n : s1 ≠ []) (h2 : SepOk s2) (h2n : s2 ≠ [])
    (hb : b.Ok lenOf) (hT : Terminated rest) :
    parseIndirect (renderIndirect num gen s1 s2 b rest) lenOf = some ((num : Int), (gen : Int), b.value) := by
  rw [renderIndirect, parseIndirect_head lenOf num gen s1 s2 _ hn hg h1 h1n h2 h2n
    (body_terminated lenOf b rest hb)]
  cases b with
  | plain val s3 =>
    obtain ⟨hv, hd, h3, h3n⟩ := hb
    exact indirectBody_plain _ _ _ lenOf val s3 rest hv hd h3 h3n hT (fuel_ok val ..)
  | stream pre kvs close s3 seol data w4 s5 =>
    obtain ⟨hv, hd, h3, h4, h5, h5n, hlen⟩ := hb
    rw [Body.render, indirectBody_stream _ _ _ lenOf pre kvs close s3 _ hv hd h3
      (streamEol_terminated seol _) (fuel_ok _ ..),
      parseStreamData_data _ lenOf seol data w4 s5 _ _ _ h4 h5 h5n hlen]
    simp only [Option.bind_some, (starts_endobj s5 rest h5 hT).cur, if_true, Body.value]

/-- the layout of a stream object whose `/Length` is the reference `m g R` — everything
`Body.Ok` asks for except the resolver's answer -/
def Body.OkRef (m g : Int) : Body → Prop
  | .plain _ _ => False
  | .stream pre kvs close s3 _ _ w4 s5 =>
    (SObj.dict pre kvs close).Valid true ∧ (SObj.dict pre kvs close).value.depth ≤ maxNestingDepth ∧
    SepOk s3 ∧ AllWs w4 ∧ SepOk s5 ∧ s5 ≠ [] ∧ dget (valueKVs kvs) kLength = some (.ref m g)

/-- the number of data bytes of a stream layout -/
def Body.dataLen : Body → Nat
  | .plain _ _ => 0
  | .stream _ _ _ _ _ data _ _ => data.length

theorem Body.OkRef.ok {b : Body} {m g : Int} (h : b.OkRef m g) (lenOf : Int → Option Int)
    (hl : lenOf m = some (b.dataLen : Int)) : b.Ok lenOf := by
  cases b with
  | plain val s3 => exact h.elim
  | stream pre kvs close s3 seol data w4 s5 =>
    obtain ⟨a1, a2, a3, a4, a5, a6, a7⟩ := h
    exact ⟨a1, a2, a3, a4, a5, a6, Or.inr ⟨m, g, a7, hl⟩⟩

/-- **an indirect `/Length` that is not answered is an error**: the same layout as in
`parseIndirect_render`, but the resolver has no integer for the `/Length` reference (the
object is missing, not an integer, or — since 129dd3d — nested too deep):
`ParseIndirectObject` fails -/
theorem parseIndirect_render_unresolved (lenOf : Int → Option Int) (num gen : Nat) (s1 s2 : Sep) (b : Body)
    (rest : Str) (m g : Int) (hn : num ≤ maxInt64) (hg : gen ≤ maxInt64)
    (h1 : SepOk s1) (h1n : s1 ≠ []) (h2 : SepOk s2) (h2n : s2 ≠ [])
    (hb : b.OkRef m g) (hl : lenOf m = none) (hT : Terminated rest) :
    parseIndirect (renderIndirect num gen s1 s2 b rest) lenOf = none := by
  cases b with
  | plain val s3 => exact hb.elim
  | stream pre kvs close s3 seol data w4 s5 =>
    obtain ⟨hv, hd, h3, _, _, _, hlen⟩ := hb
    rw [renderIndirect, Body.render, parseIndirect_head lenOf num gen s1 s2 _ hn hg h1 h1n h2 h2n
        (term_obj _ true hv _ (Or.inl rfl)),
      indirectBody_stream _ _ _ lenOf pre kvs close s3 _ hv hd h3
        (streamEol_terminated seol _) (fuel_ok _ ..),
      parseStreamData_unresolved _ _ lenOf m g hlen hl]
    rfl

end Tabula.XrefFile
