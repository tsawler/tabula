import TabulaModel.Lemmas.WorkbookTable
/-!
Reading a cell back out of the Markdown table the xlsx reader writes (C17): a reader of GFM
pipe-table lines (`\|` is a literal pipe), and `read ∘ write = id` up to the padding spaces and
the newline-to-space replacement of `escapeMarkdown`.
-/
namespace Tabula.Wb
open Tabula.A1 Tabula.Sheet

def escChar (c : Nat) : Str := if c = 124 then [92, 124] else if c = 10 then [32] else [c]

theorem escapeMarkdown_eq (s : Str) : escapeMarkdown s = s.flatMap escChar := by
  unfold escapeMarkdown replaceByte
  rw [List.flatMap_assoc]
  congr 1
  funext c
  unfold escChar
  by_cases h1 : c = 124
  · subst h1; simp
  · by_cases h2 : c = 10
    · subst h2; simp
    · simp [h1, h2]

/-- what a reader gets back: the value with newlines turned into spaces -/
def nl2sp (s : Str) : Str := s.map fun c => if c = 10 then 32 else c

theorem escapeMarkdown_nil : escapeMarkdown [] = [] := rfl

theorem escapeMarkdown_cons (c : Nat) (s : Str) : escapeMarkdown (c :: s) = escChar c ++ escapeMarkdown s := by
  rw [escapeMarkdown_eq, escapeMarkdown_eq, List.flatMap_cons]

theorem not_mem_escChar (c : Nat) : 10 ∉ escChar c := by
  unfold escChar
  split
  · simp
  · split
    · simp
    · rename_i h; simpa using fun h' => h h'.symm

theorem not_mem_escapeMarkdown (s : Str) : 10 ∉ escapeMarkdown s := by
  rw [escapeMarkdown_eq]
  simp only [List.mem_flatMap, not_exists, not_and]
  intro c _
  exact not_mem_escChar c

/-- split the body of a pipe-table line (what follows the leading `|`) into its cells: a pipe
ends a cell, backslash-pipe is a literal pipe; text after the last pipe is a cell only if not
empty -/
def mdSplitAux : Str → Str → List Str
  | [], cur => if cur.isEmpty then [] else [cur.reverse]
  | c :: rest, cur =>
    if c = 92 then
      match rest with
      | [] => mdSplitAux [] (92 :: cur)
      | d :: rest' => if d = 124 then mdSplitAux rest' (124 :: cur) else mdSplitAux (d :: rest') (92 :: cur)
    else if c = 124 then cur.reverse :: mdSplitAux rest []
    else mdSplitAux rest (c :: cur)
termination_by s => s.length
decreasing_by all_goals simp_wf <;> omega

theorem mdSplitAux_plain (c : Nat) (rest cur : Str) (h1 : c ≠ 92) (h2 : c ≠ 124) :
    mdSplitAux (c :: rest) cur = mdSplitAux rest (c :: cur) := by
  rw [mdSplitAux.eq_def]; simp [h1, h2]

theorem mdSplitAux_pipe (rest cur : Str) :
    mdSplitAux (124 :: rest) cur = cur.reverse :: mdSplitAux rest [] := by
  rw [mdSplitAux.eq_def]; simp

theorem mdSplitAux_esc (rest cur : Str) :
    mdSplitAux (92 :: 124 :: rest) cur = mdSplitAux rest (124 :: cur) := by
  rw [mdSplitAux.eq_def]; simp

theorem mdSplitAux_bs (d : Nat) (rest cur : Str) (h : d ≠ 124) :
    mdSplitAux (92 :: d :: rest) cur = mdSplitAux (d :: rest) (92 :: cur) := by
  rw [mdSplitAux.eq_def]; simp [h]

/-- an escaped value followed by the closing space never starts with a pipe -/
theorem esc_head (t rest : Str) : ∃ h tl, escapeMarkdown t ++ 32 :: rest = h :: tl ∧ h ≠ 124 := by
  cases t with
  | nil => exact ⟨32, rest, rfl, by decide⟩
  | cons c t =>
    rw [escapeMarkdown_cons]
    unfold escChar
    split
    · exact ⟨92, _, rfl, by decide⟩
    · split
      · exact ⟨32, _, rfl, by decide⟩
      · rename_i h _; exact ⟨c, _, rfl, h⟩

theorem mdSplitAux_value (t rest cur : Str) :
    mdSplitAux (escapeMarkdown t ++ 32 :: rest) cur = mdSplitAux (32 :: rest) ((nl2sp t).reverse ++ cur) := by
  induction t generalizing cur with
  | nil => rfl
  | cons c t ih =>
    rw [escapeMarkdown_cons]
    by_cases h1 : c = 124
    · subst h1
      simp only [escChar, if_true, List.cons_append, List.nil_append]
      rw [mdSplitAux_esc, ih]
      simp [nl2sp]
    · by_cases h2 : c = 10
      · subst h2
        simp only [escChar, h1, if_false, if_true, List.cons_append, List.nil_append]
        rw [mdSplitAux_plain 32 _ _ (by decide) (by decide), ih]
        simp [nl2sp]
      · simp only [escChar, h1, h2, if_false, List.cons_append, List.nil_append]
        by_cases h3 : c = 92
        · subst h3
          obtain ⟨h, tl, e, hne⟩ := esc_head t rest
          rw [e, mdSplitAux_bs h tl cur hne, ← e, ih]
          simp [nl2sp]
        · rw [mdSplitAux_plain c _ _ h3 h1, ih]
          simp [nl2sp, h2]

/-- a cell as it is read back: the padding spaces around the value -/
def pad (t : Str) : Str := 32 :: nl2sp t ++ [32]

/-- one cell " value |" -/
def cellStr (t : Str) : Str := [32] ++ escapeMarkdown t ++ [32, 124]

theorem mdSplitAux_cell (t rest : Str) :
    mdSplitAux (cellStr t ++ rest) [] = pad t :: mdSplitAux rest [] := by
  unfold cellStr pad
  simp only [List.cons_append, List.nil_append, List.append_assoc]
  rw [mdSplitAux_plain 32 _ _ (by decide) (by decide), mdSplitAux_value,
    mdSplitAux_plain 32 _ _ (by decide) (by decide), mdSplitAux_pipe]
  simp

theorem mdSplitAux_cells (ts : List Str) (rest : Str) :
    mdSplitAux (ts.flatMap cellStr ++ rest) [] = ts.map pad ++ mdSplitAux rest [] := by
  induction ts with
  | nil => rfl
  | cons t ts ih =>
    simp only [List.flatMap_cons, List.append_assoc, List.map_cons, List.cons_append]
    rw [mdSplitAux_cell, ih]

/-- **read ∘ write for one line**: the body of `ptRow cells` splits into the padded cells -/
theorem mdSplit_row (ts : List Str) : mdSplitAux (ts.flatMap cellStr) [] = ts.map pad := by
  have := mdSplitAux_cells ts []
  simpa [mdSplitAux] using this

/-- a line that begins with a pipe is a table line; its cells -/
def mdParseLine : Str → Option (List Str)
  | [] => none
  | c :: body => if c = 124 then some (mdSplitAux body []) else none

/-- the delimiter row is the table's second line -/
def dropSecond {α : Type} : List α → List α
  | a :: _ :: rest => a :: rest
  | l => l

/-- **reader of a Markdown text that holds one pipe table**: the lines that begin with a pipe,
the delimiter row dropped, each split into its cells -/
def mdReadTable (md : Str) : List (List Str) := dropSecond ((splitOn 10 md).filterMap mdParseLine)

/-- a line with its newline -/
def nl (l : Str) : Str := l ++ [10]

/-- lines with their newlines, then anything: the lines, then the lines of the rest -/
theorem splitOn_lines (ls : List Str) (rest : Str) (hls : ∀ l ∈ ls, 10 ∉ l) :
    splitOn 10 (ls.flatMap nl ++ rest) = ls ++ splitOn 10 rest := by
  induction ls with
  | nil => rfl
  | cons l ls ih =>
    rw [List.flatMap_cons, nl, List.append_assoc, List.append_assoc, List.singleton_append, splitOn_append_sep,
      splitOn_clean 10 l (hls l (by simp)), ih fun x hx => hls x (by simp [hx])]
    rfl

/-- a table line without its newline -/
def rowLine (cells : List Str) : Str := 124 :: cells.flatMap cellStr

theorem ptRow_eq (cells : List Str) : ptRow cells = rowLine cells ++ [10] := rfl

theorem not_mem_rowLine (cells : List Str) : 10 ∉ rowLine cells := by
  unfold rowLine cellStr
  simp only [List.mem_cons, List.mem_flatMap, List.mem_append, not_or, not_exists, not_and]
  refine ⟨by decide, ?_⟩
  intro t _
  refine ⟨⟨by decide, not_mem_escapeMarkdown t⟩, by decide, by decide, ?_⟩
  simp

theorem mdParseLine_rowLine (cells : List Str) : mdParseLine (rowLine cells) = some (cells.map pad) := by
  unfold rowLine mdParseLine
  simp [mdSplit_row]

/-- the delimiter line "|---|---|" without its newline -/
def sepLine {α : Type} (hdr : List α) : Str := 124 :: hdr.flatMap (fun _ => [45, 45, 45, 124])

theorem not_mem_sepLine {α : Type} (hdr : List α) : 10 ∉ sepLine hdr := by
  unfold sepLine
  simp only [List.mem_cons, List.mem_flatMap, not_or, not_exists, not_and]
  refine ⟨by decide, ?_⟩
  intro _ _
  decide

theorem mdParseLine_sepLine {α : Type} (hdr : List α) : (mdParseLine (sepLine hdr)).isSome = true := by
  unfold sepLine mdParseLine; simp

/-- the lines of `ParsedTable.ToMarkdown` without their newlines: header row, delimiter row, data rows -/
def ptLines (t : PTable) : List Str := rowLine t.headers :: sepLine t.headers :: t.rows.map rowLine

theorem ptLines_clean (t : PTable) : ∀ l ∈ ptLines t, 10 ∉ l := by
  unfold ptLines
  intro l hl
  simp only [List.mem_cons, List.mem_map] at hl
  rcases hl with rfl | rfl | ⟨r, _, rfl⟩
  · exact not_mem_rowLine _
  · exact not_mem_sepLine _
  · exact not_mem_rowLine _

theorem toMarkdown_lines (t : PTable) (h : t.headers.isEmpty = false) :
    t.toMarkdown = (ptLines t).flatMap nl := by
  unfold ptLines
  unfold PTable.toMarkdown
  simp only [h, Bool.false_eq_true, false_and, if_false, List.flatMap_cons, List.flatMap_map]
  rw [ptRow_eq]
  have e : t.rows.flatMap ptRow = t.rows.flatMap (fun a => rowLine a ++ [10]) := rfl
  rw [e]
  simp only [nl, sepLine, List.append_assoc, List.cons_append, List.nil_append]

theorem filterMap_rowLines (rows : List (List Str)) :
    (rows.map rowLine).filterMap mdParseLine = rows.map (·.map pad) := by
  induction rows with
  | nil => rfl
  | cons r rs ih => simp only [List.map_cons, List.filterMap_cons, mdParseLine_rowLine, ih]

/-- **read ∘ write for a whole table**: the delimiter row is dropped, every other line gives its
padded cells -/
theorem mdRead_lines (t : PTable) :
    dropSecond ((ptLines t).filterMap mdParseLine) =
      (t.headers :: t.rows).map (·.map pad) := by
  rw [ptLines, List.filterMap_cons, mdParseLine_rowLine, List.filterMap_cons]
  have hs := mdParseLine_sepLine t.headers
  cases hsep : mdParseLine (sepLine t.headers) with
  | none => rw [hsep] at hs; cases hs
  | some x =>
    simp only [filterMap_rowLines]
    rfl

theorem cellStr_ends (t : Str) : ∃ i, cellStr t = i ++ [124] :=
  ⟨[32] ++ escapeMarkdown t ++ [32], by simp [cellStr]⟩

theorem rowLine_ends (cells : List Str) : ∃ i, rowLine cells = i ++ [124] := by
  rcases List.eq_nil_or_concat cells with h | ⟨L, b, h⟩
  · subst h; exact ⟨[], rfl⟩
  · subst h
    obtain ⟨i, hi⟩ := cellStr_ends b
    refine ⟨124 :: (L.flatMap cellStr ++ i), ?_⟩
    simp [rowLine, hi]

theorem sepLine_ends {α : Type} (hdr : List α) : ∃ i, sepLine hdr = i ++ [124] := by
  rcases List.eq_nil_or_concat hdr with h | ⟨L, b, h⟩
  · subst h; exact ⟨[], rfl⟩
  · subst h
    refine ⟨124 :: (L.flatMap (fun _ => [45, 45, 45, 124]) ++ [45, 45, 45]), ?_⟩
    simp [sepLine]

/-- the heading line of one sheet without its newlines -/
def headingLine (lvl : Nat) (name : Str) : Str := List.replicate lvl 35 ++ [32] ++ name

/-- the clamps `AdjustHeadingLevel` applies once the offset is added (at least 1, at most a
positive `MaxHeadingLevel`, at most 6) are monotone -/
theorem headingClamps_mono (m x y : Int) (h : x ≤ y) :
    (let l3 := if x < 1 then 1 else x
     let l4 := if m > 0 ∧ l3 > m then m else l3
     if l4 > 6 then 6 else l4) ≤
    (let l3 := if y < 1 then 1 else y
     let l4 := if m > 0 ∧ l3 > m then m else l3
     if l4 > 6 then 6 else l4) := by
  simp only
  -- clamp by clamp
  have h3 : (if x < 1 then 1 else x) ≤ (if y < 1 then 1 else y) := by omega
  generalize (if x < 1 then 1 else x) = a at h3 ⊢
  generalize (if y < 1 then 1 else y) = b at h3 ⊢
  have h4 : (if m > 0 ∧ a > m then m else a) ≤ (if m > 0 ∧ b > m then m else b) := by omega
  generalize (if m > 0 ∧ a > m then m else a) = a' at h4 ⊢
  generalize (if m > 0 ∧ b > m then m else b) = b' at h4 ⊢
  omega

end Tabula.Wb
