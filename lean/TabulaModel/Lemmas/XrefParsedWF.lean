import TabulaModel.Lemmas.XrefDeepResolver
import TabulaModel.Lemmas.XrefCacheSpec
import TabulaModel.Lemmas.ParseRuns
import TabulaModel.Lemmas.DictSet
/-!
# Every parsed object has dictionaries with pairwise distinct keys

`parseDict` (core/parser.go) fills a Go map: `dict[key] = value` (`dictSet`) replaces the value of
a key that is already there. So whatever `ParseObject` returns has dictionaries with pairwise
distinct keys at every level (`WF` of the API value `ofObj o`), and so has every value a lookup on a
file yields (`getObjectB_wf`): the hypothesis `WF` of the resolver theorems (`Lemmas/XrefDeepResolver.lean`)
holds of the objects of any file.

* `wf_arr`, `wf_dict`, `wf_stream` - `WF` of a container from its elements, through `ofObj`;
* `parseObject_wf` - the three mutually recursive parser functions, by rule induction over their
  successful runs (`Pdf.parse_induction`); `coreParse_wf`;
* `parseIndirect_wf`, `uncompressedAt_wf`, `memberAtI_wf`, `getObjectB_wf`, `lookup_wf`.

Core Lean only.
-/
namespace Tabula.XrefR
open Tabula.Pdf Tabula.Reader Tabula.XrefFile

/-! ## from the parser's objects to the API's -/

/-- the two list conversions are maps -/
theorem ofObjs_eq_map : ∀ xs : List Obj, ofObjs xs = xs.map ofObj
  | [] => rfl
  | x :: xs => by rw [ofObjs, ofObjs_eq_map xs, List.map_cons]

theorem ofKVs_eq_map : ∀ kv : List (List Nat × Obj), ofKVs kv = kv.map fun p => (p.1, ofObj p.2)
  | [] => rfl
  | (k, v) :: r => by rw [ofKVs, ofKVs_eq_map r, List.map_cons]

theorem ofKVs_keys (kv : List (List Nat × Obj)) : (ofKVs kv).map Prod.fst = kv.map Prod.fst := by
  rw [ofKVs_eq_map, List.map_map]
  rfl

theorem ofObjs_mem : ∀ (xs : List Obj) (e : DObj), e ∈ ofObjs xs → ∃ x ∈ xs, e = ofObj x := by
  intro xs e h
  rw [ofObjs_eq_map, List.mem_map] at h
  exact h.imp fun _ hx => ⟨hx.1, hx.2.symm⟩

theorem ofKVs_values_mem : ∀ (kv : List (List Nat × Obj)) (e : DObj), e ∈ (ofKVs kv).map Prod.snd →
    ∃ x ∈ kv.map Prod.snd, e = ofObj x := by
  intro kv e h
  rw [ofKVs_eq_map, List.map_map, List.mem_map] at h
  obtain ⟨p, hp, rfl⟩ := h
  exact ⟨p.2, List.mem_map_of_mem hp, rfl⟩

theorem wf_arr {xs : List Obj} (h : ∀ x ∈ xs, WF (ofObj x)) : WF (ofObj (.arr xs)) := by
  rw [ofObj]
  exact .arr fun e he => by obtain ⟨x, hx, rfl⟩ := ofObjs_mem xs e he; exact h x hx

theorem wf_dict {kv : List (List Nat × Obj)} (hk : (kv.map Prod.fst).Nodup) (hv : ∀ x ∈ kv.map Prod.snd, WF (ofObj x)) :
    WF (ofObj (.dict kv)) := by
  rw [ofObj]
  exact .dict (ofKVs_keys kv ▸ hk) fun e he => by obtain ⟨x, hx, rfl⟩ := ofKVs_values_mem kv e he; exact hv x hx

/-- a stream whose dictionary is a well-formed parsed dictionary -/
theorem wf_stream {kv : List (List Nat × Obj)} (data : List Nat) (h : WF (ofObj (.dict kv))) :
    WF (ofPVal (.stream kv data)) := by
  rw [ofObj] at h
  cases h with
  | dict hk hv => exact .stream hk hv

/-! ## the parser -/

theorem parseNumber_wf (s : PState) (v : List Nat) (o : Obj) (s' : PState)
    (h : parseNumber s v = .ok (o, s')) : WF (ofObj o) := by
  unfold parseNumber at h
  repeat' (first | split at h | (dsimp only at h; split at h))
  all_goals (cases h <;> first | exact .int _ | exact .ref _ _ |
    (obtain ⟨_, _, _, rfl⟩ := parseReal_real (by assumption); exact .real _ _ _))

/-- whatever `ParseObject` returns has dictionaries with pairwise distinct keys; the two loops
keep the property of what they have collected -/
theorem parseObject_wf (f : Nat) :
    (∀ d s o s', parseObject f d s = .ok (o, s') → WF (ofObj o)) ∧
    (∀ d s acc o s', parseArray f d s acc = .ok (o, s') → (∀ e ∈ acc, WF (ofObj e)) → WF (ofObj o)) ∧
    (∀ d s acc o s', parseDict f d s acc = .ok (o, s') → (acc.map Prod.fst).Nodup →
      (∀ e ∈ acc.map Prod.snd, WF (ofObj e)) → WF (ofObj o)) := by
  refine parse_induction (PO := fun _ _ o _ => WF (ofObj o))
    (PA := fun _ _ acc o _ => (∀ e ∈ acc, WF (ofObj e)) → WF (ofObj o))
    (PD := fun _ _ acc o _ => (acc.map Prod.fst).Nodup → (∀ e ∈ acc.map Prod.snd, WF (ofObj e)) → WF (ofObj o))
    ?_ ?_ ?_ ?_ ?_ ?_ ?_ ?_ ?_ ?_ ?_ ?_ f
  · rintro _ _ _ _ _ (⟨_, rfl⟩ | ⟨_, rfl⟩ | ⟨_, rfl⟩)
    · exact .null
    · exact .bool _
    · exact .bool _
  · exact fun _ s v o s' _ h => parseNumber_wf s v o s' h
  · intro _ _ _ _ _ h
    obtain ⟨_, _, _, rfl⟩ := parseReal_real h
    exact .real _ _ _
  · exact fun _ _ _ _ => .str _
  · exact fun _ _ _ _ => .str _
  · exact fun _ _ _ _ => .name _
  · exact fun _ _ _ _ _ _ h => h nofun
  · exact fun _ _ _ _ _ _ h => h List.nodup_nil nofun
  · exact fun _ _ _ _ => wf_arr
  · intro _ _ acc o1 _ _ _ h1 ih hacc
    exact ih fun e he => (List.mem_append.1 he).elim (hacc e) fun he => List.mem_singleton.1 he ▸ h1
  · exact fun _ _ _ _ => wf_dict
  · -- `dict[k] = o1`: the keys stay distinct, the values are the new one and values there before
    intro _ _ acc k o1 _ _ _ _ h1 ih hk hv
    refine ih (dictSet_keys_nodup acc k o1 hk) fun e he => ?_
    obtain ⟨p, hp, rfl⟩ := List.mem_map.mp he
    rcases dictSet_mem acc k o1 p hp with rfl | hp
    · exact h1
    · exact hv _ (List.mem_map_of_mem hp)

/-- `core.NewParser(r).ParseObject()` returns objects whose dictionaries have distinct keys -/
theorem coreParse_wf (inp : List Nat) (o : Obj) (s : PState) (h : coreParse inp = .ok (o, s)) :
    WF (ofObj o) :=
  (parseObject_wf _).1 0 _ o s h

/-! ## indirect objects, object-stream members, lookups on the bytes -/

theorem indirectBody_wf (fuel : Nat) (num gen : Int) (s : PState) (lenOf : Int → Option Int)
    (n g : Int) (v : PVal) (h : indirectBody fuel num gen s lenOf = some (n, g, v)) :
    WF (ofPVal v) := by
  unfold indirectBody at h
  split at h
  · cases h
  · next o s4 ho =>
    have wo : WF (ofObj o) := (parseObject_wf _).1 0 _ o s4 ho
    split at h
    · split at h
      · next kv =>
        split at h
        · cases h
        · split at h
          · cases h; exact wf_stream _ wo
          · cases h
      · cases h
    · split at h
      · cases h; exact wo
      · cases h

/-- `ParseIndirectObject` yields values whose dictionaries have distinct keys -/
theorem parseIndirect_wf (inp : List Nat) (lenOf : Int → Option Int) (num gen : Int) (v : PVal)
    (h : parseIndirect inp lenOf = some (num, gen, v)) : WF (ofPVal v) := by
  unfold parseIndirect at h
  dsimp only at h
  repeat' split at h
  all_goals first | cases h | exact indirectBody_wf _ _ _ _ _ _ _ _ h

theorem uncompressedAt_wf (file : List Nat) (n off : Int) (lenOf : Int → Option Int) (v : PVal)
    (h : uncompressedAt file n off lenOf = some v) : WF (ofPVal v) := by
  unfold uncompressedAt at h
  split at h
  · cases h
  · split at h
    · next num g v' hp =>
      split at h
      · cases h; exact parseIndirect_wf _ _ _ _ _ hp
      · cases h
    · cases h

/-- a member of an object stream is a `ParseObject` result -/
theorem memberAtI_wf (os : Reader.ObjStm) (n idx : Int) (o : Obj)
    (h : memberAtI os n idx = some o) : WF (ofObj o) := by
  unfold memberAtI at h
  split at h
  · cases h
  · split at h
    · cases h
    · split at h
      · cases h
      · next o' s' hp =>
        split at h
        · cases h; exact coreParse_wf _ _ _ hp
        · cases h

/-- every value a lookup on the bytes of a file yields - an object at an offset, a stream, a
member of an object stream - has dictionaries with pairwise distinct keys, at every level -/
theorem getObjectB_wf (ext : Reader.Ext) (file : List Nat) (x : RawSection) (fuel : Nat)
    (loading : List Int) (n : Int) (t : PVal)
    (h : getObjectB ext file x fuel loading n = some t) : WF (ofPVal t) := by
  cases fuel with
  | zero => cases h
  | succ fuel =>
    obtain ⟨lenOf, _, hs⟩ := XrefC.getObjectB_succ ext file x fuel loading n
    rw [hs] at h
    obtain ⟨l, _, h⟩ := Option.bind_eq_some_iff.mp h
    split at h
    · cases h
    · obtain ⟨v, hv, hp⟩ := Option.bind_eq_some_iff.mp h
      have wv := uncompressedAt_wf _ _ _ _ _ hv
      -- the object read, or a member of the object stream it is
      unfold XrefC.pick at hp
      split at hp
      · cases hp; exact wv
      · split at hp
        · obtain ⟨o, ho, rfl⟩ := Option.map_eq_some_iff.mp hp
          exact memberAtI_wf _ _ _ _ ho
        · cases hp
      · cases hp

/-- `Open` + `GetObject` on a file: the same -/
theorem lookup_wf (ext : Reader.Ext) (file : List Nat) (n : Int) (t : PVal)
    (h : XrefFile.lookup ext file n = .ok (some t)) : WF (ofPVal t) := by
  unfold XrefFile.lookup at h
  split at h
  · cases h
  · next x hx =>
    have h1 := Except.ok.inj h
    exact getObjectB_wf _ _ _ _ _ _ _ h1

end Tabula.XrefR
