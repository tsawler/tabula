import TabulaModel.Lemmas.XrefDeepResolver
/-!
# `Reader.ResolveDeep` against the plain tree unfolding `expand`

* `rdeep_eq_expand`, `resolveDeepR_eq_expand`: on every object graph where the tree unfolding
  `expand g false` succeeds within the depth limit, `Reader.ResolveDeep` (`rdeep`,
  `resolveDeepR`) returns exactly that unfolding - the shared results (`done`) and the
  back-reference rule (`active`) are invisible there;
* visiting a dictionary in key order (`rdeep`) or in the given order and sorting afterwards
  (`expand`) is the same: `PDeep.expand_dict_sorted` in `Lemmas/XrefDeepResolver.lean` (`insertKV` /
  `sortKV` only look at the keys; the resolver package needs the same fact);
* `expand_noRef`: the deep value holds no reference outside stream dictionaries;
* `rdeep_sound`, `resolveDeepR_sound`, `resolveDeepR_lookups`: conversely, whatever `rdeep`
  answers (any `active`, `depth`, `fuel`), an answer that holds no reference is the deep value -
  a lookup that fails below the object is never papered over by a shared result (no partial
  answers);
* `resolveDeepR_cycle`, `expand_cycleGraph`: on a reference cycle the answer holds the back
  reference left in place and there is no deep value, so `NoRef` cannot be dropped there.
Core Lean only.
-/
namespace Tabula.XrefR
open Tabula.Reader (PVal)
open Tabula.XrefFile (Str)

/-- every finished reference holds the deep value of the object it names -/
def DoneOk (g : Int → Option PVal) (done : List (Ref × DObj)) : Prop :=
  ∀ r res, done.lookup r = some res → ∃ b, expand g false b (.ref r.1 r.2) = some res

theorem doneOk_nil (g : Int → Option PVal) : DoneOk g [] := by
  intro r res h
  cases h

/-! ## key order: sorting keeps the entries -/

theorem mem_sortKV {p : Str × DObj} {l : List (Str × DObj)} : p ∈ sortKV l ↔ p ∈ l :=
  (PDeep.sortKV_isSort.perm l).mem_iff

theorem mem_snd_sortKV {e : DObj} {l : List (Str × DObj)} :
    e ∈ (sortKV l).map Prod.snd ↔ e ∈ l.map Prod.snd := by
  simp only [List.mem_map, mem_sortKV]

/-! ## the loop over a container -/

theorem foldRes_mapOpt {δ : Type} (P : δ → Prop) (f : DObj → δ → Unit → Option (DObj × δ) × Unit)
    (h : DObj → Option DObj) :
    ∀ (xs ys : List DObj) (d : δ), mapOpt h xs = some ys → P d →
      (∀ e ∈ xs, ∀ d v, P d → h e = some v → ∃ d', f e d () = (some (v, d'), ()) ∧ P d') →
      ∃ d', foldRes f xs d () = (some (ys, d'), ()) ∧ P d' := by
  intro xs
  induction xs with
  | nil =>
    intro ys d hm hP _
    simp only [mapOpt] at hm
    cases hm
    exact ⟨d, rfl, hP⟩
  | cons x xs ih =>
    intro ys d hm hP hf
    obtain ⟨x', rs, hx, hr, rfl⟩ := mapOpt_cons_inv hm
    obtain ⟨d1, hf1, hP1⟩ := hf x (List.mem_cons_self ..) d x' hP hx
    obtain ⟨d2, hf2, hP2⟩ := ih rs d1 hr hP1 (fun e he => hf e (List.mem_cons_of_mem _ he))
    exact ⟨d2, by simp only [foldRes, hf1, hf2], hP2⟩

theorem doneOk_cons {g : Int → Option PVal} {n gen : Int} {v : DObj} {done : List (Ref × DObj)} {b : Nat}
    (hv : expand g false b (.ref n gen) = some v) (hd : DoneOk g done) : DoneOk g (((n, gen), v) :: done) :=
  List.lookup_cons_imp (P := fun (r : Ref) res => ∃ b, expand g false b (.ref r.1 r.2) = some res) ⟨b, hv⟩ hd

/-! ## `rdeep` = `expand` where `expand` succeeds within the limit -/

/-- **on an object that unfolds within the levels left, `resolveDeep` returns the unfolding**,
whatever finished references it is handed (as long as they hold deep values) and whatever
references are being resolved further up (they all stand above `obj`) -/
theorem rdeep_eq_expand (g : Int → Option PVal) :
    ∀ (fuel : Nat) (active : List Ref) (obj : DObj) (depth : Nat) (done : List (Ref × DObj)) (b : Nat) (v : DObj),
      expand g false b obj = some v → depth + b ≤ maxResolveDepth + 1 → maxResolveDepth + 2 ≤ fuel + depth →
      DoneOk g done → (∀ a ∈ active, Below g false (.ref a.1 a.2) obj) →
      ∃ done', rdeep (pureGet g) fuel active obj depth done () = (some (v, done'), ()) ∧ DoneOk g done' := by
  intro fuel
  induction fuel with
  | zero =>
    intro active obj depth done b v hexp hdb hfd _ _
    cases b with
    | zero => cases hexp
    | succ b => omega
  | succ fuel ih =>
    intro active obj depth done b v hexp hdb hfd hdone hact
    cases b with
    | zero => cases hexp
    | succ b =>
      have hd : ¬ depth > maxResolveDepth := by omega
      -- a container: every element unfolds with one level less
      have hfold : ∀ xs ys, mapOpt (expand g false b) xs = some ys → (∀ e ∈ xs, Child g false obj e) →
          ∃ d', foldRes (fun e d s => rdeep (pureGet g) fuel active e (depth + 1) d s) xs done () = (some (ys, d'), ()) ∧
            DoneOk g d' :=
        fun xs ys hm hc => foldRes_mapOpt (DoneOk g) _ (expand g false b) xs ys done hm hdone
          (fun e he d v' hPd hev => ih active e (depth + 1) d b v' hev (by omega) (by omega) hPd
            (fun a ha => (hact a ha).snoc (hc e he)))
      cases obj with
      | ref n gen =>
        have hexp0 := hexp
        simp only [expand] at hexp
        cases hg : g n with
        | none => rw [hg] at hexp; cases hexp
        | some t =>
          rw [hg] at hexp
          rw [rdeep_ref hd]
          cases hl : List.lookup (n, gen) done with
          | some res =>
            obtain ⟨b2, hb2⟩ := hdone (n, gen) res hl
            cases expand_unique g false _ _ _ _ _ hexp0 hb2
            exact ⟨done, rfl, hdone⟩
          | none =>
            by_cases ha : active.contains (n, gen) = true
            · rw [expand_cycle g false (.ref n gen) (hact (n, gen) (List.contains_iff_mem.mp ha)) (b + 1)] at hexp0
              cases hexp0
            · have hact' : ∀ a ∈ (n, gen) :: active, Below g false (.ref a.1 a.2) (ofPVal t) := by
                intro a ha'
                rcases List.mem_cons.mp ha' with rfl | ha'
                · exact .one (.ref hg)
                · exact (hact a ha').snoc (.ref hg)
              obtain ⟨done2, hr, hd2⟩ := ih ((n, gen) :: active) (ofPVal t) (depth + 1) done b v hexp
                (by omega) (by omega) hdone hact'
              exact ⟨_, by simp only [if_neg ha, pureGet, hg, andThen, hr], doneOk_cons hexp0 hd2⟩
      | arr xs =>
        simp only [expand] at hexp
        obtain ⟨ys, hm, rfl⟩ := Option.map_eq_some_iff.mp hexp
        obtain ⟨d', hfold, hP⟩ := hfold xs ys hm fun e he => .arr he
        exact ⟨d', by rw [rdeep_arr hd, hfold]; rfl, hP⟩
      | dict kv =>
        rw [PDeep.expand_dict_sorted] at hexp
        obtain ⟨ys, hm, rfl⟩ := Option.map_eq_some_iff.mp hexp
        obtain ⟨d', hfold, hP⟩ := hfold _ ys hm fun e he => .dict (mem_snd_sortKV.mp he)
        exact ⟨d', by rw [rdeep_dict hd, hfold]; rfl, hP⟩
      | stream kv data =>
        rw [expand_stream] at hexp
        cases hexp
        exact ⟨done, rdeep_leaf trivial hd, hdone⟩
      | _ => cases hexp; exact ⟨done, rdeep_leaf trivial hd, hdone⟩

/-- **`Reader.ResolveDeep` returns the plain tree unfolding wherever that exists within
`maxResolveDepth + 1` levels** -/
theorem resolveDeepR_eq_expand (g : Int → Option PVal) (obj v : DObj)
    (h : expand g false (maxResolveDepth + 1) obj = some v) :
    resolveDeepR (pureGet g) obj () = (some v, ()) := by
  obtain ⟨done', hr, _⟩ := rdeep_eq_expand g (maxResolveDepth + 2) [] obj 0 [] (maxResolveDepth + 1) v h
    (by omega) (by omega) (doneOk_nil g) (fun a ha => by cases ha)
  simp only [resolveDeepR, hr, Option.map]

/-! ## the deep value holds no reference -/

/-- the deep value holds no reference outside stream dictionaries -/
inductive NoRef : DObj → Prop
  | null : NoRef .null
  | bool (b : Bool) : NoRef (.bool b)
  | int (i : Int) : NoRef (.int i)
  | real (n : Bool) (m s : Nat) : NoRef (.real n m s)
  | str (s : Str) : NoRef (.str s)
  | name (s : Str) : NoRef (.name s)
  | arr {xs : List DObj} : (∀ e ∈ xs, NoRef e) → NoRef (.arr xs)
  | dict {kv : List (Str × DObj)} : (∀ e ∈ kv.map Prod.snd, NoRef e) → NoRef (.dict kv)
  | stream (kv : List (Str × DObj)) (data : Str) : NoRef (.stream kv data)

theorem noRef_arr {xs : List DObj} : NoRef (.arr xs) ↔ ∀ e ∈ xs, NoRef e :=
  ⟨fun h => by cases h with | arr h => exact h, .arr⟩

theorem noRef_dict {kv : List (Str × DObj)} : NoRef (.dict kv) ↔ ∀ e ∈ kv.map Prod.snd, NoRef e :=
  ⟨fun h => by cases h with | dict h => exact h, .dict⟩

theorem not_noRef_ref (n gen : Int) : ¬ NoRef (.ref n gen) := fun h => by cases h

theorem mem_snd_zip {ks : List Str} {ys : List DObj} {e : DObj} (h : e ∈ (ks.zip ys).map Prod.snd) : e ∈ ys := by
  simp only [List.mem_map] at h
  obtain ⟨p, hp, he⟩ := h
  obtain ⟨k, y⟩ := p
  simp only at he
  subst he
  exact (List.of_mem_zip hp).2

/-- **the deep value holds no reference outside stream dictionaries** -/
theorem expand_noRef (g : Int → Option PVal) :
    ∀ (b : Nat) (o v : DObj), expand g false b o = some v → NoRef v := by
  intro b
  induction b with
  | zero => intro o v h; cases h
  | succ b ih =>
    intro o v h
    cases o with
    | ref n gen =>
      simp only [expand] at h
      cases hg : g n with
      | none => rw [hg] at h; cases h
      | some t => rw [hg] at h; exact ih _ _ h
    | arr xs =>
      simp only [expand] at h
      obtain ⟨ys, hm, rfl⟩ := Option.map_eq_some_iff.mp h
      refine .arr (fun y hy => ?_)
      obtain ⟨e, _, hfe⟩ := mapOpt_mem_out hm hy
      exact ih e y hfe
    | dict kv =>
      simp only [expand] at h
      obtain ⟨ys, hm, rfl⟩ := Option.map_eq_some_iff.mp h
      refine .dict (fun y hy => ?_)
      obtain ⟨e, _, hfe⟩ := mapOpt_mem_out hm (mem_snd_zip (mem_snd_sortKV.mp hy))
      exact ih e y hfe
    | stream kv data =>
      rw [expand_stream] at h
      simp only [Bool.false_eq_true, if_false] at h
      cases h
      exact .stream _ _
    | _ => cases h; constructor

/-- what `Reader.ResolveDeep` returns on a graph that unfolds within the limit holds no reference
outside stream dictionaries -/
theorem resolveDeepR_noRef (g : Int → Option PVal) (obj v : DObj)
    (h : expand g false (maxResolveDepth + 1) obj = some v) :
    resolveDeepR (pureGet g) obj () = (some v, ()) ∧ NoRef v :=
  ⟨resolveDeepR_eq_expand g obj v h, expand_noRef g _ _ _ h⟩

/-! ## the converse: an answer without a reference is the deep value -/

/-- every finished reference whose result holds no reference holds the deep value of the object
it names (inside a reference cycle a finished result can hold a back reference) -/
def DoneOkN (g : Int → Option PVal) (done : List (Ref × DObj)) : Prop :=
  ∀ r res, done.lookup r = some res → NoRef res → ∃ b, expand g false b (.ref r.1 r.2) = some res

theorem DoneOk.toN {g : Int → Option PVal} {done : List (Ref × DObj)} (h : DoneOk g done) : DoneOkN g done :=
  fun r res hl _ => h r res hl

/-- element by element: a result without a reference is the deep value of the element -/
inductive AllSound (g : Int → Option PVal) : List DObj → List DObj → Prop
  | nil : AllSound g [] []
  | cons {e v : DObj} {es vs : List DObj} :
      (NoRef v → ∃ b, expand g false b e = some v) → AllSound g es vs → AllSound g (e :: es) (v :: vs)

theorem allSound_mapOpt {g : Int → Option PVal} {xs ys : List DObj} (h : AllSound g xs ys)
    (hn : ∀ y ∈ ys, NoRef y) : ∃ b, mapOpt (expand g false b) xs = some ys := by
  induction h with
  | nil => exact ⟨0, rfl⟩
  | @cons e v es vs he _ ih =>
    obtain ⟨b1, h1⟩ := he (hn v (List.mem_cons_self ..))
    obtain ⟨b2, h2⟩ := ih (fun y hy => hn y (List.mem_cons_of_mem _ hy))
    refine ⟨max b1 b2, ?_⟩
    have h1' := expand_mono_le g false b1 (max b1 b2) (Nat.le_max_left _ _) _ _ h1
    have h2' := mapOpt_mono_le (Nat.le_max_right b1 b2) h2
    simp only [mapOpt, h1', h2', Option.map]

theorem AllSound.length_eq {g : Int → Option PVal} {xs ys : List DObj} (h : AllSound g xs ys) :
    ys.length = xs.length := by
  induction h with
  | nil => rfl
  | cons _ _ ih => exact congrArg (· + 1) ih

theorem allSound_zip {g : Int → Option PVal} (l : List (Str × DObj)) (ys : List DObj)
    (h : AllSound g (l.map Prod.snd) ys) : ((l.map Prod.fst).zip ys).map Prod.snd = ys :=
  List.map_snd_zip (by rw [h.length_eq, List.length_map, List.length_map]; exact Nat.le_refl _)

theorem foldRes_sound {g : Int → Option PVal} (f : DObj → List (Ref × DObj) → Unit → Option (DObj × List (Ref × DObj)) × Unit) :
    ∀ (xs ys : List DObj) (d d' : List (Ref × DObj)), foldRes f xs d () = (some (ys, d'), ()) → DoneOkN g d →
      (∀ e ∈ xs, ∀ d v d', f e d () = (some (v, d'), ()) → DoneOkN g d →
        DoneOkN g d' ∧ (NoRef v → ∃ b, expand g false b e = some v)) →
      DoneOkN g d' ∧ AllSound g xs ys := by
  intro xs
  induction xs with
  | nil =>
    intro ys d d' h hP _
    simp only [foldRes] at h
    cases h
    exact ⟨hP, .nil⟩
  | cons x xs ih =>
    intro ys d d' h hP hf
    rw [foldRes_cons] at h
    obtain ⟨⟨x', d1⟩, ⟨⟩, hfx, h⟩ := andThen_eq_some.1 h
    obtain ⟨⟨rs, d2⟩, ⟨⟩, hfr, h⟩ := andThen_eq_some.1 h
    cases h
    obtain ⟨hP1, hQ1⟩ := hf x (List.mem_cons_self ..) d _ d1 hfx hP
    obtain ⟨hP2, hQ2⟩ := ih _ d1 _ hfr hP1 (fun e he => hf e (List.mem_cons_of_mem _ he))
    exact ⟨hP2, .cons hQ1 hQ2⟩

theorem doneOkN_cons {g : Int → Option PVal} {n gen : Int} {v : DObj} {done : List (Ref × DObj)}
    (hv : NoRef v → ∃ b, expand g false b (.ref n gen) = some v) (hd : DoneOkN g done) :
    DoneOkN g (((n, gen), v) :: done) :=
  List.lookup_cons_imp (P := fun (r : Ref) res => NoRef res → ∃ b, expand g false b (.ref r.1 r.2) = some res) hv hd

/-- **whatever `resolveDeep` answers, an answer that holds no reference is the deep value of the
object**: a lookup that fails, a level too many, a cycle are never papered over by a shared
result (`done`) or by a reference left in place (`active`) - the only other answers are the ones
that still hold a reference. No assumption on `active`, `depth`, `fuel`. -/
theorem rdeep_sound (g : Int → Option PVal) :
    ∀ (fuel : Nat) (active : List Ref) (obj : DObj) (depth : Nat) (done : List (Ref × DObj)) (v : DObj)
      (done' : List (Ref × DObj)),
      rdeep (pureGet g) fuel active obj depth done () = (some (v, done'), ()) → DoneOkN g done →
      DoneOkN g done' ∧ (NoRef v → ∃ b, expand g false b obj = some v) := by
  intro fuel
  induction fuel with
  | zero =>
    intro active obj depth done v done' h _
    cases h
  | succ fuel ih =>
    intro active obj depth done v done' h hdone
    by_cases hd : depth > maxResolveDepth
    · rw [rdeep_beyond hd] at h
      cases h
    · have hfold : ∀ xs ys d', foldRes (fun e d s => rdeep (pureGet g) fuel active e (depth + 1) d s) xs done ()
            = (some (ys, d'), ()) → DoneOkN g d' ∧ AllSound g xs ys :=
        fun xs ys d' hf => foldRes_sound _ xs ys done d' hf hdone
          (fun e _ d v d' he hPd => ih active e (depth + 1) d v d' he hPd)
      cases obj with
      | ref n gen =>
        rw [rdeep_ref hd] at h
        cases hl : List.lookup (n, gen) done with
        | some res =>
          rw [hl] at h
          cases h
          exact ⟨hdone, fun hn => hdone (n, gen) v hl hn⟩
        | none =>
          rw [hl] at h
          dsimp only at h
          split at h
          · cases h
            exact ⟨hdone, fun hn => absurd hn (not_noRef_ref n gen)⟩
          · obtain ⟨t, ⟨⟩, hg, h⟩ := andThen_eq_some.1 h
            obtain ⟨⟨res, done2⟩, ⟨⟩, hr, h⟩ := andThen_eq_some.1 h
            cases h
            obtain ⟨hP, hQ⟩ := ih _ _ _ _ _ _ hr hdone
            have hv : NoRef res → ∃ b, expand g false b (.ref n gen) = some res := fun hn =>
              (hQ hn).imp' (· + 1) fun b hb => (expand_ref_some (congrArg Prod.fst hg) b gen).trans hb
            exact ⟨doneOkN_cons hv hP, hv⟩
      | arr xs =>
        rw [rdeep_arr hd] at h
        obtain ⟨⟨ys, d2⟩, ⟨⟩, hr, h⟩ := andThen_eq_some.1 h
        cases h
        obtain ⟨hP, hQ⟩ := hfold xs ys _ hr
        refine ⟨hP, fun hn => ?_⟩
        obtain ⟨b, hb⟩ := allSound_mapOpt hQ (noRef_arr.mp hn)
        exact ⟨b + 1, by simp only [expand, hb, Option.map]⟩
      | dict kv =>
        rw [rdeep_dict hd] at h
        obtain ⟨⟨ys', d2⟩, ⟨⟩, hr, h⟩ := andThen_eq_some.1 h
        cases h
        obtain ⟨hP, hQ⟩ := hfold _ ys' _ hr
        refine ⟨hP, fun hn => ?_⟩
        have hn' := noRef_dict.mp hn
        rw [allSound_zip _ _ hQ] at hn'
        obtain ⟨b, hb⟩ := allSound_mapOpt hQ hn'
        exact ⟨b + 1, by rw [PDeep.expand_dict_sorted, hb]; rfl⟩
      | stream kv data =>
        rw [rdeep_leaf (by trivial) hd] at h
        cases h
        exact ⟨hdone, fun _ => ⟨1, by rw [expand_stream]; simp only [Bool.false_eq_true, if_false]⟩⟩
      | _ => rw [rdeep_leaf (by trivial) hd] at h; cases h; exact ⟨hdone, fun _ => ⟨1, rfl⟩⟩

/-- **an answer of `Reader.ResolveDeep` that holds no reference is the plain tree unfolding** -/
theorem resolveDeepR_sound (g : Int → Option PVal) (obj v : DObj)
    (h : resolveDeepR (pureGet g) obj () = (some v, ())) (hn : NoRef v) :
    ∃ b, expand g false b obj = some v := by
  simp only [resolveDeepR] at h
  generalize hr : rdeep (pureGet g) (maxResolveDepth + 2) [] obj 0 [] () = r at h
  obtain ⟨_ | ⟨v', d'⟩, ⟨⟩⟩ := r
  · cases h
  · cases h
    exact (rdeep_sound g _ _ _ _ _ _ _ hr (doneOk_nil g).toN).2 hn

/-- **no partial answers**: when `Reader.ResolveDeep` answers with a value that holds no
reference, every lookup below the object succeeded (an answer without references is never a
value with a hole; `Below` does not look into stream dictionaries) -/
theorem resolveDeepR_lookups (g : Int → Option PVal) (obj v : DObj)
    (h : resolveDeepR (pureGet g) obj () = (some v, ())) (hn : NoRef v) (n gen : Int)
    (hb : obj = .ref n gen ∨ Below g false obj (.ref n gen)) : g n ≠ none := by
  intro hg
  obtain ⟨b, hexp⟩ := resolveDeepR_sound g obj v h hn
  rcases hb with hb | hb
  · subst hb
    rw [expand_ref_none hg] at hexp
    cases hexp
  · obtain ⟨b', v', _, hv'⟩ := expand_below g false _ _ hb b v hexp
    rw [expand_ref_none hg] at hv'
    cases hv'

/-! ## why `NoRef v` is asked for: a reference cycle -/

/-- object 1 is `[1 0 R]` -/
def cycleGraph : Int → Option PVal := fun n => if n = 1 then some (.obj (.arr [.ref 1 0])) else none

/-- on a reference cycle `Reader.ResolveDeep` answers with the back reference left in place … -/
theorem resolveDeepR_cycle :
    resolveDeepR (pureGet cycleGraph) (.ref 1 0) () = (some (.arr [.ref 1 0]), ()) := by
  rfl

/-- … where the tree unfolding has no value, whatever the levels allowed: `rdeep_sound` without
`NoRef v` would be false -/
theorem expand_cycleGraph (b : Nat) : expand cycleGraph false b (.ref 1 0) = none := by
  apply expand_cycle
  have h1 : Child cycleGraph false (.ref 1 0) (.arr [.ref 1 0]) :=
    Child.ref (g := cycleGraph) (n := 1) (gen := 0) (t := .obj (.arr [.ref 1 0])) rfl
  exact .cons h1 (.one (.arr (List.mem_cons_self ..)))

end Tabula.XrefR
