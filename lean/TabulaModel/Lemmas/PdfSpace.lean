import TabulaModel.Lemmas.PdfCoreProgress
/-!
The document-level parser is a function of ANY input (legal or not) only through its first token and
what follows it, so white space and comments in front change nothing (`Props/C06Space.lean`).  The
fuel / loop bounds of the model depend on the input length; that they do not matter is the progress
result (`Lemmas/PdfCoreProgress.lean`).  Core Lean only.
-/
namespace Tabula.Pdf
namespace Space
open Prog

/-- `ParseObject` on the window over `x` sees `x` only through its first token and what follows it
(after a lexical error at the first token the two windows differ in `inp`, which is then never read) -/
theorem parseObject_congr (x y : Str) (h : tok x = tok y) (f d : Nat) :
    parseObject f d (stateAt x) = parseObject f d (stateAt y) := by
  cases ht : tok x with
  | none => rw [parseObject_tok_none f d x ht, parseObject_tok_none f d y (h ▸ ht)]
  | some p => rw [stateAt_congr x y p.1 p.2 ht (h ▸ ht)]

/-- one `ParseObject` call depends on the input only through its first token and what follows it -/
theorem coreParse_congr (x y : Str) (h : tok x = tok y) : coreParse x = coreParse y := by
  rw [← coreParse_fuel_irrelevant x (fuelFor x + fuelFor y) (by unfold fuelFor; omega),
    ← coreParse_fuel_irrelevant y (fuelFor x + fuelFor y) (by unfold fuelFor; omega)]
  exact parseObject_congr x y h _ 0

/-- … and so does a whole run of `ParseObject` calls -/
theorem coreParseAll_congr (x y : Str) (h : tok x = tok y) : coreParseAll x = coreParseAll y := by
  unfold coreParseAll
  rw [← coreParseAll_stable x (fuelFor x + fuelFor y) (x.length + y.length + 2) (by omega) (by omega),
    ← coreParseAll_stable y (fuelFor x + fuelFor y) (x.length + y.length + 2) (by omega) (by omega),
    parseSeq, parseSeq]
  have e := parseObject_congr x y h (fuelFor x + fuelFor y) 0
  unfold stateAt at e
  rw [e]

theorem skipSpace_len_le (x : Str) : (CS.skipSpace x).length ≤ x.length := (skipSpace_suffix x).length_le

end Space
end Tabula.Pdf
