import TabulaModel.Model.Markdown
import TabulaModel.Lemmas.A1
import TabulaModel.Lemmas.ListBasics
import TabulaModel.Lemmas.ListFold
/-!
Lemmas about `Model/Markdown.lean`: trimming and the cell escaping of every writer (`escCell_eq`);
every row line a writer emits is `124 :: rowBody ps` for padded cells `ps`, and such a line is read
back as those cells, trimmed (`gfmSplitRow_rowLine_end`); the heading level arithmetic in closed
form (`headingLevelRag_eq`, `headingLevel_eq`); heading and list item lines read back.
-/
namespace Tabula.Markdown
open Tabula.A1 (Str dec dec_head)

theorem trimRight_cons (a : Nat) (s : Str) :
    trimRight (a :: s) = if (trimRight s).isEmpty && isWs a then [] else a :: trimRight s := rfl

/-- `trimLeft` is core's `dropWhile` -/
theorem trimLeft_eq_dropWhile (s : Str) : trimLeft s = s.dropWhile isWs := by
  induction s with
  | nil => rfl
  | cons c s ih => rw [trimLeft, List.dropWhile_cons, ih]

/-- … and `trimRight` is `dropWhile` from the other end -/
theorem trimRight_eq_dropWhile (s : Str) : trimRight s = (s.reverse.dropWhile isWs).reverse := by
  induction s with
  | nil => rfl
  | cons a s ih =>
    rw [trimRight_cons, List.reverse_cons, List.dropWhile_append, ih]
    cases hD : s.reverse.dropWhile isWs with
    | nil => cases ha : isWs a <;> simp [ha]
    | cons d D => simp

theorem trimRight_append_ws (s : Str) (c : Nat) (h : isWs c = true) :
    trimRight (s ++ [c]) = trimRight s := by
  rw [trimRight_eq_dropWhile, trimRight_eq_dropWhile, List.reverse_append, List.reverse_singleton,
    List.singleton_append, List.dropWhile_cons_of_pos h]

theorem trimRight_eq_self (s : Str) (h : ∀ c, s.getLast? = some c → isWs c = false) :
    trimRight s = s := by
  rw [trimRight_eq_dropWhile, List.dropWhile_eq_self_of_head fun c hc => h c (List.head?_reverse ▸ hc), List.reverse_reverse]

theorem trimRight_trimLeft_append_ws (x : Str) (c : Nat) (h : isWs c = true) :
    trimRight (trimLeft (x ++ [c])) = trimRight (trimLeft x) := by
  induction x with
  | nil => simp [trimLeft, h, trimRight]
  | cons a x ih =>
    simp only [List.cons_append, trimLeft]
    split
    · exact ih
    · rw [← List.cons_append, trimRight_append_ws _ _ h]

theorem trim_pad (x : Str) : trim (32 :: x ++ [32]) = trim x := by
  unfold trim
  have : trimLeft (32 :: x ++ [32]) = trimLeft (x ++ [32]) := by
    simp [trimLeft, isWs]
  rw [this, trimRight_trimLeft_append_ws _ _ (by decide)]

theorem trim_space : trim [32] = [] := by decide

theorem mem_trimLeft (s : Str) : ∀ c ∈ trimLeft s, c ∈ s := fun _ hc =>
  (List.dropWhile_sublist isWs).subset (trimLeft_eq_dropWhile s ▸ hc)

theorem mem_trimRight (s : Str) : ∀ c ∈ trimRight s, c ∈ s := fun _ hc => by
  rw [trimRight_eq_dropWhile, List.mem_reverse] at hc
  exact List.mem_reverse.mp ((List.dropWhile_sublist isWs).subset hc)

theorem mem_trim (s : Str) : ∀ c ∈ trim s, c ∈ s := fun c hc =>
  mem_trimLeft s c (mem_trimRight _ c hc)

theorem replaceByte_nil (o : Nat) (n : Str) : replaceByte o n [] = [] := rfl

theorem replaceByte_cons (o : Nat) (n : Str) (c : Nat) (s : Str) :
    replaceByte o n (c :: s) = (if c = o then n else [c]) ++ replaceByte o n s := by
  simp [replaceByte]

theorem replaceByte_append (o : Nat) (n : Str) (a b : Str) :
    replaceByte o n (a ++ b) = replaceByte o n a ++ replaceByte o n b := by
  simp [replaceByte]

theorem replaceByte_absent (o : Nat) (n s : Str) (h : o ∉ s) : replaceByte o n s = s := by
  unfold replaceByte
  rw [List.flatMap_congr (g := fun c => [c]) fun c hc => if_neg fun (e : c = o) => h (e ▸ hc),
    List.flatMap_singleton']

theorem escPipe_nil : escPipe [] = [] := rfl

theorem escPipe_cons_pipe (s : Str) : escPipe (124 :: s) = 92 :: 124 :: escPipe s := by
  simp [escPipe, replaceByte_cons]

theorem escPipe_cons_ne (c : Nat) (s : Str) (h : c ≠ 124) : escPipe (c :: s) = c :: escPipe s := by
  simp [escPipe, replaceByte_cons, h]

theorem escPipe_append (a b : Str) : escPipe (a ++ b) = escPipe a ++ escPipe b :=
  replaceByte_append _ _ _ _

theorem escPipe_isEmpty (s : Str) : (escPipe s).isEmpty = s.isEmpty := by
  cases s with
  | nil => rfl
  | cons c s =>
    by_cases h : c = 124
    · subst h; rw [escPipe_cons_pipe]; rfl
    · rw [escPipe_cons_ne _ _ h]; rfl

theorem trimLeft_escPipe (s : Str) : trimLeft (escPipe s) = escPipe (trimLeft s) := by
  induction s with
  | nil => rfl
  | cons c s ih =>
    by_cases h : c = 124
    · subst h; rw [escPipe_cons_pipe]; simp [trimLeft, isWs, escPipe_cons_pipe]
    · rw [escPipe_cons_ne _ _ h]
      simp only [trimLeft]
      split
      · exact ih
      · rw [escPipe_cons_ne _ _ h]

theorem trimRight_escPipe (s : Str) : trimRight (escPipe s) = escPipe (trimRight s) := by
  induction s with
  | nil => rfl
  | cons c s ih =>
    by_cases h : c = 124
    · subst h
      rw [escPipe_cons_pipe, trimRight_cons, trimRight_cons, ih, trimRight_cons]
      simp [isWs, escPipe_cons_pipe]
    · rw [escPipe_cons_ne _ _ h, trimRight_cons, trimRight_cons, ih, escPipe_isEmpty]
      split
      · rfl
      · rw [escPipe_cons_ne _ _ h]

theorem trim_escPipe (s : Str) : trim (escPipe s) = escPipe (trim s) := by
  unfold trim; rw [trimLeft_escPipe, trimRight_escPipe]

theorem replaceByte_escPipe (o : Nat) (n : Str) (h1 : o ≠ 124) (h2 : o ≠ 92) (hn : 124 ∉ n) (s : Str) :
    replaceByte o n (escPipe s) = escPipe (replaceByte o n s) := by
  have hn' : escPipe n = n := replaceByte_absent 124 _ n hn
  induction s with
  | nil => rfl
  | cons c s ih =>
    by_cases hc : c = 124
    · subst hc
      rw [escPipe_cons_pipe, replaceByte_cons, replaceByte_cons, replaceByte_cons, ih,
        if_neg (Ne.symm h2), if_neg (Ne.symm h1)]
      exact (escPipe_cons_pipe _).symm
    · rw [escPipe_cons_ne _ _ hc, replaceByte_cons, replaceByte_cons, ih, escPipe_append]
      split
      · rw [hn']
      · rw [escPipe_cons_ne _ _ hc, escPipe_nil]

theorem nlToSpace_escPipe (s : Str) : nlToSpace (escPipe s) = escPipe (nlToSpace s) :=
  replaceByte_escPipe 10 [32] (by decide) (by decide) (by decide) s

theorem replace13_escPipe (n : Str) (hn : 124 ∉ n) (s : Str) :
    replaceByte 13 n (escPipe s) = escPipe (replaceByte 13 n s) :=
  replaceByte_escPipe 13 n (by decide) (by decide) hn s

/-- every writer's cell text is the pipe-escaped form of its normalised cell -/
theorem escCell_eq (w : Writer) (s : Str) : escCell w s = escPipe (preCell w s) := by
  cases w with
  | model => rfl
  | docx => exact trim_escPipe _
  | odt => exact trim_escPipe _
  | xlsx => exact nlToSpace_escPipe _
  | pptx =>
    show replaceByte 13 [32] (nlToSpace (escPipe s)) = escPipe (replaceByte 13 [32] (nlToSpace s))
    rw [nlToSpace_escPipe, replace13_escPipe _ (by decide)]
  | html =>
    show _ = escPipe (replaceByte 13 [] (nlToSpace s))
    rw [← replace13_escPipe _ (by simp), ← nlToSpace_escPipe]
    simp only [escCell]
    induction s with
    | nil => rfl
    | cons c s ih =>
      rw [List.flatMap_cons, ih]
      by_cases h1 : c = 124
      · subst h1; simp [escPipe_cons_pipe, nlToSpace, replaceByte_cons]
      · rw [escPipe_cons_ne _ _ h1]
        by_cases h2 : c = 10
        · subst h2; simp [nlToSpace, replaceByte_cons]
        · by_cases h3 : c = 13
          · subst h3; simp [nlToSpace, replaceByte_cons]
          · simp [nlToSpace, replaceByte_cons, h1, h2, h3]

theorem mem_replaceByte (o : Nat) (n s : Str) (c : Nat) (h : c ∈ replaceByte o n s) :
    c ∈ n ∨ (c ∈ s ∧ c ≠ o) := by
  unfold replaceByte at h
  rcases List.mem_flatMap.mp h with ⟨a, ha, hc⟩
  split at hc
  · exact Or.inl hc
  · simp at hc; subst hc; exact Or.inr ⟨ha, by assumption⟩

/-- the writers' normalisation brings in no byte but the space, and takes the newline out -/
theorem preCell_not_mem (w : Writer) (s : Str) (x : Nat) (hx : x ≠ 32) (h : x ∈ s → x = 10) :
    x ∉ preCell w s := by
  have hnl : x ∉ nlToSpace s := fun hc =>
    (mem_replaceByte _ _ _ _ hc).elim (fun h1 => hx (List.mem_singleton.mp h1)) (fun h1 => h1.2 (h h1.1))
  cases w with
  | model => exact hnl
  | docx => exact fun hc => hnl (mem_trim _ _ hc)
  | odt => exact fun hc => hnl (mem_trim _ _ hc)
  | xlsx => exact hnl
  | pptx =>
    exact fun hc => (mem_replaceByte _ _ _ _ hc).elim (fun h1 => hx (List.mem_singleton.mp h1)) (fun h1 => hnl h1.1)
  | html =>
    exact fun hc => (mem_replaceByte _ _ _ _ hc).elim (fun h1 => absurd h1 List.not_mem_nil) (fun h1 => hnl h1.1)

theorem preCell_noBs (w : Writer) (s : Str) (h : 92 ∉ s) : 92 ∉ preCell w s :=
  preCell_not_mem w s 92 (by decide) (fun hm => absurd hm h)

theorem preCell_noNl (w : Writer) (s : Str) : 10 ∉ preCell w s :=
  preCell_not_mem w s 10 (by decide) (fun _ => rfl)

theorem escPipe_noNl (s : Str) (h : 10 ∉ s) : 10 ∉ escPipe s := by
  intro hc
  rcases mem_replaceByte _ _ _ _ hc with h1 | h1
  · simp at h1
  · exact h h1.1

theorem splitPipes_nil (cur : Str) : splitPipes [] cur = [cur.reverse] := by
  simp [splitPipes]

theorem splitPipes_esc (r cur : Str) : splitPipes (92 :: 124 :: r) cur = splitPipes r (124 :: cur) := by
  rw [splitPipes]

theorem splitPipes_pipe (r cur : Str) : splitPipes (124 :: r) cur = cur.reverse :: splitPipes r [] := by
  rw [splitPipes.eq_3 _ _ _ (fun _ h _ => by omega)]; simp

theorem splitPipes_other (c : Nat) (r cur : Str) (h1 : c ≠ 92) (h2 : c ≠ 124) :
    splitPipes (c :: r) cur = splitPipes r (c :: cur) := by
  rw [splitPipes.eq_3 _ _ _ (fun _ h _ => h1 h)]; simp [h2]

theorem splitPipes_bs (r cur : Str) (h : ∀ r', r ≠ 124 :: r') :
    splitPipes (92 :: r) cur = splitPipes r (92 :: cur) := by
  rw [splitPipes.eq_3 _ _ _ (fun r' _ h2 => h r' h2)]; simp

/-- escaped text never starts with a bare pipe -/
theorem escPipe_append_head (s t : Str) (hs : s ≠ []) : ∀ r', escPipe s ++ t ≠ 124 :: r' := by
  cases s with
  | nil => exact absurd rfl hs
  | cons d s' =>
    intro r' h
    by_cases hd : d = 124
    · subst hd; rw [escPipe_cons_pipe] at h; simp at h
    · rw [escPipe_cons_ne _ _ hd] at h; simp at h; exact hd h.1

/-- scanning an escaped text — ANY bytes, backslashes included — adds exactly that text to the
current cell, provided a backslash at its very end is not followed by a pipe of the row -/
theorem splitPipes_escPipe_append_any (s t : Str) (h : s.getLast? = some 92 → ∀ r', t ≠ 124 :: r')
    (cur : Str) : splitPipes (escPipe s ++ t) cur = splitPipes t (s.reverse ++ cur) := by
  induction s generalizing cur with
  | nil => rfl
  | cons c s ih =>
    have hs : s.getLast? = some 92 → ∀ r', t ≠ 124 :: r' := by
      intro hl; apply h
      cases s with
      | nil => simp at hl
      | cons d s' => simpa [List.getLast?_cons_cons] using hl
    by_cases h1 : c = 124
    · subst h1
      rw [escPipe_cons_pipe]
      simp only [List.cons_append]
      rw [splitPipes_esc, ih hs]
      simp
    · rw [escPipe_cons_ne _ _ h1]
      simp only [List.cons_append]
      by_cases h2 : c = 92
      · subst h2
        have hne : ∀ r', escPipe s ++ t ≠ 124 :: r' := by
          cases s with
          | nil => exact h (by simp)
          | cons d s' => exact escPipe_append_head _ t (by simp)
        rw [splitPipes_bs _ _ hne, ih hs]
        simp
      · rw [splitPipes_other _ _ _ h2 h1, ih hs]
        simp

theorem getLast?_ne_of_not_mem (p : Str) (x : Nat) (h : x ∉ p) : p.getLast? ≠ some x :=
  fun hl => h (List.mem_of_getLast? hl)

theorem splitPipes_escPipe_append (s t : Str) (h : 92 ∉ s) (cur : Str) :
    splitPipes (escPipe s ++ t) cur = splitPipes t (s.reverse ++ cur) :=
  splitPipes_escPipe_append_any s t (fun hl => absurd hl (getLast?_ne_of_not_mem s 92 h)) cur

/-- the body of a row line: each padded cell, pipe-escaped, followed by `|` -/
def rowBody (ps : List Str) : Str := ps.flatMap fun p => escPipe p ++ [124]

theorem rowBody_cons (p : Str) (ps : List Str) : rowBody (p :: ps) = escPipe p ++ 124 :: rowBody ps := by
  simp [rowBody]

theorem rowBody_append (a b : List Str) : rowBody (a ++ b) = rowBody a ++ rowBody b := by
  simp [rowBody]

/-- cells of any bytes that do not END in a backslash (a padded cell ends in a space) -/
theorem splitPipes_rowBody_end (ps : List Str) (h : ∀ p ∈ ps, p.getLast? ≠ some 92) :
    splitPipes (rowBody ps) [] = ps ++ [[]] := by
  induction ps with
  | nil => rfl
  | cons p ps ih =>
    rw [rowBody_cons, splitPipes_escPipe_append_any _ _ (fun hl => absurd hl (h p (by simp))),
      splitPipes_pipe, ih (fun q hq => h q (List.mem_cons_of_mem _ hq))]
    simp

theorem splitPipes_rowBody (ps : List Str) (h : ∀ p ∈ ps, 92 ∉ p) :
    splitPipes (rowBody ps) [] = ps ++ [[]] :=
  splitPipes_rowBody_end ps (fun p hp => getLast?_ne_of_not_mem p 92 (h p hp))

theorem dropLastEmpty_append_nil (ps : List Str) : dropLastEmpty (ps ++ [[]]) = ps := by
  induction ps with
  | nil => rfl
  | cons p ps ih =>
    cases ps with
    | nil => rfl
    | cons q qs =>
      show p :: dropLastEmpty (q :: qs ++ [[]]) = _
      rw [ih]

theorem trim_rowLine (ps : List Str) : trim (124 :: rowBody ps) = 124 :: rowBody ps := by
  unfold trim
  have h1 : trimLeft (124 :: rowBody ps) = 124 :: rowBody ps := by simp [trimLeft, isWs]
  rw [h1]
  apply trimRight_eq_self
  intro c hc
  rcases List.eq_nil_or_concat ps with h | ⟨a, b, h⟩
  · subst h; simp [rowBody] at hc; subst hc; rfl
  · rw [List.concat_eq_append] at h
    subst h
    rw [rowBody_append, rowBody_cons] at hc
    have : (124 :: (rowBody a ++ (escPipe b ++ 124 :: rowBody []))) = (124 :: (rowBody a ++ escPipe b)) ++ [124] := by
      simp [rowBody]
    rw [this, List.getLast?_append] at hc
    simp at hc; subst hc; rfl

/-- a row line made of padded cells of ANY bytes, none of which ends in a
backslash, reads back as those cells, trimmed -/
theorem gfmSplitRow_rowLine_end (ps : List Str) (h : ∀ p ∈ ps, p.getLast? ≠ some 92) :
    gfmSplitRow (124 :: rowBody ps) = ps.map trim := by
  unfold gfmSplitRow
  rw [trim_rowLine]
  simp only
  rw [splitPipes_rowBody_end _ h, dropLastEmpty_append_nil]

/-- the cell as it stands between two pipes, before pipe escaping -/
def padCell (w : Writer) (c : Str) : Str := 32 :: preCell w c ++ [32]

theorem escPipe_pad (x : Str) : escPipe (32 :: x ++ [32]) = 32 :: escPipe x ++ [32] := by
  rw [List.cons_append, escPipe_cons_ne _ _ (by decide), escPipe_append]; rfl

theorem rowPipe_eq (w : Writer) (cells : List Str) :
    rowPipe (cells.map (escCell w)) = 124 :: rowBody (cells.map (padCell w)) := by
  unfold rowPipe
  congr 1
  induction cells with
  | nil => rfl
  | cons c cs ih =>
    simp only [List.map_cons, List.flatMap_cons, rowBody_cons, ih, padCell, escPipe_pad, escCell_eq]
    simp

theorem rowModel_eq (cs : List Str) (h : cs ≠ []) : rowModel cs = rowPipe cs := by
  induction cs with
  | nil => exact absurd rfl h
  | cons c cs ih =>
    cases cs with
    | nil => simp [rowModel, rowPipe]
    | cons d ds =>
      rw [rowModel, ih (by simp)]
      · simp [rowPipe]
      · simp

theorem renderRow_eq (w : Writer) (cells : List Str) (h : cells ≠ []) :
    renderRow w cells = 124 :: rowBody (cells.map (padCell w)) := by
  rw [← rowPipe_eq]
  cases w with
  | model => exact rowModel_eq _ (by simpa using h)
  | _ => rfl

theorem padCell_not_mem (w : Writer) (c : Str) (x : Nat) (hx : x ≠ 32) (h : x ∉ preCell w c) :
    x ∉ padCell w c := by
  intro hm
  rcases List.mem_cons.mp hm with e | hm
  · exact hx e
  · rcases List.mem_append.mp hm with hm | hm
    · exact h hm
    · exact hx (List.mem_singleton.mp hm)

theorem padCell_noBs (w : Writer) (c : Str) (h : 92 ∉ c) : 92 ∉ padCell w c :=
  padCell_not_mem w c 92 (by decide) (preCell_noBs w c h)

theorem trim_padCell (w : Writer) (c : Str) : trim (padCell w c) = normCell w c := trim_pad _

theorem padCell_end (w : Writer) (c : Str) : (padCell w c).getLast? ≠ some 92 := by
  unfold padCell
  rw [List.getLast?_append]
  simp

theorem gfmSplitRow_renderRow_any (w : Writer) (cells : List Str) (hne : cells ≠ []) :
    gfmSplitRow (renderRow w cells) = cells.map (normCell w) := by
  rw [renderRow_eq w cells hne, gfmSplitRow_rowLine_end]
  · simp [trim_padCell]
  · intro p hp
    rcases List.mem_map.mp hp with ⟨c, _, rfl⟩
    exact padCell_end w c

theorem rowBody_noNl (ps : List Str) (h : ∀ p ∈ ps, 10 ∉ p) : 10 ∉ rowBody ps := by
  unfold rowBody
  intro hc
  rcases List.mem_flatMap.mp hc with ⟨p, hp, h1⟩
  rcases List.mem_append.mp h1 with h2 | h2
  · exact escPipe_noNl p (h p hp) h2
  · simp at h2

theorem rowLine_noNl (ps : List Str) (h : ∀ p ∈ ps, 10 ∉ p) : 10 ∉ 124 :: rowBody ps := by
  intro hc
  rcases List.mem_cons.mp hc with h1 | h1
  · simp at h1
  · exact rowBody_noNl _ h h1

theorem renderRow_noNl (w : Writer) (cells : List Str) (hne : cells ≠ []) : 10 ∉ renderRow w cells := by
  rw [renderRow_eq w cells hne]
  refine rowLine_noNl _ fun p hp => ?_
  rcases List.mem_map.mp hp with ⟨c, _, rfl⟩
  exact padCell_not_mem w c 10 (by decide) (preCell_noNl w c)

def dashCell (w : Writer) : Str :=
  match w with
  | .model => [45, 45, 45]
  | .xlsx => [45, 45, 45]
  | .pptx => [45, 45, 45]
  | _ => [32, 45, 45, 45, 32]

theorem trim_dashCell (w : Writer) : trim (dashCell w) = [45, 45, 45] := by cases w <;> rfl

theorem dashCell_end (w : Writer) : (dashCell w).getLast? ≠ some 92 := by cases w <;> decide

theorem dashCell_noNl (w : Writer) : 10 ∉ dashCell w := by cases w <;> decide

/-- a line of `n` delimiter cells, whatever the writer's padding, reads as `n` times `---` -/
theorem gfmSplitRow_dashLine (w : Writer) (n : Nat) :
    gfmSplitRow (124 :: rowBody (List.replicate n (dashCell w))) = List.replicate n [45, 45, 45] := by
  rw [gfmSplitRow_rowLine_end _ fun p hp => List.eq_of_mem_replicate hp ▸ dashCell_end w, List.map_replicate,
    trim_dashCell]

theorem delimPipe_eq (w : Writer) (hw : w ≠ .model) (n : Nat) :
    delimPipe (delimPiece w) n = 124 :: rowBody (List.replicate n (dashCell w)) := by
  unfold delimPipe
  congr 1
  induction n with
  | zero => rfl
  | succ n ih =>
    rw [List.replicate_succ, List.flatten_cons, ih, List.replicate_succ, rowBody_cons]
    cases w <;> first | exact absurd rfl hw | rfl

theorem delimModel_eq (n : Nat) (h : 1 ≤ n) :
    delimModel n = 124 :: rowBody (List.replicate n [45, 45, 45]) := by
  induction n with
  | zero => omega
  | succ n ih =>
    cases n with
    | zero => rfl
    | succ m =>
      rw [delimModel, ih (by omega)]
      · rfl
      · omega

theorem renderDelim_eq (w : Writer) (n : Nat) (h : 1 ≤ n) :
    renderDelim w n = 124 :: rowBody (List.replicate n (dashCell w)) := by
  cases w with
  | model => exact delimModel_eq n h
  | _ => exact delimPipe_eq _ (by decide) n

theorem gfmSplitRow_renderDelim (w : Writer) (n : Nat) (h : 1 ≤ n) :
    gfmSplitRow (renderDelim w n) = List.replicate n [45, 45, 45] := by
  rw [renderDelim_eq w n h, gfmSplitRow_dashLine]

theorem gfmSplitRow_delimPipe (w : Writer) (hw : w ≠ .model) (n : Nat) :
    gfmSplitRow (delimPipe (delimPiece w) n) = List.replicate n [45, 45, 45] := by
  rw [delimPipe_eq w hw, gfmSplitRow_dashLine]

theorem renderDelim_noNl (w : Writer) (n : Nat) (h : 1 ≤ n) : 10 ∉ renderDelim w n := by
  rw [renderDelim_eq w n h]
  exact rowLine_noNl _ fun p hp => List.eq_of_mem_replicate hp ▸ dashCell_noNl w

/-- splitting at `\n` is core's `List.splitOn` -/
theorem splitLines_eq_splitOn (s : Str) : splitLines s = s.splitOn 10 := by
  induction s with
  | nil => rfl
  | cons c cs ih =>
    rw [splitLines, List.splitOn_cons_eq_if_modifyHead, ih]
    by_cases hc : c = 10
    · simp [hc]
    · obtain ⟨l, ls, h⟩ := List.exists_cons_of_ne_nil (List.splitOn_ne_nil 10 cs)
      simp [hc, h]

theorem ne_nil_of_length {α} (r : List α) (n : Nat) (hn : 1 ≤ n) (h : r.length = n) : r ≠ [] := by
  intro e
  rw [e] at h
  exact absurd h.symm (Nat.ne_of_gt hn)

/-- every line of a table of `n ≥ 1` columns — each row, the delimiter row — has `n` cells for the reader -/
theorem rows_rect (w : Writer) (n : Nat) (hn : 1 ≤ n) (t : List (List Str)) (hrect : ∀ r ∈ t, r.length = n) :
    (∀ r ∈ t, (gfmSplitRow (renderRow w r)).length = n) ∧ (gfmSplitRow (renderDelim w n)).length = n := by
  refine ⟨fun r hr => ?_, ?_⟩
  · rw [gfmSplitRow_renderRow_any w r (ne_nil_of_length r n hn (hrect r hr)), List.length_map, hrect r hr]
  · rw [gfmSplitRow_renderDelim w n hn, List.length_replicate]

theorem padTrunc_exact (n : Nat) (cells : List Str) (h : cells.length = n) : padTrunc n cells = cells := by
  unfold padTrunc
  subst h
  simp

theorem isBlank_rowLine (r : Str) : isBlank (124 :: r) = false := by
  simp [isBlank, isWs]

theorem all_replicate_dash (n : Nat) : (List.replicate n [45, 45, 45]).all isDelimCell = true := by
  rw [List.all_eq_true]
  intro x hx
  rw [List.eq_of_mem_replicate hx]
  decide

theorem SCell.cols_pos (c : SCell) : 1 ≤ c.cols := by
  unfold SCell.cols; split <;> omega

/-- padded cells of one docx/odt row -/
def spanPs (w : Writer) (n : Nat) (cells : List SCell) : List Str :=
  cells.flatMap (fun c =>
    if c.cont then List.replicate c.cols [32] else padCell w c.text :: List.replicate (c.cols - 1) [32])
  ++ List.replicate (n - rowCols cells) [32]

theorem emptyCells_eq (k : Nat) : emptyCells k = rowBody (List.replicate k [32]) := by
  unfold emptyCells
  induction k with
  | zero => rfl
  | succ k ih => rw [List.replicate_succ, List.flatten_cons, ih, List.replicate_succ, rowBody_cons]; rfl

theorem flatMap_spanCellOut (w : Writer) (cells : List SCell) :
    cells.flatMap (spanCellOut w) = rowBody (cells.flatMap (fun c =>
      if c.cont then List.replicate c.cols [32] else padCell w c.text :: List.replicate (c.cols - 1) [32])) := by
  induction cells with
  | nil => rfl
  | cons c cs ih =>
    rw [List.flatMap_cons, List.flatMap_cons, rowBody_append, ih]
    congr 1
    unfold spanCellOut
    split
    · exact emptyCells_eq _
    · rw [rowBody_cons, ← emptyCells_eq, padCell, escPipe_pad, escCell_eq]; simp

theorem renderSpanRow_eq (w : Writer) (n : Nat) (cells : List SCell) :
    renderSpanRow w n cells = 124 :: rowBody (spanPs w n cells) := by
  unfold renderSpanRow spanPs
  rw [rowBody_append, ← emptyCells_eq, flatMap_spanCellOut]
  rfl

theorem length_spanPs (w : Writer) (n : Nat) (cells : List SCell) (h : rowCols cells ≤ n) :
    (spanPs w n cells).length = n := by
  have hc : ∀ c : SCell, (if c.cont then List.replicate c.cols [32]
      else padCell w c.text :: List.replicate (c.cols - 1) [32]).length = c.cols := by
    intro c
    have := c.cols_pos
    split
    · exact List.length_replicate
    · rw [List.length_cons, List.length_replicate]; omega
  unfold spanPs
  rw [List.length_append, List.length_flatMap, List.length_replicate]
  simp only [hc]
  change rowCols cells + (n - rowCols cells) = n
  omega

theorem map_trim_spanPs (w : Writer) (n : Nat) (cells : List SCell) :
    (spanPs w n cells).map trim = gridRow w n cells := by
  unfold spanPs gridRow
  rw [List.map_append, List.map_replicate, trim_space, List.map_flatMap]
  congr 1
  induction cells with
  | nil => rfl
  | cons c cs ih =>
    rw [List.flatMap_cons, List.flatMap_cons, ih]
    congr 1
    split
    · rw [List.map_replicate, trim_space]
    · rw [List.map_cons, List.map_replicate, trim_space, trim_padCell]

theorem mem_spanPs (w : Writer) (n : Nat) (cells : List SCell) (p : Str) (hp : p ∈ spanPs w n cells) :
    p = [32] ∨ ∃ c ∈ cells, p = padCell w c.text := by
  unfold spanPs at hp
  rcases List.mem_append.mp hp with h1 | h1
  · rcases List.mem_flatMap.mp h1 with ⟨c, hc, h2⟩
    split at h2
    · exact Or.inl (List.eq_of_mem_replicate h2)
    · rcases List.mem_cons.mp h2 with h3 | h3
      · exact Or.inr ⟨c, hc, h3⟩
      · exact Or.inl (List.eq_of_mem_replicate h3)
  · exact Or.inl (List.eq_of_mem_replicate h1)

theorem spanPs_no (w : Writer) (n : Nat) (cells : List SCell) (x : Nat) (hx : x ≠ 32)
    (h : ∀ c ∈ cells, x ∉ preCell w c.text) : ∀ p ∈ spanPs w n cells, x ∉ p := by
  intro p hp
  rcases mem_spanPs w n cells p hp with rfl | ⟨c, hc, rfl⟩
  · exact fun hm => hx (List.mem_singleton.mp hm)
  · exact padCell_not_mem w _ x hx (h c hc)

/-- every padded cell of a docx/odt row ends in a space, whatever the cell texts -/
theorem spanPs_end (w : Writer) (n : Nat) (cells : List SCell) :
    ∀ p ∈ spanPs w n cells, p.getLast? ≠ some 92 := by
  intro p hp
  rcases mem_spanPs w n cells p hp with rfl | ⟨c, _, rfl⟩
  · decide
  · exact padCell_end w c.text

theorem rowCols_le_colCount (t : List (List SCell)) : ∀ r ∈ t, rowCols r ≤ colCount t := by
  have e : (fun m r => if rowCols r > m then rowCols r else m) = fun m r => max m (rowCols r) := by
    funext m r; split <;> omega
  unfold colCount
  rw [e]
  exact (foldl_max_bounds rowCols t 0).2

/-- whatever the spans, every line of a docx / odt table — each row, the delimiter row — has
`colCount t` cells for the reader -/
theorem spanRows_rect (w : Writer) (hw : w ≠ .model) (t : List (List SCell)) :
    (∀ r ∈ t, (gfmSplitRow (renderSpanRow w (colCount t) r)).length = colCount t) ∧
      (gfmSplitRow (delimPipe (delimPiece w) (colCount t))).length = colCount t := by
  refine ⟨fun r hr => ?_, ?_⟩
  · rw [renderSpanRow_eq, gfmSplitRow_rowLine_end _ (spanPs_end w _ r), List.length_map,
      length_spanPs w _ r (rowCols_le_colCount t r hr)]
  · rw [gfmSplitRow_delimPipe w hw, List.length_replicate]

theorem min_max_one (x c : Int) (hc : 1 ≤ c) : min (max 1 x) c = max 1 (min x c) := by
  by_cases hx : x ≤ 1
  · rw [Int.max_eq_left hx, Int.min_eq_left hc, Int.max_eq_left (Int.le_trans (Int.min_le_left x c) hx)]
  · have hx' : 1 ≤ x := by omega
    rw [Int.max_eq_right hx', Int.max_eq_right (Int.le_min.mpr ⟨hx', hc⟩)]

/-- The chunk writer's level: the shifted level clamped into `1 .. min m 6` (`1 .. 6` when the
maximum `m` is unset).  The code floors at 1 first and caps afterwards; as every cap is ≥ 1 the
two commute (`min_max_one`). -/
theorem headingLevelRag_eq (level offset m : Int) :
    headingLevelRag level offset m
      = max 1 (min ((if level = 0 then 2 else level) + offset) (if 0 < m then min m 6 else 6)) := by
  simp only [headingLevelRag]
  generalize (if level = 0 then 2 else level) + offset = x
  have e1 : (if x < 1 then 1 else x) = max 1 x := by omega
  have e3 (l : Int) : (if l > 6 then 6 else l) = min l 6 := by omega
  rw [e1, e3]
  by_cases hm : 0 < m
  · have e2 (l : Int) : (if m > 0 ∧ l > m then m else l) = min l m := by omega
    rw [e2, if_pos hm, Int.min_assoc, min_max_one _ _ (by omega)]
  · rw [if_neg (fun h => hm h.1), if_neg hm, min_max_one _ _ (by decide)]

theorem headingLevelRag_range (level offset m : Int) :
    1 ≤ headingLevelRag level offset m ∧ headingLevelRag level offset m ≤ 6 := by
  rw [headingLevelRag_eq]
  have hcap : (if 0 < m then min m 6 else 6) ≤ 6 := by
    split
    · exact Int.min_le_right _ _
    · exact Int.le_refl 6
  exact ⟨Int.le_max_left _ _, Int.max_le.mpr ⟨by decide, Int.le_trans (Int.min_le_right _ _) hcap⟩⟩

/-- `AdjustHeadingLevel` is the chunk writer's arithmetic on the level floored at 1. -/
theorem headingLevel_eq_rag (level offset m : Int) :
    headingLevel level offset m = headingLevelRag (max level 1) offset m := by
  have h0 : ¬ max level 1 = 0 := by omega
  have e : (if level < 1 then 1 else level) = max level 1 := by omega
  simp only [headingLevel, headingLevelRag, e, h0, if_false]

theorem headingLevel_eq (level offset m : Int) :
    headingLevel level offset m
      = max 1 (min (max level 1 + offset) (if 0 < m then min m 6 else 6)) := by
  rw [headingLevel_eq_rag, headingLevelRag_eq, if_neg (by omega)]

theorem atxLine_span (level : Nat) (text : Str) :
    (atxLine level text).takeWhile (· == 35) = List.replicate level 35 ∧
      (atxLine level text).dropWhile (· == 35) = 32 :: text := by
  have h : ∀ c ∈ List.replicate level 35, (c == 35) = true := fun _ hc => beq_iff_eq.mpr (List.eq_of_mem_replicate hc)
  exact ⟨List.takeWhile_append_cons_of_neg h rfl, List.dropWhile_append_cons_of_neg h rfl⟩

theorem dec_digits (n : Nat) : ∀ c ∈ dec n, isDigit c = true := fun c hc => by
  have := Tabula.A1.dec_all_digits n c hc
  simp [isDigit, this.1, this.2]

theorem trimRight_idem (s : Str) : trimRight (trimRight s) = trimRight s := by
  have h := List.head?_dropWhile_not isWs s.reverse
  rw [trimRight_eq_dropWhile (trimRight s), trimRight_eq_dropWhile s, List.reverse_reverse,
    List.dropWhile_eq_self_of_head fun c hc => by rw [hc] at h; exact h]

theorem trimLeft_trimRight_of_head (y : Str) (h : y = [] ∨ ∃ a y', y = a :: y' ∧ isWs a = false) :
    trimLeft (trimRight y) = trimRight y := by
  rcases h with h | ⟨a, y', h, ha⟩
  · subst h; rfl
  · subst h
    rw [trimRight_cons]
    simp [ha, trimLeft]

theorem trimLeft_head (s : Str) : trimLeft s = [] ∨ ∃ a y', trimLeft s = a :: y' ∧ isWs a = false := by
  have h := List.head?_dropWhile_not isWs s
  rw [trimLeft_eq_dropWhile]
  cases hd : s.dropWhile isWs with
  | nil => exact Or.inl rfl
  | cons a y => rw [hd] at h; exact Or.inr ⟨a, y, rfl, h⟩

theorem trim_trim (s : Str) : trim (trim s) = trim s := by
  unfold trim
  rw [trimLeft_trimRight_of_head _ (trimLeft_head s), trimRight_idem]

theorem spaces_span (k c : Nat) (r : Str) (hc : c ≠ 32) :
    (List.replicate k 32 ++ c :: r).takeWhile (· == 32) = List.replicate k 32 ∧
      (List.replicate k 32 ++ c :: r).dropWhile (· == 32) = c :: r := by
  have h : ∀ a ∈ List.replicate k 32, (a == 32) = true := fun _ ha => beq_iff_eq.mpr (List.eq_of_mem_replicate ha)
  exact ⟨List.takeWhile_append_cons_of_neg h (beq_eq_false_iff_ne.mpr hc),
    List.dropWhile_append_cons_of_neg h (beq_eq_false_iff_ne.mpr hc)⟩

theorem parse_unordered (k : Nat) (text : Str) :
    parseListLine (List.replicate k 32 ++ 45 :: 32 :: text) = some (k / 2, false, text) := by
  obtain ⟨ht, hd⟩ := spaces_span k 45 (32 :: text) (by decide)
  unfold parseListLine
  simp only [ht, hd, List.length_replicate]
  simp

theorem parseOrdered_dec (ind n : Nat) (text : Str) :
    parseOrdered ind (dec n ++ 46 :: 32 :: text) = some (ind / 2, true, text) := by
  obtain ⟨d, ds, hdec, _, _⟩ := dec_head n
  unfold parseOrdered
  rw [List.takeWhile_append_of_pos (dec_digits n), List.dropWhile_append_of_pos (dec_digits n)]
  simp [isDigit, hdec]

theorem parse_ordered (k n : Nat) (text : Str) :
    parseListLine (List.replicate k 32 ++ (dec n ++ 46 :: 32 :: text)) = some (k / 2, true, text) := by
  obtain ⟨d, ds, hdec, hd1, hd2⟩ := dec_head n
  have hp := parseOrdered_dec k n text
  rw [hdec, List.cons_append] at hp ⊢
  obtain ⟨ht, hd⟩ := spaces_span k d (ds ++ 46 :: 32 :: text) (by omega)
  unfold parseListLine
  simp only [ht, hd, List.length_replicate]
  split
  · rename_i m t heq
    injection heq with e1 _
    have hm : ¬ (m = 45 ∨ m = 42 ∨ m = 43) := by omega
    rw [if_neg hm]
    exact hp
  · exact hp

theorem parseListLine_listLine (it : Item) :
    parseListLine (listLine it) = some (it.depth, it.ordered, it.text) := by
  have h2 : 2 * it.depth / 2 = it.depth := by omega
  unfold listLine
  cases hO : it.ordered with
  | false =>
    have := parse_unordered (2 * it.depth) it.text
    rw [h2] at this
    simpa using this
  | true =>
    have := parse_ordered (2 * it.depth) it.num it.text
    rw [h2] at this
    simpa using this

theorem listLine_noNl (it : Item) (h : 10 ∉ it.text) : 10 ∉ listLine it := by
  unfold listLine
  intro hm
  simp only [List.mem_append] at hm
  rcases hm with (hm | hm) | hm
  · have := List.eq_of_mem_replicate hm; omega
  · split at hm
    · rcases List.mem_append.mp hm with h1 | h1
      · have := dec_digits it.num 10 h1; simp [isDigit] at this
      · simp at h1
    · simp at hm
  · exact h hm

theorem atxLine_noNl (n : Nat) (t : Str) (h : 10 ∉ t) : 10 ∉ atxLine n t := by
  unfold atxLine
  intro hm
  rcases List.mem_append.mp hm with hm | hm
  · have := List.eq_of_mem_replicate hm; omega
  · rcases List.mem_cons.mp hm with hm | hm
    · omega
    · exact h hm

end Tabula.Markdown
