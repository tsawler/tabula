import TabulaModel.Lemmas.Layout
import TabulaModel.Lemmas.LayoutNonspace
/-!
`Keeps out fs`: the fragment list `out` is `fs` up to order and up to fragments that show no
visible character. Detectors that lose nothing give a `List.Perm`; the two that may drop something
(`buildLines`, `validateBlocks`) drop blank fragments only, and `Keeps` is what survives them. One
chain of `Keeps` facts through the detectors yields the three things the properties ask of a view
of the page: the same visible characters (`Keeps.nonspace`), no fragment id more often than on the
page (`Keeps.ids_le`), every fragment with visible text exactly as often (`Keeps.count_eq`).
-/
namespace Tabula.Layout
open List

def Keeps (out fs : List Frag) : Prop := ∃ d, (out ++ d).Perm fs ∧ nonspace (textsOf d) = []

theorem Keeps.of_perm {a b : List Frag} (h : a.Perm b) : Keeps a b :=
  ⟨[], (List.append_nil a).symm ▸ h, rfl⟩

theorem Keeps.refl (a : List Frag) : Keeps a a := .of_perm (.refl a)

theorem Keeps.perm {a b c : List Frag} : Keeps a b → b.Perm c → Keeps a c
  | ⟨d, h, hd⟩, hp => ⟨d, h.trans hp, hd⟩

theorem Keeps.of_perm_left {a b c : List Frag} : Keeps b c → a.Perm b → Keeps a c
  | ⟨d, h, hd⟩, hp => ⟨d, (hp.append_right d).trans h, hd⟩

/-- blank fragments may be missing -/
theorem Keeps.drop {a b : List Frag} (x : List Frag) (hx : nonspace (textsOf x) = []) : Keeps a b → Keeps a (x ++ b)
  | ⟨d, h, hd⟩ =>
    ⟨x ++ d, (List.perm_append_comm_assoc a x d).trans (h.append_left x), by
      rw [textsOf_append, nonspace_append, hx, hd]; rfl⟩

theorem Keeps.append {a b c d : List Frag} : Keeps a b → Keeps c d → Keeps (a ++ c) (b ++ d)
  | ⟨x, h, hx⟩, ⟨y, h', hy⟩ =>
    ⟨x ++ y, by
      rw [List.append_assoc]
      refine ((List.perm_append_comm_assoc c x y).append_left a).trans ?_
      rw [← List.append_assoc]
      exact h.append h', by
      rw [textsOf_append, nonspace_append, hx, hy]; rfl⟩

theorem Keeps.flatMap {α : Type} (f g : α → List Frag) (l : List α) (h : ∀ x ∈ l, Keeps (f x) (g x)) :
    Keeps (l.flatMap f) (l.flatMap g) := by
  induction l with
  | nil => exact .refl _
  | cons x l ih =>
    obtain ⟨hx, hl⟩ := List.forall_mem_cons.mp h
    exact hx.append (ih hl)

/-- a filter that drops only members without a visible character -/
theorem Keeps.filter {α : Type} (frs : α → List Frag) (keep : α → Bool) (l : List α)
    (h : ∀ a ∈ l, keep a = false → nonspace (textsOf (frs a)) = []) :
    Keeps ((l.filter keep).flatMap frs) (l.flatMap frs) := by
  induction l with
  | nil => exact .refl _
  | cons a l ih =>
    obtain ⟨ha, hl⟩ := List.forall_mem_cons.mp h
    rw [List.filter_cons]
    cases hk : keep a with
    | true => exact (Keeps.refl (frs a)).append (ih hl)
    | false => exact (ih hl).drop _ (ha hk)

theorem sum_count_filter {α : Type} [DecidableEq α] (p : List α → Bool) (L : List (List α)) (f : α)
    (h : ∀ g ∈ L, f ∈ g → p g = true) :
    ((L.filter p).map (List.count f)).sum = (L.map (List.count f)).sum := by
  -- the groups that go do not hold `f`
  rw [← List.count_flatten, ← List.count_flatten, ← (List.filter_append_perm p L).flatten.count_eq f,
    List.flatten_append, List.count_append, Nat.left_eq_add, List.count_eq_zero, List.mem_flatten]
  exact fun ⟨g, hg, hfg⟩ => by simpa [h g (List.mem_filter.mp hg).1 hfg] using (List.mem_filter.mp hg).2

theorem Keeps.nonspace {a b : List Frag} : Keeps a b → (nonspace (textsOf a)).Perm (nonspace (textsOf b))
  | ⟨d, h, hd⟩ => by
    have := textsOf_perm h
    rwa [textsOf_append, nonspace_append, hd, List.append_nil] at this

theorem Keeps.ids_le {a b : List Frag} : Keeps a b → ∀ i, (a.map (·.id)).count i ≤ (b.map (·.id)).count i
  | ⟨d, h, _⟩, i => by
    rw [← (h.map _).count_eq i, List.map_append, List.count_append]
    exact Nat.le_add_right _ _

/-- a fragment with a visible character is not among blank ones -/
theorem not_mem_of_visible {d : List Frag} (hd : nonspace (textsOf d) = []) {f : Frag}
    (hv : visible f.text = true) : f ∉ d := by
  intro hm
  rw [← Bool.not_eq_false, visible_false_iff] at hv
  refine hv (List.eq_nil_iff_forall_not_mem.mpr fun c hc => ?_)
  have : c ∈ nonspace (textsOf d) :=
    List.mem_filter.mpr ⟨List.mem_flatMap.mpr ⟨f, hm, (List.mem_filter.mp hc).1⟩, (List.mem_filter.mp hc).2⟩
  rw [hd] at this
  cases this

theorem visible_of_mem (g : List Frag) (f : Frag) (hm : f ∈ g) (hv : visible f.text = true) :
    visible (lineText g) = true := by
  rw [← Bool.not_eq_false, visible_false_iff, nonspace_lineText]
  exact fun h0 => not_mem_of_visible h0 hv hm

theorem Keeps.count_eq {a b : List Frag} {f : Frag} (hv : visible f.text = true) :
    Keeps a b → a.count f = b.count f
  | ⟨d, h, hd⟩ => by
    rw [← h.count_eq f, List.count_append, List.count_eq_zero_of_not_mem (not_mem_of_visible hd hv), Nat.add_zero]

/-! ## the two filters, and the detectors built on them -/

theorem buildLines_keeps (m : Rat) (gs : List (List Frag)) : Keeps (buildLines m gs).flatten gs.flatten := by
  have := Keeps.filter id (keepLine m) gs fun g _ => dropped_line_blank m g
  rwa [List.flatMap_id, List.flatMap_id] at this

theorem detectLines_keeps (tol minW : Rat) (preserve : List Frag → Bool) (fs : List Frag) :
    Keeps (detectLines tol minW preserve fs).flatten fs :=
  (buildLines_keeps _ _).perm (groupIntoLines_perm tol preserve fs)

theorem detectLines_nonspace (tol minW : Rat) (preserve : List Frag → Bool) (fs : List Frag) :
    (nonspace (textsOf (detectLines tol minW preserve fs).flatten)).Perm (nonspace (textsOf fs)) :=
  (detectLines_keeps tol minW preserve fs).nonspace

theorem detectLines_ids_le (tol minW : Rat) (preserve : List Frag → Bool) (fs : List Frag) (i : Nat) :
    ((detectLines tol minW preserve fs).flatten.map (·.id)).count i ≤ (fs.map (·.id)).count i :=
  (detectLines_keeps tol minW preserve fs).ids_le i

theorem validateBlocks_keeps (mw mh : Rat) (bs : List Block) :
    Keeps (blocksFrags (validateBlocks mw mh bs)) (blocksFrags bs) :=
  Keeps.filter Block.frags (keepBlock mw mh) bs fun b _ => dropped_block_blank mw mh b

theorem detectBlocks_keeps (brk : List (List Frag) → List Frag → List (List Frag) → Bool)
    (ov : Block → Block → Bool) (minW minH : Rat) (lines : List (List Frag)) :
    Keeps (blocksFrags (detectBlocks brk ov minW minH lines)) lines.flatten :=
  (validateBlocks_keeps _ _ _).perm
    ((mergeAll_perm (·.frags) mergeBlocks_frags ov _).trans (.of_eq (groupBlocks_frags brk lines)))

theorem validateBlocks_lines_nonspace (mw mh : Rat) (bs : List Block) (hb : ∀ b ∈ bs, BlockOk b) :
    nonspace (textsOf (blocksLines (validateBlocks mw mh bs)).flatten) = nonspace (textsOf (blocksLines bs).flatten) := by
  have := nonspace_filter_blank (fun b : Block => b.lines.flatten) (keepBlock mw mh) bs fun b hm hk =>
    ((textsOf_perm (hb b hm)).trans (.of_eq (dropped_block_blank mw mh b hk))).eq_nil
  rw [blocksLines, blocksLines, List.flatten_flatten, List.flatten_flatten, List.map_map, List.map_map]
  exact this

end Tabula.Layout
