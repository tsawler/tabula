import TabulaModel.Lemmas.Aligned
import TabulaModel.Lemmas.SplitApi
/-!
C13: `SplitToSize(text, boundaries)` with caller-supplied boundaries that lie on
character boundaries of the text (`BoundariesAligned`; every list `DetectBoundaries` returns is
one, `Lemmas/SemBoundary.lean`).

After fix cf372da the loop shifts the boundaries by the split position AND the white space
trimmed in front of the new remainder, so `BoundariesAligned` is an invariant of the loop;
every split point is then a position no well-formed character covers, which gives
conservation of the non-whitespace characters for any bytes and UTF-8 integrity for valid
text, whatever the boundaries' scores and whichever of them are chosen.
-/
set_option linter.unusedVariables false
namespace Tabula.Split

/-- every supplied boundary lies on a character boundary of `s` (or beyond its end): no
well-formed character of `s` has the position strictly inside it -/
def BoundariesAligned (s : Str) (bs : List Boundary) : Prop := ∀ b ∈ bs, NotCovered s b.pos

theorem boundariesAligned_nil (s : Str) : BoundariesAligned s [] := by
  intro b hb; cases hb

theorem notCovered_drop (s : Str) (off p : Nat) (h : NotCovered s (off + p)) :
    NotCovered (s.drop off) p := by
  intro q hq hc
  rw [List.drop_drop] at hc
  exact h (off + q) (by omega) (by omega)

theorem notCovered_take (s : Str) (n p : Nat) (h : NotCovered s p) : NotCovered (s.take n) p := by
  intro q hq hc
  have hk : charLen ((s.take n).drop q) ≠ 0 := by omega
  have e : (s.take n).drop q = (s.drop q).take (n - q) := by
    rw [List.drop_take]
  have hs : s.drop q = (s.drop q).take (n - q) ++ (s.drop q).drop (n - q) :=
    (List.take_append_drop _ _).symm
  have h2 : charLen (s.drop q) = charLen ((s.take n).drop q) := by
    rw [e] at hk ⊢
    conv => lhs; rw [hs]
    exact charLen_append _ _ hk
  exact h q hq (by omega)

/-- the bytes `strings.TrimSpace` keeps, as a slice of its argument -/
theorem trimSpace_eq_take_drop (x : Str) :
    trimSpace x = (x.drop (leadingSpace x)).take (trimSpace x).length := by
  obtain ⟨l, _, e1⟩ := trimLeft_decomp x
  obtain ⟨r, _, e2⟩ := trimRight_decomp (trimLeft x)
  have hl : leadingSpace x = l.length := by
    unfold leadingSpace
    have := congrArg List.length e1
    simp only [List.length_append] at this
    omega
  have hd : x.drop l.length = trimLeft x := by
    conv => lhs; rw [e1]
    exact List.drop_left
  rw [hl, hd]
  have : trimSpace x = trimRight (trimLeft x) := rfl
  rw [this]
  generalize trimRight (trimLeft x) = t at e2 ⊢
  rw [e2]
  exact List.take_left.symm

theorem boundariesAligned_step (rem : Str) (bs : List Boundary) (sp : Nat)
    (hb : BoundariesAligned rem bs) :
    BoundariesAligned (trimSpace (rem.drop sp))
      (adjustBoundaryPositions bs (sp + leadingSpace (rem.drop sp))) := by
  intro b hbm
  unfold adjustBoundaryPositions at hbm
  obtain ⟨b0, hb0, e⟩ := List.mem_map.mp hbm
  obtain ⟨hb0m, hgt⟩ := List.mem_filter.mp hb0
  have hgt : b0.pos > sp + leadingSpace (rem.drop sp) := by simpa using hgt
  subst e
  simp only
  rw [trimSpace_eq_take_drop (rem.drop sp), List.drop_drop]
  apply notCovered_take
  apply notCovered_drop
  have : sp + leadingSpace (rem.drop sp) + (b0.pos - (sp + leadingSpace (rem.drop sp))) = b0.pos := by
    omega
  rw [this]
  exact hb b0 hb0m

/-- with aligned boundaries no split point lies strictly inside a well-formed character -/
theorem notCovered_findSplitPointAt_aligned (c : SizeConfig) (s : Str) (bs : List Boundary)
    (hb : BoundariesAligned s bs) (M : Nat) (u : SizeUnit) :
    NotCovered s (findSplitPointAt c s bs M u) := by
  rcases findSplitPointAt_cases c s bs M u with ⟨_, e⟩ | ⟨_, ⟨b, _, hbest, e⟩ | e⟩ <;> rw [e]
  · exact notCovered_of_ge s _ (Nat.le_refl _)
  · exact hb b (findBestBoundaryNear_some hbest).1
  · exact notCovered_findSentenceEndNear s _

/-- without supplied boundaries no split point lies strictly inside a well-formed character,
whatever the bytes -/
theorem notCovered_findSplitPointAt (c : SizeConfig) (s : Str) (M : Nat) (u : SizeUnit) :
    NotCovered s (findSplitPointAt c s [] M u) :=
  notCovered_findSplitPointAt_aligned c s [] (boundariesAligned_nil s) M u

/-- **conservation for any bytes and aligned boundaries**, under every reading that follows the
scan: the pieces carry what the text carries -/
theorem splitToSize_reads_aligned {f : Str → Str} (hf : Reads f) (c : SizeConfig) (text : Str)
    (bs : List Boundary) (hb : BoundariesAligned text bs) :
    (splitToSize c text bs).flatMap f = f text := by
  refine splitToSize_induction (Inv := BoundariesAligned)
    (R := fun rem ps => ps.flatMap f = f rem) (by rw [hf.nil]; rfl)
    (fun rem _ _ _ _ _ _ => by simp) (fun rem bs sp hb hsp _ _ _ => ?_) text bs hb
  subst hsp
  refine ⟨boundariesAligned_step rem bs _ hb, fun ps ih => ?_⟩
  rw [hf.cut rem _ (notCovered_findSplitPointAt_aligned c rem bs hb c.maxValue c.maxUnit),
    ← hf.trim (rem.drop _), ← ih, List.flatMap_append, hf.emit]

theorem splitToSize_content_aligned (c : SizeConfig) (text : Str) (bs : List Boundary)
    (hb : BoundariesAligned text bs) :
    (splitToSize c text bs).flatMap stripWs = stripWs text :=
  splitToSize_reads_aligned reads_stripWs c text bs hb

/-- **UTF-8 integrity for aligned boundaries** -/
theorem splitToSize_valid_aligned (c : SizeConfig) (text : Str) (bs : List Boundary)
    (hb : BoundariesAligned text bs) (hv : validUtf8 text = true) :
    ∀ p ∈ splitToSize c text bs, validUtf8 p = true :=
  valid_of_flatMap_illFormed (splitToSize_reads_aligned reads_illFormed c text bs hb) hv

/-- `ChunkDocumentWithConfig` on a page of paragraphs under a reading: the chunk texts carry what
the accumulated block text carries, whatever the bytes -/
theorem reads_docChunks {f : Str → Str} (hf : Reads f) (c : SizeConfig) (paras : List Str) :
    (docChunks c paras).flatMap f = f (joinParagraphs paras) := by
  rw [docChunks_eq, List.flatMap_map]
  simp only [hf.trim]
  exact splitToSize_reads_aligned hf c _ [] (boundariesAligned_nil _)

/-- **conservation for any bytes**: the non-whitespace characters of the pieces of
`SplitToSize(text, nil)` are exactly those of the text, in order -/
theorem splitToSize_content (c : SizeConfig) (text : Str) (bs : List Boundary) (hbs : bs = []) :
    (splitToSize c text bs).flatMap stripWs = stripWs text :=
  splitToSize_content_aligned c text bs (hbs ▸ boundariesAligned_nil text)

end Tabula.Split
