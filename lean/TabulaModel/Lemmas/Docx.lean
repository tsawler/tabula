import TabulaModel.Model.Docx
import TabulaModel.Lemmas.XmlTree
import TabulaModel.Lemmas.ListFold
import TabulaModel.Lemmas.Grid
/-!
Lemmas about the DOCX model (`Model/Docx.lean`): the token walk of the second pass against the
block level (`walk_block_node`; the pass before the repair first), the inheritance chain
(`chainFrom`), what a cell holds besides its row span (`strip`), the depth limit of the two decoders
(`decodeNode_eq`, `decodeBlocksNode_eq`), the grid limit (`Lemmas/Grid.lean` at `spans`).
-/
namespace Tabula.Docx
open Tabula.Xml

mutual
/-- the pass before the repair: below a direct child of the body (depth ≥ 1) the walk changes
nothing: whatever is nested there - paragraphs of table cells, nested tables, text boxes - is not
counted -/
theorem walk_nested_node_old (paras tbls : List Node) (n : Node) :
    ∀ w : WalkOld, w.inBody = true → w.depth ≥ 1 → walkNodeOld paras tbls n w = w :=
  match n with
  | .text s => fun w _ _ => rfl
  | .elem tag attrs kids => fun w hb hd => by
    cases w with
    | mk ib d p t a =>
      simp only at hb hd
      subst hb
      have hs : startTokOld paras tbls (localName tag) ⟨true, d, p, t, a⟩ = ⟨true, d + 1, p, t, a⟩ := by
        have : d ≠ 0 := by omega
        simp [startTokOld, this]
      rw [walkNodeOld, hs, walk_nested_list_old paras tbls kids _ rfl (Nat.le_add_left 1 d)]
      simp [endTokOld]
theorem walk_nested_list_old (paras tbls : List Node) (l : List Node) :
    ∀ w : WalkOld, w.inBody = true → w.depth ≥ 1 → walkListOld paras tbls l w = w :=
  match l with
  | [] => fun w _ _ => rfl
  | n :: rest => fun w hb hd => by
    rw [walkListOld, walk_nested_node_old paras tbls n w hb hd, walk_nested_list_old paras tbls rest w hb hd]
end

mutual
/-- no element named `body` anywhere in the subtree -/
def noBodyNode : Node → Bool
  | .text _ => true
  | .elem tag _ kids => localName tag != sBody && noBodyList kids
def noBodyList : List Node → Bool
  | [] => true
  | n :: rest => noBodyNode n && noBodyList rest
end

/-- outside the body a start token is looked at only for being `body` -/
theorem startTokOld_outside (paras tbls : List Node) (loc : Str) (w : WalkOld) (hb : w.inBody = false) :
    startTokOld paras tbls loc w = if loc == sBody then { w with inBody := true, depth := 0 } else w := by
  simp [startTokOld, hb]

mutual
/-- outside the body the walk only looks for the `body` start tag -/
theorem walk_outside_node_old (paras tbls : List Node) (n : Node) :
    ∀ w : WalkOld, w.inBody = false → noBodyNode n = true → walkNodeOld paras tbls n w = w :=
  match n with
  | .text s => fun w _ _ => rfl
  | .elem tag attrs kids => fun w hb hn => by
    simp only [noBodyNode, Bool.and_eq_true, bne_iff_ne, ne_eq] at hn
    have hne : (localName tag == sBody) = false := beq_false_of_ne hn.1
    rw [walkNodeOld, startTokOld_outside _ _ _ _ hb, hne, if_neg Bool.false_ne_true,
      walk_outside_list_old paras tbls kids w hb hn.2]
    simp [endTokOld, hb]
theorem walk_outside_list_old (paras tbls : List Node) (l : List Node) :
    ∀ w : WalkOld, w.inBody = false → noBodyList l = true → walkListOld paras tbls l w = w :=
  match l with
  | [] => fun w _ _ => rfl
  | n :: rest => fun w hb hn => by
    simp only [noBodyList, Bool.and_eq_true] at hn
    rw [walkListOld, walk_outside_node_old paras tbls n w hb hn.1, walk_outside_list_old paras tbls rest w hb hn.2]
end

theorem walkListOld_append (paras tbls : List Node) (a b : List Node) (w : WalkOld) :
    walkListOld paras tbls (a ++ b) w = walkListOld paras tbls b (walkListOld paras tbls a w) := by
  induction a generalizing w with
  | nil => simp [walkListOld]
  | cons n rest ih => simp only [List.cons_append, walkListOld]; rw [ih]

theorem endTokOld_body_end (w : WalkOld) (hb : w.inBody = true) (hd : w.depth = 0) :
    endTokOld w = { w with inBody := false } := by
  unfold endTokOld
  simp [hb, hd]

/-- is a direct body child that the pass records -/
def isBodyElem (n : Node) : Bool := n.named sP || n.named sTbl

theorem getElem?_of_drop_cons {α : Type} {l : List α} {i : Nat} {x : α} {tl : List α}
    (h : l.drop i = x :: tl) : l[i]? = some x := by
  rw [← List.head?_drop, h, List.head?_cons]

/-- below a direct child of the body nothing is looked at: the end token finds the walk as the
start token left it -/
theorem walk_child_end_old (paras tbls ks : List Node) (w : WalkOld) (hb : w.inBody = true) (hd : w.depth = 1) :
    endTokOld (walkListOld paras tbls ks w) = { w with depth := 0 } := by
  rw [walk_nested_list_old paras tbls ks w hb (by omega)]
  cases w
  simp only at hb hd
  subst hb hd
  rfl

@[simp] theorem named_elem (tag : Str) (attrs : List (Str × Str)) (ks : List Node) (l : Str) :
    (Node.elem tag attrs ks).named l = (localName tag == l) := by
  simp [Node.named, Node.isElem, Node.loc, Node.tag]

@[simp] theorem named_text (s : Str) (l : Str) : (Node.text s).named l = false := by
  simp [Node.named, Node.isElem]

theorem childrenNamed_cons (n : Node) (rest : List Node) (l : Str) :
    childrenNamed (n :: rest) l = if n.named l then n :: childrenNamed rest l else childrenNamed rest l := by
  simp [childrenNamed, List.filter_cons]

theorem drop_append_len {α : Type} {l a b : List α} {i : Nat} (h : l.drop i = a ++ b) :
    l.drop (i + a.length) = b := by
  rw [← List.drop_drop, h, List.drop_left]

theorem childrenNamed_append (a b : List Node) (l : Str) :
    childrenNamed (a ++ b) l = childrenNamed a l ++ childrenNamed b l := by
  simp [childrenNamed, List.filter_append]

/-- one direct child of the body (walk at depth 0 inside the body): a `p` (`tbl`) is paired with
the next unmarshalled paragraph (table), which is that very child when the unmarshalled slices
continue with it -/
theorem walk_body_child_old (paras tbls : List Node) (n : Node) (w : WalkOld) (rp rt : List Node)
    (hb : w.inBody = true) (hd : w.depth = 0)
    (hp : paras.drop w.pi = childrenNamed [n] sP ++ rp) (ht : tbls.drop w.ti = childrenNamed [n] sTbl ++ rt) :
    walkNodeOld paras tbls n w =
      { w with pi := w.pi + (childrenNamed [n] sP).length, ti := w.ti + (childrenNamed [n] sTbl).length,
               acc := w.acc ++ [n].filter isBodyElem } := by
  cases w with
  | mk ib d p t a =>
  simp only at hb hd hp ht
  subst hb hd
  cases n with
  | text s => simp [walkNodeOld, childrenNamed, isBodyElem]
  | elem tag attrs ks =>
    rw [childrenNamed_cons] at hp ht
    simp only [named_elem, childrenNamed, List.filter_nil] at hp ht
    -- the start token pairs a `p` / `tbl` with the head of its slice (`hp` / `ht`); nothing below
    -- the child is looked at (`walk_child_end_old`)
    simp only [walkNodeOld, startTokOld]
    by_cases h1 : localName tag = sP
    · simp only [h1, beq_self_eq_true, if_true, List.cons_append, List.nil_append] at hp
      simp [h1, getElem?_of_drop_cons hp]
      rw [walk_child_end_old _ _ _ _ rfl rfl]
      simp [childrenNamed, isBodyElem, h1]
      decide
    · by_cases h2 : localName tag = sTbl
      · simp only [h2, beq_self_eq_true, if_true, List.cons_append, List.nil_append] at ht
        simp [h2, getElem?_of_drop_cons ht, (by decide : sTbl ≠ sP)]
        rw [walk_child_end_old _ _ _ _ rfl rfl]
        simp [childrenNamed, isBodyElem, h2, (by decide : sTbl ≠ sP)]
      · simp [h1, h2]
        rw [walk_child_end_old _ _ _ _ rfl rfl]
        simp [childrenNamed, isBodyElem, h1, h2]

/-- the walk over the direct children of the body: the k-th `p` (`tbl`) token is paired with
the k-th unmarshalled paragraph (table), which is that very child; nothing else is recorded -/
theorem walk_body_kids_old (paras tbls : List Node) :
    ∀ (kids : List Node) (w : WalkOld) (rp rt : List Node), w.inBody = true → w.depth = 0 →
      paras.drop w.pi = childrenNamed kids sP ++ rp → tbls.drop w.ti = childrenNamed kids sTbl ++ rt →
      walkListOld paras tbls kids w =
        { w with pi := w.pi + (childrenNamed kids sP).length,
                 ti := w.ti + (childrenNamed kids sTbl).length, acc := w.acc ++ kids.filter isBodyElem }
  | [], w, _, _, _, _, _, _ => by
    cases w
    simp [walkListOld, childrenNamed]
  | n :: rest, w, rp, rt, hb, hd, hp, ht => by
    have e : ∀ l, childrenNamed (n :: rest) l = childrenNamed [n] l ++ childrenNamed rest l :=
      childrenNamed_append [n] rest
    rw [e, List.append_assoc] at hp ht
    rw [walkListOld, walk_body_child_old paras tbls n w _ _ hb hd hp ht,
      walk_body_kids_old paras tbls rest ⟨w.inBody, w.depth, w.pi + (childrenNamed [n] sP).length,
        w.ti + (childrenNamed [n] sTbl).length, w.acc ++ [n].filter isBodyElem⟩ rp rt hb hd
        (drop_append_len hp) (drop_append_len ht)]
    cases w
    simp [e, ← List.filter_append, Nat.add_assoc]
/-- the block level of a list of children is that of its members, one after the other -/
theorem blocksOfList_flatMap (l : List Node) : blocksOfList l = l.flatMap blocksOfNode := by
  induction l with
  | nil => rfl
  | cons n rest ih => rw [blocksOfList, ih, List.flatMap_cons]

theorem mem_blocksOfList {m : Node} {l : List Node} (h : m ∈ blocksOfList l) : ∃ n ∈ l, m ∈ blocksOfNode n := by
  rw [blocksOfList_flatMap] at h
  exact List.mem_flatMap.1 h

theorem blocksOfList_append (a b : List Node) : blocksOfList (a ++ b) = blocksOfList a ++ blocksOfList b := by
  simp only [blocksOfList_flatMap, List.flatMap_append]

mutual
/-- below an element that is not at block level (an element that is no block container is
open between the body and here: `depth > containers`) the walk changes nothing: whatever is
nested there - paragraphs of table cells, nested tables, text boxes, the properties of a
content control - is not counted -/
theorem walk_nested_node (paras tbls : List Node) (n : Node) :
    ∀ w : Walk, w.inBody = true → w.depth > w.boxes → walkNode paras tbls n w = w :=
  match n with
  | .text s => fun w _ _ => rfl
  | .elem tag attrs kids => fun w hb hd => by
    cases w with
    | mk ib d bx p t a =>
      simp only at hb hd
      subst hb
      have h1 : d ≠ bx := by omega
      have hs : startTok paras tbls (localName tag) ⟨true, d, bx, p, t, a⟩ = ⟨true, d + 1, bx, p, t, a⟩ := by
        simp [startTok, h1]
      rw [walkNode, hs, walk_nested_list paras tbls kids _ rfl (Nat.lt_succ_of_lt hd)]
      have h2 : d + 1 ≠ bx := by omega
      simp [endTok, h2]
theorem walk_nested_list (paras tbls : List Node) (l : List Node) :
    ∀ w : Walk, w.inBody = true → w.depth > w.boxes → walkList paras tbls l w = w :=
  match l with
  | [] => fun w _ _ => rfl
  | n :: rest => fun w hb hd => by
    rw [walkList, walk_nested_node paras tbls n w hb hd, walk_nested_list paras tbls rest w hb hd]
end

/-- outside the body a start token is looked at only for being `body` -/
theorem startTok_outside (paras tbls : List Node) (loc : Str) (w : Walk) (hb : w.inBody = false) :
    startTok paras tbls loc w = if loc == sBody then { w with inBody := true, depth := 0, boxes := 0 } else w := by
  simp [startTok, hb]

mutual
/-- outside the body the walk only looks for the `body` start tag -/
theorem walk_outside_node (paras tbls : List Node) (n : Node) :
    ∀ w : Walk, w.inBody = false → noBodyNode n = true → walkNode paras tbls n w = w :=
  match n with
  | .text s => fun w _ _ => rfl
  | .elem tag attrs kids => fun w hb hn => by
    simp only [noBodyNode, Bool.and_eq_true, bne_iff_ne, ne_eq] at hn
    have hne : (localName tag == sBody) = false := beq_false_of_ne hn.1
    rw [walkNode, startTok_outside _ _ _ _ hb, hne, if_neg Bool.false_ne_true,
      walk_outside_list paras tbls kids w hb hn.2]
    simp [endTok, hb]
theorem walk_outside_list (paras tbls : List Node) (l : List Node) :
    ∀ w : Walk, w.inBody = false → noBodyList l = true → walkList paras tbls l w = w :=
  match l with
  | [] => fun w _ _ => rfl
  | n :: rest => fun w hb hn => by
    simp only [noBodyList, Bool.and_eq_true] at hn
    rw [walkList, walk_outside_node paras tbls n w hb hn.1, walk_outside_list paras tbls rest w hb hn.2]
end

theorem walkList_append (paras tbls : List Node) (a b : List Node) (w : Walk) :
    walkList paras tbls (a ++ b) w = walkList paras tbls b (walkList paras tbls a w) := by
  induction a generalizing w with
  | nil => simp [walkList]
  | cons n rest ih => simp only [List.cons_append, walkList]; rw [ih]

theorem endTok_body_end (w : Walk) (hb : w.inBody = true) (hd : w.depth = 0) :
    endTok w = { w with inBody := false } := by
  unfold endTok
  simp [hb, hd]

/-- below an element at block level that is no block container nothing is looked at: the end
token finds the walk as the start token left it -/
theorem walk_child_end (paras tbls ks : List Node) (w : Walk) (hb : w.inBody = true) (hd : w.depth = w.boxes + 1) :
    endTok (walkList paras tbls ks w) = { w with depth := w.boxes } := by
  rw [walk_nested_list paras tbls ks w hb (by omega)]
  cases w
  simp only at hb hd
  subst hb hd
  simp [endTok]

mutual
/-- the walk at block level (inside the body, every element open below the body a block
container: `depth = containers`): over a subtree it pairs the `p` / `tbl` elements of the
subtree's block level - the subtree itself, or, if it is a block container, the block level of
its content - with the next unmarshalled paragraphs / tables, which are those very elements
when the unmarshalled slices continue with them; it records them in document order and nothing
else, and comes back at the same level. -/
theorem walk_block_node (paras tbls : List Node) (n : Node) :
    ∀ (w : Walk) (rp rt : List Node), w.inBody = true → w.depth = w.boxes →
      paras.drop w.pi = childrenNamed (blocksOfNode n) sP ++ rp →
      tbls.drop w.ti = childrenNamed (blocksOfNode n) sTbl ++ rt →
      walkNode paras tbls n w =
        { w with pi := w.pi + (childrenNamed (blocksOfNode n) sP).length,
                 ti := w.ti + (childrenNamed (blocksOfNode n) sTbl).length,
                 acc := w.acc ++ (blocksOfNode n).filter isBodyElem } :=
  match n with
  | .text s => fun w rp rt _ _ _ _ => by
    cases w
    simp [walkNode, blocksOfNode, childrenNamed]
  | .elem tag attrs kids => fun w rp rt hb hd hp ht => by
    cases w with
    | mk ib d bx p t a =>
      simp only at hb hd hp ht
      subst hb hd
      simp only [walkNode, startTok]
      by_cases hc : localName tag ∈ blockContainers
      · -- a block container at block level: looked through
        simp only [blocksOfNode, List.contains_iff_mem, hc, if_true] at hp ht ⊢
        simp
        rw [walk_block_list paras tbls kids ⟨true, d + 1, d + 1, p, t, a⟩ rp rt rfl rfl hp ht]
        simp [endTok]
      · -- any other element is its own block level: the start token pairs a `p` / `tbl` with the
        -- head of its slice (`hp` / `ht`), nothing below it is looked at (`walk_child_end`)
        simp only [blocksOfNode, List.contains_iff_mem, hc, if_false] at hp ht ⊢
        rw [childrenNamed_cons] at hp ht
        simp only [named_elem, childrenNamed, List.filter_nil] at hp ht
        by_cases h1 : localName tag = sP
        · simp only [h1, beq_self_eq_true, if_true, List.cons_append, List.nil_append] at hp
          simp [h1, getElem?_of_drop_cons hp]
          rw [walk_child_end _ _ _ _ rfl rfl]
          simp [childrenNamed, isBodyElem, h1]
          decide
        · by_cases h2 : localName tag = sTbl
          · simp only [h2, beq_self_eq_true, if_true, List.cons_append, List.nil_append] at ht
            simp [h2, getElem?_of_drop_cons ht, (by decide : sTbl ≠ sP)]
            rw [walk_child_end _ _ _ _ rfl rfl]
            simp [childrenNamed, isBodyElem, h2, (by decide : sTbl ≠ sP)]
          · simp [h1, h2]
            rw [walk_child_end _ _ _ _ rfl rfl]
            simp [childrenNamed, isBodyElem, h1, h2]
theorem walk_block_list (paras tbls : List Node) (l : List Node) :
    ∀ (w : Walk) (rp rt : List Node), w.inBody = true → w.depth = w.boxes →
      paras.drop w.pi = childrenNamed (blocksOfList l) sP ++ rp →
      tbls.drop w.ti = childrenNamed (blocksOfList l) sTbl ++ rt →
      walkList paras tbls l w =
        { w with pi := w.pi + (childrenNamed (blocksOfList l) sP).length,
                 ti := w.ti + (childrenNamed (blocksOfList l) sTbl).length,
                 acc := w.acc ++ (blocksOfList l).filter isBodyElem } :=
  match l with
  | [] => fun w rp rt _ _ _ _ => by
    cases w
    simp [walkList, blocksOfList, childrenNamed]
  | n :: rest => fun w rp rt hb hd hp ht => by
    simp only [blocksOfList, childrenNamed_append, List.append_assoc] at hp ht
    simp only [walkList]
    rw [walk_block_node paras tbls n w _ _ hb hd hp ht]
    rw [walk_block_list paras tbls rest ⟨w.inBody, w.depth, w.boxes, w.pi + (childrenNamed (blocksOfNode n) sP).length,
      w.ti + (childrenNamed (blocksOfNode n) sTbl).length, w.acc ++ (blocksOfNode n).filter isBodyElem⟩ rp rt hb hd (drop_append_len hp) (drop_append_len ht)]
    cases w
    simp [blocksOfList, childrenNamed_append, List.filter_append, Nat.add_assoc]
end

/-- the block level of children none of which is a block container is the element children -/
theorem blocksOfList_plain (l : List Node)
    (h : ∀ n ∈ l, blockContainers.contains n.loc = false) : blocksOfList l = l.filter (·.isElem) := by
  induction l with
  | nil => simp [blocksOfList]
  | cons n rest ih =>
    have hr := ih (fun m hm => h m (List.mem_cons_of_mem _ hm))
    cases n with
    | text s => simp [blocksOfList, blocksOfNode, hr, Node.isElem]
    | elem tag attrs kids =>
      have hn := h (.elem tag attrs kids) (List.mem_cons_self ..)
      simp only [Node.loc, Node.tag] at hn
      have hm : ¬ (localName tag ∈ blockContainers) := by simpa using hn
      simp [blocksOfList, blocksOfNode, hm, hr, Node.isElem]

theorem childrenNamed_filter_isElem (l : List Node) (x : Str) :
    childrenNamed (l.filter (·.isElem)) x = childrenNamed l x := by
  simp only [childrenNamed, List.filter_filter]
  apply List.filter_congr
  intro n _
  cases n <;> simp [Node.named, Node.isElem]

theorem childNamed_filter_isElem (l : List Node) (x : Str) :
    childNamed (l.filter (·.isElem)) x = childNamed l x := by
  rw [childNamed, List.find?_filter]
  refine congrArg (List.find? · l) (funext fun n => ?_)
  cases h : n.named x <;> cases n <;> simp_all [Node.named, Node.isElem]

/-- … so `p` / `tbl` are looked for among the direct children, as before the repair -/
theorem blocks_plain_bodyElems (l : List Node)
    (h : ∀ n ∈ l, blockContainers.contains n.loc = false) :
    (blocksOfList l).filter isBodyElem = l.filter isBodyElem := by
  rw [blocksOfList_plain l h, List.filter_filter]
  apply List.filter_congr
  intro n _
  cases n with
  | text s => simp [isBodyElem, Node.isElem]
  | elem tag attrs kids => simp [Node.isElem]

/-- among the recorded body elements the `p` (the `tbl`) are all the `p` (`tbl`) there are -/
theorem childrenNamed_bodyElems (l : List Node) (x : Str) (hx : x = sP ∨ x = sTbl) :
    childrenNamed (l.filter isBodyElem) x = childrenNamed l x := by
  unfold childrenNamed
  rw [List.filter_filter]
  apply List.filter_congr
  intro n _
  cases hn : n.named x
  · rfl
  · cases hx with
    | inl h => rw [h] at hn; simp [isBodyElem, hn]
    | inr h => rw [h] at hn; simp [isBodyElem, hn]
theorem unvisited_nil (defs : List StyleDef) : unvisited defs [] = defs.length := by
  simp [unvisited]

theorem chainFrom_empty (defs : List StyleDef) (visited : List Str) : chainFrom defs visited [] = [] := by
  rw [chainFrom]; simp

theorem chainFrom_seen (defs : List StyleDef) (visited : List Str) (cur : Str)
    (hv : visited.contains cur = true) : chainFrom defs visited cur = [] := by
  rw [chainFrom]; simp only [hv, dite_true]; split <;> rfl

theorem chainFrom_undefined (defs : List StyleDef) (visited : List Str) (cur : Str) (hne : cur ≠ [])
    (hv : visited.contains cur = false) (hl : lookup defs cur = none) : chainFrom defs visited cur = [cur] := by
  rw [chainFrom]
  simp only [hne, if_false, hv, Bool.false_eq_true, dite_false]
  split
  · rfl
  · rename_i d h; rw [hl] at h; cases h

theorem chainFrom_defined (defs : List StyleDef) (visited : List Str) (cur : Str) (d : StyleDef) (hne : cur ≠ [])
    (hv : visited.contains cur = false) (hl : lookup defs cur = some d) :
    chainFrom defs visited cur = cur :: chainFrom defs (cur :: visited) d.basedOn := by
  rw [chainFrom]
  simp only [hne, if_false, hv, Bool.false_eq_true, dite_false]
  split
  · rename_i h; rw [hl] at h; cases h
  · rename_i d' h; rw [hl] at h; cases h; rfl

/-- every id of the chain is new (not visited before) -/
theorem chainFrom_fresh (defs : List StyleDef) (v : List Str) (c : Str) :
    ∀ x ∈ chainFrom defs v c, v.contains x = false := by
  fun_induction chainFrom defs v c with
  | case1 | case2 => exact fun _ hx => nomatch hx
  | case3 v c _ hv => exact fun x hx => List.mem_singleton.1 hx ▸ Bool.eq_false_iff.2 hv
  | case4 v c _ hv d _ ih =>
    intro x hx
    cases hx with
    | head => exact Bool.eq_false_iff.2 hv
    | tail _ h => have := ih x h; rw [List.contains_cons] at this; exact (Bool.or_eq_false_iff.1 this).2

/-- the cycle guard: no style id occurs twice in the chain -/
theorem chainFrom_nodup (defs : List StyleDef) (v : List Str) (c : Str) : (chainFrom defs v c).Nodup := by
  fun_induction chainFrom defs v c with
  | case1 | case2 => exact List.nodup_nil
  | case3 => simp
  | case4 v c _ _ d _ ih =>
    refine List.nodup_cons.2 ⟨fun hmem => ?_, ih⟩
    have := chainFrom_fresh defs (c :: v) d.basedOn c hmem
    simp at this

/-- the loop runs at most once per defined style, plus once for a dangling reference -/
theorem chainFrom_length (defs : List StyleDef) (v : List Str) (c : Str) :
    (chainFrom defs v c).length ≤ unvisited defs v + 1 := by
  fun_induction chainFrom defs v c with
  | case1 | case2 | case3 => simp
  | case4 v c _ hv d hl ih =>
    have := unvisited_lt (Bool.eq_false_iff.2 hv) hl
    simp only [List.length_cons]
    omega

/-- consecutive ids of the chain are linked by basedOn -/
def Linked (defs : List StyleDef) : List Str → Prop
  | a :: b :: rest => (∃ d, lookup defs a = some d ∧ d.basedOn = b) ∧ Linked defs (b :: rest)
  | _ => True

theorem chainFrom_head (defs : List StyleDef) (v : List Str) (c : Str) :
    ∀ x rest, chainFrom defs v c = x :: rest → x = c := by
  fun_cases chainFrom defs v c with
  | case1 | case2 => exact fun _ _ h => nomatch h
  | case3 | case4 => exact fun _ _ h => (List.cons.inj h).1.symm

theorem chainFrom_linked (defs : List StyleDef) (v : List Str) (c : Str) : Linked defs (chainFrom defs v c) := by
  fun_induction chainFrom defs v c with
  | case1 | case2 | case3 => trivial
  | case4 v c _ _ d hl ih =>
    cases hch : chainFrom defs (c :: v) d.basedOn with
    | nil => trivial
    | cons b rest =>
      rw [hch] at ih
      exact ⟨⟨d, hl, (chainFrom_head defs (c :: v) d.basedOn b rest hch).symm⟩, ih⟩

/-- the digit accumulation of `parseListLevel` / `parseOutlineLevel` from a running value -/
def digitsFrom (s : Str) (v : Nat) : Nat :=
  s.foldl (fun v c => if 48 ≤ c ∧ c ≤ 57 then v * 10 + (c - 48) else v) v

theorem digitsFrom_cons (c : Nat) (rest : Str) (v : Nat) :
    digitsFrom (c :: rest) v = digitsFrom rest (if 48 ≤ c ∧ c ≤ 57 then v * 10 + (c - 48) else v) := rfl

theorem digitsFrom_ge (s : Str) : ∀ v, v ≤ digitsFrom s v := by
  induction s with
  | nil => exact fun v => Nat.le_refl v
  | cons c rest ih =>
    intro v
    rw [digitsFrom_cons]
    exact Nat.le_trans (by split <;> omega) (ih _)

/-- the loop of `parseListLevel` from a running value within the range: the digits read on, cut at
`maxListLevel` (once the running value exceeds it, it stays above) -/
theorem listLevelFrom_eq (s : Str) (level : Nat) (h : level ≤ 8) :
    listLevelFrom s level = min (digitsFrom s level) 8 := by
  fun_induction listLevelFrom s level with
  | case1 level => exact (Nat.min_eq_left h).symm
  | case2 c rest level hd hx =>
    have := digitsFrom_ge rest (level * 10 + (c - 48))
    rw [digitsFrom_cons, if_pos hd]
    simp only [maxListLevel] at hx ⊢
    omega
  | case3 c rest level hd hx ih =>
    rw [digitsFrom_cons, if_pos hd]
    exact ih (by simp only [maxListLevel] at hx; omega)
  | case4 c rest level hd ih => rw [digitsFrom_cons, if_neg hd]; exact ih h

/-- `parseListLevel` in closed form: the number the decimal digits of the value spell (other
characters ignored, as in `parseOutlineLevel`), cut at 8; the early return of the loop is invisible -/
theorem parseListLevel_eq (s : Str) : parseListLevel s = min (digitsVal s) 8 :=
  listLevelFrom_eq s 0 (Nat.zero_le 8)
/-- what the author wrote in a cell: text, gridSpan, continuation flag -/
def strip (c : Cell) : Str × Nat × Bool := (c.text, c.colSpan, c.cont)

def stripRows (rows : List (List Cell)) : List (List (Str × Nat × Bool)) := rows.map (·.map strip)

theorem map_modify_of_inv {α β : Type} (g : α → β) (f : α → α) (h : ∀ x, g (f x) = g x) :
    ∀ (l : List α) (i : Nat), (l.modify i f).map g = l.map g := by
  intro l
  induction l with
  | nil => intro i; simp
  | cons a rest ih =>
    intro i
    cases i with
    | zero => simp [List.modify_zero_cons, h]
    | succ j => simp [List.modify_succ_cons, ih j]

/-- adding a row to a cell changes nothing that does not read the row span -/
theorem map_bump {β : Type} (g : Cell → β) (hg : ∀ c, g { c with rowSpan := c.rowSpan + 1 } = g c)
    (rows : List (List Cell)) (r i : Nat) : (bumpRowSpan rows r i).map (·.map g) = rows.map (·.map g) :=
  map_modify_of_inv _ _ (fun row => map_modify_of_inv g _ hg row i) rows r

theorem runsOfList_append (a b : List Node) : runsOfList (a ++ b) = runsOfList a ++ runsOfList b := by
  induction a with
  | nil => simp [runsOfList]
  | cons n rest ih => simp [runsOfList, ih]

/-- a depth bound on two siblings is the bound on each -/
theorem add_max_le_iff (d a b m : Nat) : d + max a b ≤ m ↔ d + a ≤ m ∧ d + b ≤ m := by omega

mutual
/-- `decodeContent` entered with `d ≤ maxInlineDepth`: it succeeds exactly when the containers
below nest no deeper than the limit allows, and then it yields `runsOfList` -/
theorem decodeNode_eq (n : Node) : ∀ d, d ≤ maxInlineDepth →
    decodeNode d n = if d + nestNode n ≤ maxInlineDepth then some (runsOfNode n) else none :=
  match n with
  | .text s => fun d hd => by simp [decodeNode, nestNode, runsOfNode, hd]
  | .elem tag attrs kids => fun d hd => by
    simp only [decodeNode, nestNode, runsOfNode]
    by_cases hr : (localName tag == sR) = true
    · simp only [hr, if_true, Nat.add_zero, hd]
    · by_cases hc : containers.contains (localName tag) = true
      · simp only [hr, hc, if_true, if_false, Bool.false_eq_true]
        by_cases h : d + 1 > maxInlineDepth
        · have h2 : ¬ (d + (nestList kids + 1) ≤ maxInlineDepth) := by omega
          simp only [h, h2, if_true, if_false]
        · have h2 : d + (nestList kids + 1) ≤ maxInlineDepth ↔ d + 1 + nestList kids ≤ maxInlineDepth := by omega
          simp only [h, h2, if_false]
          exact decodeList_eq kids (d + 1) (by omega)
      · simp only [hr, hc, if_false, Bool.false_eq_true, Nat.add_zero, hd, if_true]
theorem decodeList_eq (l : List Node) : ∀ d, d ≤ maxInlineDepth →
    decodeList d l = if d + nestList l ≤ maxInlineDepth then some (runsOfList l) else none :=
  match l with
  | [] => fun d hd => by simp [decodeList, nestList, runsOfList, hd]
  | n :: rest => fun d hd => by
    simp only [decodeList, nestList, runsOfList]
    rw [decodeNode_eq n d hd, decodeList_eq rest d hd]
    simp only [add_max_le_iff]
    by_cases h1 : d + nestNode n ≤ maxInlineDepth
    · by_cases h2 : d + nestList rest ≤ maxInlineDepth
      · simp only [h1, h2, and_self, if_true]
      · simp only [h1, h2, and_false, if_true, if_false]
    · simp only [h1, false_and, if_false]
end

mutual
/-- `decodeBlocks` entered with `d ≤ maxInlineDepth`: it reaches the end tag exactly when the
block containers below nest no deeper than the limit allows, and then it has offered the
block level `blocksOfList` to its callback, in document order -/
theorem decodeBlocksNode_eq (n : Node) : ∀ d, d ≤ maxInlineDepth →
    decodeBlocksNode d n = if d + blockNestNode n ≤ maxInlineDepth then some (blocksOfNode n) else none :=
  match n with
  | .text s => fun d hd => by simp [decodeBlocksNode, blockNestNode, blocksOfNode, hd]
  | .elem tag attrs kids => fun d hd => by
    simp only [decodeBlocksNode, blockNestNode, blocksOfNode]
    by_cases hc : blockContainers.contains (localName tag) = true
    · simp only [hc, if_true]
      by_cases h : d + 1 > maxInlineDepth
      · have h2 : ¬ (d + (blockNestList kids + 1) ≤ maxInlineDepth) := by omega
        simp only [h, h2, if_true, if_false]
      · have h2 : d + (blockNestList kids + 1) ≤ maxInlineDepth ↔ d + 1 + blockNestList kids ≤ maxInlineDepth := by omega
        simp only [h, h2, if_false]
        exact decodeBlocksList_eq kids (d + 1) (by omega)
    · simp only [hc, if_false, Bool.false_eq_true, Nat.add_zero, hd, if_true]
theorem decodeBlocksList_eq (l : List Node) : ∀ d, d ≤ maxInlineDepth →
    decodeBlocksList d l = if d + blockNestList l ≤ maxInlineDepth then some (blocksOfList l) else none :=
  match l with
  | [] => fun d hd => by simp [decodeBlocksList, blockNestList, blocksOfList, hd]
  | n :: rest => fun d hd => by
    simp only [decodeBlocksList, blockNestList, blocksOfList]
    rw [decodeBlocksNode_eq n d hd, decodeBlocksList_eq rest d hd]
    simp only [add_max_le_iff]
    by_cases h1 : d + blockNestNode n ≤ maxInlineDepth
    · by_cases h2 : d + blockNestList rest ≤ maxInlineDepth
      · simp only [h1, h2, and_self, if_true]
      · simp only [h1, h2, and_false, if_true, if_false]
    · simp only [h1, false_and, if_false]
end

/-- `decodeContent` as `xml.Unmarshal` enters it, at depth 0 -/
theorem decodeList_zero (kids : List Node) :
    decodeList 0 kids = if nestList kids ≤ maxInlineDepth then some (runsOfList kids) else none := by
  rw [decodeList_eq kids 0 (Nat.zero_le _), Nat.zero_add]

/-- `decodeBlocks` as `UnmarshalXML` enters it, at depth 0 -/
theorem decodeBlocksList_zero (kids : List Node) :
    decodeBlocksList 0 kids = if blockNestList kids ≤ maxInlineDepth then some (blocksOfList kids) else none := by
  rw [decodeBlocksList_eq kids 0 (Nat.zero_le _), Nat.zero_add]

/-- `blocksDecode` says: block containers nest at most `maxInlineDepth` deep -/
theorem blocksDecode_iff (kids : List Node) : blocksDecode kids = true ↔ blockNestList kids ≤ maxInlineDepth := by
  rw [blocksDecode, decodeBlocksList_zero]
  split <;> simp [*]

mutual
/-- the recursion of `decodeContent` never goes deeper than `maxInlineDepth + 1` (the last
level being the call that is refused at once) -/
theorem reachNode_le (n : Node) : ∀ d, d ≤ maxInlineDepth → reachNode d n ≤ maxInlineDepth + 1 :=
  match n with
  | .text s => fun d hd => by simp only [reachNode]; omega
  | .elem tag attrs kids => fun d hd => by
    simp only [reachNode]
    by_cases hr : (localName tag == sR) = true
    · simp only [hr, if_true]; omega
    · by_cases hc : containers.contains (localName tag) = true
      · simp only [hr, hc, if_true, if_false, Bool.false_eq_true]
        by_cases h : d + 1 > maxInlineDepth
        · simp only [h, if_true]; omega
        · simp only [h, if_false]
          exact reachList_le kids (d + 1) (by omega)
      · simp only [hr, hc, if_false, Bool.false_eq_true]; omega
theorem reachList_le (l : List Node) : ∀ d, d ≤ maxInlineDepth → reachList d l ≤ maxInlineDepth + 1 :=
  match l with
  | [] => fun d hd => by simp only [reachList]; omega
  | n :: rest => fun d hd => by
    simp only [reachList]
    have := reachNode_le n d hd
    have := reachList_le rest d hd
    omega
end

/-- `k` inline containers `ctag` around `inner` -/
def wrapN (ctag : Str) : Nat → List Node → List Node
  | 0, inner => inner
  | k + 1, inner => [.elem ctag [] (wrapN ctag k inner)]

theorem nest_wrapN (ctag : Str) (hc : containers.contains (localName ctag) = true) (hr : (localName ctag == sR) = false)
    (inner : List Node) : ∀ k, nestList (wrapN ctag k inner) = k + nestList inner := by
  intro k
  induction k with
  | zero => simp [wrapN]
  | succ k ih =>
    simp only [wrapN, nestList, nestNode, hr, hc, Bool.false_eq_true, if_false, if_true]
    rw [ih]; omega

theorem runs_wrapN (ctag : Str) (hc : containers.contains (localName ctag) = true) (hr : (localName ctag == sR) = false)
    (inner : List Node) : ∀ k, runsOfList (wrapN ctag k inner) = runsOfList inner := by
  intro k
  induction k with
  | zero => simp [wrapN]
  | succ k ih =>
    simp only [wrapN, runsOfList, runsOfNode, hr, hc, Bool.false_eq_true, if_false, if_true, List.append_nil]
    exact ih

theorem blockNest_wrapN (ctag : Str) (hc : blockContainers.contains (localName ctag) = true)
    (inner : List Node) : ∀ k, blockNestList (wrapN ctag k inner) = k + blockNestList inner := by
  intro k
  induction k with
  | zero => simp [wrapN]
  | succ k ih =>
    simp only [wrapN, blockNestList, blockNestNode, hc, if_true]
    rw [ih]; omega

theorem blocks_wrapN (ctag : Str) (hc : blockContainers.contains (localName ctag) = true)
    (inner : List Node) : ∀ k, blocksOfList (wrapN ctag k inner) = blocksOfList inner := by
  intro k
  induction k with
  | zero => simp [wrapN]
  | succ k ih =>
    simp only [wrapN, blocksOfList, blocksOfNode, hc, if_true, List.append_nil]
    exact ih

/-- every span of the table set to 1 (what `limitTableGrid` does beyond the limit) -/
def resetSpans (rows : List (List Cell)) : List (List Cell) :=
  rows.map fun row => row.map fun c => { c with colSpan := 1, rowSpan := 1 }

/-- the widest row counted in cells -/
def widest (rows : List (List Cell)) : Nat := rows.foldl (fun m row => max m row.length) 0

/-- what `limitTableGrid` reads and writes of a cell. `colCount`, `hasSpans`, `limitTableGrid`,
`resetSpans`, `widest` are `Grid.width spans.colSpan`, `Grid.hasSpans spans`,
`Grid.limit spans maxTableGridCells`, `Grid.resetSpans spans`, `Grid.widest` by `rfl`: the facts
below are those of `Lemmas/Grid.lean` read at `spans`. -/
def spans : Grid.Spans Cell where
  colSpan := (·.colSpan)
  rowSpan := (·.rowSpan)
  reset := fun c => { c with colSpan := 1, rowSpan := 1 }
  colSpan_reset := fun _ => rfl
  rowSpan_reset := fun _ => rfl

/-- a cell of the authored rows is a parsed `w:tc` -/
theorem mem_parseRows {tbl : Node} {row : List Cell} {c : Cell} (hrow : row ∈ parseRows tbl) (hc : c ∈ row) :
    ∃ tc, c = parseCell tc := by
  simp only [parseRows, List.mem_map] at hrow
  obtain ⟨tr, _, rfl⟩ := hrow
  simp only [List.mem_map] at hc
  obtain ⟨tc, _, rfl⟩ := hc
  exact ⟨tc, rfl⟩

/-- `limitTableGrid` with the test of the code (an integer division) as a product: every span is
reset exactly when the table has spans and rows x spanned columns exceed `maxTableGridCells` -/
theorem limit_eq (rows : List (List Cell)) :
    limitTableGrid rows =
      if hasSpans rows = true ∧ rows.length * colCount rows > maxTableGridCells then resetSpans rows else rows :=
  Grid.limit_eq spans _ rows

/-- within the limit (rows x spanned columns ≤ 2^20) the table is left as it is -/
theorem limit_within (rows : List (List Cell)) (h : rows.length * colCount rows ≤ maxTableGridCells) :
    limitTableGrid rows = rows :=
  Grid.limit_within spans _ rows h

/-- a table without spans is left as it is, whatever its size -/
theorem limit_nospans (rows : List (List Cell)) (h : hasSpans rows = false) : limitTableGrid rows = rows :=
  Grid.limit_nospans spans _ rows h

/-- beyond the limit a table that has spans loses all of them -/
theorem limit_beyond (rows : List (List Cell)) (hs : hasSpans rows = true)
    (h : rows.length * colCount rows > maxTableGridCells) : limitTableGrid rows = resetSpans rows :=
  Grid.limit_beyond spans _ rows hs h

/-- the limit touches spans only: texts, continuation flags, the number of rows and of cells
in every row stay -/
theorem limit_content (rows : List (List Cell)) :
    (limitTableGrid rows).map (·.map fun c => (c.text, c.cont)) = rows.map (·.map fun c => (c.text, c.cont)) :=
  Grid.limit_map spans (fun c => (c.text, c.cont)) (fun _ => rfl) _ rows

theorem limit_length (rows : List (List Cell)) : (limitTableGrid rows).length = rows.length :=
  Grid.limit_length spans _ rows

theorem foldl_max_mono (f g : List Cell → Nat) (h : ∀ r, f r ≤ g r) : ∀ (rows : List (List Cell)) (a b : Nat), a ≤ b →
    rows.foldl (fun m row => max m (f row)) a ≤ rows.foldl (fun m row => max m (g row)) b :=
  fun rows a b hab => foldl_max_le_foldl_max f g rows a b hab fun r _ => h r

/-- **the grid after `limitTableGrid`** (rows x spanned columns) holds at most 2^20 cells, or
no more cells than rows x the widest row counted in cells - no span multiplies it -/
theorem limit_grid_bound (rows : List (List Cell)) :
    rows.length * colCount (limitTableGrid rows) ≤ max maxTableGridCells (rows.length * widest rows) :=
  Grid.limit_grid_bound spans _ rows

end Tabula.Docx
