import TabulaModel.Lemmas.XrefClassic
import TabulaModel.Lemmas.SpelledDict
/-!
# Side conditions of the cross-reference round trips, decided

The round-trip theorems ask of a concrete table that its entries fit their columns (`CEnt.Ok`,
`CSub.Ok`): bounded arithmetic, decided by evaluation in the satisfiability witnesses. Of a
one-line trailer they ask legality, depth, no end-of-line byte, a line that fits the scanner; for
`<</Key n>>` all of that holds whatever the key and the number.
-/
namespace Tabula.XrefFile

instance (e : CEnt) : Decidable e.Ok := by unfold CEnt.Ok; infer_instance

instance (s : CSub) : Decidable s.Ok := by unfold CSub.Ok; infer_instance

open Tabula.Pdf Tabula.XrefBytes Tabula.A1 Tabula.Reader

theorem regularName_noEol {bs : Str} (h : RegularName bs) : NoEol bs := fun c hc =>
  ⟨fun e => absurd (e ▸ (h c hc).1) (by decide), fun e => absurd (e ▸ (h c hc).1) (by decide)⟩

/-- `<</Key n>>`, written with no separator but the space in front of the number: a legal dictionary
one level deep, on one line that fits the scanner, which answers for its key and for no other -/
theorem nameIntDict_oneLine {bs : Str} (n : Nat) (hbs : RegularName bs) (hlen : bs.length ≤ 65000)
    (hn : n ≤ maxInt64) (need : Bool) :
    let kvs := [SObj.name [] (bs.map .raw), SObj.int [.ws 32] false 0 (n : Int)]
    let d := SObj.dict [] kvs []
    d.Valid need ∧ d.value.depth ≤ maxNestingDepth ∧ NoEol d.render ∧ d.render.length ≤ 65534 ∧
      ∀ key, dget (valueKVs kvs) key = if bs = key then some (.int n) else none := by
  dsimp only
  have hd : IsDigits (dec n) := dec_digits n
  have hr := render_nameIntDict [] [] [] bs n
  simp only [renderSep, List.flatMap_nil, List.nil_append] at hr
  refine ⟨valid_nameIntDict sepOk_nil sepOk_nil sepOk_nil hbs (Int.le_trans (by decide) (Int.natCast_nonneg n))
      (Int.lt_of_le_of_lt (Int.ofNat_le.2 hn) (by decide)) need,
    by simp only [SObj.value, valueKVs, Obj.depth, Obj.depthKV, Nat.max_zero]; decide, ?_, ?_, fun key => ?_⟩
  · rw [hr]
    intro c hc
    simp only [List.mem_cons, List.mem_append, List.not_mem_nil, or_false] at hc
    rcases hc with rfl | rfl | rfl | hc | rfl | hc | rfl | rfl
    · decide
    · decide
    · decide
    · exact regularName_noEol hbs c hc
    · decide
    · exact (word_chars _ (word_digits _ hd) c hc).2
    · decide
    · decide
  · have := dec_length_int64 n hn
    rw [hr]
    simp only [List.length_cons, List.length_append, List.length_nil]
    omega
  · simp only [valueKVs, dget, SObj.keyBytes, SObj.value, List.map_map]
    rw [show (NPiece.byte ∘ NPiece.raw) = id from rfl, List.map_id]

end Tabula.XrefFile
