import TabulaModel.Model.PdfDoc
/-!
Lemmas about Model/PdfDoc.lean. The walk of the page tree with its depth counter (`traverse`) against its
specification (`flatten`), from any depth: the walk entered at depth `dep` delivers the specification's answer
exactly when the tree has at most `maxPageTreeDepth - dep` levels (none, beyond the limit: only the empty
list of kids is walked there). `flatten` commutes with a map applied to every `/Resources` representative
(`flatten_mapRes`; used for renumbering, Lemmas/ReaderRenumber.lean). The join of a single part. And the words
of a content: core's
`splitOnP` at the white-space bytes without its empty pieces.
-/
namespace Tabula.PdfDoc

theorem height_pos {R : Type} (t : PTreeOf R) : 1 ≤ height t := by
  cases t <;> simp [height]

mutual
theorem traverse_dep {R : Type} (t : PTreeOf R) (dep : Nat) (inh : AttrsOf R) :
    traverse dep t inh = if height t ≤ maxPageTreeDepth - dep then some (flatten t inh) else none := by
  cases t with
  | leaf a =>
    have hh : height (PTreeOf.leaf a) = 1 := by rw [height]
    rw [traverse, flatten]
    by_cases h : dep ≥ maxPageTreeDepth
    · rw [if_pos h, if_neg (by omega)]
    · rw [if_neg h, if_pos (by omega)]
  | node a kids =>
    have hh : height (PTreeOf.node a kids) = heightList kids + 1 := by rw [height]
    rw [traverse, flatten]
    by_cases h : dep ≥ maxPageTreeDepth
    · rw [if_pos h, if_neg (by omega)]
    · rw [if_neg h, traverseList_dep kids (dep + 1) (a.over inh)]
      by_cases h2 : heightList kids ≤ maxPageTreeDepth - (dep + 1)
      · rw [if_pos h2, if_pos (by omega)]
      · rw [if_neg h2, if_neg (by omega)]
theorem traverseList_dep {R : Type} (ts : List (PTreeOf R)) (dep : Nat) (inh : AttrsOf R) :
    traverseList dep ts inh =
      if heightList ts ≤ maxPageTreeDepth - dep then some (flattenList ts inh) else none := by
  cases ts with
  | nil => rw [traverseList, flattenList, heightList, if_pos (Nat.zero_le _)]
  | cons t ts =>
    rw [traverseList, flattenList, heightList, traverse_dep t dep inh, traverseList_dep ts dep inh]
    by_cases h1 : height t ≤ maxPageTreeDepth - dep
    · by_cases h2 : heightList ts ≤ maxPageTreeDepth - dep
      · rw [if_pos h1, if_pos h2, if_pos (Nat.max_le.mpr ⟨h1, h2⟩)]
      · rw [if_pos h1, if_neg h2, if_neg fun h => h2 (Nat.max_le.mp h).2]
    · rw [if_neg h1, if_neg fun h => h1 (Nat.max_le.mp h).1]
end

/-- apply `g` to the `/Resources` representative -/
def AttrsOf.mapRes {R S : Type} (g : R → S) (a : AttrsOf R) : AttrsOf S :=
  { mb := a.mb, res := a.res.map g, rot := a.rot }

mutual
def PTreeOf.mapRes {R S : Type} (g : R → S) : PTreeOf R → PTreeOf S
  | .leaf a => .leaf (a.mapRes g)
  | .node a kids => .node (a.mapRes g) (mapResList g kids)
def mapResList {R S : Type} (g : R → S) : List (PTreeOf R) → List (PTreeOf S)
  | [] => []
  | t :: ts => t.mapRes g :: mapResList g ts
end

theorem over_mapRes {R S : Type} (g : R → S) (a b : AttrsOf R) :
    (a.over b).mapRes g = (a.mapRes g).over (b.mapRes g) := by
  cases a with | mk m1 r1 t1 => cases b with | mk m2 r2 t2 =>
  cases r1 <;> simp [AttrsOf.over, AttrsOf.mapRes]

mutual
theorem flatten_mapRes {R S : Type} (g : R → S) (t : PTreeOf R) (inh : AttrsOf R) :
    flatten (t.mapRes g) (inh.mapRes g) = (flatten t inh).map (AttrsOf.mapRes g) := by
  cases t with
  | leaf a => simp [PTreeOf.mapRes, flatten, over_mapRes]
  | node a kids =>
    simp only [PTreeOf.mapRes, flatten]
    rw [← over_mapRes, flattenList_mapRes g kids]
theorem flattenList_mapRes {R S : Type} (g : R → S) (ts : List (PTreeOf R)) (inh : AttrsOf R) :
    flattenList (mapResList g ts) (inh.mapRes g) = (flattenList ts inh).map (AttrsOf.mapRes g) := by
  cases ts with
  | nil => simp [mapResList, flattenList]
  | cons t ts =>
    simp only [mapResList, flattenList, List.map_append]
    rw [flatten_mapRes g t, flattenList_mapRes g ts]
end

theorem joinContents_one (p : List Nat) : joinContents [p] = joinPiece p := by
  simp [joinContents, joinPiece]

/-- one part: the code's join lets exactly the parts of at most `maxPageContentBytes` bytes pass -/
theorem joinBounded_one (p : List Nat) :
    joinBounded [p] = if p.length ≤ maxPageContentBytes then some (joinContents [p]) else none := by
  rw [joinBounded, joinLoop, joinLoop, Nat.zero_add, joinContents_one]
  by_cases h : p.length ≤ maxPageContentBytes
  · rw [if_neg (by omega), if_pos h]; exact congrArg some (List.append_nil _)
  · rw [if_pos (by omega), if_neg h]

/-- the words of a content are core's split at the white-space bytes, empty pieces dropped (`cur` is the
word in progress, last byte first) -/
theorem wordsAux_eq_splitOnP (s cur : List Nat) :
    wordsAux s cur = (s.splitOnPPrepend isWs cur).filter (!·.isEmpty) := by
  induction s generalizing cur with
  | nil => cases cur <;> simp [wordsAux]
  | cons c cs ih =>
    rw [wordsAux, List.splitOnPPrepend_cons_eq_if, ih, ih]
    cases isWs c <;> cases cur <;> simp

theorem words_eq_splitOnP (s : List Nat) : words s = (s.splitOnP isWs).filter (!·.isEmpty) :=
  wordsAux_eq_splitOnP s []

/-- a line feed ends the word in progress; what follows it is read from a fresh start -/
theorem words_append_ws (a b : List Nat) : words (a ++ 10 :: b) = words a ++ words b := by
  simp only [words_eq_splitOnP, List.splitOnP_append_cons a b (show isWs 10 = true by decide), List.filter_append]

end Tabula.PdfDoc
