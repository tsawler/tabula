import TabulaModel.Model.Drm
import TabulaModel.Lemmas.Detect
/-!
Helper lemmas about `Model/Drm.lean`: the two loops are `List.any`s, so the
decision is a property of the multiset of members / entries.
-/
set_option autoImplicit false
namespace Tabula.Drm
open Tabula.Detect

/-- `isContentFile` looks at the lower-cased URI only -/
theorem isContentFile_lower (u : Str) : isContentFile (lower u) = isContentFile u := by
  unfold isContentFile
  rw [lower_idem]

theorem isContentFile_case {u u' : Str} (h : lower u = lower u') :
    isContentFile u = isContentFile u' := by
  unfold isContentFile
  rw [h]

/-- `isContentFile` is a suffix test of the lower-cased URI against five extensions -/
theorem isContentFile_eq_any (uri : Str) :
    isContentFile uri = [sfxXhtml, sfxHtml, sfxHtm, sfxXml, sfxCss].any (hasSuffix (lower uri)) := by
  unfold isContentFile
  simp only [List.any_cons, List.any_nil, Bool.or_false, ← Bool.or_assoc]
  cases (hasSuffix (lower uri) sfxXhtml || hasSuffix (lower uri) sfxHtml || hasSuffix (lower uri) sfxHtm ||
    hasSuffix (lower uri) sfxXml) <;> cases hasSuffix (lower uri) sfxCss <;> rfl

/-- an entry that makes `hasEncryptedContent` answer true -/
def entryBad (e : Entry) : Bool := !isFontObfuscation e.algorithm && isContentFile e.uri

theorem hasEncryptedContent_eq_any (es : List Entry) :
    hasEncryptedContent es = es.any entryBad := by
  induction es with
  | nil => rfl
  | cons e rest ih =>
    rw [hasEncryptedContent, List.any_cons, ih, entryBad, isContentFile_lower]
    cases isFontObfuscation e.algorithm <;> cases isContentFile e.uri <;> simp

theorem hasEncryptedContent_iff {es : List Entry} :
    hasEncryptedContent es = true ↔
      ∃ e ∈ es, isFontObfuscation e.algorithm = false ∧ isContentFile e.uri = true := by
  simp only [hasEncryptedContent_eq_any, List.any_eq_true, entryBad, Bool.and_eq_true, Bool.not_eq_eq_eq_not,
    Bool.not_true]

theorem hasEncryptedContent_perm {es es' : List Entry} (h : es.Perm es') :
    hasEncryptedContent es = hasEncryptedContent es' := by
  rw [hasEncryptedContent_eq_any, hasEncryptedContent_eq_any]
  exact h.any_eq

/-- a member that makes `checkForDRM` answer true -/
def memberBad : DMember → Bool
  | .rights => true
  | .encryption none => true
  | .encryption (some es) => hasEncryptedContent es
  | .other => false

theorem checkForDRM_eq_any (ms : List DMember) : checkForDRM ms = ms.any memberBad := by
  fun_induction checkForDRM ms <;> simp_all [memberBad]

end Tabula.Drm
