import TabulaModel.Lemmas.CMapArrangeDefs
/-!
Arrangement independence at the level of the parsed STATE, for every `CMap` value (well formed
or not): what `Lookup` / `LookupString` return depends on the direct map as a function and on
the (pairwise disjoint) ranges as a set - not on the order in which they are stored; a range cut in
two (`lookupRanges_split`); the direct entries of a written-out range (for `C07Arrange.range_as_chars`).
-/
namespace Tabula.CMapArrange
open Tabula.UTF16 Tabula.CMap
open Tabula.CMapCompose (Functional)

/-! ## the direct map -/

theorem functional_perm {l l' : List (Nat × List Nat)} (hf : Functional l) (hp : List.Perm l l') :
    Functional l' := by
  intro a ha b hb hab
  exact hf a (hp.mem_iff.mpr ha) b (hp.mem_iff.mpr hb) hab

/-- permuting the entries of the direct map (distinct codes, or equal entries) changes no lookup -/
theorem getChar_perm (cm cm' : CMap) (hf : Functional cm.chars) (hp : List.Perm cm.chars cm'.chars) (c : Nat) :
    cm.getChar c = cm'.getChar c := by
  apply Option.ext
  intro u
  rw [getChar_functional cm hf c u, getChar_functional cm' (functional_perm hf hp) c u]
  exact hp.mem_iff

/-! ## the ranges -/

theorem rangesDisjoint_symm {a b : Range} (h : RangesDisjoint a b) : RangesDisjoint b a := by
  intro c hc
  exact h c ⟨hc.2, hc.1⟩

/-- among pairwise disjoint ranges, ANY range that contains the code decides the lookup -/
theorem lookupRanges_of_mem (rs : List Range) (hd : rs.Pairwise RangesDisjoint) (r : Range) (hr : r ∈ rs)
    (c : Nat) (hc : r.start ≤ c ∧ c ≤ r.stop) : lookupRanges rs c = rangeText r c := by
  induction rs with
  | nil => cases hr
  | cons a t ih =>
    rw [List.pairwise_cons] at hd
    unfold lookupRanges
    rcases List.mem_cons.mp hr with hra | hrt
    · subst hra
      rw [if_pos hc]
    · have hna : ¬ (a.start ≤ c ∧ c ≤ a.stop) := fun ha => hd.1 r hrt c ⟨ha, hc⟩
      rw [if_neg hna]
      exact ih hd.2 hrt

/-- permuting pairwise disjoint ranges changes no lookup -/
theorem lookupRanges_perm (rs rs' : List Range) (hd : rs.Pairwise RangesDisjoint) (hp : List.Perm rs rs') (c : Nat) :
    lookupRanges rs c = lookupRanges rs' c := by
  have hd' : rs'.Pairwise RangesDisjoint := hd.perm hp (fun h => rangesDisjoint_symm h)
  by_cases hex : ∃ r, r ∈ rs ∧ (r.start ≤ c ∧ c ≤ r.stop)
  · obtain ⟨r, hr, hc⟩ := hex
    rw [lookupRanges_of_mem rs hd r hr c hc, lookupRanges_of_mem rs' hd' r (hp.mem_iff.mp hr) c hc]
  · have hn : ∀ r ∈ rs, ¬ (r.start ≤ c ∧ c ≤ r.stop) := fun r hr hc => hex ⟨r, hr, hc⟩
    have hn' : ∀ r ∈ rs', ¬ (r.start ≤ c ∧ c ≤ r.stop) := fun r hr hc => hex ⟨r, hp.mem_iff.mpr hr, hc⟩
    rw [lookupRanges_none rs c hn, lookupRanges_none rs' c hn']

/-- `Lookup` depends on the direct map as a function and on the ranges as a set, not on their order -/
theorem lookup_perm (cm cm' : CMap) (hf : Functional cm.chars) (hpc : List.Perm cm.chars cm'.chars)
    (hd : cm.ranges.Pairwise RangesDisjoint) (hpr : List.Perm cm.ranges cm'.ranges) (c : Nat) :
    lookup cm c = lookup cm' c := by
  unfold lookup
  rw [getChar_perm cm cm' hf hpc c, lookupRanges_perm cm.ranges cm'.ranges hd hpr c]

theorem bumpLast_ne_nil (us : List Nat) (a : Nat) : bumpLast us a = [] ↔ us = [] := by
  fun_cases bumpLast us a <;> simp

theorem bumpLast_bumpLast (us : List Nat) (a b : Nat) : bumpLast (bumpLast us a) b = bumpLast us (a + b) := by
  by_cases h : us = []
  · subst h; rfl
  · rw [bumpLast_eq us h, bumpLast_eq _ (by simp), bumpLast_eq us h]
    simp only [List.dropLast_concat, List.getLast?_concat, Option.getD_some]
    congr 2
    omega

/-- a range cut in two at any code is the same range: the second part starts where the first would have
arrived (start value, or last unit of the target, advanced by the codes of the first part) -/
theorem lookupRanges_split (r : Range) (m : Nat) (h1 : r.start ≤ m) (h2 : m < r.stop) (rest : List Range) (c : Nat) :
    lookupRanges (r :: rest) c =
      lookupRanges (⟨r.start, m, r.startUnicode, r.units⟩ ::
        ⟨m + 1, r.stop, r.startUnicode + (m + 1 - r.start), bumpLast r.units (m + 1 - r.start)⟩ :: rest) c := by
  simp only [lookupRanges]
  by_cases ha : r.start ≤ c ∧ c ≤ r.stop
  · by_cases hb : c ≤ m
    · rw [if_pos ha, if_pos ⟨ha.1, hb⟩]; rfl
    · rw [if_pos ha, if_neg (by omega), if_pos (by omega)]
      unfold rangeText
      simp only [ne_eq, bumpLast_ne_nil, bumpLast_bumpLast]
      rw [show m + 1 - r.start + (c - (m + 1)) = c - r.start by omega,
        show r.startUnicode + (m + 1 - r.start) + (c - (m + 1)) = r.startUnicode + (c - r.start) by omega]
  · rw [if_neg ha, if_neg (by omega), if_neg (by omega)]

/-! ## `LookupString` only uses `Lookup` and the widths -/

theorem emit_congr (cm cm' : CMap) (hl : ∀ c, lookup cm c = lookup cm' c) (c : Nat) :
    emit cm c = emit cm' c := by
  unfold emit
  rw [hl c]

theorem effectiveWidth_congr (cm cm' : CMap)
    (hbw : cm.byteWidth = cm'.byteWidth) (habw : cm.actualByteWidth = cm'.actualByteWidth) :
    effectiveWidth cm = effectiveWidth cm' := by
  unfold effectiveWidth
  rw [hbw, habw]

theorem lookupWidth_congr (cm cm' : CMap) (hl : ∀ c, lookup cm c = lookup cm' c) (w fuel : Nat)
    (data : List Nat) : lookupWidth cm w fuel data = lookupWidth cm' w fuel data := by
  have he : emit cm = emit cm' := funext (emit_congr cm cm' hl)
  induction fuel generalizing data with
  | zero => simp [lookupWidth]
  | succ f ih =>
    cases data with
    | nil => simp [lookupWidth]
    | cons b rest =>
      simp only [lookupWidth]
      rw [ih, he]

theorem lookupFallback_congr (cm cm' : CMap) (hl : ∀ c, lookup cm c = lookup cm' c)
    (data : List Nat) : lookupFallback cm data = lookupFallback cm' data := by
  -- every branch of the loop is decided by `lookup`
  fun_induction lookupFallback cm data <;> simp_all +zetaDelta [lookupFallback, ← hl]

/-- `LookupString` is determined by `Lookup` and the effective width - on the fixed-width path AND on the width-less fallback path, for every input -/
theorem lookupString_congr (cm cm' : CMap) (hl : ∀ c, lookup cm c = lookup cm' c)
    (hw : effectiveWidth cm = effectiveWidth cm') (data : List Nat) :
    lookupString cm data = lookupString cm' data := by
  unfold lookupString
  rw [hw, lookupWidth_congr cm cm' hl, lookupFallback_congr cm cm' hl]

/-! ## a range written out as direct entries -/

/-- the direct entries of a written-out run of codes: the entry of a code inside the run -/
theorem find_written_in (s n : Nat) (f : Nat → List Nat) (c : Nat) (hc : s ≤ c ∧ c < s + n) :
    (((List.range n).map fun i => (s + i, f (s + i))).find? fun p => p.1 == c) = some (c, f c) := by
  apply (find_key_functional _ _ c (f c)).mpr
  · apply List.mem_map.mpr
    refine ⟨c - s, List.mem_range.mpr (by omega), ?_⟩
    have : s + (c - s) = c := by omega
    rw [this]
  · intro a ha b hb hab
    obtain ⟨i, _, hi⟩ := List.mem_map.mp ha
    obtain ⟨j, _, hj⟩ := List.mem_map.mp hb
    subst hi
    subst hj
    simp only at hab
    have : i = j := by omega
    rw [this]

/-- … and no entry for a code outside it -/
theorem find_written_out (s n : Nat) (f : Nat → List Nat) (c : Nat) (hc : ¬ (s ≤ c ∧ c < s + n)) :
    (((List.range n).map fun i => (s + i, f (s + i))).find? fun p => p.1 == c) = none := by
  apply List.find?_eq_none.mpr
  intro x hx
  obtain ⟨i, hi, hxi⟩ := List.mem_map.mp hx
  have hi' := List.mem_range.mp hi
  subst hxi
  simp only [beq_iff_eq]
  omega

end Tabula.CMapArrange
