import TabulaModel.Model.BuilderMem
import TabulaModel.Lemmas.BuilderHist
/-!
Helper lemmas for `Props/C10Mem.lean`: the invariant of the families grown from
`FromHTMLReader` / `FromHTMLString` and the one-step correspondence between the record model
(`mstep`) and its description from the calls alone (`mlStep_eq`).
-/
namespace Tabula.BuilderMem
open Tabula.PageSel Tabula.Builder

/-- what every record of such a family satisfies: no file name, and the three life-cycle
fields move together -/
def MemInv (X : List Ext) : Prop :=
  ∀ (i : Nat) (e : Ext), X[i]? = some e →
    e.hasFile = false ∧ e.owns = e.opened ∧ e.reader.isSome = e.opened

theorem memInv_base : MemInv [htmlBase] ∧ MemInv [htmlBaseErr] := by
  constructor <;> intro i e he <;> obtain ⟨rfl, rfl⟩ := getElem?_singleton he <;> exact ⟨rfl, rfl, rfl⟩

theorem mClose_static (e : Ext) : (mClose e).static = e.static := by
  unfold mClose
  split
  · split <;> rfl
  · rfl

theorem mClose_spent (e : Ext) (h : e.owns = e.opened ∧ e.reader.isSome = e.opened) :
    (mClose e).opened = false ∧ (mClose e).owns = false ∧ (mClose e).reader = none := by
  unfold mClose
  cases ho : e.opened with
  | false =>
    rw [ho] at h
    cases hr : e.reader with
    | some r => rw [hr] at h; simp at h
    | none => simp [h.1, ho, hr]
  | true =>
    rw [ho] at h
    cases hr : e.reader with
    | none => rw [hr] at h; simp at h
    | some r => simp [h.1]

theorem mClose_hasFile (e : Ext) : (mClose e).hasFile = e.hasFile := by
  have := mClose_static e
  simp only [Ext.static, Prod.mk.injEq] at this
  exact this.2.2.2

/-- a configuration method on a record without file name: the copy has the receiver's reader and
flags -/
theorem derive_mem (e : Ext) (c : BCall) (h : e.hasFile = false ∧ e.owns = e.opened ∧ e.reader.isSome = e.opened) :
    (e.derive c).hasFile = false ∧ (e.derive c).owns = (e.derive c).opened ∧
    (e.derive c).reader.isSome = (e.derive c).opened ∧ (e.derive c).opened = e.opened := by
  obtain ⟨hf, hw, hr⟩ := h
  rw [derive_eq]
  unfold Ext.clone
  cases ho : e.opened with
  | true => rw [ho] at hw hr; simp [hf, hw, hr]
  | false => simp [hf]

/-- a terminal operation that gets past its tests uses up the receiver; its answer is that of
`mTermStatic` on the receiver's record -/
theorem mTerminal_eq (w : World) (k : Term) {X : List Ext} {i : Nat} {e : Ext} (he : X[i]? = some e) :
    mTerminal w k X i =
      (if consumes k e && e.opened then X.set i (mClose e) else X, mTermStatic w k e e.opened) := by
  unfold mTerminal consumes mTermStatic
  rw [he]
  dsimp only
  cases (k.checksErr e.format && e.err) <;> cases (k.pdfOnly && e.format != .pdf) <;>
    cases e.opened <;> rfl

theorem mNonTerminal_eq (w : World) (k : NonTerm) {X : List Ext} {i : Nat} {e : Ext}
    (he : X[i]? = some e) : mNonTerminal w k X i = (X, mNonTermStatic w k e e.opened) := by
  unfold mNonTerminal mNonTermStatic
  rw [he]
  dsimp only
  cases e.err <;> cases (k.pdfOnly && e.format != .pdf) <;> cases e.opened <;> rfl

theorem mTermStatic_spent (w : World) (k : Term) (e : Ext) : mTermStatic w k e false = .err := by
  unfold mTermStatic
  cases (k.checksErr e.format && e.err) <;> cases (k.pdfOnly && e.format != .pdf) <;> rfl

theorem mNonTermStatic_spent (w : World) (k : NonTerm) (e : Ext) :
    mNonTermStatic w k e false = .err := by
  unfold mNonTermStatic
  cases e.err <;> cases (k.pdfOnly && e.format != .pdf) <;> rfl

/-- the records after an operation: unchanged, or the receiver closed, or its copy appended -/
theorem mstep_cases (w : World) (X : List Ext) (op : Op) :
    (mstep w X op).1 = X ∨
    (∃ e, X[op.target]? = some e ∧ op.mutates = true ∧
      (mstep w X op).1 = X.set op.target (mClose e)) ∨
    (∃ e c, op.mutates = false ∧ X[op.target]? = some e ∧ (mstep w X op).1 = X ++ [e.derive c]) := by
  cases op with
  | derive i c =>
    simp only [mstep, mDeriveOp, Op.target]
    cases he : X[i]? with
    | none => exact .inl rfl
    | some e => exact .inr (.inr ⟨e, c, rfl, rfl, rfl⟩)
  | term i k =>
    simp only [mstep, Op.target]
    cases he : X[i]? with
    | none => left; simp only [mTerminal, he]
    | some e =>
      rw [mTerminal_eq w k he]
      cases (consumes k e && e.opened)
      · exact .inl rfl
      · exact .inr (.inl ⟨e, rfl, rfl, rfl⟩)
  | nonTerm i k =>
    simp only [mstep]
    cases he : X[i]? with
    | none => left; simp only [mNonTerminal, he]
    | some e => left; rw [mNonTerminal_eq w k he]
  | close i =>
    simp only [mstep, mCloseOp, Op.target]
    cases he : X[i]? with
    | none => exact .inl rfl
    | some e => exact .inr (.inl ⟨e, rfl, rfl, rfl⟩)

/-- what `Close` and the configuration methods keep of the record they are called on, every
operation keeps of every record -/
theorem mstep_forall (w : World) {X : List Ext} (op : Op) (P : Ext → Prop)
    (hcl : ∀ e, X[op.target]? = some e → P e → P (mClose e))
    (hd : ∀ e c, X[op.target]? = some e → P e → P (e.derive c))
    (h : ∀ (i : Nat) (e : Ext), X[i]? = some e → P e) :
    ∀ (i : Nat) (e : Ext), (mstep w X op).1[i]? = some e → P e := by
  rcases mstep_cases w X op with hr | ⟨e, he, _, hr⟩ | ⟨e, c, _, he, hr⟩ <;> rw [hr]
  · exact h
  · intro i ei hi
    rcases getElem?_set_some hi with ⟨_, rfl⟩ | ⟨_, hi⟩
    · exact hcl e he (h _ e he)
    · exact h i ei hi
  · intro i ei hi
    rcases getElem?_concat _ _ _ _ hi with hi | ⟨_, rfl⟩
    · exact h i ei hi
    · exact hd e c he (h _ e he)

theorem memInv_step (w : World) {X : List Ext} (h : MemInv X) (op : Op) : MemInv (mstep w X op).1 :=
  mstep_forall w op (fun e => e.hasFile = false ∧ e.owns = e.opened ∧ e.reader.isSome = e.opened)
    (fun e _ he => by
      obtain ⟨a, b, c⟩ := mClose_spent e he.2
      exact ⟨by rw [mClose_hasFile, he.1], by rw [a, b], by rw [a, c]; rfl⟩)
    (fun e c _ he => by obtain ⟨a, b, c', _⟩ := derive_mem e c he; exact ⟨a, b, c'⟩) h

theorem memInv_exec (w : World) (ops : List Op) : ∀ {X : List Ext}, MemInv X → MemInv (mexec w X ops) := by
  induction ops with
  | nil => intro X h; exact h
  | cons op ops ih => intro X h; exact ih (memInv_step w h op)

/-- an operation reads and writes the record of its receiver only -/
theorem mstep_other (w : World) (X : List Ext) (op : Op) (j : Nat) (hj : j < X.length)
    (h : op.mutates = false ∨ op.target ≠ j) : (mstep w X op).1[j]? = X[j]? := by
  rcases mstep_cases w X op with hr | ⟨e, _, hm, hr⟩ | ⟨e, c, _, _, hr⟩ <;> rw [hr]
  · exact List.getElem?_set_ne (h.resolve_left (by rw [hm]; exact Bool.noConfusion))
  · exact List.getElem?_append_left hj

theorem mstep_length_le (w : World) (X : List Ext) (op : Op) : X.length ≤ (mstep w X op).1.length := by
  rcases mstep_cases w X op with hr | ⟨e, _, _, hr⟩ | ⟨e, c, _, _, hr⟩ <;> rw [hr]
  · exact Nat.le_refl _
  · exact Nat.le_of_eq List.length_set.symm
  · exact List.length_append ▸ Nat.le_add_right _ _

theorem mget_exec (w : World) (i : Nat) (ops : List Op) :
    ∀ {X : List Ext}, i < X.length → (∀ op ∈ ops, op.mutates = true → op.target ≠ i) →
      (mexec w X ops)[i]? = X[i]? := by
  induction ops with
  | nil => intro X _ _; rfl
  | cons op ops ih =>
    intro X hi hops
    have hother : op.mutates = false ∨ op.target ≠ i := by
      cases hm : op.mutates with
      | false => exact .inl rfl
      | true => exact .inr (hops op List.mem_cons_self hm)
    exact (ih (Nat.lt_of_lt_of_le hi (mstep_length_le w X op))
      fun o ho => hops o (List.mem_cons_of_mem _ ho)).trans (mstep_other w X op i hi hother)

/-- the answer to an operation, from the record of its receiver -/
def mRes (w : World) : Op → Option Ext → Res
  | _, none => .bad
  | .derive _ _, some _ => .none
  | .term _ k, some e => mTermStatic w k e e.opened
  | .nonTerm _ k, some e => mNonTermStatic w k e e.opened
  | .close _, some _ => .closed

theorem mstep_res (w : World) (X : List Ext) (op : Op) :
    (mstep w X op).2 = mRes w op X[op.target]? := by
  cases op with
  | derive i c =>
    simp only [mstep, mDeriveOp, Op.target]
    cases X[i]? <;> rfl
  | term i k =>
    simp only [mstep, Op.target]
    cases he : X[i]? with
    | none => simp only [mTerminal, he, mRes]
    | some e => rw [mTerminal_eq w k he]; rfl
  | nonTerm i k =>
    simp only [mstep, Op.target]
    cases he : X[i]? with
    | none => simp only [mNonTerminal, he, mRes]
    | some e => rw [mNonTerminal_eq w k he]; rfl
  | close i =>
    simp only [mstep, mCloseOp, Op.target]
    cases X[i]? <;> rfl

theorem mstep_static (w : World) (X : List Ext) (op : Op) (hm : op.mutates = true) :
    (mstep w X op).1.map Ext.static = X.map Ext.static := by
  rcases mstep_cases w X op with hr | ⟨e, he, _, hr⟩ | ⟨e, c, hmf, _, _⟩
  · rw [hr]
  · rw [hr]; exact map_set_same _ _ _ _ _ he (mClose_static e)
  · rw [hm] at hmf; cases hmf

/-- the configuration of every record stays that of the chain of calls that built it -/
theorem lin_mstep (w : World) {e0 : Ext} {L : List (List BCall)} {X : List Ext}
    (h : LinInv e0 L { exts := X }) (op : Op) :
    LinInv e0 (lineage L [op]) { exts := (mstep w X op).1 } := by
  cases op with
  | derive i c =>
    simp only [lineage, mstep, mDeriveOp]
    rcases lin_get h i with ⟨he, hL⟩ | ⟨e, cs, he, hL, _⟩
    · rw [show X[i]? = none from he, hL]; exact h
    · rw [show X[i]? = some e from he, hL]; exact lin_append h he hL c
  | _ => exact lin_of_static h (mstep_static w X _ rfl)

/-- **one step**: the description from the calls alone (chains and one liveness flag per
extractor) gives the flags and the answer of the record model -/
theorem mlStep_eq (w : World) (e0 : Ext) {L : List (List BCall)} {X : List Ext}
    (hinv : MemInv X) (h : LinInv e0 L { exts := X }) (op : Op) :
    mlStep w (L.map (chainFrom e0)) (X.map Ext.opened) op =
      ((mstep w X op).1.map Ext.opened, (mstep w X op).2) := by
  rcases lin_get h op.target with ⟨he, hL⟩ | ⟨e, cs, he, hL, hs⟩
  · -- no such extractor: both sides answer `.bad` and nothing moves
    have he' : X[op.target]? = none := he
    cases op <;> simp only [Op.target] at he' hL <;>
      simp only [mstep, mDeriveOp, mTerminal, mNonTerminal, mCloseOp, mlStep, he', hL, List.getElem?_map,
        Option.map_none]
  · have he' : X[op.target]? = some e := he
    cases op with
    | derive i c =>
      simp only [Op.target] at he' hL
      simp only [mstep, mDeriveOp, mlStep, he', List.getElem?_map, Option.map_some, List.map_append,
        List.map_cons, List.map_nil, (derive_mem e c (hinv i e he')).2.2.2]
    | term i k =>
      simp only [Op.target] at he' hL
      simp only [mstep, mlStep, mTerminal_eq w k he', he', hL, List.getElem?_map, Option.map_some]
      rw [← static_congr (mTermStatic w k · e.opened) (fun _ => rfl) hs,
        ← static_congr (consumes k) (fun _ => rfl) hs, apply_ite (List.map Ext.opened),
        List.map_set, (mClose_spent e (hinv i e he').2).1]
    | nonTerm i k =>
      simp only [Op.target] at he' hL
      simp only [mstep, mlStep, mNonTerminal_eq w k he', he', hL, List.getElem?_map, Option.map_some]
      rw [← static_congr (mNonTermStatic w k · e.opened) (fun _ => rfl) hs]
    | close i =>
      simp only [Op.target] at he'
      simp only [mstep, mCloseOp, mlStep, he', List.getElem?_map, Option.map_some, List.map_set,
        (mClose_spent e (hinv i e he').2).1]

end Tabula.BuilderMem
