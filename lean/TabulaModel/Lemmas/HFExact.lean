import TabulaModel.Lemmas.HeaderFooter
/-!
Lemmas about the string and number functions of `Model/HeaderFooter.lean` behind page-number detection
(`normalize`, `digitRuns`, `parseDigits` with its 64-bit wrap-around, `sortInts`) and about line assembly on
character-level pages (`sortBy`, `groupLines`, `lineText`).
-/
namespace Tabula.HF

def NoDigits (s : Str) : Prop := ∀ c ∈ s, isDigit c = false

def AllDigits (s : Str) : Prop := ∀ c ∈ s, isDigit c = true

/-- the string does not begin with a digit (it may be empty) -/
def NoDigitHead : Str → Prop
  | [] => True
  | c :: _ => isDigit c = false

theorem normAux_noDigitHead : ∀ (b : Bool) (s : Str), NoDigitHead s → normAux b s = normAux false s
  | _, [], _ => by simp [normAux]
  | b, c :: cs, h => by
    have h : isDigit c = false := h
    simp [normAux, h]

theorem normAux_true_digits : ∀ (ds rest : Str), AllDigits ds → normAux true (ds ++ rest) = normAux true rest
  | [], _, _ => rfl
  | d :: ds, rest, h => by
    have hd : isDigit d = true := h d (by simp)
    have ih := normAux_true_digits ds rest (fun c hc => h c (by simp [hc]))
    simp [normAux, hd, ih]

theorem normAux_cons_nondigit (b : Bool) (c : Nat) (cs : Str) (hc : isDigit c = false) :
    normAux b (c :: cs) = c :: normAux false cs := by
  simp [normAux, hc]

theorem normAux_pre : ∀ (b : Bool) (pre rest : Str), NoDigits pre → pre ≠ [] →
    normAux b (pre ++ rest) = pre ++ normAux false rest
  | _, [], _, _, hne => absurd rfl hne
  | b, [c], rest, h, _ => by
    have hc : isDigit c = false := h c (by simp)
    exact normAux_cons_nondigit b c rest hc
  | b, c :: c' :: pre, rest, h, _ => by
    have hc : isDigit c = false := h c (by simp)
    have ih := normAux_pre false (c' :: pre) rest (fun x hx => h x (by simp [hx])) (by simp)
    rw [List.cons_append, normAux_cons_nondigit b c _ hc, ih]; simp

theorem normAux_no_digit : ∀ (b : Bool) (s : Str), ∀ c ∈ normAux b s, isDigit c = false
  | _, [], c, hc => by simp [normAux] at hc
  | b, d :: ds, c, hc => by
    unfold normAux at hc
    split at hc
    · split at hc
      · exact normAux_no_digit true ds c hc
      · rcases List.mem_cons.mp hc with rfl | hc
        · decide
        · exact normAux_no_digit true ds c hc
    · rename_i hd
      rcases List.mem_cons.mp hc with rfl | hc
      · simpa using hd
      · exact normAux_no_digit false ds c hc

theorem normAux_of_noDigits : ∀ (b : Bool) (s : Str), NoDigits s → normAux b s = s
  | _, [], _ => by simp [normAux]
  | b, c :: cs, h => by
    have hc : isDigit c = false := h c (by simp)
    have ih := normAux_of_noDigits false cs (fun x hx => h x (by simp [hx]))
    simp [normAux, hc, ih]

theorem digitRunsAux_digits : ∀ (ds rest cur : Str), AllDigits ds →
    digitRunsAux (ds ++ rest) cur = digitRunsAux rest (ds.reverse ++ cur)
  | [], _, _, _ => rfl
  | d :: ds, rest, cur, h => by
    have hd : isDigit d = true := h d (by simp)
    have ih := digitRunsAux_digits ds rest (d :: cur) (fun c hc => h c (by simp [hc]))
    simp [digitRunsAux, hd, ih]

theorem digitRunsAux_noDigits : ∀ (pre rest : Str), NoDigits pre →
    digitRunsAux (pre ++ rest) [] = digitRunsAux rest []
  | [], _, _ => rfl
  | c :: pre, rest, h => by
    have hc : isDigit c = false := h c (by simp)
    have ih := digitRunsAux_noDigits pre rest (fun x hx => h x (by simp [hx]))
    simp [digitRunsAux, hc, ih]

theorem digitRunsAux_close : ∀ (rest cur : Str), NoDigitHead rest → cur ≠ [] →
    digitRunsAux rest cur = cur.reverse :: digitRunsAux rest []
  | [], cur, _, hne => by
    cases cur with
    | nil => exact absurd rfl hne
    | cons a l => simp [digitRunsAux]
  | c :: cs, cur, h, hne => by
    have hc : isDigit c = false := h
    cases cur with
    | nil => exact absurd rfl hne
    | cons a l => simp [digitRunsAux, hc]

theorem wrap64_step (a d : Int) : wrap64 (wrap64 a * 10 + d) = wrap64 (a * 10 + d) := by
  unfold wrap64; omega

theorem wrap64_id {x : Int} (h1 : -9223372036854775808 ≤ x) (h2 : x < 9223372036854775808) : wrap64 x = x := by
  unfold wrap64; omega

/-- the decimal value of a digit string, in unbounded arithmetic -/
def decVal (s : Str) : Int := s.foldl (fun (num : Int) (c : Nat) => num * 10 + ((c : Int) - 48)) 0

theorem parseDigits_foldl : ∀ (s : Str) (a : Int),
    s.foldl (fun (num : Int) (c : Nat) => wrap64 (num * 10 + ((c : Int) - 48))) (wrap64 a) =
      wrap64 (s.foldl (fun (num : Int) (c : Nat) => num * 10 + ((c : Int) - 48)) a)
  | [], _ => rfl
  | c :: s, a => by
    simp only [List.foldl_cons]
    rw [wrap64_step, parseDigits_foldl s]

theorem sortInts_perm : ∀ l : List Int, (sortInts l).Perm l := sortInts_isSort.perm

theorem sortInts_sorted : ∀ l : List Int, (sortInts l).Pairwise (· ≤ ·) :=
  fun l => (sortInts_isSort.sorted l).imp of_decide_eq_true

theorem sorted_perm_unique : ∀ (l₁ l₂ : List Int), l₁.Pairwise (· ≤ ·) → l₂.Pairwise (· ≤ ·) → l₁.Perm l₂ → l₁ = l₂ :=
  fun _ _ h₁ h₂ hp => hp.eq_of_pairwise (fun _ _ _ _ => Int.le_antisymm) h₁ h₂

theorem sortBy_perm {α : Type} (lt : α → α → Bool) : ∀ l : List α, (sortBy lt l).Perm l
  | [] => List.Perm.refl _
  | a :: l =>
    -- `insertBy` puts `a` in front of the first `b` that is not below it
    (MapOrder.insertion_perm (c := fun a b => ¬ lt b a = true) (ins := insertBy lt) (fun _ => rfl)
      (fun _ _ _ => by rw [ite_not]; rfl) a _).trans ((sortBy_perm lt l).cons a)

theorem groupLines_flatten : ∀ (l cur : List Frag), (groupLines l cur).flatten = cur.reverse ++ l
  | [], cur => by
    unfold groupLines
    cases cur <;> simp
  | f :: rest, [] => by
    unfold groupLines
    rw [groupLines_flatten rest [f]]; simp
  | f :: rest, last :: cur => by
    unfold groupLines
    split
    · rw [groupLines_flatten rest (f :: last :: cur)]; simp
    · rw [List.flatten_cons, groupLines_flatten rest [f]]; simp

theorem groupLines_nonempty : ∀ (l cur : List Frag), ∀ g ∈ groupLines l cur, g ≠ []
  | [], cur, g, hg => by
    unfold groupLines at hg
    cases cur with
    | nil => simp at hg
    | cons a c =>
      simp at hg
      subst hg; simp
  | f :: rest, [], g, hg => by
    unfold groupLines at hg
    exact groupLines_nonempty rest [f] g hg
  | f :: rest, last :: cur, g, hg => by
    unfold groupLines at hg
    split at hg
    · exact groupLines_nonempty rest _ g hg
    · rcases List.mem_cons.mp hg with rfl | hg
      · simp
      · exact groupLines_nonempty rest [f] g hg

theorem lineText_nonblank : ∀ (l : List Frag) (o : Option Rat),
    (lineText l o).filter (fun c => c != 32) = (l.flatMap (·.text)).filter (fun c => c != 32)
  | [], _ => by simp [lineText]
  | f :: rest, none => by
    simp [lineText, lineText_nonblank rest]
  | f :: rest, some e => by
    unfold lineText
    split <;> simp [lineText_nonblank rest]

end Tabula.HF
