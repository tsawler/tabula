import TabulaModel.Lemmas.MarkdownDoc
/-!
What the element loops of the docx and odt Markdown writers share: the lines of the table element
and the loop body itself (`paraStep`, `tableStep`) over the part of the loop state both have — the
builder and the `inList` flag (`LoopSt`) — with one read-back lemma each; the loop over the elements
(`loop_read`).
-/
namespace Tabula.MarkdownDoc
open Tabula.A1 (Str dec decInt)
open Tabula.Markdown

/-- the lines of the table element with the newline behind it: nothing but the empty line when the
table has no columns -/
def spanBlock (w : Writer) (t : List (List SCell)) : List Str :=
  if colCount t = 0 then [[]] else spanLines w t ++ [[]]

theorem spanBlock_lines (w : Writer) (t : List (List SCell)) :
    renderSpan w t ++ [10] = joinLines (spanBlock w t) := by
  unfold spanBlock
  split
  · rename_i h
    simp [renderSpan_zero w t h, joinLines]
  · rename_i h
    rw [renderSpan_lines w t h, joinLines_append]
    simp [joinLines]

theorem spanBlock_read (w : Writer) (t : List (List SCell)) :
    LinesRead (spanBlock w t) [] [] [] ((if colCount t = 0 then none else some t).toList.map (spanLines w)) := by
  unfold spanBlock
  by_cases h : colCount t = 0
  · rw [if_pos h, if_pos h]; exact LinesRead.blank
  · rw [if_neg h, if_neg h]
    exact LinesRead.table _ (spanLines_ne_nil w t h) (fun l hl => ⟨spanLines_pipe w t l hl, spanLines_noNl w t l hl⟩)

/-- the early return of the docx / odt entry points (`len(r.elements) == 0 && len(r.paragraphs) == 0`) -/
theorem isEmpty_and_eq_true {α} (els : List α) (b : Bool) (h : (els.isEmpty && b) = true) : els = [] := by
  cases els with
  | nil => rfl
  | cons a l => cases h

/-- The builder and the `inList` flag inside the loop state of the docx and odt writers: how the
element loop reads them and how it replaces them (`put`), the rest of the state staying. -/
structure LoopSt (σ : Type) where
  out : σ → Str
  inList : σ → Bool
  put : σ → Str → Bool → σ
  out_put : ∀ s o b, out (put s o b) = o

/-- the paragraph branch of the element loops of docx and odt, with what they do differently as
parameters: `ends` (an open list does not go on with this paragraph), `listed`, and the step
`item` that writes a list item -/
def paraStep {σ} (L : LoopSt σ) (i : Nat) (st : σ) (skip ends isH listed : Bool) (n : Nat) (t : Str)
    (item : σ → σ) : σ :=
  if skip then st else
  let st :=
    if (decide (i > 0) && !(L.out st).isEmpty) && (L.inList st && ends) then L.put st (L.out st ++ [10]) false
    else st
  if isH then L.put st (L.out st ++ atxLine n t ++ [10, 10]) false
  else if listed then item st
  else if !t.isEmpty then L.put st (L.out st ++ t ++ [10, 10]) false
  else st

/-- the table branch of the element loops of docx and odt -/
def tableStep {σ} (L : LoopSt σ) (w : Writer) (st : σ) (t : List (List SCell)) : σ :=
  let st := if L.inList st then L.put st (L.out st ++ [10]) false else st
  L.put st (L.out st ++ renderSpan w t ++ [10]) (L.inList st)

/-- The paragraph branch: an invariant of the state that `put` and the item step keep is kept, and
what is appended to the builder are lines holding what the paragraph contributes to the reader's
lists.  Whether the `i > 0 && result.Len() > 0` guard lets the separating newline
through does not matter: an empty line more or less is nothing to the reader (`LinesRead.sep`).  The
three lists are `Option.toList` of the bodies of the `filterMap`s that define the expected lists of both
formats, which is what `filterMap_singleton` makes of `dHeadings excl hl [e]` and the like. -/
theorem paraStep_read {σ} (L : LoopSt σ) (inv : σ → Prop) (hput : ∀ s o b, inv s → inv (L.put s o b))
    (i : Nat) (st : σ) (skip ends isH listed : Bool) (n : Nat) (t : Str) (item : σ → σ) (d : Nat) (o : Bool)
    (hitem : listed = true → ∀ s, inv s →
      inv (item s) ∧ ∃ num, L.out (item s) = L.out s ++ (listLine ⟨d, o, num, t⟩ ++ [10]))
    (h1 : 1 ≤ n) (hnl : 10 ∉ t)
    (hplain : skip = false → isH = false → listed = false → t.isEmpty = false → classify t = .para)
    (hinv : inv st) :
    inv (paraStep L i st skip ends isH listed n t item) ∧
    ∃ ls, L.out (paraStep L i st skip ends isH listed n t item) = L.out st ++ joinLines ls ∧
      LinesRead ls (if !skip && isH then some (n, t) else none).toList
        (if !skip && !isH && listed then some (d, o, t) else none).toList
        (if !skip && !isH && !listed && !t.isEmpty then some t else none).toList [] := by
  unfold paraStep
  cases hx : skip
  case true => exact ⟨hinv, [], by simp [joinLines], LinesRead.nil⟩
  simp only [Bool.false_eq_true, if_false]
  -- the state after the separating newline
  generalize ((decide (i > 0) && !(L.out st).isEmpty) && (L.inList st && ends)) = sp
  obtain ⟨s1, hs1, hinv1, hout1⟩ : ∃ s1, (if sp = true then L.put st (L.out st ++ [10]) false else st) = s1 ∧ inv s1 ∧
      L.out s1 = L.out st ++ joinLines (if sp then [[]] else []) := by
    cases sp
    · exact ⟨_, rfl, hinv, by simp [joinLines]⟩
    · exact ⟨_, rfl, hput _ _ _ hinv, by simp [L.out_put, joinLines]⟩
  rw [hs1]
  cases hh : isH
  case true =>
    exact ⟨hput _ _ _ hinv1, _, by simp [L.out_put, hout1, joinLines],
      (LinesRead.sep sp).append ((LinesRead.heading _ _ h1 hnl).append LinesRead.blank)⟩
  cases hli : listed
  case true =>
    obtain ⟨hi, num, hline⟩ := hitem hli s1 hinv1
    exact ⟨hi, _, by simp [hline, hout1, joinLines], (LinesRead.sep sp).append (LinesRead.item ⟨d, o, num, t⟩ hnl)⟩
  cases ht : t.isEmpty
  case false =>
    exact ⟨hput _ _ _ hinv1, _, by simp [L.out_put, hout1, joinLines],
      (LinesRead.sep sp).append ((LinesRead.para _ (hplain hx hh hli ht) hnl).append LinesRead.blank)⟩
  exact ⟨hinv1, _, hout1, LinesRead.sep sp⟩

/-- the table branch: the table's lines as one pipe block, behind an empty line when a list was open -/
theorem tableStep_read {σ} (L : LoopSt σ) (inv : σ → Prop) (hput : ∀ s o b, inv s → inv (L.put s o b))
    (w : Writer) (st : σ) (t : List (List SCell)) (hinv : inv st) :
    inv (tableStep L w st t) ∧
    ∃ ls, L.out (tableStep L w st t) = L.out st ++ joinLines ls ∧
      LinesRead ls [] [] [] ((if colCount t = 0 then none else some t).toList.map (spanLines w)) := by
  unfold tableStep
  refine ⟨hput _ _ _ (by split; exact hput _ _ _ hinv; exact hinv), _, ?_,
    (LinesRead.sep (L.inList st)).append (spanBlock_read w t)⟩
  rw [joinLines_append, ← spanBlock_lines w t, L.out_put]
  cases L.inList st <;> simp [L.out_put, joinLines]

/-- An element loop whose every step keeps an invariant of the state and appends to the builder the
lines holding what the element contributes to the reader's four lists (each list a `filterMap` over
the elements): the loop appends lines holding the four lists of the element list. -/
theorem loop_read {ε σ τ : Type} (out : σ → Str) (inv : σ → Prop) (step : Nat → σ → ε → σ)
    (loop : Nat → σ → List ε → σ) (hnil : ∀ i st, loop i st [] = st)
    (hcons : ∀ i st e es, loop i st (e :: es) = loop (i + 1) (step i st e) es)
    (fH : ε → Option (Nat × Str)) (fI : ε → Option (Nat × Bool × Str)) (fP : ε → Option Str)
    (fT : ε → Option τ) (g : τ → List Str) (els : List ε)
    (hstep : ∀ e ∈ els, ∀ i st, inv st → inv (step i st e) ∧
      ∃ ls, out (step i st e) = out st ++ joinLines ls ∧
        LinesRead ls ([e].filterMap fH) ([e].filterMap fI) ([e].filterMap fP) (([e].filterMap fT).map g)) :
    ∀ i st, inv st → ∃ ls, out (loop i st els) = out st ++ joinLines ls ∧
      LinesRead ls (els.filterMap fH) (els.filterMap fI) (els.filterMap fP) ((els.filterMap fT).map g) := by
  induction els with
  | nil => intro i st _; exact ⟨[], by simp [hnil, joinLines], LinesRead.nil⟩
  | cons e es ih =>
    intro i st hinv
    obtain ⟨h1, ls, hout, hr⟩ := hstep e List.mem_cons_self i st hinv
    obtain ⟨ls', hout', hr'⟩ := ih (fun x hx => hstep x (List.mem_cons_of_mem _ hx)) (i + 1) _ h1
    refine ⟨ls ++ ls', ?_, (hr.append hr').of_eq List.filterMap_append.symm List.filterMap_append.symm
      List.filterMap_append.symm (by rw [← List.map_append, ← List.filterMap_append]; rfl)⟩
    rw [hcons, hout', hout, joinLines_append, List.append_assoc]

end Tabula.MarkdownDoc
