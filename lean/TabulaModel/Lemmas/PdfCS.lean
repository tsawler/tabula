import TabulaModel.Model.Spell
import TabulaModel.Lemmas.Decimal
import TabulaModel.Lemmas.PdfName
import TabulaModel.Lemmas.PdfStr
import TabulaModel.Lemmas.PdfHex
import TabulaModel.Lemmas.PdfReal
import TabulaModel.Lemmas.PdfDepth
import TabulaModel.Lemmas.PdfParse
import TabulaModel.Lemmas.PdfLexProgress
import TabulaModel.Lemmas.PdfNumber
namespace Tabula.Pdf
open Tabula.A1 (atoi dec)
/-
Property C06, content-stream side: every legally spelled operand (any depth) and every
legally spelled operator program is read back by the model of contentstream/parser.go as the
value meant.  Helper lemmas live in `namespace CSL`.  Core Lean only.
-/
namespace CSL

theorem skipSpace_unit (u : SepUnit) (hu : u.Ok) (X : Str) :
    CS.skipSpace (u.render ++ X) = CS.skipSpace X := by
  cases u with
  | ws b => exact Prog.skipSpace_ws b X hu
  | comment t e => exact Prog.skipSpace_comment_line t e X hu.1 hu.2

theorem skipSpace_sep (us : Sep) (h : SepOk us) (X : Str) :
    CS.skipSpace (renderSep us ++ X) = CS.skipSpace X := by
  induction us with
  | nil => rfl
  | cons u us ih =>
    have e : renderSep (u :: us) ++ X = u.render ++ (renderSep us ++ X) := by
      simp [renderSep]
    rw [e, skipSpace_unit u (h u (by simp)), ih (fun v hv => h v (by simp [hv]))]

theorem po_str (f d : Nat) (X : Str) (r v r' : Str) (h : CS.skipSpace X = 40 :: r)
    (hs : CS.strLoop 1 r = some (v, r')) :
    CS.parseOperand (f + 1) d X = some (.str v, r') := by
  rw [CS.parseOperand, h]
  simp +decide only [if_false, if_true, hs]

theorem po_hex (f d : Nat) (X : Str) (r v r' : Str) (h : CS.skipSpace X = 60 :: r) (h1 : r ≠ [])
    (h2 : r.head? ≠ some 60) (hs : CS.hexLoop r = some (v, r')) :
    CS.parseOperand (f + 1) d X = some (.str v, r') := by
  rw [CS.parseOperand, h]
  simp +decide only [if_false, h1, h2, ne_eq, not_false_eq_true, and_self, if_true, hs]

theorem po_name (f d : Nat) (X : Str) (r : Str) (h : CS.skipSpace X = 47 :: r) :
    CS.parseOperand (f + 1) d X = some (.name (CS.nameLoop r).1, (CS.nameLoop r).2) := by
  rw [CS.parseOperand, h]
  simp +decide only [if_false, false_and, if_true]

theorem po_arr (f d : Nat) (X : Str) (r : Str) (h : CS.skipSpace X = 91 :: r) (hd : d < maxNestingDepth) :
    CS.parseOperand (f + 1) d X = CS.parseArray f (d + 1) r [] := by
  rw [CS.parseOperand, h]
  simp +decide only [if_false, false_and, if_true, Nat.not_le.2 hd]

theorem po_arr_deep (f d : Nat) (X : Str) (r : Str) (h : CS.skipSpace X = 91 :: r) (hd : maxNestingDepth ≤ d) :
    CS.parseOperand (f + 1) d X = none := by
  rw [CS.parseOperand, h]
  simp +decide only [if_false, false_and, if_true, hd]

theorem po_dict (f d : Nat) (X : Str) (r : Str) (h : CS.skipSpace X = 60 :: 60 :: r) (hd : d < maxNestingDepth) :
    CS.parseOperand (f + 1) d X = CS.parseDict f (d + 1) r [] := by
  rw [CS.parseOperand, h]
  simp +decide only [if_false, List.head?_cons, ne_eq, and_false, true_and, if_true, List.drop_succ_cons,
    List.drop_zero, Nat.not_le.2 hd]

theorem po_dict_deep (f d : Nat) (X : Str) (r : Str) (h : CS.skipSpace X = 60 :: 60 :: r)
    (hd : maxNestingDepth ≤ d) :
    CS.parseOperand (f + 1) d X = none := by
  rw [CS.parseOperand, h]
  simp +decide only [if_false, List.head?_cons, ne_eq, and_false, true_and, if_true, hd]

theorem po_kw (f d : Nat) (X : Str) (c : Nat) (r : Str) (h : CS.skipSpace X = c :: r)
    (hc : c = 116 ∨ c = 102 ∨ c = 110) :
    CS.parseOperand (f + 1) d X =
      (let t := CS.regularToken (c :: r)
        if t = kwTrue then some (.bool true, (c :: r).drop t.length)
        else if t = kwFalse then some (.bool false, (c :: r).drop t.length)
        else if t = kwNull then some (.null, (c :: r).drop t.length)
        else none) := by
  rw [CS.parseOperand, h]
  have a : ¬ (c = 45 ∨ c = 43 ∨ c = 46 ∨ isDigit c = true) := by
    rcases hc with rfl | rfl | rfl <;> decide
  have b : c ≠ 40 := by omega
  have b' : c ≠ 60 := by omega
  have d' : c ≠ 47 := by omega
  have e : c ≠ 91 := by omega
  simp only [a, b, b', d', e, hc, if_false, false_and, if_true]

theorem po_skip (f d : Nat) (X : Str) : CS.parseOperand f d (CS.skipSpace X) = CS.parseOperand f d X :=
  Prog.parseOperand_congr (Prog.skipSpace_idem X) f d

theorem regularToken_append (t rest : Str) (ht : ∀ c ∈ t, (isWs c || isDelim c) = false)
    (hr : Terminated rest) : CS.regularToken (t ++ rest) = t := by
  unfold CS.regularToken
  simp only [← Bool.not_or]
  exact (List.span_append_of_head (fun c hc => by rw [ht c hc]; rfl)
    fun _ _ e => by rw [Terminated.head hr e]; rfl).1

/-- the three keyword objects: first byte (no white space), regular bytes only -/
theorem kw_facts (kw : Str) (h : kw = kwNull ∨ kw = kwTrue ∨ kw = kwFalse) :
    ∃ c t, kw = c :: t ∧ (c = 116 ∨ c = 102 ∨ c = 110) ∧ isWs c = false ∧
      (∀ x ∈ kw, (isWs x || isDelim x) = false) := by
  rcases h with rfl | rfl | rfl
  · exact ⟨110, _, rfl, by decide, by decide, by decide⟩
  · exact ⟨116, _, rfl, by decide, by decide, by decide⟩
  · exact ⟨102, _, rfl, by decide, by decide, by decide⟩

/-- `parseHexString` fails on a second `<`: where it succeeds, `parseOperand` had not taken the `<` for
the start of a dictionary -/
theorem hexLoop_head {r v r' : Str} (h : CS.hexLoop r = some (v, r')) : r.head? ≠ some 60 := by
  cases r with
  | nil => exact fun e => nomatch e
  | cons c t =>
    intro e
    obtain rfl : c = 60 := Option.some.inj e
    rw [Gram.cs_hexLoop_bad 60 t (by decide) (by decide) (by decide)] at h
    cases h

theorem skip_render (pre : Sep) (hp : SepOk pre) (c : Nat) (r : Str) (h1 : isWs c = false) (h2 : c ≠ 37) :
    CS.skipSpace (renderSep pre ++ (c :: r)) = c :: r := by
  rw [skipSpace_sep pre hp, Prog.skipSpace_other c r h1 h2]

theorem pa_close (f d : Nat) (close : Sep) (hc : SepOk close) (rest : Str) (acc : List Obj) :
    CS.parseArray (f + 1) d (renderSep close ++ 93 :: rest) acc = some (.arr acc, rest) := by
  rw [CS.parseArray, skip_render close hc 93 rest (by decide) (by decide)]
  have : renderSep close ++ 93 :: rest ≠ [] := by simp
  simp only [this, if_false, if_true]

theorem pa_item (f d : Nat) (inp : Str) (acc : List Obj) (c : Nat) (r : Str)
    (h : CS.skipSpace inp = c :: r) (hc : c ≠ 93) :
    CS.parseArray (f + 1) d inp acc =
      (CS.parseOperand f d inp).bind fun p => CS.parseArray f d p.2 (acc ++ [p.1]) := by
  have hne : inp ≠ [] := by
    intro e; rw [e, Prog.skipSpace_nil] at h; cases h
  have hp : CS.parseOperand f d (c :: r) = CS.parseOperand f d inp := by rw [← h, po_skip]
  rw [CS.parseArray, h]
  simp only [hne, hc, if_false, hp]
  cases CS.parseOperand f d inp <;> rfl

theorem pd_close (f d : Nat) (close : Sep) (hc : SepOk close) (rest : Str) (acc : List (Str × Obj)) :
    CS.parseDict (f + 1) d (renderSep close ++ 62 :: 62 :: rest) acc = some (.dict acc, rest) := by
  rw [CS.parseDict, skip_render close hc 62 (62 :: rest) (by decide) (by decide)]
  have : renderSep close ++ 62 :: 62 :: rest ≠ [] := by simp
  simp only [this, if_false, List.head?_cons, and_self, if_true, List.drop_succ_cons, List.drop_zero]

/-- one key and its value: the step of the dictionary loop, for both outcomes of the value -/
theorem pd_step (f d : Nat) (pre : Sep) (hpre : SepOk pre) (ps : List NPiece) (hps : ∀ p ∈ ps, p.Ok)
    (Y : Str) (hY : Terminated Y) (acc : List (Str × Obj)) :
    CS.parseDict (f + 1) d (renderSep pre ++ 47 :: (renderName ps ++ Y)) acc =
      (CS.parseOperand f d Y).bind fun p => CS.parseDict f d p.2 (dictSet acc (ps.map NPiece.byte) p.1) := by
  rw [CS.parseDict, skip_render pre hpre 47 _ (by decide) (by decide)]
  have hne : renderSep pre ++ 47 :: (renderName ps ++ Y) ≠ [] := by simp
  have h1 : ¬ ((47 : Nat) = 62 ∧ (renderName ps ++ Y).head? = some 62) := by
    intro h; exact absurd h.1 (by decide)
  simp only [hne, h1, if_false, ne_eq, not_true_eq_false, cs_nameLoop_roundtrip ps Y hps hY]
  cases CS.parseOperand f d Y <;> rfl

end CSL

mutual
/-- no indirect reference anywhere (content streams have none) -/
def SObj.noRef : SObj → Bool
  | .ref _ _ _ _ _ => false
  | .arr _ items _ => noRefList items
  | .dict _ kvs _ => noRefList kvs
  | _ => true
def noRefList : List SObj → Bool
  | [] => true
  | x :: xs => x.noRef && noRefList xs
end

/-- does the last token written so far end in a regular character? -/
def lastEndsRegular : Bool → List SObj → Bool
  | need, [] => need
  | _, x :: xs => lastEndsRegular x.endsRegular xs

/-- a legal operator name: starts with a letter, ' or ", continues with letters, digits, ' " *, and is not a keyword object -/
def OpName (op : Str) : Prop :=
  (∃ c r, op = c :: r ∧ (CS.isLetter c = true ∨ c = 39 ∨ c = 34) ∧ ∀ x ∈ r, CS.isOpChar true x = true) ∧
    CS.isKeywordObject op = false

def SOp.render (o : SOp) : Str := renderList o.operands ++ (renderSep o.pre ++ o.op)

def renderOps : List SOp → Str
  | [] => []
  | o :: os => o.render ++ renderOps os

def ValidOps : Bool → List SOp → Prop
  | _, [] => True
  | need, o :: os =>
    ValidList need o.operands ∧ noRefList o.operands = true ∧ SepOk o.pre ∧
      (lastEndsRegular need o.operands = true → o.pre ≠ []) ∧ OpName o.op ∧ ValidOps true os

namespace CSL

/-- the test of `parseLoop` that sends the parser to `parseOperator` -/
def opBranch (c : Nat) (r : Str) : Bool :=
  (CS.isLetter c && !CS.isKeywordObject (CS.regularToken (c :: r))) || c = 39 || c = 34

/-- a byte that starts a number is no white space, no `%`, no `]` and starts no operator -/
theorem numStart_facts (c : Nat) (h : c = 45 ∨ c = 43 ∨ c = 46 ∨ isDigit c = true) :
    isWs c = false ∧ c ≠ 37 ∧ c ≠ 93 ∧ CS.isLetter c = false ∧ c ≠ 39 ∧ c ≠ 34 := by
  have hr : 43 ≤ c ∧ c ≤ 57 := by
    rcases h with rfl | rfl | rfl | h
    · omega
    · omega
    · omega
    · have := Rl.digit_bounds h; omega
  refine ⟨?_, by omega, by omega, ?_, by omega, by omega⟩
  · simp only [isWs, Bool.or_eq_false_iff, beq_eq_false_iff_ne]; omega
  · simp only [CS.isLetter, Bool.or_eq_false_iff, Bool.and_eq_false_iff, decide_eq_false_iff_not]; omega

theorem po_sep (f d : Nat) (pre : Sep) (hp : SepOk pre) (Y : Str) :
    CS.parseOperand f d (renderSep pre ++ Y) = CS.parseOperand f d Y :=
  Prog.parseOperand_congr (skipSpace_sep pre hp Y) f d

/-- where the document-level lexer, behind white space, cuts a number token, `parseOperand` converts the
text of that token and stops where the token ends -/
theorem po_number {f d : Nat} {Y : Str} {tok : Token} {rest : Str} (h : nextToken Y = some (tok, rest)) :
    (∀ text, tok = .integer text → CS.parseOperand (f + 1) d Y = (atoi text).map fun v => (.int v, rest)) ∧
    (∀ text, tok = .real text → CS.parseOperand (f + 1) d Y = (parseReal text).map (·, rest)) := by
  obtain ⟨lx0, hY, hs, _, hne⟩ := Prog.nextToken_spec h
  by_cases ht : tok = .eof
  · subst ht; exact ⟨fun _ e => (nomatch e), fun _ e => (nomatch e)⟩
  obtain ⟨b, lx, rfl, hws, hfb⟩ := hne ht
  have hw : AllWs (Y.takeWhile isWs) := fun c hc => List.mem_takeWhile_imp hc
  -- behind the white space both readers stand on the same byte `b`; it starts a number
  have key : (b = 45 ∨ b = 43 ∨ b = 46 ∨ isDigit b = true) →
      CS.parseOperand (f + 1) d Y = CS.parseNumber (b :: (lx ++ rest)) ∧
        nextToken (b :: (lx ++ rest)) = some (tok, rest) := by
    intro hb
    refine ⟨po_num f d Y b _ ?_ hb, ?_⟩
    · rw [congrArg CS.skipSpace hY, List.append_assoc, Prog.skipSpace_allWs _ _ hw]
      exact Prog.skipSpace_other b _ hws (numStart_facts b hb).2.1
    · rw [← h, congrArg nextToken hY, List.append_assoc, nextToken_ws _ _ hw]; rfl
  refine ⟨fun text et => ?_, fun text et => ?_⟩
  · subst et
    obtain ⟨h1, h2⟩ := key hfb
    rw [h1, (parseNumber_of_token hfb h2).1 _ rfl]
  · subst et
    obtain ⟨h1, h2⟩ := key hfb
    rw [h1, (parseNumber_of_token hfb h2).2 _ rfl]

theorem terminated_list (xs : List SObj) (hv : ValidList true xs) (T : Str)
    (hT : lastEndsRegular true xs = true → Terminated T) : Terminated (renderList xs ++ T) := by
  cases xs with
  | nil => exact hT rfl
  | cons x xs =>
    simp only [renderList, List.append_assoc]
    exact Prs.term_obj x true hv.1 _ (Or.inl rfl)

theorem kw_operand (f d : Nat) (pre : Sep) (hp : SepOk pre) (kw rest : Str)
    (hkw : kw = kwNull ∨ kw = kwTrue ∨ kw = kwFalse) (hT : Terminated rest) :
    CS.parseOperand (f + 1) d (renderSep pre ++ (kw ++ rest)) =
      (if kw = kwTrue then some (.bool true, rest)
        else if kw = kwFalse then some (.bool false, rest)
        else if kw = kwNull then some (.null, rest)
        else none) := by
  obtain ⟨c, t, rfl, hc, hws, hreg⟩ := kw_facts kw hkw
  have hs : CS.skipSpace (renderSep pre ++ (c :: t ++ rest)) = c :: (t ++ rest) :=
    skip_render pre hp c _ hws (by omega)
  rw [po_kw f d _ c _ hs hc]
  simp only [← List.cons_append, regularToken_append (c :: t) rest hreg hT, List.drop_left]

/-- the seven kinds of operand that open no container: no recursion, no nesting limit -/
theorem scalar_run (so : SObj) (need : Bool) (rest : Str) (f d : Nat) (hv : so.Valid need)
    (hnr : so.noRef = true) (h0 : so.depth = 0) (hrest : so.endsRegular = true → Terminated rest) :
    CS.parseOperand (f + 1) d (so.render ++ rest) = some (so.value, rest) := by
  cases so with
  | null pre =>
    simp only [SObj.render, List.append_assoc, SObj.value]
    rw [kw_operand f d pre hv.1 kwNull rest (Or.inl rfl) (hrest rfl)]
    rfl
  | bool pre b =>
    simp only [SObj.render, List.append_assoc, SObj.value]
    cases b with
    | true =>
      exact (kw_operand f d pre hv.1 kwTrue rest (Or.inr (Or.inl rfl)) (hrest rfl)).trans rfl
    | false =>
      exact (kw_operand f d pre hv.1 kwFalse rest (Or.inr (Or.inr rfl)) (hrest rfl)).trans rfl
  | int pre plus z i =>
    simp only [SObj.render, List.append_assoc, SObj.value]
    rw [po_sep _ _ pre hv.1, (po_number (nextToken_int plus z i rest (hrest rfl))).1 _ rfl,
      atoi_printInt plus z i hv.2.2.1 hv.2.2.2]
    rfl
  | real pre r =>
    simp only [SObj.render, List.append_assoc, SObj.value]
    rw [po_sep _ _ pre hv.1, (po_number (nextToken_real r rest hv.2.2 (hrest rfl))).2 _ rfl,
      parseReal_render r hv.2.2]
    rfl
  | lit pre ps =>
    simp only [SObj.render, renderStr, List.append_assoc, List.cons_append, SObj.value, List.nil_append]
    have hs := skip_render pre hv.1 40 (renderStrBody ps ++ 41 :: rest) (by decide) (by decide)
    exact po_str f d _ _ _ _ hs (by rw [cs_strLoop_eq]; exact litstr_roundtrip ps rest hv.2)
  | hex pre ps last w =>
    simp only [SObj.render, renderHex, List.append_assoc, List.cons_append, SObj.value]
    have hs := skip_render pre hv.1 60 (renderHexBody ps last w ++ rest) (by decide) (by decide)
    have hl := cs_hexstr_roundtrip ps last w rest hv.2.1 hv.2.2.1 hv.2.2.2
    exact po_hex f d _ _ _ _ hs (by simp [renderHexBody]) (hexLoop_head hl) hl
  | name pre ps =>
    simp only [SObj.render, List.append_assoc, List.cons_append, SObj.value]
    have hs := skip_render pre hv.1 47 (renderName ps ++ rest) (by decide) (by decide)
    rw [po_name f d _ _ hs, cs_nameLoop_roundtrip ps rest hv.2 (hrest rfl)]
  | arr pre items close => simp only [SObj.depth] at h0; omega
  | dict pre kvs close => simp only [SObj.depth] at h0; omega
  | ref pre n g s1 s2 => simp [SObj.noRef] at hnr

/-- where `parseOperand` succeeds, the byte it found is no `]` and `parseNext` had not taken it for the
start of an operator: operands and operators are told apart before either is read -/
theorem parseOperand_head {f d : Nat} {inp : Str} {o : Obj} {r : Str}
    (h : CS.parseOperand f d inp = some (o, r)) :
    ∃ c r0, CS.skipSpace inp = c :: r0 ∧ c ≠ 93 ∧ opBranch c r0 = false := by
  cases f with
  | zero => rw [CS.parseOperand] at h; cases h
  | succ f =>
    obtain ⟨c, r0, hs, hc⟩ := CS.parseOperand_inv h
    refine ⟨c, r0, hs, ?_⟩
    rcases hc with ⟨hc, _⟩ | ⟨rfl, _⟩ | ⟨rfl, _⟩ | ⟨rfl, _⟩ | ⟨rfl, _⟩ | ⟨rfl, _⟩ | ⟨hc, t, ht, ho, _⟩
    · obtain ⟨_, _, h93, hl, h39, h34⟩ := numStart_facts c hc
      exact ⟨h93, by simp [opBranch, hl, h39, h34]⟩
    · exact ⟨by decide, rfl⟩
    · exact ⟨by decide, rfl⟩
    · exact ⟨by decide, rfl⟩
    · exact ⟨by decide, rfl⟩
    · exact ⟨by decide, rfl⟩
    · have hk : CS.isKeywordObject (CS.regularToken (c :: r0)) = true := by
        rw [ht]; rcases ho with ⟨rfl, _⟩ | ⟨rfl, _⟩ | ⟨rfl, _⟩ <;> decide
      have h39 : c ≠ 39 := by omega
      have h34 : c ≠ 34 := by omega
      exact ⟨by omega, by simp [opBranch, hk, h39, h34]⟩

/-- what the parser sees after the separator of a spelled operand -/
theorem head_cases (so : SObj) (need : Bool) (hv : so.Valid need) (hnr : so.noRef = true) (rest : Str)
    (hrest : so.endsRegular = true → Terminated rest) :
    ∃ c r, CS.skipSpace (so.render ++ rest) = c :: r ∧ c ≠ 93 ∧ opBranch c r = false := by
  cases so with
  | arr pre items close =>
    simp only [SObj.render, List.append_assoc, List.cons_append]
    exact ⟨91, _, skip_render pre hv.1 91 _ (by decide) (by decide), by decide, rfl⟩
  | dict pre kvs close =>
    simp only [SObj.render, List.append_assoc, List.cons_append]
    exact ⟨60, _, skip_render pre hv.1 60 _ (by decide) (by decide), by decide, rfl⟩
  | _ => exact parseOperand_head (scalar_run _ need rest 0 0 hv hnr rfl hrest)

mutual
/-- a legally spelled operand is read back as its value when the containers it opens fit under the
nesting limit, and is an error when they do not -/
theorem op_run (so : SObj) (need : Bool) (rest : Str) (f d : Nat)
    (hv : so.Valid need) (hnr : so.noRef = true) (hf : so.size ≤ f) (hd : d ≤ maxNestingDepth)
    (hrest : so.endsRegular = true → Terminated rest) :
    CS.parseOperand f d (so.render ++ rest) =
      if d + so.depth ≤ maxNestingDepth then some (so.value, rest) else none := by
  have := Prs.size_pos so
  obtain ⟨f, rfl⟩ : ∃ f', f = f' + 1 := ⟨f - 1, by omega⟩
  cases so with
  | arr pre items close =>
    simp only [SObj.noRef] at hnr
    simp only [SObj.size] at hf
    simp only [SObj.render, List.append_assoc, List.cons_append, SObj.value, List.nil_append]
    rw [show (SObj.arr pre items close).depth = 1 + sdepthList items from rfl]
    have hs := skip_render pre hv.1 91 (renderList items ++ (renderSep close ++ 93 :: rest)) (by decide) (by decide)
    by_cases hlim : maxNestingDepth ≤ d
    · rw [po_arr_deep f d _ _ hs hlim, if_neg (by omega)]
    · rw [po_arr f d _ _ hs (by omega),
        arr_run items false close rest f (d + 1) [] hv.2.2 hnr hv.2.1 (by omega) (by omega)]
      simp only [Nat.add_assoc, List.nil_append]
  | dict pre kvs close =>
    simp only [SObj.noRef] at hnr
    simp only [SObj.size] at hf
    simp only [SObj.render, List.append_assoc, List.cons_append, SObj.value, List.nil_append]
    rw [show (SObj.dict pre kvs close).depth = 1 + sdepthList kvs from rfl]
    have hs := skip_render pre hv.1 60 (60 :: (renderList kvs ++ (renderSep close ++ 62 :: 62 :: rest)))
      (by decide) (by decide)
    by_cases hlim : maxNestingDepth ≤ d
    · rw [po_dict_deep f d _ _ hs hlim, if_neg (by omega)]
    · rw [po_dict f d _ _ hs (by omega), dict_run kvs close rest f (d + 1) [] hv.2.2.1 hnr hv.2.1 (by omega) (by omega),
        Prs.assignAll_valueKVs kvs hv.2.2.2]
      simp only [Nat.add_assoc]
  | _ => exact (scalar_run _ need rest f d hv hnr rfl hrest).trans (if_pos hd).symm
theorem arr_run (items : List SObj) (need : Bool) (close : Sep) (rest : Str) (f d : Nat) (acc : List Obj)
    (hv : ValidList need items) (hnr : noRefList items = true) (hc : SepOk close)
    (hf : sizeList items + 1 ≤ f) (hd : d ≤ maxNestingDepth) :
    CS.parseArray f d (renderList items ++ (renderSep close ++ 93 :: rest)) acc =
      if d + sdepthList items ≤ maxNestingDepth then some (.arr (acc ++ valueList items), rest)
      else none := by
  obtain ⟨f, rfl⟩ : ∃ f', f = f' + 1 := ⟨f - 1, by omega⟩
  match items with
  | [] =>
    simp only [renderList, List.nil_append, valueList, List.append_nil]
    rw [if_pos (show d + sdepthList [] ≤ maxNestingDepth from hd)]
    exact pa_close f d close hc rest acc
  | x :: xs =>
    simp only [noRefList, Bool.and_eq_true] at hnr
    simp only [sizeList] at hf
    simp only [renderList, List.append_assoc, valueList, sdepthList, Prs.fits_cons]
    have hrest := Prs.term_after x xs need hv _
      (Prs.term_sep close hc (93 :: rest) (Prs.term_cons 93 _ (by decide)))
    obtain ⟨c, r, hs, h93, _⟩ := head_cases x need hv.1 hnr.1 _ hrest
    rw [pa_item f d _ acc c r hs h93, op_run x need _ f d hv.1 hnr.1 (by omega) hd hrest]
    by_cases hfit : d + x.depth ≤ maxNestingDepth
    · rw [if_pos hfit, Option.bind_some,
        arr_run xs x.endsRegular close rest f d (acc ++ [x.value]) hv.2 hnr.2 hc (by omega) hd]
      simp only [hfit, true_and, List.append_assoc, List.singleton_append]
    · rw [if_neg hfit, Option.bind_none, if_neg (fun h => hfit h.1)]
/-- the dictionary loop on legally spelled key/value pairs, keys repeated or not: the written pairs are
assigned in order -/
theorem dict_run (kvs : List SObj) (close : Sep) (rest : Str) (f d : Nat) (acc : List (Str × Obj))
    (hv : ValidKVs kvs) (hnr : noRefList kvs = true) (hc : SepOk close)
    (hf : sizeList kvs + 1 ≤ f) (hd : d ≤ maxNestingDepth) :
    CS.parseDict f d (renderList kvs ++ (renderSep close ++ 62 :: 62 :: rest)) acc =
      if d + sdepthList kvs ≤ maxNestingDepth then some (.dict (C06More.assignAll acc (valueKVs kvs)), rest)
      else none := by
  obtain ⟨f, rfl⟩ : ∃ f', f = f' + 1 := ⟨f - 1, by omega⟩
  match kvs with
  | [] =>
    simp only [renderList, List.nil_append, valueKVs]
    rw [if_pos (show d + sdepthList [] ≤ maxNestingDepth from hd)]
    exact pd_close f d close hc rest acc
  | [_] => simp [ValidKVs] at hv
  | k :: v :: kvs' =>
    obtain ⟨hkn, hkv, hvv, hv'⟩ := hv
    simp only [noRefList, Bool.and_eq_true] at hnr
    obtain ⟨_, hnrv, hnr'⟩ := hnr
    simp only [sizeList] at hf
    match k, hkn, hkv with
    | .name pre ps, _, hkv =>
      simp only [renderList, SObj.render, List.append_assoc, List.cons_append, valueKVs, SObj.keyBytes,
        sdepthList, SObj.depth, Nat.zero_max, Prs.fits_cons]
      have hT : Terminated (renderSep close ++ 62 :: 62 :: rest) :=
        Prs.term_sep close hc _ (Prs.term_cons 62 _ (by decide))
      have hT' := Prs.kvs_terminated kvs' hv' _ hT
      have hY : Terminated (v.render ++ (renderList kvs' ++ (renderSep close ++ 62 :: 62 :: rest))) :=
        Prs.term_obj v true hvv _ (Or.inl rfl)
      rw [pd_step f d pre hkv.1 ps hkv.2 _ hY acc, op_run v true _ f d hvv hnrv (by omega) hd (fun _ => hT')]
      by_cases hfit : d + v.depth ≤ maxNestingDepth
      · rw [if_pos hfit, Option.bind_some, dict_run kvs' close rest f d _ hv' hnr' hc (by omega) hd]
        simp only [hfit, true_and]
        rfl
      · rw [if_neg hfit, Option.bind_none, if_neg (fun h => hfit h.1)]
end

theorem op_rt (so : SObj) (need : Bool) (rest : Str) (f d : Nat)
    (hv : so.Valid need) (hnr : so.noRef = true) (hf : so.size ≤ f)
    (hd : d + so.depth ≤ maxNestingDepth)
    (hrest : so.endsRegular = true → Terminated rest) :
    CS.parseOperand f d (so.render ++ rest) = some (so.value, rest) := by
  rw [op_run so need rest f d hv hnr hf (by omega) hrest, if_pos hd]

theorem arr_rt (items : List SObj) (need : Bool) (close : Sep) (rest : Str) (f d : Nat) (acc : List Obj)
    (hv : ValidList need items) (hnr : noRefList items = true) (hc : SepOk close)
    (hf : sizeList items + 1 ≤ f) (hd : d + sdepthList items ≤ maxNestingDepth) :
    CS.parseArray f d (renderList items ++ (renderSep close ++ 93 :: rest)) acc =
      some (.arr (acc ++ valueList items), rest) := by
  rw [arr_run items need close rest f d acc hv hnr hc hf (by omega), if_pos hd]

theorem arr_deep (items : List SObj) (need : Bool) (close : Sep) (rest : Str) (f d : Nat) (acc : List Obj)
    (hv : ValidList need items) (hnr : noRefList items = true) (hc : SepOk close)
    (hf : sizeList items + 1 ≤ f) (hd : d ≤ maxNestingDepth)
    (hdeep : maxNestingDepth < d + sdepthList items) :
    CS.parseArray f d (renderList items ++ (renderSep close ++ 93 :: rest)) acc = none := by
  rw [arr_run items need close rest f d acc hv hnr hc hf hd, if_neg (by omega)]

theorem dict_deep (kvs : List SObj) (close : Sep) (rest : Str) (f d : Nat) (acc : List (Str × Obj))
    (hv : ValidKVs kvs) (hnr : noRefList kvs = true) (hc : SepOk close)
    (hnd : (keysOf kvs).Nodup) (hfr : ∀ k ∈ keysOf kvs, k ∉ acc.map Prod.fst)
    (hf : sizeList kvs + 1 ≤ f) (hd : d ≤ maxNestingDepth)
    (hdeep : maxNestingDepth < d + sdepthList kvs) :
    CS.parseDict f d (renderList kvs ++ (renderSep close ++ 62 :: 62 :: rest)) acc = none := by
  have _ := hnd
  have _ := hfr
  rw [dict_run kvs close rest f d acc hv hnr hc hf hd, if_neg (by omega)]

theorem pl_operand (n fuel : Nat) (inp : Str) (stack : List Obj) (ops : List CS.Operation)
    (c : Nat) (r : Str) (hs : CS.skipSpace inp = c :: r) (hb : opBranch c r = false) :
    CS.parseLoop (n + 1) fuel inp stack ops =
      (CS.parseOperand fuel 0 inp).bind fun p => CS.parseLoop n fuel p.2 (stack ++ [p.1]) ops := by
  have hp : CS.parseOperand fuel 0 (c :: r) = CS.parseOperand fuel 0 inp := by rw [← hs, po_skip]
  rw [CS.parseLoop, hs]
  unfold opBranch at hb
  simp only [hb, hp, Bool.false_eq_true, if_false]
  cases CS.parseOperand fuel 0 inp <;> rfl

theorem opChar_regular (x : Nat) (h : CS.isOpChar true x = true) : (isWs x || isDelim x) = false := by
  simp only [CS.isOpChar, CS.isLetter, isDigit, Bool.or_eq_true, Bool.and_eq_true, decide_eq_true_eq,
    beq_iff_eq, Bool.true_and] at h
  simp only [isWs, isDelim, Bool.or_eq_false_iff, beq_eq_false_iff_ne]
  omega

theorem opStart_facts (c : Nat) (h : CS.isLetter c = true ∨ c = 39 ∨ c = 34) :
    CS.isOpChar false c = true ∧ CS.isOpChar true c = true := by
  rcases h with h | rfl | rfl
  · simp [CS.isOpChar, h]
  · decide
  · decide

theorem opName_tail (r T : Str) (hr : ∀ x ∈ r, CS.isOpChar true x = true) (hT : Terminated T) :
    CS.opName true (r ++ T) = (r, T) := by
  induction r with
  | nil =>
    rcases hT with rfl | ⟨x, t, rfl, hx⟩
    · rfl
    · have : CS.isOpChar true x = false := by
        cases h : CS.isOpChar true x with
        | false => rfl
        | true => rw [opChar_regular x h] at hx; cases hx
      simp [CS.opName, this]
  | cons x r ih =>
    have hx := hr x (by simp)
    simp only [List.cons_append, CS.opName, hx, if_true]
    rw [ih (fun y hy => hr y (by simp [hy]))]

theorem pl_operator (n fuel : Nat) (pre : Sep) (hp : SepOk pre) (op : Str) (hop : OpName op) (T : Str)
    (hT : Terminated T) (stack : List Obj) (ops : List CS.Operation) :
    CS.parseLoop (n + 1) fuel (renderSep pre ++ (op ++ T)) stack ops =
      CS.parseLoop n fuel T [] (ops ++ [{ op := op, operands := stack }]) := by
  obtain ⟨⟨c, r, rfl, hc, hr⟩, hk⟩ := hop
  obtain ⟨hc0, hc1⟩ := opStart_facts c hc
  have hreg : ∀ x ∈ c :: r, (isWs x || isDelim x) = false := by
    intro x hx
    rcases List.mem_cons.1 hx with rfl | hx
    · exact opChar_regular _ hc1
    · exact opChar_regular _ (hr x hx)
  have hcr := hreg c (by simp)
  simp only [Bool.or_eq_false_iff] at hcr
  have h37 : c ≠ 37 := by
    intro h; subst h; revert hcr; decide
  have hs : CS.skipSpace (renderSep pre ++ (c :: r ++ T)) = c :: (r ++ T) :=
    skip_render pre hp c _ hcr.1 h37
  have hname : CS.opName false (c :: (r ++ T)) = (c :: r, T) := by
    simp only [CS.opName, hc0, if_true, opName_tail r T hr hT]
  have htok : CS.regularToken (c :: (r ++ T)) = c :: r := regularToken_append (c :: r) T hreg hT
  have hb : ((CS.isLetter c && !CS.isKeywordObject (CS.regularToken (c :: (r ++ T)))) || c = 39 || c = 34) = true := by
    rw [htok, hk]
    rcases hc with h | rfl | rfl
    · simp [h]
    · decide
    · decide
  rw [CS.parseLoop, hs]
  simp only [hb, if_true, hname]
  simp

theorem pl_end (n fuel : Nat) (trail : Sep) (ht : SepOk trail) (stack : List Obj) (ops : List CS.Operation) :
    CS.parseLoop (n + 1) fuel (renderSep trail) stack ops = some ops := by
  have : CS.skipSpace (renderSep trail) = [] := by
    have := skipSpace_sep trail ht []
    rw [List.append_nil] at this
    rw [this, Prog.skipSpace_nil]
  rw [CS.parseLoop, this]

/-- the operands in front of an operator: one that nests too deep stops the whole `Parse` -/
theorem pl_operands (xs : List SObj) (need : Bool) (T : Str) (fuel m : Nat) (stack : List Obj)
    (ops : List CS.Operation) (hv : ValidList need xs) (hnr : noRefList xs = true)
    (hsz : ∀ x ∈ xs, x.size ≤ fuel)
    (hT : lastEndsRegular need xs = true → Terminated T) :
    CS.parseLoop (xs.length + m) fuel (renderList xs ++ T) stack ops =
      if sdepthList xs ≤ maxNestingDepth then CS.parseLoop m fuel T (stack ++ valueList xs) ops
      else none := by
  induction xs generalizing need stack with
  | nil => simp [renderList, valueList, sdepthList]
  | cons x xs ih =>
    simp only [ValidList] at hv
    simp only [noRefList, Bool.and_eq_true] at hnr
    simp only [lastEndsRegular] at hT
    have hrest : x.endsRegular = true → Terminated (renderList xs ++ T) := by
      intro he
      rw [he] at hv hT
      exact terminated_list xs hv.2 T hT
    obtain ⟨c, r, hs, _, hb⟩ := head_cases x need hv.1 hnr.1 _ hrest
    have e : (x :: xs).length + m = (xs.length + m) + 1 := by simp only [List.length_cons]; omega
    simp only [renderList, List.append_assoc, valueList, sdepthList, Nat.max_le]
    rw [e, pl_operand _ fuel _ stack ops c r hs hb,
      op_run x need _ fuel 0 hv.1 hnr.1 (hsz x (by simp)) (Nat.zero_le _) hrest, Nat.zero_add]
    by_cases hfit : x.depth ≤ maxNestingDepth
    · rw [if_pos hfit, Option.bind_some,
        ih x.endsRegular (stack ++ [x.value]) hv.2 hnr.2 (fun y hy => hsz y (by simp [hy])) hT]
      simp only [hfit, true_and, List.append_assoc, List.singleton_append]
    · rw [if_neg hfit, Option.bind_none, if_neg (fun h => hfit h.1)]

def countOps : List SOp → Nat
  | [] => 0
  | o :: os => o.operands.length + 1 + countOps os

theorem terminated_ops (os : List SOp) (trail : Sep) (hv : ValidOps true os) (ht : SepOk trail) :
    Terminated (renderOps os ++ renderSep trail) := by
  cases os with
  | nil => exact Prs.term_trail trail ht
  | cons o os =>
    obtain ⟨h1, h2, h3, h4, _, _⟩ := hv
    simp only [renderOps, SOp.render, List.append_assoc]
    exact terminated_list o.operands h1 _ (fun h => sep_terminated o.pre _ h3 (h4 h))

/-- a spelled program: every operator takes the operands written in front of it, and one operand that
nests too deep stops the whole `Parse` -/
theorem pl_ops (os : List SOp) (need : Bool) (trail : Sep) (fuel m : Nat) (acc : List CS.Operation)
    (hv : ValidOps need os) (ht : SepOk trail) (hsz : ∀ o ∈ os, ∀ x ∈ o.operands, x.size ≤ fuel) :
    CS.parseLoop (countOps os + (m + 1)) fuel (renderOps os ++ renderSep trail) [] acc =
      if ∀ o ∈ os, sdepthList o.operands ≤ maxNestingDepth then
        some (acc ++ os.map fun o => { op := o.op, operands := valueList o.operands })
      else none := by
  induction os generalizing need acc with
  | nil =>
    simp only [countOps, Nat.zero_add, renderOps, List.nil_append, List.map_nil, List.append_nil]
    rw [if_pos (fun o ho => nomatch ho)]
    exact pl_end m fuel trail ht [] acc
  | cons o os ih =>
    obtain ⟨h1, h2, h3, h4, h5, h6⟩ := hv
    have hT := terminated_ops os trail h6 ht
    have e : countOps (o :: os) + (m + 1) = o.operands.length + ((countOps os + (m + 1)) + 1) := by
      simp only [countOps]; omega
    simp only [renderOps, SOp.render, List.append_assoc, List.forall_mem_cons]
    rw [e, pl_operands o.operands need _ fuel _ [] acc h1 h2 (hsz o (by simp))
      (fun h => sep_terminated o.pre _ h3 (h4 h))]
    by_cases hx : sdepthList o.operands ≤ maxNestingDepth
    · rw [if_pos hx, pl_operator _ fuel o.pre h3 o.op h5 _ hT,
        ih true _ h6 (fun o' ho' => hsz o' (by simp [ho']))]
      simp only [hx, true_and, List.nil_append, List.map_cons, List.append_assoc, List.singleton_append]
    · rw [if_neg hx, if_neg (fun h => hx h.1)]

theorem validOps_mem (os : List SOp) (need : Bool) (hv : ValidOps need os) (o : SOp) (ho : o ∈ os) :
    ∃ n, ValidList n o.operands := by
  induction os generalizing need with
  | nil => cases ho
  | cons p ps ih =>
    rcases List.mem_cons.1 ho with rfl | ho
    · exact ⟨need, hv.1⟩
    · exact ih true hv.2.2.2.2.2 ho

theorem sizeList_le (xs : List SObj) : sizeList xs ≤ 3 * (renderList xs).length :=
  Prs.sizeList_le xs

theorem mem_size (xs : List SObj) (x : SObj) (h : x ∈ xs) : x.size ≤ 3 * (renderList xs).length := by
  induction xs with
  | nil => cases h
  | cons y ys ih =>
    simp only [renderList, List.length_append]
    rcases List.mem_cons.1 h with rfl | h
    · have := Prs.size_le x; omega
    · have := ih h; omega

theorem mem_ops_size (os : List SOp) (o : SOp) (ho : o ∈ os) (x : SObj) (hx : x ∈ o.operands) :
    x.size ≤ 3 * (renderOps os).length := by
  induction os with
  | nil => cases ho
  | cons p ps ih =>
    simp only [renderOps, SOp.render, List.length_append]
    rcases List.mem_cons.1 ho with rfl | ho
    · have := mem_size o.operands x hx; omega
    · have := ih ho; omega

theorem countOps_le (os : List SOp) (need : Bool) (hv : ValidOps need os) :
    countOps os ≤ (renderOps os).length := by
  induction os generalizing need with
  | nil => simp [countOps]
  | cons o os ih =>
    obtain ⟨_, _, _, _, h5, h6⟩ := hv
    obtain ⟨⟨c, r, hop, _⟩, _⟩ := h5
    have h1 := Prs.length_le o.operands
    have h2 := ih true h6
    simp only [countOps, renderOps, SOp.render, List.length_append, hop, List.length_cons]; omega

end CSL

/-- one operand, any legal spelling, nested at most as deep as `p.depth` leaves room for -/
theorem cs_operand_roundtrip (so : SObj) (need : Bool) (rest : Str) (f d : Nat)
    (hv : so.Valid need) (hnr : so.noRef = true) (hf : so.size ≤ f)
    (hd : d + so.value.depth ≤ maxNestingDepth)
    (hrest : so.endsRegular = true → Terminated rest) :
    CS.parseOperand f d (so.render ++ rest) = some (so.value, rest) := by
  rw [value_depth so need hv] at hd
  exact CSL.op_rt so need rest f d hv hnr hf hd hrest

/-- … and one that needs more open containers than the limit allows is an error -/
theorem cs_operand_too_deep (so : SObj) (need : Bool) (rest : Str) (f d : Nat)
    (hv : so.Valid need) (hnr : so.noRef = true) (hf : so.size ≤ f)
    (hd : d ≤ maxNestingDepth) (hdeep : maxNestingDepth < d + so.value.depth)
    (hrest : so.endsRegular = true → Terminated rest) :
    CS.parseOperand f d (so.render ++ rest) = none := by
  rw [value_depth so need hv] at hdeep
  rw [CSL.op_run so need rest f d hv hnr hf hd hrest, if_neg (by omega)]

/-- `Parse` on a spelled program is `parseLoop` with one round per token and one to spare, and its
fuel covers every operand -/
theorem csParse_spelled (ops : List SOp) (trail : Sep) (hv : ValidOps false ops) :
    ∃ m fuel, CS.csParse (renderOps ops ++ renderSep trail) =
        CS.parseLoop (CSL.countOps ops + (m + 1)) fuel (renderOps ops ++ renderSep trail) [] [] ∧
      ∀ o ∈ ops, ∀ x ∈ o.operands, x.size ≤ fuel := by
  have hc := CSL.countOps_le ops false hv
  refine ⟨(renderOps ops ++ renderSep trail).length + 1 - CSL.countOps ops,
    CS.fuelFor (renderOps ops ++ renderSep trail), ?_, ?_⟩
  · unfold CS.csParse
    congr 1
    simp only [List.length_append]; omega
  · intro o ho x hx
    have := CSL.mem_ops_size ops o ho x hx
    simp only [CS.fuelFor, List.length_append]; omega

/-- a whole program whose operands nest at most `maxNestingDepth` deep: operands are grouped with
the operator that follows them -/
theorem cs_roundtrip (ops : List SOp) (trail : Sep) (hv : ValidOps false ops) (ht : SepOk trail)
    (hd : ∀ o ∈ ops, Obj.depthList (valueList o.operands) ≤ maxNestingDepth) :
    CS.csParse (renderOps ops ++ renderSep trail) =
      some (ops.map fun o => { op := o.op, operands := valueList o.operands }) := by
  obtain ⟨m, fuel, e, hsz⟩ := csParse_spelled ops trail hv
  rw [e, CSL.pl_ops ops false trail fuel m [] hv ht hsz, if_pos, List.nil_append]
  intro o ho
  obtain ⟨n, hn⟩ := CSL.validOps_mem ops false hv o ho
  rw [← valueList_depth o.operands n hn]
  exact hd o ho

/-- a whole program one of whose operands nests deeper than `maxNestingDepth`: `Parse` fails -/
theorem cs_too_deep (ops : List SOp) (trail : Sep) (hv : ValidOps false ops) (ht : SepOk trail)
    (hd : ∃ o ∈ ops, maxNestingDepth < Obj.depthList (valueList o.operands)) :
    CS.csParse (renderOps ops ++ renderSep trail) = none := by
  obtain ⟨m, fuel, e, hsz⟩ := csParse_spelled ops trail hv
  obtain ⟨o, ho, hdo⟩ := hd
  obtain ⟨n, hn⟩ := CSL.validOps_mem ops false hv o ho
  rw [valueList_depth o.operands n hn] at hdo
  rw [e, CSL.pl_ops ops false trail fuel m [] hv ht hsz, if_neg fun h => Nat.not_le.2 hdo (h o ho)]

theorem nestArr_noRef (k : Nat) (so : SObj) (h : so.noRef = true) : (nestArr k so).noRef = true := by
  induction k with
  | zero => exact h
  | succ k ih => simp [nestArr, SObj.noRef, noRefList, ih]

theorem nestDict_noRef (k : Nat) (so : SObj) (h : so.noRef = true) : (nestDict k so).noRef = true := by
  induction k with
  | zero => exact h
  | succ k ih => simp [nestDict, SObj.noRef, noRefList, ih]

end Tabula.Pdf
