import TabulaModel.Model.HtmlApi
/-!
Helper lemmas for the depth limit of `htmldoc.OpenReader` (C19, Props/C19Api.lean):
`treeDeeperThan` against the height of the tree, `guarded`, the levels of the nodes of an
admitted tree, nested chains as edge witnesses.
-/
namespace Tabula.Html

/-! ### the iterative walk computes the height -/

mutual
theorem deeper_iff (limit : Nat) : ∀ (n : Dom) (d : Nat), d ≤ limit →
    (deeper limit d n = true ↔ limit < d + depth n)
  | .elem _ _ kids, d, h => by
      rw [deeper, depth]; exact deeperL_iff limit kids d h
  | .other kids, d, h => by
      rw [deeper, depth]; exact deeperL_iff limit kids d h
  | .text _, d, h => by
      simp only [deeper, depth]
      constructor
      · intro x; cases x
      · intro x; omega
theorem deeperL_iff (limit : Nat) : ∀ (ks : List Dom) (d : Nat), d ≤ limit →
    (deeperL limit d ks = true ↔ limit < d + depthL ks)
  | [], d, h => by
      simp only [deeperL, depthL]
      constructor
      · intro x; cases x
      · intro x; omega
  | k :: ks, d, h => by
      have ihs := deeperL_iff limit ks d h
      simp only [deeperL, depthL, Bool.or_eq_true, decide_eq_true_eq]
      by_cases h1 : d + 1 > limit
      · exact ⟨fun _ => by omega, fun _ => Or.inl (Or.inl h1)⟩
      · rw [deeper_iff limit k (d + 1) (by omega), ihs]
        omega
end

/-- `treeDeeperThan(root, limit)` answers whether the height of the tree (edges from the root to
its deepest node) exceeds the limit: strictly greater, a tree of height exactly `limit` passes -/
theorem treeDeeperThan_iff (doc : Dom) (limit : Nat) : treeDeeperThan doc limit = true ↔ limit < depth doc := by
  unfold treeDeeperThan
  rw [deeper_iff limit doc 0 (Nat.zero_le _)]
  simp

theorem treeDeeperThan_eq (doc : Dom) (limit : Nat) : treeDeeperThan doc limit = decide (limit < depth doc) := by
  rw [Bool.eq_iff_iff, treeDeeperThan_iff, decide_eq_true_iff]

/-- the trees `OpenReader` admits, said with the height -/
def admitted (doc : Dom) : Bool := decide (depth doc ≤ maxTreeDepth)

theorem guarded_eq {α : Type} (doc : Dom) (x : α) : guarded doc x = if admitted doc then some x else none := by
  unfold guarded admitted
  rw [treeDeeperThan_eq]
  by_cases h : depth doc ≤ maxTreeDepth
  · simp [h, Nat.not_lt.mpr h]
  · simp [h, Nat.lt_of_not_le h]

theorem guarded_within {α : Type} (doc : Dom) (x : α) (h : depth doc ≤ maxTreeDepth) : guarded doc x = some x := by
  rw [guarded_eq, admitted, decide_eq_true h]; rfl

theorem guarded_beyond {α : Type} (doc : Dom) (x : α) (h : maxTreeDepth < depth doc) : guarded doc x = none := by
  rw [guarded_eq, admitted, decide_eq_false (Nat.not_le.mpr h)]; rfl

theorem guarded_eq_none_iff {α : Type} (doc : Dom) (x : α) : guarded doc x = none ↔ maxTreeDepth < depth doc :=
  ⟨fun h => Nat.lt_of_not_le fun hd => (by rw [guarded_within doc x hd] at h; cases h), guarded_beyond doc x⟩

theorem guarded_eq_some {α : Type} (doc : Dom) (x y : α) (h : guarded doc x = some y) :
    depth doc ≤ maxTreeDepth ∧ y = x := by
  by_cases hd : depth doc ≤ maxTreeDepth
  · rw [guarded_within doc x hd] at h
    exact ⟨hd, (Option.some.inj h).symm⟩
  · rw [guarded_beyond doc x (by omega)] at h
    cases h

/-! ### every node of an admitted tree sits at a level of at most the limit -/

mutual
/-- every node below (and including) a node at level `l`, with its level: the number of frames a
walk that recurses once per child level has open when it visits the node, less one -/
def nodesAt : Nat → Dom → List (Nat × Dom)
  | l, .elem t a kids => (l, .elem t a kids) :: nodesAtL (l + 1) kids
  | l, .other kids => (l, .other kids) :: nodesAtL (l + 1) kids
  | l, .text s => [(l, .text s)]
def nodesAtL : Nat → List Dom → List (Nat × Dom)
  | _, [] => []
  | l, k :: ks => nodesAt l k ++ nodesAtL l ks
end

mutual
theorem nodesAt_level : ∀ (n : Dom) (l : Nat) (x : Nat × Dom), x ∈ nodesAt l n → x.1 + depth x.2 ≤ l + depth n
  | .elem t a kids, l, x, h => by
      rw [nodesAt, List.mem_cons] at h
      rcases h with h | h
      · subst h; exact Nat.le_refl _
      · have := nodesAtL_level kids (l + 1) x h
        rw [depth]
        cases kids with
        | nil => rw [nodesAtL] at h; cases h
        | cons k ks => omega
  | .other kids, l, x, h => by
      rw [nodesAt, List.mem_cons] at h
      rcases h with h | h
      · subst h; exact Nat.le_refl _
      · have := nodesAtL_level kids (l + 1) x h
        rw [depth]
        cases kids with
        | nil => rw [nodesAtL] at h; cases h
        | cons k ks => omega
  | .text s, l, x, h => by
      rw [nodesAt, List.mem_singleton] at h
      subst h; exact Nat.le_refl _
/-- for the children of a node: level + height ≤ (level of the children − 1) + height of the parent -/
theorem nodesAtL_level : ∀ (ks : List Dom) (l : Nat) (x : Nat × Dom), x ∈ nodesAtL l ks →
    x.1 + depth x.2 + 1 ≤ l + depthL ks
  | [], _, x, h => by rw [nodesAtL] at h; cases h
  | k :: ks, l, x, h => by
      rw [nodesAtL, List.mem_append] at h
      rw [depthL]
      rcases h with h | h
      · have := nodesAt_level k l x h
        omega
      · have := nodesAtL_level ks l x h
        omega
end

/-! ### body is a subtree -/

mutual
theorem findBody_depth : ∀ (n b : Dom), findBody n = some b → depth b ≤ depth n
  | .elem tag attrs kids, b, h => by
      rw [findBody] at h
      split at h
      · cases h; exact Nat.le_refl _
      · have := findBodyL_depth kids b h
        rw [depth]; omega
  | .other kids, b, h => by
      rw [findBody] at h
      have := findBodyL_depth kids b h
      rw [depth]; omega
  | .text _, b, h => by rw [findBody] at h; cases h
theorem findBodyL_depth : ∀ (ks : List Dom) (b : Dom), findBodyL ks = some b → depth b + 1 ≤ depthL ks
  | [], b, h => by rw [findBodyL] at h; cases h
  | k :: ks, b, h => by
      rw [findBodyL] at h
      rw [depthL]
      split at h
      · rename_i b' hk
        cases h
        have := findBody_depth k b hk
        omega
      · have := findBodyL_depth ks b h
        omega
end

/-- the subtree the extraction walks (`body`, or the document when there is none) is no deeper
than the document -/
theorem bodyOf_depth_le (doc : Dom) : depth (bodyOf doc) ≤ depth doc := by
  unfold bodyOf
  cases h : findBody doc with
  | none => exact Nat.le_refl _
  | some b => exact findBody_depth doc b h

/-! ### edge witnesses: `n` elements nested in each other around a node -/

/-- `<tag><tag>…t…</tag></tag>`, `n` deep -/
def nest (tag : Str) : Nat → Dom → Dom
  | 0, t => t
  | n + 1, t => .elem tag [] [nest tag n t]

theorem depth_nest (tag : Str) (t : Dom) : ∀ n, depth (nest tag n t) = n + depth t
  | 0 => by simp [nest]
  | n + 1 => by
      rw [nest, depth, depthL, depthL, depth_nest tag t n]
      simp; omega

/-- document → html → body → p → `n` nested spans → one text node: height `n + 4` -/
def nestedDoc (n : Nat) (s : Str) : Dom :=
  .other [.elem [104, 116, 109, 108] [] [.elem T.body [] [.elem T.p [] [nest [115, 112, 97, 110] n (.text s)]]]]

theorem depth_nestedDoc (n : Nat) (s : Str) : depth (nestedDoc n s) = n + 4 := by
  simp only [nestedDoc, depth, depthL, depth_nest]
  simp

end Tabula.Html
