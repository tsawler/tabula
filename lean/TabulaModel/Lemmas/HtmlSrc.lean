import TabulaModel.Lemmas.HtmlText
import TabulaModel.Lemmas.Traverse
/-!
Lemmas about the source text `src` (Model/HtmlSpec.lean): up to white space it is the text the atoms
carry; two predicates that agree on a subtree give the same source text; every character of it is a
character of a text node below, so blank text nodes give a blank source text.  Used by
Props/C19Text.lean and Lemmas/HtmlLost.lean.
-/
namespace Tabula.Html

theorem cells_flatMap_text (l : List Cell) :
    (l.map Atom.cell).flatMap Atom.text = (l.map (·.text)).flatten :=
  (List.flatMap_map ..).trans List.flatMap_def

/-! ### atoms against the source text -/

theorem opt_atom_text (mk : Str → Atom) (hmk : ∀ t, (mk t).text = t) (t : Str) :
    squeeze ((if (t != []) = true then [mk t] else []).flatMap Atom.text) = squeeze t := by
  by_cases h : t = []
  · simp [h]
  · simp [h, hmk]

theorem trimmed_text_cond (e : Dom) :
    (trim (getTextContent e) != []) = (squeeze (tnFlat e) != []) := by
  rw [Bool.eq_iff_iff, bne_iff_ne, bne_iff_ne, ne_eq, ne_eq, trim_eq_nil_iff, squeeze_getTextContent]

theorem squeeze_trimmed_text (e : Dom) : squeeze (trim (getTextContent e)) = squeeze (tnFlat e) := by
  rw [squeeze_trim, squeeze_getTextContent]

theorem runAtoms_text (run : Str) : squeeze ((runAtoms run).flatMap Atom.text) = squeeze run := by
  unfold runAtoms
  rw [opt_atom_text Atom.para (fun _ => rfl), squeeze_trim]

mutual
/-- Up to white space, the text the atoms of a subtree carry is the source text of the subtree. -/
theorem atoms_src (p : Pos → Dom → Bool) (w : Bool) :
    ∀ (t : Dom) (pos : Pos) (lc : LC),
      squeeze ((atoms p w pos lc t).flatMap Atom.text) = squeeze (src p w pos t)
  | .text _, pos, lc => by simp [atoms, src]
  | .other kids, pos, lc => by
      simp only [atoms, src]; exact atomsL_src p w kids _ lc
  | .elem tag attrs kids, pos, lc => by
      unfold atoms src
      by_cases hs : isSkip tag = true
      · simp [hs]
      · by_cases hp : p pos (.elem tag attrs kids) = true
        · simp [hs, hp]
        · have hs' : isSkip tag = false := by simpa using hs
          have hflat : tnFlat (.elem tag attrs kids) = tnFlatL kids := tnFlat_elem tag attrs kids hs'
          simp only [hs, hp, if_false, Bool.false_eq_true]
          cases hc : classify tag with
          | heading lvl =>
            simp only []
            rw [opt_atom_text (Atom.heading lvl) (fun _ => rfl), squeeze_trimmed_text, hflat]
          | pdiv isP =>
            simp only []
            rw [trimmed_text_cond, hflat]
            by_cases hcnd : (squeeze (tnFlatL kids) != [] && !isBlockContainer kids) = true
            · simp only [hcnd, if_true]
              simp only [List.flatMap_cons, List.flatMap_nil, List.append_nil, Atom.text]
              rw [squeeze_trimmed_text, hflat]
            · simp only [hcnd, if_false, Bool.false_eq_true]
              have := atomsM_src p w kids (pos.kid w tag) lc []
              simpa [squeeze_nil] using this
          | list ord =>
            simp only []
            exact atomsL_src p w kids _ _
          | li =>
            simp only []
            rw [List.flatMap_append, squeeze_append, squeeze_append,
              opt_atom_text (Atom.item lc.enter.level) (fun _ => rfl), squeeze_getDirectTextContent,
              atomsLi_src p w kids _ _]
          | table =>
            simp only []
            rw [cells_flatMap_text, parseTable_texts, squeeze_cellTexts]
          | code =>
            simp only []
            rw [opt_atom_text Atom.code (fun _ => rfl), squeeze_getTextContent, hflat]
          | quote =>
            simp only []
            rw [opt_atom_text Atom.quote (fun _ => rfl), squeeze_trimmed_text, hflat]
          | void => simp
          | other =>
            simp only []
            exact atomsL_src p w kids _ lc
theorem atomsL_src (p : Pos → Dom → Bool) (w : Bool) :
    ∀ (ts : List Dom) (kp : Pos) (lc : LC),
      squeeze ((atomsL p w kp lc ts).flatMap Atom.text) = squeeze (srcL p w kp ts)
  | [], kp, lc => by simp [atomsL, srcL]
  | k :: ks, kp, lc => by
      simp only [atomsL, srcL, List.flatMap_append, squeeze_append,
        atoms_src p w k kp lc, atomsL_src p w ks kp lc]
theorem atomsLi_src (p : Pos → Dom → Bool) (w : Bool) :
    ∀ (ts : List Dom) (kp : Pos) (lc : LC),
      squeeze ((atomsLi p w kp lc ts).flatMap Atom.text) = squeeze (srcLi p w kp ts)
  | [], kp, lc => by simp [atomsLi, srcLi]
  | k :: ks, kp, lc => by
      simp only [atomsLi, srcLi, List.flatMap_append, squeeze_append, atomsLi_src p w ks kp lc]
      congr 1
      split
      · exact atoms_src p w k kp lc
      · rfl
theorem atomsM_src (p : Pos → Dom → Bool) (w : Bool) :
    ∀ (ts : List Dom) (kp : Pos) (lc : LC) (run : Str),
      squeeze ((atomsM p w kp lc ts run).flatMap Atom.text) = squeeze run ++ squeeze (srcM p w kp ts)
  | [], kp, lc, run => by simp [atomsM, srcM, runAtoms_text, squeeze_nil]
  | k :: ks, kp, lc, run => by
      simp only [atomsM, srcM]
      by_cases hk : isInline k = true
      · simp only [hk, if_true]
        rw [atomsM_src p w ks kp lc _, squeeze_append, squeeze_append, squeeze_textRec, List.append_assoc]
      · simp only [hk, if_false, Bool.false_eq_true]
        rw [List.flatMap_append, List.flatMap_append, squeeze_append, squeeze_append, squeeze_append,
          runAtoms_text, atoms_src p w k kp lc, atomsM_src p w ks kp lc []]
        simp [List.append_assoc, squeeze_nil]
end

/-! ### the source text outside an excluded subtree -/

mutual
theorem src_agree (p q : Pos → Dom → Bool) (w : Bool) :
    ∀ (t : Dom) (pos : Pos), agree p q w pos t → src q w pos t = src p w pos t
  | .text _, pos, _ => by simp [src]
  | .other kids, pos, h => by
      simp only [src]
      exact srcL_agree p q w kids _ (by simpa [agree] using h)
  | .elem tag attrs kids, pos, h => by
      have h' : p pos (.elem tag attrs kids) = q pos (.elem tag attrs kids) ∧ agreeL p q w (pos.kid w tag) kids := by
        simpa [agree] using h
      unfold src
      rw [h'.1]
      by_cases hs : isSkip tag = true
      · simp [hs]
      · by_cases hq : q pos (.elem tag attrs kids) = true
        · simp [hs, hq]
        · simp only [hs, hq, if_false, Bool.false_eq_true]
          cases classify tag with
          | pdiv isP =>
            simp only []
            split
            · rfl
            · exact srcM_agree p q w kids _ h'.2
          | list ord => exact srcL_agree p q w kids _ h'.2
          | li => simp only []; rw [srcLi_agree p q w kids _ h'.2]
          | other => exact srcL_agree p q w kids _ h'.2
          | _ => rfl
theorem srcL_agree (p q : Pos → Dom → Bool) (w : Bool) :
    ∀ (ts : List Dom) (kp : Pos), agreeL p q w kp ts → srcL q w kp ts = srcL p w kp ts
  | [], kp, _ => by simp [srcL]
  | k :: ks, kp, h => by
      have h' : agree p q w kp k ∧ agreeL p q w kp ks := by simpa [agreeL] using h
      simp only [srcL]
      rw [src_agree p q w k kp h'.1, srcL_agree p q w ks kp h'.2]
theorem srcLi_agree (p q : Pos → Dom → Bool) (w : Bool) :
    ∀ (ts : List Dom) (kp : Pos), agreeL p q w kp ts → srcLi q w kp ts = srcLi p w kp ts
  | [], kp, _ => by simp [srcLi]
  | k :: ks, kp, h => by
      have h' : agree p q w kp k ∧ agreeL p q w kp ks := by simpa [agreeL] using h
      simp only [srcLi]
      rw [src_agree p q w k kp h'.1, srcLi_agree p q w ks kp h'.2]
theorem srcM_agree (p q : Pos → Dom → Bool) (w : Bool) :
    ∀ (ts : List Dom) (kp : Pos), agreeL p q w kp ts → srcM q w kp ts = srcM p w kp ts
  | [], kp, _ => by simp [srcM]
  | k :: ks, kp, h => by
      have h' : agree p q w kp k ∧ agreeL p q w kp ks := by simpa [agreeL] using h
      simp only [srcM]
      rw [src_agree p q w k kp h'.1, srcM_agree p q w ks kp h'.2]
end

theorem srcL_append (p : Pos → Dom → Bool) (w : Bool) (kp : Pos) (a b : List Dom) :
    srcL p w kp (a ++ b) = srcL p w kp a ++ srcL p w kp b := by
  induction a with
  | nil => simp [srcL]
  | cons k ks ih => simp [srcL, ih, List.append_assoc]

theorem srcM_append (p : Pos → Dom → Bool) (w : Bool) (kp : Pos) (a b : List Dom) :
    srcM p w kp (a ++ b) = srcM p w kp a ++ srcM p w kp b := by
  induction a with
  | nil => simp [srcM]
  | cons k ks ih => simp [srcM, ih, List.append_assoc]

/-! ### every character of the source text is a character of a text node below -/

theorem mem_tnFlat_elem {c : Nat} {tag : Str} {attrs : List (Str × Str)} {kids : List Dom}
    (hs : isSkip tag = false) (h : c ∈ tnFlatL kids) : c ∈ tnFlat (.elem tag attrs kids) := by
  rw [tnFlat_elem tag attrs kids hs]; exact h

theorem directSrc_sublist (k : Dom) : (directSrc k).Sublist (tnFlat k) := by
  cases k with
  | text s => exact .refl _
  | other ks => exact List.nil_sublist _
  | elem tag attrs kids =>
    simp only [directSrc]
    split
    · exact List.nil_sublist _
    · exact .refl _

theorem flatMap_directSrc_sublist (kids : List Dom) : (kids.flatMap directSrc).Sublist (tnFlatL kids) :=
  tnFlatL_eq_flatMap kids ▸ List.flatMap_sublist_flatMap fun k _ => directSrc_sublist k

theorem rowCells_sublist (ks : List Dom) : ((rowCellNodes ks).flatMap tnFlat).Sublist (tnFlatL ks) :=
  tnFlatL_eq_flatMap ks ▸ List.Sublist.flatMap _ List.filter_sublist

theorem sectionCells_sublist : ∀ ks : List Dom, ((sectionCellNodes ks).flatMap tnFlat).Sublist (tnFlatL ks)
  | [] => .refl _
  | .text s :: rest => (sectionCells_sublist rest).trans (List.sublist_append_right _ _)
  | .other o :: rest => (sectionCells_sublist rest).trans (List.sublist_append_right _ _)
  | .elem tag attrs kk :: rest => by
      rw [sectionCellNodes, List.flatMap_append, tnFlatL]
      refine .append ?_ (sectionCells_sublist rest)
      split
      · rename_i ht; subst ht
        exact tnFlat_elem T.tr attrs kk (by decide) ▸ rowCells_sublist kk
      · exact List.nil_sublist _

theorem tableCells_sublist : ∀ ks : List Dom, ((tableCellNodes ks).flatMap tnFlat).Sublist (tnFlatL ks)
  | [] => .refl _
  | .text s :: rest => (tableCells_sublist rest).trans (List.sublist_append_right _ _)
  | .other o :: rest => (tableCells_sublist rest).trans (List.sublist_append_right _ _)
  | .elem tag attrs kk :: rest => by
      rw [tableCellNodes, List.flatMap_append, tnFlatL]
      refine .append ?_ (tableCells_sublist rest)
      split
      · rename_i h1
        have hs : isSkip tag = false := by rcases h1 with e | e | e <;> (subst e; decide)
        exact tnFlat_elem tag attrs kk hs ▸ sectionCells_sublist kk
      · split
        · rename_i ht; subst ht
          exact tnFlat_elem T.tr attrs kk (by decide) ▸ rowCells_sublist kk
        · exact List.nil_sublist _

mutual
theorem src_mem (p : Pos → Dom → Bool) (w : Bool) {c : Nat} :
    ∀ (t : Dom) (pos : Pos), c ∈ src p w pos t → c ∈ tnFlat t
  | .text _, pos, h => by simp [src] at h
  | .other kids, pos, h => by
      simp only [src] at h
      simp only [tnFlat]
      exact srcL_mem p w kids _ h
  | .elem tag attrs kids, pos, h => by
      unfold src at h
      by_cases hs : isSkip tag = true
      · simp [hs] at h
      · by_cases hp : p pos (.elem tag attrs kids) = true
        · simp [hs, hp] at h
        · have hs' : isSkip tag = false := by simpa using hs
          apply mem_tnFlat_elem hs'
          simp only [hs, hp, if_false, Bool.false_eq_true] at h
          split at h
          · exact h
          · split at h
            · exact h
            · exact srcM_mem p w kids _ h
          · exact srcL_mem p w kids _ h
          · rw [List.mem_append] at h
            rcases h with h | h
            · exact (flatMap_directSrc_sublist kids).subset h
            · exact srcLi_mem p w kids _ h
          · exact (tableCells_sublist kids).subset h
          · exact h
          · exact h
          · cases h
          · exact srcL_mem p w kids _ h
theorem srcL_mem (p : Pos → Dom → Bool) (w : Bool) {c : Nat} :
    ∀ (ts : List Dom) (kp : Pos), c ∈ srcL p w kp ts → c ∈ tnFlatL ts
  | [], kp, h => by simp [srcL] at h
  | k :: ks, kp, h => by
      simp only [srcL, List.mem_append] at h
      simp only [tnFlatL, List.mem_append]
      rcases h with h | h
      · exact Or.inl (src_mem p w k kp h)
      · exact Or.inr (srcL_mem p w ks kp h)
theorem srcLi_mem (p : Pos → Dom → Bool) (w : Bool) {c : Nat} :
    ∀ (ts : List Dom) (kp : Pos), c ∈ srcLi p w kp ts → c ∈ tnFlatL ts
  | [], kp, h => by simp [srcLi] at h
  | k :: ks, kp, h => by
      simp only [srcLi, List.mem_append] at h
      simp only [tnFlatL, List.mem_append]
      rcases h with h | h
      · split at h
        · exact Or.inl (src_mem p w k kp h)
        · cases h
      · exact Or.inr (srcLi_mem p w ks kp h)
theorem srcM_mem (p : Pos → Dom → Bool) (w : Bool) {c : Nat} :
    ∀ (ts : List Dom) (kp : Pos), c ∈ srcM p w kp ts → c ∈ tnFlatL ts
  | [], kp, h => by simp [srcM] at h
  | k :: ks, kp, h => by
      simp only [srcM, List.mem_append] at h
      simp only [tnFlatL, List.mem_append]
      rcases h with h | h
      · split at h
        · exact Or.inl h
        · exact Or.inl (src_mem p w k kp h)
      · exact Or.inr (srcM_mem p w ks kp h)
end

/-- a subtree whose text nodes are blank has a blank source text -/
theorem src_blank (p : Pos → Dom → Bool) (w : Bool) (t : Dom) (pos : Pos)
    (h : squeeze (tnFlat t) = []) : squeeze (src p w pos t) = [] := by
  rw [squeeze_nil_iff] at h ⊢
  exact fun c hc => h c (src_mem p w t pos hc)

theorem srcL_blank (p : Pos → Dom → Bool) (w : Bool) (ts : List Dom) (kp : Pos)
    (h : squeeze (tnFlatL ts) = []) : squeeze (srcL p w kp ts) = [] := by
  rw [squeeze_nil_iff] at h ⊢
  exact fun c hc => h c (srcL_mem p w ts kp hc)

theorem srcM_blank (p : Pos → Dom → Bool) (w : Bool) (ts : List Dom) (kp : Pos)
    (h : squeeze (tnFlatL ts) = []) : squeeze (srcM p w kp ts) = [] := by
  rw [squeeze_nil_iff] at h ⊢
  exact fun c hc => h c (srcM_mem p w ts kp hc)

end Tabula.Html
