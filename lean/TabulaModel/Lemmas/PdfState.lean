import TabulaModel.Model.Spell
/-! The two-token window of `core.Parser` (`currentToken`, `peekToken`) as a function of the unread
bytes: `stateAt inp` is the parser state `NewParser` builds on `inp`; it sees `inp` only through its first
token that is not a comment (`tok`) and what that leaves unread, and advancing it by one token is the state
built on what the first token leaves unread. -/
namespace Tabula.Pdf

/-- the parser state on the bytes `inp` (both lookahead tokens loaded) -/
def stateAt (inp : Str) : PState := newParser inp

/-- the state after the first `nextToken` call of `NewParser` -/
def half (inp : Str) : PState := PState.next { cur := none, peek := none, inp := inp, err := false }

theorem stateAt_def (inp : Str) : stateAt inp = (half inp).next := rfl

/-- the first token of `inp` that is not a comment, with the fuel `(*Parser).nextToken` is modelled
with -/
def Prog.tok (inp : Str) : Option (Token × Str) := lexSkip (inp.length + 1) inp

open Prog (tok)

theorem half_cur (inp : Str) : (half inp).cur = none := by
  unfold half PState.next
  simp only [reduceCtorEq, if_false, Bool.false_eq_true]
  split <;> rfl

theorem stateAt_cur (inp : Str) : (stateAt inp).cur = (half inp).peek := by
  rw [stateAt_def]
  generalize half inp = s
  unfold PState.next
  split
  · rfl
  · split
    · rfl
    · split <;> rfl

theorem half_of_lex (inp : Str) (t : Token) (r : Str) (h : tok inp = some (t, r)) :
    half inp = { cur := none, peek := some t, inp := r, err := false } := by
  unfold tok at h
  unfold half PState.next
  simp only [reduceCtorEq, if_false, Bool.false_eq_true, h]

/-- the first token of the input is the current token -/
theorem stateAt_cur_of_lex (inp : Str) (t : Token) (r : Str) (h : tok inp = some (t, r)) :
    (stateAt inp).cur = some t := by
  rw [stateAt_cur, half_of_lex inp t r h]

/-- advancing the window by one token = the window on what the first token left unread; no token is
lost or seen twice -/
theorem stateAt_next (inp : Str) (t : Token) (r : Str) (h : tok inp = some (t, r))
    (hs : t ≠ .keyword kwStream) : (stateAt inp).next = stateAt r := by
  rw [stateAt_def, stateAt_def, half_of_lex inp t r h]
  have e1 : (PState.next { cur := none, peek := some t, inp := r, err := false }) =
      { cur := some t, peek := (half r).peek, inp := (half r).inp, err := (half r).err } := by
    unfold half PState.next
    have : (some t = some (Token.keyword kwStream)) = False := by simp [hs]
    simp only [this, if_false, reduceCtorEq, Bool.false_eq_true]
    split <;> rfl
  rw [e1]
  have e2 : half r = { cur := none, peek := (half r).peek, inp := (half r).inp, err := (half r).err } := by
    have := half_cur r
    cases hh : half r with
    | mk c p i e => rw [hh] at this; simp at this; subst this; rfl
  rw [e2]
  unfold PState.next
  simp only

/-- the lookahead token is the first token of what the first token left unread -/
theorem stateAt_peek (inp : Str) (t : Token) (r : Str) (h : tok inp = some (t, r))
    (hs : t ≠ .keyword kwStream) : (stateAt inp).peek = (stateAt r).cur := by
  rw [stateAt_cur r, stateAt_def, half_of_lex inp t r h]
  unfold half PState.next
  have : (some t = some (Token.keyword kwStream)) = False := by simp [hs]
  simp only [this, if_false, reduceCtorEq, Bool.false_eq_true]
  split <;> rfl

theorem stateAt_err_false (inp : Str) (t : Token) (r : Str) (t2 : Token) (r2 : Str)
    (h : tok inp = some (t, r)) (hs : t ≠ .keyword kwStream)
    (h2 : tok r = some (t2, r2)) : (stateAt inp).err = false := by
  rw [stateAt_def, half_of_lex inp t r h]
  unfold tok at h2
  unfold PState.next
  have : (some t = some (Token.keyword kwStream)) = False := by simp [hs]
  simp only [this, if_false, Bool.false_eq_true, h2]

namespace Prog

/-- `stateAt` depends on the bytes only through their first non-comment token and what it leaves
unread (when there is one: after a lexical error the state also records where it happened) -/
theorem stateAt_congr (x y : Str) (t : Token) (r : Str) (hx : tok x = some (t, r)) (hy : tok y = some (t, r)) :
    stateAt x = stateAt y := by
  rw [stateAt_def, stateAt_def, half_of_lex x t r hx, half_of_lex y t r hy]

/-- a lexical error at the first token: `NewParser` records it, both window slots hold `TokenEOF` -/
theorem stateAt_tok_none (inp : Str) (h : tok inp = none) :
    stateAt inp = { cur := some .eof, peek := some .eof, inp := inp, err := true } := by
  have h' : lexSkip (inp.length + 1) inp = none := h
  have hh : half inp = { cur := none, peek := some .eof, inp := inp, err := true } := by
    unfold half PState.next
    simp only [reduceCtorEq, if_false, Bool.false_eq_true, h']
  rw [stateAt_def, hh]
  unfold PState.next
  simp only [Option.some.injEq, reduceCtorEq, if_false, if_true]

/-- after a lexical error at the first token `ParseObject` reports an error -/
theorem parseObject_tok_none (f d : Nat) (inp : Str) (h : tok inp = none) :
    parseObject f d (stateAt inp) = .error .err := by
  rw [stateAt_tok_none inp h]
  cases f <;> rw [parseObject]
  rfl

/-- the current token of `stateAt inp` in all cases -/
theorem stateAt_cur_cases (inp : Str) :
    (tok inp = none ∧ (stateAt inp).cur = some .eof ∧ (stateAt inp).err = true) ∨
    (∃ t r, tok inp = some (t, r) ∧ (stateAt inp).cur = some t) := by
  cases h : tok inp with
  | none => left; rw [stateAt_tok_none inp h]; exact ⟨rfl, rfl, rfl⟩
  | some p => right; exact ⟨p.1, p.2, rfl, stateAt_cur_of_lex inp p.1 p.2 h⟩

/-- the current token of `stateAt x` is a real token only if `x` starts with it -/
theorem cur_token (x : Str) (t : Token) (h : (stateAt x).cur = some t) (ht : t ≠ .eof) :
    ∃ r, tok x = some (t, r) := by
  rcases stateAt_cur_cases x with ⟨_, hc, _⟩ | ⟨t', r, htok, hc⟩
  · rw [hc] at h; cases h; exact absurd rfl ht
  · rw [hc] at h; cases h; exact ⟨r, htok⟩

/-- a real token in the lookahead slot is the first token of what the current token left unread -/
theorem peek_tok {inp r1 : Str} {t t2 : Token} (h : tok inp = some (t, r1)) (hs : t ≠ .keyword kwStream)
    (hp : (stateAt inp).peek = some t2) (h2 : t2 ≠ .eof) : ∃ r2, tok r1 = some (t2, r2) := by
  rw [stateAt_peek inp t r1 h hs] at hp
  exact cur_token r1 t2 hp h2

end Prog
end Tabula.Pdf
