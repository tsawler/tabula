import TabulaModel.Lemmas.MarkdownLoop
import TabulaModel.Lemmas.MarkdownItems
import TabulaModel.Lemmas.MarkdownPre
/-!
The ODT Markdown writer (`odtLoop`) as lines appended step by step, and what the reading spec
gives back on them: the loop body is `paraStep` / `tableStep` of `Lemmas/MarkdownLoop.lean` with the
odt list test and item writer.
-/
namespace Tabula.MarkdownDoc
open Tabula.A1 (Str dec decInt)
open Tabula.Markdown

/-- is the item written as an ordered one -/
def odtOrdered (ord : Str → Int → Bool) (p : OPara) : Bool := !p.styleName.isEmpty && ord p.styleName p.listLevel

/-- the item writer: from counters that are not negative the line is the list item line of the
paragraph (with some number), and the counters stay so -/
theorem odtListItem_spec (ord : Str → Int → Bool) (p : OPara) (cs : Ctrs) (hcs : ctrsNN cs) :
    ctrsNN (odtListItem ord p cs).2 ∧
      ∃ num, (odtListItem ord p cs).1 = listLine ⟨p.listLevel.toNat, odtOrdered ord p, num, p.text⟩ ++ [10] := by
  have h2 := ctrNN_get cs p.styleName hcs
  have h3 := ctrGet_nonneg (ctrsGet cs p.styleName) p.listLevel h2
  unfold odtListItem odtOrdered
  simp only []
  cases (!p.styleName.isEmpty && ord p.styleName p.listLevel) with
  | false => exact ⟨hcs, 1, rfl⟩
  | true =>
    exact ⟨ctrsNN_set _ _ _ hcs (ctrNN_set _ _ _ h2 (by omega)), _,
      congrArg (· ++ [10]) (itemLine_number _ _ (by omega) _)⟩

def oHeadings (excl : Str → Bool) (hl : Int → Int) (els : List OElem) : List (Nat × Str) :=
  els.filterMap fun
    | .para p => if !excl p.text && p.isHeading then some ((hl p.level).toNat, p.text) else none
    | .table _ => none

def oItems (excl : Str → Bool) (ord : Str → Int → Bool) (els : List OElem) : List (Nat × Bool × Str) :=
  els.filterMap fun
    | .para p =>
      if !excl p.text && !p.isHeading && p.isListItem then
        some (p.listLevel.toNat, odtOrdered ord p, p.text)
      else none
    | .table _ => none

def oParas (excl : Str → Bool) (els : List OElem) : List Str :=
  els.filterMap fun
    | .para p => if !excl p.text && !p.isHeading && !p.isListItem && !p.text.isEmpty then some p.text else none
    | .table _ => none

def oTables (els : List OElem) : List (List (List SCell)) :=
  els.filterMap fun
    | .para _ => none
    | .table t => if colCount t = 0 then none else some t

/-- well-formed input of the ODT writer for the read-back theorems -/
structure OdtWF (excl : Str → Bool) (hl : Int → Int) (ord : Str → Int → Bool) (els : List OElem) : Prop where
  /-- heading levels come out in 1..6 -/
  hlRange : ∀ l, 1 ≤ (hl l).toNat ∧ (hl l).toNat ≤ 6
  /-- paragraph texts are single lines -/
  noNl : ∀ p, OElem.para p ∈ els → 10 ∉ p.text
  /-- body paragraphs are paragraph text for a Markdown reader (not `# x`, `- x`, `| x`, `---`, …) -/
  plain : ∀ p, OElem.para p ∈ els → excl p.text = false → p.isHeading = false → p.isListItem = false →
    p.text.isEmpty = false → classify p.text = .para

/-- the builder and the `inList` flag in the loop state of the odt writer -/
def odtL : LoopSt OSt := ⟨OSt.out, OSt.inList, fun s o b => { s with out := o, inList := b }, fun _ _ _ => rfl⟩

/-- the list branch of `odtStep` -/
def odtItemStep (ord : Str → Int → Bool) (p : OPara) (st : OSt) : OSt :=
  { out := st.out ++ (odtListItem ord p st.ctrs).1, inList := true, ctrs := (odtListItem ord p st.ctrs).2 }

theorem odtStep_para (excl : Str → Bool) (hl : Int → Int) (ord : Str → Int → Bool) (i : Nat) (st : OSt)
    (p : OPara) :
    odtStep excl hl ord i st (.para p) =
      paraStep odtL i st (excl p.text) (!p.isListItem) p.isHeading p.isListItem (hl p.level).toNat p.text
        (odtItemStep ord p) := rfl

theorem odtStep_table (excl : Str → Bool) (hl : Int → Int) (ord : Str → Int → Bool) (i : Nat) (st : OSt)
    (t : List (List SCell)) : odtStep excl hl ord i st (.table t) = tableStep odtL .odt st t := rfl

/-- One iteration of the element loop: the counters stay non-negative, and what it appends to the
builder are lines holding what the element contributes to the reader's four lists. -/
theorem odtStep_read (excl : Str → Bool) (hl : Int → Int) (ord : Str → Int → Bool) (els : List OElem)
    (hwf : OdtWF excl hl ord els) (e : OElem) (he : e ∈ els) (i : Nat) (st : OSt) (hcs : ctrsNN st.ctrs) :
    ctrsNN (odtStep excl hl ord i st e).ctrs ∧
    ∃ ls, (odtStep excl hl ord i st e).out = st.out ++ joinLines ls ∧
      LinesRead ls (oHeadings excl hl [e]) (oItems excl ord [e]) (oParas excl [e])
        ((oTables [e]).map (spanLines .odt)) := by
  simp only [oHeadings, oItems, oParas, oTables, List.filterMap_singleton]
  cases e with
  | table t =>
    rw [odtStep_table]
    exact tableStep_read odtL (fun s => ctrsNN s.ctrs) (fun _ _ _ h => h) .odt st t hcs
  | para p =>
    rw [odtStep_para]
    refine paraStep_read odtL (fun s => ctrsNN s.ctrs) (fun _ _ _ h => h) i st _ _ _ _ _ _ _ _ _
      (fun _ s hs => ?_) (hwf.hlRange p.level).1 (hwf.noNl p he) (hwf.plain p he) hcs
    obtain ⟨h1, num, h2⟩ := odtListItem_spec ord p s.ctrs hs
    exact ⟨h1, num, congrArg (s.out ++ ·) h2⟩

/-- the tables the expected lists hold have a column -/
theorem oTables_colCount (els : List OElem) : ∀ t ∈ oTables els, colCount t ≠ 0 :=
  List.forall_mem_filterMap.mpr fun e _ t hf => by
    cases e with
    | para p => cases hf
    | table t' => dsimp only at hf; split at hf <;> cases hf; assumption

/-- the element loop behind a preamble, trimmed, as the reader sees it: the four lists of the element
list, every table as its grid — whatever the cells hold -/
theorem odtLoop_readMd (excl : Str → Bool) (hl : Int → Int) (ord : Str → Int → Bool) (els : List OElem)
    (hwf : OdtWF excl hl ord els) (htoc : (2, tocText) ∉ oHeadings excl hl els) {pre : Str} (hpre : IsPreamble pre) :
    readMd (trimNl (odtLoop excl hl ord 0 { out := pre } els).out)
      = { headings := oHeadings excl hl els, items := oItems excl ord els,
          tables := (oTables els).map fun t => some (t.map (gridRow .odt (colCount t))),
          paras := oParas excl els } := by
  obtain ⟨ls, hout, hr⟩ := loop_read OSt.out (fun s => ctrsNN s.ctrs) (odtStep excl hl ord) (odtLoop excl hl ord)
    (fun _ _ => rfl) (fun _ _ _ _ => rfl) _ _ _ _ _ els (odtStep_read excl hl ord els hwf) 0 { out := pre }
    fun _ he => absurd he List.not_mem_nil
  rw [hout, hr.readMd_doc htoc hpre, List.map_map]
  exact congrArg (MdDoc.mk _ _ · _) (List.map_congr_left fun t ht =>
    gfmTableL_spanLines_grid .odt (by decide) t (oTables_colCount els t ht))

end Tabula.MarkdownDoc
