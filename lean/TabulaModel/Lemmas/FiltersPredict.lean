import TabulaModel.Model.Filters
/-!
The predictors of `Model/Filters.lean` (`decRow`, `decodePNGRow`, `pngRows`, `tiffRows`, `applyPNGPredictor`,
`applyTIFFPredictor2`, `applyPredictor`, `flatePost`) against the specification encoders (`encRow`, `pngPredictRows`,
`tiffPredictRows`): the row filters and the round trip; the frame the predictors share (`onRows`) with the iffs through
which the other files use them without unfolding them; what the row loops do on whole rows, in one statement each
(`decRow_char`, `pngRows_char`, `tiffRows_char`: they fail at a filter-type byte above 4 only, and what they return has
the data as its filtered form).
-/
namespace Tabula.Filters

/-- the row filter, position by position -/
theorem encRow_eq_map (P : Str → Nat) : ∀ (rest done : Str),
    encRow P rest done = (List.range rest.length).map (fun k =>
      ((done ++ rest).getD (done.length + k) 0 + 256 - P ((done ++ rest).take (done.length + k)) % 256) % 256) := by
  intro rest
  induction rest with
  | nil => intro done; simp [encRow]
  | cons r rs ih =>
    intro done
    simp only [encRow, List.length_cons, List.range_succ_eq_map, List.map_cons, List.map_map]
    congr 1
    · simp [List.getD_eq_getElem?_getD]
    · rw [ih (done ++ [r])]
      apply List.map_congr_left
      intro k _
      simp only [Function.comp, List.length_append, List.length_cons, List.length_nil, List.append_assoc,
        List.cons_append, List.nil_append]
      have : done.length + (0 + 1) + k = done.length + (k + 1) := by omega
      rw [this]

theorem encRow_length (P : Str → Nat) (rest done : Str) : (encRow P rest done).length = rest.length := by
  rw [encRow_eq_map, List.length_map, List.length_range]

theorem encRow_lt (P : Str → Nat) : ∀ (rest done : Str), ∀ b ∈ encRow P rest done, b < 256 := by
  intro rest done b hb
  rw [encRow_eq_map] at hb
  obtain ⟨k, _, rfl⟩ := List.mem_map.mp hb
  exact Nat.mod_lt _ (by decide)

/-- writing at the seam of `a ++ x :: b` replaces `x` -/
theorem set_mid (a : Str) (x v : Nat) (b : Str) : (a ++ x :: b).set a.length v = a ++ v :: b := by
  rw [List.set_append_right _ _ (Nat.le_refl _), Nat.sub_self]
  rfl

/-- reading the middle part of `a ++ (b ++ c)` -/
theorem getElem?_mid (a b c : Str) (i : Nat) (hi : i < b.length) : (a ++ (b ++ c))[a.length + i]? = b[i]? := by
  rw [List.getElem?_append_right (Nat.le_add_right _ _), Nat.add_sub_cancel_left, List.getElem?_append_left hi]

/-- `decRow` appends one byte per input byte -/
theorem decRow_length (P : Str → Option Nat) : ∀ (fs done out : Str),
    decRow P fs done = some out → out.length = done.length + fs.length := by
  intro fs
  induction fs with
  | nil => rintro done out ⟨⟩; rfl
  | cons f fs ih =>
    intro done out h
    rw [decRow] at h
    cases hp : P done with
    | none => rw [hp] at h; cases h
    | some p =>
      rw [hp] at h
      rw [ih _ _ h, List.length_append, List.length_singleton, List.length_cons, Nat.add_assoc, Nat.add_comm 1]

/-- … each of them reduced modulo 256 -/
theorem decRow_bytes (P : Str → Option Nat) : ∀ (fs done out : Str), (∀ b ∈ done, b < 256) →
    decRow P fs done = some out → ∀ b ∈ out, b < 256 := by
  intro fs
  induction fs with
  | nil => rintro done out hd ⟨⟩; exact hd
  | cons f fs ih =>
    intro done out hd h
    rw [decRow] at h
    cases hp : P done with
    | none => rw [hp] at h; cases h
    | some p =>
      rw [hp] at h
      exact ih _ _ (List.forall_mem_append.mpr ⟨hd, List.forall_mem_singleton.mpr (Nat.mod_lt _ (by decide))⟩) h

/-- the row loop undoes the row filter, whatever the predictor, as long as decoder and
encoder compute the same prediction from the same prefix -/
theorem decRow_encRow (P : Str → Option Nat) (P' : Str → Nat) (n : Nat)
    (hP : ∀ done : Str, done.length < n → P done = some (P' done)) :
    ∀ (rest done : Str), done.length + rest.length = n → (∀ r ∈ rest, r < 256) →
      decRow P (encRow P' rest done) done = some (done ++ rest) := by
  intro rest
  induction rest with
  | nil => intro done _ _; simp [encRow, decRow]
  | cons r rs ih =>
    intro done hlen hb
    simp only [List.length_cons] at hlen
    simp only [encRow, decRow]
    rw [hP done (by omega)]
    have hr : r < 256 := hb r (by simp)
    have e : ((r + 256 - P' done % 256) % 256 + P' done) % 256 = r := by omega
    simp only [e]
    rw [ih (done ++ [r]) (by simp; omega) (fun x hx => hb x (by simp [hx]))]
    simp

theorem byteAt_nat (row : Str) (i : Nat) : byteAt row (i : Int) = row.getD i 0 := by
  unfold byteAt
  have : ¬ ((i : Int) < 0) := by omega
  simp [this]

/-- the byte `k` places to the left of position `i`, the way `leftOf`, `upLeftOf` and `tiffPredicted` read
it: a list lookup inside the row, or 0 in front of the row -/
theorem byteAt_left (row : Str) (i k : Nat) (h : k ≤ i → i - k < row.length) :
    (if i ≥ k then row[i - k]? else some 0) = some (byteAt row ((i : Int) - (k : Int))) := by
  by_cases hik : i ≥ k
  · have e : ((i : Int) - (k : Int)) = ((i - k : Nat) : Int) := by omega
    rw [if_pos hik, e, byteAt_nat]
    simp [List.getD_eq_getElem?_getD, List.getElem?_eq_getElem (h hik)]
  · unfold byteAt
    rw [if_neg hik, if_pos (by omega)]

theorem byteAt_take (raw : Str) (x : Nat) (i : Int) (h : i < (x : Int)) : byteAt (raw.take x) i = byteAt raw i := by
  unfold byteAt
  split
  · rfl
  · rename_i hi
    have : i.toNat < x := by omega
    simp [List.getD_eq_getElem?_getD, this]

theorem leftOf_eq (bpp : Nat) (hb : 1 ≤ bpp) (done : Str) :
    leftOf bpp done = some (byteAt done ((done.length : Int) - (bpp : Int))) :=
  byteAt_left done done.length bpp (by omega)

/-- the relation between the decoder's "previous decoded row" and the encoder's prior scanline -/
def PriorRel (prev : Option Str) (prior : Str) (n : Nat) : Prop :=
  (prev = none ∧ prior = List.replicate n 0) ∨ (prev = some prior ∧ prior.length = n)

theorem byteAt_replicate (n : Nat) (x : Int) : byteAt (List.replicate n 0) x = 0 := by
  unfold byteAt
  split
  · rfl
  · simp only [List.getD_eq_getElem?_getD, List.getElem?_replicate]
    split <;> rfl

theorem upOf_eq (prev : Option Str) (prior : Str) (n i : Nat) (h : PriorRel prev prior n) (hi : i < n) :
    upOf prev i = some (byteAt prior (i : Int)) := by
  rcases h with ⟨h1, h2⟩ | ⟨h1, h2⟩
  · subst h1 h2; simp [upOf, byteAt_replicate]
  · subst h1
    rw [byteAt_nat]
    have hlt : i < prior.length := by omega
    simp [upOf, List.getD_eq_getElem?_getD, List.getElem?_eq_getElem hlt]

theorem upLeftOf_eq (bpp : Nat) (prev : Option Str) (prior : Str) (n i : Nat) (h : PriorRel prev prior n)
    (hi : i < n) : upLeftOf bpp prev i = some (byteAt prior ((i : Int) - (bpp : Int))) := by
  rcases h with ⟨h1, h2⟩ | ⟨h1, h2⟩
  · subst h1 h2; simp [upLeftOf, byteAt_replicate]
  · subst h1
    exact byteAt_left prior i bpp (by omega)

theorem paeth_eq_spec (a b c : Nat) : paeth a b c = specPaeth a b c := rfl

theorem pngPredicted_eq_spec (tag bpp : Nat) (prev : Option Str) (prior done : Str) (n : Nat)
    (htag : tag ≤ 4) (hb : 1 ≤ bpp) (h : PriorRel prev prior n) (hd : done.length < n) :
    pngPredicted tag bpp prev done = some (specPredAt tag bpp prior done) := by
  have hl := leftOf_eq bpp hb done
  have hu := upOf_eq prev prior n done.length h hd
  have hul := upLeftOf_eq bpp prev prior n done.length h hd
  unfold specPredAt
  match tag, htag with
  | 0, _ => simp [pngPredicted, specPred]
  | 1, _ => simp [pngPredicted, specPred, hl]
  | 2, _ => simp [pngPredicted, specPred, hu]
  | 3, _ => simp [pngPredicted, specPred, hl, hu]
  | 4, _ => simp [pngPredicted, specPred, hl, hu, hul, paeth_eq_spec]

theorem decodePNGRow_encRow (tag bpp : Nat) (prev : Option Str) (prior raw : Str)
    (htag : tag ≤ 4) (hb : 1 ≤ bpp) (h : PriorRel prev prior raw.length) (hraw : ∀ r ∈ raw, r < 256) :
    decodePNGRow (encRow (specPredAt tag bpp prior) raw []) tag bpp prev = some raw := by
  unfold decodePNGRow
  have := decRow_encRow (pngPredicted tag bpp prev) (specPredAt tag bpp prior) raw.length
    (fun done hd => pngPredicted_eq_spec tag bpp prev prior done raw.length htag hb h hd) raw [] (by simp) hraw
  simpa using this

/-- the first of `n + 1` rows of `k` bytes, and the other `n` -/
theorem first_row {x : Str} {n k : Nat} (h : x.length = (n + 1) * k) :
    (x.take k).length = k ∧ (x.drop k).length = n * k := by
  rw [Nat.succ_mul] at h
  rw [List.length_take, List.length_drop]
  omega

/-- … of `n + 1` rows that start with a filter-type byte: the first row without its tag, and the other `n` -/
theorem first_tagged_row {tag : Nat} {body : Str} {n k : Nat} (h : (tag :: body).length = (n + 1) * (k + 1)) :
    (body.take k).length = k ∧ (body.drop k).length = n * (k + 1) := by
  rw [Nat.succ_mul, List.length_cons] at h
  rw [List.length_take, List.length_drop]
  omega

theorem pngPredictRows_length (bpp rowLen : Nat) : ∀ (tags : List Nat) (x prior : Str),
    x.length = tags.length * rowLen →
    (pngPredictRows bpp rowLen tags x prior).length = tags.length * (rowLen + 1) := by
  intro tags
  induction tags with
  | nil => intro x prior _; simp [pngPredictRows]
  | cons t ts ih =>
    intro x prior hx
    obtain ⟨htake, hdrop⟩ := first_row hx
    simp only [pngPredictRows, List.length_cons, List.length_append, encRow_length, htake]
    rw [ih _ _ hdrop, Nat.add_mul, Nat.mul_add]
    omega

/-- the row loop of the decoder undoes the conforming encoder, for any number of rows -/
theorem pngRows_pngPredictRows (bpp rowLen : Nat) (hb : 1 ≤ bpp) : ∀ (tags : List Nat) (x prior : Str)
    (prev : Option Str) (acc : List Str),
    x.length = tags.length * rowLen → (∀ t ∈ tags, t ≤ 4) → (∀ r ∈ x, r < 256) →
    PriorRel prev prior rowLen →
    pngRows tags.length rowLen bpp (pngPredictRows bpp rowLen tags x prior) prev acc
      = some (acc.reverse.flatten ++ x) := by
  intro tags
  induction tags with
  | nil =>
    intro x prior prev acc hx _ _ _
    simp at hx
    simp [pngRows, pngPredictRows, hx]
  | cons t ts ih =>
    intro x prior prev acc hx ht hbytes hrel
    obtain ⟨htake, hdrop⟩ := first_row hx
    simp only [pngPredictRows, List.length_cons, pngRows, List.cons_append]
    have hlen : (encRow (specPredAt t bpp prior) (x.take rowLen) []).length = rowLen := by
      rw [encRow_length, htake]
    rw [List.take_left' hlen, List.drop_left' hlen]
    rw [decodePNGRow_encRow t bpp prev prior (x.take rowLen) (ht t (by simp)) hb (by rw [htake]; exact hrel)
      (fun r hr => hbytes r (List.mem_of_mem_take hr))]
    simp only
    rw [ih (x.drop rowLen) (x.take rowLen) (some (x.take rowLen)) (x.take rowLen :: acc) hdrop
      (fun t' h' => ht t' (by simp [h'])) (fun r hr => hbytes r (List.mem_of_mem_drop hr))
      (Or.inr ⟨rfl, htake⟩)]
    simp [List.append_assoc]

theorem predictorRowBytes_ok (columns colors : Nat) (h1 : 1 ≤ columns) (h2 : 1 ≤ colors)
    (hcap : columns * colors ≤ 2147483646) :
    predictorRowBytes (columns : Int) (colors : Int) = some (columns * colors) := by
  unfold predictorRowBytes
  have a : ¬ ((columns : Int) < 1 ∨ (colors : Int) < 1) := by omega
  have hpos : (0 : Int) < (colors : Int) := by omega
  have hm : ((columns : Int) * (colors : Int)) = ((columns * colors : Nat) : Int) := by simp
  have b : ¬ ((columns : Int) > 2147483646 / (colors : Int)) := by
    have : (columns : Int) ≤ 2147483646 / (colors : Int) := by
      rw [Int.le_ediv_iff_mul_le hpos, hm]
      omega
    omega
  simp only [a, b, if_false]
  rw [hm, Int.toNat_natCast]

theorem predictorRowBytes_bad (columns colors : Int) (h : columns < 1 ∨ colors < 1) :
    predictorRowBytes columns colors = none := by
  unfold predictorRowBytes
  simp [h]

/-- data that is a whole number of rows -/
theorem whole_rows {n k : Nat} (h : n % k = 0) : n = n / k * k :=
  (Nat.div_mul_cancel (Nat.dvd_of_mod_eq_zero h)).symm

/-- an accepted geometry, in natural numbers -/
theorem predictorRowBytes_eq_some_iff (columns colors : Int) (rb : Nat) :
    predictorRowBytes columns colors = some rb ↔
      ∃ cols cs : Nat, columns = cols ∧ colors = cs ∧ 1 ≤ cols ∧ 1 ≤ cs ∧ cols * cs ≤ 2147483646 ∧ rb = cols * cs := by
  constructor
  · intro h
    unfold predictorRowBytes at h
    by_cases h1 : columns < 1 ∨ colors < 1
    · rw [if_pos h1] at h; cases h
    rw [if_neg h1] at h
    by_cases h2 : columns > 2147483646 / colors
    · rw [if_pos h2] at h; cases h
    rw [if_neg h2] at h
    obtain ⟨cols, rfl⟩ : ∃ n : Nat, columns = n := ⟨columns.toNat, by omega⟩
    obtain ⟨cs, rfl⟩ : ∃ n : Nat, colors = n := ⟨colors.toNat, by omega⟩
    have hcap := (Int.le_ediv_iff_mul_le (by omega)).mp (Int.not_lt.mp h2)
    rw [← Int.natCast_mul] at hcap h
    exact ⟨cols, cs, rfl, rfl, by omega, by omega, by omega, (Option.some.inj h).symm.trans (Int.toNat_natCast _)⟩
  · rintro ⟨cols, cs, rfl, rfl, h1, h2, hcap, rfl⟩
    exact predictorRowBytes_ok cols cs h1 h2 hcap

/-- the frame shared by `applyPNGPredictor`, `applyTIFFPredictor2` and their buffer-level transcriptions
(`Model/PredictFlat.lean`): BitsPerComponent must be 8, `predictorRowBytes` must accept Columns × Colors, the data
must be whole rows of `rb + tag` bytes (`tag` = 1 for PNG's filter-type byte); then `loop rb` runs. The lemmas
below are how the other files use the four functions without unfolding them. -/
def onRows (p : Params) (data : Str) (tag : Nat) (loop : Nat → Option Str) : Option Str :=
  if p.bpc.getD 8 ≠ 8 then none
  else match predictorRowBytes (p.columns.getD 1) (p.colors.getD 1) with
    | none => none
    | some rb => if data.length % (rb + tag) ≠ 0 then none else loop rb

theorem applyPNGPredictor_onRows (data : Str) (p : Params) : applyPNGPredictor data p =
    onRows p data 1 fun rb => pngRows (data.length / (rb + 1)) rb (p.colors.getD 1).toNat data none [] := by
  unfold applyPNGPredictor onRows; rfl

theorem applyTIFFPredictor2_onRows (data : Str) (p : Params) : applyTIFFPredictor2 data p =
    onRows p data 0 fun rb => tiffRows (data.length / rb) rb (p.colors.getD 1).toNat data [] := by
  unfold applyTIFFPredictor2 onRows; rfl

section
variable {p : Params} {data : Str} {tag : Nat} {loop loop' : Nat → Option Str}

theorem onRows_eq_some_iff {y : Str} : onRows p data tag loop = some y ↔
    ∃ rb, p.bpc.getD 8 = 8 ∧ predictorRowBytes (p.columns.getD 1) (p.colors.getD 1) = some rb ∧
      data.length % (rb + tag) = 0 ∧ loop rb = some y := by
  unfold onRows
  by_cases hb : p.bpc.getD 8 = 8
  · rw [if_neg (not_not_intro hb)]
    cases predictorRowBytes (p.columns.getD 1) (p.colors.getD 1) with
    | none => exact ⟨nofun, fun ⟨_, _, h, _⟩ => nomatch h⟩
    | some rb =>
      by_cases hm : data.length % (rb + tag) = 0
      · simp only [if_neg (not_not_intro hm)]
        exact ⟨fun h => ⟨rb, hb, rfl, hm, h⟩, fun ⟨_, _, e, _, h⟩ => Option.some.inj e ▸ h⟩
      · simp only [if_pos hm]
        exact ⟨nofun, fun ⟨_, _, e, h, _⟩ => absurd (Option.some.inj e ▸ h) hm⟩
  · rw [if_pos hb]
    exact ⟨nofun, fun ⟨_, h, _⟩ => absurd h hb⟩

theorem onRows_eq_none_iff : onRows p data tag loop = none ↔
    (p.bpc.getD 8 ≠ 8 ∨ predictorRowBytes (p.columns.getD 1) (p.colors.getD 1) = none ∨
      ∃ rb, predictorRowBytes (p.columns.getD 1) (p.colors.getD 1) = some rb ∧
        (data.length % (rb + tag) ≠ 0 ∨ loop rb = none)) := by
  unfold onRows
  by_cases hb : p.bpc.getD 8 = 8
  · rw [if_neg (not_not_intro hb)]
    cases predictorRowBytes (p.columns.getD 1) (p.colors.getD 1) with
    | none => exact ⟨fun _ => .inr (.inl rfl), fun _ => rfl⟩
    | some rb =>
      by_cases hm : data.length % (rb + tag) = 0
      · simp only [if_neg (not_not_intro hm)]
        refine ⟨fun h => .inr (.inr ⟨rb, rfl, .inr h⟩), ?_⟩
        rintro (h | h | ⟨_, e, h | h⟩)
        · exact absurd hb h
        · cases h
        · exact absurd (Option.some.inj e ▸ hm) h
        · exact Option.some.inj e ▸ h
      · simp only [if_pos hm]
        exact ⟨fun _ => .inr (.inr ⟨rb, rfl, .inl hm⟩), fun _ => trivial⟩
  · rw [if_pos hb]
    exact ⟨fun _ => .inl hb, fun _ => rfl⟩

/-- two loops that agree on whole rows of an accepted geometry give the same result -/
theorem onRows_congr (h : ∀ rb, predictorRowBytes (p.columns.getD 1) (p.colors.getD 1) = some rb →
    data.length % (rb + tag) = 0 → loop rb = loop' rb) : onRows p data tag loop = onRows p data tag loop' := by
  unfold onRows
  cases hrb : predictorRowBytes (p.columns.getD 1) (p.colors.getD 1) with
  | none => rfl
  | some rb =>
    by_cases hm : data.length % (rb + tag) = 0
    · simp only [if_neg (not_not_intro hm), h rb hrb hm]
    · simp only [if_pos hm]

end

theorem applyPNGPredictor_eq_some_iff {data : Str} {p : Params} {y : Str} : applyPNGPredictor data p = some y ↔
    ∃ rb, p.bpc.getD 8 = 8 ∧ predictorRowBytes (p.columns.getD 1) (p.colors.getD 1) = some rb ∧
      data.length % (rb + 1) = 0 ∧
      pngRows (data.length / (rb + 1)) rb (p.colors.getD 1).toNat data none [] = some y :=
  onRows_eq_some_iff

theorem applyPNGPredictor_eq_none_iff {data : Str} {p : Params} : applyPNGPredictor data p = none ↔
    (p.bpc.getD 8 ≠ 8 ∨ predictorRowBytes (p.columns.getD 1) (p.colors.getD 1) = none ∨
      ∃ rb, predictorRowBytes (p.columns.getD 1) (p.colors.getD 1) = some rb ∧
        (data.length % (rb + 1) ≠ 0 ∨
          pngRows (data.length / (rb + 1)) rb (p.colors.getD 1).toNat data none [] = none)) :=
  onRows_eq_none_iff

theorem applyTIFFPredictor2_eq_some_iff {data : Str} {p : Params} {y : Str} : applyTIFFPredictor2 data p = some y ↔
    ∃ rb, p.bpc.getD 8 = 8 ∧ predictorRowBytes (p.columns.getD 1) (p.colors.getD 1) = some rb ∧
      data.length % rb = 0 ∧ tiffRows (data.length / rb) rb (p.colors.getD 1).toNat data [] = some y :=
  onRows_eq_some_iff (tag := 0)

theorem applyTIFFPredictor2_eq_none_iff {data : Str} {p : Params} : applyTIFFPredictor2 data p = none ↔
    (p.bpc.getD 8 ≠ 8 ∨ predictorRowBytes (p.columns.getD 1) (p.colors.getD 1) = none ∨
      ∃ rb, predictorRowBytes (p.columns.getD 1) (p.colors.getD 1) = some rb ∧
        (data.length % rb ≠ 0 ∨ tiffRows (data.length / rb) rb (p.colors.getD 1).toNat data [] = none)) :=
  onRows_eq_none_iff (tag := 0)

/-- BitsPerComponent other than 8, Columns or Colors below 1: refused by the frame -/
theorem onRows_refused {p : Params} {data : Str} {tag : Nat} {loop : Nat → Option Str}
    (h : p.bpc.getD 8 ≠ 8 ∨ p.columns.getD 1 < 1 ∨ p.colors.getD 1 < 1) : onRows p data tag loop = none :=
  onRows_eq_none_iff.mpr (h.imp_right fun hg => .inl (predictorRowBytes_bad _ _ hg))

section
variable (data : Str) (p : Params)

/-- … so by both predictors -/
theorem predictors_refuse (h : p.bpc.getD 8 ≠ 8 ∨ p.columns.getD 1 < 1 ∨ p.colors.getD 1 < 1) :
    applyTIFFPredictor2 data p = none ∧ applyPNGPredictor data p = none :=
  ⟨(applyTIFFPredictor2_onRows data p).trans (onRows_refused h), onRows_refused h⟩

theorem applyPredictor_tiff : applyPredictor data 2 p = applyTIFFPredictor2 data p := rfl

theorem applyPredictor_png {pr : Int} (h : 10 ≤ pr ∧ pr ≤ 15) :
    applyPredictor data pr p = applyPNGPredictor data p := by
  unfold applyPredictor
  rw [if_neg (by omega), if_neg (by omega), if_pos ⟨h.1, h.2⟩]

theorem applyPredictor_other {pr : Int} (h1 : pr ≠ 1) (h2 : pr ≠ 2) (h3 : pr < 10 ∨ pr > 15) :
    applyPredictor data pr p = none := by
  unfold applyPredictor
  rw [if_neg h1, if_neg h2, if_neg (by omega)]

/-- the `switch` of `applyPredictor` -/
theorem applyPredictor_cases (pr : Int) :
    (pr = 1 ∧ applyPredictor data pr p = some data) ∨
    (pr = 2 ∧ applyPredictor data pr p = applyTIFFPredictor2 data p) ∨
    ((10 ≤ pr ∧ pr ≤ 15) ∧ applyPredictor data pr p = applyPNGPredictor data p) ∨
    ((pr ≠ 1 ∧ pr ≠ 2 ∧ (pr < 10 ∨ pr > 15)) ∧ applyPredictor data pr p = none) := by
  by_cases h1 : pr = 1
  · exact .inl ⟨h1, by rw [h1]; rfl⟩
  by_cases h2 : pr = 2
  · exact .inr (.inl ⟨h2, by rw [h2]; rfl⟩)
  by_cases h3 : 10 ≤ pr ∧ pr ≤ 15
  · exact .inr (.inr (.inl ⟨h3, applyPredictor_png data p h3⟩))
  · exact .inr (.inr (.inr ⟨⟨h1, h2, by omega⟩, applyPredictor_other data p h1 h2 (by omega)⟩))

theorem flatePost_predictor {pr : Int} (hp : p.predictor = some pr) (h1 : pr ≠ 1) :
    flatePost (some p) data = applyPredictor data pr p := by
  simp only [flatePost, hp, if_pos h1]

theorem flatePost_plain (h : p.predictor = none ∨ p.predictor = some 1) : flatePost (some p) data = some data := by
  rcases h with h | h <;> simp only [flatePost, h] <;> rfl

end

/-- what `FlateDecode` does after inflating: nothing without parameters, without a numeric Predictor
and for Predictor 1; otherwise `applyPredictor` -/
theorem flatePost_cases (params : Option Params) (dec : Str) :
    ((params = none ∨ ∃ p, params = some p ∧ (p.predictor = none ∨ p.predictor = some 1)) ∧
      flatePost params dec = some dec) ∨
    (∃ p pr, params = some p ∧ p.predictor = some pr ∧ pr ≠ 1 ∧ flatePost params dec = applyPredictor dec pr p) := by
  cases params with
  | none => exact .inl ⟨.inl rfl, rfl⟩
  | some p =>
    cases hpr : p.predictor with
    | none => exact .inl ⟨.inr ⟨p, rfl, .inl hpr⟩, flatePost_plain dec p (.inl hpr)⟩
    | some pr =>
      by_cases h1 : pr = 1
      · exact .inl ⟨.inr ⟨p, rfl, .inr (h1 ▸ hpr)⟩, flatePost_plain dec p (.inr (h1 ▸ hpr))⟩
      · exact .inr ⟨p, pr, rfl, hpr, h1, flatePost_predictor dec p hpr h1⟩

theorem applyPNGPredictor_pngPredict (colors columns : Nat) (tags : List Nat) (x : Str) (p : Params)
    (hcolors : p.colors.getD 1 = colors) (hcolumns : p.columns.getD 1 = columns) (hbpc : p.bpc.getD 8 = 8)
    (h1 : 1 ≤ columns) (h2 : 1 ≤ colors) (hcap : columns * colors ≤ 2147483646)
    (hx : x.length = tags.length * (columns * colors)) (ht : ∀ t ∈ tags, t ≤ 4) (hb : ∀ r ∈ x, r < 256) :
    applyPNGPredictor (pngPredict colors columns tags x) p = some x := by
  have hl := pngPredictRows_length colors (columns * colors) tags x (List.replicate (columns * colors) 0) hx
  rw [applyPNGPredictor_onRows, onRows_eq_some_iff, hcolumns, hcolors, pngPredict, hl]
  refine ⟨_, hbpc, predictorRowBytes_ok columns colors h1 h2 hcap, Nat.mul_mod_left _ _, ?_⟩
  rw [Nat.mul_div_cancel _ (Nat.succ_pos _), Int.toNat_natCast,
    pngRows_pngPredictRows colors (columns * colors) h2 tags x _ none [] hx ht hb (Or.inl ⟨rfl, rfl⟩)]
  rfl

theorem tiffPredicted_eq_spec (colors : Nat) (hc : 1 ≤ colors) (done : Str) :
    tiffPredicted colors done = some (specTiffAt colors done) := by
  unfold tiffPredicted specTiffAt
  rw [← byteAt_left done done.length colors (by omega)]
  by_cases h : done.length < colors
  · rw [if_pos h, if_neg (by omega)]
  · rw [if_neg h, if_pos (by omega)]

theorem tiffPredictRows_length (colors rowLen : Nat) : ∀ (n : Nat) (x : Str), x.length = n * rowLen →
    (tiffPredictRows colors rowLen n x).length = n * rowLen := by
  intro n
  induction n with
  | zero => intro x _; simp [tiffPredictRows]
  | succ n ih =>
    intro x hx
    obtain ⟨htake, hdrop⟩ := first_row hx
    simp only [tiffPredictRows, List.length_append, encRow_length, htake]
    rw [ih _ hdrop, Nat.add_mul]
    omega

theorem tiffRows_tiffPredictRows (colors rowLen : Nat) (hc : 1 ≤ colors) : ∀ (n : Nat) (x : Str) (acc : List Str),
    x.length = n * rowLen → (∀ r ∈ x, r < 256) →
    tiffRows n rowLen colors (tiffPredictRows colors rowLen n x) acc = some (acc.reverse.flatten ++ x) := by
  intro n
  induction n with
  | zero =>
    intro x acc hx _
    simp at hx
    simp [tiffRows, hx]
  | succ n ih =>
    intro x acc hx hbytes
    obtain ⟨htake, hdrop⟩ := first_row hx
    simp only [tiffPredictRows, tiffRows]
    have hlen : (encRow (specTiffAt colors) (x.take rowLen) []).length = rowLen := by
      rw [encRow_length, htake]
    rw [List.take_left' hlen, List.drop_left' hlen]
    have hrow := decRow_encRow (tiffPredicted colors) (specTiffAt colors) (x.take rowLen).length
      (fun done _ => tiffPredicted_eq_spec colors hc done) (x.take rowLen) [] (by simp)
      (fun r hr => hbytes r (List.mem_of_mem_take hr))
    simp only [List.nil_append] at hrow
    rw [hrow]
    simp only
    rw [ih (x.drop rowLen) (x.take rowLen :: acc) hdrop (fun r hr => hbytes r (List.mem_of_mem_drop hr))]
    simp [List.append_assoc]

theorem applyTIFFPredictor2_tiffPredict (colors columns : Nat) (x : Str) (p : Params)
    (hcolors : p.colors.getD 1 = colors) (hcolumns : p.columns.getD 1 = columns) (hbpc : p.bpc.getD 8 = 8)
    (h1 : 1 ≤ columns) (h2 : 1 ≤ colors) (hcap : columns * colors ≤ 2147483646)
    (hx : x.length % (columns * colors) = 0) (hb : ∀ r ∈ x, r < 256) :
    applyTIFFPredictor2 (tiffPredict colors columns x) p = some x := by
  have hxl := whole_rows hx
  have hl := tiffPredictRows_length colors (columns * colors) _ x hxl
  rw [applyTIFFPredictor2_onRows, onRows_eq_some_iff, hcolumns, hcolors, tiffPredict, hl]
  refine ⟨_, hbpc, predictorRowBytes_ok columns colors h1 h2 hcap, Nat.mul_mod_left _ _, ?_⟩
  rw [Nat.mul_div_cancel _ (Nat.mul_pos h1 h2), Int.toNat_natCast,
    tiffRows_tiffPredictRows colors (columns * colors) h2 _ x [] hxl hb]
  rfl

theorem pngPredicted_bad_tag (tag bpp : Nat) (prev : Option Str) (done : Str) (h : tag > 4) :
    pngPredicted tag bpp prev done = none := by
  unfold pngPredicted
  match tag, h with
  | n + 5, _ => rfl

theorem decodePNGRow_bad_tag (row : Str) (tag bpp : Nat) (prev : Option Str) (h : tag > 4) (hr : row ≠ []) :
    decodePNGRow row tag bpp prev = none := by
  unfold decodePNGRow
  cases row with
  | nil => exact absurd rfl hr
  | cons f fs => simp [decRow, pngPredicted_bad_tag tag bpp prev [] h]

/-- with a predictor that is defined on every prefix shorter than the row (`hP`), the row loop never fails, and
what it appends to `done` is a row of bytes whose filtered form is the input -/
theorem decRow_char (P : Str → Option Nat) (P' : Str → Nat) (n : Nat)
    (hP : ∀ done : Str, done.length < n → P done = some (P' done)) :
    ∀ (f done : Str), done.length + f.length = n →
      ∃ r, decRow P f done = some (done ++ r) ∧ r.length = f.length ∧ (∀ b ∈ r, b < 256) ∧
        ((∀ b ∈ f, b < 256) → encRow P' r done = f) := by
  intro f
  induction f with
  | nil => intro done _; exact ⟨[], by rw [List.append_nil]; rfl, rfl, nofun, fun _ => rfl⟩
  | cons b bs ih =>
    intro done hlen
    rw [List.length_cons] at hlen
    obtain ⟨r, hdec, hrl, hrb, henc⟩ := ih (done ++ [(b + P' done) % 256]) (by simp; omega)
    refine ⟨(b + P' done) % 256 :: r, ?_, by rw [List.length_cons, hrl, List.length_cons],
      List.forall_mem_cons.mpr ⟨Nat.mod_lt _ (by decide), hrb⟩, fun hb => ?_⟩
    · rw [decRow, hP done (by omega)]
      exact hdec.trans (by rw [List.append_assoc]; rfl)
    · have hb0 : b < 256 := hb b (List.mem_cons_self ..)
      have e : ((b + P' done) % 256 + 256 - P' done % 256) % 256 = b := by omega
      rw [encRow, e, henc fun x hx => hb x (List.mem_cons_of_mem _ hx)]

/-- `decodePNGRow` with a filter-type byte 0..4 never fails (in Go: never an index panic), whatever the data,
and returns a row of bytes whose filtered form is the input -/
theorem decodePNGRow_char (tag bpp : Nat) (prev : Option Str) (prior f : Str) (htag : tag ≤ 4) (hb : 1 ≤ bpp)
    (hrel : PriorRel prev prior f.length) :
    ∃ row, decodePNGRow f tag bpp prev = some row ∧ row.length = f.length ∧ (∀ b ∈ row, b < 256) ∧
      ((∀ b ∈ f, b < 256) → encRow (specPredAt tag bpp prior) row [] = f) :=
  decRow_char (pngPredicted tag bpp prev) (specPredAt tag bpp prior) f.length
    (fun done hd => pngPredicted_eq_spec tag bpp prev prior done f.length htag hb hrel hd) f [] (Nat.zero_add _)

/-- the row loop of `applyPNGPredictor` on whole rows: it fails at a row that starts with a byte above 4, and
otherwise returns rows of bytes whose PNG-filtered form (with the bytes `tags` the rows start with, all ≤ 4) the
data is -/
theorem pngRows_char (bpp rowLen : Nat) (hb : 1 ≤ bpp) (hrow : 1 ≤ rowLen) :
    ∀ (n : Nat) (data prior : Str) (prev : Option Str) (acc : List Str),
      data.length = n * (rowLen + 1) → PriorRel prev prior rowLen →
      (pngRows n rowLen bpp data prev acc = none ∧ ∃ k t, k < n ∧ data[k * (rowLen + 1)]? = some t ∧ t > 4) ∨
      ∃ tags y, tags.length = n ∧ (∀ t ∈ tags, t ≤ 4) ∧ (∀ k, k < n → data[k * (rowLen + 1)]? = tags[k]?) ∧
        y.length = n * rowLen ∧ (∀ b ∈ y, b < 256) ∧
        pngRows n rowLen bpp data prev acc = some (acc.reverse.flatten ++ y) ∧
        ((∀ b ∈ data, b < 256) → data = pngPredictRows bpp rowLen tags y prior) := by
  intro n
  induction n with
  | zero =>
    intro data prior prev acc hlen _
    obtain rfl : data = [] := List.eq_nil_of_length_eq_zero (by omega)
    exact .inr ⟨[], [], rfl, nofun, nofun, (Nat.zero_mul _).symm, nofun, by rw [List.append_nil]; rfl, fun _ => rfl⟩
  | succ n ih =>
    intro data prior prev acc hlen hrel
    cases data with
    | nil => simp [Nat.add_mul] at hlen
    | cons tag body =>
      obtain ⟨htl, hdl⟩ := first_tagged_row hlen
      by_cases ht4 : tag ≤ 4
      · obtain ⟨row, hrow, hrl, hrb, henc⟩ := decodePNGRow_char tag bpp prev prior (body.take rowLen) ht4 hb
          (by rw [htl]; exact hrel)
        rw [htl] at hrl
        have hstep : pngRows (n + 1) rowLen bpp (tag :: body) prev acc =
            pngRows n rowLen bpp (body.drop rowLen) (some row) (row :: acc) := by simp only [pngRows, hrow]
        rw [hstep]
        -- row `k + 1` of the data is row `k` of what follows the first row
        have hnext : ∀ k, (tag :: body)[(k + 1) * (rowLen + 1)]? = (body.drop rowLen)[k * (rowLen + 1)]? := by
          intro k
          have e : (k + 1) * (rowLen + 1) = (rowLen + k * (rowLen + 1)) + 1 := by rw [Nat.add_mul]; omega
          rw [e, List.getElem?_cons_succ, List.getElem?_drop]
        rcases ih (body.drop rowLen) row (some row) (row :: acc) hdl (Or.inr ⟨rfl, hrl⟩) with
          ⟨hnone, k, t, hk, ht, hgt⟩ | ⟨tags, y, htn, htags, hheads, hyl, hyb, hout, hdata⟩
        · exact .inl ⟨hnone, k + 1, t, by omega, (hnext k).trans ht, hgt⟩
        · refine .inr ⟨tag :: tags, row ++ y, by rw [List.length_cons, htn], List.forall_mem_cons.mpr ⟨ht4, htags⟩,
            fun k hk => ?_, by rw [List.length_append, hrl, hyl, Nat.add_mul]; omega,
            List.forall_mem_append.mpr ⟨hrb, hyb⟩, by rw [hout]; simp, fun hbytes => ?_⟩
          · cases k with
            | zero => rw [Nat.zero_mul]; rfl
            | succ k => exact (hnext k).trans (hheads k (by omega))
          rw [pngPredictRows, List.take_left' hrl, List.drop_left' hrl,
            henc fun b hbm => hbytes b (List.mem_cons_of_mem _ (List.mem_of_mem_take hbm)),
            ← hdata fun b hbm => hbytes b (List.mem_cons_of_mem _ (List.mem_of_mem_drop hbm)),
            List.cons_append, List.take_append_drop]
      · refine .inl ⟨?_, 0, tag, by omega, by rw [Nat.zero_mul]; rfl, by omega⟩
        have hne : body.take rowLen ≠ [] := fun h => by rw [h, List.length_nil] at htl; omega
        simp only [pngRows, decodePNGRow_bad_tag _ tag bpp prev (by omega) hne]

/-- the row loop of `applyTIFFPredictor2` on whole rows never fails (in Go: `result[idx-colors]` is always inside
the buffer); it returns rows of bytes whose horizontal differencing the data is -/
theorem tiffRows_char (colors rowLen : Nat) (hc : 1 ≤ colors) :
    ∀ (n : Nat) (data : Str) (acc : List Str), data.length = n * rowLen →
      ∃ y, y.length = n * rowLen ∧ (∀ b ∈ y, b < 256) ∧
        tiffRows n rowLen colors data acc = some (acc.reverse.flatten ++ y) ∧
        ((∀ b ∈ data, b < 256) → data = tiffPredictRows colors rowLen n y) := by
  intro n
  induction n with
  | zero =>
    intro data acc hlen
    obtain rfl : data = [] := List.eq_nil_of_length_eq_zero (by omega)
    exact ⟨[], (Nat.zero_mul _).symm, nofun, by rw [List.append_nil]; rfl, fun _ => rfl⟩
  | succ n ih =>
    intro data acc hlen
    obtain ⟨htl, hdl⟩ := first_row hlen
    obtain ⟨row, hrow, hrl, hrb, henc⟩ := decRow_char (tiffPredicted colors) (specTiffAt colors) (data.take rowLen).length
      (fun done _ => tiffPredicted_eq_spec colors hc done) (data.take rowLen) [] (Nat.zero_add _)
    rw [List.nil_append] at hrow
    rw [htl] at hrl
    obtain ⟨y, hyl, hyb, hout, hdata⟩ := ih (data.drop rowLen) (row :: acc) hdl
    refine ⟨row ++ y, by rw [List.length_append, hrl, hyl, Nat.add_mul]; omega, List.forall_mem_append.mpr ⟨hrb, hyb⟩,
      by simp only [tiffRows, hrow, hout]; simp, fun hbytes => ?_⟩
    rw [tiffPredictRows, List.take_left' hrl, List.drop_left' hrl,
      henc fun b hbm => hbytes b (List.mem_of_mem_take hbm),
      ← hdata fun b hbm => hbytes b (List.mem_of_mem_drop hbm), List.take_append_drop]

theorem decRow_none_head (P : Str → Option Nat) (f : Nat) (fs done : Str) (h : P done = none) :
    decRow P (f :: fs) done = none := by
  simp [decRow, h]

end Tabula.Filters
