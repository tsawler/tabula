import TabulaModel.Lemmas.Expand
/-!
A checkable criterion for `Balanced`: counting `q` and `Q`.

`depthAfter d ops` is the q/Q depth after `ops` started at depth `d` (`none` when a `Q`
meets depth 0); forms do not count.  A program that returns from 0 to 0 and whose forms
have balanced content is `Balanced` (`balanced_of_depth`, the Dyck-word parsing argument,
for any starting depth `k`: `k` balanced pieces, each followed by a `Q`, then a balanced
piece — `layers_of_depth`, one induction over the program).  On documents: when every form object's
content stream counts from 0 to 0 (`DocBalanced`, on the RAW operations), every form node
of every unfolding has balanced content (`expandForm_balanced`).
-/
namespace Tabula.XDoc
open Tabula Tabula.GState

variable {α : Type}

/-- q/Q depth after the program; `none`: a `Q` at depth 0 -/
def depthAfter : Nat → List (Op α) → Option Nat
  | d, [] => some d
  | d, op :: rest =>
    match op with
    | .q => depthAfter (d + 1) rest
    | .Q => match d with
      | 0 => none
      | d' + 1 => depthAfter d' rest
    | _ => depthAfter d rest

theorem depthAfter_q (d : Nat) (rest : List (Op α)) : depthAfter d (Op.q :: rest) = depthAfter (d + 1) rest := rfl
theorem depthAfter_Q_zero (rest : List (Op α)) : depthAfter 0 (Op.Q :: rest) = none := rfl
theorem depthAfter_Q_succ (d : Nat) (rest : List (Op α)) : depthAfter (d + 1) (Op.Q :: rest) = depthAfter d rest := rfl

theorem depthAfter_other (d : Nat) (op : Op α) (rest : List (Op α)) (hq : op ≠ Op.q) (hQ : op ≠ Op.Q) :
    depthAfter d (op :: rest) = depthAfter d rest := by
  rw [depthAfter]
  · exact hq
  · exact hQ

theorem depthAfter_append (d : Nat) (a b : List (Op α)) :
    depthAfter d (a ++ b) = (depthAfter d a).bind fun d' => depthAfter d' b := by
  fun_induction depthAfter d a with
  | case1 d => rfl
  | case2 d rest ih => exact ih
  | case3 rest => rfl
  | case4 rest d ih => exact ih
  | case5 d op rest hq hQ ih =>
    rw [List.cons_append, depthAfter_other _ _ _ hq hQ]
    exact ih

/-- what takes the depth from `k` to 0: `k` balanced pieces, each followed by the `Q` that
leaves one level, then a last balanced piece -/
inductive Layers : Nat → List (Op α) → Prop where
  | base {b : List (Op α)} : Balanced b → Layers 0 b
  | more {k : Nat} {b rest : List (Op α)} : Balanced b → Layers k rest → Layers (k + 1) (b ++ Op.Q :: rest)

/-- an operator that may stand in front of a balanced program may stand in front of the first piece -/
theorem Layers.cons {op : Op α} (h : ∀ b, Balanced b → Balanced (op :: b)) {k : Nat} {l : List (Op α)}
    (hl : Layers k l) : Layers k (op :: l) := by
  cases hl with
  | base hb => exact .base (h _ hb)
  | more hb hr => exact .more (h _ hb) hr

/-- a `q` in front closes over the first piece and its `Q`, and joins the second piece -/
theorem Layers.cons_q {k : Nat} {l : List (Op α)} (hl : Layers (k + 1) l) : Layers k (Op.q :: l) := by
  cases hl with
  | more hb hr =>
    cases hr with
    | base hb' => exact .base (.qQ _ _ hb hb')
    | more hb' hr' =>
      rw [← List.cons_append, ← List.cons_append, ← List.append_assoc]
      exact .more (.qQ _ _ hb hb') hr'

/-- the Dyck-word parsing argument, for any starting depth -/
theorem layers_of_depth (ops : List (Op α)) :
    ∀ k, FormsBalanced ops → depthAfter k ops = some 0 → Layers k ops := by
  induction ops with
  | nil =>
    intro k _ hd
    cases hd
    exact .base .nil
  | cons op t ih =>
    intro k hfb hd
    by_cases hq : op = Op.q
    · subst hq
      exact (ih _ hfb.tail hd).cons_q
    · by_cases hQ : op = Op.Q
      · subst hQ
        cases k with
        | zero => cases hd
        | succ k => exact .more (b := []) .nil (ih k hfb.tail hd)
      · rw [depthAfter_other _ _ _ hq hQ] at hd
        refine (ih k hfb.tail hd).cons fun b hb => ?_
        by_cases hf : ∃ m body, op = Op.form m body
        · obtain ⟨m, body, rfl⟩ := hf
          exact .form m body b (hfb m body List.mem_cons_self) hb
        · refine .plain op b ?_ hb
          cases op <;> first | rfl | exact absurd rfl hq | exact absurd rfl hQ | exact absurd ⟨_, _, rfl⟩ hf

/-- **counting suffices**: a program that takes the q/Q depth from 0 back to 0 without
going below, and whose forms have balanced content, is `Balanced` -/
theorem balanced_of_depth (ops : List (Op α)) (hfb : FormsBalanced ops) (hd : depthAfter 0 ops = some 0) :
    Balanced ops := by
  cases layers_of_depth ops 0 hfb hd with
  | base hb => exact hb

section
variable [Lean.Grind.CommRing α]

/-- q/Q depth after a content stream as the parser delivers it: what its operations decode
to is counted, `Do` is not -/
def rawDepthAfter : Nat → List (RawOp α) → Option Nat
  | d, [] => some d
  | d, op :: rest =>
    match decodeOp op with
    | .ops l => (depthAfter d l).bind fun d' => rawDepthAfter d' rest
    | .xobj _ => rawDepthAfter d rest

/-- every form object of the document has a content stream balanced in q/Q
(ISO 32000-1 8.10.1), counted on the raw operations; nothing is asked of objects that are
not forms, of names, of resources, or of the shape of the form graph -/
def DocBalanced (doc : Doc α) : Prop :=
  ∀ n f, doc n = some (Obj.form f) → rawDepthAfter 0 (formBody f) = some 0

omit [Lean.Grind.CommRing α] in
theorem depthAfter_node (d : Nat) (n : Node α) : depthAfter d n.toOps = some d := by
  cases n with
  | none => rfl
  | some p => obtain ⟨m, body⟩ := p; rfl

theorem depthAfter_expandOps (inv : Name → Acct → Node α × Acct) (ops : List (RawOp α)) :
    ∀ (a : Acct) (d : Nat), depthAfter d (expandOps inv ops a).1 = rawDepthAfter d ops := by
  induction ops with
  | nil => intro a d; rfl
  | cons op rest ih =>
    intro a d
    cases hdec : decodeOp op with
    | ops l =>
      simp only [expandOps, rawDepthAfter, hdec, depthAfter_append]
      cases depthAfter d l with
      | none => rfl
      | some d' => simp only [Option.bind_some, ih]
    | xobj name =>
      simp only [expandOps, rawDepthAfter, hdec, depthAfter_append, depthAfter_node, Option.bind_some, ih]

omit [Lean.Grind.CommRing α] in
theorem lookupForm_mem (doc : Doc α) (res : Res) (name : Name) (f : FormObj α)
    (h : lookupForm doc res name = some f) : ∃ n, doc n = some (Obj.form f) := by
  revert h
  fun_cases lookupForm doc res name <;> intro h <;> cases h
  exact ⟨_, ‹_›⟩

/-- the content of an unfolded node is balanced -/
def NodeBalanced (n : Node α) : Prop :=
  match n with
  | none => True
  | some p => Balanced p.2

theorem expandOps_formsBalanced (inv : Name → Acct → Node α × Acct)
    (h : ∀ name a, NodeBalanced (inv name a).1) (ops : List (RawOp α)) :
    ∀ a : Acct, FormsBalanced (expandOps inv ops a).1 := by
  intro a
  fun_induction expandOps inv ops a with
  | case1 a => nofun
  | case2 op rest a l hdec e ih =>
    have hff := decodeOp_formFree op
    rw [hdec] at hff
    exact .append (fun m body hm => absurd rfl (hff _ hm m body)) ih
  | case3 op rest a name hdec r e ih =>
    refine .append ?_ ih
    have hn : NodeBalanced r.1 := h name a
    cases hr : r.1 with
    | none => nofun
    | some p =>
      rw [hr] at hn
      exact .cons (fun _ _ e => by cases e; exact hn) nofun

/-- **in a balanced document every unfolded form has balanced content**, whatever the
names, scopes, sharing and recursion: by induction on the recursion bound, each level by
the counting criterion -/
theorem expandForm_balanced (doc : Doc α) (hdoc : DocBalanced doc) (fuel : Nat) :
    ∀ (depth : Nat) (res : Res) (name : Name) (a : Acct),
      NodeBalanced (expandForm doc fuel depth res name a).1 := by
  induction fuel with
  | zero => intro depth res name a; simp [expandForm, NodeBalanced]
  | succ fuel ih =>
    intro depth res name a
    rw [expandForm_succ]
    cases hadm : admission doc res depth a.bytes name with
    | skip => trivial
    | refuse f => trivial
    | run f =>
      show Balanced _
      obtain ⟨n, hn⟩ := lookupForm_mem doc res name f (admission_run hadm).2.1
      have hfb := expandOps_formsBalanced (expandForm doc fuel (depth + 1) (formResources doc res f))
        (ih (depth + 1) (formResources doc res f)) (formBody f) (a.charge f.len)
      have hd := depthAfter_expandOps (expandForm doc fuel (depth + 1) (formResources doc res f))
        (formBody f) (a.charge f.len) 0
      rw [hdoc n f hn] at hd
      exact balanced_of_depth _ hfb hd

omit [Lean.Grind.CommRing α] in
theorem expandNone_balanced (name : Name) (a : Acct) : NodeBalanced (expandNone (α := α) name a).1 := trivial

end
end Tabula.XDoc
