import TabulaModel.Model.MarkdownDoc
import TabulaModel.Lemmas.Markdown
/-!
The list item lines of the writers that number their items themselves (docx, odt, the list chunk of
the PDF pipeline): indentation, `- ` or the counter's value and `. `, the text.  While the counters
are not negative such a line is `listLine` of the item (`itemLine_bullet`, `itemLine_number`).
-/
namespace Tabula.MarkdownDoc
open Tabula.A1 (Str dec decInt)
open Tabula.Markdown

def ctrNN (m : Ctr) : Prop := ∀ e ∈ m, 0 ≤ e.2
def ctrsNN (cs : Ctrs) : Prop := ∀ e ∈ cs, ctrNN e.2

theorem ctrGet_nonneg (m : Ctr) (k : Int) (h : ctrNN m) : 0 ≤ ctrGet m k := by
  unfold ctrGet ctrGet?
  cases hf : m.find? (fun e => e.1 == k) with
  | none => simp
  | some e => simpa using h e (List.mem_of_find?_eq_some hf)

theorem ctrNN_set (m : Ctr) (k v : Int) (h : ctrNN m) (hv : 0 ≤ v) : ctrNN (ctrSet m k v) := by
  intro e he
  rcases List.mem_cons.mp he with rfl | he
  · exact hv
  · exact h e (List.mem_filter.mp he).1

theorem ctrNN_filter (m : Ctr) (f : Int × Int → Bool) (h : ctrNN m) : ctrNN (m.filter f) :=
  fun e he => h e (List.mem_filter.mp he).1

theorem ctrNN_get (cs : Ctrs) (id : Str) (h : ctrsNN cs) : ctrNN (ctrsGet cs id) := by
  unfold ctrsGet
  cases hf : cs.find? (fun e => e.1 == id) with
  | none => intro e he; simp at he
  | some e => exact h e (List.mem_of_find?_eq_some hf)

theorem ctrsNN_set (cs : Ctrs) (id : Str) (c : Ctr) (h : ctrsNN cs) (hc : ctrNN c) : ctrsNN (ctrsSet cs id c) := by
  intro e he
  rcases List.mem_cons.mp he with rfl | he
  · exact hc
  · exact h e (List.mem_filter.mp he).1

theorem decInt_nonneg (i : Int) (h : 0 ≤ i) : decInt i = dec i.toNat := by
  unfold Tabula.A1.decInt
  have : ¬ i < 0 := by omega
  simp only [this, if_false]
  congr 1
  omega

theorem itemLine_bullet (lvl : Int) (txt : Str) :
    indent2 lvl ++ [45, 32] ++ txt = listLine ⟨lvl.toNat, false, 1, txt⟩ := rfl

theorem itemLine_number (lvl n : Int) (hn : 0 ≤ n) (txt : Str) :
    indent2 lvl ++ decInt n ++ [46, 32] ++ txt = listLine ⟨lvl.toNat, true, n.toNat, txt⟩ := by
  rw [decInt_nonneg n hn]
  simp only [listLine, indent2, if_true, List.append_assoc]

theorem decInt_noNl (i : Int) : 10 ∉ decInt i := by
  unfold Tabula.A1.decInt
  intro hm
  split at hm
  · rcases List.mem_cons.mp hm with h | h
    · omega
    · have := dec_digits _ 10 h; simp [isDigit] at this
  · have := dec_digits _ 10 hm; simp [isDigit] at this

theorem indent2_noNl (lvl : Int) : 10 ∉ indent2 lvl := by
  unfold indent2
  intro hm
  have := List.eq_of_mem_replicate hm
  omega

end Tabula.MarkdownDoc
