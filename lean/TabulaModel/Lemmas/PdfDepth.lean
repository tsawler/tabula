import TabulaModel.Model.Spell
/-!
Property C06, nesting depth: the depth of a validly spelled tree (`SObj.depth`, what the parsers
count in `p.depth`) is the depth of the object it denotes (`Obj.depth`, what the theorems speak
about).  Core Lean only.
-/
namespace Tabula.Pdf

mutual
theorem value_depth (so : SObj) (need : Bool) (hv : so.Valid need) : so.value.depth = so.depth := by
  cases so with
  | real _ r => simp only [SObj.value, RealSp.value, Obj.depth, SObj.depth]
  | arr pre items close =>
    simp only [SObj.value, Obj.depth, SObj.depth, valueList_depth items false hv.2.2]
  | dict pre kvs close =>
    simp only [SObj.value, Obj.depth, SObj.depth, valueKVs_depth kvs hv.2.2.1]
  | _ => rfl
theorem valueList_depth (xs : List SObj) (need : Bool) (hv : ValidList need xs) :
    Obj.depthList (valueList xs) = sdepthList xs := by
  match xs with
  | [] => rfl
  | x :: xs =>
    simp only [valueList, Obj.depthList, sdepthList, value_depth x need hv.1,
      valueList_depth xs x.endsRegular hv.2]
theorem valueKVs_depth (kvs : List SObj) (hv : ValidKVs kvs) :
    Obj.depthKV (valueKVs kvs) = sdepthList kvs := by
  match kvs with
  | [] => rfl
  | [_] => simp [ValidKVs] at hv
  | k :: v :: r =>
    obtain ⟨hkn, _, hvv, hv'⟩ := hv
    have hk : k.depth = 0 := by cases k <;> simp [SObj.isName] at hkn <;> rfl
    simp only [valueKVs, Obj.depthKV, sdepthList, value_depth v true hvv, valueKVs_depth r hv', hk]
    omega
end

/-- `k` arrays around `so`: `[[[… so …]]]` -/
def nestArr : Nat → SObj → SObj
  | 0, so => so
  | k + 1, so => .arr [] [nestArr k so] []

/-- `k` dictionaries around `so`: `<</K<</K … so … >>>>` (the value is written right after the key
when it starts with a delimiter, after a space otherwise) -/
def nestDict : Nat → SObj → SObj
  | 0, so => so
  | k + 1, so => .dict [] [.name [] [.raw 75], nestDict k so] []

theorem nestArr_valid (k : Nat) (so : SObj) (h : so.Valid false) : (nestArr k so).Valid false := by
  induction k with
  | zero => exact h
  | succ k ih => simp [nestArr, SObj.Valid, ValidList, SepOk, ih]

theorem nestArr_depth (k : Nat) (so : SObj) : (nestArr k so).value.depth = k + so.value.depth := by
  induction k with
  | zero => simp [nestArr]
  | succ k ih => simp only [nestArr, SObj.value, valueList, Obj.depth, Obj.depthList, ih]; omega

/-- one layer of `nestDict`: the key `/K` and a value that is valid after a regular character -/
theorem dictK_valid (x : SObj) (need : Bool) (h : x.Valid true) :
    (SObj.dict [] [.name [] [.raw 75], x] []).Valid need := by
  simp [SObj.Valid, ValidKVs, SepOk, SObj.isName, keysOf, NPiece.Ok, isWs, isDelim, h]

theorem nestDict_valid (k : Nat) (so : SObj) (need : Bool) (h : so.Valid true) :
    (nestDict (k + 1) so).Valid need := by
  induction k generalizing need with
  | zero => exact dictK_valid so need h
  | succ k ih => exact dictK_valid _ need (ih true)

theorem nestDict_depth (k : Nat) (so : SObj) : (nestDict k so).value.depth = k + so.value.depth := by
  induction k with
  | zero => simp [nestDict]
  | succ k ih => simp only [nestDict, SObj.value, valueKVs, Obj.depth, Obj.depthKV, ih]; omega

end Tabula.Pdf
