import TabulaModel.Lemmas.SplitOn
/-!
Lemmas for `Model/Sheet.lean` (C17, one worksheet): a fold of `Grid.modify` seen from one position
(`Grid.get_foldl_modify`), hence the marks of a merged region (`get_foldl_marks`) and the placement pass
as a list of writes (`placeRows_eq_writes`); the row-major rectangle of positions the double loops visit
(`rect`); the type switch branch by branch; a joined table split back
into lines and fields (`splitOn_table`); the merge loop as a fold over the longest prefix of the regions
that fits its budget (`mergeLoop_eq_foldl`, `appliedPrefix_spec`).
-/
namespace Tabula.Sheet
open Tabula.A1

/-- `Grid.modify` is the library's `List.modify`, on the row and then on the cell -/
theorem Grid.modify_eq (g : Grid) (r c : Nat) (f : Cell → Cell) :
    g.modify r c f = List.modify g r (fun row => List.modify row c f) := by
  unfold Grid.modify
  cases hr : g[r]? with
  | none => rw [List.modify_eq_self (List.getElem?_eq_none_iff.mp hr)]
  | some row =>
    rw [List.modify_eq_set, hr, Option.getD_some]
    obtain ⟨hlt, rfl⟩ := List.getElem?_eq_some_iff.mp hr
    cases hc : g[r][c]? with
    | none =>
      rw [List.modify_eq_self (List.getElem?_eq_none_iff.mp hc), List.set_getElem_self]
      simp only [hc]
    | some cell => simp only [List.modify_eq_set, hc, Option.getD_some]

theorem Grid.get_modify (g : Grid) (r c r' c' : Nat) (f : Cell → Cell) :
    (g.modify r c f).get r' c' =
      if r = r' ∧ c = c' then (g.get r c).map f else g.get r' c' := by
  rw [Grid.modify_eq]
  unfold Grid.get
  rw [List.getElem?_modify]
  by_cases h1 : r = r'
  · subst h1
    cases g[r]? with
    | none => simp
    | some row =>
      simp only [if_true, Functor.map, Option.map_some, Option.bind_some, List.getElem?_modify, true_and]
      by_cases h2 : c = c' <;> simp [h2]
  · cases g[r']? <;> simp [h1]

theorem Grid.modify_length (g : Grid) (r c : Nat) (f : Cell → Cell) :
    (g.modify r c f).length = g.length := by
  rw [Grid.modify_eq, List.length_modify]

/-- a fold of modifications, each at its own position, seen from one position: exactly the
modifications addressed to it, in order; everything else is invisible there -/
theorem Grid.get_foldl_modify {α : Type} (pos : α → Nat × Nat) (f : α → Cell → Cell) (as : List α)
    (g : Grid) (r c : Nat) :
    (as.foldl (fun g a => g.modify (pos a).1 (pos a).2 (f a)) g).get r c =
      (g.get r c).map fun cell =>
        (as.filter fun a => (pos a).1 = r ∧ (pos a).2 = c).foldl (fun cell a => f a cell) cell := by
  induction as generalizing g with
  | nil => simp
  | cons a as ih =>
    simp only [List.foldl_cons]
    rw [ih, Grid.get_modify, List.filter_cons]
    by_cases h : (pos a).1 = r ∧ (pos a).2 = c
    · simp only [h, and_self, decide_true, if_true, List.foldl_cons]
      rw [← h.1, ← h.2]
      cases g.get (pos a).1 (pos a).2 <;> rfl
    · simp only [h, decide_false, if_false, Bool.false_eq_true]

/-- the positions of a list equal to one position are its copies -/
theorem filter_pos_eq (ps : List (Nat × Nat)) (r c : Nat) :
    (ps.filter fun p => p.1 = r ∧ p.2 = c) = List.replicate (ps.count (r, c)) (r, c) := by
  have hpred : (fun p : Nat × Nat => decide (p.1 = r ∧ p.2 = c)) = (· == (r, c)) := by
    funext p; rw [Bool.eq_iff_iff]; simp [Prod.ext_iff]
  rw [hpred, List.filter_beq]

/-- what any number of marks of one region do to a cell -/
theorem marks_fold (m : Region) (qs : List (Nat × Nat)) (cell : Cell) :
    let res := qs.foldl (fun cell rc => markCell m rc cell) cell
    res.value = cell.value ∧ res.type = cell.type ∧
      res.merged = (cell.merged || !qs.isEmpty) ∧
      res.root = (cell.root || qs.any (fun rc => decide (rc.1 = m.sr ∧ rc.2 = m.sc))) := by
  induction qs generalizing cell with
  | nil => simp
  | cons q qs ih =>
    simp only [List.foldl_cons]
    obtain ⟨h1, h2, h3, h4⟩ := ih (markCell m q cell)
    refine ⟨?_, ?_, ?_, ?_⟩
    · rw [h1]; unfold markCell; split <;> rfl
    · rw [h2]; unfold markCell; split <;> rfl
    · rw [h3]; unfold markCell; split <;> simp
    · rw [h4]; unfold markCell
      by_cases hq1 : q.1 = m.sr <;> by_cases hq2 : q.2 = m.sc <;> simp [hq1, hq2]

/-- the summary of a cell the merge pass works on -/
structure CellMarks where
  value : Str
  type : CType
  merged : Bool
  root : Bool
  deriving DecidableEq

def marksOf (c : Cell) : CellMarks := ⟨c.value, c.type, c.merged, c.root⟩

theorem map_marksOf_eq_some {o : Option Cell} {k : CellMarks} (h : o.map marksOf = some k) :
    ∃ cell, o = some cell ∧ cell.value = k.value ∧ cell.type = k.type ∧ cell.merged = k.merged ∧
      cell.root = k.root := by
  cases o with
  | none => cases h
  | some cell => cases h; exact ⟨cell, rfl, rfl, rfl, rfl, rfl⟩

/-- what one region does to the summary of a cell: `hit` = the merge pass visits the position,
`corner` = the position is the region's top-left -/
def CellMarks.mark (k : CellMarks) (hit corner : Bool) : CellMarks :=
  { k with merged := k.merged || hit, root := k.root || (hit && corner) }

/-- **the marks of one region, made at the positions `ps`, seen from position `(r,c)`**: value and
type stay, `merged` is set if the position is one of them, `root` if it is also the region's top-left -/
theorem get_foldl_marks (m : Region) (ps : List (Nat × Nat)) (g : Grid) (r c : Nat) :
    ((ps.foldl (fun g (rc : Nat × Nat) => g.modify rc.1 rc.2 (markCell m rc)) g).get r c).map marksOf =
      ((g.get r c).map marksOf).map fun k => k.mark (decide ((r, c) ∈ ps)) (decide (r = m.sr ∧ c = m.sc)) := by
  have hget := Grid.get_foldl_modify id (markCell m) ps g r c
  simp only [id] at hget
  rw [hget]
  cases g.get r c with
  | none => rfl
  | some cell =>
    obtain ⟨h1, h2, h3, h4⟩ := marks_fold m (ps.filter fun p => p.1 = r ∧ p.2 = c) cell
    simp only [Option.map_some, Option.some.injEq, marksOf, CellMarks.mark]
    rw [h1, h2, h3, h4, filter_pos_eq, List.isEmpty_replicate, List.any_replicate]
    by_cases h : (r, c) ∈ ps
    · simp [h, Nat.ne_of_gt (List.count_pos_iff.mpr h)]
    · simp [h, List.count_eq_zero.mpr h]

/-- the positions of a rectangle, row-major as the Go double loops visit them: `a` rows from `sr`, `b` columns
from `sc` (`regionCells`, `Wb.visited` and `Wb.gridPos` are such rectangles) -/
def rect (sr a sc b : Nat) : List (Nat × Nat) :=
  (List.range a).flatMap fun dr => (List.range b).map fun dc => (sr + dr, sc + dc)

theorem mem_rect {sr a sc b r c : Nat} : (r, c) ∈ rect sr a sc b ↔ (sr ≤ r ∧ r < sr + a) ∧ (sc ≤ c ∧ c < sc + b) := by
  simp only [rect, List.mem_flatMap, List.mem_range, List.mem_map, Prod.mk.injEq]
  constructor
  · rintro ⟨dr, hdr, dc, hdc, rfl, rfl⟩; omega
  · rintro ⟨⟨h1, h2⟩, h3, h4⟩
    exact ⟨r - sr, by omega, c - sc, by omega, by omega, by omega⟩

theorem length_rect (sr a sc b : Nat) : (rect sr a sc b).length = a * b := by
  unfold rect
  induction a with
  | zero => simp
  | succ a ih => simp [List.range_succ, List.flatMap_append, ih, Nat.succ_mul]

theorem nodup_rect (sr a sc b : Nat) : (rect sr a sc b).Nodup := by
  unfold rect
  rw [List.nodup_iff_pairwise_ne, List.pairwise_flatMap]
  constructor
  · intro dr _
    rw [List.pairwise_map]
    exact List.Pairwise.imp (fun h e => h (by simp only [Prod.mk.injEq] at e; omega)) (List.nodup_iff_pairwise_ne.mp List.nodup_range)
  · refine List.Pairwise.imp ?_ (List.nodup_iff_pairwise_ne.mp (List.nodup_range (n := a)))
    intro d1 d2 hne x hx y hy e
    simp only [List.mem_map] at hx hy
    obtain ⟨c1, _, rfl⟩ := hx
    obtain ⟨c2, _, h2⟩ := hy
    rw [← h2] at e
    simp only [Prod.mk.injEq] at e
    omega

theorem regionCells_eq (m : Region) : regionCells m = rect m.sr (m.er + 1 - m.sr) m.sc (m.ec + 1 - m.sc) := rfl

theorem mem_regionCells (m : Region) (r c : Nat) :
    (r, c) ∈ regionCells m ↔ (m.sr ≤ r ∧ r ≤ m.er) ∧ (m.sc ≤ c ∧ c ≤ m.ec) := by
  rw [regionCells_eq, mem_rect]; omega

theorem cellContent_tS {shared : List Str} {x : CellXML} {old : Cell} (h : x.t = tS) :
    cellContent shared x old =
      { old with type := .str, value := match atoi x.v with
        | some idx => if 0 ≤ idx then (match shared[idx.toNat]? with | some s => s | none => old.value) else old.value
        | none => old.value } := by
  unfold cellContent; rw [if_pos h]; rfl

theorem cellContent_tB {shared : List Str} {x : CellXML} {old : Cell} (h : x.t = tB) :
    cellContent shared x old = { old with type := .bool, value := if x.v = [49] then sTRUE else sFALSE } := by
  unfold cellContent; rw [if_neg (by rw [h]; decide), if_pos h]

theorem cellContent_tE {shared : List Str} {x : CellXML} {old : Cell} (h : x.t = tE) :
    cellContent shared x old = { old with type := .err, value := x.v } := by
  unfold cellContent; rw [if_neg (by rw [h]; decide), if_neg (by rw [h]; decide), if_pos h]

theorem cellContent_tStr {shared : List Str} {x : CellXML} {old : Cell} (h : x.t = tStr) :
    cellContent shared x old = { old with type := .str, value := x.v } := by
  unfold cellContent
  rw [if_neg (by rw [h]; decide), if_neg (by rw [h]; decide), if_neg (by rw [h]; decide), if_pos h]

theorem cellContent_tInline {shared : List Str} {x : CellXML} {old : Cell} (h : x.t = tInline) :
    cellContent shared x old =
      { old with type := .str, value := match x.is with | some s => s | none => old.value } := by
  unfold cellContent
  rw [if_neg (by rw [h]; decide), if_neg (by rw [h]; decide), if_neg (by rw [h]; decide),
    if_neg (by rw [h]; decide), if_pos h]
  rfl

/-- an element without one of the five type attributes the switch knows: a cached `<v>` makes a
number, else an `<f>` a formula without value, else nothing is written -/
theorem cellContent_untyped {shared : List Str} {x : CellXML} {old : Cell}
    (ht : x.t ≠ tS ∧ x.t ≠ tB ∧ x.t ≠ tE ∧ x.t ≠ tStr ∧ x.t ≠ tInline) :
    cellContent shared x old =
      if x.v ≠ [] then { old with type := .num, value := x.v }
      else if x.f ≠ [] then { old with type := .formula, value := [] } else old := by
  unfold cellContent
  rw [if_neg ht.1, if_neg ht.2.1, if_neg ht.2.2.1, if_neg ht.2.2.2.1, if_neg ht.2.2.2.2]

/-- the switch leaves the cell alone or writes a type other than `empty` and a value: no other
field is touched -/
theorem cellContent_cases (shared : List Str) (x : CellXML) (old : Cell) :
    cellContent shared x old = old ∨
      ∃ t v, t ≠ CType.empty ∧ cellContent shared x old = { old with type := t, value := v } := by
  by_cases h1 : x.t = tS
  · exact .inr ⟨_, _, by decide, cellContent_tS h1⟩
  by_cases h2 : x.t = tB
  · exact .inr ⟨_, _, by decide, cellContent_tB h2⟩
  by_cases h3 : x.t = tE
  · exact .inr ⟨_, _, by decide, cellContent_tE h3⟩
  by_cases h4 : x.t = tStr
  · exact .inr ⟨_, _, by decide, cellContent_tStr h4⟩
  by_cases h5 : x.t = tInline
  · exact .inr ⟨_, _, by decide, cellContent_tInline h5⟩
  rw [cellContent_untyped ⟨h1, h2, h3, h4, h5⟩]
  by_cases hv : x.v ≠ []
  · rw [if_pos hv]; exact .inr ⟨_, _, by decide, rfl⟩
  by_cases hf : x.f ≠ []
  · rw [if_neg hv, if_pos hf]; exact .inr ⟨_, _, by decide, rfl⟩
  · rw [if_neg hv, if_neg hf]; exact .inl rfl

/-- a cell produced by the loader has a value only if it has a type -/
theorem cellContent_typed (shared : List Str) (cx : CellXML) (old : Cell)
    (h : old.type = .empty → old.value = []) :
    (cellContent shared cx old).type = .empty → (cellContent shared cx old).value = [] := by
  rcases cellContent_cases shared cx old with h' | ⟨t, v, ht, h'⟩ <;> rw [h']
  · exact h
  · exact fun he => absurd he ht

/-- the effective writes `(rowIdx, col, cellXML)` one `<row>` makes into a grid with `n` rows -/
def rowWrites (n : Nat) (row : RowXML) : List (Nat × Nat × CellXML) :=
  if row.r - 1 < 0 then [] else if (row.r - 1).toNat ≥ n then [] else
  row.cells.filterMap fun x => (refCol x.ref).map fun col => ((row.r - 1).toNat, col, x)

/-- the flattened list of effective writes of the second pass -/
def writes (n : Nat) (rows : List RowXML) : List (Nat × Nat × CellXML) :=
  rows.flatMap (rowWrites n)

def applyWrite (shared : List Str) (g : Grid) (w : Nat × Nat × CellXML) : Grid :=
  g.modify w.1 w.2.1 (cellContent shared w.2.2)

theorem placeCell_foldl (shared : List Str) (ri : Nat) (cells : List CellXML) (g : Grid) :
    cells.foldl (placeCell shared ri) g =
      (cells.filterMap fun x => (refCol x.ref).map fun col => (ri, col, x)).foldl (applyWrite shared) g := by
  rw [List.foldl_filterMap]
  congr 1
  funext g x
  unfold placeCell
  cases refCol x.ref <;> rfl

theorem applyWrite_length (shared : List Str) (g : Grid) (w) :
    (applyWrite shared g w).length = g.length := Grid.modify_length _ _ _ _

theorem foldl_applyWrite_length (shared : List Str) (ws : List (Nat × Nat × CellXML)) (g : Grid) :
    (ws.foldl (applyWrite shared) g).length = g.length :=
  List.foldlRecOn (motive := fun g' => g'.length = g.length) ws _ rfl
    fun g' h w _ => (applyWrite_length shared g' w).trans h

theorem placeRow_eq (shared : List Str) (g : Grid) (row : RowXML) :
    placeRow shared g row = (rowWrites g.length row).foldl (applyWrite shared) g := by
  unfold placeRow rowWrites
  split
  · rfl
  · split
    · rfl
    · exact placeCell_foldl _ _ _ _

theorem placeRow_length (shared : List Str) (g : Grid) (row : RowXML) :
    (placeRow shared g row).length = g.length := by
  rw [placeRow_eq, foldl_applyWrite_length]

theorem placeRows_eq_writes (shared : List Str) (rows : List RowXML) (g : Grid) :
    rows.foldl (placeRow shared) g = (writes g.length rows).foldl (applyWrite shared) g := by
  induction rows generalizing g with
  | nil => rfl
  | cons row rows ih =>
    simp only [List.foldl_cons, writes, List.flatMap_cons, List.foldl_append]
    rw [ih, placeRow_length, placeRow_eq]
    rfl

theorem get_foldl_applyWrite (shared : List Str) (ws : List (Nat × Nat × CellXML)) (g : Grid)
    (r c : Nat) :
    ((ws.foldl (applyWrite shared) g).get r c) =
      (g.get r c).map fun cell =>
        (ws.filter fun w => w.1 = r ∧ w.2.1 = c).foldl (fun cell w => cellContent shared w.2.2 cell) cell :=
  Grid.get_foldl_modify (fun w : Nat × Nat × CellXML => (w.1, w.2.1)) (fun w => cellContent shared w.2.2) ws g r c

theorem getElem?_map_map {α β : Type} (f : α → β) (t : List (List α)) (i j : Nat) :
    ((t.map (·.map f))[i]?).bind (·[j]?) = ((t[i]?).bind (·[j]?)).map f := by
  rw [List.getElem?_map]
  cases t[i]? with
  | none => rfl
  | some row => exact List.getElem?_map

/-- a table written as newline-joined lines of `d`-joined fields splits back into its lines, when
no field contains a newline -/
theorem splitOn_table_lines {α : Type} (f : α → Str) (d : Nat) (hd : d ≠ 10) (t : List (List α)) (ht : t ≠ [])
    (hclean : ∀ row ∈ t, ∀ a ∈ row, 10 ∉ f a) :
    splitOn 10 (intercalate [10] (t.map fun row => intercalate [d] (row.map f))) =
      t.map fun row => intercalate [d] (row.map f) := by
  apply splitOn_intercalate 10 _ (by simpa using ht)
  intro line hline
  obtain ⟨row, hrow, rfl⟩ := List.mem_map.mp hline
  apply not_mem_intercalate d 10 _ (fun h => hd h.symm)
  intro x hx
  obtain ⟨a, ha, rfl⟩ := List.mem_map.mp hx
  exact hclean row hrow a ha

/-- **line `r` / field `c` of such a text is entry `(r,c)` of the table**, for every one-byte
delimiter `d` other than the newline that occurs in no field -/
theorem splitOn_table {α : Type} (f : α → Str) (d : Nat) (hd : d ≠ 10) (t : List (List α)) (ht : t ≠ [])
    (hrows : ∀ row ∈ t, row ≠ []) (hclean : ∀ row ∈ t, ∀ a ∈ row, d ∉ f a ∧ 10 ∉ f a) (r c : Nat) :
    ((splitOn 10 (intercalate [10] (t.map fun row => intercalate [d] (row.map f))))[r]?).bind
        (fun line => (splitOn d line)[c]?) = ((t[r]?).bind (·[c]?)).map f := by
  rw [splitOn_table_lines f d hd t ht (fun row hrow a ha => (hclean row hrow a ha).2), List.getElem?_map]
  cases hr : t[r]? with
  | none => rfl
  | some row =>
    have hrow : row ∈ t := List.mem_of_getElem? hr
    simp only [Option.map_some, Option.bind_some]
    rw [splitOn_intercalate d _ (by simpa using hrows row hrow), List.getElem?_map]
    intro x hx
    obtain ⟨a, ha, rfl⟩ := List.mem_map.mp hx
    exact (hclean row hrow a ha).1

/-- **the regions the merge loop applies**, from the region list and the grid dimensions only:
the longest prefix of the list whose clipped areas fit the budget (`appliedPrefix_spec`) -/
def appliedPrefix (nrows ncols : Nat) : List Region → Nat → List Region
  | [], _ => []
  | m :: ms, budget =>
    if clipArea nrows ncols m > budget then []
    else m :: appliedPrefix nrows ncols ms (budget - clipArea nrows ncols m)

/-- sum of the clipped areas of a list of regions -/
def areaSum (nrows ncols : Nat) (ms : List Region) : Nat := (ms.map (clipArea nrows ncols)).sum

/-- the rows of the clipped rectangle: the iterations of the outer (row) loop of the merge pass
for a region that is walked -/
def clipRows (nrows : Nat) (m : Region) : Nat := min (m.er + 1) nrows - m.sr

/-- the columns of the clipped rectangle -/
def clipCols (ncols : Nat) (m : Region) : Nat := min (m.ec + 1) ncols - m.sc

theorem clipArea_eq (nrows ncols : Nat) (m : Region) :
    clipArea nrows ncols m = clipRows nrows m * clipCols ncols m := rfl

/-- **the regions the merge loop walks**: those of the applied prefix with a cell inside the grid
(since the fix "merged regions with no cell inside the grid are skipped" no loop runs for the
others) -/
def walkedPrefix (nrows ncols : Nat) (ms : List Region) (budget : Nat) : List Region :=
  (appliedPrefix nrows ncols ms budget).filter fun m => decide (clipArea nrows ncols m > 0)

theorem mergeLoop_eq_foldl_walked (mark : Grid → Region → Grid) (nrows ncols : Nat) (ms : List Region)
    (budget : Nat) (g : Grid) :
    mergeLoop mark nrows ncols ms budget g = (walkedPrefix nrows ncols ms budget).foldl mark g := by
  unfold walkedPrefix
  induction ms generalizing budget g with
  | nil => rfl
  | cons m ms ih =>
    simp only [mergeLoop, appliedPrefix, clipArea]
    by_cases hz : min (m.er + 1) nrows - m.sr = 0 ∨ min (m.ec + 1) ncols - m.sc = 0
    · have hz' : (min (m.er + 1) nrows - m.sr) * (min (m.ec + 1) ncols - m.sc) = 0 := Nat.mul_eq_zero.mpr hz
      simp only [hz, if_true, hz', Nat.not_lt_zero, gt_iff_lt, if_false, Nat.sub_zero, List.filter_cons,
        Nat.lt_irrefl, decide_false, Bool.false_eq_true]
      exact ih _ _
    · have hpos : (min (m.er + 1) nrows - m.sr) * (min (m.ec + 1) ncols - m.sc) > 0 := by
        rcases Nat.eq_zero_or_pos ((min (m.er + 1) nrows - m.sr) * (min (m.ec + 1) ncols - m.sc)) with h | h
        · exact absurd (Nat.mul_eq_zero.mp h) hz
        · exact h
      simp only [hz, if_false]
      by_cases hgt : (min (m.er + 1) nrows - m.sr) * (min (m.ec + 1) ncols - m.sc) > budget
      · simp only [hgt, if_true, List.filter_nil, List.foldl_nil]
      · simp only [hgt, if_false, List.filter_cons, hpos, decide_true, if_true, List.foldl_cons]
        exact ih _ _

/-- the merge loop marks the regions of `appliedPrefix`, in order — for a `mark` that does nothing
for a region without a cell in the grid (the regions the loop skips), on the grids `P` it meets -/
theorem mergeLoop_eq_foldl (mark : Grid → Region → Grid) (nrows ncols : Nat) (P : Grid → Prop)
    (hP : ∀ g m, P g → P (mark g m))
    (hneutral : ∀ g m, P g → clipArea nrows ncols m = 0 → mark g m = g)
    (ms : List Region) (budget : Nat) (g : Grid) (hg : P g) :
    mergeLoop mark nrows ncols ms budget g = (appliedPrefix nrows ncols ms budget).foldl mark g := by
  rw [mergeLoop_eq_foldl_walked]
  unfold walkedPrefix
  generalize appliedPrefix nrows ncols ms budget = as
  induction as generalizing g with
  | nil => rfl
  | cons m as ih =>
    simp only [List.filter_cons, List.foldl_cons]
    by_cases h : clipArea nrows ncols m > 0
    · simp only [h, decide_true, if_true, List.foldl_cons]
      exact ih _ (hP g m hg)
    · simp only [h, decide_false, Bool.false_eq_true, if_false]
      rw [hneutral g m hg (by omega)]
      exact ih g hg

theorem areaSum_cons (nrows ncols : Nat) (m : Region) (ms : List Region) :
    areaSum nrows ncols (m :: ms) = clipArea nrows ncols m + areaSum nrows ncols ms := rfl

theorem areaSum_append (nrows ncols : Nat) (as bs : List Region) :
    areaSum nrows ncols (as ++ bs) = areaSum nrows ncols as + areaSum nrows ncols bs := by
  simp only [areaSum, List.map_append, List.sum_append]

/-- **the applied regions are the longest prefix of the list whose clipped areas fit the budget**: a
prefix; its areas fit; the first region left out, if any, would exceed the budget -/
theorem appliedPrefix_spec (nrows ncols : Nat) (ms : List Region) (budget : Nat) :
    ∃ rest, ms = appliedPrefix nrows ncols ms budget ++ rest ∧
      areaSum nrows ncols (appliedPrefix nrows ncols ms budget) ≤ budget ∧
      ∀ m rest', rest = m :: rest' →
        areaSum nrows ncols (appliedPrefix nrows ncols ms budget) + clipArea nrows ncols m > budget := by
  induction ms generalizing budget with
  | nil => exact ⟨[], rfl, Nat.zero_le _, nofun⟩
  | cons m0 ms ih =>
    rw [appliedPrefix]
    split
    · rename_i hgt
      refine ⟨m0 :: ms, rfl, Nat.zero_le _, fun m rest' h => ?_⟩
      cases h
      exact Nat.lt_of_lt_of_le hgt (Nat.le_add_left _ _)
    · obtain ⟨rest, h1, h2, h3⟩ := ih (budget - clipArea nrows ncols m0)
      refine ⟨rest, by rw [List.cons_append, ← h1], by rw [areaSum_cons]; omega, fun m rest' h => ?_⟩
      have := h3 m rest' h
      rw [areaSum_cons]; omega

theorem applied_fits (nrows ncols : Nat) (ms : List Region) (budget : Nat) :
    areaSum nrows ncols (appliedPrefix nrows ncols ms budget) ≤ budget :=
  let ⟨_, _, h, _⟩ := appliedPrefix_spec nrows ncols ms budget; h

theorem applied_all_iff (nrows ncols : Nat) (ms : List Region) (budget : Nat) :
    appliedPrefix nrows ncols ms budget = ms ↔ areaSum nrows ncols ms ≤ budget := by
  obtain ⟨rest, h1, h2, h3⟩ := appliedPrefix_spec nrows ncols ms budget
  refine ⟨fun h => by rwa [h] at h2, fun h => ?_⟩
  cases rest with
  | nil => rw [List.append_nil] at h1; exact h1.symm
  | cons m rest' =>
    -- the first region left out exceeds the budget with those before it
    have := h3 m rest' rfl
    rw [h1, areaSum_append, areaSum_cons] at h
    omega

theorem sum_clipRows_le (nrows ncols : Nat) (l : List Region) :
    ((l.filter fun m => decide (clipArea nrows ncols m > 0)).map (clipRows nrows)).sum ≤ areaSum nrows ncols l := by
  induction l with
  | nil => simp [areaSum]
  | cons m l ih =>
    simp only [List.filter_cons, areaSum, List.map_cons, List.sum_cons]
    unfold areaSum at ih
    by_cases hp : clipArea nrows ncols m > 0
    · simp only [hp, decide_true, if_true, List.map_cons, List.sum_cons]
      have hc : clipRows nrows m ≤ clipArea nrows ncols m := by
        rw [clipArea_eq] at hp ⊢
        have : clipCols ncols m > 0 := Nat.pos_of_mul_pos_left hp
        exact Nat.le_mul_of_pos_right _ this
      omega
    · simp only [hp, decide_false, Bool.false_eq_true, if_false]
      omega

end Tabula.Sheet
