import TabulaModel.Model.UTF16
/-!
Lemmas about the UTF-16 model: bit arithmetic of `be16`/`combine`, the encode/decode round trips of the
three decoders (in front of any further units), every decoder yields scalar values only, the UTF-16BE
bytes of an encoded text, and `CMapTarget.HighsPaired` (the unit strings on which the target decoder of
cmap.go and `utf16.Decode` agree, `Props/C07Target.lean`).
-/
namespace Tabula.UTF16

theorem be16_eq (a b : Nat) (hb : b < 256) : be16 a b = a * 256 + b := by
  unfold be16
  rw [← Nat.shiftLeft_add_eq_or_of_lt (by simpa using hb)]
  simp [Nat.shiftLeft_eq]

theorem combine_eq (hi lo : Nat) (hlo : lo - 0xDC00 < 1024) :
    combine hi lo = 0x10000 + (hi - 0xD800) * 1024 + (lo - 0xDC00) := by
  unfold combine
  rw [← Nat.shiftLeft_add_eq_or_of_lt (by simpa using hlo)]
  simp [Nat.shiftLeft_eq, Nat.add_assoc]

theorem be16_split (u : Nat) : be16 (u / 256) (u % 256) = u := by
  rw [be16_eq _ _ (Nat.mod_lt _ (by decide))]
  omega

theorem unitsBE_bytesBE (us : List Nat) : unitsBE (bytesBE us) = us := by
  induction us with
  | nil => rfl
  | cons u t ih =>
    simp only [bytesBE, List.flatMap_cons] at ih ⊢
    simp only [List.cons_append, List.nil_append, unitsBE]
    rw [be16_split, ih]

theorem unitsLE_bytesLE (us : List Nat) : unitsLE (bytesLE us) = us := by
  induction us with
  | nil => rfl
  | cons u t ih =>
    simp only [bytesLE, List.flatMap_cons] at ih ⊢
    simp only [List.cons_append, List.nil_append, unitsLE]
    rw [be16_split, ih]

/-- surrogate arithmetic: the pair produced for a supplementary scalar combines back to it -/
theorem combine_encode (c : Nat) (h1 : 0x10000 ≤ c) :
    combine (0xD800 + (c - 0x10000) / 1024) (0xDC00 + (c - 0x10000) % 1024) = c := by
  rw [combine_eq _ _ (by omega)]
  omega

theorem isHigh_iff (u : Nat) : isHigh u = true ↔ 0xD800 ≤ u ∧ u ≤ 0xDBFF := by
  simp [isHigh]

theorem isLow_iff (u : Nat) : isLow u = true ↔ 0xDC00 ≤ u ∧ u ≤ 0xDFFF := by
  simp [isLow]

/-- a scalar is one unit that is no surrogate, or a high and a low surrogate that combine to it -/
theorem encodeScalar_cases (c : Nat) (hc : IsScalar c) :
    (encodeScalar c = [c] ∧ isHigh c = false ∧ isLow c = false) ∨
    (∃ u l, encodeScalar c = [u, l] ∧ isHigh u = true ∧ isLow l = true ∧ combine u l = c) := by
  unfold IsScalar at hc
  unfold encodeScalar
  by_cases hb : c < 0x10000
  · rw [if_pos hb]
    refine Or.inl ⟨rfl, ?_, ?_⟩
    · rw [← Bool.not_eq_true, isHigh_iff]; omega
    · rw [← Bool.not_eq_true, isLow_iff]; omega
  · rw [if_neg hb]
    exact Or.inr ⟨_, _, rfl, (isHigh_iff _).2 (by omega), (isLow_iff _).2 (by omega),
      combine_encode c (by omega)⟩

theorem toRune_scalar (c : Nat) (hc : IsScalar c) : toRune c = c := by
  unfold toRune IsScalar at *; simp [hc]

theorem decodeUnits_encodeScalar (c : Nat) (hc : IsScalar c) (rest : List Nat) :
    decodeUnits (encodeScalar c ++ rest) = c :: decodeUnits rest := by
  rcases encodeScalar_cases c hc with ⟨he, hh, hl⟩ | ⟨u, l, he, hh, hl, hcomb⟩
  · rw [he]
    cases rest <;> simp [decodeUnits, hh, hl]
  · rw [he]
    simp [decodeUnits, hh, hl, hcomb]

/-- the same for the `decodeUTF16BE` of cmap.go and for Go's `utf16.Decode` -/
theorem cmapDecodeUnits_encodeScalar (c : Nat) (hc : IsScalar c) (rest : List Nat) :
    cmapDecodeUnits (encodeScalar c ++ rest) = c :: cmapDecodeUnits rest := by
  rcases encodeScalar_cases c hc with ⟨he, hh, hl⟩ | ⟨u, l, he, hh, hl, hcomb⟩
  · rw [he]
    cases rest <;> simp [cmapDecodeUnits, hh, toRune_scalar c hc]
  · rw [he]
    simp [cmapDecodeUnits, hh, hl, hcomb]

theorem stdDecodeUnits_encodeScalar (c : Nat) (hc : IsScalar c) (rest : List Nat) :
    stdDecodeUnits (encodeScalar c ++ rest) = c :: stdDecodeUnits rest := by
  rcases encodeScalar_cases c hc with ⟨he, hh, hl⟩ | ⟨u, l, he, hh, hl, hcomb⟩
  · rw [he]
    cases rest <;> simp [stdDecodeUnits, hh, toRune_scalar c hc]
  · rw [he]
    simp [stdDecodeUnits, hh, hl, hcomb]

/-- a decoder that reads the units of a scalar as that scalar decodes an encoded string, whatever units follow it -/
theorem decode_encodeUnits_append (dec : List Nat → List Nat)
    (h : ∀ c, IsScalar c → ∀ rest, dec (encodeScalar c ++ rest) = c :: dec rest)
    (s : List Nat) (hs : ∀ c ∈ s, IsScalar c) (rest : List Nat) : dec (encodeUnits s ++ rest) = s ++ dec rest := by
  induction s with
  | nil => rfl
  | cons c t ih =>
    unfold encodeUnits at ih ⊢
    rw [List.flatMap_cons, List.append_assoc, h c (hs c (by simp)), ih (fun x hx => hs x (by simp [hx]))]
    rfl

theorem decode_encodeUnits (dec : List Nat → List Nat) (hnil : dec [] = [])
    (h : ∀ c, IsScalar c → ∀ rest, dec (encodeScalar c ++ rest) = c :: dec rest)
    (s : List Nat) (hs : ∀ c ∈ s, IsScalar c) : dec (encodeUnits s) = s := by
  have := decode_encodeUnits_append dec h s hs []
  rwa [List.append_nil, hnil, List.append_nil] at this

theorem decodeUnits_encodeUnits (s : List Nat) (hs : ∀ c ∈ s, IsScalar c) :
    decodeUnits (encodeUnits s) = s :=
  decode_encodeUnits decodeUnits rfl decodeUnits_encodeScalar s hs

theorem cmapDecodeUnits_encodeUnits (s : List Nat) (hs : ∀ c ∈ s, IsScalar c) :
    cmapDecodeUnits (encodeUnits s) = s :=
  decode_encodeUnits cmapDecodeUnits rfl cmapDecodeUnits_encodeScalar s hs

theorem stdDecodeUnits_encodeUnits (s : List Nat) (hs : ∀ c ∈ s, IsScalar c) :
    stdDecodeUnits (encodeUnits s) = s :=
  decode_encodeUnits stdDecodeUnits rfl stdDecodeUnits_encodeScalar s hs

/-! ## every decoder yields scalar values only -/

theorem toRune_isScalar (x : Nat) : IsScalar (toRune x) := by
  unfold toRune IsScalar
  split <;> omega

theorem toRune_surrogate (u : Nat) (hs : isHigh u = true ∨ isLow u = true) : toRune u = 0xFFFD := by
  simp only [isHigh, isLow, Bool.and_eq_true, decide_eq_true_eq] at hs
  unfold toRune
  rw [if_neg (by omega)]

theorem combine_isScalar (hi lo : Nat) (hh : isHigh hi = true) (hl : isLow lo = true) :
    IsScalar (combine hi lo) := by
  rw [isHigh_iff] at hh; rw [isLow_iff] at hl
  rw [combine_eq _ _ (by omega)]
  unfold IsScalar; omega

/-- bytes -/
def AllBytes (l : List Nat) : Prop := ∀ b ∈ l, b < 256

theorem allBytes_tail {a : Nat} {l : List Nat} (h : AllBytes (a :: l)) : AllBytes l :=
  fun b hb => h b (List.mem_cons_of_mem _ hb)

theorem be16_lt (a b : Nat) (ha : a < 256) (hb : b < 256) : be16 a b < 65536 := by
  rw [be16_eq a b hb]; omega

theorem unitsBE_lt (data : List Nat) (h : AllBytes data) : ∀ u ∈ unitsBE data, u < 65536 := by
  fun_induction unitsBE data with
  | case1 => exact List.forall_mem_nil _
  | case2 a => exact List.forall_mem_cons.mpr ⟨be16_lt a 0 (h a (by simp)) (by decide), List.forall_mem_nil _⟩
  | case3 a b rest ih =>
    exact List.forall_mem_cons.mpr
      ⟨be16_lt a b (h a (by simp)) (h b (by simp)), ih (allBytes_tail (allBytes_tail h))⟩

theorem unitsLE_lt (data : List Nat) (h : AllBytes data) : ∀ u ∈ unitsLE data, u < 65536 := by
  fun_induction unitsLE data with
  | case1 => exact List.forall_mem_nil _
  | case2 a => exact List.forall_mem_cons.mpr ⟨be16_lt 0 a (by decide) (h a (by simp)), List.forall_mem_nil _⟩
  | case3 a b rest ih =>
    exact List.forall_mem_cons.mpr
      ⟨be16_lt b a (h b (by simp)) (h a (by simp)), ih (allBytes_tail (allBytes_tail h))⟩

theorem plain_unit_scalar (u : Nat) (hu : u < 65536) (hh : isHigh u = false) (hl : isLow u = false) : IsScalar u := by
  unfold IsScalar
  have h1 : ¬ (0xD800 ≤ u ∧ u ≤ 0xDBFF) := by rw [← isHigh_iff]; simp [hh]
  have h2 : ¬ (0xDC00 ≤ u ∧ u ≤ 0xDFFF) := by rw [← isLow_iff]; simp [hl]
  omega

/-- `DecodeUTF16BE/LE` only produce scalar values -/
theorem decodeUnits_scalar (us : List Nat) (h : ∀ u ∈ us, u < 65536) : ∀ x ∈ decodeUnits us, IsScalar x := by
  fun_induction decodeUnits us with
  | case1 => exact List.forall_mem_nil _
  | case2 u hh => exact List.forall_mem_nil _
  | case3 u hh hl => exact List.forall_mem_nil _
  | case4 u hh hl =>
    exact List.forall_mem_cons.mpr
      ⟨plain_unit_scalar u (h u (by simp)) (by simpa using hh) (by simpa using hl), List.forall_mem_nil _⟩
  | case5 u l rest hh hl ih =>
    exact List.forall_mem_cons.mpr ⟨combine_isScalar u l hh hl, ih (fun v hv => h v (by simp [hv]))⟩
  | case6 u l rest hh hl ih => exact ih (fun v hv => h v (by simp [hv]))
  | case7 u l rest hh hl ih => exact ih (fun v hv => h v (by simp [hv]))
  | case8 u l rest hh hl ih =>
    exact List.forall_mem_cons.mpr
      ⟨plain_unit_scalar u (h u (by simp)) (by simpa using hh) (by simpa using hl),
        ih (fun v hv => h v (by simp [hv]))⟩

/-- the target decoder of cmap.go and `utf16.Decode` write U+FFFD for what they cannot pair -/
theorem cmapDecodeUnits_scalar (us : List Nat) : ∀ x ∈ cmapDecodeUnits us, IsScalar x := by
  fun_induction cmapDecodeUnits us with
  | case1 => exact List.forall_mem_nil _
  | case2 u => exact List.forall_mem_cons.mpr ⟨toRune_isScalar u, List.forall_mem_nil _⟩
  | case3 u l rest hh hl ih => exact List.forall_mem_cons.mpr ⟨combine_isScalar u l hh hl, ih⟩
  | case4 u l rest hh hl ih => exact List.forall_mem_cons.mpr ⟨toRune_isScalar u, ih⟩
  | case5 u l rest hh ih => exact List.forall_mem_cons.mpr ⟨toRune_isScalar u, ih⟩

theorem stdDecodeUnits_scalar (us : List Nat) : ∀ x ∈ stdDecodeUnits us, IsScalar x := by
  fun_induction stdDecodeUnits us with
  | case1 => exact List.forall_mem_nil _
  | case2 u => exact List.forall_mem_cons.mpr ⟨toRune_isScalar u, List.forall_mem_nil _⟩
  | case3 u l rest h ih =>
    simp only [Bool.and_eq_true] at h
    exact List.forall_mem_cons.mpr ⟨combine_isScalar u l h.1 h.2, ih⟩
  | case4 u l rest h ih => exact List.forall_mem_cons.mpr ⟨toRune_isScalar u, ih⟩

theorem cmapDecodeUTF16BE_scalar (d : List Nat) (u : List Nat) (h : cmapDecodeUTF16BE d = some u) :
    ∀ x ∈ u, IsScalar x := by
  unfold cmapDecodeUTF16BE at h
  split at h
  · cases h
  · cases h; exact cmapDecodeUnits_scalar _

/-- the payload of a continuation byte -/
theorem cont_low {b : Nat} (h : 0x80 ≤ b ∧ b ≤ 0xBF) : b % 64 = b - 0x80 := by omega

/-- `decodeRune` answers `(0xFFFD, 1)` when a test on the continuation bytes fails: a width above 1
means the test passed and the value is the assembled one -/
theorem wide_of_test {c : Prop} [Decidable c] {a k r w : Nat}
    (h : (if c then (a, k) else (0xFFFD, 1)) = (r, w)) (hw : 1 < w) : c ∧ a = r := by
  split at h
  · cases h; exact ⟨‹c›, rfl⟩
  · cases h; exact absurd hw (Nat.lt_irrefl 1)

theorem not_wide {a r w : Nat} (h : (a, 1) = (r, w)) (hw : 1 < w) : False := by
  cases h; exact Nat.lt_irrefl 1 hw

theorem decodeRune_scalar (l : List Nat) (r w : Nat) (h : decodeRune l = (r, w)) (hw : 1 < w) :
    IsScalar r := by
  unfold IsScalar
  cases l with
  | nil => unfold decodeRune at h; cases h; exact absurd hw (by decide)
  | cons b0 rest =>
    unfold decodeRune at h
    dsimp only at h
    -- one class of lead bytes at a time
    by_cases c1 : b0 < 0x80
    · rw [if_pos c1] at h; exact (not_wide h hw).elim
    rw [if_neg c1] at h
    by_cases c2 : b0 < 0xC2
    · rw [if_pos c2] at h; exact (not_wide h hw).elim
    rw [if_neg c2] at h
    by_cases c3 : b0 < 0xE0
    · rw [if_pos c3] at h
      rcases rest with _ | ⟨b1, _⟩
      · exact (not_wide h hw).elim
      · obtain ⟨hc, rfl⟩ := wide_of_test h hw
        simp only [isCont, Bool.and_eq_true, decide_eq_true_eq] at hc
        rw [cont_low hc]
        omega
    rw [if_neg c3] at h
    by_cases c4 : b0 < 0xF0
    · rw [if_pos c4] at h
      rcases rest with _ | ⟨b1, _ | ⟨b2, _⟩⟩
      · exact (not_wide h hw).elim
      · exact (not_wide h hw).elim
      · obtain ⟨hc, rfl⟩ := wide_of_test h hw
        simp only [isCont, Bool.and_eq_true, decide_eq_true_eq] at hc
        obtain ⟨⟨hlo, hhi⟩, h2⟩ := hc
        have h1 : 0x80 ≤ b1 ∧ b1 ≤ 0xBF :=
          ⟨Nat.le_trans (by split <;> decide) hlo, Nat.le_trans hhi (by split <;> decide)⟩
        rw [cont_low h1, cont_low h2]
        -- surrogates would need `ED` followed by `A0` or more
        have hED : b0 = 0xED → b1 ≤ 0x9F := fun e => by rw [if_pos e] at hhi; exact hhi
        omega
    rw [if_neg c4] at h
    by_cases c5 : b0 < 0xF5
    · rw [if_pos c5] at h
      rcases rest with _ | ⟨b1, _ | ⟨b2, _ | ⟨b3, _⟩⟩⟩
      · exact (not_wide h hw).elim
      · exact (not_wide h hw).elim
      · exact (not_wide h hw).elim
      · obtain ⟨hc, rfl⟩ := wide_of_test h hw
        simp only [isCont, Bool.and_eq_true, decide_eq_true_eq] at hc
        obtain ⟨⟨⟨hlo, hhi⟩, h2⟩, h3⟩ := hc
        have h1 : 0x80 ≤ b1 ∧ b1 ≤ 0xBF :=
          ⟨Nat.le_trans (by split <;> decide) hlo, Nat.le_trans hhi (by split <;> decide)⟩
        rw [cont_low h1, cont_low h2, cont_low h3]
        -- `F0` needs `90` or more (at least U+10000), `F4` needs `8F` or less (at most U+10FFFF)
        have hF0 : b0 = 0xF0 → 0x90 ≤ b1 := fun e => by rw [if_pos e] at hlo; exact hlo
        have hF4 : b0 = 0xF4 → b1 ≤ 0x8F := fun e => by rw [if_pos e] at hhi; exact hhi
        omega
    rw [if_neg c5] at h
    exact (not_wide h hw).elim

theorem allBytes_drop {l : List Nat} (h : AllBytes l) (n : Nat) : AllBytes (l.drop n) :=
  fun b hb => h b (List.mem_of_mem_drop hb)

theorem allBytes_take {l : List Nat} (h : AllBytes l) (n : Nat) : AllBytes (l.take n) :=
  fun b hb => h b (List.mem_of_mem_take hb)

theorem toValidAux_scalar (fuel : Nat) (inv : Bool) (l : List Nat) :
    ∀ x ∈ toValidAux fuel inv l, IsScalar x := by
  fun_induction toValidAux fuel inv l
  case case1 => exact List.forall_mem_nil _
  case case2 => exact List.forall_mem_nil _
  case case3 b rest hlt ih => exact List.forall_mem_cons.mpr ⟨Or.inl (by omega), ih⟩
  case case4 ih => exact ih
  case case5 ih => exact List.forall_mem_cons.mpr ⟨Or.inr (by decide), ih⟩
  case case6 b rest _ r w hd hw ih =>
    exact List.forall_mem_cons.mpr ⟨decodeRune_scalar (b :: rest) r w hd (by omega), ih⟩

/-- `strings.ToValidUTF8` read back as scalars contains scalars only, whatever the input -/
theorem toValidUTF8_scalar (l : List Nat) : ∀ x ∈ toValidUTF8 l, IsScalar x :=
  toValidAux_scalar _ _ l

/-! ## the UTF-16BE bytes of an encoded text -/

theorem encodeScalar_lt (c : Nat) (hc : IsScalar c) : ∀ u ∈ encodeScalar c, u < 65536 := by
  intro u hu
  unfold encodeScalar at hu
  unfold IsScalar at hc
  split at hu
  · simp only [List.mem_singleton] at hu; omega
  · simp only [List.mem_cons, List.mem_nil_iff, or_false] at hu
    rcases hu with hu | hu <;> omega

theorem encodeUnits_lt (t : List Nat) (ht : ∀ c ∈ t, IsScalar c) : ∀ u ∈ encodeUnits t, u < 65536 := by
  intro u hu
  unfold encodeUnits at hu
  obtain ⟨c, hc, hu⟩ := List.mem_flatMap.mp hu
  exact encodeScalar_lt c (ht c hc) u hu

theorem encodeUnits_ne_nil (t : List Nat) (h : t ≠ []) : encodeUnits t ≠ [] := by
  cases t with
  | nil => exact absurd rfl h
  | cons c r =>
    unfold encodeUnits
    rw [List.flatMap_cons]
    unfold encodeScalar
    split <;> simp

theorem bytesBE_bytes (us : List Nat) (h : ∀ u ∈ us, u < 65536) : AllBytes (bytesBE us) := by
  intro b hb
  unfold bytesBE at hb
  obtain ⟨u, hu, hb⟩ := List.mem_flatMap.mp hb
  have := h u hu
  simp only [List.mem_cons, List.mem_nil_iff, or_false] at hb
  rcases hb with hb | hb <;> omega

theorem bytesBE_length (us : List Nat) : (bytesBE us).length = 2 * us.length := by
  induction us with
  | nil => rfl
  | cons u t ih =>
    simp only [bytesBE, List.flatMap_cons] at ih ⊢
    simp only [List.length_append, List.length_cons, List.length_nil, ih]; omega

theorem cmapDecodeUTF16BE_bytesBE (us : List Nat) :
    cmapDecodeUTF16BE (bytesBE us) = some (cmapDecodeUnits us) := by
  unfold cmapDecodeUTF16BE
  have : (bytesBE us).length % 2 = 0 := by rw [bytesBE_length]; omega
  simp only [this, ne_eq, not_true_eq_false, if_false]
  rw [unitsBE_bytesBE]

end Tabula.UTF16

namespace Tabula.CMapTarget
open Tabula.UTF16

/-- no high surrogate is followed by a unit that is not a low surrogate (a high surrogate at the very end is allowed); checked at the positions where the decoders look -/
def HighsPaired : List Nat → Prop
  | [] => True
  | [_] => True
  | u :: l :: rest =>
    if isHigh u then (isLow l = true ∧ HighsPaired rest) else HighsPaired (l :: rest)

end Tabula.CMapTarget
