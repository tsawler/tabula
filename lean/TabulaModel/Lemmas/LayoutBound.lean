import TabulaModel.Lemmas.Layout
import TabulaModel.Lemmas.LayoutNonspace
/-!
Lemmas about `preserveLayoutGo` (`extractPreserveLayout` after daef69b): what its padding does
not touch (the non-space characters) and how much of it there can be (the two clamps).
-/
namespace Tabula.Layout
open List

/-- the shape of both clamps of daef69b, an integer raised to `lo`, cut at `hi`, as a natural number:
`plTargetCol cw f` is `clampNat 0 maxCharsPerLine _` and `plGapLines lh0 ly ln` is `clampNat 1 maxGapLines _`
by unfolding -/
def clampNat (lo hi : Nat) (g : Int) : Nat := if g < lo then lo else if g > hi then hi else g.toNat

theorem clampNat_bounds {lo hi : Nat} (h : lo ≤ hi) (g : Int) : lo ≤ clampNat lo hi g ∧ clampNat lo hi g ≤ hi := by
  unfold clampNat
  split
  · exact ⟨Nat.le_refl _, h⟩
  · next h1 =>
    split
    · exact ⟨h, Nat.le_refl _⟩
    · next h2 =>
      have hg := Int.not_lt.mp h1
      exact ⟨(Int.le_toNat (Int.le_trans (Int.natCast_nonneg lo) hg)).mpr hg, Int.toNat_le.mpr (Int.not_lt.mp h2)⟩

theorem clampNat_of_gt {lo hi : Nat} (h : lo ≤ hi) {g : Int} (hg : g > hi) : clampNat lo hi g = hi := by
  rw [clampNat, if_neg (Int.not_lt.mpr (Int.le_trans (Int.ofNat_le.mpr h) (Int.le_of_lt hg))), if_pos hg]

theorem clampNat_of_le {lo hi : Nat} {g : Int} (h1 : lo ≤ g) (h2 : g ≤ hi) : (clampNat lo hi g : Int) = g := by
  rw [clampNat, if_neg (Int.not_lt.mpr h1), if_neg (Int.not_lt.mpr h2)]
  exact Int.toNat_of_nonneg (Int.le_trans (Int.natCast_nonneg lo) h1)

theorem plTargetCol_le (cw : Rat) (f : Frag) : plTargetCol cw f ≤ maxCharsPerLine :=
  (clampNat_bounds (Nat.zero_le _) _).2

theorem plGapLines_le (lh0 ly : Rat) (ln : List Frag) : plGapLines lh0 ly ln ≤ maxGapLines :=
  (clampNat_bounds (by decide) _).2

theorem plGapLines_pos (lh0 ly : Rat) (ln : List Frag) : 1 ≤ plGapLines lh0 ly ln :=
  (clampNat_bounds (by decide) _).1

theorem nonspace_plLineText (cw : Rat) (col : Nat) (l : List Frag) :
    nonspace (plLineText cw col l) = nonspace (textsOf l) := by
  induction l generalizing col with
  | nil => rfl
  | cons f fs ih =>
    simp only [plLineText]
    split
    · simp only [textsOf_cons, nonspace_append, nonspace_replicate (c := 32) rfl, List.nil_append, ih]
    · simp only [textsOf_cons, nonspace_append, ih]

theorem nonspace_plEmitLines (cw lh0 ly : Rat) (L : List (List Frag)) :
    nonspace (plEmitLines cw lh0 ly L) = nonspace (textsOf L.flatten) := by
  induction L generalizing ly with
  | nil => rfl
  | cons ln rest ih =>
    simp only [plEmitLines, List.flatten_cons, textsOf_append, nonspace_append, nonspace_replicate (c := 10) rfl,
      List.nil_append, nonspace_plLineText, ih]

theorem plLines_flatten (s : List Frag) : (plLines s).flatten = s := by
  unfold plLines
  rw [segment_flatten]
  rfl

theorem nonspace_preserveLayoutGo (cw lh0 : Rat) (fs : List Frag) :
    nonspace (preserveLayoutGo cw lh0 fs) = nonspace (textsOf (stableSort plLess fs)) := by
  unfold preserveLayoutGo preserveLayoutSorted
  have hf := plLines_flatten (stableSort plLess fs)
  cases hL : plLines (stableSort plLess fs) with
  | nil =>
    rw [hL] at hf
    rw [← hf]
    rfl
  | cons ln rest =>
    rw [hL] at hf
    simp only [nonspace_append, nonspace_plLineText, nonspace_plEmitLines]
    rw [← hf, List.flatten_cons, textsOf_append, nonspace_append]

/-- one line: the blanks written never carry the column counter beyond 200, so a line gets at
most `200 - currentCol` of them (none once the counter has passed 200) -/
theorem plLineText_length (cw : Rat) (col : Nat) (l : List Frag) :
    (plLineText cw col l).length + min col maxCharsPerLine ≤ (textsOf l).length + maxCharsPerLine := by
  induction l generalizing col with
  | nil => simp only [plLineText, textsOf, List.flatMap_nil, List.length_nil]; omega
  | cons f fs ih =>
    have ht := plTargetCol_le cw f
    simp only [plLineText]
    split
    · have := ih (plTargetCol cw f + f.text.length)
      simp only [textsOf_cons, List.length_append, List.length_replicate]
      unfold maxCharsPerLine at *
      omega
    · have := ih (col + f.text.length)
      simp only [textsOf_cons, List.length_append]
      unfold maxCharsPerLine at *
      omega

theorem plLineText_length0 (cw : Rat) (l : List Frag) :
    (plLineText cw 0 l).length ≤ (textsOf l).length + maxCharsPerLine := by
  have := plLineText_length cw 0 l
  omega

theorem plEmitLines_length (cw lh0 ly : Rat) (L : List (List Frag)) :
    (plEmitLines cw lh0 ly L).length ≤
      (textsOf L.flatten).length + (maxGapLines + maxCharsPerLine) * L.length := by
  induction L generalizing ly with
  | nil => simp [plEmitLines, textsOf]
  | cons ln rest ih =>
    have h1 := plGapLines_le lh0 ly ln
    have h2 := plLineText_length0 cw ln
    have h3 := ih (plLineY ln)
    simp only [plEmitLines, List.flatten_cons, textsOf_append, List.length_append, List.length_replicate,
      List.length_cons]
    rw [Nat.mul_succ]
    omega

theorem textsOf_length_perm {a b : List Frag} (h : a.Perm b) : (textsOf a).length = (textsOf b).length := by
  unfold textsOf
  exact (h.flatMap_right _).length_eq

/-- groups of a sweep are non-empty, so there are at most as many as elements -/
theorem length_le_of_nonempty {α : Type} (L : List (List α)) (h : ∀ g ∈ L, g ≠ []) :
    L.length ≤ L.flatten.length := by
  have := List.sum_map_le_sum_map (f := fun _ => 1) (g := List.length) (l := L)
    fun g hg => List.length_pos_iff.mpr (h g hg)
  rwa [List.map_const', List.sum_replicate_nat, Nat.mul_one, ← List.length_flatten] at this

theorem plLines_length_le (s : List Frag) : (plLines s).length ≤ s.length := by
  have := length_le_of_nonempty (plLines s) (segment_nonempty plBreak s [])
  rw [plLines_flatten] at this
  exact this

end Tabula.Layout
