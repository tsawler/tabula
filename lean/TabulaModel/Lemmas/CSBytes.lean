import TabulaModel.Lemmas.ParseRuns
import TabulaModel.Lemmas.PdfCSProgress
/-
Every string operand (`.str`, at any depth of arrays and dictionaries) that the content-stream parser
(`Tabula.Pdf.CS.csParse`) produces from a byte input is a byte string; names and dictionary keys are
not spoken of (`ObjBytes` is `True` on them).  Core Lean only.
-/
namespace Tabula.Pdf.CS
open Tabula.Pdf

def Bytes (s : List Nat) : Prop := ∀ b ∈ s, b < 256

theorem bytes_nil : Bytes [] := by
  intro b hb; cases hb

theorem bytes_cons {a : Nat} {l : List Nat} : Bytes (a :: l) ↔ a < 256 ∧ Bytes l := by
  simp only [Bytes, List.forall_mem_cons]

theorem bytes_append {a b : List Nat} : Bytes (a ++ b) ↔ Bytes a ∧ Bytes b := by
  simp only [Bytes, List.forall_mem_append]

theorem bytes_single {a : Nat} (h : a < 256) : Bytes [a] :=
  bytes_cons.mpr ⟨h, bytes_nil⟩

/-- every reader hands on a suffix of its input, so what is left of a byte input is a byte list -/
theorem bytes_suffix {r s : List Nat} (hs : r <:+ s) (h : Bytes s) : Bytes r :=
  fun b hb => h b (hs.mem hb)

theorem namedEsc_lt (c v : Nat) (h : namedEsc c = some v) : v < 256 := by
  unfold namedEsc at h
  by_cases h1 : c = 110
  · rw [if_pos h1] at h; cases h; omega
  by_cases h2 : c = 114
  · rw [if_neg h1, if_pos h2] at h; cases h; omega
  by_cases h3 : c = 116
  · rw [if_neg h1, if_neg h2, if_pos h3] at h; cases h; omega
  by_cases h4 : c = 98
  · rw [if_neg h1, if_neg h2, if_neg h3, if_pos h4] at h; cases h; omega
  by_cases h5 : c = 102
  · rw [if_neg h1, if_neg h2, if_neg h3, if_neg h4, if_pos h5] at h; cases h; omega
  rw [if_neg h1, if_neg h2, if_neg h3, if_neg h4, if_neg h5] at h
  by_cases h6 : c = 40 ∨ c = 41 ∨ c = 92
  · rw [if_pos h6] at h; cases h; omega
  · rw [if_neg h6] at h; cases h

/-- the bytes an escape sequence stands for -/
theorem csEscape_bytes (inp bs r : Str) (hin : Bytes inp) (h : csEscape inp = some (bs, r)) : Bytes bs := by
  cases inp with
  | nil => simp [csEscape] at h
  | cons c r0 =>
    simp only [csEscape] at h
    split at h
    · next v hv => cases h; exact bytes_single (namedEsc_lt c v hv)
    · split at h
      · cases h; exact bytes_nil
      · split at h
        · cases h; exact bytes_nil
        · split at h
          · cases h; exact bytes_single (Nat.mod_lt _ (by omega))
          · cases h; exact bytes_single (bytes_cons.mp hin).1

theorem pre_bytes {bs : Str} {x : Option (Str × Str)} {v r : Str} (hbs : Bytes bs)
    (ih : ∀ v', x = some (v', r) → Bytes v') (h : pre bs x = some (v, r)) : Bytes v := by
  obtain ⟨v', hv', rfl⟩ := Prog.pre_some h
  exact bytes_append.mpr ⟨hbs, ih v' hv'⟩

theorem strLoop_bytes (d : Nat) (inp v r : Str) (hin : Bytes inp) (h : strLoop d inp = some (v, r)) :
    Bytes v := by
  fun_induction strLoop d inp generalizing v with
  | case1 | case2 => cases h
  | case3 d c r0 _ bs r' hE ih =>
    have hr0 := (bytes_cons.mp hin).2
    exact pre_bytes (csEscape_bytes _ _ _ hr0 hE)
      (fun v' => ih v' (bytes_suffix (Gram.readEscape_suffix (csEscape_eq r0 ▸ hE)) hr0)) h
  | case4 d r0 _ ih | case5 d r0 _ _ _ ih =>
    exact pre_bytes (bytes_single (by omega)) (fun v' => ih v' (bytes_cons.mp hin).2) h
  | case6 => cases h; exact bytes_nil
  | case7 d c r0 _ _ _ ih =>
    exact pre_bytes (bytes_single (bytes_cons.mp hin).1) (fun v' => ih v' (bytes_cons.mp hin).2) h

theorem hexValue_lt (c : Nat) : hexValue c < 16 := by
  unfold hexValue
  split
  · next h => simp only [Bool.and_eq_true, decide_eq_true_eq] at h; omega
  · split
    · next h => simp only [Bool.and_eq_true, decide_eq_true_eq] at h; omega
    · split
      · next h => simp only [Bool.and_eq_true, decide_eq_true_eq] at h; omega
      · omega

/-- two hex digits make a byte (the digits-to-bytes conversion of both parsers) -/
theorem hexPairs_bytes : ∀ ds : Str, Bytes (hexPairs ds)
  | a :: b :: r =>
    bytes_cons.mpr ⟨by have := hexValue_lt a; have := hexValue_lt b; omega, hexPairs_bytes r⟩
  | [a] => bytes_single (by have := hexValue_lt a; omega)
  | [] => bytes_nil

/-- … whatever the input holds: `parseHexString` is a scan for the digits followed by that conversion -/
theorem hexLoop_bytes (inp v r : Str) (h : hexLoop inp = some (v, r)) : Bytes v := by
  rw [Gram.cs_hexLoop_eq, Gram.pairsOf_some] at h
  obtain ⟨ds, _, rfl⟩ := h
  exact hexPairs_bytes ds

mutual
/-- every string inside the object (at any depth) is a byte string -/
def ObjBytes : Obj → Prop
  | .null => True
  | .bool _ => True
  | .int _ => True
  | .real _ _ _ => True
  | .str s => Bytes s
  | .name _ => True
  | .arr xs => ObjBytesList xs
  | .dict kv => ObjBytesKV kv
  | .ref _ _ => True
def ObjBytesList : List Obj → Prop
  | [] => True
  | x :: xs => ObjBytes x ∧ ObjBytesList xs
def ObjBytesKV : List (Str × Obj) → Prop
  | [] => True
  | (_, v) :: r => ObjBytes v ∧ ObjBytesKV r
end

theorem objBytesList_iff {xs : List Obj} : ObjBytesList xs ↔ ∀ o ∈ xs, ObjBytes o := by
  induction xs with
  | nil => simp [ObjBytesList]
  | cons x xs ih => simp only [ObjBytesList, List.forall_mem_cons, ih]

theorem objBytesList_append (xs ys : List Obj) (h : ObjBytesList xs) (hy : ObjBytesList ys) :
    ObjBytesList (xs ++ ys) := by
  rw [objBytesList_iff] at *
  exact List.forall_mem_append.mpr ⟨h, hy⟩

theorem objBytesKV_set (kv : List (Str × Obj)) (k : Str) (o : Obj) (h : ObjBytesKV kv) (ho : ObjBytes o) :
    ObjBytesKV (dictSet kv k o) := by
  induction kv with
  | nil => simp only [dictSet, ObjBytesKV]; exact ⟨ho, trivial⟩
  | cons p kv ih =>
    obtain ⟨k', v'⟩ := p
    simp only [ObjBytesKV] at h
    simp only [dictSet]
    split
    · simp only [ObjBytesKV]; exact ⟨ho, h.2⟩
    · simp only [ObjBytesKV]; exact ⟨h.1, ih h.2⟩

theorem parse_bytes (f : Nat) :
    (∀ (d : Nat) (inp : Str) (o : Obj) (r : Str),
      parseOperand f d inp = some (o, r) → Bytes inp → ObjBytes o ∧ Bytes r) ∧
    (∀ (d : Nat) (inp : Str) (acc : List Obj) (o : Obj) (r : Str),
      parseArray f d inp acc = some (o, r) → Bytes inp → ObjBytesList acc → ObjBytes o ∧ Bytes r) ∧
    (∀ (d : Nat) (inp : Str) (acc : List (Str × Obj)) (o : Obj) (r : Str),
      parseDict f d inp acc = some (o, r) → Bytes inp → ObjBytesKV acc → ObjBytes o ∧ Bytes r) := by
  have sk : ∀ {inp c r0}, skipSpace inp = c :: r0 → Bytes inp → Bytes (c :: r0) :=
    fun hs hin => bytes_suffix (hs ▸ Prog.skipSpace_suffix _) hin
  refine parse_induction ?_ ?_ ?_ ?_ ?_ ?_ ?_ ?_ ?_ ?_ ?_ ?_ ?_ f
  · intro d inp c r0 o r hs hc h hin
    refine ⟨?_, bytes_suffix (Prog.cs_parseNumber_progress c r0 o r hc h).1 (sk hs hin)⟩
    rcases parseNumber_num h with ⟨_, _, _, rfl⟩ | ⟨_, rfl⟩ <;> trivial
  · intro d inp r0 v r hs h hin
    have hr0 := (bytes_cons.mp (sk hs hin)).2
    exact ⟨strLoop_bytes 1 r0 v r hr0 h, bytes_suffix (Prog.strLoop_suffix r0 1 v r (cs_strLoop_eq r0 1 ▸ h)).1 hr0⟩
  · intro d inp r0 v r hs _ _ h hin
    exact ⟨hexLoop_bytes r0 v r h,
      bytes_suffix (Prog.cs_hexLoop_suffix r0 v r h) (bytes_cons.mp (sk hs hin)).2⟩
  · intro d inp r0 hs hin
    exact ⟨trivial, bytes_suffix (Prog.cs_nameLoop_suffix r0) (bytes_cons.mp (sk hs hin)).2⟩
  · intro d inp r0 o r hs _ ih hin
    exact ih (bytes_cons.mp (sk hs hin)).2 trivial
  · intro d inp r0 o r hs _ _ ih hin
    exact ih (bytes_suffix (List.drop_suffix 1 r0) (bytes_cons.mp (sk hs hin)).2) trivial
  · intro d inp c r0 t o hs _ ho hin
    refine ⟨?_, bytes_suffix (List.drop_suffix _ _) (sk hs hin)⟩
    rcases ho with ⟨_, rfl⟩ | ⟨_, rfl⟩ | ⟨_, rfl⟩ <;> trivial
  · intro d acc _ hacc
    exact ⟨hacc, bytes_nil⟩
  · intro d inp acc r0 hs hin hacc
    exact ⟨hacc, (bytes_cons.mp (sk hs hin)).2⟩
  · intro d inp acc c r0 o1 r1 o r hs _ ihO ihA hin hacc
    obtain ⟨h1, h2⟩ := ihO (sk hs hin)
    exact ihA h2 (objBytesList_append _ [o1] hacc ⟨h1, trivial⟩)
  · intro d acc _ hacc
    exact ⟨hacc, bytes_nil⟩
  · intro d inp acc r0 hs _ hin hacc
    exact ⟨hacc, bytes_suffix (List.drop_suffix 1 r0) (bytes_cons.mp (sk hs hin)).2⟩
  · intro d inp acc r0 o1 r1 o r hs ihO ihD hin hacc
    obtain ⟨h1, h2⟩ :=
      ihO (bytes_suffix (Prog.cs_nameLoop_suffix r0) (bytes_cons.mp (sk hs hin)).2)
    exact ihD h2 (objBytesKV_set _ _ _ hacc h1)

theorem parseLoop_bytes (n fuel : Nat) (inp : Str) (stack : List Obj) (ops res : List Operation)
    (hin : Bytes inp) (hst : ∀ o ∈ stack, ObjBytes o) (hops : ∀ op ∈ ops, ∀ o ∈ op.operands, ObjBytes o)
    (h : parseLoop n fuel inp stack ops = some res) : ∀ op ∈ res, ∀ o ∈ op.operands, ObjBytes o := by
  have sk : ∀ {inp c r}, skipSpace inp = c :: r → Bytes inp → Bytes (c :: r) :=
    fun hs hin => bytes_suffix (hs ▸ Prog.skipSpace_suffix _) hin
  refine parseLoop_induction
    (P := fun inp stack ops res => Bytes inp → (∀ o ∈ stack, ObjBytes o) →
      (∀ op ∈ ops, ∀ o ∈ op.operands, ObjBytes o) → ∀ op ∈ res, ∀ o ∈ op.operands, ObjBytes o)
    ?_ ?_ ?_ n inp stack ops res h hin hst hops
  · intro inp stack ops _ _ _ hops
    exact hops
  · intro inp c r stack ops res hs _ ih hin hst hops
    exact ih (bytes_suffix (Prog.opName_suffix _ _) (sk hs hin)) (by simp)
      (List.forall_mem_append.mpr ⟨hops, by simpa using hst⟩)
  · intro inp c r o r' stack ops res hs hp ih hin hst hops
    obtain ⟨h1, h2⟩ := (parse_bytes fuel).1 0 _ o r' hp (sk hs hin)
    exact ih h2 (List.forall_mem_append.mpr ⟨hst, by simpa using h1⟩) hops

/-- every string anywhere inside an operand of a parsed content stream is a byte string -/
theorem csParse_objBytes (inp : Str) (hin : Bytes inp) (ops : List Operation) (h : csParse inp = some ops) :
    ∀ op ∈ ops, ∀ o ∈ op.operands, ObjBytes o :=
  parseLoop_bytes _ _ inp [] [] ops hin (by simp) (by simp) h

/-- the strings an operand hands to a text-showing operator are byte strings: a string
operand itself, and the string elements of an array operand (`TJ`) -/
def ShowBytes (o : Obj) : Prop :=
  (∀ s, o = .str s → Bytes s) ∧ (∀ xs, o = .arr xs → ∀ s, Obj.str s ∈ xs → Bytes s)

theorem showBytes_of_objBytes (o : Obj) (h : ObjBytes o) : ShowBytes o := by
  refine ⟨?_, ?_⟩
  · intro s hs
    subst hs
    simpa only [ObjBytes] using h
  · intro xs hxs s hs
    subst hxs
    simp only [ObjBytes] at h
    simpa only [ObjBytes] using objBytesList_iff.mp h _ hs

theorem csParse_showBytes (inp : Str) (hin : Bytes inp) (ops : List Operation) (h : csParse inp = some ops) :
    ∀ op ∈ ops, ∀ o ∈ op.operands, ShowBytes o := by
  intro op hop o ho
  exact showBytes_of_objBytes o (csParse_objBytes inp hin ops h op hop o ho)

end Tabula.Pdf.CS
