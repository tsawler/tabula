import TabulaModel.Lemmas.MarkdownPre
/-!
The HTML Markdown writer (`htmlBody`: pieces joined by a blank line, no trailing newline) as
lines, and what the reading spec gives back on them.
-/
namespace Tabula.MarkdownDoc
open Tabula.A1 (Str dec decInt)
open Tabula.Markdown

def unlines : List Str → Str
  | [] => []
  | [l] => l
  | l :: m :: r => l ++ 10 :: unlines (m :: r)

/-- joining by single newlines is core's `List.intercalate` -/
theorem unlines_eq_intercalate (L : List Str) : unlines L = [10].intercalate L :=
  List.eq_intercalate rfl (fun _ => rfl) (fun _ _ _ => by simp [unlines]) L

theorem unlines_cons (l : Str) (L : List Str) (h : L ≠ []) : unlines (l :: L) = l ++ 10 :: unlines L := by
  cases L with
  | nil => exact absurd rfl h
  | cons m r => rfl

theorem unlines_append (A B : List Str) (hA : A ≠ []) (hB : B ≠ []) :
    unlines (A ++ B) = unlines A ++ 10 :: unlines B := by
  simp only [unlines_eq_intercalate, List.intercalate_append hA hB, List.append_assoc, List.singleton_append]

theorem splitLines_unlines (L : List Str) (hne : L ≠ []) (h : ∀ l ∈ L, 10 ∉ l) : splitLines (unlines L) = L := by
  rw [splitLines_eq_splitOn, unlines_eq_intercalate]
  exact List.splitOn_intercalate 10 h hne

theorem unlines_joinLines (T : List Str) : joinLines T = unlines (T ++ [[]]) := by
  induction T with
  | nil => rfl
  | cons l T ih =>
    rw [joinLines_cons, ih, List.cons_append, unlines_cons l _ (by simp)]

theorem unlines_eq_nil (A : List Str) (h : A = [] ∨ ∃ a r, A = a :: r ∧ a ≠ []) : unlines A = [] ↔ A = [] := by
  constructor
  · intro hu
    rcases h with h | ⟨a, r, rfl, ha⟩
    · exact h
    · exfalso
      cases r with
      | nil => exact ha (by simpa [unlines] using hu)
      | cons m r' =>
        rw [unlines_cons a _ (by simp)] at hu
        cases a with
        | nil => exact ha rfl
        | cons c cs => simp at hu
  · intro h; rw [h]; rfl

/-- a list item as the reader should see it (`htmlItems` writes every ordered item as `1.`) -/
def htmlItem (it : HItem) : Item := ⟨it.level.toNat, it.ordered, 1, it.text⟩

/-- the item loop writes the item lines joined by newlines, behind one more newline unless `first` -/
theorem htmlItems_unlines (items : List HItem) (hne : items ≠ []) (first : Bool) :
    htmlItems items first = (if first then [] else [10]) ++ unlines (items.map fun it => listLine (htmlItem it)) := by
  have hdec : dec 1 = [49] := by simp [Tabula.A1.dec, Tabula.A1.decAux]
  induction items generalizing first with
  | nil => exact absurd rfl hne
  | cons it rest ih =>
    have e : htmlItems (it :: rest) first
        = (if first then [] else [10]) ++ (listLine (htmlItem it) ++ htmlItems rest false) := by
      simp [htmlItems, htmlItem, listLine, indent2, hdec]
    cases rest with
    | nil => rw [e]; simp [htmlItems, unlines]
    | cons it2 rest2 =>
      rw [e, ih (List.cons_ne_nil _ _) false]
      show _ = _ ++ unlines (listLine (htmlItem it) :: (it2 :: rest2).map fun it => listLine (htmlItem it))
      rw [unlines_cons _ _ (by simp)]
      rfl

/-- the lines of what one element writes; `none` when it writes nothing at all (a table without
rows); code blocks and block quotes are outside this description -/
def htmlPiece (hl : Int → Int) : HElem → Option (List Str)
  | .heading l t => some [atxLine (hl l).toNat t]
  | .para t => some [t]
  | .list items => some (if items.isEmpty then [[]] else items.map fun it => listLine (htmlItem it))
  | .table (some (hdr :: rest)) => some (tableLines .html hdr rest ++ [[]])
  | _ => none

/-- elements this description covers -/
def HElem.basic : HElem → Bool
  | .code _ => false
  | .quote _ => false
  | _ => true

theorem htmlStep_piece (hl : Int → Int) (acc : Str) (e : HElem) (hb : e.basic = true) :
    htmlStep hl acc e =
      match htmlPiece hl e with
      | none => acc
      | some S => acc ++ sep2 acc ++ unlines S := by
  cases e with
  | heading l t => simp [htmlStep, htmlPiece, unlines, atxLine]
  | para t => simp [htmlStep, htmlPiece, unlines]
  | list items =>
    cases items with
    | nil => simp [htmlStep, htmlPiece, unlines, htmlItems]
    | cons it rest =>
      simp only [htmlStep, htmlPiece, List.isEmpty_cons, Bool.false_eq_true, if_false]
      rw [htmlItems_unlines _ (by simp) true]
      rfl
  | table rows =>
    rcases rows with _ | _ | ⟨hdr, rest⟩
    · rfl
    · rfl
    · simp only [htmlStep, htmlPiece, List.isEmpty_cons, Bool.false_eq_true, if_false]
      rw [render_lines, unlines_joinLines]
  | code t => cases hb
  | quote t => cases hb

/-- the lines of an element list: every piece behind an empty line -/
def htmlLines (hl : Int → Int) (els : List HElem) : List Str :=
  els.flatMap fun e =>
    match htmlPiece hl e with
    | none => []
    | some S => [] :: S

def dropEmpty (L : List Str) : List Str := L.dropWhile (·.isEmpty)

theorem dropEmpty_head (L : List Str) : dropEmpty L = [] ∨ ∃ a r, dropEmpty L = a :: r ∧ a ≠ [] := by
  have := List.head?_dropWhile_not (·.isEmpty) L
  unfold dropEmpty
  cases h : L.dropWhile (·.isEmpty) with
  | nil => exact Or.inl rfl
  | cons a r =>
    rw [h] at this
    exact Or.inr ⟨a, r, rfl, fun e => by rw [e] at this; cases this⟩

theorem dropEmpty_append_of_ne (A B : List Str) (h : dropEmpty A ≠ []) :
    dropEmpty (A ++ B) = dropEmpty A ++ B := by
  unfold dropEmpty at *
  rw [List.dropWhile_append, if_neg (by simpa using h)]

theorem dropEmpty_append_of_nil (A B : List Str) (h : dropEmpty A = []) :
    dropEmpty (A ++ B) = dropEmpty B := by
  unfold dropEmpty at *
  rw [List.dropWhile_append, h]
  rfl

/-- a piece is either one empty line or starts with a non-empty line -/
def PieceOK (P : List Str) : Prop := P = [[]] ∨ ∃ a r, P = a :: r ∧ a ≠ []

theorem htmlPiece_ok (hl : Int → Int) (e : HElem) (S : List Str) (h : htmlPiece hl e = some S) :
    PieceOK S := by
  cases e with
  | heading l t => cases h; exact Or.inr ⟨_, [], rfl, by simp [atxLine]⟩
  | para t =>
    cases h
    cases t with
    | nil => exact Or.inl rfl
    | cons c cs => exact Or.inr ⟨_, [], rfl, List.cons_ne_nil _ _⟩
  | list items =>
    cases h
    cases items with
    | nil => exact Or.inl rfl
    | cons it rest =>
      obtain ⟨c, r, hcr, _⟩ := listLine_head (htmlItem it)
      exact Or.inr ⟨listLine (htmlItem it), rest.map fun it => listLine (htmlItem it), rfl, hcr ▸ List.cons_ne_nil c r⟩
  | table rows =>
    match rows, h with
    | some (hdr :: rest), h => cases h; exact Or.inr ⟨renderRow .html hdr, _, rfl, List.cons_ne_nil _ _⟩
  | code t => cases h
  | quote t => cases h

/-- the body of the HTML writers is the lines of its elements, without the leading empty lines and
without a final newline -/
theorem htmlBody_lines (hl : Int → Int) (els : List HElem) (hb : ∀ e ∈ els, e.basic = true) :
    htmlBody hl els = unlines (dropEmpty (htmlLines hl els)) := by
  unfold htmlBody
  have key : ∀ (es : List HElem) (U : List Str), (∀ e ∈ es, e.basic = true) →
      es.foldl (htmlStep hl) (unlines (dropEmpty U)) = unlines (dropEmpty (U ++ htmlLines hl es)) := by
    intro es
    induction es with
    | nil => intro U _; simp [htmlLines]
    | cons e es ih =>
      intro U hb
      have hb' := fun x hx => hb x (List.mem_cons_of_mem _ hx)
      simp only [List.foldl_cons]
      rw [htmlStep_piece hl _ e (hb e (by simp))]
      have hU : htmlLines hl (e :: es) = (match htmlPiece hl e with
          | none => []
          | some S => [] :: S) ++ htmlLines hl es := List.flatMap_cons
      rw [hU]
      cases hP : htmlPiece hl e with
      | none => simpa using ih U hb'
      | some P =>
        simp only
        have hok := htmlPiece_ok hl e P hP
        have hPne : P ≠ [] := by
          rcases hok with h | ⟨a, r, h, _⟩ <;> simp [h]
        rw [← List.append_assoc]
        rw [← ih (U ++ [] :: P) hb']
        congr 1
        -- the new accumulator
        by_cases hA : dropEmpty U = []
        · rw [hA]
          simp only [unlines, sep2, List.isEmpty_nil, if_true, List.nil_append]
          rw [dropEmpty_append_of_nil U _ hA]
          rcases hok with h | ⟨a, r, h, ha⟩
          · rw [h]; rfl
          · rw [h]
            cases a with
            | nil => exact absurd rfl ha
            | cons c cs => simp [dropEmpty, List.dropWhile]
        · have hne : unlines (dropEmpty U) ≠ [] := by
            intro hu
            exact hA ((unlines_eq_nil _ (dropEmpty_head U)).mp hu)
          have hse : (unlines (dropEmpty U)).isEmpty = false := List.isEmpty_eq_false_iff.mpr hne
          rw [dropEmpty_append_of_ne U _ hA]
          simp only [sep2, hse, Bool.false_eq_true, if_false]
          rw [unlines_append _ _ hA (by simp), unlines_cons [] P hPne]
          simp
  have := key els [] hb
  simpa [dropEmpty, unlines] using this

def hHeadings (hl : Int → Int) (els : List HElem) : List (Nat × Str) :=
  els.filterMap fun
    | .heading l t => some ((hl l).toNat, t)
    | _ => none

def hItems (els : List HElem) : List (Nat × Bool × Str) :=
  els.flatMap fun
    | .list items => items.map fun it => (it.level.toNat, it.ordered, it.text)
    | _ => []

def hParas (els : List HElem) : List Str :=
  els.filterMap fun
    | .para t => if t.isEmpty then none else some t
    | _ => none

def hTables (els : List HElem) : List (List (List Str)) :=
  els.filterMap fun
    | .table (some (hdr :: rest)) => some (hdr :: rest)
    | _ => none

def htmlTableLinesOf : List (List Str) → List Str
  | [] => []
  | hdr :: rest => tableLines .html hdr rest

/-- well-formed input of the HTML writer for the read-back theorems -/
structure HtmlWF (hl : Int → Int) (els : List HElem) : Prop where
  basic : ∀ e ∈ els, e.basic = true
  /-- the heading levels written are ATX levels (for `MarkdownWithOptions` this says the source levels are 1..6, as the HTML parser produces them) -/
  hlRange : ∀ l t, HElem.heading l t ∈ els → 1 ≤ (hl l).toNat ∧ (hl l).toNat ≤ 6
  headNl : ∀ l t, HElem.heading l t ∈ els → 10 ∉ t
  paraNl : ∀ t, HElem.para t ∈ els → 10 ∉ t
  plain : ∀ t, HElem.para t ∈ els → t.isEmpty = false → classify t = .para
  itemNl : ∀ items, HElem.list items ∈ els → ∀ it ∈ items, 10 ∉ it.text
  /-- every table row has at least one cell -/
  rows : ∀ hdr rest, HElem.table (some (hdr :: rest)) ∈ els → ∀ r ∈ hdr :: rest, r ≠ []

theorem renderRow_html_pipe (cells : List Str) : isPipeLine (renderRow .html cells) = true := rfl

theorem renderDelim_html_pipe (n : Nat) : isPipeLine (renderDelim .html n) = true := rfl

/-- What an element writes holds what the element contributes to the reader's four lists. -/
theorem htmlPiece_read (hl : Int → Int) (els : List HElem) (hwf : HtmlWF hl els) (e : HElem) (he : e ∈ els) :
    LinesRead (match htmlPiece hl e with
        | none => []
        | some S => [] :: S)
      (hHeadings hl [e]) (hItems [e]) (hParas [e]) ((hTables [e]).map htmlTableLinesOf) := by
  cases e with
  | heading l t => exact LinesRead.blank.append (LinesRead.heading _ t (hwf.hlRange l t he).1 (hwf.headNl l t he))
  | para t =>
    cases t with
    | nil => exact LinesRead.blank.append LinesRead.blank
    | cons c r => exact LinesRead.blank.append (LinesRead.para _ (hwf.plain _ he rfl) (hwf.paraNl _ he))
  | list items =>
    cases items with
    | nil => exact LinesRead.blank.append LinesRead.blank
    | cons it rest =>
      refine (LinesRead.blank.append (LinesRead.itemLines htmlItem (it :: rest) fun i hi => hwf.itemNl _ he i hi)).of_eq
        rfl (by simp [hItems, htmlItem]) rfl rfl
  | table rows =>
    match rows with
    | none => exact LinesRead.nil
    | some [] => exact LinesRead.nil
    | some (hdr :: rest) =>
      exact LinesRead.blank.append (LinesRead.table _ (List.cons_ne_nil _ _)
        (tableLines_props .html hdr rest (hwf.rows hdr rest he)))
  | code t => exact absurd (hwf.basic _ he) (by simp [HElem.basic])
  | quote t => exact absurd (hwf.basic _ he) (by simp [HElem.basic])

theorem htmlLines_read (hl : Int → Int) (els : List HElem) (hwf : HtmlWF hl els) :
    LinesRead (htmlLines hl els) (hHeadings hl els) (hItems els) (hParas els)
      ((hTables els).map htmlTableLinesOf) := by
  suffices h : ∀ es : List HElem, (∀ e ∈ es, e ∈ els) → LinesRead (htmlLines hl es) (hHeadings hl es) (hItems es)
      (hParas es) ((hTables es).map htmlTableLinesOf) from h els fun _ h => h
  intro es
  induction es with
  | nil => exact fun _ => LinesRead.nil
  | cons e es ih =>
    intro hsub
    rw [htmlLines, List.flatMap_cons]
    exact ((htmlPiece_read hl els hwf e (hsub e List.mem_cons_self)).append
      (ih fun x hx => hsub x (List.mem_cons_of_mem _ hx))).of_eq List.filterMap_append.symm List.flatMap_append.symm
      List.filterMap_append.symm (by rw [← List.map_append]; exact congrArg _ List.filterMap_append.symm)

theorem dropEmpty_split (U : List Str) : ∃ k, U = List.replicate k [] ++ dropEmpty U :=
  dropWhile_split (fun l : Str => l.isEmpty) [] (fun _ h => List.isEmpty_iff.mp h) U

theorem readLines_dropEmpty (U : List Str) (h : hrLine ∉ U) : readLines (dropEmpty U) = readLines U := by
  obtain ⟨k, hk⟩ := dropEmpty_split U
  conv => rhs; rw [hk]
  exact (readLines_cons_blanks _ k fun hh => h (hk ▸ List.mem_append_right _ (List.mem_of_mem_head? hh))).symm

/-- whole lines `P`, then the body lines without their leading empty lines and without a final newline -/
theorem readMd_joinLines_unlines (P U : List Str) (hP : ∀ l ∈ P, 10 ∉ l) (hU : ∀ l ∈ U, 10 ∉ l) :
    readMd (joinLines P ++ unlines (dropEmpty U)) = readLines (P ++ dropEmpty U) := by
  have hsub : ∀ l ∈ dropEmpty U, 10 ∉ l := fun l hl => hU l ((List.dropWhile_sublist _).subset hl)
  unfold readMd
  by_cases hd : dropEmpty U = []
  · rw [hd, show unlines [] = [] from rfl, List.append_nil, List.append_nil, splitLines_joinLines _ hP,
      readLines_end_blank]
  · rw [splitLines_joinLines_append _ hP, splitLines_unlines _ hd hsub]

namespace LinesRead

/-- a preamble, then the lines `L` without the leading empty lines and without a final newline: the
reader skips the preamble and finds what the lines hold -/
theorem readMd_html {L H I P T} (h : LinesRead L H I P T) (htoc : (2, tocText) ∉ H)
    {pre : Str} (hpre : IsPreamble pre) :
    readMd (pre ++ unlines (dropEmpty L))
      = { headings := H, items := I, tables := T.map gfmTableL, paras := P } := by
  obtain ⟨h1, h2, h3, h5⟩ := h.read htoc
  obtain ⟨Q, rfl, hQ⟩ := hpre
  have hsub : ∀ l ∈ dropEmpty L, l ∈ L :=
    fun l hl => (List.dropWhile_sublist _).subset hl
  rw [readMd_joinLines_unlines _ _ hQ.noNl h1, ← h5, ← readLines_dropEmpty _ h2]
  exact hQ.skip _ (fun h => h2 (hsub _ (List.mem_of_mem_head? h))) (fun hm => h3 (hsub _ hm))

end LinesRead

/-- the body of the HTML writers behind a preamble as the reader sees it: the four lists of the element
list, the tables as the reading of their lines -/
theorem htmlBody_readMd (hl : Int → Int) (els : List HElem) (hwf : HtmlWF hl els)
    (htoc : (2, tocText) ∉ hHeadings hl els) {pre : Str} (hpre : IsPreamble pre) :
    readMd (pre ++ htmlBody hl els)
      = { headings := hHeadings hl els, items := hItems els,
          tables := (hTables els).map fun t => gfmTableL (htmlTableLinesOf t), paras := hParas els } := by
  rw [htmlBody_lines hl els hwf.basic, (htmlLines_read hl els hwf).readMd_html htoc hpre, List.map_map]
  rfl

end Tabula.MarkdownDoc
