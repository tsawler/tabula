import TabulaModel.Lemmas.Package
/-!
Helper lemmas for C18 about the chapter loop of `epubdoc.(*Reader).loadChapters` after
`fix: a resource listed several times in an EPUB spine is one chapter`
(`epubLoopS`: the loop carries the resolved hrefs already loaded).

* `spineFirsts` — the specification, from the declaration only: the spine entries (with
  their positions) whose resolved href no earlier entry resolves to;
* `epubLoopS_eq_filter` — the one induction: the loop is the per-entry step `epubPart` over
  exactly those entries, for any start set and start index;
* `mem_epubLoopS_iff` — the loop entry by entry; from it and the closed form, without further
  induction: no resolved href is presented twice (`epubLoopS_paths`), positions increase
  (`epubLoopS_index_increasing`), without repetitions the loop is the plain skip loop over `epubPart`
  (`epubLoopS_eq_loopIdx`);
* `epubLoopS_congr_decl` — congruence in the lookup and in the declaration.
-/
namespace Tabula.Package

/-- **the spine as the reader follows it** — defined from the declaration only: the spine
entries `(idref, position)`, in spine order, whose idref the manifest knows and whose
resolved href (`chapterPath`: manifest href, percent-decoded, joined to the package
directory) is not the resolved href of any EARLIER spine entry. Later repetitions of an
already listed resource (same idref again, another manifest item with the same href,
another spelling of the same href) are removed; positions are the original ones. -/
def spineFirsts (base : Str) (manifest : List (Str × Str)) (spine : List Str) : List (Str × Nat) :=
  spine.zipIdx.filter fun e =>
    match chapterPath base manifest e.1 with
    | none => false
    | some p => decide (p ∉ (spine.take e.2).filterMap (chapterPath base manifest))

/-- the resources a spine lists: the resolved hrefs of its entries, in spine order, with
repetitions -/
def spineHrefs (base : Str) (manifest : List (Str × Str)) (spine : List Str) : List Str :=
  spine.filterMap (chapterPath base manifest)

/-- the entries before position `k` that `f` keeps -/
theorem mem_filterMap_take {α β : Type} (f : α → Option β) (l : List α) (k : Nat) (p : β) :
    p ∈ (l.take k).filterMap f ↔ ∃ j r, j < k ∧ l[j]? = some r ∧ f r = some p := by
  rw [List.mem_filterMap]
  constructor
  · rintro ⟨r, hr, hp⟩
    obtain ⟨j, hj⟩ := List.mem_iff_getElem?.mp hr
    rw [List.getElem?_take] at hj
    split at hj
    · exact ⟨j, r, by assumption, hj, hp⟩
    · cases hj
  · rintro ⟨j, r, hjk, hj, hp⟩
    exact ⟨r, List.mem_iff_getElem?.mpr ⟨j, by rw [List.getElem?_take, if_pos hjk]; exact hj⟩, hp⟩

/-- when `f` keeps no value twice, what it makes of the entry at position `k` it makes of no earlier entry -/
theorem not_mem_take_of_nodup {α β : Type} (f : α → Option β) (l : List α) (hnd : (l.filterMap f).Nodup)
    (k : Nat) (r : α) (p : β) (hk : l[k]? = some r) (hp : f r = some p) : p ∉ (l.take k).filterMap f := by
  obtain ⟨hlt, hr⟩ := List.getElem?_eq_some_iff.1 hk
  have hsplit : l = l.take k ++ r :: l.drop (k + 1) := by
    rw [← hr, ← List.drop_eq_getElem_cons hlt, List.take_append_drop]
  rw [hsplit, List.filterMap_append, List.filterMap_cons, hp] at hnd
  exact fun hmem => (List.nodup_append.1 hnd).2.2 p hmem p List.mem_cons_self rfl

/-- one spine entry in the Option monad: resolve, then look up -/
theorem epubPart_eq_bind (look : Str → Option Nat) (base : Str) (manifest : List (Str × Str)) (j : Nat) (r : Str) :
    epubPart look base manifest j r =
      (chapterPath base manifest r).bind fun p => (look p).map fun c => (j, c, p, r) := by
  unfold epubPart
  cases chapterPath base manifest r with
  | none => rfl
  | some p => cases h : look p <;> simp [h]

/-- **the loop in closed form**: the per-entry step `epubPart`, taken over the
entries that get past the `loaded` check; these are, said without recursion, the entries whose idref the
manifest knows and whose resolved href is neither marked at the start nor the resolved href of an earlier entry -/
theorem epubLoopS_eq_filter (look : Str → Option Nat) (base : Str) (manifest : List (Str × Str))
    (seen : List Str) (i : Nat) (l : List Str) :
    epubLoopS look base manifest seen i l =
      ((l.zipIdx i).filter fun e =>
        match chapterPath base manifest e.1 with
        | none => false
        | some p => decide (p ∉ seen ∧ p ∉ (l.take (e.2 - i)).filterMap (chapterPath base manifest))).filterMap
        (fun e => epubPart look base manifest e.2 e.1) := by
  induction l generalizing seen i with
  | nil => rfl
  | cons r rest ih =>
    -- behind `r` the loop runs with `seen'`: the hrefs of `seen` and the one `r` resolves to
    have tail : ∀ seen' : List Str, (∀ q, q ∈ seen' ↔ q ∈ seen ∨ chapterPath base manifest r = some q) →
        epubLoopS look base manifest seen' (i + 1) rest =
          ((rest.zipIdx (i + 1)).filter fun e =>
            match chapterPath base manifest e.1 with
            | none => false
            | some p => decide (p ∉ seen ∧
                p ∉ ((r :: rest).take (e.2 - i)).filterMap (chapterPath base manifest))).filterMap
            (fun e => epubPart look base manifest e.2 e.1) := by
      intro seen' hs
      rw [ih seen' (i + 1)]
      congr 1
      apply List.filter_congr
      intro e he
      have h1 : e.2 - i = (e.2 - (i + 1)) + 1 := by
        have := List.le_snd_of_mem_zipIdx he
        omega
      rw [h1, List.take_succ_cons, List.filterMap_cons]
      cases chapterPath base manifest e.1 with
      | none => rfl
      | some q =>
        simp only [decide_eq_decide, hs q, not_or]
        cases chapterPath base manifest r with
        | none => simp
        | some p =>
          simp only [List.mem_cons, Option.some.injEq, not_or, eq_comm (a := p)]
          exact ⟨fun ⟨⟨a, b⟩, c⟩ => ⟨a, b, c⟩, fun ⟨a, b, c⟩ => ⟨⟨a, b⟩, c⟩⟩
    simp only [epubLoopS, List.zipIdx_cons, List.filter_cons, Nat.sub_self, List.take_zero, List.filterMap_nil,
      List.not_mem_nil, not_false_eq_true, and_true]
    cases hcp : chapterPath base manifest r with
    | none =>
      simp only [Bool.false_eq_true, if_false]
      exact tail seen (fun q => by rw [hcp]; simp)
    | some p =>
      by_cases hs : p ∈ seen
      · simp only [hs, if_true, not_true_eq_false, decide_false, Bool.false_eq_true, if_false]
        exact tail seen (fun q => by
          rw [hcp, Option.some.injEq]
          exact ⟨Or.inl, fun h => h.elim id (fun e => e ▸ hs)⟩)
      · have hpart : epubPart look base manifest i r = (look p).map fun c => (i, c, p, r) := by
          rw [epubPart_eq_bind, hcp, Option.bind_some]
        simp only [hs, if_false, not_false_eq_true, decide_true, if_true, List.filterMap_cons, hpart]
        rw [tail (p :: seen) (fun q => by rw [hcp, List.mem_cons, Option.some.injEq, or_comm, eq_comm])]
        cases look p <;> rfl

/-- `loadChapters` follows `spineFirsts` -/
theorem epubLoop_eq_spineFirsts (look : Str → Option Nat) (base : Str) (manifest : List (Str × Str))
    (spine : List Str) :
    epubLoop look base manifest 0 spine =
      (spineFirsts base manifest spine).filterMap (fun e => epubPart look base manifest e.2 e.1) := by
  unfold epubLoop spineFirsts
  rw [epubLoopS_eq_filter]
  congr 1
  apply List.filter_congr
  intro e _
  cases chapterPath base manifest e.1 with
  | none => rfl
  | some p => simp

/-- **the loop entry by entry**: `(i + k, c, p, id)` is presented iff `id` is the `k`-th entry, it
resolves to `p`, the archive holds `c` under `p`, and `p` is neither marked at the start nor the
resolved href of an earlier entry -/
theorem mem_epubLoopS_iff (look : Str → Option Nat) (base : Str) (manifest : List (Str × Str))
    (seen : List Str) (i : Nat) (l : List Str) (vi vc : Nat) (vp vid : Str) :
    (vi, vc, vp, vid) ∈ epubLoopS look base manifest seen i l ↔
      ∃ k, l[k]? = some vid ∧ vi = i + k ∧ chapterPath base manifest vid = some vp ∧ look vp = some vc ∧
        vp ∉ seen ∧ ∀ j r, j < k → l[j]? = some r → chapterPath base manifest r ≠ some vp := by
  rw [epubLoopS_eq_filter, List.mem_filterMap]
  constructor
  · rintro ⟨⟨r, j⟩, he, hpart⟩
    obtain ⟨hm, hP⟩ := List.mem_filter.1 he
    obtain ⟨hle, hget⟩ := List.mk_mem_zipIdx_iff_le_and_getElem?_sub.1 hm
    simp only [epubPart_eq_bind, Option.bind_eq_some_iff, Option.map_eq_some_iff, Prod.mk.injEq] at hpart
    obtain ⟨p, hcp, c, hl, rfl, rfl, rfl, rfl⟩ := hpart
    simp only [hcp, decide_eq_true_eq, mem_filterMap_take, not_exists, not_and] at hP
    exact ⟨j - i, hget, by omega, hcp, hl, hP.1, fun j' r' h1 h2 => hP.2 j' r' h1 h2⟩
  · rintro ⟨k, hget, rfl, hcp, hl, hs, hno⟩
    refine ⟨(vid, i + k), List.mem_filter.2
      ⟨List.mk_mem_zipIdx_iff_le_and_getElem?_sub.2 ⟨by omega, by simpa using hget⟩, ?_⟩, ?_⟩
    · simp only [hcp, decide_eq_true_eq, mem_filterMap_take, not_exists, not_and, Nat.add_sub_cancel_left]
      exact ⟨hs, fun j' r' h1 h2 => hno j' r' h1 h2⟩
    · simp [epubPart_eq_bind, hcp, hl]

/-- the spine positions recorded in the chapters strictly increase: chapters are never
reordered, whatever the archive order and whatever repetitions the spine has -/
theorem epubLoopS_index_increasing (look : Str → Option Nat) (base : Str) (manifest : List (Str × Str))
    (seen : List Str) (i : Nat) (l : List Str) :
    (epubLoopS look base manifest seen i l).Pairwise (fun u v => u.1 < v.1) := by
  rw [epubLoopS_eq_filter]
  refine ((List.pairwise_snd_lt_zipIdx l i).filter _).filterMap _ ?_
  intro a a' h b hb b' hb'
  simp only [epubPart_eq_bind, Option.bind_eq_some_iff, Option.map_eq_some_iff] at hb hb'
  obtain ⟨_, _, _, _, rfl⟩ := hb
  obtain ⟨_, _, _, _, rfl⟩ := hb'
  exact h

/-- every presented chapter: its path is a resolved href of the spine that was not marked
before, and no path is presented twice (of two chapters the later one's path is, by
`mem_epubLoopS_iff`, not the resolved href of the earlier one's entry) -/
theorem epubLoopS_paths (look : Str → Option Nat) (base : Str) (manifest : List (Str × Str))
    (seen : List Str) (i : Nat) (l : List Str) :
    (∀ q ∈ (epubLoopS look base manifest seen i l).map (fun c => c.2.2.1),
        q ∉ seen ∧ q ∈ l.filterMap (chapterPath base manifest)) ∧
      ((epubLoopS look base manifest seen i l).map (fun c => c.2.2.1)).Nodup := by
  constructor
  · intro q hq
    obtain ⟨⟨vi, vc, vp, vid⟩, hc, rfl⟩ := List.mem_map.1 hq
    obtain ⟨k, hk, _, hcp, _, hs, _⟩ := (mem_epubLoopS_iff ..).1 hc
    exact ⟨hs, List.mem_filterMap.2 ⟨vid, List.mem_of_getElem? hk, hcp⟩⟩
  · rw [List.Nodup, List.pairwise_map]
    refine (epubLoopS_index_increasing look base manifest seen i l).imp_of_mem ?_
    rintro ⟨vi, vc, vp, vid⟩ ⟨wi, wc, wp, wid⟩ hv hw hlt heq
    obtain ⟨k, hk, rfl, hcp, _⟩ := (mem_epubLoopS_iff ..).1 hv
    obtain ⟨k', _, rfl, _, _, _, hno⟩ := (mem_epubLoopS_iff ..).1 hw
    simp only at hlt heq
    exact hno k vid (by omega) hk (heq ▸ hcp)

/-- every presented chapter was found in the archive under its path -/
theorem epubLoopS_found (look : Str → Option Nat) (base : Str) (manifest : List (Str × Str))
    (seen : List Str) (i : Nat) (l : List Str) :
    ∀ c ∈ epubLoopS look base manifest seen i l, look c.2.2.1 = some c.2.1 := by
  rintro ⟨vi, vc, vp, vid⟩ hc
  obtain ⟨_, _, _, _, hl, _⟩ := (mem_epubLoopS_iff ..).1 hc
  exact hl

/-- a spine that lists no resource twice (and none that is marked already) is walked by
the loop exactly as by the plain skip loop over `epubPart` (`loadChapters` before c53b79e) -/
theorem epubLoopS_eq_loopIdx (look : Str → Option Nat) (base : Str) (manifest : List (Str × Str))
    (seen : List Str) (i : Nat) (l : List Str)
    (hnd : (l.filterMap (chapterPath base manifest)).Nodup)
    (hdis : ∀ q ∈ l.filterMap (chapterPath base manifest), q ∉ seen) :
    epubLoopS look base manifest seen i l = loopIdx (epubPart look base manifest) i l := by
  rw [epubLoopS_eq_filter, loopIdx_eq_filterMap, List.filterMap_filter]
  apply List.filterMap_congr
  rintro ⟨r, j⟩ he
  obtain ⟨hle, hget⟩ := List.mk_mem_zipIdx_iff_le_and_getElem?_sub.1 he
  cases hcp : chapterPath base manifest r with
  | none => simp [epubPart_eq_bind, hcp]
  | some p =>
    have h1 := hdis p (List.mem_filterMap.2 ⟨r, List.mem_of_getElem? hget, hcp⟩)
    have h2 := not_mem_take_of_nodup _ l hnd (j - i) r p hget hcp
    simp [h1, h2]

/-- the loop reads the declaration only through `chapterPath` at the spine entries, and the archive
only through the lookups at the paths these resolve to -/
theorem epubLoopS_congr_decl (look look' : Str → Option Nat) (base base' : Str)
    (manifest manifest' : List (Str × Str)) (seen : List Str) (i : Nat) (l : List Str)
    (h : ∀ r ∈ l, chapterPath base manifest r = chapterPath base' manifest' r ∧
      ∀ p, chapterPath base manifest r = some p → look p = look' p) :
    epubLoopS look base manifest seen i l = epubLoopS look' base' manifest' seen i l := by
  induction l generalizing seen i with
  | nil => rfl
  | cons r rest ih =>
    obtain ⟨h2, h3⟩ := h r List.mem_cons_self
    have hrest := fun s => ih s (i + 1) fun r' hr' => h r' (List.mem_cons_of_mem _ hr')
    simp only [epubLoopS, ← h2]
    cases hcp : chapterPath base manifest r with
    | none => exact hrest seen
    | some p => simp only [← h3 p hcp, hrest]

/-- the loop depends on the archive only through the lookups at the resolved hrefs -/
theorem epubLoopS_congr (look look' : Str → Option Nat) (base : Str) (manifest : List (Str × Str))
    (seen : List Str) (i : Nat) (l : List Str)
    (h : ∀ p ∈ l.filterMap (chapterPath base manifest), look' p = look p) :
    epubLoopS look' base manifest seen i l = epubLoopS look base manifest seen i l :=
  epubLoopS_congr_decl look' look base base manifest manifest seen i l fun r hr =>
    ⟨rfl, fun p hp => h p (List.mem_filterMap.2 ⟨r, hr, hp⟩)⟩

/-- two declarations whose spines resolve, position by position, to the same paths with
the same contents behind them (and carry the same idrefs, so they are one spine) are walked alike -/
theorem epubLoopS_pointwise (look look' : Str → Option Nat) (base base' : Str)
    (manifest manifest' : List (Str × Str)) (seen : List Str) (i : Nat) (l l' : List Str)
    (hl : l.length = l'.length)
    (h : ∀ (k : Nat) (r r' : Str), l[k]? = some r → l'[k]? = some r' →
      r = r' ∧ chapterPath base manifest r = chapterPath base' manifest' r' ∧
      ∀ p, chapterPath base manifest r = some p → look p = look' p) :
    epubLoopS look base manifest seen i l = epubLoopS look' base' manifest' seen i l' := by
  have hll : l = l' := List.ext_getElem hl fun k h1 h2 =>
    (h k _ _ (List.getElem?_eq_getElem h1) (List.getElem?_eq_getElem h2)).1
  subst hll
  exact epubLoopS_congr_decl look look' base base' manifest manifest' seen i l fun r hr => by
    obtain ⟨k, hk⟩ := List.getElem?_of_mem hr
    exact (h k r r hk hk).2

end Tabula.Package
