import TabulaModel.Lemmas.Aligned
import TabulaModel.Lemmas.Overlap
import TabulaModel.Lemmas.Codec
/-!
C13: the sentence splitter of overlap.go (`splitIntoSentencesWithPositions`).  It cuts the
re-encoded text (`[]rune`/`WriteRune` round trip: `Lemmas/Codec.lean`) into trimmed segments,
each valid UTF-8 and not empty, whatever `isSentenceEndRune` decides (`sentencesLoop_pieces`).
-/
set_option linter.unusedVariables false
namespace Tabula.Overlap
open Tabula.Split

theorem Pieces.append {a b : Str} {ps qs : List Str} (h1 : Pieces a ps) (h2 : Pieces b qs) :
    Pieces (a ++ b) (ps ++ qs) := by
  induction h1 with
  | done hg => exact h2.prepend hg
  | @piece g p r ps hg _ ih =>
    have : g ++ p ++ r ++ b = g ++ p ++ (r ++ b) := by simp [List.append_assoc]
    rw [this]
    exact .piece hg ih

/-- `ps` are trimmed segments of `text`: in-order substrings with whitespace-only gaps, each valid
UTF-8 and not empty (what the two sentence splitters of the package return) -/
def Segs (text : Str) (ps : List Str) : Prop :=
  Pieces text ps ∧ ∀ t ∈ ps, validUtf8 t = true ∧ t ≠ []

/-- a valid segment `x` is closed, white space `g` is skipped, the rest is cut into `ps` -/
theorem Segs.emit_append {x g r : Str} {ps : List Str} (hx : validUtf8 x = true) (hg : WsOnly g)
    (h : Segs r ps) : Segs (x ++ (g ++ r)) (emit x ++ ps) :=
  ⟨emit_pieces_append x (h.1.prepend hg), List.forall_mem_append.mpr
    ⟨forall_mem_emit.mpr fun hne => ⟨valid_trimSpace x hx, hne⟩, h.2⟩⟩

theorem Segs.emit {x : Str} (hx : validUtf8 x = true) : Segs x (emit x) := by
  simpa using Segs.emit_append hx .nil ⟨.done .nil, fun _ h => nomatch h⟩

theorem valid_joinWith (sep : Str) (hs : validUtf8 sep = true) (ps : List Str)
    (hv : ∀ p ∈ ps, validUtf8 p = true) : validUtf8 (joinWith sep ps) = true := by
  induction ps with
  | nil => exact validUtf8_nil
  | cons p rest ih =>
    rw [joinWith_cons]
    have hp := hv p (List.mem_cons_self ..)
    split
    · exact hp
    · exact validUtf8_append _ _ (validUtf8_append _ _ hp hs) (ih fun q hq => hv q (List.mem_cons_of_mem _ hq))

theorem encodeRunes_append (a b : List Nat) : encodeRunes (a ++ b) = encodeRunes a ++ encodeRunes b := by
  simp [encodeRunes]

theorem drop_getR (runes : Array Nat) (i : Nat) (h : i < runes.size) :
    runes.toList.drop i = getR runes i :: runes.toList.drop (i + 1) := by
  have hl : i < runes.toList.length := by simpa using h
  rw [List.drop_eq_getElem_cons hl]
  congr 1
  unfold getR
  simp [h]

theorem skipSpaces_spec (runes : Array Nat) (fuel i : Nat) :
    i ≤ skipSpaces runes fuel i ∧ ∃ g, WsOnly g ∧
      encodeRunes (runes.toList.drop (i + 1)) = g ++ encodeRunes (runes.toList.drop (skipSpaces runes fuel i + 1)) := by
  induction fuel generalizing i with
  | zero => exact ⟨Nat.le_refl _, [], .nil, rfl⟩
  | succ n ih =>
    unfold skipSpaces
    split
    · rename_i h
      simp only [Bool.and_eq_true, decide_eq_true_eq] at h
      obtain ⟨h1, g, hg, e⟩ := ih (i + 1)
      refine ⟨by omega, encodeRune (getR runes (i + 1)) ++ g, ?_, ?_⟩
      · exact (WsOnly.single (wsChar_encodeRune _ h.2)).append hg
      · rw [drop_getR runes (i + 1) h.1, encodeRunes_cons, e, List.append_assoc]
    · exact ⟨Nat.le_refl _, [], .nil, rfl⟩

theorem sentencesLoop_zero (cl : Classes) (runes : Array Nat) (i : Nat) (cur : List Nat) (acc : List Str) :
    sentencesLoop cl runes 0 i cur acc = acc.reverse ++ emit (encodeRunes cur.reverse) := rfl

theorem sentencesLoop_succ (cl : Classes) (runes : Array Nat) (fuel i : Nat) (cur : List Nat) (acc : List Str) :
    sentencesLoop cl runes (fuel + 1) i cur acc =
      if i ≥ runes.size then acc.reverse ++ emit (encodeRunes cur.reverse)
      else if ((getR runes i == 46 || getR runes i == 33 || getR runes i == 63) && isSentenceEndRune cl runes i) = true then
        sentencesLoop cl runes fuel (skipSpaces runes runes.size i + 1) []
          (if trimSpace (encodeRunes (getR runes i :: cur).reverse) = [] then acc
           else trimSpace (encodeRunes (getR runes i :: cur).reverse) :: acc)
      else sentencesLoop cl runes fuel (i + 1) (getR runes i :: cur) acc := rfl

theorem sentencesLoop_pieces (cl : Classes) (runes : Array Nat) (fuel i : Nat) (cur : List Nat)
    (acc : List Str) (hf : runes.size < i + fuel) :
    ∃ rest, sentencesLoop cl runes fuel i cur acc = acc.reverse ++ rest
      ∧ Segs (encodeRunes cur.reverse ++ encodeRunes (runes.toList.drop i)) rest := by
  -- at the end of the runes the pending sentence is closed
  have hend : ∀ {i : Nat} (cur : List Nat), runes.size ≤ i →
      Segs (encodeRunes cur.reverse ++ encodeRunes (runes.toList.drop i)) (emit (encodeRunes cur.reverse)) := by
    intro i cur hi
    rw [List.drop_eq_nil_of_le (by simpa using hi)]
    simpa [encodeRunes] using Segs.emit (valid_encodeRunes cur.reverse)
  induction fuel generalizing i cur acc with
  | zero => exact ⟨_, sentencesLoop_zero .., hend cur (by omega)⟩
  | succ n ih =>
    rw [sentencesLoop_succ]
    by_cases hi : i ≥ runes.size
    · rw [if_pos hi]
      exact ⟨_, rfl, hend cur hi⟩
    · rw [if_neg hi]
      have hlt : i < runes.size := by omega
      have htext : encodeRunes cur.reverse ++ encodeRunes (runes.toList.drop i)
          = encodeRunes (getR runes i :: cur).reverse ++ encodeRunes (runes.toList.drop (i + 1)) := by
        rw [drop_getR runes i hlt, encodeRunes_cons, List.reverse_cons, encodeRunes_append,
          List.append_assoc]
        simp [encodeRunes]
      rw [htext]
      split
      · obtain ⟨hj, g, hg, eg⟩ := skipSpaces_spec runes runes.size i
        obtain ⟨rest, e, hs⟩ := ih (skipSpaces runes runes.size i + 1) []
          (if trimSpace (encodeRunes (getR runes i :: cur).reverse) = [] then acc
           else trimSpace (encodeRunes (getR runes i :: cur).reverse) :: acc) (by omega)
        refine ⟨emit (encodeRunes (getR runes i :: cur).reverse) ++ rest, ?_, ?_⟩
        · rw [e]
          unfold Split.emit
          split <;> simp
        · rw [eg]
          exact Segs.emit_append (valid_encodeRunes _) hg (by simpa [encodeRunes] using hs)
      · exact ih (i + 1) (getR runes i :: cur) acc (by omega)

/-- the sentences are trimmed segments of the re-encoded text -/
theorem splitIntoSentences_pieces (cl : Classes) (text : Str) :
    Pieces (encodeRunes (decodeRunes text)) (splitIntoSentences cl text)
      ∧ ∀ t ∈ splitIntoSentences cl text, validUtf8 t = true ∧ t ≠ [] := by
  unfold splitIntoSentences
  obtain ⟨rest, e, hs⟩ := sentencesLoop_pieces cl (decodeRunes text).toArray
    ((decodeRunes text).toArray.size + 1) 0 [] [] (by omega)
  simp only at e ⊢
  rw [e]
  simpa [encodeRunes, Segs] using hs

theorem splitIntoSentences_valid (cl : Classes) (text : Str) :
    ∀ t ∈ splitIntoSentences cl text, validUtf8 t = true :=
  fun t ht => ((splitIntoSentences_pieces cl text).2 t ht).1

theorem splitIntoSentences_ne_nil (cl : Classes) (text : Str) :
    ∀ t ∈ splitIntoSentences cl text, t ≠ [] :=
  fun t ht => ((splitIntoSentences_pieces cl text).2 t ht).2

/-- the sentences carry what the re-encoded text carries, under every reading, whatever the bytes -/
theorem splitIntoSentences_reads {f : Str → Str} (hf : Reads f) (cl : Classes) (text : Str) :
    (splitIntoSentences cl text).flatMap f = f (encodeRunes (decodeRunes text)) :=
  (splitIntoSentences_pieces cl text).1.reads_eq hf (splitIntoSentences_valid cl text)

theorem splitIntoSentences_content (cl : Classes) (text : Str) (hv : validUtf8 text = true) :
    (splitIntoSentences cl text).flatMap stripWs = stripWs text := by
  rw [splitIntoSentences_reads reads_stripWs, encode_decode text hv]

end Tabula.Overlap
