import TabulaModel.Lemmas.ListBasics
/-!
The two folds the table models of the DOCX and ODT readers are written with: a sum as
`foldl (fun s c => s + f c)`, a maximum as `foldl (fun m x => max m (f x))`.
-/
namespace Tabula

theorem foldl_add_sum {α : Type} (f : α → Nat) : ∀ (l : List α) (a : Nat),
    l.foldl (fun s c => s + f c) a = a + (l.map f).sum := by
  intro l
  induction l with
  | nil => intro a; rfl
  | cons c cs ih => intro a; rw [List.foldl_cons, ih, List.map_cons, List.sum_cons, Nat.add_assoc]

/-- a sum of summands that are at most `b` each -/
theorem sum_map_le_mul {α : Type} (f : α → Nat) (b : Nat) (l : List α) (h : ∀ x ∈ l, f x ≤ b) :
    (l.map f).sum ≤ l.length * b := by
  have := List.sum_map_le_sum_map (g := fun _ => b) h
  rwa [List.map_const', List.sum_replicate_nat] at this

/-- what bounds the fold: its start value and `f` of every member -/
theorem foldl_max_le_iff {α : Type} (f : α → Nat) (b : Nat) : ∀ (l : List α) (a : Nat),
    l.foldl (fun m x => max m (f x)) a ≤ b ↔ a ≤ b ∧ ∀ x ∈ l, f x ≤ b := by
  intro l
  induction l with
  | nil => intro a; simp
  | cons y ys ih =>
    intro a
    rw [List.foldl_cons, ih, Nat.max_le, List.forall_mem_cons, and_assoc]

/-- the fold is at least its start value and at least `f` of every member -/
theorem foldl_max_bounds {α : Type} (f : α → Nat) (l : List α) (a : Nat) :
    a ≤ l.foldl (fun m x => max m (f x)) a ∧ ∀ x ∈ l, f x ≤ l.foldl (fun m x => max m (f x)) a :=
  (foldl_max_le_iff f _ l a).1 (Nat.le_refl _)

/-- a bound on the start value and on `f` of every member bounds the fold -/
theorem foldl_max_le_of {α : Type} (f : α → Nat) (b : Nat) (l : List α) (a : Nat) (ha : a ≤ b) (h : ∀ x ∈ l, f x ≤ b) :
    l.foldl (fun m x => max m (f x)) a ≤ b :=
  (foldl_max_le_iff f b l a).2 ⟨ha, h⟩

/-- larger start value, pointwise larger function: larger fold -/
theorem foldl_max_le_foldl_max {α : Type} (f g : α → Nat) (l : List α) (a b : Nat) (hab : a ≤ b) (h : ∀ x ∈ l, f x ≤ g x) :
    l.foldl (fun m x => max m (f x)) a ≤ l.foldl (fun m x => max m (g x)) b :=
  have hg := foldl_max_bounds g l b
  foldl_max_le_of f _ l a (Nat.le_trans hab hg.1) fun x hx => Nat.le_trans (h x hx) (hg.2 x hx)

/-- copies of a member the start value already covers (an empty row, a row no wider than the
first) do not move the maximum -/
theorem foldl_max_replicate {α : Type} (f : α → Nat) (x : α) (n a : Nat) (hx : f x ≤ a) :
    (List.replicate n x).foldl (fun m y => max m (f y)) a = a :=
  Nat.le_antisymm
    (foldl_max_le_of f a _ a (Nat.le_refl a) fun _ hy => (List.eq_of_mem_replicate hy) ▸ hx)
    (foldl_max_bounds f _ a).1
end Tabula
