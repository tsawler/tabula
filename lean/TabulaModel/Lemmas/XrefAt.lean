import TabulaModel.Lemmas.XrefCacheSpec
import TabulaModel.Lemmas.XrefObjStm
/-!
# Reading at an offset, and a member of an object stream

`uncompressedAt` on a file whose text at the offset is known, `memberAtI` as the number check on
`osSpec`, and one `GetObject` as where the object is read (`locate`) and what is made of it
(`pick`): the steps every end-to-end lookup theorem goes through. Chained through the resolver
of an indirect `/Length`, such steps are the relation `Reads`, read as written up to the limit of
`maxNestedLoads` and refused beyond it.
-/
namespace Tabula.XrefFile
open Tabula.Reader (PVal)
open Tabula.XrefC (Loc locate pick stmAt lenInt)

theorem uncompressedAt_of_parse {before txt : Str} {n : Int} {lenOf : Int → Option Int} {num gen : Int} {v : PVal}
    (h : parseIndirect txt lenOf = some (num, gen, v)) :
    uncompressedAt (before ++ txt) n before.length lenOf = if num = n then some v else none := by
  have hneg : ¬ ((before.length : Int) < 0) := by omega
  simp only [uncompressedAt, hneg, if_false, Int.toNat_natCast, List.drop_left, h]

theorem uncompressedAt_of_parse_none {before txt : Str} {n : Int} {lenOf : Int → Option Int}
    (h : parseIndirect txt lenOf = none) : uncompressedAt (before ++ txt) n before.length lenOf = none := by
  have hneg : ¬ ((before.length : Int) < 0) := by omega
  simp only [uncompressedAt, hneg, if_false, Int.toNat_natCast, List.drop_left, h]

theorem memberAtI_of_osSpec {os : Reader.ObjStm} {n idx : Int} {o : Tabula.Pdf.Obj}
    (h : osSpec (.ok os) idx = some (n, o)) : memberAtI os n idx = some o := by
  rw [memberAtI_eq_osSpec, h]
  exact if_pos rfl

/-- with `n` marked as being loaded, the rest of a duplicate-free path stays apart from the marks -/
theorem not_mem_cons_of_nodup {α : Type} {n : α} {path loading : List α} (hnd : (n :: path).Nodup)
    (hdis : ∀ a ∈ n :: path, a ∉ loading) : ∀ a ∈ path, a ∉ n :: loading := fun a ha =>
  List.not_mem_cons_of_ne_of_not_mem (fun h => (List.nodup_cons.1 hnd).1 (h ▸ ha)) (hdis a (List.mem_cons_of_mem _ ha))

/-- a compressed entry is read in the object stream it names, at that stream's own entry -/
theorem locate_member {x : RawSection} {n : Int} {e se : RawEntry} (he : getLastI x n = some e)
    (hk : e.kind = .compressed) (hs : getLastI x e.f1 = some se) (hse : se.kind ≠ .compressed) :
    locate x n = some ⟨e.f1, se.f1, some e.f2⟩ := by
  rw [XrefC.locate_compressed he (by rw [hk]; decide) (by rw [hk]; decide)]
  simp only [stmAt, hs, hse, if_false, Option.map_some]

theorem pick_member {ext : Reader.Ext} {n idx : Int} {kv : Reader.Dict} {data : Str} {os : Reader.ObjStm}
    {o : Tabula.Pdf.Obj} (hdec : Reader.mkObjStm ext kv data = .ok os) (hmem : osSpec (.ok os) idx = some (n, o)) :
    pick ext n (some idx) (.stream kv data) = some (.obj o) := by
  simp only [pick, hdec, memberAtI_of_osSpec hmem, Option.map_some]

/-- one `GetObject(n)` below the nesting limit: the object read where the table says, with the
nested lookups as resolver for an indirect `/Length` -/
theorem getObjectB_at {ext : Reader.Ext} {file : Str} {x : RawSection} {loading : List Int} {n : Int} {l : Loc}
    (f : Nat) (hloc : locate x n = some l) (hlim : loading.length < maxNestedLoads) :
    ∃ lenOf : Int → Option Int, (∀ m, lenOf m = lenInt (getObjectB ext file x f (n :: loading) m)) ∧
      getObjectB ext file x (f + 1) loading n =
        if n ∈ loading then none else (uncompressedAt file l.num l.off lenOf).bind (pick ext n l.idx) := by
  obtain ⟨lenOf, hlen, h⟩ := XrefC.getObjectB_succ ext file x f loading n
  have hl : ¬ loading.length ≥ maxNestedLoads := by omega
  exact ⟨lenOf, hlen, by simp only [h, hloc, Option.bind_some, List.contains_iff_mem, hl, or_false]⟩

/-- no entry, or a free one: `GetObject` is an error whatever the file holds -/
theorem getObjectB_of_locate_none {ext : Reader.Ext} {file : Str} {x : RawSection} {n : Int} (fuel : Nat)
    (loading : List Int) (hloc : locate x n = none) : getObjectB ext file x fuel loading n = none := by
  cases fuel with
  | zero => rfl
  | succ f =>
    obtain ⟨_, -, h⟩ := XrefC.getObjectB_succ ext file x f loading n
    rw [h, hloc, Option.bind_none]

/-- `Reads ext file x n v path`: `GetObject(n)` reads, at the place the table names, an object of
which `v` is made, loading the objects `path` inside each other (`n` first). What stands at that
place either parses without the resolver, or parses once the resolver answers the number of the
next object of the path with the integer that object is read as, and fails when the resolver has
no answer. How the bytes come to parse like that is left open. -/
inductive Reads (ext : Reader.Ext) (file : Str) (x : RawSection) : Int → PVal → List Int → Prop
  | leaf {n : Int} {l : Loc} {w v : PVal} :
      locate x n = some l → (∀ lenOf, uncompressedAt file l.num l.off lenOf = some w) →
      pick ext n l.idx w = some v → Reads ext file x n v [n]
  | node {n : Int} {l : Loc} {w v : PVal} {m len : Int} {path : List Int} :
      locate x n = some l → Reads ext file x m (.obj (.int len)) path →
      (∀ lenOf, lenOf m = some len → uncompressedAt file l.num l.off lenOf = some w) →
      (∀ lenOf, lenOf m = none → uncompressedAt file l.num l.off lenOf = none) →
      pick ext n l.idx w = some v → Reads ext file x n v (n :: path)

/-- the objects loaded inside each other are determined by the first: what stands at a place either
needs no resolver or asks for one object -/
theorem Reads.unique {ext : Reader.Ext} {file : Str} {x : RawSection} {n : Int} {v v' : PVal} {p p' : List Int}
    (h : Reads ext file x n v p) (h' : Reads ext file x n v' p') : p = p' := by
  induction h generalizing v' p' with
  | leaf hloc hat _ =>
    cases h' with
    | leaf _ _ _ => rfl
    | node hloc' _ _ hnone _ =>
      rw [hloc] at hloc'; cases hloc'
      exact absurd ((hat fun _ => none).symm.trans (hnone (fun _ => none) rfl)) (fun e => nomatch e)
  | @node n l w v m len path hloc _ hat hnone _ ih =>
    cases h' with
    | leaf hloc' hat' _ =>
      rw [hloc] at hloc'; cases hloc'
      exact absurd ((hat' fun _ => none).symm.trans (hnone (fun _ => none) rfl)) (fun e => nomatch e)
    | @node _ _ w' _ m' len' path' hloc' hsub' hat' hnone' _ =>
      rw [hloc] at hloc'; cases hloc'
      by_cases hm : m' = m
      · subst hm; rw [ih hsub']
      · -- a resolver that answers for `m` only: the place parses by the one reading, fails by the other
        have h1 := hat (fun k => if k = m then some len else none) (if_pos rfl)
        have h2 := hnone' (fun k => if k = m then some len else none) (if_neg hm)
        exact absurd (h1.symm.trans h2) (fun e => nomatch e)

theorem Reads.from_mem {ext : Reader.Ext} {file : Str} {x : RawSection} {n : Int} {v : PVal} {p : List Int}
    (h : Reads ext file x n v p) : ∀ a ∈ p, ∃ v' s, Reads ext file x a v' s ∧ s.length ≤ p.length := by
  induction h with
  | leaf hloc hat hpick =>
    intro a ha
    cases List.mem_singleton.1 ha
    exact ⟨_, _, .leaf hloc hat hpick, Nat.le_refl _⟩
  | node hloc hsub hat hnone hpick ih =>
    intro a ha
    rcases List.mem_cons.1 ha with rfl | ha
    · exact ⟨_, _, .node hloc hsub hat hnone hpick, Nat.le_refl _⟩
    · obtain ⟨v', s, hs, hl⟩ := ih a ha
      exact ⟨v', s, hs, Nat.le_succ_of_le hl⟩

/-- **no object is loaded inside itself** along a chain that is read: the chain would never end -/
theorem Reads.nodup {ext : Reader.Ext} {file : Str} {x : RawSection} {n : Int} {v : PVal} {p : List Int}
    (h : Reads ext file x n v p) : p.Nodup := by
  induction h with
  | leaf _ _ _ => exact List.nodup_cons.2 ⟨List.not_mem_nil, List.nodup_nil⟩
  | node hloc hsub hat hnone hpick ih =>
    refine List.nodup_cons.2 ⟨fun hm => ?_, ih⟩
    obtain ⟨v', s, hs, hl⟩ := hsub.from_mem _ hm
    rw [hs.unique (.node hloc hsub hat hnone hpick)] at hl
    exact Nat.not_succ_le_self _ hl
/-- a chain that fits the limit is read as `v`, at any nesting -/
theorem reads_within {ext : Reader.Ext} {file : Str} {x : RawSection} {n : Int} {v : PVal} {path : List Int}
    (h : Reads ext file x n v path) :
    ∀ (loading : List Int) (fuel : Nat), (∀ a ∈ path, a ∉ loading) →
      loading.length + path.length ≤ maxNestedLoads → path.length ≤ fuel →
      getObjectB ext file x fuel loading n = some v := by
  induction h with
  | leaf hloc hat hpick =>
    intro loading fuel hdis hlim hfuel
    obtain ⟨f, rfl⟩ := Nat.exists_eq_succ_of_ne_zero (Nat.ne_zero_of_lt hfuel)
    obtain ⟨lenOf, -, hget⟩ := getObjectB_at (ext := ext) (file := file) f hloc hlim
    rw [hget, if_neg (hdis _ List.mem_cons_self), hat lenOf]
    exact hpick
  | node hloc hsub hat hnone hpick ih =>
    intro loading fuel hdis hlim hfuel
    obtain ⟨f, rfl⟩ := Nat.exists_eq_succ_of_ne_zero (Nat.ne_zero_of_lt hfuel)
    rw [List.length_cons] at hlim hfuel
    obtain ⟨lenOf, hlen, hget⟩ :=
      getObjectB_at (ext := ext) (file := file) (loading := loading) f hloc (by omega)
    -- the nested lookup, one level further in, answers the next object of the path
    have hsub' := ih (_ :: loading) f
      (not_mem_cons_of_nodup (Reads.node hloc hsub hat hnone hpick).nodup hdis)
      (by rw [List.length_cons]; omega) (by omega)
    rw [hget, if_neg (hdis _ List.mem_cons_self), hat lenOf (by rw [hlen, hsub']; rfl)]
    exact hpick

/-- a chain that does not fit the limit is an error, at any nesting and with any fuel: its last
object is refused, so no resolver along the chain has an answer -/
theorem reads_beyond {ext : Reader.Ext} {file : Str} {x : RawSection} {n : Int} {v : PVal} {path : List Int}
    (h : Reads ext file x n v path) :
    ∀ (loading : List Int) (fuel : Nat), maxNestedLoads < loading.length + path.length →
      getObjectB ext file x fuel loading n = none := by
  induction h with
  | leaf _ _ _ =>
    intro loading fuel hlim
    exact getObjectB_limit ext file x fuel loading _ (Nat.le_of_lt_succ hlim)
  | node hloc _ _ hnone _ ih =>
    intro loading fuel hlim
    by_cases hl : maxNestedLoads ≤ loading.length
    · exact getObjectB_limit ext file x fuel loading _ hl
    · cases fuel with
      | zero => rfl
      | succ f =>
        obtain ⟨lenOf, hlen, hget⟩ :=
          getObjectB_at (ext := ext) (file := file) f hloc (Nat.lt_of_not_le hl)
        rw [hget, hnone lenOf
          (by rw [hlen, ih (_ :: loading) f (by rw [List.length_cons] at hlim ⊢; omega)]; rfl)]
        exact ite_self none

end Tabula.XrefFile
