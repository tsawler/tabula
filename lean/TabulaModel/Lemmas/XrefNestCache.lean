import TabulaModel.Model.XrefNestCache
import TabulaModel.Lemmas.ListBasics
/-!
# The reader's caches on a chain of nested loads: every `GetObject` answers by the chain alone

All loads of `Model/XrefNestCache.lean` (`openStm`, `getM`, `getS`, `getT`) do the same three
things: a hit in a cache goes through `nestCached` with the remembered need; an object the file
does not have is refused with the caches untouched; otherwise the load proper runs in the frame
`framed` (set `reach`, load, on success remember the object with its need, restore `reach`).
`Answers` says what such a call must do for an object whose chain takes `c` loads;
`answers_framed` proves it once for the frame, and the specifications of the four loads in
`Props/C04NestCache.lean` are instances.
-/
namespace Tabula.C04NC
open Tabula.XrefNest

/-- the caches hold only objects of the file, each with the number of nested loads its chain
takes (`objNeed`: the object itself included; `stmNeed`: the loads below the member) -/
def Sound (d : Nat) (top : Bool) (st : Caches) : Prop :=
  (∀ i n, st.objA.lookup i = some n → 1 ≤ i ∧ i ≤ d ∧ n = d - i + 1) ∧
  (∀ i n, st.objB.lookup i = some n → 1 ≤ i ∧ i < d ∧ n = d - i + 1) ∧
  (∀ i n, st.objS.lookup i = some n → 1 ≤ i ∧ i < d ∧ n = d - i + 1) ∧
  (∀ i n, st.stm.lookup i = some n → 1 ≤ i ∧ i < d ∧ n = d - i) ∧
  (∀ n, st.objT = some n → top = true ∧ 1 ≤ d ∧ n = d + 1)

/-- what a `GetObject` of an object whose chain takes `c` loads must do, called with `L` objects
being loaded: found iff `L + c` fits, caches sound afterwards, and on success `reach` raised to
`L + c` -/
def Answers (d : Nat) (top : Bool) (c L : Nat) (st : Caches) (r : Bool × Caches) : Prop :=
  r.1 = decide (L + c ≤ maxNestedLoads) ∧ Sound d top r.2 ∧
    (r.1 = true → r.2.reach = max st.reach (L + c))

variable {d : Nat} {top : Bool} {st : Caches}

theorem memberExists_false (d i : Nat) : memberExists d false i = decide (1 ≤ i ∧ i ≤ d) := rfl

theorem memberExists_true (d i : Nat) : memberExists d true i = decide (1 ≤ i ∧ i < d) := rfl

theorem memberExists_A {i : Nat} (h1 : 1 ≤ i) (h2 : i ≤ d) : memberExists d false i = true :=
  decide_eq_true ⟨h1, h2⟩

theorem memberExists_B {i : Nat} (h1 : 1 ≤ i) (h2 : i < d) : memberExists d true i = true :=
  decide_eq_true ⟨h1, h2⟩

theorem sound_cacheMember {b : Bool} {i n : Nat} (h : Sound d top st) (hex : memberExists d b i = true)
    (hn : n = d - i + 1) : Sound d top (st.cacheMember b i n) := by
  cases b with
  | false => exact ⟨List.lookup_cons_imp ⟨(of_decide_eq_true hex).1, (of_decide_eq_true hex).2, hn⟩ h.1, h.2⟩
  | true => exact ⟨h.1, List.lookup_cons_imp ⟨(of_decide_eq_true hex).1, (of_decide_eq_true hex).2, hn⟩ h.2.1, h.2.2⟩

theorem sound_member {b : Bool} {i n : Nat} (h : Sound d top st) (hl : (st.member b).lookup i = some n) :
    memberExists d b i = true ∧ n = d - i + 1 := by
  cases b with
  | false => obtain ⟨h1, h2, h3⟩ := h.1 i n hl; exact ⟨memberExists_A h1 h2, h3⟩
  | true => obtain ⟨h1, h2, h3⟩ := h.2.1 i n hl; exact ⟨memberExists_B h1 h2, h3⟩

theorem cacheMember_reach (b : Bool) (i n : Nat) (s : Caches) : (s.cacheMember b i n).reach = s.reach := by
  cases b <;> rfl

theorem chain_succ {i d : Nat} (h : i < d) : d - (i + 1) + 1 = d - i := by
  rw [Nat.sub_add_eq, Nat.sub_add_cancel (Nat.sub_pos_of_lt h)]

theorem answers_refused {c L : Nat} (h : Sound d top st) (hc : maxNestedLoads < L + c) :
    Answers d top c L st (false, st) :=
  ⟨(decide_eq_false (Nat.not_le.2 hc)).symm, h, nofun⟩

/-- The frame of every load (reader.go `GetObject`, `getObjectStream`): `r` is the answer of the
load proper, which was started with `reach` set to the number of objects being loaded; on
success `ins` remembers the object with its need; last comes the deferred
`if r.reach < outer { r.reach = outer }`. -/
def framed (outer : Nat) (ins : Caches → Caches) (r : Bool × Caches) : Bool × Caches :=
  (r.1, restoreReach outer (if r.1 then ins r.2 else r.2))

/-- A load proper that answers for `c'` loads on top of `L'`, started with `reach = L'`, leaves
`reach = L' + c'`: the need that `ins` computes from `reach - L'` is exact, and the frame
answers for the same total seen from outside (`L + c`). -/
theorem answers_framed {c c' L L' : Nat} {ins : Caches → Caches} {r : Bool × Caches}
    (hr : Answers d top c' L' { st with reach := L' } r) (hc : L' + c' = L + c)
    (hreach : ∀ s, (ins s).reach = s.reach)
    (hins : ∀ s, Sound d top s → s.reach - L' = c' → Sound d top (ins s)) :
    Answers d top c L st (framed st.reach ins r) := by
  obtain ⟨ha, hs, hre⟩ := hr
  rw [hc] at ha
  unfold framed
  cases hb : r.1 with
  | false => exact ⟨hb ▸ ha, hs, nofun⟩
  | true =>
    have hre : r.2.reach = L' + c' := (hre hb).trans (Nat.max_eq_right (Nat.le_add_right L' c'))
    refine ⟨hb ▸ ha, hins _ hs (by rw [hre, Nat.add_sub_cancel_left]), fun _ => ?_⟩
    show max (ins r.2).reach st.reach = _
    rw [hreach, hre, hc, Nat.max_comm]

theorem openStm_miss {i L : Nat} {nested : Caches → Bool × Caches} (h : st.stm.lookup i = none) :
    openStm i L st nested = framed st.reach (fun s => { s with stm := (i, s.reach - L) :: s.stm })
      (nested { st with reach := L }) := by
  simp only [openStm, h, framed]
  cases (nested { st with reach := L }).1 <;> rfl

theorem getM_load {fuel i L : Nat} {b : Bool} (h : (st.member b).lookup i = none)
    (hex : memberExists d b i = true) (hlim : L < maxNestedLoads) :
    getM d (fuel + 1) b i L st = framed st.reach (fun s => s.cacheMember b i (s.reach - (L + 1) + 1))
      (if !b && i = d then (true, { st with reach := L + 1 })
       else openStm i (L + 1) { st with reach := L + 1 } (getM d fuel false (i + 1) (L + 1))) := by
  simp only [getM, h, hex, Nat.not_le.2 hlim, Bool.not_true, Bool.false_eq_true, if_false, framed]

theorem getS_load {i : Nat} (h : st.objS.lookup i = none) (hin : ¬(i = 0 ∨ d ≤ i)) :
    getS d i st = framed st.reach (fun s => { s with objS := (i, s.reach - 1 + 1) :: s.objS })
      (getM d (d + 1) false (i + 1) 1 { st with reach := 1 }) := by
  simp only [getS, h, hin, if_false, framed]

theorem getT_load (h : st.objT = none) :
    getT d true st = framed st.reach (fun s => { s with objT := some (s.reach - 1 + 1) })
      (getM d (d + 1) false 1 1 { st with reach := 1 }) := by
  simp only [getT, h, Bool.not_true, Bool.false_eq_true, if_false, framed]

theorem answers_outside {e : Bool} {c : Nat} {r : Bool × Caches} (he : e = true)
    (h : Answers d top c 0 st r) : r.1 = (e && decide (c ≤ maxNestedLoads)) ∧ Sound d top r.2 :=
  ⟨by rw [h.1, he, Nat.zero_add, Bool.true_and], h.2.1⟩

theorem refused_outside {e : Bool} {c : Nat} {s : Caches} (he : e = false) (h : Sound d top s) :
    (false, s).1 = (e && decide (c ≤ maxNestedLoads)) ∧ Sound d top (false, s).2 :=
  ⟨by rw [he, Bool.false_and], h⟩

theorem outside_of_spec {e : Bool} {c : Nat} {r : Bool × Caches} (h : Sound d top st)
    (hs : (e = true → Answers d top c 0 st r) ∧ (e = false → r = (false, st))) :
    r.1 = (e && decide (c ≤ maxNestedLoads)) ∧ Sound d top r.2 := by
  cases e with
  | true => exact answers_outside rfl (hs.1 rfl)
  | false => rw [hs.2 rfl]; exact refused_outside rfl h

end Tabula.C04NC
