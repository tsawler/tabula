import TabulaModel.Model.Print
import TabulaModel.Model.CSParser
import TabulaModel.Lemmas.ListBasics
/-!
Hex strings `<…>` in both parsers: every printed spelling is read back as the bytes meant
(`hexstr_roundtrip`, `cs_hexstr_roundtrip`), and for EVERY input what `readHexString` (core/lexer.go)
and `parseHexString` (contentstream/parser.go) accept and return (`Gram.hexLoop_iff`,
`Gram.cs_hexLoop_eq` with `Gram.hexScan_iff`).  Core Lean only.
-/
namespace Tabula.Pdf

namespace Gram

theorem ws_not_hex {c : Nat} (h : isWs c = true) : isHexDigit c = false := by
  simp only [isWs, Bool.or_eq_true, beq_iff_eq] at h
  cases hh : isHexDigit c with
  | false => rfl
  | true =>
    simp only [isHexDigit, Bool.or_eq_true, Bool.and_eq_true, decide_eq_true_eq] at hh
    omega

theorem hex_not_ws {c : Nat} (h : isHexDigit c = true) : isWs c = false := by
  cases hh : isWs c with
  | false => rfl
  | true => rw [ws_not_hex hh] at h; cases h

theorem hex_ne_gt {c : Nat} (h : isHexDigit c = true) : c ≠ 62 := by
  intro hc; subst hc; revert h; decide

theorem hex_not_delim {c : Nat} (h : isHexDigit c = true) : isDelim c = false := by
  simp only [isHexDigit, Bool.or_eq_true, Bool.and_eq_true, decide_eq_true_eq] at h
  cases hh : isDelim c with
  | false => rfl
  | true =>
    simp only [isDelim, Bool.or_eq_true, beq_iff_eq] at hh
    omega

end Gram

theorem hexDigitChar_isHexDigit (u : Bool) (v : Nat) (hv : v < 16) :
    isHexDigit (hexDigitChar u v) = true := by
  cases u <;> simp [hexDigitChar, isHexDigit] <;> split <;> omega

theorem hexDigitChar_isWs (u : Bool) (v : Nat) (hv : v < 16) :
    isWs (hexDigitChar u v) = false :=
  Gram.hex_not_ws (hexDigitChar_isHexDigit u v hv)

theorem hexDigitChar_ne (u : Bool) (v : Nat) (hv : v < 16) : hexDigitChar u v ≠ 62 :=
  Gram.hex_ne_gt (hexDigitChar_isHexDigit u v hv)

theorem hexDigitChar_value (u : Bool) (v : Nat) (hv : v < 16) :
    hexValue (hexDigitChar u v) = v := by
  have h : v = 0 ∨ v = 1 ∨ v = 2 ∨ v = 3 ∨ v = 4 ∨ v = 5 ∨ v = 6 ∨ v = 7 ∨ v = 8 ∨ v = 9 ∨
      v = 10 ∨ v = 11 ∨ v = 12 ∨ v = 13 ∨ v = 14 ∨ v = 15 := by omega
  cases u <;> rcases h with h | h | h | h | h | h | h | h | h | h | h | h | h | h | h | h <;>
    subst h <;> decide

theorem isWs_ne (c : Nat) (h : isWs c = true) : c ≠ 62 := by
  intro hc; subst hc; revert h; decide

theorem hexLoop_end (r : Str) : hexLoop (62 :: r) = some ([], r) := by
  simp [hexLoop]

theorem hexLoop_ws (c : Nat) (r : Str) (h : isWs c = true) : hexLoop (c :: r) = hexLoop r := by
  have := isWs_ne c h
  simp [hexLoop, this, h]

theorem hexLoop_digit (c : Nat) (r : Str) (h1 : c ≠ 62) (h2 : isWs c = false)
    (h3 : isHexDigit c = true) : hexLoop (c :: r) = pre [c] (hexLoop r) := by
  simp [hexLoop, h1, h2, h3]

theorem hexLoop_bad (c : Nat) (r : Str) (h1 : c ≠ 62) (h2 : isWs c = false)
    (h3 : isHexDigit c = false) : hexLoop (c :: r) = none := by
  simp [hexLoop, h1, h2, h3]

/-- a reader that steps over one white-space byte steps over a run of them … -/
theorem skip_allWs {α : Type} (f : Str → α) (hf : ∀ c r, isWs c = true → f (c :: r) = f r) (w rest : Str)
    (hw : AllWs w) : f (w ++ rest) = f rest := by
  induction w with
  | nil => rfl
  | cons c w ih => rw [List.cons_append, hf c _ (hw c (by simp)), ih fun d hd => hw d (by simp [hd])]

/-- `skipWhitespace` drops the white space in front -/
theorem Prog.skipWs_eq_dropWhile (s : Str) : skipWs s = s.dropWhile isWs := by
  induction s with
  | nil => rfl
  | cons b r ih =>
    simp only [skipWs, List.dropWhile_cons]
    split <;> simp_all

/-- … and does not see whether `skipWhitespace` ran before it -/
theorem skip_skipWs {α : Type} (f : Str → α) (hf : ∀ c r, isWs c = true → f (c :: r) = f r) (s : Str) :
    f (skipWs s) = f s := by
  have e := congrArg f (List.takeWhile_append_dropWhile (p := isWs) (l := s))
  rw [skip_allWs f hf _ _ (fun c hc => List.mem_takeWhile_imp hc)] at e
  rw [Prog.skipWs_eq_dropWhile, e]

theorem hexLoop_allWs (w rest : Str) (hw : AllWs w) : hexLoop (w ++ rest) = hexLoop rest :=
  skip_allWs hexLoop hexLoop_ws w rest hw

theorem hexLoop_hdc (u : Bool) (v : Nat) (hv : v < 16) (r : Str) :
    hexLoop (hexDigitChar u v :: r) = pre [hexDigitChar u v] (hexLoop r) :=
  hexLoop_digit _ _ (hexDigitChar_ne u v hv) (hexDigitChar_isWs u v hv) (hexDigitChar_isHexDigit u v hv)

theorem pre_pre (a b : Str) (x : Option (Str × Str)) : pre a (pre b x) = pre (a ++ b) x := by
  cases x with
  | none => rfl
  | some p => cases p; simp [pre]

theorem pre_nil (x : Option (Str × Str)) : pre [] x = x := by
  cases x with
  | none => rfl
  | some p => cases p; rfl

theorem Prog.pre_some {bs : Str} {x : Option (Str × Str)} {v r : Str} (h : pre bs x = some (v, r)) :
    ∃ v', x = some (v', r) ∧ v = bs ++ v' := by
  cases x with
  | none => simp [pre] at h
  | some p =>
    obtain ⟨v', r'⟩ := p
    simp only [pre, Option.some.injEq, Prod.mk.injEq] at h
    exact ⟨v', by rw [h.2], h.1.symm⟩

def hexDigitsOf (ps : List HPiece) : Str :=
  ps.flatMap (fun p => [hexDigitChar p.u1 (p.b / 16), hexDigitChar p.u2 (p.b % 16)])

theorem hexLoop_piece (p : HPiece) (hp : p.Ok) (rest : Str) :
    hexLoop (p.render ++ rest) =
      pre [hexDigitChar p.u1 (p.b / 16), hexDigitChar p.u2 (p.b % 16)] (hexLoop rest) := by
  obtain ⟨hb, h1, h2⟩ := hp
  have e : p.render ++ rest =
      p.w1 ++ (hexDigitChar p.u1 (p.b / 16) :: (p.w2 ++ (hexDigitChar p.u2 (p.b % 16) :: rest))) := by
    simp [HPiece.render]
  rw [e, hexLoop_allWs _ _ h1, hexLoop_hdc _ _ (by omega), hexLoop_allWs _ _ h2,
    hexLoop_hdc _ _ (by omega), pre_pre]
  rfl

theorem hexLoop_pieces (ps : List HPiece) (hps : ∀ p ∈ ps, p.Ok) (rest : Str) :
    hexLoop (ps.flatMap HPiece.render ++ rest) = pre (hexDigitsOf ps) (hexLoop rest) := by
  induction ps with
  | nil => simp [hexDigitsOf, pre_nil]
  | cons p ps ih =>
    have hp : p.Ok := hps p (by simp)
    have hps' : ∀ q ∈ ps, q.Ok := fun q hq => hps q (by simp [hq])
    rw [List.flatMap_cons, List.append_assoc, hexLoop_piece p hp, ih hps', pre_pre]
    rfl

theorem hexPairs_digits (ps : List HPiece) (hps : ∀ p ∈ ps, p.Ok) (more : Str) :
    hexPairs (hexDigitsOf ps ++ more) = ps.map (·.b) ++ hexPairs more := by
  induction ps with
  | nil => rfl
  | cons p ps ih =>
    have hp : p.Ok := hps p (by simp)
    have hps' : ∀ q ∈ ps, q.Ok := fun q hq => hps q (by simp [hq])
    have hb := hp.1
    have e : hexDigitsOf (p :: ps) ++ more =
        hexDigitChar p.u1 (p.b / 16) :: hexDigitChar p.u2 (p.b % 16) :: (hexDigitsOf ps ++ more) := by
      simp [hexDigitsOf]
    rw [e, hexPairs, ih hps', hexDigitChar_value _ _ (by omega), hexDigitChar_value _ _ (by omega)]
    simp only [List.map_cons, List.cons_append]
    congr 1
    omega

/-- the document-level lexer + parser read every legal spelling of a hex string (any case, any
white space between digits, optional missing last digit) back as the bytes meant -/
theorem hexstr_roundtrip (ps : List HPiece) (last : Option HLast) (wEnd tail : Str)
    (hps : ∀ p ∈ ps, p.Ok) (hlast : ∀ l, last = some l → l.Ok) (hw : AllWs wEnd) :
    ∃ ds, hexLoop (renderHexBody ps last wEnd ++ tail) = some (ds, tail) ∧ hexPairs ds = hexValueOf ps last := by
  cases last with
  | none =>
    refine ⟨hexDigitsOf ps, ?_, ?_⟩
    · have e : renderHexBody ps none wEnd ++ tail =
          ps.flatMap HPiece.render ++ (wEnd ++ (62 :: tail)) := by
        simp [renderHexBody]
      rw [e, hexLoop_pieces ps hps, hexLoop_allWs _ _ hw, hexLoop_end]
      simp [pre]
    · have := hexPairs_digits ps hps []
      simpa [hexValueOf, hexPairs] using this
  | some l =>
    obtain ⟨hhi, hlw⟩ := hlast l rfl
    refine ⟨hexDigitsOf ps ++ [hexDigitChar l.u l.hi], ?_, ?_⟩
    · have e : renderHexBody ps (some l) wEnd ++ tail =
          ps.flatMap HPiece.render ++ (l.w ++ (hexDigitChar l.u l.hi :: (wEnd ++ (62 :: tail)))) := by
        simp [renderHexBody, HLast.render]
      rw [e, hexLoop_pieces ps hps, hexLoop_allWs _ _ hlw, hexLoop_hdc _ _ hhi,
        hexLoop_allWs _ _ hw, hexLoop_end]
      simp [pre]
    · rw [hexPairs_digits ps hps]
      simp [hexValueOf, hexPairs, hexDigitChar_value _ _ hhi]

theorem cs_hexLoop_end (r : Str) : CS.hexLoop (62 :: r) = some ([], r) := by
  rw [CS.hexLoop.eq_def]; simp

theorem cs_hexLoop_ws (c : Nat) (r : Str) (h : isWs c = true) :
    CS.hexLoop (c :: r) = CS.hexLoop r := by
  have := isWs_ne c h
  rw [CS.hexLoop.eq_def]; simp [this, h]

theorem Gram.cs_hexLoop_nil : CS.hexLoop [] = some ([], []) := by
  rw [CS.hexLoop.eq_def]

theorem Gram.cs_hexLoop_bad (c : Nat) (r : Str) (h1 : c ≠ 62) (h2 : isWs c = false) (h3 : isHexDigit c = false) :
    CS.hexLoop (c :: r) = none := by
  rw [CS.hexLoop.eq_def]; simp [h1, h2, h3]

theorem hexLoop_skipWs (s : Str) : hexLoop (skipWs s) = hexLoop s := skip_skipWs hexLoop hexLoop_ws s

theorem skipWs_head (s : Str) (c : Nat) (r : Str) (h : skipWs s = c :: r) : isWs c = false := by
  rw [Prog.skipWs_eq_dropWhile] at h
  exact List.not_of_dropWhile_eq_cons h

namespace Gram

/-- the body of a hex string: white space and hex digits only -/
def HexBody (body : Str) : Prop := ∀ c ∈ body, isWs c = true ∨ isHexDigit c = true

/-- the digits of a body -/
def hexDigitsOf (body : Str) : Str := body.filter (fun c => !isWs c)

theorem hexBody_nil : HexBody [] := by intro c hc; cases hc

theorem hexBody_cons {c : Nat} {body : Str} (hc : isWs c = true ∨ isHexDigit c = true) (hb : HexBody body) :
    HexBody (c :: body) := by
  intro d hd
  rcases List.mem_cons.mp hd with rfl | hd
  · exact hc
  · exact hb d hd

theorem hexBody_head {c : Nat} {body : Str} (h : HexBody (c :: body)) : isWs c = true ∨ isHexDigit c = true :=
  h c (by simp)

theorem hexBody_tail {c : Nat} {body : Str} (h : HexBody (c :: body)) : HexBody body :=
  fun d hd => h d (by simp [hd])

theorem hexDigitsOf_nil : hexDigitsOf [] = [] := rfl

theorem hexDigitsOf_ws {c : Nat} (body : Str) (h : isWs c = true) : hexDigitsOf (c :: body) = hexDigitsOf body := by
  simp [hexDigitsOf, h]

theorem hexDigitsOf_nws {c : Nat} (body : Str) (h : isWs c = false) :
    hexDigitsOf (c :: body) = c :: hexDigitsOf body := by
  simp [hexDigitsOf, h]

theorem hexDigitsOf_cons (c : Nat) (body : Str) :
    hexDigitsOf (c :: body) = if isWs c then hexDigitsOf body else c :: hexDigitsOf body := by
  cases h : isWs c with
  | true => simp [hexDigitsOf_ws body h]
  | false => simp [hexDigitsOf_nws body h]

/-- a reader that skips white space and collects hex digits runs through a body -/
theorem scan_body (f : Str → Option (Str × Str)) (hws : ∀ c r, isWs c = true → f (c :: r) = f r)
    (hdig : ∀ c r, isHexDigit c = true → f (c :: r) = pre [c] (f r)) (body rest : Str) (hb : HexBody body) :
    f (body ++ rest) = pre (hexDigitsOf body) (f rest) := by
  induction body with
  | nil => rw [hexDigitsOf_nil, pre_nil]; rfl
  | cons c body ih =>
    have ih' := ih (hexBody_tail hb)
    rw [List.cons_append]
    cases hw : isWs c with
    | true => rw [hws c _ hw, hexDigitsOf_ws body hw, ih']
    | false =>
      have hx : isHexDigit c = true := by
        rcases hexBody_head hb with h | h
        · rw [hw] at h; cases h
        · exact h
      rw [hdig c _ hx, hexDigitsOf_nws body hw, ih', pre_pre]
      rfl

/-- **a reader of hex strings, every input**: one that stops behind `>`, steps over white space, collects hex digits
and fails on any other byte accepts `body >` with a body of white space and hex digits, returns the digits in order
and leaves what follows the `>`; a body that runs to the end of the data it treats as it treats the end -/
theorem scan_iff (f : Str → Option (Str × Str)) (hend : ∀ r, f (62 :: r) = some ([], r))
    (hws : ∀ c r, isWs c = true → f (c :: r) = f r)
    (hdig : ∀ c r, isHexDigit c = true → f (c :: r) = pre [c] (f r))
    (hbad : ∀ c r, c ≠ 62 → isWs c = false → isHexDigit c = false → f (c :: r) = none) (inp ds r : Str) :
    f inp = some (ds, r) ↔
      (∃ body, inp = body ++ 62 :: r ∧ HexBody body ∧ ds = hexDigitsOf body) ∨
      (HexBody inp ∧ pre (hexDigitsOf inp) (f []) = some (ds, r)) := by
  constructor
  · intro h
    induction inp generalizing ds with
    | nil => exact Or.inr ⟨hexBody_nil, by rw [hexDigitsOf_nil, pre_nil]; exact h⟩
    | cons c r0 ih =>
      by_cases h1 : c = 62
      · subst h1
        rw [hend] at h
        cases h
        exact Or.inl ⟨[], rfl, hexBody_nil, rfl⟩
      cases h2 : isWs c with
      | true =>
        rw [hws c r0 h2] at h
        rw [hexDigitsOf_ws r0 h2]
        rcases ih ds h with ⟨body, e, hb, hd⟩ | ⟨hb, hd⟩
        · exact Or.inl ⟨c :: body, by rw [e]; rfl, hexBody_cons (Or.inl h2) hb,
            by rw [hexDigitsOf_ws body h2]; exact hd⟩
        · exact Or.inr ⟨hexBody_cons (Or.inl h2) hb, hd⟩
      | false =>
        cases h3 : isHexDigit c with
        | false => rw [hbad c r0 h1 h2 h3] at h; cases h
        | true =>
          rw [hdig c r0 h3] at h
          obtain ⟨ds', h', rfl⟩ := Prog.pre_some h
          rw [hexDigitsOf_nws r0 h2]
          rcases ih ds' h' with ⟨body, e, hb, hd⟩ | ⟨hb, hd⟩
          · exact Or.inl ⟨c :: body, by rw [e]; rfl, hexBody_cons (Or.inr h3) hb,
              by rw [hexDigitsOf_nws body h2, hd]; rfl⟩
          · exact Or.inr ⟨hexBody_cons (Or.inr h3) hb,
              by rw [show c :: hexDigitsOf r0 = [c] ++ hexDigitsOf r0 from rfl, ← pre_pre, hd]; rfl⟩
  · rintro (⟨body, rfl, hb, rfl⟩ | ⟨hb, h⟩)
    · rw [scan_body f hws hdig body _ hb, hend]
      simp [pre]
    · rw [← h, ← scan_body f hws hdig inp [] hb, List.append_nil]

theorem hexLoop_body (body rest : Str) (hb : HexBody body) :
    hexLoop (body ++ rest) = pre (hexDigitsOf body) (hexLoop rest) :=
  scan_body hexLoop hexLoop_ws (fun c r h => hexLoop_digit c r (hex_ne_gt h) (hex_not_ws h) h) body rest hb

/-- **`readHexString`, every input**: it succeeds exactly on `body >` with a body of white space and hex digits
(any number of digits, odd included), returns the digits in order, and leaves what follows the `>` -/
theorem hexLoop_iff (inp ds r : Str) :
    hexLoop inp = some (ds, r) ↔ ∃ body, inp = body ++ 62 :: r ∧ HexBody body ∧ ds = hexDigitsOf body :=
  (scan_iff hexLoop hexLoop_end hexLoop_ws (fun c r h => hexLoop_digit c r (hex_ne_gt h) (hex_not_ws h) h)
    hexLoop_bad inp ds r).trans (or_iff_left fun h => nomatch h.2)

theorem hexPairs_cons2 (a b : Nat) (r : Str) : hexPairs (a :: b :: r) = (hexValue a * 16 + hexValue b) :: hexPairs r := by
  rw [hexPairs]

theorem hexPairs_one (a : Nat) : hexPairs [a] = [hexValue a * 16] := by
  rw [hexPairs]

theorem hexPairs_nil : hexPairs [] = [] := by
  rw [hexPairs]

/-- `readHexString` without the error at the end of the data: the digits read so far are returned -/
def hexScan : Str → Option (Str × Str)
  | [] => some ([], [])
  | b :: r =>
    if b = 62 then some ([], r)
    else if isWs b then hexScan r
    else if isHexDigit b then pre [b] (hexScan r)
    else none

/-- digits to bytes in a reader's result -/
def pairsOf : Option (Str × Str) → Option (Str × Str)
  | none => none
  | some (ds, r) => some (hexPairs ds, r)

theorem hexScan_nil : hexScan [] = some ([], []) := by rw [hexScan]

theorem hexScan_end (r : Str) : hexScan (62 :: r) = some ([], r) := by simp [hexScan]

theorem hexScan_ws (c : Nat) (r : Str) (h : isWs c = true) : hexScan (c :: r) = hexScan r := by
  have := isWs_ne c h
  simp [hexScan, this, h]

theorem hexScan_digit (c : Nat) (r : Str) (h3 : isHexDigit c = true) : hexScan (c :: r) = pre [c] (hexScan r) := by
  simp [hexScan, hex_ne_gt h3, hex_not_ws h3, h3]

theorem hexScan_bad (c : Nat) (r : Str) (h1 : c ≠ 62) (h2 : isWs c = false) (h3 : isHexDigit c = false) :
    hexScan (c :: r) = none := by
  simp [hexScan, h1, h2, h3]

theorem hexScan_skipWs (s : Str) : hexScan (skipWs s) = hexScan s := skip_skipWs hexScan hexScan_ws s

theorem hexScan_iff (inp ds r : Str) :
    hexScan inp = some (ds, r) ↔
      (∃ body, inp = body ++ 62 :: r ∧ HexBody body ∧ ds = hexDigitsOf body) ∨
      (r = [] ∧ HexBody inp ∧ ds = hexDigitsOf inp) := by
  rw [scan_iff hexScan hexScan_end hexScan_ws hexScan_digit hexScan_bad, hexScan_nil]
  simp only [pre, List.append_nil, Option.some.injEq, Prod.mk.injEq]
  exact or_congr_right ⟨fun ⟨hb, hd, hr⟩ => ⟨hr.symm, hb, hd.symm⟩, fun ⟨hr, hb, hd⟩ => ⟨hb, hd.symm, hr.symm⟩⟩

theorem pairsOf_pre2 (a b : Nat) (x : Option (Str × Str)) :
    pairsOf (pre [a] (pre [b] x)) = pre [hexValue a * 16 + hexValue b] (pairsOf x) := by
  cases x with
  | none => rfl
  | some p =>
    obtain ⟨ds, r⟩ := p
    simp only [pre, pairsOf, List.cons_append, List.nil_append, hexPairs_cons2]

theorem pairsOf_one (a : Nat) (r : Str) : pairsOf (pre [a] (some ([], r))) = some ([hexValue a * 16], r) := by
  simp [pre, pairsOf, hexPairs_one]

/-- `contentstream.parseHexString` is `readHexString` without the end-of-data error, followed by the
document-level parser's digits-to-bytes conversion — for every input -/
theorem cs_hexLoop_eq (inp : Str) : CS.hexLoop inp = pairsOf (hexScan inp) := by
  fun_induction CS.hexLoop inp with
  | case1 => rfl
  | case2 r => rw [hexScan_end]; rfl
  | case3 c r _ hw ih => rw [hexScan_ws c r hw, ih]
  | case4 c r h62 hw hx => rw [hexScan_bad c r h62 (by simpa using hw) (by simpa using hx)]; rfl
  -- behind a first digit `c`: the end of the data, `>`, or (behind white space, which `hexScan` steps over byte by byte
  -- and the reader with `skipWhitespace`) one more byte
  | case5 c _ _ hx => rw [hexScan_digit c _ (by simpa using hx), hexScan_nil, pairsOf_one]
  | case6 c _ _ hx r2 => rw [hexScan_digit c _ (by simpa using hx), hexScan_end, pairsOf_one]
  | case7 c _ _ hx c2 r2 _ hw2 hs =>
    rw [hexScan_digit c _ (by simpa using hx), hexScan_ws c2 r2 hw2, ← hexScan_skipWs, hs, hexScan_nil, pairsOf_one]
  | case8 c _ _ hx c2 r2 _ hw2 r3 hs =>
    rw [hexScan_digit c _ (by simpa using hx), hexScan_ws c2 r2 hw2, ← hexScan_skipWs, hs, hexScan_end, pairsOf_one]
  | case9 c _ _ hx c2 r2 _ hw2 c3 r3 hs h62 hx3 =>
    rw [hexScan_digit c _ (by simpa using hx), hexScan_ws c2 r2 hw2, ← hexScan_skipWs, hs,
      hexScan_bad c3 r3 h62 (skipWs_head r2 c3 r3 hs) (by simpa using hx3)]
    rfl
  | case10 c _ _ hx c2 r2 _ hw2 c3 r3 hs _ hx3 ih =>
    rw [hexScan_digit c _ (by simpa using hx), hexScan_ws c2 r2 hw2, ← hexScan_skipWs, hs,
      hexScan_digit c3 r3 (by simpa using hx3), pairsOf_pre2, ih]
  | case11 c _ _ hx c2 r2 h62 hw2 hx2 =>
    rw [hexScan_digit c _ (by simpa using hx), hexScan_bad c2 r2 h62 (by simpa using hw2) (by simpa using hx2)]
    rfl
  | case12 c _ _ hx c2 r2 _ _ hx2 ih =>
    rw [hexScan_digit c _ (by simpa using hx), hexScan_digit c2 r2 (by simpa using hx2), pairsOf_pre2, ih]

theorem pairsOf_some {x : Option (Str × Str)} {v r : Str} :
    pairsOf x = some (v, r) ↔ ∃ ds, x = some (ds, r) ∧ v = hexPairs ds := by
  cases x with
  | none => simp [pairsOf]
  | some p =>
    obtain ⟨ds, r'⟩ := p
    simp only [pairsOf, Option.some.injEq, Prod.mk.injEq]
    constructor
    · rintro ⟨rfl, rfl⟩; exact ⟨ds, ⟨rfl, rfl⟩, rfl⟩
    · rintro ⟨ds', ⟨rfl, rfl⟩, rfl⟩; exact ⟨rfl, rfl⟩

end Gram

/-- whenever the document-level lexer accepts a hex string, the content-stream reader accepts it
too, stops at the same place and gives the bytes the document-level parser computes from the digits -/
theorem cs_hexLoop_agree (inp ds r : Str) (h : hexLoop inp = some (ds, r)) :
    CS.hexLoop inp = some (hexPairs ds, r) := by
  obtain ⟨body, rfl, hb, rfl⟩ := (Gram.hexLoop_iff inp ds r).1 h
  rw [Gram.cs_hexLoop_eq, (Gram.hexScan_iff _ _ r).2 (Or.inl ⟨body, rfl, hb, rfl⟩)]
  rfl

/-- so the content-stream reader has the same round trip -/
theorem cs_hexstr_roundtrip (ps : List HPiece) (last : Option HLast) (wEnd tail : Str)
    (hps : ∀ p ∈ ps, p.Ok) (hlast : ∀ l, last = some l → l.Ok) (hw : AllWs wEnd) :
    CS.hexLoop (renderHexBody ps last wEnd ++ tail) = some (hexValueOf ps last, tail) := by
  obtain ⟨ds, h1, h2⟩ := hexstr_roundtrip ps last wEnd tail hps hlast hw
  rw [cs_hexLoop_agree _ ds tail h1, h2]

end Tabula.Pdf
