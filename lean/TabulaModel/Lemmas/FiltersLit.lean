import TabulaModel.Model.FiltersLit
import TabulaModel.Lemmas.Filters
/-!
The loop-level models of `Model/FiltersLit.lean` compute what the one-pass models of
`Model/Filters.lean` compute, on every input: `hexDecodeLit = hexDecode`, `a85DecodeLit = a85Decode`.
Machine arithmetic first (`byte`, `uint64`, shifts, bitwise or), then the loops.
-/
namespace Tabula.Filters

/-- `b << 4` on a `byte` holding a hexadecimal digit value does not overflow -/
theorem toByte_shl4 (b : Nat) (h : b < 16) : toByte (b <<< 4) = b * 16 := by
  unfold toByte
  rw [Nat.shiftLeft_eq]
  omega

/-- `(b1 << 4) | b2` is `b1*16 + b2` when `b2` is a digit value: the low four bits of `b1*16` are free -/
theorem nibbles_or (h l : Nat) (hl : l < 16) : (h * 16) ||| l = h * 16 + l := by
  rw [Nat.mul_comm]
  exact (Nat.two_pow_add_eq_or_of_lt (i := 4) hl h).symm

/-- `data[i] - '!'` for a character up to `u`: the reduction to a `byte` changes nothing (the loop gets here from `!` on
only, where the subtraction does not wrap either) -/
theorem toByte_digit (c : Nat) (h2 : c ≤ 117) : toByte (c - 33) = c - 33 := by
  unfold toByte; omega

/-- the `uint64` accumulator holds the value modulo 2^64, whatever the digits -/
theorem a85ValueU64_eq_mod (ds : List Nat) : a85ValueU64 ds = a85Value ds % 18446744073709551616 := by
  -- reducing modulo 2^64 commutes with a turn of the loop
  have h := List.foldl_hom (· % 18446744073709551616) (g₁ := fun v d => v * 85 + d)
    (g₂ := fun v d => toU64 (v * 85 + d)) (l := ds) (init := 0) fun x y => by unfold toU64; omega
  rwa [Nat.zero_mod] at h

/-- `n` digits below 85 have a value below `85^n` -/
theorem a85Value_lt (ds : List Nat) (hd : ∀ d ∈ ds, d < 85) : a85Value ds < 85 ^ ds.length := by
  have key : ∀ (ds : List Nat) (v : Nat), (∀ d ∈ ds, d < 85) →
      ds.foldl (fun v d => v * 85 + d) v + 1 ≤ (v + 1) * 85 ^ ds.length := by
    intro ds
    induction ds with
    | nil => intro v _; simp
    | cons d ds ih =>
      intro v hd
      have hd0 := hd d (List.mem_cons_self ..)
      calc _ ≤ (v * 85 + d + 1) * 85 ^ ds.length := ih _ (fun x hx => hd x (List.mem_cons_of_mem _ hx))
        _ ≤ ((v + 1) * 85) * 85 ^ ds.length := Nat.mul_le_mul_right _ (by omega)
        _ = (v + 1) * 85 ^ (d :: ds).length := by rw [List.length_cons, Nat.pow_succ', Nat.mul_assoc]
  have := key ds 0 hd
  rw [Nat.zero_add, Nat.one_mul] at this
  exact this

/-- so it never wraps on the five digits of a padded group: 85^5 < 2^64 -/
theorem a85ValueU64_pad (ds : List Nat) (h5 : ds.length ≤ 5) (hd : ∀ d ∈ ds, d < 85) :
    a85ValueU64 (padTo5 ds) = a85Value (padTo5 ds) := by
  rw [a85ValueU64_eq_mod]
  apply Nat.mod_eq_of_lt
  have hl : (padTo5 ds).length = 5 := by
    unfold padTo5; rw [List.length_append, List.length_replicate]; omega
  have := a85Value_lt (padTo5 ds) (by
    intro d hm
    rcases List.mem_append.mp hm with h | h
    · exact hd d h
    · rw [(List.mem_replicate.mp h).2]; decide)
  rw [hl] at this
  exact Nat.lt_trans this (by decide)

theorem a85ValueU64_five (d0 d1 d2 d3 d4 : Nat) (h0 : d0 < 85) (h1 : d1 < 85) (h2 : d2 < 85) (h3 : d3 < 85)
    (h4 : d4 < 85) : a85ValueU64 [d0, d1, d2, d3, d4] = a85Value [d0, d1, d2, d3, d4] :=
  a85ValueU64_pad [d0, d1, d2, d3, d4] (Nat.le_refl _) (by
    intro d hd
    simp only [List.mem_cons, List.not_mem_nil, or_false] at hd
    rcases hd with rfl | rfl | rfl | rfl | rfl <;> assumption)

/-- `byte(value >> (24 - j*8))` for `j < numBytes ≤ 4` are the leading big-endian bytes -/
theorem a85Emit_eq (v k : Nat) (hk : k ≤ 4) : a85Emit v k = (bytes4 v).take k := by
  have e24 : v >>> 24 = v / 16777216 := by rw [Nat.shiftRight_eq_div_pow]
  have e16 : v >>> 16 = v / 65536 := by rw [Nat.shiftRight_eq_div_pow]
  have e8 : v >>> 8 = v / 256 := by rw [Nat.shiftRight_eq_div_pow]
  have e0 : v >>> 0 = v := rfl
  match k, hk with
  | 0, _ => rfl
  | 1, _ => simp [a85Emit, List.range, List.range.loop, bytes4, toByte, e24]
  | 2, _ => simp [a85Emit, List.range, List.range.loop, bytes4, toByte, e24, e16]
  | 3, _ => simp [a85Emit, List.range, List.range.loop, bytes4, toByte, e24, e16, e8]
  | 4, _ => simp [a85Emit, List.range, List.range.loop, bytes4, toByte, e24, e16, e8, e0]

/-- everything between the end of the inner loop and the next turn of the outer loop of
`ASCII85Decode` (`numBytes` with its clamp, the `u` padding, the `uint64` value, the range test, the
byte extraction) is `a85Flush` -/
theorem a85_tail_eq_flush (ds : List Nat) (h1 : 1 ≤ ds.length) (h5 : ds.length ≤ 5) (hd : ∀ d ∈ ds, d < 85) :
    (if a85ValueU64 (padTo5 ds) > 4294967295 then none
     else some (a85Emit (a85ValueU64 (padTo5 ds)) (if ds.length - 1 > 4 then 4 else ds.length - 1))) = a85Flush ds := by
  have hne : ds ≠ [] := by intro h; rw [h] at h1; simp at h1
  have hnb : (if ds.length - 1 > 4 then 4 else ds.length - 1) = ds.length - 1 := by
    split <;> omega
  have hval : a85ValueU64 (padTo5 ds) = a85Value (ds ++ List.replicate (5 - ds.length) 84) :=
    a85ValueU64_pad ds h5 hd
  rw [hnb, hval, a85Emit_eq _ _ (by omega)]
  simp [a85Flush, hne]

/-- what `skipWs` steps over is white space, and it stops at the end or at a non-white-space byte -/
theorem skipWs_spec (data : Str) : ∀ (n i : Nat), data.length - i = n →
    ∃ w, (∀ c ∈ w, isWs c = true) ∧ data.drop i = w ++ data.drop (skipWs data i) ∧
      (∀ h : skipWs data i < data.length, isWs (data[skipWs data i]'h) = false) := by
  intro n
  induction n using Nat.strongRecOn with
  | _ n ih =>
    intro i hn
    rw [skipWs]
    by_cases hlt : i < data.length
    · rw [dif_pos hlt]
      by_cases hws : isWs data[i] = true
      · rw [if_pos hws]
        obtain ⟨w, hw, hdrop, hstop⟩ := ih (data.length - (i + 1)) (by omega) (i + 1) rfl
        refine ⟨data[i] :: w, List.forall_mem_cons.mpr ⟨hws, hw⟩, ?_, hstop⟩
        rw [List.drop_eq_getElem_cons hlt, hdrop]; rfl
      · rw [if_neg hws]
        exact ⟨[], nofun, rfl, fun _ => eq_false_of_ne_true hws⟩
    · rw [dif_neg hlt]
      exact ⟨[], nofun, rfl, fun h => absurd h hlt⟩

theorem hexLoop_eq (data : Str) : ∀ (n i : Nat) (out : Str), data.length - i = n →
    hexLoop data i out = hexGo (data.drop i) none out.reverse := by
  intro n
  induction n using Nat.strongRecOn with
  | _ n ih =>
    intro i out hn
    by_cases hlt : i < data.length
    · rw [hexLoop, dif_pos hlt, List.drop_eq_getElem_cons hlt, hexGo]
      by_cases hws : isWs data[i] = true
      · rw [if_pos hws, if_pos hws]
        exact ih _ (by omega) (i + 1) out rfl
      rw [if_neg hws, if_neg hws]
      by_cases h62 : data[i] = 62
      · rw [if_pos h62, if_pos h62, hexFinish, List.reverse_reverse]
      rw [if_neg h62, if_neg h62]
      cases hv : hexVal data[i] with
      | none => simp only [ite_self]
      | some b1 =>
        have hb1 := (hexVal_some_props _ _ hv).2.2
        simp only [toByte_shl4 b1 hb1]
        -- `hexGo` goes through the white space behind the first digit, as `skipWs` does
        obtain ⟨w, hw, hdrop, hstop⟩ := skipWs_spec data _ (i + 1) rfl
        have hge := skipWs_ge data _ (i + 1) rfl
        rw [hdrop, hexGo_ws w _ _ _ hw]
        by_cases hj : skipWs data (i + 1) < data.length
        · have hlast : ¬ i + 1 ≥ data.length := by omega
          have hnws : ¬ isWs data[skipWs data (i + 1)] = true := by
            rw [hstop hj]; exact Bool.false_ne_true
          rw [if_neg hlast, dif_pos hj, List.drop_eq_getElem_cons hj, hexGo, if_neg hnws]
          by_cases h62' : data[skipWs data (i + 1)] = 62
          · rw [if_pos h62', if_pos h62', hexFinish]; simp
          rw [if_neg h62', if_neg h62']
          cases hv2 : hexVal data[skipWs data (i + 1)] with
          | none => rfl
          | some b2 =>
            have hb2 := (hexVal_some_props _ _ hv2).2.2
            simp only
            rw [ih _ (by omega) _ _ rfl, nibbles_or b1 b2 hb2]
            simp
        · -- the data ends behind the first digit (for `i + 1 = len` this is the special case of the source)
          rw [dif_neg hj, ite_self, List.drop_eq_nil_of_le (by omega), hexGo, hexFinish]
          simp
    · rw [hexLoop, dif_neg hlt, List.drop_eq_nil_of_le (by omega), hexGo, hexFinish, List.reverse_reverse]

/-- the loops of `ASCIIHexDecode` are the state machine `hexDecode`, on every input -/
theorem hexDecodeLit_eq (data : Str) : hexDecodeLit data = hexDecode data := by
  unfold hexDecodeLit hexDecode
  rw [hexLoop_eq data _ 0 [] rfl]
  rfl

/-- `isEODAt` is the test of `a85Go` on the remaining input -/
theorem isEODAt_iff (data : Str) (i : Nat) (h : i < data.length) :
    isEODAt data i = true ↔ (data[i] = 126 ∧ (data.drop (i + 1)).head? = some 62) := by
  unfold isEODAt
  rw [List.getElem?_eq_getElem h]
  by_cases h2 : i + 1 < data.length
  · rw [List.getElem?_eq_getElem h2, List.drop_eq_getElem_cons h2]
    simp [h2]
  · have hnil : data.drop (i + 1) = [] := List.drop_eq_nil_of_le (by omega)
    simp [h2, hnil]

theorem a85Inner_exit (data : Str) (i : Nat) (ds : List Nat) (h : ¬ (ds.length < 5 ∧ i < data.length)) :
    a85Inner data i ds = some (i, ds) := by
  rw [a85Inner, dif_neg h]

theorem a85Inner_ws (data : Str) (i : Nat) (ds : List Nat) (hl : ds.length < 5) (hlt : i < data.length)
    (hws : isWs data[i] = true) : a85Inner data i ds = a85Inner data (i + 1) ds := by
  rw [a85Inner, dif_pos ⟨hl, hlt⟩, if_pos hws]

theorem a85Inner_eod (data : Str) (i : Nat) (ds : List Nat) (hl : ds.length < 5) (hlt : i < data.length)
    (hws : ¬ isWs data[i] = true) (he : isEODAt data i = true) : a85Inner data i ds = some (i, ds) := by
  rw [a85Inner, dif_pos ⟨hl, hlt⟩, if_neg hws, if_pos he]

theorem a85Inner_bad (data : Str) (i : Nat) (ds : List Nat) (hl : ds.length < 5) (hlt : i < data.length)
    (hws : ¬ isWs data[i] = true) (he : ¬ isEODAt data i = true) (hbad : data[i] < 33 ∨ data[i] > 117) :
    a85Inner data i ds = none := by
  rw [a85Inner, dif_pos ⟨hl, hlt⟩, if_neg hws, if_neg he, if_pos hbad]

theorem a85Inner_digit (data : Str) (i : Nat) (ds : List Nat) (hl : ds.length < 5) (hlt : i < data.length)
    (hws : ¬ isWs data[i] = true) (he : ¬ isEODAt data i = true) (hok : ¬ (data[i] < 33 ∨ data[i] > 117)) :
    a85Inner data i ds = a85Inner data (i + 1) (ds ++ [data[i] - 33]) := by
  rw [a85Inner, dif_pos ⟨hl, hlt⟩, if_neg hws, if_neg he, if_neg hok, toByte_digit _ (by omega)]

/-- what the inner loop hands back: it has moved at least one byte per digit stored, it only adds digits, at most up
to five, all of them below 85 -/
theorem a85Inner_inv (data : Str) : ∀ (n j : Nat) (ds : List Nat) (j' : Nat) (ds' : List Nat),
    data.length - j = n → a85Inner data j ds = some (j', ds') →
    j + ds'.length ≤ j' + ds.length ∧ ds.length ≤ ds'.length ∧ (ds.length ≤ 5 → ds'.length ≤ 5) ∧
      ((∀ d ∈ ds, d < 85) → ∀ d ∈ ds', d < 85) := by
  intro n
  induction n using Nat.strongRecOn with
  | _ n ih =>
    intro j ds j' ds' hn hr
    by_cases hc : ds.length < 5 ∧ j < data.length
    · obtain ⟨hl, hlt⟩ := hc
      by_cases hws : isWs data[j] = true
      · rw [a85Inner_ws data j ds hl hlt hws] at hr
        obtain ⟨h1, h2⟩ := ih _ (by omega) (j + 1) ds j' ds' rfl hr
        exact ⟨by omega, h2⟩
      by_cases he : isEODAt data j = true
      · rw [a85Inner_eod data j ds hl hlt hws he] at hr
        cases hr; exact ⟨Nat.le_refl _, Nat.le_refl _, id, id⟩
      by_cases hbad : data[j] < 33 ∨ data[j] > 117
      · rw [a85Inner_bad data j ds hl hlt hws he hbad] at hr
        cases hr
      · rw [a85Inner_digit data j ds hl hlt hws he hbad] at hr
        obtain ⟨h1, h2, h3, h4⟩ := ih _ (by omega) (j + 1) _ j' ds' rfl hr
        rw [List.length_append, List.length_singleton] at h1 h2 h3
        exact ⟨by omega, by omega, fun _ => h3 (by omega), fun hd =>
          h4 (List.forall_mem_append.mpr ⟨hd, List.forall_mem_singleton.mpr (by omega)⟩)⟩
    · rw [a85Inner_exit data j ds hc] at hr
      cases hr; exact ⟨Nat.le_refl _, Nat.le_refl _, id, id⟩

/-- the branch `else none` of `a85Outer` that only serves its termination proof is dead: whenever
the inner loop comes back with a digit it has advanced -/
theorem a85Inner_progress (data : Str) (i i' : Nat) (ds' : List Nat) (_hlt : i < data.length)
    (h : a85Inner data i [] = some (i', ds')) (hne : ds' ≠ []) : i < i' := by
  have := (a85Inner_inv data _ i [] i' ds' rfl h).1
  have := List.length_pos_iff.mpr hne
  rw [List.length_nil] at *
  omega

/-- at `~>` or at the end of the data `a85Go` at a group boundary returns what it has -/
theorem a85Go_stop (data : Str) (i : Nat) (acc : Str) (h : ¬ i < data.length ∨ isEODAt data i = true) :
    a85Go (data.drop i) [] acc = some acc.reverse := by
  have hfin : a85Finish [] acc = some acc.reverse := by simp [a85Finish, a85Flush]
  by_cases hlt : i < data.length
  · have he := (isEODAt_iff data i hlt).mp (h.resolve_left (not_not_intro hlt))
    have hws : ¬ isWs data[i] = true := by rw [he.1]; decide
    rw [List.drop_eq_getElem_cons hlt, a85Go, if_neg hws, if_pos he, hfin]
  · rw [List.drop_eq_nil_of_le (by omega), a85Go, hfin]

/-- inside a group (at least one digit stored, fewer than five) `a85Go` does what the inner loop does, then flushes
the digits and goes on at a group boundary behind them (where, after fewer than five digits, it stops: the inner
loop left at `~>` or at the end of the data) -/
theorem a85Inner_go (data : Str) : ∀ (n i : Nat) (ds : List Nat) (acc : Str), data.length - i = n →
    ds ≠ [] → ds.length < 5 →
    a85Go (data.drop i) ds acc = match a85Inner data i ds with
      | none => none
      | some (i', ds') => match a85Flush ds' with
        | none => none
        | some g => a85Go (data.drop i') [] (g.reverse ++ acc) := by
  intro n
  induction n using Nat.strongRecOn with
  | _ n ih =>
    intro i ds acc hn hne hl
    -- where the inner loop stops with the group unfinished, `a85Go` finishes, and so it does from the boundary
    have hstop : (¬ i < data.length ∨ isEODAt data i = true) → a85Finish ds acc = match a85Flush ds with
        | none => none
        | some g => a85Go (data.drop i) [] (g.reverse ++ acc) := by
      intro h
      rw [a85Finish]
      cases a85Flush ds with
      | none => rfl
      | some g => simp only [a85Go_stop data i _ h, List.reverse_append, List.reverse_reverse]
    by_cases hlt : i < data.length
    · rw [List.drop_eq_getElem_cons hlt, a85Go]
      by_cases hws : isWs data[i] = true
      · rw [a85Inner_ws data i ds hl hlt hws, if_pos hws]
        exact ih _ (by omega) (i + 1) ds acc rfl hne hl
      rw [if_neg hws]
      by_cases heod : isEODAt data i = true
      · rw [a85Inner_eod data i ds hl hlt hws heod, if_pos ((isEODAt_iff data i hlt).mp heod), hstop (.inr heod)]
      rw [if_neg (mt (isEODAt_iff data i hlt).mpr heod), if_neg (fun h => hne h.1)]
      by_cases hbad : data[i] < 33 ∨ data[i] > 117
      · rw [a85Inner_bad data i ds hl hlt hws heod hbad, if_pos hbad]
      rw [a85Inner_digit data i ds hl hlt hws heod hbad, if_neg hbad]
      have hl' : (ds ++ [data[i] - 33]).length = ds.length + 1 := by
        rw [List.length_append, List.length_singleton]
      dsimp only
      by_cases hfull : (ds ++ [data[i] - 33]).length = 5
      · -- the digit just stored was the fifth: the inner loop stops at once
        rw [a85Inner_exit data (i + 1) _ (by omega), if_pos hfull]
        rfl
      · rw [if_neg hfull]
        exact ih _ (by omega) (i + 1) _ acc rfl (List.append_ne_nil_of_right_ne_nil _ (List.cons_ne_nil _ _)) (by omega)
    · rw [a85Inner_exit data i ds (by omega), List.drop_eq_nil_of_le (by omega), a85Go, hstop (.inl hlt)]

/-- at `~>` or at the end of the data the outer loop returns what it has -/
theorem a85Outer_stop (data : Str) (i : Nat) (out : Str) (h : ¬ i < data.length ∨ isEODAt data i = true) :
    a85Outer data i out = some out := by
  by_cases hlt : i < data.length
  · have he := h.resolve_left (not_not_intro hlt)
    have hws : ¬ isWs data[i] = true := by rw [((isEODAt_iff data i hlt).mp he).1]; decide
    rw [a85Outer, dif_pos hlt, if_neg hws, if_pos he]
  · rw [a85Outer, dif_neg hlt]

theorem a85Outer_eq (data : Str) : ∀ (n i : Nat) (out : Str), data.length - i = n →
    a85Outer data i out = a85Go (data.drop i) [] out.reverse := by
  intro n
  induction n using Nat.strongRecOn with
  | _ n ih =>
    intro i out hn
    by_cases hlt : i < data.length
    · by_cases hws : isWs data[i] = true
      · rw [List.drop_eq_getElem_cons hlt, a85Go, a85Outer, dif_pos hlt, if_pos hws, if_pos hws]
        exact ih _ (by omega) (i + 1) out rfl
      by_cases heod : isEODAt data i = true
      · rw [a85Outer_stop data i out (Or.inr heod), a85Go_stop data i _ (.inr heod), List.reverse_reverse]
      rw [List.drop_eq_getElem_cons hlt, a85Go, if_neg hws, if_neg (mt (isEODAt_iff data i hlt).mpr heod)]
      by_cases hz : data[i] = 122
      · rw [a85Outer, dif_pos hlt, if_neg hws, if_neg heod, if_pos hz, if_pos ⟨rfl, hz⟩, ih _ (by omega) (i + 1) _ rfl]
        simp
      rw [a85Outer, dif_pos hlt, if_neg hws, if_neg heod, if_neg hz, if_neg (fun h => hz h.2)]
      by_cases hbad : data[i] < 33 ∨ data[i] > 117
      · rw [a85Inner_bad data i [] (by simp) hlt hws heod hbad, if_pos hbad]
      rw [a85Inner_digit data i [] (by simp) hlt hws heod hbad, if_neg hbad]
      dsimp only
      -- from here on the inner loop has a digit: `a85Inner_go`
      rw [if_neg (by simp), List.nil_append, a85Inner_go data _ (i + 1) [data[i] - 33] out.reverse rfl (by simp) (by simp)]
      cases hr : a85Inner data (i + 1) [data[i] - 33] with
      | none => rfl
      | some r =>
        obtain ⟨i', ds'⟩ := r
        obtain ⟨hadv, h1, h5, hd⟩ := a85Inner_inv data _ (i + 1) _ i' ds' rfl hr
        rw [List.length_singleton] at hadv h1
        have htail := a85_tail_eq_flush ds' h1 (h5 (by simp))
          (hd fun d hd => by rw [List.mem_singleton.mp hd]; omega)
        dsimp only
        rw [if_neg (by omega), ← htail]
        by_cases hv : a85ValueU64 (padTo5 ds') > 4294967295
        · rw [if_pos hv, if_pos hv]
        · rw [if_neg hv, if_neg hv, if_pos (by omega), ih _ (by omega) i' _ rfl, List.reverse_append]
    · rw [a85Outer_stop data i out (Or.inl hlt), a85Go_stop data i _ (.inl hlt), List.reverse_reverse]
/-- the loops of `ASCII85Decode` are the state machine `a85Decode`, on every input -/
theorem a85DecodeLit_eq (data : Str) : a85DecodeLit data = a85Decode data := by
  unfold a85DecodeLit a85Decode
  rw [a85Outer_eq data _ _ [] rfl]
  obtain ⟨w, hw, hdrop, _⟩ := skipWs_spec data _ 0 rfl
  simp only [List.drop_zero] at hdrop
  rw [List.reverse_nil]
  conv => rhs; rw [hdrop]
  rw [a85Go_ws w _ _ _ hw]

end Tabula.Filters
