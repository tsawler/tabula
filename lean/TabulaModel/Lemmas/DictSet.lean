import TabulaModel.Model.Parser
/-!
The laws of `dictSet`, the Go map assignment `dict[key] = value` that `parseDict` of both parsers
performs on a list of pairs kept in first-insertion order: what it does to the entries, to the keys
and to the nesting depth; and `assignAll`, a run of such assignments.  Core Lean only.
-/
namespace Tabula.C06More
open Tabula.Pdf

/-- the written pairs assigned one after the other to a Go map that remembers insertion order -/
def assignAll (acc : List (Str × Obj)) (ps : List (Str × Obj)) : List (Str × Obj) :=
  ps.foldl (fun a p => dictSet a p.1 p.2) acc

end Tabula.C06More

namespace Tabula.Pdf

/-- the entries afterwards are the new one and entries there before -/
theorem dictSet_mem (acc : List (Str × Obj)) (k : Str) (v : Obj) :
    ∀ p ∈ dictSet acc k v, p = (k, v) ∨ p ∈ acc := by
  induction acc with
  | nil => exact fun p hp => .inl (List.mem_singleton.mp hp)
  | cons a r ih =>
    intro p hp
    simp only [dictSet] at hp
    split at hp
    · exact (List.mem_cons.mp hp).imp_right (List.mem_cons_of_mem _)
    · rcases List.mem_cons.mp hp with rfl | h
      · exact .inr (List.mem_cons_self ..)
      · exact (ih p h).imp_right (List.mem_cons_of_mem _)

/-- the keys afterwards, exactly: unchanged when `k` is present (it keeps its place), `k` appended
otherwise -/
theorem dictSet_keys (acc : List (Str × Obj)) (k : Str) (v : Obj) :
    (dictSet acc k v).map Prod.fst =
      if k ∈ acc.map Prod.fst then acc.map Prod.fst else acc.map Prod.fst ++ [k] := by
  induction acc with
  | nil => simp [dictSet]
  | cons p r ih =>
    obtain ⟨k', v'⟩ := p
    by_cases h : k' = k
    · subst h; simp [dictSet]
    · have h' : ¬ k = k' := fun e => h e.symm
      simp only [dictSet, h, if_false, List.map_cons, ih, List.mem_cons, h', false_or]
      by_cases hm : k ∈ r.map Prod.fst
      · simp [hm]
      · simp [hm]

theorem dictSet_keys_nodup (acc : List (Str × Obj)) (k : Str) (v : Obj) (h : (acc.map Prod.fst).Nodup) :
    ((dictSet acc k v).map Prod.fst).Nodup := by
  rw [dictSet_keys]
  by_cases hm : k ∈ acc.map Prod.fst
  · rw [if_pos hm]; exact h
  · rw [if_neg hm, List.nodup_append]
    refine ⟨h, by simp, fun a ha b hb e => hm ?_⟩
    rw [← List.mem_singleton.mp hb, ← e]; exact ha

/-- a key that is not there yet is appended -/
theorem dictSet_fresh (acc : List (Str × Obj)) (k : Str) (v : Obj) (h : k ∉ acc.map Prod.fst) :
    dictSet acc k v = acc ++ [(k, v)] := by
  induction acc with
  | nil => rfl
  | cons a acc ih =>
    obtain ⟨k', v'⟩ := a
    simp only [List.map_cons, List.mem_cons, not_or] at h
    have : ¬ k' = k := fun e => h.1 e.symm
    simp only [dictSet, this, if_false, List.cons_append, ih h.2]

namespace Prs

/-- when no key is written twice and none was there before, the assignments append the written pairs -/
theorem assignAll_fresh (ps acc : List (Str × Obj)) (hnd : (ps.map Prod.fst).Nodup)
    (hfr : ∀ k ∈ ps.map Prod.fst, k ∉ acc.map Prod.fst) : C06More.assignAll acc ps = acc ++ ps := by
  induction ps generalizing acc with
  | nil => simp [C06More.assignAll]
  | cons p ps ih =>
    have hstep : C06More.assignAll acc (p :: ps) = C06More.assignAll (dictSet acc p.1 p.2) ps := rfl
    simp only [List.map_cons, List.nodup_cons] at hnd
    rw [hstep, dictSet_fresh acc p.1 p.2 (hfr p.1 (by simp)), ih _ hnd.2]
    · simp
    · intro k hk
      simp only [List.map_append, List.map_cons, List.map_nil, List.mem_append, List.mem_singleton, not_or]
      refine ⟨hfr k (by simp [hk]), ?_⟩
      intro e; subst e; exact hnd.1 hk

end Prs

theorem depthKV_dictSet (acc : List (Str × Obj)) (k : Str) (o : Obj) :
    Obj.depthKV (dictSet acc k o) ≤ max (Obj.depthKV acc) o.depth := by
  induction acc with
  | nil => simp [dictSet, Obj.depthKV]
  | cons a r ih =>
    obtain ⟨k', v'⟩ := a
    simp only [dictSet]
    split
    · simp only [Obj.depthKV]; omega
    · simp only [Obj.depthKV]; omega

end Tabula.Pdf
