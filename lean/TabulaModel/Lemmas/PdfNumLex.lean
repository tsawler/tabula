import TabulaModel.Lemmas.PdfNumLoop
/-!
The two number readers cut the same lexeme out of EVERY input: `core.(*Lexer).readNumber`
(`numLoop`) and `contentstream.(*Parser).parseNumber` (`CS.numBody` behind an optional sign); and what
that lexeme is: a text of the number grammar, cut by maximal munch (`Num.numLoop_lexeme`).
Core Lean only.
-/
namespace Tabula.Pdf
namespace Prog

/-- **one lexeme for both parsers**: on every input that starts with a sign, a digit or the point,
`contentstream.parseNumber` converts exactly the text `core.readNumber` would put into its token
(as a real if it contains a point, else as an integer), and stops at the same byte -/
theorem cs_parseNumber_lexeme (b : Nat) (r : Str) (hb : b = 45 ∨ b = 43 ∨ b = 46 ∨ isDigit b = true) :
    CS.parseNumber (b :: r) =
      (if (numLoop false true (b :: r)).2.1 then
        (match parseReal (numLoop false true (b :: r)).1 with
          | none => none
          | some o => some (o, (numLoop false true (b :: r)).2.2))
      else
        (match Tabula.A1.atoi (numLoop false true (b :: r)).1 with
          | none => none
          | some v => some (.int v, (numLoop false true (b :: r)).2.2))) := by
  by_cases hs : b = 45 ∨ b = 43
  · have hs' : b = 43 ∨ b = 45 := by omega
    rw [numLoop_sign_first b r hs]
    unfold CS.parseNumber
    simp only [hs', if_true, List.length_singleton, List.drop_succ_cons, List.drop_zero, List.singleton_append]
    split
    · cases parseReal (b :: (CS.numBody false r).1) <;> rfl
    · cases Tabula.A1.atoi (b :: (CS.numBody false r).1) <;> rfl
  · have hb' : b = 46 ∨ isDigit b = true := by
      rcases hb with h | h | h | h
      · exact absurd (Or.inl h) hs
      · exact absurd (Or.inr h) hs
      · exact Or.inl h
      · exact Or.inr h
    have hs' : ¬ (b = 43 ∨ b = 45) := by omega
    rw [numLoop_body_first b r hb']
    unfold CS.parseNumber
    simp only [hs', if_false, List.length_nil, List.drop_zero, List.nil_append]
    split
    · cases parseReal (CS.numBody false (b :: r)).1 <;> rfl
    · cases Tabula.A1.atoi (CS.numBody false (b :: r)).1 <;> rfl

/-- … as ONE conversion of the lexeme: `ParseFloat` if it has a point, else `ParseInt` -/
theorem cs_parseNumber_conv (b : Nat) (r : Str) (hb : b = 45 ∨ b = 43 ∨ b = 46 ∨ isDigit b = true) :
    CS.parseNumber (b :: r) =
      (if (numLoop false true (b :: r)).2.1 then parseReal (numLoop false true (b :: r)).1
        else (Tabula.A1.atoi (numLoop false true (b :: r)).1).map Obj.int).map
        (·, (numLoop false true (b :: r)).2.2) := by
  rw [cs_parseNumber_lexeme b r hb]
  split
  · cases parseReal (numLoop false true (b :: r)).1 <;> rfl
  · cases Tabula.A1.atoi (numLoop false true (b :: r)).1 <;> rfl

end Prog

namespace Num

/-- the texts `readNumber` can produce: optional sign, digits, and (iff `hd`) a point followed by digits -/
def NumText (text : Str) (hd : Bool) : Prop :=
  ∃ sign ip fp, (sign = [] ∨ sign = [43] ∨ sign = [45]) ∧ DigitStr ip ∧ DigitStr fp ∧
    text = sign ++ ip ++ (if hd then 46 :: fp else []) ∧ (hd = false → fp = [])

theorem digitStr_nil : DigitStr [] := fun _ h => nomatch h

/-- digits, then (if a point follows) the point and more digits, by maximal munch -/
theorem body_false (inp : Str) :
    inp = (CS.numBody false inp).1 ++ (CS.numBody false inp).2.2 ∧
    (∃ ip fp, DigitStr ip ∧ DigitStr fp ∧
      (CS.numBody false inp).1 = ip ++ (if (CS.numBody false inp).2.1 then 46 :: fp else []) ∧
      ((CS.numBody false inp).2.1 = false → fp = [])) ∧
    (∀ c rest, (CS.numBody false inp).2.2 = c :: rest →
      isDigit c = false ∧ (c = 46 → (CS.numBody false inp).2.1 = true)) := by
  have digits : ∀ l : Str, DigitStr (l.takeWhile isDigit) := fun l c hc => List.mem_takeWhile_imp hc
  have e := (List.takeWhile_append_dropWhile (p := isDigit) (l := inp)).symm
  rw [numBody_false]
  split
  · next r heq =>
    rw [heq, ← List.takeWhile_append_dropWhile (p := isDigit) (l := r)] at e
    refine ⟨by rw [List.append_assoc, List.cons_append]; exact e,
      ⟨_, _, digits inp, digits r, rfl, fun h => nomatch h⟩,
      fun c rest h => ⟨List.not_of_dropWhile_eq_cons h, fun _ => rfl⟩⟩
  · next r hne =>
    refine ⟨e, ⟨_, [], digits inp, digitStr_nil, (List.append_nil _).symm, fun _ => rfl⟩, fun c rest h => ?_⟩
    exact ⟨List.not_of_dropWhile_eq_cons h, fun e46 => absurd (e46 ▸ h) (hne rest)⟩

/-- **the lexeme, every input**: entered on a sign, a digit or the point, `readNumber` splits the input into a
non-empty text of the grammar and the rest, by maximal munch: the rest does not start with a digit, and starts
with a point only if the text already has one -/
theorem numLoop_lexeme (b : Nat) (r : Str) (hb : b = 45 ∨ b = 43 ∨ b = 46 ∨ isDigit b = true) (text : Str) (hd : Bool)
    (rest : Str) (h : numLoop false true (b :: r) = (text, hd, rest)) :
    b :: r = text ++ rest ∧ NumText text hd ∧ text ≠ [] ∧
    (∀ c rest', rest = c :: rest' → isDigit c = false ∧ (c = 46 → hd = true)) := by
  obtain ⟨rfl, rfl, rfl⟩ : text = (numLoop false true (b :: r)).1 ∧ hd = (numLoop false true (b :: r)).2.1 ∧
      rest = (numLoop false true (b :: r)).2.2 := by rw [h]; exact ⟨rfl, rfl, rfl⟩
  clear h
  by_cases hs : b = 45 ∨ b = 43
  · obtain ⟨h1, ⟨ip, fp, hi, hf, ht, hfe⟩, h4⟩ := body_false r
    rw [Prog.numLoop_sign_first b r hs]
    refine ⟨congrArg (b :: ·) h1, ⟨[b], ip, fp, ?_, hi, hf, ?_, hfe⟩, by simp, h4⟩
    · rcases hs with e | e
      · exact Or.inr (Or.inr (by rw [e]))
      · exact Or.inr (Or.inl (by rw [e]))
    · simp only [List.cons_append, List.nil_append]
      exact congrArg (b :: ·) (by simpa using ht)
  · have hb' : b = 46 ∨ isDigit b = true := by
      rcases hb with h | h | h | h
      · exact absurd (Or.inl h) hs
      · exact absurd (Or.inr h) hs
      · exact Or.inl h
      · exact Or.inr h
    obtain ⟨h1, ⟨ip, fp, hi, hf, ht, hfe⟩, h4⟩ := body_false (b :: r)
    rw [Prog.numLoop_body_first b r hb']
    refine ⟨h1, ⟨[], ip, fp, Or.inl rfl, hi, hf, by simpa using ht, hfe⟩, ?_, h4⟩
    rcases hb' with e | e
    · subst e; rw [numBody_point]; simp
    · rw [numBody_digit false b r e]; simp

end Num
end Tabula.Pdf
