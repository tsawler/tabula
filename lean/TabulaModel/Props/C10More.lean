import TabulaModel.Lemmas.PageSel
import TabulaModel.Props.C10
/-!
# C10 — further all-input theorems about page selection (`Model/PageSel.lean`)

What `Props/C10.lean` left as one-directional or hypothetical statements is closed here:

* **which error, and when** — `collect_ok_iff_all`, `collect_error_iff`: the page loop succeeds
  iff every listed page is readable, and otherwise reports the error of the FIRST unreadable
  page in list order; end to end `text_succeeds_iff` (an iff where `unreadable_page_fails` was
  an implication) and `text_error_is_first_unreadable` (lowest unreadable selected page wins).
* **normal form** — `resolve_idempotent`: re-selecting the pages `resolvePages` returned
  (1-based) returns the same list; `select_all_is_no_selection`: `PageRange(1, n)` is `Pages()`.
* **monotonicity** — `resolve_mono`, `fragments_mono`: a smaller selection gives a sub-list.
* **the join rule is a monoid** — `textStep_assoc`, `text_split`, `fragments_split` and end to
  end `text_split_end_to_end`, `fragments_split_end_to_end`: the text of `S₁ ∪ S₂` with `S₁`
  entirely before `S₂` is the two texts glued by the same blank-line rule.
* **exactly which pages** — `resolve_mem_iff` (membership in the result with no hypothesis on the
  spelling), `unselected_pages_irrelevant` (value or error of `Text`/`Fragments` depends on the
  selected pages only), `resolve_length_le` (at most `n` pages, at most `len(S)` pages).
* **page numbers as a post-condition** — `document_pages_true`: whatever `Pages(S).Document()`
  returns, every page carries number = source + 1, is inside the document, was asked for, the
  numbers ascend and no asked page is missing (no hypothesis on `S` besides being non-empty).
* **the pinned `AddPage` exactly** — `old_numbering_right_iff`: the renumbering `AddPage` of the
  pinned tree gave the right numbers iff the resolved list is an initial segment `0,1,…,m-1`.
-/
namespace Tabula.C10More
open Tabula.PageSel Tabula.Builder Tabula.C10

/-! ## the page loop: success and the error reported -/

/-- the page loop succeeds iff every listed page can be read -/
theorem collect_ok_iff_all {α : Type} (pg : Nat → Except E α) (idx : List Nat) :
    (∃ as, collect pg idx = .ok as) ↔ ∀ k ∈ idx, ∃ v, pg k = .ok v := by
  induction idx with
  | nil => simp [collect]
  | cons k ks ih =>
    rw [List.forall_mem_cons, ← ih]
    cases hk : pg k with
    | error e => simp [collect, hk]
    | ok a => cases hc : collect pg ks <;> simp [collect, hk, hc]

/-- **collect_error_iff**: the page loop fails with `e` iff `e` is the error of the first
unreadable page in list order (everything before it was read, nothing after it is looked at) -/
theorem collect_error_iff {α : Type} (pg : Nat → Except E α) (idx : List Nat) (e : E) :
    collect pg idx = .error e ↔
      ∃ a k b, idx = a ++ k :: b ∧ (∀ j ∈ a, ∃ v, pg j = .ok v) ∧ pg k = .error e :=
  collect_eq_error_iff pg idx e

example : collect (fun k => if k = 2 then .error .page else if k = 3 then .error .closed
    else (.ok k : Except E Nat)) [0, 1, 2, 3] = .error .page := by decide

/-- **text_succeeds_iff**: `Pages(S).Text()` (non-empty `S`) returns a text iff every number of
`S` is inside the document and every selected page can be read -/
theorem text_succeeds_iff (pg : Nat → Except E Str) (sel : List Int) (n : Nat) (hne : sel ≠ []) :
    (∃ t, extractText pg sel n = .ok t) ↔
      InRange sel n ∧ ∀ k ∈ specPages sel n, ∃ v, pg k = .ok v := by
  by_cases hr : InRange sel n
  · -- the join of the page texts cannot fail
    have hloop : ∀ idx, (∃ t, textOf pg idx = .ok t) ↔ ∃ as, collect pg idx = .ok as := fun idx => by
      unfold textOf; cases collect pg idx <;> simp
    unfold extractText
    rw [(resolve_spec sel n hne).1 hr, ← collect_ok_iff_all]
    exact (hloop _).trans ⟨fun h => ⟨hr, h⟩, fun h => h.2⟩
  · rw [extractText, (resolve_spec sel n hne).2 hr]
    exact ⟨fun ⟨t, ht⟩ => (nomatch ht), fun h => absurd h.1 hr⟩

example : (∃ t, extractText (fun k => if k = 1 then .error .page else .ok [65]) [1, 3] 3 = .ok t) :=
  ⟨[65, 10, 10, 65], by decide⟩

/-- **text_error_is_first_unreadable**: on a valid selection, `Text()` fails with `e` iff `e` is
the error of the LOWEST selected page that cannot be read -/
theorem text_error_is_first_unreadable (pg : Nat → Except E Str) (sel : List Int) (n : Nat)
    (hne : sel ≠ []) (hr : InRange sel n) (e : E) :
    extractText pg sel n = .error e ↔
      ∃ k ∈ specPages sel n, pg k = .error e ∧
        ∀ j ∈ specPages sel n, j < k → ∃ v, pg j = .ok v := by
  unfold extractText
  rw [(resolve_spec sel n hne).1 hr]
  have hsa : List.Pairwise (· < ·) (specPages sel n) := specPages_strictAsc sel n
  generalize specPages sel n = idx at hsa ⊢
  have htext : textOf pg idx = .error e ↔ collect pg idx = .error e := by
    unfold textOf
    cases collect pg idx <;> simp
  show textOf pg idx = .error e ↔ _
  rw [htext, collect_error_iff]
  constructor
  · rintro ⟨a, k, b, rfl, hall, hk⟩
    refine ⟨k, by simp, hk, ?_⟩
    intro j hj hlt
    have hp := List.pairwise_append.mp hsa
    rcases List.mem_append.mp hj with h | h
    · exact hall j h
    · exfalso
      rcases List.mem_cons.mp h with h | h
      · omega
      · have := (List.pairwise_cons.mp hp.2.1).1 j h
        omega
  · rintro ⟨k, hk, hek, hbefore⟩
    obtain ⟨a, b, rfl⟩ := List.append_of_mem hk
    refine ⟨a, k, b, rfl, ?_, hek⟩
    intro j hj
    have hp := List.pairwise_append.mp hsa
    exact hbefore j (by simp [hj]) (hp.2.2 j hj k (by simp))

example : extractText (fun k => if k = 0 then .ok [65] else if k = 1 then .error .page
    else .error .closed) [3, 2, 1] 3 = .error .page := by decide

/-! ## normal form of a selection -/

theorem specPages_of_resolved (l : List Nat) (n : Nat) (hsa : StrictAsc l) (hlt : ∀ k ∈ l, k < n) :
    specPages (l.map fun (k : Nat) => (k : Int) + 1) n = l := by
  apply strictAsc_ext _ _ (specPages_strictAsc _ n) hsa
  intro x
  rw [mem_specPages]
  simp only [List.mem_map]
  constructor
  · rintro ⟨_, k, hk, hkx⟩
    have : k = x := by omega
    exact this ▸ hk
  · intro hx
    exact ⟨hlt x hx, x, hx, rfl⟩

/-- **resolve_idempotent**: selecting again exactly the pages a selection resolved to (spelled
1-based, as the API wants them) resolves to the same list: the result is a normal form -/
theorem resolve_idempotent (sel : List Int) (n : Nat) (l : List Nat)
    (h : resolvePages sel n = .ok l) (hl : l ≠ []) :
    resolvePages (l.map fun (k : Nat) => (k : Int) + 1) n = .ok l := by
  obtain ⟨hsa, hlt⟩ := resolve_ascending sel n l h
  have hne : (l.map fun (k : Nat) => (k : Int) + 1) ≠ [] := by simpa using hl
  have hr : InRange (l.map fun (k : Nat) => (k : Int) + 1) n := by
    intro p hp
    simp only [List.mem_map] at hp
    obtain ⟨k, hk, rfl⟩ := hp
    have := hlt k hk
    omega
  rw [(resolve_spec _ n hne).1 hr, specPages_of_resolved l n hsa hlt]

example : resolvePages [3, 1, 3] 4 = .ok [0, 2] ∧
    resolvePages (([0, 2] : List Nat).map fun (k : Nat) => (k : Int) + 1) 4 = .ok [0, 2] := by decide

/-- **select_all_is_no_selection**: `PageRange(1, n)` on an `n`-page document resolves to the
same list as no selection at all, so `Text`, `Fragments` and `Document` answer alike -/
theorem select_all_is_no_selection {F : Type} (pt : Nat → Except E Str)
    (pf : Nat → Except E (List F)) (n : Nat) (hn : 0 < n) :
    resolvePages (rangeList 1 n) n = resolvePages [] n ∧
    extractText pt (rangeList 1 n) n = extractText pt [] n ∧
    extractFragments pf (rangeList 1 n) n = extractFragments pf [] n ∧
    extractDocument (rangeList 1 n) n = extractDocument [] n := by
  have hmem : ∀ p, p ∈ rangeList 1 n ↔ 1 ≤ p ∧ p ≤ (n : Int) := fun p => Builder.mem_rangeList 1 n p
  have hne : rangeList 1 (n : Int) ≠ [] := by
    intro h
    have := (hmem 1).mpr (by omega)
    rw [h] at this
    simp at this
  have hr : InRange (rangeList 1 n) n := fun p hp => (hmem p).mp hp
  have hres : resolvePages (rangeList 1 n) n = resolvePages [] n := by
    rw [(resolve_spec _ n hne).1 hr, resolve_none]
    congr 1
    apply strictAsc_ext _ _ (specPages_strictAsc _ n) List.pairwise_lt_range
    intro x
    rw [mem_specPages, hmem, List.mem_range]
    constructor
    · intro h
      exact h.1
    · intro h
      exact ⟨h, by omega, by omega⟩
  refine ⟨hres, ?_, ?_, ?_⟩
  · unfold extractText; rw [hres]
  · unfold extractFragments; rw [hres]
  · unfold extractDocument; rw [hres]

example : resolvePages (rangeList 1 4) 4 = .ok [0, 1, 2, 3] := by decide

/-- **resolve_mono**: if the larger selection resolves, a non-empty part of it resolves too, to a
sub-list (same relative order, nothing new) -/
theorem resolve_mono (s₁ s₂ : List Int) (n : Nat) (l₂ : List Nat) (hne : s₁ ≠ [])
    (hsub : ∀ p ∈ s₁, p ∈ s₂) (h₂ : resolvePages s₂ n = .ok l₂) :
    ∃ l₁, resolvePages s₁ n = .ok l₁ ∧ l₁.Sublist l₂ := by
  obtain ⟨p, hp⟩ := List.exists_mem_of_ne_nil s₁ hne
  obtain ⟨hr₂, hs⟩ : InRange s₂ n ∧ resolvePages s₂ n = .ok (specPages s₂ n) := by
    rcases resolvePages_cases s₂ n with ⟨he, _⟩ | ⟨_, hr, hs⟩ | ⟨_, _, hs⟩
    · exact absurd he (List.ne_nil_of_mem (hsub p hp))
    · exact ⟨hr, hs⟩
    · rw [hs] at h₂; cases h₂
  have hr₁ : InRange s₁ n := fun p hp => hr₂ p (hsub p hp)
  rw [hs] at h₂
  cases h₂
  refine ⟨specPages s₁ n, (resolve_spec s₁ n hne).1 hr₁, ?_⟩
  exact List.filter_sublist_filter (fun k hk => decide_eq_true (hsub _ (of_decide_eq_true hk))) _

example : ∃ l₁, resolvePages [4, 2] 5 = .ok l₁ ∧ l₁.Sublist [0, 1, 3, 4] :=
  resolve_mono [4, 2] [5, 2, 4, 1] 5 _ (by simp) (by intro p hp; simp at hp ⊢; omega) (by decide)

/-! ## the join rule is a monoid; splitting a selection -/

theorem textStep_nil_right (a : Str) : textStep a [] = a := PageSel.textStep_nil_right a

/-- `textStep` (append with a blank line between non-empty texts) is associative, with the
empty text as unit on both sides: the order of gluing does not matter -/
theorem textStep_assoc (a b c : Str) :
    textStep (textStep a b) c = textStep a (textStep b c) := PageSel.textStep_assoc a b c

/-- **text_split**: the text of the list `a ++ b` is the texts of `a` and of `b` glued by the
join rule itself -/
theorem text_split (pg : Nat → Except E Str) (a b : List Nat) (x y : Str)
    (ha : textOf pg a = .ok x) (hb : textOf pg b = .ok y) :
    textOf pg (a ++ b) = .ok (textStep x y) := by
  unfold textOf at ha hb ⊢
  cases hca : collect pg a with
  | error e => rw [hca] at ha; cases ha
  | ok ts =>
    cases hcb : collect pg b with
    | error e => rw [hcb] at hb; cases hb
    | ok us =>
      rw [hca] at ha; rw [hcb] at hb
      cases ha; cases hb
      simp only [collect_append_ok pg hca hcb, List.foldl_append, foldl_textStep us, textStep_nil_left]

/-- **fragments_split**: likewise, plain concatenation -/
theorem fragments_split {F : Type} (pg : Nat → Except E (List F)) (a b : List Nat) (x y : List F)
    (ha : fragmentsOf pg a = .ok x) (hb : fragmentsOf pg b = .ok y) :
    fragmentsOf pg (a ++ b) = .ok (x ++ y) := by
  unfold fragmentsOf at ha hb ⊢
  cases hca : collect pg a with
  | error e => rw [hca] at ha; cases ha
  | ok ts =>
    cases hcb : collect pg b with
    | error e => rw [hcb] at hb; cases hb
    | ok us =>
      rw [hca] at ha; rw [hcb] at hb
      cases ha; cases hb
      simp only [collect_append_ok pg hca hcb, List.foldl_append, foldl_append_flatten us, List.nil_append]

theorem specPages_append_ordered (s₁ s₂ : List Int) (n : Nat)
    (hord : ∀ p ∈ s₁, ∀ q ∈ s₂, p < q) :
    specPages (s₁ ++ s₂) n = specPages s₁ n ++ specPages s₂ n := by
  apply strictAsc_ext _ _ (specPages_strictAsc _ n)
  · show List.Pairwise (· < ·) (specPages s₁ n ++ specPages s₂ n)
    apply List.pairwise_append.mpr
    refine ⟨specPages_strictAsc _ n, specPages_strictAsc _ n, ?_⟩
    intro a ha b hb
    have h1 := ((mem_specPages s₁ n a).mp ha).2
    have h2 := ((mem_specPages s₂ n b).mp hb).2
    have := hord _ h1 _ h2
    omega
  · intro x
    simp only [mem_specPages, List.mem_append, and_or_left]

theorem inRange_of_text_ok (pg : Nat → Except E Str) (s : List Int) (n : Nat) (x : Str)
    (hne : s ≠ []) (h : extractText pg s n = .ok x) : InRange s n := by
  by_cases hr : InRange s n
  · exact hr
  · rw [extractText, (resolve_spec s n hne).2 hr] at h
    cases h

/-- **text_split_end_to_end**: if every page of `S₁` lies before every page of `S₂`, then
`Pages(S₁ ∪ S₂).Text()` is `Pages(S₁).Text()` and `Pages(S₂).Text()` glued by the join rule
(a blank line iff both are non-empty) — a document can be read in consecutive portions -/
theorem text_split_end_to_end (pg : Nat → Except E Str) (s₁ s₂ : List Int) (n : Nat) (x y : Str)
    (h₁ne : s₁ ≠ []) (h₂ne : s₂ ≠ []) (hord : ∀ p ∈ s₁, ∀ q ∈ s₂, p < q)
    (h₁ : extractText pg s₁ n = .ok x) (h₂ : extractText pg s₂ n = .ok y) :
    extractText pg (s₁ ++ s₂) n = .ok (textStep x y) := by
  have hr₁ := inRange_of_text_ok pg s₁ n x h₁ne h₁
  have hr₂ := inRange_of_text_ok pg s₂ n y h₂ne h₂
  have hne : s₁ ++ s₂ ≠ [] := by simp [h₁ne]
  have hr : InRange (s₁ ++ s₂) n := (inRange_append s₁ s₂ n).mpr ⟨hr₁, hr₂⟩
  unfold extractText at h₁ h₂ ⊢
  rw [(resolve_spec _ n h₁ne).1 hr₁] at h₁
  rw [(resolve_spec _ n h₂ne).1 hr₂] at h₂
  rw [(resolve_spec _ n hne).1 hr, specPages_append_ordered s₁ s₂ n hord]
  exact text_split pg _ _ x y h₁ h₂

example : extractText (fun k => .ok [65 + k]) ([1, 2] ++ [4, 3]) 4 =
    .ok (textStep [65, 10, 10, 66] [67, 10, 10, 68]) := by decide

/-- **fragments_split_end_to_end**: the same for `Fragments()` with plain concatenation -/
theorem fragments_split_end_to_end {F : Type} (pg : Nat → Except E (List F)) (s₁ s₂ : List Int)
    (n : Nat) (x y : List F) (h₁ne : s₁ ≠ []) (h₂ne : s₂ ≠ [])
    (hr₁ : InRange s₁ n) (hr₂ : InRange s₂ n) (hord : ∀ p ∈ s₁, ∀ q ∈ s₂, p < q)
    (h₁ : extractFragments pg s₁ n = .ok x) (h₂ : extractFragments pg s₂ n = .ok y) :
    extractFragments pg (s₁ ++ s₂) n = .ok (x ++ y) := by
  have hne : s₁ ++ s₂ ≠ [] := by simp [h₁ne]
  have hr : InRange (s₁ ++ s₂) n := (inRange_append s₁ s₂ n).mpr ⟨hr₁, hr₂⟩
  unfold extractFragments at h₁ h₂ ⊢
  rw [(resolve_spec _ n h₁ne).1 hr₁] at h₁
  rw [(resolve_spec _ n h₂ne).1 hr₂] at h₂
  rw [(resolve_spec _ n hne).1 hr, specPages_append_ordered s₁ s₂ n hord]
  exact fragments_split pg _ _ x y h₁ h₂

example : extractFragments (fun k => .ok [k, k]) ([2] ++ [3]) 3 = .ok ([1, 1] ++ [2, 2]) := by
  decide

/-- **fragments_mono**: the fragments of a part of a valid selection are a sub-list of the
fragments of the whole (nothing invented, order kept) -/
theorem fragments_mono {F : Type} (pg : Nat → Except E (List F)) (f : Nat → List F)
    (s₁ s₂ : List Int) (n : Nat) (hne : s₁ ≠ []) (hsub : ∀ p ∈ s₁, p ∈ s₂) (hr₂ : InRange s₂ n)
    (hpg : ∀ k, k < n → pg k = .ok (f k)) :
    ∃ x y, extractFragments pg s₁ n = .ok x ∧ extractFragments pg s₂ n = .ok y ∧ x.Sublist y := by
  have hne₂ : s₂ ≠ [] := by
    intro he
    cases s₁ with
    | nil => exact hne rfl
    | cons p ps =>
      have := hsub p (by simp)
      rw [he] at this
      simp at this
  have hr₁ : InRange s₁ n := fun p hp => hr₂ p (hsub p hp)
  refine ⟨_, _, fragments_is_concat pg f s₁ n hne hr₁ hpg, fragments_is_concat pg f s₂ n hne₂ hr₂ hpg, ?_⟩
  exact (List.filter_sublist_filter (fun k hk => decide_eq_true (hsub _ (of_decide_eq_true hk))) _).flatMap f

/-! ## exactly which pages; pages outside the selection are never looked at -/

/-- **resolve_mem_iff**: whenever `resolvePages` succeeds — no hypothesis on the spelling —
page index `k` is in the result iff it is a page of the document and either nothing was
selected or `k + 1` was -/
theorem resolve_mem_iff (sel : List Int) (n : Nat) (l : List Nat)
    (h : resolvePages sel n = .ok l) (k : Nat) :
    k ∈ l ↔ k < n ∧ (sel = [] ∨ ((k : Int) + 1) ∈ sel) := by
  rcases resolvePages_cases sel n with ⟨hne, hs⟩ | ⟨hne, _, hs⟩ | ⟨_, _, hs⟩ <;> rw [hs] at h <;> cases h
  · simp [hne, List.mem_range]
  · rw [mem_specPages]
    simp [hne]

/-- **unselected_pages_irrelevant**: `Text()` and `Fragments()` — value or error — depend on the
per-page results of the SELECTED pages only: change (or break) any other page and the answer is
the same.  No hypothesis on the spelling of the selection. -/
theorem unselected_pages_irrelevant {F : Type} (pt pt' : Nat → Except E Str)
    (pf pf' : Nat → Except E (List F)) (sel : List Int) (n : Nat)
    (ht : ∀ k : Nat, k < n → (sel = [] ∨ ((k : Int) + 1) ∈ sel) → pt k = pt' k)
    (hf : ∀ k : Nat, k < n → (sel = [] ∨ ((k : Int) + 1) ∈ sel) → pf k = pf' k) :
    extractText pt sel n = extractText pt' sel n ∧
    extractFragments pf sel n = extractFragments pf' sel n := by
  unfold extractText extractFragments
  cases hres : resolvePages sel n with
  | error e => exact ⟨rfl, rfl⟩
  | ok l =>
    have hm := resolve_mem_iff sel n l hres
    constructor
    · show textOf pt l = textOf pt' l
      unfold textOf
      rw [collect_congr pt pt' l (fun k hk => ht k ((hm k).mp hk).1 ((hm k).mp hk).2)]
    · show fragmentsOf pf l = fragmentsOf pf' l
      unfold fragmentsOf
      rw [collect_congr pf pf' l (fun k hk => hf k ((hm k).mp hk).1 ((hm k).mp hk).2)]

example : extractText (fun k => if k = 1 then .error .page else .ok [65 + k]) [3, 1] 3 =
    extractText (fun k => .ok [65 + k]) [3, 1] 3 := by decide

/-- **resolve_length_le**: the resolved list has at most as many pages as the document, and for
a non-empty selection at most as many as numbers were given (duplicates only ever shrink it) -/
theorem resolve_length_le (sel : List Int) (n : Nat) (l : List Nat)
    (h : resolvePages sel n = .ok l) :
    l.length ≤ n ∧ (sel ≠ [] → l.length ≤ sel.length) := by
  rcases resolvePages_cases sel n with ⟨he, hs⟩ | ⟨_, _, hs⟩ | ⟨_, _, hs⟩ <;> rw [hs] at h <;> cases h
  · exact ⟨by simp, fun hne => absurd he hne⟩
  · refine ⟨Nat.le_trans (List.length_filter_le _ _) (by simp), fun _ => ?_⟩
    -- the page numbers of the selected pages are distinct members of `sel`
    have hnd : ((specPages sel n).map fun (k : Nat) => (k : Int) + 1).Nodup :=
      List.Nodup.map (fun a b h => by omega) ((specPages_strictAsc sel n).imp Nat.ne_of_lt)
    have := hnd.length_le_of_subset fun p hp => by
      obtain ⟨k, hk, rfl⟩ := List.mem_map.mp hp
      exact ((mem_specPages sel n k).mp hk).2
    rwa [List.length_map] at this

example : resolvePages [2, 2, 5, 2] 9 = .ok [1, 4] := by decide

/-! ## page numbers: a post-condition of `Document()` -/

/-- **document_pages_true**: whatever `Pages(S).Document()` returns (non-empty `S`, no other
hypothesis): at least one page; every page carries the number of its true source page, lies
inside the document and was asked for; the numbers ascend strictly; no asked page is missing -/
theorem document_pages_true (sel : List Int) (n : Nat) (d : List MPage) (hne : sel ≠ [])
    (h : extractDocument sel n = .ok d) :
    d ≠ [] ∧
    (∀ p ∈ d, p.number = p.source + 1 ∧ p.source < n ∧ ((p.number : Int) ∈ sel)) ∧
    (d.map (·.number)).Pairwise (· < ·) ∧
    (∀ k : Nat, k < n → ((k : Int) + 1) ∈ sel → (⟨k + 1, k⟩ : MPage) ∈ d) := by
  have hr : InRange sel n := by
    by_cases hr : InRange sel n
    · exact hr
    · rw [extractDocument, (resolve_spec sel n hne).2 hr] at h
      cases h
  unfold extractDocument at h
  rw [(resolve_spec sel n hne).1 hr] at h
  have h2 : documentOf (specPages sel n) = .ok d := h
  have hsome : specPages sel n ≠ [] := by
    intro he
    rw [he] at h2
    simp [documentOf] at h2
  rw [(page_number_true _ hsome).1] at h2
  cases h2
  refine ⟨by simpa using hsome, ?_, ?_, ?_⟩
  · intro p hp
    obtain ⟨k, hk, rfl⟩ := List.mem_map.mp hp
    obtain ⟨hlt, hmem⟩ := (mem_specPages sel n k).mp hk
    refine ⟨rfl, hlt, ?_⟩
    have hc : (((k + 1 : Nat)) : Int) = (k : Int) + 1 := by omega
    show ((k + 1 : Nat) : Int) ∈ sel
    rw [hc]
    exact hmem
  · simp only [List.map_map, List.pairwise_map]
    exact List.Pairwise.imp (fun h => by simpa [Function.comp] using h) (specPages_strictAsc sel n)
  · intro k hk hmem
    exact List.mem_map.mpr ⟨k, (mem_specPages sel n k).mpr ⟨hk, hmem⟩, rfl⟩

example : extractDocument [4, 2, 4] 5 = .ok [⟨2, 1⟩, ⟨4, 3⟩] := by decide

/-! ## the pinned `AddPage`, exactly -/

/-- page records numbered by position from `s + 1` on (what the pinned `AddPage` writes) -/
def numFrom : Nat → List Nat → List MPage
  | _, [] => []
  | s, k :: ks => ⟨s + 1, k⟩ :: numFrom (s + 1) ks

theorem foldl_addPageOld_eq (idx : List Nat) : ∀ d : List MPage,
    idx.foldl (fun d k => addPageOld d ⟨k + 1, k⟩) d = d ++ numFrom d.length idx := by
  induction idx with
  | nil => intro d; simp [numFrom]
  | cons k ks ih =>
    intro d
    simp only [List.foldl_cons]
    rw [ih]
    simp [addPageOld, numFrom]

theorem numFrom_eq_iff (idx : List Nat) : ∀ s : Nat,
    numFrom s idx = idx.map (fun k => (⟨k + 1, k⟩ : MPage)) ↔ idx = List.range' s idx.length := by
  induction idx with
  | nil => intro s; simp [numFrom]
  | cons k ks ih =>
    intro s
    simp only [List.length_cons, List.range'_succ]
    constructor
    · intro h
      simp [numFrom] at h
      obtain ⟨h1, h2⟩ := h
      have hk : k = s := by omega
      have h3 := (ih (s + 1)).mp h2
      rw [hk, ← h3]
    · intro h
      simp only [List.cons.injEq] at h
      obtain ⟨hk, h2⟩ := h
      have h3 := (ih (s + 1)).mpr h2
      simp [numFrom, h3, hk]

/-- **old_numbering_right_iff**: the `AddPage` of the pinned tree (which renumbered every page by
position) produced the same document as the repaired one iff the resolved page list is the
initial segment `0, 1, …, m-1` — for every other selection some page number was wrong -/
theorem old_numbering_right_iff (idx : List Nat) (hne : idx ≠ []) :
    documentOfOld idx = documentOf idx ↔ idx = List.range idx.length := by
  have hemp : idx.isEmpty = false := List.isEmpty_eq_false_iff.mpr hne
  unfold documentOfOld documentOf
  simp only [hemp, Bool.false_eq_true, if_false, foldl_addPage, foldl_addPageOld_eq,
    List.nil_append, List.length_nil, Except.ok.injEq]
  rw [numFrom_eq_iff, List.range_eq_range']

example : documentOfOld [0, 1, 2] = documentOf [0, 1, 2] ∧ documentOfOld [0, 2] ≠ documentOf [0, 2] := by
  decide

end Tabula.C10More
