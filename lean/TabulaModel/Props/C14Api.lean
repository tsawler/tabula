import TabulaModel.Props.C14Meta
import TabulaModel.Lemmas.ExportApi
/-!
# C14 (part 3) — the public entry points around the exporter core

The library's own configurations, `(*BatchExporter).Export` with `Data`, its error exits and the
caller's callback (over every outcome history), `(*StreamExporter)` under arbitrary call
sequences, the record building of the vector-database exports, algebra of filter chains.
Everything here is at record level (what is handed to `encoding/json` / `encoding/csv`);
`Props/C14Json.lean` adds the text level for the JSON formats.
-/
namespace Tabula.C14Api
open Tabula.Export Tabula.Csv Tabula.C14 Tabula.C14Meta

/-- Every configuration the library itself builds (`DefaultExportConfig`, `JSONLExportConfig`,
`CSVExportConfig`, `TSVExportConfig`, `VectorDBExportConfig`, the one inside `ToJSON`) has a
valid delimiter and non-colliding column names, so the hypotheses of the CSV/TSV theorems hold
for all of them; CSV is comma-separated, TSV tab-separated, VectorDB's unset delimiter means comma. -/
theorem library_configs_ok :
    (∀ cfg ∈ [defaultExportConfig, jsonlExportConfig, csvExportConfig, tsvExportConfig, toJSONConfig,
        vectorDBExportConfig], validDelim (delimiter cfg) ∧ namesOk cfg = true) ∧
    delimiter csvExportConfig = 44 ∧ delimiter tsvExportConfig = 9 ∧ delimiter vectorDBExportConfig = 44 ∧
    defaultExportConfig = ({} : Config) := by
  refine ⟨?_, by decide, by decide, by decide, rfl⟩
  intro cfg h
  simp only [List.mem_cons, List.not_mem_nil, or_false] at h
  rcases h with h | h | h | h | h | h <;> subst h <;> decide

/-- `ToCSV` / `ToTSV` (public API, no hypothesis left): for EVERY collection the text is accepted by
the RFC 4180 reader and reads back as a duplicate-free header followed by one row per chunk in
order, each row being the `cellSpec` of its chunk (under the assumed `encoding/csv` writer). -/
theorem to_csv_tsv_end_to_end (marshal : MapSV → Str) (chunks : List Chunk) :
    ∀ p ∈ [(csvExportConfig, 44), (tsvExportConfig, 9)],
      ∃ text rows, exportCSV marshal p.1 chunks = some text ∧
        csvRead p.2 text = some (collectCSVColumns p.1 chunks :: rows) ∧
        (collectCSVColumns p.1 chunks).Nodup ∧
        rows.length = chunks.length ∧
        ∀ i (hi : i < chunks.length),
          rows[i]? = some ((collectCSVColumns p.1 chunks).map (cellSpec p.1 chunks[i])) := by
  intro p hp
  simp only [List.mem_cons, List.not_mem_nil, or_false] at hp
  rcases hp with e | e <;> subst e
  · obtain ⟨text, rows, h1, h2, h3, h4⟩ := csv_end_to_end marshal csvExportConfig chunks (by decide)
    exact ⟨text, rows, h1, h2, header_distinct _ _ (by decide), h3, h4⟩
  · obtain ⟨text, rows, h1, h2, h3, h4⟩ := csv_end_to_end marshal tsvExportConfig chunks (by decide)
    exact ⟨text, rows, h1, h2, header_distinct _ _ (by decide), h3, h4⟩

/-- the loop as written in Go equals the specification run over the partition of `batches_partition` -/
theorem batch_run_refines {α β : Type} (size : Nat) (exportFn : List α → Option β)
    (cb : Batch α → β → Bool) (chunks : List α) :
    batchExportRun size exportFn cb chunks = (batchExport size chunks).map (batchRun exportFn cb) := by
  unfold batchExportRun batchExport
  by_cases hs : 0 < size
  · simp [hs, batchLoopRun_eq]
  · simp [hs]

/-- HISTORY of one `Export` call, for every batch size ≥ 1, every exporter outcome and every
callback behaviour: the callback is invoked on a PREFIX of the partition, in order, each time with
the export of exactly that batch's chunks; every invocation but possibly the last returned nil;
on `ok` the whole partition was delivered (so every chunk exactly once, in order); on a callback
error the failing batch is the last one delivered and nothing after it was exported; on an export
error the failing batch is the first one not delivered. -/
theorem batch_history {α β : Type} (size : Nat) (hs : 1 ≤ size) (exportFn : List α → Option β)
    (cb : Batch α → β → Bool) (chunks : List α) :
    ∃ bs calls res, batchExport size chunks = some bs ∧
      batchExportRun size exportFn cb chunks = some (calls, res) ∧
      bs.flatMap (·.items) = chunks ∧
      calls.map (·.1) = bs.take calls.length ∧
      (∀ p ∈ calls, exportFn p.1.items = some p.2) ∧
      (∀ p ∈ calls.dropLast, cb p.1 p.2 = true) ∧
      (res = .ok → calls.map (·.1) = bs ∧ (calls.flatMap (·.1.items)) = chunks ∧ ∀ p ∈ calls, cb p.1 p.2 = true) ∧
      (∀ n, res = .callbackErr n → ∃ p, calls.getLast? = some p ∧ p.1.batchNumber = n ∧ cb p.1 p.2 = false) ∧
      (∀ s, res = .exportErr s → ∃ b, bs[calls.length]? = some b ∧ b.startIndex = s ∧ exportFn b.items = none) := by
  obtain ⟨bs, hbs, hcat, _⟩ := batches_partition size hs chunks
  have hr := batch_run_refines size exportFn cb chunks
  rw [hbs] at hr
  obtain ⟨h1, h2, h3, h4, h5, h6⟩ := batchRun_history exportFn cb bs
  refine ⟨bs, (batchRun exportFn cb bs).1, (batchRun exportFn cb bs).2, hbs, hr, hcat, h1, h2, h3, ?_, h5, ?_⟩
  · intro hok
    obtain ⟨hl, hall⟩ := h4 hok
    have e : (batchRun exportFn cb bs).1.map (·.1) = bs := by
      rw [h1, hl]; exact List.take_length
    refine ⟨e, ?_, hall⟩
    have e2 : (batchRun exportFn cb bs).1.flatMap (·.1.items) =
        ((batchRun exportFn cb bs).1.map (·.1)).flatMap (·.items) := by
      simp [List.flatMap_map]
    rw [e2, e, hcat]
  · intro s hs'
    obtain ⟨b, hb, e1, e2, _⟩ := h6 s hs'
    exact ⟨b, hb, e1, e2⟩

/-- batches of a CSV/TSV export (valid delimiter, callback never failing): all delivered, and the
`Data` of each batch is a complete export of exactly its slice — it reads back as header (iff
requested) + one `cellSpec` row per chunk of the slice, the columns being those of the slice. -/
theorem batch_csv_end_to_end (marshal : MapSV → Str) (cfg : Config) (size : Nat) (hs : 1 ≤ size)
    (chunks : List Chunk) (hd : validDelim (delimiter cfg)) :
    ∃ calls, batchExportRun size (exportCSV marshal cfg) (fun _ _ => true) chunks = some (calls, .ok) ∧
      calls.flatMap (·.1.items) = chunks ∧
      ∀ p ∈ calls, csvRead (delimiter cfg) p.2 =
        some ((if cfg.includeHeader then [collectCSVColumns cfg p.1.items] else []) ++
          p.1.items.map (fun c => (collectCSVColumns cfg p.1.items).map (cellSpec cfg c))) := by
  obtain ⟨calls, hrun, _, hcat, hdata⟩ := batchExportRun_all size hs (exportCSV marshal cfg) (fun _ _ => true) chunks
    (fun l => by obtain ⟨t, ht, _⟩ := export_csv_parses_back marshal cfg l hd; rw [ht]; rfl) (fun _ _ => rfl)
  refine ⟨calls, hrun, hcat, fun p hp => ?_⟩
  obtain ⟨t, ht, hread⟩ := export_csv_parses_back marshal cfg p.1.items hd
  rw [← Option.some.inj (ht.symm.trans (hdata p hp)), hread]
  simp only [getColumnValue_fun]

example : validDelim (delimiter csvExportConfig) ∧ (1 : Nat) ≤ 3 := by decide

/-- HISTORY of a stream: after ANY sequence of `WriteChunk` / `Close` calls (any `index`
arguments, `Close` anywhere, repeated chunks), a JSON / JSON Lines stream holds exactly one record
per `WriteChunk` call, in call order, each the record the batch exporter produces for that
chunk, and every call returned nil; a CSV / TSV stream holds nothing and every `WriteChunk`
failed (nothing is written silently). -/
theorem stream_history (cfg : Config) (calls : List StreamCall) :
    (cfg.format = .jsonl ∨ cfg.format = .json →
      (streamRun cfg calls ⟨[], []⟩).written = exportRecords cfg (writtenChunks calls) ∧
      (streamRun cfg calls ⟨[], []⟩).results = calls.map (fun _ => true)) ∧
    (cfg.format ≠ .jsonl → cfg.format ≠ .json →
      (streamRun cfg calls ⟨[], []⟩).written = [] ∧
      (streamRun cfg calls ⟨[], []⟩).results = calls.map (fun c => !isWrite c)) := by
  obtain ⟨h1, h2⟩ := streamRun_eq cfg _ (writeChunk_eq cfg) calls ⟨[], []⟩
  rw [h1, h2]
  constructor
  · intro hf
    simp [hf, exportRecords_eq_map]
  · intro hl hj
    simp [hl, hj]

/-- the caller's loop of `stream_once` is one such history -/
theorem stream_loop_is_history (chunks : List Chunk) (idx : Chunk → Int) :
    writtenChunks (chunks.map (fun c => StreamCall.write c (idx c)) ++ [.close]) = chunks := by
  induction chunks with
  | nil => rfl
  | cons c rest ih => simp only [List.map_cons, List.cons_append, writtenChunks, ih]

/-- `ExportForPinecone`: the `vectors` array holds, in collection order, exactly one record for
every chunk that has a non-empty vector at its index (and none for the others — documented), with
that chunk's id, that vector, and text / document_title / page_start / section_title of the chunk. -/
theorem pinecone_records {F : Type} (chunks : List Chunk) (embs : List (Emb F)) :
    pineconeVectors chunks embs = chunks.zipIdx.filterMap (pineconeOf embs) ∧
    ((pineconeVectors chunks embs).map (·.id)).Sublist (chunks.map (·.id)) ∧
    (∀ r ∈ pineconeVectors chunks embs, r.values ≠ []) ∧
    ((∀ i, i < chunks.length → embAt embs i ≠ []) →
      (pineconeVectors chunks embs).map (·.id) = chunks.map (·.id) ∧
      (pineconeVectors chunks embs).length = chunks.length) := by
  have h0 : pineconeVectors chunks embs = chunks.zipIdx.filterMap (pineconeOf embs) := pineconeLoop_eq embs chunks 0
  have hids : (pineconeVectors chunks embs).map (·.id) =
      (chunks.zipIdx.filter (fun p => (pineconeOf embs p).isSome)).map (fun p => p.1.id) := by
    rw [h0]
    exact List.map_filterMap_eq_map_filter (fun a => by
      cases h : pineconeOf embs a with
      | none => rfl
      | some b => simp [(pineconeOf_some h).2]) _
  have e : chunks.zipIdx.map (fun p : Chunk × Nat => p.1.id) = chunks.map (·.id) :=
    zipIdx_map_fst_comp (fun c : Chunk => c.id) chunks 0
  refine ⟨h0, ?_, ?_, ?_⟩
  · rw [hids, ← e]
    exact List.filter_sublist.map _
  · intro r hr
    rw [h0] at hr
    obtain ⟨a, _, ha⟩ := List.mem_filterMap.mp hr
    obtain ⟨hne, er⟩ := pineconeOf_some ha
    rw [er]
    exact hne
  · intro hall
    -- every position has a vector, so no chunk is filtered out
    have hs : chunks.zipIdx.filter (fun p => (pineconeOf embs p).isSome) = chunks.zipIdx := by
      rw [List.filter_eq_self]
      rintro ⟨c, i⟩ hp
      have hi := hall i (by simpa using (List.mem_zipIdx hp).2.1)
      cases he : embAt embs i with
      | nil => exact absurd he hi
      | cons v vs => simp [pineconeOf, he]
    rw [hs, e] at hids
    exact ⟨hids, by simpa using congrArg List.length hids⟩

/-- the metadata of a Pinecone record, key by key -/
theorem pinecone_metadata (c : Chunk) :
    mapLookup (pineconeMetadata c) kText = some (.str c.text) ∧
    mapLookup (pineconeMetadata c) kDocumentTitle = some (.str c.md.documentTitle) ∧
    mapLookup (pineconeMetadata c) kPageStart = some (.int c.md.pageStart) ∧
    mapLookup (pineconeMetadata c) kSectionTitle = some (.str c.md.sectionTitle) := by
  exact ⟨rfl, rfl, rfl, rfl⟩

/-- `ExportForChroma`: `ids`, `documents`, `metadatas` are parallel arrays with exactly one entry
per chunk, in order: the chunk's id, text, and document_title / page_start / section_title /
chunk_index; the embeddings array is the caller's, passed through (omitted when empty). -/
theorem chroma_parallel {F : Type} (chunks : List Chunk) (embs : List (Emb F)) :
    (chromaRecord chunks embs).ids = chunks.map (·.id) ∧
    (chromaRecord chunks embs).documents = chunks.map (·.text) ∧
    (chromaRecord chunks embs).metadatas = chunks.map (fun c => chromaMetadata c.md) ∧
    (chromaRecord chunks embs).ids.length = chunks.length ∧
    (chromaRecord chunks embs).documents.length = chunks.length ∧
    (chromaRecord chunks embs).metadatas.length = chunks.length ∧
    (chromaRecord chunks embs).embeddings = (if embs = [] then none else some embs) := by
  unfold chromaRecord
  rw [chromaLoop_eq]
  refine ⟨rfl, rfl, rfl, by simp, by simp, by simp, ?_⟩
  cases embs <;> simp

theorem chroma_metadata (m : Meta) :
    mapLookup (chromaMetadata m) kDocumentTitle = some (.str m.documentTitle) ∧
    mapLookup (chromaMetadata m) kPageStart = some (.int m.pageStart) ∧
    mapLookup (chromaMetadata m) kSectionTitle = some (.str m.sectionTitle) ∧
    mapLookup (chromaMetadata m) kChunkIndex = some (.int m.chunkIndex) := by
  exact ⟨rfl, rfl, rfl, rfl⟩

/-- `ExportForWeaviate`: exactly one object per chunk, in order, with the class name given, the
chunk's id, its text as `content`, its title / page / section / index, and the vector at the
chunk's index when there is a non-empty one. -/
theorem weaviate_one_per_chunk {F : Type} (cls : Str) (chunks : List Chunk) (embs : List (Emb F)) :
    weaviateObjects cls chunks embs = chunks.zipIdx.map (weaviateOf cls embs) ∧
    (weaviateObjects cls chunks embs).length = chunks.length ∧
    (weaviateObjects cls chunks embs).map (·.id) = chunks.map (·.id) ∧
    ∀ i (hi : i < chunks.length),
      (weaviateObjects cls chunks embs)[i]? =
        some { cls := cls, id := chunks[i].id, properties := weaviateProps chunks[i], vector := embAt embs i } := by
  have h0 : weaviateObjects cls chunks embs = chunks.zipIdx.map (weaviateOf cls embs) := weaviateLoop_eq cls embs chunks 0
  refine ⟨h0, by simp [h0], ?_, ?_⟩
  · rw [h0, List.map_map]
    exact zipIdx_map_fst_comp (fun c : Chunk => c.id) chunks 0
  · intro i hi
    rw [h0]
    simp [List.getElem?_map, List.getElem?_zipIdx, List.getElem?_eq_getElem hi, weaviateOf]

theorem weaviate_properties (c : Chunk) :
    mapLookup (weaviateProps c) kContent = some (.str c.text) ∧
    mapLookup (weaviateProps c) kDocumentTitleC = some (.str c.md.documentTitle) ∧
    mapLookup (weaviateProps c) kPageStartC = some (.int c.md.pageStart) ∧
    mapLookup (weaviateProps c) kSectionTitleC = some (.str c.md.sectionTitle) ∧
    mapLookup (weaviateProps c) kChunkIndexC = some (.int c.md.chunkIndex) := by
  exact ⟨rfl, rfl, rfl, rfl, rfl⟩

/-- `PrepareForVectorDB`: one record per chunk in order with the chunk's id and text; the four
essential metadata fields always, section_path / element_types when non-empty. -/
theorem prepare_one_per_chunk (chunks : List Chunk) :
    prepareForVectorDB chunks =
      chunks.map (fun c => { id := c.id, text := c.text, metadata := vdbMetadata c.md }) ∧
    (prepareForVectorDB chunks).length = chunks.length ∧
    ∀ m : Meta,
      mapLookup (vdbMetadata m) kDocumentTitle = some (.str m.documentTitle) ∧
      mapLookup (vdbMetadata m) kPageStart = some (.int m.pageStart) ∧
      mapLookup (vdbMetadata m) kChunkIndex = some (.int m.chunkIndex) ∧
      mapLookup (vdbMetadata m) kSectionTitle = some (.str m.sectionTitle) ∧
      mapLookup (vdbMetadata m) kSectionPath = (if m.sectionPath ≠ [] then some (.strs m.sectionPath) else none) ∧
      mapLookup (vdbMetadata m) kElementTypes = (if m.elementTypes ≠ [] then some (.strs m.elementTypes) else none) := by
  refine ⟨prepareForVectorDB_eq chunks, by simp [prepareForVectorDB_eq], ?_⟩
  intro m
  refine ⟨rfl, rfl, rfl, rfl, ?_, ?_⟩ <;>
    (unfold vdbMetadata; simp only [mapLookup_append, mapLookup_seg]; simp (decide := true) [mapLookup])

/-- chaining two chains is the chain of their concatenation -/
theorem filter_chain_append (env : StrEnv) (ops1 ops2 : List FilterOp) (cs : List Chunk) :
    applyChain env (ops1 ++ ops2) cs = applyChain env ops2 (applyChain env ops1 cs) := by
  induction ops1 generalizing cs with
  | nil => rfl
  | cons op rest ih => simp only [List.cons_append, applyChain, ih]

/-- the order of the filters in a chain does not matter -/
theorem filter_chain_perm (env : StrEnv) (ops ops' : List FilterOp) (h : ops.Perm ops') (cs : List Chunk) :
    applyChain env ops cs = applyChain env ops' cs := by
  rw [filter_chain_is_conjunction, filter_chain_is_conjunction]
  congr 1
  funext c
  exact h.all_eq

/-- applying a filter a second time changes nothing -/
theorem filter_idempotent (env : StrEnv) (op : FilterOp) (cs : List Chunk) :
    applyOp env op (applyOp env op cs) = applyOp env op cs := by
  simp only [applyOp, filterC_eq, List.filter_filter, Bool.and_self]

/-- a chunk is in the result of a chain iff it is in the collection and satisfies every predicate -/
theorem filter_chain_mem (env : StrEnv) (ops : List FilterOp) (cs : List Chunk) (c : Chunk) :
    c ∈ applyChain env ops cs ↔ (c ∈ cs ∧ ∀ op ∈ ops, opPred env op c = true) := by
  rw [filter_chain_is_conjunction]
  simp [List.mem_filter, List.all_eq_true]

end Tabula.C14Api
