import TabulaModel.Props.C02
import TabulaModel.Props.C02Core
import TabulaModel.Props.C02Data
import TabulaModel.Props.C02Office
import TabulaModel.Props.C06
import TabulaModel.Props.C08Doc
import TabulaModel.Props.C18
/-!
# C02 — what is PROVED of "no input can crash, hang or exhaust the process"

A theorem cannot exhibit a Go panic, a stack overflow or an allocation. What is proved is the
LOGIC that bounds the work: for each guard the C02 repairs put into tabula there is a model
function mirroring the guarded Go function (same constant, same comparison), a theorem that holds
for EVERY input ("iterations / recursion depth / cells / bytes ≤ f(size of the input)", and
"beyond the bound the answer is the documented error or truncation"), an `example` at the edge,
and a correspondence op that runs the model function and the Go function on the same generated
inputs. Everything not in this table is explored by the fault catalogue of harness/c02 only.

| mechanism | Go function | bound | theorem | op |
|---|---|---|---|---|
| stream data | core.(*Lexer).ReadBytes | bytes held ≤ min(count, bytes available); negative count = error | C02Core.read_bytes_bounded, read_bytes_short | c02.readbytes |
| nested loads | reader.(*Reader).GetObject | ≤ 16 objects loading inside each other on every graph and call history; self reference = error | C02Core.nested_loads_bounded, nested_loads_bounded_hist, self_length_refused | c02.load |
| page tree | pages.(*PageTree).loadPages / traversePageNode | steps ≤ size(root) + Σ(1+size(object)) + 2 on every graph (cycles, shared subtrees, indirect /Kids arrays, inline nodes); depth ≤ 10000 | C02Core.page_tree_walk_bounded, page_tree_depth_bounded; C02.traversal_terminates | c02.ptree2, c02.ptree |
| page count | pages.(*PageTree).Count | = leaves reached, independent of /Count; ≤ step bound | C02Core.page_count_ignores_declared_count, page_count_bounded | c02.ptree2 |
| object streams | core.NewObjectStream / parseHeader / GetObjectByIndex | capacity ≤ min(/N, header/4+1); pairs = /N ≤ header objects / 2; offsets in 0..len; slice in range for every index | C02Core.objstm_capacity_bounded, objstm_header_bounded, objstm_slice_in_bounds | c02.objstm |
| xref streams | core.(*XRefParser).parseXRefStream | entry width > 0, entries x width ≤ data | C02.xref_stream_in_bounds | c02.xrefstream |
| deep resolution | reader.(*Reader).ResolveDeep, resolver.(*ObjectResolver).ResolveDeep | each object fetched once; activations ≤ size(value) + Σ size(objects); depth ≤ 2001 / maxDepth | C02Core.resolve_deep_fetches_once, resolve_deep_linear, resolve_deep_terminates | c02.rdeep |
| parser nesting | core.(*Parser).parseArray/parseDict, contentstream.(*Parser) | ≤ 500 containers open at once on every input | parser_recursion_bounded (= C06.core_recursion_bounded, cs_recursion_bounded) | c06.* |
| Form XObjects | text.(*Extractor).invokeXObject | ≤ 65472 executions, ≤ 64 MiB of content per Extract on every form graph | form_execution_bounded (= C08Doc.form_executions_bounded) | c08.doc* |
| CCITT images | filters.CCITTFaxDecode | bytes read ≤ 64 MiB + 1; Columns < 1, Rows < 0 = error | C02Data.ccitt_output_bounded, ccitt_too_large | c02.ccitt |
| column histogram | layout.(*ColumnDetector).findVerticalGaps | buckets ≤ 2^20; 2 updates per fragment, indices in range; steps = fragments + buckets + 1; same histogram as one increment per covered bucket; ≤ 5 gaps | C02Data.histogram_size_bounded, histogram_run_in_range, histogram_work_linear, histogram_is_the_naive_histogram, column_gaps_bounded | c02.gaps |
| images | reader.(*PageImage).ToPNG | pixels ≤ 8 x data bytes; JPEG ≤ 2^26 pixels | C02Data.image_allocation_bounded, topng_pixels_bounded, jpeg_pixels_bounded | c02.topng, c02.jpeg |
| colour spaces | reader.(*Reader).parseColorSpaceAt | ≤ 9 levels on every graph | C02Data.colour_space_depth_bounded | c02.cspace |
| layout text | tabula.(*Extractor).extractPreserveLayout | output ≤ text + 200 x lines + 100 x lines | C02Data.preserve_layout_output_bounded | c02.layout |
| page content | reader.(*Reader).extractTextWithFragments | concatenated ≤ 64 MiB + 1, else error | C02Data.page_content_bounded, page_content_refused | c02.contents |
| spans, repeats | docx/odt parseCell, odt parseTableColumns | value used in 1..1024 | C02Office.span_bounded | c02.span |
| list levels | docx parseListLevel, pptx extractParagraph | 0..8 | C02Office.list_level_bounded, level_clamped | c02.ilvl, c02.lvl |
| space runs | odt decodeInlineContentAt | 1..1024 spaces | C02Office.space_run_bounded | c02.spaces |
| inline nesting | docx decodeContent, odt decodeInlineContentAt | decoded iff nesting ≤ 10000 | C02Office.inline_nesting_bounded, inline_nesting_edge | c02.inline |
| style chains | docx/odt buildInheritanceChain | chain without repetition, ≤ styles + 1 entries, on every table | C02Office.style_chain_bounded | c02.chain |
| column letters | xlsx.ColumnToIndex | -1 .. 2^40 - 1 for letters of any length | C02Office.column_index_bounded | c02.col |
| worksheet grid | xlsx parseWorksheetPart | cells ≤ budget left + 16 x elements | C02.grid_bounded, grid_dense_accepted | c02.grid |
| workbook grids | xlsx parseWorksheets (history of entries) | Σ cells ≤ 8 Mi + 16 x elements of the distinct parts | C02Office.workbook_grid_bounded | c02.sheets |
| merged regions | xlsx parseWorksheetPart | cells walked ≤ one grid | C02Office.merge_work_bounded, merge_all_bounded; xlsx_sheet_work_bounded | c02.merges |
| table grids | docx/odt limitTableGrid | rows x columns ≤ 2^20 or no spans | C02Office.table_grid_bounded; table_pipeline_bounded | c02.tgrid |
| HTML / nav trees | htmldoc/epubdoc treeDeeperThan, OpenReader, parseNavXHTML | ≤ nodes + 1 moves, no recursion; answer = (height > limit), so an accepted tree is ≤ 10000 tall | C02Office.tree_walk_bounded, tree_depth_decided, tree_accepted_shallow | c02.tree, c02.treeopen |
| EPUB spine | epubdoc.(*Reader).loadChapters | chapters ≤ distinct resources, ≤ members, ≤ itemrefs | epub_chapters_bounded (= C18.epub_chapter_count_bounded) | c18.* |
| TrueType cmap 4 | font.(*TrueTypeFont).parseCmapFormat4 | ≤ 65536 map writes | C02Office.cmap4_writes_bounded | c02.cmap4 |
| bfrange arrays | font.(*CMap).addBfRangeArray | ≤ one write per array element, also across the uint32 edge | C02Office.bfrange_array_bounded | c02.bfarr |
-/
namespace Tabula.C02Bounds

/-- **parser_recursion_bounded** (C06, a3fd154): for EVERY byte string neither parser ever has more
than 500 arrays and dictionaries open: the recursion of `core.Parser` and `contentstream.Parser`
is bounded whatever the input. -/
theorem parser_recursion_bounded (inp : Tabula.Pdf.Str) :
    (Tabula.Pdf.coreParseT inp).2 ≤ 500 ∧ (Tabula.Pdf.CS.csParseT inp).2 ≤ 500 :=
  ⟨(Tabula.C06.core_recursion_bounded inp).2, (Tabula.C06.cs_recursion_bounded inp).2⟩

section Forms
open Tabula Tabula.GState Tabula.XDoc

/-- **form_execution_bounded** (C08, 670f3aa): on EVERY form graph one `Extract` executes at most
65472 Form XObjects and at most 64 MiB of form content. -/
theorem form_execution_bounded {α : Type} [Lean.Grind.CommRing α] [DecidableEq α] [LT α] [DecidableLT α]
    (adv : Adv α) (doc : Doc α) (ops : List (RawOp α)) (x : XState α) :
    ((extractRaw adv doc ops x).1.acct.calls - x.acct.calls) ≤ 65472 ∧
    ((extractRaw adv doc ops x).1.acct.work - x.acct.work) ≤ 67108864 := by
  have h := Tabula.C08Doc.form_executions_bounded adv doc ops x
  simp only [Tabula.C08Doc.maxExecutions] at h
  have hB : maxXObjectBytes = 67108864 := rfl
  refine ⟨h.2.1, ?_⟩
  have h3 := h.2.2.1
  generalize maxXObjectBytes = B at *
  omega

end Forms

section Epub
open Tabula.Package

/-- **epub_chapters_bounded** (C18, c53b79e): however often a spine names a resource, the chapters
read are at most the spine entries and at most the archive members. -/
theorem epub_chapters_bounded (a : Archive) (x : Docs) (base : Str) (manifest : List (Str × Str))
    (spine : List Str) (parts : List ChapterPart)
    (h : epubDeclared (lookup a) x = some (base, manifest, spine)) (ho : epubOpen a x = some parts) :
    parts.length ≤ a.length ∧ parts.length ≤ spine.length :=
  let t := Tabula.C18.epub_chapter_count_bounded a x base manifest spine parts h ho
  ⟨t.2.1, t.2.2⟩

end Epub

section Xlsx
open Tabula.BoundsOffice

/-- **xlsx_sheet_work_bounded** (`xlsx.Open` on one sheet entry: cell references → grid → merged
regions): for EVERY column-letter string that `ColumnToIndex` accepts, row number, number of cell elements,
list of merged regions and state of the workbook's budget within its limit, the column is below 2^40, a sheet
that is accepted has a grid of at most
8 Mi + 16 x elements cells, the budget stays within its limit, and applying ALL its merged regions
walks at most that many cells. -/
theorem xlsx_sheet_work_bounded (wb : WB) (letters : List Nat) (member elems maxRow : Nat)
    (regions : List Region) (hwb : wb.gridCells ≤ maxGridCells) (hcol : 0 ≤ columnToIndex letters)
    (hacc : (loadSheet wb ⟨member, elems, maxRow, (columnToIndex letters).toNat⟩).1 = true) :
    let maxCol := (columnToIndex letters).toNat
    maxCol < maxColumnNumber ∧
    maxRow * (maxCol + 1) ≤ maxGridCells + gridCellsPerElement * elems ∧
    (loadSheet wb ⟨member, elems, maxRow, maxCol⟩).2.gridCells ≤ maxGridCells ∧
    (mergeAll maxRow maxCol regions).2 ≤ maxGridCells + gridCellsPerElement * elems := by
  intro maxCol
  have hc := Tabula.C02Office.column_index_bounded letters
  have hinv := Tabula.C02Office.loadSheet_inv wb ⟨member, elems, maxRow, maxCol⟩ hwb
  have hm := Tabula.C02Office.merge_all_bounded maxRow maxCol regions
  have hcells : maxRow * (maxCol + 1) ≤ maxGridCells + gridCellsPerElement * elems := by
    have hA : allowanceFor wb ⟨member, elems, maxRow, maxCol⟩ ≤ gridCellsPerElement * elems := by
      unfold allowanceFor; split <;> simp
    have := loadSheet_accepted wb ⟨member, elems, maxRow, maxCol⟩ hacc
    simp only at this
    omega
  refine ⟨?_, hcells, hinv, Nat.le_trans hm hcells⟩
  -- for the answer -1 the column is 0
  have h2 := hc.2
  show (columnToIndex letters).toNat < maxColumnNumber
  have : (0 : Int) < maxColumnNumber := by decide
  omega

/-- the hypotheses are satisfiable: XFD512 with one cell element is accepted by a fresh workbook -/
example : 0 ≤ columnToIndex [88, 70, 68] ∧ (loadSheet ⟨0, []⟩ ⟨1, 1, 512, (columnToIndex [88, 70, 68]).toNat⟩).1 = true := by
  decide +kernel

def maxRowLen : TRows → Nat
  | [] => 0
  | r :: rest => max r.length (maxRowLen rest)

theorem maxRowLen_eq_widest (rows : TRows) : maxRowLen rows = Grid.widest rows :=
  ((foldl_max_eq_rec List.length maxRowLen rfl (fun _ _ => rfl) rows 0).trans (Nat.zero_max _)).symm

/-- **table_pipeline_bounded** (DOCX/ODT table: span attributes → cells → grid): for EVERY table —
any number of rows and cells, any span attribute values — the grid on which spans are processed
(rows x columns counted in spanned columns) has at most 2^20 cells, or at most as many as
rows x (cells of the longest row): the spans read from the file (each already cut to 1..1024 by
`acceptSpan`) cannot multiply. -/
theorem table_pipeline_bounded (raw : List (List (Option Int × Option Int))) :
    let rows : TRows := raw.map (fun r => r.map (fun c => (acceptSpan c.1, acceptSpan c.2)))
    let out := limitTableGrid rows
    out.length * gridCols out ≤ max maxTableGridCells (raw.length * maxRowLen rows) := by
  intro rows out
  have hlen : out.length = rows.length := by
    show (limitTableGrid rows).length = _
    rw [limitTableGrid_eq_limit]; exact Grid.limit_length spans _ rows
  rw [hlen, gridCols_eq_width, maxRowLen_eq_widest, show raw.length = rows.length from (List.length_map _).symm]
  -- the bound on the limit of `Lemmas/Grid.lean`, at the cells `(ColSpan, RowSpan)`
  show rows.length * Grid.width spans.colSpan (limitTableGrid rows) ≤ _
  rw [limitTableGrid_eq_limit]
  exact Grid.limit_grid_bound spans maxTableGridCells rows

end Xlsx

section Pdf
open Tabula.BoundsCore Tabula.BoundsData

/-- **pdf_page_pipeline_bounded** (`reader.Open(f)` → `PageCount` → per page `ExtractText`): for EVERY
object graph, root, declared /Count, list of content stream lengths and content bytes: the page
walk ends within its step bound, never deeper than 10000; the page list has at most as many
entries; the content kept per page is at most 64 MiB + 1; parsing it never opens more than 500
containers. Each conjunct is the per-mechanism theorem; together they bound the work of the text
path in terms of the size of the file. -/
theorem pdf_page_pipeline_bounded (g : PGraph) (root : PV) (declared : Option Int) (lens : List Nat)
    (content : Tabula.Pdf.Str) :
    loadPagesWith g maxPageTreeDepth root ≠ .fuel ∧
    (∀ p k, loadPagesWith g maxPageTreeDepth root = .ok p k → k ≤ maxPageTreeDepth ∧ p ≤ pfuel g root + 1) ∧
    (∀ p, pageCount g root declared = some p → p ≤ pfuel g root + 1) ∧
    (∀ t, concatContents lens 0 = some t → t ≤ maxPageContentBytes + 1) ∧
    (Tabula.Pdf.CS.csParseT content).2 ≤ 500 :=
  ⟨Tabula.C02Core.page_tree_walk_bounded g _ root,
   fun p k h => Tabula.C02Core.page_tree_depth_bounded g _ root p k h,
   fun p h => Tabula.C02Core.page_count_bounded g root declared p h,
   fun t h => Tabula.C02Data.page_content_bounded lens 0 t (Nat.zero_le _) h,
   (parser_recursion_bounded content).2⟩

end Pdf

end Tabula.C02Bounds
