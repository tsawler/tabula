import TabulaModel.Lemmas.A1Ref
import TabulaModel.Lemmas.A1Case
import TabulaModel.Props.C17Codec
/-!
# C17, the reference codec on ALL strings and ALL integer pairs

`Props/C17.lean` and `Props/C17Codec.lean` state the bijection on its two domains (non-negative
pairs, canonical strings).  Here the codec is characterised as a pair of total functions: what
`ParseCellRef` answers for every string (lower case, signs, leading zeros, rubbish), what
`ParseCellRef (CellRef col row)` is for every pair of integers (negative ones included), and that
`CellRef` is a section of `ParseCellRef` on everything that parses; the same for `ParseRangeRef`
and `CellByRef`.
-/
namespace Tabula.C17T
open Tabula.A1 Tabula.C17 Tabula.C17C

/-- **`ParseCellRef` does not see the case of any byte of its argument** — valid or not: the
same pair for `aa10` as for `AA10`, the same error for `a1b` as for `A1B` -/
theorem parse_case_insensitive (s : Str) : parseCellRef (s.map upper) = parseCellRef s := by
  unfold parseCellRef
  simp only [takeWhile_map_upper, dropWhile_map_upper, List.isEmpty_map, col_case_insensitive,
    atoi_map_upper]

/-- the letters `ParseCellRef` cuts off, folded to upper case, are an upper-case column -/
theorem letters_upper (s : Str) : IsUpperCol ((s.takeWhile isLetter).map upper) :=
  isUpperCol_map_upper _ (takeWhile_letters s)

/-- **`ParseCellRef` as a total function, from the string only**: the decision list of the Go
function with `ColumnToIndex` replaced by what it computes — the bijective base-26 number of the
letters (case folded) minus one, refused beyond `maxColumnNumber` — for EVERY string.  The row part
is whatever `strconv.Atoi` accepts: a sign and leading zeros are accepted (`a+05` is A5), a value
below 1 or outside int64 is the invalid-row error. -/
theorem parse_spec (s : Str) :
    parseCellRef s =
      if s = [] then .error .empty
      else if s.takeWhile isLetter = [] then .error .noCol
      else if s.dropWhile isLetter = [] then .error .noRow
      else if maxColumnNumber < colNumber ((s.takeWhile isLetter).map upper) then .error .badCol
      else match atoi (s.dropWhile isLetter) with
        | none => .error .badRow
        | some n => if n < 1 then .error .badRow
                    else .ok ((colNumber ((s.takeWhile isLetter).map upper) : Int) - 1, n - 1) := by
  unfold parseCellRef
  simp only [List.isEmpty_iff]
  -- the structural tests are the same; the column test is on the number the letters denote
  refine ite_congr rfl (fun _ => rfl) fun _ => ite_congr rfl (fun _ => rfl) fun h2 =>
    ite_congr rfl (fun _ => rfl) fun _ => ?_
  have hu := letters_upper s
  have hpos := (colAcc_upper _ hu).2.1 (fun h => h2 (List.map_eq_nil_iff.mp h))
  rw [← col_case_insensitive (s.takeWhile isLetter), col_to_index_spec _ hu]
  by_cases hb : colNumber ((s.takeWhile isLetter).map upper) ≤ maxColumnNumber
  · rw [if_pos hb, if_neg (by omega), if_neg (by omega)]
    rfl
  · rw [if_neg hb, if_pos (by omega), if_pos (by omega)]

/-- **every string falls in one of six classes, and the class decides the answer**: the
four structural errors, the invalid-row error, or the pair.  (The statement is the disjunction; that
the classes exclude one another can be read off their side conditions and is not part of it.  With
`parse_spec` this is the decision table of `ParseCellRef`.) -/
theorem parse_classification (s : Str) :
    (s = [] ∧ parseCellRef s = .error .empty) ∨
    (s ≠ [] ∧ (∃ d ds, s = d :: ds ∧ isLetter d = false) ∧ parseCellRef s = .error .noCol) ∨
    (s ≠ [] ∧ (∀ x ∈ s, isLetter x = true) ∧ parseCellRef s = .error .noRow) ∨
    (s.takeWhile isLetter ≠ [] ∧ s.dropWhile isLetter ≠ [] ∧
      maxColumnNumber < colNumber ((s.takeWhile isLetter).map upper) ∧ parseCellRef s = .error .badCol) ∨
    (s.takeWhile isLetter ≠ [] ∧ s.dropWhile isLetter ≠ [] ∧
      colNumber ((s.takeWhile isLetter).map upper) ≤ maxColumnNumber ∧
      (atoi (s.dropWhile isLetter) = none ∨ ∃ n, atoi (s.dropWhile isLetter) = some n ∧ n < 1) ∧
      parseCellRef s = .error .badRow) ∨
    (s.takeWhile isLetter ≠ [] ∧ s.dropWhile isLetter ≠ [] ∧
      colNumber ((s.takeWhile isLetter).map upper) ≤ maxColumnNumber ∧
      ∃ n, atoi (s.dropWhile isLetter) = some n ∧ 1 ≤ n ∧
        parseCellRef s = .ok ((colNumber ((s.takeWhile isLetter).map upper) : Int) - 1, n - 1)) := by
  rw [parse_spec]
  by_cases h1 : s = []
  · exact Or.inl ⟨h1, by simp [h1]⟩
  refine Or.inr ?_
  by_cases h2 : s.takeWhile isLetter = []
  · refine Or.inl ⟨h1, ?_, by simp [h1, h2]⟩
    cases s with
    | nil => exact absurd rfl h1
    | cons d ds =>
      refine ⟨d, ds, rfl, ?_⟩
      cases hl : isLetter d with
      | false => rfl
      | true => simp [hl] at h2
  refine Or.inr ?_
  by_cases h3 : s.dropWhile isLetter = []
  · exact Or.inl ⟨h1, dropWhile_nil_letters s h3, by simp [h1, h2, h3]⟩
  refine Or.inr ?_
  by_cases h4 : maxColumnNumber < colNumber ((s.takeWhile isLetter).map upper)
  · exact Or.inl ⟨h2, h3, h4, by simp [h1, h2, h3, h4]⟩
  refine Or.inr ?_
  cases hat : atoi (s.dropWhile isLetter) with
  | none => exact Or.inl ⟨h2, h3, by omega, Or.inl rfl, by simp [h1, h2, h3, h4]⟩
  | some n =>
    by_cases h5 : n < 1
    · exact Or.inl ⟨h2, h3, by omega, Or.inr ⟨n, rfl, h5⟩, by simp [h1, h2, h3, h4, h5]⟩
    · exact Or.inr ⟨h2, h3, by omega, n, rfl, by omega, by simp [h1, h2, h3, h4, h5]⟩

/-- what parses lies within the bounds of the code: column index in `0 .. 2^40 - 1`, row in
`0 .. MaxInt64 - 1` -/
theorem parse_ok_bounds (s : Str) (c r : Int) (h : parseCellRef s = .ok (c, r)) :
    0 ≤ c ∧ c + 1 ≤ (maxColumnNumber : Int) ∧ 0 ≤ r ∧ r + 1 ≤ (maxInt64 : Int) :=
  parseCellRef_ok_bounds h

/-- **`CellRef` is a section of `ParseCellRef` on everything that parses**: whatever string `s`
(lower case, signed or zero-padded row) parses to `(c, r)`, the printed reference `CellRef(c, r)`
parses to `(c, r)` again.  With `cellref_roundtrip` (`ParseCellRef ∘ CellRef = id` on the pairs)
the two functions are mutually inverse between the pairs `ParseCellRef` can answer and the
references `CellRef` prints; every other accepted spelling is folded onto its printed reference. -/
theorem parse_then_print_then_parse (s : Str) (c r : Int) (h : parseCellRef s = .ok (c, r)) :
    parseCellRef (cellRef c r) = .ok (c, r) := by
  obtain ⟨h1, h2, h3, h4⟩ := parse_ok_bounds s c r h
  obtain ⟨c, rfl⟩ := Int.eq_ofNat_of_zero_le h1
  obtain ⟨r, rfl⟩ := Int.eq_ofNat_of_zero_le h3
  exact cellref_roundtrip c r (by omega) (by omega)

/-- the printed reference of what a string parses to is that string with its letters in upper
case whenever the row part is a printed number: `ParseCellRef` followed by `CellRef` normalises
the case and nothing else on such strings (`ab12` gives `AB12`) -/
theorem print_parse_normalises (ls : Str) (n : Nat) (hls : ∀ x ∈ ls, isLetter x = true) (hne : ls ≠ [])
    (hb : colNumber (ls.map upper) ≤ maxColumnNumber) (h1 : 1 ≤ n) (hmax : n ≤ maxInt64) :
    ∃ c r, parseCellRef (ls ++ dec n) = .ok (c, r) ∧ cellRef c r = ls.map upper ++ dec n := by
  obtain ⟨c, r, hp, hc⟩ := cellref_roundtrip_string (ls.map upper) n (isUpperCol_map_upper ls hls)
    (fun h => hne (List.map_eq_nil_iff.mp h)) hb h1 hmax
  refine ⟨c, r, ?_, hc⟩
  rw [← parse_case_insensitive, List.map_append, map_upper_of_digits _ (dec_all_digits n)]
  exact hp

/-- **`ParseCellRef (CellRef col row)` for EVERY pair of integers** (the row such that `row+1`
does not leave int64): a negative column prints no letters and the reference has no column
("A1" side: `CellRef(-1, 0) = "1"`); a column beyond the bound is the invalid-column error; a
negative row prints `0` or a negative number and is the invalid-row error; every other pair comes
back.  So the round trip holds exactly on the non-negative pairs within the column bound and
fails with an error - never with another pair - everywhere else. -/
theorem cellref_parse_total (col row : Int) (hlo : -((maxInt64 : Int) + 1) ≤ row + 1)
    (hhi : row + 1 ≤ (maxInt64 : Int)) :
    parseCellRef (cellRef col row) =
      if col < 0 then .error .noCol
      else if (maxColumnNumber : Int) < col + 1 then .error .badCol
      else if row < 0 then .error .badRow
      else .ok (col, row) :=
  parseCellRef_cellRef col row hlo hhi

/-- **`ParseRangeRef` as a total function**: it answers four coordinates exactly for the strings
with exactly one colon both sides of which parse, and then the coordinates are those of the two
sides (start column, start row, end column, end row) -/
theorem range_ok_iff (s : Str) (sc sr ec er : Int) :
    parseRangeRef s = .ok (sc, sr, ec, er) ↔
      ∃ a b, s = a ++ 58 :: b ∧ 58 ∉ a ∧ 58 ∉ b ∧
        parseCellRef a = .ok (sc, sr) ∧ parseCellRef b = .ok (ec, er) := by
  constructor
  · intro h
    unfold parseRangeRef at h
    split at h
    · rename_i a b hsplit
      obtain ⟨rfl, ha, hb⟩ := (splitOnColon_two_iff s a b).mp hsplit
      refine ⟨a, b, rfl, ha, hb, ?_⟩
      split at h
      · cases h
      · rename_i c1 r1 h1
        split at h
        · cases h
        · rename_i c2 r2 h2
          simp only [Except.ok.injEq, Prod.mk.injEq] at h
          obtain ⟨rfl, rfl, rfl, rfl⟩ := h
          exact ⟨h1, h2⟩
    · cases h
  · rintro ⟨a, b, rfl, ha, hb, h1, h2⟩
    unfold parseRangeRef
    rw [splitOnColon_pair a b ha hb]
    simp only [h1, h2]

/-- the number of pieces decides first: two colons and more are the invalid-range error whatever the
pieces are (no colon: `C17C.range_needs_one_colon`) -/
theorem range_two_colons (a b c : Str) (ha : 58 ∉ a) :
    parseRangeRef (a ++ 58 :: b ++ 58 :: c) = .error .badRange :=
  parseRangeRef_of_count_ne _ (by simp only [List.count_append, List.count_cons_self]; omega)

/-- printing what a range parses to and parsing again gives the same four coordinates: the
printed range `CellRef(sc,sr):CellRef(ec,er)` is the normal form of every accepted spelling -/
theorem range_parse_print_parse (s : Str) (sc sr ec er : Int) (h : parseRangeRef s = .ok (sc, sr, ec, er)) :
    parseRangeRef (cellRef sc sr ++ 58 :: cellRef ec er) = .ok (sc, sr, ec, er) := by
  obtain ⟨a, b, _, _, _, h1, h2⟩ := (range_ok_iff s sc sr ec er).mp h
  obtain ⟨a1, a2, a3, a4⟩ := parse_ok_bounds a sc sr h1
  obtain ⟨b1, b2, b3, b4⟩ := parse_ok_bounds b ec er h2
  obtain ⟨sc, rfl⟩ := Int.eq_ofNat_of_zero_le a1
  obtain ⟨sr, rfl⟩ := Int.eq_ofNat_of_zero_le a3
  obtain ⟨ec, rfl⟩ := Int.eq_ofNat_of_zero_le b1
  obtain ⟨er, rfl⟩ := Int.eq_ofNat_of_zero_le b3
  exact range_roundtrip sc sr ec er (by omega) (by omega) (by omega) (by omega)

/-- `ab+012` parses (lower case, sign, leading zero) to column 27, row 11 — and prints as `AB12` -/
example : parseCellRef [97, 98, 43, 48, 49, 50] = .ok (27, 11) := by rfl
example : parseCellRef (cellRef 27 11) = .ok (27, 11) :=
  parse_then_print_then_parse [97, 98, 43, 48, 49, 50] 27 11 (by rfl)
example : parseCellRef (cellRef (-1) 0) = .error .noCol := by
  rw [cellref_parse_total (-1) 0 (by decide) (by decide)]; rfl
example : parseCellRef (cellRef 0 (-3)) = .error .badRow := by
  rw [cellref_parse_total 0 (-3) (by decide) (by decide)]; rfl
example : parseRangeRef [97, 49, 58, 98, 50] = .ok (0, 0, 1, 1) := by rfl

end Tabula.C17T
