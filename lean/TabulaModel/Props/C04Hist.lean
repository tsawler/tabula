import TabulaModel.Lemmas.XrefObjStm
import TabulaModel.Lemmas.Xref
/-!
# C04, histories — "the answer does not depend on the order of lookups or on what was looked
up before", for the state the reader and its object streams carry between calls

The `reader_*` theorems are about the abstract `File` of Model/Xref.lean (what stands at an
offset is a function of the file alone): for the code that holds while lookups nest at most
`maxNestedLoads` = 16 loads (129dd3d); see `Props/C04NestCache.lean` for the caches beyond it.
-/
namespace Tabula.C04Hs
open Tabula.XrefFile Tabula.Xref Tabula.Pdf

/-- **objstm_history_free**: on one `core.ObjectStream`, from its initial state, every finite
sequence of `GetObjectByIndex` calls (any indices, negative, out of range, repeated) answers
each call with what the index means in the stream (`osSpec`: a function of the stream and the
index alone) — the lazily decoded data, the header pairs and the per-index cache never change
an answer. -/
theorem objstm_history_free (dec : Except Reader.Err Reader.ObjStm) (is : List Int) :
    osRun dec {} is = is.map (osSpec dec) :=
  osRun_refines dec is {} (osOk_empty dec)

/-- … from any state reached by earlier calls, too -/
theorem objstm_answer_independent_of_earlier_calls (dec : Except Reader.Err Reader.ObjStm)
    (before : List Int) (i : Int) :
    (osRun dec {} (before ++ [i])).getLast? = some (osSpec dec i) := by
  rw [objstm_history_free]
  simp

/-- **objstm_failed_decode_leaves_no_trace** (the repair of c469dd4 in the model): when the
stream does not decode or its header does not parse, a call fails and leaves the object
exactly as it was — so the next call fails the same way. (Before the repair `decoded` and the
header pairs read so far were kept: the first lookup of a member failed, the second succeeded.) -/
theorem objstm_failed_decode_leaves_no_trace (e : Reader.Err) (st : OSState) (hd : st.decoded = none)
    (i : Int) : osGetByIndex (.error e) st i = (none, st) := by
  simp [osGetByIndex, osDecode, hd]

/-- satisfiable, and not vacuous: a stream that fails to decode answers every call with an error -/
example : osRun (.error .err) {} [0, 1, 0, -1] = [none, none, none, none] := by
  rw [objstm_history_free]; rfl

/-- **objstm_header_error_kept_equivalent** (the repair c437385 against the model): the code now
keeps the decoded data and the header error (`headerErr`) instead of staying undecoded
(`OSStateK` / `osRunK`; `keep` = whether the failure is one the object remembers — a header
that does not parse — or one it meets again on every access — `Stream.Decode()` failing).
Either way, every finite sequence of `GetObjectByIndex` calls is answered exactly as by the
"stays undecoded" machine of c469dd4, hence by what each index means in the stream: the two
repairs are different state machines with the same answers. -/
theorem objstm_header_error_kept_equivalent (keep : Bool) (dec : Except Reader.Err Reader.ObjStm)
    (is : List Int) :
    osRunK keep dec {} is = osRun dec {} is ∧ osRunK keep dec {} is = is.map (osSpec dec) := by
  have h := osRunK_eq keep dec is {} {} (osRel_empty dec)
  exact ⟨h, h.trans (objstm_history_free dec is)⟩

/-- **objstm_header_error_every_time** (what c437385 is about): an object stream whose data does
not decode or whose header does not parse answers EVERY call of every sequence with an error,
whether or not the failure is remembered. -/
theorem objstm_header_error_every_time (keep : Bool) (e : Reader.Err) (is : List Int) :
    osRunK keep (.error e) {} is = is.map (fun _ => none) := by
  rw [(objstm_header_error_kept_equivalent keep (.error e) is).2]
  apply List.map_congr_left
  intro i _
  rfl

/-- the kept error: after the first failing call the object holds `headerErr`, and the second
call fails without decoding again -/
example : (osGetByIndexK true (.error .err) {} 0).2.headerErr = true ∧
    osRunK true (.error .err) {} [0, 1, 0, -1] = [none, none, none, none] := by
  refine ⟨rfl, ?_⟩
  rw [objstm_header_error_every_time]; rfl

/-- **reader_answers_independent_of_prefix**: whatever sequence of lookups and cache clears
came before, the answers to a sequence of operations are those a fresh reader gives. -/
theorem reader_answers_independent_of_prefix (f : File) (before ops : List Op) :
    run f {} (before ++ ops) = run f {} before ++ run f {} ops := by
  rw [run_refines f (before ++ ops) {} (cacheOk_empty f), run_refines f before {} (cacheOk_empty f),
    run_refines f ops {} (cacheOk_empty f), specRun_append]

/-- **reader_sound_cache_suffices**: from ANY cache contents that are sound (every cached object
is what a cache-free lookup yields, every cached object stream is what loading it yields) —
not only from the caches reachable from empty — every operation sequence answers the
cache-free specification. -/
theorem reader_sound_cache_suffices (f : File) (c : Cache) (h : CacheOk f c) (ops : List Op) :
    run f c ops = specRun f ops :=
  run_refines f ops c h

/-- the caches after a sequence of operations -/
def cacheAfter (f : File) : Cache → List Op → Cache
  | c, [] => c
  | c, .get n :: ops => cacheAfter f (stepGet f c n).2 ops
  | c, .clear :: ops => cacheAfter f (stepClear c) ops

/-- reachable caches are sound: after any operation sequence from empty caches -/
theorem reachable_cache_sound (f : File) (ops : List Op) : CacheOk f (cacheAfter f {} ops) := by
  suffices h : ∀ c, CacheOk f c → CacheOk f (cacheAfter f c ops) from h {} (cacheOk_empty f)
  induction ops with
  | nil => intro c hc; exact hc
  | cons op ops ih =>
    intro c hc
    cases op with
    | get n => exact ih _ (stepGet_spec f c n hc).2
    | clear => exact ih _ (cacheOk_empty f)

end Tabula.C04Hs
