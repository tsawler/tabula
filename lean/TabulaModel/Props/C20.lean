import TabulaModel.Lemmas.Detect
import TabulaModel.Lemmas.Drm
/-!
# C20 — Files are admitted by content; mismatches and DRM are refused

Theorems about `Model/Detect.lean` (format/detect.go, extractor.go) and
`Model/Drm.lean` (epubdoc/drm.go).  Helper lemmas: `Lemmas/Detect.lean`,
`Lemmas/Drm.lean`.  All statements are for every input of the model.
-/
set_option autoImplicit false
namespace Tabula.C20
open Tabula.Detect Tabula.Drm

/-! ## ext_table -/

/-- the extension table of the property: seven formats, `.htm` = `.html` -/
def extPairs : List (Str × Format) :=
  [(dotPdf, .pdf), (dotDocx, .docx), (dotOdt, .odt), (dotXlsx, .xlsx), (dotPptx, .pptx),
   (dotHtml, .html), (dotHtm, .html), (dotEpub, .epub)]

/-- every one of the seven formats has an extension -/
theorem ext_table_seven_formats (f : Format) (hf : f ≠ .unknown) : ∃ p ∈ extPairs, p.2 = f := by
  cases f <;> first | exact absurd rfl hf | decide

/-- two names that differ only in letter case ask for the same format -/
theorem ext_table_case_insensitive (a b : Str) (h : lower a = lower b) : detect a = detect b := by
  rw [← detect_lower a, ← detect_lower b, h]

example : lower [100, 46, 80, 100, 70] = lower [68, 46, 112, 68, 102] := by decide +kernel

theorem detect_append_ext (x t : Str) (ht : ∀ c ∈ t, c ≠ 46 ∧ c ≠ 47) :
    detect (x ++ 46 :: t) = extTable (lower (46 :: t)) := by
  unfold detect
  rw [ext_append x t ht]

/-- `ext_table`: whatever the stem (dots and directories included) and whatever the
letter case of the extension, a name ending in one of the eight extensions asks for
that extension's format. -/
theorem ext_table (p : Str × Format) (hp : p ∈ extPairs) (stem e : Str) (he : lower e = p.1) :
    detect (stem ++ e) = p.2 := by
  rw [← detect_lower, lower_append, he]
  -- every extension of the table is a dot followed by letters, and maps to its format
  obtain ⟨h1, h2, h3⟩ := (by decide : ∀ p ∈ extPairs, p.1 = 46 :: p.1.tail ∧
    (∀ c ∈ p.1.tail, c ≠ 46 ∧ c ≠ 47) ∧ extTable (lower p.1) = p.2) p hp
  rw [h1, detect_append_ext _ _ h2, ← h1, h3]

example : (dotDocx, Format.docx) ∈ extPairs ∧ lower [46, 68, 111, 67, 88] = dotDocx := by decide +kernel

theorem extTable_spec (e : Str) : extTable e = .unknown ∨ (e, extTable e) ∈ extPairs := by
  -- down the `switch`: each case puts its own pair into the table, the default is Unknown
  fun_cases extTable e
  case case8 => exact Or.inl rfl
  case case6 h => right; rcases h with rfl | rfl <;> decide
  all_goals right; subst e; decide

/-- nothing else is in the table: a name asks for a format only through one of the
eight extensions (compared case-insensitively). -/
theorem ext_table_only (name : Str) (f : Format) (h : detect name = f) (hf : f ≠ .unknown) :
    (lower (ext name), f) ∈ extPairs := by
  unfold detect at h
  rcases extTable_spec (lower (ext name)) with hu | hm
  · rw [hu] at h; exact absurd h.symm hf
  · rw [h] at hm; exact hm

example : detect [97, 46, 72, 84, 77] = .html := by decide +kernel

/-- a name without a dot asks for no format -/
theorem ext_table_no_extension (name : Str) (h : ∀ c ∈ name, c ≠ 46) : detect name = .unknown := by
  unfold detect
  rw [ext_nil_of_noDot name h]
  decide +kernel

example : ∀ c ∈ [100, 111, 99, 47, 114, 101, 97, 100, 109, 101], c ≠ 46 := by decide +kernel

/-- the table is a function: one extension, one format -/
theorem ext_table_functional :
    ∀ p ∈ extPairs, ∀ q ∈ extPairs, p.1 = q.1 → p.2 = q.2 := by decide +kernel

/-! ## zip_detect_marker -/

/-- what the "mimetype" member must contain to decide: ODT by substring, EPUB exactly,
after trimming white space, ODT first. -/
theorem mime_verdict_spec (m : Member) (f : Format) :
    mimeVerdict m = some f ↔
      m.name = nMimetype ∧ ∃ d, m.data = some d ∧
        ((hasSub odtMime (trimSpace (d.take 256)) = true ∧ f = .odt) ∨
         (hasSub odtMime (trimSpace (d.take 256)) = false ∧ trimSpace (d.take 256) = epubMime ∧ f = .epub)) :=
  mimeVerdict_eq_some_iff m f

example : mimeVerdict ⟨nMimetype, some odtMime⟩ = some .odt := by decide +kernel
example : mimeVerdict ⟨nMimetype, some (epubMime ++ [13, 10])⟩ = some .epub := by decide +kernel

/-- `zip_detect_marker`: an archive carrying a format's marker is recognised as that
format, in the code's fixed priority: mimetype verdict, then the EPUB container, then
the OOXML main parts word/document.xml, xl/workbook.xml, ppt/presentation.xml —
wherever in the archive the marker is. -/
theorem zip_detect_marker (ms : List Member) :
    (∀ m ∈ ms, ∀ f, MimeAgree ms → mimeVerdict m = some f → detectZip ms = f) ∧
    ((∀ m ∈ ms, mimeVerdict m = none) →
      (hasMember nContainer ms = true → detectZip ms = .epub) ∧
      (hasMember nContainer ms = false → hasMember nWordDoc ms = true → detectZip ms = .docx) ∧
      (hasMember nContainer ms = false → hasMember nWordDoc ms = false →
        hasMember nXlWorkbook ms = true → detectZip ms = .xlsx) ∧
      (hasMember nContainer ms = false → hasMember nWordDoc ms = false →
        hasMember nXlWorkbook ms = false → hasMember nPptPres ms = true → detectZip ms = .pptx)) := by
  refine ⟨?_, ?_⟩
  · intro m hm f ha hv
    unfold detectZip
    rw [firstMime_of_mem ha hm hv]
  · intro hn
    have h0 : firstMime ms = none := firstMime_eq_none.2 hn
    unfold detectZip
    rw [h0]
    refine ⟨?_, ?_, ?_, ?_⟩
    · intro h; simp [h]
    · intro h1 h2; simp [h1, h2]
    · intro h1 h2 h3; simp [h1, h2, h3]
    · intro h1 h2 h3 h4; simp [h1, h2, h3, h4]

/-- membership form of `hasMember` -/
theorem hasMember_iff (n : Str) (ms : List Member) : hasMember n ms = true ↔ ∃ m ∈ ms, m.name = n := by
  unfold hasMember; simp

/-! ## zip_detect_perm_invariant -/

/-- `"xl/worksheets/sheet1.xml"` -/
def nSheet : Str := [120, 108, 47, 119, 111, 114, 107, 115, 104, 101, 101, 116, 115, 47, 115, 104, 101, 101, 116, 49, 46, 120, 109, 108]
/-- `"word/stray.xml"` -/
def nStray : Str := [119, 111, 114, 100, 47, 115, 116, 114, 97, 121, 46, 120, 109, 108]

/-- distinct member names (every well-formed archive) make the mimetype members agree -/
theorem mimeAgree_of_nodup (ms : List Member) (h : (ms.map (·.name)).Nodup) : MimeAgree ms :=
  MimeAgree.of_nodup h

/-- `zip_detect_perm_invariant`: detection is the same for EVERY permutation of the
member list.  The only proviso is that the archive does not hold two "mimetype"
members naming different types (`MimeAgree`; implied by distinct member names). -/
theorem zip_detect_perm_invariant (ms ms' : List Member) (hp : ms.Perm ms') (ha : MimeAgree ms) :
    detectZip ms = detectZip ms' :=
  detectZip_perm hp ha

/-- an EPUB-shaped member list with a decoy in front -/
def exEpubMembers : List Member := [⟨nStray, none⟩, ⟨nMimetype, some epubMime⟩, ⟨nContainer, none⟩]

example : MimeAgree exEpubMembers := mimeAgree_of_nodup exEpubMembers (by decide)

example : List.Perm [(⟨nStray, none⟩ : Member), ⟨nXlWorkbook, none⟩] [⟨nXlWorkbook, none⟩, ⟨nStray, none⟩] :=
  List.Perm.swap _ _ _

theorem zip_detect_perm_invariant_nodup (ms ms' : List Member) (hp : ms.Perm ms')
    (hn : (ms.map (·.name)).Nodup) : detectZip ms = detectZip ms' :=
  detectZip_perm hp (mimeAgree_of_nodup ms hn)


example : (([⟨nStray, none⟩, ⟨nXlWorkbook, none⟩, ⟨nSheet, none⟩] : List Member).map (·.name)).Nodup := by decide +kernel

/-- the names a sniffer keys on; a decoy is a member with any other name -/
def isMarkerName (n : Str) : Bool :=
  n = nMimetype || n = nContainer || n = nWordDoc || n = nXlWorkbook || n = nPptPres

/-- the archive carries at least one marker (every valid document of the five ZIP
formats does) -/
def HasMarker (ms : List Member) : Prop :=
  firstMime ms ≠ none ∨ hasMember nContainer ms = true ∨ hasMember nWordDoc ms = true ∨
    hasMember nXlWorkbook ms = true ∨ hasMember nPptPres ms = true

theorem decoys_inert (ds : List Member) (hd : ∀ d ∈ ds, isMarkerName d.name = false) :
    firstMime ds = none ∧ hasMember nContainer ds = false ∧ hasMember nWordDoc ds = false ∧
      hasMember nXlWorkbook ds = false ∧ hasMember nPptPres ds = false := by
  have hne : ∀ d ∈ ds, d.name ≠ nMimetype ∧ d.name ≠ nContainer ∧ d.name ≠ nWordDoc ∧
      d.name ≠ nXlWorkbook ∧ d.name ≠ nPptPres := by
    intro d hdm
    simpa only [isMarkerName, Bool.or_eq_false_iff, decide_eq_false_iff_not, and_assoc] using hd d hdm
  refine ⟨?_, ?_, ?_, ?_, ?_⟩
  · exact firstMime_eq_none.2 (fun d hdm => mimeVerdict_none_of_name (hne d hdm).1)
  · exact hasMember_false_of_forall _ _ (fun d hdm => (hne d hdm).2.1)
  · exact hasMember_false_of_forall _ _ (fun d hdm => (hne d hdm).2.2.1)
  · exact hasMember_false_of_forall _ _ (fun d hdm => (hne d hdm).2.2.2.1)
  · exact hasMember_false_of_forall _ _ (fun d hdm => (hne d hdm).2.2.2.2)

/-- adding decoy members — anything that is not another format's marker, e.g.
`word/stray.xml`, `xl/embeddings/…`, `content.xml` — to an archive that carries a
marker does not change what it is detected as. -/
theorem zip_detect_decoy_invariant (ms ds : List Member)
    (hd : ∀ d ∈ ds, isMarkerName d.name = false) (hm : HasMarker ms) :
    detectZip (ms ++ ds) = detectZip ms := by
  obtain ⟨d0, d1, d2, d3, d4⟩ := decoys_inert ds hd
  unfold detectZip
  rw [firstMime_append, d0, hasMember_append, hasMember_append, hasMember_append, hasMember_append,
    d1, d2, d3, d4]
  simp only [Option.or_none, Bool.or_false]
  cases h0 : firstMime ms with
  | some f => rfl
  | none =>
    unfold HasMarker at hm
    simp only [h0, ne_eq, not_true_eq_false, false_or] at hm
    cases h1 : hasMember nContainer ms with
    | true => simp
    | false =>
      cases h2 : hasMember nWordDoc ms with
      | true => simp
      | false =>
        cases h3 : hasMember nXlWorkbook ms with
        | true => simp
        | false =>
          cases h4 : hasMember nPptPres ms with
          | true => simp
          | false => simp [h1, h2, h3, h4] at hm

/-- without a marker the hypothesis cannot be dropped: directory names alone are a
(documented) fallback -/
example : detectZip ([] ++ [⟨nStray, none⟩]) ≠ detectZip [] := by decide +kernel

/-- `zip_detect_perm_invariant` with decoys: ANY arrangement of the document's members
and the decoys is detected as the document alone is. -/
theorem zip_detect_perm_decoy_invariant (ms ds l : List Member) (hp : (ms ++ ds).Perm l)
    (ha : MimeAgree ms) (hd : ∀ d ∈ ds, isMarkerName d.name = false) (hm : HasMarker ms) :
    detectZip l = detectZip ms := by
  have hnone : ∀ d ∈ ds, mimeVerdict d = none :=
    fun d hdm => firstMime_eq_none.1 (decoys_inert ds hd).1 d hdm
  have ha' : MimeAgree (ms ++ ds) := by
    intro m hm1 m' hm2 f g hf hg
    rw [List.mem_append] at hm1 hm2
    rcases hm1 with h1 | h1
    · rcases hm2 with h2 | h2
      · exact ha m h1 m' h2 f g hf hg
      · rw [hnone m' h2] at hg; cases hg
    · rw [hnone m h1] at hf; cases hf
  rw [← detectZip_perm hp ha']
  exact zip_detect_decoy_invariant ms ds hd hm

example : HasMarker [⟨nXlWorkbook, none⟩, ⟨nSheet, none⟩] ∧ isMarkerName nStray = false := by
  refine ⟨?_, by decide⟩
  right; right; right; left; decide

/-- The loop the pinned tree had in place of the main-part test (first of `word/`,
`xl/`, `ppt/` in ARCHIVE ORDER wins), kept to document defect B17. -/
def pinnedOoxmlLoop : List Member → Format
  | [] => .unknown
  | m :: ms =>
    if pWord.isPrefixOf m.name then .docx
    else if pXl.isPrefixOf m.name then .xlsx
    else if pPpt.isPrefixOf m.name then .pptx
    else pinnedOoxmlLoop ms

/-- B17 witness: the pinned loop was order dependent (an XLSX with a stray `word/`
member in front was a DOCX); the model of the repaired code is not. -/
theorem pinned_ooxml_order_dependent_counterexample :
    ∃ ms ms' : List Member, ms.Perm ms' ∧ pinnedOoxmlLoop ms ≠ pinnedOoxmlLoop ms' ∧
      detectZip ms = .xlsx ∧ detectZip ms' = .xlsx :=
  ⟨[⟨nStray, none⟩, ⟨nXlWorkbook, none⟩], [⟨nXlWorkbook, none⟩, ⟨nStray, none⟩],
    List.Perm.swap _ _ _, by decide, by decide, by decide⟩

/-! ## detect_own_format: what the sniffer needs to see -/

/-- every file that starts with `%PDF` is a PDF, whatever follows -/
theorem detect_pdf_magic (rest : Str) (zip : Option (List Member)) :
    detectFromReader (sPdfMagic ++ rest) zip = some .pdf := by
  unfold detectFromReader
  simp only [take_append_short sPdfMagic rest 512 (by decide), isPrefixOf_append_self, if_true]

/-- every file that starts with a ZIP local header is what its member list says -/
theorem detect_zip_magic (rest : Str) (ms : List Member) :
    detectFromReader (sZipMagic ++ rest) (some ms) = some (detectZip ms) :=
  detectFromReader_zip_magic rest ms

/-- every file that is white space, `<!DOCTYPE html` in any letter case, then anything,
is HTML (the doctype must lie within the 512 bytes the sniffer reads) -/
theorem detect_html_doctype (ws d rest : Str) (zip : Option (List Member))
    (hws : ∀ c ∈ ws, isMagicWS c = true) (hd : upper d = sDoctypeHtml) (hlen : ws.length + d.length ≤ 512) :
    detectFromReader (ws ++ d ++ rest) zip = some .html :=
  detectFromReader_html_front (ws ++ d) rest zip (by simpa using hlen)
    (fun r => detectHTMLMagic_doctype ws d r hws hd)

example : (∀ c ∈ [13, 10, 32], isMagicWS c = true) ∧
    upper [60, 33, 100, 111, 99, 116, 121, 112, 101, 32, 104, 116, 109, 108] = sDoctypeHtml := by decide +kernel

/-- the same for every way of separating the keyword from the name: white space,
`<!DOCTYPE` in any letter case, ANY non-empty run of white space (blank, tab, LF, FF, CR),
`html` in any letter case, then anything (legacy strings, the rest of the document), is HTML
(the declaration up to the name must lie within the 512 bytes the sniffer reads) -/
theorem detect_html_doctype_any_space (lead d ws n rest : Str) (zip : Option (List Member))
    (hl : ∀ c ∈ lead, isMagicWS c = true) (hd : upper d = sDoctype)
    (hne : ws ≠ []) (hws : ∀ c ∈ ws, isMagicWS c = true) (hn : upper n = sHtmlName)
    (hlen : lead.length + d.length + ws.length + n.length ≤ 512) :
    detectFromReader (lead ++ (d ++ (ws ++ (n ++ rest)))) zip = some .html := by
  have e : ∀ r, lead ++ (d ++ (ws ++ (n ++ r))) = (lead ++ (d ++ (ws ++ n))) ++ r := fun r => by simp
  rw [e]
  exact detectFromReader_html_front _ rest zip (by simp only [List.length_append]; omega)
    (fun r => by rw [← e]; exact detectHTMLMagic_doctype_ws lead d ws n r hl hd hne hws hn)

/-- satisfiable: `"\f\n"`, `"<!doctype"`, `"\r\n\t"`, `"Html"` -/
example : (∀ c ∈ [12, 10], isMagicWS c = true) ∧
    upper [60, 33, 100, 111, 99, 116, 121, 112, 101] = sDoctype ∧
    ([13, 10, 9] : Str) ≠ [] ∧ (∀ c ∈ [13, 10, 9], isMagicWS c = true) ∧
    upper [72, 116, 109, 108] = sHtmlName := by decide +kernel

/-! ## admission -/

/-- `admission`: a reader is opened only for the format the NAME asks for, and only if
the content was detected as that very format or could not be classified. -/
theorem admission (extF : Format) (det : Option Format) (f : Format)
    (h : ensureReader extF det = .proceed f) :
    f = extF ∧ extF ≠ .unknown ∧ (det = some extF ∨ det = some .unknown) :=
  ensureReader_proceed h

example : ensureReader .xlsx (some .xlsx) = .proceed .xlsx := by decide +kernel

/-- every pair of different formats: content detected as one of the seven formats under a name
that asks for anything else (another format, or none) is refused as a mismatch, before any
reader sees it. -/
theorem admission_mismatch_refused (extF d : Format) (hd : d ≠ .unknown) (hne : extF ≠ d) :
    ensureReader extF (some d) = .mismatch :=
  ensureReader_ne hd (Ne.symm hne)

/-- a document detected as its own format is admitted under its own extension -/
theorem admission_own_format (f : Format) (hf : f ≠ .unknown) :
    ensureReader f (some f) = .proceed f :=
  ensureReader_self hf

/-- content the sniffers cannot classify is admitted by extension (as the code documents) -/
theorem admission_undetectable (f : Format) (hf : f ≠ .unknown) :
    ensureReader f (some .unknown) = .proceed f :=
  (ensureReader_unknown f).trans (if_neg hf)

/-- a name that asks for no supported format never reaches a reader -/
theorem admission_no_extension (det : Option Format) (f : Format) :
    ensureReader .unknown det ≠ .proceed f := by
  intro h
  exact (admission _ _ _ h).2.1 rfl

/-- a corrupt archive is an error under every name -/
theorem admission_detect_error (extF : Format) : ensureReader extF none = .detectFailed := rfl

/-- the same bytes under every naming: with the extension table and the content
sniffer composed, `Open(stem ++ e)` on content detected as `d` proceeds iff `e` is (a
case variant of) an extension of `d`, and is a mismatch error for every other of the
eight extensions. -/
theorem admission_by_name (p : Str × Format) (hp : p ∈ extPairs) (stem e file : Str)
    (zip : Option (List Member)) (he : lower e = p.1) (d : Format) (hd : d ≠ .unknown)
    (hdet : detectFromReader file zip = some d) :
    openFile (stem ++ e) file zip = (if p.2 = d then .proceed d else .mismatch) := by
  unfold openFile
  rw [ext_table p hp stem e he, hdet]
  by_cases h : p.2 = d
  · rw [if_pos h, h]; exact admission_own_format d hd
  · rw [if_neg h]; exact admission_mismatch_refused p.2 d hd h

example : detectFromReader sPdfMagic none = some .pdf := by decide +kernel

/-! ## drm_decision -/

/-- `drm_decision`: the EPUB is refused iff a rights file is present, or the encryption
metadata cannot be parsed, or some entry covers a content document with an algorithm
that is not font obfuscation. -/
theorem drm_decision (ms : List DMember) :
    checkForDRM ms = true ↔
      DMember.rights ∈ ms ∨ DMember.encryption none ∈ ms ∨
      ∃ es, DMember.encryption (some es) ∈ ms ∧
        ∃ e ∈ es, isFontObfuscation e.algorithm = false ∧ isContentFile e.uri = true := by
  rw [checkForDRM_eq_any, List.any_eq_true]
  constructor
  · rintro ⟨m, hm, hb⟩
    cases m with
    | rights => exact Or.inl hm
    | other => simp [memberBad] at hb
    | encryption p =>
      cases p with
      | none => exact Or.inr (Or.inl hm)
      | some es => exact Or.inr (Or.inr ⟨es, hm, hasEncryptedContent_iff.1 hb⟩)
  · rintro (hm | hm | ⟨es, hm, e, he, h1, h2⟩)
    · exact ⟨_, hm, rfl⟩
    · exact ⟨_, hm, rfl⟩
    · exact ⟨_, hm, hasEncryptedContent_iff.2 ⟨e, he, h1, h2⟩⟩

/-- font-obfuscation-only EPUBs open: no rights file, parsable metadata, every entry
(whatever it covers) uses a font obfuscation algorithm ⇒ not refused. -/
theorem drm_obfuscation_only_opens (ms : List DMember)
    (hr : DMember.rights ∉ ms) (hp : DMember.encryption none ∉ ms)
    (ho : ∀ es, DMember.encryption (some es) ∈ ms → ∀ e ∈ es, isFontObfuscation e.algorithm = true) :
    checkForDRM ms = false := by
  cases h : checkForDRM ms with
  | false => rfl
  | true =>
    rcases (drm_decision ms).1 h with h1 | h1 | ⟨es, hm, e, he, h1, _⟩
    · exact absurd h1 hr
    · exact absurd h1 hp
    · rw [ho es hm e he] at h1; cases h1

/-- the two font obfuscation schemes are recognised -/
theorem drm_obfuscation_schemes :
    isFontObfuscation algoIdpf = true ∧ isFontObfuscation algoAdobe = true := by decide +kernel

/-- `"http://www.w3.org/2001/04/xmlenc#aes256-cbc"` -/
def aes256 : Str := [104, 116, 116, 112, 58, 47, 47, 119, 119, 119, 46, 119, 51, 46, 111, 114, 103, 47, 50, 48, 48, 49, 47, 48, 52, 47, 120, 109, 108, 101, 110, 99, 35, 97, 101, 115, 50, 53, 54, 45, 99, 98, 99]
/-- `"http://www.w3.org/2009/xmlenc11#aes128-gcm"` -/
def aes128gcm : Str := [104, 116, 116, 112, 58, 47, 47, 119, 119, 119, 46, 119, 51, 46, 111, 114, 103, 47, 50, 48, 48, 57, 47, 120, 109, 108, 101, 110, 99, 49, 49, 35, 97, 101, 115, 49, 50, 56, 45, 103, 99, 109]
/-- `"OEBPS/ch1.xhtml"` -/
def uCh1 : Str := [79, 69, 66, 80, 83, 47, 99, 104, 49, 46, 120, 104, 116, 109, 108]
/-- `"OEBPS/CH1.XHTML"` -/
def uCh1Upper : Str := [79, 69, 66, 80, 83, 47, 67, 72, 49, 46, 88, 72, 84, 77, 76]
/-- `"OEBPS/fonts/f.otf"` -/
def uFont : Str := [79, 69, 66, 80, 83, 47, 102, 111, 110, 116, 115, 47, 102, 46, 111, 116, 102]

/-- … two ciphers and the empty algorithm string are not -/
theorem drm_ciphers_not_obfuscation :
    isFontObfuscation aes256 = false ∧ isFontObfuscation aes128gcm = false ∧ isFontObfuscation [] = false := by
  decide +kernel

example : DMember.rights ∉ [DMember.other, .encryption (some [⟨algoIdpf, uCh1⟩])] := by
  intro h; simp at h

example : checkForDRM [.other, .encryption (some [⟨algoIdpf, uFont⟩, ⟨algoAdobe, uCh1⟩])] = false := by decide +kernel
example : checkForDRM [.encryption (some [⟨algoIdpf, uFont⟩, ⟨aes256, uCh1Upper⟩])] = true := by decide +kernel
example : checkForDRM [.encryption (some [⟨aes256, uFont⟩])] = false := by decide +kernel

/-- the decision does not depend on where in the archive the rights / encryption
members are -/
theorem drm_member_order_independent (ms ms' : List DMember) (hp : ms.Perm ms') :
    checkForDRM ms = checkForDRM ms' := by
  rw [checkForDRM_eq_any, checkForDRM_eq_any]
  exact hp.any_eq

/-- … nor on the order of the entries inside encryption.xml -/
theorem drm_entry_order_independent (es es' : List Entry) (hp : es.Perm es') (a b : List DMember) :
    checkForDRM (a ++ .encryption (some es) :: b) = checkForDRM (a ++ .encryption (some es') :: b) := by
  simp only [checkForDRM_eq_any, List.any_append, List.any_cons, memberBad, hasEncryptedContent_perm hp]

/-- the same entries, entry by entry, up to the letter case of the URIs -/
inductive SameUpToCase : List Entry → List Entry → Prop
  | nil : SameUpToCase [] []
  | cons {e e' : Entry} {es es' : List Entry} : e.algorithm = e'.algorithm → lower e.uri = lower e'.uri →
      SameUpToCase es es' → SameUpToCase (e :: es) (e' :: es')

/-- … nor on the letter case of the URIs -/
theorem drm_uri_case_independent (es es' : List Entry) (h : SameUpToCase es es')
    (a b : List DMember) :
    checkForDRM (a ++ .encryption (some es) :: b) = checkForDRM (a ++ .encryption (some es') :: b) := by
  have : hasEncryptedContent es = hasEncryptedContent es' := by
    rw [hasEncryptedContent_eq_any, hasEncryptedContent_eq_any]
    induction h with
    | nil => rfl
    | cons ha hu _ ih =>
      rw [List.any_cons, List.any_cons, ih]
      unfold entryBad
      rw [ha, isContentFile_case hu]
  simp only [checkForDRM_eq_any, List.any_append, List.any_cons, memberBad, this]

example : SameUpToCase [⟨aes256, uCh1⟩] [⟨aes256, uCh1Upper⟩] :=
  .cons rfl (by decide) .nil

end Tabula.C20
