import TabulaModel.Model.MarkdownDoc
/-!
# C15 — call histories on one reader

The Markdown entry points of the DOCX, ODT, PPTX, XLSX readers and of `rag.ChunkCollection` do
not write to their receiver (`listCounters`, `inList`, … are locals of each call): in the model
they are functions of the reader's contents and the options of the call, so a rendering cannot
depend on earlier calls.  The HTML reader is the one with state between calls — the cache of
element lists per navigation mode (`getElements`) — and this file proves that the cache is
transparent: in every history of Markdown calls, each rendering is what a fresh reader gives for
that call's own options.
-/
namespace Tabula.C15Hist
open Tabula.A1 (Str)
open Tabula.MarkdownDoc

/-- the reader's elements are those of mode 0 and every cache entry is the extraction of its mode -/
def CacheOK (extract : Int → List HElem) (r : HReader) : Prop :=
  r.elements = extract 0 ∧ ∀ m els, cacheGet? r.cache m = some els → els = extract m

theorem cacheGet?_cons (c : List (Int × List HElem)) (m k : Int) (v : List HElem) :
    cacheGet? ((k, v) :: c) m = if k = m then some v else cacheGet? c m := by
  unfold cacheGet?
  by_cases h : k = m
  · simp [List.find?, h]
  · have : (k == m) = false := by simpa using h
    simp [List.find?, this, h]

/-- `getElements` returns the extraction of the mode and keeps the cache sound -/
theorem getElements_spec (extract : Int → List HElem) (r : HReader) (m : Int) (h : CacheOK extract r) :
    (getElements extract r m).1 = extract m ∧ CacheOK extract (getElements extract r m).2 := by
  unfold getElements
  by_cases hm : m = 0
  · subst hm
    simp only [if_true]
    exact ⟨h.1, h⟩
  · simp only [hm, if_false]
    cases hc : cacheGet? r.cache m with
    | some els => exact ⟨h.2 m els hc, h⟩
    | none =>
      refine ⟨rfl, h.1, ?_⟩
      intro k els hk
      simp only [cacheGet?_cons] at hk
      by_cases hkm : m = k
      · subst hkm
        simp only [if_true, Option.some.injEq] at hk
        exact hk.symm
      · simp only [hkm, if_false] at hk
        exact h.2 k els hk

/-- a freshly opened reader -/
def openReader (extract : Int → List HElem) : HReader := { elements := extract 0 }

theorem openReader_ok (extract : Int → List HElem) : CacheOK extract (openReader extract) := by
  refine ⟨rfl, ?_⟩
  intro m els h
  simp [openReader, cacheGet?] at h

/-- **history independence (HTML)**: on one reader, whatever Markdown calls were made before (any
number, any modes, any options), every call returns what the call's own options determine: the
rendering of the elements of its own mode under its own options. -/
theorem html_history_independent (ext : Ext) (m : HMeta) (extract : Int → List HElem) (calls : List HCall) :
    ∀ (r : HReader), CacheOK extract r →
      hRun ext m extract r calls = calls.map fun c => c.render ext m (extract c.mode) := by
  induction calls with
  | nil => intro r _; rfl
  | cons c cs ih =>
    intro r hr
    obtain ⟨h1, h2⟩ := getElements_spec extract r c.mode hr
    simp only [hRun, List.map_cons]
    have e1 : (hCall ext m extract r c).1 = c.render ext m (extract c.mode) := by
      simp only [hCall]; rw [h1]
    have e2 : (hCall ext m extract r c).2 = (getElements extract r c.mode).2 := rfl
    rw [e1, e2, ih _ h2]

/-- the same from a fresh reader: the k-th rendering of any history equals the one-call history -/
theorem html_history_fresh (ext : Ext) (m : HMeta) (extract : Int → List HElem) (calls : List HCall) :
    hRun ext m extract (openReader extract) calls
      = calls.map fun c => (hCall ext m extract (openReader extract) c).1 := by
  rw [html_history_independent ext m extract calls _ (openReader_ok extract)]
  apply List.map_congr_left
  intro c _
  have := (getElements_spec extract (openReader extract) c.mode (openReader_ok extract)).1
  simp only [hCall]
  rw [this]

/-- a repeated call returns the same string (the options are the same) even when other modes were
asked in between -/
theorem html_repeat_same (ext : Ext) (m : HMeta) (extract : Int → List HElem) (c : HCall) (between : List HCall) :
    (hRun ext m extract (openReader extract) (c :: between ++ [c])).head?
      = (hRun ext m extract (openReader extract) (c :: between ++ [c])).getLast? := by
  rw [html_history_independent ext m extract _ _ (openReader_ok extract)]
  have : c :: between ++ [c] = (c :: between) ++ [c] := rfl
  rw [this, List.map_append, List.getLast?_append]
  simp

example : hRun ⟨id, id⟩ {} (fun m => if m = 0 then [.para [97], .para [98]] else [.para [98]])
    (openReader fun m => if m = 0 then [.para [97], .para [98]] else [.para [98]])
    [.withOptions 2, .markdown, .withOptions 0, .withOptions 2]
    = [[98], [98], [97, 10, 10, 98], [98]] := by decide +kernel

end Tabula.C15Hist
