import TabulaModel.Lemmas.PdfCoreProgress
import TabulaModel.Lemmas.PdfCSProgress
import TabulaModel.Lemmas.PdfLexPos
/-!
# C06 — progress: every call of the lexer and of both parsers consumes input or fails

For EVERY byte string (legal spelling or not; no hypothesis on the input):

* `core.(*Lexer).NextToken` leaves a suffix of what it was given, strictly shorter unless the token
  is the end of input; white space in front and the token's own bytes tile what was consumed;
  `Token.Pos` strictly increases, `Token.SkippedBytes` is exactly the white space in front
  (`Model/LexPos.lean`, op `c06.lexp`).
* `core.(*Parser).ParseObject` (and `parseArray`, `parseDict`) strictly decrease what is left to parse
  (unread bytes + tokens in the two-token window), so a run of `ParseObject` calls ends, with at
  most one object per input byte.
* `contentstream.(*Parser).parseOperand` leaves a strictly shorter suffix (op `c06.operand`), so
  `Parse` ends, with at most one operator or operand per byte.
* The models are written with fuel / loop bounds (Lean needs structural recursion).  None of them is
  ever reached: every result is the same for all larger bounds, the "out of fuel" arms of
  `coreParseAll`, `windowTrace`, `lexTokens` are dead code.  So an `err` of the model is never an
  artefact of the model's bounds, and the theorems of `Props/C06.lean` speak about the un-fuelled
  programs.

Helper lemmas: `Lemmas/PdfLexProgress.lean`, `PdfCoreProgress.lean`, `PdfCSProgress.lean`,
`PdfLexPos.lean`.
-/
namespace Tabula.C06Progress
open Tabula.Pdf

/-- `NextToken`, every input: the unread input afterwards is a suffix of the input; a token other than
the end of input consumed at least one byte; the end of input is reported only when nothing but white
space was left, and then everything is consumed. -/
theorem lexer_progress (inp : Str) (t : Token) (r : Str) (h : nextToken inp = some (t, r)) :
    r <:+ inp ∧ (t ≠ .eof → r.length < inp.length) ∧ (t = .eof → r = [] ∧ skipWs inp = []) :=
  Prog.nextToken_progress inp t r h

example : nextToken [32, 47, 65, 40] = some (.name [65], [40]) := by decide

/-- … and no byte is lost: the input is the white space in front (`SkippedBytes`), the token's own
bytes (non-empty unless it is the end of input), and the unread rest. -/
theorem lexer_tiles_input (inp : Str) (t : Token) (r : Str) (h : nextToken inp = some (t, r)) :
    ∃ lexeme, inp = inp.takeWhile isWs ++ lexeme ++ r ∧ (t ≠ .eof → lexeme ≠ []) := by
  obtain ⟨lx, h1, _, _, hne⟩ := Prog.nextToken_spec h
  exact ⟨lx, h1, fun ht => by obtain ⟨b, lx', rfl, _⟩ := hne ht; exact List.cons_ne_nil _ _⟩

/-- The loop of `lexTokens` (`NextToken` until `TokenEOF` or an error) never reaches its bound. -/
theorem lexer_run_terminates (inp : Str) : (lexTokens inp).2 = .eof ∨ (lexTokens inp).2 = .err := by
  have := (Pos.lexTokens_run inp).ends.1
  cases h : (lexTokens inp).2 with
  | eof => exact Or.inl rfl
  | err => exact Or.inr rfl
  | fuel => exact absurd h this

/-- `Token.Pos` strictly increases from token to token (the `TokenEOF` token included). -/
theorem token_positions_increase (inp : Str) :
    List.Pairwise (fun a b : PosTok => a.pos < b.pos) (lexTokens inp).1 :=
  ((Pos.lexTokens_run inp).sound [] rfl).2

/-- Every reported position lies inside the input; `SkippedBytes` is all white space and is exactly
what stands in the input in front of `Pos`; a token other than `TokenEOF` starts on a non-white
byte; `TokenEOF` is reported at the end of the input. -/
theorem token_positions_sound (inp : Str) : ∀ p ∈ (lexTokens inp).1,
    p.pos ≤ inp.length ∧ p.skipped.length ≤ p.pos ∧
    (inp.drop (p.pos - p.skipped.length)).take p.skipped.length = p.skipped ∧
    (∀ c ∈ p.skipped, isWs c = true) ∧
    (p.tok ≠ .eof → ∃ c, inp[p.pos]? = some c ∧ isWs c = false) ∧
    (p.tok = .eof → p.pos = inp.length) :=
  fun p hp => (((Pos.lexTokens_run inp).sound [] rfl).1 p hp).1

/-- A run ends with `TokenEOF` as its last token, or with an error and no `TokenEOF` at all. -/
theorem token_run_end (inp : Str) :
    ((lexTokens inp).2 = .eof → ∃ l p, (lexTokens inp).1 = l ++ [p] ∧ p.tok = .eof ∧ ∀ q ∈ l, q.tok ≠ .eof) ∧
    ((lexTokens inp).2 = .err → ∀ q ∈ (lexTokens inp).1, q.tok ≠ .eof) := by
  have h := (Pos.lexTokens_run inp).ends
  exact ⟨h.2.1, fun he => h.2.2 (by rw [he]; decide)⟩

/-- The loop bound of the lexer run is irrelevant. -/
theorem token_run_bound_irrelevant (inp : Str) (m : Nat) (h : inp.length + 1 ≤ m) :
    lexAllP m 0 inp [] = lexTokens inp := by
  obtain ⟨ts, e, _, heq⟩ := Pos.lexAllP_run inp 0
  rw [lexTokens, heq m [] h, heq _ [] (Nat.le_refl _)]

example : ([32, 49] : Str).length + 1 ≤ 7 := by decide

/-- The comment-dropping loop of `(*Parser).nextToken` (`lexSkip`): with any fuel above the length of
the input the result is the same — a comment consumes at least its `%`. -/
theorem comment_skipping_fuel_irrelevant (inp : Str) (f : Nat) (h : inp.length + 1 ≤ f) :
    lexSkip f inp = lexSkip (inp.length + 1) inp :=
  Prog.lexSkip_eq_tok inp f h

/-- What the parser's `nextToken` obtains from the lexer is never a comment, leaves a suffix, and
consumed a byte unless it is the end of input. -/
theorem parser_token_progress (f : Nat) (inp : Str) (t : Token) (r : Str) (h : lexSkip f inp = some (t, r)) :
    r <:+ inp ∧ (t ≠ .eof → r.length < inp.length) ∧ (t = .eof → r = []) ∧ (∀ v, t ≠ .comment v) :=
  Prog.lexSkip_progress f inp t r h

example : lexSkip 5 [37, 65, 10, 91] = some (.arrStart, []) := by decide

/-- what is left to parse in a parser state: the unread bytes plus the (at most two) tokens in the
window that are not `TokenEOF` -/
abbrev measure (s : PState) : Nat := Prog.measure s

theorem measure_def (s : PState) :
    measure s = s.inp.length + Prog.weight s.cur + Prog.weight s.peek := rfl

/-- `(*Parser).nextToken` never increases the measure, and pays for the token it drops. -/
theorem next_token_measure (s : PState) : measure s.next + Prog.weight s.cur ≤ measure s :=
  Prog.next_measure s

/-- **Progress of `ParseObject`, `parseArray`, `parseDict`**: from ANY parser state, with any fuel and
any nesting depth, a successful call strictly decreases the measure. -/
theorem parser_progress (f d : Nat) (s : PState) :
    (∀ o s', parseObject f d s = .ok (o, s') → measure s' < measure s) ∧
    (∀ acc o s', parseArray f d s acc = .ok (o, s') → measure s' < measure s) ∧
    (∀ acc o s', parseDict f d s acc = .ok (o, s') → measure s' < measure s) :=
  ⟨fun o s' h => (Prog.parse_progress f).1 d s o s' h,
   fun acc o s' h => (Prog.parse_progress f).2.1 d s acc o s' h,
   fun acc o s' h => (Prog.parse_progress f).2.2 d s acc o s' h⟩

/-- **The fuel of the parser model is never the reason for an error**: any two amounts of fuel above
`2·measure + 1` (objects) / `2·measure + 2` (the container loops) give the same result. -/
theorem parser_fuel_irrelevant (f1 f2 d : Nat) (s : PState) :
    (2 * measure s + 1 ≤ f1 → 2 * measure s + 1 ≤ f2 → parseObject f1 d s = parseObject f2 d s) ∧
    (∀ acc, 2 * measure s + 2 ≤ f1 → 2 * measure s + 2 ≤ f2 → parseArray f1 d s acc = parseArray f2 d s acc) ∧
    (∀ acc, 2 * measure s + 2 ≤ f1 → 2 * measure s + 2 ≤ f2 → parseDict f1 d s acc = parseDict f2 d s acc) :=
  ⟨fun h1 h2 => (Prog.fuel_stable f1).1 f2 d s h1 h2,
   fun acc h1 h2 => (Prog.fuel_stable f1).2.1 f2 d s acc h1 h2,
   fun acc h1 h2 => (Prog.fuel_stable f1).2.2 f2 d s acc h1 h2⟩

example : 2 * measure (newParser [91, 49, 93]) + 1 ≤ 7 := by decide

/-- After `NewParser` the measure is at most the length of the input … -/
theorem new_parser_measure (inp : Str) : measure (newParser inp) ≤ inp.length :=
  Prog.measure_newParser inp

/-- … so `core.NewParser(r).ParseObject()` is computed by the model with ANY fuel above
`2·length + 1`; `coreParse` (fuel `4·length + 8`) is one of them. -/
theorem coreParse_fuel_irrelevant (inp : Str) (f : Nat) (h : 2 * inp.length + 1 ≤ f) :
    parseObject f 0 (newParser inp) = coreParse inp :=
  Prog.coreParse_fuel_irrelevant inp f h

example : 2 * ([60, 60, 62, 62] : Str).length + 1 ≤ 9 := by decide

/-- **A run of `ParseObject` calls terminates**: from any state, with any per-call fuel, the run ends
with an error or the end of input before `measure + 1` calls. -/
theorem parse_sequence_terminates (F n : Nat) (s : PState) (acc : List Obj) (h : measure s < n) :
    ∃ os e, Prog.parseSeq F n s acc = (os, some e) :=
  Prog.parseSeq_terminates F n s acc h

example : measure (newParser [49, 32, 50]) < 4 := by decide

/-- `coreParseAll` (what the op `c06.obj` computes) never takes its "bound reached" arm … -/
theorem coreParseAll_terminates (inp : Str) :
    ∃ os e, coreParseAll.go inp (inp.length + 2) (newParser inp) [] = (os, some e) :=
  Prog.coreParseAll_never_out_of_fuel inp

/-- … it is the un-fuelled run: larger bounds give the same objects and the same end … -/
theorem coreParseAll_bounds_irrelevant (inp : Str) (F n : Nat) (hF : fuelFor inp ≤ F) (hn : inp.length + 2 ≤ n) :
    Prog.parseSeq F n (newParser inp) [] = coreParseAll.go inp (inp.length + 2) (newParser inp) [] :=
  Prog.coreParseAll_stable inp F n hF hn

example : fuelFor [49] ≤ 100 ∧ ([49] : Str).length + 2 ≤ 50 := by decide

/-- … and it returns at most one object per input byte. -/
theorem object_count_bounded (inp : Str) : (coreParseAll inp).1.length ≤ inp.length :=
  Prog.coreParseAll_count inp

/-- The window trace (op `c06.win`) never takes its "bound reached" arm either. -/
theorem windowTrace_terminates (inp : Str) : ∃ e, (windowTrace inp).2 = some e :=
  Prog.windowTrace_never_out_of_fuel inp

/-- **Progress of `parseOperand`, `parseArray`, `parseDict`**: a successful operand read leaves a
strictly shorter suffix of the data; the container loops leave a suffix. -/
theorem cs_progress (f d : Nat) (inp : Str) :
    (∀ o r, CS.parseOperand f d inp = some (o, r) → r <:+ inp ∧ r.length < inp.length) ∧
    (∀ acc o r, CS.parseArray f d inp acc = some (o, r) → r <:+ inp) ∧
    (∀ acc o r, CS.parseDict f d inp acc = some (o, r) → r <:+ inp) :=
  ⟨fun o r h => (Prog.cs_progress f).1 d inp o r h,
   fun acc o r h => (Prog.cs_progress f).2.1 d inp acc o r h,
   fun acc o r h => (Prog.cs_progress f).2.2 d inp acc o r h⟩

example : ∃ p, CS.parseOperand 3 0 [47, 65, 32, 49] = some p := Option.isSome_iff_exists.1 (by decide +kernel)

/-- **The fuel of the content-stream model is never the reason for a failure.** -/
theorem cs_fuel_irrelevant (f1 f2 d : Nat) (inp : Str) :
    (2 * inp.length + 1 ≤ f1 → 2 * inp.length + 1 ≤ f2 → CS.parseOperand f1 d inp = CS.parseOperand f2 d inp) ∧
    (∀ acc, 2 * inp.length + 2 ≤ f1 → 2 * inp.length + 2 ≤ f2 → CS.parseArray f1 d inp acc = CS.parseArray f2 d inp acc) ∧
    (∀ acc, 2 * inp.length + 2 ≤ f1 → 2 * inp.length + 2 ≤ f2 → CS.parseDict f1 d inp acc = CS.parseDict f2 d inp acc) :=
  ⟨fun h1 h2 => (Prog.cs_fuel_stable f1).1 f2 d inp h1 h2,
   fun acc h1 h2 => (Prog.cs_fuel_stable f1).2.1 f2 d inp acc h1 h2,
   fun acc h1 h2 => (Prog.cs_fuel_stable f1).2.2 f2 d inp acc h1 h2⟩

example : 2 * ([91, 93] : Str).length + 1 ≤ 5 := by decide

/-- `contentstream.NewParser(b).Parse()` is computed by the model with ANY loop bound above
`length + 2` and any operand fuel above `4·length + 8`: the loop of `Parse` ends because every
operator and every operand consumes a byte. -/
theorem csParse_bounds_irrelevant (inp : Str) (n F : Nat) (hn : inp.length + 2 ≤ n) (hF : CS.fuelFor inp ≤ F) :
    CS.parseLoop n F inp [] [] = CS.csParse inp :=
  Prog.csParse_stable inp n F hn hF

example : ([113] : Str).length + 2 ≤ 3 ∧ CS.fuelFor [113] ≤ 12 := by decide

/-- One byte at least per operator and per operand: the operations of a parsed stream, counted with
their operands, are at most as many as the bytes of the stream. -/
theorem cs_operation_count_bounded (inp : Str) (res : List CS.Operation) (h : CS.csParse inp = some res) :
    (res.map (fun o => 1 + o.operands.length)).sum ≤ inp.length :=
  Prog.csParse_count inp res h

example : ∃ res, CS.csParse [49, 32, 119] = some res := Option.isSome_iff_exists.1 (by decide +kernel)

/-- `p.pos` after one successful `parseOperand` call (op `c06.operand`) is positive and inside the data. -/
theorem cs_operand_position (inp : Str) (o : Obj) (pos : Nat) (h : csOperandAt inp = some (o, pos)) :
    0 < pos ∧ pos ≤ inp.length :=
  Prog.csOperandAt_pos inp o pos h

example : ∃ p, csOperandAt [40, 65, 41, 84] = some p := Option.isSome_iff_exists.1 (by decide +kernel)

end Tabula.C06Progress
