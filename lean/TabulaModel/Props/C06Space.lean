import TabulaModel.Lemmas.PdfSpace
import TabulaModel.Lemmas.PdfCSProgress
import TabulaModel.Lemmas.PdfErrors
/-!
# C06 — white space and comments, every input

`Props/C06.lean` proves that every LEGAL spelling (any mix of the six white-space bytes and `%…EOL`
comments with CR / LF / CR LF between tokens) reads back.  Here, for EVERY input, legal or not:

* the document-level parser sees the input only through its first non-comment token and what follows it,
  and the content-stream parser only through what `skipSpace` leaves — so white space and whole comments in
  front of ANY bytes change neither a single `ParseObject`, nor a whole run of `ParseObject` calls, nor
  `parseOperand`, nor `Parse` (results AND errors);
* both parsers skip the same bytes: the first token the document-level lexer finds is the token that starts
  at the byte `contentstream.skipSpace` stops at — a comment ends at the same place for both (the
  document-level lexer consumes the end-of-line marker, `skipSpace` leaves it to the white space after it);
* between complete tokens the same holds at every token boundary the parser reaches
  (`anywhere_between_tokens`).

The input-length-dependent fuel of the models is eliminated with the progress theorems
(`Props/C06Progress.lean`).  Helper lemmas: `Lemmas/PdfSpace.lean`, `Lemmas/PdfLexProgress.lean`.
-/
namespace Tabula.C06Space
open Tabula.Pdf

/-- the first token of the input that is not a comment, and the bytes behind it (what `(*Parser).nextToken`
gets from the lexer) -/
abbrev tok (inp : Str) : Option (Token × Str) := Prog.tok inp

/-- **One view of the separators for both parsers, every input.**  If `contentstream.skipSpace` reaches the
end of the data, the document-level lexer reports the end of input; if it stops at the byte `c`, the first
non-comment token of the document-level lexer is the token that starts at that very byte. -/
theorem same_first_token (inp : Str) :
    (CS.skipSpace inp = [] → tok inp = some (.eof, [])) ∧
    (∀ c x, CS.skipSpace inp = c :: x → tok inp = Tok.dispatch c x ∧ isWs c = false ∧ c ≠ 37) :=
  ⟨(Prog.tok_of_skipSpace inp).1,
   fun c x h => ⟨(Prog.tok_of_skipSpace inp).2 c x h, Prog.skipSpace_head inp c x h⟩⟩

/-- a comment ends at the same place for both parsers, whatever the end-of-line marker (or none) -/
theorem comment_ends_alike (r : Str) : CS.skipSpace (CS.skipLine r) = CS.skipSpace (commentBody r).2 := by
  obtain ⟨e, he, h⟩ := Prog.skipLine_eq r
  rw [h, Prog.skipSpace_allWs e _ he]

/-- `skipSpace` is idempotent (`parseNext`, `parseOperand`, the container loops all call it again) -/
theorem skipSpace_idempotent (inp : Str) : CS.skipSpace (CS.skipSpace inp) = CS.skipSpace inp :=
  Prog.skipSpace_idem inp

/-- white space in front of any bytes is invisible to the parser's lexer -/
theorem tok_white_space (w rest : Str) (h : AllWs w) : tok (w ++ rest) = tok rest :=
  Prog.tok_ws w rest h

/-- a comment — `%`, any bytes but CR and LF, then CR, LF or CR LF — in front of any bytes is invisible too -/
theorem tok_comment (t e rest : Str) (ht : ∀ c ∈ t, c ≠ 10 ∧ c ≠ 13) (he : e = [10] ∨ e = [13] ∨ e = [13, 10]) :
    tok (37 :: (t ++ e) ++ rest) = tok rest := by
  show Prog.tok _ = Prog.tok _
  rw [Prog.tok, List.length_append, List.length_cons, Tok.lexSkip_after_comment _ t e rest ht he]
  exact Prog.lexSkip_eq_tok rest _ (by omega)

example : AllWs [0, 9, 10, 12, 13, 32] := by
  unfold AllWs
  decide
example : ∀ c ∈ [37, 40, 60], c ≠ 10 ∧ c ≠ 13 := by decide

/-- a comment that runs to the end of the input is followed by the end of input -/
theorem tok_comment_at_end (t : Str) (ht : ∀ c ∈ t, c ≠ 10 ∧ c ≠ 13) : tok (37 :: t) = some (.eof, []) := by
  have hb : (commentBody t).2 = [] := by
    rw [Gram.commentBody_rest, ← List.append_nil t, Gram.dropWhile_text t [] ht]
    rfl
  show Prog.tok _ = _
  rw [Prog.tok_percent, hb]
  rfl

/-- **One `ParseObject` call depends on the input only through its first token and what follows it** — value,
state afterwards, or error alike. -/
theorem coreParse_congr (x y : Str) (h : tok x = tok y) : coreParse x = coreParse y :=
  Space.coreParse_congr x y h

/-- … and so does a whole run of `ParseObject` calls (all objects, and whether the run ends with `io.EOF` or
an error). -/
theorem coreParseAll_congr (x y : Str) (h : tok x = tok y) : coreParseAll x = coreParseAll y :=
  Space.coreParseAll_congr x y h

example : tok [32, 37, 65, 13, 10, 91, 93] = tok [91, 93] := by decide

/-- **Leading white space changes nothing, every input.** -/
theorem leading_white_space (w inp : Str) (h : AllWs w) :
    coreParse (w ++ inp) = coreParse inp ∧ coreParseAll (w ++ inp) = coreParseAll inp :=
  ⟨coreParse_congr _ _ (tok_white_space w inp h), coreParseAll_congr _ _ (tok_white_space w inp h)⟩

/-- **A leading comment changes nothing, every input** (any comment text, any of the three end-of-line
markers). -/
theorem leading_comment (t e inp : Str) (ht : ∀ c ∈ t, c ≠ 10 ∧ c ≠ 13) (he : e = [10] ∨ e = [13] ∨ e = [13, 10]) :
    coreParse (37 :: (t ++ e) ++ inp) = coreParse inp ∧ coreParseAll (37 :: (t ++ e) ++ inp) = coreParseAll inp :=
  ⟨coreParse_congr _ _ (tok_comment t e inp ht he), coreParseAll_congr _ _ (tok_comment t e inp ht he)⟩

/-- **Anywhere between tokens**: at every token boundary `y` a successful `ParseObject` / `parseArray` /
`parseDict` call reaches (`Props/C06Errors.lean`, landing), the parser's state is the window over `y`, and
that window is the same for every `y'` with the same first token and rest — in particular for `y` with white
space or a comment put in front. -/
theorem anywhere_between_tokens (f d : Nat) (x : Str) (o : Obj) (s' : PState)
    (h : parseObject f d (stateAt x) = .ok (o, s')) :
    ∃ y, Errs.Reach x y ∧ s' = stateAt y ∧
      ∀ y' t r, tok y = some (t, r) → tok y' = some (t, r) → s' = stateAt y' := by
  obtain ⟨y, hy, hr⟩ := (Errs.land f).1 d x o s' h
  refine ⟨y, hr, hy, ?_⟩
  intro y' t r h1 h2
  rw [hy]
  exact Prog.stateAt_congr y y' t r h1 h2

example : (parseObject 3 0 (stateAt [47, 65, 32, 49])).toOption.isSome = true := by decide +kernel

/-- `skipSpace` skips white space … -/
theorem skipSpace_white_space (w rest : Str) (h : AllWs w) : CS.skipSpace (w ++ rest) = CS.skipSpace rest :=
  Prog.skipSpace_allWs w rest h

/-- … and whole comments with any end-of-line marker. -/
theorem skipSpace_comment (t e rest : Str) (ht : ∀ c ∈ t, c ≠ 10 ∧ c ≠ 13)
    (he : e = [10] ∨ e = [13] ∨ e = [13, 10]) :
    CS.skipSpace (37 :: (t ++ e) ++ rest) = CS.skipSpace rest :=
  Prog.skipSpace_comment_line t e rest ht he

/-- **`parseOperand` and `Parse` depend on the data only through what `skipSpace` leaves of it.** -/
theorem cs_congr (x y : Str) (h : CS.skipSpace x = CS.skipSpace y) :
    (∀ f d, CS.parseOperand f d x = CS.parseOperand f d y) ∧ CS.csParse x = CS.csParse y := by
  refine ⟨Prog.parseOperand_congr h, ?_⟩
  rw [← Prog.csParse_stable x (x.length + y.length + 2) (CS.fuelFor x + CS.fuelFor y) (by omega) (by omega),
      ← Prog.csParse_stable y (x.length + y.length + 2) (CS.fuelFor x + CS.fuelFor y) (by omega) (by omega),
      show x.length + y.length + 2 = (x.length + y.length + 1) + 1 from rfl, CS.parseLoop, CS.parseLoop, h]

/-- **Leading white space and leading comments change nothing for the content-stream parser, every input.** -/
theorem cs_leading_separators (w t e inp : Str) (hw : AllWs w) (ht : ∀ c ∈ t, c ≠ 10 ∧ c ≠ 13)
    (he : e = [10] ∨ e = [13] ∨ e = [13, 10]) :
    CS.csParse (w ++ inp) = CS.csParse inp ∧ CS.csParse (37 :: (t ++ e) ++ inp) = CS.csParse inp ∧
    (∀ f d, CS.parseOperand f d (w ++ inp) = CS.parseOperand f d inp) ∧
    (∀ f d, CS.parseOperand f d (37 :: (t ++ e) ++ inp) = CS.parseOperand f d inp) :=
  ⟨(cs_congr _ _ (skipSpace_white_space w inp hw)).2, (cs_congr _ _ (skipSpace_comment t e inp ht he)).2,
   (cs_congr _ _ (skipSpace_white_space w inp hw)).1, (cs_congr _ _ (skipSpace_comment t e inp ht he)).1⟩

end Tabula.C06Space
