import TabulaModel.Lemmas.PdfErrors
/-!
# C06 — the token readers at full strength: every input

`Props/C06.lean` proves that every LEGAL spelling of a hex string, a name, a literal string and a comment reads
back.  Here the readers of both parsers are characterised for EVERY input — which inputs they accept, what they
return, where they stop — so that the differences between the two parsers are stated exactly, as differences in
what is ACCEPTED, never in the value of something both accept:

* hex strings: `readHexString` accepts exactly `body >` with a body of white space and hex digits — any number
  of digits, odd included; the value is ⌈n/2⌉ bytes, a missing last digit is 0.  `contentstream.parseHexString`
  accepts the same inputs with the same value, and in addition a body that runs to the end of the data;
* names: both readers consume exactly the run of regular characters; without `#` the name is the run itself;
  `readName` fails when a `#` is not followed by two hex digits, `parseName` then keeps the `#` — never two
  different names for one input both accept;
* comments: the text is everything up to the first CR or LF, and exactly one end-of-line marker (CR LF, CR or
  LF) is consumed; the content-stream parser stops in front of the marker (and treats it as white space);
* literal strings: the reader stops right behind a `)` of the input (and both parsers use the same function:
  `parsers_agree_literal_strings`);
* the keyword `stream` stops the parser's lookahead: nothing behind it is tokenized (the C06 half of the
  interplay with `parseStream` / `/Length`, whose other half is `Props/C04Bytes.lean`).

Helper lemmas: `Lemmas/PdfHex.lean`, `Lemmas/PdfLexGrammar.lean`, `Lemmas/PdfErrors.lean`.
-/
namespace Tabula.C06Lexer
open Tabula.Pdf

/-- the body of a hex string: white space and hex digits only -/
abbrev HexBody (body : Str) : Prop := Gram.HexBody body
/-- the digits of a body, white space dropped -/
abbrev hexDigitsOf (body : Str) : Str := Gram.hexDigitsOf body

/-- **`readHexString`, every input**: it succeeds exactly on `body >`, returns the digits of the body in order,
and leaves what follows the `>`. -/
theorem hex_reader_iff (inp ds r : Str) :
    hexLoop inp = some (ds, r) ↔ ∃ body, inp = body ++ 62 :: r ∧ HexBody body ∧ ds = hexDigitsOf body :=
  Gram.hexLoop_iff inp ds r

example : HexBody [52, 32, 49, 10, 70] := by
  unfold HexBody Gram.HexBody
  decide

/-- **The value of a hex string**: ⌈n/2⌉ bytes; byte `i` is 16·digit(2i) + digit(2i+1), a missing last digit
counts as 0 (ISO 32000-1 7.3.4.3). -/
theorem hex_value (ds : Str) :
    (hexPairs ds).length = (ds.length + 1) / 2 ∧
    ∀ i, i < (hexPairs ds).length →
      (hexPairs ds)[i]? = some (hexValue (ds.getD (2 * i) 48) * 16 + hexValue (ds.getD (2 * i + 1) 48)) := by
  induction ds using hexPairs.induct with
  | case1 a b r ih =>
    rw [Gram.hexPairs_cons2]
    refine ⟨by simp only [List.length_cons]; omega, fun i h => ?_⟩
    cases i with
    | zero => simp
    | succ j =>
      simp only [List.length_cons, Nat.add_lt_add_iff_right] at h
      have e1 : 2 * (j + 1) = (2 * j) + 1 + 1 := by omega
      have e2 : 2 * (j + 1) + 1 = (2 * j + 1) + 1 + 1 := by omega
      rw [List.getElem?_cons_succ, ih.2 j h, e2, e1]
      simp only [List.getD_cons_succ]
  | case2 a =>
    rw [Gram.hexPairs_one]
    refine ⟨by simp, fun i h => ?_⟩
    cases i with
    | zero =>
      have : hexValue 48 = 0 := by decide
      simp [this]
    | succ j => simp at h
  | case3 =>
    rw [Gram.hexPairs_nil]
    exact ⟨by simp, fun i h => by simp at h⟩

/-- an odd digit count: the last byte is the lone digit times 16 -/
theorem hex_odd_digit (ds : Str) (d : Nat) (h : ds.length % 2 = 0) :
    hexPairs (ds ++ [d]) = hexPairs ds ++ [hexValue d * 16] := by
  induction ds using hexPairs.induct with
  | case1 a b r ih =>
    simp only [List.length_cons] at h
    rw [List.cons_append, List.cons_append, Gram.hexPairs_cons2, Gram.hexPairs_cons2, ih (by omega)]
    rfl
  | case2 a => simp at h
  | case3 => rw [Gram.hexPairs_nil]; exact Gram.hexPairs_one d

example : ([52, 49, 52, 50] : Str).length % 2 = 0 := by decide

/-- **`contentstream.parseHexString`, every input**: it succeeds exactly on `body >` — with the value the
document-level parser computes from the same body — or on a body that runs to the end of the data without `>`
(which the document-level lexer rejects: `hex_unterminated_rejected`). -/
theorem cs_hex_reader_iff (inp v r : Str) :
    CS.hexLoop inp = some (v, r) ↔
      (∃ body, inp = body ++ 62 :: r ∧ HexBody body ∧ v = hexPairs (hexDigitsOf body)) ∨
      (r = [] ∧ HexBody inp ∧ v = hexPairs (hexDigitsOf inp)) := by
  rw [Gram.cs_hexLoop_eq, Gram.pairsOf_some]
  constructor
  · rintro ⟨ds, h, rfl⟩
    rcases (Gram.hexScan_iff inp ds r).mp h with ⟨body, e, hb, rfl⟩ | ⟨hr, hb, rfl⟩
    · exact Or.inl ⟨body, e, hb, rfl⟩
    · exact Or.inr ⟨hr, hb, rfl⟩
  · rintro (⟨body, e, hb, rfl⟩ | ⟨hr, hb, rfl⟩)
    · exact ⟨Gram.hexDigitsOf body, (Gram.hexScan_iff inp _ r).mpr (Or.inl ⟨body, e, hb, rfl⟩), rfl⟩
    · exact ⟨Gram.hexDigitsOf inp, (Gram.hexScan_iff inp _ r).mpr (Or.inr ⟨hr, hb, rfl⟩), rfl⟩

theorem hex_unterminated_rejected (inp : Str) (h : HexBody inp) : hexLoop inp = none := by
  have := Gram.hexLoop_body inp [] h
  rw [List.append_nil] at this
  rw [this]
  rfl

/-- regular characters: neither white space nor delimiter -/
abbrev isRegular (c : Nat) : Bool := Gram.isRegular c

/-- **Both name readers consume exactly the run of regular characters** — `readName` whenever it succeeds,
`parseName` always. -/
theorem name_readers_consume (inp : Str) :
    (∀ v r, nameLoop inp = some (v, r) → r = inp.dropWhile isRegular ∧ inp = inp.takeWhile isRegular ++ r) ∧
    (CS.nameLoop inp).2 = inp.dropWhile isRegular :=
  ⟨fun v r h => Gram.nameLoop_consumes inp v r h, Gram.cs_nameLoop_rest inp⟩

/-- a run without `#` is the name itself, for both parsers -/
theorem name_without_escape (inp : Str) (h : 35 ∉ inp.takeWhile isRegular) :
    nameLoop inp = some (inp.takeWhile isRegular, inp.dropWhile isRegular) ∧
    CS.nameLoop inp = (inp.takeWhile isRegular, inp.dropWhile isRegular) := by
  suffices h1 : nameLoop inp = some (inp.takeWhile isRegular, inp.dropWhile isRegular) from
    ⟨h1, Gram.name_never_two_values inp _ _ h1⟩
  induction inp with
  | nil => simp [nameLoop]
  | cons c rest ih =>
    rcases Gram.head_cases c with ⟨hterm, hreg⟩ | ⟨hw, hd, hreg⟩
    · rw [Nm.nameLoop_term c rest hterm]
      simp [isRegular, hreg]
    · simp only [isRegular, List.takeWhile_cons, hreg, if_true, List.mem_cons, not_or] at h
      rw [Nm.nameLoop_raw c rest hw hd (fun e => h.1 e.symm), ih h.2]
      simp [isRegular, hreg, pre]

example : 35 ∉ ([84, 121, 112, 101, 32, 47] : Str).takeWhile isRegular := by decide

/-- **Never two names for one input**: whenever `readName` succeeds (every `#` is followed by two hex digits),
`parseName` returns the same bytes and stops at the same place. -/
theorem name_never_two_values (inp v r : Str) (h : nameLoop inp = some (v, r)) : CS.nameLoop inp = (v, r) :=
  Gram.name_never_two_values inp v r h

example : ∃ p, nameLoop [65, 35, 50, 48, 66, 47] = some p := Option.isSome_iff_exists.1 (by decide +kernel)

/-- **`readComment`, every input**: the text is everything up to the first CR or LF (or the end of the input),
and exactly one end-of-line marker — CR LF, CR or LF — is consumed behind it. -/
theorem comment_reader (r : Str) :
    (commentBody r).1 = r.takeWhile (fun c => c != 10 && c != 13) ∧
    (match r.dropWhile (fun c => c != 10 && c != 13) with
      | [] => (commentBody r).2 = []
      | 13 :: 10 :: rest => (commentBody r).2 = rest
      | _ :: rest => (commentBody r).2 = rest) := by
  refine ⟨Gram.commentBody_text r, ?_⟩
  have h := Gram.commentBody_rest r
  have e : (fun c : Nat => c != 10 && c != 13) = Gram.notEol := rfl
  rw [e]
  generalize r.dropWhile Gram.notEol = t at h
  split
  · rw [h]; rfl
  · rw [h]; rfl
  · next x => rw [h, Gram.afterEol]; exact x

/-- the content-stream parser stops in front of the marker (which is white space to it) -/
theorem cs_comment_reader (r : Str) : CS.skipLine r = r.dropWhile (fun c => c != 10 && c != 13) :=
  Gram.cs_skipLine_eq r

/-- **`readString`, every input**: when it succeeds, the unread rest starts right behind a `)` of the input. -/
theorem string_reader_ends_behind_paren (inp : Str) (d : Nat) (v r : Str) (h : strLoop d inp = some (v, r)) :
    ∃ body, inp = body ++ 41 :: r :=
  Gram.strLoop_ends_behind_paren inp d v r h

example : ∃ p, strLoop 1 [40, 92, 41, 41, 65, 41, 66] = some p := Option.isSome_iff_exists.1 (by decide +kernel)

/-- The window on bytes that start with the keyword `stream`: the keyword is current, the lookahead slot is
EMPTY, and the lexer stands exactly behind the keyword — nothing of the stream data has been tokenized. -/
theorem stream_stops_lookahead (y r : Str) (h : Prog.tok y = some (.keyword kwStream, r)) :
    stateAt y = { cur := some (.keyword kwStream), peek := none, inp := r, err := false } := by
  rw [stateAt_def, half_of_lex y _ r h]
  unfold PState.next
  simp only [if_true]

example : Prog.tok [115, 116, 114, 101, 97, 109, 10, 255, 40] = some (.keyword kwStream, [10, 255, 40]) := by
  decide +kernel

/-- **`ParseObject` never consumes `stream`, and stops in front of it with the data untouched**: if after a
successful call the current token is `stream`, the state is exactly the one above for a rest `r` of the input —
the bytes `parseStream` then reads with `SkipStreamEOL` and `ReadBytes(/Length)`. -/
theorem parse_stops_at_stream (f d : Nat) (x : Str) (o : Obj) (s' : PState)
    (h : parseObject f d (stateAt x) = .ok (o, s')) (hc : s'.cur = some (.keyword kwStream)) :
    ∃ y r, Errs.Reach x y ∧ Prog.tok y = some (.keyword kwStream, r) ∧
      s' = { cur := some (.keyword kwStream), peek := none, inp := r, err := false } ∧ r <:+ x := by
  obtain ⟨y, hy, hr⟩ := (Errs.land f).1 d x o s' h
  rw [hy] at hc
  obtain ⟨r, htok⟩ := Prog.cur_token y _ hc (by simp)
  refine ⟨y, r, hr, htok, by rw [hy, stream_stops_lookahead y r htok], ?_⟩
  exact List.IsSuffix.trans (Prog.tok_progress y _ r htok).1 hr.shorter.1

example : ((parseObject 9 0 (stateAt [60, 60, 62, 62, 115, 116, 114, 101, 97, 109, 10, 255])).toOption.map
    (fun p => p.2.cur)) = some (some (.keyword kwStream)) := by decide +kernel

/-- With `stream` current every parse function fails: the keyword is only ever consumed by `parseStream`. -/
theorem stream_is_no_object (f d : Nat) (s : PState) (h : s.cur = some (.keyword kwStream)) :
    parseObject (f + 1) d s = .error .err ∧
    (∀ acc, parseArray (f + 1) d s acc = .error .err) ∧ (∀ acc, parseDict (f + 1) d s acc = .error .err) :=
  Strm.stream_is_no_object f d s h

end Tabula.C06Lexer
