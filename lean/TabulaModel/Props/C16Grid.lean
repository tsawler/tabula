import TabulaModel.Lemmas.VMerge
import TabulaModel.Lemmas.Docx
import TabulaModel.Props.C16
/-!
# C16 — DOCX vertical merges: the row spans, for every table

`processVerticalMerges` keeps two pieces of mutable state (the merge-start row of every
grid column, and the table whose row spans it increments while reading it). The theorems
here replace the loop by a specification that only searches the ORIGINAL table
(`Lemmas/VMerge.lean`): every continuation cell adds one row to at most one cell - the cell
that covers the continuation's start column in the row of the nearest non-continuation cell
above that starts at that very column - and the row span of every cell is what it was plus
the number of continuation cells that point to it.
-/
namespace Tabula.C16Grid
open Tabula.Xml Tabula.Docx

/-- **vmerge_spec**. For every table (any spans, any continuation flags, aligned or not) the
pass is: add one row to each target, in reading order of the continuation cells. -/
theorem vmerge_spec (rows : List (List Cell)) : processVerticalMerges rows = bumpAll rows (targets rows) :=
  processVerticalMerges_spec rows

/-- **vmerge_row_spans**. After the pass the row span of cell `i` of row `r` is its row span
before plus the number of continuation cells whose target it is. -/
theorem vmerge_row_spans (rows : List (List Cell)) (r i : Nat) :
    (cellAt (processVerticalMerges rows) r i).map (·.rowSpan)
      = (cellAt rows r i).map fun c => c.rowSpan + (targets rows).count (r, i) := by
  rw [vmerge_spec, rowSpan_bumpAll]

theorem parseRows_rowSpan (tbl : Node) (r i : Nat) (c : Cell) (h : cellAt (parseRows tbl) r i = some c) : c.rowSpan = 1 := by
  obtain ⟨row, hrow, hc⟩ := cellAt_mem h
  obtain ⟨tc, rfl⟩ := mem_parseRows hrow hc
  rfl

/-- before the vertical-merge pass every cell is one row high, whether `limitTableGrid` has
reset the spans or not -/
theorem limited_rowSpan (tbl : Node) (r i : Nat) (c : Cell)
    (h : cellAt (limitTableGrid (parseRows tbl)) r i = some c) : c.rowSpan = 1 := by
  obtain ⟨row, hrow, hc⟩ := cellAt_mem h
  exact Grid.limit_forall spans (·.rowSpan = 1) (fun _ _ => rfl) _ _
    (fun r0 hr0 c0 hc0 => by obtain ⟨tc, rfl⟩ := mem_parseRows hr0 hc0; rfl) row hrow c hc

/-- **docx_row_spans_any**. In a parsed DOCX table the row span of cell `i` of row `r` is one
plus the number of continuation cells that point to it - for every `w:tbl`; the columns the
continuation cells are matched on are those of the table after `limitTableGrid` (every cell
one column wide when the table is over the grid limit). -/
theorem docx_row_spans_any (tbl : Node) (r i : Nat) :
    (cellAt (parseTable tbl) r i).map (·.rowSpan)
      = (cellAt (limitTableGrid (parseRows tbl)) r i).map fun _ =>
          1 + (targets (limitTableGrid (parseRows tbl))).count (r, i) := by
  unfold parseTable
  rw [vmerge_row_spans]
  cases h : cellAt (limitTableGrid (parseRows tbl)) r i with
  | none => rfl
  | some c =>
    simp only [Option.map_some, Option.some.injEq]
    rw [limited_rowSpan tbl r i c h]

/-- **docx_row_spans**. In a parsed DOCX table the row span of cell `i` of row `r` is one plus
the number of continuation cells that point to it, matched on the authored grid spans (the rows
a merge runs through may be partitioned differently).
RESTATED (was: for every `w:tbl`): holds for every table within the grid limit of
`limitTableGrid` (rows x spanned columns ≤ 2^20, hypothesis `h`); for the others
`docx_row_spans_any` says on which columns the merges are matched. -/
theorem docx_row_spans (tbl : Node) (r i : Nat)
    (h : (parseRows tbl).length * colCount (parseRows tbl) ≤ maxTableGridCells) :
    (cellAt (parseTable tbl) r i).map (·.rowSpan)
      = (cellAt (parseRows tbl) r i).map fun _ => 1 + (targets (parseRows tbl)).count (r, i) := by
  have := docx_row_spans_any tbl r i
  rw [limit_within _ h] at this
  exact this

/-- a cell that no continuation cell points to keeps its row span -/
theorem vmerge_untouched (rows : List (List Cell)) (r i : Nat) (h : (r, i) ∉ targets rows) :
    (cellAt (processVerticalMerges rows) r i).map (·.rowSpan) = (cellAt rows r i).map (·.rowSpan) := by
  rw [vmerge_row_spans, List.count_eq_zero_of_not_mem h]
  simp

/-- **vmerge_target**. What a target is: the cell is a continuation; among the cells met before
it (latest first) the nearest one that is no continuation and starts at the same grid column
(inside the table's width) is in row `sr`; and `i` is the index `findCellAtColumn` gives for
that column in row `sr` of the table as authored. -/
theorem vmerge_target (cc : Nat) (rows : List (List Cell)) (rev : List Ev) (e : Ev) (sr i : Nat)
    (h : targetOf cc rows rev e = some (sr, i)) :
    e.cell.cont = true ∧ lastStart cc rev e.col = some sr ∧ findCellAtColumn (rows.getD sr []) e.col 0 0 = some i := by
  unfold targetOf at h
  by_cases hc : e.cell.cont = true
  · simp only [hc, if_true] at h
    cases hl : lastStart cc rev e.col with
    | none => simp [hl] at h
    | some s =>
      simp only [hl] at h
      cases hf : findCellAtColumn (rows.getD s []) e.col 0 0 with
      | none => rw [hf] at h; simp at h
      | some j =>
        simp only [hf, Option.map_some, Option.some.injEq, Prod.mk.injEq] at h
        obtain ⟨h1, h2⟩ := h
        subst h1; subst h2
        exact ⟨hc, rfl, hf⟩
  · simp [hc] at h

/-- every continuation cell points to at most one cell: there are at most as many targets as
continuation cells -/
theorem targets_le_continuations (cc : Nat) (rows : List (List Cell)) : ∀ (evs rev : List Ev),
    (targetsFrom cc rows evs rev).length ≤ (evs.filter fun e => e.cell.cont).length := by
  intro evs
  induction evs with
  | nil => intro rev; simp [targetsFrom]
  | cons e rest ih =>
    intro rev
    simp only [targetsFrom, List.length_append, List.filter_cons]
    have := ih (e :: rev)
    by_cases hc : e.cell.cont = true
    · simp only [hc, if_true, List.length_cons]
      have : (targetOf cc rows rev e).toList.length ≤ 1 := by cases targetOf cc rows rev e <;> simp
      omega
    · have hn : targetOf cc rows rev e = none := by simp [targetOf, hc]
      simp only [hn, hc, Option.toList, List.length_nil, Bool.false_eq_true, if_false]
      omega

/-! Instances, checked by the kernel. `c cs cont` = a cell `cs` columns wide, continuation or not. -/
def c (cs : Nat) (cont : Bool) : Cell := { text := [], colSpan := cs, rowSpan := 1, cont := cont }

/-- the regular case: restart / continue / continue beside plain cells -/
example : targets [[c 1 false, c 1 false], [c 1 true, c 1 false], [c 1 true, c 1 false]] = [(0, 0), (0, 0)] := by decide

/-- a column span in the start row only: `[A 1x2][B] / [c][d][^]`: the continuation is the third
cell of its row, its target the second cell of the start row -/
example : targets [[c 2 false, c 1 false], [c 1 false, c 1 false, c 1 true]] = [(0, 1)] := by decide

/-- a column span in the continuation row only: `[P][Q][R] / [s 1x2][^]` -/
example : targets [[c 1 false, c 1 false, c 1 false], [c 2 false, c 1 true]] = [(0, 2)] := by decide

/-- a merge two columns wide over three rows, a second merge that starts below the first ends -/
example :
    (processVerticalMerges [[c 2 false, c 1 false], [c 2 true, c 1 false], [c 2 true, c 1 true], [c 1 false, c 1 false, c 1 true]]).map
      (·.map (·.rowSpan)) = [[3, 1], [1, 3], [1, 1], [1, 1, 1]] := by decide

/-- a continuation with nothing above it points nowhere -/
example : targets [[c 1 true, c 1 false], [c 1 true, c 1 true]] = [(0, 1)] := by decide

end Tabula.C16Grid
