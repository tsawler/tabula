import TabulaModel.Lemmas.WorkbookMd
import TabulaModel.Lemmas.WorkbookBudget
import TabulaModel.Props.C17
/-!
# C17, workbook level — every output of the xlsx reader shows each cell at its address

The model is `Model/Workbook.lean` (shared strings, the whole worksheet loader, accessors,
options, `TextWithOptions`, `findContentBounds`, `markdown` and wrappers, `Document`, `Tables`,
the XLSX branches of `tabula.Extractor`).  The specification side is declarative:

* `Wb.addressed rows r c` — the `<c>` elements of the file addressed to position `(r,c)`;
* `Wb.fileCell`, `Wb.isCovered`, `Wb.isRoot`, `Wb.displayed` — what the file stores for a
  position, whether an applied merged region covers it / starts at it, and the value it displays
  (blank under a merged region except at its top-left).  The applied regions
  (`Wb.appliedRegions`, from the file only) are the longest prefix of the declared regions whose
  rectangles clipped to the grid add up to at most one grid — since the fix "merged regions of a
  worksheet are applied within a budget of one grid" the loader stops at the first region that
  does not fit.  For every sheet whose regions fit the grid, in particular pairwise disjoint
  regions (every valid sheet), they are all declared regions and the statements read with the
  declared regions: `Props/C17Budget.lean` (`all_regions_applied_of_disjoint`, `grid_cell_declared`);
* `Wb.shownGrid`, `Wb.boxTable` — the displayed values by position, whole grid / content box;
* readers written from the formats, not from the writers: `Sheet.splitOn` (tab-separated text),
  `Wb.mdReadTable` (GFM pipe table, `\|` = literal pipe).

Helper lemmas: `Lemmas/Workbook*.lean`.
-/
namespace Tabula.C17A
open Tabula.A1 Tabula.Sheet Tabula.Wb

/-- entry `i` of the shared-string table comes from the `i`-th `<si>` -/
theorem shared_table (sis : List SI) (i : Nat) :
    (parseSharedStrings sis)[i]? = (sis[i]?).map sharedString := by
  simp [parseSharedStrings]

/-- a plain `<si><t>` is its text -/
theorem shared_plain (si : SI) (h : si.t ≠ []) : sharedString si = si.t := by
  simp [sharedString, h]

/-- a rich-text `<si>` is the concatenation of its runs, in order -/
theorem shared_rich (runs : List Str) : sharedString ⟨[], runs⟩ = runs.flatten := by
  simp [sharedString]

/-- `t="s"`: the shared string the index names — plain or rich text alike -/
theorem kind_shared (sis : List SI) (x : CellXML) (old : Cell) (i : Nat) (si : SI)
    (ht : x.t = tS) (hv : atoi x.v = some (i : Int)) (hsi : sis[i]? = some si) :
    (cellContent (parseSharedStrings sis) x old).value = sharedString si ∧
      (cellContent (parseSharedStrings sis) x old).type = .str := by
  have h := shared_table sis i
  rw [hsi] at h
  rw [cellContent_tS ht]
  simp only [hv, Int.natCast_nonneg, if_true, Int.toNat_natCast, h, Option.map_some]
  exact ⟨trivial, trivial⟩

/-- `t="b"`: TRUE for 1, FALSE otherwise -/
theorem kind_bool (shared : List Str) (x : CellXML) (old : Cell) (ht : x.t = tB) :
    (cellContent shared x old).value = (if x.v = [49] then sTRUE else sFALSE) ∧
      (cellContent shared x old).type = .bool := by
  rw [cellContent_tB ht]
  exact ⟨rfl, rfl⟩

/-- `t="e"`: the error text of `<v>` -/
theorem kind_error (shared : List Str) (x : CellXML) (old : Cell) (ht : x.t = tE) :
    (cellContent shared x old).value = x.v ∧ (cellContent shared x old).type = .err := by
  rw [cellContent_tE ht]
  exact ⟨rfl, rfl⟩

/-- `t="str"` (string result of a formula): the text of `<v>` -/
theorem kind_str (shared : List Str) (x : CellXML) (old : Cell) (ht : x.t = tStr) :
    (cellContent shared x old).value = x.v ∧ (cellContent shared x old).type = .str := by
  rw [cellContent_tStr ht]
  exact ⟨rfl, rfl⟩

/-- `t="inlineStr"`: the text of `<is><t>` -/
theorem kind_inline (shared : List Str) (x : CellXML) (old : Cell) (s : Str)
    (ht : x.t = tInline) (his : x.is = some s) :
    (cellContent shared x old).value = s ∧ (cellContent shared x old).type = .str := by
  rw [cellContent_tInline ht, his]
  exact ⟨rfl, rfl⟩

/-- no string/boolean/error type and a `<v>`: a number, shown as stored -/
theorem kind_number (shared : List Str) (x : CellXML) (old : Cell)
    (ht : x.t ≠ tS ∧ x.t ≠ tB ∧ x.t ≠ tE ∧ x.t ≠ tStr ∧ x.t ≠ tInline) (hv : x.v ≠ []) :
    (cellContent shared x old).value = x.v ∧ (cellContent shared x old).type = .num := by
  rw [cellContent_untyped ht, if_pos hv]
  exact ⟨rfl, rfl⟩

/-- a formula with nothing cached shows nothing -/
theorem kind_formula_uncached (shared : List Str) (x : CellXML) (old : Cell)
    (ht : x.t ≠ tS ∧ x.t ≠ tB ∧ x.t ≠ tE ∧ x.t ≠ tStr ∧ x.t ≠ tInline) (hv : x.v = []) (hf : x.f ≠ []) :
    (cellContent shared x old).value = [] ∧ (cellContent shared x old).type = .formula := by
  rw [cellContent_untyped ht, if_neg (fun h => h hv), if_pos hf]
  exact ⟨rfl, rfl⟩

/-- **formula-cached cells**: whenever the cell has a type attribute or a cached `<v>`, the `<f>`
element beside it changes nothing — the cell shows its cached result like a typed-in cell -/
theorem formula_cached_same (shared : List Str) (x : CellXML) (old : Cell) (f : Str)
    (h : x.t = tS ∨ x.t = tB ∨ x.t = tE ∨ x.t = tStr ∨ x.t = tInline ∨ x.v ≠ []) :
    cellContent shared { x with f := f } old = cellContent shared x old := by
  unfold cellContent
  -- the two sides are the same chain of tests up to the one on `<v>`, the only one before `<f>` is read
  refine ite_congr rfl (fun _ => rfl) fun h1 => ite_congr rfl (fun _ => rfl) fun h2 =>
    ite_congr rfl (fun _ => rfl) fun h3 => ite_congr rfl (fun _ => rfl) fun h4 =>
    ite_congr rfl (fun _ => rfl) fun h5 => ?_
  have hv : x.v ≠ [] := by
    rcases h with h | h | h | h | h | h
    · exact absurd h h1
    · exact absurd h h2
    · exact absurd h h3
    · exact absurd h h4
    · exact absurd h h5
    · exact h
  exact (if_pos hv).trans (if_pos hv).symm

/-- `(*Sheet).Cell` with non-negative arguments is the grid lookup -/
theorem cell_eq_get (s : Wb.Sheet) (r c : Nat) : s.cell (r : Int) (c : Int) = s.rows.get r c := by
  rw [Sheet.cell_eq, if_neg (by omega), Int.toNat_natCast, Int.toNat_natCast]

/-- negative coordinates name no cell -/
theorem cell_negative (s : Wb.Sheet) (r c : Int) (h : r < 0 ∨ c < 0) : s.cell r c = none := by
  rw [Sheet.cell_eq, if_pos h]

/-- the loader refuses a sheet exactly when its grid exceeds what is left of the workbook's budget
of `maxGridCells` cells plus the allowance of its part: `gridCellsPerElement` = 16 cells for
every `<c>` element, if no earlier `<sheet>` entry was handed the same member (`fresh`), else
nothing.  `used` = what the earlier sheets needed beyond their allowances. -/
theorem load_fails_iff (shared : List Str) (i used : Nat) (fresh : Bool) (x : SheetXML) :
    loadSheet shared i used fresh x = none ↔
      gridSize x > maxGridCells - used + allowance fresh x := by
  rw [loadSheet_none_iff]; unfold fits; omega

/-- with nothing charged yet (the first sheet; a workbook of one sheet): the loader refuses the
sheet exactly when its grid has more than `maxGridCells` cells plus 16 per `<c>` element -/
theorem load_fails_iff_first (shared : List Str) (i : Nat) (x : SheetXML) :
    loadSheet shared i 0 true x = none ↔ gridSize x > maxGridCells + gridCellsPerElement * elements x := by
  rw [load_fails_iff]; simp [allowance]

/-- **a dense sheet always loads**: a fresh part whose grid has at most 16 cells per `<c>` element
loads whatever was loaded before, and takes nothing out of the workbook's budget -/
theorem dense_sheet_loads (shared : List Str) (i used : Nat) (x : SheetXML)
    (h : gridSize x ≤ gridCellsPerElement * elements x) :
    (∃ s, loadSheet shared i used true x = some s) ∧ charge true x = 0 := by
  obtain ⟨h1, h2⟩ := dense_fits used x h
  exact ⟨(loadSheet_isSome_iff shared i used true x).mpr h1, h2⟩

/-- non-vacuity: a 2x2 sheet with one `<c>` element is dense (4 cells, allowance 16) -/
example :
    let x : SheetXML := ⟨[83], [⟨2, [⟨[66, 50], tStr, [120], [], none⟩]⟩], [], [109]⟩
    gridSize x ≤ gridCellsPerElement * elements x := by decide

/-- **dimensions**: the grid of a loaded sheet has as many rows as the largest `<row r>` and as
many columns as the largest parsable column reference, plus one; it is rectangular; name, index
and `MaxCol` are those of the part -/
theorem grid_dims {shared : List Str} {i used : Nat} {fresh : Bool} {x : SheetXML} {s : Wb.Sheet}
    (h : loadSheet shared i used fresh x = some s) :
    s.rowCount = maxRowOf x.rows ∧ s.colCount = maxColOf x.rows + 1 ∧
      (∀ row ∈ s.rows, row.length = maxColOf x.rows + 1) ∧ s.name = x.name ∧ s.index = i := by
  obtain ⟨h1, h2, h3, _, _⟩ := loadSheet_some h
  obtain ⟨h4, h5⟩ := loadSheet_shape h
  refine ⟨h4, by simp [Wb.Sheet.colCount, h3], ?_, h1, h2⟩
  rw [← h3]; exact h5

/-- **nothing is lost**: every position some `<c>` element of the file addresses (row element
numbered `r+1`, reference parsing to column `c`) lies inside the grid -/
theorem no_cell_lost {shared : List Str} {i used : Nat} {fresh : Bool} {x : SheetXML} {s : Wb.Sheet}
    (h : loadSheet shared i used fresh x = some s) (r c : Nat) (ha : addressed x.rows r c ≠ []) :
    (s.cell r c).isSome = true := by
  obtain ⟨h1, h2⟩ := addressed_in_grid x.rows r c ha
  obtain ⟨h4, h5⟩ := loadSheet_shape h
  rw [cell_eq_get, get_isSome_of_rect h5, h4, (loadSheet_some h).2.2.1]
  have : c < maxColOf x.rows + 1 := by omega
  simp [h1, this]

/-- **the grid, position by position** (dimension pass + placement + merge pass composed): cell
`(r,c)` of a loaded sheet holds the value and type the file stores for `(r,c)` — the addressed
elements applied in source order, nothing else — is marked merged iff an applied region covers it
and root iff it is an applied region's top-left, and so displays `displayed shared x r c`.
The regions are `Wb.appliedRegions x` (the loader applies the declared regions within a budget of one
grid); for sheets whose regions fit the grid —
every valid sheet — these are all declared regions (`C17B.grid_cell_declared`). -/
theorem grid_cell {shared : List Str} {i used : Nat} {fresh : Bool} {x : SheetXML} {s : Wb.Sheet}
    (h : loadSheet shared i used fresh x = some s) (r c : Nat) (hr : r < maxRowOf x.rows) (hc : c ≤ maxColOf x.rows) :
    ∃ cell, s.cell r c = some cell ∧
      cell.value = (fileCell shared x r c).value ∧ cell.type = (fileCell shared x r c).type ∧
      cell.merged = isCovered x r c ∧ cell.root = isRoot x r c ∧
      cellText cell = displayed shared x r c := by
  obtain ⟨cell, hcell, e1, e2, e3, e4⟩ := map_marksOf_eq_some (loadSheet_get h r c hr hc)
  refine ⟨cell, (cell_eq_get s r c).trans hcell, e1, e2, e3, e4, ?_⟩
  unfold cellText displayed
  rw [e1, e3, e4]

/-- outside the grid there is no cell (and by `no_cell_lost` nothing was addressed there) -/
theorem cell_outside {shared : List Str} {i used : Nat} {fresh : Bool} {x : SheetXML} {s : Wb.Sheet}
    (h : loadSheet shared i used fresh x = some s) (r c : Nat) (ho : maxRowOf x.rows ≤ r ∨ maxColOf x.rows < c) :
    s.cell r c = none := by
  have := loadSheet_shown h r c
  rwa [if_neg (by omega), Option.map_eq_none_iff, ← cell_eq_get] at this

/-- **merged regions in the grid**: a position covered by an applied region (`Wb.appliedRegions`;
all declared regions for every valid sheet, `C17B.all_regions_applied_of_disjoint`) and not the
top-left of one displays nothing, whatever the file stores there; a top-left displays its stored
value -/
theorem merge_display (shared : List Str) (x : SheetXML) (r c : Nat) :
    (isCovered x r c = true → isRoot x r c = false → displayed shared x r c = []) ∧
    (isRoot x r c = true → displayed shared x r c = (fileCell shared x r c).value) ∧
    (isCovered x r c = false → displayed shared x r c = (fileCell shared x r c).value) := by
  unfold displayed
  refine ⟨?_, ?_, ?_⟩
  · intro h1 h2; simp [h1, h2]
  · intro h1; simp [h1]
  · intro h1; simp [h1]

/-- one `<c>` element addressed to the position (as every producer writes): the cell shows that
element's content, by the kind theorems above -/
theorem fileCell_single (shared : List Str) (x : SheetXML) (r c : Nat) (cx : CellXML)
    (h : addressed x.rows r c = [cx]) : fileCell shared x r c = cellContent shared cx {} := by
  unfold fileCell; rw [h]; rfl

/-- no element addressed to the position: the empty cell -/
theorem fileCell_none (shared : List Str) (x : SheetXML) (r c : Nat)
    (h : addressed x.rows r c = []) : fileCell shared x r c = {} := by
  unfold fileCell; rw [h]; rfl

/-- `parseWorksheets`: every sheet of the reader was loaded from the part at its `Index`, in the
state the earlier entries left (`stateAfter`, from the file only: the members recorded and the
cells charged); its `Index` is at least the number the loop started with -/
theorem open_sheet_origin (shared : List Str) (parts : List (Option SheetXML)) (k : Nat) (seen : List Str)
    (used : Nat) (s : Wb.Sheet) (h : s ∈ loadParts shared parts k seen used) :
    k ≤ s.index ∧ ∃ x, parts[s.index - k]? = some (some x) ∧
      loadSheet shared s.index (stateAfter (parts.take (s.index - k)) seen used).2
        (!(stateAfter (parts.take (s.index - k)) seen used).1.contains x.member) x = some s := by
  obtain ⟨j, x, hj, hl⟩ := mem_loadParts.mp h
  have hi : s.index = k + j := (loadSheet_some hl).2.1
  rw [hi, Nat.add_sub_cancel_left]
  exact ⟨Nat.le_add_right k j, x, hj, hl⟩

/-- **content = displays something**: in a loaded sheet the cells `findContentBounds` counts are
exactly the positions whose displayed value is not empty -/
theorem content_iff_displayed {shared : List Str} {i used : Nat} {fresh : Bool} {x : SheetXML} {s : Wb.Sheet}
    (h : loadSheet shared i used fresh x = some s) (r c : Nat) :
    HasContent s.rows r c ↔
      (r < maxRowOf x.rows ∧ c ≤ maxColOf x.rows ∧ displayed shared x r c ≠ []) := by
  by_cases hin : r < maxRowOf x.rows ∧ c ≤ maxColOf x.rows
  · obtain ⟨cell, h1, h2, h3, _, _, h6⟩ := grid_cell h r c hin.1 hin.2
    rw [cell_eq_get] at h1
    have htyped : cell.type = .empty → cell.value = [] := by
      rw [h2, h3]; exact fileCell_typed shared x r c
    unfold HasContent
    rw [h1, ← h6]
    simp only [Option.some.injEq, exists_eq_left', hin.1, hin.2, true_and]
    exact isContent_iff_cellText cell htyped
  · have hnone := cell_outside h r c (by omega)
    rw [cell_eq_get] at hnone
    constructor
    · rintro ⟨cell, hc, _⟩; rw [hnone] at hc; cases hc
    · rintro ⟨hr, hc, _⟩; exact absurd ⟨hr, hc⟩ hin

/-- **`findContentBounds` is the tight bounding box of the content cells** of any rectangular
sheet: every content cell is inside; if there is one, each side of the box touches one and the box
is not empty; if there is none, the results are the initial values and the box is empty -/
theorem bounds_tight (s : Wb.Sheet) (hrect : Rect (s.maxCol + 1) s.rows) :
    (∀ r c, HasContent s.rows r c →
      (findContentBounds s).minRow ≤ r ∧ (r : Int) ≤ (findContentBounds s).maxRow ∧
      (findContentBounds s).minCol ≤ c ∧ (c : Int) ≤ (findContentBounds s).maxCol) ∧
    ((∃ r c, HasContent s.rows r c) →
      (∃ c, HasContent s.rows (findContentBounds s).minRow.toNat c) ∧
      (∃ c, HasContent s.rows (findContentBounds s).maxRow.toNat c) ∧
      (∃ r, HasContent s.rows r (findContentBounds s).minCol.toNat) ∧
      (∃ r, HasContent s.rows r (findContentBounds s).maxCol.toNat) ∧
      (findContentBounds s).isEmpty = false) ∧
    ((¬ ∃ r c, HasContent s.rows r c) →
      findContentBounds s = initBounds s ∧ (findContentBounds s).isEmpty = true) := by
  refine ⟨bounds_cover s, fun hex => ?_, bounds_none s⟩
  obtain ⟨a, b, c, d, _⟩ := bounds_attained s hrect hex
  exact ⟨a, b, c, d, Bool.eq_false_iff.mpr fun he => (bounds_isEmpty_iff s).mp he hex⟩

/-- non-vacuity: the two-row sheet B2 then A1 with a merged region A1:B1 over a stored B1 -/
example :
    let x : SheetXML := ⟨[83], [⟨2, [⟨[66, 50], tStr, [120], [], none⟩]⟩,
      ⟨1, [⟨[65, 49], tStr, [121], [], none⟩, ⟨[66, 49], tStr, [122], [], none⟩]⟩], [[65, 49, 58, 66, 49]], [109]⟩
    (loadSheet [] 0 0 true x).isSome = true ∧ displayed [] x 0 0 = [121] ∧ displayed [] x 0 1 = [] ∧
      (fileCell [] x 0 1).value = [122] ∧ displayed [] x 1 1 = [120] := by decide

/-- the dimension pass sees no more in `rows'` than in `rows` if every row element of `rows'` has
a row element of `rows` with the same number that contains its cells -/
theorem dims_le_of_cover (rows rows' : List RowXML)
    (h : ∀ row' ∈ rows', ∃ row ∈ rows, row'.r = row.r ∧ ∀ x ∈ row'.cells, x ∈ row.cells) :
    maxRowOf rows' ≤ maxRowOf rows ∧ maxColOf rows' ≤ maxColOf rows := by
  constructor
  · rw [maxRowOf_le_iff]
    intro row' hr'
    obtain ⟨row, hr, e, _⟩ := h row' hr'
    rw [e]; exact row_le_maxRow rows row hr
  · rw [maxColOf_le_iff]
    intro row' hr' x hx col hc
    obtain ⟨row, hr, _, hcells⟩ := h row' hr'
    exact col_le_maxCol rows row hr x (hcells x hx) col hc

/-- the dimension pass does not depend on the order of the `<row>` elements -/
theorem dims_order_irrelevant (rows rows' : List RowXML) (hp : rows.Perm rows') :
    maxRowOf rows' = maxRowOf rows ∧ maxColOf rows' = maxColOf rows := by
  have key : ∀ a b : List RowXML, a.Perm b → maxRowOf b ≤ maxRowOf a ∧ maxColOf b ≤ maxColOf a :=
    fun a b hab => dims_le_of_cover a b fun row' hr' => ⟨row', hab.mem_iff.mpr hr', rfl, fun _ hx => hx⟩
  obtain ⟨a1, a2⟩ := key _ _ hp
  obtain ⟨b1, b2⟩ := key _ _ hp.symm
  exact ⟨Nat.le_antisymm a1 b1, Nat.le_antisymm a2 b2⟩

/-- **rows written out of order**: permuting the `<row>` elements changes neither the grid
dimensions nor the displayed value of any position that one `<c>` element addresses (or none) -/
theorem rows_order_irrelevant (shared : List Str) (x x' : SheetXML) (hp : x.rows.Perm x'.rows)
    (hm : x'.merges = x.merges) (r c : Nat) (hone : (addressed x.rows r c).length ≤ 1) :
    maxRowOf x'.rows = maxRowOf x.rows ∧ maxColOf x'.rows = maxColOf x.rows ∧
      displayed shared x' r c = displayed shared x r c := by
  obtain ⟨d1, d2⟩ := dims_order_irrelevant x.rows x'.rows hp
  have hperm : (addressed x.rows r c).Perm (addressed x'.rows r c) := List.Perm.flatMap_right _ hp
  exact ⟨d1, d2, displayed_congr shared x x' r c d1 d2 hm (hperm.eq_of_length_le_one hone)⟩

/-- permuting the `<c>` elements of one row changes no dimension -/
theorem dims_cells_perm (pre post : List RowXML) (n : Int) (cells cells' : List CellXML) (hp : cells.Perm cells') :
    maxRowOf (pre ++ ⟨n, cells'⟩ :: post) = maxRowOf (pre ++ ⟨n, cells⟩ :: post) ∧
      maxColOf (pre ++ ⟨n, cells'⟩ :: post) = maxColOf (pre ++ ⟨n, cells⟩ :: post) := by
  have key : ∀ (a b : List CellXML), a.Perm b →
      ∀ row' ∈ pre ++ ⟨n, b⟩ :: post, ∃ row ∈ pre ++ ⟨n, a⟩ :: post, row'.r = row.r ∧ ∀ x ∈ row'.cells, x ∈ row.cells := by
    intro a b hab row' hr'
    simp only [List.mem_append, List.mem_cons] at hr'
    rcases hr' with hr' | hr' | hr'
    · exact ⟨row', by simp [hr'], rfl, fun _ hx => hx⟩
    · subst hr'
      exact ⟨⟨n, a⟩, by simp, rfl, fun x hx => hab.mem_iff.mpr hx⟩
    · exact ⟨row', by simp [hr'], rfl, fun _ hx => hx⟩
  obtain ⟨a1, a2⟩ := dims_le_of_cover _ _ (key cells cells' hp)
  obtain ⟨b1, b2⟩ := dims_le_of_cover _ _ (key cells' cells hp.symm)
  exact ⟨Nat.le_antisymm a1 b1, Nat.le_antisymm a2 b2⟩

/-- **cells written out of order**: permuting the `<c>` elements of one row does not change the displayed
value of a position that one `<c>` element addresses (or none); the dimensions: `dims_cells_perm` -/
theorem cells_order_irrelevant (shared : List Str) (name : Str) (merges : List Str) (member : Str)
    (pre post : List RowXML) (n : Int) (cells cells' : List CellXML) (hp : cells.Perm cells')
    (r c : Nat) (hone : (addressed (pre ++ ⟨n, cells⟩ :: post) r c).length ≤ 1) :
    displayed shared ⟨name, pre ++ ⟨n, cells'⟩ :: post, merges, member⟩ r c =
      displayed shared ⟨name, pre ++ ⟨n, cells⟩ :: post, merges, member⟩ r c := by
  have hperm : (addressed (pre ++ ⟨n, cells⟩ :: post) r c).Perm (addressed (pre ++ ⟨n, cells'⟩ :: post) r c) := by
    unfold addressed
    simp only [List.flatMap_append, List.flatMap_cons]
    apply List.Perm.append_left
    apply List.Perm.append_right
    split
    · exact hp.filter _
    · exact List.Perm.refl _
  obtain ⟨d1, d2⟩ := dims_cells_perm pre post n cells cells' hp
  exact displayed_congr shared _ _ r c d1 d2 rfl (hperm.eq_of_length_le_one hone)

end Tabula.C17A
