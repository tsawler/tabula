import TabulaModel.Props.C08
import TabulaModel.Lemmas.TextAdv
/-!
# C08 — what a shown string does to the text matrix: advances, `TJ`, `Tc Tw Tz`, `Ts`

`Props/C08.lean` speaks about the first show after a positioning step and treats the
displacement of the text matrix by a shown string as an arbitrary function.  This file closes
that gap for the code as it is after the two `fix:` commits 9b7ee04 and 6121d81:

* for any commutative ring and any displacement function: `AdvanceText` pre-multiplies
  (`Tm := T(tx,0) × Tm`), a show or a `TJ` array touches nothing but the text matrix — in
  particular not the text LINE matrix, so every line-relative operator after it starts from
  the start of the line — the algebra of `TJ` arrays, and the exact origin of EVERY string of
  a `TJ` array (for a displacement function that does not look at the text matrix);
* for the displacement function the code computes (`Model/TextAdv.lean`; any field, of
  characteristic 0 for `tz_effect`): the effect of `Tc`, `Tw`, `Tz` on it, `0 Tz` makes every
  displacement 0, the code's one displacement per string is ISO 32000-1 9.4.4's
  glyph-by-glyph rule, and the `TJ` number rule;
* a denotational definition of ISO 32000-1 (Tables 57, 105–109 and 9.4.4) in which
  the text matrix is always known, and `origin_exact_spec`: for every `Do`-free program the
  extractor reports, for EVERY fragment, the origin and size factors of that definition;
* the text rise: where the code's way of applying it agrees with ISO 32000 and where not.
-/
namespace Tabula.C08Text
open Tabula Tabula.Matrix Tabula.GState Tabula.C08 Tabula.TextAdv

variable {α : Type}

section
variable [Lean.Grind.CommRing α] [DecidableEq α] [LT α] [DecidableLT α]

omit [DecidableEq α] [LT α] [DecidableLT α] in
/-- a state on the line of `s0` whose text matrix is `T(x,0) × Tm₀` reports the next string at the device
image of `(x,0)·Tm₀`, raised by the text rise -/
theorem textPosition_on_line {s0 s : State α} (h : SameLine s0 s) {x : α}
    (htm : s.cur.text.tm = (translate x 0).mul s0.cur.text.tm) :
    s.getTextPosition = device s0 (riseUp s0 (s0.cur.text.tm.transformPoint (x, 0))) := by
  have hxy := translate_mul_origin x s0.cur.text.tm
  rw [← htm] at hxy
  unfold SameLine at h
  rw [State.getTextPosition, device, riseUp, ← hxy, h]
  rfl

omit [DecidableEq α] [LT α] [DecidableLT α] in
/-- **`AdvanceText` pre-multiplies**: after a displacement `tx` every text-space point `p`
maps to where `p + (tx,0)` mapped before (`Tm' = T(tx,0) × Tm`, ISO 32000-1 9.4.4): the
displacement is scaled and rotated with the text.  The line matrix, the CTM, the stack, leading,
font size and rise are untouched, and the next string is reported at the device image of
`(tx,0)·Tm` (raised by the text rise). -/
theorem advanceText_premultiplies (s : State α) (tx : α) :
    let s' := s.advanceText tx
    (∀ p, s'.cur.text.tm.transformPoint p = s.cur.text.tm.transformPoint (p.1 + tx, p.2)) ∧
      s'.cur.text.tm = (translate tx 0).mul s.cur.text.tm ∧
      s'.cur.text.tlm = s.cur.text.tlm ∧ s'.cur.ctm = s.cur.ctm ∧ s'.stack = s.stack ∧
      s'.cur.text.leading = s.cur.text.leading ∧ s'.cur.text.fontSize = s.cur.text.fontSize ∧
      s'.cur.text.rise = s.cur.text.rise ∧
      s'.getTextPosition = device s (riseUp s (s.cur.text.tm.transformPoint (tx, 0))) := by
  refine ⟨fun p => ?_, advanceText_tm s tx, rfl, rfl, rfl, rfl, rfl, rfl, ?_⟩
  · rw [advanceText_tm, transformPoint_mul, transformPoint_translate]
    have : p.2 + 0 = p.2 := by grind
    rw [this]
  · exact textPosition_on_line (sameLine_advanceText s tx) (advanceText_tm s tx)

/-- the quoted witness of 6121d81: under a text matrix rotated by 90° a displacement of
11 moves the text position UP the page, not to the right -/
example : ((step (fun _ _ => 0) (.Tm ⟨0, 1, -1, 0, 100, 100⟩) (init : State Int)).1.advanceText 11).getTextPosition
    = (100, 111) := by decide

/-- **a show moves the text matrix by its displacement, and nothing else**: `Tj` reports
the string at the current text position and then calls `AdvanceText`. -/
theorem tj_advances (adv : Adv α) (sid : Nat) (s : State α) :
    step adv (.Tj sid) s =
      (s.advanceText (adv s.cur.text (.str sid)),
        [{ x := s.getTextPosition.1, y := s.getTextPosition.2, fs := s.cur.text.fontSize,
           tmScale2 := tmScale2 s.cur.text.tm, ctmScale2 := ctmScale2 s.cur.ctm,
           clean := !s.cur.text.dirty && decide (s.cur.text.rise = 0) }], false) := rfl

/-- **where the second of two consecutive strings is reported**: at the device image of
`(tx,0)·Tm`, `tx` the displacement of the first — on the baseline of the first, whatever the
text matrix (scaled, rotated, sheared) and the CTM are. -/
theorem second_show_origin (adv : Adv α) (sid sid2 : Nat) (s : State α) :
    let r := step adv (.Tj sid2) (step adv (.Tj sid) s).1
    r.2.1.map (fun sh => (sh.x, sh.y)) =
      [device s (riseUp s (s.cur.text.tm.transformPoint (adv s.cur.text (.str sid), 0)))] := by
  simp only [tj_advances, List.map_cons, List.map_nil]
  rw [textPosition_on_line (sameLine_advanceText s _) (advanceText_tm s _)]

/-- the operators that assign the text matrix from the line matrix or from scratch -/
def Positions : Op α → Prop
  | .Td _ _ | .TD _ _ | .Tstar | .Tm _ | .BT | .quote _ | .dquote _ _ _ => True
  | _ => False

/-- **a positioning operator forgets every show before it**: after any `Tj` or any `TJ`
array (strings and numbers) each of `Td TD T* Tm BT ' "` leaves exactly the state, and
reports exactly the fragments, it would have without the show — the text line matrix is
not moved by shown text nor by `TJ` adjustments (the defect repaired by 9b7ee04: a `TJ`
number used to overwrite the line matrix). -/
theorem positioning_forgets_shows (adv : Adv α) (op : Op α) (hop : Positions op) (s s' : State α)
    (h : SameLine s s') : step adv op s' = step adv op s := by
  have hs : s' = s.mapText fun t => { t with tm := s'.cur.text.tm, dirty := s'.cur.text.dirty } := h
  cases op with
  | Td | TD | Tstar | Tm | BT | quote | dquote => rw [hs]; rfl
  | _ => exact hop.elim

theorem positioning_after_TJ (adv : Adv α) (op : Op α) (hop : Positions op) (items : List (TJItem α))
    (s : State α) : step adv op (step adv (.TJ items) s).1 = step adv op s :=
  positioning_forgets_shows adv op hop s _ (sameLine_showTextArray adv items s)

theorem positioning_after_Tj (adv : Adv α) (op : Op α) (hop : Positions op) (sid : Nat) (s : State α) :
    step adv op (step adv (.Tj sid) s).1 = step adv op s :=
  positioning_forgets_shows adv op hop s _ (sameLine_showText adv sid s)

/-- the witness of 9b7ee04, `100 700 Td 14 TL [(Hello) -250 (World)] TJ T* (next) Tj`:
whatever the displacements are, `next` is reported at (100, 686) -/
example (adv : Adv Int) :
    ((run adv [.BT, .Td 100 700, .TL 14, .TJ [.str 0, .num (-250), .str 1], .Tstar, .Tj 2] init).map
      fun l => (l.drop 2).map fun sh => (sh.x, sh.y, sh.clean)) = some [(100, 686, true)] := by
  rfl

/-- an empty array does nothing; an array of one string is `Tj`; arrays concatenate -/
theorem TJ_nil (adv : Adv α) (s : State α) : step adv (.TJ []) s = (s, [], false) := rfl

theorem TJ_singleton (adv : Adv α) (sid : Nat) (s : State α) :
    step adv (.TJ [.str sid]) s = step adv (.Tj sid) s := rfl

theorem TJ_append (adv : Adv α) (a b : List (TJItem α)) (s : State α) :
    step adv (.TJ (a ++ b)) s =
      ((step adv (.TJ b) (step adv (.TJ a) s).1).1,
        (step adv (.TJ a) s).2.1 ++ (step adv (.TJ b) (step adv (.TJ a) s).1).2.1, false) := by
  simp only [step, stepBasic, showTextArray_append]

/-- a number alone moves the text matrix by its displacement and reports nothing -/
theorem TJ_number (adv : Adv α) (v : α) (s : State α) :
    step adv (.TJ [.num v]) s = (s.advanceText (adv s.cur.text (.num v)), [], false) := rfl

/-- the displacement function does not look at the text matrix (nor at the ghost flag):
true of the function the code computes (`advance_tmBlind`) -/
def TmBlind (adv : Adv α) : Prop :=
  ∀ (t : TextState α) (m : Matrix α) (b : Bool) (it : TJItem α), adv { t with tm := m, dirty := b } it = adv t it

/-- the text-space x offsets at which the strings of an array start: running sum of the
displacements of everything before them -/
def offsets (adv : Adv α) (t : TextState α) : List (TJItem α) → α → List α
  | [], _ => []
  | .str sid :: rest, acc => acc :: offsets adv t rest (acc + adv t (.str sid))
  | .num v :: rest, acc => offsets adv t rest (acc + adv t (.num v))

theorem showTextArray_origins (adv : Adv α) (hb : TmBlind adv) (items : List (TJItem α)) {s0 s : State α}
    (h : SameLine s0 s) (acc : α) (htm : s.cur.text.tm = (translate acc 0).mul s0.cur.text.tm) :
    (showTextArray adv items s).2.map (fun sh => (sh.x, sh.y)) =
      (offsets adv s0.cur.text items acc).map fun X =>
        device s0 (riseUp s0 (s0.cur.text.tm.transformPoint (X, 0))) := by
  induction items generalizing s acc with
  | nil => rfl
  | cons it rest ih =>
    have hadv : adv s.cur.text it = adv s0.cur.text it := by
      have ht : s.cur.text = { s0.cur.text with tm := s.cur.text.tm, dirty := s.cur.text.dirty } :=
        congrArg (·.cur.text) h
      rw [ht]; exact hb _ _ _ _
    -- after the item the state is on the line again, its displacement further along
    have hnext := ih (h.trans (sameLine_advanceText s (adv s.cur.text it))) (acc + adv s.cur.text it)
      (by rw [advanceText_tm, htm, translate_translate_mul])
    cases it with
    | str sid =>
      rw [showTextArray, offsets, ← hadv]
      exact congr (congrArg List.cons (textPosition_on_line h htm)) hnext
    | num v =>
      rw [showTextArray, offsets, ← hadv]
      exact hnext

/-- **the origin of every string of a `TJ` array**: for every array (strings and numbers
in any order), every state and every displacement function that does not look at the text
matrix, the k-th string is reported at the device image of `(X_k, 0)·Tm`, raised by the text
rise, where `X_k` is the sum of the displacements of the strings and numbers before it — all
strings of the array lie on one baseline of text space, whatever `Tm` and the CTM are. -/
theorem TJ_origins (adv : Adv α) (hb : TmBlind adv) (items : List (TJItem α)) (s : State α) :
    (step adv (.TJ items) s).2.1.map (fun sh => (sh.x, sh.y)) =
      (offsets adv s.cur.text items 0).map fun X =>
        device s (riseUp s (s.cur.text.tm.transformPoint (X, 0))) :=
  showTextArray_origins adv hb items (SameLine.refl s) 0 (translate_zero_mul _).symm

/-- the hypothesis is met and the statement is not vacuous: three strings and two numbers
under a rotated, scaled text matrix and a mirrored CTM -/
example : TmBlind (fun (t : TextState Int) it => match it with | .str sid => t.fontSize * sid | .num v => -v) ∧
    (step (fun (t : TextState Int) it => match it with | .str sid => t.fontSize * sid | .num v => -v)
      (.TJ [.str 1, .num (-5), .str 2, .num 3, .str 3])
      (step (fun _ _ => 0) (.Tm ⟨0, 2, -2, 0, 10, 20⟩) (step (fun _ _ => 0) (.cm ⟨1, 0, 0, -1, 0, 800⟩) init).1).1).2.1.map
      (fun sh => (sh.x, sh.y)) = [(10, 780), (10, 746), (10, 704)] := by
  refine ⟨fun _ _ _ it => by cases it <;> rfl, by decide⟩

end

section
variable [Lean.Grind.Field α]

/-- the code's displacement function depends on the font size, `Tc`, `Tw` and `Tz` only -/
theorem advance_tmBlind (info : Nat → StrInfo α) : TmBlind (advance info) := by
  intro t m b it
  cases it <;> rfl

/-- **`0 Tz` makes every displacement 0** (string or `TJ` number): under horizontal scaling
0 shown text does not move the text matrix — the fact the document-level correspondence
(op c08.doc) relies on to compare every origin. -/
theorem tz_zero_no_advance (info : Nat → StrInfo α) (t : TextState α) (h : t.hScaling = 0) (it : TJItem α) :
    advance info t it = 0 := by
  cases it <;> simp only [advance, strAdvance, numAdvance, hScale, h] <;> grind

/-- the hypothesis is met after `0 Tz`, whatever the font, the string and the spacings are -/
example (info : Nat → StrInfo Rat) (it : TJItem Rat) :
    advance info ((step (fun _ _ => 0) (.Tz 0) (step (fun _ _ => 0) (.Tc 7) (init : State Rat)).1).1.cur.text) it = 0 :=
  tz_zero_no_advance info _ rfl it

theorem tz_zero_keeps_tm (s : State α) (tx : α) (h : tx = 0) :
    (s.advanceText tx).cur.text.tm = s.cur.text.tm := by
  subst h
  rw [advanceText_tm, translate_zero_mul]

/-- **`Tc`**: character spacing adds `Tc · Th/100` per byte of the string -/
theorem tc_effect (t : TextState α) (i : StrInfo α) (c : α) :
    strAdvance { t with charSpacing := c } i =
      strAdvance { t with charSpacing := 0 } i + i.n * c * (t.hScaling / 100) := by
  simp only [strAdvance, hScale]; grind

/-- **`Tw`**: word spacing adds `Tw · Th/100` per space byte (0x20) of the string -/
theorem tw_effect (t : TextState α) (i : StrInfo α) (w : α) :
    strAdvance { t with wordSpacing := w } i =
      strAdvance { t with wordSpacing := 0 } i + i.sp * w * (t.hScaling / 100) := by
  simp only [strAdvance, hScale]; grind

/-- **`Tz`**: the whole displacement — glyph widths, `Tc`, `Tw` and `TJ` numbers alike — is
proportional to the horizontal scaling -/
theorem tz_effect [Lean.Grind.IsCharP α 0] (info : Nat → StrInfo α) (t : TextState α) (it : TJItem α) :
    advance info t it = t.hScaling / 100 * advance info { t with hScaling := 100 } it := by
  have h100 : (100 : α) / 100 = 1 := by grind
  cases it <;> simp only [advance, strAdvance, numAdvance, hScale, h100] <;> grind

/-- **`Tf`**: in the displacement of a string the glyph widths scale with the font size; `Tc` and
`Tw` do not -/
theorem tf_effect (t : TextState α) (i : StrInfo α) (k : α) :
    strAdvance { t with fontSize := k * t.fontSize } i =
      k * strAdvance { t with charSpacing := 0, wordSpacing := 0 } i +
        strAdvance { t with fontSize := 0 } i := by
  simp only [strAdvance, hScale]; grind

/-- **the `TJ` number rule**: `tx = (−Tj/1000 · Tfs) · Th` (ISO 32000-1 9.4.4) -/
theorem tj_number_is_iso (t : TextState α) (v : α) : numAdvance t v = numTx t v := by
  simp only [numAdvance, numTx, hScale]; grind

/-- the sum of ISO's per-glyph displacements is the code's one displacement per string -/
theorem glyphs_sum (t : TextState α) (gs : List (Glyph α)) :
    strAdvance t (summarize gs) = (gs.map (glyphTx t)).foldr (· + ·) 0 := by
  induction gs with
  | nil => exact strAdvance_nil t
  | cons g rest ih => rw [List.map_cons, List.foldr_cons, ← ih, strAdvance_cons]

/-- **one displacement per string is ISO's glyph-by-glyph rule**: ISO 32000-1 9.4.4 moves
the text matrix after every glyph, `Tm := T(tx,0) × Tm` with
`tx = (w0 · Tfs + Tc + Tw) · Th` (`Tw` for the single-byte code 32 only).  For every string
of a simple font — any glyphs, any widths — doing that glyph by glyph gives exactly the
matrix the code's single `AdvanceText` gives, the font package reporting the sum of the
widths, the number of bytes and the number of space bytes. -/
theorem string_advance_is_glyphwise_iso (t : TextState α) (gs : List (Glyph α)) (m : Matrix α) :
    isoShowGlyphs t gs m = (translate (strAdvance t (summarize gs)) 0).mul m := by
  induction gs generalizing m with
  | nil => rw [strAdvance_nil, translate_zero_mul]; rfl
  | cons g rest ih => rw [isoShowGlyphs, ih, translate_translate_mul, strAdvance_cons]

/-- non-vacuity: "a b" in a font with widths 500, 250 (space), 600 at 10 pt, `Tc` 1, `Tw` 2,
`Tz` 50: ISO's three steps and the code's one step both move by 9.25 -/
example : isoShowGlyphs ({ (initText : TextState Rat) with fontSize := 10, charSpacing := 1, wordSpacing := 2, hScaling := 50 })
      [⟨500, false⟩, ⟨250, true⟩, ⟨600, false⟩] ⟨2, 0, 0, 2, 100, 100⟩ = ⟨2, 0, 0, 2, 237/2, 100⟩ ∧
    strAdvance ({ (initText : TextState Rat) with fontSize := 10, charSpacing := 1, wordSpacing := 2, hScaling := 50 })
      (summarize [⟨500, false⟩, ⟨250, true⟩, ⟨600, false⟩]) = 37/4 := by
  decide +kernel

end

/-- the graphics-state parameters ISO 32000 gives the operator set (Tables 52, 104) -/
structure IFrame (α : Type) where
  ctm : Matrix α
  tm : Matrix α
  tlm : Matrix α
  tc : α
  tw : α
  th : α
  tl : α
  tfs : α
  trise : α

structure IState (α : Type) where
  cur : IFrame α
  stack : List (IFrame α)

/-- what is reported for one shown string: the matrices and parameters in force when its
first glyph is painted -/
structure IShow (α : Type) where
  tm : Matrix α
  ctm : Matrix α
  tfs : α
  trise : α

section
variable [Lean.Grind.Field α]

/-- the text state as the displacement rules read it -/
def IFrame.params (f : IFrame α) : TextState α :=
  { fontSize := f.tfs, charSpacing := f.tc, wordSpacing := f.tw, hScaling := f.th, leading := f.tl,
    rise := f.trise, tm := f.tm, tlm := f.tlm, dirty := false }

def IState.set (s : IState α) (f : IFrame α → IFrame α) : IState α := { s with cur := f s.cur }

/-- Table 108: `tx ty Td` — `Tm = Tlm = T(tx,ty) × Tlm` -/
def IState.td (s : IState α) (tx ty : α) : IState α :=
  s.set fun f => let l := (translate tx ty).mul f.tlm; { f with tm := l, tlm := l }

/-- Table 109 `Tj` and 9.4.4: the string is painted glyph by glyph, each glyph moving the
text matrix by its displacement -/
def IState.showString (glyphs : Nat → List (Glyph α)) (sid : Nat) (s : IState α) : IState α × IShow α :=
  (s.set fun f => { f with tm := isoShowGlyphs f.params (glyphs sid) f.tm },
    { tm := s.cur.tm, ctm := s.cur.ctm, tfs := s.cur.tfs, trise := s.cur.trise })

/-- Table 109 `TJ`: a string is shown, a number moves the text matrix by `−v/1000 · Tfs · Th` -/
def IState.showArray (glyphs : Nat → List (Glyph α)) : List (TJItem α) → IState α → IState α × List (IShow α)
  | [], s => (s, [])
  | .str sid :: rest, s =>
    let r := s.showString glyphs sid
    let r2 := IState.showArray glyphs rest r.1
    (r2.1, r.2 :: r2.2)
  | .num v :: rest, s =>
    IState.showArray glyphs rest (s.set fun f => { f with tm := (translate (numTx f.params v) 0).mul f.tm })

/-- ISO 32000-1 Tables 57, 105, 107, 108, 109 as equations; `none` = an unmatched `Q` -/
def isoStep (glyphs : Nat → List (Glyph α)) : Op α → IState α → Option (IState α × List (IShow α))
  | .q, s => some ({ s with stack := s.cur :: s.stack }, [])
  | .Q, s => match s.stack with
    | [] => none
    | f :: rest => some (⟨f, rest⟩, [])
  | .cm M, s => some (s.set fun f => { f with ctm := M.mul f.ctm }, [])
  | .BT, s => some (s.set fun f => { f with tm := identity, tlm := identity }, [])
  | .Tm M, s => some (s.set fun f => { f with tm := M, tlm := M }, [])
  | .Td tx ty, s => some (s.td tx ty, [])
  | .TD tx ty, s => some ((s.set fun f => { f with tl := -ty }).td tx ty, [])
  | .Tstar, s => some (s.td 0 (-s.cur.tl), [])
  | .TL l, s => some (s.set fun f => { f with tl := l }, [])
  | .Tf size, s => some (s.set fun f => { f with tfs := size }, [])
  | .Tc c, s => some (s.set fun f => { f with tc := c }, [])
  | .Tw w, s => some (s.set fun f => { f with tw := w }, [])
  | .Tz z, s => some (s.set fun f => { f with th := z }, [])
  | .Ts r, s => some (s.set fun f => { f with trise := r }, [])
  | .Tj sid, s => let r := s.showString glyphs sid; some (r.1, [r.2])
  | .TJ items, s => some (s.showArray glyphs items)
  | .quote sid, s => let r := (s.td 0 (-s.cur.tl)).showString glyphs sid; some (r.1, [r.2])
  | .dquote aw ac sid, s =>
    let s1 := s.set fun f => { f with tw := aw, tc := ac }
    let r := (s1.td 0 (-s1.cur.tl)).showString glyphs sid
    some (r.1, [r.2])
  | _, s => some (s, [])

def isoRun (glyphs : Nat → List (Glyph α)) : List (Op α) → IState α → Option (List (IShow α))
  | [], _ => some []
  | op :: rest, s => match isoStep glyphs op s with
    | none => none
    | some r => (isoRun glyphs rest r.1).map (r.2 ++ ·)

end

section
variable [Lean.Grind.Field α] [DecidableEq α] [LT α] [DecidableLT α]

/-- the ISO parameters of a model frame -/
def isoFrame (f : Frame α) : IFrame α :=
  { ctm := f.ctm, tm := f.text.tm, tlm := f.text.tlm, tc := f.text.charSpacing, tw := f.text.wordSpacing,
    th := f.text.hScaling, tl := f.text.leading, tfs := f.text.fontSize, trise := f.text.rise }

def isoState (s : State α) : IState α := ⟨isoFrame s.cur, s.stack.map isoFrame⟩

/-- what the extractor reports for a string painted under these matrices: the origin
`(Tm.e, Tm.f + rise)` through the CTM (`GetTextPosition`) and the three size factors -/
def report (i : IShow α) : α × α × α × α × α :=
  let p := i.ctm.transformPoint (i.tm.e, i.tm.f + i.trise)
  (p.1, p.2, i.tfs, tmScale2 i.tm, ctmScale2 i.ctm)

def showReport (sh : Show α) : α × α × α × α × α := (sh.x, sh.y, sh.fs, sh.tmScale2, sh.ctmScale2)

omit [DecidableEq α] [LT α] [DecidableLT α] in
theorem params_blind (info : Nat → StrInfo α) (f : Frame α) (it : TJItem α) :
    advance info (isoFrame f).params it = advance info f.text it := by
  cases it <;> rfl

theorem showText_iso (info : Nat → StrInfo α) (glyphs : Nat → List (Glyph α))
    (hinfo : ∀ sid, info sid = summarize (glyphs sid)) (sid : Nat) (s : State α) :
    (isoState (showText (advance info) sid s).1, report ((isoState s).showString glyphs sid).2)
      = (((isoState s).showString glyphs sid).1, showReport (showText (advance info) sid s).2) := by
  have htm : isoShowGlyphs (isoFrame s.cur).params (glyphs sid) s.cur.text.tm
      = (s.advanceText (advance info s.cur.text (.str sid))).cur.text.tm := by
    rw [string_advance_is_glyphwise_iso, advanceText_tm, ← hinfo]; rfl
  simp only [showText, IState.showString, IState.set, isoState, isoFrame, Prod.mk.injEq]
  refine ⟨?_, rfl⟩
  simp only [isoFrame] at htm
  simp only [htm]
  rfl

theorem showTextArray_iso (info : Nat → StrInfo α) (glyphs : Nat → List (Glyph α))
    (hinfo : ∀ sid, info sid = summarize (glyphs sid)) (items : List (TJItem α)) (s : State α) :
    (isoState (showTextArray (advance info) items s).1,
        ((isoState s).showArray glyphs items).2.map report)
      = (((isoState s).showArray glyphs items).1, (showTextArray (advance info) items s).2.map showReport) := by
  induction items generalizing s with
  | nil => rfl
  | cons it rest ih =>
    cases it with
    | str sid =>
      have h := showText_iso info glyphs hinfo sid s
      simp only [Prod.mk.injEq] at h
      have ih' := ih (showText (advance info) sid s).1
      simp only [Prod.mk.injEq] at ih'
      simp only [showTextArray, IState.showArray, List.map_cons, Prod.mk.injEq]
      rw [← h.1, h.2]
      exact ⟨ih'.1, by rw [ih'.2]⟩
    | num v =>
      have hs : isoState (s.advanceText (advance info s.cur.text (.num v)))
          = (isoState s).set fun f => { f with tm := (translate (numTx f.params v) 0).mul f.tm } := by
        have htm := advanceText_tm s (advance info s.cur.text (.num v))
        have hv : numTx (isoFrame s.cur).params v = advance info s.cur.text (.num v) := by
          rw [← tj_number_is_iso]; rfl
        simp only [isoState, IState.set, isoFrame, IState.mk.injEq, IFrame.mk.injEq] at hv ⊢
        refine ⟨⟨rfl, ?_, rfl, rfl, rfl, rfl, rfl, rfl, rfl⟩, rfl⟩
        rw [htm, ← hv]
      simp only [showTextArray, IState.showArray]
      rw [← hs]
      exact ih _

/-- one operator: the model step and the ISO step commute with `isoState` / `report` -/
theorem step_iso (info : Nat → StrInfo α) (glyphs : Nat → List (Glyph α))
    (hinfo : ∀ sid, info sid = summarize (glyphs sid)) (op : Op α) (hop : ∀ m b, op ≠ .form m b)
    (s : State α) :
    (isoStep glyphs op (isoState s)).map (fun r => (r.1, r.2.map report)) =
      if (step (advance info) op s).2.2 then none
      else some (isoState (step (advance info) op s).1, (step (advance info) op s).2.1.map showReport) := by
  -- a shown string: `showText_iso` pairs the two states and the two reports crosswise
  have key : ∀ (sid : Nat) (t : State α),
      some (((isoState t).showString glyphs sid).1, [report ((isoState t).showString glyphs sid).2])
        = some (isoState (showText (advance info) sid t).1, [showReport (showText (advance info) sid t).2]) := by
    intro sid t
    obtain ⟨h1, h2⟩ := Prod.mk.inj (showText_iso info glyphs hinfo sid t)
    rw [h1, h2]
  cases op with
  | form m b => exact absurd rfl (hop m b)
  | Q =>
    obtain ⟨c, st, d⟩ := s
    cases st <;> rfl
  | Tj sid => exact key sid s
  | quote sid => exact key sid s.nextLine
  | dquote aw ac sid => exact key sid ((s.setWordSpacing aw).setCharSpacing ac).nextLine
  | TJ items =>
    obtain ⟨h1, h2⟩ := Prod.mk.inj (showTextArray_iso info glyphs hinfo items s)
    show some (((isoState s).showArray glyphs items).1, ((isoState s).showArray glyphs items).2.map report)
      = some (isoState (showTextArray (advance info) items s).1,
          (showTextArray (advance info) items s).2.map showReport)
    rw [h1, h2]
  | _ => rfl

/-- **origin_exact_spec**: for every `Do`-free program over
{q Q cm BT ET Tf Tc Tw Tz TL Ts Tm Td TD T* Tj TJ ' "} of any length (any q/Q depth, any
matrices, any strings of any simple font), every starting state, run with the displacement
function the code computes: the extractor fails exactly when ISO 32000's definition does (an
unmatched `Q`), and otherwise reports for EVERY fragment — not only the first after a
positioning step — the origin `(Tm.e, Tm.f + Trise)` through the CTM and the size factors
of the text matrix and CTM that ISO 32000-1 (Tables 57, 105–109; 9.4.4 glyph by glyph)
defines at the moment the string is painted. -/
theorem origin_exact_spec (info : Nat → StrInfo α) (glyphs : Nat → List (Glyph α))
    (hinfo : ∀ sid, info sid = summarize (glyphs sid)) (ops : List (Op α)) (hnf : NoForm ops)
    (s : State α) :
    (run (advance info) ops s).map (·.map showReport) = (isoRun glyphs ops (isoState s)).map (·.map report) := by
  unfold run
  fun_induction NoForm ops generalizing s with
  | case1 => simp [exec, isoRun]
  | case2 m b rest => exact hnf.elim
  | case3 op rest hop ih =>
    have hstep := step_iso info glyphs hinfo op hop s
    rw [isoRun, exec_cons]
    cases herr : (step (advance info) op s).2.2 <;> rw [herr] at hstep <;>
      cases hiso : isoStep glyphs op (isoState s) <;> rw [hiso] at hstep <;>
      simp only [Option.map_some, Option.map_none, Bool.false_eq_true, if_false, if_true, reduceCtorEq,
        Option.some.injEq, Prod.mk.injEq] at hstep
    · -- both go on: the rest by induction, the fragments of `op` in front on both sides
      have ih' := ih hnf (step (advance info) op s).1
      rw [← hstep.1] at ih'
      simp only [Bool.false_eq_true, if_false, Option.map_map, Function.comp_def, List.map_append, ← hstep.2]
      have h := congrArg (Option.map (List.map showReport (step (advance info) op s).2.1 ++ ·)) ih'
      simpa only [Option.map_map, Function.comp_def, hstep.2] using h
    · rfl

/-- the hypothesis is satisfiable for every font and every string: take for `info` what the
glyph lists add up to -/
example (glyphs : Nat → List (Glyph Rat)) (ops : List (Op Rat)) (hnf : NoForm ops) (s : State Rat) :
    (run (advance fun sid => summarize (glyphs sid)) ops s).map (·.map showReport)
      = (isoRun glyphs ops (isoState s)).map (·.map report) :=
  origin_exact_spec (fun sid => summarize (glyphs sid)) glyphs (fun _ => rfl) ops hnf s

/-- a concrete reading (rotated text, `Tc`, `Tz`, a `TJ` array with a number, then `T*`):
string 0 is "ab" (widths 500+600), string 1 is "c d" (400, space 250, 700) -/
def exGlyphs : Nat → List (Glyph Rat)
  | 0 => [⟨500, false⟩, ⟨600, false⟩]
  | _ => [⟨400, false⟩, ⟨250, true⟩, ⟨700, false⟩]

example :
    (run (advance fun sid => summarize (exGlyphs sid))
      [.BT, .Tf 10, .TL 12, .Tm ⟨0, 2, -2, 0, 100, 100⟩, .Tc 1, .Tw 3, .Tz 50, .TJ [.str 0, .num (-200), .str 1], .Tstar, .Tj 0]
      init).map (·.map fun sh => (sh.x, sh.y)) = some [(100, 100), (100, 115), (124, 100)] := by
  decide +kernel

example (t : TextState Rat) (it : TJItem Rat) (info : Nat → StrInfo Rat) :
    advance info t it = t.hScaling / 100 * advance info { t with hScaling := 100 } it :=
  tz_effect info t it

end

section
variable [Lean.Grind.CommRing α]

/-- ISO 32000-1 9.4.2: the glyph origin of text shown with rise `r` is `(0, r)` in text
space, i.e. `(0,r) × Tm × CTM` in device space -/
def isoRiseOrigin (tm ctm : Matrix α) (r : α) : α × α := (tm.mul ctm).transformPoint (0, r)

/-- **where the code's text rise is ISO's**: `GetTextPosition` adds the rise to the
translation part of the text matrix (`(Tm.e, Tm.f + r)` through the CTM); that is ISO's
`(0,r) × Tm × CTM` whenever the text matrix maps the unit y vector to itself (`c = 0`,
`d = 1`: unscaled, unrotated text — any translation, any horizontal scale), for every CTM. -/
theorem rise_iso_of_unit_y (tm ctm : Matrix α) (r : α) (hc : tm.c = 0) (hd : tm.d = 1) :
    ctm.transformPoint (tm.e, tm.f + r) = isoRiseOrigin tm ctm r := by
  simp only [isoRiseOrigin, transformPoint_mul]
  simp only [transformPoint, hc, hd, Prod.mk.injEq]
  constructor <;> grind

/-- the hypotheses are satisfiable: `1 0 0 1 100 700 Tm` (and any horizontal scale) -/
example : ((⟨3, 0, 0, 1, 100, 700⟩ : Matrix Int).c = 0 ∧ (⟨3, 0, 0, 1, 100, 700⟩ : Matrix Int).d = 1) ∧
    (⟨2, 0, 0, 2, 0, 0⟩ : Matrix Int).transformPoint ((⟨3, 0, 0, 1, 100, 700⟩ : Matrix Int).e, (⟨3, 0, 0, 1, 100, 700⟩ : Matrix Int).f + 5)
      = isoRiseOrigin ⟨3, 0, 0, 1, 100, 700⟩ ⟨2, 0, 0, 2, 0, 0⟩ 5 := by decide

/-- with rise 0 the two agree for every text matrix (this is `origin_spec`) -/
theorem rise_zero_iso (tm ctm : Matrix α) :
    ctm.transformPoint (tm.e, tm.f + 0) = isoRiseOrigin tm ctm 0 := by
  simp only [isoRiseOrigin, transformPoint_mul]
  simp only [transformPoint, Prod.mk.injEq]
  constructor <;> grind

/-- … and not in general: under `/F 1 Tf 12 0 0 12 100 100 Tm` a rise of 1 lifts the
reported origin by 1 unit where ISO 32000 lifts the glyphs by 12.  (The property's operator
set has no `Ts` and its statement speaks of the text-space origin; the model follows the
code, and `origin_spec` makes no claim for text shown with a rise.) -/
theorem rise_scaled_tm_differs :
    (⟨1, 0, 0, 1, 0, 0⟩ : Matrix Int).transformPoint ((⟨12, 0, 0, 12, 100, 100⟩ : Matrix Int).e,
        (⟨12, 0, 0, 12, 100, 100⟩ : Matrix Int).f + 1) = (100, 101) ∧
      isoRiseOrigin (⟨12, 0, 0, 12, 100, 100⟩ : Matrix Int) ⟨1, 0, 0, 1, 0, 0⟩ 1 = (100, 112) := by
  decide

end

end Tabula.C08Text
