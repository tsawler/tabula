import TabulaModel.Props.C20Bytes
/-!
# C20, decision tables — the archive sniffer, the cross-check and the two magic entry points, completely

`Props/C20.lean` proves what the sniffer answers for archives that CARRY a marker, and
`Props/C20Api.lean` what each answer of `DetectFromReader` means.  Here the remaining
cases of the same functions: the complete decision table of `detectZIPFormat` for EVERY
member list (directory fallback, no marker at all, several and conflicting mimetype
members), what of a member the sniffer looks at, the complete matrix of `validateFormat`
and `ensureReader` over (format the name asks for, what the sniffer says) — the name that
asks for no format included —, and `DetectFromMagic` on every byte string.
-/
set_option autoImplicit false
namespace Tabula.C20Z
open Tabula.Detect Tabula.Drm Tabula.Admit Tabula.EncXml Tabula.DetectB Tabula.C20 Tabula.C20A Tabula.C20B

/-! ## `detectZIPFormat`, every member list -/

/-- `first_mime_spec`: the FIRST mimetype member that names a known type decides — members
in front of it, further mimetype members behind it (duplicates, with the same or another
type) and everything else have no say -/
theorem first_mime_spec (ms : List Member) (f : Format) :
    firstMime ms = some f ↔
      ∃ a m b, ms = a ++ m :: b ∧ (∀ x ∈ a, mimeVerdict x = none) ∧ mimeVerdict m = some f := by
  rw [firstMime_eq_findSome?, List.findSome?_eq_some_iff]
  constructor
  · rintro ⟨a, m, b, he, hm, ha⟩; exact ⟨a, m, b, he, ha, hm⟩
  · rintro ⟨a, m, b, he, ha, hm⟩; exact ⟨a, m, b, he, hm, ha⟩

/-- two mimetype members naming different types: the first one wins, so for such an archive
(not a well-formed one: member names repeat) the order does matter — the proviso
`MimeAgree` of `zip_detect_perm_invariant` cannot be dropped -/
theorem zip_detect_conflicting_mimetypes_first_wins :
    detectZip [⟨nMimetype, some odtMime⟩, ⟨nMimetype, some epubMime⟩] = .odt ∧
    detectZip [⟨nMimetype, some epubMime⟩, ⟨nMimetype, some odtMime⟩] = .epub := by decide +kernel

/-- `zip_detect_table`: the complete decision table of `detectZIPFormat`, for every member
list: what the first deciding mimetype member says; otherwise EPUB for a container; otherwise
the first main part among word/document.xml, xl/workbook.xml, ppt/presentation.xml;
otherwise the first part directory among word/, xl/, ppt/; otherwise Unknown. -/
theorem zip_detect_table (ms : List Member) :
    (detectZip ms = .odt ↔ firstMime ms = some .odt) ∧
    (detectZip ms = .epub ↔ firstMime ms = some .epub ∨ (firstMime ms = none ∧ hasMember nContainer ms = true)) ∧
    (detectZip ms = .docx ↔ firstMime ms = none ∧ hasMember nContainer ms = false ∧
      (hasMember nWordDoc ms = true ∨
        (hasMember nXlWorkbook ms = false ∧ hasMember nPptPres ms = false ∧ hasDir pWord ms = true))) ∧
    (detectZip ms = .xlsx ↔ firstMime ms = none ∧ hasMember nContainer ms = false ∧ hasMember nWordDoc ms = false ∧
      (hasMember nXlWorkbook ms = true ∨
        (hasMember nPptPres ms = false ∧ hasDir pWord ms = false ∧ hasDir pXl ms = true))) ∧
    (detectZip ms = .pptx ↔ firstMime ms = none ∧ hasMember nContainer ms = false ∧ hasMember nWordDoc ms = false ∧
      hasMember nXlWorkbook ms = false ∧
      (hasMember nPptPres ms = true ∨ (hasDir pWord ms = false ∧ hasDir pXl ms = false ∧ hasDir pPpt ms = true))) ∧
    (detectZip ms = .unknown ↔ firstMime ms = none ∧ hasMember nContainer ms = false ∧ hasMember nWordDoc ms = false ∧
      hasMember nXlWorkbook ms = false ∧ hasMember nPptPres ms = false ∧ hasDir pWord ms = false ∧
      hasDir pXl ms = false ∧ hasDir pPpt ms = false) := by
  fun_cases detectZip ms
  · rename_i f hf
    obtain ⟨m, _, hm⟩ := firstMime_some_mem hf
    rcases mimeVerdict_range hm with rfl | rfl <;> simp [hf]
  -- down the cascade: the first test that succeeds fixes the answer, whatever the later ones say
  all_goals simp [*]

/-- `"[Content_Types].xml"` -/
def nContentTypes : Str := [91, 67, 111, 110, 116, 101, 110, 116, 95, 84, 121, 112, 101, 115, 93, 46, 120, 109, 108]

/-- a package with nothing but directories of parts; no marker, no directory: Unknown -/
example : detectZip [⟨nContentTypes, none⟩, ⟨nSheet, none⟩] = .xlsx ∧ detectZip [⟨nContentTypes, none⟩] = .unknown := by
  decide +kernel

/-- `zip_detect_looks_at_names_and_mimetype_only`: of a member the sniffer sees its name and —
for a member named "mimetype" — what its first 256 bytes say; two archives that agree on
these, member by member, get the same answer.  In particular the CONTENT of
[Content_Types].xml, of the main parts and of every embedded file is never looked at. -/
theorem zip_detect_looks_at_names_and_mimetype_only (ms ms' : List Member)
    (h : ms.map (fun m => (m.name, mimeVerdict m)) = ms'.map (fun m => (m.name, mimeVerdict m))) :
    detectZip ms = detectZip ms' := by
  have hfm : firstMime ms = firstMime ms' := by
    have e : ∀ l : List Member, firstMime l = (l.map fun m => (m.name, mimeVerdict m)).findSome? Prod.snd := by
      intro l; rw [firstMime_eq_findSome?, List.findSome?_map]; rfl
    rw [e, e, h]
  have hnames : ms.map (·.name) = ms'.map (·.name) := by
    have := congrArg (List.map Prod.fst) h
    simpa [List.map_map, Function.comp_def] using this
  have hmem : ∀ n, hasMember n ms = hasMember n ms' := by
    intro n
    have e : ∀ l : List Member, hasMember n l = (l.map (·.name)).any (fun x => decide (x = n)) := by
      intro l; simp [hasMember, List.any_map, Function.comp_def]
    rw [e, e, hnames]
  have hdir : ∀ p, hasDir p ms = hasDir p ms' := by
    intro p
    have e : ∀ l : List Member, hasDir p l = (l.map (·.name)).any (fun x => p.isPrefixOf x) := by
      intro l; simp [hasDir, List.any_map, Function.comp_def]
    rw [e, e, hnames]
  unfold detectZip
  rw [hfm]
  simp only [hmem, hdir]

/-- the same archive with other bytes in every member but the mimetype -/
example : ([⟨nMimetype, some epubMime⟩, ⟨nContainer, none⟩] : List Member).map (fun m => (m.name, mimeVerdict m)) =
    ([⟨nMimetype, some (epubMime ++ [10])⟩, ⟨nContainer, some [1, 2, 3]⟩] : List Member).map
      (fun m => (m.name, mimeVerdict m)) := by decide +kernel

/-- the byte-exact sniffer has the same table (over the canonical mimetype contents) -/
theorem zip_detect_bytes_table (ms : List Member) : detectZipB ms = detectZip (ms.map normMember) :=
  detectZipB_eq ms

/-! ## the cross-check, every pair -/

/-- `validate_format_matrix`: `validateFormat` for EVERY pair (format the name asks for —
Unknown included —, answer of the sniffer — error and Unknown included): an error of the
sniffer is an error; unclassified content passes under every name; classified content
passes iff it is what the name asks for, so under a name that asks for nothing every
classified content is a mismatch -/
theorem validate_format_matrix (extF : Format) (det : Option Format) :
    (validateFormat extF det = .detectFailed ↔ det = none) ∧
    (validateFormat extF det = .ok ↔ det = some .unknown ∨ det = some extF) ∧
    (validateFormat extF det = .mismatch ↔ ∃ d, det = some d ∧ d ≠ .unknown ∧ d ≠ extF) := by
  cases det with
  | none => simp [validateFormat]
  | some d =>
    by_cases hd : d = .unknown
    · subst hd; simp [validateFormat_unknown]
    · by_cases hne : d = extF
      · subst hne; simp [validateFormat_self]
      · simp [validateFormat_ne hd hne, hd, hne]

/-- `ensure_reader_matrix`: the four ways `ensureReader` ends before a reader is opened, for
every pair -/
theorem ensure_reader_matrix (extF : Format) (det : Option Format) :
    (ensureReader extF det = .detectFailed ↔ det = none) ∧
    (ensureReader extF det = .mismatch ↔ ∃ d, det = some d ∧ d ≠ .unknown ∧ d ≠ extF) ∧
    (ensureReader extF det = .unsupported ↔ extF = .unknown ∧ det = some .unknown) ∧
    (∀ f, ensureReader extF det = .proceed f ↔
      f = extF ∧ extF ≠ .unknown ∧ (det = some .unknown ∨ det = some extF)) :=
  ensureReader_iff extF det

/-- a PDF under a name without extension: a mismatch, not "unsupported" — the cross-check
comes first -/
example : ensureReader .unknown (some .pdf) = .mismatch ∧ ensureReader .unknown (some .unknown) = .unsupported := by
  decide +kernel

/-! ## `DetectFromMagic`, every byte string -/

/-- `detect_magic_bytes_exact`: `DetectFromMagic` answers PDF iff the data starts `%PDF`,
HTML iff it has at least four bytes, starts with neither signature and `detectHTMLMagic`
accepts ALL of it (no 512-byte window here), and never anything else: a ZIP is left to
`DetectFromReader` -/
theorem detect_magic_bytes_exact (up : CaseTable) (data : Str) :
    (detectFromMagicB up data = .pdf ↔ sPdfMagic.isPrefixOf data = true) ∧
    (detectFromMagicB up data = .html ↔ 4 ≤ data.length ∧ sPdfMagic.isPrefixOf data = false ∧
      sZipMagic.isPrefixOf data = false ∧ detectHTMLMagicB up data = true) ∧
    (detectFromMagicB up data = .pdf ∨ detectFromMagicB up data = .html ∨ detectFromMagicB up data = .unknown) := by
  unfold detectFromMagicB
  by_cases h4 : data.length < 4
  · have hp : sPdfMagic.isPrefixOf data = false := by
      cases h : sPdfMagic.isPrefixOf data with
      | false => rfl
      | true => have := isPrefixOf_length h; simp [sPdfMagic] at this; omega
    simp [h4, hp]
    omega
  · simp only [h4, if_false]
    by_cases hp : sPdfMagic.isPrefixOf data = true
    · simp [hp]
    · have hp' : sPdfMagic.isPrefixOf data = false := Bool.eq_false_iff.2 hp
      by_cases hz : sZipMagic.isPrefixOf data = true
      · simp [hp', hz]
      · have hz' : sZipMagic.isPrefixOf data = false := Bool.eq_false_iff.2 hz
        have h4' : 4 ≤ data.length := by omega
        cases hh : detectHTMLMagicB up data <;> simp [hp', hz', h4']

/-- the two content entry points agree on the bytes: on data that fits the sniffer's window
and does not start like a ZIP, `DetectFromReader` answers what `DetectFromMagic` answers -/
theorem detect_magic_bytes_agrees (up : CaseTable) (h : UpperOK up) (data : Str) (zip : Option (List Member))
    (hlen : data.length ≤ 512) (hz : sZipMagic.isPrefixOf data = false) :
    detectFromReaderB up data zip = some (detectFromMagicB up data) := by
  rw [detectFromReaderB_eq_sniffWith, detectFromMagicB_eq_magicWith]
  exact sniffWith_eq_magicWith _ (fun _ => detectHTMLMagicB_short h) zip hlen hz

example : sZipMagic.isPrefixOf [0xEF, 0xBB, 0xBF, 60, 104, 116, 109, 108, 62] = false := by decide +kernel

end Tabula.C20Z
