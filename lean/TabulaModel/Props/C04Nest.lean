import TabulaModel.Props.C04Bytes
import TabulaModel.Lemmas.XrefNest
/-!
# C04 — the limit on objects being loaded inside each other (reader/reader.go since 129dd3d)

Resolving an indirect `/Length` while its stream is being parsed re-enters `Reader.GetObject`.
The repair 129dd3d ("no input can exhaust the process") refuses the seventeenth object to be
loaded inside sixteen others (`maxNestedLoads = 16`, checked with `len(r.loading) >= 16` behind
the entry checks and the self-reference check, before the object is marked as loading).

* `nested_load_limit_is_error` — beyond the limit the model answers what the code answers;
* `nested_loads_bounded` — the recursion of a lookup is at most 16 `GetObject` calls deep on
  every file (the model's structural fuel, 17, is never what ends it);
* `nested_loads_within_limit` / `nested_loads_beyond_limit` — a chain of `d` nested loads
  (streams whose `/Length` is held by another object, object streams whose `/Length` is held by
  a member of another object stream, …) is answered exactly as written iff `d ≤ 16`.

A document that conforms to ISO 32000-1 nests at most three loads: a stream, its `/Length` held
by a member of an object stream, that object stream's own `/Length` held by a plain object
(7.5.7 forbids storing the `/Length` of an object stream inside an object stream). The
end-to-end theorems of `Props/C04Bytes.lean` are the case of one load.
-/
namespace Tabula.C04N
open Tabula.XrefFile Tabula.XrefBytes Tabula.Pdf Tabula.Reader Tabula.C04B

/-- **nested_load_limit_is_error** (what the code answers beyond the bound): with 16 objects
already in the middle of being loaded, `GetObject` of any further object is an error — whatever
the table and the file say about it -/
theorem nested_load_limit_is_error (ext : Reader.Ext) (file : List Nat) (x : RawSection) (fuel : Nat)
    (loading : List Int) (n : Int) (h : 16 ≤ loading.length) :
    getObjectB ext file x fuel loading n = none :=
  getObjectB_limit ext file x fuel loading n h

/-- **nested_loads_bounded** (bounded work, every file): the lookup the reader makes
(`getObjectB` with 17 units of nesting fuel from an empty `loading` set) never runs out of that
fuel — more fuel gives the same answer on every file and table: no lookup is more than 16
`GetObject` calls deep, each call parsing one indirect object (and, for a compressed entry,
one object stream). (Before 129dd3d the depth was bounded only by the number of objects.) -/
theorem nested_loads_bounded (ext : Reader.Ext) (file : List Nat) (x : RawSection) (n : Int) (k : Nat) :
    getObjectB ext file x (maxNestedLoads + 1 + k) [] n = getObjectB ext file x (maxNestedLoads + 1) [] n :=
  getObjectB_fuel ext file x _ _ [] n (by simp) (by simp)

/-- … and the same at any nesting: with `loading` already being loaded, `17 - loading.length`
further levels are all there can be -/
theorem nested_loads_bounded_at (ext : Reader.Ext) (file : List Nat) (x : RawSection) (loading : List Int)
    (n : Int) (k : Nat) :
    getObjectB ext file x (maxNestedLoads + 1 - loading.length + k) loading n =
      getObjectB ext file x (maxNestedLoads + 1 - loading.length) loading n :=
  getObjectB_fuel ext file x _ _ loading n (by omega) (by omega)

/-- at offset `off` of `file` stands the stream object `num` whose `/Length` is the reference
`m g R` (any legal spelling of everything) -/
def StreamRefAt (file : List Nat) (off : Int) (num : Nat) (b : Body) (m g : Int) : Prop :=
  ∃ (before : List Nat) (gen : Nat) (s1 s2 : Sep) (rest : List Nat),
    file = before ++ renderIndirect num gen s1 s2 b rest ∧ (before.length : Int) = off ∧
    num ≤ Tabula.A1.maxInt64 ∧ gen ≤ Tabula.A1.maxInt64 ∧ SepOk s1 ∧ s1 ≠ [] ∧ SepOk s2 ∧ s2 ≠ [] ∧
    b.OkRef m g ∧ Terminated rest

theorem uncompressedAt_streamRef (file : List Nat) (off : Int) (num : Nat) (b : Body) (m g : Int)
    (lenOf : Int → Option Int) (h : StreamRefAt file off num b m g)
    (hl : lenOf m = some (b.dataLen : Int)) : uncompressedAt file (num : Int) off lenOf = some b.value := by
  obtain ⟨before, gen, s1, s2, rest, rfl, rfl, hn, hg, h1, h1n, h2, h2n, hb, hT⟩ := h
  rw [uncompressedAt_of_parse
    (parseIndirect_render lenOf num gen s1 s2 b rest hn hg h1 h1n h2 h2n (hb.ok lenOf hl) hT)]
  exact if_pos rfl

theorem uncompressedAt_streamRef_unresolved (file : List Nat) (off : Int) (num : Nat) (b : Body) (m g : Int)
    (lenOf : Int → Option Int) (h : StreamRefAt file off num b m g)
    (hl : lenOf m = none) : uncompressedAt file (num : Int) off lenOf = none := by
  obtain ⟨before, gen, s1, s2, rest, rfl, rfl, hn, hg, h1, h1n, h2, h2n, hb, hT⟩ := h
  exact uncompressedAt_of_parse_none
    (parseIndirect_render_unresolved lenOf num gen s1 s2 b rest m g hn hg h1 h1n h2 h2n hb hl hT)

/-- `Loads ext file x n v path`: by the table `x` and the bytes of `file`, object `n` is written
as the value `v`, and loading it loads the objects `path` inside each other (`n` first):
* `direct` — an in-use entry, the object needs no resolver (a plain value, a stream with a
  direct `/Length`);
* `stream` — an in-use entry, a stream whose `/Length` is `m g R`, and `m` is (by a chain of
  its own) the integer number of data bytes;
* `member` — a compressed entry, the object stream needs no resolver;
* `memberRef` — a compressed entry, the object stream's `/Length` is `m g R` as above (the
  object stream itself is read by `getObjectStream` without passing through `GetObject`: it
  does not count). -/
inductive Loads (ext : Reader.Ext) (file : List Nat) (x : RawSection) : Int → PVal → List Int → Prop
  | direct (num : Nat) (e : RawEntry) (b : Body) :
      getLastI x (num : Int) = some e → e.kind = .inUse → ObjectAt file e.f1 num b →
      Loads ext file x (num : Int) b.value [(num : Int)]
  | stream (num : Nat) (e : RawEntry) (b : Body) (m g : Int) (path : List Int) :
      getLastI x (num : Int) = some e → e.kind = .inUse → StreamRefAt file e.f1 num b m g →
      Loads ext file x m (.obj (.int (b.dataLen : Int))) path →
      Loads ext file x (num : Int) b.value ((num : Int) :: path)
  | member (n : Int) (e se : RawEntry) (stm : Nat) (pre : Sep) (kvs : List SObj) (close s3 : Sep)
      (seol : StreamEol) (data w4 : List Nat) (s5 : Sep) (os : Reader.ObjStm) (o : Obj) :
      getLastI x n = some e → e.kind = .compressed → e.f1 = (stm : Int) →
      getLastI x (stm : Int) = some se → se.kind ≠ .compressed →
      ObjectAt file se.f1 stm (.stream pre kvs close s3 seol data w4 s5) →
      Reader.mkObjStm ext (valueKVs kvs) data = .ok os → osSpec (.ok os) e.f2 = some (n, o) →
      Loads ext file x n (.obj o) [n]
  | memberRef (n : Int) (e se : RawEntry) (stm : Nat) (pre : Sep) (kvs : List SObj) (close s3 : Sep)
      (seol : StreamEol) (data w4 : List Nat) (s5 : Sep) (os : Reader.ObjStm) (o : Obj) (m g : Int)
      (path : List Int) :
      getLastI x n = some e → e.kind = .compressed → e.f1 = (stm : Int) →
      getLastI x (stm : Int) = some se → se.kind ≠ .compressed →
      StreamRefAt file se.f1 stm (.stream pre kvs close s3 seol data w4 s5) m g →
      Loads ext file x m (.obj (.int (data.length : Int))) path →
      Reader.mkObjStm ext (valueKVs kvs) data = .ok os → osSpec (.ok os) e.f2 = some (n, o) →
      Loads ext file x n (.obj o) (n :: path)

theorem Loads.path_pos {ext : Reader.Ext} {file : List Nat} {x : RawSection} {n : Int} {v : PVal} {path : List Int}
    (h : Loads ext file x n v path) : 1 ≤ path.length := by
  cases h <;> simp

/-- the member of a decoded object stream, as `getCompressedObject` extracts it -/
theorem memberAtI_of_spec (os : Reader.ObjStm) (n : Int) (idx : Int) (o : Obj)
    (hmem : osSpec (.ok os) idx = some (n, o)) : (memberAtI os n idx).map PVal.obj = some (.obj o) := by
  rw [memberAtI_of_osSpec hmem]
  rfl

/-- a written chain is a chain of reads: each object is found through the table, stands there in a
layout that parses (given the answer for its `/Length`, if that is a reference), and is the value
or the member picked -/
theorem Loads.reads {ext : Reader.Ext} {file : List Nat} {x : RawSection} {n : Int} {v : PVal} {path : List Int}
    (h : Loads ext file x n v path) : Reads ext file x n v path := by
  induction h with
  | direct num e b hx he hobj =>
    exact .leaf (XrefC.locate_inUse hx he) (fun lenOf => uncompressedAt_object file e.f1 num b lenOf hobj) rfl
  | member n e se stm pre kvs close s3 seol data w4 s5 os o hx he hstm hs hse hobj hdec hmem =>
    exact .leaf (locate_member hx he (hstm ▸ hs) hse)
      (fun lenOf => hstm ▸ uncompressedAt_object file se.f1 stm _ lenOf hobj) (pick_member hdec hmem)
  | stream num e b m g path hx he hobj _ ih =>
    exact .node (XrefC.locate_inUse hx he) ih
      (fun lenOf hl => uncompressedAt_streamRef file e.f1 num b m g lenOf hobj hl)
      (fun lenOf hl => uncompressedAt_streamRef_unresolved file e.f1 num b m g lenOf hobj hl) rfl
  | memberRef n e se stm pre kvs close s3 seol data w4 s5 os o m g path hx he hstm hs hse hobj _ hdec hmem ih =>
    exact .node (locate_member hx he (hstm ▸ hs) hse) ih
      (fun lenOf hl => hstm ▸ uncompressedAt_streamRef file se.f1 stm _ m g lenOf hobj hl)
      (fun lenOf hl => hstm ▸ uncompressedAt_streamRef_unresolved file se.f1 stm _ m g lenOf hobj hl)
      (pick_member hdec hmem)

/-- a chain that fits the limit is read exactly as written, at any nesting -/
theorem loads_within (ext : Reader.Ext) (file : List Nat) (x : RawSection) (n : Int) (v : PVal) (path : List Int)
    (h : Loads ext file x n v path) :
    ∀ (loading : List Int) (fuel : Nat), path.Nodup → (∀ a ∈ path, a ∉ loading) →
      loading.length + path.length ≤ maxNestedLoads → path.length ≤ fuel →
      getObjectB ext file x fuel loading n = some v :=
  -- the `Nodup` premise is not used: no object is loaded inside itself along a chain that is read (`Reads.nodup`)
  fun loading fuel _ => reads_within h.reads loading fuel

/-- a chain that does not fit the limit is an error, at any nesting and with any fuel -/
theorem loads_beyond (ext : Reader.Ext) (file : List Nat) (x : RawSection) (n : Int) (v : PVal) (path : List Int)
    (h : Loads ext file x n v path) :
    ∀ (loading : List Int) (fuel : Nat), maxNestedLoads < loading.length + path.length →
      getObjectB ext file x fuel loading n = none :=
  reads_beyond h.reads

/-- **nested_loads_within_limit** (the property's first sentence at every nesting the code
allows): if by the table `reader.Open` keeps and the bytes of the file, object `n` is written as
`v` through a chain of `d ≤ 16` distinct objects (`hnd`, which `loads_within` does not need: no object is
loaded inside itself along a chain that is read, `Reads.nodup`) loaded inside each other — each a stream or an
object-stream member whose (object stream's) `/Length` is held by the next, the last one needing
no resolver — then `reader.Open(file).GetObject(n)` is exactly `v`. -/
theorem nested_loads_within_limit (ext : Reader.Ext) (file : List Nat) (x : RawSection) (n : Int) (v : PVal)
    (path : List Int) (hopen : openFile ext file = .ok x) (h : Loads ext file x n v path)
    (hnd : path.Nodup) (hd : path.length ≤ 16) :
    lookup ext file n = .ok (some v) := by
  rw [lookup_of_open hopen, loads_within ext file x n v path h [] (maxNestedLoads + 1) hnd (by simp)
    (by simp [maxNestedLoads]; omega) (by simp [maxNestedLoads]; omega)]

/-- **nested_loads_beyond_limit** (beyond the bound the model answers what the code answers):
the same chain with `d ≥ 17` objects is an error — although every object of it is written in
the file as the table says. This is what 129dd3d changed: before, the chain was answered at any
length (and the memory needed grew with its square). -/
theorem nested_loads_beyond_limit (ext : Reader.Ext) (file : List Nat) (x : RawSection) (n : Int) (v : PVal)
    (path : List Int) (hopen : openFile ext file = .ok x) (h : Loads ext file x n v path)
    (hd : 17 ≤ path.length) :
    lookup ext file n = .ok none := by
  rw [lookup_of_open hopen,
    loads_beyond ext file x n v path h [] (maxNestedLoads + 1) (by simp [maxNestedLoads]; omega)]

/-- **nested_loads_witness**: `Loads` is satisfiable by a chain of two — the file
`1 0 obj <</Length 2 0 R>> stream LF abc LF endstream endobj LF 2 0 obj 3 endobj LF` with the
table "1 in use at 0, 2 in use behind it": object 1 loads as the stream `abc`, loading object 2
inside it. -/
theorem nested_loads_witness (ext : Reader.Ext) :
    ∃ (file : List Nat) (x : RawSection) (kv : Dict),
      Loads ext file x 1 (.stream kv [97, 98, 99]) [1, 2] := by
  let lenKey : SObj := SObj.name [] [.raw 76, .raw 101, .raw 110, .raw 103, .raw 116, .raw 104]
  let kvs : List SObj := [lenKey, SObj.ref [.ws 32] 2 0 [.ws 32] [.ws 32]]
  let b1 : Body := .stream [.ws 10] kvs [] [.ws 10] .lf [97, 98, 99] [10] [.ws 10]
  let b2 : Body := .plain (SObj.int [.ws 10] false 0 3) [.ws 10]
  let o1 := renderIndirect 1 0 [.ws 32] [.ws 32] b1 []
  let o2 := renderIndirect 2 0 [.ws 32] [.ws 32] b2 []
  let file := o1 ++ ([10] ++ (o2 ++ [10]))
  let off2 : Int := ((o1 ++ [10] : List Nat).length : Int)
  let x : RawSection := [(1, ⟨.inUse, 0, 0⟩), (2, ⟨.inUse, off2, 0⟩)]
  have hws32 : SepOk [SepUnit.ws 32] := sepOk_ws rfl
  have hws10 : SepOk [SepUnit.ws 10] := sepOk_ws rfl
  have h1 : StreamRefAt file 0 1 b1 2 0 := by
    refine ⟨[], 0, [.ws 32], [.ws 32], [10] ++ (o2 ++ [10]), ?_, rfl, by decide, by decide, hws32,
      List.cons_ne_nil _ _, hws32, List.cons_ne_nil _ _, ?_, Prs.term_cons 10 _ (by decide)⟩
    · show o1 ++ _ = [] ++ _
      rw [renderIndirect_append 1 0 [.ws 32] [.ws 32] b1 ([10] ++ _)]
      simp [o1]
    · refine ⟨?_, ?_, hws10, ?_, hws10, List.cons_ne_nil _ _, ?_⟩
      · exact valid_singleDict (v := SObj.ref [.ws 32] 2 0 [.ws 32] [.ws 32]) hws10 sepOk_nil sepOk_nil
          (regularName_ok (bs := [76, 101, 110, 103, 116, 104]) (by decide))
          ⟨hws32, fun _ => List.cons_ne_nil _ _, hws32, List.cons_ne_nil _ _, hws32, List.cons_ne_nil _ _,
            by decide, by decide⟩ true
      · simp [kvs, lenKey, SObj.value, Obj.depth, valueKVs, Obj.depthKV, maxNestingDepth]
      · intro c hc; simp at hc; subst hc; decide
      · simp [kvs, lenKey, valueKVs, SObj.keyBytes, SObj.value, dget, kLength, NPiece.byte]
  have h2 : ObjectAt file off2 2 b2 := by
    refine ⟨o1 ++ [10], 0, [.ws 32], [.ws 32], [10], ?_, rfl, by decide, by decide, hws32, List.cons_ne_nil _ _,
      hws32, List.cons_ne_nil _ _, ?_, Prs.term_cons 10 _ (by decide)⟩
    · show o1 ++ ([10] ++ (o2 ++ [10])) = _
      rw [renderIndirect_append 2 0 [.ws 32] [.ws 32] b2 [10]]
      simp [o2]
    · exact ⟨⟨hws10, fun _ => List.cons_ne_nil _ _, by decide, by decide⟩, Nat.zero_le _, hws10,
        fun _ => List.cons_ne_nil _ _⟩
  have hx1 : getLastI x ((1 : Nat) : Int) = some ⟨.inUse, 0, 0⟩ := by
    simp [x, getLastI]
  have hx2 : getLastI x ((2 : Nat) : Int) = some ⟨.inUse, off2, 0⟩ := by
    simp [x, getLastI]
  have l2 : Loads ext file x ((2 : Nat) : Int) b2.value [((2 : Nat) : Int)] :=
    .direct 2 _ b2 hx2 rfl h2
  have l1 : Loads ext file x ((1 : Nat) : Int) b1.value [((1 : Nat) : Int), ((2 : Nat) : Int)] :=
    .stream 1 _ b1 2 0 _ hx1 rfl h1 l2
  exact ⟨file, x, valueKVs kvs, l1⟩

/-- **at the edge of the bound**: in that file, object 1 — which loads object 2 inside itself —
is read as written with a `loading` list of length 14 (1 and 2 are then the 15th and the 16th), and
is an error with one of length 15 (the lists hold the number 7 fourteen and fifteen times: their
length is all the limit looks at): the 17th load is refused although every byte is
as the table says. (The harness runs the code and the model on files whose chains are 15, 16,
17, 18, 40 and 300 loads long.) -/
theorem nested_loads_edge (ext : Reader.Ext) :
    ∃ (file : List Nat) (x : RawSection) (kv : Dict),
      getObjectB ext file x 17 (List.replicate 14 7) 1 = some (.stream kv [97, 98, 99]) ∧
      getObjectB ext file x 17 (List.replicate 15 7) 1 = none := by
  obtain ⟨file, x, kv, h⟩ := nested_loads_witness ext
  refine ⟨file, x, kv, ?_, ?_⟩
  · exact loads_within ext file x 1 _ _ h (List.replicate 14 7) 17 (by decide)
      (by
        intro a ha hm
        have := List.eq_of_mem_replicate hm
        subst this
        simp at ha)
      (by simp [maxNestedLoads]) (by simp)
  · exact loads_beyond ext file x 1 _ _ h (List.replicate 15 7) 17 (by simp [maxNestedLoads])

end Tabula.C04N
