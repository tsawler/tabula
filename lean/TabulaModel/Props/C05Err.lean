import TabulaModel.Lemmas.FiltersA85Reads
import TabulaModel.Lemmas.StreamDict
/-!
# C05, the second sentence closed from both sides — "undecodable data yields an error, not wrong bytes"

`Props/C05.lean` lists failure classes (`undecodable_*`: each is an error); `Props/C05S.lean` shows
that bytes come only from encodings (`*_decode_iff`, `decode_not_wrong_bytes`: one direction at the
level of `Decode()`). This file states, for every filter and for `Decode()` itself, the set of inputs
on which the result is an error **exactly** (`… = none ↔ …`), for all inputs:

* `png_error_iff`, `tiff_error_iff` — the predictors fail iff BitsPerComponent ≠ 8, the geometry is
  refused, the data is no whole number of rows, or (PNG) a row starts with a filter-type byte above
  4. In particular no index of `decodePNGRow` / `applyTIFFPredictor2` can leave its buffer
  (`predictor_rows_never_fail`): the `none` that stands for a Go index panic is unreachable.
* `flate_error_iff` — FlateDecode fails iff zlib fails, the Predictor is outside {1, 2, 10..15}, or
  the selected predictor fails.
* `a85_decode_iff`, `a85_error_iff`, `a85_reads_xor_bad`, `a85_final_group_cases` — ASCII85: the
  decoder returns `y` iff the cleaned data reads as `y` (`z`, full groups within 2^32-1, a final
  partial group of 2..4 digits, a single final digit ignored); it fails iff the cleaned data is bad
  (`A85Bad`); exactly one of the two holds of every input.
* `stage_error_iff`, `decode_bytes_iff`, `decode_error_iff` — `Decode()` returns bytes iff the data
  reads stage by stage (the converse of `C05S.decode_not_wrong_bytes`), and it returns an error iff
  the `Filter` entry has a wrong type, or the first `k` filters succeed and the entry at `k` is no
  name or its filter fails.
-/
namespace Tabula.C05Err
open Tabula.Filters

/-- for all data and parameters, `applyPNGPredictor` is an error exactly when
BitsPerComponent (default 8) is not 8, Columns / Colors (default 1) are refused by
`predictorRowBytes` (below 1, or a row above 2^31-2 bytes), the data is no whole number of rows of
`rb + 1` bytes, or some row `k` starts with a filter-type byte above 4. -/
theorem png_error_iff (data : Str) (p : Params) :
    applyPNGPredictor data p = none ↔
      (p.bpc.getD 8 ≠ 8 ∨ predictorRowBytes (p.columns.getD 1) (p.colors.getD 1) = none ∨
       ∃ rb, predictorRowBytes (p.columns.getD 1) (p.colors.getD 1) = some rb ∧
         (data.length % (rb + 1) ≠ 0 ∨
          ∃ k t, k < data.length / (rb + 1) ∧ data[k * (rb + 1)]? = some t ∧ t > 4)) := by
  rw [applyPNGPredictor_eq_none_iff]
  refine or_congr_right (or_congr_right (exists_congr fun rb => and_congr_right fun hrb =>
    Decidable.or_congr_right' fun hmod => ?_))
  -- whole rows of an accepted geometry: the row loop fails exactly at a filter-type byte above 4
  obtain ⟨_, colors, _, hcolors, hc1, hc2, _, hrbe⟩ := (predictorRowBytes_eq_some_iff _ _ rb).mp hrb
  rcases pngRows_char (p.colors.getD 1).toNat rb (by omega) (hrbe ▸ Nat.mul_pos hc1 hc2) _ data (List.replicate rb 0) none []
    (whole_rows (Decidable.not_not.mp hmod)) (Or.inl ⟨rfl, rfl⟩) with
    ⟨hnone, hbad⟩ | ⟨tags, _, _, htags, hheads, _, _, hy, _⟩
  · exact ⟨fun _ => hbad, fun _ => hnone⟩
  · rw [hy]
    refine ⟨nofun, fun ⟨k, t, hk, ht, ht4⟩ => ?_⟩
    rw [hheads k hk] at ht
    exact absurd (htags t (List.mem_of_getElem? ht)) (by omega)

/-- non-vacuity, one witness per disjunct: 4 bits; Columns 0; five bytes for rows of 3 + 1; the
second row starts with 5 — and a good one -/
example : applyPNGPredictor [0, 1, 2, 3] { columns := some 3, bpc := some 4 } = none ∧
    applyPNGPredictor [0, 1, 2, 3] { columns := some 0 } = none ∧
    applyPNGPredictor [0, 1, 2, 3, 4] { columns := some 3 } = none ∧
    applyPNGPredictor [0, 1, 2, 3, 5, 1, 2, 3] { columns := some 3 } = none ∧
    applyPNGPredictor [0, 1, 2, 3, 4, 1, 2, 3] { columns := some 3 } = some [1, 2, 3, 2, 4, 7] := by decide

/-- `applyTIFFPredictor2` is an error exactly when BitsPerComponent ≠ 8, the
geometry is refused, or the data is no whole number of rows — no data of whole rows is refused. -/
theorem tiff_error_iff (data : Str) (p : Params) :
    applyTIFFPredictor2 data p = none ↔
      (p.bpc.getD 8 ≠ 8 ∨ predictorRowBytes (p.columns.getD 1) (p.colors.getD 1) = none ∨
       ∃ rb, predictorRowBytes (p.columns.getD 1) (p.colors.getD 1) = some rb ∧ data.length % rb ≠ 0) := by
  rw [applyTIFFPredictor2_eq_none_iff]
  refine or_congr_right (or_congr_right (exists_congr fun rb => and_congr_right fun hrb => ?_))
  -- the row loop never fails on whole rows
  refine ⟨fun h => h.elim id fun hn hmod => ?_, .inl⟩
  obtain ⟨_, cs, _, hcs, _, h2, _, _⟩ := (predictorRowBytes_eq_some_iff _ _ rb).mp hrb
  obtain ⟨y, _, _, hy, _⟩ := tiffRows_char (p.colors.getD 1).toNat rb (by omega) _ data [] (whole_rows hmod)
  rw [hy] at hn
  cases hn

example : applyTIFFPredictor2 [1, 2, 3] { columns := some 2 } = none ∧
    applyTIFFPredictor2 [1, 2, 3, 4] { columns := some 2 } = some [1, 3, 3, 7] := by decide

/-- (no index panic) a row with filter type 0..4 decodes whatever
its bytes, the row above and the bytes-per-pixel distance ≥ 1 — every `result[i-bpp]`,
`prevRows[(row-1)*rowLength+i]`, `prevRows[(row-1)*rowLength+i-bpp]` the Go code reads lies inside
its buffer; the same for `result[idx-colors]` of the TIFF predictor. The decoded row has the length
of the filtered one. -/
theorem predictor_rows_never_fail (tag bpp : Nat) (prev : Option Str) (f : Str) (htag : tag ≤ 4) (hb : 1 ≤ bpp)
    (hprev : prev = none ∨ ∃ pr, prev = some pr ∧ pr.length = f.length) :
    (∃ row, decodePNGRow f tag bpp prev = some row ∧ row.length = f.length) ∧
    (∃ row, decRow (tiffPredicted bpp) f [] = some row ∧ row.length = f.length) := by
  refine ⟨?_, ?_⟩
  · obtain ⟨prior, hrel⟩ : ∃ prior, PriorRel prev prior f.length := by
      rcases hprev with h | ⟨pr, h, hl⟩
      · exact ⟨_, Or.inl ⟨h, rfl⟩⟩
      · exact ⟨pr, Or.inr ⟨h, hl⟩⟩
    obtain ⟨row, h, hl, _⟩ := decodePNGRow_char tag bpp prev prior f htag hb hrel
    exact ⟨row, h, hl⟩
  · obtain ⟨row, h, hl, _⟩ := decRow_char (tiffPredicted bpp) (specTiffAt bpp) f.length
      (fun done _ => tiffPredicted_eq_spec bpp hb done) f [] (Nat.zero_add _)
    exact ⟨row, h, hl⟩

example : ∃ pr : Str, (some [7, 8, 9] : Option Str) = some pr ∧ pr.length = [1, 2, 3].length := ⟨_, rfl, rfl⟩

/-- `FlateDecode` fails exactly when zlib fails, or the parameters hold a
numeric Predictor other than 1 that is not 2 or 10..15, or the selected predictor fails
(`tiff_error_iff` / `png_error_iff` say when). A missing / non-numeric Predictor, Predictor 1 and
absent parameters never fail after a successful inflate. -/
theorem flate_error_iff (inflate : Str → Option Str) (data : Str) (params : Option Params) :
    flateDecode inflate data params = none ↔
      (inflate data = none ∨
       ∃ dec p pr, inflate data = some dec ∧ params = some p ∧ p.predictor = some pr ∧ pr ≠ 1 ∧
         ((pr ≠ 2 ∧ (pr < 10 ∨ pr > 15)) ∨ (pr = 2 ∧ applyTIFFPredictor2 dec p = none) ∨
          (10 ≤ pr ∧ pr ≤ 15 ∧ applyPNGPredictor dec p = none))) := by
  unfold flateDecode
  cases hi : inflate data with
  | none => exact ⟨fun _ => .inl rfl, fun _ => rfl⟩
  | some dec =>
    rcases flatePost_cases params dec with ⟨hplain, e⟩ | ⟨p, pr, hp, hpr, h1, e⟩ <;> simp only [e]
    · refine ⟨nofun, ?_⟩
      rintro (h | ⟨dec', p, pr, _, hp, hpr, h1, _⟩)
      · cases h
      · rcases hplain with h | ⟨p', hp', h | h⟩
        · rw [hp] at h; cases h
        · rw [hp] at hp'; cases hp'; rw [hpr] at h; cases h
        · rw [hp] at hp'; cases hp'; rw [hpr] at h; cases h; exact absurd rfl h1
    · -- a numeric Predictor other than 1: `applyPredictor` decides
      have key : applyPredictor dec pr p = none ↔
          ((pr ≠ 2 ∧ (pr < 10 ∨ pr > 15)) ∨ (pr = 2 ∧ applyTIFFPredictor2 dec p = none) ∨
           (10 ≤ pr ∧ pr ≤ 15 ∧ applyPNGPredictor dec p = none)) := by
        rcases applyPredictor_cases dec p pr with ⟨h, e'⟩ | ⟨h, e'⟩ | ⟨h, e'⟩ | ⟨h, e'⟩ <;> rw [e']
        · exact absurd h h1
        · constructor
          · intro hn; exact .inr (.inl ⟨h, hn⟩)
          · rintro (⟨h2, _⟩ | ⟨_, hn⟩ | ⟨_, _, _⟩)
            · exact absurd h h2
            · exact hn
            · omega
        · constructor
          · intro hn; exact .inr (.inr ⟨h.1, h.2, hn⟩)
          · rintro (⟨_, _⟩ | ⟨_, _⟩ | ⟨_, _, hn⟩)
            · omega
            · omega
            · exact hn
        · exact ⟨fun _ => .inl ⟨h.2.1, h.2.2⟩, fun _ => rfl⟩
      rw [key]
      constructor
      · intro hc; exact .inr ⟨dec, p, pr, rfl, hp, hpr, h1, hc⟩
      · rintro (h | ⟨dec', p', pr', hd, hp', hpr', _, hc⟩)
        · cases h
        · cases hd
          rw [hp] at hp'; cases hp'
          rw [hpr] at hpr'; cases hpr'
          exact hc

example : flateDecode some [0, 1, 2, 3] (some { predictor := some 9 }) = none := by decide

/-- on every input the decoder returns `y` exactly when the cleaned data
(everything before the first `~>`, white space removed) reads as `y` by §7.4.3 -/
theorem a85_decode_iff (s y : Str) : a85Decode s = some y ↔ A85Reads (a85BodyOf s) y := by
  rw [a85Decode_eq_spec, a85Spec]
  exact a85Groups_some_iff _ y

/-- … and it is an error exactly when the cleaned data is bad: a character
outside `!`..`u` among the (up to) five of a group that does not start with `z` (so also a `z`
inside a group), five digits above 2^32-1, a final partial group whose `u`-padded value is above
2^32-1 — at the first group or after any number of good `z` / full groups. -/
theorem a85_error_iff (s : Str) : a85Decode s = none ↔ A85Bad (a85BodyOf s) := by
  rw [a85Decode_eq_spec, a85Spec]
  exact a85Groups_none_iff _

/-- every input reads as exactly one byte string or is bad, never both -/
theorem a85_reads_xor_bad (body : Str) :
    ((∃ y, A85Reads body y) ∨ A85Bad body) ∧ ¬ ((∃ y, A85Reads body y) ∧ A85Bad body) ∧
    (∀ y y', A85Reads body y → A85Reads body y' → y = y') := by
  refine ⟨?_, ?_, ?_⟩
  · exact a85Reads_or_bad _ body rfl
  · rintro ⟨⟨y, hy⟩, hb⟩
    have h1 := a85Reads_groups body y hy
    rw [a85Bad_groups body hb] at h1
    exact absurd h1 (by simp)
  · intro y y' h h'
    have h1 := a85Reads_groups body y h
    rw [a85Reads_groups body y' h'] at h1
    exact (Option.some.inj h1).symm

/-- the final partial group, length by length, with its `u` padding
written out: one digit `!`..`r` stands for nothing (`s`, `t`, `u` alone are an error: padded with
`uuuu` they exceed 2^32-1); 2 / 3 / 4 digits stand for the first 1 / 2 / 3 bytes of
the padded 32-bit value, or are an error when that exceeds 2^32-1 (e.g. `uu`). -/
theorem a85_final_group_cases (d0 d1 d2 d3 : Nat) (h0 : d0 < 85) (h1 : d1 < 85) (h2 : d2 < 85) (h3 : d3 < 85) :
    a85Groups [d0 + 33] =
      (if (((d0 * 85 + 84) * 85 + 84) * 85 + 84) * 85 + 84 > 4294967295 then none else some []) ∧
    a85Groups [d0 + 33, d1 + 33] =
      (if (((d0 * 85 + d1) * 85 + 84) * 85 + 84) * 85 + 84 > 4294967295 then none
       else some [((((d0 * 85 + d1) * 85 + 84) * 85 + 84) * 85 + 84) / 16777216 % 256]) ∧
    a85Groups [d0 + 33, d1 + 33, d2 + 33] =
      (if (((d0 * 85 + d1) * 85 + d2) * 85 + 84) * 85 + 84 > 4294967295 then none
       else some [((((d0 * 85 + d1) * 85 + d2) * 85 + 84) * 85 + 84) / 16777216 % 256,
                  ((((d0 * 85 + d1) * 85 + d2) * 85 + 84) * 85 + 84) / 65536 % 256]) ∧
    a85Groups [d0 + 33, d1 + 33, d2 + 33, d3 + 33] =
      (if (((d0 * 85 + d1) * 85 + d2) * 85 + d3) * 85 + 84 > 4294967295 then none
       else some [((((d0 * 85 + d1) * 85 + d2) * 85 + d3) * 85 + 84) / 16777216 % 256,
                  ((((d0 * 85 + d1) * 85 + d2) * 85 + d3) * 85 + 84) / 65536 % 256,
                  ((((d0 * 85 + d1) * 85 + d2) * 85 + d3) * 85 + 84) / 256 % 256]) := by
  have p1 := a85Groups_partial [d0] (by simp) (by simpa using h0)
  have p2 := a85Groups_partial [d0, d1] (by simp) (by intro d hd; simp at hd; omega)
  have p3 := a85Groups_partial [d0, d1, d2] (by simp) (by intro d hd; simp at hd; omega)
  have p4 := a85Groups_partial [d0, d1, d2, d3] (by simp) (by intro d hd; simp at hd; omega)
  simp only [a85Chars, List.map_cons, List.map_nil] at p1 p2 p3 p4
  refine ⟨?_, ?_, ?_, ?_⟩
  · rw [p1]
    simp [a85Flush, a85Value, List.replicate]
  · rw [p2, a85Flush_2]; split <;> simp [bytes4]
  · rw [p3, a85Flush_3]; split <;> simp [bytes4]
  · rw [p4, a85Flush_4]; split <;> simp [bytes4]

/-- non-vacuity: `z`, a full group and a two-digit tail read as bytes; `uu` and a `z` inside a
group are bad -/
example : A85Reads [122, 33, 33, 33, 33, 34, 53, 115] [0, 0, 0, 0, 0, 0, 0, 1, 65] :=
  .z _ _ (.full 0 0 0 0 1 _ _ (by omega) (by omega) (by omega) (by omega) (by omega) (by omega)
    (.part [20, 82] (by simp) (by simp) (by intro d hd; simp at hd; omega) (by decide)))
example : A85Bad [117, 117] :=
  .partOverflow [84, 84] (by simp) (by simp) (by intro d hd; simp at hd; omega) (by decide)
example : A85Bad [33, 33, 122] := .char _ 2 122 (by omega) rfl (by decide) (by decide)

/-- what one stage of `Decode` is, in terms of the specifications only (the disjunction of
`C05S.StageReads`, restated here so that this file stands alone) -/
def StageReads (ext : Ext) (name : Str) (params : Option Params) (inp out : Str) : Prop :=
  ((name = nASCIIHexDecode ∨ name = nAHx) ∧ hexSpec inp = some out) ∨
  ((name = nASCII85Decode ∨ name = nA85) ∧ a85Spec inp = some out) ∨
  ((name = nFlateDecode ∨ name = nFl) ∧ ∃ dec, ext.inflate inp = some dec ∧ flatePost params dec = some out) ∨
  ((name = nDCTDecode ∨ name = nDCT ∨ name = nJPXDecode) ∧ out = inp) ∨
  ((name = nCCITTFaxDecode ∨ name = nCCF) ∧ ccittFaxDecode ext.ccitt inp params = some out)

theorem stage_bytes_iff (ext : Ext) (name : Str) (params : Option Params) (inp out : Str) :
    decodeWithFilter ext inp name params = some out ↔ StageReads ext name params inp out :=
  decodeWithFilter_some_iff ext name params inp out

/-- one stage fails exactly when — by the class of its name — ASCIIHex: a
character before the first `>` is neither white space nor a hexadecimal digit; ASCII85: the cleaned
data is bad (`A85Bad`); Flate: `flate_error_iff`; CCITT: the wrapper fails; LZW / RunLength / JBIG2 /
Crypt and every unknown name: always; DCT / JPX: never. -/
theorem stage_error_iff (ext : Ext) (name : Str) (params : Option Params) (inp : Str) :
    decodeWithFilter ext inp name params = none ↔
      (((name = nASCIIHexDecode ∨ name = nAHx) ∧ ∃ c ∈ hexBodyOf inp, hexVal c = none) ∨
       ((name = nASCII85Decode ∨ name = nA85) ∧ A85Bad (a85BodyOf inp)) ∨
       ((name = nFlateDecode ∨ name = nFl) ∧ flateDecode ext.inflate inp params = none) ∨
       ((name = nCCITTFaxDecode ∨ name = nCCF) ∧ ccittFaxDecode ext.ccitt inp params = none) ∨
       name ∉ [nFlateDecode, nFl, nASCIIHexDecode, nAHx, nASCII85Decode, nA85, nCCITTFaxDecode, nCCF,
         nDCTDecode, nDCT, nJPXDecode]) := by
  constructor
  · intro h
    rcases decodeWithFilter_cases name with ⟨hn, e⟩ | ⟨hn, e⟩ | ⟨hn, e⟩ | ⟨hn, e⟩ | ⟨_, e⟩ | ⟨hn, _⟩
    · exact .inr (.inr (.inl ⟨hn, (e ..).symm.trans h⟩))
    · exact .inl ⟨hn, (hexDecode_eq_none_iff inp).mp ((e ..).symm.trans h)⟩
    · exact .inr (.inl ⟨hn, (a85_error_iff inp).mp ((e ..).symm.trans h)⟩)
    · exact .inr (.inr (.inr (.inl ⟨hn, (e ..).symm.trans h⟩)))
    · rw [e] at h; cases h
    · exact .inr (.inr (.inr (.inr hn)))
  · rintro (⟨hn, h⟩ | ⟨hn, h⟩ | ⟨hn, h⟩ | ⟨hn, h⟩ | hn)
    · rw [decodeWithFilter_hex hn]; exact (hexDecode_eq_none_iff inp).mpr h
    · rw [decodeWithFilter_a85 hn]; exact (a85_error_iff inp).mpr h
    · rw [decodeWithFilter_flate hn]; exact h
    · rw [decodeWithFilter_ccitt hn]; exact h
    · exact decodeWithFilter_refused hn ext inp params

/-- the data passes through the filters in array order, stage `j` with the parameters `Decode`
selects for position `i + j` -/
def ChainReads (ext : Ext) (dp : DParms) : List Str → Nat → Str → Str → Prop
  | [], _, inp, out => out = inp
  | n :: ns, i, inp, out => ∃ mid, StageReads ext n (chainParams dp i) inp mid ∧ ChainReads ext dp ns (i + 1) mid out

/-- the parameters a single (non-array) `Filter` name is handed -/
def singleParams (d : Dict) : Option Params :=
  paramsObjToDict (objToPObj (match dictGet d kDecodeParms with
    | some (.array _) => none | o => o))

/-- `C05S.decode_not_wrong_bytes` with its converse: for every dictionary,
all data and every `y`, `Decode()` returns `y` **iff** `Filter` is absent (or a Go nil) and `y` is
the data itself, or `Filter` is a name and the data reads as `y` under that filter with the
`DecodeParms` entry (an array next to a name counts as none), or `Filter` is an array of names and
the data reads as `y` stage by stage, in array order, stage `i` with the `i`-th parameters. -/
theorem decode_bytes_iff (ext : Ext) (d : Dict) (data y : Str) :
    streamDecodeD ext d data = some y ↔
      (((dictGet d kFilter = none ∨ dictGet d kFilter = some .nil) ∧ y = data) ∨
       (∃ n, dictGet d kFilter = some (.name n) ∧ StageReads ext n (singleParams d) data y) ∨
       (∃ ns : List Str, dictGet d kFilter = some (.array (ns.map Obj.name)) ∧
         ChainReads ext (objToDParms (dictGet d kDecodeParms)) ns 0 data y)) := by
  rw [streamDecodeD_some_iff ext d data y (ChainReads ext _) (fun _ _ _ => Iff.rfl)
    (fun n _ _ inp _ => exists_congr fun mid => and_congr_left' (stage_bytes_iff ext n _ inp mid).symm)]
  exact or_congr_right (or_congr_left (exists_congr fun n => and_congr_right fun _ => stage_bytes_iff ext n _ data y))

/-- for every dictionary and all data, `Decode()` returns an error exactly
when (1) the `Filter` entry is neither absent / nil, a name nor an array; or (2) it is a name whose
filter fails on the data (`stage_error_iff` says when); or (3) it is an array in which, after `k`
names whose filters succeed one after the other, the entry at `k` is not a name or its filter
fails on what the first `k` produced — with the `k`-th parameters. -/
theorem decode_error_iff (ext : Ext) (d : Dict) (data : Str) :
    streamDecodeD ext d data = none ↔
      ((∃ o, dictGet d kFilter = some o ∧ o ≠ .nil ∧ (∀ s, o ≠ .name s) ∧ (∀ xs, o ≠ .array xs)) ∨
       (∃ n, dictGet d kFilter = some (.name n) ∧ decodeWithFilter ext data n (singleParams d) = none) ∨
       (∃ (pre : List Str) (x : Obj) (post : List Obj) (mid : Str),
         dictGet d kFilter = some (.array (pre.map Obj.name ++ x :: post)) ∧
         decodeChain ext (objToDParms (dictGet d kDecodeParms)) (pre.map FObj.name) 0 data = some mid ∧
         ((∀ s, x ≠ .name s) ∨ ∃ n, x = .name n ∧
           decodeWithFilter ext mid n (chainParams (objToDParms (dictGet d kDecodeParms)) pre.length) = none))) := by
  rcases streamDecodeD_cases ext d data with ⟨hf, e⟩ | ⟨n, hf, e⟩ | ⟨xs, hf, e⟩ | ⟨o, hf, h0, h1, h2, e⟩ <;>
    rw [e]
  · refine ⟨nofun, ?_⟩
    rintro (⟨o, h, h0, _⟩ | ⟨n, h, _⟩ | ⟨pre, x, post, mid, h, _⟩) <;> rcases hf with hf | hf <;>
      rw [hf] at h <;> cases h
    exact absurd rfl h0
  · constructor
    · intro h; exact .inr (.inl ⟨n, hf, h⟩)
    · rintro (⟨o, h, _, h1, _⟩ | ⟨n', h, hbad⟩ | ⟨pre, x, post, mid, h, _⟩) <;> rw [hf] at h <;> cases h
      · exact absurd rfl (h1 n)
      · exact hbad
  · rw [decodeChain_eq_none_iff]
    simp only [Nat.zero_add]
    constructor
    · rintro ⟨pre, x, post, mid, rfl, hpre, hx⟩
      exact .inr (.inr ⟨pre, x, post, mid, hf, hpre, hx⟩)
    · rintro (⟨o, h, _, _, h2⟩ | ⟨n, h, _⟩ | ⟨pre, x, post, mid, h, hpre, hx⟩) <;> rw [hf] at h <;> cases h
      · exact absurd rfl (h2 xs)
      · exact ⟨pre, x, post, mid, rfl, hpre, hx⟩
  · exact ⟨fun _ => .inl ⟨o, hf, h0, h1, h2⟩, fun _ => rfl⟩

/-- non-vacuity: `/Filter [/AHx 7 /Fl]` fails at position 1 after the hexadecimal stage read "41" -/
example : streamDecodeD { inflate := fun _ => none, ccitt := fun _ _ => none }
    [(kFilter, .array [.name nAHx, .int 7, .name nFl])] [52, 49, 62] = none := by decide

end Tabula.C05Err
