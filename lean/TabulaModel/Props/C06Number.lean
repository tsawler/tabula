import TabulaModel.Lemmas.PdfNumber
/-!
# C06 — the number grammar at full strength: every input, both parsers

`Props/C06.lean` proves that every PRINTED integer and real reads back (`int_roundtrip`, reals inside
`core_roundtrip`).  Here the number reader is characterised for EVERY input that starts with a sign, a
digit or the point — which is exactly when `NextToken` (and `contentstream.parseOperand`) read a number:

* what the lexer cuts out (`readNumber`): a text `[+-]? digit* ( . digit* )?` by maximal munch, the sign
  only in first place, at most one point — `+`, `-`, `.`, `-.`, `1.2` out of `1.2.3`, `1` out of `1-2`;
* what the conversions (as modelled: exact decimals) make of EVERY such text: an error exactly when there
  is no digit; an integer exactly when there is no point and the value fits int64; otherwise the exact
  decimal value, normalised (so `-0.0` = `0`, `1.50` = `1.5`); an integer outside int64 becomes a real in
  the document-level parser;
* the content-stream parser cuts the same lexeme from the same bytes, converts it the same way, and stops
  at the same byte; the only texts it rejects that the document-level parser accepts are integers outside
  int64.

`strconv.ParseInt` / `strconv.ParseFloat` stay trusted as modelled (`Tabula.A1.atoi`, `parseReal`).
Helper lemmas: `Lemmas/PdfNumLex.lean`, `Lemmas/PdfNumber.lean`.
-/
namespace Tabula.C06Number
open Tabula.Pdf
open Tabula.A1 (atoi maxInt64)

/-- the texts of the number grammar: optional sign, digits, and (iff `hasPoint`) a point and more digits -/
abbrev NumText (text : Str) (hasPoint : Bool) : Prop := Num.NumText text hasPoint

/-- the bytes on which both `NextToken` and `contentstream.parseOperand` start reading a number -/
abbrev NumStart (b : Nat) : Prop := b = 45 ∨ b = 43 ∨ b = 46 ∨ isDigit b = true

example : NumStart 46 ∧ NumStart 43 ∧ NumStart 55 := by decide

/-- **The lexeme, every input.**  Entered on a sign, a digit or the point, `readNumber` splits the input
into a non-empty text of the grammar and the rest, by maximal munch: the rest does not start with a digit,
and starts with a point only if the text already has one. -/
theorem number_lexeme (b : Nat) (r : Str) (hb : NumStart b) :
    b :: r = (numLoop false true (b :: r)).1 ++ (numLoop false true (b :: r)).2.2 ∧
    NumText (numLoop false true (b :: r)).1 (numLoop false true (b :: r)).2.1 ∧
    (numLoop false true (b :: r)).1 ≠ [] ∧
    (∀ c rest, (numLoop false true (b :: r)).2.2 = c :: rest →
      isDigit c = false ∧ (c = 46 → (numLoop false true (b :: r)).2.1 = true)) :=
  Num.numLoop_lexeme b r hb _ _ _ rfl

/-- **The token, every input**: `NextToken` returns that text, as a real token iff it contains a point,
and leaves exactly the rest. -/
theorem number_token (b : Nat) (r : Str) (hb : NumStart b) :
    nextToken (b :: r) =
      some (if (numLoop false true (b :: r)).2.1 then .real (numLoop false true (b :: r)).1
            else .integer (numLoop false true (b :: r)).1, (numLoop false true (b :: r)).2.2) :=
  Num.number_token b r hb

/-- "1.2.3" is the real 1.2 followed by ".3"; "1-2" is 1 followed by "-2"; "+" alone is a (bad) integer text -/
example : nextToken [49, 46, 50, 46, 51] = some (.real [49, 46, 50], [46, 51]) ∧
    nextToken [49, 45, 50] = some (.integer [49], [45, 50]) ∧
    nextToken [43, 93] = some (.integer [43], [93]) := by decide

/-- **The value of a real, every text of the grammar**: `strconv.ParseFloat` (as modelled) fails exactly when
there is no digit at all; otherwise the result is (-1)^neg · (ip fp read as one decimal numeral) / 10^|fp| in
the normal form of `Obj.real` (no trailing fractional zero, no negative zero). -/
theorem real_value (sign ip fp : Str) (hasPoint : Bool) (hs : sign = [] ∨ sign = [43] ∨ sign = [45])
    (hi : DigitStr ip) (hf : DigitStr fp) (hfd : hasPoint = false → fp = []) :
    parseReal (sign ++ ip ++ (if hasPoint then 46 :: fp else [])) =
      if ip = [] ∧ fp = [] then none
      else some (.real (decide (sign = [45]) && (normReal (digitsVal (ip ++ fp)) fp.length).1 != 0)
        (normReal (digitsVal (ip ++ fp)) fp.length).1 (normReal (digitsVal (ip ++ fp)) fp.length).2) :=
  Num.parseReal_grammar sign ip fp hasPoint hs hi hf hfd

example : DigitStr [48, 48, 55] ∧ DigitStr [53, 48] := by
  unfold DigitStr
  decide

/-- what the normal form means: `m / 10^s` is kept, `s` only shrinks, and no trailing fractional zero is left -/
theorem real_normal_form (m s : Nat) :
    m * 10 ^ (normReal m s).2 = (normReal m s).1 * 10 ^ s ∧ (normReal m s).2 ≤ s ∧
      ((normReal m s).2 = 0 ∨ (normReal m s).1 % 10 ≠ 0) :=
  normReal_spec m s

/-- **The value of an integer, every text of the grammar without a point**: `strconv.ParseInt` (as modelled)
gives a value exactly when there is a digit and the number lies in the int64 range, and then it is the number
written (leading zeros, `+`, `-0` included). -/
theorem integer_value (sign ip : Str) (hs : sign = [] ∨ sign = [43] ∨ sign = [45]) (hi : DigitStr ip) :
    atoi (sign ++ ip) =
      if ip = [] then none
      else if sign = [45] then (if digitsVal ip ≤ maxInt64 + 1 then some (-(digitsVal ip : Int)) else none)
      else (if digitsVal ip ≤ maxInt64 then some (digitsVal ip : Int) else none) :=
  Num.atoi_grammar sign ip hs hi

/-- **What `ParseObject` makes of an integer token** (when the next token is not an integer, so that the
`num gen R` lookahead does not apply): an error iff the text has no digit; the integer if it fits int64;
otherwise — the document-level parser falls back to `ParseFloat` — the real number with the same digits.
In every case exactly one token is consumed. -/
theorem integer_token_outcome (s : PState) (sign ip : Str) (hs : sign = [] ∨ sign = [43] ∨ sign = [45])
    (hi : DigitStr ip) (hp : ∀ v, s.peek ≠ some (.integer v)) :
    parseNumber s (sign ++ ip) =
      if ip = [] then .error .err
      else match atoi (sign ++ ip) with
        | some i => .ok (.int i, s.next)
        | none => .ok (.real (decide (sign = [45]) && digitsVal ip != 0) (digitsVal ip) 0, s.next) := by
  have hr := Num.parseReal_grammar sign ip [] false hs hi Num.digitStr_nil (fun _ => rfl)
  simp only [Bool.false_eq_true, if_false, List.append_nil, and_true, List.length_nil, Num.normReal_zero] at hr
  have ha := Num.atoi_grammar sign ip hs hi
  unfold parseNumber
  by_cases he : ip = []
  · rw [if_pos he] at hr ha
    rw [if_pos he, ha, hr]
  · rw [if_neg he] at hr
    rw [if_neg he]
    cases hat : atoi (sign ++ ip) with
    | none =>
      simp only [hr]
    | some i =>
      cases hpk : s.peek with
      | none => rfl
      | some t =>
        cases t with
        | integer v => exact absurd hpk (hp v)
        | _ => rfl

example : ∀ v, (stateAt [49, 32, 47, 65]).peek ≠ some (.integer v) := by
  intro v h
  have : (stateAt [49, 32, 47, 65]).peek = some (.name [65]) := by decide
  rw [this] at h
  cases h

/-- **Both parsers read the same number from the same bytes, every input.**  Whenever
`contentstream.parseNumber` succeeds, the document-level token carries the very text it converted; an integer
token gives that integer, a real token that real; and both stop at the same byte. -/
theorem number_agrees (b : Nat) (r : Str) (o : Obj) (rest : Str) (hb : NumStart b)
    (h : CS.parseNumber (b :: r) = some (o, rest)) :
    (∃ text i, nextToken (b :: r) = some (.integer text, rest) ∧ atoi text = some i ∧ o = .int i) ∨
    (∃ text, nextToken (b :: r) = some (.real text, rest) ∧ parseReal text = some o) := by
  have ht := Num.number_token b r hb
  dsimp only at ht
  rw [Prog.cs_parseNumber_conv b r hb, Option.map_eq_some_iff] at h
  obtain ⟨o', ho, e⟩ := h
  cases e
  cases hd : (numLoop false true (b :: r)).2.1 with
  | true => rw [hd, if_pos rfl] at ht ho; exact Or.inr ⟨_, ht, ho⟩
  | false =>
    rw [hd, if_neg (by decide)] at ht ho
    obtain ⟨i, hi, rfl⟩ := Option.map_eq_some_iff.mp ho
    exact Or.inl ⟨_, i, ht, hi, rfl⟩

example : (CS.parseNumber [45, 46, 53, 48, 93]).isSome = true := by decide +kernel

/-- The content-stream parser converts exactly the document-level lexeme (`readNumber`'s text): as a real if
it has a point, else as an int64 integer — one lexeme for both parsers, every input. -/
theorem number_lexeme_shared (b : Nat) (r : Str) (hb : NumStart b) :
    CS.parseNumber (b :: r) =
      (if (numLoop false true (b :: r)).2.1 then
        (match parseReal (numLoop false true (b :: r)).1 with
          | none => none
          | some o => some (o, (numLoop false true (b :: r)).2.2))
      else
        (match atoi (numLoop false true (b :: r)).1 with
          | none => none
          | some v => some (.int v, (numLoop false true (b :: r)).2.2))) :=
  Prog.cs_parseNumber_lexeme b r hb

/-- The content-stream parser rejects a number only when the conversion of the lexeme fails: `ParseFloat` on a
lexeme with a point, `ParseInt` on one without (by `real_value` / `integer_value`: a lexeme without a digit, or
an integer outside int64, which the document-level parser reads as a real: `integer_token_outcome`). -/
theorem number_rejections (b : Nat) (r : Str) (hb : NumStart b) (h : CS.parseNumber (b :: r) = none) :
    ((numLoop false true (b :: r)).2.1 = true ∧ parseReal (numLoop false true (b :: r)).1 = none) ∨
    ((numLoop false true (b :: r)).2.1 = false ∧ atoi (numLoop false true (b :: r)).1 = none) := by
  rw [Prog.cs_parseNumber_conv b r hb, Option.map_eq_none_iff] at h
  cases hd : (numLoop false true (b :: r)).2.1 with
  | true => rw [hd, if_pos rfl] at h; exact Or.inl ⟨rfl, h⟩
  | false => rw [hd, if_neg (by decide), Option.map_eq_none_iff] at h; exact Or.inr ⟨rfl, h⟩

example : CS.parseNumber [43, 32] = none ∧
    CS.parseNumber [57, 57, 57, 57, 57, 57, 57, 57, 57, 57, 57, 57, 57, 57, 57, 57, 57, 57, 57, 57] = none := by
  decide +kernel

end Tabula.C06Number
