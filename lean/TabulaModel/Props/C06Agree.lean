import TabulaModel.Lemmas.PdfAgree
import TabulaModel.Lemmas.PdfCSProgress
/-!
# C06 — the two parsers assign the same value to every operand both accept: EVERY byte string

`Props/C06.lean` proves the agreement of the document-level parser (core/lexer.go + core/parser.go) and
the content-stream parser (contentstream/parser.go) for everything a legal printer can emit
(`agree_on_printed`) and per token class.  Here it is proved for ALL inputs, legal or not, at every
nesting depth, with any fuel: started on the same bytes, whenever BOTH parsers return a value, it is
the same value, and both stand at the same byte afterwards.

The one exception is not a disagreement about a value both accept as written: on `n g R` the
document-level parser reads ONE object, the indirect reference, and the content-stream parser (content
streams have no references) reads the integer `n` and stops in front of `g`.  Inside an array or a
dictionary even that cannot happen: the content-stream parser then fails on `R` (array) or on `g`
(dictionary: not a key), so containers agree without exception.

Where the parsers differ in what they ACCEPT (an integer outside int64: real for the document-level
parser, error for the content-stream parser; an invalid `#` escape in a name, an unterminated hex
string, `[` / `<<` running to the end of the data: error for the document-level parser, accepted by the
content-stream parser; `true.5`: `true` then `.5` for the document-level parser, error for the other) one
of the two fails, so no operand gets two values.

Proof: a simulation between the token-window state machine and the byte-position recursion
(`Lemmas/PdfAgree.lean`), resting on "both lexers see the same first token" (`Prog.tok_of_skipSpace`) and on
the per-class agreements of `Props/C06.lean` (strings: same function; names, hex strings: same value and rest when
the stricter reader accepts; numbers: same lexeme, `Lemmas/PdfNumLex.lean`).
-/
namespace Tabula.C06Agree
open Tabula.Pdf

/-- **The two parsers agree on every byte string.**  `core.NewParser(inp).ParseObject()` returned `a`;
`contentstream`'s `parseOperand` on the same bytes (any fuel) returned `b` and left `r` unread.  Then `a = b`
and the document-level parser stands exactly on `r` — or `a` is the reference `n g R` whose first integer
`b` is. -/
theorem parsers_agree_everywhere (inp : Str) (a : Obj) (s : PState) (f2 : Nat) (b : Obj) (r : Str)
    (h1 : coreParse inp = .ok (a, s)) (h2 : CS.parseOperand f2 0 inp = some (b, r)) :
    (a = b ∧ s = stateAt r) ∨ (∃ n g, a = .ref n g ∧ b = .int n) :=
  ((Agree.agree_sim (fuelFor inp)).1 0 inp a s f2 b r h1 h2).symm

/-- both hypotheses hold together on a dictionary with an odd hex string, a name with an escape, a comment
and a nested array (and on malformed tails: what follows the operand is not looked at) -/
example : (coreParse [60, 60, 47, 65, 35, 52, 49, 60, 52, 32, 49, 55, 62, 37, 99, 13, 47, 66, 91, 116, 114, 117, 101, 93,
      62, 62, 41, 41]).toOption.isSome = true ∧
    (CS.parseOperand 50 0 [60, 60, 47, 65, 35, 52, 49, 60, 52, 32, 49, 55, 62, 37, 99, 13, 47, 66, 91, 116, 114, 117, 101, 93,
      62, 62, 41, 41]).isSome = true := by
  decide +kernel

/-- with the fuel the model runs the content-stream parser with: when the document-level parser's value is no
reference, the two values are equal -/
theorem parsers_agree (inp : Str) (a b : Obj) (s : PState) (r : Str)
    (h1 : coreParse inp = .ok (a, s)) (h2 : CS.parseOperand (CS.fuelFor inp) 0 inp = some (b, r))
    (hr : ∀ n g, a ≠ .ref n g) : a = b := by
  rcases parsers_agree_everywhere inp a s _ b r h1 h2 with h | ⟨n, g, ha, _⟩
  · exact h.1
  · exact absurd ha (hr n g)

example : ∀ n g, Obj.name [65] ≠ .ref n g := by intro n g h; cases h

/-- Arrays and dictionaries agree without exception: a reference anywhere inside makes the content-stream
parser fail, so if both accept, there was none. -/
theorem containers_agree_everywhere (inp : Str) (a : Obj) (s : PState) (f2 : Nat) (b : Obj) (r : Str)
    (h1 : coreParse inp = .ok (a, s)) (h2 : CS.parseOperand f2 0 inp = some (b, r))
    (hc : (∃ xs, a = .arr xs) ∨ (∃ kv, a = .dict kv)) : a = b ∧ s = stateAt r := by
  rcases parsers_agree_everywhere inp a s f2 b r h1 h2 with h | ⟨n, g, ha, _⟩
  · exact h
  · rcases hc with ⟨xs, e⟩ | ⟨kv, e⟩ <;> rw [e] at ha <;> cases ha

example : (coreParse [91, 47, 65, 32, 60, 52, 62, 93]).toOption.isSome = true ∧
    (CS.parseOperand 20 0 [91, 47, 65, 32, 60, 52, 62, 93]).isSome = true := by decide +kernel

/-- … at every level of the recursion: with `d` containers already open (the same count in both parsers,
so the nesting limit strikes at the same place), any fuel on either side, any accumulator. -/
theorem agree_at_any_depth (f f2 d : Nat) (inp : Str) :
    (∀ a s' b r, parseObject f d (stateAt inp) = .ok (a, s') → CS.parseOperand f2 d inp = some (b, r) →
        (a = b ∧ s' = stateAt r) ∨ (∃ n g, a = .ref n g ∧ b = .int n)) ∧
    (∀ acc a s' b r, parseArray f d (stateAt inp) acc = .ok (a, s') → CS.parseArray f2 d inp acc = some (b, r) →
        a = b ∧ s' = stateAt r) ∧
    (∀ acc a s' b r, parseDict f d (stateAt inp) acc = .ok (a, s') → CS.parseDict f2 d inp acc = some (b, r) →
        a = b ∧ s' = stateAt r) :=
  ⟨fun a s' b r h1 h2 => ((Agree.agree_sim f).1 d inp a s' f2 b r h1 h2).symm,
   fun acc a s' b r h1 h2 => (Agree.agree_sim f).2.1 d inp acc a s' f2 b r h1 h2,
   fun acc a s' b r h1 h2 => (Agree.agree_sim f).2.2 d inp acc a s' f2 b r h1 h2⟩

/-- The reference case, exactly: the content-stream parser stopped right behind the first integer, and the
next two tokens of the input are an integer and `R`. -/
theorem reference_case (f f2 d : Nat) (inp : Str) (a : Obj) (s' : PState) (b : Obj) (r : Str)
    (h1 : parseObject f d (stateAt inp) = .ok (a, s')) (h2 : CS.parseOperand f2 d inp = some (b, r))
    (hne : a ≠ b) :
    ∃ n g va vb r2 r3, a = .ref n g ∧ b = .int n ∧ Prog.tok inp = some (.integer va, r) ∧
      Prog.tok r = some (.integer vb, r2) ∧ Prog.tok r2 = some (.ref, r3) := by
  rcases (Agree.agree_sim_ref f).1 d inp a s' f2 b r h1 h2 with h | h
  · exact h
  · exact absurd h.1 hne

example : (coreParse [49, 32, 48, 32, 82]).toOption.isSome = true ∧ (CS.parseOperand 9 0 [49, 32, 48, 32, 82]).isSome = true := by
  decide +kernel

/-- The same in the terms of the correspondence op `c06.operand` (`csOperandAt`: operand and `p.pos`): the
operand is the object `ParseObject` returns, and the document-level parser's window afterwards is the window
`NewParser` builds on the bytes from `p.pos` on. -/
theorem operand_op_agrees (inp : Str) (a : Obj) (s : PState) (b : Obj) (pos : Nat)
    (h1 : coreParse inp = .ok (a, s)) (h2 : csOperandAt inp = some (b, pos)) (hr : ∀ n g, a ≠ .ref n g) :
    a = b ∧ s = stateAt (inp.drop pos) ∧ 0 < pos ∧ pos ≤ inp.length := by
  have hpos := Prog.csOperandAt_pos inp b pos h2
  unfold csOperandAt at h2
  cases hp : CS.parseOperand (CS.fuelFor inp) 0 inp with
  | none => rw [hp] at h2; cases h2
  | some p =>
    obtain ⟨b', r⟩ := p
    rw [hp] at h2
    simp only [Option.some.injEq, Prod.mk.injEq] at h2
    obtain ⟨hb, hpos'⟩ := h2
    subst hb
    have hsuf := ((Prog.cs_progress _).1 0 inp b' r hp).1
    have hr' : r = inp.drop pos := by rw [← hpos']; exact List.suffix_iff_eq_drop.mp hsuf
    rcases parsers_agree_everywhere inp a s _ b' r h1 hp with h | ⟨n, g, ha, _⟩
    · exact ⟨h.1, by rw [← hr']; exact h.2, hpos.1, hpos.2⟩
    · exact absurd ha (hr n g)

example : (coreParse [40, 65, 41, 32, 84, 106]).toOption.isSome = true ∧
    (csOperandAt [40, 65, 41, 32, 84, 106]).isSome = true := by decide +kernel

end Tabula.C06Agree
