import TabulaModel.Props.C09
import TabulaModel.Props.C09Order
import TabulaModel.Props.C09Text
import TabulaModel.Lemmas.LayoutApi
/-!
# C09, end to end — the public API's model

The statement of C09 over `Open(f).Text()` in every text mode and over `Lines()`,
`Paragraphs()`, `ReadingOrder()`: for every document (list of pages), every option set and every
outcome of every heuristic on every page, the non-white-space characters of the result are, as a
multiset, those of the pages' fragments (plus the OCR text of pages without fragments, an
external result). The per-mechanism theorems of `C09`, `C09Order`, `C09Text` are chained here.
-/
namespace Tabula.C09Api
open Tabula.Layout List

/-- the dispatch returns one of its four candidates -/
theorem dispatch_is_candidate (o : TextOpts) (cl mc : Bool) (pl jp bc asm : Str) :
    textDispatch o cl mc pl jp bc asm = pl ∨ textDispatch o cl mc pl jp bc asm = jp ∨
    textDispatch o cl mc pl jp bc asm = bc ∨ textDispatch o cl mc pl jp bc asm = asm := by
  unfold textDispatch
  cases o.preserveLayout
  · cases o.joinParagraphs
    · cases o.byColumn
      · cases (cl || mc)
        · exact Or.inr (Or.inr (Or.inr rfl))
        · exact Or.inr (Or.inr (Or.inl rfl))
      · exact Or.inr (Or.inr (Or.inl rfl))
    · exact Or.inr (Or.inl rfl)
  · exact Or.inl rfl

/-- precedence of the options: PreserveLayout over JoinParagraphs over ByColumn over the
automatic choice -/
theorem dispatch_precedence (o : TextOpts) (cl mc : Bool) (pl jp bc asm : Str) :
    (o.preserveLayout = true → textDispatch o cl mc pl jp bc asm = pl) ∧
    (o.preserveLayout = false → o.joinParagraphs = true → textDispatch o cl mc pl jp bc asm = jp) ∧
    (o.preserveLayout = false → o.joinParagraphs = false → o.byColumn = true →
      textDispatch o cl mc pl jp bc asm = bc) := by
  unfold textDispatch
  refine ⟨fun h => by simp [h], fun h1 h2 => by simp [h1, h2], fun h1 h2 h3 => by simp [h1, h2, h3]⟩

/-- PAGE LEVEL, every text mode: `Text()`, `ByColumn()`, `JoinParagraphs()`, `PreserveLayout()`
in any combination, the automatic choice included — the text of a page has exactly the
non-space characters of its fragments. -/
theorem page_text_conserves (hz : Heur) (o : TextOpts) (widthZero : Bool) (fs : List Frag) :
    (nonspace (pageText hz o widthZero fs)).Perm (nonspace (textsOf fs)) := by
  unfold pageText
  rcases dispatch_is_candidate o (isCharacterLevel fs)
      (detectMultiColumn widthZero fs (hz.readingOrder fs).columnCount)
      (preserveLayoutGo hz.cw hz.lh0 fs)
      (extractWithParagraphs hz.gaps hz.minCW hz.minW hz.isSpan hz.keep hz.tolOf hz.preserve hz.rtl hz.brkOf fs)
      (extractByColumn hz.gaps hz.minCW hz.minW hz.isSpan hz.keep hz.tolOf hz.preserve hz.rtl fs)
      (assembleText fs) with h | h | h | h <;> rw [h]
  · exact C09.assemble_conserves_preserveLayoutGo hz.cw hz.lh0 fs
  · exact C09Order.joinparagraphs_conserves _ _ _ _ _ _ _ _ _ fs
  · exact C09Order.bycolumn_conserves _ _ _ _ _ _ _ _ fs
  · exact C09.assemble_conserves fs

/-- the same from the raw content-stream fragments: deduplication is the only removal -/
theorem page_text_pipeline_conserves (hz : Heur) (o : TextOpts) (widthZero : Bool) (raw : List Frag) :
    (nonspace (pageText hz o widthZero (dedupe raw))).Perm (nonspace (textsOf (dedupe raw))) :=
  page_text_conserves hz o widthZero (dedupe raw)

/-- what a page must show: its fragments' characters, or (no fragments) the OCR text -/
def pageChars (p : PageIn) : Str := if p.frags.isEmpty then nonspace p.ocr else nonspace (textsOf p.frags)

theorem page_in_text_conserves (o : TextOpts) (p : PageIn) : (nonspace (p.text o)).Perm (pageChars p) := by
  unfold PageIn.text pageChars
  split
  · exact List.Perm.refl _
  · exact page_text_conserves p.hz o p.widthZero p.frags

theorem nonspace_joinPages (i : Nat) (acc : Str) (ts : List Str) :
    nonspace (joinPages i acc ts) = nonspace acc ++ (ts.map nonspace).flatten := by
  induction ts generalizing i acc with
  | nil => simp [joinPages]
  | cons t ts ih =>
    simp only [joinPages, ih, nonspace_append, List.map_cons, List.flatten_cons, List.append_assoc,
      nonspace_ite (a := [10, 10]) (b := []) rfl rfl, List.nil_append]

/-- DOCUMENT LEVEL (the invariant of the page loop is `nonspace_joinPages`; then page by page): for every
document, every option set and every heuristic outcome on every page, `Text()` shows exactly the
characters the pages must show — the joining of pages writes white space only, a page whose
text is empty adds nothing, no page is skipped or written twice. -/
theorem document_text_conserves (o : TextOpts) (pages : List PageIn) :
    (nonspace (docText o pages)).Perm (pages.map pageChars).flatten := by
  unfold docText
  rw [nonspace_joinPages, nonspace_nil, List.nil_append, List.map_map, ← List.flatMap_def, ← List.flatMap_def]
  exact List.Perm.flatMap_left pages fun p _ => page_in_text_conserves o p

/-- appending a page to a document appends its characters: the history form of the invariant -/
theorem document_text_snoc (o : TextOpts) (pages : List PageIn) (p : PageIn) :
    (nonspace (docText o (pages ++ [p]))).Perm (nonspace (docText o pages) ++ pageChars p) := by
  refine (document_text_conserves o (pages ++ [p])).trans ?_
  simp only [List.map_append, List.flatten_append, List.map_cons, List.map_nil, List.flatten_cons,
    List.flatten_nil, List.append_nil]
  exact (document_text_conserves o pages).symm.append_right _

/-- `Lines()` over a document -/
theorem document_lines_conserve (pages : List PageIn) :
    (nonspace (textsOf (docLines pages).flatten)).Perm (nonspace (textsOf (pages.flatMap (·.frags)))) := by
  unfold docLines
  rw [flatten_flatMap]
  exact (Keeps.flatMap _ _ pages fun p _ => detectLines_keeps _ _ _ p.frags).nonspace

/-- `ReadingOrder().Fragments` over a document: a permutation of all pages' fragments, page by page -/
theorem document_reading_order_partition (pages : List PageIn) :
    (docReadingOrderFragments pages).Perm (pages.flatMap (·.frags)) :=
  List.Perm.flatMap_left pages fun _ _ => readingOrder_fragments_perm

/-- `ReadingOrder().Lines` over a document -/
theorem document_reading_order_lines_conserve (pages : List PageIn) :
    (nonspace (textsOf (docReadingOrderLines pages).flatten)).Perm
      (nonspace (textsOf (pages.flatMap (·.frags)))) := by
  unfold docReadingOrderLines
  rw [flatten_flatMap]
  exact (Keeps.flatMap _ _ pages fun _ _ => readingOrder_lines_keeps).nonspace

/-- `Paragraphs()` over a document: the paragraph texts show the characters of all fragments -/
theorem document_paragraphs_conserve (pages : List PageIn) :
    (nonspace ((docParagraphs pages).map paragraphText).flatten).Perm
      (nonspace (textsOf (pages.flatMap (·.frags)))) := by
  unfold docParagraphs
  rw [paragraphTexts_nonspace, flatten_flatMap, flatten_flatMap]
  exact (Keeps.flatMap _ _ pages fun _ _ => roParagraphs_keeps).nonspace

/-! ## Analyze() -/

/-- `NewAnalyzer().Analyze(fs)`: every component of the result conserves the fragments — the
columns with the spanning group and the fragments of the reading order as permutations, the
lines, blocks (in `Fragments` and through `GetText`), paragraphs and `GetText()` in their
non-space characters. (The element tree: `C09Elem.element_tree_once`.) -/
theorem analyze_conserves (hz : Heur) (bh : BlockHeur)
    (hs : ∀ l, (bh.srt l).Perm l) (hx : ∀ l, (bh.srtX l).Perm l) (hb : ∀ l, (bh.srtB l).Perm l)
    (fs : List Frag) :
    (analyze hz bh fs).columns.all.Perm fs ∧
    (analyze hz bh fs).readingOrder.fragments.Perm fs ∧
    (nonspace (textsOf (analyze hz bh fs).lines.flatten)).Perm (nonspace (textsOf fs)) ∧
    (nonspace (textsOf (blocksFrags (analyze hz bh fs).blocks))).Perm (nonspace (textsOf fs)) ∧
    (nonspace (blockLayoutText (analyze hz bh fs).blocks)).Perm (nonspace (textsOf fs)) ∧
    (nonspace (paragraphLayoutText (analyze hz bh fs).paragraphs)).Perm (nonspace (textsOf fs)) ∧
    (nonspace (analyze hz bh fs).text).Perm (nonspace (textsOf fs)) := by
  refine ⟨?_, ?_, ?_, ?_, ?_, ?_, ?_⟩
  · exact analyze_columns hz bh fs ▸ detectColumns_perm _ _ _ _ fs
  · exact C09Order.reading_order_partition _ _ _ _ _ _ _ _ fs
  · exact (analyze_lines_keeps hz bh fs).nonspace
  · exact C09Text.block_detector_conserves _ _ _ hs hx hb _ _ _ _ fs
  · exact C09Text.block_layout_text_conserves _ _ _ hs hx hb _ _ _ _ fs
  · exact C09Order.ro_paragraphs_conserve _ _ _ _ _ _ _ _ _ fs
  · exact C09Text.reading_order_text_conserves _ _ _ _ _ _ _ _ fs

example : ∀ l : List Frag, (stableSort blLess l).Perm l := fun l => stableSort_perm _ l

/-! ## witnesses -/

/-- three pages, the middle one without fragments and without OCR text: one blank line between
the two texts, none doubled -/
example : joinPages 0 [] [[97], [], [98]] = [97, 10, 10, 98] := by decide +kernel

/-- the automatic choice: 12 one-letter fragments are character-level -/
example : isCharacterLevel (List.replicate 12 ⟨0, 0, 0, 5, 10, 10, [97]⟩) = true ∧
    isCharacterLevel (List.replicate 12 ⟨0, 0, 0, 5, 10, 10, [97, 98]⟩) = false := by decide +kernel

example : textDispatch ⟨false, true, true⟩ true true [1] [2] [3] [4] = [2] ∧
    textDispatch ⟨false, false, false⟩ false true [1] [2] [3] [4] = [3] ∧
    textDispatch ⟨false, false, false⟩ false false [1] [2] [3] [4] = [4] := by decide +kernel

end Tabula.C09Api
