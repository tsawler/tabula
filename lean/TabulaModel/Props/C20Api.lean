import TabulaModel.Props.C20
import TabulaModel.Lemmas.AdmitHistory
/-!
# C20, public API — end-to-end admission, the EPUB gate, call histories

Theorems about `Model/Admit.lean` (tabula.go, extractor.go, epubdoc/reader.go, the member
switch of epubdoc/drm.go) composed with `Model/Detect.lean` and `Model/Drm.lean`.
All statements are for every input of the model.  Helper lemmas: `Lemmas/Admit.lean`, `Lemmas/AdmitHistory.lean`.
-/
set_option autoImplicit false
namespace Tabula.C20A
open Tabula.Detect Tabula.Drm Tabula.Admit Tabula.C20

/-! ## the sniffer, exactly: what each answer means -/

/-- `detectZIPFormat` never answers PDF or HTML -/
theorem zip_detect_range (ms : List Member) : detectZip ms ≠ .pdf ∧ detectZip ms ≠ .html := by
  rcases detectZip_range ms with h | h | h | h | h | h <;> rw [h] <;> exact ⟨by decide, by decide⟩

/-- a file is a PDF for the sniffer iff its first four bytes are `%PDF` — nothing else is -/
theorem detect_pdf_iff (file : Str) (zip : Option (List Member)) :
    detectFromReader file zip = some .pdf ↔ sPdfMagic.isPrefixOf (file.take 512) = true := by
  rw [detectFromReader_eq_sniffWith]
  exact (sniffWith_spec _ _ zip_detect_range file zip).1

/-- the sniffer answers HTML iff the file starts neither like a PDF nor like a ZIP and
`detectHTMLMagic` accepts its first 512 bytes -/
theorem detect_html_iff (file : Str) (zip : Option (List Member)) :
    detectFromReader file zip = some .html ↔
      sPdfMagic.isPrefixOf (file.take 512) = false ∧ sZipMagic.isPrefixOf (file.take 512) = false ∧
        detectHTMLMagic (file.take 512) = true := by
  rw [detectFromReader_eq_sniffWith]
  exact (sniffWith_spec _ _ zip_detect_range file zip).2.1

/-- the sniffer answers one of the five ZIP formats only for a file that starts with a
ZIP local header, and then exactly what `detectZIPFormat` says of its members -/
theorem detect_zip_format_only_archives (file : Str) (zip : Option (List Member)) (f : Format)
    (h : detectFromReader file zip = some f) (hf : f ≠ .pdf ∧ f ≠ .html ∧ f ≠ .unknown) :
    sZipMagic.isPrefixOf (file.take 512) = true ∧ ∃ ms, zip = some ms ∧ detectZip ms = f := by
  rw [detectFromReader_eq_sniffWith] at h
  cases hp : sPdfMagic.isPrefixOf (file.take 512) with
  | true =>
    rw [sniffWith_pdf zip hp] at h
    exact absurd (Option.some.inj h).symm hf.1
  | false =>
    cases hz : sZipMagic.isPrefixOf (file.take 512) with
    | true =>
      rw [sniffWith_zip zip hz] at h
      cases zip with
      | none => cases h
      | some ms => exact ⟨rfl, ms, rfl, Option.some.inj h⟩
    | false =>
      rw [sniffWith_text zip hp hz] at h
      cases h
      split at hf
      · exact absurd rfl hf.2.1
      · exact absurd rfl hf.2.2

example : detectFromReader (sZipMagic ++ [20, 0]) (some [⟨nWordDoc, none⟩]) = some .docx := by decide +kernel

/-- the sniffer fails exactly on a file that starts with a ZIP local header but is not a
readable archive (every name is then refused: `admission_detect_error`) -/
theorem detect_error_iff (file : Str) (zip : Option (List Member)) :
    detectFromReader file zip = none ↔
      sPdfMagic.isPrefixOf (file.take 512) = false ∧ sZipMagic.isPrefixOf (file.take 512) = true ∧ zip = none := by
  rw [detectFromReader_eq_sniffWith]
  exact (sniffWith_spec _ _ zip_detect_range file zip).2.2

/-- an archive is an EPUB for the sniffer iff its deciding mimetype member says so, or no
mimetype member decides and it has a META-INF/container.xml -/
theorem zip_detect_epub_iff (ms : List Member) :
    detectZip ms = .epub ↔
      firstMime ms = some .epub ∨ (firstMime ms = none ∧ hasMember nContainer ms = true) := by
  fun_cases detectZip ms <;> simp [*]

/-- every file that is white space, then `<html` in any letter case, then anything, is
HTML (root start tag without a DOCTYPE; the tag name must lie within the first 512 bytes) -/
theorem detect_html_root_tag (lead t rest : Str) (zip : Option (List Member))
    (hl : ∀ c ∈ lead, isMagicWS c = true) (ht : upper t = sHtmlTag) (hlen : lead.length + t.length ≤ 512) :
    detectFromReader (lead ++ (t ++ rest)) zip = some .html := by
  have e : ∀ r, lead ++ (t ++ r) = (lead ++ t) ++ r := fun r => by simp
  rw [e]
  exact detectFromReader_html_front _ rest zip (by simpa using hlen)
    (fun r => by rw [← e]; exact detectHTMLMagic_tag lead t r hl ht)

/-- satisfiable: `"\n "`, `"<HtMl"` -/
example : (∀ c ∈ [10, 32], isMagicWS c = true) ∧ upper [60, 72, 116, 77, 108] = sHtmlTag := by decide +kernel

/-- every file that is white space, an XML declaration `<?xml …`, anything, then `<html`
in any letter case (XHTML; the tag within 500 bytes of the declaration's `<` and within the
first 512 bytes of the file) is HTML -/
theorem detect_xhtml_declaration (lead x mid t rest : Str) (zip : Option (List Member))
    (hl : ∀ c ∈ lead, isMagicWS c = true) (hx : upper x = sXmlDecl) (ht : upper t = sHtmlTag)
    (h500 : x.length + mid.length + t.length ≤ 500)
    (h512 : lead.length + x.length + mid.length + t.length ≤ 512) :
    detectFromReader (lead ++ (x ++ (mid ++ (t ++ rest)))) zip = some .html := by
  have e : ∀ r, lead ++ (x ++ (mid ++ (t ++ r))) = (lead ++ (x ++ (mid ++ t))) ++ r := fun r => by simp
  rw [e]
  exact detectFromReader_html_front _ rest zip (by simp only [List.length_append]; omega)
    (fun r => by rw [← e]; exact detectHTMLMagic_xmldecl lead x mid t r hl hx ht h500)

/-- satisfiable: `"<?xml"`, `" version=\"1.0\"?>\n"`, `"<html"` -/
example : upper [60, 63, 120, 109, 108] = sXmlDecl ∧ upper [60, 104, 116, 109, 108] = sHtmlTag ∧
    [60, 63, 120, 109, 108].length + [32, 118, 63, 62, 10].length + [60, 104, 116, 109, 108].length ≤ 500 := by
  decide +kernel

/-- the two public content entry points agree: on data that fits the sniffer's window
and is not a ZIP, `DetectFromMagic` and `DetectFromReader` give the same answer; for ZIP
data `DetectFromMagic` declines (Unknown) and leaves the decision to `DetectFromReader` -/
theorem detect_magic_agrees (data : Str) (zip : Option (List Member)) (hlen : data.length ≤ 512) :
    (sZipMagic.isPrefixOf data = false → detectFromReader data zip = some (detectFromMagic data)) ∧
    (sZipMagic.isPrefixOf data = true → detectFromMagic data = .unknown) := by
  rw [detectFromReader_eq_sniffWith, detectFromMagic_eq_magicWith]
  exact ⟨sniffWith_eq_magicWith _ (fun _ => detectHTMLMagic_short) zip hlen, magicWith_zip⟩

example : sZipMagic.isPrefixOf [60, 104, 116, 109, 108, 62] = false := by decide +kernel


/-! ## one archive for the sniffer and the DRM gate -/

/-- the sniffer and the DRM gate read the SAME archive, and neither depends on the order
of its members (distinct member names, as in every well-formed archive) -/
theorem archive_order_independent (ms ms' : List AMember) (hp : ms.Perm ms')
    (hn : (ms.map (·.name)).Nodup) :
    archiveFormat ms = archiveFormat ms' ∧ archiveDRM ms = archiveDRM ms' := by
  refine ⟨?_, archiveDRM_perm hp⟩
  unfold archiveFormat
  exact zip_detect_perm_invariant_nodup _ _ (hp.map _) (by rw [toMember_names]; exact hn)

/-- an EPUB container with its rights file first or last -/
example : ([⟨nMimetype, some epubMime, none⟩, ⟨nRights, none, none⟩] : List AMember).Perm
    [⟨nRights, none, none⟩, ⟨nMimetype, some epubMime, none⟩] := List.Perm.swap _ _ _

/-- `drm_decision` on the archive itself: the gate refuses iff some member is NAMED
META-INF/rights.xml, or a member named META-INF/encryption.xml cannot be parsed, or one
of its entries puts a non-obfuscation algorithm on a content file -/
theorem archive_drm_decision (ms : List AMember) :
    archiveDRM ms = true ↔
      (∃ m ∈ ms, m.name = nRights) ∨ (∃ m ∈ ms, m.name = nEncryption ∧ m.enc = none) ∨
      (∃ m ∈ ms, m.name = nEncryption ∧ ∃ es, m.enc = some es ∧
        ∃ e ∈ es, isFontObfuscation e.algorithm = false ∧ isContentFile e.uri = true) := by
  -- some member is bad in one of the three ways of `amemberBad_iff`
  simp only [archiveDRM_eq_any, List.any_eq_true, amemberBad_iff, and_or_left, exists_or]

/-- members under any other name — near misses such as `META-INF/Rights.xml`,
`OEBPS/META-INF/rights.xml`, chapters, fonts — never change the gate's decision, wherever
they are placed -/
theorem archive_drm_other_members_inert (ms ds l : List AMember) (hp : (ms ++ ds).Perm l)
    (hd : ∀ d ∈ ds, d.name ≠ nRights ∧ d.name ≠ nEncryption) : archiveDRM l = archiveDRM ms := by
  rw [← archiveDRM_perm hp, archiveDRM_eq_any, archiveDRM_eq_any, List.any_append]
  have : ds.any amemberBad = false := by
    rw [List.any_eq_false]
    intro d hdm hb
    rcases (amemberBad_iff d).1 hb with h | h | h
    · exact (hd d hdm).1 h
    · exact (hd d hdm).2 h.1
    · exact (hd d hdm).2 h.1
  rw [this, Bool.or_false]

/-- `"META-INF/Rights.xml"`: the member names are compared exactly -/
example : classify ⟨[77, 69, 84, 65, 45, 73, 78, 70, 47, 82, 105, 103, 104, 116, 115, 46, 120, 109, 108], none, none⟩ = .other := by
  rfl

/-! ## the EPUB reader: the DRM gate comes first -/

/-- `epubdoc.(*Reader).init` reports DRM iff the gate does — whatever the state of the
container, the package document and the chapters (`rest`), which are read only afterwards -/
theorem epub_gate_first (ms : List AMember) (rest : Bool) :
    epubInit ms rest = .drm ↔ archiveDRM ms = true := by
  rw [epubInit_eq]
  cases archiveDRM ms <;> cases rest <;> simp

/-- past the gate, the outcome is that of the structure -/
theorem epub_open_spec (zip : Option (List AMember)) (rest : Bool) :
    (epubOpen zip rest = .ok ↔ ∃ ms, zip = some ms ∧ archiveDRM ms = false ∧ rest = true) ∧
    (epubOpen zip rest = .drm ↔ ∃ ms, zip = some ms ∧ archiveDRM ms = true) ∧
    (epubOpen zip rest = .invalidArchive ↔ zip = none) := by
  refine ⟨epubOpen_ok_iff zip rest, epubOpen_drm_iff zip rest, ?_⟩
  cases zip with
  | none => simp [epubOpen]
  | some ms =>
    rw [epubOpen_some, epubInit_eq]
    cases archiveDRM ms <;> cases rest <;> simp

/-- the mimetype check of the EPUB reader has no influence on the outcome: two archives
that differ only in what their members contain (not in names and encryption metadata) open
alike — a missing or wrong `mimetype` neither unlocks nor blocks anything -/
theorem epub_mimetype_check_irrelevant (ms ms' : List AMember) (rest : Bool)
    (h : ms.map (fun m => (m.name, m.enc)) = ms'.map (fun m => (m.name, m.enc))) :
    epubInit ms rest = epubInit ms' rest := by
  have hc : ∀ l : List AMember, l.map classify =
      (l.map (fun m => (m.name, m.enc))).map
        (fun p => if p.1 = nRights then DMember.rights else if p.1 = nEncryption then .encryption p.2 else .other) := by
    intro l; rw [List.map_map]; rfl
  rw [epubInit_eq, epubInit_eq]
  unfold archiveDRM
  rw [hc ms, hc ms', h]

example : validateMimetype [⟨nMimetype, some odtMime, none⟩] = .invalid ∧
    epubInit [⟨nMimetype, some odtMime, none⟩] true = .ok := by decide +kernel

/-- what the (ignored) mimetype check answers: `ok` iff the FIRST member named
`mimetype` could be read and holds, up to surrounding white space, the EPUB media type -/
theorem validate_mimetype_spec (ms : List AMember) :
    validateMimetype ms = .ok ↔
      ∃ pre m post, ms = pre ++ m :: post ∧ (∀ x ∈ pre, x.name ≠ nMimetype) ∧ m.name = nMimetype ∧
        ∃ d, m.data = some d ∧ trimSpace d = epubMime := by
  -- the check looks at the first member named `mimetype` only
  have e : validateMimetype ms = .ok ↔ ∃ m, ms.find? (fun x => decide (x.name = nMimetype)) = some m ∧
      ∃ d, m.data = some d ∧ trimSpace d = epubMime := by
    induction ms with
    | nil => simp [validateMimetype]
    | cons a rest ih =>
      unfold validateMimetype
      by_cases hn : a.name = nMimetype
      · rw [if_pos hn, List.find?_cons_of_pos (by simpa using hn)]
        cases hd : a.data with
        | none => simp [hd]
        | some d => by_cases ht : trimSpace d = epubMime <;> simp [hd, ht]
      · rw [if_neg hn, List.find?_cons_of_neg (by simpa using hn), ih]
  simp only [e, List.find?_eq_some_iff_append, decide_eq_true_eq, Bool.not_eq_eq_eq_not, Bool.not_true,
    decide_eq_false_iff_not]
  constructor
  · rintro ⟨m, ⟨hm, pre, post, he, hpre⟩, hd⟩
    exact ⟨pre, m, post, he, hpre, hm, hd⟩
  · rintro ⟨pre, m, post, he, hpre, hm, hd⟩
    exact ⟨m, ⟨hm, pre, post, he, hpre⟩, hd⟩


/-! ## "covering a content document": every spelling of the URI -/

/-- However a producer spells the CipherReference of a content document — the container
path `stem ++ ext` (ext = `.xhtml` / `.html` / `.htm` in any letter case) percent-encoded
under ANY escaping discipline `keep` (relative URI reference, component escaping, verbatim
member name, …), behind ANY prefix (`./`, `/`, dot segments), in ANY letter case — the DRM
gate recognises it as a content file. -/
theorem content_uri_spellings_covered (keep : Nat → Bool) (pre stem ext uri : Str)
    (hext : lower ext ∈ contentExts)
    (huri : lower uri = lower (pre ++ pctEsc keep (stem ++ ext))) :
    isContentFile uri = true := by
  rw [isContentFile_case huri, pctEsc_append,
    pctEsc_unreserved keep ext (unreserved_of_lower ext _ rfl (contentExts_unreserved _ hext)),
    ← List.append_assoc]
  exact isContentFile_of_ext _ ext hext

/-- `"OEBPS/Text #2/ch[1].XHTML"` spelled `"./oebps/text%20%232/ch%5b1%5d.xhtml"` -/
example : lower [46, 47, 111, 101, 98, 112, 115, 47, 116, 101, 120, 116, 37, 50, 48, 37, 50, 51, 50, 47, 99, 104, 37, 53, 98, 49, 37, 53, 100, 46, 120, 104, 116, 109, 108] =
    lower ([46, 47] ++ pctEsc isSubDelim ([79, 69, 66, 80, 83, 47, 84, 101, 120, 116, 32, 35, 50, 47, 99, 104, 91, 49, 93] ++ [46, 88, 72, 84, 77, 76])) := by
  decide +kernel

/-- the three spellings the harness writes are instances: URI reference, component
escaping, and the member name copied verbatim -/
theorem harness_spellings_covered (pre stem ext : Str) (hext : lower ext ∈ contentExts) :
    isContentFile (pre ++ hrefEsc (stem ++ ext)) = true ∧
    isContentFile (pre ++ hrefEscAll (stem ++ ext)) = true ∧
    isContentFile (pre ++ (stem ++ ext)) = true := by
  refine ⟨content_uri_spellings_covered isSubDelim pre stem ext _ hext rfl,
    content_uri_spellings_covered (fun _ => false) pre stem ext _ hext rfl, ?_⟩
  have := content_uri_spellings_covered (fun _ => true) pre stem ext _ hext rfl
  rwa [pctEsc_keep_all] at this

/-- An archive whose encryption metadata covers a content document — under any spelling
of its path — with an algorithm that is not font obfuscation is refused by the gate,
whatever else the archive and the metadata contain. -/
theorem drm_refuses_covered_content (ms : List AMember) (m : AMember) (es : List Entry) (e : Entry)
    (keep : Nat → Bool) (pre stem ext : Str)
    (hm : m ∈ ms) (hname : m.name = nEncryption) (henc : m.enc = some es) (he : e ∈ es)
    (halgo : isFontObfuscation e.algorithm = false)
    (hext : lower ext ∈ contentExts) (huri : lower e.uri = lower (pre ++ pctEsc keep (stem ++ ext))) :
    archiveDRM ms = true :=
  (archive_drm_decision ms).2 (Or.inr (Or.inr ⟨m, hm, hname, es, henc, e, he, halgo,
    content_uri_spellings_covered keep pre stem ext e.uri hext huri⟩))

example : isFontObfuscation aes256 = false ∧ lower sfxXhtml ∈ contentExts := by decide +kernel

/-! ## end to end: `tabula.Open(name).<operation>()` -/

/-- the bytes may be read under a name asking for format `f`: they are a regular file,
the sniffer classifies them as `f` or not at all, and if `f` is EPUB the DRM gate passes -/
def Admissible (f : Format) (fs : FileState) : Prop :=
  f ≠ .unknown ∧ ∃ head zip acc, fs = .file head zip acc ∧
    (detectFile head zip = some f ∨ detectFile head zip = some .unknown) ∧
    (f = .epub → ∃ ms, zip = some ms ∧ archiveDRM ms = false)

/-- `validateFormat` + the reader switch of `ensureReader` open a reader only for the
format the name asks for, only on admissible bytes -/
theorem admit_file_sound {extF f : Format} {fs : FileState} (h : admitFile extF fs = .ok f) :
    f = extF ∧ Admissible extF fs :=
  admitFile_ok h

example : admitFile .pdf (.file sPdfMagic none (fun _ => true)) = .ok .pdf := by
  simp [admitFile, detectFile, detectFromReader, Detect.ensureReader, validateFormat, sPdfMagic, List.isPrefixOf]

/-- what is left of an operation once the reader is open: the PDF-only operations refuse
every other format -/
def afterOpen (f : Format) (k : TKind) : Outcome :=
  if (k = .pdfOnly ∨ k = .pdfProbe) ∧ f ≠ .pdf then .notPdf else .reached

/-- `Open(name).<op>()` is `validateFormat`, the reader switch, then the operation -/
theorem open_and_run_out (name : Str) (hne : name ≠ []) (fs : FileState) (k : TKind) :
    (openAndRun name fs k).out =
      match admitFile (detect name) fs with
      | .error o => o
      | .ok _ => afterOpen (detect name) k := by
  have h := run_unopened (openExt name) hne rfl fs k
  rw [if_neg (by rintro ⟨h, _⟩; cases h)] at h
  exact h

/-- SOUNDNESS, every name × every file × every operation of the public API: if
`tabula.Open(name).<op>()` gets as far as running on a reader, then the name asks for a
supported format, the bytes are a regular file that the sniffer classified as exactly
that format (or could not classify), an EPUB passed the DRM gate, and a PDF-only
operation ran on a PDF. -/
theorem open_reaches_only_admissible (name : Str) (fs : FileState) (k : TKind)
    (h : (openAndRun name fs k).out = .reached) :
    name ≠ [] ∧ Admissible (detect name) fs ∧ ((k = .pdfOnly ∨ k = .pdfProbe) → detect name = .pdf) := by
  have hne : name ≠ [] := by
    -- an operation reaches a reader only past `ensureReader`, which refuses an extractor without file name
    intro h0
    subst h0
    have he : (openExt []).ensureReader fs = .error .noFilename := rfl
    unfold openAndRun at h
    rcases run_cases (openExt_wf []) fs k with hf | ⟨o, he', hf⟩ | ⟨e1, he', _⟩ | ⟨e1, he', _⟩
    · rw [hf] at h; cases h
    · rw [hf] at h; rw [he] at he'; cases he'; cases h
    · rw [he] at he'; cases he'
    · rw [he] at he'; cases he'
  refine ⟨hne, ?_⟩
  rw [open_and_run_out name hne] at h
  cases ha : admitFile (detect name) fs with
  | error o =>
    rw [ha] at h
    exact absurd h (admitFile_error_out ha).1
  | ok f =>
    rw [ha] at h
    dsimp only at h
    refine ⟨(admit_file_sound ha).2, ?_⟩
    intro hk
    apply Classical.byContradiction
    intro hp
    unfold afterOpen at h
    rw [if_pos ⟨hk, hp⟩] at h
    cases h

/-- under a name that asks for no supported format no operation reaches a reader (the sniffer
still looks at the file: the operation ends in one of the refusals) -/
theorem open_no_extension_never_reads (name : Str) (fs : FileState) (k : TKind)
    (h : detect name = .unknown) : (openAndRun name fs k).out ≠ .reached := by
  intro hr
  exact (open_reaches_only_admissible name fs k hr).2.1.1 h

example : detect [114, 101, 97, 100, 109, 101] = .unknown := by decide +kernel

/-- the reader stage: the EPUB reader with its gate, any other reader as the file system
and the format's parser decide (`acc`) -/
def readerStage (d : Format) (zip : Option (List AMember)) (acc : Format → Bool) (k : TKind) : Outcome :=
  if d = .epub then
    match epubOpen zip (acc .epub) with
    | .ok => afterOpen d k
    | .drm => .drm
    | _ => .readerFailed
  else if acc d then afterOpen d k
  else .readerFailed

theorem extPairs_ne_nil : ∀ p ∈ extPairs, p.1 ≠ [] := by decide +kernel

theorem extPairs_known : ∀ p ∈ extPairs, p.2 ≠ .unknown := by decide +kernel

/-- a name that ends in an extension of the table is not empty -/
theorem named_of_ext {p : Str × Format} (hp : p ∈ extPairs) {stem e : Str} (he : lower e = p.1) :
    stem ++ e ≠ [] :=
  fun h0 => extPairs_ne_nil p hp (by rw [← he, (List.append_eq_nil_iff.1 h0).2]; rfl)

/-- the reader stage is the reader switch of `admitFile` followed by the PDF-only test -/
theorem readerStage_eq (d : Format) (zip : Option (List AMember)) (acc : Format → Bool) (k : TKind) :
    readerStage d zip acc k =
      match admitWith (.proceed d) (epubOpen zip (acc .epub)) acc with
      | .error o => o
      | .ok _ => afterOpen d k := by
  unfold readerStage admitWith
  by_cases hd : d = .epub
  · simp only [hd, if_true]
    cases epubOpen zip (acc .epub) <;> rfl
  · simp only [hd, if_false]
    cases acc d <;> rfl

theorem afterOpen_ne_drm (f : Format) (k : TKind) : afterOpen f k ≠ .drm := by
  unfold afterOpen; split <;> exact Outcome.noConfusion

/-- the reader stage reports DRM only through the EPUB reader's gate -/
theorem readerStage_drm_iff (d : Format) (zip : Option (List AMember)) (acc : Format → Bool) (k : TKind) :
    readerStage d zip acc k = .drm ↔ d = .epub ∧ ∃ ms, zip = some ms ∧ archiveDRM ms = true := by
  rw [← epubOpen_drm_iff zip (acc .epub)]
  unfold readerStage
  by_cases hd : d = .epub
  · rw [if_pos hd]
    cases epubOpen zip (acc .epub) <;> simp [hd, afterOpen_ne_drm]
  · rw [if_neg hd]
    split <;> simp [hd, afterOpen_ne_drm]

/-- `Open(name).<op>()` on a regular file, every name and every file: the cross-check of what the
name asks for against what the sniffer answers, then the reader stage -/
theorem open_file_out (name : Str) (hne : name ≠ []) (head : Str) (zip : Option (List AMember))
    (acc : Format → Bool) (k : TKind) :
    (openAndRun name (.file head zip acc) k).out =
      match Detect.ensureReader (detect name) (detectFile head zip) with
      | .proceed g => readerStage g zip acc k
      | .detectFailed => .detectFailed
      | .mismatch => .mismatch
      | .unsupported => .unsupported := by
  rw [open_and_run_out name hne, admitFile_file]
  cases hE : Detect.ensureReader (detect name) (detectFile head zip) with
  | proceed g =>
    show _ = readerStage g zip acc k
    rw [readerStage_eq, (ensureReader_proceed hE).1]
  | _ => rfl

/-- THE PROPERTY'S FIRST SENTENCE, end to end.  Whatever the bytes are detected as
(`d`, one of the seven formats), `Open(stem ++ e).<any operation>()` — any stem, any of
the eight extensions in any letter case — goes on to `d`'s reader iff the extension is one
of `d`'s, and is refused as a mismatch, before any reader sees the bytes, under every other
extension. -/
theorem open_by_name (p : Str × Format) (hp : p ∈ extPairs) (stem e : Str) (he : lower e = p.1)
    (head : Str) (zip : Option (List AMember)) (acc : Format → Bool) (d : Format) (hd : d ≠ .unknown)
    (hdet : detectFile head zip = some d) (k : TKind) :
    (openAndRun (stem ++ e) (.file head zip acc) k).out =
      if p.2 = d then readerStage d zip acc k else .mismatch := by
  rw [open_file_out _ (named_of_ext hp he), ext_table p hp stem e he, hdet]
  by_cases h : p.2 = d
  · rw [if_pos h, h, admission_own_format d hd]
  · rw [if_neg h, admission_mismatch_refused p.2 d hd h]

example : (dotXlsx, Format.xlsx) ∈ extPairs ∧ lower [46, 88, 76, 115, 120] = dotXlsx := by decide +kernel

/-- content the sniffer cannot classify is admitted by extension alone (the documented
fallback): the reader the NAME asks for decides -/
theorem open_unclassifiable_by_extension (p : Str × Format) (hp : p ∈ extPairs) (stem e : Str)
    (he : lower e = p.1) (head : Str) (zip : Option (List AMember)) (acc : Format → Bool)
    (hdet : detectFile head zip = some .unknown) (k : TKind) :
    (openAndRun (stem ++ e) (.file head zip acc) k).out = readerStage p.2 zip acc k := by
  rw [open_file_out _ (named_of_ext hp he), ext_table p hp stem e he, hdet,
    admission_undetectable p.2 (extPairs_known p hp)]

/-- every PDF (a file starting `%PDF`) under every name -/
theorem open_pdf_by_name (p : Str × Format) (hp : p ∈ extPairs) (stem e : Str) (he : lower e = p.1)
    (rest : Str) (zip : Option (List AMember)) (acc : Format → Bool) (k : TKind) :
    (openAndRun (stem ++ e) (.file (sPdfMagic ++ rest) zip acc) k).out =
      if p.2 = .pdf then (if acc .pdf then .reached else .readerFailed) else .mismatch := by
  rw [open_by_name p hp stem e he _ zip acc .pdf (by decide) (detect_pdf_magic rest _) k]
  by_cases h : p.2 = .pdf
  · simp only [h, if_true, readerStage, afterOpen]
    cases acc .pdf <;> simp
  · simp only [h, if_false]

/-- every ZIP-based document (a file starting with a local header whose members the
sniffer classifies as `d`: see `zip_detect_marker` and the permutation / decoy theorems
for when that is) under every name -/
theorem open_zip_by_name (p : Str × Format) (hp : p ∈ extPairs) (stem e : Str) (he : lower e = p.1)
    (rest : Str) (ms : List AMember) (acc : Format → Bool) (d : Format) (hd : d ≠ .unknown)
    (hfmt : archiveFormat ms = d) (k : TKind) :
    (openAndRun (stem ++ e) (.file (sZipMagic ++ rest) (some ms) acc) k).out =
      if p.2 = d then readerStage d (some ms) acc k else .mismatch := by
  exact open_by_name p hp stem e he _ _ acc d hd (by rw [detectFile_zip, hfmt]) k

/-- every HTML document that opens with a DOCTYPE (any white space, any letter case) -/
theorem open_html_by_name (p : Str × Format) (hp : p ∈ extPairs) (stem e : Str) (he : lower e = p.1)
    (lead dt ws n rest : Str) (zip : Option (List AMember)) (acc : Format → Bool) (k : TKind)
    (hl : ∀ c ∈ lead, isMagicWS c = true) (hdt : upper dt = sDoctype)
    (hwne : ws ≠ []) (hws : ∀ c ∈ ws, isMagicWS c = true) (hn : upper n = sHtmlName)
    (hlen : lead.length + dt.length + ws.length + n.length ≤ 512) :
    (openAndRun (stem ++ e) (.file (lead ++ (dt ++ (ws ++ (n ++ rest)))) zip acc) k).out =
      if p.2 = .html then readerStage .html zip acc k else .mismatch :=
  open_by_name p hp stem e he _ zip acc .html (by decide)
    (detect_html_doctype_any_space lead dt ws n rest _ hl hdt hwne hws hn hlen) k

/-- THE PROPERTY'S SECOND SENTENCE, end to end.  An EPUB (an archive the sniffer
classifies as EPUB) opened through `tabula.Open(stem ++ e)`, any operation: under an EPUB
name the outcome is `ErrDRMProtected` exactly when the gate refuses, otherwise that of the
EPUB reader's structure parsing; under every other extension it is a mismatch and the
archive is not even looked at by the EPUB reader. -/
theorem open_epub_by_name (p : Str × Format) (hp : p ∈ extPairs) (stem e : Str) (he : lower e = p.1)
    (rest : Str) (ms : List AMember) (acc : Format → Bool) (hfmt : archiveFormat ms = .epub) (k : TKind) :
    (openAndRun (stem ++ e) (.file (sZipMagic ++ rest) (some ms) acc) k).out =
      if p.2 = .epub then
        (if archiveDRM ms then .drm else if acc .epub then afterOpen .epub k else .readerFailed)
      else .mismatch := by
  rw [open_zip_by_name p hp stem e he rest ms acc .epub (by decide) hfmt k]
  by_cases h : p.2 = .epub
  · simp only [h, if_true, readerStage, epubOpen_some, epubInit_eq]
    cases archiveDRM ms <;> cases acc .epub <;> rfl
  · simp only [h, if_false]

/-- … so an EPUB under an EPUB name is refused as DRM-protected iff it carries a rights
file, unparsable encryption metadata, or an entry covering a content file with anything
other than font obfuscation -/
theorem open_epub_drm_iff (stem e : Str) (he : lower e = dotEpub) (rest : Str) (ms : List AMember)
    (acc : Format → Bool) (hfmt : archiveFormat ms = .epub) (k : TKind) :
    (openAndRun (stem ++ e) (.file (sZipMagic ++ rest) (some ms) acc) k).out = .drm ↔
      (∃ m ∈ ms, m.name = nRights) ∨ (∃ m ∈ ms, m.name = nEncryption ∧ m.enc = none) ∨
      (∃ m ∈ ms, m.name = nEncryption ∧ ∃ es, m.enc = some es ∧
        ∃ x ∈ es, isFontObfuscation x.algorithm = false ∧ isContentFile x.uri = true) := by
  rw [open_zip_by_name (dotEpub, .epub) (by decide) stem e he rest ms acc .epub (by decide) hfmt k, if_pos rfl,
    readerStage_drm_iff, ← archive_drm_decision]
  simp

/-- … and a font-obfuscation-only EPUB opens normally: no rights file, parsable metadata,
every entry (whatever it covers) an obfuscation algorithm, and a structure the EPUB reader
accepts (`hacc`) ⇒ `Text()`, `Document()`, `ToMarkdown()`, `PageCount()` reach the EPUB reader's
content -/
theorem open_epub_obfuscation_only_opens (stem e : Str) (he : lower e = dotEpub) (rest : Str)
    (ms : List AMember) (acc : Format → Bool) (hfmt : archiveFormat ms = .epub) (hacc : acc .epub = true)
    (hr : ∀ m ∈ ms, m.name ≠ nRights)
    (hpar : ∀ m ∈ ms, m.name = nEncryption → ∃ es, m.enc = some es ∧ ∀ x ∈ es, isFontObfuscation x.algorithm = true)
    (k : TKind) (hk : k ≠ .pdfOnly ∧ k ≠ .pdfProbe) :
    (openAndRun (stem ++ e) (.file (sZipMagic ++ rest) (some ms) acc) k).out = .reached := by
  rw [open_epub_by_name (dotEpub, .epub) (by decide) stem e he rest ms acc hfmt k]
  have hd : archiveDRM ms = false := by
    cases h : archiveDRM ms with
    | false => rfl
    | true =>
      exfalso
      rcases (archive_drm_decision ms).1 h with ⟨m, hm, hn⟩ | ⟨m, hm, hn, henc⟩ | ⟨m, hm, hn, es, henc, x, hx, ho, _⟩
      · exact hr m hm hn
      · obtain ⟨es, hes, _⟩ := hpar m hm hn
        rw [henc] at hes; cases hes
      · obtain ⟨es', hes, hall⟩ := hpar m hm hn
        rw [henc] at hes; cases hes
        rw [hall x hx] at ho; cases ho
  simp only [hd, hacc, if_true, Bool.false_eq_true, if_false, afterOpen]
  rw [if_neg]
  rintro ⟨h1 | h1, _⟩
  · exact hk.1 h1
  · exact hk.2 h1

/-- satisfiable: mimetype, container and an encryption.xml that obfuscates a font -/
example : archiveFormat [⟨nMimetype, some epubMime, none⟩, ⟨nContainer, none, none⟩,
      ⟨nEncryption, none, some [⟨algoIdpf, uFont⟩]⟩] = .epub ∧
    archiveDRM [⟨nMimetype, some epubMime, none⟩, ⟨nContainer, none, none⟩,
      ⟨nEncryption, none, some [⟨algoIdpf, uFont⟩]⟩] = false := by decide +kernel


/-! ## call histories on the public API

A history is any list of calls — `Open(name)`, `FromReader`, `FromHTMLString`, configuration methods,
the terminal and non-terminal operations, `Close` — on extractors numbered by creation,
interleaved with changes of the bytes stored under the names (`rewrite`).  -/

/-- the empty store, with any bytes under the names -/
def start (c0 : FileState) : St := { cur := c0 }

theorem start_good (c0 : FileState) : GoodSt (start c0) := by
  intro e he; cases he

/-- INVARIANT of every history: each extractor's `readerOpened` flag says exactly whether
it holds a reader; an extractor with a file name has the format its name asks for, owns
the reader it holds, and that reader was opened on bytes that passed the cross-check (and
the EPUB gate) when it was opened. -/
theorem history_invariant (c0 : FileState) (cs : List Call) :
    ∀ e ∈ (runCalls (start c0) cs).1.exts,
      e.opened = e.reader.isSome ∧
      (e.name ≠ [] → e.format = detect e.name ∧ (e.opened = true → e.owns = true) ∧
        ∀ r, e.reader = some r → r.fmt = e.format ∧ ∃ fs, r.src = some fs ∧ Admissible e.format fs) := by
  intro e he
  have hw := runCalls_good (start_good c0) cs e he
  refine ⟨hw.opened_reader, fun hn => ⟨hw.named_format hn, hw.named_owns hn, fun r hr => ?_⟩⟩
  obtain ⟨fs, hsrc, hadm⟩ := hw.checked hn r hr
  exact ⟨(admit_file_sound hadm).1, fs, hsrc, (admit_file_sound hadm).2⟩

/-- no history dereferences a nil reader -/
theorem history_no_nil_reader (c0 : FileState) (cs : List Call) (k i : Nat) (kind : TKind) (r : Res)
    (hc : cs[k]? = some (.op i kind)) (hr : (runCalls (start c0) cs).2[k]? = some (.res r)) :
    r.out ≠ .nilReader := by
  obtain ⟨e0, cur, _, _, hspec, _⟩ := runCalls_result (start_good c0) cs k i kind r hc hr
  exact hspec.not_nil

/-- THE PROPERTY OVER CALL SEQUENCES.  In every history, whatever was called before and
however the bytes changed meanwhile: if an operation on an extractor with a file name runs
on a reader, that reader is of the format the NAME asks for, and it was opened on bytes
that — at the moment it was opened — the sniffer classified as exactly that format (or
could not classify) and, for an EPUB, that passed the DRM gate.  No sequence of calls
reads a mismatching or DRM-protected file. -/
theorem history_reads_only_admissible (c0 : FileState) (cs : List Call) (k i : Nat) (kind : TKind)
    (r : Res) (hc : cs[k]? = some (.op i kind)) (hr : (runCalls (start c0) cs).2[k]? = some (.res r))
    (hreached : r.out = .reached) (e : Ext) (he : (runCalls (start c0) cs).1.exts[i]? = some e)
    (hn : e.name ≠ []) :
    ∃ ri fs, r.on = some ri ∧ ri.fmt = detect e.name ∧ ri.src = some fs ∧ Admissible (detect e.name) fs := by
  obtain ⟨e0, cur, hw, _, hspec, hfin⟩ := runCalls_result (start_good c0) cs k i kind r hc hr
  obtain ⟨hname, _⟩ := hfin e he
  have hn0 : e0.name ≠ [] := by rw [← hname]; exact hn
  obtain ⟨ri, hon, hchk, _⟩ := hspec.reached hreached
  obtain ⟨fs, hsrc, hadm⟩ := hchk hn0
  have hfmt : e0.format = detect e.name := by rw [hname]; exact hw.named_format hn0
  rw [hfmt] at hadm
  exact ⟨ri, fs, hon, (admit_file_sound hadm).1, hsrc, (admit_file_sound hadm).2⟩

/-- … in particular no history reads a DRM-protected EPUB under an EPUB name -/
theorem history_drm_never_read (c0 : FileState) (cs : List Call) (k i : Nat) (kind : TKind)
    (r : Res) (hc : cs[k]? = some (.op i kind)) (hr : (runCalls (start c0) cs).2[k]? = some (.res r))
    (hreached : r.out = .reached) (e : Ext) (he : (runCalls (start c0) cs).1.exts[i]? = some e)
    (hn : e.name ≠ []) (hepub : detect e.name = .epub) :
    ∃ ri head ms acc, r.on = some ri ∧ ri.src = some (.file head (some ms) acc) ∧ archiveDRM ms = false := by
  obtain ⟨ri, fs, hon, _, hsrc, _, head, zip, acc, hfs, _, hgate⟩ :=
    history_reads_only_admissible c0 cs k i kind r hc hr hreached e he hn
  obtain ⟨ms, hz, hd⟩ := hgate hepub
  subst hz hfs
  exact ⟨ri, head, ms, acc, hon, hsrc, hd⟩

/-- a history: open under an EPUB name, count chapters, swap the bytes, read the text -/
example : ([Call.open ([97] ++ dotEpub), .op 0 .pageCount, .rewrite .missing, .op 0 .text] : List Call)[3]? =
    some (.op 0 .text) := rfl

/-- The code after tabula's fix "a PDF-only operation on a file of another format no longer
leaves that file open" (`ensurePDFReader` defers `Close` when the format is not PDF and
there is a file name).  A call that is refused with "operation is only supported for PDF
documents" is a PDF-only one (`Fragments`, `Lines`, …, `IsCharacterLevel`, `IsMultiColumn`), and
* on an extractor with a file name, the name asks for another format than PDF, and the
  extractor is left WITHOUT a reader — `readerOpened = false`, every reader field nil,
  `ownsReader = false` — whether `ensureReader` opened the file in this call or an earlier
  `PageCount` had left it open;
* an extractor without a file name (`FromHTMLString` / `FromHTMLReader`) is left exactly
  as it was: its reader could not be re-opened. -/
theorem run_refused_releases_reader {e : Ext} (h : e.WF) (cur : FileState) (k : TKind)
    (hout : (e.run cur k).2.out = .notPdf) :
    (k = .pdfOnly ∨ k = .pdfProbe) ∧
    (e.name ≠ [] → e.format ≠ .pdf ∧ (e.run cur k).1.opened = false ∧
      (e.run cur k).1.reader = none ∧ (e.run cur k).1.owns = false) ∧
    (e.name = [] → (e.run cur k).1 = e) := by
  rcases run_cases h cur k with hf | ⟨o, he, hf⟩ | ⟨e1, he, hk, hc, hf⟩ | ⟨e1, he, hf⟩ <;> rw [hf] at hout ⊢
  · cases hout
  · exact absurd hout (ensureReader_error_out he).2.2
  · obtain ⟨hw, ho, hn1, hf1, _, hsame, hnew⟩ := ensureReader_wf h he
    refine ⟨hk, ?_, ?_⟩
    · intro hn
      have hnp : e.format ≠ .pdf := by
        rw [← hf1]; exact not_pdf_of_refused hw ho (by rw [hn1]; exact hn) hc
      show e.format ≠ .pdf ∧ (if e.pdfEarly then e1.close else e1).opened = false ∧
        (if e.pdfEarly then e1.close else e1).reader = none ∧ (if e.pdfEarly then e1.close else e1).owns = false
      rw [pdfEarly_of_named hn hnp, if_pos rfl]
      exact ⟨hnp, close_named_released hw (by rw [hn1]; exact hn)⟩
    · intro hn
      show (if e.pdfEarly then e1.close else e1) = e
      rw [pdfEarly_of_unnamed hn]
      cases hop : e.opened with
      | true => exact hsame hop
      | false => exact absurd hn (hnew hop).1
  · obtain ⟨hw, ho, _⟩ := ensureReader_wf h he
    obtain ⟨ri, _, hb⟩ := bodyOn_of_opened hw ho
    rw [hb] at hout; cases hout

/-- … said of the frame of the PDF-only operations, with the deferred `Close` (`b`) or without -/
theorem pdf_refusal_releases_reader {e : Ext} (h : e.WF) (cur : FileState) (b : Bool)
    (hout : (framePdf e cur b).2.out = .notPdf) :
    (e.name ≠ [] → e.format ≠ .pdf ∧ (framePdf e cur b).1.opened = false ∧
      (framePdf e cur b).1.reader = none ∧ (framePdf e cur b).1.owns = false) ∧
    (e.name = [] → (framePdf e cur b).1 = e) := by
  have hr : framePdf e cur b = e.run cur (if b then .pdfOnly else .pdfProbe) := by cases b <;> rfl
  rw [hr] at hout ⊢
  exact (run_refused_releases_reader h cur _ hout).2

/-- THE SAME OVER CALL SEQUENCES.  After ANY history `cs` on the public API — opens,
configuration chains, `PageCount`s that leave files open, `Close`s, rewrites of the bytes —
an operation that is then refused with "operation is only supported for PDF documents"
was a PDF-only one, and right after it:
* if the extractor has a file name, that name asks for another format than PDF and the
  extractor holds NO reader (`opened = false`, `reader = none`, `owns = false`): no
  descriptor of the non-PDF file stays behind, whatever was called before;
* if it has no file name, it is the value it was before the call (reader kept). -/
theorem history_refused_pdf_op_releases_reader (c0 : FileState) (cs : List Call) (i : Nat)
    (kind : TKind) (r : Res)
    (hr : (runCalls (start c0) (cs ++ [.op i kind])).2[cs.length]? = some (.res r))
    (hout : r.out = .notPdf) :
    (kind = .pdfOnly ∨ kind = .pdfProbe) ∧
    ∃ e0 e, (runCalls (start c0) cs).1.exts[i]? = some e0 ∧
      (runCalls (start c0) (cs ++ [.op i kind])).1.exts[i]? = some e ∧
      (e.name ≠ [] → detect e.name ≠ .pdf ∧ e.opened = false ∧ e.reader = none ∧ e.owns = false) ∧
      (e.name = [] → e = e0) := by
  have hg := runCalls_good (start_good c0) cs
  rw [runCalls_snoc, ← runCalls_length (start c0) cs, List.getElem?_concat_length] at hr
  rw [runCalls_snoc]
  generalize (runCalls (start c0) cs).1 = s1 at hr hg ⊢
  cases hi : s1.exts[i]? with
  | none => rw [step_op_none hi] at hr; cases hr
  | some e0 =>
    rw [step_op_some hi] at hr ⊢
    simp only [Option.some.injEq, CallRes.res.injEq] at hr
    subst hr
    have hw := hg e0 (List.mem_of_getElem? hi)
    obtain ⟨hk, hnamed, hunnamed⟩ := run_refused_releases_reader hw s1.cur kind hout
    have hlt : i < s1.exts.length := lt_of_getElem?_some hi
    have hname := (run_spec hw s1.cur kind).name
    refine ⟨hk, e0, (e0.run s1.cur kind).1, rfl, by simp [List.getElem?_set_self hlt], ?_, ?_⟩
    · intro hn
      have hn0 : e0.name ≠ [] := by rw [← hname]; exact hn
      obtain ⟨hf, hrest⟩ := hnamed hn0
      refine ⟨?_, hrest⟩
      rw [hname, ← hw.named_format hn0]
      exact hf
    · intro hn
      exact hunnamed (by rw [← hname]; exact hn)

/-- not vacuous: `Open("a.html")` on an HTML file, `PageCount` (leaves the file open), then
`Fragments` — refused, and the extractor is closed -/
example :
    let fs : FileState := .file [60, 104, 116, 109, 108] none (fun _ => true)
    let cs : List Call := [.rewrite fs, .open ([97] ++ dotHtml), .op 0 .pageCount]
    ((runCalls (start .missing) cs).1.exts[0]?.map (·.opened)) = some true ∧
    ((runCalls (start .missing) (cs ++ [.op 0 .pdfOnly])).1.exts[0]?.map (·.opened)) = some false := by
  decide +kernel

/-- a `PDF-only` operation (not `IsCharacterLevel` / `IsMultiColumn`) leaves a named
extractor without a reader on every way out that changes it: it closes after its body on a
PDF, and `ensurePDFReader` closes when it refuses another format -/
theorem pdfOnly_leaves_unopened {e : Ext} (h : e.WF) (hn : e.name ≠ []) (cur : FileState) :
    (framePdf e cur true).1.opened = false ∨ (framePdf e cur true).1 = e :=
  run_closes_named (k := .pdfOnly) h hn cur (Or.inr (Or.inr (Or.inr rfl)))

/-- the calls after which a named extractor holds no reader: everything except
`PageCount` and `IsCharacterLevel` / `IsMultiColumn` (which keep a PDF open).  The PDF-only
operations (`Fragments`, `Lines`, …) are among them because `ensurePDFReader` closes the reader
of a non-PDF document when it refuses it. -/
def ClosingOnly (cs : List Call) : Prop :=
  ∀ c ∈ cs, ∀ i k, c = .op i k → k = .text ∨ k = .document ∨ k = .markdown ∨ k = .pdfOnly

/-- Every terminal operation re-validates: in a history whose operations are `Text`,
`Document`/`Chunks`, `ToMarkdown` and the PDF-only
operations `Fragments`, `Lines`, … (any configuration calls, `Close`s and rewrites of the
bytes in between), each operation on an extractor with a file name that reaches a reader
does so on the bytes stored under the name AT THAT CALL — checked then, not earlier. -/
theorem history_terminal_ops_check_current_bytes (c0 : FileState) (cs : List Call) (hcl : ClosingOnly cs)
    (k i : Nat) (kind : TKind) (r : Res)
    (hc : cs[k]? = some (.op i kind)) (hr : (runCalls (start c0) cs).2[k]? = some (.res r))
    (hreached : r.out = .reached) (e : Ext) (he : (runCalls (start c0) cs).1.exts[i]? = some e)
    (hn : e.name ≠ []) :
    ∃ ri, r.on = some ri ∧ ri.src = some (curBefore c0 cs k) ∧ Admissible (detect e.name) (curBefore c0 cs k) := by
  obtain ⟨e0, hw, hn0, ho, hfmt, rfl⟩ := closing_history_op c0 cs hcl k i kind r hc hr e he hn
  -- the reader was opened in this call, on the bytes then stored
  obtain ⟨ri, hon, hchk, hcurb⟩ := (run_spec hw (curBefore c0 cs k) kind).reached hreached
  obtain ⟨fs, hsrc, hadm⟩ := hchk hn0
  rw [hcurb ho] at hsrc
  cases hsrc
  exact ⟨ri, hon, hcurb ho, hfmt ▸ (admit_file_sound hadm).2⟩

example : ClosingOnly [.open [97], .op 0 .text, .rewrite .missing, .derive 0 false, .op 1 .markdown, .op 0 .pdfOnly] := by
  intro c hc i k h
  simp only [List.mem_cons, List.not_mem_nil, or_false] at hc
  rcases hc with rfl | rfl | rfl | rfl | rfl | rfl <;> cases h <;> simp

/-- no call is a change of the bytes -/
def NoRewrite (cs : List Call) : Prop := ∀ c ∈ cs, ∀ fs, c ≠ .rewrite fs

/-- NO SEQUENCE OF CALLS GETS AROUND THE CROSS-CHECK.  While the bytes are what they are
(detected as `d`, one of the seven formats), every operation in every history on every
extractor whose file name asks for anything else — created by `Open`, derived by any chain
of configuration methods, closed and reused, probed with `PageCount` first — is refused:
`file format mismatch` (or the extractor's own configuration error), never a reader. -/
theorem history_mismatch_always_refused (head : Str) (zip : Option (List AMember)) (acc : Format → Bool)
    (d : Format) (hd : d ≠ .unknown) (hdet : detectFile head zip = some d)
    (cs : List Call) (hnr : NoRewrite cs) (k i : Nat) (kind : TKind) (r : Res)
    (hc : cs[k]? = some (.op i kind))
    (hr : (runCalls (start (.file head zip acc)) cs).2[k]? = some (.res r))
    (e : Ext) (he : (runCalls (start (.file head zip acc)) cs).1.exts[i]? = some e)
    (hn : e.name ≠ []) (hmis : detect e.name ≠ d) :
    r.out = .mismatch ∨ r.out = .errSet := by
  let I : St → Prop := fun s => s.cur = .file head zip acc ∧
    ∀ x ∈ s.exts, x.name ≠ [] → x.format ≠ d → x.opened = false
  let Q : Call → Prop := fun c => ∀ fs, c ≠ .rewrite fs
  have hstep : ∀ s c, GoodSt s → I s → Q c → I (step s c).1 := by
    intro s c hg ⟨hcur, hu⟩ hq
    refine ⟨by rw [step_cur_eq s c hq]; exact hcur, unopened_step (· ≠ d) hg c hu ?_⟩
    intro j k e0 _ hm hn0 hf0
    have ho0 := hu e0 hm hn0 hf0
    rw [hcur, (run_mismatch (hg e0 hm) hn0 ho0 hdet (admission_mismatch_refused e0.format d hd hf0) k).1]
    exact ho0
  obtain ⟨s', e0, hg, ⟨hcur, hu⟩, hget, _, hres, hfin⟩ := runCalls_result_inv I Q hstep
    (start_good _) ⟨rfl, fun x hx => by cases hx⟩ cs hnr k i kind r hc hr
  have hm := List.mem_of_getElem? hget
  obtain ⟨hname, hformat⟩ := hfin e he
  have hn0 : e0.name ≠ [] := by rw [← hname]; exact hn
  have hf0 : e0.format ≠ d := by
    rw [(hg e0 hm).named_format hn0, ← hname]; exact hmis
  rw [hres, hcur]
  exact (run_mismatch (hg e0 hm) hn0 (hu e0 hm hn0 hf0) hdet (admission_mismatch_refused e0.format d hd hf0) kind).2

/-- satisfiable: PDF bytes, and a history that tries `Close`, a derived extractor and
`PageCount` first on a `.docx` name -/
example : detectFile sPdfMagic none = some .pdf ∧
    NoRewrite [.open ([97] ++ dotDocx), .op 0 .pageCount, .close 0, .derive 0 false, .op 1 .text] := by
  refine ⟨by decide, ?_⟩
  intro c hc fs h
  simp only [List.mem_cons, List.not_mem_nil, or_false] at hc
  rcases hc with rfl | rfl | rfl | rfl | rfl <;> cases h


/-! ## the statement of the property, in its own words -/

/-- A valid document of each of the seven formats, as far as recognition is concerned
(members of an archive in ANY order, with any further members):
* PDF: the file starts `%PDF`;
* HTML: white space, then a DOCTYPE html declaration, or the `<html` root tag, or an XML
  declaration followed by the root tag (any letter case, within the sniffer's window);
* ODT / EPUB: a ZIP whose (only) `mimetype` member holds the format's media type — for
  EPUB alternatively no `mimetype` member but a `META-INF/container.xml`;
* DOCX / XLSX / PPTX: a ZIP without `mimetype` and container that holds the format's main
  part (and not the main part of a format tested earlier). -/
inductive ValidDoc : Format → Str → Option (List AMember) → Prop
  | pdf (rest : Str) (zip : Option (List AMember)) : ValidDoc .pdf (sPdfMagic ++ rest) zip
  | htmlDoctype (lead dt ws n rest : Str) (zip : Option (List AMember))
      (hl : ∀ c ∈ lead, isMagicWS c = true) (hdt : upper dt = sDoctype) (hwne : ws ≠ [])
      (hws : ∀ c ∈ ws, isMagicWS c = true) (hn : upper n = sHtmlName)
      (hlen : lead.length + dt.length + ws.length + n.length ≤ 512) :
      ValidDoc .html (lead ++ (dt ++ (ws ++ (n ++ rest)))) zip
  | htmlRoot (lead t rest : Str) (zip : Option (List AMember))
      (hl : ∀ c ∈ lead, isMagicWS c = true) (ht : upper t = sHtmlTag) (hlen : lead.length + t.length ≤ 512) :
      ValidDoc .html (lead ++ (t ++ rest)) zip
  | xhtml (lead x mid t rest : Str) (zip : Option (List AMember))
      (hl : ∀ c ∈ lead, isMagicWS c = true) (hx : upper x = sXmlDecl) (ht : upper t = sHtmlTag)
      (h500 : x.length + mid.length + t.length ≤ 500)
      (h512 : lead.length + x.length + mid.length + t.length ≤ 512) :
      ValidDoc .html (lead ++ (x ++ (mid ++ (t ++ rest)))) zip
  | odt (rest : Str) (ms : List AMember) (m : AMember) (d : Str) (hn : (ms.map (·.name)).Nodup)
      (hm : m ∈ ms) (hname : m.name = nMimetype) (hdata : m.data = some d)
      (hmime : hasSub odtMime (trimSpace (d.take 256)) = true) :
      ValidDoc .odt (sZipMagic ++ rest) (some ms)
  | epubMime (rest : Str) (ms : List AMember) (m : AMember) (d : Str) (hn : (ms.map (·.name)).Nodup)
      (hm : m ∈ ms) (hname : m.name = nMimetype) (hdata : m.data = some d)
      (hnodt : hasSub odtMime (trimSpace (d.take 256)) = false)
      (hmime : trimSpace (d.take 256) = epubMime) :
      ValidDoc .epub (sZipMagic ++ rest) (some ms)
  | epubContainer (rest : Str) (ms : List AMember) (hno : NoMember nMimetype ms)
      (m : AMember) (hm : m ∈ ms) (hname : m.name = nContainer) :
      ValidDoc .epub (sZipMagic ++ rest) (some ms)
  | docx (rest : Str) (ms : List AMember) (h1 : NoMember nMimetype ms) (h2 : NoMember nContainer ms)
      (m : AMember) (hm : m ∈ ms) (hname : m.name = nWordDoc) :
      ValidDoc .docx (sZipMagic ++ rest) (some ms)
  | xlsx (rest : Str) (ms : List AMember) (h1 : NoMember nMimetype ms) (h2 : NoMember nContainer ms)
      (h3 : NoMember nWordDoc ms) (m : AMember) (hm : m ∈ ms) (hname : m.name = nXlWorkbook) :
      ValidDoc .xlsx (sZipMagic ++ rest) (some ms)
  | pptx (rest : Str) (ms : List AMember) (h1 : NoMember nMimetype ms) (h2 : NoMember nContainer ms)
      (h3 : NoMember nWordDoc ms) (h4 : NoMember nXlWorkbook ms)
      (m : AMember) (hm : m ∈ ms) (hname : m.name = nPptPres) :
      ValidDoc .pptx (sZipMagic ++ rest) (some ms)

/-- every valid document of the seven formats is recognised as its own format -/
theorem valid_document_recognised {f : Format} {head : Str} {zip : Option (List AMember)}
    (h : ValidDoc f head zip) : detectFile head zip = some f := by
  cases h with
  | pdf rest zip => exact detect_pdf_magic rest _
  | htmlDoctype lead dt ws n rest zip hl hdt hwne hws hn hlen =>
    exact detect_html_doctype_any_space lead dt ws n rest _ hl hdt hwne hws hn hlen
  | htmlRoot lead t rest zip hl ht hlen => exact detect_html_root_tag lead t rest _ hl ht hlen
  | xhtml lead x mid t rest zip hl hx ht h500 h512 =>
    exact detect_xhtml_declaration lead x mid t rest _ hl hx ht h500 h512
  | odt rest ms m d hn hm hname hdata hmime =>
    rw [detectFile_zip]
    exact congrArg some ((zip_detect_marker _).1 m.toMember (List.mem_map_of_mem hm) .odt
      (mimeAgree_of_nodup _ (by rw [toMember_names]; exact hn))
      ((mime_verdict_spec _ _).2 ⟨hname, d, hdata, Or.inl ⟨hmime, rfl⟩⟩))
  | epubMime rest ms m d hn hm hname hdata hnodt hmime =>
    rw [detectFile_zip]
    exact congrArg some ((zip_detect_marker _).1 m.toMember (List.mem_map_of_mem hm) .epub
      (mimeAgree_of_nodup _ (by rw [toMember_names]; exact hn))
      ((mime_verdict_spec _ _).2 ⟨hname, d, hdata, Or.inr ⟨hnodt, hmime, rfl⟩⟩))
  | epubContainer rest ms hno m hm hname =>
    rw [detectFile_zip]
    exact congrArg some ((zip_detect_epub_iff _).2
      (Or.inr ⟨firstMime_none_of_noMember hno, hasMember_toMember_true hm hname⟩))
  | docx rest ms h1 h2 m hm hname =>
    rw [detectFile_zip]
    exact congrArg some (((zip_detect_marker _).2 (firstMime_eq_none.1 (firstMime_none_of_noMember h1))).2.1
      (hasMember_toMember_false h2) (hasMember_toMember_true hm hname))
  | xlsx rest ms h1 h2 h3 m hm hname =>
    rw [detectFile_zip]
    exact congrArg some (((zip_detect_marker _).2 (firstMime_eq_none.1 (firstMime_none_of_noMember h1))).2.2.1
      (hasMember_toMember_false h2) (hasMember_toMember_false h3) (hasMember_toMember_true hm hname))
  | pptx rest ms h1 h2 h3 h4 m hm hname =>
    rw [detectFile_zip]
    exact congrArg some (((zip_detect_marker _).2 (firstMime_eq_none.1 (firstMime_none_of_noMember h1))).2.2.2
      (hasMember_toMember_false h2) (hasMember_toMember_false h3) (hasMember_toMember_false h4)
      (hasMember_toMember_true hm hname))

/-- an XLSX whose members come in an unusual order, with a stray `word/` part in front -/
example : ValidDoc .xlsx (sZipMagic ++ [20]) (some [⟨nStray, none, none⟩, ⟨nSheet, none, none⟩, ⟨nXlWorkbook, none, none⟩]) :=
  .xlsx [20] _ (by intro m hm; revert m; decide) (by intro m hm; revert m; decide)
    (by intro m hm; revert m; decide) ⟨nXlWorkbook, none, none⟩ (by simp) rfl

/-- THE PROPERTY, first sentence, as stated: every valid PDF, DOCX, ODT, XLSX, PPTX, EPUB
and HTML document — whatever the order of its archive members and whatever further members
it carries — under every naming `stem ++ e` (`e` one of the eight extensions in any letter
case) and for every operation of the public API: under its own extension it goes on to its
own reader (`readerStage`: for an EPUB the DRM gate, then the reader), and under every
other supported extension it is refused with a mismatch error before any reader sees it. -/
theorem c20_end_to_end {f : Format} {head : Str} {zip : Option (List AMember)}
    (hv : ValidDoc f head zip)
    (p : Str × Format) (hp : p ∈ extPairs) (stem e : Str) (he : lower e = p.1)
    (acc : Format → Bool) (k : TKind) :
    (openAndRun (stem ++ e) (.file head zip acc) k).out =
      if p.2 = f then readerStage f zip acc k else .mismatch := by
  have hf : f ≠ .unknown := by cases hv <;> decide
  exact open_by_name p hp stem e he head zip acc f hf (valid_document_recognised hv) k


/-! ## `Format.Extension` and the exact reach of the gate's content test -/

/-- the typical extension of each format is in the table, for that format -/
theorem extension_in_table (f : Format) (hf : f ≠ .unknown) : (extensionOf f, f) ∈ extPairs := by
  cases f <;> first | exact absurd rfl hf | decide

/-- `Detect(stem + f.Extension()) = f` for every stem and each of the seven formats -/
theorem extension_roundtrip (f : Format) (hf : f ≠ .unknown) (stem : Str) :
    detect (stem ++ extensionOf f) = f :=
  ext_table (extensionOf f, f) (extension_in_table f hf) stem (extensionOf f)
    (by cases f <;> first | exact absurd rfl hf | decide)

/-- the five suffixes the gate treats as content: (X)HTML, and `.xml`, `.css` -/
def gateSuffixes : List Str := [sfxXhtml, sfxHtml, sfxHtm, sfxXml, sfxCss]

/-- EXACTLY what "covers a content file" means to the gate: the URI, as written, ends —
in any letter case — in `.xhtml`, `.html`, `.htm`, `.xml` or `.css`.  Nothing else about
the URI (prefix, escapes, what the manifest says of the resource) is looked at. -/
theorem content_file_iff (uri : Str) :
    isContentFile uri = true ↔ ∃ pre sfx, uri = pre ++ sfx ∧ lower sfx ∈ gateSuffixes := by
  have key : ∀ x : Str, hasSuffix (lower uri) x = true ↔ ∃ pre sfx, uri = pre ++ sfx ∧ lower sfx = x := by
    intro x
    rw [hasSuffix_iff]
    constructor
    · rintro ⟨pre, h⟩
      refine ⟨uri.take pre.length, uri.drop pre.length, (List.take_append_drop _ _).symm, ?_⟩
      rw [lower_drop, h]; simp
    · rintro ⟨pre, sfx, rfl, rfl⟩
      exact ⟨lower pre, lower_append pre sfx⟩
  rw [isContentFile_eq_any, List.any_eq_true]
  constructor
  · rintro ⟨x, hx, h⟩
    obtain ⟨pre, sfx, e, hs⟩ := (key x).1 h
    exact ⟨pre, sfx, e, hs ▸ hx⟩
  · rintro ⟨pre, sfx, e, hs⟩
    exact ⟨_, hs, (key _).2 ⟨pre, sfx, e, rfl⟩⟩

/-- the limits of that test (outside what the check demands, DESIGN Appendix C): a content
document stored under an unconventional extension (`OEBPS/ch1.xht`), or referenced with a
fragment (`OEBPS/ch1.xhtml#x`), is not seen as content, so a cipher on it does not refuse -/
example : isContentFile [79, 69, 66, 80, 83, 47, 99, 104, 49, 46, 120, 104, 116] = false ∧
    isContentFile (uCh1 ++ [35, 120]) = false ∧
    checkForDRM [.encryption (some [⟨aes256, uCh1 ++ [35, 120]⟩])] = false := by decide +kernel


/-! ## every naming of the same bytes -/

/-- the outcome depends on the name only through the format its extension asks for: two
non-empty names asking for the same format (e.g. `a.htm` / `dir/b.HTML`) fare alike on the same
bytes, for every operation -/
theorem open_same_format_same_outcome (a b : Str) (ha : a ≠ []) (hb : b ≠ []) (h : detect a = detect b)
    (fs : FileState) (k : TKind) : (openAndRun a fs k).out = (openAndRun b fs k).out := by
  rw [open_and_run_out a ha, open_and_run_out b hb, h]

/-- … in particular names that differ only in letter case -/
theorem open_case_insensitive (a b : Str) (h : lower a = lower b) (fs : FileState) (k : TKind) :
    (openAndRun a fs k).out = (openAndRun b fs k).out := by
  -- the two names are of one length, so both are empty or neither is
  have hl : a.length = b.length := by rw [← lower_length a, h, lower_length]
  by_cases ha : a = []
  · subst ha; rw [List.eq_nil_of_length_eq_zero hl.symm]
  · exact open_same_format_same_outcome a b ha (fun hb => ha (List.eq_nil_of_length_eq_zero (by rw [hl, hb]; rfl)))
      (ext_table_case_insensitive a b h) fs k

example : lower [97, 46, 69, 80, 85, 66] = lower [65, 46, 101, 112, 117, 98] := by decide +kernel

/-- an extractor without a file name (`FromReader`, `FromHTMLString`, `FromHTMLReader` and
everything derived from them) never looks at the file system: its operations give the
same outcome and leave the same extractor whatever bytes are stored anywhere -/
theorem unnamed_never_reads_files (e : Ext) (hn : e.name = []) (cur cur' : FileState) (k : TKind) :
    e.run cur k = e.run cur' k := by
  have her : e.ensureReader cur = e.ensureReader cur' := by
    unfold Ext.ensureReader
    split
    · rfl
    · simp [hn]
  rw [run_eq, run_eq]
  unfold frame framePdf
  rw [her]

example : fromReader.name = [] ∧ (fromHTML true).name = [] := ⟨rfl, rfl⟩

end Tabula.C20A
