import TabulaModel.Lemmas.Matrix
import TabulaModel.Lemmas.GState
/-!
# C08 — Fragment positions follow the PDF imaging model

The model (`Model/Matrix.lean`, `Model/GState.lean`) mirrors `graphicsstate/state.go`,
`model/geometry.go` and the operator dispatch of `text/extractor.go` as they are after the
two `fix:` commits of branch agent-C08.  The theorems below are stated *semantically*,
against ISO 32000-1 8.3.4 / 9.4.2 / 9.4.4 and against the short denotational definition
`specStep`/`specRun`, over an arbitrary commutative ring `α` (so for integers, rationals,
reals alike), for programs of any length and any q/Q depth.  The displacement of the text
matrix by a shown string or a `TJ` number is an arbitrary function `adv` in every theorem of
this file (`Props/C08Text.lean` takes the function the code computes).
-/
namespace Tabula.C08
open Tabula Tabula.Matrix Tabula.GState

variable {α : Type} [Lean.Grind.CommRing α] [DecidableEq α] [LT α] [DecidableLT α]

/-- user space → device space in state `s` -/
def device (s : State α) (p : α × α) : α × α := s.cur.ctm.transformPoint p

/-- the text rise (`Ts`) as `GetTextPosition` applies it: added to the y coordinate of the
text-matrix origin before the CTM.  With rise 0 (every state reached without `Ts`) this is
the identity (`riseUp_zero`). -/
def riseUp (s : State α) (p : α × α) : α × α := (p.1, p.2 + s.cur.text.rise)

omit [DecidableEq α] [LT α] [DecidableLT α] in
theorem riseUp_zero (s : State α) (h : s.cur.text.rise = 0) (p : α × α) : riseUp s p = p := by
  obtain ⟨x, y⟩ := p
  simp only [riseUp, h, Prod.mk.injEq, true_and]
  grind

/-- **cm pre-multiplies**: after `M cm`, a user-space point `p` lands where `p·M` landed
before (`CTM' = M × CTM`); the text state and the stack are unchanged, nothing is reported and no
error is raised. -/
theorem cm_premultiplies (adv : Adv α) (M : Matrix α) (s : State α) :
    let r := step adv (.cm M) s
    (∀ p, device r.1 p = device s (M.transformPoint p)) ∧
      r.1.cur.ctm = M.mul s.cur.ctm ∧ r.1.cur.text = s.cur.text ∧ r.1.stack = s.stack ∧
      r.2.1 = [] ∧ r.2.2 = false := by
  refine ⟨fun p => ?_, rfl, rfl, rfl, rfl, rfl⟩
  show (M.mul s.cur.ctm).transformPoint p = _
  rw [transformPoint_mul]; rfl

/-- two `cm` in a row: the *second* acts first on user coordinates (the quoted witness:
translate(100,100) then scale 2 maps (10,10) to (120,120), not (220,220)) -/
theorem cm_cm (adv : Adv α) (M N : Matrix α) (s : State α) (p : α × α) :
    device (step adv (.cm N) (step adv (.cm M) s).1).1 p
      = device s (M.transformPoint (N.transformPoint p)) := by
  rw [(cm_premultiplies adv N _).1, (cm_premultiplies adv M _).1]

example : device (step (fun _ _ => 0) (.cm ⟨2, 0, 0, 2, 0, 0⟩)
    (step (fun _ _ => 0) (.cm ⟨1, 0, 0, 1, 100, 100⟩) (init : State Int)).1).1 (10, 10) = (120, 120) := by
  decide

/-- **Td pre-multiplies**: after `tx ty Td`, `Tlm' = T(tx,ty) × Tlm` and `Tm' = Tlm'`:
every text-space point `p` maps to where `p + (tx,ty)` mapped under the old line matrix;
the next show is reported at the device image of the old line origin displaced by `(tx,ty)`
*in text-line space*. -/
theorem td_premultiplies (adv : Adv α) (tx ty : α) (s : State α) :
    let r := step adv (.Td tx ty) s
    (∀ p, r.1.cur.text.tlm.transformPoint p = s.cur.text.tlm.transformPoint (p.1 + tx, p.2 + ty)) ∧
      r.1.cur.text.tlm = (translate tx ty).mul s.cur.text.tlm ∧
      r.1.cur.text.tm = r.1.cur.text.tlm ∧ r.1.cur.text.dirty = false ∧
      r.1.getTextPosition = device s (riseUp s (s.cur.text.tlm.transformPoint (tx, ty))) ∧
      r.1.cur.ctm = s.cur.ctm ∧ r.1.cur.text.leading = s.cur.text.leading ∧
      r.1.stack = s.stack ∧ r.2.1 = [] ∧ r.2.2 = false := by
  refine ⟨fun p => ?_, rfl, rfl, rfl, ?_, rfl, rfl, rfl, rfl, rfl⟩
  · show ((translate tx ty).mul s.cur.text.tlm).transformPoint p = _
    rw [transformPoint_mul, transformPoint_translate]
  · have h := translate_mul_e tx ty s.cur.text.tlm
    rw [transformPoint_zero] at h
    show s.cur.ctm.transformPoint (((translate tx ty).mul s.cur.text.tlm).e,
        ((translate tx ty).mul s.cur.text.tlm).f + s.cur.text.rise) = _
    simp only [device, riseUp, ← h]

/-- the quoted witness: `0 -6/5 Td` under a 12× text matrix moves 72/5 = 14.4 units -/
example : (step (fun _ _ => 0) (.Td 0 (-6/5))
    (step (fun _ _ => 0) (.Tm ⟨12, 0, 0, 12, 100, 700⟩) (init : State Rat)).1).1.getTextPosition
      = (100, 700 - 72/5) := by decide +kernel

/-- `TD` = set the leading to `-ty`, then `Td` -/
theorem TD_is_TL_Td (adv : Adv α) (tx ty : α) (s : State α) :
    step adv (.TD tx ty) s = step adv (.Td tx ty) (step adv (.TL (-ty)) s).1 := rfl

/-- `T*` = `0 -TL Td`: the line matrix advances by the leading, relative to itself -/
theorem Tstar_is_Td (adv : Adv α) (s : State α) :
    step adv .Tstar s = step adv (.Td 0 (-s.cur.text.leading)) s := rfl

/-- `'` = `T*` then `Tj` -/
theorem quote_is_Tstar_Tj (adv : Adv α) (sid : Nat) (s : State α) :
    step adv (.quote sid) s = step adv (.Tj sid) (step adv .Tstar s).1 := rfl

/-- `"` = `aw Tw`, `ac Tc`, then `'` (first operand is the word spacing) -/
theorem dquote_is_Tw_Tc_quote (adv : Adv α) (aw ac : α) (sid : Nat) (s : State α) :
    step adv (.dquote aw ac sid) s =
      step adv (.quote sid) (step adv (.Tc ac) (step adv (.Tw aw) s).1).1 := rfl

/-- **BT resets** both text matrices to the identity (CTM, leading, font size and stack
unchanged): the next show is reported at the device image of the user-space origin -/
theorem bt_resets (adv : Adv α) (s : State α) :
    let r := step adv .BT s
    r.1.cur.text.tm = identity ∧ r.1.cur.text.tlm = identity ∧ r.1.cur.text.dirty = false ∧
      r.1.getTextPosition = device s (riseUp s (0, 0)) ∧
      r.1.cur.ctm = s.cur.ctm ∧ r.1.cur.text.leading = s.cur.text.leading ∧
      r.1.cur.text.fontSize = s.cur.text.fontSize ∧ r.1.stack = s.stack ∧
      r.2.1 = [] ∧ r.2.2 = false :=
  ⟨rfl, rfl, rfl, rfl, rfl, rfl, rfl, rfl, rfl, rfl⟩

/-- **Tm sets both** the text matrix and the line matrix to its operand -/
theorem tm_sets_both (adv : Adv α) (M : Matrix α) (s : State α) :
    let r := step adv (.Tm M) s
    r.1.cur.text.tm = M ∧ r.1.cur.text.tlm = M ∧ r.1.cur.text.dirty = false ∧
      r.1.getTextPosition = device s (riseUp s (M.transformPoint (0, 0))) ∧
      r.1.cur.ctm = s.cur.ctm ∧ r.1.stack = s.stack ∧ r.2.1 = [] ∧ r.2.2 = false := by
  refine ⟨rfl, rfl, rfl, ?_, rfl, rfl, rfl, rfl⟩
  rw [transformPoint_zero]; rfl

/-- **q … Q restores the state exactly**: for every balanced program `ops` (nested q/Q and
forms to any depth, any operators in between, any glyph advances), running
`q ops Q` succeeds and ends in exactly the state it started from — CTM, every text-state
parameter including both text matrices, the stack below, and the form nesting depth. -/
theorem qQ_restores (adv : Adv α) (ops : List (Op α)) (hb : Balanced ops) (s : State α) :
    ∃ out, exec adv (Op.q :: (ops ++ [Op.Q])) s = some (s, out) := by
  obtain ⟨s1, o1, h1, _, h3, h4⟩ := balanced_exec adv hb s.save
  exact ⟨o1, exec_qQ h1 h3 h4⟩

/-- the hypothesis is satisfiable by a non-trivial program: nested q/Q, cm, Td, a show and
a form -/
example : Balanced ([.cm ⟨2, 0, 0, 3, 5, 7⟩, .q, .BT, .Td 1 2, .Tj 0, .q, .Tm ⟨0, 1, -1, 0, 3, 4⟩, .Q, .Q,
    .form (some ⟨1, 0, 0, 1, 9, 9⟩) [.q, .cm ⟨2, 0, 0, 2, 0, 0⟩, .Q], .TL 3] : List (Op Int)) := by
  refine .plain _ _ rfl (.qQ [.BT, .Td 1 2, .Tj 0, .q, .Tm ⟨0, 1, -1, 0, 3, 4⟩, .Q] _ ?_ ?_)
  · exact .plain _ _ rfl (.plain _ _ rfl (.plain _ _ rfl (.qQ [.Tm ⟨0, 1, -1, 0, 3, 4⟩] [] (.plain _ _ rfl .nil) .nil)))
  · exact .form _ _ _ (.qQ [.cm ⟨2, 0, 0, 2, 0, 0⟩] [] (.plain _ _ rfl .nil) .nil) (.plain _ _ rfl .nil)

/-- without the balance hypothesis the statement is false: an inner `Q` pops the frame -/
theorem qQ_unbalanced_counterexample :
    (exec (fun _ _ => 0) (Op.q :: ([Op.Q, Op.cm ⟨2, 0, 0, 2, 0, 0⟩, Op.q] ++ [Op.Q]))
        (init : State Int)).map (·.1) ≠ some init := by
  decide

/-- **`Do` of a form with `/Matrix N` behaves as `q N cm … Q`** (executed one nesting level
deeper), for every balanced content stream and below the nesting limit: same fragments,
and the state afterwards is the state before. -/
theorem xobject_matrix (adv : Adv α) (N : Matrix α) (body : List (Op α)) (hb : Balanced body)
    (s : State α) (hd : s.xdepth < maxXObjectDepth) :
    ∃ out, exec adv (Op.q :: Op.cm N :: (body ++ [Op.Q])) { s with xdepth := s.xdepth + 1 }
        = some ({ s with xdepth := s.xdepth + 1 }, out) ∧
      step adv (.form (some N) body) s = (s, out, false) := by
  obtain ⟨s1, o1, h1, h2, h3, h4⟩ := balanced_exec adv hb (formEnter (some N) s)
  -- after `q` and `N cm` one level deeper the extractor is where `Do` enters the form
  have hcm : step adv (Op.cm N) ({ s with xdepth := s.xdepth + 1 } : State α).save = (formEnter (some N) s, [], false) := rfl
  refine ⟨o1, exec_qQ (body := Op.cm N :: body) (exec_cons_some hcm h1) h3 h4, ?_⟩
  rw [step_form_of_balanced adv _ hb s, if_neg (Nat.not_le.mpr hd), h2]

/-- a form without `/Matrix` (balanced content, below the nesting limit): the page gets its state
back, and the fragments are those of the content run from the state `Do` enters it in -/
theorem xobject_nomatrix (adv : Adv α) (body : List (Op α)) (hb : Balanced body)
    (s : State α) (hd : s.xdepth < maxXObjectDepth) :
    ∃ s1 out, runForm adv body (formEnter none s) = (s1, out) ∧
      step adv (.form none body) s = (s, out, false) := by
  refine ⟨_, _, rfl, ?_⟩
  rw [step_form_of_balanced adv none hb s, if_neg (Nat.not_le.mpr hd)]

/-- what ISO 32000 makes observable per graphics-state level: the CTM, the text line
matrix, the text matrix — `none` once a string has been shown, because the property does
not speak about glyph advances — its linear part (for the size), leading and font size -/
structure SFrame (α : Type) where
  ctm : Matrix α
  tlm : Matrix α
  tm : Option (Matrix α)
  lin : Matrix α
  tl : α
  fs : α
  /-- the text rise; the property does not speak about text shown with a rise -/
  rise : α

structure SState (α : Type) where
  cur : SFrame α
  stack : List (SFrame α)

/-- what the property says about one shown string: its origin (when determined) and the
three factors of its size -/
structure SShow (α : Type) where
  origin : Option (α × α)
  fs : α
  tmScale2 : α
  ctmScale2 : α
deriving DecidableEq

def SState.td (s : SState α) (tx ty : α) : SState α :=
  let l := (translate tx ty).mul s.cur.tlm
  { s with cur := { s.cur with tlm := l, tm := some l, lin := l.linear } }

/-- a string is shown at `(0,0) × Tm × CTM` (text rise 0); afterwards the text position is
unknown -/
def SState.show (s : SState α) : SState α × List (SShow α) :=
  ({ s with cur := { s.cur with tm := none } },
   [{ origin := if s.cur.rise = 0 then s.cur.tm.map fun m => (m.mul s.cur.ctm).transformPoint (0, 0) else none,
      fs := s.cur.fs, tmScale2 := tmScale2 s.cur.lin, ctmScale2 := ctmScale2 s.cur.ctm }])

/-- `TJ`: every string of the array is shown; after a string or a number the text position
is unknown (Table 109) -/
def SState.showItems : List (TJItem α) → SState α → SState α × List (SShow α)
  | [], s => (s, [])
  | .str _ :: rest, s =>
    let r := s.show
    let r2 := SState.showItems rest r.1
    (r2.1, r.2 ++ r2.2)
  | .num _ :: rest, s => SState.showItems rest { s with cur := { s.cur with tm := none } }

/-- ISO 32000-1, tables 57, 105–109, as equations on matrices -/
def specStep : Op α → SState α → Option (SState α × List (SShow α))
  | .q, s => some ({ s with stack := s.cur :: s.stack }, [])
  | .Q, s => match s.stack with
    | [] => none
    | f :: rest => some (⟨f, rest⟩, [])
  | .cm M, s => some ({ s with cur := { s.cur with ctm := M.mul s.cur.ctm } }, [])
  | .BT, s => some ({ s with cur := { s.cur with tm := some identity, tlm := identity, lin := identity } }, [])
  | .Tm M, s => some ({ s with cur := { s.cur with tm := some M, tlm := M, lin := M.linear } }, [])
  | .Td tx ty, s => some (s.td tx ty, [])
  | .TD tx ty, s => some (({ s with cur := { s.cur with tl := -ty } } : SState α).td tx ty, [])
  | .Tstar, s => some (s.td 0 (-s.cur.tl), [])
  | .TL l, s => some ({ s with cur := { s.cur with tl := l } }, [])
  | .Tf size, s => some ({ s with cur := { s.cur with fs := size } }, [])
  | .Ts r, s => some ({ s with cur := { s.cur with rise := r } }, [])
  | .Tj _, s => some s.show
  | .TJ items, s => some (s.showItems items)
  | .quote _, s => some (s.td 0 (-s.cur.tl)).show
  | .dquote _ _ _, s => some (s.td 0 (-s.cur.tl)).show
  | _, s => some (s, [])

def specRun : List (Op α) → SState α → Option (List (SShow α))
  | [], _ => some []
  | op :: rest, s => match specStep op s with
    | none => none
    | some r => (specRun rest r.1).map (r.2 ++ ·)

/-- `none` when the flag is set -/
def noneIf (b : Bool) (x : β) : Option β :=
  match b with
  | true => none
  | false => some x

/-- the observable part of a model frame -/
def absFrame (f : Frame α) : SFrame α :=
  { ctm := f.ctm, tlm := f.text.tlm, tm := noneIf f.text.dirty f.text.tm,
    lin := f.text.tm.linear, tl := f.text.leading, fs := f.text.fontSize, rise := f.text.rise }

def absState (s : State α) : SState α := ⟨absFrame s.cur, s.stack.map absFrame⟩

def absShow (sh : Show α) : SShow α :=
  { origin := noneIf (!sh.clean) (sh.x, sh.y), fs := sh.fs,
    tmScale2 := sh.tmScale2, ctmScale2 := sh.ctmScale2 }

/-- programs without `Do` -/
def NoForm : List (Op α) → Prop
  | [] => True
  | .form _ _ :: _ => False
  | _ :: rest => NoForm rest

omit [Lean.Grind.CommRing α] [DecidableEq α] [LT α] [DecidableLT α] in
/-- the recursive and the element-wise way of saying "no `Do`" -/
theorem noForm_iff_formFree (l : List (Op α)) : NoForm l ↔ XDoc.FormFree l := by
  fun_induction NoForm l with
  | case1 => exact ⟨fun _ => .nil, fun _ => trivial⟩
  | case2 m b rest => exact ⟨False.elim, fun h => h _ List.mem_cons_self m b rfl⟩
  | case3 op rest hop ih => exact ⟨fun h => .cons hop (ih.mp h), fun h => ih.mpr h.tail⟩

omit [DecidableEq α] [LT α] [DecidableLT α] in
/-- after `AdvanceText` the specification no longer knows the text position; nothing else
it observes changes -/
theorem absState_advanceText (s : State α) (tx : α) :
    absState (s.advanceText tx) = { absState s with cur := { (absState s).cur with tm := none } } := by
  rfl

theorem absShow_showText (adv : Adv α) (sid : Nat) (s : State α) :
    (absState (showText adv sid s).1, [absShow (showText adv sid s).2]) = (absState s).show := by
  simp only [showText, absShow, SState.show, State.getTextPosition, Prod.mk.injEq, absState_advanceText,
    true_and]
  by_cases hr : s.cur.text.rise = 0
  · have h0 : s.cur.text.tm.f + 0 = s.cur.text.tm.f := by grind
    cases hd : s.cur.text.dirty <;>
      simp [absState, absFrame, noneIf, origin_eq, tmScale2_linear, hr, hd, h0]
  · cases hd : s.cur.text.dirty <;>
      simp [absState, absFrame, noneIf, tmScale2_linear, hr, hd]

/-- a `TJ` array: the model and the specification commute with the abstraction -/
theorem absShow_showTextArray (adv : Adv α) (items : List (TJItem α)) (s : State α) :
    (absState (showTextArray adv items s).1, (showTextArray adv items s).2.map absShow)
      = (absState s).showItems items := by
  induction items generalizing s with
  | nil => rfl
  | cons it rest ih =>
    cases it with
    | str sid =>
      have h := absShow_showText adv sid s
      have ih' := ih (showText adv sid s).1
      simp only [showTextArray, SState.showItems, List.map_cons]
      rw [← h, ← ih']
      rfl
    | num v =>
      have ih' := ih (s.advanceText (adv s.cur.text (.num v)))
      simp only [showTextArray, SState.showItems]
      rw [ih', absState_advanceText]

omit [DecidableEq α] [LT α] [DecidableLT α] in
theorem absState_translateText (s : State α) (tx ty : α) :
    absState (s.translateText tx ty) = (absState s).td tx ty := by
  rfl

/-- one operator: the model step and the specification step commute with the abstraction -/
theorem step_spec (adv : Adv α) (op : Op α) (hop : ∀ m b, op ≠ .form m b) (s : State α) :
    specStep op (absState s) =
      if (step adv op s).2.2 then none
      else some (absState (step adv op s).1, (step adv op s).2.1.map absShow) := by
  cases op with
  | form m b => exact absurd rfl (hop m b)
  | Q =>
    obtain ⟨c, st, d⟩ := s
    cases st <;> rfl
  | Tj sid => exact congrArg some (absShow_showText adv sid s).symm
  | TJ items => exact congrArg some (absShow_showTextArray adv items s).symm
  | quote sid => exact congrArg some (absShow_showText adv sid s.nextLine).symm
  | dquote aw ac sid =>
    exact congrArg some (absShow_showText adv sid ((s.setWordSpacing aw).setCharSpacing ac).nextLine).symm
  | _ => rfl

/-- **origin_spec**: for every `Do`-free program of any length (any q/Q depth, any matrices,
any glyph advances) and every starting state, the extractor fails exactly when the
specification does (an unmatched `Q`), and otherwise reports, fragment by fragment, the
origin `(0,0) × Tm × CTM` of the specification at every show whose position the property
determines (first show after a positioning step), together with the specification's
font-size factors at *every* show. -/
theorem origin_spec (adv : Adv α) (ops : List (Op α)) (hnf : NoForm ops) (s : State α) :
    (run adv ops s).map (·.map absShow) = specRun ops (absState s) := by
  unfold run
  fun_induction NoForm ops generalizing s with
  | case1 => simp [exec, specRun]
  | case2 m b rest => exact hnf.elim
  | case3 op rest hop ih =>
    rw [specRun, step_spec adv op hop s, exec]
    cases herr : (step adv op s).2.2 with
    | true => simp
    | false =>
      simp only [Bool.false_eq_true, if_false]
      rw [← ih hnf]
      cases exec adv rest (step adv op s).1 <;> simp

/-- **origin_spec through a form**: the fragments produced by `Do` of a form with
`/Matrix N` whose (balanced, `Do`-free) content is `body` are, origin by origin and size by
size, those the specification assigns to `q N cm body Q` in the current state. -/
theorem xobject_origin_spec (adv : Adv α) (N : Matrix α) (body : List (Op α)) (hb : Balanced body)
    (hnf : NoForm body) (s : State α) (hd : s.xdepth < maxXObjectDepth) :
    specRun (Op.q :: Op.cm N :: (body ++ [Op.Q])) (absState s)
      = some ((step adv (.form (some N) body) s).2.1.map absShow) := by
  obtain ⟨out, hexec, hstep⟩ := xobject_matrix adv N body hb s hd
  have hnf' : NoForm (Op.q :: Op.cm N :: (body ++ [Op.Q])) :=
    (noForm_iff_formFree _).mpr
      (.cons nofun (.cons nofun (.append ((noForm_iff_formFree _).mp hnf) (.cons nofun .nil))))
  have h := origin_spec adv _ hnf' { s with xdepth := s.xdepth + 1 }
  unfold run at h
  rw [hexec] at h
  have habs : absState { s with xdepth := s.xdepth + 1 } = absState s := rfl
  rw [habs] at h
  rw [← h, hstep]; rfl

/-- non-vacuity and a concrete reading: translate(100,100), scale 2, then text at (10,10) -/
example : run (fun _ _ => 0)
    [.cm ⟨1, 0, 0, 1, 100, 100⟩, .cm ⟨2, 0, 0, 2, 0, 0⟩, .BT, .Tf 12, .Td 10 10, .Tj 0, .ET]
    (init : State Int) = some [⟨120, 120, 12, 1, 4, true⟩] := by decide

/-- the square of the reported `FontSize` -/
def size2 (sh : Show α) : α := sh.fs * sh.fs * sh.tmScale2 * sh.ctmScale2

/-- **fontsize_similarity**: when the text matrix and the CTM are similarities (uniform
scale ∘ rotation ∘ optional reflection ∘ translation) and the CTM is not degenerate, the
reported size is the font size times the two scale factors: `size² = fs² · k_T · k_C` with
`k_T² = det(Tm)²`, `k_C² = det(CTM)²`; in particular `(size²)² = (fs² · det Tm · det CTM)²`. -/
theorem fontsize_similarity (adv : Adv α) (sid : Nat) (s : State α)
    (hT : IsSimilarity s.cur.text.tm) (hC : IsSimilarity s.cur.ctm) (hC0 : s.cur.ctm.vScale2 ≠ 0) :
    let sh := (showText adv sid s).2
    size2 sh = s.cur.text.fontSize * s.cur.text.fontSize * s.cur.text.tm.vScale2 * s.cur.ctm.vScale2 ∧
      s.cur.text.tm.vScale2 * s.cur.text.tm.vScale2 = s.cur.text.tm.det * s.cur.text.tm.det ∧
      s.cur.ctm.vScale2 * s.cur.ctm.vScale2 = s.cur.ctm.det * s.cur.ctm.det := by
  refine ⟨?_, similarity_scale_det _ hT, similarity_scale_det _ hC⟩
  simp only [size2, showText, tmScale2, ctmScale2, hT.1, hC0, if_false]
  split <;> rfl

/-- over the integers: `size² = fs² · |det Tm| · |det CTM|` -/
theorem fontsize_similarity_int (adv : Adv Int) (sid : Nat) (s : State Int)
    (hT : IsSimilarity s.cur.text.tm) (hC : IsSimilarity s.cur.ctm) (hC0 : s.cur.ctm.det ≠ 0) :
    size2 (showText adv sid s).2 =
      s.cur.text.fontSize * s.cur.text.fontSize * (s.cur.text.tm.det.natAbs : Int) * (s.cur.ctm.det.natAbs : Int) := by
  have key : ∀ k d : Int, 0 ≤ k → k * k = d * d → k = (d.natAbs : Int) := by
    intro k d hk h
    have h1 : (k.natAbs * k.natAbs : Nat) = d.natAbs * d.natAbs := by
      have := congrArg Int.natAbs h
      simpa [Int.natAbs_mul] using this
    have h2 : k.natAbs = d.natAbs := Nat.mul_self_inj.mp h1
    omega
  have nn : ∀ m : Matrix Int, 0 ≤ m.vScale2 := by
    intro m
    have h1 := Int.natAbs_mul_self' m.c
    have h2 := Int.natAbs_mul_self' m.d
    have := Int.mul_nonneg (Int.natCast_nonneg m.c.natAbs) (Int.natCast_nonneg m.c.natAbs)
    have := Int.mul_nonneg (Int.natCast_nonneg m.d.natAbs) (Int.natCast_nonneg m.d.natAbs)
    simp only [vScale2]; omega
  have hTd := key _ _ (nn _) (similarity_scale_det _ hT)
  have hCd := key _ _ (nn _) (similarity_scale_det _ hC)
  have hC0' : s.cur.ctm.vScale2 ≠ 0 := by rw [hCd]; omega
  rw [(fontsize_similarity adv sid s hT hC hC0').1, hTd, hCd]

/-- the hypotheses are satisfiable: text rotated by 90° and scaled by 3 under a CTM that
mirrors and scales by 2 — size² = 10²·9·4 (the pinned code reported 0) -/
example : IsSimilarity (⟨0, 3, -3, 0, 5, 5⟩ : Matrix Int) ∧ IsSimilarity (⟨2, 0, 0, -2, 0, 700⟩ : Matrix Int) ∧
    size2 (showText (fun _ _ => 0) 0
      (step (fun _ _ => 0) (.Tm ⟨0, 3, -3, 0, 5, 5⟩) (step (fun _ _ => 0) (.Tf 10)
        (step (fun _ _ => 0) (.cm ⟨2, 0, 0, -2, 0, 700⟩) (init : State Int)).1).1).1).2 = 3600 := by
  decide

/-- the reported size does not depend on the translation part of the text matrix (all that a
glyph advance changes) -/
theorem fontsize_translation_invariant (adv : Adv α) (sid : Nat) (s : State α) (e f : α) :
    size2 (showText adv sid (s.mapText fun t => { t with tm := { t.tm with e := e, f := f } })).2
      = size2 (showText adv sid s).2 := rfl

omit [DecidableEq α] [LT α] [DecidableLT α] in
/-- a line stroked after `M cm` is reported where the line with end points mapped through
`M` would have been reported before -/
theorem gfx_cm_premultiplies (M : Matrix α) (x0 y0 x1 y1 : α) (s : State α) :
    gfx [.cm M, .line x0 y0 x1 y1] s =
      gfx [.line (M.transformPoint (x0, y0)).1 (M.transformPoint (x0, y0)).2
                 (M.transformPoint (x1, y1)).1 (M.transformPoint (x1, y1)).2] s := by
  simp only [gfx, State.transform, Option.map_some]
  rw [transformPoint_mul, transformPoint_mul]

end Tabula.C08
