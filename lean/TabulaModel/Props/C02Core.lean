import TabulaModel.Lemmas.BoundsCore
/-!
# C02 — bounded work in the PDF core (the guards of the C02 repairs, as theorems)

Each theorem is about a model function that mirrors one guarded Go function
(`Model/BoundsCore.lean`) and holds for EVERY input: no hypothesis restricts the file. The
model functions are diffed with the Go code by the ops `c02.readbytes`, `c02.load`, `c02.ptree2`,
`c02.objstm`, `c02.rdeep` (harness/c02/bounds_core.go).
-/
namespace Tabula.C02Core
open Tabula.BoundsCore


/-- **read_bytes_bounded**: whatever count `/Length` announces (2^31, 2^63-1, negative), the
bytes held when `ReadBytes` returns are at most the bytes the input still has, and at most the
count: memory follows the file, not the number in it. -/
theorem read_bytes_bounded (n : Int) (avail : Nat) :
    (readBytes n avail).held ≤ avail ∧ ((readBytes n avail).held : Int) ≤ max n 0 := by
  unfold readBytes
  by_cases h : n < 0
  · simp [h, ReadRes.held]; omega
  · simp only [h, if_false]
    by_cases h2 : avail < n.toNat
    · simp only [h2, if_true, ReadRes.held]; omega
    · simp only [h2, if_false, ReadRes.held]; omega

/-- beyond the data the answer is the documented error, with what was there -/
theorem read_bytes_short (n : Int) (avail : Nat) (h : (avail : Int) < n) :
    readBytes n avail = .eof avail := by
  unfold readBytes
  have h1 : ¬ n < 0 := by omega
  have h2 : avail < n.toNat := by omega
  simp [h1, h2]

theorem read_bytes_negative (n : Int) (avail : Nat) (h : n < 0) : readBytes n avail = .bad := by
  simp [readBytes, h]

example : readBytes 9223372036854775807 300 = .eof 300 := by decide +kernel
example : readBytes 2147483648 0 = .eof 0 := by decide +kernel
example : readBytes 300 300 = .ok 300 := by decide +kernel
example : readBytes (-1) 300 = .bad := by decide +kernel


/-- **nested_loads_bounded**: for EVERY object graph (chains of indirect `/Length`, cycles, self
references), every cache and every object number, a top-level `GetObject` never has more
than 16 objects in the middle of being loaded, and the model recursion (17 levels of fuel)
is never exhausted: the recursion depth of `GetObject` is at most 16 whatever the file says. -/
theorem nested_loads_bounded (g : LGraph) (cache : List (Nat × LKind × Nat)) (n : Nat) :
    (getObjectTop g cache n).peak ≤ maxNestedLoads ∧ (getObjectTop g cache n).res ≠ .error .fuel := by
  unfold getObjectTop
  have := getObject_bounded g (maxNestedLoads + 1) cache [] n (by simp)
  exact ⟨this.1, this.2 (by simp)⟩

/-- … and over every HISTORY of calls on one reader (the object cache persists between them) -/
theorem nested_loads_bounded_hist (g : LGraph) (cache : List (Nat × LKind × Nat)) (calls : List Nat) :
    ∀ r ∈ getObjectHist g cache calls, r.peak ≤ maxNestedLoads ∧ r.res ≠ .error .fuel := by
  induction calls generalizing cache with
  | nil => intro r hr; simp [getObjectHist] at hr
  | cons n rest ih =>
    intro r hr
    simp only [getObjectHist, List.mem_cons] at hr
    rcases hr with rfl | hr
    · exact nested_loads_bounded g cache n
    · exact ih _ r hr

/-- a stream whose `/Length` is the stream itself is an error, not a recursion -/
theorem self_length_refused (g : LGraph) (n : Nat) (h : lookupL g n = some (.streamRef n)) :
    (getObjectTop g [] n).res = .error .selfRef := by
  unfold getObjectTop
  simp only [maxNestedLoads]
  rw [getObject]
  simp only [lookupL, List.find?_nil, List.length_nil]
  have h' := h
  unfold lookupL at h'
  split at h' <;> simp_all [getObject, lookupL, maxNestedLoads]

/-- the chain `1 → 2 → … → k → (k+1 : int)` of streams, each with the next as its `/Length` -/
def lengthChain : Nat → Nat → LGraph
  | 0, i => [(i, .int)]
  | k + 1, i => (i, .streamRef (i + 1)) :: lengthChain k (i + 1)

/-- at the edge: 16 streams inside each other are still followed (and fail for the type of the
length); with the 17th the answer is the documented nesting error -/
example : (getObjectTop (lengthChain 1 1) [] 1).res = .ok .stream := rfl
example : (getObjectTop (lengthChain 15 1) [] 1).res = .error .lengthType ∧
    (getObjectTop (lengthChain 15 1) [] 1).peak = 16 := ⟨rfl, rfl⟩
example : (getObjectTop (lengthChain 16 1) [] 1).res = .error .tooDeep ∧
    (getObjectTop (lengthChain 16 1) [] 1).peak = 16 := ⟨rfl, rfl⟩
example : (getObjectTop (lengthChain 5000 1) [] 1).peak ≤ 16 :=
  (nested_loads_bounded _ _ _).1
example : (getObjectTop [(1, .streamRef 2), (2, .streamRef 1)] [] 1).res = .error .selfRef := rfl
/-- a cache hit counts as the loads it stands for (8b2d749): with 16 streams inside each other the
first is refused on a fresh reader and still refused after the last two have been cached -/
example : (getObjectHist (lengthChain 16 1) [] [1, 17, 16, 1]).map (·.res)
    = [.error .tooDeep, .ok .int, .ok .stream, .error .tooDeep] := rfl


/-- **page_tree_walk_bounded**: for EVERY object graph and EVERY root dictionary — cycles, self
references, shared subtrees, indirect `/Kids` arrays leading back into the tree, nodes
written inside arrays — `loadPages` ends within `pfuel g root` = (size of the root) + Σ over the
objects (1 + size) + 2 steps: the walk is linear in the size of the file. -/
theorem page_tree_walk_bounded (g : PGraph) (lim : Nat) (root : PV) :
    loadPagesWith g lim root ≠ .fuel :=
  (loadPagesWith_spec g lim root).1

/-- **page_tree_depth_bounded**: when the walk succeeds, `t.depth` never exceeded the limit (so
`traversePageNode` was never more than `lim` = 10000 activations deep), and at most
`pfuel g root + 1` pages were counted, one per step at most: never a number read from the file. -/
theorem page_tree_depth_bounded (g : PGraph) (lim : Nat) (root : PV) (p k : Nat)
    (h : loadPagesWith g lim root = .ok p k) : k ≤ lim ∧ p ≤ pfuel g root + 1 :=
  (loadPagesWith_spec g lim root).2 p k h

/-- **page_count_ignores_declared_count**: `PageCount` is the number of leaves reached; the value
of the root's `/Count` (-1, 2^31, anything) has no influence. In the model this holds by definition:
`pageCount` looks only at whether `/Count` is present. -/
theorem page_count_ignores_declared_count (g : PGraph) (root : PV) (c c' : Int) :
    pageCount g root (some c) = pageCount g root (some c') := rfl

theorem page_count_bounded (g : PGraph) (root : PV) (c : Option Int) (p : Nat)
    (h : pageCount g root c = some p) : p ≤ pfuel g root + 1 := by
  unfold pageCount at h
  cases c with
  | none => simp at h
  | some c =>
    simp only at h
    cases hl : loadPagesWith g maxPageTreeDepth root with
    | ok p' k =>
      simp only [hl, Option.some.injEq] at h
      subst h
      exact (page_tree_depth_bounded g _ root p' k hl).2
    | error => simp [hl] at h
    | fuel => simp [hl] at h

/-- a chain of `/Pages` nodes with one kid each, `k` levels below the root, then a page -/
def kidsChain : Nat → Nat → PGraph
  | 0, i => [(i, .page)]
  | k + 1, i => (i, .pages (.arr [.ref (i + 1)])) :: kidsChain k (i + 1)

/-- at the edge (limit lowered to 4 so that the kernel can evaluate it): a tree 4 levels deep is
walked, one of 5 levels is the documented error -/
example : loadPagesWith (kidsChain 2 2) 4 (.pages (.arr [.ref 2])) = .ok 1 4 := by decide +kernel
example : loadPagesWith (kidsChain 3 2) 4 (.pages (.arr [.ref 2])) = .error := by decide +kernel
/-- the witnesses of bb86423 and cd93b07: a node listing itself; a shared subtree; a `/Pages`
node written inside an indirect `/Kids` array that leads back to the array -/
example : loadPagesWith [(2, .pages (.arr [.ref 2]))] 10000 (.pages (.arr [.ref 2])) = .error := by
  decide +kernel
example : loadPagesWith [(2, .pages (.arr [.ref 3, .ref 3])), (3, .page)] 10000
    (.pages (.arr [.ref 2])) = .error := by decide +kernel
example : loadPagesWith [(3, .arr [.pages (.ref 3)])] 10000 (.pages (.ref 3)) = .error := by decide +kernel
/-- non-vacuity: an ordinary tree with an indirect `/Kids` array and an inline node -/
example : loadPagesWith [(2, .arr [.ref 3, .pages (.arr [.page, .ref 4])]), (3, .page), (4, .page)]
    10000 (.pages (.ref 2)) = .ok 3 3 := by decide +kernel


/-- **objstm_capacity_bounded**: the offset table is reserved for at most `/N` entries and at most
what the header can hold, whatever `/N` says. -/
theorem objstm_capacity_bounded (n headerLen : Nat) :
    objstmCapacity n headerLen ≤ n ∧ objstmCapacity n headerLen ≤ headerLen / 4 + 1 := by
  unfold objstmCapacity
  split <;> omega

/-- **objstm_header_bounded**: an object stream that opens has exactly `/N` pairs, `/N` is at most
half the number of objects in the header (so the header loop is bounded by the data, not by
`/N`), `/First` lies inside the data and every offset lies in `0..len`. -/
theorem objstm_header_bounded (n first : Int) (len : Nat) (toks : List (Option Int)) (s : ObjStm)
    (h : objstmOpen n first len toks = some s) :
    0 ≤ n ∧ (s.pairs.length : Int) = n ∧ 2 * s.pairs.length ≤ toks.length ∧
    s.first ≤ len ∧ s.decodedLen = len ∧ ∀ p ∈ s.pairs, p.2 ≤ len := by
  revert h
  fun_cases objstmOpen n first len toks
  case case4 ps hneg hf hp =>
    rintro ⟨⟩
    obtain ⟨h1, h2, h3⟩ := parsePairs_spec _ _ _ _ hp
    exact ⟨by omega, by simp only [h1]; omega, by simpa [h1] using h2, by simp; omega, rfl, h3⟩
  all_goals exact fun h => nomatch h

/-- **objstm_slice_in_bounds**: for EVERY index (negative, huge) and EVERY accepted header (offsets
out of order, equal, at the very end), the slice `decoded[offset:endOffset]` handed to the
parser satisfies `offset < len` and `offset ≤ endOffset ≤ len`: it cannot be out of range. -/
theorem objstm_slice_in_bounds (s : ObjStm) (index : Int) (num : Int) (a b : Nat)
    (h : objstmSlice s index = some (num, a, b)) :
    a < s.decodedLen ∧ a ≤ b ∧ b ≤ s.decodedLen ∧ 0 ≤ index ∧ index < s.pairs.length := by
  revert h
  fun_cases objstmSlice s index
  case case4 hidx i off _ offset endOffset0 hoff endOffset =>
    intro h
    simp only [Option.some.injEq, Prod.mk.injEq] at h
    obtain ⟨-, rfl, rfl⟩ := h
    have : offset ≤ endOffset ∧ endOffset ≤ s.decodedLen := by
      show offset ≤ ite _ _ _ ∧ ite _ _ _ ≤ _
      split <;> omega
    omega
  all_goals exact fun h => nomatch h

/-- witnesses of 78b7a87: `/N` 2^31 over a header of two pairs; a negative offset; an offset below
its predecessor (the object then extends to the end of the data) -/
example : objstmCapacity 2147483648 8 = 3 := by decide +kernel
example : objstmOpen 2147483648 8 20 [some 1, some 0, some 2, some 3] = none := by decide +kernel
example : objstmOpen 1 8 20 [some 1, some (-40)] = none := by decide +kernel
example : (objstmOpen 2 8 20 [some 1, some 5, some 2, some 1]).bind (objstmSlice · 0) =
    some (1, 13, 20) := by decide +kernel
/-- non-vacuity -/
example : (objstmOpen 2 8 20 [some 7, some 0, some 9, some 3]).bind (objstmSlice · 0) =
    some (7, 8, 11) := by decide +kernel


/-- **resolve_deep_terminates**: for every graph, mode and value the recursion of `ResolveDeep`
is never deeper than `lim + 1` (2001 activations for `Reader.ResolveDeep`): the model's fuel,
which only bounds the DEPTH, is never exhausted. -/
theorem resolve_deep_terminates (g : RGraph) (m : RMode) (v : RV) :
    (resolveDeepTop g m v).1 ≠ .error .fuel := by
  unfold resolveDeepTop
  exact resolveDeep_no_fuel g m _ [] 0 v _ (Nat.zero_le _) (by omega)

/-- **resolve_deep_fetches_once**: on EVERY object graph — cyclic, shared, `k` references on each
of `d` levels — one call of `ResolveDeep` asks `ResolveReference` for each object number at most
once (the model keys the memo table by object number). -/
theorem resolve_deep_fetches_once (g : RGraph) (m : RMode) (v : RV) :
    (resolveDeepTop g m v).2.fetched.Nodup := by
  unfold resolveDeepTop
  exact (resolveDeep_post g m _ [] 0 v ⟨[], [], 0, 0⟩ ⟨List.nodup_nil, by simp⟩).nodup

/-- **resolve_deep_linear**: the number of activations of `resolveDeep` in one top-level call is at
most (size of the value) + (total size of the objects of the graph): linear work on any graph. -/
theorem resolve_deep_linear (g : RGraph) (m : RMode) (v : RV) :
    (resolveDeepTop g m v).2.calls ≤ v.size + totalSize g := by
  have := (resolveDeep_post g m (m.lim + 1) [] 0 v ⟨[], [], 0, 0⟩ ⟨List.nodup_nil, by simp⟩).paid
  rw [totalSize_eq]
  unfold resolveDeepTop
  dsimp only at this
  omega

/-- two references to the next array, 40 levels deep: 2^40 resolutions before 8b68946 -/
def dagLevels : Nat → Nat → RGraph
  | 0, i => [(i, .leaf 0)]
  | k + 1, i => (i, .arr [.ref (i + 1), .ref (i + 1)]) :: dagLevels k (i + 1)

theorem totalSize_dagLevels (k i : Nat) : totalSize (dagLevels k i) = 3 * k + 1 := by
  induction k generalizing i with
  | zero => simp [dagLevels, totalSize, RV.size]
  | succ k ih => simp [dagLevels, totalSize, RV.size, RV.sizeList, ih]; omega

example : (resolveDeepTop (dagLevels 40 1) readerMode (.ref 1)).2.calls ≤ 122 := by
  have := resolve_deep_linear (dagLevels 40 1) readerMode (.ref 1)
  rw [totalSize_dagLevels] at this
  simpa [RV.size] using this

/-- the witnesses of 4d61f20: a page and its parent (the reference back is left as it is), an
array holding itself; for the resolver the same cycle is the documented error -/
example : (resolveDeepTop [(1, .arr [.ref 2]), (2, .arr [.ref 1, .leaf 7])] readerMode (.ref 1)).1
    = .ok (.arr [.arr [.ref 1, .leaf 7]]) := rfl
example : (resolveDeepTop [(3, .arr [.ref 3])] readerMode (.ref 3)).1 = .ok (.arr [.ref 3]) := rfl
example : (resolveDeepTop [(3, .arr [.ref 3])] (resolverMode 100) (.ref 3)).1 = .error .circular := rfl
/-- a shared result counts as the resolution it stands for (48aa74b): object 2 is three levels
deep; met first at level 1 and again at level 3 it is refused there under a limit of 5,
whichever of the two places is visited first -/
example : (resolveDeepTop [(2, .arr [.arr [.leaf 7]])] (resolverMode 5) (.arr [.ref 2, .arr [.arr [.ref 2]]])).1
    = .error .tooDeep := rfl
example : (resolveDeepTop [(2, .arr [.arr [.leaf 7]])] (resolverMode 5) (.arr [.arr [.arr [.ref 2]], .ref 2])).1
    = .error .tooDeep := rfl
/-- at the edge of the depth limit (a small limit so that the kernel can evaluate it) -/
example : (resolveDeepTop [] ⟨3, true, false⟩ (.arr [.arr [.leaf 1]])).1 = .ok (.arr [.arr [.leaf 1]]) := rfl
example : (resolveDeepTop [] ⟨3, true, false⟩ (.arr [.arr [.arr [.leaf 1]]])).1 = .error .tooDeep := rfl

end Tabula.C02Core
