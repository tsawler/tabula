import TabulaModel.Props.C11Extract
import TabulaModel.Props.C10E2E
import TabulaModel.Props.C10Hist
/-!
# C11 at the level of the extractor: chains of calls, call histories, Text()

The statement of the property over the model of the public API:

  `tabula.Open(f).c₁…cₙ.<terminal>()`  /  `tabula.FromReader(r).c₁…cₙ.<terminal>()`

where the `cᵢ` are `Pages`, `PageRange`, `ExcludeHeaders`, `ExcludeFooters`,
`ExcludeHeadersAndFooters`, `JoinParagraphs`, `ByColumn`, `PreserveLayout` in any order and
multiplicity (C10's `Builder` model, imported read-only), possibly after an arbitrary history of
other requests on the same source.  `dropExcl cs` is the same request without its Exclude calls —
"the unfiltered result" of the property text.  The theorems that resolve the pages (`public_request_*`,
`statement_*`, `order_of_calls_irrelevant`, `repeated_removed_after_history`) are stated for `Open`; the
sublist and failure theorems, `script_answers`, `history_request_independent` and
`text_call_is_deletion_then_text` cover `FromReader` as well.
-/
namespace Tabula.C11Chain
open Tabula.HF Tabula.HFX Tabula.PageSel Tabula.Builder Tabula.TextPipe Tabula.C11 Tabula.C11X

/-- one of the three Exclude calls -/
def isExcl (c : BCall) : Bool := C10E2E.setsHeaders c || C10E2E.setsFooters c

/-- the same chain of calls without the Exclude calls -/
def dropExcl (cs : List BCall) : List BCall := cs.filter fun c => !isExcl c

/-! ## what a chain configures -/

theorem dropExcl_cons (c : BCall) (cs : List BCall) :
    dropExcl (c :: cs) = if isExcl c then dropExcl cs else c :: dropExcl cs := by
  unfold dropExcl
  cases h : isExcl c <;> simp [h]

/-- what a chain contributes without its Exclude calls: the same, the two flags cleared -/
theorem chainOpts_dropExcl (cs : List BCall) : chainOpts (dropExcl cs) = plain (chainOpts cs) := by
  induction cs with
  | nil => rfl
  | cons c cs ih =>
    rw [dropExcl_cons, chainOpts_cons]
    cases c <;> simp [isExcl, C10E2E.setsHeaders, C10E2E.setsFooters, chainOpts_cons, ih, callOpts, Options.add, plain]

theorem selOf_dropExcl (cs : List BCall) : selOf (dropExcl cs) = selOf cs := by
  have := congrArg Options.pages (chainOpts_dropExcl cs)
  rwa [chainOpts_eq, chainOpts_eq] at this

theorem badRange_dropExcl (cs : List BCall) : badRange (dropExcl cs) = badRange cs := by
  induction cs with
  | nil => rfl
  | cons c cs ih =>
    rw [dropExcl_cons]
    cases c <;> simp [isExcl, C10E2E.setsHeaders, C10E2E.setsFooters, badRange, ih]

theorem any_isExcl (cs : List BCall) :
    cs.any isExcl = (cs.any C10E2E.setsHeaders || cs.any C10E2E.setsFooters) := by
  induction cs with
  | nil => rfl
  | cons c cs ih =>
    simp only [List.any_cons, ih, isExcl]
    cases C10E2E.setsHeaders c <;> cases C10E2E.setsFooters c <;> simp

/-- **chain_needHF.** A chain asks for detection iff its base did or one of its calls is an Exclude
call — wherever in the chain, however often, before or after the page calls. -/
theorem chain_needHF (e0 : Ext) (cs : List BCall) :
    needHF (chainFrom e0 cs).opts = (needHF e0.opts || cs.any isExcl) := by
  obtain ⟨h1, h2, _⟩ := C10E2E.options_commute cs e0
  unfold needHF
  rw [h1, h2, any_isExcl]
  ac_rfl

/-- **chain_plain.** Dropping the Exclude calls from a chain clears the two flags and changes no
other option (the base carrying no flag). -/
theorem chain_plain (e0 : Ext) (h0 : needHF e0.opts = false) (cs : List BCall) :
    (chainFrom e0 (dropExcl cs)).opts = plain (chainFrom e0 cs).opts := by
  have h := fun cs => congrArg Prod.fst (chainFrom_static cs e0)
  simp only [Ext.static] at h
  simp only [needHF, Bool.or_eq_false_iff] at h0
  rw [h, h, chainOpts_dropExcl]
  simp [plain, Options.add, h0]

theorem termStatic_of_cfg (w : World) (k : Term) (e e' : Ext) (hp : e.opts.pages = e'.opts.pages)
    (herr : e.err = e'.err) (hfmt : e.format = e'.format) (hfile : e.hasFile = e'.hasFile) :
    termStatic w k e = termStatic w k e' := by
  have hb : termBodyF w k e = termBodyF w k e' := by
    unfold termBodyF termBody
    rw [hfmt, hp]
  unfold termStatic
  rw [herr, hfmt, hfile, hb]

/-- the frame of a terminal operation (open, builder error, page resolution) does not see the Exclude
calls -/
theorem frame_ignores_excl (w : World) (k : Term) (e0 : Ext) (cs : List BCall) :
    termStatic w k (chainFrom e0 (dropExcl cs)) = termStatic w k (chainFrom e0 cs) := by
  obtain ⟨a1, a2, a3, a4⟩ := C10E2E.chain_cfg (dropExcl cs) e0
  obtain ⟨b1, b2, b3, b4⟩ := C10E2E.chain_cfg cs e0
  apply termStatic_of_cfg
  · rw [a1, b1, selOf_dropExcl]
  · rw [a2, b2, badRange_dropExcl]
  · rw [a3, b3]
  · rw [a4, b4]

/-! ## the statement over the public API: one request -/

/-- **exclusion_only_deletes_end_to_end.** For every page-level operation `t` and every chain `cs` on
`Open(f)` or `FromReader(r)`: if the request succeeds then the same request without its Exclude calls
succeeds with as many page results, and page by page the fragments handed on with exclusion are a sublist
of those handed on without (that these are the pages' own fragments: `request_pages_only_delete`).  ("Excluding headers and footers can
only delete text: the result is the unfiltered result minus some fragments, in the same order.") -/
theorem exclusion_only_deletes_end_to_end (t : Term) (src : Source) (e0 : Ext) (h0 : needHF e0.opts = false)
    (cs : List BCall) (rs : List (List Frag)) (h : inputsCall t src e0 cs = .ok rs) :
    ∃ us, inputsCall t src e0 (dropExcl cs) = .ok us ∧ Pointwise (fun r u => r.Sublist u) rs us := by
  unfold inputsCall at h ⊢
  rw [frame_ignores_excl, chain_plain e0 h0]
  cases hr : termStatic (worldOf src) t (chainFrom e0 cs) with
  | pages idx =>
    rw [hr] at h
    simp only [viaFrame] at h ⊢
    obtain ⟨us, hus, hsub, _⟩ := request_pages_only_delete _ src idx rs h
    exact ⟨us, hus, hsub⟩
  | _ => rw [hr] at h; simp [viaFrame] at h

/-- **exclusion_fails_alike_end_to_end.** The Exclude calls never decide whether a request fails. -/
theorem exclusion_fails_alike_end_to_end (t : Term) (src : Source) (e0 : Ext) (h0 : needHF e0.opts = false)
    (cs : List BCall) (e : E) :
    inputsCall t src e0 cs = .error e ↔ inputsCall t src e0 (dropExcl cs) = .error e := by
  -- the frame does not see the Exclude calls, and no option decides whether a page loop fails
  unfold inputsCall
  rw [frame_ignores_excl]
  cases hr : termStatic (worldOf src) t (chainFrom e0 cs) with
  | pages idx => exact request_fails_with_or_without_flags _ _ src idx e
  | _ => simp [viaFrame]

theorem inputsOf_congr {o o' : Options} (h : needHF o = needHF o') (src : Source) (idx : List Nat) :
    inputsOf o src idx = inputsOf o' src idx := by
  unfold inputsOf
  exact collect_congr _ _ idx fun k _ => flags_one_switch o o' h src k

/-- **public_request_end_to_end.** A chain on `Open(pdf)` whose page calls are well-formed and denote
a non-empty set of pages inside the document answers every page-level operation, with an Exclude call
anywhere in it, by the per-page results of THE pages denoted (ascending, each once) under "a flag is
set"; without one, under "no flag is set".  All per-page theorems of `Props/C11Extract.lean`
(`body_untouched_request`, `removed_only_if_request`, `no_repetition_request`,
`repeated_removed_from_every_request`, …) speak about exactly these results. -/
theorem public_request_end_to_end (t : Term) (src : Source) (cs : List BCall)
    (hgood : badRange cs = false) (hne : selOf cs ≠ []) (hr : InRange (selOf cs) src.length) :
    inputsCall t src baseOpen cs =
      inputsOf (if cs.any isExcl then exclOn else {}) src (specPages (selOf cs) src.length) := by
  unfold inputsCall baseOpen
  have hp : (chainFrom {} cs).opts.pages = selOf cs := by
    have := (C10E2E.chain_cfg cs {}).1
    simpa using this
  rw [C10E2E.pdf_chain_static (worldOf src) t cs rfl, hgood]
  simp only [Bool.false_eq_true, if_false]
  rw [C10Life.every_terminal_selects (worldOf src) t _ src.length rfl (by rw [hp]; exact hne) (by rw [hp]; exact hr), hp]
  simp only [viaFrame]
  apply inputsOf_congr
  rw [chain_needHF]
  cases cs.any isExcl <;> rfl

/-- the same for a chain without page calls: every page of the document -/
theorem public_request_whole_document (t : Term) (src : Source) (cs : List BCall)
    (hgood : badRange cs = false) (hsel : selOf cs = []) (hn : t.needsPages = false ∨ src.length ≠ 0) :
    inputsCall t src baseOpen cs =
      inputsOf (if cs.any isExcl then exclOn else {}) src (List.range src.length) := by
  unfold inputsCall baseOpen
  have hp : (chainFrom {} cs).opts.pages = [] := by
    have := (C10E2E.chain_cfg cs {}).1
    simpa [hsel] using this
  rw [C10E2E.pdf_chain_static (worldOf src) t cs rfl, hgood]
  simp only [Bool.false_eq_true, if_false]
  rw [C10Life.every_terminal_no_selection (worldOf src) t _ src.length rfl hp]
  have : (t.needsPages && src.length == 0) = false := by
    rcases hn with h | h
    · simp [h]
    · have : (src.length == 0) = false := by simpa using h
      simp [this]
  simp only [this, Bool.false_eq_true, if_false, viaFrame]
  apply inputsOf_congr
  rw [chain_needHF]
  cases cs.any isExcl <;> rfl

/-- non-vacuity: `Open(f).ExcludeFooters().PageRange(1, 2).Pages(4, 1).Lines()` on `exSrc` -/
example : let cs := [BCall.excludeFooters, .pageRange 1 2, .pages [4, 1]]
    badRange cs = false ∧ selOf cs = [1, 2, 4, 1] ∧ InRange (selOf cs) exSrc.length ∧
    specPages (selOf cs) exSrc.length = [0, 1, 3] ∧
    inputsCall .lines exSrc baseOpen cs = .ok
      [[{ text := [66, 49], x := 72, y := 400, w := 120, h := 12, fs := 12 }],
       [{ text := [66, 50], x := 72, y := 400, w := 120, h := 12, fs := 12 }],
       [{ text := [66, 52], x := 72, y := 400, w := 120, h := 12, fs := 12 }]] := by
  unfold InRange inputsCall inputsOf pageInput
  simp only [hfResult_exSrc]
  decide +kernel

/-- what the property says about the fragments `fs` handed on for readable page `k` of `src` under
exclusion: only deletions, in order; the body band untouched (on a character-level page: the glyphs of
lines outside both bands); on a word-level page a deletion only in a margin band of that page and only
of a text that a region detected on ≥ 2 of the readable pages (and covering this page) has as its
pattern, or of a page-number pattern under a page-number region; on a character-level page the same
with the assembled LINE the glyph belongs to in place of the fragment (F8 repaired); and nothing at all
deleted when no marginal text repeats across the readable pages. -/
def PageStatement (src : Source) (k : Nat) (fs : List Frag) : Prop :=
  ∃ rp, src[k]? = some (some rp) ∧ fs.Sublist rp.frags ∧
    (isCharacterLevel rp.frags = false →
      ∀ f ∈ rp.frags, inTop (bands defaultConfig rp.frags rp.height) f = false →
        inBottom (bands defaultConfig rp.frags rp.height) f = false → f ∈ fs) ∧
    (isCharacterLevel rp.frags = true →
      ∀ f ∈ rp.frags, (∀ g ∈ charLines rp.frags, f ∈ g → ∀ l, assembleLine g = some l →
        inTop (bands defaultConfig (assembleFragmentsIntoLines rp.frags) rp.height) l = false ∧
        inBottom (bands defaultConfig (assembleFragmentsIntoLines rp.frags) rp.height) l = false) → f ∈ fs) ∧
    (isCharacterLevel rp.frags = false → ∀ f ∈ rp.frags, f ∉ fs →
      ∃ kind r, r ∈ (detect defaultConfig (collectAllPages src)).regions kind ∧
        DetectedAt defaultConfig (collectAllPages src) kind r ∧ (k : Int) ∈ r.pages ∧
        inRegion kind (bands defaultConfig rp.frags rp.height) f = true ∧
        (normalize (trimSpace f.text) = r.pattern ∨
          (r.isPageNumber = true ∧ isPageNumberPattern (normalize (trimSpace f.text)) = true))) ∧
    (isCharacterLevel rp.frags = true → ∀ f ∈ rp.frags, f ∉ fs →
      ∃ g ∈ charLines rp.frags, f ∈ g ∧ ∃ l, assembleLine g = some l ∧
        ∃ kind r, r ∈ (detect defaultConfig (collectAllPages src)).regions kind ∧
          DetectedAt defaultConfig (collectAllPages src) kind r ∧ (k : Int) ∈ r.pages ∧
          inRegion kind (bands defaultConfig (assembleFragmentsIntoLines rp.frags) rp.height) l = true ∧
          (normalize (trimSpace l.text) = r.pattern ∨
            (r.isPageNumber = true ∧ isPageNumberPattern (normalize (trimSpace l.text)) = true))) ∧
    ((∀ kind key, (distinctPages (groupOf (extractCandidates defaultConfig kind
        (preprocessPages (collectAllPages src))) key)).length < 2) → fs = rp.frags)

theorem pageStatement_of_input (o : Options) (src : Source) (k : Nat) (fs : List Frag)
    (h : pageInput o src k = .ok fs) : PageStatement src k fs := by
  obtain ⟨rp, hrp, _, hsub⟩ := request_only_deletes o src k fs h
  refine ⟨rp, hrp, hsub, ?_, ?_, ?_, ?_, ?_⟩
  · intro hword f hf ht hb
    obtain ⟨fs', h', hm⟩ := body_untouched_request o src k rp hrp f hf hword ht hb
    rw [h] at h'; cases h'; exact hm
  · intro hcl f hf hout
    obtain ⟨fs', h', hm⟩ := body_untouched_request_charlevel o src k rp hrp f hf hcl hout
    rw [h] at h'; cases h'; exact hm
  · intro hword f hf hrem
    exact (removed_only_if_request o src k rp hrp hword fs h f hf hrem).2
  · intro hcl f hf hrem
    exact (removed_only_if_request_charlevel o src k rp hrp hcl fs h f hf hrem).2
  · intro hrep
    have := no_repetition_request o src hrep k rp hrp
    rw [h] at this; cases this; rfl

/-- **statement_public_api.** The property over the model of the public API, in one statement: for
every page-level operation `t`, every chain `cs` on `Open(pdf)` that is well-formed and denotes a
non-empty set of pages inside the document, all of which can be read: the request succeeds and hands
on, for exactly the denoted pages in ascending order, fragment lists each of which satisfies
`PageStatement` — whatever other pages the document has (readable or not), wherever the Exclude and
page calls stand in the chain. (Liveness: `repeated_removed_from_every_request`.) -/
theorem statement_public_api (t : Term) (src : Source) (cs : List BCall)
    (hgood : badRange cs = false) (hne : selOf cs ≠ []) (hr : InRange (selOf cs) src.length)
    (hread : ∀ k ∈ specPages (selOf cs) src.length, ∃ rp, src[k]? = some (some rp)) :
    ∃ rs, inputsCall t src baseOpen cs = .ok rs ∧
      Pointwise (fun k fs => PageStatement src k fs) (specPages (selOf cs) src.length) rs := by
  rw [public_request_end_to_end t src cs hgood hne hr]
  generalize (if cs.any isExcl = true then exclOn else ({} : Options)) = o
  generalize specPages (selOf cs) src.length = idx at hread
  induction idx with
  | nil => exact ⟨[], rfl, .nil⟩
  | cons k ks ih =>
    obtain ⟨rs, hrs, hp⟩ := ih (fun j hj => hread j (by simp [hj]))
    obtain ⟨rp, hrp⟩ := hread k (by simp)
    have hk := pageInput_readable hrp o
    refine ⟨_ :: rs, ?_, .cons (pageStatement_of_input o src k _ hk) hp⟩
    unfold inputsOf at hrs ⊢
    simp only [collect, hk, hrs]

/-- **order_of_calls_irrelevant.** Two chains that denote the same set of pages and agree on "some
Exclude call occurs" hand every detector the same fragments: `Pages(S).ExcludeHeaders()`,
`ExcludeHeaders().Pages(S)`, `ExcludeFooters().Pages(S)`, `ExcludeHeadersAndFooters()` interleaved with
the page calls in any way. -/
theorem order_of_calls_irrelevant (t : Term) (src : Source) (cs₁ cs₂ : List BCall)
    (hg₁ : badRange cs₁ = false) (hg₂ : badRange cs₂ = false) (hne : selOf cs₁ ≠ [])
    (hr : InRange (selOf cs₁) src.length) (hsame : ∀ p, p ∈ selOf cs₁ ↔ p ∈ selOf cs₂)
    (hex : cs₁.any isExcl = cs₂.any isExcl) :
    inputsCall t src baseOpen cs₁ = inputsCall t src baseOpen cs₂ := by
  have hne₂ : selOf cs₂ ≠ [] := fun h =>
    hne (List.eq_nil_iff_forall_not_mem.mpr fun p hp => by rw [hsame, h] at hp; cases hp)
  have hr₂ : InRange (selOf cs₂) src.length := fun p hp => hr p ((hsame p).mpr hp)
  rw [public_request_end_to_end t src cs₁ hg₁ hne hr, public_request_end_to_end t src cs₂ hg₂ hne₂ hr₂, hex]
  have : specPages (selOf cs₁) src.length = specPages (selOf cs₂) src.length := by
    apply strictAsc_ext _ _ (specPages_strictAsc _ _) (specPages_strictAsc _ _)
    intro k
    rw [mem_specPages, mem_specPages, hsame]
  rw [this]

/-! ## call histories on one source -/

/-- the answers of a script predicted from the chains of calls alone -/
def staticScript (src : Source) (e0 : Ext) : List (List BCall) → List Op → List (Option (Except E (List (List Frag))))
  | _, [] => []
  | L, op :: ops =>
    (match op with
      | .term i t => some (match L[i]? with
        | some cs => inputsCall t src e0 cs
        | none => .error .builder)
      | _ => none) :: staticScript src e0 (lineage L [op]) ops

theorem histStep_store (src : Source) (s : Store) (op : Op) :
    (histStep src s op).1 = (step (worldOf src) s op).1 := by
  cases op <;> rfl

theorem histInputs_static (src : Source) (e0 : Ext) {L : List (List BCall)} {s : Store}
    (hs : StoreInv s) (hf : FamInv (worldOf src) s) (hl : LinInv e0 L s) (t : Term) (i : Nat) :
    (histInputs src t s i).2 = match L[i]? with
      | some cs => inputsCall t src e0 cs
      | none => .error .builder := by
  have hsome := C10Hist.lin_some hl i
  unfold histInputs
  -- `L` and the store have their entries at the same positions; where both have none, both sides are
  -- the builder error (closed by `rw`)
  cases hL : L[i]? <;> cases he : s.exts[i]? <;> rw [hL, he] at hsome
  · cases hsome
  · cases hsome
  · next cs e =>
    have hst := hl.2 i cs e hL he
    have ho : e.opts = (chainFrom e0 cs).opts := (Prod.mk.inj hst).1
    simp only
    rw [terminal_static (worldOf src) t hs hf he, termStatic_congr _ t _ _ hst, ho]
    rfl

theorem script_answers_gen (src : Source) (e0 : Ext) (ops : List Op) :
    ∀ (L : List (List BCall)) (s : Store), StoreInv s → FamInv (worldOf src) s → LinInv e0 L s →
      histRun src s ops = staticScript src e0 L ops := by
  induction ops with
  | nil => intro L s _ _ _; rfl
  | cons op ops ih =>
    intro L s hs hf hl
    have hstore := histStep_store src s op
    have hl' : LinInv e0 (lineage L [op]) (step (worldOf src) s op).1 := lin_exec (worldOf src) e0 [op] hl
    have hrest := ih (lineage L [op]) (step (worldOf src) s op).1 (inv_step _ hs op) (fam_step _ hs hf op) hl'
    simp only [histRun, staticScript]
    rw [hstore, hrest]
    congr 1
    cases op with
    | term i t =>
      simp only [histStep]
      rw [histInputs_static src e0 hs hf hl t i]
    | _ => rfl

/-- **script_answers.** Whatever script of requests runs on ONE source — configuration calls deriving
new extractors from any earlier one, terminal operations, `PageCount` / `IsMultiColumn` /
`IsCharacterLevel`, `Close`, in any interleaving — every page-level operation hands its detectors
exactly what the chain of calls behind its receiver determines (`inputsCall`): no earlier request,
with or without exclusion, on the same or another extractor of the family, shows in a later answer. -/
theorem script_answers (src : Source) (ops : List Op) :
    histRun src openBase ops = staticScript src baseOpen [[]] ops ∧
    histRun src readerBase ops = staticScript src baseReader [[]] ops :=
  ⟨script_answers_gen src baseOpen ops _ _ inv_openBase (fam_openBaseF _ .pdf) (lin_base _ []),
   script_answers_gen src baseReader ops _ _ inv_readerBase (fam_readerBase _) (lin_base _ [true])⟩

/-- **history_request_independent.** After ANY history on the family grown from `Open(pdf)`, the
extractor built by the chain `cs` answers a page-level operation as the fresh chain
`Open(pdf).c₁…cₙ` does. -/
theorem history_request_independent (src : Source) (ops : List Op) (i : Nat) (cs : List BCall)
    (hl : (lineage [[]] ops)[i]? = some cs) (t : Term) :
    (histInputs src t (exec (worldOf src) openBase ops) i).2 = inputsCall t src baseOpen cs ∧
    (histInputs src t (exec (worldOf src) readerBase ops) i).2 = inputsCall t src baseReader cs := by
  constructor
  · have := histInputs_static src baseOpen (inv_exec _ ops inv_openBase)
      (fam_exec _ ops inv_openBase (fam_openBaseF _ .pdf)) (lin_exec (worldOf src) baseOpen ops (lin_base _ [])) t i
    rw [hl] at this
    exact this
  · have := histInputs_static src baseReader (inv_exec _ ops inv_readerBase)
      (fam_exec _ ops inv_readerBase (fam_readerBase _)) (lin_exec (worldOf src) baseReader ops (lin_base _ [true])) t i
    rw [hl] at this
    exact this

/-- non-vacuity: the unfiltered reference first, then exclusion derived from the same source, then a
page of it — the third answer is that of the fresh chain `Open(f).ExcludeHeaders().Pages(2)` -/
example : let ops := [Op.term 0 .lines, .derive 0 .excludeHeaders, .term 1 .paragraphs, .nonTerm 0 .pageCount,
      .derive 1 (.pages [2]), .term 2 .lines, .close 1]
    (lineage [[]] ops)[2]? = some [.excludeHeaders, .pages [2]] ∧
    (histRun exSrc openBase ops)[5]? = some (some (.ok
      [[{ text := [66, 50], x := 72, y := 400, w := 120, h := 12, fs := 12 }]])) ∧
    (histRun exSrc openBase ops)[0]? = some (some (.error .page)) := by
  decide +kernel

/-- the same after an arbitrary history on the source -/
theorem statement_after_history (t : Term) (src : Source) (ops : List Op) (i : Nat) (cs : List BCall)
    (hl : (lineage [[]] ops)[i]? = some cs)
    (hgood : badRange cs = false) (hne : selOf cs ≠ []) (hr : InRange (selOf cs) src.length)
    (hread : ∀ k ∈ specPages (selOf cs) src.length, ∃ rp, src[k]? = some (some rp)) :
    ∃ rs, (histInputs src t (exec (worldOf src) openBase ops) i).2 = .ok rs ∧
      Pointwise (fun k fs => PageStatement src k fs) (specPages (selOf cs) src.length) rs := by
  rw [(history_request_independent src ops i cs hl t).1]
  exact statement_public_api t src cs hgood hne hr hread

/-- the hypotheses of `statement_public_api` / `statement_after_history` are satisfiable: the chain
`ExcludeFooters().PageRange(1, 2).Pages(4, 1)` on `exSrc` names readable pages only -/
example : ∀ k ∈ specPages (selOf [BCall.excludeFooters, .pageRange 1 2, .pages [4, 1]]) exSrc.length,
    ∃ rp, exSrc[k]? = some (some rp) := by
  have : specPages (selOf [BCall.excludeFooters, .pageRange 1 2, .pages [4, 1]]) exSrc.length = [0, 1, 3] := by decide
  rw [this]
  intro k hk
  simp only [List.mem_cons, List.mem_nil_iff, or_false] at hk
  rcases hk with rfl | rfl | rfl <;> exact ⟨_, rfl⟩

/-- **repeated_removed_after_history** (liveness, composed). Under the hypotheses of
`repeated_removed_from_every_request` (≥ 2 readable pages, all word-level, every one carrying the
line / running page number `key` at the one marginal position): after ANY history on the source, an
extractor whose chain contains an Exclude call and well-formed page calls answers every page-level
operation with fragment lists — one per denoted page — none of which contains such a fragment. -/
theorem repeated_removed_after_history (src : Source) (kind : Kind) (key : HF.Str) (x0 d0 : Rat)
    (hn : 2 ≤ (collectAllPages src).length)
    (hword : ∀ (j : Nat) (rq : RawPage), src[j]? = some (some rq) → isCharacterLevel rq.frags = false)
    (hkey : 2 < key.length ∨ isPageNumberPattern key = true)
    (hpresent : ∀ (j : Nat) (rq : RawPage), src[j]? = some (some rq) → ∃ f ∈ rq.frags,
      inRegion kind (bands defaultConfig rq.frags rq.height) f = true ∧ normalize (trimSpace f.text) = key)
    (hpos : ∀ (j : Nat) (rq : RawPage), src[j]? = some (some rq) → ∀ f ∈ rq.frags,
      inRegion kind (bands defaultConfig rq.frags rq.height) f = true → normalize (trimSpace f.text) = key →
      f.x = x0 ∧ regionDist kind (bands defaultConfig rq.frags rq.height) f = d0)
    (ops : List Op) (i : Nat) (cs : List BCall) (hl : (lineage [[]] ops)[i]? = some cs)
    (hex : cs.any isExcl = true) (hgood : badRange cs = false) (hne : selOf cs ≠ [])
    (hr : InRange (selOf cs) src.length) (t : Term) (rs : List (List Frag))
    (h : (histInputs src t (exec (worldOf src) openBase ops) i).2 = .ok rs) :
    Pointwise (fun k fs => ∀ rp, src[k]? = some (some rp) → ∀ f ∈ rp.frags,
        inRegion kind (bands defaultConfig rp.frags rp.height) f = true →
        normalize (trimSpace f.text) = key → f ∉ fs)
      (specPages (selOf cs) src.length) rs := by
  rw [(history_request_independent src ops i cs hl t).1, public_request_end_to_end t src cs hgood hne hr, hex] at h
  simp only [if_true] at h
  have hp := (inputs_pagewise exclOn src _ rs).mp h
  exact hp.imp fun k fs hk rp hrp =>
    repeated_removed_from_every_request src kind key x0 d0 hn hword hkey hpresent hpos exclOn rfl k rp hrp fs hk

/-- **exclusion_statement_after_history.** The statement composed: after any history, an extractor
whose chain contains an Exclude call hands on, page by page, sublists of what the chain without the
Exclude calls — built afresh — hands on. -/
theorem exclusion_statement_after_history (src : Source) (ops : List Op) (i : Nat) (cs : List BCall)
    (hl : (lineage [[]] ops)[i]? = some cs) (t : Term) (rs : List (List Frag))
    (h : (histInputs src t (exec (worldOf src) openBase ops) i).2 = .ok rs) :
    ∃ us, inputsCall t src baseOpen (dropExcl cs) = .ok us ∧ Pointwise (fun r u => r.Sublist u) rs us := by
  rw [(history_request_independent src ops i cs hl t).1] at h
  exact exclusion_only_deletes_end_to_end t src baseOpen rfl cs rs h

/-! ## Text() -/

theorem heightOf_readable {src : Source} {k : Nat} {rp : RawPage} (h : src[k]? = some (some rp)) :
    heightOf src k = rp.height := by
  unfold heightOf; rw [h]

theorem widthOf_readable {src : Source} {k : Nat} {rp : RawPage} (h : src[k]? = some (some rp)) :
    widthOf src k = rp.width := by
  unfold widthOf; rw [h]

theorem widthOf_filteredSource (src : Source) (k : Nat) : widthOf (filteredSource src) k = widthOf src k := by
  unfold widthOf
  rw [filteredSource_getElem?]
  cases hs : src[k]? with
  | none => rfl
  | some ov => cases ov <;> rfl

theorem pageText_filteredSource (R : Renderers) (o : Options) (hf : needHF o = true) (src : Source) (k : Nat) :
    pageText (textEnv R src) o k = pageText (textEnv R (filteredSource src)) (plain o) k := by
  rw [pageText_textEnv, pageText_textEnv, ← pageInput_filteredSource o hf src k, widthOf_filteredSource]
  rfl

/-- **text_exclusion_is_deletion_then_text.** `Text()` with a flag set equals `Text()` without flags on
the document whose pages carry only what exclusion keeps — for every assembler, both layout tests,
every outcome of OCR, every selection and text option: exclusion does nothing to `Text()` but delete
fragments before the page pipeline starts. -/
theorem text_exclusion_is_deletion_then_text (R : Renderers) (o : Options) (hf : needHF o = true)
    (src : Source) : textOp R o src = textOp R (plain o) (filteredSource src) := by
  unfold textOp textFull
  rw [filteredSource_length]
  have : pageText (textEnv R src) o = pageText (textEnv R (filteredSource src)) (plain o) :=
    funext fun k => pageText_filteredSource R o hf src k
  rw [this]
  rfl

/-- the same for the whole call `base.c₁…cₙ.Text()` -/
theorem text_call_is_deletion_then_text (R : Renderers) (src : Source) (e0 : Ext)
    (h0 : needHF e0.opts = false) (cs : List BCall) (hex : cs.any isExcl = true) :
    textCallOf R src e0 cs = textCallOf R (filteredSource src) e0 (dropExcl cs) := by
  unfold textCallOf textCall
  have hw : worldOf (filteredSource src) = worldOf src := by unfold worldOf; rw [filteredSource_length]
  rw [hw, frame_ignores_excl, chain_plain e0 h0]
  have hf : needHF (chainFrom e0 cs).opts = true := by rw [chain_needHF, hex]; simp
  have : pageText (textEnv R src) (chainFrom e0 cs).opts =
      pageText (textEnv R (filteredSource src)) (plain (chainFrom e0 cs).opts) :=
    funext fun k => pageText_filteredSource R _ hf src k
  rw [this]

/-- renderers for the examples: every assembler concatenates the fragments' texts -/
def catRenderers (ocr : Nat → Option HF.Str) : Renderers where
  ocr := ocr
  columnsGt1 _ _ := false
  render _ _ fs := (fs.map (·.text)).flatten

/-- without OCR: the running header and page number are gone from the text of every page -/
example : textOp (catRenderers fun _ => none) { excludeHeaders := true, pages := [1, 2, 4] } exSrc =
      .ok [66, 49, 10, 10, 66, 50, 10, 10, 66, 52] ∧
    textOp (catRenderers fun _ => none) { excludeHeaders := true } exSrc = .error .page := by
  simp only [textOp, textEnv, hfResult_exSrc]
  decide +kernel

/-- **text_ocr_fallback_counterexample.** With an OCR engine compiled in (build tag `ocr`) the `Text()`
page loop falls back to OCR when a page has no fragments LEFT — also when exclusion removed them all.
On two pages that carry nothing but the running title, `Text()` with exclusion then returns the OCR
text of the page images, which the unfiltered `Text()` does not contain: at the level of `Text()`
"exclusion can only delete text" holds only in the sense of `text_exclusion_is_deletion_then_text`.
(The default build has no OCR engine: `ocr.New()` fails and the fallback yields nothing.) -/
theorem text_ocr_fallback_counterexample :
    let title : Frag := { text := [84, 105, 116, 108, 101], x := 72, y := 760, w := 30, h := 12, fs := 12 }
    let src : Source := [some { height := 792, frags := [title] }, some { height := 792, frags := [title] }]
    let R := catRenderers fun _ => some [79, 67, 82]
    textOp R {} src = .ok [84, 105, 116, 108, 101, 10, 10, 84, 105, 116, 108, 101] ∧
      textOp R { excludeHeaders := true } src = .ok [79, 67, 82, 10, 10, 79, 67, 82] ∧
      textOp (catRenderers fun _ => none) { excludeHeaders := true } src = .ok [] := by
  decide +kernel

/-- **text_without_ocr_from_kept_fragments_partial.** Without an OCR result for page `k` (the default
build) the text of page `k` under exclusion is the assembler's output on the kept fragments, which
are a sublist of the page's fragments. Missing w.r.t. "can only delete text": the assemblers are
C09's subject (parameters here), and with OCR results the statement fails
(`text_ocr_fallback_counterexample`). -/
theorem text_without_ocr_from_kept_fragments_partial (R : Renderers) (o : Options) (src : Source) (k : Nat)
    (rp : RawPage) (hrp : src[k]? = some (some rp)) (hocr : R.ocr k = none) :
    ∃ fs, pageInput o src k = .ok fs ∧ fs.Sublist rp.frags ∧
      pageText (textEnv R src) o k =
        .ok (R.render (textMode o (charLevelRoot fs) (multiColRoot R rp.width k fs)) k fs) := by
  refine ⟨_, pageInput_readable hrp o, ?_, ?_⟩
  · split
    · exact exclude_sublist _ _ _
    · exact List.Sublist.refl _
  · rw [pageText_textEnv, pageInput_readable hrp, hocr, widthOf_readable hrp]
    simp only [Option.filter, ite_self]

end Tabula.C11Chain
