import TabulaModel.Props.C15
import TabulaModel.Lemmas.HtmlGrid
/-!
# C15 — htmldoc tables with `colspan` / `rowspan`

Until fix 72cc329 `htmldoc.(*ParsedTable).ToMarkdown` wrote one Markdown cell per `<td>`/`<th>`
(finding `C15/table-shape-merged-html`, `C15/table-cell-merged-html`): rows of different cell
counts, text under the wrong column.  It now writes the table's grid (`(*ParsedTable).grid`,
Model/HtmlGrid.lean): the cells of a row go to the first columns not covered from above, a cell
stands at its top-left position, every other position is an empty cell.

Proved here, for ALL tables (any number of cells per row, rows without cells, any integers as
spans, overlapping cells, tables beyond the grid limit) and all cell contents:
* for a table with at least one cell, what a GFM reader gets back is the grid
  (`table_roundtrip_html`) and every written line has the grid's number of cells
  (`rows_rectangular_html`);
* the grid has one line per row, all lines of one length, and the cells of a line are the cells
  of the row in their order — no cell is lost, duplicated or moved past another
  (`html_grid_rows`, `html_grid_rectangular`, `html_grid_keeps_cells`);
* a cell never stands on a column that a rowspan from above covers (`html_cell_on_free_column`);
  without rowspans a line is the row's cells, each followed by empty cells for the further
  columns of its colspan — the grid row of docx/odt (`html_grid_colspan_only`); the first row of
  every table is of that form (`html_grid_first_row`);
* for tables without spans whose rows have equal length the repair changes nothing
  (`html_repair_unchanged_without_spans`).
The old writer is `renderHtmlSpanOld`, with the witnesses of the finding as
`_pinned_counterexample`s.
-/
namespace Tabula.C15
open Tabula.A1 (Str)
open Tabula.Markdown
open Tabula.HtmlGrid (cellSpan cellLine gridSpan spanOf overLimit layoutGrid widthOf)

/-- one line per row of the table -/
theorem html_grid_rows (t : List (List HCell)) : (htmlGrid t).length = t.length :=
  HtmlGrid.layoutGrid_rows _ t

/-- every line of the grid has the grid's width -/
theorem html_grid_rectangular (t : List (List HCell)) : ∀ l ∈ htmlGrid t, l.length = htmlWidth t :=
  HtmlGrid.layoutGrid_rect _ t

/-- the cells of line `i`, from left to right, are the cells of row `i`: nothing is lost,
nothing appears twice, no cell overtakes another -/
theorem html_grid_keeps_cells (t : List (List HCell)) : (htmlGrid t).map (·.filterMap id) = t :=
  HtmlGrid.layoutGrid_cells _ t

theorem html_grid_texts_rect (t : List (List HCell)) : Rect (htmlWidth t) (htmlGridTexts t) := by
  intro r hr
  unfold htmlGridTexts at hr
  rcases List.mem_map.mp hr with ⟨l, hl, rfl⟩
  rw [List.length_map]
  exact html_grid_rectangular t l hl

/-- a table with a cell has a column -/
theorem html_width_pos (t : List (List HCell)) (h : ∃ r ∈ t, r ≠ []) : 1 ≤ htmlWidth t :=
  HtmlGrid.widthOf_pos _ t h

/-- **table_roundtrip for htmldoc, with `colspan`/`rowspan`** (the former finding): a table
with at least one cell — rows of any lengths, rows without cells, any spans, any cell contents
(pipes, newlines, backslashes) — written by `ToMarkdown` is read by a GFM reader as the table's
grid: one row per source row, every row with the grid's number of columns, each cell's
(normalised) text at the position where the cell stands, every other position empty. -/
theorem table_roundtrip_html (t : List (List HCell)) (hcell : ∃ r ∈ t, r ≠ []) :
    gfmTable (renderHtmlSpan t) = some ((htmlGridTexts t).map (List.map (normCell .html))) := by
  have hne : htmlGridTexts t ≠ [] := by
    intro h
    have h1 := congrArg List.length h
    simp only [htmlGridTexts, List.length_map, html_grid_rows, List.length_nil] at h1
    rcases hcell with ⟨r, hr, _⟩
    cases t with
    | nil => cases hr
    | cons _ _ => simp at h1
  exact gfmTable_render_table .html (htmlWidth t) (html_width_pos t hcell) (htmlGridTexts t) hne
    (html_grid_texts_rect t)

/-- **rows_rectangular for htmldoc**: whatever the spans, every written row line has exactly
`htmlWidth t` cells for a GFM reader, and so has the separator. -/
theorem rows_rectangular_html (t : List (List HCell)) (hcell : ∃ r ∈ t, r ≠ []) :
    (∀ r ∈ htmlGridTexts t, (gfmSplitRow (renderRow .html r)).length = htmlWidth t) ∧
      (gfmSplitRow (renderDelim .html (htmlWidth t))).length = htmlWidth t :=
  rows_rect .html (htmlWidth t) (html_width_pos t hcell) (htmlGridTexts t) (html_grid_texts_rect t)

/-- the recorded witnesses, now: `<th colspan=2>A</th>` over `x | y`, and a rowspan -/
example :
    gfmTable (renderHtmlSpan [[⟨[65], 2, 1⟩], [⟨[120], 1, 1⟩, ⟨[121], 1, 1⟩]])
      = some [[[65], []], [[120], [121]]] := by decide +kernel

example :
    gfmTable (renderHtmlSpan [[⟨[84], 1, 2⟩, ⟨[65], 1, 1⟩], [⟨[66], 1, 1⟩]])
      = some [[[84], [65]], [[], [66]]] := by decide +kernel

/-- a row all of whose cells are covered from above is a row of empty cells -/
example :
    gfmTable (renderHtmlSpan [[⟨[84], 1, 2⟩, ⟨[85], 1, 2⟩], [], [⟨[97], 1, 1⟩, ⟨[98, 124], 0, 0⟩]])
      = some [[[84], [85]], [[], []], [[97], [98, 124]]] := by decide +kernel

/-- the span function the grid uses for table `t` -/
def htmlSpanOf (t : List (List HCell)) : HCell → Nat × Nat := gridSpan HCell.colSpan HCell.rowSpan t

/-- **a cell never stands on a covered column**: placing a row against the columns covered from
above (`cov`), a position of the line that holds a cell is a column with `cov = 0` -/
theorem html_cell_on_free_column (sp : HCell → Nat × Nat) (cov : List Nat) (r : List HCell) (k : Nat)
    (c : HCell) (h : (HtmlGrid.placeRow sp cov r).1[k]? = some (some c)) : cov.getD k 0 = 0 :=
  HtmlGrid.placeRow_cell_free sp r cov k c h

/-- **the first row** of every table: its cells, each followed by `none` for the further
columns of its colspan -/
theorem html_grid_first_row (r : List HCell) (rs : List (List HCell)) :
    ∃ pad, (htmlGrid (r :: rs)).head? = some (r.flatMap (cellLine (htmlSpanOf (r :: rs))) ++ pad) ∧
      ∀ x ∈ pad, x = none := by
  have h := HtmlGrid.layoutRows_first (htmlSpanOf (r :: rs)) r rs
  unfold htmlGrid HtmlGrid.grid layoutGrid
  unfold htmlSpanOf at h ⊢
  generalize (HtmlGrid.layoutRows (gridSpan HCell.colSpan HCell.rowSpan (r :: rs)) [] (r :: rs)).1 = ls at h ⊢
  cases ls with
  | nil => cases h
  | cons l ls =>
    rw [List.head?_cons, Option.some.injEq] at h
    exact ⟨List.replicate (widthOf (gridSpan HCell.colSpan HCell.rowSpan (r :: rs)) (r :: rs) - l.length) none,
      by rw [List.map_cons, List.head?_cons, h], fun x hx => List.eq_of_mem_replicate hx⟩

/-- **tables without rowspan** (every `RowSpan` counts as 1): every line is the row's cells,
each followed by `none` for the further columns of its colspan, padded to the width — the grid
row of docx/odt (`gridRow`) -/
theorem html_grid_colspan_only (t : List (List HCell))
    (hrow : ∀ r ∈ t, ∀ c ∈ r, cellSpan c.rowSpan = 1) :
    htmlGrid t = t.map fun r =>
      r.flatMap (cellLine (htmlSpanOf t)) ++
        List.replicate (htmlWidth t - (r.flatMap (cellLine (htmlSpanOf t))).length) none := by
  have hsp : ∀ r ∈ t, ∀ c ∈ r, (htmlSpanOf t c).2 ≤ 1 := by
    intro r hr c hc
    unfold htmlSpanOf gridSpan spanOf
    split
    · simp only []; rw [hrow r hr c hc]; exact Nat.le_refl 1
    · exact Nat.le_refl 1
  have h1 := HtmlGrid.layoutRows_noRowSpan (htmlSpanOf t) t [] hsp (fun _ h => by cases h)
  unfold htmlGrid HtmlGrid.grid layoutGrid htmlWidth HtmlGrid.gridWidth
  rw [show gridSpan HCell.colSpan HCell.rowSpan t = htmlSpanOf t from rfl, h1, List.map_map]
  rfl

/-- a cell of an htmldoc table that does not span: `ColSpan` and `RowSpan` count as 1 -/
def PlainCell (c : HCell) : Prop := cellSpan c.colSpan = 1 ∧ cellSpan c.rowSpan = 1

instance : DecidablePred PlainCell := fun c => by unfold PlainCell; exact inferInstance

/-- **the repair changes nothing where nothing was wrong**: for a table whose cells do not span
and whose rows have the same length, the new writer gives exactly what the old one gave -/
theorem html_repair_unchanged_without_spans (n : Nat) (t : List (List HCell))
    (hrect : ∀ r ∈ t, r.length = n) (hplain : ∀ r ∈ t, ∀ c ∈ r, PlainCell c) :
    renderHtmlSpan t = renderHtmlSpanOld t := by
  unfold renderHtmlSpan renderHtmlSpanOld htmlGridTexts htmlGrid
  rw [HtmlGrid.grid_plain HCell.colSpan HCell.rowSpan n t hrect hplain, List.map_map]
  congr 1
  apply List.map_congr_left
  intro r _
  simp [Function.comp, gridText, List.map_map]

/-- non-vacuity: a 2 x 2 table of plain cells (spans 1, 0, -4 and 5000 all count as 1) -/
example : (∀ r ∈ [[(⟨[97], 1, 1⟩ : HCell), ⟨[98, 124], 0, -4⟩], [⟨[], 1, 1⟩, ⟨[99], 5000, 1⟩]], r.length = 2) ∧
    ∀ r ∈ [[(⟨[97], 1, 1⟩ : HCell), ⟨[98, 124], 0, -4⟩], [⟨[], 1, 1⟩, ⟨[99], 5000, 1⟩]], ∀ c ∈ r, PlainCell c := by
  decide +kernel

/-- non-vacuity of `html_grid_colspan_only`: colspans only; the second row is short -/
example : (∀ r ∈ [[(⟨[65], 2, 1⟩ : HCell), ⟨[66], 1, 0⟩], [⟨[99], 1, 1⟩]], ∀ c ∈ r, cellSpan c.rowSpan = 1) ∧
    htmlGridTexts [[⟨[65], 2, 1⟩, ⟨[66], 1, 0⟩], [⟨[99], 1, 1⟩]] = [[[65], [], [66]], [[99], [], []]] := by
  decide +kernel

/-- overlapping cells (`C` spans two columns from the first one, into the column `B` covers from
above): every cell is still written, in its row, in order -/
example :
    htmlGridTexts [[⟨[65], 1, 1⟩, ⟨[66], 1, 2⟩], [⟨[67], 2, 1⟩, ⟨[68], 1, 1⟩]]
      = [[[65], [66], []], [[67], [], [68]]] := by decide

/-- **the grid limit**: when the grid with spans would have more than 2^20 cells (`overLimit`:
its width `w > 0` and `len(rows) > 2^20 / w`), the spans are not believed — the grid is the one
in which every cell is one column and one row; otherwise the bounded spans are honoured.  The
theorems above hold on either side. -/
theorem html_grid_limit (t : List (List HCell)) :
    (overLimit HCell.colSpan HCell.rowSpan t = true → htmlGrid t = layoutGrid (fun _ => (0, 1)) t) ∧
      (overLimit HCell.colSpan HCell.rowSpan t = false →
        htmlGrid t = layoutGrid (fun c => (cellSpan c.colSpan - 1, cellSpan c.rowSpan)) t) := by
  constructor <;> intro h <;>
    · unfold htmlGrid HtmlGrid.grid gridSpan
      rw [h]
      rfl

/-- the limit is about the grid, not about a span: 3 rows under a cell 40 columns wide -/
example : overLimit HCell.colSpan HCell.rowSpan [[⟨[65], 40, 1⟩], [⟨[120], 1, 1⟩], []] = false ∧
    htmlWidth [[⟨[65], 40, 1⟩], [⟨[120], 1, 1⟩], []] = 40 := by decide

/-- the old writer ignores `colspan`: a header cell spanning two columns over a two-cell data row
gives a one-column table for a GFM reader, which drops the second data cell (`y`) — the grid
`[[A, ""], [x, y]]` is not what was read back (witness of `C15/table-shape-merged-html`) -/
theorem html_merged_shape_pinned_counterexample :
    gfmTable (renderHtmlSpanOld [[⟨[65], 2, 1⟩], [⟨[120], 1, 1⟩, ⟨[121], 1, 1⟩]])
        = some [[[65]], [[120]]] ∧
      gfmTable (renderHtmlSpanOld [[⟨[65], 2, 1⟩], [⟨[120], 1, 1⟩, ⟨[121], 1, 1⟩]])
        ≠ some ((htmlGridTexts [[⟨[65], 2, 1⟩], [⟨[120], 1, 1⟩, ⟨[121], 1, 1⟩]]).map (List.map (normCell .html))) := by
  decide +kernel

/-- the old writer ignores `rowspan`: under `T` (two rows high) and `A`, the second row's only
cell `B` belongs under `A`; it was written — and read back — under `T`
(`C15/table-cell-merged-html`: the cell counts happen to agree after the reader's padding) -/
theorem html_merged_cell_pinned_counterexample :
    gfmTable (renderHtmlSpanOld [[⟨[84], 1, 2⟩, ⟨[65], 1, 1⟩], [⟨[66], 1, 1⟩]])
        = some [[[84], [65]], [[66], []]] ∧
      (htmlGridTexts [[⟨[84], 1, 2⟩, ⟨[65], 1, 1⟩], [⟨[66], 1, 1⟩]]).map (List.map (normCell .html))
        = [[[84], [65]], [[], [66]]] := by
  decide +kernel

/-- the old writer's lines are ragged: 1 cell in the header line, 2 in the data line -/
theorem html_merged_ragged_pinned_counterexample :
    (gfmSplitRow (renderRow .html [[65]])).length = 1 ∧
      (gfmSplitRow (renderRow .html [[120], [121]])).length = 2 ∧
      renderHtmlSpanOld [[⟨[65], 2, 1⟩], [⟨[120], 1, 1⟩, ⟨[121], 1, 1⟩]]
        = renderRow .html [[65]] ++ [10] ++ renderDelim .html 1 ++ [10] ++ renderRow .html [[120], [121]] ++ [10] := by
  decide +kernel

end Tabula.C15
