import TabulaModel.Lemmas.XDoc
/-!
# C08 — the public entry points around the imaging model

`Model/XDoc.lean` models `text.Extractor` from the outside in: `Extract` (budget reset, loop
that stops at the first error, `deduplicateFragments`), `processOperation` with its operand
checks, `invokeXObject` with the resource lookup, `mergeResources`, the nesting limit and the
budget of Form XObject execution, over documents whose forms are *objects reached through
names* (shared, cyclic).  The theorems here are about that model, for every document, every
program, every extractor state; `Props/C08.lean` holds the theorems about the operator
semantics itself, and `Props/C08Forms.lean` chains the two.
-/
namespace Tabula.C08Doc
open Tabula Tabula.GState Tabula.XDoc

variable {α : Type} [Lean.Grind.CommRing α] [DecidableEq α] [LT α] [DecidableLT α]

/-- `/F Do` -/
def doF : RawOp Int := ⟨.Do, [.name [70]]⟩

/-- a document whose object 1 is a form without /Matrix and /Resources, of the given
length and content (bound to `/F` by the examples' page resources, so a `doF` inside it
draws the form itself) -/
def selfDoc (len : Nat) (body : List (RawOp Int)) : Doc Int := fun n =>
  if n = 1 then some (.form { matrix := none, resources := Slot.missing, len := len, body := some body }) else none

/-- the number of forms one `Extract` may execute: `maxXObjectBytes / (xobjectCallCost + 1)` -/
def maxExecutions : Nat := 65472

theorem maxExecutions_eq : maxExecutions = maxXObjectBytes / (xobjectCallCost + 1) := by decide

/-- arithmetic core: an accounting reached by charged executions from a zeroed byte count -/
theorem charged_bound {a b : Acct} (h : Charged { a with bytes := 0 } b) :
    (b.calls - a.calls) * (xobjectCallCost + 1) ≤ maxXObjectBytes ∧
    (b.calls - a.calls) ≤ maxExecutions ∧
    (b.work - a.work) + (b.calls - a.calls) * xobjectCallCost ≤ maxXObjectBytes ∧
    a.calls ≤ b.calls ∧ a.work ≤ b.work := by
  obtain ⟨_, h2, h3, h4, h5⟩ := h
  simp only [xobjectCallCost, maxExecutions] at *
  have hB : maxXObjectBytes = 67108864 := rfl
  generalize maxXObjectBytes = B at *
  subst hB
  omega

/-- **Form execution is bounded for every form graph.** Whatever the document — any object
table, names bound anyhow, forms sharing objects or drawing themselves or each other, any
fan-out — and whatever the page content and the state of the extractor, one call of
`Extract` executes at most 65472 forms, because every executed form is charged its
(non-empty) content plus `xobjectCallCost` against `maxXObjectBytes`; the content executed
plus 1 KiB per execution stays within 64 MiB. -/
theorem form_executions_bounded (adv : Adv α) (doc : Doc α) (ops : List (RawOp α)) (x : XState α) :
    let r := extractRaw adv doc ops x
    (r.1.acct.calls - x.acct.calls) * (xobjectCallCost + 1) ≤ maxXObjectBytes ∧
    (r.1.acct.calls - x.acct.calls) ≤ maxExecutions ∧
    (r.1.acct.work - x.acct.work) + (r.1.acct.calls - x.acct.calls) * xobjectCallCost ≤ maxXObjectBytes ∧
    x.acct.calls ≤ r.1.acct.calls ∧ x.acct.work ≤ r.1.acct.work := by
  have h := (charged_kept adv doc).extract ops { x with acct := { x.acct with bytes := 0 } }
  exact charged_bound (a := x.acct) h

/-- every execution is charged: a form of one byte that draws itself twice is stopped by the
nesting limit alone, after 1023 executions (2^10 - 1), each charged 1025 -/
example :
    (extractRaw (fun _ _ => 0) (selfDoc 1 [doF, doF]) [doF] (newExtractor (some ⟨.direct [([70], 1)]⟩))).1.acct
      = ⟨1023 * 1025, 1023, 1023⟩ := by
  decide +kernel

/-- one `Do`, whatever it names: either nothing happens at all (no resource context, too
deep, the name leads to no form, empty content), or only the charge is recorded (over
budget), or the form runs one level deeper with its own resources and is charged. -/
theorem do_skipped_refused_or_charged (adv : Adv α) (doc : Doc α) (fuel : Nat) (name : Name) (x : XState α) :
    invokeXObject adv doc fuel name x = (x, []) ∨
    (∃ f : FormObj α, invokeXObject adv doc fuel name x = ({ x with acct := x.acct.refuse f.len }, [])) ∨
    (∃ (fuel' : Nat) (res : Res) (f : FormObj α), fuel = fuel' + 1 ∧ x.resources = some res ∧
      x.gs.xdepth < maxXObjectDepth ∧ lookupForm doc res name = some f ∧ f.len ≠ 0 ∧
      ¬ x.acct.bytes + f.len + xobjectCallCost > maxXObjectBytes ∧
      invokeXObject adv doc fuel name x =
        (leaveForm x (formLoop adv (invokeXObject adv doc fuel') (formBody f) (enterForm doc res f x)).1,
         (formLoop adv (invokeXObject adv doc fuel') (formBody f) (enterForm doc res f x)).2)) := by
  cases fuel with
  | zero => exact .inl rfl
  | succ fuel' =>
    rw [invokeXObject_succ]
    cases hres : x.resources with
    | none => exact .inl rfl
    | some res =>
      dsimp only
      cases hadm : admission doc res x.gs.xdepth x.acct.bytes name with
      | skip => exact .inl rfl
      | refuse f => exact .inr (.inl ⟨f, rfl⟩)
      | run f =>
        obtain ⟨h1, h2, h3, h4⟩ := admission_run hadm
        exact .inr (.inr ⟨fuel', res, f, rfl, rfl, h1, h2, h3, h4, rfl⟩)

/-- a `Do` gives back the resources and the nesting depth it found (whatever the form's
content does, balanced or not) -/
theorem do_restores_scope (adv : Adv α) (doc : Doc α) (fuel : Nat) (name : Name) (x : XState α) :
    (invokeXObject adv doc fuel name x).1.resources = x.resources ∧
    (invokeXObject adv doc fuel name x).1.gs.xdepth = x.gs.xdepth :=
  (framed_kept adv doc).invoke fuel name x

/-- `Extract` leaves the resource context and the nesting depth as they were, also when it
stops at an error -/
theorem extract_restores_scope (adv : Adv α) (doc : Doc α) (ops : List (RawOp α)) (x : XState α) :
    (extractRaw adv doc ops x).1.resources = x.resources ∧
    (extractRaw adv doc ops x).1.gs.xdepth = x.gs.xdepth :=
  (framed_kept adv doc).extract ops { x with acct := { x.acct with bytes := 0 } }

/-- the states an extractor made by `NewExtractor` + `SetResourceContext(res, …)` can be in
after any sequence of `Extract` calls -/
inductive Reachable {κ : Type} [DecidableEq κ] (key : Frag α → κ) (adv : Adv α) (doc : Doc α)
    (res : Option Res) : XState α → Prop where
  | new : Reachable key adv doc res (newExtractor res)
  | call (x : XState α) (p : List (RawOp α)) : Reachable key adv doc res x →
      Reachable key adv doc res (extract key adv doc p x).1

/-- **history invariant**: in every reachable state the nesting depth is 0 and the resource
context is the one that was set — so the nesting limit and the name scope of every call are
those of a fresh extractor, whatever came before (failed calls and unbalanced forms
included) -/
theorem history_invariant {κ : Type} [DecidableEq κ] (key : Frag α → κ) (adv : Adv α) (doc : Doc α)
    (res : Option Res) (x : XState α) (h : Reachable key adv doc res x) :
    x.gs.xdepth = 0 ∧ x.resources = res := by
  induction h with
  | new => exact ⟨rfl, rfl⟩
  | call x p _ ih =>
    obtain ⟨h1, h2⟩ := extract_restores_scope adv doc p x
    exact ⟨h2.trans ih.1, h1.trans ih.2⟩

/-- **the budget is per content stream, in every history**: each call of a sequence of
`Extract` calls executes at most `maxExecutions` forms, so `n` calls execute at most
`n · maxExecutions` — earlier calls neither use up nor enlarge the budget of later ones -/
theorem history_executions_bounded {κ : Type} [DecidableEq κ] (key : Frag α → κ) (adv : Adv α)
    (doc : Doc α) (progs : List (List (RawOp α))) (x : XState α) :
    (extractAll key adv doc progs x).1.acct.calls ≤ x.acct.calls + progs.length * maxExecutions := by
  induction progs generalizing x with
  | nil => simp [extractAll]
  | cons p rest ih =>
    simp only [extractAll, List.length_cons]
    have h1 := ih (extract key adv doc p x).1
    obtain ⟨_, h2, _, h4, _⟩ := form_executions_bounded adv doc p x
    have h3 : (extract key adv doc p x).1 = (extractRaw adv doc p x).1 := rfl
    rw [h3] at h1 ⊢
    simp only [maxExecutions] at *
    omega

/-- what a call of `Extract` does depends on the graphics state and the resource context it
finds, not on how much Form XObject content earlier calls executed -/
theorem extract_blind_to_earlier_calls (adv : Adv α) (doc : Doc α) (ops : List (RawOp α)) (x y : XState α)
    (hgs : x.gs = y.gs) (hres : x.resources = y.resources) :
    (extractRaw adv doc ops x).2 = (extractRaw adv doc ops y).2 ∧
    (extractRaw adv doc ops x).1.gs = (extractRaw adv doc ops y).1.gs ∧
    (extractRaw adv doc ops x).1.acct.bytes = (extractRaw adv doc ops y).1.acct.bytes := by
  obtain ⟨⟨h1, _, h3⟩, h2⟩ := extractLoop_ghostBlind adv doc ops
    { x with acct := { x.acct with bytes := 0 } } { y with acct := { y.acct with bytes := 0 } }
    ⟨hgs, hres, rfl⟩
  exact ⟨h2, h1, h3⟩

/-- **calls that restore the graphics state are independent of their history**: if every
program of a sequence, run on a new extractor, leaves the graphics state as it found it
(as every `q … Q`-wrapped balanced page does — `C08Forms.extract_qQ_restores`), then
running the sequence on ONE extractor returns, call by call, exactly what each program
returns on a new extractor: nothing leaks from one page to the next, neither CTM nor text
state nor budget nor nesting depth nor resources. -/
theorem history_calls_independent {κ : Type} [DecidableEq κ] (key : Frag α → κ) (adv : Adv α)
    (doc : Doc α) (res : Option Res) (progs : List (List (RawOp α)))
    (hrest : ∀ p ∈ progs, (extractRaw adv doc p (newExtractor res)).1.gs = init) :
    (extractAll key adv doc progs (newExtractor res)).2 =
      progs.map fun p => (extract key adv doc p (newExtractor res)).2 := by
  suffices h : ∀ x : XState α, x.gs = init → x.resources = res →
      (extractAll key adv doc progs x).2 = progs.map fun p => (extract key adv doc p (newExtractor res)).2 from
    h (newExtractor res) rfl rfl
  induction progs with
  | nil => intro x _ _; rfl
  | cons p rest ih =>
    intro x hgs hres
    obtain ⟨h2, h1, _⟩ := extract_blind_to_earlier_calls adv doc p x (newExtractor res) hgs hres
    have hgs' : (extract key adv doc p x).1.gs = init := by
      show (extractRaw adv doc p x).1.gs = init
      rw [h1]; exact hrest p List.mem_cons_self
    have hres' : (extract key adv doc p x).1.resources = res := by
      show (extractRaw adv doc p x).1.resources = res
      rw [(extract_restores_scope adv doc p x).1, hres]
    simp only [extractAll, List.map_cons]
    rw [ih (fun q hq => hrest q (List.mem_cons_of_mem _ hq)) _ hgs' hres']
    congr 1
    simp only [extract, h2]

/-- the hypothesis of `history_calls_independent` is satisfiable: two `q … Q` pages, one
drawing a form, one changing the CTM -/
example : ∀ p ∈ ([[⟨.q, []⟩, doF, ⟨.Q, []⟩],
      [⟨.q, []⟩, ⟨.cm, [.num 2, .num 0, .num 0, .num 2, .num 5, .num 5]⟩, ⟨.Tj, [.str 2]⟩, ⟨.Q, []⟩]] : List (List (RawOp Int))),
    (extractRaw (fun _ _ => 0) (selfDoc 9 [⟨.Tj, [.str 1]⟩]) p (newExtractor (some ⟨.direct [([70], 1)]⟩))).1.gs = init := by
  decide +kernel

/-- the hypotheses of the history theorems are met by real histories: a failing call
(unmatched `Q`) followed by a call that draws a form -/
example :
    (extractAll (fun g => g.sid) (fun _ _ => 0) (selfDoc 9 [⟨.Tj, [.str 1]⟩]) [[⟨.Q, []⟩], [doF]]
      (newExtractor (some ⟨.direct [([70], 1)]⟩))).2.map (·.map (·.map (·.sid))) = [none, some [1]] := by
  decide +kernel

omit [DecidableEq α] [LT α] [DecidableLT α] in
/-- **well-formed operations mean what they say**: the operation a producer writes for a
typed operator (right number and types of operands) decodes to exactly that operator — so
every theorem of `Props/C08.lean` about typed programs is a theorem about the operations
`processOperation` receives -/
theorem decode_encode (fontName : Name) (op : Op α) (r : RawOp α) (h : encodeOp fontName op = some r) :
    decodeOp r = .ops [op] := by
  cases op <;> cases h <;> rfl

omit [DecidableEq α] [LT α] [DecidableLT α] in
/-- a raw operation never decodes to a form: `Do` with one name operand is the only way
into `invokeXObject` -/
theorem decode_formFree (r : RawOp α) : (decodeOp r).formFree := decodeOp_formFree r

omit [DecidableEq α] [LT α] [DecidableLT α] in
/-- `cm` and `Tm` with any number of operands other than six do nothing … -/
theorem decode_matrix_arity (r : RawOp α) (hop : r.operator = .cm ∨ r.operator = .Tm)
    (hn : r.operands.length ≠ 6) : decodeOp r = .ops [] := by
  obtain ⟨o, xs⟩ := r
  rcases hop with h | h <;> cases h <;> exact if_neg hn

omit [DecidableEq α] [LT α] [DecidableLT α] in
/-- … and with six operands every operand that is not a number reads as 0
(`m[i], _ = toFloat(op)`) -/
theorem decode_cm_six (a b c d e f : Operand α) :
    decodeOp ⟨.cm, [a, b, c, d, e, f]⟩ =
      .ops [.cm ⟨toFloatD a, toFloatD b, toFloatD c, toFloatD d, toFloatD e, toFloatD f⟩] := rfl

omit [DecidableEq α] [LT α] [DecidableLT α] in
/-- `'` moves to the next line whatever its operands are (`NextLine` comes before the
operand check); it shows a string only when that is its single operand -/
theorem decode_quote_malformed (xs : List (Operand α)) (h : ∀ sid, xs ≠ [.str sid]) :
    decodeOp ⟨.quote, xs⟩ = .ops [.Tstar] := by
  rcases xs with _ | ⟨x, _ | ⟨y, t⟩⟩
  · rfl
  · cases x <;> first | rfl | exact absurd rfl (h _)
  · cases x <;> rfl

omit [DecidableEq α] [LT α] [DecidableLT α] in
/-- `"` with any number of operands other than three does nothing at all, not even the line move
(with three it uses each operand that has the right type: `dquoteOps`) -/
theorem decode_dquote_arity (xs : List (Operand α)) (h : xs.length ≠ 3) :
    decodeOp ⟨.dquote, xs⟩ = .ops [] := by
  rcases xs with _ | ⟨a, _ | ⟨b, _ | ⟨c, _ | ⟨d, t⟩⟩⟩⟩
  · rfl
  -- the match looks at the types of the first operands before it looks at the length
  all_goals
    first
    | exact absurd rfl h
    | (cases a <;> first | rfl | (cases b <;> first | rfl | (cases c <;> rfl)))

/-- the effect of a well-formed `"` is that of `aw Tw ac Tc (s) '`, also at the level of
operations -/
theorem dquote_wellformed_eq_parts (adv : Adv α) (aw ac : α) (sid : Nat) (s : State α) :
    stepOps adv [.dquote aw ac sid] s = stepOps adv (dquoteOps (.num aw) (.num ac) (.str sid)) s := by
  rfl

/-- `mergeResources` on /XObject, completely: a form without an /XObject entry sees the
names of the invoking scope; two direct dictionaries are merged, the form's bindings
first; in every other case (either one indirect, or of a wrong type) the form's entry
REPLACES the invoking scope's, which is then no longer visible. -/
theorem mergeResources_spec (doc : Doc α) (parent child : Res) :
    resolveXDict doc (mergeResources parent child).xobject =
      match child.xobject, parent.xobject with
      | .missing, _ => resolveXDict doc parent.xobject
      | .direct c, .direct p => some (c ++ p)
      | v, _ => resolveXDict doc v := by
  cases child with | mk cx =>
  cases parent with | mk px =>
  cases cx <;> cases px <;> rfl

/-- in a merged dictionary a name bound by the form shadows the invoking scope's binding,
and a name only the invoking scope binds stays visible -/
theorem merged_lookup (c p : XDict) (name : Name) :
    (c ++ p).lookup name = (c.lookup name).or (p.lookup name) :=
  List.lookup_append

omit [Lean.Grind.CommRing α] [DecidableEq α] [LT α] [DecidableLT α] in
/-- a form without /Resources (or whose /Resources do not resolve to a dictionary) runs
in the invoking scope -/
theorem formResources_missing (doc : Doc α) (res : Res) (f : FormObj α) (h : resolveRes doc f.resources = none) :
    formResources doc res f = res := by
  simp [formResources, h]

/-- the retry without a leading slash only happens when the name as written is unbound -/
theorem lookupName_exact (d : XDict) (name : Name) (n : Nat) (h : d.lookup name = some n) :
    lookupName d name = some n := by
  simp [lookupName, h]

section
variable {κ : Type} [DecidableEq κ]

/-- the deduplicated list is a sub-list of the fragments in their order … -/
theorem dedup_sublist (key : Frag α → κ) (l : List (Frag α)) : (dedupBy key l []).Sublist l :=
  dedupBy_sublist key l []

/-- … without two fragments of one key … -/
theorem dedup_nodup (key : Frag α → κ) (l : List (Frag α)) : ((dedupBy key l []).map key).Nodup :=
  dedupBy_nodup key l []

/-- … in which every fragment is represented by one of its key -/
theorem dedup_complete (key : Frag α → κ) (l : List (Frag α)) (f : Frag α) (hf : f ∈ l) :
    key f ∈ (dedupBy key l []).map key := by
  rcases dedupBy_complete key l [] f hf with h | h
  · simp at h
  · exact h

/-- fragments with pairwise different keys all survive -/
theorem dedup_id_of_distinct (key : Frag α → κ) (l : List (Frag α)) (h : (l.map key).Nodup) :
    dedupBy key l [] = l :=
  dedupBy_eq_self key l [] h (by intro f _ hc; simp at hc)

end

/-- with the key of the code (rounded position and text): when every string is shown once,
`Extract` returns every fragment -/
theorem dedup_distinct_text (l : List (Frag Rat)) (h : (l.map (·.sid)).Nodup) :
    dedupBy fragKey l [] = l := by
  apply dedup_id_of_distinct
  have hmap : l.map (·.sid) = (l.map fragKey).map (fun k => k.2.2) := by
    simp [List.map_map, fragKey, Function.comp_def]
  rw [hmap] at h
  exact List.Pairwise.of_map (fun k : Int × Int × Nat => k.2.2) (fun a b hab heq => hab (by rw [heq])) h

/-- the two hypotheses are satisfiable, and deduplication does remove a repeated string
at the same rounded position while keeping it at another -/
example : dedupBy fragKey
    [⟨1, ⟨10, 20, 12, 1, 1, true⟩⟩, ⟨1, ⟨(41 : Rat) / 4, 20, 12, 1, 1, true⟩⟩, ⟨1, ⟨11, 20, 12, 1, 1, true⟩⟩] []
    = [⟨1, ⟨10, 20, 12, 1, 1, true⟩⟩, ⟨1, ⟨11, 20, 12, 1, 1, true⟩⟩] := by decide +kernel

end Tabula.C08Doc
