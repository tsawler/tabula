import TabulaModel.Props.C14Rune
import TabulaModel.Lemmas.ExportIO
/-!
# C14 (part 9) — every batch size, and the file-writing entry points

`(*BatchExporter).Export` over the whole `int` range of batch sizes (fix 98eac23: a size ≤ 0 is an
error, no callback, no panic), the index arithmetic of its loop, and `ExportToFile` /
`(*ChunkCollection).ExportToFile` / `ExportToFiles` over an abstract file system: which files exist
after the call, what they hold, and that reading them back gives the chunks.
-/
namespace Tabula.C14IO
open Tabula.Export Tabula.Csv Tabula.Json Tabula.C14 Tabula.C14Meta Tabula.C14Api Tabula.C14Json Tabula.C14S
open Tabula.C14Decode Tabula.C14Rune

/-- EVERY `int` BATCH SIZE: a size of zero or less is refused — the callback is never invoked and
the result is the size error (before fix 98eac23: a panic); a size ≥ 1 runs the loop of
`batch_history` with that size. -/
theorem batch_all_sizes {α β : Type} (size : Int) (exportFn : List α → Option β) (cb : Batch α → β → Bool)
    (chunks : List α) :
    (size ≤ 0 → batchExportRunInt size exportFn cb chunks = ([], .sizeErr)) ∧
    (1 ≤ size → ∃ r, batchExportRun size.toNat exportFn cb chunks = some r ∧
      batchExportRunInt size exportFn cb chunks = (r.1, r.2.toI) ∧ (r.2.toI ≠ .sizeErr)) := by
  constructor
  · intro h
    have : ¬ 0 < size.toNat := by omega
    simp [batchExportRunInt, this]
  · intro h
    have h0 : 0 < size.toNat := by omega
    refine ⟨batchLoopRun size.toNat h0 exportFn cb chunks 0, by simp [batchExportRun, h0],
      by simp [batchExportRunInt, h0], ?_⟩
    cases (batchLoopRun size.toNat h0 exportFn cb chunks 0).2 <;> simp [BatchResult.toI]

example : ((-3 : Int) ≤ 0) ∧ ((1 : Int) ≤ 9223372036854775807) := by decide

/-- The index arithmetic of the loop never leaves the `int` range: for every batch, `i < len` and
`i + size` is either `size` itself (first batch) or below `2·len` — so `end := i + be.batchSize`
cannot overflow for any batch size up to MaxInt (a Go slice has far fewer than MaxInt/2 elements). -/
theorem batch_no_overflow {α : Type} (size : Nat) (hs : 1 ≤ size) (chunks : List α) :
    ∃ bs, batchExport size chunks = some bs ∧
      ∀ b ∈ bs, b.startIndex < chunks.length ∧
        (b.startIndex + size = size ∨ b.startIndex + size < 2 * chunks.length) := by
  have hs' : 0 < size := hs
  refine ⟨batchLoop size hs' chunks 0, by simp [batchExport, hs'], fun b hb => ?_⟩
  -- the loop's own bookkeeping: a batch is not empty and ends inside the collection
  obtain ⟨a1, _, a3, a4, a5, _, a7, _⟩ := batchLoop_sizes size hs' chunks 0 b hb
  rw [Nat.zero_mod, Nat.add_zero] at a5
  refine ⟨by omega, ?_⟩
  by_cases h0 : b.batchNumber = 0
  · left; rw [a5, h0]; simp
  · right
    have : size ≤ b.batchNumber * size := Nat.le_mul_of_pos_left size (by omega)
    omega

/-- batch `k` of the partition carries the number `k` (what `ExportToFiles` puts into the file name) -/
theorem batch_numbers {α : Type} (size : Nat) (chunks : List α) (bs : List (Batch α))
    (h : batchExport size chunks = some bs) (k : Nat) (b : Batch α) (hb : bs[k]? = some b) :
    b.batchNumber = k := by
  have := congrArg (·[k]?) (batchExport_numbers size chunks bs h)
  simp only [List.getElem?_map, hb, Option.map_some] at this
  have hk : k < bs.length := (List.getElem?_eq_some_iff.mp hb).1
  rw [List.getElem?_range hk] at this
  exact Option.some.inj this

/-- `(*Exporter).ExportToFile` / `(*ChunkCollection).ExportToFile`: when the file cannot be created
nothing changes; otherwise only that one file changes: it holds the complete export text, or — when
the export itself fails (`export_error_iff`) — it has been created and is left EMPTY. -/
theorem export_to_file_spec (canCreate : Str → Bool) (cfg : Config) (chunks : List Chunk) (name : Str) (fs : FS) :
    collExportToFile canCreate chunks name cfg fs = exportToFile canCreate cfg chunks name fs ∧
    (canCreate name = false → exportToFile canCreate cfg chunks name fs = (fs, .createErr)) ∧
    (canCreate name = true →
      (∀ n, n ≠ name → fsRead (exportToFile canCreate cfg chunks name fs).1 n = fsRead fs n) ∧
      (∀ text, exportToStringR cfg chunks = some text →
        (exportToFile canCreate cfg chunks name fs).2 = .ok ∧
        fsRead (exportToFile canCreate cfg chunks name fs).1 name = some text) ∧
      (exportToStringR cfg chunks = none →
        (exportToFile canCreate cfg chunks name fs).2 = .exportErr ∧
        fsRead (exportToFile canCreate cfg chunks name fs).1 name = some [])) := by
  refine ⟨rfl, ?_, ?_⟩
  · intro h; simp [exportToFile, h]
  · intro h
    refine ⟨?_, ?_, ?_⟩
    · intro n hn
      unfold exportToFile
      cases exportToStringR cfg chunks <;> simp [h, fsRead_fsWrite_other _ _ _ _ hn]
    · intro text ht
      simp [exportToFile, h, ht, fsRead_fsWrite_self]
    · intro ht
      simp [exportToFile, h, ht, fsRead_fsWrite_self]

/-- END TO END through a file: when `ExportToFile` returns nil, the file's content is accepted by the
standard reader of the format and reads back to one record per chunk, in order (any configuration,
any delimiter rune). -/
theorem export_to_file_parses_back (canCreate : Str → Bool) (cfg : Config) (chunks : List Chunk) (name : Str)
    (fs : FS) (hv : ∀ c ∈ chunks, chunkValid c = true)
    (hok : (exportToFile canCreate cfg chunks name fs).2 = .ok) :
    ∃ text, fsRead (exportToFile canCreate cfg chunks name fs).1 name = some text ∧
      parseExportR cfg text = some (expected cfg chunks) := by
  by_cases hc : canCreate name = true
  · cases ht : exportToStringR cfg chunks with
    | none => simp [exportToFile, hc, ht] at hok
    | some text =>
      obtain ⟨_, h2⟩ := ((export_to_file_spec canCreate cfg chunks name fs).2.2 hc).2.1 text ht
      exact ⟨text, h2, export_statement_all_configs cfg chunks hv text ht⟩
  · simp [exportToFile, hc] at hok

/-- HISTORY of `ExportToFiles` (any batch size ≥ 1; a configuration whose exports succeed; every
file creatable; `fmt.Sprintf(pattern, n)` different for different batch numbers, as with `%d`):
the call returns nil, file `nameOf k` holds exactly the export of the `k`-th batch of the
partition, no other file is touched — so the files, read in batch order, hold every chunk exactly
once, in order. -/
theorem export_to_files_history (canCreate : Str → Bool) (nameOf : Nat → Str) (cfg : Config) (size : Int)
    (hs : 1 ≤ size) (chunks : List Chunk) (fs : FS)
    (hexp : ∀ l, (exportToStringR cfg l).isSome = true)
    (hcc : ∀ k, canCreate (nameOf k) = true) (hinj : ∀ i j, nameOf i = nameOf j → i = j) :
    ∃ bs, batchExport size.toNat chunks = some bs ∧ bs.flatMap (·.items) = chunks ∧
      (exportToFiles canCreate nameOf cfg size chunks fs).2 = .ok ∧
      (∀ k b, bs[k]? = some b →
        fsRead (exportToFiles canCreate nameOf cfg size chunks fs).1 (nameOf k) = exportToStringR cfg b.items) ∧
      (∀ name, (∀ k, k < bs.length → nameOf k ≠ name) →
        fsRead (exportToFiles canCreate nameOf cfg size chunks fs).1 name = fsRead fs name) := by
  have h0 : 0 < size.toNat := by omega
  -- the run delivers every batch: `calls` pairs each batch of the partition with the export of its items
  obtain ⟨calls, hrun, hbs, hcat, hdata⟩ := batchExportRun_all size.toNat h0 (exportToStringR cfg)
    (fun b _ => canCreate (nameOf b.batchNumber)) chunks hexp (fun b _ => hcc b.batchNumber)
  refine ⟨calls.map (·.1), hbs, by rw [List.flatMap_map]; exact hcat, ?_⟩
  simp only [batchExportRun, h0, dite_true, Option.some.injEq] at hrun
  -- the file system after the fold
  have hfs : (exportToFiles canCreate nameOf cfg size chunks fs).1 =
      (calls.map (fun p => (nameOf p.1.batchNumber, p.2))).foldl (fun f kv => fsWrite f kv.1 kv.2) fs := by
    simp only [exportToFiles, batchExportRunInt, h0, dite_true, hrun, List.foldl_map]
    congr 1
    funext f p
    simp [writeBatchFile, hcc]
  have hres : (exportToFiles canCreate nameOf cfg size chunks fs).2 = .ok := by
    simp only [exportToFiles, batchExportRunInt, h0, dite_true, hrun, BatchResult.toI]
  have hnames : (calls.map (fun p => (nameOf p.1.batchNumber, p.2))).map (·.1) =
      (List.range (calls.map (·.1)).length).map nameOf := by
    rw [← batchExport_numbers size.toNat chunks _ hbs]
    simp only [List.map_map]
    rfl
  obtain ⟨hw1, hw2⟩ := fsRead_foldl_writes _ (hnames ▸ List.nodup_range.map hinj) fs
  refine ⟨hres, ?_, ?_⟩ <;> rw [hfs]
  · intro k b hb
    -- the k-th call is (b, data) with data the export of b's items
    rw [List.getElem?_map] at hb
    cases hp : calls[k]? with
    | none => rw [hp] at hb; cases hb
    | some p =>
      rw [hp] at hb
      injection hb with hb
      have hmem := List.mem_of_getElem? hp
      have hkn : p.1.batchNumber = k :=
        batch_numbers size.toNat chunks _ hbs k p.1 (by rw [List.getElem?_map, hp]; rfl)
      have := hw1 (nameOf p.1.batchNumber, p.2) (List.mem_map.mpr ⟨p, hmem, rfl⟩)
      rw [hkn] at this
      rw [this, ← hb, hdata p hmem]
  · intro name hname
    apply hw2
    rw [hnames]
    intro hmem
    obtain ⟨k, hk, e⟩ := List.mem_map.mp hmem
    exact hname k (List.mem_range.mp hk) e

example : ∀ l, (exportToStringR jsonlExportConfig l).isSome = true := fun _ => rfl

/-- … and for a full JSON / JSON Lines configuration each file decodes to exactly the chunks of
its batch: together, in batch order, the collection -/
theorem files_same_chunks (canCreate : Str → Bool) (nameOf : Nat → Str) (cfg : Config)
    (hf : cfg.format = .json ∨ cfg.format = .jsonl)
    (ht : cfg.includeText = true) (hm : cfg.includeMetadata = true) (hfl : cfg.metadataFields = none)
    (size : Int) (hs : 1 ≤ size) (chunks : List Chunk) (fs : FS)
    (hv : ∀ c ∈ chunks, chunkValid c = true) (hn : ∀ c ∈ chunks, chunkNormal c = true)
    (hcc : ∀ k, canCreate (nameOf k) = true) (hinj : ∀ i j, nameOf i = nameOf j → i = j) :
    ∃ bs, batchExport size.toNat chunks = some bs ∧ bs.flatMap (·.items) = chunks ∧
      ∀ k b, bs[k]? = some b →
        (fsRead (exportToFiles canCreate nameOf cfg size chunks fs).1 (nameOf k)).bind (decodeExportR cfg) = some b.items := by
  have hj : ¬ (cfg.format = .csv ∨ cfg.format = .tsv) := by rcases hf with h | h <;> simp [h]
  have hexp : ∀ l, (exportToStringR cfg l).isSome = true := by
    intro l; rcases hf with h | h <;> simp [exportToStringR, h]
  obtain ⟨bs, h1, h2, _, h4, _⟩ := export_to_files_history canCreate nameOf cfg size hs chunks fs hexp hcc hinj
  refine ⟨bs, h1, h2, ?_⟩
  intro k b hb
  have hmem : ∀ c ∈ b.items, c ∈ chunks := fun c hc =>
    h2 ▸ List.mem_flatMap.mpr ⟨b, List.mem_of_getElem? hb, hc⟩
  obtain ⟨text, e1, e2⟩ := export_json_identity cfg hf ht hm hfl b.items
    (fun c hc => hv c (hmem c hc)) (fun c hc => hn c (hmem c hc))
  rw [h4 k b hb, exportToStringR_eq_exportToString cfg _ (fun h => absurd h hj), e1, Option.bind_some,
    decodeExportR_eq_decodeExport cfg _ (fun h => absurd h hj), e2]

/-- why the names must differ: with a pattern that yields the same name for every batch (e.g. a
bad argument index), every batch overwrites the previous one — only the last batch survives.
(A misuse by the caller; with `%d` the names differ.) -/
theorem files_name_collision_counterexample :
    let c1 : Chunk := { id := [97], text := [], md := {} }
    let c2 : Chunk := { id := [98], text := [], md := {} }
    let r := exportToFiles (fun _ => true) (fun _ => [120]) jsonlExportConfig 1 [c1, c2] []
    r.2 = .ok ∧ r.1 = [([120], exportJSONLText jsonlExportConfig [c2])] := by
  intro c1 c2
  simp only [exportToFiles, batchExportRunInt]
  have h0 : 0 < (1 : Int).toNat := by decide
  simp only [h0, dite_true]
  rw [batchLoopRun.eq_1]
  simp only [List.length_cons, List.length_nil, Nat.zero_add, Nat.reduceAdd, Nat.lt_add_one, dite_true]
  rw [batchLoopRun.eq_1]
  rw [batchLoopRun.eq_1]
  simp (decide := true) [exportToStringR, jsonlExportConfig, defaultExportConfig, writeBatchFile, fsWrite, BatchResult.toI]

/-- `ExportFormat.String` / `FileExtension`: the four formats have four different names, the extension
of a supported format is `.` + its name, and exactly the values outside 0..3 are "unknown" / `.txt`
— the values for which `Export` returns "unsupported export format" (`export_error_iff`). -/
theorem format_names (i : Int) :
    (∀ f g : Format, formatString f = formatString g → f = g) ∧
    (∀ f : Format, f ≠ .other → fileExtension f = 46 :: formatString f) ∧
    (formatOfInt i = .other ↔ (i < 0 ∨ 3 < i)) ∧
    (formatString (formatOfInt i) = kUnknown ↔ (i < 0 ∨ 3 < i)) := by
  have hc : i = 0 ∨ i = 1 ∨ i = 2 ∨ i = 3 ∨ (i < 0 ∨ 3 < i) := by omega
  have hother : (i < 0 ∨ 3 < i) → formatOfInt i = .other := fun h => by
    unfold formatOfInt
    rw [if_neg (by omega), if_neg (by omega), if_neg (by omega), if_neg (by omega)]
  refine ⟨?_, ?_, ?_, ?_⟩
  · intro f g; cases f <;> cases g <;> decide
  · intro f hf; cases f <;> first | rfl | exact absurd rfl hf
  · rcases hc with rfl | rfl | rfl | rfl | h
    iterate 4 exact ⟨fun h => absurd h (by decide), fun h => by omega⟩
    exact ⟨fun _ => h, fun _ => hother h⟩
  · rcases hc with rfl | rfl | rfl | rfl | h
    iterate 4 exact ⟨fun h => absurd h (by decide), fun h => by omega⟩
    exact ⟨fun _ => h, fun _ => by rw [hother h]; rfl⟩

end Tabula.C14IO
