import TabulaModel.Lemmas.Reader
import TabulaModel.Lemmas.ReaderChunks
import TabulaModel.Lemmas.ReaderRenumber
import TabulaModel.Lemmas.ReaderRender
import TabulaModel.Lemmas.ReaderBounds
import TabulaModel.Lemmas.ReaderFuel
import TabulaModel.Props.C01
import TabulaModel.Props.C04
import TabulaModel.Props.C05
import TabulaModel.Props.C06
import TabulaModel.Props.C07
/-!
# C01 — layout invariance of the end-to-end reader model

`Reader.readPages : AbsFile → Ext → Except Err (List (List Str))` (Model/Reader.lean) is the
composition of the models of C04 (newest-revision lookup, object streams), C06 (object and
content syntax), C05 (filter chains), C01 (page tree, content join) and C07 (code → Unicode),
tied to `tabula.Open(file)…Fragments()` on whole files by the op `c01.read`.  The theorems
below say which differences between two abstract files `readPages` cannot see.  Each holds
for ALL abstract files (well-formed or not: where tabula fails, both sides fail alike).

Resource bounds of the code (repairs made for C02) are part of the model and of the theorems:
a page tree of more than 10000 levels is refused (86b42aa); an indirect `/Kids` array is
entered once (cd93b07); the decoded content of one page is at most 64 MiB (36a165b); arrays and
dictionaries nest at most 500 deep in both parsers (a3fd154, C06's models). Theorems 1-4 and 6
hold verbatim (both sides meet the same bounds); theorems 5 and 7 speak about content sizes
and carry the 64 MiB hypothesis; section 8 proves what happens at and beyond each bound and
that the work of the walk is bounded for every file. The limit of 16 nested object loads
(129dd3d) guards the re-entry of `GetObject` through an indirect `/Length` while a stream is
being parsed; the abstract file carries each stream's data, so that path (and its bound) is
outside this model: `getObject` nests at most two loads (an object inside an object stream).
-/
namespace Tabula.C01R
open Tabula.Reader
open Tabula.Xref (getLast mergeTables newest Section Entry)

/-! ## 1. only the newest entries, and the objects they name, are read -/

/-- **read_depends_on_newest**: two files whose merged cross-reference lookups agree on every
object number, whose object tables agree at the offsets those entries name, and whose newest
trailers name the same root, and which are both inside or both outside the modelled fragment
(`prevDangling`), read the same pages — whatever else the files contain (stale objects, superseded
sections, their order and number). -/
theorem read_depends_on_newest (f f' : AbsFile) (ext : Ext)
    (hentry : ∀ n, entry f n = entry f' n)
    (hobjs : ∀ off, Names f off → getLast f.objs off = getLast f'.objs off)
    (hroot : rootOf f = rootOf f') (hd : prevDangling f = prevDangling f') :
    readPages f ext = readPages f' ext :=
  readPages_objects f f' ext (getObject_congr f f' ext hentry hobjs) hroot hd

/-- the entry of `n` after older revisions are put in front of a chain: unchanged where the
chain has an entry (C04 `merge_newest`) -/
theorem entry_prepend (older ts : List Section) (n : Nat)
    (hsup : ∀ t ∈ older, getLast t n ≠ none → newest ts n ≠ none) :
    getLast (mergeTables (older ++ ts)) n = getLast (mergeTables ts) n := by
  rw [C04.merge_newest, C04.merge_newest, newest_append]
  cases h : newest ts n with
  | some e => rfl
  | none =>
    rw [Option.none_or, ← C04.merge_newest, C04.merge_none_iff]
    intro t ht
    cases hg : getLast t n with
    | none => rfl
    | some e => exact absurd h (hsup t ht (by rw [hg]; simp))

/-- **stale revisions are never read** (corollary, with C04's `merge_newest` /
`merge_none_iff`): put any number of older revisions in front of the `/Prev` chain of a file.
If every object number they mention has an entry in a later revision, the objects the
newest entries name are where they were, and root and `prevDangling` are unchanged, the pages are the
same: nothing of the older revisions — entries or objects — is read. -/
theorem read_ignores_superseded_revisions (f f' : AbsFile) (ext : Ext) (older : List Section)
    (hsec : sections f' = older ++ sections f)
    (hsup : ∀ t ∈ older, ∀ n, getLast t n ≠ none → newest (sections f) n ≠ none)
    (hobjs : ∀ off, Names f off → getLast f.objs off = getLast f'.objs off)
    (hroot : rootOf f = rootOf f') (hd : prevDangling f = prevDangling f') :
    readPages f ext = readPages f' ext := by
  apply read_depends_on_newest f f' ext _ hobjs hroot hd
  intro n
  unfold entry xref
  rw [hsec, entry_prepend older (sections f) n (fun t ht => hsup t ht n)]

/-- satisfiability: a one-revision file and the same file after an incremental update that
rewrites object 1 (old copy at offset 10 stays in the file, new copy at 50) -/
example :
    let old : XSec := { entries := [(1, .at 10), (2, .at 20)], prev := none, root := some 2 }
    let new : XSec := { entries := [(1, .at 50)], prev := some 100, root := some 2 }
    let f : AbsFile := { objs := [], secs := [(200, { new with prev := none, entries := [(1, .at 50), (2, .at 20)] })], start := 200 }
    let f' : AbsFile := { objs := [], secs := [(100, old), (200, new)], start := 200 }
    (∀ n, n ≤ 3 → entry f n = entry f' n) ∧ rootOf f = rootOf f' ∧ prevDangling f = prevDangling f' := by
  decide +kernel

/-! ## 2. object streams -/

/-- **read_objstm_invariant**: let object `n` be a plain (non-stream) object `body` in `f`,
and let `f'` differ from `f` only in the newest entry of `n`, which now says "member `idx` of
object stream `stm`", where the bytes that `GetObjectByIndex` cuts out for that member (after
decoding the stream through its own filters and reading its header) are the same `body`
under the number `n`. Then the pages are the same. -/
theorem read_objstm_invariant (f f' : AbsFile) (ext : Ext) (n off stm idx : Nat) (body : Str) (os : ObjStm)
    (hobjs : f'.objs = f.objs)
    (hother : ∀ m, m ≠ n → entry f' m = entry f m)
    (hplain : entry f n = some (.at off)) (hbody : getLast f.objs off = some (n, .plain body))
    (hmember : entry f' n = some (.inStm stm idx))
    (hstm : loadObjStm f' ext stm = .ok os) (hslice : memberSlice os idx = some ((n : Int), body))
    (hroot : rootOf f' = rootOf f) (hd : prevDangling f' = prevDangling f) :
    readPages f' ext = readPages f ext := by
  have hobjAt : ∀ m o, objectAt f' m o = objectAt f m o := fun m o => by unfold objectAt; rw [hobjs]
  -- `n` itself is no object stream, in either file
  have hn' : loadObjStm f' ext n = .error .err := by unfold loadObjStm; rw [hmember]
  have hn : loadObjStm f ext n = .error .err := by
    unfold loadObjStm
    rw [hplain]
    simp only [objStmAt, objectAt, hbody, if_true, parseBody]
    cases Pdf.coreParse body <;> rfl
  have hload : ∀ s, loadObjStm f' ext s = loadObjStm f ext s := fun s => by
    by_cases hs : s = n
    · rw [hs, hn', hn]
    · exact loadObjStm_congr_at (hother s hs) fun o _ => by unfold objStmAt; rw [hobjAt]
  refine readPages_objects f' f ext (fun m => ?_) hroot hd
  by_cases hm : m = n
  · subst hm
    unfold getObject
    rw [hmember, hplain]
    simp only [hstm, memberAt, hslice, objectAt, hbody, if_true, parseBody]
    cases Pdf.coreParse body <;> rfl
  · exact getObject_congr_at (hother m hm) (fun o _ => by rw [hobjAt]) fun s _ _ => hload s

/-- satisfiability of the member hypotheses: the decoded object stream `"7 0 12 "` with
`/First 4` holds one member, number 7, whose bytes are `"12 "` -/
example : memberSlice { first := 4, offsets := [(7, 0)], decoded := [55, 32, 48, 32, 49, 50, 32] } 0
    = some ((7 : Int), [49, 50, 32]) := by decide +kernel

/-! ## 3. filter chains -/

theorem mkObjStm_congr (ext : Ext) (kv kv' : Dict) (data data' : Str)
    (hdec : decodeStream ext kv' data' = decodeStream ext kv data)
    (h1 : dget kv' kType = dget kv kType) (h2 : dget kv' kN = dget kv kN)
    (h3 : dget kv' kFirst = dget kv kFirst) (h4 : dget kv' kExtends = dget kv kExtends) :
    mkObjStm ext kv' data' = mkObjStm ext kv data := by
  unfold mkObjStm
  rw [h1, h2, h3, h4, hdec]

/-- **read_stream_reencode**: replace one stream object (at offset `off`) by a stream whose
dictionary and raw data are different but whose `Decode()` result is the same, whose dictionary
parses like the old one to a dictionary, and whose `/Type /N /First /Extends` entries are the same (they
are what is read of the dictionary when the stream is an object stream; the statement asks for them
of every stream). The pages are the same: nothing reads a stream's raw data or its `/Filter`,
`/DecodeParms`, `/Length`. -/
theorem read_stream_reencode (f f' : AbsFile) (ext : Ext) (off num : Nat) (d d' data data' : Str)
    (kv kv' : Dict) (s s' : Pdf.PState)
    (hsecs : f'.secs = f.secs) (hstart : f'.start = f.start)
    (hat : getLast f.objs off = some (num, .stream d data))
    (hat' : getLast f'.objs off = some (num, .stream d' data'))
    (hoth : ∀ o, o ≠ off → getLast f'.objs o = getLast f.objs o)
    (hd : Pdf.coreParse d = .ok (.dict kv, s)) (hd' : Pdf.coreParse d' = .ok (.dict kv', s'))
    (hdec : decodeStream ext kv' data' = decodeStream ext kv data)
    (h1 : dget kv' kType = dget kv kType) (h2 : dget kv' kN = dget kv kN)
    (h3 : dget kv' kFirst = dget kv kFirst) (h4 : dget kv' kExtends = dget kv kExtends) :
    readPages f' ext = readPages f ext := by
  have hentry : ∀ n, entry f' n = entry f n := fun n => by
    unfold entry xref sections; rw [hsecs, hstart]
  -- an object is read alike from both files, except that the one stream comes with its new spelling
  have hobj : ∀ m o, objectAt f' m o = objectAt f m o ∨
      objectAt f' m o = .ok (.stream kv' data') ∧ objectAt f m o = .ok (.stream kv data) := by
    intro m o
    unfold objectAt
    by_cases ho : o = off
    · subst ho
      rw [hat, hat']
      by_cases hnm : num = m
      · right; simp only [hnm, if_true, parseBody, hd, hd', and_self]
      · left; simp only [hnm, if_false]
    · left; rw [hoth o ho]
  refine readPages_objects f' f ext (fun n => getObject_congr_at (hentry n) (fun o _ => ?_)
    fun st _ _ => loadObjStm_congr_at (hentry st) fun o _ => ?_) (by unfold rootOf; rw [hsecs, hstart])
    (by unfold prevDangling; rw [hsecs])
  · rcases hobj n o with h | ⟨h', h⟩
    · rw [h]
    · rw [h', h]; simp only [Except.map, toSVal, hdec]
  · unfold objStmAt
    rcases hobj st o with h | ⟨h', h⟩
    · rw [h]
    · rw [h', h]; exact mkObjStm_congr ext kv kv' data data' hdec h1 h2 h3 h4

/-- a stage's `/DecodeParms` element as an object (what a writer puts into the array) -/
def stageParmsObj : C05.Stage → Pdf.Obj
  | .hex _ _ | .a85 _ => .null
  | .flate _ e => if e then .dict [(kPredictor, .int 1)] else .null
  | .tiff _ colors columns => .dict [(kPredictor, .int 2), (kColors, .int colors), (kColumns, .int columns)]
  | .png _ pred colors columns _ =>
    .dict [(kPredictor, .int pred), (kColors, .int colors), (kColumns, .int columns)]

theorem pobjOf_stageParmsObj (st : C05.Stage) : pobjOf (some (stageParmsObj st)) = st.parms := by
  cases st with
  | hex a u => rfl
  | a85 a => rfl
  | flate a e => cases e <;> rfl
  | tiff a c1 c2 => rfl
  | png a p c1 c2 t => rfl

/-- a dictionary whose `/Filter` and `/DecodeParms` are the arrays of a conforming chain is
decoded by `streamDecode` on exactly that chain -/
theorem decodeStream_chain (ext : Ext) (kv : Dict) (ss : List C05.Stage) (data : Str)
    (hf : dget kv kFilter = some (.arr (ss.map fun st => .name st.name)))
    (hp : dget kv kDecodeParms = some (.arr (ss.map stageParmsObj))) :
    decodeStream ext kv data =
      Filters.streamDecode ext.filt (.array (ss.map fun st => Filters.FObj.name st.name))
        (.array (ss.map C05.Stage.parms)) data := by
  unfold decodeStream filterOf dparmsOf
  rw [hf, hp]
  simp only [List.map_map]
  have e1 : List.map (fobjOf ∘ fun st : C05.Stage => Pdf.Obj.name st.name) ss =
      ss.map fun st => Filters.FObj.name st.name := List.map_congr_left fun st _ => rfl
  have e2 : List.map ((fun o => pobjOf (some o)) ∘ stageParmsObj) ss = ss.map C05.Stage.parms :=
    List.map_congr_left fun st _ => pobjOf_stageParmsObj st
  rw [e1, e2]

/-- **read_filter_invariant** (with C05 `chain_roundtrip`): replace a stream whose data
decodes to the bytes `x` by ANY conforming encoding of `x` — any list of stages (ASCIIHex,
ASCII85, Flate with or without TIFF/PNG predictors, full or abbreviated names), written as
`/Filter` and `/DecodeParms` arrays, the data produced by the specification encoders. The
pages are the same. (`deflate` is any compressor that zlib's inflate inverts.) -/
theorem read_filter_invariant (f f' : AbsFile) (ext : Ext) (off num : Nat) (d d' data : Str)
    (kv kv' : Dict) (s s' : Pdf.PState) (x : Str) (ss : List C05.Stage) (deflate : Str → Str)
    (hsecs : f'.secs = f.secs) (hstart : f'.start = f.start)
    (hat : getLast f.objs off = some (num, .stream d data))
    (hat' : getLast f'.objs off = some (num, .stream d' (C05.encodeChain deflate ss x)))
    (hoth : ∀ o, o ≠ off → getLast f'.objs o = getLast f.objs o)
    (hd : Pdf.coreParse d = .ok (.dict kv, s)) (hd' : Pdf.coreParse d' = .ok (.dict kv', s'))
    (hplain : decodeStream ext kv data = some x)
    (hf : dget kv' kFilter = some (.arr (ss.map fun st => .name st.name)))
    (hp : dget kv' kDecodeParms = some (.arr (ss.map stageParmsObj)))
    (hz : ∀ z, ext.filt.inflate (deflate z) = some z) (hdb : ∀ z, ∀ c ∈ deflate z, c < 256)
    (hx : ∀ b ∈ x, b < 256) (hok : C05.ChainOK deflate ss x)
    (h1 : dget kv' kType = dget kv kType) (h2 : dget kv' kN = dget kv kN)
    (h3 : dget kv' kFirst = dget kv kFirst) (h4 : dget kv' kExtends = dget kv kExtends) :
    readPages f' ext = readPages f ext := by
  apply read_stream_reencode f f' ext off num d d' data _ kv kv' s s' hsecs hstart hat hat' hoth hd hd' _ h1 h2 h3 h4
  rw [hplain, decodeStream_chain ext kv' ss _ hf hp]
  exact C05.chain_roundtrip ext.filt deflate hz hdb ss x hx hok

/-- satisfiability: the chain of C05's own example, as `/Filter [/AHx /Fl /A85]` with a PNG
predictor on the Flate stage, read through `dget` from a dictionary -/
example :
    let ss : List C05.Stage := [.hex true false, .png true 12 1 3 [2, 4], .a85 false]
    let kv : Dict := [(kFilter, .arr (ss.map fun st => .name st.name)), (kDecodeParms, .arr (ss.map stageParmsObj))]
    dget kv kFilter = some (.arr (ss.map fun st => .name st.name)) ∧
      dget kv kDecodeParms = some (.arr (ss.map stageParmsObj)) ∧ C05.ChainOK id ss [1, 2, 3] := by
  refine ⟨rfl, rfl, ⟨trivial, ⟨by omega, by omega, by omega, by omega, by omega, ?_, ?_⟩, trivial, trivial⟩⟩
  · decide
  · decide

/-! ## 4. page-tree shape -/

/-- **read_tree_shape_invariant** (with C01 `flatten_spec`): two page trees — any depth, any
fan-out, inheritable keys at any levels — that have the same `/Contents` entries on their
leaves, left to right, and for every leaf the same nearest definer of `/Resources` on the path
from the root, show the same pages. -/
theorem read_tree_shape_invariant (res : Res) (ext : Ext) (t t' : RTree)
    (hl : (leafDicts t).map (fun d => dget d kContents) = (leafDicts t').map (fun d => dget d kContents))
    (hr : (PdfDoc.leafPaths (toPTree t)).map (fun p => (PdfDoc.resolvePath {} p).res) =
      (PdfDoc.leafPaths (toPTree t')).map (fun p => (PdfDoc.resolvePath {} p).res)) :
    pagesOfTree res ext t = pagesOfTree res ext t' := by
  unfold pagesOfTree pageSpecs
  rw [hl, C01.flatten_spec, C01.flatten_spec, List.map_map, List.map_map]
  exact congrArg _ (congrArg _ hr)

/-- … for two page trees that live in the same object store under two catalogs -/
theorem read_tree_shape_invariant_roots (res : Res) (ext : Ext) (fuel fuel' : Nat) (r r' : Nat) (t t' : RTree)
    (ht : pageTree res fuel (some r) = .ok t) (ht' : pageTree res fuel' (some r') = .ok t')
    (hl : (leafDicts t).map (fun d => dget d kContents) = (leafDicts t').map (fun d => dget d kContents))
    (hr : (PdfDoc.leafPaths (toPTree t)).map (fun p => (PdfDoc.resolvePath {} p).res) =
      (PdfDoc.leafPaths (toPTree t')).map (fun p => (PdfDoc.resolvePath {} p).res)) :
    readWith res ext fuel (some r) = readWith res ext fuel' (some r') := by
  rw [readWith_of_tree ht, readWith_of_tree ht']
  exact read_tree_shape_invariant res ext t t' hl hr

/-- satisfiability: `/Resources` on the root of a two-level tree, or on the intermediate node -/
example :
    let r : Pdf.Obj := .ref 5 0
    let c : Pdf.Obj := .ref 9 0
    let t : RTree := .node [(kResources, r)] [.node [] [.leaf [(kContents, c)]]]
    let t' : RTree := .node [] [.node [(kResources, r)] [.leaf [(kContents, c)]]]
    (leafDicts t).map (fun d => dget d kContents) = (leafDicts t').map (fun d => dget d kContents) ∧
    (PdfDoc.leafPaths (toPTree t)).map (fun p => (PdfDoc.resolvePath {} p).res) =
      (PdfDoc.leafPaths (toPTree t')).map (fun p => (PdfDoc.resolvePath {} p).res) := by
  refine ⟨rfl, rfl⟩

/-! ## 5. content split over several streams -/

open Tabula.Pdf in
/-- the operations of chunks written one after another and joined as tabula joins them -/
theorem csParse_join_chunks (cs : List Chunk) (hv : ValidOps false (glue [] cs).1) (ht : SepOk (glue [] cs).2)
    (hd : ∀ c ∈ cs, ∀ o ∈ c.1, Obj.depthList (valueList o.operands) ≤ maxNestingDepth) :
    CS.csParse (PdfDoc.joinContents (cs.map chunkBytes)) = some (cs.flatMap fun c => c.1.map opVal) := by
  have hv' := glue_withLF_valid cs [] [] false hv ht (fun _ h => by cases h) id
  have hd' : ∀ o ∈ (glue [] (cs.map withLF)).1, Obj.depthList (valueList o.operands) ≤ maxNestingDepth := by
    intro o ho
    obtain ⟨c, hc, o', ho', e⟩ := glue_mem _ _ o ho
    obtain ⟨c0, hc0, rfl⟩ := List.mem_map.mp hc
    rw [withLF_ops] at ho'
    rw [e]
    exact hd c0 hc0 o' ho'
  rw [join_chunks, ← chunkBytes_glue, chunkBytes, C06.cs_roundtrip _ _ hv'.1 hv'.2 hd']
  have := glue_values (cs.map withLF) []
  have e1 : (fun o : SOp => ({ op := o.op, operands := valueList o.operands } : CS.Operation)) = opVal := rfl
  rw [e1, this]
  simp [List.flatMap_map, withLF_ops]

open Tabula.Pdf in
/-- **what tabula's join guarantees** (`extractTextWithFragments` after the separator fix
9d65264: every non-empty decoded stream is followed by one line feed). Kept verbatim: it is
a statement about the bytes of the join (`joinContents`), which the code delivers whenever it
delivers a content at all (`C01.contents_split_bounded`), i.e. up to 64 MiB per page.
(a) For ANY parts, cut anywhere: the white-space-delimited words of the joined content are
the words of the parts in order (C01 `contents_split`); without the separator this fails
(`C01.concat_without_separator_counterexample`).
(b) For a content stream that is a legal spelling of a program (every token and separator
spelled in any way ISO 32000-1 allows, operands nested at most 500 deep, C06), cut into any number of chunks at operation
boundaries, each chunk with or without white space/comments at its end, some chunks possibly
empty: the joined content parses to exactly the operations of the chunks in order — the same
operations as the uncut stream (C06 `cs_roundtrip`). -/
theorem contents_join_guarantee (parts : List (List Nat)) (cs : List Chunk)
    (hv : ValidOps false (glue [] cs).1) (ht : SepOk (glue [] cs).2)
    (hd : ∀ c ∈ cs, ∀ o ∈ c.1, Obj.depthList (valueList o.operands) ≤ maxNestingDepth) :
    PdfDoc.words (PdfDoc.joinContents parts) = parts.flatMap PdfDoc.words ∧
    CS.csParse (PdfDoc.joinContents (cs.map chunkBytes)) = some (cs.flatMap fun c => c.1.map opVal) ∧
    CS.csParse (PdfDoc.joinContents [cs.flatMap chunkBytes]) = some (cs.flatMap fun c => c.1.map opVal) := by
  refine ⟨C01.contents_split parts, csParse_join_chunks cs hv ht hd, ?_⟩
  -- the uncut stream is the one-chunk split of the same program
  have h1 : cs.flatMap chunkBytes = chunkBytes (glue [] cs) := (chunkBytes_glue cs).symm
  have hg : glue [] [glue [] cs] = glue [] cs := glue_singleton _
  have := csParse_join_chunks [glue [] cs] (by rw [hg]; exact hv) (by rw [hg]; exact ht) (by
    intro c hc o ho
    simp only [List.mem_cons, List.not_mem_nil, or_false] at hc
    subst hc
    obtain ⟨c', hc', o', ho', e⟩ := glue_mem _ _ o ho
    rw [e]
    exact hd c' hc' o' ho')
  simp only [List.map_cons, List.map_nil, List.flatMap_cons, List.flatMap_nil, List.append_nil] at this
  rw [h1, this, ← glue_values cs []]

/-
Full statement (not proved): cut the content at ANY boundary between two top-level tokens —
also between the operands of one operation, or between the last operand and its operator:

    theorem read_contents_split_invariant : … (parts cut at top-level token boundaries) …
        pageStrings res ext (some c1) r = pageStrings res ext (some c2) r

(Cutting at white space that is not a token boundary — inside a string literal or a comment —
does change the content: `(a b) Tj` cut at the blank shows `a\nb`.) What is missing is the
bookkeeping for a chunk that ends inside an operand list: `glue` (Lemmas/ReaderChunks.lean) re-spells the separator
in front of the first token of an OPERATION only. For such cuts only the lexical statement
`contents_join_guarantee` (a) is proved, and the differential run covers them (the harness
cuts at every token boundary).
-/
/-- **read_contents_split_invariant_partial**: a page whose `/Contents` is one stream holding a
legally spelled program, and the page whose `/Contents` is an array of streams holding the
chunks of that program (cut at operation boundaries, see `contents_join_guarantee`), show the
same strings under the same resources — whatever filters the individual streams use —
provided the chunks, joined with tabula's separators, have at most 64 MiB.

The hypothesis `hsize`: `extractTextWithFragments` refuses a page whose joined content exceeds
`maxPageContentBytes` (36a165b), and the split content is longer than the uncut one by one
separator per non-empty chunk. At the edge the invariance fails: an
uncut stream of exactly 64 MiB is read, the same bytes in two streams are refused
(`C01.joinBounded_single` and the examples after it). `hsize` is on the SPLIT side, which is
the longer one (`C01.joinContents_flat_le`); both sides are then within the limit. -/
theorem read_contents_split_invariant_partial (res : Res) (ext : Ext) (r : Option Pdf.Obj) (cs : List Chunk)
    (hv : Pdf.ValidOps false (glue [] cs).1) (ht : Pdf.SepOk (glue [] cs).2)
    (hd : ∀ c ∈ cs, ∀ o ∈ c.1, Pdf.Obj.depthList (Pdf.valueList o.operands) ≤ Pdf.maxNestingDepth)
    (hsize : (PdfDoc.joinContents (cs.map chunkBytes)).length ≤ PdfDoc.maxPageContentBytes)
    (c1 c2 : Pdf.Obj) (xs : List Pdf.Obj) (vs : List SVal)
    (h1 : resolve res c1 = .ok (.stream (some (cs.flatMap chunkBytes))))
    (h2 : resolve res c2 = .ok (.obj (.arr xs))) (h3 : resolveAll res xs = .ok vs)
    (h4 : decodedParts vs = .ok (cs.map chunkBytes)) :
    pageStrings res ext (some c1) r = pageStrings res ext (some c2) r := by
  have hg := contents_join_guarantee [] cs hv ht hd
  have hflat : (cs.map chunkBytes).flatMap id = cs.flatMap chunkBytes := by
    simp [List.flatMap_map]
  have hsize1 : (PdfDoc.joinContents [cs.flatMap chunkBytes]).length ≤ PdfDoc.maxPageContentBytes := by
    have := C01.joinContents_flat_le (cs.map chunkBytes)
    rw [hflat] at this
    omega
  have hb1 : contentBytes res (some c1) = .ok (some (PdfDoc.joinContents [cs.flatMap chunkBytes])) := by
    rw [contentBytes_stream h1, joinParts, C01.joinBounded_within _ hsize1]
  have hb2 : contentBytes res (some c2) = .ok (some (PdfDoc.joinContents (cs.map chunkBytes))) := by
    rw [contentBytes_array h2 h3 h4, joinParts, C01.joinBounded_within _ hsize]
  rw [pageStrings_content ext r hb1, pageStrings_content ext r hb2]
  unfold showStrings
  rw [hg.2.1, hg.2.2]

open Tabula.Pdf in
/-- satisfiability: `BT (a) Tj` and `ET` as two chunks without any white space at the cut —
legal only because the reader inserts its separator (`TjET` would be one word); the joined
chunks have 14 bytes -/
example :
    let cs : List Chunk :=
      [([⟨[], [], [66, 84]⟩, ⟨[.lit [.ws 32] [.raw 97]], [.ws 32], [84, 106]⟩], []), ([⟨[], [.ws 32], [69, 84]⟩], [])]
    (PdfDoc.joinContents (cs.map chunkBytes)).length ≤ PdfDoc.maxPageContentBytes := by decide +kernel

open Tabula.Pdf in
example :
    let cs : List Chunk :=
      [([⟨[], [], [66, 84]⟩, ⟨[.lit [.ws 32] [.raw 97]], [.ws 32], [84, 106]⟩], []), ([⟨[], [.ws 32], [69, 84]⟩], [])]
    ValidOps false (glue [] cs).1 ∧ SepOk (glue [] cs).2 := by
  have hBT : OpName [66, 84] := ⟨⟨66, [84], rfl, by decide, by decide⟩, by decide⟩
  have hTj : OpName [84, 106] := ⟨⟨84, [106], rfl, by decide, by decide⟩, by decide⟩
  have hET : OpName [69, 84] := ⟨⟨69, [84], rfl, by decide, by decide⟩, by decide⟩
  simp only [glue, SOp.setLead, SOp.lead, List.nil_append, List.append_nil, List.cons_append, ValidOps, ValidList, SObj.Valid, noRefList,
    SObj.noRef, lastEndsRegular, SObj.endsRegular, ValidStr, hBT, hTj, hET, SepOk, SepUnit.Ok, List.forall_mem_cons,
    List.not_mem_nil, false_imp_iff, implies_true, Bool.false_eq_true]
  decide

/-! ## 6. object numbering -/

/-- **read_renumber_invariant**: renumber the objects by any injective map `σ` — the object
that was number `n` is number `σ n`, and every reference inside every object (at any depth of
arrays and dictionaries) is rewritten accordingly, as is the trailer's `/Root`. Everything
above the object layer (catalog, page tree with its visited set, inheritance, contents,
resources, fonts, ToUnicode, interpretation) gives the same pages. Objects under numbers
outside the image of `σ` are unreachable and may be anything. -/
theorem read_renumber_invariant (σ : Nat → Nat) (hinj : ∀ a b, σ a = σ b → a = b) (res res' : Res)
    (h : Renumbered σ res res') (ext : Ext) (fuel r : Nat) :
    readWith res' ext fuel (some (σ r)) = readWith res ext fuel (some r) :=
  readWith_ren hinj h ext fuel r

/-- … for two abstract files. (`hfuel` is not used: the walk's bound of either file is enough for
both, `Reader.readPages_ren`.) -/
theorem read_renumber_invariant_files (σ : Nat → Nat) (hinj : ∀ a b, σ a = σ b → a = b) (f f' : AbsFile) (ext : Ext)
    (h : Renumbered σ (getObject f ext) (getObject f' ext))
    (hroot : rootOf f' = (rootOf f).map σ) (hfuel : fuelOf f' = fuelOf f)
    (hd : prevDangling f' = prevDangling f) :
    readPages f' ext = readPages f ext :=
  readPages_ren hinj h hroot hd

/-- satisfiability: shifting every number by 10 -/
example : Renumbered (· + 10)
    (fun n => if n = 1 then .ok (.obj (.arr [.ref 2 0, .dict [(kKids, .ref 3 0)]])) else .error .err)
    (fun m => if m = 11 then .ok (.obj (.arr [.ref 12 0, .dict [(kKids, .ref 13 0)]])) else .error .err) := by
  intro n
  by_cases hn : n = 1
  · subst hn; simp [Except.map, renSVal, renObj, renList, renKV, renNum]
  · have : ¬ (n + 10 = 11) := by omega
    simp [hn, this, Except.map]

/-! ## 7. a writer in Lean: what is written is what is read -/

open Tabula.Pdf in
theorem parseBody_plain (so : SObj) (hv : so.Valid false) (hd : so.value.depth ≤ maxNestingDepth) :
    parseBody (.plain so.render) = .ok (.obj so.value) := by
  have := C06.core_roundtrip so [] hv (fun _ h => by cases h) hd
  rw [renderSep_nil, List.append_nil] at this
  simp [parseBody, this]

open Tabula.Pdf in
theorem parseBody_stream (sd : SObj) (kv : Dict) (data : List Nat) (hv : sd.Valid false)
    (hd : sd.value.depth ≤ maxNestingDepth) (hval : sd.value = .dict kv) :
    parseBody (.stream sd.render data) = .ok (.stream kv data) := by
  have := C06.core_roundtrip sd [] hv (fun _ h => by cases h) hd
  rw [renderSep_nil, List.append_nil, hval] at this
  simp [parseBody, this]

open Tabula.Pdf in
/-- the bytes of page `i`'s content stream as the spelling writes them -/
def progBytes (sp : Spelling) (i : Nat) : Reader.Str := renderOps (sp.prog i) ++ renderSep (sp.trail i)

open Tabula.Pdf in
/-- the objects read back from the rendered file are the base layout of the document -/
theorem baseStore_render (d : LDoc) (sp : Spelling) (hok : sp.Ok d) (ext : Ext) :
    BaseStore (getObject (renderBase d sp) ext) d (progBytes sp) := by
  have hnd := nodup_renderBase d sp
  have get := fun (p : Printed) (hp : p ∈ renderBaseList d sp) =>
    getObject_fileOf 1 (renderBaseList d sp) ext hnd p hp
  -- an object written as a legal spelling of `o` is read back as `o`
  have plain : ∀ (n : Nat) (so : SObj) (o : Obj), so.Valid false ∧ so.value = o → o.depth ≤ maxNestingDepth →
      ⟨n, .plain so.render⟩ ∈ renderBaseList d sp → getObject (renderBase d sp) ext n = .ok (.obj o) := by
    intro n so o hso hdep hm
    have := get _ hm
    rwa [parseBody_plain so hso.1 (by rw [hso.2]; exact hdep), hso.2] at this
  refine ⟨plain 1 _ _ hok.cat (by decide) (by simp [renderBaseList]),
    plain 2 _ _ hok.pages (by rw [depth_pagesDict]; decide) (by simp [renderBaseList]),
    plain 3 _ _ hok.font (by decide) (by simp [renderBaseList]),
    fun i hi => plain _ _ _ (hok.leaf i hi) (by simp [leafDict, Obj.depth, Obj.depthKV, maxNestingDepth])
      (mem_page d sp i hi _ (by simp [pagePrinted])), ?_⟩
  · intro i hi
    obtain ⟨hv, hdep, kv, hval, hnf⟩ := hok.cdict i hi
    obtain ⟨hvo, hto, hops⟩ := hok.prog i hi
    unfold progBytes
    refine ⟨?_, ?_⟩
    · have := get ⟨contNum i, .stream (sp.cdict i).render (renderOps (sp.prog i) ++ renderSep (sp.trail i))⟩
        (mem_page d sp i hi _ (by simp [pagePrinted]))
      rw [parseBody_stream (sp.cdict i) kv (renderOps (sp.prog i) ++ renderSep (sp.trail i)) hv hdep hval] at this
      unfold renderBase
      rw [this]
      simp [Except.map, toSVal, decodeStream, filterOf, hnf, Filters.streamDecode]
    · -- tabula's join of the single stream, parsed (theorem 5 with one chunk)
      have hg := contents_join_guarantee [] [(sp.prog i, sp.trail i)]
      have hglue : glue [] [(sp.prog i, sp.trail i)] = (sp.prog i, sp.trail i) := glue_singleton _
      have hdp : ∀ c ∈ [(sp.prog i, sp.trail i)], ∀ o ∈ c.1,
          Obj.depthList (valueList o.operands) ≤ maxNestingDepth := by
        intro c hc o ho
        simp only [List.mem_cons, List.not_mem_nil, or_false] at hc
        subst hc
        have hm : opVal o ∈ pageOps d[i] := by rw [← hops]; exact List.mem_map.mpr ⟨o, ho, rfl⟩
        have : Obj.depthList (opVal o).operands = 0 := by
          simp only [pageOps, List.mem_append, List.mem_cons, List.mem_map, List.not_mem_nil, or_false] at hm
          rcases hm with (h | h) | h
          · rcases h with h | h <;> rw [h] <;> rfl
          · obtain ⟨b, _, h⟩ := h; rw [← h]; rfl
          · rw [h]; rfl
        simp only [opVal] at this
        omega
      have := (hg (by rw [hglue]; exact hvo) (by rw [hglue]; exact hto) hdp).2.2
      simp only [List.flatMap_cons, List.flatMap_nil, List.append_nil, chunkBytes] at this
      rw [this, hops]

/-- **read_render_partial** (`read_render` for the base layout): write the logical document
`d` (pages × lines, every line a byte string shown in one Type1/WinAnsi font) as catalog →
`/Pages` (carrying the `/Resources` its leaves inherit) → one leaf and one unfiltered content
stream `BT /F1 12 Tf (line) Tj … ET` per page, every object and every program in ANY legal
spelling (C06: any escapes, number forms, separators, comments), every page's program spelled
in at most 64 MiB. Reading the file gives, page by page and line by line, exactly the lines'
bytes decoded through WinAnsiEncoding and normalised — for every such document, any number of
pages and lines.

The hypothesis `hsize`: a page whose decoded content exceeds `maxPageContentBytes = 64 MiB` is
refused (36a165b), so the statement is for every document whose pages are each spelled in at most
64 MiB; `read_render_beyond` is the other half. The
other bounds do not restrict the statement: the base layout's page tree has two levels
(limit 10000), its `/Kids` array is direct, its objects nest at most 3 deep (limit 500; the
content dictionaries carry the hypothesis in `Spelling.Ok`), its operands not at all.

The full `read_render` (every layout the harness's writer produces) is this theorem composed
with 1–6: further revisions with stale objects (1), members of object streams (2), any filter
chain on the streams (3), deeper page trees (4), content cut into several streams (5), any
numbering (6). That composition — a Lean-side `render d lay` for all twelve layout dimensions
and the bookkeeping that its output satisfies the hypotheses of 1–6 — is not done; on the
generated layouts it is covered by the differential op `c01.read`. -/
theorem read_render_partial (d : LDoc) (sp : Spelling) (hok : sp.Ok d) (ext : Ext)
    (hsize : ∀ i, i < d.length → (progBytes sp i).length ≤ PdfDoc.maxPageContentBytes) :
    readPages (renderBase d sp) ext = .ok (d.map fun lines => lines.map (shown ext)) := by
  refine readPages_eq_readWith (fuel := 2 * d.length + 3) (prevDangling_fileOf 1 _) ?_ (fun h => nomatch h)
  rw [renderBase, rootOf_fileOf]
  exact readWith_base _ ext d (progBytes sp) (baseStore_render d sp hok ext)
    (fun b => C07.decodeString_isSome ext.nfc defaultFont b) hsize _ (Nat.le_refl _)

/-- **read_render_beyond**: the same document with ONE page spelled in more than 64 MiB (a
legal spelling: e.g. white space or comments between the operations) is not read: the reader
answers with an error — for the whole `Fragments()` call of that page, and so for the document
as the model reports it. A legal PDF page of that size is refused by design of the repair
36a165b; see the report for what this means for property C01. -/
theorem read_render_beyond (d : LDoc) (sp : Spelling) (hok : sp.Ok d) (ext : Ext)
    (hbig : ∃ i, i < d.length ∧ (progBytes sp i).length > PdfDoc.maxPageContentBytes) :
    readPages (renderBase d sp) ext = .error .err := by
  refine readPages_eq_readWith (fuel := 2 * d.length + 3) (prevDangling_fileOf 1 _) ?_ (fun h => nomatch h)
  rw [renderBase, rootOf_fileOf]
  exact readWith_base_beyond _ ext d (progBytes sp) (baseStore_render d sp hok ext)
    (fun b => C07.decodeString_isSome ext.nfc defaultFont b) hbig _ (Nat.le_refl _)

open Tabula.Pdf in
/-- satisfiability of `Spelling.Ok`: the one-page document with the line `Hi`, every object in
C06's canonical spelling (`spell`), the program `BT /F1 12 Tf (Hi) Tj ET` -/
example : Spelling.Ok
    { cat := spell catObj, pages := spell (.dict (pagesDict 1)), font := spell fontObj,
      leaf := fun i => spell (.dict (leafDict i)), cdict := fun _ => spell (.dict []),
      prog := fun _ => [⟨[], [], opBT⟩, ⟨[.name [.ws 32] [.raw 70, .raw 49], .int [.ws 32] false 0 12], [.ws 32], opTf⟩,
        ⟨[.lit [.ws 10] [.raw 72, .raw 105]], [], opTj⟩, ⟨[], [.ws 32], opET⟩],
      trail := fun _ => [] }
    [[[72, 105]]] := by
  have wf : ∀ o : Obj, o.WF → (spell o).Valid false ∧ (spell o).value = o := fun o h => spell_valid_value o h false
  have hnil : Obj.WF (.dict []) := by simp only [Obj.WF, WFKV, keysKV]; decide
  refine ⟨wf _ ?_, wf _ ?_, wf _ ?_, ?_, ?_, ?_⟩
  · simp only [catObj, Obj.WF, WFKV, keysKV]; decide
  · simp only [pagesDict, kidsOf, resDict, Obj.WF, WFKV, WFList, keysKV, List.range', List.map]; decide
  · simp only [fontObj, Obj.WF, WFKV, keysKV]; decide
  · intro i hi
    have : i = 0 := by simpa using hi
    subst this
    exact wf _ (by simp only [leafDict, Obj.WF, WFKV, keysKV]; decide)
  · intro i _
    exact ⟨(wf _ hnil).1, by rw [(wf _ hnil).2]; decide, [], (wf _ hnil).2, rfl⟩
  · intro i hi
    have : i = 0 := by simpa using hi
    subst this
    have hBT : OpName opBT := ⟨⟨66, [84], rfl, by decide, by decide⟩, by decide⟩
    have hTf : OpName opTf := ⟨⟨84, [102], rfl, by decide, by decide⟩, by decide⟩
    have hTj : OpName opTj := ⟨⟨84, [106], rfl, by decide, by decide⟩, by decide⟩
    have hET : OpName opET := ⟨⟨69, [84], rfl, by decide, by decide⟩, by decide⟩
    refine ⟨?_, ?_, rfl⟩
    · simp only [ValidOps, ValidList, SObj.Valid, noRefList, SObj.noRef, lastEndsRegular, SObj.endsRegular, ValidStr,
        hBT, hTf, hTj, hET, SepOk, SepUnit.Ok, NPiece.Ok, List.forall_mem_cons, List.not_mem_nil, false_imp_iff,
        implies_true, Bool.false_eq_true]
      decide
    · intro u hu; cases hu

/-! ## 8. the resource bounds of the reader (C02 repairs 86b42aa, cd93b07, 36a165b, a3fd154)

For each bound: (a) beyond it the model answers what the code answers — an error;
(b) the work is bounded for EVERY input; (c) the edge. -/

/-! ### 8.1 the page tree is traversed at most 10000 levels deep (86b42aa) -/

/-- (a) a node met at depth 10000 or more — `/Pages`, `/Page` or anything else, valid or not —
ends the walk with an error, before it is looked at -/
theorem walk_refuses_beyond_depth_limit (res : Res) (fuel dep : Nat) (vis : List Nat) (d : Dict)
    (h : dep ≥ PdfDoc.maxPageTreeDepth) : buildNode res (fuel + 1) dep vis d = .error .err :=
  buildNode_too_deep res fuel dep vis d h

/-- (b) for every object store: the page tree the reader delivers has at most 10000 levels — and
the recursion of `traversePageNode`, one call per level on a path, is at most that deep -/
theorem walk_depth_bounded (res : Res) (fuel : Nat) (root : Option Nat) (t : RTree)
    (h : pageTree res fuel root = .ok t) : PdfDoc.height (toPTree t) ≤ PdfDoc.maxPageTreeDepth := by
  obtain ⟨pd, vis', hb⟩ := pageTree_ok h
  have := (build_height res fuel).1 0 _ _ _ _ hb
  omega

/-- (c) the edge, on a store whose page tree is a list of `k` `/Pages` nodes above one page
(`k + 1` levels): it is read iff `k + 1 ≤ 10000`. Instances: `Reader.pageTree_chain` at
`k = 9999` (read) and `k = 10000` (refused), examples in Lemmas/ReaderBounds.lean. -/
theorem walk_depth_limit_edge (k fuel : Nat) (hf : fuel ≥ 2 * k + 1) :
    pageTree (chainRes k) fuel (some (k + 1)) =
      if k + 1 ≤ PdfDoc.maxPageTreeDepth then .ok (chainFrom k k) else .error .err :=
  pageTree_chain k fuel hf

example : pageTree (chainRes 9999) 20000 (some 10000) = .ok (chainFrom 9999 9999) := by
  rw [walk_depth_limit_edge 9999 20000 (by omega)]; rfl
example : pageTree (chainRes 10000) 30000 (some 10001) = .error .err := by
  rw [walk_depth_limit_edge 10000 30000 (by omega)]; rfl

/-! ### 8.2 an indirect `/Kids` array is traversed once (cd93b07) -/

/-- (a) a `/Pages` node whose `/Kids` is a reference to an object number already visited — an
array that another node has used, or a node — ends the walk with an error -/
theorem walk_kids_array_once (res : Res) (fuel dep : Nat) (vis : List Nat) (d : Dict) (n g : Int)
    (ht : dget d kType = some (.name kPages)) (hk : dget d kKids = some (.ref n g))
    (hn : 0 ≤ n) (hv : n.toNat ∈ vis) : buildNode res (fuel + 1) dep vis d = .error .err := by
  have hneg : ¬ n < 0 := by omega
  have hc : vis.contains n.toNat = true := by simpa using hv
  have hkind : nodeKind res dep vis d = .fail .err := by
    simp only [nodeKind, ht, hk, if_true, visitKidsRef, hneg, if_false, hc]
    split <;> rfl
  rw [buildNode_succ, hkind]

/-- (c) two `/Pages` nodes naming the same (empty) indirect `/Kids` array: an error since
cd93b07 (`Reader.sharedKidsRes`; before: a page tree without pages) -/
example : pageTree sharedKidsRes 20 (some 1) = .error .err := pageTree_sharedKids

/-- (b) **the work of the walk is bounded by the largest object number of the cross-reference
table**, for every file: every object number — node or `/Kids` array — is entered at most once and only
numbers `0 … maxKey` answer, so the tree that is built has at most `maxKey + 2` nodes (one per such
number, plus the root) … -/
theorem walk_work_bounded (f : AbsFile) (ext : Ext) (fuel : Nat) (root : Option Nat) (t : RTree)
    (h : pageTree (getObject f ext) fuel root = .ok t) : t.size ≤ maxKey (xref f) + 2 := by
  obtain ⟨pd, vis', hb⟩ := pageTree_ok h
  have := ((build_vis (getObject f ext) (maxKey (xref f)) (getObject_ok_le f ext) fuel).1 0 [] _ _ _ hb).2
  have := unvisited_nil_le (maxKey (xref f))
  omega

/-- … and the fuel `fuelOf f = 4 * (largest object number + 2)` the model gives the walk is
never used up: the answer `fuel` is impossible, for every file (so the walk of the model
always ends for a reason the code has too). -/
theorem read_never_answers_fuel (f : AbsFile) (ext : Ext) : readPages f ext ≠ .error .fuel :=
  readPages_never_fuel f ext

/-! ### 8.3 the decoded content of one page is limited to 64 MiB (36a165b) -/

theorem joinParts_bounded (ps : List Reader.Str) (content : Reader.Str) (h : joinParts ps = .ok (some content)) :
    content = PdfDoc.joinContents ps ∧ content.length ≤ PdfDoc.maxPageContentBytes + 1 := by
  unfold joinParts at h
  split at h
  · next c hc =>
    cases h
    exact ⟨(C01.contents_split_bounded ps _ hc).1, C01.joinBounded_bytes_kept ps _ hc⟩
  · cases h

/-- (b) **bounded work**: whatever the page's `/Contents` names — any number of streams of any
size, the same stream any number of times — the content that is kept and handed to the
content parser has at most `maxPageContentBytes + 1` bytes, for every object store -/
theorem page_content_bounded (res : Res) (c : Option Pdf.Obj) (content : Reader.Str)
    (h : contentBytes res c = .ok (some content)) : content.length ≤ PdfDoc.maxPageContentBytes + 1 := by
  unfold contentBytes at h
  repeat' split at h
  all_goals first
    | (cases h; done)
    | exact (joinParts_bounded _ _ h).2

/-- (a) **beyond the limit**: a `/Contents` array whose decoded streams, joined with the
separators, exceed the limit is an error of `extractTextWithFragments` (also for the page whose
text would be extracted from the first few bytes: nothing is truncated, the page is refused) -/
theorem page_content_beyond_limit_refused (res : Res) (c : Pdf.Obj) (xs : List Pdf.Obj) (vs : List SVal) (ps : List Reader.Str)
    (h2 : resolve res c = .ok (.obj (.arr xs))) (h3 : resolveAll res xs = .ok vs)
    (h4 : decodedParts vs = .ok ps)
    (hbig : (PdfDoc.joinContents ps).length > PdfDoc.maxPageContentBytes + 1) :
    contentBytes res (some c) = .error .err := by
  rw [contentBytes_array h2 h3 h4, joinParts, C01.joinBounded_beyond ps hbig]

/-- (c) the edge: a page whose content is one stream of exactly 64 MiB is read, one byte more
is refused (for any resolver holding that stream under number `n`) -/
theorem page_content_limit_edge (res : Res) (n k : Nat)
    (hc : res n = .ok (.stream (some (List.replicate k 32)))) :
    contentBytes res (some (.ref n 0)) =
      if k ≤ PdfDoc.maxPageContentBytes then .ok (some (PdfDoc.joinContents [List.replicate k 32]))
      else .error .err := by
  rw [contentBytes_one res n _ hc, List.length_replicate]

example (res : Res) (hc : res 7 = .ok (.stream (some (List.replicate 67108864 32)))) :
    contentBytes res (some (.ref (7 : Nat) 0)) = .ok (some (PdfDoc.joinContents [List.replicate 67108864 32])) := by
  rw [page_content_limit_edge res 7 67108864 hc, if_pos (by decide)]
example (res : Res) (hc : res 7 = .ok (.stream (some (List.replicate 67108865 32)))) :
    contentBytes res (some (.ref (7 : Nat) 0)) = .error .err := by
  rw [page_content_limit_edge res 7 67108865 hc, if_neg (by decide)]

/-! ### 8.4 arrays and dictionaries nest at most 500 deep (a3fd154, C06's parser models)

`Model/Reader.lean` parses every object body, object-stream header and member with C06's
`coreParse` and every page content with `csParse`, which carry the limit. The round-trip
theorems used above carry the hypothesis where it is needed: `contents_join_guarantee` and
`read_contents_split_invariant_partial` (`hd`: operands nested at most 500 deep),
`parseBody_plain` / `parseBody_stream` / `Spelling.Ok.cdict` (`value.depth ≤ maxNestingDepth`;
the fixed objects of the base layout are 1-3 deep, checked by `decide`). -/

open Tabula.Pdf in
/-- (a) an object whose body is a legal spelling of a value nested deeper than 500 does not load
(C06 `core_too_deep`) -/
theorem object_too_deep_refused (so : SObj) (hv : so.Valid false) (hd : maxNestingDepth < so.value.depth) :
    parseBody (.plain so.render) = .error .err := by
  have := C06.core_too_deep so [] hv (fun _ h => by cases h) hd
  rw [renderSep_nil, List.append_nil] at this
  simp [parseBody, this]

theorem parseBody_shallow (b : RawBody) (o : Pdf.Obj) (h : parseBody b = .ok (.obj o)) :
    o.depth ≤ Pdf.maxNestingDepth := by
  cases b with
  | plain body =>
    simp only [parseBody] at h
    split at h
    · next o' s hp =>
      cases h
      exact C06.core_accepts_within_limit body _ s hp
    · cases h
  | stream dd data =>
    simp only [parseBody] at h
    split at h <;> cases h

/-- (b) every object the reader model loads is nested at most 500 deep, whatever the file holds
(C06 `core_accepts_within_limit`): nothing above the object layer ever recurses deeper into
an object than that -/
theorem objects_loaded_shallow (f : AbsFile) (ext : Ext) (n : Nat) (o : Pdf.Obj) (h : getObject f ext n = .ok (.obj o)) :
    o.depth ≤ Pdf.maxNestingDepth := by
  unfold getObject at h
  split at h
  · cases h
  · cases h
  · split at h
    · next v hv =>
      unfold objectAt at hv
      split at hv
      · cases hv
      · split at hv
        · cases v with
          | obj o' =>
            simp only [toSVal] at h
            cases h
            exact parseBody_shallow _ _ hv
          | stream kv data => simp [toSVal] at h
        · cases hv
    · cases h
  · split at h
    · cases h
    · next os _ =>
      split at h
      · next o' hm =>
        cases h
        unfold memberAt at hm
        split at hm
        · cases hm
        · split at hm
          · cases hm
          · next o'' s hp =>
            split at hm
            · cases hm
              exact C06.core_accepts_within_limit _ _ s hp
            · cases hm
      · cases h


open Tabula.Pdf in
/-- (c) the edge: an array nested 501 deep does not load, one nested 500 deep does -/
example : parseBody (.plain (nestArr 501 (SObj.int [] true 2 (-7))).render) = .error .err :=
  object_too_deep_refused _ (nestArr_valid _ _ (by simp [SObj.Valid, SepOk])) (by rw [nestArr_depth]; decide)
open Tabula.Pdf in
example : parseBody (.plain (nestArr 500 (SObj.int [] true 2 (-7))).render) =
    .ok (.obj (nestArr 500 (SObj.int [] true 2 (-7))).value) :=
  parseBody_plain _ (nestArr_valid _ _ (by simp [SObj.Valid, SepOk])) (by rw [nestArr_depth]; decide)

/-! ## 9. fonts: the `/Differences` of a simple font's `/Encoding` dictionary (fix b3a0e07)

Was finding C01/font-text-differences: a Type1 or TrueType font whose `/Encoding` is a
dictionary with `/Differences` and that has no `/ToUnicode` was decoded through the base
encoding alone (`Type1Font.applyEncodingDifferences` counted the entries and dropped them,
TrueType fonts never looked at the array). The reader model's font component
(`parseFont` → `FontDecode.Font.differences` → `decodeShown`) follows the repaired code; the
code before the fix is kept as `decodeShownOld`. The specification of an array of runs
(`Differences.specRune`, ISO 32000-1 9.6.6.1) and the theorems about the font alone are C07's
(`C07.differences_parse`, `differences_override`, `differences_tounicode_precedence`). -/

/-- **read_font_differences** (the former finding, as a statement about the reader): a
string shown in a font the page's `/Font` dictionary binds to a Type1 or TrueType dictionary
without `/ToUnicode`, whose `/Widths` (if present) is an array of numbers, and whose `/Encoding`
dictionary carries `/Differences [runs]` - ANY list of runs over ANY base encoding with a non-empty
name - is reported, code by code, as the character the differences
specify where they name the code (with a glyph name of the package's list) and as the base
encoding's character elsewhere, NFC last; for every byte string that does not start with a
byte-order mark. -/
theorem read_font_differences (res : Res) (ext : Ext) (fontsD : Dict) (cur : Str) (fd ed : Dict) (st std : Str)
    (hreg : dget fontsD cur = some (.dict fd))
    (hst : dget fd kSubtype = some (.name st))
    (hkind : (st = kType1 ∧ std = kStandardEncoding) ∨ (st = kTrueType ∧ std = kWinAnsiEncoding))
    (rs : List Differences.Run)
    (he : dget fd kEncoding = some (.dict ed))
    (hd : dget ed kDifferences = some (.arr (Differences.renderRuns rs)))
    (hw : widthsOk res fd = true) (htu : dget fd kToUnicode = none)
    (e : Encoding.Enc) (hbase : baseEncoding ed std ≠ []) (hge : Encoding.getEncoding (baseEncoding ed std) = some e)
    (data : Str) (hbytes : UTF16.AllBytes data) (hnb : C07.NoBOM data) :
    decodeShown res ext (some fontsD) cur data =
      .ok (ext.nfc (data.filterMap fun b =>
        match C07.specByte rs e.table b with
        | some r => if r ≠ 0 then some (UTF16.toRune r) else none
        | none => none)) := by
  obtain ⟨ds, hfont, hl⟩ := Differences.parseFont_differences res fd ed st std hst hkind rs he hd hw htu
  unfold decodeShown registered
  simp only [Option.bind_some, hreg, hfont]
  rw [C07.differences_override ext.nfc _ hbase e hge rs ds hl data hbytes hnb]
  rfl

/-- **read_font_differences_tounicode**: with a `/ToUnicode` CMap beside the `/Differences`
the CMap alone decides, as before the fix -/
theorem read_font_differences_tounicode (res : Res) (ext : Ext) (fontsD : Dict) (cur : Str) (o : Pdf.Obj)
    (cm : CMap.CMap) (enc : Str) (ds : FontDecode.Diffs)
    (hreg : dget fontsD cur = some o) (hfont : parseFont res o = some ⟨some cm, enc, ds⟩) (data : Str) :
    decodeShown res ext (some fontsD) cur data = .ok (ext.nfc (CMap.lookupString cm data)) ∧
    decodeShown res ext (some fontsD) cur data = decodeShownOld res ext (some fontsD) cur data := by
  unfold decodeShown decodeShownOld registered
  simp only [Option.bind_some, hreg, hfont]
  exact ⟨rfl, rfl⟩

/-- **read_font_no_differences_unchanged**: a string shown in a font without `/Differences`
(or with no font at all) is decoded exactly as before the fix -/
theorem read_font_no_differences_unchanged (res : Res) (ext : Ext) (fonts : Option Dict) (cur : Str) (data : Str)
    (h : ∀ f, (fonts.bind fun fd => registered res fd cur) = some f → f.differences = []) :
    decodeShown res ext fonts cur data = decodeShownOld res ext fonts cur data := by
  unfold decodeShown decodeShownOld
  cases hf : (fonts.bind fun fd => registered res fd cur) with
  | none => rfl
  | some f =>
    have hd := h f hf
    obtain ⟨tu, enc, ds⟩ := f
    simp only at hd
    subst hd
    rfl

/-- the `/Font` dictionary of the finding's witness: `/F1 << /Type /Font /Subtype /Type1
/Encoding << /BaseEncoding /WinAnsiEncoding /Differences [65 /Euro /eacute] >> >>` -/
def exDiffFonts : Dict :=
  [([70, 49], .dict [(kType, .name kFont), (kSubtype, .name kType1),
    (kEncoding, .dict [(kBaseEncoding, .name kWinAnsiEncoding),
      (kDifferences, .arr (Differences.renderRuns C07.exDiffRuns))])])]

/-- what `RegisterFontsFromResources` makes of the witness's `/F1`: no CMap, WinAnsiEncoding, the
codes 65 and 66 redefined -/
theorem exDiffFonts_registered :
    registered (fun _ => .error .err) exDiffFonts [47, 70, 49] =
      some ⟨none, kWinAnsiEncoding, [(66, some 0xE9), (65, some 0x20AC)]⟩ := by
  -- `Font` has no decidable equality: its fields are evaluated, then put together again
  have hf : (registered (fun _ => .error .err) exDiffFonts [47, 70, 49]).map
      (fun f => (f.toUnicode.isSome, f.encoding, f.differences)) =
      some (false, kWinAnsiEncoding, [(66, some 0xE9), (65, some 0x20AC)]) := by decide +kernel
  cases hr : registered (fun _ => .error .err) exDiffFonts [47, 70, 49] with
  | none => rw [hr] at hf; cases hf
  | some f =>
    rw [hr] at hf
    obtain ⟨tu, enc, ds⟩ := f
    simp only [Option.map_some, Option.some.injEq, Prod.mk.injEq] at hf
    obtain ⟨h1, h2, h3⟩ := hf
    cases tu with
    | some cm => cases h1
    | none => rw [h2, h3]

/-- the hypotheses of `read_font_differences` are satisfiable (the witness), and what the
theorem gives there: `(AB)` shown in `/F1` is "€é", `(ABC)` is "€éC" -/
example (ext : Ext) :
    decodeShown (fun _ => .error .err) ext (some exDiffFonts) [47, 70, 49] [65, 66] = .ok (ext.nfc [0x20AC, 0xE9]) ∧
    decodeShown (fun _ => .error .err) ext (some exDiffFonts) [47, 70, 49] [65, 66, 67] = .ok (ext.nfc [0x20AC, 0xE9, 67]) := by
  have p2 : FontDecode.preNFC ⟨none, kWinAnsiEncoding, [(66, some 0xE9), (65, some 0x20AC)]⟩ [65, 66] = some [0x20AC, 0xE9] := by
    simpa [FontDecode.decodeString] using C07.differences_pinned_counterexample.2
  have p3 : FontDecode.preNFC ⟨none, kWinAnsiEncoding, [(66, some 0xE9), (65, some 0x20AC)]⟩ [65, 66, 67] = some [0x20AC, 0xE9, 67] := by
    decide +kernel
  unfold decodeShown
  simp only [Option.bind_some, exDiffFonts_registered, FontDecode.decodeString, p2, p3, Option.map_some, and_self]

/-- **font_differences_pinned_counterexample**: the reader before b3a0e07 (`decodeShownOld`)
reports the witness's `(AB)` as "AB" - the base encoding's characters - although the font
defines "€é" (`nfc` = identity: both strings are in NFC) -/
theorem font_differences_pinned_counterexample (filt : Filters.Ext) :
    decodeShownOld (fun _ => .error .err) ⟨filt, id⟩ (some exDiffFonts) [47, 70, 49] [65, 66] = .ok [65, 66] ∧
    decodeShown (fun _ => .error .err) ⟨filt, id⟩ (some exDiffFonts) [47, 70, 49] [65, 66] = .ok [0x20AC, 0xE9] := by
  have hp := C07.differences_pinned_counterexample
  unfold decodeShownOld decodeShown
  simp only [Option.bind_some, exDiffFonts_registered, hp.1, hp.2, and_self]

end Tabula.C01R
