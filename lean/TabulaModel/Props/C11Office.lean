import TabulaModel.Model.HFOffice
import TabulaModel.Lemmas.HeaderFooter
/-!
# C11 for DOCX, ODT and PPTX

Mechanism 4 of the property ("DOCX/ODT: paragraph removed only if equal to a header/footer part
line; PPTX: placeholder type") as theorems about the decision functions of `Model/HeaderFooter.lean`
and about the loops of `Model/HFOffice.lean` (`TextWithOptions`, `MarkdownWithOptions`).
-/
namespace Tabula.C11Office
open Tabula.HF Tabula.HFOffice

/-- the paragraph equals (after trimming) a non-blank line of one of the parts -/
def EqualsPartLine (t : Str) (parts : List Str) : Prop :=
  ∃ part ∈ parts, ∃ line ∈ splitLines part, trimSpace line ≠ [] ∧ trimSpace t = trimSpace line

theorem isEmpty_false_iff {s : Str} : s.isEmpty = false ↔ s ≠ [] := List.isEmpty_eq_false_iff

theorem matchesPartLine_iff (t : Str) (parts : List Str) :
    matchesPartLine (trimSpace t) parts = true ↔ EqualsPartLine t parts := by
  unfold matchesPartLine EqualsPartLine
  simp only [List.any_eq_true, Bool.and_eq_true, Bool.not_eq_true', beq_iff_eq]
  constructor
  · rintro ⟨part, hp, line, hl, hne, heq⟩
    exact ⟨part, hp, line, hl, isEmpty_false_iff.mp hne, heq⟩
  · rintro ⟨part, hp, line, hl, hne, heq⟩
    exact ⟨part, hp, line, hl, isEmpty_false_iff.mpr hne, heq⟩

/-- **paragraph_excluded_iff.** `shouldExcludeParagraph` (DOCX and ODT, same code) says yes exactly
when the paragraph is not blank and, with `ExcludeHeaders`, equals a non-blank line of a header part
or, with `ExcludeFooters`, of a footer part (comparison after `strings.TrimSpace`, case-sensitive,
whole line). -/
theorem paragraph_excluded_iff (t : Str) (hs fs : List Str) (exH exF : Bool) :
    shouldExcludeParagraph t hs fs exH exF = true ↔
      trimSpace t ≠ [] ∧ ((exH = true ∧ EqualsPartLine t hs) ∨ (exF = true ∧ EqualsPartLine t fs)) := by
  rw [shouldExcludeParagraph_eq, Bool.and_eq_true, Bool.not_eq_true', isEmpty_false_iff, Bool.or_eq_true,
    Bool.and_eq_true, Bool.and_eq_true, matchesPartLine_iff, matchesPartLine_iff]

/-- **paragraph_removed_only_if.** A removed paragraph equals a header/footer part line of a kind that
was asked to be excluded. -/
theorem paragraph_removed_only_if (t : Str) (hs fs : List Str) (exH exF : Bool)
    (h : shouldExcludeParagraph t hs fs exH exF = true) :
    (exH = true ∧ EqualsPartLine t hs) ∨ (exF = true ∧ EqualsPartLine t fs) :=
  ((paragraph_excluded_iff t hs fs exH exF).mp h).2

example : shouldExcludeParagraph [32, 65, 67, 77, 69] [[65, 67, 77, 69, 10, 80, 49]] [] true false = true := by
  decide +kernel

/-- the two flags are independent here (unlike the PDF path): `ExcludeHeaders` consults the header
parts only, `ExcludeFooters` the footer parts only -/
theorem flags_independent (t : Str) (hs fs : List Str) :
    shouldExcludeParagraph t hs fs true false = shouldExcludeParagraph t hs [] true true ∧
    shouldExcludeParagraph t hs fs false true = shouldExcludeParagraph t [] fs true true := by
  simp [shouldExcludeParagraph_eq, matchesPartLine]

/-- without a flag, or without header and footer parts, nothing is excluded -/
theorem no_flag_nothing_excluded (t : Str) (hs fs : List Str) : shouldExcludeParagraph t hs fs false false = false := by
  simp [shouldExcludeParagraph_eq]

theorem no_parts_nothing_excluded (t : Str) (exH exF : Bool) : shouldExcludeParagraph t [] [] exH exF = false := by
  simp [shouldExcludeParagraph_eq, matchesPartLine]

/-! ## the element loops -/

/-- **office_removed_only_if.** An element that is not written is a paragraph equal to a part line of a
kind that was asked to be excluded. -/
theorem office_removed_only_if (ps : Parts) (es : List Elem) (e : Elem) (he : e ∈ es) (hr : e ∉ keptElems ps es) :
    ∃ t, e = .para t ∧ ((ps.exH = true ∧ EqualsPartLine t ps.headers) ∨ (ps.exF = true ∧ EqualsPartLine t ps.footers)) := by
  cases e with
  | table t => exact absurd (List.mem_filter.mpr ⟨he, rfl⟩) hr
  | para t =>
    refine ⟨t, rfl, ?_⟩
    cases h : shouldExcludeParagraph t ps.headers ps.footers ps.exH ps.exF with
    | true => exact paragraph_removed_only_if _ _ _ _ _ h
    | false => exact absurd (List.mem_filter.mpr ⟨he, by simp [excluded, h]⟩) hr

/-- **office_only_deletes.** The elements written are a sublist of the document's elements (same order);
every table is among them, and so is every paragraph that differs from all part lines. -/
theorem office_only_deletes (ps : Parts) (es : List Elem) :
    (keptElems ps es).Sublist es ∧
    (∀ t, Elem.table t ∈ es → Elem.table t ∈ keptElems ps es) ∧
    (∀ t, Elem.para t ∈ es → ¬ EqualsPartLine t ps.headers → ¬ EqualsPartLine t ps.footers →
      Elem.para t ∈ keptElems ps es) := by
  refine ⟨List.filter_sublist, fun t ht => List.mem_filter.mpr ⟨ht, rfl⟩, fun t ht h1 h2 => ?_⟩
  -- were the paragraph not written, it would equal a part line
  refine Decidable.byContradiction fun hr => ?_
  obtain ⟨_, e, h⟩ := office_removed_only_if ps es _ ht hr
  cases e
  exact h.elim (fun h => h1 h.2) (fun h => h2 h.2)

/-- **office_identity.** Without a flag, or for a document without header and footer parts, every writer
sees all elements. -/
theorem office_identity (ps : Parts) (es : List Elem)
    (h : (ps.exH = false ∧ ps.exF = false) ∨ (ps.headers = [] ∧ ps.footers = [])) : keptElems ps es = es := by
  unfold keptElems
  apply List.filter_eq_self.mpr
  intro e _
  cases e with
  | table t => rfl
  | para t =>
    simp only [excluded, Bool.not_eq_true']
    rcases h with ⟨h1, h2⟩ | ⟨h1, h2⟩
    · rw [h1, h2]; exact no_flag_nothing_excluded _ _ _
    · rw [h1, h2]; exact no_parts_nothing_excluded _ _ _

/-- **office_text_only_blanks_lines.** `TextWithOptions` writes one piece per element, joined by line
feeds; under exclusion each piece is the piece written without exclusion or — for a removed
paragraph — empty: the removed paragraph's line stays, blank. -/
theorem office_text_only_blanks_lines (ps : Parts) (es : List Elem) :
    officeText ps es = joinNL (es.map fun e => if excluded ps e then [] else elemText { ps with exH := false, exF := false } e) := by
  unfold officeText
  congr 1
  apply List.map_congr_left
  intro e _
  cases e with
  | table t => rfl
  | para t =>
    simp only [elemText, excluded, no_flag_nothing_excluded, Bool.false_eq_true, if_false]

example : officeText ⟨[[72]], [], true, false⟩ [.para [65], .para [72], .table [84], .para [66]] =
    [65, 10, 10, 84, 10, 66] := by decide +kernel

/-- `MarkdownWithOptions` under exclusion is `MarkdownWithOptions` without exclusion of the kept
elements -/
theorem office_markdown_of_kept (ps : Parts) (es : List Elem) :
    officeMarkdown ps es = officeMarkdown { ps with exH := false, exF := false } (keptElems ps es) := by
  unfold officeMarkdown
  rw [office_identity { ps with exH := false, exF := false } (keptElems ps es) (Or.inl ⟨rfl, rfl⟩)]

/-! ## PPTX -/

/-- **pptx_block_dropped_iff.** A non-title block is left out exactly when it sits in a footer
placeholder (`ftr`, `dt`, `sldNum`) and `ExcludeFooters` is on, or in the header placeholder (`hdr`)
and `ExcludeHeaders` is on — by placeholder type alone, whatever its text. -/
theorem pptx_block_dropped_iff (exH exF : Bool) (b : Block) (hb : b.isTitle = false) :
    blockKept exH exF b = false ↔
      (exF = true ∧ b.placeholder ∈ [[102, 116, 114], [100, 116], [115, 108, 100, 78, 117, 109]]) ∨
      (exH = true ∧ b.placeholder = [104, 100, 114]) := by
  have hF : isFooterPlaceholder b.placeholder = true ↔
      b.placeholder ∈ [[102, 116, 114], [100, 116], [115, 108, 100, 78, 117, 109]] := by
    simp only [isFooterPlaceholder, Bool.or_eq_true, beq_iff_eq, List.mem_cons, List.mem_nil_iff, or_false, or_assoc]
  have hH : isHeaderPlaceholder b.placeholder = true ↔ b.placeholder = [104, 100, 114] := by
    simp only [isHeaderPlaceholder, beq_iff_eq]
  rw [← hF, ← hH, blockKept, hb, Bool.not_false, Bool.true_and, Bool.and_eq_false_iff, Bool.not_eq_false',
    Bool.not_eq_false', Bool.and_eq_true, Bool.and_eq_true]

theorem pptx_only_deletes (exH exF : Bool) (s : Slide) :
    (s.content.filter (blockKept exH exF)).Sublist (s.content.filter (blockKept false false)) :=
  -- a block that passes the three tests is not a title, and the other two tests are off without the flags
  List.filter_sublist_filter (fun b h => by
    rw [blockKept, Bool.and_eq_true, Bool.and_eq_true] at h
    rw [blockKept, h.1.1]; rfl) _

/-- a slide without header/footer placeholders is written as without exclusion -/
theorem pptx_identity (exH exF : Bool) (s : Slide)
    (h : ∀ b ∈ s.content, isFooterPlaceholder b.placeholder = false ∧ isHeaderPlaceholder b.placeholder = false) :
    slideText exH exF s = slideText false false s := by
  unfold slideText
  have : s.content.filter (blockKept exH exF) = s.content.filter (blockKept false false) := by
    apply List.filter_congr
    intro b hb
    unfold blockKept
    rw [(h b hb).1, (h b hb).2]
    simp
  rw [this]

example : pptxText false true [⟨[84], [⟨true, [116, 105, 116, 108, 101], [[84]]⟩, ⟨false, [98, 111, 100, 121], [[66]]⟩,
      ⟨false, [115, 108, 100, 78, 117, 109], [[51]]⟩], [78]⟩] =
    [84, 10, 10, 66, 10, 10, 91, 78, 111, 116, 101, 115, 58, 32, 78, 93, 10] := by decide +kernel

end Tabula.C11Office
