import TabulaModel.Props.C11
import TabulaModel.Lemmas.HFExtract
/-!
# C11 at the level of the extractor: one request

Theorems about `Model/HFExtract.lean` — what `tabula.Open(f)…<terminal>()` hands the page-level
detectors when `ExcludeHeaders` / `ExcludeFooters` / `ExcludeHeadersAndFooters` is part of the
request.  The mechanism theorems of `Props/C11.lean` are carried from `excludePage` to the public
path: which pages feed detection (`collectAllPages`: every page that can be read, whatever is
requested), when detection runs (`hfResult`), what each page loop filters (`pageInput`).

`src : Source` is the document as the reader yields it (`none` = the page cannot be read),
`o : Options` the extractor's options, `idx` the resolved page indices.  Chains of configuration
calls and call histories are in `Props/C11Chain.lean`; the witness source `exSrc` (one page unreadable) is
in `Lemmas/HFWitness.lean`.
-/
namespace Tabula.C11X
open Tabula.HF Tabula.HFX Tabula.PageSel Tabula.Builder Tabula.TextPipe Tabula.C11

/-- the same options without the two exclusion flags -/
def plain (o : Options) : Options := { o with excludeHeaders := false, excludeFooters := false }

theorem needHF_plain (o : Options) : needHF (plain o) = false := rfl

/-! ## One page of one request -/

/-- **request_only_deletes.** Whatever the options, the fragments a page loop hands its detector
for page `k` are a sublist of that page's fragments (same order, nothing new, nothing twice), and
the request without the exclusion flags gets exactly the page's fragments. -/
theorem request_only_deletes (o : Options) (src : Source) (k : Nat) (fs : List Frag)
    (h : pageInput o src k = .ok fs) :
    ∃ rp, src[k]? = some (some rp) ∧ pageInput (plain o) src k = .ok rp.frags ∧ fs.Sublist rp.frags := by
  rcases pageInput_cases o src k with ⟨rp, hrp, e⟩ | ⟨_, e⟩
  · refine ⟨rp, hrp, ?_, ?_⟩
    · rw [pageInput_readable hrp, needHF_plain]; rfl
    · rw [e] at h
      cases h
      cases needHF o
      · exact List.Sublist.refl _
      · exact exclude_sublist _ _ _
  · rw [e] at h; cases h

example : pageInput { excludeHeaders := true } exSrc 1 =
    .ok [{ text := [66, 50], x := 72, y := 400, w := 120, h := 12, fs := 12 }] := by
  simp only [pageInput, hfResult_exSrc]
  decide +kernel

/-- **request_fails_alike.** The options never decide whether a page loop fails: a page that cannot
be read is an error of every request that names it, a readable page of none. -/
theorem request_fails_alike (o o' : Options) (src : Source) (k : Nat) (e : E) :
    pageInput o src k = .error e ↔ pageInput o' src k = .error e := by
  rcases pageInput_cases o src k with ⟨rp, hrp, h⟩ | ⟨hno, h⟩
  · rw [h, pageInput_readable hrp o']; simp
  · rw [h, pageInput_unreadable hno o']

/-- **flags_one_switch.** The two flags act as one switch: a request with `ExcludeHeaders` alone, with
`ExcludeFooters` alone or with both hands every detector the same fragments (the code as it is: either
flag removes headers AND footers). -/
theorem flags_one_switch (o o' : Options) (h : needHF o = needHF o') (src : Source) (k : Nat) :
    pageInput o src k = pageInput o' src k := by
  unfold pageInput
  rw [hfResult_congr h]

/-- `ExcludeHeaders()` alone removes the running page number at the bottom of the page as well -/
theorem exclude_headers_also_removes_footers :
    pageInput { excludeHeaders := true } exSrc 0 = pageInput { excludeFooters := true } exSrc 0 ∧
    pageInput { excludeHeaders := true } exSrc 0 =
      .ok [{ text := [66, 49], x := 72, y := 400, w := 120, h := 12, fs := 12 }] := by
  simp only [pageInput, hfResult_exSrc]
  decide +kernel

/-- **no_flag_identity.** Without a flag nothing is detected and nothing filtered. -/
theorem no_flag_identity (o : Options) (h : needHF o = false) (src : Source) (k : Nat) (rp : RawPage)
    (hrp : src[k]? = some (some rp)) : pageInput o src k = .ok rp.frags := by
  rw [pageInput_readable hrp, h]; rfl

example : needHF ({ pages := [2], byColumn := true } : Options) = false := rfl

/-- **selection_irrelevant.** What happens to page `k` does not depend on which pages are requested
with it: the regions come from all readable pages of the document. -/
theorem selection_irrelevant (o : Options) (ps : List Int) (src : Source) (k : Nat) :
    pageInput { o with pages := ps } src k = pageInput o src k :=
  flags_one_switch _ _ rfl src k

/-- **detection_feeds_on_readable_pages.** With a flag set, readable page `k` is filtered exactly as
`excludePage` filters it w.r.t. the list of ALL pages of the document that can be read — each
under its own page index and height, unreadable pages skipped, the requested pages playing no role. -/
theorem detection_feeds_on_readable_pages (o : Options) (hf : needHF o = true) (src : Source) (k : Nat)
    (rp : RawPage) (hrp : src[k]? = some (some rp)) :
    pageInput o src k = .ok (excludePage defaultConfig (collectAllPages src) (pageOf k rp)) ∧
    pageOf k rp ∈ collectAllPages src ∧
    (∀ p, p ∈ collectAllPages src ↔ ∃ j rq, src[j]? = some (some rq) ∧ p = pageOf j rq) ∧
    ((collectAllPages src).map (·.index)).Nodup := by
  refine ⟨?_, mem_collectAllPages.mpr ⟨k, rp, hrp, rfl⟩, fun p => mem_collectAllPages, collectAllPages_nodup src⟩
  rw [pageInput_readable hrp, hf]; rfl

example : collectAllPages exSrc = [pageOf 0 (exRaw [66, 49] 1), pageOf 1 (exRaw [66, 50] 2), pageOf 3 (exRaw [66, 52] 4)] := rfl

/-! ## The statement of the property, for one page of one request -/

/-- **body_untouched_request.** A fragment of a word-level page outside both margin bands of its page
reaches the detector of every page-level operation, whatever was excluded (character-level pages:
`body_untouched_request_charlevel`). -/
theorem body_untouched_request (o : Options) (src : Source) (k : Nat) (rp : RawPage)
    (hrp : src[k]? = some (some rp)) (f : Frag) (hf : f ∈ rp.frags)
    (hword : isCharacterLevel rp.frags = false)
    (htop : inTop (bands defaultConfig rp.frags rp.height) f = false)
    (hbot : inBottom (bands defaultConfig rp.frags rp.height) f = false) :
    ∃ fs, pageInput o src k = .ok fs ∧ f ∈ fs := by
  refine ⟨_, pageInput_readable hrp o, ?_⟩
  split
  · exact body_untouched (detect defaultConfig (collectAllPages src)) (k : Int) rp.frags rp.height f hf
      hword (by rw [detect_cfg]; exact htop) (by rw [detect_cfg]; exact hbot)
  · exact hf

/-- **body_untouched_request_charlevel.** A glyph of a character-level page reaches the detector of
every page-level operation when every assembled line it belongs to lies outside both margin bands
(the filter measures lines there, as detection does), whatever was excluded. -/
theorem body_untouched_request_charlevel (o : Options) (src : Source) (k : Nat) (rp : RawPage)
    (hrp : src[k]? = some (some rp)) (f : Frag) (hf : f ∈ rp.frags)
    (hcl : isCharacterLevel rp.frags = true)
    (hout : ∀ g ∈ charLines rp.frags, f ∈ g → ∀ l, assembleLine g = some l →
      inTop (bands defaultConfig (assembleFragmentsIntoLines rp.frags) rp.height) l = false ∧
      inBottom (bands defaultConfig (assembleFragmentsIntoLines rp.frags) rp.height) l = false) :
    ∃ fs, pageInput o src k = .ok fs ∧ f ∈ fs := by
  refine ⟨_, pageInput_readable hrp o, ?_⟩
  split
  · exact body_untouched_charlevel (detect defaultConfig (collectAllPages src)) (k : Int) rp.frags rp.height f hf
      hcl (by rw [detect_cfg]; exact hout)
  · exact hf

/-- the body glyph `B` of the character-level page 2 of `C11.clDoc` satisfies the hypothesis -/
example : let fs := (clPage 1 true).frags
    let f : Frag := { text := [66], x := 72, y := 400, w := 6, h := 12, fs := 12 }
    isCharacterLevel fs = true ∧ f ∈ fs ∧
    (charLines fs).all (fun g => !g.contains f || (match assembleLine g with
      | some l => !inTop (bands defaultConfig (assembleFragmentsIntoLines fs) 792) l &&
                  !inBottom (bands defaultConfig (assembleFragmentsIntoLines fs) 792) l
      | none => true)) = true := by
  decide +kernel

example : let rp := exRaw [66, 49] 1
    ∃ f ∈ rp.frags, inTop (bands defaultConfig rp.frags rp.height) f = false ∧
      inBottom (bands defaultConfig rp.frags rp.height) f = false := by
  refine ⟨{ text := [66, 49], x := 72, y := 400, w := 120, h := 12, fs := 12 }, ?_, ?_, ?_⟩ <;> decide +kernel

/-- **removed_only_if_request** (word-level pages). If a request drops fragment `f` of readable page
`k`, then a flag was set, `f` lies in the top or bottom band of ITS page, and a region of that kind —
detected on at least `minOccurrences ≥ 2` of the readable pages at a consistent position and covering
page `k` — has `f`'s digit-normalised text as its pattern, or is a page-number region while `f` is a
page-number pattern. -/
theorem removed_only_if_request (o : Options) (src : Source) (k : Nat) (rp : RawPage)
    (hrp : src[k]? = some (some rp)) (hword : isCharacterLevel rp.frags = false)
    (fs : List Frag) (h : pageInput o src k = .ok fs) (f : Frag) (hf : f ∈ rp.frags) (hrem : f ∉ fs) :
    needHF o = true ∧
    ∃ kind r, r ∈ (detect defaultConfig (collectAllPages src)).regions kind ∧
      DetectedAt defaultConfig (collectAllPages src) kind r ∧ (k : Int) ∈ r.pages ∧
      inRegion kind (bands defaultConfig rp.frags rp.height) f = true ∧
      (normalize (trimSpace f.text) = r.pattern ∨
        (r.isPageNumber = true ∧ isPageNumberPattern (normalize (trimSpace f.text)) = true)) := by
  rw [pageInput_readable hrp] at h
  cases h
  split at hrem
  · next hn => exact ⟨hn, removed_only_if defaultConfig (collectAllPages src) (pageOf k rp) f hword hf hrem⟩
  · exact absurd hf hrem

/-- the running header of page 2 of `exSrc` is dropped from a word-level page -/
example : let rp := exRaw [66, 50] 2
    let f : Frag := { text := [81, 117, 97, 114, 116, 101, 114, 108, 121], x := 72, y := 738, w := 60, h := 12, fs := 12 }
    exSrc[1]? = some (some rp) ∧ isCharacterLevel rp.frags = false ∧ f ∈ rp.frags ∧
      ∃ fs, pageInput { excludeFooters := true } exSrc 1 = .ok fs ∧ f ∉ fs := by
  simp only [pageInput, hfResult_exSrc]
  refine ⟨rfl, by decide +kernel, by decide +kernel, _, rfl, by decide +kernel⟩

/-- **removed_only_if_request_charlevel** (character-level pages; full statement since the repair of
F8). If a request drops glyph fragment `f` of the character-level readable page `k`, then a flag was
set, `f` belongs to a line group of ITS page whose assembled line `l` lies in the top or bottom band
(measured on the assembled lines of the page), and a region of that kind — detected on at least
`minOccurrences ≥ 2` of the readable pages at a consistent position and covering page `k` — has the
LINE's digit-normalised text as its pattern, or is a page-number region while the line is a
page-number pattern. -/
theorem removed_only_if_request_charlevel (o : Options) (src : Source) (k : Nat) (rp : RawPage)
    (hrp : src[k]? = some (some rp)) (hcl : isCharacterLevel rp.frags = true)
    (fs : List Frag) (h : pageInput o src k = .ok fs) (f : Frag) (hf : f ∈ rp.frags) (hrem : f ∉ fs) :
    needHF o = true ∧
    ∃ g ∈ charLines rp.frags, f ∈ g ∧ ∃ l, assembleLine g = some l ∧
      ∃ kind r, r ∈ (detect defaultConfig (collectAllPages src)).regions kind ∧
        DetectedAt defaultConfig (collectAllPages src) kind r ∧ (k : Int) ∈ r.pages ∧
        inRegion kind (bands defaultConfig (assembleFragmentsIntoLines rp.frags) rp.height) l = true ∧
        (normalize (trimSpace l.text) = r.pattern ∨
          (r.isPageNumber = true ∧ isPageNumberPattern (normalize (trimSpace l.text)) = true)) := by
  rw [pageInput_readable hrp] at h
  cases h
  split at hrem
  · next hn => exact ⟨hn, removed_only_if_charlevel defaultConfig (collectAllPages src) (pageOf k rp) f hcl hf hrem⟩
  · exact absurd hf hrem

/-- the hypotheses are satisfiable: the glyph `A` of the running line "Abc" is dropped from the
character-level page 2 of a source made of the pages of `C11.clDoc` -/
example : let src : Source := clDoc.map fun p => some { height := p.height, frags := p.frags }
    let rp : RawPage := { height := 792, frags := (clPage 1 true).frags }
    let f : Frag := { text := [65], x := 72, y := 760, w := 6, h := 12, fs := 12 }
    src[1]? = some (some rp) ∧ isCharacterLevel rp.frags = true ∧ f ∈ rp.frags ∧
      ∃ fs, pageInput { excludeHeaders := true } src 1 = .ok fs ∧ f ∉ fs := by
  refine ⟨by decide +kernel, by decide +kernel, by decide +kernel, _, rfl, by decide +kernel⟩

/-- **no_repetition_request.** If no digit-normalised marginal text occurs on two readable pages, every
request returns every page unchanged. -/
theorem no_repetition_request (o : Options) (src : Source)
    (hrep : ∀ kind key, (distinctPages (groupOf (extractCandidates defaultConfig kind
      (preprocessPages (collectAllPages src))) key)).length < 2)
    (k : Nat) (rp : RawPage) (hrp : src[k]? = some (some rp)) : pageInput o src k = .ok rp.frags := by
  rw [pageInput_readable hrp, no_repetition_identity defaultConfig (collectAllPages src) hrep (pageOf k rp)]
  exact congrArg Except.ok (ite_self rp.frags)

/-- **single_readable_page_identity.** A document of which at most one page can be read comes back
unchanged from every request (1-page documents in particular). -/
theorem single_readable_page_identity (o : Options) (src : Source) (h1 : (collectAllPages src).length ≤ 1)
    (k : Nat) (rp : RawPage) (hrp : src[k]? = some (some rp)) : pageInput o src k = .ok rp.frags := by
  rw [pageInput_readable hrp, single_page_identity defaultConfig (collectAllPages src) h1 (pageOf k rp)]
  exact congrArg Except.ok (ite_self rp.frags)

theorem one_page_document_identity (o : Options) (rp : RawPage) :
    pageInput o [some rp] 0 = .ok rp.frags :=
  single_readable_page_identity o [some rp] (by simp [collectAllPages, collectFrom]) 0 rp rfl

example : (collectAllPages [none, some (exRaw [66] 1), none]).length ≤ 1 := by decide

/-- **repeated_removed_from_every_request** (liveness). Let at least two pages be readable, all of them
word-level, and let every readable page carry in its top (resp. bottom) band a fragment with
digit-normalised text `key` — the same line, or a running page number — such fragments sitting at one
position `(x0, d0)` only. If `key` is longer than two bytes or a page-number pattern, then EVERY
request with a flag set, for EVERY readable page, drops every such fragment — whichever pages were
requested with it. (That the page indices are distinct is no hypothesis here: `collectAllPages`
guarantees it.) -/
theorem repeated_removed_from_every_request (src : Source) (kind : Kind) (key : HF.Str) (x0 d0 : Rat)
    (hn : 2 ≤ (collectAllPages src).length)
    (hword : ∀ (j : Nat) (rq : RawPage), src[j]? = some (some rq) → isCharacterLevel rq.frags = false)
    (hkey : 2 < key.length ∨ isPageNumberPattern key = true)
    (hpresent : ∀ (j : Nat) (rq : RawPage), src[j]? = some (some rq) → ∃ f ∈ rq.frags,
      inRegion kind (bands defaultConfig rq.frags rq.height) f = true ∧ normalize (trimSpace f.text) = key)
    (hpos : ∀ (j : Nat) (rq : RawPage), src[j]? = some (some rq) → ∀ f ∈ rq.frags,
      inRegion kind (bands defaultConfig rq.frags rq.height) f = true → normalize (trimSpace f.text) = key →
      f.x = x0 ∧ regionDist kind (bands defaultConfig rq.frags rq.height) f = d0)
    (o : Options) (hf : needHF o = true) (k : Nat) (rp : RawPage) (hrp : src[k]? = some (some rp))
    (fs : List Frag) (h : pageInput o src k = .ok fs) :
    ∀ f ∈ rp.frags, inRegion kind (bands defaultConfig rp.frags rp.height) f = true →
      normalize (trimSpace f.text) = key → f ∉ fs := by
  rw [pageInput_readable hrp, hf] at h
  cases h
  have hall : ∀ p ∈ collectAllPages src, ∃ j rq, src[j]? = some (some rq) ∧ p = pageOf j rq :=
    fun p hp => mem_collectAllPages.mp hp
  have := repeated_removed_everywhere_default (collectAllPages src) kind key x0 d0 hn
    (collectAllPages_nodup src)
    (by intro p hp; obtain ⟨j, rq, hj, e⟩ := hall p hp; rw [e]; exact hword j rq hj)
    hkey
    (by intro p hp; obtain ⟨j, rq, hj, e⟩ := hall p hp; rw [e]; exact hpresent j rq hj)
    (by intro p hp; obtain ⟨j, rq, hj, e⟩ := hall p hp; rw [e]; exact hpos j rq hj)
  exact this (pageOf k rp) (mem_collectAllPages.mpr ⟨k, rp, hrp, rfl⟩)

/-- the hypotheses are satisfiable: `exSrc` (one page unreadable) with its running header … -/
example : 2 ≤ (collectAllPages exSrc).length ∧
    (∀ p ∈ collectAllPages exSrc, isCharacterLevel p.frags = false) ∧
    (∀ p ∈ collectAllPages exSrc, ∃ f ∈ p.frags, inRegion .header (bands defaultConfig p.frags p.height) f = true ∧
      normalize (trimSpace f.text) = [81, 117, 97, 114, 116, 101, 114, 108, 121]) ∧
    (∀ p ∈ collectAllPages exSrc, ∀ f ∈ p.frags, inRegion .header (bands defaultConfig p.frags p.height) f = true →
      normalize (trimSpace f.text) = [81, 117, 97, 114, 116, 101, 114, 108, 121] →
      f.x = 72 ∧ regionDist .header (bands defaultConfig p.frags p.height) f = 42) := by
  decide +kernel

/-- … and what the requests for its readable pages hand on: the body line of each page -/
example : [0, 1, 3].map (fun k => pageInput { excludeHeaders := true, pages := [2] } exSrc k) =
    [.ok [{ text := [66, 49], x := 72, y := 400, w := 120, h := 12, fs := 12 }],
     .ok [{ text := [66, 50], x := 72, y := 400, w := 120, h := 12, fs := 12 }],
     .ok [{ text := [66, 52], x := 72, y := 400, w := 120, h := 12, fs := 12 }]] := by
  simp only [pageInput, hfResult_exSrc]
  decide +kernel

/-! ## The pages of one request -/

/-- **inputs_pagewise.** A request answers page by page: its result for the resolved pages `idx` is
the list of the per-page results, in that order (when it fails: `inputs_error`). -/
theorem inputs_pagewise (o : Options) (src : Source) (idx : List Nat) (rs : List (List Frag)) :
    inputsOf o src idx = .ok rs ↔ Pointwise (fun k fs => pageInput o src k = .ok fs) idx rs :=
  collect_eq_ok

theorem inputs_error (o : Options) (src : Source) (idx : List Nat) (e : E)
    (h : inputsOf o src idx = .error e) : ∃ k ∈ idx, ∀ rp, src[k]? ≠ some (some rp) := by
  obtain ⟨k, hk, he⟩ := collect_eq_error h
  refine ⟨k, hk, ?_⟩
  rcases pageInput_cases o src k with ⟨rp, _, e'⟩ | ⟨hno, _⟩
  · rw [e'] at he; cases he
  · exact hno

/-- **request_pages_only_delete.** "The result is the unfiltered result minus some fragments, in the
same order": if a request succeeds then the same request without the flags succeeds, on the same
pages, and page by page the former's fragments are a sublist of the latter's, which are the pages'
own fragments. -/
theorem request_pages_only_delete (o : Options) (src : Source) (idx : List Nat) (rs : List (List Frag))
    (h : inputsOf o src idx = .ok rs) :
    ∃ us, inputsOf (plain o) src idx = .ok us ∧ Pointwise (fun r u => r.Sublist u) rs us ∧
      Pointwise (fun k u => ∃ rp, src[k]? = some (some rp) ∧ u = rp.frags) idx us := by
  have hp := (inputs_pagewise o src idx rs).mp h
  clear h
  induction hp with
  | nil => exact ⟨[], rfl, .nil, .nil⟩
  | @cons k fs ks rs' h1 _ ih =>
    obtain ⟨us, hus, hsub, hown⟩ := ih
    obtain ⟨rp, hrp, hpl, hs⟩ := request_only_deletes o src k fs h1
    refine ⟨rp.frags :: us, ?_, .cons hs hsub, .cons ⟨rp, hrp, rfl⟩ hown⟩
    have := (inputs_pagewise (plain o) src ks us).mp hus
    exact (inputs_pagewise (plain o) src (k :: ks) (rp.frags :: us)).mpr (.cons hpl this)

/-- and the other way round: the flags never make a failing request succeed -/
theorem request_fails_with_or_without_flags (o o' : Options) (src : Source) (idx : List Nat) (e : E) :
    inputsOf o src idx = .error e ↔ inputsOf o' src idx = .error e := by
  unfold inputsOf
  -- the first failing page and the readable pages before it are the same under all options
  rw [collect_eq_error_iff, collect_eq_error_iff]
  refine exists_congr fun a => exists_congr fun k => exists_congr fun b => and_congr_right fun _ =>
    and_congr (forall_congr' fun j => imp_congr_right fun _ => ?_) (request_fails_alike o o' src k e)
  rw [pageInput_isOk_iff, pageInput_isOk_iff]

example : inputsOf { excludeHeaders := true } exSrc [0, 2] = .error .page ∧
    inputsOf {} exSrc [0, 2] = .error .page := by decide +kernel

/-- **subset_as_whole_document.** "All page subsets requested together with exclusion": when the whole
document can be read, the answer for any list of pages is read off the answer for the whole
document, page by page. -/
theorem subset_as_whole_document (o : Options) (src : Source) (ws : List (List Frag))
    (hw : inputsOf o src (List.range src.length) = .ok ws) (idx : List Nat) (hidx : ∀ k ∈ idx, k < src.length) :
    inputsOf o src idx = .ok (idx.filterMap fun k => ws[k]?) := by
  have hp := (inputs_pagewise o src _ ws).mp hw
  have hget : ∀ k, k < src.length → ∃ fs, ws[k]? = some fs ∧ pageInput o src k = .ok fs := by
    intro k hk
    have hlen := hp.length_eq
    simp only [List.length_range] at hlen
    have hk' : k < ws.length := by omega
    refine ⟨ws[k], List.getElem?_eq_getElem hk', ?_⟩
    exact hp.get k k ws[k] (by simp [hk]) (List.getElem?_eq_getElem hk')
  unfold inputsOf
  induction idx with
  | nil => rfl
  | cons k ks ih =>
    obtain ⟨fs, hfs, hpi⟩ := hget k (hidx k (by simp))
    have := ih (fun j hj => hidx j (by simp [hj]))
    simp only [collect, hpi, this, List.filterMap_cons, hfs]

example : inputsOf { excludeHeaders := true } (exSrc.eraseIdx 2) [2, 0] =
    .ok ([2, 0].filterMap fun k =>
      ((inputsOf { excludeHeaders := true } (exSrc.eraseIdx 2) (List.range 3)).toOption.getD [])[k]?) := by
  decide +kernel

/-! ## Deleting first, extracting afterwards -/

theorem pageInput_filteredSource (o : Options) (hf : needHF o = true) (src : Source) (k : Nat) :
    pageInput o src k = pageInput (plain o) (filteredSource src) k := by
  unfold pageInput
  -- detection runs on `src` under either flag, and not at all on the filtered source
  rw [readPage_filteredSource, hfResult_congr (hf.trans needHF_exclOn.symm), hfResult_off (needHF_plain o)]
  cases readPage src k <;> rfl

/-- **exclusion_is_deletion_then_extraction.** For every page-level layout operation (any detector
`det`), any options with a flag set and any pages: running the operation with exclusion on the
document equals running it WITHOUT exclusion on the document whose pages carry only the fragments
exclusion keeps (`filteredSource`, each page a sublist of the original page). Exclusion does
nothing but delete fragments before the operation starts. -/
theorem exclusion_is_deletion_then_extraction {α : Type} (det : Nat → List Frag → List α) (o : Options)
    (hf : needHF o = true) (src : Source) (idx : List Nat) :
    layoutOf det o src idx = layoutOf det (plain o) (filteredSource src) idx ∧
    inputsOf o src idx = inputsOf (plain o) (filteredSource src) idx := by
  constructor
  · unfold layoutOf
    simp only [pageInput_filteredSource o hf src]
  · unfold inputsOf
    exact collect_congr _ _ idx fun k _ => pageInput_filteredSource o hf src k

/-- every page of the filtered document is a sublist of the page it came from; unreadable pages stay
unreadable -/
theorem filteredSource_pages (src : Source) (k : Nat) :
    (src[k]? = none → (filteredSource src)[k]? = none) ∧
    (src[k]? = some none → (filteredSource src)[k]? = some none) ∧
    (∀ rp, src[k]? = some (some rp) → ∃ rq, (filteredSource src)[k]? = some (some rq) ∧
      rq.height = rp.height ∧ rq.frags.Sublist rp.frags) := by
  rw [filteredSource_getElem?]
  refine ⟨fun h => by rw [h]; rfl, fun h => by rw [h]; rfl, fun rp h => ?_⟩
  rw [h]
  refine ⟨_, rfl, rfl, ?_⟩
  unfold filterWith
  split
  · exact List.Sublist.refl _
  · exact filter_sublist _ _ _ _

example : filteredSource exSrc = [some { (exRaw [66, 49] 1) with frags := [{ text := [66, 49], x := 72, y := 400, w := 120, h := 12, fs := 12 }] },
    some { (exRaw [66, 50] 2) with frags := [{ text := [66, 50], x := 72, y := 400, w := 120, h := 12, fs := 12 }] }, none,
    some { (exRaw [66, 52] 4) with frags := [{ text := [66, 52], x := 72, y := 400, w := 120, h := 12, fs := 12 }] }] := by
  simp only [filteredSource, hfResult_exSrc]
  decide +kernel

/-! ## Document(), Analyze(), Fragments() -/

theorem zip_counts {rs us : List (List Frag)} (idx : List Nat) (h : Pointwise (fun r u => r.Sublist u) rs us) :
    Pointwise (fun (c u : Nat × Nat) => c.1 = u.1 ∧ c.2 ≤ u.2)
      ((idx.zip rs).map fun p => (p.1 + 1, p.2.length)) ((idx.zip us).map fun p => (p.1 + 1, p.2.length)) := by
  induction h generalizing idx with
  | nil => cases idx <;> exact .nil
  | cons h1 _ ih =>
    cases idx with
    | nil => exact .nil
    | cons k ks =>
      simp only [List.zip_cons_cons, List.map_cons]
      exact .cons ⟨rfl, h1.length_le⟩ (ih ks)

/-- **document_counts_bounded.** `Document()` with exclusion reports, page by page, the page number of
the unfiltered request and a fragment count that is at most the unfiltered one. -/
theorem document_counts_bounded (o : Options) (src : Source) (idx : List Nat) (cs : List (Nat × Nat))
    (h : documentCounts o src idx = .ok cs) :
    ∃ us, documentCounts (plain o) src idx = .ok us ∧
      Pointwise (fun c u => c.1 = u.1 ∧ c.2 ≤ u.2) cs us := by
  unfold documentCounts at h ⊢
  cases hi : idx.isEmpty with
  | true => rw [hi] at h; simp at h
  | false =>
    rw [hi] at h
    simp only [Bool.false_eq_true, if_false] at h ⊢
    cases hin : inputsOf o src idx with
    | error e => rw [hin] at h; cases h
    | ok rs =>
      rw [hin] at h
      cases h
      obtain ⟨us, hus, hsub, _⟩ := request_pages_only_delete o src idx rs hin
      rw [hus]
      refine ⟨_, rfl, ?_⟩
      exact zip_counts idx hsub

example : documentCounts { excludeFooters := true, pages := [1, 4] } exSrc [0, 3] = .ok [(1, 1), (4, 1)] ∧
    documentCounts { pages := [1, 4] } exSrc [0, 3] = .ok [(1, 3), (4, 3)] := by
  unfold documentCounts inputsOf pageInput
  simp only [hfResult_exSrc]
  decide +kernel

/-- **fragments_never_filtered.** `Fragments()` does not consult the flags: `Open(f).ExcludeHeaders()
.Fragments()` returns the unfiltered fragments (the model follows the code; the statement's "can only
delete" holds trivially, its liveness clause is not claimed for this operation). -/
theorem fragments_never_filtered (src : Source) (idx : List Nat) :
    fragmentsOp src idx = layoutOf (fun _ fs => fs) {} src idx := by
  unfold fragmentsOp layoutOf
  have : ∀ k, (readPage src k).map (·.frags) = (pageInput {} src k).map (fun fs => fs) := by
    intro k
    unfold pageInput
    rw [hfResult_off rfl]
    cases readPage src k <;> rfl
  simp only [this]

/-! ## `layout.(*Analyzer).AnalyzeWithHeaderFooterFiltering` -/

/-- **analyzeWithHF_only_deletes.** Whatever the `PageIndex` fields say, the fragments analysed are a
sublist of the target page's fragments. -/
theorem analyzeWithHF_only_deletes (pages : List Page) (i : Int) (fs : List Frag)
    (h : analyzeWithHFInput pages i = some fs) :
    ∃ p, pages[i.toNat]? = some p ∧ 0 ≤ i ∧ fs.Sublist p.frags := by
  unfold analyzeWithHFInput at h
  split at h
  · cases h
  · rename_i hc
    cases hp : pages[i.toNat]? with
    | none => rw [hp] at h; cases h
    | some p =>
      rw [hp] at h
      cases h
      refine ⟨p, rfl, ?_, filter_sublist _ _ _ _⟩
      simp only [Bool.or_eq_true, decide_eq_true_eq, not_or, Int.not_lt] at hc
      exact hc.1.2

/-- **analyzeWithHF_positional.** When every page's `PageIndex` is its position (what the extractor
and the package's own test pass), the wrapper analyses exactly `excludePage` of the target page. -/
theorem analyzeWithHF_positional (pages : List Page)
    (hpos : ∀ (j : Nat) (p : Page), pages[j]? = some p → p.index = (j : Int))
    (j : Nat) (p : Page) (hp : pages[j]? = some p) :
    analyzeWithHFInput pages (j : Int) = some (excludePage defaultConfig pages p) :=
  analyzeWithHFInput_of_index hp (hpos j p hp)

/-- **analyzeWithHF_index_mismatch_counterexample.** The target page is found by position while the
filter is asked about page NUMBER `pageIndex`: on `exDoc` renumbered from 1 (`PageIndex` 1, 2, 3 at
positions 0, 1, 2) the first page keeps its running header and page number — `excludePage` with the
page's own index removes them. A caller must pass `PageIndex = position`. -/
theorem analyzeWithHF_index_mismatch_counterexample :
    let doc := exDoc.map fun p => { p with index := p.index + 1 }
    (doc[0]?.map fun p => excludePage defaultConfig doc p) =
        some [{ text := [66, 111, 100, 121, 32, 111, 110, 101], x := 72, y := 400, w := 120, h := 12, fs := 12 }] ∧
      analyzeWithHFInput doc 0 = doc[0]?.map (·.frags) := by
  decide +kernel

end Tabula.C11X
