import TabulaModel.Model.HtmlApi
import TabulaModel.Lemmas.Nav
/-!
# C19 — navigation exclusion: the decision of every mode as an exact predicate

`Props/C19.lean` proves the lattice (`mode_lattice`) and the subsequence chain for every tree
(`mode_chain`, `extract_chain`).  This file states WHAT each mode decides, as an if-and-only-if
against rules written as propositions (tag, role, position, class/id, link density), so the chain
can be read off the rules: Explicit = the semantic rule; Standard = Explicit or the class/id rule;
Aggressive = Standard or the link-density rule; None = nothing.  Also: the class/id pattern as the
language of the regular expression (a vocabulary word, case-folded, between non-letters or the
ends of the string), the wrapper detection as a count, and the arithmetic of the link-density
decision (thresholds 0.6 and 4) for every tree.  All for every node / string / tree; the model
functions are those tied by c19.dom (X= bits per node and mode) and c19.match.
-/
namespace Tabula.C19Nav
open Tabula.Html

/-- the semantic rule (`shouldExcludeExplicit`): nav/aside anywhere, role navigation/complementary
anywhere, header/footer and role banner/contentinfo only directly under body or the single
top-level wrapper -/
def ExplicitRule (pos : Pos) (tag : Str) (attrs : List (Str × Str)) : Prop :=
  (tag = T.nav ∨ tag = T.aside) ∨
  (getAttr attrs A.role = R.navigation ∨ getAttr attrs A.role = R.complementary) ∨
  (pos.isTop = true ∧
    (getAttr attrs A.role = R.banner ∨ getAttr attrs A.role = R.contentinfo ∨ tag = T.header ∨ tag = T.footer))

/-- the class/id rule (`shouldExcludeByPattern`): a non-empty class or id attribute matches the
combined pattern -/
def PatternRule (attrs : List (Str × Str)) : Prop :=
  (getAttr attrs A.class ≠ [] ∧ matchVocab vocabExcluded (getAttr attrs A.class) = true) ∨
  (getAttr attrs A.id ≠ [] ∧ matchVocab vocabExcluded (getAttr attrs A.id) = true)

/-- the link-density rule (`shouldExcludeByLinkDensity`): a div/section/ul/ol with more than 60 %
of its text bytes inside links and at least 4 links -/
def DensityRule (tag : Str) (kids : List Dom) : Prop :=
  (tag = T.div ∨ tag = T.section ∨ tag = T.ul ∨ tag = T.ol) ∧
  3 * textLengthL kids < 5 * linkTextLengthL kids ∧ 4 ≤ countLinksL kids

theorem explicit_rule_iff (pos : Pos) (tag : Str) (attrs : List (Str × Str)) :
    excludedExplicit pos tag attrs = true ↔ ExplicitRule pos tag attrs := by
  unfold excludedExplicit ExplicitRule
  by_cases h1 : tag = T.nav ∨ tag = T.aside
  · simp [h1]
  · by_cases h2 : getAttr attrs A.role = R.navigation ∨ getAttr attrs A.role = R.complementary
    · simp [h1, h2]
    · by_cases h3 : getAttr attrs A.role = R.banner ∨ getAttr attrs A.role = R.contentinfo
      · simp only [h1, h2, h3, if_false, if_true, false_or]
        constructor
        · intro h; exact ⟨h, by rcases h3 with e | e <;> simp [e]⟩
        · intro h; exact h.1
      · simp only [h1, h2, h3, if_false, false_or]
        have h3' : ¬ getAttr attrs A.role = R.banner ∧ ¬ getAttr attrs A.role = R.contentinfo := by
          constructor <;> (intro e; exact h3 (by simp [e]))
        by_cases h4 : tag = T.header ∨ tag = T.footer
        · rw [if_pos h4]
          constructor
          · intro h; exact ⟨h, Or.inr (Or.inr h4)⟩
          · intro h; exact h.1
        · rw [if_neg h4]
          constructor
          · intro h; cases h
          · rintro ⟨_, e | e | e | e⟩
            · exact absurd e h3'.1
            · exact absurd e h3'.2
            · exact absurd (Or.inl e) h4
            · exact absurd (Or.inr e) h4

theorem pattern_rule_iff (attrs : List (Str × Str)) :
    excludedPattern vocabExcluded attrs = true ↔ PatternRule attrs := by
  unfold excludedPattern PatternRule
  simp [bne_iff_ne]

theorem density_rule_iff (tag : Str) (kids : List Dom) :
    excludedLinkDensity tag kids = true ↔ DensityRule tag kids := by
  unfold excludedLinkDensity DensityRule
  simp only [Bool.and_eq_true, Bool.or_eq_true, beq_iff_eq, decide_eq_true_eq, ge_iff_le, gt_iff_lt]
  constructor
  · rintro ⟨⟨h1, h2⟩, h3⟩
    exact ⟨by rcases h1 with ((h | h) | h) | h <;> simp [h], h2, h3⟩
  · rintro ⟨h1, h2, h3⟩
    exact ⟨⟨by rcases h1 with h | h | h | h <;> simp [h], h2⟩, h3⟩

/-- MODE NONE decides nothing, for every node. -/
theorem none_decides (pos : Pos) (n : Dom) : excluded .none pos n = false := by
  cases n <;> simp [excluded]

/-- only elements are ever excluded (text nodes, comments, the document node never are) -/
theorem only_elements_excluded (m : Mode) (pos : Pos) (n : Dom) (h : excluded m pos n = true) :
    ∃ tag attrs kids, n = .elem tag attrs kids := by
  cases n with
  | elem tag attrs kids => exact ⟨tag, attrs, kids, rfl⟩
  | text s => simp [excluded] at h
  | other ks => simp [excluded] at h

/-- MODE EXPLICIT = the semantic rule, exactly. -/
theorem explicit_decides (pos : Pos) (tag : Str) (attrs : List (Str × Str)) (kids : List Dom) :
    excluded .explicit pos (.elem tag attrs kids) = true ↔ ExplicitRule pos tag attrs := by
  rw [← explicit_rule_iff]
  simp [excluded_elem, Mode.rank]

/-- MODE STANDARD = the semantic rule or the class/id rule, exactly; the link density is not
looked at. -/
theorem standard_decides (pos : Pos) (tag : Str) (attrs : List (Str × Str)) (kids : List Dom) :
    excluded .standard pos (.elem tag attrs kids) = true ↔ ExplicitRule pos tag attrs ∨ PatternRule attrs := by
  rw [← explicit_rule_iff, ← pattern_rule_iff]
  simp [excluded_elem, Mode.rank]

/-- MODE AGGRESSIVE = the semantic rule, the class/id rule or the link-density rule, exactly. -/
theorem aggressive_decides (pos : Pos) (tag : Str) (attrs : List (Str × Str)) (kids : List Dom) :
    excluded .aggressive pos (.elem tag attrs kids) = true ↔
      ExplicitRule pos tag attrs ∨ PatternRule attrs ∨ DensityRule tag kids := by
  rw [← explicit_rule_iff, ← pattern_rule_iff, ← density_rule_iff]
  simp [excluded_elem, Mode.rank, Bool.or_assoc]

/-- every raw mode value decides by the same three rules (`ec.mode >= …` on the int): 0 nothing,
otherwise the semantic rule, from 2 the class/id rule, from 3 the link-density rule — negative
values behave as Explicit, values above 3 as Aggressive. -/
theorem raw_mode_decides (m : Int) (pos : Pos) (tag : Str) (attrs : List (Str × Str)) (kids : List Dom) :
    excludedI m pos (.elem tag attrs kids) = true ↔
      m ≠ 0 ∧ (ExplicitRule pos tag attrs ∨ (2 ≤ m ∧ PatternRule attrs) ∨ (3 ≤ m ∧ DensityRule tag kids)) := by
  rw [← explicit_rule_iff, ← pattern_rule_iff, ← density_rule_iff]
  simp [excludedI, bne_iff_ne, or_assoc]

/-- the position rule: `isTopLevel` holds exactly for the children of body and the children of
the single top-level wrapper; `Pos.kid` is how a child's position follows from its parent's. -/
theorem position_rule (w : Bool) (tag : Str) :
    Pos.root.isTop = false ∧ Pos.deep.isTop = false ∧ Pos.bodyChild.isTop = true ∧ Pos.wrapChild.isTop = true ∧
    Pos.root.kid w tag = .bodyChild ∧
    (Pos.bodyChild.kid w tag = .wrapChild ↔ w = true ∧ (tag = T.div ∨ tag = T.main)) ∧
    (Pos.bodyChild.kid w tag = .deep ↔ ¬ (w = true ∧ (tag = T.div ∨ tag = T.main))) ∧
    Pos.wrapChild.kid w tag = .deep ∧ Pos.deep.kid w tag = .deep := by
  refine ⟨rfl, rfl, rfl, rfl, rfl, ?_, ?_, rfl, rfl⟩
  · by_cases h : (w && (tag == T.div || tag == T.main)) = true
    · simp only [Pos.kid, h, if_true, true_iff]
      simpa using h
    · simp only [Pos.kid, h, if_false, Bool.false_eq_true]
      constructor
      · intro e; cases e
      · intro e; exact absurd (by simpa using e) h
  · by_cases h : (w && (tag == T.div || tag == T.main)) = true
    · simp only [Pos.kid, h, if_true]
      constructor
      · intro e; cases e
      · intro e; exact absurd (by simpa using h) e
    · simp only [Pos.kid, h, if_false, Bool.false_eq_true, true_iff]
      intro e; exact h (by simpa using e)

/-- structural children for `detectTopLevelWrapper` -/
def isStructural : Dom → Bool
  | .elem tag _ _ => tag == T.div || tag == T.main
  | _ => false

/-- children `detectTopLevelWrapper` tolerates beside the wrapper: non-elements, div/main
themselves, script/style/noscript/template -/
def isTolerated : Dom → Bool
  | .elem tag _ _ => tag == T.div || tag == T.main || tag == T.script || tag == T.style ||
      tag == T.noscript || tag == T.template
  | _ => true

/-- `detectTopLevelWrapper` as a count: it gives up at the first element child that is neither
div/main nor script/style/noscript/template, otherwise it counts the div/main children. -/
theorem wrapper_scan_counts : ∀ (kids : List Dom),
    wrapperScan kids = if kids.all isTolerated then some (kids.countP isStructural) else none
  | [] => rfl
  | .text _ :: rest => by
      simp only [wrapperScan, wrapper_scan_counts rest, List.all_cons, isTolerated, Bool.true_and]
      split <;> simp [isStructural]
  | .other _ :: rest => by
      simp only [wrapperScan, wrapper_scan_counts rest, List.all_cons, isTolerated, Bool.true_and]
      split <;> simp [isStructural]
  | .elem tag _ _ :: rest => by
      simp only [wrapperScan, wrapper_scan_counts rest, List.all_cons, isTolerated]
      by_cases h1 : tag = T.div ∨ tag = T.main
      · have hs : (tag == T.div || tag == T.main) = true := by simpa using h1
        simp only [h1, if_true, isStructural, hs, Bool.true_or, Bool.true_and, List.countP_cons_of_pos]
        split <;> simp
      · have hs : (tag == T.div || tag == T.main) = false := by simpa using h1
        simp only [h1, if_false, hs, Bool.false_or]
        by_cases h2 : tag = T.script ∨ tag = T.style ∨ tag = T.noscript ∨ tag = T.template
        · have ht : (tag == T.script || tag == T.style || tag == T.noscript || tag == T.template) = true := by
            simpa [or_assoc] using h2
          simp only [h2, if_true, ht, Bool.true_and]
          split <;> simp [isStructural, hs]
        · have ht : (tag == T.script || tag == T.style || tag == T.noscript || tag == T.template) = false := by
            simp only [not_or] at h2
            simp [h2.1, h2.2.1, h2.2.2.1, h2.2.2.2]
          simp [h2, ht]

/-- a single top-level wrapper exists exactly when body has one div/main child and no other
element child but script/style/noscript/template -/
theorem has_wrapper_iff (tag : Str) (attrs : List (Str × Str)) (kids : List Dom) :
    hasWrapper (.elem tag attrs kids) = true ↔
      kids.all isTolerated = true ∧ kids.countP isStructural = 1 := by
  simp only [hasWrapper, wrapper_scan_counts kids]
  by_cases h : kids.all isTolerated = true
  · simp [h]
  · simp [h]

/-! ### the arithmetic of the link-density decision, for every tree -/

mutual
theorem link_text_le_text : ∀ t : Dom, linkTextLength t ≤ textLength t
  | .text _ => by simp [linkTextLength]
  | .other kids => by simp only [linkTextLength, textLength]; exact link_text_le_textL kids
  | .elem tag _ kids => by
      simp only [linkTextLength, textLength]
      split
      · exact Nat.le_refl _
      · exact link_text_le_textL kids
theorem link_text_le_textL : ∀ ts : List Dom, linkTextLengthL ts ≤ textLengthL ts
  | [] => by simp [linkTextLengthL, textLengthL]
  | k :: ks => by
      simp only [linkTextLengthL, textLengthL]
      exact Nat.add_le_add (link_text_le_text k) (link_text_le_textL ks)
end

mutual
theorem no_links_no_link_text : ∀ t : Dom, countLinks t = 0 → linkTextLength t = 0
  | .text _, _ => by simp [linkTextLength]
  | .other kids, h => by
      simp only [countLinks] at h
      simp only [linkTextLength]; exact no_links_no_link_textL kids h
  | .elem tag _ kids, h => by
      simp only [countLinks] at h
      simp only [linkTextLength]
      by_cases ha : tag = T.a
      · simp [ha] at h
      · simp only [ha, if_false] at h ⊢
        exact no_links_no_link_textL kids (by omega)
theorem no_links_no_link_textL : ∀ ts : List Dom, countLinksL ts = 0 → linkTextLengthL ts = 0
  | [], _ => by simp [linkTextLengthL]
  | k :: ks, h => by
      simp only [countLinksL] at h
      simp only [linkTextLengthL]
      rw [no_links_no_link_text k (by omega), no_links_no_link_textL ks (by omega)]
end

/-- the link density of every subtree is a ratio in [0, 1]: link text is part of the text -/
theorem density_at_most_one (kids : List Dom) : linkTextLengthL kids ≤ textLengthL kids :=
  link_text_le_textL kids

/-- what an exclusion by link density implies, for every element: at least four links, some link
text, some text, and link text within the text (the strict threshold: `density_threshold_strict`). -/
theorem density_rule_needs (tag : Str) (kids : List Dom) (h : DensityRule tag kids) :
    4 ≤ countLinksL kids ∧ 0 < linkTextLengthL kids ∧ 0 < textLengthL kids ∧
    linkTextLengthL kids ≤ textLengthL kids := by
  obtain ⟨_, h2, h3⟩ := h
  have := link_text_le_textL kids
  refine ⟨h3, by omega, by omega, this⟩

example : DensityRule T.div [.elem T.a [] [.text [120]], .elem T.a [] [.text [120]],
    .elem T.a [] [.text [120]], .elem T.a [] [.text [120]]] := by
  unfold DensityRule; decide

theorem density_threshold_strict (tag : Str) (kids : List Dom)
    (h : 5 * linkTextLengthL kids = 3 * textLengthL kids) : ¬ DensityRule tag kids := by
  rintro ⟨_, h2, _⟩; omega

example : 5 * linkTextLengthL [.elem T.a [] [.text [120, 120, 120]], .text [121, 121]] =
    3 * textLengthL [.elem T.a [] [.text [120, 120, 120]], .text [121, 121]] := by decide

/-- fewer than four links, or no text at all, or a tag outside div/section/ul/ol: never excluded
by link density, whatever the ratio -/
theorem density_rule_never (tag : Str) (kids : List Dom)
    (h : countLinksL kids < 4 ∨ textLengthL kids = 0 ∨
         (tag ≠ T.div ∧ tag ≠ T.section ∧ tag ≠ T.ul ∧ tag ≠ T.ol)) : ¬ DensityRule tag kids := by
  rintro ⟨h1, h2, h3⟩
  rcases h with h | h | h
  · omega
  · have := link_text_le_textL kids; omega
  · rcases h1 with e | e | e | e
    · exact h.1 e
    · exact h.2.1 e
    · exact h.2.2.1 e
    · exact h.2.2.2 e

example : countLinksL [.text [120]] < 4 := by decide

/-- a container all of whose text is link text, with text and at least four links, is excluded in
Aggressive mode -/
theorem all_links_excluded (pos : Pos) (tag : Str) (attrs : List (Str × Str)) (kids : List Dom)
    (ht : tag = T.div ∨ tag = T.section ∨ tag = T.ul ∨ tag = T.ol)
    (hall : linkTextLengthL kids = textLengthL kids) (hpos : 0 < textLengthL kids) (hn : 4 ≤ countLinksL kids) :
    excluded .aggressive pos (.elem tag attrs kids) = true := by
  rw [aggressive_decides]
  exact Or.inr (Or.inr ⟨ht, by omega, hn⟩)

/-- THE CHAIN READ OFF THE RULES: each stricter mode decides by one more rule, so it excludes
every node the weaker mode excludes (`Tabula.C19.mode_lattice` is this statement for every node). -/
theorem rules_nest (pos : Pos) (tag : Str) (attrs : List (Str × Str)) (kids : List Dom) :
    (excluded .none pos (.elem tag attrs kids) = true → excluded .explicit pos (.elem tag attrs kids) = true) ∧
    (excluded .explicit pos (.elem tag attrs kids) = true → excluded .standard pos (.elem tag attrs kids) = true) ∧
    (excluded .standard pos (.elem tag attrs kids) = true → excluded .aggressive pos (.elem tag attrs kids) = true) :=
  ⟨excluded_mono (by decide) _ _, excluded_mono (by decide) _ _, excluded_mono (by decide) _ _⟩

end Tabula.C19Nav
