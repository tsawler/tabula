import TabulaModel.Lemmas.HtmlGrid
import TabulaModel.Lemmas.HtmlApi
import TabulaModel.Lemmas.HtmlText
/-!
# C19 — tables after fix 72cc329 (colspan / rowspan)

Fix 72cc329 (finding C15/table-shape-merged-html, repaired for C15) changed three things the C19
model covers:

* `parseTable` keeps a row without cells when a rowspan from above reaches it
  (`dropEmptyRows`; before: every row without cells was dropped, `dropEmptyRowsOld`);
* `(*ParsedTable).ToMarkdown` writes the table's grid (`tableGrid`; before: the rows as they
  are, `tableToMarkdownOld`);
* `DocumentWithOptions` copies the model table from the same grid (before: cells by their
  index in the row, `padRow`).

This file says what that means for content: nothing but rows without cells is ever dropped, every
cell is still returned, exactly once and in order, in all three views; for tables without spans
nothing changed.  (The grid itself — rectangular, cells at the first column not covered from
above — is Lemmas/HtmlGrid.lean and Props/C15Html.lean.)
-/
namespace Tabula.C19Table
open Tabula.Html

/-! ## `parseTable`: rows -/

/-- the rows `parseTable` returns are rows of the table, in order; the ones left out have no cell -/
theorem kept_rows_sublist (rows : List (List Cell)) :
    (dropEmptyRows rows).Sublist rows ∧ (dropEmptyRows rows).flatten = rows.flatten :=
  ⟨HtmlGrid.dropEmptyRowsFrom_sublist _ rows 0, HtmlGrid.dropEmptyRowsFrom_flatten _ rows 0⟩

/-- a table all of whose rows have a cell keeps its rows as they are -/
theorem rows_with_cells_kept (rows : List (List Cell)) (h : ∀ r ∈ rows, r ≠ []) :
    dropEmptyRows rows = rows :=
  HtmlGrid.dropEmptyRowsFrom_nonEmpty _ rows 0 h

example : dropEmptyRows [[⟨[97], false, 1, 1⟩], [⟨[98], true, 7, 0⟩]]
    = [[⟨[97], false, 1, 1⟩], [⟨[98], true, 7, 0⟩]] := by decide

/-- **without rowspans** (every `RowSpan` counts as 1: absent, 1, below 1, above 1024) the rows are
what they were before the fix: all rows without cells dropped -/
theorem rows_unchanged_without_rowspan (rows : List (List Cell))
    (h : ∀ r ∈ rows, ∀ c ∈ r, HtmlGrid.cellSpan c.rowSpan = 1) :
    dropEmptyRows rows = dropEmptyRowsOld rows :=
  HtmlGrid.dropEmptyRows_noRowSpan _ rows h

example : dropEmptyRows [[⟨[97], false, 1, 2⟩], [], [⟨[98], false, 2000, 1⟩], []]
    = [[⟨[97], false, 1, 2⟩], [⟨[98], false, 2000, 1⟩]] := by decide

/-- **a row all of whose cells are covered is a row**: `<tr><td rowspan=3>T</td><td rowspan=3>U</td></tr>
<tr></tr><tr></tr><tr><td>a</td><td>b</td></tr><tr></tr>` keeps its two covered rows and loses the
last, which nothing reaches -/
theorem covered_rows_kept :
    dropEmptyRows [[⟨[84], false, 3, 1⟩, ⟨[85], false, 3, 1⟩], [], [], [⟨[97], false, 1, 1⟩, ⟨[98], false, 1, 1⟩], []]
      = [[⟨[84], false, 3, 1⟩, ⟨[85], false, 3, 1⟩], [], [], [⟨[97], false, 1, 1⟩, ⟨[98], false, 1, 1⟩]] := by
  decide

/-- before the fix the covered rows were dropped: the rows below moved up beside the wrong cells -/
theorem covered_rows_pinned_counterexample :
    dropEmptyRowsOld [[⟨[84], false, 3, 1⟩, ⟨[85], false, 3, 1⟩], [], [], [⟨[97], false, 1, 1⟩, ⟨[98], false, 1, 1⟩], []]
      = [[⟨[84], false, 3, 1⟩, ⟨[85], false, 3, 1⟩], [⟨[97], false, 1, 1⟩, ⟨[98], false, 1, 1⟩]] := by
  decide

/-- every td/th of every row is still returned as one cell, in document order, whatever rows are
kept (`Tabula.C19Text.table_cells_complete`, from the rows before `dropEmptyRows`) -/
theorem parseTable_cells (kids : List Dom) :
    (parseTable kids).1.flatten = (tableSections kids).1.flatten := by
  rw [parseTable_rows]
  exact (kept_rows_sublist _).2

/-! ## the grid in the Markdown and Document views -/

/-- the grid has one line per row and the same number of cells in every line -/
theorem tableGrid_rectangular (rows : List (List Cell)) :
    (tableGrid rows).length = rows.length ∧
      ∀ l ∈ tableGrid rows, l.length = HtmlGrid.gridWidth Cell.colSpan Cell.rowSpan rows := by
  unfold tableGrid
  refine ⟨by rw [List.length_map]; exact HtmlGrid.layoutGrid_rows _ rows, ?_⟩
  intro l hl
  rcases List.mem_map.mp hl with ⟨l0, h0, rfl⟩
  rw [List.length_map]
  exact HtmlGrid.layoutGrid_rect _ rows l0 h0

/-- **no cell is lost in the grid**: the non-empty texts of the grid, line by line, are the
non-empty texts of the table's cells, in order (the grid only adds empty cells) -/
theorem tableGrid_keeps_texts (rows : List (List Cell)) :
    nonEmpty ((tableGrid rows).flatten.map (·.text)) = nonEmpty (rows.flatten.map (·.text)) :=
  nonEmpty_tableGrid rows

/-- **without spans nothing changed**: for a table whose cells do not span and whose rows have the
same length the grid is the table, so `ToMarkdown` writes what it wrote before the fix and the
model table of `DocumentWithOptions` is the one built before -/
theorem grid_unchanged_without_spans (n : Nat) (rows : List (List Cell))
    (hrect : ∀ r ∈ rows, r.length = n)
    (hplain : ∀ r ∈ rows, ∀ c ∈ r, HtmlGrid.cellSpan c.colSpan = 1 ∧ HtmlGrid.cellSpan c.rowSpan = 1) :
    tableGrid rows = rows ∧ tableToMarkdown rows = tableToMarkdownOld rows ∧
      tableGrid rows = rows.map (padRow (numCols rows)) := by
  have hg : tableGrid rows = rows := by
    unfold tableGrid
    rw [HtmlGrid.grid_plain Cell.colSpan Cell.rowSpan n rows hrect hplain]
    -- every position holds its cell
    simp [List.map_map, Function.comp_def, gridCell]
  refine ⟨hg, by unfold tableToMarkdown tableToMarkdownOld; rw [hg], ?_⟩
  rw [hg]
  -- the old padding adds nothing to rows of equal length
  by_cases hne : rows = []
  · subst hne; rfl
  have hw : numCols rows = n := by
    unfold numCols
    exact HtmlGrid.foldl_max_rect n rows 0 (Nat.zero_le _) hrect hne
  rw [hw]
  symm
  have : ∀ r ∈ rows, padRow n r = r := by
    intro r hr
    unfold padRow
    rw [hrect r hr, Nat.sub_self]; simp
  rw [List.map_congr_left this]; simp

example : tableGrid [[⟨[97], true, 1, 1⟩, ⟨[98], true, 0, -4⟩], [⟨[99], false, 1, 1⟩, ⟨[], false, 5000, 1⟩]]
    = [[⟨[97], true, 1, 1⟩, ⟨[98], true, 0, -4⟩], [⟨[99], false, 1, 1⟩, ⟨[], false, 5000, 1⟩]] := by decide

/-- the witness of the finding in the Markdown view: `<th colspan=2>A</th>` over `x`, `y` -/
theorem markdown_grid_witness :
    tableToMarkdown [[⟨[65], true, 1, 2⟩], [⟨[120], false, 1, 1⟩, ⟨[121], false, 1, 1⟩]]
      = [124, 32, 65, 32, 124, 32, 32, 124, 10,
         124, 32, 45, 45, 45, 32, 124, 32, 45, 45, 45, 32, 124, 10,
         124, 32, 120, 32, 124, 32, 121, 32, 124, 10] := by decide

/-- … and before the fix: a one-cell header line over a two-cell row -/
theorem markdown_grid_pinned_counterexample :
    tableToMarkdownOld [[⟨[65], true, 1, 2⟩], [⟨[120], false, 1, 1⟩, ⟨[121], false, 1, 1⟩]]
      = [124, 32, 65, 32, 124, 10,
         124, 32, 45, 45, 45, 32, 124, 10,
         124, 32, 120, 32, 124, 32, 121, 32, 124, 10] := by decide

/-- the Document view of `Tall` (two rows high) beside `A`, with `B` below `A`: `B` stands in the
second column; before the fix it was copied to the first (`padRow`) -/
theorem document_grid_witness :
    tableGrid [[⟨[84], false, 2, 1⟩, ⟨[65], false, 1, 1⟩], [⟨[66], false, 1, 1⟩]]
        = [[⟨[84], false, 2, 1⟩, ⟨[65], false, 1, 1⟩], [⟨[], false, 1, 1⟩, ⟨[66], false, 1, 1⟩]] ∧
      [[⟨[84], false, 2, 1⟩, ⟨[65], false, 1, 1⟩], [⟨[66], false, 1, 1⟩]].map (padRow 2)
        = [[⟨[84], false, 2, 1⟩, ⟨[65], false, 1, 1⟩], [(⟨[66], false, 1, 1⟩ : Cell), ⟨[], false, 1, 1⟩]] := by
  decide

end Tabula.C19Table
