import TabulaModel.Props.C11Exact

/-!
# C11, further all-input laws of the filter

Laws of `HF.filterFragments` / `HF.excludePage` the property relies on and that were so far only
stated in comments of the model or compared by the differential run:

* the filter depends on the detected regions only as SETS (the order in which
  `findRepeatingPatterns` returns them and duplicates are irrelevant), and only on the regions that
  list the page;
* a page no region lists is returned unchanged; a page that carries none of the detected
  patterns in the band of its kind is returned unchanged;
* more regions can only remove more (anti-monotone, as a sublist statement);
* what a region matches depends on the fragment text only through its trimmed, digit-normalised
  form; the horizontal position, width and font size of a judged fragment play no role in its judgement
  (on a character-level page they enter earlier, through line assembly);
* a document below the configured `MinPages` is returned unchanged.
-/

namespace Tabula.C11More
open Tabula.HF Tabula.C11 Tabula.C11Exact

/-! ## The filter sees the regions only through `isInHeaderFooter` -/

/-- two results that judge every fragment alike (and carry the same configuration) filter every
page alike — word-level and character-level -/
theorem filterFragments_congr (res res' : Result) (idx : Int) (hcfg : res.cfg = res'.cfg)
    (h : ∀ b f, isInHeaderFooter res idx b f = isInHeaderFooter res' idx b f)
    (fs : List Frag) (ph : Rat) :
    filterFragments res idx fs ph = filterFragments res' idx fs ph := by
  have hfun : isInHeaderFooter res idx = isInHeaderFooter res' idx :=
    funext fun b => funext fun f => h b f
  have hl : lineRemoved res idx = lineRemoved res' idx := by
    funext b g
    unfold lineRemoved
    rw [hfun]
  unfold filterFragments removedLines
  rw [hl, hfun, hcfg]

example : ∀ b f, isInHeaderFooter (detect defaultConfig exDoc) 0 b f =
    isInHeaderFooter (detect defaultConfig exDoc) 0 b f := fun _ _ => rfl

/-- the judgement depends on the header and footer lists only as sets -/
theorem isInHeaderFooter_congr (res res' : Result)
    (hh : ∀ r, r ∈ res.headers ↔ r ∈ res'.headers) (hf : ∀ r, r ∈ res.footers ↔ r ∈ res'.footers)
    (idx : Int) (b : Bands) (f : Frag) :
    isInHeaderFooter res idx b f = isInHeaderFooter res' idx b f := by
  rw [Bool.eq_iff_iff]
  simp only [isInHeaderFooter, Bool.or_eq_true, List.any_eq_true, hh, hf]

/-- **filter_regions_as_sets.** Two detection results with the same configuration whose header
lists have the same members and whose footer lists have the same members filter every page of
every kind identically: order and multiplicity of the regions are irrelevant. -/
theorem filter_regions_as_sets (res res' : Result) (hcfg : res.cfg = res'.cfg)
    (hh : ∀ r, r ∈ res.headers ↔ r ∈ res'.headers) (hf : ∀ r, r ∈ res.footers ↔ r ∈ res'.footers)
    (idx : Int) (fs : List Frag) (ph : Rat) :
    filterFragments res idx fs ph = filterFragments res' idx fs ph :=
  filterFragments_congr res res' idx hcfg (isInHeaderFooter_congr res res' hh hf idx) fs ph

/-- **filter_region_order_irrelevant.** The claim in the comment of `HF.findRepeatingPatterns`:
whatever order the regions are returned in (the code visits the groups in `sort.Strings` order and
sorts the regions by confidence with `sort.SliceStable`), the filter's result is the same. -/
theorem filter_region_order_irrelevant (hs hs' ft ft' : List Region) (cfg : Config)
    (hp : hs'.Perm hs) (fp : ft'.Perm ft) (idx : Int) (fs : List Frag) (ph : Rat) :
    filterFragments ⟨hs', ft', cfg⟩ idx fs ph = filterFragments ⟨hs, ft, cfg⟩ idx fs ph :=
  filter_regions_as_sets ⟨hs', ft', cfg⟩ ⟨hs, ft, cfg⟩ rfl (fun _ => hp.mem_iff) (fun _ => fp.mem_iff) idx fs ph

example : ([1, 2] : List Nat).Perm [2, 1] := by decide

/-- a region listed twice acts like the region listed once -/
theorem filter_region_duplicates_irrelevant (hs ft : List Region) (cfg : Config)
    (idx : Int) (fs : List Frag) (ph : Rat) :
    filterFragments ⟨hs ++ hs, ft ++ ft, cfg⟩ idx fs ph = filterFragments ⟨hs, ft, cfg⟩ idx fs ph :=
  filter_regions_as_sets ⟨hs ++ hs, ft ++ ft, cfg⟩ ⟨hs, ft, cfg⟩ rfl (fun r => by simp) (fun r => by simp) idx fs ph

/-! ## Only the regions that list the page act on it -/

/-- the detection result cut down to the regions that list page `idx` -/
def restrictTo (res : Result) (idx : Int) : Result :=
  ⟨res.headers.filter (fun r => r.pages.contains idx),
   res.footers.filter (fun r => r.pages.contains idx), res.cfg⟩

/-- **filter_only_listing_regions.** Filtering page `idx` with a detection result is filtering it
with the regions that list `idx`; all other regions are without effect on that page. -/
theorem filter_only_listing_regions (res : Result) (idx : Int) (fs : List Frag) (ph : Rat) :
    filterFragments res idx fs ph = filterFragments (restrictTo res idx) idx fs ph := by
  apply filterFragments_congr res (restrictTo res idx) idx rfl
  intro b f
  rw [Bool.eq_iff_iff, isInHeaderFooter_eq_true, isInHeaderFooter_eq_true]
  -- a hit needs a region that lists `idx`, and such a region passes the restriction
  constructor
  · rintro ⟨k, r, hr, hp, h⟩
    exact ⟨k, r, by cases k <;> exact List.mem_filter.mpr ⟨hr, List.contains_iff_mem.mpr hp⟩, hp, h⟩
  · rintro ⟨k, r, hr, h⟩
    exact ⟨k, r, by cases k <;> exact (List.mem_filter.mp hr).1, h⟩

/-- **unlisted_page_unchanged.** A page that no region of the result lists is returned unchanged,
whatever it contains and wherever — word-level or character-level. -/
theorem unlisted_page_unchanged (res : Result) (idx : Int)
    (h : ∀ r, r ∈ res.headers ∨ r ∈ res.footers → idx ∉ r.pages) (fs : List Frag) (ph : Rat) :
    filterFragments res idx fs ph = fs := by
  rw [filter_only_listing_regions]
  refine filterFragments_no_regions (List.filter_eq_nil_iff.mpr fun r hr => ?_)
    (List.filter_eq_nil_iff.mpr fun r hr => ?_) _ _ _
  · simpa [List.contains_iff_mem] using h r (Or.inl hr)
  · simpa [List.contains_iff_mem] using h r (Or.inr hr)

/-- the regions detected on `exDoc` list pages 0, 1, 2 only: page 7 is listed by none -/
example : ∀ r, r ∈ (detect defaultConfig exDoc).headers ∨ r ∈ (detect defaultConfig exDoc).footers →
    (7 : Int) ∉ r.pages := by
  have h : (∀ r ∈ (detect defaultConfig exDoc).headers, (7 : Int) ∉ r.pages) ∧
      ∀ r ∈ (detect defaultConfig exDoc).footers, (7 : Int) ∉ r.pages := by rw [detect_exDoc]; decide
  exact fun r hr => hr.elim (h.1 r) (h.2 r)

/-- **page_without_detected_text_unchanged.** Exclusion returns a page unchanged if, for each kind
of band, no page of that index carries (after line assembly) a fragment in the band whose trimmed,
digit-normalised text is the pattern of a detected region of that kind: the cover page or chapter
opener without the running header stays as it is, even though the header is detected elsewhere. -/
theorem page_without_detected_text_unchanged (cfg : Config) (pages : List Page) (p : Page)
    (h : ∀ k, ∀ r ∈ (detect cfg pages).regions k,
      ¬ ∃ q ∈ preprocessPages pages, q.index = p.index ∧
        ∃ f ∈ q.frags, inRegion k (bands cfg q.frags q.height) f = true ∧
          normalize (trimSpace f.text) = r.pattern) :
    excludePage cfg pages p = p.frags := by
  unfold excludePage
  apply unlisted_page_unchanged
  intro r hr hi
  rcases hr with hr | hr
  · exact h .header r hr ((region_pages_exact cfg pages .header r hr p.index).mp hi)
  · exact h .footer r hr ((region_pages_exact cfg pages .footer r hr p.index).mp hi)

/-- `exDoc` followed by a page that has body text only -/
def coverDoc : List Page :=
  exDoc ++ [{ index := 3, height := 792,
              frags := [{ text := [66, 111, 100, 121], x := 72, y := 400, w := 40, h := 12, fs := 12 }] }]

/-- the hypothesis is satisfiable with regions present: both bands of `coverDoc` have a detected
region, and page 3 carries neither pattern -/
example : (detect defaultConfig coverDoc).regions .header ≠ [] ∧
    (detect defaultConfig coverDoc).regions .footer ≠ [] ∧
    (∀ r ∈ (detect defaultConfig coverDoc).regions .header,
      ¬ ∃ q ∈ preprocessPages coverDoc, q.index = 3 ∧
        ∃ f ∈ q.frags, inRegion .header (bands defaultConfig q.frags q.height) f = true ∧
          normalize (trimSpace f.text) = r.pattern) ∧
    (∀ r ∈ (detect defaultConfig coverDoc).regions .footer,
      ¬ ∃ q ∈ preprocessPages coverDoc, q.index = 3 ∧
        ∃ f ∈ q.frags, inRegion .footer (bands defaultConfig q.frags q.height) f = true ∧
          normalize (trimSpace f.text) = r.pattern) := by
  decide +kernel

/-! ## More regions remove more -/

example : ∀ a : Nat, (fun n => decide (n < 2)) a = true → (fun n => decide (n < 5)) a = true := by
  intro a h; simp at h ⊢; omega

/-- a fragment judged a header or footer stays one when regions are added -/
theorem hit_mono (res res' : Result) (hh : ∀ r ∈ res.headers, r ∈ res'.headers)
    (hf : ∀ r ∈ res.footers, r ∈ res'.footers) (idx : Int) (b : Bands) (l : Frag) :
    Hit res idx b l → Hit res' idx b l := by
  rintro ⟨k, r, hr, rest⟩
  refine ⟨k, r, ?_, rest⟩
  cases k with
  | header => exact hh r hr
  | footer => exact hf r hr

/-- **removed_mono.** What is removed with fewer regions is removed with more. -/
theorem removed_mono (res res' : Result) (hcfg : res.cfg = res'.cfg)
    (hh : ∀ r ∈ res.headers, r ∈ res'.headers) (hf : ∀ r ∈ res.footers, r ∈ res'.footers)
    (idx : Int) (fs : List Frag) (ph : Rat) (f : Frag) :
    Removed res idx fs ph f → Removed res' idx fs ph f := by
  unfold Removed
  rw [hcfg]
  rintro (⟨hc, h⟩ | ⟨hc, g, hg, hfg, l, hl, h⟩)
  · exact Or.inl ⟨hc, hit_mono res res' hh hf _ _ _ h⟩
  · exact Or.inr ⟨hc, g, hg, hfg, l, hl, hit_mono res res' hh hf _ _ _ h⟩

/-- **more_regions_remove_more.** If every region of `res` is a region of `res'` (same
configuration), the page filtered with `res'` is a sublist of the page filtered with `res`:
e.g. excluding headers and footers keeps a sublist of what excluding headers alone keeps. -/
theorem more_regions_remove_more (res res' : Result) (hcfg : res.cfg = res'.cfg)
    (hh : ∀ r ∈ res.headers, r ∈ res'.headers) (hf : ∀ r ∈ res.footers, r ∈ res'.footers)
    (idx : Int) (fs : List Frag) (ph : Rat) :
    (filterFragments res' idx fs ph).Sublist (filterFragments res idx fs ph) := by
  rw [filterFragments_eq, filterFragments_eq]
  apply List.filter_sublist_filter
  intro f h'
  cases hr : isRemoved res idx fs ph f with
  | false => rfl
  | true =>
    have := (isRemoved_iff res' idx fs ph f).mpr
      (removed_mono res res' hcfg hh hf idx fs ph f ((isRemoved_iff res idx fs ph f).mp hr))
    simp [this] at h'

/-- headers only against headers and footers: the hypotheses hold -/
example : let res' := detect defaultConfig exDoc
    let res : Result := ⟨res'.headers, [], res'.cfg⟩
    res.cfg = res'.cfg ∧ (∀ r ∈ res.headers, r ∈ res'.headers) ∧ (∀ r ∈ res.footers, r ∈ res'.footers) := by
  refine ⟨rfl, fun r hr => hr, fun r hr => ?_⟩
  cases hr

/-! ## What a region matches -/

/-- **textsMatch_plain_iff.** For a region that is not a page-number region, `textsMatch` holds
exactly if the trimmed texts agree after digit normalisation (the literal comparison the code
tries first is subsumed). -/
theorem textsMatch_plain_iff (f r : Str) :
    textsMatch f r false = true ↔ normalize (trimSpace f) = normalize (trimSpace r) := by
  simp only [textsMatch, Bool.false_eq_true, if_false, Bool.or_eq_true, beq_iff_eq]
  constructor
  · rintro (h | h)
    · rw [h]
    · exact h
  · exact Or.inr

/-- `(*HeaderFooterRegion).matches` in closed form: a function of the trimmed, digit-normalised
fragment text alone -/
theorem regionMatches_eq (r : Region) (t : Str) :
    regionMatches r t =
      if r.isPageNumber then
        (isPageNumberPattern (normalize (trimSpace t)) ||
          (!r.pattern.isEmpty && normalize (trimSpace t) == r.pattern))
      else normalize (trimSpace t) == normalize (trimSpace r.text) :=
  regionMatches_closed r t

/-- **regionMatches_digit_blind.** Every region treats two texts alike whose trimmed forms agree
up to their digit runs ("Page 3" and "Page 12", "ACME 2023" and "ACME 2024"). -/
theorem regionMatches_digit_blind (r : Region) (t1 t2 : Str)
    (h : normalize (trimSpace t1) = normalize (trimSpace t2)) :
    regionMatches r t1 = regionMatches r t2 := by
  rw [regionMatches_eq, regionMatches_eq, h]

example : normalize (trimSpace [80, 97, 103, 101, 32, 51]) =
    normalize (trimSpace [32, 80, 97, 103, 101, 32, 49, 50, 32]) := by decide +kernel

/-- surrounding white space of the fragment text is irrelevant -/
theorem regionMatches_trim_blind (r : Region) (t : Str) :
    regionMatches r (trimSpace t) = regionMatches r t :=
  regionMatches_digit_blind r _ _ (by rw [trimSpace_idem])

/-- **judged_by_place_and_pattern.** The judgement of a fragment (or assembled line) depends only
on its vertical place (`y`, `h`) and on its trimmed, digit-normalised text: horizontal position,
width and font size play no role in the judgement (they do in detection, `hasConsistentPosition`, and,
on a character-level page, in the assembly of the line that is judged). -/
theorem judged_by_place_and_pattern (res : Result) (idx : Int) (b : Bands) (f1 f2 : Frag)
    (hy : f1.y = f2.y) (hh : f1.h = f2.h)
    (ht : normalize (trimSpace f1.text) = normalize (trimSpace f2.text)) :
    isInHeaderFooter res idx b f1 = isInHeaderFooter res idx b f2 := by
  have e1 : inTop b f1 = inTop b f2 := by unfold inTop distTop; rw [hy, hh]
  have e2 : inBottom b f1 = inBottom b f2 := by unfold inBottom distBottom; rw [hy, hh]
  have e3 : ∀ r, regionMatches r f1.text = regionMatches r f2.text :=
    fun r => regionMatches_digit_blind r _ _ ht
  have e4 : ∀ ib, regionHits idx ib f1 = regionHits idx ib f2 := by
    intro ib; funext r; simp only [regionHits, e3]
  unfold isInHeaderFooter
  rw [e1, e2, e4, e4]

example : let f1 : Frag := { text := [51], x := 300, y := 30, w := 7, h := 12, fs := 12 }
    let f2 : Frag := { text := [49, 50], x := 20, y := 30, w := 14, h := 12, fs := 9 }
    f1.y = f2.y ∧ f1.h = f2.h ∧ normalize (trimSpace f1.text) = normalize (trimSpace f2.text) := by
  decide +kernel

/-- **page_number_region_hits.** A page-number region of a result removes, on every page it lists,
every fragment in its band whose trimmed, digit-normalised text is one of the page-number
patterns — whatever number the fragment shows. -/
theorem page_number_region_hits (res : Result) (idx : Int) (b : Bands) (f : Frag) (k : Kind) (r : Region)
    (hr : r ∈ res.regions k) (hpn : r.isPageNumber = true) (hi : idx ∈ r.pages)
    (hb : inRegion k b f = true) (hp : isPageNumberPattern (normalize (trimSpace f.text)) = true) :
    isInHeaderFooter res idx b f = true :=
  isInHeaderFooter_eq_true.mpr ⟨k, r, hr, hi, hb, by rw [regionMatches_eq]; simp [hpn, hp]⟩

/-- the footer region of `exDoc` is a page-number region listing page 1, and "- 57 -" is a
page-number pattern after normalisation -/
example : (∃ r ∈ (detect defaultConfig exDoc).regions .footer, r.isPageNumber = true ∧ (1 : Int) ∈ r.pages) ∧
    isPageNumberPattern (normalize (trimSpace [45, 32, 53, 55, 32, 45])) = true := by
  rw [detect_exDoc]
  decide +kernel

/-! ## Character-level pages: a line goes as a whole or stays as a whole -/

/-- **charlevel_line_removed_whole.** On a character-level page, when the assembled line of a line
group is judged a header or footer, EVERY glyph of the group is missing from the filtered page —
the line is not thinned out glyph by glyph. -/
theorem charlevel_line_removed_whole (res : Result) (idx : Int) (fs : List Frag) (ph : Rat)
    (hc : isCharacterLevel fs = true) (g : List Frag) (hg : g ∈ charLines fs) (l : Frag)
    (hl : assembleLine g = some l)
    (hit : isInHeaderFooter res idx (bands res.cfg (assembleFragmentsIntoLines fs) ph) l = true) :
    ∀ f ∈ g, f ∉ filterFragments res idx fs ph := by
  intro f hf hmem
  rw [((mem_filterFragments_charLevel hc).mp hmem).2 g hg hf l hl] at hit
  cases hit

example : let p := clPage 1 true
    isCharacterLevel p.frags = true ∧ ∃ g ∈ charLines p.frags, ∃ l, assembleLine g = some l ∧
      isInHeaderFooter (detect defaultConfig clDoc) 1
        (bands (detect defaultConfig clDoc).cfg (assembleFragmentsIntoLines p.frags) 792) l = true := by
  simp only [detect_clDoc]
  decide +kernel

/-- **charlevel_line_kept_whole.** Conversely, when no line group containing the glyph has an
assembled line that is judged a header or footer, the glyph stays: a glyph is never removed on
account of its own position. -/
theorem charlevel_line_kept_whole (res : Result) (idx : Int) (fs : List Frag) (ph : Rat)
    (hc : isCharacterLevel fs = true) (f : Frag) (hf : f ∈ fs)
    (h : ∀ g ∈ charLines fs, f ∈ g → ∀ l, assembleLine g = some l →
      isInHeaderFooter res idx (bands res.cfg (assembleFragmentsIntoLines fs) ph) l = false) :
    f ∈ filterFragments res idx fs ph :=
  (mem_filterFragments_charLevel hc).mpr ⟨hf, h⟩

/-- with no regions at all the hypothesis holds for every glyph of the character-level witness -/
example : let p := clPage 1 true
    isCharacterLevel p.frags = true ∧ ∀ f ∈ p.frags, ∀ g ∈ charLines p.frags, f ∈ g → ∀ l, assembleLine g = some l →
      isInHeaderFooter ⟨[], [], defaultConfig⟩ 1
        (bands defaultConfig (assembleFragmentsIntoLines p.frags) 792) l = false := by
  refine ⟨by decide +kernel, fun f _ g _ _ l _ => isInHeaderFooter_no_regions rfl rfl _ _ _⟩

/-! ## Page-number patterns are recognised regardless of ASCII case -/

theorem lowerAscii_idem (c : Nat) : lowerAscii (lowerAscii c) = lowerAscii c := by
  unfold lowerAscii
  by_cases h : 65 ≤ c ∧ c ≤ 90
  · have h2 : ¬(65 ≤ c + 32 ∧ c + 32 ≤ 90) := by omega
    rw [if_pos h, if_neg h2]
  · rw [if_neg h, if_neg h]

/-- **isPageNumberPattern_case_blind.** Two texts whose trimmed forms agree up to ASCII case are
both page-number patterns or both not ("PAGE #" like "page #"). -/
theorem isPageNumberPattern_case_blind (t1 t2 : Str)
    (h : (trimSpace t1).map lowerAscii = (trimSpace t2).map lowerAscii) :
    isPageNumberPattern t1 = isPageNumberPattern t2 := by
  have e : equalFoldAscii (trimSpace t1) = equalFoldAscii (trimSpace t2) := by
    funext p
    simp only [equalFoldAscii, h]
  unfold isPageNumberPattern
  rw [e]

example : (trimSpace [80, 65, 71, 69, 32, 35]).map lowerAscii = (trimSpace [112, 97, 103, 101, 32, 35, 32]).map lowerAscii := by
  decide +kernel

/-- lower-casing the text does not change whether it is a page-number pattern, provided trimming
commutes with it on this text (it does whenever the text is ASCII) -/
theorem isPageNumberPattern_lower (t : Str)
    (h : trimSpace (t.map lowerAscii) = (trimSpace t).map lowerAscii) :
    isPageNumberPattern (t.map lowerAscii) = isPageNumberPattern t := by
  apply isPageNumberPattern_case_blind
  rw [h, List.map_map]
  apply List.map_congr_left
  intro c _
  exact lowerAscii_idem c

example : trimSpace (([32, 80, 65, 71, 69, 32, 35] : Str).map lowerAscii) =
    (trimSpace [32, 80, 65, 71, 69, 32, 35]).map lowerAscii := by decide +kernel

/-! ## Below the configured `MinPages` -/

/-- **below_minPages_identity.** A document with fewer pages than the configured `MinPages` is
returned unchanged, for every configuration (generalises `C11.single_page_identity`, which is the
case `MinPages ≤ 2`, to every threshold). -/
theorem below_minPages_identity (cfg : Config) (pages : List Page) (h : pages.length < cfg.minPages)
    (p : Page) : excludePage cfg pages p = p.frags := by
  unfold excludePage
  apply filterFragments_no_regions <;> simp [detect, h]

example : exDoc.length < ({ minPages := 5 } : Config).minPages := by decide

end Tabula.C11More
