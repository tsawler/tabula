import TabulaModel.Lemmas.ChunkApi
import TabulaModel.Lemmas.ChunkColl
import TabulaModel.Model.ChunkLayout
import TabulaModel.Props.C12
import TabulaModel.Props.C12Layout
import TabulaModel.Props.C12Query
/-!
# C12: laws of the section path and of the page loop (element-based chunker)

The other C12 files prove the clauses of the statement for one document at a time. Here are laws
that relate **two** documents or two heading histories, for every splitter (hence every size
configuration) and every section tracker:

* the section path: headings that were closed can be forgotten (`closed_headings_forgotten`,
  `open_spec_idempotent` — why a stack suffices), the stack the code keeps after any sequence of
  `pushSection` calls is the specification's chain (`stack_is_spec`), is strictly nested
  (`stack_strictly_nested`), and is never deeper than the level of the heading pushed last
  (`path_depth_le_level`, `path_depth_le_max`: h1..h6 give at most six entries, whatever levels are
  skipped);
* 0-element pages (named by the quantifier of C12) are neutral: removing one changes no chunk at all —
  text, index, id, total, pages, path (`empty_page_neutral`);
* locality of the page loop: the chunks made from the first pages of a document are the chunks of
  those pages alone, `TotalChunks` aside, when the later pages have other page numbers
  (`earlier_pages_stable`, `earlier_chunks_stable`); the table of contents is read per page number
  only (`toc_read_per_page`).
-/
namespace Tabula.C12More
open Tabula.Chunk

/-- headings closed by a later heading play no part afterwards: the chain of enclosing headings
after `hs ++ ks` is the one after (open headings of `hs`) `++ ks` -/
theorem closed_headings_forgotten (hs ks : List H) :
    openSpec (hs ++ ks) = openSpec (openSpec hs ++ ks) :=
  openSpec_append_forget hs ks

theorem open_spec_idempotent (hs : List H) : openSpec (openSpec hs) = openSpec hs :=
  openSpec_of_pairwise _ (openSpec_pairwise hs)

example : openSpec [(1, [97]), (3, [98]), (2, [99])] = [(1, [97]), (2, [99])] := by decide +kernel

/-- a history of `push` calls on a tracker -/
def pushAll {σ} (tr : Tracker σ) (hs : List (Int × Str)) : σ :=
  hs.foldl (fun s h => tr.push s h.1 h.2) tr.init

theorem pushAll_snoc {σ} (tr : Tracker σ) (hs : List (Int × Str)) (h : Int × Str) :
    pushAll tr (hs ++ [h]) = tr.push (pushAll tr hs) h.1 h.2 := by
  simp [pushAll, List.foldl_append]

theorem pushAll_rel (hs : List (Int × Str)) :
    StackRel (pushAll stackTracker hs) (pushAll histTracker hs) := by
  unfold pushAll
  generalize hA : stackTracker.init = a
  generalize hB : histTracker.init = b
  have hab : StackRel a b := by rw [← hA, ← hB]; exact stack_sim.init
  clear hA hB
  induction hs generalizing a b with
  | nil => exact hab
  | cons h hs ih => exact ih _ _ (stack_sim.push a b h.1 h.2 hab)

theorem pushAll_hist (hs : List (Int × Str)) :
    pushAll histTracker hs = hs.map fun h => (h.1, trim h.2) := by
  suffices ∀ (a : List H), hs.foldl (fun s h => histTracker.push s h.1 h.2) a
      = a ++ hs.map fun h => (h.1, trim h.2) by
    simpa [pushAll, histTracker] using this []
  induction hs with
  | nil => intro a; simp
  | cons h hs ih =>
    intro a
    rw [List.foldl_cons, ih]
    simp [histTracker]

/-- the stack `pushSection` keeps, after ANY sequence of calls (any levels, skipped or not), read
outermost first, is the chain of enclosing headings of the specification -/
theorem stack_is_spec (hs : List (Int × Str)) :
    (pushAll stackTracker hs).reverse = openSpec (hs.map fun h => (h.1, trim h.2)) := by
  have := pushAll_rel hs
  unfold StackRel at this
  rw [this, pushAll_hist]

/-- the open headings are strictly nested: levels strictly increase from the outermost to the
innermost entry of the path -/
theorem stack_strictly_nested (hs : List (Int × Str)) :
    (pushAll stackTracker hs).reverse.Pairwise (fun a b => a.1 < b.1) := by
  rw [stack_is_spec]
  exact openSpec_pairwise _

/-- the section path is never deeper than the level of the heading pushed last (levels from 1) -/
theorem path_depth_le_level (hs : List (Int × Str)) (l : Int) (t : Str)
    (h1 : ∀ h ∈ hs, 1 ≤ h.1) (hl : 1 ≤ l) :
    (stackTracker.path (pushAll stackTracker (hs ++ [(l, t)]))).length ≤ l.toNat := by
  have e : stackTracker.path (pushAll stackTracker (hs ++ [(l, t)])) =
      Tabula.ChunkLayout.chain (openSpec ((hs.map fun h => (h.1, trim h.2)) ++ [(l, trim t)])) := by
    have hmap : ((hs ++ [(l, t)]).map fun h => (h.1, trim h.2)) = (hs.map fun h => (h.1, trim h.2)) ++ [(l, trim t)] := by
      rw [List.map_append]; rfl
    rw [Tabula.ChunkLayout.chain, open_spec_idempotent, ← hmap]
    exact congrArg (List.map fun e : H => e.2) (stack_is_spec (hs ++ [(l, t)]))
  rw [e]
  refine Tabula.ChunkLayout.chain_length_le _ l fun x hx => ?_
  rw [openSpec_snoc, List.mem_append] at hx
  rcases hx with hx | hx
  · obtain ⟨hx', hlt⟩ := List.mem_filter.mp hx
    obtain ⟨y, hy, rfl⟩ := List.mem_map.mp ((openSpec_sublist _).subset hx')
    exact ⟨h1 y hy, Int.le_of_lt (of_decide_eq_true hlt)⟩
  · rw [List.mem_singleton.mp hx]; exact ⟨hl, Int.le_refl _⟩

example : (stackTracker.path (pushAll stackTracker [(1, [97]), (5, [98]), (2, [99])])).length = 2 := by
  decide +kernel

/-- levels between 1 and `m` (h1..h6: `m = 6`): at most `m` entries, whatever the order of levels -/
theorem path_depth_le_max (hs : List (Int × Str)) (m : Int)
    (h1 : ∀ h ∈ hs, 1 ≤ h.1 ∧ h.1 ≤ m) :
    (stackTracker.path (pushAll stackTracker hs)).length ≤ m.toNat := by
  have e : stackTracker.path (pushAll stackTracker hs) =
      Tabula.ChunkLayout.chain (hs.map fun h => (h.1, trim h.2)) :=
    congrArg (List.map fun e : H => e.2) (stack_is_spec hs)
  rw [e]
  exact Tabula.ChunkLayout.chain_length_le _ m fun x hx => by
    obtain ⟨y, hy, rfl⟩ := List.mem_map.mp hx
    exact h1 y hy

example : ∀ h ∈ [((1 : Int), ([97] : Str)), (6, [98]), (3, [99])], 1 ≤ h.1 ∧ h.1 ≤ 6 := by decide +kernel

/-- a page without elements (and without layout headings of its own) is neutral: the document
with it and the document without it have the same chunks — every field, `TotalChunks` included —
for every tracker, splitter and position of the page -/
theorem empty_page_neutral {σ} (tr : Tracker σ) (sp : Splitter) (d1 d2 : Doc) (pg : Page)
    (he : pg.elems = []) (hl : pg.layout = none ∨ pg.layout = some []) :
    chunkDocumentWith tr sp (d1 ++ pg :: d2) = chunkDocumentWith tr sp (d1 ++ d2) := by
  have htoc : tableOfContents (d1 ++ pg :: d2) = tableOfContents (d1 ++ d2) := by
    have : tableOfContents [pg] = [] := by
      rcases hl with hl | hl <;> simp [tableOfContents, hl]
    rw [show d1 ++ pg :: d2 = d1 ++ ([pg] ++ d2) from rfl]
    simp only [tableOfContents_append, this, List.nil_append]
  unfold chunkDocumentWith pageGroups
  rw [htoc, chunkPages_append, chunkPages_append]
  have hb := stateAfter_block_nil tr sp (tableOfContents (d1 ++ d2)) (initSt tr) rfl d1
  simp only [chunkPages, chunkPage_empty tr sp _ _ hb pg he, List.flatten_append,
    List.flatten_cons, List.nil_append]

theorem empty_page_neutral_std (sp : Splitter) (d1 d2 : Doc) (pg : Page)
    (he : pg.elems = []) (hl : pg.layout = none ∨ pg.layout = some []) :
    chunkDocument sp (d1 ++ pg :: d2) = chunkDocument sp (d1 ++ d2) :=
  empty_page_neutral stackTracker sp d1 d2 pg he hl

example : chunkDocument (fun _ => none) [⟨1, none, [.para [97]]⟩, ⟨2, none, []⟩, ⟨3, none, [.para [98]]⟩]
    = chunkDocument (fun _ => none) [⟨1, none, [.para [97]]⟩, ⟨3, none, [.para [98]]⟩] := by decide +kernel

/-- the table of contents is read per page number: entries of pages with another number do not
influence the chunks of a page -/
theorem toc_read_per_page {σ} (tr : Tracker σ) (sp : Splitter) (t1 t2 : List TOCEntry)
    (st : St σ) (pg : Page) (h : ∀ e ∈ t2, e.page ≠ pg.number) :
    chunkPage tr sp (t1 ++ t2) st pg = chunkPage tr sp t1 st pg :=
  chunkPage_toc tr sp _ _ st pg (tocAgree_append t1 t2 pg.number h)

/-- the groups of chunks of the first pages do not depend on what follows, as long as the later
pages carry other page numbers -/
theorem earlier_pages_stable {σ} (tr : Tracker σ) (sp : Splitter) (d1 d2 : Doc)
    (h : ∀ p ∈ d1, ∀ q ∈ d2, q.number ≠ p.number) :
    (pageGroups tr sp (d1 ++ d2)).take d1.length = pageGroups tr sp d1 := by
  unfold pageGroups
  rw [chunkPages_append, tableOfContents_append, List.take_left'
    (by rw [chunkPages_length])]
  apply chunkPages_toc
  intro pg hpg
  apply tocAgree_append
  intro e he
  obtain ⟨q, hq, hqe⟩ := tableOfContents_page d2 e he
  rw [← hqe]
  exact h pg hpg q hq

/-- the same for the chunks: the chunks of `d1 ++ d2` start with the chunks of `d1`, each with
the same index, id, text, section path and pages; only `TotalChunks` is the new total -/
theorem earlier_chunks_stable (sp : Splitter) (d1 d2 : Doc)
    (h : ∀ p ∈ d1, ∀ q ∈ d2, q.number ≠ p.number) :
    (chunkDocument sp (d1 ++ d2)).take (chunkDocument sp d1).length =
      (chunkDocument sp d1).map fun c => { c with total := (chunkDocument sp (d1 ++ d2)).length } := by
  have hg := earlier_pages_stable stackTracker sp d1 d2 h
  unfold chunkDocument chunkDocumentWith
  rw [setTotal_length, setTotal_length]
  generalize pageGroups stackTracker sp (d1 ++ d2) = G at hg ⊢
  have hG : G = pageGroups stackTracker sp d1 ++ G.drop d1.length := by
    rw [← hg, List.take_append_drop]
  generalize G.drop d1.length = B at hG
  subst hG
  simp only [List.flatten_append]
  generalize (pageGroups stackTracker sp d1).flatten = X
  generalize B.flatten = Y
  unfold setTotal
  rw [List.map_append, List.take_left' (by simp), List.map_map]
  rfl

example : ∀ p ∈ ([⟨1, none, [.para [97]]⟩] : Doc), ∀ q ∈ ([⟨2, none, [.para [98]]⟩] : Doc),
    q.number ≠ p.number := by decide +kernel

/-! `C12Api.update_history_partial` needs `NoSkip`. `updateSectionPath` without any hypothesis: -/

open Tabula.ChunkApi

/-- **closed form of one call, every input**: the new path is the old one without its last
`currentLevel - newLevel + 1` entries (none when that is negative), then the trimmed heading text;
the new current level is the heading's -/
theorem update_step_total (path : List Str) (cur lvl : Int) (text : Str) :
    updateSectionPath path cur lvl text =
      (path.take (path.length - (cur - lvl + 1).toNat) ++ [trim text], lvl) := by
  rw [update_formula, List.drop_reverse, List.reverse_reverse]

/-- a deeper heading — one level or many — closes nothing -/
theorem update_deeper_appends (path : List Str) (cur lvl : Int) (text : Str) (h : cur < lvl) :
    updateSectionPath path cur lvl text = (path ++ [trim text], lvl) := by
  rw [update_step_total]
  have : (cur - lvl + 1).toNat = 0 := by omega
  rw [this, Nat.sub_zero, List.take_length]

example : updateSectionPath [[97]] 1 3 [32, 98] = ([[97], [98]], 3) := by decide +kernel

/-- a heading at the current level replaces the innermost entry; one `k` levels up closes `k + 1` -/
theorem update_up_closes (path : List Str) (cur : Int) (k : Nat) (text : Str) :
    updateSectionPath path cur (cur - k) text =
      (path.take (path.length - (k + 1)) ++ [trim text], cur - k) := by
  rw [update_step_total]
  have : (cur - (cur - (k : Int)) + 1).toNat = k + 1 := by omega
  rw [this]

/-- **every history, skipped levels or not**: the path `updateSectionPath` arrives at never holds a
heading that is closed — it is a sub-sequence (same order) of the chain of enclosing headings.
With `update_history_counterexample`: the only way it goes wrong is by losing open headings. -/
theorem update_history_never_keeps_closed (c0 : Int) (hs : List (Int × Str)) :
    ((runUpdate [] c0 hs).1).Sublist ((openSpec (trimmed hs)).map (·.2)) := by
  have := runUpdate_sublist [] [] c0 hs [] rfl trivial (List.Sublist.refl _)
  simpa using this

theorem runUpdate_snoc (path : List Str) (cur : Int) (hs : List (Int × Str)) (h : Int × Str) :
    runUpdate path cur (hs ++ [h]) =
      updateSectionPath (runUpdate path cur hs).1 (runUpdate path cur hs).2 h.1 h.2 := by
  induction hs generalizing path cur with
  | nil => obtain ⟨l, t⟩ := h; simp [runUpdate]
  | cons x hs ih => obtain ⟨l, t⟩ := x; simp only [List.cons_append, runUpdate, ih]

/-- every history: the innermost entry of the path is the heading met last, and the level handed
back is its level -/
theorem update_history_last (c0 : Int) (hs : List (Int × Str)) (l : Int) (t : Str) :
    (runUpdate [] c0 (hs ++ [(l, t)])).1.getLast? = some (trim t) ∧
    (runUpdate [] c0 (hs ++ [(l, t)])).2 = l := by
  rw [runUpdate_snoc, update_step_total]
  simp

/-- opening a heading keeps an initial segment of the path and appends the heading: no entry is
ever changed or reordered by `pushSection`, whatever the stack and the level -/
theorem push_keeps_prefix (st : List H) (l : Int) (t : Str) :
    stackTracker.path (stackTracker.push st l t) =
      (stackTracker.path st).take (st.dropWhile fun e => decide (l ≤ e.1)).length ++ [trim t] := by
  simp only [stackTracker, pushSection, List.reverse_cons, List.map_append, List.map_cons,
    List.map_nil]
  congr 1
  have h := @List.takeWhile_append_dropWhile _ (fun e : H => decide (l ≤ e.1)) st
  conv => rhs; rw [← h]
  rw [List.reverse_append, List.map_append, List.take_left' (by simp)]

/-- **lifting principle** (any tracker, splitter, document): if `P` holds of the tracker's initial
state, is kept by every push of a heading the chunker meets (`StepL`: `model.Heading`s, heading-like
paragraphs with their table-of-contents level, repeated headings with their resolved level) and
implies `Q` of the path, then `Q` holds of the `SectionPath` of every chunk — text chunks (which
carry the path of their first paragraph) and split pieces included -/
theorem chunk_paths_invariant {σ} (tr : Tracker σ) (L : Int → Str → Prop) (P : σ → Prop)
    (Q : List Str → Prop) (hinv : TrackInv tr L P Q) (sp : Splitter) (d : Doc)
    (hl : ∀ pg ∈ d, ∀ e ∈ resolveRepeatedHeadings pg, StepL L (tableOfContents d) pg.number e) :
    ∀ c ∈ chunkDocumentWith tr sp d, Q c.path := by
  intro c hc
  simp only [chunkDocumentWith, setTotal, List.mem_map] at hc
  obtain ⟨c0, h0, rfl⟩ := hc
  obtain ⟨g, hg, hcg⟩ := List.mem_flatten.mp h0
  exact chunkPages_p tr L P Q hinv sp (tableOfContents d) (initSt tr) d
    ⟨hinv.init, fun hne => absurd rfl hne⟩ hl g hg c0 hcg

/-- every level the chunker can see — `model.Heading` elements, layout headings (table of
contents, repeated headings), and the default 1 — satisfies `L` -/
def DocLevels (L : Int → Prop) (d : Doc) : Prop :=
  L 1 ∧ (∀ pg ∈ d, ∀ l t, Elem.heading l t ∈ pg.elems → L l) ∧
  (∀ pg ∈ d, ∀ hs, pg.layout = some hs → ∀ h ∈ hs, L h.1)

theorem docLevels_stepL (L : Int → Prop) (d : Doc) (h : DocLevels L d) :
    ∀ pg ∈ d, ∀ e ∈ resolveRepeatedHeadings pg,
      StepL (fun l _ => L l) (tableOfContents d) pg.number e := by
  obtain ⟨h1, h2, h3⟩ := h
  exact stepL_of_doc _ d h2 fun _ _ _ _ l hl =>
    hl.elim (fun e => e ▸ h1) fun ⟨q, hq, hs, hlay, x, hx, e⟩ => e ▸ h3 q hq hs hlay x hx

/-- **depth of the section path, every chunk**: when every heading level of the document lies
between 1 and `m` (h1..h6: `m = 6`), no chunk of `ChunkDocument` has a section path with more than
`m` entries — whatever the order of the levels, skipped or repeated, on whatever pages -/
theorem chunk_path_depth_le_max (sp : Splitter) (d : Doc) (m : Int)
    (h : DocLevels (fun l => 1 ≤ l ∧ l ≤ m) d) :
    ∀ c ∈ chunkDocument sp d, c.path.length ≤ m.toNat := by
  rw [Tabula.C12.section_path_enclosing]
  exact chunk_paths_invariant histTracker _ _ _
    (histTracker_inv (fun x => 1 ≤ x.1 ∧ x.1 ≤ m) (fun p => p.length ≤ m.toNat) fun s hs =>
      Tabula.ChunkLayout.chain_length_le s m hs) sp d
    (docLevels_stepL _ d h)

example : DocLevels (fun l => 1 ≤ l ∧ l ≤ 6)
    [⟨1, some [(2, [97])], [.heading 5 [98], .para [97], .heading 1 [99]]⟩] := by
  refine ⟨by decide, ?_, ?_⟩
  · intro pg hpg l t he
    simp only [List.mem_singleton] at hpg; subst hpg
    simp only [List.mem_cons, Elem.heading.injEq, reduceCtorEq, List.not_mem_nil, or_false,
      false_or] at he
    rcases he with ⟨rfl, _⟩ | ⟨rfl, _⟩ <;> decide
  · intro pg hpg hs hl x hx
    simp only [List.mem_singleton] at hpg; subst hpg
    simp only [Option.some.injEq] at hl; subst hl
    simp only [List.mem_singleton] at hx; subst hx; decide

/-- **nothing is invented**: every entry of every chunk's section path is the trimmed text of a
`model.Heading` or of a (heading-like) paragraph of the document -/
theorem chunk_path_entries_from_document (sp : Splitter) (d : Doc) :
    ∀ c ∈ chunkDocument sp d, ∀ s ∈ c.path,
      ∃ pg ∈ d, ∃ t, trim t = s ∧ ((∃ l, Elem.heading l t ∈ pg.elems) ∨ Elem.para t ∈ pg.elems) := by
  rw [Tabula.C12.section_path_enclosing]
  let T : Str → Prop := fun s =>
    ∃ pg ∈ d, ∃ t, trim t = s ∧ ((∃ l, Elem.heading l t ∈ pg.elems) ∨ Elem.para t ∈ pg.elems)
  refine chunk_paths_invariant histTracker _ _ _ (histTracker_inv (fun x => T x.2) (fun p => ∀ s ∈ p, T s) ?_) sp d ?_
  · intro s hs x hx
    obtain ⟨y, hy, rfl⟩ := List.mem_map.mp hx
    exact hs y ((openSpec_sublist s).subset hy)
  · exact stepL_of_doc _ d (fun pg hpg l t h => ⟨pg, hpg, t, rfl, Or.inl ⟨l, h⟩⟩)
      fun pg hpg t h _ _ => ⟨pg, hpg, t, rfl, Or.inr h⟩

open Tabula.ChunkLayout

/-- a page with a nil layout, or with a layout that holds no heading, paragraph or list, is
neutral for `Chunker.Chunk`: the same chunks — every field — with and without it, wherever it
stands (so 0-element pages cannot shift a page range or an index) -/
theorem layout_empty_page_neutral (cfg : Cfg) (title : Str) (d1 d2 : LDoc) (pg : LPage)
    (h : pg.layout = none ∨ pg.layout = some ⟨[], [], []⟩) :
    chunk cfg title (d1 ++ pg :: d2) = chunk cfg title (d1 ++ d2) := by
  have hstep : ∀ s, stepPage cfg s pg = s := by
    intro s
    rcases h with h | h <;> simp [stepPage, h]
  have hb : buildSections cfg (d1 ++ pg :: d2) = buildSections cfg (d1 ++ d2) := by
    simp only [buildSections, List.foldl_append, List.foldl_cons, hstep]
  have hf : fallbackContent (d1 ++ pg :: d2) = fallbackContent (d1 ++ d2) := by
    have : fallbackContent [pg] = [] := by
      rcases h with h | h <;> simp [fallbackContent, h]
    have happ : ∀ a b : LDoc, fallbackContent (a ++ b) = fallbackContent a ++ fallbackContent b := by
      intro a b; simp only [fallbackContent, List.flatMap_append]
    rw [show d1 ++ pg :: d2 = d1 ++ ([pg] ++ d2) from rfl, happ, happ, happ, this, List.nil_append]
  simp only [chunk, chunkByParagraphs, hb, hf]

example :
    let cfg : Cfg := ⟨2000, 100, 3, true, [99]⟩
    let p1 : LPage := ⟨1, some ⟨[⟨1, [65], []⟩], [⟨[120], false, []⟩], []⟩⟩
    let p3 : LPage := ⟨3, some ⟨[], [⟨[121], false, []⟩], []⟩⟩
    chunk cfg [] [p1, ⟨2, none⟩, p3] = chunk cfg [] [p1, p3] ∧ (chunk cfg [] [p1, p3]).length = 1 := by
  decide +kernel

/-- the document title is read by the fallback (`chunkByParagraphs`) only: as soon as the section
tree yields a chunk, `Chunker.Chunk` does not depend on it -/
theorem layout_title_unread (cfg : Cfg) (t1 t2 : Str) (d : LDoc)
    (h : chunkForest cfg (buildSections cfg d) 0 ≠ []) :
    chunk cfg t1 d = chunk cfg t2 d := by
  have : (chunkForest cfg (buildSections cfg d) 0).isEmpty = false := List.isEmpty_eq_false_iff.mpr h
  simp only [chunk, this, Bool.false_eq_true, if_false]

example :
    let cfg : Cfg := ⟨2000, 100, 3, true, [99]⟩
    let d : LDoc := [⟨1, some ⟨[⟨1, [65], []⟩], [⟨[120], false, []⟩], []⟩⟩]
    chunkForest cfg (buildSections cfg d) 0 ≠ [] := by decide +kernel

open Tabula.ChunkColl

/-- **`GetPageRange` is exact**: on a non-empty collection it returns the smallest `PageStart` and
the largest `PageEnd` of its chunks — every chunk's page range lies inside it and both ends are
attained (so, with `page_range_true`, they are pages content came from) -/
theorem page_range_exact (cs : List QChunk) (hne : cs ≠ []) :
    (∀ q ∈ cs, (pageRange cs).1 ≤ q.c.pageStart ∧ q.c.pageEnd ≤ (pageRange cs).2) ∧
    (∃ a ∈ cs, a.c.pageStart = (pageRange cs).1) ∧ (∃ b ∈ cs, b.c.pageEnd = (pageRange cs).2) := by
  obtain ⟨c, rest, rfl⟩ := List.exists_cons_of_ne_nil hne
  rw [pageRange, pageRangeLoop_eq]
  -- the two ends are the minimum of the `PageStart`s and the maximum of the `PageEnd`s
  obtain ⟨m1, b1⟩ := List.min?_eq_some_iff.mp (List.min?_cons' (x := c.c.pageStart) (xs := rest.map (·.c.pageStart)))
  obtain ⟨m2, b2⟩ := List.max?_eq_some_iff.mp (List.max?_cons' (x := c.c.pageEnd) (xs := rest.map (·.c.pageEnd)))
  rw [← List.map_cons (f := fun q : QChunk => q.c.pageStart)] at m1 b1
  rw [← List.map_cons (f := fun q : QChunk => q.c.pageEnd)] at m2 b2
  exact ⟨fun q hq => ⟨b1 _ (List.mem_map.mpr ⟨q, hq, rfl⟩), b2 _ (List.mem_map.mpr ⟨q, hq, rfl⟩)⟩,
    List.mem_map.mp m1, List.mem_map.mp m2⟩

theorem page_range_empty : pageRange [] = (0, 0) := rfl

/-- `GetTotalTokens` is the sum of the chunks' `EstimatedTokens` -/
theorem total_tokens_sum (cs : List QChunk) : totalTokens cs 0 = (cs.map (·.tokens)).sum := by
  rw [totalTokens_eq]; omega

/-- **`GetAllSections` is exact**: the non-empty `SectionTitle`s of the collection, each once -/
theorem sections_exact (cs : List QChunk) :
    (sections cs).Nodup ∧ ∀ t, t ∈ sections cs ↔ t ≠ [] ∧ ∃ q ∈ cs, q.title = t := by
  refine ⟨sectionsLoop_nodup cs [] [] List.nodup_nil (fun t ht => by cases ht), ?_⟩
  intro t
  unfold sections
  rw [sectionsLoop_mem]
  simp

/-- a filter applied twice selects what it selects once -/
theorem query_idempotent (q : Query) (cs : List QChunk) (h : ∀ a b, q ≠ .slice a b) :
    applyQuery q (applyQuery q cs) = applyQuery q cs := by
  rw [applyQuery_filter q _ h, applyQuery_filter q cs h, List.filter_filter]
  simp

/-- the order of two filters does not matter (`FilterByPage(p).FilterWithTables()` =
`FilterWithTables().FilterByPage(p)`, …) -/
theorem queries_commute (q1 q2 : Query) (cs : List QChunk)
    (h1 : ∀ a b, q1 ≠ .slice a b) (h2 : ∀ a b, q2 ≠ .slice a b) :
    applyQuery q1 (applyQuery q2 cs) = applyQuery q2 (applyQuery q1 cs) := by
  rw [applyQuery_filter q1 _ h1, applyQuery_filter q2 cs h2, applyQuery_filter q2 _ h2,
    applyQuery_filter q1 cs h1, List.filter_filter, List.filter_filter]
  congr 1
  funext x
  exact Bool.and_comm _ _

example : ∀ a b, Query.byPage 3 ≠ .slice a b := by intro a b h; cases h

/-- `FilterByPageRange(p, p)` is `FilterByPage(p)` -/
theorem page_range_query_single (p : Int) (cs : List QChunk) :
    applyQuery (.byPageRange p p) cs = applyQuery (.byPage p) cs := by
  rw [applyQuery_filter _ cs (by intro a b h; cases h), applyQuery_filter _ cs (by intro a b h; cases h)]
  congr 1
  funext x
  simp only [queryPred, isOnPage, ge_iff_le]
  exact Bool.and_comm _ _

/-- raising the bound of `FilterByMinTokens` can only remove chunks -/
theorem min_tokens_monotone (n n' : Int) (h : n ≤ n') (cs : List QChunk) :
    (applyQuery (.minTokens n') cs).Sublist (applyQuery (.minTokens n) cs) := by
  rw [applyQuery_filter _ cs (by intro a b h; cases h), applyQuery_filter _ cs (by intro a b h; cases h)]
  exact List.filter_sublist_filter (fun x hx => by
    simp only [queryPred, ge_iff_le, decide_eq_true_eq] at hx ⊢; exact Int.le_trans h hx) cs

/-- every chunk of the element-based chunker lies on one page of the document (any splitter) -/
theorem chunk_on_some_page (sp : Splitter) (d : Doc) :
    ∀ c ∈ chunkDocument sp d, ∃ pg ∈ d, c.pageStart = pg.number ∧ c.pageEnd = pg.number := by
  intro c hc
  have hm := (chunkPages_m stackTracker sp (tableOfContents d) (initSt stackTracker) d).1
  simp only [chunkDocument, chunkDocumentWith, setTotal, List.mem_map] at hc
  obtain ⟨c0, h0, rfl⟩ := hc
  obtain ⟨g, hg, hcg⟩ := List.mem_flatten.mp h0
  exact pagesM_mem d _ hm g hg c0 hcg

/-- **`GetPageRange` on the chunker's own collection** (`rag.ChunkDocumentWithConfig`, every size
configuration and document): both ends are page numbers of the document, attained by chunks, and
every chunk's pages lie between them -/
theorem collection_page_range_on_document (c : Tabula.Split.SizeConfig) (d : Doc)
    (hne : elementColl c d ≠ []) :
    (∃ p ∈ d, p.number = (pageRange (elementColl c d)).1) ∧
    (∃ p ∈ d, p.number = (pageRange (elementColl c d)).2) ∧
    ∀ q ∈ elementColl c d, (pageRange (elementColl c d)).1 ≤ q.c.pageStart ∧
      q.c.pageEnd ≤ (pageRange (elementColl c d)).2 := by
  obtain ⟨h1, ⟨a, ha, ea⟩, ⟨b, hb, eb⟩⟩ := page_range_exact (elementColl c d) hne
  have hmem : ∀ q ∈ elementColl c d, q.c ∈ chunkDocument (Tabula.ChunkSplit.splitterOf c) d := by
    intro q hq
    have : q.c ∈ (elementColl c d).map (·.c) := List.mem_map.mpr ⟨q, hq, rfl⟩
    rw [elementColl_c] at this
    exact this
  refine ⟨?_, ?_, h1⟩
  · obtain ⟨pg, hpg, e1, _⟩ := chunk_on_some_page _ d a.c (hmem a ha)
    exact ⟨pg, hpg, by rw [← ea, e1]⟩
  · obtain ⟨pg, hpg, _, e2⟩ := chunk_on_some_page _ d b.c (hmem b hb)
    exact ⟨pg, hpg, by rw [← eb, e2]⟩

example : elementColl Tabula.ChunkSplit.defaultSizeConfig [⟨1, none, [.para [97]]⟩] ≠ [] := by
  decide +kernel

example : ∀ e ∈ ([⟨1, [97], 2⟩] : List TOCEntry), e.page ≠ (⟨1, none, []⟩ : Page).number := by decide +kernel

/-- **depth of `SectionPath`, layout-based chunker** (every document and configuration whose
heading levels start at 1): a section that holds content has a path of at most `MinHeadingLevel`
entries — only headings of level `<= MinHeadingLevel` open sections, and the open ones are strictly
nested, whatever levels are skipped. With `layout_chunker_property` (2.) this bounds the
`SectionPath` of every chunk made from a section. -/
theorem layout_path_depth (cfg : Cfg) (d : LDoc)
    (h : ∀ pg ∈ d, ∀ lay, pg.layout = some lay → ∀ hd ∈ lay.headings, 1 ≤ hd.level) :
    ∀ x ∈ flatForest (buildSections cfg d), x.2 ≠ [] →
      x.1.path.length ≤ cfg.minHeadingLevel.toNat := by
  intro x hx _
  rw [buildSections_spec] at hx
  exact specSections_depth cfg d h x (List.mem_reverse.mp hx)

example :
    let cfg : Cfg := ⟨2000, 100, 3, true, [99]⟩
    let d : LDoc := [⟨1, some ⟨[⟨1, [65], []⟩, ⟨3, [66], []⟩, ⟨2, [67], []⟩], [⟨[120], false, []⟩], []⟩⟩]
    (flatForest (buildSections cfg d)).map (fun x => (x.1.path, x.2.length)) =
      [([[65]], 0), ([[65], [66]], 0), ([[65], [67]], 1)] := by decide +kernel

end Tabula.C12More
