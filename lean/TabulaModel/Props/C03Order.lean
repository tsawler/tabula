import TabulaModel.Lemmas.MapOrder
import TabulaModel.Lemmas.Export
/-!
# C03 — mechanism "map-ordered data is sorted before it influences output"

Every place of the library that ranges over a Go map on the way to a result (the `range`
statements over maps were enumerated with go/types: 32 in the library packages; the sites are
listed in `Model/MapOrder.lean` and `Model/MapOrderCsv.lean`) is modelled with
its iteration order as an argument — ANY permutation of the map's entries — and the stdlib sorts
as ANY function that returns a sorted rearrangement (`IsSort`: no stability, no particular
algorithm).  The theorems say that the result is the same for all of them; where the code that
existed did depend on the order there is a `_counterexample` for it (aed7bc8, ce3fc9b, the seeded
change r4m1, and the three defects repaired in 3ebe783, f8b3c5f, 9a3a4c0: images of a page,
navigation document of an EPUB, header/footer regions).
-/
namespace Tabula.C03Order
open Tabula.MapOrder
open Tabula.Export (Config Chunk chunkKeys collectCSVColumns strLe sortStrings)
open Tabula.Csv (Str)

/-- **sort_algorithm_irrelevant**: two functions that both return their input rearranged and in
order — whatever their algorithms, stable or not — agree on any two arrangements of the same
elements, as long as the order is antisymmetric (numbers, strings).  This is what makes
`sort.Float64s` / `sort.Strings` / `sort.Ints` after a map range a repair of the map's order. -/
theorem sort_algorithm_irrelevant {α : Type} {le : α → α → Bool}
    (anti : ∀ a b, le a b = true → le b a = true → a = b) {s₁ s₂ : List α → List α}
    (h₁ : IsSort le s₁) (h₂ : IsSort le s₂) (l₁ l₂ : List α) (p : l₁.Perm l₂) : s₁ l₁ = s₂ l₂ :=
  sort_unique anti h₁ h₂ p

/-- the hypotheses are satisfiable: insertion sort on integers and on byte strings are sorts -/
example : IsSort leInt sortInts := isSort_sortInts
example : IsSort strLe sortStrings := Export.sortStrings_isSort
example : sortInts [3, 1, 2] = sortInts [2, 3, 1] := by decide

/-- without antisymmetry the claim is false: two sorts of records by one field (here: the stable
sort, and the stable sort of the reversed input) return tied records in different orders — this
is why `findRepeatingPatterns` needed more than its sort -/
theorem sort_ties_counterexample :
    ∃ (s₁ s₂ : List (Nat × Int) → List (Nat × Int)),
      IsSort (fun a b => decide (a.2 ≥ b.2)) s₁ ∧ IsSort (fun a b => decide (a.2 ≥ b.2)) s₂ ∧
      s₁ [(1, 0), (2, 0)] ≠ s₂ [(1, 0), (2, 0)] := by
  refine ⟨stableDesc Prod.snd, fun l => stableDesc Prod.snd l.reverse, isSort_stableDesc _, ?_, by decide⟩
  exact ⟨fun l => ((isSort_stableDesc (γ := Nat × Int) Prod.snd).perm l.reverse).trans (List.reverse_perm l),
    fun l => (isSort_stableDesc (γ := Nat × Int) Prod.snd).sorted l.reverse⟩

/-! ### `layout.(*LineDetector).calculateAdaptiveTolerance` (anchor; seeded change r4m1) -/

/-- **tolerance_order_free**: for every order in which Go yields the set of rounded baselines and
for every pair of sorting algorithms, the line-grouping tolerance is the one computed from the
fragments alone. -/
theorem tolerance_order_free (sortY sortG : List Int → List Int) (hY : IsSort leInt sortY)
    (hG : IsSort leInt sortG) (frags : List (Int × Int)) (it : List Int)
    (p : it.Perm (ySet (frags.map Prod.fst))) : toleranceVia sortY sortG frags it = tolerance frags :=
  MapOrder.tolerance_order_free sortY sortG hY hG frags it p

/-- the page of the r4m1 demonstration: glyph height 10, ten baselines 3 apart visited column by
column — compressed coordinates, tolerance from the smallest gap -/
def r4m1Page : List (Int × Int) :=
  [(1270, 100), (1210, 100), (1150, 100), (1090, 100), (1030, 100),
   (1240, 100), (1180, 100), (1120, 100), (1060, 100), (1000, 100)]

example : tolerance r4m1Page = .gap 30 := by decide

/-- **tolerance_unsorted_counterexample** (the seeded change r4m1: the `sort.Float64s(uniqueYs)`
dropped): two iteration orders of the same set of baselines give different tolerances -/
theorem tolerance_unsorted_counterexample :
    ∃ it₁ it₂ : List Int, it₁.Perm (ySet (r4m1Page.map Prod.fst)) ∧ it₂.Perm (ySet (r4m1Page.map Prod.fst)) ∧
      toleranceUnsorted r4m1Page it₁ ≠ toleranceUnsorted r4m1Page it₂ := by
  refine ⟨[1000, 1030, 1060, 1090, 1120, 1150, 1180, 1210, 1240, 1270],
          [1000, 1060, 1120, 1180, 1240, 1030, 1090, 1150, 1210, 1270], ?_, ?_, by decide⟩
  · decide
  · decide

/-! ### the majority votes (ce3fc9b) -/

/-- **vote_order_free**: the loop `if count > maxCount || (count == maxCount && bucket <
mostCommonBucket)` returns the same winner for every iteration order — for arbitrary entries -/
theorem vote_order_free (it₁ it₂ : List (Int × Int)) (p : it₁.Perm it₂) : vote it₁ = vote it₂ :=
  MapOrder.vote_order_free it₁ it₂ p

/-- **vote_winner_spec**: the winner is an entry of the counting map, no entry has more votes and
none with as many has a smaller bucket — "the most common, ties to the smaller" -/
theorem vote_winner_spec (it : List (Int × Int)) (hne : it ≠ []) (hpos : ∀ e ∈ it, e.2 > 0) :
    ((vote it).2, (vote it).1) ∈ it ∧
    ∀ e ∈ it, e.2 < (vote it).1 ∨ (e.2 = (vote it).1 ∧ (vote it).2 ≤ e.1) := by
  obtain ⟨h1, _, h3⟩ := foldl_voteStep_spec it (0, 0)
  refine ⟨h1.resolve_left fun h0 => ?_, h3⟩
  -- the start value `(0, 0)` loses against any entry, all counts being positive
  obtain ⟨e, he⟩ := List.exists_mem_of_ne_nil it hne
  have hge : GE (0, 0) (e.2, e.1) := h0 ▸ h3 e he
  have := hpos e he
  simp only [GE] at hge
  omega

example : vote [(14, 2), (21, 2), (60, 1)] = (2, 14) := by decide

/-- **vote_pinned_counterexample**: before ce3fc9b (`if count > maxCount` only) two tied margins
won in turn, depending on the iteration order -/
theorem vote_pinned_counterexample :
    votePinned [(14, 2), (21, 2)] ≠ votePinned [(21, 2), (14, 2)] := by decide

/-- the counting maps are maps: keys are distinct -/
theorem counting_map_keys_distinct (xs : List (Int × Int)) : ((countInto xs).map Prod.fst).Nodup := by
  unfold countInto
  have : ∀ (m : List (Int × Int)), (m.map Prod.fst).Nodup →
      ((xs.foldl (fun m x => bump m x.1 x.2) m).map Prod.fst).Nodup := by
    induction xs with
    | nil => intro m h; exact h
    | cons x xs ih => intro m h; exact ih _ (bump_nodup m x.1 x.2 h)
  exact this [] (by simp)

/-- **left_margin_order_free** (`detectLeftMargin`) -/
theorem left_margin_order_free (xs : List Int) (it : List (Int × Int))
    (p : it.Perm (marginCounts xs)) : detectLeftMarginVia xs it = detectLeftMargin xs := by
  simp only [detectLeftMargin, detectLeftMarginVia, vote_order_free it _ p]

/-- **dominant_alignment_order_free** (`detectDominantAlignment`) -/
theorem dominant_alignment_order_free (as : List Int) (it : List (Int × Int))
    (p : it.Perm (alignCounts as)) : detectDominantAlignmentVia as it = detectDominantAlignment as := by
  simp only [detectDominantAlignment, detectDominantAlignmentVia, vote_order_free it _ p]

/-- **body_font_size_order_free** (`detectBodyFontSize`) -/
theorem body_font_size_order_free (ps : List (Int × Int)) (it : List (Int × Int))
    (p : it.Perm (fontCounts ps)) : detectBodyFontSizeVia ps it = detectBodyFontSize ps := by
  simp only [detectBodyFontSize, detectBodyFontSizeVia, vote_order_free it _ p]

example : detectLeftMargin [72, 90, 72, 91, 300] = 14 := by decide
example : detectBodyFontSize [(24, 3), (20, 3), (36, 1)] = some 20 := by decide

/-! ### `rag.(*Exporter).collectCSVColumns` (anchor) -/

/-- **csv_columns_order_free**: the header of a CSV/TSV export is the same for every order in which
Go ranges over each chunk's metadata map (`enum`) and over the collected key set (`itKeys`), and
for every algorithm behind `sort.Strings` -/
theorem csv_columns_order_free (sortS : List Str → List Str) (hS : IsSort strLe sortS) (cfg : Config)
    (chunks : List Chunk) (enum : Chunk → List Str) (itKeys : List Str)
    (henum : ∀ c ∈ chunks, (enum c).Perm (chunkKeys cfg c))
    (hit : itKeys.Perm (collectKeysVia enum chunks [])) :
    collectCSVColumnsVia sortS cfg itKeys = collectCSVColumns cfg chunks := by
  unfold collectCSVColumnsVia collectCSVColumns Export.sortedMetaKeys
  have hp : itKeys.Perm (Export.collectKeys cfg chunks []) := by
    rw [← Export.collectKeysVia_chunkKeys]
    exact hit.trans (Export.collectKeysVia_perm enum (chunkKeys cfg) chunks henum)
  rw [sort_unique (fun a b h1 h2 => Export.strLe_antisymm h1 h2) hS Export.sortStrings_isSort hp]

/-! ### copy loops: `dictToParams`, `resolveDeep`, `withInherited`, `MergeXRefTables`, … -/

/-- **copy_loops_order_free**: `for k, v := range src { dst[k] = f(v) }` fills `dst` the same way
in every iteration order -/
theorem copy_loops_order_free {κ β γ : Type} [DecidableEq κ] (f : β → γ) (it₁ it₂ : List (κ × β))
    (p : it₁.Perm it₂) (hnd : (it₁.map Prod.fst).Nodup) (dst : FMap κ γ) :
    copyAll f it₁ dst = copyAll f it₂ dst :=
  copyAll_order_free f it₁ it₂ p hnd dst

/-- **copy_loops_spec**: … namely the transformed source value at the source's keys, the previous
content elsewhere -/
theorem copy_loops_spec {κ β γ : Type} [DecidableEq κ] (f : β → γ) (it : List (κ × β))
    (hnd : (it.map Prod.fst).Nodup) (dst : FMap κ γ) (k : κ) :
    copyAll f it dst k = match assocGet it k with | some v => some (f v) | none => dst k :=
  copyAll_lookup f it hnd dst k

example : copyAll (· + 1) [(1, 10), (2, 20)] (FMap.empty) 2 = some 21 := by decide

/-- **glyph_differences_order_free** (`NewCustomEncodingFromGlyphs`: entries without a Unicode
value are skipped) -/
theorem glyph_differences_order_free {κ β γ : Type} [DecidableEq κ] (f : β → Option γ)
    (it₁ it₂ : List (κ × β)) (p : it₁.Perm it₂) (hnd : (it₁.map Prod.fst).Nodup) (dst : FMap κ γ) :
    copySome f it₁ dst = copySome f it₂ dst := by
  refine foldl_keyed_order_free _ (fun z x y hk => ?_) it₁ it₂ p hnd dst
  cases f x.2 <;> cases f y.2 <;> simp only []
  exact set_comm z x.1 y.1 _ _ hk

/-- **list_counters_order_free**: "delete the counters of all deeper levels" while ranging over the
map (docx Markdown / Document, rag list chunks) leaves the same map in every order … -/
theorem list_counters_order_free (level : Int) (it₁ it₂ m : List (Int × Int))
    (p₁ : it₁.Perm m) (p₂ : it₂.Perm m) : deleteDeeper level it₁ m = deleteDeeper level it₂ m :=
  deleteDeeper_order_free level it₁ it₂ m p₁ p₂

/-- … namely the map without the entries of the deeper levels -/
theorem list_counters_spec (level : Int) (it m : List (Int × Int)) (p : it.Perm m) :
    deleteDeeper level it m = m.filter fun e => decide (e.1 ≤ level) :=
  deleteDeeper_spec level it m p

/-- **list_numbers_order_free**: the numbers an ordered list's items get (`createListChunk`) are
the same however Go ranges over the counters map each time it resets the deeper levels -/
theorem list_numbers_order_free (iter : List (Int × Int) → List (Int × Int)) (hiter : ∀ m, (iter m).Perm m)
    (levels : List Int) : numberItems iter levels = numberItems id levels :=
  numberFrom_order_free iter hiter _ levels

example : numberItems List.reverse [0, 1, 1, 2, 0, 1] = [1, 1, 2, 1, 2, 1] := by decide
example : ∀ m : List (Int × Int), (List.reverse m).Perm m := List.reverse_perm

/-! ### `text.(*Extractor).mergeResources` -/

/-- **merge_resources_order_free**: the resources a Form XObject runs under are the same dictionary
for every iteration order of the page's resources, the form's resources and all their
sub-dictionaries -/
theorem merge_resources_order_free (parent child itParent itChild : List (List Nat × RVal))
    (subP subC : List Nat → List (List Nat × Nat))
    (hp : itParent.Perm parent) (hc : itChild.Perm child)
    (ndp : (parent.map Prod.fst).Nodup) (ndc : (child.map Prod.fst).Nodup)
    (hsp : ∀ k, (subP k).Perm (subOf parent k)) (hsc : ∀ k, (subC k).Perm (subOf child k))
    (ndsp : ∀ k, ((subOf parent k).map Prod.fst).Nodup) (ndsc : ∀ k, ((subOf child k).map Prod.fst).Nodup) :
    mergeResourcesVia parent itParent itChild subP subC = mergeResources parent child := by
  unfold mergeResources mergeResourcesVia
  rw [copyAll_order_free toMVal itParent parent hp ((hp.map Prod.fst).symm.nodup ndp),
    foldl_set_order_free _ itChild child hc ((hc.map Prod.fst).symm.nodup ndc)]
  congr 1
  funext m e
  rw [mergeEntry_order_free _ e.2 _ _ _ _ (hsp e.1) (hsc e.1) (((hsp e.1).map Prod.fst).symm.nodup (ndsp e.1))
    (((hsc e.1).map Prod.fst).symm.nodup (ndsc e.1))]

/-- **merge_resources_spec**: the form's entry wins; `/Font`, `/XObject`, … dictionaries present on
both sides are overlaid name by name (form over page); the page's other entries stay -/
theorem merge_resources_spec (parent child : List (List Nat × RVal))
    (ndp : (parent.map Prod.fst).Nodup) (ndc : (child.map Prod.fst).Nodup) (k : List Nat) :
    mergeResources parent child k = mergeResourcesSpec parent child k :=
  mergeResources_spec parent child ndp ndc k

/-- **nav_document_order_free** (`findNavDocument`, `findNCX` after the repair: keys of the matching
manifest items sorted, the smallest taken) -/
theorem nav_document_order_free {κ β : Type} [DecidableEq κ] {leK : κ → κ → Bool}
    (anti : ∀ a b, leK a b = true → leK b a = true → a = b)
    {s₁ s₂ : List κ → List κ} (h₁ : IsSort leK s₁) (h₂ : IsSort leK s₂) (p : β → Bool)
    (it₁ it₂ : List (κ × β)) (h : it₁.Perm it₂) (hnd : (it₁.map Prod.fst).Nodup) :
    minMatch s₁ p it₁ = minMatch s₂ p it₂ := by
  unfold minMatch
  rw [sort_unique anti h₁ h₂ (filter_keys_perm p it₁ it₂ h)]
  cases s₂ ((it₂.filter fun e => p e.2).map Prod.fst) with
  | nil => rfl
  | cons k _ => simp only [assocGet_perm it₁ it₂ h hnd k]

example : minMatch sortInts (fun b => b) [(3, true), (1, false), (2, true)] = some (2, true) := by decide

/-- **nav_document_pinned_counterexample**: `for _, item := range manifest { if nav(item) { return
&item } }` — a package with two navigation documents got its table of contents from either -/
theorem nav_document_pinned_counterexample :
    firstMatch (fun (b : Bool) => b) [(1, true), (2, true)] ≠ firstMatch (fun (b : Bool) => b) [(2, true), (1, true)] := by
  decide

/-- **page_images_order_free** (`ExtractPageImages` after the repair: names sorted, then visited) -/
theorem page_images_order_free {κ β γ : Type} [DecidableEq κ] {leK : κ → κ → Bool}
    (anti : ∀ a b, leK a b = true → leK b a = true → a = b)
    {s₁ s₂ : List κ → List κ} (h₁ : IsSort leK s₁) (h₂ : IsSort leK s₂) (f : κ → β → Option γ)
    (it₁ it₂ : List (κ × β)) (h : it₁.Perm it₂) (hnd : (it₁.map Prod.fst).Nodup) :
    collectSorted s₁ f it₁ = collectSorted s₂ f it₂ :=
  collectSorted_order_free anti h₁ h₂ f it₁ it₂ h hnd

/-- **page_images_pinned_counterexample**: the list built in iteration order differs between two
orders of the same XObject dictionary … -/
theorem page_images_pinned_counterexample :
    collectPinned (fun (k : Int) (v : Int) => some (k, v)) [(1, 10), (2, 20)]
      ≠ collectPinned (fun (k : Int) (v : Int) => some (k, v)) [(2, 20), (1, 10)] := by decide

/-- … **page_images_pinned_same_set**: but only in arrangement — the elements are the same -/
theorem page_images_pinned_same_set {κ β γ : Type} (f : κ → β → Option γ) (it₁ it₂ : List (κ × β))
    (h : it₁.Perm it₂) : (collectPinned f it₁).Perm (collectPinned f it₂) :=
  h.filterMap _

/-- **hf_regions_order_free** (`findRepeatingPatterns` after the repair: groups visited in the
order of their normalised text, regions sorted stably by confidence): the list of header/footer
regions — `GetHeaderTexts`, `Summary` — is the same for every iteration order of `groups` -/
theorem hf_regions_order_free {κ β γ : Type} [DecidableEq κ] {leK : κ → κ → Bool}
    (anti : ∀ a b, leK a b = true → leK b a = true → a = b)
    {s₁ s₂ : List κ → List κ} (h₁ : IsSort leK s₁) (h₂ : IsSort leK s₂) (f : κ → β → Option γ)
    (score : γ → Int) (it₁ it₂ : List (κ × β)) (h : it₁.Perm it₂) (hnd : (it₁.map Prod.fst).Nodup) :
    regionsSorted s₁ f score it₁ = regionsSorted s₂ f score it₂ := by
  unfold regionsSorted
  rw [collectSorted_order_free anti h₁ h₂ f it₁ it₂ h hnd]

/-- … and is in order of confidence -/
theorem hf_regions_sorted {κ β γ : Type} [DecidableEq κ] (sortK : List κ → List κ) (f : κ → β → Option γ)
    (score : γ → Int) (it : List (κ × β)) :
    (regionsSorted sortK f score it).Pairwise (fun a b => score a ≥ score b) :=
  ((isSort_stableDesc score).sorted _).imp of_decide_eq_true

/-- **hf_regions_pinned_counterexample**: regions appended in iteration order and then sorted by
confidence alone (any sort, `sort.Slice` included) — equally confident regions came out in
either order -/
theorem hf_regions_pinned_counterexample :
    stableDesc (fun (r : Int × Int) => r.2) (collectPinned (fun (k : Int) (v : Int) => some (k, v)) [(1, 7), (2, 7)])
      ≠ stableDesc (fun (r : Int × Int) => r.2) (collectPinned (fun (k : Int) (v : Int) => some (k, v)) [(2, 7), (1, 7)]) := by
  decide

example : regionsSorted sortInts (fun (k : Int) (v : Int) => some (k, v)) (fun r => r.2) [(2, 7), (1, 7), (3, 9)]
    = [(3, 9), (1, 7), (2, 7)] := by decide

end Tabula.C03Order
