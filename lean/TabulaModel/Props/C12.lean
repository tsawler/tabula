import TabulaModel.Lemmas.ChunkOpenSpec
import TabulaModel.Lemmas.ChunkLayoutFull
/-!
# C12 — RAG chunks cover the document once, in order, with true metadata

Theorems about the models of `Model/Chunk.lean` (element-based chunker,
`rag.ChunkDocument`) and `Model/ChunkLayout.lean` (layout-based chunker,
`rag.NewChunker().Chunk`). Helper lemmas: `Lemmas/Chunk.lean`, `Lemmas/ChunkOpenSpec.lean`,
`Lemmas/ChunkLayout*.lean`.

`sp` is the text splitter at its call boundary (`IsAboveMax` + `SplitToSize`, property C13);
the only thing assumed about it is `SplitOK sp`: the pieces concatenate to the input, white
space aside.
-/
namespace Tabula.C12
open Tabula.Chunk

/-- **Cover.** Concatenating the chunk texts in index order gives, white space aside, exactly
the concatenation of what every element of the document renders to (heading text, paragraph
text, formatted list, markdown table, `[Image: alt]`; an image without alt text renders to
nothing), in document order: nothing dropped, nothing repeated, nothing reordered. -/
theorem doc_chunks_cover (sp : Splitter) (hsp : SplitOK sp) (d : Doc) :
    strip (textsOf (chunkDocument sp d)) = strip ((d.flatMap (·.elems)).flatMap render) := by
  unfold chunkDocument chunkDocumentWith
  rw [setTotal_texts]
  exact pagesOK_texts d _ (chunkPages_ok stackTracker sp hsp (tableOfContents d) (initSt stackTracker) rfl d).1

/-- non-vacuity of `SplitOK`: a splitter that cuts `"ab cd"` at the blank -/
example : SplitOK (fun t => if t = [97, 98, 32, 99, 100] then some [[97, 98], [99, 100]] else none) := by
  intro t ps h
  simp only at h
  split at h
  · rename_i e; cases h; subst e; decide
  · cases h

/-- what the rendering of a list contains: every item's text once, in order, each on its own
line behind its indentation and marker -/
theorem list_render_items (items : List (Int × Str)) :
    ∃ marks : List Str, marks.length = items.length ∧
      fmtListItems false items [] (-1) =
        (marks.zip items).flatMap (fun m => m.1 ++ m.2.2 ++ [10]) :=
  fmtListItems_lines false items [] (-1)

/-- **Indices, ids, total.** Chunk indices are `0..n-1` in order, ids are pairwise distinct and
every chunk reports `n` as the total. -/
theorem indices_ids_total (sp : Splitter) (hsp : SplitOK sp) (d : Doc) :
    (chunkDocument sp d).map (·.idx) = List.range (chunkDocument sp d).length ∧
    ((chunkDocument sp d).map (·.id)).Nodup ∧
    ∀ c ∈ chunkDocument sp d, c.total = (chunkDocument sp d).length :=
  ⟨(chunkDocument_numbering sp d).1, (chunkDocument_numbering sp d).2.2⟩

/-- **Page range.** The chunks fall into consecutive groups, one per page in page order
(`pageGroups`; `chunkDocument` is their concatenation with the total stamped on). Every chunk
of the group of page `p` reports `PageStart = PageEnd = p.number`, and the group covers exactly
the elements of `p` — so the reported page is the page the chunk's content came from. -/
theorem page_range_true (sp : Splitter) (hsp : SplitOK sp) (d : Doc) :
    chunkDocument sp d = setTotal (pageGroups stackTracker sp d).flatten ∧
    PagesOK d (pageGroups stackTracker sp d) :=
  ⟨rfl, (chunkPages_ok stackTracker sp hsp (tableOfContents d) (initSt stackTracker) rfl d).1⟩

/-- `PagesOK` spelled out for a two-page document -/
example (p q : Page) (g h : List Chunk) (hh : PagesOK [p, q] [g, h]) :
    (∀ c ∈ h, c.pageStart = q.number ∧ c.pageEnd = q.number) ∧
      strip (textsOf h) = strip (q.elems.flatMap render) := hh.2.1

/-- **Section path.** The chunker that keeps a stack of open headings (`pushSection`: pop
while the innermost open heading's level is >= the new level, then push) produces exactly the
chunks of the specification chunker `histTracker`, whose section path is read off the full
history of headings seen so far by `openSpec`: heading `h` is in the path iff every heading
after it is strictly deeper (`open_iff`). Holds for every sequence of levels, skipped levels
included. -/
theorem section_path_enclosing (sp : Splitter) (d : Doc) :
    chunkDocument sp d = chunkDocumentWith histTracker sp d := by
  unfold chunkDocument chunkDocumentWith pageGroups
  rw [chunkPages_sim stackTracker histTracker StackRel stack_sim sp (tableOfContents d)
    (initSt stackTracker) (initSt histTracker) ⟨rfl, rfl, rfl, rfl⟩ d]

/-- what `openSpec` means: a heading of the history is on the path iff all later headings are
strictly deeper; the path keeps the order of the document -/
theorem open_iff (hs : List H) (h : H) :
    h ∈ openSpec hs ↔ ∃ pre post, hs = pre ++ h :: post ∧ ∀ r ∈ post, h.1 < r.1 :=
  mem_openSpec hs h

theorem open_in_order (hs : List H) : (openSpec hs).Sublist hs := openSpec_sublist hs

/-- skipped levels: H1 a, H3 b, H3 c leaves [a, c]; H2 a, H1 b leaves [b]
(the pinned code produced [a, b, c] and [a, b]) -/
example :
    ((chunkDocument (fun _ => none) [⟨1, none, [.heading 1 [97], .heading 3 [98], .heading 3 [99], .para [120]]⟩]).map (·.path))
      = [[[97]], [[97], [98]], [[97], [99]], [[97], [99]]] ∧
    ((chunkDocument (fun _ => none) [⟨1, none, [.heading 2 [97], .heading 1 [98]]⟩]).map (·.path))
      = [[[97]], [[98]]] := by decide +kernel

/-- a heading text that recurs on one page at another level, both delivered as heading-like
paragraphs: Layout.Headings = [H2 a, H4 a], elements a, x, a, y. The second `a` takes the level
of its own entry (4) and nests under the first (`resolveRepeatedHeadings`; matched by text alone
the pinned code gave it level 2 and the path [a]). On the next page the same text is matched
with the entries of that page. -/
example :
    ((chunkDocument (fun _ => none)
        [⟨1, some [(2, [97]), (4, [97])], [.para [97], .para [120], .para [97], .para [121]]⟩,
         ⟨2, some [(3, [97])], [.para [97], .para [122]]⟩]).map (·.path))
      = [[[97]], [[97]], [[97], [97]], [[97], [97]], [[97], [97]], [[97], [97]]] := by decide +kernel

/-- **Paths are not reached by later content** (the value-level form of "not aliased"): for a
fixed table of contents, the chunks of the first pages — texts, indices and section paths —
are the same whatever pages follow, and within a page the chunks emitted for the first
elements are the same whatever elements follow. The Go-level hazard (chunks sharing the
backing array of the running path) has no counterpart in a value model; it is covered by the
oracle `C12/path-aliased` and by the correspondence on `SectionPath`. -/
theorem paths_not_aliased (sp : Splitter) (toc : List TOCEntry) (st : St (List H))
    (ps later : List Page) :
    (chunkPages stackTracker sp toc st (ps ++ later)).take ps.length =
      chunkPages stackTracker sp toc st ps := by
  rw [chunkPages_append]
  exact List.take_left' (chunkPages_length _ _ _ _ _)

theorem paths_not_aliased_in_page (sp : Splitter) (toc : List TOCEntry) (page : Int)
    (st : St (List H)) (es later : List Elem) :
    ∃ more, (runElems stackTracker sp toc page st (es ++ later)).2 =
      (runElems stackTracker sp toc page st es).2 ++ more := by
  rw [runElems_append]
  exact ⟨_, rfl⟩

open Tabula.ChunkLayout

/-- **Sections lose nothing and every section is emitted** (all documents, all configurations).
`buildSections` puts every paragraph, every list and every heading that opens no section into
exactly one section, in canonical order (per page: such headings, paragraphs, lists), and
`Chunk` runs `chunkSection` once on every section of the tree — subsections included — in
document order (`chunkFlat` over the pre-order flattening). This is the part of the chunker
where the pinned code lost content (subsections never emitted; preamble closed by a minor
heading). -/
theorem layout_sections_cover (cfg : Cfg) (d : LDoc) :
    secContents (flatForest (buildSections cfg d)) = canon cfg d ∧
    ∀ idx, chunkForest cfg (buildSections cfg d) idx = chunkFlat cfg (flatForest (buildSections cfg d)) idx :=
  ⟨buildSections_contents cfg d, chunkForest_flat cfg (buildSections cfg d)⟩

/- Full statement (kept; not provable for the code as it is):
     ∀ cfg title d, (∀ e ∈ canon cfg d, SentsOK cfg e) →
       strip (textsOf (chunk cfg title d)) = strip (ceTexts (canon cfg d))
   What is missing in `layout_chunker_cover_partial` is the hypothesis `ListFits`: when a list
   longer than MaxChunkSize follows its introducing paragraph, the code emits the list's sentence
   chunks before the pending paragraph (`atomicOversize` appends to `chunks` while `currentText`
   is non-empty), so the canonical order is not kept there — `layout_reorder_counterexample`.
   The property does not demand an order between paragraphs and lists for this chunker
   (its input type has none); per-kind order and exactly-once are checked by the oracles
   `C12/layout-chunker-cover-*` / `-order-*` and the model is compared with the implementation
   on every generated case, the reordering included. -/

/-- **Cover, layout-based chunker** (`Chunker.Chunk`, fallback `chunkByParagraphs` included),
for every document and configuration in which the sentence splitter conserves the texts it is
applied to (`SentsOK`) and no list exceeds `MaxChunkSize` (`ListFits`): the chunk texts
concatenate, white space aside, to the document's paragraphs, lists and non-section headings
in canonical order (per page: such headings, paragraphs, lists) — whatever the nesting of the
headings, with sections split by paragraphs and sentences, orphan chunks merged into their
predecessor, and lists kept with their introductions. -/
theorem layout_chunker_cover_partial (cfg : Cfg) (title : Str) (d : LDoc) (h : ParamsOK cfg d) :
    strip (textsOf (chunk cfg title d)) = strip (ceTexts (canon cfg d)) := by
  rw [chunk_cover_full cfg title d fun e he => (h e he).1, emitted_of_listFits cfg d fun e he => (h e he).2]

/-- the same for documents whose sections need no splitting, with no hypothesis on the
parameters -/
theorem layout_chunker_cover_fits (cfg : Cfg) (d : LDoc)
    (hfit : ∀ x ∈ flatForest (buildSections cfg d), Fits cfg x.2) :
    strip (textsOf (chunkForest cfg (buildSections cfg d) 0)) = strip (ceTexts (canon cfg d)) := by
  rw [chunkForest_flat, ← buildSections_contents]
  exact chunkFlat_cover cfg id _ (fun x hx => sectionCover_of_fits cfg x.1 x.2 (hfit x hx)) 0

/-- `ParamsOK` is satisfiable with a paragraph that is split by sentences (max 4: "ab. cd." is
cut into "ab." and "cd.") and a list -/
example :
    let cfg : Cfg := ⟨4, 0, 3, true, [99]⟩
    let d : LDoc := [⟨1, some ⟨[⟨1, [65], []⟩], [⟨[97, 98, 46, 32, 99, 100, 46], false, [[97, 98, 46], [99, 100, 46]]⟩],
                                  [⟨[(0, [121])], []⟩]⟩⟩]
    ParamsOK cfg d ∧ (chunk cfg [] d).map (·.text) = [[97, 98, 46], [99, 100, 46], [45, 32, 121]] := by
  refine ⟨?_, by decide +kernel⟩
  intro e he
  simp only [canon, pageCanon, List.flatMap_cons, List.flatMap_nil, List.append_nil] at he
  have : e = paraCE 1 ⟨[97, 98, 46, 32, 99, 100, 46], false, [[97, 98, 46], [99, 100, 46]]⟩ ∨
      e = listCE 1 ⟨[(0, [121])], []⟩ := by
    simpa [isMinor, headingCE] using he
  rcases this with rfl | rfl
  · exact ⟨fun _ => by decide, fun hk => by cases hk⟩
  · exact ⟨fun hg => by revert hg; decide, fun _ => by decide⟩

/-- **The reordering that `ListFits` excludes** (max 8): paragraph "a:" introduces a list whose
text is longer than the maximum; the list's sentence chunk comes out before the paragraph. -/
theorem layout_reorder_counterexample :
    let cfg : Cfg := ⟨8, 0, 3, true, [99]⟩
    let l : Str := [45, 32, 98, 99, 100, 101, 102, 103, 104]
    let d : LDoc := [⟨1, some ⟨[], [⟨[97, 58], true, []⟩], [⟨[(0, [98, 99, 100, 101, 102, 103, 104])], [l]⟩]⟩⟩]
    (chunk cfg [] d).map (·.text) = [l, [97, 58]] := by decide +kernel

/-- the hypothesis is satisfiable by a document with nested sections: H1, para, H2, para, list -/
example :
    let cfg : Cfg := ⟨2000, 100, 3, true, [99]⟩
    let d : LDoc := [⟨1, some ⟨[⟨1, [65], []⟩, ⟨2, [66], []⟩], [⟨[120], false, []⟩], [⟨[(0, [121])], []⟩]⟩⟩]
    (∀ x ∈ flatForest (buildSections cfg d), Fits cfg x.2) ∧
      (chunk cfg [] d).map (·.text) = [[120, 10, 10, 45, 32, 121]] ∧
      (chunk cfg [] d).map (·.path) = [[[65], [66]]] := by decide +kernel

/-- **Counterexample to full cover for the layout-based chunker** (known finding
`C12/layout-chunker-cover-missing-heading`): a heading that opens a section is never part of a
chunk text — for `H1 "A"`, paragraph `"x"` the only chunk text is `"x"`; `"A"` survives only as
the section path. -/
theorem layout_heading_counterexample :
    let cfg : Cfg := ⟨2000, 100, 3, true, [99]⟩
    let d : LDoc := [⟨1, some ⟨[⟨1, [65], []⟩], [⟨[120], false, []⟩], []⟩⟩]
    (chunk cfg [] d).map (·.text) = [[120]] ∧ (chunk cfg [] d).map (·.path) = [[[65]]] := by decide +kernel

/-- subsections are emitted (the pinned code lost `y`): H1 A, para x on page 1; H2 B, para y on page 2 -/
example :
    let cfg : Cfg := ⟨2000, 100, 3, true, [99]⟩
    let d : LDoc := [⟨1, some ⟨[⟨1, [65], []⟩], [⟨[120], false, []⟩], []⟩⟩,
                     ⟨2, some ⟨[⟨2, [66], []⟩], [⟨[121], false, []⟩], []⟩⟩]
    (chunk cfg [] d).map (fun c => (c.idx, c.text, c.path, c.pageStart, c.pageEnd, c.total)) =
      [(0, [120], [[65]], 1, 1, 2), (1, [121], [[65], [66]], 2, 2, 2)] := by decide +kernel

end Tabula.C12
