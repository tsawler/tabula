import TabulaModel.Props.C13Units
/-!
# C13 — when a text is returned whole, sizes against the byte length, boundary shifts

About `Model/Split.lean` (`rag/size_config.go`):

* every size metric of `GetSize` is at most the byte length (tokens: at most one token per
  byte), hence a text of at most `Max.Value` bytes is never split, in any of the five units;
* `SplitToSize` returns the text whole (one piece, untouched) EXACTLY when the text is not
  empty and is within the maximum or the split point search returns 0 or the end of the text;
  in every other case it returns something else (strict progress of the loop seen from outside);
* the shifts `adjustBoundaryPositions` applies in successive iterations compose to one shift by
  the total number of bytes consumed, and no shifted boundary sits at position 0;
* `findBestBoundaryNear` returns no boundary exactly when no boundary in the window has a score
  above -1 (the converse of `findBestBoundaryNear_none`).
-/
set_option linter.unusedVariables false
namespace Tabula.C13More
open Tabula.Split

theorem countWordsAux_le (fuel : Nat) :
    ∀ (s : Str) (inW : Bool) (w : Nat), countWordsAux fuel s inW w ≤ w + fuel := by
  induction fuel with
  | zero => intro s inW w; simp [countWordsAux]
  | succ n ih =>
    intro s inW w
    simp only [countWordsAux]
    split
    · omega
    · split
      · have := ih (s.drop (spaceLen s)) false w; omega
      · split
        · have := ih (s.drop (runeLen s)) true w; omega
        · have := ih (s.drop (runeLen s)) true (w + 1); omega

/-- `countWords` counts at most one word per byte -/
theorem count_words_le_bytes (s : Str) : countWords s ≤ s.length := by
  have := countWordsAux_le s.length s false 0
  unfold countWords
  omega

theorem countSentencesAux_le (s : Str) :
    ∀ (first inS : Bool) (count : Nat),
      countSentencesAux s first inS count ≤ count + s.length + (if inS then 1 else 0) := by
  intro first inS count
  fun_induction countSentencesAux s first inS count
  case case1 => simp
  case case2 => omega
  -- a sentence is closed: one more, and none is open behind it
  case case3 ih =>
    simp only [Bool.false_eq_true, if_false, List.length_cons] at ih ⊢
    omega
  case case4 ih =>
    simp only [Bool.false_eq_true, if_false, List.length_cons] at ih ⊢
    omega
  -- otherwise the count stays, whatever becomes of the open sentence
  case case5 ih =>
    simp only [List.length_cons] at ih ⊢
    split at ih <;> omega
  case case6 ih =>
    simp only [List.length_cons] at ih ⊢
    split at ih <;> omega
  case case7 ih =>
    simp only [List.length_cons] at ih ⊢
    split at ih <;> omega

/-- `countSentences` counts at most one sentence per byte -/
theorem count_sentences_le_bytes (s : Str) : countSentences s ≤ s.length := by
  have := countSentencesAux_le s true false 0
  unfold countSentences
  simpa using this

theorem splitParagraphs_length (s acc : Str) : 2 * (splitParagraphs s acc).length ≤ s.length + 2 := by
  induction s, acc using splitParagraphs.induct with
  | case1 acc => simp [splitParagraphs]
  | case2 c acc => simp [splitParagraphs]
  | case3 c d rest acc h ih =>
    rw [splitParagraphs, if_pos h]; simp only [List.length_cons]; omega
  | case4 c d rest acc h ih =>
    rw [splitParagraphs, if_neg h]; simp only [List.length_cons] at ih ⊢; omega

/-- `countParagraphs` counts at most one paragraph per byte -/
theorem count_paragraphs_le_bytes (s : Str) : countParagraphs s ≤ s.length := by
  unfold countParagraphs
  by_cases h : s = []
  · simp [h]
  · rw [if_neg h]
    simp only
    have hs : 0 < s.length := List.length_pos_iff.mpr h
    by_cases ht : trimSpace s = []
    · rw [if_pos ht]; omega
    · rw [if_neg ht]
      have h2 := splitParagraphs_length (trimSpace s) []
      have h3 := trimSpace_length_le s
      have h4 : 0 < (trimSpace s).length := List.length_pos_iff.mpr ht
      have h1 : ∀ p : Str → Bool, ((splitParagraphs (trimSpace s) []).filter p).length
          ≤ (splitParagraphs (trimSpace s) []).length := fun p => List.length_filter_le _ _
      split
      · omega
      · exact Nat.le_trans (h1 _) (by omega)

/-- **size_le_bytes.** For every text (any bytes) and every unit, `GetSize(text, unit)` is at
most `len(text)`: characters are bytes, and there is at most one word, one sentence, one
paragraph per byte; for tokens this holds whenever the estimate is at most one token per byte
(every preset: 0.25). -/
theorem size_le_bytes (c : SizeConfig) (s : Str) (u : SizeUnit)
    (hr : u = .tokens → c.ratio.1 ≤ c.ratio.2) : getSize c s u ≤ s.length := by
  cases u with
  | characters => exact Nat.le_refl _
  | tokens =>
    simp only [getSize, estimateTokens]
    exact Nat.div_le_of_le_mul (by rw [Nat.mul_comm]; exact Nat.mul_le_mul_right _ (hr rfl))
  | words => exact count_words_le_bytes s
  | sentences => exact count_sentences_le_bytes s
  | paragraphs => exact count_paragraphs_le_bytes s

/-- **short_text_whole.** A non-empty text of at most `Max.Value` bytes is returned as the only
piece, untouched, for EVERY unit of the maximum (words, sentences and paragraphs included), every
boundary list and every bytes — the limit in any unit is never stricter than the same number of
bytes. -/
theorem short_text_whole (c : SizeConfig) (text : Str) (bs : List Boundary) (hne : text ≠ [])
    (hlen : text.length ≤ c.maxValue) (hr : c.maxUnit = .tokens → c.ratio.1 ≤ c.ratio.2) :
    splitToSize c text bs = [text] := by
  apply Tabula.C13Api.split_within_max c text bs hne
  have := size_le_bytes c text c.maxUnit hr
  simp only [isAboveMax, decide_eq_false_iff_not]
  omega

/-- non-vacuity: two sentences of 11 bytes at a maximum of 11 sentences / 11 words / 11 paragraphs -/
example :
    let text : Str := [72, 105, 46, 32, 72, 111, 46, 32, 79, 107, 46]
    (∀ u ∈ [SizeUnit.characters, .tokens, .words, .sentences, .paragraphs],
      splitToSize { maxValue := 11, maxUnit := u, tpcNum := 1, tpcDen := 4, sem := true } text [⟨4, 70⟩] = [text])
    ∧ countSentences text = 3 ∧ countWords text = 3 := by decide +kernel

/-- every preset estimates at most one token per byte, so `short_text_whole` applies to each -/
theorem short_text_whole_presets (name : String) (c : SizeConfig) (hc : presetByName name = some c)
    (text : Str) (bs : List Boundary) (hne : text ≠ []) (hlen : text.length ≤ c.maxValue) :
    splitToSize c text bs = [text] := by
  apply short_text_whole c text bs hne hlen
  intro _
  exact presetByName_forall (P := fun c => c.ratio.1 ≤ c.ratio.2) (by decide) hc

example : (presetByName "cohere").map (·.maxValue) = some 512 := by
  decide

/-- **split_whole_iff.** `SplitToSize(text, boundaries)` is the one-piece list `[text]` EXACTLY
when the text is not empty and (it is within the maximum, or the split point search returns 0,
or it returns the end of the text or beyond).  In particular, whenever the loop takes a split
point strictly inside the text the result differs from `[text]`: a text above the maximum with a
usable split point is really split (or shortened by trimming), for any bytes, units, boundaries. -/
theorem split_whole_iff (c : SizeConfig) (text : Str) (bs : List Boundary) :
    splitToSize c text bs = [text] ↔
      text ≠ [] ∧ (isAboveMax c text = false
        ∨ findSplitPointAt c text bs c.maxValue c.maxUnit = 0
        ∨ findSplitPointAt c text bs c.maxValue c.maxUnit ≥ text.length) := by
  refine ⟨fun h => ?_, fun ⟨hne, h⟩ => splitToSize_whole hne h⟩
  have hne : text ≠ [] := by
    rintro rfl; rw [splitToSize_nil] at h; cases h
  refine ⟨hne, Classical.byContradiction fun hw => ?_⟩
  -- otherwise the loop cuts strictly inside the text, and what it returns is shorter
  obtain ⟨ha, hbc⟩ := not_or.mp hw
  obtain ⟨h0, hlt⟩ := not_or.mp hbc
  have habove : isAboveMax c text = true := by simpa using ha
  rw [splitToSize_step rfl habove (by omega) (by omega)] at h
  generalize findSplitPointAt c text bs c.maxValue c.maxUnit = sp at h h0 hlt
  have hR := (splitToSize_pieces c (trimSpace (text.drop sp))
    (adjustBoundaryPositions bs (sp + leadingSpace (text.drop sp)))).length_le
  have h1 := trimSpace_length_le (text.drop sp)
  have h2 := trimSpace_length_le (text.take sp)
  simp only [List.length_drop, List.length_take] at h1 h2
  unfold emit at h
  split at h
  · rw [List.nil_append] at h
    rw [h] at hR
    simp only [List.map_cons, List.map_nil, List.sum_cons, List.sum_nil] at hR
    omega
  · rw [(List.cons.inj h).1] at h2
    omega

/-- non-vacuity, both sides: "aaa bbb ccc" at 5 characters is split (the split point is 4, inside
the text), at 11 it is returned whole -/
example :
    let c5 : SizeConfig := { maxValue := 5, maxUnit := .characters, tpcNum := 1, tpcDen := 4, sem := true }
    let c11 : SizeConfig := { maxValue := 11, maxUnit := .characters, tpcNum := 1, tpcDen := 4, sem := true }
    let text : Str := [97, 97, 97, 32, 98, 98, 98, 32, 99, 99, 99]
    splitToSize c5 text [] = [[97, 97, 97], [98, 98, 98], [99, 99, 99]]
      ∧ splitToSize c11 text [] = [text]
      ∧ findSplitPointAt c5 text [] 5 .characters = 4 := by decide +kernel

/-- **split_really_splits.** A consequence in the direction the property needs: under the
hypotheses of the size bound a text above the maximum is never returned whole. -/
theorem split_really_splits (c : SizeConfig) (text : Str)
    (hunit : c.maxUnit = .characters ∨ c.maxUnit = .tokens)
    (hM : 200 ≤ c.maxValue) (hratio : c.ratio.1 ≤ 4 * c.ratio.2) (hs : Spaced text)
    (habove : isAboveMax c text = true) : splitToSize c text [] ≠ [text] := by
  intro h
  have hb := Tabula.C13.split_bound c text hunit hM hratio hs text (by rw [h]; simp)
  simp only [isAboveMax, decide_eq_true_eq] at habove
  omega

theorem adjust_cons (x : Boundary) (xs : List Boundary) (o : Nat) :
    adjustBoundaryPositions (x :: xs) o =
      if x.pos > o then { x with pos := x.pos - o } :: adjustBoundaryPositions xs o
      else adjustBoundaryPositions xs o := by
  unfold adjustBoundaryPositions
  by_cases h : x.pos > o <;> simp [h]

/-- **adjust_boundaries_compose.** Shifting the boundaries by `a` and then by `b` is shifting
them by `a + b`: after any number of iterations of `SplitToSize` the boundary list is the
caller's list shifted ONCE by the total number of bytes consumed so far (split positions plus
trimmed white space) — positions never drift, whatever the sequence of split points. -/
theorem adjust_boundaries_compose (bs : List Boundary) (a b : Nat) :
    adjustBoundaryPositions (adjustBoundaryPositions bs a) b = adjustBoundaryPositions bs (a + b) := by
  -- a filter behind a map behind a filter: the library moves the filters together
  unfold adjustBoundaryPositions
  rw [List.filter_map, List.filter_filter, List.map_map]
  congr 1
  · funext x; simp [Nat.sub_sub]
  · exact List.filter_congr fun x _ => by
      simp only [Function.comp]; rw [Bool.eq_iff_iff]; simp; omega

/-- **adjust_boundaries_spec.** What one shift keeps: exactly the boundaries strictly behind the
offset, moved back by it, scores untouched; so a shifted boundary is never at position 0
(`adjust_boundaries_positive`). -/
theorem adjust_boundaries_spec (bs : List Boundary) (o : Nat) (b' : Boundary) :
    b' ∈ adjustBoundaryPositions bs o ↔ ∃ b ∈ bs, o < b.pos ∧ b' = ⟨b.pos - o, b.score⟩ := by
  unfold adjustBoundaryPositions
  simp only [List.mem_map, List.mem_filter, decide_eq_true_eq]
  constructor
  · rintro ⟨b, ⟨hb, hpos⟩, rfl⟩; exact ⟨b, hb, hpos, rfl⟩
  · rintro ⟨b, hb, hpos, rfl⟩; exact ⟨b, ⟨hb, hpos⟩, rfl⟩

theorem adjust_boundaries_positive (bs : List Boundary) (o : Nat) :
    ∀ b' ∈ adjustBoundaryPositions bs o, 0 < b'.pos := by
  intro b' hb'
  obtain ⟨b, _, hpos, rfl⟩ := (adjust_boundaries_spec bs o b').mp hb'
  show 0 < b.pos - o
  omega

example : (adjustBoundaryPositions (adjustBoundaryPositions [⟨3, 100⟩, ⟨9, 70⟩, ⟨20, 50⟩] 4) 5).map (fun b => (b.pos, b.score))
    = [(11, 50)] ∧ (adjustBoundaryPositions [⟨3, 100⟩, ⟨9, 70⟩, ⟨20, 50⟩] 9).map (fun b => (b.pos, b.score)) = [(11, 50)] := by decide

/-- **best_boundary_none_iff.** `findBestBoundaryNear` returns no boundary EXACTLY when every
boundary within `position ± tolerance` has a score of at most -1 (no `BoundaryType` has one: the
scores of boundary.go are 0…100): with the lists `DetectBoundaries` returns the sentence/word
search is reached only when the window holds no boundary at all. -/
theorem best_boundary_none_iff (bs : List Boundary) (position tolerance : Nat) :
    findBestBoundaryNear bs position tolerance = none ↔
      ∀ x ∈ bs, position - tolerance ≤ x.pos → x.pos ≤ position + tolerance → x.score ≤ -1 := by
  constructor
  · intro h x hx hlo hhi
    exact findBestBoundaryNear_none h x hx ⟨hlo, hhi⟩
  · intro h
    cases hb : findBestBoundaryNear bs position tolerance with
    | none => rfl
    | some b =>
      obtain ⟨hm, hw, hs, _⟩ := findBestBoundaryNear_some hb
      have := h b hm hw.1 hw.2
      omega

example : findBestBoundaryNear [⟨3, 100⟩, ⟨40, 70⟩] 20 5 = none
    ∧ (findBestBoundaryNear [⟨3, 100⟩, ⟨22, 70⟩] 20 5).map (·.pos) = some 22 := by decide

theorem findSplitPointAt_negative_scores (c : SizeConfig) (text : Str) (bs : List Boundary)
    (hneg : ∀ b ∈ bs, b.score ≤ -1) (limit : Nat) (u : SizeUnit) :
    findSplitPointAt c text bs limit u = findSplitPointAt c text [] limit u := by
  have hb : findBestBoundaryNear bs (targetPosOf c limit u) (targetPosOf c limit u / 4) = none :=
    (best_boundary_none_iff _ _ _).mpr (fun x hx _ _ => hneg x hx)
  unfold findSplitPointAt
  simp [hb]

theorem adjust_keeps_negative (bs : List Boundary) (o : Nat) (hneg : ∀ b ∈ bs, b.score ≤ -1) :
    ∀ b ∈ adjustBoundaryPositions bs o, b.score ≤ -1 := by
  intro b' hb'
  obtain ⟨b, hb, _, rfl⟩ := (adjust_boundaries_spec bs o b').mp hb'
  exact hneg b hb

/-- **split_ignores_negative_scores.** Boundaries whose score is at most -1 are never used:
`SplitToSize(text, boundaries)` is then `SplitToSize(text, nil)` through the whole loop, for any
positions (inside characters included), any bytes, units and limits — so UTF-8 integrity
(`split_utf8`) and the hard maximum (`split_bound`) hold for such lists as for `nil`.  Together
with `split_without_sem` these are the two ways a boundary list is inert. -/
theorem split_ignores_negative_scores (c : SizeConfig) (text : Str) (bs : List Boundary)
    (hneg : ∀ b ∈ bs, b.score ≤ -1) : splitToSize c text bs = splitToSize c text [] :=
  splitToSize_eq_nil_of (Good := fun bs => ∀ b ∈ bs, b.score ≤ -1)
    (fun bs n h => adjust_keeps_negative bs n h)
    (fun text bs h => findSplitPointAt_negative_scores c text bs h _ _) text bs hneg

/-- non-vacuity: a boundary of score -1 inside the window (position 4 of "aaa bbb ccc" at 5) is
not used, the same boundary with score 0 is -/
example :
    let c5 : SizeConfig := { maxValue := 5, maxUnit := .characters, tpcNum := 1, tpcDen := 4, sem := true }
    let text : Str := [97, 97, 97, 32, 98, 98, 98, 32, 99, 99, 99]
    splitToSize c5 text [⟨5, -1⟩] = splitToSize c5 text []
      ∧ splitToSize c5 text [⟨5, 0⟩] ≠ splitToSize c5 text [] := by decide +kernel

end Tabula.C13More
