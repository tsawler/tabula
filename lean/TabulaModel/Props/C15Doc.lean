import TabulaModel.Props.C15
import TabulaModel.Lemmas.MarkdownDocx
import TabulaModel.Lemmas.MarkdownOdt
import TabulaModel.Lemmas.MarkdownHtml
import TabulaModel.Lemmas.MarkdownPre
/-!
# C15 — end-to-end: what a Markdown reader gets back from the public entry points

Composition theorems over `Model/MarkdownDoc.lean`: the whole output of `Reader.Markdown()`,
`Reader.MarkdownWithOptions`, `Reader.MarkdownWithRAGOptions` (and so of
`tabula.Open(f).ToMarkdownWithOptions`, which forwards to it), read by the reading spec `readMd`
(front matter and generated TOC skipped, ATX headings, list item lines, GFM pipe tables,
paragraph lines), is exactly the source structure: every heading with its level
`headingLevel level offset max` (`clamp (level + offset) 1 (min max 6)` for a source level ≥ 1 and
a maximum ≥ 1, `C15.heading_level_clamped`) and its text, every list item with depth, kind and
text, every table as its rows × columns grid of normalised cell texts, every body paragraph — in
order, nothing else, for all options and all element lists that meet the hypotheses `DocxWF` /
`OdtWF` / `HtmlWF` (single-line texts, body paragraphs that are no Markdown markup themselves, for
HTML no code block and no block quote) and hold no level-2 heading "Table of Contents".
-/
namespace Tabula.C15Doc
open Tabula.A1 (Str dec decInt)
open Tabula.Markdown Tabula.MarkdownDoc

/-- the source structure of a DOCX element list as a Markdown reader should see it: headings
(level through `hl`), list items (depth = list level, kind from the numbering), tables (grid of
normalised cell texts; a table without columns is nothing), body paragraphs -/
def docxExpected (excl : Str → Bool) (hl : Int → Int) (fmt : Str → Int → NumFmt) (els : List DElem) : MdDoc :=
  { headings := dHeadings excl hl els
    items := dItems excl fmt els
    tables := (dTables els).map fun t => some (t.map (gridRow .docx (colCount t)))
    paras := dParas excl els }

/-- no table cell of the document contains a backslash -/
def DocxCells (els : List DElem) : Prop := ∀ t, DElem.table t ∈ els → Tabula.C15.NoBackslashS t

theorem readMd_nil : readMd [] = { headings := [], items := [], tables := [], paras := [] } := by decide +kernel

theorem docxExpected_nil (excl : Str → Bool) (hl : Int → Int) (fmt : Str → Int → NumFmt) :
    docxExpected excl hl fmt [] = { headings := [], items := [], tables := [], paras := [] } := rfl

/-- the 1..6 clamp of `MarkdownWithOptions` -/
def clamp16 (l : Int) : Int := if l < 1 then 1 else if l > 6 then 6 else l

theorem clamp16_range (l : Int) : 1 ≤ (clamp16 l).toNat ∧ (clamp16 l).toNat ≤ 6 := by
  unfold clamp16; split
  · decide
  · split
    · decide
    · omega

theorem headingLevel_toNat_range (l o m : Int) :
    1 ≤ (headingLevel l o m).toNat ∧ (headingLevel l o m).toNat ≤ 6 := by
  have := Tabula.C15.heading_level_range l o m
  omega

/-- **DOCX, `Reader.MarkdownWithOptions` / `Reader.Markdown()`: structurally lossless.**  For every
element list (paragraph texts single lines, body paragraphs not themselves Markdown markup, list
levels ≥ 0, ordered lists starting at a number ≥ 0, cells without backslash, no heading called
"Table of Contents" at level 2) and every
header/footer exclusion setting, the Markdown reads back as: the headings in order with level
`clamp level 1 6` and their text; the list items in order with depth = list level, kind as the
numbering says, and text; every table as its grid; every body paragraph. -/
theorem docx_markdown_lossless (fmt : Str → Int → NumFmt) (hdrs ftrs : List Str) (exH exF : Bool)
    (nParas : Nat) (els : List DElem)
    (hwf : DocxWF (fun t => HF.shouldExcludeParagraph t hdrs ftrs exH exF) clamp16 fmt els)
    (hcells : DocxCells els)
    (htoc : (2, tocText) ∉ dHeadings (fun t => HF.shouldExcludeParagraph t hdrs ftrs exH exF) clamp16 els) :
    readMd (docxMarkdownWithOptions fmt hdrs ftrs exH exF nParas els)
      = docxExpected (fun t => HF.shouldExcludeParagraph t hdrs ftrs exH exF) clamp16 fmt els := by
  unfold docxMarkdownWithOptions
  split
  · rename_i h
    rw [isEmpty_and_eq_true els _ h]
    exact readMd_nil
  · exact docxLoop_readMd _ clamp16 fmt els hwf htoc .nil

theorem docx_plain_markdown_lossless (fmt : Str → Int → NumFmt) (hdrs ftrs : List Str)
    (nParas : Nat) (els : List DElem)
    (hwf : DocxWF (fun t => HF.shouldExcludeParagraph t hdrs ftrs false false) clamp16 fmt els)
    (hcells : DocxCells els)
    (htoc : (2, tocText) ∉ dHeadings (fun t => HF.shouldExcludeParagraph t hdrs ftrs false false) clamp16 els) :
    readMd (docxMarkdown fmt hdrs ftrs nParas els)
      = docxExpected (fun t => HF.shouldExcludeParagraph t hdrs ftrs false false) clamp16 fmt els :=
  docx_markdown_lossless fmt hdrs ftrs false false nParas els hwf hcells htoc

theorem docxTocHeadings_noNl (o : MdOpts) (els : List DElem) (h : ∀ p, DElem.para p ∈ els → 10 ∉ p.text) :
    ∀ x ∈ docxTocHeadings o els, 10 ∉ x.2 :=
  List.forall_mem_filterMap.mpr fun e he x hf => by
    cases e with
    | table t => cases hf
    | para p => dsimp only at hf; split at hf <;> cases hf; exact h p he

/-- **DOCX, `Reader.MarkdownWithRAGOptions` (= `tabula.Open(f).ToMarkdownWithOptions` for a DOCX
file): structurally lossless under every option.**  With or without YAML front matter, with or
without the generated table of contents, for every heading offset and maximum: the Markdown reads
back as the headings in order with level `headingLevel level offset max`
(= `clamp (level + offset) 1 (min max 6)` for level ≥ 1 and max ≥ 1, `heading_level_clamped`) and their text, the list
items with depth, kind and text, the tables as their grids, the body paragraphs. -/
theorem docx_rag_lossless (ext : Ext) (hext : ExtOK ext) (fmt : Str → Int → NumFmt) (hdrs ftrs : List Str)
    (exH exF : Bool) (o : MdOpts) (m : Meta) (nParas : Nat) (els : List DElem)
    (hwf : DocxWF (fun t => HF.shouldExcludeParagraph t hdrs ftrs exH exF)
      (fun l => headingLevel l o.offset o.max) fmt els)
    (hcells : DocxCells els)
    (htoc : (2, tocText) ∉ dHeadings (fun t => HF.shouldExcludeParagraph t hdrs ftrs exH exF)
      (fun l => headingLevel l o.offset o.max) els) :
    readMd (docxMarkdownRag ext fmt hdrs ftrs exH exF o m nParas els)
      = docxExpected (fun t => HF.shouldExcludeParagraph t hdrs ftrs exH exF)
          (fun l => headingLevel l o.offset o.max) fmt els := by
  unfold docxMarkdownRag
  split
  · rename_i h
    rw [isEmpty_and_eq_true els _ h]
    exact readMd_nil
  · exact docxLoop_readMd _ _ fmt els hwf htoc
      (docPreamble_isPreamble ext hext o m _ (docxTocHeadings_noNl o els hwf.noNl))

/-- the extractor's terminal operation on a DOCX file is the reader's `MarkdownWithRAGOptions`:
the same read-back holds for `tabula.Open(f).ToMarkdownWithOptions(o)` -/
theorem docx_extractor_lossless (ext : Ext) (hext : ExtOK ext) (fmt : Str → Int → NumFmt) (hdrs ftrs : List Str)
    (exH exF : Bool) (o : MdOpts) (m : Meta) (nParas : Nat) (els : List DElem)
    (hwf : DocxWF (fun t => HF.shouldExcludeParagraph t hdrs ftrs exH exF)
      (fun l => headingLevel l o.offset o.max) fmt els)
    (hcells : DocxCells els)
    (htoc : (2, tocText) ∉ dHeadings (fun t => HF.shouldExcludeParagraph t hdrs ftrs exH exF)
      (fun l => headingLevel l o.offset o.max) els) :
    readMd (extractorMarkdown ext exH exF o (.docx fmt hdrs ftrs m nParas els))
      = docxExpected (fun t => HF.shouldExcludeParagraph t hdrs ftrs exH exF)
          (fun l => headingLevel l o.offset o.max) fmt els :=
  docx_rag_lossless ext hext fmt hdrs ftrs exH exF o m nParas els hwf hcells htoc

/-- every heading of the read-back has a level in 1..6, whatever the source level and options -/
theorem docx_heading_levels_valid (excl : Str → Bool) (o : MdOpts) (els : List DElem) :
    ∀ h ∈ dHeadings excl (fun l => headingLevel l o.offset o.max) els, 1 ≤ h.1 ∧ h.1 ≤ 6 :=
  List.forall_mem_filterMap.mpr fun e _ h hf => by
    cases e with
    | table t => cases hf
    | para p => dsimp only at hf; split at hf <;> cases hf; exact headingLevel_toNat_range _ _ _

/-- the source structure of a ODT element list as a Markdown reader should see it: headings
(level through `hl`), list items (depth = list level, kind from the numbering), tables (grid of
normalised cell texts; a table without columns is nothing), body paragraphs -/
def odtExpected (excl : Str → Bool) (hl : Int → Int) (fmt : Str → Int → Bool) (els : List OElem) : MdDoc :=
  { headings := oHeadings excl hl els
    items := oItems excl fmt els
    tables := (oTables els).map fun t => some (t.map (gridRow .odt (colCount t)))
    paras := oParas excl els }

/-- no table cell of the document contains a backslash -/
def OdtCells (els : List OElem) : Prop := ∀ t, OElem.table t ∈ els → Tabula.C15.NoBackslashS t

theorem odtExpected_nil (excl : Str → Bool) (hl : Int → Int) (fmt : Str → Int → Bool) :
    odtExpected excl hl fmt [] = { headings := [], items := [], tables := [], paras := [] } := rfl

/-- **ODT, `Reader.MarkdownWithOptions` / `Reader.Markdown()`: structurally lossless.**  For every
element list (paragraph texts single lines, body paragraphs not themselves Markdown markup, cells without backslash, no heading called "Table of Contents" at level 2) and every
header/footer exclusion setting, the Markdown reads back as: the headings in order with level
`clamp level 1 6` and their text; the list items in order with depth = list level, kind as the
numbering says, and text; every table as its grid; every body paragraph. -/
theorem odt_markdown_lossless (fmt : Str → Int → Bool) (hdrs ftrs : List Str) (exH exF : Bool)
    (nParas : Nat) (els : List OElem)
    (hwf : OdtWF (fun t => HF.shouldExcludeParagraph t hdrs ftrs exH exF) clamp16 fmt els)
    (hcells : OdtCells els)
    (htoc : (2, tocText) ∉ oHeadings (fun t => HF.shouldExcludeParagraph t hdrs ftrs exH exF) clamp16 els) :
    readMd (odtMarkdownWithOptions fmt hdrs ftrs exH exF nParas els)
      = odtExpected (fun t => HF.shouldExcludeParagraph t hdrs ftrs exH exF) clamp16 fmt els := by
  unfold odtMarkdownWithOptions
  split
  · rename_i h
    rw [isEmpty_and_eq_true els _ h]
    exact readMd_nil
  · exact odtLoop_readMd _ clamp16 fmt els hwf htoc .nil

theorem odt_plain_markdown_lossless (fmt : Str → Int → Bool) (hdrs ftrs : List Str)
    (nParas : Nat) (els : List OElem)
    (hwf : OdtWF (fun t => HF.shouldExcludeParagraph t hdrs ftrs false false) clamp16 fmt els)
    (hcells : OdtCells els)
    (htoc : (2, tocText) ∉ oHeadings (fun t => HF.shouldExcludeParagraph t hdrs ftrs false false) clamp16 els) :
    readMd (odtMarkdown fmt hdrs ftrs nParas els)
      = odtExpected (fun t => HF.shouldExcludeParagraph t hdrs ftrs false false) clamp16 fmt els :=
  odt_markdown_lossless fmt hdrs ftrs false false nParas els hwf hcells htoc

theorem odtTocHeadings_noNl (o : MdOpts) (els : List OElem) (h : ∀ p, OElem.para p ∈ els → 10 ∉ p.text) :
    ∀ x ∈ odtTocHeadings o els, 10 ∉ x.2 :=
  List.forall_mem_filterMap.mpr fun e he x hf => by
    cases e with
    | table t => cases hf
    | para p => dsimp only at hf; split at hf <;> cases hf; exact h p he

/-- **ODT, `Reader.MarkdownWithRAGOptions` (= `tabula.Open(f).ToMarkdownWithOptions` for a ODT
file): structurally lossless under every option.**  With or without YAML front matter, with or
without the generated table of contents, for every heading offset and maximum: the Markdown reads
back as the headings in order with level `headingLevel level offset max`
(= `clamp (level + offset) 1 (min max 6)` for level ≥ 1 and max ≥ 1, `heading_level_clamped`) and their text, the list
items with depth, kind and text, the tables as their grids, the body paragraphs. -/
theorem odt_rag_lossless (ext : Ext) (hext : ExtOK ext) (fmt : Str → Int → Bool) (hdrs ftrs : List Str)
    (exH exF : Bool) (o : MdOpts) (m : Meta) (nParas : Nat) (els : List OElem)
    (hwf : OdtWF (fun t => HF.shouldExcludeParagraph t hdrs ftrs exH exF)
      (fun l => headingLevel l o.offset o.max) fmt els)
    (hcells : OdtCells els)
    (htoc : (2, tocText) ∉ oHeadings (fun t => HF.shouldExcludeParagraph t hdrs ftrs exH exF)
      (fun l => headingLevel l o.offset o.max) els) :
    readMd (odtMarkdownRag ext fmt hdrs ftrs exH exF o m nParas els)
      = odtExpected (fun t => HF.shouldExcludeParagraph t hdrs ftrs exH exF)
          (fun l => headingLevel l o.offset o.max) fmt els := by
  unfold odtMarkdownRag
  split
  · rename_i h
    rw [isEmpty_and_eq_true els _ h]
    exact readMd_nil
  · exact odtLoop_readMd _ _ fmt els hwf htoc
      (docPreamble_isPreamble ext hext o m _ (odtTocHeadings_noNl o els hwf.noNl))

/-- the extractor's terminal operation on a ODT file is the reader's `MarkdownWithRAGOptions`:
the same read-back holds for `tabula.Open(f).ToMarkdownWithOptions(o)` -/
theorem odt_extractor_lossless (ext : Ext) (hext : ExtOK ext) (fmt : Str → Int → Bool) (hdrs ftrs : List Str)
    (exH exF : Bool) (o : MdOpts) (m : Meta) (nParas : Nat) (els : List OElem)
    (hwf : OdtWF (fun t => HF.shouldExcludeParagraph t hdrs ftrs exH exF)
      (fun l => headingLevel l o.offset o.max) fmt els)
    (hcells : OdtCells els)
    (htoc : (2, tocText) ∉ oHeadings (fun t => HF.shouldExcludeParagraph t hdrs ftrs exH exF)
      (fun l => headingLevel l o.offset o.max) els) :
    readMd (extractorMarkdown ext exH exF o (.odt fmt hdrs ftrs m nParas els))
      = odtExpected (fun t => HF.shouldExcludeParagraph t hdrs ftrs exH exF)
          (fun l => headingLevel l o.offset o.max) fmt els :=
  odt_rag_lossless ext hext fmt hdrs ftrs exH exF o m nParas els hwf hcells htoc

/-- every heading of the read-back has a level in 1..6, whatever the source level and options -/
theorem odt_heading_levels_valid (excl : Str → Bool) (o : MdOpts) (els : List OElem) :
    ∀ h ∈ oHeadings excl (fun l => headingLevel l o.offset o.max) els, 1 ≤ h.1 ∧ h.1 ≤ 6 :=
  List.forall_mem_filterMap.mpr fun e _ h hf => by
    cases e with
    | table t => cases hf
    | para p => dsimp only at hf; split at hf <;> cases hf; exact headingLevel_toNat_range _ _ _

def htmlExpected (hl : Int → Int) (els : List HElem) : MdDoc :=
  { headings := hHeadings hl els
    items := hItems els
    tables := (hTables els).map fun t => some (t.map (List.map (normCell .html)))
    paras := hParas els }

/-- every table is rectangular.  An `HElem` table is the grid `ToMarkdown` writes (`HSrc.view`):
for the reader's own elements — cells with any `colspan`/`rowspan` — this always holds
(Props/C15DocHtml.lean, `htmlCells_view`; until fix 72cc329 tables with spans were the recorded
finding `C15/table-shape-merged-html`).  The cells are any bytes, backslashes included. -/
def HtmlCells (els : List HElem) : Prop :=
  ∀ hdr rest, HElem.table (some (hdr :: rest)) ∈ els → Tabula.C15.Rect hdr.length (hdr :: rest)

theorem hTables_mem (els : List HElem) (t : List (List Str)) (h : t ∈ hTables els) :
    ∃ hdr rest, t = hdr :: rest ∧ HElem.table (some (hdr :: rest)) ∈ els :=
  (List.forall_mem_filterMap (P := fun t => ∃ hdr rest, t = hdr :: rest ∧ HElem.table (some (hdr :: rest)) ∈ els)).mpr
    (fun e he t hf => by
      match e, hf with
      | .table (some (hdr :: rest)), hf => cases hf; exact ⟨hdr, rest, rfl, he⟩) t h

theorem html_tables_read (hl : Int → Int) (els : List HElem) (hwf : HtmlWF hl els) (hcells : HtmlCells els) :
    ((hTables els).map fun t => gfmTableL (htmlTableLinesOf t))
      = (hTables els).map fun t => some (t.map (List.map (normCell .html))) := by
  apply List.map_congr_left
  intro t ht
  obtain ⟨hdr, rest, rfl, hm⟩ := hTables_mem els t ht
  have hrect := hcells hdr rest hm
  have hne := hwf.rows hdr rest hm
  exact gfmTableL_tableLines .html hdr.length (List.length_pos_iff.mpr (hne hdr (by simp))) hdr rest hrect

/-- **HTML, `Reader.MarkdownWithOptions` / `Reader.Markdown()`** (the element list is the one of
the navigation mode in use, without code blocks and block quotes, `HtmlWF`): headings with their
source level, list items with depth and the kind of the list they were met in, rectangular tables
as their grid, paragraphs. -/
theorem html_markdown_lossless (els : List HElem) (hwf : HtmlWF id els) (hcells : HtmlCells els)
    (htoc : (2, tocText) ∉ hHeadings id els) :
    readMd (htmlMarkdownWithOptions els) = htmlExpected id els :=
  (htmlBody_readMd id els hwf htoc .nil).trans (congrArg (MdDoc.mk _ _ · _) (html_tables_read id els hwf hcells))

theorem htmlHeadingTexts_noNl (hl : Int → Int) (els : List HElem) (hwf : HtmlWF hl els) :
    ∀ t ∈ htmlHeadingTexts els, 10 ∉ t :=
  List.forall_mem_filterMap.mpr fun e he t hf => by
    match e, hf with
    | .heading l _, hf => cases hf; exact hwf.headNl l _ he

/-- **HTML, `Reader.MarkdownWithRAGOptions` (= `tabula.Open(f).ToMarkdownWithOptions` for an
HTML file): structurally lossless under every option** (elements as for `html_markdown_lossless`)
— front matter and the numbered TOC are skipped, headings come out at `headingLevel level offset max`. -/
theorem html_rag_lossless (ext : Ext) (hext : ExtOK ext) (o : MdOpts) (m : HMeta) (els : List HElem)
    (hwf : HtmlWF (fun l => headingLevel l o.offset o.max) els) (hcells : HtmlCells els)
    (htoc : (2, tocText) ∉ hHeadings (fun l => headingLevel l o.offset o.max) els) :
    readMd (htmlMarkdownRag ext o m els) = htmlExpected (fun l => headingLevel l o.offset o.max) els :=
  (htmlBody_readMd _ els hwf htoc (htmlPreamble_isPreamble ext hext o m els (htmlHeadingTexts_noNl _ els hwf))).trans
    (congrArg (MdDoc.mk _ _ · _) (html_tables_read _ els hwf hcells))

theorem html_extractor_lossless (ext : Ext) (hext : ExtOK ext) (exH exF : Bool) (o : MdOpts) (m : HMeta)
    (els : List HElem) (hwf : HtmlWF (fun l => headingLevel l o.offset o.max) els) (hcells : HtmlCells els)
    (htoc : (2, tocText) ∉ hHeadings (fun l => headingLevel l o.offset o.max) els) :
    readMd (extractorMarkdown ext exH exF o (.html m els))
      = htmlExpected (fun l => headingLevel l o.offset o.max) els :=
  html_rag_lossless ext hext o m els hwf hcells htoc

/-- `%q` stand-in for the examples: the string without its newlines, between double quotes -/
def exExt : Ext := { quote := fun s => 34 :: s.filter (· != 10) ++ [34], lower := id }

/-- a heading at source level 5, a nested ordered item, a table with a spanning cell and a pipe
in a cell, a body paragraph -/
def exDocx : List DElem :=
  [ .para { text := [72, 105], isHeading := true, level := 5 },
    .para { text := [105, 116], isListItem := true, numID := [49], listLevel := 1 },
    .table [[⟨[97, 124, 98], 2, false⟩, ⟨[99], 1, false⟩], [⟨[], 1, true⟩, ⟨[100], 1, false⟩]],
    .para { text := [98, 111, 100, 121] } ]

def exFmt : Str → Int → NumFmt := fun _ _ => ⟨true, 3⟩
def exOpts : MdOpts := { «meta» := true, toc := true, offset := 2, max := 4 }

example : DocxWF (fun t => HF.shouldExcludeParagraph t [] [] false false)
    (fun l => headingLevel l exOpts.offset exOpts.max) exFmt exDocx := by
  refine ⟨fun l => headingLevel_toNat_range _ _ _, ?_, ?_, ?_, ?_⟩
  · intro p hp
    simp only [exDocx, List.mem_cons, DElem.para.injEq, List.not_mem_nil, or_false] at hp
    rcases hp with rfl | rfl | hp | rfl
    · decide
    · decide
    · cases hp
    · decide
  · intro p hp _ hh hl _
    simp only [exDocx, List.mem_cons, DElem.para.injEq, List.not_mem_nil, or_false] at hp
    rcases hp with rfl | rfl | hp | rfl
    · cases hh
    · revert hl; decide
    · cases hp
    · decide
  · intro p hp hl
    simp only [exDocx, List.mem_cons, DElem.para.injEq, List.not_mem_nil, or_false] at hp
    rcases hp with rfl | rfl | hp | rfl
    · revert hl; decide
    · decide
    · cases hp
    · revert hl; decide
  · intro p _ _ _
    show (0 : Int) ≤ 3
    decide

example : DocxCells exDocx := by
  intro t ht
  simp only [exDocx, List.mem_cons, DElem.table.injEq, List.not_mem_nil, or_false] at ht
  rcases ht with ht | ht | rfl | ht
  · cases ht
  · cases ht
  · unfold Tabula.C15.NoBackslashS
    decide
  · cases ht

example : ExtOK exExt := ⟨fun s => by simp [exExt], fun s h => h⟩

/-- …and the conclusion on the example, computed: front matter and TOC are skipped, the heading
comes out at `clamp (5 + 2) 1 (min 4 6) = 4`, the item at depth 1 as ordered, the table as its
2 × 3 grid with the pipe intact -/
example : (2, tocText) ∉ dHeadings (fun t => HF.shouldExcludeParagraph t [] [] false false)
    (fun l => headingLevel l exOpts.offset exOpts.max) exDocx := by decide +kernel

example : docxExpected (fun t => HF.shouldExcludeParagraph t [] [] false false)
    (fun l => headingLevel l exOpts.offset exOpts.max) exFmt exDocx
    = { headings := [(4, [72, 105])], items := [(1, true, [105, 116])],
        tables := [some [[[97, 124, 98], [], [99]], [[], [100], []]]], paras := [[98, 111, 100, 121]] } := by
  decide +kernel

end Tabula.C15Doc
