import TabulaModel.Props.C17Whole
/-!
# C17 — laws of the public accessors and of the sheet selection

What the "cell at its address" claim goes through on the way from the grid to the caller, for
every reader and every option value: `Reader.Sheet`, `SheetByName`, `Cell` on arbitrary Go ints;
`ExtractOptions.Sheets` as `Reader.Sheet` mapped over the list; `Sheet.Index` strictly increasing
along the loaded sheets (so page numbers never repeat); `AdjustHeadingLevel` monotone and clamped;
`ParsedTable.ToText` line by line.
-/
namespace Tabula.C17M
open Tabula.A1 Tabula.Sheet Tabula.Wb

/-- `Reader.Sheet(i)` answers a sheet exactly when `i` is a position of the reader, and then it is
the sheet at that position -/
theorem sheet_some_iff (r : Reader) (i : Int) (s : Wb.Sheet) :
    r.sheet i = some s ↔ 0 ≤ i ∧ r.sheets[i.toNat]? = some s := by
  rw [Reader.sheet_eq]
  by_cases h : i < 0
  · rw [if_pos h]; exact ⟨nofun, fun h' => by omega⟩
  · rw [if_neg h]; exact ⟨fun h' => ⟨by omega, h'⟩, fun h' => h'.2⟩

example : (Reader.mk [⟨[65], 0, [], 0, []⟩]).sheet 0 = some ⟨[65], 0, [], 0, []⟩ :=
  (sheet_some_iff _ _ _).2 ⟨by decide, rfl⟩

/-- `Reader.Sheet(i)` is nil exactly for negative `i` and `i >= SheetCount` -/
theorem sheet_none_iff (r : Reader) (i : Int) :
    r.sheet i = none ↔ i < 0 ∨ i ≥ (r.sheets.length : Int) := by
  rw [Reader.sheet_eq]
  by_cases h : i < 0
  · rw [if_pos h]; exact ⟨fun _ => Or.inl h, fun _ => rfl⟩
  · rw [if_neg h, List.getElem?_eq_none_iff]; omega

/-- for a natural number the accessor is the list lookup -/
theorem sheet_nat (r : Reader) (k : Nat) : r.sheet (k : Int) = r.sheets[k]? := by
  rw [Reader.sheet_eq, if_neg (by omega), Int.toNat_natCast]

/-- `SheetNames` has one name per sheet, in order -/
theorem sheet_names_get (r : Reader) (k : Nat) :
    r.sheetNames.length = r.sheetCount ∧ r.sheetNames[k]? = (r.sheets[k]?).map (·.name) := by
  unfold Reader.sheetNames Reader.sheetCount
  exact ⟨List.length_map _, List.getElem?_map⟩

/-- what `SheetByName` answers is a sheet of the reader with that name -/
theorem sheet_by_name_some (r : Reader) (name : Str) (s : Wb.Sheet) (h : r.sheetByName name = some s) :
    s ∈ r.sheets ∧ s.name = name := by
  unfold Reader.sheetByName at h
  exact ⟨List.mem_of_find?_eq_some h, by simpa using List.find?_some h⟩

/-- `SheetByName` fails exactly for the names that `SheetNames` does not list -/
theorem sheet_by_name_none_iff (r : Reader) (name : Str) :
    r.sheetByName name = none ↔ name ∉ r.sheetNames := by
  unfold Reader.sheetByName Reader.sheetNames
  simp [List.find?_eq_none]

/-- `SheetByName` answers the first sheet of that name: the sheet at position `k` when no earlier
sheet has the name -/
theorem sheet_by_name_first (r : Reader) (name : Str) (k : Nat) (s : Wb.Sheet)
    (hk : r.sheets[k]? = some s) (hn : s.name = name)
    (hfirst : ∀ j < k, ∀ t, r.sheets[j]? = some t → t.name ≠ name) :
    r.sheetByName name = some s := by
  obtain ⟨hlt, rfl⟩ := List.getElem?_eq_some_iff.mp hk
  unfold Reader.sheetByName
  rw [List.find?_eq_some_iff_getElem]
  exact ⟨by simpa using hn, k, hlt, rfl, fun j hj => by
    simpa using hfirst j hj _ (List.getElem?_eq_getElem (Nat.lt_trans hj hlt))⟩

example : (Reader.mk [⟨[65], 0, [], 0, []⟩, ⟨[66], 1, [], 0, []⟩, ⟨[66], 2, [], 0, []⟩]).sheetByName [66]
    = some ⟨[66], 1, [], 0, []⟩ :=
  sheet_by_name_first _ _ 1 _ rfl rfl (by
    intro j hj t ht
    have : j = 0 := by omega
    subst this
    simp only [List.getElem?_cons_zero, Option.some.injEq] at ht
    subst ht
    decide)

/-- `Cell(row, col)` for arbitrary Go ints: a cell exactly for non-negative arguments inside the
grid, and then the grid position -/
theorem cell_some_iff (s : Wb.Sheet) (row col : Int) (c : Cell) :
    s.cell row col = some c ↔ 0 ≤ row ∧ 0 ≤ col ∧ s.rows.get row.toNat col.toNat = some c := by
  rw [Sheet.cell_eq]
  by_cases h : row < 0 ∨ col < 0
  · rw [if_pos h]; exact ⟨nofun, fun h' => by omega⟩
  · rw [if_neg h]; exact ⟨fun h' => ⟨by omega, by omega, h'⟩, fun h' => h'.2.2⟩

/-- a non-empty `ExtractOptions.Sheets` is `Reader.Sheet` mapped over the list: entries that name
no sheet are dropped, order and repetitions are kept -/
theorem select_spec (r : Reader) (sel : List Int) (hne : sel ≠ []) :
    selectSheets r sel = sel.filterMap r.sheet := by
  rw [selectSheets_eq, if_neg hne]

example : selectSheets (Reader.mk [⟨[65], 0, [], 0, []⟩]) [5, 0, -1, 0] =
    [⟨[65], 0, [], 0, []⟩, ⟨[65], 0, [], 0, []⟩] := by
  rw [select_spec _ _ (by decide)]; rfl

/-- a non-empty selection of natural numbers is the list of the sheets at those positions -/
theorem select_nat (r : Reader) (ks : List Nat) (hne : ks ≠ []) :
    selectSheets r (ks.map fun (k : Nat) => (k : Int)) = ks.filterMap fun k => r.sheets[k]? := by
  have hm : (ks.map fun (k : Nat) => (k : Int)) ≠ [] := by cases ks <;> simp_all
  rw [select_spec r _ hm, List.filterMap_map]
  have hf : (r.sheet ∘ fun (k : Nat) => (k : Int)) = fun k => r.sheets[k]? := by
    funext k
    exact sheet_nat r k
  rw [hf]

example : selectSheets (Reader.mk [⟨[65], 0, [], 0, []⟩, ⟨[66], 1, [], 0, []⟩]) ([1, 0].map fun (k : Nat) => (k : Int)) =
    [⟨[66], 1, [], 0, []⟩, ⟨[65], 0, [], 0, []⟩] := by
  rw [select_nat _ _ (by decide)]; rfl

/-- whatever is selected, every sheet of the output is a sheet of the reader -/
theorem select_mem (r : Reader) (sel : List Int) (s : Wb.Sheet) (h : s ∈ selectSheets r sel) :
    s ∈ r.sheets := by
  by_cases hne : sel = []
  · subst hne; exact h
  · rw [select_spec r sel hne, List.mem_filterMap] at h
    obtain ⟨i, _, hi⟩ := h
    exact List.mem_of_getElem? ((sheet_some_iff r i s).1 hi).2

/-- a non-empty selection never yields more sheets than it has entries -/
theorem select_length_le (r : Reader) (sel : List Int) (hne : sel ≠ []) :
    (selectSheets r sel).length ≤ sel.length := by
  rw [select_spec r sel hne]; exact List.length_filterMap_le _ _

/-- selecting two non-empty lists one after the other is the two selections one after the other -/
theorem select_append (r : Reader) (a b : List Int) (ha : a ≠ []) (hb : b ≠ []) :
    selectSheets r (a ++ b) = selectSheets r a ++ selectSheets r b := by
  rw [select_spec r a ha, select_spec r b hb, select_spec r (a ++ b) (by simp [ha]), List.filterMap_append]

example : selectSheets (Reader.mk [⟨[65], 0, [], 0, []⟩]) ([0] ++ [7]) =
    selectSheets (Reader.mk [⟨[65], 0, [], 0, []⟩]) [0] ++ selectSheets (Reader.mk [⟨[65], 0, [], 0, []⟩]) [7] :=
  select_append _ _ _ (by decide) (by decide)

/-- text and Markdown of a non-empty selection are the blocks of exactly the sheets `Reader.Sheet`
answers for its entries, in the order of the entries -/
theorem outputs_of_selection (r : Reader) (o : ExtractOptions) (lvl : Nat) (hne : o.sheets ≠ []) :
    textWithOptions r o = intercalate [10, 10] ((o.sheets.filterMap r.sheet).map (sheetBlock o)) ∧
    markdown r o lvl = HF.trimSpace (intercalate [10, 10] ((o.sheets.filterMap r.sheet).map (sheetMd lvl))) := by
  unfold textWithOptions markdown
  rw [select_spec r o.sheets hne]
  exact ⟨rfl, rfl⟩

/-- `Sheet.Index` is strictly increasing along the sheets `parseWorksheets` keeps -/
theorem sheet_indices_increasing (shared : List Str) (parts : List (Option SheetXML)) (k : Nat)
    (seen : List Str) (used : Nat) :
    (loadParts shared parts k seen used).Pairwise (fun a b => a.index < b.index) := by
  -- a sheet's index is its entry's number, and the entries are gone through in order
  rw [loadParts_eq]
  refine List.Pairwise.filterMap _ ?_ (List.pairwise_snd_lt_zipIdx parts 0)
  intro a b hab s hs t ht
  obtain ⟨x, _, hx⟩ := Option.bind_eq_some_iff.mp hs
  obtain ⟨y, _, hy⟩ := Option.bind_eq_some_iff.mp ht
  rw [(loadSheet_some hx).2.1, (loadSheet_some hy).2.1]
  omega

/-- the reader keeps at most one sheet per `<sheet>` entry -/
theorem loadParts_length_le (shared : List Str) (parts : List (Option SheetXML)) (k : Nat)
    (seen : List Str) (used : Nat) :
    (loadParts shared parts k seen used).length ≤ parts.length := by
  rw [loadParts_eq]
  exact Nat.le_trans (List.length_filterMap_le _ _) (Nat.le_of_eq List.length_zipIdx)

/-- an opened workbook: the sheets are in workbook order without repetition of an Index -/
theorem open_indices_increasing (sis : List SI) (parts : List (Option SheetXML)) (r : Reader)
    (h : openWorkbook sis parts = some r) : r.sheets.Pairwise (fun a b => a.index < b.index) := by
  rw [(openWorkbook_some h).1]
  exact sheet_indices_increasing _ _ _ _ _

/-- an opened workbook has at least one sheet and at most one per `<sheet>` entry -/
theorem open_count (sis : List SI) (parts : List (Option SheetXML)) (r : Reader)
    (h : openWorkbook sis parts = some r) : 0 < r.sheetCount ∧ r.sheetCount ≤ parts.length := by
  obtain ⟨hs, hne⟩ := openWorkbook_some h
  unfold Reader.sheetCount
  refine ⟨List.length_pos_iff.mpr hne, ?_⟩
  rw [hs]; exact loadParts_length_le _ _ _ _ _

/-- `Sheet.Index` of every sheet of an opened workbook is the number of a `<sheet>` entry -/
theorem sheet_index_lt_parts (sis : List SI) (parts : List (Option SheetXML)) (r : Reader)
    (h : openWorkbook sis parts = some r) (s : Wb.Sheet) (hs : s ∈ r.sheets) :
    s.index < parts.length := by
  rw [(openWorkbook_some h).1] at hs
  obtain ⟨_, x, hx, _⟩ := C17A.open_sheet_origin _ parts 0 [] 0 s hs
  exact (List.getElem?_eq_some_iff.mp hx).1

/-- in a list with strictly increasing indices all at least `k`, the entry at position `j` has
index at least `k + j` -/
theorem position_le_index (l : List Wb.Sheet) (k : Nat) (hge : ∀ s ∈ l, k ≤ s.index)
    (hp : l.Pairwise (fun a b => a.index < b.index)) (j : Nat) (s : Wb.Sheet) (h : l[j]? = some s) :
    k + j ≤ s.index := by
  induction l generalizing k j with
  | nil => simp at h
  | cons a as ih =>
    cases j with
    | zero =>
      simp only [List.getElem?_cons_zero, Option.some.injEq] at h
      subst h
      exact hge _ (List.mem_cons_self ..)
    | succ j =>
      rw [List.pairwise_cons] at hp
      have ha := hge a (List.mem_cons_self ..)
      have := ih (k + 1) (fun t ht => by have := hp.1 t ht; omega) hp.2 j (by simpa using h)
      omega

/-- sheets that did not load only move later sheets forward: the sheet at position `j` of an opened
reader has `Index >= j`, so `Reader.Sheet(j)` never shows a workbook sheet before the j-th -/
theorem sheet_position_le_index (sis : List SI) (parts : List (Option SheetXML)) (r : Reader)
    (h : openWorkbook sis parts = some r) (j : Nat) (s : Wb.Sheet) (hs : r.sheets[j]? = some s) :
    j ≤ s.index := by
  have := position_le_index r.sheets 0 (fun _ _ => Nat.zero_le _) (open_indices_increasing sis parts r h) j s hs
  omega

/-- the page numbers of `Document()` are strictly increasing: no two pages share a number -/
theorem page_numbers_increasing (sis : List SI) (parts : List (Option SheetXML)) (r : Reader)
    (h : openWorkbook sis parts = some r) :
    (document r).Pairwise (fun p q => p.number < q.number) := by
  unfold document
  rw [List.pairwise_map]
  refine (open_indices_increasing sis parts r h).imp ?_
  intro a b hab
  unfold sheetPage
  simp only
  omega

/-- the hypothesis `openWorkbook sis parts = some r` of the theorems above is satisfiable (a missing
part followed by an empty sheet: the sheet that loads has Index 1 at position 0) -/
example : ∃ r, openWorkbook [] [none, some ⟨[65], [], [], [120]⟩] = some r ∧
    (r.sheets.map (·.index)) = [1] := ⟨_, rfl, rfl⟩

/-- a deeper heading never comes out shallower -/
theorem heading_level_mono (mo : MdOptions) (l l2 : Int) (h : l ≤ l2) :
    adjustHeadingLevel mo l ≤ adjustHeadingLevel mo l2 := by
  apply headingClamps_mono
  omega

/-- a larger offset never gives a shallower heading -/
theorem heading_level_offset_mono (mo mo2 : MdOptions) (l : Int)
    (hmax : mo.maxHeadingLevel = mo2.maxHeadingLevel) (h : mo.headingLevelOffset ≤ mo2.headingLevelOffset) :
    adjustHeadingLevel mo l ≤ adjustHeadingLevel mo2 l := by
  unfold adjustHeadingLevel
  rw [hmax]
  apply headingClamps_mono
  omega

example : adjustHeadingLevel { headingLevelOffset := 1 } 2 ≤ adjustHeadingLevel { headingLevelOffset := 3 } 2 :=
  heading_level_offset_mono _ _ _ rfl (by decide)

/-- a positive `MaxHeadingLevel` is never exceeded -/
theorem heading_level_cap (mo : MdOptions) (l : Int) (h : 0 < mo.maxHeadingLevel) :
    adjustHeadingLevel mo l ≤ mo.maxHeadingLevel := by
  unfold adjustHeadingLevel
  simp only
  -- the level after the offset plays no part
  generalize (if l < 1 then 1 else l) + mo.headingLevelOffset = a
  omega

example : adjustHeadingLevel { maxHeadingLevel := 3 } 5 ≤ 3 := heading_level_cap _ _ (by decide)

/-- inside the window nothing is clamped: the level is `level + offset` -/
theorem heading_level_plain (mo : MdOptions) (l : Int) (h1 : 1 ≤ l) (h2 : 1 ≤ l + mo.headingLevelOffset)
    (h3 : l + mo.headingLevelOffset ≤ 6)
    (h4 : mo.maxHeadingLevel ≤ 0 ∨ l + mo.headingLevelOffset ≤ mo.maxHeadingLevel) :
    adjustHeadingLevel mo l = l + mo.headingLevelOffset := by
  unfold adjustHeadingLevel
  simp only
  rw [if_neg (by omega : ¬ l < 1), if_neg (by omega : ¬ l + mo.headingLevelOffset < 1),
    if_neg (by omega : ¬ (mo.maxHeadingLevel > 0 ∧ l + mo.headingLevelOffset > mo.maxHeadingLevel)),
    if_neg (by omega : ¬ l + mo.headingLevelOffset > 6)]

example : adjustHeadingLevel { headingLevelOffset := 2 } 2 = 4 :=
  heading_level_plain _ _ (by decide) (by decide) (by decide) (Or.inr (by decide))

/-- `ToText` writes one tab-joined, newline-terminated line per row, the header row first when
there is one -/
theorem to_text_lines (t : PTable) :
    t.toText = ((if t.headers.isEmpty then [] else [t.headers]) ++ t.rows).flatMap
      (fun row => intercalate [9] row ++ [10]) := by
  unfold PTable.toText
  split <;> simp

/-- for a loaded sheet with content, `Tables()[i].ToText()` is the content box of displayed
values, one line per row of the box -/
theorem tables_to_text (s : Wb.Sheet) (hrect : Rect (s.maxCol + 1) s.rows)
    (hne : (findContentBounds s).isEmpty = false) :
    (sheetToTable s).toText = (boxTable s).flatMap (fun row => intercalate [9] row ++ [10]) := by
  have hh := headers_isEmpty_iff s hrect
  rw [hne] at hh
  rw [to_text_lines, hh, ← (C17O.tables_table s hrect hne).2]
  simp

/-- two positions of an opened reader that hold sheets of the same `Index` are the same position -/
theorem sheet_index_injective (sis : List SI) (parts : List (Option SheetXML)) (r : Reader)
    (h : openWorkbook sis parts = some r) (i j : Nat) (s t : Wb.Sheet)
    (hs : r.sheets[i]? = some s) (ht : r.sheets[j]? = some t) (he : s.index = t.index) : i = j := by
  have hnd : (r.sheets.map (·.index)).Nodup :=
    List.pairwise_map.mpr ((open_indices_increasing sis parts r h).imp Nat.ne_of_lt)
  refine (List.getElem?_inj ?_ hnd).mp (by
    rw [List.getElem?_map, List.getElem?_map, hs, ht, Option.map_some, Option.map_some, he])
  rw [List.length_map]; exact (List.getElem?_eq_some_iff.mp hs).1

/-- when the sheet names are pairwise different, `SheetByName` of a sheet's name answers that
sheet -/
theorem sheet_by_name_unique (r : Reader) (hu : r.sheets.Pairwise (fun a b => a.name ≠ b.name))
    (k : Nat) (s : Wb.Sheet) (hk : r.sheets[k]? = some s) : r.sheetByName s.name = some s := by
  refine sheet_by_name_first r s.name k s hk rfl ?_
  intro j hj t ht
  rw [List.pairwise_iff_getElem] at hu
  obtain ⟨hk', rfl⟩ := List.getElem?_eq_some_iff.mp hk
  obtain ⟨hj', rfl⟩ := List.getElem?_eq_some_iff.mp ht
  exact hu j k hj' hk' hj

example : (Reader.mk [⟨[65], 0, [], 0, []⟩, ⟨[66], 1, [], 0, []⟩]).sheetByName [66] = some ⟨[66], 1, [], 0, []⟩ :=
  sheet_by_name_unique (Reader.mk [⟨[65], 0, [], 0, []⟩, ⟨[66], 1, [], 0, []⟩]) (by decide) 1 _ rfl

/-- escaping works byte by byte: the escape of a concatenation is the concatenation of the escapes -/
theorem escape_append (a b : Str) : escapeMarkdown (a ++ b) = escapeMarkdown a ++ escapeMarkdown b := by
  rw [escapeMarkdown_eq, escapeMarkdown_eq, escapeMarkdown_eq, List.flatMap_append]

/-- a value without pipe and line break is written as it is -/
theorem escape_plain (s : Str) (h : ∀ c ∈ s, c ≠ 124 ∧ c ≠ 10) : escapeMarkdown s = s := by
  rw [escapeMarkdown_eq]
  refine (List.flatMap_congr fun c hc => ?_).trans (List.flatMap_singleton' s)
  unfold escChar
  rw [if_neg (h c hc).1, if_neg (h c hc).2]

example : escapeMarkdown [65, 92, 66] = [65, 92, 66] := escape_plain _ (by decide)

/-- escaping never shortens a value, and adds exactly one byte per pipe -/
theorem escape_length (s : Str) : (escapeMarkdown s).length = s.length + s.count 124 := by
  induction s with
  | nil => rw [escapeMarkdown_nil]; rfl
  | cons c cs ih =>
    rw [escapeMarkdown_cons, List.length_append, ih, List.count_cons]
    unfold escChar
    by_cases h1 : c = 124
    · subst h1; simp; omega
    · by_cases h2 : c = 10
      · subst h2; simp; omega
      · have : (c == 124) = false := by simpa using h1
        simp [h1, h2]; omega

end Tabula.C17M
