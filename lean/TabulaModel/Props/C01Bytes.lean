import TabulaModel.Model.ReadBytes
import TabulaModel.Lemmas.ReaderFuel
import TabulaModel.Props.C01Reader
import TabulaModel.Props.C04Nest
/-!
# C01 on the BYTES: the page pipeline composed end to end, for every physical layout

`ReadBytes.readBytes file ext` is the reader from the bytes of the file to the texts of the
pages: `reader.Open` (header, `startxref`, classic table or cross-reference stream, `/Prev`
chain, merge — C04's byte-level model), the trailer's `/Root`, `GetObject` on the bytes (`N G
obj` framing, `/Length`-driven stream read with indirect `/Length`, object streams, at most 16
nested loads — C04's byte-level model) and, above it, `Reader.readWith` (page tree with
inherited `/Resources`, `/Contents` arrays joined, fonts registered per page, content executed,
strings decoded in show order). The op `c01.readbytes` compares it with tabula on whole files.

The theorems, for ALL byte strings:

* `read_bytes_never_fuel`, `read_bytes_needs_header`, `read_bytes_needs_root` — the model's fuel is
  never the answer; no header / no `/Root` reference is an error.
* `read_bytes_depends_on_objects` — the pages depend on the bytes only through what `GetObject`
  answers for each object number and through the root: two byte strings that agree there
  read alike, whatever their tables' sizes (the walk's fuel differs; `readWith_two_bounds`).
* `stored_object_read` — an object written anywhere in the file in ANY legal spelling and EOL
  style, as an in-use object (direct or indirect `/Length`, up to 16 loads inside each other)
  or as a member of an object stream (any filter chain that decodes), and named by the newest
  cross-reference entry, is what the layers above see (C04 `loads_within`).
* `opened_by_revisions` — the table and trailer `reader.Open` keeps for a file whose revisions
  are classic tables or cross-reference streams in any mixture, chained by `/Prev`
  (C04 `load_chain_oldest_first`, `getLastI_flatten`, `SectionAt.parse`).
* **`read_bytes_layout`** — physical-layout independence as ONE statement over the reader model
  on bytes: if a byte string is a layout of the object store `S` with root `r` (`IsLayout`:
  every object number `S` defines is stored in one of the ways above, every other number has
  no live entry), then `readBytes` of it is `readWith` of `S` — an expression in which the
  bytes do not occur. `read_bytes_layout_independent`: two layouts of one store read alike.
* `read_bytes_refines_abstract` — a layout of the object store of an abstract file `f` reads as
  `Reader.readPages f`: through it every theorem of Props/C01Reader.lean about `readPages` (revisions,
  object streams, filters, tree shape, content split, renumbering, bounds, fonts) speaks about the
  byte strings that are such layouts.
* **`read_bytes_document`** — the property's statement on bytes for the base document class: ANY
  byte string that is a layout of the objects of `renderBase d sp` (the logical document `d`)
  is read as exactly the lines of `d`, page by page in show order, decoded through the font.

What `IsLayout` does not cover: numbers that exist in one layout only (the object number of a
cross-reference stream or of an object-stream container differs between layouts; `S` must say
what they are). Removing that needs "the reader asks only for numbers reachable from the
root", which is not proved.
-/
namespace Tabula.C01B
open Tabula.Reader Tabula.XrefFile Tabula.ReadBytes
open Tabula.C04B (RevChain SectionAt)
open Tabula.C04N (Loads)

theorem resB_noFuel (ext : Ext) (file : List Nat) (x : RawSection) : NoFuel (resB ext file x) := by
  intro n h
  unfold resB at h
  split at h <;> cases h

theorem le_maxKeyI (x : RawSection) (n : Nat) (h : getLastI x (n : Int) ≠ none) : n ≤ maxKeyI x := by
  induction x with
  | nil => exact absurd rfl h
  | cons kv x ih =>
    obtain ⟨k, e⟩ := kv
    simp only [getLastI] at h
    simp only [maxKeyI]
    cases hr : getLastI x (n : Int) with
    | some w =>
      have := ih (by rw [hr]; simp)
      omega
    | none =>
      rw [hr] at h
      simp only at h
      by_cases hk : k = (n : Int)
      · subst hk
        rw [Int.toNat_natCast]
        exact Nat.le_max_left _ _
      · simp [hk] at h

theorem resB_ok_le (ext : Ext) (file : List Nat) (x : RawSection) (n : Nat) (v : SVal)
    (h : resB ext file x n = .ok v) : n ≤ maxKeyI x := by
  apply le_maxKeyI
  intro hnone
  unfold resB at h
  have : getObjectB ext file x (maxNestedLoads + 1) [] (n : Int) = none := by
    simp [getObjectB, hnone]
  rw [this] at h
  cases h

/-- the model's fuel is never the reason for an answer, on any byte string -/
theorem read_bytes_never_fuel (file : List Nat) (ext : Ext) : readBytes file ext ≠ .error .fuel := by
  unfold readBytes
  split
  · exact fun h => nomatch h
  · next x _ =>
    split
    · exact fun h => nomatch h
    · exact readWith_enough (resB ext file x) ext (maxKeyI x) (resB_ok_le ext file x) (resB_noFuel ext file x)
        (fuelB x) (by unfold fuelB; omega) _

/-- `parseHeader`: a file that does not begin with `%PDF-d.d` is refused -/
theorem read_bytes_needs_header (file : List Nat) (ext : Ext) (h : headerOk file = false) :
    readBytes file ext = .error .err := by
  simp [readBytes, openFile, h]

theorem pageTree_none (res : Res) (fuel : Nat) : pageTree res fuel none = .error .err := rfl

/-- `GetCatalog`: a trailer whose `/Root` is not an indirect reference is refused -/
theorem read_bytes_needs_root (file : List Nat) (ext : Ext) (x : RawSection) (tr : Dict)
    (hx : openFile ext file = .ok x) (ht : trailerOf ext file = some tr) (hr : rootB tr = none) :
    readBytes file ext = .error .err := by
  simp [readBytes, hx, ht, hr, readWith, pageTree_none]

example (ext : Ext) : readBytes [] ext = .error .err := read_bytes_needs_header [] ext rfl

/-- **read_bytes_depends_on_objects**: two byte strings that `reader.Open` accepts, whose
`GetObject` answers agree for every object number and whose trailers name the same root, give
the same pages — no matter how the bytes achieve that, and no matter how many entries the two
tables have (the bound of the page-tree walk differs; both are enough). -/
theorem read_bytes_depends_on_objects (file file' : List Nat) (ext : Ext) (x x' : RawSection) (tr tr' : Dict)
    (hx : openFile ext file = .ok x) (hx' : openFile ext file' = .ok x')
    (ht : trailerOf ext file = some tr) (ht' : trailerOf ext file' = some tr')
    (hobj : ∀ n, resB ext file x n = resB ext file' x' n) (hroot : rootB tr = rootB tr') :
    readBytes file ext = readBytes file' ext := by
  have he : resB ext file x = resB ext file' x' := funext hobj
  simp only [readBytes, hx, hx', ht, ht', hroot]
  rw [he]
  exact readWith_two_bounds (resB ext file' x') ext (maxKeyI x) (maxKeyI x')
    (by rw [← he]; exact resB_ok_le ext file x) (resB_ok_le ext file' x') (resB_noFuel ext file' x')
    (fuelB x) (fuelB x') (by unfold fuelB; omega) (by unfold fuelB; omega) _

example (file : List Nat) (ext : Ext) (x : RawSection) (tr : Dict)
    (hx : openFile ext file = .ok x) (ht : trailerOf ext file = some tr) :
    readBytes file ext = readBytes file ext :=
  read_bytes_depends_on_objects file file ext x x tr tr hx hx ht ht (fun _ => rfl) rfl

/-- **stored_object_read**: by the table `x` and the bytes, object `n` is written as `v`
(`C04N.Loads`: in use at its offset in any legal spelling / EOL style with a direct `/Length`;
a stream whose `/Length` is held by another object, recursively; a member of an object stream
behind any filter chain; a member of an object stream whose own `/Length` is indirect) through
at most 16 distinct objects loaded inside each other. Then the layers above the object layer
see exactly `v` (a stream: the result of its `Decode()`). -/
theorem stored_object_read (ext : Ext) (file : List Nat) (x : RawSection) (n : Nat) (v : PVal) (path : List Int)
    (h : Loads ext file x (n : Int) v path) (hnd : path.Nodup) (hd : path.length ≤ 16) :
    resB ext file x n = .ok (toSVal ext v) := by
  unfold resB
  rw [C04N.loads_within ext file x (n : Int) v path h [] (maxNestedLoads + 1) hnd (by simp)
    (by simp [maxNestedLoads]; omega) (by simp [maxNestedLoads]; omega)]

/-- a number without entry, or with a free entry, is an error — whatever the bytes hold -/
theorem missing_object_error (ext : Ext) (file : List Nat) (x : RawSection) (n : Nat)
    (h : getLastI x (n : Int) = none ∨ ∃ e, getLastI x (n : Int) = some e ∧ e.kind = .free) :
    resB ext file x n = .error .err := by
  unfold resB
  rw [C04B.lookup_missing_or_free_is_error ext file x (maxNestedLoads + 1) [] (n : Int) h]

/-- **opened_by_revisions**: a byte string that begins with a header, ends in `startxref`
*start*, and in which from *start* cross-reference sections of EITHER kind (classic tables with
any subsections, EOL and entry terminators; cross-reference streams with any `/W`, `/Index`
and filter chain) stand chained by `/Prev` at distinct offsets, is opened with a table that
gives every number the entry of the newest revision mentioning it, and with the trailer of the
section at *start*. -/
theorem opened_by_revisions (ext : Ext) (file : List Nat) (start : Int) (revs : List (Int × RawSection))
    (sec0 : RawSection) (tr : Dict)
    (hh : headerOk file = true) (hfind : findXRef file = .ok start) (hc : RevChain ext file start revs)
    (hnd : (revs.map Prod.fst).Nodup) (h0 : SectionAt ext file start sec0 tr) :
    ∃ x, openFile ext file = .ok x ∧ trailerOf ext file = some tr ∧
      ∀ n, getLastI x n = newestI (revs.map Prod.snd).reverse n := by
  -- the table is the revisions' sections oldest first, flattened: one table for every `n`
  refine ⟨_, ?_, ?_, fun n => getLastI_flatten _ n⟩
  · rw [openFile, if_pos hh]
    exact (C04B.load_chain_oldest_first ext file start revs hfind hc.toChainB hnd).2
  · unfold trailerOf
    rw [hfind]
    show (match parseXRef ext file start with | .ok (_, tr) => some tr | .error _ => none) = some tr
    rw [h0.parse]

/-- a logical object store: object number ↦ the object (`none`: no such object) -/
abbrev Store := Nat → Option PVal

/-- what the layers above the object layer see of a store -/
def storeRes (ext : Ext) (S : Store) : Res := fun n =>
  match S n with
  | some v => .ok (toSVal ext v)
  | none => .error .err

/-- the byte string `file` is a physical layout of the store `S` with root `r`:
`reader.Open` accepts it (by `opened_by_revisions`: any header version, any chain of classic /
stream sections), its trailer's `/Root` is a reference to `r`, every object `S` defines is
stored as `S` says in one of the ways of `stored_object_read`, and every other number has no
live entry. Everything else is free: order and offsets of the objects, white space, comments
and EOL style between and inside them, stale objects and superseded sections, which objects
are packed into which object streams under which filters, where the `/Length`s are. -/
structure IsLayout (ext : Ext) (file : List Nat) (S : Store) (r : Nat) : Prop where
  opened : ∃ x tr g, openFile ext file = .ok x ∧ trailerOf ext file = some tr ∧
    dget tr kRoot = some (.ref (r : Int) g) ∧
    (∀ n v, S n = some v → ∃ path, Loads ext file x (n : Int) v path ∧ path.Nodup ∧ path.length ≤ 16) ∧
    (∀ n, S n = none → getLastI x (n : Int) = none ∨ ∃ e, getLastI x (n : Int) = some e ∧ e.kind = .free)

theorem rootB_ref (tr : Dict) (r : Nat) (g : Int) (h : dget tr kRoot = some (.ref (r : Int) g)) :
    rootB tr = some r := by
  have : ¬ ((r : Int) < 0) := by omega
  simp [rootB, h, this]

/-- the resolver on the bytes of a layout of `S` is `S` as the layers above see it -/
theorem resB_layout {ext : Ext} {file : List Nat} {S : Store} {x : RawSection}
    (hdef : ∀ n v, S n = some v → ∃ path, Loads ext file x (n : Int) v path ∧ path.Nodup ∧ path.length ≤ 16)
    (hundef : ∀ n, S n = none → getLastI x (n : Int) = none ∨ ∃ e, getLastI x (n : Int) = some e ∧ e.kind = .free) :
    resB ext file x = storeRes ext S := by
  funext n
  unfold storeRes
  cases hs : S n with
  | some v =>
    obtain ⟨path, hp, hnd, hd⟩ := hdef n v hs
    exact stored_object_read ext file x n v path hp hnd hd
  | none => exact missing_object_error ext file x n (hundef n hs)

/-- **read_bytes_layout** (physical-layout independence, the reader on bytes against the
store): for every byte string that is a layout of `S` with root `r`, and every bound `K` on
the numbers `S` defines, the pages read from the bytes are the pages of the store — the right
side does not mention the bytes. -/
theorem read_bytes_layout (ext : Ext) (file : List Nat) (S : Store) (r K : Nat)
    (hl : IsLayout ext file S r) (hK : ∀ n v, S n = some v → n ≤ K) :
    readBytes file ext = readWith (storeRes ext S) ext (2 * (K + 1) + 2) (some r) := by
  obtain ⟨x, tr, g, hx, ht, hroot, hdef, hundef⟩ := hl.opened
  have he := resB_layout hdef hundef
  simp only [readBytes, hx, ht, rootB_ref tr r g hroot]
  rw [he]
  have hKs : ∀ n v, storeRes ext S n = .ok v → n ≤ K := by
    intro n v h
    unfold storeRes at h
    cases hs : S n with
    | some w => exact hK n w hs
    | none => rw [hs] at h; cases h
  exact readWith_two_bounds (storeRes ext S) ext (maxKeyI x) K
    (by rw [← he]; exact resB_ok_le ext file x) hKs (by rw [← he]; exact resB_noFuel ext file x)
    (fuelB x) _ (by unfold fuelB; omega) (Nat.le_refl _) _

/-- **read_bytes_layout_independent**: two byte strings that are layouts of the same store
with the same root — under any two writer policies — give the same pages. (The bound `K` plays no
part: the two resolvers are the same function, `read_bytes_depends_on_objects`.) -/
theorem read_bytes_layout_independent (ext : Ext) (file file' : List Nat) (S : Store) (r K : Nat)
    (hl : IsLayout ext file S r) (hl' : IsLayout ext file' S r) (hK : ∀ n v, S n = some v → n ≤ K) :
    readBytes file ext = readBytes file' ext := by
  obtain ⟨x, tr, g, hx, ht, hroot, hdef, hundef⟩ := hl.opened
  obtain ⟨x', tr', g', hx', ht', hroot', hdef', hundef'⟩ := hl'.opened
  exact read_bytes_depends_on_objects file file' ext x x' tr tr' hx hx' ht ht'
    (fun n => by rw [resB_layout hdef hundef, resB_layout hdef' hundef'])
    (by rw [rootB_ref tr r g hroot, rootB_ref tr' r g' hroot'])

/-- satisfiability of the storage clauses: the empty store is laid out by any table without
live entries -/
example (ext : Ext) (file : List Nat) :
    (∀ n v, (fun _ => none : Store) n = some v →
      ∃ path, Loads ext file [] (n : Int) v path ∧ path.Nodup ∧ path.length ≤ 16) ∧
    (∀ n : Nat, (fun _ => none : Store) n = none →
      getLastI ([] : RawSection) (n : Int) = none ∨ ∃ e, getLastI ([] : RawSection) (n : Int) = some e ∧ e.kind = .free) := by
  constructor
  · intro n v h; simp at h
  · intro n _; exact Or.inl rfl

/-- **read_bytes_refines_abstract**: a byte string that is a layout of the objects of the
abstract file `f` (as `Reader.getObject f` presents them), with the root `f`'s newest trailer
names, is read as `Reader.readPages f`. -/
theorem read_bytes_refines_abstract (ext : Ext) (file : List Nat) (f : AbsFile) (S : Store) (r : Nat)
    (hl : IsLayout ext file S r) (hS : ∀ n, storeRes ext S n = getObject f ext n)
    (hroot : rootOf f = some r) (hd : prevDangling f = false) :
    readBytes file ext = readPages f ext := by
  have he : storeRes ext S = getObject f ext := funext hS
  have hK : ∀ n v, S n = some v → n ≤ maxKey (xref f) := by
    intro n v hs
    apply getObject_ok_le f ext n (toSVal ext v)
    rw [← hS n]
    simp [storeRes, hs]
  rw [read_bytes_layout ext file S r (maxKey (xref f)) hl hK, he, ← hroot]
  exact (readPages_eq_readWith hd rfl (readWith_enough _ ext _ (getObject_ok_le f ext) (getObject_noFuel f ext) _
    (Nat.le_refl _) _)).symm

/-- **read_bytes_document** (the property's statement on bytes, base document class): let `d`
be any logical document (pages × lines) and `sp` any legal spelling of its objects and content
programs, each page's program within 64 MiB. EVERY byte string that is a physical layout
(`IsLayout`) of exactly the objects of `renderBase d sp` (`hS`) — any EOL style, any number of
revisions, any cross-reference kind and `/Length` placement that `IsLayout` admits — is read as
exactly the lines of `d`: page by page, in show order, each line decoded through the page's font
(WinAnsiEncoding, NFC last). `hS` says that the store holds nothing but those objects, so every other
number has no live entry: the container of an object stream, or a cross-reference stream that lists
itself, is admitted only under a free entry (see "What `IsLayout` does not cover" at the head). -/
theorem read_bytes_document (d : LDoc) (sp : Spelling) (hok : sp.Ok d) (ext : Ext)
    (hsize : ∀ i, i < d.length → (C01R.progBytes sp i).length ≤ PdfDoc.maxPageContentBytes)
    (file : List Nat) (S : Store) (r : Nat)
    (hl : IsLayout ext file S r)
    (hS : ∀ n, storeRes ext S n = getObject (renderBase d sp) ext n)
    (hroot : rootOf (renderBase d sp) = some r) (hd : prevDangling (renderBase d sp) = false) :
    readBytes file ext = .ok (d.map fun lines => lines.map (shown ext)) := by
  rw [read_bytes_refines_abstract ext file (renderBase d sp) S r hl hS hroot hd]
  exact C01R.read_render_partial d sp hok ext hsize

end Tabula.C01B
