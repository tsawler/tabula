import TabulaModel.Lemmas.LayoutGaps
import TabulaModel.Props.C09
/-
C09, the histogram of `layout.(*ColumnDetector).findVerticalGaps` after the two C02 repairs
(988a551: guard on the page width; 541d4a6: difference array instead of one `++` per bucket).

For the theorems of `Props/C09*.lean` the gap list is a universally quantified parameter, so
neither repair touches a statement there: they hold for the empty gap list a refused width
yields as for any other. This file closes the parameter (`Model/LayoutGaps.lean`) to state what
the repairs themselves claim:

* the output of `findVerticalGaps` is the same with either histogram loop, for every input;
* a refused page width yields no gaps; behind the guard there are at most 2^20 buckets,
  2^20 + 1 cells, and `2 * fragments + buckets` array writes (not `fragments * buckets`).
-/
namespace Tabula.C09Gaps
open Tabula.Layout

/-- 541d4a6 does not change the histogram: for runs inside the array the difference array summed once is the per-bucket count -/
theorem hist_unchanged (nb : Nat) (runs : List (Nat × Nat)) (h : ∀ r ∈ runs, r.1 ≤ r.2 ∧ r.2 < nb) :
    histDiff nb runs = histNaive nb runs := by
  unfold histDiff histNaive diffArray
  rw [hist_fold nb runs (fun r hr => (h r hr).1), scan_zeros, List.take_replicate]
  have : min nb (nb + 1) = nb := by omega
  rw [this]

example : ∀ r ∈ [((0 : Nat), (2 : Nat)), (1, 5), (3, 3)], r.1 ≤ r.2 ∧ r.2 < 6 := by decide

/-- the clamps of the fragment loop put every recorded run inside the array -/
theorem runOf_valid (nb : Nat) (f : Frag) (r : Nat × Nat) (h : runOf nb f = some r) : r.1 ≤ r.2 ∧ r.2 < nb :=
  runOf_some nb f r h

/-- 541d4a6 does not change the OUTPUT of findVerticalGaps, for every input -/
theorem find_gaps_unchanged (minGap : Rat) (maxCols : Nat) (pw : Rat) (fs : List Frag) :
    findVerticalGaps minGap maxCols pw fs = findVerticalGapsOld minGap maxCols pw fs := by
  unfold findVerticalGaps findVerticalGapsOld
  cases fs with
  | nil => rfl
  | cons f0 fs =>
    simp only
    rw [hist_unchanged _ _ (runs_valid _ _)]

/-- the guard of 988a551 in plain terms: refused iff the width is negative or at least 5 * 2^20 = 5242880 -/
theorem gapsRefused_iff (pw : Rat) : gapsRefused pw = true ↔ (pw < 0 ∨ pw ≥ 5242880) := by
  unfold gapsRefused
  simp only [Bool.or_eq_true, Bool.not_eq_true', decide_eq_false_iff_not, decide_eq_true_eq]
  rw [div5_ge_iff, ge_iff_le, Rat.not_le]

/-- (a) beyond the bound the answer is what the code answers: no gaps -/
theorem find_gaps_refused (minGap : Rat) (maxCols : Nat) (pw : Rat) (fs : List Frag)
    (h : pw < 0 ∨ pw ≥ 5242880) : findVerticalGaps minGap maxCols pw fs = [] := by
  have hr : gapsRefused pw = true := (gapsRefused_iff pw).mpr h
  unfold findVerticalGaps
  cases fs with
  | nil => rfl
  | cons f0 fs => simp only [hr, if_true]

/-- (b) behind the guard there are at most 2^20 buckets -/
theorem num_buckets_bounded (pw : Rat) (h : gapsRefused pw = false) : numBuckets pw ≤ maxBuckets := by
  have h' : ¬ (pw < 0 ∨ pw ≥ 5242880) := by
    rw [← gapsRefused_iff, h]; exact Bool.false_ne_true
  have h0 : ¬ pw < 0 := fun x => h' (Or.inl x)
  have h1 : ¬ pw / 5 ≥ (maxBuckets : Rat) := fun x => h' (Or.inr ((div5_ge_iff pw).mp x))
  have h5 : (0 : Rat) < 5 := by decide +kernel
  have hq : ¬ pw / 5 < 0 := by
    rw [Rat.div_lt_iff h5, Rat.zero_mul]; exact h0
  have hlt : pw / 5 < (((maxBuckets : Nat) : Int) : Rat) := by
    rw [Rat.intCast_natCast]; exact Rat.not_le.mp h1
  have hf : (pw / 5).floor < ((maxBuckets : Nat) : Int) := Rat.floor_lt_iff.mpr hlt
  have hm : 1 ≤ maxBuckets := by decide
  unfold numBuckets truncInt
  rw [if_neg hq]
  omega

theorem diff_array_cells (nb : Nat) (runs : List (Nat × Nat)) : (diffArray nb runs).length = nb + 1 := by
  simp only [diffArray, foldl_bump_length, List.length_replicate]

theorem hist_length (nb : Nat) (runs : List (Nat × Nat)) : (histDiff nb runs).length = nb := by
  unfold histDiff
  rw [List.length_take, scan_length, diff_array_cells]
  omega

/-- (b) cells allocated: at most 2^20 + 1 for every page width that is not refused, whatever the fragments -/
theorem hist_cells_bounded (pw : Rat) (fs : List Frag) (h : gapsRefused pw = false) :
    (diffArray (numBuckets pw) (fs.filterMap (runOf (numBuckets pw)))).length ≤ maxBuckets + 1 := by
  rw [diff_array_cells]
  exact Nat.succ_le_succ (num_buckets_bounded pw h)

/-- (b) array writes: fragments + buckets (2 per fragment, 1 per bucket), not fragments x buckets -/
theorem hist_work_bounded (pw : Rat) (fs : List Frag) (h : gapsRefused pw = false) :
    diffWrites (numBuckets pw) (fs.filterMap (runOf (numBuckets pw))) ≤ 2 * fs.length + maxBuckets := by
  unfold diffWrites
  have h1 := num_buckets_bounded pw h
  have h2 := List.length_filterMap_le (runOf (numBuckets pw)) fs
  omega

/-- the loop before 541d4a6 on n page-wide fragments: fragments x buckets writes -/
theorem naive_writes_full (nb n : Nat) (h : 0 < nb) : naiveWrites (List.replicate n (0, nb - 1)) = n * nb := by
  rw [naiveWrites, List.map_replicate, List.sum_replicate_nat]
  simp only [Nat.sub_zero, Nat.sub_add_cancel h]

/-- at most MaxColumns - 1 gaps are reported -/
theorem gaps_count_bounded (minGap : Rat) (maxCols : Nat) (pw : Rat) (fs : List Frag) (h : 1 ≤ maxCols) :
    (findVerticalGaps minGap maxCols pw fs).length < maxCols := by
  unfold findVerticalGaps
  cases fs with
  | nil => exact h
  | cons f0 fs =>
    simp only
    split
    · exact h
    · exact gapsOfHist_length _ _ _ _ _ _ h

/-- (c) the edge of the bound -/
example : gapsRefused (5242880 - 1/4) = false ∧ numBuckets (5242880 - 1/4) = 1048576 := by decide +kernel
example : gapsRefused 5242880 = true := by decide +kernel
example : gapsRefused (5242880 + 1/4) = true := by decide +kernel
example : gapsRefused 0 = false ∧ gapsRefused (-1/4) = true := by decide +kernel
/-- a small histogram both ways -/
example : histDiff 6 [(0, 2), (1, 5), (3, 3)] = [1, 2, 2, 2, 1, 1] ∧ histNaive 6 [(0, 2), (1, 5), (3, 3)] = [1, 2, 2, 2, 1, 1] := by decide

/-! ## what the bound means for C09 -/

/-- a page width beyond the bound (or negative) is laid out as ONE column holding every fragment
in the order given: nothing is refused, lost or repeated - only the column split is not tried -/
theorem columns_beyond_width_bound (minGap : Rat) (maxCols : Nat) (pw minCW : Rat)
    (isSpan keep : List Frag → List Frag → Bool) (fs : List Frag) (hfs : fs ≠ [])
    (h : pw < 0 ∨ pw ≥ 5242880) :
    detectColumns (findVerticalGaps minGap maxCols pw fs) minCW isSpan keep fs = ⟨[fs], []⟩ := by
  rw [find_gaps_refused minGap maxCols pw fs h]
  unfold detectColumns
  cases fs with
  | nil => exact absurd rfl hfs
  | cons f r => rfl

/-- `ColumnDetector.Detect` with the gap list as the code computes it, on either side of the
bound: still a partition of the input (instance of `C09.columns_partition`) -/
theorem columns_partition_closed (minGap : Rat) (maxCols : Nat) (pw minCW : Rat)
    (isSpan keep : List Frag → List Frag → Bool) (fs : List Frag) :
    ((detectColumns (findVerticalGaps minGap maxCols pw fs) minCW isSpan keep fs).columns.flatten ++
      (detectColumns (findVerticalGaps minGap maxCols pw fs) minCW isSpan keep fs).spanning).Perm fs :=
  C09.columns_partition _ minCW isSpan keep fs

example : (⟨0, 72, 700, 30, 10, 10, [97]⟩ :: ([] : List Frag)) ≠ [] ∧ ((5242880 : Rat) < 0 ∨ (5242880 : Rat) ≥ 5242880) := by
  decide +kernel

end Tabula.C09Gaps
