import TabulaModel.Props.C04Bytes
import TabulaModel.Lemmas.ObjStmHeader
/-!
# C04 — the header of an object stream is checked before it sizes or slices anything
(core/objstm.go since 78b7a87)

`parseHeader` reads `/N` pairs "number offset" from the first `/First` bytes of the decoded data.
Since 78b7a87 an offset must lie within `0 .. len(decoded)` (`offset < 0 ||
offset > len(decoded)` is an error — `len(decoded)` itself passes and is refused later by
`GetObjectByIndex`), `/N` no longer sizes the table (`capacity = min(N, len(header)/4 + 1)`: a
reservation only, no answer depends on it), and a member whose successor starts before it
extends to the end of the data. The model (`Reader.headerPairs`, `Reader.mkObjStm`,
`Reader.memberSlice`) has these checks; here they are stated.
-/
namespace Tabula.C04OS
open Tabula.XrefFile Tabula.XrefBytes Tabula.Pdf Tabula.Reader

/-- the loop of `parseHeader`: an offset outside `0 .. len` in one of the first `n` pairs ends it
with an error, whatever the other pairs are -/
theorem headerPairs_offset_outside (len : Nat) :
    ∀ (i n : Nat) (objs : List Obj) (b : Int), i < n → objs[2 * i + 1]? = some (.int b) →
      (b < 0 ∨ (len : Int) < b) → headerPairs len n objs = none := by
  intro i n objs b hi hget hb
  cases h : headerPairs len n objs with
  | none => rfl
  | some ps =>
    obtain ⟨_, b', _, h2, _, _⟩ := headerPairs_some_get h i hi
    rw [hget] at h2
    cases h2
    omega

/-- `mkObjStm` fails as soon as the header loop does -/
theorem mkObjStm_error_of_header (ext : Reader.Ext) (kv : Dict) (data dec : List Nat) (n first : Int)
    (hN : dget kv kN = some (.int n)) (hF : dget kv kFirst = some (.int first))
    (hdec : decodeStream ext kv data = some dec)
    (hh : headerPairs dec.length n.toNat (coreParseAll (dec.take first.toNat)).1 = none) :
    mkObjStm ext kv data = .error .err := by
  unfold mkObjStm
  rw [hN, hF]
  cases dget kv Reader.kType with
  | none => rfl
  | some t =>
    cases t <;> try rfl
    simp only [hdec, hh]
    split
    · rfl
    · split <;> rfl

/-- **objstm_header_offset_outside_is_error** (what the code answers beyond the bound): if among
the first `/N` pairs of the header one offset is negative or greater than the length of the
decoded data, the object stream is refused as a whole — every member lookup through it is an
error (`C04Hs.objstm_header_error_every_time`), nothing is sliced. -/
theorem objstm_header_offset_outside_is_error (ext : Reader.Ext) (kv : Dict) (data dec : List Nat) (n first : Int)
    (i : Nat) (b : Int)
    (hN : dget kv kN = some (.int n)) (hF : dget kv kFirst = some (.int first))
    (hdec : decodeStream ext kv data = some dec) (hi : i < n.toNat)
    (hget : (coreParseAll (dec.take first.toNat)).1[2 * i + 1]? = some (.int b))
    (hb : b < 0 ∨ (dec.length : Int) < b) :
    mkObjStm ext kv data = .error .err :=
  mkObjStm_error_of_header ext kv data dec n first hN hF hdec
    (headerPairs_offset_outside dec.length i n.toNat _ b hi hget hb)

/-- what a successful header loop has read: exactly `n` pairs out of at least `2 n` objects,
every offset within `0 .. len` -/
theorem headerPairs_some (len : Nat) :
    ∀ (n : Nat) (objs : List Obj) (ps : List (Int × Nat)), headerPairs len n objs = some ps →
      ps.length = n ∧ 2 * n ≤ objs.length ∧ ∀ p ∈ ps, p.2 ≤ len := by
  intro n
  induction n with
  | zero =>
    intro objs ps h
    cases h
    exact ⟨rfl, Nat.zero_le _, fun p hp => by cases hp⟩
  | succ n ih =>
    intro objs ps h
    obtain ⟨a, b, r, qs, rfl, hb, hr, rfl⟩ := headerPairs_succ_some h
    obtain ⟨h1, h2, h3⟩ := ih r qs hr
    refine ⟨congrArg (· + 1) h1, by simp only [List.length_cons]; omega, ?_⟩
    intro p hp
    rcases List.mem_cons.mp hp with rfl | hp
    · simp only; omega
    · exact h3 p hp

theorem go_length (inp : List Nat) : ∀ (n : Nat) (s : PState) (acc : List Obj),
    (coreParseAll.go inp n s acc).1.length ≤ acc.length + n := by
  intro n
  induction n with
  | zero => intro s acc; simp [coreParseAll.go]
  | succ n ih =>
    intro s acc
    simp only [coreParseAll.go]
    split
    · simp
    · rename_i o s' _
      have := ih s' (acc ++ [o])
      simp only [List.length_append, List.length_cons, List.length_nil] at this
      omega

/-- repeated `ParseObject` on `k` bytes yields at most `k + 2` objects (the loop bound of the
C06 model) -/
theorem coreParseAll_length (inp : List Nat) : (coreParseAll inp).1.length ≤ inp.length + 2 := by
  unfold coreParseAll
  have := go_length inp (inp.length + 2) (newParser inp) []
  simp only [List.length_nil, Nat.zero_add] at this
  split <;> rename_i h <;> rw [h] at this <;> exact this

/-- **objstm_offsets_bounded** (bounded work, every input): an object stream that opens holds
exactly `/N` header pairs, and that is at most `/First / 2 + 1` ≤ half the decoded data plus
one — whatever `/N` says, the table is never larger than what the header bytes can spell; the
header ends inside the data and every offset points inside the data or at its end. (The code's
reservation `min(N, len(header)/4 + 1)` is no part of any answer and is not modelled.) -/
theorem objstm_offsets_bounded (ext : Reader.Ext) (kv : Dict) (data : List Nat) (os : ObjStm)
    (h : mkObjStm ext kv data = .ok os) :
    (∃ n : Int, dget kv kN = some (.int n) ∧ os.offsets.length = n.toNat) ∧
      2 * os.offsets.length ≤ os.first + 2 ∧ os.first ≤ os.decoded.length ∧
      decodeStream ext kv data = some os.decoded ∧ ∀ p ∈ os.offsets, p.2 ≤ os.decoded.length := by
  unfold mkObjStm at h
  split at h
  · rename_i t n first hT hN hF
    split at h
    · cases h
    · cases hdec : decodeStream ext kv data with
      | none => rw [hdec] at h; cases h
      | some dec =>
        rw [hdec] at h
        simp only at h
        split at h
        · cases h
        · rename_i hfirst
          cases hh : headerPairs dec.length n.toNat (coreParseAll (dec.take first.toNat)).1 with
          | none => rw [hh] at h; cases h
          | some ps =>
            rw [hh] at h
            simp only [Except.ok.injEq] at h
            subst h
            obtain ⟨h1, h2, h3⟩ := headerPairs_some _ _ _ _ hh
            have hl := coreParseAll_length (dec.take first.toNat)
            simp only [List.length_take] at hl
            refine ⟨⟨n, hN, h1⟩, ?_, by simp only; omega, rfl, h3⟩
            simp only
            have : min first.toNat dec.length ≤ first.toNat := Nat.min_le_left _ _
            omega
  · cases h

/-- **objstm_n_beyond_header_is_error** (`/N 2147483648`, `/N 2^62`): an `/N` that asks for
more pairs than the header bytes can spell is refused — after reading what the header holds,
not after reserving `/N` entries -/
theorem objstm_n_beyond_header_is_error (ext : Reader.Ext) (kv : Dict) (data dec : List Nat) (n first : Int)
    (hN : dget kv kN = some (.int n)) (hF : dget kv kFirst = some (.int first))
    (hdec : decodeStream ext kv data = some dec) (hbig : first.toNat + 2 < 2 * n.toNat) :
    mkObjStm ext kv data = .error .err := by
  apply mkObjStm_error_of_header ext kv data dec n first hN hF hdec
  cases hh : headerPairs dec.length n.toNat (coreParseAll (dec.take first.toNat)).1 with
  | none => rfl
  | some ps =>
    obtain ⟨_, h2, _⟩ := headerPairs_some _ _ _ _ hh
    have hl := coreParseAll_length (dec.take first.toNat)
    simp only [List.length_take] at hl
    have : min first.toNat dec.length ≤ first.toNat := Nat.min_le_left _ _
    omega

theorem take_drop_infix {α : Type} (l : List α) (a k : Nat) :
    ∃ before after : List α, l = before ++ (l.drop a).take k ++ after :=
  let ⟨s, t, h⟩ := (List.take_prefix k (l.drop a)).isInfix.trans (List.drop_suffix a l).isInfix
  ⟨s, t, h.symm⟩

/-- **member_slice_inside** (bounded work, every input): the bytes `GetObjectByIndex` hands to
the parser are a contiguous part of the decoded data — never before its start, never beyond its
end, never an end before the start (a member whose successor's offset is smaller extends to the
end of the data) -/
theorem member_slice_inside (os : ObjStm) (i : Nat) (num : Int) (bytes : List Nat)
    (h : memberSlice os i = some (num, bytes)) :
    ∃ before after : List Nat, os.decoded = before ++ bytes ++ after := by
  unfold memberSlice at h
  split at h
  · cases h
  · rename_i num' rel hoff
    simp only at h
    split at h
    · cases h
    · simp only [Option.some.injEq, Prod.mk.injEq] at h
      obtain ⟨_, hb⟩ := h
      rw [← hb]
      exact take_drop_infix _ _ _

/-- an offset equal to the length of the decoded data passes the header check (the code
compares with `>`), one more is refused, and so is -1 -/
example : headerPairs 5 1 [.int 1, .int 5] = some [(1, 5)] ∧ headerPairs 5 1 [.int 1, .int 6] = none ∧
    headerPairs 5 1 [.int 1, .int (-1)] = none := by decide

/-- … but the member at `len(decoded)` is then refused by `GetObjectByIndex`
(`offset >= len(decoded)`), while the one at `len - 1` is its last byte -/
example : memberSlice ⟨0, [(1, 5)], [48, 32, 49, 32, 50]⟩ 0 = none ∧
    memberSlice ⟨0, [(1, 4)], [48, 32, 49, 32, 50]⟩ 0 = some (1, [50]) := by decide

/-- a successor that starts before the member: the member extends to the end of the data
(before 78b7a87: a slice with its end before its start) -/
example : memberSlice ⟨0, [(1, 2), (2, 0)], [48, 32, 49, 32, 50]⟩ 0 = some (1, [49, 32, 50]) := by decide

/-- `/N` = 2^62 over a header that spells one pair: refused by the loop (nothing is sized by `/N`) -/
example : headerPairs 5 4611686018427387904 [.int 1, .int 0] = none := by
  cases h : headerPairs 5 4611686018427387904 [.int 1, .int 0] with
  | none => rfl
  | some ps =>
    have := (headerPairs_some 5 _ _ ps h).2.1
    simp at this

end Tabula.C04OS
