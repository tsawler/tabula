import TabulaModel.Lemmas.Process
import TabulaModel.Lemmas.OptHeap
/-!
# C03 — the state a process holds between calls, and why calls do not interfere

"The result of an extraction depends only on the document bytes and the options: … an
extraction gives the same result whether it runs alone, after any other extractions, …"

`Model/Process.lean`: a process works on any number of documents; for each it holds a FAMILY of
Extractors (derived from one `Open(f)` / `FromReader(r)` base by configuration methods), the
readers they opened, and the warnings each Extractor holds.  A SCHEDULE is any list of calls
`(family, operation)`.  The theorems: a call changes its own family only (`non_interference`);
what a family is answered in a schedule is what its own calls are answered alone
(`schedule_projection`); and each of those answers is a function of the document and of the
chain of configuration calls behind the receiver — result class and warnings
(`extraction_depends_on_document_and_options`).  `Model/OptHeap.lean` shows at the level of Go
slices why configuration methods cannot disturb each other (`options_copy_on_configure`), with
the seeded shallow copy as counterexample; `cache_transparent` does the same for the caches a
`reader.Reader` keeps.  Interleavings below the granularity of a call (goroutines) are not
modelled: there the regenerated facts and the race detector carry the claim.
-/
namespace Tabula.C03Process
open Tabula.Builder Tabula.Process Tabula.OptHeap

/-- **non_interference**: a call leaves every family but the one it names exactly as it was —
Extractors, readers, warnings -/
theorem non_interference (docs : List Doc) (p : Proc) (c : Call) (d : Nat) (h : d ≠ c.fam) :
    (procStep docs p c).1[d]? = p[d]? :=
  procStep_other docs p c d h

/-- **schedule_projection**: in ANY schedule — any interleaving of the calls on any number of
documents — the answers that go to family `d` are the answers of `d`'s own calls, in their
order, run on `d` alone -/
theorem schedule_projection (docs : List Doc) (cs : List Call) (d : Nat) (doc : Doc)
    (hd : docs[d]? = some doc) :
    projectAns d cs (procRun docs (proc0 docs) cs) = famRun doc doc.fam0 (project d cs) :=
  procRun_project docs cs (proc0 docs) d doc doc.fam0 hd (proc0_get docs d doc hd)

/-- **extraction_depends_on_document_and_options**: in any schedule, every answer family `d` gets —
result class (error / page count / the page indices processed / whole document) and the
warnings returned — is the one computed from document `d` and from the chain of configuration
calls that built the receiving Extractor, by `aloneAnswer`: no reference to any state -/
theorem extraction_depends_on_document_and_options (docs : List Doc) (cs : List Call) (d : Nat) (doc : Doc)
    (hd : docs[d]? = some doc) :
    projectAns d cs (procRun docs (proc0 docs) cs) = aloneRun doc [[]] (project d cs) := by
  rw [schedule_projection docs cs d doc hd]
  exact famRun_alone doc _ [[]] doc.fam0 (fam0_ok doc)

/-- **schedule_irrelevant**: two schedules that give family `d` the same calls in the same order —
whatever else they do, in whatever interleaving, on whatever other documents — give `d` the
same answers -/
theorem schedule_irrelevant (docs₁ docs₂ : List Doc) (cs₁ cs₂ : List Call) (d₁ d₂ : Nat) (doc : Doc)
    (h₁ : docs₁[d₁]? = some doc) (h₂ : docs₂[d₂]? = some doc) (hp : project d₁ cs₁ = project d₂ cs₂) :
    projectAns d₁ cs₁ (procRun docs₁ (proc0 docs₁) cs₁) = projectAns d₂ cs₂ (procRun docs₂ (proc0 docs₂) cs₂) := by
  rw [extraction_depends_on_document_and_options docs₁ cs₁ d₁ doc h₁,
    extraction_depends_on_document_and_options docs₂ cs₂ d₂ doc h₂, hp]

/-- a two-document process: document 0 (4 pages, page 3 shows messy traits) and document 1 (2
pages); the calls on document 0 are `x1 := x0.Pages(3); x1.Text(); x0.Text(); x1.Text()`,
interleaved with failing and succeeding calls on document 1 -/
def demoDocs : List Doc :=
  [{ world := ⟨true, some 4⟩, messy := [false, false, true, false] }, { world := ⟨true, some 2⟩ }]

def demoSchedule : List Call :=
  [⟨1, .term 0 .text⟩, ⟨0, .derive 0 (.pages [3])⟩, ⟨1, .derive 0 (.pages [9])⟩, ⟨0, .term 1 .text⟩,
   ⟨1, .term 1 .text⟩, ⟨0, .term 0 .text⟩, ⟨0, .term 1 .text⟩, ⟨2, .term 0 .text⟩]

example : procRun demoDocs (proc0 demoDocs) demoSchedule =
    [(.pages [0, 1], 0), (.none, 0), (.none, 0), (.pages [2], 1), (.err, 0), (.pages [0, 1, 2, 3], 0),
     (.pages [2], 1), (.bad, 0)] := by decide

example : projectAns 0 demoSchedule (procRun demoDocs (proc0 demoDocs) demoSchedule) =
    [(.none, 0), (.pages [2], 1), (.pages [0, 1, 2, 3], 0), (.pages [2], 1)] := by decide

/-- **warnings_accumulate_counterexample** (before 3adabc2: the page loops appended to the
Extractor's warning list and never started a new one): the second `Text()` on one Extractor
returned two warnings, where the same call alone returns one -/
theorem warnings_accumulate_counterexample :
    let d : Doc := { world := ⟨true, some 1⟩, messy := [true] }
    famRunOld d d.fam0 [.term 0 .text, .term 0 .text] ≠ aloneRun d [[]] [.term 0 .text, .term 0 .text] := by
  decide

/-- **derive_refines**: one configuration method, with `ExtractOptions.clone` copying the page list
and `append` growing by any policy: the new Extractor is the one the value-level model gives,
every backing array in use before is unchanged -/
theorem derive_refines (grow : Nat → Nat → Nat) (H : Heap) (x : HExt) (c : BCall) (hx : OptOk H x.sl) :
    absExt (hderive grow H x c).1 (hderive grow H x c).2 = (absExt H x).derive c ∧
    OptOk (hderive grow H x c).1 (hderive grow H x c).2.sl ∧
    Keeps H.next H (hderive grow H x c).1 :=
  hderive_spec grow H x c hx

/-- **options_copy_on_configure**: after any history of configuration calls on the Extractors of a
family (siblings from one base, chains of any depth, in any order), every Extractor holds
exactly the options of the value-level model -/
theorem options_copy_on_configure (grow : Nat → Nat → Nat) (e : Ext) (ops : List (Nat × BCall)) :
    ((hbase e).run grow ops).abs = runValues (hbase e).abs ops :=
  (run_abs grow ops (hbase e) (famOk_base e)).1

/-- **growth_policy_irrelevant**: the capacities `append` happens to pick never show -/
theorem growth_policy_irrelevant (g₁ g₂ : Nat → Nat → Nat) (e : Ext) (ops : List (Nat × BCall)) :
    ((hbase e).run g₁ ops).abs = ((hbase e).run g₂ ops).abs := by
  rw [options_copy_on_configure g₁ e ops, options_copy_on_configure g₂ e ops]

/-- `base := Open(f).PageRange(1,3); a := base.Pages(4); b := base.Pages(5)` -/
def r3m2History : List (Nat × BCall) := [(0, .pageRange 1 3), (1, .pages [4]), (1, .pages [5])]

example : (((hbase {}).run growDouble r3m2History).abs.map (·.opts.pages)) = [[], [1, 2, 3], [1, 2, 3, 4], [1, 2, 3, 5]] := by
  decide

/-- **shallow_clone_counterexample** (the seeded change r3m2, `clone` reduced to `return o`): the
base's page list has spare capacity after three single appends (capacity 4), `a` and `b`
write their page into the same slot, and `a` ends up with `b`'s page -/
theorem shallow_clone_counterexample :
    (((hbase {}).runShallow growDouble r3m2History).abs.map (·.opts.pages)) = [[], [1, 2, 3], [1, 2, 3, 5], [1, 2, 3, 5]] ∧
    ((hbase {}).runShallow growDouble r3m2History).abs ≠ runValues (hbase {}).abs r3m2History := by
  decide

/-- **cache_transparent**: on a fresh reader (empty cache, as after `NewReader`) any sequence of
look-ups and `ClearCache` calls returns, look-up by look-up, what the file says; from any cache
that holds only what the file says: `Process.accessRun_spec` -/
theorem cache_transparent {κ β : Type} [DecidableEq κ] (spec : κ → Option β) (as : List (Access κ)) :
    (accessRun spec [] as).2 = as.map (accessSpec spec) :=
  (accessRun_spec spec as [] (by intro e he; cases he)).1

/-- **lookup_history_independent**: a look-up on a reader that has been used for anything returns
what it returns on a fresh reader -/
theorem lookup_history_independent {κ β : Type} [DecidableEq κ] (spec : κ → Option β)
    (before : List (Access κ)) (n : κ) :
    (accessRun spec [] (before ++ [.get n])).2.getLast? = (accessRun spec [] [.get n]).2.getLast? := by
  rw [cache_transparent, cache_transparent]
  simp [accessSpec]

example : (accessRun (fun n => if n < 5 then some (n * 10) else none) [] [.get 3, .get 7, .get 3, .clear, .get 3]).2
    = [some 30, none, some 30, none, some 30] := by decide

end Tabula.C03Process
