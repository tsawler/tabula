import TabulaModel.Lemmas.FiltersSound
import TabulaModel.Lemmas.FiltersA85Reads
import TabulaModel.Lemmas.StreamDict
/-!
# C05, further all-input laws of the decoders: what comes out, and how much

The round trips (`Props/C05.lean`, `C05E`), the converse (`C05S`) and the error iffs (`C05Err`) say
*which* bytes a decoder returns. This file adds laws that hold for EVERY input string - conforming or
not, bytes or not - about the *shape* of whatever a decoder returns, and a few more insensitivity laws
of the ASCII decoders:

* `hex_output`, `a85_output`, `png_output`, `tiff_output`: the result of each decoder is a string of
  bytes (every element < 256, even when the model is fed numbers ≥ 256), and its length is fixed by
  the input: ASCIIHex exactly ⌈(significant characters)/2⌉ and never more than ⌈|data|/2⌉; ASCII85 at
  most 4·|data| (tight: `z`); the PNG predictor exactly |data| minus one tag byte per row; TIFF
  predictor 2 exactly |data|. No decoder invents or drops bytes beyond that.
* `predictor_output`, `flate_output`, `stage_output_bytes`, `chain_output_bytes`,
  `decode_output_bytes`: carried through `applyPredictor`, `FlateDecode`, `decodeWithFilter`, the
  filter-array loop and `Decode()` (dictionary level): if zlib and x/image/ccitt return bytes, then
  `Decode()` returns bytes on every dictionary and every data.
* `hex_case_insensitive`: folding `a`..`f` to `A`..`F` anywhere in ANY data changes neither the bytes
  nor the error; `hex_ws_erasure`: removing all white space at once changes nothing either.
* `a85_z_is_five_bangs`: at every group boundary `z` and `!!!!!` are interchangeable, whatever follows.
* `png_predictor_number_irrelevant`: `Predictor` 10..15 all select the same decoder (the per-row tag
  byte decides), for every data and geometry.
-/
namespace Tabula.C05More
open Tabula.Filters

abbrev Bytes (x : Str) : Prop := ∀ b ∈ x, b < 256

theorem hexVals_out : ∀ (cs : Str) (vs : List Nat), hexVals cs = some vs →
    vs.length = cs.length ∧ ∀ v ∈ vs, v < 16
  | [], vs, h => by
    simp only [hexVals, Option.some.injEq] at h
    subst h
    exact ⟨rfl, by intro v hv; cases hv⟩
  | c :: cs, vs, h => by
    rw [hexVals] at h
    cases hc : hexVal c with
    | none => simp [hc] at h
    | some v =>
      cases hr : hexVals cs with
      | none => simp [hc, hr] at h
      | some ws =>
        simp [hc, hr] at h
        subst h
        obtain ⟨h1, h2⟩ := hexVals_out cs ws hr
        refine ⟨by simp [h1], ?_⟩
        intro u hu
        rcases List.mem_cons.mp hu with rfl | hu
        · exact (hexVal_some_props c _ hc).2.2
        · exact h2 u hu

theorem pairUp_out : ∀ (vs : List Nat), (∀ v ∈ vs, v < 16) →
    Bytes (pairUp vs) ∧ (pairUp vs).length = (vs.length + 1) / 2
  | [], _ => ⟨nofun, rfl⟩
  | [h], hv => by
    have := hv h (by simp)
    refine ⟨?_, by simp [pairUp]⟩
    intro b hb
    simp only [pairUp, List.mem_singleton] at hb
    omega
  | h :: l :: r, hv => by
    have h1 := hv h (by simp)
    have h2 := hv l (by simp)
    obtain ⟨ih1, ih2⟩ := pairUp_out r (fun v hv' => hv v (by simp [hv']))
    refine ⟨?_, ?_⟩
    · intro b hb
      simp only [pairUp, List.mem_cons] at hb
      rcases hb with rfl | hb
      · omega
      · exact ih1 b hb
    · simp only [pairUp, List.length_cons, ih2]; omega

/-- whatever `ASCIIHexDecode` returns - on ANY data - is a string of bytes, holds
exactly one byte per pair of significant characters (those before the first `>` that are not white
space; a final odd digit counts as a pair), and is therefore never longer than half the data, rounded
up. -/
theorem hex_output (s y : Str) (h : hexDecode s = some y) :
    Bytes y ∧ y.length = ((hexBodyOf s).length + 1) / 2 ∧ 2 * y.length ≤ s.length + 1 := by
  rw [hexDecode_eq_spec, hexSpec] at h
  obtain ⟨vs, hv, rfl⟩ := Option.map_eq_some_iff.mp h
  obtain ⟨h1, h2⟩ := hexVals_out _ vs hv
  obtain ⟨h3, h4⟩ := pairUp_out vs h2
  have hb : (hexBodyOf s).length ≤ s.length := by
    unfold hexBodyOf
    exact Nat.le_trans (List.length_filter_le _ _) (List.takeWhile_prefix _).length_le
  refine ⟨h3, by rw [h4, h1], ?_⟩
  rw [h4, h1]; omega

/-- not vacuous, and the bound is attained: three digits give two bytes -/
example : hexDecode [52, 49, 32, 52] = some [65, 64] ∧ 2 * [65, 64].length = [52, 49, 52].length + 1 := by decide
/-- the model is fed a number that is no byte: an error, not a non-byte -/
example : hexDecode [52, 300] = none := by decide

/-- whatever `ASCII85Decode` returns - on ANY data - is a string of bytes and has at
most four bytes per character of the data (attained by `z`). -/
theorem a85_output (s y : Str) (h : a85Decode s = some y) : Bytes y ∧ y.length ≤ 4 * s.length := by
  rw [a85Decode_eq_spec, a85Spec, a85Groups_some_iff] at h
  have hb : (a85BodyOf s).length ≤ s.length := Nat.le_trans (List.length_filter_le _ _) (cutEOD_length_le s)
  exact ⟨h.out.1, Nat.le_trans h.out.2 (Nat.mul_le_mul_left 4 hb)⟩

/-- not vacuous, and the bound is attained -/
example : a85Decode [122] = some [0, 0, 0, 0] := by decide
example : a85Decode [56, 55, 99, 85, 82, 126, 62] = some [72, 101, 108, 108] := by decide

/-- whatever `applyPNGPredictor` returns - on ANY data and parameters - is a string
of bytes, and its length is exactly that of the data minus one filter-type byte per row. -/
theorem png_output (data : Str) (p : Params) (y : Str) (h : applyPNGPredictor data p = some y) :
    Bytes y ∧ ∃ rb, predictorRowBytes (p.columns.getD 1) (p.colors.getD 1) = some rb ∧
      y.length + data.length / (rb + 1) = data.length := by
  obtain ⟨rb, _, hrb, hmod, h⟩ := applyPNGPredictor_eq_some_iff.mp h
  obtain ⟨_, cs, _, hcs, h1, h2, _, hrbe⟩ := (predictorRowBytes_eq_some_iff _ _ rb).mp hrb
  -- on whole rows the loop returns a row of `rb` bytes for each row of `rb + 1`
  rcases pngRows_char (p.colors.getD 1).toNat rb (by omega) (hrbe ▸ Nat.mul_pos h1 h2) _ data (List.replicate rb 0) none []
    (whole_rows hmod) (Or.inl ⟨rfl, rfl⟩) with ⟨hn, _⟩ | ⟨_, y', _, _, _, hyl, hyb, hout, _⟩
  · rw [hn] at h; cases h
  · obtain rfl : y' = y := Option.some.inj (hout.symm.trans h)
    refine ⟨hyb, rb, hrb, ?_⟩
    have := whole_rows hmod
    rw [Nat.mul_succ] at this
    omega

example : applyPNGPredictor [1, 10, 5, 2, 1, 1] { columns := some 2 } = some [10, 15, 11, 16] := by decide

/-- whatever `applyTIFFPredictor2` returns - on ANY data and parameters - is a string
of bytes of exactly the length of the data. -/
theorem tiff_output (data : Str) (p : Params) (y : Str) (h : applyTIFFPredictor2 data p = some y) :
    Bytes y ∧ y.length = data.length := by
  obtain ⟨rb, _, hrb, hmod, h⟩ := applyTIFFPredictor2_eq_some_iff.mp h
  obtain ⟨_, cs, _, hcs, _, h2, _, _⟩ := (predictorRowBytes_eq_some_iff _ _ rb).mp hrb
  obtain ⟨y', hyl, hyb, hout, _⟩ := tiffRows_char (p.colors.getD 1).toNat rb (by omega) _ data [] (whole_rows hmod)
  obtain rfl : y' = y := Option.some.inj (hout.symm.trans h)
  exact ⟨hyb, hyl.trans (whole_rows hmod).symm⟩

example : applyTIFFPredictor2 [10, 5, 250, 1] { columns := some 2 } = some [10, 15, 250, 251] := by decide

/-- `applyPredictor` on bytes returns bytes, never more than it was given. -/
theorem predictor_output (data : Str) (pr : Int) (p : Params) (y : Str) (hd : Bytes data)
    (h : applyPredictor data pr p = some y) : Bytes y ∧ y.length ≤ data.length := by
  rcases applyPredictor_cases data p pr with ⟨_, e⟩ | ⟨_, e⟩ | ⟨_, e⟩ | ⟨_, e⟩ <;> rw [e] at h
  · obtain rfl := Option.some.inj h
    exact ⟨hd, Nat.le_refl _⟩
  · obtain ⟨h1, h2⟩ := tiff_output data p y h
    exact ⟨h1, Nat.le_of_eq h2⟩
  · obtain ⟨h1, rb, _, h2⟩ := png_output data p y h
    exact ⟨h1, Nat.le.intro h2⟩
  · cases h

/-- if zlib's inflate returns bytes, `FlateDecode` (with any parameters) returns
bytes, at most as many as inflate produced. -/
theorem flate_output (inflate : Str → Option Str) (hinf : ∀ z dec, inflate z = some dec → Bytes dec)
    (data : Str) (params : Option Params) (y : Str) (h : flateDecode inflate data params = some y) :
    Bytes y ∧ ∃ dec, inflate data = some dec ∧ y.length ≤ dec.length := by
  obtain ⟨dec, hi, h⟩ := (flateDecode_some_iff inflate data params y).mp h
  have hd := hinf data dec hi
  rcases flatePost_cases params dec with ⟨_, e⟩ | ⟨p, pr, _, _, _, e⟩ <;> rw [e] at h
  · obtain rfl := Option.some.inj h
    exact ⟨hd, dec, hi, Nat.le_refl _⟩
  · obtain ⟨h1, h2⟩ := predictor_output dec pr p y hd h
    exact ⟨h1, dec, hi, h2⟩

/-- what the two external decoders are assumed to return: bytes -/
def ExtBytes (ext : Ext) : Prop :=
  (∀ z dec, ext.inflate z = some dec → Bytes dec) ∧ (∀ a z out, ext.ccitt a z = some out → Bytes out)

theorem ccitt_output (rd : CcittArgs → Str → Option Str) (hrd : ∀ a z out, rd a z = some out → Bytes out)
    (data : Str) (params : Option Params) (y : Str) (h : ccittFaxDecode rd data params = some y) :
    Bytes y := by
  rcases ccittFaxDecode_cases rd data params with ⟨_, e⟩ | ⟨_, e⟩ <;> rw [e] at h
  · cases h
  · exact hrd _ _ _ ((ccittLimit_some_iff _ _).mp h).1

/-- one `decodeWithFilter` step - any filter name, any parameters - maps bytes
to bytes (given that zlib and x/image/ccitt do). -/
theorem stage_output_bytes (ext : Ext) (hext : ExtBytes ext) (data name : Str) (params : Option Params)
    (y : Str) (hd : Bytes data) (h : decodeWithFilter ext data name params = some y) : Bytes y := by
  rcases decodeWithFilter_cases name with ⟨_, e⟩ | ⟨_, e⟩ | ⟨_, e⟩ | ⟨_, e⟩ | ⟨_, e⟩ | ⟨_, e⟩ <;> rw [e] at h
  · exact (flate_output ext.inflate hext.1 data params y h).1
  · exact (hex_output data y h).1
  · exact (a85_output data y h).1
  · exact ccitt_output ext.ccitt hext.2 data params y h
  · obtain rfl := Option.some.inj h; exact hd
  · cases h

/-- the filter-array loop of `Decode()` maps bytes to bytes. -/
theorem chain_output_bytes (ext : Ext) (hext : ExtBytes ext) (dp : DParms) :
    ∀ (fs : List FObj) (i : Nat) (data y : Str), Bytes data → decodeChain ext dp fs i data = some y → Bytes y
  | [], i, data, y, hd, h => by
    simp only [decodeChain, Option.some.injEq] at h
    subst h
    exact hd
  | .other :: fs, i, data, y, hd, h => by simp [decodeChain] at h
  | .name n :: fs, i, data, y, hd, h => by
    simp only [decodeChain] at h
    cases hs : decodeWithFilter ext data n (chainParams dp i) with
    | none => simp [hs] at h
    | some d =>
      simp only [hs] at h
      exact chain_output_bytes ext hext dp fs (i + 1) d y (stage_output_bytes ext hext data n _ d hd hs) h

/-- `(*Stream).Decode()` - every dictionary (`Filter` a name, an array or
absent; `DecodeParms` anything), every data made of bytes: whatever it returns is made of bytes. -/
theorem decode_output_bytes (ext : Ext) (hext : ExtBytes ext) (d : Dict) (data y : Str) (hd : Bytes data)
    (h : streamDecodeD ext d data = some y) : Bytes y := by
  unfold streamDecodeD streamDecode at h
  split at h
  · obtain rfl := Option.some.inj h; exact hd
  · exact stage_output_bytes ext hext data _ _ y hd h
  · cases h
  · exact chain_output_bytes ext hext _ _ 0 data y hd h

/-- the hypothesis can be met: the "stored" inflate that hands bytes on and no CCITT decoder -/
example : ExtBytes { inflate := fun z => if z.all (· < 256) = true then some z else none, ccitt := fun _ _ => none } := by
  refine ⟨?_, ?_⟩
  · intro z dec h
    by_cases hz : z.all (· < 256) = true
    · simp only [hz, if_true, Option.some.injEq] at h
      subst h
      intro b hb
      have := List.all_eq_true.mp hz b hb
      simpa using this
    · simp [hz] at h
  · intro a z out h; cases h

/-- fold the lower-case hexadecimal letters to upper case, leave everything else -/
def hexFold (c : Nat) : Nat := if 97 ≤ c ∧ c ≤ 102 then c - 32 else c

theorem hexFold_props (c : Nat) :
    isWs (hexFold c) = isWs c ∧ ((hexFold c = 62) = (c = 62)) ∧ hexVal (hexFold c) = hexVal c := by
  unfold hexFold
  by_cases h : 97 ≤ c ∧ c ≤ 102
  · rw [if_pos h]
    refine ⟨by rw [isWs_ge33 _ (by omega), isWs_ge33 _ (by omega)],
      propext ⟨fun h' => by omega, fun h' => by omega⟩, ?_⟩
    unfold hexVal
    rw [if_neg (by omega), if_pos (by omega), if_neg (by omega), if_neg (by omega), if_pos h]
    exact congrArg some (by omega)
  · rw [if_neg h]
    exact ⟨rfl, rfl, rfl⟩

theorem hexGo_fold : ∀ (s : Str) (p : Option Nat) (acc : Str),
    hexGo (s.map hexFold) p acc = hexGo s p acc := by
  intro s
  induction s with
  | nil => intro p acc; rfl
  | cons c rest ih =>
    intro p acc
    obtain ⟨h1, h2, h3⟩ := hexFold_props c
    simp only [List.map_cons, hexGo, h1, h2, h3, ih]

/-- on ANY data, writing every `a`..`f` as `A`..`F` changes neither the bytes nor the error. -/
theorem hex_case_insensitive (s : Str) : hexDecode (s.map hexFold) = hexDecode s :=
  hexGo_fold s none []

example : hexDecode ([52, 97, 32, 102, 70].map hexFold) = some [74, 255] := by decide

theorem hexGo_erase : ∀ (s : Str) (p : Option Nat) (acc : Str),
    hexGo (s.filter (fun c => !isWs c)) p acc = hexGo s p acc := by
  intro s
  induction s with
  | nil => intro p acc; rfl
  | cons c rest ih =>
    intro p acc
    rw [List.filter_cons]
    by_cases hws : isWs c = true
    · rw [hws, Bool.not_true, if_neg Bool.false_ne_true, ih, hexGo, if_pos hws]
    · rw [eq_false_of_ne_true hws, Bool.not_false, if_pos rfl]
      simp only [hexGo, ih]

/-- on ANY data, removing all white space at once changes neither the bytes nor
the error - the decoder sees the other characters only. -/
theorem hex_ws_erasure (s : Str) : hexDecode (s.filter (fun c => !isWs c)) = hexDecode s :=
  hexGo_erase s none []

/-- wherever the ASCII85 decoder stands at a group boundary (any output so
far, any rest of the data), `z` and `!!!!!` are read alike. -/
theorem a85_z_is_five_bangs (rest acc : Str) :
    a85Go (33 :: 33 :: 33 :: 33 :: 33 :: rest) [] acc = a85Go (122 :: rest) [] acc ∧
    a85Decode (33 :: 33 :: 33 :: 33 :: 33 :: rest) = a85Decode (122 :: rest) := by
  have key : ∀ acc : Str, a85Go (33 :: 33 :: 33 :: 33 :: 33 :: rest) [] acc = a85Go (122 :: rest) [] acc := by
    intro acc
    have := a85Go_five 0 0 0 0 0 (by decide) (by decide) (by decide) (by decide) (by decide) rest acc
      [0, 0, 0, 0] (by decide)
    rw [a85Go_z]
    simpa using this
  exact ⟨key acc, key []⟩

/-- `Predictor` 10, 11, 12, 13, 14 and 15 select the same
decoder for every data and geometry - the filter type is read from each row's tag byte. -/
theorem png_predictor_number_irrelevant (data : Str) (p : Params) (pr pr2 : Int)
    (h : 10 ≤ pr ∧ pr ≤ 15) (h2 : 10 ≤ pr2 ∧ pr2 ≤ 15) :
    applyPredictor data pr p = applyPredictor data pr2 p ∧
    applyPredictor data pr p = applyPNGPredictor data p :=
  ⟨by rw [applyPredictor_png data p h, applyPredictor_png data p h2], applyPredictor_png data p h⟩

example : (10 : Int) ≤ 12 ∧ (12 : Int) ≤ 15 := by decide

end Tabula.C05More
