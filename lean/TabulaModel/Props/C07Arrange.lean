import TabulaModel.Props.C07Fonts
import TabulaModel.Lemmas.CMapArrange
import TabulaModel.Lemmas.CMapDecide
/-! # C07 — a ToUnicode CMap on EVERY byte string, and independence of the arrangement of its entries

`C07CMap.cmap_roundtrip_program` speaks about strings of codes the program defines, for programs
in which no code is defined twice. This file closes what was left to the correspondence run
(`layout-*` oracles of harness/c07/layouts.go):

1. TOTAL: `lookup_total` / `lookupString_total` — for every formatting policy, width 1–4 and
   EVERY list of well-formed sections (codes may be defined several times, in any forms), the
   parsed whole program decodes EVERY code and EVERY byte string as the specification
   `CMapArrange.specText` / `specDecode` says (`Lemmas/CMapArrangeDefs.lean`): whole codes of
   the code-space width, most significant byte first; the LAST direct definition (bfchar entry /
   array element; arrays after bfchar entries) before the FIRST offset range containing the code;
   a code nobody defines is the character of that number (nothing beyond U+10FFFF, U+FFFD for a
   surrogate number); a remainder shorter than a code byte by byte. Tied to tabula by ops
   `c07.rprog` (program text of any arrangement), `c07.spec`, `c07.spectext`.
2. ARRANGEMENT, programs: `arrangement_free` (same specified text for every code ⇒ same result on
   every byte string, whatever the policies and arrangements), `spec_of_entry` /
   `spec_of_undefined` (when no code gets two different texts the specified text is the entry's
   text wherever and in whatever form it is written) and `arrangement_free_entries`: two programs
   with the same SET of entries (again no code with two texts) — any permutation of the entries, any cut of the runs into bfchar
   entries / offset-target ranges / array-target ranges, any split into sections, any order of
   sections, any formatting — decode every byte string alike.
3. ARRANGEMENT, every CMap value (well-formed program or not): `state_perm` (permuting the
   direct map's entries and pairwise disjoint ranges changes no `LookupString` result, on the
   fixed-width path and on the width-less fallback path), `state_congr`, `range_split`
   (a range cut in two is the same range), `range_as_chars` (the first offset range written out as
   direct entries is the same map).
4. COMPOSITION: `font_tounicode_total` / `font_arrangement_free` (through `Font.DecodeString`:
   ToUnicode first, NFC last, whatever encoding, differences or byte-order mark) and
   `page_tounicode_total` (page resources + any content-stream history + `/N sz Tf <any bytes> Tj`).
-/
namespace Tabula.C07Arrange
open Tabula.UTF16 Tabula.CMap Tabula.FontDecode
open Tabula.CMapCompose (allItems directEntries offsetRuns offsetEntries Functional)
open Tabula.CMapArrange (specText specEmit specDecode beVal allEntries RangesDisjoint)

/-! ## 1. the parsed program on every code and every byte string -/

/-- **lookup_total**: `Lookup` of the parsed whole program, for EVERY code -/
theorem lookup_total (p : Policy) (w : Nat) (hw1 : 1 ≤ w) (hw4 : w ≤ 4) (secs : List Section)
    (hs : ∀ s ∈ secs, SectionOK w s) (c : Nat) :
    lookup (parseCMapData (renderProgram p w secs)) c = specText secs c :=
  CMapArrange.lookup_total p w hw1 hw4 secs hs c

/-- **lookupString_total**: `LookupString` of the parsed whole program, for EVERY byte string -/
theorem lookupString_total (p : Policy) (w : Nat) (hw1 : 1 ≤ w) (hw4 : w ≤ 4) (secs : List Section)
    (hs : ∀ s ∈ secs, SectionOK w s) (data : List Nat) (hb : AllBytes data) :
    lookupString (parseCMapData (renderProgram p w secs)) data = specDecode secs w (data.length + 1) data :=
  CMapArrange.lookupString_total p w hw1 hw4 secs hs data hb

/-- what `specDecode` says in closed form: whole codes, then a remainder shorter than a code -/
theorem decode_codes_then_remainder (p : Policy) (w : Nat) (hw1 : 1 ≤ w) (hw4 : w ≤ 4) (secs : List Section)
    (hs : ∀ s ∈ secs, SectionOK w s) (codes : List Nat) (hc : ∀ c ∈ codes, c < 256 ^ w)
    (tail : List Nat) (ht : tail.length < w) (htb : AllBytes tail) :
    lookupString (parseCMapData (renderProgram p w secs)) (codes.flatMap (codeBytes w) ++ tail) =
      codes.flatMap (specEmit secs) ++ tail.flatMap (specEmit secs) := by
  rw [lookupString_codes_tail _ w hw4 (CMapCompose.parse_program_state p w hw1 hw4 secs hs).2.2 codes hc tail ht,
    funext (CMapArrange.emit_total p w hw1 hw4 secs hs)]

/-- the hypotheses are satisfiable by a program that defines codes twice; its values on a
defined, a redefined, an undefined and a surrogate-numbered code and on a short remainder -/
example :
    let secs : List Section :=
      [⟨.bfrange, [.offset ⟨0x41, [[0x61], [0x62], [0x63]]⟩, .array ⟨0x42, [[0x58, 0x59]]⟩]⟩,
       ⟨.bfchar, [.char 0x43 [0x1D400], .char 0x43 [0x7A]]⟩]
    (∀ s ∈ secs, SectionOK 2 s) ∧
    specDecode secs 2 10 [0, 0x41, 0, 0x42, 0, 0x43, 0, 0x44, 0xD8, 0x00, 0x42] =
      [0x61, 0x58, 0x59, 0x7A, 0x44, 0xFFFD, 0x58, 0x59] := by
  intro secs
  exact ⟨by decide, by decide⟩

/-! ## 2. independence of the arrangement: programs -/

/-- **arrangement_free**: two programs — any policies, any arrangement of entries into items and
sections — that specify the same text for every code decode EVERY byte string alike -/
theorem arrangement_free (p1 p2 : Policy) (w : Nat) (hw1 : 1 ≤ w) (hw4 : w ≤ 4) (s1 s2 : List Section)
    (h1 : ∀ s ∈ s1, SectionOK w s) (h2 : ∀ s ∈ s2, SectionOK w s)
    (h : ∀ c, specText s1 c = specText s2 c) (data : List Nat) (hb : AllBytes data) :
    lookupString (parseCMapData (renderProgram p1 w s1)) data =
      lookupString (parseCMapData (renderProgram p2 w s2)) data :=
  CMapArrange.arrangement_free p1 p2 w hw1 hw4 s1 s2 h1 h2 h data hb

/-- when no code is given two different texts, the specified text of a code is the text of its
entry, wherever and in whatever form (bfchar entry, offset-target range, array-target range)
the entry is written … -/
theorem spec_of_entry (w : Nat) (secs : List Section) (hs : ∀ s ∈ secs, SectionOK w s)
    (hf : Functional (allEntries secs)) (e : Nat × List Nat) (he : e ∈ allEntries secs) :
    specText secs e.1 = e.2 := by
  obtain ⟨hd, ho, hsp⟩ := CMapCompose.specified_of_cover secs (allEntries secs) hf (fun _ => Iff.rfl)
  exact CMapArrange.specText_specified w secs hs hd ho e (hsp e he)

/-- … and a code no entry defines has no specified text -/
theorem spec_of_undefined (w : Nat) (secs : List Section) (hs : ∀ s ∈ secs, SectionOK w s)
    (c : Nat) (hc : ∀ e ∈ allEntries secs, e.1 ≠ c) : specText secs c = [] := by
  rcases CMapArrange.specText_mem w secs hs c with h | ⟨h, _⟩ | ⟨h, _⟩
  · exact absurd rfl (hc _ ((CMapArrange.mem_allEntries secs _).mpr (Or.inl h)))
  · exact absurd rfl (hc _ ((CMapArrange.mem_allEntries secs _).mpr (Or.inr h)))
  · exact h

/-- **arrangement_free_entries**: two programs with the same SET of code→text entries, no code
being given two different texts — any permutation of the entries, any cut of runs into bfchar
entries, offset-target ranges and array-target ranges, any split into sections, any order of the
sections, any formatting policy on either side — decode EVERY byte string alike (when a code has
two texts the order decides: the last direct definition counts) -/
theorem arrangement_free_entries (p1 p2 : Policy) (w : Nat) (hw1 : 1 ≤ w) (hw4 : w ≤ 4) (s1 s2 : List Section)
    (h1 : ∀ s ∈ s1, SectionOK w s) (h2 : ∀ s ∈ s2, SectionOK w s)
    (hf : Functional (allEntries s1)) (hset : ∀ e, e ∈ allEntries s1 ↔ e ∈ allEntries s2)
    (data : List Nat) (hb : AllBytes data) :
    lookupString (parseCMapData (renderProgram p1 w s1)) data =
      lookupString (parseCMapData (renderProgram p2 w s2)) data := by
  -- the two programs specify the same text for every code: what the first finds is an entry of the second
  refine arrangement_free p1 p2 w hw1 hw4 s1 s2 h1 h2 (fun c => ?_) data hb
  have hf2 : Functional (allEntries s2) := fun a ha b hb hab =>
    hf a ((hset a).mpr ha) b ((hset b).mpr hb) hab
  have key : ∀ t, (c, t) ∈ allEntries s1 → t = specText s2 c := fun t ht =>
    (spec_of_entry w s2 h2 hf2 (c, t) ((hset _).mp ht)).symm
  rcases CMapArrange.specText_mem w s1 h1 c with h | ⟨h, _⟩ | ⟨h, hn⟩
  · exact key _ ((CMapArrange.mem_allEntries s1 _).mpr (Or.inl h))
  · exact key _ ((CMapArrange.mem_allEntries s1 _).mpr (Or.inr h))
  · rw [h, spec_of_undefined w s2 h2 c (fun e he => hn e ((hset e).mpr he))]

/-- two arrangements of one map with the same entries: one offset range; the same codes as an
array range for the first two codes and a bfchar entry for the third, sections in the other order -/
example :
    let s1 : List Section := [⟨.bfrange, [.offset ⟨0x41, [[0x61], [0x62], [0x63]]⟩]⟩]
    let s2 : List Section := [⟨.bfchar, [.char 0x43 [0x63]]⟩, ⟨.bfrange, [.array ⟨0x41, [[0x61], [0x62]]⟩]⟩]
    Functional (allEntries s1) ∧ (∀ e, e ∈ allEntries s1 ↔ e ∈ allEntries s2) := by
  intro s1 s2
  have e1 : allEntries s1 = [(0x41, [0x61]), (0x42, [0x62]), (0x43, [0x63])] := by decide
  have e2 : allEntries s2 = [(0x43, [0x63]), (0x41, [0x61]), (0x42, [0x62])] := by decide
  rw [e1, e2]
  refine ⟨by decide, ?_⟩
  · intro e
    simp only [List.mem_cons, List.mem_nil_iff, or_false]
    constructor
    · rintro (h | h | h) <;> simp [h]
    · rintro (h | h | h) <;> simp [h]

/-! ## 3. independence of the arrangement: every CMap value -/

/-- **state_perm**: for EVERY CMap value (the parsed state of any program, well formed or not):
permuting the entries of the direct map (a function) and permuting pairwise disjoint ranges
changes no result of `LookupString`, on the fixed-width path and on the fallback path -/
theorem state_perm (cm cm' : CMap) (hf : Functional cm.chars) (hpc : List.Perm cm.chars cm'.chars)
    (hd : cm.ranges.Pairwise RangesDisjoint) (hpr : List.Perm cm.ranges cm'.ranges)
    (hbw : cm.byteWidth = cm'.byteWidth) (habw : cm.actualByteWidth = cm'.actualByteWidth) (data : List Nat) :
    lookupString cm data = lookupString cm' data :=
  CMapArrange.lookupString_congr cm cm' (CMapArrange.lookup_perm cm cm' hf hpc hd hpr)
    (CMapArrange.effectiveWidth_congr cm cm' hbw habw) data

/-- `LookupString` is a function of `Lookup` and the two width fields alone -/
theorem state_congr (cm cm' : CMap) (hl : ∀ c, lookup cm c = lookup cm' c)
    (hbw : cm.byteWidth = cm'.byteWidth) (habw : cm.actualByteWidth = cm'.actualByteWidth) (data : List Nat) :
    lookupString cm data = lookupString cm' data :=
  CMapArrange.lookupString_congr cm cm' hl (CMapArrange.effectiveWidth_congr cm cm' hbw habw) data

/-- a one-unit range cut in two at any code is the same range -/
theorem range_split (r : Range) (hu : r.units = []) (m : Nat) (h1 : r.start ≤ m) (h2 : m < r.stop)
    (rest : List Range) (c : Nat) :
    lookupRanges (r :: rest) c =
      lookupRanges (⟨r.start, m, r.startUnicode, []⟩ :: ⟨m + 1, r.stop, r.startUnicode + (m + 1 - r.start), []⟩ :: rest) c := by
  simpa only [hu, bumpLast] using CMapArrange.lookupRanges_split r m h1 h2 rest c

/-- the first offset range written out as direct entries (what an array target or bfchar
entries store) is the same map at every code that has no direct entry (a later range written
out would take precedence over the ranges before it) -/
theorem range_as_chars (cm : CMap) (r : Range) (rest : List Range) (hr : cm.ranges = r :: rest)
    (c : Nat) (hc : cm.getChar c = none) :
    lookup cm c =
      lookup { cm with chars := cm.chars ++ ((List.range (r.stop + 1 - r.start)).map fun i => (r.start + i, rangeText r (r.start + i))),
                       ranges := rest } c := by
  have hfind : (cm.chars.find? fun p => p.1 == c) = none := by
    unfold CMap.getChar at hc
    exact Option.map_eq_none_iff.mp hc
  unfold lookup
  rw [hc, hr]
  unfold CMap.getChar
  simp only []
  rw [List.find?_append, hfind, Option.none_or]
  by_cases hin : r.start ≤ c ∧ c ≤ r.stop
  · rw [CMapArrange.find_written_in r.start (r.stop + 1 - r.start) (rangeText r) c (by omega)]
    simp only [Option.map_some, lookupRanges]
    rw [if_pos hin]
  · rw [CMapArrange.find_written_out r.start (r.stop + 1 - r.start) (rangeText r) c (by omega)]
    simp only [Option.map_none, lookupRanges]
    rw [if_neg hin]

example :
    let cm : CMap := { chars := [(5, [0x41]), (7, [0x42])], ranges := [⟨0, 3, 0x61, []⟩, ⟨8, 9, 0, [0xD835, 0xDC00]⟩], byteWidth := 1 }
    Functional cm.chars ∧ cm.ranges.Pairwise RangesDisjoint := by
  intro cm
  refine ⟨by decide, ?_⟩
  · simp only [cm, List.pairwise_cons, List.mem_cons, List.mem_nil_iff, or_false, List.Pairwise.nil, and_true]
    refine ⟨?_, ?_⟩
    · intro b hb; subst hb; intro c hc; simp only at hc; omega
    · intro b hb; simp at hb

/-! ## 4. composition: `Font.DecodeString` and the page -/

/-- **font_tounicode_total**: a font whose ToUnicode CMap is the parsed program decodes EVERY
byte string to NFC of what the program specifies — whatever its encoding name, its
`/Differences` and a byte-order mark in the data (ToUnicode first, NFC last) -/
theorem font_tounicode_total (nfc : List Nat → List Nat) (enc : List Nat) (ds : Diffs)
    (p : Policy) (w : Nat) (hw1 : 1 ≤ w) (hw4 : w ≤ 4) (secs : List Section)
    (hs : ∀ s ∈ secs, SectionOK w s) (data : List Nat) (hb : AllBytes data) :
    FontDecode.decodeString nfc ⟨some (parseCMapData (renderProgram p w secs)), enc, ds⟩ data =
      some (nfc (specDecode secs w (data.length + 1) data)) := by
  rw [(C07.tounicode_precedence nfc _ enc enc ds ds data).2, lookupString_total p w hw1 hw4 secs hs data hb]

/-- **font_arrangement_free**: two fonts whose ToUnicode programs hold the same set of entries (no
code with two different texts), arranged and formatted in any two ways, with any encodings and
differences, decode every byte string to the same text -/
theorem font_arrangement_free (nfc : List Nat → List Nat) (enc1 enc2 : List Nat) (ds1 ds2 : Diffs)
    (p1 p2 : Policy) (w : Nat) (hw1 : 1 ≤ w) (hw4 : w ≤ 4) (s1 s2 : List Section)
    (h1 : ∀ s ∈ s1, SectionOK w s) (h2 : ∀ s ∈ s2, SectionOK w s)
    (hf : Functional (allEntries s1)) (hset : ∀ e, e ∈ allEntries s1 ↔ e ∈ allEntries s2)
    (data : List Nat) (hb : AllBytes data) :
    FontDecode.decodeString nfc ⟨some (parseCMapData (renderProgram p1 w s1)), enc1, ds1⟩ data =
      FontDecode.decodeString nfc ⟨some (parseCMapData (renderProgram p2 w s2)), enc2, ds2⟩ data := by
  rw [(C07.tounicode_precedence nfc _ enc1 enc1 ds1 ds1 data).2, (C07.tounicode_precedence nfc _ enc2 enc2 ds2 ds2 data).2,
    arrangement_free_entries p1 p2 w hw1 hw4 s1 s2 h1 h2 hf hset data hb]

open Tabula.Pdf (Obj) in
open Tabula.Reader (Dict dget) in
open Tabula.FormFonts in
/-- **page_tounicode_total**: a page whose resources bind `n` to a font whose `/ToUnicode` stream
holds ANY program of well-formed sections shows, after ANY content-stream history,
`/n sz Tf <data> Tj` for ANY byte string `data` (codes the program does not define, a remainder
shorter than a code and a leading byte-order mark included): the fragment text is NFC of what
the program specifies for the string -/
theorem page_tounicode_total (nfc : List Nat → List Nat) (res : FRes) (pageRd fontsD : Dict)
    (n : Reader.Str) (o : Obj) (enc : Reader.Str) (ds : Diffs)
    (p : Policy) (w : Nat) (hw1 : 1 ≤ w) (hw4 : w ≤ 4) (secs : List Section) (hs : ∀ s ∈ secs, SectionOK w s)
    (hfonts : Reader.fontsOf (toRes res) (some pageRd) = some fontsD)
    (hn : n.head? ≠ some 47) (hno : dget fontsD (47 :: n) = none) (hbd : dget fontsD n = some o)
    (hfont : parseFont (toRes res) o = some ⟨some (parseCMapData (renderProgram p w secs)), enc, ds⟩)
    (pre : List Pdf.CS.Operation) (st1 : St) (hpre : runPage nfc res (initial res (some pageRd)) pre = .ok st1)
    (sz : Obj) (hsz : Reader.isNum sz = true) (data : List Nat) (hb : AllBytes data) :
    ∃ st2, runPage nfc res (initial res (some pageRd)) (pre ++ [C07Fonts.opTfOf n sz, C07Fonts.opTjOf data]) = .ok st2 ∧
      st2.out = st1.out ++ [nfc (specDecode secs w (data.length + 1) data)] := by
  have hbind : (initial res (some pageRd)).fonts (C07Fonts.tfKey n) =
      some ⟨some (parseCMapData (renderProgram p w secs)), enc, ds⟩ := by
    rw [C07Fonts.page_initial_binding res pageRd fontsD hfonts, C07Fonts.registered_alias _ _ n o hn hno hbd, hfont]
  exact C07Fonts.show_after_history_page nfc res _ st1 pre hpre n sz hsz data _ hbind _
    (font_tounicode_total nfc enc ds p w hw1 hw4 secs hs data hb)

end Tabula.C07Arrange
