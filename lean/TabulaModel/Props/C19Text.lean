import TabulaModel.Lemmas.HtmlSrc
import TabulaModel.Lemmas.HtmlLost
import TabulaModel.Props.C19
/-!
# C19 — content is kept: the text-node level

`Props/C19.lean` shows that the traversal returns the atoms of the specification, once and in
order.  This file goes below the atoms: what TEXT an atom carries, measured against the raw
text nodes of the parsed tree (`tn`, `tnFlat`, `directSrc`, `tableCellNodes`, `src` in
`Model/HtmlSpec.lean`, all written from the DOM alone).  White space is not fixed by the
property, so texts are compared through `squeeze` (all white space removed); the statements
about `pieces` are exact.  All theorems are for every tree, every predicate, every position.

Depth limit (fix a65974f): these are statements about the mechanism — `getTextContentRecursive`,
`traverseNodeFiltered`, `extractBodyWithMode` on a tree — and hold for every tree.  A PUBLIC call only ever runs the mechanism on a tree
`OpenReader` admitted (height ≤ `maxTreeDepth` = 10000); the statements about the public calls,
with that hypothesis, are in Props/C19Api.lean (`text_is_source_text`, `open_refuses_beyond`).
-/
namespace Tabula.C19Text
open Tabula.Html

/-- `getTextContentRecursive` writes every text node of the subtree exactly once, in document
order, leaves out the content of script/style/… elements, and adds nothing but one "\n" per br
and one " " per closed block: its output is the rendering of `pieces`, and the text pieces are
exactly the text nodes `tn` (markup contributes no character). -/
theorem text_nodes_once_in_order (t : Dom) :
    textRec t = (pieces t).flatMap Piece.render ∧
    (pieces t).filterMap Piece.text? = tn t ∧
    tnFlat t = (tn t).flatten :=
  ⟨textRec_pieces t, pieces_texts t, tnFlat_eq t⟩

/-- hence, up to white space, the text of any element is the concatenation of its text nodes -/
theorem text_content_is_text_nodes (t : Dom) :
    squeeze (getTextContent t) = squeeze (tnFlat t) ∧
    (trim (getTextContent t) = [] ↔ squeeze (tnFlat t) = []) := by
  refine ⟨squeeze_getTextContent t, ?_⟩
  rw [trim_eq_nil_iff, squeeze_getTextContent]

/-- scripts, styles and the other skipped elements contribute no text node, no text, no atom and no
source text, whatever they contain and wherever they sit -/
theorem skipped_removed (p : Pos → Dom → Bool) (w : Bool) (pos : Pos) (lc : LC)
    (tag : Str) (attrs : List (Str × Str)) (kids : List Dom) (h : isSkip tag = true) :
    tn (.elem tag attrs kids) = [] ∧ getTextContent (.elem tag attrs kids) = [] ∧
    atoms p w pos lc (.elem tag attrs kids) = [] ∧ src p w pos (.elem tag attrs kids) = [] := by
  refine ⟨?_, ?_, ?_, ?_⟩
  · unfold tn; simp [h]
  · unfold getTextContent textRec; simp [h, trim, trimLeft, trimRight]
  · unfold atoms; simp [h]
  · unfold src; simp [h]

example : isSkip T.script = true := by decide

/-- up to white space the text of a list item is the text nodes of the `li` outside the nested lists
that are its direct children (those are returned as items of their own) -/
theorem item_text_is_direct_text_nodes (kids : List Dom) :
    squeeze (getDirectTextContent kids) = squeeze (kids.flatMap directSrc) :=
  squeeze_getDirectTextContent kids

/-- Tables: every td/th of every row (rows directly in the table or in its thead/tbody/tfoot) is
returned as exactly one cell, in document order, carrying the text of that td/th; rowspan/colspan
attributes of any value never change the text or the header flag. -/
theorem table_cells_complete (kids : List Dom) :
    (parseTable kids).1.flatten.map (·.text) = (tableCellNodes kids).map cellText ∧
    (parseTable kids).1.flatten.length = (tableCellNodes kids).length ∧
    (∀ attrs c, (applySpans attrs c).text = c.text ∧ (applySpans attrs c).isHeader = c.isHeader) := by
  refine ⟨parseTable_texts kids, ?_, applySpans_text⟩
  have := congrArg List.length (parseTable_texts kids)
  rw [List.length_map, List.length_map] at this
  exact this

/-- a non-excluded pre/code element is one code atom with the whole text of the element; an `li`
starts with one item atom carrying its own text; a table is the sequence of its cells -/
theorem code_item_table_atoms (p : Pos → Dom → Bool) (w : Bool) (pos : Pos) (lc : LC)
    (tag : Str) (attrs : List (Str × Str)) (kids : List Dom)
    (hs : isSkip tag = false) (hp : p pos (.elem tag attrs kids) = false) :
    (classify tag = .code → getTextContent (.elem tag attrs kids) ≠ [] →
      atoms p w pos lc (.elem tag attrs kids) = [.code (getTextContent (.elem tag attrs kids))]) ∧
    (classify tag = .li → getDirectTextContent kids ≠ [] →
      ∃ rest, atoms p w pos lc (.elem tag attrs kids) =
        .item lc.enter.level (getDirectTextContent kids) :: rest) ∧
    (classify tag = .table →
      atoms p w pos lc (.elem tag attrs kids) = (parseTable kids).1.flatten.map .cell) := by
  refine ⟨?_, ?_, ?_⟩
  · intro hc ht
    unfold atoms; simp only [hs, hp, hc, Bool.false_eq_true, if_false]; simp [ht]
  · intro hc ht
    refine ⟨atomsLi p w (pos.kid w tag) ⟨true, lc.enter.level + 1⟩ kids, ?_⟩
    unfold atoms; simp only [hs, hp, hc, Bool.false_eq_true, if_false]; simp [ht]
  · intro hc
    unfold atoms; simp only [hs, hp, hc, Bool.false_eq_true, if_false]

example : isSkip T.pre = false ∧ classify T.pre = .code ∧ getTextContent (.elem T.pre [] [.text [120]]) ≠ [] := by
  decide

/-- DOCUMENT LEVEL (composition of `traverse_refines_atoms` with the text-node lemmas): for every
document and every exclusion predicate, the text carried by the elements the traversal returns
is, up to white space, exactly the source text of the document: the text nodes of the
non-skipped, non-excluded content elements, each once, in the order of their content elements.
(Since fix 75d57dc a p/div with a block-level child contributes the whole text of its inline
children too: `srcM`, `mixed_block_text_kept`.) -/
theorem content_text_complete (p : Pos → Dom → Bool) (body : Dom) :
    squeeze (elementsText (extractWith p body)) = squeeze (src p (hasWrapper body) .root body) := by
  unfold elementsText
  rw [Tabula.C19.traverse_refines_atoms]
  exact atoms_src p (hasWrapper body) body .root ⟨false, 0⟩

/-- … in particular for the element list of a reader (`extractBodyWithMode(doc, mode)`): whatever raw
mode value is asked for, from the document node the parser returned (a reader exists for trees of
height ≤ `maxTreeDepth` only, see `Tabula.C19Api.open_refuses_beyond`; the statement itself is about
the walk and holds for every tree) -/
theorem content_text_complete_api (m : Int) (doc : Dom) :
    squeeze (elementsText (extractI m doc)) = squeeze (srcOf m doc) := by
  unfold extractI srcOf
  exact content_text_complete _ _

/-- the source text is compositional: siblings contribute consecutive segments in sibling order -/
theorem src_siblings (p : Pos → Dom → Bool) (w : Bool) (kp : Pos) (a b : List Dom) (k : Dom) :
    srcL p w kp (a ++ k :: b) = srcL p w kp a ++ src p w kp k ++ srcL p w kp b := by
  rw [srcL_append]; simp only [srcL, List.append_assoc]

/-- OUTSIDE UNCHANGED, at the level of the source text: among siblings `a ++ k :: b`, if two
predicates decide alike on every node of `a` and of `b`, then whatever happens inside `k` (e.g.
one of them excludes it) the text contributed by `a` and by `b` is identical and stays in place. -/
theorem outside_unchanged_source (p q : Pos → Dom → Bool) (w : Bool) (kp : Pos) (a b : List Dom) (k : Dom)
    (ha : agreeL p q w kp a) (hb : agreeL p q w kp b) :
    srcL q w kp (a ++ k :: b) = srcL p w kp a ++ src q w kp k ++ srcL p w kp b := by
  rw [srcL_append]
  simp only [srcL]
  rw [srcL_agree p q w a kp ha, srcL_agree p q w b kp hb, List.append_assoc]

example : agreeL (excluded .none) (excluded .standard) false .bodyChild
    [.elem T.p [] [.text [120]], .text [32]] := by
  simp only [agree, agreeL]
  decide

/-- two predicates that decide alike on a subtree (e.g. a mode that excludes nothing in it, and
mode None) give it the same source text -/
theorem nothing_excluded_same_source (p q : Pos → Dom → Bool) (w : Bool) (pos : Pos) (t : Dom)
    (h : agree p q w pos t) : src q w pos t = src p w pos t :=
  src_agree p q w t pos h

/-- LOCAL COMPLETENESS of the source text, content element by content element: for an element that is
neither skipped nor excluded, `src` holds ALL text nodes of a heading, of a pre/code, of a block
quote, of a p/div without block-level children (and not blank), the own text of a list item
followed by its nested lists, and the text of every cell of a table.  With `content_text_complete` this is the
content half of the property for these content elements; a p/div that has a block-level child
follows in `mixed_block_text_kept`. -/
theorem source_text_complete (p : Pos → Dom → Bool) (w : Bool) (pos : Pos)
    (tag : Str) (attrs : List (Str × Str)) (kids : List Dom)
    (hs : isSkip tag = false) (hp : p pos (.elem tag attrs kids) = false) :
    (∀ l, classify tag = .heading l → src p w pos (.elem tag attrs kids) = tnFlat (.elem tag attrs kids)) ∧
    (classify tag = .code → src p w pos (.elem tag attrs kids) = tnFlat (.elem tag attrs kids)) ∧
    (classify tag = .quote → src p w pos (.elem tag attrs kids) = tnFlat (.elem tag attrs kids)) ∧
    (∀ isP, classify tag = .pdiv isP → isBlockContainer kids = false →
      squeeze (tnFlat (.elem tag attrs kids)) ≠ [] →
      src p w pos (.elem tag attrs kids) = tnFlat (.elem tag attrs kids)) ∧
    (classify tag = .li → src p w pos (.elem tag attrs kids) =
      kids.flatMap directSrc ++ srcLi p w (pos.kid w tag) kids) ∧
    (classify tag = .table → src p w pos (.elem tag attrs kids) = (tableCellNodes kids).flatMap tnFlat) := by
  have hflat : tnFlat (.elem tag attrs kids) = tnFlatL kids := tnFlat_elem tag attrs kids hs
  refine ⟨?_, ?_, ?_, ?_, ?_, ?_⟩
  · intro l hc; unfold src; simp only [hs, hp, hc, Bool.false_eq_true, if_false]; exact hflat.symm
  · intro hc; unfold src; simp only [hs, hp, hc, Bool.false_eq_true, if_false]; exact hflat.symm
  · intro hc; unfold src; simp only [hs, hp, hc, Bool.false_eq_true, if_false]; exact hflat.symm
  · intro isP hc hb ht
    rw [hflat] at ht ⊢
    unfold src; simp only [hs, hp, hc, Bool.false_eq_true, if_false]
    simp [ht, hb]
  · intro hc; unfold src; simp only [hs, hp, hc, Bool.false_eq_true, if_false]
  · intro hc; unfold src; simp only [hs, hp, hc, Bool.false_eq_true, if_false]

example : isSkip T.p = false ∧ classify T.p = .pdiv true ∧ isBlockContainer [.text [120]] = false ∧
    squeeze (tnFlat (.elem T.p [] [.text [120]])) ≠ [] := by decide

/-- … and a p/div WITH a block-level child (fix 75d57dc; before it, this was the one exception:
the source text was that of the children only and text nodes that are direct children were lost):
its source text is that of its children in order, where an INLINE child — a text node, an inline
element, anything that neither is nor contains an element the traversal handles itself —
contributes ALL its text nodes (`tnFlat k`), in place, and every other child its own source
text. -/
theorem mixed_block_text_kept (p : Pos → Dom → Bool) (w : Bool) (pos : Pos)
    (tag : Str) (attrs : List (Str × Str)) (kids : List Dom) (isP : Bool)
    (hs : isSkip tag = false) (hp : p pos (.elem tag attrs kids) = false)
    (hc : classify tag = .pdiv isP) (hb : isBlockContainer kids = true) :
    src p w pos (.elem tag attrs kids) = srcM p w (pos.kid w tag) kids ∧
    (∀ (a b : List Dom) (k : Dom), srcM p w (pos.kid w tag) (a ++ k :: b) =
      srcM p w (pos.kid w tag) a ++ (if isInline k then tnFlat k else src p w (pos.kid w tag) k) ++
        srcM p w (pos.kid w tag) b) ∧
    (∀ s, isInline (.text s) = true ∧ tnFlat (.text s) = s) := by
  refine ⟨?_, ?_, ?_⟩
  · unfold src; simp only [hs, hp, hc, Bool.false_eq_true, if_false]; simp [hb]
  · intro a b k
    rw [srcM_append]; simp only [srcM, List.append_assoc]
  · intro s; exact ⟨rfl, rfl⟩

example : isSkip T.div = false ∧ classify T.div = .pdiv false ∧
    isBlockContainer [.text [120], .elem T.p [] [.text [121]]] = true := by decide

/-! ## the content half of the property, as stated, wherever the code satisfies it

`want` (Model/HtmlSpec.lean) is written from the property text alone: every heading, paragraph,
list item, table cell, pre/code and block quote that is neither skipped nor excluded returns all
of its text — a paragraph also when it has block-level children: the content elements inside it
are read by their own rules, everything else in the paragraph is its own text and is wanted
whole, also where it sits in an element that merely wraps some of those content elements.
Before fix 75d57dc "returned text = wanted text" failed for every paragraph with a block-level
child and text of its own (`content_complete_pinned_counterexample`).  Since the fix it holds for
every document in which no wrapper inside such a paragraph has text of its own (`noWrapped`); it
still fails when the paragraph holds a wrapper (span, a, form, section, …) around a block-level
element and that wrapper has text (`content_complete_counterexample`). -/

/-- CONTENT, FULL STATEMENT under the one hypothesis the code needs: if inside the paragraphs that
have a block-level child no element that merely wraps content elements (anything but a `div` or a
content element itself) has text in its inline children (`noWrapped`), then for every exclusion
predicate the text carried by the returned elements is, up to white space,
exactly the wanted text — every text node of every content element, once, in content-element
order, nothing from script/style, nothing from excluded subtrees. -/
theorem content_complete_unless_wrapped_paragraph (p : Pos → Dom → Bool) (body : Dom)
    (h : noWrapped body = true) :
    squeeze (elementsText (extractWith p body)) = squeeze (want p (hasWrapper body) .root false body) := by
  rw [content_text_complete]
  exact src_want p (hasWrapper body) body .root false h

example : noWrapped (.elem T.body [] [.elem T.p [] [.text [120]], .elem T.ul [] [.elem T.li [] [.text [121]]]]) = true := by
  decide

/-- … for the element list of a reader, any raw mode value, from the document node (as above: a
statement about the walk, for every tree; a reader exists within the depth limit only) -/
theorem content_complete_unless_wrapped_paragraph_api (m : Int) (doc : Dom) (h : noWrapped (bodyOf doc) = true) :
    squeeze (elementsText (extractI m doc)) = squeeze (wantOf m doc) := by
  unfold extractI wantOf
  exact content_complete_unless_wrapped_paragraph _ _ h

/-- the documents of the repaired finding are covered now (they were excluded by the hypothesis
`noMixed` of the statement before the fix) -/
theorem content_complete_repaired_witness :
    noMixed Tabula.C19.witnessPTable = false ∧ noWrapped Tabula.C19.witnessPTable = true ∧
    squeeze (elementsText (extract .none Tabula.C19.witnessPTable)) =
      squeeze (want (excluded .none) false .root false Tabula.C19.witnessPTable) := by
  decide +kernel

/-- BEFORE fix 75d57dc (old traversal): at `<p>x<table><tr><td>c</td></tr></table></p>` the wanted
text is "xc", the returned text was "c" (finding C19/content-missing-para-with-block-child) -/
theorem content_complete_pinned_counterexample :
    noMixed Tabula.C19.witnessPTable = false ∧
    squeeze (want (excluded .none) false .root false Tabula.C19.witnessPTable) = [120, 99] ∧
    squeeze (elementsText (extractOld .none Tabula.C19.witnessPTable)) = [99] ∧
    squeeze (elementsText (extract .none Tabula.C19.witnessPTable)) = [120, 99] := by
  decide +kernel

/-- the hypothesis that is left cannot be dropped: at
`<p>x<table>…c…</table><span>y<table>…d…</table></span></p>` the wanted text is "xcyd", the
returned text is "xcd" (finding C19/content-missing-para-in-wrapper) -/
theorem content_complete_counterexample :
    noWrapped Tabula.C19.witnessPWrapper = false ∧
    squeeze (want (excluded .none) false .root false Tabula.C19.witnessPWrapper) = [120, 99, 121, 100] ∧
    squeeze (elementsText (extract .none Tabula.C19.witnessPWrapper)) = [120, 99, 100] := by
  decide +kernel

/-- … nor for a sectioning element inside the paragraph:
`<p>x<table><section>y<div>z</div></section>…c…</table></p>` wants "xyzc" and returns "xzc" -/
theorem content_complete_counterexample_section :
    noWrapped Tabula.C19.witnessPSection = false ∧
    squeeze (want (excluded .none) false .root false Tabula.C19.witnessPSection) = [120, 121, 122, 99] ∧
    squeeze (elementsText (extract .none Tabula.C19.witnessPSection)) = [120, 122, 99] := by
  decide +kernel

end Tabula.C19Text
