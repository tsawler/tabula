import TabulaModel.Props.C14IO
import TabulaModel.Lemmas.ExportRune
/-!
# C14 (part 10) — which configuration fields an export looks at

The property quantifies over all export configurations.  Here the dependence of the output on the
eleven fields of `ExportConfig` is made explicit, format by format: a JSON / JSON Lines export is a
function of (IncludeMetadata, MetadataFields, IncludeText) and — JSON only — PrettyPrint; a CSV /
TSV export is a function of everything except PrettyPrint and FlattenMetadata, and of
CSVDelimiter only through `delimiter` (TSV: not at all).  So there is no cross-talk between the
CSV switches and the JSON formats or between PrettyPrint / FlattenMetadata and the tables, and
`MetadataFields = []` (empty, not nil) exports no metadata at all — exactly like
IncludeMetadata = false — while nil exports every field.
-/
namespace Tabula.C14Config
open Tabula.Export Tabula.Csv Tabula.Json Tabula.C14 Tabula.C14Meta Tabula.C14Api Tabula.C14Json Tabula.C14S
open Tabula.C14Decode Tabula.C14Rune

/-- JSON and JSON Lines: the text depends on IncludeMetadata, MetadataFields, IncludeText and (JSON
only) PrettyPrint — not on FlattenMetadata, IncludeEmbeddings, CSVDelimiter, IncludeHeader, the
column names, nor (JSON Lines) on PrettyPrint. -/
theorem json_config_dependence (cfg cfg' : Config) (chunks : List Chunk)
    (hfmt : cfg'.format = cfg.format) (hf : cfg.format = .json ∨ cfg.format = .jsonl)
    (h1 : cfg'.includeMetadata = cfg.includeMetadata) (h2 : cfg'.metadataFields = cfg.metadataFields)
    (h3 : cfg'.includeText = cfg.includeText) (h4 : cfg.format = .json → cfg'.prettyPrint = cfg.prettyPrint) :
    exportToStringR cfg' chunks = exportToStringR cfg chunks :=
  exportToStringR_congr cfg cfg' chunks hfmt (fun _ c => by rw [prepare_congr cfg cfg' h1 h2 h3 c]) h4
    (fun h => by rcases hf with e | e <;> simp [e] at h)

example : ({ jsonlExportConfig with prettyPrint := true, flattenMetadata := true, csvDelimiter := 59 } : Config).format =
    jsonlExportConfig.format := rfl

/-- CSV and TSV: the text depends on every field except PrettyPrint and FlattenMetadata, and on
CSVDelimiter only through the delimiter actually used (`delimiter_of_format`). -/
theorem csv_config_dependence (cfg cfg' : Config) (chunks : List Chunk)
    (hfmt : cfg'.format = cfg.format) (hf : cfg.format = .csv ∨ cfg.format = .tsv)
    (h1 : cfg'.includeMetadata = cfg.includeMetadata) (h2 : cfg'.metadataFields = cfg.metadataFields)
    (h3 : cfg'.includeText = cfg.includeText) (h4 : cfg'.textColumnName = cfg.textColumnName)
    (h5 : cfg'.chunkIDColumnName = cfg.chunkIDColumnName) (h6 : cfg'.includeEmbeddings = cfg.includeEmbeddings)
    (h7 : cfg'.includeHeader = cfg.includeHeader) (hd : delimiter cfg' = delimiter cfg) :
    exportToStringR cfg' chunks = exportToStringR cfg chunks :=
  exportToStringR_congr_fields cfg cfg' chunks hfmt h1 h2 h3 h4 h5 h6 h7 hd
    (fun h => by rcases hf with e | e <;> simp [e] at h)

/-- in particular: TSV does not read CSVDelimiter at all, and CSV reads an unset delimiter as a comma -/
theorem delimiter_cross_talk (cfg : Config) (chunks : List Chunk) :
    (cfg.format = .tsv → ∀ d, exportToStringR { cfg with csvDelimiter := d } chunks = exportToStringR cfg chunks) ∧
    (cfg.format = .csv → cfg.csvDelimiter = 0 →
      exportToStringR { cfg with csvDelimiter := 44 } chunks = exportToStringR cfg chunks) := by
  constructor
  · intro hf d
    have hd : delimiter { cfg with csvDelimiter := d } = delimiter cfg := by simp [delimiter, hf]
    exact csv_config_dependence cfg { cfg with csvDelimiter := d } chunks rfl (Or.inr hf) rfl rfl rfl rfl rfl rfl rfl hd
  · intro hf h0
    have hd : delimiter { cfg with csvDelimiter := 44 } = delimiter cfg := by simp [delimiter, hf, h0]
    exact csv_config_dependence cfg { cfg with csvDelimiter := 44 } chunks rfl (Or.inl hf) rfl rfl rfl rfl rfl rfl rfl hd

example : ({ format := .csv, csvDelimiter := 0 } : Config).csvDelimiter = 0 := rfl

/-- PrettyPrint and FlattenMetadata never reach a CSV / TSV export; FlattenMetadata never reaches
any export (chunk metadata has no nested maps: `flatten_is_noop`) -/
theorem pretty_flatten_irrelevant (cfg : Config) (chunks : List Chunk) (p f : Bool) :
    (cfg.format ≠ .json → exportToStringR { cfg with prettyPrint := p } chunks = exportToStringR cfg chunks) ∧
    exportToStringR { cfg with flattenMetadata := f } chunks = exportToStringR cfg chunks :=
  ⟨fun hne => exportToStringR_congr_fields cfg _ chunks rfl rfl rfl rfl rfl rfl rfl rfl rfl (fun h => absurd h hne),
    exportToStringR_congr_fields cfg _ chunks rfl rfl rfl rfl rfl rfl rfl rfl rfl (fun _ => rfl)⟩

/-- NIL VERSUS EMPTY field list: `MetadataFields = nil` selects every field, `MetadataFields = []`
selects none — and then the export is, byte for byte, the export with IncludeMetadata = false
(no `metadata` member, no `meta_` column), in every format. -/
theorem nil_versus_empty_fields (cfg : Config) (chunks : List Chunk) :
    (∀ k, allowedField { cfg with metadataFields := none } k = true) ∧
    (∀ k, allowedField { cfg with metadataFields := some [] } k = false) ∧
    exportToStringR { cfg with metadataFields := some [] } chunks =
      exportToStringR { cfg with includeMetadata := false } chunks := by
  refine ⟨fun _ => rfl, fun _ => rfl, ?_⟩
  -- an empty field list selects nothing: the metadata map is empty, and no chunk contributes a key
  have hfm : ∀ m, filterMetadata { cfg with metadataFields := some [] } (chunkMetadataToMap m) = [] := fun m => by
    rw [filterMetadata_unflattened]; rfl
  refine exportToStringR_congr _ _ chunks rfl (fun _ c => ?_) (fun _ => rfl) (fun _ => ⟨?_, fun c => ?_, rfl, rfl⟩)
  · simp only [exportedToJ, prepareChunkForExport, hfm]
    cases cfg.includeMetadata <;> rfl
  · have hkeys : ∀ c, chunkKeys { cfg with metadataFields := some [] } c = [] := fun c => by
      rw [chunkKeys_eq, hfm]; rfl
    simp only [collectCSVColumns, fixedColumns, sortedMetaKeys, collectKeys_nil _ hkeys, sortStrings]
    cases cfg.includeMetadata <;> rfl
  · have hmeta : ∀ k, exportedMeta { cfg with includeMetadata := false } c.md k =
        exportedMeta { cfg with metadataFields := some [] } c.md k := fun k => by
      simp [exportedMeta, allowedField]
    funext col
    simp only [cellSpec, hmeta]

/-- the order of `MetadataFields` and repetitions in it do not matter to what a record carries:
the metadata value under every key is the same for two lists with the same members -/
theorem field_list_is_a_set (cfg : Config) (fs fs' : List Str) (h : ∀ k, k ∈ fs ↔ k ∈ fs') (m : Meta) (k : Str) :
    exportedMeta { cfg with metadataFields := some fs } m k = exportedMeta { cfg with metadataFields := some fs' } m k := by
  simp [exportedMeta, allowedField, h k]

end Tabula.C14Config
