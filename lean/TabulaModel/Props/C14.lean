import TabulaModel.Lemmas.ExportRune
/-!
# C14 — Chunk exports parse back to the same chunks

Theorems about `Model/Export.lean` (tabula's logic around `encoding/json` and
`encoding/csv`: column set, rows, batching, streaming, filters) and about
`Model/Csv.lean` (the ASSUMED contract of `encoding/csv`'s writer, shown to be
inverted by a strict RFC 4180 reader).  Well-formedness of the JSON text itself is
`encoding/json`'s and is not claimed here; the harness re-parses every export.
-/
namespace Tabula.C14
open Tabula.Export Tabula.Csv

/-- The column list is the fixed prefix, then `meta_`+key for the strictly ascending
(bytewise; hence duplicate-free) list of exactly those non-standard metadata keys that some
chunk of the collection exports (none when metadata is switched off), then `embeddings` if
requested.  It is computed once per export, so it is the same for the header and every row
(see `rows_one_per_chunk_in_order`). -/
theorem columns_fixed_sorted (cfg : Config) (chunks : List Chunk) :
    ∃ keys : List Str,
      collectCSVColumns cfg chunks =
        fixedColumns cfg ++ keys.map (kMeta ++ ·) ++ (if cfg.includeEmbeddings then [kEmbeddings] else []) ∧
      keys.Pairwise strLt ∧
      ∀ k, k ∈ keys ↔
        (cfg.includeMetadata = true ∧ ∃ c ∈ chunks, k ∈ chunkKeys cfg c ∧ isStandardColumn k = false) := by
  refine ⟨sortedMetaKeys cfg chunks, rfl, sortedMetaKeys_strict cfg chunks, ?_⟩
  · intro k
    unfold sortedMetaKeys
    by_cases h : cfg.includeMetadata = true
    · simp only [h, if_true, mem_sortStrings, mem_collectKeys, List.not_mem_nil, false_or, true_and]
    · simp [h]

/-- the fixed prefix: id column, text column iff text is included, then the eight positional columns -/
theorem fixed_prefix (cfg : Config) :
    fixedColumns cfg =
      cfg.chunkIDColumnName :: ((if cfg.includeText then [cfg.textColumnName] else []) ++
        [kChunkIndex, kDocumentTitle, kPageStart, kPageEnd, kSectionTitle, kHasTable, kHasList, kHasImage]) := by
  simp [fixedColumns]

/-- Cell `j` of a row is the value of column `j` for that chunk; a row has exactly one cell per column. -/
theorem row_matches_columns (marshal : MapSV → Str) (cfg : Config) (ec : Exported) (cols : List Str) :
    (chunkToCSVRow marshal cfg ec cols).length = cols.length ∧
    ∀ j (h : j < cols.length),
      (chunkToCSVRow marshal cfg ec cols)[j]? = some (getColumnValue marshal cfg ec cols[j]) := by
  rw [chunkToCSVRow_eq_map]
  refine ⟨List.length_map _, ?_⟩
  intro j h
  simp [List.getElem?_map, List.getElem?_eq_getElem h]

/-- The records handed to the CSV writer are: the header (iff requested), then exactly one row per
chunk, in collection order, every row built from the SAME column list as the header.  The records
handed to the JSON encoder (JSON / JSON Lines) are one per chunk in order as well. -/
theorem rows_one_per_chunk_in_order (marshal : MapSV → Str) (cfg : Config) (chunks : List Chunk) :
    exportCSVRecords marshal cfg chunks =
      (if cfg.includeHeader then [collectCSVColumns cfg chunks] else []) ++
        chunks.map (fun c => (collectCSVColumns cfg chunks).map
          (getColumnValue marshal cfg (prepareChunkForExport cfg c))) ∧
    exportRecords cfg chunks = chunks.map (prepareChunkForExport cfg) := by
  refine ⟨?_, exportRecords_eq_map cfg chunks⟩
  unfold exportCSVRecords
  simp only [csvDataRows_eq_map, chunkToCSVRow_eq_map]

/-- data row `i` belongs to chunk `i` (index form of the previous theorem) -/
theorem data_row_index (marshal : MapSV → Str) (cfg : Config) (chunks : List Chunk) (cols : List Str)
    (i : Nat) (h : i < chunks.length) :
    (csvDataRows marshal cfg cols chunks).length = chunks.length ∧
    (csvDataRows marshal cfg cols chunks)[i]? =
      some (cols.map (getColumnValue marshal cfg (prepareChunkForExport cfg chunks[i]))) := by
  rw [csvDataRows_eq_map]
  refine ⟨List.length_map _, ?_⟩
  simp [List.getElem?_map, List.getElem?_eq_getElem h, chunkToCSVRow_eq_map]

/-- id and text of the exported record are the chunk's (text only when `IncludeText`), title, section
title and path, chunk index and pages are the chunk's, and with `IncludeMetadata` the metadata map is
the filtered `chunkMetadataToMap`. -/
theorem record_fields (cfg : Config) (c : Chunk) :
    (prepareChunkForExport cfg c).id = c.id ∧
    (cfg.includeText = true → (prepareChunkForExport cfg c).text = c.text) ∧
    (prepareChunkForExport cfg c).documentTitle = c.md.documentTitle ∧
    (prepareChunkForExport cfg c).sectionTitle = c.md.sectionTitle ∧
    (prepareChunkForExport cfg c).sectionPath = c.md.sectionPath ∧
    (prepareChunkForExport cfg c).chunkIndex = c.md.chunkIndex ∧
    (prepareChunkForExport cfg c).pageStart = c.md.pageStart ∧
    (prepareChunkForExport cfg c).pageEnd = c.md.pageEnd ∧
    (cfg.includeMetadata = true →
      (prepareChunkForExport cfg c).metadata = some (filterMetadata cfg (chunkMetadataToMap c.md))) := by
  refine ⟨rfl, ?_, rfl, rfl, rfl, rfl, rfl, rfl, ?_⟩
  · intro h; simp [prepareChunkForExport, h]
  · intro h; simp [prepareChunkForExport, h]

/-- the id cell and the text cell of a row carry the chunk's id and text verbatim
(for column names that do not collide) -/
theorem id_text_cells (marshal : MapSV → Str) (cfg : Config) (c : Chunk)
    (hne : cfg.textColumnName ≠ cfg.chunkIDColumnName) (ht : cfg.includeText = true) :
    getColumnValue marshal cfg (prepareChunkForExport cfg c) cfg.chunkIDColumnName = c.id ∧
    getColumnValue marshal cfg (prepareChunkForExport cfg c) cfg.textColumnName = c.text := by
  simp [getColumnValue, prepareChunkForExport, hne, ht]

example : ({} : Config).textColumnName ≠ ({} : Config).chunkIDColumnName ∧ ({} : Config).includeText = true := by
  decide

/-- a `meta_<key>` cell is the formatted metadata value of `<key>`, or empty when the chunk has
no such key (hypothesis: the configured id/text column names are not themselves `meta_<key>`) -/
theorem meta_cell_value (marshal : MapSV → Str) (cfg : Config) (ec : Exported) (key : Str)
    (h1 : kMeta ++ key ≠ cfg.chunkIDColumnName) (h2 : kMeta ++ key ≠ cfg.textColumnName) :
    getColumnValue marshal cfg ec (kMeta ++ key) =
      match ec.metadata with
      | some md => (match mapLookup md key with
                    | some v => formatValue marshal v
                    | none => [])
      | none => [] := by
  have hfix := meta_ne_positional key
  unfold getColumnValue
  rw [if_neg h1, if_neg h2, if_neg (hfix kChunkIndex (by decide)), if_neg (hfix kDocumentTitle (by decide)),
    if_neg (hfix kPageStart (by decide)), if_neg (hfix kPageEnd (by decide)), if_neg (hfix kSectionTitle (by decide)),
    if_neg (hfix kHasTable (by decide)), if_neg (hfix kHasList (by decide)), if_neg (hfix kHasImage (by decide)),
    if_neg (hfix kEmbeddings (by decide)), stripMeta_meta]
  rfl

example : kMeta ++ kLevel ≠ ({} : Config).chunkIDColumnName ∧ kMeta ++ kLevel ≠ ({} : Config).textColumnName := by
  decide

/-- For every batch size ≥ 1 and every collection: the batches concatenate to the collection
(nothing lost, duplicated or reordered), none is empty, none exceeds the size, all but possibly
the last have exactly `size` chunks, and the bookkeeping fields are right
(`StartIndex = BatchNumber·size`, `EndIndex = StartIndex + ChunkCount`, `items = chunks[Start:End]`). -/
theorem batches_partition {α : Type} (size : Nat) (hs : 1 ≤ size) (chunks : List α) :
    ∃ bs, batchExport size chunks = some bs ∧
      bs.flatMap (·.items) = chunks ∧
      ∀ b ∈ bs, 1 ≤ b.items.length ∧ b.items.length ≤ size ∧ b.chunkCount = b.items.length ∧
        b.startIndex = b.batchNumber * size ∧ b.endIndex = b.startIndex + b.chunkCount ∧
        b.items = (chunks.drop b.startIndex).take b.chunkCount ∧
        (b.endIndex < chunks.length → b.chunkCount = size) := by
  have hs' : 0 < size := hs
  refine ⟨batchLoop size hs' chunks 0, by simp [batchExport, hs'], ?_, ?_⟩
  · simpa using batchLoop_items size hs' chunks 0
  · intro b hb
    obtain ⟨h1, h2, h3, h4, h5, h6, _, h8⟩ := batchLoop_sizes size hs' chunks 0 b hb
    exact ⟨h1, h2, h3, by simpa using h5, h4, h6, h8⟩

example : (batchExport 2 [1, 2, 3, 4, 5]).map (·.map (·.items)) = some [[1, 2], [3, 4], [5]] := by
  simp only [batchExport, Nat.zero_lt_two, dite_true, Option.map_some]
  rw [batchLoop.eq_1]; rw [batchLoop.eq_1]; rw [batchLoop.eq_1]; rw [batchLoop.eq_1]; simp

/-- batch size 0 is refused (since fix 98eac23 with an error; before it the call panicked — `C14IO.batch_all_sizes`
covers every `int` size); the model says so -/
theorem batch_size_zero {α : Type} (chunks : List α) : batchExport 0 chunks = none := by
  simp [batchExport]

/-- Streaming: writing the chunks one by one to a JSON Lines / JSON stream yields exactly one
record per chunk, in order, each the same record the batch exporter would produce; for CSV/TSV
the first write fails (nothing is silently dropped). -/
theorem stream_once (cfg : Config) (chunks : List Chunk) :
    (cfg.format = .jsonl ∨ cfg.format = .json →
      streamAll cfg chunks [] = some (exportRecords cfg chunks)) ∧
    (cfg.format ≠ .jsonl → cfg.format ≠ .json → chunks ≠ [] → streamAll cfg chunks [] = none) := by
  rw [streamAll_eq cfg _ (writeChunk_eq cfg), exportRecords_eq_map]
  constructor
  · intro hf
    simp [hf]
  · intro h1 h2 hne
    simp [h1, h2, hne]

/-- Every filter method returns exactly `List.filter` of its predicate: the chunks satisfying it,
all of them, in collection order. -/
theorem filter_is_filter (env : StrEnv) (p : Chunk → Bool) (op : FilterOp) (cs : List Chunk) :
    filterC p cs = cs.filter p ∧ applyOp env op cs = cs.filter (opPred env op) :=
  ⟨filterC_eq p cs, filterC_eq _ cs⟩

/-- A chain of filters is the filter of the conjunction of their predicates. -/
theorem filter_chain_is_conjunction (env : StrEnv) (ops : List FilterOp) (cs : List Chunk) :
    applyChain env ops cs = cs.filter (fun c => ops.all (fun op => opPred env op c)) := by
  induction ops generalizing cs with
  | nil => simp only [applyChain, List.all_nil]; exact (List.filter_eq_self.mpr (by simp)).symm
  | cons op rest ih =>
    simp only [applyChain, ih, applyOp, filterC_eq, List.filter_filter, List.all_cons]
    congr 1
    funext c
    exact Bool.and_comm _ _

/-- a filtered collection is a subsequence of the original (order preserved, no chunk invented) -/
theorem filter_order_preserved (env : StrEnv) (ops : List FilterOp) (cs : List Chunk) :
    (applyChain env ops cs).Sublist cs := by
  rw [filter_chain_is_conjunction]
  exact List.filter_sublist

/-- what each predicate means, in terms of the chunk's metadata -/
theorem filter_predicates_spec (env : StrEnv) (c : Chunk) :
    (∀ t, opPred env (.section t) c = true ↔ (c.md.sectionTitle = t ∨ t ∈ c.md.sectionPath)) ∧
    (∀ p, opPred env (.page p) c = true ↔ (c.md.pageStart ≤ p ∧ p ≤ c.md.pageEnd)) ∧
    (∀ s e, opPred env (.pageRange s e) c = true ↔ (s ≤ c.md.pageEnd ∧ c.md.pageStart ≤ e)) ∧
    (∀ t, opPred env (.elementType t) c = true ↔ ∃ et ∈ c.md.elementTypes, env.eqFold et t = true) ∧
    (opPred env .tables c = c.md.hasTable) ∧ (opPred env .lists c = c.md.hasList) ∧
    (opPred env .images c = c.md.hasImage) ∧
    (∀ n, opPred env (.minTokens n) c = true ↔ n ≤ c.md.estimatedTokens) ∧
    (∀ n, opPred env (.maxTokens n) c = true ↔ c.md.estimatedTokens ≤ n) ∧
    (∀ kw, opPred env (.search kw) c = true ↔ ∃ u v, env.toLower c.text = u ++ env.toLower kw ++ v) := by
  refine ⟨?_, ?_, ?_, ?_, rfl, rfl, rfl, ?_, ?_, ?_⟩
  · intro t
    simp only [opPred, isInSection]
    by_cases h : c.md.sectionTitle = t
    · simp [h]
    · simp [h, pathHas_iff]
  · intro p; simp [opPred, isOnPage]
  · intro s e; simp [opPred]
  · intro t; simp [opPred, containsElementType_iff]
  · intro n; simp [opPred]
  · intro n; simp [opPred]
  · intro kw; simp [opPred, containsB_iff]

/-- ASSUMED STDLIB CONTRACT (not tabula code): what `csv.Writer` (LF line ends, Go's quoting rule
plus ANY extra set of fields it may choose to quote) writes for a list of non-empty records is read
back to exactly those records by a strict RFC 4180 reader that keeps CR, LF, quotes and delimiters
inside quoted fields verbatim — for all field contents (any bytes) and every valid one-byte
delimiter, in particular `,` and TAB. -/
theorem csv_roundtrip (extra : Str → Bool) (d : Nat) (hd : validDelim d) (rows : List (List Str))
    (hrows : ∀ r ∈ rows, r ≠ []) :
    csvRead d (csvWrite extra d rows) = some rows := by
  -- a valid one-byte delimiter is a valid rune written as itself
  have hlt : d < 128 := hd.2.2.2.2
  rw [← csvWriteR_ascii extra d hlt, ← csvReadR_eq_csvRead, ← runeBytes_ascii d hlt]
  exact csvReadR_write extra d (validDelimR_of_validDelim d hd) rows hrows

theorem csv_roundtrip_comma (rows : List (List Str)) (hrows : ∀ r ∈ rows, r ≠ []) :
    csvRead 44 (csvWrite goExtra 44 rows) = some rows :=
  csv_roundtrip goExtra 44 (by decide) rows hrows

theorem csv_roundtrip_tab (rows : List (List Str)) (hrows : ∀ r ∈ rows, r ≠ []) :
    csvRead 9 (csvWrite goExtra 9 rows) = some rows :=
  csv_roundtrip goExtra 9 (by decide) rows hrows

example : csvRead 9 (csvWrite goExtra 9 [[[97, 9, 98], [34, 13, 10, 0], []], [[32]]]) =
    some [[[97, 9, 98], [34, 13, 10, 0], []], [[32]]] := by decide

/-- the record `[]` (no field at all) is the one thing the format cannot carry: it is written as an
empty line, which reads back as one empty field — hence the hypothesis of `csv_roundtrip`.
Export rows never are empty (`exportCSVRecords_ne_nil`). -/
theorem csv_empty_record_counterexample : csvRead 44 (csvWrite goExtra 44 [[]]) ≠ some [[]] := by decide

/-- End to end for CSV and TSV under the assumed writer: with a valid delimiter the export text
parses back to header (iff requested) + one row per chunk in order, every cell being the value of
its column for its chunk — whatever bytes ids, texts, titles and section names contain. -/
theorem export_csv_parses_back (marshal : MapSV → Str) (cfg : Config) (chunks : List Chunk)
    (hd : validDelim (delimiter cfg)) :
    ∃ text, exportCSV marshal cfg chunks = some text ∧
      csvRead (delimiter cfg) text = some
        ((if cfg.includeHeader then [collectCSVColumns cfg chunks] else []) ++
          chunks.map (fun c => (collectCSVColumns cfg chunks).map
            (getColumnValue marshal cfg (prepareChunkForExport cfg c)))) := by
  -- a valid one-byte delimiter is a valid rune written as itself: the export for any rune, read by its reader
  have hlt : delimiter cfg < 128 := hd.2.2.2.2
  obtain ⟨text, he⟩ := exportCSVR_some marshal cfg chunks (validDelimR_of_validDelim _ hd)
  refine ⟨text, exportCSVR_eq_exportCSV marshal cfg chunks (.inl hlt) ▸ he, ?_⟩
  rw [← csvReadR_eq_csvRead, ← runeBytes_ascii _ hlt, exportCSVR_reads_back marshal cfg chunks text he]
  simp only [getColumnValue_fun]

/-- the TSV format is tab-separated whatever `CSVDelimiter` says, and an unset delimiter means comma -/
theorem delimiter_of_format (cfg : Config) :
    (cfg.format = .tsv → delimiter cfg = 9) ∧
    (cfg.format ≠ .tsv → cfg.csvDelimiter = 0 → delimiter cfg = 44) ∧
    (cfg.format ≠ .tsv → cfg.csvDelimiter ≠ 0 → delimiter cfg = cfg.csvDelimiter) := by
  refine ⟨?_, ?_, ?_⟩ <;> intros <;> simp_all [delimiter]

example : validDelim (delimiter { format := .tsv }) ∧ validDelim (delimiter { format := .csv }) := by decide

/-- integer cells (`%d`) read back to the same integer, for every Go int -/
theorem int_cell_roundtrip (marshal : MapSV → Str) (i : Int) :
    readIntCell (formatValue marshal (.int i)) = i ∧ readIntCell (decInt i) = i :=
  ⟨readIntCell_decInt i, readIntCell_decInt i⟩

/-- boolean cells read back -/
theorem bool_cell_roundtrip (marshal : MapSV → Str) (b : Bool) :
    readBoolCell (formatValue marshal (.bool b)) = some b ∧ readBoolCell (boolStr b) = some b := by
  cases b <;> exact ⟨by simp [formatValue, readBoolCell, kTrue, kFalse], by decide⟩

/-- string cells are the string itself -/
theorem string_cell_verbatim (marshal : MapSV → Str) (s : Str) : formatValue marshal (.str s) = s := rfl

/-
FULL STATEMENT (what the property needs for list-valued metadata — section_path, child_ids,
element_types — in CSV/TSV):
    ∀ l ≠ [], readListCell (formatValue marshal (.strs l)) = some l
It is FALSE for the code as it exists (`"[" + strings.Join(v, ",") + "]"` does not escape commas):
see `list_cell_counterexample`.  Recorded as finding C14/csv-field-meta-list, C14/tsv-field-meta-list.
-/

/-- PARTIAL: a list cell reads back when no element contains a comma. -/
theorem list_cell_roundtrip_partial (marshal : MapSV → Str) (l : List Str) (hne : l ≠ [])
    (h : ∀ s ∈ l, 44 ∉ s) :
    readListCell (formatValue marshal (.strs l)) = some l := by
  simp only [formatValue, readListCell, List.getLast?_append, List.getLast?_singleton,
    Option.some_or, if_true, List.dropLast_concat]
  rw [(splitAcc_joinComma_iff l).mpr ⟨hne, h⟩]

example : ([[97, 32, 98], [99]] : List Str) ≠ [] ∧ ∀ s ∈ ([[97, 32, 98], [99]] : List Str), 44 ∉ s := by decide

/-- COUNTEREXAMPLE (pinned code): section path `["a,b","c"]` and `["a","b,c"]` are written as the
same cell `[a,b,c]`, so the cell cannot be read back to the chunk's value. -/
theorem list_cell_counterexample (marshal : MapSV → Str) :
    formatValue marshal (.strs [[97, 44, 98], [99]]) = formatValue marshal (.strs [[97], [98, 44, 99]]) ∧
    readListCell (formatValue marshal (.strs [[97, 44, 98], [99]])) ≠ some [[97, 44, 98], [99]] := by
  constructor
  · rfl
  · simp [formatValue, readListCell, joinComma, splitAcc]

/-- `chunkMetadataToMap` never produces nested maps and its keys are distinct, so
`flattenMetadata` returns it unchanged; with `MetadataFields = nil` the exported metadata map is
the chunk's map itself and the chunk's CSV keys are its keys, FlattenMetadata on or off.
(Any field list: `C14Meta.exported_metadata_spec`, `C14Config.pretty_flatten_irrelevant`.) -/
theorem flatten_is_noop (cfg : Config) (c : Chunk) (hf : cfg.metadataFields = none) :
    flattenMetadata (chunkMetadataToMap c.md) [] = chunkMetadataToMap c.md ∧
    filterMetadata cfg (chunkMetadataToMap c.md) = chunkMetadataToMap c.md ∧
    chunkKeys cfg c = mapKeys (chunkMetadataToMap c.md) := by
  have h : filterMetadata cfg (chunkMetadataToMap c.md) = chunkMetadataToMap c.md := by
    rw [filterMetadata_unflattened, hf]
  exact ⟨flatten_chunk_metadata c.md, h, by rw [chunkKeys_eq, h]⟩

example : ({} : Config).metadataFields = none := rfl

end Tabula.C14
