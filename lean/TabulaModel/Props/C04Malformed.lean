import TabulaModel.Props.C04Bytes
/-!
# C04 — classic cross-reference tables that are NOT well formed: no partial tables

`parseTraditionalXRef` either reads a section completely or fails; `reader.Open` then fails as
a whole (the section is on the `/Prev` chain), so no lookup is ever answered from half a table.

* `classic_entry_accepts_iff` — exactly which 18+-byte lines `parseEntry` accepts, and as what;
* `classic_table_bad_entry_is_error` — any number of well-formed subsections, then a subsection
  with some well-formed entries and one line `parseEntry` refuses: the section is refused,
  whatever follows;
* `classic_table_short_subsection_is_error` — a subsection that announces more entries than it
  has (the `trailer` line comes too early);
* `classic_table_without_trailer_is_error` — the lines end before `trailer`.
-/
namespace Tabula.C04M
open Tabula.XrefFile Tabula.XrefBytes Tabula.A1 Tabula.Pdf Tabula.C04B

/-- **classic_entry_accepts_iff** (every byte string): `parseEntry(line)` succeeds with
(offset, generation, in use) exactly when the line has at least 18 bytes, its first ten bytes
trimmed are a decimal int64 - the offset -, the next six trimmed are a decimal int64 - the
generation -, and bytes 16 and 17 trimmed are `n` or `f` -/
theorem classic_entry_accepts_iff (line : List Nat) (off gen : Int) (inUse : Bool) :
    parseEntryU line = some (off, gen, inUse) ↔
      18 ≤ line.length ∧ atoi (trimSpaceU (line.take 10)) = some off ∧
      atoi (trimSpaceU ((line.drop 10).take 6)) = some gen ∧
      trimSpaceU ((line.drop 16).take 2) = [if inUse then 110 else 102] := by
  unfold parseEntryU
  by_cases hl : line.length < 18
  · simp only [hl, if_true]
    constructor
    · intro h; cases h
    · intro h; omega
  · simp only [hl, if_false]
    cases ho : atoi (trimSpaceU (line.take 10)) with
    | none => simp
    | some o =>
      cases hg : atoi (trimSpaceU ((line.drop 10).take 6)) with
      | none => simp
      | some g =>
        simp only
        by_cases hn : trimSpaceU ((line.drop 16).take 2) = [110]
        · simp only [hn, if_true, Option.some.injEq, Prod.mk.injEq]
          constructor
          · rintro ⟨rfl, rfl, rfl⟩; exact ⟨by omega, rfl, rfl, rfl⟩
          · rintro ⟨_, h1, h2, h3⟩
            cases inUse with
            | true => exact ⟨h1, h2, rfl⟩
            | false => simp at h3
        · simp only [hn, if_false]
          by_cases hf : trimSpaceU ((line.drop 16).take 2) = [102]
          · simp only [hf, if_true, Option.some.injEq, Prod.mk.injEq]
            constructor
            · rintro ⟨rfl, rfl, rfl⟩; exact ⟨by omega, rfl, rfl, rfl⟩
            · rintro ⟨_, h1, h2, h3⟩
              cases inUse with
              | false => exact ⟨h1, h2, rfl⟩
              | true => simp at h3
          · simp only [hf, if_false]
            constructor
            · intro h; cases h
            · rintro ⟨_, _, _, h3⟩
              cases inUse with
              | true => exact absurd h3 hn
              | false => exact absurd h3 hf

/-- a line shorter than 18 bytes is no entry -/
theorem classic_entry_short_is_error (line : List Nat) (h : line.length < 18) : parseEntryU line = none := by
  unfold parseEntryU; simp only [h, if_true]

/-- the entries of a subsection that announces more than it has read so far -/
theorem classicLoop_entries_pending (tl : Bool) (ee : EntEol) (es : List CEnt) (hes : ∀ e ∈ es, e.Ok)
    (more : List (List Nat)) (p : Nat) :
    ∀ (num : Int) (acc : RawSection), 0 ≤ num → num + es.length < 9223372036854775808 →
      classicLoop tl (es.map (entryLine ee) ++ more) (es.length + p) num acc =
        classicLoop tl more p (num + es.length) (acc ++ numberFrom num (es.map CEnt.raw)) :=
  classicLoop_entries_then tl ee es hes more p

/-- **classic_table_bad_entry_is_error** (no partial tables): the keyword `xref`, any
well-formed subsections, then a subsection whose header announces `(es ++ pad).length` entries
(`pad` not empty: more than `es.length`), `es.length` well-formed ones, and a line `bad` that
`parseEntry` refuses: the section
is an error, whatever lines follow (more entries, a perfect trailer, …) -/
theorem classic_table_bad_entry_is_error (tl : Bool) (ee : EntEol) (subs : List CSub) (hss : ∀ s ∈ subs, s.Ok)
    (first : Nat) (es pad : List CEnt) (hok : CSub.Ok (first, es ++ pad)) (hpad : pad ≠ [])
    (bad : List Nat) (hbad : parseEntryU bad = none) (more : List (List Nat)) :
    parseClassic (kwXref :: (subLines ee subs ++
      headerLine (first, es ++ pad) :: (es.map (entryLine ee) ++ bad :: more))) tl = .error .err := by
  rw [parseClassic_subs tl ee subs hss, classicLoop_header tl (first, es ++ pad) hok.1]
  obtain ⟨q, hq⟩ : ∃ q, (es ++ pad).length = es.length + (q + 1) := by
    cases pad with
    | nil => exact absurd rfl hpad
    | cons a pad' => exact ⟨pad'.length, by simp only [List.length_append, List.length_cons]⟩
  simp only [hq]
  have hesok : ∀ e ∈ es, e.Ok := fun e he => hok.2 e (by simp [he])
  have hb := hok.1
  simp only [List.length_append] at hb
  rw [classicLoop_entries_pending tl ee es hesok _ (q + 1) (first : Int) _ (by omega) (by omega)]
  simp only [classicLoop, hbad]

/-- satisfiable: object numbers from 3, one good entry, then `trailer` where the second entry
should stand -/
example : CSub.Ok (3, [⟨17, 0, true⟩] ++ [⟨0, 0, false⟩]) ∧ parseEntryU kwTrailer = none := by
  decide

/-- **classic_table_short_subsection_is_error**: a subsection that announces more entries than
stand in front of the `trailer` keyword makes the whole section an error (the `trailer` line is
read as an entry) - the entries that did parse are not used -/
theorem classic_table_short_subsection_is_error (tl : Bool) (ee : EntEol) (subs : List CSub)
    (hss : ∀ s ∈ subs, s.Ok) (first : Nat) (es pad : List CEnt) (hok : CSub.Ok (first, es ++ pad))
    (hpad : pad ≠ []) (more : List (List Nat)) :
    parseClassic (kwXref :: (subLines ee subs ++
      headerLine (first, es ++ pad) :: (es.map (entryLine ee) ++ kwTrailer :: more))) tl = .error .err :=
  classic_table_bad_entry_is_error tl ee subs hss first es pad hok hpad kwTrailer (by decide) more

/-- **classic_table_without_trailer_is_error**: well-formed subsections and then the end of
the data - no `trailer` keyword: an error (the table is not used without its trailer) -/
theorem classic_table_without_trailer_is_error (tl : Bool) (ee : EntEol) (subs : List CSub)
    (hss : ∀ s ∈ subs, s.Ok) : parseClassic (kwXref :: subLines ee subs) tl = .error .err := by
  have := parseClassic_subs tl ee subs hss []
  rw [List.append_nil] at this
  rw [this]
  rfl

/-- a first line other than `xref` is no classic table -/
theorem classic_table_needs_keyword (tl : Bool) (l : List Nat) (ls : List (List Nat)) (h : trimSpaceU l ≠ kwXref) :
    parseClassic (l :: ls) tl = .error .err := by
  simp only [parseClassic, h, if_false]

end Tabula.C04M
