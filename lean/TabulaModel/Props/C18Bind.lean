import TabulaModel.Lemmas.PackageBind
import TabulaModel.Props.C18Front
/-!
# C18 — which attribute is the declaration (relationship-id binding), first rootfile,
OPC targets byte for byte

`Model/PackageBind.lean` models tabula's struct tags over the attribute lists that
`encoding/xml` produces. Here, for ALL attribute lists:

* PPTX `<sldId>`: the relationship id is the LAST attribute `id` of the Transitional
  relationships namespace when that is not empty (`sldId_transitional`), and the last one of
  the Strict namespace when the element has none of the Transitional namespace (`sldId_strict`); attributes without namespace (the
  numeric `id`), of foreign namespaces and `xmlns` declarations never play a part
  (`sldId_only_relationship_namespaces`, `sldId_unbound`); a Strict deck is read exactly
  like its Transitional spelling (`strict_read_as_transitional`).
* XLSX `<sheet>` (`sheetRefXML.relID()`, bound like `<sldId>`): the relationship id is the `id`
  of the Transitional relationships namespace when that is not empty, and the one of the Strict
  namespace when the element has none of the Transitional namespace (`sheet_rid_transitional`,
  `sheet_rid_strict`, `sheet_rid_any_namespace`); `id`s of foreign namespaces or of none and `xmlns` declarations
  never matter, wherever they stand (`sheet_rid_only_relationship_namespaces`,
  `sheet_rid_foreign_id_ignored`, `sheet_rid_unbound`); every renaming of the foreign
  namespaces and the Strict spelling are read alike (`sheetRef_namespace_blind`,
  `sheetRef_strict_read_as_transitional`). A binding without namespace (`sheetRefOld`, the
  struct tag before 10098f7 in /repo) takes the last attribute of local name `id` of ANY
  namespace, so a later foreign `id` or `xmlns:id` shadows `r:id`
  (`sheet_rid_last_id_pinned_counterexample`).
* composition with the part list: `pptx_paths_in_list_order`, `pptx_open_from_markup`,
  `xlsx_open_from_markup` — the presented parts are the declaring ELEMENTS in document
  order, each bound, resolved and looked up.
* EPUB `container.xml`: the package document is the first rootfile of the OPF media type
  (or without media type) with a path, whatever follows it (`rootfile_first_opf`,
  `rootfile_later_irrelevant`, `rootfile_fallback_first`, `rootfile_none_iff`,
  `epub_declared_from_first_rootfile`).
* OPC: an XLSX target is taken byte for byte — no cleaning, no percent-decoding
  (`xlsx_relative_target_exact`, `xlsx_absolute_target_exact`, `xlsx_sheet_member_exact`).
-/
namespace Tabula.C18Bind
open Tabula.Package Tabula.PackageBind Tabula.C18

/-- **sldId_transitional** — whatever else the element carries (the numeric `id`, an `id`
of the Strict or of a foreign namespace, declarations), a non-empty `id` of the Transitional
relationships namespace that no later such attribute follows IS the relationship id -/
theorem sldId_transitional (pre post : List Attr) (v : Str) (hv : v ≠ [])
    (hp : ∀ b ∈ post, ¬ (b.1 = nsRelT ∧ b.2.1 = lId)) :
    sldIdRel (pre ++ (nsRelT, lId, v) :: post) = v := by
  have h := attrField_last nsRelT lId pre post (nsRelT, lId, v) (by simp [takes])
    (fun b hb => takes_false_of nsRelT lId nsRelT_ne_nil b (hp b hb))
  unfold sldIdRel
  simp only [h]
  simp [hv]

/-- **sldId_strict** — an element without an `id` of the Transitional namespace (every
element of a Strict presentation) is bound through the Strict namespace: the last such
attribute is the relationship id -/
theorem sldId_strict (pre post : List Attr) (v : Str)
    (hT : ∀ b ∈ pre ++ (nsRelS, lId, v) :: post, ¬ (b.1 = nsRelT ∧ b.2.1 = lId))
    (hp : ∀ b ∈ post, ¬ (b.1 = nsRelS ∧ b.2.1 = lId)) :
    sldIdRel (pre ++ (nsRelS, lId, v) :: post) = v := by
  have h0 := attrField_none nsRelT lId _ (fun b hb => takes_false_of nsRelT lId nsRelT_ne_nil b (hT b hb))
  have h := attrField_last nsRelS lId pre post (nsRelS, lId, v) (by simp [takes])
    (fun b hb => takes_false_of nsRelS lId nsRelS_ne_nil b (hp b hb))
  unfold sldIdRel
  simp only [h0, h]
  simp

/-- is this an `id` of one of the two relationships namespaces? -/
def isRelId (a : Attr) : Bool := a.2.1 = lId && (a.1 = nsRelT || a.1 = nsRelS)

/-- **sldId_only_relationship_namespaces** — only the `id` attributes of the two
relationships namespaces play a part: the numeric `id` of the slide, attributes of foreign
namespaces and `xmlns` declarations (a prefix named `id` included) can all be dropped -/
theorem sldId_only_relationship_namespaces (attrs : List Attr) :
    sldIdRel (attrs.filter isRelId) = sldIdRel attrs := by
  unfold sldIdRel
  rw [attrField_filter nsRelT lId isRelId, attrField_filter nsRelS lId isRelId]
  · intro a ha
    have := (takes_ns nsRelS lId nsRelS_ne_nil a).1 ha
    simp [isRelId, this.1, this.2]
  · intro a ha
    have := (takes_ns nsRelT lId nsRelT_ne_nil a).1 ha
    simp [isRelId, this.1, this.2]

/-- **sldId_unbound** — an element without an `id` of either relationships namespace
declares no relationship (the empty id), whatever other attributes named `id` it has -/
theorem sldId_unbound (attrs : List Attr) (h : ∀ a ∈ attrs, isRelId a = false) :
    sldIdRel attrs = [] := by
  rw [← sldId_only_relationship_namespaces]
  have : attrs.filter isRelId = [] := by
    rw [List.filter_eq_nil_iff]
    intro a ha; simp [h a ha]
  rw [this]; rfl

/-- non-vacuity: `<p:sldId id="256" r:id="rId7"/>` and its Strict spelling, a foreign
`o:id` and a prefix named `id` beside `r:id` -/
example : sldIdRel [([], lId, [50, 53, 54]), (nsRelT, lId, [114, 55])] = [114, 55] := by decide +kernel
example : sldIdRel [(nsRelS, lId, [114, 55]), ([], lId, [50, 53, 54])] = [114, 55] := by decide +kernel
example : sldIdRel [(nsRelT, lId, [114, 55]), ([1], lId, [120]), (sXmlns, lId, [121])] = [114, 55] := by decide +kernel
example : sldIdRel [([], lId, [50, 53, 54]), ([1], lId, [120])] = [] := by decide +kernel

/-- **strict_read_as_transitional** — rewriting the Transitional relationships namespace
into the Strict one (what saving as "Strict Open XML Presentation" does to every `r:id`)
leaves the relationship id of every `<sldId>` unchanged -/
theorem strict_read_as_transitional (attrs : List Attr) (hS : ∀ a ∈ attrs, a.1 ≠ nsRelS) :
    sldIdRel (retag toStrict attrs) = sldIdRel attrs := by
  have hA : attrField nsRelT lId (retag toStrict attrs) = [] := by
    apply attrField_none
    intro b hb
    apply takes_false_of nsRelT lId nsRelT_ne_nil
    unfold retag at hb
    obtain ⟨a, _, rfl⟩ := List.mem_map.1 hb
    intro h
    have h1 : toStrict a.1 = nsRelT := h.1
    unfold toStrict at h1
    split at h1
    · exact nsRelS_ne_nsRelT h1
    · contradiction
  have hB : attrField nsRelS lId (retag toStrict attrs) = attrField nsRelT lId attrs := by
    refine attrField_retag toStrict nsRelS nsRelT lId attrs fun a ha => ?_
    have hs := hS a ha
    unfold toStrict
    by_cases h : a.1 = nsRelT
    · simp [takes, h]
    · have h' : ¬ nsRelT = a.1 := fun e => h e.symm
      have hs' : ¬ nsRelS = a.1 := fun e => hs e.symm
      simp [takes, h, h', hs', nsRelT_ne_nil, nsRelS_ne_nil]
  have hC : attrField nsRelS lId attrs = [] := by
    apply attrField_none
    intro a ha
    exact takes_false_of nsRelS lId nsRelS_ne_nil a (fun h => hS a ha h.1)
  unfold sldIdRel
  simp only [hA, hB, hC]
  by_cases h : attrField nsRelT lId attrs = [] <;> simp [h]

/-- non-vacuity of `strict_read_as_transitional` -/
example : (∀ a ∈ ([([], lId, [50]), (nsRelT, lId, [114, 55])] : List Attr), a.1 ≠ nsRelS) ∧
    retag toStrict [([], lId, [50]), (nsRelT, lId, [114, 55])] = [([], lId, [50]), (nsRelS, lId, [114, 55])] := by
  decide +kernel

/-- `sheetRefXML.relID()` is `slideIdXML.relID()` word for word -/
theorem sheetRef_rid (attrs : List Attr) : (sheetRef attrs).2 = sldIdRel attrs := rfl

/-- **sheet_rid_transitional** — whatever else the element carries (`sheetId`, an `id` of the
Strict, of a foreign or of no namespace, declarations), a non-empty `id` of the Transitional
relationships namespace that no later such attribute follows IS the relationship id -/
theorem sheet_rid_transitional (pre post : List Attr) (v : Str) (hv : v ≠ [])
    (hp : ∀ b ∈ post, ¬ (b.1 = nsRelT ∧ b.2.1 = lId)) :
    (sheetRef (pre ++ (nsRelT, lId, v) :: post)).2 = v := by
  rw [sheetRef_rid]; exact sldId_transitional pre post v hv hp

/-- **sheet_rid_strict** — an element without an `id` of the Transitional namespace (every
`<sheet>` of a Strict workbook) is bound through the Strict namespace -/
theorem sheet_rid_strict (pre post : List Attr) (v : Str)
    (hT : ∀ b ∈ pre ++ (nsRelS, lId, v) :: post, ¬ (b.1 = nsRelT ∧ b.2.1 = lId))
    (hp : ∀ b ∈ post, ¬ (b.1 = nsRelS ∧ b.2.1 = lId)) :
    (sheetRef (pre ++ (nsRelS, lId, v) :: post)).2 = v := by
  rw [sheetRef_rid]; exact sldId_strict pre post v hT hp

/-- **sheet_rid_only_relationship_namespaces** — only the `id` attributes of the two
relationships namespaces play a part: `id`s of foreign namespaces or of none and `xmlns`
declarations (a prefix named `id` included) can all be dropped -/
theorem sheet_rid_only_relationship_namespaces (attrs : List Attr) :
    (sheetRef (attrs.filter isRelId)).2 = (sheetRef attrs).2 := by
  rw [sheetRef_rid, sheetRef_rid]; exact sldId_only_relationship_namespaces attrs

/-- **sheet_rid_foreign_id_ignored** — the statement a binding without namespace (`sheetRefOld`) violates: an attribute
that is not an `id` of a relationships namespace — a foreign `o:id`, a bare `id`, the
declaration `xmlns:id="…"` — written ANYWHERE on the element leaves the relationship id as
it is -/
theorem sheet_rid_foreign_id_ignored (pre post : List Attr) (a : Attr) (ha : isRelId a = false) :
    (sheetRef (pre ++ a :: post)).2 = (sheetRef (pre ++ post)).2 := by
  rw [← sheet_rid_only_relationship_namespaces (pre ++ a :: post),
    ← sheet_rid_only_relationship_namespaces (pre ++ post)]
  have hn : ¬ isRelId a = true := by simp [ha]
  rw [List.filter_append, List.filter_cons_of_neg hn, ← List.filter_append]

/-- **sheet_rid_unbound** — a `<sheet>` without an `id` of either relationships namespace
declares no relationship (the empty id; `parseWorksheets` then tries the default part name),
whatever other attributes named `id` it has -/
theorem sheet_rid_unbound (attrs : List Attr) (h : ∀ a ∈ attrs, isRelId a = false) :
    (sheetRef attrs).2 = [] := by
  rw [sheetRef_rid]; exact sldId_unbound attrs h

/-- **sheet_rid_any_namespace** — the relationship id of a `<sheet>` is its non-empty `id` in
one of the two relationships namespaces, whichever it is, and whatever `id`s of any
OTHER namespace, of none, or `xmlns` declarations stand before or after it -/
theorem sheet_rid_any_namespace (pre post : List Attr) (sp v : Str)
    (hsp : sp = nsRelT ∨ sp = nsRelS) (hv : v ≠ [])
    (hfree : ∀ b ∈ pre ++ post, isRelId b = false) :
    (sheetRef (pre ++ (sp, lId, v) :: post)).2 = v := by
  -- an `id` of a relationships namespace among the other attributes would be an `isRelId`
  have hT : ∀ b ∈ pre ++ post, ¬ (b.1 = nsRelT ∧ b.2.1 = lId) := fun b hb h => by
    simpa [isRelId, h.1, h.2] using hfree b hb
  have hS : ∀ b ∈ pre ++ post, ¬ (b.1 = nsRelS ∧ b.2.1 = lId) := fun b hb h => by
    simpa [isRelId, h.1, h.2] using hfree b hb
  rcases hsp with rfl | rfl
  · exact sheet_rid_transitional pre post v hv
      (fun b hb => hT b (List.mem_append_right _ hb))
  · apply sheet_rid_strict pre post v
    · rw [List.forall_mem_append, List.forall_mem_cons]
      exact ⟨(List.forall_mem_append.1 hT).1, fun hh => nsRelS_ne_nsRelT hh.1, (List.forall_mem_append.1 hT).2⟩
    · exact fun b hb => hS b (List.mem_append_right _ hb)

/-- the sheet name is the last attribute of local name `name` (the tag `name,attr` carries
no namespace) -/
theorem sheet_name_last (pre post : List Attr) (sp v : Str) (hp : ∀ b ∈ post, b.2.1 ≠ lName) :
    (sheetRef (pre ++ (sp, lName, v) :: post)).1 = v := by
  unfold sheetRef
  exact attrField_last [] lName pre post (sp, lName, v) (by simp [takes])
    (fun b hb => by
      cases ht : takes [] lName b with
      | false => rfl
      | true => exact absurd ((takes_nil lName b).1 ht) (hp b hb))

theorem attrField_retag_blind (f : Str → Str) (loc : Str) (attrs : List Attr) :
    attrField [] loc (retag f attrs) = attrField [] loc attrs :=
  attrField_retag f [] [] loc attrs fun a _ => by simp [takes]

/-- a field bound to the namespace `ns` reads a renamed element alike when the renaming
maps `ns`, and nothing else, to `ns` -/
theorem attrField_retag_fix (f : Str → Str) (ns loc : Str) (hns : ns ≠ [])
    (hf : ∀ x, f x = ns ↔ x = ns) (attrs : List Attr) :
    attrField ns loc (retag f attrs) = attrField ns loc attrs :=
  attrField_retag f ns ns loc attrs fun a _ => by
    rw [Bool.eq_iff_iff, takes_ns ns loc hns, takes_ns ns loc hns]
    exact and_congr Iff.rfl (hf a.1)

/-- **sheetRef_namespace_blind** — a workbook is read alike under every renaming of the FOREIGN attribute namespaces, i.e.
every renaming that keeps the two relationships namespaces apart from the rest: name and
relationship id of every `<sheet>` are the same -/
theorem sheetRef_namespace_blind (f : Str → Str) (attrs : List Attr)
    (hT : ∀ x, f x = nsRelT ↔ x = nsRelT) (hS : ∀ x, f x = nsRelS ↔ x = nsRelS) :
    sheetRef (retag f attrs) = sheetRef attrs := by
  unfold sheetRef sheetRel
  rw [attrField_retag_blind, attrField_retag_fix f nsRelT lId nsRelT_ne_nil hT,
    attrField_retag_fix f nsRelS lId nsRelS_ne_nil hS]

/-- **sheetRef_strict_read_as_transitional** — rewriting the Transitional relationships
namespace into the Strict one (what saving as "Strict Open XML Spreadsheet" does to every
`r:id`) leaves name and relationship id of every `<sheet>` unchanged -/
theorem sheetRef_strict_read_as_transitional (attrs : List Attr) (hS : ∀ a ∈ attrs, a.1 ≠ nsRelS) :
    sheetRef (retag toStrict attrs) = sheetRef attrs := by
  have h1 : (sheetRef (retag toStrict attrs)).1 = (sheetRef attrs).1 :=
    attrField_retag_blind toStrict lName attrs
  have h2 : (sheetRef (retag toStrict attrs)).2 = (sheetRef attrs).2 := by
    rw [sheetRef_rid, sheetRef_rid]; exact strict_read_as_transitional attrs hS
  exact Prod.ext h1 h2

/-- a `<Relationship>` element is read alike under every renaming of the attribute
namespaces (its tags `Id,attr` / `Type,attr` / `Target,attr` carry none) -/
theorem relTriple_namespace_blind (f : Str → Str) (attrs : List Attr) :
    relTriple (retag f attrs) = relTriple attrs := by
  unfold relTriple; rw [attrField_retag_blind, attrField_retag_blind, attrField_retag_blind]

/-- **sheet_rid_last_id_pinned_counterexample** — a binding without namespace (`sheetRefOld`:
`RID string xml:"id,attr"`, the struct tag before 10098f7 in /repo) lets a later attribute of
local name `id` — here the declaration of a prefix named `id` on the element — shadow `r:id`
(`<sheet name="A" r:id="r7" xmlns:id="u"/>`), and likewise a foreign `o:id`; the sheet loses
its relationship. `sheetRef` reads `r7` in both (`sheet_rid_foreign_id_ignored`) -/
theorem sheet_rid_last_id_pinned_counterexample :
    (sheetRefOld [([], lName, [65]), (nsRelT, lId, [114, 55]), (sXmlns, lId, [117])]).2 = [117] ∧
    (sheetRefOld [([], lName, [65]), (nsRelT, lId, [114, 55]), ([1], lId, [120])]).2 = [120] ∧
    (sheetRef [([], lName, [65]), (nsRelT, lId, [114, 55]), (sXmlns, lId, [117])]).2 = [114, 55] ∧
    (sheetRef [([], lName, [65]), (nsRelT, lId, [114, 55]), ([1], lId, [120])]).2 = [114, 55] := by decide +kernel

/-- non-vacuity: a Strict `<sheet>` with `sheetId`; `r:id` between a bare `id` and a prefix
named `id`; the renaming of a foreign namespace; an element with foreign `id`s only -/
example : sheetRef [([], lName, [65]), ([], [115, 104, 101, 101, 116, 73, 100], [57]), (nsRelS, lId, [114, 55])]
    = ([65], [114, 55]) := by decide +kernel
example : (∀ b ∈ ([([], lId, [57])] ++ [(sXmlns, lId, [117])] : List Attr), isRelId b = false) ∧
    (sheetRef ([([], lId, [57])] ++ (nsRelT, lId, [114, 55]) :: [(sXmlns, lId, [117])])).2 = [114, 55] := by decide +kernel
example : (∀ x, (fun ns : Str => if ns = [1] then [2] else ns) x = nsRelT ↔ x = nsRelT) := by
  intro x; by_cases h : x = [1]
  · subst h; simp [nsRelT]
  · simp [h]
example : sheetRef [([], lName, [65]), ([], lId, [57]), ([1], lId, [120])] = ([65], []) := by decide +kernel

/-- **pptx_paths_in_list_order** — the declared slide paths are the `<sldId>` ELEMENTS in
document order, each bound (`sldIdRel`) and resolved (`slidePath`), unresolvable ones dropped -/
theorem pptx_paths_in_list_order (elems : List (List Attr)) (rels : List (Str × Str)) :
    declaredSlidePaths (some (elems.map sldIdRel)) (some rels) =
      elems.filterMap (fun e => slidePath rels (sldIdRel e)) := by
  show List.filterMap (slidePath rels) (elems.map sldIdRel) = _
  rw [List.filterMap_map]
  rfl

/-- the relationships a part given by its `<Relationship>` elements yields -/
def relPairsOf (relElems : List (List Attr)) : List (Str × Str) :=
  (relElems.map relTriple).map fun r => (r.1, r.2.2)

/-- **pptx_open_from_markup** — from the markup to the slide list, for every archive: with
the presentation given by its `<sldId>` elements and the relationship part by its
`<Relationship>` elements, `pptx.Open` presents the elements in document order — bound,
resolved, looked up byte for byte, kept when the member is a slide — and fails exactly
when none is readable (the hypothesis says that at least one element resolves to a path;
otherwise the file-name fallback applies) -/
theorem pptx_open_from_markup (a : Archive) (x : Docs) (ct pc rc : Nat)
    (elems relElems : List (List Attr))
    (h1 : lookup a sCT = some ct) (h2 : lookup a sPres = some pc) (h3 : lookup a sPresRels = some rc)
    (hp : x pc = bindPresentation (some elems)) (hr : x rc = bindRels relElems)
    (hne : elems.filterMap (fun e => slidePath (relPairsOf relElems) (sldIdRel e)) ≠ []) :
    pptxOpen a x =
      (let parts := (elems.filterMap (fun e => slidePath (relPairsOf relElems) (sldIdRel e))).zipIdx.filterMap
          (pptxSpecPart a x)
       if parts = [] then none else some parts) := by
  apply parts_follow_declaration_pptx a x _ _ hne
  unfold pptxDeclared pptxRels
  simp only [h1, h2, h3, hp, hr, bindPresentation, bindRels, Doc.relPairs?, Option.map_some]
  rw [pptx_paths_in_list_order]
  rfl

/-- **xlsx_open_from_markup** — the same for a workbook given by its `<sheet>` elements -/
theorem xlsx_open_from_markup (a : Archive) (x : Docs) (ct w rc : Nat)
    (sheetElems relElems : List (List Attr))
    (h1 : lookup a sCT = some ct) (h2 : lookup a sWorkbook = some w) (h3 : lookup a sXlRels = some rc)
    (hw : x w = bindWorkbook sheetElems) (hr : x rc = bindRels relElems) :
    xlsxOpen a x =
      (let parts := (sheetElems.map sheetRef).zipIdx.filterMap (xlsxSpecPart a x (relPairsOf relElems))
       if parts = [] then none else some parts) := by
  apply parts_follow_declaration_xlsx a x
  unfold xlsxDeclared xlsxRels
  simp only [h1, h2, h3, hw, hr, bindWorkbook, bindRels, Doc.relPairs?]
  rfl

/-- non-vacuity of `pptx_open_from_markup`: two slides declared in the order `b`, `a`
(Strict and Transitional spelling mixed), stored in the order `a`, `b` -/
example :
    let a : Archive := [(sCT, 1), ([112, 112, 116, 47, 97], 2), ([112, 112, 116, 47, 98], 3), (sPres, 4), (sPresRels, 5)]
    let elems : List (List Attr) := [[([], lId, [50]), (nsRelS, lId, [114, 50])], [(nsRelT, lId, [114, 49])]]
    let relElems : List (List Attr) := [[([], lIdCap, [114, 49]), ([], lTarget, [97])], [([], lTarget, [98]), ([], lIdCap, [114, 50])]]
    let x : Docs := fun c => if c = 4 then bindPresentation (some elems) else if c = 5 then bindRels relElems
      else if c = 2 ∨ c = 3 then .slide else .opaque
    elems.filterMap (fun e => slidePath (relPairsOf relElems) (sldIdRel e)) = [[112, 112, 116, 47, 98], [112, 112, 116, 47, 97]] ∧
      pptxOpen a x = some [(0, 3), (1, 2)] := by decide +kernel

/-- a rootfile entry `parseContainer` accepts in its first pass: the OPF media type or no
media type, and a path -/
def isOpfRoot (rf : Str × Str) : Prop := (rf.2 = sOebps ∨ rf.2 = []) ∧ rf.1 ≠ []

instance (rf : Str × Str) : Decidable (isOpfRoot rf) := by unfold isOpfRoot; infer_instance

/-- **rootfile_first_opf** — the package document is the FIRST rootfile of the OPF media
type (or without one) that has a path: entries before it that do not qualify and
everything after it are irrelevant -/
theorem rootfile_first_opf (pre post : List (Str × Str)) (rf : Str × Str)
    (hrf : isOpfRoot rf) (hpre : ∀ p ∈ pre, ¬ isOpfRoot p) :
    pickRootfile (pre ++ rf :: post) = some rf.1 := by
  have h : (pre ++ rf :: post).find? (fun rf => decide (isOpfRoot rf)) = some rf :=
    List.find?_eq_some_iff_append.2 ⟨decide_eq_true hrf, pre, post, rfl, fun p hp => by simpa using hpre p hp⟩
  unfold pickRootfile
  exact h ▸ rfl

/-- **rootfile_later_irrelevant** — what follows the chosen rootfile (further renditions,
left-over entries) does not influence the choice -/
theorem rootfile_later_irrelevant (pre post post' : List (Str × Str)) (rf : Str × Str)
    (hrf : isOpfRoot rf) (hpre : ∀ p ∈ pre, ¬ isOpfRoot p) :
    pickRootfile (pre ++ rf :: post) = pickRootfile (pre ++ rf :: post') := by
  rw [rootfile_first_opf pre post rf hrf hpre, rootfile_first_opf pre post' rf hrf hpre]

/-- **rootfile_fallback_first** — when no entry qualifies the first entry is taken as it is -/
theorem rootfile_fallback_first (rf : Str × Str) (rest : List (Str × Str))
    (h : ∀ p ∈ rf :: rest, ¬ isOpfRoot p) : pickRootfile (rf :: rest) = some rf.1 := by
  have h' : (rf :: rest).find? (fun rf => decide (isOpfRoot rf)) = none :=
    List.find?_eq_none.2 fun p hp => by simpa using h p hp
  unfold pickRootfile
  exact h' ▸ rfl

/-- **rootfile_none_iff** — only a container without rootfile entries names no package document -/
theorem rootfile_none_iff (roots : List (Str × Str)) : pickRootfile roots = none ↔ roots = [] := by
  constructor
  · intro h
    cases roots with
    | nil => rfl
    | cons rf rest =>
      unfold pickRootfile at h
      split at h <;> simp at h
  · intro h; subst h; rfl

/-- **epub_declared_from_first_rootfile** — the declaration of an EPUB is the package
document the first OPF rootfile names: manifest and spine of that member, whatever other
package documents the container lists after it and whatever they contain -/
theorem epub_declared_from_first_rootfile (a : Archive) (x : Docs) (c : Nat)
    (pre post : List (Str × Str)) (rf : Str × Str)
    (hc : lookup a sContainer = some c) (hx : x c = .container (pre ++ rf :: post))
    (hrf : isOpfRoot rf) (hpre : ∀ p ∈ pre, ¬ isOpfRoot p) :
    epubDeclared (lookup a) x = parseOPF (lookup a) x rf.1 := by
  unfold epubDeclared parseContainer
  simp only [hc, hx, rootfile_first_opf pre post rf hrf hpre]

/-- non-vacuity: an entry of another media type, the default rendition, a second rendition -/
example :
    let other : Str × Str := ([120], [116])
    let first : Str × Str := ([97, 46, 111, 112, 102], sOebps)
    let second : Str × Str := ([98, 46, 111, 112, 102], sOebps)
    isOpfRoot first ∧ (∀ p ∈ [other], ¬ isOpfRoot p) ∧
      pickRootfile ([other] ++ first :: [second]) = some [97, 46, 111, 112, 102] := by decide +kernel

/-- **xlsx_relative_target_exact** — a relative Target `t` (not starting with `/` or `xl/`)
denotes the member `xl/` ++ `t`, byte for byte: no dot-segment cleaning, no
percent-decoding, no case folding — for EVERY byte string `t` -/
theorem xlsx_relative_target_exact (rels : List (Str × Str)) (i : Nat) (rid t : Str)
    (h : mapLast rels rid = t) (ht : t ≠ []) (h1 : hasPrefix [47] t = false) (h2 : hasPrefix sXl t = false) :
    xlsxTarget rels i rid = sXl ++ t := by
  rw [C18Front.xlsx_target_denotes]
  simp [h, ht, h1, h2]

/-- **xlsx_absolute_target_exact** — an absolute Target `/p` denotes the member `p`, byte
for byte -/
theorem xlsx_absolute_target_exact (rels : List (Str × Str)) (i : Nat) (rid p : Str)
    (h : mapLast rels rid = 47 :: p) : xlsxTarget rels i rid = p := by
  rw [C18Front.xlsx_target_denotes]
  simp [h, hasPrefix, List.isPrefixOf]

/-- **xlsx_sheet_member_exact** — the sheet declared at position `i` with a relative target
`t` is the member named exactly `xl/t` when there is one and it is a worksheet (the example
below: a member under the percent-decoded spelling of that name stands beside it and is not the sheet) -/
theorem xlsx_sheet_member_exact (a : Archive) (x : Docs) (rels : List (Str × Str)) (i c : Nat) (s : Str × Str) (t : Str)
    (h : mapLast rels s.2 = t) (ht : t ≠ []) (h1 : hasPrefix [47] t = false) (h2 : hasPrefix sXl t = false)
    (hl : lookup a (sXl ++ t) = some c) (hs : x c = .sheet) :
    xlsxSpecPart a x rels (s, i) = some (i, c, s.1) := by
  unfold xlsxSpecPart xlsxRead
  simp only [xlsx_relative_target_exact rels i s.2 t h ht h1 h2, hl, Option.bind_some, hs, if_true]

/-- non-vacuity: the target `ws/a%20b.xml` denotes `xl/ws/a%20b.xml`; a member
`xl/ws/a b.xml` beside it is not the sheet -/
example :
    let t : Str := [119, 115, 47, 97, 37, 50, 48, 98, 46, 120, 109, 108]
    let a : Archive := [(sXl ++ [119, 115, 47, 97, 32, 98, 46, 120, 109, 108], 8), (sXl ++ t, 9)]
    let rels : List (Str × Str) := [([114], t)]
    mapLast rels [114] = t ∧ hasPrefix [47] t = false ∧ hasPrefix sXl t = false ∧
      xlsxSpecPart a (fun _ => .sheet) rels (([78], [114]), 0) = some (0, 9, [78]) := by decide +kernel

end Tabula.C18Bind
