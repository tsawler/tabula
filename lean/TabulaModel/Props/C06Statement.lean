import TabulaModel.Props.C06
import TabulaModel.Props.C06Agree
import TabulaModel.Lemmas.PdfSeq
/-!
# C06 — the statement of the property, end to end

The three sentences of the property text, each over the model of the public entry point the property names
(`core.NewParser(r).ParseObject()` called until it fails, `contentstream.NewParser(b).Parse()`), composed from
the per-mechanism theorems of `Props/C06.lean`, `C06Progress`, `C06Errors`, `C06Agree`:

1. *Writing any object tree with any legal spelling and parsing it back yields an equal tree* — for whole
   SEQUENCES of objects at top level (so also `a b R` next to `a b`, names spelled `R`, …), read by a run of
   `ParseObject` calls that then ends with `io.EOF` (`objects_roundtrip`); every well-formed object has a
   spelling, so nothing is left out.
2. *The document-level parser and the content-stream parser assign the same value to every operand both
   accept* — for every byte string (`Props/C06Agree.lean`).
3. *Operator/operand grouping of a content stream is preserved* (`cs_roundtrip`).

The only bound is the parsers' own nesting limit of 500 containers open at once (tabula fix a3fd154), as in
`Props/C06.lean`.
-/
namespace Tabula.C06Statement
open Tabula.Pdf

/-- **Sentence 1, for sequences.**  Any list of object trees, each in ANY legal spelling (`ValidList`: every
token and separator spelled legally, two regular tokens never glued), nested at most `maxNestingDepth` deep,
optionally followed by white space / comments: `ParseObject` called until it fails returns exactly the trees
written, in order, and then `io.EOF`. -/
theorem objects_roundtrip (xs : List SObj) (trail : Sep) (hv : ValidList false xs) (ht : SepOk trail)
    (hd : Obj.depthList (valueList xs) ≤ maxNestingDepth) :
    coreParseAll (renderList xs ++ renderSep trail) = (valueList xs, .eof) := by
  rw [valueList_depth xs false hv] at hd
  exact Seq.core_sequence_roundtrip xs trail hv ht hd

/-- two integers, then a reference, then the name `R`, a string, then an array at the nesting limit -/
example : ValidList false [SObj.int [] false 0 12, SObj.int [.ws 32] true 1 0,
      SObj.ref [.comment [65] [13, 10]] 7 0 [.ws 32] [.ws 10], SObj.name [] [.raw 82], SObj.lit [] [.raw 82],
      nestArr 500 (SObj.null [])] ∧
    Obj.depthList (valueList [SObj.int [] false 0 12, SObj.int [.ws 32] true 1 0,
      SObj.ref [.comment [65] [13, 10]] 7 0 [.ws 32] [.ws 10], SObj.name [] [.raw 82], SObj.lit [] [.raw 82],
      nestArr 500 (SObj.null [])]) ≤ maxNestingDepth := by
  refine ⟨⟨?_, ?_, ?_, ?_, ?_, nestArr_valid _ _ ?_, trivial⟩, ?_⟩
  · simp [SObj.Valid, SepOk]
  · simp [SObj.Valid, SepOk, SepUnit.Ok, SObj.endsRegular, isWs]
  · simp [SObj.Valid, SepOk, SepUnit.Ok, SObj.endsRegular, isWs, Tabula.A1.maxInt64]
  · simp [SObj.Valid, SepOk, NPiece.Ok, isWs, isDelim]
  · simp [SObj.Valid, SepOk, ValidStr]
  · simp [SObj.Valid, SepOk]
  · simp only [valueList, Obj.depthList, nestArr_depth, SObj.value, Obj.depth]
    decide

/-- … such an input tokenizes completely (consequence of ending with `io.EOF`), and has at least one byte
per object -/
theorem printed_objects_tokenize (xs : List SObj) (trail : Sep) (hv : ValidList false xs) (ht : SepOk trail)
    (hd : Obj.depthList (valueList xs) ≤ maxNestingDepth) :
    Errs.Tokenizes (renderList xs ++ renderSep trail) ∧ xs.length ≤ (renderList xs ++ renderSep trail).length := by
  refine ⟨Errs.coreParseAll_eof _ (by rw [objects_roundtrip xs trail hv ht hd]), ?_⟩
  have := Prs.length_le xs
  rw [List.length_append]
  omega

/-- **The property, as its text gives it.**
(1) every well-formed object tree nested at most 500 deep has a legal spelling, and in ANY legal spelling,
optionally followed by white space / comments, it is read back as exactly that tree by `ParseObject` called
until it fails (sequences of objects: `objects_roundtrip`);
(2) on EVERY byte string, an operand both parsers accept gets one value (the reference `n g R`, which the
content-stream parser does not have, is the one object the two read differently: reference vs. its first
integer);
(3) every operator program whose operands nest at most 500 deep, in any legal spelling, is read back by
`Parse` with every operand grouped with its operator. -/
theorem c06_statement :
    (∀ o : Obj, o.WF → o.depth ≤ maxNestingDepth →
      (∃ so : SObj, so.Valid false ∧ so.value = o) ∧
      ∀ (so : SObj) (trail : Sep), so.Valid false → so.value = o → SepOk trail →
        coreParseAll (so.render ++ renderSep trail) = ([o], .eof)) ∧
    (∀ (inp : Str) (a b : Obj) (s : PState) (f2 : Nat) (r : Str),
      coreParse inp = .ok (a, s) → CS.parseOperand f2 0 inp = some (b, r) →
        (a = b ∧ s = stateAt r) ∨ (∃ n g, a = .ref n g ∧ b = .int n)) ∧
    (∀ (ops : List SOp) (trail : Sep), ValidOps false ops → SepOk trail →
      (∀ o ∈ ops, Obj.depthList (valueList o.operands) ≤ maxNestingDepth) →
        CS.csParse (renderOps ops ++ renderSep trail) =
          some (ops.map fun o => { op := o.op, operands := valueList o.operands })) := by
  refine ⟨?_, ?_, ?_⟩
  · intro o hwf hd
    refine ⟨⟨spell o, spell_valid_value o hwf false⟩, ?_⟩
    intro so trail hv hval ht
    have := objects_roundtrip [so] trail ⟨hv, trivial⟩ ht (by
      simp only [valueList, Obj.depthList, hval]; omega)
    simpa [renderList, valueList, hval] using this
  · intro inp a b s f2 r h1 h2
    exact C06Agree.parsers_agree_everywhere inp a s f2 b r h1 h2
  · intro ops trail hv ht hd
    exact Tabula.Pdf.cs_roundtrip ops trail hv ht hd

end Tabula.C06Statement
