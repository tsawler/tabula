import TabulaModel.Lemmas.Package
import TabulaModel.Lemmas.PackageSpine
/-!
# C18 — Multi-part documents are read in their declared order

Theorems about `Model/Package.lean`. For every archive, parse table and declaration of the model:

* `parts_follow_declaration_*` — the presented part list is the declared list,
  in declared order, each entry resolved and looked up, unreadable entries dropped;
* `archive_perm_invariant` — no dependence on the ZIP member order (member names distinct; PPTX: slides declared);
* `decoys_ignored_*` — members appended under names the declaration does not lead to change nothing;
* `count_is_declared_readable_*` — the count is the number of declared readable parts;
* `href_resolution` — percent-encoded hrefs resolve to `path.Join(base, p)`, `+` included.

EPUB: `loadChapters` skips a spine entry whose resolved href an earlier entry resolved to
(c53b79e in /repo: 300 itemrefs over one 2 MB chapter made `Text()` return 629 MB), and the
property text says "each part's text appears in its own page and only there". "The declared
list" of an EPUB is therefore `spineFirsts base manifest spine` (`Lemmas/PackageSpine.lean`,
defined from the declaration only): the spine entries with their positions, in spine order,
later repetitions of an already listed resource removed. The EPUB forms of
`parts_follow_declaration`, `count_is_declared_readable`, `text_stays_in_its_page` (and the
front-door equations built on them) speak about that list. `epub_no_resource_twice`: no
resource is presented twice, for every package. `epub_unrepeated_spine_as_before`,
`parts_follow_declaration_epub_valid`: a spine without repeated resources (every valid EPUB)
is walked by the plain skip loop, so for it the declared list is the whole spine.
`epub_chapter_count_bounded`: at most one chapter per distinct resolved href, per archive
member and per spine entry.

PPTX: when the presentation declares nothing usable (`pptxDeclared … = some []`: no
`sldIdLst`, no relationship part, or no `r:id` with a target) the reader falls back to
file-name discovery; nothing is declared then, so the PPTX statements carry the
hypothesis that something is. `pptx_fallback_is_file_name_order` shows the fallback.
-/
namespace Tabula.C18
open Tabula.Package

/-- the docs of the PPTX example: 1 content types, 2 presentation with slide list
`[rB, rA]`, 3 relationships `rA ↦ slides/slide1.xml`, `rB ↦ slides/slide2.xml`,
11/12/19 slides -/
def exDocs : Docs := fun c =>
  if c = 2 then .presentation (some [[114, 66], [114, 65]])
  else if c = 3 then .rels [([114, 65], [115, 108, 105, 100, 101, 115, 47, 115, 108, 105, 100, 101, 49, 46, 120, 109, 108]),
      ([114, 66], [115, 108, 105, 100, 101, 115, 47, 115, 108, 105, 100, 101, 50, 46, 120, 109, 108])]
  else if c = 11 ∨ c = 12 ∨ c = 19 then .slide
  else .opaque

/-- ZIP order: slide1, slide9 (left over, undeclared), rels, slide2, presentation -/
def exArchive : Archive :=
  [(sCT, 1),
   ([112, 112, 116, 47, 115, 108, 105, 100, 101, 115, 47, 115, 108, 105, 100, 101, 49, 46, 120, 109, 108], 11),
   ([112, 112, 116, 47, 115, 108, 105, 100, 101, 115, 47, 115, 108, 105, 100, 101, 57, 46, 120, 109, 108], 19),
   (sPresRels, 3),
   ([112, 112, 116, 47, 115, 108, 105, 100, 101, 115, 47, 115, 108, 105, 100, 101, 50, 46, 120, 109, 108], 12),
   (sPres, 2)]

/-- XLSX: the `i`-th declared sheet `(name, r:id)`: relationship target, normalised,
looked up (with the `xl/` retry), kept when it is a worksheet -/
def xlsxSpecPart (a : Archive) (x : Docs) (rels : List (Str × Str)) (e : (Str × Str) × Nat) : Option SheetPart :=
  (xlsxRead (lookup a) (xlsxTarget rels e.2 e.1.2)).bind fun c =>
    if x c = .sheet then some (e.2, c, e.1.1) else none

/-- PPTX: the `i`-th declared slide path looked up, kept when it is a slide -/
def pptxSpecPart (a : Archive) (x : Docs) (e : Str × Nat) : Option SlidePart :=
  (lookup a e.1).bind fun c => if x c = .slide then some (e.2, c) else none

/-- EPUB: the `i`-th spine idref: manifest href, percent-decoded and joined to the
package directory, looked up -/
def epubSpecPart (a : Archive) (base : Str) (manifest : List (Str × Str)) (e : Str × Nat) : Option ChapterPart :=
  (chapterPath base manifest e.1).bind fun p => (lookup a p).map fun c => (e.2, c, p, e.1)

theorem parts_follow_declaration_xlsx (a : Archive) (x : Docs) (rels sheets : List (Str × Str))
    (h : xlsxDeclared (lookup a) x = some (rels, sheets)) :
    xlsxOpen a x =
      (let parts := sheets.zipIdx.filterMap (xlsxSpecPart a x rels)
       if parts = [] then none else some parts) := by
  unfold xlsxOpen xlsxOpenL
  rw [h]
  simp only [xlsxLoop, loopIdx_eq_filterMap, xlsxPart_eq_bind]
  rfl

theorem parts_follow_declaration_pptx (a : Archive) (x : Docs) (declared : List Str)
    (h : pptxDeclared (lookup a) x = some declared) (hne : declared ≠ []) :
    pptxOpen a x =
      (let parts := declared.zipIdx.filterMap (pptxSpecPart a x)
       if parts = [] then none else some parts) := by
  unfold pptxOpen pptxOpenL
  rw [h]
  simp only [hne, if_false, pptxLoop, loopIdx_eq_filterMap, pptxPart_eq_bind]
  rfl

/-- the per-entry step of the loop is the specification of one entry -/
theorem epubPart_eq_spec (a : Archive) (base : Str) (manifest : List (Str × Str)) :
    (fun e : Str × Nat => epubPart (lookup a) base manifest e.2 e.1) = epubSpecPart a base manifest :=
  funext fun _ => epubPart_eq_bind ..

/-- EPUB: the presented chapter list is the spine with later repetitions of an already listed
resource removed (`spineFirsts`: first occurrences of resolved hrefs, in spine order, original
positions), each entry resolved and looked up, unreadable entries dropped. For a spine without
repeated resources that list is `spine.zipIdx` itself (`parts_follow_declaration_epub_valid`). -/
theorem parts_follow_declaration_epub (a : Archive) (x : Docs) (base : Str) (manifest : List (Str × Str))
    (spine : List Str) (h : epubDeclared (lookup a) x = some (base, manifest, spine)) :
    epubOpen a x =
      (let parts := (spineFirsts base manifest spine).filterMap (epubSpecPart a base manifest)
       if parts = [] then none else some parts) := by
  unfold epubOpen epubOpenL
  rw [h]
  simp only [epubLoop_eq_spineFirsts, epubPart_eq_spec]

/-- the slide paths really are the slide list in its own order: one path per `sldId`
whose `r:id` has a target, nothing else, no reordering -/
theorem pptx_paths_follow_sldIdLst (ids : List Str) (rels : List (Str × Str)) :
    declaredSlidePaths (some ids) (some rels) = ids.filterMap (slidePath rels) := rfl

/-- The result does not depend on the ZIP member order: for EVERY permutation of the
member list (member names distinct). For PPTX this needs a declaration (the
file-name fallback breaks ties between equal slide numbers by archive position). -/
theorem archive_perm_invariant (a a' : Archive) (x : Docs)
    (hn : (a.map Prod.fst).Nodup) (hp : a.Perm a') :
    xlsxOpen a x = xlsxOpen a' x ∧ epubOpen a x = epubOpen a' x ∧
      (pptxDeclared (lookup a) x ≠ some [] → pptxOpen a x = pptxOpen a' x) := by
  have hl := lookup_perm_fun hn hp
  refine ⟨?_, ?_, ?_⟩
  · unfold xlsxOpen
    rw [hl]
  · unfold epubOpen
    rw [hl]
  · intro hd
    unfold pptxOpen pptxOpenL
    rw [← hl]
    cases h : pptxDeclared (lookup a) x with
    | none => rfl
    | some d =>
      have : d ≠ [] := fun e => hd (e ▸ h)
      simp only [this, if_false]

/-- non-vacuity: two distinct orders of the same members -/
example : ([([1], 1), ([2], 2)] : Archive).Perm [([2], 2), ([1], 1)] ∧
    (([([1], 1), ([2], 2)] : Archive).map Prod.fst).Nodup := by
  refine ⟨List.Perm.swap _ _ _, ?_⟩
  decide

/-- every name the XLSX reader asks the archive for -/
def xlsxConsulted (look : Str → Option Nat) (x : Docs) : List Str :=
  [sCT, sWorkbook, sXlRels, sXlRelsAlt] ++
    match xlsxDeclared look x with
    | none => []
    | some (rels, sheets) =>
      sheets.zipIdx.flatMap fun e => [xlsxTarget rels e.2 e.1.2, xlsxAlt (xlsxTarget rels e.2 e.1.2)]

/-- every name the PPTX reader asks for when slides are declared -/
def pptxConsulted (look : Str → Option Nat) (x : Docs) : List Str :=
  [sCT, sPres, sPresRels] ++
    match pptxDeclared look x with
    | none => []
    | some d => d

/-- every name the EPUB reader asks for -/
def epubConsulted (look : Str → Option Nat) (x : Docs) : List Str :=
  sContainer ::
    match parseContainer look x with
    | none => []
    | some opf => opf ::
      match parseOPF look x opf with
      | none => []
      | some (base, manifest, spine) => spine.filterMap (chapterPath base manifest)

theorem agree_of_avoid {a extra : Archive} {names : List Str}
    (h : ∀ m ∈ extra, m.1 ∉ names) : ∀ n ∈ names, lookup (a ++ extra) n = lookup a n := by
  intro n hn
  apply lookup_append_other
  intro hmem
  obtain ⟨m, hm, rfl⟩ := List.mem_map.mp hmem
  exact h m hm hn

/-- XLSX: the reader's result is determined by the lookups at the consulted names -/
theorem xlsxOpenL_congr (look look' : Str → Option Nat) (x : Docs)
    (h : ∀ n ∈ xlsxConsulted look x, look' n = look n) : xlsxOpenL look' x = xlsxOpenL look x := by
  unfold xlsxOpenL
  rw [xlsxDeclared_congr x fun n hn => h n (List.mem_append_left _ hn)]
  cases hD : xlsxDeclared look x with
  | none => rfl
  | some rs =>
    obtain ⟨rels, sheets⟩ := rs
    have hl : xlsxLoop look' x rels 0 sheets = xlsxLoop look x rels 0 sheets := by
      simp only [xlsxLoop, loopIdx_eq_filterMap]
      apply List.filterMap_congr
      intro e he
      have m1 : xlsxTarget rels e.2 e.1.2 ∈ xlsxConsulted look x := by
        simp only [xlsxConsulted, hD, List.mem_append, List.mem_flatMap]
        exact Or.inr ⟨e, he, by simp⟩
      have m2 : xlsxAlt (xlsxTarget rels e.2 e.1.2) ∈ xlsxConsulted look x := by
        simp only [xlsxConsulted, hD, List.mem_append, List.mem_flatMap]
        exact Or.inr ⟨e, he, by simp⟩
      simp only [xlsxPart, xlsxRead, h _ m1, h _ m2]
    simp only [hl]

/-- Members appended to the archive under names the declaration does not lead to (unreferenced
sheets, left-over parts, …) change nothing — XLSX. -/
theorem decoys_ignored_xlsx (a extra : Archive) (x : Docs)
    (h : ∀ m ∈ extra, m.1 ∉ xlsxConsulted (lookup a) x) : xlsxOpen (a ++ extra) x = xlsxOpen a x :=
  xlsxOpenL_congr (lookup a) (lookup (a ++ extra)) x (agree_of_avoid h)

theorem pptxOpenL_congr (look look' : Str → Option Nat) (names names' : List Str) (x : Docs)
    (hdecl : pptxDeclared look x ≠ some [])
    (h : ∀ n ∈ pptxConsulted look x, look' n = look n) : pptxOpenL look' names' x = pptxOpenL look names x := by
  unfold pptxOpenL
  rw [pptxDeclared_congr x fun n hn => h n (List.mem_append_left _ hn)]
  cases hD : pptxDeclared look x with
  | none => rfl
  | some d =>
    have hne : d ≠ [] := fun e => hdecl (e ▸ hD)
    have hl : pptxLoop look' x 0 d = pptxLoop look x 0 d := by
      simp only [pptxLoop]
      apply loopIdx_congr
      intro p hp j
      have m : p ∈ pptxConsulted look x := by
        simp only [pptxConsulted, hD, List.mem_append]
        exact Or.inr hp
      simp only [pptxPart, h _ m]
    simp only [hne, if_false, hl]

/-- PPTX: left-over `ppt/slides/slideN.xml` parts and any other member the slide list
does not lead to change nothing (given that the presentation declares its slides). -/
theorem decoys_ignored_pptx (a extra : Archive) (x : Docs)
    (hdecl : pptxDeclared (lookup a) x ≠ some [])
    (h : ∀ m ∈ extra, m.1 ∉ pptxConsulted (lookup a) x) : pptxOpen (a ++ extra) x = pptxOpen a x :=
  pptxOpenL_congr (lookup a) (lookup (a ++ extra)) _ _ x hdecl (agree_of_avoid h)

theorem epubOpenL_congr (look look' : Str → Option Nat) (x : Docs)
    (h : ∀ n ∈ epubConsulted look x, look' n = look n) : epubOpenL look' x = epubOpenL look x := by
  have h0 : look' sContainer = look sContainer := h _ (by simp [epubConsulted])
  have hc : parseContainer look' x = parseContainer look x := by
    unfold parseContainer
    rw [h0]
  unfold epubOpenL epubDeclared
  rw [hc]
  cases hC : parseContainer look x with
  | none => rfl
  | some opf =>
    have h1 : look' opf = look opf := h _ (by simp [epubConsulted, hC])
    have ho : parseOPF look' x opf = parseOPF look x opf := by
      unfold parseOPF
      rw [h1]
    simp only [ho]
    cases hO : parseOPF look x opf with
    | none => rfl
    | some t =>
      obtain ⟨base, manifest, spine⟩ := t
      have hl : epubLoop look' base manifest 0 spine = epubLoop look base manifest 0 spine := by
        unfold epubLoop
        apply epubLoopS_congr
        intro p hp
        have m : p ∈ epubConsulted look x := by
          simp only [epubConsulted, hC, hO, List.mem_cons]
          exact Or.inr (Or.inr hp)
        exact h _ m
      simp only [hl]

/-- EPUB: content documents that are not in the spine (whether or not the manifest
lists them), NCX, nav, CSS, other package documents: members under names the spine
does not lead to change nothing. -/
theorem decoys_ignored_epub (a extra : Archive) (x : Docs)
    (h : ∀ m ∈ extra, m.1 ∉ epubConsulted (lookup a) x) : epubOpen (a ++ extra) x = epubOpen a x :=
  epubOpenL_congr (lookup a) (lookup (a ++ extra)) x (agree_of_avoid h)

theorem eq_of_nonEmpty {α : Type} {l parts : List α}
    (h : (if l = [] then none else some l) = some parts) : parts = l := by
  split at h
  · cases h
  · cases h
    rfl

theorem count_is_declared_readable_xlsx (a : Archive) (x : Docs) (rels sheets : List (Str × Str))
    (parts : List SheetPart) (h : xlsxDeclared (lookup a) x = some (rels, sheets))
    (ho : xlsxOpen a x = some parts) :
    parts.length = sheets.zipIdx.countP (fun e => (xlsxSpecPart a x rels e).isSome) := by
  rw [parts_follow_declaration_xlsx a x rels sheets h] at ho
  rw [eq_of_nonEmpty ho, List.length_filterMap_eq_countP]

theorem count_is_declared_readable_pptx (a : Archive) (x : Docs) (declared : List Str)
    (parts : List SlidePart) (h : pptxDeclared (lookup a) x = some declared) (hne : declared ≠ [])
    (ho : pptxOpen a x = some parts) :
    parts.length = declared.zipIdx.countP (fun e => (pptxSpecPart a x e).isSome) := by
  rw [parts_follow_declaration_pptx a x declared h hne] at ho
  rw [eq_of_nonEmpty ho, List.length_filterMap_eq_countP]

/-- EPUB: the count is the number of readable entries of the spine with later repetitions of a
resource removed -/
theorem count_is_declared_readable_epub (a : Archive) (x : Docs) (base : Str) (manifest : List (Str × Str))
    (spine : List Str) (parts : List ChapterPart)
    (h : epubDeclared (lookup a) x = some (base, manifest, spine)) (ho : epubOpen a x = some parts) :
    parts.length = (spineFirsts base manifest spine).countP (fun e => (epubSpecPart a base manifest e).isSome) := by
  rw [parts_follow_declaration_epub a x base manifest spine h] at ho
  rw [eq_of_nonEmpty ho, List.length_filterMap_eq_countP]

/-- XLSX: something is a presented page iff it is the content of a declared entry (with
that entry's position as `Sheet.Index` and its declared name), resolved and readable.
Hence every declared readable part has its page and no page holds anything else. -/
theorem text_stays_in_its_page_xlsx (a : Archive) (x : Docs) (rels sheets : List (Str × Str))
    (parts : List SheetPart) (h : xlsxDeclared (lookup a) x = some (rels, sheets))
    (ho : xlsxOpen a x = some parts) (p : SheetPart) :
    p ∈ parts ↔ ∃ e ∈ sheets.zipIdx, xlsxSpecPart a x rels e = some p := by
  rw [parts_follow_declaration_xlsx a x rels sheets h] at ho
  rw [eq_of_nonEmpty ho, List.mem_filterMap]

theorem text_stays_in_its_page_pptx (a : Archive) (x : Docs) (declared : List Str)
    (parts : List SlidePart) (h : pptxDeclared (lookup a) x = some declared) (hne : declared ≠ [])
    (ho : pptxOpen a x = some parts) (p : SlidePart) :
    p ∈ parts ↔ ∃ e ∈ declared.zipIdx, pptxSpecPart a x e = some p := by
  rw [parts_follow_declaration_pptx a x declared h hne] at ho
  rw [eq_of_nonEmpty ho, List.mem_filterMap]

/-- EPUB: a presented chapter is the content of a spine entry that
lists its resource for the first time, and every such readable entry has its chapter
(`epub_no_resource_twice`: and no resource has two) -/
theorem text_stays_in_its_page_epub (a : Archive) (x : Docs) (base : Str) (manifest : List (Str × Str))
    (spine : List Str) (parts : List ChapterPart)
    (h : epubDeclared (lookup a) x = some (base, manifest, spine)) (ho : epubOpen a x = some parts)
    (p : ChapterPart) :
    p ∈ parts ↔ ∃ e ∈ spineFirsts base manifest spine, epubSpecPart a base manifest e = some p := by
  rw [parts_follow_declaration_epub a x base manifest spine h] at ho
  rw [eq_of_nonEmpty ho, List.mem_filterMap]

/-- **parts_follow_declaration** — for each format the presented part list is
`declared.filterMap (lookup archive ∘ resolve)` (non-empty, else `Open` fails); for EPUB
`declared` is the spine with later repetitions of a resource removed (`spineFirsts`). -/
theorem parts_follow_declaration (a : Archive) (x : Docs) :
    (∀ rels sheets, xlsxDeclared (lookup a) x = some (rels, sheets) →
      xlsxOpen a x = (let parts := sheets.zipIdx.filterMap (xlsxSpecPart a x rels)
                      if parts = [] then none else some parts)) ∧
    (∀ declared, pptxDeclared (lookup a) x = some declared → declared ≠ [] →
      pptxOpen a x = (let parts := declared.zipIdx.filterMap (pptxSpecPart a x)
                      if parts = [] then none else some parts)) ∧
    (∀ base manifest spine, epubDeclared (lookup a) x = some (base, manifest, spine) →
      epubOpen a x = (let parts := (spineFirsts base manifest spine).filterMap (epubSpecPart a base manifest)
                      if parts = [] then none else some parts)) :=
  ⟨parts_follow_declaration_xlsx a x, parts_follow_declaration_pptx a x, parts_follow_declaration_epub a x⟩

/-- **decoys_ignored** — members appended under names the declaration does not lead to change nothing. -/
theorem decoys_ignored (a extra : Archive) (x : Docs) :
    ((∀ m ∈ extra, m.1 ∉ xlsxConsulted (lookup a) x) → xlsxOpen (a ++ extra) x = xlsxOpen a x) ∧
    (pptxDeclared (lookup a) x ≠ some [] → (∀ m ∈ extra, m.1 ∉ pptxConsulted (lookup a) x) →
      pptxOpen (a ++ extra) x = pptxOpen a x) ∧
    ((∀ m ∈ extra, m.1 ∉ epubConsulted (lookup a) x) → epubOpen (a ++ extra) x = epubOpen a x) :=
  ⟨decoys_ignored_xlsx a extra x, decoys_ignored_pptx a extra x, decoys_ignored_epub a extra x⟩

/-- non-vacuity of `decoys_ignored` for PPTX: the left-over `ppt/slides/slide9.xml` of
`exArchive` is not consulted -/
example : ([112, 112, 116, 47, 115, 108, 105, 100, 101, 115, 47, 115, 108, 105, 100, 101, 57, 46, 120, 109, 108] : Str)
    ∉ pptxConsulted (lookup exArchive) exDocs := by decide +kernel

/-- **count_is_declared_readable** — the reported count is the number of declared
entries that resolve to a readable part. -/
theorem count_is_declared_readable (a : Archive) (x : Docs) :
    (∀ rels sheets parts, xlsxDeclared (lookup a) x = some (rels, sheets) → xlsxOpen a x = some parts →
      parts.length = sheets.zipIdx.countP (fun e => (xlsxSpecPart a x rels e).isSome)) ∧
    (∀ declared parts, pptxDeclared (lookup a) x = some declared → declared ≠ [] → pptxOpen a x = some parts →
      parts.length = declared.zipIdx.countP (fun e => (pptxSpecPart a x e).isSome)) ∧
    (∀ base manifest spine parts, epubDeclared (lookup a) x = some (base, manifest, spine) →
      epubOpen a x = some parts →
      parts.length = (spineFirsts base manifest spine).countP (fun e => (epubSpecPart a base manifest e).isSome)) :=
  ⟨fun rels sheets parts => count_is_declared_readable_xlsx a x rels sheets parts,
   fun declared parts => count_is_declared_readable_pptx a x declared parts,
   fun base manifest spine parts => count_is_declared_readable_epub a x base manifest spine parts⟩

/-- `resolveHref base (pctEncode p) = path.Join(base, p)` for every byte string `p`
(every byte, `+`, space, `%`, `/`, non-ASCII included) and every base. -/
theorem href_resolution (base p : Str) (hp : ∀ b ∈ p, b < 256) :
    resolveHref base (pctEncode p) = join2 base p := by
  unfold resolveHref
  rw [pathUnescape_pctEncode p hp]

/-- the same for the usual href spelling that leaves `/`, `+` and the other
sub-delimiters unescaped: a literal `+` stays a `+` (the B16 regression) -/
theorem href_resolution_literal_plus (base p : Str) (hp : ∀ b ∈ p, b < 256) :
    resolveHref base (pctEncodePath p) = join2 base p := by
  unfold resolveHref
  rw [pathUnescape_pctEncodePath p hp]

/-- non-vacuity and the shape of `join2`: `OEBPS` + `../x/./y.xhtml` is `x/y.xhtml`;
`c+1.xhtml` and `c%2B1.xhtml` both denote `OEBPS/c+1.xhtml`; with the package
document in the root `./c+1.xhtml` and `t/../c2` are normalised too. -/
example : join2 [79, 69, 66, 80, 83] [46, 46, 47, 120, 47, 46, 47, 121, 46, 120, 104, 116, 109, 108]
    = [120, 47, 121, 46, 120, 104, 116, 109, 108] := by decide +kernel
example : resolveHref [79, 69, 66, 80, 83] [99, 43, 49, 46, 120, 104, 116, 109, 108]
    = [79, 69, 66, 80, 83, 47, 99, 43, 49, 46, 120, 104, 116, 109, 108] := by decide +kernel
example : resolveHref [79, 69, 66, 80, 83] [99, 37, 50, 66, 49, 46, 120, 104, 116, 109, 108]
    = [79, 69, 66, 80, 83, 47, 99, 43, 49, 46, 120, 104, 116, 109, 108] := by decide +kernel
example : resolveHref [] [46, 47, 99, 43, 49, 46, 120, 104, 116, 109, 108]
    = [99, 43, 49, 46, 120, 104, 116, 109, 108] := by decide +kernel
example : resolveHref [] [116, 47, 46, 46, 47, 99, 50] = [99, 50] := by decide +kernel
example : pctEncode [97, 32, 98, 43] = [97, 37, 50, 48, 98, 37, 50, 66] := by decide +kernel

/-- slide2 comes first because the slide list says so, although slide1.xml has the
smaller number and the earlier ZIP position; the undeclared slide9.xml is not a slide -/
theorem pptx_declared_order_example : pptxOpen exArchive exDocs = some [(0, 12), (1, 11)] := by decide +kernel

/-- without a slide list (content id 2 is a presentation without `sldIdLst`) the reader falls
back to file-name discovery in slide-number order -/
theorem pptx_fallback_is_file_name_order :
    pptxOpen exArchive (fun c => if c = 2 then .presentation none else exDocs c)
      = some [(0, 11), (1, 12), (2, 19)] := by decide +kernel

/-- hypotheses of the PPTX theorems are satisfiable -/
example : pptxDeclared (lookup exArchive) exDocs
    = some [[112, 112, 116, 47, 115, 108, 105, 100, 101, 115, 47, 115, 108, 105, 100, 101, 50, 46, 120, 109, 108],
            [112, 112, 116, 47, 115, 108, 105, 100, 101, 115, 47, 115, 108, 105, 100, 101, 49, 46, 120, 109, 108]] := by decide +kernel

/-- XLSX: workbook declares `Two` (→ worksheets/sheet2.xml) before `One`
(→ /xl/worksheets/sheet1.xml); a left-over third sheet part is ignored -/
theorem xlsx_declared_order_example :
    xlsxOpen
      [(sCT, 1), ([120, 108, 47, 119, 111, 114, 107, 115, 104, 101, 101, 116, 115, 47, 115, 104, 101, 101, 116, 49, 46, 120, 109, 108], 11),
       (sWorkbook, 2), (sXlRels, 3),
       ([120, 108, 47, 119, 111, 114, 107, 115, 104, 101, 101, 116, 115, 47, 115, 104, 101, 101, 116, 50, 46, 120, 109, 108], 12),
       ([120, 108, 47, 119, 111, 114, 107, 115, 104, 101, 101, 116, 115, 47, 115, 104, 101, 101, 116, 51, 46, 120, 109, 108], 13)]
      (fun c =>
        if c = 2 then .workbook [([84, 119, 111], [114, 66]), ([79, 110, 101], [114, 65])]
        else if c = 3 then .rels [([114, 65], [47, 120, 108, 47, 119, 111, 114, 107, 115, 104, 101, 101, 116, 115, 47, 115, 104, 101, 101, 116, 49, 46, 120, 109, 108]),
            ([114, 66], [119, 111, 114, 107, 115, 104, 101, 101, 116, 115, 47, 115, 104, 101, 101, 116, 50, 46, 120, 109, 108])]
        else if c = 11 ∨ c = 12 ∨ c = 13 then .sheet else .opaque)
      = some [(0, 12, [84, 119, 111]), (1, 11, [79, 110, 101])] := by decide +kernel

/-- EPUB: package document `OEBPS/content.opf`; spine `[i2, i1]`; `i2 ↦ ch/c+1.xhtml`
(literal `+`), `i1 ↦ ch/../c%2B1.xhtml`-style detour is covered by `href_resolution`;
here `i1 ↦ c1`. A manifest item that is not in the spine (`i3`) is not a chapter. -/
theorem epub_declared_order_example :
    epubOpen
      [([79, 69, 66, 80, 83, 47, 99, 49], 11), (sContainer, 1),
       ([79, 69, 66, 80, 83, 47, 99, 104, 47, 99, 43, 49, 46, 120, 104, 116, 109, 108], 12),
       ([79, 69, 66, 80, 83, 47, 99, 50], 13),
       ([79, 69, 66, 80, 83, 47, 99, 111, 110, 116, 101, 110, 116, 46, 111, 112, 102], 2)]
      (fun c =>
        if c = 1 then .container [([79, 69, 66, 80, 83, 47, 99, 111, 110, 116, 101, 110, 116, 46, 111, 112, 102], sOebps)]
        else if c = 2 then .opf [([105, 49], [99, 49]), ([105, 50], [99, 104, 47, 99, 43, 49, 46, 120, 104, 116, 109, 108]),
            ([105, 51], [99, 50])] [[105, 50], [105, 49]]
        else .opaque)
      = some [(0, 12, [79, 69, 66, 80, 83, 47, 99, 104, 47, 99, 43, 49, 46, 120, 104, 116, 109, 108], [105, 50]),
              (1, 11, [79, 69, 66, 80, 83, 47, 99, 49], [105, 49])] := by decide +kernel

/-- the specification list entry by entry: `(idref, k)` is followed iff it is the `k`-th
spine entry, the manifest knows the idref, and no EARLIER spine entry resolves to the same
archive name — a statement about the declaration only -/
theorem mem_spineFirsts (base : Str) (manifest : List (Str × Str)) (spine : List Str) (e : Str × Nat) :
    e ∈ spineFirsts base manifest spine ↔
      spine[e.2]? = some e.1 ∧ ∃ p, chapterPath base manifest e.1 = some p ∧
        ∀ j r, j < e.2 → spine[j]? = some r → chapterPath base manifest r ≠ some p := by
  obtain ⟨r, k⟩ := e
  unfold spineFirsts
  rw [List.mem_filter, List.mk_mem_zipIdx_iff_getElem?]
  refine and_congr_right fun _ => ?_
  cases hcp : chapterPath base manifest r with
  | none => simp
  | some p =>
    simp only [decide_eq_true_eq, mem_filterMap_take, not_exists, not_and, Option.some.injEq, exists_eq_left', ne_eq]

/-- **(a) epub_no_resource_twice** — for EVERY archive and parse table: the archive names
of the presented chapters are pairwise distinct. No resource is a chapter twice, however
often and in whatever spelling the spine lists it. -/
theorem epub_no_resource_twice (a : Archive) (x : Docs) (parts : List ChapterPart)
    (ho : epubOpen a x = some parts) : (parts.map fun c => c.2.2.1).Nodup := by
  unfold epubOpen epubOpenL at ho
  cases hd : epubDeclared (lookup a) x with
  | none => simp [hd] at ho
  | some d =>
    obtain ⟨base, manifest, spine⟩ := d
    simp only [hd] at ho
    rw [eq_of_nonEmpty ho]
    exact (epubLoopS_paths (lookup a) base manifest [] 0 spine).2

/-- the same as a statement about pairs of chapters -/
theorem epub_no_resource_twice_pairwise (a : Archive) (x : Docs) (parts : List ChapterPart)
    (ho : epubOpen a x = some parts) : parts.Pairwise (fun c d => c.2.2.1 ≠ d.2.2.1) := by
  have := epub_no_resource_twice a x parts ho
  rw [List.Nodup, List.pairwise_map] at this
  exact this

/-- **(b) epub_unrepeated_spine_as_before** — when the spine lists no resource twice (the
resolved hrefs of its entries are pairwise distinct: every valid EPUB, EPUB 3 §3.4.13), the
loop of `loadChapters` is the plain skip loop over `epubPart` (the loop of `loadChapters` before c53b79e). -/
theorem epub_unrepeated_spine_as_before (look : Str → Option Nat) (base : Str) (manifest : List (Str × Str))
    (spine : List Str) (hnd : (spineHrefs base manifest spine).Nodup) :
    epubLoop look base manifest 0 spine = loopIdx (epubPart look base manifest) 0 spine :=
  epubLoopS_eq_loopIdx look base manifest [] 0 spine hnd (fun _ _ h => by cases h)

/-- hence, for such a spine, the presented list is the whole spine in its own order, each
entry resolved and looked up, unreadable entries dropped -/
theorem parts_follow_declaration_epub_valid (a : Archive) (x : Docs) (base : Str) (manifest : List (Str × Str))
    (spine : List Str) (h : epubDeclared (lookup a) x = some (base, manifest, spine))
    (hnd : (spineHrefs base manifest spine).Nodup) :
    epubOpen a x =
      (let parts := spine.zipIdx.filterMap (epubSpecPart a base manifest)
       if parts = [] then none else some parts) := by
  unfold epubOpen epubOpenL
  rw [h]
  simp only [epub_unrepeated_spine_as_before _ _ _ _ hnd, loopIdx_eq_filterMap, epubPart_eq_spec]

/-- … and the count and the page statements speak about the whole spine -/
theorem count_is_declared_readable_epub_valid (a : Archive) (x : Docs) (base : Str) (manifest : List (Str × Str))
    (spine : List Str) (parts : List ChapterPart)
    (h : epubDeclared (lookup a) x = some (base, manifest, spine))
    (hnd : (spineHrefs base manifest spine).Nodup) (ho : epubOpen a x = some parts) :
    parts.length = spine.zipIdx.countP (fun e => (epubSpecPart a base manifest e).isSome) := by
  rw [parts_follow_declaration_epub_valid a x base manifest spine h hnd] at ho
  rw [eq_of_nonEmpty ho, List.length_filterMap_eq_countP]

theorem text_stays_in_its_page_epub_valid (a : Archive) (x : Docs) (base : Str) (manifest : List (Str × Str))
    (spine : List Str) (parts : List ChapterPart)
    (h : epubDeclared (lookup a) x = some (base, manifest, spine))
    (hnd : (spineHrefs base manifest spine).Nodup) (ho : epubOpen a x = some parts) (p : ChapterPart) :
    p ∈ parts ↔ ∃ e ∈ spine.zipIdx, epubSpecPart a base manifest e = some p := by
  rw [parts_follow_declaration_epub_valid a x base manifest spine h hnd] at ho
  rw [eq_of_nonEmpty ho, List.mem_filterMap]

/-- for such a spine the specification list is the whole spine (entries the manifest does
not know aside: they are never chapters) -/
theorem spineFirsts_of_unrepeated (base : Str) (manifest : List (Str × Str)) (spine : List Str)
    (hnd : (spineHrefs base manifest spine).Nodup) :
    spineFirsts base manifest spine =
      spine.zipIdx.filter (fun e => (chapterPath base manifest e.1).isSome) := by
  unfold spineFirsts
  apply List.filter_congr
  intro ⟨r, k⟩ he
  cases hcp : chapterPath base manifest r with
  | none => rfl
  | some p => simp [not_mem_take_of_nodup _ spine hnd k r p (List.mk_mem_zipIdx_iff_getElem?.1 he) hcp]

/-- **(c) epub_chapter_count_bounded** — bounded output (the C02-relevant fact): the number
of chapters is at most the number of DISTINCT resolved hrefs of the spine, at most the
number of archive members, and at most the number of spine entries — whatever the
declaration repeats. -/
theorem epub_chapter_count_bounded (a : Archive) (x : Docs) (base : Str) (manifest : List (Str × Str))
    (spine : List Str) (parts : List ChapterPart)
    (h : epubDeclared (lookup a) x = some (base, manifest, spine)) (ho : epubOpen a x = some parts) :
    parts.length ≤ (spineHrefs base manifest spine).eraseDups.length ∧
      parts.length ≤ a.length ∧ parts.length ≤ spine.length := by
  have hnd := epub_no_resource_twice a x parts ho
  unfold epubOpen epubOpenL at ho
  simp only [h] at ho
  have hp := eq_of_nonEmpty ho
  have hpaths := (epubLoopS_paths (lookup a) base manifest [] 0 spine).1
  have hfound := epubLoopS_found (lookup a) base manifest [] 0 spine
  rw [← epubLoop, ← hp] at hpaths hfound
  refine ⟨?_, ?_, ?_⟩
  · have := hnd.length_le_of_subset (l₂ := (spineHrefs base manifest spine).eraseDups)
      (fun q hq => List.mem_eraseDups.mpr (hpaths q hq).2)
    simpa using this
  · have := hnd.length_le_of_subset (l₂ := a.map Prod.fst) (by
      intro q hq
      obtain ⟨c, hc, rfl⟩ := List.mem_map.mp hq
      exact List.mem_map.mpr ⟨(c.2.2.1, c.2.1), lookup_mem (hfound c hc), rfl⟩)
    simpa using this
  · rw [hp, epubLoop_eq_spineFirsts]
    refine Nat.le_trans (List.length_filterMap_le _ _) ?_
    unfold spineFirsts
    refine Nat.le_trans (List.length_filter_le _ _) ?_
    simp

/-- the general form of the first bound: at most one chapter per element of ANY list of names
that covers the resolved hrefs of the spine -/
theorem epub_chapter_count_le_cover (a : Archive) (x : Docs) (base : Str) (manifest : List (Str × Str))
    (spine : List Str) (parts : List ChapterPart) (names : List Str)
    (h : epubDeclared (lookup a) x = some (base, manifest, spine)) (ho : epubOpen a x = some parts)
    (hc : ∀ p ∈ spineHrefs base manifest spine, p ∈ names) : parts.length ≤ names.length := by
  have hnd := epub_no_resource_twice a x parts ho
  unfold epubOpen epubOpenL at ho
  simp only [h] at ho
  have hp := eq_of_nonEmpty ho
  have hpaths := (epubLoopS_paths (lookup a) base manifest [] 0 spine).1
  rw [← epubLoop, ← hp] at hpaths
  have := hnd.length_le_of_subset (l₂ := names) (fun q hq => hc q (hpaths q hq).2)
  simpa using this

/-- a package whose spine reaches resources several times, in all three ways: package
document `content.opf` in the root; manifest `i1 ↦ c1`, `i2 ↦ ./c1`, `i3 ↦ x/../c%31`
(three spellings of the member `c1`), `i4 ↦ c2`, `i5 ↦ gone`, `i6 ↦ ./gone` (no such
member); spine `[i1, i4, i2, i1, i5, i3, i6, i4]` -/
def exRArchive : Archive :=
  [([99, 50], 12), (sContainer, 1), ([99, 111, 110, 116, 101, 110, 116, 46, 111, 112, 102], 2), ([99, 49], 11)]

def exRManifest : List (Str × Str) :=
  [([105, 49], [99, 49]), ([105, 50], [46, 47, 99, 49]), ([105, 51], [120, 47, 46, 46, 47, 99, 37, 51, 49]),
   ([105, 52], [99, 50]), ([105, 53], [103, 111, 110, 101]), ([105, 54], [46, 47, 103, 111, 110, 101])]

def exRSpine : List Str := [[105, 49], [105, 52], [105, 50], [105, 49], [105, 53], [105, 51], [105, 54], [105, 52]]

def exRDocs : Docs := fun c =>
  if c = 1 then .container [([99, 111, 110, 116, 101, 110, 116, 46, 111, 112, 102], sOebps)]
  else if c = 2 then .opf exRManifest exRSpine
  else .opaque

/-- each resource once, at its first position: `c1` (spine position 0) and `c2` (position
1); the repetitions at positions 2, 3, 5, 7 are not chapters, and neither is the second
reference (position 6) to the missing `gone` (position 4) -/
theorem epub_repeated_resources_example :
    epubOpen exRArchive exRDocs = some [(0, 11, [99, 49], [105, 49]), (1, 12, [99, 50], [105, 52])] := by decide +kernel

theorem epub_repeated_resources_spec_example :
    spineFirsts [] exRManifest exRSpine = [([105, 49], 0), ([105, 52], 1), ([105, 53], 4)] ∧
      (spineHrefs [] exRManifest exRSpine).eraseDups = [[99, 49], [99, 50], [103, 111, 110, 101]] := by decide +kernel

/-- the plain skip loop (`loadChapters` before c53b79e) makes six chapters of the same package -/
theorem epub_repeated_resources_before_fix_example :
    (loopIdx (epubPart (lookup exRArchive) [] exRManifest) 0 exRSpine).map (fun c => (c.1, c.2.1))
      = [(0, 11), (1, 12), (2, 11), (3, 11), (5, 11), (7, 12)] := by decide +kernel

/-- satisfiability of the hypotheses of (a) and (c): the package above opens and is declared -/
example : (epubOpen exRArchive exRDocs).isSome ∧
    epubDeclared (lookup exRArchive) exRDocs = some ([], exRManifest, exRSpine) :=
  ⟨by rw [epub_repeated_resources_example]; rfl, by decide +kernel⟩

/-- satisfiability of the hypothesis of (b): the spine `[i2, i1]` of
`epub_declared_order_example` lists two different resources -/
example : (spineHrefs [79, 69, 66, 80, 83]
    [([105, 49], [99, 49]), ([105, 50], [99, 104, 47, 99, 43, 49, 46, 120, 104, 116, 109, 108]), ([105, 51], [99, 50])]
    [[105, 50], [105, 49]]).Nodup := by decide +kernel

/-- … and the spine of `exRDocs` does not satisfy it -/
example : ¬ (spineHrefs [] exRManifest exRSpine).Nodup := by decide +kernel

/-- satisfiability of `mem_spineFirsts`: `(i5, 4)` is followed, `(i3, 5)` is not -/
example : (([105, 53], 4) : Str × Nat) ∈ spineFirsts [] exRManifest exRSpine ∧
    (([105, 51], 5) : Str × Nat) ∉ spineFirsts [] exRManifest exRSpine := by decide +kernel

end Tabula.C18
