import TabulaModel.Props.C04Api
import TabulaModel.Model.XrefTrailer
import TabulaModel.Lemmas.XrefTrailerCalls
/-!
# C04 — the trailer of an opened file and the entry points that start from it

`MergeXRefTables` keeps the trailer of the last table, the tables are oldest first: the reader
works with the trailer of the NEWEST revision (the section `startxref` points at), whatever the
trailers of older revisions say. `GetCatalog` / `GetInfo` look their object up through
`GetObject`: they inherit "newest revision, in any access order" from it.
-/
namespace Tabula.C04T
open Tabula.XrefFile Tabula.Reader Tabula.XrefC Tabula.XrefR Tabula.XrefT Tabula.C04A

/-- **open_keeps_newest_trailer**: a file opens with a trailer exactly when it opens, and the
trailer is the one of the section at the `startxref` offset - the newest revision's; the merged
table is the one of `XrefFile.openFile` -/
theorem open_keeps_newest_trailer (ext : Reader.Ext) (file : List Nat) (x : RawSection) (tr : Dict) :
    openFileT ext file = .ok (x, tr) ↔
      openFile ext file = .ok x ∧ ∃ start sec, findXRef file = .ok start ∧ parseXRef ext file start = .ok (sec, tr) := by
  unfold openFileT
  constructor
  · intro h
    cases ho : openFile ext file with
    | error e => rw [ho] at h; cases h
    | ok x' =>
      rw [ho] at h
      dsimp only at h
      cases hf : findXRef file with
      | error e => rw [hf] at h; cases h
      | ok start =>
        rw [hf] at h
        dsimp only at h
        cases hp : parseXRef ext file start with
        | error e => rw [hp] at h; cases h
        | ok r =>
          obtain ⟨sec, tr'⟩ := r
          rw [hp] at h
          simp only [Except.ok.injEq, Prod.mk.injEq] at h
          obtain ⟨h1, h2⟩ := h
          subst h1 h2
          exact ⟨rfl, start, sec, rfl, hp⟩
  · rintro ⟨ho, start, sec, hf, hp⟩
    simp only [ho, hf, hp]

/-- every file that opens has a trailer: `Reader.Trailer()` is total on opened files -/
theorem open_has_trailer (ext : Reader.Ext) (file : List Nat) (x : RawSection) (h : openFile ext file = .ok x) :
    ∃ tr, openFileT ext file = .ok (x, tr) := by
  have h0 := h
  unfold openFile at h
  split at h
  · unfold loadXRef at h
    cases hf : findXRef file with
    | error e => rw [hf] at h; cases h
    | ok start =>
      rw [hf] at h
      dsimp only at h
      cases hp : parseXRef ext file start with
      | error e => rw [hp] at h; cases h
      | ok r => exact ⟨r.2, (open_keeps_newest_trailer ext file x r.2).2 ⟨h0, start, r.1, hf, hp⟩⟩
  · cases h

/-- the answer of one trailer call made alone on a freshly opened reader -/
def aloneT (ext : Reader.Ext) (keep : Bool) (file : List Nat) (x : RawSection) (tr : Dict) (op : TOp) : TAns :=
  (tstep (getTop ext keep file x) clearC tr ({} : RSt) op).1

theorem tstep_sim (ext : Reader.Ext) (keep : Bool) (file : List Nat) (x : RawSection) (tr : Dict) (st : RSt)
    (hst : CInv ext file x st) (op : TOp) :
    (tstep (getTop ext keep file x) clearC tr st op).1 = aloneT ext keep file x tr op ∧
      CInv ext file x (tstep (getTop ext keep file x) clearC tr st op).2 := by
  -- both the call on `st` and the call made alone answer what the call on the cache-free lookup answers
  have h := tstep_refines (getTop_sim ext keep file x) clearC (fun s _ => cinv_clear ext file x s) tr
  exact ⟨(h st hst op).1.trans (h {} (cinv_empty ext file x 0) op).1.symm, (h st hst op).2⟩

/-- **trailer_calls_history_free**: `GetCatalog`, `GetInfo`, `NumObjects`, `Trailer` mixed with
`GetObject` and `ClearCache` in any order, from any sound cache contents: every answer is the
answer of the same call made alone on a freshly opened reader -/
theorem trailer_calls_history_free (ext : Reader.Ext) (keep : Bool) (file : List Nat) (x : RawSection) (tr : Dict)
    (ops : List TOp) (st : RSt) (hst : CInv ext file x st) :
    trun (getTop ext keep file x) clearC tr st ops = ops.map (aloneT ext keep file x tr) := by
  induction ops generalizing st with
  | nil => rfl
  | cons op ops ih =>
    obtain ⟨h1, h2⟩ := tstep_sim ext keep file x tr st hst op
    simp only [trun, List.map_cons, h1, ih _ h2]

/-- … for a session on the bytes -/
theorem trailer_session_history_free (ext : Reader.Ext) (keep : Bool) (file : List Nat) (x : RawSection) (tr : Dict)
    (hopen : openFileT ext file = .ok (x, tr)) (ops : List TOp) :
    tsession ext keep file ops = .ok (ops.map (aloneT ext keep file x tr)) := by
  unfold tsession
  rw [hopen]
  dsimp only
  rw [trailer_calls_history_free ext keep file x tr ops {} (cinv_empty ext file x 0)]

/-- **catalog_is_newest_root**: `GetCatalog` is the dictionary `GetObject` of a fresh reader
yields for the object `/Root` of the newest trailer names (by number; the generation of the
reference is not looked at), an error when `/Root` is missing or no reference, or the object is
missing, free, a stream or no dictionary -/
theorem catalog_is_newest_root (ext : Reader.Ext) (keep : Bool) (file : List Nat) (x : RawSection) (tr : Dict) :
    aloneT ext keep file x tr .catalog =
      .val (match dget tr kRoot with
            | some (.ref n _) =>
              (match getObjectB ext file x (maxNestedLoads + 1) [] n with
               | some (.obj (.dict kv)) => some (ofObj (.dict kv))
               | _ => none)
            | _ => none) := by
  rw [aloneT, (tstep_refines (getTop_sim ext keep file x) clearC (fun s _ => cinv_clear ext file x s) tr {}
    (cinv_empty ext file x 0) .catalog).1]
  simp only [tstep, getCatalog_eq, pureGet, fresh]
  cases dget tr kRoot with
  | none => rfl
  | some o =>
    cases o <;> rfl

/-- satisfiable: `NumObjects` of `<< /Size 6 >>` is 6, of a trailer without `/Size` 0 -/
example : numObjects [(kSize, .int 6)] = 6 := by decide
example : numObjects [] = 0 := by decide

end Tabula.C04T
