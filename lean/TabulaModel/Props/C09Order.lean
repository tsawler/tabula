import TabulaModel.Props.C09
import TabulaModel.Model.LayoutOrder
import TabulaModel.Lemmas.LayoutOrder
/-!
# C09, second layer — the reading order and the text paths built on it, as closed functions

`Props/C09.lean` proves conservation for the ByColumn path with the section order and the line
order as arbitrary permutations (hypotheses `horder`, `hreorder`). Here `orderSections`,
`reorderLinesByY`, `buildSections`, `(*ReadingOrderDetector).Detect`, the separator rule of
`extractByColumn`, `GetParagraphs`, `assembleParagraphText`, `ParagraphLayout.GetText` and
`extractWithParagraphs` (with its two fall-backs) are modelled as the code has them
(`Model/LayoutOrder.lean`), and the theorems have NO hypotheses on the heuristics: they hold for every fragment
list, every gap list, every tolerance function, every stream-order decision, every direction,
every spanning decision and every paragraph break decision.
-/
namespace Tabula.C09Order
open Tabula.Layout List

/-! ## detect_lines_assigns_once -/

/-- `NewLineDetector().Detect(fs)`: every fragment with visible text is in exactly one line of
the RESULT (after the `MinLineWidth` filter), counted with multiplicity — the clause "each input
fragment is assigned to exactly one line" for the detector as a whole, for every tolerance and
every stream-order decision. (A fragment of white space only may be dropped with its line:
`C09.buildLines_keeps`.) -/
theorem detect_lines_assigns_once (tol minW : Rat) (preserve : List Frag → Bool) (fs : List Frag) (f : Frag)
    (hv : visible f.text = true) :
    ((detectLines tol minW preserve fs).map (List.count f)).sum = fs.count f := by
  rw [← List.count_flatten]
  exact (detectLines_keeps tol minW preserve fs).count_eq hv

example : visible ([97] : Str) = true := by decide

/-- `NewParagraphDetector().DetectFromFragments(fs)`: the paragraphs are consecutive pieces of
the detected lines and their texts show the non-space characters of the fragments -/
theorem paragraphs_from_fragments_conserve (tol minW : Rat) (preserve : List Frag → Bool)
    (brk : List (List Frag) → List Frag → List (List Frag) → Bool) (fs : List Frag) :
    (detectParagraphs brk (detectLines tol minW preserve fs)).flatten = detectLines tol minW preserve fs ∧
    (nonspace (paragraphLayoutText (detectParagraphs brk (detectLines tol minW preserve fs)))).Perm
      (nonspace (textsOf fs)) := by
  refine ⟨detectParagraphs_flatten _ _, ?_⟩
  rw [nonspace_paragraphLayoutText, detectParagraphs_flatten]
  exact detectLines_nonspace tol minW preserve fs

/-! ## reading_order_partition -/

/-- `ReadingOrderResult.Fragments` is a permutation of the input: nothing is lost, invented or
repeated by building and ordering the sections. -/
theorem reading_order_partition (gaps : List Gap) (minCW minW : Rat) (isSpan keep : List Frag → List Frag → Bool)
    (tolOf : List Frag → Rat) (preserve : List Frag → Bool) (rtl : Bool) (fs : List Frag) :
    (readingOrder gaps minCW minW isSpan keep tolOf preserve rtl fs).fragments.Perm fs :=
  readingOrder_fragments_perm

/-- every fragment is in exactly one section (counted with multiplicity) -/
theorem reading_order_sections_count (gaps : List Gap) (minCW minW : Rat)
    (isSpan keep : List Frag → List Frag → Bool) (tolOf : List Frag → Rat) (preserve : List Frag → Bool)
    (rtl : Bool) (fs : List Frag) (f : Frag) :
    (((readingOrder gaps minCW minW isSpan keep tolOf preserve rtl fs).sections.map
      fun s => s.frags.count f).sum) = fs.count f := by
  rw [← (reading_order_partition gaps minCW minW isSpan keep tolOf preserve rtl fs).count_eq f,
    readingOrder_fragments_eq, List.count_flatMap]
  rfl

/-- the sections of a reading order come from the section builder: each one's lines show the
non-space characters of its own fragments -/
theorem reading_order_section_lines (gaps : List Gap) (minCW minW : Rat)
    (isSpan keep : List Frag → List Frag → Bool) (tolOf : List Frag → Rat) (preserve : List Frag → Bool)
    (rtl : Bool) (fs : List Frag) :
    ∀ s ∈ (readingOrder gaps minCW minW isSpan keep tolOf preserve rtl fs).sections,
      (nonspace (textsOf s.lines.flatten)).Perm (nonspace (textsOf s.frags)) := by
  intro s hs
  obtain ⟨sp, frs, rfl⟩ := mem_readingOrder_sections hs
  exact (mkSection_keeps _ _ _ _ _).nonspace

/-- `ReadingOrderResult.Lines`: the lines of the reading order show exactly the non-space
characters of the input fragments -/
theorem reading_order_lines_conserve (gaps : List Gap) (minCW minW : Rat)
    (isSpan keep : List Frag → List Frag → Bool) (tolOf : List Frag → Rat) (preserve : List Frag → Bool)
    (rtl : Bool) (fs : List Frag) :
    (nonspace (textsOf (readingOrder gaps minCW minW isSpan keep tolOf preserve rtl fs).lines.flatten)).Perm
      (nonspace (textsOf fs)) :=
  readingOrder_lines_keeps.nonspace

/-- the reading order as a whole: every fragment with visible text is in exactly one of its
lines (counted with multiplicity), for every outcome of every heuristic -/
theorem reading_order_lines_assign_once (gaps : List Gap) (minCW minW : Rat)
    (isSpan keep : List Frag → List Frag → Bool) (tolOf : List Frag → Rat) (preserve : List Frag → Bool)
    (rtl : Bool) (fs : List Frag) (f : Frag) (hv : visible f.text = true) :
    ((readingOrder gaps minCW minW isSpan keep tolOf preserve rtl fs).lines.map (List.count f)).sum = fs.count f := by
  rw [← List.count_flatten]
  exact readingOrder_lines_keeps.count_eq hv

/-- the line texts (`Line.Text`, what `Lines()` of the reading order shows) -/
theorem reading_order_line_texts_conserve (gaps : List Gap) (minCW minW : Rat)
    (isSpan keep : List Frag → List Frag → Bool) (tolOf : List Frag → Rat) (preserve : List Frag → Bool)
    (rtl : Bool) (fs : List Frag) :
    (nonspace (((readingOrder gaps minCW minW isSpan keep tolOf preserve rtl fs).lines.map lineText).flatten)).Perm
      (nonspace (textsOf fs)) := by
  rw [← lineTexts_nonspace']
  exact reading_order_lines_conserve gaps minCW minW isSpan keep tolOf preserve rtl fs

/-- the reading order of a non-empty page has at least one section: the fall-back of
`extractByColumn` to `assembleText` is taken only for an empty column layout -/
theorem reading_order_sections_nonempty (gaps : List Gap) (minCW minW : Rat)
    (isSpan keep : List Frag → List Frag → Bool) (tolOf : List Frag → Rat) (preserve : List Frag → Bool)
    (rtl : Bool) (fs : List Frag) (hne : fs ≠ []) :
    (readingOrder gaps minCW minW isSpan keep tolOf preserve rtl fs).sections ≠ [] := by
  intro h
  have hp := reading_order_partition gaps minCW minW isSpan keep tolOf preserve rtl fs
  rw [readingOrder_fragments_eq, h] at hp
  exact hne hp.symm.eq_nil

example : ([⟨0, 72, 700, 30, 10, 10, [97]⟩] : List Frag) ≠ [] := by simp

/-! ## bycolumn_conserves -/

/-- `extractByColumn` given any reading order whose sections' lines keep the fragments -/
theorem byColumnOf_conserves (fs : List Frag) (ro : ReadingOrder)
    (h : Keeps (ro.sections.flatMap (·.lines)).flatten fs) :
    (nonspace (byColumnOf fs ro)).Perm (nonspace (textsOf fs)) := by
  unfold byColumnOf
  split
  · next he => rw [List.isEmpty_iff.mp he]; exact List.Perm.refl _
  · split
    · exact C09.assemble_conserves fs
    · rw [nonspace_sectionsTextAux]
      exact h.nonspace

/-- END TO END, `Open(f).ByColumn().Text()` for one page (after deduplication): for every
fragment list and every outcome of every heuristic the text has exactly the non-space characters
of the fragments. No hypothesis about the order of sections or lines: `orderSections` and
`reorderLinesByY` are the modelled code. -/
theorem bycolumn_conserves (gaps : List Gap) (minCW minW : Rat) (isSpan keep : List Frag → List Frag → Bool)
    (tolOf : List Frag → Rat) (preserve : List Frag → Bool) (rtl : Bool) (fs : List Frag) :
    (nonspace (extractByColumn gaps minCW minW isSpan keep tolOf preserve rtl fs)).Perm (nonspace (textsOf fs)) := by
  unfold extractByColumn
  exact byColumnOf_conserves _ _ (readingOrder_lines_eq ▸ readingOrder_lines_keeps)

/-- composed with the one sanctioned removal -/
theorem bycolumn_pipeline_conserves (gaps : List Gap) (minCW minW : Rat)
    (isSpan keep : List Frag → List Frag → Bool) (tolOf : List Frag → Rat) (preserve : List Frag → Bool)
    (rtl : Bool) (raw : List Frag) :
    (nonspace (extractByColumn gaps minCW minW isSpan keep tolOf preserve rtl (dedupe raw))).Perm
      (nonspace (textsOf (dedupe raw))) :=
  bycolumn_conserves gaps minCW minW isSpan keep tolOf preserve rtl (dedupe raw)

/-! ## paragraphs of the reading order -/

/-- `(*ReadingOrderResult).GetParagraphs`: the paragraphs are consecutive pieces of the lines of
the reading order, in order — with one section as with many, for every break decision. -/
theorem ro_paragraphs_segment (gaps : List Gap) (minCW minW : Rat) (isSpan keep : List Frag → List Frag → Bool)
    (tolOf : List Frag → Rat) (preserve : List Frag → Bool) (rtl : Bool)
    (brkOf : List (List Frag) → List (List Frag) → List Frag → List (List Frag) → Bool) (fs : List Frag) :
    (roParagraphs brkOf (readingOrder gaps minCW minW isSpan keep tolOf preserve rtl fs)).flatten =
      (readingOrder gaps minCW minW isSpan keep tolOf preserve rtl fs).lines :=
  roParagraphs_flatten brkOf _ readingOrder_lines_eq

/-- no paragraph of the reading order is empty -/
theorem ro_paragraphs_nonempty (brkOf : List (List Frag) → List (List Frag) → List Frag → List (List Frag) → Bool)
    (ro : ReadingOrder) : ∀ p ∈ roParagraphs brkOf ro, p ≠ [] := by
  intro p hp
  unfold roParagraphs at hp
  split at hp
  · simp at hp
  · split at hp
    · exact segment_nonempty _ _ [] p hp
    · rcases List.mem_flatMap.mp hp with ⟨s, _, h⟩
      exact segment_nonempty _ _ [] p h

/-- `Paragraph.Text` (`assembleParagraphText`): the text of a paragraph has exactly the non-space
characters of its lines, hyphen rule included -/
theorem paragraph_text_conserves (p : List (List Frag)) :
    nonspace (paragraphText p) = nonspace (textsOf p.flatten) := nonspace_paragraphText p

/-- `Open(f).Paragraphs()` for one page / `ReadingOrderResult.GetParagraphs().GetText()`: the
paragraph texts of the reading order show exactly the non-space characters of the fragments. -/
theorem ro_paragraphs_conserve (gaps : List Gap) (minCW minW : Rat) (isSpan keep : List Frag → List Frag → Bool)
    (tolOf : List Frag → Rat) (preserve : List Frag → Bool) (rtl : Bool)
    (brkOf : List (List Frag) → List (List Frag) → List Frag → List (List Frag) → Bool) (fs : List Frag) :
    (nonspace (paragraphLayoutText
      (roParagraphs brkOf (readingOrder gaps minCW minW isSpan keep tolOf preserve rtl fs)))).Perm
      (nonspace (textsOf fs)) := by
  rw [nonspace_paragraphLayoutText, ro_paragraphs_segment]
  exact reading_order_lines_conserve gaps minCW minW isSpan keep tolOf preserve rtl fs

/-! ## joinparagraphs_conserves -/

/-- `extractWithParagraphs` given a reading order whose lines conserve the fragments -/
theorem withParagraphsOf_conserves
    (brkOf : List (List Frag) → List (List Frag) → List Frag → List (List Frag) → Bool)
    (tolOf : List Frag → Rat) (minW : Rat) (preserve : List Frag → Bool) (fs : List Frag) (ro : ReadingOrder)
    (hl : (nonspace (textsOf ro.lines.flatten)).Perm (nonspace (textsOf fs))) :
    (nonspace (withParagraphsOf brkOf tolOf minW preserve fs ro)).Perm (nonspace (textsOf fs)) := by
  unfold withParagraphsOf
  by_cases hE : fs.isEmpty = true
  · rw [if_pos hE, List.isEmpty_iff.mp hE]; exact List.Perm.refl _
  · rw [if_neg hE]
    simp only
    by_cases hL : (if (!ro.lines.isEmpty) = true then ro.lines else detectLines (tolOf fs) minW preserve fs).isEmpty = true
    · rw [if_pos hL]; exact C09.assemble_conserves fs
    · rw [if_neg hL, nonspace_withParagraphsText, detectParagraphs_flatten]
      split
      · exact hl
      · exact detectLines_nonspace _ _ _ _

/-- END TO END, `Open(f).JoinParagraphs().Text()` for one page (after deduplication), both
fall-backs included: for every fragment list and every outcome of every heuristic the text has
exactly the non-space characters of the fragments. -/
theorem joinparagraphs_conserves (gaps : List Gap) (minCW minW : Rat) (isSpan keep : List Frag → List Frag → Bool)
    (tolOf : List Frag → Rat) (preserve : List Frag → Bool) (rtl : Bool)
    (brkOf : List (List Frag) → List (List Frag) → List Frag → List (List Frag) → Bool) (fs : List Frag) :
    (nonspace (extractWithParagraphs gaps minCW minW isSpan keep tolOf preserve rtl brkOf fs)).Perm
      (nonspace (textsOf fs)) := by
  unfold extractWithParagraphs
  exact withParagraphsOf_conserves _ _ _ _ _ _
    (reading_order_lines_conserve gaps minCW minW isSpan keep tolOf preserve rtl fs)

/-! ## witnesses: the functions do something -/

/-- a spanning title above two columns sorts before them; the columns left to right, or right
to left -/
example : sectionLess false ⟨true, [⟨0, 150, 700, 200, 14, 14, [84]⟩], []⟩ ⟨false, [⟨1, 72, 600, 100, 10, 10, [97]⟩], []⟩ = true ∧
    sectionLess false ⟨false, [⟨1, 72, 600, 100, 10, 10, [97]⟩], []⟩ ⟨false, [⟨2, 320, 600, 100, 10, 10, [98]⟩], []⟩ = true ∧
    sectionLess true ⟨false, [⟨1, 72, 600, 100, 10, 10, [97]⟩], []⟩ ⟨false, [⟨2, 320, 600, 100, 10, 10, [98]⟩], []⟩ = false := by
  decide +kernel

/-- one jump back of 100 pt in a line of three fragments keeps the stream order -/
example : preserveGo [⟨0, 300, 700, 30, 10, 10, [97]⟩, ⟨1, 200, 700, 30, 10, 10, [98]⟩, ⟨2, 240, 700, 30, 10, 10, [99]⟩] = true ∧
    preserveGo [⟨0, 200, 700, 30, 10, 10, [97]⟩, ⟨1, 240, 700, 30, 10, 10, [98]⟩, ⟨2, 300, 700, 30, 10, 10, [99]⟩] = false := by
  decide +kernel

/-- the hyphen rule: no blank after a line that ends in "-" -/
example : paragraphText [[⟨0, 0, 20, 10, 10, 10, [97, 45]⟩], [⟨1, 0, 8, 10, 10, 10, [98]⟩], [⟨2, 0, 0, 10, 10, 10, [99]⟩]]
    = [97, 45, 98, 32, 99] := by decide +kernel

end Tabula.C09Order
