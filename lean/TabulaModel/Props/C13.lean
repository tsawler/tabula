import TabulaModel.Lemmas.Split
import TabulaModel.Lemmas.SplitBoundaries
import TabulaModel.Lemmas.SplitBound
import TabulaModel.Lemmas.Overlap
import TabulaModel.Lemmas.OverlapGenerate
/-!
# C13 — Splitting respects the size limit and never corrupts text

Property theorems about `Model/Split.lean` (`SizeCalculator.SplitToSize` and the split
point search of `rag/size_config.go`) and `Model/Overlap.lean` (`rag/overlap.go`), both
modelled as the code is after the C13 fixes (branch `agent-C13`).  Helper lemmas:
`Lemmas/Split.lean` (whitespace, TrimSpace, decomposition into gaps and pieces),
`Lemmas/Utf8.lean`, `Lemmas/Aligned.lean` and `Lemmas/SplitBoundaries.lean` (character
boundaries), `Lemmas/SplitBound.lean` (size bound), `Lemmas/Overlap.lean`,
`Lemmas/OverlapChar.lean`, `Lemmas/OverlapGenerate.lean`.
-/
set_option linter.unusedVariables false
namespace Tabula.C13
open Tabula.Split Tabula.Overlap

/-- **split_terminates.** `splitToSize` is defined by well-founded recursion on the length of
`remaining`; Lean accepting the definition *is* the termination proof.  This theorem is the
decrease it rests on: whenever the loop continues (`0 < splitPos`), the next `remaining`
(`strings.TrimSpace(remaining[splitPos:])`) is strictly shorter — for every text and every
split position, whatever the size configuration. -/
theorem split_terminates (remaining : Str) (splitPos : Nat) (h0 : 0 < splitPos)
    (hne : remaining ≠ []) : (trimSpace (remaining.drop splitPos)).length < remaining.length := by
  have h1 := trimSpace_length_le (remaining.drop splitPos)
  have h2 : 0 < remaining.length := List.length_pos_iff.mpr hne
  simp only [List.length_drop] at h1
  omega

/-- the loop equation that the accepted definition satisfies (one iteration of the Go loop) -/
theorem split_loop_equation (c : SizeConfig) (remaining : Str) (bs : List Boundary) :
    splitToSize c remaining bs =
      if remaining.length = 0 then []
      else if !isAboveMax c remaining then [remaining]
      else
        let splitPos := findSplitPointAt c remaining bs c.maxValue c.maxUnit
        if splitPos = 0 ∨ splitPos ≥ remaining.length then [remaining]
        else
          let chunk := trimSpace (remaining.take splitPos)
          let rest := trimSpace (remaining.drop splitPos)
          let bs' := adjustBoundaryPositions bs (splitPos + leadingSpace (remaining.drop splitPos))
          if chunk = [] then splitToSize c rest bs'
          else chunk :: splitToSize c rest bs' := by
  rw [splitToSize]
  simp only [dite_eq_ite]

/-- no piece is empty … -/
theorem split_pieces_nonempty (c : SizeConfig) (text : Str) (bs : List Boundary) :
    ∀ p ∈ splitToSize c text bs, p ≠ [] :=
  splitToSize_forall (Inv := fun _ _ => True) (fun _ _ _ _ hne _ _ => hne)
    (fun _ _ _ _ _ _ _ _ => ⟨trivial, id⟩) text bs trivial

/-- **split_conserves.** For every text (any bytes), every size configuration (all five
units, any limit, any tokens-per-char) and any list of semantic boundaries: the pieces
returned by `SplitToSize` are, in order, disjoint substrings of the text, and every gap
between them, before the first and after the last consists of White_Space characters only
(`Pieces`, `WsOnly` in `Lemmas/Split.lean`): nothing but whole White_Space characters is dropped.
The character-level form is `C13Api.split_conserves_characters` (no boundaries) and
`C13Api.split_nonspace_of_valid_pieces`; a supplied boundary inside a multi-byte White_Space
character leaves its two halves in the pieces. -/
theorem split_conserves (c : SizeConfig) (text : Str) (bs : List Boundary) :
    Pieces text (splitToSize c text bs) :=
  splitToSize_pieces c text bs

/-- … so there are at most `len(text)` pieces -/
theorem split_piece_count (c : SizeConfig) (text : Str) (bs : List Boundary) :
    (splitToSize c text bs).length ≤ text.length := by
  have h1 := (split_conserves c text bs).length_le
  have h2 : ∀ ps : List Str, (∀ p ∈ ps, p ≠ []) → ps.length ≤ (ps.map List.length).sum := by
    intro ps
    induction ps with
    | nil => simp
    | cons p ps ih =>
      intro hp
      have : 0 < p.length := List.length_pos_iff.mpr (hp p (List.mem_cons_self ..))
      have := ih (fun q hq => hp q (List.mem_cons_of_mem _ hq))
      simp only [List.length_cons, List.map_cons, List.sum_cons]
      omega
  exact Nat.le_trans (h2 _ (split_pieces_nonempty c text bs)) h1

/-- conservation through `ChunkDocumentWithConfig` on a page of paragraphs: the chunk texts
are, in order, disjoint substrings of the accumulated block text with whitespace-only gaps -/
theorem doc_conserves (c : SizeConfig) (paras : List Str) :
    Pieces (joinParagraphs paras) (docChunks c paras) := by
  rw [docChunks_eq]
  exact (split_conserves c _ []).map_trimSpace

/-- non-vacuity: a Japanese sentence split at 10 bytes: three pieces, nothing lost -/
example :
    let c : SizeConfig := { maxValue := 10, maxUnit := .characters, tpcNum := 1, tpcDen := 4, sem := true }
    let text : Str := [0xE6,0x97,0xA5, 0xE6,0x9C,0xAC, 0xE8,0xAA,0x9E, 0x20, 0xE3,0x81,0xAE, 0xE6,0x96,0x87, 0xE7,0xAB,0xA0,
      0xE3,0x81,0xAF, 0xE7,0xA9,0xBA]
    splitToSize c text [] =
      [[0xE6,0x97,0xA5, 0xE6,0x9C,0xAC, 0xE8,0xAA,0x9E], [0xE3,0x81,0xAE, 0xE6,0x96,0x87, 0xE7,0xAB,0xA0],
       [0xE3,0x81,0xAF, 0xE7,0xA9,0xBA]] := by decide +kernel

/-- **split_utf8.** If the text is valid UTF-8 then every piece of `SplitToSize(text, nil)` is
valid UTF-8, for every size configuration (multi-byte characters are never cut). -/
theorem split_utf8 (c : SizeConfig) (text : Str) (hv : validUtf8 text = true) :
    ∀ p ∈ splitToSize c text [], validUtf8 p = true :=
  splitToSize_valid_aligned c text [] (boundariesAligned_nil text) hv

/-- every split point is a scalar boundary: both sides of the cut are valid UTF-8 -/
theorem split_point_boundary (c : SizeConfig) (text : Str) (hv : validUtf8 text = true)
    (limit : Nat) (unit : SizeUnit) :
    validUtf8 (text.take (findSplitPointAt c text [] limit unit)) = true
      ∧ validUtf8 (text.drop (findSplitPointAt c text [] limit unit)) = true :=
  valid_cut hv (notCovered_findSplitPointAt c text limit unit)

/-- the same through `ChunkDocumentWithConfig` -/
theorem doc_utf8 (c : SizeConfig) (paras : List Str) (hv : validUtf8 (joinParagraphs paras) = true) :
    ∀ p ∈ docChunks c paras, validUtf8 p = true :=
  valid_of_flatMap_illFormed (reads_docChunks reads_illFormed c paras) hv

/-- non-vacuity: valid CJK text, limit 4 bytes (not a multiple of 3): pieces are whole characters -/
example :
    let c : SizeConfig := { maxValue := 4, maxUnit := .characters, tpcNum := 1, tpcDen := 4, sem := true }
    let text : Str := [0xE6,0x97,0xA5, 0xE6,0x9C,0xAC, 0xE8,0xAA,0x9E]
    validUtf8 text = true ∧
      splitToSize c text [] = [[0xE6,0x97,0xA5], [0xE6,0x9C,0xAC], [0xE8,0xAA,0x9E]] := by decide +kernel

/-- **split_bound.** Hard maximum in characters or estimated tokens, `M ≥ 200`, at most 4 tokens
per byte (so that `M` tokens are at least 50 bytes), a space at least every 50 bytes
(`Spaced`): every piece of `SplitToSize(text, nil)` has size `≤ M` in the unit of the maximum. -/
theorem split_bound (c : SizeConfig) (text : Str)
    (hunit : c.maxUnit = .characters ∨ c.maxUnit = .tokens)
    (hM : 200 ≤ c.maxValue)
    (hratio : c.ratio.1 ≤ 4 * c.ratio.2)
    (hsp : Spaced text) :
    ∀ p ∈ splitToSize c text [], getSize c p c.maxUnit ≤ c.maxValue := by
  intro p hp
  rcases splitToSize_length_bound c text hsp (targetPos_ge_50 hunit hM hratio) p hp with h | h
  · exact getSize_le_of_length_le hunit h
  · exact h

/-- non-vacuity: "word " × 60 at 200 characters satisfies the hypotheses and is split in two -/
example :
    (exampleConfig.maxUnit = .characters ∨ exampleConfig.maxUnit = .tokens)
    ∧ 200 ≤ exampleConfig.maxValue ∧ exampleConfig.ratio.1 ≤ 4 * exampleConfig.ratio.2
    ∧ Spaced exampleText
    ∧ (splitToSize exampleConfig exampleText []).map List.length = [199, 99] :=
  ⟨Or.inl rfl, by decide, by decide, spaced_exampleText, splitToSize_exampleText_lengths⟩

/-- **overlap_bounds.** For every strategy, size and text the overlap `GenerateOverlap` returns
has at most `MaxOverlap` bytes; with the character strategy (and `Size ≤ MaxOverlap`, as in
`ChunkWithOverlapEnabled` where `MaxOverlap = 3·Size`) at most `Size` bytes. -/
theorem overlap_bounds (cl : Classes) (c : OverlapConfig) (text : Str) :
    (generateOverlap cl c text).length ≤ c.maxOverlap
      ∧ (c.strategy = 1 → c.size ≤ c.maxOverlap → (generateOverlap cl c text).length ≤ c.size) := by
  refine ⟨generateOverlap_length_le cl c text, ?_⟩
  intro hs hle
  rcases generateOverlap_character cl c text hs hle with e | e <;> rw [e]
  · exact Nat.zero_le _
  · exact generateCharacterOverlap_length_le_size c text

/-- … and so has every `OverlapPrefix` that `ApplyOverlapToChunks` produces -/
theorem overlap_bounds_chunks (cl : Classes) (c : OverlapConfig) (texts titles : List Str) :
    ∀ o ∈ applyOverlapToChunks cl c texts titles, o.pref.length ≤ c.maxOverlap := by
  intro o ho
  obtain ⟨i, hi⟩ := List.getElem?_of_mem ho
  rw [applyOverlapToChunks, applyOverlapAux_get] at hi
  obtain ⟨it, -, rfl⟩ := Option.map_eq_some_iff.mp hi
  rw [outOf_pref]
  exact overlapFrom_length_le cl c _

/-- **overlap source** (the repaired defect): the overlap prepended to chunk `i+1` is computed
from the ORIGINAL text of chunk `i` — its own content — not from a text that already carries
an overlap prefix. -/
theorem overlap_source (cl : Classes) (c : OverlapConfig) (items : List (Str × Str)) (i : Nat)
    (hi : i + 1 < items.length) :
    ((applyOverlapAux cl c none items)[i + 1]?).map (·.pref)
      = some (overlapFrom cl c (items[i]?.map (·.1))) := by
  have := applyOverlapAux_pref cl c none items (i + 1) hi
  simpa [prevText] using this

/-- **overlap_suffix_partial.** Character strategy: the overlap is a suffix of the previous
chunk's own content up to trailing whitespace — `text = a ++ overlap ++ r` with `r` whitespace
only.  The sentence and paragraph strategies re-join trimmed sentences/paragraphs with single
separators, so for them only the statement about non-whitespace characters holds: the
overlap's are a suffix of those of the previous chunk's own content, for every strategy
(`C13Overlap.overlap_suffix`; oracle `C13/overlap-suffix`). -/
theorem overlap_suffix_partial (cl : Classes) (c : OverlapConfig) (text : Str)
    (hs : c.strategy = 1) (hle : c.size ≤ c.maxOverlap) :
    ∃ a r, WsOnly r ∧ text = a ++ generateOverlap cl c text ++ r := by
  rcases generateOverlap_character cl c text hs hle with e | e <;> rw [e]
  · exact ⟨text, [], .nil, by simp⟩
  · exact generateCharacterOverlap_suffix c text

/-- **overlap_utf8_partial.** Character strategy: the overlap of a valid UTF-8 chunk is valid
UTF-8 (it starts on a character boundary and whole characters are skipped).  The sentence and
paragraph strategies and the sentence branch of `truncateOverlap` (decode/encode of runes and
the class tables) are in `C13Overlap.overlap_utf8`; oracle `C13/overlap-utf8`. -/
theorem overlap_utf8_partial (cl : Classes) (c : OverlapConfig) (text : Str)
    (hs : c.strategy = 1) (hle : c.size ≤ c.maxOverlap) (hv : validUtf8 text = true) :
    validUtf8 (generateOverlap cl c text) = true := by
  rcases generateOverlap_character cl c text hs hle with e | e <;> rw [e]
  · exact validUtf8_nil
  · exact valid_generateCharacterOverlap c text hv

/-- non-vacuity (and the former defect's witness): "堀" is E5 A0 80; a 2-byte character overlap
of "ab 堀" used to start at the continuation byte 0x80.  Now it is empty or whole. -/
example :
    let c : OverlapConfig := { strategy := 1, size := 2, minOverlap := 0, maxOverlap := 6, preserveWords := false, includeHeadingContext := false }
    validUtf8 [97, 98, 32, 0xE5, 0xA0, 0x80] = true
      ∧ generateOverlap [] c [97, 98, 32, 0xE5, 0xA0, 0x80] = [] := by decide +kernel

example :
    let c : OverlapConfig := { strategy := 1, size := 4, minOverlap := 0, maxOverlap := 12, preserveWords := true, includeHeadingContext := false }
    generateOverlap [] c [97, 98, 32, 0xE5, 0xA0, 0x80] = [0xE5, 0xA0, 0x80] := by decide +kernel

end Tabula.C13
