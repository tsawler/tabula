import TabulaModel.Lemmas.PackagePath
import TabulaModel.Props.C18Api
/-!
# C18 — what the resolution functions compute on ordinary paths

`Props/C18.lean` states resolution through the models of `path.Join` / `path.Clean`
(`join2`, `clean`). Here those are evaluated on paths made of plain segments (not empty,
not `.`/`..`, no `/`), so that the statements read in terms of the package itself:

* a manifest href `a/b.xhtml` of a package document in `OEBPS` is the member
  `OEBPS/a/b.xhtml` (`href_resolution_plain`), `../x` climbs one directory
  (`href_resolution_dotdot`), with the package document in the root it is the path itself;
* a slide relationship target `slides/s.xml` is the member `ppt/slides/s.xml`;
* the relationship part of the slide `dir/base` is `dir/_rels/base.rels`, and the notes
  target `../notesSlides/n.xml` of a slide in `ppt/slides` is `ppt/notesSlides/n.xml`;
  composed with the lookup: `notes_found_conventional`.
-/
namespace Tabula.C18Path
open Tabula.Package Tabula.PackageApi Tabula.C18 Tabula.C18Api

/-- **href_resolution_plain** — a manifest href that spells (percent-encoded, path style) the
relative path `r₁/…/rₙ` denotes, for a package document in directory `b₁/…/bₘ`, the member
`b₁/…/bₘ/r₁/…/rₙ`. -/
theorem href_resolution_plain (bs rs : List Str) (hb : bs ≠ []) (hr : rs ≠ [])
    (hpb : ∀ s ∈ bs, Plain s) (hpr : ∀ s ∈ rs, Plain s) (hby : Bytes rs) :
    resolveHref (joinSlash bs) (pctEncodePath (joinSlash rs)) = joinSlash bs ++ 47 :: joinSlash rs := by
  rw [href_resolution_literal_plus _ _ (joinSlash_bytes rs hby)]
  exact join2_plain bs rs hb hr hpb hpr

/-- the same with the package document in the archive root -/
theorem href_resolution_root (rs : List Str) (hr : rs ≠ []) (hpr : ∀ s ∈ rs, Plain s) (hby : Bytes rs) :
    resolveHref [] (pctEncodePath (joinSlash rs)) = joinSlash rs := by
  rw [href_resolution_literal_plus _ _ (joinSlash_bytes rs hby)]
  exact join2_nil_plain rs hr hpr

/-- **href_resolution_dotdot** — `../r₁/…/rₙ` from a package document in `b₁/…/bₘ/d` denotes
`b₁/…/bₘ/r₁/…/rₙ`. -/
theorem href_resolution_dotdot (bs : List Str) (d : Str) (rs : List Str) (hr : rs ≠ [])
    (hpb : ∀ s ∈ bs, Plain s) (hd : Plain d) (hpr : ∀ s ∈ rs, Plain s) (hby : Bytes rs) :
    resolveHref (joinSlash (bs ++ [d])) (pctEncodePath (joinSlash (sDotDot :: rs))) = joinSlash (bs ++ rs) := by
  have hby' : Bytes (sDotDot :: rs) := by
    intro s hs
    rcases List.mem_cons.mp hs with e | hs
    · rw [e]
      decide
    · exact hby s hs
  rw [href_resolution_literal_plus _ _ (joinSlash_bytes _ hby')]
  exact join2_dotdot bs d rs hr hpb hd hpr

/-- non-vacuity: `OEBPS` + `text/c+1.xhtml` -/
example : (∀ s ∈ ([[79, 69, 66, 80, 83]] : List Str), Plain s) ∧
    (∀ s ∈ ([[116, 101, 120, 116], [99, 43, 49, 46, 120, 104, 116, 109, 108]] : List Str), Plain s) ∧
    Bytes [[116, 101, 120, 116], [99, 43, 49, 46, 120, 104, 116, 109, 108]] := by
  refine ⟨?_, ?_, ?_⟩
  · intro s hs
    simp only [List.mem_singleton] at hs
    subst hs
    exact ⟨by decide, by decide, by decide, by decide⟩
  · intro s hs
    simp only [List.mem_cons, List.not_mem_nil, or_false] at hs
    rcases hs with hs | hs <;> subst hs <;> exact ⟨by decide, by decide, by decide, by decide⟩
  · intro s hs
    simp only [List.mem_cons, List.not_mem_nil, or_false] at hs
    rcases hs with hs | hs <;> subst hs <;> decide

/-- **pptx_slide_target_plain** — a `sldId` whose relationship target spells the relative
path `t₁/…/tₙ` denotes the member `ppt/t₁/…/tₙ`. -/
theorem pptx_slide_target_plain (rels : List (Str × Str)) (rid : Str) (ts : List Str) (ht : ts ≠ [])
    (hpt : ∀ s ∈ ts, Plain s) (h : mapLast rels rid = joinSlash ts) :
    slidePath rels rid = some (sPpt ++ 47 :: joinSlash ts) := by
  have hne := joinSlash_ne_nil ts ht (fun s hs => (hpt s hs).1)
  have hp := not_hasPrefix_slash (joinSlash_head ts ht hpt)
  unfold slidePath
  simp only [h, hne, if_false, hp, Bool.false_eq_true]
  have : join2 sPpt (joinSlash ts) = joinSlash [sPpt] ++ 47 :: joinSlash ts :=
    join2_plain [sPpt] ts (by simp) ht (by
      intro s hs
      rw [List.mem_singleton.mp hs]
      exact ⟨by decide, by decide, by decide, by decide⟩) hpt
  rw [this]
  rfl

/-- **slide_rels_part_location** — the relationship part of the slide `dir/base` is
`dir/_rels/base.rels` (OPC part 2 §8.3.4), for a slide in any directory of plain segments (not in the package root). -/
theorem slide_rels_part_location (ds : List Str) (b : Str) (hd : ds ≠ []) (hpd : ∀ s ∈ ds, Plain s) (hb : Plain b) :
    slideRelsPath (joinSlash (ds ++ [b])) = joinSlash (ds ++ [sRelsDir, b ++ sRelsExt]) :=
  slideRelsPath_plain ds b hd hpd hb

/-- **notes_target_conventional** — the target `../t₁/…/tₙ` in the relationship part of a
slide stored in `d₁/…/dₘ/d` denotes `d₁/…/dₘ/t₁/…/tₙ` (from `ppt/slides`,
`../notesSlides/notesSlide3.xml` is `ppt/notesSlides/notesSlide3.xml`). -/
theorem notes_target_conventional (ds : List Str) (d : Str) (ts : List Str) (ht : ts ≠ [])
    (hpd : ∀ s ∈ ds, Plain s) (hd : Plain d) (hpt : ∀ s ∈ ts, Plain s) :
    notesResolved (joinSlash (ds ++ [d])) (joinSlash (sDotDot :: ts)) = joinSlash (ds ++ ts) := by
  have hp := not_hasPrefix_slash (joinSlash_cons_head (s := sDotDot) ts (by decide) (by decide)).2
  unfold notesResolved
  simp only [hp, Bool.false_eq_true, if_false]
  exact join2_dotdot ds d ts ht hpd hd hpt

/-- **notes_found_conventional** — composition: a slide stored as `d₁/…/dₘ/d/base` whose
relationship part `d₁/…/dₘ/d/_rels/base.rels` has as its first `notesSlide` relationship
the target `../t₁/…/tₙ`, in an archive where `d₁/…/dₘ/t₁/…/tₙ` is a notes slide, carries
exactly that notes part. -/
theorem notes_found_conventional (a : Archive) (x : Docs) (ds : List Str) (d b : Str) (ts : List Str)
    (rc c : Nat) (rs : List (Str × Str × Str))
    (ht : ts ≠ []) (hpd : ∀ s ∈ ds, Plain s) (hd : Plain d) (hb : Plain b) (hpt : ∀ s ∈ ts, Plain s)
    (hrel : lookup a (joinSlash (ds ++ [d] ++ [sRelsDir, b ++ sRelsExt])) = some rc)
    (hrs : x rc = .relsT rs) (htar : notesTarget rs = joinSlash (sDotDot :: ts))
    (hn : lookup a (joinSlash (ds ++ ts)) = some c) (hc : x c = .notes) :
    slideNotes (lookup a) x (joinSlash (ds ++ [d] ++ [b])) = some c := by
  have hpdd : ∀ s ∈ ds ++ [d], Plain s := plain_append hpd (by simpa using hd)
  have hrp := slideRelsPath_plain (ds ++ [d]) b (by simp) hpdd hb
  have hdir := pathDir_plain (ds ++ [d]) b (by simp) hpdd hb.2.2.2
  have hne : joinSlash (sDotDot :: ts) ≠ [] := by
    cases ts with
    | nil => exact absurd rfl ht
    | cons t r => simp [joinSlash, sDotDot]
  rw [slideNotes_spec]
  refine ⟨rs, ?_, ?_, ?_, hc⟩
  · unfold slideRels
    rw [hrp, hrel]
    simp only [hrs]
    rfl
  · rw [htar]
    exact hne
  · unfold notesLookup
    rw [hdir, htar, notes_target_conventional ds d ts ht hpd hd hpt]
    simp only [hn]

/-- non-vacuity of `notes_found_conventional`: the deck `exArchiveN` of `Props/C18Api.lean`
(`ds = [ppt]`, `d = slides`, `base = slide1.xml`, target `../notesSlides/notesSlide7.xml`) -/
example :
    let ds : List Str := [sPpt]
    let d : Str := [115, 108, 105, 100, 101, 115]
    let b : Str := [115, 108, 105, 100, 101, 49, 46, 120, 109, 108]
    let ts : List Str := [[110, 111, 116, 101, 115, 83, 108, 105, 100, 101, 115],
      [110, 111, 116, 101, 115, 83, 108, 105, 100, 101, 55, 46, 120, 109, 108]]
    lookup exArchiveN (joinSlash (ds ++ [d] ++ [sRelsDir, b ++ sRelsExt])) = some 21 ∧
    (∃ rs, exDocsN 21 = .relsT rs ∧ notesTarget rs = joinSlash (sDotDot :: ts)) ∧
    lookup exArchiveN (joinSlash (ds ++ ts)) = some 37 ∧ exDocsN 37 = .notes ∧
    slideNotes (lookup exArchiveN) exDocsN (joinSlash (ds ++ [d] ++ [b])) = some 37 := by
  refine ⟨by decide +kernel, ⟨_, rfl, by decide +kernel⟩, by decide +kernel, by decide +kernel, by decide +kernel⟩

end Tabula.C18Path
