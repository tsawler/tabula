import TabulaModel.Lemmas.A1Ref
import TabulaModel.Lemmas.A1Case
import TabulaModel.Lemmas.Sheet
/-!
# C17 — Spreadsheet cells land at their addressed grid position
-/
namespace Tabula.C17
open Tabula.A1 Tabula.Sheet

/-- `ColumnToIndex (IndexToColumn n) = n` for every column index within the bound the code
enforces since the fix "ColumnToIndex rejects column letters that overflow": column numbers
(index + 1) up to `maxColumnNumber` = 2^40. -/
theorem col_bijection_index (n : Nat) (hb : n + 1 ≤ maxColumnNumber) :
    columnToIndex (indexToColumn (n : Int)) = (n : Int) := by
  rw [indexToColumn_natCast, columnToIndex_toColAux, if_pos hb]

/-- beyond the bound the code answers the error value -1 for the letters of every index -/
theorem col_index_beyond_bound (n : Nat) (hb : maxColumnNumber < n + 1) :
    columnToIndex (indexToColumn (n : Int)) = -1 := by
  rw [indexToColumn_natCast, columnToIndex_toColAux, if_neg (by omega)]

/-- non-vacuity, at the bound from both sides: index 2^40 - 1 (the last one converted) and 2^40 -/
example : (1099511627775 : Nat) + 1 ≤ maxColumnNumber ∧ maxColumnNumber < (1099511627776 : Nat) + 1 := by decide

/-- `ColumnToIndex` of an upper-case letter string is its bijective base-26 number
minus one if that number is at most `maxColumnNumber`, and the error value -1 beyond -/
theorem col_to_index_spec (s : Str) (hs : IsUpperCol s) :
    columnToIndex s = if colNumber s ≤ maxColumnNumber then (colNumber s : Int) - 1 else -1 := by
  unfold columnToIndex
  rw [(colAcc_upper s hs).1]
  by_cases h : colNumber s ≤ maxColumnNumber <;> simp [h]

/-- `IndexToColumn (ColumnToIndex s) = s` for every non-empty upper-case letter string whose
column number is within the bound (`colNumber s ≤ 2^40`; `colNumber_short`: every string of up
to eight letters).  Beyond the bound: `col_string_beyond_bound`. -/
theorem col_bijection_string (s : Str) (hs : IsUpperCol s) (hne : s ≠ [])
    (hb : colNumber s ≤ maxColumnNumber) :
    indexToColumn (columnToIndex s) = s :=
  indexToColumn_columnToIndex s hs hb

/-- beyond the bound the code answers the error value -/
theorem col_string_beyond_bound (s : Str) (hs : IsUpperCol s) (hb : maxColumnNumber < colNumber s) :
    columnToIndex s = -1 := by
  rw [col_to_index_spec s hs]
  have : ¬ colNumber s ≤ maxColumnNumber := by omega
  simp [this]

/-- strings of up to eight letters are within the bound, so the bijection holds for them with no
hypothesis on the column number -/
theorem col_bijection_string_short (s : Str) (hs : IsUpperCol s) (hne : s ≠ []) (hlen : s.length ≤ 8) :
    indexToColumn (columnToIndex s) = s :=
  indexToColumn_columnToIndex s hs (colNumber_short s hs hlen)

/-- non-vacuity: "XFD" is within the bound; "CRPXNLSKVLJFHH" (fourteen letters) is beyond it -/
example : IsUpperCol [88, 70, 68] ∧ [88, 70, 68] ≠ [] ∧ colNumber [88, 70, 68] ≤ maxColumnNumber := by
  refine ⟨?_, by simp, by decide⟩
  intro c hc; simp at hc; omega
example : maxColumnNumber < colNumber [67, 82, 80, 88, 78, 76, 83, 75, 86, 76, 74, 70, 72, 72] := by decide

/-- lower-case spellings denote the same column (the `strings.ToUpper` in the code) -/
theorem col_case_insensitive (s : Str) : columnToIndex (s.map upper) = columnToIndex s := by
  unfold columnToIndex
  rw [colAcc_map_upper]

/-- `ParseCellRef (CellRef col row)` for every non-negative pair with the row in int64 range:
the pair back if the column number is within `maxColumnNumber`, the "invalid column" error
beyond (the column letters are handed to `ColumnToIndex`) -/
theorem parse_cellref (col row : Nat) (hrow : row + 1 ≤ maxInt64) :
    parseCellRef (cellRef (col : Int) (row : Int)) =
      if col + 1 ≤ maxColumnNumber then .ok ((col : Int), (row : Int)) else .error .badCol := by
  rw [parseCellRef_cellRef _ _ (by omega) (by omega), if_neg (by omega)]
  by_cases hb : col + 1 ≤ maxColumnNumber
  · rw [if_neg (by omega), if_neg (by omega), if_pos hb]
  · rw [if_pos (by omega), if_neg hb]

/-- `ParseCellRef (CellRef col row) = (col,row)` for every non-negative pair with the row in
int64 range and the column number within the bound `ColumnToIndex` enforces (2^40). -/
theorem cellref_roundtrip (col row : Nat) (hcol : col + 1 ≤ maxColumnNumber) (hrow : row + 1 ≤ maxInt64) :
    parseCellRef (cellRef (col : Int) (row : Int)) = .ok ((col : Int), (row : Int)) := by
  rw [parse_cellref col row hrow]; simp [hcol]

/-- beyond the column bound the printed reference is an invalid reference -/
theorem cellref_beyond_bound (col row : Nat) (hcol : maxColumnNumber < col + 1) (hrow : row + 1 ≤ maxInt64) :
    parseCellRef (cellRef (col : Int) (row : Int)) = .error .badCol := by
  rw [parse_cellref col row hrow]
  have : ¬ col + 1 ≤ maxColumnNumber := by omega
  simp [this]

/-- non-vacuity: XFD1048576 (column 16383, row 1048575) is within both bounds -/
example : (16383 : Nat) + 1 ≤ maxColumnNumber ∧ (1048575 : Nat) + 1 ≤ maxInt64 := by decide

/-- **placement**: after the second pass, position `(r,c)` of the grid holds exactly the
result of the writes whose row attribute and reference column name `(r,c)`, applied in
source order (so the last writer wins), and is untouched by every other cell. -/
theorem placement (shared : List Str) (rows : List RowXML) (g0 : Grid) (r c : Nat) :
    (rows.foldl (placeRow shared) g0).get r c =
      (g0.get r c).map fun cell =>
        ((writes g0.length rows).filter fun w => w.1 = r ∧ w.2.1 = c).foldl
          (fun cell w => cellContent shared w.2.2 cell) cell := by
  rw [placeRows_eq_writes, get_foldl_applyWrite]

/-- a position no cell addresses stays empty -/
theorem unaddressed_empty (shared : List Str) (rows : List RowXML) (g0 : Grid) (r c : Nat)
    (h : ∀ w ∈ writes g0.length rows, ¬ (w.1 = r ∧ w.2.1 = c)) :
    (rows.foldl (placeRow shared) g0).get r c = g0.get r c := by
  rw [placement]
  have : ((writes g0.length rows).filter fun w => w.1 = r ∧ w.2.1 = c) = [] := by
    rw [List.filter_eq_nil_iff]
    intro w hw
    simpa using h w hw
  rw [this]
  simp

/-- **text_line_field**: in the tab-separated text of a sheet, line `r` / field `c` is exactly
the displayed text of grid cell `(r,c)` — for every grid whose cell texts contain no tab or
newline (the property's proviso). -/
theorem text_line_field (g : Grid) (hg : g ≠ []) (hrows : ∀ row ∈ g, row ≠ [])
    (hclean : ∀ row ∈ g, ∀ cell ∈ row, 9 ∉ cellText cell ∧ 10 ∉ cellText cell) (r c : Nat) :
    ((splitOn 10 (sheetText g))[r]?).bind (fun line => (splitOn 9 line)[c]?) =
      (g.get r c).map cellText :=
  splitOn_table cellText 9 (by decide) g hg hrows hclean r c

/-- **merge_root_only**: after the merge pass for a region, every covered cell keeps its value
field but is marked merged, is a root exactly if it is the region's top-left (or was a root
already), and — unless it is a root — shows nothing in the text output, whatever value the
file put there. -/
theorem merge_root_only (g : Grid) (m : Region) (r c : Nat) (cell : Cell)
    (hin : (m.sr ≤ r ∧ r ≤ m.er) ∧ (m.sc ≤ c ∧ c ≤ m.ec)) (hcell : g.get r c = some cell) :
    ∃ cell', (applyRegion g m).get r c = some cell' ∧ cell'.value = cell.value ∧ cell'.merged = true ∧
      (cell'.root = true ↔ (r = m.sr ∧ c = m.sc) ∨ cell.root = true) ∧
      ((¬ (r = m.sr ∧ c = m.sc) ∧ cell.root = false) → cellText cell' = []) := by
  have hm := get_foldl_marks m (regionCells m) g r c
  rw [hcell, decide_eq_true ((mem_regionCells m r c).mpr hin)] at hm
  obtain ⟨cell', hget, h1, _, h3, h4⟩ := map_marksOf_eq_some hm
  simp only [CellMarks.mark, marksOf, Bool.or_true, Bool.true_and] at h1 h3 h4
  refine ⟨cell', hget, h1, h3, by rw [h4]; simp [or_comm], ?_⟩
  intro ⟨hnr, hcr⟩
  unfold cellText
  rw [h3, h4, hcr, decide_eq_false hnr]
  rfl

/-- non-vacuity: a two-row sheet written out of order, B2 then A1 -/
example :
    let rows : List RowXML :=
      [⟨2, [⟨[66, 50], tStr, [120], [], none⟩]⟩, ⟨1, [⟨[65, 49], tStr, [121], [], none⟩]⟩]
    let g := parseWorksheet [] rows []
    (g.get 1 1).map (·.value) = some [120] ∧ (g.get 0 0).map (·.value) = some [121]
      ∧ (g.get 0 1).map (·.value) = some [] := by decide

end Tabula.C17
