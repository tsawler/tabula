import TabulaModel.Props.C15
import TabulaModel.Lemmas.MarkdownRag
/-!
# C15 — the Markdown writer of the PDF pipeline (rag chunks)

`createListChunk` (the list emitter named in the property's anchors) and the heading of a chunk.
-/
namespace Tabula.C15Rag
open Tabula.A1 (Str dec decInt)
open Tabula.Markdown Tabula.MarkdownDoc

theorem ragListItems_lines (ordered : Bool) (items : List (Int × Str)) :
    ∀ (ctrs : Ctr) (last : Int),
      ragListItems ordered items ctrs last = joinLines (ragListLines ordered items ctrs last) := by
  induction items with
  | nil => intro _ _; rfl
  | cons it rest ih =>
    intro ctrs last
    obtain ⟨lvl, txt⟩ := it
    cases ordered with
    | false => simp [ragListItems, ragListLines, joinLines_cons, ih]
    | true => simp [ragListItems, ragListLines, joinLines_cons, ih]

/-- every line `createListChunk` writes is a list item line whose depth is the item's level
(negative levels count as 0), whose kind is the list's kind and whose text is the item's text —
for any levels in any order, any number of items, from any state of the level counters in which
no counter is negative (`ctrNN`).  (The
lines as the loop writes them; `rag_list_roundtrip` is the statement on the chunk text.) -/
theorem rag_list_lines_roundtrip (ordered : Bool) (items : List (Int × Str)) :
    ∀ (ctrs : Ctr) (last : Int), ctrNN ctrs →
      (ragListLines ordered items ctrs last).map parseListLine
        = items.map fun it => some (it.1.toNat, ordered, it.2) := by
  induction items with
  | nil => intro _ _ _; rfl
  | cons it rest ih =>
    intro ctrs last hnn
    obtain ⟨pre, c', e, _, h⟩ := ragListLines_cons ordered it.1 it.2 rest ctrs last
    obtain ⟨hnn', num, hline⟩ := h hnn
    rw [e, List.map_cons, List.map_cons, ih c' it.1 hnn', hline, parseListLine_listLine]

/-- the written lines of a whole list (counters empty, no item before) -/
theorem rag_list_written_lines_roundtrip (ordered : Bool) (items : List (Int × Str)) :
    (ragListLines ordered items [] (-1)).map parseListLine
      = items.map fun it => some (it.1.toNat, ordered, it.2) :=
  rag_list_lines_roundtrip ordered items [] (-1) (by intro e he; simp at he)

example : (ragListLines true [(0, [97]), (1, [98]), (1, [99]), (0, [100])] [] (-1)).map parseListLine
    = [some (0, true, [97]), some (1, true, [98]), some (1, true, [99]), some (0, true, [100])] :=
  rag_list_written_lines_roundtrip _ _

/-- a written line holds no newline when the item texts hold none -/
theorem ragListLines_noNl (ordered : Bool) (items : List (Int × Str)) (h : ∀ it ∈ items, 10 ∉ it.2) :
    ∀ (ctrs : Ctr) (last : Int), ∀ l ∈ ragListLines ordered items ctrs last, 10 ∉ l := by
  induction items with
  | nil => intro _ _ l hl; cases hl
  | cons it rest ih =>
    intro ctrs last l hl
    obtain ⟨pre, c', e, hpre, _⟩ := ragListLines_cons ordered it.1 it.2 rest ctrs last
    rw [e] at hl
    rcases List.mem_cons.mp hl with rfl | hl
    · exact fun hm => (List.mem_append.mp hm).elim hpre (h it (by simp))
    · exact ih (fun x hx => h x (List.mem_cons_of_mem _ hx)) _ _ l hl

/-- the line of the last item ends with that item's text -/
theorem ragListLines_snoc (ordered : Bool) (items : List (Int × Str)) (lastIt : Int × Str) :
    ∀ (ctrs : Ctr) (last : Int), ∃ (L : List Str) (pre : Str),
      ragListLines ordered (items ++ [lastIt]) ctrs last = L ++ [pre ++ lastIt.2] := by
  induction items with
  | nil =>
    intro ctrs last
    obtain ⟨pre, c', e, _, _⟩ := ragListLines_cons ordered lastIt.1 lastIt.2 [] ctrs last
    exact ⟨[], pre, e⟩
  | cons it rest ih =>
    intro ctrs last
    obtain ⟨pre, c', e, _, _⟩ := ragListLines_cons ordered it.1 it.2 (rest ++ [lastIt]) ctrs last
    obtain ⟨L, pre', h⟩ := ih c' it.1
    exact ⟨(pre ++ it.2) :: L, pre', by rw [List.cons_append, e, h]; rfl⟩

/-- **list_roundtrip for the chunk writer, on the chunk text** (full statement since efed37d):
the text of the chunk `createListChunk` builds — the item lines, trailing white space trimmed —
read line by line gives back every item of the list, in order, with its nesting depth (the
item's level, negative levels count as 0), the list's kind and its text: for any levels in any
order, in particular for a list whose FIRST item is nested.  Hypotheses: item texts are single
lines, and the last item's text ends in a byte that is not white space (the trailing trim would
shorten it; an empty last text leaves `-` without the blank a list marker needs). -/
theorem rag_list_roundtrip (ordered : Bool) (items : List (Int × Str)) (lastIt : Int × Str) (c : Nat)
    (hnl : ∀ it ∈ items ++ [lastIt], 10 ∉ it.2)
    (hend : lastIt.2.getLast? = some c) (hws : isWs c = false) :
    (splitLines (ragListText ordered (items ++ [lastIt]))).map parseListLine
      = (items ++ [lastIt]).map fun it => some (it.1.toNat, ordered, it.2) := by
  have hlines := ragListLines_noNl ordered (items ++ [lastIt]) hnl [] (-1)
  obtain ⟨L, pre, hs⟩ := ragListLines_snoc ordered items lastIt [] (-1)
  have hlast : (pre ++ lastIt.2).getLast? = some c := by
    rw [List.getLast?_append, hend]; rfl
  unfold ragListText
  rw [ragListItems_lines, hs,
    splitLines_trimRight_joinLines L (pre ++ lastIt.2) c (by rw [← hs]; exact hlines) hlast hws, ← hs]
  exact rag_list_written_lines_roundtrip ordered (items ++ [lastIt])

/-- the witness of the former finding: first item nested, then a top-level item -/
example : (splitLines (ragListText false ([(1, [97])] ++ [(0, [98])]))).map parseListLine
    = [some (1, false, [97]), some (0, false, [98])] :=
  rag_list_roundtrip false [(1, [97])] (0, [98]) 98 (by decide) rfl (by decide)

/-- the chunk text of that list, byte by byte: `  - a\n- b` -/
example : ragListText false [(1, [97]), (0, [98])] = [32, 32, 45, 32, 97, 10, 45, 32, 98] := by decide +kernel

/-- the pinned behaviour (finding `C15/list-depth-ragdoc-first-item-nested`, repaired by
efed37d): the chunk text was `strings.TrimSpace` of the lines (`ragListTextPinned`), so a FIRST
item that is nested lost its indentation — the list `[a at depth 1, b at depth 0]` read back with
`a` at depth 0. -/
theorem rag_list_first_nested_pinned_counterexample :
    ragListTextPinned false [(1, [97]), (0, [98])] = [45, 32, 97, 10, 45, 32, 98] ∧
    (splitLines (ragListTextPinned false [(1, [97]), (0, [98])])).map parseListLine
      ≠ [some (1, false, [97]), some (0, false, [98])] := by decide +kernel

/-- the heading line of a chunk with a section title: an ATX heading of level
`headingLevelRag` (in 1..6 for all integers, `heading_level_rag_range`) with the title as text -/
theorem rag_chunk_heading_roundtrip (level offset max : Int) (title : Str) :
    parseAtx (atxLine (headingLevelRag level offset max).toNat title)
      = some ((headingLevelRag level offset max).toNat, title) := by
  have h := Tabula.C15.heading_level_rag_range level offset max
  exact Tabula.C15.atx_roundtrip _ _ (by omega) (by omega)

/-- a heading chunk (text = section title) written on its own, without chunk id and page
reference: the whole output is the heading line and reads back as that one heading (unless it is
the level-2 heading "Table of Contents", which the reader takes for a generated TOC) -/
theorem rag_heading_chunk_read (o : MdOpts) (c : RChunk) (hid : o.ids = false) (hpg : o.pages = false)
    (ht : c.sectionTitle ≠ []) (htext : c.text = c.sectionTitle) (hnl : 10 ∉ c.sectionTitle)
    (htoc : ¬ ((headingLevelRag c.headingLevel o.offset o.max).toNat = 2 ∧ c.sectionTitle = tocText)) :
    readMd (chunkMd o c)
      = { headings := [((headingLevelRag c.headingLevel o.offset o.max).toNat, c.sectionTitle)],
          items := [], tables := [], paras := [] } := by
  obtain ⟨ls, e, hs⟩ := chunkMd_heading o c hid hpg ht htext hnl
  rw [e, readMd_joinLines _ fun l hl => (hs.line l hl).1]
  refine (hs.read fun hm => htoc ?_).2.2.2
  have := Prod.mk.inj (List.mem_singleton.mp hm)
  exact ⟨this.1.symm, this.2.symm⟩

/-- what precedes a chunk in the loop -/
def sepOf (o : MdOpts) (first : Bool) : Str := if first then [] else if o.seps then o.sectionSep else [10, 10]

/-- **a section heading stays a heading whatever came before it** (the repaired
`ToMarkdownWithOptions`, c1bb590): a chunk that is the heading of its section is written through
`Chunk.ToMarkdownWithOptions` — with its `#` line — for every current section, in particular when
the section before it has the same title. -/
theorem rag_heading_chunk_always_heading (o : MdOpts) (c : RChunk) (rest : List RChunk) (cur : Str) (first : Bool)
    (h : isSectionHeading c = true) :
    ∃ cur', ragChunks o (c :: rest) cur first = sepOf o first ++ chunkMd o c ++ ragChunks o rest cur' false := by
  have hw : writesHeading c cur = true := by rw [writesHeading, h, Bool.or_true]
  exact ⟨nextCur c cur, by rw [ragChunks_cons, chunkOut, if_pos hw]; rfl⟩

/-- …and a chunk of running text inside the current section is written without a heading line -/
theorem rag_content_chunk_no_heading (o : MdOpts) (c : RChunk) (rest : List RChunk) (first : Bool)
    (hne : c.sectionTitle.isEmpty = false) (h : isSectionHeading c = false) :
    ragChunks o (c :: rest) c.sectionTitle first
      = sepOf o first ++ contentMd o c ++ ragChunks o rest c.sectionTitle false := by
  unfold sepOf
  conv => lhs; rw [ragChunks]
  simp [h]

/-- the pinned loop decided by comparing titles only: a heading chunk with the title of the
current section was written as running text (no `#` line) -/
def ragChunkPinned (o : MdOpts) (c : RChunk) (cur : Str) : Str :=
  if !c.sectionTitle.isEmpty && c.sectionTitle != cur then chunkMd o c else contentMd o c

theorem rag_pinned_repeated_title_counterexample :
    ragChunkPinned {} { text := [85], sectionTitle := [85], headingLevel := 5, isSection := true,
                        elementTypes := [sHeading] } [85] = [85] ∧
    (ragChunks {} [{ text := [85], sectionTitle := [85], headingLevel := 5, isSection := true,
                     elementTypes := [sHeading] }] [85] true) = [35, 35, 35, 35, 35, 32, 85, 10, 10] := by
  decide +kernel

/-- **the PDF pipeline's writer is compositional**: for every chunk collection (any chunks, any
texts) rendered without chunk separators, what a Markdown reader finds in the body is the
concatenation, in chunk order, of what it finds in each chunk's own output — headings, list
items, tables and paragraph lines of one chunk never merge with those of the next. -/
theorem rag_collection_compositional (o : MdOpts) (hs : o.seps = false) (cs : List RChunk) (hne : cs ≠ []) :
    readRaw (splitLines (ragChunks o cs [] true)) = readOutputs (ragOutputs o cs []) :=
  ragChunks_read o hs cs [] hne

/-- a heading chunk's output (no chunk id, no page reference) is its heading and nothing else -/
theorem rag_heading_chunk_raw (o : MdOpts) (c : RChunk) (cur : Str) (hid : o.ids = false) (hpg : o.pages = false)
    (ht : c.sectionTitle ≠ []) (htext : c.text = c.sectionTitle) (hnl : 10 ∉ c.sectionTitle)
    (hw : writesHeading c cur = true) :
    readRaw (splitLines (chunkOut o c cur))
      = { headings := [((headingLevelRag c.headingLevel o.offset o.max).toNat, c.sectionTitle)],
          items := [], tables := [], paras := [] } := by
  obtain ⟨ls, e, hs⟩ := chunkMd_heading o c hid hpg ht htext hnl
  have hout : chunkOut o c cur = chunkMd o c := by simp [chunkOut, hw]
  rw [hout, e, splitLines_joinLines _ fun l hl => (hs.line l hl).1]
  exact (hs.append LinesRead.blank).raw

/-- a table chunk (its text is `model.Table.ToMarkdown`; written without heading, chunk id or page
reference) is one table, read back as the grid of normalised cell texts -/
theorem rag_table_chunk_raw (o : MdOpts) (c : RChunk) (cur : Str) (n : Nat) (hn : 1 ≤ n)
    (hdr : List Str) (rest : List (List Str))
    (hid : o.ids = false) (hpg : o.pages = false) (hw : writesHeading c cur = false)
    (htext : c.text = render .model (hdr :: rest))
    (hrect : Tabula.C15.Rect n (hdr :: rest)) (hbs : Tabula.C15.NoBackslash (hdr :: rest)) :
    readRaw (splitLines (chunkOut o c cur))
      = { headings := [], items := [],
          tables := [some ((hdr :: rest).map (List.map fun x => trim (nlToSpace x)))], paras := [] } :=
  readRaw_table_chunk o c cur n hn hdr rest hid hpg hw htext hrect

/-- the same for cells of ANY bytes — a backslash in front of a pipe, at the end of a cell, doubled:
the table chunk of the PDF / RAG pipeline reads back as the grid of normalised cell texts -/
theorem rag_table_chunk_raw_any (o : MdOpts) (c : RChunk) (cur : Str) (n : Nat) (hn : 1 ≤ n)
    (hdr : List Str) (rest : List (List Str))
    (hid : o.ids = false) (hpg : o.pages = false) (hw : writesHeading c cur = false)
    (htext : c.text = render .model (hdr :: rest))
    (hrect : Tabula.C15.Rect n (hdr :: rest)) :
    readRaw (splitLines (chunkOut o c cur))
      = { headings := [], items := [],
          tables := [some ((hdr :: rest).map (List.map fun x => trim (nlToSpace x)))], paras := [] } :=
  readRaw_table_chunk o c cur n hn hdr rest hid hpg hw htext hrect

/-- a paragraph chunk of one plain line is that paragraph -/
theorem rag_para_chunk_raw (o : MdOpts) (c : RChunk) (cur : Str) (hid : o.ids = false) (hpg : o.pages = false)
    (hw : writesHeading c cur = false) (hnl : 10 ∉ c.text) (hplain : classify c.text = .para) :
    readRaw (splitLines (chunkOut o c cur)) = { headings := [], items := [], tables := [], paras := [c.text] } := by
  have e : chunkOut o c cur = c.text := by
    simp [chunkOut, hw, contentMd, chunkIdComment, chunkPageRef, hid, hpg]
  rw [e, splitLines_eq_splitOn, List.splitOn_eq_singleton hnl]
  exact (LinesRead.para _ hplain hnl).raw

/-- example: heading, paragraph under it, heading with the same title again — three outputs, the
second heading stays a heading -/
example : ragOutputs {} [{ text := [85], sectionTitle := [85], headingLevel := 2, isSection := true, elementTypes := [sHeading] },
                         { text := [120], sectionTitle := [85] },
                         { text := [85], sectionTitle := [85], headingLevel := 3, isSection := true, elementTypes := [sHeading] }] []
    = [[35, 35, 32, 85, 10, 10], [120], [35, 35, 35, 32, 85, 10, 10]] := by decide +kernel

end Tabula.C15Rag
