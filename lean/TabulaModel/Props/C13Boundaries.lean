import TabulaModel.Lemmas.SemBoundary
import TabulaModel.Props.C13Api
/-!
# C13 — `SplitToSize(text, boundaries)` with the boundaries of `DetectBoundaries`

`rag/boundary.go` is the only producer of `[]Boundary` in the package; `SplitToSize` takes its
result as second argument.  Model: `Model/SemBoundary.lean` (`isSentenceEnd`, `isAbbreviation`,
`detectInternalBoundaries`, `getBoundaryTypeForBlock`, `DetectBoundaries`, `FindBestBoundary`,
`FindBoundaryWithLookAhead`, the orphan detector); lemmas: `Lemmas/SemBoundary.lean`,
`Lemmas/SplitBoundaries.lean`.  Ops: `c13.detect`, `c13.splitd`, `c13.best`, `c13.look`,
`c13.orphan`.

UTF-8 integrity fails for boundaries inside characters
(`C13Api.split_utf8_boundaries_counterexample`).  Before fix cf372da of `SplitToSize` it failed
for boundaries on character boundaries too: the supplied positions drifted after every split
that was followed by white space.  With the fix, "every boundary is on a character
boundary" is an invariant of the loop, and the UTF-8 and conservation clauses of C13 hold for
every such list — in particular for every list `DetectBoundaries` returns.
-/
set_option linter.unusedVariables false
namespace Tabula.C13Boundaries
open Tabula.Split Tabula.SemBoundary

/-- **boundaries_stay_aligned** (the repaired defect).  One iteration of the loop of
`SplitToSize`: if every supplied boundary is on a character boundary of `remaining`, then
every boundary kept for the next iteration is on a character boundary of the next
`remaining` (`strings.TrimSpace(remaining[splitPos:])`), for every split position. -/
theorem boundaries_stay_aligned (remaining : Str) (bs : List Boundary) (splitPos : Nat)
    (hb : BoundariesAligned remaining bs) :
    BoundariesAligned (trimSpace (remaining.drop splitPos))
      (adjustBoundaryPositions bs (splitPos + leadingSpace (remaining.drop splitPos))) :=
  boundariesAligned_step remaining bs splitPos hb

/-- the kept boundaries point at the same bytes as before: position `p` of the old remainder
is position `p - shift` of the new one -/
theorem remainder_is_slice (remaining : Str) (splitPos : Nat) :
    trimSpace (remaining.drop splitPos)
      = (remaining.drop (splitPos + leadingSpace (remaining.drop splitPos))).take
          (trimSpace (remaining.drop splitPos)).length := by
  rw [← List.drop_drop]
  exact trimSpace_eq_take_drop _

/-- with boundaries on character boundaries no split point is inside a well-formed
character, whatever the bytes, the scores and the limit -/
theorem split_point_aligned (c : SizeConfig) (text : Str) (bs : List Boundary)
    (hb : BoundariesAligned text bs) (limit : Nat) (unit : SizeUnit) :
    NotCovered text (findSplitPointAt c text bs limit unit) :=
  notCovered_findSplitPointAt_aligned c text bs hb limit unit

/-- **split_conserves_characters_aligned.** For EVERY byte string (ill-formed UTF-8 included),
every size configuration and every list of boundaries on character boundaries of the text:
the non-whitespace characters of the pieces of `SplitToSize(text, boundaries)`, concatenated,
are exactly those of the text. -/
theorem split_conserves_characters_aligned (c : SizeConfig) (text : Str) (bs : List Boundary)
    (hb : BoundariesAligned text bs) :
    (splitToSize c text bs).flatMap stripWs = stripWs text :=
  splitToSize_content_aligned c text bs hb

/-- **split_utf8_aligned.** Valid UTF-8 text, boundaries on character boundaries: every piece of
`SplitToSize(text, boundaries)` is valid UTF-8 and non-empty, for every size configuration. -/
theorem split_utf8_aligned (c : SizeConfig) (text : Str) (bs : List Boundary)
    (hb : BoundariesAligned text bs) (hv : validUtf8 text = true) :
    ∀ p ∈ splitToSize c text bs, validUtf8 p = true ∧ p ≠ [] :=
  fun p hp => ⟨splitToSize_valid_aligned c text bs hb hv p hp,
    Tabula.C13.split_pieces_nonempty c text bs p hp⟩

/-- in valid UTF-8, "on a character boundary" is: the text up to the position is valid -/
theorem aligned_iff_valid_take (text : Str) (hv : validUtf8 text = true) (p : Nat) (hp : p ≤ text.length) :
    NotCovered text p ↔ validUtf8 (text.take p) = true := by
  constructor
  · exact fun hn => (valid_cut hv hn).1
  · intro ht
    -- the rest of the text is valid, so it is empty or starts with a rune-start byte
    by_cases hpl : text.length ≤ p
    · exact notCovered_of_ge text p hpl
    · have hd := valid_drop_of_valid_take text hv p ht
      have hne : text.drop p ≠ [] := fun e => hpl (List.drop_eq_nil_iff.mp e)
      obtain ⟨b, hb1, hb2⟩ := charLen_head _ (charLen_ne_zero_of_valid hne hd)
      rw [List.getElem?_drop, Nat.add_zero] at hb1
      exact notCovered_of_runeStart text p b hb1 hb2

example : BoundariesAligned [0xE6,0x97,0xA5, 32, 0xE6,0x9C,0xAC] [⟨3, 70⟩, ⟨4, 20⟩, ⟨7, 70⟩, ⟨9, 0⟩] := by
  intro b hb
  simp only [List.mem_cons, List.not_mem_nil, or_false] at hb
  rcases hb with rfl | rfl | rfl | rfl
  · exact notCovered_of_runeStart _ 3 32 rfl (by decide)
  · exact notCovered_after_ascii _ 3 32 rfl (by decide)
  · exact notCovered_of_ge _ _ (by decide)
  · exact notCovered_of_ge _ _ (by decide)

/-- **detect_boundaries_aligned.** For every list of content blocks (any types, any bytes, any
answers of `isListIntro`): every boundary `DetectBoundaries` returns lies inside the text that
joins the blocks with blank lines, on a character boundary of it. -/
theorem detect_boundaries_aligned (blocks : List Block) :
    BoundariesAligned (joinBlocks blocks) ((detectBoundaries blocks).map DBoundary.toBoundary)
      ∧ ∀ d ∈ detectBoundaries blocks, d.pos ≤ (joinBlocks blocks).length :=
  ⟨boundariesAligned_detect blocks, fun d hd => (detectBoundaries_aligned blocks d hd).2⟩

/-- **detect_boundaries_sorted.** The boundaries come in the order of their positions. -/
theorem detect_boundaries_sorted (blocks : List Block) :
    (detectBoundaries blocks).Pairwise (fun x y => x.pos ≤ y.pos) :=
  detectAux_sorted blocks 0 0

/-- **sentence_boundary_behind_punctuation.** `isSentenceEnd(text, i)` holds only at a `.`, `!`
or `?` inside the text, so every sentence boundary of a paragraph is the position right behind
one of these ASCII bytes. -/
theorem sentence_boundary_behind_punctuation (b : Block) (start index : Nat) :
    ∀ d ∈ detectInternal b start index,
      ∃ j c, b.text[j]? = some c ∧ (c = 46 ∨ c = 33 ∨ c = 63) ∧ d.pos = start + j + 1
        ∧ d.ty = .sentence ∧ d.score = 20 := by
  intro d hd
  obtain ⟨j, c, h1, _, h3, h4, h5, h6⟩ := detectInternal_mem b start index d hd
  exact ⟨j, c, h1, h6, h3, h4, h5⟩

/-- **sentence_end_tests_agree_on_ascii.** The package has two sentence-end tests with the same
rules: `isSentenceEnd` (boundary.go: bytes read as Latin-1 runes) drives `DetectBoundaries`,
`isSentenceEndRune` (overlap.go: runes, Unicode tables) drives the sentence overlap.  On ASCII
text they agree at every position, whatever the class tables: the sentence boundaries
`DetectBoundaries` reports are the sentence ends the overlap generator sees. -/
theorem sentence_end_tests_agree_on_ascii (cl : Tabula.Overlap.Classes) (text : Str)
    (ha : ∀ b ∈ text, b < 0x80) (i : Nat) :
    Tabula.Overlap.isSentenceEndRune cl text.toArray i = isSentenceEndB text.toArray i := by
  apply isSentenceEnd_agree_ascii
  intro j
  unfold getB
  by_cases hj : j < text.length
  · simp [hj]
    exact ha _ (List.getElem_mem hj)
  · simp [hj]

/-- the hypothesis is needed: in "a. é" the "é" is C3 A9, and 0xC3 read as Latin-1 is the
capital "Ã": the byte-level test sees a capital behind the full stop, the rune-level test
sees a lower-case letter -/
example :
    isSentenceEndB ([97, 46, 32, 0xC3, 0xA9]).toArray 1 = true
      ∧ Tabula.Overlap.isSentenceEndRune [] (Tabula.Overlap.decodeRunes [97, 46, 32, 0xC3, 0xA9]).toArray 1 = false := by
  decide +kernel

/-- every boundary carries the score of its type (`BoundaryType.Score`) -/
theorem detect_boundaries_scores (blocks : List Block) :
    ∀ d ∈ detectBoundaries blocks, d.score = d.ty.score ∧ d.ty ≠ .none :=
  fun d hd => (detectAux_mem blocks 0 0 d hd).1

/-- non-vacuity: two paragraphs and a heading; sentence ends, paragraph ends, heading start -/
example :
    (detectBoundaries [⟨.paragraph, "Ab cd. Ef gh.".toList.map Char.toNat, false⟩,
                       ⟨.heading, "Title".toList.map Char.toNat, false⟩,
                       ⟨.paragraph, "Dr. X is 3.5 m. \"Y\"".toList.map Char.toNat, false⟩]).map
        (fun d => (d.ty.no, d.pos, d.score, d.elem))
      = [(1, 6, 20, 0), (1, 13, 20, 0), (2, 15, 70, 0), (5, 15, 100, 0), (1, 37, 20, 2), (2, 41, 70, 2)] := by
  decide +kernel

/-- **split_detected_property.** The UTF-8 and conservation clauses of C13 for
`SplitToSize(text, DetectBoundaries(blocks))`, where `text` joins the blocks with blank lines,
for every list of blocks, every size configuration (all units, any limit, semantic
splitting on or off) and every answer of `isListIntro`: the call terminates (total
definition); the pieces' non-whitespace characters are exactly those of the text, in order,
for ANY bytes; and if the blocks are valid UTF-8, every piece is valid UTF-8 and non-empty. -/
theorem split_detected_property (c : SizeConfig) (blocks : List Block) :
    let text := joinBlocks blocks
    let bs := (detectBoundaries blocks).map DBoundary.toBoundary
    (splitToSize c text bs).flatMap stripWs = stripWs text
    ∧ ((∀ b ∈ blocks, validUtf8 b.text = true) →
        validUtf8 text = true ∧ ∀ p ∈ splitToSize c text bs, validUtf8 p = true ∧ p ≠ []) := by
  intro text bs
  have hb := boundariesAligned_detect blocks
  refine ⟨split_conserves_characters_aligned c text bs hb, fun hv => ?_⟩
  have hvt : validUtf8 text = true := by
    apply Tabula.Overlap.valid_joinWith _ (by decide +kernel)
    intro p hp
    obtain ⟨b, hbm, e⟩ := List.mem_map.mp hp
    subst e; exact hv b hbm
  exact ⟨hvt, split_utf8_aligned c text bs hb hvt⟩

/-- non-vacuity, and the witness of the repaired defect: "Aaaa bbbb. Cccc dddd. Éééé éééé
ééééé. Ññññ ññññ." at 15 characters with its detected boundaries used to return the pieces
"ééééé. \xc3" and "\x91ñññ"; now every piece is whole. -/
example :
    let c : SizeConfig := { maxValue := 15, maxUnit := .characters, tpcNum := 1, tpcDen := 4, sem := true }
    let blocks : List Block := [⟨.paragraph,
      [65,97,97,97,32,98,98,98,98,46,32, 67,99,99,99,32,100,100,100,100,46,32,
       0xC3,0x89,0xC3,0xA9,0xC3,0xA9,0xC3,0xA9,32,0xC3,0xA9,0xC3,0xA9,0xC3,0xA9,0xC3,0xA9,32,
       0xC3,0xA9,0xC3,0xA9,0xC3,0xA9,0xC3,0xA9,0xC3,0xA9,46,32,
       0xC3,0x91,0xC3,0xB1,0xC3,0xB1,0xC3,0xB1,32,0xC3,0xB1,0xC3,0xB1,0xC3,0xB1,0xC3,0xB1,46], false⟩]
    (detectBoundaries blocks).map (fun d => (d.pos, d.score)) = [(10, 20), (21, 20), (51, 20), (70, 20), (70, 70)]
      ∧ (splitToSize c (joinBlocks blocks) ((detectBoundaries blocks).map DBoundary.toBoundary)).map List.length
          = [10, 10, 8, 8, 11, 18]
      ∧ ∀ p ∈ splitToSize c (joinBlocks blocks) ((detectBoundaries blocks).map DBoundary.toBoundary),
          validUtf8 p = true := by
  decide +kernel

/-- `FindBoundaryWithLookAhead(boundaries, target)` is the boundary search of
`FindSplitPointAt` with tolerance `LookAheadChars/2` -/
theorem look_ahead_is_best_near (bs : List Boundary) (lookAhead target : Nat) :
    findBoundaryWithLookAhead bs lookAhead target = findBestBoundaryNear bs target (lookAhead / 2) := by
  unfold findBoundaryWithLookAhead findBestBoundary findBestBoundaryNear
  simp only
  have : ∀ b : Boundary, (((target - lookAhead / 2 : Nat) : Int) ≤ (b.pos : Int))
      = (target - lookAhead / 2 ≤ b.pos) := by
    intro b; apply propext; omega
  simp only [this]

/-- … so what it returns is one of the boundaries, within `target ± LookAheadChars/2`, of the
highest score there -/
theorem look_ahead_choice (bs : List Boundary) (lookAhead target : Nat) (b : Boundary)
    (h : findBoundaryWithLookAhead bs lookAhead target = some b) :
    b ∈ bs ∧ target - lookAhead / 2 ≤ b.pos ∧ b.pos ≤ target + lookAhead / 2 ∧
      ∀ x ∈ bs, target - lookAhead / 2 ≤ x.pos → x.pos ≤ target + lookAhead / 2 → x.score ≤ b.score := by
  rw [look_ahead_is_best_near] at h
  obtain ⟨h1, h2, _, h4⟩ := findBestBoundaryNear_some h
  exact ⟨h1, h2.1, h2.2, fun x hx hlo hhi => h4 x hx ⟨hlo, hhi⟩⟩

example : (findBoundaryWithLookAhead [⟨90, 20⟩, ⟨110, 70⟩, ⟨300, 100⟩] 200 100).map (·.pos) = some 110 := by
  decide

/-- **adjust_for_orphans_choice.** `AdjustForOrphans` returns the position it was given or the
position of one of the boundaries; so with boundaries and position on character boundaries of
the text the adjusted position is on a character boundary too. -/
theorem adjust_for_orphans_choice (minOrphan : Nat) (text : Str) (position : Nat) (bs : List Boundary)
    (q : Nat) (h : adjustForOrphans minOrphan text position bs = some q) :
    q = position ∨ ∃ b ∈ bs, q = b.pos := by
  unfold adjustForOrphans at h
  have hloop : ∀ bs' : List Boundary, (∀ b ∈ bs', b ∈ bs) →
      adjustLoop minOrphan text position bs' = some q → q = position ∨ ∃ b ∈ bs, q = b.pos := by
    intro bs'
    induction bs' with
    | nil => intro _ h; simp [adjustLoop] at h; exact Or.inl h.symm
    | cons b rest ih =>
      intro hsub h
      unfold adjustLoop at h
      split at h
      · split at h
        · cases h
        · right; exact ⟨b, hsub b (List.mem_cons_self ..), by cases h; rfl⟩
        · exact ih (fun x hx => hsub x (List.mem_cons_of_mem _ hx)) h
      · exact ih (fun x hx => hsub x (List.mem_cons_of_mem _ hx)) h
  split at h
  · cases h
  · left; cases h; rfl
  · exact hloop bs (fun _ hb => hb) h

theorem adjust_for_orphans_aligned (minOrphan : Nat) (text : Str) (position : Nat) (bs : List Boundary)
    (hp : NotCovered text position) (hb : BoundariesAligned text bs)
    (q : Nat) (h : adjustForOrphans minOrphan text position bs = some q) : NotCovered text q := by
  rcases adjust_for_orphans_choice minOrphan text position bs q h with rfl | ⟨b, hbm, rfl⟩
  · exact hp
  · exact hb b hbm

/-- non-vacuity: a split at 3 would leave "ab" alone (orphan size 5); so would the boundary at
2; the boundary at 7 does not (the one at 8 is outside `position ± MinOrphanSize`, exclusive) -/
example : adjustForOrphans 5 ("ab cdefg hijklmnop".toList.map Char.toNat) 3 [⟨2, 70⟩, ⟨8, 90⟩, ⟨7, 20⟩] = some 7 := by
  decide +kernel

end Tabula.C13Boundaries
