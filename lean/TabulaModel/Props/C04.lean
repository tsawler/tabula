import TabulaModel.Lemmas.Xref
import TabulaModel.Lemmas.XrefBytes
/-!
# C04 — Object lookup returns the newest revision, in any access order
-/
namespace Tabula.C04
open Tabula.Xref

/-- **merge_newest**: in the merged table, object `n` has the entry of the *last* (newest)
table, of any number of tables, that mentions `n`. -/
theorem merge_newest (ts : List Section) (n : Nat) :
    getLast (mergeTables ts) n = newest ts n := getLast_flatten ts n

/-- … and no entry iff no table mentions it -/
theorem merge_none_iff (ts : List Section) (n : Nat) :
    getLast (mergeTables ts) n = none ↔ ∀ t ∈ ts, getLast t n = none := by
  rw [merge_newest]
  induction ts with
  | nil => exact ⟨fun _ _ h => (nomatch h), fun _ => rfl⟩
  | cons t ts ih => rw [newest, Option.or_eq_none_iff, ih, List.forall_mem_cons, and_comm]

/-- a later revision overrides every earlier one -/
theorem newer_wins (older : List Section) (t : Section) (n : Nat) (e : Entry)
    (h : getLast t n = some e) : getLast (mergeTables (older ++ [t])) n = some e := by
  simp [mergeTables, List.flatten_append, getLast_append, h]

/-- **getObject_refines**: from empty caches, for every finite sequence of `get`/`clearCache`
operations, every `get n` returns exactly `specGet n`.

Scope since the C02 repair 129dd3d (the statement is about the abstract
`File`, in which `ParseIndirectObject` at an offset is a function of the file alone): that
abstraction holds for the code as long as no lookup loads more than `maxNestedLoads` = 16
objects inside each other (indirect `/Length` chains; every file conforming to ISO 32000-1 nests
at most 3). Beyond that the code's answer at an offset depends on how deep the lookup stands —
but, since the repair 8b4ac6e, no longer on the caches: a cache hit is counted as the load it
stands for, and on chains of every length the caches are order-free
(`C04NC.nested_cache_order_free`; the rule of 129dd3d, under which the statement was FALSE for
the code beyond the limit, is kept in `C04NC.nested_cache_order_dependence_pinned_counterexample`). -/
theorem getObject_refines (f : File) (ops : List Op) :
    run f {} ops = specRun f ops := run_refines f ops {} (cacheOk_empty f)

/-- **lookup_order_free**: whatever was looked up or cleared before, in whatever order and
however often, `get n` answers `specGet n`. (Scope: as for `getObject_refines`; beyond 16
nested loads see `C04NC.nested_cache_order_free`.) -/
theorem lookup_order_free (f : File) (before : List Op) (n : Nat) :
    (run f {} (before ++ [.get n])).getLast? = some (specGet f n) := by
  rw [getObject_refines, specRun_append]
  exact List.getLast?_concat

/-- newest entry free, or never defined ⇒ error -/
theorem free_or_missing_is_error (ts : List Section) (objs : Objects) (n : Nat)
    (h : newest ts n = none ∨ ∃ nx, newest ts n = some (.free nx)) :
    specGet ⟨mergeTables ts, objs⟩ n = none := by
  unfold specGet
  simp only
  rw [merge_newest]
  rcases h with h | ⟨nx, h⟩ <;> simp [h]

/-- newest entry is an offset ⇒ the object whose header carries number `n` at that offset -/
theorem newest_offset_value (ts : List Section) (objs : Objects) (n off : Nat) (v : Val)
    (h : newest ts n = some (.at off)) (ho : getLast objs off = some (n, v)) :
    specGet ⟨mergeTables ts, objs⟩ n = some v := by
  unfold specGet
  simp only
  rw [merge_newest, h]
  simp [getUncompressed, ho]

/-- **chain_oldest_first**: following `/Prev` from the newest section along a chain of
distinct offsets yields the revisions oldest first, each once. (Termination on cyclic
`/Prev` is by construction: `chainFrom` never visits an offset twice.) -/
theorem chain_oldest_first (secs : Sections) (start : Nat) (path : List (Nat × Section))
    (h : IsChain secs start path) (hnd : (path.map Prod.fst).Nodup) :
    parseAllXRefs secs start = (path.map Prod.snd).reverse := by
  unfold parseAllXRefs
  have hlen := List.Nodup.length_le_of_subset hnd h.keys_subset
  rw [List.length_map, List.length_map] at hlen
  rw [chainFrom_path secs start path h _ [] (Nat.le_succ_of_le hlen) hnd fun _ _ => List.not_mem_nil]

/-- a cyclic `/Prev` (100 → 50 → 100) terminates and yields each section once -/
example :
    parseAllXRefs [(100, ([(1, .at 10)], some 50)), (50, ([(1, .at 5)], some 100))] 100
      = [[(1, .at 5)], [(1, .at 10)]] := by decide

/-- non-vacuity of `chain_oldest_first`: a two-revision file -/
example : IsChain [(100, ([(1, Entry.at 10)], some 50)), (50, ([(1, .at 5)], none))] 100
    [(100, [(1, .at 10)]), (50, [(1, .at 5)])] :=
  .step 100 _ 50 _ (by decide) (.last 50 _ (by decide))

open Tabula.XrefBytes Tabula.A1 in
/-- **xref_stream_entry_roundtrip**: a binary cross-reference entry written with field widths
`/W [w0 w1 w2]` (each at most 8 bytes; `w0 = 0` allowed for in-use entries, whose type is then
the default 1) is read back as written, whatever follows it, and consumes exactly
`w0+w1+w2` bytes. -/
theorem xref_stream_entry_roundtrip (k : Kind) (f1 f2 w0 w1 w2 : Nat) (rest : List Nat)
    (h0 : w0 ≤ 8) (h1 : w1 ≤ 8) (h2 : w2 ≤ 8) (hf1 : f1 < 256 ^ w1) (hf2 : f2 < 256 ^ w2)
    (hk : 0 < w0 ∨ k = .inUse) :
    parseStreamEntry (encodeStreamEntry k f1 f2 w0 w1 w2 ++ rest) w0 w1 w2 =
      some ((k, f1, f2), w0 + w1 + w2) := by
  have hkc : 0 < w0 → kindCode k < 256 ^ w0 := fun hw =>
    Nat.lt_of_lt_of_le (show kindCode k < 256 ^ 1 by cases k <;> decide)
      (Nat.pow_le_pow_right (by decide) hw)
  have r0 := fun hw =>
    readBE_beBytes (kindCode k) w0 (beBytes f1 w1 ++ (beBytes f2 w2 ++ rest)) h0 (hkc hw)
  have r1 := readBE_beBytes f1 w1 (beBytes f2 w2 ++ rest) h1 hf1
  have r2 := readBE_beBytes f2 w2 rest h2 hf2
  have l0 := beBytes_length (kindCode k) w0
  have l1 := beBytes_length f1 w1
  have l2 := beBytes_length f2 w2
  unfold encodeStreamEntry
  -- from here on the three fields are any byte strings of the right lengths
  generalize beBytes (kindCode k) w0 = a at r0 l0 ⊢
  generalize beBytes f1 w1 = b at r0 r1 l1 ⊢
  generalize beBytes f2 w2 = c at r0 r1 r2 l2 ⊢
  subst l0 l1 l2
  unfold parseStreamEntry
  simp only [List.append_assoc]
  rw [if_neg (by simp only [List.length_append]; omega), ← List.drop_drop, List.drop_left,
    List.drop_left, r1, r2]
  by_cases hw : a.length > 0
  · rw [if_pos hw, r0 hw]
    cases k <;> rfl
  · obtain rfl : k = .inUse := hk.resolve_left hw
    rw [if_neg hw]
    rfl

open Tabula.XrefBytes Tabula.A1 in
/-- **xref_entry_roundtrip**: the 18 significant bytes `nnnnnnnnnn ggggg n|f` of a classic
cross-reference entry, followed by any end-of-line bytes (SP LF, SP CR, CR LF …), are read
back as (offset, generation, in-use) for every offset below 10^10 and generation below 10^5. -/
theorem xref_entry_roundtrip (off gen : Nat) (inUse : Bool) (eol : Str)
    (hoff : off < 10 ^ 10) (hgen : gen < 10 ^ 5) :
    parseEntry (fmtEntry off gen inUse ++ eol) = some ((off : Int), (gen : Int), inUse) :=
  parseEntry_fmtEntry off gen inUse eol hoff hgen

end Tabula.C04
