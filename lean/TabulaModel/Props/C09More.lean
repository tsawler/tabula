import TabulaModel.Props.C09
/-!
# C09 — further all-input theorems about the mechanisms of `Model/Layout.lean`

The theorems of `Props/C09.lean` say that nothing is lost or repeated (permutations, counts).
The ones below say WHICH fragment goes WHERE, and close three claims that were so far only
comments of the model or compared by the differential run:

* deduplication, exactly: the kept fragments have pairwise different keys, every key of the
  input is kept, each removed fragment has exactly ONE kept twin, the function is idempotent, and
  it is the identity iff no two fragments share a key (`dedupe_fixed_iff`);
* `createColumnsFromGaps`, exactly: there are `gaps + 1` columns and column `i` is the input
  filtered by `assignCol = i`, in stream order (`createColumns_exact`), so "each fragment is
  assigned to exactly one column" is now an identification of that column;
* `groupFragmentsIntoLines`: the band Ys are pairwise different (`bands_ys_distinct`) and hence
  EVERY sorting algorithm gives the order the model writes down with `mergeSort`
  (`bands_order_unique`) — the comment in `Model/Layout.lean` on the unstable `sort.Slice`;
* `mergeOverlappingBlocks` never makes more blocks and is the identity when no two overlap;
* the model of `strings.TrimSpace` is specified on every byte string (`trimSpace_spec`: what it
  strips and that nothing strippable is left) and is idempotent;
* the shared sweep `segment` at its two extremes (never / always break).
-/
namespace Tabula.C09More
open Tabula.Layout Tabula.C09 List

/-! ## Deduplication, exactly -/

/-- the kept fragments have pairwise different keys (text + rounded position) -/
theorem dedupe_keys_nodup (fs : List Frag) : ((dedupe fs).map keyOf).Nodup :=
  (dedupeAux_keys [] fs).1

/-- no key disappears and none is invented -/
theorem dedupe_keys_same (fs : List Frag) (k : Key) :
    k ∈ (dedupe fs).map keyOf ↔ k ∈ fs.map keyOf := by
  constructor
  · intro h
    rcases List.mem_map.mp h with ⟨g, hg, rfl⟩
    exact List.mem_map.mpr ⟨g, (dedupe_sublist fs).subset hg, rfl⟩
  · intro h
    rcases List.mem_map.mp h with ⟨f, hf, rfl⟩
    rcases dedupe_keeps_a_twin fs f hf with ⟨g, hg, hk⟩
    exact List.mem_map.mpr ⟨g, hg, hk⟩

/-- every input fragment has exactly ONE kept twin -/
theorem dedupe_unique_twin (fs : List Frag) (f : Frag) (hf : f ∈ fs) :
    ∃ g ∈ dedupe fs, keyOf g = keyOf f ∧ ∀ g2 ∈ dedupe fs, keyOf g2 = keyOf f → g2 = g := by
  rcases dedupe_keeps_a_twin fs f hf with ⟨g, hg, hk⟩
  refine ⟨g, hg, hk, ?_⟩
  intro g2 hg2 hk2
  exact nodup_map_inj keyOf (dedupe fs) (dedupe_keys_nodup fs) g2 hg2 g hg (hk2.trans hk.symm)

example : ∃ f, f ∈ ([⟨0, 10, 20, 5, 10, 10, [97]⟩] : List Frag) := ⟨_, List.mem_cons_self⟩

/-- deduplicating twice removes nothing more -/
theorem dedupe_idempotent (fs : List Frag) : dedupe (dedupe fs) = dedupe fs :=
  dedupeAux_fixed [] (dedupe fs) (dedupe_keys_nodup fs) (fun _ _ h => by simp at h)

/-- deduplication changes nothing exactly when no two fragments share text and rounded position -/
theorem dedupe_fixed_iff (fs : List Frag) : dedupe fs = fs ↔ (fs.map keyOf).Nodup := by
  constructor
  · intro h
    have := dedupe_keys_nodup fs
    rwa [h] at this
  · intro h
    exact dedupeAux_fixed [] fs h (fun _ _ h => by simp at h)

/-- the same with lengths: nothing is removed iff the keys are pairwise different -/
theorem dedupe_length_eq_iff (fs : List Frag) :
    (dedupe fs).length = fs.length ↔ (fs.map keyOf).Nodup := by
  rw [← dedupe_fixed_iff]
  exact ⟨fun h => (dedupe_sublist fs).eq_of_length h, fun h => by rw [h]⟩

/-! ## `createColumnsFromGaps`, exactly -/

/-- the intervals `createColumnsFromGaps` builds for a page -/
def colBounds (gaps : List Gap) (fs : List Frag) : List (Rat × Rat) :=
  boundaries (gaps.mergeSort (fun a b => a.left ≤ b.left))
    (minOf 0 (fs.map (·.x))) (maxOf 0 (fs.map right))

/-- one column more than gaps, whatever the gaps are (duplicates, overlaps, any order) -/
theorem createColumns_length (gaps : List Gap) (fs : List Frag) (h : fs ≠ []) :
    (createColumns gaps fs).length = gaps.length + 1 := by
  have he : fs.isEmpty = false := by cases fs <;> simp_all
  simp only [createColumns, he, Bool.false_eq_true, if_false]
  rw [foldl_appendAt_length]
  simp [boundaries_length]

/-- column `i` holds exactly the fragments `assignCol` sends to `i`, in stream order -/
theorem createColumns_exact (gaps : List Gap) (fs : List Frag) (h : fs ≠ []) (i : Nat)
    (hi : i ≤ gaps.length) :
    (createColumns gaps fs)[i]? =
      some (fs.filter (fun f => assignCol (colBounds gaps fs) f == i)) := by
  have he : fs.isEmpty = false := by cases fs <;> simp_all
  simp only [createColumns, he, Bool.false_eq_true, if_false]
  rw [foldl_appendAt_getElem?]
  have hl : i < (boundaries (gaps.mergeSort (fun a b => a.left ≤ b.left))
      (minOf 0 (fs.map (·.x))) (maxOf 0 (fs.map right))).length := by
    rw [boundaries_length]; simp; omega
  simp [List.getElem?_map, List.getElem?_eq_getElem hl, colBounds]

example : (createColumns [⟨100, 120⟩] [⟨0, 10, 20, 30, 10, 10, [97]⟩, ⟨1, 150, 20, 30, 10, 10, [98]⟩])[1]?
    = some [⟨1, 150, 20, 30, 10, 10, [98]⟩] := by decide +kernel

/-- a fragment of the page is in column `i` iff `i` is the column `assignCol` names -/
theorem createColumns_mem_iff (gaps : List Gap) (fs : List Frag) (f : Frag) (i : Nat)
    (hi : i ≤ gaps.length) (col : List Frag) (hc : (createColumns gaps fs)[i]? = some col) :
    f ∈ col ↔ f ∈ fs ∧ assignCol (colBounds gaps fs) f = i := by
  by_cases h : fs = []
  · subst h; simp [createColumns] at hc
  · rw [createColumns_exact gaps fs h i hi] at hc
    simp only [Option.some.injEq] at hc
    subst hc
    simp [List.mem_filter]

/-- every column lists its fragments in the order of the input (nothing is reordered) -/
theorem createColumns_stream_order (gaps : List Gap) (fs : List Frag) (col : List Frag)
    (hc : col ∈ createColumns gaps fs) : col.Sublist fs := by
  by_cases h : fs = []
  · subst h; simp [createColumns] at hc
  · rcases List.mem_iff_getElem?.mp hc with ⟨i, hi⟩
    have hlt : i < (createColumns gaps fs).length := by
      rcases List.getElem?_eq_some_iff.mp hi with ⟨hl, _⟩; exact hl
    rw [createColumns_length gaps fs h] at hlt
    rw [createColumns_exact gaps fs h i (by omega)] at hi
    simp only [Option.some.injEq] at hi
    subst hi
    exact List.filter_sublist

/-! ## `validateColumns` -/

/-- no column of the validated layout is empty -/
theorem validateColumns_nonempty (m : Rat) (cols : List (List Frag)) :
    ∀ c ∈ validateColumns m cols, c ≠ [] := by
  intro c hc
  unfold validateColumns at hc
  simp only [List.mem_append, List.mem_reverse] at hc
  rcases hc with hc | hc
  · exact foldl_validateStep_nonempty m cols ([], []) (by simp) c hc
  · by_cases he : (cols.foldl (validateStep m) ([], [])).2.isEmpty = true
    · simp [he] at hc
    · simp only [he, Bool.false_eq_true, if_false, List.mem_singleton] at hc
      subst hc
      intro e; rw [e] at he; simp at he

/-- when no column is empty or narrower than `MinColumnWidth`, validation returns the columns
as they are: merging happens only where a narrow column exists -/
theorem validateColumns_all_wide (m : Rat) (cols : List (List Frag))
    (h : ∀ c ∈ cols, c ≠ [] ∧ ¬ bboxW c < m) : validateColumns m cols = cols := by
  unfold validateColumns
  rw [foldl_validateStep_wide m cols [] h]
  simp

/-- on such a page the repair 395abf8 changes nothing: old and new validation agree -/
theorem validateColumns_fix_agrees (m : Rat) (cols : List (List Frag))
    (h : ∀ c ∈ cols, c ≠ [] ∧ ¬ bboxW c < m) :
    validateColumns m cols = validateColumnsOld m cols := by
  rw [validateColumns_all_wide m cols h]
  unfold validateColumnsOld
  symm
  apply List.filter_eq_self.mpr
  intro c hc
  have := h c hc
  have he : c.isEmpty = false := by cases c <;> simp_all
  simp [he, this.2]

example : ∀ c ∈ ([[⟨0, 10, 20, 60, 10, 10, [97]⟩]] : List (List Frag)), c ≠ [] ∧ ¬ bboxW c < 50 := by
  decide +kernel

/-! ## `groupFragmentsIntoLines`: the sort has one possible outcome -/

/-- the Ys of the bands are pairwise different: a band is opened only for a fragment farther
than its tolerance (at least 2) from every existing band -/
theorem bands_ys_distinct (fs : List Frag) : ((bandsUnsorted fs).map (·.y)).Nodup :=
  foldl_addToBands_nodup fs [] (by simp)

/-- EVERY arrangement of the bands that is sorted by Y, highest first, is the one the model
computes with `mergeSort`: the unstable `sort.Slice` of the code has no freedom -/
theorem bands_order_unique (fs : List Frag) (l : List Band)
    (hp : l.Perm (bandsUnsorted fs))
    (hs : l.Pairwise (fun a b => decide (a.y ≥ b.y) = true)) :
    l.map (·.frs) = bands fs :=
  -- the key is given as `Band.y`, not `(·.y)`: with the lambda the unifier is slow on `hs`
  congrArg (List.map (·.frs)) (sortedDesc_unique Band.y _ l (bands_ys_distinct fs) hp hs)

example : ([⟨20, [⟨0, 10, 20, 5, 10, 10, [97]⟩]⟩] : List Band).Perm
    (bandsUnsorted [⟨0, 10, 20, 5, 10, 10, [97]⟩]) := by
  simp [bandsUnsorted, addToBands]

/-! ## `mergeOverlappingBlocks` -/

/-- merging never makes more blocks -/
theorem mergeAll_length_le (ov : Block → Block → Bool) (bs : List Block) :
    (mergeAll ov bs).length ≤ bs.length := by
  induction bs using mergeAll.induct (ov := ov) with
  | case1 => rw [mergeAll]; exact Nat.le_refl _
  | case2 b bs _ ih =>
    rw [mergeAll, List.length_cons, List.length_cons]
    exact Nat.succ_le_succ (Nat.le_trans ih (mergeInto_length ov b bs))

/-- when no two blocks overlap, `mergeOverlappingBlocks` returns the blocks as they are -/
theorem mergeAll_no_overlap (ov : Block → Block → Bool) (bs : List Block)
    (h : ∀ a ∈ bs, ∀ b ∈ bs, ov a b = false) : mergeAll ov bs = bs := by
  induction bs with
  | nil => simp [mergeAll]
  | cons b bs ih =>
    rw [mergeAll]
    rw [mergeInto_none ov b bs (fun c hc => h b (by simp) c (List.mem_cons_of_mem _ hc))]
    simp only
    rw [ih (fun a ha c hc => h a (List.mem_cons_of_mem _ ha) c (List.mem_cons_of_mem _ hc))]

example : ∀ a ∈ ([mkBlock [], mkBlock []] : List Block), ∀ b ∈ ([mkBlock [], mkBlock []] : List Block),
    (fun _ _ => false) a b = false := fun _ _ _ _ => rfl

/-! ## The model of `strings.TrimSpace`, on every byte string -/

/-- `trimSpace s` is `s` without a prefix and a suffix of white space, and it neither starts nor
ends with white space (this determines it; the uniqueness is not part of the statement) -/
theorem trimSpace_spec (s : Str) :
    ∃ a b, s = a ++ trimSpace s ++ b ∧ (∀ c ∈ a, isSpaceByte c = true) ∧
      (∀ c ∈ b, isSpaceByte c = true) ∧
      (∀ c, (trimSpace s).head? = some c → isSpaceByte c = false) ∧
      (∀ c, (trimSpace s).getLast? = some c → isSpaceByte c = false) := by
  rcases trimLeft_spec s with ⟨a, h1, h2, h3⟩
  rcases trimLeft_spec (trimLeft s).reverse with ⟨b, g1, g2, g3⟩
  have ht : trimLeft s = trimSpace s ++ b.reverse := by
    have := congrArg List.reverse g1
    simpa [trimSpace] using this
  refine ⟨a, b.reverse, ?_, h2, ?_, ?_, ?_⟩
  · rw [List.append_assoc, ← ht]; exact h1
  · intro c hc; exact g2 c (List.mem_reverse.mp hc)
  · intro c hc
    apply h3 c
    rw [ht]
    cases hts : trimSpace s with
    | nil => rw [hts] at hc; simp at hc
    | cons d t => rw [hts] at hc; simpa using hc
  · intro c hc
    apply g3 c
    simpa [trimSpace, List.getLast?_reverse] using hc

/-- trimming twice trims nothing more -/
theorem trimSpace_idempotent (s : Str) : trimSpace (trimSpace s) = trimSpace s := by
  rcases trimSpace_spec s with ⟨_, _, _, _, _, hh, hl⟩
  have e1 : trimLeft (trimSpace s) = trimSpace s := trimLeft_fixed _ hh
  have e2 : trimLeft (trimSpace s).reverse = (trimSpace s).reverse :=
    trimLeft_fixed _ (by simpa [List.head?_reverse] using hl)
  show (trimLeft (trimLeft (trimSpace s)).reverse).reverse = trimSpace s
  rw [e1, e2, List.reverse_reverse]

/-- a text of white space only trims to nothing, and only such a text does -/
theorem trimSpace_nil_iff (s : Str) : trimSpace s = [] ↔ visible s = false := by
  rw [visible_false_iff]
  refine ⟨fun h => by rw [← nonspace_trimSpace, h]; rfl, fun h => ?_⟩
  -- a text without visible characters is dropped whole by the first trim
  have hs : trimLeft s = [] :=
    (trimLeft_eq_dropWhile s).trans
      (List.dropWhile_eq_nil fun c hc => by simpa using List.filter_eq_nil_iff.mp h c hc)
  rw [trimSpace, hs]; rfl

/-! ## The sweep shared by line, paragraph and block grouping at its extremes -/

/-- a sweep that never breaks returns ONE group: the input as it is -/
theorem segment_never_break {α : Type} (brk : List α → α → List α → Bool)
    (hb : ∀ cur a rest, brk cur a rest = false) (l cur : List α) (hne : cur ++ l ≠ []) :
    segment brk l cur = [cur ++ l] := by
  fun_induction segment brk l cur with
  | case1 cur h => exact absurd ((List.append_nil cur).trans (List.isEmpty_iff.mp h)) hne
  | case2 cur h => rw [List.append_nil]
  | case3 a rest cur h ih => rw [ih (List.cons_ne_nil _ _), List.isEmpty_iff.mp h]; rfl
  | case4 a rest cur h hbk ih => rw [hb] at hbk; cases hbk
  | case5 a rest cur h hbk ih =>
    rw [ih (List.append_ne_nil_of_left_ne_nil (List.append_ne_nil_of_right_ne_nil _ (List.cons_ne_nil a [])) _),
      List.append_assoc]
    rfl

/-- a sweep that always breaks returns every element as its own group -/
theorem segment_always_break {α : Type} (brk : List α → α → List α → Bool)
    (hb : ∀ cur a rest, brk cur a rest = true) (l : List α) (c : α) :
    segment brk l [c] = [c] :: l.map (fun a => [a]) := by
  induction l generalizing c with
  | nil => simp [segment]
  | cons a l ih => simp [segment, hb, ih]

example : ∀ (cur : List Nat) (a : Nat) (rest : List Nat), (fun _ _ _ => false) cur a rest = false :=
  fun _ _ _ => rfl

end Tabula.C09More
