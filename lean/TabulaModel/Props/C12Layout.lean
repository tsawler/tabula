import TabulaModel.Lemmas.ChunkLayoutSections
import TabulaModel.Lemmas.ChunkLayoutMeta
import TabulaModel.Lemmas.ChunkSent
import TabulaModel.Lemmas.ChunkAtomic
/-!
# C12, layout-based chunker (`rag.NewChunker().Chunk`): the clauses of the property, all inputs

`Props/C12.lean` proves the cover of the layout-based chunker under two hypotheses (the sentence
splitter conserves text; no list exceeds `MaxChunkSize`) and leaves indices, ids, total, page
range and section path to the correspondence. Here

* `splitIntoSentences` is part of the model (`Model/ChunkSent.lean`, `chunkS`), so the first
  hypothesis is a theorem (`sentences_conserve`);
* the second hypothesis is replaced by the description of what the code does when it fails
  (`emitOrder`: an introducing paragraph is emitted behind its over-long list), which is still
  "every element exactly once, each kind in document order" (`layout_emit_order`);
* indices, ids and total (`layout_indices_ids_total`), the section path
  (`layout_section_path`, against the declarative `openSpec`) and the page range
  (`layout_page_range_partial`: for pages numbered upwards) are proved for every document and
  configuration;
* `layout_chunker_property` chains them into the statement of the property for `Chunker.Chunk`.

What stays outside: a section-opening heading is never part of a chunk text (known finding,
`C12.layout_heading_counterexample`).
-/
namespace Tabula.C12Layout
open Tabula.Chunk Tabula.ChunkLayout Tabula.ChunkSent

/-- **`splitIntoSentences` conserves its text**, white space aside: for every text and every
classification of the non-ASCII characters (the Unicode table is the only parameter left). -/
theorem sentences_conserve (low : Str → Bool) (text : Str) :
    strip (splitIntoSentences low text).flatten = strip text :=
  splitIntoSentences_strip low text

/-- no sentence is empty -/
theorem sentences_nonempty (low : Str → Bool) (text : Str) : ∀ s ∈ splitIntoSentences low text, s ≠ [] :=
  sentScan_nonempty low text []

/-- an initial (`J.`: a single capital behind a blank) and an end followed by a lower-case
letter (`e.g`) are no sentence ends; an end without a following blank is one -/
example :
    splitIntoSentences (fun _ => false) (ofString "See e.g. J. Doe. It works!Yes") =
      [ofString "See e.g.", ofString "J. Doe.", ofString "It works!", ofString "Yes"] := by decide +kernel

/-- filling in the sentences changes no kind, text, page or introduction flag -/
theorem layout_sentences_transparent (low : Str → Bool) (cfg : Cfg) (d : LDoc) :
    (canon cfg (withSents low d)).map CE.core = (canon cfg d).map CE.core :=
  withSents_canon low cfg d

/-- **Cover, layout-based chunker, every document and configuration** (`Chunker.Chunk` with
`splitIntoSentences`, sections split by paragraphs and sentences, orphan merging, atomic list
blocks, the `chunkByParagraphs` fallback): the chunk texts concatenate, white space aside, to
the texts of the document's paragraphs, lists and non-section headings in the order `emitted`. -/
theorem layout_chunker_cover (low : Str → Bool) (cfg : Cfg) (title : Str) (d : LDoc) :
    strip (textsOf (chunkS low cfg title d)) = strip (ceTexts (emitted cfg (withSents low d))) :=
  chunk_cover_full cfg title (withSents low d)
    (fun e he => sentsOK_of_model low cfg e (withSents_model low cfg d e he))

/-- **The emission order** is the canonical order of the document (per page: non-section
headings, paragraphs, lists) up to exchanging an introducing paragraph with its over-long
list: every element exactly once (`Perm`), each kind in document order, and no exchange at
all when every list is within `MaxChunkSize`. -/
theorem layout_emit_order (cfg : Cfg) (d : LDoc) :
    (emitted cfg d).Perm (canon cfg d) ∧
    (∀ k, (emitted cfg d).filter (fun e => e.kind == k) = (canon cfg d).filter (fun e => e.kind == k)) ∧
    ((∀ e ∈ canon cfg d, ListFits cfg e) → emitted cfg d = canon cfg d) :=
  ⟨emitted_perm cfg d, fun k => emitted_kind cfg k d, emitted_of_listFits cfg d⟩

/-- the full cover statement of `C12.layout_chunker_cover_partial` without the hypothesis on the
sentence splitter: when no list exceeds the maximum, the chunk texts are the document's content
in canonical order -/
theorem layout_chunker_cover_lists_fit (low : Str → Bool) (cfg : Cfg) (title : Str) (d : LDoc)
    (h : ∀ e ∈ canon cfg d, ListFits cfg e) :
    strip (textsOf (chunkS low cfg title d)) = strip (ceTexts (canon cfg d)) := by
  rw [layout_chunker_cover, emitted_of_listFits, withSents_texts]
  -- `ListFits` reads kind and text only
  intro e he
  rw [canon_withSents] at he
  obtain ⟨e0, h0, rfl⟩ := List.mem_map.mp he
  exact h e0 h0

/-- the hypothesis is satisfiable, and the reordering it excludes is real (max 8): paragraph
"a:" introduces a list longer than the maximum; the list's sentence chunk comes out first -/
example :
    let cfg : Cfg := ⟨8, 0, 3, true, [99]⟩
    let d : LDoc := [⟨1, some ⟨[], [⟨[97, 58], true, []⟩], [⟨[(0, [98, 99, 100, 101, 102, 103, 104])], []⟩]⟩⟩]
    (chunkS (fun _ => false) cfg [] d).map (·.text) = [[45, 32, 98, 99, 100, 101, 102, 103, 104], [97, 58]] ∧
    (emitted cfg d).map (·.text) = [[45, 32, 98, 99, 100, 101, 102, 103, 104], [97, 58]] ∧
    (canon cfg d).map (·.text) = [[97, 58], [45, 32, 98, 99, 100, 101, 102, 103, 104]] := by decide +kernel

/-- **Indices, ids, total** for `Chunker.Chunk`: indices are `0..n-1` in order, the ids
`<IDPrefix>_<index>` are pairwise distinct, every chunk reports `n` — for every document,
configuration and sentence parameter (sentence chunks, merged orphans and atomic blocks included). -/
theorem layout_indices_ids_total (cfg : Cfg) (title : Str) (d : LDoc) :
    (chunk cfg title d).map (·.idx) = List.range (chunk cfg title d).length ∧
    ((chunk cfg title d).map (·.id)).Nodup ∧
    ∀ c ∈ chunk cfg title d, c.total = (chunk cfg title d).length :=
  ⟨(chunk_numbering cfg title d).1, (chunk_numbering cfg title d).2.2⟩

/-- **Section path.** `buildSections` puts every content element into a section whose `Path` is
the chain of section-opening headings enclosing it: `labelled` walks the document in canonical
order, remembers every section-opening heading passed so far and labels each element with
`chain` of that history — the headings all of whose successors are strictly deeper
(`C12.open_iff`), any level sequence, skipped levels included. The labelled elements are
exactly the document's content (`labelled_content`). -/
theorem layout_section_path (cfg : Cfg) (d : LDoc) :
    labelsOf (flatForest (buildSections cfg d)) = labelled cfg d :=
  buildSections_labels cfg d

theorem labelled_content (cfg : Cfg) (d : LDoc) : (labelled cfg d).map (·.1) = canon cfg d :=
  labelled_fst cfg d

/-- what `chain` means (it is `openSpec` of the element-based chunker's specification) -/
theorem chain_iff (hist : List H) (t : Str) :
    t ∈ chain hist ↔ ∃ l pre post, hist = pre ++ (l, t) :: post ∧ ∀ r ∈ post, l < r.1 := by
  unfold chain
  constructor
  · intro h
    obtain ⟨⟨l, t'⟩, hm, e⟩ := List.mem_map.mp h
    simp only at e; subst e
    obtain ⟨pre, post, e1, e2⟩ := (mem_openSpec hist (l, t')).mp hm
    exact ⟨l, pre, post, e1, e2⟩
  · rintro ⟨l, pre, post, e1, e2⟩
    exact List.mem_map.mpr ⟨(l, t), (mem_openSpec hist (l, t)).mpr ⟨pre, post, e1, e2⟩, rfl⟩

/-- H1 A, (minor H4 m), para x | H3 C, para y | H2 B, para z (MinHeadingLevel 3): y lies under
[A, C], z under [A, B] -/
example :
    let cfg : Cfg := ⟨2000, 100, 3, true, [99]⟩
    let d : LDoc := [⟨1, some ⟨[⟨1, [65], []⟩, ⟨4, [109], []⟩], [⟨[120], false, []⟩], []⟩⟩,
                     ⟨2, some ⟨[⟨3, [67], []⟩], [⟨[121], false, []⟩], []⟩⟩,
                     ⟨3, some ⟨[⟨2, [66], []⟩], [⟨[122], false, []⟩], []⟩⟩]
    (labelled cfg d).map (fun x => (x.1.text, x.2)) =
      [([109], [[65]]), ([120], [[65]]), ([121], [[65], [67]]), ([122], [[65], [66]])] := by decide +kernel

/- Full statement (not true of the code, see `layout_page_range_counterexample`):
     ∀ cfg d, ∀ x ∈ flatForest (buildSections cfg d), SecPagesOK (d.map (·.number)) x
   `PageEnd` is the page of the element added last and `PageStart` the page of the heading, so the
   range encloses the content only when page numbers never decrease; 0 is the "unset" mark of the
   preamble's start page, so numbers start at 1. Extraction and `Document.AddPage` number pages
   that way (`C12Api.addPages_ascending`). -/

/-- **Page range.** For pages numbered from 1 upwards in non-decreasing order (`AscFrom`), every
section's `PageStart` and `PageEnd` are numbers of pages of the document, `PageStart <= PageEnd`,
and the page of every element of the section's content lies between them. (A section's range
starts on the page of its heading, which is not part of the chunk text — the range covers the
pages the content came from, it need not be the smallest such range.) -/
theorem layout_page_range_partial (cfg : Cfg) (d : LDoc) (b : Int) (hasc : AscFrom b d) :
    ∀ x ∈ flatForest (buildSections cfg d), SecPagesOK (d.map (·.number)) x :=
  buildSections_pages cfg d b hasc

/-- `AscFrom` is satisfiable by a page selection (pages 2, 2, 5) -/
example : AscFrom 1 [⟨2, none⟩, ⟨2, none⟩, ⟨5, none⟩] :=
  ⟨by decide, by decide, by decide, by decide, by decide, by decide, trivial⟩

/-- without the order on the page numbers the range need not cover the content: H1 on page 3,
a paragraph on page 3, another on page 1 — the section reports 3-1 -/
theorem layout_page_range_counterexample :
    let cfg : Cfg := ⟨2000, 100, 3, true, [99]⟩
    let d : LDoc := [⟨3, some ⟨[⟨1, [65], []⟩], [⟨[120], false, []⟩], []⟩⟩, ⟨1, some ⟨[], [⟨[121], false, []⟩], []⟩⟩]
    (chunk cfg [] d).map (fun c => (c.pageStart, c.pageEnd)) = [(3, 1)] := by decide +kernel

theorem numbers_withSents (low : Str → Bool) (d : LDoc) :
    (withSents low d).map (·.number) = d.map (·.number) := by
  simp [withSents, List.map_map, Function.comp_def]

theorem ascFrom_withSents (low : Str → Bool) (b : Int) (d : LDoc) (h : AscFrom b d) :
    AscFrom b (withSents low d) :=
  h.of_numbers (numbers_withSents low d)

open Tabula.ChunkAtomic in
/-- **`FindAtomicBlocks` / `GetAtomicBlockAt` refine the list recursion.** `Chunker.Chunk`
modelled with the atomic blocks computed up front by `FindAtomicBlocks`, looked up by
`GetAtomicBlockAt` and an index-driven main loop (`chunkAt`, the shape of the Go code) is the
`chunk` all the theorems above speak about — for every document and configuration. -/
theorem atomic_blocks_refine (cfg : Cfg) (title : Str) (d : LDoc) : chunkAt cfg title d = chunk cfg title d := by
  unfold chunkAt chunk
  simp only [chunkForestAt_eq, chunkByParagraphsAt_eq]

open Tabula.ChunkAtomic in
/-- every atomic block of a section lies inside the content and is one element (a list) or two
(a list and the paragraph before it); without `KeepListsIntact` there is none -/
theorem atomic_blocks_shape (keep : Bool) (content : List CE) :
    (∀ b ∈ findAtomicBlocks keep content, b.1 ≤ b.2 ∧ b.2 ≤ b.1 + 1 ∧ b.2 < content.length) ∧
    findAtomicBlocks false content = [] := by
  refine ⟨fun b hb => ?_, ?_⟩
  · obtain ⟨h1, h2⟩ := findFrom_shape keep none 0 content b hb
    obtain ⟨_, h3, _⟩ := findFrom_bounds keep none 0 content b hb
    exact ⟨h1, h2, by omega⟩
  · unfold findAtomicBlocks
    generalize (none : Option CE) = prev
    generalize 0 = j
    induction content generalizing prev j with
    | nil => rfl
    | cons e es ih => simp only [findFrom, Bool.false_and, Bool.false_eq_true, if_false]; exact ih _ _

open Tabula.ChunkAtomic in
/-- paragraph, introducing paragraph, list, list: the blocks [1,2] and [3,3] -/
example :
    findAtomicBlocks true [⟨.para, [120], 1, false, []⟩, ⟨.para, [121, 58], 1, true, []⟩,
      ⟨.list, [45, 32, 97], 1, false, []⟩, ⟨.list, [45, 32, 98], 1, false, []⟩] = [(1, 2), (3, 3)] := by decide +kernel

/-- **The property for `Chunker.Chunk`, end to end** (`chunkS` = `Chunk` with
`splitIntoSentences`; `d` any document whose pages are numbered upwards; any configuration):

1. the chunks are the groups of the sections (pre-order of the section tree, subsections
   included), with the total stamped on; when no section yields a chunk the document has no
   content, white space aside, and `chunkByParagraphs` takes over;
2. every chunk of a section's group carries the section's `Path`, `PageStart`, `PageEnd`, and the
   group's texts are, white space aside, the section's content in emission order;
3. the sections hold every content element exactly once in canonical order, each under the
   chain of section-opening headings enclosing it;
4. every section's page range lies on pages of the document and covers the pages of its content;
5. the concatenated chunk texts are the content in emission order, a permutation of the
   canonical order that keeps every kind in order;
6. indices are `0..n-1`, ids pairwise distinct, every chunk reports `n`. -/
theorem layout_chunker_property (low : Str → Bool) (cfg : Cfg) (title : Str) (d0 : LDoc) (hasc : AscFrom 1 d0) :
    let d := withSents low d0
    let secs := flatForest (buildSections cfg d)
    let forest := chunkForest cfg (buildSections cfg d) 0
    (chunkS low cfg title d0 = setTotal (if forest.isEmpty then chunkByParagraphs cfg title d else forest) ∧
      forest = (secGroups cfg secs 0).flatten ∧ (forest = [] → strip (ceTexts (canon cfg d)) = [])) ∧
    GroupsOK cfg secs (secGroups cfg secs 0) ∧
    (labelsOf secs = labelled cfg d ∧ (labelled cfg d).map (·.1) = canon cfg d ∧
      (canon cfg d).map CE.core = (canon cfg d0).map CE.core) ∧
    (∀ x ∈ secs, SecPagesOK (d0.map (·.number)) x) ∧
    (strip (textsOf (chunkS low cfg title d0)) = strip (ceTexts (emitted cfg d)) ∧
      (emitted cfg d).Perm (canon cfg d) ∧
      ∀ k, (emitted cfg d).filter (fun e => e.kind == k) = (canon cfg d).filter (fun e => e.kind == k)) ∧
    ((chunkS low cfg title d0).map (·.idx) = List.range (chunkS low cfg title d0).length ∧
      ((chunkS low cfg title d0).map (·.id)).Nodup ∧
      ∀ c ∈ chunkS low cfg title d0, c.total = (chunkS low cfg title d0).length) := by
  have hs : ∀ e ∈ canon cfg (withSents low d0), SentsOK cfg e :=
    fun e he => sentsOK_of_model low cfg e (withSents_model low cfg d0 e he)
  refine ⟨⟨rfl, ?_, forest_empty_blank cfg _ hs⟩, ?_, ⟨buildSections_labels cfg _, labelled_content cfg _,
    withSents_canon low cfg d0⟩, ?_, ⟨layout_chunker_cover low cfg title d0, emitted_perm cfg _,
    fun k => emitted_kind cfg k _⟩, layout_indices_ids_total cfg title _⟩
  · rw [chunkForest_flat, chunkFlat_groups]
  · apply secGroups_ok
    intro x hx e he
    apply hs
    rw [← buildSections_contents]
    exact List.mem_flatMap.mpr ⟨x, hx, he⟩
  · have := buildSections_pages cfg (withSents low d0) 1 (ascFrom_withSents low 1 d0 hasc)
    rw [numbers_withSents] at this
    exact this

end Tabula.C12Layout
