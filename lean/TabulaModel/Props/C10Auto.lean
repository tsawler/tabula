import TabulaModel.Lemmas.BuilderAuto
import TabulaModel.Props.C10
import TabulaModel.Props.C10Hist
/-!
# C10 — the life cycle of every extractor as a state machine over call histories

`Props/C10.lean` and `C10Hist.lean` prove invariants of the handle store (ownership, one open
reader per owner).  This file says what the life-cycle fields of EVERY extractor ARE after
ANY history, as a function of the calls alone:

* **automaton_refines**, **flags_of_history** — the store model run on a history and the
  three-state automaton of `Model/BuilderAuto.lean` (`idle` / `holding` / `borrowed`, moved by
  `ensureReader`, `Close`, the frames of the terminal and non-terminal operations, the failing
  `ensurePDFReader`, `clone`) run on the same calls agree on `reader != nil`, `ownsReader` and
  `readerOpened` of every extractor, on base and derived extractors, successes and failures;
* **life_local** — the state of an extractor is a fold over ITS OWN operations: nothing that is
  done to its parent, its children or its siblings, in any interleaving, shows in its flags;
* **holds_iff_last_op** — it holds a reader exactly when the last operation called on it was a
  `PageCount` / `IsMultiColumn` / `IsCharacterLevel` that got through `ensureReader`;
* **released_after_terminal**, **fd_closed_form**, **handles_released** — after a
  terminal operation or a `Close`, at the end of any history, the receiver holds nothing; the
  number of open readers of a family is the number of extractors whose last operation was such
  a probe; and a program that ends its use of every extractor with a terminal operation or a
  `Close` leaves no reader open, whatever it did before and in whatever order;
* **reader_family_borrowed** — every extractor of a `FromReader` family has a reader, opened
  and not owned, at all times.

`life_local` and what is derived from it are for `wellScoped` histories: an operation names an
extractor that exists when it is called.
-/
namespace Tabula.C10Auto
open Tabula.PageSel Tabula.Builder Tabula.BuilderAuto

/-- the base extractor of `Open(name)` for a name of format `f` -/
abbrev fileBase (f : Fmt) : Ext := { format := f }

/-- the base extractor of `FromReader(r)` -/
abbrev lentBase : Ext := { hasFile := false, reader := some 0, owns := false, opened := true }

theorem abs_openBaseF (f : Fmt) : abs (openBaseF f) = [.idle] := rfl
theorem abs_readerBase : abs readerBase = [.borrowed] := rfl

/-- **automaton_refines**: for every history, the life-cycle states of the extractors of the
store are the ones the automaton computes from the calls. -/
theorem automaton_refines (w : World) (f : Fmt) (ops : List Op) :
    abs (exec w (openBaseF f) ops) = lifeRun w (fileBase f) [[]] [.idle] ops ∧
    abs (exec w readerBase ops) = lifeRun w lentBase [[]] [.borrowed] ops := by
  constructor
  · have := abs_exec w (fileBase f) ops (inv_openBaseF f) (lin_base (fileBase f) [])
    rw [abs_openBaseF] at this
    exact this
  · have := abs_exec w lentBase ops inv_readerBase (lin_base lentBase [true])
    exact this

/-- **flags_of_history**: after ANY history on the family of `Open(name)`, the record of every
extractor has `reader != nil`, `ownsReader`, `readerOpened` as the automaton's state says, and
the configuration (options, builder error, format, file name) of the chain of calls that built
it.  The whole record, except the identity of the reader, is a function of the calls. -/
theorem flags_of_history (w : World) (f : Fmt) (ops : List Op) (i : Nat) (e : Ext)
    (he : (exec w (openBaseF f) ops).exts[i]? = some e) :
    ∃ l cs, (lifeRun w (fileBase f) [[]] [.idle] ops)[i]? = some l ∧
      (lineage [[]] ops)[i]? = some cs ∧
      e.reader.isSome = l.hasReader ∧ e.owns = l.owns ∧ e.opened = l.opened ∧
      e.static = (chainFrom (fileBase f) cs).static := by
  have hs := inv_exec w ops (inv_openBaseF f)
  have hl : LinInv (fileBase f) (lineage [[]] ops) (exec w (openBaseF f) ops) :=
    lin_exec w _ ops (lin_base _ [])
  have hi : i < (lineage [[]] ops).length := by rw [hl.1]; exact lt_of_getElem? he
  obtain ⟨h1, h2, h3⟩ := flags_of_lsOf hs he
  refine ⟨lsOf e, (lineage [[]] ops)[i], ?_, List.getElem?_eq_getElem hi, h3.symm, h1.symm, h2.symm, ?_⟩
  · rw [← (automaton_refines w f ops).1, abs_getElem?, he]; rfl
  · exact hl.2 i _ e (List.getElem?_eq_getElem hi) he

/-- the life-cycle flags for the family of `FromReader(r)` (nothing about the configuration) -/
theorem flags_of_history_reader (w : World) (ops : List Op) (i : Nat) (e : Ext)
    (he : (exec w readerBase ops).exts[i]? = some e) :
    ∃ l, (lifeRun w lentBase [[]] [.borrowed] ops)[i]? = some l ∧
      e.reader.isSome = l.hasReader ∧ e.owns = l.owns ∧ e.opened = l.opened := by
  have hs := inv_exec w ops inv_readerBase
  obtain ⟨h1, h2, h3⟩ := flags_of_lsOf hs he
  refine ⟨lsOf e, ?_, h3.symm, h1.symm, h2.symm⟩
  rw [← (automaton_refines w .pdf ops).2, abs_getElem?, he]; rfl

example : let w : World := ⟨true, some 3⟩
    let ops := [Op.nonTerm 0 .pageCount, .derive 0 (.pages [2]), .nonTerm 1 .isMultiColumn,
      .term 0 .text, .derive 1 .byColumn, .close 1]
    lifeRun w (fileBase .pdf) [[]] [.idle] ops = [.idle, .idle, .idle] ∧
    lifeRun w (fileBase .pdf) [[]] [.idle] (ops.take 3) = [.holding, .holding] := by decide

/-- **life_local**: in any well-scoped history on the family of `Open(name)`, the final state of
extractor `i` — built by the chain `cs` — is what ITS OWN operations, in their order, make of
`idle`.  Operations on other extractors (its parent's `PageCount`, a sibling's `Text`, a child's
`Close`, …) and their interleaving with its own do not enter. -/
theorem life_local (w : World) (f : Fmt) (ops : List Op) (hws : wellScoped 1 ops = true)
    (i : Nat) (cs : List BCall) (hl : (lineage [[]] ops)[i]? = some cs) :
    (lifeRun w (fileBase f) [[]] [.idle] ops)[i]? =
      some ((ownOps i ops).foldl (lsLocal w (chainFrom (fileBase f) cs)) .idle) := by
  have hnb : NoBorrowed [LS.idle] := fun l hl' => List.mem_singleton.mp hl' ▸ LS.noConfusion
  rw [life_fold w _ ops [[]] [.idle] rfl hws hnb i cs hl]
  cases i <;> rfl

example : let ops := [Op.nonTerm 0 .pageCount, .derive 0 (.pages [2]), .nonTerm 1 .isMultiColumn,
      .term 0 .text, .nonTerm 1 .pageCount]
    wellScoped 1 ops = true ∧ ownOps 1 ops = [.nonTerm 1 .isMultiColumn, .nonTerm 1 .pageCount] ∧
    ownOps 0 ops = [.nonTerm 0 .pageCount, .term 0 .text] := by decide

/-- **holds_iff_last_op**: after a well-scoped history, extractor `i` holds a reader iff the LAST
operation called on it (configuration methods do not count) is a `PageCount`, `IsMultiColumn` or
`IsCharacterLevel` that got through `ensureReader`: no builder error, an operation its format
supports, a file that opens.  An extractor nothing was called on holds nothing. -/
theorem holds_iff_last_op (w : World) (f : Fmt) (ops : List Op) (hws : wellScoped 1 ops = true)
    (i : Nat) (cs : List BCall) (hl : (lineage [[]] ops)[i]? = some cs) :
    (lifeRun w (fileBase f) [[]] [.idle] ops)[i]? = some .holding ↔
      holdsAtEnd w (chainFrom (fileBase f) cs) (ownOps i ops) = true := by
  rw [life_local w f ops hws i cs hl]
  have h := (fold_last w (chainFrom (fileBase f) cs) (ownOps i ops) .idle
    ⟨by simp, by intro h; cases h⟩ (ownOps_mutates i ops)).2
  simp only [Option.some.injEq]
  rw [h]
  unfold holdsAtEnd
  cases (ownOps i ops).getLast? with
  | none => simp
  | some op => rfl

/-- in terms of the record: `ownsReader` of extractor `i` after the history -/
theorem owns_iff_last_op (w : World) (f : Fmt) (ops : List Op) (hws : wellScoped 1 ops = true)
    (i : Nat) (e : Ext) (he : (exec w (openBaseF f) ops).exts[i]? = some e) :
    ∃ cs, (lineage [[]] ops)[i]? = some cs ∧
      (e.owns = true ↔ holdsAtEnd w (chainFrom (fileBase f) cs) (ownOps i ops) = true) := by
  obtain ⟨l, cs, hl, hcs, _, hown, _, _⟩ := flags_of_history w f ops i e he
  refine ⟨cs, hcs, ?_⟩
  rw [← holds_iff_last_op w f ops hws i cs hcs, hl, hown]
  cases l <;> simp [LS.owns]

example : let w : World := ⟨true, some 3⟩
    let ops := [Op.nonTerm 0 .pageCount, .derive 0 (.pages [2]), .nonTerm 1 .isMultiColumn,
      .term 0 .text, .nonTerm 1 .pageCount]
    holdsAtEnd w (chainFrom (fileBase .pdf) [.pages [2]]) (ownOps 1 ops) = true ∧
    holdsAtEnd w (chainFrom (fileBase .pdf) []) (ownOps 0 ops) = false ∧
    (exec w (openBaseF .pdf) ops).fdCount = 1 := by decide

/-! ## handles are released -/


theorem exec_append (w : World) (a b : List Op) : ∀ s : Store, exec w s (a ++ b) = exec w (exec w s a) b := by
  induction a with
  | nil => intro s; rfl
  | cons op a ih => intro s; exact ih _

/-- **released_after_terminal**: in any well-scoped history that ENDS with a terminal operation
(any of the fourteen, successful or failed) or a `Close` on extractor `i`, the record of `i`
has no reader, owns nothing and is not opened — whatever ran before, on `i` or on any other
extractor of the family. -/
theorem released_after_terminal (w : World) (f : Fmt) (ops : List Op) (last : Op)
    (hlast : (∃ k, last = .term last.target k) ∨ last = .close last.target)
    (hws : wellScoped 1 (ops ++ [last]) = true) (e : Ext)
    (he : (exec w (openBaseF f) (ops ++ [last])).exts[last.target]? = some e) :
    e.reader = none ∧ e.owns = false ∧ e.opened = false := by
  have hnb : NoBorrowed (abs (exec w (openBaseF f) (ops ++ [last]))) := by
    rw [(automaton_refines w f _).1]
    exact lifeRun_nb w _ _ _ fun l hl => List.mem_singleton.mp hl ▸ LS.noConfusion
  have hmut : last.mutates = true := by
    rcases hlast with ⟨k, hk⟩ | hk <;> rw [hk] <;> rfl
  -- the last operation releases what its receiver held, and nothing in this family is borrowed
  have hown : e.owns = false := by
    have hs := inv_exec w ops (inv_openBaseF f)
    rw [exec_append] at he
    obtain ⟨e0, he0, _⟩ := static_of_map (step_static w _ last hmut) he
    rcases hlast with ⟨k, hk⟩ | hk <;> rw [hk] at he
    · obtain ⟨e', he', ho, _⟩ := C10.terminal_releases w k _ hs _ e0 he0
      exact Option.some.inj (he'.symm.trans he) ▸ ho
    · obtain ⟨e', he', ho, _⟩ := C10.close_releases _ hs _ e0 he0
      exact Option.some.inj (he'.symm.trans he) ▸ ho
  obtain ⟨h1, h2⟩ := idle_of_unowned (inv_exec w _ (inv_openBaseF f)) hnb he hown
  exact ⟨h1, hown, h2⟩

example : let w : World := ⟨true, some 3⟩
    let ops := [Op.nonTerm 0 .pageCount, .derive 0 (.pages [7]), .nonTerm 1 .pageCount]
    wellScoped 1 (ops ++ [.term 1 .lines]) = true ∧
    (exec w (openBaseF .pdf) (ops ++ [.term 1 .lines])).exts[1]? =
      some { opts := { pages := [7] } } := by decide

/-- **close_after_terminal_is_noop**: "closing again is harmless", over all histories: in any
well-scoped history that ends with a terminal operation or a `Close` on extractor `i`, a further
`Close` of `i` — and a second one after it — returns nil and leaves the WHOLE store (every
record, every reader) exactly as it was. -/
theorem close_after_terminal_is_noop (w : World) (f : Fmt) (ops : List Op) (last : Op)
    (hlast : (∃ k, last = .term last.target k) ∨ last = .close last.target)
    (hws : wellScoped 1 (ops ++ [last]) = true)
    (hex : last.target < (exec w (openBaseF f) (ops ++ [last])).exts.length) :
    step w (exec w (openBaseF f) (ops ++ [last])) (.close last.target) =
      (exec w (openBaseF f) (ops ++ [last]), .closed) ∧
    exec w (openBaseF f) (ops ++ [last] ++ [.close last.target, .close last.target]) =
      exec w (openBaseF f) (ops ++ [last]) := by
  have he := List.getElem?_eq_getElem hex
  obtain ⟨_, _, ho⟩ := released_after_terminal w f ops last hlast hws _ he
  have hs := inv_exec w (ops ++ [last]) (inv_openBaseF f)
  have hstep : step w (exec w (openBaseF f) (ops ++ [last])) (.close last.target) =
      (exec w (openBaseF f) (ops ++ [last]), .closed) := by
    simp only [step, closeOp, he, closeExt_unopened hs he ho]
  refine ⟨hstep, ?_⟩
  rw [exec_append]
  simp only [exec, hstep]

example : let w : World := ⟨true, some 3⟩
    let ops := [Op.nonTerm 0 .pageCount, .derive 0 (.pages [2]), .nonTerm 1 .pageCount]
    wellScoped 1 (ops ++ [.term 1 .chunks]) = true ∧
    exec w (openBaseF .pdf) (ops ++ [.term 1 .chunks] ++ [.close 1, .close 1]) =
      exec w (openBaseF .pdf) (ops ++ [.term 1 .chunks]) := by decide

/-- **fd_closed_form**: after a well-scoped history on the family of `Open(name)` the number of
open readers is the number of extractors whose last operation was a probe that opened the file. -/
theorem fd_closed_form (w : World) (f : Fmt) (ops : List Op) (hws : wellScoped 1 ops = true) :
    (exec w (openBaseF f) ops).fdCount =
      ((List.range (lineage [[]] ops).length).filter fun i =>
        match (lineage [[]] ops)[i]? with
        | some cs => holdsAtEnd w (chainFrom (fileBase f) cs) (ownOps i ops)
        | none => false).length := by
  have hl : LinInv (fileBase f) (lineage [[]] ops) (exec w (openBaseF f) ops) := lin_exec w _ ops (lin_base _ [])
  rw [(C10Hist.fd_is_owners w f ops).1, owners, hl.1, List.range_eq_range']
  -- the owners, counted position by position
  refine countP_eq_filter_range _ _ _ 0 fun i hi => ?_
  obtain ⟨cs, hcs, hiff⟩ := owns_iff_last_op w f ops hws i _ (List.getElem?_eq_getElem hi)
  rw [Nat.zero_add, hcs]
  exact Bool.eq_iff_iff.mpr hiff

/-- **handles_released**: a well-scoped history in which the last operation called on every
extractor is a terminal operation or a `Close` (or nothing was called on it, or its last probe
failed before opening) leaves NO reader of the family open — whatever happened in between:
probes on bases with derived extractors alive, failures, repeated Closes, any interleaving. -/
theorem handles_released (w : World) (f : Fmt) (ops : List Op) (hws : wellScoped 1 ops = true)
    (hfin : ∀ i cs, (lineage [[]] ops)[i]? = some cs →
      holdsAtEnd w (chainFrom (fileBase f) cs) (ownOps i ops) = false) :
    (exec w (openBaseF f) ops).fdCount = 0 := by
  rw [fd_closed_form w f ops hws, List.length_eq_zero_iff, List.filter_eq_nil_iff]
  intro i _
  cases hl : (lineage [[]] ops)[i]? with
  | none => simp
  | some cs => simp [hfin i cs hl]

/-- the usual discipline: every extractor that was used at all was last used by a terminal
operation or closed -/
theorem released_when_finished (w : World) (f : Fmt) (ops : List Op) (hws : wellScoped 1 ops = true)
    (hfin : ∀ i op, (ownOps i ops).getLast? = some op → (∃ j k, op = .term j k) ∨ (∃ j, op = .close j)) :
    (exec w (openBaseF f) ops).fdCount = 0 := by
  apply handles_released w f ops hws
  intro i cs _
  unfold holdsAtEnd
  cases hl : (ownOps i ops).getLast? with
  | none => rfl
  | some op =>
    rcases hfin i op hl with ⟨j, k, rfl⟩ | ⟨j, rfl⟩ <;> rfl

example : let w : World := ⟨true, some 3⟩
    let ops := [Op.nonTerm 0 .pageCount, .derive 0 (.pages [2]), .nonTerm 1 .isMultiColumn,
      .derive 1 .byColumn, .nonTerm 2 .pageCount, .term 1 .text, .close 0, .term 2 .blocks, .close 0]
    wellScoped 1 ops = true ∧
    (ownOps 0 ops).getLast? = some (.close 0) ∧ (ownOps 1 ops).getLast? = some (.term 1 .text) ∧
    (ownOps 2 ops).getLast? = some (.term 2 .blocks) ∧ (ownOps 3 ops).getLast? = none ∧
    (exec w (openBaseF .pdf) ops).fdCount = 0 ∧
    (exec w (openBaseF .pdf) (ops.take 5)).fdCount = 3 := by decide

/-! ## `FromReader` families -/

theorem lsStep_allBorrowed (w : World) (C : List Ext) (S : List LS) (op : Op)
    (h : ∀ l ∈ S, l = LS.borrowed) : ∀ l ∈ lsStep w C S op, l = LS.borrowed := by
  refine lsStep_forall w C op (· = LS.borrowed) ?_ (by rintro _ rfl; rfl) h
  rintro e _ rfl
  exact lsLocal_forall w e op (· = LS.borrowed) (by rintro _ rfl; rfl) (by rintro _ rfl; rfl) rfl

theorem lifeRun_allBorrowed (w : World) (e0 : Ext) (ops : List Op) : ∀ (L : List (List BCall)) (S : List LS),
    (∀ l ∈ S, l = LS.borrowed) → ∀ l ∈ lifeRun w e0 L S ops, l = LS.borrowed := by
  induction ops with
  | nil => intro L S h; exact h
  | cons op ops ih =>
    intro L S h
    exact ih _ _ (lsStep_allBorrowed w _ S op h)

/-- **reader_family_borrowed**: every extractor of a family grown from `FromReader(r)` has, at
every point of every history, a reader, opened and NOT owned (so, by `C10Hist.fd_is_owners`, the
caller's reader is the only one the family ever has open). -/
theorem reader_family_borrowed (w : World) (ops : List Op) (i : Nat) (e : Ext)
    (he : (exec w readerBase ops).exts[i]? = some e) :
    e.owns = false ∧ e.opened = true ∧ e.reader.isSome = true := by
  obtain ⟨l, hl, h1, h2, h3⟩ := flags_of_history_reader w ops i e he
  have : l = .borrowed :=
    lifeRun_allBorrowed w lentBase ops [[]] [.borrowed]
      (by intro l hl; simpa using hl) l (List.mem_of_getElem? hl)
  rw [this] at h1 h2 h3
  exact ⟨h2, h3, h1⟩

example : (exec ⟨true, some 2⟩ readerBase [.derive 0 (.pages [1]), .term 1 .text, .close 0, .term 0 .chunks]).exts.map
    (fun e => (e.owns, e.opened)) = [(false, true), (false, true)] := by decide

end Tabula.C10Auto
