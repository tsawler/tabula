import TabulaModel.Props.C08
import TabulaModel.Lemmas.Expand
import TabulaModel.Lemmas.Dyck
/-!
# C08 — composition: the property's statement through forms and through the public API

`Props/C08.lean` proves `origin_spec` for `Do`-free programs and `xobject_matrix` for one
level of forms.  Here the two are chained, to any nesting depth (`origin_spec_forms`), and
then carried through the model of the public entry points (`Model/XDoc.lean`): names,
resource scopes, `mergeResources`, nesting limit, budget, operand checks
(`extract_unfolds`, `extract_origin_spec`).
-/
namespace Tabula.C08Forms
open Tabula Tabula.Matrix Tabula.GState Tabula.XDoc Tabula.C08

variable {α : Type} [Lean.Grind.CommRing α] [DecidableEq α] [LT α] [DecidableLT α]

omit [Lean.Grind.CommRing α] [DecidableEq α] [LT α] [DecidableLT α] in
theorem noForm_of_formFree (l : List (Op α)) (h : FormFree l) : NoForm l :=
  (noForm_iff_formFree l).mpr h

/-- **forms are `q N cm … Q`, to any depth**: a program whose forms have balanced content
(nested however deep, the program itself balanced or not) reports exactly the fragments —
or the error — of the `Do`-free program in which every form is spelled out as
`q`, its `/Matrix` as `cm`, its content, `Q` (a `Do` at the nesting limit of 10 being
dropped) -/
theorem forms_spelled_out (adv : Adv α) (ops : List (Op α)) (h : FormsBalanced ops) (s : State α) :
    run adv ops s = run adv (spellOut s.xdepth ops) s := by
  unfold run; rw [exec_inline adv ops h s]

/-- **origin_spec through forms nested to any depth**: for every program whose forms have
balanced content, the extractor fails exactly when the ISO 32000 definition fails on the
spelled-out program, and otherwise reports, fragment by fragment, the definition's origin
`(0,0) × Tm × CTM` at every position-determined show and its size factors at every show —
inside forms, inside forms inside forms, … as on the page. -/
theorem origin_spec_forms (adv : Adv α) (ops : List (Op α)) (h : FormsBalanced ops) (s : State α) :
    (run adv ops s).map (·.map absShow) = specRun (spellOut s.xdepth ops) (absState s) := by
  rw [forms_spelled_out adv ops h s]
  exact origin_spec adv _ (noForm_of_formFree _ (spellOut_formFree _ ops)) s

/-- the hypothesis is satisfiable by forms nested three deep with matrices at every level,
in an unbalanced page program; and the statement then pins the reported positions -/
example : FormsBalanced ([.cm ⟨2, 0, 0, 2, 10, 10⟩, .q,
    .form (some ⟨1, 0, 0, 1, 5, 0⟩) [.BT, .Td 1 1, .Tj 0, .form (some ⟨0, 1, -1, 0, 0, 0⟩)
      [.q, .cm ⟨3, 0, 0, 3, 0, 0⟩, .BT, .Tj 1, .form none [.BT, .Td 2 0, .Tj 2], .Q]]] : List (Op Int)) := by
  intro m body hm
  simp only [List.mem_cons, reduceCtorEq, Op.form.injEq, List.not_mem_nil, or_false, false_or] at hm
  obtain ⟨_, rfl⟩ := hm
  refine .plain _ _ rfl (.plain _ _ rfl (.plain _ _ rfl (.form _ _ _ ?_ .nil)))
  refine .qQ [.cm ⟨3, 0, 0, 3, 0, 0⟩, .BT, .Tj 1, .form none [.BT, .Td 2 0, .Tj 2]] [] ?_ .nil
  exact .plain _ _ rfl (.plain _ _ rfl (.plain _ _ rfl (.form _ _ _
    (.plain _ _ rfl (.plain _ _ rfl (.plain _ _ rfl .nil))) .nil)))

/-- the spelled-out program of that example, and what the definition (hence, by
`origin_spec_forms`, the extractor) reports for it: the innermost form's text at
`(0,0)·T(2,0)·[3·rot90·T(5,0)·(2,0,0,2,10,10)]` -/
example : spellOut 0 ([.cm ⟨2, 0, 0, 2, 10, 10⟩, .q,
    .form (some ⟨1, 0, 0, 1, 5, 0⟩) [.BT, .Td 1 1, .Tj 0, .form (some ⟨0, 1, -1, 0, 0, 0⟩)
      [.q, .cm ⟨3, 0, 0, 3, 0, 0⟩, .BT, .Tj 1, .form none [.BT, .Td 2 0, .Tj 2], .Q]]] : List (Op Int))
    = [.cm ⟨2, 0, 0, 2, 10, 10⟩, .q, .q, .cm ⟨1, 0, 0, 1, 5, 0⟩, .BT, .Td 1 1, .Tj 0,
        .q, .cm ⟨0, 1, -1, 0, 0, 0⟩, .q, .cm ⟨3, 0, 0, 3, 0, 0⟩, .BT, .Tj 1,
          .q, .BT, .Td 2 0, .Tj 2, .Q, .Q, .Q, .Q] := by
  simp [spellOut, cmOf, maxXObjectDepth]

example : run (fun _ _ => 0) ([.cm ⟨2, 0, 0, 2, 10, 10⟩, .q, .q, .cm ⟨1, 0, 0, 1, 5, 0⟩, .BT, .Td 1 1, .Tj 0,
        .q, .cm ⟨0, 1, -1, 0, 0, 0⟩, .q, .cm ⟨3, 0, 0, 3, 0, 0⟩, .BT, .Tj 1,
          .q, .BT, .Td 2 0, .Tj 2, .Q, .Q, .Q, .Q] : List (Op Int)) init
    = some [⟨22, 12, 12, 1, 4, true⟩, ⟨20, 10, 12, 1, 36, true⟩, ⟨20, 22, 12, 1, 36, true⟩] := by
  decide

/-- **`Extract` on a document is the operator model on its unfolding.**  For every
document (any object table: shared, cyclic, malformed), every page content as the parser
delivers it (any operands), and every extractor state: let `tree` be the unfolding of the
page under the extractor's resources, nesting depth and byte budget (`expandPage`).  Then
the error behaviour, the final graphics state and the fragments of `Extract` are those of
the operator model of `Props/C08.lean` run on `tree`. -/
theorem extract_unfolds (adv : Adv α) (doc : Doc α) (ops : List (RawOp α)) (x : XState α) :
    exec adv (expandPage doc x.resources x.gs.xdepth ops { x.acct with bytes := 0 }).1 x.gs =
      (if (extractRaw adv doc ops x).2.2 then none
       else some ((extractRaw adv doc ops x).1.gs, (extractRaw adv doc ops x).2.1.map (·.sh))) := by
  obtain ⟨gs, resources, acct⟩ := x
  unfold extractRaw expandPage
  cases resources with
  | none =>
    exact (extractLoop_refines adv doc expandNone gs.xdepth none
      (invoke_refines_none adv doc maxXObjectDepth gs.xdepth) ops
      ⟨gs, none, { acct with bytes := 0 }⟩ rfl rfl).1
  | some res =>
    exact (extractLoop_refines adv doc _ gs.xdepth (some res)
      (invoke_refines adv doc maxXObjectDepth gs.xdepth res) ops
      ⟨gs, some res, { acct with bytes := 0 }⟩ rfl rfl).1

/-- **The property's statement over the public API.**  For every document and page content
whose executed forms have balanced content (ISO 32000-1 8.10.1), `Extract` in any extractor
state fails exactly when the ISO 32000 definition fails on the unfolded, spelled-out
program (an unmatched `Q` on the page), and otherwise its fragments carry, one by one, the
origin `(0,0) × Tm × CTM` of the definition wherever the property determines it, and the
definition's size factors everywhere — whatever names, resource scopes, sharing, recursion
(cut by the nesting limit and the budget) and malformed operations the document contains. -/
theorem extract_origin_spec (adv : Adv α) (doc : Doc α) (ops : List (RawOp α)) (x : XState α)
    (hb : FormsBalanced (expandPage doc x.resources x.gs.xdepth ops { x.acct with bytes := 0 }).1) :
    (if (extractRaw adv doc ops x).2.2 then none
     else some ((extractRaw adv doc ops x).2.1.map fun f => absShow f.sh)) =
      specRun (spellOut x.gs.xdepth (expandPage doc x.resources x.gs.xdepth ops { x.acct with bytes := 0 }).1)
        (absState x.gs) := by
  rw [← origin_spec_forms adv _ hb x.gs]
  unfold run
  rw [extract_unfolds adv doc ops x]
  cases (extractRaw adv doc ops x).2.2 <;> simp [List.map_map, Function.comp_def]

/-- **`q … Q` around a page restores the extractor**: when the unfolding of the page is
`q body Q` with balanced `body` (forms to any depth inside), `Extract` does not fail and
leaves the graphics state — CTM, text state, stack, nesting depth — exactly as it found it;
this is the hypothesis of `C08Doc.history_calls_independent`. -/
theorem extract_qQ_restores (adv : Adv α) (doc : Doc α) (ops : List (RawOp α)) (x : XState α)
    (body : List (Op α)) (hb : Balanced body)
    (hu : (expandPage doc x.resources x.gs.xdepth ops { x.acct with bytes := 0 }).1 = Op.q :: (body ++ [Op.Q])) :
    (extractRaw adv doc ops x).2.2 = false ∧ (extractRaw adv doc ops x).1.gs = x.gs := by
  have h := extract_unfolds adv doc ops x
  rw [hu] at h
  obtain ⟨out, hq⟩ := qQ_restores adv body hb x.gs
  rw [hq] at h
  cases herr : (extractRaw adv doc ops x).2.2 with
  | true => rw [herr] at h; simp at h
  | false =>
    rw [herr] at h
    simp only [Bool.false_eq_true, if_false, Option.some.injEq, Prod.mk.injEq] at h
    exact ⟨rfl, h.1.symm⟩

/-- a document for the example below: the page binds `/F` to form 1; form 1 (with /Matrix)
shows a string and draws `/G`, which only its own /Resources bind, to form 2; form 2 shows a
string inside `q … Q` and draws `/F` — form 1 again, found through the merged resources —
so the graph is cyclic. -/
def exDoc : Doc Int := fun n =>
  if n = 1 then some (.form { matrix := some [some 2, some 0, some 0, some 2, some 5, some 7], resources := Slot.direct ⟨Slot.direct [([71], 2)]⟩, len := 30, body := some [⟨.BT, []⟩, ⟨.Td, [.num 1, .num 1]⟩, ⟨.Tj, [.str 4]⟩, ⟨.Do, [.name [71]]⟩] })
  else if n = 2 then some (.form { matrix := none, resources := Slot.missing, len := 20, body := some [⟨.q, []⟩, ⟨.BT, []⟩, ⟨.Tj, [.str 5]⟩, ⟨.Q, []⟩, ⟨.Do, [.name [70]]⟩] })
  else none

/-- the hypothesis of `extract_origin_spec` is satisfiable by a cyclic document: unfolded at
nesting depth 8, the cycle is cut by the nesting limit after form 1 → form 2 -/
example : (expandPage exDoc (some ⟨.direct [([70], 1)]⟩) 8 [⟨.q, []⟩, ⟨.Do, [.name [70]]⟩] ⟨0, 0, 0⟩).1
    = [.q, .form (some ⟨2, 0, 0, 2, 5, 7⟩) [.BT, .Td 1 1, .Tj 4, .form none [.q, .BT, .Tj 5, .Q]]] ∧
    FormsBalanced ([.q, .form (some ⟨2, 0, 0, 2, 5, 7⟩) [.BT, .Td 1 1, .Tj 4, .form none [.q, .BT, .Tj 5, .Q]]] : List (Op Int)) := by
  refine ⟨rfl, ?_⟩
  intro m body hm
  simp only [List.mem_cons, reduceCtorEq, Op.form.injEq, List.not_mem_nil, or_false, false_or] at hm
  obtain ⟨_, rfl⟩ := hm
  exact .plain _ _ rfl (.plain _ _ rfl (.plain _ _ rfl (.form _ _ _
    (.qQ [.BT, .Tj 5] [] (.plain _ _ rfl (.plain _ _ rfl .nil)) .nil) .nil)))

omit [Lean.Grind.CommRing α] [DecidableEq α] [LT α] [DecidableLT α] in
/-- **`Balanced` is what counting q and Q decides**: a program that takes the q/Q depth from
0 back to 0 without a `Q` at depth 0, and whose forms have balanced content, is `Balanced` —
so the hypothesis of `qQ_restores`, `xobject_matrix`, `origin_spec_forms` can be checked by
a linear scan -/
theorem balanced_of_counting (ops : List (Op α)) (hfb : FormsBalanced ops)
    (h : depthAfter 0 ops = some 0) : Balanced ops :=
  balanced_of_depth ops hfb h

omit [DecidableEq α] [LT α] [DecidableLT α] in
/-- in a document whose form objects all have q/Q-balanced content streams (counted on the
raw operations, `Do` not counting), every form of every unfolding — under any resources, at
any depth, with any budget left — has balanced content -/
theorem balanced_document_unfolds_balanced (doc : Doc α) (hdoc : DocBalanced doc) (resources : Option Res)
    (depth : Nat) (ops : List (RawOp α)) (a : Acct) :
    FormsBalanced (expandPage doc resources depth ops a).1 := by
  unfold expandPage
  cases resources with
  | none => exact expandOps_formsBalanced _ (fun n b => expandNone_balanced n b) ops a
  | some res => exact expandOps_formsBalanced _ (expandForm_balanced doc hdoc maxXObjectDepth depth res) ops a

/-- **The property's statement over the public API, from a condition on the document.**
If every form object of the document has a content stream balanced in q/Q (the only
hypothesis; ISO 32000-1 8.10.1 demands it), then for every page content, whatever its
operands, and every extractor state, `Extract` fails exactly when the ISO 32000 definition
fails on the unfolded, spelled-out program, and otherwise returns fragment by fragment the
definition's origin `(0,0) × Tm × CTM` at every position-determined show and its size
factors at every show — for every form graph: shared, cyclic, cut by the nesting limit or
by the budget. -/
theorem extract_origin_spec_doc (adv : Adv α) (doc : Doc α) (hdoc : DocBalanced doc)
    (ops : List (RawOp α)) (x : XState α) :
    (if (extractRaw adv doc ops x).2.2 then none
     else some ((extractRaw adv doc ops x).2.1.map fun f => absShow f.sh)) =
      specRun (spellOut x.gs.xdepth (expandPage doc x.resources x.gs.xdepth ops { x.acct with bytes := 0 }).1)
        (absState x.gs) :=
  extract_origin_spec adv doc ops x (balanced_document_unfolds_balanced doc hdoc _ _ _ _)

/-- the cyclic example document satisfies the hypothesis -/
example : DocBalanced exDoc := by
  intro n f h
  unfold exDoc at h
  split at h
  · injection h with h; injection h with h; subst h; rfl
  · split at h
    · injection h with h; injection h with h; subst h; rfl
    · cases h

end Tabula.C08Forms
