import TabulaModel.Props.C20Api
import TabulaModel.Lemmas.EncXml
/-!
# C20, encryption metadata — the DRM decision for every encryption.xml

Theorems about `Model/EncXml.lean`: what `hasEncryptedContent` makes of the CONTENT of
META-INF/encryption.xml (the struct declarations of epubdoc/drm.go and their two
`UnmarshalXML` methods), composed with the gate (`Model/Drm.lean`), the archive
(`Model/Admit.lean`) and the public API.  The tokeniser of `encoding/xml` is the only
parameter left: the statements are for every element tree it can deliver.
Helper lemmas: `Lemmas/EncXml.lean`.
-/
set_option autoImplicit false
namespace Tabula.C20E
open Tabula.Detect Tabula.Drm Tabula.Admit Tabula.EncXml Tabula.C20 Tabula.C20A

/-! ## what is read from the file -/

/-- `enc_parse_error_iff`: the parse fails — and the gate refuses — exactly when the file
cannot be read or tokenised, or its first element is not called `encryption` (in whatever
namespace, with whatever attributes) -/
theorem enc_parse_error_iff (d : EncDoc) :
    encEntries d = none ↔
      d = none ∨ d = some .other ∨ ∃ n as ks, d = some (.elem n as ks) ∧ n ≠ sEncryption := by
  cases d with
  | none => simp [encEntries]
  | some root =>
    cases root with
    | other => simp [encEntries, unmarshalEnc]
    | elem n as ks =>
      by_cases hn : n = sEncryption
      · simp [encEntries, unmarshalEnc, hn]
      · simp [encEntries, unmarshalEnc, hn]

/-- `enc_entries_spec`: a readable file gives ONE entry per direct child `EncryptedData` of
the root, in document order; the entry's algorithm is the last unqualified `Algorithm`
attribute over the element's `EncryptionMethod` children, its reference the last
unqualified `URI` attribute over the `CipherReference` children of its `CipherData`
children (`""` when there is none).  Nothing else of the file is looked at. -/
theorem enc_entries_spec (d : EncDoc) (es : List Entry) :
    encEntries d = some es ↔
      ∃ as ks, d = some (.elem sEncryption as ks) ∧ es = (dataKids ks).map entryOf :=
  encEntries_eq_some_iff d es

/-- `"META-INF/encryption.xml"`'s usual root attribute `xmlns="urn:oasis:names:tc:opendocument:xmlns:container"`,
abbreviated -/
def exNsAttr : XAttr := ⟨[], [120, 109, 108, 110, 115], [117, 114, 110, 58, 99]⟩

/-- a key element in front, one `EncryptedData` for a font (IDPF obfuscation) and one for a
chapter (AES) -/
def exTree : XNode :=
  .elem sEncryption [exNsAttr]
    [.other, .elem [75, 101, 121] [] [.elem sEncryptedData [] []],
     .elem sEncryptedData [⟨[], [73, 100], [49]⟩]
       [.elem sEncryptionMethod [⟨[], sAlgorithm, algoIdpf⟩] [], .other,
        .elem sCipherData [] [.elem sCipherReference [⟨[], sURI, uFont⟩] []]],
     .elem sEncryptedData []
       [.elem sCipherData [] [.other, .elem sCipherReference [⟨[], sURI, uCh1⟩] []],
        .elem sEncryptionMethod [⟨[], sAlgorithm, aes256⟩] [.elem [75] [] []]]]

example : encEntries (some exTree) = some [⟨algoIdpf, uFont⟩, ⟨aes256, uCh1⟩] := by decide +kernel

/-- an entry written the canonical way: an `EncryptedData` holding `EncryptionMethod/@Algorithm`,
a `KeyInfo` and `CipherData/CipherReference/@URI`, white space in between -/
def treeOfEntry (e : Entry) : XNode :=
  .elem sEncryptedData [⟨[], [73, 100], [101]⟩]
    [.other, .elem sEncryptionMethod [⟨[], sAlgorithm, e.algorithm⟩] [], .other,
     .elem [75, 101, 121, 73, 110, 102, 111] [] [.other],
     .elem sCipherData [] [.other, .elem sCipherReference [⟨[], sURI, e.uri⟩] [], .other], .other]

def treeOfEntries (es : List Entry) : XNode :=
  .elem sEncryption [exNsAttr] (es.flatMap fun e => [.other, treeOfEntry e])

theorem treeOfEntry_read (e : Entry) (rest : List XNode) :
    umRootKids (.other :: treeOfEntry e :: rest) = e :: umRootKids rest := by
  cases e with
  | mk a u =>
    have h1 : sCipherData ≠ sEncryptionMethod := by decide +kernel
    have h2 : ([75, 101, 121, 73, 110, 102, 111] : Str) ≠ sEncryptionMethod := by decide +kernel
    have h3 : ([75, 101, 121, 73, 110, 102, 111] : Str) ≠ sCipherData := by decide +kernel
    simp [umRootKids, treeOfEntry, umEncData, umMethod, umRef, umCipherData, lastAttr, h1, h2, h3]

/-- every list of entries written the canonical way — root `encryption`, per entry a
`treeOfEntry`, white space in between — is read back exactly -/
theorem enc_reads_declared_entries (es : List Entry) : encEntries (some (treeOfEntries es)) = some es := by
  simp only [encEntries, Option.bind_some, treeOfEntries, unmarshalEnc, if_true, Option.some.injEq]
  induction es with
  | nil => rfl
  | cons e rest ih =>
    rw [List.flatMap_cons, List.cons_append, List.cons_append, List.nil_append, treeOfEntry_read, ih]

/-! ## what is NOT read -/

/-- `enc_foreign_nodes_inert`: text, comments, and elements under any other name — with
whatever they contain, an `EncryptedData` included — can stand anywhere at any of the three
levels without changing what is read: the entries are taken from DIRECT children only -/
theorem enc_foreign_nodes_inert (x : XNode) (a b : List XNode) :
    (x.named sEncryptedData = false → umRootKids (a ++ x :: b) = umRootKids (a ++ b)) ∧
    (x.named sEncryptionMethod = false → x.named sCipherData = false →
      ∀ cur, umEncData cur (a ++ x :: b) = umEncData cur (a ++ b)) ∧
    (x.named sCipherReference = false → ∀ cur, umCipherData cur (a ++ x :: b) = umCipherData cur (a ++ b)) := by
  refine ⟨?_, ?_, ?_⟩
  · intro hx
    rw [umRootKids_eq, umRootKids_eq, dataKids_append, dataKids_append, dataKids_skip x hx]
  · intro h1 h2 cur
    rw [umEncData_eq, umEncData_eq, attrsOfNamed_append, attrsOfNamed_append, kidsOfNamed_append,
      kidsOfNamed_append, attrsOfNamed_skip _ x h1, kidsOfNamed_skip _ x h2]
  · intro hx cur
    rw [umCipherData_eq, umCipherData_eq, attrsOfNamed_append, attrsOfNamed_append, attrsOfNamed_skip _ x hx]

/-- an `EncryptedData` one level too deep (inside `EncryptedKey`) is not an entry -/
example : (XNode.elem [69, 110, 99, 114, 121, 112, 116, 101, 100, 75, 101, 121] []
    [.elem sEncryptedData [] []]).named sEncryptedData = false := by decide +kernel

/-- `enc_qualified_attributes_inert`: an attribute in a namespace — a namespace declaration
`xmlns:Algorithm="…"`, a foreign `p:URI="…"` — or under another name is never the
algorithm or the reference, wherever it stands among the attributes -/
theorem enc_qualified_attributes_inert (l : Str) (a b : List XAttr) (x : XAttr)
    (hx : x.space ≠ [] ∨ x.loc ≠ l) : lastAttr l (a ++ x :: b) = lastAttr l (a ++ b) := by
  have h1 : lastAttr l (x :: b) = lastAttr l b := by
    rw [lastAttr]
    cases lastAttr l b with
    | some v => rfl
    | none =>
      simp only
      rw [if_neg]
      rintro ⟨h1, h2⟩
      rcases hx with h | h
      · exact h h1
      · exact h h2
  rw [lastAttr_append, lastAttr_append, h1]

/-- `"xmlns"` -/
def sXmlns : Str := [120, 109, 108, 110, 115]

example : (⟨sXmlns, sAlgorithm, algoIdpf⟩ : XAttr).space ≠ [] ∨ (⟨sXmlns, sAlgorithm, algoIdpf⟩ : XAttr).loc ≠ sAlgorithm :=
  Or.inl (by decide)

/-- `<EncryptionMethod Algorithm="…aes256-cbc" xmlns:Algorithm="http://www.idpf.org/2008/embedding"/>`
over `OEBPS/ch1.xhtml` -/
def exShadow : List XNode :=
  [.elem sEncryptionMethod [⟨[], sAlgorithm, aes256⟩, ⟨sXmlns, sAlgorithm, algoIdpf⟩] [],
   .elem sCipherData [] [.elem sCipherReference [⟨[], sURI, uCh1⟩] []]]

/-- the defect the fix named at the head of `Model/EncXml.lean` repaired: with the attribute
matching of a field tagged `xml:"Algorithm,attr"` (any attribute with that local name, the last
one wins) the namespace declaration was read as the algorithm, and the AES-encrypted chapter
passed the gate as font obfuscation; the code as it is now refuses it -/
theorem pinned_namespace_declaration_shadows_counterexample :
    hasEncryptedContent [pinnedUmEncData ⟨[], []⟩ exShadow] = false ∧
    hasEncryptedContent [umEncData ⟨[], []⟩ exShadow] = true := by decide +kernel

/-! ## the algorithm test, for every algorithm string -/

/-- `obfuscation_iff`: `isFontObfuscation` on ANY string (no case folding, no trimming): the
two identifiers used in practice, exactly; or a string that contains `obfuscation` together
with `adobe.com` or `idpf.org` -/
theorem obfuscation_iff (a : Str) :
    isFontObfuscation a = true ↔
      a = algoIdpf ∨ a = algoAdobe ∨
      (hasSub sObfuscation a = true ∧ (hasSub sAdobeCom a = true ∨ hasSub sIdpfOrg a = true)) := by
  unfold isFontObfuscation
  by_cases h1 : a = algoIdpf ∨ a = algoAdobe
  · rw [if_pos h1]
    rcases h1 with h | h
    · simp [h]
    · simp [h]
  · rw [if_neg h1]
    have n1 : a ≠ algoIdpf := fun h => h1 (Or.inl h)
    have n2 : a ≠ algoAdobe := fun h => h1 (Or.inr h)
    cases hasSub sAdobeCom a <;> cases hasSub sIdpfOrg a <;> cases hasSub sObfuscation a <;> simp [n1, n2]

/-- the identifiers in another letter case, with a blank behind them, or the cipher
identifiers are not obfuscation -/
example : isFontObfuscation (upper algoIdpf) = false ∧ isFontObfuscation (algoIdpf ++ [32]) = false ∧
    isFontObfuscation aes256 = false := by decide +kernel

/-! ## the decision, for every encryption file -/

/-- `enc_decision`: `hasEncryptedContent` on the file — error (refused), or `true` iff
some direct `EncryptedData` child of the root `encryption` puts an algorithm that is not
font obfuscation on a reference with a content suffix -/
theorem enc_decision (d : EncDoc) :
    (hasEncryptedContentDoc d = none ↔ encEntries d = none) ∧
    (hasEncryptedContentDoc d = some true ↔
      ∃ as ks, d = some (.elem sEncryption as ks) ∧
        ∃ k ∈ dataKids ks, isFontObfuscation (algOf k) = false ∧ isContentFile (uriOf k) = true) := by
  refine ⟨by simp [hasEncryptedContentDoc], ?_⟩
  refine Iff.trans ?_ (exists_entry_iff d (fun e => isFontObfuscation e.algorithm = false ∧ isContentFile e.uri = true))
  simp only [hasEncryptedContentDoc, Option.map_eq_some_iff, hasEncryptedContent_iff]

/-- the decision does not depend on the order of the root's children -/
theorem enc_decision_child_order_independent (as as' : List XAttr) (ks ks' : List XNode) (hp : ks.Perm ks') :
    hasEncryptedContentDoc (some (.elem sEncryption as ks)) =
      hasEncryptedContentDoc (some (.elem sEncryption as' ks')) := by
  simp only [hasEncryptedContentDoc, encEntries, Option.bind_some, unmarshalEnc, if_true, Option.map_some,
    umRootKids_eq]
  rw [hasEncryptedContent_perm ((dataKids_perm hp).map entryOf)]

example : List.Perm [XNode.other, .elem sEncryptedData [] []] [.elem sEncryptedData [] [], .other] :=
  List.Perm.swap _ _ _

/-- `tree_drm_decision`: `checkForDRM` on the archive, with the encryption metadata as the
tokeniser delivers it.  Refused iff a member is named META-INF/rights.xml, or a member
named META-INF/encryption.xml cannot be read / tokenised / is not rooted in `encryption`,
or one of its direct `EncryptedData` children puts a non-obfuscation algorithm on a
content reference. -/
theorem tree_drm_decision (ms : List XMember) :
    archiveDRMX ms = true ↔
      (∃ m ∈ ms, m.name = nRights) ∨
      (∃ m ∈ ms, m.name = nEncryption ∧ encEntries m.doc = none) ∨
      (∃ m ∈ ms, m.name = nEncryption ∧ ∃ as ks, m.doc = some (.elem sEncryption as ks) ∧
        ∃ k ∈ dataKids ks, isFontObfuscation (algOf k) = false ∧ isContentFile (uriOf k) = true) := by
  -- some member is bad in one of the three ways of `amemberBad_iff`, its entries read off the tree
  simp only [archiveDRMX, archiveDRM_eq_any, List.any_map, List.any_eq_true, Function.comp_apply, amemberBad_iff,
    and_or_left, exists_or, XMember.toAMember, exists_entry_iff]
  rfl

/-- font-obfuscation-only archives pass: no rights file, every encryption file readable
and every one of its `EncryptedData` elements under an obfuscation algorithm — whatever
it covers -/
theorem tree_obfuscation_only_passes (ms : List XMember) (hr : ∀ m ∈ ms, m.name ≠ nRights)
    (hd : ∀ m ∈ ms, m.name = nEncryption → ∃ as ks, m.doc = some (.elem sEncryption as ks) ∧
      ∀ k ∈ dataKids ks, isFontObfuscation (algOf k) = true) :
    archiveDRMX ms = false := by
  cases h : archiveDRMX ms with
  | false => rfl
  | true =>
    exfalso
    rcases (tree_drm_decision ms).1 h with ⟨m, hm, hn⟩ | ⟨m, hm, hn, he⟩ | ⟨m, hm, hn, as, ks, hdoc, k, hk, ho, _⟩
    · exact hr m hm hn
    · obtain ⟨as, ks, hdoc, _⟩ := hd m hm hn
      have := (enc_entries_spec m.doc _).2 ⟨as, ks, hdoc, rfl⟩
      rw [he] at this; cases this
    · obtain ⟨as', ks', hdoc', hall⟩ := hd m hm hn
      rw [hdoc] at hdoc'
      cases hdoc'
      rw [hall k hk] at ho; cases ho

example : archiveDRMX [⟨nMimetype, some epubMime, none⟩,
    ⟨nEncryption, none, some (treeOfEntries [⟨algoIdpf, uFont⟩, ⟨algoAdobe, uCh1⟩])⟩] = false := by decide +kernel

example : archiveDRMX [⟨nEncryption, none, some exTree⟩] = true := by decide +kernel

/-! ## end to end: `tabula.Open(name).<op>()` on an EPUB, the metadata as a tree -/

/-- the file behind a name, with the archive's encryption metadata before `xml.Unmarshal` -/
def fileX (head : Str) (ms : List XMember) (acc : Format → Bool) : FileState :=
  .file head (some (ms.map XMember.toAMember)) acc

/-- `open_epub_drm_iff_tree`: an archive the sniffer takes for an EPUB, under an EPUB name
in any letter case and through any operation of the public API, gives `ErrDRMProtected`
exactly in the three cases of `tree_drm_decision` -/
theorem open_epub_drm_iff_tree (stem e : Str) (he : lower e = dotEpub) (rest : Str) (ms : List XMember)
    (acc : Format → Bool) (hfmt : archiveFormat (ms.map XMember.toAMember) = .epub) (k : TKind) :
    (openAndRun (stem ++ e) (fileX (sZipMagic ++ rest) ms acc) k).out = .drm ↔
      (∃ m ∈ ms, m.name = nRights) ∨
      (∃ m ∈ ms, m.name = nEncryption ∧ encEntries m.doc = none) ∨
      (∃ m ∈ ms, m.name = nEncryption ∧ ∃ as ks, m.doc = some (.elem sEncryption as ks) ∧
        ∃ d ∈ dataKids ks, isFontObfuscation (algOf d) = false ∧ isContentFile (uriOf d) = true) := by
  rw [← tree_drm_decision]
  unfold fileX archiveDRMX
  rw [open_epub_drm_iff stem e he rest _ acc hfmt k, ← archive_drm_decision]

example : archiveFormat (([⟨nMimetype, some epubMime, none⟩, ⟨nEncryption, none, some exTree⟩] : List XMember).map
    XMember.toAMember) = .epub := by decide +kernel

end Tabula.C20E
