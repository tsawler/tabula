import TabulaModel.Model.StyleCache
import TabulaModel.Props.C16
/-!
# C16 — the style resolvers' cache never changes a heading level (call histories)

The readers resolve styles through a cache that fills while the package is read, in
document order. The theorems: for EVERY history of `Resolve` calls on one resolver each call
answers what the cache-free `resolveHeading` answers (cache invariant), hence the element
list the reader computes with its cache is the element list of `Model/Docx.lean`
(`Docx.elements`, the function the other C16 theorems are about): the level of a heading is
a function of its own paragraph and the style definitions, whichever styles were resolved
before it - in body paragraphs, runs or table cells. Also here: the same for the ODT resolver's
cache, the level of a `text:h` (`odt_heading_level`: the precedence of `processHeading`, and of
`processHeadingOld`), the levels of nested ODT lists.
-/
namespace Tabula.C16Cache
open Tabula.Xml Tabula.Docx

/-- the cache invariant: every stored answer is the computed one -/
def CacheInv (st : Styles) (c : Cache) : Prop := ∀ id h, cacheGet c id = some h → h = resolveHeading st id

theorem cacheInv_nil (st : Styles) : CacheInv st [] := by
  intro id h hg; simp [cacheGet] at hg

theorem cacheGet_cons (c : Cache) (k : Str) (v : Option Nat) (id : Str) :
    cacheGet ((k, v) :: c) id = if k == id then some v else cacheGet c id := by
  unfold cacheGet
  simp only [List.find?_cons]
  cases h : k == id <;> simp

theorem resolveHeading_empty (st : Styles) : resolveHeading st [] = none := by simp [resolveHeading]

/-- one call answers the computed value and keeps the invariant -/
theorem resolveCached_sound (st : Styles) (c : Cache) (id : Str) (hinv : CacheInv st c) :
    (resolveCached st c id).1 = resolveHeading st id ∧ CacheInv st (resolveCached st c id).2 := by
  unfold resolveCached
  by_cases he : id = []
  · simp only [he, if_true]; exact ⟨(resolveHeading_empty st).symm, hinv⟩
  · simp only [he, if_false]
    cases hg : cacheGet c id with
    | some h => exact ⟨hinv id h hg, hinv⟩
    | none =>
      refine ⟨rfl, fun id' h' hg' => ?_⟩
      rw [cacheGet_cons] at hg'
      split at hg'
      · rename_i hk
        rw [← Option.some.inj hg', eq_of_beq hk]
      · exact hinv id' h' hg'

/-- **resolve_history_independent**. For every history of `Resolve` calls on one resolver -
any ids, any order, any repetition, starting from any cache that holds computed answers -
the k-th call answers what `resolveHeading` computes for its id. -/
theorem resolve_history_independent (st : Styles) : ∀ (ids : List Str) (c : Cache), CacheInv st c →
    (resolveSeq st c ids).1 = ids.map (resolveHeading st) ∧ CacheInv st (resolveSeq st c ids).2 := by
  intro ids
  induction ids with
  | nil => intro c h; exact ⟨rfl, h⟩
  | cons id rest ih =>
    intro c hinv
    obtain ⟨h1, h2⟩ := resolveCached_sound st c id hinv
    obtain ⟨h3, h4⟩ := ih _ h2
    simp only [resolveSeq, List.map_cons]
    exact ⟨by rw [h1, h3], h4⟩

/-- from a fresh resolver -/
theorem resolve_fresh (st : Styles) (ids : List Str) : (resolveSeq st [] ids).1 = ids.map (resolveHeading st) :=
  (resolve_history_independent st ids [] (cacheInv_nil st)).1

/-- non-vacuity: the cyclic pair of `Props/C16.lean`; B is asked for before A, A twice -/
example : (resolveSeq { defs := [C16.cycA, C16.cycB], defaultSz := 22 } [] [[66], [65], [65], [], [67]]).1
    = [some 3, some 3, some 3, none, none] := by decide +kernel

/-- `processParagraph` reads the resolver once, for the paragraph's own style id -/
theorem processParagraph_factors (st : Styles) (p : Node) :
    processParagraph st p = processParagraphH (resolveHeading st (styleIdOf p)) p := rfl

/-- one body element: same element, invariant kept -/
theorem processElementC_sound (st : Styles) (n : Node) (c : Cache) (hinv : CacheInv st c) :
    (processElementC st n c).1 = processElement st n ∧ CacheInv st (processElementC st n c).2 := by
  unfold processElementC processElement
  split
  · exact ⟨rfl, (resolve_history_independent st _ c hinv).2⟩
  · obtain ⟨h1, h2⟩ := resolveCached_sound st c (styleIdOf n) hinv
    refine ⟨?_, (resolve_history_independent st _ _ h2).2⟩
    simp only [h1, processParagraph_factors]

theorem processAllC_sound (st : Styles) : ∀ (nodes : List Node) (c : Cache), CacheInv st c →
    processAllC st nodes c = nodes.map (processElement st) := by
  intro nodes
  induction nodes with
  | nil => intro c _; rfl
  | cons n rest ih =>
    intro c hinv
    obtain ⟨h1, h2⟩ := processElementC_sound st n c hinv
    simp only [processAllC, List.map_cons, h1, ih _ h2]

/-- **elements_cache_transparent**. The element list the reader computes with its style cache
is `Docx.elements`: for every document and styles part, whatever the order in which styles
are met (a derived style before or after its ancestors, in the body or in table cells, once
or repeatedly). -/
theorem elements_cache_transparent (doc : Node) (styles : Option Node) : elementsC doc styles = elements doc styles := by
  unfold elementsC elements
  exact processAllC_sound _ _ [] (cacheInv_nil _)

/-- **heading_level_local**. The k-th element depends on the k-th body element and the style
definitions only: not on the elements before it, not on the cache they left behind. -/
theorem heading_level_local (st : Styles) (before : List Node) (n : Node) (after : List Node) :
    (processAllC st (before ++ n :: after) [])[before.length]? = some (processElement st n) := by
  rw [processAllC_sound st _ [] (cacheInv_nil st)]
  simp

/-- **direct_outline_level**. A paragraph whose style resolves to no heading and whose own
`w:outlineLvl` spells k ≤ 8 is a heading of level k+1; with a style that resolves to a heading
the style's level stands. The level is this paragraph's: `processParagraph` of another node
never sees it. -/
theorem direct_outline_level (st : Styles) (p : Node) :
    (∀ l, resolveHeading st (styleIdOf p) = some l → (processParagraph st p).heading = some l)
    ∧ (resolveHeading st (styleIdOf p) = none →
        (processParagraph st p).heading =
          (let o := childVal ((childNamed p.kids sPPr).map (·.kids) |>.getD []) sOutlineLvl
           if o ≠ [] then (parseOutlineLevel o).map (· + 1) else none)) := by
  rw [processParagraph_factors]
  constructor
  · intro l h; simp [processParagraphH, h]
  · intro h; simp [processParagraphH, h]

/-- the outline levels: "0".."8" give 1..9, "9" (body text) gives no heading -/
example : (List.range 10).map (fun k => parseOutlineLevel [48 + k]) =
    [some 0, some 1, some 2, some 3, some 4, some 5, some 6, some 7, some 8, none] := by decide +kernel

def OdtCacheInv (defs : List Odt.StyleDef) (c : Odt.Cache) : Prop :=
  ∀ n h, Odt.cacheGet c n = some h → h = Odt.resolveHeading defs n

theorem odt_cacheGet_cons (c : Odt.Cache) (k : Str) (v : Option Nat) (n : Str) :
    Odt.cacheGet ((k, v) :: c) n = if k == n then some v else Odt.cacheGet c n :=
  cacheGet_cons c k v n

theorem odt_resolveCached_sound (defs : List Odt.StyleDef) (c : Odt.Cache) (n : Str) (hinv : OdtCacheInv defs c) :
    (Odt.resolveCached defs c n).1 = Odt.resolveHeading defs n ∧ OdtCacheInv defs (Odt.resolveCached defs c n).2 := by
  unfold Odt.resolveCached
  by_cases he : n = []
  · simp only [he, if_true]; exact ⟨by simp [Odt.resolveHeading], hinv⟩
  · simp only [he, if_false]
    cases hg : Odt.cacheGet c n with
    | some h => exact ⟨hinv n h hg, hinv⟩
    | none =>
      refine ⟨rfl, fun n' h' hg' => ?_⟩
      rw [odt_cacheGet_cons] at hg'
      split at hg'
      · rename_i hk
        rw [← Option.some.inj hg', eq_of_beq hk]
      · exact hinv n' h' hg'

theorem odt_resolve_history_independent (defs : List Odt.StyleDef) : ∀ (names : List Str) (c : Odt.Cache), OdtCacheInv defs c →
    (Odt.resolveSeq defs c names).1 = names.map (Odt.resolveHeading defs) ∧ OdtCacheInv defs (Odt.resolveSeq defs c names).2 := by
  intro names
  induction names with
  | nil => intro c h; exact ⟨rfl, h⟩
  | cons n rest ih =>
    intro c hinv
    obtain ⟨h1, h2⟩ := odt_resolveCached_sound defs c n hinv
    obtain ⟨h3, h4⟩ := ih _ h2
    simp only [Odt.resolveSeq, List.map_cons]
    exact ⟨by rw [h1, h3], h4⟩

/-- an accepted outline level is one of 1..10 -/
theorem level19_range (s : Str) (l : Nat) (hl : Odt.level19 s = some l) : 1 ≤ l ∧ l ≤ 10 := by
  unfold Odt.level19 at hl
  cases hp : parseNat? s with
  | none => simp [hp] at hl
  | some v =>
    simp only [hp] at hl
    by_cases hv : 1 ≤ v ∧ v ≤ 10
    · simp only [hv, and_self, if_true, Option.some.injEq] at hl; omega
    · simp [hv] at hl

/-- **odt_heading_level** (the precedence of the repaired `processHeading`, d316e04). The level
of a `text:h`: its own `text:outline-level` when that is one of 1..10, whatever the style says;
else the level its style resolves to (a `default-outline-level` in 1..10 of the style's own
definition, else what the style name says) when there is one; else 1. -/
theorem odt_heading_level (defs : List Odt.StyleDef) (h : Node) :
    (∀ l, Odt.level19 (h.attr Odt.sOutlineLevel) = some l → (Odt.processHeading defs h).heading = some l)
    ∧ (Odt.level19 (h.attr Odt.sOutlineLevel) = none →
        ∀ l, Odt.resolveHeading defs (h.attr Odt.sStyleName) = some l → 0 < l → (Odt.processHeading defs h).heading = some l)
    ∧ (Odt.level19 (h.attr Odt.sOutlineLevel) = none → Odt.resolveHeading defs (h.attr Odt.sStyleName) = none →
        (Odt.processHeading defs h).heading = some 1)
    ∧ (∀ l, Odt.level19 (h.attr Odt.sOutlineLevel) = some l → 1 ≤ l ∧ l ≤ 10) := by
  refine ⟨?_, ?_, ?_, ?_⟩
  · intro l hl; simp [Odt.processHeading, hl]
  · intro hn l hr hl; simp [Odt.processHeading, hn, hr, hl]
  · intro hn hr; simp [Odt.processHeading, hn, hr]
  · intro l hl; exact level19_range _ l hl

/-- **odt_heading_outline_level**. The level of a `text:h` is the outline level the heading says itself
(`text:outline-level` in 1..10; ODF 1.2 part 1, 5.1.2 and 19.844) - for EVERY style sheet and
every style name the heading carries: no definition chain, no `style:default-outline-level`
and no built-in name `Heading_20_N` changes it. -/
theorem odt_heading_outline_level (defs : List Odt.StyleDef) (h : Node) (l : Nat)
    (hl : Odt.level19 (h.attr Odt.sOutlineLevel) = some l) :
    (Odt.processHeading defs h).heading = some l := by
  simp [Odt.processHeading, hl]

example : Odt.level19 (Node.attr (.elem [116, 101, 120, 116, 58, 104] [([116, 101, 120, 116, 58] ++ Odt.sOutlineLevel, [51])] []) Odt.sOutlineLevel) = some 3 := by decide

/-- the level does not depend on the style sheet nor on the style the heading names, as long
as the heading says a valid level itself: two documents that differ in their styles only
report the same level for it -/
theorem odt_heading_level_style_independent (defs defs' : List Odt.StyleDef) (tag : Str) (attrs attrs' : List (Str × Str))
    (kids : List Node) (l : Nat)
    (hl : Odt.level19 (Node.attr (.elem tag attrs kids) Odt.sOutlineLevel) = some l)
    (hl' : Odt.level19 (Node.attr (.elem tag attrs' kids) Odt.sOutlineLevel) = some l) :
    (Odt.processHeading defs (.elem tag attrs kids)).heading = (Odt.processHeading defs' (.elem tag attrs' kids)).heading := by
  rw [odt_heading_outline_level defs _ l hl, odt_heading_outline_level defs' _ l hl']

/-- every level `detectBuiltInHeading` reads off a style name is one of 1..10 -/
theorem detectBuiltInHeading_range (name : Str) (l : Nat) (hd : Odt.detectBuiltInHeading name = some l) : 1 ≤ l ∧ l ≤ 10 := by
  unfold Odt.detectBuiltInHeading at hd
  simp only at hd
  split at hd
  · rename_i e he
    have hm := List.mem_of_find?_eq_some he
    have hall : ∀ e ∈ Odt.headingMap, 1 ≤ e.2 ∧ e.2 ≤ 10 := by decide
    simp only [Option.some.injEq] at hd
    rw [← hd]; exact hall e hm
  · split at hd
    · simp only [Option.some.injEq] at hd
      rw [← hd]
      unfold Odt.nameLevel
      split
      · omega
      · split
        · rename_i i hi
          have := List.mem_of_find?_eq_some hi
          simp only [List.mem_range] at this
          omega
        · omega
    · simp at hd

/-- every level a style resolves to is one of 1..10 -/
theorem odt_resolveHeading_range (defs : List Odt.StyleDef) (name : Str) (l : Nat)
    (hr : Odt.resolveHeading defs name = some l) : 1 ≤ l ∧ l ≤ 10 := by
  unfold Odt.resolveHeading at hr
  split at hr
  · simp at hr
  · split at hr
    · exact detectBuiltInHeading_range _ l hr
    · split at hr
      · rename_i d _ l' hl'
        simp only [Option.some.injEq] at hr
        rw [← hr]; exact level19_range _ l' hl'
      · exact detectBuiltInHeading_range _ l hr

/-- **odt_heading_level_range**. Every `text:h` is reported as a heading of a level in 1..10,
whatever its attributes and the style sheet say. -/
theorem odt_heading_level_range (defs : List Odt.StyleDef) (h : Node) :
    ∃ l, (Odt.processHeading defs h).heading = some l ∧ 1 ≤ l ∧ l ≤ 10 := by
  cases hl : Odt.level19 (h.attr Odt.sOutlineLevel) with
  | some l => exact ⟨l, by simp [Odt.processHeading, hl], level19_range _ l hl⟩
  | none =>
    cases hr : Odt.resolveHeading defs (h.attr Odt.sStyleName) with
    | none => exact ⟨1, by simp [Odt.processHeading, hl, hr], by omega, by omega⟩
    | some l =>
      have := odt_resolveHeading_range defs _ l hr
      exact ⟨l, by simp [Odt.processHeading, hl, hr]; omega, this⟩

/-- **odt_heading_own_style_level_pinned_counterexample** (was finding
C16/odt-outline-level-vs-own-style-level; repaired in d316e04).
`<text:h text:style-name="Heading_20_1" text:outline-level="3">` in a document whose style
`Heading_20_1` carries `style:default-outline-level="1"`: the heading says level 3, the OLD
reader reported level 1 ("if style has heading level, prefer that"), and so it did with no
definition of the style at all (the level was then read off the built-in name). The repaired
`processHeading` reports level 3 on both. -/
theorem odt_heading_own_style_level_pinned_counterexample :
    let name : Str := [72, 101, 97, 100, 105, 110, 103, 95, 50, 48, 95, 49]
    let h : Node := .elem [116, 101, 120, 116, 58, 104]
      [([116, 101, 120, 116, 58] ++ Odt.sStyleName, name), ([116, 101, 120, 116, 58] ++ Odt.sOutlineLevel, [51])] [.text [88]]
    Odt.level19 (h.attr Odt.sOutlineLevel) = some 3
    ∧ (Odt.processHeadingOld [{ name := name, defaultOutline := [49] }] h).heading = some 1
    ∧ (Odt.processHeadingOld [] h).heading = some 1
    ∧ (Odt.processHeading [{ name := name, defaultOutline := [49] }] h).heading = some 3
    ∧ (Odt.processHeading [] h).heading = some 3 := by decide +kernel

/-- **odt_heading_old_precedence** (history). What the old `processHeading` reported: the level
the style resolves to when there is one, else the heading's own `text:outline-level` in 1..10,
else 1 (the former `odt_heading_level`). -/
theorem odt_heading_old_precedence (defs : List Odt.StyleDef) (h : Node) :
    (∀ l, Odt.resolveHeading defs (h.attr Odt.sStyleName) = some l → 0 < l → (Odt.processHeadingOld defs h).heading = some l)
    ∧ (Odt.resolveHeading defs (h.attr Odt.sStyleName) = none →
        (Odt.processHeadingOld defs h).heading = some ((Odt.level19 (h.attr Odt.sOutlineLevel)).getD 1)) := by
  refine ⟨?_, ?_⟩
  · intro l hr hl; simp [Odt.processHeadingOld, hr, hl]
  · intro hr; simp [Odt.processHeadingOld, hr]

/-- **odt_heading_repair_scope**. The repair changes the level of exactly the headings the
finding was about: old and repaired `processHeading` give the same paragraph unless the heading
says a valid level AND its style resolves to another one. -/
theorem odt_heading_repair_scope (defs : List Odt.StyleDef) (h : Node)
    (hs : Odt.level19 (h.attr Odt.sOutlineLevel) = none
      ∨ Odt.resolveHeading defs (h.attr Odt.sStyleName) = none
      ∨ Odt.resolveHeading defs (h.attr Odt.sStyleName) = Odt.level19 (h.attr Odt.sOutlineLevel)) :
    Odt.processHeadingOld defs h = Odt.processHeading defs h := by
  unfold Odt.processHeadingOld Odt.processHeading
  cases hl : Odt.level19 (h.attr Odt.sOutlineLevel) with
  | none =>
    cases hr : Odt.resolveHeading defs (h.attr Odt.sStyleName) <;> simp
  | some l =>
    have hl0 := (level19_range _ l hl).1
    cases hr : Odt.resolveHeading defs (h.attr Odt.sStyleName) with
    | none => simp
    | some l' =>
      rw [hl, hr] at hs
      have : l' = l := by simpa using hs
      subst this
      have : 0 < l' := by omega
      simp [this]

/-- and conversely: where the heading says a valid level and its style resolves to another
one, the old reader reported the style's level, the repaired one the heading's -/
theorem odt_heading_repair_effect (defs : List Odt.StyleDef) (h : Node) (l l' : Nat)
    (hl : Odt.level19 (h.attr Odt.sOutlineLevel) = some l)
    (hr : Odt.resolveHeading defs (h.attr Odt.sStyleName) = some l') :
    (Odt.processHeadingOld defs h).heading = some l' ∧ (Odt.processHeading defs h).heading = some l := by
  have h0 : 0 < l' := (odt_resolveHeading_range defs _ l' hr).1
  refine ⟨by simp [Odt.processHeadingOld, hr, h0], by simp [Odt.processHeading, hl]⟩

/-- a style whose own definition carries a default outline level in 1..10 gives that level -/
theorem odt_style_level (defs : List Odt.StyleDef) (name : Str) (d : Odt.StyleDef) (l : Nat)
    (hn : name ≠ []) (hd : Odt.lookup defs name = some d) (hl : Odt.level19 d.defaultOutline = some l) :
    Odt.resolveHeading defs name = some l := by
  simp [Odt.resolveHeading, hn, hd, hl]

example : Odt.level19 [49, 48] = some 10 ∧ Odt.level19 [49, 49] = none ∧ Odt.level19 [48] = none ∧ Odt.level19 [] = none := by decide

/-- **odt_list_nesting**. An item of a `text:list` nested d lists deep is a list item of level
d: its own paragraphs give one entry at the item's level (when they have text), the items of
the lists inside it follow one level deeper, in order. -/
theorem odt_list_nesting (level : Nat) (tag : Str) (attrs : List (Str × Str)) (kids : List Node) :
    Odt.listItemOf level (.elem tag attrs kids) =
      (let t := joinWith [32] (((childrenNamed kids Odt.sP).map Odt.paraText).filter (· ≠ []))
       if t ≠ [] then [(t, level)] else []) ++ Odt.subLists level kids := by
  simp [Odt.listItemOf]

/-- a nested list's items are one level deeper than the item that holds the list -/
theorem odt_sublist_level (level : Nat) (tag : Str) (attrs : List (Str × Str)) (kids rest : List Node)
    (hl : localName tag = Odt.sList) :
    Odt.subLists level (.elem tag attrs kids :: rest) = Odt.listItems (level + 1) kids ++ Odt.subLists level rest := by
  simp [Odt.subLists, hl]

end Tabula.C16Cache
