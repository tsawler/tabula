import TabulaModel.Props.C19
import TabulaModel.Model.HtmlApi
import TabulaModel.Lemmas.HtmlSteps
/-!
# C19 — further all-input laws of the HTML model

About the existing models (Model/Nav.lean, Model/Html.lean), for every string, vocabulary, tree,
predicate, position and traversal state:

* the class/id pattern is a homomorphism in its vocabulary (the ONE combined regular expression the
  code uses decides exactly like the disjunction of the four documented groups nav / header /
  footer / sidebar), and it is case-insensitive as a law: any re-spelling of the characters that
  keeps their case fold and their letter-ness (e.g. upper-casing, lower-casing) keeps the decision;
* what a decision may depend on: Explicit and Standard never look at the children, no mode looks
  at the position beyond `isTopLevel`;
* an excluded node leaves the traversal state untouched (pending list items are not even flushed):
  its siblings close up, in the specification and in the stateful traversal;
* the output of the traversal only grows: the elements emitted so far are never retracted, changed
  or reordered by anything that follows, so the elements (and the text) of the first children of a
  node are a prefix of the elements (text) of all its children;
* `TextWithOptions` is a left fold: text of a concatenation, text only grows;
* the per-mode cache of the reader keyed by the four documented modes (`Reader`) stays small on
  every call history.
-/
namespace Tabula.C19More
open Tabula.Html

/-! ## the pattern is a homomorphism in its vocabulary -/

theorem word_at_union (v1 v2 : List Str) (s : Str) :
    wordAt (v1 ++ v2) s = (wordAt v1 s || wordAt v2 s) := by
  unfold wordAt; rw [List.any_append]

theorem match_from_union (v1 v2 : List Str) : ∀ (s : Str) (b : Bool),
    matchFrom (v1 ++ v2) b s = (matchFrom v1 b s || matchFrom v2 b s)
  | [], b => by simp [matchFrom]
  | c :: cs, b => by
      simp only [matchFrom, word_at_union, match_from_union v1 v2 cs]
      rw [Bool.and_or_distrib_left]
      ac_rfl

/-- the regular expression built from two vocabularies together matches exactly the strings one
of the two separate expressions matches, for every string -/
theorem pattern_union (v1 v2 : List Str) (s : Str) :
    matchVocab (v1 ++ v2) s = (matchVocab v1 s || matchVocab v2 s) :=
  match_from_union v1 v2 s false

/-- an empty vocabulary matches nothing (modes None and Explicit) -/
theorem empty_vocabulary_matches_nothing : ∀ (s : Str) (b : Bool), matchFrom [] b s = false
  | [], _ => rfl
  | c :: cs, b => by
      simp only [matchFrom, wordAt, List.any_nil, Bool.and_false, Bool.false_or]
      exact empty_vocabulary_matches_nothing cs _

/-- … and so does the class/id rule, attribute by attribute -/
theorem class_id_rule_union (v1 v2 : List Str) (attrs : List (Str × Str)) :
    excludedPattern (v1 ++ v2) attrs = (excludedPattern v1 attrs || excludedPattern v2 attrs) := by
  simp only [excludedPattern, pattern_union]
  rw [Bool.and_or_distrib_left, Bool.and_or_distrib_left]
  ac_rfl

/-- THE COMBINED PATTERN IS THE FOUR DOCUMENTED GROUPS: `shouldExcludeByPattern` asks one regular
expression (`navigationPatterns.excluded`); for every attribute list it decides exactly like
"the nav pattern or the header pattern or the footer pattern or the sidebar pattern" -/
theorem class_id_rule_is_the_four_groups (attrs : List (Str × Str)) :
    excludedPattern vocabExcluded attrs =
      (excludedPattern vocabNav attrs || excludedPattern vocabHeader attrs ||
       excludedPattern vocabFooter attrs || excludedPattern vocabSidebar attrs) := by
  rw [Tabula.C19.vocab_excluded_is_union, class_id_rule_union, class_id_rule_union, class_id_rule_union]

/-! ## case-insensitivity as a law -/

theorem fold_idempotent (c : Nat) : fold (fold c) = fold c := by
  refine fold_cases (fun _ d => fold d = d) ?_ (by decide) (by decide) (fun c h1 h2 h3 => fold_other h1 h2 h3) c
  intro c h
  exact fold_other (by omega) (by omega) (by omega)

theorem letter_of_fold (c : Nat) : isLetter (fold c) = isLetter c := by
  refine fold_cases (fun c d => isLetter d = isLetter c) ?_ (by decide) (by decide) (fun _ _ _ _ => rfl) c
  intro c h
  rw [(isLetter_iff _).mpr (Or.inl (by omega)), (isLetter_iff _).mpr (Or.inr (Or.inl h))]

/-- a re-spelling of characters that the pattern cannot see: same case fold, same letter-ness -/
def Respelling (g : Nat → Nat) : Prop := (∀ c, fold (g c) = fold c) ∧ (∀ c, isLetter (g c) = isLetter c)

theorem strip_word_respelled (g : Nat → Nat) (hg : Respelling g) : ∀ (w s : Str),
    stripWord w (s.map g) = (stripWord w s).map (List.map g) :=
  fun w s => by
    have e : fold ∘ g = fold := funext hg.1
    rw [stripWord_eq, stripWord_eq, ← List.map_take, List.map_map, e, ← List.map_drop]
    split <;> rfl

theorem word_at_respelled (g : Nat → Nat) (hg : Respelling g) (vocab : List Str) (s : Str) :
    wordAt vocab (s.map g) = wordAt vocab s := by
  unfold wordAt
  congr 1
  funext w
  rw [strip_word_respelled g hg]
  cases stripWord w s with
  | none => rfl
  | some r =>
    cases r with
    | nil => rfl
    | cons c cs => simp [hg.2]

theorem match_from_respelled (g : Nat → Nat) (hg : Respelling g) (vocab : List Str) :
    ∀ (s : Str) (b : Bool), matchFrom vocab b (s.map g) = matchFrom vocab b s
  | [], _ => rfl
  | c :: cs, b => by
      have h := word_at_respelled g hg vocab (c :: cs)
      simp only [List.map_cons] at h
      simp only [List.map_cons, matchFrom, h, hg.2, match_from_respelled g hg vocab cs]

/-- CASE-INSENSITIVITY, for every vocabulary and every string: re-spelling the characters of a
class/id value in any way that keeps case fold and letter-ness never changes the decision -/
theorem pattern_respelling_invariant (g : Nat → Nat) (hg : Respelling g) (vocab : List Str) (s : Str) :
    matchVocab vocab (s.map g) = matchVocab vocab s :=
  match_from_respelled g hg vocab s false

/-- lower-casing by the fold itself is such a re-spelling (Kelvin sign → k, long s → s) … -/
theorem fold_is_respelling : Respelling fold := ⟨fold_idempotent, letter_of_fold⟩

def asciiUpper (c : Nat) : Nat := if 97 ≤ c ∧ c ≤ 122 then c - 32 else c

/-- … and so is ASCII upper-casing -/
theorem upper_is_respelling : Respelling asciiUpper := by
  -- a lower-case letter `c` and its capital `c - 32` both fold to `c` and are both letters
  have key : ∀ c, fold (asciiUpper c) = fold c ∧ isLetter (asciiUpper c) = isLetter c := by
    intro c
    by_cases h : 97 ≤ c ∧ c ≤ 122
    · rw [show asciiUpper c = c - 32 from if_pos h, fold_upper (by omega),
        fold_other (by omega) (by omega) (by omega), (isLetter_iff c).mpr (Or.inl h),
        (isLetter_iff (c - 32)).mpr (Or.inr (Or.inl (by omega)))]
      exact ⟨by omega, rfl⟩
    · rw [show asciiUpper c = c from if_neg h]
      exact ⟨rfl, rfl⟩
  exact ⟨fun c => (key c).1, fun c => (key c).2⟩

/-- the class/id rule decides alike on a value, its lower-casing and its upper-casing -/
theorem pattern_case_insensitive (vocab : List Str) (s : Str) :
    matchVocab vocab (s.map fold) = matchVocab vocab s ∧
    matchVocab vocab (s.map asciiUpper) = matchVocab vocab s :=
  ⟨pattern_respelling_invariant fold fold_is_respelling vocab s,
   pattern_respelling_invariant asciiUpper upper_is_respelling vocab s⟩

example : [110, 97, 118].map asciiUpper = [78, 65, 86] ∧ [78, 0x212A, 0x17F].map fold = [110, 107, 115] := by
  decide

/-! ## what a decision may depend on -/

/-- Explicit and Standard (and None) never look at the content of the element: same tag, same
attributes, same position → same decision, whatever the children are -/
theorem decision_ignores_children (m : Mode) (hm : m.rank ≤ 2) (pos : Pos) (tag : Str)
    (attrs : List (Str × Str)) (k1 k2 : List Dom) :
    excluded m pos (.elem tag attrs k1) = excluded m pos (.elem tag attrs k2) := by
  cases m <;> simp [excluded, Mode.rank] at hm ⊢

example : Mode.standard.rank ≤ 2 := by decide

/-- no mode sees more of the position than `isTopLevel` -/
theorem decision_sees_only_top_level (m : Mode) (p1 p2 : Pos) (h : p1.isTop = p2.isTop) (n : Dom) :
    excluded m p1 n = excluded m p2 n := by
  cases n with
  | elem tag attrs kids => simp only [excluded, excludedExplicit, h]
  | text _ => rfl
  | other _ => rfl

example : Pos.root.isTop = Pos.deep.isTop ∧ Pos.bodyChild.isTop = Pos.wrapChild.isTop := by decide

/-! ## an excluded node leaves no trace -/

/-- the traversal state after an excluded element is the state before it — not even the pending
list items are flushed -/
theorem excluded_node_leaves_state (p : Pos → Dom → Bool) (w : Bool) (pos : Pos) (tag : Str)
    (attrs : List (Str × Str)) (kids : List Dom) (s : St) (h : p pos (.elem tag attrs kids) = true) :
    trav p w pos (.elem tag attrs kids) s = s := by
  unfold trav
  by_cases hs : isSkip tag = true <;> simp [hs, h]

theorem excluded_node_no_atoms (p : Pos → Dom → Bool) (w : Bool) (pos : Pos) (lc : LC) (tag : Str)
    (attrs : List (Str × Str)) (kids : List Dom) (h : p pos (.elem tag attrs kids) = true) :
    atoms p w pos lc (.elem tag attrs kids) = [] := by
  unfold atoms
  by_cases hs : isSkip tag = true <;> simp [hs, h]

theorem travL_append (p : Pos → Dom → Bool) (w : Bool) (kp : Pos) : ∀ (a b : List Dom) (s : St),
    travL p w kp (a ++ b) s = travL p w kp b (travL p w kp a s)
  | [], b, s => by simp [travL]
  | k :: a, b, s => by simp only [List.cons_append, travL]; exact travL_append p w kp a b _

/-- the siblings of an excluded node close up: the children `a ++ k :: b` with `k` excluded give
what the children `a ++ b` give, in the specification and (state by state) in the traversal -/
theorem excluded_sibling_closes_up (p : Pos → Dom → Bool) (w : Bool) (kp : Pos) (lc : LC)
    (a b : List Dom) (tag : Str) (attrs : List (Str × Str)) (kids : List Dom)
    (h : p kp (.elem tag attrs kids) = true) :
    atomsL p w kp lc (a ++ .elem tag attrs kids :: b) = atomsL p w kp lc (a ++ b) ∧
    ∀ s, travL p w kp (a ++ .elem tag attrs kids :: b) s = travL p w kp (a ++ b) s := by
  constructor
  · rw [atomsL_append, atomsL_append]
    simp only [atomsL, excluded_node_no_atoms p w kp lc tag attrs kids h, List.nil_append]
  · intro s
    rw [travL_append, travL_append]
    simp only [travL, excluded_node_leaves_state p w kp tag attrs kids _ h]

example : excluded .explicit .deep (.elem T.nav [] []) = true := by decide

/-! ## the output only grows -/

theorem flush_keeps_out (s : St) : s.out <+: (flushList s).out := by
  unfold flushList
  split
  · exact List.prefix_append _ _
  · exact List.prefix_refl _

theorem emit_keeps_out (s : St) (e : Element) : s.out <+: (s.emit e).out :=
  List.prefix_append s.out [e]

theorem listEnter_keeps_out (ord : Bool) (s : St) : s.out <+: (listEnter ord s).out := by
  simp only [listEnter]
  split
  · exact flush_keeps_out s
  · exact List.prefix_refl _

theorem listExit_keeps_out (s s3 : St) : s3.out <+: (listExit s s3).out := by
  simp only [listExit]
  split
  · exact List.prefix_refl _
  · split
    · exact emit_keeps_out _ _
    · exact List.prefix_refl _

theorem liHead_out (kids : List Dom) (s : St) : (liHead kids s).out = s.out := by
  simp only [liHead]
  split <;> rfl

/-- every operation of the state machine keeps what was emitted, so any number of them does -/
theorem steps_keep_out {s s' : St} (h : Steps s s') : s.out <+: s'.out := by
  induction h with
  | trans _ _ ih1 ih2 => exact ih1.trans ih2
  | flush => exact flush_keeps_out _
  | emit => exact emit_keeps_out _ _
  | listEnter => exact listEnter_keeps_out _ _
  | listExit => exact listExit_keeps_out _ _
  | liHead => rw [liHead_out]; exact List.prefix_refl _
  | strayExit => exact flush_keeps_out _
  | _ => exact List.prefix_refl _

/-- OUTPUT ONLY GROWS: whatever node is traversed from whatever state, the elements already
emitted stay, unchanged and in place, as a prefix of the output afterwards -/
theorem trav_out_grows (p : Pos → Dom → Bool) (w : Bool) :
    ∀ (t : Dom) (pos : Pos) (s : St), s.out <+: (trav p w pos t s).out :=
  fun t pos s => steps_keep_out (trav_steps p w t pos s)
theorem travL_out_grows (p : Pos → Dom → Bool) (w : Bool) :
    ∀ (ts : List Dom) (kp : Pos) (s : St), s.out <+: (travL p w kp ts s).out :=
  fun ts kp s => steps_keep_out (travL_steps p w ts kp s)
theorem travLi_out_grows (p : Pos → Dom → Bool) (w : Bool) :
    ∀ (ts : List Dom) (kp : Pos) (s : St), s.out <+: (travLi p w kp ts s).out :=
  fun ts kp s => steps_keep_out (travLi_steps p w ts kp s)
theorem travM_out_grows (p : Pos → Dom → Bool) (w : Bool) :
    ∀ (ts : List Dom) (kp : Pos) (run : Str) (s : St), s.out <+: (travM p w kp ts run s).out :=
  fun ts kp run s => steps_keep_out (travM_steps p w ts kp run s)

/-- DOCUMENT ORDER AT THE ELEMENT LEVEL: the elements produced by the first children `a` of a node
are a prefix of the elements produced by all its children `a ++ b`, from every state — nothing
that comes later in the document changes, moves or removes an element already returned -/
theorem earlier_siblings_elements_prefix (p : Pos → Dom → Bool) (w : Bool) (kp : Pos) (a b : List Dom) (s : St) :
    (travL p w kp a s).out <+: (travL p w kp (a ++ b) s).out := by
  rw [travL_append]
  exact travL_out_grows p w b kp _

/-! ## TextWithOptions is a left fold that only appends -/

theorem text_of_concatenation : ∀ (a b : List Element) (acc : Str),
    renderText (a ++ b) acc = renderText b (renderText a acc)
  | [], b, acc => by simp [renderText]
  | e :: a, b, acc => by
      simp only [List.cons_append, renderText]
      exact text_of_concatenation a b _

theorem text_only_grows : ∀ (els : List Element) (acc : Str), acc <+: renderText els acc
  | [], acc => by simp only [renderText]; exact List.prefix_refl _
  | e :: rest, acc => by
      simp only [renderText]
      refine List.IsPrefix.trans ?_ (text_only_grows rest _)
      cases e with
      | table hd rows =>
        simp only []
        split
        · exact List.prefix_refl _
        · simp only [List.append_assoc]; exact List.prefix_append _ _
      | _ => simp only [List.append_assoc]; exact List.prefix_append _ _

/-- hence the TEXT of the first children of a node is a prefix of the text of all its children
(rendered from the same state): `TextWithOptions` writes in document order and never goes back -/
theorem earlier_siblings_text_prefix (p : Pos → Dom → Bool) (w : Bool) (kp : Pos) (a b : List Dom) (s : St) :
    renderText (travL p w kp a s).out [] <+: renderText (travL p w kp (a ++ b) s).out [] := by
  obtain ⟨l, hl⟩ := earlier_siblings_elements_prefix p w kp a b s
  rw [← hl, text_of_concatenation]
  exact text_only_grows l _

/-! ## the per-mode cache stays small -/

/-- the reader after a sequence of `getElements` calls -/
def after : Reader → List Mode → Reader
  | r, [] => r
  | r, m :: ms => after (getElements r m).2 ms

def cacheKeys (r : Reader) : List Mode := r.cache.map (·.1)

/-- at most one entry per mode, none for mode None -/
def SmallCache (r : Reader) : Prop := (cacheKeys r).Nodup ∧ Mode.none ∉ cacheKeys r

theorem lookup_none_iff : ∀ (c : List (Mode × List Element)) (m : Mode),
    lookup c m = none ↔ m ∉ c.map (·.1)
  | [], m => by simp [lookup]
  | (k, v) :: rest, m => by
      simp only [lookup, List.map_cons, List.mem_cons, not_or]
      by_cases h : k = m
      · subst h; simp
      · simp only [h, if_false]
        rw [lookup_none_iff rest m]
        constructor
        · intro h2; exact ⟨fun e => h e.symm, h2⟩
        · intro h2; exact h2.2

theorem getElements_keeps_small (r : Reader) (m : Mode) (h : SmallCache r) :
    SmallCache (getElements r m).2 := by
  unfold getElements
  by_cases hm : m = .none
  · simp only [hm, if_true]; exact h
  · simp only [hm, if_false]
    cases hl : lookup r.cache m with
    | some v => exact h
    | none =>
      have hn := (lookup_none_iff r.cache m).1 hl
      show (m :: r.cache.map (·.1)).Nodup ∧ Mode.none ∉ (m :: r.cache.map (·.1))
      refine ⟨List.nodup_cons.2 ⟨hn, h.1⟩, ?_⟩
      intro hc
      rcases List.mem_cons.1 hc with e | e
      · exact hm e.symm
      · exact h.2 e

/-- the keys are drawn, without repetition, from the three modes other than None -/
theorem small_cache_size (r : Reader) (h : SmallCache r) : r.cache.length ≤ 3 := by
  have hs : cacheKeys r ⊆ [.explicit, .standard, .aggressive] := fun m hm => by
    cases m
    · exact absurd hm h.2
    all_goals simp
  simpa [cacheKeys] using h.1.length_le_of_subset hs

/-- BOUNDED CACHE ON EVERY HISTORY OF DOCUMENTED MODES: after any sequence of `getElements` calls
(any of the four modes, any order, any repetition) on a fresh reader the per-mode cache holds at
most one entry per mode and none for mode None, hence at most three element lists.  (The code
keys its cache by the raw `int`; for raw values see `ReaderI` in Model/HtmlApi.lean, where every
distinct non-zero value gets an entry of its own.) -/
theorem cache_stays_small (body : Dom) (ms : List Mode) :
    SmallCache (after { body := body } ms) ∧ (after { body := body } ms).cache.length ≤ 3 := by
  have gen : ∀ (ms : List Mode) (r : Reader), SmallCache r → SmallCache (after r ms) := by
    intro ms
    induction ms with
    | nil => intro r h; exact h
    | cons m ms ih => intro r h; exact ih _ (getElements_keeps_small r m h)
  have h0 : SmallCache { body := body } := ⟨List.nodup_nil, by simp [cacheKeys]⟩
  exact ⟨gen ms _ h0, small_cache_size _ (gen ms _ h0)⟩

/-- the bound is reached -/
example : (after { body := .text [] } [.aggressive, .none, .explicit, .aggressive, .standard]).cache.length = 3 := by
  decide

/-! ## no empty element is ever returned, and the text is exactly the blocks joined -/

/-- an element that carries something: a heading / paragraph / code block / quote with text, a
list with at least one item and every item with text, a table with at least one row -/
def NonEmptyEl : Element → Prop
  | .heading _ t => t ≠ []
  | .para t => t ≠ []
  | .code t => t ≠ []
  | .quote t => t ≠ []
  | .list _ items => items ≠ [] ∧ ∀ i ∈ items, i.text ≠ []
  | .table _ rows => rows ≠ []

/-- invariant of the traversal state: nothing empty emitted, no pending item without text -/
def Good (s : St) : Prop := (∀ e ∈ s.out, NonEmptyEl e) ∧ (∀ i ∈ s.items, i.text ≠ [])

theorem good_emit (s : St) (e : Element) (h : Good s) (he : NonEmptyEl e) : Good (s.emit e) :=
  ⟨forall_mem_snoc h.1 he, h.2⟩

theorem good_flush (s : St) (h : Good s) : Good (flushList s) := by
  unfold flushList
  split
  · rename_i hc
    have hne : s.items ≠ [] := by simp at hc; exact hc.2
    exact ⟨forall_mem_snoc h.1 ⟨hne, h.2⟩, fun _ hi => nomatch hi⟩
  · exact h

theorem good_enter_core (ord : Bool) (s1 : St) (h1 : Good s1) :
    Good { s1 with inList := true, ordered := ord,
                   items := if s1.inList then s1.items else [],
                   level := if s1.inList then s1.level else 0 } := by
  refine ⟨h1.1, fun i hi => ?_⟩
  have hi2 : i ∈ (if s1.inList = true then s1.items else []) := hi
  split at hi2
  · exact h1.2 i hi2
  · cases hi2

theorem good_listEnter (ord : Bool) (s : St) (h : Good s) : Good (listEnter ord s) := by
  unfold listEnter
  exact good_enter_core ord _ (by split; exact good_flush s h; exact h)

theorem good_listExit (s s3 : St) (h : Good s3) : Good (listExit s s3) := by
  unfold listExit
  split
  · exact h
  · refine ⟨?_, fun _ hi => nomatch hi⟩
    show ∀ x ∈ (if (s3.items != []) = true then s3.emit (.list s3.ordered s3.items) else s3).out, NonEmptyEl x
    split
    · rename_i hc
      exact forall_mem_snoc h.1 ⟨by simpa using hc, h.2⟩
    · exact h.1

theorem good_liHead (kids : List Dom) (s : St) (h : Good s) : Good (liHead kids s) := by
  unfold liHead
  by_cases ht : (getDirectTextContent kids != []) = true
  · simp only [ht, if_true]
    exact ⟨h.1, forall_mem_snoc h.2 (by simpa using ht)⟩
  · simp only [ht, if_false, Bool.false_eq_true]; exact h

theorem good_liExit (s : St) (h : Good s) : Good (liExit s) := h

theorem good_strayEnter (s : St) (h : Good s) : Good (strayEnter s) :=
  ⟨h.1, fun _ hi => nomatch hi⟩

theorem good_strayExit (s : St) (h : Good s) : Good (strayExit s) :=
  ⟨(good_flush s h).1, fun _ hi => nomatch hi⟩

theorem nonEmpty_of_emitted {e : Element} (h : Emitted e) : NonEmptyEl e := by
  cases e with
  | list => exact h.elim
  | _ => exact h

/-- every operation of the state machine keeps the invariant, so any number of them does -/
theorem steps_keep_good {s s' : St} (h : Steps s s') : Good s → Good s' := by
  induction h with
  | refl => exact id
  | trans _ _ ih1 ih2 => exact ih2 ∘ ih1
  | flush => exact good_flush _
  | emit _ _ he => exact fun hg => good_emit _ _ hg (nonEmpty_of_emitted he)
  | listEnter => exact good_listEnter _ _
  | listExit => exact good_listExit _ _
  | liHead => exact good_liHead _ _
  | liExit => exact good_liExit _
  | strayEnter => exact good_strayEnter _
  | strayExit => exact good_strayExit _

theorem trav_good (p : Pos → Dom → Bool) (w : Bool) :
    ∀ (t : Dom) (pos : Pos) (s : St), Good s → Good (trav p w pos t s) :=
  fun t pos s => steps_keep_good (trav_steps p w t pos s)
theorem travL_good (p : Pos → Dom → Bool) (w : Bool) :
    ∀ (ts : List Dom) (kp : Pos) (s : St), Good s → Good (travL p w kp ts s) :=
  fun ts kp s => steps_keep_good (travL_steps p w ts kp s)
theorem travLi_good (p : Pos → Dom → Bool) (w : Bool) :
    ∀ (ts : List Dom) (kp : Pos) (s : St), Good s → Good (travLi p w kp ts s) :=
  fun ts kp s => steps_keep_good (travLi_steps p w ts kp s)
theorem travM_good (p : Pos → Dom → Bool) (w : Bool) :
    ∀ (ts : List Dom) (kp : Pos) (run : Str) (s : St), Good s → Good (travM p w kp ts run s) :=
  fun ts kp run s => steps_keep_good (travM_steps p w ts kp run s)

/-- NO EMPTY ELEMENT, for every document and every predicate (every mode): each element
`extractBodyWithMode` returns carries something — no heading / paragraph / code block / quote
without text, no list without items or with a text-less item, no table without rows -/
theorem no_empty_element (p : Pos → Dom → Bool) (body : Dom) :
    ∀ e ∈ extractWith p body, NonEmptyEl e := by
  have h0 : Good ({} : St) := ⟨fun _ he => (nomatch he), fun _ hi => nomatch hi⟩
  exact (good_flush _ (trav_good p (hasWrapper body) body .root {} h0)).1

/-- the text block `TextWithOptions` writes for one element -/
def elemText : Element → Str
  | .heading _ t => t
  | .para t => t
  | .code t => t
  | .quote t => t
  | .list _ items => renderItems items true
  | .table _ rows => rows.flatMap (renderRow · true)

/-- blocks joined by one blank line -/
def joinBlank : List Str → Str
  | [] => []
  | x :: rest => x ++ rest.flatMap (fun y => 10 :: 10 :: y)

theorem renderRow_ne_nil : ∀ (cs : List Cell) (b : Bool), renderRow cs b ≠ []
  | [], _ => by simp [renderRow]
  | c :: rest, b => by
      have := renderRow_ne_nil rest false
      simp [renderRow, this]

theorem elemText_ne_nil (e : Element) (h : NonEmptyEl e) : elemText e ≠ [] := by
  cases e with
  | list o items =>
    cases items with
    | nil => exact absurd rfl h.1
    | cons i rest => simp [elemText, renderItems]
  | table hd rows =>
    cases rows with
    | nil => exact absurd rfl h
    | cons r rest =>
      have := renderRow_ne_nil r true
      simp [elemText, this]
  | _ => exact h

theorem render_step (e : Element) (rest : List Element) (acc : Str) (h : NonEmptyEl e) :
    renderText (e :: rest) acc = renderText rest (acc ++ sep acc ++ elemText e) := by
  cases e with
  | table hd rows =>
    have hr : rows ≠ [] := h
    simp [renderText, elemText, hr]
  | _ => rfl

theorem render_from_nonempty : ∀ (els : List Element) (acc : Str), acc ≠ [] →
    (∀ e ∈ els, NonEmptyEl e) →
    renderText els acc = acc ++ els.flatMap (fun e => 10 :: 10 :: elemText e)
  | [], acc, _, _ => by simp [renderText]
  | e :: rest, acc, ha, h => by
      rw [render_step e rest acc (h e (List.mem_cons_self ..))]
      have hs : sep acc = [10, 10] := by simp [sep, ha]
      have hne : acc ++ sep acc ++ elemText e ≠ [] := by simp [ha]
      rw [render_from_nonempty rest _ hne (fun x hx => h x (List.mem_cons_of_mem _ hx)), hs]
      simp

/-- on element lists without empty elements `TextWithOptions` is EXACTLY the element blocks
joined by one blank line: no leading or trailing separator, no doubled separator -/
theorem text_is_blocks_joined_of (els : List Element) (h : ∀ e ∈ els, NonEmptyEl e) :
    renderText els [] = joinBlank (els.map elemText) := by
  cases els with
  | nil => rfl
  | cons e rest =>
    have he := elemText_ne_nil e (h e (List.mem_cons_self ..))
    rw [render_step e rest [] (h e (List.mem_cons_self ..))]
    have : ([] : Str) ++ sep [] ++ elemText e = elemText e := by simp [sep]
    rw [this, render_from_nonempty rest _ he (fun x hx => h x (List.mem_cons_of_mem _ hx))]
    simp [joinBlank, List.flatMap_map]

/-- THE TEXT, EXACTLY (not only up to white space), for every document and predicate: the text
rendered from what `extractBodyWithMode` returns is the blocks of its elements — each non-empty —
joined by one blank line -/
theorem text_is_blocks_joined (p : Pos → Dom → Bool) (body : Dom) :
    renderText (extractWith p body) [] = joinBlank ((extractWith p body).map elemText) ∧
    ∀ b ∈ (extractWith p body).map elemText, b ≠ [] := by
  refine ⟨text_is_blocks_joined_of _ (no_empty_element p body), ?_⟩
  intro b hb
  obtain ⟨e, he, rfl⟩ := List.mem_map.1 hb
  exact elemText_ne_nil e (no_empty_element p body e he)

/-- … for the text view of a reader, from the document node, for every raw mode value -/
theorem text_with_options_is_blocks_joined (m : Int) (doc : Dom) :
    textWithOptions m doc = joinBlank ((extractI m doc).map elemText) ∧
    (∀ e ∈ extractI m doc, NonEmptyEl e) := by
  unfold textWithOptions extractI
  exact ⟨(text_is_blocks_joined _ _).1, no_empty_element _ _⟩

example : NonEmptyEl (.para [120]) ∧ NonEmptyEl (.table false [[]]) ∧ ¬ NonEmptyEl (.list false []) := by
  refine ⟨by simp [NonEmptyEl], by simp [NonEmptyEl], by simp [NonEmptyEl]⟩

/-- without the hypothesis the join statement fails (an element list the extraction never
returns): an empty paragraph is swallowed together with its separator -/
example : renderText [.para [], .para [120]] [] ≠ joinBlank ([Element.para [], .para [120]].map elemText) := by
  decide

end Tabula.C19More
