import TabulaModel.Props.C01Reader
/-!
# C01 — reader-level laws for every file: page count, page by page, content order

`Props/C01Reader.lean` proves that `Reader.readPages` does not depend on the physical layout;
`read_render_partial` ties it to the logical document for files the reference writer emits.
This file proves, for EVERY abstract file / resolver (no writer, no well-formedness
hypothesis), the three remaining words of the statement at the level of the whole reader:

* "the reported page count equals the number of page leaves": `read_page_count_is_leaves`
  (`readPages`), `readWith_page_count`, whenever the file is read (`C01.page_count_is_leaves` is the
  same statement for `PdfDoc.traverse`, below the resolver);
* "page by page": `pagesOfSpecs_ok_iff`, `pagesOfSpecs_error_iff`, `pagesOfSpecs_append`,
  `readWith_page` — page `i` of the answer is `pageStrings` of leaf `i`'s own `/Contents`
  and effective `/Resources`, nothing else; the answer is an error exactly when some page
  fails, and the error is that of the first failing page;
* "in content order": `run_append`, `run_frame`, `run_out_extends`, `run_prefix_stable` — the
  strings shown by a prefix of the operations are a prefix of the page's strings, whatever
  follows; `step_other`, `run_filter` — operators other than `q Q Tf Tj ' " TJ Do` never
  change the strings the model reports (the model lists every shown string; tabula's position-keyed
  removal of duplicate fragments is not part of it).
Core Lean only.
-/
namespace Tabula.C01M
open Tabula.Reader
open Tabula.Pdf (Obj)

mutual
theorem leafDicts_length (t : RTree) : (leafDicts t).length = PdfDoc.countLeaves (toPTree t) := by
  cases t with
  | leaf d => simp [leafDicts, toPTree, PdfDoc.countLeaves]
  | node d kids => simp only [leafDicts, toPTree, PdfDoc.countLeaves]; exact leafDictsList_length kids
theorem leafDictsList_length (ts : List RTree) :
    (leafDictsList ts).length = PdfDoc.countLeavesList (toPTreeList ts) := by
  cases ts with
  | nil => simp [leafDictsList, toPTreeList, PdfDoc.countLeavesList]
  | cons t ts =>
    simp only [leafDictsList, toPTreeList, PdfDoc.countLeavesList, List.length_append,
      leafDicts_length t, leafDictsList_length ts]
end

/-- one page specification per `/Page` leaf, on every resolved tree -/
theorem pageSpecs_length (t : RTree) : (pageSpecs t).length = PdfDoc.countLeaves (toPTree t) := by
  simp [pageSpecs, List.length_zip, leafDicts_length, C01.flatten_length]

/-- **each page is read on its own**: the answer is `ps` exactly when there is one entry per
specification and entry `i` is what `pageStrings` reports for specification `i` alone -/
theorem pagesOfSpecs_ok_iff (res : Res) (ext : Ext) (specs : List (Option Obj × Option Obj)) :
    ∀ ps, pagesOfSpecs res ext specs = .ok ps ↔
      ps.length = specs.length ∧ ∀ sp ∈ specs.zip ps, pageStrings res ext sp.1.1 sp.1.2 = .ok sp.2 := by
  induction specs with
  | nil =>
    intro ps
    cases ps with
    | nil => simp [pagesOfSpecs]
    | cons p ps => simp [pagesOfSpecs]
  | cons s specs ih =>
    intro ps
    obtain ⟨d, r⟩ := s
    cases ps with
    | nil =>
      constructor
      · intro h
        obtain ⟨_, _, _, _, e⟩ := pagesOfSpecs_cons_ok.mp h
        cases e
      · rintro ⟨hl, _⟩
        simp at hl
    | cons p ps =>
      rw [pagesOfSpecs_cons_ok]
      simp only [List.length_cons, List.zip_cons_cons, List.mem_cons, forall_eq_or_imp, Nat.add_right_cancel_iff]
      constructor
      · rintro ⟨p', q, hp, hq, e⟩
        cases e
        exact ⟨((ih ps).mp hq).1, hp, ((ih ps).mp hq).2⟩
      · rintro ⟨hl, hp, hall⟩
        exact ⟨p, ps, hp, (ih ps).mpr ⟨hl, hall⟩, rfl⟩

theorem pagesOfSpecs_length (res : Res) (ext : Ext) (specs : List (Option Obj × Option Obj)) :
    ∀ ps, pagesOfSpecs res ext specs = .ok ps → ps.length = specs.length :=
  fun ps h => ((pagesOfSpecs_ok_iff res ext specs ps).mp h).1

/-- non-vacuity: a page without `/Contents` is read as an empty page -/
example (res : Res) (ext : Ext) : pagesOfSpecs res ext [(none, none)] = .ok [[]] := rfl

/-- **page count = number of page leaves** above any resolver: when `readWith` answers, the
walk delivered a tree, the answer has one entry per `/Page` leaf of that tree, and the tree
has at most 10000 levels. -/
theorem readWith_page_count (res : Res) (ext : Ext) (fuel : Nat) (root : Option Nat) (pages : List (List Str))
    (h : readWith res ext fuel root = .ok pages) :
    ∃ t, pageTree res fuel root = .ok t ∧ pages.length = PdfDoc.countLeaves (toPTree t) ∧
      PdfDoc.height (toPTree t) ≤ PdfDoc.maxPageTreeDepth := by
  obtain ⟨t, ht, h⟩ := readWith_ok h
  refine ⟨t, ht, ?_, C01R.walk_depth_bounded res fuel root t ht⟩
  rw [pagesOfSpecs_length res ext (pageSpecs t) pages h, pageSpecs_length]

/-- **the reported page count equals the number of page leaves**, for every abstract file that is
read (every page of it) -/
theorem read_page_count_is_leaves (f : AbsFile) (ext : Ext) (pages : List (List Str))
    (h : readPages f ext = .ok pages) :
    ∃ t, pageTree (getObject f ext) (fuelOf f) (rootOf f) = .ok t ∧
      pages.length = PdfDoc.countLeaves (toPTree t) ∧
      PdfDoc.height (toPTree t) ≤ PdfDoc.maxPageTreeDepth := by
  unfold readPages at h
  split at h
  · cases h
  · exact readWith_page_count _ ext _ _ pages h

/-- a resolver holding a catalog (1), a `/Pages` node (2) and one `/Page` leaf (3) -/
def exRes : Res := fun n =>
  if n = 1 then .ok (.obj (.dict [(kPages, .ref 2 0)]))
  else if n = 2 then .ok (.obj (.dict [(kType, .name kPages), (kCount, .int 1), (kKids, .arr [.ref 3 0])]))
  else if n = 3 then .ok (.obj (.dict [(kType, .name kPage)]))
  else .error .err

/-- non-vacuity of `readWith_page_count` / `readWith_page`: one leaf, one (empty) page -/
example (ext : Ext) : readWith exRes ext 10 (some 1) = .ok [[]] := rfl

/-- the pages of two runs of leaves are read independently and in order -/
theorem pagesOfSpecs_append (res : Res) (ext : Ext) (a b : List (Option Obj × Option Obj)) :
    pagesOfSpecs res ext (a ++ b) =
      match pagesOfSpecs res ext a with
      | .error e => .error e
      | .ok pa =>
        match pagesOfSpecs res ext b with
        | .error e => .error e
        | .ok pb => .ok (pa ++ pb) := by
  simp only [pagesOfSpecs_eq_mapM, List.mapM_append]
  cases List.mapM (fun s => pageStrings res ext s.1 s.2) a with
  | error e => rfl
  | ok pa => cases List.mapM (fun s => pageStrings res ext s.1 s.2) b <;> rfl

/-- **the reader fails exactly when some page fails, with the error of the first such page**
(all pages before it are readable) -/
theorem pagesOfSpecs_error_iff (res : Res) (ext : Ext) (specs : List (Option Obj × Option Obj)) (e : Err) :
    pagesOfSpecs res ext specs = .error e ↔
      ∃ (a : List (Option Obj × Option Obj)) (s : Option Obj × Option Obj) (b : List (Option Obj × Option Obj)) (pa : List (List Str)),
        specs = a ++ s :: b ∧ pagesOfSpecs res ext a = .ok pa ∧
        pageStrings res ext s.1 s.2 = .error e := by
  constructor
  · induction specs with
    | nil => intro h; cases h
    | cons s specs ih =>
      intro h
      obtain ⟨d, r⟩ := s
      simp only [pagesOfSpecs] at h
      cases hp : pageStrings res ext d r with
      | error e' =>
        rw [hp] at h
        cases h
        exact ⟨[], (d, r), specs, [], rfl, rfl, hp⟩
      | ok p =>
        rw [hp] at h
        cases hq : pagesOfSpecs res ext specs with
        | ok q => rw [hq] at h; cases h
        | error e' =>
          rw [hq] at h
          cases h
          obtain ⟨a, s, b, pa, rfl, ha, hs⟩ := ih hq
          refine ⟨(d, r) :: a, s, b, p :: pa, rfl, ?_, hs⟩
          simp [pagesOfSpecs, hp, ha]
  · rintro ⟨a, s, b, pa, rfl, ha, hs⟩
    obtain ⟨d, r⟩ := s
    rw [pagesOfSpecs_append, ha]
    simp only [pagesOfSpecs]
    rw [hs]

/-- non-vacuity of the error side: a `/Contents` that names a missing object -/
example (ext : Ext) : pagesOfSpecs (fun _ => .error .err) ext [(none, none), (some (.ref 5 0), none)] = .error .err := rfl

theorem pagesOfSpecs_page (res : Res) (ext : Ext) (specs : List (Option Obj × Option Obj)) :
    ∀ ps, pagesOfSpecs res ext specs = .ok ps → ∀ (i : Nat) (s : Option Obj × Option Obj), specs[i]? = some s →
      ∃ p, ps[i]? = some p ∧ pageStrings res ext s.1 s.2 = .ok p := by
  intro ps h i s hs
  obtain ⟨hl, hall⟩ := (pagesOfSpecs_ok_iff res ext specs ps).mp h
  have hi : i < ps.length := by rw [hl]; exact (List.getElem?_eq_some_iff.mp hs).1
  exact ⟨ps[i], List.getElem?_eq_getElem hi, hall (s, ps[i]) (List.mem_iff_getElem?.mpr
    ⟨i, by rw [List.getElem?_zip_eq_some]; exact ⟨hs, List.getElem?_eq_getElem hi⟩⟩)⟩

/-- **page by page, at the reader**: when `readWith` answers, entry `i` of the answer is what
`pageStrings` reports for the `/Contents` entry of the `i`-th `/Page` leaf (left to right)
under that leaf's effective `/Resources` (`PdfDoc.flatten`: own entry, else the nearest
ancestor's). No other page, and nothing else of the leaf, has a say. -/
theorem readWith_page (res : Res) (ext : Ext) (fuel : Nat) (root : Option Nat) (pages : List (List Str))
    (h : readWith res ext fuel root = .ok pages) :
    ∃ t, pageTree res fuel root = .ok t ∧
      ∀ (i : Nat) (d : Dict) (a : PdfDoc.AttrsOf Obj), (leafDicts t)[i]? = some d → (PdfDoc.flatten (toPTree t) {})[i]? = some a →
        ∃ p, pages[i]? = some p ∧ pageStrings res ext (dget d kContents) a.res = .ok p := by
  obtain ⟨t, ht, h⟩ := readWith_ok h
  refine ⟨t, ht, ?_⟩
  intro i d a hd ha
  have hs : (pageSpecs t)[i]? = some (dget d kContents, a.res) := by
    simp [pageSpecs, List.getElem?_zip_eq_some, List.getElem?_map, hd, ha]
  exact pagesOfSpecs_page res ext (pageSpecs t) pages h i _ hs

/-- the state with `pre` put in front of the strings shown so far -/
def addOut (pre : List Str) (st : IState) : IState := { st with out := pre ++ st.out }

/-- `addOut` under a result -/
def liftOut (pre : List Str) : Except Err IState → Except Err IState
  | .ok s => .ok (addOut pre s)
  | .error e => .error e

theorem showOne_frame (env : Env) (pre : List Str) (st : IState) (data : Str) :
    showOne env (addOut pre st) data = liftOut pre (showOne env st data) := by
  have hc : (addOut pre st).cur = st.cur := rfl
  unfold showOne
  rw [hc]
  cases decodeShown env.res env.ext env.fonts st.cur data with
  | error e => rfl
  | ok s => simp [liftOut, addOut, List.append_assoc]

theorem showArray_frame (env : Env) (pre : List Str) (xs : List Obj) :
    ∀ st, showArray env (addOut pre st) xs = liftOut pre (showArray env st xs) := by
  induction xs with
  | nil => intro st; rfl
  | cons x xs ih =>
    intro st
    cases x with
    | str s =>
      simp only [showArray, showOne_frame]
      cases showOne env st s with
      | error e => rfl
      | ok st' => simp only [liftOut]; exact ih st'
    | _ => simp only [showArray]; exact ih st

/-- **one operation does not look at the strings shown before it**: it only appends -/
theorem step_frame (env : Env) (pre : List Str) (st : IState) (op : Pdf.CS.Operation) :
    step env (addOut pre st) op = liftOut pre (step env st op) := by
  rw [step_eq_perform, step_eq_perform]
  cases action env.rdict op with
  | pop =>
    have hs : (addOut pre st).stack = st.stack := rfl
    rw [perform, perform, hs]
    split <;> rfl
  | showStr s => exact showOne_frame env pre st s
  | showArr xs => exact showArray_frame env pre xs st
  | _ => rfl

/-- the interpretation of a content stream does not look at the strings shown before -/
theorem run_frame (env : Env) (pre : List Str) (ops : List Pdf.CS.Operation) :
    ∀ st, run env (addOut pre st) ops = liftOut pre (run env st ops) := by
  induction ops with
  | nil => intro st; rfl
  | cons op ops ih =>
    intro st
    simp only [run, step_frame]
    cases step env st op with
    | error e => rfl
    | ok st' => simp only [liftOut]; exact ih st'

/-- interpreting `a ++ b` is interpreting `a`, then `b` from the state `a` left -/
theorem run_append (env : Env) (a b : List Pdf.CS.Operation) :
    ∀ st, run env st (a ++ b) =
      match run env st a with
      | .ok st' => run env st' b
      | .error e => .error e := by
  intro st
  simp only [run_eq_foldlM, List.foldlM_append]
  cases List.foldlM (step env) st a <;> rfl

/-- **shown strings are only ever appended**: after any operations, the strings shown before
are still there, in front and unchanged -/
theorem run_out_extends (env : Env) (ops : List Pdf.CS.Operation) (st st' : IState)
    (h : run env st ops = .ok st') : ∃ more, st'.out = st.out ++ more := by
  have hst : st = addOut st.out { st with out := [] } := by
    simp [addOut]
  rw [hst, run_frame] at h
  cases hr : run env { st with out := [] } ops with
  | error e => rw [hr] at h; cases h
  | ok s =>
    rw [hr] at h
    simp only [liftOut, Except.ok.injEq] at h
    exact ⟨s.out, by rw [← h]; rfl⟩

/-- **content order**: the strings shown by the first part of a content stream are reported
first, whatever operations follow (they form a prefix of the page's strings) -/
theorem run_prefix_stable (env : Env) (a b : List Pdf.CS.Operation) (st s : IState)
    (h : run env st (a ++ b) = .ok s) : ∃ sa, run env st a = .ok sa ∧ sa.out <+: s.out := by
  rw [run_append] at h
  cases ha : run env st a with
  | error e => rw [ha] at h; cases h
  | ok sa =>
    rw [ha] at h
    obtain ⟨more, hm⟩ := run_out_extends env b sa s h
    exact ⟨sa, rfl, more, hm.symm⟩

/-- non-vacuity: `(A) Tj` with no font shows one string -/
example (res : Res) (ext : Ext) :
    run ⟨res, ext, none, none⟩ {} ([⟨opTj, [.str [65]]⟩] ++ []) =
      .ok { out := [FontDecode.showTextNoFont ext.nfc [65]] } := rfl

/-- the operators that decide text -/
def textOps : List Str := [opq, opQ, opTf, opTj, opQuote, opTJ, opDQuote, opDo]

/-- any other operator leaves the state as it is -/
theorem step_other (env : Env) (st : IState) (op : Pdf.CS.Operation) (h : op.op ∉ textOps) :
    step env st op = .ok st := by
  simp only [textOps, List.mem_cons, List.not_mem_nil, or_false, not_or] at h
  obtain ⟨h1, h2, h3, h4, h5, h6, h7, h8⟩ := h
  simp only [step, h1, h2, h3, h4, h5, h6, h7, h8, or_self, ↓reduceIte]

/-- non-vacuity: `BT` is not a text-deciding operator -/
example : ([66, 84] : Str) ∉ textOps := by decide +kernel

/-- **operators other than `q Q Tf Tj ' " TJ Do` never change the reported text**: dropping
them from the operations of a page gives the same result -/
theorem run_filter (env : Env) (ops : List Pdf.CS.Operation) :
    ∀ st, run env st ops = run env st (ops.filter fun o => decide (o.op ∈ textOps)) := by
  intro st
  rw [run_eq_foldlM, run_eq_foldlM, List.foldlM_filter]
  congr
  funext st op
  by_cases h : op.op ∈ textOps
  · rw [decide_eq_true h, if_pos rfl]
  · rw [decide_eq_false h, if_neg Bool.false_ne_true, step_other env st op h]; rfl

/-- the same at `ExtractFromBytes`: the strings a content stream shows are decided by its
text-deciding operations alone (in their order) -/
theorem showStrings_text_ops (res : Res) (ext : Ext) (effRes : Option Obj) (content : Str)
    (ops : List Pdf.CS.Operation) (h : Pdf.CS.csParse content = some ops) :
    showStrings res ext effRes content =
      match run { res := res, ext := ext, rdict := resourcesDict res effRes,
                  fonts := fontsOf res (resourcesDict res effRes) } {}
              (ops.filter fun o => decide (o.op ∈ textOps)) with
      | .ok st => .ok st.out
      | .error e => .error e := by
  unfold showStrings
  rw [h]
  simp only
  rw [← run_filter]
  rfl

open Tabula.Pdf in
/-- non-vacuity: the empty content parses (to no operations) -/
example : ∃ ops, Pdf.CS.csParse [] = some ops := ⟨_, csParse_nil⟩

end Tabula.C01M
