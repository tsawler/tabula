import TabulaModel.Lemmas.Xref
import TabulaModel.Props.C04
/-!
# C04, further all-input laws of the merged table, the lookup and the caches

All statements are about the executable model of Model/Xref.lean (`mergeTables`, `specGet`,
`stepGet`, `run`), for every list of revisions, every file and every cache:

* the merged entry of `n` is EXACTLY the entry of the last revision that mentions `n`
  (an iff with an explicit split of the history), merging may be done in batches, revisions
  that do not mention `n` and repeated revisions do not matter;
* frame laws of an incremental update: an object the update does not mention (and whose
  object stream it does not mention) keeps its answer; a deleted object stays an error and a
  replaced object keeps the new value through every later revision that is silent about it;
* the lookup reads the table only as a map (two assignment sequences with the same last
  assignments answer alike);
* cache laws without any soundness hypothesis: a failed lookup leaves the object cache as it
  was, a successful one adds at most the one pair asked for, nothing cached is ever
  overwritten, a repeated lookup is a pure cache hit;
* the (number, answer) pairs of a history are the same up to order for every rearrangement of
  the lookups, with cache clears anywhere;
* the `/Prev` walk on every section table, cyclic and dangling `/Prev` included: it hands on only
  sections of the file, and its bound is never what ends it.
-/
namespace Tabula.C04X
open Tabula.Xref

theorem merge_cons (t : Section) (ts : List Section) (n : Nat) :
    getLast (mergeTables (t :: ts)) n = (getLast (mergeTables ts) n).or (getLast t n) := by
  simp [mergeTables, getLast_append]

/-- **merge_batches**: merging all revisions at once is merging the older batch and the newer
batch separately and letting the newer batch decide wherever it has an entry. -/
theorem merge_batches (a b : List Section) (n : Nat) :
    getLast (mergeTables (a ++ b)) n =
      (getLast (mergeTables b) n).or (getLast (mergeTables a) n) := by
  simp [mergeTables, List.flatten_append, getLast_append]

/-- **merge_some_iff**: the merged table maps `n` to `e` exactly when the history splits into
older revisions, one revision that assigns `e` to `n`, and newer revisions that are all silent
about `n` — "the value from the newest revision defining it", as an equivalence. -/
theorem merge_some_iff (ts : List Section) (n : Nat) (e : Entry) :
    getLast (mergeTables ts) n = some e ↔
      ∃ older t newer, ts = older ++ t :: newer ∧ getLast t n = some e ∧
        ∀ u ∈ newer, getLast u n = none := by
  constructor
  · intro h
    induction ts with
    | nil => cases h
    | cons t ts ih =>
      rw [merge_cons, Option.or_eq_some_iff] at h
      rcases h with hr | ⟨hr, ht⟩
      · obtain ⟨older, t', newer, rfl, h1, h2⟩ := ih hr
        exact ⟨t :: older, t', newer, rfl, h1, h2⟩
      · exact ⟨[], t, ts, rfl, ht, (C04.merge_none_iff ts n).mp hr⟩
  · rintro ⟨older, t, newer, rfl, h1, h2⟩
    have hn := (C04.merge_none_iff newer n).mpr h2
    have hsplit : older ++ t :: newer = older ++ ([t] ++ newer) := by simp
    rw [hsplit, merge_batches, merge_batches, hn]
    simp [mergeTables, h1]

/-- non-vacuity: object 1 added, replaced, then a revision silent about it -/
example : getLast (mergeTables [[(1, Entry.at 10)], [(1, .at 20)], [(2, .at 30)]]) 1
    = some (.at 20) := by decide

/-- **merge_ignores_silent_revisions**: dropping every revision that does not mention `n`
changes nothing for `n`. -/
theorem merge_ignores_silent_revisions (ts : List Section) (n : Nat) :
    getLast (mergeTables (ts.filter fun t => (getLast t n).isSome)) n =
      getLast (mergeTables ts) n := by
  induction ts with
  | nil => rfl
  | cons t ts ih =>
    rw [merge_cons]
    cases ht : getLast t n with
    | none => simp [ht, ih]
    | some e => simp [ht, merge_cons, ih]

/-- **merge_repeated_history_harmless**: reading the whole history twice (a `/Prev` chain
that is walked again) gives the same table. -/
theorem merge_repeated_history_harmless (ts : List Section) (n : Nat) :
    getLast (mergeTables (ts ++ ts)) n = getLast (mergeTables ts) n := by
  rw [merge_batches]
  cases getLast (mergeTables ts) n <;> rfl

/-- **lookup_reads_table_as_map**: two merged tables in which every number has the same last
assignment answer every lookup alike — the order and multiplicity of assignments (the Go map
is written entry by entry) is invisible. -/
theorem lookup_reads_table_as_map (x1 x2 : Section) (objs : Objects)
    (h : ∀ k, getLast x1 k = getLast x2 k) (n : Nat) :
    specGet ⟨x1, objs⟩ n = specGet ⟨x2, objs⟩ n :=
  specGet_congr (h n) fun stm _ _ => h stm

/-- non-vacuity: a table with an overwritten entry and its compacted form -/
example : ∀ k, getLast [(1, Entry.at 10), (1, .at 20)] k = getLast [(1, Entry.at 20)] k := by
  intro k
  by_cases hk : 1 = k <;> simp [getLast, hk]

theorem merge_snoc_silent (ts : List Section) (t : Section) (k : Nat)
    (hk : getLast t k = none) :
    getLast (mergeTables (ts ++ [t])) k = getLast (mergeTables ts) k := by
  rw [merge_batches]
  simp [mergeTables, hk]

/-- **untouched_object_unchanged** (frame law of an incremental update): a new revision that
mentions neither `n` nor — when `n` is compressed — the object stream holding it leaves the
answer for `n` exactly as it was: value, or error. -/
theorem untouched_object_unchanged (ts : List Section) (t : Section) (objs : Objects) (n : Nat)
    (hn : getLast t n = none)
    (hs : ∀ stm idx, getLast (mergeTables ts) n = some (.inStm stm idx) → getLast t stm = none) :
    specGet ⟨mergeTables (ts ++ [t]), objs⟩ n = specGet ⟨mergeTables ts, objs⟩ n :=
  specGet_congr (merge_snoc_silent ts t n hn) fun stm idx hx =>
    merge_snoc_silent ts t stm (hs stm idx hx)

/-- non-vacuity: object 1 lives in object stream 5; the update adds object 2 only -/
example : getLast [(2, Entry.at 20)] 1 = none ∧
    ∀ stm idx, getLast (mergeTables [[(5, Entry.at 50), (1, .inStm 5 0)]]) 1 = some (.inStm stm idx) →
      getLast [(2, Entry.at 20)] stm = none := by
  refine ⟨by decide, fun stm idx h => ?_⟩
  cases h
  decide

/-- **deleted_stays_deleted_until_redefined**: once a revision frees `n`, the lookup is an
error after that revision and after every further revision silent about `n` — whatever the
older revisions said and whatever stands in the file. -/
theorem deleted_stays_deleted_until_redefined (older newer : List Section) (t : Section)
    (objs : Objects) (n nx : Nat) (h : getLast t n = some (.free nx))
    (hsil : ∀ u ∈ newer, getLast u n = none) :
    specGet ⟨mergeTables (older ++ t :: newer), objs⟩ n = none := by
  have hm := (merge_some_iff (older ++ t :: newer) n (.free nx)).mpr
    ⟨older, t, newer, rfl, h, hsil⟩
  simp [specGet, hm]

/-- **replaced_value_until_redefined**: once a revision puts `n` at an offset where object `n`
stands, that object is the answer after every further revision silent about `n`. -/
theorem replaced_value_until_redefined (older newer : List Section) (t : Section)
    (objs : Objects) (n off : Nat) (v : Val) (h : getLast t n = some (.at off))
    (ho : getLast objs off = some (n, v)) (hsil : ∀ u ∈ newer, getLast u n = none) :
    specGet ⟨mergeTables (older ++ t :: newer), objs⟩ n = some v := by
  have hm := (merge_some_iff (older ++ t :: newer) n (.at off)).mpr
    ⟨older, t, newer, rfl, h, hsil⟩
  simp [specGet, hm, getUncompressed, ho]

/-- non-vacuity of both: add, delete / replace, then an unrelated revision -/
example : specGet ⟨mergeTables ([[(1, Entry.at 10)]] ++ [(1, .free 0)] :: [[(2, .at 30)]]),
    [(10, (1, .int 7)), (30, (2, .int 8))]⟩ 1 = none := by decide
example : specGet ⟨mergeTables ([[(1, Entry.at 10)]] ++ [(1, .at 20)] :: [[(2, .at 30)]]),
    [(10, (1, .int 7)), (20, (1, .int 9)), (30, (2, .int 8))]⟩ 1 = some (.int 9) := by decide

theorem getObjStm_obj (f : File) (c : Cache) (stm : Nat) : (getObjStm f c stm).2.obj = c.obj :=
  getObjStm_keeps_obj f c stm

theorem stepGet_hit (f : File) (c : Cache) (n : Nat) (v : Val) (h : getLast c.obj n = some v) :
    stepGet f c n = (some v, c) := by
  simp [stepGet, h]

/-- **lookup_cache_cases**: every `GetObject` call is one of three things — a pure cache hit
(nothing changes), a failure that leaves the object cache as it was, or a successful load that
appends exactly the pair (number asked, value answered). -/
theorem lookup_cache_cases (f : File) (c : Cache) (n : Nat) :
    (∃ v, getLast c.obj n = some v ∧ stepGet f c n = (some v, c)) ∨
    (getLast c.obj n = none ∧ (stepGet f c n).1 = none ∧ (stepGet f c n).2.obj = c.obj) ∨
    (∃ v, getLast c.obj n = none ∧ (stepGet f c n).1 = some v ∧
      (stepGet f c n).2.obj = c.obj ++ [(n, v)]) := by
  cases hc : getLast c.obj n with
  | some v => exact Or.inl ⟨v, rfl, stepGet_hit f c n v hc⟩
  | none =>
    obtain ⟨c', r, e, ho, _⟩ := stepGet_miss f c n hc
    rw [e]
    cases r with
    | none => exact .inr (.inl ⟨rfl, rfl, ho⟩)
    | some v => exact .inr (.inr ⟨v, rfl, rfl, congrArg (· ++ [(n, v)]) ho⟩)

/-- **failed_lookup_leaves_object_cache**: "caches are only filled with fully parsed objects" —
a lookup that answers an error leaves the object cache exactly as it was, from ANY cache. -/
theorem failed_lookup_leaves_object_cache (f : File) (c : Cache) (n : Nat)
    (h : (stepGet f c n).1 = none) : (stepGet f c n).2.obj = c.obj := by
  rcases lookup_cache_cases f c n with ⟨v, _, hv⟩ | ⟨_, _, ho⟩ | ⟨v, _, hv, _⟩
  · rw [hv]
  · exact ho
  · rw [hv] at h; cases h

/-- non-vacuity: a deleted object, looked up with something else cached -/
example : (stepGet ⟨[(1, .free 0)], []⟩ { obj := [(2, .int 5)] } 1).1 = none := by decide

/-- **cached_answers_never_overwritten**: whatever the object cache answers for `m` before a
lookup (of any number), it answers after it. -/
theorem cached_answers_never_overwritten (f : File) (c : Cache) (n m : Nat) (w : Val)
    (hw : getLast c.obj m = some w) : getLast (stepGet f c n).2.obj m = some w := by
  rcases lookup_cache_cases f c n with ⟨v, _, hv⟩ | ⟨_, _, ho⟩ | ⟨v, hn, _, ho⟩
  · rw [hv]; exact hw
  · rw [ho]; exact hw
  · have hne : n ≠ m := fun e => by rw [e, hw] at hn; cases hn
    rw [ho, getLast_snoc, if_neg hne]
    exact hw

example : getLast ({ obj := [(2, .int 5)] } : Cache).obj 2 = some (.int 5) := by decide

/-- **lookup_adds_at_most_the_pair_asked**: the object cache after a lookup is the cache
before it, followed by nothing or by the one pair (number asked, value answered). -/
theorem lookup_adds_at_most_the_pair_asked (f : File) (c : Cache) (n : Nat) :
    (stepGet f c n).2.obj = c.obj ∨
      ∃ v, (stepGet f c n).1 = some v ∧ (stepGet f c n).2.obj = c.obj ++ [(n, v)] := by
  rcases lookup_cache_cases f c n with ⟨v, _, hv⟩ | ⟨_, _, ho⟩ | ⟨v, _, hv, ho⟩
  · rw [hv]; exact Or.inl rfl
  · exact Or.inl ho
  · exact Or.inr ⟨v, hv, ho⟩

/-- **repeated_lookup_is_cache_hit**: after a successful lookup of `n`, looking `n` up again
gives the same value and changes nothing at all — from ANY cache, sound or not. -/
theorem repeated_lookup_is_cache_hit (f : File) (c : Cache) (n : Nat) (v : Val)
    (h : (stepGet f c n).1 = some v) :
    stepGet f (stepGet f c n).2 n = (some v, (stepGet f c n).2) := by
  apply stepGet_hit
  rcases lookup_cache_cases f c n with ⟨w, hw, hv⟩ | ⟨_, hno, _⟩ | ⟨w, _, hv, ho⟩
  · rw [hv] at h ⊢
    cases h
    exact hw
  · rw [hno] at h; cases h
  · rw [hv] at h
    cases h
    rw [ho, getLast_snoc, if_pos rfl]

example : (stepGet ⟨[(1, .at 10)], [(10, (1, .int 7))]⟩ {} 1).1 = some (.int 7) := by decide

/-- the object numbers a history asks for, in order -/
def asked : List Op → List Nat
  | [] => []
  | .get n :: ops => n :: asked ops
  | .clear :: ops => asked ops

theorem asked_zip_run (f : File) (ops : List Op) :
    (asked ops).zip (run f {} ops) = (asked ops).map fun n => (n, specGet f n) := by
  rw [C04.getObject_refines]
  induction ops with
  | nil => rfl
  | cons op ops ih =>
    cases op with
    | get n => simp [asked, specRun, ih]
    | clear => simpa [asked, specRun] using ih

/-- **answers_by_number_order_free**: take two histories — lookups in any order, repeated,
with cache clears anywhere — that ask for the same numbers the same number of times. Then
their (number, answer) pairs are the same up to that rearrangement. -/
theorem answers_by_number_order_free (f : File) (ops1 ops2 : List Op)
    (h : (asked ops1).Perm (asked ops2)) :
    ((asked ops1).zip (run f {} ops1)).Perm ((asked ops2).zip (run f {} ops2)) := by
  rw [asked_zip_run, asked_zip_run]
  exact h.map _

/-- non-vacuity: 1,2,1 against clear,1,1,clear,2 -/
example : (asked [.get 1, .get 2, .get 1]).Perm (asked [.clear, .get 1, .get 1, .clear, .get 2]) := by
  decide

/-- **same_number_same_answer_across_histories**: a number asked anywhere in one history and
anywhere in another history of the same file gets the same answer in both. -/
theorem same_number_same_answer_across_histories (f : File) (ops1 ops2 : List Op)
    (n : Nat) (a1 a2 : Option Val)
    (h1 : (n, a1) ∈ (asked ops1).zip (run f {} ops1))
    (h2 : (n, a2) ∈ (asked ops2).zip (run f {} ops2)) : a1 = a2 := by
  rw [asked_zip_run] at h1 h2
  simp only [List.mem_map, Prod.mk.injEq] at h1 h2
  obtain ⟨_, _, rfl, rfl⟩ := h1
  obtain ⟨_, _, rfl, rfl⟩ := h2
  rfl

example : (1, some (Val.int 7)) ∈
    (asked [.get 2, .get 1]).zip (run ⟨[(1, .at 10)], [(10, (1, .int 7))]⟩ {} [.get 2, .get 1]) := by
  decide

theorem chainFrom_sections_from_file (secs : Sections) :
    ∀ (fuel : Nat) (visited : List Nat) (off : Nat) (s : Section),
      s ∈ chainFrom secs fuel visited off → ∃ o prev, getLast secs o = some (s, prev) := by
  intro fuel visited off s h
  fun_induction chainFrom secs fuel visited off with
  | case1 | case2 | case3 => cases h
  | case4 _ _ off _ s0 hg =>
    cases List.mem_singleton.1 h
    exact ⟨off, none, hg⟩
  | case5 _ _ off _ s0 p hg ih =>
    rcases List.mem_cons.1 h with rfl | h
    · exact ⟨off, some p, hg⟩
    · exact ih h

/-- **prev_walk_sections_come_from_file**: whatever the `/Prev` links look like — cyclic,
self-referencing, pointing nowhere — every table `ParseAllXRefs` hands to the merge is a
section that stands in the file; the walk invents nothing. -/
theorem prev_walk_sections_come_from_file (secs : Sections) (start : Nat) (s : Section)
    (h : s ∈ parseAllXRefs secs start) : ∃ off prev, getLast secs off = some (s, prev) := by
  unfold parseAllXRefs at h
  rw [List.mem_reverse] at h
  exact chainFrom_sections_from_file secs _ _ _ s h

example : [(1, Entry.at 5)] ∈
    parseAllXRefs [(100, ([(1, .at 10)], some 50)), (50, ([(1, .at 5)], some 100))] 100 := by
  decide

theorem chainFrom_fuel_step (secs : Sections) :
    ∀ (fuel : Nat) (visited : List Nat) (off : Nat), visited.Nodup →
      visited ⊆ secs.map Prod.fst → secs.length + 1 ≤ fuel + visited.length →
      chainFrom secs (fuel + 1) visited off = chainFrom secs fuel visited off := by
  intro fuel visited off hnd hsub hlen
  fun_induction chainFrom secs fuel visited off with
  | case1 visited =>
    have := List.Nodup.length_le_of_subset hnd hsub
    rw [List.length_map] at this
    omega
  | case2 _ _ _ hv => exact chainFrom_visited hv
  | case3 _ _ _ _ hg => exact chainFrom_dangling hg
  | case4 _ _ _ hv _ hg => exact chainFrom_last hv hg
  | case5 fuel visited off hv s p hg ih =>
    rw [chainFrom_step hv hg, ih (List.nodup_cons.mpr ⟨mt List.contains_iff_mem.2 hv, hnd⟩)
      (List.cons_subset.2 ⟨getLast_mem_keys _ _ _ hg, hsub⟩)
      (Nat.add_right_comm fuel 1 visited.length ▸ hlen)]

/-- **prev_walk_bound_never_cuts**: the bound of the model's `/Prev` walk (number of sections
+ 1) is never what ends it: with ANY larger bound the walk returns the same tables, on every
section table — the walk ends by itself because no offset is visited twice. -/
theorem prev_walk_bound_never_cuts (secs : Sections) (start k : Nat) :
    chainFrom secs (secs.length + 1 + k) [] start = chainFrom secs (secs.length + 1) [] start := by
  induction k with
  | zero => rfl
  | succ k ih =>
    rw [← ih]
    exact chainFrom_fuel_step secs (secs.length + 1 + k) [] start List.nodup_nil
      (List.nil_subset _) (Nat.le_add_right _ k)

end Tabula.C04X
