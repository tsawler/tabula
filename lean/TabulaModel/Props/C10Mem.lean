import TabulaModel.Lemmas.BuilderMem
/-!
# C10 — families grown from `FromHTMLReader` / `FromHTMLString`

The third and fourth public constructors of an `Extractor` (tabula.go) give a base without file
name that owns an in-memory `htmldoc.Reader`; `clone` hands reader and ownership flag to every
copy.  Model: `Model/BuilderMem.lean` (compared with the implementation by the op `c10.mem` on
`FromHTMLString`, `FromHTMLReader`, a reader that fails and an HTML tree `htmldoc` refuses).
No descriptor exists in such a family (observed: oracle `C10/fd-leak-html-reader`); the
statements of the property that remain are about the records:

* **mem_derive_preserves_parent** — deriving, and everything done to the derived extractors and
  to every other extractor, changes neither the record of an extractor nor any later answer of it;
* **mem_consumed**, **mem_spent_forever** — a terminal operation that reaches its deferred
  `Close`, or a `Close`, uses its receiver up: with no file name nothing can be opened again, so
  every later terminal and non-terminal operation on it fails (and `Close` stays harmless), for
  ever, and so does everything derived from it afterwards — while extractors derived BEFORE keep
  their record (`mem_sibling_survives`);
* **mem_run_answers** — the answers of a whole history are those computed from the chains of
  calls and one liveness flag per extractor;
* **mem_failed_base** — when `htmldoc.OpenReader` failed, every operation of every extractor of
  the family fails, in every history, and `Close` returns nil.
-/
namespace Tabula.C10Mem
open Tabula.PageSel Tabula.Builder Tabula.BuilderMem

theorem mexec_length_le (w : World) (ops : List Op) : ∀ (X : List Ext), X.length ≤ (mexec w X ops).length := by
  induction ops with
  | nil => intro X; exact Nat.le_refl _
  | cons op ops ih => intro X; exact Nat.le_trans (mstep_length_le w X op) (ih _)

/-- **mem_derive_preserves_parent**: for every sequence of operations in which extractor `i` is
used only as the receiver of configuration methods, the record of `i` is unchanged and every
later operation on `i` answers what it would have answered before the sequence. -/
theorem mem_derive_preserves_parent (w : World) (ops : List Op) : ∀ (X : List Ext) (i : Nat),
    i < X.length → (∀ op ∈ ops, op.mutates = true → op.target ≠ i) →
    (mexec w X ops)[i]? = X[i]? ∧
    ∀ op : Op, op.target = i → (mstep w (mexec w X ops) op).2 = (mstep w X op).2 := by
  intro X i hi hops
  have hg := mget_exec w i ops hi hops
  exact ⟨hg, fun op hop => by rw [mstep_res, mstep_res, hop, hg]⟩

example : let w : World := ⟨false, some 1⟩
    let ops := [Op.derive 0 .excludeHeaders, .term 1 .text, .close 1, .derive 0 (.pages [3]), .term 2 .toMarkdown]
    (∀ op ∈ ops, op.mutates = true → op.target ≠ 0) ∧
    (mstep w (mexec w [htmlBase] ops) (.term 0 .text)).2 = .whole := by decide

/-- an extractor that has nothing to read from -/
def Spent (e : Ext) : Prop := e.opened = false

/-- **mem_consumed**: in a reachable family, a terminal operation that gets past its first tests
(no builder error that it looks at, an operation the format supports) leaves its receiver spent,
whether its body then succeeds or fails; so does `Close`. -/
theorem mem_consumed (w : World) (X : List Ext) (h : MemInv X) (i : Nat) (e : Ext) (he : X[i]? = some e) :
    (∀ k : Term, consumes k e = true →
      ∃ e', (mTerminal w k X i).1[i]? = some e' ∧ Spent e' ∧ e'.static = e.static) ∧
    (∃ e', (mCloseOp X i).1[i]? = some e' ∧ Spent e' ∧ e'.static = e.static) := by
  have hi := lt_of_getElem? he
  obtain ⟨_, hrest⟩ := h i e he
  have hsp := (mClose_spent e hrest).1
  constructor
  · intro k hk
    rw [mTerminal_eq w k he, hk, Bool.true_and]
    cases ho : e.opened with
    | false => exact ⟨e, he, ho, rfl⟩
    | true => exact ⟨mClose e, List.getElem?_set_self hi, hsp, mClose_static e⟩
  · simp only [mCloseOp, he]
    exact ⟨mClose e, List.getElem?_set_self hi, hsp, mClose_static e⟩

/-- a spent extractor answers every terminal and non-terminal operation with an error and
`Close` with nil; nothing changes -/
theorem spent_answers (w : World) (X : List Ext) (i : Nat) (e : Ext) (he : X[i]? = some e) (hs : Spent e) :
    (∀ k : Term, mTerminal w k X i = (X, .err)) ∧
    (∀ k : NonTerm, mNonTerminal w k X i = (X, .err)) ∧
    (mCloseOp X i).2 = .closed := by
  unfold Spent at hs
  refine ⟨fun k => ?_, fun k => ?_, by simp [mCloseOp, he]⟩
  · rw [mTerminal_eq w k he, hs, Bool.and_false, mTermStatic_spent]
    rfl
  · rw [mNonTerminal_eq w k he, hs, mNonTermStatic_spent]

theorem spent_step (w : World) (X : List Ext) (h : MemInv X) (op : Op) (i : Nat) (e : Ext)
    (he : X[i]? = some e) (hs : Spent e) :
    ∃ e', (mstep w X op).1[i]? = some e' ∧ Spent e' ∧ e'.static = e.static := by
  rcases mstep_cases w X op with hr | ⟨e0, he0, _, hr⟩ | ⟨e0, c, _, _, hr⟩ <;> rw [hr]
  · exact ⟨e, he, hs, rfl⟩
  · by_cases hti : op.target = i
    · rw [hti] at he0 ⊢
      cases he.symm.trans he0
      exact ⟨mClose e, List.getElem?_set_self (lt_of_getElem? he), (mClose_spent e (h i e he).2).1,
        mClose_static e⟩
    · exact ⟨e, by rw [List.getElem?_set_ne hti]; exact he, hs, rfl⟩
  · exact ⟨e, by rw [List.getElem?_append_left (lt_of_getElem? he)]; exact he, hs, rfl⟩

/-- **mem_spent_forever**: once spent, always spent — no later history (on this extractor or any
other) gives it a reader again; every later terminal and non-terminal operation on it fails. -/
theorem mem_spent_forever (w : World) (ops : List Op) : ∀ (X : List Ext), MemInv X → ∀ (i : Nat) (e : Ext),
    X[i]? = some e → Spent e →
    ∃ e', (mexec w X ops)[i]? = some e' ∧ Spent e' ∧ e'.static = e.static ∧
      (∀ k : Term, (mTerminal w k (mexec w X ops) i).2 = .err) ∧
      (∀ k : NonTerm, (mNonTerminal w k (mexec w X ops) i).2 = .err) := by
  induction ops with
  | nil =>
    intro X _ i e he hs
    refine ⟨e, he, hs, rfl, ?_, ?_⟩
    · intro k; show (mTerminal w k X i).2 = .err; rw [(spent_answers w X i e he hs).1 k]
    · intro k; show (mNonTerminal w k X i).2 = .err; rw [(spent_answers w X i e he hs).2.1 k]
  | cons op ops ih =>
    intro X h i e he hs
    obtain ⟨e1, he1, hs1, hst1⟩ := spent_step w X h op i e he hs
    obtain ⟨e2, he2, hs2, hst2, ha, hb⟩ := ih _ (memInv_step w h op) i e1 he1 hs1
    exact ⟨e2, he2, hs2, by rw [hst2, hst1], ha, hb⟩

/-- whatever is derived from a spent extractor is spent -/
theorem derived_from_spent (e : Ext) (c : BCall) (h : e.hasFile = false ∧ e.owns = e.opened ∧ e.reader.isSome = e.opened)
    (hs : Spent e) : Spent (e.derive c) := by
  unfold Spent at *
  rw [(derive_mem e c h).2.2.2]; exact hs

/-- **mem_one_shot**: after ANY history that is followed by a consuming terminal operation on
extractor `i`, and then by ANY further history, every terminal and non-terminal
operation on `i` fails: an in-memory HTML extractor serves one terminal operation. -/
theorem mem_one_shot (w : World) (e0 : Ext) (h0 : MemInv [e0]) (pre post : List Op) (i : Nat) (e : Ext)
    (he : (mexec w [e0] pre)[i]? = some e) (k : Term) (hk : consumes k e = true) :
    (∀ k' : Term, (mTerminal w k' (mexec w (mTerminal w k (mexec w [e0] pre) i).1 post) i).2 = .err) ∧
    (∀ k' : NonTerm, (mNonTerminal w k' (mexec w (mTerminal w k (mexec w [e0] pre) i).1 post) i).2 = .err) := by
  have hinv := memInv_exec w pre h0
  obtain ⟨e', he', hs', _⟩ := (mem_consumed w _ hinv i e he).1 k hk
  have hinv' : MemInv (mTerminal w k (mexec w [e0] pre) i).1 := memInv_step w hinv (.term i k)
  obtain ⟨_, _, _, _, ha, hb⟩ := mem_spent_forever w post _ hinv' i e' he' hs'
  exact ⟨ha, hb⟩

example : let w : World := ⟨false, some 1⟩
    (mrun w [htmlBase] [.term 0 .text, .term 0 .text, .nonTerm 0 .pageCount, .close 0, .derive 0 .byColumn, .term 1 .toMarkdown]).2
      = [.whole, .err, .err, .closed, .none, .err] := by decide

/-- **mem_sibling_survives**: an extractor derived while its parent was alive keeps the reader
whatever is then done to the parent and to every other extractor: its record is unchanged
(and so, by `mstep_res`, are its answers). -/
theorem mem_sibling_survives (w : World) (X : List Ext) (i : Nat) (e : Ext) (c : BCall) (he : X[i]? = some e)
    (ops : List Op) (hops : ∀ op ∈ ops, op.mutates = true → op.target ≠ X.length) :
    (mexec w (mDeriveOp X i c).1 ops)[X.length]? = some (e.derive c) := by
  have hX : (mDeriveOp X i c).1 = X ++ [e.derive c] := by simp [mDeriveOp, he]
  rw [hX]
  have := (mem_derive_preserves_parent w ops (X ++ [e.derive c]) X.length (by simp) hops).1
  rw [this, List.getElem?_append_right (Nat.le_refl _)]
  simp

example : let w : World := ⟨false, some 1⟩
    (mrun w [htmlBase] [.derive 0 .excludeHeaders, .term 0 .text, .close 0, .term 0 .document, .term 1 .text]).2
      = [.none, .whole, .closed, .err, .whole] := by decide

/-! ## answers from the calls alone -/

theorem mrun_answers_gen (w : World) (e0 : Ext) (ops : List Op) :
    ∀ (L : List (List BCall)) (X : List Ext), MemInv X → LinInv e0 L { exts := X } →
      (mrun w X ops).2 = mStaticRun w e0 L (X.map Ext.opened) ops := by
  induction ops with
  | nil => intro L X _ _; rfl
  | cons op ops ih =>
    intro L X hinv hl
    simp only [mrun, mStaticRun, mlStep_eq w e0 hinv hl op]
    rw [ih _ _ (memInv_step w hinv op) (lin_mstep w hl op)]

/-- **mem_run_answers**: the answers of every history on the family of `FromHTMLString(s)` /
`FromHTMLReader(r)` — good base or failed base — are those computed from each receiver's chain
of calls and its liveness flag, which a consuming terminal operation or a `Close` on that very
extractor clears and a configuration method copies. -/
theorem mem_run_answers (w : World) (ops : List Op) :
    (mrun w [htmlBase] ops).2 = mStaticRun w htmlBase [[]] [true] ops ∧
    (mrun w [htmlBaseErr] ops).2 = mStaticRun w htmlBaseErr [[]] [false] ops :=
  ⟨mrun_answers_gen w htmlBase ops _ _ memInv_base.1 (lin_base htmlBase []),
   mrun_answers_gen w htmlBaseErr ops _ _ memInv_base.2 (lin_base htmlBaseErr [])⟩

/-! ## a base whose HTML could not be read -/

theorem allSpent_step (w : World) (X : List Ext) (h : MemInv X) (hall : ∀ (i : Nat) (e : Ext), X[i]? = some e → Spent e)
    (op : Op) : (∀ (i : Nat) (e : Ext), (mstep w X op).1[i]? = some e → Spent e) ∧
      ((mstep w X op).2 = .err ∨ (mstep w X op).2 = .bad ∨ (mstep w X op).2 = .none ∨ (mstep w X op).2 = .closed) := by
  constructor
  · exact mstep_forall w op Spent (fun e he _ => (mClose_spent e (h _ e he).2).1)
      (fun e c he hs => derived_from_spent e c (h _ e he) hs) hall
  · rw [mstep_res]
    cases he : X[op.target]? with
    | none => cases op <;> exact .inr (.inl rfl)
    | some e =>
      have hs : e.opened = false := hall _ e he
      cases op with
      | derive j c => exact .inr (.inr (.inl rfl))
      | close j => exact .inr (.inr (.inr rfl))
      | term j k => exact .inl (by rw [mRes, hs, mTermStatic_spent])
      | nonTerm j k => exact .inl (by rw [mRes, hs, mNonTermStatic_spent])

/-- **mem_failed_base**: on the family of a `FromHTMLReader` whose input could not be parsed,
no terminal or non-terminal operation of any extractor ever succeeds, in any history: every
answer is an error (`Close`: nil; a configuration method: a new extractor, as useless). -/
theorem mem_failed_base (w : World) (ops : List Op) :
    ∀ r ∈ (mrun w [htmlBaseErr] ops).2, r = .err ∨ r = .bad ∨ r = .none ∨ r = .closed := by
  have gen : ∀ (ops : List Op) (X : List Ext), MemInv X → (∀ (i : Nat) (e : Ext), X[i]? = some e → Spent e) →
      ∀ r ∈ (mrun w X ops).2, r = .err ∨ r = .bad ∨ r = .none ∨ r = .closed := by
    intro ops
    induction ops with
    | nil => intro X _ _ r hr; simp [mrun] at hr
    | cons op ops ih =>
      intro X h hall r hr
      obtain ⟨hall', hres⟩ := allSpent_step w X h hall op
      simp only [mrun, List.mem_cons] at hr
      rcases hr with rfl | hr
      · exact hres
      · exact ih _ (memInv_step w h op) hall' r hr
  apply gen ops _ memInv_base.2
  intro i e he
  cases i with
  | zero => simp only [List.getElem?_cons_zero, Option.some.injEq] at he; subst he; rfl
  | succ k => simp at he

example : (mrun ⟨false, none⟩ [htmlBaseErr] [.term 0 .text, .derive 0 .byColumn, .term 1 .toMarkdown, .nonTerm 1 .pageCount, .close 0]).2
    = [.err, .none, .err, .err, .closed] := by decide

end Tabula.C10Mem
