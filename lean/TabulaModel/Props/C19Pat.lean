import TabulaModel.Props.C19Nav
/-!
# C19 — the class/id pattern as a language

`navigationPatterns.excluded` is `(?i)(^|[^a-z])(w1|w2|…)([^a-z]|$)`.  The model evaluates it by a
scan (`matchFrom`, `wordAt`, `stripWord`; tied to regexp by the c19.match ops).  This file shows
the scan decides exactly the language the expression denotes: the string splits as
pre ++ x ++ post where x, case-folded, is a word of the vocabulary, pre is empty or ends in a
non-letter, and post is empty or starts with a non-letter — for every string and every vocabulary.
-/
namespace Tabula.C19Pat
open Tabula.Html

/-- `([^a-z]|$)`: what follows the word -/
def EndsWord (post : Str) : Prop := post = [] ∨ ∃ c r, post = c :: r ∧ isLetter c = false

/-- `(^|[^a-z])`: what precedes the word — `pre` is empty (and, for a scan resumed in the middle
of a string, the character before it was not a letter: `prev = false`) or its last character is
not a letter -/
def boundaryBefore : Bool → Str → Bool
  | prev, [] => !prev
  | _, c :: cs => boundaryBefore (isLetter c) cs

/-- `boundaryBefore` is what its doc says: decided by the last character alone -/
theorem boundary_before_last : ∀ (p : Str) (prev : Bool) (c : Nat),
    boundaryBefore prev (p ++ [c]) = !isLetter c
  | [], _, _ => rfl
  | _ :: p, _, c => boundary_before_last p _ c

theorem boundary_before_start (prev : Bool) : boundaryBefore prev [] = !prev := rfl

/-- `stripWord w s = some rest` exactly when `s` is `x ++ rest` with `x` folding onto `w` -/
theorem strip_word_iff : ∀ (w s rest : Str),
    stripWord w s = some rest ↔ ∃ x, s = x ++ rest ∧ x.map fold = w :=
  fun w s rest => by
    rw [stripWord_eq]
    constructor
    · intro h
      split at h
      · rename_i hw
        exact ⟨s.take w.length, by rw [← Option.some.inj h, List.take_append_drop], hw⟩
      · cases h
    · rintro ⟨x, rfl, rfl⟩
      simp

/-- a vocabulary word (case-folded) starts here and a non-letter or the end follows -/
theorem word_at_iff (vocab : List Str) (s : Str) :
    wordAt vocab s = true ↔
      ∃ w, w ∈ vocab ∧ ∃ x post, s = x ++ post ∧ x.map fold = w ∧ EndsWord post := by
  unfold wordAt
  rw [List.any_eq_true]
  constructor
  · rintro ⟨w, hw, h⟩
    cases hsw : stripWord w s with
    | none => simp [hsw] at h
    | some rest =>
      obtain ⟨x, hs, hx⟩ := (strip_word_iff w s rest).mp hsw
      refine ⟨w, hw, x, rest, hs, hx, ?_⟩
      cases rest with
      | nil => exact Or.inl rfl
      | cons c r =>
        rw [hsw] at h
        exact Or.inr ⟨c, r, rfl, by simpa using h⟩
  · rintro ⟨w, hw, x, post, hs, hx, he⟩
    refine ⟨w, hw, ?_⟩
    rw [(strip_word_iff w s post).mpr ⟨x, hs, hx⟩]
    rcases he with e | ⟨c, r, e, hc⟩
    · subst e; rfl
    · subst e; simp [hc]

/-- the scan finds exactly the positions with a boundary before and a word at them -/
theorem match_from_iff (vocab : List Str) : ∀ (s : Str) (prev : Bool),
    matchFrom vocab prev s = true ↔
      ∃ pre rest, s = pre ++ rest ∧ rest ≠ [] ∧ boundaryBefore prev pre = true ∧ wordAt vocab rest = true
  | [], prev => by
      simp only [matchFrom, Bool.false_eq_true, false_iff]
      rintro ⟨pre, rest, hs, hne, _, _⟩
      cases pre with
      | nil => exact hne (by simpa using hs.symm)
      | cons _ _ => simp at hs
  | c :: cs, prev => by
      simp only [matchFrom, Bool.or_eq_true, Bool.and_eq_true]
      rw [match_from_iff vocab cs (isLetter c)]
      constructor
      · rintro (⟨hp, hw⟩ | ⟨pre, rest, hs, hne, hb, hw⟩)
        · exact ⟨[], c :: cs, rfl, by simp, hp, hw⟩
        · exact ⟨c :: pre, rest, by simp [hs], hne, hb, hw⟩
      · rintro ⟨pre, rest, hs, hne, hb, hw⟩
        cases pre with
        | nil =>
          have : rest = c :: cs := by simpa using hs.symm
          subst this
          exact Or.inl ⟨hb, hw⟩
        | cons d pre' =>
          simp only [List.cons_append, List.cons.injEq] at hs
          obtain ⟨hd, hcs⟩ := hs
          subst hd
          exact Or.inr ⟨pre', rest, hcs, hne, hb, hw⟩

/-- THE PATTERN AS A LANGUAGE (every vocabulary, every string): `MatchString` of
`(?i)(^|[^a-z])(w1|…)([^a-z]|$)` holds exactly when the string is pre ++ x ++ post with x folding
onto a vocabulary word, pre empty or ending in a non-letter, post empty or starting with a
non-letter (x ++ post not empty: the scan does not look at the end of the string, where only an
empty vocabulary word could match). -/
theorem pattern_language (vocab : List Str) (s : Str) :
    matchVocab vocab s = true ↔
      ∃ pre x post, s = pre ++ (x ++ post) ∧ x ++ post ≠ [] ∧ boundaryBefore false pre = true ∧
        x.map fold ∈ vocab ∧ EndsWord post := by
  unfold matchVocab
  rw [match_from_iff]
  constructor
  · rintro ⟨pre, rest, hs, hne, hb, hw⟩
    obtain ⟨w, hwv, x, post, hr, hx, he⟩ := (word_at_iff vocab rest).mp hw
    subst hr
    exact ⟨pre, x, post, hs, hne, hb, by rw [hx]; exact hwv, he⟩
  · rintro ⟨pre, x, post, hs, hne, hb, hx, he⟩
    exact ⟨pre, x ++ post, hs, hne, hb, (word_at_iff vocab _).mpr ⟨_, hx, x, post, rfl, rfl, he⟩⟩

/-- "main-nav bar" matches (nav between `-` and a space), "navy" and "canvas" do not -/
example : matchVocab vocabExcluded [109, 97, 105, 110, 45, 110, 97, 118, 32, 98, 97, 114] = true ∧
    matchVocab vocabExcluded [110, 97, 118, 121] = false ∧
    matchVocab vocabExcluded [99, 97, 110, 118, 97, 115] = false := by decide

/-- every word of the exclusion vocabulary is non-empty, so the side condition `x ++ post ≠ []`
never bites for it -/
theorem vocabulary_words_nonempty : ∀ w ∈ vocabExcluded, w ≠ [] := by decide

/-- the class/id rule in terms of the language: a class or id value is hit exactly when it
contains a vocabulary word, case-folded, between non-letters or the ends -/
theorem pattern_rule_language (attrs : List (Str × Str)) :
    Tabula.C19Nav.PatternRule attrs ↔
      ∃ v, (v = getAttr attrs A.class ∨ v = getAttr attrs A.id) ∧ v ≠ [] ∧
        ∃ pre x post, v = pre ++ (x ++ post) ∧ boundaryBefore false pre = true ∧
          x.map fold ∈ vocabExcluded ∧ EndsWord post := by
  unfold Tabula.C19Nav.PatternRule
  constructor
  · rintro (⟨hne, hm⟩ | ⟨hne, hm⟩)
    · obtain ⟨pre, x, post, hs, _, hb, hx, he⟩ := (pattern_language _ _).mp hm
      exact ⟨_, Or.inl rfl, hne, pre, x, post, hs, hb, hx, he⟩
    · obtain ⟨pre, x, post, hs, _, hb, hx, he⟩ := (pattern_language _ _).mp hm
      exact ⟨_, Or.inr rfl, hne, pre, x, post, hs, hb, hx, he⟩
  · rintro ⟨v, hv, hne, pre, x, post, hs, hb, hx, he⟩
    have hxne : x ++ post ≠ [] := by
      intro e
      have hx0 : x = [] := (List.append_eq_nil_iff.mp e).1
      subst hx0
      exact vocabulary_words_nonempty _ hx rfl
    have hm : matchVocab vocabExcluded v = true :=
      (pattern_language _ _).mpr ⟨pre, x, post, hs, hxne, hb, hx, he⟩
    rcases hv with e | e
    · subst e; exact Or.inl ⟨hne, hm⟩
    · subst e; exact Or.inr ⟨hne, hm⟩

end Tabula.C19Pat
