import TabulaModel.Props.C09Api
import TabulaModel.Lemmas.LayoutBound
/-!
# C09 and the resource bound of `PreserveLayout()` (C02 repair daef69b)

`extractPreserveLayout` turns positions into white space: `int(gap/lineHeight + 0.5)` newlines
between two lines and blanks up to column `int(x/charWidth)` in front of a fragment. Positions
and font sizes come from the content stream, so before daef69b neither number was bounded (text
at y = 1e14 asked for 10^13 newlines). The repair clamps: at most `maxGapLines` = 100 newlines
for one gap (`if gapInLines > maxGapLines`: 100 is kept, 101 becomes 100) and a target column of
at most `maxCharsPerLine` = 200 (`if targetCol > maxCharsPerLine`: 200 is kept, 201 becomes 200).

For C09 the clamps are harmless - they cut PADDING, never text: the conservation theorems
(`C09.assemble_conserves_preserveLayoutGo`, `C09Api.page_text_conserves`, `document_text_conserves`)
hold verbatim for all inputs, with no hypothesis on the coordinates. What is new is stated here,
about `preserveLayoutGo` (`Model/Layout.lean`), for every character width `cw`, every fall-back
line height `lh0` and every fragment list:

(a) beyond the bound the model answers what the code answers: the clamped amount
    (`preserve_gap_truncated`, `preserve_col_truncated`), and inside it the requested amount
    (`preserve_gap_within`, `preserve_col_within`);
(b) bounded work: a line gets at most 200 blanks IN TOTAL (the column counter only grows), a gap
    at most 100 newlines, so the output is at most the text bytes + 200 per line + 100 per gap
    (`preserve_layout_bounded_lines`), hence at most text + 300 x fragments
    (`preserve_layout_bounded`, `page_text_preserve_bounded`, `document_text_preserve_bounded`);
(c) `example`s at the edge (100 / 101 newlines, column 200 / 201, y = x = 10^14).
-/
namespace Tabula.C09Bound
open Tabula.Layout List

/-! ## (a) the clamps -/

/-- the requested number of newlines before line `ln`: `int(verticalGap/lineHeight + 0.5)` -/
def gapRequested (lh0 ly : Rat) (ln : List Frag) : Int :=
  truncInt ((ly - plLineY ln) / (if plHeight ln ≤ 0 then lh0 else plHeight ln) + 1/2)

/-- the requested column of a fragment: `int(frag.X / charWidth)` -/
def colRequested (cw : Rat) (f : Frag) : Int := truncInt (f.x / cw)

/-- beyond the bound: a gap that asks for more than 100 newlines gets exactly 100 -/
theorem preserve_gap_truncated (lh0 ly : Rat) (ln : List Frag) (h : gapRequested lh0 ly ln > 100) :
    plGapLines lh0 ly ln = 100 :=
  clampNat_of_gt (lo := 1) (hi := maxGapLines) (by decide) h

/-- inside the bound (1 ≤ request ≤ 100, the bound itself included) the request is served -/
theorem preserve_gap_within (lh0 ly : Rat) (ln : List Frag)
    (h1 : 1 ≤ gapRequested lh0 ly ln) (h2 : gapRequested lh0 ly ln ≤ 100) :
    (plGapLines lh0 ly ln : Int) = gapRequested lh0 ly ln :=
  clampNat_of_le (lo := 1) (hi := maxGapLines) h1 h2

/-- every gap writes between 1 and 100 newlines -/
theorem preserve_gap_bounds (lh0 ly : Rat) (ln : List Frag) :
    1 ≤ plGapLines lh0 ly ln ∧ plGapLines lh0 ly ln ≤ 100 :=
  ⟨plGapLines_pos lh0 ly ln, plGapLines_le lh0 ly ln⟩

/-- beyond the bound: a fragment whose position asks for a column beyond 200 is put at 200 -/
theorem preserve_col_truncated (cw : Rat) (f : Frag) (h : colRequested cw f > 200) :
    plTargetCol cw f = 200 :=
  clampNat_of_gt (lo := 0) (hi := maxCharsPerLine) (by decide) h

/-- inside the bound (0 ≤ request ≤ 200, the bound itself included) the request is served -/
theorem preserve_col_within (cw : Rat) (f : Frag)
    (h1 : 0 ≤ colRequested cw f) (h2 : colRequested cw f ≤ 200) :
    (plTargetCol cw f : Int) = colRequested cw f :=
  clampNat_of_le (lo := 0) (hi := maxCharsPerLine) h1 h2

/-- every target column is at most 200 -/
theorem preserve_col_bounded (cw : Rat) (f : Frag) : plTargetCol cw f ≤ 200 :=
  plTargetCol_le cw f

/-! ## (b) bounded work -/

/-- one line, whatever its fragments and their positions: at most 200 blanks in total (each
blank run ends at a target column ≤ 200 and the column counter never goes back) -/
theorem preserve_line_padding_bounded (cw : Rat) (l : List Frag) :
    (plLineText cw 0 l).length ≤ (textsOf l).length + 200 :=
  plLineText_length0 cw l

/-- from a column counter `col` on, a line gets at most `200 - col` blanks -/
theorem preserve_line_padding_from (cw : Rat) (col : Nat) (l : List Frag) :
    (plLineText cw col l).length ≤ (textsOf l).length + (200 - col) := by
  have := plLineText_length cw col l
  unfold maxCharsPerLine at this
  omega

/-- the whole text of `extractPreserveLayout` for EVERY input: the bytes of the fragment texts,
at most 200 blanks per line and at most 100 newlines per gap between two lines -/
theorem preserve_layout_bounded_lines (cw lh0 : Rat) (fs : List Frag) :
    (preserveLayoutGo cw lh0 fs).length ≤
      (textsOf fs).length + 200 * (plLines (stableSort plLess fs)).length
        + 100 * ((plLines (stableSort plLess fs)).length - 1) := by
  have hp : (textsOf (stableSort plLess fs)).length = (textsOf fs).length :=
    textsOf_length_perm (stableSort_perm _ _)
  have hf := plLines_flatten (stableSort plLess fs)
  unfold preserveLayoutGo preserveLayoutSorted
  cases hL : plLines (stableSort plLess fs) with
  | nil => simp
  | cons ln rest =>
    rw [hL] at hf
    have h1 := plLineText_length0 cw ln
    have h2 := plEmitLines_length cw lh0 (plLineY ln) rest
    have h3 : (textsOf ln).length + (textsOf rest.flatten).length = (textsOf fs).length := by
      rw [← hp, ← hf, List.flatten_cons, textsOf_append, List.length_append]
    simp only [List.length_append, List.length_cons, Nat.add_sub_cancel]
    unfold maxCharsPerLine maxGapLines at *
    omega

/-- there are at most as many lines as fragments -/
theorem preserve_lines_le_fragments (fs : List Frag) :
    (plLines (stableSort plLess fs)).length ≤ fs.length := by
  have := plLines_length_le (stableSort plLess fs)
  rw [(stableSort_perm plLess fs).length_eq] at this
  exact this

/-- BOUNDED OUTPUT, every input: `PreserveLayout` text ≤ text bytes + 300 per fragment. No
position, font size or page width can make it longer (before daef69b: y = 1e14 asked for 10^13
newlines, x = 1e14 for 10^13 blanks). -/
theorem preserve_layout_bounded (cw lh0 : Rat) (fs : List Frag) :
    (preserveLayoutGo cw lh0 fs).length ≤ (textsOf fs).length + 300 * fs.length := by
  have h1 := preserve_layout_bounded_lines cw lh0 fs
  have h2 := preserve_lines_le_fragments fs
  omega

/-- the padding alone: the output minus the text is at most 300 per fragment -/
theorem preserve_padding_bounded (cw lh0 : Rat) (fs : List Frag) :
    (preserveLayoutGo cw lh0 fs).length - (textsOf fs).length ≤ 300 * fs.length := by
  have := preserve_layout_bounded cw lh0 fs
  omega

/-- PAGE LEVEL: `Open(f).PreserveLayout().Text()` of a page, for every outcome of every
heuristic -/
theorem page_text_preserve_bounded (hz : Heur) (o : TextOpts) (widthZero : Bool) (fs : List Frag)
    (h : o.preserveLayout = true) :
    (pageText hz o widthZero fs).length ≤ (textsOf fs).length + 300 * fs.length := by
  unfold pageText
  rw [(C09Api.dispatch_precedence o _ _ _ _ _ _).1 h]
  exact preserve_layout_bounded hz.cw hz.lh0 fs

example : (⟨true, false, true⟩ : TextOpts).preserveLayout = true := rfl

/-- what one page may contribute under `PreserveLayout`: its OCR text (external) when it has no
fragments, otherwise text + 300 per fragment -/
def pageBudget (p : PageIn) : Nat :=
  if p.frags.isEmpty then p.ocr.length else (textsOf p.frags).length + 300 * p.frags.length

theorem page_in_text_preserve_bounded (o : TextOpts) (p : PageIn) (h : o.preserveLayout = true) :
    (PageIn.text o p).length ≤ pageBudget p := by
  unfold PageIn.text pageBudget
  split
  · exact Nat.le_refl _
  · exact page_text_preserve_bounded p.hz o p.widthZero p.frags h

theorem joinPages_length (i : Nat) (acc : Str) (ts : List Str) :
    (joinPages i acc ts).length ≤ acc.length + (ts.map List.length).sum + 2 * ts.length := by
  induction ts generalizing i acc with
  | nil => simp [joinPages]
  | cons t ts ih =>
    have := ih (i + 1) (acc ++ (if i > 0 && !acc.isEmpty && !t.isEmpty then [10, 10] else []) ++ t)
    simp only [joinPages, List.map_cons, List.sum_cons, List.length_cons]
    simp only [List.length_append] at this
    have h2 : (if i > 0 && !acc.isEmpty && !t.isEmpty then [10, 10] else ([] : Str)).length ≤ 2 := by
      split <;> simp
    omega

/-- DOCUMENT LEVEL: `Open(f).PreserveLayout().Text()` over ALL page lists - the budgets of the
pages plus the blank line between two page texts -/
theorem document_text_preserve_bounded (o : TextOpts) (pages : List PageIn) (h : o.preserveLayout = true) :
    (docText o pages).length ≤ (pages.map pageBudget).sum + 2 * pages.length := by
  unfold docText
  have h1 := joinPages_length 0 [] (pages.map (PageIn.text o))
  have h2 : ((pages.map (PageIn.text o)).map List.length).sum ≤ (pages.map pageBudget).sum := by
    rw [List.map_map]
    exact List.sum_map_le_sum_map fun p _ => page_in_text_preserve_bounded o p h
  simp only [List.length_nil, List.length_map] at h1
  omega

/-! ## (c) at the edge

Character width 6 (font size 10), fall-back line height 36/5; a line of height 10. -/

/-- the second line, `H` set at size 10 -/
def lineH : List Frag := [⟨1, 0, 0, 6, 10, 10, [72]⟩]

-- gap = 995 → int(99.5 + 0.5) = 100 newlines (the bound: served)
example : gapRequested (36/5) 995 lineH = 100 ∧ plGapLines (36/5) 995 lineH = 100 := by decide +kernel
-- gap = 1005 → 101 requested: 100 written (bound + 1: truncated)
example : gapRequested (36/5) 1005 lineH = 101 ∧ plGapLines (36/5) 1005 lineH = 100 := by decide +kernel
-- gap = 985 → 99 (bound - 1)
example : gapRequested (36/5) 985 lineH = 99 ∧ plGapLines (36/5) 985 lineH = 99 := by decide +kernel
-- y = 1e14 above: 10^13 requested, 100 written
example : gapRequested (36/5) 100000000000000 lineH = 10000000000000 ∧
    plGapLines (36/5) 100000000000000 lineH = 100 := by decide +kernel
-- below or level with the previous line: one newline
example : plGapLines (36/5) 0 lineH = 1 ∧ plGapLines (36/5) (-50) lineH = 1 := by decide +kernel

def fragAt (x : Rat) : Frag := ⟨0, x, 700, 6, 10, 10, [72]⟩

-- x = 1194 → column 199; 1200 → 200 (the bound: served); 1206 → 201 requested, 200 written
example : plTargetCol 6 (fragAt 1194) = 199 ∧ plTargetCol 6 (fragAt 1200) = 200 ∧
    colRequested 6 (fragAt 1206) = 201 ∧ plTargetCol 6 (fragAt 1206) = 200 := by decide +kernel
-- x = 1e14 and a negative x
example : plTargetCol 6 (fragAt 100000000000000) = 200 ∧ plTargetCol 6 (fragAt (-30)) = 0 := by decide +kernel

/-- `H` at the top left, `W` at x = 1e14 a distance of 1e14 below (already in sorted order): one
byte, 100 newlines, 200 blanks, one byte (before daef69b: 10^13 newlines and 1.6 x 10^13 blanks) -/
example : preserveLayoutSorted 6 (36/5)
    [⟨0, 0, 100000000000000, 6, 10, 10, [72]⟩, ⟨1, 100000000000000, 0, 6, 10, 10, [87]⟩] =
    [72] ++ List.replicate 100 10 ++ List.replicate 200 32 ++ [87] := by decide +kernel
/-- the whole function on one fragment far to the right -/
example : preserveLayoutGo 6 (36/5) [⟨1, 100000000000000, 0, 6, 10, 10, [87]⟩] =
    List.replicate 200 32 ++ [87] := by decide +kernel
/-- a line of three fragments that all ask for column 200 and beyond: 200 blanks in total -/
example : plLineText 6 0 [fragAt 1200, fragAt 1206, fragAt 100000000000000] =
    List.replicate 200 32 ++ [72, 72, 72] := by decide +kernel

/-- the hypotheses of `preserve_gap_within` / `preserve_col_within` are satisfiable at the bound -/
example : 1 ≤ gapRequested (36/5) 995 lineH ∧ gapRequested (36/5) 995 lineH ≤ 100 := by decide +kernel
example : 0 ≤ colRequested 6 (fragAt 1200) ∧ colRequested 6 (fragAt 1200) ≤ 200 := by decide +kernel
/-- ... and those of the `_truncated` theorems just beyond it -/
example : gapRequested (36/5) 1005 lineH > 100 ∧ colRequested 6 (fragAt 1206) > 200 := by decide +kernel

end Tabula.C09Bound
