import TabulaModel.Props.C15Doc
import TabulaModel.Props.C15Html
/-!
# C15 — HTML documents whose tables carry `colspan` / `rowspan`, end to end

`html_markdown_lossless`, `html_rag_lossless`, `html_extractor_lossless` (Props/C15Doc.lean) are
stated on the element list as the writer loop sees it (`HElem`: a table is the grid `ToMarkdown`
writes) and ask for rectangular tables.  Here the same three entry points on the elements the
reader holds (`HSrc`: a table is `ParsedTable.Rows`, cells with any `ColSpan`/`RowSpan`): the
grid of EVERY table is rectangular (`htmlCells_view`), so the hypothesis on tables that is left
is that a table has a cell at all — and what is read back is every table as its grid: each cell's
normalised text at the position where the cell stands, every other position empty, one row per
source row (rows all of whose cells are covered included).  Until fix 72cc329 this was the
recorded finding `C15/table-shape-merged-html`.
-/
namespace Tabula.C15Doc
open Tabula.A1 (Str)
open Tabula.Markdown Tabula.MarkdownDoc Tabula.C15

/-- an element whose view is a table is a source table, and the view holds the texts of its grid -/
theorem view_table (e : HSrc) (g : List (List Str)) (h : e.view = .table (some g)) :
    ∃ rows, e = .table (some rows) ∧ g = htmlGridTexts rows := by
  match e, h with
  | .table (some rows), h => cases h; exact ⟨rows, rfl, rfl⟩

/-- **every table of a reader is rectangular for the writer**, whatever its spans -/
theorem htmlCells_view (els : List HSrc) : HtmlCells (els.map HSrc.view) := by
  intro hdr rest hm
  rcases List.mem_map.mp hm with ⟨e, _, he⟩
  obtain ⟨rows, _, hg⟩ := view_table e _ he
  have hrect := html_grid_texts_rect rows
  rw [← hg] at hrect
  have := hrect hdr (by simp)
  rw [this]
  exact hrect

/-- well-formed contents of an HTML reader for the read-back theorems: `HtmlWF` said of the
elements the reader holds.  `cells`: a table with rows has a cell (a table none of whose rows has
a cell is written as `|` lines, which is no table). -/
structure HSrcWF (hl : Int → Int) (els : List HSrc) : Prop where
  basic : ∀ e ∈ els, (match e with | .code _ => false | .quote _ => false | _ => true) = true
  hlRange : ∀ l t, HSrc.heading l t ∈ els → 1 ≤ (hl l).toNat ∧ (hl l).toNat ≤ 6
  headNl : ∀ l t, HSrc.heading l t ∈ els → 10 ∉ t
  paraNl : ∀ t, HSrc.para t ∈ els → 10 ∉ t
  plain : ∀ t, HSrc.para t ∈ els → t.isEmpty = false → classify t = .para
  itemNl : ∀ items, HSrc.list items ∈ els → ∀ it ∈ items, 10 ∉ it.text
  cells : ∀ rows, HSrc.table (some rows) ∈ els → rows ≠ [] → ∃ r ∈ rows, r ≠ []

theorem view_heading (e : HSrc) (l : Int) (t : Str) (h : e.view = .heading l t) : e = .heading l t := by
  match e, h with
  | .heading _ _, h => cases h; rfl

theorem view_para (e : HSrc) (t : Str) (h : e.view = .para t) : e = .para t := by
  match e, h with
  | .para _, h => cases h; rfl

theorem view_list (e : HSrc) (items : List HItem) (h : e.view = .list items) : e = .list items := by
  match e, h with
  | .list _, h => cases h; rfl

/-- the writer's well-formedness follows from the reader's -/
theorem htmlWF_view (hl : Int → Int) (els : List HSrc) (h : HSrcWF hl els) :
    HtmlWF hl (els.map HSrc.view) := by
  have hh : ∀ l t, HElem.heading l t ∈ els.map HSrc.view → HSrc.heading l t ∈ els := fun l t hx => by
    obtain ⟨e, he, hv⟩ := List.mem_map.mp hx
    rwa [view_heading e l t hv] at he
  have hp : ∀ t, HElem.para t ∈ els.map HSrc.view → HSrc.para t ∈ els := fun t hx => by
    obtain ⟨e, he, hv⟩ := List.mem_map.mp hx
    rwa [view_para e t hv] at he
  refine ⟨?_, ?_, ?_, ?_, ?_, ?_, ?_⟩
  · intro x hx
    rcases List.mem_map.mp hx with ⟨e, he, rfl⟩
    have := h.basic e he
    cases e with
    | table rows => cases rows <;> rfl
    | code t => simp at this
    | quote t => simp at this
    | _ => rfl
  · exact fun l t hx => h.hlRange l t (hh l t hx)
  · exact fun l t hx => h.headNl l t (hh l t hx)
  · exact fun t hx => h.paraNl t (hp t hx)
  · exact fun t hx => h.plain t (hp t hx)
  · intro items hx
    obtain ⟨e, he, hv⟩ := List.mem_map.mp hx
    rw [view_list e items hv] at he
    exact h.itemNl items he
  · intro hdr rest hx r hr
    rcases List.mem_map.mp hx with ⟨e, he, hv⟩
    obtain ⟨rows, rfl, hg⟩ := view_table e _ hv
    have hne : rows ≠ [] := by
      intro e0; subst e0
      have : htmlGridTexts [] = [] := rfl
      rw [this] at hg; cases hg
    have hw := html_width_pos rows (h.cells rows he hne)
    have hlen := html_grid_texts_rect rows r (by rw [← hg]; exact hr)
    intro e0
    rw [e0] at hlen
    simp at hlen
    omega

/-- what a reader of the Markdown should get for the elements an HTML reader holds: headings,
items, paragraphs as for `htmlExpected`; every table as the normalised texts of its grid -/
def htmlExpectedSrc (hl : Int → Int) (els : List HSrc) : MdDoc := htmlExpected hl (els.map HSrc.view)

/-- the tables of `htmlExpectedSrc` are the grids of the reader's tables -/
theorem htmlExpectedSrc_tables (hl : Int → Int) (els : List HSrc) :
    (htmlExpectedSrc hl els).tables
      = (els.filterMap fun
          | .table (some rows) => if rows.isEmpty then none else some rows
          | _ => none).map fun rows => some ((htmlGridTexts rows).map (List.map (normCell .html))) := by
  unfold htmlExpectedSrc htmlExpected hTables
  simp only [List.map_filterMap, List.filterMap_map]
  congr 1
  funext e
  cases e with
  | table rows =>
    cases rows with
    | none => rfl
    | some rows =>
      simp only [Function.comp, HSrc.view]
      cases rows with
      | nil => rfl
      | cons r rs =>
        have hl' : (htmlGridTexts (r :: rs)).length = (r :: rs).length := by
          simp [htmlGridTexts, html_grid_rows]
        cases hg : htmlGridTexts (r :: rs) with
        | nil => rw [hg] at hl'; simp at hl'
        | cons a b => simp [hg]
  | _ => rfl

/-- **HTML with merged cells, `Reader.MarkdownWithOptions` / `Reader.Markdown()`**: for every
element list that meets `HSrcWF` — no code block or block quote, single-line texts, every table
with rows having a cell; tables with any `colspan`/`rowspan`, short rows, rows all of whose cells
are covered, any cell contents — the Markdown reads back as the source structure, every table as
its grid. -/
theorem html_markdown_lossless_spans (els : List HSrc) (hwf : HSrcWF id els)
    (htoc : (2, tocText) ∉ hHeadings id (els.map HSrc.view)) :
    readMd (htmlMarkdownWithOptionsSrc els) = htmlExpectedSrc id els :=
  html_markdown_lossless (els.map HSrc.view) (htmlWF_view id els hwf) (htmlCells_view els) htoc

/-- **HTML with merged cells, `Reader.MarkdownWithRAGOptions`** under every option -/
theorem html_rag_lossless_spans (ext : Ext) (hext : ExtOK ext) (o : MdOpts) (m : HMeta) (els : List HSrc)
    (hwf : HSrcWF (fun l => headingLevel l o.offset o.max) els)
    (htoc : (2, tocText) ∉ hHeadings (fun l => headingLevel l o.offset o.max) (els.map HSrc.view)) :
    readMd (htmlMarkdownRagSrc ext o m els)
      = htmlExpectedSrc (fun l => headingLevel l o.offset o.max) els :=
  html_rag_lossless ext hext o m (els.map HSrc.view) (htmlWF_view _ els hwf) (htmlCells_view els) htoc

/-- **HTML with merged cells, `tabula.Open(f).ToMarkdownWithOptions`** -/
theorem html_extractor_lossless_spans (ext : Ext) (hext : ExtOK ext) (exH exF : Bool) (o : MdOpts)
    (m : HMeta) (els : List HSrc) (hwf : HSrcWF (fun l => headingLevel l o.offset o.max) els)
    (htoc : (2, tocText) ∉ hHeadings (fun l => headingLevel l o.offset o.max) (els.map HSrc.view)) :
    readMd (extractorMarkdown ext exH exF o (.html m (els.map HSrc.view)))
      = htmlExpectedSrc (fun l => headingLevel l o.offset o.max) els :=
  html_extractor_lossless ext hext exH exF o m (els.map HSrc.view) (htmlWF_view _ els hwf)
    (htmlCells_view els) htoc

/-- a heading, and the table `Wide (colspan 2) / Tall (rowspan 3) | a\|b / (covered) | B / (row all covered)` -/
def exHtml : List HSrc :=
  [ .heading 2 [72, 105],
    .table (some [[⟨[87], 2, 1⟩], [⟨[84], 1, 3⟩, ⟨[97, 92, 124, 98], 1, 1⟩], [⟨[66], 0, 1⟩], []]),
    .para [98, 111, 100, 121] ]

example : HSrcWF id exHtml := by
  refine ⟨?_, ?_, ?_, ?_, ?_, ?_, ?_⟩
  · intro e he
    simp only [exHtml, List.mem_cons, List.not_mem_nil, or_false] at he
    rcases he with rfl | rfl | rfl <;> rfl
  · intro l t h
    simp only [exHtml, List.mem_cons, HSrc.heading.injEq, List.not_mem_nil, or_false] at h
    rcases h with ⟨rfl, rfl⟩ | h | h
    · decide
    · cases h
    · cases h
  · intro l t h
    simp only [exHtml, List.mem_cons, HSrc.heading.injEq, List.not_mem_nil, or_false] at h
    rcases h with ⟨rfl, rfl⟩ | h | h
    · decide
    · cases h
    · cases h
  · intro t h
    simp only [exHtml, List.mem_cons, List.not_mem_nil, or_false] at h
    rcases h with h | h | h
    · cases h
    · cases h
    · cases h; decide
  · intro t h _
    simp only [exHtml, List.mem_cons, List.not_mem_nil, or_false] at h
    rcases h with h | h | h
    · cases h
    · cases h
    · cases h; decide
  · intro items h
    simp only [exHtml, List.mem_cons, List.not_mem_nil, or_false] at h
    rcases h with h | h | h <;> cases h
  · intro rows h _
    simp only [exHtml, List.mem_cons, List.not_mem_nil, or_false] at h
    rcases h with h | h | h
    · cases h
    · cases h; exact ⟨_, List.mem_cons_self, by simp⟩
    · cases h

/-- … and the conclusion on the example, computed: the table comes back as its 4 × 2 grid, the
cell beside the rowspan in the second column, the covered row as a row of empty cells, the
backslash and the pipe intact -/
example : htmlExpectedSrc id exHtml
    = { headings := [(2, [72, 105])], items := [],
        tables := [some [[[87], []], [[84], [97, 92, 124, 98]], [[], [66]], [[], []]]],
        paras := [[98, 111, 100, 121]] } := by decide +kernel

example : readMd (htmlMarkdownWithOptionsSrc exHtml) = htmlExpectedSrc id exHtml := by decide +kernel

end Tabula.C15Doc
