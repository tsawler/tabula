import TabulaModel.Lemmas.HFWitness
/-!
# C11 — Header/footer exclusion removes only repeated marginal text

Theorems about `Model/HeaderFooter.lean` (the model of `layout/header_footer.go` after the
three C11 fixes). Helper lemmas are in `Lemmas/HeaderFooter.lean`; the witness documents `exDoc`
(word-level) and `clDoc` (character-level) with what the detector finds on them in `Lemmas/HFWitness.lean`.

Vocabulary: `bands cfg frags pageHeight` are the margin bands of a page (72 pt from the page
edges; content extent and scaled heights for "inverted" pages), `inRegion .header/.footer`
says that a fragment lies in the top/bottom band, `excludePage cfg all p` is what the
extractor returns for page `p` when exclusion is on (regions detected on `all` pages).
-/
namespace Tabula.C11
open Tabula.HF

/-! ## Exclusion can only delete, in order -/

/-- **filter_sublist.** The filtered fragments are a sublist of the page's fragments (same order,
nothing invented, nothing duplicated) — for every detection result, page and fragment list. -/
theorem filter_sublist (res : Result) (idx : Int) (fs : List Frag) (ph : Rat) :
    (filterFragments res idx fs ph).Sublist fs := by
  rw [filterFragments_eq]; exact List.filter_sublist

/-- the same for the extractor-level composition -/
theorem exclude_sublist (cfg : Config) (all : List Page) (p : Page) :
    (excludePage cfg all p).Sublist p.frags :=
  filter_sublist _ _ _ _

/-! ## Body text is untouched -/

/-- **body_untouched.** A fragment of a word-level page outside both margin bands of its page is
always kept, whatever was detected (character-level pages: `body_untouched_charlevel`). -/
theorem body_untouched (res : Result) (idx : Int) (fs : List Frag) (ph : Rat) (f : Frag) (hf : f ∈ fs)
    (hword : isCharacterLevel fs = false)
    (htop : inTop (bands res.cfg fs ph) f = false) (hbot : inBottom (bands res.cfg fs ph) f = false) :
    f ∈ filterFragments res idx fs ph :=
  (mem_filterFragments_wordLevel hword).mpr ⟨hf, isInHeaderFooter_false_of_outside htop hbot⟩

/-- **body_untouched_charlevel.** On a character-level page the unit the filter measures is the
assembled line (position of its first glyph, height of the line; bands measured on the assembled
lines, as in detection): a glyph is always kept when every line it belongs to lies outside both
margin bands, whatever was detected. -/
theorem body_untouched_charlevel (res : Result) (idx : Int) (fs : List Frag) (ph : Rat) (f : Frag) (hf : f ∈ fs)
    (hcl : isCharacterLevel fs = true)
    (hout : ∀ g ∈ charLines fs, f ∈ g → ∀ l, assembleLine g = some l →
      inTop (bands res.cfg (assembleFragmentsIntoLines fs) ph) l = false ∧
      inBottom (bands res.cfg (assembleFragmentsIntoLines fs) ph) l = false) :
    f ∈ filterFragments res idx fs ph :=
  (mem_filterFragments_charLevel hcl).mpr ⟨hf, fun g hg hfg l hl =>
    isInHeaderFooter_false_of_outside (hout g hg hfg l hl).1 (hout g hg hfg l hl).2⟩

/-- the body fragment of page 2 of the example is outside both bands -/
example : let p := exPage 1 [66, 111, 100, 121] 2
    ∃ f ∈ p.frags, inTop (bands defaultConfig p.frags p.height) f = false ∧
      inBottom (bands defaultConfig p.frags p.height) f = false := by
  refine ⟨{ text := [66, 111, 100, 121], x := 72, y := 400, w := 120, h := 12, fs := 12 }, ?_, ?_, ?_⟩ <;> decide +kernel

/-- the body band of a word-level page survives as a whole: filtering commutes with restriction to the body band -/
theorem body_band_preserved (res : Result) (idx : Int) (fs : List Frag) (ph : Rat)
    (hword : isCharacterLevel fs = false) :
    (filterFragments res idx fs ph).filter
        (fun f => !inTop (bands res.cfg fs ph) f && !inBottom (bands res.cfg fs ph) f) =
      fs.filter (fun f => !inTop (bands res.cfg fs ph) f && !inBottom (bands res.cfg fs ph) f) := by
  rw [filterFragments_eq, List.filter_filter]
  apply List.filter_congr
  intro f _
  rw [isRemoved_wordLevel hword]
  cases ht : inTop (bands res.cfg fs ph) f <;> cases hb : inBottom (bands res.cfg fs ph) f <;> simp
  exact isInHeaderFooter_false_of_outside ht hb

/-! ## What may be removed -/

/-- `r` was detected for kind `k` on `pages`: its pattern is the digit-normalised text of a group of
marginal candidates (band test in page coordinates, on the preprocessed pages) that occurs on at
least `minOccurrences` distinct pages at a consistent position; `r.pages` are exactly the pages
of that group; and a page-number region is one whose pattern is a page-number pattern or whose
group carries a running number. -/
def DetectedAt (cfg : Config) (pages : List Page) (k : Kind) (r : Region) : Prop :=
  let group := groupOf (extractCandidates cfg k (preprocessPages pages)) r.pattern
  minOccurrences cfg pages.length ≤ (distinctPages group).length ∧
  2 ≤ minOccurrences cfg pages.length ∧
  hasConsistentPosition cfg group = true ∧
  (∀ i, i ∈ r.pages ↔ ∃ c ∈ group, c.page = i) ∧
  (r.isPageNumber = true → isPageNumberPattern r.pattern = true ∨ containsPageNumberPattern group = true)

theorem two_le_minOccurrences (cfg : Config) (n : Nat) : 2 ≤ minOccurrences cfg n :=
  minOccurrences_ge_two cfg n

/-- every region of a detection result was detected in the sense of `DetectedAt` -/
theorem detected_of_mem (cfg : Config) (pages : List Page) (k : Kind) (r : Region)
    (hr : r ∈ (detect cfg pages).regions k) : DetectedAt cfg pages k r := by
  obtain ⟨_, hocc, hcons, _, _, hpages, hpn, _, _⟩ := regionOf_eq_some (mem_regions_iff.mp hr).2
  refine ⟨hocc, two_le_minOccurrences _ _, hcons, ?_, ?_⟩
  · intro i; rw [hpages, mem_sortInts, mem_distinctPages]
  · intro h; rw [hpn] at h; simpa using h

/-- what a hit of `isInHeaderFooter` on the result of `detect` means for the judged fragment `l` (a
fragment of a word-level page, an assembled line of a character-level page) measured against `b` -/
theorem hit_only_if (cfg : Config) (pages : List Page) (idx : Int) (b : Bands) (l : Frag)
    (h : isInHeaderFooter (detect cfg pages) idx b l = true) :
    ∃ k r, r ∈ (detect cfg pages).regions k ∧ DetectedAt cfg pages k r ∧ idx ∈ r.pages ∧
      inRegion k b l = true ∧
      (normalize (trimSpace l.text) = r.pattern ∨
        (r.isPageNumber = true ∧ isPageNumberPattern (normalize (trimSpace l.text)) = true)) := by
  obtain ⟨k, r, hr, hpage, hin, hm⟩ := isInHeaderFooter_eq_true.mp h
  exact ⟨k, r, hr, detected_of_mem cfg pages k r hr, hpage, hin,
    (regionMatches_iff_of_regionOf (mem_regions_iff.mp hr).2 (fun c hc => cand_text_trimmed hc) _).mp hm⟩

/-- **removed_only_if** (word-level pages). If exclusion removes a fragment of a word-level page, then
the fragment lies in the top or bottom band of its page (`inRegion k`), and there is a region `r` of
that kind, detected on at least `minOccurrences ≥ 2` pages at a consistent position and covering this
page, such that either the fragment's digit-normalised text is the region's text pattern, or `r` is a
page-number region and the fragment is a page-number pattern. -/
theorem removed_only_if (cfg : Config) (pages : List Page) (p : Page) (f : Frag)
    (hword : isCharacterLevel p.frags = false) (hf : f ∈ p.frags)
    (hrem : f ∉ excludePage cfg pages p) :
    ∃ k r, r ∈ (detect cfg pages).regions k ∧ DetectedAt cfg pages k r ∧ p.index ∈ r.pages ∧
      inRegion k (bands cfg p.frags p.height) f = true ∧
      (normalize (trimSpace f.text) = r.pattern ∨
        (r.isPageNumber = true ∧ isPageNumberPattern (normalize (trimSpace f.text)) = true)) := by
  have h := (not_mem_filterFragments hf).mp hrem
  rw [isRemoved_wordLevel hword, detect_cfg] at h
  exact hit_only_if cfg pages p.index _ f h

/-- the hypotheses are satisfiable: the running header of page 2 of `exDoc` is removed from a word-level page -/
example : let p := exPage 1 [66, 111, 100, 121, 32, 116, 119, 111] 2
    let f : Frag := { text := [65, 67, 77, 69, 32, 82, 101, 112, 111, 114, 116], x := 72, y := 760, w := 74, h := 12, fs := 12 }
    isCharacterLevel p.frags = false ∧ f ∈ p.frags ∧ f ∉ excludePage defaultConfig exDoc p := by
  simp only [excludePage, detect_exDoc]
  decide +kernel

/-- **removed_only_if_charlevel** (character-level pages; the full statement since the repair of F8).
If exclusion removes a glyph fragment of a character-level page, then the glyph belongs to a line
group `g` of the page (`charLines`, the groups detection assembles) whose assembled line `l` lies in
the top or bottom band (measured, as in detection, on the assembled lines of the page), and there is
a region of that kind, detected on at least `minOccurrences ≥ 2` pages at a consistent position and
covering this page, such that the LINE's digit-normalised text is the region's pattern, or the region
is a page-number region and the line is a page-number pattern. -/
theorem removed_only_if_charlevel (cfg : Config) (pages : List Page) (p : Page) (f : Frag)
    (hcl : isCharacterLevel p.frags = true) (hf : f ∈ p.frags) (hrem : f ∉ excludePage cfg pages p) :
    ∃ g ∈ charLines p.frags, f ∈ g ∧ ∃ l, assembleLine g = some l ∧
      ∃ k r, r ∈ (detect cfg pages).regions k ∧ DetectedAt cfg pages k r ∧ p.index ∈ r.pages ∧
        inRegion k (bands cfg (assembleFragmentsIntoLines p.frags) p.height) l = true ∧
        (normalize (trimSpace l.text) = r.pattern ∨
          (r.isPageNumber = true ∧ isPageNumberPattern (normalize (trimSpace l.text)) = true)) := by
  obtain ⟨g, hg, hfg, l, hl, hit⟩ := (isRemoved_charLevel_eq_true hcl).mp ((not_mem_filterFragments hf).mp hrem)
  rw [detect_cfg] at hit
  exact ⟨g, hg, hfg, l, hl, hit_only_if cfg pages p.index _ l hit⟩

/-- the hypotheses of `removed_only_if_charlevel` are satisfiable: the glyph `A` of the running line
"Abc" goes from the character-level page 2 of `clDoc` -/
example : let p := clPage 1 true
    let f : Frag := { text := [65], x := 72, y := 760, w := 6, h := 12, fs := 12 }
    isCharacterLevel p.frags = true ∧ f ∈ p.frags ∧ f ∉ excludePage defaultConfig clDoc p := by
  simp only [excludePage, detect_clDoc]
  decide +kernel

/-- what exclusion returns on `clDoc` since the repair: the running line "Abc" goes from every page,
the unique line "Xy" of page 2 and the body glyphs stay, in their order -/
theorem charlevel_unique_line_kept :
    clDoc.map (fun p => (excludePage defaultConfig clDoc p).map (·.text)) =
      [[[66], [111]], [[88], [121], [66], [111]], [[66], [111]]] := by
  simp only [excludePage, detect_clDoc]
  decide +kernel

/-- exclusion as it was before the repair of F8 (`filterFragmentsOld`: position alone on
character-level pages) -/
def excludePageOld (cfg : Config) (all : List Page) (p : Page) : List Frag :=
  filterFragmentsOld (detect cfg all) p.index p.frags p.height

/-- **charlevel_position_only_pinned_counterexample** (F8, was finding `C11/charlevel-position-only`;
about the filter BEFORE the repair, `filterFragmentsOld`). On the character-level document `clDoc`
the character `X` of the unique marginal line "Xy" of page 2 was removed although it is no
page-number pattern and no detected region has its text — or the text "Xy" of its line — as pattern:
the text clause failed on character-level pages. The repaired filter keeps it. -/
theorem charlevel_position_only_pinned_counterexample :
    let p := clPage 1 true
    let f : Frag := { text := [88], x := 72, y := 740, w := 6, h := 12, fs := 12 }
    isCharacterLevel p.frags = true ∧ f ∈ p.frags ∧ f ∉ excludePageOld defaultConfig clDoc p ∧
      isPageNumberPattern (normalize (trimSpace f.text)) = false ∧
      ((detect defaultConfig clDoc).headers ++ (detect defaultConfig clDoc).footers).all
        (fun r => r.pattern != normalize (trimSpace f.text) && r.pattern != [88, 121]) = true ∧
      f ∈ excludePage defaultConfig clDoc p := by
  simp only [excludePageOld, excludePage, detect_clDoc]
  decide +kernel

/-- on word-level pages the old and the repaired filter are the same function -/
theorem filterFragmentsOld_wordLevel (res : Result) (idx : Int) (fs : List Frag) (ph : Rat)
    (hword : isCharacterLevel fs = false) : filterFragmentsOld res idx fs ph = filterFragments res idx fs ph := by
  rw [filterFragments_eq]
  unfold filterFragmentsOld
  apply List.filter_congr
  intro f _
  rw [isRemoved_wordLevel hword, hword]
  have e : ∀ inBand, regionHitsOld idx inBand false f = regionHits idx inBand f := by
    intro inBand; funext r; simp [regionHitsOld, regionHits]
  simp only [isInHeaderFooterOld, isInHeaderFooter, e]

example : isCharacterLevel (exPage 0 [66] 1).frags = false := by decide +kernel

/-- **charlevel_removed_only_where_a_line_repeats.** Whatever kind of page: if exclusion removes a
fragment, then THIS page carries, in one of its margin bands, a marginal line (an assembled line on a
character-level page) whose digit-normalised text also occurs on another page — a group of
candidates on at least two distinct pages, one of them this page. Where no marginal line repeats on
another page, nothing is removed (band by band: `removed_only_if`, `removed_only_if_charlevel`). -/
theorem charlevel_removed_only_where_a_line_repeats (cfg : Config) (pages : List Page) (p : Page) (f : Frag)
    (hf : f ∈ p.frags) (hrem : f ∉ excludePage cfg pages p) :
    ∃ k key,
      2 ≤ (distinctPages (groupOf (extractCandidates cfg k (preprocessPages pages)) key)).length ∧
      ∃ c ∈ groupOf (extractCandidates cfg k (preprocessPages pages)) key, c.page = p.index := by
  cases hcl : isCharacterLevel p.frags with
  | false =>
    obtain ⟨k, r, _, hdet, hpage, _⟩ := removed_only_if cfg pages p f hcl hf hrem
    obtain ⟨h1, h2, _, h4, _⟩ := hdet
    exact ⟨k, r.pattern, by omega, (h4 p.index).mp hpage⟩
  | true =>
    obtain ⟨_, _, _, _, _, k, r, _, hdet, hpage, _⟩ := removed_only_if_charlevel cfg pages p f hcl hf hrem
    obtain ⟨h1, h2, _, h4, _⟩ := hdet
    exact ⟨k, r.pattern, by omega, (h4 p.index).mp hpage⟩

/-! ## Documents without repetition are returned unchanged -/

/-- **no_repetition_identity.** If no digit-normalised marginal text occurs on two different pages
(for each kind of band, every group of marginal candidates lies on fewer than two pages), exclusion
returns every page unchanged. -/
theorem no_repetition_identity (cfg : Config) (pages : List Page)
    (h : ∀ k key, (distinctPages (groupOf (extractCandidates cfg k (preprocessPages pages)) key)).length < 2)
    (p : Page) : excludePage cfg pages p = p.frags := by
  have hnone : ∀ k, (detect cfg pages).regions k = [] := by
    intro k
    apply List.eq_nil_iff_forall_not_mem.mpr
    intro r hr
    obtain ⟨h1, h2, _⟩ := detected_of_mem cfg pages k r hr
    have := h k r.pattern
    omega
  exact filterFragments_no_regions (hnone .header) (hnone .footer) _ _ _

/-- the hypothesis holds e.g. for a two-page document whose margins carry different texts -/
example : ∀ key, (distinctPages (groupOf (extractCandidates defaultConfig .header (preprocessPages
    [exPage 0 [66] 1, { (exPage 1 [67] 2) with frags := [{ text := [90, 90, 90], x := 72, y := 760, w := 20, h := 12, fs := 12 }] }])) key)).length < 2 := by
  intro key
  -- the two marginal candidates have different normalised texts, so no group holds both
  have e : extractCandidates defaultConfig .header (preprocessPages
      [exPage 0 [66] 1, { (exPage 1 [67] 2) with frags := [{ text := [90, 90, 90], x := 72, y := 760, w := 20, h := 12, fs := 12 }] }]) =
      [⟨[65, 67, 77, 69, 32, 82, 101, 112, 111, 114, 116], 72, 20, 74, 12, 0⟩, ⟨[90, 90, 90], 72, 20, 20, 12, 1⟩] := by
    decide +kernel
  have n1 : normalize [65, 67, 77, 69, 32, 82, 101, 112, 111, 114, 116] = [65, 67, 77, 69, 32, 82, 101, 112, 111, 114, 116] := by decide
  have n2 : normalize [90, 90, 90] = [90, 90, 90] := by decide
  rw [e]
  simp only [groupOf, List.filter_cons, List.filter_nil, n1, n2]
  by_cases h1 : [65, 67, 77, 69, 32, 82, 101, 112, 111, 114, 116] = key
  · subst h1; decide
  · simp only [beq_false_of_ne h1, Bool.false_eq_true, if_false]; split <;> decide

/-- **single_page_identity.** A document of at most one page is returned unchanged, whatever its margins
contain (there is nothing a text could repeat across). -/
theorem single_page_identity (cfg : Config) (pages : List Page) (hn : pages.length ≤ 1) (p : Page) :
    excludePage cfg pages p = p.frags := by
  apply no_repetition_identity
  intro k key
  have := distinctPages_length_le (cfg := cfg) (k := k) (pages := pages) key
  omega

example : ([exPage 0 [66] 1] : List Page).length ≤ 1 := by decide

/-! ## Page subsets -/

/-- `Extractor.Text/Lines/…` with exclusion switched on (`collectAllPages`, `detectHeaderFooter`, then
`FilterFragments` per requested page): `requested` are positions into the document as `resolvePages`
returns them; the regions are detected on ALL pages. -/
def extractorExclude (cfg : Config) (all : List Page) (requested : List Nat) : List (List Frag) :=
  let res := detect cfg all
  requested.filterMap fun i => all[i]?.map fun p => filterFragments res p.index p.frags p.height

theorem filterMap_range_getElem {α β : Type} (g : α → β) :
    ∀ l : List α, (List.range l.length).filterMap (fun i => l[i]?.map g) = l.map g
  | [] => rfl
  | a :: t => by
    rw [List.length_cons, List.range_succ_eq_map, List.filterMap_cons]
    simp [List.filterMap_map, Function.comp_def, filterMap_range_getElem g t]

/-- requesting every page gives the page-wise exclusion of the whole document -/
theorem extractor_all_pages (cfg : Config) (all : List Page) :
    extractorExclude cfg all (List.range all.length) = all.map (excludePage cfg all) :=
  filterMap_range_getElem (excludePage cfg all) all

/-- **detection_uses_all_pages.** Whatever subset of pages is requested together with exclusion, each
requested page comes out exactly as it does when the whole document is requested (the regions are
computed from all pages, not from the requested ones). -/
theorem detection_uses_all_pages (cfg : Config) (all : List Page) (requested : List Nat) :
    extractorExclude cfg all requested =
      requested.filterMap fun i => (extractorExclude cfg all (List.range all.length))[i]? := by
  rw [extractor_all_pages]
  simp only [List.getElem?_map]
  rfl

/-- the claim is not vacuous: detecting on the requested page alone would keep the running header of
`exDoc` on page 2, detecting on all pages removes it -/
theorem detection_on_subset_would_differ :
    let p := exPage 1 [66, 111, 100, 121, 32, 116, 119, 111] 2
    excludePage defaultConfig [p] p = p.frags ∧
      excludePage defaultConfig exDoc p = [{ text := [66, 111, 100, 121, 32, 116, 119, 111], x := 72, y := 400, w := 120, h := 12, fs := 12 }] := by
  simp only [excludePage, detect_exDoc]
  decide +kernel

/-! ## Liveness: what is repeated on every page is removed from every page -/

/-- **repeated_on_enough_pages_removed** (liveness for headers that do not run on every page: odd/even
alternation, all pages but the cover, a chapter's pages). Let the pages `S` of a word-level document —
with distinct indices, at least `minOccurrences` of them — each carry, in the top (resp. bottom) band,
a fragment with digit-normalised text `key`, and let fragments with that normalised text occur in this
band, on ANY page, only at the one position `(x0, d0)`. If `key` is longer than two bytes or a
page-number pattern, every such fragment is removed from every page of `S`. -/
theorem repeated_on_enough_pages_removed (cfg : Config) (pages S : List Page) (k : Kind) (key : Str) (x0 d0 : Rat)
    (htol1 : 0 ≤ cfg.positionTolerance) (htol2 : 0 ≤ cfg.xPositionTolerance)
    (hmin : cfg.minPages ≤ pages.length)
    (hS : ∀ p ∈ S, p ∈ pages) (hSnd : (S.map (·.index)).Nodup)
    (hSocc : minOccurrences cfg pages.length ≤ S.length)
    (hword : ∀ p ∈ pages, isCharacterLevel p.frags = false)
    (hkey : 2 < key.length ∨ isPageNumberPattern key = true)
    (hpresent : ∀ p ∈ S, ∃ f ∈ p.frags, inRegion k (bands cfg p.frags p.height) f = true ∧
      normalize (trimSpace f.text) = key)
    (hpos : ∀ p ∈ pages, ∀ f ∈ p.frags, inRegion k (bands cfg p.frags p.height) f = true →
      normalize (trimSpace f.text) = key → f.x = x0 ∧ regionDist k (bands cfg p.frags p.height) f = d0) :
    ∀ p ∈ S, ∀ f ∈ p.frags, inRegion k (bands cfg p.frags p.height) f = true →
      normalize (trimSpace f.text) = key → f ∉ excludePage cfg pages p := by
  have hit := repeated_hit cfg pages S k key x0 d0 htol1 htol2 hmin
  rw [preprocessPages_wordLevel hword] at hit
  intro p hp f hf hin hk hkept
  have hfalse := ((mem_filterFragments_wordLevel (hword p (hS p hp))).mp hkept).2
  rw [detect_cfg, hit hS hSnd hSocc hkey hpresent hpos p (hS p hp) f hf hin hk] at hfalse
  cases hfalse

/-- **repeated_removed_everywhere** (any configuration with non-negative tolerances whose `MinPages` and
`minOccurrences` the document reaches: `hmin`, `hocc`). Let a word-level
document have `n ≥ 2` pages with distinct indices. Suppose every page carries, in its top (resp.
bottom) band, a fragment whose digit-normalised text is `key` — the same line on every page, or a
running page number such as "Page 3" — and that in this band fragments with that normalised text
occur only at one position `(x0, d0)` (distance `d0` from the band's edge). If `key` is longer than
two bytes or a page-number pattern, then on EVERY page every such fragment is removed. -/
theorem repeated_removed_everywhere (cfg : Config) (pages : List Page) (k : Kind) (key : Str) (x0 d0 : Rat)
    (htol1 : 0 ≤ cfg.positionTolerance) (htol2 : 0 ≤ cfg.xPositionTolerance)
    (hmin : cfg.minPages ≤ pages.length) (hocc : minOccurrences cfg pages.length ≤ pages.length)
    (hn : 2 ≤ pages.length) (hnd : (pages.map (·.index)).Nodup)
    (hword : ∀ p ∈ pages, isCharacterLevel p.frags = false)
    (hkey : 2 < key.length ∨ isPageNumberPattern key = true)
    (hpresent : ∀ p ∈ pages, ∃ f ∈ p.frags, inRegion k (bands cfg p.frags p.height) f = true ∧
      normalize (trimSpace f.text) = key)
    (hpos : ∀ p ∈ pages, ∀ f ∈ p.frags, inRegion k (bands cfg p.frags p.height) f = true →
      normalize (trimSpace f.text) = key → f.x = x0 ∧ regionDist k (bands cfg p.frags p.height) f = d0) :
    ∀ p ∈ pages, ∀ f ∈ p.frags, inRegion k (bands cfg p.frags p.height) f = true →
      normalize (trimSpace f.text) = key → f ∉ excludePage cfg pages p :=
  repeated_on_enough_pages_removed cfg pages pages k key x0 d0 htol1 htol2 hmin (fun _ h => h) hnd hocc hword hkey
    hpresent hpos

/-- a four-page document whose header alternates: "Odd Title" on pages 1 and 3, "Even Title" on pages
2 and 4, same position -/
def oddEvenDoc : List Page :=
  let hdr (t : Str) : Frag := { text := t, x := 72, y := 760, w := 60, h := 12, fs := 12 }
  let body (c : Nat) : Frag := { text := [66, c], x := 72, y := 400, w := 20, h := 12, fs := 12 }
  let odd : Str := [79, 100, 100, 32, 84, 105, 116, 108, 101]
  let even : Str := [69, 118, 101, 110, 32, 84, 105, 116, 108, 101]
  [ { index := 0, height := 792, frags := [hdr odd, body 49] }, { index := 1, height := 792, frags := [hdr even, body 50] },
    { index := 2, height := 792, frags := [hdr odd, body 51] }, { index := 3, height := 792, frags := [hdr even, body 52] } ]

/-- the hypotheses are satisfiable with `S` = the odd pages (2 = `minOccurrences` of 4 pages), … -/
example : let S := oddEvenDoc.filter fun p => p.index % 2 == 0
    (∀ p ∈ S, p ∈ oddEvenDoc) ∧ (S.map (·.index)).Nodup ∧ minOccurrences defaultConfig oddEvenDoc.length ≤ S.length ∧
    (∀ p ∈ S, ∃ f ∈ p.frags, inRegion .header (bands defaultConfig p.frags p.height) f = true ∧
      normalize (trimSpace f.text) = [79, 100, 100, 32, 84, 105, 116, 108, 101]) ∧
    (∀ p ∈ oddEvenDoc, ∀ f ∈ p.frags, inRegion .header (bands defaultConfig p.frags p.height) f = true →
      normalize (trimSpace f.text) = [79, 100, 100, 32, 84, 105, 116, 108, 101] →
      f.x = 72 ∧ regionDist .header (bands defaultConfig p.frags p.height) f = 20) := by
  decide +kernel

/-- … and both alternating headers go from their pages -/
example : oddEvenDoc.map (fun p => (excludePage defaultConfig oddEvenDoc p).map (·.text)) =
    [[[66, 49]], [[66, 50]], [[66, 51]], [[66, 52]]] := by decide +kernel

/-- `repeated_removed_everywhere` for the default configuration of `NewHeaderFooterDetector()`
(tolerances 5/10 pt, ratio 0.5 so that `minOccurrences n = max 2 ⌊n/2⌋ ≤ n`, `MinPages = 2`). -/
theorem repeated_removed_everywhere_default (pages : List Page) (k : Kind) (key : Str) (x0 d0 : Rat)
    (hn : 2 ≤ pages.length) (hnd : (pages.map (·.index)).Nodup)
    (hword : ∀ p ∈ pages, isCharacterLevel p.frags = false)
    (hkey : 2 < key.length ∨ isPageNumberPattern key = true)
    (hpresent : ∀ p ∈ pages, ∃ f ∈ p.frags, inRegion k (bands defaultConfig p.frags p.height) f = true ∧
      normalize (trimSpace f.text) = key)
    (hpos : ∀ p ∈ pages, ∀ f ∈ p.frags, inRegion k (bands defaultConfig p.frags p.height) f = true →
      normalize (trimSpace f.text) = key → f.x = x0 ∧ regionDist k (bands defaultConfig p.frags p.height) f = d0) :
    ∀ p ∈ pages, ∀ f ∈ p.frags, inRegion k (bands defaultConfig p.frags p.height) f = true →
      normalize (trimSpace f.text) = key → f ∉ excludePage defaultConfig pages p :=
  repeated_removed_everywhere defaultConfig pages k key x0 d0 (by decide +kernel) (by decide +kernel)
    hn (minOccurrences_le (by decide +kernel) hn) hn hnd hword hkey hpresent hpos

/-- the hypotheses are satisfiable: the running header "ACME Report" of `exDoc` (top band, x = 72,
20 pt below the top edge) … -/
example : (exDoc.map (·.index)).Nodup ∧ (∀ p ∈ exDoc, isCharacterLevel p.frags = false) ∧
    (∀ p ∈ exDoc, ∃ f ∈ p.frags, inRegion .header (bands defaultConfig p.frags p.height) f = true ∧
      normalize (trimSpace f.text) = [65, 67, 77, 69, 32, 82, 101, 112, 111, 114, 116]) ∧
    (∀ p ∈ exDoc, ∀ f ∈ p.frags, inRegion .header (bands defaultConfig p.frags p.height) f = true →
      normalize (trimSpace f.text) = [65, 67, 77, 69, 32, 82, 101, 112, 111, 114, 116] →
      f.x = 72 ∧ regionDist .header (bands defaultConfig p.frags p.height) f = 20) := by
  decide +kernel

/-- … and its running page numbers "1", "2", "3" (bottom band, normalised text "#", x = 300, 30 pt
above the bottom edge) -/
example : isPageNumberPattern [35] = true ∧
    (∀ p ∈ exDoc, ∃ f ∈ p.frags, inRegion .footer (bands defaultConfig p.frags p.height) f = true ∧
      normalize (trimSpace f.text) = [35]) ∧
    (∀ p ∈ exDoc, ∀ f ∈ p.frags, inRegion .footer (bands defaultConfig p.frags p.height) f = true →
      normalize (trimSpace f.text) = [35] →
      f.x = 300 ∧ regionDist .footer (bands defaultConfig p.frags p.height) f = 30) := by
  decide +kernel

/-- what exclusion returns on `exDoc`: only the body line of each page -/
example : exDoc.map (fun p => (excludePage defaultConfig exDoc p).map (·.text)) =
    [[[66, 111, 100, 121, 32, 111, 110, 101]], [[66, 111, 100, 121, 32, 116, 119, 111]],
     [[66, 111, 100, 121, 32, 116, 104, 114, 101, 101]]] := by
  simp only [excludePage, detect_exDoc]
  decide +kernel

/-! ## The two repaired defects, at their witnesses -/

/-- B20 witness: three 792 pt pages with "ACME Report" at y = 760; on page 2 the body line with the
same text at y = 700 (80 pt below the page top). -/
def b20Doc : List Page :=
  let acme : Str := [65, 67, 77, 69, 32, 82, 101, 112, 111, 114, 116]
  let hdr : Frag := { text := acme, x := 72, y := 760, w := 74, h := 12, fs := 12 }
  let body : Frag := { text := [66, 111, 100, 121], x := 72, y := 400, w := 120, h := 12, fs := 12 }
  [ { index := 0, height := 792, frags := [hdr, body] },
    { index := 1, height := 792, frags := [hdr, { hdr with y := 700 }, body] },
    { index := 2, height := 792, frags := [hdr, body] } ]

/-- after the fix the body line survives and the header is removed on every page (before the fix the
filter measured the band from the top-most fragment and deleted the line at y = 700) -/
theorem b20_body_line_kept :
    b20Doc.map (fun p => (excludePage defaultConfig b20Doc p).map (·.y)) = [[400], [700, 400], [400]] := by
  decide +kernel

/-- second fix: "ACME Report - 1/2/3" at the same top-margin position of three pages is a page-number
region whose own fragments are now removed (pattern "ACME Report - #") -/
theorem embedded_number_removed :
    let mk (i : Int) (d : Nat) : Page := { index := i, height := 792, frags :=
      [ { text := [65, 67, 77, 69, 32, 82, 101, 112, 111, 114, 116, 32, 45, 32, 48 + d], x := 72, y := 760, w := 100, h := 12, fs := 12 },
        { text := [66, 111, 100, 121], x := 72, y := 400, w := 120, h := 12, fs := 12 } ] }
    let doc := [mk 0 1, mk 1 2, mk 2 3]
    doc.map (fun p => (excludePage defaultConfig doc p).map (·.y)) = [[400], [400], [400]] ∧
      (detect defaultConfig doc).headers.map (fun r => (r.isPageNumber, r.text == pageNumberLabel)) = [(true, true)] := by
  decide +kernel

end Tabula.C11
