import TabulaModel.Lemmas.PageSel
import TabulaModel.Lemmas.Builder
/-!
# C10 — Page selection and option chaining are algebraic; handles are released

Property theorems about `Model/PageSel.lean` (resolvePages and the page loops of
Text / Fragments / Document) and `Model/Builder.lean` (options, clone, the
configuration methods, and the handle store mirroring ensureReader / Close / the
deferred Close of every terminal operation).  Helper lemmas are in
`Lemmas/PageSel.lean` and `Lemmas/Builder.lean`.

The models follow the code *after* the three C10 fixes (AddPage keeps a preset
number; clone does not share a reader its parent owns; an inverted PageRange is
an error).  The `…_pinned_counterexample` theorems show, on the models of the
pinned code, the witnesses that made those fixes necessary.

The store model has all fourteen terminal operations, the three non-terminal ones, the format
of the file and the `ensurePDFReader` path (fourth fix: a PDF-only operation on a file of another
format released nothing), so `derive_preserves_parent`, `terminal_releases` and
`close_idempotent` below quantify over all of them.

`specPages sel n` is the list of 0-based indices `k < n` with `k+1 ∈ sel`, in
document order: the "sorted, de-duplicated, 0-based" form of the selection,
defined without sorting.  Descriptor accounting (`fdCount`) is about the handle
store of the model; the real `/proc/self/fd` count is observed by the harness.
-/
namespace Tabula.C10
open Tabula.PageSel Tabula.Builder

/-- `Pages()` with no argument / no call at all: no selection, i.e. every page -/
theorem resolve_none (n : Nat) : resolvePages [] n = .ok (List.range n) := rfl

/-- **resolve_spec**: for a non-empty selection, `resolvePages` returns the pages of the
set in document order iff every element is in `1..n`, and the range error otherwise. -/
theorem resolve_spec (sel : List Int) (n : Nat) (hne : sel ≠ []) :
    (InRange sel n → resolvePages sel n = .ok (specPages sel n)) ∧
    (¬ InRange sel n → resolvePages sel n = .error .range) := by
  rcases resolvePages_cases sel n with ⟨h, _⟩ | ⟨_, hr, h⟩ | ⟨_, hr, h⟩
  · exact absurd h hne
  · exact ⟨fun _ => h, fun c => absurd hr c⟩
  · exact ⟨fun c => absurd c hr, fun _ => h⟩

example : InRange [3, 1, 3, 2] 5 ∧ ([3, 1, 3, 2] : List Int) ≠ [] ∧
    resolvePages [3, 1, 3, 2] 5 = .ok [0, 1, 2] := by
  refine ⟨?_, by simp, by decide⟩
  intro p hp
  simp at hp
  omega

example : ¬ InRange [2, 6] 5 := by
  intro h
  have := h 6 (by simp)
  omega

/-- the spec list is what "sorted, de-duplicated, 0-based" means: strictly ascending
(so sorted and without duplicates) and with exactly the members `p-1`, `p ∈ sel` -/
theorem spec_is_sorted_dedup (sel : List Int) (n : Nat) :
    StrictAsc (specPages sel n) ∧
    ∀ k : Nat, k ∈ specPages sel n ↔ k < n ∧ ((k : Int) + 1) ∈ sel :=
  ⟨specPages_strictAsc sel n, mem_specPages sel n⟩

/-- the spec list is a permutation of the duplicate-free 0-based list the loop (`convLoop`) builds -/
theorem resolve_is_sort_of_dedup (sel : List Int) (n : Nat) (hne : sel ≠ []) (h : InRange sel n) :
    ∃ l, convLoop n [] sel = .ok l ∧ l.Nodup ∧ (specPages sel n).Perm l := by
  obtain ⟨l, hl, hnd, hmem⟩ := convLoop_ok n sel h []
  -- both lists are without duplicates and have the members `p - 1`, `p ∈ sel`
  refine ⟨l, hl, hnd,
    (List.perm_ext_iff_of_nodup ((specPages_strictAsc sel n).imp Nat.ne_of_lt) hnd).mpr fun z => ?_⟩
  rw [mem_specPages, hmem]
  exact ⟨fun ⟨_, b⟩ => ⟨List.not_mem_nil, b⟩, fun ⟨_, b⟩ => ⟨by have := h _ b; omega, b⟩⟩

/-- **resolve_set_invariant**: two spellings of the same set (any order, duplicates,
ranges expanded, split over several calls) give the same result -/
theorem resolve_set_invariant (s₁ s₂ : List Int) (n : Nat) (h : ∀ p, p ∈ s₁ ↔ p ∈ s₂) :
    resolvePages s₁ n = resolvePages s₂ n :=
  resolvePages_congr s₁ s₂ n h

example : resolvePages [2, 3, 4, 2] 6 = resolvePages [4, 3, 3, 2] 6 :=
  resolve_set_invariant _ _ _ (by intro p; simp; omega)

/-- **resolve_ascending**: whatever is returned is strictly ascending and inside the document -/
theorem resolve_ascending (sel : List Int) (n : Nat) (l : List Nat)
    (h : resolvePages sel n = .ok l) : StrictAsc l ∧ ∀ k ∈ l, k < n := by
  rcases resolvePages_cases sel n with ⟨_, hs⟩ | ⟨_, _, hs⟩ | ⟨_, _, hs⟩ <;> rw [hs] at h <;> cases h
  · exact ⟨List.pairwise_lt_range, fun k hk => List.mem_range.mp hk⟩
  · exact ⟨specPages_strictAsc sel n, fun k hk => ((mem_specPages sel n k).mp hk).1⟩

example : resolvePages [5, 1] 5 = .ok [0, 4] := by decide

/-- **text_is_join**: `Text` on a valid selection is the texts of the selected pages, in
ascending page order, with the non-empty ones joined by "\n\n" -/
theorem text_is_join (pg : Nat → Except E Str) (f : Nat → Str) (sel : List Int) (n : Nat)
    (hne : sel ≠ []) (hr : InRange sel n) (hpg : ∀ k, k < n → pg k = .ok (f k)) :
    extractText pg sel n =
      .ok (sep.intercalate (((specPages sel n).map f).filter (· ≠ []))) := by
  unfold extractText
  rw [(resolve_spec sel n hne).1 hr]
  exact textOf_ok pg f _ (readable_specPages hpg sel)

/-- without a selection: all pages -/
theorem text_no_selection (pg : Nat → Except E Str) (f : Nat → Str) (n : Nat)
    (hpg : ∀ k, k < n → pg k = .ok (f k)) :
    extractText pg [] n = .ok (sep.intercalate (((List.range n).map f).filter (· ≠ []))) := by
  unfold extractText
  rw [resolve_none]
  exact textOf_ok pg f _ fun k hk => hpg k (List.mem_range.mp hk)

/-- a page number outside the document is the range error of `Text`, `Fragments` and `Document` -/
theorem out_of_range_is_error {F : Type} (pt : Nat → Except E Str) (pf : Nat → Except E (List F))
    (sel : List Int) (n : Nat) (hne : sel ≠ []) (hr : ¬ InRange sel n) :
    extractText pt sel n = .error .range ∧ extractFragments pf sel n = .error .range ∧
    extractDocument sel n = .error .range := by
  unfold extractText extractFragments extractDocument
  rw [(resolve_spec sel n hne).2 hr]
  exact ⟨rfl, rfl, rfl⟩

example : extractText (fun k => .ok [65 + k]) [3, 1] 3 = .ok [65, 10, 10, 67] := by decide
example : extractText (fun k => .ok (if k = 1 then [] else [65 + k])) [3, 2, 1] 3
    = .ok [65, 10, 10, 67] := by decide

/-- **fragments_is_concat**: `Fragments` on a valid selection is the concatenation of the
per-page fragment lists in ascending page order -/
theorem fragments_is_concat {F : Type} (pg : Nat → Except E (List F)) (f : Nat → List F)
    (sel : List Int) (n : Nat) (hne : sel ≠ []) (hr : InRange sel n)
    (hpg : ∀ k, k < n → pg k = .ok (f k)) :
    extractFragments pg sel n = .ok ((specPages sel n).map f).flatten := by
  unfold extractFragments
  rw [(resolve_spec sel n hne).1 hr]
  exact fragmentsOf_ok pg f _ (readable_specPages hpg sel)

example : extractFragments (fun k => .ok [k, k]) [2, 1, 2] 3 = .ok [0, 0, 1, 1] := by decide

/-- a page that cannot be read fails the whole `Text` call (nothing partial is returned) -/
theorem unreadable_page_fails (pg : Nat → Except E Str) (sel : List Int) (n : Nat)
    (hne : sel ≠ []) (hr : InRange sel n)
    (hbad : ∃ k ∈ specPages sel n, ∃ e, pg k = .error e) :
    ∃ e, extractText pg sel n = .error e := by
  unfold extractText
  rw [(resolve_spec sel n hne).1 hr]
  obtain ⟨e, he⟩ := collect_error pg _ hbad
  exact ⟨e, by simp [textOf, he]⟩

theorem mem_rangeList (s t p : Int) : p ∈ rangeList s t ↔ s ≤ p ∧ p ≤ t :=
  Builder.mem_rangeList s t p

/-- **pages_compose**: chained `Pages` calls accumulate (`Pages a` then `Pages b` is
`Pages (a ++ b)`), `Pages()` is the identity on the options, `PageRange s t` with `s ≤ t`
is `Pages [s..t]`, and an inverted range makes the derived extractor an error value. -/
theorem pages_compose (e : Ext) (a b : List Int) (s t : Int) :
    ((e.derive (.pages a)).derive (.pages b)).opts = (e.derive (.pages (a ++ b))).opts ∧
    ((e.derive (.pages a)).derive (.pages b)).err = e.err ∧
    (e.derive (.pages [])).opts = e.opts ∧
    (s ≤ t → (e.derive (.pageRange s t)).opts = (e.derive (.pages (rangeList s t))).opts ∧
             (e.derive (.pageRange s t)).err = e.err) ∧
    (t < s → (e.derive (.pageRange s t)).err = true ∧ (e.derive (.pageRange s t)).opts = e.opts) := by
  refine ⟨?_, ?_, ?_, ?_, ?_⟩
  · simp [Ext.derive, applyCall, clone_opts, List.append_assoc]
  · simp [Ext.derive, applyCall, clone_err]
  · simp [Ext.derive, applyCall, clone_opts]
  · intro h
    have : ¬ (s > t) := by omega
    simp [Ext.derive, applyCall, this, clone_opts, clone_err]
  · intro h
    have : s > t := by omega
    simp [Ext.derive, applyCall, this, clone_opts]

/-- the order of chained calls does not matter for what is extracted -/
theorem pages_order_irrelevant (base a b : List Int) (n : Nat) :
    resolvePages (base ++ a ++ b) n = resolvePages (base ++ b ++ a) n :=
  resolve_set_invariant _ _ _ (by intro p; simp only [List.mem_append]; constructor <;>
    (rintro ((h | h) | h) <;> simp [h]))

example : resolvePages (rangeList 2 4 ++ [1, 3]) 5 = .ok [0, 1, 2, 3] := by decide

/-- the pinned `PageRange(5,3)` appends nothing, and the empty list means every page -/
theorem pageRange_inverted_pinned_counterexample :
    (applyCallOld (.pageRange 5 3) ({} : Ext).cloneOld).err = false ∧
    resolvePages (applyCallOld (.pageRange 5 3) ({} : Ext).cloneOld).opts.pages 5
      = .ok [0, 1, 2, 3, 4] := by decide

/-- **page_number_true**: page `i` of the document built for the resolved list `idx` carries
number `idx[i] + 1` and the content of source page `idx[i]`; chunk metadata inherits it. -/
theorem page_number_true (idx : List Nat) (hne : idx ≠ []) :
    documentOf idx = .ok (idx.map fun k => (⟨k + 1, k⟩ : MPage)) ∧
    ∀ d : List MPage, documentOf idx = .ok d →
      (∀ i : Nat, d[i]? = (idx[i]?).map fun k => (⟨k + 1, k⟩ : MPage)) ∧
      chunkPages d = idx.map fun k => (k, k + 1, k + 1) := by
  have hdoc := documentOf_ok idx hne
  refine ⟨hdoc, ?_⟩
  intro d hd
  rw [hdoc] at hd
  cases hd
  refine ⟨fun i => by simp [List.getElem?_map], ?_⟩
  simp [chunkPages, List.map_map, Function.comp_def]

/-- end to end: `Pages(S).Document()` numbers its pages with the selected pages, ascending -/
theorem document_numbers (sel : List Int) (n : Nat) (hne : sel ≠ []) (hr : InRange sel n)
    (hsome : specPages sel n ≠ []) :
    extractDocument sel n = .ok ((specPages sel n).map fun k => (⟨k + 1, k⟩ : MPage)) := by
  unfold extractDocument
  rw [(resolve_spec sel n hne).1 hr]
  exact (page_number_true _ hsome).1

example : extractDocument [3] 4 = .ok [⟨3, 2⟩] := by decide

/-- the pinned `AddPage` renumbers: `Pages(3).Document()` reports page 1 -/
theorem addPage_pinned_counterexample : documentOfOld [2] = .ok [⟨1, 2⟩] := by decide

/-! ## builder: deriving never changes the parent -/

/-- a configuration method appends the derived record to the store and changes nothing else:
no existing record, no reader -/
theorem derive_reads_only (s : Store) (i : Nat) (c : BCall) (e : Ext) (he : s.exts[i]? = some e) :
    (deriveOp s i c).1.exts = s.exts ++ [e.derive c] ∧ (deriveOp s i c).1.readers = s.readers := by
  simp [deriveOp, he]

/-- **derive_preserves_parent**: in any reachable store (ownership invariant), for every
sequence of operations in which extractor `i` is used only as the receiver of configuration
methods — while everything derived from it, and every other extractor, may be configured
further, counted, read, extracted and closed in any order — the record of `i` (options,
error, life-cycle flags) is unchanged and every later operation on `i` returns exactly what
it would have returned before the sequence. -/
theorem derive_preserves_parent (w : World) (s : Store) (hs : StoreInv s) (i : Nat)
    (hi : i < s.exts.length) (ops : List Op)
    (hops : ∀ op ∈ ops, op.mutates = true → op.target ≠ i) :
    (exec w s ops).exts[i]? = s.exts[i]? ∧
    ∀ op : Op, op.target = i → (step w (exec w s ops) op).2 = (step w s op).2 := by
  have hg := get_exec w i ops hi hops
  refine ⟨hg, fun op hop => ?_⟩
  rw [step_res w (inv_exec w ops hs), step_res w hs, hop, hg]

/-- every state reachable from `Open(f)` for a PDF name or from `FromReader(r)` satisfies the
invariant (`inv_openBaseF` for the other formats), so the theorem applies after any history -/
theorem reachable_inv (w : World) (ops : List Op) :
    StoreInv (exec w openBase ops) ∧ StoreInv (exec w readerBase ops) :=
  ⟨inv_exec w ops inv_openBase, inv_exec w ops inv_readerBase⟩

/-- non-vacuity: a history that opens the base, derives from it and uses the derived one -/
example : let w : World := ⟨true, some 3⟩
    let s := exec w openBase [.nonTerm 0 .pageCount, .derive 0 (.pages [1])]
    StoreInv s ∧ 0 < s.exts.length ∧
      (∀ op ∈ [Op.term 1 .text, Op.close 1, Op.derive 0 (.pages [2]), Op.term 2 .chunks],
        op.mutates = true → op.target ≠ 0) ∧
      (step w (exec w s [.term 1 .text, .close 1, .derive 0 (.pages [2]), .term 2 .chunks])
        (.term 0 .text)).2 = .pages [0, 1, 2] := by
  refine ⟨(reachable_inv _ _).1, by decide, by decide, by decide⟩

/-- the pinned `clone` shares the parent's reader together with its ownership flag:
`base.PageCount(); base.Pages(1).Text(); base.Text()` fails on the closed file, while the
repaired model returns all pages -/
theorem derive_preserves_parent_pinned_counterexample :
    let w : World := ⟨true, some 3⟩
    let ops := [Op.nonTerm 0 .pageCount, .derive 0 (.pages [1]), .term 1 .text, .term 0 .text]
    ((runOld w openBase ops).2.map (·.1)) = [.count 3, .none, .pages [0], .err] ∧
    ((run w openBase ops).2.map (·.1)) = [.count 3, .none, .pages [0], .pages [0, 1, 2]] := by
  decide

/-- **terminal_releases**: after any of the fourteen terminal operations on extractor `i`, on a
file of any format — successful or failed (builder error, file that cannot be opened,
unreadable page tree, page out of range, operation not supported for the format) — `i` owns no reader, and the number of open descriptors has dropped
by exactly what `i` held before: nothing the operation opened stays open. -/
theorem terminal_releases (w : World) (k : Term) (s : Store) (hs : StoreInv s) (i : Nat)
    (e : Ext) (he : s.exts[i]? = some e) :
    ∃ e', (terminal w k s i).1.exts[i]? = some e' ∧ e'.owns = false ∧
      (terminal w k s i).1.fdCount + (if e.owns then 1 else 0) = s.fdCount := by
  rw [terminal_fst w k s i e he]
  split
  · rename_i hc
    have herr : e.err = true := by
      simp only [Bool.and_eq_true] at hc; exact hc.2
    have := hs.errNoOwn i e he herr
    exact ⟨e, he, this, by simp [this]⟩
  · split
    · exact mismatch_releases w hs he
    · exact termStore_releases w hs he

/-- a terminal operation on an extractor that held nothing leaves the descriptor count
where it was, whatever happened inside -/
theorem terminal_releases_fresh (w : World) (k : Term) (s : Store) (hs : StoreInv s) (i : Nat)
    (e : Ext) (he : s.exts[i]? = some e) (hown : e.owns = false) :
    (terminal w k s i).1.fdCount = s.fdCount := by
  obtain ⟨_, _, _, h⟩ := terminal_releases w k s hs i e he
  simpa [hown] using h

/-- `Open(f).…Text()` style one-shot use: zero descriptors before, zero after, success or not -/
example : ∀ w ∈ [(⟨true, some 3⟩ : World), ⟨false, none⟩, ⟨true, none⟩],
    ∀ k ∈ [Term.text, .fragments, .document, .chunks],
    ∀ c ∈ [BCall.pages [2], .pages [9], .pageRange 3 2, .byColumn],
      (exec w openBase [.derive 0 c, .term 1 k]).fdCount = 0 := by decide

/-- **close_idempotent**: a second `Close` returns the same (nil) result and changes nothing -/
theorem close_idempotent (s : Store) (i : Nat) :
    closeOp (closeOp s i).1 i = ((closeOp s i).1, (closeOp s i).2) ∧
    ((closeOp s i).2 = .closed ∨ s.exts[i]? = none) := by
  unfold closeOp
  cases he : s.exts[i]? with
  | none => simp [he]
  | some e =>
    refine ⟨?_, Or.inl rfl⟩
    -- the first `Close` changed nothing, or left a record that owns nothing
    rcases closeExt_cases s i e with h | ⟨r, _, _, h⟩ <;> simp only [h]
    · rw [he]; simp only [h]
    · simp only [List.getElem?_set_self (lt_of_getElem? he), closeExt, Bool.false_eq_true, if_false]

/-- `Close` releases what the extractor held (the example below: a closed extractor can be used
again, `ensureReader` re-opens the file) -/
theorem close_releases (s : Store) (hs : StoreInv s) (i : Nat) (e : Ext)
    (he : s.exts[i]? = some e) :
    ∃ e', (closeOp s i).1.exts[i]? = some e' ∧ e'.owns = false ∧
      (closeOp s i).1.fdCount + (if e.owns then 1 else 0) = s.fdCount := by
  unfold closeOp
  simp only [he]
  exact closeExt_releases hs he

example : let w : World := ⟨true, some 2⟩
    (run w openBase [.nonTerm 0 .pageCount, .close 0, .close 0, .term 0 .text]).2
      = [(.count 2, 1), (.closed, 0), (.closed, 0), (.pages [0, 1], 0)] := by decide

end Tabula.C10
