import TabulaModel.Props.C14Statement
import TabulaModel.Lemmas.ExportDecode
import TabulaModel.Lemmas.ExportRune
import TabulaModel.Lemmas.ExportCodec
/-!
# C14 (part 7) — parse-back gives the SAME CHUNKS

`Props/C14Statement.lean` shows that an export reads back to one record per chunk whose members /
cells are functions of the chunk's own fields.  Here the last step of the property text is made
explicit: the INVERSE READER of `Model/ExportDecode.lean` (what a consumer does with the parsed
records: `omitempty` member absent = zero value, `%d`, `%t`, level names, `[a,b,c]` cells) applied
to the parsed export returns the chunks themselves — id, text and all eighteen exported metadata
fields — for every collection of well-formed-UTF-8, normal chunks (`chunkNormal`) and every
configuration, up to the projection the configuration itself asks for (`projectChunk`: no text without IncludeText, no field that IncludeMetadata /
MetadataFields exclude).  With the library's full configurations the projection is the identity,
so exports are INJECTIVE: two collections with the same JSON / JSON Lines text are equal.  For
CSV/TSV the same holds except for list-valued metadata with a comma inside an element (known
finding C14/csv-field-meta-list): `_partial` + a collection-level counterexample.
-/
namespace Tabula.C14Decode
open Tabula.Export Tabula.Csv Tabula.Json Tabula.C14 Tabula.C14Meta Tabula.C14Api Tabula.C14Json Tabula.C14S
open Tabula.Split (validUtf8)

/-- `%d` text reads back to the integer (strict reader: optional `-`, digits only), the four level
names read back to the level, `%t` text to the flag — for every value the exporter can write -/
theorem scalar_conventions_invert :
    (∀ i : Int, readInt (decInt i) = some i) ∧
    (∀ l : Int, 0 ≤ l → l ≤ 3 → levelOfString (levelString l) = some l) ∧
    (∀ b : Bool, readBoolCellS (boolStr b) = some b) ∧
    (∀ l : List Str, jStrsOpt (some (jStrs l)) = some l) :=
  ⟨readInt_decInt, levelOfString_levelString, readBoolCellS_boolStr,
    fun l => by simp only [jStrsOpt, jStrs]; exact jStrItems_map l⟩

/-- why the level must be one of the four constants: any other value is written `unknown`, which
no reader can map back (5 and 6 are written alike) -/
theorem level_out_of_range_counterexample :
    levelString 5 = levelString 6 ∧ levelOfString (levelString 5) = none := by decide

/-- with text and all metadata included (every configuration the library's `ToJSON`, `ToJSONL`,
`ToCSV`, `ToTSV`, `NewExporter`, `NewBatchExporter`, `NewStreamExporter` use) the projection is
the identity: nothing of a chunk is left out of an export -/
theorem project_full (b : Bool) (cfg : Config) (c : Chunk)
    (ht : cfg.includeText = true) (hm : cfg.includeMetadata = true) (hf : cfg.metadataFields = none) :
    projectChunk b cfg c = c := by
  have hk : ∀ k, keepMeta cfg k = true := by
    intro k; simp [keepMeta, hm, allowedField, hf]
  simp [projectChunk, hk, ht]

example : ∀ cfg ∈ [defaultExportConfig, jsonlExportConfig, csvExportConfig, tsvExportConfig, toJSONConfig],
    cfg.includeText = true ∧ cfg.includeMetadata = true ∧ cfg.metadataFields = none := by decide

/-- ONE RECORD BACK TO ITS CHUNK (JSON, JSON Lines, stream): the decoder applied to the JSON object
of a chunk returns the chunk's id, its text (when included) and every metadata field the
configuration exports, with the chunk's own values; absent members are the zero values. -/
theorem json_record_decodes (cfg : Config) (c : Chunk) (hn : chunkNormal c = true) :
    decodeRecord (recordJ cfg c) = some (projectChunk true cfg c) := by
  obtain ⟨f1, f2, f3, f4, f5, f6, f7, f8, f9, f10, f11, _, _⟩ := record_json_fields cfg c
  have fm := record_metadata cfg c
  simp only [chunkNormal, Bool.and_eq_true, decide_eq_true_eq] at hn
  obtain ⟨⟨⟨⟨⟨⟨n1, n2⟩, n3⟩, n4⟩, n5⟩, n6⟩, n7⟩ := hn
  obtain ⟨ms, hms⟩ : ∃ ms, exportedToJ (prepareChunkForExport cfg c) = .obj ms := ⟨_, rfl⟩
  rw [recordJ] at f1 f2 f3 f4 f5 f6 f7 f8 f9 f10 f11 ⊢
  rw [hms] at f1 f2 f3 f4 f5 f6 f7 f8 f9 f10 f11 fm ⊢
  simp only [J.get] at f1 f2 f3 f4 f5 f6 f7 f8 f9 f10 f11 fm
  have hmm : ∃ mm, metadataMembers ms = some mm ∧
      ∀ k, getMember k mm = (exportedMeta cfg c.md k).map valToJ := by
    rcases fm with ⟨hg, hk⟩ | ⟨_, m, hg, hk⟩
    · exact ⟨[], by rw [metadataMembers, hg], fun k => by rw [hk k]; rfl⟩
    · exact ⟨_, by rw [metadataMembers, hg]; rfl, hk⟩
  obtain ⟨mm, hm1, hm2⟩ := hmm
  simp only [decodeRecord, hm1, Option.bind_some, f1, f2, f3, f4, f5, f6, f7, f8, f9, f10, f11, hm2,
    exportedMeta_keep, metaField_headingLevel, metaField_totalChunks, metaField_level, metaField_parentId,
    metaField_childIds, metaField_elementTypes, metaField_charCount, metaField_wordCount,
    metaField_estimatedTokens, jStrOpt_omit, jIntOpt_omit, jBoolOpt_omit, jStrsOpt_omit, jStrOpt_text,
    jIntOpt_positive _ _ n1, jIntOpt_positive _ _ n2, jIntOpt_positive _ _ n3, jIntOpt_positive _ _ n4,
    jIntOpt_positive _ _ n5, jLevelOpt_level _ _ n6 n7, jStrOpt_nonempty, jStrsOpt_nonempty]
  simp [projectChunk]

example : chunkNormal { id := [99], text := [34, 44], md := { headingLevel := 2, level := 3, pageStart := -4 } } = true := by
  decide

/-- why `chunkNormal`: a negative count is not exported (`if meta.CharCount > 0`), so it reads back
as 0 — the assumption "absent = zero" of the property, not a defect -/
theorem negative_count_counterexample :
    decodeRecord (recordJ defaultExportConfig { id := [99], text := [], md := { charCount := -1 } }) =
      some { id := [99], text := [], md := { charCount := 0 } } := by
  have := json_record_decodes defaultExportConfig { id := [99], text := [], md := {} } (by decide)
  rw [project_full true defaultExportConfig _ rfl rfl rfl] at this
  have e : recordJ defaultExportConfig { id := [99], text := [], md := { charCount := -1 } } =
      recordJ defaultExportConfig { id := [99], text := [], md := {} } := by
    simp (decide := true) [recordJ, prepareChunkForExport, chunkMetadataToMap, defaultExportConfig, filterMetadata]
  rw [e, this]

/-- all records of a JSON / JSON Lines export back to the collection -/
theorem json_records_decode (cfg : Config) (chunks : List Chunk) (hn : ∀ c ∈ chunks, chunkNormal c = true) :
    decodeRecords (chunks.map (recordJ cfg)) = some (chunks.map (projectChunk true cfg)) :=
  mapOpt_map decodeRecord (recordJ cfg) (projectChunk true cfg) chunks
    (fun c hc => json_record_decodes cfg c (hn c hc))

/-- SAME CHUNKS (JSON and JSON Lines): for every collection of well-formed-UTF-8, normal chunks
(`chunkNormal`: counts not negative, level 0..3) and every configuration, the export text, read by the standard JSON reader and then by the decoder, is the
collection itself (up to the configuration's own projection), in order. -/
theorem export_json_same_chunks (cfg : Config) (hf : cfg.format = .json ∨ cfg.format = .jsonl)
    (chunks : List Chunk) (hv : ∀ c ∈ chunks, chunkValid c = true) (hn : ∀ c ∈ chunks, chunkNormal c = true) :
    ∃ text, exportToString cfg chunks = some text ∧
      decodeExport cfg text = some (chunks.map (projectChunk true cfg)) := by
  rcases hf with hf | hf
  · obtain ⟨text, h1, h2⟩ := export_json_parses_back cfg hf chunks hv
    exact ⟨text, h1, by simp only [decodeExport, hf, h2]; exact json_records_decode cfg chunks hn⟩
  · obtain ⟨text, h1, h2, _⟩ := export_jsonl_parses_back cfg hf chunks hv
    exact ⟨text, h1, by simp only [decodeExport, hf, h2, Option.bind_some]; exact json_records_decode cfg chunks hn⟩

/-- … and with a full configuration (text and all metadata) the collection comes back unchanged -/
theorem export_json_identity (cfg : Config) (hf : cfg.format = .json ∨ cfg.format = .jsonl)
    (ht : cfg.includeText = true) (hm : cfg.includeMetadata = true) (hfl : cfg.metadataFields = none)
    (chunks : List Chunk) (hv : ∀ c ∈ chunks, chunkValid c = true) (hn : ∀ c ∈ chunks, chunkNormal c = true) :
    ∃ text, exportToString cfg chunks = some text ∧ decodeExport cfg text = some chunks :=
  ReadsBack.identity (export_json_same_chunks cfg hf) (fun c => project_full true cfg c ht hm hfl) chunks hv hn

/-- INJECTIVITY: under a full configuration two collections with the same JSON / JSON Lines text
are the same collection — no two different collections are confused by the export. -/
theorem export_json_injective (cfg : Config) (hf : cfg.format = .json ∨ cfg.format = .jsonl)
    (ht : cfg.includeText = true) (hm : cfg.includeMetadata = true) (hfl : cfg.metadataFields = none)
    (cs1 cs2 : List Chunk)
    (hv1 : ∀ c ∈ cs1, chunkValid c = true) (hn1 : ∀ c ∈ cs1, chunkNormal c = true)
    (hv2 : ∀ c ∈ cs2, chunkValid c = true) (hn2 : ∀ c ∈ cs2, chunkNormal c = true)
    (h : exportToString cfg cs1 = exportToString cfg cs2) : cs1 = cs2 :=
  ReadsBack.injective (export_json_same_chunks cfg hf) (fun c => project_full true cfg c ht hm hfl) cs1 cs2
    hv1 hn1 hv2 hn2 h

/-- PUBLIC API: `ToJSON` and `ToJSONL` of any collection of well-formed-UTF-8, normal chunks decode to
exactly that collection -/
theorem to_json_same_chunks (chunks : List Chunk)
    (hv : ∀ c ∈ chunks, chunkValid c = true) (hn : ∀ c ∈ chunks, chunkNormal c = true) :
    (∃ text, toJSON chunks = some text ∧ decodeExport toJSONConfig text = some chunks) ∧
    (∃ text, toJSONL chunks = some text ∧ decodeExport jsonlExportConfig text = some chunks) :=
  ⟨export_json_identity toJSONConfig (Or.inl rfl) rfl rfl rfl chunks hv hn,
   export_json_identity jsonlExportConfig (Or.inr rfl) rfl rfl rfl chunks hv hn⟩

/-- HISTORY (stream): after ANY sequence of `WriteChunk` / `Close` calls on a JSON or JSON Lines
stream, the bytes written decode — line by line — to exactly the chunks written (well-formed UTF-8,
normal), in call order, up to the configuration's projection. -/
theorem stream_same_chunks (cfg : Config) (hf : cfg.format = .jsonl ∨ cfg.format = .json)
    (calls : List StreamCall) (hv : ∀ c ∈ writtenChunks calls, chunkValid c = true)
    (hn : ∀ c ∈ writtenChunks calls, chunkNormal c = true) :
    (jsonlRead (streamText (streamRun cfg calls ⟨[], []⟩).written)).bind decodeRecords =
      some ((writtenChunks calls).map (projectChunk true cfg)) := by
  rw [(stream_text_parses_back cfg hf calls hv).2]
  exact json_records_decode cfg _ hn

/-- HISTORY (batches): for a JSON / JSON Lines configuration, every batch size ≥ 1 and a callback
that never fails, decoding the `Data` of the delivered batches one after the other and
concatenating gives the collection — every chunk exactly once, in order, across batch boundaries. -/
theorem batch_same_chunks (cfg : Config) (hf : cfg.format = .json ∨ cfg.format = .jsonl)
    (size : Nat) (hs : 1 ≤ size) (chunks : List Chunk)
    (hv : ∀ c ∈ chunks, chunkValid c = true) (hn : ∀ c ∈ chunks, chunkNormal c = true) :
    ∃ calls, batchExportRun size (exportToString cfg) (fun _ _ => true) chunks = some (calls, .ok) ∧
      (mapOpt (fun p : Batch Chunk × Str => decodeExport cfg p.2) calls).map List.flatten =
        some (chunks.map (projectChunk true cfg)) :=
  ReadsBack.batches (export_json_same_chunks cfg hf) size hs chunks hv hn

example : (1 : Nat) ≤ 2 ∧ (jsonlExportConfig.format = .json ∨ jsonlExportConfig.format = .jsonl) := by decide

/-- no element of a list-valued metadata field (section_path, child_ids, element_types) contains a
comma — the condition under which the `[a,b,c]` cells are invertible (`list_cell_roundtrip_iff`) -/
def listsCommaFree (c : Chunk) : Prop :=
  ∀ s ∈ c.md.sectionPath ++ c.md.childIDs ++ c.md.elementTypes, 44 ∉ s

/-- the cell under `meta_<key>` of a chunk's row, whether or not the collection has that column -/
theorem meta_cell_at (cfg : Config) (chunks : List Chunk) (c : Chunk) (hc : c ∈ chunks)
    (hnames : namesOk cfg = true) (k : Str) (hs : isStandardColumn k = false) :
    cellAt (collectCSVColumns cfg chunks) ((collectCSVColumns cfg chunks).map (cellSpec cfg c)) (kMeta ++ k) =
      optCell (fun _ => []) (exportedMeta cfg c.md k) := by
  rw [cellAt_map]
  obtain ⟨_, _, _, _, _, _, _, _, _, _, _, hmeta⟩ := named_cells cfg c hnames
  by_cases hm : kMeta ++ k ∈ collectCSVColumns cfg chunks
  · simp only [hm, if_true]
    rw [hmeta k]
    cases exportedMeta cfg c.md k <;> rfl
  · simp only [hm, if_false]
    rw [missing_column_means_empty cfg chunks hnames k hs hm c hc]
    rfl

/-
FULL STATEMENT (what the property needs for CSV/TSV):
    ∀ cfg chunks, c ∈ chunks → namesOk cfg → chunkNormal c →
      decodeRow cfg cols (cols.map (cellSpec cfg c)) = some (projectChunk false cfg c)
FALSE for the code as it exists when a list element contains a comma (finding
C14/csv-field-meta-list); see `csv_same_chunks_counterexample`.
-/

/-- PARTIAL — ONE ROW BACK TO ITS CHUNK (CSV, TSV): under the header of the collection's export, the
row of a chunk decodes to the chunk's id, its text (when included), the positional fields and every
metadata field the configuration exports — for non-colliding column names and a normal chunk, provided
no list element contains a comma. -/
theorem csv_row_decodes_partial (cfg : Config) (chunks : List Chunk) (c : Chunk) (hc : c ∈ chunks)
    (hnames : namesOk cfg = true) (hn : chunkNormal c = true) (hl : listsCommaFree c) :
    decodeRow cfg (collectCSVColumns cfg chunks) ((collectCSVColumns cfg chunks).map (cellSpec cfg c)) =
      some (projectChunk false cfg c) := by
  obtain ⟨c1, c2, c3, c4, c5, c6, c7, c8, c9, c10, _, _⟩ := named_cells cfg c hnames
  simp only [chunkNormal, Bool.and_eq_true, decide_eq_true_eq] at hn
  obtain ⟨⟨⟨⟨⟨⟨n1, n2⟩, n3⟩, n4⟩, n5⟩, n6⟩, n7⟩ := hn
  have l1 : ∀ s ∈ c.md.sectionPath, 44 ∉ s := fun s hs => hl s (by simp [hs])
  have l2 : ∀ s ∈ c.md.childIDs, 44 ∉ s := fun s hs => hl s (by simp [hs])
  have l3 : ∀ s ∈ c.md.elementTypes, 44 ∉ s := fun s hs => hl s (by simp [hs])
  have mem : ∀ x ∈ fixedColumns cfg, x ∈ collectCSVColumns cfg chunks := by
    intro x hx; simp [collectCSVColumns, hx]
  have g : ∀ x ∈ fixedColumns cfg,
      cellAt (collectCSVColumns cfg chunks) ((collectCSVColumns cfg chunks).map (cellSpec cfg c)) x = cellSpec cfg c x := by
    intro x hx; rw [cellAt_map]; simp [mem x hx]
  have gtext : cfg.includeText = true →
      cellAt (collectCSVColumns cfg chunks) ((collectCSVColumns cfg chunks).map (cellSpec cfg c)) cfg.textColumnName = c.text := by
    intro ht
    rw [g _ (by simp [fixedColumns, ht])]
    exact c2 ht
  have gp : ∀ x ∈ positionalColumns,
      cellAt (collectCSVColumns cfg chunks) ((collectCSVColumns cfg chunks).map (cellSpec cfg c)) x = cellSpec cfg c x :=
    fun x hx => g x (by rw [fixedColumns_eq]; exact List.mem_cons_of_mem _ (List.mem_append_right _ hx))
  have hm := meta_cell_at cfg chunks c hc hnames
  simp only [decodeRow, List.length_map, ne_eq, not_true_eq_false, if_false]
  simp only [
    gp kChunkIndex (by decide), gp kDocumentTitle (by decide), gp kPageStart (by decide), gp kPageEnd (by decide),
    gp kSectionTitle (by decide), gp kHasTable (by decide), gp kHasList (by decide), gp kHasImage (by decide),
    g cfg.chunkIDColumnName (by simp [fixedColumns]),
    c1, c3, c4, c5, c6, c7, c8, c9, c10,
    hm kSectionPath (by decide), hm kHeadingLevel (by decide), hm kTotalChunks (by decide), hm kLevel (by decide),
    hm kParentId (by decide), hm kChildIds (by decide), hm kElementTypes (by decide), hm kCharCount (by decide),
    hm kWordCount (by decide), hm kEstimatedTokens (by decide),
    exportedMeta_keep, metaField_sectionPath, metaField_headingLevel, metaField_totalChunks, metaField_level,
    metaField_parentId, metaField_childIds, metaField_elementTypes, metaField_charCount, metaField_wordCount,
    metaField_estimatedTokens,
    readIntCellS_decInt, readBoolCellS_boolStr,
    readIntCellS_positive _ _ _ n1, readIntCellS_positive _ _ _ n2, readIntCellS_positive _ _ _ n3,
    readIntCellS_positive _ _ _ n4, readIntCellS_positive _ _ _ n5, readLevelCellS_level _ _ _ n6 n7,
    strCell_nonempty, readListCellS_nonempty _ _ _ l1, readListCellS_nonempty _ _ _ l2,
    readListCellS_nonempty _ _ _ l3, Option.bind_some]
  by_cases ht : cfg.includeText = true
  · simp [projectChunk, ht, gtext ht]
  · simp [projectChunk, ht]

example : listsCommaFree { id := [], text := [], md := { sectionPath := [[97, 32, 98], [99]], childIDs := [[]] } } := by
  intro s hs
  simp at hs
  rcases hs with h | h | h <;> subst h <;> decide

/-- PARTIAL — SAME CHUNKS (CSV and TSV with header): the export text, read by the strict RFC 4180
reader and decoded row by row under its own header, is the collection itself (up to the
configuration's projection), in order — for all bytes in ids, texts, titles and section names, a
valid one-byte delimiter, non-colliding column names and normal chunks, provided no list element
contains a comma. -/
theorem export_csv_same_chunks_partial (cfg : Config) (hf : cfg.format = .csv ∨ cfg.format = .tsv)
    (hh : cfg.includeHeader = true) (hd : validDelim (delimiter cfg)) (hnames : namesOk cfg = true)
    (chunks : List Chunk) (hn : ∀ c ∈ chunks, chunkNormal c = true) (hl : ∀ c ∈ chunks, listsCommaFree c) :
    ∃ text, exportToString cfg chunks = some text ∧
      decodeExport cfg text = some (chunks.map (projectChunk false cfg)) := by
  -- the export for any delimiter rune, restricted to a delimiter below 0x80
  have hlt : delimiter cfg < 128 := hd.2.2.2.2
  obtain ⟨text, h1, h2⟩ := exportToStringR_decodes cfg hf hh (validDelimR_of_validDelim _ hd) chunks _
    (fun c hc => csv_row_decodes_partial cfg chunks c hc hnames (hn c hc) (hl c hc))
  exact ⟨text, exportToStringR_eq_exportToString cfg chunks (fun _ => .inl hlt) ▸ h1,
    decodeExportR_eq_decodeExport cfg text (fun _ => hlt) ▸ h2⟩

/-- PUBLIC API: `ToCSV` / `ToTSV` of any collection of normal chunks (lists comma-free) decode to
exactly that collection -/
theorem to_csv_same_chunks_partial (chunks : List Chunk)
    (hn : ∀ c ∈ chunks, chunkNormal c = true) (hl : ∀ c ∈ chunks, listsCommaFree c) :
    (∃ text, toCSV chunks = some text ∧ decodeExport csvExportConfig text = some chunks) ∧
    (∃ text, toTSV chunks = some text ∧ decodeExport tsvExportConfig text = some chunks) := by
  have key : ∀ cfg : Config, (cfg.format = .csv ∨ cfg.format = .tsv) → cfg.includeHeader = true →
      validDelim (delimiter cfg) → namesOk cfg = true → cfg.includeText = true → cfg.includeMetadata = true →
      cfg.metadataFields = none →
      ∃ text, exportToString cfg chunks = some text ∧ decodeExport cfg text = some chunks :=
    fun cfg hf hh hd hnm ht hm hfl =>
      ReadsBack.identity (export_csv_same_chunks_partial cfg hf hh hd hnm)
        (fun c => project_full false cfg c ht hm hfl) chunks hn hl
  exact ⟨key csvExportConfig (Or.inl rfl) rfl (by decide) (by decide) rfl rfl rfl,
         key tsvExportConfig (Or.inr rfl) rfl (by decide) (by decide) rfl rfl rfl⟩

/-- COUNTEREXAMPLE (pinned code, finding C14/csv-field-meta-list at collection level): two different
one-chunk collections — section paths `["a,b","c"]` and `["a","b,c"]` — have the same header and
the same rows under every configuration that exports all metadata fields (in particular `ToCSV`
and `ToTSV`), hence the same CSV / TSV text: the export is not injective, no reader whatsoever
can tell the two collections apart. -/
theorem csv_same_chunks_counterexample (cfg : Config) (hf : cfg.metadataFields = none) :
    let c1 : Chunk := { id := [120], text := [], md := { sectionPath := [[97, 44, 98], [99]] } }
    let c2 : Chunk := { id := [120], text := [], md := { sectionPath := [[97], [98, 44, 99]] } }
    c1.md.sectionPath ≠ c2.md.sectionPath ∧ chunkNormal c1 = true ∧ chunkNormal c2 = true ∧
    exportCSV goMarshal cfg [c1] = exportCSV goMarshal cfg [c2] ∧
    (cfg.format = .csv ∨ cfg.format = .tsv → exportToString cfg [c1] = exportToString cfg [c2]) := by
  intro c1 c2
  have hmeta : ∀ k, k ≠ kSectionPath → metaField c1.md k = metaField c2.md k := by
    intro k hk
    unfold metaField
    exact ite_congr rfl (fun _ => rfl) (fun _ => by rw [if_neg hk, if_neg hk])
  have hcell : cellSpec cfg c1 = cellSpec cfg c2 := by
    funext col
    unfold cellSpec
    iterate 11 refine ite_congr rfl (fun _ => rfl) (fun _ => ?_)
    cases stripMeta col with
    | none => rfl
    | some key =>
      -- both paths are written `[a,b,c]`
      have e : exportedMeta cfg c1.md key = exportedMeta cfg c2.md key ∨
          (exportedMeta cfg c1.md key = some (.strs [[97, 44, 98], [99]]) ∧
           exportedMeta cfg c2.md key = some (.strs [[97], [98, 44, 99]])) := by
        unfold exportedMeta
        by_cases hk : key = kSectionPath
        · subst hk
          cases (cfg.includeMetadata && allowedField cfg kSectionPath)
          · exact Or.inl rfl
          · exact Or.inr ⟨rfl, rfl⟩
        · rw [hmeta key hk]; exact Or.inl rfl
      rcases e with e | ⟨e1, e2⟩
      · simp only [e]
      · simp only [e1, e2]
        rfl
  have hkeys : chunkKeys cfg c1 = chunkKeys cfg c2 := by
    rw [(flatten_is_noop cfg c1 hf).2.2, (flatten_is_noop cfg c2 hf).2.2]
    decide
  have hcols : collectCSVColumns cfg [c1] = collectCSVColumns cfg [c2] := by
    simp only [collectCSVColumns, sortedMetaKeys, collectKeys, hkeys]
  have hrec : exportCSVRecords goMarshal cfg [c1] = exportCSVRecords goMarshal cfg [c2] := by
    rw [exportCSVRecords_eq, exportCSVRecords_eq]
    simp only [hcols, hcell, List.map_cons, List.map_nil]
  have hexp : exportCSV goMarshal cfg [c1] = exportCSV goMarshal cfg [c2] := by
    unfold exportCSV; rw [hrec]
  refine ⟨by decide, by decide, by decide, hexp, ?_⟩
  rintro (h | h) <;> simp [exportToString, h, hexp]

end Tabula.C14Decode
