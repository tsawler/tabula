import TabulaModel.Lemmas.FiltersA85Writing
import TabulaModel.Model.StreamConformLax
import TabulaModel.Props.C05E
/-!
# C05 for ASCII85 writers that spell a zero group `!!!!!`

`C05E.decode_inverts_encoding` takes the ASCII85 stage's encoding to be the conforming encoder's
(`A85Writing`: every all-zero group written `z`, as §7.4.3 demands). The harness's encoder can also
write `!!!!!` for such a group (style `NoZ`) — real encoders do — and `c05.writes` answers `false`
for it. Here the encoding hypothesis is widened (`A85WritingLax`: per zero group a free choice between
`z` and `!!!!!`, white space anywhere) and both the mechanism theorem and the end-to-end theorem
are proved for it.
-/
namespace Tabula.C05Lax
open Tabula.Filters

abbrev Bytes (x : Str) : Prop := ∀ b ∈ x, b < 256

/-- every white-space interleaving of the encoder's groups in which any
of the all-zero groups is written `!!!!!` instead of `z` decodes to `x`, with the EOD `~>` (followed
by anything) or at the end of the data. All lengths. -/
theorem a85_lenient_roundtrip (s x t : Str) (hx : Bytes x) (h : A85WritingLax s x) :
    a85Decode (s ++ 126 :: 62 :: t) = some x ∧ a85Decode s = some x := by
  refine ⟨a85Decode_writingLax s x _ hx h (a85Go_eod t), ?_⟩
  have := a85Decode_writingLax s x [] hx h a85Go_end
  simpa using this

theorem a85_writing_is_lenient (s x : Str) (h : A85Writing s x) : A85WritingLax s x :=
  ⟨[], by rw [a85BodyLax_nil]; exact h⟩

/-- non-vacuity: eight zero bytes as `z` then `!!!!!`, white space in between, and a one-byte tail -/
example : A85WritingLax [122, 32, 33, 33, 33, 33, 33, 10, 53, 108] [0, 0, 0, 0, 0, 0, 0, 0, 65] :=
  ⟨[true, false], by decide⟩

/-- what a (lenient) encoder of a stage may produce: as `WStage.Writes`, with `A85WritingLax` for
ASCII85 -/
def WritesLax (inflate : Str → Option Str) : WStage → Str → Str → Prop
  | .a85 _, x, y => ∃ s, A85WritingLax s x ∧ (y = s ∨ ∃ t, y = s ++ 126 :: 62 :: t)
  | s, x, y => s.Writes inflate x y

def ChainWritesLax (inflate : Str → Option Str) : List WStage → Str → Str → Prop
  | [], x, y => y = x
  | s :: ss, x, y => ∃ m, ChainWritesLax inflate ss x m ∧ Bytes m ∧ WritesLax inflate s m y

theorem writes_is_lax (inflate : Str → Option Str) (s : WStage) (x y : Str) (h : s.Writes inflate x y) :
    WritesLax inflate s x y := by
  cases s with
  | a85 a =>
    obtain ⟨str, hs, hy⟩ := h
    exact ⟨str, a85_writing_is_lenient str x hs, hy⟩
  | hex a | flate a | tiff a c1 c2 | png a p c1 c2 t => exact h

theorem chainWrites_is_lax (inflate : Str → Option Str) : ∀ (ss : List WStage) (x y : Str),
    C05E.ChainWrites inflate ss x y → ChainWritesLax inflate ss x y := by
  intro ss
  induction ss with
  | nil => intro x y h; exact h
  | cons s ss ih =>
    intro x y h
    obtain ⟨m, hrest, hm, hs⟩ := h
    exact ⟨m, ih x m hrest, hm, writes_is_lax inflate s m y hs⟩

theorem stage_decode_lax (ext : Ext) (s : WStage) (o : Option Obj) (m y : Str) (hm : Bytes m)
    (hp : s.ParmsOK o) (hw : WritesLax ext.inflate s m y) :
    decodeWithFilter ext y s.name (paramsObjToDict (objToPObj o)) = some m := by
  cases s with
  | a85 a =>
    obtain ⟨str, hs, hy⟩ := hw
    simp only [WStage.name, C05E.dwf_a85]
    rcases hy with hy | ⟨t, hy⟩
    · rw [hy]; exact (a85_lenient_roundtrip str m [] hm hs).2
    · rw [hy]; exact (a85_lenient_roundtrip str m t hm hs).1
  | hex a | flate a | tiff a c1 c2 | png a p c1 c2 t => exact C05E.stage_decode ext _ o m y hm hp hw

/-- `C05E.decode_inverts_encoding` with the wider encoding
hypothesis: for every pipeline, every conforming dictionary and every encoding in which the ASCII85
stages may spell zero groups `!!!!!`, `Decode()` returns the original bytes. -/
theorem decode_inverts_encoding_lax (ext : Ext) (stages : List WStage) (d : Dict) (x y : Str)
    (hd : C05E.Conforming d stages) (hw : ChainWritesLax ext.inflate stages x y) :
    streamDecodeD ext d y = some x :=
  streamDecodeD_inverts WStage.name ext x (ChainWritesLax ext.inflate) (fun _ h => h) WStage.ParmsOK d stages y hd
    (fun s _ y ⟨m, hrest, hm, hs⟩ => ⟨m, hrest, fun o ho => stage_decode_lax ext s o m y hm ho hs⟩) hw

/-- non-vacuity: `/Filter /A85` on "!!!!! z ~>" is eight zero bytes -/
example : ChainWritesLax (fun _ => none) [.a85 true] [0, 0, 0, 0, 0, 0, 0, 0] [33, 33, 33, 33, 33, 32, 122, 32, 126, 62] :=
  ⟨_, rfl, by decide, [33, 33, 33, 33, 33, 32, 122, 32], ⟨[false, true], by decide⟩, Or.inr ⟨[], rfl⟩⟩

theorem a85LaxMatch_sound : ∀ (x body : Str), a85LaxMatch body x = true → ∃ zs, body = a85BodyLax zs x := by
  intro x
  induction x using a85Body.induct with
  | case1 a b c d rest ih =>
    intro body h
    rw [a85LaxMatch] at h
    split at h
    · rename_i hz
      rcases (Bool.or_eq_true _ _).mp h with h | h
      · simp only [Bool.and_eq_true, beq_iff_eq] at h
        obtain ⟨zs, hzs⟩ := ih _ h.2
        refine ⟨true :: zs, ?_⟩
        rw [a85BodyLax]
        simp only [hz, and_self, if_true, List.headD_cons, List.tail_cons, ← hzs]
        cases body with
        | nil => simp at h
        | cons c0 body' =>
          simp only [List.head?_cons, Option.some.injEq] at h
          simp [h.1]
      · simp only [Bool.and_eq_true, beq_iff_eq] at h
        obtain ⟨zs, hzs⟩ := ih _ h.2
        refine ⟨false :: zs, ?_⟩
        rw [a85BodyLax]
        simp only [hz, and_self, if_true, List.headD_cons, Bool.false_eq_true, if_false, List.tail_cons]
        rw [← h.1, ← hzs, List.take_append_drop]
    · rename_i hz
      simp only [Bool.and_eq_true, beq_iff_eq] at h
      obtain ⟨zs, hzs⟩ := ih _ h.2
      refine ⟨zs, ?_⟩
      rw [a85BodyLax]
      simp only [hz, if_false]
      rw [← h.1, ← hzs, List.take_append_drop]
  | case2 a b c => intro body h; exact ⟨[], by simpa [a85LaxMatch, a85BodyLax] using h⟩
  | case3 a b => intro body h; exact ⟨[], by simpa [a85LaxMatch, a85BodyLax] using h⟩
  | case4 a => intro body h; exact ⟨[], by simpa [a85LaxMatch, a85BodyLax] using h⟩
  | case5 => intro body h; exact ⟨[], by simpa [a85LaxMatch, a85BodyLax] using h⟩

theorem a85WritingLaxB_sound (s x : Str) (h : a85WritingLaxB s x = true) : A85WritingLax s x :=
  a85LaxMatch_sound x _ h

theorem stageWritesLaxB_sound (inflate : Str → Option Str) (s : WStage) (m y : Str)
    (h : stageWritesLaxB inflate s m y = true) : WritesLax inflate s m y := by
  cases s with
  | a85 a => exact ⟨_, a85WritingLaxB_sound _ m h, cutEOD_split y⟩
  | hex a => exact C05E.stageWritesB_sound inflate (.hex a) m y h
  | flate a => exact C05E.stageWritesB_sound inflate (.flate a) m y h
  | tiff a c1 c2 => exact C05E.stageWritesB_sound inflate (.tiff a c1 c2) m y h
  | png a p c1 c2 t => exact C05E.stageWritesB_sound inflate (.png a p c1 c2 t) m y h

/-- the checker the harness applies to the intermediates of every
pipeline it encoded — the `!!!!!` style included — (`c05.writeslax`) implies the hypothesis
`ChainWritesLax` of `decode_inverts_encoding_lax` -/
theorem chainWritesLaxL_sound (inflate : Str → Option Str) : ∀ (stages : List WStage) (ms : List Str),
    chainWritesLaxL inflate stages ms = true →
    ∃ y x, ms.head? = some y ∧ ms.getLast? = some x ∧ ChainWritesLax inflate stages x y := by
  intro stages
  induction stages with
  | nil =>
    intro ms h
    match ms, h with
    | [y], _ => exact ⟨y, y, rfl, rfl, rfl⟩
  | cons s ss ih =>
    intro ms h
    match ms, h with
    | y :: m :: rest, h =>
      simp only [chainWritesLaxL, Bool.and_eq_true] at h
      obtain ⟨⟨hb, hs⟩, hrest⟩ := h
      obtain ⟨y', x, hy', hx, hcw⟩ := ih (m :: rest) hrest
      simp only [List.head?_cons, Option.some.injEq] at hy'
      subst hy'
      refine ⟨y, x, rfl, ?_, m, hcw, ?_, stageWritesLaxB_sound inflate s m y hs⟩
      · rw [List.getLast?_cons_cons]; exact hx
      · intro b hbm
        simp only [bytesB, List.all_eq_true, decide_eq_true_eq] at hb
        exact hb b hbm

/-- non-vacuity: the checker accepts "!!!!! z ~>x" for eight zero bytes -/
example : chainWritesLaxL (fun _ => none) [.a85 true]
    [[33, 33, 33, 33, 33, 32, 122, 32, 126, 62, 120], [0, 0, 0, 0, 0, 0, 0, 0]] = true := by decide

end Tabula.C05Lax
