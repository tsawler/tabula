import TabulaModel.Props.C18Api
import TabulaModel.Lemmas.PackageSort
/-!
# C18 — the statement of the property over the front door

The end-to-end form of C18 over the model of `tabula.Open(f).PageCount()/Text()/
Document()` (`Model/PackageApi.lean`), composed from `Props/C18.lean` (part list) and
`Props/C18Api.lean` (reader API):

* `front_xlsx` / `front_pptx` / `front_epub` — count, text and pages as EQUATIONS in the
  declaration (so also: the front door fails exactly when no declared part is readable);
* `front_archive_perm_invariant` — nothing observable depends on the ZIP member order;
* `front_decoys_ignored` — nothing observable depends on members appended under names the
  declaration does not lead to;
* `names_irrelevant_xlsx`, `names_irrelevant_pptx` — the walk over the declaration does not
  depend on the member NAMES: two packages whose declarations resolve, entry by entry, to the
  same contents yield the same part list (whatever the parts are called, wherever they are
  stored); `names_irrelevant_epub` — a chapter records its resolved href and manifest id, so
  here the two spines and the names they resolve to are the same, and what may differ is the
  spelling of package directory and manifest hrefs and the rest of the archive.
-/
namespace Tabula.C18Front
open Tabula.Package Tabula.PackageApi Tabula.C18 Tabula.C18Api

/-- **front_xlsx** — for every archive, parse table and per-member parse result: with
`parts` = the declared sheets in workbook order, each resolved (r:id → target → normalised
name) and looked up, unreadable ones dropped:
`PageCount()` = `|parts|`; `Text()` = the cell texts of `parts` in that order, blank-line
separated; `Document().Pages` = one page per part, numbered by declared position, built
from that part's grid; all three fail together, exactly when `parts` is empty. -/
theorem front_xlsx (a : Archive) (x : Docs) (grid : Nat → Grid) (o : FrontOpts)
    (rels sheets : List (Str × Str)) (h : xlsxDeclared (lookup a) x = some (rels, sheets)) :
    let parts := sheets.zipIdx.filterMap (xlsxSpecPart a x rels)
    frontCountXlsx a x grid = (if parts = [] then none else some parts.length) ∧
    frontTextXlsx a x grid o =
      (if parts = [] then none else some (joinWith sNL2 (parts.map fun p => sheetBody [9] (grid p.2.1)))) ∧
    frontDocXlsx a x grid =
      (if parts = [] then none else some (parts.map fun p => ⟨p.1 + 1, p.2.1, grid p.2.1⟩)) := by
  rw [frontCountXlsx_eq, frontTextXlsx_eq, frontDocXlsx_eq, parts_follow_declaration_xlsx a x rels sheets h]
  exact ⟨map_nonEmpty _ _, map_nonEmpty _ _, map_nonEmpty _ _⟩

/-- **front_pptx** — the same for a presentation that declares its slides: `parts` = the
`sldIdLst` entries in list order, each resolved (r:id → target joined to `ppt/`) and looked
up, with the notes part its OWN relationship part leads to. -/
theorem front_pptx (a : Archive) (x : Docs) (body : Nat → SlideBody) (nt : Nat → Str) (o : FrontOpts)
    (declared : List Str) (h : pptxDeclared (lookup a) x = some declared) (hne : declared ≠ []) :
    let parts := declared.zipIdx.filterMap (pptxSpecPartN a x)
    frontCountPptx a x body nt = (if parts = [] then none else some parts.length) ∧
    frontTextPptx a x body nt o =
      (if parts = [] then none
       else some (joinWith sNL2 (parts.map fun p => slideText (frontPOpts o) (mkSlide body nt p)))) ∧
    frontDocPptx a x body nt =
      (if parts = [] then none else some (parts.map fun p => ⟨p.1 + 1, p.2.1, body p.2.1⟩)) := by
  rw [frontCountPptx_eq, frontTextPptx_eq, frontDocPptx_eq, notes_follow_own_relationships a x declared h hne]
  exact ⟨map_nonEmpty _ _, map_nonEmpty _ _, map_nonEmpty _ _⟩

/-- **front_epub** — `parts` = the spine in its own order, later repetitions of an already
listed resource removed (`spineFirsts`; for a spine without repeated resources the whole
spine, `spineFirsts_of_unrepeated`), each
idref resolved (manifest href → percent-decoded → joined to the package document's
directory) and looked up. -/
theorem front_epub (hv : HtmlViews) (a : Archive) (x : Docs) (o : FrontOpts) (base : Str)
    (manifest : List (Str × Str)) (spine : List Str)
    (h : epubDeclared (lookup a) x = some (base, manifest, spine)) :
    let parts := (spineFirsts base manifest spine).filterMap (epubSpecPart a base manifest)
    frontCountEpub a x = (if parts = [] then none else some parts.length) ∧
    frontTextEpub hv a x o =
      (if parts = [] then none
       else some (joinWith sNL2 ((parts.map mkChapter).filterMap (chapterSegment hv 0)))) ∧
    frontDocEpub hv a x =
      (if parts = [] then none else some (epubDocument hv (parts.map mkChapter))) := by
  rw [frontCountEpub_eq, frontTextEpub_eq, frontDocEpub_eq, parts_follow_declaration_epub a x base manifest spine h]
  exact ⟨map_nonEmpty _ _, map_nonEmpty _ _, map_nonEmpty _ _⟩

/-- **front_archive_perm_invariant** — count, text and pages of all three front doors are
the same for EVERY permutation of the ZIP member list (member names distinct; PPTX: the
presentation declares its slides). -/
theorem front_archive_perm_invariant (a a' : Archive) (x : Docs)
    (hn : (a.map Prod.fst).Nodup) (hp : a.Perm a') :
    (∀ grid o, frontCountXlsx a x grid = frontCountXlsx a' x grid ∧
      frontTextXlsx a x grid o = frontTextXlsx a' x grid o ∧ frontDocXlsx a x grid = frontDocXlsx a' x grid) ∧
    (pptxDeclared (lookup a) x ≠ some [] → ∀ body nt o,
      frontCountPptx a x body nt = frontCountPptx a' x body nt ∧
      frontTextPptx a x body nt o = frontTextPptx a' x body nt o ∧
      frontDocPptx a x body nt = frontDocPptx a' x body nt) ∧
    (∀ hv o, frontCountEpub a x = frontCountEpub a' x ∧
      frontTextEpub hv a x o = frontTextEpub hv a' x o ∧ frontDocEpub hv a x = frontDocEpub hv a' x) := by
  obtain ⟨hx, he, _⟩ := archive_perm_invariant a a' x hn hp
  refine ⟨?_, ?_, ?_⟩
  · intro grid o
    simp only [frontCountXlsx_eq, frontTextXlsx_eq, frontDocXlsx_eq, hx, and_self]
  · intro hd body nt o
    simp only [frontCountPptx_eq, frontTextPptx_eq, frontDocPptx_eq, archive_perm_invariant_notes a a' x hn hp hd,
      and_self]
  · intro hv o
    simp only [frontCountEpub_eq, frontTextEpub_eq, frontDocEpub_eq, he, and_self]

/-- **front_decoys_ignored** — members appended under names the declaration does not lead to
(left-over sheets / slides with their relationship parts and notes, unlisted or
non-spine content documents, NCX, nav, CSS …) change nothing observable. -/
theorem front_decoys_ignored (a extra : Archive) (x : Docs) :
    ((∀ m ∈ extra, m.1 ∉ xlsxConsulted (lookup a) x) → ∀ grid o,
      frontCountXlsx (a ++ extra) x grid = frontCountXlsx a x grid ∧
      frontTextXlsx (a ++ extra) x grid o = frontTextXlsx a x grid o ∧
      frontDocXlsx (a ++ extra) x grid = frontDocXlsx a x grid) ∧
    (pptxDeclared (lookup a) x ≠ some [] → (∀ m ∈ extra, m.1 ∉ pptxConsultedN (lookup a) x) → ∀ body nt o,
      frontCountPptx (a ++ extra) x body nt = frontCountPptx a x body nt ∧
      frontTextPptx (a ++ extra) x body nt o = frontTextPptx a x body nt o ∧
      frontDocPptx (a ++ extra) x body nt = frontDocPptx a x body nt) ∧
    ((∀ m ∈ extra, m.1 ∉ epubConsulted (lookup a) x) → ∀ hv o,
      frontCountEpub (a ++ extra) x = frontCountEpub a x ∧
      frontTextEpub hv (a ++ extra) x o = frontTextEpub hv a x o ∧
      frontDocEpub hv (a ++ extra) x = frontDocEpub hv a x) := by
  refine ⟨?_, ?_, ?_⟩
  · intro h grid o
    simp only [frontCountXlsx_eq, frontTextXlsx_eq, frontDocXlsx_eq, decoys_ignored_xlsx a extra x h, and_self]
  · intro hd h body nt o
    simp only [frontCountPptx_eq, frontTextPptx_eq, frontDocPptx_eq, decoys_ignored_pptx_notes a extra x hd h, and_self]
  · intro h hv o
    simp only [frontCountEpub_eq, frontTextEpub_eq, frontDocEpub_eq, decoys_ignored_epub a extra x h, and_self]

/-- **names_irrelevant_xlsx** — two workbooks (any member names, any r:ids, any targets, any
ZIP order) whose sheet lists have the same sheet names and whose `i`-th entries resolve
to the same content are read as the same sheet list: where a part is stored and what it
is called has no influence beyond what the declaration resolves to. -/
theorem names_irrelevant_xlsx (a a' : Archive) (x : Docs) (rels rels' sheets sheets' : List (Str × Str))
    (hl : sheets.length = sheets'.length)
    (h : ∀ (k : Nat) (s s' : Str × Str), sheets[k]? = some s → sheets'[k]? = some s' →
      s.1 = s'.1 ∧ xlsxRead (lookup a) (xlsxTarget rels k s.2) = xlsxRead (lookup a') (xlsxTarget rels' k s'.2)) :
    xlsxLoop (lookup a) x rels 0 sheets = xlsxLoop (lookup a') x rels' 0 sheets' := by
  unfold xlsxLoop
  apply loopIdx_pointwise _ _ _ _ 0 hl
  intro k s s' hs hs'
  obtain ⟨h1, h2⟩ := h k s s' hs hs'
  simp only [Nat.zero_add, xlsxPart, h1, h2]

/-- **names_irrelevant_pptx** — two decks whose slide path lists resolve, position by
position, to the same contents (slide part, its relationship part's notes) present the
same slides with the same notes: neither the file name of a slide part (its number
included) nor its directory matters. -/
theorem names_irrelevant_pptx (a a' : Archive) (x : Docs) (paths paths' : List Str)
    (hl : paths.length = paths'.length)
    (h : ∀ (k : Nat) (p p' : Str), paths[k]? = some p → paths'[k]? = some p' →
      lookup a p = lookup a' p' ∧ slideNotes (lookup a) x p = slideNotes (lookup a') x p') :
    loopIdx (pptxPartN (lookup a) x) 0 paths = loopIdx (pptxPartN (lookup a') x) 0 paths' := by
  apply loopIdx_pointwise _ _ _ _ 0 hl
  intro k p p' hp hp'
  obtain ⟨h1, h2⟩ := h k p p' hp hp'
  simp only [Nat.zero_add, pptxPartN, pptxPart, h1, h2]

/-- **names_irrelevant_epub** — two publications whose spines resolve, position by position,
to the same member name and content present the same chapters (a chapter records its
resolved href and manifest id, so those are part of what is compared); the set of
resources already loaded evolves identically in both. -/
theorem names_irrelevant_epub (a a' : Archive) (base base' : Str) (manifest manifest' : List (Str × Str))
    (spine spine' : List Str) (hl : spine.length = spine'.length)
    (h : ∀ (k : Nat) (r r' : Str), spine[k]? = some r → spine'[k]? = some r' →
      r = r' ∧ chapterPath base manifest r = chapterPath base' manifest' r' ∧
      ∀ p, chapterPath base manifest r = some p → lookup a p = lookup a' p) :
    epubLoop (lookup a) base manifest 0 spine = epubLoop (lookup a') base' manifest' 0 spine' := by
  unfold epubLoop
  exact epubLoopS_pointwise (lookup a) (lookup a') base base' manifest manifest' [] 0 spine spine' hl h

/-- non-vacuity of `names_irrelevant_pptx`: `ppt/slides/slide2.xml` in one deck, `deck/z.xml`
in the other, same content, neither has a relationship part -/
example :
    loopIdx (pptxPartN (lookup [([112, 112, 116, 47, 115, 108, 105, 100, 101, 115, 47, 115, 108, 105, 100, 101, 50, 46, 120, 109, 108], 12)])
      (fun c => if c = 12 then .slide else .opaque)) 0 [[112, 112, 116, 47, 115, 108, 105, 100, 101, 115, 47, 115, 108, 105, 100, 101, 50, 46, 120, 109, 108]]
    = loopIdx (pptxPartN (lookup [([100, 101, 99, 107, 47, 122, 46, 120, 109, 108], 12)])
      (fun c => if c = 12 then .slide else .opaque)) 0 [[100, 101, 99, 107, 47, 122, 46, 120, 109, 108]] := by decide +kernel

/-- non-vacuity of `names_irrelevant_xlsx`: `sheet2.xml` under r:id `rB` and
`data/zz.xml` under r:id `r9` with the same content -/
example :
    xlsxLoop (lookup [([120, 108, 47, 119, 115, 47, 115, 50, 46, 120, 109, 108], 12)]) (fun c => if c = 12 then .sheet else .opaque)
      [([114, 66], [119, 115, 47, 115, 50, 46, 120, 109, 108])] 0 [([84], [114, 66])]
    = xlsxLoop (lookup [([120, 108, 47, 100, 47, 122, 46, 120, 109, 108], 12)]) (fun c => if c = 12 then .sheet else .opaque)
      [([114, 57], [100, 47, 122, 46, 120, 109, 108])] 0 [([84], [114, 57])] := by decide +kernel

/-- EPUB: a spine entry whose manifest href is the percent-encoding (any of the two
encoders of `Lemmas/Package.lean`: everything but unreserved, or path-style with `/`, `+`
and the other sub-delimiters literal) of the relative path `rel` presents the member
`path.Join(package directory, rel)` — `+`, space, `%`, non-ASCII and dot segments included. -/
theorem epub_encoded_href_denotes_member (a : Archive) (base : Str) (manifest : List (Str × Str))
    (idref rel : Str) (i c : Nat) (hb : ∀ b ∈ rel, b < 256)
    (hm : mapLast? manifest idref = some (pctEncode rel) ∨ mapLast? manifest idref = some (pctEncodePath rel))
    (hl : lookup a (join2 base rel) = some c) :
    epubSpecPart a base manifest (idref, i) = some (i, c, join2 base rel, idref) := by
  unfold epubSpecPart chapterPath
  rcases hm with hm | hm
  · rw [hm]
    simp only [Option.map_some, href_resolution base rel hb, Option.bind_some, hl]
  · rw [hm]
    simp only [Option.map_some, href_resolution_literal_plus base rel hb, Option.bind_some, hl]

/-- non-vacuity: `c%2B1` and `c+1` both spell `c+1`; in `exEArchive` the manifest item `i2`
(`ch/c+1.xhtml`, path-style encoding of itself) denotes member 12 -/
example : pctEncode [99, 43, 49] = [99, 37, 50, 66, 49] ∧ pctEncodePath [99, 43, 49] = [99, 43, 49] := by decide +kernel
example :
    let rel : Str := [99, 104, 47, 99, 43, 49, 46, 120, 104, 116, 109, 108]
    let manifest : List (Str × Str) := [([105, 49], [99, 49]), ([105, 50], rel), ([105, 51], [99, 50])]
    (∀ b ∈ rel, b < 256) ∧ mapLast? manifest [105, 50] = some (pctEncodePath rel) ∧
      lookup exEArchive (join2 [79, 69, 66, 80, 83] rel) = some 12 := by decide +kernel
example : mapLast [([114], [115])] [114] ≠ [] := by decide +kernel

/-- PPTX: a `sldId` whose relationship target is relative denotes `path.Join("ppt", target)`;
a target starting with `/` denotes the cleaned path from the package root -/
theorem pptx_target_denotes (rels : List (Str × Str)) (rid : Str) (h : mapLast rels rid ≠ []) :
    slidePath rels rid =
      some (if hasPrefix [47] (mapLast rels rid) then (clean (mapLast rels rid)).drop 1
            else join2 sPpt (mapLast rels rid)) := by
  unfold slidePath
  simp only [h, if_false]
  split <;> rfl

/-- XLSX: the name asked for first is the relationship target (default
`worksheets/sheet<i+1>.xml` when the r:id has none) made relative to the package root:
`xl/` is prepended unless the target starts with `xl/` or `/`, and a leading `/` is dropped -/
theorem xlsx_target_denotes (rels : List (Str × Str)) (i : Nat) (rid : Str) :
    xlsxTarget rels i rid =
      (let t := if mapLast rels rid = [] then sSheetPre ++ dec (i + 1) ++ sXml else mapLast rels rid
       if hasPrefix [47] t then t.drop 1 else if hasPrefix sXl t then t else sXl ++ t) := by
  unfold xlsxTarget trimPrefix
  simp only
  generalize (if mapLast rels rid = [] then sSheetPre ++ dec (i + 1) ++ sXml else mapLast rels rid) = t
  by_cases h1 : hasPrefix [47] t = true
  · simp [h1]
  · by_cases h2 : hasPrefix sXl t = true
    · simp [h1, h2]
    · have h3 : hasPrefix [47] (sXl ++ t) = false := by
        simp [hasPrefix, sXl, List.isPrefixOf]
      simp [h1, h2, h3]

/-- `worksheets/sheet2.xml ↦ xl/worksheets/sheet2.xml`, `/xl/ws/s.xml ↦ xl/ws/s.xml`,
no target at position 4 `↦ xl/worksheets/sheet5.xml` -/
example : xlsxTarget [([114], [119, 47, 115])] 0 [114] = [120, 108, 47, 119, 47, 115] := by decide +kernel
example : xlsxTarget [([114], [47, 120, 108, 47, 115])] 0 [114] = [120, 108, 47, 115] := by decide +kernel
example : xlsxTarget [] 4 [114] = sXl ++ sSheetPre ++ [53] ++ sXml := by decide +kernel

/-- when the presentation declares nothing usable the slide paths are the conventional
part names `ppt/slides/slide*.xml` (no `_rels`), each exactly once, ascending by the number
in the name -/
theorem fallback_paths_sorted_candidates (names : List Str) :
    (fallbackSlidePaths names).Perm (fallbackCandidates names) ∧
      (fallbackSlidePaths names).Pairwise (fun p q => extractSlideNumber p ≤ extractSlideNumber q) :=
  ⟨sortByNumber_perm _, sortByNumber_sorted _⟩

/-- **archive_perm_invariant_fallback** — `archive_perm_invariant` without the hypothesis
that the presentation declares its slides: when the candidate part names carry pairwise
distinct numbers, the fallback too is independent of the ZIP member order (slide list
and notes). (With equal numbers — `slide1.xml`, `slide01.xml` — the tie is broken by
archive position: `pptx_fallback_tie_counterexample`.) -/
theorem archive_perm_invariant_fallback (a a' : Archive) (x : Docs)
    (hn : (a.map Prod.fst).Nodup) (hp : a.Perm a')
    (hnum : ∀ p ∈ fallbackCandidates (a.map Prod.fst), ∀ q ∈ fallbackCandidates (a.map Prod.fst),
      extractSlideNumber p = extractSlideNumber q → p = q) :
    pptxOpen a x = pptxOpen a' x ∧ pptxOpenN a x = pptxOpenN a' x := by
  have hl := lookup_perm_fun hn hp
  have hf := fallback_perm_invariant (a.map Prod.fst) (a'.map Prod.fst) (hp.map Prod.fst) hnum
  unfold pptxOpen pptxOpenL pptxOpenN pptxOpenNL
  rw [← hl, ← hf]
  exact ⟨rfl, rfl⟩

/-- two left-over parts whose names scan to the same number (`slide1.xml`, `slide01.xml`):
the fallback presents them in archive order, so swapping the two members swaps the slides -/
theorem pptx_fallback_tie_counterexample :
    let s1 : Str := [112, 112, 116, 47, 115, 108, 105, 100, 101, 115, 47, 115, 108, 105, 100, 101, 49, 46, 120, 109, 108]
    let s01 : Str := [112, 112, 116, 47, 115, 108, 105, 100, 101, 115, 47, 115, 108, 105, 100, 101, 48, 49, 46, 120, 109, 108]
    let x : Docs := fun c => if c = 2 then .presentation none else if c = 11 ∨ c = 12 then .slide else .opaque
    pptxOpen [(sCT, 1), (sPres, 2), (s1, 11), (s01, 12)] x = some [(0, 11), (1, 12)] ∧
    pptxOpen [(sCT, 1), (sPres, 2), (s01, 12), (s1, 11)] x = some [(0, 12), (1, 11)] := by decide +kernel

/-- the hypothesis of `archive_perm_invariant_fallback` is satisfiable: `exArchive`'s
candidates slide1, slide9, slide2 have distinct numbers -/
example : ∀ p ∈ fallbackCandidates (exArchive.map Prod.fst), ∀ q ∈ fallbackCandidates (exArchive.map Prod.fst),
    extractSlideNumber p = extractSlideNumber q → p = q := by decide +kernel

end Tabula.C18Front
