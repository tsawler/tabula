import TabulaModel.Model.StreamHeap
import TabulaModel.Props.C05E
/-!
# C05 over histories with shared buffers — what repeated `Decode()` calls can and cannot change

`C05E.history_independent` treats results as values. Here results are the slices Go hands out
(`Model/StreamHeap.lean`): a result may BE the stream's `Data` (no `Filter`, or only the
pass-through names `/DCTDecode`, `/DCT`, `/JPXDecode`; `Decoded()` always), and the caller may write
into every slice it was given.

* `decode_never_writes` — a `Decode()` call writes to no buffer: every stream's `Data` and every
  buffer handed out earlier has the contents it had before (non-mutation, no earlier result
  clobbered), for every dictionary and all data.
* `decode_result` — what the caller sees is `streamDecodeD` of the current `Data`; it is the
  stream's own `Data` exactly for a pass-through `Filter`, otherwise a buffer allocated by this call.
* `supported_filters_allocate`, `conforming_allocates` — a `Filter` entry naming Flate, ASCIIHex,
  ASCII85 (or CCITT) anywhere — in particular every conforming non-empty pipeline of the property —
  is never pass-through.
* `filtered_stream_isolated` — in ANY history of `decode` / `decoded` / `write` operations, a stream
  with such a filter on which `Decoded()` is not called keeps its `Data`, and no result the caller
  holds is that `Data`: nothing the caller writes can reach it.
* `history_roundtrip_heap` — the end-to-end statement over such histories: every `Decode()` of a
  conforming stream, at any point, returns the original bytes in a buffer of its own.
* `unfiltered_stream_shares_data`, `decoded_is_raw_data` — the two documented exceptions, with
  witnesses: a stream without a filter hands out its `Data` (a write through the result changes
  what the next `Decode()` returns), and the stub `Decoded()` returns the raw `Data`, not the
  decoded bytes.
-/
namespace Tabula.C05Alias
open Tabula.Filters

/-- `Decode()` changes no stream and no buffer handed out before; it only
appends (buffers behind the old ones, exactly one result) -/
theorem decode_never_writes (ext : Ext) (h : Heap) (i : Nat) :
    (stepDecodeH ext h i).streams = h.streams ∧
    (∃ extra, (stepDecodeH ext h i).bufs = h.bufs ++ extra) ∧
    (∃ r, (stepDecodeH ext h i).results = h.results ++ [r]) := by
  unfold stepDecodeH
  split
  · exact ⟨rfl, ⟨[], by simp⟩, ⟨none, rfl⟩⟩
  · split
    · exact ⟨rfl, ⟨[], by simp⟩, ⟨none, rfl⟩⟩
    · split
      · exact ⟨rfl, ⟨[], by simp⟩, ⟨_, rfl⟩⟩
      · exact ⟨rfl, ⟨_, rfl⟩, ⟨_, rfl⟩⟩

/-- … so every reference the caller holds reads the same bytes after the call as before -/
theorem decode_preserves_refs (ext : Ext) (h : Heap) (i : Nat) (r : Ref) (b : Str) (hr : h.deref r = some b) :
    (stepDecodeH ext h i).deref r = some b := by
  obtain ⟨hs, ⟨extra, hb⟩, _⟩ := decode_never_writes ext h i
  cases r with
  | data j => simpa [Heap.deref, hs] using hr
  | fresh n =>
    simp only [Heap.deref] at hr ⊢
    rw [hb]
    rw [List.getElem?_append_left (List.getElem?_eq_some_iff.mp hr).1]
    exact hr

/-- a pass-through `Filter` returns the data itself -/
theorem passThrough_identity (ext : Ext) (f : Filter) (dp : DParms) (data out : Str)
    (hp : passThrough f = true) (h : streamDecode ext f dp data = some out) : out = data := by
  have hname : ∀ n p, isPassName n = true → decodeWithFilter ext data n p = some data := by
    intro n p hn
    simp only [isPassName, Bool.or_eq_true, beq_iff_eq] at hn
    rcases hn with (hn | hn) | hn <;> subst hn <;> rfl
  cases f with
  | absent => simpa [streamDecode] using h.symm
  | one o =>
    cases o with
    | other => simp [passThrough] at hp
    | name n =>
      simp only [passThrough] at hp
      simp only [streamDecode] at h
      rw [hname n _ hp] at h
      exact (Option.some.inj h).symm
  | array fs =>
    simp only [passThrough] at hp
    simp only [streamDecode] at h
    have key : ∀ (fs : List FObj) (i : Nat), (fs.all fun f => match f with
        | .name n => isPassName n
        | .other => false) = true → decodeChain ext dp fs i data = some data := by
      intro fs
      induction fs with
      | nil => intro i _; rfl
      | cons f fs ih =>
        intro i hall
        simp only [List.all_cons, Bool.and_eq_true] at hall
        cases f with
        | other => simp at hall
        | name n =>
          simp only [decodeChain]
          rw [hname n _ hall.1]
          exact ih (i + 1) hall.2
    rw [key fs 0 hp] at h
    exact (Option.some.inj h).symm

/-- right after `Decode()` on stream `i` the caller sees exactly
`streamDecodeD` of the stream's current dictionary and `Data` (an error for a missing stream); the
slice is the stream's own `Data` iff the `Filter` entry is pass-through, otherwise it is the buffer
this call allocated -/
theorem decode_result (ext : Ext) (h : Heap) (i : Nat) :
    (stepDecodeH ext h i).lastResult =
      match h.streams[i]? with
      | none => none
      | some s => (streamDecodeD ext s.dict s.data).map fun b =>
          (b, passThrough (objToFilter (dictGet s.dict kFilter))) := by
  unfold stepDecodeH
  cases hs : h.streams[i]? with
  | none => simp [Heap.lastResult]
  | some s =>
    simp only
    cases hd : streamDecodeD ext s.dict s.data with
    | none => simp [Heap.lastResult]
    | some out =>
      simp only [Option.map_some]
      by_cases hp : passThrough (objToFilter (dictGet s.dict kFilter)) = true
      · have hout : out = s.data := passThrough_identity ext _ _ s.data out hp hd
        simp [Heap.lastResult, hp, Heap.deref, hs, hout]
      · have hp' : passThrough (objToFilter (dictGet s.dict kFilter)) = false := by simpa using hp
        simp [Heap.lastResult, hp', Heap.deref]

/-- `Decoded()` returns the stream's own `Data`, whatever the dictionary says -/
theorem decoded_result (h : Heap) (i : Nat) :
    (stepDecodedH h i).lastResult = h.streams[i]?.map fun s => (s.data, true) := by
  unfold stepDecodedH
  cases hs : h.streams[i]? with
  | none => simp [Heap.lastResult]
  | some s => simp [Heap.lastResult, Heap.deref, hs]

/-- the names of the filters that decode (and so allocate) -/
def decodingNames : List Str :=
  [nFlateDecode, nFl, nASCIIHexDecode, nAHx, nASCII85Decode, nA85, nCCITTFaxDecode, nCCF]

theorem decodingName_not_pass (n : Str) (h : n ∈ decodingNames) : isPassName n = false := by
  simp only [decodingNames, List.mem_cons, List.not_mem_nil, or_false] at h
  rcases h with h | h | h | h | h | h | h | h <;> subst h <;> decide

/-- a `Filter` entry that is, or contains, the name of Flate,
ASCIIHex, ASCII85 or CCITT (full or abbreviated) is not pass-through: a successful `Decode()` hands
out a buffer of its own, never `s.Data` -/
theorem supported_filters_allocate (n : Str) (hn : n ∈ decodingNames) :
    passThrough (.one (.name n)) = false ∧
    (∀ fs : List FObj, FObj.name n ∈ fs → passThrough (.array fs) = false) := by
  refine ⟨decodingName_not_pass n hn, ?_⟩
  intro fs hmem
  simp only [passThrough]
  rw [List.all_eq_false]
  exact ⟨.name n, hmem, by simp [decodingName_not_pass n hn]⟩

theorem wstage_name_decoding (s : WStage) : s.name ∈ decodingNames := by
  cases s with
  | hex a | a85 a | flate a | tiff a c1 c2 | png a p c1 c2 t => cases a <;> simp [WStage.name, decodingNames]

/-- the dictionary of every conforming non-empty pipeline of the property
(ASCIIHex, ASCII85, Flate with or without predictor, in any combination) is not pass-through -/
theorem conforming_allocates (d : Dict) (stages : List WStage) (hd : C05E.Conforming d stages)
    (hne : stages ≠ []) : passThrough (objToFilter (dictGet d kFilter)) = false := by
  rcases hd with ⟨hf, _⟩ | ⟨s, hs, hf, _⟩ | ⟨hs, _⟩
  · rw [hf]
    simp only [objToFilter, List.map_map]
    cases stages with
    | nil => exact absurd rfl hne
    | cons s ss =>
      apply (supported_filters_allocate s.name (wstage_name_decoding s)).2
      simp [objToFObj]
  · rw [hf]
    exact (supported_filters_allocate s.name (wstage_name_decoding s)).1
  · exact absurd hs hne

/-- stream `i` is as it was and the caller holds no reference to its `Data` -/
def Isolated (i : Nat) (s : StreamObj) (h : Heap) : Prop :=
  h.streams[i]? = some s ∧ some (Ref.data i) ∉ h.results

theorem isolated_step (ext : Ext) (i : Nat) (s : StreamObj)
    (hnp : passThrough (objToFilter (dictGet s.dict kFilter)) = false) (h : Heap) (op : HOp)
    (hop : op ≠ .decoded i) (hiso : Isolated i s h) : Isolated i s (stepH ext h op) := by
  obtain ⟨hs, hres⟩ := hiso
  cases op with
  | decode j =>
    simp only [stepH, stepDecodeH]
    cases hj : h.streams[j]? with
    | none => exact ⟨hs, by simpa using hres⟩
    | some sj =>
      simp only
      cases hd : streamDecodeD ext sj.dict sj.data with
      | none => exact ⟨hs, by simpa using hres⟩
      | some out =>
        simp only
        split
        · rename_i hp
          refine ⟨hs, ?_⟩
          simp only [List.mem_append, List.mem_singleton, Option.some.injEq, Ref.data.injEq, not_or]
          refine ⟨hres, ?_⟩
          intro hij
          subst hij
          rw [hs] at hj
          simp only [Option.some.injEq] at hj
          subst hj
          rw [hnp] at hp
          exact absurd hp (by simp)
        · refine ⟨hs, ?_⟩
          simp only [List.mem_append, List.mem_singleton, Option.some.injEq, reduceCtorEq, or_false]
          exact hres
  | decoded j =>
    have hji : j ≠ i := by intro h'; subst h'; exact hop rfl
    simp only [stepH, stepDecodedH]
    cases hj : h.streams[j]? with
    | none => exact ⟨hs, by simpa using hres⟩
    | some sj =>
      refine ⟨hs, ?_⟩
      simp only [List.mem_append, List.mem_singleton, Option.some.injEq, Ref.data.injEq, not_or]
      exact ⟨hres, fun h' => hji h'.symm⟩
  | write r k v =>
    simp only [stepH, stepWriteH]
    split
    · rename_i j hr
      have hji : j ≠ i := by
        intro h'
        subst h'
        exact hres (List.mem_of_getElem? hr)
      refine ⟨?_, hres⟩
      simp only
      rw [List.getElem?_modify]
      simp [hji, hs]
    · exact ⟨hs, hres⟩
    · exact ⟨hs, hres⟩

/-- take any store and any history of `Decode()` calls, `Decoded()`
calls and writes by the caller into ANY result it was given. A stream whose `Filter` is not
pass-through and on which `Decoded()` is not called still has its dictionary and `Data` at the end,
and none of the results is its `Data`. -/
theorem filtered_stream_isolated (ext : Ext) (i : Nat) (s : StreamObj)
    (hnp : passThrough (objToFilter (dictGet s.dict kFilter)) = false) :
    ∀ (ops : List HOp) (h : Heap), (∀ op ∈ ops, op ≠ .decoded i) → Isolated i s h →
      Isolated i s (runHeap ext h ops) := by
  intro ops
  induction ops with
  | nil => intro h _ hiso; exact hiso
  | cons op ops ih =>
    intro h hops hiso
    simp only [runHeap]
    exact ih _ (fun o ho => hops o (by simp [ho]))
      (isolated_step ext i s hnp h op (hops op (by simp)) hiso)

/-- the property over histories with shared buffers. Stream `i` of the
store holds a conforming dictionary for a non-empty pipeline and a conforming encoding `y` of `x`.
Then in every history — `Decode()` on any stream in any order, `Decoded()` on the other streams, the
caller writing any bytes into any result it holds — every `Decode()` of stream `i` returns exactly
`x`, in a buffer that is not the stream's `Data`. -/
theorem history_roundtrip_heap (ext : Ext) (st : Store) (i : Nat) (d : Dict) (x y : Str) (stages : List WStage)
    (hst : st[i]? = some { dict := d, data := y }) (hd : C05E.Conforming d stages) (hne : stages ≠ [])
    (hw : C05E.ChainWrites ext.inflate stages x y)
    (pre : List HOp) (hpre : ∀ op ∈ pre, op ≠ .decoded i) :
    (stepDecodeH ext (runHeap ext (Heap.init st) pre) i).lastResult = some (x, false) := by
  have hnp := conforming_allocates d stages hd hne
  have hiso := filtered_stream_isolated ext i { dict := d, data := y } hnp pre (Heap.init st) hpre
    ⟨hst, by simp [Heap.init]⟩
  rw [decode_result, hiso.1]
  simp only
  rw [C05E.decode_inverts_encoding ext stages d x y hd hw, hnp]
  rfl

/-- non-vacuity of the hypotheses of `history_roundtrip_heap` (a one-stage pipeline `/AHx` on "41>") -/
example : C05E.Conforming [(kFilter, .name nAHx)] [.hex true] ∧
    C05E.ChainWrites (fun _ => none) [.hex true] [65] [52, 49, 62] := by
  refine ⟨Or.inr (Or.inl ⟨_, rfl, rfl, trivial⟩), [65], rfl, by decide, [52, 49], Or.inl ?_, Or.inr ⟨[], rfl⟩⟩
  exact .byte 52 49 65 [] _ _ (by decide) (by decide) (by decide) .nil

/-- a history on that stream: decode, overwrite the result, decode again — the same bytes, fresh -/
example : traceHeap { inflate := fun _ => none, ccitt := fun _ _ => none }
    (Heap.init [{ dict := [(kFilter, .name nAHx)], data := [52, 49, 62] }])
    [.decode 0, .write 0 0 7, .decode 0] = [some ([65], false), none, some ([65], false)] := by decide

/-- (witness) a stream without `Filter` hands out its own
`Data`; after the caller writes through that result the next `Decode()` returns the changed bytes.
Idempotence of `Decode()` therefore holds for filtered streams unconditionally
(`history_roundtrip_heap`) and for unfiltered ones only while the caller leaves the result alone —
which is what `return s.Data, nil` means in Go. -/
theorem unfiltered_stream_shares_data :
    traceHeap { inflate := fun _ => none, ccitt := fun _ _ => none }
      (Heap.init [{ dict := [], data := [1, 2, 3] }]) [.decode 0, .write 0 0 7, .decode 0]
      = [some ([1, 2, 3], true), none, some ([7, 2, 3], true)] ∧
    traceHeap { inflate := fun _ => none, ccitt := fun _ _ => none }
      (Heap.init [{ dict := [(kFilter, .array [.name nDCT])], data := [1, 2, 3] }]) [.decode 0, .write 0 1 9, .decode 0]
      = [some ([1, 2, 3], true), none, some ([1, 9, 3], true)] := by decide

/-- (witness) `Decoded()` — documented as "returns the decoded
(decompressed) stream data", with a TODO in its body — returns the raw `Data`: for `/Filter /AHx` on
"41>" it yields the three characters, `Decode()` yields the byte 0x41. The property is stated (and
observed) at `Decode()`; this is recorded as an observation about the neighbouring stub. -/
theorem decoded_is_raw_data :
    traceHeap { inflate := fun _ => none, ccitt := fun _ _ => none }
      (Heap.init [{ dict := [(kFilter, .name nAHx)], data := [52, 49, 62] }]) [.decoded 0, .decode 0]
      = [some ([52, 49, 62], true), some ([65], false)] := by decide

end Tabula.C05Alias
