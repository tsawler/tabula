import TabulaModel.Model.Dispatch
import TabulaModel.Props.C10Hist
import TabulaModel.Props.C10E2E
/-!
# C10 — which reader call every terminal operation ends in, for every format

`Model/Dispatch.lean` follows the `if e.format == …` ladders of `Text`, `Document`,
`ToMarkdownWithOptions` and `Chunks` / `ChunksWithConfig` (compared with the implementation by
the op `c10.disp`: the harness makes every candidate call on the format's reader itself and the
model has to name the one whose result the extractor returned).

* **route_cases** — a PDF runs tabula's page pipeline; a PDF-only operation on another format
  and an unknown format have no reader; everything else is ONE call on the reader of the
  extractor's format;
* **route_depends_on** — for the six other formats that call is a function of the format, the
  operation and the two exclude flags: page selection, `ByColumn`, `PreserveLayout`,
  `JoinParagraphs` and the builder error do not reach it;
* **exclude_flags_reach_text_and_markdown**, **document_takes_no_options**,
  **epub_takes_no_options** — where the flags arrive and where they are dropped (`Document`,
  `Chunks`, `ChunksWithConfig` of every format and every operation of an EPUB ignore
  `ExcludeHeaders` / `ExcludeFooters`; an EPUB's `ToMarkdownWithOptions` ignores its argument);
* **dispatch_after_history** — after ANY history, an operation of a non-PDF extractor that
  succeeds made exactly the call `route` names for the chain of calls that built the extractor,
  with `ExcludeHeaders` / `ExcludeFooters` set iff some call of the chain set them.
-/
namespace Tabula.C10Disp
open Tabula.PageSel Tabula.Builder Tabula.Dispatch

theorem route_cases (k : Term) (e : Ext) :
    (e.format = .pdf → route k e = .pdfPipeline) ∧
    (e.format ≠ .pdf → (k.pdfOnly = true ∨ e.format = .unknown) → route k e = .unsupported) ∧
    (e.format ≠ .pdf → k.pdfOnly = false → e.format ≠ .unknown →
      ∃ c, route k e = .reader c ∧ c.reader = e.format) := by
  refine ⟨?_, ?_, ?_⟩
  · intro h; simp [route, h]
  · intro h hk
    unfold route
    rw [if_neg h]
    rcases hk with hk | hk <;> simp [hk]
  · intro h hk hu
    unfold route
    rw [if_neg h]
    simp only [hk, Bool.false_or, decide_eq_true_eq, hu, if_false]
    cases k <;> simp [Term.pdfOnly] at hk <;> simp

/-- **route_depends_on**: two extractors of the same format with the same `ExcludeHeaders` /
`ExcludeFooters` flags are routed to the same call, whatever their page selection, layout
options and builder error. -/
theorem route_depends_on (k : Term) (e e' : Ext) (hf : e.format = e'.format)
    (hh : e.opts.excludeHeaders = e'.opts.excludeHeaders) (hft : e.opts.excludeFooters = e'.opts.excludeFooters) :
    route k e = route k e' := by
  unfold route optsFor
  rw [hf, hh, hft]

example : route .toMarkdown { format := .docx, opts := { pages := [7], byColumn := true, excludeHeaders := true } } =
    route .toMarkdown { format := .docx, err := true, opts := { excludeHeaders := true, preserveLayout := true } } := by
  decide

/-- **exclude_flags_reach_text_and_markdown**: for DOCX, ODT, XLSX, PPTX and HTML, `Text` and
`ToMarkdown` hand the extractor's two exclude flags to the reader; PPTX alone gets
`IncludeNotes` / `IncludeTitles`; only `ToMarkdown` hands on the caller's markdown options. -/
theorem exclude_flags_reach_text_and_markdown (k : Term) (e : Ext)
    (hf : e.format = .docx ∨ e.format = .odt ∨ e.format = .xlsx ∨ e.format = .pptx ∨ e.format = .html)
    (hk : k = .text ∨ k = .toMarkdown) :
    ∃ c, route k e = .reader c ∧ c.reader = e.format ∧ c.post = .none ∧
      c.eh = e.opts.excludeHeaders ∧ c.ef = e.opts.excludeFooters ∧
      c.extra = (e.format == .pptx) ∧ c.rag = (k == .toMarkdown) ∧
      c.method = (if k = .text then .text else .markdown) := by
  unfold route
  rcases hf with hf | hf | hf | hf | hf <;> rcases hk with rfl | rfl <;> rw [hf] <;>
    exact ⟨_, rfl, rfl, rfl, rfl, rfl, rfl, rfl, rfl⟩

/-- **document_takes_no_options**: `Document`, `Chunks` and `ChunksWithConfig` of a non-PDF
extractor call `r.Document()`: neither exclude flag reaches the reader. -/
theorem document_takes_no_options (k : Term) (e : Ext) (hk : k = .document ∨ k = .chunks ∨ k = .chunksWithConfig)
    (c : RCall) (h : route k e = .reader c) :
    c.method = .document ∧ c.eh = false ∧ c.ef = false ∧ c.extra = false ∧ c.rag = false ∧
    (c.post = .none ↔ k = .document) := by
  unfold route at h
  split at h
  · cases h
  · split at h
    · cases h
    · rcases hk with rfl | rfl | rfl <;> simp only [Route.reader.injEq] at h <;> subst h <;> simp

/-- **epub_takes_no_options**: whatever the chain configured, every operation of an EPUB
extractor reaches the reader without options (`Text()`, `Markdown()`, `Document()`), and
`ToMarkdownWithOptions` drops its argument. -/
theorem epub_takes_no_options (k : Term) (e : Ext) (hf : e.format = .epub) (c : RCall)
    (h : route k e = .reader c) :
    c.reader = .epub ∧ c.eh = false ∧ c.ef = false ∧ c.extra = false ∧ c.rag = false := by
  unfold route optsFor at h
  rw [hf] at h
  simp only [reduceCtorEq, if_false] at h
  cases k <;> simp [Term.pdfOnly] at h <;> subst h <;> simp

example : route .toMarkdown { format := .epub, opts := { excludeHeaders := true } } =
    .reader ⟨.epub, .markdown, false, false, false, false, .none⟩ := by decide

/-- a successful whole-document answer comes from the reader branch -/
theorem whole_is_reader (w : World) (k : Term) (e : Ext) (hu : e.format ≠ .unknown)
    (h : termStatic w k e = .whole) :
    e.format ≠ .pdf ∧ k.pdfOnly = false ∧ ∃ c, route k e = .reader c ∧ c.reader = e.format := by
  have hpdf := termStatic_whole w k e h
  have hne : termStatic w k e ≠ .err := by rw [h]; exact Res.noConfusion
  unfold termStatic at hne
  rw [ite_ne_left, ite_ne_left] at hne
  have hk : k.pdfOnly = false := by
    cases hk : k.pdfOnly with
    | false => rfl
    | true => exact absurd (by simp [hk, hpdf]) hne.2.1
  exact ⟨hpdf, hk, (route_cases k e).2.2 hpdf hk hu⟩

/-- **dispatch_after_history**: after ANY history on the family of `Open(name)` for a name of
format `f`, if a terminal operation on extractor `i` — built by the chain `cs` — succeeds on a
document that is not a PDF, then the call it made is the one `route` names: on the reader of
`f`, and for DOCX / ODT / XLSX / PPTX / HTML `Text` and `ToMarkdown` with `ExcludeHeaders` /
`ExcludeFooters` set exactly when some call of the chain set them (`ExcludeHeadersAndFooters`
sets both) — whatever else the chain did and whatever ran before. -/
theorem dispatch_after_history (w : World) (f : Fmt) (hu : f ≠ .unknown) (ops : List Op) (i : Nat)
    (cs : List BCall) (hl : (lineage [[]] ops)[i]? = some cs) (k : Term)
    (hwhole : (terminal w k (exec w (openBaseF f) ops) i).2 = .whole) :
    ∃ c, route k (chainFrom { format := f } cs) = .reader c ∧ c.reader = f ∧
      (f ≠ .epub → (k = .text ∨ k = .toMarkdown) →
        c.eh = cs.any C10E2E.setsHeaders ∧ c.ef = cs.any C10E2E.setsFooters) := by
  rw [(C10Hist.answer_of_lineage w f ops i cs hl).1 k] at hwhole
  have hfmt : (chainFrom { format := f } cs).format = f := (C10E2E.chain_cfg cs { format := f }).2.2.1
  obtain ⟨hpdf, hk, c, hc, hcr⟩ := whole_is_reader w k _ (by rw [hfmt]; exact hu) hwhole
  refine ⟨c, hc, by rw [hcr, hfmt], ?_⟩
  intro hne hk'
  obtain ⟨oh, of_, _⟩ := C10E2E.options_commute cs { format := f }
  have hform : f = .docx ∨ f = .odt ∨ f = .xlsx ∨ f = .pptx ∨ f = .html := by
    rw [hfmt] at hpdf
    revert hpdf hu hne
    cases f <;> simp
  obtain ⟨c', hc', _, _, heh, hef, _⟩ :=
    exclude_flags_reach_text_and_markdown k (chainFrom { format := f } cs) (by rw [hfmt]; exact hform) hk'
  rw [hc] at hc'
  cases hc'
  rw [heh, hef, oh, of_]
  simp

example : let w : World := ⟨true, some 1⟩
    let ops := [Op.nonTerm 0 .pageCount, .derive 0 .excludeFooters, .term 0 .text, .derive 1 (.pages [9]),
      .derive 2 .byColumn]
    (lineage [[]] ops)[3]? = some [.excludeFooters, .pages [9], .byColumn] ∧
    (terminal w .toMarkdown (exec w (openBaseF .odt) ops) 3).2 = .whole ∧
    route .toMarkdown (chainFrom { format := .odt } [.excludeFooters, .pages [9], .byColumn]) =
      .reader ⟨.odt, .markdown, false, true, false, true, .none⟩ := by decide

end Tabula.C10Disp
