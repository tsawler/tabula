import TabulaModel.Props.C04Api
import TabulaModel.Lemmas.XrefDeepReader
import TabulaModel.Lemmas.XrefDeepResolver
import TabulaModel.Lemmas.XrefParsedWF
/-!
# C04 — `Resolve` / `ResolveDeep`: what they answer

`Lemmas/XrefExpand.lean: expand g streams b o` is the deep value of an object by the file alone:
every reference replaced by the deep value of the object it names (`g` = `GetObject` of a fresh
reader), with `b` levels allowed and no memory at all.

* `reader_resolve_deep_is_deep_value` — wherever that unfolding succeeds within
  `maxResolveDepth + 1` levels, `Reader.ResolveDeep` answers exactly it: the shared results (`done`) and the
  rule that leaves a reference back to an object being resolved (`active`) are invisible;
* `reader_resolve_deep_in_any_history` — … on the bytes, in the middle of any sequence of calls;
* `reader_resolve_deep_without_references_is_deep_value`, `reader_resolve_deep_no_partial_answers`
  — conversely an answer that holds no reference (`NoRef`: none outside stream dictionaries) IS
  the deep value, and every lookup below the object succeeded;
* `reader_resolve_deep_cycle_example` — on a reference cycle the answer keeps a reference (the
  documented behaviour since 4d61f20) while the unfolding has no value;
* `resolver_resolve_deep_is_deep_value`, `resolver_deep_error_iff` — the resolver package's
  `ResolveDeep` (with the `need` bookkeeping of a2528c3) answers EXACTLY the plain unfolding with
  `maxDepth` levels: an error iff a level ≥ maxDepth is reached somewhere, a reference cycle, or a
  failing lookup - shared results are invisible;
* `resolver_answer_independent_of_map_order` — hence the answer does not depend on the order in
  which Go ranges over a dictionary; `resolver_array_order_cannot_mask` — nor can the order of
  array elements mask a reference that stands too deep;
* `resolver_resolve_deep_in_any_history` — … on the bytes of any file, in the middle of any
  sequence of calls, for every map order (objects a lookup yields always have distinct keys:
  `Lemmas/XrefParsedWF.lean`);
* `resolver_resolve_is_one_lookup` — shallow `Resolve`;
* `resolver_shared_result_order_dependence_pinned_counterexample` — the resolver package as it
  stood before a2528c3 (a shared result handed out without looking at the depth limit): the same
  two elements in two orders, one answered, one refused; the repaired code refuses both.
-/
namespace Tabula.C04R
open Tabula.XrefFile Tabula.Reader Tabula.XrefC Tabula.XrefR Tabula.C04A

/-- **reader_resolve_deep_is_deep_value** (every object graph, every lookup function): when the
plain unfolding of `obj` succeeds with `maxResolveDepth + 1` levels (so: no reference cycle below
`obj`, no failing lookup, nothing nested deeper than the limit), `Reader.ResolveDeep(obj)` is
exactly that unfolding, and it holds no reference outside stream dictionaries (`NoRef`) -/
theorem reader_resolve_deep_is_deep_value (g : Int → Option PVal) (obj v : DObj)
    (h : expand g false (maxResolveDepth + 1) obj = some v) :
    resolveDeepR (pureGet g) obj () = (some v, ()) ∧ NoRef v :=
  resolveDeepR_noRef g obj v h

/-- satisfiable: object 2 is `[7]`, the deep value of `[2 0 R 2 0 R]` is `[[7] [7]]` -/
example : expand (fun n => if n = 2 then some (.obj (.arr [.int 7])) else none) false (maxResolveDepth + 1)
    (.arr [.ref 2 0, .ref 2 0]) = some (.arr [.arr [.int 7], .arr [.int 7]]) := by
  simp [maxResolveDepth, expand, mapOpt, ofPVal, ofObj, ofObjs]

/-- **reader_resolve_deep_in_any_history** (on the bytes): open any file; in the middle of any
sequence of calls - lookups, cache clears, deep resolutions that failed, calls on the resolver
package - `Reader.ResolveDeep(n g R)` is the deep value of object `n` by the cache-free lookup
of a fresh reader, whenever that deep value exists within the limit -/
theorem reader_resolve_deep_in_any_history (ext : Reader.Ext) (keep : Bool) (file : List Nat) (maxDepth : Nat)
    (ord : List (List Nat × DObj) → List (List Nat × DObj)) (x : RawSection) (hopen : openFile ext file = .ok x)
    (before after : List Api.Op) (n g : Int) (v : DObj)
    (h : expand (fun m => getObjectB ext file x (maxNestedLoads + 1) [] m) false (maxResolveDepth + 1) (.ref n g) = some v) :
    ∃ rs, Api.session ext keep file maxDepth ord (before ++ .deep n g :: after) = .ok rs ∧
      rs[before.length]? = some (some (some v)) := by
  obtain ⟨rs, h1, h2⟩ := call_in_any_history ext keep file maxDepth ord x hopen before after (.deep n g)
  refine ⟨rs, h1, h2.trans (congrArg (fun o => some (some o)) ?_)⟩
  exact ((resolveDeepR_rel (getTop_sim ext keep file x).getRel (.ref n g) {} () (cinv_empty ext file x 0)).1).trans
    (congrArg Prod.fst (resolveDeepR_eq_expand (fresh ext file x) (.ref n g) v h))

/-- **reader_resolve_deep_without_references_is_deep_value** (the converse): whatever the graph -
cyclic or not -, an answer of `Reader.ResolveDeep` that holds no reference is the deep value of
the object (with some number of levels) -/
theorem reader_resolve_deep_without_references_is_deep_value (g : Int → Option PVal) (obj v : DObj)
    (h : resolveDeepR (pureGet g) obj () = (some v, ())) (hn : NoRef v) :
    ∃ b, expand g false b obj = some v :=
  resolveDeepR_sound g obj v h hn

/-- **reader_resolve_deep_no_partial_answers**: … and then (the answer holding no reference) every
object referenced anywhere below `obj`, stream dictionaries apart, was found: such an answer is never a
value with a hole where a free or never-defined object stood -/
theorem reader_resolve_deep_no_partial_answers (g : Int → Option PVal) (obj v : DObj)
    (h : resolveDeepR (pureGet g) obj () = (some v, ())) (hn : NoRef v) (n gen : Int)
    (hb : obj = .ref n gen ∨ Below g false obj (.ref n gen)) : g n ≠ none :=
  resolveDeepR_lookups g obj v h hn n gen hb

/-- **reader_resolve_deep_cycle_example**: object 1 is `[1 0 R]`. `Reader.ResolveDeep(1 0 R)`
answers `[1 0 R]` - the reference back to the object being resolved is left as it is -, while
the unfolding has no value with any number of levels -/
theorem reader_resolve_deep_cycle_example :
    resolveDeepR (pureGet cycleGraph) (.ref 1 0) () = (some (.arr [.ref 1 0]), ()) ∧
      ∀ b, expand cycleGraph false b (.ref 1 0) = none :=
  ⟨resolveDeepR_cycle, expand_cycleGraph⟩

/-- object 2 is `[7]`, no other object -/
def edgeGraph : Int → Option PVal := fun n => if n = 2 then some (.obj (.arr [.int 7])) else none

/-- `[2 0 R [2 0 R]]` and the same two elements in the other order -/
def nearFirst : DObj := .arr [.ref 2 0, .arr [.ref 2 0]]
def farFirst : DObj := .arr [.arr [.ref 2 0], .ref 2 0]

/-- **resolver_shared_result_order_dependence_pinned_counterexample** (the code between 8b68946
and a2528c3, `XrefR.Old.resolveP`, depth limit 4): with the reference met first where it can be
resolved, the deeper occurrence - too deep to be resolved where it stands - was answered from
the shared result; with the deeper occurrence first the same elements were refused. The answer
depended on what had been resolved before. -/
theorem resolver_shared_result_order_dependence_pinned_counterexample :
    (Old.resolveP (pureGet edgeGraph) 4 id true 5 nearFirst {} ()).1.isSome = true ∧
    (Old.resolveP (pureGet edgeGraph) 4 id true 5 farFirst {} ()).1.isSome = false := by
  decide

/-- … the repaired code (a2528c3: the shared result is refused where resolving the reference again
would pass the limit) refuses both, as the plain unfolding with 4 levels does -/
theorem resolver_shared_result_counted_example :
    (resolveP (pureGet edgeGraph) 4 id true 5 nearFirst {} ()).1.isSome = false ∧
    (resolveP (pureGet edgeGraph) 4 id true 5 farFirst {} ()).1.isSome = false ∧
    (expand edgeGraph true 4 nearFirst).isSome = false ∧ (expand edgeGraph true 4 farFirst).isSome = false := by
  decide

/-- **resolver_resolve_deep_is_deep_value** (every object graph whose dictionaries have distinct
keys - they are Go maps -, every depth limit, every order `ord` in which Go may range over a
map, whatever the resolver was used for before): `resolver.ResolveDeep(obj)` is exactly the
plain unfolding of `obj` with `maxDepth` levels - stream dictionaries included -, value or error -/
theorem resolver_resolve_deep_is_deep_value (g : Int → Option PVal) (maxDepth : Nat)
    (ord : List (List Nat × DObj) → List (List Nat × DObj)) (hord : ∀ kv, (ord kv).Perm kv) (obj : DObj)
    (hwf : WF obj) (hg : ∀ n t, g n = some t → WF (ofPVal t)) (p : PSt) (hp : p.depth = 0) :
    (resolveP (pureGet g) maxDepth ord true (maxDepth + 1) obj p ()).1 = expand g true maxDepth obj :=
  resolveP_deep_eq_expand g maxDepth ord hord obj hwf hg p hp

/-- satisfiable: `[2 0 R << /A 2 0 R >>]` over object 2 = `[7]`, any permutation as map order -/
example : WF (.arr [.ref 2 0, .dict [([65], .ref 2 0)]]) ∧ (∀ n t, edgeGraph n = some t → WF (ofPVal t)) := by
  refine ⟨.arr ?_, ?_⟩
  · intro e he
    simp at he
    rcases he with rfl | rfl
    · exact .ref 2 0
    · refine .dict (by simp) ?_
      intro e he; simp at he; subst he; exact .ref 2 0
  · intro n t h
    unfold edgeGraph at h
    split at h
    · cases h
      refine .arr ?_
      intro e he
      simp [ofObjs, ofObj] at he
      subst he
      exact .int 7
    · cases h

/-- **resolver_deep_error_iff**: `resolver.ResolveDeep` is an error exactly when the unfolding has
no value within `maxDepth` levels -/
theorem resolver_deep_error_iff (g : Int → Option PVal) (maxDepth : Nat)
    (ord : List (List Nat × DObj) → List (List Nat × DObj)) (hord : ∀ kv, (ord kv).Perm kv) (obj : DObj)
    (hwf : WF obj) (hg : ∀ n t, g n = some t → WF (ofPVal t)) (p : PSt) (hp : p.depth = 0) :
    (resolveP (pureGet g) maxDepth ord true (maxDepth + 1) obj p ()).1 = none ↔ expand g true maxDepth obj = none :=
  resolveP_deep_none_iff g maxDepth ord hord obj hwf hg p hp

/-- **resolver_answer_independent_of_map_order** (the repaired defect, for all inputs): two runs
of `resolver.ResolveDeep` on the same object that range over every dictionary in different
orders - and start from different leftovers of earlier calls - answer alike, value or error -/
theorem resolver_answer_independent_of_map_order (g : Int → Option PVal) (maxDepth : Nat)
    (ord₁ ord₂ : List (List Nat × DObj) → List (List Nat × DObj))
    (h₁ : ∀ kv, (ord₁ kv).Perm kv) (h₂ : ∀ kv, (ord₂ kv).Perm kv) (obj : DObj) (hwf : WF obj)
    (hg : ∀ n t, g n = some t → WF (ofPVal t)) (p₁ p₂ : PSt) (hp₁ : p₁.depth = 0) (hp₂ : p₂.depth = 0) :
    (resolveP (pureGet g) maxDepth ord₁ true (maxDepth + 1) obj p₁ ()).1 =
      (resolveP (pureGet g) maxDepth ord₂ true (maxDepth + 1) obj p₂ ()).1 :=
  resolveP_order_free g maxDepth ord₁ ord₂ h₁ h₂ obj hwf hg p₁ p₂ hp₁ hp₂

/-- **resolver_array_order_cannot_mask**: every rearrangement of the elements of an array fails
or succeeds alike - a reference too deep where it stands is not rescued by the same reference
standing higher up earlier in the array (what
`resolver_shared_result_order_dependence_pinned_counterexample` shows for the old code) -/
theorem resolver_array_order_cannot_mask (g : Int → Option PVal) (maxDepth : Nat)
    (ord : List (List Nat × DObj) → List (List Nat × DObj)) (hord : ∀ kv, (ord kv).Perm kv)
    (xs ys : List DObj) (hperm : xs.Perm ys) (hwf : WF (.arr xs))
    (hg : ∀ n t, g n = some t → WF (ofPVal t)) (p₁ p₂ : PSt) (hp₁ : p₁.depth = 0) (hp₂ : p₂.depth = 0) :
    (resolveP (pureGet g) maxDepth ord true (maxDepth + 1) (.arr xs) p₁ ()).1 = none ↔
      (resolveP (pureGet g) maxDepth ord true (maxDepth + 1) (.arr ys) p₂ ()).1 = none :=
  resolveP_arr_perm g maxDepth ord hord xs ys hperm hwf hg p₁ p₂ hp₁ hp₂

/-- **resolver_resolve_deep_in_any_history** (on the bytes, no side condition on the file): open
any file; in the middle of any sequence of calls - on a resolver that has been used for anything
before, failed resolutions included -, with Go ranging over every dictionary in any order,
`resolver.ResolveDeep(n g R)` is the plain unfolding of the reference with `maxDepth` levels
over the cache-free lookup of a fresh reader: that value, or an error when there is none -/
theorem resolver_resolve_deep_in_any_history (ext : Reader.Ext) (keep : Bool) (file : List Nat) (maxDepth : Nat)
    (ord : List (List Nat × DObj) → List (List Nat × DObj)) (hord : ∀ kv, (ord kv).Perm kv)
    (x : RawSection) (hopen : openFile ext file = .ok x) (before after : List Api.Op) (n g : Int) :
    ∃ rs, Api.session ext keep file maxDepth ord (before ++ .pDeep n g :: after) = .ok rs ∧
      rs[before.length]? = some (some
        (expand (fun m => getObjectB ext file x (maxNestedLoads + 1) [] m) true maxDepth (.ref n g))) := by
  obtain ⟨rs, h1, h2⟩ := call_in_any_history ext keep file maxDepth ord x hopen before after (.pDeep n g)
  refine ⟨rs, h1, h2.trans (congrArg (fun o => some (some o)) ?_)⟩
  exact ((resolveP_sim (getTop_sim ext keep file x) maxDepth ord true (.ref n g) {} {} (cinv_empty ext file x 0)).1).trans
    (resolveP_deep_eq_expand (fresh ext file x) maxDepth ord hord (.ref n g) (.ref n g)
      (fun m t ht => getObjectB_wf ext file x _ [] m t ht) {} rfl)

/-- **resolver_resolve_is_one_lookup**: with a depth limit of at least 1, shallow `resolver.Resolve(obj)`
looks a reference up once (by number) and hands anything else back, whatever state the resolver is in
between calls -/
theorem resolver_resolve_is_one_lookup (g : Int → Option PVal) (maxDepth : Nat)
    (ord : List (List Nat × DObj) → List (List Nat × DObj)) (obj : DObj) (p : PSt) (hp : p.depth = 0)
    (hmd : 0 < maxDepth) :
    (resolveP (pureGet g) maxDepth ord false (maxDepth + 1) obj p ()).1 =
      match obj with
      | .ref n _ => (g n).map ofPVal
      | o => some o :=
  resolveP_shallow g maxDepth ord obj p hp hmd

end Tabula.C04R
