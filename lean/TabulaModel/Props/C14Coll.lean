import TabulaModel.Props.C14Api
import TabulaModel.Lemmas.Collection
/-!
# C14 (part 6) — the accessors of a (filtered) collection

`Count`, `First`, `Last`, `GetByIndex`, `GetByID`, `ToSlice`, `GetAllSections`, `GetPageRange`,
`GetTotalTokens`, `GetTotalWords`, `Statistics` of rag/metadata.go: what a caller observes of the
collection a filter returned.
-/
set_option linter.unusedSimpArgs false
namespace Tabula.C14Coll
open Tabula.Export Tabula.Csv Tabula.C14 Tabula.C14Api

/-- `Count`, `First`, `Last`, `ToSlice`, `GetByIndex`: the length, the head, the last element, the
list itself, the element at an in-range index (nil outside `0 ≤ i < Count`) -/
theorem positional_accessors (cs : List Chunk) (i : Int) :
    collCount cs = cs.length ∧ collFirst cs = cs.head? ∧ collLast cs = cs.getLast? ∧ collToSlice cs = cs ∧
    (0 ≤ i → i < cs.length → collGetByIndex cs i = cs[i.toNat]?) ∧
    ((i < 0 ∨ (cs.length : Int) ≤ i) → collGetByIndex cs i = none) := by
  refine ⟨rfl, by cases cs <;> rfl, ?_, rfl, ?_, ?_⟩
  · unfold collLast
    cases cs with
    | nil => rfl
    | cons c rest => simp [List.getLast?_eq_getElem?]
  · intro h0 h1
    have : ¬ (i < 0 ∨ i ≥ cs.length) := by omega
    simp [collGetByIndex, this]
  · intro h
    have : i < 0 ∨ i ≥ cs.length := by omega
    simp [collGetByIndex, this]

/-- the size of a filtered collection is the number of chunks satisfying the predicate -/
theorem count_of_filter (env : StrEnv) (op : FilterOp) (cs : List Chunk) :
    collCount (applyOp env op cs) = cs.countP (opPred env op) := by
  simp [collCount, applyOp, filterC_eq, List.countP_eq_length_filter]

/-- `GetByID` returns the FIRST chunk with that id, nil iff there is none -/
theorem get_by_id_spec (id : Str) (cs : List Chunk) :
    collGetByID id cs = cs.find? (fun c => decide (c.id = id)) ∧
    (∀ c, collGetByID id cs = some c → c ∈ cs ∧ c.id = id) ∧
    (collGetByID id cs = none ↔ ∀ c ∈ cs, c.id ≠ id) := by
  have h1 : collGetByID id cs = cs.find? (fun c => decide (c.id = id)) := by
    induction cs with
    | nil => rfl
    | cons c rest ih =>
      simp only [collGetByID, List.find?_cons]
      by_cases h : c.id = id <;> simp [h, ih]
  refine ⟨h1, ?_, ?_⟩
  · intro c hc
    rw [h1] at hc
    exact ⟨List.mem_of_find?_eq_some hc, by simpa using List.find?_some hc⟩
  · rw [h1, List.find?_eq_none]
    simp

/-- on a filtered collection `GetByID` can only return a chunk that satisfies the predicates -/
theorem get_by_id_of_filtered (env : StrEnv) (ops : List FilterOp) (cs : List Chunk) (id : Str) (c : Chunk)
    (h : collGetByID id (applyChain env ops cs) = some c) :
    c ∈ cs ∧ c.id = id ∧ ∀ op ∈ ops, opPred env op c = true := by
  obtain ⟨hm, hid⟩ := (get_by_id_spec id _).2.1 c h
  obtain ⟨h1, h2⟩ := (filter_chain_mem env ops cs c).mp hm
  exact ⟨h1, hid, h2⟩

/-- `GetAllSections`: every non-empty section title of the collection, each once, as a subsequence
of the chunks' titles in collection order -/
theorem sections_spec (cs : List Chunk) :
    (collSections cs).Nodup ∧
    (∀ t, t ∈ collSections cs ↔ (t ≠ [] ∧ ∃ c ∈ cs, c.md.sectionTitle = t)) ∧
    (collSections cs).Sublist (cs.map (·.md.sectionTitle)) := by
  obtain ⟨h1, h2, sub, h3, h4⟩ := sectionsLoop_spec cs [] [] (by simp) List.nodup_nil
  unfold collSections
  refine ⟨h1, fun t => by simpa using h2 t, ?_⟩
  rw [h3]
  simpa using h4

/-- `GetPageRange`: the smallest PageStart and the largest PageEnd of the collection (both attained);
`(0, 0)` for the empty collection -/
theorem page_range_spec (cs : List Chunk) :
    (cs = [] → collPageRange cs = (0, 0)) ∧
    (cs ≠ [] →
      (∀ c ∈ cs, (collPageRange cs).1 ≤ c.md.pageStart) ∧ (∃ c ∈ cs, (collPageRange cs).1 = c.md.pageStart) ∧
      (∀ c ∈ cs, c.md.pageEnd ≤ (collPageRange cs).2) ∧ (∃ c ∈ cs, (collPageRange cs).2 = c.md.pageEnd)) := by
  constructor
  · intro h; subst h; rfl
  · intro hne
    cases cs with
    | nil => exact absurd rfl hne
    | cons c rest =>
      simp only [collPageRange]
      obtain ⟨a1, a2, a3, a4, a5, a6⟩ := pageRangeLoop_spec rest c.md.pageStart c.md.pageEnd
      refine ⟨List.forall_mem_cons.mpr ⟨a1, a2⟩, ?_, List.forall_mem_cons.mpr ⟨a4, a5⟩, ?_⟩
      · rcases a3 with e | ⟨c', hc', e⟩
        · exact ⟨c, by simp, e⟩
        · exact ⟨c', List.mem_cons_of_mem _ hc', e⟩
      · rcases a6 with e | ⟨c', hc', e⟩
        · exact ⟨c, by simp, e⟩
        · exact ⟨c', List.mem_cons_of_mem _ hc', e⟩

/-- `GetTotalTokens` / `GetTotalWords` are the sums over the collection -/
theorem totals_spec (cs : List Chunk) :
    collTotalTokens cs 0 = (cs.map (·.md.estimatedTokens)).sum ∧
    collTotalWords cs 0 = (cs.map (·.md.wordCount)).sum :=
  ⟨(sumLoop_eq collTotalTokens _ (fun _ => rfl) (fun _ _ _ => rfl) cs 0).trans (Int.zero_add _),
    (sumLoop_eq collTotalWords _ (fun _ => rfl) (fun _ _ _ => rfl) cs 0).trans (Int.zero_add _)⟩

/-- `Statistics` of a non-empty collection: the counts and sums over all chunks, bounds on the
token counts, the truncated average, and the section / page figures of the other accessors -/
theorem statistics_spec (cs : List Chunk) (hne : cs ≠ []) :
    (collStatistics cs).totalChunks = cs.length ∧
    (collStatistics cs).totalTokens = (cs.map (·.md.estimatedTokens)).sum ∧
    (collStatistics cs).totalWords = (cs.map (·.md.wordCount)).sum ∧
    (collStatistics cs).totalChars = (cs.map (·.md.charCount)).sum ∧
    (collStatistics cs).withTables = cs.countP (·.md.hasTable) ∧
    (collStatistics cs).withLists = cs.countP (·.md.hasList) ∧
    (collStatistics cs).withImages = cs.countP (·.md.hasImage) ∧
    (∀ c ∈ cs, (collStatistics cs).minTokens ≤ c.md.estimatedTokens ∧ c.md.estimatedTokens ≤ (collStatistics cs).maxTokens) ∧
    (collStatistics cs).avgTokens = Int.tdiv (cs.map (·.md.estimatedTokens)).sum cs.length ∧
    (collStatistics cs).uniqueSections = (collSections cs).length ∧
    ((collStatistics cs).pageStart, (collStatistics cs).pageEnd) = collPageRange cs := by
  cases cs with
  | nil => exact ⟨rfl, rfl, rfl, rfl, rfl, rfl, rfl, fun _ h => absurd h List.not_mem_nil, rfl, rfl, rfl⟩
  | cons c rest =>
    obtain ⟨a0, a1, a2, a3, a4, a5, a6, a7, a8, a9, a10⟩ := statsLoop_spec (c :: rest)
      { totalChunks := (c :: rest).length, minTokens := c.md.estimatedTokens, maxTokens := c.md.estimatedTokens }
    simp only [collStatistics]
    refine ⟨a0, by simpa using a1, by simpa using a2, by simpa using a3, by simpa using a4, by simpa using a5,
      by simpa using a6, fun c' hc' => ⟨a8 c' hc', a10 c' hc'⟩, ?_, by first | rfl | trivial, by first | rfl | trivial⟩
    rw [a1]; simp

/-- and of the empty collection: no chunks, no tokens, no sections, last page 0 -/
theorem statistics_empty : (collStatistics []).totalChunks = 0 ∧ (collStatistics []).totalTokens = 0 ∧
    (collStatistics []).uniqueSections = 0 ∧ (collStatistics []).pageEnd = 0 := by
  simp [collStatistics]

end Tabula.C14Coll
