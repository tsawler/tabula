import TabulaModel.Lemmas.WorkbookBudget
import TabulaModel.Props.C17Api
/-!
# C17 — the budgets of the xlsx loader

Three repairs of the Go code (made for the resource bounds of C02) changed what the loader does on
files no producer writes; this file says exactly where, and that nothing changed for valid
workbooks.

* `parseWorksheet` applies the merged regions in file order only while the cells of their
  rectangles, clipped to the grid, add up to at most one grid; the first region that exceeds what
  is left ends the loop.  `Wb.appliedRegions x` (longest fitting prefix, from the file only) are
  the regions `grid_cell` / `merge_display` / `displayed` speak about.  Here: the prefix is
  characterised (`applied_regions_spec`), all declared regions are applied iff their clipped areas
  fit the grid (`all_regions_applied_iff`), in particular for pairwise disjoint regions — every
  valid sheet (`all_regions_applied_of_disjoint`), and then `grid_cell` holds with the declared
  regions (`grid_cell_declared`).
* `ColumnToIndex` answers -1 beyond column number 2^40: `Props/C17.lean` (`col_bijection_*`,
  `col_*_beyond_bound`, `cellref_roundtrip`, `cellref_beyond_bound`), `Props/C17Codec.lean`; here
  the consequence for the dimension pass (`dims_within_bound`).
* the limit of `maxGridCells` cells is one budget for all sheets of a workbook, and (since the fix
  "a worksheet grid may grow with the cells its part brings") a grid may have 16 cells for every
  `<c>` element of its part before it touches that budget; a member named by several `<sheet>`
  entries brings its cells once.  `C17A.load_fails_iff` for one sheet; here `part_loads_iff` (from
  the file only), `alias_loads_iff`, `C17A.dense_sheet_loads`, `all_parts_load_of_fit`,
  `all_parts_load_of_small` (workbooks whose grids fit `maxGridCells` together load every part).
* bounded work and memory (the C02-relevant facts): `merge_work_bounded` — row-loop iterations plus
  cell visits of the merge pass of any sheet are at most two grids (`merge_pass_walks` ties the
  count to the model: no loop runs for a region without a cell in the grid); `merge_visits_bounded`
  — cell visits alone at most one grid; `workbook_cells_bounded` — the grids of an opened workbook
  have at most `maxGridCells` + 16 x (the `<c>` elements of the distinct members loaded) cells.
-/
namespace Tabula.C17B
open Tabula.A1 Tabula.Sheet Tabula.Wb Tabula.C17A

/-- **the applied regions are the longest prefix of the declared regions that fits one grid**:
a prefix; its clipped areas add up to at most the grid; and the first region left out (if any)
would exceed the grid -/
theorem applied_regions_spec (x : SheetXML) :
    (∃ rest, fileRegions x = appliedRegions x ++ rest) ∧
    areaSum (maxRowOf x.rows) (maxColOf x.rows + 1) (appliedRegions x) ≤ gridSize x ∧
    (∀ m rest, fileRegions x = appliedRegions x ++ m :: rest →
      areaSum (maxRowOf x.rows) (maxColOf x.rows + 1) (appliedRegions x) +
        clipArea (maxRowOf x.rows) (maxColOf x.rows + 1) m > gridSize x) :=
  let ⟨rest, h1, h2, h3⟩ := appliedPrefix_spec (maxRowOf x.rows) (maxColOf x.rows + 1) (fileRegions x) (gridSize x)
  ⟨⟨rest, h1⟩, h2, fun m rest' h => h3 m rest' (List.append_cancel_left (h1.symm.trans h))⟩

/-- the clipped area of a region is the number of its positions inside the grid -/
theorem clip_area_counts (nrows ncols : Nat) (m : Region) :
    clipArea nrows ncols m = ((gridPos nrows ncols).filter fun p => decide (covers m p.1 p.2)).length := by
  rw [← length_visited]
  -- two lists without repetition that hold the same positions
  refine ((List.perm_ext_iff_of_nodup (nodup_visited nrows ncols m) ?_).mpr ?_).length_eq
  · exact List.Pairwise.sublist List.filter_sublist (gridPos_eq nrows ncols ▸ nodup_rect 0 nrows 0 ncols)
  · rintro ⟨r, c⟩
    rw [mem_visited, List.mem_filter, mem_gridPos, decide_eq_true_eq, and_comm]

/-- **all declared regions are applied iff their clipped areas add up to at most the grid** -/
theorem all_regions_applied_iff (x : SheetXML) :
    appliedRegions x = fileRegions x ↔
      areaSum (maxRowOf x.rows) (maxColOf x.rows + 1) (fileRegions x) ≤ gridSize x :=
  applied_all_iff _ _ _ _

/-- **valid sheets**: regions no two of which share a position of the grid (a fortiori regions that
do not overlap at all, as the format demands) are all applied -/
theorem all_regions_applied_of_disjoint (x : SheetXML)
    (h : DisjointInGrid (maxRowOf x.rows) (maxColOf x.rows + 1) (fileRegions x)) :
    appliedRegions x = fileRegions x :=
  applied_all_of_fit x (areaSum_le_of_disjoint _ _ _ h)

/-- the same from the plain statement "no two declared regions overlap" -/
theorem all_regions_applied_of_no_overlap (x : SheetXML)
    (h : (fileRegions x).Pairwise fun a b => ∀ r c, ¬ (covers a r c ∧ covers b r c)) :
    appliedRegions x = fileRegions x :=
  all_regions_applied_of_disjoint x (disjointInGrid_of_disjoint _ _ _ h)

/-- non-vacuity: A1:B1 and A2:B2 in a 2x2 grid do not overlap, so both are applied; and the
hypothesis fails for the same region declared twice -/
example :
    let x : SheetXML := ⟨[83], [⟨2, [⟨[66, 50], tStr, [120], [], none⟩]⟩], [[65, 49, 58, 66, 49], [65, 50, 58, 66, 50]], [109]⟩
    DisjointInGrid (maxRowOf x.rows) (maxColOf x.rows + 1) (fileRegions x) ∧ (appliedRegions x).length = 2 := by
  refine ⟨?_, by decide⟩
  simp only [DisjointInGrid]
  have : fileRegions ⟨[83], [⟨2, [⟨[66, 50], tStr, [120], [], none⟩]⟩], [[65, 49, 58, 66, 49], [65, 50, 58, 66, 50]], [109]⟩ =
      [⟨0, 0, 0, 1⟩, ⟨1, 0, 1, 1⟩] := by decide
  rw [this]
  simp only [List.pairwise_cons, List.mem_cons, List.not_mem_nil, or_false, forall_eq, false_imp_iff,
    implies_true, List.Pairwise.nil, and_true]
  intro r c _ _ h
  unfold covers at h
  simp only at h
  omega

/-- **`grid_cell` with the declared regions** — for every sheet whose
regions' clipped areas fit the grid (every valid sheet): cell `(r,c)` is marked merged iff a
declared region covers it and root iff it is the top-left of one -/
theorem grid_cell_declared {shared : List Str} {i used : Nat} {fresh : Bool} {x : SheetXML} {s : Wb.Sheet}
    (h : loadSheet shared i used fresh x = some s)
    (hfit : areaSum (maxRowOf x.rows) (maxColOf x.rows + 1) (fileRegions x) ≤ gridSize x)
    (r c : Nat) (hr : r < maxRowOf x.rows) (hc : c ≤ maxColOf x.rows) :
    ∃ cell, s.cell r c = some cell ∧
      cell.value = (fileCell shared x r c).value ∧ cell.type = (fileCell shared x r c).type ∧
      cell.merged = ((fileRegions x).any fun m => decide (covers m r c)) ∧
      cell.root = ((fileRegions x).any fun m => decide (covers m r c) && decide (r = m.sr ∧ c = m.sc)) ∧
      cellText cell = displayed shared x r c := by
  obtain ⟨cell, h1, h2, h3, h4, h5, h6⟩ := grid_cell h r c hr hc
  have ha := applied_all_of_fit x hfit
  refine ⟨cell, h1, h2, h3, ?_, ?_, h6⟩
  · rw [h4]; unfold isCovered; rw [ha]
  · rw [h5]; unfold isRoot; rw [ha]

/-- a declared region that is not applied: a sheet (not a valid one: its two regions overlap) with a declared
region that is not applied.  Grid A1:B1, regions A1:A1 then A1:B1: the first takes one of the two
cells of the budget, the second needs two and ends the loop, so B1 — covered by a declared region —
is not marked merged and displays its stored value. -/
theorem declared_region_not_applied :
    let x : SheetXML := ⟨[83], [⟨1, [⟨[65, 49], tStr, [120], [], none⟩, ⟨[66, 49], tStr, [121], [], none⟩]⟩],
      [[65, 49, 58, 65, 49], [65, 49, 58, 66, 49]], [109]⟩
    (fileRegions x).length = 2 ∧ (appliedRegions x).length = 1 ∧
      ((fileRegions x).any fun m => decide (covers m 0 1)) = true ∧ isCovered x 0 1 = false ∧
      displayed [] x 0 1 = [121] ∧
      ((loadSheet [] 0 0 true x).bind fun s => (s.cell 0 1).map fun cell => (cell.merged, cell.value)) = some (false, [121]) := by
  decide

/-- **the merge pass of a loaded sheet is the fold over `mergeVisits`**: every `Grid.modify` of the
pass is one element of that list (one iteration of the inner Go loop) -/
theorem merge_pass_is_visits {shared : List Str} {i used : Nat} {fresh : Bool} {x : SheetXML} {s : Wb.Sheet}
    (h : loadSheet shared i used fresh x = some s) :
    s.rows = (mergeVisits x).foldl
      (fun g (v : Region × (Nat × Nat)) => g.modify v.2.1 v.2.2 (markCell v.1 v.2))
      (x.rows.foldl (placeRow shared) (emptyGrid (maxRowOf x.rows) (maxColOf x.rows + 1))) := by
  rw [(loadSheet_some h).2.2.2.2, foldl_applyRegionC_eq_visits, length_placeRows, length_emptyGrid]
  rfl

/-- **bounded work**: for every file, the merge pass visits at most as many cells as the grid has
— whatever the number of declared regions, overlapping, repeated or covering the whole sheet -/
theorem merge_visits_bounded (x : SheetXML) : (mergeVisits x).length ≤ gridSize x := by
  rw [length_mergeVisits]; exact applied_fits _ _ _ _

/-- **the regions the merge pass walks**: the applied regions with a cell inside the grid -/
def walkedRegions (x : SheetXML) : List Region :=
  walkedPrefix (maxRowOf x.rows) (maxColOf x.rows + 1) (fileRegions x) (gridSize x)

/-- iterations of the outer (row) loop of the merge pass: the clipped rows of every walked region -/
def mergeRowIters (x : SheetXML) : Nat := ((walkedRegions x).map (clipRows (maxRowOf x.rows))).sum

/-- **no loop runs for a region without a cell in the grid**: the merge pass of a loaded sheet runs
the double loop for the walked regions and for nothing else (the Go loop skips a region with no cell inside the grid) — and every walked region has a cell in the grid -/
theorem merge_pass_walks {shared : List Str} {i used : Nat} {fresh : Bool} {x : SheetXML} {s : Wb.Sheet}
    (h : loadSheet shared i used fresh x = some s) :
    s.rows = (walkedRegions x).foldl (applyRegionC (maxColOf x.rows + 1))
      (x.rows.foldl (placeRow shared) (emptyGrid (maxRowOf x.rows) (maxColOf x.rows + 1))) ∧
    ∀ m ∈ walkedRegions x, clipArea (maxRowOf x.rows) (maxColOf x.rows + 1) m > 0 := by
  constructor
  · rw [loadSheet_eq] at h
    split at h
    · cases h
      exact mergeLoop_eq_foldl_walked _ _ _ _ _ _
    · cases h
  · intro m hm
    unfold walkedRegions walkedPrefix at hm
    simpa using (List.mem_filter.mp hm).2

/-- **bounded work, including the outer loop**: for every file, the iterations of the row loop
plus the cell visits of the merge pass are at most twice the cells of the grid -/
theorem merge_work_bounded (x : SheetXML) : mergeRowIters x + (mergeVisits x).length ≤ 2 * gridSize x := by
  have h1 := merge_visits_bounded x
  have h2 : mergeRowIters x ≤ areaSum (maxRowOf x.rows) (maxColOf x.rows + 1) (appliedRegions x) :=
    sum_clipRows_le _ _ _
  have h3 := applied_fits (maxRowOf x.rows) (maxColOf x.rows + 1) (fileRegions x) (gridSize x)
  unfold appliedRegions at h2
  omega

/-- cell visits alone, in the 2x form -/
theorem merge_visits_bounded_twice (x : SheetXML) : (mergeVisits x).length ≤ 2 * gridSize x := by
  have := merge_visits_bounded x; omega

/-- for a sheet that loads the grid, hence the work of the merge pass, is in proportion to the
file: at most `maxGridCells` cells plus 16 per `<c>` element -/
theorem merge_visits_le_max {shared : List Str} {i used : Nat} {fresh : Bool} {x : SheetXML} {s : Wb.Sheet}
    (h : loadSheet shared i used fresh x = some s) :
    (mergeVisits x).length ≤ maxGridCells + gridCellsPerElement * elements x := by
  have h1 := merge_visits_bounded x
  have h2 : fits used fresh x := (loadSheet_isSome_iff shared i used fresh x).mp ⟨s, h⟩
  unfold fits allowance at h2
  cases fresh <;> simp at h2 <;> omega

/-- non-vacuity: a hundred declarations of A1:XFD1048576 over a 2x2 grid — one is applied, four
cells are visited in two row iterations; and sixty regions right of the grid (B1:B2 on a
one-column sheet of two rows) are applied, none is walked, no row is iterated -/
example :
    let x : SheetXML := ⟨[83], [⟨2, [⟨[66, 50], tStr, [120], [], none⟩]⟩],
      List.replicate 100 [65, 49, 58, 88, 70, 68, 49, 48, 52, 56, 53, 55, 54], [109]⟩
    (fileRegions x).length = 100 ∧ (appliedRegions x).length = 1 ∧ (mergeVisits x).length = 4 ∧
      mergeRowIters x = 2 ∧ (loadSheet [] 0 0 true x).isSome = true := by decide

example :
    let x : SheetXML := ⟨[83], [⟨2, [⟨[65, 50], tStr, [120], [], none⟩]⟩],
      List.replicate 60 [66, 49, 58, 66, 50], [109]⟩
    (appliedRegions x).length = 60 ∧ (walkedRegions x).length = 0 ∧ mergeRowIters x = 0 ∧
      (mergeVisits x).length = 0 := by decide

theorem colAcc_le_bound (s : Str) (a r : Nat) (ha : a ≤ maxColumnNumber) (h : colAcc s a = some r) :
    r ≤ maxColumnNumber :=
  colAcc_le s a r ha h

/-- every column `ParseCellRef` accepts is below the bound -/
theorem refCol_within_bound (ref : Str) (col : Nat) (h : refCol ref = some col) :
    col + 1 ≤ maxColumnNumber := by
  unfold refCol at h
  split at h
  · rename_i c r hp
    cases h
    have := parseCellRef_ok_bounds hp
    omega
  · cases h

/-- **the dimension pass stays within the column bound**: the grid of any sheet has at most 2^40
columns as far as the dimension pass is concerned, so `maxCol + 1` and the size test that follows
cannot wrap -/
theorem dims_within_bound (rows : List RowXML) : maxColOf rows + 1 ≤ maxColumnNumber := by
  have : maxColOf rows ≤ maxColumnNumber - 1 := by
    rw [maxColOf_le_iff]
    intro row _ x _ col hc
    have := refCol_within_bound x.ref col hc
    omega
  have : 0 < maxColumnNumber := by decide
  omega

/-- what `loadParts` yields at the part in position `j` -/
theorem loadParts_at (shared : List Str) (parts : List (Option SheetXML)) (k : Nat) (seen : List Str)
    (used j : Nat) (x : SheetXML) (hj : parts[j]? = some (some x)) :
    (∃ s ∈ loadParts shared parts k seen used, s.index = k + j) ↔
      fits (stateAfter (parts.take j) seen used).2
        (!(stateAfter (parts.take j) seen used).1.contains x.member) x := by
  rw [← loadSheet_isSome_iff shared (k + j)]
  constructor
  · rintro ⟨s, hs, hi⟩
    obtain ⟨j', x', hj', hl⟩ := mem_loadParts.mp hs
    -- the index tells the entry
    obtain rfl : j' = j := by have := (loadSheet_some hl).2.1; omega
    rw [hj] at hj'
    cases hj'
    exact ⟨s, hl⟩
  · rintro ⟨s, hl⟩
    exact ⟨s, mem_loadParts.mpr ⟨j, x, hj, hl⟩, (loadSheet_some hl).2.1⟩

/-- **which parts become sheets** (the `load_fails_iff` of the shared budget, from the file
only): the part in position `j` of the workbook is a sheet of the reader exactly if its grid is at
most what the earlier entries left of `maxGridCells` plus its allowance — 16 cells per `<c>`
element if no earlier entry named the same member, nothing otherwise. -/
theorem part_loads_iff (sis : List SI) (parts : List (Option SheetXML)) (j : Nat) (x : SheetXML)
    (hj : parts[j]? = some (some x)) :
    (∃ s ∈ loadParts (parseSharedStrings sis) parts 0 [] 0, s.index = j) ↔
      gridSize x ≤ maxGridCells - (stateAfter (parts.take j) [] 0).2 +
        allowance (!(stateAfter (parts.take j) [] 0).1.contains x.member) x := by
  have := loadParts_at (parseSharedStrings sis) parts 0 [] 0 j x hj
  simpa [fits] using this

/-- **a member named by several entries brings its cells once**: an entry whose member an earlier
present entry already named gets no allowance — it loads exactly if its whole grid fits what is
left of `maxGridCells` -/
theorem alias_loads_iff (sis : List SI) (parts : List (Option SheetXML)) (j : Nat) (x y : SheetXML)
    (hj : parts[j]? = some (some x)) (hy : some y ∈ parts.take j) (hm : y.member = x.member) :
    (∃ s ∈ loadParts (parseSharedStrings sis) parts 0 [] 0, s.index = j) ↔
      gridSize x ≤ maxGridCells - (stateAfter (parts.take j) [] 0).2 := by
  rw [part_loads_iff sis parts j x hj]
  have hs := member_seen (parts.take j) [] 0 y hy
  rw [hm] at hs
  simp [hs, allowance]

/-- counted once also in the sum: `k+1` entries naming one member have the elements of one -/
theorem repeated_member_once (x : SheetXML) (k : Nat) :
    distinctElements (List.replicate (k + 1) (some x)) [] = elements x := by
  rw [distinctElements_replicate]; rfl

/-- **bounded allocation (memory in proportion to the file)**: the grids of all sheets of an
opened workbook have at most `maxGridCells` cells plus 16 for every `<c>` element of the distinct
members that were loaded as fresh parts (`grantedElements`), a fortiori of the distinct members
present (`distinctElements`: each member counted once, however many entries name it). -/
theorem workbook_cells_bounded (sis : List SI) (parts : List (Option SheetXML)) (r : Reader)
    (h : openWorkbook sis parts = some r) :
    (r.sheets.map sheetCells).sum ≤ maxGridCells + gridCellsPerElement * grantedElements parts [] 0 ∧
    (r.sheets.map sheetCells).sum ≤ maxGridCells + gridCellsPerElement * distinctElements parts [] := by
  rw [(openWorkbook_some h).1]
  have h1 := loadParts_cells_le (parseSharedStrings sis) parts 0 [] 0
  have h2 := stateAfter_le parts [] 0 (Nat.zero_le _)
  have h3 := Nat.mul_le_mul_left gridCellsPerElement (grantedElements_le parts [] 0)
  omega

/-- what all present parts would take out of the budget: the excess of every grid over the
allowance of its part -/
def demand : List (Option SheetXML) → List Str → Nat
  | [], _ => 0
  | none :: ps, seen => demand ps seen
  | some x :: ps, seen => charge (!seen.contains x.member) x + demand ps (x.member :: seen)

/-- while the excesses of the present parts fit what is left of the budget, every one of them fits when its turn comes -/
theorem fits_of_demand (parts : List (Option SheetXML)) (seen : List Str) (u : Nat)
    (h : u + demand parts seen ≤ maxGridCells) (j : Nat) (x : SheetXML) (hj : parts[j]? = some (some x)) :
    fits (stateAfter (parts.take j) seen u).2 (!(stateAfter (parts.take j) seen u).1.contains x.member) x := by
  induction parts generalizing seen u j with
  | nil => simp at hj
  | cons p ps ih =>
    cases p with
    | none =>
      cases j with
      | zero => simp at hj
      | succ j => exact ih seen u h j (by simpa using hj)
    | some y =>
      have hy : fits u (!seen.contains y.member) y := by
        simp only [demand] at h; unfold fits; unfold charge at h; omega
      cases j with
      | zero =>
        simp only [List.getElem?_cons_zero, Option.some.injEq] at hj
        subst hj
        exact hy
      | succ j =>
        simp only [List.take_succ_cons, stateAfter, if_pos hy]
        exact ih _ _ (by simp only [demand] at h; omega) j (by simpa using hj)

/-- **workbooks that fit**: if the excesses of all present parts over their allowances fit
`maxGridCells` together, every present part becomes a sheet -/
theorem all_parts_load_of_fit (sis : List SI) (parts : List (Option SheetXML))
    (hfit : demand parts [] ≤ maxGridCells) (j : Nat) (x : SheetXML) (hj : parts[j]? = some (some x)) :
    ∃ s ∈ loadParts (parseSharedStrings sis) parts 0 [] 0, s.index = j := by
  have := (loadParts_at (parseSharedStrings sis) parts 0 [] 0 j x hj).mpr (fits_of_demand parts [] 0 (by omega) j x hj)
  simpa using this

/-- the cells all present parts have -/
def totalGrid : List (Option SheetXML) → Nat
  | [] => 0
  | none :: ps => totalGrid ps
  | some x :: ps => gridSize x + totalGrid ps

theorem demand_le_totalGrid (parts : List (Option SheetXML)) (seen : List Str) :
    demand parts seen ≤ totalGrid parts := by
  induction parts generalizing seen with
  | nil => exact Nat.le_refl _
  | cons p ps ih =>
    cases p with
    | none => exact ih seen
    | some x =>
      simp only [demand, totalGrid]
      have := ih (x.member :: seen)
      unfold charge; omega

/-- **small workbooks**: if the grids of all present parts have at most
`maxGridCells` cells together, every present part becomes a sheet -/
theorem all_parts_load_of_small (sis : List SI) (parts : List (Option SheetXML))
    (hfit : totalGrid parts ≤ maxGridCells) (j : Nat) (x : SheetXML) (hj : parts[j]? = some (some x)) :
    ∃ s ∈ loadParts (parseSharedStrings sis) parts 0 [] 0, s.index = j :=
  all_parts_load_of_fit sis parts (Nat.le_trans (demand_le_totalGrid parts []) hfit) j x hj

/-- non-vacuity, at the limit from both sides.  `x`: one `<c>` element (A1) in a `<row>` numbered
4194312 — a grid of 4 Mi + 8 cells, allowance 16, excess 4 Mi - 8; `y`: the same under another
member.  Two distinct members: the excesses are 8 Mi - 16 together, both load, and a third
distinct one would not.  The same member twice: the second entry has no allowance, needs
4 Mi + 8 of the 4 Mi + 8 that are left and loads — a third entry does not. -/
example :
    let x : SheetXML := ⟨[83], [⟨4194312, [⟨[65, 49], tStr, [120], [], none⟩]⟩], [], [109]⟩
    let y : SheetXML := { x with member := [110] }
    let z : SheetXML := { x with member := [111] }
    gridSize x = 4194312 ∧ elements x = 1 ∧ charge true x = 4194296 ∧
      demand [some x, some y] [] ≤ maxGridCells ∧ demand [some x, some y, some z] [] > maxGridCells ∧
      (stateAfter [some x, some y] [] 0).2 = 8388592 ∧
      ¬ fits (stateAfter [some x, some y] [] 0).2 true z ∧
      (stateAfter [some x, some x] [] 0).2 = maxGridCells ∧
      fits (stateAfter [some x] [] 0).2 false x ∧ ¬ fits (stateAfter [some x, some x] [] 0).2 false x ∧
      distinctElements [some x, some x, some x] [] = 1 ∧ distinctElements [some x, some y, some z] [] = 3 := by
  decide

end Tabula.C17B
