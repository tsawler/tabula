import TabulaModel.Props.C15
/-!
# C15 — PPTX: the lines `Reader.Markdown*` writes for slide titles and list paragraphs
-/
namespace Tabula.C15Pptx
open Tabula.A1 (Str dec)
open Tabula.Markdown Tabula.MarkdownDoc

/-- a bullet or numbered paragraph is written as a list item line: depth = the paragraph's
level (negative counts as 0), ordered iff numbered, the text unchanged -/
theorem pptx_list_para_line (p : PPara) (hne : p.text.isEmpty = false) (hb : (p.isBullet || p.isNumbered) = true) :
    pptxPara p = listLine ⟨p.level.toNat, p.isNumbered, 1, p.text⟩ ++ [10] := by
  have : dec 1 = [49] := by simp [Tabula.A1.dec, Tabula.A1.decAux]
  unfold pptxPara
  simp only [hne, Bool.false_eq_true, if_false, hb, if_true]
  cases p.isNumbered <;> simp [listLine, indent2, this]

/-- **list_roundtrip for slides**: the line of a list paragraph reads back with its depth, kind
and text, for any level and any text -/
theorem pptx_list_para_roundtrip (p : PPara) (hne : p.text.isEmpty = false) (hb : (p.isBullet || p.isNumbered) = true) :
    parseListLine ((pptxPara p).dropLast) = some (p.level.toNat, p.isNumbered, p.text) := by
  rw [pptx_list_para_line p hne hb, List.dropLast_concat]
  exact parseListLine_listLine _

/-- a slide title is written as an ATX heading of level `headingLevel 1 offset max`, in 1..6 for
all options -/
theorem pptx_title_roundtrip (offset max : Int) (title : Str) :
    parseAtx (atxLine (headingLevel 1 offset max).toNat title)
      = some ((headingLevel 1 offset max).toNat, title) :=
  Tabula.C15.heading_emitted_roundtrip 1 offset max title

/-- a plain paragraph is written as its text and a blank line -/
theorem pptx_plain_para (p : PPara) (hne : p.text.isEmpty = false) (hb : (p.isBullet || p.isNumbered) = false) :
    pptxPara p = p.text ++ [10, 10] := by
  unfold pptxPara
  simp [hne, hb]

/-- the first slide starts with a nested item: its indentation is kept (f497d28) -/
example : pptxBody false false false [] 1
    [{ content := [{ paras := [{ text := [97], level := 1, isBullet := true },
                               { text := [98], level := 0, isBullet := true }] }] }]
    = [32, 32, 45, 32, 97, 10, 45, 32, 98] := by decide +kernel

/-- the pinned code ended with `strings.TrimSpace`: the same slide came out as `- a\n- b`, the
first item at depth 0 -/
theorem pptx_pinned_first_item_counterexample :
    trim (pptxSlides false false false 1
      [{ content := [{ paras := [{ text := [97], level := 1, isBullet := true },
                                 { text := [98], level := 0, isBullet := true }] }] }] true)
      = [45, 32, 97, 10, 45, 32, 98] ∧
    parseListLine [45, 32, 97] ≠ some (1, false, [97]) := by decide +kernel

end Tabula.C15Pptx
