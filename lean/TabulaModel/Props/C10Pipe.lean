import TabulaModel.Model.TextPipe
import TabulaModel.Props.C10
import TabulaModel.Props.C10E2E
/-!
# C10 — options and the per-page pipeline of `Text`

`Props/C10.lean` takes the text of a page as a parameter.  Here the part of it that is
`Extractor.Text`'s own code is a model (`Model/TextPipe.lean`): which options switch the
header/footer filter on, when OCR replaces a page's text, which of the four assemblers the
option flags (or the automatic layout test) select.  What remains a parameter is code of other
properties (reader, header/footer detection, layout assemblers) and the OCR engine.

The theorems: the text of a page never depends on which pages were selected with it
(`page_text_ignores_selection`), so `Text` of a selection is the join of the `Text`s of its
single pages under the same options — the statement the harness checks with single-page
extractions (`text_is_join_of_single_pages`, end to end for a chain of calls:
`chain_text_pipeline`); how the flags decide (`mode_priority`, `exclude_flags_one_switch`,
`ocr_only_for_empty_pages`).
-/
namespace Tabula.C10Pipe
open Tabula.PageSel Tabula.Builder Tabula.TextPipe

/-- **mode_priority**: `PreserveLayout` beats `JoinParagraphs` beats `ByColumn`; with none of
them the page is read column by column exactly when it looks character-level or
multi-column, and plainly otherwise.  `ByColumn` is what the automatic test would choose on
such a page. -/
theorem mode_priority (o : Options) (c m : Bool) :
    (o.preserveLayout = true → textMode o c m = .preserveLayout) ∧
    (o.preserveLayout = false → o.joinParagraphs = true → textMode o c m = .paragraphs) ∧
    (o.preserveLayout = false → o.joinParagraphs = false → o.byColumn = true → textMode o c m = .byColumn) ∧
    (o.preserveLayout = false → o.joinParagraphs = false → o.byColumn = false →
      textMode o c m = if c || m then .byColumn else .plain) := by
  unfold textMode
  refine ⟨?_, ?_, ?_, ?_⟩
  · intro h; simp [h]
  · intro h1 h2; simp [h1, h2]
  · intro h1 h2 h3; simp [h1, h2, h3]
  · intro h1 h2 h3; simp [h1, h2, h3]

/-- the page numbers configured play no part in the choice of the assembler or of the filter -/
theorem mode_ignores_pages (o : Options) (ps : List Int) (c m : Bool) :
    textMode { o with pages := ps } c m = textMode o c m ∧ needHF { o with pages := ps } = needHF o :=
  ⟨rfl, rfl⟩

/-- **page_text_ignores_selection**: the text of page `k` is the same whichever pages are
selected together with it. -/
theorem page_text_ignores_selection {F : Type} (env : PageEnv F) (o : Options) (ps : List Int) (k : Nat) :
    pageText env { o with pages := ps } k = pageText env o k := rfl

/-- **exclude_flags_one_switch**: `ExcludeHeaders`, `ExcludeFooters` and
`ExcludeHeadersAndFooters` switch on one and the same filter (the detector's result removes
detected headers and detected footers alike): options that agree on
`excludeHeaders || excludeFooters` and on the layout flags give the same page text. -/
theorem exclude_flags_one_switch {F : Type} (env : PageEnv F) (o₁ o₂ : Options) (k : Nat)
    (hhf : needHF o₁ = needHF o₂) (h1 : o₁.preserveLayout = o₂.preserveLayout)
    (h2 : o₁.joinParagraphs = o₂.joinParagraphs) (h3 : o₁.byColumn = o₂.byColumn) :
    pageText env o₁ k = pageText env o₂ k := by
  unfold pageText textMode
  rw [hhf, h1, h2, h3]

example {F : Type} (env : PageEnv F) (k : Nat) :
    pageText env { excludeHeaders := true } k = pageText env { excludeFooters := true } k ∧
    pageText env { excludeHeaders := true } k = pageText env { excludeHeaders := true, excludeFooters := true } k :=
  ⟨exclude_flags_one_switch env _ _ k rfl rfl rfl rfl, exclude_flags_one_switch env _ _ k rfl rfl rfl rfl⟩

/-- without an exclusion flag the header/footer filter is never consulted -/
theorem no_flag_no_filter {F : Type} (env : PageEnv F) (filt' : Nat → F → F) (o : Options) (k : Nat)
    (h : needHF o = false) : pageText { env with filt := filt' } o k = pageText env o k := by
  unfold pageText
  simp only [h, Bool.false_eq_true, if_false]

/-- **ocr_only_for_empty_pages**: OCR is asked only when the (filtered) page has no fragment,
and its answer is used only if it is non-empty; otherwise the page text is the selected
assembler's. -/
theorem ocr_only_for_empty_pages {F : Type} (env : PageEnv F) (o : Options) (k : Nat) (raw : F)
    (hraw : env.frags k = .ok raw) :
    let fr := if needHF o then env.filt k raw else raw
    (env.isEmpty k fr = false →
      pageText env o k = .ok (env.render (textMode o (env.charLevel k fr) (env.multiCol k fr)) k fr)) ∧
    (env.isEmpty k fr = true → ∀ t, env.ocr k = some t → t ≠ [] → pageText env o k = .ok t) ∧
    (env.isEmpty k fr = true → (env.ocr k = none ∨ env.ocr k = some []) →
      pageText env o k = .ok (env.render (textMode o (env.charLevel k fr) (env.multiCol k fr)) k fr)) := by
  intro fr
  have hpt : pageText env o k =
      match (if env.isEmpty k fr = true then (env.ocr k).filter (· ≠ []) else none) with
      | some t => Except.ok t
      | none => Except.ok (env.render (textMode o (env.charLevel k fr) (env.multiCol k fr)) k fr) := by
    unfold pageText
    simp only [hraw]
    rfl
  rw [hpt]
  refine ⟨fun he => ?_, fun he t ht hne => ?_, fun he hocr => ?_⟩
  · simp [he]
  · simp [he, ht, Option.filter, hne]
  · rcases hocr with h | h <;> simp [he, h, Option.filter]

/-! ## `Text` of a selection is the join of the `Text`s of its pages -/

/-- the text `Text` returns for page `k` alone (empty when the page cannot be read) -/
def single {F : Type} (env : PageEnv F) (o : Options) (k : Nat) : Str :=
  match pageText env o k with
  | .ok t => t
  | .error _ => []

theorem pageText_readable {F : Type} (env : PageEnv F) (o : Options) (k : Nat)
    (h : ∃ fr, env.frags k = .ok fr) : pageText env o k = .ok (single env o k) := by
  obtain ⟨fr, hfr⟩ := h
  have : ∃ t, pageText env o k = .ok t := by
    unfold pageText
    simp only [hfr]
    split <;> exact ⟨_, rfl⟩
  obtain ⟨t, ht⟩ := this
  unfold single
  rw [ht]

theorem specPages_single (k n : Nat) (hk : k < n) : specPages [(k : Int) + 1] n = [k] := by
  apply strictAsc_ext _ _ (specPages_strictAsc _ n) (by simp [StrictAsc])
  intro x
  rw [mem_specPages]
  simp only [List.mem_singleton]
  constructor
  · rintro ⟨_, h⟩; omega
  · rintro rfl; exact ⟨hk, rfl⟩

/-- **text_is_join_of_single_pages**: for every option combination, every readable document
and every non-empty selection inside it, `Pages(S).Text()` is the `Text()`s of the single
pages of `S` under the same options, in ascending page order, the non-empty ones joined by a
blank line — in particular with `ExcludeHeaders/Footers`, where the filter is computed from
all pages and not from the selected ones. -/
theorem text_is_join_of_single_pages {F : Type} (env : PageEnv F) (o : Options) (sel : List Int)
    (n : Nat) (hne : sel ≠ []) (hr : InRange sel n) (hread : ∀ k, k < n → ∃ fr, env.frags k = .ok fr) :
    (∀ k, k < n → textFull env { o with pages := [(k : Int) + 1] } n = .ok (single env o k)) ∧
    textFull env { o with pages := sel } n =
      .ok (sep.intercalate (((specPages sel n).map (single env o)).filter (· ≠ []))) := by
  have hpg : ∀ k, k < n → pageText env o k = .ok (single env o k) :=
    fun k hk => pageText_readable env o k (hread k hk)
  constructor
  · intro k hk
    unfold textFull
    have h1 : InRange [(k : Int) + 1] n := by
      intro p hp
      simp only [List.mem_singleton] at hp
      omega
    have := C10.text_is_join (pageText env o) (single env o) [(k : Int) + 1] n (by simp) h1 hpg
    show extractText (pageText env o) [(k : Int) + 1] n = _
    rw [this, specPages_single k n hk]
    by_cases hs : single env o k = []
    · simp [hs, List.intercalate]
    · simp [hs, List.intercalate]
  · unfold textFull
    exact C10.text_is_join (pageText env o) (single env o) sel n hne hr hpg

/-- non-vacuity: a three-page document with a running header that the filter removes; page 2
is empty after filtering and has no OCR text; ByColumn is set -/
example :
    let env : PageEnv (List Nat) :=
      { frags := fun k => .ok [100, k], filt := fun _ fr => fr.drop 1, isEmpty := fun k fr => fr.isEmpty || k == 1,
        ocr := fun _ => none, charLevel := fun _ _ => false, multiCol := fun _ _ => false,
        render := fun m k fr => if k == 1 then [] else (if m = .byColumn then 67 else 80) :: fr }
    textFull env { pages := [3, 1, 2, 3], excludeHeaders := true, byColumn := true } 3 = .ok [67, 0, 10, 10, 67, 2] := by
  decide

/-- **chain_text_pipeline**: `Open(f).c₁…cₙ.Text()` for a chain that mixes page calls and
option calls in any order: the pages of the denoted set, each rendered under the options the
chain has accumulated (order and repetition of the option calls are irrelevant by
`options_commute`), joined by the rule above. -/
theorem chain_text_pipeline {F : Type} (env : PageEnv F) (w : World) (n : Nat)
    (hw : w.openOk = true) (hn : w.pageCount = some n) (cs : List BCall)
    (hgood : badRange cs = false) (hne : selOf cs ≠ []) (hr : InRange (selOf cs) n)
    (hread : ∀ k, k < n → ∃ fr, env.frags k = .ok fr) :
    textOfChain env w cs =
      .ok (sep.intercalate (((specPages (selOf cs) n).map (single env (chainFrom {} cs).opts)).filter (· ≠ []))) := by
  unfold textOfChain textCall
  rw [chain_answer w .text _ cs n rfl rfl rfl hn, hgood, C10Life.resolve_valid _ n hne hr]
  simp only [hw, Bool.false_eq_true, if_false, Bool.or_true, if_true, Term.needsPages, Bool.false_and, viaFrame]
  exact textOf_ok _ _ _ (readable_specPages (fun k hk => pageText_readable env _ k (hread k hk)) _)

example :
    let env : PageEnv (List Nat) :=
      { frags := fun k => .ok [k], filt := fun _ fr => fr, isEmpty := fun _ fr => fr.isEmpty,
        ocr := fun _ => none, charLevel := fun _ _ => false, multiCol := fun k _ => k == 2,
        render := fun m k _ => [if m = .byColumn then 67 else 80, 48 + k] }
    badRange [.pages [3], .excludeFooters, .pageRange 1 1] = false ∧
    textOfChain env ⟨true, some 3⟩ [.pages [3], .excludeFooters, .pageRange 1 1] = .ok [80, 48, 10, 10, 67, 50] := by
  decide

/-- the two routes to `Text` of a chain agree: configure, then `textFull` on the accumulated
options — or the whole-call route through the frame -/
theorem chain_text_is_textFull {F : Type} (env : PageEnv F) (w : World) (n : Nat)
    (hw : w.openOk = true) (hn : w.pageCount = some n) (cs : List BCall)
    (hgood : badRange cs = false) (hne : selOf cs ≠ []) (hr : InRange (selOf cs) n)
    (hread : ∀ k, k < n → ∃ fr, env.frags k = .ok fr) :
    textOfChain env w cs = textFull env (chainFrom {} cs).opts n := by
  have hp : (chainFrom {} cs).opts.pages = selOf cs := by simpa using (chainFrom_cfg cs {}).1
  unfold textOfChain textCall textFull extractText
  rw [chain_answer w .text _ cs n rfl rfl rfl hn, hgood, hp]
  -- the frame and `Text` itself resolve the same list, which is not the range error
  rcases resolvePages_cases (selOf cs) n with ⟨_, h⟩ | ⟨_, _, h⟩ | ⟨_, hr', _⟩
  · rw [h]; simp [hw, viaFrame, Term.needsPages]
  · rw [h]; simp [hw, viaFrame, Term.needsPages]
  · exact absurd hr hr'

end Tabula.C10Pipe
