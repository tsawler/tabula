import TabulaModel.Props.C14Json
import TabulaModel.Lemmas.ExportDecodeVdb
/-!
# C14 (part 11) — the vector-database exports give the SAME RECORDS back

`Props/C14Json.lean` shows that the texts of `ExportForWeaviate`, `ExportForPinecone` and
`ExportForChroma` are well-formed JSON (Lines) and read back to the JSON values of the records.
Here the last step: the INVERSE READER of `Model/ExportDecodeVdb.lean` (what a consumer gets out of
the parsed JSON: id, text, title, first page, section title, chunk index, embedding) applied to
the parsed text returns exactly one view per chunk, in collection order, with the chunk's own
values and the embedding at the chunk's index — for every collection of well-formed-UTF-8 chunks
and every list of embeddings whose components are JSON number tokens.  Pinecone carries only the
chunks that have a non-empty vector (documented; `pinecone_omits_chunks_without_vector`).
-/
namespace Tabula.C14Vdb
open Tabula.Export Tabula.Csv Tabula.Json Tabula.C14 Tabula.C14Meta Tabula.C14Api Tabula.C14Json
open Tabula.Split (validUtf8)

/-- Weaviate: the text, read line by line and decoded, is exactly one record per chunk, in order: the class name given, the chunk's id, text, title, first page, section title, index, and the embedding at the chunk's index -/
theorem weaviate_same_records (cls : Str) (chunks : List Chunk) (embs : List (Emb Str))
    (hcls : validUtf8 cls = true) (hc : ∀ c ∈ chunks, chunkValid c = true) (he : embsOk embs = true) :
    decodeWeaviateText (weaviateText cls chunks embs) =
      some (chunks.zipIdx.map (fun p => (cls, vdbView true p.1 (embAt embs p.2)))) :=
  decodeWeaviateText_of_read _ cls chunks embs (weaviate_text_parses_back cls chunks embs hcls hc he).1

/-- Pinecone: exactly the chunks that have a non-empty vector at their index, in order -/
theorem pinecone_same_records (chunks : List Chunk) (embs : List (Emb Str))
    (hc : ∀ c ∈ chunks, chunkValid c = true) (he : embsOk embs = true) :
    decodePineconeText (pineconeText chunks embs) =
      some (chunks.zipIdx.filterMap (fun p => if embAt embs p.2 = [] then none else some (vdbView false p.1 (embAt embs p.2)))) :=
  decodePineconeText_of_read _ chunks embs (pinecone_text_parses_back chunks embs hc he).1

/-- Chroma: the parallel arrays zip back to one record per chunk, in order -/
theorem chroma_same_records (chunks : List Chunk) (embs : List (Emb Str))
    (hc : ∀ c ∈ chunks, chunkValid c = true) (he : embsOk embs = true) :
    decodeChromaText (chromaText chunks embs) =
      some (chunks.zipIdx.map (fun p => vdbView true p.1 (embAt embs p.2))) :=
  decodeChromaText_of_read _ chunks embs (chroma_text_parses_back chunks embs hc he).1

/-- corollary: ids and texts of the decoded records are the chunks', in order (Weaviate, Chroma: all chunks) -/
theorem vdb_ids_texts_in_order (cls : Str) (chunks : List Chunk) (embs : List (Emb Str))
    (hcls : validUtf8 cls = true) (hc : ∀ c ∈ chunks, chunkValid c = true) (he : embsOk embs = true) :
    (decodeWeaviateText (weaviateText cls chunks embs)).map (·.map (fun r => (r.2.id, r.2.text))) = some (chunks.map (fun c => (c.id, c.text))) ∧
    (decodeChromaText (chromaText chunks embs)).map (·.map (fun r => (r.id, r.text))) = some (chunks.map (fun c => (c.id, c.text))) := by
  rw [weaviate_same_records cls chunks embs hcls hc he, chroma_same_records chunks embs hc he]
  simp only [Option.map_some, List.map_map]
  exact ⟨congrArg some (zipIdx_map_fst_comp (fun c : Chunk => (c.id, c.text)) chunks 0),
    congrArg some (zipIdx_map_fst_comp (fun c : Chunk => (c.id, c.text)) chunks 0)⟩

/-- the hypotheses are satisfiable with non-trivial values: a class name, a chunk with quotes,
non-ASCII text and a title, embeddings with a vector, a nil vector and an empty one -/
example : validUtf8 [67, 104, 117, 110, 107] = true ∧
    (∀ c ∈ [({ id := [99, 34, 10], text := [0xC3, 0xA9, 44, 9], md := { documentTitle := [84], pageStart := 3, chunkIndex := 1 } } : Chunk)],
      chunkValid c = true) ∧
    embsOk [some [[48, 46, 53], [45, 49, 50]], none, some []] = true := by
  have h1 : validUtf8 [99, 34, 10] = true := Tabula.Split.validUtf8_of_ascii _ (by decide)
  have h2 : validUtf8 [0xC3, 0xA9, 44, 9] = true := by
    rw [Tabula.Split.validUtf8_step _ (by decide)]; exact Tabula.Split.validUtf8_of_ascii _ (by decide)
  have h3 : validUtf8 [84] = true := Tabula.Split.validUtf8_of_ascii _ (by decide)
  have h0 : validUtf8 [] = true := Tabula.Split.validUtf8_nil
  refine ⟨Tabula.Split.validUtf8_of_ascii _ (by decide), ?_, by decide⟩
  intro c hc
  simp only [List.mem_singleton] at hc
  subst hc
  simp [chunkValid, metaValid, strsValid, h1, h2, h3, h0]

/-- Pinecone's documented omission: a chunk without a vector at its index has no record — a
one-chunk collection exported without embeddings decodes to no record at all (while Weaviate and
Chroma give the chunk back: `weaviate_same_records`, `chroma_same_records`) -/
theorem pinecone_omits_chunks_without_vector :
    decodePineconeText (pineconeText [{ id := [99], text := [116], md := {} }] []) = some [] := by
  have hv : ∀ c ∈ [({ id := [99], text := [116], md := {} } : Chunk)], chunkValid c = true := by
    intro c hc
    simp only [List.mem_singleton] at hc
    subst hc
    have h1 : validUtf8 [99] = true := Tabula.Split.validUtf8_of_ascii _ (by decide)
    have h2 : validUtf8 [116] = true := Tabula.Split.validUtf8_of_ascii _ (by decide)
    have h0 : validUtf8 [] = true := Tabula.Split.validUtf8_nil
    simp [chunkValid, metaValid, strsValid, h1, h2, h0]
  rw [pinecone_same_records _ [] hv (by decide)]
  rfl

end Tabula.C14Vdb
