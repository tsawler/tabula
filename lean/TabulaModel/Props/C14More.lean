import TabulaModel.Props.C14Coll
/-!
# C14 (part 12) — further laws of the collection filters, for every collection and every chain

"Filtering a collection returns exactly the chunks satisfying the predicate, in order": laws a
caller relies on when filters are combined with each other, with concatenated / batched
collections and with the accessors of the collection a filter returned.  Everything is stated
about the executable models `applyOp` / `applyChain` / `coll…` / `batchExport` (Model/Export.lean,
Model/Collection.lean), for all collections, all filter chains and both `strings` functions.
-/
set_option linter.unusedSimpArgs false
set_option linter.unusedVariables false
namespace Tabula.C14More
open Tabula.Export Tabula.Csv Tabula.C14 Tabula.C14Api Tabula.C14Coll

theorem sum_filter_le (f : Chunk → Int) (p : Chunk → Bool) (l : List Chunk) (h : ∀ c ∈ l, 0 ≤ f c) :
    ((l.filter p).map f).sum ≤ (l.map f).sum := by
  induction l with
  | nil => simp
  | cons c rest ih =>
    have h0 := h c (by simp)
    have ih2 := ih (fun c2 hc2 => h c2 (List.mem_cons_of_mem _ hc2))
    rw [List.filter_cons]
    split
    · simp only [List.map_cons, List.sum_cons]; omega
    · simp only [List.map_cons, List.sum_cons]; omega

theorem length_filter_compl {α : Type} (p q : α → Bool) (h : ∀ a, p a = !q a) (l : List α) :
    (l.filter p).length + (l.filter q).length = l.length := by
  induction l with
  | nil => rfl
  | cons a rest ih =>
    rw [List.filter_cons, List.filter_cons, h a]
    cases q a <;> simp <;> omega

theorem find_filter_id (p : Chunk → Bool) (id : Str) (cs : List Chunk) :
    (cs.filter p).find? (fun c => decide (c.id = id)) = cs.find? (fun c => p c && decide (c.id = id)) := by
  rw [List.find?_filter]
  simp only [Bool.decide_and, Bool.decide_eq_true]

/-- filtering a concatenation of two collections is the concatenation of the filtered parts
(so filtering commutes with any way of assembling a collection from pieces) -/
theorem filter_chain_concat (env : StrEnv) (ops : List FilterOp) (cs1 cs2 : List Chunk) :
    applyChain env ops (cs1 ++ cs2) = applyChain env ops cs1 ++ applyChain env ops cs2 := by
  simp only [filter_chain_is_conjunction, List.filter_append]

/-- a whole chain applied a second time changes nothing -/
theorem filter_chain_idempotent (env : StrEnv) (ops : List FilterOp) (cs : List Chunk) :
    applyChain env ops (applyChain env ops cs) = applyChain env ops cs := by
  simp only [filter_chain_is_conjunction, List.filter_filter, Bool.and_self]

/-- a chain returns the collection unchanged iff every chunk satisfies every predicate -/
theorem filter_chain_unchanged_iff (env : StrEnv) (ops : List FilterOp) (cs : List Chunk) :
    applyChain env ops cs = cs ↔ ∀ c ∈ cs, ∀ op ∈ ops, opPred env op c = true := by
  rw [filter_chain_is_conjunction, List.filter_eq_self]
  simp only [List.all_eq_true]

/-- a chain returns the empty collection iff every chunk fails at least one predicate -/
theorem filter_chain_empty_iff (env : StrEnv) (ops : List FilterOp) (cs : List Chunk) :
    applyChain env ops cs = [] ↔ ∀ c ∈ cs, ∃ op ∈ ops, opPred env op c = false := by
  rw [filter_chain_is_conjunction, List.filter_eq_nil_iff]
  constructor
  · intro h c hc
    have h2 := h c hc
    simpa [List.all_eq_true] using h2
  · intro h c hc hall
    obtain ⟨op, ho, hf⟩ := h c hc
    rw [List.all_eq_true] at hall
    have h3 := hall op ho
    rw [hf] at h3
    exact Bool.noConfusion h3

/-- repeating a filter that already occurs later in the chain changes nothing -/
theorem filter_chain_duplicate (env : StrEnv) (op : FilterOp) (ops : List FilterOp) (h : op ∈ ops)
    (cs : List Chunk) :
    applyChain env (op :: ops) cs = applyChain env ops cs := by
  rw [filter_chain_is_conjunction, filter_chain_is_conjunction]
  apply List.filter_congr
  intro c _
  rw [List.all_cons]
  cases hall : ops.all (fun o => opPred env o c) with
  | false => simp
  | true =>
    rw [List.all_eq_true] at hall
    simp [hall op h]

example : FilterOp.tables ∈ [FilterOp.lists, FilterOp.tables] := by simp

/-- `FilterByPage(p)` is `FilterByPageRange(p, p)` -/
theorem page_is_page_range (env : StrEnv) (p : Int) (cs : List Chunk) :
    applyOp env (.page p) cs = applyOp env (.pageRange p p) cs := by
  simp only [applyOp, filterC_eq]
  apply List.filter_congr
  intro c _
  show (decide (p ≥ c.md.pageStart) && decide (p ≤ c.md.pageEnd)) =
    (decide (c.md.pageEnd ≥ p) && decide (c.md.pageStart ≤ p))
  exact Bool.and_comm _ _

/-- widening a page range can only add chunks: the narrower result is a subsequence of the wider -/
theorem page_range_widen (env : StrEnv) (s e s2 e2 : Int) (hs : s2 ≤ s) (he : e ≤ e2) (cs : List Chunk) :
    (applyOp env (.pageRange s e) cs).Sublist (applyOp env (.pageRange s2 e2) cs) := by
  simp only [applyOp, filterC_eq]
  apply List.filter_sublist_filter
  intro c hc
  simp only [opPred, Bool.and_eq_true, decide_eq_true_eq] at hc ⊢
  omega

example : ∃ s e s2 e2 : Int, s2 ≤ s ∧ e ≤ e2 := ⟨2, 3, 1, 4, by decide, by decide⟩

/-- raising the `FilterByMinTokens` threshold can only remove chunks, lowering `FilterByMaxTokens` too -/
theorem token_threshold_monotone (env : StrEnv) (a b : Int) (hab : a ≤ b) (cs : List Chunk) :
    (applyOp env (.minTokens b) cs).Sublist (applyOp env (.minTokens a) cs) ∧
    (applyOp env (.maxTokens a) cs).Sublist (applyOp env (.maxTokens b) cs) := by
  simp only [applyOp, filterC_eq]
  constructor
  · apply List.filter_sublist_filter
    intro c hc
    simp only [opPred, decide_eq_true_eq] at hc ⊢
    omega
  · apply List.filter_sublist_filter
    intro c hc
    simp only [opPred, decide_eq_true_eq] at hc ⊢
    omega

example : ∃ a b : Int, a ≤ b := ⟨1, 2, by decide⟩

/-- two `FilterByMinTokens` in a row are one with the larger threshold -/
theorem min_tokens_twice (env : StrEnv) (a b : Int) (cs : List Chunk) :
    applyChain env [.minTokens a, .minTokens b] cs = applyOp env (.minTokens (if a ≤ b then b else a)) cs := by
  rw [filter_chain_is_conjunction]
  simp only [applyOp, filterC_eq]
  apply List.filter_congr
  intro c _
  simp only [List.all_cons, List.all_nil, Bool.and_true, opPred]
  rw [Bool.eq_iff_iff]
  simp only [Bool.and_eq_true, decide_eq_true_eq]
  split <;> omega

/-- `FilterByMinTokens(n)` and `FilterByMaxTokens(n-1)` split a collection: every chunk is in
exactly one of the two results, and the sizes add up -/
theorem min_max_tokens_partition (env : StrEnv) (n : Int) (cs : List Chunk) :
    (applyOp env (.minTokens n) cs).length + (applyOp env (.maxTokens (n - 1)) cs).length = cs.length ∧
    ∀ c ∈ cs, (c ∈ applyOp env (.minTokens n) cs ↔ c ∉ applyOp env (.maxTokens (n - 1)) cs) := by
  constructor
  · simp only [applyOp, filterC_eq]
    apply length_filter_compl
    intro c
    simp only [opPred]
    by_cases h : n ≤ c.md.estimatedTokens
    · have h2 : ¬ (c.md.estimatedTokens ≤ n - 1) := by omega
      simp [h, h2]
    · have h2 : c.md.estimatedTokens ≤ n - 1 := by omega
      simp [h, h2]
  · intro c hc
    simp only [applyOp, filterC_eq, List.mem_filter, opPred, decide_eq_true_eq, hc, true_and]
    omega

/-- `First()` of a filtered collection is the first chunk of the original that satisfies every
predicate of the chain (nil iff there is none) -/
theorem first_of_filtered (env : StrEnv) (ops : List FilterOp) (cs : List Chunk) :
    collFirst (applyChain env ops cs) = cs.find? (fun c => ops.all (fun op => opPred env op c)) := by
  rw [filter_chain_is_conjunction, (positional_accessors _ 0).2.1, List.head?_filter]

/-- `GetByID` on a filtered collection is the first chunk of the ORIGINAL collection that has the
id and satisfies every predicate — an earlier chunk with the same id that was filtered out does
not shadow it -/
theorem get_by_id_of_filtered_eq (env : StrEnv) (ops : List FilterOp) (cs : List Chunk) (id : Str) :
    collGetByID id (applyChain env ops cs) =
      cs.find? (fun c => ops.all (fun op => opPred env op c) && decide (c.id = id)) := by
  rw [(get_by_id_spec id _).1, filter_chain_is_conjunction]
  exact find_filter_id _ id cs

/-- `GetAllSections` of a filtered collection: exactly the non-empty section titles carried by a
chunk that passes the chain; in particular a subset of the sections of the original -/
theorem sections_of_filtered (env : StrEnv) (ops : List FilterOp) (cs : List Chunk) (t : Str) :
    (t ∈ collSections (applyChain env ops cs) ↔
      (t ≠ [] ∧ ∃ c ∈ cs, c.md.sectionTitle = t ∧ ∀ op ∈ ops, opPred env op c = true)) ∧
    (t ∈ collSections (applyChain env ops cs) → t ∈ collSections cs) := by
  have h1 : t ∈ collSections (applyChain env ops cs) ↔
      (t ≠ [] ∧ ∃ c ∈ cs, c.md.sectionTitle = t ∧ ∀ op ∈ ops, opPred env op c = true) := by
    rw [(sections_spec _).2.1 t]
    constructor
    · rintro ⟨hne, c, hc, e⟩
      obtain ⟨m1, m2⟩ := (filter_chain_mem env ops cs c).mp hc
      exact ⟨hne, c, m1, e, m2⟩
    · rintro ⟨hne, c, hc, e, hall⟩
      exact ⟨hne, c, (filter_chain_mem env ops cs c).mpr ⟨hc, hall⟩, e⟩
  refine ⟨h1, ?_⟩
  intro ht
  obtain ⟨hne, c, hc, e, _⟩ := h1.mp ht
  exact ((sections_spec cs).2.1 t).mpr ⟨hne, c, hc, e⟩

/-- `GetPageRange` of a non-empty filtered collection lies inside the page range of the original -/
theorem page_range_of_filtered_within (env : StrEnv) (ops : List FilterOp) (cs : List Chunk)
    (hne : applyChain env ops cs ≠ []) :
    (collPageRange cs).1 ≤ (collPageRange (applyChain env ops cs)).1 ∧
    (collPageRange (applyChain env ops cs)).2 ≤ (collPageRange cs).2 := by
  have hcs : cs ≠ [] := fun e => hne (by rw [e, filter_chain_is_conjunction]; rfl)
  obtain ⟨_, ⟨c1, m1, e1⟩, _, ⟨c2, m2, e2⟩⟩ := (page_range_spec _).2 hne
  obtain ⟨lo, _, hi, _⟩ := (page_range_spec cs).2 hcs
  have k1 := lo c1 ((filter_chain_mem env ops cs c1).mp m1).1
  have k2 := hi c2 ((filter_chain_mem env ops cs c2).mp m2).1
  rw [e1, e2]
  exact ⟨k1, k2⟩

example : applyChain ⟨id, fun _ _ => false⟩ [] [⟨[], [], {}⟩] ≠ [] := List.cons_ne_nil _ _

/-- with non-negative counts (as every chunker produces), `GetTotalTokens` / `GetTotalWords` of a
filtered collection never exceed those of the original -/
theorem totals_of_filtered_le (env : StrEnv) (ops : List FilterOp) (cs : List Chunk)
    (ht : ∀ c ∈ cs, 0 ≤ c.md.estimatedTokens) (hw : ∀ c ∈ cs, 0 ≤ c.md.wordCount) :
    collTotalTokens (applyChain env ops cs) 0 ≤ collTotalTokens cs 0 ∧
    collTotalWords (applyChain env ops cs) 0 ≤ collTotalWords cs 0 := by
  rw [(totals_spec _).1, (totals_spec _).2, (totals_spec cs).1, (totals_spec cs).2,
    filter_chain_is_conjunction]
  exact ⟨sum_filter_le _ _ cs ht, sum_filter_le _ _ cs hw⟩

example : ∀ c ∈ [(⟨[], [], {}⟩ : Chunk)], 0 ≤ c.md.estimatedTokens ∧ 0 ≤ c.md.wordCount := by
  intro c hc
  simp at hc
  subst hc
  decide

/-- `Count`, `GetTotalTokens`, `GetTotalWords` are additive over concatenated collections -/
theorem totals_concat (cs1 cs2 : List Chunk) :
    collCount (cs1 ++ cs2) = collCount cs1 + collCount cs2 ∧
    collTotalTokens (cs1 ++ cs2) 0 = collTotalTokens cs1 0 + collTotalTokens cs2 0 ∧
    collTotalWords (cs1 ++ cs2) 0 = collTotalWords cs1 0 + collTotalWords cs2 0 := by
  refine ⟨by simp [collCount], ?_, ?_⟩
  · rw [(totals_spec _).1, (totals_spec cs1).1, (totals_spec cs2).1]
    rw [List.map_append, List.sum_append]
  · rw [(totals_spec _).2, (totals_spec cs1).2, (totals_spec cs2).2]
    rw [List.map_append, List.sum_append]

/-- for every batch size ≥ 1: filtering the batches of `BatchExporter` one by one and concatenating
the results is filtering the whole collection — no chunk is lost, duplicated or reordered at a
batch boundary by a filter either; and the filtered sizes of the batches add up -/
theorem filter_batchwise (env : StrEnv) (ops : List FilterOp) (size : Nat) (hs : 1 ≤ size) (chunks : List Chunk) :
    ∃ bs, batchExport size chunks = some bs ∧
      bs.flatMap (fun b => applyChain env ops b.items) = applyChain env ops chunks ∧
      ((bs.map (fun b => (applyChain env ops b.items).length)).sum = (applyChain env ops chunks).length) := by
  obtain ⟨bs, hbs, hcat, _⟩ := batches_partition size hs chunks
  have e1 : bs.flatMap (fun b => applyChain env ops b.items) = applyChain env ops chunks := by
    simp only [filter_chain_is_conjunction]
    rw [← List.filter_flatMap, hcat]
  refine ⟨bs, hbs, e1, ?_⟩
  rw [← e1, List.length_flatMap]

example : (1 : Nat) ≤ 3 := by decide

/-- the JSON Lines export of a concatenation is the concatenation of the exports: the records
handed to `encoding/json` and the bytes written -/
theorem jsonl_concat (enc : Exported → Str) (cfg : Config) (cs1 cs2 : List Chunk) :
    exportRecords cfg (cs1 ++ cs2) = exportRecords cfg cs1 ++ exportRecords cfg cs2 ∧
    exportJSONL enc cfg (cs1 ++ cs2) = exportJSONL enc cfg cs1 ++ exportJSONL enc cfg cs2 := by
  simp only [exportJSONL, exportRecords_eq_map, List.map_append, List.flatMap_append, and_self]

/-- for every batch size ≥ 1 and every encoder: the JSON Lines `Data` of the batches, concatenated
in order, are byte for byte the JSON Lines export of the whole collection — no line is dropped,
duplicated or reordered at a batch boundary -/
theorem jsonl_batches_concat (enc : Exported → Str) (cfg : Config) (size : Nat) (hs : 1 ≤ size)
    (chunks : List Chunk) :
    ∃ bs, batchExport size chunks = some bs ∧
      bs.flatMap (fun b => exportJSONL enc cfg b.items) = exportJSONL enc cfg chunks ∧
      bs.flatMap (fun b => exportRecords cfg b.items) = exportRecords cfg chunks := by
  obtain ⟨bs, hbs, hcat, _⟩ := batches_partition size hs chunks
  refine ⟨bs, hbs, ?_, ?_⟩
  · rw [← hcat]
    simp only [exportJSONL, exportRecords_eq_map, List.map_flatMap, List.flatMap_assoc]
  · rw [← hcat]
    simp only [exportRecords_eq_map, List.map_flatMap]

example : (1 : Nat) ≤ 2 := by decide

/-- the records exported from a filtered collection are a subsequence of the records exported from
the original, and a filtered collection exports exactly one record per retained chunk -/
theorem records_of_filtered (env : StrEnv) (ops : List FilterOp) (cfg : Config) (cs : List Chunk) :
    (exportRecords cfg (applyChain env ops cs)).Sublist (exportRecords cfg cs) ∧
    (exportRecords cfg (applyChain env ops cs)).length =
      cs.countP (fun c => ops.all (fun op => opPred env op c)) := by
  rw [exportRecords_eq_map, exportRecords_eq_map]
  refine ⟨(filter_order_preserved env ops cs).map _, ?_⟩
  rw [List.length_map, filter_chain_is_conjunction, List.countP_eq_length_filter]

/-- the CSV/TSV data rows of a concatenation, for a fixed column list, are the rows of the parts -/
theorem csv_rows_concat (marshal : MapSV → Str) (cfg : Config) (cols : List Str) (cs1 cs2 : List Chunk) :
    csvDataRows marshal cfg cols (cs1 ++ cs2) =
      csvDataRows marshal cfg cols cs1 ++ csvDataRows marshal cfg cols cs2 := by
  simp only [csvDataRows_eq_map, List.map_append]

/-- the CSV/TSV data rows of a filtered collection, for a fixed column list, are a subsequence of
the rows of the original (a filter never alters a row it keeps) -/
theorem csv_rows_of_filtered (marshal : MapSV → Str) (cfg : Config) (cols : List Str) (env : StrEnv)
    (ops : List FilterOp) (cs : List Chunk) :
    (csvDataRows marshal cfg cols (applyChain env ops cs)).Sublist (csvDataRows marshal cfg cols cs) := by
  rw [csvDataRows_eq_map, csvDataRows_eq_map]
  exact (filter_order_preserved env ops cs).map _

end Tabula.C14More
