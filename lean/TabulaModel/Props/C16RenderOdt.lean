import TabulaModel.Lemmas.OdtRender
import TabulaModel.Props.C16
/-!
# C16 — the ODT reader's public views present the body in document order

Theorems about `Model/OdtRender.lean` (`TextWithOptions`, `MarkdownWithOptions`,
`MarkdownWithRAGOptions`, `Document`) and their composition with `odt_elements_interleave`
into the end-to-end statement of the property over the public API's model.
-/
namespace Tabula.C16RenderOdt
open Tabula.Xml Tabula.Odt Tabula.Render

/-- **odt_reader_elements**. The elements the views read are those of `Odt.elements` (the
streaming walk of `Model/Odt.lean`), each with the style name the list writers look at and
the number of column widths: carrying the list style along changes no element. -/
theorem odt_reader_elements (content : Node) (styles : Option Node) :
    (openReader content styles).elements.map (·.elem) = Odt.elements content styles := by
  unfold openReader Odt.elements
  have := congrArg Walk.acc (bodyWalkX_erase content styles)
  simpa [eraseW] using this

/-- **odt_open_elements**. Whether `Open` succeeds and, when it does, the element list are those of
`Odt.openElements` - the walk of `Model/Odt.lean`, the function the theorems of `Props/C16.lean` are
about: the style names and column counts the views carry along change neither. -/
theorem odt_open_elements (content : Node) (styles : Option Node) :
    (openReader? content styles).map (·.elements.map (·.elem)) = openElements content styles := by
  unfold openReader? openElements
  rw [bodyWalkX_failed]
  split
  · rfl
  · simp [odt_reader_elements]

/-- **odt_list_style_carried**. Inside the text body a `text:list` that has a style name sets
the style its items are written in; a list without one keeps the style of the list before it
(the reader's `currentListStyle`).
RESTATED: for a list that is decoded to its end (`hdec`: no paragraph of its items nests
`text:span` / `text:a` deeper than `maxInlineDepth`) while the loop is still reading (`hd`).
A list the decoder gives up in ends `parseBodyElements` with the depth error
(`odt_list_gives_up`). -/
theorem odt_list_style_carried (defs : List StyleDef) (tag : Str) (attrs : List (Str × Str)) (kids : List Node) (w : WalkX)
    (hb : w.inBody = true) (hd : w.failed = false) (ht : tag ≠ sOfficeText) (hl : localName tag = sList)
    (hdec : decodes .list kids = true) :
    walkNodeX defs (.elem tag attrs kids) w =
      { w with listStyle := listStyleAfter attrs w.listStyle,
               acc := w.acc ++ (listElems (.elem tag attrs kids)).map fun e => ⟨e, listStyleAfter attrs w.listStyle, 0⟩ } := by
  have hne : (tag == sOfficeText) = false := beq_false_of_ne ht
  simp only [walkNodeX, hne, hb, hd, hl, Bool.false_eq_true, if_false, Bool.not_true]
  have h1 : (sList == sP) = false := by decide
  have h2 : (sList == sH) = false := by decide
  simp only [h1, h2, hdec, Bool.false_eq_true, if_false, BEq.rfl, if_true]

/-- **odt_list_gives_up**. RESTATED (was: the style is set, no item is recorded, the walk reads
on to the end of the paragraph it happened in and stops there without an error): a list the
decoder gives up in records no item and `parseBodyElements` returns the depth error. -/
theorem odt_list_gives_up (defs : List StyleDef) (tag : Str) (attrs : List (Str × Str)) (kids : List Node) (w : WalkX)
    (hb : w.inBody = true) (hd : w.failed = false) (ht : tag ≠ sOfficeText) (hl : localName tag = sList)
    (hdec : decodes .list kids = false) :
    walkNodeX defs (.elem tag attrs kids) w = { w with listStyle := listStyleAfter attrs w.listStyle, failed := true } := by
  have hne : (tag == sOfficeText) = false := beq_false_of_ne ht
  simp only [walkNodeX, hne, hb, hd, hl, Bool.false_eq_true, if_false, Bool.not_true]
  have h1 : (sList == sP) = false := by decide
  have h2 : (sList == sH) = false := by decide
  simp only [h1, h2, hdec, Bool.false_eq_true, if_false, BEq.rfl, if_true]

example : listStyleAfter [([116, 101, 120, 116, 58, 115, 116, 121, 108, 101, 45, 110, 97, 109, 101], [76, 49])] [76, 50] = [76, 49]
    ∧ listStyleAfter [] [76, 50] = [76, 50] := by decide

/-- **odt_text_pieces**. `TextWithOptions` is one piece per element, in order, joined by newlines. -/
theorem odt_text_pieces (rd : Reader) (opts : ExtractOptions) :
    textWithOptions rd opts = joinWith [10] (textPieces rd opts rd.elements [])
    ∧ (textPieces rd opts rd.elements []).length = rd.elements.length :=
  ⟨rfl, textPieces_length rd opts _ _⟩

/-- **odt_text_in_order**. The plain text shows the text of every paragraph that is not
excluded and every cell of every table (row by row) in the order of the reader's elements. -/
theorem odt_text_in_order (rd : Reader) (opts : ExtractOptions) :
    InOrder (rd.elements.map fun e => textTexts rd opts e.elem).flatten (textWithOptions rd opts) :=
  inOrder_joinWith [10] _ _ (textPieces_pieces rd opts _ _)

/-- **odt_text_list_nesting**. A list item is written as two spaces per level, its bullet or
number, and its text; any other paragraph as its text alone. -/
theorem odt_text_list_nesting (ls : List ListStyle) (p : Para) (style : Str) (cs : Counters) :
    (∀ level, p.list = some level →
      (writeParagraphText ls p style cs).1 = indent level ++ textMarker ls style level cs ++ p.text)
    ∧ (p.list = none → (writeParagraphText ls p style cs).1 = p.text) := by
  refine ⟨fun level h => writeParagraphText_item ls p style cs level h, fun h => ?_⟩
  rw [writeParagraphText_plain ls p style cs h]

theorem odt_markdown_in_order (rd : Reader) (opts : ExtractOptions) (o : MdOptions) :
    InOrder (rd.elements.map fun e => mdTexts rd opts e.elem).flatten (markdownRaw rd opts o) := by
  obtain ⟨chunk, hc, ho⟩ := mdLoop_chunk rd opts o rd.elements 0 { out := [], inList := false, cs := [] }
  unfold markdownRaw
  rw [hc]
  simpa using ho

theorem odt_markdown_trim (rd : Reader) (opts : ExtractOptions) (o : MdOptions) :
    ∃ a b, markdownRaw rd opts o = a ++ markdownWithRAGOptions rd opts o ++ b ∧ (∀ c ∈ a, c = 10) ∧ (∀ c ∈ b, c = 10) :=
  trimNL_split _

theorem odt_md_heading_line (rd : Reader) (opts : ExtractOptions) (o : MdOptions) (i : Nat) (p : Para) (st : Str) (n l : Nat) (s : MdState)
    (hex : excluded opts rd.headerTexts rd.footerTexts p.text = false) (hh : p.heading = some l) :
    ∃ sep, (sep = [] ∨ sep = [10]) ∧
      (mdStep rd opts o i ⟨.para p, st, n⟩ s).out = s.out ++ sep ++ repeatStr [35] (mdHeadingLevel o l) ++ [32] ++ p.text ++ [10, 10] := by
  simp only [mdStep, hex, Bool.false_eq_true, if_false, hh]
  cases decide (i > 0) && s.out != [] && s.inList && !p.list.isSome
  · exact ⟨[], Or.inl rfl, by rw [List.append_nil]; rfl⟩
  · exact ⟨[10], Or.inr rfl, rfl⟩

/-- the number of `#`: between 1 and 6 (an ODT heading of level 7..10 is written with six);
without options the heading's level, capped at 6 -/
theorem odt_md_heading_level (o : MdOptions) (l : Nat) :
    (1 ≤ mdHeadingLevel o l ∧ mdHeadingLevel o l ≤ 6) ∧ mdHeadingLevel {} l = min (max l 1) 6 :=
  ⟨mdHeadingLevel_range o l, mdHeadingLevel_default l⟩

theorem odt_md_item_line (rd : Reader) (opts : ExtractOptions) (o : MdOptions) (i : Nat) (p : Para) (st : Str) (n level : Nat)
    (s : MdState) (hex : excluded opts rd.headerTexts rd.footerTexts p.text = false)
    (hh : p.heading = none) (hl : p.list = some level) :
    ∃ sep cs, (sep = [] ∨ sep = [10]) ∧
      (mdStep rd opts o i ⟨.para p, st, n⟩ s).out = s.out ++ sep ++ indent level ++ mdMarker rd.listStyles st level cs ++ p.text ++ [10] := by
  simp only [mdStep, hex, Bool.false_eq_true, if_false, hh, hl, mdListItem_line]
  cases decide (i > 0) && s.out != [] && s.inList && !(some level).isSome
  · exact ⟨[], s.cs, Or.inl rfl, by simp only [Bool.false_eq_true, if_false, List.append_nil, List.append_assoc]⟩
  · exact ⟨[10], s.cs, Or.inr rfl, by simp only [if_true, List.append_assoc]⟩

theorem odt_document_flatten (rd : Reader) : flattenDoc (document rd) = rd.elements.filterMap entryOf := by
  unfold document
  rw [flattenDoc_finalize, docLoop_flat]
  simp [flatState, flattenDoc]

theorem startCol_lt_modelColCount (rows : List (List Cell)) (r i : Nat) (row : List Cell) (c : Cell)
    (hr : rows[r]? = some row) (hc : row[i]? = some c) (hw : 1 ≤ gridWidth c) :
    startCol gridWidth row i < modelColCount rows :=
  startCol_lt_width gridWidth rows r i row c hr hc hw

/-- which declared column counts `ToModelTable` believes: rows x declared columns within
`maxTableGridCells` = 2^20 (the code divides: `len(pt.Rows) > maxTableGridCells/colCount`) -/
theorem declaredCols_within (n cols : Nat) (h : n * cols ≤ 1048576) : declaredCols n cols = cols :=
  (declaredCols_eq n cols).trans (if_pos h)

theorem declaredCols_beyond (n cols : Nat) (h : n * cols > 1048576) : declaredCols n cols = 0 :=
  (declaredCols_eq n cols).trans (if_neg (Nat.not_le.2 h))

/-- **odt_grid_declared_within / odt_grid_declared_beyond / odt_grid_undeclared**: the columns
of the document-model grid. The `table:table-column` elements are believed exactly when rows x
declared columns ≤ 2^20; beyond that, and for a table that declares none, the grid is as wide as
the widest row counted from its cells (a covered placeholder one column, a cell its span). -/
theorem odt_grid_declared_within (rows : List (List Cell)) (cols : Nat) (hc : cols ≠ 0)
    (h : rows.length * cols ≤ 1048576) : gridCols rows cols = cols :=
  (gridCols_eq rows cols).trans (if_pos ⟨hc, h⟩)

theorem odt_grid_declared_beyond (rows : List (List Cell)) (cols : Nat)
    (h : rows.length * cols > 1048576) : gridCols rows cols = modelColCount rows :=
  (gridCols_eq rows cols).trans (if_neg fun hh => absurd hh.2 (Nat.not_le.2 h))

theorem odt_grid_undeclared (rows : List (List Cell)) : gridCols rows 0 = modelColCount rows :=
  (gridCols_eq rows 0).trans (if_neg fun hh => hh.1 rfl)

/-- **odt_model_grid_cells** (every table, every declared column count). The document-model
table `ToModelTable` allocates has one row per parsed row and `gridCols` cells in each:
rows x `gridCols` cells in all. -/
theorem odt_model_grid_cells (rows : List (List Cell)) (cols : Nat) :
    (toModelTable rows cols).map List.length = List.replicate rows.length (gridCols rows cols)
    ∧ gridCells (toModelTable rows cols) = rows.length * gridCols rows cols := by
  unfold toModelTable
  by_cases hne : rows = []
  · subst hne; simp [gridCells]
  · simp only [hne, if_false]
    exact ⟨model_grid_shape gridWidth (fun c : Cell => c.covered) mcellOf _ rows,
      model_grid_cells gridWidth (fun c : Cell => c.covered) mcellOf _ rows⟩

/-- **odt_model_grid_bounded** (no attribute value multiplies the grid, EVERY input). Whatever the `table:table-column`
elements declare - each repetition is bounded by 1024, their number is not -, the document-model
grid holds at most 2^20 cells, or no more than rows x the widest row counted from its cells:
the declared columns never multiply it. (Before the repair 3b0df50:
`odt_model_grid_pinned_counterexample`.) -/
theorem odt_model_grid_bounded (rows : List (List Cell)) (cols : Nat) :
    gridCells (toModelTable rows cols) ≤ max 1048576 (rows.length * modelColCount rows) := by
  rw [(odt_model_grid_cells rows cols).2, gridCols_eq]
  split
  · rename_i hb
    have := hb.2
    unfold maxTableGridCells at this
    omega
  · omega

theorem parseTable_length (tbl : Node) : (parseTable tbl).length = (parseRows tbl).length := by
  unfold parseTable processRowSpans
  rw [spanRows_length, limit_length]

/-- **odt_model_grid_bounded_authored** (no attribute value multiplies the grid, every `table:table` as authored). The
grid `Document()` allocates for an ODT table - rows, spans, declared columns and row-span
placeholders taken together - holds at most 2 x 2^20 cells, or no more than rows x the longest
row counted in `table:table-cell` elements: no attribute value multiplies it. (The factor 2:
placeholders pushed in front of a row can move its last cell across the right edge of the
width `limitTableGrid` judged the table by; a cell is never wider than that width.) -/
theorem odt_model_grid_bounded_authored (tbl : Node) :
    gridCells (toModelTable (parseTable tbl) (columnCount tbl))
      ≤ max (2 * 1048576) ((parseRows tbl).length * widest (parseRows tbl)) := by
  have hb := odt_model_grid_bounded (parseTable tbl) (columnCount tbl)
  rw [parseTable_length] at hb
  have hlive := parseRows_live tbl
  have hw : (parseRows tbl).length * modelColCount (parseTable tbl)
      ≤ max (2 * 1048576) ((parseRows tbl).length * widest (parseRows tbl)) := by
    rcases parseTable_cases tbl with ⟨he, hin⟩ | he | ⟨he, hs⟩
    · rw [he]
      have h3 := Nat.mul_le_mul_left (parseRows tbl).length (processRowSpans_width (parseRows tbl) hlive)
      rw [Nat.mul_left_comm] at h3
      unfold maxTableGridCells at hin
      omega
    · rw [he, modelColCount_resetSpans _ hlive]
      omega
    · rw [he, modelColCount_nospans _ hlive fun row hrow c hc =>
        Nat.le_antisymm (hasSpans_false _ hs row hrow c hc).1 (parseRows_pos tbl row hrow c hc)]
      omega
  omega

/-- **odt_model_table_cell**. In the table `ToModelTable` hands to the document model, the
authored cell number `i` of parsed row `r` (no covered placeholder, at least one column wide)
stands at row `r`, column = the grid widths of the cells before it in its row added up (a
covered placeholder counts one column, an authored cell its column span), with its text, its
row span and its column span - provided it starts inside the grid.
RESTATED with the exact condition `hcc`: the table declares no columns, or rows x declared
columns exceed 2^20 (in both cases the columns are counted from the cells and every cell starts
inside the grid), or the cell starts before the declared number of columns. -/
theorem odt_model_table_cell (rows : List (List Cell)) (cols r i : Nat) (row : List Cell) (c : Cell)
    (hr : rows[r]? = some row) (hc : row[i]? = some c) (hcov : c.covered = false) (hw : 1 ≤ c.colSpan)
    (hcc : cols = 0 ∨ rows.length * cols > 1048576 ∨ startCol gridWidth row i < cols) :
    ((toModelTable rows cols)[r]?).bind (·[startCol gridWidth row i]?)
      = some { text := c.text, rowSpan := c.rowSpan, colSpan := c.colSpan } := by
  have hne : rows ≠ [] := by intro h; rw [h] at hr; simp at hr
  have hgw : 1 ≤ gridWidth c := by simp [gridWidth, hcov, hw]
  unfold toModelTable
  simp only [hne, if_false]
  have hlt : startCol gridWidth row i < gridCols rows cols := by
    rw [gridCols_eq]
    split
    · rename_i hb
      rcases hcc with h | h | h
      · exact absurd h hb.1
      · exact absurd hb.2 (Nat.not_le.2 h)
      · exact h
    · exact startCol_lt_modelColCount rows r i row c hr hc hgw
  exact model_grid_cell gridWidth (fun c : Cell => c.covered) mcellOf _ rows r i row c hr hc hcov hgw hlt

/-- non-vacuity: the 2x2 merge of `Props/C16.lean` after `processRowSpans`, in the document model -/
example :
    let c (t : Str) (cs rs : Nat) : Cell := { text := t, colSpan := cs, rowSpan := rs, covered := false }
    toModelTable (processRowSpans [[c [65] 2 2, c [66] 1 1], [c [67] 1 1]]) 0
      = [[⟨[65], 2, 2⟩, blankCell, ⟨[66], 1, 1⟩], [blankCell, blankCell, ⟨[67], 1, 1⟩]] := by decide +kernel

/-- one declared column fewer than the cells take: the grid is two columns wide and the third
cell of the first row is left out; declared columns out of proportion (2 x 600000 > 2^20) are
not believed and the grid is as wide as the cells -/
example :
    let c (t : Str) : Cell := { text := t, colSpan := 1, rowSpan := 1, covered := false }
    toModelTable [[c [65], c [66], c [67]], [c [68]]] 2 = [[⟨[65], 1, 1⟩, ⟨[66], 1, 1⟩], [⟨[68], 1, 1⟩, blankCell]]
    ∧ toModelTable [[c [65], c [66], c [67]], [c [68]]] 600000
        = [[⟨[65], 1, 1⟩, ⟨[66], 1, 1⟩, ⟨[67], 1, 1⟩], [⟨[68], 1, 1⟩, blankCell, blankCell]] := by decide +kernel

/-- the edge: 1024 rows x 1024 declared columns = 2^20 exactly - the declared columns size the
grid; one row more, or one column more, and the columns are counted from the cells (here: one) -/
def oneCell : Cell := { text := [65], colSpan := 1, rowSpan := 1, covered := false }

example : gridCols (List.replicate 1024 [oneCell]) 1024 = 1024
    ∧ gridCols (List.replicate 1025 [oneCell]) 1024 = modelColCount (List.replicate 1025 [oneCell])
    ∧ gridCols (List.replicate 1024 [oneCell]) 1025 = modelColCount (List.replicate 1024 [oneCell])
    ∧ modelColCount (List.replicate 1025 [oneCell]) = 1 ∧ modelColCount (List.replicate 1024 [oneCell]) = 1 := by
  refine ⟨?_, ?_, ?_, modelColCount_replicate [oneCell] 1024, modelColCount_replicate [oneCell] 1023⟩
  · exact odt_grid_declared_within _ _ (by decide) (by rw [List.length_replicate]; decide)
  · exact odt_grid_declared_beyond _ _ (by rw [List.length_replicate]; decide)
  · exact odt_grid_declared_beyond _ _ (by rw [List.length_replicate]; decide)

/-- the size of the grid before the repair: rows x declared columns, whatever their number -/
theorem toModelTableOld_cells (rows : List (List Cell)) (cols : Nat) (hc : cols ≠ 0) :
    gridCells (toModelTableOld rows cols) = rows.length * cols := by
  unfold toModelTableOld
  by_cases hne : rows = []
  · subst hne; simp [gridCells]
  · simp only [hne, hc, if_false, ne_eq, not_false_eq_true, if_true]
    exact model_grid_cells gridWidth (fun c : Cell => c.covered) mcellOf _ rows

/-- **odt_model_grid_pinned_counterexample**. The witness of the repaired defect (3b0df50): 128
rows of one cell under 128 `table:table-column` elements repeated 1024 times each - 131072
declared columns, an 850-byte document. Before the repair `ToModelTable` allocated
128 x 131072 = 16.7 million cells; now it allocates 128, one per row, and the bound of
`odt_model_grid_bounded` holds. -/
theorem odt_model_grid_pinned_counterexample :
    gridCells (toModelTableOld (List.replicate 128 [oneCell]) 131072) = 16777216
    ∧ ¬ gridCells (toModelTableOld (List.replicate 128 [oneCell]) 131072)
        ≤ max 1048576 ((List.replicate 128 [oneCell]).length * modelColCount (List.replicate 128 [oneCell]))
    ∧ gridCells (toModelTable (List.replicate 128 [oneCell]) 131072) = 128 := by
  have hm : modelColCount (List.replicate 128 [oneCell]) = 1 := modelColCount_replicate [oneCell] 127
  have hold : gridCells (toModelTableOld (List.replicate 128 [oneCell]) 131072) = 16777216 := by
    rw [toModelTableOld_cells _ _ (by decide), List.length_replicate]
  refine ⟨hold, ?_, ?_⟩
  · rw [hold, hm, List.length_replicate]
    decide
  · rw [(odt_model_grid_cells _ _).2, odt_grid_declared_beyond _ _ (by rw [List.length_replicate]; decide), hm, List.length_replicate]

theorem excluded_default (hdr ftr : List Str) (t : Str) : excluded {} hdr ftr t = false := by
  unfold excluded Tabula.HF.shouldExcludeParagraph
  simp

theorem textPieces_default_headers (rd : Reader) (h f : List Str) :
    ∀ (els : List ElemX) (cs : Counters),
      textPieces rd {} els cs = textPieces { rd with headerTexts := h, footerTexts := f } {} els cs := by
  intro els
  induction els with
  | nil => intro cs; rfl
  | cons e rest ih =>
    intro cs
    have hp : textPiece rd {} e cs = textPiece { rd with headerTexts := h, footerTexts := f } {} e cs := by
      obtain ⟨el, st, n⟩ := e
      cases el with
      | para p => simp only [textPiece, excluded_default, Bool.false_eq_true, if_false]
      | table rows => rfl
    simp only [textPieces, hp, ih]

theorem mdLoop_default_headers (rd : Reader) (h f : List Str) (o : MdOptions) :
    ∀ (els : List ElemX) (i : Nat) (s : MdState),
      mdLoop rd {} o els i s = mdLoop { rd with headerTexts := h, footerTexts := f } {} o els i s :=
  mdLoop_congr_step rd _ {} {} o o fun i e s => by
    obtain ⟨el, st, n⟩ := e
    cases el with
    | para p => simp only [mdStep, excluded_default, Bool.false_eq_true, if_false]
    | table rows => rfl

/-- **odt_headers_never_leak**. With the default options the plain text, the Markdown and the
document model do not depend on the header and footer texts of the master pages: whatever
they hold, nothing of it reaches the body. -/
theorem odt_headers_never_leak (rd : Reader) (h f : List Str) (o : MdOptions) :
    text rd = text { rd with headerTexts := h, footerTexts := f }
    ∧ markdownWithRAGOptions rd {} o = markdownWithRAGOptions { rd with headerTexts := h, footerTexts := f } {} o
    ∧ document rd = document { rd with headerTexts := h, footerTexts := f } := by
  refine ⟨?_, ?_, rfl⟩
  · unfold text textWithOptions
    rw [textPieces_default_headers rd h f]
  · unfold markdownWithRAGOptions markdownRaw
    rw [mdLoop_default_headers rd h f]

/-- the texts an element shows with the default options -/
def shownText (e : Elem) : List Str :=
  match e with
  | .para p => [p.text]
  | .table rows => tableTextCells (rrows rows)

/-- the statement of `odt_end_to_end` about the reader `Open` builds -/
theorem odt_reader_end_to_end (docTag bodyTag : Str) (da ba ta : List (Str × Str)) (pre kids post : List Node) (styles : Option Node)
    (hdoc : docTag ≠ sOfficeText) (hbody : bodyTag ≠ sOfficeText)
    (hpre : noTextList pre = true) (hpost : noTextList post = true) (hk : noTextList kids = true)
    (hdec : decodesList kids = true) :
    let content : Node := .elem docTag da (pre ++ [.elem bodyTag ba [.elem sOfficeText ta kids]] ++ post)
    let rd := openReader content styles
    let els := elemsOfList (allStyles content styles) kids
    rd.elements.map (·.elem) = els
    ∧ InOrder (els.map shownText).flatten (text rd)
    ∧ InOrder (els.map (mdTexts rd {})).flatten (markdownRaw rd {} {})
    ∧ (∃ a b, markdownRaw rd {} {} = a ++ markdown rd ++ b ∧ (∀ c ∈ a, c = 10) ∧ (∀ c ∈ b, c = 10))
    ∧ flattenDoc (document rd) = rd.elements.filterMap entryOf := by
  intro content rd els
  have hels : rd.elements.map (·.elem) = els := by
    rw [odt_reader_elements]
    exact C16.odt_elements_interleave docTag bodyTag da ba ta pre kids post styles hdoc hbody hpre hpost hk hdec
  refine ⟨hels, ?_, ?_, odt_markdown_trim rd {} {}, odt_document_flatten rd⟩
  · have := odt_text_in_order rd {}
    have hshown : (rd.elements.map fun e => textTexts rd {} e.elem) = els.map shownText := by
      rw [← hels, List.map_map]
      apply List.map_congr_left
      intro e _
      simp only [Function.comp]
      cases e.elem with
      | para p => simp [textTexts, shownText, excluded_default]
      | table rows => rfl
    rw [hshown] at this
    exact this
  · have := odt_markdown_in_order rd {} {}
    have hmd : (rd.elements.map fun e => mdTexts rd {} e.elem) = els.map (mdTexts rd {}) := by
      rw [← hels, List.map_map]; rfl
    rw [hmd] at this
    exact this

/-- **odt_end_to_end**. For every content.xml tree whose `office:text` sits in `office:body`
(nothing else named `office:text`) and every styles.xml: `Open` succeeds and the reader's
elements are what the children of `office:text` stand for, in source order (`elemsOfList`:
paragraphs, headings, the items of lists with their nesting level, tables; wrappers in place);
`Text()` shows their texts in that order, so does the Markdown buffer, of which `Markdown()` cuts
only newlines at the ends; the page of `Document()`, lists taken apart, is these elements in that
order with their heading levels, list levels and table grids.
RESTATED (was: for every such tree; then: with `hdec`, and beyond the bound a silently truncated
document): with `hdec` - every body element is decoded to its end, i.e. no paragraph of a body
element nests `text:span` / `text:a` deeper than `maxInlineDepth` = 10000
(`C16Bounds.odt_decodes_iff_depth`) - `Open` succeeds and the reader presents the body as stated.
Beyond the bound `odt_refused`: `Open` returns an error, nothing is presented - a document is
shown in full or not at all. -/
theorem odt_end_to_end (docTag bodyTag : Str) (da ba ta : List (Str × Str)) (pre kids post : List Node) (styles : Option Node)
    (hdoc : docTag ≠ sOfficeText) (hbody : bodyTag ≠ sOfficeText)
    (hpre : noTextList pre = true) (hpost : noTextList post = true) (hk : noTextList kids = true)
    (hdec : decodesList kids = true) :
    let content : Node := .elem docTag da (pre ++ [.elem bodyTag ba [.elem sOfficeText ta kids]] ++ post)
    ∃ rd, openReader? content styles = some rd ∧
      (let els := elemsOfList (allStyles content styles) kids
       rd.elements.map (·.elem) = els
       ∧ InOrder (els.map shownText).flatten (text rd)
       ∧ InOrder (els.map (mdTexts rd {})).flatten (markdownRaw rd {} {})
       ∧ (∃ a b, markdownRaw rd {} {} = a ++ markdown rd ++ b ∧ (∀ c ∈ a, c = 10) ∧ (∀ c ∈ b, c = 10))
       ∧ flattenDoc (document rd) = rd.elements.filterMap entryOf) := by
  intro content
  refine ⟨openReader content styles, ?_, odt_reader_end_to_end docTag bodyTag da ba ta pre kids post styles hdoc hbody hpre hpost hk hdec⟩
  unfold openReader?
  rw [bodyWalkX_failed, C16.odt_body_walk_within docTag bodyTag da ba ta pre kids post styles hdoc hbody hpre hpost hk hdec]
  rfl

/-- **odt_refused**. A content.xml in which a paragraph of a body element nests `text:span` /
`text:a` deeper than `maxInlineDepth` is refused: `odt.Open` returns the error of
`parseContent`, so there is no element list and no view (the three `tabula.Open(f)` views return
the error) - what `docx_refused` says of the DOCX reader. -/
theorem odt_refused (docTag bodyTag : Str) (da ba ta : List (Str × Str)) (pre kids post : List Node) (styles : Option Node)
    (hdoc : docTag ≠ sOfficeText) (hbody : bodyTag ≠ sOfficeText)
    (hpre : noTextList pre = true) (hk : noTextList kids = true)
    (hdec : decodesList kids = false) :
    let content : Node := .elem docTag da (pre ++ [.elem bodyTag ba [.elem sOfficeText ta kids]] ++ post)
    openElements content styles = none ∧ openReader? content styles = none := by
  intro content
  have h1 := C16.odt_elements_refused docTag bodyTag da ba ta pre kids post styles hdoc hbody hpre hk hdec
  unfold openElements openReader?
  rw [bodyWalkX_failed, h1]
  exact ⟨rfl, rfl⟩

/-- **odt_headers_never_leak** through `Open`: whether the package opens does not depend on the
master pages' header and footer texts (`openReader?` reads them after the body and never fails on
them), and with the default options neither do the three views. -/
theorem odt_headers_never_leak_open (content : Node) (styles : Option Node) (h f : List Str) (o : MdOptions) :
    (openReader? content styles).map text = (openReader? content styles).map (fun rd => text { rd with headerTexts := h, footerTexts := f })
    ∧ (openReader? content styles).map (markdownWithRAGOptions · {} o)
        = (openReader? content styles).map (fun rd => markdownWithRAGOptions { rd with headerTexts := h, footerTexts := f } {} o)
    ∧ (openReader? content styles).map document = (openReader? content styles).map (fun rd => document { rd with headerTexts := h, footerTexts := f }) := by
  cases openReader? content styles with
  | none => exact ⟨rfl, rfl, rfl⟩
  | some rd =>
    have := odt_headers_never_leak rd h f o
    simp only [Option.map_some]
    exact ⟨congrArg some this.1, congrArg some this.2.1, congrArg some this.2.2⟩

theorem mdLoop_congr (rd : Reader) (opts : ExtractOptions) (o o' : MdOptions) (hl : ∀ l, mdHeadingLevel o l = mdHeadingLevel o' l) :
    ∀ (els : List ElemX) (i : Nat) (s : MdState), mdLoop rd opts o els i s = mdLoop rd opts o' els i s :=
  mdLoop_congr_step rd rd opts opts o o' fun i e s => by
    obtain ⟨el, st, n⟩ := e
    cases el with
    | para p => simp only [mdStep, hl]
    | table rows => rfl

/-- **api_views**. `tabula.Open(f).Text()` is the reader's `TextWithOptions` with the
extractor's switches; `.ToMarkdown()` - which passes `rag.DefaultMarkdownOptions()`, heading
cap 6 - is the reader's `MarkdownWithOptions`; `.Document()` is the reader's `Document()`.
With no switch set they are `Text()`, `Markdown()` and `Document()`. -/
theorem api_views (rd : Reader) (a : ApiOptions) :
    apiText rd a = textWithOptions rd { excludeHeaders := a.excludeHeaders, excludeFooters := a.excludeFooters }
    ∧ apiMarkdown rd a = markdownWithOptions rd { excludeHeaders := a.excludeHeaders, excludeFooters := a.excludeFooters }
    ∧ apiDocument rd = document rd
    ∧ apiText rd {} = text rd ∧ apiMarkdown rd {} = markdown rd := by
  have h : ∀ opts, markdownWithRAGOptions rd opts { offset := 0, maxLevel := 6 } = markdownWithOptions rd opts := by
    intro opts
    unfold markdownWithOptions markdownWithRAGOptions markdownRaw
    rw [mdLoop_congr rd opts _ {} mdHeadingLevel_cap6]
  exact ⟨rfl, h _, rfl, rfl, h _⟩

inductive View where
  | text | markdown | rag | document | modelTables | parsed
deriving Repr, DecidableEq

inductive Answer where
  | str (s : Str)
  | doc (d : List DocElem)
  | tables (t : List (List (List MCell)))
  | elems (e : List Elem)
deriving Repr, DecidableEq

def answer (rd : Reader) (opts : ExtractOptions) (o : MdOptions) : View → Answer
  | .text => .str (textWithOptions rd opts)
  | .markdown => .str (markdownWithOptions rd opts)
  | .rag => .str (markdownWithRAGOptions rd opts o)
  | .document => .doc (document rd)
  | .modelTables => .tables (modelTables rd)
  | .parsed => .elems (rd.elements.map (·.elem))

def call (rd : Reader) (opts : ExtractOptions) (o : MdOptions) (v : View) : Reader × Answer := (rd, answer rd opts o v)

def session (opts : ExtractOptions) (o : MdOptions) : Reader → List View → List Answer
  | _, [] => []
  | rd, v :: rest => (call rd opts o v).2 :: session opts o (call rd opts o v).1 rest

theorem odt_views_history_independent (rd : Reader) (opts : ExtractOptions) (o : MdOptions) (calls : List View) :
    session opts o rd calls = calls.map (answer rd opts o) := by
  induction calls with
  | nil => rfl
  | cons v rest ih => simp [session, call, ih]

end Tabula.C16RenderOdt
