import TabulaModel.Lemmas.PdfErrors
/-!
# C06 — token errors propagate, at every call site, for every input

tabula fixes 9c10aa6 ("[ 1 ) ]" never returned) and b66a22e (an input ending inside a token looked
like a clean end of input) made `(*Parser).nextToken` record the first lexical error (`p.err`) and
hand out `TokenEOF` from then on.  The theorems below say, about the model of that code and for
EVERY byte string, that the discipline is complete:

* the recorded error is never cleared, and from the next token on the parser sees `TokenEOF`;
* `ParseObject` reports `io.EOF` exactly when its current token is `TokenEOF` and no error is
  recorded; arrays and dictionaries never report `io.EOF` (an error or a premature end inside a
  container is an error of the container);
* every successful call ends on a token boundary of the input (no byte of a later token is eaten, no
  token is seen twice), so the windows the harness observes (`c06.win`) are `NewParser` windows of
  rests of the input;
* a run of `ParseObject` calls ends with `io.EOF` ONLY IF the lexer tokenizes the whole input without
  an error; a lexical error anywhere (stray `)` or `>`, bad `#` escape, unterminated string or hex
  string, `{`, …) makes the run end with an error.

Helper lemmas: `Lemmas/PdfErrors.lean` (on top of `PdfCoreProgress.lean`).
-/
namespace Tabula.C06Errors
open Tabula.Pdf

/-- the lexer (comments are its tokens) reaches the end of `inp` without an error -/
abbrev Tokenizes (inp : Str) : Prop := Errs.Tokenizes inp

/-- `Tokenizes` is what the lexer run of `Model/LexPos.lean` (op `c06.lexp` / `c06.lex`) computes. -/
theorem tokenizes_iff (inp : Str) : (lexTokens inp).2 = .eof ↔ Tokenizes inp :=
  Errs.eof_iff_tokenizes (Pos.lexTokens_run inp)

/-- `y` is what is left of `x` after one or more complete (non-comment) tokens, none of them the end of
input or the keyword `stream` -/
abbrev Reach (x y : Str) : Prop := Errs.Reach x y

/-- a rest reached over complete tokens is a strictly shorter suffix, and it tokenizes only if the whole does -/
theorem reach_facts (x y : Str) (h : Reach x y) :
    y <:+ x ∧ y.length < x.length ∧ (Tokenizes y → Tokenizes x) :=
  ⟨h.shorter.1, h.shorter.2, h.tokenizes⟩

example : Reach [49, 32, 50] [32, 50] :=
  Errs.Reach.one (t := .integer [49]) (by decide) (by decide) (by decide)

/-- `(*Parser).nextToken` never clears a recorded lexical error. -/
theorem error_is_sticky (s : PState) (h : s.err = true) : s.next.err = true :=
  Errs.next_err s h

/-- The parser state `NewParser` builds on any bytes satisfies: if a lexical error is recorded, the
lookahead slot holds `TokenEOF`; `nextToken` preserves this … -/
theorem error_means_eof_lookahead (x : Str) : (stateAt x).err = true → (stateAt x).peek = some .eof :=
  Errs.errInv_stateAt x

theorem error_discipline_preserved (s : PState) (h : s.err = true → s.peek = some .eof) :
    s.next.err = true → s.next.peek = some .eof :=
  Errs.errInv_next s h

/-- … so after a recorded error the very next current token is `TokenEOF`, with the error still
recorded: the input has ended for the parser. -/
theorem after_error_input_ends (s : PState) (hi : s.err = true → s.peek = some .eof) (he : s.err = true) :
    s.next.cur = some .eof ∧ s.next.err = true ∧ s.next.peek = some .eof := by
  have hp := hi he
  refine ⟨?_, Errs.next_err s he, Errs.errInv_next s hi (Errs.next_err s he)⟩
  rw [PState.next, if_neg (by rw [hp]; simp)]
  simp only [he, if_true, hp]

example : (stateAt [49, 41]).err = true ∧ (stateAt [49, 41]).peek = some .eof := by decide

/-- **`io.EOF` is reported exactly at a clean end**: current token `TokenEOF`, no lexical error recorded
(whatever the nesting depth). -/
theorem clean_eof_iff (f d : Nat) (s : PState) :
    parseObject (f + 1) d s = .error .eof ↔ s.cur = some .eof ∧ s.err = false :=
  Errs.parseObject_eof_iff f d s

/-- Arrays and dictionaries never report `io.EOF`: an element that fails, a missing `]` / `>>`, a key that
is not a name, an input that ends inside — all are errors of the container. -/
theorem containers_never_report_eof (f d : Nat) (s : PState) :
    (∀ acc, parseArray f d s acc ≠ .error .eof) ∧ (∀ acc, parseDict f d s acc ≠ .error .eof) :=
  ⟨fun acc => (Errs.containers_no_eof f).1 d s acc, fun acc => (Errs.containers_no_eof f).2 d s acc⟩

/-- … nor does the `num gen R` lookahead. -/
theorem number_never_reports_eof (s : PState) (v : Str) : parseNumber s v ≠ .error .eof :=
  Errs.parseNumber_no_eof s v

/-- With a recorded error and `TokenEOF` current, `ParseObject` reports the error, at any depth. -/
theorem recorded_error_is_reported (f d : Nat) (s : PState) (hc : s.cur = some .eof) (he : s.err = true) :
    parseObject (f + 1) d s = .error .err := by
  rw [parseObject, hc]
  simp [he]

example : (stateAt [41]).cur = some .eof ∧ (stateAt [41]).err = true := by decide

/-- **Every successful call of `ParseObject`, `parseArray`, `parseDict`** started on the window over the bytes
`x` (any bytes, any fuel, any depth, any accumulator) ends on the window over a rest `y` of `x` that is reached
over complete tokens: nothing of a later token is consumed, no token is seen twice. -/
theorem parse_lands_on_token_boundary (f d : Nat) (x : Str) :
    (∀ o s', parseObject f d (stateAt x) = .ok (o, s') → ∃ y, s' = stateAt y ∧ Reach x y) ∧
    (∀ acc o s', parseArray f d (stateAt x) acc = .ok (o, s') → ∃ y, s' = stateAt y ∧ Reach x y) ∧
    (∀ acc o s', parseDict f d (stateAt x) acc = .ok (o, s') → ∃ y, s' = stateAt y ∧ Reach x y) :=
  ⟨fun o s' h => (Errs.land f).1 d x o s' h,
   fun acc o s' h => (Errs.land f).2.1 d x acc o s' h,
   fun acc o s' h => (Errs.land f).2.2 d x acc o s' h⟩

example : (coreParse [91, 49, 93, 32, 53]).toOption.isSome = true := by decide +kernel

/-- **`io.EOF` only after every byte was tokenized**: if `ParseObject` called again and again ends with
`io.EOF`, the lexer tokenizes the whole input without an error. -/
theorem eof_only_if_tokenized (inp : Str) (h : (coreParseAll inp).2 = .eof) : Tokenizes inp :=
  Errs.coreParseAll_eof inp h

example : (coreParseAll [49, 32, 47, 65, 91, 93]).2 = .eof := by decide +kernel

/-- **A lexical error anywhere in the input is reported**: the run ends with an error, never with a clean
end of input — however many objects were read before it. -/
theorem lexical_error_is_reported (inp : Str) (h : ¬ Tokenizes inp) : (coreParseAll inp).2 = .err := by
  cases he : (coreParseAll inp).2 with
  | err => rfl
  | eof => exact absurd (Errs.coreParseAll_eof inp he) h

/-- the same from any intermediate state `stateAt x`, with any per-call fuel and call bound -/
theorem eof_only_if_tokenized_from (F n : Nat) (x : Str) (acc os : List Obj)
    (h : Prog.parseSeq F n (stateAt x) acc = (os, some .eof)) : Tokenizes x :=
  Errs.parseSeq_eof F n x acc os h

/-- the witnesses of the two fixes, and inputs that end inside a token: none tokenizes … -/
example : ¬ Tokenizes [91, 32, 49, 32, 41, 32, 93] := by          -- "[ 1 ) ]"
  rw [← tokenizes_iff]; decide +kernel
example : ¬ Tokenizes [40, 97, 98, 99] := by                       -- "(abc"
  rw [← tokenizes_iff]; decide +kernel
example : ¬ Tokenizes [49, 32, 60, 52, 49] := by                   -- "1 <41"
  rw [← tokenizes_iff]; decide +kernel
example : ¬ Tokenizes [47, 65, 35, 52] := by                       -- "/A#4"
  rw [← tokenizes_iff]; decide +kernel
/-- … and a legal sequence does -/
example : Tokenizes [49, 32, 37, 99, 13, 10, 47, 65, 40, 41] := by -- "1 %c\r\n/A()"
  rw [← tokenizes_iff]; decide +kernel

/-- Every window the harness reads off the Go parser (`c06.win`: after `NewParser` and after every
successful `ParseObject`) obeys the discipline: a recorded error comes with `TokenEOF` in the lookahead slot. -/
theorem observed_windows_obey_discipline (inp : Str) :
    ∀ w ∈ (windowTrace inp).1, w.err = true → w.peek = some .eof := by
  unfold windowTrace
  apply Errs.windowTrace_go_inv inp _ inp
  intro w hw
  simp only [List.mem_singleton] at hw
  subst hw
  exact Errs.errInv_stateAt inp

end Tabula.C06Errors
