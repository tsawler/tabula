import TabulaModel.Lemmas.HtmlLost
import TabulaModel.Props.C19Text
/-!
# C19 — the content half, EXACTLY: what is returned, what is lost, and nothing else

`content_complete_unless_wrapped_paragraph` (Props/C19Text.lean) states the content half of the
property under the hypothesis `noWrapped`; the finding C19/content-missing-para-in-wrapper says the
hypothesis cannot be dropped.  This file removes the hypothesis: for EVERY document, every
exclusion predicate and every raw mode value the wanted text `want` (written from the property
text) is an order-preserving interleaving of the text the elements return and of the text `lost`
(Model/HtmlLost.lean, written from the DOM alone: the inline children of wrapper elements reached
inside a paragraph that has block-level children).  So

* nothing is returned that is not wanted, nothing is returned twice, the order is the wanted order
  (`returned_subsequence_of_wanted`);
* character for character, wanted = returned + lost (`wanted_is_returned_plus_lost`);
* the content half of the property holds for a document and a mode IF AND ONLY IF the lost text of
  that document under that mode is blank (`content_complete_iff`), and `lost` says which text that
  is; `noWrapped` (which does not look at the mode) is sufficient under every mode
  (`no_wrapped_loses_nothing`), and a document may fail `noWrapped` and still lose nothing in a mode
  that excludes the wrapper (`excluded_wrapper_loses_nothing`).

All statements are about the walk (`extractBodyWithMode` on a tree) and hold for every tree; a
public call runs it on a tree `OpenReader` admitted (Props/C19Api.lean).  Text is compared up to
white space (`squeeze`), as in Props/C19Text.lean.
-/
namespace Tabula.C19Lost
open Tabula.Html

/-- INTERLEAVING (every document, every predicate): the wanted text is the returned text with the
lost text inserted in place — each character of the wanted text comes from exactly one of the
two, and both keep their order. -/
theorem wanted_interleaves_returned_and_lost (p : Pos → Dom → Bool) (body : Dom) :
    Shuffle (squeeze (elementsText (extractWith p body)))
      (squeeze (lost p (hasWrapper body) .root false body))
      (squeeze (want p (hasWrapper body) .root false body)) := by
  rw [Tabula.C19Text.content_text_complete]
  exact want_shuffle p (hasWrapper body) body .root false

/-- RETURNED ONCE, IN ORDER, NOTHING EXTRA (every document, every predicate, no hypothesis): the
text the returned elements carry is a subsequence of the wanted text. -/
theorem returned_subsequence_of_wanted (p : Pos → Dom → Bool) (body : Dom) :
    (squeeze (elementsText (extractWith p body))).Sublist
      (squeeze (want p (hasWrapper body) .root false body)) :=
  (wanted_interleaves_returned_and_lost p body).sublist_left

/-- the lost text sits in the wanted text too, in document order -/
theorem lost_subsequence_of_wanted (p : Pos → Dom → Bool) (body : Dom) :
    (squeeze (lost p (hasWrapper body) .root false body)).Sublist
      (squeeze (want p (hasWrapper body) .root false body)) :=
  (wanted_interleaves_returned_and_lost p body).sublist_right

/-- ACCOUNTING: the wanted text is, as a multiset of characters, the returned text plus the lost
text; in particular the lengths add up. -/
theorem wanted_is_returned_plus_lost (p : Pos → Dom → Bool) (body : Dom) :
    (squeeze (want p (hasWrapper body) .root false body)).Perm
      (squeeze (elementsText (extractWith p body)) ++ squeeze (lost p (hasWrapper body) .root false body)) ∧
    (squeeze (want p (hasWrapper body) .root false body)).length =
      (squeeze (elementsText (extractWith p body))).length +
      (squeeze (lost p (hasWrapper body) .root false body)).length :=
  ⟨(wanted_interleaves_returned_and_lost p body).perm, (wanted_interleaves_returned_and_lost p body).length⟩

/-- THE CONTENT HALF, EXACTLY (every document, every predicate): the returned text is the wanted
text if and only if the lost text is blank. -/
theorem content_complete_iff (p : Pos → Dom → Bool) (body : Dom) :
    squeeze (elementsText (extractWith p body)) = squeeze (want p (hasWrapper body) .root false body) ↔
    squeeze (lost p (hasWrapper body) .root false body) = [] := by
  have h := (wanted_interleaves_returned_and_lost p body).eq_left_iff
  constructor
  · intro e; exact h.mp e.symm
  · intro e; exact (h.mpr e).symm

/-- … for the element list of a reader, any raw mode value, from the document node -/
theorem content_complete_iff_api (m : Int) (doc : Dom) :
    squeeze (elementsText (extractI m doc)) = squeeze (wantOf m doc) ↔ squeeze (lostOf m doc) = [] := by
  unfold extractI wantOf lostOf
  exact content_complete_iff _ _

/-- … and the subsequence statement there -/
theorem returned_subsequence_of_wanted_api (m : Int) (doc : Dom) :
    (squeeze (elementsText (extractI m doc))).Sublist (squeeze (wantOf m doc)) := by
  unfold extractI wantOf
  exact returned_subsequence_of_wanted _ _

/-- `noWrapped` (the hypothesis of `content_complete_unless_wrapped_paragraph`, which does not
look at the predicate) is sufficient under every predicate: such a document loses nothing. -/
theorem no_wrapped_loses_nothing (p : Pos → Dom → Bool) (body : Dom) (h : noWrapped body = true) :
    squeeze (lost p (hasWrapper body) .root false body) = [] :=
  lost_of_ok p (hasWrapper body) body .root false h

example : noWrapped (.elem T.body [] [.elem T.p [] [.text [120]]]) = true := by decide

/-- a subtree whose root is a content leaf (heading, table, pre/code, block quote, br/hr) loses
nothing, inside or outside a paragraph with block-level children -/
theorem content_leaf_loses_nothing (p : Pos → Dom → Bool) (w : Bool) (pos : Pos) (inP : Bool)
    (tag : Str) (attrs : List (Str × Str)) (kids : List Dom)
    (hc : (∃ l, classify tag = .heading l) ∨ classify tag = .table ∨ classify tag = .code ∨
          classify tag = .quote ∨ classify tag = .void) :
    lost p w pos inP (.elem tag attrs kids) = [] := by
  unfold lost
  rcases hc with ⟨l, hc⟩ | hc | hc | hc | hc <;> simp [hc]

example : (∃ l, classify T.h2 = .heading l) := ⟨2, by decide⟩

/-- WHICH text is lost, one level: a wrapper (an element that is neither skipped, excluded, a
content element nor a `div`) met inside a paragraph with block-level children loses exactly the
text nodes of its inline children, in place, plus what its other children lose. -/
theorem wrapper_loses_own_text (p : Pos → Dom → Bool) (w : Bool) (pos : Pos)
    (tag : Str) (attrs : List (Str × Str)) (kids : List Dom)
    (hs : isSkip tag = false) (hp : p pos (.elem tag attrs kids) = false) (hc : classify tag = .other) :
    lost p w pos true (.elem tag attrs kids) = lostW p w (pos.kid w tag) kids ∧
    (∀ (k : Dom) (rest : List Dom) (kp : Pos), isInline k = true →
      lostW p w kp (k :: rest) = tnFlat k ++ lostW p w kp rest) ∧
    (∀ (k : Dom) (rest : List Dom) (kp : Pos), isInline k = false →
      lostW p w kp (k :: rest) = lost p w kp true k ++ lostW p w kp rest) := by
  refine ⟨?_, ?_, ?_⟩
  · unfold lost; simp [hs, hp, hc]
  · intro k rest kp hk; simp [lostW, hk]
  · intro k rest kp hk; simp [lostW, hk]

example : isSkip Tabula.C19.tagSpan = false ∧ classify Tabula.C19.tagSpan = .other := by decide

/-- the same wrapper outside such a paragraph loses nothing of its own (its direct text is in no
content element, so it is not wanted either): only what its children lose -/
theorem wrapper_outside_paragraph (p : Pos → Dom → Bool) (w : Bool) (pos : Pos)
    (tag : Str) (attrs : List (Str × Str)) (kids : List Dom)
    (hs : isSkip tag = false) (hp : p pos (.elem tag attrs kids) = false) (hc : classify tag = .other) :
    lost p w pos false (.elem tag attrs kids) = lostL p w (pos.kid w tag) kids := by
  unfold lost; simp [hs, hp, hc]

/-- an excluded or skipped subtree loses nothing (it is not wanted) -/
theorem excluded_loses_nothing (p : Pos → Dom → Bool) (w : Bool) (pos : Pos) (inP : Bool)
    (tag : Str) (attrs : List (Str × Str)) (kids : List Dom)
    (h : isSkip tag = true ∨ p pos (.elem tag attrs kids) = true) :
    lost p w pos inP (.elem tag attrs kids) = [] := by
  unfold lost
  rcases h with h | h
  · simp [h]
  · by_cases hs : isSkip tag = true <;> simp [hs, h]

/-- the witness of the finding: wanted "xcyd", returned "xcd", lost exactly "y" -/
theorem lost_witness :
    squeeze (lost (excluded .none) false .root false Tabula.C19.witnessPWrapper) = [121] ∧
    squeeze (want (excluded .none) false .root false Tabula.C19.witnessPWrapper) = [120, 99, 121, 100] ∧
    squeeze (elementsText (extract .none Tabula.C19.witnessPWrapper)) = [120, 99, 100] := by
  decide +kernel

/-- … and the sectioning-element witness: wanted "xyzc", returned "xzc", lost exactly "y" -/
theorem lost_witness_section :
    squeeze (lost (excluded .none) false .root false Tabula.C19.witnessPSection) = [121] := by
  decide +kernel

/-- `<p>x<table>…c…</table><span class="menu">y<table>…d…</table></span></p>`: the wrapper of the
witness with a class from the exclusion vocabulary -/
def witnessExcludedWrapper : Dom :=
  .elem T.body [] [.elem T.p [] [.text [120],
    .elem T.table [] [.elem T.tr [] [.elem T.td [] [.text [99]]]],
    .elem Tabula.C19.tagSpan [(A.class, [109, 101, 110, 117])] [.text [121],
      .elem T.table [] [.elem T.tr [] [.elem T.td [] [.text [100]]]]]]]

/-- `noWrapped` is sufficient, not necessary: this document fails it, loses "y" in modes None and
Explicit, and loses NOTHING in modes Standard and Aggressive (the wrapper is excluded there, so
its text is not wanted) — the content half holds in those modes, by `content_complete_iff`. -/
theorem excluded_wrapper_loses_nothing :
    noWrapped witnessExcludedWrapper = false ∧
    squeeze (lost (excluded .none) false .root false witnessExcludedWrapper) = [121] ∧
    squeeze (lost (excluded .explicit) false .root false witnessExcludedWrapper) = [121] ∧
    squeeze (lost (excluded .standard) false .root false witnessExcludedWrapper) = [] ∧
    squeeze (lost (excluded .aggressive) false .root false witnessExcludedWrapper) = [] ∧
    squeeze (elementsText (extract .standard witnessExcludedWrapper)) =
      squeeze (want (excluded .standard) false .root false witnessExcludedWrapper) := by
  decide +kernel

/-! ### list items whose nested lists sit inside wrappers -/

/-- an element child that is not itself a ul/ol, or a text node -/
def plainItemChild : Dom → Bool
  | .text _ => true
  | .elem tag _ _ => !(tag == T.ul || tag == T.ol)
  | .other _ => false

theorem item_children_once (p : Pos → Dom → Bool) (w : Bool) (kp : Pos) : ∀ (kids : List Dom),
    kids.all plainItemChild = true →
      kids.flatMap directSrc = tnFlatL kids ∧ srcLi p w kp kids = [] ∧ wantLi p w kp kids = [] ∧
      lostLi p w kp kids = []
  | [], _ => by simp [tnFlatL, srcLi, wantLi, lostLi]
  | k :: ks, h => by
      simp only [List.all_cons, Bool.and_eq_true] at h
      obtain ⟨ih1, ih2, ih3, ih4⟩ := item_children_once p w kp ks h.2
      cases k with
      | text s => simp [directSrc, tnFlatL, tnFlat, srcLi, wantLi, lostLi, isListElem, ih1, ih2, ih3, ih4]
      | other o => simp [plainItemChild] at h
      | elem tag attrs kk =>
        have hl : (tag == T.ul || tag == T.ol) = false := by simpa [plainItemChild] using h.1
        have hl' : ¬ (tag = T.ul ∨ tag = T.ol) := by simpa using hl
        simp [directSrc, tnFlatL, srcLi, wantLi, lostLi, isListElem, hl, hl', ih1, ih2, ih3, ih4]

/-- LIST ITEMS WHOSE NESTED LISTS SIT INSIDE WRAPPERS (`<li>a<span><ul><li>b</li></ul></span></li>`,
`<li>a<div><ul>…</ul></div></li>`): when no ul/ol is a DIRECT child of the item, the item's source
text and wanted text are exactly all text nodes below it, each once, in document order — the
nested list's text is part of the item's own text and is not visited a second time. -/
theorem item_with_wrapped_lists_once (p : Pos → Dom → Bool) (w : Bool) (pos : Pos) (inP : Bool)
    (tag : Str) (attrs : List (Str × Str)) (kids : List Dom)
    (hs : isSkip tag = false) (hp : p pos (.elem tag attrs kids) = false) (hc : classify tag = .li)
    (h : kids.all plainItemChild = true) :
    src p w pos (.elem tag attrs kids) = tnFlatL kids ∧
    want p w pos inP (.elem tag attrs kids) = tnFlatL kids ∧
    lost p w pos inP (.elem tag attrs kids) = [] := by
  obtain ⟨h1, h2, h3, h4⟩ := item_children_once p w (pos.kid w tag) kids h
  refine ⟨?_, ?_, ?_⟩
  · unfold src; simp [hs, hp, hc, h1, h2]
  · unfold want; simp [hs, hp, hc, h1, h3]
  · unfold lost; simp [hs, hp, hc, h4]

/-- `<li>a<span><ul><li>b</li></ul></span></li>`: one item "ab" (up to white space), b once -/
example : squeeze (elementsText (extract .none (.elem T.body [] [.elem T.ul [] [.elem T.li [] [.text [97],
    .elem Tabula.C19.tagSpan [] [.elem T.ul [] [.elem T.li [] [.text [98]]]]]]])) ) = [97, 98] := by
  decide +kernel

end Tabula.C19Lost
