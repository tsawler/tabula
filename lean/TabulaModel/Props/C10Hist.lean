import TabulaModel.Lemmas.BuilderHist
/-!
# C10 — invariants over operation histories

The property quantifies over *all sequences* of builder calls, terminal and non-terminal
operations and Closes on extractors that share a base.  `Props/C10.lean` proves, for every
such sequence, that a parent is unchanged by what happens to other extractors.  This file
proves the two statements the harness otherwise only observes at run time:

* **descriptors** (`fd_is_owners`, `fd_bounded`, `close_all_releases_all`): at every point of
  every history the number of open readers equals the number of extractors that currently own
  one (plus the reader the caller lent to `FromReader`); closing every extractor — once or
  any number of times — brings it back to what the caller holds;
* **answers** (`answer_of_lineage`, `history_independent`, `run_answers`): whatever ran
  before — on this extractor, on the ones it was derived from, on siblings — the answer of
  every operation is the one an extractor freshly built by the same chain of configuration
  calls gives; it is a function (`termStatic`) of the chain, the file and the format only.

All statements are about the store model of `Model/Builder.lean` (all fourteen terminal
operations, all formats); the bases are `Open(f)` for a file name of any format and
`FromReader(r)`.
-/
namespace Tabula.C10Hist
open Tabula.PageSel Tabula.Builder

/-! ## descriptors over histories -/

theorem fd_base_open (f : Fmt) : FdInv 0 (openBaseF f) := by
  unfold FdInv owners Store.fdCount openBaseF; rfl

theorem fd_base_reader : FdInv 1 readerBase := by
  unfold FdInv owners Store.fdCount readerBase; rfl

/-- **fd_is_owners**: after any history on extractors grown from `Open(f)`, the number of
open readers is the number of extractors that currently own one; with a `FromReader` base
there is in addition the caller's own reader. -/
theorem fd_is_owners (w : World) (f : Fmt) (ops : List Op) :
    (exec w (openBaseF f) ops).fdCount = owners (exec w (openBaseF f) ops) ∧
    (exec w readerBase ops).fdCount = 1 + owners (exec w readerBase ops) := by
  constructor
  · have := fd_exec w 0 ops (inv_openBaseF f) (fd_base_open f)
    unfold FdInv at this; omega
  · exact fd_exec w 1 ops inv_readerBase fd_base_reader

/-- no history makes the number of open readers exceed the number of extractors -/
theorem fd_bounded (w : World) (f : Fmt) (ops : List Op) :
    (exec w (openBaseF f) ops).fdCount ≤ (exec w (openBaseF f) ops).exts.length := by
  rw [(fd_is_owners w f ops).1]
  exact List.countP_le_length

/-- **close_all_releases_all**: after ANY history — successful and failed operations, on the
base, on derived extractors, in any order — closing every extractor releases every reader the
family opened: none is left for an `Open(f)` base, only the caller's own for `FromReader`.
(Since `ops` is arbitrary it may itself end in Closes: closing again leaves the count there.) -/
theorem close_all_releases_all (w : World) (f : Fmt) (ops : List Op) :
    (exec w (exec w (openBaseF f) ops) (closeAll (List.range (exec w (openBaseF f) ops).exts.length))).fdCount = 0 ∧
    (exec w (exec w readerBase ops) (closeAll (List.range (exec w readerBase ops).exts.length))).fdCount = 1 :=
  ⟨fd_after_closeAll w (inv_exec w ops (inv_openBaseF f)) (fd_exec w 0 ops (inv_openBaseF f) (fd_base_open f)),
   fd_after_closeAll w (inv_exec w ops inv_readerBase) (fd_exec w 1 ops inv_readerBase fd_base_reader)⟩

example : let w : World := ⟨true, some 3⟩
    let ops := [Op.nonTerm 0 .pageCount, .derive 0 (.pages [2]), .nonTerm 1 .isMultiColumn,
      .derive 1 .byColumn, .term 2 .lines, .nonTerm 2 .pageCount]
    (exec w openBase ops).fdCount = 3 ∧ owners (exec w openBase ops) = 3 ∧
      (exec w (exec w openBase ops) (closeAll [0, 1, 2])).fdCount = 0 := by decide

/-! ## answers over histories -/

theorem lineage_step (L : List (List BCall)) (op : Op) (ops : List Op) :
    lineage L (op :: ops) = lineage (lineage L [op]) ops :=
  lineage_cons L op ops

/-- a lineage entry exists exactly for the extractors of the store -/
theorem lin_some {e0 : Ext} {L : List (List BCall)} {s : Store} (h : LinInv e0 L s) (i : Nat) :
    (L[i]?).isSome = (s.exts[i]?).isSome := by
  rcases lin_get h i with ⟨he, hL⟩ | ⟨e, cs, he, hL, _⟩ <;> rw [he, hL] <;> rfl

/-- in a reachable state of a family, the answer to any operation is the one predicted from
the chain of calls behind its receiver -/
theorem step_static_answer (w : World) (e0 : Ext) {L : List (List BCall)} {s : Store}
    (hs : StoreInv s) (hf : FamInv w s) (hl : LinInv e0 L s) (op : Op) :
    (step w s op).2 = staticAnswer w e0 L op :=
  step_answer w e0 hs hf hl op

theorem run_answers_gen (w : World) (e0 : Ext) (ops : List Op) :
    ∀ (L : List (List BCall)) (s : Store), StoreInv s → FamInv w s → LinInv e0 L s →
      (run w s ops).2.map (·.1) = staticRun w e0 L ops := by
  induction ops with
  | nil => intro L s _ _ _; rfl
  | cons op ops ih =>
    intro L s hs hf hl
    have hstep := step_static_answer w e0 hs hf hl op
    have hl' : LinInv e0 (lineage L [op]) (step w s op).1 := lin_exec w e0 [op] hl
    have := ih (lineage L [op]) (step w s op).1 (inv_step w hs op) (fam_step w hs hf op) hl'
    simp only [run, staticRun, List.map_cons]
    rw [hstep, this]

/-- **run_answers**: the answers of a whole history — every derive, PageCount, IsMultiColumn,
IsCharacterLevel, terminal operation and Close, in any interleaving on any extractors of the
family — are the ones predicted operation by operation from the chain of configuration calls
behind each receiver.  Nothing an earlier operation did (opening, closing, failing) shows in a
later answer. -/
theorem run_answers (w : World) (f : Fmt) (ops : List Op) :
    (run w (openBaseF f) ops).2.map (·.1) = staticRun w { format := f } [[]] ops ∧
    (run w readerBase ops).2.map (·.1) =
      staticRun w { hasFile := false, reader := some 0, owns := false, opened := true } [[]] ops :=
  ⟨run_answers_gen w _ ops _ _ (inv_openBaseF f) (fam_openBaseF w f) (lin_base _ []),
   run_answers_gen w _ ops _ _ inv_readerBase (fam_readerBase w) (lin_base _ [true])⟩

/-- **answer_of_lineage**: after any history, the answer of every terminal and non-terminal
operation on extractor `i` is a function of the chain `cs` of calls that built `i`, of the
file and of the format. -/
theorem answer_of_lineage (w : World) (f : Fmt) (ops : List Op) (i : Nat) (cs : List BCall)
    (hl : (lineage [[]] ops)[i]? = some cs) :
    (∀ k : Term, (terminal w k (exec w (openBaseF f) ops) i).2 = termStatic w k (chainFrom { format := f } cs)) ∧
    (∀ k : NonTerm, (nonTerminal w k (exec w (openBaseF f) ops) i).2 =
      nonTermStatic w k (chainFrom { format := f } cs)) :=
  answers_of_lin w _ (inv_exec w ops (inv_openBaseF f)) (fam_exec w ops (inv_openBaseF f) (fam_openBaseF w f))
    (lin_exec w _ ops (lin_base _ [])) hl

/-- the same for the terminal operations of a `FromReader` base -/
theorem answer_of_lineage_reader (w : World) (ops : List Op) (i : Nat) (cs : List BCall)
    (hl : (lineage [[]] ops)[i]? = some cs) (k : Term) :
    (terminal w k (exec w readerBase ops) i).2 =
      termStatic w k (chainFrom { hasFile := false, reader := some 0, owns := false, opened := true } cs) :=
  (answers_of_lin w _ (inv_exec w ops inv_readerBase) (fam_exec w ops inv_readerBase (fam_readerBase w))
    (lin_exec w _ ops (lin_base _ [true])) hl).1 k

theorem lineage_fresh (cs : List BCall) :
    ∀ (L : List (List BCall)) (j : Nat) (pre : List BCall), L.length = j + 1 → L[j]? = some pre →
      (lineage L (freshChainFrom j cs))[j + cs.length]? = some (pre ++ cs) := by
  induction cs with
  | nil => intro L j pre _ h; simpa [freshChainFrom, lineage] using h
  | cons c cs ih =>
    intro L j pre hlen h
    simp only [freshChainFrom, lineage, h]
    have := ih (L ++ [pre ++ [c]]) (j + 1) (pre ++ [c]) (by simp [hlen])
      (by rw [List.getElem?_append_right (by omega)]; simp [hlen])
    simpa [Nat.add_assoc, Nat.add_comm 1, List.append_assoc] using this

/-- **history_independent**: the answer of a terminal operation on extractor `i` after an
arbitrary history equals the answer of the same operation on the last extractor of the chain
`Open(f).c₁.c₂…cₙ` built afresh by the calls `c₁…cₙ` that built `i` and used for nothing
else — "whatever ran before, the result is that of an extractor without history". -/
theorem history_independent (w : World) (f : Fmt) (ops : List Op) (i : Nat) (cs : List BCall)
    (hl : (lineage [[]] ops)[i]? = some cs) (k : Term) :
    (terminal w k (exec w (openBaseF f) ops) i).2 =
      (terminal w k (exec w (openBaseF f) (freshChainFrom 0 cs)) cs.length).2 := by
  rw [(answer_of_lineage w f ops i cs hl).1 k]
  have hfresh : (lineage [[]] (freshChainFrom 0 cs))[cs.length]? = some cs := by
    have := lineage_fresh cs [[]] 0 [] rfl rfl
    simpa using this
  rw [(answer_of_lineage w f (freshChainFrom 0 cs) cs.length cs hfresh).1 k]

/-- non-vacuity: extractor 2 was built by `Pages(3).ByColumn()` from a base that had been
opened, counted, derived from and used; its Text is that of the fresh chain -/
example : let w : World := ⟨true, some 4⟩
    let ops := [Op.nonTerm 0 .pageCount, .derive 0 (.pages [3]), .term 0 .text, .derive 1 .byColumn,
      .nonTerm 1 .isMultiColumn, .close 1, .close 1]
    (lineage [[]] ops)[2]? = some [.pages [3], .byColumn] ∧
      (terminal w .text (exec w openBase ops) 2).2 = .pages [2] ∧
      (terminal w .text (exec w openBase (freshChainFrom 0 [.pages [3], .byColumn])) 2).2 = .pages [2] := by
  decide

end Tabula.C10Hist
