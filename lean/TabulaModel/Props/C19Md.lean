import TabulaModel.Props.C19Api
import TabulaModel.Lemmas.HtmlMd
/-!
# C19 — the Markdown view, and the element list with tables whole

`atoms` (Props/C19.lean) opens a table into its cells and forgets the kind of list an item was
met in — enough for the plain-text view.  The Markdown view shows both (the separator line of a
pipe table, `1.` against `-`), so this file states the refinement and the monotonicity for the
finer specification `blocks` (proved in Lemmas/HtmlBlocks.lean: same traversal, tables whole, item
kinds kept; the statements about `atoms` follow from them) and chains them into statements about
`MarkdownWithOptions`, `Markdown()` and `tabula.Extractor.ToMarkdown`.

Depth limit (fix a65974f, see Props/C19Api.lean): the statements about the Markdown view of a reader
that exists are named `view_…`; the statements about the public calls including
`OpenReader` (`openMarkdown`, `extractorMarkdownE`) carry the hypothesis `depth doc ≤ maxTreeDepth`;
the EPUB statements range over the admitted chapters.
-/
namespace Tabula.C19Md
open Tabula.Html Tabula.C19 Tabula.C19Api

/-- the stateful traversal refines `blocks`: its element list, with list elements opened into
their items (each with the kind of its own list) and everything else left whole, is exactly the
specification — a table is never split, merged, emptied or re-ordered by the list state machine -/
theorem traverse_refines_blocks (p : Pos → Dom → Bool) (body : Dom) :
    flattenB (extractWith p body) = blocksOf p body :=
  extract_blocks p body

/-- `blocks` only narrows under a stricter predicate, whole blocks at a time: a table or an item
is kept entirely or dropped entirely -/
theorem blocks_monotone (p q : Pos → Dom → Bool) (h : ∀ pos n, p pos n = true → q pos n = true)
    (w : Bool) (pos : Pos) (lc : LCB) (t : Dom) :
    (blocks q w pos lc t).Sublist (blocks p w pos lc t) :=
  blocks_mono p q h w t pos lc

example : ∀ pos n, excluded .standard pos n = true → excluded .aggressive pos n = true :=
  fun pos n => (mode_lattice pos n).2

/-- up to white space the Markdown view is the blocks one after the other, each in its Markdown
form (`#`s, list marker, pipe table, code fence, `>` lines) -/
theorem view_markdown_is_blocks (m : Int) (doc : Dom) :
    squeeze (markdownWithOptions m doc) =
      (blocksOf (excluded (clampMode m)) (bodyOf doc)).flatMap fun b => squeeze (b.md id) := by
  unfold markdownWithOptions
  rw [squeeze_renderMd, extractI_clamp]
  unfold extract
  rw [extract_blocks]
  rfl

/-- MONOTONE, END TO END, Markdown: for raw mode values `a`, `b` with `b` at least as strict as `a`,
what `MarkdownWithOptions` returns for `b` is (white space aside) a subsequence of what it returns
for `a` (block by block: `blocks_monotone`). -/
theorem view_markdown_monotone (a b : Int) (h : (clampMode a).rank ≤ (clampMode b).rank) (doc : Dom) :
    (squeeze (markdownWithOptions b doc)).Sublist (squeeze (markdownWithOptions a doc)) := by
  rw [view_markdown_is_blocks, view_markdown_is_blocks]
  apply List.Sublist.flatMap
  unfold blocksOf
  exact blocks_mono _ _ (fun pos n => excluded_mono_rank _ _ h pos n) _ _ _ _

theorem view_markdown_mode_chain (doc : Dom) :
    (squeeze (markdownWithOptions 3 doc)).Sublist (squeeze (markdownWithOptions 2 doc)) ∧
    (squeeze (markdownWithOptions 2 doc)).Sublist (squeeze (markdownWithOptions 1 doc)) ∧
    (squeeze (markdownWithOptions 1 doc)).Sublist (squeeze (markdownWithOptions 0 doc)) ∧
    (∀ m : Int, (squeeze (markdownWithOptions m doc)).Sublist (squeeze (markdownWithOptions 0 doc))) :=
  chain_of_monotone _ fun a b h => view_markdown_monotone a b h doc

/-- within the depth limit, up to white space, `OpenReader` +
`MarkdownWithOptions` returns the blocks one after the other, each in its Markdown form. -/
theorem markdown_is_blocks (m : Int) (doc : Dom) (hd : depth doc ≤ maxTreeDepth) :
    (openMarkdown m doc).map squeeze =
      some ((blocksOf (excluded (clampMode m)) (bodyOf doc)).flatMap fun b => squeeze (b.md id)) := by
  rw [openMarkdown, guarded_within doc _ hd, Option.map_some, view_markdown_is_blocks]

/-- MONOTONE, END TO END, Markdown, within the depth limit (beyond it both calls
return the error of `OpenReader`, `open_refuses_beyond`). -/
theorem markdown_monotone (a b : Int) (h : (clampMode a).rank ≤ (clampMode b).rank) (doc : Dom)
    (hd : depth doc ≤ maxTreeDepth) :
    ∃ ma mb, openMarkdown a doc = some ma ∧ openMarkdown b doc = some mb ∧ (squeeze mb).Sublist (squeeze ma) :=
  ⟨_, _, guarded_within doc _ hd, guarded_within doc _ hd, view_markdown_monotone a b h doc⟩

theorem markdown_mode_chain (doc : Dom) (hd : depth doc ≤ maxTreeDepth) :
    ∃ m0 m1 m2 m3, openMarkdown 0 doc = some m0 ∧ openMarkdown 1 doc = some m1 ∧ openMarkdown 2 doc = some m2 ∧
      openMarkdown 3 doc = some m3 ∧
      (squeeze m3).Sublist (squeeze m2) ∧ (squeeze m2).Sublist (squeeze m1) ∧ (squeeze m1).Sublist (squeeze m0) ∧
      ∀ m : Int, ∃ t, openMarkdown m doc = some t ∧ (squeeze t).Sublist (squeeze m0) := by
  have g : ∀ {α : Type} (x : α), guarded doc x = some x := fun x => guarded_within doc x hd
  have c := view_markdown_mode_chain doc
  exact ⟨_, _, _, _, g _, g _, g _, g _, c.1, c.2.1, c.2.2.1,
    fun m => ⟨_, g _, c.2.2.2 m⟩⟩

example : depth (nestedDoc 5 [120]) ≤ maxTreeDepth := by rw [depth_nestedDoc]; decide

/-- `tabula.FromHTMLString(…).ToMarkdown()` IS `MarkdownWithOptions` with mode None, exactly (not
only up to white space): the heading-level adjustment of the default RAG options is the identity
on the levels 1..6, and no heading element of a parsed document has another level. -/
theorem view_extractor_markdown_is_mode_none (doc : Dom) :
    extractorMarkdown doc = markdownWithOptions 0 doc := by
  unfold extractorMarkdown markdownWithOptions
  apply renderMd_congr
  intro l t hm
  have := extract_heading_levels _ _ l t hm
  unfold adjustDefault
  have h1 : ¬ l < 1 := by omega
  have h2 : ¬ l > 6 := by omega
  simp [h1, h2]

/-- the same for the calls from the bytes: `ToMarkdown()` and `OpenReader` + `MarkdownWithOptions{None}`
agree for EVERY tree — the same text within the depth limit, the same error beyond it -/
theorem extractor_markdown_is_mode_none (doc : Dom) :
    extractorMarkdownE doc = openMarkdown 0 doc := by
  unfold extractorMarkdownE openMarkdown
  rw [view_extractor_markdown_is_mode_none]

/-- the element list at block level is monotone with tables whole (a table of the stricter mode is a
table of the weaker mode, with all its rows, spans and header flags) -/
theorem elements_monotone (a b : Int) (h : (clampMode a).rank ≤ (clampMode b).rank) (doc : Dom) :
    (flattenB (extractI b doc)).Sublist (flattenB (extractI a doc)) := by
  rw [extractI_clamp, extractI_clamp]
  unfold extract
  rw [extract_blocks, extract_blocks]
  unfold blocksOf
  exact blocks_mono _ _ (fun pos n => excluded_mono_rank _ _ h pos n) _ _ _ _

/-- the two specifications are one: `atoms` is `blocks` with every table opened into its cells and
the kind of list forgotten, for every tree, predicate, position and list context — so the
block-level statements of this file refine the cell-level ones of Props/C19.lean -/
theorem blocks_refine_atoms (p : Pos → Dom → Bool) (w : Bool) (pos : Pos) (lc : LCB) (t : Dom) :
    (blocks p w pos lc t).flatMap Block.atoms = atoms p w pos lc.toLC t :=
  blocks_atoms p w t pos lc

/-- EPUB Markdown, over the admitted chapters (a chapter nested deeper
than `maxTreeDepth` is left out together with its separator): up to white space, the non-empty
views of the admitted chapters joined by `---` … -/
theorem epub_markdown_is_chapters (m : Int) (chapters : List Dom) :
    squeeze (epubMarkdown m chapters) =
      joinWith [45, 45, 45]
        (((chapters.filter admitted).map fun d => squeeze (markdownWithOptions m d)).filter (· != [])) := by
  unfold epubMarkdown
  rw [squeeze_joinWith_map, epubParts_map_squeeze]
  rfl

/-- … and monotone in the raw mode value like every other view: a chapter that becomes
empty under the stricter mode vanishes together with its separator -/
theorem epub_markdown_monotone (a b : Int) (h : (clampMode a).rank ≤ (clampMode b).rank) (chapters : List Dom) :
    (squeeze (epubMarkdown b chapters)).Sublist (squeeze (epubMarkdown a chapters)) := by
  rw [epub_markdown_is_chapters, epub_markdown_is_chapters]
  exact joinWith_filter_sublist _ _ _ (fun d => view_markdown_monotone a b h d) _

end Tabula.C19Md
