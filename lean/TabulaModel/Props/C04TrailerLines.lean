import TabulaModel.Lemmas.XrefTrailerLines
import TabulaModel.Lemmas.PdfParse
import TabulaModel.Lemmas.XrefWitness
/-!
# C04, byte level — a classic table whose trailer dictionary runs over several lines

`C04B.classic_section_roundtrip` / `C04B.parseXRef_classic` ask for a trailer dictionary that
stays on one line. Writers usually lay it out over several:

    trailer
    <<
    /Size 22
    /Root 2 0 R
    >>

Here the same conclusions for every legal spelling of the dictionary whose only end-of-line
bytes are LINE FEEDS (no CR), every line of which fits the scanner's buffer, and in which `>>`
does not occur before the last line (`parseTrailer` stops reading at the first line that
contains `>>`). The one-line theorems are the special case of a single line
(`classic_section_roundtrip_oneline`).
-/
namespace Tabula.C04TL
open Tabula.XrefFile Tabula.XrefBytes Tabula.Pdf Tabula.Reader

theorem renderSep_ws10 : renderSep [.ws 10] = [10] := by simp [renderSep, SepUnit.render]

/-- the dictionary with one LF more behind it (what `parseTrailer` hands to the parser) -/
theorem dict_parse_lf (pre : Sep) (kvs : List SObj) (close : Sep)
    (hv : (SObj.dict pre kvs close).Valid false)
    (hd : (SObj.dict pre kvs close).value.depth ≤ maxNestingDepth) :
    coreParse ((SObj.dict pre kvs close).render ++ [10]) = .ok (.dict (valueKVs kvs), stateAt [10]) := by
  have hp := core_roundtrip_spelled (SObj.dict pre kvs close) [.ws 10] hv
    (sepOk_ws rfl) hd
  rw [renderSep_ws10] at hp
  simpa [SObj.value] using hp

/-- the case in which the scanner delivers every line of the dictionary: the marker is not a
lone CR, or the dictionary does not begin with LF -/
theorem classic_section_roundtrip_first (eol : Eol) (ee : EntEol) (subs : List CSub)
    (pre : Sep) (kvs : List SObj) (close : Sep) (rest : List Nat)
    (hss : ∀ s ∈ subs, s.Ok)
    (hv : (SObj.dict pre kvs close).Valid false)
    (hd : (SObj.dict pre kvs close).value.depth ≤ maxNestingDepth)
    (hcr : 13 ∉ (SObj.dict pre kvs close).render)
    (hgt : ∀ l ∈ (lfLines (SObj.dict pre kvs close).render).dropLast, containsGtGt l = false)
    (hfit : ∀ l ∈ lfLines (SObj.dict pre kvs close).render, l.length ≤ 65534)
    (hfirst : eol.FollowOk (SObj.dict pre kvs close).render)
    (hrest : eol.FollowOk rest) :
    parseClassic (linesOf (renderClassic eol ee subs (SObj.dict pre kvs close).render rest)).1
        (linesOf (renderClassic eol ee subs (SObj.dict pre kvs close).render rest)).2 =
      .ok (classicSection subs, valueKVs kvs) := by
  -- `hrest` is not used: a lone CR in front of `LF …` reads as the marker CR LF (`eol_follow`)
  have _ := hrest
  obtain ⟨more, tl, h⟩ :=
    linesOf_classic_lines eol ee subs hss _ rest hcr hfit (dict_render_ne_nil pre kvs close) hfirst
  rw [h]
  exact parseClassic_table _ ee subs hss _ _ _ _ hgt (dict_render_gtgt pre kvs close)
    (dict_parse_lf pre kvs close hv hd)

/-- a dictionary whose spelling begins with LF has that LF as the first unit of its leading
separator -/
theorem dict_render_lf (pre : Sep) (kvs : List SObj) (close : Sep) (t' : List Nat)
    (h : (SObj.dict pre kvs close).render = 10 :: t') :
    ∃ pre', pre = .ws 10 :: pre' ∧ (SObj.dict pre' kvs close).render = t' := by
  rw [render_dict] at h
  cases pre with
  | nil => cases h
  | cons u pre' =>
    cases u with
    | ws b =>
      obtain ⟨hb, ht⟩ := List.cons.inj h
      exact ⟨pre', hb ▸ rfl, (render_dict ..).trans ht⟩
    | comment t e => cases (List.cons.inj h).1

/-- **classic_section_roundtrip_lines** (hypotheses on the list of lines): a classic
cross-reference table — `xref`, any subsections, `trailer`, then the trailer dictionary in ANY
legal spelling over ANY number of LF-separated lines (`lfLines`, = `strings.Split(·, "\\n")`),
none but the last containing `>>`, each fitting the scanner, no CR inside; any of the three
end-of-line markers between the other lines and behind the dictionary; after it anything that does
not begin with a line feed when the marker is a lone CR (`hrest`; the proof does not use it) — is
read back by `parseTraditionalXRef` as exactly the entries and the dictionary authored.
(With a lone CR as the marker and a dictionary beginning with LF the scanner takes
`trailer CR LF` for one end of line and never delivers the empty first line; the result is the
same.) -/
theorem classic_section_roundtrip_lines (eol : Eol) (ee : EntEol) (subs : List CSub)
    (pre : Sep) (kvs : List SObj) (close : Sep) (rest : List Nat)
    (hss : ∀ s ∈ subs, s.Ok)
    (hv : (SObj.dict pre kvs close).Valid false)
    (hd : (SObj.dict pre kvs close).value.depth ≤ maxNestingDepth)
    (hcr : 13 ∉ (SObj.dict pre kvs close).render)
    (hgt : ∀ l ∈ (lfLines (SObj.dict pre kvs close).render).dropLast, containsGtGt l = false)
    (hfit : ∀ l ∈ lfLines (SObj.dict pre kvs close).render, l.length ≤ 65534)
    (hrest : eol.FollowOk rest) :
    parseClassic (linesOf (renderClassic eol ee subs (SObj.dict pre kvs close).render rest)).1
        (linesOf (renderClassic eol ee subs (SObj.dict pre kvs close).render rest)).2 =
      .ok (classicSection subs, valueKVs kvs) := by
  by_cases hc : eol = .cr ∧ ∃ t', (SObj.dict pre kvs close).render = 10 :: t'
  · obtain ⟨rfl, t', ht'⟩ := hc
    obtain ⟨pre', rfl, hr'⟩ := dict_render_lf pre kvs close t' ht'
    have hv' : (SObj.dict pre' kvs close).Valid false := by
      simp only [SObj.Valid] at hv ⊢
      exact ⟨fun u hu => hv.1 u (List.mem_cons_of_mem _ hu), hv.2⟩
    have hd' : (SObj.dict pre' kvs close).value.depth ≤ maxNestingDepth := by
      simpa [SObj.value] using hd
    rw [ht'] at hcr hgt hfit ⊢
    rw [lfLines_lf] at hgt hfit
    rw [List.dropLast_cons_of_ne_nil (lfLines_ne_nil t')] at hgt
    have hcr' : 13 ∉ t' := fun h => hcr (List.mem_cons_of_mem _ h)
    have hfit' : ∀ l ∈ lfLines t', l.length ≤ 65534 := fun l hl => hfit l (List.mem_cons_of_mem _ hl)
    have hgt' : ∀ l ∈ (lfLines t').dropLast, containsGtGt l = false :=
      fun l hl => hgt l (List.mem_cons_of_mem _ hl)
    obtain ⟨more, tl, h⟩ := linesOf_classic_lines_crlf ee subs hss t' rest hcr' hfit'
    rw [h]
    subst hr'
    exact parseClassic_table _ ee subs hss _ _ _ _ hgt' (dict_render_gtgt pre' kvs close)
      (dict_parse_lf pre' kvs close hv' hd')
  · exact classic_section_roundtrip_first eol ee subs pre kvs close rest hss hv hd hcr hgt hfit
      (fun he t' ht' => hc ⟨he, t', ht'⟩) hrest

/-- **classic_section_roundtrip_multiline**: the same with the hypotheses stated on the text
of the dictionary: no CR in it; no `>>` before its last line feed; every stretch without a line
feed at most 65534 bytes long. -/
theorem classic_section_roundtrip_multiline (eol : Eol) (ee : EntEol) (subs : List CSub)
    (pre : Sep) (kvs : List SObj) (close : Sep) (rest : List Nat)
    (hss : ∀ s ∈ subs, s.Ok)
    (hv : (SObj.dict pre kvs close).Valid false)
    (hd : (SObj.dict pre kvs close).value.depth ≤ maxNestingDepth)
    (hcr : 13 ∉ (SObj.dict pre kvs close).render)
    (hgt : ∀ a b, (SObj.dict pre kvs close).render = a ++ 10 :: b → containsGtGt a = false)
    (hfit : ∀ a l b, (SObj.dict pre kvs close).render = a ++ l ++ b → 10 ∉ l → l.length ≤ 65534)
    (hrest : eol.FollowOk rest) :
    parseClassic (linesOf (renderClassic eol ee subs (SObj.dict pre kvs close).render rest)).1
        (linesOf (renderClassic eol ee subs (SObj.dict pre kvs close).render rest)).2 =
      .ok (classicSection subs, valueKVs kvs) :=
  classic_section_roundtrip_lines eol ee subs pre kvs close rest hss hv hd hcr
    (lfLines_noGtGt _ hgt) (lfLines_fit 65534 _ hfit) hrest

/-- … and so `ParseXRef(offset)` at the offset where such a table starts, whatever precedes it -/
theorem parseXRef_classic_lines (ext : Reader.Ext) (before : List Nat) (eol : Eol) (ee : EntEol)
    (subs : List CSub) (pre : Sep) (kvs : List SObj) (close : Sep) (rest : List Nat)
    (hss : ∀ s ∈ subs, s.Ok)
    (hv : (SObj.dict pre kvs close).Valid false)
    (hd : (SObj.dict pre kvs close).value.depth ≤ maxNestingDepth)
    (hcr : 13 ∉ (SObj.dict pre kvs close).render)
    (hgt : ∀ l ∈ (lfLines (SObj.dict pre kvs close).render).dropLast, containsGtGt l = false)
    (hfit : ∀ l ∈ lfLines (SObj.dict pre kvs close).render, l.length ≤ 65534)
    (hrest : eol.FollowOk rest) :
    parseXRef ext (before ++ renderClassic eol ee subs (SObj.dict pre kvs close).render rest) before.length =
      .ok (classicSection subs, valueKVs kvs) := by
  rw [parseXRef_renderClassic]
  exact classic_section_roundtrip_lines eol ee subs pre kvs close rest hss hv hd hcr hgt hfit hrest

/-- **parseXRef_classic_multiline**: `ParseXRef(offset)` on a file that holds, at `offset`, a
classic table with a multi-line trailer dictionary — hypotheses on the text as in
`classic_section_roundtrip_multiline` -/
theorem parseXRef_classic_multiline (ext : Reader.Ext) (before : List Nat) (eol : Eol) (ee : EntEol)
    (subs : List CSub) (pre : Sep) (kvs : List SObj) (close : Sep) (rest : List Nat)
    (hss : ∀ s ∈ subs, s.Ok)
    (hv : (SObj.dict pre kvs close).Valid false)
    (hd : (SObj.dict pre kvs close).value.depth ≤ maxNestingDepth)
    (hcr : 13 ∉ (SObj.dict pre kvs close).render)
    (hgt : ∀ a b, (SObj.dict pre kvs close).render = a ++ 10 :: b → containsGtGt a = false)
    (hfit : ∀ a l b, (SObj.dict pre kvs close).render = a ++ l ++ b → 10 ∉ l → l.length ≤ 65534)
    (hrest : eol.FollowOk rest) :
    parseXRef ext (before ++ renderClassic eol ee subs (SObj.dict pre kvs close).render rest) before.length =
      .ok (classicSection subs, valueKVs kvs) :=
  parseXRef_classic_lines ext before eol ee subs pre kvs close rest hss hv hd hcr
    (lfLines_noGtGt _ hgt) (lfLines_fit 65534 _ hfit) hrest

/-- the one-line theorem `C04B.classic_section_roundtrip` is the case of a single line -/
theorem classic_section_roundtrip_oneline (eol : Eol) (ee : EntEol) (subs : List CSub)
    (pre : Sep) (kvs : List SObj) (close : Sep) (rest : List Nat)
    (hss : ∀ s ∈ subs, s.Ok)
    (hv : (SObj.dict pre kvs close).Valid false)
    (hd : (SObj.dict pre kvs close).value.depth ≤ maxNestingDepth)
    (hline : NoEol (SObj.dict pre kvs close).render)
    (hlen : (SObj.dict pre kvs close).render.length ≤ 65534)
    (hrest : eol.FollowOk rest) :
    parseClassic (linesOf (renderClassic eol ee subs (SObj.dict pre kvs close).render rest)).1
        (linesOf (renderClassic eol ee subs (SObj.dict pre kvs close).render rest)).2 =
      .ok (classicSection subs, valueKVs kvs) := by
  apply classic_section_roundtrip_lines eol ee subs pre kvs close rest hss hv hd
    (fun h => (hline 13 h).2 rfl) _ _ hrest
  · rw [lfLines_of_noEol _ hline]; intro l hl; simp at hl
  · rw [lfLines_of_noEol _ hline]; intro l hl; simp at hl; subst hl; exact hlen

/-- `<<` LF `/Prev 7` LF `>>` -/
def sampleTrailer : SObj :=
  SObj.dict [] [SObj.name [.ws 10] [.raw 80, .raw 114, .raw 101, .raw 118], SObj.int [.ws 32] false 0 7] [.ws 10]

theorem sampleTrailer_render :
    sampleTrailer.render = [60, 60, 10, 47, 80, 114, 101, 118, 32, 55, 10, 62, 62] := by
  simp [sampleTrailer, SObj.render, renderList, renderSep, SepUnit.render, renderName, printInt,
    NPiece.render, Tabula.A1.dec, Tabula.A1.decAux]

/-- its three lines -/
theorem sampleTrailer_lines :
    lfLines sampleTrailer.render = [[60, 60], [47, 80, 114, 101, 118, 32, 55], [62, 62]] := by
  rw [sampleTrailer_render]; decide

/-- the hypotheses of the theorems above (both forms) hold for a dictionary spelled over three
lines, with a two-entry table in front -/
example : sampleTrailer.Valid false ∧ sampleTrailer.value.depth ≤ maxNestingDepth ∧
    13 ∉ sampleTrailer.render ∧
    (∀ l ∈ (lfLines sampleTrailer.render).dropLast, containsGtGt l = false) ∧
    (∀ l ∈ lfLines sampleTrailer.render, l.length ≤ 65534) ∧
    (∀ a b, sampleTrailer.render = a ++ 10 :: b → containsGtGt a = false) ∧
    (∀ a l b, sampleTrailer.render = a ++ l ++ b → 10 ∉ l → l.length ≤ 65534) ∧
    CSub.Ok (0, [⟨0, 65535, false⟩, ⟨17, 0, true⟩]) := by
  have hgt : ∀ l ∈ (lfLines sampleTrailer.render).dropLast, containsGtGt l = false := by
    rw [sampleTrailer_lines]; decide
  have hfit : ∀ l ∈ lfLines sampleTrailer.render, l.length ≤ 65534 := by
    rw [sampleTrailer_lines]; intro l hl; simp at hl; rcases hl with rfl | rfl | rfl <;> simp
  refine ⟨?_, ?_, ?_, hgt, hfit, noGtGt_of_lfLines _ hgt, fit_of_lfLines _ _ hfit, ?_⟩
  · exact valid_nameIntDict (bs := [80, 114, 101, 118]) sepOk_nil (sepOk_ws rfl) (sepOk_ws rfl) (by decide)
      (by decide) (by decide) false
  · simp [sampleTrailer, SObj.value, Obj.depth, valueKVs, Obj.depthKV, maxNestingDepth]
  · rw [sampleTrailer_render]; decide
  · decide

/-- … so: a file with anything in front, then `xref`, `0 2`, two entries, `trailer`, `<<`,
`/Prev 7`, `>>` on lines ended by LF, then anything: `ParseXRef` at that offset returns the two
entries and the dictionary `/Prev 7` -/
example (ext : Reader.Ext) (before rest : List Nat) :
    parseXRef ext (before ++ renderClassic .lf .spLf [(0, [⟨0, 65535, false⟩, ⟨17, 0, true⟩])]
        [60, 60, 10, 47, 80, 114, 101, 118, 32, 55, 10, 62, 62] rest) before.length =
      .ok ([(0, ⟨.free, 0, 65535⟩), (1, ⟨.inUse, 17, 0⟩)], [(kPrev, .int 7)]) := by
  have h := parseXRef_classic_lines ext before .lf .spLf [(0, [⟨0, 65535, false⟩, ⟨17, 0, true⟩])]
    [] [SObj.name [.ws 10] [.raw 80, .raw 114, .raw 101, .raw 118], SObj.int [.ws 32] false 0 7] [.ws 10] rest
    (by decide)
    (valid_nameIntDict (bs := [80, 114, 101, 118]) sepOk_nil (sepOk_ws rfl) (sepOk_ws rfl) (by decide)
      (by decide) (by decide) false)
    (by simp [SObj.value, Obj.depth, valueKVs, Obj.depthKV, maxNestingDepth])
    (by have := sampleTrailer_render; unfold sampleTrailer at this; rw [this]; decide)
    (by have := sampleTrailer_lines; unfold sampleTrailer at this; rw [this]; decide)
    (by
      have := sampleTrailer_lines; unfold sampleTrailer at this; rw [this]
      intro l hl; simp at hl; rcases hl with rfl | rfl | rfl <;> simp)
    (followOk_lf rest)
  have hr := sampleTrailer_render
  unfold sampleTrailer at hr
  rw [hr] at h
  rw [h]
  simp [classicSection, numberFrom, CEnt.raw, entryOf, valueKVs, SObj.keyBytes, SObj.value, NPiece.byte, kPrev]

end Tabula.C04TL
