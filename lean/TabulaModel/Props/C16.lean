import TabulaModel.Lemmas.VMerge
import TabulaModel.Lemmas.Odt
/-!
# C16 — Word-processor documents keep their order and structure

Property theorems about the models `Model/Docx.lean` and `Model/Odt.lean` (the readers
as they are after the C16 fixes). Helper lemmas live in `Lemmas/Docx.lean`, `Lemmas/Odt.lean`.
-/
namespace Tabula.C16
open Tabula.Xml Tabula.Docx

theorem find_body (pre post : List Node) (b : Node) (hb : b.named sBody = true)
    (hpre : noBodyList pre = true) : childNamed (pre ++ [b] ++ post) sBody = some b := by
  induction pre with
  | nil => simp [childNamed, hb]
  | cons n rest ih =>
    simp only [noBodyList, Bool.and_eq_true] at hpre
    have hn : n.named sBody = false := by
      cases n with
      | text s => simp
      | elem tag a ks =>
        have := hpre.1
        simp only [noBodyNode, Bool.and_eq_true, bne_iff_ne, ne_eq] at this
        simp only [named_elem]
        cases h : localName tag == sBody
        · rfl
        · exact absurd (by simpa using h) this.1
    have := ih hpre.2
    simp only [childNamed, List.cons_append, List.find?_cons, hn] at this ⊢
    exact this

/-- the `p` / `tbl` elements at the block level of a list of children: the body content the
readers present, block containers (`w:sdt` / `w:sdtContent`, `w:customXml`) looked through -/
def bodyBlocks (kids : List Node) : List Node := (blocksOfList kids).filter isBodyElem

/-- the walk over the `body` element itself, entered from outside -/
theorem walk_body_node (bodyTag : Str) (ba : List (Str × Str)) (kids : List Node) (hbody : localName bodyTag = sBody) :
    walkNode (childrenNamed (blocksOfList kids) sP) (childrenNamed (blocksOfList kids) sTbl) (.elem bodyTag ba kids)
        { inBody := false, depth := 0, boxes := 0, pi := 0, ti := 0, acc := [] } =
      { inBody := false, depth := 0, boxes := 0, pi := (childrenNamed (blocksOfList kids) sP).length,
        ti := (childrenNamed (blocksOfList kids) sTbl).length, acc := bodyBlocks kids } := by
  rw [walkNode, startTok_outside _ _ _ _ rfl, hbody, if_pos BEq.rfl,
    walk_block_list _ _ kids _ [] [] rfl rfl (by simp) (by simp), endTok_body_end _ rfl rfl]
  simp [bodyBlocks]

/-- **body_interleave** (DOCX). For every document tree whose root holds one `body`
element (no other element named `body` before or after it), the element list produced
by the second pass is exactly the sequence of the `p` / `tbl` elements at the block level of
the body in source order: its direct `p` / `tbl` children AND those that sit in block-level
containers - a content control `w:sdt` / `w:sdtContent`, a `w:customXml`, nested in one
another to any depth -, each at the place of its container. For every sequence of paragraphs,
tables and containers, whatever the blocks themselves contain (cells with several paragraphs,
nested tables, text boxes). (The pass before the repair: `body_interleave_old`.) -/
theorem body_interleave (docTag bodyTag : Str) (da ba : List (Str × Str)) (pre kids post : List Node)
    (hdoc : localName docTag ≠ sBody) (hbody : localName bodyTag = sBody)
    (hpre : noBodyList pre = true) (hpost : noBodyList post = true) :
    parseBodyElementsInOrder (.elem docTag da (pre ++ [.elem bodyTag ba kids] ++ post))
      = bodyBlocks kids := by
  have hnamed : (Node.elem bodyTag ba kids).named sBody = true := by simp [hbody]
  unfold parseBodyElementsInOrder bodyOf
  simp only [Node.kids]
  rw [find_body pre post _ hnamed hpre]
  simp only [Node.kids, bodyParas, bodyTables]
  have hd : (localName docTag == sBody) = false := beq_false_of_ne hdoc
  rw [walkNode, startTok_outside _ _ _ _ rfl, hd, if_neg Bool.false_ne_true,
    walkList_append, walkList_append, walk_outside_list _ _ pre _ rfl hpre]
  simp only [walkList]
  rw [walk_body_node bodyTag ba kids hbody, walk_outside_list _ _ post _ rfl hpost]
  unfold endTok
  simp

/-- the reader's element list is the processed blocks of the body, in source order -/
theorem elements_interleave (docTag bodyTag : Str) (da ba : List (Str × Str)) (pre kids post : List Node)
    (styles : Option Node)
    (hdoc : localName docTag ≠ sBody) (hbody : localName bodyTag = sBody)
    (hpre : noBodyList pre = true) (hpost : noBodyList post = true) :
    elements (.elem docTag da (pre ++ [.elem bodyTag ba kids] ++ post)) styles
      = (bodyBlocks kids).map (processElement (stylesOf styles)) := by
  unfold elements
  rw [body_interleave docTag bodyTag da ba pre kids post hdoc hbody hpre hpost]

/-- the body blocks of a list of children, piece by piece -/
theorem bodyBlocks_append (a b : List Node) : bodyBlocks (a ++ b) = bodyBlocks a ++ bodyBlocks b := by
  simp [bodyBlocks, blocksOfList_append, List.filter_append]

/-- **body_container_transparent** (DOCX). Blocks wrapped in a block-level container - `w:sdt`,
`w:sdtContent`, `w:customXml`, whatever its attributes - stand where the container stands:
the element list of `pre, container[inner], post` is that of `pre`, then that of `inner`, then
that of `post`. (By induction this covers containers nested in one another to any depth, as
`inner` may hold containers again.) -/
theorem body_container_transparent (ctag : Str) (ca : List (Str × Str)) (pre inner post : List Node)
    (hc : blockContainers.contains (localName ctag) = true) :
    bodyBlocks (pre ++ [.elem ctag ca inner] ++ post) = bodyBlocks pre ++ bodyBlocks inner ++ bodyBlocks post := by
  rw [bodyBlocks_append, bodyBlocks_append]
  have hm : localName ctag ∈ blockContainers := by simpa using hc
  have : bodyBlocks [.elem ctag ca inner] = bodyBlocks inner := by
    simp [bodyBlocks, blocksOfList, blocksOfNode, hm]
  rw [this]

example : blockContainers.contains (localName [119, 58, 115, 100, 116]) = true
    ∧ blockContainers.contains (localName [119, 58, 115, 100, 116, 67, 111, 110, 116, 101, 110, 116]) = true
    ∧ blockContainers.contains (localName [119, 58, 99, 117, 115, 116, 111, 109, 88, 109, 108]) = true := by decide

/-- a direct `p` / `tbl` child stands for itself -/
theorem bodyBlocks_block (n : Node) (h : isBodyElem n = true) : bodyBlocks [n] = [n] := by
  cases n with
  | text s => simp [isBodyElem] at h
  | elem tag attrs kids =>
    have hc : blockContainers.contains (localName tag) = false := by
      simp only [isBodyElem, named_elem, Bool.or_eq_true, beq_iff_eq] at h
      rcases h with h | h <;> rw [h] <;> decide
    have hm : ¬ (localName tag ∈ blockContainers) := by simpa using hc
    simp [bodyBlocks, blocksOfList, blocksOfNode, hm, h]

/-- what is neither a block nor a block container (`w:sectPr`, a bookmark, the properties of a
content control, character data) contributes nothing -/
theorem bodyBlocks_other (n : Node) (h : isBodyElem n = false) (hc : blockContainers.contains n.loc = false) :
    bodyBlocks [n] = [] := by
  cases n with
  | text s => simp [bodyBlocks, blocksOfList, blocksOfNode]
  | elem tag attrs kids =>
    simp only [Node.loc, Node.tag] at hc
    have hm : ¬ (localName tag ∈ blockContainers) := by simpa using hc
    simp [bodyBlocks, blocksOfList, blocksOfNode, hm, h]

/-- **body_no_container**. Without a block container among the children of the body the
element list is the direct `p` / `tbl` children in source order (what the pass presented
before the repair, `body_interleave_old`: the repair changes nothing for such documents). -/
theorem body_no_container (kids : List Node) (h : ∀ n ∈ kids, blockContainers.contains n.loc = false) :
    bodyBlocks kids = kids.filter isBodyElem :=
  blocks_plain_bodyElems kids h

/-- the old walk over the `body` element itself, entered from outside -/
theorem walk_body_node_old (bodyTag : Str) (ba : List (Str × Str)) (kids : List Node) (hbody : localName bodyTag = sBody) :
    walkNodeOld (childrenNamed kids sP) (childrenNamed kids sTbl) (.elem bodyTag ba kids)
        { inBody := false, depth := 0, pi := 0, ti := 0, acc := [] } =
      { inBody := false, depth := 0, pi := (childrenNamed kids sP).length,
        ti := (childrenNamed kids sTbl).length, acc := kids.filter isBodyElem } := by
  rw [walkNodeOld, startTokOld_outside _ _ _ _ rfl, hbody, if_pos BEq.rfl,
    walk_body_kids_old _ _ kids _ [] [] rfl rfl (by simp) (by simp), endTokOld_body_end _ rfl rfl]
  simp

/-- **body_interleave_old**. The former `body_interleave`, about the pass as it was: the
element list was exactly the DIRECT `p` / `tbl` children of the body in source order - a block
inside a block-level container was in no element (`docx_block_container_lost_old`). -/
theorem body_interleave_old (docTag bodyTag : Str) (da ba : List (Str × Str)) (pre kids post : List Node)
    (hdoc : localName docTag ≠ sBody) (hbody : localName bodyTag = sBody)
    (hpre : noBodyList pre = true) (hpost : noBodyList post = true) :
    parseBodyElementsInOrderOld (.elem docTag da (pre ++ [.elem bodyTag ba kids] ++ post))
      = kids.filter isBodyElem := by
  have hnamed : (Node.elem bodyTag ba kids).named sBody = true := by simp [hbody]
  unfold parseBodyElementsInOrderOld bodyOf
  simp only [Node.kids]
  rw [find_body pre post _ hnamed hpre]
  have hd : (localName docTag == sBody) = false := beq_false_of_ne hdoc
  simp only [walkNodeOld]
  rw [startTokOld_outside _ _ _ _ rfl, hd, if_neg Bool.false_ne_true,
    walkListOld_append, walkListOld_append, walk_outside_list_old _ _ pre _ rfl hpre]
  simp only [walkListOld]
  rw [walk_body_node_old bodyTag ba kids hbody, walk_outside_list_old _ _ post _ rfl hpost]
  unfold endTokOld
  simp

/-- **docx_block_container_repair_scope**. What the old pass presented is a sub-sequence of
what the repaired pass presents: every direct `p` / `tbl` child of the body is still there, in
the same order (`List.Sublist`); where the new blocks stand is said by `body_container_transparent`. -/
theorem docx_block_container_repair_scope (kids : List Node) :
    (kids.filter isBodyElem).Sublist (bodyBlocks kids) := by
  induction kids with
  | nil => simp [bodyBlocks, blocksOfList]
  | cons n rest ih =>
    have happ : bodyBlocks (n :: rest) = bodyBlocks [n] ++ bodyBlocks rest := by
      rw [← bodyBlocks_append]; rfl
    rw [happ, List.filter_cons]
    by_cases hb : isBodyElem n = true
    · rw [if_pos hb, bodyBlocks_block n hb]
      exact List.Sublist.cons_cons n ih
    · rw [if_neg hb]
      exact List.Sublist.trans ih (List.sublist_append_right _ _)

/-- **docx_block_container_lost_old** (the defect, for every document). Under the old pass the
blocks of a block container that is a child of the body were in no element: the element list of
`pre, container[inner], post` was that of `pre` followed by that of `post`, whatever `inner`
held - while the repaired pass presents `inner`'s blocks in between (`body_container_transparent`). -/
theorem docx_block_container_lost_old (ctag : Str) (ca : List (Str × Str)) (pre inner post : List Node)
    (hc : blockContainers.contains (localName ctag) = true) :
    (pre ++ [Node.elem ctag ca inner] ++ post).filter isBodyElem = pre.filter isBodyElem ++ post.filter isBodyElem := by
  have hn : isBodyElem (.elem ctag ca inner) = false := by
    cases h : isBodyElem (.elem ctag ca inner)
    · rfl
    · simp only [isBodyElem, named_elem, Bool.or_eq_true, beq_iff_eq] at h
      rcases h with h | h <;> rw [h] at hc <;> revert hc <;> decide
  simp [List.filter_append, hn]

/-! Non-vacuity: the tree of the defect the property quotes - a table whose only cell
holds two paragraphs, then a second table, then a paragraph, then `w:sectPr`. The pinned
code paired the second table with nothing and emitted it after the paragraph. -/
def wT (s : Str) : Node := .elem [119, 58, 116] [] [.text s]
def wR (kids : List Node) : Node := .elem [119, 58, 114] [] kids
def wP (kids : List Node) : Node := .elem [119, 58, 112] [] kids
def wTbl (cells : List (List Node)) : Node :=
  .elem [119, 58, 116, 98, 108] [] [.elem [119, 58, 116, 114] [] (cells.map fun ps => .elem [119, 58, 116, 99] [] ps)]
def witnessDoc : Node :=
  .elem [119, 58, 100, 111, 99, 117, 109, 101, 110, 116] []
    [.elem [119, 58, 98, 111, 100, 121] []
      [wTbl [[wP [wR [wT [65]]], wP [wR [wT [66]]]]], wTbl [[wP [wR [wT [67]]]]], wP [wR [wT [68]]],
       .elem [119, 58, 115, 101, 99, 116, 80, 114] [] []]]

example : elements witnessDoc none =
    [.table [[{ text := [65, 10, 66], colSpan := 1, rowSpan := 1, cont := false }]],
     .table [[{ text := [67], colSpan := 1, rowSpan := 1, cont := false }]],
     .para { text := [68], heading := none, list := none }] := by decide +kernel

example : localName [119, 58, 100, 111, 99, 117, 109, 101, 110, 116] ≠ sBody ∧ localName [119, 58, 98, 111, 100, 121] = sBody
    ∧ noBodyList [wP [wR [wT [65]]]] = true := by decide

/-! Block-level containers of the body. A paragraph that sits in a block-level content
control (`w:sdt` / `w:sdtContent`: a cover page, a table of contents, a rich-text control
around whole paragraphs) or in `w:customXml` is body content of the document, at the place of
the container. REPAIRED (was known finding `C16/docx-block-container-content-lost`,
harness/c16 structure.go, fixed witnesses 18 and 19): `bodyXML.UnmarshalXML` and the second
pass look through these containers, `tableCellXML.UnmarshalXML` does the same inside a cell. -/
def wSdt (kids : List Node) : Node :=
  .elem [119, 58, 115, 100, 116] []
    [.elem [119, 58, 115, 100, 116, 80, 114] [] [],
     .elem [119, 58, 115, 100, 116, 67, 111, 110, 116, 101, 110, 116] [] kids]
def wCustomXml (kids : List Node) : Node :=
  .elem [119, 58, 99, 117, 115, 116, 111, 109, 88, 109, 108] [] kids
def boxedDoc : Node :=
  .elem [119, 58, 100, 111, 99, 117, 109, 101, 110, 116] []
    [.elem [119, 58, 98, 111, 100, 121] []
      [wP [wR [wT [65]]], wSdt [wP [wR [wT [66]]]], wTbl [[wP [wR [wT [67]]]]], wP [wR [wT [68]]], wP [wR [wT [69]]],
       .elem [119, 58, 115, 101, 99, 116, 80, 114] [] []]]

/-- **docx_block_container_content_lost_pinned_counterexample**. The body `A`,
content control holding the paragraph `B`, table `C`, `D`, `E`: the OLD reader's element list
is `A`, table `C`, `D`, `E` - in source order, and `B` is in no element; the repaired reader's
is `A`, `B`, table `C`, `D`, `E`. -/
theorem docx_block_container_content_lost_pinned_counterexample :
    elementsOld boxedDoc none =
      [.para { text := [65], heading := none, list := none },
       .table [[{ text := [67], colSpan := 1, rowSpan := 1, cont := false }]],
       .para { text := [68], heading := none, list := none },
       .para { text := [69], heading := none, list := none }]
    ∧ elements boxedDoc none =
      [.para { text := [65], heading := none, list := none },
       .para { text := [66], heading := none, list := none },
       .table [[{ text := [67], colSpan := 1, rowSpan := 1, cont := false }]],
       .para { text := [68], heading := none, list := none },
       .para { text := [69], heading := none, list := none }] := by
  constructor <;> decide +kernel

/-- containers nested in one another around a heading-less paragraph and a table, a table
behind the container: `A`, customXml[ sdt[ `B`, table `C` ] ], table `D`, `E` -/
def nestedBoxDoc : Node :=
  .elem [119, 58, 100, 111, 99, 117, 109, 101, 110, 116] []
    [.elem [119, 58, 98, 111, 100, 121] []
      [wP [wR [wT [65]]], wCustomXml [wSdt [wP [wR [wT [66]]], wTbl [[wP [wR [wT [67]]]]]]],
       wTbl [[wP [wR [wT [68]]]]], wP [wR [wT [69]]]]]

example : elements nestedBoxDoc none =
    [.para { text := [65], heading := none, list := none },
     .para { text := [66], heading := none, list := none },
     .table [[{ text := [67], colSpan := 1, rowSpan := 1, cont := false }]],
     .table [[{ text := [68], colSpan := 1, rowSpan := 1, cont := false }]],
     .para { text := [69], heading := none, list := none }] := by decide +kernel

example : elementsOld nestedBoxDoc none =
    [.para { text := [65], heading := none, list := none },
     .table [[{ text := [68], colSpan := 1, rowSpan := 1, cont := false }]],
     .para { text := [69], heading := none, list := none }] := by decide +kernel

/-- **run_inline_order** (DOCX). The text of a run is assembled child by child in source
order: splitting the children anywhere splits the text at the same place. (Full statement;
on the pinned tree only runs whose children were of one kind satisfied it.) -/
theorem run_inline_order (tag : Str) (attrs : List (Str × Str)) (k1 k2 : List Node) :
    extractRunText (.elem tag attrs (k1 ++ k2)) =
      extractRunText (.elem tag attrs k1) ++ extractRunText (.elem tag attrs k2) := by
  simp [extractRunText, runContent, Node.kids, List.filter_append, List.flatMap_append]

/-- the quoted defect, now in order: `<w:tab/>` before `<w:t>` comes out before it -/
theorem run_tab_before_text (s : Str) (a1 a2 a3 : List (Str × Str)) :
    extractRunText (.elem [119, 58, 114] a1 [.elem [119, 58, 116, 97, 98] a2 [], .elem [119, 58, 116] a3 [.text s]])
      = 9 :: s := by
  simp [extractRunText, runContent, Node.kids, Node.isElem, Node.loc, Node.tag, localName, runChildText,
    sRPr, sDrawing, sT, sSym, sAlt, sTab, chardata, List.flatMap_cons]

/-- runs of a paragraph in source order, inline containers being transparent -/
theorem para_inline_order (tag : Str) (attrs : List (Str × Str)) (k1 k2 : List Node) :
    paraText (.elem tag attrs (k1 ++ k2)) = paraText (.elem tag attrs k1) ++ paraText (.elem tag attrs k2) := by
  simp [paraText, Node.kids, runsOfList_append, List.flatMap_append]

/-- text wrapped in `w:hyperlink`, `w:ins`, `w:sdt`/`w:sdtContent` … stands where the wrapper stands -/
theorem para_container_transparent (ptag ctag : Str) (pa ca : List (Str × Str)) (pre inner post : List Node)
    (hc : containers.contains (localName ctag) = true) :
    paraText (.elem ptag pa (pre ++ [.elem ctag ca inner] ++ post)) =
      paraText (.elem ptag pa pre) ++ paraText (.elem ptag pa inner) ++ paraText (.elem ptag pa post) := by
  have hne : (localName ctag == sR) = false := by
    cases h : localName ctag == sR
    · rfl
    · have : localName ctag = sR := by simpa using h
      rw [this] at hc; revert hc; decide
  have hc' : localName ctag ∈ containers := by simpa using hc
  simp [paraText, Node.kids, runsOfList_append, List.flatMap_append, runsOfList, runsOfNode, hne, hc']

example : containers.contains (localName [119, 58, 104, 121, 112, 101, 114, 108, 105, 110, 107]) = true := by decide

/-- **ODT**: mixed content of `text:p` / `text:h` in source order -/
theorem odt_inline_order (tag : Str) (attrs : List (Str × Str)) (k1 k2 : List Node) :
    Odt.paraText (.elem tag attrs (k1 ++ k2)) = Odt.paraText (.elem tag attrs k1) ++ Odt.paraText (.elem tag attrs k2) := by
  simp [Odt.paraText, Node.kids, Odt.inlineList_append]

/-- the quoted defect: text, span, text comes out as written (was: a ++ c ++ b) -/
theorem odt_text_around_span (a b c : Str) (pa sa : List (Str × Str)) :
    Odt.paraText (.elem [116, 101, 120, 116, 58, 112] pa
      [.text a, .elem [116, 101, 120, 116, 58, 115, 112, 97, 110] sa [.text b], .text c]) = a ++ b ++ c := by
  simp [Odt.paraText, Node.kids, Odt.inlineList, Odt.inlineNode, localName, Odt.sSpan]

/-- the basedOn walk visits no style twice (the cycle guard) … -/
theorem style_chain_nodup (defs : List StyleDef) (id : Str) : (chain defs id).Nodup :=
  chainFrom_nodup defs [] id

/-- … takes at most one step per defined style plus one for a dangling reference, so it
terminates on cyclic basedOn (the definition of `chainFrom` carries the termination proof;
this is the explicit bound: the loop of `buildInheritanceChain` turns at most once per defined
style, and since the chain is now built by appending and reversed once, the work is linear in
that number; the Go slice is the reverse of `chain`, as before - the rewrite changes no output) … -/
theorem style_chain_bounded (defs : List StyleDef) (id : Str) : (chain defs id).length ≤ defs.length + 1 := by
  have := chainFrom_length defs [] id
  rw [unvisited_nil] at this
  exact this

/-- … starts at the style itself and follows basedOn -/
theorem style_chain_linked (defs : List StyleDef) (id : Str) : Linked defs (chain defs id) :=
  chainFrom_linked defs [] id

/-- **style_level**. For a defined style, the heading level is the first level found along
the basedOn chain (the style itself first, then its ancestors). -/
theorem style_level (st : Styles) (id : Str) (d : StyleDef) (l : Nat) (pre post : List Str) (x : Str)
    (hid : id ≠ []) (hdef : lookup st.defs id = some d)
    (hch : chain st.defs id = pre ++ x :: post)
    (hpre : ∀ y ∈ pre, levelOfId st.defs y = none) (hx : levelOfId st.defs x = some l) :
    resolveHeading st id = some l := by
  unfold resolveHeading
  simp only [hid, if_false, hdef]
  have : (chain st.defs id).findSome? (levelOfId st.defs) = some l := by
    rw [hch, List.findSome?_append]
    have h1 : pre.findSome? (levelOfId st.defs) = none := by
      rw [List.findSome?_eq_none_iff]; exact hpre
    rw [h1]
    simp [hx]
  rw [this]

/-- without any level on the chain only the bold-and-large heuristic can make a heading -/
theorem style_level_none (st : Styles) (id : Str) (d : StyleDef)
    (hid : id ≠ []) (hdef : lookup st.defs id = some d)
    (hnone : ∀ y ∈ chain st.defs id, levelOfId st.defs y = none)
    (hplain : resolvedBold st.defs (chain st.defs id) = false) :
    resolveHeading st id = none := by
  unfold resolveHeading
  simp only [hid, if_false, hdef]
  have : (chain st.defs id).findSome? (levelOfId st.defs) = none := by
    rw [List.findSome?_eq_none_iff]; exact hnone
  rw [this]
  simp [hplain]

/-- non-vacuity: `A` based on `B`, `B` based on `A` (cyclic), `B` carries outline level 2:
the chain of `A` is `[A, B]` and the level is 3 -/
def cycA : StyleDef := { id := [65], name := [65], basedOn := [66], outline := [], boldSet := false, boldVal := [], sz := [] }
def cycB : StyleDef := { id := [66], name := [66], basedOn := [65], outline := [50], boldSet := false, boldVal := [], sz := [] }

example : chain [cycA, cycB] [65] = [[65], [66]] := by
  unfold chain
  rw [chainFrom_defined [cycA, cycB] [] [65] cycA (by decide) (by decide) (by decide)]
  rw [chainFrom_defined [cycA, cycB] [[65]] cycA.basedOn cycB (by decide) (by decide) (by decide)]
  rw [chainFrom_seen _ _ _ (by decide)]
  rfl

example : levelOfId [cycA, cycB] [65] = none ∧ levelOfId [cycA, cycB] [66] = some 3 := by decide

/-- the vertical-merge pass touches row spans only: text, grid span and continuation flag of
every cell of the parsed table are those `limitTableGrid` left (for every table) -/
theorem table_grid_any (tbl : Node) : stripRows (parseTable tbl) = stripRows (limitTableGrid (parseRows tbl)) := by
  unfold parseTable
  rw [stripRows_processVerticalMerges]

/-- **table_grid** (DOCX). Row r, cell i of the parsed table carries what the i-th `w:tc`
of the r-th `w:tr` says: its paragraphs' texts joined in order, its gridSpan, its
continuation flag; the vertical-merge pass touches row spans only.
RESTATED (was: for every `w:tbl`): `ParseTable` now calls `limitTableGrid`, which sets every
span to 1 when the table has spans and rows x spanned columns exceed `maxTableGridCells` =
2^20. The statement holds as before for every table within that limit (hypothesis `h`, a
decidable property of the authored table); beyond it see `table_grid_beyond`, and
`table_content_kept` for what holds of every table. -/
theorem table_grid (tbl : Node) (h : (parseRows tbl).length * colCount (parseRows tbl) ≤ maxTableGridCells) :
    stripRows (parseTable tbl) =
      (childrenNamed tbl.kids sTr).map fun tr => (childrenNamed tr.kids sTc).map fun tc => strip (parseCell tc) := by
  rw [table_grid_any, limit_within _ h]
  simp [stripRows, parseRows, List.map_map, Function.comp_def]

/-- the same for a table without any span, whatever its size -/
theorem table_grid_nospans (tbl : Node) (h : hasSpans (parseRows tbl) = false) :
    stripRows (parseTable tbl) =
      (childrenNamed tbl.kids sTr).map fun tr => (childrenNamed tr.kids sTc).map fun tc => strip (parseCell tc) := by
  rw [table_grid_any, limit_nospans _ h]
  simp [stripRows, parseRows, List.map_map, Function.comp_def]

/-- **table_grid_beyond** (DOCX). A table that has spans and whose rows x spanned columns
exceed 2^20 is read with every cell one grid column wide: texts and continuation flags as
authored, in source order, every `gridSpan` ignored. -/
theorem table_grid_beyond (tbl : Node) (hs : hasSpans (parseRows tbl) = true)
    (h : (parseRows tbl).length * colCount (parseRows tbl) > maxTableGridCells) :
    stripRows (parseTable tbl) =
      (childrenNamed tbl.kids sTr).map fun tr => (childrenNamed tr.kids sTc).map fun tc =>
        ((parseCell tc).text, 1, (parseCell tc).cont) := by
  rw [table_grid_any, limit_beyond _ hs h]
  simp [stripRows, resetSpans, parseRows, strip, List.map_map, Function.comp_def]

/-- **table_content_kept** (DOCX). For EVERY table, within the limit or not: row r, cell i of
the parsed table holds the text (paragraphs joined in order) and the continuation flag of the
i-th `w:tc` of the r-th `w:tr` - the grid limit never drops or reorders a cell. -/
theorem table_content_kept (tbl : Node) :
    (parseTable tbl).map (·.map fun c => (c.text, c.cont)) =
      (childrenNamed tbl.kids sTr).map fun tr => (childrenNamed tr.kids sTc).map fun tc =>
        ((parseCell tc).text, (parseCell tc).cont) := by
  rw [parseTable, map_processVerticalMerges _ (fun _ => rfl), limit_content]
  simp [parseRows, List.map_map, Function.comp_def]

/-- multi-paragraph cells: the non-empty texts of the cell's paragraphs (`cellParas`: the `w:p`
elements at the block level of the cell), in order, joined by a newline -/
theorem cell_text_joined (tc : Node) :
    (parseCell tc).text = joinWith [10] (((cellParas tc).map cellParaText).filter (· ≠ [])) := rfl

/-- the paragraphs of a cell, piece by piece -/
theorem cellParas_append (tag : Str) (attrs : List (Str × Str)) (a b : List Node) :
    cellParas (.elem tag attrs (a ++ b)) = cellParas (.elem tag attrs a) ++ cellParas (.elem tag attrs b) := by
  simp [cellParas, Node.kids, blocksOfList_append, childrenNamed_append]

/-- **cell_container_transparent** (DOCX). Paragraphs of a cell wrapped in a block-level
container (`w:sdt` / `w:sdtContent`, `w:customXml`) are paragraphs of the cell at the place of
the container, so their text is in the cell text between what stands before and behind it. -/
theorem cell_container_transparent (tcTag ctag : Str) (ta ca : List (Str × Str)) (pre inner post : List Node)
    (hc : blockContainers.contains (localName ctag) = true) :
    cellParas (.elem tcTag ta (pre ++ [.elem ctag ca inner] ++ post)) =
      cellParas (.elem tcTag ta pre) ++ cellParas (.elem tcTag ta inner) ++ cellParas (.elem tcTag ta post) := by
  rw [cellParas_append, cellParas_append]
  have hm : localName ctag ∈ blockContainers := by simpa using hc
  have : cellParas (.elem tcTag ta [.elem ctag ca inner]) = cellParas (.elem tcTag ta inner) := by
    simp [cellParas, Node.kids, blocksOfList, blocksOfNode, hm]
  rw [this]

/-- without a block container among its children a cell's paragraphs are its direct `w:p`
children (what `parseCellOld` read: the repair changes nothing for such cells) -/
theorem cell_no_container (tc : Node) (h : ∀ n ∈ tc.kids, blockContainers.contains n.loc = false) :
    cellParas tc = childrenNamed tc.kids sP ∧ parseCell tc = parseCellOld tc := by
  have hb : blocksOfList tc.kids = tc.kids.filter (·.isElem) := blocksOfList_plain tc.kids h
  have h1 := childrenNamed_filter_isElem tc.kids
  have h2 := childNamed_filter_isElem tc.kids
  constructor
  · simp only [cellParas, hb, h1]
  · simp only [parseCell, parseCellOld, cellParas, hb, h1, h2]

/-- **docx_cell_container_content_lost_pinned_counterexample**. The cell `A`, content control
holding the paragraph `B`, `C`: the OLD reader's cell text is `A\nC`, the repaired reader's
`A\nB\nC`. -/
theorem docx_cell_container_content_lost_pinned_counterexample :
    (parseCellOld (.elem [119, 58, 116, 99] [] [wP [wR [wT [65]]], wSdt [wP [wR [wT [66]]]], wP [wR [wT [67]]]])).text = [65, 10, 67]
    ∧ (parseCell (.elem [119, 58, 116, 99] [] [wP [wR [wT [65]]], wSdt [wP [wR [wT [66]]]], wP [wR [wT [67]]]])).text = [65, 10, 66, 10, 67] := by
  constructor <;> decide +kernel

/-- vertical merge, the regular case checked on an instance by the kernel: a 3-row column
`restart / continue / (bare)` next to plain cells gives the start cell row span 3 -/
example :
    let c (cont : Bool) : Cell := { text := [], colSpan := 1, rowSpan := 1, cont := cont }
    (processVerticalMerges [[c false, c false], [c true, c false], [c true, c false]]).map (·.map (·.rowSpan))
      = [[3, 1], [1, 1], [1, 1]] := by decide

/-- a span / repetition attribute never yields less than 1 or more than `maxCellSpan`,
whatever the attribute says (sign, zero, huge, not a number) -/
theorem boundedSpan_range (s : Str) : 1 ≤ boundedSpan s ∧ boundedSpan s ≤ 1024 :=
  boundedSpan_bounds s

/-- the edges: 1 and 1024 are taken, 1025, 0, -1, a 32-bit, a 64-bit and a larger value,
the empty string and a non-number leave the default 1; a leading `+` is a sign -/
example : boundedSpan [49] = 1 ∧ boundedSpan [49, 48, 50, 52] = 1024 ∧ boundedSpan [49, 48, 50, 53] = 1
    ∧ boundedSpan [48] = 1 ∧ boundedSpan [45, 49] = 1 ∧ boundedSpan [50, 49, 52, 55, 52, 56, 51, 54, 52, 55] = 1
    ∧ boundedSpan [57, 50, 50, 51, 51, 55, 50, 48, 51, 54, 56, 53, 52, 55, 55, 53, 56, 48, 55] = 1
    ∧ boundedSpan [57, 57, 57, 57, 57, 57, 57, 57, 57, 57, 57, 57, 57, 57, 57, 57, 57, 57, 57, 57] = 1
    ∧ boundedSpan [] = 1 ∧ boundedSpan [120] = 1 ∧ boundedSpan [43, 51] = 3 ∧ boundedSpan [48, 48, 55] = 7 := by
  decide +kernel

/-- **docx_span_bounded**. Every parsed DOCX cell is 1..1024 grid columns wide. -/
theorem docx_span_bounded (tc : Node) :
    1 ≤ (parseCell tc).colSpan ∧ (parseCell tc).colSpan ≤ 1024 := by
  unfold parseCell
  exact boundedSpan_range _

/-- **odt_span_bounded**. Every parsed ODT cell spans 1..1024 columns and 1..1024 rows. -/
theorem odt_span_bounded (tc : Node) :
    (1 ≤ (Odt.parseCell tc).colSpan ∧ (Odt.parseCell tc).colSpan ≤ 1024)
    ∧ (1 ≤ (Odt.parseCell tc).rowSpan ∧ (Odt.parseCell tc).rowSpan ≤ 1024) := by
  unfold Odt.parseCell Odt.spanOf
  exact ⟨boundedSpan_range _, boundedSpan_range _⟩

theorem sum_map_le {α : Type} (f : α → Nat) (b : Nat) (h : ∀ x, f x ≤ b) :
    ∀ l : List α, (l.map f).sum ≤ b * l.length := by
  intro l
  rw [Nat.mul_comm]
  exact sum_map_le_mul f b l fun x _ => h x

/-- **odt_columns_bounded**. The column widths of an ODT table number at most 1024 per
`table:table-column` element (direct or inside grouping elements). -/
theorem odt_columns_bounded (tbl : Node) :
    Odt.columnCount tbl ≤ 1024 * (Odt.tableColumns tbl).length := by
  unfold Odt.columnCount
  exact sum_map_le _ 1024 (fun col => (boundedSpan_range _).2) _

/-- **list_level_bounded**. Whatever `w:ilvl` says, the list level is in 0..8. -/
theorem list_level_bounded (s : Str) : parseListLevel s ≤ 8 :=
  parseListLevel_eq s ▸ Nat.min_le_right _ _

/-- the levels WordprocessingML defines are read as written -/
theorem list_level_valid : ∀ k : Fin 9, parseListLevel [48 + k.val] = k.val := by decide +kernel

/-- the edges: 8 stays, 9 / 10 / 2147483647 / 99999999999999999999 become 8, the sign of
"-1" is ignored (level 1), the empty string is level 0 -/
example : parseListLevel [56] = 8 ∧ parseListLevel [57] = 8 ∧ parseListLevel [49, 48] = 8
    ∧ parseListLevel [50, 49, 52, 55, 52, 56, 51, 54, 52, 55] = 8
    ∧ parseListLevel [57, 57, 57, 57, 57, 57, 57, 57, 57, 57, 57, 57, 57, 57, 57, 57, 57, 57, 57, 57] = 8
    ∧ parseListLevel [45, 49] = 1 ∧ parseListLevel [] = 0 ∧ parseListLevel [48, 48, 51] = 3 := by decide +kernel

/-- **headers_not_in_body**. The element list is a function of document.xml and styles.xml
only (`elements` has no header/footer argument), and the exclusion, written as a filter on the
element list (`visibleElements`), removes nothing with the default options, whatever the header
and footer lines are. (The views decide by `Docx.excluded`; of them
`C16Render.docx_headers_never_leak` says the same.) -/
theorem headers_not_in_body (hdr ftr : List Str) (trim : Str → Str) (els : List Elem) :
    visibleElements {} hdr ftr trim els = els := by
  unfold visibleElements
  rw [List.filter_eq_self]
  intro e _
  cases e with
  | para p => simp [shouldExclude]
  | table _ => rfl

/-- and when asked, exclusion only removes elements (never adds header text) -/
theorem exclusion_only_narrows (opts : ExtractOptions) (hdr ftr : List Str) (trim : Str → Str) (els : List Elem) :
    (visibleElements opts hdr ftr trim els).Sublist els := by
  unfold visibleElements
  exact List.filter_sublist

/-- **odt_body_interleave**. Inside `office:text` the streaming walk appends, for each
child in source order, exactly the elements that child stands for (`elemsOfNode`: a
paragraph, a heading, the items of a list, a table; a wrapper such as `text:section`
contributes its children's elements in place).
RESTATED (was: for every list of children): `decodeInlineContentAt` refuses the 10001st
level of nested `text:span` / `text:a`, and `odt.Open` then fails (`odt_body_refused`,
`C16Bounds.odt_open_beyond`). The statement holds as before when every body element is decoded
to its end (`decodesList kids`, decidable; by `odt_decodes_iff_depth` it says that no
paragraph of a body element nests spans deeper than `maxInlineDepth` = 10000). -/
theorem odt_body_interleave (defs : List Odt.StyleDef) (ta : List (Str × Str)) (kids : List Node) (acc : List Odt.Elem)
    (hk : Odt.noTextList kids = true) (hdec : Odt.decodesList kids = true) :
    Odt.walkNode defs (.elem Odt.sOfficeText ta kids) { inBody := false, acc := acc } =
      { inBody := false, acc := acc ++ Odt.elemsOfList defs kids } := by
  simp only [Odt.walkNode, BEq.rfl, if_true, Bool.false_eq_true, if_false]
  rw [(Odt.walk_inside_list defs kids _ rfl rfl hk).1 hdec]

/-- **odt_body_refused**. The other half: when some body element is not decoded to its end the
walk over `office:text` ends with the depth error (`failed`), whatever stands before or behind
that element. -/
theorem odt_body_refused (defs : List Odt.StyleDef) (ta : List (Str × Str)) (kids : List Node) (acc : List Odt.Elem)
    (hk : Odt.noTextList kids = true) (hdec : Odt.decodesList kids = false) :
    (Odt.walkNode defs (.elem Odt.sOfficeText ta kids) { inBody := false, acc := acc }).failed = true := by
  simp only [Odt.walkNode, BEq.rfl, if_true, Bool.false_eq_true, if_false]
  exact (Odt.walk_inside_list defs kids _ rfl rfl hk).2 hdec

/-- the walk of `parseBodyElements` from the root of content.xml: `office:text` sits in
`office:body`, nothing named `office:text` elsewhere (styles, scripts, …) -/
theorem odt_body_walk (docTag bodyTag : Str) (da ba ta : List (Str × Str)) (pre kids post : List Node)
    (styles : Option Node)
    (hdoc : docTag ≠ Odt.sOfficeText) (hbody : bodyTag ≠ Odt.sOfficeText)
    (hpre : Odt.noTextList pre = true) :
    let content : Node := .elem docTag da (pre ++ [.elem bodyTag ba [.elem Odt.sOfficeText ta kids]] ++ post)
    Odt.bodyWalk content styles =
      Odt.walkList (Odt.allStyles content styles) post
        (Odt.walkNode (Odt.allStyles content styles) (.elem Odt.sOfficeText ta kids) { inBody := false, acc := [] }) := by
  intro content
  unfold Odt.bodyWalk
  generalize Odt.allStyles content styles = defs
  rw [Odt.walkNode_outside defs docTag da _ _ rfl rfl hdoc, Odt.walkList_append, Odt.walkList_append,
    Odt.walk_outside_list defs pre _ rfl hpre]
  simp only [Odt.walkList]
  rw [Odt.walkNode_outside defs bodyTag ba _ _ rfl rfl hbody]
  rfl

/-- the whole walk over a content.xml whose body elements are all decoded to their end: no
error, and the elements are what the children of `office:text` stand for -/
theorem odt_body_walk_within (docTag bodyTag : Str) (da ba ta : List (Str × Str)) (pre kids post : List Node)
    (styles : Option Node)
    (hdoc : docTag ≠ Odt.sOfficeText) (hbody : bodyTag ≠ Odt.sOfficeText)
    (hpre : Odt.noTextList pre = true) (hpost : Odt.noTextList post = true) (hk : Odt.noTextList kids = true)
    (hdec : Odt.decodesList kids = true) :
    Odt.bodyWalk (.elem docTag da (pre ++ [.elem bodyTag ba [.elem Odt.sOfficeText ta kids]] ++ post)) styles =
      { inBody := false, failed := false,
        acc := Odt.elemsOfList (Odt.allStyles (.elem docTag da (pre ++ [.elem bodyTag ba [.elem Odt.sOfficeText ta kids]] ++ post)) styles) kids } := by
  have := odt_body_walk docTag bodyTag da ba ta pre kids post styles hdoc hbody hpre
  simp only at this
  rw [this, odt_body_interleave _ ta kids [] hk hdec, Odt.walk_outside_list _ post _ rfl hpost]
  simp

/-- **odt_elements_interleave**: the same from the root of content.xml. RESTATED with `hdec` as
`odt_body_interleave`. -/
theorem odt_elements_interleave (docTag bodyTag : Str) (da ba ta : List (Str × Str)) (pre kids post : List Node)
    (styles : Option Node)
    (hdoc : docTag ≠ Odt.sOfficeText) (hbody : bodyTag ≠ Odt.sOfficeText)
    (hpre : Odt.noTextList pre = true) (hpost : Odt.noTextList post = true) (hk : Odt.noTextList kids = true)
    (hdec : Odt.decodesList kids = true) :
    Odt.elements (.elem docTag da (pre ++ [.elem bodyTag ba [.elem Odt.sOfficeText ta kids]] ++ post)) styles =
      Odt.elemsOfList (Odt.allStyles (.elem docTag da (pre ++ [.elem bodyTag ba [.elem Odt.sOfficeText ta kids]] ++ post)) styles) kids := by
  unfold Odt.elements
  rw [odt_body_walk_within docTag bodyTag da ba ta pre kids post styles hdoc hbody hpre hpost hk hdec]

/-- … and when some body element is not decoded to its end, the walk over content.xml ends with
the depth error, whatever follows the body -/
theorem odt_elements_refused (docTag bodyTag : Str) (da ba ta : List (Str × Str)) (pre kids post : List Node)
    (styles : Option Node)
    (hdoc : docTag ≠ Odt.sOfficeText) (hbody : bodyTag ≠ Odt.sOfficeText)
    (hpre : Odt.noTextList pre = true) (hk : Odt.noTextList kids = true)
    (hdec : Odt.decodesList kids = false) :
    (Odt.bodyWalk (.elem docTag da (pre ++ [.elem bodyTag ba [.elem Odt.sOfficeText ta kids]] ++ post)) styles).failed = true := by
  have := odt_body_walk docTag bodyTag da ba ta pre kids post styles hdoc hbody hpre
  simp only at this
  rw [this]
  have hf := odt_body_refused (Odt.allStyles (.elem docTag da (pre ++ [.elem bodyTag ba [.elem Odt.sOfficeText ta kids]] ++ post)) styles)
    ta kids [] hk hdec
  rw [Odt.walk_failed_list _ post _ hf]
  exact hf

/-- **table_grid** (ODT). Expanding row spans only inserts blank covered placeholders: in every
row the cells `limitTableGrid` left (text = paragraphs joined in order, column/row span as
written or, beyond the grid limit, 1) stay in source order, or a prefix of them does (a row that
overflows the grid is cut short; the statement says prefix, not when). Holds for every table. -/
theorem odt_table_grid_any (tbl : Node) : Odt.RowsKept (Odt.parseTable tbl) (Odt.limitTableGrid (Odt.parseRows tbl)) := by
  unfold Odt.parseTable Odt.processRowSpans
  exact Odt.live_spanRows _ _ _ (Odt.limit_live _ (Odt.parseRows_live tbl))

/-- **odt_table_grid**: within the grid limit the cells are the authored ones.
RESTATED (was: for every `table:table`): `ParseTable` now calls `limitTableGrid`; the
hypothesis `h` (rows x spanned columns ≤ `maxTableGridCells` = 2^20, decidable) is what the
code demands for believing the spans. Beyond it: `odt_table_grid_beyond`. -/
theorem odt_table_grid (tbl : Node)
    (h : (Odt.parseRows tbl).length * Odt.colCount (Odt.parseRows tbl) ≤ Odt.maxTableGridCells) :
    Odt.RowsKept (Odt.parseTable tbl) (Odt.parseRows tbl) := by
  have := odt_table_grid_any tbl
  rw [Odt.limit_within _ h] at this
  exact this

/-- **odt_table_grid_beyond**. A table that has spans and whose rows x spanned columns exceed
2^20 is read without any span: no placeholder is inserted, every row holds its authored cells
in source order, each 1 x 1 with its text. -/
theorem odt_table_grid_beyond (tbl : Node) (hs : Odt.hasSpans (Odt.parseRows tbl) = true)
    (h : (Odt.parseRows tbl).length * Odt.colCount (Odt.parseRows tbl) > Odt.maxTableGridCells) :
    Odt.parseTable tbl = Odt.resetSpans (Odt.parseRows tbl) := by
  unfold Odt.parseTable
  rw [Odt.limit_beyond _ hs h, Odt.processRowSpans_resetSpans]

/-- **odt_placeholders_blank**. Every covered cell of a parsed ODT table is the blank 1x1
placeholder: it holds no text and no span of its own (whatever the authored cells say). -/
theorem odt_placeholders_blank (tbl : Node) (row : List Odt.Cell) (c : Odt.Cell)
    (hrow : row ∈ Odt.parseTable tbl) (hc : c ∈ row) (hcov : c.covered = true) : c = Odt.coveredCell := by
  unfold Odt.parseTable Odt.processRowSpans at hrow
  exact Odt.covered_blank_spanRows _ _ _ (Odt.limit_live _ (Odt.parseRows_live tbl)) row hrow c hc hcov

/-- the authored grid itself: row r, cell i is the i-th `table:table-cell` of the r-th `table:table-row` -/
theorem odt_cell_authored (tc : Node) :
    (Odt.parseCell tc).text = joinWith [10] (((childrenNamed tc.kids Odt.sP).map Odt.paraText).filter (· ≠ []))
    ∧ (Odt.parseCell tc).colSpan = Odt.spanOf (tc.attr Odt.sColsSpanned)
    ∧ (Odt.parseCell tc).rowSpan = Odt.spanOf (tc.attr Odt.sRowsSpanned) := ⟨rfl, rfl, rfl⟩

/-- row spans on an instance, checked by the kernel: a 2x2 cell spanning two rows and two
columns, followed by a plain cell; the second row gets two covered placeholders in front -/
example :
    let c (t : Str) (cs rs : Nat) : Odt.Cell := { text := t, colSpan := cs, rowSpan := rs, covered := false }
    (Odt.processRowSpans [[c [65] 2 2, c [66] 1 1], [c [67] 1 1]]).map (·.map fun x => (x.text, x.covered))
      = [[([65], false), ([66], false)], [([], true), ([], true), ([67], false)]] := by decide

end Tabula.C16
