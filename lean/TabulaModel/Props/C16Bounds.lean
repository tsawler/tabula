import TabulaModel.Lemmas.Docx
import TabulaModel.Lemmas.Odt
import TabulaModel.Model.DocxRender
import TabulaModel.Props.C16
/-!
# C16 — the resource bounds of the DOCX and ODT readers

The readers limit four things (repairs made for the property "no input can crash, hang or
exhaust the process"); the models carry them with the same constants and comparisons:

* `maxInlineDepth` = 10000 — inline containers of a paragraph (`w:ins`, `w:sdt`, `w:hyperlink`, …;
  `text:span`, `text:a`): `decodeContent` / `decodeInlineContentAt` are entered with `depth+1`
  and begin with `if depth > maxInlineDepth { error }`. DOCX: `docx.Open` fails. ODT: `odt.Open`
  fails, too (before the repair the element was dropped and the body walk ended, silently, at the
  end of the paragraph the decoder gave up in: the `…_pinned_counterexample` theorems).
* `maxSpaceRun` = 1024 — `<text:s text:c="N"/>`: `if count > maxSpaceRun { count = maxSpaceRun }`.
* `maxTableGridCells` = 2^20 — `limitTableGrid`: spans are believed only if
  `len(rows) <= maxTableGridCells / cols`; otherwise every cell is 1 x 1. The same constant
  bounds the columns an ODT table DECLARES (`ToModelTable`: believed only while rows x declared
  columns ≤ 2^20) - `Props/C16RenderOdt.lean`: `odt_grid_declared_within` / `_beyond`,
  `odt_model_grid_bounded`, `odt_model_grid_bounded_authored`.
* `maxCellSpan` = 1024, `maxListLevel` = 8 — in `Props/C16.lean` (`docx_span_bounded`,
  `odt_span_bounded`, `odt_columns_bounded`, `list_level_bounded`).

For each bound: what the reader answers beyond it, a bound on the work for EVERY input, and the
edge (bound, bound+1). The theorems of the other C16 files that no longer hold for all inputs
carry the bound as a hypothesis there; the characterisations here say what those hypotheses mean.
-/
namespace Tabula.C16Bounds
open Tabula.Xml

section DocxDepth
open Tabula.Docx

/-- **docx_decode_within**. A paragraph whose inline containers nest at most 10000 deep is
decoded, and the runs `decodeContent` collects are `runsOfList` - the runs every other theorem
about paragraph text speaks of. -/
theorem docx_decode_within (kids : List Node) (h : nestList kids ≤ maxInlineDepth) :
    decodeList 0 kids = some (runsOfList kids) := by
  rw [decodeList_zero, if_pos h]

/-- **docx_decode_beyond**. One level more and the paragraph is refused (the error
"inline containers nested deeper than 10000 levels"). -/
theorem docx_decode_beyond (kids : List Node) (h : nestList kids > maxInlineDepth) : decodeList 0 kids = none := by
  rw [decodeList_zero, if_neg (Nat.not_le.2 h)]

/-- what the hypothesis of `docx_end_to_end` means for one paragraph -/
theorem docx_decodes_iff_depth (p : Node) : paraDecodes p = true ↔ nestList p.kids ≤ maxInlineDepth := by
  rw [paraDecodes, decodeList_zero]
  split <;> simp [*]

/-- **docx_blocks_within / docx_blocks_beyond**. `decodeBlocks` (the body's and the cells'
`UnmarshalXML`): block containers (`w:sdt`, `w:sdtContent`, `w:customXml`) nested at most 10000
deep are looked through and the block level `blocksOfList` is what the callback is offered, in
document order; one level more and the error "block containers nested deeper than 10000
levels" is returned. -/
theorem docx_blocks_within (kids : List Node) (h : blockNestList kids ≤ maxInlineDepth) :
    decodeBlocksList 0 kids = some (blocksOfList kids) := by
  rw [decodeBlocksList_zero, if_pos h]

theorem docx_blocks_beyond (kids : List Node) (h : blockNestList kids > maxInlineDepth) :
    decodeBlocksList 0 kids = none := by
  rw [decodeBlocksList_zero, if_neg (Nat.not_le.2 h)]

/-- … and for the document: `Open` succeeds exactly when every paragraph `xml.Unmarshal`
decodes stays within the depth bound, and so do the block containers of the body and of every
cell it decodes -/
theorem docx_open_iff_depth (doc : Node) :
    documentDecodes doc = true ↔
      (∀ ks ∈ decodedScopes doc, blockNestList ks ≤ maxInlineDepth) ∧
      (∀ p ∈ decodedParas doc, nestList p.kids ≤ maxInlineDepth) := by
  simp only [documentDecodes, Bool.and_eq_true, List.all_eq_true, blocksDecode_iff, docx_decodes_iff_depth]

/-- **docx_open_within / docx_open_beyond / docx_open_beyond_blocks**: the element list `Open` leaves -/
theorem docx_open_within (doc : Node) (styles : Option Node)
    (hb : ∀ ks ∈ decodedScopes doc, blockNestList ks ≤ maxInlineDepth)
    (h : ∀ p ∈ decodedParas doc, nestList p.kids ≤ maxInlineDepth) :
    openElements doc styles = some (elements doc styles) := by
  unfold openElements
  rw [if_pos ((docx_open_iff_depth doc).mpr ⟨hb, h⟩)]

theorem docx_open_beyond (doc : Node) (styles : Option Node) (p : Node) (hp : p ∈ decodedParas doc)
    (h : nestList p.kids > maxInlineDepth) : openElements doc styles = none := by
  unfold openElements
  have : ¬ (documentDecodes doc = true) := by
    intro hd
    have := ((docx_open_iff_depth doc).mp hd).2 p hp
    omega
  rw [if_neg this]

/-- block containers nested deeper than 10000 in the body or in a decoded cell: `Open` fails -/
theorem docx_open_beyond_blocks (doc : Node) (styles : Option Node) (ks : List Node) (hk : ks ∈ decodedScopes doc)
    (h : blockNestList ks > maxInlineDepth) : openElements doc styles = none := by
  unfold openElements
  have : ¬ (documentDecodes doc = true) := by
    intro hd
    have := ((docx_open_iff_depth doc).mp hd).1 ks hk
    omega
  rw [if_neg this]

/-- the edge: 10000 nested `w:customXml` around a paragraph are looked through (the paragraph
is a block of the body), 10001 are refused -/
def wCustomXml : Str := [119, 58, 99, 117, 115, 116, 111, 109, 88, 109, 108]
def aPara : Node := .elem [119, 58, 112] [] [.elem [119, 58, 114] [] [.elem [119, 58, 116] [] [.text [65]]]]

example : decodeBlocksList 0 (wrapN wCustomXml 10000 [aPara]) = some [aPara]
    ∧ decodeBlocksList 0 (wrapN wCustomXml 10001 [aPara]) = none := by
  have hc : blockContainers.contains (localName wCustomXml) = true := by decide
  have hn : blockNestList [aPara] = 0 := by decide
  constructor
  · rw [docx_blocks_within _ (by rw [blockNest_wrapN wCustomXml hc, hn]; decide), blocks_wrapN wCustomXml hc]
    rfl
  · exact docx_blocks_beyond _ (by rw [blockNest_wrapN wCustomXml hc, hn]; decide)

/-- **docx_decode_depth_bounded** (bounded work, every input). `decodeContent` is never entered
with a depth above `maxInlineDepth + 1` = 10001 - the last one being the call that returns the
error at once -, however deep the containers of the paragraph nest. -/
theorem docx_decode_depth_bounded (kids : List Node) : reachList 0 kids ≤ maxInlineDepth + 1 :=
  reachList_le kids 0 (Nat.zero_le _)

/-- the edge: 10000 nested `w:ins` around a run are decoded (the run comes out), 10001 are refused -/
def wIns : Str := [119, 58, 105, 110, 115]
def aRun : Node := .elem [119, 58, 114] [] [.elem [119, 58, 116] [] [.text [65]]]

example : decodeList 0 (wrapN wIns 10000 [aRun]) = some [aRun] ∧ decodeList 0 (wrapN wIns 10001 [aRun]) = none := by
  have hc : containers.contains (localName wIns) = true := by decide
  have hr : (localName wIns == sR) = false := by decide
  have hn : nestList [aRun] = 0 := by decide
  constructor
  · rw [docx_decode_within _ (by rw [nest_wrapN wIns hc hr, hn]; decide), runs_wrapN wIns hc hr]
    rfl
  · exact docx_decode_beyond _ (by rw [nest_wrapN wIns hc hr, hn]; decide)

/-- a header or footer part with a paragraph beyond the bound is left out (its text is empty);
within the bound its text is that of its paragraphs -/
theorem docx_part_beyond (root : Node) (p : Node) (hp : p ∈ childrenNamed root.kids sP)
    (h : nestList p.kids > maxInlineDepth) : partText root = [] := by
  unfold partText
  have : ¬ ((childrenNamed root.kids sP).all paraDecodes = true) := by
    intro ha
    rw [List.all_eq_true] at ha
    have := (docx_decodes_iff_depth p).mp (ha p hp)
    omega
  rw [if_neg this]

theorem docx_part_within (root : Node) (h : ∀ p ∈ childrenNamed root.kids sP, nestList p.kids ≤ maxInlineDepth) :
    partText root = joinWith [10] (((childrenNamed root.kids sP).map paraText).filter (· ≠ [])) := by
  unfold partText
  have : (childrenNamed root.kids sP).all paraDecodes = true := by
    rw [List.all_eq_true]
    intro p hp; exact (docx_decodes_iff_depth p).mpr (h p hp)
  rw [if_pos this]

end DocxDepth

section OdtDepth
open Tabula.Odt

/-- what `decodesList` (the hypothesis of `odt_body_interleave`, `odt_end_to_end`) means for a
paragraph or heading: its spans and links nest at most 10000 deep -/
theorem odt_decodes_iff_depth (p : Node) : paraDecodes p = true ↔ spanNestList p.kids ≤ maxInlineDepth := by
  rw [paraDecodes, Option.isNone_iff_eq_none, residual_inline p.kids 0 (Nat.zero_le _), Nat.zero_add]

/-- **odt_inline_recursion_bounded** (one step of the recursion, every input).
`decodeInlineContentAt` goes one level deeper only into a depth of at most `maxInlineDepth`. -/
theorem odt_inline_recursion_bounded (d : Nat) (loc : Str) (c : Ctx) (h : descend (.inline d) loc = .into c) :
    c = .inline (d + 1) ∧ d + 1 ≤ maxInlineDepth := by
  simp only [descend] at h
  split at h
  · split at h
    · cases h
    · rename_i hle
      cases h
      exact ⟨rfl, by omega⟩
  · cases h

/-- **odt_gives_up**. RESTATED (was: the element is dropped, the walk reads on behind the refused
tag to the end of the paragraph and the loop ends there without an error). A `text:p` / `text:h`
of the body the decoder gives up in (its spans nest deeper than the bound: `decodes` is false)
is not recorded and `parseBodyElements` returns the depth error: nothing is added, the walk has
failed. -/
theorem odt_gives_up (defs : List StyleDef) (tag : Str) (attrs : List (Str × Str)) (kids : List Node) (w : Walk)
    (hb : w.inBody = true) (hd : w.failed = false) (ht : tag ≠ sOfficeText)
    (hp : localName tag = sP ∨ localName tag = sH)
    (hr : decodes (.inline 0) kids = false) :
    walkNode defs (.elem tag attrs kids) w = { w with failed := true } := by
  rw [walkNode_body defs tag attrs kids w hb hd ht, bodyCtx_para hp]
  exact if_neg (by rw [hr]; exact Bool.false_ne_true)

/-- **odt_gives_up_in_block**. The same for a `text:list` or a `table:table` of the body one of
whose paragraphs (of an item, a nested list's item, a cell) nests its spans too deep: no item
and no table is recorded (not even the items and rows before that paragraph) and
`parseBodyElements` returns the depth error. -/
theorem odt_gives_up_in_block (defs : List StyleDef) (tag : Str) (attrs : List (Str × Str)) (kids : List Node) (w : Walk)
    (hb : w.inBody = true) (hd : w.failed = false) (ht : tag ≠ sOfficeText)
    (hp : (localName tag = sList ∧ decodes .list kids = false) ∨ (localName tag = sTable ∧ decodes .table kids = false)) :
    walkNode defs (.elem tag attrs kids) w = { w with failed := true } := by
  rw [walkNode_body defs tag attrs kids w hb hd ht]
  cases hp with
  | inl h =>
    have hc : bodyCtx (localName tag) = some .list := by rw [h.1]; rfl
    rw [hc]
    exact if_neg (by rw [h.2]; exact Bool.false_ne_true)
  | inr h =>
    have hc : bodyCtx (localName tag) = some .table := by rw [h.1]; rfl
    rw [hc]
    exact if_neg (by rw [h.2]; exact Bool.false_ne_true)

/-- a list or a table is not decoded to its end as soon as ONE paragraph below it is not
(`residualNode` answers `some` for the item, row or cell it sits in) -/
theorem odt_block_gives_up (ctx : Ctx) (n : Node) (rest : List Node) (r : List Node)
    (h : residualNode ctx n = some r) : decodes ctx (n :: rest) = false := by
  simp [decodes, residualList, h]

theorem decodesList_append (a b : List Node) : decodesList (a ++ b) = (decodesList a && decodesList b) := by
  induction a with
  | nil => simp [decodesList]
  | cons n rest ih => simp [decodesList, ih, Bool.and_assoc]

/-- **odt_open_within / odt_open_beyond / odt_open_iff**: what `odt.Open` leaves, for every
content.xml whose `office:text` sits in `office:body` (nothing else named `office:text`). Within
the bound - every body element decoded to its end - the reader holds the elements the children
of `office:text` stand for; beyond it `Open` fails ("parsing content: inline content nested
deeper than 10000 levels"), as `docx.Open` does (`docx_open_beyond`). -/
theorem odt_open_within (docTag bodyTag : Str) (da ba ta : List (Str × Str)) (pre kids post : List Node) (styles : Option Node)
    (hdoc : docTag ≠ sOfficeText) (hbody : bodyTag ≠ sOfficeText)
    (hpre : noTextList pre = true) (hpost : noTextList post = true) (hk : noTextList kids = true)
    (hdec : decodesList kids = true) :
    let content : Node := .elem docTag da (pre ++ [.elem bodyTag ba [.elem sOfficeText ta kids]] ++ post)
    openElements content styles = some (elements content styles)
    ∧ elements content styles = elemsOfList (allStyles content styles) kids := by
  intro content
  have hw := C16.odt_body_walk_within docTag bodyTag da ba ta pre kids post styles hdoc hbody hpre hpost hk hdec
  refine ⟨?_, C16.odt_elements_interleave docTag bodyTag da ba ta pre kids post styles hdoc hbody hpre hpost hk hdec⟩
  unfold openElements
  rw [hw]
  rfl

theorem odt_open_beyond (docTag bodyTag : Str) (da ba ta : List (Str × Str)) (pre kids post : List Node) (styles : Option Node)
    (hdoc : docTag ≠ sOfficeText) (hbody : bodyTag ≠ sOfficeText)
    (hpre : noTextList pre = true) (hk : noTextList kids = true)
    (hdec : decodesList kids = false) :
    openElements (.elem docTag da (pre ++ [.elem bodyTag ba [.elem sOfficeText ta kids]] ++ post)) styles = none := by
  unfold openElements
  rw [C16.odt_elements_refused docTag bodyTag da ba ta pre kids post styles hdoc hbody hpre hk hdec]
  rfl

theorem odt_open_iff (docTag bodyTag : Str) (da ba ta : List (Str × Str)) (pre kids post : List Node) (styles : Option Node)
    (hdoc : docTag ≠ sOfficeText) (hbody : bodyTag ≠ sOfficeText)
    (hpre : noTextList pre = true) (hpost : noTextList post = true) (hk : noTextList kids = true) :
    (openElements (.elem docTag da (pre ++ [.elem bodyTag ba [.elem sOfficeText ta kids]] ++ post)) styles).isSome = decodesList kids := by
  cases hdec : decodesList kids with
  | true => rw [(odt_open_within docTag bodyTag da ba ta pre kids post styles hdoc hbody hpre hpost hk hdec).1]; rfl
  | false => rw [odt_open_beyond docTag bodyTag da ba ta pre kids post styles hdoc hbody hpre hk hdec]; rfl

/-- **odt_open_beyond_paragraph** (the counterpart of `docx_open_beyond`). ONE `text:p` / `text:h`
among the children of `office:text` whose spans nest deeper than 10000 makes `Open` fail -
whatever stands before it (`b1`, which may itself hold anything) and behind it (`b2`). -/
theorem odt_open_beyond_paragraph (docTag bodyTag : Str) (da ba ta : List (Str × Str)) (pre post b1 b2 : List Node) (styles : Option Node)
    (tag : Str) (attrs : List (Str × Str)) (kids : List Node)
    (hdoc : docTag ≠ sOfficeText) (hbody : bodyTag ≠ sOfficeText)
    (hpre : noTextList pre = true) (hk : noTextList (b1 ++ [.elem tag attrs kids] ++ b2) = true)
    (hp : localName tag = sP ∨ localName tag = sH)
    (h : spanNestList kids > maxInlineDepth) :
    openElements (.elem docTag da (pre ++ [.elem bodyTag ba [.elem sOfficeText ta (b1 ++ [.elem tag attrs kids] ++ b2)]] ++ post)) styles = none := by
  apply odt_open_beyond docTag bodyTag da ba ta pre _ post styles hdoc hbody hpre hk
  have hpd : paraDecodes (.elem tag attrs kids) = false := by
    cases hx : paraDecodes (.elem tag attrs kids) with
    | false => rfl
    | true =>
      have := (odt_decodes_iff_depth _).mp hx
      simp only [Node.kids] at this
      omega
  have hn : decodesNode (.elem tag attrs kids) = false := by
    rw [decodesNode_elem, bodyCtx_para hp]
    exact hpd
  rw [decodesList_append, decodesList_append]
  simp [decodesList, hn]

theorem residual_spanN (stag : Str) (hs : (localName stag == sSpan || localName stag == sA) = true) (inner : List Node) :
    ∀ k d, d ≤ maxInlineDepth → d + k > maxInlineDepth →
      ∃ j, residualList (.inline d) (spanN stag k inner) = some (spanN stag j inner) := by
  intro k
  induction k with
  | zero => intro d h1 h2; omega
  | succ k ih =>
    intro d h1 h2
    simp only [spanN, residualList, residualNode, descend, hs, if_true]
    by_cases h : d + 1 > maxInlineDepth
    · simp only [h, if_true, Ctx.isInline, List.append_nil]
      exact ⟨k, rfl⟩
    · simp only [h, if_false]
      obtain ⟨j, hj⟩ := ih (d + 1) (by omega) (by omega)
      rw [hj]
      simp only [Ctx.isInline, if_true, List.append_nil]
      exact ⟨j, rfl⟩

theorem noText_spanN (stag : Str) (hne : stag ≠ sOfficeText) (inner : List Node) (hi : noTextList inner = true) :
    ∀ k, noTextList (spanN stag k inner) = true := by
  intro k
  induction k with
  | zero => exact hi
  | succ k ih => simp [spanN, noTextList, noTextNode, hne, ih]

def tP : Str := [116, 101, 120, 116, 58, 112]
def tSpan : Str := [116, 101, 120, 116, 58, 115, 112, 97, 110]

/-- `<d><b><office:text><text:p>A</text:p><text:p><text:span>…B…</text:span></text:p><text:p>C</text:p></office:text></b></d>` -/
def deepDoc (k : Nat) : Node :=
  .elem [100] [] [.elem [98] [] [.elem sOfficeText []
    [.elem tP [] [.text [65]], .elem tP [] (spanN tSpan k [.text [66]]), .elem tP [] [.text [67]]]]]

/-- the body of `deepDoc k` holds no `office:text` and is decoded to its end exactly when the nest of
spans stays within the bound -/
theorem deepBody_decodes (k : Nat) :
    noTextList [Node.elem tP [] [.text [65]], .elem tP [] (spanN tSpan k [.text [66]]), .elem tP [] [.text [67]]] = true
    ∧ decodesList [Node.elem tP [] [.text [65]], .elem tP [] (spanN tSpan k [.text [66]]), .elem tP [] [.text [67]]]
        = decide (k ≤ maxInlineDepth) := by
  have h1 := noText_spanN tSpan (by decide) [.text [66]] rfl k
  have h2 : (tP != sOfficeText) = true := by decide
  have hp : (localName tP == sP) = true := by decide
  have hmid : decodes (.inline 0) (spanN tSpan k [.text [66]]) = decide (k ≤ maxInlineDepth) := by
    rw [Bool.eq_iff_iff, decide_eq_true_iff]
    have := odt_decodes_iff_depth (.elem tP [] (spanN tSpan k [.text [66]]))
    rw [Node.kids, spanNest_spanN _ (by decide)] at this
    exact this
  refine ⟨by simp [noTextList, noTextNode, h1, h2], ?_⟩
  have ht : ∀ t, decodes (.inline 0) [.text t] = true := fun _ => rfl
  simp only [decodesList, decodesNode, hp, if_true, hmid, ht, Bool.and_true, Bool.true_and]

/-- **odt_deep_paragraph_refused**. A body paragraph that holds more than 10000 nested
`text:span` around some text makes `odt.Open` fail. -/
theorem odt_deep_paragraph_refused (k : Nat) (hk : k > maxInlineDepth) (styles : Option Node) :
    openElements (deepDoc k) styles = none :=
  odt_open_beyond [100] [98] [] [] [] [] _ [] styles (by decide) (by decide) rfl (deepBody_decodes k).1
    ((deepBody_decodes k).2.trans (decide_eq_false (by omega)))

/-- … and one level less is read in full: the three paragraphs, the middle one with the text
inside the spans -/
theorem odt_deep_paragraph_within (k : Nat) (hk : k ≤ maxInlineDepth) :
    openElements (deepDoc k) none
      = some [.para ⟨[65], none, none⟩, .para ⟨[66], none, none⟩, .para ⟨[67], none, none⟩] := by
  obtain ⟨h1, h2⟩ := odt_open_within [100] [98] [] [] [] [] _ [] none (by decide) (by decide) rfl rfl
    (deepBody_decodes k).1 ((deepBody_decodes k).2.trans (decide_eq_true hk))
  refine (h1.trans (congrArg some h2)).trans ?_
  have hp : ∀ defs ks, elemsOfNode defs (.elem tP [] ks) = [.para ⟨inlineList ks, none, none⟩] := fun _ _ => rfl
  simp only [elemsOfList, hp, inline_spanN _ (show (localName tSpan == sSpan || localName tSpan == sA) = true by decide),
    List.cons_append, List.nil_append]
  rfl
/-- what `parseBodyElements` did before the repair with a `text:p` / `text:h` the decoder gave up
in (`residualList` answers `some r`): the element was not recorded, the walk read the nodes `r` -
what stands behind the refused start tag inside the paragraph - as ordinary body content, and
then the loop had ended (`done`) -/
theorem odt_gives_up_old (defs : List StyleDef) (tag : Str) (attrs : List (Str × Str)) (kids r : List Node) (w : WalkOld)
    (hb : w.inBody = true) (hd : w.done = false) (ht : tag ≠ sOfficeText)
    (hp : localName tag = sP ∨ localName tag = sH)
    (hr : residualList (.inline 0) kids = some r) :
    walkNodeOld defs (.elem tag attrs kids) w = { walkListOld defs r w with done := true } := by
  rw [walkNodeOld_body defs tag attrs kids w hb hd ht, bodyCtx_para hp]
  simp only [scanOld_residual, hr, Option.map_some]

/-- in a list or a table only the rest of the PARAGRAPH was read: what follows the paragraph in
its item or cell, the later items, rows and cells are not part of the residue -/
theorem odt_block_residual_is_the_paragraphs (ctx : Ctx) (hc : ctx.isInline = false) (n : Node) (rest : List Node) (r : List Node)
    (h : residualNode ctx n = some r) : residualList ctx (n :: rest) = some r := by
  simp only [residualList, h, hc, Bool.false_eq_true, if_false]

/-- a nest of spans that holds character data only added nothing to the body -/
theorem walkOld_spanN_text (defs : List StyleDef) (stag : Str)
    (hs : localName stag = sSpan) (t : Str) (w : WalkOld) : ∀ k, walkListOld defs (spanN stag k [.text t]) w = w := by
  have hq : (stag == sOfficeText) = false := beq_false_of_ne fun h => by subst h; revert hs; decide
  intro k
  induction k with
  | zero => simp [spanN, walkListOld, walkNodeOld]
  | succ k ih =>
    have h1 : (sSpan == sP) = false := by decide
    have h2 : (sSpan == sH) = false := by decide
    have h3 : (sSpan == sList) = false := by decide
    have h4 : (sSpan == sTable) = false := by decide
    simp only [spanN, walkListOld, walkNodeOld, hq, hs, h1, h2, h3, h4, Bool.false_eq_true, if_false]
    by_cases hdn : w.done = true
    · simp [hdn]
    · have hdn' : w.done = false := by simpa using hdn
      simp only [hdn', Bool.false_eq_true, if_false]
      by_cases hbd : w.inBody = true
      · simp only [hbd, Bool.not_true, Bool.false_eq_true, if_false]; exact ih
      · have : w.inBody = false := by simpa using hbd
        simp only [this, Bool.not_false, if_true]; exact ih

/-- **odt_deep_paragraph_dropped_pinned_counterexample** (the walk before the repair). A body
paragraph that holds more than 10000 nested `text:span` around some text contributed nothing,
and whatever followed it in the body was not read: the old walk over `[that paragraph] ++ post`
left the element list as it was - and ended, with no error to report. -/
theorem odt_deep_paragraph_dropped_pinned_counterexample (defs : List StyleDef) (k : Nat) (hk : k > maxInlineDepth) (t : Str)
    (post : List Node) (w : WalkOld) (hb : w.inBody = true) (hd : w.done = false) :
    walkListOld defs ([.elem tP [] (spanN tSpan k [.text t])] ++ post) w = { w with done := true } := by
  have hs : (localName tSpan == sSpan || localName tSpan == sA) = true := by decide
  obtain ⟨j, hr⟩ := residual_spanN _ hs [.text t] k 0 (Nat.zero_le _) (by omega)
  simp only [List.cons_append, List.nil_append, walkListOld]
  rw [odt_gives_up_old defs tP [] _ _ w hb hd (by decide) (Or.inl (by decide)) hr]
  rw [walkOld_spanN_text defs _ (by decide)]
  exact walkOld_done_list defs post _ rfl

/-- **odt_silent_truncation_pinned_counterexample**. The document `A`, a paragraph of 10001 (or
more) nested spans, `C`: before the repair the reader held the single paragraph `A` and
`odt.Open` reported no error (`elementsOld` is total: there was no way to fail here); the
repaired `Open` refuses the document (`odt_deep_paragraph_refused`), as `docx.Open` refuses its
DOCX counterpart. -/
theorem odt_silent_truncation_pinned_counterexample (k : Nat) (hk : k > maxInlineDepth) :
    elementsOld (deepDoc k) none = [.para ⟨[65], none, none⟩] ∧ openElements (deepDoc k) none = none := by
  refine ⟨?_, odt_deep_paragraph_refused k hk none⟩
  unfold elementsOld deepDoc
  generalize allStyles _ none = defs
  have h1 : ([100] == sOfficeText) = false := by decide
  have h2 : ([98] == sOfficeText) = false := by decide
  have hA : walkNodeOld defs (.elem tP [] [.text [65]]) { inBody := true, acc := [] }
      = { inBody := true, acc := [.para ⟨[65], none, none⟩] } := by
    rw [walkNodeOld_body defs tP [] _ _ rfl rfl (by decide)]
    rfl
  have hdrop := odt_deep_paragraph_dropped_pinned_counterexample defs k hk [66] [.elem tP [] [.text [67]]]
    { inBody := true, acc := [.para ⟨[65], none, none⟩] } rfl rfl
  have hbody : ∀ kids : List Node, walkNodeOld defs (.elem [100] [] [.elem [98] [] [.elem sOfficeText [] kids]]) { inBody := false, acc := [] }
      = { walkListOld defs kids { inBody := true, acc := [] } with inBody := false } := by
    intro kids
    simp only [walkNodeOld, walkListOld, h1, h2, Bool.false_eq_true, if_false, Bool.not_false, if_true, BEq.rfl]
  rw [hbody]
  rw [walkListOld, hA]
  simp only [List.cons_append, List.nil_append] at hdrop
  rw [hdrop]

/-- the edge: a paragraph of 10000 nested spans is decoded (and reads as the text inside),
10001 are not -/
example :
    paraDecodes (.elem [116, 101, 120, 116, 58, 112] [] (spanN [116, 101, 120, 116, 58, 115, 112, 97, 110] 10000 [.text [65]])) = true
    ∧ paraText (.elem [116, 101, 120, 116, 58, 112] [] (spanN [116, 101, 120, 116, 58, 115, 112, 97, 110] 10000 [.text [65]])) = [65]
    ∧ paraDecodes (.elem [116, 101, 120, 116, 58, 112] [] (spanN [116, 101, 120, 116, 58, 115, 112, 97, 110] 10001 [.text [65]])) = false := by
  have hs : (localName [116, 101, 120, 116, 58, 115, 112, 97, 110] == sSpan || localName [116, 101, 120, 116, 58, 115, 112, 97, 110] == sA) = true := by decide
  refine ⟨?_, ?_, ?_⟩
  · rw [odt_decodes_iff_depth]
    simp only [Node.kids]
    rw [spanNest_spanN _ hs]; decide
  · simp only [paraText, Node.kids]
    rw [inline_spanN _ hs]; decide
  · cases h : paraDecodes (.elem [116, 101, 120, 116, 58, 112] [] (spanN [116, 101, 120, 116, 58, 115, 112, 97, 110] 10001 [.text [65]]))
    · rfl
    · rw [odt_decodes_iff_depth] at h
      simp only [Node.kids] at h
      rw [spanNest_spanN _ hs] at h
      revert h; decide

end OdtDepth

section Space
open Tabula.Odt

/-- `<text:s/>` stands for `spaceRun (text:c)` spaces -/
theorem odt_space_element (attrs : List (Str × Str)) (kids : List Node) :
    inlineNode (.elem [116, 101, 120, 116, 58, 115] attrs kids) = List.replicate (spaceRun (attrOf attrs sC)) 32 := by
  have h1 : (localName [116, 101, 120, 116, 58, 115] == sSpan || localName [116, 101, 120, 116, 58, 115] == sA) = false := by decide
  have h2 : (localName [116, 101, 120, 116, 58, 115] == sS) = true := by decide
  simp only [inlineNode, h1, h2, Bool.false_eq_true, if_false, if_true]

/-- **odt_space_run_bounded** (every input): a run is 1..1024 spaces long -/
theorem odt_space_run_bounded (c : Str) : 1 ≤ spaceRun c ∧ spaceRun c ≤ 1024 := spaceRun_range c

/-- within the bound the run is as long as written -/
theorem odt_space_run_within (c : Str) (v : Int) (h : atoi? c = some v) (h1 : 0 < v) (h2 : v ≤ 1024) :
    (spaceRun c : Int) = v := by
  unfold spaceRun maxSpaceRun
  simp only [h, h1, if_true]
  omega

/-- **odt_space_run_truncated**: beyond it the run is cut to 1024 spaces -/
theorem odt_space_run_truncated (c : Str) (v : Int) (h : atoi? c = some v) (h1 : v > 1024) : spaceRun c = 1024 := by
  unfold spaceRun maxSpaceRun
  have : 0 < v := by omega
  simp only [h, this, if_true]
  omega

/-- the edge: 1023, 1024 as written; 1025, 2^31-1, 2^63-1 cut to 1024; 2^63 (no `int`), 0, -1,
no number, nothing: one space; a sign and leading zeros are read -/
example : spaceRun [49, 48, 50, 51] = 1023 ∧ spaceRun [49, 48, 50, 52] = 1024 ∧ spaceRun [49, 48, 50, 53] = 1024
    ∧ spaceRun [50, 49, 52, 55, 52, 56, 51, 54, 52, 55] = 1024
    ∧ spaceRun [57, 50, 50, 51, 51, 55, 50, 48, 51, 54, 56, 53, 52, 55, 55, 53, 56, 48, 55] = 1024
    ∧ spaceRun [57, 50, 50, 51, 51, 55, 50, 48, 51, 54, 56, 53, 52, 55, 55, 53, 56, 48, 56] = 1
    ∧ spaceRun [48] = 1 ∧ spaceRun [45, 49] = 1 ∧ spaceRun [120] = 1 ∧ spaceRun [] = 1
    ∧ spaceRun [43, 53] = 5 ∧ spaceRun [48, 48, 55] = 7 := by decide +kernel

/-- **odt_text_bytes_bounded** (bounded work, every input). The text of a paragraph is at most
its character data plus 1024 bytes per element below it: no attribute value multiplies it. -/
theorem odt_text_bytes_bounded (p : Node) :
    (paraText p).length ≤ textBytesList p.kids + 1024 * elemCountList p.kids :=
  inline_length_list p.kids

end Space

section Grid

/-- **docx_grid_within / docx_grid_nospans / docx_grid_beyond**: what `limitTableGrid` does -/
theorem docx_grid_within (rows : List (List Docx.Cell)) (h : rows.length * Docx.colCount rows ≤ 1048576) :
    Docx.limitTableGrid rows = rows := Docx.limit_within rows h

theorem docx_grid_nospans (rows : List (List Docx.Cell)) (h : Docx.hasSpans rows = false) :
    Docx.limitTableGrid rows = rows := Docx.limit_nospans rows h

theorem docx_grid_beyond (rows : List (List Docx.Cell)) (hs : Docx.hasSpans rows = true)
    (h : rows.length * Docx.colCount rows > 1048576) :
    Docx.limitTableGrid rows = rows.map fun row => row.map fun c => { c with colSpan := 1, rowSpan := 1 } :=
  Docx.limit_beyond rows hs h

/-- **docx_grid_bounded** (no attribute value multiplies the grid, every `w:tbl`). The grid the parsed table is laid out
on - its rows times its width in spanned columns, which is what `processVerticalMerges` sizes
its column table by and, without `w:tblGrid`, what `ToModelTable` allocates cell by cell - holds
at most 2^20 cells, or no more than rows x the widest row counted in `w:tc` elements: no
`gridSpan` multiplies it. (With `w:tblGrid` the columns are the `w:gridCol` elements.) -/
theorem docx_grid_bounded (tbl : Node) :
    (Docx.parseTable tbl).length * Docx.colCount (Docx.parseTable tbl)
      ≤ max 1048576 ((Docx.parseRows tbl).length * Docx.widest (Docx.parseRows tbl)) := by
  rw [Docx.parseTable, Docx.length_processVerticalMerges, Docx.colCount_processVerticalMerges, Docx.limit_length]
  exact Docx.limit_grid_bound (Docx.parseRows tbl)

/-- the edge (DOCX): one cell 1024 grid columns wide and 1023 empty rows below it - 2^20 - keeps
its span; one row more and every cell is one column wide -/
def wideCell : Docx.Cell := { text := [65], colSpan := 1024, rowSpan := 1, cont := false }

example : (Docx.limitTableGrid ([wideCell] :: List.replicate 1023 [])).map (·.map (·.colSpan)) = [1024] :: List.replicate 1023 []
    ∧ (Docx.limitTableGrid ([wideCell] :: List.replicate 1024 [])).map (·.map (·.colSpan)) = [1] :: List.replicate 1024 [] := by
  -- the empty rows add nothing to the width: it is that of the first row
  have hc : ∀ n, Docx.colCount ([wideCell] :: List.replicate n []) = 1024 := fun n =>
    Grid.width_cons_replicate _ [wideCell] [] n (Nat.zero_le _)
  constructor
  · rw [Docx.limit_within _ (by rw [hc, List.length_cons, List.length_replicate]; decide)]
    simp only [List.map_cons, List.map_replicate, List.map_nil]
    rfl
  · rw [Docx.limit_beyond _ (by decide +kernel) (by rw [hc, List.length_cons, List.length_replicate]; decide)]
    simp only [Docx.resetSpans, List.map_cons, List.map_replicate, List.map_nil]

/-- integer division: a cell 1000 columns wide is believed with 1048 rows (2^20 / 1000), not with 1049 -/
example :
    let c : Docx.Cell := { text := [], colSpan := 1000, rowSpan := 1, cont := false }
    (Docx.limitTableGrid ([c] :: List.replicate 1047 [])).map (·.map (·.colSpan)) = [1000] :: List.replicate 1047 []
    ∧ (Docx.limitTableGrid ([c] :: List.replicate 1048 [])).map (·.map (·.colSpan)) = [1] :: List.replicate 1048 [] := by
  intro c
  have hc : ∀ n, Docx.colCount ([c] :: List.replicate n []) = 1000 := fun n =>
    Grid.width_cons_replicate _ [c] [] n (Nat.zero_le _)
  constructor
  · rw [Docx.limit_within _ (by rw [hc, List.length_cons, List.length_replicate]; decide)]
    simp only [List.map_cons, List.map_replicate, List.map_nil]
    rfl
  · rw [Docx.limit_beyond _ (by decide +kernel) (by rw [hc, List.length_cons, List.length_replicate]; decide)]
    simp only [Docx.resetSpans, List.map_cons, List.map_replicate, List.map_nil]

theorem odt_grid_within (rows : List (List Odt.Cell)) (h : rows.length * Odt.colCount rows ≤ 1048576) :
    Odt.limitTableGrid rows = rows := Odt.limit_within rows h

theorem odt_grid_nospans (rows : List (List Odt.Cell)) (h : Odt.hasSpans rows = false) :
    Odt.limitTableGrid rows = rows := Odt.limit_nospans rows h

theorem odt_grid_beyond (rows : List (List Odt.Cell)) (hs : Odt.hasSpans rows = true)
    (h : rows.length * Odt.colCount rows > 1048576) :
    Odt.limitTableGrid rows = rows.map fun row => row.map fun c => { c with colSpan := 1, rowSpan := 1 } :=
  Odt.limit_beyond rows hs h

/-- **odt_table_content_kept** (every table): the limit changes no text and drops no cell -/
theorem odt_table_content_kept (rows : List (List Odt.Cell)) :
    (Odt.limitTableGrid rows).map (·.map (·.text)) = rows.map (·.map (·.text)) :=
  Grid.limit_map Odt.spans (·.text) (fun _ => rfl) _ rows

/-- **odt_grid_cells_bounded** (bounded work, every `table:table`). The cells of the parsed
table - the authored ones plus the covered placeholders `processRowSpans` inserts - number at
most 2^20, or no more than the authored cells: a table of eight cells spanning 1024 x 1024
followed by 1023 empty rows makes 8200 cells, not eight million. -/
theorem odt_grid_cells_bounded (tbl : Node) :
    Odt.cellCount (Odt.parseTable tbl) ≤ max 1048576 (Odt.cellCount (Odt.parseRows tbl)) := by
  rcases Odt.parseTable_cases tbl with ⟨he, hin⟩ | he | ⟨he, _⟩
  · rw [he]
    have := Odt.processRowSpans_cells (Odt.parseRows tbl) (Odt.parseRows_pos tbl)
    unfold Odt.maxTableGridCells at hin
    omega
  · rw [he, Odt.cellCount_resetSpans]
    omega
  · rw [he]
    omega

/-- the edge (ODT): a cell spanning 1024 columns and 3 rows over 1024 rows - 2^20 - is believed;
with one row more every span is set to 1 (so no placeholder is made below it) -/
example :
    let c : Odt.Cell := { text := [65], colSpan := 1024, rowSpan := 3, covered := false }
    (Odt.limitTableGrid ([c] :: List.replicate 1023 [])).map (·.map fun c => (c.colSpan, c.rowSpan))
        = [(1024, 3)] :: List.replicate 1023 []
    ∧ (Odt.limitTableGrid ([c] :: List.replicate 1024 [])).map (·.map fun c => (c.colSpan, c.rowSpan))
        = [(1, 1)] :: List.replicate 1024 [] := by
  intro c
  have hc : ∀ n, Odt.colCount ([c] :: List.replicate n []) = 1024 := fun n =>
    Grid.width_cons_replicate _ [c] [] n (Nat.zero_le _)
  constructor
  · rw [Odt.limit_within _ (by rw [hc, List.length_cons, List.length_replicate]; decide)]
    simp only [List.map_cons, List.map_replicate, List.map_nil]
    rfl
  · rw [Odt.limit_beyond _ (by decide +kernel) (by rw [hc, List.length_cons, List.length_replicate]; decide)]
    simp only [Odt.resetSpans, List.map_cons, List.map_replicate, List.map_nil]

/-- what being believed means: the two rows below a cell spanning 4 columns and 3 rows get their
placeholders, the row after them does not; with the spans set to 1 no placeholder is made -/
example :
    let c : Odt.Cell := { text := [65], colSpan := 4, rowSpan := 3, covered := false }
    let d : Odt.Cell := { text := [65], colSpan := 1, rowSpan := 1, covered := false }
    (Odt.processRowSpans ([c] :: List.replicate 4 [])).map List.length = [1, 4, 4, 0, 0]
    ∧ (Odt.processRowSpans ([d] :: List.replicate 4 [])).map List.length = [1, 0, 0, 0, 0] := by
  decide +kernel

end Grid

end Tabula.C16Bounds
