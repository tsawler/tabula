import TabulaModel.Props.C06
import TabulaModel.Props.C06Agree
import TabulaModel.Lemmas.PdfCoreProgress

/-!
# C06, further theorems: dictionaries with repeated keys, unambiguous spellings, first object

`Props/C06.lean` proves the round trip for spelled dictionaries whose keys are pairwise distinct
(`SObj.Valid` of a dictionary carries `(keysOf kvs).Nodup`): only those are object TREES.  A PDF file
may still write a key twice.  Part 1 gives the law of `dictSet` (Go: `dict[key] = value`), part 2
proves what the document-level parser returns for EVERY legally spelled dictionary, repeated keys
included: the written pairs assigned in order - the LAST value written for a key wins and the key
keeps the place of its FIRST occurrence - and (part 3) that the content-stream parser, whenever it
accepts the same bytes, returns that same dictionary.  Part 4: no byte string is a legal spelling of
two different trees / programs.  Part 5: the first object of a run of `ParseObject` calls is the
object of the first call.
-/

namespace Tabula.C06More
open Tabula.Pdf

/-! ### 1. `dict[key] = value` -/

/-- `dict[key]` -/
def lookupKV (k : Str) : List (Str × Obj) → Option Obj
  | [] => none
  | (k', v) :: r => if k' = k then some v else lookupKV k r

/-- after `dict[k] = v`, `dict[k]` is `v` -/
theorem dictSet_lookup_same (acc : List (Str × Obj)) (k : Str) (v : Obj) :
    lookupKV k (dictSet acc k v) = some v := by
  induction acc with
  | nil => simp [dictSet, lookupKV]
  | cons p r ih =>
    obtain ⟨k', v'⟩ := p
    by_cases h : k' = k
    · simp [dictSet, lookupKV, h]
    · simp [dictSet, lookupKV, h, ih]

/-- `dict[k] = v` changes no other key -/
theorem dictSet_lookup_other (acc : List (Str × Obj)) (k k2 : Str) (v : Obj) (hne : k2 ≠ k) :
    lookupKV k2 (dictSet acc k v) = lookupKV k2 acc := by
  induction acc with
  | nil =>
    have : ¬ k = k2 := fun e => hne e.symm
    simp [dictSet, lookupKV, this]
  | cons p r ih =>
    obtain ⟨k', v'⟩ := p
    by_cases h : k' = k
    · subst h
      have : ¬ k' = k2 := fun e => hne e.symm
      simp [dictSet, lookupKV, this]
    · by_cases h2 : k' = k2
      · subst h2; simp [dictSet, lookupKV, h]
      · simp [dictSet, lookupKV, h, h2, ih]

example : lookupKV [66] (dictSet [([65], .null), ([66], .bool true)] [65] (.int 3)) = some (.bool true) := by
  simp [dictSet, lookupKV]

/-- the keys after `dict[k] = v`, exactly: unchanged when `k` is present (it keeps its place), `k`
appended otherwise -/
theorem dictSet_keys_exact (acc : List (Str × Obj)) (k : Str) (v : Obj) :
    (dictSet acc k v).map Prod.fst =
      if k ∈ acc.map Prod.fst then acc.map Prod.fst else acc.map Prod.fst ++ [k] :=
  dictSet_keys acc k v

/-- assigning twice to the same key: only the second assignment counts -/
theorem dictSet_overwrite (acc : List (Str × Obj)) (k : Str) (v w : Obj) :
    dictSet (dictSet acc k v) k w = dictSet acc k w := by
  induction acc with
  | nil => simp [dictSet]
  | cons p r ih =>
    obtain ⟨k', v'⟩ := p
    by_cases h : k' = k
    · simp [dictSet, h]
    · simp [dictSet, h, ih]

/-- distinct keys stay distinct -/
theorem dictSet_nodup (acc : List (Str × Obj)) (k : Str) (v : Obj) (h : (acc.map Prod.fst).Nodup) :
    ((dictSet acc k v).map Prod.fst).Nodup :=
  dictSet_keys_nodup acc k v h

theorem lookupKV_append (k : Str) (a b : List (Str × Obj)) :
    lookupKV k (a ++ b) = match lookupKV k a with | some v => some v | none => lookupKV k b := by
  induction a with
  | nil => simp [lookupKV]
  | cons p r ih =>
    obtain ⟨k', v'⟩ := p
    by_cases h : k' = k
    · simp [lookupKV, h]
    · simp [lookupKV, h, ih]

/-- the LAST value written for a key wins: looking a key up after all assignments gives the first
hit when the written pairs are read backwards (and what was there before if the key was not written) -/
theorem assignAll_lookup (ps acc : List (Str × Obj)) (k : Str) :
    lookupKV k (assignAll acc ps) =
      match lookupKV k ps.reverse with | some v => some v | none => lookupKV k acc := by
  induction ps generalizing acc with
  | nil => simp [assignAll, lookupKV]
  | cons p ps ih =>
    obtain ⟨k', v'⟩ := p
    have hstep : assignAll acc ((k', v') :: ps) = assignAll (dictSet acc k' v') ps := rfl
    rw [hstep, ih, List.reverse_cons, lookupKV_append]
    cases hl : lookupKV k ps.reverse with
    | some v => rfl
    | none =>
      by_cases h : k' = k
      · subst h; simp [lookupKV, dictSet_lookup_same]
      · have h' : k ≠ k' := fun e => h e.symm
        simp [lookupKV, h, dictSet_lookup_other acc k' k v' h']

/-- the last value wins, for a parsed dictionary (nothing assigned before) -/
theorem last_value_wins (ps : List (Str × Obj)) (k : Str) :
    lookupKV k (assignAll [] ps) = lookupKV k ps.reverse := by
  rw [assignAll_lookup]
  cases lookupKV k ps.reverse <;> rfl

/-- the result of the assignments never holds a key twice -/
theorem assignAll_nodup (ps acc : List (Str × Obj)) (h : (acc.map Prod.fst).Nodup) :
    ((assignAll acc ps).map Prod.fst).Nodup := by
  induction ps generalizing acc with
  | nil => exact h
  | cons p ps ih => exact ih (dictSet acc p.1 p.2) (dictSet_nodup acc p.1 p.2 h)

/-- exactly the written keys are present -/
theorem assignAll_keys (ps acc : List (Str × Obj)) (k : Str) :
    k ∈ (assignAll acc ps).map Prod.fst ↔ k ∈ acc.map Prod.fst ∨ k ∈ ps.map Prod.fst := by
  induction ps generalizing acc with
  | nil => simp [assignAll]
  | cons p ps ih =>
    have hstep : assignAll acc (p :: ps) = assignAll (dictSet acc p.1 p.2) ps := rfl
    have hset : k ∈ (dictSet acc p.1 p.2).map Prod.fst ↔ k ∈ acc.map Prod.fst ∨ k = p.1 := by
      rw [dictSet_keys_exact]
      split
      · next hm => exact ⟨Or.inl, fun h => h.elim id (fun e => e ▸ hm)⟩
      · simp
    rw [hstep, ih, hset, List.map_cons, List.mem_cons, or_assoc]

/-- when no key is written twice the assignments reproduce the written pairs: the round trip of
`Props/C06.lean` is the special case `Nodup` of part 2 -/
theorem assignAll_distinct (ps acc : List (Str × Obj)) (hnd : (ps.map Prod.fst).Nodup)
    (hfr : ∀ k ∈ ps.map Prod.fst, k ∉ acc.map Prod.fst) : assignAll acc ps = acc ++ ps :=
  Prs.assignAll_fresh ps acc hnd hfr

example : (([([65], Obj.null), ([66], Obj.null)] : List (Str × Obj)).map Prod.fst).Nodup ∧
    ∀ k ∈ ([([65], Obj.null), ([66], Obj.null)] : List (Str × Obj)).map Prod.fst,
      k ∉ ([([67], Obj.null)] : List (Str × Obj)).map Prod.fst := by
  simp

/-! ### 2. the document-level parser on dictionaries with repeated keys -/

/-- the loop of `parseDict` on legally spelled key/value pairs, keys repeated or not -/
theorem dict_loop_any_keys (kvs : List SObj) (close : Sep) (rest : Str) (f d : Nat) (acc : List (Str × Obj))
    (hv : ValidKVs kvs) (hc : SepOk close)
    (hf : sizeList kvs + 1 ≤ f) (hd : d + sdepthList kvs ≤ maxNestingDepth) :
    parseDict f d (stateAt (renderList kvs ++ (renderSep close ++ 62 :: 62 :: rest))) acc =
      .ok (.dict (assignAll acc (valueKVs kvs)), stateAt rest) := by
  rw [Prs.dict_run kvs close rest f d acc hv hc hf (by omega), if_pos hd]

/-- `ParseObject` on a dictionary in ANY legal spelling, keys repeated or not, with `d` containers
already open: the value is the dictionary obtained by assigning the written pairs in order (last
value wins, first place kept), and the parser stands exactly behind `>>`. -/
theorem dict_any_keys_in_context (pre : Sep) (kvs : List SObj) (close : Sep) (rest : Str) (f d : Nat)
    (hp : SepOk pre) (hc : SepOk close) (hv : ValidKVs kvs)
    (hf : (SObj.dict pre kvs close).size ≤ f) (hd : d + (SObj.dict pre kvs close).depth ≤ maxNestingDepth) :
    parseObject f d (stateAt ((SObj.dict pre kvs close).render ++ rest)) =
      .ok (.dict (assignAll [] (valueKVs kvs)), stateAt rest) := by
  simp only [SObj.size] at hf
  simp only [SObj.depth] at hd
  obtain ⟨f, rfl⟩ : ∃ f', f = f' + 1 := ⟨f - 1, by omega⟩
  simp only [SObj.render, List.append_assoc, List.cons_append, List.nil_append]
  have hs := Prs.starts_dictStart pre (renderList kvs ++ (renderSep close ++ 62 :: 62 :: rest)) hp
  rw [Prs.po_dict f d _ hs.cur (by omega), hs.next,
    dict_loop_any_keys kvs close rest f (d + 1) [] hv hc (by omega) (by omega)]

/-- … for `core.NewParser(r).ParseObject()` on the dictionary followed by any separators -/
theorem core_dict_any_keys (pre : Sep) (kvs : List SObj) (close trail : Sep)
    (hp : SepOk pre) (hc : SepOk close) (hv : ValidKVs kvs) (ht : SepOk trail)
    (hd : (SObj.dict pre kvs close).depth ≤ maxNestingDepth) :
    coreParse ((SObj.dict pre kvs close).render ++ renderSep trail) =
      .ok (.dict (assignAll [] (valueKVs kvs)), stateAt (renderSep trail)) := by
  have _ := ht
  show parseObject (fuelFor ((SObj.dict pre kvs close).render ++ renderSep trail)) 0
    (stateAt ((SObj.dict pre kvs close).render ++ renderSep trail)) = _
  exact dict_any_keys_in_context pre kvs close (renderSep trail) _ 0 hp hc hv
    (fuelFor_enough (SObj.dict pre kvs close) trail) (by omega)

/-- `<</K 1/K 2>>`: the hypotheses hold for a dictionary that writes the key K twice, and the value
is `<</K 2>>` -/
example : ValidKVs [.name [] [.raw 75], .int [.ws 32] false 0 1, .name [] [.raw 75], .int [.ws 32] false 0 2] ∧
    (SObj.dict [] [.name [] [.raw 75], .int [.ws 32] false 0 1, .name [] [.raw 75], .int [.ws 32] false 0 2]
      []).depth ≤ maxNestingDepth ∧
    assignAll [] (valueKVs [.name [] [.raw 75], .int [.ws 32] false 0 1, .name [] [.raw 75],
      .int [.ws 32] false 0 2]) = [([75], .int 2)] := by
  refine ⟨?_, by decide, ?_⟩
  · simp [ValidKVs, SObj.Valid, SObj.isName, SepOk, SepUnit.Ok, NPiece.Ok, isWs, isDelim]
  · rfl

/-- the parsed dictionary never holds a key twice, holds exactly the written keys, and gives each
key the last value written for it -/
theorem core_dict_last_value_wins (pre : Sep) (kvs : List SObj) (close trail : Sep)
    (hp : SepOk pre) (hc : SepOk close) (hv : ValidKVs kvs) (ht : SepOk trail)
    (hd : (SObj.dict pre kvs close).depth ≤ maxNestingDepth) :
    ∃ kv, coreParse ((SObj.dict pre kvs close).render ++ renderSep trail) =
        .ok (.dict kv, stateAt (renderSep trail)) ∧
      (kv.map Prod.fst).Nodup ∧
      (∀ k, k ∈ kv.map Prod.fst ↔ k ∈ (valueKVs kvs).map Prod.fst) ∧
      ∀ k, lookupKV k kv = lookupKV k (valueKVs kvs).reverse :=
  ⟨_, core_dict_any_keys pre kvs close trail hp hc hv ht hd, assignAll_nodup _ [] (by simp),
    fun k => by simpa using assignAll_keys (valueKVs kvs) [] k, last_value_wins _⟩

/-! ### 3. the content-stream parser on the same bytes -/

/-- whenever `parseOperand` accepts a legally spelled dictionary with repeated keys, it returns the
same dictionary (last value wins, first place kept) and stops at the same byte -/
theorem cs_dict_any_keys_agrees (pre : Sep) (kvs : List SObj) (close trail : Sep) (f2 : Nat) (b : Obj) (r : Str)
    (hp : SepOk pre) (hc : SepOk close) (hv : ValidKVs kvs) (ht : SepOk trail)
    (hd : (SObj.dict pre kvs close).depth ≤ maxNestingDepth)
    (h2 : CS.parseOperand f2 0 ((SObj.dict pre kvs close).render ++ renderSep trail) = some (b, r)) :
    b = .dict (assignAll [] (valueKVs kvs)) ∧ stateAt (renderSep trail) = stateAt r := by
  have h1 := core_dict_any_keys pre kvs close trail hp hc hv ht hd
  rcases C06Agree.parsers_agree_everywhere _ _ _ f2 b r h1 h2 with ⟨hab, hs⟩ | ⟨n, g, hab, _⟩
  · exact ⟨hab.symm, hs⟩
  · cases hab

example : (CS.parseOperand 50 0 [60, 60, 47, 75, 32, 49, 47, 75, 32, 50, 62, 62]).isSome = true := by
  decide +kernel

/-- the loop of contentstream's `parseDict` on legally spelled key/value pairs without references,
keys repeated or not -/
theorem cs_dict_loop_any_keys (kvs : List SObj) (close : Sep) (rest : Str) (f d : Nat) (acc : List (Str × Obj))
    (hv : ValidKVs kvs) (hnr : noRefList kvs = true) (hc : SepOk close)
    (hf : sizeList kvs + 1 ≤ f) (hd : d + sdepthList kvs ≤ maxNestingDepth) :
    CS.parseDict f d (renderList kvs ++ (renderSep close ++ 62 :: 62 :: rest)) acc =
      some (.dict (assignAll acc (valueKVs kvs)), rest) := by
  rw [CSL.dict_run kvs close rest f d acc hv hnr hc hf (by omega), if_pos hd]

/-- contentstream's `parseOperand` on a dictionary operand in ANY legal spelling (no references: the
content-stream syntax has none), keys repeated or not: accepted, the same dictionary as the
document-level parser's - last value wins, first place kept - and the parser stands behind `>>` -/
theorem cs_dict_any_keys (pre : Sep) (kvs : List SObj) (close : Sep) (rest : Str) (f d : Nat)
    (hp : SepOk pre) (hc : SepOk close) (hv : ValidKVs kvs) (hnr : noRefList kvs = true)
    (hf : (SObj.dict pre kvs close).size ≤ f) (hd : d + (SObj.dict pre kvs close).depth ≤ maxNestingDepth) :
    CS.parseOperand f d ((SObj.dict pre kvs close).render ++ rest) =
      some (.dict (assignAll [] (valueKVs kvs)), rest) := by
  simp only [SObj.size] at hf
  simp only [SObj.depth] at hd
  obtain ⟨f, rfl⟩ : ∃ f', f = f' + 1 := ⟨f - 1, by omega⟩
  simp only [SObj.render, List.append_assoc, List.cons_append, List.nil_append]
  have hs := CSL.skip_render pre hp 60 (60 :: (renderList kvs ++ (renderSep close ++ 62 :: 62 :: rest)))
    (by decide) (by decide)
  rw [CSL.po_dict f d _ _ hs (by omega),
    cs_dict_loop_any_keys kvs close rest f (d + 1) [] hv hnr hc (by omega) (by omega)]

example : noRefList [.name [] [.raw 75], .int [.ws 32] false 0 1, .name [] [.raw 75], .int [.ws 32] false 0 2] = true := by
  decide

/-! ### 4. no byte string is the legal spelling of two different trees -/

/-- two legal spellings (each followed by any separators) that are the same bytes spell the same
object tree -/
theorem spelling_unambiguous (so1 so2 : SObj) (t1 t2 : Sep)
    (hv1 : so1.Valid false) (hv2 : so2.Valid false) (ht1 : SepOk t1) (ht2 : SepOk t2)
    (hd1 : so1.value.depth ≤ maxNestingDepth) (hd2 : so2.value.depth ≤ maxNestingDepth)
    (hb : so1.render ++ renderSep t1 = so2.render ++ renderSep t2) : so1.value = so2.value := by
  have h1 := C06.core_roundtrip so1 t1 hv1 ht1 hd1
  have h2 := C06.core_roundtrip so2 t2 hv2 ht2 hd2
  rw [hb, h2] at h1
  injection h1 with h1
  injection h1 with h1 _
  exact h1.symm

/-- the hypotheses hold for two DIFFERENT spellings that are the same bytes `% CR LF null`: a comment
ended by CR LF, and a comment ended by CR followed by the white-space byte LF -/
example : (SObj.null [.comment [] [13, 10]]).Valid false ∧ (SObj.null [.comment [] [13], .ws 10]).Valid false ∧
    (SObj.null [.comment [] [13, 10]]).render ++ renderSep [] =
      (SObj.null [.comment [] [13], .ws 10]).render ++ renderSep [] := by
  refine ⟨?_, ?_, by decide⟩
  · simp [SObj.Valid, SepOk, SepUnit.Ok]
  · simp [SObj.Valid, SepOk, SepUnit.Ok, isWs]

/-- the same for content streams: two legally spelled programs that are the same bytes are the
same list of operations (same operators, same operands, same grouping) -/
theorem program_spelling_unambiguous (ops1 ops2 : List SOp) (t1 t2 : Sep)
    (hv1 : ValidOps false ops1) (hv2 : ValidOps false ops2) (ht1 : SepOk t1) (ht2 : SepOk t2)
    (hd1 : ∀ o ∈ ops1, Obj.depthList (valueList o.operands) ≤ maxNestingDepth)
    (hd2 : ∀ o ∈ ops2, Obj.depthList (valueList o.operands) ≤ maxNestingDepth)
    (hb : renderOps ops1 ++ renderSep t1 = renderOps ops2 ++ renderSep t2) :
    (ops1.map fun o => (o.op, valueList o.operands)) = ops2.map fun o => (o.op, valueList o.operands) := by
  have h1 := C06.cs_roundtrip ops1 t1 hv1 ht1 hd1
  have h2 := C06.cs_roundtrip ops2 t2 hv2 ht2 hd2
  rw [hb, h2] at h1
  injection h1 with h1
  have := congrArg (List.map fun (o : CS.Operation) => (o.op, o.operands)) h1
  simpa [List.map_map, Function.comp_def] using this.symm

/-! ### 5. the first object of a run -/

theorem parseSeq_acc (F : Nat) : ∀ (n : Nat) (s : PState) (acc : List Obj),
    Prog.parseSeq F n s acc = (acc ++ (Prog.parseSeq F n s []).1, (Prog.parseSeq F n s []).2) := by
  intro n
  induction n with
  | zero => intro s acc; simp [Prog.parseSeq]
  | succ n ih =>
    intro s acc
    rw [Prog.parseSeq, Prog.parseSeq]
    cases hp : parseObject F 0 s with
    | error e => simp
    | ok p =>
      obtain ⟨o, s'⟩ := p
      simp only []
      rw [ih s' (acc ++ [o]), ih s' ([] ++ [o])]
      simp

/-- `ParseObject` called until it fails: when the first call fails, nothing is returned and the run
ends with that failure … -/
theorem first_call_fails (inp : Str) (e : PErr) (h : coreParse inp = .error e) :
    coreParseAll inp = ([], e) := by
  unfold coreParse at h
  unfold coreParseAll
  rw [Prog.coreParseAll_go_eq, Prog.parseSeq]
  simp only [h]

/-- … and when it returns an object, that object is the first of the run -/
theorem first_object (inp : Str) (o : Obj) (s : PState) (h : coreParse inp = .ok (o, s)) :
    ∃ more, (coreParseAll inp).1 = o :: more := by
  unfold coreParse at h
  unfold coreParseAll
  rw [Prog.coreParseAll_go_eq, Prog.parseSeq]
  simp only [h]
  rw [parseSeq_acc]
  refine ⟨(Prog.parseSeq (fuelFor inp) (inp.length + 1) s []).1, ?_⟩
  cases (Prog.parseSeq (fuelFor inp) (inp.length + 1) s []).2 <;> simp

/-- a run returns no object exactly when the first call fails -/
theorem no_object_iff (inp : Str) : (coreParseAll inp).1 = [] ↔ ∃ e, coreParse inp = .error e := by
  constructor
  · intro h
    cases hc : coreParse inp with
    | error e => exact ⟨e, rfl⟩
    | ok p =>
      obtain ⟨o, s⟩ := p
      obtain ⟨more, hm⟩ := first_object inp o s hc
      rw [hm] at h
      cases h
  · rintro ⟨e, he⟩
    rw [first_call_fails inp e he]

example : (coreParse [49, 32, 50]).toOption.isSome = true ∧ (coreParse [41]).toOption.isSome = false := by
  decide +kernel

end Tabula.C06More
