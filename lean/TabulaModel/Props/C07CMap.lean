import TabulaModel.Lemmas.CMapArrange
import TabulaModel.Lemmas.CMapDecide
/-! # C07 — whole-program ToUnicode CMap round trip

Every ToUnicode CMap the independent writer (`Model/CMapRender.lean`, compared byte for byte
with the Go writer of harness/c07/cmaps.go by op `c07.render`) produces — bfchar, bfrange with
offset or array targets, code spaces of 1 to 4 bytes, multi-character and supplementary-plane
targets, with or without line breaks — is parsed by the model of `font.parseCMapData`
(tied to tabula by ops `c07.cmapstate` / `c07.cmap` / `c07.lookup`) and looked up to exactly
the specified text: from the WHOLE program text (keyword search for the sections, the
code-space section, sections of at most 100 items of either kind in any number) through the
token scanners, hex readers, UTF-16 target decoding, the direct map and the ranges, the width
rule and the shift-or code assembly of `LookupString`.

Proofs and helper lemmas: `Lemmas/CMapProgram.lean` (locating sections), `Lemmas/CMapSection.lean`
(what a section does to the state), `Lemmas/CMapCompose.lean` (the parsed state, the writer's forms; the
definitions `allItems`, `directEntries`, `offsetRuns`, `offsetEntries`, `Functional`, `Specified`, `MapOK`),
`Lemmas/CMapArrange.lean` (`Lookup` of the parsed program is the specification `specText` for every code;
the round trip is the case of the specified codes).

1. `parse_program_state`: the state the parser reaches on a whole rendered program.
2. `emit_specified` / `cmap_roundtrip_program`: any list of well-formed sections whose direct
   entries and offset entries are functions; a direct definition takes precedence over a range.
3. `cmap_roundtrip`: the five forms of the writer (bfchar / bfrange-offset / bfrange-array /
   mixed / range-then-bfchar-override), for EVERY policy (LF, CRLF or everything on one line;
   tight; upper- or lower-case hex; arrays wrapped after any number of elements), width 1–4
   and code→text map. This is the full statement that `C07.cmap_roundtrip_partial` left open.
-/
namespace Tabula.C07CMap
open Tabula.UTF16 Tabula.CMap
open Tabula.CMapCompose (allItems directEntries offsetRuns offsetEntries Functional Specified MapOK)

/-- the state of the parsed whole program: the direct map holds exactly the direct entries
(bfchar items, then array items; newest first), the ranges are the offset items in program
order, and the width fields say `w` -/
theorem parse_program_state (p : Policy) (w : Nat) (hw1 : 1 ≤ w) (hw4 : w ≤ 4) (secs : List Section)
    (hs : ∀ s ∈ secs, SectionOK w s) :
    let cm := parseCMapData (renderProgram p w secs)
    cm.chars = (directEntries secs).reverse ∧ cm.ranges = (offsetRuns secs).map Run.range ∧ WidthInv w cm :=
  CMapCompose.parse_program_state p w hw1 hw4 secs hs

/-- one specified code decodes to its specified text -/
theorem emit_specified (p : Policy) (w : Nat) (hw1 : 1 ≤ w) (hw4 : w ≤ 4) (secs : List Section)
    (hs : ∀ s ∈ secs, SectionOK w s)
    (hd : Functional (directEntries secs)) (ho : Functional (offsetEntries secs))
    (e : Nat × List Nat) (he : Specified secs e) :
    emit (parseCMapData (renderProgram p w secs)) e.1 = e.2 :=
  CMapCompose.emit_specified p w hw1 hw4 secs hs hd ho e he

/-- any string of specified codes decodes to the concatenation of the specified texts -/
theorem cmap_roundtrip_program (p : Policy) (w : Nat) (hw1 : 1 ≤ w) (hw4 : w ≤ 4) (secs : List Section)
    (hs : ∀ s ∈ secs, SectionOK w s) (hd : Functional (directEntries secs)) (ho : Functional (offsetEntries secs))
    (sel : List (Nat × List Nat)) (hsel : ∀ e ∈ sel, Specified secs e) :
    lookupString (parseCMapData (renderProgram p w secs)) ((sel.map (·.1)).flatMap (codeBytes w)) = sel.flatMap (·.2) :=
  CMapCompose.cmap_roundtrip_program p w hw1 hw4 secs hs hd ho sel hsel

/-- **cmap_roundtrip**: for every formatting policy, every form of the writer, every code
width 1–4 and every code→text map (runs of consecutive codes; arbitrary non-empty scalar
targets — multi-character, combining, supplementary plane; for the forms that write
`<lo> <hi> <text0>` the texts of a run advance in their last UTF-16 unit, as the CMap rules
require), the whole rendered program parses and looks up to exactly the specified texts -/
theorem cmap_roundtrip (p : Policy) (f : Form) (w : Nat) (hw1 : 1 ≤ w) (hw4 : w ≤ 4) (runs : List Run)
    (hm : MapOK w runs)
    (hoff : f = .bfchar ∨ f = .array ∨ ∀ r ∈ runs, RunOffsetOK r)
    (sel : List (Nat × List Nat)) (hsel : ∀ e ∈ sel, e ∈ entriesFor f runs) :
    lookupString (parseCMapData (renderMap p f w runs)) ((sel.map (·.1)).flatMap (codeBytes w)) = sel.flatMap (·.2) :=
  CMapCompose.cmap_roundtrip p f w hw1 hw4 runs hm hoff sel hsel

/-- the hypotheses are satisfiable by a non-trivial map: a run of three two-character targets
written as an offset range, and a supplementary-plane target at the last but one 1-byte code -/
example :
    let runs : List Run := [⟨0x41, [[0x66, 0x61], [0x66, 0x62], [0x66, 0x63]]⟩, ⟨0xFE, [[0x1D400]]⟩]
    MapOK 1 runs ∧ ∀ r ∈ runs, RunOffsetOK r := by
  intro runs
  exact ⟨⟨by decide, by decide⟩, by decide⟩

/-- one instance evaluated: the override form on one line with lower-case hex; code `0x42` has
the later bfchar text `#fb`, the other codes the texts of their ranges -/
example :
    lookupString (parseCMapData (renderMap { oneLine := true, upper := false } .override 1
      [⟨0x41, [[0x66, 0x61], [0x66, 0x62], [0x66, 0x63]]⟩, ⟨0xFE, [[0x1D400]]⟩])) [0x42, 0x41, 0xFE] =
      [0x23, 0x66, 0x62, 0x66, 0x61, 0x1D400] := by
  decide +kernel


end Tabula.C07CMap
