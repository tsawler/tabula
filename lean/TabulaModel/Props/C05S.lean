import TabulaModel.Lemmas.FiltersSound
import TabulaModel.Lemmas.StreamDict
/-!
# C05, the converse — "undecodable data yields an error, not wrong bytes", at full strength

`Props/C05.lean` shows one failure class after the other (`undecodable_*`). This file closes the
clause: for each decoder the set of inputs on which it returns bytes is characterised exactly,
and the bytes are the ones the conforming encoding stands for.

* predictors (`png_decode_iff`, `tiff_decode_iff`, `flate_not_wrong_bytes`): FlateDecode's
  post-processing returns `y` **iff** the inflated data is the conforming PNG / TIFF encoding of
  `y` for the geometry of the parameters — so everything else (a filter-type byte > 4, a broken
  row count, a bad geometry, …) is an error, and no two different `y` share an encoding;
* ASCIIHex (`hex_decode_is_spec`, `hex_error_iff`): on **every** input the decoder equals the
  literal reading of §7.4.2 (`hexSpec`: drop white space, stop at the first `>`, every other
  character must be a hexadecimal digit, pair the digits, a final odd digit is followed by 0); it
  fails iff a character before the first `>` is neither white space nor a hexadecimal digit.
* ASCII85 (`a85_decode_is_spec`): on **every** input the decoder equals the literal reading of
  §7.4.3 (`a85Spec`: cut at the first `~>`, drop white space, then read group by group — `z` at a
  group boundary is four zero bytes, five characters `!`..`u` are a 32-bit number that must not
  exceed 2^32-1, fewer than five at the end are the final partial group); anything else is an error.
* `ws_eod_tolerance`: for ALL data (conforming or not) a white-space character inserted anywhere
  (for ASCII85 not directly behind a `~`) and different bytes after the EOD marker change nothing — neither the bytes nor the error.
-/
namespace Tabula.C05S
open Tabula.Filters

abbrev Bytes (x : Str) : Prop := ∀ b ∈ x, b < 256

/-- the PNG predictor returns `y` exactly for the conforming encodings of `y` -/
theorem png_decode_iff (data : Str) (p : Params) (y : Str) (hd : Bytes data) :
    applyPNGPredictor data p = some y ↔
    ∃ (colors columns : Nat) (tags : List Nat), p.colors.getD 1 = colors ∧ p.columns.getD 1 = columns ∧
      p.bpc.getD 8 = 8 ∧ 1 ≤ columns ∧ 1 ≤ colors ∧ columns * colors ≤ 2147483646 ∧ (∀ t ∈ tags, t ≤ 4) ∧
      y.length = tags.length * (columns * colors) ∧ Bytes y ∧ data = pngPredict colors columns tags y := by
  constructor
  · intro h
    obtain ⟨rb, hbpc, hrb, hmod, h⟩ := applyPNGPredictor_eq_some_iff.mp h
    obtain ⟨columns, colors, hcolumns, hcolors, hc1, hc2, hcap, rfl⟩ := (predictorRowBytes_eq_some_iff _ _ rb).mp hrb
    rw [hcolors, Int.toNat_natCast] at h
    rcases pngRows_char colors (columns * colors) hc2 (Nat.mul_pos hc1 hc2) _ data (List.replicate (columns * colors) 0)
      none [] (whole_rows hmod) (Or.inl ⟨rfl, rfl⟩) with ⟨hn, _⟩ | ⟨tags, y', htn, htags, _, hyl, hyb, hout, hdata⟩
    · rw [hn] at h; cases h
    · obtain rfl : y' = y := Option.some.inj (hout.symm.trans h)
      exact ⟨colors, columns, tags, hcolors, hcolumns, hbpc, hc1, hc2, hcap, htags, by rw [hyl, htn], hyb, hdata hd⟩
  · rintro ⟨colors, columns, tags, hc, hcol, hb, h1, h2, hcap, ht, hlen, hy, rfl⟩
    exact applyPNGPredictor_pngPredict colors columns tags y p hc hcol hb h1 h2 hcap hlen ht hy

/-- non-vacuity (and a refusal): two rows of three bytes, filter types Sub and Up; the same
data with a filter-type byte 5 is refused -/
example : applyPNGPredictor [1, 10, 10, 10, 2, 1, 1, 1] { columns := some 3 } = some [10, 20, 30, 11, 21, 31] ∧
    applyPNGPredictor [1, 10, 10, 10, 5, 1, 1, 1] { columns := some 3 } = none := by decide

/-- the TIFF predictor returns `y` exactly for the horizontal differencing of `y` (whole rows) -/
theorem tiff_decode_iff (data : Str) (p : Params) (y : Str) (hd : Bytes data) :
    applyTIFFPredictor2 data p = some y ↔
    ∃ (colors columns : Nat), p.colors.getD 1 = colors ∧ p.columns.getD 1 = columns ∧
      p.bpc.getD 8 = 8 ∧ 1 ≤ columns ∧ 1 ≤ colors ∧ columns * colors ≤ 2147483646 ∧
      y.length % (columns * colors) = 0 ∧ Bytes y ∧ data = tiffPredict colors columns y := by
  constructor
  · intro h
    obtain ⟨rb, hbpc, hrb, hmod, h⟩ := applyTIFFPredictor2_eq_some_iff.mp h
    obtain ⟨columns, colors, hcolumns, hcolors, hc1, hc2, hcap, rfl⟩ := (predictorRowBytes_eq_some_iff _ _ rb).mp hrb
    rw [hcolors, Int.toNat_natCast] at h
    obtain ⟨y', hyl, hyb, hout, hdata⟩ := tiffRows_char colors (columns * colors) hc2 _ data [] (whole_rows hmod)
    obtain rfl : y' = y := Option.some.inj (hout.symm.trans h)
    have hylen : y'.length = data.length := hyl.trans (whole_rows hmod).symm
    refine ⟨colors, columns, hcolors, hcolumns, hbpc, hc1, hc2, hcap, hylen ▸ hmod, hyb, ?_⟩
    rw [tiffPredict, hylen]
    exact hdata hd
  · rintro ⟨colors, columns, hc, hcol, hb, h1, h2, hcap, hlen, hy, rfl⟩
    exact applyTIFFPredictor2_tiffPredict colors columns y p hc hcol hb h1 h2 hcap hlen hy

example : applyTIFFPredictor2 [10, 20, 1, 1, 5, 5, 250, 10] { colors := some 2, columns := some 2 }
    = some [10, 20, 11, 21, 5, 5, 255, 15] := by decide

/-- the PNG encoder is injective: one encoding stands for one byte string (so a decoder that
inverts it can never return "another" original) -/
theorem encodings_injective (colors columns : Nat) (tags : List Nat) (y y' : Str)
    (h1 : 1 ≤ columns) (h2 : 1 ≤ colors) (hcap : columns * colors ≤ 2147483646) (ht : ∀ t ∈ tags, t ≤ 4)
    (hy : Bytes y) (hy' : Bytes y') (hl : y.length = tags.length * (columns * colors))
    (hl' : y'.length = tags.length * (columns * colors))
    (h : pngPredict colors columns tags y = pngPredict colors columns tags y') : y = y' := by
  -- the row loop of the decoder reads `y` back from the one and `y'` from the other
  have a := pngRows_pngPredictRows colors (columns * colors) h2 tags y _ none [] hl ht hy (Or.inl ⟨rfl, rfl⟩)
  have b := pngRows_pngPredictRows colors (columns * colors) h2 tags y' _ none [] hl' ht hy' (Or.inl ⟨rfl, rfl⟩)
  unfold pngPredict at h
  rw [h, b] at a
  simpa using (Option.some.inj a).symm

/-- whatever FlateDecode returns after inflating — with parameters as
`toParams ∘ dictToParams` reads them from any dictionary — is the original of the inflated data:
without a (numeric) Predictor or with Predictor 1 the inflated data itself; with Predictor 2 the
inflated data is the TIFF differencing of the result; with Predictor 10..15 it is the PNG
filtering of the result with filter types ≤ 4; there is no other way to get bytes. -/
theorem flate_not_wrong_bytes (params : Option Params) (dec y : Str) (hd : Bytes dec)
    (h : flatePost params dec = some y) :
    (y = dec ∧ (params = none ∨ ∃ p, params = some p ∧ (p.predictor = none ∨ p.predictor = some 1))) ∨
    (∃ p colors columns, params = some p ∧ p.predictor = some 2 ∧ p.colors.getD 1 = (colors : Nat) ∧
      p.columns.getD 1 = (columns : Nat) ∧ p.bpc.getD 8 = 8 ∧ 1 ≤ columns ∧ 1 ≤ colors ∧
      y.length % (columns * colors) = 0 ∧ dec = tiffPredict colors columns y) ∨
    (∃ p pr colors columns tags, params = some p ∧ p.predictor = some pr ∧ 10 ≤ pr ∧ pr ≤ 15 ∧
      p.colors.getD 1 = (colors : Nat) ∧ p.columns.getD 1 = (columns : Nat) ∧ p.bpc.getD 8 = 8 ∧
      1 ≤ columns ∧ 1 ≤ colors ∧ (∀ t ∈ tags, t ≤ 4) ∧ y.length = tags.length * (columns * colors) ∧
      dec = pngPredict colors columns tags y) := by
  rcases flatePost_cases params dec with ⟨hplain, e⟩ | ⟨p, pr, hp, hpr, h1, e⟩ <;> rw [e] at h
  · exact .inl ⟨(Option.some.inj h).symm, hplain⟩
  · rcases applyPredictor_cases dec p pr with ⟨h1', e⟩ | ⟨h2, e⟩ | ⟨h3, e⟩ | ⟨_, e⟩ <;> rw [e] at h
    · exact absurd h1' h1
    · obtain ⟨colors, columns, hc, hcol, hb, g1, g2, _, hlen, _, hdata⟩ := (tiff_decode_iff dec p y hd).mp h
      exact .inr (.inl ⟨p, colors, columns, hp, h2 ▸ hpr, hc, hcol, hb, g1, g2, hlen, hdata⟩)
    · obtain ⟨colors, columns, tags, hc, hcol, hb, g1, g2, _, ht, hlen, _, hdata⟩ :=
        (png_decode_iff dec p y hd).mp h
      exact .inr (.inr ⟨p, pr, colors, columns, tags, hp, hpr, h3.1, h3.2, hc, hcol, hb, g1, g2, ht, hlen, hdata⟩)
    · cases h

/-- on every input the decoder is the literal reading of §7.4.2 -/
theorem hex_decode_is_spec (s : Str) : hexDecode s = hexSpec s := hexDecode_eq_spec s

/-- the decoder fails iff some character before the first `>` is neither white space nor a
hexadecimal digit; in every other case it returns the digits before the first `>` paired up -/
theorem hex_error_iff (s : Str) :
    (hexDecode s = none ↔ ∃ c ∈ hexBodyOf s, hexVal c = none) ∧
    (∀ y, hexDecode s = some y ↔ ∃ vs, hexVals (hexBodyOf s) = some vs ∧ y = pairUp vs) := by
  refine ⟨hexDecode_eq_none_iff s, fun y => ?_⟩
  rw [hexDecode_eq_spec, hexSpec, Option.map_eq_some_iff]
  exact exists_congr fun vs => and_congr_right fun _ => eq_comm

/-- non-vacuity: "4 1>zz" is read as 41; "4g>" is refused; "4>" is 40 -/
example : hexSpec [52, 32, 49, 62, 122, 122] = some [65] ∧ hexSpec [52, 103, 62] = none ∧
    hexSpec [52, 62] = some [64] := by decide

/-- on every input the decoder is the literal reading of §7.4.3 -/
theorem a85_decode_is_spec (s : Str) : a85Decode s = a85Spec s := a85Decode_eq_spec s

/-- the group reading on a `z` and on a full group (the final partial group: `C05Err.a85_final_group_cases`), and its
failures: a `z` inside a group, a
character outside `!`..`u` among the (up to) five characters of a group, a value above 2^32-1 -/
theorem a85_groups_cases :
    (∀ body, a85Groups (122 :: body) = (a85Groups body).map (fun t => 0 :: 0 :: 0 :: 0 :: t)) ∧
    (∀ cs i c, i < 5 → cs[i]? = some c → a85Digit c = false → cs.head? ≠ some 122 → a85Groups cs = none) ∧
    (∀ a b c d e body, a < 85 → b < 85 → c < 85 → d < 85 → e < 85 →
      a85Groups ((a + 33) :: (b + 33) :: (c + 33) :: (d + 33) :: (e + 33) :: body) =
        if (((a * 85 + b) * 85 + c) * 85 + d) * 85 + e > 4294967295 then none
        else (a85Groups body).map (fun t => bytes4 ((((a * 85 + b) * 85 + c) * 85 + d) * 85 + e) ++ t)) := by
  refine ⟨a85Groups_z, ?_, ?_⟩
  · intro cs i c hi hc hbad h0
    exact a85Groups_bad cs i hi c hc hbad h0
  · intro a b c d e body ha hb hc hd he
    exact a85Groups_five a b c d e ha hb hc hd he body

/-- non-vacuity: white space, `z`, a full group, a partial group, bytes after `~>`; `z` inside a
group and the group `uuuuu` (85^5-1 > 2^32-1) are refused -/
example : a85Spec [122, 10, 33, 33, 32, 33, 33, 34, 0, 53, 115, 98, 126, 62, 1] = some [0, 0, 0, 0, 0, 0, 0, 1, 65, 66] ∧
    a85Spec [33, 33, 122] = none ∧ a85Spec [117, 117, 117, 117, 117] = none := by decide

/-- for every data string — conforming or not — (1) a white-space character
inserted at any position (for ASCII85: not directly behind a `~`) and
(2) replacing what follows the EOD marker by anything else leave the result of the decoder
unchanged, be it bytes or an error. -/
theorem ws_eod_tolerance (a b t t' : Str) (c : Nat) (hc : isWs c = true) :
    hexDecode (a ++ c :: b) = hexDecode (a ++ b) ∧
    (a.getLast? ≠ some 126 → a85Decode (a ++ c :: b) = a85Decode (a ++ b)) ∧
    hexDecode (a ++ 62 :: t) = hexDecode (a ++ 62 :: t') ∧
    a85Decode (a ++ 126 :: 62 :: t) = a85Decode (a ++ 126 :: 62 :: t') := by
  have hw : ∀ x ∈ [c], isWs x = true := fun x hx => by rw [List.mem_singleton.mp hx]; exact hc
  refine ⟨hexGo_congr (hexGo_ws [c] b · · hw) a none [], fun h => ?_,
    hexGo_congr (fun p acc => (hexGo_eod t p acc).trans (hexGo_eod t' p acc).symm) a none [], ?_⟩
  · exact a85Go_congr (a85Go_ws [c] b · · hw) a (fun hl => absurd hl h) [] []
  · exact a85Go_congr (r := 126 :: 62 :: t) (r' := 126 :: 62 :: t')
      (fun ds acc => (a85Go_eod t ds acc).trans (a85Go_eod t' ds acc).symm) a (fun _ => rfl) [] []

example : isWs 10 = true := by decide

/-- what one successful stage of `Decode` means, in terms of the specifications only: ASCIIHex /
ASCII85 — the data reads as `out` by the literal §7.4.2 / §7.4.3; Flate — zlib inflates the data
to something that is `out` itself or its TIFF / PNG predicted form (`flate_not_wrong_bytes`);
DCT / JPX — handed on unchanged (tabula leaves image data to the image code); CCITT — what
x/image/ccitt returns for the arguments `ccittFaxDecode` derives from the parameters, when that is at
most `maxCCITTOutput` = 64 MiB (a larger image is an error since fix 6dc2783: `ccittFaxDecode` ends in
`ccittLimit`; `C05E.ccitt_stage_bounded`). No other filter name ever yields bytes. -/
def StageReads (ext : Ext) (name : Str) (params : Option Params) (inp out : Str) : Prop :=
  ((name = nASCIIHexDecode ∨ name = nAHx) ∧ hexSpec inp = some out) ∨
  ((name = nASCII85Decode ∨ name = nA85) ∧ a85Spec inp = some out) ∨
  ((name = nFlateDecode ∨ name = nFl) ∧ ∃ dec, ext.inflate inp = some dec ∧ flatePost params dec = some out) ∨
  ((name = nDCTDecode ∨ name = nDCT ∨ name = nJPXDecode) ∧ out = inp) ∨
  ((name = nCCITTFaxDecode ∨ name = nCCF) ∧ ccittFaxDecode ext.ccitt inp params = some out)

theorem stage_reads (ext : Ext) (name : Str) (params : Option Params) (inp out : Str)
    (h : decodeWithFilter ext inp name params = some out) : StageReads ext name params inp out :=
  (decodeWithFilter_some_iff ext name params inp out).mp h

/-- `ChainReads`: the data passes through the filters in array order, each stage reading its input
as the specifications say, with the parameters `Decode` selects for position `i` -/
def ChainReads (ext : Ext) (dp : DParms) : List Str → Nat → Str → Str → Prop
  | [], _, inp, out => out = inp
  | n :: ns, i, inp, out => ∃ mid, StageReads ext n (chainParams dp i) inp mid ∧ ChainReads ext dp ns (i + 1) mid out

/-- whenever `Decode()` returns bytes for a dictionary and data — any
dictionary, any data — the `Filter` entry was absent (or a Go nil; the data itself), a name, or an array of
names, and the data reads, stage by stage in array order and with the i-th parameters, as exactly
those bytes according to the specifications of the filters. Everything else is an error. -/
theorem decode_not_wrong_bytes (ext : Ext) (d : Dict) (data y : Str) (h : streamDecodeD ext d data = some y) :
    ((dictGet d kFilter = none ∨ dictGet d kFilter = some .nil) ∧ y = data) ∨
    (∃ n, dictGet d kFilter = some (.name n) ∧
      StageReads ext n (paramsObjToDict (objToPObj (match dictGet d kDecodeParms with
        | some (.array _) => none | o => o))) data y) ∨
    (∃ ns : List Str, dictGet d kFilter = some (.array (ns.map Obj.name)) ∧
      ChainReads ext (objToDParms (dictGet d kDecodeParms)) ns 0 data y) := by
  rw [streamDecodeD_some_iff ext d data y (ChainReads ext _) (fun _ _ _ => Iff.rfl)
    (fun n _ _ inp _ => exists_congr fun mid => and_congr_left' (decodeWithFilter_some_iff ext n _ inp mid).symm)] at h
  exact h.imp_right (Or.imp_left fun ⟨n, hf, hs⟩ => ⟨n, hf, stage_reads ext n _ data y hs⟩)

/-- non-vacuity: `<< /Filter [/AHx /A85] >>` on "7a 7E3e>" gives four zero bytes
(hex → "z~>" → 00 00 00 00) -/
example : streamDecodeD { inflate := fun _ => none, ccitt := fun _ _ => none }
    [(kFilter, .array [.name nAHx, .name nA85])] [55, 97, 32, 55, 69, 51, 101, 62] = some [0, 0, 0, 0] := by decide

end Tabula.C05S
