import TabulaModel.Props.C07
import TabulaModel.Props.C07CMap
import TabulaModel.Lemmas.FormFonts
import TabulaModel.Lemmas.PdfCS
/-!
# C07 — which font decodes a shown string (histories of `q Q Tf Tj TJ ' " Do`)

Theorems about `Model/FormFonts.lean`, the model of `text.Extractor`'s font table over a
whole content stream including Form XObjects (tied to the Go code by op `c07.ext`):

* `bindings_stable_*` — over EVERY operation history (any operators, any forms drawn to any
  depth, whatever those forms register or select), a resource name that was bound keeps its
  font. This is fix 613ae5d (a form's `/F1` no longer replaces the page's `/F1`) as a theorem.
* `show_after_history_page` / `show_after_history_form` — after any history, `/N sz Tf` followed
  by a show decodes the string by the font that was bound to `N` when the history began, with
  `Font.DecodeString`'s priority; `form_entry_binding` / `form_inherits_binding` say what is
  bound when a form begins (its own `/Resources` first, else the caller's binding);
  `page_initial_binding` the same for the page.
* `register_order_free` — `RegisterFontsFromResources` leaves the same table whatever order the
  Go map is ranged over.
* `inherited_font` / `inherited_font_do` / `inherited_font_after_history` — a form that shows text
  without a `Tf` of its own decodes it by the font its caller selected, whatever its own
  `/Resources` bind (fix fa0c44f); `inherited_font_pinned_counterexample` keeps the old
  lookup by name (`showOneOld`) and its wrong answer.
* `parseFont_simple_tounicode` — a TrueType/Type1 font dictionary with a `/ToUnicode` stream
  becomes `⟨some (parseCMapData program), encoding, differences⟩` for whatever its (acceptable)
  `/Encoding` leaves in the two fields; `simple_font_differences` / `parseFont_simple_differences` /
  `page_differences_end_to_end` — the same path for a font whose text comes from `/Differences`.
* `extract_never_unsupported` — the model never fails to interpret `GetEncoding`.
* `page_tounicode_end_to_end` — font dictionary + any program of the independent CMap writer +
  any content-stream history: the fragment text is NFC of the specified texts.
* `extract_utf8` — every fragment text of every extraction is a list of Unicode scalar values
  (valid UTF-8), for byte inputs and a normaliser that keeps scalar lists scalar.
-/
namespace Tabula.C07Fonts
open Tabula.Pdf (Obj)
open Tabula.Reader (Str Dict Err dget)
open Tabula.FormFonts Tabula.FontDecode

/-! ## 1. bindings are stable over every history -/

/-- a Form XObject — whatever fonts its `/Resources` bind under whatever names, whatever it
selects or draws inside, to any depth — leaves every binding of its caller as it was -/
theorem bindings_stable_do (nfc : List Nat → List Nat) (res : FRes) (fuel : Nat) (st : St) (form : Str)
    (name : Str) (f : Font) (h : st.fonts name = some f) :
    (invoke nfc res fuel st form).fonts name = some f :=
  (keeps_all nfc res fuel).1 st form name f h

/-- … and so does any sequence of operations inside a form … -/
theorem bindings_stable_form (nfc : List Nat → List Nat) (res : FRes) (fuel : Nat) (st : St)
    (ops : List Pdf.CS.Operation) (name : Str) (f : Font) (h : st.fonts name = some f) :
    (runForm nfc res fuel st ops).fonts name = some f :=
  (keeps_all nfc res fuel).2.2 st ops name f h

/-- … and any sequence of operations of the page that runs without an error -/
theorem bindings_stable_page (nfc : List Nat → List Nat) (res : FRes) (st st' : St)
    (ops : List Pdf.CS.Operation) (hrun : runPage nfc res st ops = .ok st')
    (name : Str) (f : Font) (h : st.fonts name = some f) : st'.fonts name = some f :=
  runPage_ok nfc res st st' ops hrun ▸ bindings_stable_form nfc res maxXObjectDepth st ops name f h

/-- a TrueType font dictionary with the given `/Encoding` name -/
def exFont (enc : Str) : Obj := .dict [(Reader.kSubtype, .name Reader.kTrueType), (Reader.kEncoding, .name enc)]
/-- a form whose own resources bind `/F1` to a StandardEncoding font -/
def exFormDict : Dict :=
  [(Reader.kSubtype, .name kForm), (Reader.kResources, .dict [(Reader.kFont, .dict [([70, 49], exFont Reader.kStandardEncoding)])])]
def exRes : FRes := fun n => if n = 5 then .ok (.stream exFormDict (some [66, 84])) else .error .err
/-- the page binds `/F1` to a WinAnsiEncoding font and can draw the form as `/X1` -/
def exPageRd : Dict :=
  [(Reader.kFont, .dict [([70, 49], exFont Reader.kWinAnsiEncoding)]), (Reader.kXObject, .dict [([88, 49], .ref 5 0)])]

/-- the hypothesis is satisfiable, and the theorem is about a real rebinding: a page binds
`/F1` and can draw (`/X1 Do`) a form whose own resources bind `/F1` to another font, which is
what `/F1` means while the form runs -/
example :
    ((initial exRes (some exPageRd)).fonts [47, 70, 49]).map (·.encoding) = some Reader.kWinAnsiEncoding ∧
    ((enterForm exRes (initial exRes (some exPageRd)) exPageRd exFormDict [66, 84]).fonts [47, 70, 49]).map (·.encoding)
      = some Reader.kStandardEncoding ∧
    (findForm exRes exPageRd [88, 49]).isSome = true := by
  decide

/-! ## 2. what is bound where -/

/-- the page: a name is bound to what `RegisterFontsFromResources` makes of the page's `/Font`
dictionary (the key itself, or the `/`-prefixed alias of a key) -/
theorem page_initial_binding (res : FRes) (rd fd : Dict) (h : Reader.fontsOf (toRes res) (some rd) = some fd) (name : Str) :
    (initial res (some rd)).fonts name = registered (toRes res) fd name := by
  unfold initial registerFonts
  simp only [h]
  cases registered (toRes res) fd name <;> rfl

/-- inside a form, a name its own `/Resources` bind is the FORM's font, whatever the caller
bound under that name -/
theorem form_entry_binding (res : FRes) (st : St) (rd sd d fd : Dict) (data name : Str) (f : Font)
    (hr : formResources res sd = some d) (hf : Reader.fontsOf (toRes res) (some d) = some fd)
    (hreg : registered (toRes res) fd name = some f) :
    (enterForm res st rd sd data).fonts name = some f := by
  unfold enterForm formFonts registerFonts
  simp only [hr, hf, hreg]

/-- … and a name they do not bind keeps the caller's binding (a form without `/Resources`, or
with resources that do not mention the name, uses the caller's fonts) -/
theorem form_inherits_binding (res : FRes) (st : St) (rd sd : Dict) (data name : Str)
    (h : formResources res sd = none ∨ ∃ d, formResources res sd = some d ∧
      (Reader.fontsOf (toRes res) (some d) = none ∨
        ∃ fd, Reader.fontsOf (toRes res) (some d) = some fd ∧ registered (toRes res) fd name = none)) :
    (enterForm res st rd sd data).fonts name = st.fonts name := by
  unfold enterForm formFonts registerFonts
  rcases h with h | ⟨d, hd, h | ⟨fd, hfd, hn⟩⟩
  · simp only [h]
  · simp only [hd, h]
  · simp only [hd, hfd, hn]

/-! ## 2b. `RegisterFontsFromResources` does not depend on the map iteration order -/

/-- Go ranges over the `/Font` dictionary (a map) in an unspecified order. For a dictionary
with distinct keys, the loop run over the entries in ANY order (`order` is any list with the
same members, repetitions allowed) produces exactly the table `registerFonts` is defined by —
so the font a name is bound to is a function of the dictionary alone. (Before the fix that
added the `explicit` check, a key `F1` and a key `/F1` raced for the name `/F1`.) -/
theorem register_order_free (res : Reader.Res) (rd fd : Dict) (hf : Reader.fontsOf res (some rd) = some fd)
    (hnd : (fd.map (·.1)).Nodup) (order : List (Str × Obj)) (hmem : ∀ kv, kv ∈ order ↔ kv ∈ fd) (m : FontMap) :
    registerLoop res fd order m = registerFonts res rd m := by
  funext name
  rw [registerLoop_eq res fd hnd order hmem m name]
  unfold registerFonts
  simp only [hf]
  cases registered res fd name <;> rfl

/-- the racing pair: keys `F1` and `/F1` in one dictionary; both orders give `/F1` the font of
the key `/F1` -/
example :
    let fd : Dict := [([70, 49], exFont Reader.kWinAnsiEncoding), ([47, 70, 49], exFont Reader.kStandardEncoding)]
    ((fd.map (·.1)).Nodup) ∧
    ((registerLoop (toRes exRes) fd fd FontMap.empty [47, 70, 49]).map (·.encoding)) = some Reader.kStandardEncoding ∧
    ((registerLoop (toRes exRes) fd fd.reverse FontMap.empty [47, 70, 49]).map (·.encoding)) = some Reader.kStandardEncoding := by
  decide

/-! ## 3. a show decodes by the font its `Tf` selects -/

/-- the name `Tf` selects: the operand, `/`-prefixed unless it already starts with `/` -/
def tfKey (n : Str) : Str := if n.head? = some 47 then n else 47 :: n

def opTfOf (n : Str) (sz : Obj) : Pdf.CS.Operation := ⟨Reader.opTf, [.name n, sz]⟩
def opTjOf (data : Str) : Pdf.CS.Operation := ⟨Reader.opTj, [.str data]⟩

theorem step_tf (nfc : List Nat → List Nat) (res : FRes) (fuel : Nat) (st : St) (n : Str) (sz : Obj)
    (hsz : Reader.isNum sz = true) (f : Font) (hb : st.fonts (tfKey n) = some f) :
    step nfc res fuel st (opTfOf n sz) = ({ st with cur := tfKey n, sel := some f }, false) := by
  rw [step.eq_1]
  simp +decide only [opTfOf, if_false, if_true, hsz]
  unfold setFont
  unfold tfKey at hb
  simp only [hb]
  rfl

theorem step_tj (nfc : List Nat → List Nat) (res : FRes) (fuel : Nat) (st : St) (data : Str) :
    step nfc res fuel st (opTjOf data) = (showOne nfc st data, false) := by
  rw [step.eq_1]
  simp +decide only [opTjOf, if_false, true_or, if_true]

theorem showOne_bound (nfc : List Nat → List Nat) (st : St) (data : Str) (f : Font) (s : List Nat)
    (hb : st.sel = some f) (hs : decodeString nfc f data = some s) :
    showOne nfc st data = { st with out := st.out ++ [s] } := by
  unfold showOne
  simp only [hb, hs]

theorem runForm_append (nfc : List Nat → List Nat) (res : FRes) (fuel : Nat) (st : St) (a b : List Pdf.CS.Operation) :
    runForm nfc res fuel st (a ++ b) = runForm nfc res fuel (runForm nfc res fuel st a) b := by
  induction a generalizing st with
  | nil => rw [runForm.eq_1]; rfl
  | cons op a ih => simp only [List.cons_append, runForm.eq_2, ih]

theorem runPage_append (nfc : List Nat → List Nat) (res : FRes) (st st' : St) (a b : List Pdf.CS.Operation)
    (h : runPage nfc res st a = .ok st') : runPage nfc res st (a ++ b) = runPage nfc res st' b := by
  induction a generalizing st with
  | nil => simp only [runPage, Except.ok.injEq] at h; subst h; rfl
  | cons op a ih =>
    simp only [runPage, List.cons_append] at h ⊢
    split at h
    · rename_i st1 hst; exact ih st1 h
    · simp at h

/-- **inside a form**: after ANY history of operations (other fonts selected, forms drawn
that rebind the name, `q`/`Q`), `/N sz Tf` followed by a show appends exactly the string
decoded by the font that was bound to `N` when the history began — by `Font.DecodeString`:
its ToUnicode CMap, else a byte-order mark, else its encoding, NFC last (`C07.decode_priority`) -/
theorem show_after_history_form (nfc : List Nat → List Nat) (res : FRes) (fuel : Nat) (st : St)
    (pre : List Pdf.CS.Operation) (n : Str) (sz : Obj) (hsz : Reader.isNum sz = true) (data : Str)
    (f : Font) (hb : st.fonts (tfKey n) = some f) (s : List Nat) (hs : decodeString nfc f data = some s) :
    (runForm nfc res fuel st (pre ++ [opTfOf n sz, opTjOf data])).out =
      (runForm nfc res fuel st pre).out ++ [s] := by
  rw [runForm_append]
  have hb' := bindings_stable_form nfc res fuel st pre (tfKey n) f hb
  generalize runForm nfc res fuel st pre = st1 at hb' ⊢
  rw [runForm.eq_2, step_tf nfc res fuel st1 n sz hsz f hb', runForm.eq_2, step_tj, runForm.eq_1]
  simp only
  rw [showOne_bound nfc _ data f s rfl hs]

/-- **on the page**: the same, for the page's content stream -/
theorem show_after_history_page (nfc : List Nat → List Nat) (res : FRes) (st st1 : St)
    (pre : List Pdf.CS.Operation) (hpre : runPage nfc res st pre = .ok st1)
    (n : Str) (sz : Obj) (hsz : Reader.isNum sz = true) (data : Str)
    (f : Font) (hb : st.fonts (tfKey n) = some f) (s : List Nat) (hs : decodeString nfc f data = some s) :
    ∃ st2, runPage nfc res st (pre ++ [opTfOf n sz, opTjOf data]) = .ok st2 ∧ st2.out = st1.out ++ [s] := by
  rw [runPage_append nfc res st st1 pre _ hpre]
  have hb' := bindings_stable_page nfc res st st1 pre hpre (tfKey n) f hb
  simp only [runPage, step_tf nfc res maxXObjectDepth st1 n sz hsz f hb', step_tj]
  refine ⟨_, rfl, ?_⟩
  rw [showOne_bound nfc _ data f s rfl hs]

example : Reader.isNum (.int 12) = true ∧ tfKey [70, 49] = [47, 70, 49] ∧ tfKey [47, 70, 49] = [47, 70, 49] := by decide

/-! ## 3b. a form that inherits its caller's font (fix fa0c44f; was finding `C07/ext-inherited-font-name-rebound`)

What ISO 32000-1 8.10.1 / 9.3.1 specify: a string that a form shows without a `Tf` of its own
is decoded by the font its caller had selected — the text state is part of the graphics state
the form inherits. `Tf` now records the font the name is bound to at that moment
(`gs.Text.Font`), the graphics state carries it through `q`/`Q` and `Do`, and `showText`
decodes by it, so the statement holds whatever the form's own `/Resources` bind
(`inherited_font`, `inherited_font_do`, `inherited_font_after_history`). Before the fix the
extractor kept the selection as a resource *name* and looked it up in `e.fonts` at every show
(`showOneOld`): right as long as the name still meant the selected font
(`show_old_agrees_unless_rebound`), wrong when the form's
resources bind the name to another font (`inherited_font_pinned_counterexample`). -/

/-- **inherited_font**: a show inside a form that has not selected a font of its own appends
the string decoded by the font the caller had selected — for EVERY form dictionary, whatever
fonts its `/Resources` bind under whatever names (no hypothesis on them) -/
theorem inherited_font (nfc : List Nat → List Nat) (res : FRes) (st : St) (rd sd : Dict) (content d : Str)
    (f : Font) (hsel : st.sel = some f) (s : List Nat) (hs : decodeString nfc f d = some s) :
    (showOne nfc (enterForm res st rd sd content) d).out = st.out ++ [s] := by
  have hb : (enterForm res st rd sd content).sel = some f := hsel
  rw [showOne_bound nfc _ d f s hb hs]
  rfl

def opDoOf (x : Str) : Pdf.CS.Operation := ⟨Reader.opDo, [.name x]⟩

theorem step_do (nfc : List Nat → List Nat) (res : FRes) (fuel : Nat) (st : St) (x : Str) :
    step nfc res fuel st (opDoOf x) = (invoke nfc res fuel st x, false) := by
  rw [step.eq_1]
  simp +decide only [opDoOf, if_false, or_self, if_true]

/-- **the whole `Do`**: drawing (below the nesting limit, within the byte budget) a form whose
content is one show without a `Tf` appends the string decoded by the font the caller had
selected, whatever the form's `/Resources` bind, and gives the caller its selection, its
saved graphics states and its bindings back -/
theorem inherited_font_do (nfc : List Nat → List Nat) (res : FRes) (fuel : Nat) (st : St) (rd sd : Dict)
    (x content d : Str) (hrd : st.resources = some rd) (hfind : findForm res rd x = some (sd, content))
    (hbudget : charge st content ≤ maxXObjectBytes) (hparse : Pdf.CS.csParse content = some [opTjOf d])
    (f : Font) (hsel : st.sel = some f) (s : List Nat) (hs : decodeString nfc f d = some s) :
    (invoke nfc res (fuel + 1) st x).out = st.out ++ [s] ∧
    (invoke nfc res (fuel + 1) st x).sel = st.sel ∧ (invoke nfc res (fuel + 1) st x).cur = st.cur ∧
    (invoke nfc res (fuel + 1) st x).stack = st.stack ∧
    ∀ name g, st.fonts name = some g → (invoke nfc res (fuel + 1) st x).fonts name = some g := by
  -- the form is entered, its one show decodes by the caller's selection, the form is left
  have hrun : invoke nfc res (fuel + 1) st x =
      leaveForm res sd rd st.fonts
        { enterForm res st rd sd content with out := (enterForm res st rd sd content).out ++ [s] } := by
    have hb : ¬ charge st content > maxXObjectBytes := by omega
    have hsel' : (enterForm res st rd sd content).sel = some f := hsel
    rw [invoke.eq_2]
    simp only [hrd, hfind, hb, if_false, hparse]
    rw [runForm.eq_2, step_tj, runForm.eq_1]
    simp only
    rw [showOne_bound nfc _ d f s hsel' hs]
  refine ⟨?_, ?_, ?_, ?_, fun name g hg => bindings_stable_do nfc res (fuel + 1) st x name g hg⟩ <;>
    (rw [hrun]; rfl)

/-- **after any history of the page**: `/N sz Tf /X Do`, the form `X` showing one string
without a `Tf` — the fragment text is the string decoded by the font that was bound to `N` on
the page when the history began, whatever the form's own `/Resources` call `N` -/
theorem inherited_font_after_history (nfc : List Nat → List Nat) (res : FRes) (st st1 : St)
    (pre : List Pdf.CS.Operation) (hpre : runPage nfc res st pre = .ok st1)
    (n : Str) (sz : Obj) (hsz : Reader.isNum sz = true) (f : Font) (hb : st.fonts (tfKey n) = some f)
    (rd sd : Dict) (x content d : Str) (hrd : st1.resources = some rd)
    (hfind : findForm res rd x = some (sd, content)) (hbudget : charge st1 content ≤ maxXObjectBytes)
    (hparse : Pdf.CS.csParse content = some [opTjOf d]) (s : List Nat) (hs : decodeString nfc f d = some s) :
    ∃ st2, runPage nfc res st (pre ++ [opTfOf n sz, opDoOf x]) = .ok st2 ∧ st2.out = st1.out ++ [s] := by
  rw [runPage_append nfc res st st1 pre _ hpre]
  have hb' := bindings_stable_page nfc res st st1 pre hpre (tfKey n) f hb
  simp only [runPage, step_tf nfc res maxXObjectDepth st1 n sz hsz f hb', step_do]
  refine ⟨_, rfl, ?_⟩
  exact (inherited_font_do nfc res 9 { st1 with cur := tfKey n, sel := some f } rd sd x content d hrd hfind
    hbudget hparse f rfl s hs).1

/-- the form of `exFormDict` (its resources bind `/F1` to a StandardEncoding font) with the
content `(¤)Tj` (the byte A4 in a literal string) -/
def exRes4 : FRes := fun n => if n = 5 then .ok (.stream exFormDict (some [40, 0xA4, 41, 84, 106])) else .error .err

/-- `(¤)Tj` parses to one `Tj` of the byte A4 (by the content-stream round trip of C06) -/
theorem exShow_parse : Pdf.CS.csParse [40, 0xA4, 41, 84, 106] = some [opTjOf [0xA4]] := by
  have h := Tabula.Pdf.cs_roundtrip [⟨[Pdf.SObj.lit [] [.raw 0xA4]], [], [84, 106]⟩] [] (by
      simp [Pdf.ValidOps, Pdf.ValidList, Pdf.noRefList, Pdf.SepOk, Pdf.lastEndsRegular, Pdf.OpName, Pdf.SObj.Valid,
        Pdf.SObj.noRef, Pdf.ValidStr, Pdf.SObj.endsRegular]
      refine ⟨⟨84, [106], ⟨rfl, rfl⟩, by decide, by decide⟩, by decide⟩) (by intro u hu; cases hu) (by
      intro o ho
      simp only [List.mem_singleton] at ho
      subst ho
      decide)
  simpa [Pdf.renderOps, Pdf.SOp.render, Pdf.renderList, Pdf.SObj.render, Pdf.renderSep, Pdf.renderStr, Pdf.renderStrBody,
    Pdf.SPiece.render, Pdf.valueList, Pdf.SObj.value, Pdf.strBytes, Pdf.SPiece.bytes, opTjOf, Reader.opTj] using h

/-- the hypotheses of `inherited_font_after_history` are satisfiable on a form that DOES rebind
the selected name — the former witness of the finding: the page's `/F1` is WinAnsiEncoding
(byte A4 is U+00A4), the form's own `/F1` is StandardEncoding (byte A4 is U+2044); the page
runs `/F1 12 Tf /X1 Do`, the form `(¤)Tj`; the fragment text is U+00A4 -/
theorem inherited_font_witness :
    ((enterForm exRes4 (initial exRes4 (some exPageRd)) exPageRd exFormDict []).fonts [47, 70, 49]).map (·.encoding)
      = some Reader.kStandardEncoding ∧
    ∃ st2, runPage id exRes4 (initial exRes4 (some exPageRd)) [opTfOf [70, 49] (.int 12), opDoOf [88, 49]] = .ok st2 ∧
      st2.out = [[0xA4]] := by
  refine ⟨by decide, ?_⟩
  exact inherited_font_after_history id exRes4 (initial exRes4 (some exPageRd)) (initial exRes4 (some exPageRd)) [] rfl
    [70, 49] (.int 12) (by decide) ⟨none, Reader.kWinAnsiEncoding, []⟩ (by rfl) exPageRd exFormDict [88, 49]
    [40, 0xA4, 41, 84, 106] [0xA4] rfl (by rfl) (by decide) exShow_parse [0xA4] (by decide +kernel)

/-- the old lookup by name agrees with the selection as long as the current name is still
bound to the selected font (the form's resources do not rebind the name) -/
theorem show_old_agrees_unless_rebound (nfc : List Nat → List Nat) (st : St) (d : Str)
    (h : st.fonts st.cur = st.sel) : showOneOld nfc st d = showOne nfc st d := by
  unfold showOneOld showOne
  rw [h]

/-- the page of `exPageRd` has selected `/F1` (WinAnsiEncoding: byte A4 is U+00A4); the form
`exFormDict` binds `/F1` to a StandardEncoding font (byte A4 is U+2044). Before fa0c44f
(`showOneOld`: the name looked up again at the show) the string `<A4>` shown by the form
without a `Tf` came out as U+2044; now it is the U+00A4 of the selected font, as on the page -/
theorem inherited_font_pinned_counterexample :
    (showOneOld id (enterForm exRes (setFont (initial exRes (some exPageRd)) [70, 49]) exPageRd exFormDict [66, 84]) [0xA4]).out
      = [[0x2044]] ∧
    (showOne id (enterForm exRes (setFont (initial exRes (some exPageRd)) [70, 49]) exPageRd exFormDict [66, 84]) [0xA4]).out
      = [[0xA4]] ∧
    (showOne id (setFont (initial exRes (some exPageRd)) [70, 49]) [0xA4]).out = [[0xA4]] := by
  decide +kernel

/-! ## 4. the model never fails -/

/-- `extract` answers with the texts or with tabula's error, never with "outside the model" -/
theorem extract_never_unsupported (nfc : List Nat → List Nat) (res : FRes) (pageRes : Option Dict) (content : Str) :
    extract nfc res pageRes content ≠ .error .unsupported := by
  unfold extract
  split
  · simp
  · rename_i ops _
    split
    · rename_i st hst
      have : st.bad = false :=
        runPage_ok nfc res _ st ops hst ▸
          (staysGood_all nfc (C07.decodeString_isSome nfc) res maxXObjectDepth).2.2 _ ops rfl
      simp [this]
    · rename_i e hst
      have := runPage_error nfc res _ ops e hst
      subst this
      simp

/-! ## 5. font dictionaries -/

/-- A simple-font dictionary (`/Subtype /TrueType` or `/Type1`) whose `/Encoding` and `/Widths`
are acceptable and whose `/ToUnicode` is a reference to a stream that decodes to `prog`
registers as the font `⟨ToUnicode = parseCMapData prog, Encoding = enc, Differences = ds⟩`
(`NewTrueTypeFont` / `NewType1Font` + `ParseToUnicodeCMap`; with the CMap present neither
`enc` nor `ds` is consulted, `C07.differences_tounicode_precedence`). -/
theorem parseFont_simple_tounicode (res : Reader.Res) (fd : Dict) (st std : Str) (diffs : Bool)
    (hst : dget fd Reader.kSubtype = some (.name st))
    (hkind : (st = Reader.kType1 ∧ std = Reader.kStandardEncoding ∧ diffs = true) ∨
             (st = Reader.kTrueType ∧ std = Reader.kWinAnsiEncoding ∧ diffs = false))
    (enc : Str) (ds : Diffs) (henc : Reader.simpleEncoding res fd std diffs = some (enc, ds))
    (hw : Reader.widthsOk res fd = true)
    (n g : Int) (htu : dget fd Reader.kToUnicode = some (.ref n g)) (hn : 0 ≤ n)
    (prog : Str) (hres : res n.toNat = .ok (.stream (some prog))) :
    parseFont res (.dict fd) = some ⟨some (CMap.parseCMapData prog), enc, ds⟩ := by
  have htu' : Reader.toUnicodeOf res fd = some (CMap.parseCMapData prog) := by
    unfold Reader.toUnicodeOf
    simp only [htu]
    unfold Reader.resolve
    have : ¬ n < 0 := by omega
    simp only [this, if_false, hres]
  have hR : Reader.parseFont res (.dict fd) = some ⟨some (CMap.parseCMapData prog), enc, ds⟩ := by
    rw [Differences.parseFont_simple res fd st std diffs hst hkind enc ds henc hw, htu']
  have h0 : isType0 res (.dict fd) = false := by
    unfold isType0
    simp only [Reader.resolve, hst]
    rcases hkind with ⟨h1, _, _⟩ | ⟨h1, _, _⟩ <;> subst h1 <;> decide
  unfold parseFont
  rw [hR, h0]
  rfl

def exFd : Dict :=
  [(Reader.kSubtype, .name Reader.kTrueType), (Reader.kEncoding, .name [77, 97, 99]), (Reader.kToUnicode, .ref 7 0)]
def exRes2 : Reader.Res := fun n => if n = 7 then .ok (.stream (some [60, 62])) else .error .err

/-- the hypotheses are satisfiable: a TrueType dictionary with `/Encoding /Mac` and
`/ToUnicode 7 0 R`, object 7 being a stream -/
example :
    Reader.simpleEncoding exRes2 exFd Reader.kWinAnsiEncoding false = some ([77, 97, 99], []) ∧ Reader.widthsOk exRes2 exFd = true ∧
      (match exRes2 (7 : Int).toNat with | .ok (.stream (some d)) => d == [60, 62] | _ => false) = true ∧
      ((parseFont exRes2 (.dict exFd)).map (·.encoding)) = some [77, 97, 99] := by
  decide

/-- **simple_font_differences** (`parseEncoding` of `NewType1Font` and of `NewTrueTypeFont`
after b3a0e07): an `/Encoding` dictionary with a `/Differences` array of runs leaves the base
encoding's name in `Font.Encoding` and in `Font.Differences` exactly what the array specifies
for every byte (`Differences.specRune`: the glyph of the last run naming the byte, as far as
the glyph list knows its name) - for Type1 and TrueType alike, for every list of runs. -/
theorem simple_font_differences (res : Reader.Res) (fd ed : Dict) (std : Str) (strict : Bool)
    (rs : List Differences.Run)
    (he : dget fd Reader.kEncoding = some (.dict ed))
    (hd : dget ed Reader.kDifferences = some (.arr (Differences.renderRuns rs))) :
    ∃ ds, Reader.simpleEncoding res fd std strict = some (Reader.baseEncoding ed std, ds) ∧
      ∀ b, b ≤ 255 → diffLookup ds b = Differences.specRune rs b := by
  exact Differences.simpleEncoding_differences res fd ed std strict rs he hd

/-- … and the font that is registered for such a dictionary without `/ToUnicode` -/
theorem parseFont_simple_differences (res : Reader.Res) (fd ed : Dict) (st std : Str)
    (hst : dget fd Reader.kSubtype = some (.name st))
    (hkind : (st = Reader.kType1 ∧ std = Reader.kStandardEncoding) ∨ (st = Reader.kTrueType ∧ std = Reader.kWinAnsiEncoding))
    (rs : List Differences.Run)
    (he : dget fd Reader.kEncoding = some (.dict ed))
    (hd : dget ed Reader.kDifferences = some (.arr (Differences.renderRuns rs)))
    (hw : Reader.widthsOk res fd = true) (htu : dget fd Reader.kToUnicode = none) :
    ∃ ds, parseFont res (.dict fd) = some ⟨none, Reader.baseEncoding ed std, ds⟩ ∧
      ∀ b, b ≤ 255 → diffLookup ds b = Differences.specRune rs b := by
  have h0 : isType0 res (.dict fd) = false := by
    unfold isType0
    simp only [Reader.resolve, hst]
    rcases hkind with ⟨h1, _⟩ | ⟨h1, _⟩ <;> subst h1 <;> decide
  obtain ⟨ds, hR, hl⟩ := Differences.parseFont_differences res fd ed st std hst hkind rs he hd hw htu
  refine ⟨ds, ?_, hl⟩
  unfold parseFont
  rw [hR, h0]
  rfl

/-- the witness of finding C01/font-text-differences as a font dictionary -/
def exDiffFd : Dict :=
  [(Reader.kType, .name Reader.kFont), (Reader.kSubtype, .name Reader.kType1),
   (Reader.kEncoding, .dict [(Reader.kBaseEncoding, .name Reader.kWinAnsiEncoding),
      (Reader.kDifferences, .arr (Differences.renderRuns C07.exDiffRuns))])]

/-- the hypotheses are satisfiable: the witness dictionary registers with the two overrides -/
example :
    ((parseFont (fun _ => .error .err) (.dict exDiffFd)).map fun f => (f.toUnicode.isSome, f.encoding, f.differences)) =
      some (false, Reader.kWinAnsiEncoding, [(66, some 0xE9), (65, some 0x20AC)]) ∧
    Reader.widthsOk (fun _ => .error .err) exDiffFd = true ∧ (dget exDiffFd Reader.kToUnicode).isNone = true := by
  decide +kernel

/-! ## 6. end to end: font dictionary + ToUnicode program + content-stream history

The property's statement over the model of the public path
(`RegisterFontsFromResources` → `ExtractFromBytes` → `showText` → `Font.DecodeString` →
`CMap.LookupString` over `parseCMapData` of the stream): a page whose resources bind a name
to a font whose `/ToUnicode` stream holds ANY program of the independent writer (any policy,
form, width 1–4, code→text map) shows, after ANY content-stream history, a string of
specified codes in that font — the fragment text is the NFC of the specified texts, whatever
the font's `/Encoding` says (name, base encoding or `/Differences`) and whether or not the code
string looks like a byte-order mark. -/

theorem registered_alias (res : Reader.Res) (fontsD : Dict) (n : Str) (o : Obj)
    (hn : n.head? ≠ some 47) (hno : dget fontsD (47 :: n) = none) (hb : dget fontsD n = some o) :
    registered res fontsD (tfKey n) = parseFont res o := by
  unfold tfKey registered
  simp only [hn, if_false, hno, hb, Option.bind_some]

theorem page_tounicode_end_to_end (nfc : List Nat → List Nat) (res : FRes) (pageRd fontsD : Dict)
    (n : Str) (o : Obj) (enc : Str) (ds : Diffs)
    (p : CMap.Policy) (f : CMap.Form) (w : Nat) (hw1 : 1 ≤ w) (hw4 : w ≤ 4) (runs : List CMap.Run)
    (hm : CMapCompose.MapOK w runs) (hoff : f = .bfchar ∨ f = .array ∨ ∀ r ∈ runs, CMap.RunOffsetOK r)
    -- the page's `/Font` dictionary binds `n` to a font dictionary with that ToUnicode program
    (hfonts : Reader.fontsOf (toRes res) (some pageRd) = some fontsD)
    (hn : n.head? ≠ some 47) (hno : dget fontsD (47 :: n) = none) (hb : dget fontsD n = some o)
    (hfont : parseFont (toRes res) o = some ⟨some (CMap.parseCMapData (CMap.renderMap p f w runs)), enc, ds⟩)
    -- any history, then `/n sz Tf <codes> Tj`
    (pre : List Pdf.CS.Operation) (st1 : St) (hpre : runPage nfc res (initial res (some pageRd)) pre = .ok st1)
    (sz : Obj) (hsz : Reader.isNum sz = true)
    (sel : List (Nat × List Nat)) (hsel : ∀ e ∈ sel, e ∈ CMap.entriesFor f runs) :
    ∃ st2, runPage nfc res (initial res (some pageRd))
        (pre ++ [opTfOf n sz, opTjOf ((sel.map (·.1)).flatMap (CMap.codeBytes w))]) = .ok st2 ∧
      st2.out = st1.out ++ [nfc (sel.flatMap (·.2))] := by
  have hbind : (initial res (some pageRd)).fonts (tfKey n) =
      some ⟨some (CMap.parseCMapData (CMap.renderMap p f w runs)), enc, ds⟩ := by
    rw [page_initial_binding res pageRd fontsD hfonts, registered_alias _ _ n o hn hno hb, hfont]
  apply show_after_history_page nfc res _ st1 pre hpre n sz hsz _ _ hbind
  rw [(C07.tounicode_precedence nfc _ enc enc ds ds _).2,
    C07CMap.cmap_roundtrip p f w hw1 hw4 runs hm hoff sel hsel]

/-- **page_differences_end_to_end**: the same public path for a simple font whose text comes
from its `/Encoding` dictionary: a page whose resources bind a name to a Type1 or TrueType
font dictionary without `/ToUnicode`, with `/Encoding << /BaseEncoding … /Differences [runs] >>`
(ANY list of runs), shows, after ANY content-stream history, ANY byte string that does not
start with a byte-order mark - the fragment text is, code by code, the character the
differences specify where they name the code and the base encoding's character elsewhere, NFC
last. (Before b3a0e07 the differences were dropped: `C07.differences_pinned_counterexample`.) -/
theorem page_differences_end_to_end (nfc : List Nat → List Nat) (res : FRes) (pageRd fontsD : Dict)
    (n : Str) (fd ed : Dict) (st std : Str)
    (hst : dget fd Reader.kSubtype = some (.name st))
    (hkind : (st = Reader.kType1 ∧ std = Reader.kStandardEncoding) ∨ (st = Reader.kTrueType ∧ std = Reader.kWinAnsiEncoding))
    (rs : List Differences.Run)
    (he : dget fd Reader.kEncoding = some (.dict ed))
    (hd : dget ed Reader.kDifferences = some (.arr (Differences.renderRuns rs)))
    (hw : Reader.widthsOk (toRes res) fd = true) (htu : dget fd Reader.kToUnicode = none)
    (e : Encoding.Enc) (hbase : Reader.baseEncoding ed std ≠ [])
    (hge : Encoding.getEncoding (Reader.baseEncoding ed std) = some e)
    -- the page's `/Font` dictionary binds `n` to that font dictionary
    (hfonts : Reader.fontsOf (toRes res) (some pageRd) = some fontsD)
    (hn : n.head? ≠ some 47) (hno : dget fontsD (47 :: n) = none) (hb : dget fontsD n = some (.dict fd))
    -- any history, then `/n sz Tf <data> Tj`
    (pre : List Pdf.CS.Operation) (st1 : St) (hpre : runPage nfc res (initial res (some pageRd)) pre = .ok st1)
    (sz : Obj) (hsz : Reader.isNum sz = true)
    (data : Str) (hbytes : UTF16.AllBytes data) (hnb : C07.NoBOM data) :
    ∃ st2, runPage nfc res (initial res (some pageRd)) (pre ++ [opTfOf n sz, opTjOf data]) = .ok st2 ∧
      st2.out = st1.out ++ [nfc (data.filterMap fun b =>
        match C07.specByte rs e.table b with
        | some r => if r ≠ 0 then some (UTF16.toRune r) else none
        | none => none)] := by
  obtain ⟨ds, hfont, hl⟩ := parseFont_simple_differences (toRes res) fd ed st std hst hkind rs he hd hw htu
  have hbind : (initial res (some pageRd)).fonts (tfKey n) = some ⟨none, Reader.baseEncoding ed std, ds⟩ := by
    rw [page_initial_binding res pageRd fontsD hfonts, registered_alias _ _ n (.dict fd) hn hno hb, hfont]
  apply show_after_history_page nfc res _ st1 pre hpre n sz hsz _ _ hbind
  exact C07.differences_override nfc _ hbase e hge rs ds hl data hbytes hnb

/-- the hypotheses are satisfiable: the page binds `F1` to the witness dictionary (written
directly in the `/Font` dictionary) -/
example :
    (Reader.fontsOf (toRes (fun _ => .error .err)) (some [(Reader.kFont, .dict [([70, 49], .dict exDiffFd)])])).isSome = true ∧
    Reader.baseEncoding [(Reader.kBaseEncoding, .name Reader.kWinAnsiEncoding)] Reader.kStandardEncoding = Reader.kWinAnsiEncoding ∧
    (Encoding.getEncoding Reader.kWinAnsiEncoding).isSome = true ∧ UTF16.AllBytes [65, 66] ∧ C07.NoBOM [65, 66] := by
  refine ⟨by decide, by decide, C07.getencoding_total _, ?_, ⟨fun r h => by simp at h, fun r h => by simp at h⟩⟩
  intro b hb
  simp only [List.mem_cons, List.mem_nil_iff, or_false] at hb
  omega

/-- a page whose `/Font` dictionary binds `F1` to object 3, a TrueType font with
`/Encoding /MacRomanEncoding` and `/ToUnicode 7 0 R`; object 7 is a stream holding a rendered program -/
def exProg : Str := CMap.renderMap { crlf := true, upper := false } .offset 1 [⟨0x41, [[0x66, 0x61], [0x66, 0x62]]⟩]
def exRes3 : FRes := fun k =>
  if k = 3 then .ok (.obj (.dict [(Reader.kSubtype, .name Reader.kTrueType), (Reader.kEncoding, .name [77, 97, 99]), (Reader.kToUnicode, .ref 7 0)]))
  else if k = 7 then .ok (.stream [] (some exProg)) else .error .err
def exPageRd3 : Dict := [(Reader.kFont, .dict [([70, 49], .ref 3 0)])]

/-- the hypotheses of `page_tounicode_end_to_end` are satisfiable -/
example :
    (Reader.fontsOf (toRes exRes3) (some exPageRd3)).isSome = true ∧
    dget [(([70, 49] : Str), Obj.ref 3 0)] [47, 70, 49] = none ∧
    (dget [(([70, 49] : Str), Obj.ref 3 0)] [70, 49]).isSome = true ∧
    ((parseFont (toRes exRes3) (.ref 3 0)).map fun f => (f.toUnicode.isSome, f.encoding)) = some (true, [77, 97, 99]) ∧
    Reader.isNum (.int 12) = true := by
  decide +kernel

/-! ## 7. every fragment text is valid UTF-8, over whole histories

The second sentence of the property ("all text the library returns is valid UTF-8") for the
extractor model: `C07.decoded_utf8` speaks about one `DecodeString` call; here it is carried
through every operation history including forms. Byte strings in, scalar lists out: the
content and every stream the resolver hands out are byte strings, the normaliser maps scalar
lists to scalar lists (x/text NFC does; it is a parameter). NFC-ness itself is x/text's. -/

theorem utf8_show (nfc : List Nat → List Nat) (hnfc : ∀ l, CMap.AllScalar l → CMap.AllScalar (nfc l))
    (st : St) (d : Str) (hd : Pdf.CS.Bytes d) (hinv : Utf8Inv st) : Utf8Inv (showOne nfc st d) := by
  obtain ⟨hfonts, hsel, hstack⟩ := showOne_frame nfc st d
  refine ⟨fun name f hf => hinv.1 name f (by rw [hfonts] at hf; exact hf), ?_,
    by rw [hsel]; exact hinv.2.2.1, by rw [hstack]; exact hinv.2.2.2⟩
  -- the texts so far with one more scalar text
  have hout : ∀ s, CMap.AllScalar s → ∀ t ∈ st.out ++ [s], CMap.AllScalar t := by
    intro s hs t ht
    rcases List.mem_append.mp ht with ht | ht
    · exact hinv.2.1 t ht
    · rw [List.mem_singleton.mp ht]; exact hs
  unfold showOne
  split
  · rename_i f hf
    split
    · rename_i s hs
      exact hout s (C07.decoded_utf8 nfc hnfc f (hinv.2.2.1 f hf) d hd s hs)
    · exact hinv.2.1
  · exact hout _ (C07.nofont_utf8 nfc hnfc d hd)

/-- the invariant holds across every operation history whose strings are byte strings -/
theorem utf8_all (nfc : List Nat → List Nat) (hnfc : ∀ l, CMap.AllScalar l → CMap.AllScalar (nfc l))
    (res : FRes) (hres : ResBytes res) (fuel : Nat) :
    (∀ st n, Utf8Inv st → Utf8Inv (invoke nfc res fuel st n)) ∧
    (∀ st op, OpBytes op → Utf8Inv st → Utf8Inv (step nfc res fuel st op).1) ∧
    (∀ st ops, OpsBytes ops → Utf8Inv st → Utf8Inv (runForm nfc res fuel st ops)) := by
  apply run_induction_shows nfc res Pdf.CS.Bytes (fun a b => Utf8Inv a → Utf8Inv b)
  · intro st h; exact h
  · intro a b c hab hbc h; exact hbc (hab h)
  · intro st h; exact push_utf8 st h
  · intro st st' hr h; exact restore_utf8 hr h
  · intro st n h; exact setFont_utf8 st n h
  · exact fun st d hd => utf8_show nfc hnfc st d hd
  · intro rd n sd data ops hfind hops
    exact Pdf.CS.csParse_showBytes data (findForm_bytes res hres rd n sd data hfind) ops hops
  · intro st data h; exact h
  · intro st rd sd data st2 h hinv
    exact leaveForm_utf8 res sd rd st.fonts _ hinv.1 (h (enterForm_utf8 res st rd sd data hinv))

/-- **every fragment text is a list of Unicode scalar values (valid UTF-8)**: for every
resolver that hands out byte strings, every page resources dictionary, every content byte
string and every normaliser that keeps scalar lists scalar, whatever fonts, CMaps, encodings,
forms and operators are involved -/
theorem extract_utf8 (nfc : List Nat → List Nat) (hnfc : ∀ l, CMap.AllScalar l → CMap.AllScalar (nfc l))
    (res : FRes) (hres : ResBytes res) (pageRes : Option Dict) (content : Str) (hc : Pdf.CS.Bytes content)
    (texts : List Str) (h : extract nfc res pageRes content = .ok texts) :
    ∀ t ∈ texts, CMap.AllScalar t := by
  unfold extract at h
  split at h
  · simp at h
  · rename_i ops hops
    have hob := Pdf.CS.csParse_showBytes content hc ops hops
    have hinit : Utf8Inv (initial res pageRes) := by
      refine ⟨?_, by intro s hs; simp [initial] at hs, by intro f hf; simp [initial] at hf,
        by intro p hp; simp [initial] at hp⟩
      intro name f hf
      unfold initial at hf
      simp only at hf
      split at hf
      · exact registerFonts_ok _ _ _ (fun n g hg => by simp [FontMap.empty] at hg) name f hf
      · simp [FontMap.empty] at hf
    split at h
    · rename_i st hst
      have hfin : Utf8Inv st :=
        runPage_ok nfc res _ st ops hst ▸ (utf8_all nfc hnfc res hres maxXObjectDepth).2.2 _ ops hob hinit
      split at h
      · simp at h
      · simp only [Except.ok.injEq] at h; subst h; exact hfin.2.1
    · simp at h

/-- the hypotheses are satisfiable: a resolver with one byte-string stream, a byte content,
the identity as normaliser -/
example : ResBytes exRes ∧ Pdf.CS.Bytes [66, 84, 32, 69, 84] ∧ (∀ l, CMap.AllScalar l → CMap.AllScalar (id l)) := by
  refine ⟨?_, by intro b hb; simp at hb; omega, fun l h => h⟩
  intro n d dec h
  unfold exRes at h
  split at h
  · simp only [Except.ok.injEq, FVal.stream.injEq, Option.some.injEq] at h
    intro b hb
    rw [← h.2] at hb
    simp at hb; omega
  · simp at h

end Tabula.C07Fonts
