import TabulaModel.Lemmas.ChunkMeta
import TabulaModel.Lemmas.ChunkLayoutTitle
import TabulaModel.Props.C12Layout
import TabulaModel.Props.C12
/-!
# C12: the whole metadata of a chunk, and every clause that does not need the splitter's contract

`Props/C12.lean` states indices, ids, total and the page range under `SplitOK sp` (the hypothesis of
the cover clause) and keeps of a chunk only the fields the statement names. Here

* indices, ids, total and the page numbers are proved for **every** splitter — hence for every size
  configuration and every document, `DocNoWide` or not (`indices_ids_total_any`, `page_numbers_any`,
  `element_metadata_any`);
* the element walk is modelled with every chunk labelled by the `create*Chunk` function that made it
  (`Model/ChunkMeta.lean`); forgetting the label gives the chunker of the other theorems
  (`meta_refines`), and `SectionTitle`, `HeadingLevel`, `Level`, `ElementTypes`, `HasTable/HasList/
  HasImage`, `CharCount`, `WordCount` are functions of chunk and label;
* **every heading, heading-like paragraph, list, table and described image is one chunk of its own,
  with exactly its text, on its page, in document order — for any splitter** (`solo_elements_exact`);
  what `FilterWithTables` / `FilterWithLists` / `FilterWithImages` select are the document's tables,
  lists and described images (`tables_lists_images_exact`);
* a heading chunk closes its own section path, its `SectionTitle` is its own trimmed text
  (`heading_chunk_title`); a text chunk is the `strings.TrimSpace` of what `CharCount` counts
  (`text_chunk_counts`);
* layout-based chunker, every document: a section's `Title` is the last entry of its `Path`, its
  `PageEnd` is the page of the element added last (`layout_section_shape`) — the page-range clause
  without `AscFrom` as far as the code satisfies it.
-/
namespace Tabula.C12Meta
open Tabula.Chunk Tabula.ChunkMeta

/-- **Indices, ids, total — any splitter.** `C12.indices_ids_total` without its hypothesis: indices
are `0..n-1`, ids pairwise distinct, every chunk reports `n`, whatever `IsAboveMax`/`SplitToSize`
return. -/
theorem indices_ids_total_any (sp : Splitter) (d : Doc) :
    (chunkDocument sp d).map (·.idx) = List.range (chunkDocument sp d).length ∧
    ((chunkDocument sp d).map (·.id)).Nodup ∧
    ∀ c ∈ chunkDocument sp d, c.total = (chunkDocument sp d).length :=
  ⟨(chunkDocument_numbering sp d).1, (chunkDocument_numbering sp d).2.2⟩

/-- **Page numbers — any splitter.** One group of chunks per page, in page order; every chunk of
the group of page `p` reports `PageStart = PageEnd = p.number`. -/
theorem page_numbers_any (sp : Splitter) (d : Doc) :
    chunkDocument sp d = setTotal (pageGroups stackTracker sp d).flatten ∧
    PagesM d (pageGroups stackTracker sp d) :=
  ⟨rfl, (chunkPages_m stackTracker sp (tableOfContents d) (initSt stackTracker) d).1⟩

/-- `PagesM` spelled out for a two-page document -/
example (p q : Page) (g h : List Chunk) (hh : PagesM [p, q] [g, h]) :
    ∀ c ∈ h, c.pageStart = q.number ∧ c.pageEnd = q.number := hh.2.1

/-- **The metadata clauses for every size configuration and EVERY document** (no `DocNoWide`):
indices, ids, total, page numbers and section path of `rag.ChunkDocumentWithConfig`. -/
theorem element_metadata_any (c : Tabula.Split.SizeConfig) (d : Doc) :
    ((Tabula.ChunkSplit.chunkDocumentC c d).map (·.idx) = List.range (Tabula.ChunkSplit.chunkDocumentC c d).length ∧
      ((Tabula.ChunkSplit.chunkDocumentC c d).map (·.id)).Nodup ∧
      ∀ ch ∈ Tabula.ChunkSplit.chunkDocumentC c d, ch.total = (Tabula.ChunkSplit.chunkDocumentC c d).length) ∧
    PagesM d (pageGroups stackTracker (Tabula.ChunkSplit.splitterOf c) d) ∧
    Tabula.ChunkSplit.chunkDocumentC c d = chunkDocumentWith histTracker (Tabula.ChunkSplit.splitterOf c) d :=
  ⟨indices_ids_total_any _ d, (page_numbers_any _ d).2, Tabula.C12.section_path_enclosing _ d⟩

/-- a paragraph with a no-break space (outside `DocNoWide`) split at 10 characters: the metadata
clauses hold all the same -/
example :
    let c : Tabula.Split.SizeConfig := { maxValue := 10, maxUnit := .characters, tpcNum := 1, tpcDen := 4, sem := true }
    let d : Doc := [⟨3, none, [.para ([97, 97, 97, 97, 0xC2, 0xA0, 98, 98, 98, 98, 32, 99, 99, 99, 99])]⟩]
    (Tabula.ChunkSplit.chunkDocumentC c d).map (fun ch => (ch.idx, ch.total, ch.pageStart, ch.pageEnd)) =
      [(0, 2, 3, 3), (1, 2, 3, 3)] := by decide +kernel

/-- **Forgetting the label gives `ChunkDocument`**: the chunks of `chunkDocumentX`, without their
origin, are the chunks every other theorem of C12 speaks about. -/
theorem meta_refines (sp : Splitter) (d : Doc) : (chunkDocumentX sp d).map (·.c) = chunkDocument sp d :=
  chunkDocumentX_c sp d

/-- **Every heading, list, table and described image is one chunk of its own.** For any splitter
and any document: the chunks that no text block made — in index order, with origin (heading with
its level / list / table / image), text and page — are exactly what the elements of the document,
as `chunkPage` walks them, yield on their own (`solo`): each exactly once, with exactly its text
(heading text, formatted list, Markdown table, `[Image: alt]`), on the page it stands on, in
document order. -/
theorem solo_elements_exact (sp : Splitter) (d : Doc) : solos (chunkDocumentX sp d) = soloSpec d := by
  unfold chunkDocumentX pageGroupsX soloSpec
  rw [solos_setTotalX, solos_chunkPagesX]

/-- H1 a, paragraph x, table [[b]], image (no alt), image c on page 7 -/
example :
    solos (chunkDocumentX (fun _ => none)
      [⟨7, none, [.heading 1 [97], .para [120], .table [[[98]]], .image [], .image [99]]⟩]) =
      [(.heading 1, [97], 7), (.table, toMarkdown [[[98]]], 7), (.image, imageText [99], 7)] := by decide +kernel

/-- what `FilterWithTables` / `FilterWithLists` / `FilterWithImages` select from the collection
`ChunkDocument` returns: the document's tables as Markdown, its lists as formatted, its described
images — each once, in document order, with the page it stands on. -/
theorem tables_lists_images_exact (sp : Splitter) (d : Doc) :
    ((chunkDocumentX sp d).filter (·.hasTable)).map (fun x => (x.c.text, x.c.pageStart)) =
      d.flatMap (fun pg => pg.elems.filterMap fun e => match e with
        | .table rows => some (toMarkdown rows, pg.number) | _ => none) ∧
    ((chunkDocumentX sp d).filter (·.hasList)).map (fun x => (x.c.text, x.c.pageStart)) =
      d.flatMap (fun pg => pg.elems.filterMap fun e => match e with
        | .list o items => some (listText o items, pg.number) | _ => none) ∧
    ((chunkDocumentX sp d).filter (·.hasImage)).map (fun x => (x.c.text, x.c.pageStart)) =
      d.flatMap (fun pg => pg.elems.filterMap fun e => match e with
        | .image alt => if alt = [] then none else some (imageText alt, pg.number) | _ => none) := by
  have hx : solos (chunkDocumentX sp d) = d.flatMap fun pg => (resolveRepeatedHeadings pg).filterMap fun e =>
      (solo (tableOfContents d) pg.number e).map fun r => (r.1, r.2, pg.number) := solo_elements_exact sp d
  -- in each case: what `solo` yields for an element, restricted to the origin, is the match of the statement
  refine ⟨origin_exact _ d _ .table rfl hx
      (fun n e => match e with | .table rows => some (toMarkdown rows, n) | _ => none) (fun _ _ => rfl) (fun _ _ _ => rfl) ?_,
    origin_exact _ d _ .list rfl hx
      (fun n e => match e with | .list o items => some (listText o items, n) | _ => none) (fun _ _ => rfl) (fun _ _ _ => rfl) ?_,
    origin_exact _ d _ .image rfl hx
      (fun n e => match e with
        | .image alt => if alt = [] then none else some (imageText alt, n) | _ => none)
      (fun _ _ => rfl) (fun _ _ _ => rfl) ?_⟩ <;>
  · intro page e
    cases e with
    | para t => simp only [solo]; split <;> rfl
    | image alt => simp only [solo]; split <;> rfl
    | _ => rfl

/-- **A heading chunk closes its own section path**: for every chunk made from a heading or a
heading-like paragraph, the last entry of `SectionPath` — hence `SectionTitle` — is the heading's
own trimmed text, `HeadingLevel` is its level and `Level` is `ChunkLevelSection`. -/
theorem heading_chunk_title (sp : Splitter) (d : Doc) (x : XChunk) (hx : x ∈ chunkDocumentX sp d) (l : Int)
    (ho : x.o = .heading l) :
    x.c.path.getLast? = some (trim x.c.text) ∧ x.title = trim x.c.text ∧ x.headingLevel = l ∧ x.level = 1 := by
  have h := (chunkDocumentX_shape sp d x hx).heading stackTracker_last l ho
  refine ⟨h, ?_, ?_, ?_⟩
  · simp only [XChunk.title, titleOf, h, Option.getD_some]
  · simp only [XChunk.headingLevel, ho]
  · simp only [XChunk.level, ho]

/-- **A text chunk is the trimmed form of what its `CharCount` counts**: `Text` is
`strings.TrimSpace(block.text)` while `CharCount` is the length of `block.text` itself, so
`CharCount >= len(Text)`; its element type is "paragraph" and none of the three flags is set. -/
theorem text_chunk_counts (sp : Splitter) (d : Doc) (x : XChunk) (hx : x ∈ chunkDocumentX sp d) (raw : Str)
    (ho : x.o = .text raw) :
    x.c.text = trim raw ∧ x.charCount = raw.length ∧ x.c.text.length ≤ x.charCount ∧
    x.elementType = ofString "paragraph" ∧ x.hasTable = false ∧ x.hasList = false ∧ x.hasImage = false := by
  have h := (chunkDocumentX_shape sp d x hx).text raw ho
  have hc : x.charCount = raw.length := by simp only [XChunk.charCount, XChunk.counted, ho]
  refine ⟨h, hc, ?_, by simp only [XChunk.elementType, ho], by simp [XChunk.hasTable, ho],
    by simp [XChunk.hasList, ho], by simp [XChunk.hasImage, ho]⟩
  rw [hc, h]
  unfold trim
  rw [List.length_reverse]
  have h1 := (List.dropWhile_sublist isSpace (l := (raw.dropWhile isSpace).reverse)).length_le
  have h2 := (List.dropWhile_sublist isSpace (l := raw)).length_le
  rw [List.length_reverse] at h1
  omega

/-- the paragraph " a " gives the text "a" and `CharCount` 3 -/
example :
    (chunkDocumentX (fun _ => none) [⟨1, none, [.para [32, 97, 32]]⟩]).map (fun x => (x.c.text, x.charCount, x.wordCount)) =
      [([97], 3, 1)] := by decide +kernel

open Tabula.ChunkLayout in
/-- **Every section `buildSections` makes — any document, any page numbers**: `Title` is the last
entry of `Path` (neither for the section without a heading); `PageEnd` is the page of the element
added last, i.e. a page the section's content came from (`PageStart` when the section has no
content); the section without a heading starts on the first page number other than 0 among its
elements. With `GroupsOK` (every chunk of a section's group carries the section's `Path`,
`PageStart`, `PageEnd`) this is the page-range clause as far as the code satisfies it without an
order on the page numbers (`C12Layout.layout_page_range_counterexample` shows what is missing). -/
theorem layout_section_shape (cfg : Cfg) (d : LDoc) :
    ∀ x ∈ flatForest (buildSections cfg d),
      x.1.title = titleOf x.1.path ∧ x.1.pageEnd = lastPage x.2 x.1.pageStart ∧
      (x.1.path = [] → x.1.pageStart = firstSetPage x.2) :=
  buildSections_shape cfg d

open Tabula.ChunkLayout in
/-- H1 A on page 3 with a paragraph on page 3 and one on page 1: the section reports 3-1, the
page of its heading and the page of its last element -/
example :
    let cfg : Cfg := ⟨2000, 100, 3, true, [99]⟩
    let d : LDoc := [⟨3, some ⟨[⟨1, [65], []⟩], [⟨[120], false, []⟩], []⟩⟩, ⟨1, some ⟨[], [⟨[121], false, []⟩], []⟩⟩]
    (flatForest (buildSections cfg d)).map (fun x => (x.1.title, x.1.pageStart, x.1.pageEnd, lastPage x.2 x.1.pageStart)) =
      [([65], 3, 1, 1)] := by decide +kernel

end Tabula.C12Meta
