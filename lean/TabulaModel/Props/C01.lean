import TabulaModel.Lemmas.PdfDoc
/-!
# C01 — PDF text survives every physical file layout (page-tree and content-join layer)

The lower layers are decided by their own properties: object lookup across revisions,
object streams and xref kinds (C04 `getObject_refines`, `merge_newest`), filter chains
(C05), object/content syntax (C06), code → Unicode (C07). Proved here: the layer that is
new in C01 — flattening the page tree with inheritable attributes resolved to the nearest
definer, and splitting content over several streams.

Two resource bounds of the code (repairs made for C02) limit both statements, and they are
part of what is proved here:
* `traversePageNode` refuses a page tree of more than `maxPageTreeDepth = 10000` levels
  (86b42aa): `traverse` is the walk with its depth counter, `flatten` its specification.
  `flatten_leaves_nearest` / `page_count_is_leaves` hold for trees of at most 10000 levels;
  `traverse_beyond_limit` says the deeper ones are refused; `traverse_depth_bounded` that the
  recursion never goes deeper than the limit, on any tree.
* `extractTextWithFragments` refuses a page whose decoded content exceeds
  `maxPageContentBytes = 64 MiB` (36a165b): `joinBounded` is the loop with its check,
  `joinContents` its specification. `contents_split_bounded`, `joinBounded_within`,
  `joinBounded_beyond`, `joinBounded_bytes_kept`.
-/
namespace Tabula.C01
open Tabula.PdfDoc

theorem resolvePath_append {R : Type} (inh : AttrsOf R) (p q : List (AttrsOf R)) :
    resolvePath inh (p ++ q) = resolvePath (resolvePath inh p) q := by
  induction p generalizing inh with
  | nil => rfl
  | cons a p ih => simp [resolvePath, ih]

mutual
theorem flatten_spec {R : Type} (t : PTreeOf R) (inh : AttrsOf R) :
    flatten t inh = (leafPaths t).map (resolvePath inh) := by
  cases t with
  | leaf a => simp [flatten, leafPaths, resolvePath]
  | node a kids =>
    simp only [flatten, leafPaths, List.map_map]
    rw [flattenList_spec kids (a.over inh)]
    apply List.map_congr_left
    intro p _
    simp [resolvePath]
theorem flattenList_spec {R : Type} (ts : List (PTreeOf R)) (inh : AttrsOf R) :
    flattenList ts inh = (leafPathsList ts).map (resolvePath inh) := by
  cases ts with
  | nil => simp [flattenList, leafPathsList]
  | cons t ts =>
    simp only [flattenList, leafPathsList, List.map_append]
    rw [flatten_spec t inh, flattenList_spec ts inh]
end

theorem traverseList_within {R : Type} (ts : List (PTreeOf R)) (dep : Nat) (inh : AttrsOf R)
    (h : dep + heightList ts ≤ maxPageTreeDepth) : traverseList dep ts inh = some (flattenList ts inh) := by
  rw [traverseList_dep, if_pos (by omega)]

theorem traverseList_beyond {R : Type} (ts : List (PTreeOf R)) (dep : Nat) (inh : AttrsOf R)
    (h : dep + heightList ts > maxPageTreeDepth) (hp : 0 < heightList ts) : traverseList dep ts inh = none := by
  rw [traverseList_dep, if_neg (by omega)]

mutual
theorem traverseT_fst {R : Type} (t : PTreeOf R) (dep : Nat) (inh : AttrsOf R) :
    (traverseT dep t inh).1 = traverse dep t inh := by
  cases t with
  | leaf a => simp [traverseT, traverse]
  | node a kids =>
    simp only [traverseT, traverse]
    split
    · rfl
    · exact traverseListT_fst kids (dep + 1) (a.over inh)
theorem traverseListT_fst {R : Type} (ts : List (PTreeOf R)) (dep : Nat) (inh : AttrsOf R) :
    (traverseListT dep ts inh).1 = traverseList dep ts inh := by
  cases ts with
  | nil => rfl
  | cons t ts =>
    have h1 := traverseT_fst t dep inh
    have h2 := traverseListT_fst ts dep inh
    simp only [traverseListT, traverseList]
    rw [← h1, ← h2]
    rcases traverseT dep t inh with ⟨_ | xs, m⟩
    · rfl
    · rcases traverseListT dep ts inh with ⟨_ | ys, m'⟩ <;> rfl
end

mutual
theorem traverseT_depth {R : Type} (t : PTreeOf R) (dep : Nat) (inh : AttrsOf R) :
    (traverseT dep t inh).2 ≤ max dep maxPageTreeDepth ∧ (traverseT dep t inh).2 < dep + height t := by
  cases t with
  | leaf a => simp [traverseT, height]; omega
  | node a kids =>
    simp only [traverseT, height]
    split
    · simp; omega
    · have := traverseListT_depth kids (dep + 1) (a.over inh)
      simp only
      omega
theorem traverseListT_depth {R : Type} (ts : List (PTreeOf R)) (dep : Nat) (inh : AttrsOf R) :
    (traverseListT dep ts inh).2 ≤ max dep maxPageTreeDepth ∧
      (traverseListT dep ts inh).2 ≤ dep + heightList ts - 1 := by
  cases ts with
  | nil => simp [traverseListT]
  | cons t ts =>
    have h1 := traverseT_depth t dep inh
    have h2 := traverseListT_depth ts dep inh
    simp only [traverseListT, heightList]
    generalize traverseT dep t inh = r at h1 ⊢
    generalize traverseListT dep ts inh = r' at h2 ⊢
    rcases r with ⟨_ | xs, m⟩
    · simp only at h1 ⊢; omega
    · rcases r' with ⟨_ | ys, m'⟩ <;> simp only at h1 h2 ⊢ <;> omega
end

/-- the walk is its specification `flatten` on a tree of at most 10000 levels and an error on a
deeper one — whatever the deep part consists of and wherever in the tree it is -/
theorem traverse_eq {R : Type} (t : PTreeOf R) (inh : AttrsOf R) :
    traverse 0 t inh = if height t ≤ maxPageTreeDepth then some (flatten t inh) else none := by
  simpa using traverse_dep t 0 inh

/-- **flatten_leaves / inherit_nearest**: for a page tree of any fan-out and of at most
`maxPageTreeDepth` = 10000 levels, the page list is the left-to-right list of leaves, and each
leaf's effective attributes are, key by key, those of the nearest ancestor-or-self that
defines the key.

`traversePageNode` counts its depth and returns an error at `t.depth >= 10000` (86b42aa), so the
statement about the code's walk (`traverse`) carries `height t ≤ 10000`; beyond that see
`traverse_beyond_limit`. The unbounded statement holds of the specification function (`flatten_spec`). -/
theorem flatten_leaves_nearest {R : Type} (t : PTreeOf R) (h : height t ≤ maxPageTreeDepth) :
    traverse 0 t {} = some ((leafPaths t).map (resolvePath {})) := by
  rw [traverse_eq, if_pos h, flatten_spec t {}]

/-- **beyond the limit the code answers with an error**: a tree with more than 10000 levels —
be it one long branch among many short ones — is not traversed at all (`loadPages` drops the
pages collected before the deep branch was met) -/
theorem traverse_beyond_limit {R : Type} (t : PTreeOf R) (inh : AttrsOf R) (h : height t > maxPageTreeDepth) :
    traverse 0 t inh = none := by rw [traverse_eq, if_neg (by omega)]

/-- **bounded work**: on EVERY tree the recursion of the walk is entered with a depth of at
most 10000 (`traverseT` reports the largest `t.depth` a call was entered with), and with no
more than the tree has levels: at most `min (height t) 10001` nested calls. -/
theorem traverse_depth_bounded {R : Type} (t : PTreeOf R) (inh : AttrsOf R) :
    (traverseT 0 t inh).1 = traverse 0 t inh ∧
    (traverseT 0 t inh).2 ≤ maxPageTreeDepth ∧ (traverseT 0 t inh).2 < height t := by
  have := traverseT_depth t 0 inh
  exact ⟨traverseT_fst t 0 inh, by omega, by omega⟩

/-- a page tree that is a list: `n` `/Pages` nodes with one kid each above one leaf
(`n + 1` levels) -/
def chain {R : Type} : Nat → PTreeOf R
  | 0 => .leaf {}
  | n + 1 => .node {} [chain n]

theorem height_chain {R : Type} (n : Nat) : height (chain n : PTreeOf R) = n + 1 := by
  induction n with
  | zero => rfl
  | succ n ih => simp [chain, height, heightList, ih]

/-- the edge: 10000 levels are traversed … -/
example : traverse 0 (chain 9999 : PTree) {} = some (flatten (chain 9999) {}) :=
  by rw [traverse_eq, if_pos (by rw [height_chain]; decide)]
/-- … 10001 levels are not -/
example : traverse 0 (chain 10000 : PTree) {} = none :=
  traverse_beyond_limit _ {} (by rw [height_chain]; decide)
/-- the hypothesis of `flatten_leaves_nearest` at a small tree, decided by evaluation -/
example : height (.node {} [.leaf {}, .node {} [.leaf {}]] : PTree) ≤ maxPageTreeDepth := by decide +kernel

mutual
theorem leafPaths_length {R : Type} (t : PTreeOf R) : (leafPaths t).length = countLeaves t := by
  cases t with
  | leaf a => simp [leafPaths, countLeaves]
  | node a kids => simp [leafPaths, countLeaves, leafPathsList_length kids]
theorem leafPathsList_length {R : Type} (ts : List (PTreeOf R)) :
    (leafPathsList ts).length = countLeavesList ts := by
  cases ts with
  | nil => simp [leafPathsList, countLeavesList]
  | cons t ts => simp [leafPathsList, countLeavesList, leafPaths_length t, leafPathsList_length ts]
end

/-- the specification function lists one entry per leaf (any tree) -/
theorem flatten_length {R : Type} (t : PTreeOf R) (inh : AttrsOf R) :
    (flatten t inh).length = countLeaves t := by
  rw [flatten_spec, List.length_map, leafPaths_length]

/-- **page count = number of page leaves**, whenever the walk delivers pages at all.

The walk of the code delivers no page list for a tree of more than 10000 levels
(`traverse_beyond_limit`); whenever it succeeds, the tree has at most 10000 levels and the count is that
of the leaves (for every tree, of the specification function: `flatten_length`). -/
theorem page_count_is_leaves {R : Type} (t : PTreeOf R) (inh : AttrsOf R) (ps : List (AttrsOf R))
    (h : traverse 0 t inh = some ps) : ps.length = countLeaves t ∧ height t ≤ maxPageTreeDepth := by
  rw [traverse_eq] at h
  split at h
  · next hh =>
    cases h
    exact ⟨flatten_length t inh, hh⟩
  · cases h

/-- satisfiability: a two-level tree with two leaves -/
example : traverse 0 (.node {} [.leaf {}, .leaf {}] : PTree) {} = some [{}, {}] := by decide +kernel

/-- for `/MediaBox`, the nearest definer decides: the deepest dictionary on the path that has the key
supplies it, whatever lies above (the same holds of the other keys by the definition of
`AttrsOf.over`; it is stated for this one) -/
theorem nearest_mediabox {R : Type} (inh : AttrsOf R) (above : List (AttrsOf R)) (d : AttrsOf R)
    (below : List (AttrsOf R))
    (box : Int × Int × Int × Int) (hd : d.mb = some box) (hb : ∀ a ∈ below, a.mb = none) :
    (resolvePath inh (above ++ d :: below)).mb = some box := by
  rw [resolvePath_append]
  simp only [resolvePath]
  generalize resolvePath inh above = acc
  have h0 : (d.over acc).mb = some box := by simp [AttrsOf.over, hd]
  generalize d.over acc = cur at h0
  induction below generalizing cur with
  | nil => simpa [resolvePath] using h0
  | cons a rest ih =>
    simp only [resolvePath]
    apply ih (fun x hx => hb x (by simp [hx]))
    simp [AttrsOf.over, hb a (by simp), h0]

/-- moving an inheritable key between levels that keep the nearest definer fixed does not
change a leaf: only the resolved value matters (instance: grandparent vs parent) -/
example : flatten (.node { mb := some (0, 0, 612, 792) } [.node {} [.leaf {}]] : PTree) {} =
    flatten (.node {} [.node { mb := some (0, 0, 612, 792) } [.leaf {}]] : PTree) {} := by decide +kernel

/-- **contents_split**: with the separator the reader inserts, the white-space-delimited words of
the joined content are exactly the words of the parts in order, for any parts cut anywhere. This is the
lexical statement only; that the parsed operations stay the same when the cuts are at operation
boundaries is `C01R.contents_join_guarantee`. -/
theorem contents_split (parts : List (List Nat)) :
    words (joinContents parts) = parts.flatMap words := by
  induction parts with
  | nil => rfl
  | cons p ps ih =>
    rw [joinContents, List.flatMap_cons, List.flatMap_cons, ← joinContents]
    by_cases hp : p.isEmpty = true
    · rw [if_pos hp, List.isEmpty_iff.mp hp, List.nil_append, ih]; rfl
    · rw [if_neg hp, List.append_assoc, List.singleton_append, words_append_ws, ih]

theorem joinPiece_length (p : List Nat) :
    (joinPiece p).length = if p.length = 0 then 0 else p.length + 1 := by
  cases p <;> simp [joinPiece]

theorem joinContents_cons (p : List Nat) (ps : List (List Nat)) :
    joinContents (p :: ps) = joinPiece p ++ joinContents ps := by
  simp [joinContents, joinPiece]

/-- the loop is the unbounded join guarded by the length-only loop -/
theorem joinLoop_eq (ps : List (List Nat)) (n : Nat) :
    joinLoop n ps = if fitsLoop n (ps.map List.length) then some (joinContents ps) else none := by
  induction ps generalizing n with
  | nil => simp [joinLoop, fitsLoop, joinContents]
  | cons p ps ih =>
    simp only [joinLoop, List.map_cons, fitsLoop]
    by_cases h : n + p.length > maxPageContentBytes
    · simp [h]
    · simp only [h, if_false]
      rw [ih, joinPiece_length, joinContents_cons]
      cases fitsLoop (n + if p.length = 0 then 0 else p.length + 1) (List.map List.length ps) <;> rfl

theorem fitsLoop_of_le (ps : List (List Nat)) (n : Nat)
    (h : n + (joinContents ps).length ≤ maxPageContentBytes) : fitsLoop n (ps.map List.length) = true := by
  induction ps generalizing n with
  | nil => rfl
  | cons p ps ih =>
    rw [joinContents_cons, List.length_append, joinPiece_length] at h
    simp only [List.map_cons, fitsLoop]
    have h1 : ¬ n + p.length > maxPageContentBytes := by split at h <;> omega
    simp only [h1, if_false]
    apply ih
    split at h <;> simp_all <;> omega

/-- when the loop lets the parts pass, `allData` ends with at most one byte over the limit -/
theorem fitsLoop_bound (ps : List (List Nat)) (n : Nat) (h : fitsLoop n (ps.map List.length) = true) :
    n + (joinContents ps).length ≤ max n (maxPageContentBytes + 1) := by
  induction ps generalizing n with
  | nil => simp [joinContents]; omega
  | cons p ps ih =>
    simp only [List.map_cons, fitsLoop] at h
    by_cases h1 : n + p.length > maxPageContentBytes
    · simp [h1] at h
    · simp only [h1, if_false] at h
      have := ih _ h
      rw [joinContents_cons, List.length_append, joinPiece_length]
      split at this <;> split <;> omega

/-- the code's join answers exactly when the length-only loop lets the parts pass, and then with the
specification join -/
theorem joinBounded_eq_some {parts : List (List Nat)} {r : List Nat} :
    joinBounded parts = some r ↔ fitsLoop 0 (parts.map List.length) = true ∧ r = joinContents parts := by
  rw [joinBounded, joinLoop_eq]
  cases fitsLoop 0 (parts.map List.length) <;> simp [eq_comm]

/-- **contents_split for the code's join**: whenever the join of `extractTextWithFragments`
delivers a content at all, it is the specification join, so its words are the words of the
parts in order.

`contents_split` is about `joinContents`, the specification of the join; the code's join
`joinBounded` (36a165b) refuses a page whose parts (with the separators) exceed 64 MiB. -/
theorem contents_split_bounded (parts : List (List Nat)) (r : List Nat) (h : joinBounded parts = some r) :
    r = joinContents parts ∧ words r = parts.flatMap words := by
  obtain ⟨-, rfl⟩ := joinBounded_eq_some.mp h
  exact ⟨rfl, contents_split parts⟩

/-- **within the limit nothing changes**: parts whose join (separators included) has at most
`maxPageContentBytes` bytes are joined as before -/
theorem joinBounded_within (parts : List (List Nat)) (h : (joinContents parts).length ≤ maxPageContentBytes) :
    joinBounded parts = some (joinContents parts) := by
  exact joinBounded_eq_some.mpr ⟨fitsLoop_of_le parts 0 (by omega), rfl⟩

/-- **beyond the limit the code answers with an error**: parts whose join would have more than
`maxPageContentBytes + 1` bytes are refused. (A join of exactly `maxPageContentBytes + 1`
bytes — the limit reached exactly by the last non-empty part, plus its separator — passes
unless another, empty, part follows; `fitsLoop` decides every case, see `joinLoop_eq`.) -/
theorem joinBounded_beyond (parts : List (List Nat)) (h : (joinContents parts).length > maxPageContentBytes + 1) :
    joinBounded parts = none := by
  cases hj : joinBounded parts with
  | none => rfl
  | some r =>
    obtain ⟨hf, -⟩ := joinBounded_eq_some.mp hj
    have := fitsLoop_bound parts 0 hf
    omega

/-- **bounded work**: for EVERY list of parts, what the join keeps (`allData`) is at most
`maxPageContentBytes + 1` bytes — the parts' sizes may be anything -/
theorem joinBounded_bytes_kept (parts : List (List Nat)) (r : List Nat) (h : joinBounded parts = some r) :
    r.length ≤ maxPageContentBytes + 1 := by
  obtain ⟨hf, rfl⟩ := joinBounded_eq_some.mp h
  have := fitsLoop_bound parts 0 hf
  omega

/-- joining the concatenation of the parts as ONE stream never takes more bytes than joining
the parts (each non-empty part brings a separator of its own) -/
theorem joinContents_flat_le (ps : List (List Nat)) :
    (joinContents [ps.flatMap id]).length ≤ (joinContents ps).length := by
  rw [joinContents_one]
  induction ps with
  | nil => simp [joinPiece, joinContents]
  | cons p ps ih =>
    rw [joinContents_cons, List.length_append, List.flatMap_cons]
    rw [joinPiece_length] at ih ⊢
    rw [joinPiece_length]
    simp only [id, List.length_append]
    split at ih <;> split <;> split <;> omega
/-- one stream: exactly the streams of at most 64 MiB pass -/
theorem joinBounded_single (p : List Nat) :
    joinBounded [p] = if p.length ≤ maxPageContentBytes then some (joinPiece p) else none := by
  rw [joinBounded_one, joinContents_one]

/-- the edge: a content stream of exactly 64 MiB is read … -/
example : joinBounded [List.replicate maxPageContentBytes 32] =
    some (joinPiece (List.replicate maxPageContentBytes 32)) := by
  rw [joinBounded_single, List.length_replicate, if_pos (Nat.le_refl _)]
/-- … one byte more is refused -/
example : joinBounded [List.replicate (maxPageContentBytes + 1) 32] = none := by
  rw [joinBounded_single, List.length_replicate, if_neg (by omega)]
/-- the same bytes split over two streams carry one more separator: the two-stream split of a
stream that just fits is refused (`allData` would have 64 MiB + 2 bytes) -/
example : joinBounded [List.replicate (maxPageContentBytes - 1) 32, [32]] = none := by
  unfold joinBounded
  rw [joinLoop_eq]
  simp only [List.map_cons, List.map_nil, List.length_replicate, List.length_cons, List.length_nil]
  have : fitsLoop 0 [maxPageContentBytes - 1, 0 + 1] = false := by decide +kernel
  rw [this]
  rfl
/-- an empty stream after a stream of exactly 64 MiB is refused too (the check precedes the
`len(data) > 0` test, and `allData` already holds 64 MiB + 1 bytes) -/
example : joinBounded [List.replicate maxPageContentBytes 32, []] = none := by
  unfold joinBounded
  rw [joinLoop_eq]
  simp only [List.map_cons, List.map_nil, List.length_replicate, List.length_nil]
  have : fitsLoop 0 [maxPageContentBytes, 0] = false := by decide +kernel
  rw [this]
  rfl
/-- the length-only loop on small numbers, decided by evaluation -/
example : fitsLoop 0 [3, 0, 5] = true ∧ fitsLoop 67108860 [3, 1] = false ∧ fitsLoop 0 [67108864, 0] = false := by
  decide +kernel

/-- without a separator the property fails: `… Tj` + `ET` reads as the single word `TjET`
(the pinned tree's behaviour before the repair 9d65264) -/
theorem concat_without_separator_counterexample :
    words ([84, 106] ++ [69, 84]) ≠ words [84, 106] ++ words [69, 84] := by decide

end Tabula.C01
