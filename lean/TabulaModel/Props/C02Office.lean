import TabulaModel.Lemmas.BoundsOffice
/-!
# C02 — bounded work in the office-format, HTML, EPUB and font readers

Theorems about `Model/BoundsOffice.lean`, each for EVERY input. Ops: `c02.span`, `c02.ilvl`,
`c02.spaces`, `c02.inline`, `c02.chain`, `c02.col`, `c02.merges`, `c02.sheets`, `c02.tgrid`,
`c02.tree`, `c02.cmap4`, `c02.bfarr` (harness/c02/bounds_office.go).
-/
namespace Tabula.C02Office
open Tabula.BoundsOffice


/-- **span_bounded**: whatever `w:gridSpan`, `number-columns-spanned`, `number-rows-spanned` or
`number-columns-repeated` say (2147483647, -1, not a number), the value used is in 1..1024. -/
theorem span_bounded (v : Option Int) : 1 ≤ acceptSpan v ∧ acceptSpan v ≤ maxCellSpan := by
  unfold acceptSpan maxCellSpan
  split
  · split <;> omega
  · omega

/-- **list_level_bounded**: `w:ilvl` of any length and content gives a level in 0..8 (it is used to
indent the item). -/
theorem list_level_bounded (s : List Nat) : parseListLevel s ≤ maxListLevel := by
  unfold parseListLevel
  split
  · exact Nat.zero_le _
  · exact parseListLevelGo_le s 0 (Nat.zero_le _)

theorem level_clamped (l : Int) : clampLevel l ≤ maxListLevel := by
  unfold clampLevel maxListLevel
  split
  · omega
  · split <;> omega

/-- **space_run_bounded**: one `<text:s text:c="N"/>` writes between 1 and 1024 spaces. -/
theorem space_run_bounded (c : Option Int) : 1 ≤ spaceRun c ∧ spaceRun c ≤ maxSpaceRun := by
  unfold spaceRun maxSpaceRun
  cases c with
  | none => simp
  | some v =>
    simp only
    split <;> split <;> omega

example : acceptSpan (some 2147483647) = 1 := by decide +kernel
example : acceptSpan (some 1024) = 1024 := by decide +kernel
example : acceptSpan (some 1025) = 1 := by decide +kernel
example : parseListLevel ("2147483647".toList.map Char.toNat) = 8 := by decide +kernel
example : parseListLevel [55] = 7 := by decide +kernel
example : spaceRun (some 2147483647) = 1024 := by decide +kernel
example : spaceRun (some 1024) = 1024 := by decide +kernel
example : spaceRun (some (-3)) = 1 := by decide +kernel


mutual
theorem decodeOne_iff (lim d : Nat) (hd : d ≤ lim) : ∀ x : Inl,
    (decodeOne lim d x).isSome = true ↔ d + x.depth ≤ lim
  | .leaf => by simp [decodeOne, Inl.depth]; exact hd
  | .skip => by simp [decodeOne, Inl.depth]; exact hd
  | .box kids => by
    simp only [decodeOne, Inl.depth]
    by_cases h : d + 1 > lim
    · simp only [h, if_true, Option.isSome_none, Bool.false_eq_true, false_iff]; omega
    · simp only [h, if_false]
      rw [decodeList_iff lim (d + 1) (by omega) kids]
      omega
theorem decodeList_iff (lim d : Nat) (hd : d ≤ lim) : ∀ xs : List Inl,
    (decodeList lim d xs).isSome = true ↔ d + Inl.depthList xs ≤ lim
  | [] => by simp [decodeList, Inl.depthList]; exact hd
  | x :: rest => by
    -- the list is decoded when its head and its tail are
    have hb : (decodeList lim d (x :: rest)).isSome =
        ((decodeOne lim d x).isSome && (decodeList lim d rest).isSome) := by
      rw [decodeList]; cases decodeOne lim d x <;> cases decodeList lim d rest <;> rfl
    rw [hb, Bool.and_eq_true, decodeOne_iff lim d hd x, decodeList_iff lim d hd rest, Inl.depthList]
    omega
end

/-- **inline_nesting_bounded**: a paragraph is decoded exactly when its inline containers nest at
most `lim` (= 10000) deep; deeper nesting is the documented error (`none`) of `decodeContent` /
`decodeInlineContentAt`. -/
theorem inline_nesting_bounded (lim : Nat) (kids : List Inl) :
    (decodeParagraph lim kids).isSome = true ↔ Inl.depthList kids ≤ lim := by
  unfold decodeParagraph
  rw [decodeList_iff lim 0 (Nat.zero_le _) kids]
  omega

def nestBox : Nat → Inl
  | 0 => .leaf
  | n + 1 => .box [nestBox n]

theorem nestBox_depth (n : Nat) : (nestBox n).depth = n := by
  induction n with
  | zero => rfl
  | succ n ih => simp [nestBox, Inl.depth, Inl.depthList, ih]

/-- at the edge, with the real constant: `n` nested containers are decoded iff `n ≤ 10000` -/
theorem inline_nesting_edge (n : Nat) :
    (decodeParagraph maxInlineDepth [nestBox n]).isSome = true ↔ n ≤ maxInlineDepth := by
  rw [inline_nesting_bounded]
  simp only [Inl.depthList, nestBox_depth]
  omega

example : (decodeParagraph maxInlineDepth [nestBox 10000]).isSome = true :=
  (inline_nesting_edge 10000).mpr (by decide)
example : ¬ (decodeParagraph maxInlineDepth [nestBox 10001]).isSome = true :=
  fun h => absurd ((inline_nesting_edge 10001).mp h) (by decide)
example : decodeParagraph 3 [.leaf, .box [.leaf, .skip, .box [.leaf]], .leaf] = some 4 := by decide +kernel


/-- **style_chain_bounded**: for EVERY style table — a style based on itself, cycles, a tail into
a cycle, a chain of 3000 — `buildInheritanceChain` ends, every style occurs in the chain at
most once, and the chain has at most (number of styles + 1) entries. -/
theorem style_chain_bounded (styles : List (Nat × Nat)) (id : Nat) :
    ∃ ch, styleChain styles id = some ch ∧ ch.Nodup ∧ ch.length ≤ styles.length + 1 := by
  unfold styleChain
  have := unseen_le_length styles []
  exact chainGo_spec styles _ id [] List.nodup_nil (by simp only [List.length_nil]; omega) (by omega)

example : styleChain [(1, 1)] 1 = some [1] := by decide +kernel
example : styleChain [(1, 2), (2, 3), (3, 1)] 1 = some [3, 2, 1] := by decide +kernel
example : styleChain [(1, 2), (2, 3), (3, 2)] 1 = some [3, 2, 1] := by decide +kernel
example : styleChain [(1, 2), (2, 0)] 1 = some [2, 1] := by decide +kernel
example : styleChain [(1, 2)] 1 = some [2, 1] := by decide +kernel
example : styleChain [(1, 2)] 0 = some [] := by decide +kernel


/-- **column_index_bounded**: column letters of ANY length (70 letters, 10^6 letters) give an index
in -1 .. 2^40 - 1. -/
theorem column_index_bounded (s : List Nat) :
    -1 ≤ columnToIndex s ∧ columnToIndex s < (maxColumnNumber : Int) := by
  rw [columnToIndex_eq]
  rcases A1.columnToIndex_range s with h | h <;> simp only [maxColumnNumber, A1.maxColumnNumber] at * <;> omega

example : columnToIndex ("XFD".toList.map Char.toNat) = 16383 := by decide +kernel
example : columnToIndex ("xfd".toList.map Char.toNat) = 16383 := by decide +kernel
example : columnToIndex (List.replicate 70 90) = -1 := by decide +kernel
example : columnToIndex ("A1".toList.map Char.toNat) = -1 := by decide +kernel
example : columnToIndex [] = -1 := by decide +kernel

/-- **merge_work_bounded**: for EVERY list of merged regions — 20000 copies of A1:XFD1048576,
regions outside the grid, reversed ranges — and every budget, the cells walked add up to at most the budget
(one grid in `mergeAll`: `merge_all_bounded`), and every region gets its answer. -/
theorem merge_work_bounded (maxRow maxCol : Nat) (regions : List Region) (budget : Nat) :
    (applyMerges maxRow maxCol regions budget).2 ≤ budget ∧
    (applyMerges maxRow maxCol regions budget).1.length = regions.length := by
  fun_induction applyMerges maxRow maxCol regions budget with
  | case1 => simp
  | case2 mr rest budget rc hrc ih => exact ⟨ih.1, by simp [ih.2]⟩
  | case3 mr rest budget rc hrc hb => simp
  | case4 mr rest budget rc hrc hb ih => exact ⟨by omega, by simp [ih.2]⟩

theorem merge_all_bounded (maxRow maxCol : Nat) (regions : List Region) :
    (mergeAll maxRow maxCol regions).2 ≤ maxRow * (maxCol + 1) :=
  (merge_work_bounded maxRow maxCol regions _).1

example : mergeAll 3 2 [⟨0, 0, 1048575, 16383⟩, ⟨0, 0, 1048575, 16383⟩, ⟨1, 1, 1, 1⟩] =
    ([true, false, false], 9) := by decide +kernel
example : mergeAll 3 2 [⟨0, 0, 0, 1⟩, ⟨5, 0, 9, 0⟩, ⟨1, 1, 0, 0⟩, ⟨1, 0, 2, 2⟩] =
    ([true, false, false, true], 8) := by decide +kernel

/-- the workbook's budget never goes over its limit -/
theorem loadSheet_inv (wb : WB) (s : SheetReq) (h : wb.gridCells ≤ maxGridCells) :
    (loadSheet wb s).2.gridCells ≤ maxGridCells := by
  rw [loadSheet_gridCells]
  split
  · have := loadSheet_accepted wb s ‹_›
    omega
  · exact h

theorem allocated_le (wb : WB) (reqs : List SheetReq) (h : wb.gridCells ≤ maxGridCells) :
    wb.gridCells + allocated wb reqs ≤ maxGridCells + allowanceOf wb.parts reqs := by
  induction reqs generalizing wb with
  | nil => simpa [allocated, allowanceOf] using h
  | cons s rest ih =>
    have := ih (loadSheet wb s).2 (loadSheet_inv wb s h)
    rw [loadSheet_parts, loadSheet_gridCells] at this
    have hfresh : (if wb.parts.contains s.member = true then 0 else gridCellsPerElement * s.elems) =
        allowanceFor wb s := rfl
    simp only [allocated, allowanceOf, hfresh]
    -- an accepted entry takes its cells less its allowance from the budget
    cases hok : (loadSheet wb s).1 <;> simp only [hok, Bool.false_eq_true, if_false, if_true] at this ⊢
    · omega
    · have := loadSheet_accepted wb s hok
      omega

/-- **workbook_grid_bounded** (over the HISTORY of sheet entries of one `Open`): whatever the
workbook lists — twenty entries naming one part, cells at XFD1048576 — the grid cells allocated
for all accepted entries together are at most 8 Mi plus 16 for every `<c>` element of every
distinct part named. -/
theorem workbook_grid_bounded (reqs : List SheetReq) :
    allocated ⟨0, []⟩ reqs ≤ maxGridCells + allowanceOf [] reqs := by
  have := allocated_le ⟨0, []⟩ reqs (Nat.zero_le _)
  simpa using this

example : loadSheets ⟨0, []⟩ [⟨1, 1, 512, 16383⟩, ⟨1, 1, 512, 16383⟩, ⟨2, 1, 1, 15⟩, ⟨2, 1, 1, 16⟩] =
    [true, false, true, false] := by decide +kernel
example : loadSheets ⟨0, []⟩ [⟨1, 1, 1048576, 16383⟩, ⟨2, 3, 2, 2⟩] = [false, true] := by decide +kernel


/-- **table_grid_bounded**: after `limitTableGrid`, EVERY table either has a grid (rows x columns in
spanned columns) of at most 2^20 cells, or no cell of it spans anything (that case is not bounded
here: `C02Bounds.table_pipeline_bounded` bounds it by rows x cells of the longest row). -/
theorem table_grid_bounded (rows : TRows) :
    hasSpans (limitTableGrid rows) = false ∨
    (limitTableGrid rows).length * gridCols (limitTableGrid rows) ≤ maxTableGridCells := by
  rw [limitTableGrid_eq_limit, Grid.limit_eq]
  split
  · exact Or.inl (gridCols_ones rows)
  · rename_i h
    cases hs : hasSpans rows with
    | false => exact Or.inl rfl
    | true => exact Or.inr (Nat.not_lt.mp fun hgt => h ⟨hs, gridCols_eq_width rows ▸ hgt⟩)

example : limitTableGrid [[(1024, 1024), (1024, 1)], [(1, 1)]] = [[(1024, 1024), (1024, 1)], [(1, 1)]] := by
  decide +kernel
example : limitTableGrid ([(1024, 1024), (1, 1)] :: List.replicate 1024 []) =
    ([(1, 1), (1, 1)] :: List.replicate 1024 []) := by
  -- 1025 rows of 1025 columns: over 2^20 cells, so every span is reset
  have hc : gridCols ([(1024, 1024), (1, 1)] :: List.replicate 1024 []) = 1025 := by
    rw [gridCols_eq_width, Grid.width_cons_replicate _ _ _ _ (Nat.zero_le _)]; rfl
  rw [limitTableGrid_flatten]
  · simp only [List.map_cons, List.map_replicate, List.map_nil]
  · rw [hasSpans, List.any_cons]; rfl
  · rw [hc, List.length_cons, List.length_replicate]; decide


/-- **tree_walk_bounded**: the iterative depth measurement of an HTML / nav tree ends after at most
(number of nodes + 1) moves, the fuel of the model, on EVERY tree. -/
theorem tree_walk_bounded (root : HT) (limit : Nat) : treeDeeperThan root limit ≠ none := by
  unfold treeDeeperThan
  exact zrun_terminates limit _ ⟨root, []⟩ (by simp [pathSize])

/-- **tree_depth_decided**: the iterative walk answers exactly whether the tree is taller than the
limit (so a document that is not refused is at most 10000 levels tall: `tree_accepted_shallow`). -/
theorem tree_depth_decided (root : HT) (limit : Nat) :
    treeDeeperThan root limit = some (decide (root.height > limit)) := by
  cases hr : treeDeeperThan root limit with
  | none => exact absurd hr (tree_walk_bounded root limit)
  | some b =>
    have h := zrun_deep limit _ ⟨root, []⟩ b (Nat.zero_le _) hr
    simp only [DeepZ, DeepP, List.length_nil, Nat.zero_add, or_false] at h
    cases b
    · exact congrArg some (decide_eq_false fun hgt => nomatch h.mpr hgt).symm
    · exact congrArg some (decide_eq_true (h.mp rfl)).symm

/-- a document that `OpenReader` / `parseNavXHTML` does not refuse is at most 10000 levels tall -/
theorem tree_accepted_shallow (root : HT) (h : treeRefused root = some false) : root.height ≤ maxTreeDepth := by
  unfold treeRefused at h
  rw [tree_depth_decided] at h
  simp only [Option.some.injEq, decide_eq_false_iff_not, Nat.not_lt] at h
  exact h

theorem tree_refusal_decided (root : HT) : treeRefused root ≠ none := tree_walk_bounded root _

def nestHT : Nat → HT
  | 0 => .node []
  | n + 1 => .node [nestHT n]

theorem nestHT_height (n : Nat) : (nestHT n).height = n := by
  induction n with
  | zero => rfl
  | succ n ih => simp [nestHT, HT.height, HT.heightList, ih]

/-- at the edge, with the real constant: 10000 levels are accepted, 10001 refused -/
example : treeRefused (nestHT 10000) = some false := by
  unfold treeRefused; rw [tree_depth_decided, nestHT_height]; rfl
example : treeRefused (nestHT 10001) = some true := by
  unfold treeRefused; rw [tree_depth_decided, nestHT_height]; rfl
example : treeDeeperThan (nestHT 3) 3 = some false := by decide +kernel
example : treeDeeperThan (nestHT 4) 3 = some true := by decide +kernel
example : treeDeeperThan (.node [.node [], .node [.node [.node []], .node []], .node []]) 2 = some true := by
  decide +kernel
example : treeDeeperThan (.node [.node [], .node [.node [.node []], .node []], .node []]) 3 = some false := by
  decide +kernel


/-- **cmap4_writes_bounded**: for EVERY segment table of an embedded TrueType font — 32767 segments
all covering 0x0000..0xFFFF — the character map is written at most 65536 times, however many
segments cover a code. -/
theorem cmap4_writes_bounded (startCode endCode : List Nat) (h : ∀ e ∈ endCode, e < 65536) :
    (cmap4 startCode endCode).2 ≤ 65536 := by
  unfold cmap4
  have := cmap4Walk_writes (sortSegs (cmap4Segs startCode endCode)) 0 65536 (by omega) (by
    intro s hs
    exact h _ (cmap4Segs_mem _ _ s (sortSegs_mem _ s hs)))
  omega

example : cmap4 [0, 0, 0] [65535, 65535, 65535] = ([(0, 65535)], 65536) := by decide +kernel
example : cmap4 [10, 0, 3, 30] [20, 5, 12, 25] = ([(0, 5), (6, 12), (13, 20)], 21) := by decide +kernel


/-- **bfrange_array_bounded**: a `beginbfrange` entry with an array of destinations writes at most
one mapping per array element, also when the source codes start at 0xFFFFFFFF and wrap. -/
theorem bfrange_array_bounded (start endc n cur : Nat) : (bfRangeArray start endc n cur).length ≤ n := by
  induction n generalizing cur with
  | zero => simp [bfRangeArray]
  | succ n ih =>
    simp only [bfRangeArray, List.length_append]
    have := ih ((cur + 1) % 4294967296)
    split <;> simp <;> omega

example : bfRangeArray 4294967295 4294967295 3 4294967295 = [4294967295, 0, 1] := by decide +kernel
example : bfRangeArray 4294967294 4294967294 3 4294967294 = [4294967294, 0] := by decide +kernel
example : bfRangeArray 5 6 4 5 = [5, 6] := by decide +kernel

end Tabula.C02Office
