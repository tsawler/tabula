import TabulaModel.Props.C14Json
import TabulaModel.Lemmas.JsonUtf8
/-!
# C14 (part 5) — the statement of the property, composed

The per-mechanism theorems of `Props/C14*.lean` chained into the two sentences of the property
text, over the model of the public entry point `(*Exporter).ExportToString` (which `ToJSON`,
`ToJSONL`, `ToCSV`, `ToTSV`, `BatchExporter` and — line by line — `StreamExporter` go through) and
of the collection filters.
-/
namespace Tabula.C14S
open Tabula.Export Tabula.Csv Tabula.Json Tabula.C14 Tabula.C14Meta Tabula.C14Api Tabula.C14Json
open Tabula.Split (validUtf8)

/-- what the export of a collection is read back to by the standard reader of the configured format -/
inductive Parsed where
  | records (rs : List J)                                  -- JSON array elements / JSON Lines lines
  | table (header : Option (List Str)) (rows : List (List Str))   -- CSV / TSV records

/-- the standard reader of the configured format applied to an export text -/
def parseExport (cfg : Config) (text : Str) : Option Parsed :=
  match cfg.format with
  | .json => match jsonRead text with
             | some (.arr rs) => some (.records rs)
             | _ => none
  | .jsonl => (jsonlRead text).map Parsed.records
  | .csv | .tsv =>
    match csvRead (delimiter cfg) text with
    | none => none
    | some recs =>
      if cfg.includeHeader then
        match recs with
        | [] => none
        | h :: rows => some (.table (some h) rows)
      else some (.table none recs)
  | .other => none

/-- what the property says the export must read back to: one record per chunk, in order, holding
the chunk's id, text and metadata values (`recordJ`: see `record_json_fields`; `cellSpec`: see
`named_cells`, `meta_columns_spec`) -/
def expected (cfg : Config) (chunks : List Chunk) : Parsed :=
  match cfg.format with
  | .json | .jsonl => .records (chunks.map (recordJ cfg))
  | _ =>
    .table (if cfg.includeHeader then some (collectCSVColumns cfg chunks) else none)
      (chunks.map (fun c => (collectCSVColumns cfg chunks).map (cellSpec cfg c)))

/-- SENTENCE 1 OF THE PROPERTY (JSON, JSON Lines, CSV, TSV): for every collection whose strings
are well-formed UTF-8 — whatever quotes, delimiters, CR/LF, NUL, control and non-ASCII characters
they contain — and every configuration of a supported format with a valid delimiter (flattening,
field lists, text/metadata/embeddings switches, header on/off, pretty printing, column names all
arbitrary), `ExportToString` succeeds, its text is accepted by the standard reader of the format
(under the assumed `encoding/json` / `encoding/csv` writers, which are compared byte for byte with
the real ones), and it reads back to exactly one record per chunk, in collection order, carrying
the chunk's own id, text and metadata values. -/
theorem export_statement (cfg : Config) (chunks : List Chunk)
    (hv : ∀ c ∈ chunks, chunkValid c = true) (hfmt : cfg.format ≠ .other)
    (hd : validDelim (delimiter cfg)) :
    ∃ text, exportToString cfg chunks = some text ∧ parseExport cfg text = some (expected cfg chunks) := by
  cases hf : cfg.format with
  | json =>
    obtain ⟨text, h1, h2⟩ := export_json_parses_back cfg hf chunks hv
    exact ⟨text, h1, by simp [parseExport, expected, hf, h2]⟩
  | jsonl =>
    obtain ⟨text, h1, h2, _⟩ := export_jsonl_parses_back cfg hf chunks hv
    exact ⟨text, h1, by simp [parseExport, expected, hf, h2]⟩
  | csv | tsv =>
    obtain ⟨text, h1, h2⟩ := export_csv_parses_back goMarshal cfg chunks hd
    refine ⟨text, by simp [exportToString, hf, h1], ?_⟩
    simp only [parseExport, expected, hf, h2, getColumnValue_fun]
    by_cases hh : cfg.includeHeader = true <;> simp [hh]
  | other => exact absurd hf hfmt

example : (∀ c ∈ ([] : List Chunk), chunkValid c = true) ∧ csvExportConfig.format ≠ .other ∧
    validDelim (delimiter csvExportConfig) := by
  refine ⟨by simp, by decide, by decide⟩

/-- the record count of the statement: as many records as chunks, whatever the format -/
theorem export_record_count (cfg : Config) (chunks : List Chunk) :
    (match expected cfg chunks with
     | .records rs => rs.length
     | .table _ rows => rows.length) = chunks.length := by
  unfold expected
  cases cfg.format <;> simp

/-- the JSON / JSON Lines text is well-formed UTF-8 (what a JSON reader requires of its input
besides the grammar) -/
theorem export_json_text_is_utf8 (cfg : Config) (chunks : List Chunk)
    (hv : ∀ c ∈ chunks, chunkValid c = true) :
    validUtf8 (exportJSONText cfg chunks) = true ∧ validUtf8 (exportJSONLText cfg chunks) = true := by
  constructor
  · unfold exportJSONText
    apply encode_valid
    rw [exportRecords_eq_map, List.map_map]
    simp only [wf]
    exact wfList_map _ _ (fun c hc => record_wf cfg c (hv c hc))
  · unfold exportJSONLText exportJSONL
    rw [exportRecords_eq_map]
    apply Tabula.Split.validUtf8_flatMap
    intro r hr
    obtain ⟨c, hc, e⟩ := List.mem_map.mp hr
    rw [← e]
    have := encode_valid false _ (record_wf cfg c (hv c hc))
    simpa [encode, marshal, recordJ] using this

/-- SENTENCE 2 OF THE PROPERTY: filtering a collection — by any of the filter methods, by a chain
of them in any order, or by `Filter` with an arbitrary predicate — returns exactly the chunks
satisfying the predicate(s): all of them, only them, each once, in collection order. -/
theorem filter_statement (env : StrEnv) (ops : List FilterOp) (p : Chunk → Bool) (cs : List Chunk) :
    filterC p cs = cs.filter p ∧
    applyChain env ops cs = cs.filter (fun c => ops.all (fun op => opPred env op c)) ∧
    (applyChain env ops cs).Sublist cs ∧
    (∀ c, c ∈ applyChain env ops cs ↔ (c ∈ cs ∧ ∀ op ∈ ops, opPred env op c = true)) ∧
    (∀ ops', ops.Perm ops' → applyChain env ops' cs = applyChain env ops cs) :=
  ⟨(filter_is_filter env p .tables cs).1, filter_chain_is_conjunction env ops cs,
    filter_order_preserved env ops cs, filter_chain_mem env ops cs,
    fun ops' h => (filter_chain_perm env ops ops' h cs).symm⟩

end Tabula.C14S
