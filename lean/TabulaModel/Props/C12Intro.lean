import TabulaModel.Lemmas.ChunkIntro
import TabulaModel.Props.C12Layout
/-!
# C12, layout-based chunker: `isListIntro` is part of the model — no flag read from the code

`Model/ChunkIntro.lean` models `BoundaryDetector.isListIntro` with the default
`ListIntroPatterns` (the four regular expressions, read backwards from the end of the trimmed
text), so that `Chunker.Chunk` is modelled from the `model.Document` alone (`chunkSI`; the only
parameter left is the Unicode lower-case table behind a sentence end).

* `intro_colon`: a text whose trimmed form ends with a colon introduces a list;
* `intro_iff`: the backward matcher decides exactly the language of the expressions: a colon
  behind the last character that is no white space, or one of the phrases — its words in either
  case (`s` also as U+017F), separated by one or more of `[\t\n\f\r ]` — at the end of the text;
* `intro_flags`: in `withIntro d` every paragraph's flag is `isListIntro` of its text; the content
  elements are otherwise those of `d`, and so are the page numbers;
* `layout_chunker_closed`: the statement of the property for `Chunker.Chunk` with sentences and
  introductions computed by the model.
-/
namespace Tabula.C12Intro
open Tabula.Chunk Tabula.ChunkLayout Tabula.ChunkSent Tabula.ChunkIntro

/-- **A text that ends with a colon introduces a list** (the fourth expression, `:\s*$`): whatever
stands before it, whatever white space `strings.TrimSpace` removed around it. -/
theorem intro_colon (t pre : Str) (h : Tabula.Split.trimSpace t = pre ++ [58]) : isListIntro t = true := by
  unfold isListIntro
  rw [tailRev_colon t pre h]
  rfl

example : Tabula.Split.trimSpace (ofString " \n see below:\t ") = ofString "see below" ++ [58] := by decide +kernel

/-- every phrase of the three expressions is well formed for the backward matcher: no phrase
starts or ends with `\s+`, and the word before a `\s+` ends in a character that is no white space -/
theorem phrases_wf : ∀ p ∈ phrases, WF p.reverse = true := by rw [phrases_eq]; decide +kernel

/-- **The model of `isListIntro` decides the language of the four expressions.** With `T` the
trimmed text without trailing `[\t\n\f\r ]`: the text introduces a list iff `T` ends with a colon,
or `T = pre ++ w` for some phrase `p` of the expressions and some `w` in the language of `p`
(`Lang`: each word spelled in lower or upper case letter by letter, `s` also as U+017F; `\s+` as one
or more of `[\t\n\f\r ]`). Any `pre`: the expressions are not anchored at the start. -/
theorem intro_iff (t : Str) :
    isListIntro t = true ↔
      (tailRev t).head? = some 58 ∨
      ∃ p ∈ phrases, ∃ pre w, (tailRev t).reverse = pre ++ w ∧ Lang p w := by
  unfold isListIntro
  simp only [Bool.or_eq_true, beq_iff_eq, List.any_eq_true]
  refine or_congr_right (exists_congr fun p => and_congr_right fun hp => ?_)
  rw [matchRev_iff p.reverse (phrases_wf p hp), List.reverse_reverse]

/-- "THE \t Following" is in the language of `the\s+following`; "Item" with a long s in "itemſ" is
in the language of `items` -/
example : Lang (words ["the", "following"]) (ofString "THE \t Following") ∧
    Lang (words ["items"]) [105, 84, 101, 109, 0xC5, 0xBF] := by
  constructor
  · refine ⟨ofString "THE", ofString " \t Following", by decide +kernel,
      (litLang_iff_match _ _).mpr (by decide +kernel), ?_⟩
    refine ⟨ofString " \t ", ofString "Following", by decide +kernel, ⟨by decide +kernel, by decide +kernel⟩, ?_⟩
    exact ⟨_, [], (List.append_nil _).symm, (litLang_iff_match _ _).mpr (by decide +kernel), rfl⟩
  · exact ⟨[105, 84, 101, 109, 0xC5, 0xBF], [], rfl, (litLang_iff_match _ _).mpr (by decide +kernel), rfl⟩

/-- what the code decides on some texts: phrases in any case and with any `\s+`, the long s, a
colon; a phrase cut short, glued or followed by something else is none -/
example : isListIntro (ofString "Here are the Steps ") = true := by rw [isListIntro, phrases_eq]; decide +kernel
example : isListIntro (ofString "the   following") = true := by rw [isListIntro, phrases_eq]; decide +kernel
example : isListIntro (ofString "misstep") = true := by rw [isListIntro, phrases_eq]; decide +kernel
example : isListIntro (ofString "e.g.") = true := by rw [isListIntro, phrases_eq]; decide +kernel
example : isListIntro [105, 116, 101, 109, 0xC5, 0xBF] = true := by rw [isListIntro, phrases_eq]; decide +kernel
example : isListIntro (ofString "thefollowing") = false := by rw [isListIntro, phrases_eq]; decide +kernel
example : isListIntro (ofString "abc: x") = false := by rw [isListIntro, phrases_eq]; decide +kernel
example : isListIntro (ofString "the followin") = false := by rw [isListIntro, phrases_eq]; decide +kernel
/-- a vertical tab is white space for `strings.TrimSpace` but not for `\s` -/
example : isListIntro (ofString "such" ++ [11] ++ ofString "as") = false ∧ isListIntro (ofString "such\tas") = true := by
  rw [isListIntro, isListIntro, phrases_eq]; decide +kernel
example : isListIntro (ofString "steps.") = false := by rw [isListIntro, phrases_eq]; decide +kernel

/-- **`withIntro` sets the flags and nothing else**: every paragraph of the document carries
`isListIntro` of its own text; kinds, texts, pages and sentence parameters are untouched. -/
theorem intro_flags (cfg : Cfg) (d : LDoc) :
    (∀ e ∈ canon cfg (withIntro d), e.kind = .para → e.intro = isListIntro e.text) ∧
    (canon cfg (withIntro d)).map CE.noIntro = (canon cfg d).map CE.noIntro ∧
    (withIntro d).map (·.number) = d.map (·.number) :=
  ⟨withIntro_flags cfg d, withIntro_canon cfg d, withIntro_numbers d⟩

/-- **The property for `Chunker.Chunk` from the document alone** (`chunkSI`: sentences and list
introductions computed by the model; any configuration; pages numbered upwards). With
`d = withSents low (withIntro d0)`, which has the kinds, texts and pages of `d0`:

1. the chunk texts are, white space aside, the content of `d0` in emission order — a permutation
   of the canonical order that keeps every kind in order;
2. indices `0..n-1`, ids pairwise distinct, every chunk reports `n`;
3. the sections hold every content element once, each under the chain of section-opening headings
   enclosing it, and every section's page range lies on pages of `d0` and covers its content;
4. every chunk of a section's group carries the section's path and page range (`GroupsOK`). -/
theorem layout_chunker_closed (low : Str → Bool) (cfg : Cfg) (title : Str) (d0 : LDoc) (hasc : AscFrom 1 d0) :
    let d := withSents low (withIntro d0)
    let secs := flatForest (buildSections cfg d)
    (strip (textsOf (chunkSI low cfg title d0)) = strip (ceTexts (emitted cfg d)) ∧
      (emitted cfg d).Perm (canon cfg d) ∧
      (∀ k, (emitted cfg d).filter (fun e => e.kind == k) = (canon cfg d).filter (fun e => e.kind == k)) ∧
      (canon cfg d).map (fun e => (e.kind, e.text, e.page)) = (canon cfg d0).map (fun e => (e.kind, e.text, e.page))) ∧
    ((chunkSI low cfg title d0).map (·.idx) = List.range (chunkSI low cfg title d0).length ∧
      ((chunkSI low cfg title d0).map (·.id)).Nodup ∧
      ∀ c ∈ chunkSI low cfg title d0, c.total = (chunkSI low cfg title d0).length) ∧
    (labelsOf secs = labelled cfg d ∧ (labelled cfg d).map (·.1) = canon cfg d ∧
      ∀ x ∈ secs, SecPagesOK (d0.map (·.number)) x) ∧
    GroupsOK cfg secs (secGroups cfg secs 0) := by
  have h := Tabula.C12Layout.layout_chunker_property low cfg title (withIntro d0) (ascFrom_withIntro 1 d0 hasc)
  obtain ⟨_, hg, ⟨hl1, hl2, hcore⟩, hpages, ⟨hcov, hperm, hkind⟩, hidx⟩ := h
  refine ⟨⟨hcov, hperm, hkind, ?_⟩, hidx, ⟨hl1, hl2, ?_⟩, hg⟩
  · rw [canon_withSents, canon_withIntro, List.map_map, List.map_map]
    exact List.map_congr_left fun e _ => by simp only [Function.comp]; split <;> rfl
  · rw [withIntro_numbers] at hpages
    exact hpages

/-- paragraph "Our steps" introduces the list behind it: with `PreserveListCoherence` the two form
one atomic block (one chunk, although the paragraph alone would fit with the one before it) -/
example :
    let cfg : Cfg := ⟨24, 0, 3, true, [99]⟩
    let d : LDoc := [⟨1, some ⟨[], [⟨ofString "aaaa bbbb cccc", false, []⟩, ⟨ofString "Our steps", false, []⟩],
      [⟨[(0, ofString "x")], []⟩]⟩⟩]
    (chunkSI (fun _ => false) cfg [] d).map (·.text) =
      [ofString "aaaa bbbb cccc", ofString "Our steps" ++ [10, 10] ++ ofString "- x"] := by decide +kernel

end Tabula.C12Intro
