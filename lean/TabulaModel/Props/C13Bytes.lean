import TabulaModel.Lemmas.OverlapRunes
import TabulaModel.Props.C13Overlap
/-!
# C13 — the byte-index cuts of the overlap code on ARBITRARY bytes

`C13Overlap.overlap_suffix` / `overlap_utf8` are stated for valid UTF-8 chunks (the property's
"whenever the input is").  The two places of `rag/overlap.go` that cut by byte index —
`generateCharacterOverlap` and `tailAtRuneBoundary` — are proved here for EVERY byte string,
ill-formed UTF-8 included (an ill-formed byte counts as a character, as in
`C13Api.split_conserves_characters`): the cut never lies inside a well-formed character, so
the overlap carries a suffix of the chunk's non-whitespace characters; so does the paragraph
strategy, which works on bytes with ASCII separators.  The sentence strategy and the sentence
branch of `truncateOverlap` go through `[]rune`, which re-encodes ill-formed bytes as U+FFFD:
for them, and so for every strategy, the clause holds of the characters as `range` reads them
(`content`, the last theorems).  Lemmas: `Lemmas/OverlapChar.lean`, `Lemmas/OverlapParagraphs.lean`,
`Lemmas/OverlapGenerate.lean`, `Lemmas/OverlapRunes.lean`.
-/
set_option linter.unusedVariables false
namespace Tabula.C13Bytes
open Tabula.Split Tabula.Overlap

/-- **character_overlap_any_bytes.** `generateCharacterOverlap` on any bytes, any `Size`, with
or without `PreserveWords`: the overlap's non-whitespace characters are a suffix of the
chunk's. -/
theorem character_overlap_any_bytes (c : OverlapConfig) (text : Str) :
    ∃ x, stripWs text = x ++ stripWs (generateCharacterOverlap c text) :=
  suffix_charOverlap reads_stripWs c text

/-- **tail_at_rune_boundary_any_bytes.** `tailAtRuneBoundary(s, n)` on any bytes has at most `n`
bytes or is `s` itself.  That it carries a suffix of the characters of `s` is
`tail_at_rune_boundary_content`. -/
theorem tail_at_rune_boundary_any_bytes (s : Str) (n : Nat) :
    (tailAtRuneBoundary s n).length ≤ n ∨ tailAtRuneBoundary s n = s := by
  by_cases h : n ≥ s.length
  · right; unfold tailAtRuneBoundary; rw [if_pos h]
  · left; exact tailAtRuneBoundary_length_le s n

theorem tail_at_rune_boundary_content (s : Str) (n : Nat) :
    ∃ x, stripWs s = x ++ stripWs (tailAtRuneBoundary s n) :=
  suffix_tail reads_stripWs s n

/-- **overlap_suffix_any_bytes.** `GenerateOverlap` with the character strategy and
`Size ≤ MaxOverlap` (no truncation; the configuration `ChunkWithOverlapEnabled` derives for
character overlap), for EVERY byte string: the overlap has at most `Size` bytes and its
non-whitespace characters are a suffix of the chunk's.  This is `C13.overlap_suffix_partial`
at the level of characters instead of bytes, without the validity hypothesis of
`C13Overlap.overlap_suffix`. -/
theorem overlap_suffix_any_bytes (cl : Classes) (c : OverlapConfig) (text : Str)
    (hs : c.strategy = 1) (hle : c.size ≤ c.maxOverlap) :
    (generateOverlap cl c text).length ≤ c.size
      ∧ ∃ x, stripWs text = x ++ stripWs (generateOverlap cl c text) := by
  refine ⟨(Tabula.C13.overlap_bounds cl c text).2 hs hle, ?_⟩
  rcases generateOverlap_character cl c text hs hle with e | e <;> rw [e]
  · exact suffix_nil reads_stripWs text
  · exact suffix_charOverlap reads_stripWs c text

/-- non-vacuity: a chunk that ends with a truncated character and a stray continuation byte;
the 6-byte overlap starts behind the space, not inside "日" -/
example :
    let c : OverlapConfig := { strategy := 1, size := 6, minOverlap := 0, maxOverlap := 18, preserveWords := false, includeHeadingContext := false }
    let text : Str := [97, 98, 0xE6, 0x97, 0xA5, 32, 0xE6, 0x97, 99, 0x80]
    validUtf8 text = false ∧ generateOverlap [] c text = [0xE6, 0x97, 99, 0x80]
      ∧ stripWs text = [97, 98, 0xE6, 0x97, 0xA5] ++ stripWs (generateOverlap [] c text) := by
  decide +kernel

/-- … and through `ApplyOverlapToChunks` with character overlap: any chunk bytes -/
theorem apply_character_overlap_any_bytes (cl : Classes) (c : OverlapConfig) (items : List (Str × Str))
    (hs : c.strategy = 1) (hle : c.size ≤ c.maxOverlap) (i : Nat) (prev own : Str × Str)
    (hp : items[i]? = some prev) (ho : items[i + 1]? = some own) :
    ∃ o, (applyOverlapAux cl c none items)[i + 1]? = some o
      ∧ o.pref.length ≤ c.size ∧ ∃ x, stripWs prev.1 = x ++ stripWs o.pref := by
  rw [applyOverlapAux_get, ho]
  simp only [Option.map_some, prevText, hp]
  refine ⟨_, rfl, ?_⟩
  rw [outOf_pref]
  rcases overlapFrom_some cl c prev.1 with e | e <;> rw [e]
  · exact ⟨Nat.zero_le _, stripWs prev.1, by rw [stripWs_nil, List.append_nil]⟩
  · exact overlap_suffix_any_bytes cl c prev.1 hs hle

/-- **paragraph_overlap_any_bytes.** `splitIntoParagraphs` and `generateParagraphOverlap` work on
bytes (`strings.Split`, `strings.TrimSpace`, separators that are ASCII): for EVERY byte string
the paragraphs carry exactly its non-whitespace characters and the paragraph overlap carries a
suffix of them. -/
theorem paragraph_overlap_any_bytes (cl : Classes) (c : OverlapConfig) (text : Str) :
    (splitIntoParagraphs text).flatMap stripWs = stripWs text
      ∧ ∃ x, stripWs text = x ++ stripWs (generateParagraphOverlap cl c text).1 :=
  ⟨reads_splitIntoParagraphs reads_stripWs text, suffix_paragraphOverlap reads_stripWs cl c text⟩

/-- **overlap_untruncated_any_bytes.** `GenerateOverlap` with the character or the paragraph
strategy, when the selected overlap fits `MaxOverlap` (no truncation), for EVERY byte string:
the overlap's non-whitespace characters are a suffix of the chunk's.  What is left to the
correspondence on ill-formed input is exactly what goes through `[]rune`: the sentence
strategy (`sentence_overlap_any_bytes` says what it does) and `truncateOverlap`. -/
theorem overlap_untruncated_any_bytes (cl : Classes) (c : OverlapConfig) (text : Str)
    (hs : c.strategy = 1 ∨ c.strategy = 3) (hfit : (rawOverlap cl c text).1.length ≤ c.maxOverlap) :
    ∃ x, stripWs text = x ++ stripWs (generateOverlap cl c text) := by
  unfold generateOverlap
  split
  · exact ⟨stripWs text, by simp [stripWs_nil]⟩
  · simp only
    have hne : ¬ c.strategy = 2 := by omega
    rw [if_neg (by intro h; exact hne h.2.1)]
    unfold capOverlap
    rw [if_neg (by omega)]
    unfold rawOverlap
    rcases hs with h | h
    · rw [if_pos h]; exact suffix_charOverlap reads_stripWs c text
    · rw [if_neg (by omega), if_neg hne]; exact suffix_paragraphOverlap reads_stripWs cl c text

/-- non-vacuity: paragraph overlap of a text whose last paragraph holds a truncated character -/
example :
    let c : OverlapConfig := { strategy := 3, size := 1, minOverlap := 0, maxOverlap := 100, preserveWords := true, includeHeadingContext := false }
    let text : Str := [97, 10, 10, 98, 0xE6, 0x97, 32, 99, 10]
    validUtf8 text = false ∧ generateOverlap [] c text = [98, 0xE6, 0x97, 32, 99] := by
  decide +kernel

/-- **sentence_overlap_any_bytes.** `generateSentenceOverlap` on ANY bytes: the sentence splitter
works on `[]rune(text)`, so what it returns is always valid UTF-8, and its non-whitespace
characters are a suffix of those of `string([]rune(text))` — the text with every ill-formed
byte replaced by U+FFFD (the text itself when it is valid: `Overlap.encode_decode`, `Lemmas/Codec.lean`). -/
theorem sentence_overlap_any_bytes (cl : Classes) (c : OverlapConfig) (text : Str) :
    validUtf8 (generateSentenceOverlap cl c text).1 = true
      ∧ ∃ x, stripWs (encodeRunes (decodeRunes text)) = x ++ stripWs (generateSentenceOverlap cl c text).1 := by
  have hv : validUtf8 (generateSentenceOverlap cl c text).1 = true := by
    unfold generateSentenceOverlap
    simp only
    split
    · exact validUtf8_nil
    · exact valid_trimSpace _ (valid_joinWith _ (valid_wsOnly wsOnly_space) _ fun p hp =>
        splitIntoSentences_valid cl text p (List.mem_of_mem_drop hp))
  obtain ⟨x, e⟩ := suffix_sentenceOverlap reads_content cl (suffix_content_sentences cl) c text
  exact ⟨hv, x, by rw [← content_valid _ hv]; exact e⟩

example :
    let c : OverlapConfig := { strategy := 2, size := 1, minOverlap := 0, maxOverlap := 100, preserveWords := true, includeHeadingContext := false }
    (generateSentenceOverlap [] c [65, 98, 46, 32, 66, 0x80, 0xE6, 46]).1 = [66, 0xEF, 0xBF, 0xBD, 0xEF, 0xBF, 0xBD, 46] := by
  decide +kernel

/-- `content` is the property's "non-whitespace characters" on valid UTF-8 -/
theorem content_of_valid (s : Str) (hv : validUtf8 s = true) : content s = stripWs s :=
  content_valid s hv

/-- … and in general those of `string([]rune(s))`, which is always valid UTF-8 -/
theorem content_is_stripWs_of_runes (s : Str) :
    content s = stripWs (encodeRunes (decodeRunes s)) ∧ validUtf8 (encodeRunes (decodeRunes s)) = true :=
  ⟨rfl, valid_san s⟩

/-- **overlap_suffix_all_bytes.** The overlap clause of C13 without the validity hypothesis: for
EVERY byte string, every strategy (character, sentence, paragraph), every size,
`MinOverlap`/`MaxOverlap` (truncation included) and every class table, the non-whitespace
characters of the overlap are a suffix of those of the chunk — characters read as Go's `range`
reads a string (an ill-formed byte is U+FFFD).  `C13Overlap.overlap_suffix` is the special case of
valid text (`content_of_valid`). -/
theorem overlap_suffix_all_bytes (cl : Classes) (c : OverlapConfig) (text : Str) :
    ∃ x, content text = x ++ content (generateOverlap cl c text) :=
  generateOverlap_any cl c text

/-- … and through `ApplyOverlapToChunks`, for every list of chunks of any bytes -/
theorem apply_overlap_all_bytes (cl : Classes) (c : OverlapConfig) (items : List (Str × Str))
    (i : Nat) (prev own : Str × Str) (hp : items[i]? = some prev) (ho : items[i + 1]? = some own) :
    ∃ o x, (applyOverlapAux cl c none items)[i + 1]? = some o
      ∧ o.pref.length ≤ c.maxOverlap ∧ content prev.1 = x ++ content o.pref := by
  rw [applyOverlapAux_get, ho]
  simp only [Option.map_some, prevText, hp]
  have key : ∃ x, content prev.1 = x ++ content (overlapFrom cl c (some prev.1)) := by
    rcases overlapFrom_some cl c prev.1 with e | e <;> rw [e]
    · exact ⟨content prev.1, by rw [content_nil, List.append_nil]⟩
    · exact overlap_suffix_all_bytes cl c prev.1
  obtain ⟨x, hx⟩ := key
  refine ⟨_, x, rfl, ?_⟩
  rw [outOf_pref]
  exact ⟨overlapFrom_length_le cl c _, hx⟩

/-- non-vacuity: sentence overlap of a chunk with a stray continuation byte and a truncated
character: they come back as U+FFFD, and the content is still a suffix -/
example :
    let c : OverlapConfig := { strategy := 2, size := 1, minOverlap := 0, maxOverlap := 100, preserveWords := true, includeHeadingContext := false }
    let text : Str := [65, 98, 46, 32, 66, 0x80, 32, 0xE6, 46]
    content text = [65, 98, 46, 66, 0xEF, 0xBF, 0xBD, 0xEF, 0xBF, 0xBD, 46]
      ∧ content (generateOverlap [] c text) = [66, 0xEF, 0xBF, 0xBD, 0xEF, 0xBF, 0xBD, 46] := by
  decide +kernel

end Tabula.C13Bytes
