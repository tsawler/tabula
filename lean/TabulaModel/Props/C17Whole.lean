import TabulaModel.Props.C17Budget
import TabulaModel.Props.C17Out
import TabulaModel.Props.C17Total
/-!
# C17, loose ends closed for all inputs

* `CellByRef` for every reference string (case, printed references),
* the remaining type attributes (`t="n"`, `t="d"`, anything unknown) and a dangling shared index,
* shared strings: no state carried from one `<si>` to the next,
* merged regions do not leak between sheets (changing the `<mergeCells>` of other sheets changes
  nothing of a sheet),
* line r+1 / field c of the text with `IncludeHeaders`,
* why the line/field claim stops at one-byte delimiters (two grids, one text).
-/
namespace Tabula.C17W
open Tabula.A1 Tabula.Sheet Tabula.Wb Tabula.C17 Tabula.C17A Tabula.C17B Tabula.C17O Tabula.C17T

/-- `CellByRef` does not see the case of the reference -/
theorem cell_by_ref_case (s : Wb.Sheet) (ref : Str) : s.cellByRef (ref.map upper) = s.cellByRef ref := by
  unfold Sheet.cellByRef; rw [parse_case_insensitive]

/-- **`CellByRef(CellRef(c, r))` is the grid position `(r, c)`** for every pair with the column
within the bound of `ColumnToIndex` (and `none` = nil outside the grid, by `Grid.get`) -/
theorem cell_by_ref_printed (s : Wb.Sheet) (c r : Nat) (hc : c + 1 ≤ maxColumnNumber) (hr : r + 1 ≤ maxInt64) :
    s.cellByRef (cellRef (c : Int) (r : Int)) = s.rows.get r c := by
  unfold Sheet.cellByRef
  rw [cellref_roundtrip c r hc hr]
  exact cell_eq_get s r c

/-- a reference that does not parse names no cell -/
theorem cell_by_ref_invalid (s : Wb.Sheet) (ref : Str) (e : RefErr) (h : parseCellRef ref = .error e) :
    s.cellByRef ref = none := by
  unfold Sheet.cellByRef; rw [h]

/-- `t="n"` (explicit number) and `t="d"` (ISO date) have no case of their own in the type
switch: with a `<v>` they are numbers shown as stored -/
theorem kind_n_d (shared : List Str) (x : CellXML) (old : Cell) (ht : x.t = [110] ∨ x.t = [100])
    (hv : x.v ≠ []) :
    (cellContent shared x old).value = x.v ∧ (cellContent shared x old).type = .num := by
  apply kind_number shared x old _ hv
  rcases ht with ht | ht <;> rw [ht] <;> decide

/-- a `t="s"` cell whose index is no number, negative or beyond the table: the cell is a string
cell and keeps the value it had (empty for a position addressed once) -/
theorem kind_shared_dangling (shared : List Str) (x : CellXML) (old : Cell) (ht : x.t = tS)
    (h : atoi x.v = none ∨ ∃ i, atoi x.v = some i ∧ (i < 0 ∨ (shared.length : Int) ≤ i)) :
    (cellContent shared x old).value = old.value ∧ (cellContent shared x old).type = .str := by
  rw [cellContent_tS ht]
  refine ⟨?_, rfl⟩
  rcases h with h | ⟨i, h, hi⟩
  · simp only [h]
  · simp only [h]
    by_cases h0 : 0 ≤ i
    · rw [if_pos h0, List.getElem?_eq_none (by omega)]
    · rw [if_neg h0]

/-- an element without one of the five type attributes the switch knows leaves an empty cell as it is
exactly when it has neither `<v>` nor `<f>` -/
theorem kind_untouched_iff (shared : List Str) (x : CellXML)
    (ht : x.t ≠ tS ∧ x.t ≠ tB ∧ x.t ≠ tE ∧ x.t ≠ tStr ∧ x.t ≠ tInline) :
    cellContent shared x {} = {} ↔ x.v = [] ∧ x.f = [] := by
  rw [cellContent_untyped ht]
  by_cases hv : x.v = []
  · by_cases hf : x.f = []
    · simp [hv, hf]
    · simp [hv, hf]
  · simp [hv]

/-- entry `i` of the table depends on `<si>` number `i` alone: whatever items come before (rich
text with many runs, empty items) or after -/
theorem shared_no_leak (before after : List SI) (si : SI) :
    (parseSharedStrings (before ++ si :: after))[before.length]? = some (sharedString si) := by
  rw [shared_table]; simp

/-- an `<si>` with neither text nor runs is the empty string (not the previous item's text) -/
theorem shared_empty_item : sharedString ⟨[], []⟩ = [] := by simp [sharedString]

/-- two part lists that differ at most in the `<mergeCells>` of their parts -/
inductive SameButMerges : List (Option SheetXML) → List (Option SheetXML) → Prop
  | nil : SameButMerges [] []
  | none (ps qs) : SameButMerges ps qs → SameButMerges (none :: ps) (none :: qs)
  | some (x y ps qs) : x.name = y.name → x.rows = y.rows → x.member = y.member →
      SameButMerges ps qs → SameButMerges (some x :: ps) (some y :: qs)

/-- the state `parseWorksheets` threads through (members recorded, cells charged) does not read
any merge list -/
theorem stateAfter_merge_free (ps qs : List (Option SheetXML)) (h : SameButMerges ps qs) (j : Nat)
    (seen : List Str) (used : Nat) :
    stateAfter (ps.take j) seen used = stateAfter (qs.take j) seen used := by
  induction h generalizing j seen used with
  | nil => rfl
  | none ps qs _ ih =>
    cases j with
    | zero => rfl
    | succ j => simp only [List.take_succ_cons, stateAfter]; exact ih j seen used
  | some x y ps qs hn hr hm _ ih =>
    cases j with
    | zero => rfl
    | succ j =>
      simp only [List.take_succ_cons, stateAfter]
      have e1 : ∀ u f, fits u f x ↔ fits u f y := by
        intro u f; unfold fits gridSize allowance elements; rw [hr]
      have e2 : ∀ f, charge f x = charge f y := by
        intro f; unfold charge gridSize allowance elements; rw [hr]
      rw [hm, e2]
      simp only [e1]
      exact ih j _ _

/-- **no leak between sheets**: let two workbooks differ at most in the merge lists of their
parts, and agree on the part in position `s.index`.  Then the sheet `s` the first workbook loads
from that part is a sheet of the second workbook too — cell for cell, merge flags and spans
included: the merged regions declared in other sheets (any number, any shape) change nothing. -/
theorem merges_do_not_leak (shared : List Str) (ps qs : List (Option SheetXML)) (h : SameButMerges ps qs)
    (s : Wb.Sheet) (hs : s ∈ loadParts shared ps 0 [] 0) (x : SheetXML)
    (hq : qs[s.index]? = some (some x)) (hp : ps[s.index]? = some (some x)) :
    s ∈ loadParts shared qs 0 [] 0 := by
  obtain ⟨j, x', hj, hload⟩ := mem_loadParts.mp hs
  obtain rfl : s.index = j := by rw [(loadSheet_some hload).2.1, Nat.zero_add]
  rw [hp] at hj
  cases hj
  rw [stateAfter_merge_free ps qs h s.index [] 0] at hload
  exact mem_loadParts.mpr ⟨s.index, x, hq, hload⟩

/-- non-vacuity: a second sheet gets a merged region A1:B2, the first sheet is loaded as before -/
example : SameButMerges
    [some ⟨[97], [⟨1, [⟨[65, 49], [], [49], [], none⟩]⟩], [], [109]⟩, some ⟨[98], [], [], [110]⟩]
    [some ⟨[97], [⟨1, [⟨[65, 49], [], [49], [], none⟩]⟩], [], [109]⟩, some ⟨[98], [], [[65, 49, 58, 66, 50]], [110]⟩] :=
  .some _ _ _ _ rfl rfl rfl (.some _ _ _ _ rfl rfl rfl .nil)

/-- **line r+1 / field c with `IncludeHeaders`**: for a sheet whose name has no line break, the
first line of its block is `=== name ===`, and line `r+1` split at the (one-byte) delimiter has
the displayed value of `(r,c)` as field `c` -/
theorem text_header_line_field (o : ExtractOptions) (s : Wb.Sheet) (d : Nat) (hd : d ≠ 10)
    (hh : o.includeHeaders = true) (hdel : effDelimiter o = [d]) (hname : 10 ∉ s.name)
    (hg : s.rows ≠ []) (hrows : ∀ row ∈ s.rows, row ≠ [])
    (hclean : ∀ row ∈ s.rows, ∀ cell ∈ row, d ∉ cellText cell ∧ 10 ∉ cellText cell) (r c : Nat) :
    (splitOn 10 (sheetBlock o s))[0]? = some ([61, 61, 61, 32] ++ s.name ++ [32, 61, 61, 61]) ∧
    ((splitOn 10 (sheetBlock o s))[r + 1]?).bind (fun line => (splitOn d line)[c]?) =
      (s.rows.get r c).map cellText := by
  have hblock : sheetBlock o s =
      ([61, 61, 61, 32] ++ s.name ++ [32, 61, 61, 61]) ++ 10 :: sheetTextD [d] s.rows := by
    rw [text_header o s hh, hdel]; simp
  have hclean1 : (10 : Nat) ∉ ([61, 61, 61, 32] ++ s.name ++ [32, 61, 61, 61] : Str) := by
    intro hm
    simp only [List.mem_append, List.mem_cons, List.not_mem_nil, or_false] at hm
    rcases hm with (hm | hm) | hm
    · omega
    · exact hname hm
    · omega
  rw [hblock, splitOn_append_sep, splitOn_clean 10 _ hclean1]
  refine ⟨by simp, ?_⟩
  have := text_line_field_delim d hd s.rows hg hrows hclean r c
  simpa using this

/-- **counterexample for multi-byte delimiters**: with `Delimiter: "aa"` the rows `["a", "x"]` and
`["", "ax"]` - no value contains the delimiter - are written as the same line `aaax`, so no reader
of the text can tell field 0 = "a" from field 0 = "".  The line/field statement is therefore
claimed (and proved) for one-byte delimiters; for longer ones the structure theorem `text_render`
is all that holds in general. -/
theorem text_line_field_multibyte_counterexample :
    rowText [97, 97] [{ value := [97], type := .str }, { value := [120], type := .str }] =
      rowText [97, 97] [{ value := [], type := .str }, { value := [97, 120], type := .str }] ∧
    (cellText { value := [97], type := .str } ≠ cellText { value := [], type := .str }) := by
  decide

end Tabula.C17W
