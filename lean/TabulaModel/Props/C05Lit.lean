import TabulaModel.Model.StreamLit
import TabulaModel.Lemmas.FiltersLit
import TabulaModel.Lemmas.FiltersA85Reads
import TabulaModel.Lemmas.PredictFlatPng
import TabulaModel.Lemmas.PredictFlatTiff
import TabulaModel.Props.C05E
import TabulaModel.Props.C05Err
/-!
# C05 at the level of the Go loops and buffers — the abstractions of the model, proved

The theorems of `Props/C05*.lean` are about `Model/Filters.lean`, which renders the two ASCII
decoders as one-pass state machines over unbounded naturals and the predictors row by row. Those
renderings are the modeller's reading of the code (the harness compares them with it). `Model/FiltersLit.lean` and
`Model/PredictFlat.lean` transcribe the Go functions statement by statement instead (index loops with
the bounds tests of the source, `break` / `continue`, `uint64` and `byte` arithmetic, shifts and
bitwise or; flat buffers written by index, every index and slice expression checked), and this
file proves, for ALL inputs:

* `hex_loops_refine`, `a85_loops_refine` — the loops of `ASCIIHexDecode` / `ASCII85Decode` compute
  `hexDecode` / `a85Decode`;
* `machine_arithmetic` — the machine operations involved do what the model's arithmetic says:
  `b << 4` on a digit value does not overflow a byte, `(b1 << 4) | b2 = 16·b1 + b2`, the `uint64`
  accumulator never wraps on five digits, `byte(value >> (24 - 8j))` are the big-endian bytes;
* `a85_dead_branch` — the one branch of the loop model that exists for its termination proof only
  cannot be taken;
* `png_buffers_refine`, `tiff_buffers_refine`, `flate_post_refines` — the buffer code of
  `applyPNGPredictor` / `decodePNGRow` / `applyTIFFPredictor2` computes the row-wise model; in
  particular (`predictor_indices_in_range`) no index or slice expression of it is ever out of range
  except where the row-wise model reports an unknown filter type;
* `decode_lit_refines` — `Decode()` over the loop-level functions equals `streamDecodeD` for every
  dictionary and all data; `decode_inverts_encoding_lit`, `decode_error_lit` — the two sentences of
  the property, over the loop-level model.

zlib's inflate stays a parameter; the one thing assumed about it here is that it yields byte
strings (values < 256), needed because `applyTIFFPredictor2` copies the first pixel of a row
without reducing it.
-/
namespace Tabula.C05Lit
open Tabula.Filters

abbrev Bytes (x : Str) : Prop := ∀ b ∈ x, b < 256

/-- the index loop of `filters.ASCIIHexDecode` — white-space `continue`, `>`
`break`, the special case `i+1 >= len(data)`, the inner white-space loop, `(b1 << 4) | b2` — is the
state machine `hexDecode`, on every input (also non-bytes) -/
theorem hex_loops_refine (data : Str) : hexDecodeLit data = hexDecode data := hexDecodeLit_eq data

/-- the nested loops of `filters.ASCII85Decode` — leading white space, the
outer loop with `z`, the digit loop with its two exits, `numBytes` and its clamp, `u` padding, the
`uint64` value and its range test, the byte extraction — are the state machine `a85Decode`, on
every input -/
theorem a85_loops_refine (data : Str) : a85DecodeLit data = a85Decode data := a85DecodeLit_eq data

/-- … hence everything proved about `hexDecode` / `a85Decode` holds of the loops: they equal the
literal readings of §7.4.2 / §7.4.3 on every input -/
theorem ascii_loops_are_spec (data : Str) :
    hexDecodeLit data = hexSpec data ∧ a85DecodeLit data = a85Spec data :=
  ⟨by rw [hexDecodeLit_eq, hexDecode_eq_spec], by rw [a85DecodeLit_eq, a85Decode_eq_spec]⟩

/-- the byte / `uint64` operations of the two decoders, against the
natural-number arithmetic of the model -/
theorem machine_arithmetic :
    (∀ b, b < 16 → toByte (b <<< 4) = b * 16) ∧
    (∀ h l, h < 16 → l < 16 → (toByte (h <<< 4)) ||| l = h * 16 + l) ∧
    (∀ c, 33 ≤ c → c ≤ 117 → toByte (c - 33) = c - 33) ∧
    (∀ d0 d1 d2 d3 d4, d0 < 85 → d1 < 85 → d2 < 85 → d3 < 85 → d4 < 85 →
      a85ValueU64 [d0, d1, d2, d3, d4] = (((d0 * 85 + d1) * 85 + d2) * 85 + d3) * 85 + d4) ∧
    (∀ v k, k ≤ 4 → a85Emit v k = (bytes4 v).take k) := by
  refine ⟨toByte_shl4, ?_, fun c _ => toByte_digit c, ?_, a85Emit_eq⟩
  · intro h l hh hl
    rw [toByte_shl4 h hh, nibbles_or h l hl]
  · intro d0 d1 d2 d3 d4 h0 h1 h2 h3 h4
    rw [a85ValueU64_five d0 d1 d2 d3 d4 h0 h1 h2 h3 h4, a85Value_5]

/-- non-vacuity: `'F' << 4 | 'f'`, and `s8W-!` = 2^32-1 in the `uint64` accumulator -/
example : (toByte (15 <<< 4)) ||| 15 = 255 ∧ a85ValueU64 [82, 23, 54, 12, 0] = 4294967295 := by decide

/-- the `else none` of `a85Outer` behind `if i < i'` is unreachable: when the
digit loop returns a non-empty group it has moved past the byte it started at -/
theorem a85_dead_branch (data : Str) (i i' : Nat) (ds : List Nat) (hlt : i < data.length)
    (h : a85Inner data i [] = some (i', ds)) (hne : ds ≠ []) : i < i' :=
  a85Inner_progress data i i' ds hlt h hne

/-- non-vacuity: on "!" the digit loop stores one digit and stops behind it -/
example : a85Inner [33] 0 [] = some (1, [0]) := by
  rw [a85Inner_digit [33] 0 [] (by simp) (by simp) (by decide) (by decide) (by decide),
    a85Inner_exit [33] 1 _ (by simp)]
  rfl

/-- `applyPNGPredictor` on its flat `result` buffer — `data[rowStart]`, the
slice `data[rowStart+1 : rowStart+rowSize]`, `decodePNGRow` reading `result[i-bpp]`,
`prevRows[(rowNum-1)*rowLength+i]`, `prevRows[(rowNum-1)*rowLength+i-bpp]`, the `copy` back — is the
row-wise model, for all data and parameters -/
theorem png_buffers_refine (data : Str) (p : Params) : applyPNGPredictorFlat data p = applyPNGPredictor data p := by
  rw [applyPNGPredictorFlat_onRows, applyPNGPredictor_onRows]
  refine onRows_congr fun rb hrb hm => ?_
  obtain ⟨_, cs, _, hcs, _, h2, _, _⟩ := (predictorRowBytes_eq_some_iff _ _ rb).mp hrb
  have := pngFlatLoop_eq data (p.colors.getD 1).toNat rb (by omega) (data.length / (rb + 1)) 0 []
    nofun rfl (by rw [Nat.zero_add]; exact whole_rows hm)
  simpa using this

/-- `applyTIFFPredictor2` on its one buffer with `idx = rowStart + col` and
`result[idx-colors]` is the row-wise model, for all byte strings and parameters -/
theorem tiff_buffers_refine (data : Str) (p : Params) (hd : Bytes data) :
    applyTIFFPredictor2Flat data p = applyTIFFPredictor2 data p := by
  rw [applyTIFFPredictor2Flat_onRows, applyTIFFPredictor2_onRows]
  refine onRows_congr fun rb hrb hm => ?_
  obtain ⟨_, cs, _, hcs, _, h2, _, _⟩ := (predictorRowBytes_eq_some_iff _ _ rb).mp hrb
  have := tiffRowLoop_eq data rb (p.colors.getD 1).toNat (by omega) hd (data.length / rb) 0 []
    (List.replicate data.length 0)
    (by simp only [List.reverse_nil, List.flatten_nil, List.length_nil, Nat.zero_mul])
    (by rw [List.length_replicate]; exact whole_rows hm)
    (by rw [Nat.zero_mul, Nat.zero_add, List.length_replicate])
  simpa only [List.reverse_nil, List.flatten_nil, List.nil_append, Nat.zero_mul, List.drop_zero] using this

/-- the hypothesis of `tiff_buffers_refine` is needed: Go copies the first pixel unreduced -/
example : applyTIFFPredictor2Flat [300] {} = some [300] ∧ applyTIFFPredictor2 [300] {} = some [44] := by decide

/-- FlateDecode's post-processing over the buffer-level predictors -/
theorem flate_post_refines (params : Option Params) (dec : Str) (hd : Bytes dec) :
    flatePostFlat params dec = flatePost params dec := by
  unfold flatePostFlat flatePost
  cases params with
  | none => rfl
  | some p =>
    simp only
    cases p.predictor with
    | none => rfl
    | some pr =>
      simp only [applyPredictor]
      rw [png_buffers_refine, tiff_buffers_refine dec p hd]

/-- (no panic in the buffer code) with a valid geometry, whole rows
and filter-type bytes ≤ 4 — the cases in which the row-wise model cannot fail
(`C05Err.png_error_iff`) — the buffer-level PNG predictor returns bytes: none of its checked index
and slice expressions is out of range. The TIFF predictor returns bytes for every valid geometry
and whole rows. -/
theorem predictor_indices_in_range (data : Str) (p : Params) (rb : Nat) (hb : p.bpc.getD 8 = 8)
    (hrb : predictorRowBytes (p.columns.getD 1) (p.colors.getD 1) = some rb) :
    (data.length % (rb + 1) = 0 →
      (∀ k, k < data.length / (rb + 1) → ∃ t, data[k * (rb + 1)]? = some t ∧ t ≤ 4) →
      ∃ out, applyPNGPredictorFlat data p = some out) ∧
    (Bytes data → data.length % rb = 0 → ∃ out, applyTIFFPredictor2Flat data p = some out) := by
  -- by the refinements it is the row-wise model that must not fail; `png_error_iff` / `tiff_error_iff` say when it does
  refine ⟨fun hmod htags => ?_, fun hd hmod => ?_⟩
  · rw [png_buffers_refine, ← Option.ne_none_iff_exists', Ne, C05Err.png_error_iff, hrb]
    rintro (h | h | ⟨_, ⟨rfl⟩, h | ⟨k, t, hk, ht, ht4⟩⟩)
    · exact h hb
    · cases h
    · exact h hmod
    · obtain ⟨t', ht', ht4'⟩ := htags k hk
      cases ht.symm.trans ht'
      omega
  · rw [tiff_buffers_refine data p hd, ← Option.ne_none_iff_exists', Ne, C05Err.tiff_error_iff, hrb]
    rintro (h | h | ⟨_, ⟨rfl⟩, h⟩)
    · exact h hb
    · cases h
    · exact h hmod

example : predictorRowBytes (({ columns := some 3 } : Params).columns.getD 1) (({ columns := some 3 } : Params).colors.getD 1) = some 3 := by
  decide

/-- zlib hands on byte strings -/
def InflateBytes (inflate : Str → Option Str) : Prop := ∀ z dec, inflate z = some dec → Bytes dec

theorem stage_lit_refines (ext : Ext) (hinf : InflateBytes ext.inflate) (data name : Str) (params : Option Params) :
    decodeWithFilterLit ext data name params = decodeWithFilter ext data name params := by
  by_cases h1 : name = nFlateDecode ∨ name = nFl
  · rw [decodeWithFilterLit, if_pos h1, decodeWithFilter, if_pos h1]
    unfold flateDecodeLit flateDecode
    cases hi : ext.inflate data with
    | none => rfl
    | some dec => exact flate_post_refines params dec (hinf data dec hi)
  · by_cases h2 : name = nASCIIHexDecode ∨ name = nAHx
    · rw [decodeWithFilterLit, if_neg h1, if_pos h2, decodeWithFilter, if_neg h1, if_pos h2]
      exact hex_loops_refine data
    · by_cases h3 : name = nASCII85Decode ∨ name = nA85
      · rw [decodeWithFilterLit, if_neg h1, if_neg h2, if_pos h3, decodeWithFilter, if_neg h1, if_neg h2, if_pos h3]
        exact a85_loops_refine data
      · rw [decodeWithFilterLit, if_neg h1, if_neg h2, if_neg h3]

theorem chain_lit_refines (ext : Ext) (hinf : InflateBytes ext.inflate) (dp : DParms) :
    ∀ (fs : List FObj) (i : Nat) (data : Str), decodeChainLit ext dp fs i data = decodeChain ext dp fs i data := by
  intro fs
  induction fs with
  | nil => intro i data; rfl
  | cons f fs ih =>
    intro i data
    cases f with
    | other => rfl
    | name n =>
      simp only [decodeChainLit, decodeChain, stage_lit_refines ext hinf]
      cases decodeWithFilter ext data n (chainParams dp i) with
      | none => rfl
      | some d => exact ih (i + 1) d

/-- `Decode()` assembled from the loop-level decoders and the buffer-level
predictors returns, for every stream dictionary and all data, what `streamDecodeD` returns -/
theorem decode_lit_refines (ext : Ext) (hinf : InflateBytes ext.inflate) (d : Dict) (data : Str) :
    streamDecodeDLit ext d data = streamDecodeD ext d data := by
  unfold streamDecodeDLit streamDecodeD streamDecodeLit streamDecode
  cases objToFilter (dictGet d kFilter) with
  | absent => rfl
  | one o =>
    cases o with
    | other => rfl
    | name n => exact stage_lit_refines ext hinf data n _
  | array fs => exact chain_lit_refines ext hinf _ fs 0 data

/-- the first sentence of the property over the loop-level model:
for every pipeline (any length; ASCIIHex, ASCII85, Flate with no / TIFF / PNG predictor at any
geometry and per-row filter types), every conforming encoding `y` of `x` and every conforming
dictionary, the Go-shaped loops and buffers return `x` -/
theorem decode_inverts_encoding_lit (ext : Ext) (hinf : InflateBytes ext.inflate) (stages : List WStage) (d : Dict)
    (x y : Str) (hd : C05E.Conforming d stages) (hw : C05E.ChainWrites ext.inflate stages x y) :
    streamDecodeDLit ext d y = some x := by
  rw [decode_lit_refines ext hinf, C05E.decode_inverts_encoding ext stages d x y hd hw]

/-- the second sentence: the loop-level `Decode()` returns an error exactly
when `streamDecodeD` does (so `C05Err.decode_error_iff` characterises its errors too), and never
bytes other than `streamDecodeD`'s -/
theorem decode_error_lit (ext : Ext) (hinf : InflateBytes ext.inflate) (d : Dict) (data : Str) :
    (streamDecodeDLit ext d data = none ↔ streamDecodeD ext d data = none) ∧
    (∀ y, streamDecodeDLit ext d data = some y ↔ streamDecodeD ext d data = some y) := by
  rw [decode_lit_refines ext hinf]
  exact ⟨Iff.rfl, fun _ => Iff.rfl⟩

/-- a "stored" compressor's inverse: the identity on byte strings -/
def storedInflate (z : Str) : Option Str := if z.all (· < 256) = true then some z else none

theorem storedInflate_bytes : InflateBytes storedInflate := by
  intro z dec h
  unfold storedInflate at h
  by_cases hall : z.all (· < 256) = true
  · rw [if_pos hall] at h
    simp only [Option.some.injEq] at h
    subst h
    intro b hb
    simpa using List.all_eq_true.mp hall b hb
  · rw [if_neg hall] at h
    exact absurd h (by simp)

/-- `<< /Filter [/AHx /Fl] /DecodeParms [null << /Predictor 12 /Columns 3 >>] >>` through the loops
and buffers: hexadecimal, "inflate" (identity), PNG Up on two rows -/
example : streamDecodeDLit { inflate := storedInflate, ccitt := fun _ _ => none }
    [(kDecodeParms, .array [.null, .dict [(kColumns, .int 3), (kPredictor, .int 12)]]),
     (kFilter, .array [.name nAHx, .name nFl])]
    [48, 50, 32, 48, 49, 48, 50, 10, 48, 51, 48, 50, 48, 51, 48, 51, 48, 51, 62, 120] = some [1, 2, 3, 4, 5, 6] := by
  rw [decode_lit_refines _ storedInflate_bytes]
  decide

end Tabula.C05Lit
