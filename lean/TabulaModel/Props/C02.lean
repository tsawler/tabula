import TabulaModel.Props.C02More
/-!
# C02 — No input can crash, hang or exhaust the process (logic core)

A theorem cannot exhibit a Go panic or an allocation; what is proved here is that the
*validated* quantities the code computes with are in bounds, and that the
traversals guarded by a visited set make progress. What each guard accepts is said exactly in
`Props/C02More.lean`; the bounds here are the halves of it that the property is stated with.
Termination of the other modelled loops is carried by their own files: `/Prev` chains
(`Xref.chainFrom`, C04), the filters (C05), the parsers (C06), the splitter (C13) — all total
definitions accepted by Lean's termination checker. Everything else in C02 is explored by the fault catalogue, not proved.
-/
namespace Tabula.C02
open Tabula.Bounds

theorem checkW_pos (w : List Int) (ew : Nat) (h : checkW w = some ew) : 0 < ew := by
  obtain ⟨-, -, -, -, -, -, -, -, -, -, -, hpos⟩ := (C02More.checkW_iff w ew).mp h
  exact hpos

theorem checkIndex_le (cap : Nat) (index : List Int) (total n : Nat) (ht : total ≤ cap)
    (h : checkIndex cap index total = some n) : total ≤ n ∧ n ≤ cap := by
  obtain ⟨-, -, hfit, rfl⟩ := (C02More.checkIndex_iff cap index total n ht).mp h
  exact ⟨Nat.le_add_right _ _, hfit⟩

/-- **xref_stream_in_bounds**: when the layout of a cross-reference stream is accepted, the
entry width is positive and all announced entries lie inside the decoded data — so every
slice `data[j*ew : (j+1)*ew]`, `j < n`, is in range and the entry loop runs at most
`dataLen` times, whatever `/W`, `/Index` and `/Size` say. -/
theorem xref_stream_in_bounds (w index : List Int) (dataLen ew n : Nat)
    (h : checkXRefStream w index dataLen = some (ew, n)) :
    0 < ew ∧ n * ew ≤ dataLen ∧ n ≤ dataLen := by
  obtain ⟨hw, -, -, hfit, rfl⟩ := (C02More.xref_stream_accepted_iff w index dataLen ew n).mp h
  have hpos := checkW_pos w ew hw
  exact ⟨hpos, hfit, Nat.le_trans (Nat.le_mul_of_pos_right _ hpos) hfit⟩

/-- hostile layouts are refused (examples from the fault catalogue) -/
example : checkXRefStream [0, 0, 0] [0, 1000000] 40 = none := by decide +kernel
example : checkXRefStream [1, -4, 2] [0, 3] 40 = none := by decide +kernel
example : checkXRefStream [1, 4, 2] [0, 3, 7] 40 = none := by decide +kernel
example : checkXRefStream [1, 4, 2] [0, 6] 40 = none := by decide +kernel
/-- non-vacuity: an ordinary layout is accepted -/
example : checkXRefStream [1, 4, 2] [0, 3, 7, 2] 35 = some (7, 5) := by decide +kernel

/-- **grid_bounded**: a worksheet grid that is allocated has at most the cells still
available in the workbook's budget plus 16 for every cell element its part brings, whatever
row numbers and column references the file contains. -/
theorem grid_bounded (used elems maxRow maxCol : Nat) (h : gridAcceptedE used elems maxRow maxCol = true) :
    maxRow * (maxCol + 1) ≤ maxGridCells - used + gridCellsPerElement * elems :=
  (C02More.grid_accepted_iff used elems maxRow maxCol).mp h

/-- a dense sheet is always allocated: as many cell elements as a sixteenth of the grid -/
theorem grid_dense_accepted (used elems maxRow maxCol : Nat)
    (h : maxRow * (maxCol + 1) ≤ gridCellsPerElement * elems) :
    gridAcceptedE used elems maxRow maxCol = true :=
  (C02More.grid_accepted_iff used elems maxRow maxCol).mpr (by omega)

example : gridAccepted 1048576 16383 = false := by decide +kernel
example : gridAccepted 200 701 = true := by decide +kernel
example : gridAccepted 1 8388608 = true := by decide      -- 8 Mi + 1 cells, 16 are allowed for the one element
example : gridAccepted 1 8388624 = false := by decide +kernel


/-- **traversal_terminates**: for every object graph — cyclic, self-referencing, shared
subtrees — the page-tree walk ends within (number of objects + 2) steps with a page list or
an error; it never runs out of fuel. -/
theorem traversal_terminates (g : Graph) (kids : List Nat) : loadPages g kids ≠ none :=
  trun_fresh_ne_none g _ kids [] (by omega)

/-- a node that lists itself, and a tree that lists an ancestor, are errors, not loops -/
example : loadPages [(1, .pages [1])] [1] = some none := by decide +kernel
example : loadPages [(1, .pages [2]), (2, .pages [1, 3]), (3, .page)] [1] = some none := by decide +kernel
/-- non-vacuity: an ordinary two-level tree yields its leaves in order -/
example : loadPages [(1, .pages [2, 5]), (2, .pages [3, 4]), (3, .page), (4, .page), (5, .page)] [1]
    = some (some [3, 4, 5]) := by decide +kernel

end Tabula.C02
