import TabulaModel.Lemmas.SplitApi
import TabulaModel.Lemmas.ListBasics
import TabulaModel.Props.C13
import TabulaModel.Lemmas.SplitScans
import TabulaModel.Lemmas.Conserve
import TabulaModel.Lemmas.Aligned
/-!
# C13 — the public entry points around the split mechanism

`SizeCalculator.Calculate/GetSize`, `FindSplitPoint(At)` with caller-supplied boundaries
(`findBestBoundaryNear`), the preset constructors of `rag/size_config.go`, and the size bound
through `ChunkDocumentWithConfig`.  Model: `Model/Split.lean`; helper lemmas:
`Lemmas/SplitApi.lean`.  Ops: `c13.splitb`, `c13.fsp`, `c13.size`, `c13.preset`.
-/
set_option linter.unusedVariables false
namespace Tabula.C13Api
open Tabula.Split

/-- `GetSize(text, unit)` is `Calculate(text).GetByUnit(unit)` for every unit -/
theorem getSize_calculate (c : SizeConfig) (s : Str) (u : SizeUnit) :
    (calculate c s).getByUnit u = getSize c s u := by
  cases u <;> rfl

/-- `IsAboveMax` is `ExceedsLimit` at the configured maximum -/
theorem isAboveMax_exceedsLimit (c : SizeConfig) (s : Str) :
    isAboveMax c s = exceedsLimit c s c.maxValue c.maxUnit := rfl

/-- a non-empty text within the maximum is returned as the only piece, unchanged (not even
trimmed), whatever the boundaries -/
theorem split_within_max (c : SizeConfig) (text : Str) (bs : List Boundary)
    (hne : text ≠ []) (hfit : isAboveMax c text = false) : splitToSize c text bs = [text] :=
  splitToSize_whole hne (.inl hfit)

theorem split_empty (c : SizeConfig) (bs : List Boundary) : splitToSize c [] bs = [] :=
  splitToSize_nil c bs

example : splitToSize defaultSizeConfig [32, 97, 32] [] = [[32, 97, 32]] := by decide +kernel

/-- **boundary_choice.** When `FindSplitPointAt` returns a supplied boundary it is one of the
given boundaries, lies within `target ± target/4` bytes of the byte position of the limit,
has a score above -1, and no supplied boundary in that window has a higher score. -/
theorem boundary_choice (bs : List Boundary) (target : Nat) (b : Boundary)
    (h : findBestBoundaryNear bs target (target / 4) = some b) :
    b ∈ bs ∧ (target - target / 4 ≤ b.pos ∧ b.pos ≤ target + target / 4) ∧ -1 < b.score ∧
      ∀ x ∈ bs, target - target / 4 ≤ x.pos → x.pos ≤ target + target / 4 → x.score ≤ b.score := by
  obtain ⟨h1, h2, h3, h4⟩ := findBestBoundaryNear_some h
  exact ⟨h1, h2, h3, fun x hx hlo hhi => h4 x hx ⟨hlo, hhi⟩⟩

/-- **split_point_cases.** `FindSplitPointAt` returns the text length (limit not inside the
text), or the position of the chosen boundary (semantic splitting on and a boundary in the
window), or what the sentence/word/character search `findSentenceEndNear` finds. -/
theorem split_point_cases (c : SizeConfig) (text : Str) (bs : List Boundary) (limit : Nat) (u : SizeUnit) :
    (text.length ≤ targetPosOf c limit u ∧ findSplitPointAt c text bs limit u = text.length)
    ∨ (∃ b, c.sem = true ∧ findBestBoundaryNear bs (targetPosOf c limit u) (targetPosOf c limit u / 4) = some b
          ∧ findSplitPointAt c text bs limit u = b.pos)
    ∨ findSplitPointAt c text bs limit u = findSentenceEndNear text (targetPosOf c limit u) := by
  rcases findSplitPointAt_cases c text bs limit u with h | ⟨_, h | h⟩
  · exact .inl h
  · exact .inr (.inl h)
  · exact .inr (.inr h)

/-- without semantic splitting the boundaries are not consulted at all -/
theorem boundaries_ignored_without_sem (c : SizeConfig) (hs : c.sem = false) (text : Str)
    (bs : List Boundary) (limit : Nat) (u : SizeUnit) :
    findSplitPointAt c text bs limit u = findSplitPointAt c text [] limit u := by
  unfold findSplitPointAt
  simp [hs]

/-- **split_without_sem.** With `SplitAtSemanticBoundaries` off, `SplitToSize(text, boundaries)`
is `SplitToSize(text, nil)` for every list of boundaries: UTF-8 integrity and the size bound
then hold whatever the caller passes. -/
theorem split_without_sem (c : SizeConfig) (hs : c.sem = false) (text : Str) (bs : List Boundary) :
    splitToSize c text bs = splitToSize c text [] :=
  splitToSize_eq_nil_of (Good := fun _ => True) (fun _ _ _ => trivial)
    (fun text bs _ => boundaries_ignored_without_sem c hs text bs _ _) text bs trivial

/-- **the size bound needs `boundaries = nil` (or semantic splitting off).** The window for a
supplied boundary reaches 25 % beyond the byte position of the limit: "word " × 60 at 200
characters with a boundary at 250 gives a first piece of 249 bytes. -/
theorem split_bound_boundaries_counterexample :
    Spaced exampleText ∧ exampleConfig.maxValue = 200
      ∧ (splitToSize exampleConfig exampleText [⟨250, 70⟩]).map List.length = [249, 49] :=
  ⟨spaced_exampleText, rfl, by decide +kernel⟩

/-- non-vacuity: two boundaries in the window, the higher score wins -/
example :
    (findBestBoundaryNear [⟨90, 20⟩, ⟨110, 70⟩, ⟨300, 100⟩] 100 25).map (·.pos) = some 110 := by decide

/-- **split_utf8 with boundaries needs boundaries ON character boundaries.** A supplied boundary
is used as it is: "aaaaaaaa␠␠日本語日本語" at 10 characters with a boundary at 11 (inside the
first "日") is cut inside that character.  For boundaries on character boundaries of the text
UTF-8 integrity and character conservation are theorems (`C13Boundaries.split_utf8_aligned`,
`split_conserves_characters_aligned`), and every list `DetectBoundaries` returns is one
(`C13Boundaries.detect_boundaries_aligned`).  Before fix cf372da boundaries on
character boundaries (8 and 16 in this text) were enough to cut a character: `SplitToSize`
trimmed the remaining text but shifted the boundaries by the split position only, so they
drifted by the white space trimmed. -/
theorem split_utf8_boundaries_counterexample :
    let c : SizeConfig := { maxValue := 10, maxUnit := .characters, tpcNum := 1, tpcDen := 4, sem := true }
    let text : Str := [97,97,97,97,97,97,97,97, 32,32, 0xE6,0x97,0xA5, 0xE6,0x9C,0xAC, 0xE8,0xAA,0x9E,
      0xE6,0x97,0xA5, 0xE6,0x9C,0xAC, 0xE8,0xAA,0x9E]
    validUtf8 text = true ∧ validUtf8 (text.take 11) = false
      ∧ ¬ ∀ p ∈ splitToSize c text [⟨11, 70⟩], validUtf8 p = true := by
  decide +kernel

/-- **doc_bound.** Size bound through `ChunkDocumentWithConfig` on a page of paragraphs: hard
maximum in characters or tokens, `M ≥ 200`, at most 4 tokens per byte, the accumulated block
text has a space at least every 50 bytes ⇒ every chunk text has size `≤ M`. -/
theorem doc_bound (c : SizeConfig) (paras : List Str)
    (hunit : c.maxUnit = .characters ∨ c.maxUnit = .tokens)
    (hM : 200 ≤ c.maxValue)
    (hratio : c.ratio.1 ≤ 4 * c.ratio.2)
    (hsp : Spaced (joinParagraphs paras)) :
    ∀ p ∈ docChunks c paras, getSize c p c.maxUnit ≤ c.maxValue := by
  intro p hp
  rw [docChunks_eq] at hp
  obtain ⟨q, hq, rfl⟩ := List.mem_map.mp hp
  exact Nat.le_trans (getSize_mono hunit (trimSpace_length_le _))
    (Tabula.C13.split_bound c _ hunit hM hratio hsp q hq)

/-- non-vacuity: "word " × 60 as one paragraph -/
example :
    Spaced (joinParagraphs [exampleText])
      ∧ (docChunks exampleConfig [exampleText]).map List.length = [199, 99] := by
  have e : joinParagraphs [exampleText] = exampleText := rfl
  refine ⟨e ▸ spaced_exampleText, ?_⟩
  rw [docChunks_eq, e, splitToSize_exampleText]
  decide +kernel

/-- **split_bound_presets.** Every preset constructor of `size_config.go` without parameters
(`DefaultSizeConfig`, `MediumChunkConfig`, `SmallChunkConfig`, `LargeChunkConfig`,
`OpenAIEmbeddingConfig`, `CohereEmbeddingConfig`, `ClaudeContextConfig`) satisfies the
hypotheses of the size bound: on a text with a space every 50 bytes no piece exceeds the
preset's hard maximum. -/
theorem split_bound_presets (name : String) (c : SizeConfig) (hc : presetByName name = some c)
    (text : Str) (hsp : Spaced text) :
    ∀ p ∈ splitToSize c text [], getSize c p c.maxUnit ≤ c.maxValue := by
  have key : (c.maxUnit = .characters ∨ c.maxUnit = .tokens) ∧ 200 ≤ c.maxValue
      ∧ c.ratio.1 ≤ 4 * c.ratio.2 :=
    presetByName_forall (P := fun c => (c.maxUnit = .characters ∨ c.maxUnit = .tokens)
      ∧ 200 ≤ c.maxValue ∧ c.ratio.1 ≤ 4 * c.ratio.2) (by decide) hc
  exact Tabula.C13.split_bound c text key.1 key.2.1 key.2.2 hsp

/-- … and `TokenBasedSizeConfig(t, m)` for every `m ≥ 200` -/
theorem split_bound_token_based (maxTokens : Nat) (hM : 200 ≤ maxTokens) (text : Str) (hsp : Spaced text) :
    ∀ p ∈ splitToSize (tokenBasedSizeConfig maxTokens) text [],
      estimateTokens (tokenBasedSizeConfig maxTokens) p ≤ maxTokens :=
  Tabula.C13.split_bound (tokenBasedSizeConfig maxTokens) text (Or.inr rfl) hM
    (by simp [tokenBasedSizeConfig, SizeConfig.ratio]) hsp

example : presetByName "cohere" = some cohereEmbeddingConfig ∧ cohereEmbeddingConfig.maxValue = 512 :=
  ⟨rfl, rfl⟩

/-- the paragraphs of a page joined by blank lines carry the paragraphs' content -/
theorem joinParagraphs_content (paras : List Str) (hv : ∀ p ∈ paras, validUtf8 p = true) :
    validUtf8 (joinParagraphs paras) = true
      ∧ stripWs (joinParagraphs paras) = paras.flatMap stripWs :=
  ⟨(validUtf8_iff_illFormed _).mpr ((reads_joinParagraphs reads_illFormed paras).trans
      (flatMap_illFormed.mpr hv)), reads_joinParagraphs reads_stripWs paras⟩

/-- **split_property.** The statement of C13 for `SplitToSize(text, nil)`, for every valid
UTF-8 text and every size configuration (all five units, any limit, any ratio): the call
terminates (the definition is total) with non-empty, valid UTF-8 pieces that together
contain exactly the non-whitespace characters of the text, in order; and when the hard
maximum is in characters or tokens (`M ≥ 200`, ≤ 4 tokens per byte) and the text has a space
at least every 50 bytes, no piece exceeds the maximum. -/
theorem split_property (c : SizeConfig) (text : Str) (hv : validUtf8 text = true) :
    (splitToSize c text []).flatMap stripWs = stripWs text
    ∧ (∀ p ∈ splitToSize c text [], validUtf8 p = true ∧ p ≠ [])
    ∧ ((c.maxUnit = .characters ∨ c.maxUnit = .tokens) → 200 ≤ c.maxValue →
        c.ratio.1 ≤ 4 * c.ratio.2 → Spaced text →
        ∀ p ∈ splitToSize c text [], getSize c p c.maxUnit ≤ c.maxValue) := by
  have hval := Tabula.C13.split_utf8 c text hv
  refine ⟨splitToSize_content c text [] rfl, ?_, ?_⟩
  · intro p hp
    exact ⟨hval p hp, Tabula.C13.split_pieces_nonempty c text [] p hp⟩
  · intro hunit hM hratio hsp
    exact Tabula.C13.split_bound c text hunit hM hratio hsp

/-- **split_conserves_characters.** Conservation at the level of characters for EVERY text, ill-formed
UTF-8 included (a byte that is not part of a well-formed character counts as a character, as
in the harness oracle `C13/conserves-nonspace`), every size configuration: the non-whitespace
characters of the pieces of `SplitToSize(text, nil)`, concatenated, are exactly those of the
text.  (No split point lies strictly inside a well-formed character, whatever the bytes:
`notCovered_findSplitPointAt`.) -/
theorem split_conserves_characters (c : SizeConfig) (text : Str) :
    (splitToSize c text []).flatMap stripWs = stripWs text :=
  splitToSize_content c text [] rfl

/-- … and through `ChunkDocumentWithConfig` (any bytes) -/
theorem doc_conserves_characters (c : SizeConfig) (paras : List Str) :
    (docChunks c paras).flatMap stripWs = stripWs (joinParagraphs paras) :=
  reads_docChunks reads_stripWs c paras

/-- non-vacuity: ill-formed text (a lone continuation byte, a truncated sequence) at 4 bytes -/
example :
    let c : SizeConfig := { maxValue := 4, maxUnit := .characters, tpcNum := 1, tpcDen := 4, sem := true }
    let text : Str := [0xE6,0x97, 0x20, 0xA5, 0xE6,0x97,0xA5, 0xC2, 0xA0, 0xE6,0x97,0xA5, 0x80]
    validUtf8 text = false ∧ (splitToSize c text []).length = 3
      ∧ (splitToSize c text []).flatMap stripWs = stripWs text := by decide +kernel

/-- for ANY bytes and ANY boundaries the structural form of conservation still holds
(`C13.split_conserves`); for valid pieces it gives the character-level form -/
theorem split_nonspace_of_valid_pieces (c : SizeConfig) (text : Str) (bs : List Boundary)
    (hval : ∀ p ∈ splitToSize c text bs, validUtf8 p = true) :
    (splitToSize c text bs).flatMap stripWs = stripWs text :=
  (splitToSize_pieces c text bs).reads_eq reads_stripWs hval

/-- **doc_property.** The same through `ChunkDocumentWithConfig` on a page of valid UTF-8
paragraphs: the chunk texts are valid UTF-8 and contain exactly the non-whitespace characters
of the paragraphs, in order; under the hypotheses of the size bound none exceeds the maximum. -/
theorem doc_property (c : SizeConfig) (paras : List Str) (hv : ∀ p ∈ paras, validUtf8 p = true) :
    (docChunks c paras).flatMap stripWs = paras.flatMap stripWs
    ∧ (∀ p ∈ docChunks c paras, validUtf8 p = true)
    ∧ ((c.maxUnit = .characters ∨ c.maxUnit = .tokens) → 200 ≤ c.maxValue →
        c.ratio.1 ≤ 4 * c.ratio.2 → Spaced (joinParagraphs paras) →
        ∀ p ∈ docChunks c paras, getSize c p c.maxUnit ≤ c.maxValue) := by
  obtain ⟨hj, hs⟩ := joinParagraphs_content paras hv
  have hval := Tabula.C13.doc_utf8 c paras hj
  exact ⟨(doc_conserves_characters c paras).trans hs, hval,
    fun hunit hM hratio hsp => doc_bound c paras hunit hM hratio hsp⟩

/-- **doc_pages_property.** `ChunkDocumentWithConfig` on any number of pages of valid UTF-8
paragraphs: conservation, UTF-8 integrity and (under its hypotheses, page by page) the size
bound hold for the whole document. -/
theorem doc_pages_property (c : SizeConfig) (pages : List (List Str))
    (hv : ∀ ps ∈ pages, ∀ p ∈ ps, validUtf8 p = true) :
    (docChunksPages c pages).flatMap stripWs = pages.flatten.flatMap stripWs
    ∧ (∀ p ∈ docChunksPages c pages, validUtf8 p = true)
    ∧ ((c.maxUnit = .characters ∨ c.maxUnit = .tokens) → 200 ≤ c.maxValue →
        c.ratio.1 ≤ 4 * c.ratio.2 → (∀ ps ∈ pages, Spaced (joinParagraphs ps)) →
        ∀ p ∈ docChunksPages c pages, getSize c p c.maxUnit ≤ c.maxValue) := by
  unfold docChunksPages
  refine ⟨?_, fun p hp => ?_, fun hunit hM hratio hsp p hp => ?_⟩
  · rw [List.flatMap_assoc, List.flatten_eq_flatMap, List.flatMap_assoc]
    exact List.flatMap_congr fun ps hps => (doc_property c ps (hv ps hps)).1
  · obtain ⟨ps, hps, hp⟩ := List.mem_flatMap.mp hp
    exact (doc_property c ps (hv ps hps)).2.1 p hp
  · obtain ⟨ps, hps, hp⟩ := List.mem_flatMap.mp hp
    exact (doc_property c ps (hv ps hps)).2.2 hunit hM hratio (hsp ps hps) p hp

/-- non-vacuity: a Japanese sentence with an ideographic space, split at 10 bytes -/
example :
    let c : SizeConfig := { maxValue := 10, maxUnit := .characters, tpcNum := 1, tpcDen := 4, sem := true }
    let text : Str := [0xE6,0x97,0xA5, 0xE6,0x9C,0xAC, 0xE8,0xAA,0x9E, 0xE3,0x80,0x80, 0xE3,0x81,0xAE, 0xE6,0x96,0x87,
      0xE7,0xAB,0xA0, 0xE3,0x81,0xAF, 0xE7,0xA9,0xBA]
    validUtf8 text = true ∧ (splitToSize c text []).length = 3
      ∧ stripWs text = text.take 9 ++ text.drop 12 := by decide +kernel

end Tabula.C13Api
