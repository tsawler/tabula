import TabulaModel.Props.C08
import TabulaModel.Lemmas.Dyck
/-!
# C08 — the q/Q stack over arbitrary operator histories

`qQ_restores` (Props/C08.lean) is about balanced programs.  This file is about all the
others:

* `exec_depth`: on every page program (any operators, any number of unmatched `q` or `Q`;
  forms with balanced content anywhere) `Extract` fails exactly when the q/Q counter
  `depthAfter` underflows, and otherwise ends with exactly the counted number of saved
  states — the extractor keeps no other record of `q`;
* what `Do` does with a form whose content is NOT balanced (outside ISO 32000-1 8.4.2; the
  extractor ignores a failing `Q` inside a form and restores "what is on top" afterwards):
  `form_unclosed_q` (one `q` too many: the page continues inside the form's coordinate
  system) and `form_extra_Q` (one `Q` too many: the rest of the form runs in the page's own
  state and the page loses one of its saved states), for arbitrary balanced pieces around
  the unmatched operator; `do_never_fails`.
-/
namespace Tabula.C08Stack
open Tabula Tabula.Matrix Tabula.GState Tabula.XDoc Tabula.C08

variable {α : Type} [Lean.Grind.CommRing α] [DecidableEq α] [LT α] [DecidableLT α]

/-- **`Extract` fails exactly when the q/Q counter underflows, and keeps exactly the
counted number of saved states**: for every program whose forms have balanced content
(`Do`-free programs in particular) — any operators, unmatched `q` and `Q` in any number and
order — and every starting state, `depthAfter` (count up at `q`, down at `Q`, fail at 0;
nothing else counts) started at the current stack depth is `none` iff the extractor
returns an error, and otherwise is the stack depth it ends with. -/
theorem exec_depth (adv : Adv α) (ops : List (Op α)) (h : FormsBalanced ops) (s : State α) :
    (exec adv ops s).map (·.1.stack.length) = depthAfter s.stack.length ops := by
  induction ops generalizing s with
  | nil => rfl
  | cons op rest ih =>
    -- an operator that succeeds leaves the rest of the program to count from the stack it leaves
    have key : (step adv op s).2.2 = false →
        (exec adv (op :: rest) s).map (·.1.stack.length) = depthAfter (step adv op s).1.stack.length rest := by
      intro he
      rw [exec_cons, he, ← ih h.tail]
      cases exec adv rest (step adv op s).1 <;> rfl
    by_cases hp : op.plain = true
    · obtain ⟨he, hs, _⟩ := stepBasic_plain adv op hp s
      have hst := step_of_not_form adv (plain_not_form hp) s
      rw [depthAfter_other _ _ _ (by rintro rfl; cases hp) (by rintro rfl; cases hp), key (hst ▸ he), hst, hs]
    · cases op <;> first | exact absurd rfl hp | skip
      · exact key rfl
      · obtain ⟨c, st, d⟩ := s
        cases st with
        | nil => rfl
        | cons f fs => exact key rfl
      · rename_i m body
        -- a form with balanced content gives the state back (below or at the nesting limit)
        have hstep := step_form_of_balanced adv m (h m body List.mem_cons_self) s
        rw [depthAfter_other _ _ _ (by intro hc; cases hc) (by intro hc; cases hc), key (congrArg (·.2.2) hstep), hstep]

theorem exec_fails_iff_counter (adv : Adv α) (ops : List (Op α)) (h : FormsBalanced ops) (s : State α) :
    exec adv ops s = none ↔ depthAfter s.stack.length ops = none := by
  rw [← exec_depth adv ops h s]
  cases exec adv ops s <;> simp

/-- three unmatched `q`, then five `Q`: the fourth `Q` fails — and with one more saved
state to start from, the fifth -/
example : depthAfter 0 ([.q, .cm ⟨2, 0, 0, 2, 0, 0⟩, .q, .BT, .q, .Q, .Q, .Tj 0, .Q, .Q, .Q] : List (Op Int)) = none ∧
    depthAfter 0 ([.q, .cm ⟨2, 0, 0, 2, 0, 0⟩, .q, .BT, .q, .Q, .Tj 0] : List (Op Int)) = some 2 := by
  decide

/-- **`Do` never fails**, whatever the form's content is: errors of the operations of a
form are dropped ("Continue processing despite errors") -/
theorem do_never_fails (adv : Adv α) (m : Option (Matrix α)) (body : List (Op α)) (s : State α) :
    (step adv (.form m body) s).2.2 = false := by
  simp only [step]
  split <;> rfl

/-- **one `q` too many**: a form whose content is `b0 q b1` with balanced `b0`, `b1`
(invoked below the nesting limit).  What is reported begins with the fragments of `b0`; the `Q`
the extractor executes on the way out closes the form's unmatched `q`, not the extractor's
own `Save` — so afterwards the page is in the state `b0` ended in INSIDE the form (the
form's `/Matrix` still applied to the CTM, its text state), and the state the page had is
one level down the stack: the page continues as if `q /Matrix cm b0` had been written on it
and never closed. -/
theorem form_unclosed_q (adv : Adv α) (m : Option (Matrix α)) (b0 b1 : List (Op α))
    (h0 : Balanced b0) (h1 : Balanced b1) (s : State α) (hd : s.xdepth < maxXObjectDepth) :
    ∃ s2 o0 o1, runForm adv b0 (formEnter m s) = (s2, o0) ∧
      step adv (.form m (b0 ++ Op.q :: b1)) s =
        ({ cur := s2.cur, stack := s.cur :: s.stack, xdepth := s.xdepth }, o0 ++ o1, false) := by
  obtain ⟨s2, o0, _, r0, st0, d0⟩ := balanced_exec adv h0 (formEnter m s)
  obtain ⟨s3, o1, _, r1, st1, d1⟩ := balanced_exec adv h1 s2.save
  rw [formEnter_stack] at st0; rw [formEnter_xdepth] at d0
  have hrun : runForm adv (b0 ++ Op.q :: b1) (formEnter m s) = (s3, o0 ++ ([] ++ o1)) :=
    runForm_append_eq r0 (runForm_cons_eq (by intro m b h; cases h)
      (rfl : stepBasic adv Op.q s2 = (s2.save, [], false)) r1)
  have hexit : formExit s3 = { cur := s2.cur, stack := s.cur :: s.stack, xdepth := s.xdepth } := by
    obtain ⟨c, st, d⟩ := s3
    cases (st1.trans (congrArg (s2.cur :: ·) st0) : st = _)
    cases (d1.trans d0 : d = _)
    rfl
  refine ⟨s2, o0, o1, r0, ?_⟩
  simp only [step, if_neg (Nat.not_le.mpr hd), hrun, hexit, List.nil_append]

/-- **one `Q` too many**: a form whose content is `b0 Q b1` with balanced `b0`, `b1`.  The
unmatched `Q` pops the extractor's own `Save`: `b1` runs in the page's own graphics state
(the `/Matrix` is gone), and the `Q` on the way out takes one of the PAGE's saved states —
or, when the page has none, fails silently and leaves whatever `b1` did to the CTM and the
text state in force on the page. -/
theorem form_extra_Q (adv : Adv α) (m : Option (Matrix α)) (b0 b1 : List (Op α))
    (h0 : Balanced b0) (h1 : Balanced b1) (s : State α) (hd : s.xdepth < maxXObjectDepth) :
    ∃ o0 s3 o1, runForm adv b1 { s with xdepth := s.xdepth + 1 } = (s3, o1) ∧
      step adv (.form m (b0 ++ Op.Q :: b1)) s =
        ((match s.stack with
          | [] => { s3 with xdepth := s.xdepth }
          | f :: rest => { cur := f, stack := rest, xdepth := s.xdepth }), o0 ++ o1, false) := by
  obtain ⟨s2, o0, _, r0, st0, d0⟩ := balanced_exec adv h0 (formEnter m s)
  obtain ⟨s3, o1, _, r1, st1, d1⟩ := balanced_exec adv h1 { s with xdepth := s.xdepth + 1 }
  rw [formEnter_stack] at st0; rw [formEnter_xdepth] at d0
  have hQ : stepBasic adv Op.Q s2 = ({ s with xdepth := s.xdepth + 1 }, [], false) := by
    simp only [stepBasic, restore_save (s := { s with xdepth := s.xdepth + 1 }) st0 d0]
  have hrun : runForm adv (b0 ++ Op.Q :: b1) (formEnter m s) = (s3, o0 ++ ([] ++ o1)) :=
    runForm_append_eq r0 (runForm_cons_eq (by intro m b h; cases h) hQ r1)
  have hexit : formExit s3 = (match s.stack with
      | [] => { s3 with xdepth := s.xdepth }
      | f :: rest => { cur := f, stack := rest, xdepth := s.xdepth }) := by
    obtain ⟨c, st, d⟩ := s3
    cases st1; cases d1
    cases hs : s.stack <;> simp only [formExit, State.restore, hs] <;> rfl
  refine ⟨o0, s3, o1, r1, ?_⟩
  simp only [step, if_neg (Nat.not_le.mpr hd), hrun, hexit, List.nil_append]

/-- both at work (the two unbalanced witnesses of the harness): a form `BT 1 1 Td (a) Tj Q
(b) Tj` under `q 2 0 0 2 3 4 cm`: `b` is shown in the page's state and the page's `q` is
gone afterwards; a form `3 0 0 3 0 0 cm q 5 0 0 5 0 0 cm` leaves the page scaled by 3 -/
example :
    (step (fun _ _ => 0) (.form (some ⟨0, 1, -1, 0, 30, 40⟩) [.BT, .Td 1 1, .Tj 0, .Q, .Tj 1])
      (step (fun _ _ => 0) (.cm ⟨2, 0, 0, 2, 3, 4⟩) (step (fun _ _ => 0) .q (init : State Int)).1).1).1.stack.length = 0 ∧
    (step (fun _ _ => 0) (.form none [.cm ⟨3, 0, 0, 3, 0, 0⟩, .q, .cm ⟨5, 0, 0, 5, 0, 0⟩]) (init : State Int)).1.cur.ctm = ⟨3, 0, 0, 3, 0, 0⟩ := by
  simp [step, runForm, stepBasic, formEnter, formExit, maxXObjectDepth, init, initText, State.save,
    State.restore, State.transform, State.beginText, State.translateText, State.mapText, showText,
    State.advanceText, State.getTextPosition, Matrix.mul, Matrix.identity, Matrix.translate]

end Tabula.C08Stack
