import TabulaModel.Props.C08
import TabulaModel.Lemmas.Inline
import TabulaModel.Lemmas.GSim
/-!
# C08 — the extractor commutes with an outer change of device coordinates; frame rule for q/Q

The theorems of `Props/C08.lean` say where ONE operator puts the next fragment.  This file
is about whole runs, for every program (any length, any q/Q history, arbitrary Form
XObjects nested to any depth, balanced or not, any glyph advances):

* `exec_post` / `run_post`: "the reported origin is the text-space origin mapped through the
  text matrix and THEN the current transformation matrix" as a law of the whole extractor:
  if the CTM of the current graphics state and of every saved state is followed by one more
  matrix `C` (`post C`), the run fails in exactly the same cases, ends in the same state
  followed by `C`, and reports exactly the same fragments with every origin mapped through
  `C` — dirty or clean, inside forms or not.  Nothing of the text state ever depends on
  the CTM (`exec_post_text`).
* `run_leading_cm`: a page that begins with `C cm` reports the fragments of the rest of the
  page moved through `C`.
* `run_translated`: for a translation the complete fragments (font-size factors included)
  are the old ones shifted by `(e, f)`.
* `post_post`, `post_identity`: these changes of coordinates compose like matrices.
* `gfx_post`, `gfx_leading_cm`: the graphics extractor obeys the same law for line end points.
* `exec_deepen`, `run_deepen`: frame rule for the q/Q stack: saved states that lie below
  the ones a program pushes itself are never looked at and are given back untouched, with
  the same fragments (the page in any q/Q shape; forms with balanced content anywhere,
  `runForm_deepen`); `run_deepen_init` states it from the empty stack.  For forms whose
  content is not balanced the rule is false (`Props/C08Stack.lean: form_extra_Q`).

Hypotheses `Compatible g C` are inhabited by `compatible_forget` (every `C`) and
`compatible_translate`; the other hypotheses have an `example` next to the theorem.
-/
namespace Tabula.C08More
open Tabula Tabula.Matrix Tabula.GState Tabula.XDoc Tabula.C08

variable {α : Type} [Lean.Grind.CommRing α] [DecidableEq α] [LT α] [DecidableLT α]

/-- the frame seen through one more matrix applied after its CTM -/
def postFrame (C : Matrix α) (f : Frame α) : Frame α := { f with ctm := f.ctm.mul C }

/-- the state whose current and saved CTMs are all followed by `C` -/
def post (C : Matrix α) (s : State α) : State α :=
  { cur := postFrame C s.cur, stack := s.stack.map (postFrame C), xdepth := s.xdepth }

/-- the fragment with its origin mapped through `C` -/
def moveShow (C : Matrix α) (sh : Show α) : Show α :=
  { sh with x := (C.transformPoint (sh.x, sh.y)).1, y := (C.transformPoint (sh.x, sh.y)).2 }

/-- the fragment with its CTM size factor seen through `g` (`fun _ => 0`: forgotten, `id`: kept) -/
def reScale (g : α → α) (sh : Show α) : Show α := { sh with ctmScale2 := g sh.ctmScale2 }

/-- `g` cannot tell the CTM size factor before `C` from the one after `C` -/
def Compatible (g : α → α) (C : Matrix α) : Prop :=
  ∀ m : Matrix α, g (ctmScale2 (m.mul C)) = g (ctmScale2 m)

omit [LT α] [DecidableLT α] in
/-- forgetting the CTM size factor is compatible with every matrix -/
theorem compatible_forget (C : Matrix α) : Compatible (fun _ : α => (0 : α)) C := fun _ => rfl

omit [LT α] [DecidableLT α] in
/-- a translation does not change the CTM size factor -/
theorem compatible_translate (e f : α) : Compatible (id : α → α) (translate e f) := by
  intro m
  have h : (m.mul (translate e f)).vScale2 = m.vScale2 := by
    simp only [vScale2, mul, translate]; grind
  simp only [id, ctmScale2, h]

omit [DecidableEq α] [LT α] [DecidableLT α] in
/-- `cm` under the outer change of coordinates: `M × (CTM × C) = (M × CTM) × C` -/
theorem post_transform (C M : Matrix α) (s : State α) : (post C s).transform M = post C (s.transform M) := by
  simp [State.transform, post, postFrame, mul_assoc]

omit [DecidableEq α] [LT α] [DecidableLT α] in
/-- on a new extractor a leading `C cm` is the outer change of coordinates by `C` -/
theorem transform_init (C : Matrix α) : (init : State α).transform C = post C init := by
  simp [State.transform, post, postFrame, init, mul_identity, identity_mul]

theorem showText_post (adv : Adv α) (g : α → α) (C : Matrix α) (hg : Compatible g C) (sid : Nat)
    (s : State α) :
    (showText adv sid (post C s)).1 = post C (showText adv sid s).1 ∧
      reScale g (showText adv sid (post C s)).2 = reScale g (moveShow C (showText adv sid s).2) := by
  refine ⟨rfl, ?_⟩
  simp only [showText, reScale, moveShow, State.getTextPosition, post, postFrame]
  rw [transformPoint_mul, hg s.cur.ctm]
  rfl

theorem showTextArray_post (adv : Adv α) (g : α → α) (C : Matrix α) (hg : Compatible g C)
    (items : List (TJItem α)) (s : State α) :
    (showTextArray adv items (post C s)).1 = post C (showTextArray adv items s).1 ∧
      (showTextArray adv items (post C s)).2.map (reScale g)
        = (showTextArray adv items s).2.map (fun sh => reScale g (moveShow C sh)) := by
  induction items generalizing s with
  | nil => exact ⟨rfl, rfl⟩
  | cons it rest ih =>
    cases it with
    | str sid =>
      obtain ⟨h1, h2⟩ := showText_post adv g C hg sid s
      simp only [showTextArray, List.map_cons]
      rw [h1]
      obtain ⟨i1, i2⟩ := ih (showText adv sid s).1
      exact ⟨i1, by rw [h2, i2]⟩
    | num v =>
      simp only [showTextArray]
      exact ih (s.advanceText (adv s.cur.text (.num v)))

/-- every operator except `Do` commutes with the outer change of coordinates -/
theorem stepBasic_post (adv : Adv α) (g : α → α) (C : Matrix α) (hg : Compatible g C) (op : Op α)
    (s : State α) :
    (stepBasic adv op (post C s)).1 = post C (stepBasic adv op s).1 ∧
      (stepBasic adv op (post C s)).2.1.map (reScale g)
        = (stepBasic adv op s).2.1.map (fun sh => reScale g (moveShow C sh)) ∧
      (stepBasic adv op (post C s)).2.2 = (stepBasic adv op s).2.2 := by
  rcases op.view with rfl | rfl | ⟨m, rfl⟩ | hv
  · exact ⟨rfl, rfl, rfl⟩
  · obtain ⟨c, st, d⟩ := s
    cases st <;> exact ⟨rfl, rfl, rfl⟩
  · exact ⟨post_transform C m s, rfl, rfl⟩
  · rw [hv, hv]
    obtain ⟨h1, h2⟩ := showTextArray_post adv g C hg op.shown (s.mapText op.textAfter)
    exact ⟨h1, h2, rfl⟩

omit [DecidableEq α] [LT α] [DecidableLT α] in
theorem formEnter_post (C : Matrix α) (m : Option (Matrix α)) (s : State α) :
    formEnter m (post C s) = post C (formEnter m s) := by
  cases m with
  | none => rfl
  | some m => exact post_transform C m { s.save with xdepth := s.xdepth + 1 }

omit [DecidableEq α] [LT α] [DecidableLT α] in
theorem formExit_post (C : Matrix α) (s : State α) : formExit (post C s) = post C (formExit s) := by
  cases s with | mk c st d =>
  cases st with
  | nil => rfl
  | cons f rest => rfl

example : ¬ ∃ m body, (Op.Tstar : Op Int) = .form m body := by
  rintro ⟨_, _, h⟩; cases h

/-- the outer change of coordinates is kept by every primitive of the operator loop, so
(`Lemmas/GSim.lean`) by the content of forms, by single page operators and by whole pages -/
theorem post_sim (adv : Adv α) (g : α → α) (C : Matrix α) (hg : Compatible g C) :
    Sim adv adv (fun _ => True) (fun s s' => s' = post C s)
      (fun o o' => o'.map (reScale g) = o.map fun sh => reScale g (moveShow C sh)) where
  nil := rfl
  append h1 h2 := by rw [List.map_append, List.map_append, h1, h2]
  tail _ := trivial
  body _ := trivial
  depth h := by subst h; rfl
  basic _ _ h := by subst h; exact stepBasic_post adv g C hg _ _
  enter m h := by subst h; exact formEnter_post C m _
  exit h := by subst h; exact formExit_post C _

/-- **the content of a form commutes with an outer change of coordinates**: for every
operator list (nested forms to any depth, balanced or not) -/
theorem runForm_post (adv : Adv α) (g : α → α) (C : Matrix α) (hg : Compatible g C)
    (ops : List (Op α)) (s : State α) :
    (runForm adv ops (post C s)).1 = post C (runForm adv ops s).1 ∧
      (runForm adv ops (post C s)).2.map (reScale g)
        = (runForm adv ops s).2.map (fun sh => reScale g (moveShow C sh)) :=
  (post_sim adv g C hg).onRunForm trivial rfl

/-- one operator of the page (including `Do`) commutes with the outer change of coordinates -/
theorem step_post (adv : Adv α) (g : α → α) (C : Matrix α) (hg : Compatible g C) (op : Op α)
    (s : State α) :
    (step adv op (post C s)).1 = post C (step adv op s).1 ∧
      (step adv op (post C s)).2.1.map (reScale g)
        = (step adv op s).2.1.map (fun sh => reScale g (moveShow C sh)) ∧
      (step adv op (post C s)).2.2 = (step adv op s).2.2 :=
  (post_sim adv g C hg).onStep (rest := []) trivial rfl

/-- **exec_post**: the whole page loop commutes with an outer change of device coordinates:
same failures, final state followed by `C`, the same fragments with origins through `C` -/
theorem exec_post (adv : Adv α) (g : α → α) (C : Matrix α) (hg : Compatible g C)
    (ops : List (Op α)) (s : State α) :
    (exec adv ops (post C s)).map (fun r => (r.1, r.2.map (reScale g)))
      = (exec adv ops s).map
          (fun r => (post C r.1, r.2.map (fun sh => reScale g (moveShow C sh)))) := by
  have h := (post_sim adv g C hg).onExec (ops := ops) trivial (rfl : post C s = post C s)
  generalize exec adv ops s = e, exec adv ops (post C s) = e' at h
  cases h with
  | none => rfl
  | some hr => exact congrArg some (Prod.ext hr.1 hr.2)

/-- **run_post**: `Extract` on the state followed by `C` reports the fragments of `Extract`
on the state itself, every origin mapped through `C` (and `none` in the same cases) -/
theorem run_post (adv : Adv α) (g : α → α) (C : Matrix α) (hg : Compatible g C)
    (ops : List (Op α)) (s : State α) :
    (run adv ops (post C s)).map (·.map (reScale g))
      = (run adv ops s).map (·.map (fun sh => reScale g (moveShow C sh))) := by
  have h := congrArg (Option.map (·.2)) (exec_post adv g C hg ops s)
  simpa [run, Option.map_map, Function.comp_def] using h

/-- the text state (font size, spacings, leading, rise, both text matrices) at the end of a
run never depends on the CTM -/
theorem exec_post_text (adv : Adv α) (C : Matrix α) (ops : List (Op α)) (s : State α) :
    (exec adv ops (post C s)).map (·.1.cur.text) = (exec adv ops s).map (·.1.cur.text) := by
  have h := congrArg (Option.map (fun r : State α × List (Show α) => r.1.cur.text))
    (exec_post adv (fun _ => 0) C (compatible_forget C) ops s)
  simpa [Option.map_map, Function.comp_def, post, postFrame] using h

/-- **a leading `cm`**: a page `C cm ops` reports the fragments of `ops` with every origin
mapped through `C` (all programs, forms included; the size factor of the CTM aside) -/
theorem run_leading_cm (adv : Adv α) (C : Matrix α) (ops : List (Op α)) :
    (run adv (.cm C :: ops) init).map (·.map (reScale fun _ => 0))
      = (run adv ops init).map (·.map (fun sh => reScale (fun _ => 0) (moveShow C sh))) := by
  have hs : (step adv (.cm C) (init : State α)) = (post C init, [], false) := by
    rw [← transform_init]; rfl
  have hr : run adv (.cm C :: ops) init = run adv ops (post C init) := by
    simp only [run, exec, hs, Bool.false_eq_true, if_false, List.nil_append]
    cases exec adv ops (post C init) <;> rfl
  rw [hr]
  exact run_post adv (fun _ => 0) C (compatible_forget C) ops init

/-- the fragment shifted by `(e, f)` -/
def shift (e f : α) (sh : Show α) : Show α := { sh with x := sh.x + e, y := sh.y + f }

/-- **translated pages**: if every CTM is followed by a translation by `(e, f)`, `Extract`
reports the very same fragments (all size factors and the clean flag included) shifted by
`(e, f)`, for every program -/
theorem run_translated (adv : Adv α) (e f : α) (ops : List (Op α)) (s : State α) :
    run adv ops (post (translate e f) s) = (run adv ops s).map (·.map (shift e f)) := by
  have h := run_post adv id (translate e f) (compatible_translate e f) ops s
  have h1 : reScale (id : α → α) = id := funext fun sh => rfl
  have h2 : (fun sh : Show α => reScale id (moveShow (translate e f) sh)) = shift e f := by
    funext sh
    simp only [reScale, moveShow, shift, id, transformPoint_translate]
  rw [h2, h1] at h
  simpa using h

example : run (fun _ _ => (0 : Int)) [.BT, .Td 3 4, .Tj 0] (post (translate 10 20) init)
    = some [{ x := 13, y := 24, fs := 12, tmScale2 := 1, ctmScale2 := 1, clean := true }] := by
  decide

/-- the state with further saved states `E` below its own -/
def deepen (E : List (Frame α)) (s : State α) : State α := { s with stack := s.stack ++ E }

omit [DecidableEq α] [LT α] [DecidableLT α] in
/-- saved states below leave the current frame alone -/
theorem deepen_aside (E : List (Frame α)) : Aside (deepen E) where
  cur _ := rfl
  mapText _ _ := rfl
  save _ := rfl
  restore := by
    intro s s' h
    obtain ⟨c, st, d⟩ := s
    cases st <;> cases h
    rfl
  transform _ _ := rfl

/-- an operator (other than `Do`) that succeeds does the same with more saved states below -/
theorem stepBasic_deepen (adv : Adv α) (E : List (Frame α)) (op : Op α) (s : State α)
    (h : (stepBasic adv op s).2.2 = false) :
    stepBasic adv op (deepen E s)
      = (deepen E (stepBasic adv op s).1, (stepBasic adv op s).2.1, false) :=
  (deepen_aside E).stepBasic adv op s h

example : (stepBasic (fun _ _ => (0 : Int)) .Q (init : State Int).save).2.2 = false := by decide

omit [DecidableEq α] [LT α] [DecidableLT α] in
theorem formEnter_deepen (E : List (Frame α)) (m : Option (Matrix α)) (s : State α) :
    formEnter m (deepen E s) = deepen E (formEnter m s) := by
  cases m <;> rfl

/-- the frame rule for `Do`-free programs -/
theorem exec_deepen_formFree (adv : Adv α) (E : List (Frame α)) (ops : List (Op α)) (hff : FormFree ops)
    (s s1 : State α) (out : List (Show α)) (h : exec adv ops s = some (s1, out)) :
    exec adv ops (deepen E s) = some (deepen E s1, out) :=
  (deepen_aside E).exec adv hff h

/-- **frame rule**: a program (forms with balanced content anywhere, the page itself in any
q/Q shape) that runs without error from `s` runs without error from `s` with any further
saved states `E` below, reports the same fragments, and leaves `E` below its own final stack -/
theorem exec_deepen (adv : Adv α) (E : List (Frame α)) (ops : List (Op α)) (hfb : FormsBalanced ops)
    (s s1 : State α) (out : List (Show α)) (h : exec adv ops s = some (s1, out)) :
    exec adv ops (deepen E s) = some (deepen E s1, out) := by
  -- forms with balanced content are `q cm … Q`, so only `Do`-free programs need the rule
  rw [exec_inline adv ops hfb] at h ⊢
  exact exec_deepen_formFree adv E _ (spellOut_formFree _ ops) s s1 out h

/-- balanced content (of a form, nested forms included) never looks below its own saved states -/
theorem runForm_deepen (adv : Adv α) (E : List (Frame α)) {ops : List (Op α)} (hb : Balanced ops) :
    ∀ s : State α,
      runForm adv ops (deepen E s) = (deepen E (runForm adv ops s).1, (runForm adv ops s).2) := by
  intro s
  -- on balanced content `runForm` is `exec`, on both states
  obtain ⟨s1, o1, h1, h2, _⟩ := balanced_exec adv hb s
  obtain ⟨s2, o2, g1, g2, _⟩ := balanced_exec adv hb (deepen E s)
  rw [exec_deepen adv E ops hb.formsBalanced s s1 o1 h1] at g1
  cases g1
  rw [g2, h2]

example : ((init : State Int).save).stack ≠ [] := by decide

/-- one page operator that succeeds — `Do` of a form with balanced content included — does
the same with more saved states below -/
theorem step_deepen (adv : Adv α) (E : List (Frame α)) (op : Op α) (s : State α)
    (hfb : ∀ m body, op = .form m body → Balanced body) (h : (step adv op s).2.2 = false) :
    step adv op (deepen E s) = (deepen E (step adv op s).1, (step adv op s).2.1, false) := by
  by_cases hf : ∃ m body, op = .form m body
  · obtain ⟨m, body, rfl⟩ := hf
    have hb := hfb m body rfl
    rw [step_form_of_balanced adv m hb, step_form_of_balanced adv m hb, formEnter_deepen,
      runForm_deepen adv E hb]
    rfl
  · have hs := step_of_not_form adv fun m b h => hf ⟨m, b, h⟩
    rw [hs] at h
    rw [hs, hs]
    exact stepBasic_deepen adv E op s h

omit [Lean.Grind.CommRing α] [DecidableEq α] [LT α] [DecidableLT α] in
/-- `Do`-free programs are a special case -/
theorem formsBalanced_of_noForm (ops : List (Op α)) (h : NoForm ops) : FormsBalanced ops :=
  fun m b hm => absurd rfl ((noForm_iff_formFree ops).mp h _ hm m b)

example : exec (fun _ _ => (0 : Int)) [.q, .cm ⟨2, 0, 0, 2, 0, 0⟩, .Tj 0, .Q] (init : State Int)
    = some ((init : State Int),
      [{ x := 0, y := 0, fs := 12, tmScale2 := 1, ctmScale2 := 4, clean := true }]) := by
  decide

example : NoForm ([.q, .BT, .Tj 0, .Q] : List (Op Int)) := by simp [NoForm]

example : (run (fun _ _ => (0 : Int)) [.q, .BT, .Tj 0, .Q] (init : State Int)).isSome = true := by decide

/-- the fragments of a successful run do not depend on saved states below -/
theorem run_deepen (adv : Adv α) (E : List (Frame α)) (ops : List (Op α)) (hnf : FormsBalanced ops)
    (s : State α) (out : List (Show α)) (h : run adv ops s = some out) :
    run adv ops (deepen E s) = some out := by
  obtain ⟨r, h2, rfl⟩ := Option.map_eq_some_iff.mp h
  exact congrArg (Option.map (·.2)) (exec_deepen adv E ops hnf s r.1 r.2 h2)

/-- **a page fragment inside `q … Q` nesting**: whatever states an enclosing program has
saved (`st`), a program (forms balanced) that succeeds on the empty stack reports the same
fragments -/
theorem run_deepen_init (adv : Adv α) (ops : List (Op α)) (hnf : FormsBalanced ops) (f : Frame α)
    (st : List (Frame α)) (d : Nat) (out : List (Show α))
    (h : run adv ops ⟨f, [], d⟩ = some out) : run adv ops ⟨f, st, d⟩ = some out := by
  have := run_deepen adv st ops hnf ⟨f, [], d⟩ out h
  simpa [deepen] using this

example : (step (fun _ _ => (0 : Int)) (.form none [.q, .Tj 1, .Q]) (init : State Int)).2.2 = false := by
  simp [step, maxXObjectDepth, init]

example : FormsBalanced ([.q, .form none [.q, .Tj 1, .Q], .Q] : List (Op Int)) := by
  intro m b hm
  simp at hm
  obtain ⟨_, rfl⟩ := hm
  exact Balanced.qQ [.Tj 1] [] (Balanced.plain _ _ rfl Balanced.nil) Balanced.nil

omit [DecidableEq α] [LT α] [DecidableLT α] in
/-- two outer changes of coordinates in a row are one: the product, first `C` then `D` -/
theorem post_post (C D : Matrix α) (s : State α) : post D (post C s) = post (C.mul D) s := by
  simp [post, postFrame, mul_assoc, List.map_map, Function.comp_def]

omit [DecidableEq α] [LT α] [DecidableLT α] in
/-- the identity changes nothing -/
theorem post_identity (s : State α) : post identity s = s := by
  have hf : ∀ f : Frame α, postFrame identity f = f := by
    intro f; cases f; simp [postFrame, mul_identity]
  cases s with | mk c st d =>
  have hm : st.map (postFrame identity) = st := by
    induction st with
    | nil => rfl
    | cons a l ih => simp [hf, ih]
  simp [post, hf, hm]

/-- a stroked line with both end points mapped through `C` -/
def moveSeg (C : Matrix α) (g : Seg α) : Seg α :=
  ⟨(C.transformPoint (g.x0, g.y0)).1, (C.transformPoint (g.x0, g.y0)).2,
   (C.transformPoint (g.x1, g.y1)).1, (C.transformPoint (g.x1, g.y1)).2⟩

omit [DecidableEq α] [LT α] [DecidableLT α] in
/-- **the graphics extractor obeys the same law**: on the state followed by `C` it reports
the same lines with both end points mapped through `C`, and fails in the same cases, for
every program -/
theorem gfx_post (C : Matrix α) (ops : List (Op α)) (s : State α) :
    gfx ops (post C s) = (gfx ops s).map (·.map (moveSeg C)) := by
  induction ops generalizing s with
  | nil => simp [gfx]
  | cons op rest ih =>
    cases op with
    | q => exact ih s.save
    | Q =>
      cases s with | mk c st d =>
      cases st with
      | nil => simp [gfx, State.restore, post]
      | cons f r =>
        simp only [gfx, State.restore, post, List.map_cons]
        exact ih ⟨f, r, d⟩
    | cm m =>
      simp only [gfx]
      rw [post_transform]
      exact ih _
    | line x0 y0 x1 y1 =>
      have hc : (post C s).cur.ctm = s.cur.ctm.mul C := rfl
      simp only [gfx]
      rw [ih s, hc, transformPoint_mul, transformPoint_mul]
      cases gfx rest s with
      | none => rfl
      | some l => simp [moveSeg]
    | _ => exact ih s

omit [DecidableEq α] [LT α] [DecidableLT α] in
/-- a leading `cm` for the graphics extractor: every line of the rest of the page, moved through `C` -/
theorem gfx_leading_cm (C : Matrix α) (ops : List (Op α)) :
    gfx (.cm C :: ops) init = (gfx ops init).map (·.map (moveSeg C)) := by
  simp only [gfx]
  rw [transform_init]
  exact gfx_post C ops init

end Tabula.C08More
