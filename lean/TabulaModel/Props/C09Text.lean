import TabulaModel.Model.LayoutText
import TabulaModel.Lemmas.LayoutText
/-!
# C09, second layer — "… and in every plain-text rendering of a page"

The `GetText` methods of the layout results and `text.(*Extractor).GetText`, modelled as the
code has them (`Model/LayoutText.lean`) and composed with the detectors that produce their
input: the `_conserves` theorems start from the FRAGMENTS of the page and end at the characters of the
rendered text (the `_of` theorems start from any layout of that kind). All heuristic outcomes are universally quantified parameters; there are no
hypotheses except on the three library sorts of `BlockDetector.Detect` (`srt`, `srtX` in
`groupIntoLines`, `srtB` for the blocks: "a sort permutes").
-/
namespace Tabula.C09Text
open Tabula.Layout List

/-! ## LineLayout.GetText -/

/-- `NewLineDetector().Detect(fs).GetText()`: for every tolerance and stream-order decision the
text has exactly the non-space characters of the fragments. -/
theorem line_layout_text_conserves (tol minW : Rat) (preserve : List Frag → Bool) (fs : List Frag) :
    (nonspace (lineLayoutText (detectLines tol minW preserve fs))).Perm (nonspace (textsOf fs)) := by
  rw [nonspace_lineLayoutText]
  exact detectLines_nonspace tol minW preserve fs

/-! ## ReadingOrderResult.GetText = AnalysisResult.GetText -/

/-- `NewReadingOrderDetector().Detect(fs).GetText()` and `Analyze(fs).GetText()` -/
theorem reading_order_text_conserves (gaps : List Gap) (minCW minW : Rat)
    (isSpan keep : List Frag → List Frag → Bool) (tolOf : List Frag → Rat) (preserve : List Frag → Bool)
    (rtl : Bool) (fs : List Frag) :
    (nonspace (roText (readingOrder gaps minCW minW isSpan keep tolOf preserve rtl fs))).Perm
      (nonspace (textsOf fs)) := by
  rw [nonspace_roText, ← readingOrder_lines_eq]
  exact readingOrder_lines_keeps.nonspace

/-! ## ColumnLayout.GetText -/

/-- `(*ColumnLayout).GetText` of any column layout shows the characters of its columns and its
spanning group -/
theorem column_layout_text_of (preserve : List Frag → Bool) (cl : ColumnLayout) :
    (nonspace (columnLayoutText preserve cl)).Perm (nonspace (textsOf cl.all)) :=
  nonspace_columnLayoutText preserve cl

/-- `NewColumnDetector().Detect(fs).GetText()` -/
theorem column_layout_text_conserves (gaps : List Gap) (minCW : Rat) (isSpan keep : List Frag → List Frag → Bool)
    (preserve : List Frag → Bool) (fs : List Frag) :
    (nonspace (columnLayoutText preserve (detectColumns gaps minCW isSpan keep fs))).Perm (nonspace (textsOf fs)) :=
  (nonspace_columnLayoutText preserve _).trans (textsOf_perm (detectColumns_perm gaps minCW isSpan keep fs))

/-- `NewColumnDetector().Detect(fs).GetFragmentsInReadingOrder()` (after fix 22e6b71): a
permutation of the input -/
theorem column_layout_fragments_partition (gaps : List Gap) (minCW : Rat)
    (isSpan keep : List Frag → List Frag → Bool) (fs : List Frag) :
    (columnLayoutFragments (detectColumns gaps minCW isSpan keep fs)).Perm fs := by
  unfold columnLayoutFragments
  exact List.perm_append_comm.trans (detectColumns_perm gaps minCW isSpan keep fs)

/-- before the fix the spanning fragments were missing: a title across two columns -/
theorem column_layout_fragments_old_counterexample :
    ¬ (columnLayoutFragmentsOld
        ⟨[[⟨1, 72, 600, 100, 10, 10, [97]⟩], [⟨2, 320, 600, 100, 10, 10, [98]⟩]], [⟨0, 150, 700, 200, 14, 14, [84]⟩]⟩).Perm
      (ColumnLayout.all
        ⟨[[⟨1, 72, 600, 100, 10, 10, [97]⟩], [⟨2, 320, 600, 100, 10, 10, [98]⟩]], [⟨0, 150, 700, 200, 14, 14, [84]⟩]⟩) := by
  intro h
  have := h.length_eq
  revert this
  decide +kernel

/-! ## BlockLayout.GetText, and the block detector from the fragments on -/

/-- every block of the detector shows the same fragments in `Lines` as in `Fragments` -/
theorem blocks_lines_agree (brk : List (List Frag) → List Frag → List (List Frag) → Bool)
    (ov : Block → Block → Bool) (minW minH : Rat) (lines : List (List Frag)) :
    ∀ b ∈ detectBlocks brk ov minW minH lines, b.lines.flatten.Perm b.frags := by
  intro b hb
  unfold detectBlocks validateBlocks at hb
  exact mergeAll_ok ov _ (groupBlocks_ok brk lines) b (List.mem_filter.mp hb).1

/-- `(*BlockLayout).GetText` on the blocks detected from any line groups -/
theorem block_layout_text_of (brk : List (List Frag) → List Frag → List (List Frag) → Bool)
    (ov : Block → Block → Bool) (minW minH : Rat) (lines : List (List Frag)) :
    (nonspace (blockLayoutText (detectBlocks brk ov minW minH lines))).Perm (nonspace (textsOf lines.flatten)) := by
  rw [nonspace_blockLayoutText]
  exact (textsOf_perm (blocksLines_flatten_perm (blocks_lines_agree brk ov minW minH lines))).trans
    (detectBlocks_keeps brk ov minW minH lines).nonspace

/-- `(*BlockDetector).groupIntoLines`: the line groups are a permutation of the fragments,
whatever the two library sorts do as long as they permute -/
theorem block_lines_partition (srt srtX : List Frag → List Frag)
    (hs : ∀ l, (srt l).Perm l) (hx : ∀ l, (srtX l).Perm l) (fs : List Frag) :
    (blockLinesOf srt srtX fs).flatten.Perm fs :=
  blockLinesOf_perm srt srtX hs hx fs

example : ∀ l : List Frag, (stableSort blLess l).Perm l := fun l => stableSort_perm _ l

example : ∀ l : List Block, (l.mergeSort fun a b => decide (bboxY a.frags ≥ bboxY b.frags)).Perm l :=
  fun _ => List.mergeSort_perm _ _

/-- `NewBlockDetector().Detect(fs)`: `Block.Fragments` of all blocks -/
theorem block_detector_conserves (srt srtX : List Frag → List Frag) (srtB : List Block → List Block)
    (hs : ∀ l, (srt l).Perm l) (hx : ∀ l, (srtX l).Perm l) (hb : ∀ l, (srtB l).Perm l)
    (brk : List (List Frag) → List Frag → List (List Frag) → Bool) (ov : Block → Block → Bool)
    (minW minH : Rat) (fs : List Frag) :
    (nonspace (textsOf (blocksFrags (detectBlocksFrom srt srtX srtB brk ov minW minH fs)))).Perm
      (nonspace (textsOf fs)) :=
  (detectBlocksFrom_keeps srt srtX srtB hs hx hb brk ov minW minH fs).nonspace

/-- `NewBlockDetector().Detect(fs).GetText()` -/
theorem block_layout_text_conserves (srt srtX : List Frag → List Frag) (srtB : List Block → List Block)
    (hs : ∀ l, (srt l).Perm l) (hx : ∀ l, (srtX l).Perm l) (hb : ∀ l, (srtB l).Perm l)
    (brk : List (List Frag) → List Frag → List (List Frag) → Bool) (ov : Block → Block → Bool)
    (minW minH : Rat) (fs : List Frag) :
    (nonspace (blockLayoutText (detectBlocksFrom srt srtX srtB brk ov minW minH fs))).Perm (nonspace (textsOf fs)) := by
  rw [nonspace_blockLayoutText]
  exact (textsOf_perm (blocksLines_flatten_perm (detectBlocksFrom_ok srt srtX srtB hb brk ov minW minH fs))).trans
    (detectBlocksFrom_keeps srt srtX srtB hs hx hb brk ov minW minH fs).nonspace

/-! ## text.(*Extractor).GetText -/

/-- `text.groupFragments` cuts the fragment list into consecutive non-empty pieces -/
theorem group_fragments_segment (fs : List Frag) :
    (groupFragments fs).flatten = fs ∧ ∀ l ∈ groupFragments fs, l ≠ [] :=
  ⟨groupFragments_flatten fs, segment_nonempty gfBreak fs []⟩

/-- `text.(*Extractor).GetText`: for every reordering decision and every spacing decision the
text has exactly the non-space characters of the DEDUPLICATED fragments — deduplication is the
only removal (`C09.dedupe_only_duplicates` says what it removes). -/
theorem text_gettext_conserves (keepS rtlOf : List Frag → Bool) (spaceOf : List Frag → Frag → Frag → Bool)
    (fs : List Frag) :
    (nonspace (textGetText keepS rtlOf spaceOf fs)).Perm (nonspace (textsOf (dedupe fs))) := by
  unfold textGetText
  refine (nonspace_gtLines keepS rtlOf spaceOf _).trans (textsOf_perm ?_)
  have h := (stableSort_perm (fun a b : List Frag => decide (headY a > headY b)) (groupFragments (dedupe fs))).flatten
  rw [groupFragments_flatten] at h
  exact h

end Tabula.C09Text
