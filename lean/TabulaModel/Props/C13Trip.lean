import TabulaModel.Lemmas.OverlapApi
import TabulaModel.Props.C13Sentences
/-!
# C13 — reading the chunks back: `Chunk → ApplyOverlapToChunks → GetOriginalText`

The overlap clause of C13 speaks of "the previous chunk's own content".  The package offers
one way to get a chunk's own content back after `ApplyOverlapToChunks` rewrote its text:
`(*ChunkWithOverlap).GetOriginalText`, which searches the rewritten text for the first
occurrence of the overlap prefix (`strings.Index`) and returns what follows, trimmed.
Model: `Model/OverlapApi.lean` (`indexOf`, `getOriginalText`, `withSuffixes`,
`generateOverlapResult`); lemmas: `Lemmas/OverlapApi.lean`; ops `c13.orig`, `c13.gen`.
-/
set_option linter.unusedVariables false
namespace Tabula.C13Trip
open Tabula.Split Tabula.Overlap Tabula.OverlapApi Tabula.Sentences

/-- **index_finds_first.** `strings.Index(s, sub) = k`: `sub` occurs at `k` and at no earlier
position. -/
theorem index_finds_first (s sub : Str) (k : Nat) (h : indexOf s sub = some k) :
    (∃ a b, s = a ++ sub ++ b ∧ a.length = k) ∧ ∀ j, j < k → ¬ sub <+: s.drop j := by
  induction s generalizing k with
  | nil =>
    unfold indexOf at h
    split at h
    · rename_i hs; cases h; exact ⟨⟨[], [], by simp [hs], rfl⟩, fun j hj => absurd hj (Nat.not_lt_zero _)⟩
    · cases h
  | cons c t ih =>
    unfold indexOf at h
    split at h
    · rename_i hp
      cases h
      obtain ⟨b, hb⟩ := List.isPrefixOf_iff_prefix.mp hp
      exact ⟨⟨[], b, by simpa using hb.symm, rfl⟩, fun j hj => absurd hj (Nat.not_lt_zero _)⟩
    · rename_i hp
      cases hi : indexOf t sub with
      | none => rw [hi] at h; cases h
      | some j0 =>
        rw [hi] at h
        cases h
        obtain ⟨⟨a, b, e, hl⟩, hfirst⟩ := ih j0 hi
        refine ⟨⟨c :: a, b, by rw [e]; rfl, by simp [hl]⟩, fun j hj => ?_⟩
        cases j with
        | zero =>
          intro hpre
          exact hp (List.isPrefixOf_iff_prefix.mpr (by simpa using hpre))
        | succ j' => simpa using hfirst j' (by simp only at hj; omega)

example : indexOf [1, 2, 1, 2, 3] [1, 2, 3] = some 2 ∧ indexOf [1, 2] [3] = none ∧ indexOf [] [] = some 0 := by
  decide

/-- **original_text_round_trip.** For every list of chunks (any bytes), every overlap
configuration and class table: if section context is off or the chunk has no section title,
`GetOriginalText` of chunk `i` as `ApplyOverlapToChunks` returns it is the chunk's own
content — exactly when no overlap was put in front of it, trimmed (`strings.TrimSpace`)
when one was; in both cases it has exactly the own content's non-whitespace characters. -/
theorem original_text_round_trip (cl : Classes) (c : OverlapConfig) (items : List (Str × Str))
    (i : Nat) (own : Str × Str) (ho : items[i]? = some own)
    (ht : c.includeHeadingContext = false ∨ own.2 = []) :
    ∃ o, (applyOverlapAux cl c none items)[i]? = some o
      ∧ getOriginalText o = (if o.has then trimSpace own.1 else own.1)
      ∧ stripWs (getOriginalText o) = stripWs own.1 := by
  rw [applyOverlapAux_get, ho]
  simp only [Option.map_some]
  refine ⟨_, rfl, ?_, reads_getOriginalText_outOf reads_stripWs c _ own.1 own.2 ht⟩
  rw [getOriginalText_outOf c _ own.1 own.2 ht, outOf_has]
  by_cases he : overlapFrom cl c (prevText none items i) = []
  · simp [he]
  · simp [he]

/-- **original_text_first_occurrence.** With a bracketed section title in front
(`IncludeHeadingContext` and a non-empty title) the same holds whenever the first occurrence
of the overlap in the rewritten text is the overlap itself (position `len(title) + 4`). -/
theorem original_text_first_occurrence (cl : Classes) (c : OverlapConfig) (items : List (Str × Str))
    (i : Nat) (own : Str × Str) (ho : items[i]? = some own)
    (hfirst : ∀ ov, ov = overlapFrom cl c (prevText none items i) → ov ≠ [] →
      indexOf (applyOverlap own.1 ov own.2 c.includeHeadingContext) ov
        = some (if c.includeHeadingContext ∧ own.2 ≠ [] then own.2.length + 4 else 0)) :
    ∃ o, (applyOverlapAux cl c none items)[i]? = some o
      ∧ getOriginalText o = (if o.pref = [] then own.1 else trimSpace own.1) := by
  rw [applyOverlapAux_get, ho]
  simp only [Option.map_some]
  refine ⟨_, rfl, ?_⟩
  rw [getOriginalText_of_first_occurrence c _ own.1 own.2 (hfirst _ rfl), outOf_pref]

/-- **original_text_title_echo_counterexample.** The hypothesis is needed: when the bracketed
section title repeats the overlap (a running line "Results" right before the heading
"Results"), `strings.Index` finds the overlap inside the title and `GetOriginalText` returns
`]`, the overlap and the own content instead of the own content.  (Not a clause of C13:
`ApplyOverlapToChunks` itself takes every overlap from the snapshot of the original texts,
`C13.overlap_source`; reported as an aside.) -/
theorem original_text_title_echo_counterexample :
    let c : OverlapConfig := { strategy := 2, size := 2, minOverlap := 20, maxOverlap := 500, preserveWords := true, includeHeadingContext := true }
    let results : Str := "Results".toList.map Char.toNat
    let own : Str := "Only one sentence.".toList.map Char.toNat
    ((applyOverlapAux [] c none [(results, []), (own, results)]).map getOriginalText)
      = [results, "]\n\nResults\n\nOnly one sentence.".toList.map Char.toNat] := by
  decide +kernel

/-- **original_text_keeps_own.** What holds for ALL inputs — any bytes, any configuration, any
section titles, the echoing ones included: `GetOriginalText` never loses own content.  The
non-whitespace characters of the chunk's own text are a suffix of those of what it returns
(`strings.Index` finds the overlap at or before its real place, and the cut between what is
left of the prefix and the own content is the blank line). -/
theorem original_text_keeps_own (cl : Classes) (c : OverlapConfig) (items : List (Str × Str))
    (i : Nat) (own : Str × Str) (ho : items[i]? = some own) :
    ∃ o x, (applyOverlapAux cl c none items)[i]? = some o
      ∧ stripWs (getOriginalText o) = x ++ stripWs own.1 := by
  rw [applyOverlapAux_get, ho]
  simp only [Option.map_some]
  obtain ⟨x, hx⟩ := getOriginalText_keeps_own reads_stripWs c (overlapFrom cl c (prevText none items i)) own.1 own.2
  exact ⟨_, x, rfl, hx⟩

/-- **original_text_conserves.** Whole lists: stripping the overlaps with `GetOriginalText`
recovers, chunk by chunk, the non-whitespace characters of every chunk's own content (section
context off, or no titles), for any bytes. -/
theorem original_text_conserves (cl : Classes) (c : OverlapConfig) (items : List (Str × Str))
    (h : ∀ it ∈ items, c.includeHeadingContext = false ∨ it.2 = []) :
    (applyOverlapAux cl c none items).map (fun o => stripWs (getOriginalText o))
      = items.map (fun it => stripWs it.1) :=
  applyOverlapAux_original_reads reads_stripWs cl c none items h

/-- non-vacuity: sentence overlap, three chunks, the middle one with surrounding white space -/
example :
    let c : OverlapConfig := { strategy := 2, size := 1, minOverlap := 0, maxOverlap := 100, preserveWords := true, includeHeadingContext := false }
    let a : Str := "First one. Second one.".toList.map Char.toNat
    let b : Str := "  Tiny. ".toList.map Char.toNat
    let d : Str := "Third chunk here.".toList.map Char.toNat
    (applyOverlapAux [] c none [(a, []), (b, []), (d, [])]).map (fun o => (o.has, getOriginalText o))
      = [(false, a), (true, "Tiny.".toList.map Char.toNat), (true, d)] := by
  decide +kernel

/-- **cwe_original_text.** `NewChunkerWithConfig(c).ChunkWithOverlapEnabled(doc)` on a document
of paragraphs, for every `MaxChunkSize`, `MinChunkSize`, `OverlapSize`, `OverlapSentences`,
`IncludeSectionContext` and any bytes: `GetOriginalText` of output `i` is base chunk `i` of
`Chunker.Chunk` (trimmed when it received an overlap). -/
theorem cwe_original_text (cl : Classes) (max min overlapSize : Nat) (sentences ctx : Bool)
    (paras : List Str) (i : Nat) (t : Str)
    (hi : (chunkParagraphDoc cl max min paras)[i]? = some t) :
    ∃ o, (chunkWithOverlapEnabled cl max min overlapSize sentences ctx paras)[i]? = some o
      ∧ getOriginalText o = (if o.has then trimSpace t else t) := by
  rw [chunkWithOverlapEnabled_eq]
  obtain ⟨o, h1, h2, _⟩ := original_text_round_trip cl (chunkerOverlapConfig overlapSize sentences ctx)
    ((chunkParagraphDoc cl max min paras).map fun t => (t, ([] : Str))) i (t, [])
    (by simp [hi]) (Or.inr rfl)
  exact ⟨o, h1, h2⟩

/-- **cwe_round_trip.** The composition `Chunk → ApplyOverlapToChunks → GetOriginalText` end to
end: for a document of valid UTF-8 paragraphs, the original texts of the chunks
`ChunkWithOverlapEnabled` returns contain exactly the non-whitespace characters of the
paragraphs, in order — every character once, although the chunk texts repeat the overlaps. -/
theorem cwe_round_trip (cl : Classes) (max min overlapSize : Nat) (sentences ctx : Bool)
    (paras : List Str) (hv : ∀ p ∈ paras, validUtf8 p = true) :
    ((chunkWithOverlapEnabled cl max min overlapSize sentences ctx paras).map getOriginalText).flatMap stripWs
      = paras.flatMap stripWs := by
  have h := original_text_conserves cl (chunkerOverlapConfig overlapSize sentences ctx)
    ((chunkParagraphDoc cl max min paras).map fun t => (t, ([] : Str)))
    (by intro it hit; obtain ⟨t, _, e⟩ := List.mem_map.mp hit; subst e; exact Or.inr rfl)
  rw [List.flatMap_map, List.flatMap_def, chunkWithOverlapEnabled_eq, h, ← List.flatMap_def,
    List.flatMap_map]
  exact (Tabula.C13Sentences.chunk_conserves cl max min paras hv).1

/-- non-vacuity: two paragraphs, the second packed by sentences, character overlap 6 -/
example :
    let paras : List Str := ["Alpha beta.".toList.map Char.toNat,
      "One two three. Four five six. Seven eight.".toList.map Char.toNat]
    (chunkWithOverlapEnabled [] 30 3 6 false false paras).map getOriginalText
      = chunkParagraphDoc [] 30 3 paras := by decide +kernel

/-- **overlap_suffix_is_next_prefix.** `OverlapSuffix` / `HasOverlapSuffix` of chunk `i` are
`OverlapPrefix` / `HasOverlapPrefix` of chunk `i+1`; the last chunk has none.  So the suffix
field of a chunk is (by `C13Overlap.apply_overlap_property`) a content suffix of that very
chunk's own text. -/
theorem overlap_suffix_is_next_prefix (outs : List OverlapOut) (i : Nat) (o : OverlapOut)
    (ho : outs[i]? = some o) :
    ∃ f, (withSuffixes outs)[i]? = some f ∧ f.text = o.text ∧ f.pref = o.pref ∧ f.has = o.has
      ∧ f.suffix = ((outs[i + 1]?).map (·.pref)).getD []
      ∧ f.hasSuffix = ((outs[i + 1]?).map (·.has)).getD false := by
  induction outs generalizing i with
  | nil => simp at ho
  | cons x rest ih =>
    cases i with
    | zero =>
      simp only [List.getElem?_cons_zero, Option.some.injEq] at ho
      subst ho
      simp only [withSuffixes, List.getElem?_cons_zero]
      refine ⟨_, rfl, rfl, rfl, rfl, ?_, ?_⟩
      · cases rest <;> rfl
      · cases rest <;> rfl
    | succ j =>
      simp only [List.getElem?_cons_succ] at ho ⊢
      simp only [withSuffixes, List.getElem?_cons_succ]
      exact ih j ho

/-- **rewritten_metadata.** The counters `ApplyOverlapToChunks` leaves on a chunk describe its
(rewritten) text: `CharCount = len(Text)`, `WordCount = countWords(Text)`,
`EstimatedTokens = len(Text)/4` (chunks built by `NewChunk`). -/
theorem rewritten_metadata (outs : List OverlapOut) :
    ∀ f ∈ withSuffixes outs, f.charCount = f.text.length ∧ f.wordCount = countWords f.text
      ∧ f.tokens = f.text.length / 4 := by
  induction outs with
  | nil => intro f hf; cases hf
  | cons x rest ih =>
    intro f hf
    simp only [withSuffixes, List.mem_cons] at hf
    rcases hf with rfl | hf
    · exact ⟨rfl, rfl, rfl⟩
    · exact ih f hf

/-- the `EstimatedTokens` counter is the token estimate of `SizeCalculator` at the default ratio -/
theorem metadata_tokens_is_default_estimate (s : Str) :
    s.length / 4 = estimateTokens defaultSizeConfig s := by
  simp [estimateTokens, SizeConfig.ratio, defaultSizeConfig]

/-- **generate_overlap_result.** The whole `OverlapResult` of `GenerateOverlap`: `Text` is the
overlap of the theorems of `C13Overlap`; `CharCount` is its length, at most `MaxOverlap`;
`Strategy` is the configured one or `OverlapNone`. -/
theorem generate_overlap_result (cl : Classes) (c : OverlapConfig) (text : Str) :
    (generateOverlapResult cl c text).text = generateOverlap cl c text
      ∧ (generateOverlapResult cl c text).charCount = (generateOverlap cl c text).length
      ∧ (generateOverlapResult cl c text).charCount ≤ c.maxOverlap
      ∧ ((generateOverlapResult cl c text).strategy = c.strategy
          ∨ (generateOverlapResult cl c text).strategy = 0) := by
  have hle := generateOverlap_length_le cl c text
  unfold generateOverlapResult
  by_cases h1 : c.strategy = 0 ∨ c.size = 0
  · rw [if_pos h1]
    have : generateOverlap cl c text = [] := by
      unfold generateOverlap
      rw [if_pos (by rcases h1 with h | h <;> simp [h])]
    simp [this]
  · rw [if_neg h1]
    by_cases h2 : c.strategy > 3
    · rw [if_pos h2]
      have : generateOverlap cl c text = [] := by
        unfold generateOverlap
        rw [if_pos (Or.inr (Or.inr h2))]
      simp [this]
    · rw [if_neg h2]
      exact ⟨rfl, rfl, hle, Or.inl rfl⟩

example : (generateOverlapResult [] defaultOverlapConfig ("One. Two. Three.".toList.map Char.toNat)).sentenceCount = 2
    ∧ (generateOverlapResult [] defaultOverlapConfig ("One. Two. Three.".toList.map Char.toNat)).text
        = "Two. Three.".toList.map Char.toNat := by decide +kernel

end Tabula.C13Trip
