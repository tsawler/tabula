import TabulaModel.Props.C17Api
import TabulaModel.Lemmas.WorkbookText
import TabulaModel.Lemmas.WorkbookMdAll
import TabulaModel.Lemmas.WorkbookMdTail
/-!
# C17, the outputs — text, Markdown, document model and `Tables()` are renderings of one table
of displayed values, and reading them back finds every value at its address

End-to-end statement of the property over the model of the public API: `cell_lands_everywhere`.
-/
namespace Tabula.C17O
open Tabula.A1 Tabula.Sheet Tabula.Wb Tabula.C17A

/-- no selection = all sheets, in workbook order -/
theorem select_all (r : Reader) : selectSheets r [] = r.sheets := rfl

/-- selecting one valid index gives that sheet -/
theorem select_single (r : Reader) (k : Nat) (s : Wb.Sheet) (hk : r.sheets[k]? = some s) :
    selectSheets r [(k : Int)] = [s] := by
  rw [selectSheets_eq, if_neg (by simp), List.filterMap_cons, Reader.sheet_eq, if_neg (by omega), Int.toNat_natCast, hk]
  rfl

/-- indices outside `0 … SheetCount-1` are dropped, the others kept in the order given -/
theorem select_out_of_range (r : Reader) (idx : Int) (rest : List Int)
    (h : idx < 0 ∨ idx ≥ r.sheets.length) :
    selectSheets r (idx :: rest) = if rest.isEmpty then [] else selectSheets r rest := by
  have hnone : r.sheet idx = none := by
    rw [Reader.sheet_eq]
    split
    · rfl
    · exact List.getElem?_eq_none (by omega)
  rw [selectSheets_eq, if_neg (by simp), List.filterMap_cons, hnone, selectSheets_eq]
  cases rest <;> rfl

/-- the two compatibility flags change nothing -/
theorem exclude_flags_ignored (r : Reader) (o : ExtractOptions) (xh xf : Bool) (lvl : Nat) :
    textWithOptions r { o with excludeHeaders := xh, excludeFooters := xf } = textWithOptions r o ∧
    markdown r { o with excludeHeaders := xh, excludeFooters := xf } lvl = markdown r o lvl :=
  ⟨rfl, rfl⟩

/-- the text of a sheet is the tab/newline-joined table of displayed values -/
theorem text_render (d : Str) (g : Grid) :
    sheetTextD d g = intercalate [10] ((shownGrid g).map (intercalate d)) := by
  unfold sheetTextD shownGrid rowText
  rw [List.map_map]; rfl

/-- one selected sheet, default delimiter, no headers: exactly the sheet's rows -/
theorem text_single (r : Reader) (o : ExtractOptions) (s : Wb.Sheet)
    (hsel : selectSheets r o.sheets = [s]) (hh : o.includeHeaders = false) (hd : o.delimiter = []) :
    textWithOptions r o = sheetText s.rows := by
  unfold textWithOptions sheetBlock effDelimiter
  rw [hsel]
  simp only [List.map_cons, List.map_nil, hh, hd, if_true, Bool.false_eq_true, if_false, List.nil_append]
  rfl

/-- with `IncludeHeaders` the block of a sheet is its "=== name ===" line, then the rows -/
theorem text_header (o : ExtractOptions) (s : Wb.Sheet) (hh : o.includeHeaders = true) :
    sheetBlock o s = [61, 61, 61, 32] ++ s.name ++ [32, 61, 61, 61, 10] ++ sheetTextD (effDelimiter o) s.rows := by
  unfold sheetBlock headerLine; simp [hh]

/-- the heading level handed to `markdown` is a Markdown heading level -/
theorem heading_level_range (mo : MdOptions) (l : Int) :
    1 ≤ adjustHeadingLevel mo l ∧ adjustHeadingLevel mo l ≤ 6 := by
  unfold adjustHeadingLevel
  simp only
  -- the last three clamps alone keep the level in range
  generalize (if l < 1 then 1 else l) + mo.headingLevelOffset = a
  omega

/-- default options: sheet names are level-2 headings -/
theorem heading_level_default : adjustHeadingLevel {} 2 = 2 := by decide

/-- `MarkdownWithRAGOptions` without front matter and table of contents is the body of `markdown`
unchanged, at a heading level of at least 1 (`heading_level_range`: between 1 and 6) -/
theorem rag_markdown_body (r : Reader) (o : ExtractOptions) (mo : MdOptions) (front toc : Str)
    (h1 : mo.includeMetadata = false) (h2 : mo.includeTOC = false) :
    markdownWithRAG r o mo front toc = markdown r o (adjustHeadingLevel mo 2).toNat ∧
      1 ≤ (adjustHeadingLevel mo 2).toNat := by
  have := heading_level_range mo 2
  refine ⟨?_, by omega⟩
  unfold markdownWithRAG
  simp [h1, h2]

/-- **the Markdown table of a sheet is `Tables()[i].ToMarkdown()`** -/
theorem markdown_table_is_tables_markdown (s : Wb.Sheet) (hrect : Rect (s.maxCol + 1) s.rows) :
    sheetTableMd s = (sheetToTable s).toMarkdown := sheetTableMd_eq s hrect

/-- **`ToMarkdown` read back**: a GFM reader finds header and rows, each cell padded by one
space, newlines as spaces, pipes unescaped -/
theorem tables_markdown_read_back (t : PTable) (h : t.headers.isEmpty = false) :
    mdReadTable t.toMarkdown = (t.headers :: t.rows).map (·.map pad) := by
  unfold mdReadTable
  rw [toMarkdown_lines t h]
  have := splitOn_lines _ [] (ptLines_clean t)
  rw [List.append_nil] at this
  -- after the last newline stands an empty line, which is no table line
  rw [this, List.filterMap_append, show (splitOn 10 []).filterMap mdParseLine = [] from rfl, List.append_nil, mdRead_lines]

/-- **Markdown of one selected sheet, read back**: the reader finds the content box -/
theorem markdown_read_back (r : Reader) (o : ExtractOptions) (s : Wb.Sheet) (lvl : Nat) (hl : 1 ≤ lvl)
    (hsel : selectSheets r o.sheets = [s]) (hrect : Rect (s.maxCol + 1) s.rows)
    (hne : (findContentBounds s).isEmpty = false) (hname : 10 ∉ s.name) :
    mdReadTable (markdown r o lvl) = (boxTable s).map (·.map pad) := by
  unfold markdown
  rw [hsel]
  simp only [List.map_cons, List.map_nil, intercalate]
  exact mdRead_sheetMd s lvl hl hrect hne hname

/-- one page per sheet, numbered by the sheet's workbook position -/
theorem document_pages (r : Reader) (k : Nat) :
    (document r)[k]? = (r.sheets[k]?).map sheetPage ∧ (tables r)[k]? = (r.sheets[k]?).map sheetToTable := by
  simp [document, tables]

theorem page_number (s : Wb.Sheet) : (sheetPage s).number = s.index + 1 := rfl

/-- a sheet without content gives a page without a table and an empty `ParsedTable` -/
theorem empty_sheet_outputs (s : Wb.Sheet) (h : (findContentBounds s).isEmpty = true) :
    (sheetPage s).table = none ∧ sheetToTable s = ⟨s.name, [], []⟩ ∧ sheetTableMd s = [] := by
  refine ⟨by simp [sheetPage, h], by simp [sheetToTable, h], ?_⟩
  unfold sheetTableMd; simp only [h]; split <;> rfl

/-- **the document table**: it has the dimensions of the content box (so the unguarded indexing
of the Go code stays inside the grid), its texts are the box of displayed values, the first row
is the header row, and the spans are the cell's `MergeRows`/`MergeCols` -/
theorem document_table (s : Wb.Sheet) (hrect : Rect (s.maxCol + 1) s.rows)
    (hne : (findContentBounds s).isEmpty = false) :
    ∃ t, (sheetPage s).table = some t ∧
      t.map (fun row => row.map (·.text)) = boxTable s ∧
      t.length = (findContentBounds s).nR ∧ (∀ row ∈ t, row.length = (findContentBounds s).nC) ∧
      ∀ i j, (t[i]?).bind (·[j]?) =
        if i < (findContentBounds s).nR ∧ j < (findContentBounds s).nC then
          (s.rows.get ((findContentBounds s).r0 + i) ((findContentBounds s).c0 + j)).map (toDCell (i == 0))
        else none := by
  obtain ⟨f1, f2, _, _, _, _⟩ := box_facts s hrect hne
  have htexts := docTable_texts s.rows (findContentBounds s)
  refine ⟨docTable s.rows (findContentBounds s), by simp [sheetPage, hne], htexts, ?_, ?_, docTable_get _ _⟩
  · have := congrArg List.length htexts
    rw [List.length_map] at this
    rw [this]
    exact subTable_length _ _ _ _ _ (by simpa [shownGrid] using f1)
  · intro row hrow
    have hmem : row.map (·.text) ∈ (docTable s.rows (findContentBounds s)).map (fun row => row.map (·.text)) :=
      List.mem_map_of_mem hrow
    rw [htexts] at hmem
    have := subTable_row_length (shownGrid s.rows) _ _ _ _ (s.maxCol + 1) (by
      intro row' hrow'
      simp only [shownGrid, List.mem_map] at hrow'
      obtain ⟨r0, hr0, rfl⟩ := hrow'
      rw [List.length_map]; exact hrect r0 hr0) f2 _ hmem
    simpa using this

/-- **`Tables()`**: header row and data rows are the content box of displayed values -/
theorem tables_table (s : Wb.Sheet) (hrect : Rect (s.maxCol + 1) s.rows)
    (hne : (findContentBounds s).isEmpty = false) :
    (sheetToTable s).name = s.name ∧ (sheetToTable s).headers :: (sheetToTable s).rows = boxTable s := by
  obtain ⟨h1, h2⟩ := sheetToTable_box s hrect hne
  exact ⟨h1, h2.symm⟩

/-- the content box of a loaded sheet is the tight bounding box of the positions that display
something -/
theorem box_is_displayed_box {shared : List Str} {i used : Nat} {fresh : Bool} {x : SheetXML} {s : Wb.Sheet}
    (h : loadSheet shared i used fresh x = some s) :
    (∀ r c, r < maxRowOf x.rows → c ≤ maxColOf x.rows → displayed shared x r c ≠ [] →
      (findContentBounds s).minRow ≤ r ∧ (r : Int) ≤ (findContentBounds s).maxRow ∧
      (findContentBounds s).minCol ≤ c ∧ (c : Int) ≤ (findContentBounds s).maxCol) ∧
    ((findContentBounds s).isEmpty = false →
      (∃ c, displayed shared x (findContentBounds s).minRow.toNat c ≠ []) ∧
      (∃ c, displayed shared x (findContentBounds s).maxRow.toNat c ≠ []) ∧
      (∃ r, displayed shared x r (findContentBounds s).minCol.toNat ≠ []) ∧
      (∃ r, displayed shared x r (findContentBounds s).maxCol.toNat ≠ [])) ∧
    ((findContentBounds s).isEmpty = true →
      ∀ r c, r < maxRowOf x.rows → c ≤ maxColOf x.rows → displayed shared x r c = []) := by
  have hrect := (loadSheet_shape h).2
  obtain ⟨t1, t2, t3⟩ := bounds_tight s hrect
  refine ⟨?_, ?_, ?_⟩
  · intro r c hr hc hd
    exact t1 r c ((content_iff_displayed h r c).mpr ⟨hr, hc, hd⟩)
  · intro hne
    obtain ⟨⟨c1, a1⟩, ⟨c2, a2⟩, ⟨r3, a3⟩, ⟨r4, a4⟩, _⟩ := t2 (exists_content s hne)
    exact ⟨⟨c1, ((content_iff_displayed h _ _).mp a1).2.2⟩, ⟨c2, ((content_iff_displayed h _ _).mp a2).2.2⟩,
      ⟨r3, ((content_iff_displayed h _ _).mp a3).2.2⟩, ⟨r4, ((content_iff_displayed h _ _).mp a4).2.2⟩⟩
  · intro he r c hr hc
    apply Classical.byContradiction
    intro hd
    exact (bounds_isEmpty_iff s).mp he ⟨r, c, (content_iff_displayed h r c).mpr ⟨hr, hc, hd⟩⟩

/-- every cell text of a loaded grid is the displayed value of its position: what holds of all
displayed values holds of all cell texts -/
theorem grid_texts {shared : List Str} {i used : Nat} {fresh : Bool} {x : SheetXML} {s : Wb.Sheet}
    (h : loadSheet shared i used fresh x = some s) (P : Str → Prop) (hP : ∀ r c, P (displayed shared x r c)) :
    ∀ row ∈ s.rows, ∀ cell ∈ row, P (cellText cell) := by
  intro row hrow cell hcell
  obtain ⟨r, hr, er⟩ := List.getElem_of_mem hrow
  obtain ⟨c, hc, ec⟩ := List.getElem_of_mem hcell
  have hget : s.rows.get r c = some cell := by
    unfold Grid.get
    rw [List.getElem?_eq_getElem hr, er]
    simp [List.getElem?_eq_getElem hc, ec]
  have hs := loadSheet_shown h r c
  rw [hget, Option.map_some] at hs
  -- a position that holds a cell lies inside the grid of the dimension pass
  split at hs
  · exact Option.some.inj hs ▸ hP r c
  · cases hs

/-- **C17, end to end.**  Let a worksheet part `x` load as sheet `s`, the `k`-th sheet of an
opened workbook whose name has no line break, and let `(rr,cc)` be any position of its grid
(by `no_cell_lost` every addressed position is one).  Write `v` for the value the file displays
there (`displayed`: the stored value — shared, rich, inline, formula-cached, boolean, error or
number by the kind theorems — blank under a merged region except at its top-left).  Then

* the sheet grid has `v` at `Cell(rr,cc)`;
* in the tab-separated text of the sheet, line `rr` / field `cc` is `v`, provided no displayed
  value contains a tab or a newline;
* if `(rr,cc)` lies in the content box (`box_is_displayed_box`: the tight box of the positions
  displaying something), then at row `rr - minRow`, column `cc - minCol`
  - a GFM reader of `markdown` finds `v` (padded by a space each side, newlines as spaces),
  - the table of page `k` of `Document()` has text `v`,
  - `Tables()[k]` (header row first) has `v`. -/
theorem cell_lands_everywhere {shared : List Str} {i used : Nat} {fresh : Bool} {x : SheetXML} {s : Wb.Sheet}
    (h : loadSheet shared i used fresh x = some s) (r : Reader) (k : Nat) (hk : r.sheets[k]? = some s)
    (lvl : Nat) (hl : 1 ≤ lvl) (hname : 10 ∉ s.name)
    (rr cc : Nat) (hr : rr < maxRowOf x.rows) (hc : cc ≤ maxColOf x.rows) :
    (s.cell rr cc).map cellText = some (displayed shared x rr cc) ∧
    ((∀ r' c', 9 ∉ displayed shared x r' c' ∧ 10 ∉ displayed shared x r' c') →
      ((splitOn 10 (textWithOptions r { sheets := [(k : Int)] }))[rr]?).bind (fun line => (splitOn 9 line)[cc]?) =
        some (displayed shared x rr cc)) ∧
    ((findContentBounds s).isEmpty = false →
      (findContentBounds s).minRow ≤ rr → (rr : Int) ≤ (findContentBounds s).maxRow →
      (findContentBounds s).minCol ≤ cc → (cc : Int) ≤ (findContentBounds s).maxCol →
      ((mdReadTable (markdown r { sheets := [(k : Int)] } lvl))[rr - (findContentBounds s).r0]?).bind
          (·[cc - (findContentBounds s).c0]?) = some (pad (displayed shared x rr cc)) ∧
      ((((document r)[k]?).bind (·.table)).bind fun t =>
          ((t[rr - (findContentBounds s).r0]?).bind (·[cc - (findContentBounds s).c0]?)).map (·.text)) =
        some (displayed shared x rr cc) ∧
      (((tables r)[k]?).bind fun t =>
          ((t.headers :: t.rows)[rr - (findContentBounds s).r0]?).bind (·[cc - (findContentBounds s).c0]?)) =
        some (displayed shared x rr cc)) := by
  obtain ⟨hlen, hrect⟩ := loadSheet_shape h
  have hsel := select_single r k s hk
  have hget := (loadSheet_shown h rr cc).trans (if_pos ⟨hr, hc⟩)
  refine ⟨by rw [cell_eq_get]; exact hget, ?_, ?_⟩
  · intro hclean
    rw [text_single r { sheets := [(k : Int)] } s hsel rfl rfl]
    rw [C17.text_line_field s.rows (List.ne_nil_of_length_pos (by omega)) (rect_rows_ne hrect)
      (grid_texts h (fun v => 9 ∉ v ∧ 10 ∉ v) hclean) rr cc, hget]
  · intro hne b1 b2 b3 b4
    have hbox := (boxTable_get_at s rr cc b1 b2 b3 b4).trans hget
    refine ⟨?_, ?_, ?_⟩
    · rw [markdown_read_back r { sheets := [(k : Int)] } s lvl hl hsel hrect hne hname, getElem?_map_map, hbox]
      rfl
    · obtain ⟨t, t1, t2, _, _, _⟩ := document_table s hrect hne
      rw [(document_pages r k).1, hk]
      simp only [Option.map_some, Option.bind_some, t1]
      rw [← getElem?_map_map, t2, hbox]
    · obtain ⟨_, t2⟩ := tables_table s hrect hne
      rw [(document_pages r k).2, hk]
      simp only [Option.map_some, Option.bind_some, t2]
      exact hbox

/-- non-vacuity of `cell_lands_everywhere`: a workbook of two parts (the second one missing), the
first sheet with a merged header A1:B1 over a stored B1: one sheet loads, its box is not empty, its
name has no line break, and the Markdown shows the stored B1 blank -/
example :
    let x : SheetXML := ⟨[83], [⟨1, [⟨[65, 49], tStr, [104], [], none⟩, ⟨[66, 49], tStr, [122], [], none⟩]⟩,
      ⟨2, [⟨[65, 50], tStr, [120], [], none⟩, ⟨[66, 50], tStr, [121], [], none⟩]⟩], [[65, 49, 58, 66, 49]], [109]⟩
    (openWorkbook [] [some x, none]).map (fun r =>
      (r.sheets.length, r.sheets.map (fun s => ((findContentBounds s).isEmpty, decide (10 ∉ s.name))), markdown r {} 2)) =
    some (1, [(false, true)],
      [35, 35, 32, 83, 10, 10, 124, 32, 104, 32, 124, 32, 32, 124, 10, 124, 45, 45, 45, 124,
       45, 45, 45, 124, 10, 124, 32, 120, 32, 124, 32, 121, 32, 124]) := by decide

/-- `Extractor.Text()` of an XLSX file is `Reader.Text()`; `Extractor.Document()` is
`Reader.Document()`; `Extractor.ToMarkdown()` is `Reader.Markdown()` -/
theorem api_is_reader (r : Reader) (xh xf : Bool) (front toc : Str) :
    apiText r xh xf = text r ∧ apiDocument r = document r ∧
      apiMarkdown r xh xf {} front toc = markdownWithOptions r {} := by
  refine ⟨rfl, rfl, ?_⟩
  unfold apiMarkdown markdownWithRAG markdownWithOptions
  simp only [Bool.false_eq_true, if_false, false_and, List.nil_append]
  rw [heading_level_default]
  rfl

/-- the whole run: the results are those of the calls made one by one on fresh readers -/
theorem history_results (r : Reader) (calls : List Call) (o : Bool) :
    runCalls ⟨r, o⟩ calls = calls.map fun c => (stepCall ⟨r, true⟩ c).2 := by
  induction calls generalizing o with
  | nil => rfl
  | cons b bs ih =>
    have hstate : ∃ o', (stepCall ⟨r, o⟩ b).1 = ⟨r, o'⟩ := by
      cases b <;> exact ⟨_, rfl⟩
    obtain ⟨o', ho'⟩ := hstate
    simp only [runCalls, ho', List.map_cons, ih o']
    congr 1
    cases b <;> rfl

/-- **call histories**: on one opened reader, whatever was called before — `Close` included —
every call returns what it returns on the freshly opened reader -/
theorem history_independent (r : Reader) (before : List Call) (c : Call) (o : Bool) :
    (runCalls ⟨r, o⟩ (before ++ [c])).getLast? = some (stepCall ⟨r, true⟩ c).2 := by
  rw [history_results, List.map_append, List.map_cons, List.map_nil, List.getLast?_append]
  rfl

/-- the lines of `Text()`: the lines of each sheet's rows, one blank line between sheets -/
theorem text_all_lines (r : Reader) :
    splitOn 10 (text r) = joinBlocks (r.sheets.map fun s => splitOn 10 (sheetText s.rows)) := by
  unfold text textWithOptions
  rw [select_all, splitOn_blocks, List.map_map]
  rfl

/-- a sheet whose displayed values have no tab or newline has one text line per grid row -/
theorem text_line_count (g : Grid) (hg : g ≠ [])
    (hclean : ∀ row ∈ g, ∀ cell ∈ row, 9 ∉ cellText cell ∧ 10 ∉ cellText cell) :
    (splitOn 10 (sheetText g)).length = g.length := by
  unfold sheetText
  rw [splitOn_table_lines cellText 9 (by decide) g hg (fun row hrow cell hcell => (hclean row hrow cell hcell).2),
    List.length_map]

/-- **line r / field c in the text of the whole workbook**: for the sheet that follows the
sheets `pre`, grid position `(rr,cc)` is field `cc` of line `offset + rr`, where the offset
counts the lines of the earlier sheets and one blank line after each -/
theorem text_all_sheets_line_field {shared : List Str} {i used : Nat} {fresh : Bool} {x : SheetXML} {s : Wb.Sheet}
    (h : loadSheet shared i used fresh x = some s) (r : Reader) (pre post : List Wb.Sheet)
    (hsheets : r.sheets = pre ++ s :: post)
    (hclean : ∀ r' c', 9 ∉ displayed shared x r' c' ∧ 10 ∉ displayed shared x r' c')
    (rr cc : Nat) (hr : rr < maxRowOf x.rows) (hc : cc ≤ maxColOf x.rows) :
    ((splitOn 10 (text r))[lineOffset (pre.map fun p => splitOn 10 (sheetText p.rows)) + rr]?).bind
        (fun line => (splitOn 9 line)[cc]?) = some (displayed shared x rr cc) := by
  obtain ⟨hlen, hrect⟩ := loadSheet_shape h
  have hg : s.rows ≠ [] := List.ne_nil_of_length_pos (by omega)
  have hcl := grid_texts h (fun v => 9 ∉ v ∧ 10 ∉ v) hclean
  have hcount := text_line_count s.rows hg hcl
  rw [text_all_lines, hsheets, List.map_append, List.map_cons,
    joinBlocks_get _ _ _ rr (by rw [hcount, hlen]; exact hr)]
  rw [C17.text_line_field s.rows hg (rect_rows_ne hrect) hcl rr cc, loadSheet_shown h rr cc, if_pos ⟨hr, hc⟩]

/-- **line r / field c for any one-byte delimiter** (`ExtractOptions.Delimiter` = "," ";" …) that is
not a newline and occurs in no displayed value: splitting the rows at newlines and each line at
the delimiter gives the displayed value of `(r,c)` -/
theorem text_line_field_delim (d : Nat) (hd : d ≠ 10) (g : Grid) (hg : g ≠ []) (hrows : ∀ row ∈ g, row ≠ [])
    (hclean : ∀ row ∈ g, ∀ cell ∈ row, d ∉ cellText cell ∧ 10 ∉ cellText cell) (r c : Nat) :
    ((splitOn 10 (sheetTextD [d] g))[r]?).bind (fun line => (splitOn d line)[c]?) =
      (g.get r c).map cellText :=
  splitOn_table cellText d hd g hg hrows hclean r c

/-- a one-byte `Delimiter` option selects that delimiter, the empty option the tab -/
theorem text_single_delim (r : Reader) (o : ExtractOptions) (s : Wb.Sheet) (d : Nat)
    (hsel : selectSheets r o.sheets = [s]) (hh : o.includeHeaders = false) (hd : o.delimiter = [d]) :
    textWithOptions r o = sheetTextD [d] s.rows := by
  unfold textWithOptions sheetBlock effDelimiter
  rw [hsel]
  simp [hh, hd, intercalate]

example : (splitOn 10 (sheetTextD [44] [[{ value := [97], type := .str }, { value := [98], type := .str }]])) = [[97, 44, 98]] := by decide

/-- every sheet of an opened workbook is rectangular (so the box theorems apply to it) -/
theorem open_sheets_rect (sis : List SI) (parts : List (Option SheetXML)) (r : Reader)
    (h : openWorkbook sis parts = some r) : ∀ s ∈ r.sheets, Rect (s.maxCol + 1) s.rows := by
  intro s hs
  rw [(openWorkbook_some h).1] at hs
  obtain ⟨_, x, _, hload⟩ := open_sheet_origin _ parts 0 [] 0 s hs
  exact (loadSheet_shape hload).2

/-- **the Markdown of several sheets read back sheet by sheet**: a reader that cuts the text at
its heading lines finds, under the `(k+1)`-th heading, the content box of the `k`-th selected
sheet — nothing for a sheet without content, nothing beyond the last sheet.  For every selection
of rectangular sheets whose names contain no line break; sheets without content may come last
(there `strings.TrimSpace` cuts into the last heading lines, which still are no table lines). -/
theorem markdown_all_sheets_read_back (r : Reader) (o : ExtractOptions) (lvl : Nat) (hl : 1 ≤ lvl)
    (hrect : ∀ s ∈ selectSheets r o.sheets, Rect (s.maxCol + 1) s.rows)
    (hnames : ∀ s ∈ selectSheets r o.sheets, 10 ∉ s.name) (k : Nat) :
    mdReadSheet k (markdown r o lvl) =
      match (selectSheets r o.sheets)[k]? with
      | some s => if (findContentBounds s).isEmpty then [] else (boxTable s).map (·.map pad)
      | none => [] := by
  unfold markdown
  exact mdReadSheet_general lvl hl _ hrect hnames k

/-- the same with the selection given as `init ++ [last]` and the sheet by its position (the hypothesis
that the last sheet has content is not used) -/
theorem markdown_all_sheets_read_back_last (r : Reader) (o : ExtractOptions) (lvl : Nat) (hl : 1 ≤ lvl)
    (init : List Wb.Sheet) (last : Wb.Sheet) (hsel : selectSheets r o.sheets = init ++ [last])
    (hrect : ∀ s ∈ init ++ [last], Rect (s.maxCol + 1) s.rows)
    (hnames : ∀ s ∈ init ++ [last], 10 ∉ s.name)
    (hlast : (findContentBounds last).isEmpty = false)
    (k : Nat) (s : Wb.Sheet) (hk : (init ++ [last])[k]? = some s) :
    mdReadSheet k (markdown r o lvl) =
      if (findContentBounds s).isEmpty then [] else (boxTable s).map (·.map pad) := by
  unfold markdown
  rw [hsel, mdReadSheet_general lvl hl _ hrect hnames k, hk]

/-- **`Extractor.ToMarkdown()` of a workbook, cell by cell**: for the `k`-th sheet `s`, loaded
from part `x`, and a position `(rr,cc)` of its content box, the reader finds the displayed value
(padded) under the `(k+1)`-th heading at row `rr - minRow`, column `cc - minCol` — for every
opened workbook whose sheet names contain no line break -/
theorem api_markdown_cell (sis : List SI) (parts : List (Option SheetXML)) (r : Reader)
    (hopen : openWorkbook sis parts = some r) (xh xf : Bool) (front toc : Str)
    (hnames : ∀ s ∈ r.sheets, 10 ∉ s.name)
    {shared : List Str} {i used : Nat} {fresh : Bool} {x : SheetXML} {s : Wb.Sheet} (h : loadSheet shared i used fresh x = some s)
    (k : Nat) (hk : r.sheets[k]? = some s)
    (rr cc : Nat) (hr : rr < maxRowOf x.rows) (hc : cc ≤ maxColOf x.rows)
    (hne : (findContentBounds s).isEmpty = false)
    (b1 : (findContentBounds s).minRow ≤ rr) (b2 : (rr : Int) ≤ (findContentBounds s).maxRow)
    (b3 : (findContentBounds s).minCol ≤ cc) (b4 : (cc : Int) ≤ (findContentBounds s).maxCol) :
    ((mdReadSheet k (apiMarkdown r xh xf {} front toc))[rr - (findContentBounds s).r0]?).bind
        (·[cc - (findContentBounds s).c0]?) = some (pad (displayed shared x rr cc)) := by
  have hrectAll := open_sheets_rect sis parts r hopen
  rw [(api_is_reader r xh xf front toc).2.2]
  unfold markdownWithOptions
  rw [markdown_all_sheets_read_back r {} 2 (by omega) (by rw [select_all]; exact hrectAll)
    (by rw [select_all]; exact hnames) k]
  rw [select_all, hk]
  simp only [hne, Bool.false_eq_true, if_false]
  have hrect := (loadSheet_shape h).2
  rw [getElem?_map_map, boxTable_get_at s rr cc b1 b2 b3 b4, loadSheet_shown h rr cc, if_pos ⟨hr, hc⟩]
  rfl

end Tabula.C17O
