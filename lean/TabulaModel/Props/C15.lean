import TabulaModel.Lemmas.MarkdownLines
/-!
# C15 — Markdown output keeps table, heading and list structure intact

Theorems about `Model/Markdown.lean` (lemmas in `Lemmas/Markdown.lean`, `Lemmas/MarkdownLines.lean`).  The reading
side (`gfmSplitRow`, `gfmTable`, `parseAtx`, `parseListLine`) is the specification; the writing
side mirrors the Go emitters.  Cells are arbitrary byte strings (any `Nat`s).  The theorems
named `…_any` hold for every cell content, backslashes included (a backslash in front of a pipe,
at the end of a cell, doubled): the reading spec takes `\|` for a literal pipe and every other
backslash for cell text, so the writers' `|` → `\|` is exactly invertible.  The statements
with the hypothesis `NoBackslash` are instances of them.
-/
namespace Tabula.C15
open Tabula.A1 (Str dec)
open Tabula.Markdown

/-- no cell of the table contains a backslash -/
def NoBackslash (t : List (List Str)) : Prop := ∀ r ∈ t, ∀ c ∈ r, 92 ∉ c

/-- `n` columns in every row -/
def Rect (n : Nat) (t : List (List Str)) : Prop := ∀ r ∈ t, r.length = n

/-- **table_roundtrip (every writer)**: a table of `n ≥ 1` columns whose cells are any byte
strings without backslash — empty cells, `|`, newlines included — rendered by writer `w`, is
read by a GFM reader as the same rows × columns, each cell being the writer's normalisation
of the source cell (`normCell w`: newline → space, the writer's CR rule, trimmed). -/
theorem table_roundtrip (w : Writer) (n : Nat) (hn : 1 ≤ n) (t : List (List Str)) (hne : t ≠ [])
    (hrect : Rect n t) (hbs : NoBackslash t) :
    gfmTable (render w t) = some (t.map (List.map (normCell w))) :=
  gfmTable_render_table w n hn t hne hrect

/-- the normalisation is "newline → space, trimmed" for every writer on cells without a
carriage return; with CR, pptx turns it into a space and htmldoc drops it (their code) -/
theorem normCell_noCR (w : Writer) (c : Str) (h : 13 ∉ c) : normCell w c = trim (nlToSpace c) := by
  have h13 : 13 ∉ nlToSpace c := by
    intro hc
    rcases mem_replaceByte _ _ _ _ hc with h1 | h1
    · simp at h1
    · exact h h1.1
  cases w with
  | model => rfl
  | docx => exact trim_trim _
  | odt => exact trim_trim _
  | xlsx => rfl
  | pptx => show trim (replaceByte 13 [32] (nlToSpace c)) = _; rw [replaceByte_absent _ _ _ h13]
  | html => show trim (replaceByte 13 [] (nlToSpace c)) = _; rw [replaceByte_absent _ _ _ h13]

theorem table_roundtrip_model (n : Nat) (hn : 1 ≤ n) (t : List (List Str)) (hne : t ≠ [])
    (hrect : Rect n t) (hbs : NoBackslash t) :
    gfmTable (render .model t) = some (t.map (List.map fun c => trim (nlToSpace c))) :=
  gfmTable_render_table .model n hn t hne hrect

theorem table_roundtrip_xlsx (n : Nat) (hn : 1 ≤ n) (t : List (List Str)) (hne : t ≠ [])
    (hrect : Rect n t) (hbs : NoBackslash t) :
    gfmTable (render .xlsx t) = some (t.map (List.map fun c => trim (nlToSpace c))) :=
  gfmTable_render_table .xlsx n hn t hne hrect

theorem table_roundtrip_pptx (n : Nat) (hn : 1 ≤ n) (t : List (List Str)) (hne : t ≠ [])
    (hrect : Rect n t) (hbs : NoBackslash t) :
    gfmTable (render .pptx t)
      = some (t.map (List.map fun c => trim (replaceByte 13 [32] (nlToSpace c)))) :=
  gfmTable_render_table .pptx n hn t hne hrect

/-- htmldoc on a table of plain cells (rows of equal length, no spans).  The statement for tables
whose cells carry `colspan`/`rowspan` — `renderHtmlSpan` reading back as the table's grid — is
`table_roundtrip_html` in Props/C15Html.lean (it was the recorded finding
`C15/table-shape-merged-html` until fix 72cc329; the old writer is kept there as
`renderHtmlSpanOld` with its `_pinned_counterexample`s). -/
theorem table_roundtrip_html_plain (n : Nat) (hn : 1 ≤ n) (t : List (List Str)) (hne : t ≠ [])
    (hrect : Rect n t) (hbs : NoBackslash t) :
    gfmTable (render .html t)
      = some (t.map (List.map fun c => trim (replaceByte 13 [] (nlToSpace c)))) :=
  gfmTable_render_table .html n hn t hne hrect

/-- docx and odt trim the cell themselves; reading back gives the same thing as for the others -/
theorem table_roundtrip_docx (n : Nat) (hn : 1 ≤ n) (t : List (List Str)) (hne : t ≠ [])
    (hrect : Rect n t) (hbs : NoBackslash t) :
    gfmTable (render .docx t) = some (t.map (List.map fun c => trim (nlToSpace c))) := by
  rw [gfmTable_render_table .docx n hn t hne hrect]
  exact congrArg some (List.map_congr_left fun r _ => List.map_congr_left fun c _ => trim_trim _)

theorem table_roundtrip_odt (n : Nat) (hn : 1 ≤ n) (t : List (List Str)) (hne : t ≠ [])
    (hrect : Rect n t) (hbs : NoBackslash t) :
    gfmTable (render .odt t) = some (t.map (List.map fun c => trim (nlToSpace c))) := by
  rw [gfmTable_render_table .odt n hn t hne hrect]
  exact congrArg some (List.map_congr_left fun r _ => List.map_congr_left fun c _ => trim_trim _)

/-- non-vacuity: a 2×2 table with a pipe, a newline, an empty and a padded cell, all writers -/
example : ∀ w : Writer,
    gfmTable (render w [[[97, 124, 98], [99, 10, 100]], [[], [32, 120, 32]]])
      = some [[[97, 124, 98], [99, 32, 100]], [[], [120]]] := by
  intro w; cases w <;> decide +kernel

/-- **rows_rectangular (every writer)**: every emitted line of a rectangular table — header,
separator, each data row — has the header's number of cells for a GFM reader. -/
theorem rows_rectangular (w : Writer) (n : Nat) (hn : 1 ≤ n) (t : List (List Str))
    (hrect : Rect n t) (hbs : NoBackslash t) :
    (∀ r ∈ t, (gfmSplitRow (renderRow w r)).length = n) ∧
      (gfmSplitRow (renderDelim w n)).length = n :=
  rows_rect w n hn t hrect

def NoBackslashS (t : List (List SCell)) : Prop := ∀ r ∈ t, ∀ c ∈ r, 92 ∉ c.text

/-- **table_roundtrip with merged cells (docx)**: any rows of cells with any `ColSpan`
(values < 1 count as 1) and any vertical-merge continuations read back as the grid: each
cell's text at its first grid column, empty cells under the columns it spans and under
continuations, every row padded to the table's grid width. -/
theorem table_roundtrip_spans_docx (t : List (List SCell)) (hne : t ≠ []) (hn : 1 ≤ colCount t)
    (hbs : NoBackslashS t) :
    gfmTable (renderSpan .docx t) = some (t.map (gridRow .docx (colCount t))) :=
  gfmTable_renderSpan_any .docx (by decide) t (Nat.ne_of_gt hn)

theorem table_roundtrip_spans_odt (t : List (List SCell)) (hne : t ≠ []) (hn : 1 ≤ colCount t)
    (hbs : NoBackslashS t) :
    gfmTable (renderSpan .odt t) = some (t.map (gridRow .odt (colCount t))) :=
  gfmTable_renderSpan_any .odt (by decide) t (Nat.ne_of_gt hn)

/-- **rows_rectangular for merged cells** (F5 after the fix): whatever the spans, every row
line has exactly `colCount t` cells — and so has the separator. -/
theorem rows_rectangular_spans (w : Writer) (hw : w ≠ .model) (t : List (List SCell))
    (hbs : NoBackslashS t) :
    (∀ r ∈ t, (gfmSplitRow (renderSpanRow w (colCount t) r)).length = colCount t) ∧
      (gfmSplitRow (delimPipe (delimPiece w) (colCount t))).length = colCount t :=
  spanRows_rect w hw t

/-- non-vacuity: a gridSpan=2 cell in the header and a vMerge continuation below it -/
example :
    gfmTable (renderSpan .docx [[⟨[65], 2, false⟩, ⟨[66], 1, false⟩], [⟨[], 1, true⟩, ⟨[120, 124], 1, false⟩]])
      = some [[[65], [], [66]], [[], [120, 124], []]] := by decide +kernel

/-- B14, the pinned `model.Table.ToMarkdown` (no escaping of `|`): the one-cell row `a|b`
reads back as two cells. -/
theorem model_pinned_pipe_counterexample :
    gfmSplitRow (renderRowModelPinned [[97, 124, 98]]) = [[97], [98]] := by decide +kernel

/-- F5, the pinned docx/odt row loop: a gridSpan=2 header cell in a 3-column table gives a
2-cell header line under a 3-cell separator — not a table for a GFM reader. -/
theorem docx_pinned_ragged_counterexample :
    (gfmSplitRow (renderSpanRowPinned .docx 3 [⟨[65], 2, false⟩, ⟨[66], 1, false⟩])).length = 2 ∧
    (gfmSplitRow (delimPipe (delimPiece .docx) 3)).length = 3 := by decide +kernel

/-- F5, pinned: a vertical-merge continuation in column 0 shifts the row's text one column left -/
theorem docx_pinned_shift_counterexample :
    gfmSplitRow (renderSpanRowPinned .docx 2 [⟨[], 1, true⟩, ⟨[120], 1, false⟩]) = [[120], []] := by decide +kernel

/-- **table_roundtrip_any (every writer, every cell content)**: a table of `n ≥ 1` columns whose
cells are ANY byte strings — `|`, newlines, empty cells, and backslashes wherever they stand: in
front of a pipe (`^(yes\|no)$`), at the end of a cell (`C:\`), doubled — rendered by writer `w`,
is read by a GFM reader as the same rows × columns of the writer's normalised cell texts.  No
hypothesis on the cell content is left. -/
theorem table_roundtrip_any (w : Writer) (n : Nat) (hn : 1 ≤ n) (t : List (List Str)) (hne : t ≠ [])
    (hrect : Rect n t) :
    gfmTable (render w t) = some (t.map (List.map (normCell w))) :=
  gfmTable_render_table w n hn t hne hrect

/-- `model.Table.ToMarkdown` (also the table chunks of the PDF / RAG pipeline) -/
theorem table_roundtrip_model_any (n : Nat) (hn : 1 ≤ n) (t : List (List Str)) (hne : t ≠ [])
    (hrect : Rect n t) :
    gfmTable (render .model t) = some (t.map (List.map fun c => trim (nlToSpace c))) :=
  table_roundtrip_any .model n hn t hne hrect

/-- every writer on cells without a carriage return: newline → space, trimmed, nothing else -/
theorem table_roundtrip_noCR_any (w : Writer) (n : Nat) (hn : 1 ≤ n) (t : List (List Str)) (hne : t ≠ [])
    (hrect : Rect n t) (hcr : ∀ r ∈ t, ∀ c ∈ r, 13 ∉ c) :
    gfmTable (render w t) = some (t.map (List.map fun c => trim (nlToSpace c))) := by
  rw [table_roundtrip_any w n hn t hne hrect]
  exact congrArg some
    (List.map_congr_left fun r hr => List.map_congr_left fun c hc => normCell_noCR w c (hcr r hr c hc))

theorem rows_rectangular_any (w : Writer) (n : Nat) (hn : 1 ≤ n) (t : List (List Str))
    (hrect : Rect n t) :
    (∀ r ∈ t, (gfmSplitRow (renderRow w r)).length = n) ∧
      (gfmSplitRow (renderDelim w n)).length = n :=
  rows_rect w n hn t hrect

theorem table_roundtrip_spans_docx_any (t : List (List SCell)) (hne : t ≠ []) (hn : 1 ≤ colCount t) :
    gfmTable (renderSpan .docx t) = some (t.map (gridRow .docx (colCount t))) :=
  gfmTable_renderSpan_any .docx (by decide) t (Nat.ne_of_gt hn)

theorem table_roundtrip_spans_odt_any (t : List (List SCell)) (hne : t ≠ []) (hn : 1 ≤ colCount t) :
    gfmTable (renderSpan .odt t) = some (t.map (gridRow .odt (colCount t))) :=
  gfmTable_renderSpan_any .odt (by decide) t (Nat.ne_of_gt hn)

theorem rows_rectangular_spans_any (w : Writer) (hw : w ≠ .model) (t : List (List SCell)) :
    (∀ r ∈ t, (gfmSplitRow (renderSpanRow w (colCount t) r)).length = colCount t) ∧
      (gfmSplitRow (delimPipe (delimPiece w) (colCount t))).length = colCount t :=
  spanRows_rect w hw t

/-- non-vacuity: `^(a\|b)`-like cells — a backslash in front of a pipe, a cell that is one
backslash, two backslashes in front of a pipe, a backslash at the end of a cell next to a cell that
is one pipe — through every writer -/
example : ∀ w : Writer,
    gfmTable (render w [[[97, 92, 124, 98], [92]], [[92, 92, 124], [124]], [[120, 92], [124, 92]]])
      = some [[[97, 92, 124, 98], [92]], [[92, 92, 124], [124]], [[120, 92], [124, 92]]] := by
  intro w; cases w <;> decide +kernel

/-- an escaper that "avoids double escaping": a pipe that already follows a backslash gets no
backslash of its own (`prev` = the byte before) -/
def escPipeSkip (prev : Nat) : Str → Str
  | [] => []
  | c :: s => (if c = 124 ∧ prev ≠ 92 then [92, 124] else [c]) ++ escPipeSkip c s

/-- such an escaper agrees with `escPipe` on every cell without the sequence backslash + pipe — -/
theorem escPipeSkip_eq_of_noBs (prev : Nat) (s : Str) (hp : prev ≠ 92) (h : 92 ∉ s) :
    escPipeSkip prev s = escPipe s := by
  induction s generalizing prev with
  | nil => rfl
  | cons c s ih =>
    have hc : c ≠ 92 := fun e => h (by simp [e])
    have hs : 92 ∉ s := fun e => h (List.mem_cons_of_mem _ e)
    by_cases h1 : c = 124
    · subst h1; rw [escPipe_cons_pipe, escPipeSkip, ih _ hc hs]; simp [hp]
    · rw [escPipe_cons_ne _ _ h1, escPipeSkip, ih _ hc hs]; simp [h1]

/-- — and loses the source backslash where the sequence occurs: the cell `a\|b` is written as it
stands and read back as `a|b`, while `escPipe` writes `a\\|b`, which reads back as `a\|b`. -/
theorem skip_escaped_pipe_counterexample :
    gfmSplitRow (rowModel [escPipeSkip 0 [97, 92, 124, 98]]) = [[97, 124, 98]] ∧
      gfmSplitRow (renderRow .model [[97, 92, 124, 98]]) = [[97, 92, 124, 98]] := by decide +kernel

/-- the level is always a valid ATX level, for all integers (any source level, any offset,
any maximum including "unset" ≤ 0) -/
theorem heading_level_range (level offset max : Int) :
    1 ≤ headingLevel level offset max ∧ headingLevel level offset max ≤ 6 := by
  rw [headingLevel_eq_rag]
  exact headingLevelRag_range _ _ _

/-- **heading_level_clamped**: for a source level ≥ 1 and a configured maximum ≥ 1 the level is
`clamp (level + offset) 1 (min max 6)` -/
theorem heading_level_clamped (level offset max : Int) (hl : 1 ≤ level) (hm : 1 ≤ max) :
    headingLevel level offset max = Max.max 1 (Min.min (level + offset) (Min.min max 6)) := by
  rw [headingLevel_eq, Int.max_eq_left hl, if_pos (by omega)]

/-- with the maximum unset (0) only the 1..6 clamp applies -/
theorem heading_level_nomax (level offset : Int) (hl : 1 ≤ level) :
    headingLevel level offset 0 = Max.max 1 (Min.min (level + offset) 6) := by
  rw [headingLevel_eq, Int.max_eq_left hl, if_neg (by decide)]

/-- the RAG chunk writer: same clamp when the configured maximum is in 1..6 (the property's
quantifier) and the chunk has an explicit level -/
theorem heading_level_rag_clamped (level offset max : Int) (hl : 1 ≤ level) (hm : 1 ≤ max) (hm6 : max ≤ 6) :
    headingLevelRag level offset max = Max.max 1 (Min.min (level + offset) (Min.min max 6)) := by
  rw [headingLevelRag_eq, if_neg (by omega), if_pos (by omega)]

/-- the chunk writer too gives a valid ATX level for all integers (any explicit or missing level,
any offset, any maximum including "unset") — since the fix that added its cap at 6 -/
theorem heading_level_rag_range (level offset max : Int) :
    1 ≤ headingLevelRag level offset max ∧ headingLevelRag level offset max ≤ 6 :=
  headingLevelRag_range level offset max

/-- the chunk writer's arithmetic is `AdjustHeadingLevel` on the explicit level (a missing level,
0, counts as 2) when the level is not negative: the same clamp for every maximum, also above 6
and unset -/
theorem heading_level_rag_eq (level offset max : Int) (hl : 0 ≤ level) :
    headingLevelRag level offset max = headingLevel (if level = 0 then 2 else level) offset max := by
  have h1 : 1 ≤ (if level = 0 then 2 else level) := by split <;> omega
  rw [headingLevelRag_eq, headingLevel_eq, Int.max_eq_left h1]

theorem heading_level_rag_clamped_all (level offset max : Int) (hl : 1 ≤ level) (hm : 1 ≤ max) :
    headingLevelRag level offset max = Max.max 1 (Min.min (level + offset) (Min.min max 6)) := by
  rw [headingLevelRag_eq, if_neg (by omega), if_pos (by omega)]

theorem heading_level_rag_nomax (level offset : Int) (hl : 1 ≤ level) :
    headingLevelRag level offset 0 = Max.max 1 (Min.min (level + offset) 6) := by
  rw [headingLevelRag_eq, if_neg (by omega), if_neg (by decide)]

example : headingLevel 3 7 4 = 4 ∧ headingLevel 2 (-2) 6 = 1 ∧ headingLevel 6 7 0 = 6 := by decide +kernel

/-- **atx_roundtrip**: an emitted heading line of level 1..6 is an ATX heading of that level
with that text -/
theorem atx_roundtrip (level : Nat) (text : Str) (h1 : 1 ≤ level) (h6 : level ≤ 6) :
    parseAtx (atxLine level text) = some (level, text) := by
  obtain ⟨ht, hd⟩ := atxLine_span level text
  unfold parseAtx
  simp only [ht, hd, List.length_replicate]
  simp [h1, h6]

/-- what the readers' Markdown writes for a heading is an ATX heading of the clamped level -/
theorem heading_emitted_roundtrip (level offset max : Int) (text : Str) :
    parseAtx (atxLine (headingLevel level offset max).toNat text)
      = some ((headingLevel level offset max).toNat, text) := by
  have h := heading_level_range level offset max
  exact atx_roundtrip _ _ (by omega) (by omega)

/-- seven `#` are not a heading (what an unclamped level would produce) -/
theorem atx_level7_counterexample : parseAtx (atxLine 7 [120]) = none := by decide +kernel

/-- **list_roundtrip** (one item): depth, kind and text are recovered from the emitted line,
for any depth, any number, any text -/
theorem list_line_roundtrip (it : Item) :
    parseListLine (listLine it) = some (it.depth, it.ordered, it.text) :=
  parseListLine_listLine it

/-- **list_roundtrip**: the emitted lines, in order, give back every item's depth,
ordered/unordered kind and text — so order, nesting depth and kind survive for any nesting -/
theorem list_roundtrip (items : List Item) :
    (listLines items).map parseListLine = items.map fun it => some (it.depth, it.ordered, it.text) := by
  unfold listLines
  rw [List.map_map]
  apply List.map_congr_left
  intro it _
  exact list_line_roundtrip it

/-- …and the lines are recovered from the emitted text when no item text contains a newline -/
theorem list_text_lines (items : List Item) (h : ∀ it ∈ items, 10 ∉ it.text) :
    splitLines ((listLines items).flatMap fun l => l ++ [10]) = listLines items ++ [[]] := by
  apply Tabula.MarkdownDoc.splitLines_joinLines
  intro l hl
  unfold listLines at hl
  rcases List.mem_map.mp hl with ⟨it, hit, rfl⟩
  exact listLine_noNl it (h it hit)

example : parseListLine (listLine ⟨3, true, 12, [104, 105]⟩) = some (3, true, [104, 105]) :=
  list_line_roundtrip _

/-- a mutant that writes ordered items with `-` loses the kind -/
theorem ordered_as_dash_counterexample :
    parseListLine (listLine ⟨0, false, 1, [120]⟩) ≠ some (0, true, [120]) := by decide +kernel

end Tabula.C15
