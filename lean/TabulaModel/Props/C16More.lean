import TabulaModel.Lemmas.Docx
import TabulaModel.Lemmas.Odt
import TabulaModel.Props.C16
/-
C16, further all-input laws of the DOCX reader model (Model/Docx.lean):

1. the block level (`blocksOfList`, what `decodeBlocks` offers to its callback) is a
   flattening: it holds only elements that are no block container, it is the identity on such
   lists and hence idempotent; the ordered element list `bodyBlocks` pairs EVERY unmarshalled
   paragraph and EVERY unmarshalled table, each exactly once and in its own order (the counting
   of the second pass loses nothing), and a document whose content controls have been unwrapped
   by hand reads as the same element list;
2. `parseListLevel` in closed form: the digits of `w:ilvl` read as a number, cut at 8;
3. heading levels of DOCX paragraphs are in 1..9 for every styles part (also a cyclic or
   dangling one) and every paragraph, list levels in 0..8, for every element of `elements`;
4. laws of `visibleElements` (header/footer exclusion written as a filter on the element list; the
   views decide by `Docx.excluded`): tables are never excluded, exclusion is idempotent and works
   element by element (it cannot reorder);
5. `limitTableGrid` is idempotent (DOCX and ODT);
6. ODT: the grouping elements of a table are a flattening too (`tableItemsList` is a normal form;
   a table with its row / column groups unwrapped has the same rows, grid and declared columns),
   and list nesting is monotone: no item of a list read at level d comes out above level d.
Core Lean only.
-/
namespace Tabula.C16More
open Tabula.Xml Tabula.Docx Tabula.C16

/-- a block: an element that is no block container -/
def isBlock (n : Node) : Bool := n.isElem && !blockContainers.contains n.loc

theorem blocksOfNode_clean (n : Node) : ∀ m ∈ blocksOfNode n, isBlock m = true := by
  induction n using Node.induct with
  | text s => intro m hm; simp [blocksOfNode] at hm
  | elem tag attrs kids ih =>
    intro m hm
    simp only [blocksOfNode] at hm
    split at hm
    · obtain ⟨n, hn, h⟩ := mem_blocksOfList hm
      exact ih n hn m h
    · rename_i hc
      have hmm : m = .elem tag attrs kids := by simpa using hm
      subst hmm
      have hm2 : ¬ (localName tag ∈ blockContainers) := by simpa using hc
      simp [isBlock, Node.isElem, Node.loc, Node.tag, hm2]

/-- **docx_block_level_clean**. Whatever the body (or a cell) contains, what `decodeBlocks`
offers to its callback are elements, and none of them is a block container: content controls
and custom XML never reach the paragraph / table decoders as such. -/
theorem docx_block_level_clean (l : List Node) : ∀ m ∈ blocksOfList l, isBlock m = true := by
  intro m hm
  obtain ⟨n, _, h⟩ := mem_blocksOfList hm
  exact blocksOfNode_clean n m h

/-- on a list of blocks the block level is the list itself -/
theorem docx_block_level_of_blocks (l : List Node) (h : ∀ n ∈ l, isBlock n = true) : blocksOfList l = l := by
  have h' : ∀ n ∈ l, n.isElem = true ∧ blockContainers.contains n.loc = false := fun n hn => by
    simpa [isBlock] using h n hn
  rw [blocksOfList_plain l fun n hn => (h' n hn).2, List.filter_eq_self]
  exact fun n hn => (h' n hn).1

example : ∀ n ∈ [wP [wR [wT [97]]], wTbl []], isBlock n = true := by decide

/-- **docx_block_level_idempotent**. Flattening the block containers twice is flattening them
once: `blocksOfList` is a normal form. -/
theorem docx_block_level_idempotent (l : List Node) : blocksOfList (blocksOfList l) = blocksOfList l :=
  docx_block_level_of_blocks _ (docx_block_level_clean l)

/-- **docx_unwrapped_body_same_blocks**. The ordered body blocks of a body whose block
containers have been unwrapped by hand are the ordered body blocks of the body as authored. -/
theorem docx_unwrapped_body_same_blocks (kids : List Node) : bodyBlocks (blocksOfList kids) = bodyBlocks kids := by
  unfold bodyBlocks
  rw [docx_block_level_idempotent]

/-- **docx_unwrapped_document_same_elements**. Reaches the reader: a document whose content
controls / custom XML elements of the body have been replaced by their content (to any depth)
is read as the same element list - the containers carry no structure of their own. -/
theorem docx_unwrapped_document_same_elements (docTag bodyTag : Str) (da ba : List (Str × Str)) (pre kids post : List Node)
    (styles : Option Node)
    (hdoc : localName docTag ≠ sBody) (hbody : localName bodyTag = sBody)
    (hpre : noBodyList pre = true) (hpost : noBodyList post = true) :
    elements (.elem docTag da (pre ++ [.elem bodyTag ba (blocksOfList kids)] ++ post)) styles
      = elements (.elem docTag da (pre ++ [.elem bodyTag ba kids] ++ post)) styles := by
  rw [elements_interleave docTag bodyTag da ba pre _ post styles hdoc hbody hpre hpost,
      elements_interleave docTag bodyTag da ba pre kids post styles hdoc hbody hpre hpost,
      docx_unwrapped_body_same_blocks]

example : localName [119, 58, 100] ≠ sBody ∧ localName [119, 58, 98, 111, 100, 121] = sBody
    ∧ noBodyList ([] : List Node) = true := by decide

/-- **docx_every_paragraph_paired**. The paragraphs among the ordered body blocks are exactly
`Body.Paragraphs` (the unmarshalled `w:p` of the block level), in the same order: the counting
of the second pass pairs every one of them, once. -/
theorem docx_every_paragraph_paired (kids : List Node) :
    childrenNamed (bodyBlocks kids) sP = childrenNamed (blocksOfList kids) sP :=
  childrenNamed_bodyElems _ _ (Or.inl rfl)

/-- **docx_every_table_paired**. The same for `Body.Tables`. -/
theorem docx_every_table_paired (kids : List Node) :
    childrenNamed (bodyBlocks kids) sTbl = childrenNamed (blocksOfList kids) sTbl :=
  childrenNamed_bodyElems _ _ (Or.inr rfl)

theorem named_p_tbl_disjoint (n : Node) : (n.named sP && n.named sTbl) = false := by
  cases hp : n.named sP
  · rfl
  · have h1 : n.loc = sP := by
      simp only [Node.named, Bool.and_eq_true, beq_iff_eq] at hp; exact hp.2
    cases ht : n.named sTbl
    · rfl
    · have h2 : n.loc = sTbl := by
        simp only [Node.named, Bool.and_eq_true, beq_iff_eq] at ht; exact ht.2
      rw [h1] at h2
      exact absurd h2 (by decide)

/-- **docx_body_blocks_count**. The ordered element list has as many entries as there are
unmarshalled paragraphs and tables together - nothing lost, nothing paired twice. -/
theorem docx_body_blocks_count (kids : List Node) :
    (bodyBlocks kids).length
      = (childrenNamed (blocksOfList kids) sP).length + (childrenNamed (blocksOfList kids) sTbl).length := by
  unfold bodyBlocks childrenNamed
  induction blocksOfList kids with
  | nil => rfl
  | cons n rest ih =>
    have hd := named_p_tbl_disjoint n
    simp only [List.filter_cons, isBodyElem]
    rcases Bool.eq_false_or_eq_true (n.named sP) with hp | hp <;>
      rcases Bool.eq_false_or_eq_true (n.named sTbl) with ht | ht
    · rw [hp, ht] at hd; cases hd
    · simp [hp, ht] <;> omega
    · simp [hp, ht] <;> omega
    · simp [hp, ht] <;> omega

/-- **docx_list_level_closed_form**. For EVERY `w:ilvl` value: the list level is the number its
decimal digits spell (other characters ignored, as in `parseOutlineLevel`), cut at 8. The early
return of the loop is invisible. -/
theorem docx_list_level_closed_form (s : Str) : parseListLevel s = min (digitsVal s) 8 :=
  parseListLevel_eq s

/-- **docx_list_level_as_authored_iff**. The level is the authored number exactly when that
number is one of the levels WordprocessingML defines (0..8). -/
theorem docx_list_level_as_authored_iff (s : Str) : parseListLevel s = digitsVal s ↔ digitsVal s ≤ 8 := by
  rw [docx_list_level_closed_form]; omega

/-- **docx_list_level_agrees_with_outline**. Where `parseOutlineLevel` accepts a value,
`parseListLevel` reads the same number from the same string. -/
theorem docx_list_level_agrees_with_outline (s : Str) (v : Nat) (h : parseOutlineLevel s = some v) :
    parseListLevel s = v := by
  rw [docx_list_level_closed_form]
  by_cases hv : digitsVal s ≤ 8
  · simp [parseOutlineLevel, hv] at h; omega
  · simp [parseOutlineLevel, hv] at h

example : parseOutlineLevel [51] = some 3 := by decide

theorem headingMap_range : ∀ e ∈ headingMap, 1 ≤ e.2 ∧ e.2 ≤ 9 := by decide +kernel

theorem detectBuiltIn_range (id : Str) (l : Nat) (h : detectBuiltInHeading id = some l) : 1 ≤ l ∧ l ≤ 9 := by
  unfold detectBuiltInHeading at h
  cases hf : headingMap.find? (fun e => e.1 == lower id) with
  | none => rw [hf] at h; simp at h
  | some e =>
    rw [hf] at h
    have he : e.2 = l := by simpa using h
    rw [← he]
    exact headingMap_range e (List.mem_of_find?_eq_some hf)

theorem nameLevel_range (n : Str) : 1 ≤ nameLevel n ∧ nameLevel n ≤ 9 := by
  unfold nameLevel
  split
  · rename_i i hi
    have := List.mem_range.mp (List.mem_of_find?_eq_some hi)
    omega
  · omega

theorem outline_range (s : Str) (l : Nat) (h : (parseOutlineLevel s).map (· + 1) = some l) : 1 ≤ l ∧ l ≤ 9 := by
  by_cases hv : digitsVal s ≤ 8
  · simp [parseOutlineLevel, hv] at h; omega
  · simp [parseOutlineLevel, hv] at h

theorem detectHeadingDef_range (d : StyleDef) (l : Nat) (h : detectHeadingDef d = some l) : 1 ≤ l ∧ l ≤ 9 := by
  unfold detectHeadingDef at h
  split at h
  · rename_i l0 hb
    cases h; exact detectBuiltIn_range _ _ hb
  · split at h
    · cases h; exact nameLevel_range _
    · split at h
      · exact outline_range _ _ h
      · cases h

theorem levelOfId_range (defs : List StyleDef) (id : Str) (l : Nat) (h : levelOfId defs id = some l) : 1 ≤ l ∧ l ≤ 9 := by
  unfold levelOfId at h
  split at h
  · exact detectHeadingDef_range _ _ h
  · exact detectBuiltIn_range _ _ h

theorem estimate_range (h : Nat) : 1 ≤ estimateHeadingLevel h ∧ estimateHeadingLevel h ≤ 3 := by
  unfold estimateHeadingLevel
  split
  · omega
  · split <;> omega

/-- **docx_style_heading_level_range**. `StyleResolver.Resolve` on ANY styles part (cyclic,
dangling, redefined ids) and ANY style id: a heading level, if there is one, is in 1..9. -/
theorem docx_style_heading_level_range (st : Styles) (id : Str) (l : Nat) (h : resolveHeading st id = some l) :
    1 ≤ l ∧ l ≤ 9 := by
  unfold resolveHeading at h
  split at h
  · cases h
  · split at h
    · exact detectBuiltIn_range _ _ h
    · simp only at h
      split at h
      · rename_i l0 hf
        cases h
        obtain ⟨x, _, hx⟩ := List.exists_of_findSome?_eq_some hf
        exact levelOfId_range _ _ _ hx
      · split at h
        · cases h
          have := estimate_range (resolvedSz st (chain st.defs id))
          omega
        · cases h

/-- **docx_heading_level_range**. Every paragraph, every styles part: the heading level
`processParagraph` assigns (style, inherited style, font-size estimate or the paragraph's own
`w:outlineLvl`) is in 1..9. -/
theorem docx_heading_level_range (st : Styles) (p : Node) (l : Nat) (h : (processParagraph st p).heading = some l) :
    1 ≤ l ∧ l ≤ 9 := by
  simp only [processParagraph] at h
  split at h
  · rename_i l0 hr
    cases h
    exact docx_style_heading_level_range _ _ _ hr
  · split at h
    · exact outline_range _ _ h
    · cases h

/-- **docx_list_item_range**. A paragraph that is a list item has a numbering id other than
"" and "0" and a level in 0..8. -/
theorem docx_list_item_range (st : Styles) (p : Node) (numId : Str) (lv : Nat)
    (h : (processParagraph st p).list = some (numId, lv)) : lv ≤ 8 ∧ numId ≠ [] ∧ numId ≠ [48] := by
  simp only [processParagraph] at h
  split at h
  · rename_i hc
    cases h
    exact ⟨list_level_bounded _, hc.1, hc.2⟩
  · cases h

/-- **docx_elements_levels_in_range**. Reaches `elements`: in the element list of every document
with every styles part, each paragraph's heading level is in 1..9 and each list level in 0..8. -/
theorem docx_elements_levels_in_range (doc : Node) (styles : Option Node) (p : Para)
    (hp : Elem.para p ∈ elements doc styles) :
    (∀ l, p.heading = some l → 1 ≤ l ∧ l ≤ 9) ∧ (∀ numId lv, p.list = some (numId, lv) → lv ≤ 8) := by
  unfold elements at hp
  obtain ⟨n, _, hn⟩ := List.mem_map.mp hp
  unfold processElement at hn
  split at hn
  · cases hn
  · cases hn
    exact ⟨fun l hl => docx_heading_level_range _ _ l hl,
           fun numId lv hl => (docx_list_item_range _ _ numId lv hl).1⟩

example : (elements witnessDoc none).any (fun e => match e with | .para _ => true | .table _ => false) = true := by
  decide +kernel

def isTable : Elem → Bool
  | .table _ => true
  | .para _ => false

/-- **docx_exclusion_keeps_tables**. Whatever the options and the header / footer lines:
every table of the body is written, in order. -/
theorem docx_exclusion_keeps_tables (opts : ExtractOptions) (hdr ftr : List Str) (trim : Str → Str) (els : List Elem) :
    (visibleElements opts hdr ftr trim els).filter isTable = els.filter isTable := by
  unfold visibleElements
  rw [List.filter_filter]
  apply List.filter_congr
  intro e _
  cases e <;> simp [isTable]

/-- **docx_exclusion_idempotent**. Excluding twice is excluding once. -/
theorem docx_exclusion_idempotent (opts : ExtractOptions) (hdr ftr : List Str) (trim : Str → Str) (els : List Elem) :
    visibleElements opts hdr ftr trim (visibleElements opts hdr ftr trim els) = visibleElements opts hdr ftr trim els := by
  unfold visibleElements
  rw [List.filter_filter]
  apply List.filter_congr
  intro e _
  simp

/-- **docx_exclusion_elementwise**. Exclusion decides element by element: the visible
elements of a body made of two pieces are those of the pieces, in order. -/
theorem docx_exclusion_elementwise (opts : ExtractOptions) (hdr ftr : List Str) (trim : Str → Str) (a b : List Elem) :
    visibleElements opts hdr ftr trim (a ++ b) = visibleElements opts hdr ftr trim a ++ visibleElements opts hdr ftr trim b := by
  unfold visibleElements
  exact List.filter_append ..

/-- **docx_excluded_iff**. Exactly which paragraphs go: a paragraph of the body is written iff
its trimmed text is empty or equals no non-empty header line (when headers are excluded) and no
non-empty footer line (when footers are excluded). -/
theorem docx_excluded_iff (opts : ExtractOptions) (hdr ftr : List Str) (trim : Str → Str) (els : List Elem) (p : Para) :
    Elem.para p ∈ visibleElements opts hdr ftr trim els
      ↔ Elem.para p ∈ els ∧ shouldExclude opts hdr ftr (trim p.text) = false := by
  unfold visibleElements
  rw [List.mem_filter]
  simp

theorem hasSpans_resetSpans (rows : List (List Cell)) : hasSpans (resetSpans rows) = false :=
  Grid.hasSpans_resetSpans spans rows

/-- **docx_grid_limit_idempotent**. `limitTableGrid` applied to its own result changes nothing:
a table it has reset has no spans left. -/
theorem docx_grid_limit_idempotent (rows : List (List Cell)) :
    limitTableGrid (limitTableGrid rows) = limitTableGrid rows :=
  Grid.limit_idem spans _ rows

/-- a table item: a `table:table-column` or `table:table-row` element -/
def isTableItem (n : Node) : Bool :=
  n.isElem && (n.loc == Odt.sTableColumn || n.loc == Odt.sTableRow)

theorem tableItemsNode_clean (n : Node) : ∀ m ∈ Odt.tableItemsNode n, isTableItem m = true := by
  induction n using Node.induct with
  | text s => intro m hm; simp [Odt.tableItemsNode] at hm
  | elem tag attrs kids ih =>
    intro m hm
    simp only [Odt.tableItemsNode] at hm
    split at hm
    · rename_i hc
      have hmm : m = .elem tag attrs kids := by simpa using hm
      subst hmm
      simpa [isTableItem, Node.isElem, Node.loc, Node.tag] using hc
    · split at hm
      · obtain ⟨n, hn, h⟩ := Odt.mem_tableItemsList hm
        exact ih n hn m h
      · simp at hm

/-- **odt_table_items_clean**. What `tableXML.UnmarshalXML` collects from ANY table content are
column and row elements only, however the grouping elements nest. -/
theorem odt_table_items_clean (l : List Node) : ∀ m ∈ Odt.tableItemsList l, isTableItem m = true := by
  intro m hm
  obtain ⟨n, _, h⟩ := Odt.mem_tableItemsList hm
  exact tableItemsNode_clean n m h

theorem odt_table_items_of_items (l : List Node) (h : ∀ n ∈ l, isTableItem n = true) : Odt.tableItemsList l = l := by
  rw [Odt.tableItemsList_flatMap, List.flatMap_congr (g := fun n => [n]) fun n hn => ?_, List.flatMap_singleton']
  have hn := h n hn
  cases n with
  | text s => simp [isTableItem, Node.isElem] at hn
  | elem tag attrs kids =>
    have hc : (localName tag == Odt.sTableColumn || localName tag == Odt.sTableRow) = true := by
      simpa [isTableItem, Node.isElem, Node.loc, Node.tag] using hn
    simp only [Odt.tableItemsNode, hc, if_true]

/-- **odt_table_items_idempotent**. Looking through the grouping elements is a normal form. -/
theorem odt_table_items_idempotent (l : List Node) : Odt.tableItemsList (Odt.tableItemsList l) = Odt.tableItemsList l :=
  odt_table_items_of_items _ (odt_table_items_clean l)

/-- **odt_ungrouped_table_same_grid**. A table whose `table:table-header-rows`, `table:table-rows`,
`table:table-row-group`, `table:table-columns`, … have been replaced by their content (to any
depth) is read as the same rows, the same grid and the same number of declared columns. -/
theorem odt_ungrouped_table_same_grid (tag : Str) (attrs : List (Str × Str)) (kids : List Node) :
    Odt.parseRows (.elem tag attrs (Odt.tableItemsList kids)) = Odt.parseRows (.elem tag attrs kids)
    ∧ Odt.parseTable (.elem tag attrs (Odt.tableItemsList kids)) = Odt.parseTable (.elem tag attrs kids)
    ∧ Odt.columnCount (.elem tag attrs (Odt.tableItemsList kids)) = Odt.columnCount (.elem tag attrs kids) := by
  have hr : Odt.parseRows (.elem tag attrs (Odt.tableItemsList kids)) = Odt.parseRows (.elem tag attrs kids) := by
    simp only [Odt.parseRows, Odt.tableRows, Node.kids, odt_table_items_idempotent]
  refine ⟨hr, ?_, ?_⟩
  · simp only [Odt.parseTable, hr]
  · simp only [Odt.columnCount, Odt.tableColumns, Node.kids, odt_table_items_idempotent]

theorem odt_hasSpans_resetSpans (rows : List (List Odt.Cell)) : Odt.hasSpans (Odt.resetSpans rows) = false :=
  Grid.hasSpans_resetSpans Odt.spans rows

theorem odt_grid_limit_idempotent (rows : List (List Odt.Cell)) :
    Odt.limitTableGrid (Odt.limitTableGrid rows) = Odt.limitTableGrid rows :=
  Grid.limit_idem Odt.spans _ rows

theorem odt_list_levels_node (n : Node) : ∀ level,
    (∀ e ∈ Odt.listItemOf level n, level ≤ e.2) ∧ (∀ e ∈ Odt.listItems level n.kids, level ≤ e.2) := by
  induction n using Node.rec (motive_2 := fun l => ∀ level,
      (∀ e ∈ Odt.subLists level l, level ≤ e.2) ∧ (∀ e ∈ Odt.listItems level l, level ≤ e.2)) with
  | elem tag attrs kids ih =>
    intro level
    refine ⟨?_, (ih level).2⟩
    intro e he
    simp only [Odt.listItemOf, List.mem_append] at he
    cases he with
    | inl h =>
      split at h
      · have h2 := List.mem_singleton.mp h
        rw [h2]; exact Nat.le_refl _
      · simp at h
    | inr h => exact (ih level).1 e h
  | text s => intro level; simp [Odt.listItemOf, Odt.listItems, Node.kids]
  | nil => rename_i level; simp [Odt.subLists, Odt.listItems]
  | cons n rest ihn ihr =>
    rename_i level
    cases n with
    | text s =>
      simp only [Odt.subLists, Odt.listItems]
      exact ihr level
    | elem tag a kids =>
      constructor
      · intro e he
        simp only [Odt.subLists, List.mem_append] at he
        cases he with
        | inl h =>
          split at h
          · have := (ihn (level + 1)).2 e (by simpa [Node.kids] using h)
            omega
          · simp at h
        | inr h => exact (ihr level).1 e h
      · intro e he
        simp only [Odt.listItems, List.mem_append] at he
        cases he with
        | inl h =>
          split at h
          · exact (ihn level).1 e h
          · simp at h
        | inr h => exact (ihr level).2 e h

/-- **odt_list_nesting_monotone**. Every entry produced for the items of a `text:list` read at
level d - the items themselves and everything nested in them, to any depth - has level ≥ d:
nesting can only deepen the level, never reset it. -/
theorem odt_list_nesting_monotone (level : Nat) (kids : List Node) :
    ∀ e ∈ Odt.listItems level kids, level ≤ e.2 := by
  intro e he
  exact (odt_list_levels_node (.elem [] [] kids) level).2 e (by simpa [Node.kids] using he)

/-- … and so has every entry one item gives: its own and those of the lists nested in it -/
theorem odt_list_item_levels (level : Nat) (n : Node) : ∀ e ∈ Odt.listItemOf level n, level ≤ e.2 :=
  (odt_list_levels_node n level).1

end Tabula.C16More
