import TabulaModel.Model.Detect
import TabulaModel.Gen.DetectTable
/-!
# C20 — regenerated tie: the extension table

`Gen/DetectTable.lean` is rewritten from the extension switch of package format on every check run.
-/
namespace Tabula.C20
open Tabula.Detect Tabula.Gen.Tables

/-- the format a `return X` of `format.Detect` names -/
def formatOfName (s : String) : Option Format :=
  if s = "PDF" then some .pdf else if s = "DOCX" then some .docx else if s = "ODT" then some .odt
  else if s = "XLSX" then some .xlsx else if s = "PPTX" then some .pptx else if s = "HTML" then some .html
  else if s = "EPUB" then some .epub else if s = "Unknown" then some .unknown else none

/-- every case label of the source's switch is mapped by the model to the format the source
returns for it -/
theorem ext_table_regenerated :
    detectExtCasesB.all (fun c => c.1.all fun lit => formatOfName c.2 == some (extTable lit)) = true := by
  decide +kernel

/-- … and the source has exactly the eight extensions the model knows -/
theorem ext_table_labels_regenerated :
    detectExtCasesB.flatMap (·.1) =
      [dotPdf, dotDocx, dotOdt, dotXlsx, dotPptx, dotHtml, dotHtm, dotEpub] := by decide +kernel

end Tabula.C20
