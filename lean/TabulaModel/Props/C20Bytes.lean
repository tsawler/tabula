import TabulaModel.Props.C20Api
import TabulaModel.Props.C20Enc
import TabulaModel.Lemmas.DetectBytes
/-!
# C20, byte-exact — names, file fronts, mimetype members and cipher references as BYTES

`Model/Detect.lean` and `Model/Drm.lean` restrict `strings.ToLower`, `strings.ToUpper` and
`strings.TrimSpace` to ASCII; their theorems are about every input of THAT model, and the
model is the code only on ASCII input.  `Model/DetectBytes.lean` models the three functions
on arbitrary byte strings (ill-formed UTF-8, non-ASCII letters and white space).  The
theorems here are for every byte string and every pair of case tables with the one
property `UpperOK` / `LowerOK` (which the harness checks on all of `unicode`'s runes):

* where the byte-exact function IS the ASCII model, whatever the bytes (`format.Detect`,
  the three prefix tests of `detectHTMLMagic`, `isContentFile`, the DRM gate);
* where it is not, exactly how it differs (the 500-byte window of the `<?xml` branch is cut
  from the upper-cased text; `TrimSpace` strips Unicode white space), with witnesses;
* the end-to-end statements of `Props/C20Api.lean` again, on the bytes, through a proved
  simulation (`admit_bytes_simulation`).
-/
set_option autoImplicit false
namespace Tabula.C20B
open Tabula.Detect Tabula.Drm Tabula.Admit Tabula.EncXml Tabula.DetectB Tabula.C20 Tabula.C20A Tabula.C20E

/-! ## the case tables -/

/-- `unicode.ToUpper` outside ASCII as far as ASCII results go: U+0131 → `I`, U+017F → `S`
(every other rune to itself here; the harness sends the real pairs) -/
def exUpper : CaseTable := fun r => if r = 0x131 then 73 else if r = 0x17F then 83 else r
/-- `unicode.ToLower`: U+0130 → `i`, U+212A (Kelvin sign) → `k` -/
def exLower : CaseTable := fun r => if r = 0x130 then 105 else if r = 0x212A then 107 else r

theorem exUpper_ok : UpperOK exUpper := by
  intro r hr; unfold exUpper; split
  · exact Or.inr (Or.inl rfl)
  · split
    · exact Or.inr (Or.inr rfl)
    · exact Or.inl hr

theorem exLower_ok : LowerOK exLower := by
  intro r hr; unfold exLower; split
  · exact Or.inr (Or.inl rfl)
  · split
    · exact Or.inr (Or.inr rfl)
    · exact Or.inl hr

/-! ## file names -/

/-- `ext_table_all_bytes`: `format.Detect` on ANY byte string — non-ASCII letters, ill-formed
UTF-8, runes whose lower case is an ASCII letter — is the ASCII table look-up of
`Model/Detect.lean`: every theorem about `detect` is a theorem about the code's `Detect`. -/
theorem ext_table_all_bytes (lo : CaseTable) (h : LowerOK lo) (name : Str) : detectB lo name = detect name :=
  detectB_eq h name

/-- … in particular the extension table, for every stem of bytes -/
theorem ext_table_bytes (lo : CaseTable) (h : LowerOK lo) (p : Str × Format) (hp : p ∈ extPairs)
    (stem e : Str) (he : lower e = p.1) : detectB lo (stem ++ e) = p.2 := by
  rw [detectB_eq h]; exact ext_table p hp stem e he

/-- a stem with an ill-formed byte, a Kelvin sign and a dotted capital I -/
example : detectB exLower ([0xFF, 0xE2, 0x84, 0xAA, 0xC4, 0xB0] ++ [46, 80, 100, 70]) = .pdf := by decide +kernel

/-- … and nothing else asks for a format: an extension with a non-ASCII byte never does -/
theorem ext_table_bytes_only (lo : CaseTable) (h : LowerOK lo) (name : Str) (f : Format)
    (hd : detectB lo name = f) (hf : f ≠ .unknown) : (lower (ext name), f) ∈ extPairs := by
  rw [detectB_eq h] at hd
  exact ext_table_only name f hd hf

/-- `".pd"` + U+017F would be `.pds` in upper case; in lower case it is no extension of the table -/
example : detectB exLower [97, 46, 112, 100, 0xC5, 0xBF] = .unknown := by decide +kernel

/-! ## the front of the file -/

/-- `html_front_all_bytes`: `detectHTMLMagic` on ANY bytes.  Leading white space is skipped
byte-wise; the DOCTYPE test, the `<HTML` test and the `<?XML` test are those of the ASCII
model on the byte-wise upper-cased text, whatever follows the pattern; only the window of
the `<?XML` branch is cut from what `strings.ToUpper` really returns, where an ill-formed
byte takes three bytes and a letter may change its length. -/
theorem html_front_all_bytes (up : CaseTable) (h : UpperOK up) (data : Str) :
    detectHTMLMagicB up data =
      (let d := data.dropWhile isMagicWS
       if d.isEmpty then false
       else if isHTMLDoctype (upper d) then true
       else if sHtmlTag.isPrefixOf (upper d) then true
       else if sXmlDecl.isPrefixOf (upper d) && hasSub sHtmlTag ((goUpper up d).take 500) then true
       else false) := by
  rw [detectHTMLMagicB_eq_or h]
  cases data.dropWhile isMagicWS with
  | nil => rfl
  | cons c t => exact (htmlTests_eq_or _ _).symm

/-- where the first 500 bytes behind the leading white space are ASCII, the code is the
ASCII model -/
theorem html_front_ascii_window (up : CaseTable) (h : UpperOK up) (data : Str)
    (ha : ∀ c ∈ (data.dropWhile isMagicWS).take 500, c < 128) :
    detectHTMLMagicB up data = detectHTMLMagic data :=
  detectHTMLMagicB_ascii h data ha

example : ∀ c ∈ (([32, 10] ++ sHtmlTag : Str).dropWhile isMagicWS).take 500, c < 128 := by decide +kernel

/-- `<?xml`, `n` ill-formed bytes, `<html` -/
def exPadded (pad : Str) : Str := [60, 63, 120, 109, 108] ++ pad ++ [60, 104, 116, 109, 108]

/-- the window is NOT the ASCII model's on other bytes, in both directions: 165 ill-formed
bytes become 495 and push `<html` out of the window; 250 U+017F (two bytes each) become 250
`S` and pull a tag at byte offset 505 into it -/
theorem html_window_differs_from_ascii_model :
    (detectHTMLMagic (exPadded (List.replicate 165 0xFF)) = true ∧
      detectHTMLMagicB exUpper (exPadded (List.replicate 165 0xFF)) = false) ∧
    (detectHTMLMagic (exPadded ((List.replicate 250 [0xC5, 0xBF]).flatten)) = false ∧
      detectHTMLMagicB exUpper (exPadded ((List.replicate 250 [0xC5, 0xBF]).flatten)) = true) := by
  decide +kernel

/-- an ASCII front the ASCII model accepts is accepted whatever bytes follow it -/
theorem html_front_decides (up : CaseTable) (h : UpperOK up) (a t : Str) (ha : ∀ c ∈ a, c < 128)
    (hm : detectHTMLMagic a = true) : detectHTMLMagicB up (a ++ t) = true :=
  detectHTMLMagicB_mono up a t ha hm

/-- `<!DOCTYPE html>` followed by a title in UTF-8 and an ill-formed byte -/
example : detectHTMLMagicB exUpper ([60, 33, 100, 111, 99, 116, 121, 112, 101, 32, 104, 116, 109, 108, 62] ++
    [0xC3, 0xBC, 0xFF, 60, 112, 62]) = true := by decide +kernel

/-- `html_needs_lt`: nothing is HTML for the sniffer unless its first byte after HTML white
space is `<` — for every upper-case table with `UpperOK` (a table that sent a non-ASCII rune to `<`
would break it) -/
theorem html_needs_lt (up : CaseTable) (h : UpperOK up) (data : Str) (hm : detectHTMLMagicB up data = true) :
    ∃ ws rest, data = ws ++ 60 :: rest ∧ ∀ c ∈ ws, isMagicWS c = true :=
  htmlTests_dropWhile_lt (detectHTMLMagicB_eq_or h data ▸ hm)

/-! ## `DetectFromReader`, byte-exact -/

theorem zip_detect_bytes_range (ms : List Member) : detectZipB ms ≠ .pdf ∧ detectZipB ms ≠ .html := by
  rw [detectZipB_eq]; exact zip_detect_range _

/-- `detect_bytes_exact`: what each answer of `DetectFromReader` means, on the bytes: PDF iff
the file starts `%PDF`; for a file that starts with a local header the archive's answer or
an error; HTML iff neither and `detectHTMLMagic` accepts the first 512 bytes -/
theorem detect_bytes_exact (up : CaseTable) (file : Str) (zip : Option (List Member)) :
    (detectFromReaderB up file zip = some .pdf ↔ sPdfMagic.isPrefixOf (file.take 512) = true) ∧
    (sPdfMagic.isPrefixOf (file.take 512) = false → sZipMagic.isPrefixOf (file.take 512) = true →
      detectFromReaderB up file zip = zip.map detectZipB) ∧
    (detectFromReaderB up file zip = some .html ↔
      sPdfMagic.isPrefixOf (file.take 512) = false ∧ sZipMagic.isPrefixOf (file.take 512) = false ∧
        detectHTMLMagicB up (file.take 512) = true) ∧
    (detectFromReaderB up file zip = none ↔
      sPdfMagic.isPrefixOf (file.take 512) = false ∧ sZipMagic.isPrefixOf (file.take 512) = true ∧ zip = none) := by
  rw [detectFromReaderB_eq_sniffWith]
  obtain ⟨h1, h2, h3⟩ := sniffWith_spec (detectHTMLMagicB up) detectZipB zip_detect_bytes_range file zip
  exact ⟨h1, fun _ => sniffWith_zip zip, h2, h3⟩

/-- `detect_bytes_bom_unclassified`: a file that starts with a UTF-8 byte-order mark is
never classified — not as HTML either, whatever follows (admitted by extension only) -/
theorem detect_bytes_bom_unclassified (up : CaseTable) (h : UpperOK up) (rest : Str) (zip : Option (List Member)) :
    detectFromReaderB up (0xEF :: 0xBB :: 0xBF :: rest) zip = some .unknown := by
  have hm : detectHTMLMagicB up ((0xEF :: 0xBB :: 0xBF :: rest).take 512) = false := by
    cases hb : detectHTMLMagicB up ((0xEF :: 0xBB :: 0xBF :: rest).take 512) with
    | false => rfl
    | true =>
      exfalso
      obtain ⟨ws, r, he, hws⟩ := html_needs_lt up h _ hb
      cases ws with
      | nil => simp at he
      | cons w ws =>
        have hw := hws w List.mem_cons_self
        have : w = 0xEF := by
          have := congrArg List.head? he
          simpa using this.symm
        rw [this] at hw
        exact absurd hw (by decide)
  unfold detectFromReaderB
  simp only [hm]
  rfl

/-- … and so is a file that starts with a comment, `<!-`: the DOCTYPE behind it is not looked for -/
theorem detect_bytes_comment_first_unclassified (up : CaseTable) (h : UpperOK up) (rest : Str)
    (zip : Option (List Member)) : detectFromReaderB up (60 :: 33 :: 45 :: rest) zip = some .unknown := by
  -- the three ASCII bytes are upper-cased byte by byte whatever the table; no test starts `<!-`
  have hu : goUpper up (60 :: 33 :: 45 :: rest.take 509) = 60 :: 33 :: 45 :: goUpper up (rest.take 509) :=
    goUpper_ascii_front up [60, 33, 45] _ (by decide)
  have hm : detectHTMLMagicB up ((60 :: 33 :: 45 :: rest).take 512) = false := by
    show detectHTMLMagicB up (60 :: 33 :: 45 :: rest.take 509) = false
    unfold detectHTMLMagicB
    simp [isMagicWS, hu, isHTMLDoctype, sDoctype, sHtmlTag, sXmlDecl, List.isPrefixOf]
  unfold detectFromReaderB
  simp only [hm]
  rfl

/-- the byte-exact sniffer is the ASCII model wherever the sniffed window is ASCII and the
mimetype members are ASCII -/
theorem detect_bytes_agrees_on_ascii (up : CaseTable) (h : UpperOK up) (file : Str) (zip : Option (List Member))
    (hf : ∀ c ∈ file.take 512, c < 128)
    (hz : ∀ ms, zip = some ms → ∀ m ∈ ms, ∀ d, m.data = some d → ∀ c ∈ d.take 256, c < 128) :
    detectFromReaderB up file zip = detectFromReader file zip := by
  rw [detectFromReaderB_eq_sniffWith, detectFromReader_eq_sniffWith]
  apply sniffWith_congr
  · apply detectHTMLMagicB_ascii h
    intro c hc
    exact hf c ((List.dropWhile_sublist _).subset (List.mem_of_mem_take hc))
  · intro ms hms
    have hm : ∀ m ∈ ms, mimeVerdictB m = mimeVerdict m := fun m hmem => mimeVerdictB_ascii m (hz ms hms m hmem)
    have hfm : ∀ l : List Member, (∀ m ∈ l, mimeVerdictB m = mimeVerdict m) → firstMimeB l = firstMime l := by
      intro l hl
      induction l with
      | nil => rfl
      | cons a l ih =>
        simp only [firstMimeB, firstMime, hl a List.mem_cons_self, ih (fun m hm' => hl m (List.mem_cons_of_mem _ hm'))]
        cases mimeVerdict a <;> rfl
    unfold detectZipB detectZip
    rw [hfm ms hm]
    cases firstMime ms <;> rfl

/-! ## the mimetype member -/

/-- what the sniffer makes of a mimetype member, `strings.TrimSpace` as it is -/
theorem mime_class_spec (d : Str) (f : Format) :
    mimeClassB d = some f ↔
      (hasSub odtMime (Split.trimSpace (d.take 256)) = true ∧ f = .odt) ∨
      (hasSub odtMime (Split.trimSpace (d.take 256)) = false ∧ Split.trimSpace (d.take 256) = epubMime ∧ f = .epub) := by
  unfold mimeClassB
  exact mimeTest_eq_some

/-- a no-break space (U+00A0) behind the media type is white space for the code; the ASCII
model of `Model/Detect.lean` keeps it and decides differently -/
example : mimeClassB (epubMime ++ [0xC2, 0xA0]) = some .epub ∧
    mimeVerdict ⟨nMimetype, some (epubMime ++ [0xC2, 0xA0])⟩ = none := by decide +kernel

/-- a run of white-space characters: what `strings.TrimSpace` removes entirely, from the
left and from the right -/
def SpaceRunL (l : Str) : Prop := Split.trimLeft l = []
def SpaceRunR (r : Str) : Prop := Split.trimLeftRev r.reverse = []

/-- `mime_any_white_space`: a mimetype member that holds a media type surrounded by white
space OF ANY KIND — line breaks, no-break spaces, ideographic spaces, U+2028 … — within the
256 bytes the sniffer reads is classified by the media type alone: ODT if it contains the
OpenDocument text type, else EPUB if it is the EPUB type, else nothing -/
theorem mime_any_white_space (l core r : Str) (hl : SpaceRunL l) (hr : SpaceRunR r)
    (hh : ∃ a t, core = a :: t ∧ a < 128 ∧ Split.isAsciiSpace a = false)
    (ht : ∃ t z, core = t ++ [z] ∧ z < 128 ∧ Split.isAsciiSpace z = false)
    (hlen : (l ++ (core ++ r)).length ≤ 256) :
    mimeClassB (l ++ (core ++ r)) =
      if hasSub odtMime core then some .odt else if core = epubMime then some .epub else none := by
  unfold mimeClassB
  simp only [List.take_of_length_le hlen, trimSpace_strips_runs l core r hl hr hh ht]

/-- U+3000 and a line break in front, a no-break space and CR LF behind -/
example : SpaceRunL [0xE3, 0x80, 0x80, 10] ∧ SpaceRunR [0xC2, 0xA0, 13, 10] ∧
    (∃ a t, epubMime = a :: t ∧ a < 128 ∧ Split.isAsciiSpace a = false) ∧
    (∃ t z, epubMime = t ++ [z] ∧ z < 128 ∧ Split.isAsciiSpace z = false) := by
  refine ⟨by unfold SpaceRunL; decide +kernel, by unfold SpaceRunR; decide +kernel, ⟨97, _, rfl, by decide, by decide⟩,
    ⟨epubMime.dropLast, 112, by decide, by decide, by decide⟩⟩

/-- a zero-width no-break space (U+FEFF, the byte-order mark) is NOT white space for Go:
a mimetype file that starts with one does not name the EPUB type -/
example : mimeClassB ([0xEF, 0xBB, 0xBF] ++ epubMime) = none := by decide +kernel

/-- on ASCII content the code is the ASCII model -/
theorem mime_verdict_ascii (m : Member) (ha : ∀ d, m.data = some d → ∀ c ∈ d.take 256, c < 128) :
    mimeVerdictB m = mimeVerdict m :=
  mimeVerdictB_ascii m ha

/-- `zip_detect_bytes_perm_invariant`: the byte-exact archive sniffer gives the same answer
for every permutation of the members (distinct member names) -/
theorem zip_detect_bytes_perm_invariant (ms ms' : List Member) (hp : ms.Perm ms')
    (hn : (ms.map (·.name)).Nodup) : detectZipB ms = detectZipB ms' := by
  rw [detectZipB_eq, detectZipB_eq]
  apply zip_detect_perm_invariant_nodup _ _ (hp.map _)
  simpa [List.map_map, normMember, Function.comp_def] using hn

/-- … and for every set of decoys in any arrangement -/
theorem zip_detect_bytes_decoy_invariant (ms ds l : List Member) (hp : (ms ++ ds).Perm l)
    (hm : HasMarker (ms.map normMember)) (ha : MimeAgree (ms.map normMember))
    (hd : ∀ d ∈ ds, isMarkerName d.name = false) : detectZipB l = detectZipB ms := by
  rw [detectZipB_eq, detectZipB_eq]
  refine zip_detect_perm_decoy_invariant (ms.map normMember) (ds.map normMember) _
    (by rw [← List.map_append]; exact hp.map _) ha ?_ hm
  intro d hd'
  obtain ⟨x, hx, rfl⟩ := List.mem_map.1 hd'
  exact hd x hx

/-! ## the DRM gate -/

/-- `isContentFile` on ANY bytes is the ASCII suffix test: no non-ASCII letter turns a
reference into a content file or hides one -/
theorem content_file_all_bytes (lo : CaseTable) (h : LowerOK lo) (uri : Str) :
    isContentFileB lo uri = isContentFile uri :=
  isContentFileB_eq h uri

/-- `"ch1.xhtm"` + U+0130 + … is no content file although U+0130 lowers to `i`; a Kelvin sign
in the stem does not hide `.html` -/
example : isContentFileB exLower [99, 104, 49, 46, 120, 104, 116, 109, 0xC4, 0xB0] = false ∧
    isContentFileB exLower [0xE2, 0x84, 0xAA, 46, 72, 84, 77, 76] = true := by decide +kernel

/-- `drm_gate_all_bytes`: `checkForDRM` on the archive — encryption metadata as a tree,
references and algorithms as bytes — is the gate of `Props/C20Enc.lean` -/
theorem drm_gate_all_bytes (lo : CaseTable) (h : LowerOK lo) (ms : List XMember) :
    checkForDRMB lo ms = true ↔
      (∃ m ∈ ms, m.name = nRights) ∨
      (∃ m ∈ ms, m.name = nEncryption ∧ encEntries m.doc = none) ∨
      (∃ m ∈ ms, m.name = nEncryption ∧ ∃ as ks, m.doc = some (.elem sEncryption as ks) ∧
        ∃ k ∈ dataKids ks, isFontObfuscation (algOf k) = false ∧ isContentFile (uriOf k) = true) := by
  rw [checkForDRMB_eq h]; exact tree_drm_decision ms

/-- the EPUB reader on the bytes: DRM iff the gate refuses, whatever the mimetype member
holds and whatever the state of the structure -/
theorem epub_open_bytes_spec (lo : CaseTable) (zip : Option (List XMember)) (rest : Bool) :
    (epubOpenB lo zip rest = .drm ↔ ∃ ms, zip = some ms ∧ checkForDRMB lo ms = true) ∧
    (epubOpenB lo zip rest = .ok ↔ ∃ ms, zip = some ms ∧ checkForDRMB lo ms = false ∧ rest = true) ∧
    (epubOpenB lo zip rest = .invalidArchive ↔ zip = none) := by
  cases zip with
  | none => simp [epubOpenB]
  | some ms =>
    simp only [epubOpenB, Option.some.injEq, exists_eq_left', reduceCtorEq, iff_false]
    cases checkForDRMB lo ms <;> cases rest <;> simp

/-! ## the simulation: the API model sees what the code computes on the bytes -/

/-- `admit_bytes_simulation`: `validateFormat` + the reader switch + `epubdoc.Open` computed
on the bytes (`admitFileB`: byte-exact sniffer, real `TrimSpace`, encryption metadata as a
tree, byte-exact gate) is `admitFile` of the API model on the abstraction of the file -/
theorem admit_bytes_simulation (t : Tables) (hlo : LowerOK t.lo) (extF : Format) (fs : FileStateB) :
    admitFileB t extF fs = admitFile extF (absFile t fs) := by
  cases fs with
  | missing => rfl
  | unreadable => rfl
  | file f => rw [admitFileB_file, absFile, admitFile_file, detectFile_abs, epubOpen_abs hlo]

/-- `tabula.Open(name)` on any bytes of a name is `openExt` of the API model -/
theorem open_bytes_eq (t : Tables) (hlo : LowerOK t.lo) (name : Str) (fs : FileStateB) (k : TKind) :
    openAndRunB t name fs k = openAndRun name (absFile t fs) k := by
  unfold openAndRunB openAndRun openExt
  rw [detectB_eq hlo]

/-- the reader stage on the bytes -/
def readerStageB (t : Tables) (d : Format) (f : FileB) (k : TKind) : Outcome :=
  if d = .epub then
    match epubOpenB t.lo f.zip (f.accepts .epub) with
    | .ok => afterOpen d k
    | .drm => .drm
    | _ => .readerFailed
  else if f.accepts d then afterOpen d k
  else .readerFailed

theorem readerStage_abs (t : Tables) (hlo : LowerOK t.lo) (d : Format) (f : FileB) (k : TKind) :
    readerStage d (f.zip.map (·.map absMember)) f.accepts k = readerStageB t d f k := by
  unfold readerStage readerStageB
  rw [epubOpen_abs hlo]
  by_cases hd : d = .epub
  · simp only [hd, if_true]
    cases epubOpenB t.lo f.zip (f.accepts .epub) <;> rfl
  · simp only [hd, if_false]

/-- THE PROPERTY'S FIRST SENTENCE on the bytes.  Whatever `DetectFromReader` answers on the
file (`d`, one of the seven formats), `Open(stem ++ e).<any operation>()` — any stem of
bytes, any of the eight extensions in any letter case — goes on to `d`'s reader iff the
extension is one of `d`'s, and is refused as a mismatch under every other one. -/
theorem open_bytes_by_name (t : Tables) (hlo : LowerOK t.lo) (p : Str × Format) (hp : p ∈ extPairs)
    (stem e : Str) (he : lower e = p.1) (f : FileB) (d : Format) (hd : d ≠ .unknown)
    (hdet : detectFromReaderB t.up f.head (f.zip.map (·.map XMember.toMember)) = some d) (k : TKind) :
    (openAndRunB t (stem ++ e) (.file f) k).out = if p.2 = d then readerStageB t d f k else .mismatch := by
  rw [open_bytes_eq t hlo, ← readerStage_abs t hlo]
  exact open_by_name p hp stem e he _ _ _ d hd (by rw [detectFile_abs]; exact hdet) k

/-- content the sniffer cannot classify — a byte-order mark or a comment in front, an HTML
fragment, an archive behind a stub — is admitted by extension alone -/
theorem open_bytes_unclassifiable_by_extension (t : Tables) (hlo : LowerOK t.lo) (p : Str × Format)
    (hp : p ∈ extPairs) (stem e : Str) (he : lower e = p.1) (f : FileB)
    (hdet : detectFromReaderB t.up f.head (f.zip.map (·.map XMember.toMember)) = some .unknown) (k : TKind) :
    (openAndRunB t (stem ++ e) (.file f) k).out = readerStageB t p.2 f k := by
  rw [open_bytes_eq t hlo, ← readerStage_abs t hlo]
  exact open_unclassifiable_by_extension p hp stem e he _ _ _ (by rw [detectFile_abs]; exact hdet) k

/-- an archive the byte-exact sniffer takes for an EPUB, under an EPUB name in any letter
case, through any operation: `ErrDRMProtected` exactly in the three cases of the gate -/
theorem open_bytes_epub_drm_iff (t : Tables) (hlo : LowerOK t.lo) (stem e : Str) (he : lower e = dotEpub)
    (f : FileB) (ms : List XMember) (hz : f.zip = some ms)
    (hdet : detectFromReaderB t.up f.head (some (ms.map XMember.toMember)) = some .epub) (k : TKind) :
    (openAndRunB t (stem ++ e) (.file f) k).out = .drm ↔
      (∃ m ∈ ms, m.name = nRights) ∨
      (∃ m ∈ ms, m.name = nEncryption ∧ encEntries m.doc = none) ∨
      (∃ m ∈ ms, m.name = nEncryption ∧ ∃ as ks, m.doc = some (.elem sEncryption as ks) ∧
        ∃ x ∈ dataKids ks, isFontObfuscation (algOf x) = false ∧ isContentFile (uriOf x) = true) := by
  rw [open_bytes_by_name t hlo (dotEpub, .epub) (by decide) stem e he f .epub (by decide) (by rw [hz]; exact hdet) k,
    if_pos rfl, ← readerStage_abs t hlo, readerStage_drm_iff, hz, ← tree_drm_decision, ← archiveDRM_abs]
  simp

/-- the outcome depends on the name only through the format it asks for — for non-empty names
of arbitrary bytes -/
theorem open_bytes_same_format_same_outcome (t : Tables) (hlo : LowerOK t.lo) (a b : Str) (ha : a ≠ [])
    (hb : b ≠ []) (h : detectB t.lo a = detectB t.lo b) (fs : FileStateB) (k : TKind) :
    (openAndRunB t a fs k).out = (openAndRunB t b fs k).out := by
  -- two fresh extractors with a file name and the same format: `run_unopened` reads neither name
  unfold openAndRunB
  rw [run_unopened _ ha rfl, run_unopened _ hb rfl]
  simp only [h]

/-! ## valid documents, as bytes -/

/-- no member of the archive has the name -/
def NoMemberX (n : Str) (ms : List XMember) : Prop := ∀ m ∈ ms, m.name ≠ n

/-- A valid document of each of the seven formats as far as recognition is concerned, ON THE
BYTES: as `ValidDoc` of `Props/C20Api.lean`, with what follows the recognised front
arbitrary bytes (non-ASCII text, ill-formed UTF-8), the mimetype content surrounded by any
white space of `unicode.IsSpace`, and — the one extra demand of the byte-exact model — the
text between an XML declaration and the root tag in ASCII (the window is measured on the
upper-cased text). -/
inductive ValidDocB : Format → Str → Option (List XMember) → Prop
  | pdf (rest : Str) (zip : Option (List XMember)) : ValidDocB .pdf (sPdfMagic ++ rest) zip
  | htmlDoctype (lead dt ws n rest : Str) (zip : Option (List XMember))
      (hl : ∀ c ∈ lead, isMagicWS c = true) (hdt : upper dt = sDoctype) (hwne : ws ≠ [])
      (hws : ∀ c ∈ ws, isMagicWS c = true) (hn : upper n = sHtmlName)
      (hlen : lead.length + dt.length + ws.length + n.length ≤ 512) :
      ValidDocB .html (lead ++ (dt ++ (ws ++ (n ++ rest)))) zip
  | htmlRoot (lead t rest : Str) (zip : Option (List XMember))
      (hl : ∀ c ∈ lead, isMagicWS c = true) (ht : upper t = sHtmlTag) (hlen : lead.length + t.length ≤ 512) :
      ValidDocB .html (lead ++ (t ++ rest)) zip
  | xhtml (lead x mid t rest : Str) (zip : Option (List XMember))
      (hl : ∀ c ∈ lead, isMagicWS c = true) (hx : upper x = sXmlDecl) (ht : upper t = sHtmlTag)
      (hmid : ∀ c ∈ mid, c < 128)
      (h500 : x.length + mid.length + t.length ≤ 500)
      (h512 : lead.length + x.length + mid.length + t.length ≤ 512) :
      ValidDocB .html (lead ++ (x ++ (mid ++ (t ++ rest)))) zip
  | odt (rest : Str) (ms : List XMember) (m : XMember) (d : Str) (hn : (ms.map (·.name)).Nodup)
      (hm : m ∈ ms) (hname : m.name = nMimetype) (hdata : m.data = some d)
      (hmime : hasSub odtMime (Split.trimSpace (d.take 256)) = true) :
      ValidDocB .odt (sZipMagic ++ rest) (some ms)
  | epubMime (rest : Str) (ms : List XMember) (m : XMember) (d : Str) (hn : (ms.map (·.name)).Nodup)
      (hm : m ∈ ms) (hname : m.name = nMimetype) (hdata : m.data = some d)
      (hnodt : hasSub odtMime (Split.trimSpace (d.take 256)) = false)
      (hmime : Split.trimSpace (d.take 256) = epubMime) :
      ValidDocB .epub (sZipMagic ++ rest) (some ms)
  | epubContainer (rest : Str) (ms : List XMember) (hno : NoMemberX nMimetype ms)
      (m : XMember) (hm : m ∈ ms) (hname : m.name = nContainer) :
      ValidDocB .epub (sZipMagic ++ rest) (some ms)
  | docx (rest : Str) (ms : List XMember) (h1 : NoMemberX nMimetype ms) (h2 : NoMemberX nContainer ms)
      (m : XMember) (hm : m ∈ ms) (hname : m.name = nWordDoc) :
      ValidDocB .docx (sZipMagic ++ rest) (some ms)
  | xlsx (rest : Str) (ms : List XMember) (h1 : NoMemberX nMimetype ms) (h2 : NoMemberX nContainer ms)
      (h3 : NoMemberX nWordDoc ms) (m : XMember) (hm : m ∈ ms) (hname : m.name = nXlWorkbook) :
      ValidDocB .xlsx (sZipMagic ++ rest) (some ms)
  | pptx (rest : Str) (ms : List XMember) (h1 : NoMemberX nMimetype ms) (h2 : NoMemberX nContainer ms)
      (h3 : NoMemberX nWordDoc ms) (h4 : NoMemberX nXlWorkbook ms)
      (m : XMember) (hm : m ∈ ms) (hname : m.name = nPptPres) :
      ValidDocB .pptx (sZipMagic ++ rest) (some ms)

theorem validDoc_repHtml (zip : Option (List AMember)) : ValidDoc .html repHtml zip := by
  have := ValidDoc.htmlRoot [] repHtml [] zip (by simp) (by decide) (by decide)
  simpa using this

theorem noMember_abs {n : Str} {ms : List XMember} (h : NoMemberX n ms) : NoMember n (ms.map absMember) := by
  intro m hm
  obtain ⟨x, hx, rfl⟩ := List.mem_map.1 hm
  exact h x hx

/-- the byte-exact valid document is a valid document of the API model under the abstraction -/
theorem validDoc_abs (up : CaseTable) {f : Format} {head : Str} {zip : Option (List XMember)}
    (hv : ValidDocB f head zip) : ValidDoc f (absHead up head) (zip.map (·.map absMember)) := by
  cases hv with
  | pdf rest zip => rw [absHead_pdf]; exact .pdf rest _
  | htmlDoctype lead dt ws n rest zip hl hdt hwne hws hn hlen =>
    have e : lead ++ (dt ++ (ws ++ (n ++ rest))) = (lead ++ (dt ++ (ws ++ n))) ++ rest := by simp
    rw [e, absHead_html_front up _ rest (by simp only [List.length_append]; omega) ?_
      (by simpa using detectHTMLMagic_doctype_ws lead dt ws n [] hl hdt hwne hws hn)]
    · exact validDoc_repHtml _
    · simp only [List.forall_mem_append]
      exact ⟨ascii_of_ws hl, ascii_of_upper_eq hdt (by decide), ascii_of_ws hws, ascii_of_upper_eq hn (by decide)⟩
  | htmlRoot lead t rest zip hl ht hlen =>
    have e : lead ++ (t ++ rest) = (lead ++ t) ++ rest := by simp
    rw [e, absHead_html_front up _ rest (by simpa using hlen) ?_
      (by simpa using detectHTMLMagic_tag lead t [] hl ht)]
    · exact validDoc_repHtml _
    · simp only [List.forall_mem_append]
      exact ⟨ascii_of_ws hl, ascii_of_upper_eq ht (by decide)⟩
  | xhtml lead x mid t rest zip hl hx ht hmid h500 h512 =>
    have e : lead ++ (x ++ (mid ++ (t ++ rest))) = (lead ++ (x ++ (mid ++ t))) ++ rest := by simp
    rw [e, absHead_html_front up _ rest (by simp only [List.length_append]; omega) ?_
      (by simpa using detectHTMLMagic_xmldecl lead x mid t [] hl hx ht h500)]
    · exact validDoc_repHtml _
    · simp only [List.forall_mem_append]
      exact ⟨ascii_of_ws hl, ascii_of_upper_eq hx (by decide), hmid, ascii_of_upper_eq ht (by decide)⟩
  | odt rest ms m d hn hm hname hdata hmime =>
    rw [absHead_zip]
    have hc : mimeClassB d = some .odt := (mime_class_spec d .odt).2 (Or.inl ⟨hmime, rfl⟩)
    exact .odt rest _ (absMember m) odtMime (by rw [names_abs]; exact hn) (List.mem_map_of_mem hm) hname
      (by simp [absMember, hdata, hc, repMime]) (by decide)
  | epubMime rest ms m d hn hm hname hdata hnodt hmime =>
    rw [absHead_zip]
    have hc : mimeClassB d = some .epub := (mime_class_spec d .epub).2 (Or.inr ⟨hnodt, hmime, rfl⟩)
    exact .epubMime rest _ (absMember m) epubMime (by rw [names_abs]; exact hn) (List.mem_map_of_mem hm) hname
      (by simp [absMember, hdata, hc, repMime]) (by decide) (by decide)
  | epubContainer rest ms hno m hm hname =>
    rw [absHead_zip]
    exact .epubContainer rest _ (noMember_abs hno) (absMember m) (List.mem_map_of_mem hm) hname
  | docx rest ms h1 h2 m hm hname =>
    rw [absHead_zip]
    exact .docx rest _ (noMember_abs h1) (noMember_abs h2) (absMember m) (List.mem_map_of_mem hm) hname
  | xlsx rest ms h1 h2 h3 m hm hname =>
    rw [absHead_zip]
    exact .xlsx rest _ (noMember_abs h1) (noMember_abs h2) (noMember_abs h3) (absMember m)
      (List.mem_map_of_mem hm) hname
  | pptx rest ms h1 h2 h3 h4 m hm hname =>
    rw [absHead_zip]
    exact .pptx rest _ (noMember_abs h1) (noMember_abs h2) (noMember_abs h3) (noMember_abs h4) (absMember m)
      (List.mem_map_of_mem hm) hname

/-- every valid document is recognised as its own format by `DetectFromReader` on its bytes -/
theorem valid_document_recognised_bytes (up : CaseTable) (h : UpperOK up) {f : Format} {head : Str}
    {zip : Option (List XMember)} (hv : ValidDocB f head zip) :
    detectFromReaderB up head (zip.map (·.map XMember.toMember)) = some f := by
  rw [← detectFile_abs]
  exact valid_document_recognised (validDoc_abs up hv)

/-- an HTML5 document with a non-ASCII title and an ill-formed byte behind the DOCTYPE -/
example : ValidDocB .html ([] ++ ([60, 33, 100, 111, 99, 116, 121, 112, 101] ++ ([10] ++ ([104, 116, 109, 108] ++
    [62, 0xC3, 0xBC, 0xFF])))) none :=
  .htmlDoctype [] _ [10] _ _ none (by simp) (by decide) (by simp) (by decide) (by decide) (by decide)

/-- an EPUB whose mimetype file ends in a no-break space and a line break -/
example : ValidDocB .epub (sZipMagic ++ []) (some [⟨nMimetype, some (epubMime ++ [0xC2, 0xA0, 10]), none⟩]) :=
  .epubMime [] _ ⟨nMimetype, some (epubMime ++ [0xC2, 0xA0, 10]), none⟩ _ (by decide) (by simp) rfl rfl
    (by decide +kernel) (by decide +kernel)

/-- THE PROPERTY, first sentence, ON THE BYTES: every valid PDF, DOCX, ODT, XLSX, PPTX, EPUB
and HTML document — members in any order, any further members, any bytes behind the
recognised front — under every naming `stem ++ e` (any stem of bytes, `e` one of the eight
extensions in any letter case) and for every operation of the public API goes on to its own
reader under its own extension and is refused with a mismatch error under every other. -/
theorem c20_end_to_end_bytes (t : Tables) (hup : UpperOK t.up) (hlo : LowerOK t.lo) {f : Format} {head : Str}
    {zip : Option (List XMember)} (hv : ValidDocB f head zip)
    (p : Str × Format) (hp : p ∈ extPairs) (stem e : Str) (he : lower e = p.1)
    (acc : Format → Bool) (k : TKind) :
    (openAndRunB t (stem ++ e) (.file ⟨head, zip, acc⟩) k).out =
      if p.2 = f then readerStageB t f ⟨head, zip, acc⟩ k else .mismatch := by
  have hf : f ≠ .unknown := by cases hv <;> decide
  exact open_bytes_by_name t hlo p hp stem e he ⟨head, zip, acc⟩ f hf (valid_document_recognised_bytes t.up hup hv) k

/-! ## call histories on the bytes -/

/-- NO SEQUENCE OF CALLS GETS AROUND THE CROSS-CHECK, on the bytes: while the file is what it
is (`DetectFromReader` answers `d`), every operation in every history on every extractor
whose name — any bytes — asks for another format is refused -/
theorem history_bytes_mismatch_always_refused (t : Tables) (hlo : LowerOK t.lo) (f : FileB) (d : Format)
    (hd : d ≠ .unknown) (hdet : detectFromReaderB t.up f.head (f.zip.map (·.map XMember.toMember)) = some d)
    (cs : List Call) (hnr : NoRewrite cs) (k i : Nat) (kind : TKind) (r : Res)
    (hc : cs[k]? = some (.op i kind))
    (hr : (runCalls (start (absFile t (.file f))) cs).2[k]? = some (.res r))
    (e : Ext) (he : (runCalls (start (absFile t (.file f))) cs).1.exts[i]? = some e)
    (hn : e.name ≠ []) (hmis : detectB t.lo e.name ≠ d) :
    r.out = .mismatch ∨ r.out = .errSet := by
  rw [detectB_eq hlo] at hmis
  exact history_mismatch_always_refused _ _ _ d hd (by rw [detectFile_abs]; exact hdet) cs hnr k i kind r hc hr e he
    hn hmis

end Tabula.C20B
