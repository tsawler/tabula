import TabulaModel.Props.C15Pptx
import TabulaModel.Lemmas.MarkdownPptx
/-!
# C15 — PPTX decks as a whole: the lines `pptx.(*Reader).markdown` writes and what a Markdown
reader gets back from them

Props/C15Pptx.lean has the single lines of a slide (title, list paragraph).  Here the builder
contents of `pptx.(*Reader).markdown` (`pptxSlides`; every deck of slides without tables whose
notes are not written, every exclusion option and title level) is shown to be whole lines
(`pptx_deck_lines`; the line lists themselves are in `Lemmas/MarkdownPptx.lean`), and the heading / list
item lines a reader finds on them are exactly the slide titles and list paragraphs in source
order (`pptx_deck_headings`, `pptx_deck_items`, `pptx_deck_structure`); algebraic laws of the
slide selection and of the slide loop.
-/
namespace Tabula.C15More
open Tabula.A1 (Str dec)
open Tabula.Markdown Tabula.MarkdownDoc Tabula.C15Pptx

theorem joinLines_flatMap {α} (g : α → List Str) (xs : List α) :
    joinLines (xs.flatMap g) = xs.flatMap fun x => joinLines (g x) :=
  List.flatMap_assoc

theorem flatMap_toList_eq_filterMap {α β} (g : α → Option β) (xs : List α) :
    (xs.flatMap fun x => (g x).toList) = xs.filterMap g := by
  induction xs with
  | nil => rfl
  | cons x xs ih =>
    rw [List.flatMap_cons, List.filterMap_cons, ih]
    cases g x <;> rfl

theorem listLine_one_noNl (d : Nat) (o : Bool) (t : Str) (h : 10 ∉ t) : 10 ∉ listLine ⟨d, o, 1, t⟩ :=
  listLine_noNl _ h

/-- a slide without tables whose notes are not written -/
def textOnly (notes : Bool) (s : PSlide) : Prop :=
  s.tables = [] ∧ (notes && !s.notes.isEmpty) = false

/-- every paragraph is written as whole lines, for every paragraph -/
theorem pptx_para_lines (p : PPara) : pptxPara p = joinLines (paraLines p) := by
  cases he : p.text.isEmpty
  · cases hb : (p.isBullet || p.isNumbered)
    · rw [pptx_plain_para p he hb]
      simp only [paraLines, he, Bool.false_eq_true, if_false, hb, joinLines_cons, joinLines_nil]
      simp
    · rw [pptx_list_para_line p he hb]
      simp only [paraLines, he, Bool.false_eq_true, if_false, hb, if_true, joinLines_singleton]
  · simp [pptxPara, paraLines, he, joinLines]

/-- every block is written as whole lines, for every block and every exclusion option -/
theorem pptx_block_lines (exH exF : Bool) (b : PBlock) :
    pptxBlock exH exF b = joinLines (blockLines exH exF b) := by
  have hp : (b.paras.flatMap pptxPara) = joinLines (b.paras.flatMap paraLines) := by
    rw [joinLines_flatMap]
    congr 1
    funext p
    exact pptx_para_lines p
  unfold pptxBlock blockLines blockShown
  rw [hp]
  cases b.isTitle <;> cases (exF && Tabula.HF.isFooterPlaceholder b.placeholder) <;>
    cases (exH && Tabula.HF.isHeaderPlaceholder b.placeholder) <;> rfl

/-- a text-only slide is written as whole lines -/
theorem pptx_slide_lines (exH exF notes : Bool) (titleLevel : Int) (s : PSlide)
    (h : textOnly notes s) :
    pptxSlide exH exF notes titleLevel s = joinLines (slideLines exH exF titleLevel s) := by
  obtain ⟨ht, hn⟩ := h
  have hc : s.content.flatMap (pptxBlock exH exF)
      = joinLines (s.content.flatMap (blockLines exH exF)) := by
    rw [joinLines_flatMap]
    congr 1
    funext b
    exact pptx_block_lines exH exF b
  unfold pptxSlide slideLines
  rw [ht, hn, hc, joinLines_append]
  cases he : s.title.isEmpty <;> simp [joinLines]

/-- **the builder of `pptx.(*Reader).markdown` holds whole lines**: for every deck of text-only
slides, every exclusion option and every title level the text before the final trimming is the
deck's lines, each followed by a newline -/
theorem pptx_deck_lines (exH exF notes : Bool) (titleLevel : Int) (ss : List PSlide)
    (h : ∀ s ∈ ss, textOnly notes s) (first : Bool) :
    pptxSlides exH exF notes titleLevel ss first
      = joinLines (deckLines exH exF titleLevel ss first) := by
  induction ss generalizing first with
  | nil => rfl
  | cons s rest ih =>
    have hsep : sTocEnd = joinLines [[], hrLine, []] := by decide
    unfold pptxSlides deckLines
    rw [ih (fun x hx => h x (List.mem_cons_of_mem _ hx)) false,
      pptx_slide_lines exH exF notes titleLevel s (h s (by simp)),
      joinLines_append, joinLines_append]
    cases first <;> simp [hsep, joinLines_nil]

/-- non-vacuity: a slide with notes that are not asked for is text-only; a slide whose notes are
written is not -/
example : textOnly false { title := [84], notes := [110] } ∧ ¬ textOnly true { title := [84], notes := [110] } := by
  unfold textOnly; decide

/-- a projection of the reader that sees nothing on an empty line and on `---` sees on the deck's
lines what it sees on the slides' lines, in slide order: the separators add nothing -/
theorem deck_filterMap {β} (f : Str → Option β) (hnil : f [] = none) (hhr : f hrLine = none)
    (exH exF : Bool) (titleLevel : Int) (ss : List PSlide) (first : Bool) :
    (deckLines exH exF titleLevel ss first).filterMap f
      = ss.flatMap fun s => (slideLines exH exF titleLevel s).filterMap f := by
  induction ss generalizing first with
  | nil => rfl
  | cons s rest ih =>
    unfold deckLines
    rw [List.filterMap_append, List.filterMap_append, ih false, List.flatMap_cons]
    cases first <;> simp [hnil, hhr]

/-- the heading a paragraph is read as: none for a list paragraph; a plain paragraph is read as
whatever its own text says -/
def paraHeading (p : PPara) : Option (Nat × Str) :=
  if p.text.isEmpty then none
  else if p.isBullet || p.isNumbered then none
  else headingOf p.text

/-- the list item a paragraph is read as: a list paragraph with its level, kind and text -/
def paraItem (p : PPara) : Option (Nat × Bool × Str) :=
  if p.text.isEmpty then none
  else if p.isBullet || p.isNumbered then some (p.level.toNat, p.isNumbered, p.text)
  else itemOf p.text

theorem para_headings (p : PPara) : (paraLines p).filterMap headingOf = (paraHeading p).toList := by
  unfold paraLines paraHeading
  by_cases he : p.text.isEmpty = true
  · simp [he]
  · by_cases hb : (p.isBullet || p.isNumbered) = true
    · simp [he, hb, headingOf_listLine]
    · simp only [he, hb, Bool.false_eq_true, if_false]
      cases hh : headingOf p.text <;> simp [hh, headingOf_nil]

theorem para_items (p : PPara) : (paraLines p).filterMap itemOf = (paraItem p).toList := by
  unfold paraLines paraItem
  by_cases he : p.text.isEmpty = true
  · simp [he]
  · by_cases hb : (p.isBullet || p.isNumbered) = true
    · simp [he, hb, itemOf_listLine]
    · simp only [he, hb, Bool.false_eq_true, if_false]
      cases hh : itemOf p.text <;> simp [hh, itemOf_nil]

theorem slide_content_filterMap {β} (f : Str → Option β) (exH exF : Bool) (s : PSlide) :
    (s.content.flatMap (blockLines exH exF)).filterMap f
      = (slideParas exH exF s).flatMap fun p => (paraLines p).filterMap f := by
  rw [content_lines, List.filterMap_flatMap]

/-- the titles of a deck as the headings a reader must find -/
def slideTitle (titleLevel : Int) (s : PSlide) : List (Nat × Str) :=
  if s.title.isEmpty then [] else [(titleLevel.toNat, s.title)]

/-- **headings of a deck**: for every deck, exclusion option and title level ≥ 1, the ATX lines
among the deck's lines are, slide by slide, the slide's title at the title level followed by
what the plain paragraphs' own texts read as — no list paragraph, separator or empty line is
ever a heading, no title is lost -/
theorem pptx_deck_headings (exH exF : Bool) (titleLevel : Int) (h1 : 1 ≤ titleLevel)
    (ss : List PSlide) (first : Bool) :
    (deckLines exH exF titleLevel ss first).filterMap headingOf
      = ss.flatMap fun s => slideTitle titleLevel s
          ++ (slideParas exH exF s).flatMap fun p => (paraHeading p).toList := by
  rw [deck_filterMap headingOf headingOf_nil (by decide)]
  congr 1
  funext s
  unfold slideLines slideTitle
  rw [List.filterMap_append, slide_content_filterMap]
  have hl : 1 ≤ titleLevel.toNat := by omega
  congr 1
  · by_cases he : s.title.isEmpty = true
    · simp [he]
    · simp [he, headingOf_atxLine _ _ hl, headingOf_nil]
  · congr 1
    funext p
    exact para_headings p

/-- **list items of a deck**: for every deck, exclusion option and title level ≥ 1, the list
item lines among the deck's lines are, in slide, block and paragraph order, every written list
paragraph with depth = its level, kind = numbered, and its text (followed for a plain paragraph
by what its own text reads as) — order, nesting depth and kind are kept -/
theorem pptx_deck_items (exH exF : Bool) (titleLevel : Int) (h1 : 1 ≤ titleLevel)
    (ss : List PSlide) (first : Bool) :
    (deckLines exH exF titleLevel ss first).filterMap itemOf
      = ss.flatMap fun s => (slideParas exH exF s).flatMap fun p => (paraItem p).toList := by
  rw [deck_filterMap itemOf itemOf_nil (by decide)]
  congr 1
  funext s
  unfold slideLines
  rw [List.filterMap_append, slide_content_filterMap]
  have hl : 1 ≤ titleLevel.toNat := by omega
  have e : (if s.title.isEmpty then [] else [atxLine titleLevel.toNat s.title, []]).filterMap itemOf
      = [] := by
    by_cases he : s.title.isEmpty = true
    · simp [he]
    · simp [he, itemOf_atxLine _ _ hl, itemOf_nil]
  rw [e, List.nil_append]
  congr 1
  funext p
  exact para_items p

/-- non-vacuity of the title level hypothesis: the level `MarkdownWithRAGOptions` passes is
`headingLevel 1 offset max`, at least 1 (`C15.heading_level_range`), e.g. for offset -2 -/
example : (1 : Int) ≤ headingLevel 1 (-2) 3 ∧ (1 : Int) ≤ headingLevel 1 7 0 := by decide +kernel

/-- a line the reader takes for paragraph text is neither a heading nor a list item -/
theorem isPara_not_structure (l : Str) (h : isPara l = true) : headingOf l = none ∧ itemOf l = none := by
  unfold isPara at h
  unfold headingOf itemOf
  cases hc : classify l <;> simp [hc] at h ⊢

/-- the list paragraphs of a slide as the reader must find them -/
def slideItems (exH exF : Bool) (s : PSlide) : List (Nat × Bool × Str) :=
  (slideParas exH exF s).filterMap fun p =>
    if p.text.isEmpty then none
    else if p.isBullet || p.isNumbered then some (p.level.toNat, p.isNumbered, p.text) else none

/-- **deck structure read back from the written text**: for every deck of text-only slides whose
titles and paragraph texts are single lines and whose plain paragraphs are paragraph text for
the reader, every exclusion option, note option and title level ≥ 1: splitting the builder's
text at newlines, the headings are exactly the non-empty slide titles in slide order at the
title level and the list items are exactly the written list paragraphs in order with their
depth, kind and text -/
theorem pptx_deck_structure (exH exF notes : Bool) (titleLevel : Int) (h1 : 1 ≤ titleLevel)
    (ss : List PSlide) (htext : ∀ s ∈ ss, textOnly notes s)
    (htitle : ∀ s ∈ ss, 10 ∉ s.title)
    (hpara : ∀ s ∈ ss, ∀ p ∈ slideParas exH exF s, 10 ∉ p.text ∧
      ((p.isBullet || p.isNumbered) = false → p.text.isEmpty = false → isPara p.text = true)) :
    (splitLines (pptxSlides exH exF notes titleLevel ss true)).filterMap headingOf
        = ss.flatMap (slideTitle titleLevel) ∧
    (splitLines (pptxSlides exH exF notes titleLevel ss true)).filterMap itemOf
        = ss.flatMap (slideItems exH exF) := by
  -- a line of the deck is empty, `---`, a title line, a paragraph's text or its list item line: no newline
  have hnl : ∀ l ∈ deckLines exH exF titleLevel ss true, 10 ∉ l := by
    intro l hl
    rcases mem_deckLines hl with rfl | rfl | ⟨s, hs, hl⟩
    · exact List.not_mem_nil
    · decide
    · rcases mem_slideLines hl with rfl | rfl | ⟨p, hp, hl⟩
      · exact List.not_mem_nil
      · exact atxLine_noNl _ _ (htitle s hs)
      · rcases mem_paraLines hl with rfl | rfl | rfl
        · exact List.not_mem_nil
        · exact (hpara s hs p hp).1
        · exact listLine_noNl _ (hpara s hs p hp).1
  rw [pptx_deck_lines exH exF notes titleLevel ss htext true, splitLines_joinLines _ hnl,
    List.filterMap_append, List.filterMap_append, pptx_deck_headings exH exF titleLevel h1,
    pptx_deck_items exH exF titleLevel h1]
  simp only [List.filterMap_cons, headingOf_nil, itemOf_nil, List.filterMap_nil, List.append_nil]
  -- a written paragraph is read as a heading never, as an item exactly when it is a list paragraph
  have hp : ∀ s ∈ ss, ∀ p ∈ slideParas exH exF s, paraHeading p = none ∧
      paraItem p = (if p.text.isEmpty then none
        else if p.isBullet || p.isNumbered then some (p.level.toNat, p.isNumbered, p.text) else none) := by
    intro s hs p hpm
    unfold paraHeading paraItem
    cases he : p.text.isEmpty
    · cases hb : (p.isBullet || p.isNumbered)
      · have hpa := isPara_not_structure _ ((hpara s hs p hpm).2 hb he)
        simp [hpa.1, hpa.2]
      · simp
    · simp
  constructor
  · refine List.flatMap_congr (fun s hs => ?_)
    have : ((slideParas exH exF s).flatMap fun p => (paraHeading p).toList) = [] :=
      List.flatMap_eq_nil_iff.mpr fun p hpm => by rw [(hp s hs p hpm).1]; rfl
    show slideTitle titleLevel s ++ _ = slideTitle titleLevel s
    rw [this, List.append_nil]
  · refine List.flatMap_congr (fun s hs => ?_)
    show ((slideParas exH exF s).flatMap fun p => (paraItem p).toList) = slideItems exH exF s
    rw [List.flatMap_congr fun p hpm => by rw [(hp s hs p hpm).2]]
    exact flatMap_toList_eq_filterMap _ _

/-- non-vacuity of the paragraph hypothesis: ordinary text is paragraph text for the reader; a
plain paragraph that spells a list item is not, which is why the hypothesis is needed -/
example : isPara [99, 32, 100] = true ∧ isPara [45, 32, 100] = false := by decide +kernel

/-- non-vacuity: a two-slide deck with a title, a nested first item, a numbered item, a plain
paragraph and an excluded footer block meets every hypothesis of `pptx_deck_structure` -/
example : (splitLines (pptxSlides false true false 2
      [{ title := [84], content := [{ paras := [{ text := [97], level := 1, isBullet := true },
                                                 { text := [98], isNumbered := true },
                                                 { text := [99] }] },
                                     { placeholder := [102, 116, 114], paras := [{ text := [120], isBullet := true }] }] },
       { content := [{ paras := [{ text := [100], isBullet := true }] }] }] true)).filterMap itemOf
    = [(1, false, [97]), (0, true, [98]), (0, false, [100])] := by decide +kernel

/-- the lines of every slide of the deck are lines of the deck -/
theorem slideLines_sub_deck (exH exF : Bool) (titleLevel : Int) (ss : List PSlide) (first : Bool)
    (s : PSlide) (hs : s ∈ ss) (l : Str) (hl : l ∈ slideLines exH exF titleLevel s) :
    l ∈ deckLines exH exF titleLevel ss first := by
  induction ss generalizing first with
  | nil => simp at hs
  | cons x rest ih =>
    unfold deckLines
    rcases List.mem_cons.mp hs with e | hm
    · subst e
      exact List.mem_append_left _ (List.mem_append_right _ hl)
    · exact List.mem_append_right _ (ih false hm)

/-- **no title and no paragraph is lost**: for every deck, exclusion option and title level,
every non-empty title is on a line of the deck as the ATX heading of the title level, and every
non-empty paragraph of a block that is written is on a line of the deck — a list paragraph as
its list item line, a plain paragraph as its text -/
theorem pptx_deck_keeps_text (exH exF : Bool) (titleLevel : Int) (ss : List PSlide) (first : Bool)
    (s : PSlide) (hs : s ∈ ss) :
    (s.title.isEmpty = false → atxLine titleLevel.toNat s.title ∈ deckLines exH exF titleLevel ss first) ∧
    (∀ p ∈ slideParas exH exF s, p.text.isEmpty = false →
      (if p.isBullet || p.isNumbered then listLine ⟨p.level.toNat, p.isNumbered, 1, p.text⟩ else p.text)
        ∈ deckLines exH exF titleLevel ss first) := by
  constructor
  · intro ht
    apply slideLines_sub_deck exH exF titleLevel ss first s hs
    unfold slideLines
    simp [ht]
  · intro p hp hne
    apply slideLines_sub_deck exH exF titleLevel ss first s hs
    unfold slideLines
    rw [content_lines]
    refine List.mem_append_right _ (List.mem_flatMap.mpr ⟨p, hp, ?_⟩)
    unfold paraLines
    cases hbn : (p.isBullet || p.isNumbered) <;> simp [hne]

/-- the slide loop is compositional: a deck written in two parts -/
theorem pptx_slides_append (exH exF notes : Bool) (titleLevel : Int) (a b : List PSlide) (first : Bool) :
    pptxSlides exH exF notes titleLevel (a ++ b) first
      = pptxSlides exH exF notes titleLevel a first
          ++ pptxSlides exH exF notes titleLevel b (first && a.isEmpty) := by
  induction a generalizing first with
  | nil => simp [pptxSlides]
  | cons s rest ih =>
    simp [pptxSlides, ih false]

/-- no selection: every slide / sheet, in deck order -/
theorem selectIdx_none {α} (all : List α) : selectIdx all [] = all := by
  simp [selectIdx]

/-- a selection never invents a slide: whatever indices are asked for (negative, beyond the deck,
repeated), every selected slide is a slide of the deck and there are at most as many as asked -/
theorem selectIdx_sound {α} (all : List α) (sel : List Int) (hne : sel ≠ []) :
    (∀ x ∈ selectIdx all sel, x ∈ all) ∧ (selectIdx all sel).length ≤ sel.length := by
  have he : sel.isEmpty = false := List.isEmpty_eq_false_iff.mpr hne
  unfold selectIdx
  simp only [he, Bool.false_eq_true, if_false]
  constructor
  · intro x hx
    obtain ⟨i, _, hi⟩ := List.mem_filterMap.mp hx
    by_cases hneg : i < 0
    · simp [hneg] at hi
    · simp only [hneg, if_false] at hi
      exact List.mem_of_getElem? hi
  · exact List.length_filterMap_le _ _

/-- a selection of valid indices picks exactly those slides, in the order asked -/
theorem selectIdx_valid {α} (all : List α) (sel : List Nat) (hne : sel ≠ [])
    (hv : ∀ i ∈ sel, i < all.length) :
    (selectIdx all (sel.map fun i : Nat => (i : Int))).map some = sel.map fun i => all[i]? := by
  have he : (sel.map fun i : Nat => (i : Int)).isEmpty = false := by
    rw [List.isEmpty_map]; exact List.isEmpty_eq_false_iff.mpr hne
  unfold selectIdx
  simp only [he, Bool.false_eq_true, if_false]
  clear he hne
  induction sel with
  | nil => rfl
  | cons i rest ih =>
    have hi := hv i (by simp)
    have hneg : ¬ ((i : Int) < 0) := by omega
    have e : ((i : Int)).toNat = i := by omega
    have ih2 := ih (fun x hx => hv x (List.mem_cons_of_mem _ hx))
    simp only [List.map_cons, List.filterMap_cons, hneg, if_false, e, List.getElem?_eq_getElem hi, ih2]

example : selectIdx [10, 20, 30] [2, -1, 7, 0, 2] = [30, 10, 30] := by decide +kernel

example : ([2, 0, 2] : List Nat) ≠ [] ∧ ∀ i ∈ ([2, 0, 2] : List Nat), i < [10, 20, 30].length := by decide +kernel

/-- `MarkdownWithOptions` is `MarkdownWithRAGOptions` without metadata, TOC and offset, for
every maximum level: titles stay level-1 headings -/
theorem pptx_with_options_eq_rag (ext : Ext) (exH exF notes : Bool) (sel : List Int) (o : MdOpts)
    (m : Meta) (slides : List PSlide) (hm : o.meta = false) (ht : o.toc = false) (ho : o.offset = 0) :
    pptxMarkdownRag ext exH exF notes sel o m slides
      = pptxMarkdownWithOptions exH exF notes sel slides := by
  have hl : headingLevel 1 0 o.max = 1 := by
    rw [headingLevel_eq]
    split <;> omega
  unfold pptxMarkdownRag pptxMarkdownWithOptions
  rw [hm, ht, ho, hl]
  rfl

/-- non-vacuity: the default options meet the hypotheses -/
example : defaultOpts.meta = false ∧ defaultOpts.toc = false ∧ defaultOpts.offset = 0 := by decide +kernel

end Tabula.C15More
