import TabulaModel.Model.FontDecode
import TabulaModel.Model.EncodingRef
import TabulaModel.Lemmas.Encoding
import TabulaModel.Lemmas.UTF16
import TabulaModel.Lemmas.CMap
import TabulaModel.Lemmas.CMapSection
import TabulaModel.Lemmas.CMapDecide
import TabulaModel.Lemmas.Differences
/-!
# C07 — Character codes decode to the Unicode the font specifies
-/
namespace Tabula.C07
open Tabula.Gen.Encodings Tabula.UTF16 Tabula.Encoding Tabula.CMap Tabula.FontDecode

/-! ## 1. The six tables against the independent references

The tables on the left are `Tabula.Gen.Encodings.*`, regenerated from font/encoding.go on
every check run, so each theorem is re-checked against the source as it is now. The
references (`Model/EncodingRef.lean`) are typed independently from ISO 32000-1 Annex D. -/

/-- the reference defines byte `b` (Annex D assigns a glyph to the code) -/
def refDefined (ref : Array (List Nat)) (b : Fin 256) : Prop :=
  ∃ allowed, ref[b.val]? = some allowed ∧ allowed ≠ []

/-- the values the reference allows at byte `b` -/
def refAllowed (ref : Array (List Nat)) (b : Fin 256) : List Nat := (ref[b.val]?).getD []

/-- `∀ b : Fin 256, refDefined e b → Gen.table e b ∈ refAllowed e b` -/
def TableOK (t : Array Nat) (ref : Array (List Nat)) : Prop :=
  ∀ b : Fin 256, refDefined ref b → ∃ v, t[b.val]? = some v ∧ v ∈ refAllowed ref b

theorem tableOK_of_check (t : Array Nat) (ref : Array (List Nat))
    (h : checkAll t.toList ref.toList = true) : TableOK t ref := by
  intro b ⟨allowed, hr, hne⟩
  have hr' : ref.toList[b.val]? = some allowed := by simpa using hr
  obtain ⟨v, hv, hin⟩ := checkAll_sound t.toList ref.toList h b.val allowed hr' hne
  refine ⟨v, by simpa using hv, ?_⟩
  unfold refAllowed
  rw [hr]
  exact hin

theorem winansi_ref : TableOK winAnsiTable winAnsiRef := tableOK_of_check _ _ (by decide +kernel)
theorem macroman_ref : TableOK macRomanTable macRomanRef := tableOK_of_check _ _ (by decide +kernel)
theorem pdfdoc_ref : TableOK pdfDocTable pdfDocRef := tableOK_of_check _ _ (by decide +kernel)
theorem standard_ref : TableOK standardEncodingTableData standardRef := tableOK_of_check _ _ (by decide +kernel)
theorem symbol_ref : TableOK symbolEncodingTable symbolRef := tableOK_of_check _ _ (by decide +kernel)
theorem zapf_ref : TableOK zapfDingbatsEncodingTable zapfRef := tableOK_of_check _ _ (by decide +kernel)

/-- non-vacuity: the references define most codes (218, 208, 229, 149, 166, 188 of 256) -/
example : ((winAnsiRef.toList.filter (· ≠ [])).length, (macRomanRef.toList.filter (· ≠ [])).length,
    (pdfDocRef.toList.filter (· ≠ [])).length, (standardRef.toList.filter (· ≠ [])).length,
    (symbolRef.toList.filter (· ≠ [])).length, (zapfRef.toList.filter (· ≠ [])).length)
    = (218, 208, 229, 149, 166, 188) := by decide +kernel

/-! ## 2. UTF-16 -/

/-- `DecodeUTF16BE (UTF-16BE bytes of s) = s` for every list of Unicode scalar values,
supplementary planes included. -/
theorem utf16be_roundtrip (s : List Nat) (hs : ∀ c ∈ s, IsScalar c) :
    decodeUTF16BE (bytesBE (encodeUnits s)) = s := by
  unfold decodeUTF16BE
  rw [unitsBE_bytesBE, decodeUnits_encodeUnits s hs]

/-- `DecodeUTF16LE (UTF-16LE bytes of s) = s` -/
theorem utf16le_roundtrip (s : List Nat) (hs : ∀ c ∈ s, IsScalar c) :
    decodeUTF16LE (bytesLE (encodeUnits s)) = s := by
  unfold decodeUTF16LE
  rw [unitsLE_bytesLE, decodeUnits_encodeUnits s hs]

example : (∀ c ∈ [0x41, 0xD7FF, 0xE000, 0xFFFF, 0x10000, 0x1D400, 0x10FFFF], IsScalar c) ∧
    bytesBE (encodeUnits [0x41, 0x1D400]) = [0x00, 0x41, 0xD8, 0x35, 0xDC, 0x00] := by decide

/-! ## 3. `GetEncoding`: name dispatch (interpreted from the regenerated `switch`) -/

/-- each of the six names selects the encoding of that name with the table the Go variable
is initialised with; `Identity-H` and the empty name fall to `default`, WinAnsiEncoding -/
theorem getencoding_dispatch :
    ((getEncoding (nameBytes "WinAnsiEncoding")).map fun e => (e.name, e.table.toList)) = some ("WinAnsiEncoding", winAnsiTable.toList) ∧
    ((getEncoding (nameBytes "MacRomanEncoding")).map fun e => (e.name, e.table.toList)) = some ("MacRomanEncoding", macRomanTable.toList) ∧
    ((getEncoding (nameBytes "PDFDocEncoding")).map fun e => (e.name, e.table.toList)) = some ("PDFDocEncoding", pdfDocTable.toList) ∧
    ((getEncoding (nameBytes "StandardEncoding")).map fun e => (e.name, e.table.toList)) = some ("StandardEncoding", standardEncodingTableData.toList) ∧
    ((getEncoding (nameBytes "SymbolEncoding")).map fun e => (e.name, e.table.toList)) = some ("SymbolEncoding", symbolEncodingTable.toList) ∧
    ((getEncoding (nameBytes "ZapfDingbatsEncoding")).map fun e => (e.name, e.table.toList)) = some ("ZapfDingbatsEncoding", zapfDingbatsEncodingTable.toList) ∧
    ((getEncoding (nameBytes "Identity-H")).map fun e => (e.name, e.table.toList)) = some ("WinAnsiEncoding", winAnsiTable.toList) ∧
    ((getEncoding []).map fun e => (e.name, e.table.toList)) = some ("WinAnsiEncoding", winAnsiTable.toList) := by
  decide +kernel

/-- `GetEncoding` never fails: every `case` body and the `default` resolve to a table -/
theorem getencoding_total (name : List Nat) : (getEncoding name).isSome = true := by
  have hall : ∀ c ∈ getEncodingCases, (encOfReturn c.2).isSome = true := by decide +kernel
  have hdef : (getEncodingCases.find? (fun c => c.1.contains "<default>")).map (·.2) = some "return WinAnsiEncoding" := by
    decide +kernel
  unfold getEncoding
  split
  · rename_i c hc
    exact hall c (List.mem_of_find?_eq_some hc)
  · cases hf : getEncodingCases.find? (fun c => c.1.contains "<default>") with
    | none => rw [hf] at hdef; simp at hdef
    | some c => exact hall c (List.mem_of_find?_eq_some hf)

/-- every entry of the six tables is 0 (unmapped) or a Unicode scalar value -/
theorem tables_scalar :
    allScalarOrZero winAnsiTable.toList = true ∧ allScalarOrZero macRomanTable.toList = true ∧
    allScalarOrZero pdfDocTable.toList = true ∧ allScalarOrZero standardEncodingTableData.toList = true ∧
    allScalarOrZero symbolEncodingTable.toList = true ∧ allScalarOrZero zapfDingbatsEncodingTable.toList = true := by
  decide +kernel

/-! ## 4. CMap lookup -/

/-- **lookup_semantics**: a direct (`bfchar`/array) mapping wins; otherwise the first range
that contains the code supplies the text (start + offset, or the UTF-16 target with its last
unit advanced by the offset); otherwise there is no mapping. -/
theorem lookup_semantics (cm : CMap) (c : Nat) :
    (∀ u, cm.getChar c = some u → lookup cm c = u) ∧
    (cm.getChar c = none → ∀ pre r post, cm.ranges = pre ++ r :: post →
        (∀ q ∈ pre, ¬ (q.start ≤ c ∧ c ≤ q.stop)) → (r.start ≤ c ∧ c ≤ r.stop) →
        lookup cm c = rangeText r c) ∧
    (cm.getChar c = none → (∀ q ∈ cm.ranges, ¬ (q.start ≤ c ∧ c ≤ q.stop)) → lookup cm c = []) := by
  refine ⟨?_, ?_, ?_⟩
  · intro u h; unfold lookup; rw [h]
  · intro h pre r post hr hpre hin
    unfold lookup; rw [h]; simp only
    rw [hr]
    exact lookupRanges_first pre r post c hpre hin
  · intro h hall
    unfold lookup; rw [h]; simp only
    exact lookupRanges_none _ c hall

/-- offset targets: a one-unit target advances by the offset -/
theorem range_offset (r : Range) (c : Nat) (hu : r.units = []) (hc : r.start ≤ c)
    (hs : IsScalar (r.startUnicode + (c - r.start))) :
    rangeText r c = [r.startUnicode + (c - r.start)] := by
  unfold rangeText
  have h32 : r.startUnicode + (c - r.start) < 4294967296 := by unfold IsScalar at hs; omega
  simp [hu, Nat.mod_eq_of_lt h32, toRune_scalar _ hs]

/-- the code-width rule of `LookupString` -/
theorem width_rule (cm : CMap) :
    effectiveWidth cm = if 0 < cm.actualByteWidth ∧ cm.actualByteWidth < cm.byteWidth then cm.actualByteWidth else cm.byteWidth := by
  unfold effectiveWidth; rfl

example : lookup { chars := [(5, [0x41])], ranges := [⟨0, 9, 0x61, []⟩, ⟨5, 5, 0x7A, []⟩] } 5 = [0x41] ∧
    lookup { chars := [(5, [0x41])], ranges := [⟨0, 9, 0x61, []⟩, ⟨5, 5, 0x7A, []⟩] } 6 = [0x67] ∧
    lookup { ranges := [⟨1, 2, 0, [0xD835, 0xDC00]⟩, ⟨3, 4, 0, [0x66, 0x66]⟩] } 2 = [0x1D401] ∧
    lookup { ranges := [⟨1, 2, 0, [0xD835, 0xDC00]⟩, ⟨3, 4, 0, [0x66, 0x66]⟩] } 4 = [0x66, 0x67] := by decide

/-! ## 5. `Font.DecodeString`: priority and output invariant -/

/-- the data does not start with a UTF-16 byte-order mark -/
def NoBOM (data : List Nat) : Prop :=
  (∀ rest, data ≠ 0xFE :: 0xFF :: rest) ∧ (∀ rest, data ≠ 0xFF :: 0xFE :: rest)

/-- **decode_priority**: ToUnicode, else byte-order mark, else the named encoding under the
font's `/Differences` (section 5c), else the raw bytes; `nfc` is applied last on every path. -/
theorem decode_priority (nfc : List Nat → List Nat) (f : Font) (data : List Nat) :
    (∀ cm, f.toUnicode = some cm → FontDecode.decodeString nfc f data = some (nfc (lookupString cm data))) ∧
    (f.toUnicode = none → ∀ rest, data = 0xFE :: 0xFF :: rest →
        FontDecode.decodeString nfc f data = some (nfc (decodeUTF16BE rest))) ∧
    (f.toUnicode = none → ∀ rest, data = 0xFF :: 0xFE :: rest →
        FontDecode.decodeString nfc f data = some (nfc (decodeUTF16LE rest))) ∧
    (f.toUnicode = none → NoBOM data → f.encoding ≠ [] →
        FontDecode.decodeString nfc f data =
          (getEncoding f.encoding).map fun e => nfc (decodeWith f.differences e.table data)) ∧
    (f.toUnicode = none → NoBOM data → f.encoding = [] →
        FontDecode.decodeString nfc f data = some (nfc (toValidUTF8 data))) := by
  refine ⟨?_, ?_, ?_, ?_, ?_⟩
  · intro cm h; unfold FontDecode.decodeString preNFC; rw [h]; rfl
  · intro h rest hd; unfold FontDecode.decodeString preNFC; rw [h, hd]; rfl
  · intro h rest hd; unfold FontDecode.decodeString preNFC; rw [h, hd]; rfl
  · intro h hb he
    unfold FontDecode.decodeString preNFC; rw [h]; simp only
    split
    · rename_i rest; exact absurd rfl (hb.1 rest)
    · rename_i rest; exact absurd rfl (hb.2 rest)
    · simp only [he, ne_eq, not_false_eq_true, if_true, Option.map_map]
      rfl
  · intro h hb he
    unfold FontDecode.decodeString preNFC; rw [h]; simp only
    split
    · rename_i rest; exact absurd rfl (hb.1 rest)
    · rename_i rest; exact absurd rfl (hb.2 rest)
    · simp [he]

/-- `DecodeString` always answers: the one partial step of the model, `GetEncoding` read from the
regenerated switch, never fails (`getencoding_total`) -/
theorem decodeString_isSome (nfc : List Nat → List Nat) (f : Font) (d : List Nat) :
    (FontDecode.decodeString nfc f d).isSome = true := by
  unfold FontDecode.decodeString
  rw [Option.isSome_map]
  fun_cases preNFC f d
  case case4 => rw [Option.isSome_map]; exact getencoding_total f.encoding
  all_goals rfl

/-- ToUnicode takes precedence: with a CMap present the result depends neither on the
encoding name, nor on the `/Differences` of the `/Encoding` dictionary, nor on a byte-order
mark in the data -/
theorem tounicode_precedence (nfc : List Nat → List Nat) (cm : CMap) (enc enc' : List Nat) (ds ds' : Diffs)
    (data : List Nat) :
    FontDecode.decodeString nfc ⟨some cm, enc, ds⟩ data = FontDecode.decodeString nfc ⟨some cm, enc', ds'⟩ data ∧
    FontDecode.decodeString nfc ⟨some cm, enc, ds⟩ data = some (nfc (lookupString cm data)) := by
  exact ⟨rfl, rfl⟩

example : NoBOM [0x41, 0xFE, 0xFF] ∧ ¬ NoBOM [0xFE, 0xFF, 0x00, 0x41] := by
  refine ⟨⟨fun r h => by simp at h, fun r h => by simp at h⟩, fun h => h.1 [0x00, 0x41] rfl⟩

theorem encDecodeString_scalar (t : Array Nat) (data : List Nat) : AllScalar (Encoding.decodeString t data) :=
  Differences.decodeWith_isScalar [] t data

/-- **decoded_utf8**: whatever `DecodeString` returns is a list of Unicode scalar values —
its UTF-8 encoding is valid — on every path, the raw-bytes path included (after the fix),
for any byte string, any font whose CMap came from the parser, and any normaliser that maps
scalar lists to scalar lists. -/
theorem decoded_utf8 (nfc : List Nat → List Nat) (hnfc : ∀ l, AllScalar l → AllScalar (nfc l))
    (f : Font) (hcm : ∀ cm, f.toUnicode = some cm → CharsOK cm)
    (data : List Nat) (hb : AllBytes data) (out : List Nat) (h : FontDecode.decodeString nfc f data = some out) :
    AllScalar out := by
  obtain ⟨pre, hp, rfl⟩ := Option.map_eq_some_iff.mp h
  apply hnfc
  revert hp hb
  -- by the branches of `preNFC`: ToUnicode, the two byte-order marks, the named encoding, the raw bytes
  fun_cases preNFC f data <;> intro hb hp
  case case1 hcm' => cases hp; exact lookupString_scalar _ (hcm _ hcm') data
  case case2 => cases hp; exact decodeUnits_scalar _ (unitsBE_lt _ (allBytes_tail (allBytes_tail hb)))
  case case3 => cases hp; exact decodeUnits_scalar _ (unitsLE_lt _ (allBytes_tail (allBytes_tail hb)))
  case case4 =>
    obtain ⟨e, _, rfl⟩ := Option.map_eq_some_iff.mp hp
    exact Differences.decodeWith_isScalar _ _ _
  case case5 => cases hp; exact toValidUTF8_scalar data

/-- the hypothesis on the CMap holds for every parsed program -/
theorem parsed_cmap_ok (prog : List Nat) : CharsOK (parseCMapData prog) := charsOK_parse prog

/-- the font-less `showText` path returns scalars too -/
theorem nofont_utf8 (nfc : List Nat → List Nat) (hnfc : ∀ l, AllScalar l → AllScalar (nfc l))
    (data : List Nat) (hb : AllBytes data) : AllScalar (showTextNoFont nfc data) :=
  hnfc _ (toValidUTF8_scalar data)

/-- witnesses on which the raw path returned invalid UTF-8 before the fix (`string(data)`),
and what it returns now -/
example : toValidUTF8 [0xC3, 0x28, 0xFF] = [0xFFFD, 0x28, 0xFFFD] ∧ toValidUTF8 [0xC3, 0xA9] = [0xE9] := by decide


/-! ## 5b. composition: named encodings through `DecodeString`, string level

The six `*_ref` theorems are per byte of a table. Lifted through `(*standardEncoding).DecodeString`
(zero entries skipped, `string(rune)` replacement), `GetEncoding`'s dispatch and
`Font.DecodeString`'s priority: a font without ToUnicode whose `/Encoding` is one of the six
names decodes every string of codes the reference defines (not starting with a byte-order
mark) to one character per code, each a value the independent reference allows, NFC last. -/

/-- `s` has one element per element of `data`, related position by position -/
def Pointwise (R : Nat → Nat → Prop) : List Nat → List Nat → Prop
  | [], [] => True
  | a :: as, b :: bs => R a b ∧ Pointwise R as bs
  | _, _ => False

/-- the values the reference allows at byte value `b` -/
def allowedAt (ref : Array (List Nat)) (b : Nat) : List Nat := (ref[b]?).getD []

/-- no reference allows the value 0 (which the tables use for "unmapped") -/
theorem refs_nonzero :
    ∀ ref ∈ [winAnsiRef, macRomanRef, pdfDocRef, standardRef, symbolRef, zapfRef], ∀ l ∈ ref.toList, 0 ∉ l := by
  decide +kernel

theorem allScalarOrZero_get (t : Array Nat) (h : allScalarOrZero t.toList = true) (b v : Nat) (hv : t[b]? = some v) :
    v = 0 ∨ IsScalar v := by
  unfold allScalarOrZero at h
  rw [List.all_eq_true] at h
  have hmem : v ∈ t.toList := by
    have : t.toList[b]? = some v := by simpa using hv
    exact List.mem_of_getElem? this
  have := h v hmem
  simp only [decide_eq_true_eq] at this
  by_cases h0 : v = 0
  · exact Or.inl h0
  · exact Or.inr this

/-- `DecodeString` of a table that agrees with its reference: one allowed character per defined code -/
theorem encoding_string_ref (t : Array Nat) (ref : Array (List Nat)) (hok : TableOK t ref)
    (hsc : allScalarOrZero t.toList = true) (hnz : ∀ l ∈ ref.toList, 0 ∉ l)
    (data : List Nat) (hd : ∀ b ∈ data, b < 256 ∧ allowedAt ref b ≠ []) :
    Pointwise (fun b v => v ∈ allowedAt ref b) data (Encoding.decodeString t data) := by
  induction data with
  | nil => exact True.intro
  | cons b rest ih =>
    obtain ⟨hb, hne⟩ := hd b (by simp)
    obtain ⟨allowed, hr⟩ : ∃ allowed, ref[b]? = some allowed := by
      cases hr : ref[b]? with
      | none => simp [allowedAt, hr] at hne
      | some a => exact ⟨a, rfl⟩
    have hal : allowedAt ref b = allowed := by simp [allowedAt, hr]
    obtain ⟨v, hv, hin⟩ := hok ⟨b, hb⟩ ⟨allowed, hr, by rw [← hal]; exact hne⟩
    have hin' : v ∈ allowedAt ref b := hin
    have hv0 : v ≠ 0 := by
      rintro rfl
      rw [hal] at hin'
      exact hnz allowed (List.mem_of_getElem? (by simpa using hr)) hin'
    have hsv : IsScalar v := (allScalarOrZero_get t hsc b v hv).resolve_left hv0
    have hv' : t[b]? = some v := hv
    have hstep : Encoding.decodeString t (b :: rest) = v :: Encoding.decodeString t rest := by
      simp only [Encoding.decodeString, List.filterMap_cons, hv', hv0, ne_eq, not_false_eq_true, if_true,
        toRune_scalar v hsv]
    rw [hstep]
    exact ⟨hin', ih (fun x hx => hd x (by simp [hx]))⟩

/-- the six names with the table each selects and its reference -/
def namedRefs : List (String × Array Nat × Array (List Nat)) :=
  [("WinAnsiEncoding", winAnsiTable, winAnsiRef), ("MacRomanEncoding", macRomanTable, macRomanRef),
   ("PDFDocEncoding", pdfDocTable, pdfDocRef), ("StandardEncoding", standardEncodingTableData, standardRef),
   ("SymbolEncoding", symbolEncodingTable, symbolRef), ("ZapfDingbatsEncoding", zapfDingbatsEncodingTable, zapfRef)]

/-- **named encodings end to end**: `Font{Encoding: name}.DecodeString(data)` (a font without
`/Differences`) for each of the six names, every string of reference-defined codes without a
byte-order mark -/
theorem font_named_encoding_ref (nfc : List Nat → List Nat) (name : String) (tbl : Array Nat) (ref : Array (List Nat))
    (hmem : (name, tbl, ref) ∈ namedRefs) (data : List Nat) (hnb : NoBOM data)
    (hd : ∀ b ∈ data, b < 256 ∧ allowedAt ref b ≠ []) :
    ∃ s, FontDecode.decodeString nfc ⟨none, nameBytes name, []⟩ data = some (nfc s) ∧
      Pointwise (fun b v => v ∈ allowedAt ref b) data s := by
  have hdisp := getencoding_dispatch
  have hsc := tables_scalar
  have hnz := refs_nonzero
  have key : ∀ (tbl : Array Nat) (ref : Array (List Nat)),
      ((getEncoding (nameBytes name)).map fun e => (e.name, e.table.toList)) = some (name, tbl.toList) →
      nameBytes name ≠ [] → TableOK tbl ref → allScalarOrZero tbl.toList = true → (∀ l ∈ ref.toList, 0 ∉ l) →
      (∀ b ∈ data, b < 256 ∧ allowedAt ref b ≠ []) →
      ∃ s, FontDecode.decodeString nfc ⟨none, nameBytes name, []⟩ data = some (nfc s) ∧
        Pointwise (fun b v => v ∈ allowedAt ref b) data s := by
    intro tbl ref hget hne hok hsc hnz hd
    obtain ⟨e, he, het⟩ := table_of_shown _ name tbl hget
    refine ⟨Encoding.decodeString tbl data, ?_, encoding_string_ref tbl ref hok hsc hnz data hd⟩
    have := (decode_priority nfc ⟨none, nameBytes name, []⟩ data).2.2.2.1 rfl hnb hne
    rw [this, he]
    simp [het, Differences.decodeWith_nil]
  unfold namedRefs at hmem
  simp only [List.mem_cons, Prod.mk.injEq, List.mem_nil_iff, or_false] at hmem
  rcases hmem with ⟨rfl, rfl, rfl⟩ | ⟨rfl, rfl, rfl⟩ | ⟨rfl, rfl, rfl⟩ | ⟨rfl, rfl, rfl⟩ | ⟨rfl, rfl, rfl⟩ | ⟨rfl, rfl, rfl⟩
  · exact key _ _ hdisp.1 (by decide +kernel) winansi_ref hsc.1 (hnz _ (by simp)) hd
  · exact key _ _ hdisp.2.1 (by decide +kernel) macroman_ref hsc.2.1 (hnz _ (by simp)) hd
  · exact key _ _ hdisp.2.2.1 (by decide +kernel) pdfdoc_ref hsc.2.2.1 (hnz _ (by simp)) hd
  · exact key _ _ hdisp.2.2.2.1 (by decide +kernel) standard_ref hsc.2.2.2.1 (hnz _ (by simp)) hd
  · exact key _ _ hdisp.2.2.2.2.1 (by decide +kernel) symbol_ref hsc.2.2.2.2.1 (hnz _ (by simp)) hd
  · exact key _ _ hdisp.2.2.2.2.2.1 (by decide +kernel) zapf_ref hsc.2.2.2.2.2 (hnz _ (by simp)) hd

/-- the hypotheses are satisfiable: `A`, the Euro sign's code and `é` in WinAnsiEncoding -/
example : NoBOM [0x41, 0x80, 0xE9] ∧ (∀ b ∈ [0x41, 0x80, 0xE9], b < 256 ∧ allowedAt winAnsiRef b ≠ []) ∧
    Encoding.decodeString winAnsiTable [0x41, 0x80, 0xE9] = [0x41, 0x20AC, 0xE9] := by
  refine ⟨⟨fun r h => by simp at h, fun r h => by simp at h⟩, by decide +kernel, by decide +kernel⟩

/-- **UTF-16 with a byte-order mark end to end**: a font without ToUnicode, whatever its
encoding name and `/Differences`, decodes `FE FF` + UTF-16BE (resp. `FF FE` + UTF-16LE) of any list of Unicode
scalar values — supplementary planes included — to that list, NFC last -/
theorem font_utf16_bom (nfc : List Nat → List Nat) (enc : List Nat) (ds : Diffs) (s : List Nat) (hs : ∀ c ∈ s, IsScalar c) :
    FontDecode.decodeString nfc ⟨none, enc, ds⟩ (0xFE :: 0xFF :: bytesBE (encodeUnits s)) = some (nfc s) ∧
    FontDecode.decodeString nfc ⟨none, enc, ds⟩ (0xFF :: 0xFE :: bytesLE (encodeUnits s)) = some (nfc s) := by
  have hp := decode_priority nfc ⟨none, enc, ds⟩
  refine ⟨?_, ?_⟩
  · rw [(hp _).2.1 rfl _ rfl, utf16be_roundtrip s hs]
  · rw [(hp _).2.2.1 rfl _ rfl, utf16le_roundtrip s hs]

/-! ## 5c. `/Differences` of the `/Encoding` dictionary (fix b3a0e07)

ISO 32000-1 9.6.6.1: the `/Differences` array `[code /name … /name code /name …]` of an
`/Encoding` dictionary redefines the base encoding from each code on, consecutive names taking
consecutive codes. The specification (`Lemmas/Differences.lean`) is written over *runs*
`(code, names)`: `specName rs b` is the name the last run naming `b` gives it, `specRune` its
Unicode by the package's glyph list (`Model/GlyphNames.lean`; a name the list does not know
leaves the code to the base encoding - the code does not invent text). Before b3a0e07 the
array was parsed and dropped: `DecodeString` used the base encoding alone (`preNFCOld`;
finding C01/font-text-differences). -/

open Tabula.Differences in
/-- what a font without ToUnicode specifies for code `b`: the glyph the `/Differences` name,
else the base table's entry -/
def specByte (rs : List Differences.Run) (t : Array Nat) (b : Nat) : Option Nat :=
  match Differences.specRune rs b with
  | some r => some r
  | none => t[b]?

/-- **differences_parse**: `parseEncodingDifferences` never fails on an array of integers
and names written run by run, and the map it builds holds for every byte exactly what the
array specifies: the glyph of the last run naming the byte, nothing for a byte no run names or
whose name the glyph list does not know. For every list of runs (codes beyond 255, empty
runs, runs overlapping earlier ones included). -/
theorem differences_parse (rs : List Differences.Run) :
    ∃ ds, Reader.parseDifferences (Differences.renderRuns rs) = some ds ∧
      ∀ b, b ≤ 255 → diffLookup ds b = Differences.specRune rs b :=
  Differences.parseDifferences_spec rs

/-- **differences_override_exact**: the custom encoding a font is decoded through gives, at a
code the `/Differences` name with a known glyph name, that glyph's character, and the base
table's entry at every other byte (codes no run names; codes whose glyph name the list does not
know). -/
theorem differences_override_exact (rs : List Differences.Run) (ds : Diffs)
    (hds : Reader.parseDifferences (Differences.renderRuns rs) = some ds) (t : Array Nat) (b : Nat) (hb : b ≤ 255) :
    (∀ n r, Differences.specName rs b = some n → GlyphNames.glyphRune n = some r → customDecodeByte ds t b = some r) ∧
    (Differences.specName rs b = none → customDecodeByte ds t b = t[b]?) ∧
    (∀ n, Differences.specName rs b = some n → GlyphNames.glyphRune n = none → customDecodeByte ds t b = t[b]?) := by
  obtain ⟨ds', hds', hl⟩ := Differences.parseDifferences_spec rs
  rw [hds] at hds'
  simp only [Option.some.injEq] at hds'
  subst hds'
  have h := hl b hb
  unfold customDecodeByte
  rw [h]
  unfold Differences.specRune
  refine ⟨?_, ?_, ?_⟩
  · intro n r hn hr; simp [hn, hr]
  · intro hn; simp [hn]
  · intro n hn hr; simp [hn, hr]

/-- **differences_override**: `Font.DecodeString` of a simple font without ToUnicode whose
`/Encoding` dictionary names a base encoding and carries `/Differences` (`ds` is the map
`parseEncodingDifferences` builds from the array, `differences_parse`): every string of bytes
that does not start with a byte-order mark decodes, code by code, to the character the
differences specify where they name the code, to the base encoding's character elsewhere
(unmapped codes skipped), NFC last. -/
theorem differences_override (nfc : List Nat → List Nat) (enc : List Nat) (henc : enc ≠ []) (e : Enc)
    (he : getEncoding enc = some e) (rs : List Differences.Run) (ds : Diffs)
    (hl : ∀ b, b ≤ 255 → diffLookup ds b = Differences.specRune rs b)
    (data : List Nat) (hb : AllBytes data) (hnb : NoBOM data) :
    FontDecode.decodeString nfc ⟨none, enc, ds⟩ data =
      some (nfc (data.filterMap fun b =>
        match specByte rs e.table b with
        | some r => if r ≠ 0 then some (toRune r) else none
        | none => none)) := by
  rw [(decode_priority nfc ⟨none, enc, ds⟩ data).2.2.2.1 rfl hnb henc]
  simp only [he, Option.map_some, Option.some.injEq]
  congr 1
  unfold decodeWith
  apply Differences.filterMap_congr_mem
  intro b hbm
  have hb' : b ≤ 255 := by have := hb b hbm; omega
  unfold customDecodeByte specByte
  rw [hl b hb']
  rfl

/-- **differences_tounicode_precedence**: a ToUnicode CMap still takes precedence - with one
present, `/Differences` (and the base encoding) are not consulted, whatever they say -/
theorem differences_tounicode_precedence (nfc : List Nat → List Nat) (cm : CMap) (enc : List Nat) (ds : Diffs)
    (data : List Nat) :
    FontDecode.decodeString nfc ⟨some cm, enc, ds⟩ data = some (nfc (lookupString cm data)) ∧
    FontDecode.decodeString nfc ⟨some cm, enc, ds⟩ data = FontDecode.decodeString nfc ⟨some cm, enc, []⟩ data :=
  ⟨rfl, rfl⟩

/-- **differences_absent_unchanged**: a font without `/Differences` decodes every string as
every font was decoded before b3a0e07 (`decodeStringOld` never looked at the differences) -/
theorem differences_absent_unchanged (nfc : List Nat → List Nat) (tu : Option CMap) (enc : List Nat) (ds : Diffs)
    (data : List Nat) :
    FontDecode.decodeString nfc ⟨tu, enc, []⟩ data = FontDecode.decodeStringOld nfc ⟨tu, enc, ds⟩ data := rfl

/-- the font of the finding's witness: `/Encoding << /BaseEncoding /WinAnsiEncoding
/Differences [65 /Euro /eacute] >>` -/
def exDiffRuns : List Differences.Run := [⟨65, [[69, 117, 114, 111], [101, 97, 99, 117, 116, 101]]⟩]

example : Reader.parseDifferences (Differences.renderRuns exDiffRuns) = some [(66, some 0xE9), (65, some 0x20AC)] := by
  decide +kernel

/-- the hypotheses of `differences_override` are satisfiable, and on the witness `(AB)` is the
text "€é"; a run with a name the glyph list does not know (`/g17`), a run reaching beyond 255
and a run renaming a code leave the rest to the base encoding -/
example : NoBOM [65, 66] ∧ AllBytes [65, 66] ∧
    (getEncoding Reader.kWinAnsiEncoding).map (fun e => decodeWith [(66, some 0xE9), (65, some 0x20AC)] e.table [65, 66, 67])
      = some [0x20AC, 0xE9, 67] ∧
    Reader.parseDifferences (Differences.renderRuns [⟨65, [[69, 117, 114, 111]]⟩, ⟨255, [[97], [98]]⟩, ⟨65, [[103, 49, 55]]⟩])
      = some [(65, none), (255, some 97), (65, some 0x20AC)] := by
  refine ⟨⟨fun r h => by simp at h, fun r h => by simp at h⟩, ?_, by decide +kernel, by decide +kernel⟩
  intro b hb
  simp only [List.mem_cons, List.mem_nil_iff, or_false] at hb
  omega

/-- **differences_pinned_counterexample**: the code before b3a0e07 (`decodeStringOld`: the
base encoding alone) reports the witness's `(AB)` as "AB"; the font defines "€é", which is
what `DecodeString` returns now (`nfc` = identity: both strings are in NFC) -/
theorem differences_pinned_counterexample :
    FontDecode.decodeStringOld id ⟨none, Reader.kWinAnsiEncoding, [(66, some 0xE9), (65, some 0x20AC)]⟩ [65, 66] = some [65, 66] ∧
    FontDecode.decodeString id ⟨none, Reader.kWinAnsiEncoding, [(66, some 0xE9), (65, some 0x20AC)]⟩ [65, 66] = some [0x20AC, 0xE9] := by
  decide +kernel

/-! ## 6. CMap round trip, first stage

The round trip through the whole program text, for every formatting policy, form and code
width, is `cmap_roundtrip` in `Props/C07CMap.lean` (the oracle `C07/cmap-lookup-*` compares the
same statement on every run). The theorem here is its first stage, for all maps and all
selections: the one-entry-per-line `bfchar` section, from the **section text** on — the
`<`…`>` scanner, both hex readers, UTF-16 decoding of targets (multi-character, combining and
supplementary-plane targets included), the direct map, the width rule and the shift-or code
assembly of `lookupStringWithWidth`. The keyword search that locates the sections
(`sectionsLoop`/`parseCodeSpaceRange`) is replaced by the state `{ byteWidth := w }` that the
code-space section of a width-`w` program produces. -/
theorem cmap_roundtrip_partial (w : Nat) (hw1 : 1 ≤ w) (hw4 : w ≤ 4)
    (es : List (Nat × List Nat)) (hes : ∀ e ∈ es, EntryOK w e)
    (hinj : ∀ p ∈ es, ∀ q ∈ es, p.1 = q.1 → p = q)
    (sel : List (Nat × List Nat)) (hsel : ∀ e ∈ sel, e ∈ es) :
    lookupString (parseBfCharSection (renderSection w es) { byteWidth := w })
        ((sel.map (·.1)).flatMap (codeBytes w))
      = sel.flatMap (·.2) := by
  -- the section is the writer's `bfchar` section of the items `es` under the default policy
  have hitems : ∀ it ∈ es.map (fun e => Item.char e.1 e.2), ItemOK w it ∧ it.fits .bfchar := by
    intro it hit
    obtain ⟨e, he, rfl⟩ := List.mem_map.mp hit
    exact ⟨hes e he, trivial⟩
  rw [renderSection_eq, ← List.nil_append (renderToks _),
    parseBfCharSection_items {} w hw1 hw4 _ hitems [] (by simp)]
  obtain ⟨hch, _, hinv⟩ := foldl_itemStep_state w (es.map fun e => Item.char e.1 e.2) { byteWidth := w }
    ⟨rfl, Or.inl rfl⟩
  have hchars : (es.map fun e => Item.char e.1 e.2).flatMap Item.chars = es := by
    rw [List.flatMap_map]; simp [Item.chars]
  rw [hchars, List.append_nil] at hch
  generalize (es.map fun e => Item.char e.1 e.2).foldl (fun cm it => itemStep w it cm) { byteWidth := w } = cm
    at hch hinv
  -- the direct map is `es`, newest first, read as a function
  have hget : ∀ e ∈ es, cm.getChar e.1 = some e.2 := fun e he =>
    (getChar_functional cm (by rw [hch]; exact fun a ha b hb => hinj a (List.mem_reverse.mp ha) b (List.mem_reverse.mp hb))
      e.1 e.2).mpr (by rw [hch]; exact List.mem_reverse.mpr he)
  exact lookupString_codes cm w hw1 hw4 hinv sel fun e he =>
    ⟨(hes e (hsel e he)).1, emit_of_lookup cm e.1 e.2
      (by unfold lookup; rw [hget e (hsel e he)]) (hes e (hsel e he)).2.2.1⟩

/-- the hypotheses are satisfiable by a non-trivial map: 2-byte codes; a ligature, a
combining sequence and a supplementary-plane target -/
example :
    let es : List (Nat × List Nat) := [(0x0001, [0x66, 0x66, 0x69]), (0xFEFF, [0x65, 0x301]), (0x4142, [0x1D400])]
    (∀ e ∈ es, EntryOK 2 e) ∧
    renderSection 2 [(0x4142, [0x1D400])] =
      [60, 52, 49, 52, 50, 62, 32, 60, 68, 56, 51, 53, 68, 67, 48, 48, 62, 10] ∧
    lookupString (parseBfCharSection (renderSection 2 es) { byteWidth := 2 }) [0x41, 0x42, 0xFE, 0xFF, 0x00, 0x01]
      = [0x1D400, 0x65, 0x301, 0x66, 0x66, 0x69] := by
  exact ⟨by unfold EntryOK; decide, by decide, by decide⟩

/-! ## 7. The repaired defects, end to end on program text

`<01> <02> <D835DC00>` (surrogate pair) and `<03> <04> <00660066>` (two characters) as bfrange
targets, and two array entries on one line: before the fixes these decoded to U+FFFD, resp. the
second array was lost; the model of the repaired code returns the specified text. -/

/-- the program
```
1 begincodespacerange
<00> <FF>
endcodespacerange
2 beginbfrange
<01> <02> <D835DC00>
<03> <04> <00660066>
endbfrange
1 beginbfrange <05> <06> [<0041> <0042>] <07> <08> [<0043> <D835DC00>] endbfrange
``` -/
def witnessProgram : List Nat := [49, 32, 98, 101, 103, 105, 110, 99, 111, 100, 101, 115, 112, 97, 99, 101, 114, 97, 110, 103, 101, 10, 60, 48, 48, 62, 32, 60, 70, 70, 62, 10, 101, 110, 100, 99, 111, 100, 101, 115, 112, 97, 99, 101, 114, 97, 110, 103, 101, 10, 50, 32, 98, 101, 103, 105, 110, 98, 102, 114, 97, 110, 103, 101, 10, 60, 48, 49, 62, 32, 60, 48, 50, 62, 32, 60, 68, 56, 51, 53, 68, 67, 48, 48, 62, 10, 60, 48, 51, 62, 32, 60, 48, 52, 62, 32, 60, 48, 48, 54, 54, 48, 48, 54, 54, 62, 10, 101, 110, 100, 98, 102, 114, 97, 110, 103, 101, 10, 49, 32, 98, 101, 103, 105, 110, 98, 102, 114, 97, 110, 103, 101, 32, 60, 48, 53, 62, 32, 60, 48, 54, 62, 32, 91, 60, 48, 48, 52, 49, 62, 32, 60, 48, 48, 52, 50, 62, 93, 32, 60, 48, 55, 62, 32, 60, 48, 56, 62, 32, 91, 60, 48, 48, 52, 51, 62, 32, 60, 68, 56, 51, 53, 68, 67, 48, 48, 62, 93, 32, 101, 110, 100, 98, 102, 114, 97, 110, 103, 101]

theorem bfrange_multiunit_witness :
    lookupString (parseCMapData witnessProgram) [1, 2, 3, 4, 5, 6, 7, 8] =
      [0x1D400, 0x1D401, 0x66, 0x66, 0x66, 0x67, 0x41, 0x42, 0x43, 0x1D400] := by
  decide +kernel

end Tabula.C07
