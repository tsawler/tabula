import TabulaModel.Lemmas.Filters
import TabulaModel.Lemmas.FiltersA85Writing
import TabulaModel.Lemmas.FiltersSound
import TabulaModel.Lemmas.StreamDict
/-!
# C05 — Stream decoding exactly inverts every supported encoding

Theorems about the model `Model/Filters.lean` (mirror of `core/stream.go`,
`internal/filters/{ascii,flate}.go`). The "conforming encoder" is the specification side of
that file (`HexEnc`, `hexEncode`, `A85Writing`, `a85Encode`, `pngPredict`, `tiffPredict`),
written from the PDF / PNG / TIFF texts. zlib is a parameter: `inflate (deflate x) = some x`
is a hypothesis wherever Flate occurs. Bytes are natural numbers < 256 (hypotheses `∀ b ∈ x, b < 256`).
-/
namespace Tabula.C05
open Tabula.Filters

/-- Every writing of `x` that §7.4.2 allows — two digits per byte in either case, white space
anywhere — decodes to `x`, whether it is terminated by `>` (followed by anything) or simply ends. -/
theorem hex_roundtrip (s x t : Str) (h : HexEnc s x) :
    hexDecode (s ++ 62 :: t) = some x ∧ hexDecode s = some x :=
  ⟨hexDecode_enc s x _ h (hexGo_eod t), s.append_nil ▸ hexDecode_enc s x [] h fun _ _ => rfl⟩

/-- the canonical encoder (lower or upper case, `>` at the end) is inverted -/
theorem hex_encode_roundtrip (upper : Bool) (x : Str) (hx : ∀ b ∈ x, b < 256) :
    hexDecode (hexEncode upper x) = some x :=
  hexDecode_enc _ x _ (hexBody_HexEnc upper x hx) (hexGo_eod [])

/-- non-vacuity of `HexEnc`: "4 1\n7a" with mixed case and white space writes [0x41, 0x7A] -/
example : HexEnc [32, 52, 32, 49, 10, 55, 65] [65, 122] :=
  .ws 32 _ _ (by decide) (.byte 52 49 65 [32] _ _ (by decide) (by decide) (by decide)
    (.ws 10 _ _ (by decide) (.byte 55 65 122 [] _ _ (by decide) (by decide) (by decide) .nil)))

/-- an odd final digit counts as if followed by `0` (EOD `>` or end of data after the digit,
white space allowed in between) -/
theorem hex_odd_digit (s x w t : Str) (c v : Nat) (h : HexEnc s x) (hc : hexVal c = some v)
    (hw : ∀ c ∈ w, isWs c = true) :
    hexDecode (s ++ c :: (w ++ 62 :: t)) = some (x ++ [v * 16]) ∧
    hexDecode (s ++ c :: w) = some (x ++ [v * 16]) :=
  ⟨hexDecode_odd s x w _ c v h hc hw (hexGo_eod t),
    w.append_nil ▸ hexDecode_odd s x w [] c v h hc hw fun _ _ => rfl⟩

/-- Every white-space interleaving of the encoder's body (groups of five digits, `z` for zero
groups, a final partial group of n+1 digits for n = 1..3 bytes) decodes to `x`, with the EOD
`~>` (followed by anything) or at the end of the data. All lengths. -/
theorem a85_roundtrip (s x t : Str) (hx : ∀ b ∈ x, b < 256) (h : A85Writing s x) :
    a85Decode (s ++ 126 :: 62 :: t) = some x ∧ a85Decode s = some x := by
  refine ⟨a85Decode_writing s x _ hx h (a85Go_eod t), ?_⟩
  have := a85Decode_writing s x [] hx h a85Go_end
  simpa using this

theorem a85_encode_roundtrip (x : Str) (hx : ∀ b ∈ x, b < 256) : a85Decode (a85Encode x) = some x :=
  (a85_roundtrip (a85Body x) x [] hx (a85Body_writing x hx)).1

/-- non-vacuity: a zero group, a full group and a two-byte tail, with white space -/
example : A85Writing [122, 10, 33, 33, 32, 33, 33, 34, 0, 53, 115, 98] [0, 0, 0, 0, 0, 0, 0, 1, 65, 66] := by
  unfold A85Writing; decide

/-- The predictor the decoder computes (mirrored from `decodePNGRow`: `result[i-bpp]`,
`prevRows[(row-1)*rowLength+i]`, `prevRows[(row-1)*rowLength+i-bpp]`, `paethPredictor`) is the
one of PNG §9.2–9.4: filter type 0..4 applied to a = Raw(x-bpp), b = Prior(x), c = Prior(x-bpp),
zero left of the scanline and above the first scanline. `done` is the scanline up to position x. -/
theorem predict_is_png (tag bpp : Nat) (prev : Option Str) (prior done : Str) (n : Nat)
    (htag : tag ≤ 4) (hb : 1 ≤ bpp) (h : PriorRel prev prior n) (hd : done.length < n) :
    pngPredicted tag bpp prev done = some (specPredAt tag bpp prior done) :=
  pngPredicted_eq_spec tag bpp prev prior done n htag hb h hd

/-- The conforming encoder's scanline filter is PNG §9.2 position by position:
Filt(x) = (Raw(x) − pred_tag(Raw(x−bpp), Prior(x), Prior(x−bpp))) mod 256 for every x, with bytes
left of the scanline equal to zero (`prior` is all zero for the first scanline, see `pngPredict`).
Together with `predict_is_png` this pins the predictor that `png_roundtrip` is about. -/
theorem png_encoder_is_spec (tag bpp : Nat) (hb : 1 ≤ bpp) (prior raw : Str) :
    encRow (specPredAt tag bpp prior) raw [] = (List.range raw.length).map (fun x =>
      (raw.getD x 0 + 256 - specPred tag (byteAt raw ((x : Int) - bpp)) (byteAt prior x)
        (byteAt prior ((x : Int) - bpp)) % 256) % 256) := by
  rw [encRow_eq_map]
  apply List.map_congr_left
  intro x hx
  have hx' : x < raw.length := by simpa using hx
  simp only [List.nil_append, List.length_nil, Nat.zero_add, specPredAt, List.length_take]
  have : min x raw.length = x := by omega
  rw [this, byteAt_take raw x _ (by omega)]

/-- the TIFF encoder is horizontal differencing at distance `colors`, position by position -/
theorem tiff_encoder_is_spec (colors : Nat) (hc : 1 ≤ colors) (raw : Str) :
    encRow (specTiffAt colors) raw [] = (List.range raw.length).map (fun x =>
      (raw.getD x 0 + 256 - byteAt raw ((x : Int) - colors) % 256) % 256) :=
  -- horizontal differencing is the PNG filter type Sub (1) at distance `colors`: `specPred 1 a b c = a`
  png_encoder_is_spec 1 colors hc [] raw

example : PriorRel (some [1, 2, 3]) [1, 2, 3] 3 := Or.inr ⟨rfl, rfl⟩

/-- Flate's post-processing undoes the conforming PNG encoder: every Predictor value 10..15,
every Colors ≥ 1 and Columns ≥ 1 (up to the cap Columns·Colors ≤ 2^31-2 that
`predictorRowBytes` enforces), any number of rows, every choice of per-row filter types. -/
theorem png_roundtrip (pred : Int) (colors columns : Nat) (tags : List Nat) (x : Str) (p : Params)
    (hpred : p.predictor = some pred) (hp : 10 ≤ pred ∧ pred ≤ 15)
    (hcolors : p.colors = some (colors : Int)) (hcolumns : p.columns = some (columns : Int))
    (hbpc : p.bpc = none ∨ p.bpc = some 8)
    (h1 : 1 ≤ columns) (h2 : 1 ≤ colors) (hcap : columns * colors ≤ 2147483646)
    (hx : x.length = tags.length * (columns * colors)) (ht : ∀ t ∈ tags, t ≤ 4) (hb : ∀ r ∈ x, r < 256) :
    flatePost (some p) (pngPredict colors columns tags x) = some x := by
  rw [flatePost_predictor _ p hpred (by omega), applyPredictor_png _ p hp]
  exact applyPNGPredictor_pngPredict colors columns tags x p (hcolors ▸ rfl) (hcolumns ▸ rfl)
    (by rcases hbpc with h | h <;> rw [h] <;> rfl) h1 h2 hcap hx ht hb

/-- non-vacuity: 2 colours, 2 columns, two rows filtered with Paeth and Average -/
example : flatePost (some { predictor := some 15, colors := some 2, columns := some 2 })
    (pngPredict 2 2 [4, 3] [1, 2, 3, 4, 250, 6, 7, 200]) = some [1, 2, 3, 4, 250, 6, 7, 200] := by decide

/-- the same for TIFF predictor 2, for data that is a whole number of rows -/
theorem tiff_roundtrip (colors columns : Nat) (x : Str) (p : Params)
    (hpred : p.predictor = some 2)
    (hcolors : p.colors = some (colors : Int)) (hcolumns : p.columns = some (columns : Int))
    (hbpc : p.bpc = none ∨ p.bpc = some 8)
    (h1 : 1 ≤ columns) (h2 : 1 ≤ colors) (hcap : columns * colors ≤ 2147483646)
    (hx : x.length % (columns * colors) = 0) (hb : ∀ r ∈ x, r < 256) :
    flatePost (some p) (tiffPredict colors columns x) = some x := by
  rw [flatePost_predictor _ p hpred (by decide), applyPredictor_tiff]
  exact applyTIFFPredictor2_tiffPredict colors columns x p (hcolors ▸ rfl) (hcolumns ▸ rfl)
    (by rcases hbpc with h | h <;> rw [h] <;> rfl) h1 h2 hcap hx hb

example : flatePost (some { predictor := some 2, colors := some 3, columns := some 2 })
    (tiffPredict 3 2 [10, 20, 30, 5, 25, 255, 1, 2, 3, 4, 5, 6]) = some [10, 20, 30, 5, 25, 255, 1, 2, 3, 4, 5, 6] := by
  decide

/-- The i-th filter of a Filter array gets the i-th entry of a DecodeParms array if that is a
dictionary, nothing if it is null / another object / beyond the end of the array; a DecodeParms
that is absent or null gives nothing, a single dictionary is given to every filter; the filters
are applied in array order with consecutive indices; abbreviated names select the same decoders. -/
theorem params_selection (ext : Ext) :
    (∀ (ps : List PObj) (i : Nat), chainParams (.array ps) i = (ps[i]?).bind paramsObjToDict) ∧
    (∀ i, chainParams (.one .absent) i = none ∧ chainParams (.one .null) i = none ∧ chainParams (.one .other) i = none) ∧
    (∀ p i, chainParams (.one (.dict p)) i = some p) ∧
    (∀ (dp : DParms) (fs gs : List FObj) (i : Nat) (d : Str),
      decodeChain ext dp (fs ++ gs) i d = (decodeChain ext dp fs i d).bind (decodeChain ext dp gs (i + fs.length))) ∧
    (∀ (dp : DParms) (n : Str) (i : Nat) (d : Str),
      decodeChain ext dp [.name n] i d = decodeWithFilter ext d n (chainParams dp i)) ∧
    (∀ d p, decodeWithFilter ext d nFl p = decodeWithFilter ext d nFlateDecode p ∧
      decodeWithFilter ext d nAHx p = decodeWithFilter ext d nASCIIHexDecode p ∧
      decodeWithFilter ext d nA85 p = decodeWithFilter ext d nASCII85Decode p) := by
  refine ⟨?_, ?_, ?_, ?_, ?_, ?_⟩
  · intro ps i
    simp only [chainParams]
    cases ps[i]? <;> rfl
  · intro i; exact ⟨rfl, rfl, rfl⟩
  · intro p i; rfl
  · exact decodeChain_append ext
  · intro dp n i d
    simp only [decodeChain]
    cases decodeWithFilter ext d n (chainParams dp i) <;> rfl
  · intro d p
    refine ⟨?_, ?_, ?_⟩ <;> rfl

/-- one stage of a conforming pipeline (what a writer may put into `Filter`/`DecodeParms`) -/
inductive Stage where
  | hex (short upper : Bool)
  | a85 (short : Bool)
  | flate (short : Bool) (explicitPredictor1 : Bool)
  | tiff (short : Bool) (colors columns : Nat)
  | png (short : Bool) (pred : Nat) (colors columns : Nat) (tags : List Nat)

def Stage.name : Stage → Str
  | .hex a _ => if a then nAHx else nASCIIHexDecode
  | .a85 a => if a then nA85 else nASCII85Decode
  | .flate a _ | .tiff a _ _ | .png a _ _ _ _ => if a then nFl else nFlateDecode

/-- the stage's entry in the `DecodeParms` array -/
def Stage.parms : Stage → PObj
  | .hex _ _ | .a85 _ => .null
  | .flate _ e => if e then .dict { predictor := some 1 } else .null
  | .tiff _ colors columns => .dict { predictor := some 2, colors := some colors, columns := some columns }
  | .png _ pred colors columns _ => .dict { predictor := some pred, colors := some colors, columns := some columns }

/-- the conforming encoder of the stage; `deflate` is any zlib compressor -/
def Stage.encode (deflate : Str → Str) : Stage → Str → Str
  | .hex _ u, x => hexEncode u x
  | .a85 _, x => a85Encode x
  | .flate _ _, x => deflate x
  | .tiff _ colors columns, x => deflate (tiffPredict colors columns x)
  | .png _ _ colors columns tags, x => deflate (pngPredict colors columns tags x)

/-- what the stage requires of its input (whole rows, a valid geometry, one filter type per row) -/
def Stage.ok : Stage → Str → Prop
  | .hex _ _, _ | .a85 _, _ | .flate _ _, _ => True
  | .tiff _ colors columns, x =>
    1 ≤ columns ∧ 1 ≤ colors ∧ columns * colors ≤ 2147483646 ∧ x.length % (columns * colors) = 0
  | .png _ pred colors columns tags, x =>
    10 ≤ pred ∧ pred ≤ 15 ∧ 1 ≤ columns ∧ 1 ≤ colors ∧ columns * colors ≤ 2147483646 ∧
      x.length = tags.length * (columns * colors) ∧ ∀ t ∈ tags, t ≤ 4

/-- encode for the filter array `stages`: the last filter is applied to the data first -/
def encodeChain (deflate : Str → Str) : List Stage → Str → Str
  | [], x => x
  | s :: ss, x => s.encode deflate (encodeChain deflate ss x)

def ChainOK (deflate : Str → Str) : List Stage → Str → Prop
  | [], _ => True
  | s :: ss, x => s.ok (encodeChain deflate ss x) ∧ ChainOK deflate ss x

theorem hexDigit_lt (u : Bool) (n : Nat) (h : n < 16) : hexDigit u n < 256 := by
  unfold hexDigit
  split
  · omega
  · split <;> omega

theorem hexEncode_bytes (u : Bool) (x : Str) (hx : ∀ b ∈ x, b < 256) : ∀ c ∈ hexEncode u x, c < 256 := by
  unfold hexEncode
  induction x with
  | nil => simp [hexBody]
  | cons b bs ih =>
    intro c hc
    have hb := hx b (by simp)
    simp only [hexBody, List.cons_append, List.mem_cons] at hc
    rcases hc with h | h | h
    · subst h; exact hexDigit_lt u _ (by omega)
    · subst h; exact hexDigit_lt u _ (by omega)
    · exact ih (fun b' h' => hx b' (by simp [h'])) c h

theorem a85Encode_bytes (x : Str) (hx : ∀ b ∈ x, b < 256) : ∀ c ∈ a85Encode x, c < 256 := by
  intro c hc
  unfold a85Encode at hc
  rcases List.mem_append.mp hc with h | h
  · exact (a85Body_no_tilde x hx c h).2.2
  · simp at h; omega

theorem encode_bytes (deflate : Str → Str) (hdb : ∀ z, ∀ c ∈ deflate z, c < 256) (s : Stage) (x : Str)
    (hx : ∀ b ∈ x, b < 256) : ∀ c ∈ s.encode deflate x, c < 256 := by
  cases s with
  | hex a u => exact hexEncode_bytes u x hx
  | a85 a => exact a85Encode_bytes x hx
  | flate a e | tiff a c1 c2 | png a p c1 c2 t => exact hdb _

theorem encodeChain_bytes (deflate : Str → Str) (hdb : ∀ z, ∀ c ∈ deflate z, c < 256) (ss : List Stage) (x : Str)
    (hx : ∀ b ∈ x, b < 256) : ∀ c ∈ encodeChain deflate ss x, c < 256 := by
  induction ss with
  | nil => exact hx
  | cons s ss ih => exact encode_bytes deflate hdb s _ ih

theorem dwf_flate (ext : Ext) (d : Str) (a : Bool) (p : Option Params) :
    decodeWithFilter ext d (if a then nFl else nFlateDecode) p = flateDecode ext.inflate d p := by
  cases a <;> rfl

theorem dwf_hex (ext : Ext) (d : Str) (a : Bool) (p : Option Params) :
    decodeWithFilter ext d (if a then nAHx else nASCIIHexDecode) p = hexDecode d := by
  cases a <;> rfl

theorem dwf_a85 (ext : Ext) (d : Str) (a : Bool) (p : Option Params) :
    decodeWithFilter ext d (if a then nA85 else nASCII85Decode) p = a85Decode d := by
  cases a <;> rfl

/-- one stage: decoding with the stage's name and parameters inverts the stage's encoder -/
theorem stage_roundtrip (ext : Ext) (deflate : Str → Str) (hz : ∀ z, ext.inflate (deflate z) = some z)
    (s : Stage) (x : Str) (hx : ∀ b ∈ x, b < 256) (hok : s.ok x) :
    decodeWithFilter ext (s.encode deflate x) s.name (paramsObjToDict s.parms) = some x := by
  cases s with
  | hex a u =>
    simp only [Stage.name, Stage.encode, dwf_hex]
    exact hexDecode_enc _ x _ (hexBody_HexEnc u x hx) (hexGo_eod [])
  | a85 a =>
    simp only [Stage.name, Stage.encode, dwf_a85]
    exact a85Decode_writing (a85Body x) x _ hx (a85Body_writing x hx) (a85Go_eod [])
  | flate a e =>
    simp only [Stage.name, Stage.encode, dwf_flate, flateDecode, hz]
    cases e <;> simp [Stage.parms, paramsObjToDict, flatePost]
  | tiff a colors columns =>
    obtain ⟨h1, h2, hcap, hlen⟩ := hok
    simp only [Stage.name, Stage.encode, dwf_flate, flateDecode, hz, Stage.parms, paramsObjToDict]
    rw [flatePost_predictor _ _ rfl (by decide), applyPredictor_tiff]
    exact applyTIFFPredictor2_tiffPredict colors columns x _ rfl rfl rfl h1 h2 hcap hlen hx
  | png a pred colors columns tags =>
    obtain ⟨hp1, hp2, h1, h2, hcap, hlen, ht⟩ := hok
    simp only [Stage.name, Stage.encode, dwf_flate, flateDecode, hz, Stage.parms, paramsObjToDict]
    rw [flatePost_predictor _ _ rfl (by omega), applyPredictor_png _ _ (by omega)]
    exact applyPNGPredictor_pngPredict colors columns tags x _ rfl rfl rfl h1 h2 hcap hlen ht hx

/-- for every list of stages (any length) written as a `Filter` array with
full or abbreviated names and a `DecodeParms` array holding each stage's own parameters (null
for stages without), decoding what the conforming encoders produced returns the original bytes —
provided zlib's inflate inverts the compressor used and the compressor writes bytes. -/
theorem chain_roundtrip (ext : Ext) (deflate : Str → Str) (hz : ∀ z, ext.inflate (deflate z) = some z)
    (hdb : ∀ z, ∀ c ∈ deflate z, c < 256) (ss : List Stage) (x : Str) (hx : ∀ b ∈ x, b < 256)
    (hok : ChainOK deflate ss x) :
    streamDecode ext (.array (ss.map fun s => FObj.name s.name)) (.array (ss.map Stage.parms))
      (encodeChain deflate ss x) = some x := by
  -- `y` encodes `x` through `ss` when it is `encodeChain` of stages that accept what they are given
  refine decodeChain_inverts Stage.name ext x (fun ss x y => ChainOK deflate ss x ∧ y = encodeChain deflate ss x)
    (fun _ h => h.2) _ (fun s p => p = paramsObjToDict s.parms) ?_ ss 0 _ ?_ ⟨hok, rfl⟩
  · rintro s ss y ⟨⟨hs, hrest⟩, rfl⟩
    exact ⟨_, ⟨hrest, rfl⟩, fun p hp => hp ▸ stage_roundtrip ext deflate hz s _ (encodeChain_bytes deflate hdb ss x hx) hs⟩
  · intro j s hj
    rw [Nat.zero_add, chainParams, List.getElem?_map, hj]
    rfl

/-- a single stage written as a name with its own parameter object, or with no `DecodeParms` when that object is null -/
theorem single_roundtrip (ext : Ext) (deflate : Str → Str) (hz : ∀ z, ext.inflate (deflate z) = some z)
    (s : Stage) (x : Str) (hx : ∀ b ∈ x, b < 256) (hok : s.ok x) :
    streamDecode ext (.one (.name s.name)) (.one s.parms) (s.encode deflate x) = some x ∧
    (s.parms = .null → streamDecode ext (.one (.name s.name)) (.one .absent) (s.encode deflate x) = some x) := by
  refine ⟨?_, ?_⟩
  · simp only [streamDecode]
    exact stage_roundtrip ext deflate hz s x hx hok
  · intro hn
    have := stage_roundtrip ext deflate hz s x hx hok
    rw [hn] at this
    simpa [streamDecode, paramsObjToDict] using this

/-- non-vacuity: [/AHx /Fl /A85] with a PNG predictor on the Flate stage; `deflate` = identity
(a "stored" compressor) and `inflate` its inverse -/
example : ChainOK id [.hex true false, .png true 12 1 3 [2, 4], .a85 false] [1, 2, 3] := by
  refine ⟨trivial, ⟨by omega, by omega, by omega, by omega, by omega, ?_, ?_⟩, trivial, trivial⟩
  · decide
  · decide

/-- ASCIIHex: a byte that is neither a hexadecimal digit, white space nor `>` anywhere before
the EOD -/
theorem undecodable_hex (pre post : Str) (c : Nat) (hpre : ∀ b ∈ pre, b ≠ 62)
    (h1 : isWs c = false) (h2 : c ≠ 62) (h3 : hexVal c = none) : hexDecode (pre ++ c :: post) = none := by
  refine (hexDecode_eq_none_iff _).mpr ⟨c, ?_, h3⟩
  -- `c` stands before the first `>` and is no white space: it counts
  rw [hexBodyOf, List.takeWhile_append_of_pos (fun b hb => by simpa using hpre b hb),
    List.takeWhile_cons_of_pos (by simpa using h2)]
  exact List.mem_filter.mpr ⟨List.mem_append_right _ (List.mem_cons_self ..), by rw [h1]; rfl⟩

/-- ASCII85: a byte outside `!`..`u` that is not `z`, white space or the start of `~>`, anywhere
before the EOD -/
theorem undecodable_a85_char (pre post : Str) (c : Nat) (hpre : ∀ b ∈ pre, b ≠ 126)
    (h1 : isWs c = false) (h2 : c ≠ 122) (h3 : c < 33 ∨ c > 117) (h4 : ¬ (c = 126 ∧ post.head? = some 62)) :
    a85Decode (pre ++ c :: post) = none :=
  a85Go_bad post c h1 h2 h3 h4 pre hpre [] []

/-- ASCII85: `z` after 1..4 digits of a group (white space in between or not), from a group boundary
(`ds = []`) with any output `acc` so far -/
theorem undecodable_a85_z_in_group (g w post acc : Str) (hg : ∀ c ∈ g, 33 ≤ c ∧ c ≤ 117)
    (hl : 1 ≤ g.length ∧ g.length ≤ 4) (hw : ∀ c ∈ w, isWs c = true) :
    a85Go (g ++ (w ++ 122 :: post)) [] acc = none := by
  rw [a85Go_partial g _ acc hg [] (by simp; omega), a85Go_ws w _ _ _ hw]
  apply a85Go_z_in_group
  cases g with
  | nil => simp at hl
  | cons a b => simp

/-- ASCII85: five digits whose value exceeds 2^32-1 -/
theorem undecodable_a85_overflow (d0 d1 d2 d3 d4 : Nat) (h0 : d0 < 85) (h1 : d1 < 85) (h2 : d2 < 85)
    (h3 : d3 < 85) (h4 : d4 < 85) (t acc : Str)
    (hv : (((d0 * 85 + d1) * 85 + d2) * 85 + d3) * 85 + d4 > 4294967295) :
    a85Go ((d0 + 33) :: (d1 + 33) :: (d2 + 33) :: (d3 + 33) :: (d4 + 33) :: t) [] acc = none := by
  rw [a85Go_four d0 d1 d2 d3 h0 h1 h2 h3, a85Go_step5 d4 h4 _ _ acc (by simp)]
  have : a85Flush ([d0, d1, d2, d3] ++ [d4]) = none := by
    show a85Flush [d0, d1, d2, d3, d4] = none
    rw [a85Flush_5, if_pos hv]
  rw [this]

/-- the witnesses of the repaired overflow defect (a group value above 2^32-1 wrapped around silently in 32 bits; the
decoder now accumulates in `uint64` and reports it): `uuuuu~>`, `s8W-"~>` (= 2^32) and the
partial group `uu~>` are errors, `s8W-!~>` (= 2^32-1) is FF FF FF FF -/
theorem a85_overflow_witnesses :
    a85Decode [117, 117, 117, 117, 117, 126, 62] = none ∧
    a85Decode [115, 56, 87, 45, 34, 126, 62] = none ∧
    a85Decode [117, 117, 126, 62] = none ∧
    a85Decode [115, 56, 87, 45, 33, 126, 62] = some [255, 255, 255, 255] := by
  decide

/-- Predictor values other than 1, 2, 10..15 -/
theorem undecodable_predictor (data : Str) (pr : Int) (p : Params) (h1 : pr ≠ 1) (h2 : pr ≠ 2)
    (h3 : pr < 10 ∨ pr > 15) : applyPredictor data pr p = none :=
  applyPredictor_other data p h1 h2 h3

/-- BitsPerComponent other than 8, Columns or Colors below 1, data that is not a whole number
of rows: refused by both predictors -/
theorem undecodable_geometry (data : Str) (pr : Int) (p : Params) (hpr : pr = 2 ∨ (10 ≤ pr ∧ pr ≤ 15)) :
    (p.bpc.getD 8 ≠ 8 → applyPredictor data pr p = none) ∧
    (p.columns.getD 1 < 1 ∨ p.colors.getD 1 < 1 → applyPredictor data pr p = none) ∧
    (∀ rowBytes, predictorRowBytes (p.columns.getD 1) (p.colors.getD 1) = some rowBytes →
      (pr = 2 → data.length % rowBytes ≠ 0 → applyPredictor data pr p = none) ∧
      (pr ≠ 2 → data.length % (rowBytes + 1) ≠ 0 → applyPredictor data pr p = none)) := by
  -- `applyPredictor` hands over to the predictor `pr` selects, whose refusal is the result
  have hT : pr = 2 → applyPredictor data pr p = applyTIFFPredictor2 data p := by rintro rfl; rfl
  have hP : pr ≠ 2 → applyPredictor data pr p = applyPNGPredictor data p := fun h2 =>
    applyPredictor_png data p (hpr.resolve_left h2)
  have both : p.bpc.getD 8 ≠ 8 ∨ p.columns.getD 1 < 1 ∨ p.colors.getD 1 < 1 → applyPredictor data pr p = none := by
    intro h
    obtain ⟨h1, h2⟩ := predictors_refuse data p h
    by_cases e : pr = 2
    · rw [hT e, h1]
    · rw [hP e, h2]
  exact ⟨fun hb => both (.inl hb), fun hg => both (.inr hg), fun rowBytes hrb =>
    ⟨fun h hm => (hT h).trans (applyTIFFPredictor2_eq_none_iff.mpr (.inr (.inr ⟨rowBytes, hrb, .inl hm⟩))),
     fun h hm => (hP h).trans (applyPNGPredictor_eq_none_iff.mpr (.inr (.inr ⟨rowBytes, hrb, .inl hm⟩)))⟩⟩

/-- a PNG filter-type byte above 4 at the start of any row (row `k` of `n`, rows of
`rowLen ≥ 1` data bytes) -/
theorem undecodable_png_tag (rowLen bpp : Nat) (hrow : 1 ≤ rowLen) (tag : Nat) (htag : tag > 4)
    (pre rest : Str) (hrest : rest ≠ []) (k n : Nat) (hk : k < n) (hpre : pre.length = k * (rowLen + 1))
    (prev : Option Str) (acc : List Str) :
    pngRows n rowLen bpp (pre ++ tag :: rest) prev acc = none := by
  induction k generalizing n pre prev acc with
  | zero =>
    have : pre = [] := by simpa using hpre
    subst this
    obtain ⟨m, rfl⟩ : ∃ m, n = m + 1 := ⟨n - 1, by omega⟩
    simp only [List.nil_append, pngRows]
    have hne : rest.take rowLen ≠ [] := by
      cases rest with
      | nil => exact absurd rfl hrest
      | cons r rs =>
        obtain ⟨q, rfl⟩ : ∃ q, rowLen = q + 1 := ⟨rowLen - 1, by omega⟩
        simp
    rw [decodePNGRow_bad_tag _ tag bpp prev htag hne]
  | succ k ih =>
    obtain ⟨m, rfl⟩ : ∃ m, n = m + 1 := ⟨n - 1, by omega⟩
    cases pre with
    | nil => simp [Nat.add_mul] at hpre
    | cons t0 body =>
      simp only [List.cons_append, pngRows]
      split
      · rfl
      · rename_i row _
        obtain ⟨htl, hdl⟩ := first_tagged_row hpre
        rw [List.length_take] at htl
        rw [List.drop_append_of_le_length (by omega)]
        exact ih (body.drop rowLen) m (by omega) hdl (some row) (row :: acc)

/-- filters tabula does not implement, unknown names, a non-name in the Filter array, a Filter
entry of another type, and a zlib stream that inflate rejects -/
theorem undecodable_filter (ext : Ext) (d : Str) (p : Option Params) (dp : DParms) :
    decodeWithFilter ext d nLZWDecode p = none ∧ decodeWithFilter ext d nLZW p = none ∧
    decodeWithFilter ext d nRunLengthDecode p = none ∧ decodeWithFilter ext d nRL p = none ∧
    decodeWithFilter ext d nJBIG2Decode p = none ∧ decodeWithFilter ext d nCrypt p = none ∧
    (∀ name, name ∉ [nFlateDecode, nFl, nASCIIHexDecode, nAHx, nASCII85Decode, nA85, nCCITTFaxDecode, nCCF,
        nDCTDecode, nDCT, nJPXDecode] → decodeWithFilter ext d name p = none) ∧
    (∀ fs i, decodeChain ext dp (.other :: fs) i d = none) ∧
    streamDecode ext (.one .other) dp d = none ∧
    (ext.inflate d = none → flateDecode ext.inflate d p = none) := by
  refine ⟨rfl, rfl, rfl, rfl, rfl, rfl, ?_, fun _ _ => rfl, rfl, ?_⟩
  · intro name hn
    exact decodeWithFilter_refused hn ext d p
  · intro h
    simp [flateDecode, h]

/-- at the level of `Decode()`: the error of a stage is the result of the whole stream (never bytes). In a filter
array: a first stage that fails, and a first stage that succeeds followed by a rest that fails, make the loop fail
(the two steps of the induction over the position). For a single filter: the bad bytes of the ASCII decoders under
their full names, and every predictor failure behind `/FlateDecode` with a `DecodeParms` dictionary. -/
theorem undecodable_is_error (ext : Ext) (dp : DParms) :
    (∀ n d i fs, decodeWithFilter ext d n (chainParams dp i) = none →
      decodeChain ext dp (.name n :: fs) i d = none) ∧
    (∀ n d d' fs i, decodeWithFilter ext d n (chainParams dp i) = some d' → decodeChain ext dp fs (i + 1) d' = none →
      decodeChain ext dp (.name n :: fs) i d = none) ∧
    (∀ pre post c, (∀ b ∈ pre, b ≠ 62) → isWs c = false → c ≠ 62 → hexVal c = none →
      streamDecode ext (.one (.name nASCIIHexDecode)) dp (pre ++ c :: post) = none) ∧
    (∀ pre post c, (∀ b ∈ pre, b ≠ 126) → isWs c = false → c ≠ 122 → (c < 33 ∨ c > 117) →
      ¬ (c = 126 ∧ post.head? = some 62) →
      streamDecode ext (.one (.name nASCII85Decode)) dp (pre ++ c :: post) = none) ∧
    (∀ d dec p pr, ext.inflate d = some dec → p.predictor = some pr → pr ≠ 1 → applyPredictor dec pr p = none →
      streamDecode ext (.one (.name nFlateDecode)) (.one (.dict p)) d = none) := by
  refine ⟨?_, ?_, ?_, ?_, ?_⟩
  · intro n d i fs h
    simp [decodeChain, h]
  · intro n d d' fs i h1 h2
    simp [decodeChain, h1, h2]
  · intro pre post c h0 h1 h2 h3
    exact (decodeWithFilter_hex (.inl rfl) ext _ _).trans (undecodable_hex pre post c h0 h1 h2 h3)
  · intro pre post c h0 h1 h2 h3 h4
    exact (decodeWithFilter_a85 (.inl rfl) ext _ _).trans (undecodable_a85_char pre post c h0 h1 h2 h3 h4)
  · intro d dec p pr h1 h2 h3 h4
    show decodeWithFilter ext d nFlateDecode (some p) = none
    rw [decodeWithFilter_flate (.inl rfl), flateDecode, h1]
    exact (flatePost_predictor dec p h2 h3).trans h4

end Tabula.C05
