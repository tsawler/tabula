import TabulaModel.Props.C15
import TabulaModel.Lemmas.MarkdownXlsx
/-!
# C15 — XLSX: the sheet table that `Reader.Markdown*` writes

`xlsx.(*Reader).markdown` does not call `ParsedTable.ToMarkdown`: it writes the used range of
each sheet inline.  These theorems show that the inline writer *is* the table writer on the grid
the content bounds cut out (`xTable_eq_render`), so the pipe-table round trip carries over; that
`findContentBounds` loses no cell (every non-empty, visible cell lies inside the bounds) and that
such a cell is read back at its own grid position.
-/
namespace Tabula.C15Xlsx
open Tabula.A1 (Str)
open Tabula.Markdown Tabula.MarkdownDoc

/-- no cell value of the sheet contains a backslash -/
def NoBackslashX (rows : List (List XCell)) : Prop := ∀ row ∈ rows, ∀ cell ∈ row, 92 ∉ cell.value

/-- the bounds are not empty (what `markdown` tests before it writes a table) -/
def Bounds.nonEmpty (b : Bounds) : Prop := b.minRow ≤ b.maxRow ∧ b.minCol ≤ b.maxCol

/-- every line of the inline table has the header's number of cells -/
theorem xlsx_sheet_rows_rectangular (rows : List (List XCell)) (b : Bounds) :
    ∀ r ∈ xGrid rows b, r.length = (b.maxCol - b.minCol + 1).toNat :=
  xGrid_rect rows b

/-- **table_roundtrip for the inline sheet writer**: the table written for any bounds with
`minCol ≤ maxCol` reads back, for a GFM reader, as the grid of the bounds — rows
`minRow..maxRow` × columns `minCol..maxCol` of the sheet, each position showing the normalised
value of its cell (nothing for an absent cell or one covered by a merged region). -/
theorem xlsx_sheet_table_roundtrip (rows : List (List XCell)) (b : Bounds) (hc : b.minCol ≤ b.maxCol)
    (hbs : NoBackslashX rows) :
    gfmTable (xTable rows b) = some ((xGrid rows b).map (List.map fun c => trim (nlToSpace c))) :=
  xTable_roundtrip rows b hc

/-- the same for cell values of ANY bytes, backslashes included (`normCell .xlsx c` is
`trim (nlToSpace c)`) -/
theorem xlsx_sheet_table_roundtrip_any (rows : List (List XCell)) (b : Bounds) (hc : b.minCol ≤ b.maxCol) :
    gfmTable (xTable rows b) = some ((xGrid rows b).map (List.map (normCell .xlsx))) :=
  xTable_roundtrip rows b hc

/-- **no cell is lost by `findContentBounds`**: every cell that has a value and is not covered by
a merged region lies inside the bounds -/
theorem xlsx_bounds_cover_content (s : XSheet) (i j : Nat) (row : List XCell) (cell : XCell)
    (hi : s.rows[i]? = some row) (hj : row[j]? = some cell) (hc : cell.content = true) :
    (findContentBounds s).covers i j := by
  have := boundsRows_covers s.rows 0
    { minRow := s.rows.length, maxRow := -1, minCol := s.maxCol + 1, maxCol := -1 } i j row cell hi hj hc
  simpa [findContentBounds] using this

/-- a sheet with a content cell has non-empty bounds -/
theorem xlsx_bounds_nonEmpty (s : XSheet) (i j : Nat) (row : List XCell) (cell : XCell)
    (hi : s.rows[i]? = some row) (hj : row[j]? = some cell) (hc : cell.content = true) :
    Bounds.nonEmpty (findContentBounds s) := by
  have h := xlsx_bounds_cover_content s i j row cell hi hj hc
  unfold Bounds.covers at h
  exact ⟨by omega, by omega⟩

theorem boundsRows_nonneg (rows : List (List XCell)) : ∀ (r : Int) (b : Bounds), 0 ≤ r →
    0 ≤ b.minRow → 0 ≤ b.minCol →
    0 ≤ (boundsRows r b rows).minRow ∧ 0 ≤ (boundsRows r b rows).minCol :=
  fun r b hr h1 h2 => boundsRows_inv (fun b => 0 ≤ b.minRow ∧ 0 ≤ b.minCol) 0
    (fun r c b cell hr hc h => boundsCell_nonneg r c b cell hr hc h.1 h.2) rows r b hr ⟨h1, h2⟩

/-- the bounds start at non-negative indices (for a sheet whose `MaxCol` is at least −1, as the
parser sets it) -/
theorem xlsx_bounds_nonneg (s : XSheet) (hm : -1 ≤ s.maxCol) :
    0 ≤ (findContentBounds s).minRow ∧ 0 ≤ (findContentBounds s).minCol := by
  unfold findContentBounds
  exact boundsRows_nonneg s.rows 0 _ (by omega) (by simp) (by simp; omega)

/-- **no body text lost, cell by cell**: a cell with a value that is not covered by a merged
region is in the grid that is written, at its own position relative to the bounds, with its
value -/
theorem xlsx_content_in_grid (s : XSheet) (hm : -1 ≤ s.maxCol) (i j : Nat) (row : List XCell) (cell : XCell)
    (hi : s.rows[i]? = some row) (hj : row[j]? = some cell) (hc : cell.content = true) :
    ∃ gr, (xGrid s.rows (findContentBounds s))[i - (findContentBounds s).minRow.toNat]? = some gr ∧
      gr[j - (findContentBounds s).minCol.toNat]? = some cell.value := by
  have hcov := xlsx_bounds_cover_content s i j row cell hi hj hc
  unfold Bounds.covers at hcov
  generalize findContentBounds s = b at *
  obtain ⟨c1, c2, c3, c4⟩ := hcov
  have hshown : cell.shown = true := by
    have : (!cell.isEmpty && cell.shown) = true := hc
    simp only [Bool.and_eq_true] at this
    exact this.2
  refine ⟨xRowVals s.rows i b.minCol.toNat (b.maxCol - b.minCol + 1).toNat, ?_, ?_⟩
  · unfold xGrid
    rw [List.getElem?_map, List.getElem?_range (by omega)]
    simp only [Option.map_some]
    congr 2
    omega
  · unfold xRowVals
    rw [List.getElem?_map, List.getElem?_range (by omega)]
    simp only [Option.map_some]
    have e : b.minCol.toNat + (j - b.minCol.toNat) = j := by omega
    rw [e]
    simp [xVal, hi, hj, hshown]

example : findContentBounds { name := [83], rows := [[{}, {}], [{}, { value := [120] }, { value := [121] }]], maxCol := 2 }
    = { minRow := 1, maxRow := 1, minCol := 1, maxCol := 2 } := by decide +kernel

example : gfmTable (xTable [[{}, {}], [{}, { value := [120, 124] }, { value := [121] }]]
    { minRow := 1, maxRow := 1, minCol := 1, maxCol := 2 }) = some [[[120, 124], [121]]] := by decide +kernel

end Tabula.C15Xlsx
