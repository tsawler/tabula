import TabulaModel.Model.ChunkDoc
import TabulaModel.Props.C12Compose
import TabulaModel.Props.C12Intro
import TabulaModel.Props.C12Meta
/-!
# C12: from one `model.Document` to the chunks of both chunkers

`Model/ChunkDoc.lean` models the document value both public entry points take (`Elements` and
`Layout` as independent fields of a page, the title, `nil`) and what each chunker reads of it.

* `api_nil`: a `nil` document gives the empty collection / an error;
* `element_reads`, `layout_reads`: the element-based chunker's chunks depend on page numbers,
  `Elements` and `Layout.Headings` only; the layout-based chunker's on page numbers, `Layout` and the
  title only — whatever else differs between two documents, the chunks are the same;
* `document_property`: the statement of the property for both chunkers on one document — every
  size configuration, every chunker configuration, every document (cover of the element-based
  chunker for documents whose paragraphs have ASCII white space only, page range of the
  layout-based one for pages numbered upwards; everything else unconditionally).
-/
namespace Tabula.C12Doc
open Tabula.Chunk Tabula.ChunkLayout Tabula.ChunkDoc Tabula.ChunkSplit Tabula.ChunkIntro Tabula.ChunkSent

/-- **`nil` document**: `rag.ChunkDocument(nil)` is the empty collection, `Chunker.Chunk(nil)` an error. -/
theorem api_nil (c : Tabula.Split.SizeConfig) (low : Str → Bool) (cfg : Cfg) :
    chunkDocumentAPI c none = [] ∧ chunkerChunkAPI low cfg none = .error () := ⟨rfl, rfl⟩

/-- **What the element-based chunker reads**: two documents with the same page numbers, the same
`Elements` and the same `Layout.Headings` (and `nil` layouts on the same pages) give the same chunks —
`Layout.Paragraphs`, `Layout.Lists` and the title are not read. -/
theorem element_reads (c : Tabula.Split.SizeConfig) (m m' : MDoc)
    (h : m.pages.map (fun pg => (pg.number, pg.elems, pg.layout.map (·.headings))) =
         m'.pages.map (fun pg => (pg.number, pg.elems, pg.layout.map (·.headings)))) :
    chunkDocumentAPI c (some m) = chunkDocumentAPI c (some m') := by
  have e : ∀ x : MDoc, toDoc x =
      (x.pages.map (fun pg => (pg.number, pg.elems, pg.layout.map (·.headings)))).map
        (fun t : Int × List Elem × Option (List (Int × Str)) => (⟨t.1, t.2.2, t.2.1⟩ : Page)) := by
    intro x; simp [toDoc, List.map_map, Function.comp_def]
  simp only [chunkDocumentAPI, e, h]

/-- **What the layout-based chunker reads**: two documents with the same title, page numbers and
`Layout`s give the same chunks — `Elements` are not read. -/
theorem layout_reads (low : Str → Bool) (cfg : Cfg) (m m' : MDoc) (ht : m.title = m'.title)
    (h : m.pages.map (fun pg => (pg.number, pg.layout)) = m'.pages.map (fun pg => (pg.number, pg.layout))) :
    chunkerChunkAPI low cfg (some m) = chunkerChunkAPI low cfg (some m') := by
  have e : ∀ x : MDoc, toLDoc x =
      (x.pages.map (fun pg => (pg.number, pg.layout))).map
        (fun t : Int × Option MLayout => (⟨t.1, t.2.map fun lay =>
          ⟨lay.headings.map fun h => ⟨h.1, h.2, []⟩, lay.paras.map fun t => ⟨t, false, []⟩, lay.lists.map fun l => ⟨l, []⟩⟩⟩ : LPage)) := by
    intro x; simp [toLDoc, List.map_map, Function.comp_def]
  simp only [chunkerChunkAPI, e, h, ht]

/-- a page whose `Elements` and `Layout` disagree: the element-based chunker sees the heading and
the paragraph, the layout-based one the layout's paragraph -/
example :
    let m : MDoc := ⟨[], [⟨1, [.heading 1 [97], .para [120]], some ⟨[], [[121]], []⟩⟩]⟩
    (chunkDocumentAPI defaultSizeConfig (some m)).map (·.text) = [[97], [120]] ∧
    (match chunkerChunkAPI (fun _ => false) ⟨2000, 100, 3, true, [99]⟩ (some m) with
      | .ok cs => cs.map (·.text) | .error _ => []) = [[121]] := by decide +kernel

/-- **The property, one document, both chunkers.** For every document `m`, size configuration `c`,
chunker configuration `cfg` and lower-case table `low`:

*element-based* (`ChunkDocumentWithConfig`): indices `0..n-1`, ids distinct, total `n`; one group of
chunks per page carrying that page's number; the section path is the chain of enclosing headings
(`histTracker`/`openSpec`); every heading, list, table and described image is one chunk of its own
with exactly its text on its page, in document order; and, when the paragraphs have ASCII white
space only, the chunk texts are the rendered elements in document order, white space aside.

*layout-based* (`Chunker.Chunk`): the chunk texts are, white space aside, the layout's content in
emission order (a permutation of the canonical order keeping every kind in order); indices, ids,
total; the sections carry the chains of enclosing section-opening headings and, when the pages are
numbered upwards, page ranges on pages of the document that cover their content. -/
theorem document_property (c : Tabula.Split.SizeConfig) (low : Str → Bool) (cfg : Cfg) (m : MDoc) :
    let d := toDoc m
    let l := toLDoc m
    let ec := chunkDocumentC c d
    let lc := chunkSI low cfg m.title l
    (chunkDocumentAPI c (some m) = ec ∧ chunkerChunkAPI low cfg (some m) = .ok lc) ∧
    ((ec.map (·.idx) = List.range ec.length ∧ (ec.map (·.id)).Nodup ∧ ∀ ch ∈ ec, ch.total = ec.length) ∧
      PagesM d (pageGroups stackTracker (splitterOf c) d) ∧
      ec = chunkDocumentWith histTracker (splitterOf c) d ∧
      Tabula.ChunkMeta.solos (Tabula.ChunkMeta.chunkDocumentXC c d) = Tabula.ChunkMeta.soloSpec d ∧
      (DocNoWide d → strip (textsOf ec) = strip ((d.flatMap (·.elems)).flatMap render))) ∧
    ((strip (textsOf lc) = strip (ceTexts (emitted cfg (withSents low (withIntro l)))) ∧
        (emitted cfg (withSents low (withIntro l))).Perm (canon cfg (withSents low (withIntro l)))) ∧
      (lc.map (·.idx) = List.range lc.length ∧ (lc.map (·.id)).Nodup ∧ ∀ ch ∈ lc, ch.total = lc.length) ∧
      labelsOf (flatForest (buildSections cfg (withSents low (withIntro l)))) = labelled cfg (withSents low (withIntro l)) ∧
      (AscFrom 1 l → ∀ x ∈ flatForest (buildSections cfg (withSents low (withIntro l))), SecPagesOK (l.map (·.number)) x)) := by
  intro d l ec lc
  refine ⟨⟨rfl, rfl⟩, ?_, ?_⟩
  · obtain ⟨h1, h2, h3⟩ := Tabula.C12Meta.element_metadata_any c d
    exact ⟨h1, h2, h3, Tabula.C12Meta.solo_elements_exact _ d, fun hd => Tabula.C12Compose.element_cover c d hd⟩
  · refine ⟨⟨?_, emitted_perm cfg _⟩, ?_, buildSections_labels cfg _, ?_⟩
    · exact Tabula.C12Layout.layout_chunker_cover low cfg m.title (withIntro l)
    · exact Tabula.C12Layout.layout_indices_ids_total cfg m.title _
    · intro hasc
      have := buildSections_pages cfg (withSents low (withIntro l)) 1
        (hasc.of_numbers ((Tabula.C12Layout.numbers_withSents low _).trans (withIntro_numbers l)))
      rwa [Tabula.C12Layout.numbers_withSents, withIntro_numbers] at this

end Tabula.C12Doc
