import TabulaModel.Lemmas.OverlapRunes
import TabulaModel.Props.C13
/-!
# C13 — overlap, every strategy, end to end

Full-strength versions of `C13.overlap_suffix_partial` / `C13.overlap_utf8_partial` (which
covered the character strategy only) and the composition through `ApplyOverlapToChunks` and
the overlap configuration of `ChunkWithOverlapEnabled`.  Model: `Model/Overlap.lean`; lemmas:
`Lemmas/OverlapSentences.lean`, `Lemmas/OverlapGenerate.lean`, `Lemmas/OverlapRunes.lean`,
`Lemmas/Codec.lean`, `Lemmas/Conserve.lean`.

`stripWs s` is the sequence of non-whitespace characters of `s` (`Model/Split.lean`, tied to
`unicode.IsSpace` by op `c13.nonspace`).  The Unicode class tables (`cl`) stay a universally
quantified parameter: the theorems hold for every table, hence for Go's.
-/
set_option linter.unusedVariables false
namespace Tabula.C13Overlap
open Tabula.Split Tabula.Overlap

/-- **overlap_utf8.** Every strategy, every size, every `MinOverlap`/`MaxOverlap`: the overlap
generated from a valid UTF-8 chunk is valid UTF-8 (including the sentence branch and the
character fallback of `truncateOverlap`). -/
theorem overlap_utf8 (cl : Classes) (c : OverlapConfig) (text : Str) (hv : validUtf8 text = true) :
    validUtf8 (generateOverlap cl c text) = true :=
  valid_generateOverlap cl c text hv

/-- **overlap_suffix.** Every strategy: the non-whitespace characters of the overlap are a
suffix of the non-whitespace characters of the chunk it is generated from. -/
theorem overlap_suffix (cl : Classes) (c : OverlapConfig) (text : Str) (hv : validUtf8 text = true) :
    ∃ x, stripWs text = x ++ stripWs (generateOverlap cl c text) := by
  -- for any bytes the overlap carries a suffix of what `range` reads; on valid text that is `stripWs`
  obtain ⟨x, e⟩ := generateOverlap_any cl c text
  rw [content_valid text hv, content_valid _ (valid_generateOverlap cl c text hv)] at e
  exact ⟨x, e⟩

/-- non-vacuity, sentence strategy: the last sentence of "First one. Second one." -/
example :
    let c : OverlapConfig := { strategy := 2, size := 1, minOverlap := 0, maxOverlap := 100, preserveWords := true, includeHeadingContext := false }
    let text : Str := "First one. Second one.".toList.map Char.toNat
    validUtf8 text = true ∧ generateOverlap [] c text = "Second one.".toList.map Char.toNat := by
  decide +kernel

/-- non-vacuity, paragraph strategy with truncation to the last sentence that fits -/
example :
    let c : OverlapConfig := { strategy := 3, size := 1, minOverlap := 0, maxOverlap := 12, preserveWords := true, includeHeadingContext := false }
    let text : Str := "Intro.\n\nAlpha beta. Gamma delta.".toList.map Char.toNat
    generateOverlap [] c text = "Gamma delta.".toList.map Char.toNat := by
  decide +kernel

/-- the sentences `splitIntoSentencesWithPositions` returns are valid UTF-8 and carry exactly
the non-whitespace characters of a valid text, in order, whatever the class tables say -/
theorem overlap_sentences_conserve (cl : Classes) (text : Str) (hv : validUtf8 text = true) :
    (splitIntoSentences cl text).flatMap stripWs = stripWs text
      ∧ ∀ t ∈ splitIntoSentences cl text, validUtf8 t = true ∧ t ≠ [] :=
  ⟨splitIntoSentences_content cl text hv, (splitIntoSentences_pieces cl text).2⟩

/-- the same for `splitIntoParagraphs` -/
theorem overlap_paragraphs_conserve (text : Str) (hv : validUtf8 text = true) :
    (splitIntoParagraphs text).flatMap stripWs = stripWs text
      ∧ ∀ p ∈ splitIntoParagraphs text, validUtf8 p = true :=
  ⟨reads_splitIntoParagraphs reads_stripWs text, splitIntoParagraphs_valid text hv⟩

/-- **apply_overlap_property.** The overlap clause of C13 through `ApplyOverlapToChunks`, for
every strategy and configuration and every list of valid UTF-8 chunks: chunk `i+1` comes out
as `[title]` (optional) + overlap + blank line + its own content (own content unchanged when
there is no overlap); the overlap is computed from the ORIGINAL text of chunk `i`, is valid
UTF-8, has at most `MaxOverlap` bytes, and its non-whitespace characters are a suffix of those
of chunk `i`'s own content.  The first chunk is returned unchanged. -/
theorem apply_overlap_property (cl : Classes) (c : OverlapConfig) (items : List (Str × Str))
    (hv : ∀ it ∈ items, validUtf8 it.1 = true) :
    (applyOverlapAux cl c none items).length = items.length
    ∧ (∀ it, items[0]? = some it →
        (applyOverlapAux cl c none items)[0]? = some { has := false, pref := [], text := it.1 })
    ∧ ∀ i prev own, items[i]? = some prev → items[i + 1]? = some own →
        ∃ o, (applyOverlapAux cl c none items)[i + 1]? = some o
          ∧ o.pref = (if c.strategy ≠ 0 then generateOverlap cl c prev.1 else [])
          ∧ o.has = (o.pref != [])
          ∧ o.text = (if o.pref = [] then own.1
                      else (if c.includeHeadingContext ∧ own.2 ≠ [] then [91] ++ own.2 ++ [93, 10, 10] else [])
                            ++ o.pref ++ [10, 10] ++ own.1)
          ∧ validUtf8 o.pref = true
          ∧ o.pref.length ≤ c.maxOverlap
          ∧ ∃ x, stripWs prev.1 = x ++ stripWs o.pref := by
  refine ⟨applyOverlapAux_length cl c none items, ?_, ?_⟩
  · intro it h0
    rw [applyOverlapAux_get, h0]
    rfl
  · intro i prev own hp ho
    have hpv : validUtf8 prev.1 = true := hv prev (List.mem_of_getElem? hp)
    rw [applyOverlapAux_get, ho]
    simp only [Option.map_some, prevText, hp]
    refine ⟨_, rfl, ?_⟩
    rw [outOf_pref, outOf_has, outOf_text]
    have hspec : validUtf8 (overlapFrom cl c (some prev.1)) = true
        ∧ ∃ x, stripWs prev.1 = x ++ stripWs (overlapFrom cl c (some prev.1)) := by
      rcases overlapFrom_some cl c prev.1 with e | e <;> rw [e]
      · exact ⟨validUtf8_nil, stripWs prev.1, by rw [stripWs_nil, List.append_nil]⟩
      · exact ⟨overlap_utf8 cl c _ hpv, overlap_suffix cl c _ hpv⟩
    exact ⟨rfl, rfl, rfl, hspec.1, overlapFrom_length_le cl c _, hspec.2⟩

/-- own content is never lost: every output text ends with the chunk's own text -/
theorem apply_overlap_keeps_own (cl : Classes) (c : OverlapConfig) (items : List (Str × Str))
    (i : Nat) (own : Str × Str) (ho : items[i]? = some own) :
    ∃ o pre, (applyOverlapAux cl c none items)[i]? = some o ∧ o.text = pre ++ own.1 := by
  rw [applyOverlapAux_get, ho]
  simp only [Option.map_some]
  generalize overlapFrom cl c (prevText none items i) = ov
  refine ⟨_, if ov = [] then [] else
    (if c.includeHeadingContext ∧ own.2 ≠ [] then [91] ++ own.2 ++ [93, 10, 10] else []) ++ ov ++ [10, 10],
    rfl, ?_⟩
  rw [outOf_text, applyOverlap]
  split <;> rfl

/-- **cwo_overlap_bounds.** With the configuration `ChunkWithOverlapEnabled` derives from
`ChunkerConfig` (`OverlapSize`, `OverlapSentences`): every overlap has at most `3·OverlapSize`
bytes; with character overlap (`OverlapSentences = false`) at most `OverlapSize` bytes; with
`OverlapSize = 0` there is no overlap at all. -/
theorem cwo_overlap_bounds (cl : Classes) (overlapSize : Nat) (sentences ctx : Bool) (text : Str) :
    (generateOverlap cl (chunkerOverlapConfig overlapSize sentences ctx) text).length ≤ 3 * overlapSize
    ∧ (sentences = false →
        (generateOverlap cl (chunkerOverlapConfig overlapSize sentences ctx) text).length ≤ overlapSize)
    ∧ (overlapSize = 0 → generateOverlap cl (chunkerOverlapConfig overlapSize sentences ctx) text = []) := by
  have hb := Tabula.C13.overlap_bounds cl (chunkerOverlapConfig overlapSize sentences ctx) text
  refine ⟨?_, ?_, ?_⟩
  · have := hb.1
    simp only [chunkerOverlapConfig] at this ⊢
    omega
  · intro hs
    subst hs
    by_cases h0 : overlapSize = 0
    · subst h0
      simp [generateOverlap, chunkerOverlapConfig]
    · have := hb.2 (by simp [chunkerOverlapConfig, h0]) (by simp [chunkerOverlapConfig]; omega)
      simpa [chunkerOverlapConfig] using this
  · intro h0
    subst h0
    simp [generateOverlap, chunkerOverlapConfig]

example : (chunkerOverlapConfig 30 true false).strategy = 2 ∧ (chunkerOverlapConfig 30 true false).size = 2
    ∧ (chunkerOverlapConfig 30 true false).maxOverlap = 90 := by decide

end Tabula.C13Overlap
