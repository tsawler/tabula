import TabulaModel.Props.C08Forms
import TabulaModel.Props.C08Text
/-!
# C08 — composition: every fragment's origin, through forms and through the public API

`origin_exact_spec` (Props/C08Text.lean) is about `Do`-free programs.  Here it is chained
with `forms_spelled_out` (forms nested to any depth) and with `extract_unfolds` (the model
of the public entry points: names, resource scopes, nesting limit, budget, operand checks),
as `origin_spec` is in Props/C08Forms.lean — now for EVERY fragment, with the displacement
function the code computes.
-/
namespace Tabula.C08Compose
open Tabula Tabula.Matrix Tabula.GState Tabula.XDoc Tabula.C08 Tabula.C08Forms Tabula.C08Text Tabula.TextAdv

variable {α : Type} [Lean.Grind.Field α] [DecidableEq α] [LT α] [DecidableLT α]

/-- **every origin, through forms nested to any depth**: for every program whose forms have
balanced content (the program itself balanced or not), run with the displacement function
the code computes, the extractor fails exactly when ISO 32000's definition fails on the
program with every form spelled out as `q /Matrix cm content Q`, and otherwise reports for
EVERY fragment — on the page, inside forms, inside forms inside forms — the origin
`(Tm.e, Tm.f + Trise)` through the CTM and the size factors that the definition gives
(text matrix advanced glyph by glyph, `TJ` numbers, `Tc Tw Tz Tf`, line operators). -/
theorem origin_exact_spec_forms (info : Nat → StrInfo α) (glyphs : Nat → List (Glyph α))
    (hinfo : ∀ sid, info sid = summarize (glyphs sid)) (ops : List (Op α)) (h : FormsBalanced ops)
    (s : State α) :
    (run (advance info) ops s).map (·.map showReport) =
      (isoRun glyphs (spellOut s.xdepth ops) (isoState s)).map (·.map report) := by
  rw [forms_spelled_out (advance info) ops h s]
  exact origin_exact_spec info glyphs hinfo _ (noForm_of_formFree _ (spellOut_formFree _ ops)) s

/-- **every origin, over the public API**: for every document (any object table: shared,
cyclic, malformed), every page content as the parser delivers it and every extractor state,
if the forms that `Extract` executes have balanced content then `Extract` fails exactly when
ISO 32000's definition fails on the unfolded, spelled-out page, and otherwise every fragment
it collects carries the origin and size factors of that definition. -/
theorem extract_origin_exact (info : Nat → StrInfo α) (glyphs : Nat → List (Glyph α))
    (hinfo : ∀ sid, info sid = summarize (glyphs sid)) (doc : Doc α) (ops : List (RawOp α)) (x : XState α)
    (hb : FormsBalanced (expandPage doc x.resources x.gs.xdepth ops { x.acct with bytes := 0 }).1) :
    (if (extractRaw (advance info) doc ops x).2.2 then none
     else some ((extractRaw (advance info) doc ops x).2.1.map fun f => showReport f.sh)) =
      (isoRun glyphs
        (spellOut x.gs.xdepth (expandPage doc x.resources x.gs.xdepth ops { x.acct with bytes := 0 }).1)
        (isoState x.gs)).map (·.map report) := by
  rw [← origin_exact_spec_forms info glyphs hinfo _ hb x.gs]
  unfold run
  rw [extract_unfolds (advance info) doc ops x]
  cases (extractRaw (advance info) doc ops x).2.2 <;> simp [List.map_map, Function.comp_def]

/-- … and from a condition on the document alone: every form object's content stream
balanced in q/Q, counted on the raw operations -/
theorem extract_origin_exact_doc (info : Nat → StrInfo α) (glyphs : Nat → List (Glyph α))
    (hinfo : ∀ sid, info sid = summarize (glyphs sid)) (doc : Doc α) (hdoc : DocBalanced doc)
    (ops : List (RawOp α)) (x : XState α) :
    (if (extractRaw (advance info) doc ops x).2.2 then none
     else some ((extractRaw (advance info) doc ops x).2.1.map fun f => showReport f.sh)) =
      (isoRun glyphs
        (spellOut x.gs.xdepth (expandPage doc x.resources x.gs.xdepth ops { x.acct with bytes := 0 }).1)
        (isoState x.gs)).map (·.map report) :=
  extract_origin_exact info glyphs hinfo doc ops x (balanced_document_unfolds_balanced doc hdoc _ _ _ _)

/-- the hypotheses are satisfiable together (any glyph table; the cyclic document of
Props/C08Forms.lean has balanced form contents) -/
example (glyphs : Nat → List (Glyph Rat)) (doc : Doc Rat) (hdoc : DocBalanced doc) (ops : List (RawOp Rat))
    (x : XState Rat) :=
  extract_origin_exact_doc (fun sid => summarize (glyphs sid)) glyphs (fun _ => rfl) doc hdoc ops x

end Tabula.C08Compose
