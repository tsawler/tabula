import TabulaModel.Model.Extraction
import TabulaModel.Props.C03
import TabulaModel.Props.C03Order
import TabulaModel.Props.C03Process
/-!
# C03 — the statement of the property, over the model of the public API

"The result of an extraction depends only on the document bytes and the options: repeating any
operation gives byte-identical text, markdown, chunks and exports, and an extraction gives the
same result whether it runs alone, after any other extractions, or concurrently with
extractions of other documents."

`Model/Extraction.lean` writes what a call returns as a function of the document, the chain of
configuration calls behind the receiver, the SCHEDULE (all the other calls of the process,
interleaved in any way) and the RUNTIME (the order of every range over a map, the algorithm of
every sort).  The theorems below chain the per-mechanism theorems of `Props/C03.lean`
(parser, font registration), `Props/C03Order.lean` (map order, sorts) and
`Props/C03Process.lean` (families, schedules, warnings) into: schedule and runtime do not show.
Goroutine-level interleaving is not in the model (see `props/C03.json`).
-/
namespace Tabula.C03Statement
open Tabula.Session Tabula.MapOrder Tabula.Process Tabula.Builder Tabula.Extraction
open Tabula.Csv (Str)

/-- the reference runtime and the backwards one are runtimes -/
theorem ref_ok : Runtime.ref.Ok :=
  ⟨fun _ => List.Perm.refl _, fun _ => List.Perm.refl _, fun _ => List.Perm.refl _, fun _ => List.Perm.refl _,
   isSort_sortInts, isSort_sortInts, Export.sortStrings_isSort⟩

theorem rev_ok : Runtime.rev.Ok :=
  ⟨List.reverse_perm, List.reverse_perm, List.reverse_perm, List.reverse_perm,
   isSort_sortInts, isSort_sortInts, Export.sortStrings_isSort⟩

/-- **page_facts_runtime_free**: everything the mechanisms of C03 compute for a page — the parsed
operations, the font table, the line tolerance, left margin, dominant alignment, body font size
— is the same under every runtime: every order of every map range, every sorting algorithm -/
theorem page_facts_runtime_free (ρ ρ' : Runtime) (h : ρ.Ok) (h' : ρ'.Ok) (pg : PageInput)
    (hnd : (pg.fontDict.map Prod.fst).Nodup) : pageFacts ρ pg = pageFacts ρ' pg := by
  have hf : registerAll (ρ.fontOrder pg.fontDict) = registerAll (ρ'.fontOrder pg.fontDict) :=
    C03.font_registration_order_free _ _ ((h.font _).trans (h'.font _).symm)
      (((h.font pg.fontDict).map Prod.fst).symm.nodup hnd)
  have ht := (C03Order.tolerance_order_free ρ.sortY ρ.sortG h.sy h.sg pg.frags _ (h.y _)).trans
    (C03Order.tolerance_order_free ρ'.sortY ρ'.sortG h'.sy h'.sg pg.frags _ (h'.y _)).symm
  have hm := (C03Order.left_margin_order_free pg.lineXs _ (h.vote _)).trans
    (C03Order.left_margin_order_free pg.lineXs _ (h'.vote _)).symm
  have ha := (C03Order.dominant_alignment_order_free pg.aligns _ (h.vote _)).trans
    (C03Order.dominant_alignment_order_free pg.aligns _ (h'.vote _)).symm
  have hb := (C03Order.body_font_size_order_free pg.paras _ (h.vote _)).trans
    (C03Order.body_font_size_order_free pg.paras _ (h'.vote _)).symm
  simp only [pageFacts, hf, ht, hm, ha, hb]

/-- **export_columns_runtime_free**: the header of a CSV/TSV export is the same under every runtime -/
theorem export_columns_runtime_free (ρ ρ' : Runtime) (h : ρ.Ok) (h' : ρ'.Ok) (cfg : Export.Config)
    (chunks : List Export.Chunk) : exportColumns ρ cfg chunks = exportColumns ρ' cfg chunks := by
  unfold exportColumns
  rw [C03Order.csv_columns_order_free ρ.sortS h.ss cfg chunks _ _ (fun c _ => h.key _) (h.key _),
    C03Order.csv_columns_order_free ρ'.sortS h'.ss cfg chunks _ _ (fun c _ => h'.key _) (h'.key _)]

/-- every page of the document has a /Font dictionary (names distinct) -/
def ContentOk (content : List PageInput) : Prop := ∀ pg ∈ content, (pg.fontDict.map Prod.fst).Nodup

theorem outOf_runtime_free (render : PageFacts → Str) (ρ ρ' : Runtime) (h : ρ.Ok) (h' : ρ'.Ok)
    (content : List PageInput) (hc : ContentOk content) (a : Ans) :
    outOf render ρ content a = outOf render ρ' content a := by
  obtain ⟨r, w⟩ := a
  cases r <;> simp only [outOf]
  rename_i idx
  congr 1
  apply List.map_congr_left
  intro p _
  cases hp : content[p]? with
  | none => rfl
  | some pg =>
    simp only [Option.map_some]
    rw [page_facts_runtime_free ρ ρ' h h' pg (hc pg (List.mem_of_getElem? hp))]

theorem outsFrom_ref (render : PageFacts → Str) (ρ : Nat → Runtime) (hρ : ∀ i, (ρ i).Ok)
    (content : List PageInput) (hc : ContentOk content) (as : List Ans) :
    ∀ i, outsFrom render ρ content i as = as.map (outOf render Runtime.ref content) := by
  induction as with
  | nil => intro i; rfl
  | cons a as ih =>
    intro i
    simp only [outsFrom, List.map_cons]
    rw [outOf_runtime_free render (ρ i) Runtime.ref (hρ i) ref_ok content hc a, ih]

/-- **extraction_is_a_function_of_document_and_options** (the statement of C03 over the model):
take any process — any number of documents, any schedule interleaving calls on all of their
Extractor families, failing calls included — and any runtime for every call.  What family `d`
is returned, call by call, is what its own calls return on a process that holds nothing but
document `d`, in the reference runtime: `aloneOutputs`, a function of the document (its facts
`doc`, its pages `content`) and of the calls of `d` — each answered from the chain of
configuration calls that built its receiver. -/
theorem extraction_is_a_function_of_document_and_options (render : PageFacts → Str)
    (runtimes : Nat → Runtime) (hρ : ∀ i, (runtimes i).Ok)
    (docs : List Doc) (sched : List Call) (d : Nat) (doc : Doc) (hd : docs[d]? = some doc)
    (content : List PageInput) (hc : ContentOk content) :
    familyOutputs render runtimes docs content sched d = aloneOutputs render doc content (project d sched) := by
  unfold familyOutputs aloneOutputs
  rw [outsFrom_ref render runtimes hρ content hc,
    C03Process.extraction_depends_on_document_and_options docs sched d doc hd]

/-- **repeatable_and_history_free**: two runs — different schedules, different other documents,
different runtimes — that make the same calls on the same document return the same results -/
theorem repeatable_and_history_free (render : PageFacts → Str)
    (ρ₁ ρ₂ : Nat → Runtime) (h₁ : ∀ i, (ρ₁ i).Ok) (h₂ : ∀ i, (ρ₂ i).Ok)
    (docs₁ docs₂ : List Doc) (s₁ s₂ : List Call) (d₁ d₂ : Nat) (doc : Doc)
    (hd₁ : docs₁[d₁]? = some doc) (hd₂ : docs₂[d₂]? = some doc)
    (content : List PageInput) (hc : ContentOk content) (hp : project d₁ s₁ = project d₂ s₂) :
    familyOutputs render ρ₁ docs₁ content s₁ d₁ = familyOutputs render ρ₂ docs₂ content s₂ d₂ := by
  rw [extraction_is_a_function_of_document_and_options render ρ₁ h₁ docs₁ s₁ d₁ doc hd₁ content hc,
    extraction_is_a_function_of_document_and_options render ρ₂ h₂ docs₂ s₂ d₂ doc hd₂ content hc, hp]

/-- a page with two fonts, one name the other with a leading slash, tied margins, compressed baselines -/
def demoPage : PageInput :=
  { fontDict := [([70], 1), ([47, 70], 2)], tokens := [.num 1, .num 2, .op 113, .op 81],
    frags := C03Order.r4m1Page, lineXs := [72, 90, 72, 91], aligns := [1, 4, 1, 4],
    paras := [(24, 3), (20, 3)] }

example : ContentOk [demoPage] := by
  intro pg hp
  simp only [List.mem_singleton] at hp
  subst hp
  decide

/-- the facts of the demo page under the reference runtime and under the backwards one -/
example : (pageFacts Runtime.ref demoPage).tol = .gap 30 ∧ (pageFacts Runtime.rev demoPage).tol = .gap 30 ∧
    (pageFacts Runtime.rev demoPage).margin = 14 ∧ (pageFacts Runtime.rev demoPage).align = 1 ∧
    (pageFacts Runtime.rev demoPage).bodySize = some 20 ∧
    (pageFacts Runtime.rev demoPage).fonts [47, 70] = some 2 ∧ (pageFacts Runtime.ref demoPage).fonts [47, 70] = some 2 := by
  decide

/-- the demo schedule of `Props/C03Process.lean`, document 0 rendered page by page -/
example : familyOutputs (fun f => [f.margin.toNat]) (fun i => if i % 2 = 0 then Runtime.rev else Runtime.ref)
      C03Process.demoDocs [demoPage, demoPage, demoPage, demoPage] C03Process.demoSchedule 0
    = [.none, .pages [some [14]] 1, .pages [some [14], some [14], some [14], some [14]] 0, .pages [some [14]] 1] := by
  decide

end Tabula.C03Statement
