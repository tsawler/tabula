import TabulaModel.Lemmas.Sentences
import TabulaModel.Props.C13Api
import TabulaModel.Props.C13Overlap
/-!
# C13 — sentence packing, `Chunker.Chunk`, `ChunkWithOverlapEnabled`

The mechanism "sentence packing for oversized elements" (`splitIntoSentences`,
`(*Chunker).splitBySentences` of `rag/chunker.go`) and the third observed API,
`NewChunkerWithConfig(c).ChunkWithOverlapEnabled(doc)`, on documents whose layout consists of
paragraphs.  Model: `Model/Sentences.lean` (ops `c13.sent`, `c13.chunk`, `c13.cwe`); lemmas:
`Lemmas/Sentences.lean`.  `cl` (the `unicode.IsLower/IsUpper/…` tables for non-ASCII runes)
is universally quantified: the theorems hold whatever the tables say.
-/
set_option linter.unusedVariables false
namespace Tabula.C13Sentences
open Tabula.Split Tabula.Sentences
open Tabula.Overlap hiding splitIntoSentences splitIntoSentences_pieces splitIntoSentences_content

/-- **sentences_conserve.** `splitIntoSentences` (chunker.go), for ANY bytes: the sentences are,
in order, disjoint substrings of `string([]rune(text))` with whitespace-only gaps, each valid
UTF-8 and non-empty; for valid UTF-8 text (where `string([]rune(text)) = text`) they contain
exactly the non-whitespace characters of the text, in order. -/
theorem sentences_conserve (cl : Classes) (text : Str) :
    Pieces (encodeRunes (decodeRunes text)) (splitIntoSentences cl text)
    ∧ (∀ t ∈ splitIntoSentences cl text, validUtf8 t = true ∧ t ≠ [])
    ∧ (validUtf8 text = true → Pieces text (splitIntoSentences cl text)
        ∧ (splitIntoSentences cl text).flatMap stripWs = stripWs text) := by
  obtain ⟨hp, hv⟩ := splitIntoSentences_pieces cl text
  refine ⟨hp, hv, fun h => ?_⟩
  have hc := reads_splitIntoSentences reads_stripWs cl text
  rw [encode_decode text h] at hp hc
  exact ⟨hp, hc⟩

/-- non-vacuity (the former panic's witness "text.B."): a capital after a full stop -/
example :
    splitIntoSentences [] ("It is text.B. And more".toList.map Char.toNat)
      = ["It is text.".toList.map Char.toNat, "B. And more".toList.map Char.toNat] := by
  decide +kernel

/-- **sentence_packing_conserves.** `splitBySentences` on a valid UTF-8 element: the chunk
texts are valid UTF-8 and contain exactly its non-whitespace characters, in order, for every
`MaxChunkSize`. -/
theorem sentence_packing_conserves (cl : Classes) (max : Nat) (text : Str) (hv : validUtf8 text = true) :
    (splitBySentences cl max text).flatMap stripWs = stripWs text
      ∧ ∀ o ∈ splitBySentences cl max text, validUtf8 o = true :=
  ⟨reads_splitBySentences_valid reads_stripWs cl max text hv, splitBySentences_valid cl max text⟩

/-- **sentence_packing_bound.** Every chunk `splitBySentences` produces has at most
`MaxChunkSize` bytes or is one single sentence (a sentence longer than the maximum is not
split further: `MaxChunkSize` is not the hard maximum of `SizeConfig`, and the property's
size bound is stated for `SplitToSize` only). -/
theorem sentence_packing_bound (cl : Classes) (max : Nat) (text : Str) :
    ∀ o ∈ splitBySentences cl max text, o.length ≤ max ∨ o ∈ splitIntoSentences cl text :=
  splitBySentences_bound cl max text

/-- … so when every sentence fits, every chunk fits -/
theorem sentence_packing_bound_of_short_sentences (cl : Classes) (max : Nat) (text : Str)
    (hs : ∀ s ∈ splitIntoSentences cl text, s.length ≤ max) :
    ∀ o ∈ splitBySentences cl max text, o.length ≤ max := by
  intro o ho
  rcases sentence_packing_bound cl max text o ho with h | h
  · exact h
  · exact hs o h

example :
    splitBySentences [] 25 ("One two three. Four five six. Seven eight.".toList.map Char.toNat)
      = ["One two three.".toList.map Char.toNat, "Four five six.".toList.map Char.toNat,
         "Seven eight.".toList.map Char.toNat] := by decide +kernel

/-- **chunk_conserves.** `Chunker.Chunk` on a document of valid UTF-8 paragraphs, every
`MaxChunkSize`/`MinChunkSize` (section chunk, paragraph packing with orphan merging, sentence
packing of oversized paragraphs): the chunk texts are valid UTF-8 and contain exactly the
non-whitespace characters of the paragraphs, in order. -/
theorem chunk_conserves (cl : Classes) (max min : Nat) (paras : List Str)
    (hv : ∀ p ∈ paras, validUtf8 p = true) :
    (chunkParagraphDoc cl max min paras).flatMap stripWs = paras.flatMap stripWs
      ∧ ∀ o ∈ chunkParagraphDoc cl max min paras, validUtf8 o = true :=
  ⟨reads_chunkParagraphDoc reads_stripWs cl max min paras hv,
    valid_of_flatMap_illFormed_eq (reads_chunkParagraphDoc reads_illFormed cl max min paras hv) hv⟩

/-- **chunk_max_size.** `ChunkerConfig.MaxChunkSize` is honoured by `Chunker.Chunk` on a document
of valid UTF-8 paragraphs whenever (i) no paragraph is blank and (ii) every sentence of every
paragraph longer than the maximum fits in it (the code's last resort is "split at sentence
boundaries"; a sentence is never cut): then every chunk text has at most `MaxChunkSize` bytes,
for every `MinChunkSize` (orphan merging included).  The property's size clause is about the
hard maximum of `SizeConfig` (`C13.split_bound`, `C13Api.doc_bound`); this is the corresponding
statement for the other size limit of the package, in the form the code satisfies. -/
theorem chunk_max_size (cl : Classes) (max min : Nat) (paras : List Str)
    (hv : ∀ p ∈ paras, validUtf8 p = true) (hne : ∀ p ∈ paras, stripWs p ≠ [])
    (hs : ∀ p ∈ paras, p.length > max → ∀ t ∈ splitIntoSentences cl p, t.length ≤ max) :
    ∀ o ∈ chunkParagraphDoc cl max min paras, o.length ≤ max := by
  rcases chunkParagraphDoc_cases cl max min paras with ⟨e, hfit⟩ | e <;> rw [e]
  · simpa using hfit
  · exact splitSectionByParagraphs_bound cl max min paras hne hs

/-- non-vacuity of `chunk_max_size`: an oversized paragraph of short sentences after a small one -/
example :
    let paras : List Str := ["Alpha beta.".toList.map Char.toNat,
      "One two three. Four five six. Seven eight.".toList.map Char.toNat]
    (∀ p ∈ paras, validUtf8 p = true) ∧ (∀ p ∈ paras, stripWs p ≠ [])
      ∧ (∀ p ∈ paras, p.length > 30 → ∀ t ∈ splitIntoSentences [] p, t.length ≤ 30)
      ∧ (chunkParagraphDoc [] 30 3 paras).map List.length = [11, 29, 12] := by decide +kernel

/-- hypothesis (ii) is needed: a paragraph without sentence punctuation is one sentence and is
emitted whole although it has a space every five bytes (29 bytes at `MaxChunkSize` 20) -/
theorem chunk_max_size_long_sentence_counterexample :
    (chunkParagraphDoc [] 20 2 ["aaaa bbbb cccc dddd eeee ffff".toList.map Char.toNat]).map List.length = [29] := by
  decide +kernel

/-- **unpunctuated_paragraph_one_chunk.** The general form of the limitation above: an element
without `.`, `!`, `?` (a CJK paragraph punctuated with `。` only: `。` is not a sentence end for
`splitIntoSentences`)
is ONE sentence, so `splitBySentences` returns it whole (trimmed) for every `MaxChunkSize`,
however long it is.  Conservation and UTF-8 integrity hold (`sentence_packing_conserves`);
the size limit of `ChunkerConfig` does not apply to such elements. -/
theorem unpunctuated_paragraph_one_chunk (cl : Classes) (max : Nat) (text : Str)
    (hv : validUtf8 text = true)
    (hp : ∀ r ∈ decodeRunes text, (r == 46 || r == 33 || r == 63) = false)
    (hne : trimSpace text ≠ []) :
    splitBySentences cl max text = [trimSpace text] := by
  unfold splitBySentences
  rw [splitIntoSentences_noPunct cl text hv hp, emit, if_neg hne]
  simp [packLoop, hne]

/-- non-vacuity: "日本語。次の文。" at `MaxChunkSize` 6 -/
example :
    let text : Str := [0xE6,0x97,0xA5, 0xE6,0x9C,0xAC, 0xE8,0xAA,0x9E, 0xE3,0x80,0x82, 0xE6,0xAC,0xA1, 0xE3,0x81,0xAE,
      0xE6,0x96,0x87, 0xE3,0x80,0x82]
    validUtf8 text = true ∧ (∀ r ∈ decodeRunes text, (r == 46 || r == 33 || r == 63) = false)
      ∧ trimSpace text ≠ [] ∧ splitBySentences [] 6 text = [text] := by decide +kernel

/-- hypothesis (i) is needed: `flushChunk` returns early on whitespace-only pending text without
resetting it, so a blank paragraph pads the next chunk beyond the maximum (10 blanks + blank
line + 15 bytes = 27 bytes at `MaxChunkSize` 20) -/
theorem chunk_max_size_blank_paragraph_counterexample :
    (chunkParagraphDoc [] 20 2 [List.replicate 10 32, "abcdefghijklmno".toList.map Char.toNat]).map List.length
      = [27] := by
  decide +kernel

/-- **cwe_property.** The statement of C13 for `ChunkWithOverlapEnabled` on a document of valid
UTF-8 paragraphs, for every `MaxChunkSize`, `MinChunkSize`, `OverlapSize`, `OverlapSentences`
and `IncludeSectionContext`: one output per base chunk; the base chunks (own contents) are
valid UTF-8 and contain exactly the non-whitespace characters of the paragraphs in order; the
first output is its own content; every later output is its own content, or overlap + blank
line + own content, where the overlap is valid UTF-8, has at most `3·OverlapSize` bytes and
its non-whitespace characters are a suffix of those of the PREVIOUS chunk's own content. -/
theorem cwe_property (cl : Classes) (max min overlapSize : Nat) (sentences ctx : Bool)
    (paras : List Str) (hv : ∀ p ∈ paras, validUtf8 p = true) :
    let own := chunkParagraphDoc cl max min paras
    let out := chunkWithOverlapEnabled cl max min overlapSize sentences ctx paras
    out.length = own.length
    ∧ own.flatMap stripWs = paras.flatMap stripWs
    ∧ (∀ o ∈ own, validUtf8 o = true)
    ∧ (∀ t, own[0]? = some t → out[0]? = some { has := false, pref := [], text := t })
    ∧ ∀ i p t, own[i]? = some p → own[i + 1]? = some t →
        ∃ o, out[i + 1]? = some o
          ∧ o.text = (if o.pref = [] then t else o.pref ++ [10, 10] ++ t)
          ∧ validUtf8 o.pref = true
          ∧ o.pref.length ≤ 3 * overlapSize
          ∧ ∃ x, stripWs p = x ++ stripWs o.pref := by
  intro own out
  obtain ⟨hc, hval⟩ := chunk_conserves cl max min paras hv
  have hout : out = applyOverlapAux cl (chunkerOverlapConfig overlapSize sentences ctx) none
      (own.map fun t => (t, ([] : Str))) :=
    chunkWithOverlapEnabled_eq cl max min overlapSize sentences ctx paras
  have hitems : ∀ it ∈ own.map (fun t => (t, ([] : Str))), validUtf8 it.1 = true := by
    intro it hit
    obtain ⟨t, ht, e⟩ := List.mem_map.mp hit
    subst e; exact hval t ht
  obtain ⟨h1, h2, h3⟩ := Tabula.C13Overlap.apply_overlap_property cl
    (chunkerOverlapConfig overlapSize sentences ctx) _ hitems
  rw [← hout] at h1 h2 h3
  have hget : ∀ i t, own[i]? = some t → (own.map fun t => (t, ([] : Str)))[i]? = some (t, []) :=
    fun i t h => by rw [List.getElem?_map, h]; rfl
  refine ⟨by rw [h1, List.length_map], hc, hval, fun t ht => h2 (t, []) (hget 0 t ht), ?_⟩
  · intro i p t hp ht
    obtain ⟨o, e1, e2, e3, e4, e5, e6, e7⟩ := h3 i (p, []) (t, []) (hget i p hp) (hget (i + 1) t ht)
    refine ⟨o, e1, ?_, e5, ?_, e7⟩
    · rw [e4]
      split
      · rfl
      · simp
    · have : (chunkerOverlapConfig overlapSize sentences ctx).maxOverlap = overlapSize * 3 := rfl
      omega

/-- non-vacuity: two paragraphs, the second oversized (sentence packing), character overlap 6 -/
example :
    (chunkWithOverlapEnabled [] 30 3 6 false false
      ["Alpha beta.".toList.map Char.toNat,
       "One two three. Four five six. Seven eight.".toList.map Char.toNat]).map (fun o => (o.has, o.pref.length))
      = [(false, 0), (true, 5), (true, 4)] := by decide +kernel

end Tabula.C13Sentences
