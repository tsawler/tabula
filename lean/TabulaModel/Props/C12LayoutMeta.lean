import TabulaModel.Lemmas.ChunkLayoutX
import TabulaModel.Lemmas.ChunkLayoutTitle
import TabulaModel.Model.ChunkColl
/-!
# C12, layout-based chunker: the whole metadata of a chunk

`Model/ChunkLayoutX.lean` repeats the loops of `Chunker.Chunk` with the bookkeeping the code keeps
beside the text: the element types and the `HasList` flag of the chunk under construction, the
`Level` by the path that emits the chunk, and the section a chunk is made for (`SectionTitle`,
`HeadingLevel`); `CharCount`, `WordCount`, `EstimatedTokens` and `TextWithContext` are functions of
text and title.

* `layout_meta_refines`: forgetting all that gives the `chunk` every other theorem speaks about;
* `layout_meta_section`: every chunk carries `Path`, `PageStart`, `PageEnd` of the one section it is
  stamped with, and that section is a section `buildSections` made of the document — or the one
  section of `chunkByParagraphs` (document title, level 0, no path);
* `layout_title_formula`: `SectionTitle` is the last entry of the chunk's `SectionPath` (the document
  title in the fallback);
* `section_chunk_flags`: a section that fits into one chunk reports exactly the element types of its
  content, `HasList` exactly when it holds a list, `ChunkLevelSection`;
* `layout_flags_counterexample`: for a section that is split the flags are not always true of the
  chunk's content (a list kept with its introduction above the maximum lands in a chunk with
  `HasList == false`) — metadata the statement of C12 does not name; modelled as the code has it.
-/
namespace Tabula.C12LayoutMeta
open Tabula.Chunk Tabula.ChunkLayout Tabula.ChunkLayoutX Tabula.ChunkMeta

/-- **Forgetting section and bookkeeping gives `Chunker.Chunk`.** -/
theorem layout_meta_refines (cfg : Cfg) (title : Str) (d : LDoc) :
    (chunkX cfg title d).map (·.x.c) = chunk cfg title d := chunkX_proj cfg title d

/-- **Every chunk carries the metadata of one section of the document**: its `SectionPath`,
`PageStart`, `PageEnd` are those of the section it is stamped with (whose `Title` and `HeadingLevel`
it reports), and that section is one `buildSections` made — or the fallback section with the
document title, level 0 and no path. -/
theorem layout_meta_section (cfg : Cfg) (title : Str) (d : LDoc) :
    ∀ y ∈ chunkX cfg title d,
      (y.x.c.path = y.info.path ∧ y.x.c.pageStart = y.info.pageStart ∧ y.x.c.pageEnd = y.info.pageEnd) ∧
      ((∃ content, (y.info, content) ∈ flatForest (buildSections cfg d)) ∨
        (y.info.title = title ∧ y.info.level = 0 ∧ y.info.path = [])) := by
  intro y hy
  unfold chunkX at hy
  obtain ⟨y0, h0, e1, _, e3, e4, e5, _, _⟩ := mem_setTotalLX _ y hy
  rw [e1, e3, e4, e5]
  split at h0
  · obtain ⟨t1, t2, t3, t4⟩ := chunkByParagraphsX_info cfg title d y0 h0
    exact ⟨t4, Or.inr ⟨t1, t2, t3⟩⟩
  · rw [flatForestM_eq] at h0
    obtain ⟨hm, hp⟩ := chunkFlatX_info cfg _ 0 y0 h0
    exact ⟨hp, Or.inl hm⟩

/-- **`SectionTitle` as a function of the chunk**: the last entry of its `SectionPath`, nothing when
the path is empty — except in the fallback (no section yields a chunk), where it is the document
title. This is `ChunkColl.layoutTitle`. -/
theorem layout_title_formula (cfg : Cfg) (title : Str) (d : LDoc) :
    ∀ y ∈ chunkX cfg title d, y.title = Tabula.ChunkColl.layoutTitle cfg title d y.x.c := by
  intro y hy
  unfold chunkX at hy
  obtain ⟨y0, h0, e1, _, e3, _, _, _, _⟩ := mem_setTotalLX _ y hy
  unfold Tabula.ChunkColl.layoutTitle LXS.title
  rw [e1, e3, chunkForest_flat, ← chunkFlatX_isEmpty, ← flatForestM_eq]
  split at h0
  · rename_i he
    rw [if_pos he]
    exact (chunkByParagraphsX_info cfg title d y0 h0).1
  · rename_i he
    rw [if_neg he]
    rw [flatForestM_eq] at h0
    obtain ⟨⟨content, hm⟩, hp, _⟩ := chunkFlatX_info cfg _ 0 y0 h0
    rw [hp]
    exact (buildSections_shape cfg d _ hm).1

/-- **A section that fits into one chunk reports its content truly**: `ElementTypes` are the types
of its elements in order of first occurrence, `HasList` holds exactly when one of them is a list,
`Level` is `ChunkLevelSection`, and the text is the elements joined by blank lines. -/
theorem section_chunk_flags (cfg : Cfg) (info : SecInfo) (content : List CE) (idx : Nat)
    (hb : (trim (content.foldl (fun acc e => joinPara acc e.text) [])).isEmpty = false)
    (hfit : lenGt (content.foldl (fun acc e => joinPara acc e.text) []) cfg.maxSize = false) :
    chunkSectionX cfg info content idx =
      [⟨createChunk cfg info (content.foldl (fun acc e => joinPara acc e.text) []) idx,
        ⟨typesOf content, anyList content, 1⟩⟩] := by
  unfold chunkSectionX
  simp only [hb, hfit, Bool.false_eq_true, if_false, Bool.not_false, if_true]
  rfl

/-- a paragraph and a list under default sizes: one section chunk, types [Paragraph, List], `HasList` -/
example :
    let cfg : Cfg := ⟨2000, 100, 3, true, [99]⟩
    let d : LDoc := [⟨1, some ⟨[⟨1, [65], []⟩], [⟨[120], false, []⟩], [⟨[(0, [121])], []⟩]⟩⟩]
    (chunkX cfg [] d).map (fun y => (y.x.m.types, y.x.m.hasList, y.x.m.level, y.title, y.headingLevel)) =
      [([ofString "Paragraph", ofString "List"], true, 1, [65], 1)] := by decide +kernel

/-- **In a split section the flags need not be true of the chunk**: maximum 12, lists atomic; the
paragraph "a:" introduces the list "- bbbbbbbbbb" (12 bytes), together 18 bytes: the atomic block
is above the maximum, neither element alone is, so both go to `currentText` without a type or a
flag — the chunk that holds the list reports no element type and `HasList == false`. -/
theorem layout_flags_counterexample :
    let cfg : Cfg := ⟨12, 0, 3, true, [99]⟩
    let d : LDoc := [⟨1, some ⟨[], [⟨[120, 120, 120, 120, 120, 120, 120, 120], false, []⟩, ⟨[97, 58], true, []⟩],
      [⟨[(0, [98, 98, 98, 98, 98, 98, 98, 98, 98, 98])], []⟩]⟩⟩]
    (chunkX cfg [] d).map (fun y => (y.x.c.text, y.x.m.types, y.x.m.hasList)) =
      [([120, 120, 120, 120, 120, 120, 120, 120], [ofString "Paragraph"], false),
       ([97, 58, 10, 10, 45, 32, 98, 98, 98, 98, 98, 98, 98, 98, 98, 98], [], false)] := by decide +kernel

end Tabula.C12LayoutMeta
