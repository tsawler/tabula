import TabulaModel.Lemmas.PageSel
import TabulaModel.Props.C10Life
/-!
# C10 — page-level metadata of the layout operations

"Page-level metadata refers to the true source page" beyond `Document`/`Chunks`
(`Props/C10.lean: page_number_true`):

* `Headings()` stamps every heading with `PageIndex` = the 0-based index of the page it was
  detected on (`heading_page_index_true`);
* `Analyze()` / `Elements()` renumber `Index`/`ZOrder` so that the combined list is numbered
  0, 1, 2, … across the selected pages, which come in ascending page order
  (`analyze_index_sequential`).
-/
namespace Tabula.C10Meta
open Tabula.PageSel

/-- **heading_page_index_true**: `Pages(S).Headings()` is the per-page heading lists of the
pages of `S` in ascending page order, and every heading carries the index of the page it came
from: `(p, h)` is in the result only if `p` is a selected page and `h` one of ITS headings. -/
theorem heading_page_index_true {H : Type} (pg : Nat → Except E (List H)) (f : Nat → List H)
    (sel : List Int) (n : Nat) (hne : sel ≠ []) (hr : InRange sel n)
    (hpg : ∀ k, k < n → pg k = .ok (f k)) :
    extractHeadings pg sel n = .ok ((specPages sel n).map fun k => stampPage k (f k)).flatten ∧
    ∀ r, extractHeadings pg sel n = .ok r → ∀ p h, (p, h) ∈ r → p ∈ specPages sel n ∧ h ∈ f p := by
  have hres : extractHeadings pg sel n = .ok ((specPages sel n).map fun k => stampPage k (f k)).flatten := by
    unfold extractHeadings headingsOf
    rw [C10Life.resolve_valid sel n hne hr]
    apply fragmentsOf_ok
    intro k hk
    rw [readable_specPages hpg sel k hk]
  refine ⟨hres, ?_⟩
  intro r hr' p h hmem
  rw [hres] at hr'
  cases hr'
  simp only [List.mem_flatten, List.mem_map] at hmem
  obtain ⟨l, ⟨k, hk, rfl⟩, hin⟩ := hmem
  simp only [stampPage, List.mem_map, Prod.mk.injEq] at hin
  obtain ⟨h', hh', rfl, rfl⟩ := hin
  exact ⟨hk, hh'⟩

example : extractHeadings (fun k => .ok (if k = 1 then [] else [10 * k, 10 * k + 1])) [3, 1, 2] 3
    = .ok [(0, 0), (0, 1), (2, 20), (2, 21)] := by decide

theorem indexFrom_append {L : Type} (a b : List L) : ∀ s : Nat,
    indexFrom s (a ++ b) = indexFrom s a ++ indexFrom (s + a.length) b := by
  intro s
  simp only [indexFrom_eq_zipIdx, List.zipIdx_append, List.map_append]

theorem indexFrom_length {L : Type} (l : List L) : ∀ s : Nat, (indexFrom s l).length = l.length := by
  intro s
  simp only [indexFrom_eq_zipIdx, List.length_map, List.length_zipIdx]

theorem indexFrom_getElem? {L : Type} (l : List L) : ∀ (s j : Nat),
    (indexFrom s l)[j]? = (l[j]?).map fun x => (s + j, x) := by
  intro s j
  simp only [indexFrom_eq_zipIdx, List.getElem?_map, List.getElem?_zipIdx, Option.map_map]
  rfl

theorem foldl_renumber {L : Type} (ess : List (List L)) : ∀ acc : List (Nat × L),
    ess.foldl renumber acc = acc ++ indexFrom acc.length ess.flatten := by
  induction ess with
  | nil => intro acc; simp [indexFrom]
  | cons es ess ih =>
    intro acc
    rw [List.foldl_cons, ih]
    simp only [renumber, List.length_append, indexFrom_length, List.flatten_cons, indexFrom_append,
      List.append_assoc]

/-- **analyze_index_sequential**: the elements `Analyze()` (and `Elements()`) returns for a
selection are the per-page element lists of the selected pages, ascending, concatenated — and
element number `j` of the combined list carries `Index = ZOrder = j`. -/
theorem analyze_index_sequential {L : Type} (pg : Nat → Except E (List L)) (f : Nat → List L)
    (sel : List Int) (n : Nat) (hne : sel ≠ []) (hr : InRange sel n)
    (hpg : ∀ k, k < n → pg k = .ok (f k)) :
    ∃ r, extractAnalysis pg sel n = .ok r ∧
      r.map (·.2) = ((specPages sel n).map f).flatten ∧
      ∀ j : Nat, (r[j]?).map (·.1) = if j < r.length then some j else none := by
  have hcol := collect_ok pg f (specPages sel n) (readable_specPages hpg sel)
  have hemp : (specPages sel n).isEmpty = false :=
    List.isEmpty_eq_false_iff.mpr (C10Life.specPages_ne_nil sel n hne hr)
  refine ⟨indexFrom 0 ((specPages sel n).map f).flatten, ?_, ?_, ?_⟩
  · unfold extractAnalysis analyzeOf
    rw [C10Life.resolve_valid sel n hne hr]
    simp only [hemp, Bool.false_eq_true, if_false, hcol, foldl_renumber, List.nil_append, List.length_nil]
  · rw [indexFrom_eq_zipIdx, List.map_map]
    exact List.zipIdx_map_fst 0 _
  · intro j
    rw [indexFrom_getElem?, indexFrom_length]
    generalize ((specPages sel n).map f).flatten = l
    by_cases hj : j < l.length
    · rw [List.getElem?_eq_getElem hj, if_pos hj]; simp
    · have : l[j]? = none := List.getElem?_eq_none_iff.mpr (by omega)
      rw [this, if_neg hj]; rfl

example : extractAnalysis (fun k => .ok (List.replicate (k + 1) (100 + k))) [3, 1] 3
    = .ok [(0, 100), (1, 102), (2, 102), (3, 102)] := by decide

/-- `Analyze` on an empty document is "no pages to process", and a page outside the document
is the range error, as for `Document` -/
theorem analysis_errors {L : Type} (pg : Nat → Except E (List L)) (sel : List Int) (n : Nat) :
    extractAnalysis pg [] 0 = .error .nopages ∧
    (sel ≠ [] → ¬ InRange sel n → extractAnalysis pg sel n = .error .range) := by
  refine ⟨rfl, ?_⟩
  intro hne hr
  unfold extractAnalysis
  rw [C10Life.resolve_invalid sel n hne hr]

/-! ## cross-page summaries: `ReadingOrder().ColumnCount / PageWidth / PageHeight`, `Analyze().Stats` -/

/-- **reading_order_summary**: for a valid selection of readable pages, `ReadingOrder()` reports
as `ColumnCount` the LARGEST column count among the selected pages (and of no other page), and
as `PageWidth` / `PageHeight` the size of the
LOWEST selected page, under the hypothesis `hw` that every page has a non-zero width (the
implementation reads width 0 for a page without a usable MediaBox). -/
theorem reading_order_summary (pg : Nat → Except E ROPage) (f : Nat → ROPage)
    (sel : List Int) (n : Nat) (hne : sel ≠ []) (hr : InRange sel n)
    (hpg : ∀ k, k < n → pg k = .ok (f k)) (hw : ∀ k, k < n → (f k).w ≠ 0) :
    ∃ r k0 rest, extractReadingOrder pg sel n = .ok r ∧ specPages sel n = k0 :: rest ∧
      (∀ k ∈ specPages sel n, (f k).cols ≤ r.cols) ∧
      (r.cols = 0 ∨ ∃ k ∈ specPages sel n, (f k).cols = r.cols) ∧
      r.w = (f k0).w ∧ r.h = (f k0).h := by
  have hcol := collect_ok pg f (specPages sel n) (readable_specPages hpg sel)
  have hnil := C10Life.specPages_ne_nil sel n hne hr
  cases hsp : specPages sel n with
  | nil => exact absurd hsp hnil
  | cons k0 rest =>
    have hk0 : k0 < n := ((mem_specPages sel n k0).mp (by rw [hsp]; exact List.mem_cons_self)).1
    refine ⟨((k0 :: rest).map f).foldl roStep ⟨0, 0, 0⟩, k0, rest, ?_, rfl, ?_, ?_, ?_⟩
    · rw [hsp] at hcol
      unfold extractReadingOrder readingOrderOf
      rw [C10Life.resolve_valid sel n hne hr, hsp]
      simp only [List.isEmpty_cons, Bool.false_eq_true, if_false, hcol]
    · exact fun k hk => (foldl_roStep_cols _ _).2.1 _ (List.mem_map_of_mem hk)
    · rcases (foldl_roStep_cols ((k0 :: rest).map f) ⟨0, 0, 0⟩).2.2 with h | ⟨p, hp, h⟩
      · exact .inl h
      · obtain ⟨k, hk, rfl⟩ := List.mem_map.mp hp
        exact .inr ⟨k, hk, h⟩
    · have := foldl_dims_first roStep (fun r => (r.w, r.h)) (fun p => (p.w, p.h))
        (fun a p => by simp only [roStep]; split <;> rfl) ⟨0, 0, 0⟩ (f k0) (rest.map f) rfl (hw k0 hk0)
      exact ⟨congrArg Prod.fst this, congrArg Prod.snd this⟩

example : extractReadingOrder (fun k => .ok ⟨k % 3, 600 + k, 800⟩) [4, 2, 4] 5 = .ok ⟨1, 601, 800⟩ := by decide

theorem foldl_anStep_proj (π : AStats → Nat) (hπ : ∀ a b, π (a.add b) = π a + π b) (ps : List APage) :
    ∀ acc : ASummary, π (ps.foldl anStep acc).stats = π acc.stats + (ps.map fun p => π p.stats).sum := by
  induction ps with
  | nil => intro acc; simp
  | cons p ps ih =>
    intro acc
    simp only [List.foldl_cons, List.map_cons, List.sum_cons]
    rw [ih]
    simp only [anStep, hπ]
    omega

theorem foldl_anStep_col (ps : List APage) : ∀ acc : ASummary, (ps.foldl anStep acc).colCount = acc.colCount := by
  induction ps with
  | nil => intro acc; rfl
  | cons p ps ih => intro acc; simp only [List.foldl_cons]; rw [ih]; rfl

/-- **analysis_stats_sum**: for a valid selection of readable pages every counter of
`Analyze().Stats` is the SUM of that counter over the selected pages — each page once, however
often the selection names it — `Stats.ColumnCount` is 0 (the code never assigns it), and the
page size is that of the lowest selected page (under the same hypothesis `hw` as above). -/
theorem analysis_stats_sum (pg : Nat → Except E APage) (f : Nat → APage)
    (sel : List Int) (n : Nat) (hne : sel ≠ []) (hr : InRange sel n)
    (hpg : ∀ k, k < n → pg k = .ok (f k)) (hw : ∀ k, k < n → (f k).w ≠ 0) :
    ∃ r k0 rest, extractAnalysisSummary pg sel n = .ok r ∧ specPages sel n = k0 :: rest ∧
      r.stats.frag = ((specPages sel n).map fun k => (f k).stats.frag).sum ∧
      r.stats.line = ((specPages sel n).map fun k => (f k).stats.line).sum ∧
      r.stats.block = ((specPages sel n).map fun k => (f k).stats.block).sum ∧
      r.stats.para = ((specPages sel n).map fun k => (f k).stats.para).sum ∧
      r.stats.head = ((specPages sel n).map fun k => (f k).stats.head).sum ∧
      r.stats.list = ((specPages sel n).map fun k => (f k).stats.list).sum ∧
      r.stats.elem = ((specPages sel n).map fun k => (f k).stats.elem).sum ∧
      r.colCount = 0 ∧ r.w = (f k0).w ∧ r.h = (f k0).h := by
  have hcol := collect_ok pg f (specPages sel n) (readable_specPages hpg sel)
  have hnil := C10Life.specPages_ne_nil sel n hne hr
  cases hsp : specPages sel n with
  | nil => exact absurd hsp hnil
  | cons k0 rest =>
    have hk0 : k0 < n := ((mem_specPages sel n k0).mp (by rw [hsp]; exact List.mem_cons_self)).1
    have proj : ∀ (π : AStats → Nat), (∀ a b, π (a.add b) = π a + π b) → π ⟨0, 0, 0, 0, 0, 0, 0⟩ = 0 →
        π (((k0 :: rest).map f).foldl anStep ⟨⟨0, 0, 0, 0, 0, 0, 0⟩, 0, 0, 0⟩).stats =
          ((k0 :: rest).map fun k => π (f k).stats).sum := by
      intro π hπ h0
      rw [foldl_anStep_proj π hπ, h0, List.map_map, Nat.zero_add]
      rfl
    refine ⟨((k0 :: rest).map f).foldl anStep ⟨⟨0, 0, 0, 0, 0, 0, 0⟩, 0, 0, 0⟩, k0, rest, ?_, rfl,
      proj (·.frag) (fun _ _ => rfl) rfl, proj (·.line) (fun _ _ => rfl) rfl,
      proj (·.block) (fun _ _ => rfl) rfl, proj (·.para) (fun _ _ => rfl) rfl,
      proj (·.head) (fun _ _ => rfl) rfl, proj (·.list) (fun _ _ => rfl) rfl,
      proj (·.elem) (fun _ _ => rfl) rfl, foldl_anStep_col _ _, ?_⟩
    · rw [hsp] at hcol
      unfold extractAnalysisSummary analysisSummaryOf
      rw [C10Life.resolve_valid sel n hne hr, hsp]
      simp only [List.isEmpty_cons, Bool.false_eq_true, if_false, hcol]
    · have := foldl_dims_first anStep (fun r => (r.w, r.h)) (fun p => (p.w, p.h))
        (fun a p => by simp only [anStep]; split <;> rfl) ⟨⟨0, 0, 0, 0, 0, 0, 0⟩, 0, 0, 0⟩ (f k0)
        (rest.map f) rfl (hw k0 hk0)
      exact ⟨congrArg Prod.fst this, congrArg Prod.snd this⟩

example : extractAnalysisSummary (fun k => .ok ⟨⟨k, 1, 1, 1, 0, 0, 2⟩, 600 + k, 800⟩) [3, 1, 3] 3
    = .ok ⟨⟨2, 2, 2, 2, 0, 0, 4⟩, 0, 600, 800⟩ := by decide

/-- the summaries fail as the operations do: nothing to process, or the range error -/
theorem summary_errors (pr : Nat → Except E ROPage) (pa : Nat → Except E APage) (sel : List Int) (n : Nat) :
    extractReadingOrder pr [] 0 = .error .nopages ∧ extractAnalysisSummary pa [] 0 = .error .nopages ∧
    (sel ≠ [] → ¬ InRange sel n →
      extractReadingOrder pr sel n = .error .range ∧ extractAnalysisSummary pa sel n = .error .range) := by
  refine ⟨rfl, rfl, ?_⟩
  intro hne hr
  unfold extractReadingOrder extractAnalysisSummary
  rw [C10Life.resolve_invalid sel n hne hr]
  exact ⟨rfl, rfl⟩

end Tabula.C10Meta
