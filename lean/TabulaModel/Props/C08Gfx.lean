import TabulaModel.Lemmas.GPath
import TabulaModel.Lemmas.GState
/-!
# C08 — the graphics extractor: paths, lines and rectangles under the CTM

`Props/C08.lean` has one statement about the graphics extractor (`gfx_cm_premultiplies`, for
one-segment paths).  This file is about the model of the whole path machinery
(`Model/GPath.lean`: path construction m l c v y h re, painting S s f F f* B B* b b* n,
rectangle detection, line extraction, bounding boxes, orientation flags, the two filters,
q Q cm w and the operand checks):

* every reported line is the image under the CTM in force when the path is PAINTED of a
  user-space segment that does not depend on the CTM; `cm` pre-multiplies for whole paths;
* every `re` that is painted (S s f F f* B B* b b*) is reported as one rectangle whose box is
  the exact bounding box of the CTM images of its four corners — for every corner, width,
  height (negative and zero included) and every CTM;
* bounding boxes are exact (contain the points, every side is attained, sizes ≥ 0);
* orientation flags under axis-parallel and quarter-turn CTMs;
* q/Q: balanced programs restore CTM and line width and never fail; `Extract` fails exactly
  when a counter of q and Q underflows, and what was collected before stays;
* the model of `Props/C08.lean` (`GState.gfx`) is the restriction of this one.

Over any commutative ring with a decidable order; the order statements over any linearly
ordered commutative ring.
-/
namespace Tabula.C08Gfx
open Tabula Tabula.Matrix Tabula.GPath Tabula.XDoc

variable {α : Type}

section
variable [Lean.Grind.CommRing α] [DecidableEq α] [LT α] [DecidableLT α]

/-- a reported line: both end points through the CTM, the current line width -/
theorem line_endpoints_through_ctm (ctm : Matrix α) (lw : α) (a b : Pt α) :
    (createLine ctm lw a b).p0 = ctm.transformPoint a ∧ (createLine ctm lw a b).p1 = ctm.transformPoint b ∧
      (createLine ctm lw a b).width = lw := ⟨rfl, rfl, rfl⟩

/-- **cm pre-multiplies, for a line with everything derived from it** (flags, box): under
`M × C` a segment is reported exactly as its image under `M` is reported under `C` -/
theorem line_cm_premultiplies (M C : Matrix α) (lw : α) (a b : Pt α) :
    createLine (M.mul C) lw a b = createLine C lw (M.transformPoint a) (M.transformPoint b) := by
  simp only [createLine, transformPoint_mul]

/-- **the lines of a stroked path**: `extractLineSegments` reports, in order, the CTM images
of the user-space segments of the path — consecutive points, a curve as its chord, a
`closepath` as the segment back to the start of the subpath unless that is shorter than 0.1
in both coordinates — and which segments there are does not depend on the CTM. -/
theorem stroke_lines_through_ctm (ctm : Matrix α) (lw : α) (segs : List (Seg α)) (cur start : Pt α) :
    lineSegments ctm lw segs cur start =
      (userSegments segs cur start).map fun pq => createLine ctm lw pq.1 pq.2 := by
  induction segs generalizing cur start with
  | nil => rfl
  | cons sg rest ih =>
    cases sg with
    | move p => simp only [lineSegments, userSegments, ih]
    | line p => simp only [lineSegments, userSegments, ih, List.map_cons]
    | curve p1 p2 p3 => simp only [lineSegments, userSegments, ih, List.map_cons]
    | close =>
      simp only [lineSegments, userSegments]
      split <;> simp [ih]

/-- **cm pre-multiplies, for whole paths**: stroking a path under `M × C` reports the lines
that stroking its image under `M` reports under `C` -/
theorem stroke_cm_premultiplies (M C : Matrix α) (lw : α) (segs : List (Seg α)) (cur start : Pt α) :
    lineSegments (M.mul C) lw segs cur start =
      (userSegments segs cur start).map fun pq =>
        createLine C lw (M.transformPoint pq.1) (M.transformPoint pq.2) := by
  rw [stroke_lines_through_ctm]
  simp only [line_cm_premultiplies]

/-- `cm` changes the CTM by pre-multiplication and nothing else: not the path under
construction, not what has been collected, not the stack -/
theorem cm_premultiplies_gfx (M : Matrix α) (s : PState α) :
    ∃ s', step (.cm M) s = some s' ∧ (∀ p, s'.gs.ctm.transformPoint p = s.gs.ctm.transformPoint (M.transformPoint p)) ∧
      s'.gs.lw = s.gs.lw ∧ s'.path = s.path ∧ s'.lines = s.lines ∧ s'.rects = s.rects ∧ s'.stack = s.stack :=
  ⟨_, rfl, fun p => transformPoint_mul M s.gs.ctm p, rfl, rfl, rfl, rfl, rfl⟩

/-- the painting operators -/
def Paints : POp α → Prop
  | .S | .s | .f | .B | .b | .n => True
  | _ => False

omit [DecidableEq α] in
theorem paint_path (stroked filled : Bool) (s : PState α) :
    (paint stroked filled s).path = s.path.clear ∧ (paint stroked filled s).gs = s.gs ∧
      (paint stroked filled s).stack = s.stack := by
  unfold paint
  split
  · exact ⟨rfl, rfl, rfl⟩
  · split
    · exact ⟨rfl, rfl, rfl⟩
    · split <;> exact ⟨rfl, rfl, rfl⟩

/-- **every painting operator ends the path**: afterwards the path is empty and has no
current point (so the next `l` starts a new subpath), whatever was or was not reported; the
graphics state and the stack are untouched -/
theorem paint_ends_path (op : POp α) (hop : Paints op) (s : PState α) :
    ∃ s', step op s = some s' ∧ s'.path.segs = [] ∧ s'.path.has = false ∧ s'.gs = s.gs ∧ s'.stack = s.stack := by
  have hp : ∀ st fi (t : PState α), t.gs = s.gs → t.stack = s.stack →
      ∃ s', some (paint st fi t) = some s' ∧ s'.path.segs = [] ∧ s'.path.has = false ∧ s'.gs = s.gs ∧
        s'.stack = s.stack := fun st fi t h1 h2 =>
    have ⟨a, b, c⟩ := paint_path st fi t
    ⟨_, rfl, by rw [a]; rfl, by rw [a]; rfl, b.trans h1, c.trans h2⟩
  cases op with
  | S | f | B => exact hp _ _ s rfl rfl
  | s | b => exact hp _ _ _ rfl rfl
  | n => exact ⟨_, rfl, rfl, rfl, rfl, rfl⟩
  | _ => exact hop.elim

theorem n_reports_nothing (s : PState α) :
    ∃ s', step .n s = some s' ∧ s'.lines = s.lines ∧ s'.rects = s.rects := ⟨_, rfl, rfl, rfl⟩

/-- the CTM that counts is the one in force when the path is painted (ISO 32000-1 8.5.2.1
transforms at construction time and forbids `cm` inside a path object, so conforming content
cannot tell): `0 0 m 10 0 l 2 0 0 2 0 0 cm S` reports (0,0)–(20,0) -/
example : ((run [.m 0 0, .l 10 0, .cm ⟨2, 0, 0, 2, 0, 0⟩, .S] (init : PState Int)).1.lines.map
    fun l => (l.p0, l.p1)) = [((0, 0), (20, 0))] := by decide

/-- the operators that are neither `q` nor `Q` -/
def Plain : POp α → Prop
  | .q | .Q => False
  | _ => True

theorem step_plain (op : POp α) (hp : Plain op) (s : PState α) :
    ∃ s', step op s = some s' ∧ s'.stack = s.stack := by
  cases op with
  | q | Q => exact hp.elim
  | S | s | f | B | b => exact ⟨_, rfl, (paint_path _ _ _).2.2⟩
  | _ => exact ⟨_, rfl, rfl⟩

theorem run_append (a b : List (POp α)) (s : PState α) :
    run (a ++ b) s = if (run a s).2 then run a s else run b (run a s).1 := by
  induction a generalizing s with
  | nil => simp [run]
  | cons op rest ih =>
    cases hst : step op s with
    | none => simp [run, hst]
    | some s' =>
      simp only [List.cons_append, run, hst]
      exact ih s'

/-- the counter `Extract` fails on: the number of states saved and not yet restored -/
def underflows : List (POp α) → Nat → Bool
  | [], _ => false
  | .q :: rest, d => underflows rest (d + 1)
  | .Q :: rest, 0 => true
  | .Q :: rest, d + 1 => underflows rest d
  | _ :: rest, d => underflows rest d

/-- **`Extract` fails exactly when the q/Q counter underflows**: for every operation
sequence (paths, painting, anything in between) and every extractor state, the error
"graphics state stack underflow" is raised iff, counting up at every `q` and down at every
`Q` from the current stack depth, a `Q` meets the count 0 -/
theorem run_fails_iff_counter (ops : List (POp α)) (s : PState α) :
    (run ops s).2 = underflows ops s.stack.length := by
  induction ops generalizing s with
  | nil => rfl
  | cons op rest ih =>
    by_cases hp : Plain op
    · obtain ⟨s', h1, h2⟩ := step_plain op hp s
      have hu : underflows (op :: rest) s.stack.length = underflows rest s.stack.length := by
        cases op <;> first | rfl | exact hp.elim
      rw [run, h1, hu, ih, h2]
    · cases op <;> simp only [Plain, not_true_eq_false, not_false_eq_true] at hp
      · simp only [run, step, underflows]
        rw [ih]; rfl
      · cases hst : s.stack with
        | nil => simp [run, step, hst, underflows]
        | cons g rest' =>
          simp only [run, step, hst, underflows, List.length_cons]
          rw [ih]

/-- **what was collected before the error stays**: when `Extract` fails, the operations
split at a `Q` that found the stack empty; the extractor is in the state the operations
before that `Q` left, with every line and rectangle reported so far -/
theorem run_error_keeps_prefix (ops : List (POp α)) (s : PState α) (h : (run ops s).2 = true) :
    ∃ a b, ops = a ++ POp.Q :: b ∧ run a s = ((run ops s).1, false) ∧ (run ops s).1.stack = [] := by
  induction ops generalizing s with
  | nil => simp [run] at h
  | cons op rest ih =>
    cases hstep : step op s with
    | none =>
      have hQ : op = POp.Q ∧ s.stack = [] := by
        cases op <;> simp only [step] at hstep <;> try (exact absurd hstep (by simp))
        cases hst : s.stack with
        | nil => exact ⟨rfl, rfl⟩
        | cons g r => rw [hst] at hstep; simp at hstep
      obtain ⟨rfl, hst⟩ := hQ
      refine ⟨[], rest, rfl, ?_, ?_⟩ <;> simp [run, hstep, hst]
    | some s' =>
      have hr : run (op :: rest) s = run rest s' := by simp [run, hstep]
      rw [hr] at h ⊢
      obtain ⟨a, b, h1, h2, h3⟩ := ih s' h
      refine ⟨op :: a, b, by rw [h1]; rfl, ?_, h3⟩
      simp [run, hstep, h2]

/-- balanced sequences: every `Q` closes a `q` of the same sequence -/
inductive Balanced : List (POp α) → Prop where
  | nil : Balanced []
  | plain (op : POp α) (rest : List (POp α)) : Plain op → Balanced rest → Balanced (op :: rest)
  | qQ (body rest : List (POp α)) : Balanced body → Balanced rest →
      Balanced (POp.q :: (body ++ POp.Q :: rest))

theorem balanced_run {ops : List (POp α)} (hb : Balanced ops) :
    ∀ s : PState α, (run ops s).2 = false ∧ (run ops s).1.stack = s.stack := by
  induction hb with
  | nil => intro s; exact ⟨rfl, rfl⟩
  | plain op rest hp _ ih =>
    intro s
    obtain ⟨s', h1, h2⟩ := step_plain op hp s
    simp only [run, h1]
    rw [← h2]; exact ih s'
  | qQ body rest _ _ ihb ihr =>
    intro s
    obtain ⟨b1, b2⟩ := ihb { s with stack := s.gs :: s.stack }
    simp only [run, step]
    rw [run_append, b1]
    simp only [Bool.false_eq_true, if_false, run, step, b2]
    exact ihr _

/-- **q … Q restores the graphics state exactly**: for every balanced operation sequence
`ops` (nested q/Q, cm, w, paths and painting in any order), `q ops Q` does not fail and ends
with the CTM, the line width and the stack it started with.  (The path under construction
and what was collected are not part of the graphics state: they are what `ops` made them.) -/
theorem qQ_restores_gfx (ops : List (POp α)) (hb : Balanced ops) (s : PState α) :
    let r := run (POp.q :: (ops ++ [POp.Q])) s
    r.2 = false ∧ r.1.gs = s.gs ∧ r.1.stack = s.stack ∧
      r.1.path = (run ops { s with stack := s.gs :: s.stack }).1.path ∧
      r.1.lines = (run ops { s with stack := s.gs :: s.stack }).1.lines ∧
      r.1.rects = (run ops { s with stack := s.gs :: s.stack }).1.rects := by
  intro r
  obtain ⟨b1, b2⟩ := balanced_run hb { s with stack := s.gs :: s.stack }
  have hr : r = ({ (run ops { s with stack := s.gs :: s.stack }).1 with gs := s.gs, stack := s.stack }, false) := by
    show run (POp.q :: (ops ++ [POp.Q])) s = _
    simp only [run, step]
    rw [run_append, b1]
    simp only [Bool.false_eq_true, if_false, run, step, b2]
  rw [hr]
  exact ⟨rfl, rfl, rfl, rfl, rfl, rfl⟩

/-- the hypothesis is satisfiable by a non-trivial sequence: a table cell border drawn under
a scaled CTM inside q/Q, nested once more -/
example : Balanced ([.w 2, .q, .cm ⟨2, 0, 0, 2, 10, 10⟩, .re 0 0 50 20, .S, .q, .cm ⟨0, 1, -1, 0, 0, 0⟩, .m 0 0, .l 5 0, .S, .Q, .Q,
    .m 1 1, .l 2 2, .S] : List (POp Int)) :=
  .plain _ _ trivial (.qQ [.cm ⟨2, 0, 0, 2, 10, 10⟩, .re 0 0 50 20, .S, .q, .cm ⟨0, 1, -1, 0, 0, 0⟩, .m 0 0, .l 5 0, .S, .Q] _
    (.plain _ _ trivial (.plain _ _ trivial (.plain _ _ trivial
      (.qQ [.cm ⟨0, 1, -1, 0, 0, 0⟩, .m 0 0, .l 5 0, .S] []
        (.plain _ _ trivial (.plain _ _ trivial (.plain _ _ trivial (.plain _ _ trivial .nil)))) .nil))))
    (.plain _ _ trivial (.plain _ _ trivial (.plain _ _ trivial .nil))))

/-- the operations `GraphicsExtractor` sees of a program of `Model/GState.lean`: a `line`
is `m l S`; the text operators and `Do` have no case in its `switch` -/
def toPath : List (GState.Op α) → List (POp α)
  | [] => []
  | .q :: rest => .q :: toPath rest
  | .Q :: rest => .Q :: toPath rest
  | .cm m :: rest => .cm m :: toPath rest
  | .line x0 y0 x1 y1 :: rest => .m x0 y0 :: .l x1 y1 :: .S :: toPath rest
  | _ :: rest => toPath rest

def lineSeg (l : Line α) : GState.Seg α := ⟨l.p0.1, l.p0.2, l.p1.1, l.p1.2⟩

/-- the two states describe the same extractor -/
def Agree (s : GState.State α) (ps : PState α) : Prop :=
  ps.gs.ctm = s.cur.ctm ∧ ps.stack.map (·.ctm) = s.stack.map (·.ctm) ∧ ps.path.segs = []

/-- the extractor after `x0 y0 m x1 y1 l S` on an empty path -/
def afterLine (ps : PState α) (x0 y0 x1 y1 : α) : PState α :=
  { ps with path := (((ps.path.moveTo (x0, y0)).lineTo (x1, y1))).clear,
            lines := ps.lines ++ [createLine ps.gs.ctm ps.gs.lw (x0, y0) (x1, y1)] }

omit [DecidableEq α] in
theorem one_line (x0 y0 x1 y1 : α) (ps : PState α) (hp : ps.path.segs = []) :
    run [.m x0 y0, .l x1 y1, .S] ps = (afterLine ps x0 y0 x1 y1, false) := by
  simp [run, step, onPath, Path.moveTo, Path.lineTo, paint, hp, detectRectangle, lineSegments, Path.clear,
    afterLine]

/-- **gfx_refines**: on every program of `Model/GState.lean` (any q/Q/cm/line sequence, any
other operators in between) the line end points of this model are those of `GState.gfx`,
and both fail together -/
theorem gfx_refines (ops : List (GState.Op α)) (s : GState.State α) (ps : PState α) (h : Agree s ps) :
    match GState.gfx ops s with
    | none => (run (toPath ops) ps).2 = true
    | some segs => (run (toPath ops) ps).2 = false ∧
        (run (toPath ops) ps).1.lines.map lineSeg = ps.lines.map lineSeg ++ segs := by
  fun_induction GState.gfx ops s generalizing ps with
  | case1 s => exact ⟨rfl, (List.append_nil _).symm⟩
  | case2 rest s ih =>
    -- `q`
    obtain ⟨h1, h2, h3⟩ := h
    exact ih { ps with stack := ps.gs :: ps.stack }
      ⟨h1, by simp only [List.map_cons, h1, h2, GState.State.save], h3⟩
  | case3 rest s s' hr ih =>
    -- `Q` on a non-empty stack: both stacks have a top, by `h2`
    obtain ⟨h1, h2, h3⟩ := h
    obtain ⟨c, st, d⟩ := s
    obtain ⟨g, pst, pa, li, re⟩ := ps
    cases st with
    | nil => cases hr
    | cons f fs =>
      cases hr
      cases pst with
      | nil => cases h2
      | cons g gs =>
        obtain ⟨h4, h5⟩ := List.cons.inj h2
        exact ih ⟨g, gs, pa, li, re⟩ ⟨h4, h5, h3⟩
  | case4 rest s hr =>
    -- `Q` on the empty stack: both fail
    obtain ⟨h1, h2, h3⟩ := h
    obtain ⟨c, st, d⟩ := s
    obtain ⟨g, pst, pa, li, re⟩ := ps
    cases st with
    | nil =>
      cases pst with
      | nil => rfl
      | cons g gs => cases h2
    | cons f fs => cases hr
  | case5 m rest s ih =>
    -- `cm`
    obtain ⟨h1, h2, h3⟩ := h
    exact ih { ps with gs := { ps.gs with ctm := m.mul ps.gs.ctm } } ⟨congrArg (m.mul ·) h1, h2, h3⟩
  | case6 x0 y0 x1 y1 rest s p q ih =>
    -- a line is `m l S` on an empty path
    obtain ⟨h1, h2, h3⟩ := h
    have hrun : run (toPath (GState.Op.line x0 y0 x1 y1 :: rest)) ps
        = run (toPath rest) (afterLine ps x0 y0 x1 y1) := by
      show run ([.m x0 y0, .l x1 y1, .S] ++ toPath rest) ps = _
      rw [run_append, one_line x0 y0 x1 y1 ps h3]
      rfl
    have := ih (afterLine ps x0 y0 x1 y1) ⟨h1, h2, rfl⟩
    rw [hrun]
    cases hg : GState.gfx rest s with
    | none => rw [hg] at this; exact this
    | some segs =>
      rw [hg] at this
      refine ⟨this.1, ?_⟩
      rw [this.2]
      simp [lineSeg, createLine, h1, afterLine, p, q]
  | case7 op rest s hq hQ hcm hl ih =>
    -- every other operator is skipped by both extractors
    have e : toPath (op :: rest) = toPath rest := by
      rw [toPath]
      · exact hq
      · exact hQ
      · exact hcm
      · exact hl
    rw [e]
    exact ih ps h

/-- the two models start in agreeing states -/
example : Agree (GState.init : GState.State Int) (init : PState Int) := ⟨rfl, rfl, rfl⟩

end

section
variable [Lean.Grind.CommRing α] [DecidableEq α] [LE α] [LT α] [DecidableLT α]
  [Std.IsLinearOrder α] [Std.LawfulOrderLT α] [Lean.Grind.OrderedRing α]

/-- the five operators that paint (everything but `n`), with their two flags -/
def paintFlags : POp α → Option (Bool × Bool)
  | .S | .s => some (true, false)
  | .f => some (false, true)
  | .B | .b => some (true, true)
  | _ => none

omit [DecidableEq α] [LE α] [Std.IsLinearOrder α] [Std.LawfulOrderLT α] [Lean.Grind.OrderedRing α] in
/-- a quadrilateral `a m b l c l d l h` on an empty path whose corners pass `isRectangle`,
painted (`s` and `b` close it once more first): one rectangle, the bounding box of the CTM
images of the corners; no line; the path ended -/
theorem quad_painted (op : POp α) (fl : Bool × Bool) (hop : paintFlags op = some fl) (s : PState α)
    (a b c d : Pt α) (hs : s.path.segs = []) (hrect : isRectangle a b c d = true) :
    step op (onPath s fun p => ((((p.moveTo a).lineTo b).lineTo c).lineTo d).closePath) =
      some { s with
        path := { segs := [], cur := a, start := a, has := false }
        rects := s.rects ++
          [{ bbox := boundingBox ([a, b, c, d].map s.gs.ctm.transformPoint),
             strokeWidth := if fl.1 then s.gs.lw else 0, filled := fl.2, stroked := fl.1 }] } := by
  rw [onPath, Path.quad, hs]
  cases op <;> simp only [paintFlags, Option.some.injEq, reduceCtorEq] at hop <;> subst hop <;>
    simp [step, onPath, Path.closePath, paint, detectRectangle, cornersOf, hrect, Path.clear]

/-- **every painted `re` is reported as one rectangle**: for every corner `(x,y)`, every
width and height (negative and zero included), every CTM and each of S s f F f* B B* b b*,
`x y w h re` on an empty path followed by the painting operator appends exactly one
rectangle — its box is the bounding box of the CTM images of the four corners, its flags
are the operator's, its stroke width is the current line width when stroked — reports no
line, and ends the path. -/
theorem re_reported (x y w h : α) (op : POp α) (fl : Bool × Bool) (hop : paintFlags op = some fl)
    (s : PState α) (hs : s.path.segs = []) :
    ∃ s', run [.re x y w h, op] s = (s', false) ∧ s'.lines = s.lines ∧
      s'.rects = s.rects ++
        [{ bbox := boundingBox ([(x, y), (x + w, y), (x + w, y + h), (x, y + h)].map s.gs.ctm.transformPoint),
           strokeWidth := if fl.1 then s.gs.lw else 0, filled := fl.2, stroked := fl.1 }] ∧
      s'.path.segs = [] ∧ s'.path.has = false ∧ s'.gs = s.gs ∧ s'.stack = s.stack := by
  exact ⟨_, (run_cons_some (rfl : step (.re x y w h) s = some _) _).trans
    (run_cons_some (quad_painted op fl hop s _ _ _ _ hs (isRectangle_axis x y w h)) _), rfl, rfl, rfl, rfl, rfl, rfl⟩

/-- **every rectangle drawn as a closed polygon is reported as one rectangle**, in any
orientation: `p m  p+u l  p+u+v l  p+v l  h` with orthogonal `u`, `v` (any lengths), painted
by S, f or B on an empty path, appends exactly one rectangle — the bounding box of the CTM
images of the four corners — and no line. -/
theorem rectangle_polygon_reported (p u v : Pt α) (horth : u.1 * v.1 + u.2 * v.2 = 0) (op : POp α)
    (fl : Bool × Bool) (hop : op = .S ∧ fl = (true, false) ∨ op = .f ∧ fl = (false, true) ∨ op = .B ∧ fl = (true, true))
    (s : PState α) (hs : s.path.segs = []) :
    ∃ s', run [.m p.1 p.2, .l (p.1 + u.1) (p.2 + u.2), .l (p.1 + u.1 + v.1) (p.2 + u.2 + v.2),
        .l (p.1 + v.1) (p.2 + v.2), .h, op] s = (s', false) ∧ s'.lines = s.lines ∧
      s'.rects = s.rects ++
        [{ bbox := boundingBox ([p, (p.1 + u.1, p.2 + u.2), (p.1 + u.1 + v.1, p.2 + u.2 + v.2), (p.1 + v.1, p.2 + v.2)].map
              s.gs.ctm.transformPoint),
           strokeWidth := if fl.1 then s.gs.lw else 0, filled := fl.2, stroked := fl.1 }] := by
  have hfl : paintFlags op = some fl := by rcases hop with ⟨rfl, rfl⟩ | ⟨rfl, rfl⟩ | ⟨rfl, rfl⟩ <;> rfl
  exact ⟨_, (run_quad p (_, _) (_, _) (_, _) [op] s).trans
    (run_cons_some (quad_painted op fl hfl s _ _ _ _ hs (isRectangle_of_orthogonal p u v horth)) _), rfl, rfl⟩

/-- the hypotheses are satisfiable: a 5 × 10 rectangle turned by atan(4/3) under a scaling
CTM; its box is the box of the four images -/
example : (3 : Int) * (-8) + 4 * 6 = 0 ∧
    (run [.cm ⟨2, 0, 0, 2, 0, 0⟩, .m 10 10, .l 13 14, .l 5 20, .l 2 16, .h, .B] (init : PState Int)).1.rects.map (·.bbox)
      = [⟨4, 20, 22, 20⟩] := by decide

/-- **bounding boxes are exact**: the box `boundingBoxFromPoints` computes contains every
point, each of its four sides passes through one of the points, and its sizes are not
negative -/
theorem boundingBox_exact (p : Pt α) (rest : List (Pt α)) :
    let bb := boundingBox (p :: rest)
    (∀ q ∈ p :: rest, bb.x ≤ q.1 ∧ q.1 ≤ bb.x + bb.w ∧ bb.y ≤ q.2 ∧ q.2 ≤ bb.y + bb.h) ∧
      (∃ q ∈ p :: rest, bb.x = q.1) ∧ (∃ q ∈ p :: rest, bb.x + bb.w = q.1) ∧
      (∃ q ∈ p :: rest, bb.y = q.2) ∧ (∃ q ∈ p :: rest, bb.y + bb.h = q.2) ∧ 0 ≤ bb.w ∧ 0 ≤ bb.h := by
  simp only [boundingBox, bboxLoop_eq, add_sub_self]
  -- each side is a running minimum (order `≤`) or maximum (order `≥`) over one coordinate
  have hmin := foldl_select (α := α) Std.le_refl Std.le_trans min2_le
  have hmax := foldl_select (α := α) (le := fun a b => b ≤ a) Std.le_refl (fun h1 h2 => Std.le_trans h2 h1) le_max2
  obtain ⟨a1, a2, a3⟩ := hmin (rest.map (·.1)) p.1
  obtain ⟨b1, b2, b3⟩ := hmax (rest.map (·.1)) p.1
  obtain ⟨c1, c2, c3⟩ := hmin (rest.map (·.2)) p.2
  obtain ⟨d1, d2, d3⟩ := hmax (rest.map (·.2)) p.2
  have ex : ∀ (f : Pt α → α) (v : α), (v = f p ∨ v ∈ rest.map f) → ∃ q ∈ p :: rest, v = f q := by
    intro f v hv
    rcases hv with h | h
    · exact ⟨p, List.mem_cons_self, h⟩
    · obtain ⟨q, hq, hqv⟩ := List.mem_map.mp h
      exact ⟨q, List.mem_cons_of_mem _ hq, hqv.symm⟩
  refine ⟨?_, ex (·.1) _ a3, ex (·.1) _ b3, ex (·.2) _ c3, ex (·.2) _ d3,
    sub_nonneg_of_le a1 b1, sub_nonneg_of_le c1 d1⟩
  intro q hq
  rcases List.mem_cons.mp hq with rfl | hm
  · exact ⟨a1, b1, c1, d1⟩
  · exact ⟨a2 _ (List.mem_map_of_mem hm), b2 _ (List.mem_map_of_mem hm),
      c2 _ (List.mem_map_of_mem hm), d2 _ (List.mem_map_of_mem hm)⟩

/-- the box of a reported line is the exact bounding box of its two end points -/
theorem line_bbox_exact (ctm : Matrix α) (lw : α) (a b : Pt α) :
    let l := createLine ctm lw a b
    l.bbox.x ≤ l.p0.1 ∧ l.bbox.x ≤ l.p1.1 ∧ l.p0.1 ≤ l.bbox.x + l.bbox.w ∧ l.p1.1 ≤ l.bbox.x + l.bbox.w ∧
      l.bbox.y ≤ l.p0.2 ∧ l.bbox.y ≤ l.p1.2 ∧ l.p0.2 ≤ l.bbox.y + l.bbox.h ∧ l.p1.2 ≤ l.bbox.y + l.bbox.h ∧
      (l.bbox.x = l.p0.1 ∨ l.bbox.x = l.p1.1) ∧ (l.bbox.y = l.p0.2 ∨ l.bbox.y = l.p1.2) ∧
      0 ≤ l.bbox.w ∧ 0 ≤ l.bbox.h := by
  simp only [createLine, add_sub_self]
  obtain ⟨m1, m2, m3⟩ := min2_le (ctm.transformPoint a).1 (ctm.transformPoint b).1
  obtain ⟨n1, n2, _⟩ := le_max2 (ctm.transformPoint a).1 (ctm.transformPoint b).1
  obtain ⟨o1, o2, o3⟩ := min2_le (ctm.transformPoint a).2 (ctm.transformPoint b).2
  obtain ⟨p1, p2, _⟩ := le_max2 (ctm.transformPoint a).2 (ctm.transformPoint b).2
  exact ⟨m1, m2, n1, n2, o1, o2, p1, p2, m3, o3, sub_nonneg_of_le m1 n1, sub_nonneg_of_le o1 p1⟩

/-- **orientation under an axis-parallel CTM** (`b = 0`: scales, mirrors, translations): a
user-space horizontal segment is reported horizontal; (`c = 0`) a vertical one vertical -/
theorem horizontal_kept (ctm : Matrix α) (lw : α) (a b : Pt α) (hb : ctm.b = 0) (hy : a.2 = b.2) :
    (createLine ctm lw a b).horiz = true :=
  flag_of_zero _ (by simp only [transformPoint, hb, hy]; grind)

theorem vertical_kept (ctm : Matrix α) (lw : α) (a b : Pt α) (hc : ctm.c = 0) (hx : a.1 = b.1) :
    (createLine ctm lw a b).vert = true :=
  flag_of_zero _ (by simp only [transformPoint, hc, hx]; grind)

/-- **orientation under a quarter turn** (`a = 0`, e.g. a page rotated by 90°): a user-space
horizontal segment is reported vertical; (`d = 0`) a vertical one horizontal -/
theorem horizontal_turns_vertical (ctm : Matrix α) (lw : α) (a b : Pt α) (ha : ctm.a = 0) (hy : a.2 = b.2) :
    (createLine ctm lw a b).vert = true :=
  flag_of_zero _ (by simp only [transformPoint, ha, hy]; grind)

theorem vertical_turns_horizontal (ctm : Matrix α) (lw : α) (a b : Pt α) (hd' : ctm.d = 0) (hx : a.1 = b.1) :
    (createLine ctm lw a b).horiz = true :=
  flag_of_zero _ (by simp only [transformPoint, hd', hx]; grind)

/-- a table cell under `2 0 0 2 10 10 cm`: one rectangle (20,30)–(120,70); the same path
written as m l l l h is the same rectangle — and so is the open path m l l l (three sides at
right angles: `detectRectangle` does not ask for the closing side); a path with another
angle is reported line by line -/
example : (run [.cm ⟨2, 0, 0, 2, 10, 10⟩, .re 5 10 50 20, .S] (init : PState Int)).1.rects.map (·.bbox)
      = [⟨20, 30, 100, 40⟩] ∧
    (run [.cm ⟨2, 0, 0, 2, 10, 10⟩, .m 5 10, .l 55 10, .l 55 30, .l 5 30, .h, .B] (init : PState Int)).1.rects.map (·.bbox)
      = [⟨20, 30, 100, 40⟩] ∧
    ((run [.m 5 10, .l 55 10, .l 55 30, .l 5 30, .S] (init : PState Int)).1.lines.length = 0 ∧
      (run [.m 5 10, .l 55 10, .l 55 30, .l 5 30, .S] (init : PState Int)).1.rects.length = 1) ∧
    (run [.m 0 0, .l 10 0, .l 20 10, .l 0 30, .S] (init : PState Int)).1.lines.length = 3 := by
  decide

end

section
variable [Lean.Grind.CommRing α] [DecidableEq α] [LT α] [DecidableLT α]

/-- `GetFilteredLines` keeps exactly the lines whose squared length is at least the squared
minimum -/
theorem filterLines_spec (min : α) (ls : List (Line α)) (l : Line α) :
    l ∈ filterLines min ls ↔ l ∈ ls ∧
      ¬ ((l.p1.1 - l.p0.1) * (l.p1.1 - l.p0.1) + (l.p1.2 - l.p0.2) * (l.p1.2 - l.p0.2) < min * min) := by
  simp [filterLines, List.mem_filter]

theorem filterRects_spec (minW minH : α) (rs : List (Rect α)) (r : Rect α) :
    r ∈ filterRects minW minH rs ↔ r ∈ rs ∧ ¬ (r.bbox.w < minW) ∧ ¬ (r.bbox.h < minH) := by
  simp [filterRects, List.mem_filter]

omit [DecidableEq α] [LT α] [DecidableLT α] in
/-- the alternative spellings of the painting operators are the same operators -/
theorem decode_paint_aliases (xs : List (Operand α)) :
    decodeG ⟨.F, xs⟩ = decodeG ⟨.f, xs⟩ ∧ decodeG ⟨.fstar, xs⟩ = decodeG ⟨.f, xs⟩ ∧
      decodeG ⟨.Bstar, xs⟩ = decodeG ⟨.B, xs⟩ ∧ decodeG ⟨.bstar, xs⟩ = decodeG ⟨.b, xs⟩ :=
  ⟨rfl, rfl, rfl, rfl⟩

omit [DecidableEq α] [LT α] [DecidableLT α] in
/-- a path construction operation with the wrong number of operands is skipped -/
theorem decode_path_arity (o : GOpr) (xs : List (Operand α))
    (h : (o = .m ∨ o = .l) ∧ xs.length ≠ 2 ∨ (o = .v ∨ o = .y ∨ o = .re) ∧ xs.length ≠ 4 ∨
      (o = .c ∨ o = .cm) ∧ xs.length ≠ 6) : decodeG ⟨o, xs⟩ = [] := by
  rcases h with ⟨rfl | rfl, hn⟩ | ⟨rfl | rfl | rfl, hn⟩ | ⟨rfl | rfl, hn⟩
  -- m l v y re c match on the shape of the operand list; `cm` compares its length
  iterate 6
    rcases xs with _ | ⟨_, _ | ⟨_, _ | ⟨_, _ | ⟨_, _ | ⟨_, _ | ⟨_, _ | ⟨_, _⟩⟩⟩⟩⟩⟩⟩ <;>
      first | rfl | exact absurd rfl hn
  exact if_neg hn

omit [DecidableEq α] [LT α] [DecidableLT α] in
/-- with the right number of operands one that is not a number reads as 0 -/
theorem decode_re_four (a b c d : Operand α) :
    decodeG ⟨.re, [a, b, c, d]⟩ = [.re (toFloatD a) (toFloatD b) (toFloatD c) (toFloatD d)] := rfl

end
end Tabula.C08Gfx
