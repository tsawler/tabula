import TabulaModel.Lemmas.PackageSort
import TabulaModel.Props.C18
/-!
C18, further all-input theorems about the existing container model (`Model/Package.lean`).

* the skip-on-failure loop of the XLSX and PPTX readers (the EPUB reader walks it on a spine
  without repeated resources), entry by entry (`mem_loopIdx_iff`), and its consequence "never reordered": the `Index` fields of the
  presented parts are strictly increasing and are positions of the declaration
  (`*_indices_increasing`);
* presented part ⇔ declared, found, of the right kind — an `iff` for XLSX and PPTX
  (`xlsx_part_iff`, `pptx_part_iff`; EPUB: `epub_chapter_iff`), for EPUB also down to the manifest
  item and the archive member (`epub_chapter_sound`);
* "last entry wins" for relationship ids / manifest ids (`mapLastOpt_append_last`,
  `mapLastOpt_mem`, `mapLast_append_last`);
* hrefs without `%` are resolved verbatim, hrefs with a bad escape are kept raw
  (`pathUnescape_no_percent`, `resolveHref_no_percent`, `resolveHref_bad_escape`);
* the file-name fallback of PPTX: candidates already in slide-number order stay as they
  are, sorting twice changes nothing (`sortByNumber_of_sorted`, `sortByNumber_idem`,
  `fallbackSlidePaths_of_sorted`, `fallbackSlidePaths_idem`).
-/
namespace Tabula.C18More
open Tabula.Package Tabula.C18

/-- a value is produced by the loop iff some entry of the list, at its own position,
produces it -/
theorem mem_loopIdx_iff {α β : Type} (f : Nat → α → Option β) (i : Nat) (l : List α) (v : β) :
    v ∈ loopIdx f i l ↔ ∃ k e, l[k]? = some e ∧ f (i + k) e = some v := by
  rw [loopIdx_eq_filterMap, List.mem_filterMap]
  constructor
  · rintro ⟨⟨e, j⟩, hm, hf⟩
    obtain ⟨hle, hg⟩ := List.mem_zipIdx_iff_le_and_getElem?_sub.1 hm
    exact ⟨j - i, e, hg, by rw [Nat.add_sub_cancel' hle]; exact hf⟩
  · rintro ⟨k, e, hk, hf⟩
    exact ⟨(e, i + k), List.mem_zipIdx_iff_le_and_getElem?_sub.2 ⟨Nat.le_add_right i k, by simpa using hk⟩, hf⟩

/-- when every produced value records the position it was produced at, the recorded
positions lie inside the list -/
theorem loopIdx_index_bounds {α β : Type} (f : Nat → α → Option β) (idx : β → Nat)
    (hidx : ∀ j e v, f j e = some v → idx v = j) (i : Nat) (l : List α) (v : β)
    (hv : v ∈ loopIdx f i l) : i ≤ idx v ∧ idx v < i + l.length := by
  obtain ⟨k, e, hk, hf⟩ := (mem_loopIdx_iff f i l v).mp hv
  have h1 := hidx _ _ _ hf
  obtain ⟨h2, _⟩ := List.getElem?_eq_some_iff.mp hk
  omega

/-- … and they are strictly increasing along the output: the loop never reorders -/
theorem loopIdx_index_increasing {α β : Type} (f : Nat → α → Option β) (idx : β → Nat)
    (hidx : ∀ j e v, f j e = some v → idx v = j) (i : Nat) (l : List α) :
    (loopIdx f i l).Pairwise (fun u v => idx u < idx v) := by
  rw [loopIdx_eq_filterMap]
  exact (List.pairwise_snd_lt_zipIdx l i).filterMap _ fun a a' h b hb b' hb' => by
    rw [hidx _ _ _ hb, hidx _ _ _ hb']
    exact h

example : loopIdx (fun j (e : Nat) => if e = 0 then none else some (j, e)) 0 [5, 0, 7] = [(0, 5), (2, 7)] := by
  decide +kernel

theorem pptxPart_eq_some (look : Str → Option Nat) (x : Docs) (j : Nat) (p : Str) (i c : Nat) :
    pptxPart look x j p = some (i, c) ↔ j = i ∧ look p = some c ∧ x c = .slide := by
  simp only [pptxPart_eq_bind, Option.bind_eq_some_iff, Option.ite_none_right_eq_some, Option.some.injEq, Prod.mk.injEq]
  constructor
  · rintro ⟨c', hl, hx, rfl, rfl⟩
    exact ⟨rfl, hl, hx⟩
  · rintro ⟨rfl, hl, hx⟩
    exact ⟨c, hl, hx, rfl, rfl⟩

theorem xlsxPart_eq_some (look : Str → Option Nat) (x : Docs) (rels : List (Str × Str)) (j : Nat)
    (s : Str × Str) (i c : Nat) (n : Str) :
    xlsxPart look x rels j s = some (i, c, n) ↔
      j = i ∧ s.1 = n ∧ xlsxRead look (xlsxTarget rels j s.2) = some c ∧ x c = .sheet := by
  simp only [xlsxPart_eq_bind, Option.bind_eq_some_iff, Option.ite_none_right_eq_some, Option.some.injEq, Prod.mk.injEq]
  constructor
  · rintro ⟨c', hl, hx, rfl, rfl, rfl⟩
    exact ⟨rfl, rfl, hl, hx⟩
  · rintro ⟨rfl, rfl, hl, hx⟩
    exact ⟨c, hl, hx, rfl, rfl, rfl⟩

theorem pptxOpen_parts (a : Archive) (x : Docs) (declared : List Str) (parts : List SlidePart)
    (h : pptxDeclared (lookup a) x = some declared) (hne : declared ≠ [])
    (ho : pptxOpen a x = some parts) : parts = loopIdx (pptxPart (lookup a) x) 0 declared := by
  unfold pptxOpen pptxOpenL at ho
  rw [h] at ho
  simp only [hne, if_false, pptxLoop] at ho
  exact eq_of_nonEmpty ho

theorem xlsxOpen_parts (a : Archive) (x : Docs) (rels sheets : List (Str × Str)) (parts : List SheetPart)
    (h : xlsxDeclared (lookup a) x = some (rels, sheets))
    (ho : xlsxOpen a x = some parts) : parts = loopIdx (xlsxPart (lookup a) x rels) 0 sheets := by
  unfold xlsxOpen xlsxOpenL at ho
  rw [h] at ho
  simp only [xlsxLoop] at ho
  exact eq_of_nonEmpty ho

/-- a small workbook: one declared sheet `A` (`r` ↦ `a`, read as `xl/a`) and a left-over part -/
def exXA : Archive := [(sCT, 1), (sWorkbook, 2), (sXlRels, 3), ([120, 108, 47, 97], 11), ([120, 108, 47, 98], 12)]
def exXD : Docs := fun c =>
  if c = 2 then .workbook [([65], [114])]
  else if c = 3 then .rels [([114], [97])]
  else if c = 11 ∨ c = 12 then .sheet else .opaque

example : xlsxDeclared (lookup exXA) exXD = some ([([114], [97])], [([65], [114])]) := by decide +kernel
example : xlsxOpen exXA exXD = some [(0, 11, [65])] := by decide +kernel
example : pptxDeclared (lookup exArchive) exDocs ≠ some [] := by decide +kernel

/-- PPTX: `(i, c)` is a presented slide iff the `i`-th declared slide path names a member
(the first with that name) whose content `c` is a slide — nothing else is presented and
nothing declared and readable is left out -/
theorem pptx_part_iff (a : Archive) (x : Docs) (declared : List Str) (parts : List SlidePart)
    (h : pptxDeclared (lookup a) x = some declared) (hne : declared ≠ [])
    (ho : pptxOpen a x = some parts) (i c : Nat) :
    (i, c) ∈ parts ↔ ∃ p, declared[i]? = some p ∧ lookup a p = some c ∧ x c = .slide := by
  rw [pptxOpen_parts a x declared parts h hne ho, mem_loopIdx_iff]
  constructor
  · rintro ⟨k, p, hk, hf⟩
    obtain ⟨h1, h2, h3⟩ := (pptxPart_eq_some _ _ _ _ _ _).mp hf
    have : k = i := by omega
    subst this
    exact ⟨p, hk, h2, h3⟩
  · rintro ⟨p, hk, h2, h3⟩
    exact ⟨i, p, hk, (pptxPart_eq_some _ _ _ _ _ _).mpr ⟨by omega, h2, h3⟩⟩

/-- XLSX: `(i, c, name)` is a presented sheet iff the `i`-th `<sheet>` of the workbook has
that name and its relationship target (normalised, with the `xl/` retry) names a member
whose content `c` is a worksheet -/
theorem xlsx_part_iff (a : Archive) (x : Docs) (rels sheets : List (Str × Str)) (parts : List SheetPart)
    (h : xlsxDeclared (lookup a) x = some (rels, sheets))
    (ho : xlsxOpen a x = some parts) (i c : Nat) (n : Str) :
    (i, c, n) ∈ parts ↔
      ∃ rid, sheets[i]? = some (n, rid) ∧
        xlsxRead (lookup a) (xlsxTarget rels i rid) = some c ∧ x c = .sheet := by
  rw [xlsxOpen_parts a x rels sheets parts h ho, mem_loopIdx_iff]
  constructor
  · rintro ⟨k, s, hk, hf⟩
    obtain ⟨h1, h2, h3, h4⟩ := (xlsxPart_eq_some _ _ _ _ _ _ _ _).mp hf
    have : k = i := by omega
    subst this
    obtain ⟨s1, s2⟩ := s
    dsimp only at h2 h3
    subst h2
    refine ⟨s2, hk, ?_, h4⟩
    simpa using h3
  · rintro ⟨rid, hk, h2, h3⟩
    refine ⟨i, (n, rid), hk, (xlsxPart_eq_some _ _ _ _ _ _ _ _).mpr ⟨by omega, rfl, ?_, h3⟩⟩
    simpa using h2

/-- the content of a presented sheet is the content of a member of the archive -/
theorem xlsx_part_is_member (a : Archive) (x : Docs) (rels sheets : List (Str × Str)) (parts : List SheetPart)
    (h : xlsxDeclared (lookup a) x = some (rels, sheets))
    (ho : xlsxOpen a x = some parts) (i c : Nat) (n : Str) (hm : (i, c, n) ∈ parts) :
    x c = .sheet ∧ ∃ name, (name, c) ∈ a := by
  obtain ⟨rid, _, h2, h3⟩ := (xlsx_part_iff a x rels sheets parts h ho i c n).mp hm
  refine ⟨h3, ?_⟩
  unfold xlsxRead at h2
  split at h2
  · rename_i d hl
    cases h2
    exact ⟨_, lookup_mem hl⟩
  · exact ⟨_, lookup_mem h2⟩

theorem pptx_indices_increasing (a : Archive) (x : Docs) (declared : List Str) (parts : List SlidePart)
    (h : pptxDeclared (lookup a) x = some declared) (hne : declared ≠ [])
    (ho : pptxOpen a x = some parts) :
    parts.Pairwise (fun u v => u.1 < v.1) ∧ ∀ u ∈ parts, u.1 < declared.length := by
  rw [pptxOpen_parts a x declared parts h hne ho]
  have hidx : ∀ j (e : Str) (v : SlidePart), pptxPart (lookup a) x j e = some v → v.1 = j := by
    intro j e v hv
    obtain ⟨v1, v2⟩ := v
    exact ((pptxPart_eq_some _ _ _ _ _ _).mp hv).1.symm
  refine ⟨loopIdx_index_increasing _ (fun v : SlidePart => v.1) hidx 0 declared, ?_⟩
  intro u hu
  have := (loopIdx_index_bounds _ (fun v : SlidePart => v.1) hidx 0 declared u hu).2
  simpa using this

theorem xlsx_indices_increasing (a : Archive) (x : Docs) (rels sheets : List (Str × Str)) (parts : List SheetPart)
    (h : xlsxDeclared (lookup a) x = some (rels, sheets))
    (ho : xlsxOpen a x = some parts) :
    parts.Pairwise (fun u v => u.1 < v.1) ∧ ∀ u ∈ parts, u.1 < sheets.length := by
  rw [xlsxOpen_parts a x rels sheets parts h ho]
  have hidx : ∀ j (e : Str × Str) (v : SheetPart), xlsxPart (lookup a) x rels j e = some v → v.1 = j := by
    intro j e v hv
    obtain ⟨v1, v2, v3⟩ := v
    exact ((xlsxPart_eq_some _ _ _ _ _ _ _ _).mp hv).1.symm
  refine ⟨loopIdx_index_increasing _ (fun v : SheetPart => v.1) hidx 0 sheets, ?_⟩
  intro u hu
  have := (loopIdx_index_bounds _ (fun v : SheetPart => v.1) hidx 0 sheets u hu).2
  simpa using this

/-- "last entry wins" read backwards: what `m[k]` returns was assigned under `k` -/
theorem mapLastOpt_mem (rs : List (Str × Str)) (k v : Str) (h : mapLast? rs k = some v) : (k, v) ∈ rs := by
  rw [mapLast?_eq_find, Option.map_eq_some_iff] at h
  obtain ⟨⟨k', v'⟩, hf, rfl⟩ := h
  have := List.find?_some hf
  simp only [decide_eq_true_eq] at this
  exact this ▸ List.mem_reverse.1 (List.mem_of_find?_eq_some hf)

/-- a Go map filled in document order: a later entry with the same key replaces the
earlier ones (comma-ok form) -/
theorem mapLastOpt_append_last (rs : List (Str × Str)) (k v : Str) : mapLast? (rs ++ [(k, v)]) k = some v := by
  simp [mapLast?, List.foldl_append]

theorem mapLast_append_last (rs : List (Str × Str)) (k v : Str) : mapLast (rs ++ [(k, v)]) k = v := by
  simp [mapLast, List.foldl_append]

example : mapLast? [([1], [2]), ([1], [3])] [1] = some [3] := by decide +kernel

theorem epubOpen_parts (a : Archive) (x : Docs) (base : Str) (manifest : List (Str × Str)) (spine : List Str)
    (parts : List ChapterPart) (h : epubDeclared (lookup a) x = some (base, manifest, spine))
    (ho : epubOpen a x = some parts) : parts = epubLoopS (lookup a) base manifest [] 0 spine := by
  unfold epubOpen epubOpenL at ho
  rw [h] at ho
  simp only [epubLoop] at ho
  exact eq_of_nonEmpty ho

/-- EPUB: every presented chapter `(i, c, p, id)` is the `i`-th spine entry `id`; the
manifest has an item `(id, href)` with `p` = href percent-decoded and joined to the package
directory; and the archive has a member named `p` with content `c` -/
theorem epub_chapter_sound (a : Archive) (x : Docs) (base : Str) (manifest : List (Str × Str)) (spine : List Str)
    (parts : List ChapterPart) (h : epubDeclared (lookup a) x = some (base, manifest, spine))
    (ho : epubOpen a x = some parts) (i c : Nat) (p id : Str) (hm : (i, c, p, id) ∈ parts) :
    spine[i]? = some id ∧ (∃ href, (id, href) ∈ manifest ∧ p = resolveHref base href) ∧
      lookup a p = some c ∧ (p, c) ∈ a := by
  rw [epubOpen_parts a x base manifest spine parts h ho] at hm
  obtain ⟨k, hk, hi, hcp, hl, _⟩ := (mem_epubLoopS_iff ..).1 hm
  have : k = i := by omega
  subst this
  refine ⟨hk, ?_, hl, lookup_mem hl⟩
  unfold chapterPath at hcp
  cases hml : mapLast? manifest id with
  | none => simp [hml] at hcp
  | some href =>
    simp only [hml, Option.map_some, Option.some.injEq] at hcp
    exact ⟨href, mapLastOpt_mem manifest id href hml, hcp.symm⟩

theorem epub_indices_increasing (a : Archive) (x : Docs) (base : Str) (manifest : List (Str × Str)) (spine : List Str)
    (parts : List ChapterPart) (h : epubDeclared (lookup a) x = some (base, manifest, spine))
    (ho : epubOpen a x = some parts) :
    parts.Pairwise (fun u v => u.1 < v.1) ∧ ∀ u ∈ parts, u.1 < spine.length := by
  rw [epubOpen_parts a x base manifest spine parts h ho]
  refine ⟨epubLoopS_index_increasing _ _ _ _ _ _, ?_⟩
  intro u hu
  obtain ⟨u1, u2, u3, u4⟩ := u
  obtain ⟨k, hk, hi, _⟩ := (mem_epubLoopS_iff ..).1 hu
  obtain ⟨h2, _⟩ := List.getElem?_eq_some_iff.mp hk
  show u1 < spine.length
  omega

example : ∃ b m s parts, epubDeclared (lookup exRArchive) exRDocs = some (b, m, s) ∧
    epubOpen exRArchive exRDocs = some parts ∧ parts ≠ [] :=
  ⟨[], exRManifest, exRSpine, _, by decide +kernel, epub_repeated_resources_example, by decide⟩

/-- an href without `%` is its own percent-decoding -/
theorem pathUnescape_no_percent (s : Str) (h : 37 ∉ s) : pathUnescape s = some s := by
  have := pathUnescape_literal_append s [] h
  simpa [pathUnescape] using this

/-- … so it is resolved verbatim: `path.Join(baseDir, href)` -/
theorem resolveHref_no_percent (base href : Str) (h : 37 ∉ href) : resolveHref base href = join2 base href := by
  unfold resolveHref
  rw [pathUnescape_no_percent href h]

/-- an href whose percent-decoding fails is resolved raw (the error is swallowed) -/
theorem resolveHref_bad_escape (base href : Str) (h : pathUnescape href = none) :
    resolveHref base href = join2 base href := by
  unfold resolveHref
  rw [h]

/-- a `%` that is not followed by two characters is a decoding error, wherever it is
preceded by literal characters only -/
theorem pathUnescape_truncated (pre : Str) (tail : Str) (hp : 37 ∉ pre) (ht : tail.length < 2) :
    pathUnescape (pre ++ 37 :: tail) = none := by
  rw [pathUnescape_literal_append pre _ hp]
  match tail, ht with
  | [], _ => rfl
  | [_], _ => rfl

example : pathUnescape [97, 37, 52] = none := by decide +kernel
example : resolveHref [79] [97, 37, 52] = [79, 47, 97, 37, 52] := by decide +kernel

theorem insertBy_last (k : Str → Int) (v : Str) (acc : List Str) (h : ∀ y ∈ acc, k y ≤ k v) :
    insertBy k v acc = acc ++ [v] := by
  induction acc with
  | nil => rfl
  | cons y ys ih =>
    have hy : ¬ k v < k y := by
      have := h y List.mem_cons_self
      omega
    simp only [insertBy, hy, ↓reduceIte, List.cons_append]
    rw [ih (fun z hz => h z (List.mem_cons_of_mem _ hz))]

theorem foldl_insertBy_of_sorted (k : Str → Int) (l acc : List Str) (h : SortedBy k (acc ++ l)) :
    l.foldl (fun acc v => insertBy k v acc) acc = acc ++ l := by
  induction l generalizing acc with
  | nil => simp
  | cons v rest ih =>
    have hle : ∀ y ∈ acc, k y ≤ k v := fun y hy =>
      (List.pairwise_append.mp h).2.2 y hy v List.mem_cons_self
    have h' : SortedBy k ((acc ++ [v]) ++ rest) := by
      simpa [SortedBy, List.append_assoc] using h
    simp only [List.foldl_cons]
    rw [insertBy_last k v acc hle, ih (acc ++ [v]) h']
    simp [List.append_assoc]

/-- candidates met in ascending slide-number order (ties allowed) are left as met -/
theorem sortByNumber_of_sorted (l : List Str) (h : SortedBy extractSlideNumber l) : sortByNumber l = l := by
  unfold sortByNumber
  have := foldl_insertBy_of_sorted extractSlideNumber l [] (by simpa using h)
  simpa using this

/-- sorting twice is sorting once -/
theorem sortByNumber_idem (l : List Str) : sortByNumber (sortByNumber l) = sortByNumber l :=
  sortByNumber_of_sorted _ (sortByNumber_sorted l)

theorem sort_filter_idem (P : Str → Bool) (l : List Str) :
    sortByNumber ((sortByNumber (l.filter P)).filter P) = sortByNumber (l.filter P) := by
  have hf : (sortByNumber (l.filter P)).filter P = sortByNumber (l.filter P) := by
    apply List.filter_eq_self.mpr
    intro y hy
    have := (sortByNumber_perm _).mem_iff.mp hy
    exact (List.mem_filter.mp this).2
  rw [hf]
  exact sortByNumber_idem _

/-- the fallback slide list of an archive whose slide members already come in ascending
slide-number order is those members in archive order -/
theorem fallbackSlidePaths_of_sorted (names : List Str)
    (h : SortedBy extractSlideNumber
      (names.filter fun n => hasPrefix sSlidePre n && hasSuffix sXml n && !hasSub sRelsDir n)) :
    fallbackSlidePaths names =
      names.filter fun n => hasPrefix sSlidePre n && hasSuffix sXml n && !hasSub sRelsDir n := by
  unfold fallbackSlidePaths
  exact sortByNumber_of_sorted _ h

/-- running the discovery on its own result changes nothing -/
theorem fallbackSlidePaths_idem (names : List Str) :
    fallbackSlidePaths (fallbackSlidePaths names) = fallbackSlidePaths names := by
  unfold fallbackSlidePaths
  exact sort_filter_idem _ names

example : SortedBy extractSlideNumber [[49], [50], [50]] := by
  unfold SortedBy
  decide +kernel

/-- EPUB, both directions: `(i, c, p, id)` is a presented chapter iff `id` is the `i`-th
spine entry, the manifest resolves it to the archive name `p`, the archive holds `c` under
`p`, and no EARLIER spine entry resolves to `p` — every declared, readable resource is a
chapter exactly at its first listing, and nothing else is -/
theorem epub_chapter_iff (a : Archive) (x : Docs) (base : Str) (manifest : List (Str × Str)) (spine : List Str)
    (parts : List ChapterPart) (h : epubDeclared (lookup a) x = some (base, manifest, spine))
    (ho : epubOpen a x = some parts) (i c : Nat) (p id : Str) :
    (i, c, p, id) ∈ parts ↔
      spine[i]? = some id ∧ chapterPath base manifest id = some p ∧ lookup a p = some c ∧
        ∀ j r, j < i → spine[j]? = some r → chapterPath base manifest r ≠ some p := by
  rw [epubOpen_parts a x base manifest spine parts h ho, mem_epubLoopS_iff]
  constructor
  · rintro ⟨k, hk, hi, hcp, hl, _, hno⟩
    have : k = i := by omega
    subst this
    exact ⟨hk, hcp, hl, hno⟩
  · rintro ⟨hk, hcp, hl, hno⟩
    exact ⟨i, hk, by omega, hcp, hl, List.not_mem_nil, hno⟩

theorem loopIdx_length_le {α β : Type} (f : Nat → α → Option β) (i : Nat) (l : List α) :
    (loopIdx f i l).length ≤ l.length := by
  rw [loopIdx_eq_filterMap]
  have := List.length_filterMap_le (fun e : α × Nat => f e.2 e.1) (l.zipIdx i)
  simpa using this

theorem ne_nil_of_nonEmpty {α : Type} {l parts : List α}
    (h : (if l = [] then none else some l) = some parts) : parts ≠ [] := by
  split at h
  · cases h
  · rename_i hne
    cases h
    exact hne

theorem xlsx_count_le_declared (a : Archive) (x : Docs) (rels sheets : List (Str × Str)) (parts : List SheetPart)
    (h : xlsxDeclared (lookup a) x = some (rels, sheets)) (ho : xlsxOpen a x = some parts) :
    0 < parts.length ∧ parts.length ≤ sheets.length := by
  constructor
  · unfold xlsxOpen xlsxOpenL at ho
    rw [h] at ho
    simp only [xlsxLoop] at ho
    exact List.length_pos_iff.mpr (ne_nil_of_nonEmpty ho)
  · rw [xlsxOpen_parts a x rels sheets parts h ho]
    exact loopIdx_length_le _ _ _

theorem pptx_count_le_declared (a : Archive) (x : Docs) (declared : List Str) (parts : List SlidePart)
    (h : pptxDeclared (lookup a) x = some declared) (hne : declared ≠ [])
    (ho : pptxOpen a x = some parts) : parts.length ≤ declared.length := by
  rw [pptxOpen_parts a x declared parts h hne ho]
  exact loopIdx_length_le _ _ _

theorem pptxOpen_parts_gen (a : Archive) (x : Docs) (declared : List Str) (parts : List SlidePart)
    (h : pptxDeclared (lookup a) x = some declared) (ho : pptxOpen a x = some parts) :
    parts = loopIdx (pptxPart (lookup a) x) 0
      (if declared = [] then fallbackSlidePaths (a.map Prod.fst) else declared) := by
  unfold pptxOpen pptxOpenL at ho
  rw [h] at ho
  simp only [pptxLoop] at ho
  exact eq_of_nonEmpty ho

theorem pptxOpen_parts_fallback (a : Archive) (x : Docs) (parts : List SlidePart)
    (h : pptxDeclared (lookup a) x = some []) (ho : pptxOpen a x = some parts) :
    parts = loopIdx (pptxPart (lookup a) x) 0 (fallbackSlidePaths (a.map Prod.fst)) := by
  have := pptxOpen_parts_gen a x [] parts h ho
  simpa using this

/-- a deck that declares no slides: every presented slide is a member of the archive named
`ppt/slides/slide….xml` (not under `_rels`), at its position in the discovered list -/
theorem pptx_fallback_part_sound (a : Archive) (x : Docs) (parts : List SlidePart)
    (h : pptxDeclared (lookup a) x = some []) (ho : pptxOpen a x = some parts) (i c : Nat)
    (hm : (i, c) ∈ parts) :
    ∃ p, (fallbackSlidePaths (a.map Prod.fst))[i]? = some p ∧ (p, c) ∈ a ∧ x c = .slide ∧
      (hasPrefix sSlidePre p && hasSuffix sXml p && !hasSub sRelsDir p) = true := by
  rw [pptxOpen_parts_fallback a x parts h ho, mem_loopIdx_iff] at hm
  obtain ⟨k, p, hk, hf⟩ := hm
  obtain ⟨h1, h2, h3⟩ := (pptxPart_eq_some _ _ _ _ _ _).mp hf
  have : k = i := by omega
  subst this
  refine ⟨p, hk, lookup_mem h2, h3, ?_⟩
  have hp : p ∈ fallbackSlidePaths (a.map Prod.fst) := List.mem_of_getElem? hk
  unfold fallbackSlidePaths at hp
  have := (sortByNumber_perm _).mem_iff.mp hp
  exact (List.mem_filter.mp this).2

/-- the discovered list is in ascending order of the number in the file name -/
theorem fallback_numbers_ascending (names : List Str) (i j : Nat) (p1 p2 : Str)
    (hi : (fallbackSlidePaths names)[i]? = some p1) (hj : (fallbackSlidePaths names)[j]? = some p2)
    (hij : i < j) : extractSlideNumber p1 ≤ extractSlideNumber p2 := by
  have hs : (fallbackSlidePaths names).Pairwise (fun a b => extractSlideNumber a ≤ extractSlideNumber b) :=
    sortByNumber_sorted _
  obtain ⟨hi', ei⟩ := List.getElem?_eq_some_iff.mp hi
  obtain ⟨hj', ej⟩ := List.getElem?_eq_some_iff.mp hj
  have := List.pairwise_iff_getElem.mp hs i j hi' hj' hij
  rw [ei, ej] at this
  exact this

/-- a deck without `sldIdLst`: slide2 stored before slide1 -/
def exFA : Archive :=
  [(sCT, 1), (sPres, 2), (sSlidePre ++ [50] ++ sXml, 12), (sSlidePre ++ [49] ++ sXml, 11)]
def exFD : Docs := fun c =>
  if c = 2 then .presentation none else if c = 11 ∨ c = 12 then .slide else .opaque

example : pptxDeclared (lookup exFA) exFD = some [] := by decide +kernel
example : pptxOpen exFA exFD = some [(0, 11), (1, 12)] := by decide +kernel

end Tabula.C18More
