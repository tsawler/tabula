import TabulaModel.Lemmas.XrefRecords
import TabulaModel.Lemmas.XrefClassic
import TabulaModel.Lemmas.PdfParse
import TabulaModel.Lemmas.XrefFind
import TabulaModel.Lemmas.XrefChain
import TabulaModel.Lemmas.XrefStreamSec
import TabulaModel.Lemmas.ObjStmLayout
import TabulaModel.Lemmas.XrefNest
import TabulaModel.Lemmas.XrefWitness
import TabulaModel.Lemmas.XrefAt
import TabulaModel.Props.C04TrailerLines
/-!
# C04, byte level — the cross-reference sections are read back exactly as written

Theorems about `Model/XrefFile.lean` (the byte-level model of core/xref.go, reader/reader.go,
`ParseIndirectObject`): whatever a conforming writer lays out — a classic table, the binary
records of a cross-reference stream under any `/W` and `/Index`, `startxref` — is reconstructed
exactly; chained by `/Prev`, the sections merge to the newest entry per object number.
-/
namespace Tabula.C04B
open Tabula.XrefFile Tabula.XrefBytes Tabula.Pdf Tabula.Reader

/-- **stream_entry_roundtrip** (the int64-faithful form of `C04.xref_stream_entry_roundtrip`):
a binary entry written with widths `/W [w0 w1 w2]`, each at most 8 bytes, fields fitting the
widths and below 2^63, `w0 = 0` only for in-use entries, is read back as written whatever
follows it. -/
theorem stream_entry_roundtrip (k : Kind) (f1 f2 w0 w1 w2 : Nat) (rest : List Nat)
    (h0 : w0 ≤ 8) (h1 : w1 ≤ 8) (h2 : w2 ≤ 8) (hf1 : f1 < 256 ^ w1) (hf2 : f2 < 256 ^ w2)
    (hb1 : f1 < 9223372036854775808) (hb2 : f2 < 9223372036854775808)
    (hk : 0 < w0 ∨ k = .inUse) :
    streamEntry (encodeStreamEntry k f1 f2 w0 w1 w2 ++ rest) w0 w1 w2 =
      some { kind := k, f1 := (f1 : Int), f2 := (f2 : Int) } :=
  streamEntry_encode k f1 f2 w0 w1 w2 rest h0 h1 h2 hf1 hf2 hb1 hb2 hk

example : (256 : Nat) ^ 3 > 70000 ∧ (0 < 1 ∨ Kind.compressed = Kind.inUse) := by decide

/-- what `readBigEndianInt` does with an 8-byte field whose top bit is set: the int64 wraps
(an offset of 2^63 reads as -2^63) — why the round trip is stated below 2^63 -/
theorem stream_entry_wraps_at_2_63 :
    streamEntry [1, 128, 0, 0, 0, 0, 0, 0, 0, 0] 1 8 1 =
      some { kind := .inUse, f1 := -9223372036854775808, f2 := 0 } := by decide

/-- **xref_stream_body_roundtrip**: the decoded data of a cross-reference stream whose
dictionary carries `/W [w0 w1 w2]` (any widths up to 8, not all zero), `/Index` listing any
number of subsections (first number, count) and any `/Size`, the records written one after the
other in subsection order — possibly followed by spare bytes — yields exactly the entries
authored, numbered `first, first+1, …` within each subsection, in that order. -/
theorem xref_stream_body_roundtrip (kv : Dict) (w0 w1 w2 : Nat) (subs : List Sub) (size : Int)
    (extra : List Nat)
    (hW : dget kv kW = some (.arr [.int w0, .int w1, .int w2]))
    (hS : dget kv kSize = some (.int size))
    (hI : dget kv kIndex = some (.arr (indexObjs subs)))
    (h0 : w0 ≤ 8) (h1 : w1 ≤ 8) (h2 : w2 ≤ 8) (hpos : 0 < w0 + w1 + w2)
    (hok : ∀ s ∈ subs, ∀ e ∈ s.2, e.Ok w0 w1 w2)
    (hb : ∀ s ∈ subs, s.1 + s.2.length < 9223372036854775808) :
    xrefStreamBody kv (encodeSubs w0 w1 w2 subs ++ extra) = some (sectionOf subs) :=
  xrefStreamBody_encode kv w0 w1 w2 subs size extra hW hS (.inl hI) h0 h1 h2 hpos hok hb

/-- the hypotheses are satisfiable: two subsections, a compressed and a free entry -/
example : xrefStreamBody
    [(kSize, .int 9), (kW, .arr [.int 1, .int 2, .int 1]), (kIndex, .arr [.int 3, .int 1, .int 7, .int 2])]
    [2, 0, 9, 4, 1, 1, 44, 0, 0, 0, 0, 1, 255]
      = some [(3, ⟨.compressed, 9, 4⟩), (7, ⟨.inUse, 300, 0⟩), (8, ⟨.free, 0, 1⟩)] := by decide

/-- … and without `/Index` the one subsection is `[0 Size]` -/
theorem xref_stream_body_default_index (kv : Dict) (w0 w1 w2 : Nat) (es : List SEnt)
    (extra : List Nat)
    (hW : dget kv kW = some (.arr [.int w0, .int w1, .int w2]))
    (hS : dget kv kSize = some (.int es.length))
    (hI : dget kv kIndex = none)
    (h0 : w0 ≤ 8) (h1 : w1 ≤ 8) (h2 : w2 ≤ 8) (hpos : 0 < w0 + w1 + w2)
    (hok : ∀ e ∈ es, e.Ok w0 w1 w2) (hb : es.length < 9223372036854775808) :
    xrefStreamBody kv (encodeRun w0 w1 w2 es ++ extra) = some (numberFrom 0 (es.map SEnt.raw)) := by
  have h := xrefStreamBody_encode kv w0 w1 w2 [(0, es)] es.length extra hW hS (.inr ⟨hI, rfl⟩) h0 h1 h2 hpos
    (by intro s hs e he; rw [List.mem_singleton.1 hs] at he; exact hok e he)
    (by intro s hs; rw [List.mem_singleton.1 hs, Nat.zero_add]; exact hb)
  simpa only [encodeSubs, sectionOf, List.append_nil, Int.natCast_zero] using h

theorem notLf_of_noEol (t k : List Nat) (hne : t ≠ []) (h : NoEol t) : NotLf (t ++ k) :=
  notLf_append t k hne h

theorem dict_render_ne_nil (pre : Sep) (kvs : List SObj) (close : Sep) :
    (SObj.dict pre kvs close).render ≠ [] :=
  XrefFile.dict_render_ne_nil pre kvs close

theorem dict_render_gtgt (pre : Sep) (kvs : List SObj) (close : Sep) :
    containsGtGt (SObj.dict pre kvs close).render = true :=
  XrefFile.dict_render_gtgt pre kvs close

/-- **classic_section_roundtrip**: a classic cross-reference table laid out as ISO 32000-1
7.5.4 prescribes — the keyword `xref`, any number of subsections (header `first count`, then
`count` 20-byte entries with any of the three entry terminators SP LF, SP CR, CR LF), the
keyword `trailer`, the trailer dictionary in ANY legal spelling that stays on one line, with
any of the three end-of-line markers between the lines; behind it anything that does not begin
with a line feed when the marker is a lone CR (`hrest`; the proof does not use it: a lone CR in front
of LF reads as CR LF) — is read back
by `parseTraditionalXRef` as exactly the entries authored, numbered `first, first+1, …` in
each subsection, in order, together with exactly the trailer dictionary authored. -/
theorem classic_section_roundtrip (eol : Eol) (ee : EntEol) (subs : List CSub)
    (pre : Sep) (kvs : List SObj) (close : Sep) (rest : List Nat)
    (hss : ∀ s ∈ subs, s.Ok)
    (hv : (SObj.dict pre kvs close).Valid false)
    (hd : (SObj.dict pre kvs close).value.depth ≤ maxNestingDepth)
    (hline : NoEol (SObj.dict pre kvs close).render)
    (hlen : (SObj.dict pre kvs close).render.length ≤ 65534)
    (hrest : eol.FollowOk rest) :
    parseClassic (linesOf (renderClassic eol ee subs (SObj.dict pre kvs close).render rest)).1
        (linesOf (renderClassic eol ee subs (SObj.dict pre kvs close).render rest)).2 =
      .ok (classicSection subs, valueKVs kvs) :=
  C04TL.classic_section_roundtrip_oneline eol ee subs pre kvs close rest hss hv hd hline hlen hrest

/-- … and so `ParseXRef(offset)` at the offset where such a table starts, whatever precedes it -/
theorem parseXRef_classic (ext : Reader.Ext) (before : List Nat) (eol : Eol) (ee : EntEol) (subs : List CSub)
    (pre : Sep) (kvs : List SObj) (close : Sep) (rest : List Nat)
    (hss : ∀ s ∈ subs, s.Ok)
    (hv : (SObj.dict pre kvs close).Valid false)
    (hd : (SObj.dict pre kvs close).value.depth ≤ maxNestingDepth)
    (hline : NoEol (SObj.dict pre kvs close).render)
    (hlen : (SObj.dict pre kvs close).render.length ≤ 65534)
    (hrest : eol.FollowOk rest) :
    parseXRef ext (before ++ renderClassic eol ee subs (SObj.dict pre kvs close).render rest) before.length =
      .ok (classicSection subs, valueKVs kvs) := by
  rw [parseXRef_renderClassic]
  exact classic_section_roundtrip eol ee subs pre kvs close rest hss hv hd hline hlen hrest

/-- the hypotheses are satisfiable: a two-entry table with the trailer `<</Prev 7>>` -/
example : (SObj.dict [] [SObj.name [] [.raw 80, .raw 114, .raw 101, .raw 118], SObj.int [.ws 32] false 0 7] []).Valid false ∧
    NoEol (SObj.dict [] [SObj.name [] [.raw 80, .raw 114, .raw 101, .raw 118], SObj.int [.ws 32] false 0 7] []).render ∧
    CSub.Ok (0, [⟨0, 65535, false⟩, ⟨17, 0, true⟩]) := by
  obtain ⟨hv, -, hl, -, -⟩ := nameIntDict_oneLine (bs := [80, 114, 101, 118]) 7 (by decide) (by decide) (by decide) false
  exact ⟨hv, hl, by decide⟩

open Tabula.A1 in
/-- **find_xref_roundtrip**: a file that ends `startxref` EOL *offset* EOL *tail* — any of the
three end-of-line markers each time, any offset up to 2^63-1, a tail without the letter `s`
(`%%EOF` and its end of line), the keyword within the last 1024 bytes — whatever the bytes
before it (older `startxref` keywords included): `FindXRef` returns exactly the offset. -/
theorem find_xref_roundtrip (body tail : List Nat) (e1 e2 : Eol) (off : Nat) (hoff : off ≤ maxInt64)
    (hs : 115 ∉ tail)
    (hwin : (kwStartxref ++ (e1.bytes ++ (dec off ++ (e2.bytes ++ tail)))).length ≤ 1024) :
    findXRef (body ++ (kwStartxref ++ (e1.bytes ++ (dec off ++ (e2.bytes ++ tail))))) = .ok (off : Int) := by
  unfold findXRef
  obtain ⟨body', hb⟩ := drop_window body _ hwin
  simp only [hb]
  have hdig := dec_digits off
  have hne := dec_ne_nil off
  have hno : 115 ∉ e1.bytes ++ (dec off ++ (e2.bytes ++ tail)) := by
    intro hm
    simp only [List.mem_append] at hm
    rcases hm with h | h | h | h
    · cases e1 <;> simp [Eol.bytes] at h
    · have := hdig 115 h; omega
    · cases e2 <;> simp [Eol.bytes] at h
    · exact hs h
  rw [afterLast_append _ _ _ _ (afterLast_keyword _ hno)]
  simp only [normEol]
  rw [normEolAux_eol, normEolAux_noEol _ (fun c hc => (word_chars _ (word_digits _ hdig) c hc).2) hne,
    normEolAux_eol]
  simp only [List.dropWhile_cons, ne_eq, not_true_eq_false, decide_false, Bool.false_eq_true, if_false]
  rw [List.takeWhile_append_cons_of_neg
      (fun d hd => decide_eq_true (word_chars _ (word_digits _ hdig) d hd).2.1) (by decide),
    trimSpaceU_ascii _ (isDigits_ascii _ hdig), trimSpace_digits _ hdig,
    atoi_dec off hoff]

/-- the hypotheses are satisfiable: `startxref LF 416 CR LF %%EOF LF` -/
example : (115 : Nat) ∉ [37, 37, 69, 79, 70, 10] ∧
    (kwStartxref ++ (Eol.lf.bytes ++ (Tabula.A1.dec 416 ++ (Eol.crlf.bytes ++ [37, 37, 69, 79, 70, 10])))).length ≤ 1024 := by
  refine ⟨by decide, ?_⟩
  have := dec_length_le 416 2 (by decide)
  simp [kwStartxref, Eol.bytes]
  omega

/-- **indirect_object_roundtrip**: `N G obj` value `endobj`, or `N G obj` dictionary `stream`
EOL data `endstream endobj` — any object numbers up to 2^63-1, any legal separators (white
space and comments), any legal spelling of any value nested at most 500 deep, LF or CR LF after
`stream`, any data bytes whose number is the dictionary's `/Length` (direct, or indirect and
answered by the resolver), white space before `endstream` — is read by `ParseIndirectObject`
as exactly (number, generation, value / dictionary and data). -/
theorem indirect_object_roundtrip (lenOf : Int → Option Int) (num gen : Nat) (s1 s2 : Sep) (b : Body)
    (rest : List Nat) (hn : num ≤ Tabula.A1.maxInt64) (hg : gen ≤ Tabula.A1.maxInt64)
    (h1 : SepOk s1) (h1n : s1 ≠ []) (h2 : SepOk s2) (h2n : s2 ≠ [])
    (hb : b.Ok lenOf) (hT : Terminated rest) :
    parseIndirect (renderIndirect num gen s1 s2 b rest) lenOf = some ((num : Int), (gen : Int), b.value) :=
  parseIndirect_render lenOf num gen s1 s2 b rest hn hg h1 h1n h2 h2n hb hT

/-- satisfiable: `7 0 obj <</Length 3>> stream LF abc LF endstream LF endobj` -/
example : (Body.stream [.ws 32] [SObj.name [] [.raw 76, .raw 101, .raw 110, .raw 103, .raw 116, .raw 104],
      SObj.int [.ws 32] false 0 3] [] [.ws 32] .lf [97, 98, 99] [10] [.ws 10]).Ok (fun _ => none) := by
  refine ⟨valid_nameIntDict (bs := [76, 101, 110, 103, 116, 104]) (sepOk_ws rfl) sepOk_nil sepOk_nil (by decide) (by decide)
    (by decide) true, ?_, ?_, ?_, ?_, ?_, ?_⟩
  · simp [SObj.value, Obj.depth, valueKVs, Obj.depthKV, maxNestingDepth]
  · exact sepOk_ws rfl
  · intro c hc; simp at hc; subst hc; decide
  · exact sepOk_ws rfl
  · simp
  · left; simp [valueKVs, SObj.keyBytes, SObj.value, dget, kLength, NPiece.byte]

/-- the text of a cross-reference stream object: `N G obj` EOL dictionary `stream` … -/
def xrefStreamObject (num gen : Nat) (eol : Eol) (pre : Sep) (kvs : List SObj) (close s3 : Sep)
    (seol : StreamEol) (raw w4 : List Nat) (s5 : Sep) (rest : List Nat) : List Nat :=
  renderIndirect num gen [.ws 32] [.ws 32] (.stream (eolUnits eol ++ pre) kvs close s3 seol raw w4 s5) rest

/-- **parseXRef_stream**: `ParseXRef(offset)` at the offset of a cross-reference stream object
laid out `N G obj` EOL `<< … >> stream` EOL data `endstream endobj`, whose dictionary (any legal
spelling) says `/Type /XRef`, a direct `/Length`, `/W`, `/Index`, `/Size`, and whose data
decodes (through whatever filters the dictionary names) to the records of the authored
subsections: the result is exactly the authored entries and the stream dictionary as trailer.
(`hcr`: when that first EOL is a lone CR the dictionary follows at once; the proof does not use it.) -/
theorem parseXRef_stream (ext : Reader.Ext) (before : List Nat) (num gen : Nat) (eol : Eol) (pre : Sep)
    (kvs : List SObj) (close s3 : Sep) (seol : StreamEol) (raw w4 : List Nat) (s5 : Sep) (rest : List Nat)
    (w0 w1 w2 : Nat) (subs : List Sub) (size : Int) (extra : List Nat)
    (hn : num ≤ Tabula.A1.maxInt64) (hg : gen ≤ Tabula.A1.maxInt64)
    (hv : (SObj.dict (eolUnits eol ++ pre) kvs close).Valid true)
    (hd : (SObj.dict (eolUnits eol ++ pre) kvs close).value.depth ≤ maxNestingDepth)
    (h3 : SepOk s3) (h4 : AllWs w4) (h5 : SepOk s5) (h5n : s5 ≠ []) (hT : Terminated rest)
    (hcr : eol = .cr → pre = [])
    (hLen : dget (valueKVs kvs) kLength = some (.int raw.length))
    (hType : dget (valueKVs kvs) XrefFile.kType = some (.name kXRef))
    (hDec : Reader.decodeStream ext (valueKVs kvs) raw = some (encodeSubs w0 w1 w2 subs ++ extra))
    (hW : dget (valueKVs kvs) kW = some (.arr [.int w0, .int w1, .int w2]))
    (hS : dget (valueKVs kvs) kSize = some (.int size))
    (hI : dget (valueKVs kvs) kIndex = some (.arr (indexObjs subs)))
    (h0 : w0 ≤ 8) (h1 : w1 ≤ 8) (h2 : w2 ≤ 8) (hpos : 0 < w0 + w1 + w2)
    (hok : ∀ s ∈ subs, ∀ e ∈ s.2, e.Ok w0 w1 w2)
    (hb : ∀ s ∈ subs, s.1 + s.2.length < 9223372036854775808) :
    parseXRef ext (before ++ xrefStreamObject num gen eol pre kvs close s3 seol raw w4 s5 rest) before.length =
      .ok (sectionOf subs, valueKVs kvs) := by
  -- `hcr` is not used: `obj` CR LF `<<` reads as the marker CR LF (`eol_follow`)
  have _ := hcr
  -- the scanner's first line is `N G obj`
  obtain ⟨ls, hl⟩ := linesOf_first (objLine num gen) (fun c hc => (objLine_word_or_space num gen c hc).2)
    (objLine_length num gen hn hg) eol ((Body.stream pre kvs close s3 seol raw w4 s5).render rest)
  rw [← renderIndirect_objLine] at hl
  rw [parseXRef_at, xrefStreamObject,
    parseXRef_of_objLine ext hl (by rw [trimSpaceU_objLine]; exact objLine_ne_xref num gen)
      (by rw [trimSpaceU_objLine]; exact objLine_fields num gen)]
  exact parseXRefStream_of_parse ext
    (parseIndirect_render (fun _ => none) num gen [.ws 32] [.ws 32] _ rest hn hg (sepOk_ws rfl)
      (List.cons_ne_nil _ _) (sepOk_ws rfl) (List.cons_ne_nil _ _) ⟨hv, hd, h3, h4, h5, h5n, Or.inl hLen⟩ hT)
    hType hDec
    (xref_stream_body_roundtrip (valueKVs kvs) w0 w1 w2 subs size extra hW hS hI h0 h1 h2 hpos hok hb)

theorem prevOf_absent_iff (kv : Dict) : prevOf kv = .absent ↔ dget kv kPrev = none := by
  unfold prevOf
  cases h : dget kv kPrev with
  | none => simp
  | some o => cases o <;> simp

/-- **load_chain_oldest_first**: when `startxref` names offset `start` and following `/Prev`
from there leads through sections at distinct offsets (`hnd`; the proof does not use it: a chain
that ends never comes back to an offset, `ChainB.nodup`) to one without `/Prev` — sections of
either kind, whatever else the file contains — `ParseAllXRefs` yields exactly those sections,
oldest first, each once, and `loadXRef` (what `reader.Open` keeps) is their merge in that
order. -/
theorem load_chain_oldest_first (ext : Reader.Ext) (file : List Nat) (start : Int)
    (path : List (Int × RawSection))
    (hfind : findXRef file = .ok start) (hc : ChainB ext file start path)
    (hnd : (path.map Prod.fst).Nodup) :
    allXRefs ext file = .ok (path.map Prod.snd).reverse ∧
      loadXRef ext file = .ok (path.map Prod.snd).reverse.flatten := by
  -- `hnd` is not used: a chain never comes back to an offset (`ChainB.nodup`)
  have _ := hnd
  have hnd := hc.nodup
  have hlen := length_le_of_range (path.map Prod.fst) file.length hnd hc.range
  obtain ⟨sec, tr, rest, rfl, hp, hafter⟩ := hc.head
  rw [List.map_cons, List.nodup_cons] at hnd
  rw [List.length_map, List.length_cons] at hlen
  have hall : allXRefs ext file = .ok (((start, sec) :: rest).map Prod.snd).reverse := by
    rw [allXRefs_of_first hfind hp, allXRefsLoop_after ext file rest _ _ _ _ hafter (Nat.lt_succ_of_lt hlen)
      (fun x hx hm => hnd.1 (by rw [List.mem_singleton] at hm; exact hm ▸ hx)),
      List.map_cons, List.reverse_cons]
  exact ⟨hall, by rw [loadXRef_eq_flatten, hall]; rfl⟩

/-- **prev_chain_terminates_by_itself**: the bound in the model's loop for `ParseAllXRefs`
(file length + 1 rounds) is never what stops it — on every file, cyclic and self-referencing
`/Prev` included, a larger bound gives the same result: the walk ends because an offset is not
read twice and every readable offset lies inside the file. -/
theorem prev_chain_terminates_by_itself (ext : Reader.Ext) (file : List Nat) (start : Int)
    (sec : RawSection) (tr : Dict) (hp : parseXRef ext file start = .ok (sec, tr)) (k : Nat) :
    allXRefsLoop ext file (file.length + 1 + k) [start] tr [sec] =
      allXRefsLoop ext file (file.length + 1) [start] tr [sec] := by
  have hin := parseXRef_ok_range ext file start _ hp
  apply allXRefsLoop_fuel ext file _ _ [start] tr [sec] (by simp)
  · intro x hx; simp at hx; subst hx; exact hin
  · simp; omega
  · simp; omega

/-- **lookup_newest_bytes**: in the table `loadXRef` yields for such a file (what `reader.Open`
keeps once it has accepted the header), every object
number has the entry of the newest section (the one nearest to `startxref` along `/Prev`)
that mentions it; no entry iff no section mentions it. -/
theorem lookup_newest_bytes (ext : Reader.Ext) (file : List Nat) (start : Int)
    (path : List (Int × RawSection))
    (hfind : findXRef file = .ok start) (hc : ChainB ext file start path)
    (hnd : (path.map Prod.fst).Nodup) (n : Int) :
    ∃ x, loadXRef ext file = .ok x ∧ getLastI x n = newestI (path.map Prod.snd).reverse n :=
  ⟨_, (load_chain_oldest_first ext file start path hfind hc hnd).2, getLastI_flatten _ n⟩

/-- the newest section wins: an entry of the section `startxref` points at is the merged entry -/
theorem newest_section_wins (older : List RawSection) (newest : RawSection) (n : Int) (e : RawEntry)
    (h : getLastI newest n = some e) : newestI (older ++ [newest]) n = some e := by
  rw [← getLastI_flatten, List.flatten_append, getLastI_append, List.flatten_singleton, h]; rfl

/-- a chain of classic tables in a file: at `off` stands a table as in
`classic_section_roundtrip` whose trailer's `/Prev` is the offset of the next older one -/
inductive ClassicChain (file : List Nat) : Int → List (Int × List CSub) → Prop
  | last (before : List Nat) (eol : Eol) (ee : EntEol) (subs : List CSub)
      (pre : Sep) (kvs : List SObj) (close : Sep) (rest : List Nat) :
      file = before ++ renderClassic eol ee subs (SObj.dict pre kvs close).render rest →
      (∀ s ∈ subs, s.Ok) → (SObj.dict pre kvs close).Valid false →
      (SObj.dict pre kvs close).value.depth ≤ maxNestingDepth →
      NoEol (SObj.dict pre kvs close).render → (SObj.dict pre kvs close).render.length ≤ 65534 →
      eol.FollowOk rest → dget (valueKVs kvs) kPrev = none →
      ClassicChain file before.length [((before.length : Int), subs)]
  | step (before : List Nat) (eol : Eol) (ee : EntEol) (subs : List CSub)
      (pre : Sep) (kvs : List SObj) (close : Sep) (rest : List Nat) (p : Int)
      (older : List (Int × List CSub)) :
      file = before ++ renderClassic eol ee subs (SObj.dict pre kvs close).render rest →
      (∀ s ∈ subs, s.Ok) → (SObj.dict pre kvs close).Valid false →
      (SObj.dict pre kvs close).value.depth ≤ maxNestingDepth →
      NoEol (SObj.dict pre kvs close).render → (SObj.dict pre kvs close).render.length ≤ 65534 →
      eol.FollowOk rest → dget (valueKVs kvs) kPrev = some (.int p) →
      ClassicChain file p older →
      ClassicChain file before.length (((before.length : Int), subs) :: older)

theorem ClassicChain.toChainB {file : List Nat} {off : Int} {revs : List (Int × List CSub)}
    (ext : Reader.Ext) (h : ClassicChain file off revs) :
    ChainB ext file off (revs.map fun r => (r.1, classicSection r.2)) := by
  induction h with
  | last before eol ee subs pre kvs close rest hfile hss hv hd hl hlen hr hprev =>
    refine .last _ _ (valueKVs kvs) ?_ (prevOf_of_none hprev)
    rw [hfile]
    exact parseXRef_classic ext before eol ee subs pre kvs close rest hss hv hd hl hlen hr
  | step before eol ee subs pre kvs close rest p older hfile hss hv hd hl hlen hr hprev _ ih =>
    refine .step _ _ (valueKVs kvs) p _ ?_ (prevOf_of_int hprev) ih
    rw [hfile]
    exact parseXRef_classic ext before eol ee subs pre kvs close rest hss hv hd hl hlen hr

/-- **classic_history_reconstructed** (end to end on the bytes, classic tables): a file that
ends with `startxref` *start* and in which, from offset *start*, classic tables stand chained
by `/Prev` at distinct offsets — any subsections, any of the legal end-of-line choices, any
legal one-line spelling of each trailer, anything between and around them — is loaded
(`loadXRef`) as exactly the table a reader of ISO 32000-1 expects: for every object number the entry authored
in the newest revision that mentions it. -/
theorem classic_history_reconstructed (ext : Reader.Ext) (file : List Nat) (start : Int)
    (revs : List (Int × List CSub))
    (hfind : findXRef file = .ok start) (hc : ClassicChain file start revs)
    (hnd : (revs.map Prod.fst).Nodup) (n : Int) :
    ∃ x, loadXRef ext file = .ok x ∧
      getLastI x n = newestI (revs.map fun r => classicSection r.2).reverse n := by
  have hb := hc.toChainB ext
  have hnd' : ((revs.map fun r => (r.1, classicSection r.2)).map Prod.fst).Nodup := by
    simpa [List.map_map, Function.comp_def] using hnd
  obtain ⟨x, hx, hl⟩ := lookup_newest_bytes ext file start _ hfind hb hnd' n
  refine ⟨x, hx, ?_⟩
  rw [hl]
  simp [List.map_map, Function.comp_def]

/-- at offset `off` of `file` stands a cross-reference section, a classic table or a
cross-reference stream object, authored with the entries `sec` and the trailer dictionary `tr` -/
inductive SectionAt (ext : Reader.Ext) (file : List Nat) : Int → RawSection → Dict → Prop
  | classic (before : List Nat) (eol : Eol) (ee : EntEol) (subs : List CSub)
      (pre : Sep) (kvs : List SObj) (close : Sep) (rest : List Nat) :
      file = before ++ renderClassic eol ee subs (SObj.dict pre kvs close).render rest →
      (∀ s ∈ subs, s.Ok) → (SObj.dict pre kvs close).Valid false →
      (SObj.dict pre kvs close).value.depth ≤ maxNestingDepth →
      NoEol (SObj.dict pre kvs close).render → (SObj.dict pre kvs close).render.length ≤ 65534 →
      eol.FollowOk rest →
      SectionAt ext file before.length (classicSection subs) (valueKVs kvs)
  | stream (before : List Nat) (num gen : Nat) (eol : Eol) (pre : Sep)
      (kvs : List SObj) (close s3 : Sep) (seol : StreamEol) (raw w4 : List Nat) (s5 : Sep) (rest : List Nat)
      (w0 w1 w2 : Nat) (subs : List Sub) (size : Int) (extra : List Nat) :
      file = before ++ xrefStreamObject num gen eol pre kvs close s3 seol raw w4 s5 rest →
      num ≤ Tabula.A1.maxInt64 → gen ≤ Tabula.A1.maxInt64 →
      (SObj.dict (eolUnits eol ++ pre) kvs close).Valid true →
      (SObj.dict (eolUnits eol ++ pre) kvs close).value.depth ≤ maxNestingDepth →
      SepOk s3 → AllWs w4 → SepOk s5 → s5 ≠ [] → Terminated rest → (eol = .cr → pre = []) →
      dget (valueKVs kvs) kLength = some (.int raw.length) →
      dget (valueKVs kvs) XrefFile.kType = some (.name kXRef) →
      Reader.decodeStream ext (valueKVs kvs) raw = some (encodeSubs w0 w1 w2 subs ++ extra) →
      dget (valueKVs kvs) kW = some (.arr [.int w0, .int w1, .int w2]) →
      dget (valueKVs kvs) kSize = some (.int size) →
      dget (valueKVs kvs) kIndex = some (.arr (indexObjs subs)) →
      w0 ≤ 8 → w1 ≤ 8 → w2 ≤ 8 → 0 < w0 + w1 + w2 →
      (∀ s ∈ subs, ∀ e ∈ s.2, e.Ok w0 w1 w2) →
      (∀ s ∈ subs, s.1 + s.2.length < 9223372036854775808) →
      SectionAt ext file before.length (sectionOf subs) (valueKVs kvs)

/-- `ParseXRef` reads such a section exactly -/
theorem SectionAt.parse {ext : Reader.Ext} {file : List Nat} {off : Int} {sec : RawSection} {tr : Dict}
    (h : SectionAt ext file off sec tr) : parseXRef ext file off = .ok (sec, tr) := by
  cases h with
  | classic before eol ee subs pre kvs close rest hfile hss hv hd hl hlen hr =>
    rw [hfile]
    exact parseXRef_classic ext before eol ee subs pre kvs close rest hss hv hd hl hlen hr
  | stream before num gen eol pre kvs close s3 seol raw w4 s5 rest w0 w1 w2 subs size extra hfile hn hg hv hd
      h3 h4 h5 h5n hT hcr hLen hType hDec hW hS hI h0 h1 h2 hpos hok hb =>
    rw [hfile]
    exact parseXRef_stream ext before num gen eol pre kvs close s3 seol raw w4 s5 rest w0 w1 w2 subs size extra
      hn hg hv hd h3 h4 h5 h5n hT hcr hLen hType hDec hW hS hI h0 h1 h2 hpos hok hb

/-- the revisions of a file, newest first: sections of either kind chained by `/Prev` -/
inductive RevChain (ext : Reader.Ext) (file : List Nat) : Int → List (Int × RawSection) → Prop
  | last (off : Int) (sec : RawSection) (tr : Dict) :
      SectionAt ext file off sec tr → dget tr kPrev = none → RevChain ext file off [(off, sec)]
  | step (off : Int) (sec : RawSection) (tr : Dict) (p : Int) (older : List (Int × RawSection)) :
      SectionAt ext file off sec tr → dget tr kPrev = some (.int p) → RevChain ext file p older →
      RevChain ext file off ((off, sec) :: older)

theorem RevChain.toChainB {ext : Reader.Ext} {file : List Nat} {off : Int} {revs : List (Int × RawSection)}
    (h : RevChain ext file off revs) : ChainB ext file off revs := by
  induction h with
  | last off sec tr hs hp => exact .last off sec tr hs.parse (prevOf_of_none hp)
  | step off sec tr p older hs hp _ ih => exact .step off sec tr p older hs.parse (prevOf_of_int hp) ih

/-- **history_reconstructed** (the property's first sentence, on the bytes, up to the merged
table): a file ending in `startxref` *start*, in which from offset *start* cross-reference
sections OF EITHER KIND stand chained by `/Prev` at distinct offsets — classic tables with any
subsections and end-of-line choices, cross-reference streams with any `/W`, `/Index` and filter
chain that decodes — whatever else the file contains, is loaded (`loadXRef`: what `reader.Open`
keeps once it has accepted the header) as a table in which every object number has exactly the entry authored in the newest revision that
mentions it, and none if no revision does. -/
theorem history_reconstructed (ext : Reader.Ext) (file : List Nat) (start : Int)
    (revs : List (Int × RawSection))
    (hfind : findXRef file = .ok start) (hc : RevChain ext file start revs)
    (hnd : (revs.map Prod.fst).Nodup) (n : Int) :
    ∃ x, loadXRef ext file = .ok x ∧ getLastI x n = newestI (revs.map Prod.snd).reverse n :=
  lookup_newest_bytes ext file start revs hfind hc.toChainB hnd n

theorem newestI_none_iff (ts : List RawSection) (n : Int) :
    newestI ts n = none ↔ ∀ t ∈ ts, getLastI t n = none := by
  simp only [← getLastI_flatten, getLastI_eq_lookup, List.lookup_eq_none_iff, List.mem_reverse, List.mem_flatten]
  exact ⟨fun h t ht p hp => h p ⟨t, ht, hp⟩, fun h p ⟨t, ht, hp⟩ => h t ht p hp⟩

/-- a layout that does not need the resolver: a plain value, or a stream with a direct `/Length` -/
def DirectBody (b : Body) : Prop := b.Ok (fun _ => none)

theorem DirectBody.ok {b : Body} (h : DirectBody b) (lenOf : Int → Option Int) : b.Ok lenOf := by
  cases b with
  | plain val s3 => exact h
  | stream pre kvs close s3 seol data w4 s5 =>
    obtain ⟨a1, a2, a3, a4, a5, a6, a7⟩ := h
    refine ⟨a1, a2, a3, a4, a5, a6, ?_⟩
    rcases a7 with h | ⟨n, g, _, hl⟩
    · exact Or.inl h
    · cases hl

/-- at offset `off` of `file` stands the indirect object `num` with body `b` -/
def ObjectAt (file : List Nat) (off : Int) (num : Nat) (b : Body) : Prop :=
  ∃ (before : List Nat) (gen : Nat) (s1 s2 : Sep) (rest : List Nat),
    file = before ++ renderIndirect num gen s1 s2 b rest ∧ (before.length : Int) = off ∧
    num ≤ Tabula.A1.maxInt64 ∧ gen ≤ Tabula.A1.maxInt64 ∧ SepOk s1 ∧ s1 ≠ [] ∧ SepOk s2 ∧ s2 ≠ [] ∧
    DirectBody b ∧ Terminated rest

theorem uncompressedAt_object (file : List Nat) (off : Int) (num : Nat) (b : Body) (lenOf : Int → Option Int)
    (h : ObjectAt file off num b) : uncompressedAt file (num : Int) off lenOf = some b.value := by
  obtain ⟨before, gen, s1, s2, rest, rfl, rfl, hn, hg, h1, h1n, h2, h2n, hb, hT⟩ := h
  rw [uncompressedAt_of_parse (parseIndirect_render lenOf num gen s1 s2 b rest hn hg h1 h1n h2 h2n (hb.ok lenOf) hT)]
  exact if_pos rfl

/-- **lookup_missing_or_free_is_error**: whatever the file contains, an object number without
entry in the table, or whose entry is free, is an error (at any nesting of lookups) -/
theorem lookup_missing_or_free_is_error (ext : Reader.Ext) (file : List Nat) (x : RawSection) (fuel : Nat)
    (loading : List Int) (n : Int)
    (h : getLastI x n = none ∨ ∃ e, getLastI x n = some e ∧ e.kind = .free) :
    getObjectB ext file x fuel loading n = none := by
  refine getObjectB_of_locate_none fuel loading ?_
  rcases h with h | ⟨e, h, he⟩
  · simp only [XrefC.locate, h]
  · simp only [XrefC.locate, h, he, if_true]

/-- an in-use entry leads to the object standing at its offset — at any nesting of lookups the
limit allows: fewer than `maxNestedLoads` = 16 objects already being loaded, the object not among
them (since 129dd3d; before, any nesting) -/
theorem lookup_in_use_at (ext : Reader.Ext) (file : List Nat) (x : RawSection) (fuel : Nat) (loading : List Int)
    (num : Nat) (e : RawEntry) (b : Body)
    (h : getLastI x (num : Int) = some e) (he : e.kind = .inUse) (hobj : ObjectAt file e.f1 num b)
    (hnot : (num : Int) ∉ loading) (hlim : loading.length < maxNestedLoads) :
    getObjectB ext file x (fuel + 1) loading (num : Int) = some b.value := by
  obtain ⟨lenOf, -, hget⟩ := getObjectB_at (ext := ext) (file := file) fuel (XrefC.locate_inUse h he) hlim
  rw [hget, if_neg hnot, uncompressedAt_object file e.f1 num b lenOf hobj]
  rfl

/-- an in-use entry leads to the object standing at its offset (a lookup made from outside: nothing
is being loaded) -/
theorem lookup_in_use (ext : Reader.Ext) (file : List Nat) (x : RawSection) (fuel : Nat) (num : Nat)
    (e : RawEntry) (b : Body)
    (h : getLastI x (num : Int) = some e) (he : e.kind = .inUse) (hobj : ObjectAt file e.f1 num b) :
    getObjectB ext file x (fuel + 1) [] (num : Int) = some b.value :=
  lookup_in_use_at ext file x fuel [] num e b h he hobj (by simp) (by simp [maxNestedLoads])

/-- a compressed entry leads through the object stream it names: the stream object is read at
its own entry's offset, decoded (`Reader.mkObjStm`: `/N`, `/First`, header pairs), the member
is cut out by index and must carry the number asked for — at any nesting of lookups the limit
allows (fewer than 16 objects being loaded, `n` not among them) -/
theorem lookup_compressed_at (ext : Reader.Ext) (file : List Nat) (x : RawSection) (fuel : Nat)
    (loading : List Int) (n : Int)
    (e se : RawEntry) (stm : Nat) (pre : Sep) (kvs : List SObj) (close s3 : Sep) (seol : StreamEol)
    (data w4 : List Nat) (s5 : Sep) (os : Reader.ObjStm) (o : Obj)
    (h : getLastI x n = some e) (he : e.kind = .compressed) (hstm : e.f1 = (stm : Int))
    (hs : getLastI x (stm : Int) = some se) (hse : se.kind ≠ .compressed)
    (hobj : ObjectAt file se.f1 stm (.stream pre kvs close s3 seol data w4 s5))
    (hdec : Reader.mkObjStm ext (valueKVs kvs) data = .ok os)
    (hmem : osSpec (.ok os) e.f2 = some (n, o))
    (hnot : n ∉ loading) (hlim : loading.length < maxNestedLoads) :
    getObjectB ext file x (fuel + 1) loading n = some (.obj o) := by
  obtain ⟨lenOf, -, hget⟩ :=
    getObjectB_at (ext := ext) (file := file) fuel (locate_member h he (hstm ▸ hs) hse) hlim
  rw [hget, if_neg hnot, hstm, uncompressedAt_object file se.f1 stm _ lenOf hobj]
  exact pick_member hdec hmem

/-- a compressed entry leads through the object stream it names (a lookup made from outside) -/
theorem lookup_compressed (ext : Reader.Ext) (file : List Nat) (x : RawSection) (fuel : Nat) (n : Int)
    (e se : RawEntry) (stm : Nat) (pre : Sep) (kvs : List SObj) (close s3 : Sep) (seol : StreamEol)
    (data w4 : List Nat) (s5 : Sep) (os : Reader.ObjStm) (o : Obj)
    (h : getLastI x n = some e) (he : e.kind = .compressed) (hstm : e.f1 = (stm : Int))
    (hs : getLastI x (stm : Int) = some se) (hse : se.kind ≠ .compressed)
    (hobj : ObjectAt file se.f1 stm (.stream pre kvs close s3 seol data w4 s5))
    (hdec : Reader.mkObjStm ext (valueKVs kvs) data = .ok os)
    (hmem : osSpec (.ok os) e.f2 = some (n, o)) :
    getObjectB ext file x (fuel + 1) [] n = some (.obj o) :=
  lookup_compressed_at ext file x fuel [] n e se stm pre kvs close s3 seol data w4 s5 os o h he hstm hs hse hobj
    hdec hmem (by simp) (by simp [maxNestedLoads])

/-- **objstm_member_roundtrip**: an object stream whose dictionary says `/Type /ObjStm`, `/N` =
number of members, `/First` = length of the header, and whose data decodes (through whatever
filters) to the header `n1 o1 n2 o2 … ` — member numbers with the running offsets — followed
by the members, each in ANY legal spelling of any object nested at most 500 deep and followed
by a space: index `i` of that stream is exactly (number of member `i`, value of member `i`). -/
theorem objstm_member_roundtrip (ext : Reader.Ext) (kv : Dict) (raw : List Nat)
    (a b : List (Nat × SObj)) (m : Nat × SObj)
    (hT : dget kv Reader.kType = some (.name kObjStm))
    (hN : dget kv kN = some (.int (pairsFrom 0 (a ++ m :: b)).length))
    (hF : dget kv kFirst = some (.int (headerText (pairsFrom 0 (a ++ m :: b))).length))
    (hE : dget kv kExtends = none)
    (hdec : Reader.decodeStream ext kv raw =
      some (headerText (pairsFrom 0 (a ++ m :: b)) ++ bodiesOf (a ++ m :: b)))
    (hnum : ∀ x ∈ a ++ m :: b, x.1 < 9223372036854775808)
    (hsize : (bodiesOf (a ++ m :: b)).length < 9223372036854775808)
    (hv : m.2.Valid false) (hd : m.2.value.depth ≤ maxNestingDepth) :
    osSpec (Reader.mkObjStm ext kv raw) (a.length : Int) = some ((m.1 : Int), m.2.value) := by
  have hb := pairsFrom_bounds 0 (a ++ m :: b)
  rw [mkObjStm_header ext kv raw _ _ hT hN hF hE hdec
    (by
      intro p hp
      obtain ⟨⟨x, hx, e⟩, h2⟩ := hb p hp
      exact ⟨by rw [← e]; exact hnum x hx, by omega⟩)
    (by
      intro p hp
      have := (hb p hp).2
      simp only [List.length_append]; omega)]
  unfold osSpec
  have hneg : ¬ ((a.length : Int) < 0) := by omega
  simp only [hneg, if_false, Int.toNat_natCast, memberSlice_writer a b m]
  have hp := core_roundtrip_spelled m.2 [.ws 32] hv (sepOk_ws rfl) hd
  have e32 : renderSep [SepUnit.ws 32] = [32] := rfl
  rw [e32] at hp
  simp only [memberText, hp]

/-- satisfiable: two members, `5` and `<</V 7>>` -/
example : (pairsFrom 0 ([] ++ ((11 : Nat), SObj.int [] false 0 5) ::
    [((12 : Nat), SObj.dict [] [SObj.name [] [.raw 86], SObj.int [.ws 32] false 0 7] [])])).length = 2 := by
  simp [pairsFrom]

/-- **lookup_newest_revision** (end to end on the bytes, for objects stored plainly): the file
starts `%PDF-d.d`, ends in `startxref`, its revisions — cross-reference sections of either kind
chained by `/Prev` — are as in `history_reconstructed`; if the newest revision that mentions
object `num` says "in use at offset `off`" and at that offset stands `num G obj … endobj`
(any legal spelling; a stream with its data), then `reader.Open(file).GetObject(num)` is exactly
that value — whatever older revisions say about `num`, whatever else the file contains. -/
theorem lookup_newest_revision (ext : Reader.Ext) (file : List Nat) (start : Int)
    (revs : List (Int × RawSection)) (hhdr : headerOk file = true)
    (hfind : findXRef file = .ok start) (hc : RevChain ext file start revs)
    (hnd : (revs.map Prod.fst).Nodup) (num : Nat) (e : RawEntry) (b : Body)
    (hnew : newestI (revs.map Prod.snd).reverse (num : Int) = some e) (he : e.kind = .inUse)
    (hobj : ObjectAt file e.f1 num b) :
    lookup ext file (num : Int) = .ok (some b.value) := by
  obtain ⟨x, hx, hl⟩ := history_reconstructed ext file start revs hfind hc hnd (num : Int)
  rw [lookup_of_open (openFile_of_load hhdr hx),
    lookup_in_use ext file x maxNestedLoads num e b (by rw [hl]; exact hnew) he hobj]

/-- **lookup_newest_revision_compressed** (end to end on the bytes, for objects stored inside
object streams): the file and its revisions as in `lookup_newest_revision`; if the newest
revision that mentions object `m.1` says "member `a.length` of object stream `stm`", the newest
entry of `stm` is not itself compressed, at its offset stands `stm G obj << … >> stream …`
whose dictionary and data are those of `objstm_member_roundtrip` with `m` as member number
`a.length`, then `GetObject(m.1)` is exactly the value of `m` — whatever older revisions say,
in whichever kind of section, whatever else the file contains. -/
theorem lookup_newest_revision_compressed (ext : Reader.Ext) (file : List Nat) (start : Int)
    (revs : List (Int × RawSection)) (hhdr : headerOk file = true)
    (hfind : findXRef file = .ok start) (hc : RevChain ext file start revs)
    (hnd : (revs.map Prod.fst).Nodup)
    (e se : RawEntry) (stm : Nat) (pre : Sep) (kvs : List SObj) (close s3 : Sep) (seol : StreamEol)
    (raw w4 : List Nat) (s5 : Sep) (a b : List (Nat × SObj)) (m : Nat × SObj)
    (hnew : newestI (revs.map Prod.snd).reverse (m.1 : Int) = some e) (he : e.kind = .compressed)
    (hstm : e.f1 = (stm : Int)) (hidx : e.f2 = (a.length : Int))
    (hsnew : newestI (revs.map Prod.snd).reverse (stm : Int) = some se) (hse : se.kind ≠ .compressed)
    (hobj : ObjectAt file se.f1 stm (.stream pre kvs close s3 seol raw w4 s5))
    (hT : dget (valueKVs kvs) Reader.kType = some (.name kObjStm))
    (hN : dget (valueKVs kvs) kN = some (.int (pairsFrom 0 (a ++ m :: b)).length))
    (hF : dget (valueKVs kvs) kFirst = some (.int (headerText (pairsFrom 0 (a ++ m :: b))).length))
    (hE : dget (valueKVs kvs) kExtends = none)
    (hdec : Reader.decodeStream ext (valueKVs kvs) raw =
      some (headerText (pairsFrom 0 (a ++ m :: b)) ++ bodiesOf (a ++ m :: b)))
    (hnum : ∀ x ∈ a ++ m :: b, x.1 < 9223372036854775808)
    (hsize : (bodiesOf (a ++ m :: b)).length < 9223372036854775808)
    (hv : m.2.Valid false) (hd : m.2.value.depth ≤ maxNestingDepth) :
    lookup ext file (m.1 : Int) = .ok (some (.obj m.2.value)) := by
  -- one table for both numbers: the merge of the revisions
  have hx := (load_chain_oldest_first ext file start revs hfind hc.toChainB hnd).2
  have hl := getLastI_flatten (revs.map Prod.snd).reverse
  have hmem := objstm_member_roundtrip ext (valueKVs kvs) raw a b m hT hN hF hE hdec hnum hsize hv hd
  cases hmk : Reader.mkObjStm ext (valueKVs kvs) raw with
  | error _ =>
    rw [hmk] at hmem
    simp [osSpec] at hmem
  | ok os =>
    rw [hmk] at hmem
    rw [lookup_of_open (openFile_of_load hhdr hx),
      lookup_compressed ext file _ maxNestedLoads (m.1 : Int) e se stm pre kvs close s3 seol raw w4 s5 os
        m.2.value (by rw [hl]; exact hnew) he hstm (by rw [hl]; exact hsnew) hse hobj hmk (by rw [hidx]; exact hmem)]

/-- **lookup_deleted_or_unknown_is_error** (end to end on the bytes): if the newest revision
that mentions `n` marks it free, or no revision mentions it, `GetObject(n)` is an error —
even when older revisions define it and its bytes are still in the file. -/
theorem lookup_deleted_or_unknown_is_error (ext : Reader.Ext) (file : List Nat) (start : Int)
    (revs : List (Int × RawSection)) (hhdr : headerOk file = true)
    (hfind : findXRef file = .ok start) (hc : RevChain ext file start revs)
    (hnd : (revs.map Prod.fst).Nodup) (n : Int)
    (hnew : newestI (revs.map Prod.snd).reverse n = none ∨
      ∃ e, newestI (revs.map Prod.snd).reverse n = some e ∧ e.kind = .free) :
    lookup ext file n = .ok none := by
  obtain ⟨x, hx, hl⟩ := history_reconstructed ext file start revs hfind hc hnd n
  rw [lookup_of_open (openFile_of_load hhdr hx),
    lookup_missing_or_free_is_error ext file x _ [] n (by rw [hl]; exact hnew)]

theorem renderEntries_append (ee : EntEol) (es : List CEnt) (k r : List Nat) :
    renderEntries ee es (k ++ r) = renderEntries ee es k ++ r := by
  induction es with
  | nil => rfl
  | cons e es ih => simp [renderEntries, ih]

theorem renderSubs_append (eol : Eol) (ee : EntEol) (ss : List CSub) (k r : List Nat) :
    renderSubs eol ee ss (k ++ r) = renderSubs eol ee ss k ++ r := by
  induction ss with
  | nil => rfl
  | cons s ss ih => simp [renderSubs, ih, renderEntries_append]

/-- the table is a block of bytes followed by `rest` -/
theorem renderClassic_append (eol : Eol) (ee : EntEol) (subs : List CSub) (tr rest : List Nat) :
    renderClassic eol ee subs tr rest = renderClassic eol ee subs tr [] ++ rest := by
  unfold renderClassic
  have : kwTrailer ++ (eol.bytes ++ (tr ++ (eol.bytes ++ rest))) =
      (kwTrailer ++ (eol.bytes ++ (tr ++ (eol.bytes ++ [])))) ++ rest := by simp
  rw [this, renderSubs_append]
  simp

/-- `ClassicChain` is satisfiable: a file with nine bytes of header, an older table (objects 0
and 1), two bytes in between, and a newer table (object 1 again) whose trailer says `/Prev 9` -/
example : ∃ (file : List Nat) (start : Int) (revs : List (Int × List CSub)),
    ClassicChain file start revs ∧ revs.length = 2 ∧ (revs.map Prod.fst).Nodup := by
  let trOld : SObj := .dict [] [SObj.name [] [.raw 83], SObj.int [.ws 32] false 0 2] []
  let trNew : SObj := .dict [] [SObj.name [] [.raw 80, .raw 114, .raw 101, .raw 118], SObj.int [.ws 32] false 0 9] []
  let b0 : List Nat := List.replicate 9 37
  let subsOld : List CSub := [(0, [⟨0, 65535, false⟩, ⟨17, 0, true⟩])]
  let subsNew : List CSub := [(1, [⟨40, 0, true⟩])]
  let oldBlock := renderClassic .lf .spLf subsOld trOld.render []
  let before := b0 ++ oldBlock ++ [37, 10]
  let file := before ++ renderClassic .crlf .crLf subsNew trNew.render []
  obtain ⟨hvOld, hdOld, hlOld, hlenOld, hgOld⟩ :=
    nameIntDict_oneLine (bs := [83]) 2 (by decide) (by decide) (by decide) false
  obtain ⟨hvNew, hdNew, hlNew, hlenNew, hgNew⟩ :=
    nameIntDict_oneLine (bs := [80, 114, 101, 118]) 9 (by decide) (by decide) (by decide) false
  have hokOld : ∀ s ∈ subsOld, s.Ok := by decide
  have hokNew : ∀ s ∈ subsNew, s.Ok := by decide
  have hfileOld : file = b0 ++ renderClassic .lf .spLf subsOld trOld.render
      ([37, 10] ++ renderClassic .crlf .crLf subsNew trNew.render []) := by
    show before ++ _ = _
    rw [renderClassic_append .lf .spLf subsOld trOld.render ([37, 10] ++ _)]
    simp [before, oldBlock]
  have hOld : ClassicChain file b0.length [((b0.length : Int), subsOld)] :=
    .last b0 .lf .spLf subsOld [] _ [] _ hfileOld hokOld hvOld hdOld hlOld hlenOld (by intro h; cases h)
      ((hgOld _).trans (if_neg (by decide)))
  have hNew : ClassicChain file before.length [((before.length : Int), subsNew), ((b0.length : Int), subsOld)] :=
    .step before .crlf .crLf subsNew [] _ [] [] 9 _ rfl hokNew hvNew hdNew hlNew hlenNew (by intro h; cases h)
      ((hgNew _).trans (if_pos rfl))
      (by simpa [b0] using hOld)
  refine ⟨file, before.length, _, hNew, rfl, ?_⟩
  simp [before, b0]
  omega

theorem body_render_append (b : Body) (rest : List Nat) : b.render rest = b.render [] ++ rest := by
  cases b <;> simp [Body.render]

theorem renderIndirect_append (num gen : Nat) (s1 s2 : Sep) (b : Body) (rest : List Nat) :
    renderIndirect num gen s1 s2 b rest = renderIndirect num gen s1 s2 b [] ++ rest := by
  unfold renderIndirect
  rw [body_render_append b rest]
  simp

/-- **end_to_end_witness**: the hypotheses of `lookup_newest_revision` and
`lookup_deleted_or_unknown_is_error` are satisfiable together — `%PDF-1.7`, the object
`1 0 obj 42 endobj` at offset 9, a classic table (object 0 free, object 1 in use at 9), the
trailer `<</Size 2>>`, `startxref` and the table's offset: through the theorems, object 1 is
looked up as 42 and object 2 is an error, for every inflate function. -/
theorem end_to_end_witness (ext : Reader.Ext) :
    ∃ file : List Nat, lookup ext file 1 = .ok (some (.obj (.int 42))) ∧ lookup ext file 2 = .ok none := by
  let hdr : List Nat := [37, 80, 68, 70, 45, 49, 46, 55, 10]
  let body : Body := .plain (SObj.int [.ws 10] false 0 42) [.ws 10]
  let objHead := renderIndirect 1 0 [.ws 32] [.ws 32] body []
  let before := hdr ++ objHead ++ [10]
  let tr : SObj := .dict [] [SObj.name [] [.raw 83, .raw 105, .raw 122, .raw 101], SObj.int [.ws 32] false 0 2] []
  let subs : List CSub := [(0, [⟨0, 65535, false⟩, ⟨9, 0, true⟩])]
  let tail : List Nat := kwStartxref ++ (Eol.lf.bytes ++ (Tabula.A1.dec before.length ++ (Eol.lf.bytes ++ [37, 37, 69, 79, 70, 10])))
  let file := before ++ renderClassic .lf .spLf subs tr.render tail
  have hobjHead : objHead = [49, 32, 48, 32, 111, 98, 106, 10, 52, 50, 10, 101, 110, 100, 111, 98, 106] := by
    simp [objHead, body, renderIndirect, Body.render, SObj.render, renderSep, SepUnit.render, printInt, kwObj,
      kwEndobj, Tabula.A1.dec, Tabula.A1.decAux]
  have hblen : before.length = 27 := by simp [before, hdr, hobjHead]
  obtain ⟨hvtr, hdtr, hltr, hlentr, hgtr⟩ :=
    nameIntDict_oneLine (bs := [83, 105, 122, 101]) 2 (by decide) (by decide) (by decide) false
  have hsubs : ∀ s ∈ subs, s.Ok := by decide
  -- the section
  have hsec : SectionAt ext file before.length (classicSection subs) (valueKVs [SObj.name [] [.raw 83, .raw 105, .raw 122, .raw 101], SObj.int [.ws 32] false 0 2]) :=
    .classic before .lf .spLf subs [] _ [] tail rfl hsubs hvtr hdtr hltr hlentr (by intro h; cases h)
  have hchain : RevChain ext file before.length [((before.length : Int), classicSection subs)] :=
    .last _ _ _ hsec ((hgtr _).trans (if_neg (by decide)))
  -- startxref
  have hfind : findXRef file = .ok (before.length : Int) := by
    have e : file = (before ++ renderClassic .lf .spLf subs tr.render []) ++ tail := by
      show before ++ renderClassic .lf .spLf subs tr.render tail = _
      rw [renderClassic_append .lf .spLf subs tr.render tail]; simp
    rw [e]
    apply find_xref_roundtrip _ [37, 37, 69, 79, 70, 10] .lf .lf before.length
    · rw [hblen]; decide
    · decide
    · have := dec_length_le before.length 2 (by rw [hblen]; decide)
      simp [kwStartxref, Eol.bytes]; omega
  have hhdr : headerOk file = true := by
    simp [file, before, hdr, headerOk, isDigit]
  -- the object
  have hobj : ObjectAt file 9 1 body := by
    refine ⟨hdr, 0, [.ws 32], [.ws 32], [10] ++ renderClassic .lf .spLf subs tr.render tail, ?_, rfl,
      by decide, by decide, sepOk_ws rfl, List.cons_ne_nil _ _, sepOk_ws rfl, List.cons_ne_nil _ _, ?_,
      Prs.term_cons 10 _ (by decide)⟩
    · show before ++ _ = _
      rw [renderIndirect_append 1 0 [.ws 32] [.ws 32] body ([10] ++ _)]
      simp [before, objHead]
    · exact ⟨⟨sepOk_ws rfl, fun _ => List.cons_ne_nil _ _, by decide, by decide⟩, Nat.zero_le _, sepOk_ws rfl,
        fun _ => List.cons_ne_nil _ _⟩
  have hnd : ([((before.length : Int), classicSection subs)].map Prod.fst).Nodup := by simp
  have hnew1 : newestI ([((before.length : Int), classicSection subs)].map Prod.snd).reverse ((1 : Nat) : Int) =
      some ⟨.inUse, 9, 0⟩ := by
    simp [newestI, subs, classicSection, numberFrom, CEnt.raw, entryOf, getLastI]
  have hnew2 : newestI ([((before.length : Int), classicSection subs)].map Prod.snd).reverse 2 = none := by
    simp [newestI, subs, classicSection, numberFrom, CEnt.raw, entryOf, getLastI]
  refine ⟨file, ?_, ?_⟩
  · have := lookup_newest_revision ext file before.length _ hhdr hfind hchain hnd 1 ⟨.inUse, 9, 0⟩ body hnew1 rfl hobj
    simpa [body, Body.value, SObj.value] using this
  · exact lookup_deleted_or_unknown_is_error ext file before.length _ hhdr hfind hchain hnd 2 (Or.inl hnew2)

end Tabula.C04B
