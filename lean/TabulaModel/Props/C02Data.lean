import TabulaModel.Lemmas.BoundsData
/-!
# C02 — bounded work on data-sized quantities of the PDF path

Theorems about `Model/BoundsData.lean`, each for EVERY input. Ops: `c02.ccitt`, `c02.gaps`,
`c02.topng`, `c02.jpeg`, `c02.cspace`, `c02.layout`, `c02.contents` (harness/c02/bounds_data.go).
-/
namespace Tabula.C02Data
open Tabula.BoundsData


/-- **ccitt_output_bounded**: whatever `/Columns` and `/Rows` say and however much the decoder
could produce, at most 64 MiB + 1 bytes are read into memory; an accepted image has at most
64 MiB and is everything the decoder had; `Columns < 1` and `Rows < 0` read nothing. -/
theorem ccitt_output_bounded (columns rows : Int) (avail : Nat) :
    (ccittDecode columns rows avail).2 ≤ maxCCITTOutput + 1 ∧
    (∀ n, (ccittDecode columns rows avail).1 = .ok n → n ≤ maxCCITTOutput ∧ n = avail) ∧
    ((columns < 1 ∨ rows < 0) → ccittDecode columns rows avail = (.badParams, 0)) := by
  rw [ccittDecode_eq]
  split
  · exact ⟨Nat.zero_le _, nofun, fun _ => rfl⟩
  · rename_i h
    split
    · exact ⟨Nat.min_le_right _ _, nofun, fun h' => absurd h' h⟩
    · exact ⟨by omega, fun n hn => by cases hn; omega, fun h' => absurd h' h⟩

/-- beyond the limit the answer is the documented error -/
theorem ccitt_too_large (columns rows : Int) (avail : Nat) (hc : 1 ≤ columns) (hr : 0 ≤ rows)
    (h : maxCCITTOutput < avail) : (ccittDecode columns rows avail).1 = .tooLarge := by
  rw [ccittDecode_eq, if_neg (by omega), if_pos h]
example : ccittDecode 0 0 100 = (.badParams, 0) := by decide +kernel
example : ccittDecode 1048576 0 (2048 * 8 * 131072) = (.tooLarge, 67108865) := by decide +kernel
example : ccittDecode 8388608 64 67108864 = (.ok 67108864, 67108864) := by decide +kernel
example : ccittDecode 1728 0 216 = (.ok 216, 216) := by decide +kernel


/-- **histogram_size_bounded**: for EVERY page width the histogram has at most 2^20 buckets
(+1 for the difference array); a negative or absurd width allocates nothing. -/
theorem histogram_size_bounded (w : Int) (nb : Nat) (h : numBuckets w = some nb) :
    1 ≤ nb ∧ nb ≤ maxBuckets ∧ 0 ≤ w := by
  unfold numBuckets at h
  split at h
  · cases h
  · rename_i hw
    injection h with h
    subst h
    unfold maxBuckets at *
    omega

/-- **histogram_run_in_range**: for EVERY fragment position (negative, beyond the page, 2^62) the
two indices the loop touches, `start` and `end+1`, lie inside the difference array of `nb+1`
entries, and `start ≤ end`. -/
theorem histogram_run_in_range (nb : Nat) (s e : Int) (a b : Nat) (h : clampRun nb s e = some (a, b)) :
    a ≤ b ∧ b + 1 < nb + 1 := by
  have := clampRun_some h
  omega

/-- **histogram_work_linear**: the histogram has exactly `nb` entries, whatever the widths of the
fragments; `histSteps` is `fragments + nb + 1` by its definition (it counts one step per fragment and
per bucket; it is not derived from the loops of the model). -/
theorem histogram_work_linear (nb : Nat) (frags : List (Int × Int)) :
    (histogram nb frags).length = nb ∧ histSteps nb frags = frags.length + nb + 1 := by
  refine ⟨?_, rfl⟩
  unfold histogram
  rw [List.length_take, prefixSums_length, histDiff_length]
  simp

/-- **histogram_is_the_naive_histogram**: the difference-array code computes, for EVERY set of
fragments and every number of buckets, exactly the histogram built by incrementing every bucket of
every run (`histNaive`): entry `b` is the number of fragments covering bucket `b`. -/
theorem histogram_is_the_naive_histogram (nb : Nat) (frags : List (Int × Int)) :
    histogram nb frags = histNaive nb frags := by
  apply List.ext_getElem?
  intro b
  by_cases hb : b < nb
  · unfold histogram histNaive prefixSums
    rw [prefixSumsGo_spec]
    have hlen : b < (histDiff nb frags (List.replicate (nb + 1) 0)).length := by
      rw [histDiff_length]; simp; omega
    simp only [List.reverse_nil, List.nil_append, List.getElem?_take, hb, if_true,
      List.getElem?_map, List.getElem?_range hlen, List.getElem?_range hb, Option.map_some,
      Int.zero_add]
    rw [psum_histDiff nb frags _ (by simp) b, psum_replicate]
    simp
  · have h1 : (histogram nb frags).length ≤ b := by rw [(histogram_work_linear nb frags).1]; omega
    have h2 : (histNaive nb frags).length ≤ b := by simp [histNaive]; omega
    rw [List.getElem?_eq_none h1, List.getElem?_eq_none h2]

/-- **column_gaps_bounded**: at most 5 gaps are reported for every page and every set of fragments -/
theorem column_gaps_bounded (w : Int) (frags : List (Int × Int)) : (findGaps w frags).length ≤ 5 := by
  unfold findGaps
  split
  · exact Nat.zero_le _
  · split
    · exact Nat.zero_le _
    · exact gapsIn_length _ _ _ _

example : numBuckets 9223372036854775807 = none := by decide +kernel
example : numBuckets (-1) = none := by decide +kernel
example : numBuckets 5242879 = some 1048576 := by decide +kernel
example : numBuckets 5242880 = none := by decide +kernel
example : clampRun 100 (-7) 1000000 = some (0, 99) := by decide +kernel
example : histogram 6 [(0, 2), (1, 9), (4, 4)] = [1, 2, 2, 1, 2, 1] := by decide +kernel
example : histogram 6 [(0, 2), (1, 9), (4, 4)] = histNaive 6 [(0, 2), (1, 9), (4, 4)] := by decide +kernel
/-- two columns of text with a valley of 6 buckets between them -/
example : findGaps 612 [(2, 10), (2, 11), (17, 30), (18, 29)] = [(12, 17)] := by decide +kernel


/-- **image_allocation_bounded**: an image that passes the check has positive dimensions and at
most one pixel per bit of its data — for EVERY `/Width`, `/Height` (negative, 2^40, …). -/
theorem image_allocation_bounded (w h : Int) (len : Nat) (hf : imageFits w h len = true) :
    0 < w ∧ 0 < h ∧ w * h ≤ (len : Int) * 8 := by
  unfold imageFits at hf
  simp only [Bool.not_eq_true', Bool.or_eq_false_iff, decide_eq_false_iff_not, Int.not_le,
    Int.not_lt] at hf
  obtain ⟨⟨⟨hw, hh⟩, -⟩, hhb⟩ := hf
  exact ⟨hw, hh, Int.mul_comm h w ▸ Int.mul_le_of_le_ediv hw hhb⟩

/-- **topng_pixels_bounded**: an image `ToPNG` encodes has `W x H` pixels, at most 8 per byte of
image data. -/
theorem topng_pixels_bounded (cs : ImgCS) (bpc w h : Int) (len p : Nat)
    (hp : toPNG cs bpc w h len = .ok p) : p ≤ len * 8 ∧ (p : Int) = w * h := by
  obtain ⟨hf, rfl⟩ := toPNG_ok hp
  obtain ⟨hw, hh, hb⟩ := image_allocation_bounded w h len hf
  have hwh : ((w.toNat * h.toNat : Nat) : Int) = w * h := by
    rw [Int.natCast_mul, Int.toNat_of_nonneg (by omega), Int.toNat_of_nonneg (by omega)]
  exact ⟨by omega, hwh⟩

/-- **jpeg_pixels_bounded**: a JPEG whose frame header passes the check announces at most 2^26 pixels -/
theorem jpeg_pixels_bounded (w h : Int) (hf : jpegFits w h = true) :
    0 < w ∧ 0 < h ∧ w * h ≤ (maxImagePixels : Int) := by
  unfold jpegFits at hf
  simp only [Bool.not_eq_true', Bool.or_eq_false_iff, decide_eq_false_iff_not, Int.not_le,
    Int.not_lt] at hf
  obtain ⟨⟨hw, hh⟩, hb⟩ := hf
  exact ⟨hw, hh, Int.mul_le_of_le_ediv hh hb⟩

example : imageFits (-4) 4 4 = false := by decide +kernel
example : imageFits 100000 100000 4 = false := by decide +kernel
example : imageFits 1099511627776 1099511627776 16 = false := by decide +kernel
example : toPNG .gray 8 2 2 4 = .ok 4 := rfl
example : toPNG .gray 1 8 4 4 = .ok 32 := rfl
example : toPNG .gray 1 8 5 4 = .error .fit := rfl
example : toPNG .gray 8 3 3 8 = .error .data := rfl
example : toPNG .gray 8 (-4) 4 100 = .error .fit := rfl
example : jpegFits 65535 65535 = false := by decide +kernel
example : jpegFits 8192 8192 = true := by decide +kernel
example : jpegFits 8193 8192 = false := by decide +kernel

/-- **colour_space_depth_bounded**: for EVERY object graph — an `/Indexed` space naming itself or a
cycle as its base — `parseColorSpace` ends, having followed at most 9 levels. -/
theorem colour_space_depth_bounded (g : List (Nat × CS)) (obj : CS) :
    ∃ name depth, parseColorSpace g obj = some (name, depth) ∧ depth ≤ maxColorSpaceDepth + 1 :=
  parseColorSpaceAt_bounded g _ obj 0 (by omega) (by omega)

/-- the witness of 3b6b3b5 (`5 0 obj [/Indexed 5 0 R 1 (ab)]`) is DeviceGray after 9 levels; eight
nested Indexed spaces still reach their base, nine do not -/
example : parseColorSpace [(5, .indexed (.ref 5))] (.ref 5) = some (0, 9) := by decide +kernel
example : parseColorSpace []
    (.indexed (.indexed (.indexed (.indexed (.indexed (.indexed (.indexed (.indexed (.name 1))))))))) =
    some (1, 8) := by decide +kernel
example : parseColorSpace []
    (.indexed (.indexed (.indexed (.indexed (.indexed (.indexed (.indexed (.indexed (.indexed (.name 1)))))))))) =
    some (0, 9) := by decide +kernel


/-- **preserve_layout_output_bounded**: for EVERY set of lines — positions 10^14 away, font sizes
10^-9, a /MediaBox 10^-9 wide — the text written is at most the text of the fragments plus 200
columns of padding per line plus 100 newlines per line. -/
theorem preserve_layout_output_bounded (lines : List PLine) (first : Bool) :
    outputLen (preserveLayout lines first) ≤
      textLen lines + maxCharsPerLine * lines.length + maxGapLines * lines.length := by
  induction lines generalizing first with
  | nil => simp [preserveLayout, outputLen, textLen]
  | cons ln rest ih =>
    have h1 := ih false
    have hp := linePads_sum_le ln.frags 0
    have hz := zip_sum (linePads ln.frags 0) (ln.frags.map Prod.snd) (by simp [linePads_length])
    have hg := (clampGap_le ln.gap).2
    simp only [preserveLayout, outputLen, textLen, List.map_cons, List.sum_cons, runLen, hz,
      List.length_cons] at *
    generalize maxCharsPerLine = C at *
    generalize maxGapLines = G at *
    have e1 : C * (rest.length + 1) = C * rest.length + C := by rw [Nat.mul_add]; simp
    have e2 : G * (rest.length + 1) = G * rest.length + G := by rw [Nat.mul_add]; simp
    rw [e1, e2]
    split <;> omega

/-- the witnesses of daef69b: x = 10^14 and a gap of 10^13 lines -/
example : preserveLayout [⟨0, [(0, 5)]⟩, ⟨10000000000000, [(100000000000000, 5)]⟩] true =
    [(0, [(0, 5)]), (100, [(200, 5)])] := by decide +kernel
example : preserveLayout [⟨0, [(-3, 2), (1, 2), (10, 1)]⟩, ⟨0, [(4, 1)]⟩] true =
    [(0, [(0, 2), (0, 2), (6, 1)]), (1, [(4, 1)])] := by decide +kernel


/-- **page_content_bounded**: however many streams `/Contents` names (and however often the same
one), a total that starts within 64 MiB + 1 stays within it when the loop answers
(`page_content_refused`: beyond 64 MiB the answer is the error). -/
theorem page_content_bounded (lens : List Nat) (total t : Nat) (ht : total ≤ maxPageContentBytes + 1)
    (h : concatContents lens total = some t) : t ≤ maxPageContentBytes + 1 := by
  induction lens generalizing total with
  | nil => simp [concatContents] at h; omega
  | cons len rest ih =>
    unfold concatContents at h
    split at h
    · cases h
    · apply ih _ _ h
      split <;> omega

theorem page_content_refused (lens : List Nat) (len total : Nat)
    (h : maxPageContentBytes < total + len) : concatContents (len :: lens) total = none := by
  simp [concatContents, h]

example : concatContents (List.replicate 63 1048576) 0 = some 66060351 := by decide +kernel
example : concatContents (List.replicate 64 1048576) 0 = none := by decide +kernel

end Tabula.C02Data
