import TabulaModel.Props.C10
/-!
# C10 — every terminal operation, every format

`Props/C10.lean` states the life-cycle theorems (`terminal_releases`, `derive_preserves_parent`,
`close_idempotent`) for the store model, which has all fourteen terminal operations of
`extractor.go`, the three non-terminal ones, the format of the file and the `ensurePDFReader`
path.  This file adds what depends on the operation and on the format:

* the selection rule (`resolvePages`, then "no pages to process" where the code has it) is
  the same for every terminal operation on a PDF;
* for the other formats the selection is ignored (the code never reads `options.pages`
  there) — stated, not hidden;
* `ensurePDFReader` on a file of another format: an error, and nothing stays open (the
  pinned code left the DOCX/ODT/XLSX/PPTX/EPUB file open: `pdf_only_leak_pinned_counterexample`);
* `validateFormat` / the format switch of `ensureReader` as a function of what the format
  detectors and parsers say (`FileFacts`), and that a file that cannot be opened costs no
  descriptor whatever is called on it.
-/
namespace Tabula.C10Life
open Tabula.PageSel Tabula.Builder

/-! ## the selection rule is the same for every terminal operation on a PDF -/

/-- a non-empty selection inside the document selects at least one page -/
theorem specPages_ne_nil (sel : List Int) (n : Nat) (hne : sel ≠ []) (hr : InRange sel n) :
    specPages sel n ≠ [] := by
  cases sel with
  | nil => exact absurd rfl hne
  | cons p ps =>
    have hp := hr p (by simp)
    intro hnil
    have hmem : (p - 1).toNat ∈ specPages (p :: ps) n := by
      rw [mem_specPages]
      refine ⟨by omega, ?_⟩
      have : (((p - 1).toNat : Nat) : Int) + 1 = p := by omega
      rw [this]; simp
    rw [hnil] at hmem
    cases hmem


theorem resolve_valid (sel : List Int) (n : Nat) (hne : sel ≠ []) (hr : InRange sel n) :
    resolvePages sel n = .ok (specPages sel n) :=
  (C10.resolve_spec sel n hne).1 hr

theorem resolve_invalid (sel : List Int) (n : Nat) (hne : sel ≠ []) (hr : ¬ InRange sel n) :
    resolvePages sel n = .error .range :=
  (C10.resolve_spec sel n hne).2 hr

/-- **every_terminal_selects**: whichever of the fourteen terminal operations is called on a PDF
of `n` pages with a non-empty selection inside the document, it works on exactly the pages of
the selected set, ascending. -/
theorem every_terminal_selects (w : World) (k : Term) (o : Options) (n : Nat)
    (hn : w.pageCount = some n) (hne : o.pages ≠ []) (hr : InRange o.pages n) :
    termBody w k o = .pages (specPages o.pages n) := by
  unfold termBody
  simp only [hn, resolve_valid o.pages n hne hr]
  have : (specPages o.pages n).isEmpty = false :=
    List.isEmpty_eq_false_iff.mpr (specPages_ne_nil o.pages n hne hr)
  simp [this]

example : InRange [3, 1, 3] 4 ∧ ([3, 1, 3] : List Int) ≠ [] ∧
    ∀ k ∈ [Term.text, .lines, .analyze, .toMarkdown, .headings, .blocks],
      termBody ⟨true, some 4⟩ k { pages := [3, 1, 3] } = .pages [0, 2] := by
  refine ⟨?_, by simp, by decide⟩
  intro p hp; simp at hp; omega

/-- **every_terminal_out_of_range**: a page number outside the document is an error for every
terminal operation. -/
theorem every_terminal_out_of_range (w : World) (k : Term) (o : Options) (n : Nat)
    (hn : w.pageCount = some n) (hne : o.pages ≠ []) (hr : ¬ InRange o.pages n) :
    termBody w k o = .err := by
  unfold termBody
  simp only [hn, resolve_invalid o.pages n hne hr]

example : ¬ InRange [2, 5] 4 ∧ ∀ k ∈ [Term.text, .paragraphs, .readingOrder, .chunksWithConfig, .lists],
    termBody ⟨true, some 4⟩ k { pages := [2, 5] } = .err := by
  refine ⟨?_, by decide⟩
  intro h; have := h 5 (by simp); omega

/-- without a selection every page is processed; the operations that build a document or a
combined analysis refuse an empty one -/
theorem every_terminal_no_selection (w : World) (k : Term) (o : Options) (n : Nat)
    (hn : w.pageCount = some n) (hsel : o.pages = []) :
    termBody w k o = if k.needsPages && n == 0 then .err else .pages (List.range n) := by
  have hres : resolvePages [] n = .ok (List.range n) := rfl
  unfold termBody
  simp only [hn, hsel, hres]
  cases n <;> simp [List.range_succ]

example : ∀ k ∈ [Term.text, .fragments, .lines, .headings], termBody ⟨true, some 0⟩ k {} = .pages [] ∧
    ∀ k ∈ [Term.document, .chunks, .toMarkdown, .analyze, .elements, .readingOrder],
      termBody ⟨true, some 0⟩ k {} = .err ∧ termBody ⟨true, some 2⟩ k {} = .pages [0, 1] := by decide

/-- a document whose page tree cannot be read fails every terminal operation -/
theorem every_terminal_unreadable (w : World) (k : Term) (o : Options) (hn : w.pageCount = none) :
    termBody w k o = .err := by
  unfold termBody; simp only [hn]

/-! ## the other formats -/

/-- **nonpdf_ignores_selection**: for DOCX, ODT, XLSX, PPTX, HTML and EPUB the answer of a
terminal operation does not depend on the configured pages (nor on any other option as far
as success and failure go): the code hands the whole document to the format's reader.  In
particular `Open("a.docx").Pages(7).Text()` is not an error; the property quantifies over
PDFs, this theorem records what the code does elsewhere. -/
theorem nonpdf_ignores_selection (w : World) (k : Term) (e : Ext) (o' : Options)
    (hf : e.format ≠ .pdf) : termBodyF w k { e with opts := o' } = termBodyF w k e := by
  unfold termBodyF
  simp [hf]

example : termBodyF ⟨true, some 1⟩ .text { format := .docx, opts := { pages := [7] } } = .whole := by
  decide


theorem pdf_body (w : World) (k : Term) (e : Ext) (hf : e.format = .pdf) :
    termBodyF w k e = termBody w k e.opts := by
  unfold termBodyF; simp [hf]

/-! ## ensurePDFReader on a file of another format -/

/-- **pdf_only_elsewhere**: `Fragments`, `Lines`, `Paragraphs`, `ReadingOrder`, `Analyze`,
`Elements`, `Headings`, `Lists`, `Blocks` on an extractor of another format: an error (not a
nil dereference), the extractor owns nothing afterwards, and the number of open readers has
dropped by exactly what it held before — the file `ensureReader` opened for the format error
is closed again, and so is one an earlier `PageCount` opened. -/
theorem pdf_only_elsewhere (w : World) (k : Term) (s : Store) (hs : StoreInv s) (i : Nat)
    (e : Ext) (he : s.exts[i]? = some e) (hk : k.pdfOnly = true) (hf : e.format ≠ .pdf) :
    (terminal w k s i).2 = .err ∧
    ∃ e', (terminal w k s i).1.exts[i]? = some e' ∧ e'.owns = false ∧
      (terminal w k s i).1.fdCount + (if e.owns then 1 else 0) = s.fdCount := by
  constructor
  · rw [terminal_res w k hs he]
    simp only [recRes, hk, Bool.true_and, bne_iff_ne.mpr hf, if_true, ite_self]
  · exact C10.terminal_releases w k s hs i e he

/-- non-vacuity: a DOCX extractor that already holds its file (PageCount), then Fragments -/
example : let w : World := ⟨true, some 1⟩
    let s := exec w (openBaseF .docx) [.nonTerm 0 .pageCount]
    StoreInv s ∧ s.fdCount = 1 ∧ (terminal w .fragments s 0).2 = .err ∧
      (terminal w .fragments s 0).1.fdCount = 0 := by
  refine ⟨inv_exec _ _ (inv_openBaseF .docx), by decide, by decide, by decide⟩

/-- the non-terminal PDF-only operations (`IsMultiColumn`, `IsCharacterLevel`) take the same
path: an error, and a file-based extractor has released its reader -/
theorem pdf_only_probe_elsewhere (w : World) (k : NonTerm) (s : Store) (hs : StoreInv s)
    (i : Nat) (e : Ext) (he : s.exts[i]? = some e) (hk : k.pdfOnly = true)
    (hf : e.format ≠ .pdf) (herr : e.err = false) :
    (nonTerminal w k s i).2 = .err ∧
    ∃ e', (nonTerminal w k s i).1.exts[i]? = some e' ∧ e'.owns = false ∧
      (nonTerminal w k s i).1.fdCount + (if e.owns then 1 else 0) = s.fdCount := by
  constructor
  · rw [nonTerminal_res w k hs he]
    simp only [recRes, hk, Bool.true_and, bne_iff_ne.mpr hf, if_true, ite_self]
  · rw [nonTerminal_fst w k s i e he]
    split
    · -- a builder error: nothing happens, and such an extractor owns nothing
      next he' => exact ⟨e, he, hs.errNoOwn i e he he', by simp [hs.errNoOwn i e he he']⟩
    · simp only [hk, Bool.true_and, bne_iff_ne, ne_eq, hf, not_false_eq_true, if_true]
      exact mismatch_releases w hs he

example : let w : World := ⟨true, some 2⟩
    let s := exec w (openBaseF .xlsx) [.nonTerm 0 .pageCount]
    StoreInv s ∧ s.fdCount = 1 ∧ (nonTerminal w .isMultiColumn s 0).2 = .err ∧
      (nonTerminal w .isMultiColumn s 0).1.fdCount = 0 ∧
      (step w (nonTerminal w .isMultiColumn s 0).1 (.term 0 .text)).2 = .whole := by
  refine ⟨inv_exec _ _ (inv_openBaseF .xlsx), by decide, by decide, by decide, by decide⟩

/-- before the fix the reader opened for the format error stayed open:
`Open("x.docx").Fragments()` failed and left one descriptor behind; now it leaves none -/
theorem pdf_only_leak_pinned_counterexample :
    let w : World := ⟨true, some 1⟩
    ((terminalLeaky w .fragments (openBaseF .docx) 0).2 = .err ∧
      (terminalLeaky w .fragments (openBaseF .docx) 0).1.fdCount = 1) ∧
    ((terminal w .fragments (openBaseF .docx) 0).2 = .err ∧
      (terminal w .fragments (openBaseF .docx) 0).1.fdCount = 0) := by decide

/-! ## validateFormat and the format switch -/

/-- **open_ok_iff**: `ensureReader` gets a reader exactly when the file opens, content
detection does not fail and does not contradict the extension, the extension names a
supported format, and that format's parser accepts the file. -/
theorem open_ok_iff (f : FileFacts) (fmt : Fmt) :
    openOkOf f fmt = true ↔
      f.present = true ∧ (f.detected = some .unknown ∨ f.detected = some fmt) ∧
      fmt ≠ .unknown ∧ f.parseOk = true := by
  unfold openOkOf
  simp only [Bool.and_eq_true, validateFormat_iff, bne_iff_ne, ne_eq, and_assoc]

/-- content of one format under the extension of another is refused before anything is opened -/
theorem mismatch_refused (f : FileFacts) (fmt d : Fmt) (hd : f.detected = some d)
    (hu : d ≠ .unknown) (hne : d ≠ fmt) : openOkOf f fmt = false := by
  cases h : openOkOf f fmt with
  | false => rfl
  | true =>
    have := (open_ok_iff f fmt).mp h
    rcases this.2.1 with h1 | h1
    · rw [hd] at h1; cases h1; exact absurd rfl hu
    · rw [hd] at h1; cases h1; exact absurd rfl hne

example : openOkOf ⟨true, some .docx, true⟩ .odt = false ∧ openOkOf ⟨true, some .unknown, true⟩ .odt = true ∧
    openOkOf ⟨true, some .pdf, true⟩ .unknown = false ∧ openOkOf ⟨true, none, true⟩ .pdf = false := by decide

/-- **unopenable_costs_nothing**: when the file cannot be opened (missing, unreadable, wrong
content, unsupported extension, rejected by the parser), every terminal and non-terminal
operation on an extractor that has not opened it yet fails and leaves the store exactly as it
was: no reader, no descriptor, no flag changed. -/
theorem unopenable_costs_nothing (w : World) (s : Store) (hs : StoreInv s) (i : Nat) (e : Ext)
    (he : s.exts[i]? = some e) (ho : e.opened = false) (hw : w.openOk = false) :
    (∀ k : Term, terminal w k s i = (s, .err)) ∧ (∀ k : NonTerm, nonTerminal w k s i = (s, .err)) := by
  have hens : ensureReader w s i e = .error .open := by
    rw [ensureReader_eq, ho, hw, Bool.and_false]; rfl
  have hmm : mismatchStore w s i e = s := by
    unfold mismatchStore
    rw [hens]
    dsimp only
    split
    · exact closeExt_unopened hs he ho
    · rfl
  constructor
  · intro k
    unfold terminal
    rw [he]
    dsimp only
    rw [hmm, hens]
    dsimp only
    rw [ite_self, ite_self]
  · intro k
    unfold nonTerminal
    rw [he]
    dsimp only
    rw [hmm, hens]
    dsimp only
    rw [ite_self, ite_self]

example : let w : World := ⟨openOkOf ⟨true, some .docx, true⟩ .pdf, some 2⟩
    StoreInv openBase ∧ w.openOk = false ∧
      (exec w openBase [.term 0 .text, .nonTerm 0 .pageCount, .term 0 .lines]) = openBase := by
  refine ⟨inv_openBase, by decide, by decide⟩

/-- HTML readers hold no descriptor at all (`htmldoc.Open` closes the file before it returns) -/
theorem html_holds_nothing (s : Store) : fdHeld .html s = 0 := rfl

/-- for every other format the descriptors are the open readers -/
theorem fd_is_readers (f : Fmt) (s : Store) (h : f ≠ .html) : fdHeld f s = s.fdCount := by
  unfold fdHeld; simp [h]

end Tabula.C10Life
