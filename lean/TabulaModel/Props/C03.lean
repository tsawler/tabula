import TabulaModel.Lemmas.Session
/-!
# C03 — Extraction is deterministic and free of cross-call interference

The real content of C03 is a *structural* fact about the code, regenerated from the source
on every run (`extract/`: no package-level variable of a library package is written outside
`init`, and there is no `go` statement), plus exploration under the race detector. The
theorems say what that fact buys: with the operand list owned by the parser a parse is
independent of every earlier parse, and map-iteration order cannot influence the registered
fonts (in the pinned tree it could, when one name is another with a leading slash).
-/
namespace Tabula.C03
open Tabula.Session

/-- **parse_history_independent**: whatever was parsed before — operand-only input, input that
ends in the middle of an operand list, anything — a parse yields what it yields alone. -/
theorem parse_history_independent (history : List (List Tok)) (x : List Tok) :
    (sessionOwn (history ++ [x])).getLast? = some (parseOwn x) := by
  simp [sessionOwn]

/-- every call of a session is answered as if it ran alone -/
theorem session_pointwise (calls : List (List Tok)) (i : Nat) (h : i < calls.length) :
    (sessionOwn calls)[i]? = some (parseOwn calls[i]) := by
  simp [sessionOwn, h]

/-- with the operand list shared at package level the property fails: after `1 2 3` the parse
of `q` reports three operands (the pinned tree's behaviour, B2) -/
theorem shared_stack_counterexample :
    (sessionShared [] [[.num 1, .num 2, .num 3], [.op 113]]).getLast? ≠ some (parseOwn [.op 113]) := by
  decide

/-- when a parse leaves no operand behind, the shared model answers it as the owned one does and
goes on as from a fresh list -/
theorem shared_eq_own_of_clean (t : List Tok) (rest : List (List Tok)) (h : (group [] t).2 = []) :
    sessionShared [] (t :: rest) = parseOwn t :: sessionShared [] rest := by
  simp only [sessionShared, parseOwn]
  cases hg : group [] t with
  | mk ops left =>
    rw [hg] at h
    simp only at h
    subst h
    rfl

theorem mem_keysOf (ex : Name → Bool) (n a : Name) (h : a ∈ keysOf ex n) :
    a = n ∨ (a = 47 :: n ∧ ex (47 :: n) = false) :=
  ((mem_keysOf_iff ex n a).mp h).imp_right fun h => ⟨h.1, h.2.2⟩

/-- **font_registration_order_free**: for every two iteration orders of the same font
dictionary (any permutation of its entries; names distinct, as in any dictionary) the
registered fonts are the same — including dictionaries in which one name is another with a
leading slash. -/
theorem font_registration_order_free (l₁ l₂ : List (Name × Nat)) (p : l₁.Perm l₂)
    (hnd : (l₁.map Prod.fst).Nodup) : registerAll l₁ = registerAll l₂ := by
  have hex : (fun k => (l₂.map Prod.fst).contains k) = (fun k => (l₁.map Prod.fst).contains k) := by
    funext k
    simp only [List.contains_eq_mem]
    exact decide_eq_decide.mpr (p.map Prod.fst).mem_iff.symm
  funext k
  -- on both sides the entry that has `k` among its keys decides, and the entries are the same
  by_cases h : ∃ e ∈ l₁, k ∈ keysOf (fun k => (l₁.map Prod.fst).contains k) e.1
  · obtain ⟨e, he, hk⟩ := h
    rw [registerAll_of_key l₁ hnd k e he hk,
      registerAll_of_key l₂ ((p.map _).nodup hnd) k e (p.subset he) (hex ▸ hk)]
  · have h' : ∀ e ∈ l₁, k ∉ keysOf (fun k => (l₁.map Prod.fst).contains k) e.1 := fun e he hk => h ⟨e, he, hk⟩
    rw [registerAll_none l₁ k h', registerAll_none l₂ k fun e he => hex ▸ h' e (p.symm.subset he)]

/-- the pinned tree (alias always added) depends on the iteration order for names `F`, `/F` -/
theorem font_alias_pinned_counterexample :
    registerAllPinned [([70], 1), ([47, 70], 2)] [47, 70]
      ≠ registerAllPinned [([47, 70], 2), ([70], 1)] [47, 70] := by
  decide

/-- … and the repaired registration does not -/
example : registerAll [([70], 1), ([47, 70], 2)] [47, 70] = registerAll [([47, 70], 2), ([70], 1)] [47, 70] := by
  decide

end Tabula.C03
