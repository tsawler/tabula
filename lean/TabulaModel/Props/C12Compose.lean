import TabulaModel.Lemmas.ChunkSplit
import TabulaModel.Lemmas.ChunkToc
import TabulaModel.Props.C12
/-!
# C12, element-based chunker with the text splitter of C13 in place: the property end to end

`Props/C12.lean` states every clause for an arbitrary splitter `sp` that meets the contract
`SplitOK sp`. `Model/ChunkSplit.lean` instantiates `sp` with the model of
`SizeCalculator.IsAboveMax` / `SplitToSize` (property C13, `Model/Split.lean`), so that
`rag.ChunkDocumentWithConfig` is modelled with no parameter left (`chunkDocumentC`), and this
file discharges the contract, on the texts the chunker shows the splitter (`SplitOKOn`), from C13's
conservation theorem (`splitToSize_pieces`) and chains the clauses into the statement of the property.

The one hypothesis, `DocNoWide d`: the paragraphs of the document contain no White_Space
character of more than one byte. C13's conservation is "white space aside" for Unicode
White_Space (what `strings.TrimSpace` removes), C12's `strip` removes ASCII white space; on
such documents the two agree.
-/
namespace Tabula.C12Compose
open Tabula.Chunk Tabula.ChunkSplit

/-- **C13's splitter meets C12's contract** on every text without wide white space, for every
size configuration (all five units, any limit, any tokens-per-char). -/
theorem splitter_meets_contract (c : Tabula.Split.SizeConfig) (t : Str) (ps : List Str)
    (hn : noWide t = true) (h : splitterOf c t = some ps) : strip ps.flatten = strip t :=
  splitterOf_ok c t ps hn h

/-- `noWide` holds of ASCII text and of text with multi-byte letters; it fails on U+00A0 -/
example : noWide (ofString "a b\n\tc é 日本") = true ∧ noWide [97, 0xC2, 0xA0, 98] = false := by decide +kernel

/- Full statement ("white space aside" read as Unicode White_Space, no hypothesis on the document)
   is not proved: C12's `strip` and `trim` are ASCII, so a U+00A0 that `SplitToSize` trims away at
   a cut would count as lost text. `DocNoWide` confines the theorem to the documents on which the
   two readings agree (the generated ones). -/

/-- **Cover with the real splitter**: for every size configuration and every document whose
paragraphs have ASCII white space only, the chunk texts of `ChunkDocumentWithConfig`
concatenate, white space aside, to the rendered elements of the document in document order. -/
theorem element_cover (c : Tabula.Split.SizeConfig) (d : Doc) (hd : DocNoWide d) :
    strip (textsOf (chunkDocumentC c d)) = strip ((d.flatMap (·.elems)).flatMap render) := by
  unfold chunkDocumentC chunkDocument chunkDocumentWith
  rw [setTotal_texts]
  exact pagesOK_texts d _ (chunkPages_okOn noWide_joinClosed stackTracker _ (splitterOf_ok c) _ _ rfl d hd)

/-- `DocNoWide` is satisfiable: a paragraph of 30 characters split at 10 -/
example :
    let c : Tabula.Split.SizeConfig := { maxValue := 10, maxUnit := .characters, tpcNum := 1, tpcDen := 4, sem := true }
    let d : Doc := [⟨1, none, [.heading 1 (ofString "T"), .para (ofString "aaaa bbbb cccc dddd eeee ffff")]⟩]
    DocNoWide d ∧ (chunkDocumentC c d).map (·.text) =
      [ofString "T", ofString "aaaa bbbb", ofString "cccc dddd", ofString "eeee ffff"] := by
  refine ⟨?_, by decide +kernel⟩
  intro pg hpg t ht
  simp only [List.mem_singleton] at hpg
  subst hpg
  simp only [List.mem_cons, reduceCtorEq, Elem.para.injEq, List.not_mem_nil, or_false, false_or] at ht
  subst ht
  decide +kernel

/-- a rendered list (ordered or not) is its item texts, in order, each on its own line behind
its indentation and its marker (`- ` or `n. `) -/
theorem list_render_items_any (ordered : Bool) (items : List (Int × Str)) :
    ∃ marks : List Str, marks.length = items.length ∧
      fmtListItems ordered items [] (-1) =
        (marks.zip items).flatMap (fun m => m.1 ++ m.2.2 ++ [10]) :=
  fmtListItems_lines ordered items [] (-1)

/-- **the text of a list chunk is its item lines** (`createListChunk` after efed37d): what
`render` and `stepElem` put into the chunk is the rendering of `list_render_items_any` with
nothing but trailing white space taken away — nothing is taken from the front, so the first
item stands behind its own indentation like every other one. -/
theorem list_text_lines (ordered : Bool) (items : List (Int × Str)) :
    ∃ ws, (∀ c ∈ ws, isSpace c = true) ∧
      listText ordered items ++ ws = fmtListItems ordered items [] (-1) :=
  trimRight_tail _

/-- …hence, white space aside, a list chunk is the item lines (the form `doc_chunks_cover` and
`element_cover` use for `render (.list o items)`) -/
theorem list_text_strip (ordered : Bool) (items : List (Int × Str)) :
    strip (listText ordered items) = strip (fmtListItems ordered items [] (-1)) :=
  strip_trimRight _

/-- **a nested first item keeps its indentation**: the chunk text of a list starts with two
blanks per level of its FIRST item and that item's marker (`-`, or `1.` in an ordered list) —
for any level, any text, any items after it. -/
theorem list_text_first_item_indent (ordered : Bool) (lvl : Int) (txt : Str) (rest : List (Int × Str)) :
    ∃ tail, listText ordered ((lvl, txt) :: rest)
      = indent lvl ++ (if ordered then [49, 46] else [45]) ++ tail := by
  -- the first line: indentation, then a marker that starts with no white space
  have hc : (if lvl ≤ (-1 : Int) then ([] : List (Int × Nat)).filter (fun e => !(decide (lvl < e.1))) else []) = [] := by
    split <;> rfl
  have h1 : Tabula.A1.dec 1 = [49] := by simp [Tabula.A1.dec, Tabula.A1.decAux]
  cases ordered with
  | false =>
    obtain ⟨tl, htl⟩ : ∃ tl, fmtListItems false ((lvl, txt) :: rest) [] (-1) = indent lvl ++ 45 :: tl := by
      simp only [fmtListItems, Bool.false_eq_true, if_false, List.append_assoc]
      exact ⟨_, rfl⟩
    rw [listText, htl, trimRight_keep _ 45 _ (by decide)]
    exact ⟨trimRight tl, by rw [List.append_assoc]; rfl⟩
  | true =>
    obtain ⟨tl, htl⟩ : ∃ tl, fmtListItems true ((lvl, txt) :: rest) [] (-1) = (indent lvl ++ [49]) ++ 46 :: tl := by
      simp only [fmtListItems, if_true, hc, ctrGet, List.find?_nil, Nat.zero_add, h1, List.append_assoc]
      exact ⟨_, rfl⟩
    rw [listText, htl, trimRight_keep _ 46 _ (by decide)]
    exact ⟨trimRight tl, by rw [List.append_assoc, List.append_assoc]; rfl⟩
/-- the witness of the repaired defect: a list that starts at level 1 -/
example : listText false [(1, [97]), (0, [98])] = [32, 32, 45, 32, 97, 10, 45, 32, 98] := by decide +kernel

/-- the pinned code (`strings.TrimSpace` on the item lines, `listTextOld`; finding
`C15/list-depth-ragdoc-first-item-nested`, repaired by efed37d): the chunk text of the list
`[a at level 1, b at level 0]` was `- a\n- b` — the first item's indentation, its nesting depth,
was gone; white space aside (the reading of C12's cover clause) the two texts agree. -/
theorem list_text_pinned_counterexample :
    listTextOld false [(1, [97]), (0, [98])] = [45, 32, 97, 10, 45, 32, 98] ∧
    listTextOld false [(1, [97]), (0, [98])] ≠ listText false [(1, [97]), (0, [98])] ∧
    strip (listTextOld false [(1, [97]), (0, [98])]) = strip (listText false [(1, [97]), (0, [98])]) := by
  decide +kernel

/-- undoing `escapeMarkdownCell`'s pipe escape: `\|` stands for `|` -/
def unescapeCell : Str → Str
  | 92 :: 124 :: rest => 124 :: unescapeCell rest
  | b :: rest => b :: unescapeCell rest
  | [] => []

theorem unescape_cons (b : Nat) (rest : Str) (h : ∀ r, ¬ (b = 92 ∧ rest = 124 :: r)) :
    unescapeCell (b :: rest) = b :: unescapeCell rest := by
  rw [unescapeCell.eq_def]
  split
  · rename_i r heq
    simp only [List.cons.injEq] at heq
    exact absurd ⟨heq.1, heq.2⟩ (h _)
  · rename_i b' rest' _ heq
    simp only [List.cons.injEq] at heq
    rw [heq.1, heq.2]
  · rename_i heq; cases heq

theorem cellText_head (c : Str) : ∀ rest, cellText c ≠ 124 :: rest := by
  intro rest h
  cases c with
  | nil => cases h
  | cons b bs =>
    rw [cellText_cons] at h
    split at h
    · cases h
    · split at h
      · cases h
      · next h2 => exact h2 (beq_iff_eq.mpr (List.cons.inj h).1)

/-- **a rendered cell is the cell**: un-escaping the pipes gives, white space aside, the cell text
back (a newline is rendered as a blank) -/
theorem strip_cellText (c : Str) : strip (unescapeCell (cellText c)) = strip c := by
  -- the head of either side is filtered alike; the tails agree by induction
  have key : ∀ (x : Nat) (u : Str), strip (x :: u) = strip [x] ++ strip u := fun x u => strip_append [x] u
  induction c with
  | nil => rfl
  | cons b bs ih =>
    rw [cellText_cons]
    by_cases h10 : b = 10
    · subst h10
      show strip (unescapeCell (32 :: cellText bs)) = strip (10 :: bs)
      rw [unescape_cons 32 _ (fun r h => absurd h.1 (by decide)), key, key 10, ih]; rfl
    · by_cases h124 : b = 124
      · subst h124
        show strip (unescapeCell (92 :: 124 :: cellText bs)) = strip (124 :: bs)
        rw [unescapeCell, key, key 124 bs, ih]
      · rw [if_neg (by simpa using h10), if_neg (by simpa using h124), List.singleton_append,
          unescape_cons b _ (fun r h => cellText_head bs r h.2), key, key b bs, ih]

/-- without a pipe there is nothing to un-escape -/
theorem strip_cellText_plain (c : Str) (h : 124 ∉ c) : strip (cellText c) = strip c := by
  -- byte by byte: a newline becomes a blank, every other byte stays
  conv => rhs; rw [← List.flatMap_singleton' c]
  rw [cellText, strip_flatMap, strip_flatMap]
  refine List.flatMap_congr fun b hb => ?_
  have hb : (b == 124) = false := beq_false_of_ne fun e => h (e ▸ hb)
  by_cases h10 : b = 10
  · subst h10; rfl
  · rw [if_neg (by simpa using h10), hb]; rfl

/-- a markdown table row is, white space aside, `|cell|cell|…|` with every (rendered) cell of
the row once, in order -/
theorem table_row_cells (cells : List Str) :
    strip (mdRow cells) = (cells.flatMap fun c => 124 :: strip (cellText c)) ++ (if cells.isEmpty then [] else [124]) := by
  have h10 : strip [10] = [] := by decide
  have h1 : strip [124, 32] = [124] := by decide
  have h2 : strip [32] = [] := by decide
  unfold mdRow
  simp only [strip_append, strip_flatMap, h10, h1, h2, List.append_nil, List.singleton_append]
  congr 1
  split <;> rfl

/-- a rendered table is its header row, the separator and its body rows: every cell of every
row once, in order -/
theorem table_render_rows (hd : List Str) (rows : List (List Str)) :
    strip (toMarkdown (hd :: rows)) =
      strip (mdRow hd) ++ strip (mdSep hd) ++ rows.flatMap (fun r => strip (mdRow r)) := by
  simp only [toMarkdown, strip_append, strip_flatMap]

/-- the separator holds no cell text: `|---|---|` -/
theorem table_sep (cells : List Str) :
    strip (mdSep cells) = (cells.flatMap fun _ => [124, 45, 45, 45]) ++ (if cells.isEmpty then [] else [124]) := by
  have h10 : strip [10] = [] := by decide
  have h1 : strip [124, 45, 45, 45] = [124, 45, 45, 45] := by decide
  unfold mdSep
  simp only [strip_append, strip_flatMap, h10, h1, List.append_nil]
  congr 1
  split <;> rfl

/-- **Every heading of a page gets the level of its own layout entry.** On a page whose number no
other page has, what `chunkPage` takes each element for (after `resolveRepeatedHeadings`, through
`isHeadingElement` / `getHeadingLevel` on the document's table of contents) is what `specHeadings`
says: a `model.Heading` keeps its level; a paragraph whose trimmed text is the text of layout
headings of the page is a heading, the k-th with that text taking the level of the k-th such
layout heading (the last if there are fewer); nothing else is a heading. The section path of
`section_path_enclosing` is the chain of *these* headings. -/
theorem heading_like_levels (d : Doc) (pg : Page) (hs : List (Int × Str)) (hl : pg.layout = some hs)
    (hu : UniquePage d pg) :
    (resolveRepeatedHeadings pg).map (headingOf (tableOfContents d) pg.number) = specHeadings hs [] pg.elems := by
  have hlook := toc_lookup d pg hu
  have htoc : tocOfPage pg = hs.map fun h => (⟨h.1, h.2, pg.number⟩ : TOCEntry) := by
    unfold tocOfPage; rw [hl]
  unfold resolveRepeatedHeadings
  rw [hl]
  simp only
  generalize ([] : List Str) = seen
  induction pg.elems generalizing seen with
  | nil => rfl
  | cons e es ih =>
    cases e with
    | para t =>
      simp only [resolveElems, specHeadings]
      have h1 := (hlook t).1
      have h2 := (hlook t).2
      rw [htoc, page_any] at h1
      rw [htoc, page_find] at h2
      by_cases hls : levelsOf hs (trim t) = []
      · rw [if_pos hls, if_pos hls, List.map_cons, ih]
        simp [headingOf, h1, hls]
      · rw [if_neg hls, if_neg hls, List.map_cons, ih]
        have hne : (levelsOf hs (trim t)).isEmpty = false := List.isEmpty_eq_false_iff.mpr hls
        by_cases hn : List.count (trim t) seen = 0
        · simp [headingOf, h1, h2, hne, hn]
        · simp [headingOf, hn]
    | _ => simp only [resolveElems, specHeadings, List.map_cons, headingOf, ih]

/-- on a page without layout no paragraph is heading-like -/
theorem no_layout_no_heading_like (d : Doc) (pg : Page) (hl : pg.layout = none) (hu : UniquePage d pg) (t : Str) :
    isHeadingElement t (tableOfContents d) pg.number = false := by
  rw [(toc_lookup d pg hu t).1]
  unfold tocOfPage; rw [hl]; rfl

/-- Layout.Headings = [H2 a, H4 a], elements a, x, a, y on page 1 of two pages: the first `a` is
level 2, the second level 4; `x` and `y` are no headings -/
example :
    let pg : Page := ⟨1, some [(2, [97]), (4, [97])], [.para [97], .para [120], .para [97], .para [121]]⟩
    let d : Doc := [pg, ⟨2, some [(3, [97])], [.para [97]]⟩]
    UniquePage d pg ∧ specHeadings [(2, [97]), (4, [97])] [] pg.elems = [some (2, [97]), none, some (4, [97]), none] := by
  refine ⟨⟨[], [⟨2, some [(3, [97])], [.para [97]]⟩], rfl, ?_⟩, by decide⟩
  intro q hq
  simp only [List.nil_append, List.mem_singleton] at hq
  subst hq
  decide +kernel

/-- the hypothesis matters: two pages with the number 1 — the paragraph of the second is matched
with the entry of the first (level 2, not 4) -/
example :
    let d : Doc := [⟨1, some [(2, [97])], []⟩, ⟨1, some [(4, [97])], [.para [97]]⟩]
    (chunkDocument (fun _ => none) d).map (·.path) = [[[97]]] ∧
    getHeadingLevel [97] (tableOfContents d) 1 = 2 := by decide +kernel

/-- **The property for `rag.ChunkDocumentWithConfig` / `ChunkDocument` / `Open(f).Chunks()`**
(`chunkDocumentC c d`: element walk, heading stack, `resolveRepeatedHeadings`, table of
contents, `IsAboveMax`/`SplitToSize`; any size configuration `c`; any document `d` whose
paragraphs have ASCII white space only):

1. *cover*: the chunk texts concatenate, white space aside, to the rendered elements of the
   document in document order — nothing dropped, repeated or reordered;
2. *indices, ids, total*: indices `0..n-1` in order, ids pairwise distinct, every chunk
   reports `n`;
3. *page range*: the chunks are the concatenation of one group per page; the chunks of a
   page's group report `PageStart = PageEnd =` that page's number and cover that page's elements;
4. *section path*: the chunks are those of the chunker whose section path is read off the whole
   heading history by `openSpec` (a heading is on the path iff every later heading is strictly
   deeper). -/
theorem element_chunker_property (c : Tabula.Split.SizeConfig) (d : Doc) (hd : DocNoWide d) :
    strip (textsOf (chunkDocumentC c d)) = strip ((d.flatMap (·.elems)).flatMap render) ∧
    ((chunkDocumentC c d).map (·.idx) = List.range (chunkDocumentC c d).length ∧
      ((chunkDocumentC c d).map (·.id)).Nodup ∧
      ∀ ch ∈ chunkDocumentC c d, ch.total = (chunkDocumentC c d).length) ∧
    (chunkDocumentC c d = setTotal (pageGroups stackTracker (splitterOf c) d).flatten ∧
      PagesOK d (pageGroups stackTracker (splitterOf c) d)) ∧
    chunkDocumentC c d = chunkDocumentWith histTracker (splitterOf c) d := by
  exact ⟨element_cover c d hd, ⟨(chunkDocument_numbering _ d).1, (chunkDocument_numbering _ d).2.2⟩,
    ⟨rfl, chunkPages_okOn noWide_joinClosed stackTracker _ (splitterOf_ok c) _ _ rfl d hd⟩,
    Tabula.C12.section_path_enclosing (splitterOf c) d⟩

/-- the public entry points without a size configuration use the default one -/
example (d : Doc) : chunkDocumentDefault d = chunkDocumentC defaultSizeConfig d := rfl

end Tabula.C12Compose
