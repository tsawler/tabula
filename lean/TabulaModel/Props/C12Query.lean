import TabulaModel.Lemmas.ChunkColl
import TabulaModel.Lemmas.ChunkLayoutTitle
/-!
# C12: the chunks of a document through any history of reads of the collection

The clauses of C12 speak about the chunks of a document, and those are what the caller holds for as
long as he holds the `ChunkCollection`. `Model/ChunkColl.lean` models the collection's methods as
functions of the collection (`Filter`, `FilterBy…`, `FilterWith…`, `Search`, a hand-made
sub-collection, `GetByIndex`, `GetByID`, `First`, `Last`, `Count`, `GetPageRange`,
`GetAllSections`, `GetTotalTokens`) and a history of such calls, some applied to the result of an
earlier call (`runHistory`). Proved for all collections, histories, documents and configurations:

* `filter_is_filter`, `query_result_sublist`: a query selects, in order, members of the collection it
  is applied to;
* `history_invariant`: after any history every collection the caller holds is a sub-sequence of the
  collection the chunker returned, that collection is still the first one he holds, and every chunk
  handed out is a chunk of the document; `history_prefix`: no collection he held before has changed;
* `sublist_keeps_clauses`: a sub-sequence of a chunker's collection has strictly increasing indices
  and pairwise distinct ids, and every member still reports the `n` of the document and *is* chunk
  number `ChunkIndex` of the document — index, id, total, page range, section path and text as the
  chunker made them;
* `element_history_property`, `layout_history_property`: the two chained for both chunkers;
* `get_by_index_true`, `get_by_id_true`, `get_by_id_sub`: `GetByIndex(i)` is the chunk with
  `ChunkIndex == i`, `GetByID` of a chunk's id is that chunk, on the collection and on every result;
* `by_page_exact`: `FilterByPage(p)` on the element-based chunker's collection is exactly the chunks
  made from the pages numbered `p`;
* `layout_title_true`: a section's `Title` is the last entry of its `Path`, hence of the path of
  every chunk that carries it (for the chunks themselves: `C12LayoutMeta.layout_title_formula`).
-/
namespace Tabula.C12Query
open Tabula.Chunk Tabula.ChunkMeta Tabula.ChunkColl

/-- **`Filter` is `List.filter`**: the append loop of `(*ChunkCollection).Filter` keeps exactly the
members that satisfy the predicate, in their order. -/
theorem filter_is_filter (p : QChunk → Bool) (cs : List QChunk) : filterC p cs = cs.filter p := filterC_eq p cs

/-- **Every query yields a sub-sequence** of the collection it is applied to (`FilterBy…`,
`FilterWith…`, `Search`, `Filter(predicate)`, a slice of `ToSlice()`), chosen by the method's
predicate. -/
theorem query_result_sublist (q : Query) (cs : List QChunk) :
    (applyQuery q cs).Sublist cs ∧ ((∀ a b, q ≠ .slice a b) → applyQuery q cs = cs.filter (queryPred q)) :=
  ⟨applyQuery_sublist q cs, applyQuery_filter q cs⟩

/-- page 2 of three chunks on pages 1, 2, 2; then the second of the result -/
example :
    let mk (i : Nat) (p : Int) : QChunk := ⟨⟨i, chunkId i, [120], [], p, p, 3⟩, [], [], false, false, false, 0⟩
    let base := [mk 0 1, mk 1 2, mk 2 2]
    ((runHistory base [⟨0, .query (.byPage 2)⟩, ⟨1, .read (.getByIndex 1)⟩]).1.map fun cs => cs.map (·.c.idx)) =
      [[0, 1, 2], [1, 2]] := by decide +kernel

/-- **History invariant.** Whatever reads are made and in whatever order, on the chunker's
collection or on earlier results: (1) every collection held afterwards is a sub-sequence of the
chunker's collection `base`; (2) `base` is still the first collection held, unchanged; (3) every
result — a collection or a single chunk — consists of chunks of `base`. (`history_prefix`: what was
held after a part of the history is held, unchanged, after all of it.) -/
theorem history_invariant (base : List QChunk) (steps : List Step) :
    (∀ cs ∈ (runHistory base steps).1, cs.Sublist base) ∧
    (runHistory base steps).1.head? = some base ∧
    [base] <+: (runHistory base steps).1 ∧
    ∀ r ∈ (runHistory base steps).2, ResultOK base r := by
  have h0 : ∀ cs ∈ ([base] : Store), cs.Sublist base := by
    intro cs hcs
    simp only [List.mem_singleton] at hcs
    subst hcs
    exact List.Sublist.refl _
  obtain ⟨h1, h2, h3⟩ := runStore_ok base [base] h0 steps
  obtain ⟨t, e⟩ := h2
  exact ⟨h1, by rw [runHistory, ← e]; rfl, ⟨t, e⟩, h3⟩

/-- a longer history extends a shorter one: what the caller held after the first `k` reads he
holds, unchanged, after all of them -/
theorem history_prefix (base : List QChunk) (s1 s2 : List Step) :
    (runHistory base s1).1 <+: (runHistory base (s1 ++ s2)).1 := by
  unfold runHistory
  generalize ([base] : Store) = store
  induction s1 generalizing store with
  | nil =>
    simp only [runStore, List.nil_append]
    -- the store only grows
    induction s2 generalizing store with
    | nil => exact List.prefix_refl _
    | cons s rest ih =>
      simp only [runStore]
      refine List.IsPrefix.trans ?_ (ih _)
      unfold stepStore
      cases s.op with
      | query q => exact List.prefix_append _ _
      | read r => exact List.prefix_refl _
  | cons s rest ih => simp only [runStore, List.cons_append]; exact ih _

/-- **What a sub-sequence of a chunker's collection keeps.** `b` is the collection directly behind
the chunker call (indices `0..n-1`, ids `idOf index` with `idOf` injective, total `n`). Every
sub-sequence `cs` of it has strictly increasing indices, pairwise distinct ids, and every member
reports `n` and is the chunk of the document with its index (so index, id, total, page range,
section path and text are the document's). -/
theorem sublist_keeps_clauses (idOf : Nat → Str) (hinj : ∀ a b, idOf a = idOf b → a = b) (b cs : List QChunk)
    (hb : BaseOK idOf b) (hs : cs.Sublist b) :
    (cs.map (·.c.idx)).Pairwise (· < ·) ∧ (cs.map (·.c.id)).Nodup ∧
    ∀ q ∈ cs, q.c.total = b.length ∧ b[q.c.idx]? = some q :=
  sub_facts hinj hb hs

/-- `BaseOK` is satisfiable -/
example : BaseOK chunkId [⟨⟨0, chunkId 0, [120], [], 1, 1, 2⟩, [], [], false, false, false, 0⟩,
    ⟨⟨1, chunkId 1, [121], [], 1, 1, 2⟩, [], [], false, false, false, 0⟩] :=
  ⟨by decide, by intro q hq; simp only [List.mem_cons, List.not_mem_nil, or_false] at hq; rcases hq with rfl | rfl <;> rfl,
   by intro q hq; simp only [List.mem_cons, List.not_mem_nil, or_false] at hq; rcases hq with rfl | rfl <;> rfl⟩

/-- **Element-based chunker, any history of reads.** For every size configuration, document and
history: every collection the caller holds afterwards consists of chunks of the document in index
order without repetition, with pairwise distinct ids, each still reporting the `n` of the document
and each identical to chunk `ChunkIndex` of `ChunkDocumentWithConfig(doc)`; every single chunk
handed out is such a chunk; and the collection the chunker returned is still held, unchanged. -/
theorem element_history_property (c : Tabula.Split.SizeConfig) (d : Doc) (steps : List Step) :
    let base := elementColl c d
    (runHistory base steps).1.head? = some base ∧
    (∀ cs ∈ (runHistory base steps).1,
      cs.Sublist base ∧ (cs.map (·.c.idx)).Pairwise (· < ·) ∧ (cs.map (·.c.id)).Nodup ∧
      ∀ q ∈ cs, q.c.total = base.length ∧ base[q.c.idx]? = some q) ∧
    ∀ r ∈ (runHistory base steps).2, ResultOK base r := by
  intro base
  obtain ⟨h1, h2, _, h5⟩ := history_invariant base steps
  refine ⟨h2, fun cs hcs => ⟨h1 cs hcs, ?_⟩, h5⟩
  exact sub_facts (fun a b h => chunkId_injective h) (elementColl_base c d) (h1 cs hcs)

open Tabula.ChunkLayout in
/-- **Layout-based chunker, any history of reads** on `NewChunkCollection(chunker.Chunk(doc).Chunks)`:
the same, for every configuration, document and sentence parameter. -/
theorem layout_history_property (low : Str → Bool) (cfg : Cfg) (title : Str) (d : LDoc) (steps : List Step) :
    let base := layoutColl low cfg title d
    (runHistory base steps).1.head? = some base ∧
    (∀ cs ∈ (runHistory base steps).1,
      cs.Sublist base ∧ (cs.map (·.c.idx)).Pairwise (· < ·) ∧ (cs.map (·.c.id)).Nodup ∧
      ∀ q ∈ cs, q.c.total = base.length ∧ base[q.c.idx]? = some q) ∧
    ∀ r ∈ (runHistory base steps).2, ResultOK base r := by
  intro base
  obtain ⟨h1, h2, _, h5⟩ := history_invariant base steps
  refine ⟨h2, fun cs hcs => ⟨h1 cs hcs, ?_⟩, h5⟩
  exact sub_facts (fun a b h => layoutId_injective cfg h) (layoutColl_base low cfg title d) (h1 cs hcs)

/-- **`GetByIndex(i)` is the chunk with `ChunkIndex == i`** on the collection a chunker returned. -/
theorem get_by_index_true (idOf : Nat → Str) (b : List QChunk) (hb : BaseOK idOf b) (i : Int) (q : QChunk)
    (h : getByIndex b i = some q) : (q.c.idx : Int) = i := by
  obtain ⟨h0, hq⟩ := getByIndex_some b i q h
  have := base_get hb i.toNat q hq
  omega

/-- **`GetByID` finds the chunk with that id** — on the chunker's collection and on every
sub-sequence of it (`cs`): the answer is a member with the id, and every member is found by its id. -/
theorem get_by_id_true (idOf : Nat → Str) (hinj : ∀ a b, idOf a = idOf b → a = b) (b cs : List QChunk)
    (hb : BaseOK idOf b) (hs : cs.Sublist b) (id : Str) (q : QChunk) :
    getByID id cs = some q ↔ q ∈ cs ∧ q.c.id = id :=
  ⟨fun h => getByID_some id cs q h,
   fun h => getByID_of_nodup id cs (sub_facts hinj hb hs).2.1 q h.1 h.2⟩

/-- on the element-based chunker's collection: `GetByID("chunk-<i>")` is chunk `i` -/
theorem get_by_id_sub (c : Tabula.Split.SizeConfig) (d : Doc) (i : Nat) (q : QChunk)
    (h : (elementColl c d)[i]? = some q) : getByID (chunkId i) (elementColl c d) = some q := by
  have hb := elementColl_base c d
  have hi := base_get hb i q h
  apply (get_by_id_true chunkId (fun a b h => chunkId_injective h) _ _ hb (List.Sublist.refl _) _ q).mpr
  refine ⟨List.mem_of_getElem? h, ?_⟩
  rw [hb.id q (List.mem_of_getElem? h), hi]

/-- **`FilterByPage(p)` on the element-based chunker's collection is the chunks of the pages
numbered `p`**: the groups of exactly those pages (`pageGroups`, one group per page in page order),
concatenated, each chunk with the total of the whole document. Any splitter, any document. -/
theorem by_page_exact (sp : Splitter) (d : Doc) (p : Int) :
    (chunkDocument sp d).filter (onPage p) =
      ((d.zip (pageGroups stackTracker sp d)).filter fun x => x.1.number == p).flatMap
        fun x => x.2.map (stamp (chunkDocument sp d).length) := by
  have hm := (chunkPages_m stackTracker sp (tableOfContents d) (initSt stackTracker) d).1
  have hcd : chunkDocument sp d =
      (pageGroups stackTracker sp d).flatten.map (stamp (pageGroups stackTracker sp d).flatten.length) := rfl
  have hl : (chunkDocument sp d).length = (pageGroups stackTracker sp d).flatten.length := by
    rw [hcd, List.length_map]
  rw [hl, hcd]
  exact filter_pages _ p d _ hm

/-- … and that is what the collection's `FilterByPage` computes -/
theorem by_page_query (c : Tabula.Split.SizeConfig) (d : Doc) (p : Int) :
    (applyQuery (.byPage p) (elementColl c d)).map (·.c) = (Tabula.ChunkSplit.chunkDocumentC c d).filter (onPage p) := by
  rw [← elementColl_c, applyQuery_filter _ _ (fun a b h => by cases h), List.filter_map]
  rfl

/-- pages 4 and 9: `FilterByPage(9)` gives the two chunks of page 9 -/
example :
    ((chunkDocument (fun _ => none) [⟨4, none, [.para [120]]⟩, ⟨9, none, [.heading 1 [97], .para [121]]⟩]).filter
      (onPage 9)).map (fun c => (c.idx, c.total, c.text)) = [(1, 3, [97]), (2, 3, [121])] := by decide +kernel

open Tabula.ChunkLayout in
/-- **`SectionTitle` of the layout-based chunker's chunks** (`layoutTitle`): every section
`buildSections` makes has the last entry of its `Path` as its `Title`, and every chunk of a
section's group carries that `Path`; so for every section `x` and every chunk `c` with
`c.path = x.1.path`, the last entry of the chunk's path is the section's title. -/
theorem layout_title_true (cfg : Cfg) (d : LDoc) (x : SecInfo × List CE) (hx : x ∈ flatForest (buildSections cfg d))
    (c : Chunk) (hc : c.path = x.1.path) : titleOf c.path = x.1.title := by
  rw [hc]; exact (buildSections_shape cfg d x hx).1.symm

end Tabula.C12Query
