import TabulaModel.Props.C14Decode
import TabulaModel.Model.ExportRune
import TabulaModel.Lemmas.ExportRune
/-!
# C14 (part 8) — every delimiter rune

`ExportConfig.CSVDelimiter` is a Go `rune`.  The earlier parts follow `encoding/csv` for one-byte
delimiters only (`validDelim d` demands `d < 128`; the model reported every other delimiter as an
error, which is not what the code does).  Here the assumed `encoding/csv` contract is stated for
ANY rune (`Model/CsvRune.lean`: `validDelim` of the library, the delimiter written as its UTF-8
encoding, `fieldNeedsQuotes` by byte-substring search), proved invertible for all field bytes —
including ill-formed UTF-8 and fields that hold pieces of the delimiter's own encoding — and the
statement of the property is re-proved for every configuration whatsoever: an export under ANY
delimiter either is refused with an error (exactly when `encoding/csv` calls the delimiter invalid
and there is a record to write) or parses back to one record per chunk.
-/
namespace Tabula.C14Rune
open Tabula.Export Tabula.Csv Tabula.Json Tabula.C14 Tabula.C14Meta Tabula.C14Api Tabula.C14Json Tabula.C14S
open Tabula.C14Decode

/-- ASSUMED STDLIB CONTRACT, any delimiter rune `encoding/csv` accepts (1 to 4 bytes of UTF-8):
what `csv.Writer` writes for non-empty records is read back to exactly those records by the strict
RFC 4180 reader for that delimiter — all field bytes, ill-formed UTF-8 included. -/
theorem csv_roundtrip_rune (extra : Str → Bool) (r : Nat) (hr : validDelimR r) (rows : List (List Str))
    (hrows : ∀ x ∈ rows, x ≠ []) :
    csvReadR (runeBytes r) (csvWriteR extra (runeBytes r) rows) = some rows :=
  csvReadR_write extra r hr rows hrows

example : validDelimR 0xA7 ∧ validDelimR 0x2502 ∧ validDelimR 0x1F600 ∧ ¬ validDelimR 0xFFFD ∧ ¬ validDelimR 0xD800 ∧
    ¬ validDelimR 0x110000 ∧ runeBytes 0xA7 = [0xC2, 0xA7] := by decide

/-- the rune model GENERALISES the one-byte model of `Model/Csv.lean`: same writer, same reader on
every input, same validity below 0x80 -/
theorem rune_model_generalises :
    (∀ extra d rows, csvWriteR extra [d] rows = csvWrite extra d rows) ∧
    (∀ d input, csvReadR [d] input = csvRead d input) ∧
    (∀ r, r < 128 → runeBytes r = [r]) ∧
    (∀ r, r < 128 → (validDelimR r ↔ validDelim r)) ∧
    (∀ d, validDelim d → validDelimR d) :=
  ⟨csvWriteR_one_byte, csvReadR_eq_csvRead, runeBytes_ascii, fun _ => validDelimR_iff_validDelim,
    validDelimR_of_validDelim⟩

/-- a field is quoted for a multi-byte delimiter exactly when it contains the delimiter's encoding
as a byte substring, a quote, CR or LF (or for Go's two extra reasons) — a lone byte of the
encoding does not count -/
theorem rune_quoting_rule (extra : Str → Bool) (D f : Str) (hf : f ≠ []) :
    needsQuotesR extra D f = (containsSub D f || f.any (fun c => c == 34 || c == 10 || c == 13) || extra f) := by
  cases f with
  | nil => exact absurd rfl hf
  | cons c cs => rfl

example : writeFieldR goExtra [0xC2, 0xA7] [0xC2] = [0xC2] ∧ writeFieldR goExtra [0xC2, 0xA7] [0xA7] = [0xA7] ∧
    writeFieldR goExtra [0xC2, 0xA7] [97, 0xC2, 0xA7] = [34, 97, 0xC2, 0xA7, 34] := by decide

/-- the export of `Model/ExportJson.lean` is the rune export wherever the two can be compared:
for every delimiter below 0x80 and for every delimiter `encoding/csv` rejects -/
theorem export_rune_agrees (cfg : Config) (chunks : List Chunk)
    (h : delimiter cfg < 128 ∨ ¬ validDelimR (delimiter cfg)) :
    exportToStringR cfg chunks = exportToString cfg chunks ∧
    (delimiter cfg < 128 → ∀ text, decodeExportR cfg text = decodeExport cfg text) :=
  ⟨exportToStringR_eq_exportToString cfg chunks (fun _ => h),
    fun hlt text => decodeExportR_eq_decodeExport cfg text (fun _ => hlt)⟩

/-- END TO END (CSV and TSV, any delimiter rune `encoding/csv` accepts): the export text is accepted
by the RFC 4180 reader for that delimiter and reads back as the header (iff requested) followed by
exactly one row per chunk, in order, every cell the `cellSpec` of its column for its chunk. -/
theorem export_csv_parses_back_rune (marshal : MapSV → Str) (cfg : Config) (chunks : List Chunk)
    (hd : validDelimR (delimiter cfg)) :
    ∃ text, exportCSVR marshal cfg chunks = some text ∧
      csvReadR (runeBytes (delimiter cfg)) text = some
        ((if cfg.includeHeader then [collectCSVColumns cfg chunks] else []) ++
          chunks.map (fun c => (collectCSVColumns cfg chunks).map (cellSpec cfg c))) := by
  obtain ⟨text, he⟩ := exportCSVR_some marshal cfg chunks hd
  exact ⟨text, he, exportCSVR_reads_back marshal cfg chunks text he⟩

/-- the standard reader of the configured format, for any delimiter rune -/
def parseExportR (cfg : Config) (text : Str) : Option Parsed :=
  match cfg.format with
  | .json => match jsonRead text with
             | some (.arr rs) => some (.records rs)
             | _ => none
  | .jsonl => (jsonlRead text).map Parsed.records
  | .csv | .tsv =>
    match csvReadR (runeBytes (delimiter cfg)) text with
    | none => none
    | some recs =>
      if cfg.includeHeader then
        match recs with
        | [] => none
        | h :: rows => some (.table (some h) rows)
      else some (.table none recs)
  | .other => none

/-- WHEN AN EXPORT FAILS, exactly: the format value is not one of the four, or the format is CSV
(never TSV) with a delimiter `encoding/csv` rejects (`"`, CR, LF, U+FFFD, a surrogate, a value
above U+10FFFF — NUL means "unset" = comma) and there is at least one record to write. -/
theorem export_error_iff (cfg : Config) (chunks : List Chunk) :
    exportToStringR cfg chunks = none ↔
      (cfg.format = .other ∨
        ((cfg.format = .csv ∨ cfg.format = .tsv) ∧ ¬ validDelimR (delimiter cfg) ∧
          (cfg.includeHeader = true ∨ chunks ≠ []))) := by
  have hrecs : exportCSVRecords goMarshal cfg chunks = [] ↔ ¬ (cfg.includeHeader = true ∨ chunks ≠ []) := by
    rw [exportCSVRecords_eq]
    by_cases hh : cfg.includeHeader = true <;> cases chunks <;> simp [hh]
  have hcsv : exportCSVR goMarshal cfg chunks = none ↔
      (¬ validDelimR (delimiter cfg) ∧ (cfg.includeHeader = true ∨ chunks ≠ [])) := by
    unfold exportCSVR
    by_cases h0 : exportCSVRecords goMarshal cfg chunks = []
    · have := hrecs.mp h0
      simp [h0, this]
    · have hyes : cfg.includeHeader = true ∨ chunks ≠ [] := by
        by_cases hx : cfg.includeHeader = true ∨ chunks ≠ []
        · exact hx
        · exact absurd (hrecs.mpr hx) h0
      by_cases hd : validDelimR (delimiter cfg) <;> simp [h0, hd, hyes]
  cases hf : cfg.format <;> simp [exportToStringR, hf, hcsv]

/-- TSV never fails: its delimiter is TAB whatever `CSVDelimiter` holds -/
theorem tsv_never_fails (cfg : Config) (chunks : List Chunk) (hf : cfg.format = .tsv) :
    (exportToStringR cfg chunks).isSome = true := by
  obtain ⟨t, ht⟩ := exportCSVR_some goMarshal cfg chunks (by rw [delimiter, if_pos hf]; decide)
  simp [exportToStringR, hf, ht]

/-- SENTENCE 1 OF THE PROPERTY FOR EVERY CONFIGURATION: whatever the format value, the delimiter
rune and the switches, `ExportToString` on a collection of well-formed-UTF-8 chunks EITHER returns
an error (`export_error_iff` says exactly when) OR returns a text that the standard reader of the
format accepts and reads back to one record per chunk, in order, with the chunk's own id, text and
metadata values.  No configuration produces a text that does not parse back. -/
theorem export_statement_all_configs (cfg : Config) (chunks : List Chunk)
    (hv : ∀ c ∈ chunks, chunkValid c = true) (text : Str) (ht : exportToStringR cfg chunks = some text) :
    parseExportR cfg text = some (expected cfg chunks) := by
  cases hf : cfg.format with
  | json =>
    simp only [exportToStringR, hf, Option.some.injEq] at ht
    simp [parseExportR, expected, hf, ← ht, jsonRead_exportJSONText cfg chunks hv, recordJ]
  | jsonl =>
    simp only [exportToStringR, hf, Option.some.injEq] at ht
    simp [parseExportR, expected, hf, ← ht, jsonlRead_exportJSONLText cfg chunks hv, recordJ]
  | other => simp [exportToStringR, hf] at ht
  | csv | tsv =>
    simp only [exportToStringR, hf] at ht
    have h2 := exportCSVR_reads_back goMarshal cfg chunks text ht
    simp only [parseExportR, expected, hf, h2]
    by_cases hh : cfg.includeHeader = true <;> simp [hh]

example : ∃ cfg : Config, (cfg.format = .csv ∧ validDelimR (delimiter cfg) ∧ ¬ validDelim (delimiter cfg)) :=
  ⟨{ format := .csv, csvDelimiter := 0xA7 }, by decide⟩

/-- PARTIAL — SAME CHUNKS for every delimiter rune `encoding/csv` accepts (CSV with header): the text,
read by the RFC 4180 reader for that delimiter and decoded row by row, is the collection itself up
to the configuration's projection — provided no list element contains a comma (finding
C14/csv-field-meta-list; `C14Decode.csv_same_chunks_counterexample`). -/
theorem export_csv_same_chunks_rune_partial (cfg : Config) (hf : cfg.format = .csv ∨ cfg.format = .tsv)
    (hh : cfg.includeHeader = true) (hd : validDelimR (delimiter cfg)) (hnames : namesOk cfg = true)
    (chunks : List Chunk) (hn : ∀ c ∈ chunks, chunkNormal c = true) (hl : ∀ c ∈ chunks, listsCommaFree c) :
    ∃ text, exportToStringR cfg chunks = some text ∧
      decodeExportR cfg text = some (chunks.map (projectChunk false cfg)) :=
  exportToStringR_decodes cfg hf hh hd chunks _
    (fun c hc => csv_row_decodes_partial cfg chunks c hc hnames (hn c hc) (hl c hc))

example : namesOk { format := .csv, csvDelimiter := 0x2502 } = true ∧
    validDelimR (delimiter { format := .csv, csvDelimiter := 0x2502 }) := by decide

end Tabula.C14Rune
