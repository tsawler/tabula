import TabulaModel.Lemmas.ReaderHist
import TabulaModel.Model.BoundsCore
/-!
# C03 — read histories on one reader

"… an extraction gives the same result whether it runs alone, after any other extractions …":
on ONE `reader.Reader` every look-up and every page call is answered from state earlier calls
left behind — `objCache`, `objStmCache`, the decoded header and the parsed members of every
`*core.ObjectStream`, the page list of the `PageTree`.  `Model/ReaderHist.lean` has that state
field by field; the theorems say that over ALL histories it does not show: an answer is a
function of the file (merged cross-reference table + bytes), failures included.
-/
namespace Tabula.C03Hist
open Tabula.ReaderHist

/-- **lookup_history_free**: on a reader that has made any look-ups before (`pre`: `GetObject`
on any numbers, `ClearCache`), every further access is answered with the object the file has
under that number — `specGet`, which reads the merged cross-reference table and the bytes, and
no cache.  Directly stored objects, members of object streams, superseded members, freed
numbers, streams that do not decode, headers that do not parse, members that do not parse,
members under another number: all of it. -/
theorem lookup_history_free (x : Xref) (pre as : List Access) :
    run x (exec x Reader.empty pre) as = as.map (specAccess x) :=
  ((run_spec x as) _ ((run_spec x pre) _ (inv_empty x)).2).1

/-- the same from the fresh reader -/
theorem lookup_is_current_object (x : Xref) (as : List Access) :
    run x Reader.empty as = as.map (specAccess x) :=
  lookup_history_free x [] as

/-- **lookup_same_as_alone**: the answer after a history is the answer of a reader of its own -/
theorem lookup_same_as_alone (x : Xref) (pre : List Access) (n : Nat) :
    (getObject x (exec x Reader.empty pre) n).2 = (getObject x Reader.empty n).2 :=
  (getObject_exec x pre n).trans (getObject_exec x [] n).symm

/-- **failed_lookup_reported_again**: a look-up that failed once fails after every history:
nothing a failing load leaves behind (an `*ObjectStream` whose `Decode` failed and is retried, a
header error kept in `headerErr`, a cached stream whose member does not parse or carries another
number) turns into an answer later, whatever is asked in between -/
theorem failed_lookup_reported_again (x : Xref) (pre mid : List Access) (n : Nat)
    (hfail : (getObject x (exec x Reader.empty pre) n).2 = none) :
    (getObject x (exec x Reader.empty (pre ++ .get n :: mid)) n).2 = none := by
  rw [lookup_same_as_alone] at hfail ⊢
  exact hfail

/-- **superseded_member_invisible**: when the last revision stores object `n` on its own, that is
what every look-up returns after every history — whichever object streams still list `n` in
their headers, and whichever of their members were fetched before -/
theorem superseded_member_invisible (x : Xref) (pre : List Access) (n : Nat) (o : Obj)
    (hx : x.get n = some (.own (some o))) :
    (getObject x (exec x Reader.empty pre) n).2 = some o := by
  rw [getObject_exec]
  simp [specGet, hx]

/-- **moved_member_is_the_new_one**: when the last revision puts `n` at index `i` of stream `s`,
every look-up returns that member (or fails as the file says), never a member of another stream -/
theorem moved_member_is_the_new_one (x : Xref) (pre : List Access) (n s i : Nat)
    (hx : x.get n = some (.inStm s i)) :
    (getObject x (exec x Reader.empty pre) n).2 = specIn x n s i := by
  rw [getObject_exec]
  simp [specGet, hx]

/-- **freed_number_stays_absent**: a number the last revision frees (or never had) is not found,
after every history -/
theorem freed_number_stays_absent (x : Xref) (pre : List Access) (n : Nat)
    (hx : x.get n = some .free ∨ x.get n = none) :
    (getObject x (exec x Reader.empty pre) n).2 = none := by
  rw [getObject_exec]
  rcases hx with hx | hx <;> simp [specGet, hx]

/-- two readers (of any two files) used in any interleaving: each answers as alone -/
theorem readers_independent (x₁ x₂ : Xref) (sched : List (Bool × Access)) :
    ∀ r₁ r₂, Inv x₁ r₁ → Inv x₂ r₂ →
      (sched.foldl (fun (acc : (Reader × Reader) × List (Option Obj)) c =>
          if c.1 then ((( step x₁ acc.1.1 c.2).1, acc.1.2), acc.2 ++ [(step x₁ acc.1.1 c.2).2])
          else ((acc.1.1, (step x₂ acc.1.2 c.2).1), acc.2 ++ [(step x₂ acc.1.2 c.2).2]))
        ((r₁, r₂), ([] : List (Option Obj)))).2
      = sched.map (fun c => if c.1 then specAccess x₁ c.2 else specAccess x₂ c.2) := by
  intro r₁ r₂ h₁ h₂
  -- the pair of readers is one machine whose invariant is both readers' `Inv`
  refine (foldl_outputs (fun r : Reader × Reader => Inv x₁ r.1 ∧ Inv x₂ r.2) _ _ ?_ sched (r₁, r₂) []
    ⟨h₁, h₂⟩).trans (List.nil_append _)
  intro s out c hs
  obtain ⟨b, a⟩ := c
  cases b with
  | true => obtain ⟨hi, ha⟩ := step_spec x₁ s.1 hs.1 a; exact ⟨⟨hi, hs.2⟩, by simp [ha]⟩
  | false => obtain ⟨hi, ha⟩ := step_spec x₂ s.2 hs.2 a; exact ⟨⟨hs.1, hi⟩, by simp [ha]⟩

/-! ### the file of the seeded mutant: revision 0 packs objects 4 and 5 into object stream 8,
revision 1 stores 4 on its own with a new value; stream 8 stays in use for 5 -/

def revisedFile : Xref :=
  [(4, .own (some (.val 41))), (5, .inStm 8 1),
   (8, .own (some (.stm { decodes := true, header := some [4, 5], member := [some 40, some 50] })))]

example : run revisedFile Reader.empty [.get 5, .get 4, .clear, .get 4, .get 5, .get 9]
    = [some (.val 50), some (.val 41), none, some (.val 41), some (.val 50), none] := by decide

/-- **prefetch_counterexample**: filling `objCache` from the header of an object stream when the
stream is loaded makes the superseded member the answer: after `GetObject(5)`, `GetObject(4)`
returns the value of revision 0 -/
theorem prefetch_counterexample :
    runPrefetch revisedFile Reader.empty [5, 4] = [some (.val 50), some (.val 40)] ∧
    runPrefetch revisedFile Reader.empty [4, 5] = [some (.val 41), some (.val 50)] ∧
    run revisedFile Reader.empty [.get 5, .get 4] = [some (.val 50), some (.val 41)] := by decide

/-- a stream that does not decode, a header that does not parse, a member under another number, a
member that does not parse, an index past the header, a stream that is an integer: every one
fails, and fails again -/
def faultyFile : Xref :=
  [(1, .inStm 10 0), (2, .inStm 11 0), (3, .inStm 12 0), (4, .inStm 12 1), (5, .inStm 12 7), (6, .inStm 13 0),
   (7, .inStm 12 2), (9, .inStm 9 0),
   (10, .own (some (.stm { decodes := false, header := some [1], member := [some 1] }))),
   (11, .own (some (.stm { decodes := true, header := none, member := [some 2] }))),
   (12, .own (some (.stm { decodes := true, header := some [33, 4, 7], member := [some 3, none, some 70] }))),
   (13, .own (some (.val 6)))]

example : run faultyFile Reader.empty [.get 1, .get 1, .get 2, .get 2, .get 3, .get 7, .get 4, .get 5, .get 6, .get 3, .get 9, .get 7]
    = [none, none, none, none, none, some (.val 70), none, none, none, none, none, some (.val 70)] := by decide

/-- **page_calls_history_free**: `PageCount`, `GetPage(i)` and `Pages` on one reader, in any order
and any number: every call is answered as on a reader that has done nothing yet — the count and
the pages of the walk, or the error of the walk -/
theorem page_calls_history_free {P : Type} (f : TreeFile P) (pre cs : List PageCall) :
    pageRun f {} (pre ++ cs) = pre.map (pageSpec f) ++ cs.map (pageSpec f) := by
  rw [pageRun_spec f (pre ++ cs) {} (pagesOk_fresh f), List.map_append]

/-- **failed_page_load_reported_again**: when the walk of the page tree fails, every call that
needs the page list reports an error, on every call of every history (nothing partial is kept) -/
theorem failed_page_load_reported_again {P : Type} (f : TreeFile P) (hw : f.walk = none)
    (cs : List PageCall) : ∀ a ∈ pageRun f {} cs, a = .err := by
  rw [pageRun_spec f cs {} (pagesOk_fresh f)]
  intro a ha
  obtain ⟨c, _, rfl⟩ := List.mem_map.1 ha
  cases c <;> simp [pageSpec, hw]

/-- a missing catalog or `/Pages` is reported by every call as well (`r.pageTree` stays nil) -/
theorem missing_root_reported_again {P : Type} (f : TreeFile P) (hr : f.hasRoot = false)
    (cs : List PageCall) : ∀ a ∈ pageRun f {} cs, a = .err := by
  rw [pageRun_spec f cs {} (pagesOk_fresh f)]
  intro a ha
  obtain ⟨c, _, rfl⟩ := List.mem_map.1 ha
  simp [pageSpec, hr]

/-- **page_list_kept_counterexample**: without `t.pages = nil` on the error path of `loadPages`
the second call answers from the pages the failed walk had collected -/
theorem page_list_kept_counterexample :
    let f : TreeFile Nat := { hasRoot := true, declared := true, walk := none }
    pageRunWith (pageStepWith (ensurePagesNoReset f [0]) f) {} [.count, .count, .page 0]
      = [.err, .count 1, .page 0] ∧
    pageRun f {} [.count, .count, .page 0] = [.err, .err, .err] := by decide

/-- the page-tree facts of a file whose tree is the object graph `g` under `root`: the walk is
C02's model of `loadPages` (`BoundsCore.loadPagesWith`), pages named by their position -/
def treeOf (g : BoundsCore.PGraph) (root : BoundsCore.PV) (hasRoot declared : Bool) : TreeFile Nat :=
  { hasRoot := hasRoot, declared := declared,
    walk := match BoundsCore.loadPagesWith g BoundsCore.maxPageTreeDepth root with
      | .ok p _ => some (List.range p)
      | _ => none }

/-- **page_count_history_free**: after any page calls, `PageCount` is `BoundsCore.pageCount` of
the object graph — the number of leaves of the walk, or an error, as on a fresh reader -/
theorem page_count_history_free (g : BoundsCore.PGraph) (root : BoundsCore.PV) (declared : Bool)
    (pre : List PageCall) :
    pageRun (treeOf g root true declared) {} (pre ++ [.count])
      = pre.map (pageSpec (treeOf g root true declared)) ++
        [match BoundsCore.pageCount g root (if declared then some 0 else none) with
         | some p => .count p
         | none => .err] := by
  rw [page_calls_history_free]
  congr 1
  simp only [List.map_cons, List.map_nil, pageSpec, treeOf, BoundsCore.pageCount]
  cases declared <;> simp only [if_true, Bool.false_eq_true, if_false]
  cases BoundsCore.loadPagesWith g BoundsCore.maxPageTreeDepth root <;> simp

example : pageRun ({ hasRoot := true, declared := true, walk := some [7, 8] } : TreeFile Nat) {}
    [.page 1, .count, .page 2, .pages] = [.page 8, .count 2, .err, .all [7, 8]] := by decide

end Tabula.C03Hist
