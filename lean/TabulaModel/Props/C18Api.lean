import TabulaModel.Lemmas.PackageApi
import TabulaModel.Props.C18
/-!
# C18 — the reader API and the front door (composition with `Props/C18.lean`)

`Props/C18.lean` proves that the PART LIST follows the declaration. This file carries the
statement to what a caller observes (`Model/PackageApi.lean`):

* PPTX speaker notes: each presented slide carries the notes part that ITS OWN
  relationship part leads to (`notes_follow_own_relationships`), independent of the
  ZIP order (`archive_perm_invariant_notes`) and of undeclared members
  (`decoys_ignored_pptx_notes`);
* selections (`ExtractOptions.Sheets` / `SlideNumbers`): exactly the parts asked for, in
  the order asked for, nothing else (`selection_*`);
* call histories on one reader: no call changes the reader, every reply is the reply of a
  freshly opened reader (`*_history_independence`);
* end to end, from the archive to `tabula.Open(f).PageCount()/Text()/Document()`:
  the count is the number of declared readable parts, `Text()` is the texts of the
  declared readable parts in declared order separated by blank lines, `Document()` has one
  page per declared readable part built from that part alone (`front_*`), and what one
  part parses to influences its own page/segment only (`xlsx_own_page_only`, `*_own_segment_only`).
-/
namespace Tabula.C18Api
open Tabula.Package Tabula.PackageApi Tabula.C18

/-- specification side: the declared slide path looked up, kept when it is a slide,
together with the notes part its own relationship part leads to -/
def pptxSpecPartN (a : Archive) (x : Docs) (e : Str × Nat) : Option SlideN :=
  (pptxSpecPart a x e).map fun p => (p.1, p.2, slideNotes (lookup a) x e.1)

/-- forgetting the notes gives the slide list of `Props/C18.lean` -/
theorem pptxOpenN_forget (a : Archive) (x : Docs) :
    (pptxOpenN a x).map (fun ps => ps.map fun p => (p.1, p.2.1)) = pptxOpen a x := by
  unfold pptxOpenN pptxOpenNL pptxOpen pptxOpenL
  cases pptxDeclared (lookup a) x with
  | none => rfl
  | some d =>
    simp only [pptxLoop, ← loopIdx_pptxPartN_forget, List.map_eq_nil_iff]
    exact map_nonEmpty _ _

/-- **notes_follow_own_relationships** — the presented slides are the declared readable
slide parts in declared order, and the notes of each are found through THAT slide's
path: `<dir>/_rels/<base>.rels` → first `notesSlide` relationship → target resolved
against the slide's directory (`slideNotes`), whatever the other slides are. -/
theorem notes_follow_own_relationships (a : Archive) (x : Docs) (declared : List Str)
    (h : pptxDeclared (lookup a) x = some declared) (hne : declared ≠ []) :
    pptxOpenN a x =
      (let parts := declared.zipIdx.filterMap (pptxSpecPartN a x)
       if parts = [] then none else some parts) := by
  unfold pptxOpenN pptxOpenNL
  rw [h]
  simp only [hne, if_false, loopIdx_eq_filterMap, pptxPartN_eq_map, pptxPart_eq_bind]
  rfl

/-- what `slideNotes` returns, spelled out -/
theorem slideNotes_spec (look : Str → Option Nat) (x : Docs) (p : Str) (c : Nat) :
    slideNotes look x p = some c ↔
      ∃ rs, slideRels look x p = some rs ∧ notesTarget rs ≠ [] ∧
        notesLookup look (pathDir p) (notesTarget rs) = some c ∧ x c = .notes := by
  simp only [slideNotes_eq_bind, Option.bind_eq_some_iff, Option.ite_none_left_eq_some, Option.ite_none_right_eq_some,
    Option.some.injEq]
  constructor
  · rintro ⟨rs, hr, ht, c', hl, hx, rfl⟩
    exact ⟨rs, hr, ht, hl, hx⟩
  · rintro ⟨rs, hr, ht, hl, hx⟩
    exact ⟨rs, hr, ht, c, hl, hx, rfl⟩

/-- the notes relationship is the FIRST one whose type mentions `notesSlide` -/
theorem notesTarget_first (pre : List (Str × Str × Str)) (r : Str × Str × Str) (post : List (Str × Str × Str))
    (hpre : ∀ q ∈ pre, hasSub sNotesSlide q.2.1 = false) (hr : hasSub sNotesSlide r.2.1 = true) :
    notesTarget (pre ++ r :: post) = r.2.2 := by
  induction pre with
  | nil => simp [notesTarget, hr]
  | cons q rest ih =>
    have hq := hpre q List.mem_cons_self
    simp only [List.cons_append, notesTarget, hq]
    exact ih (fun q' hq' => hpre q' (List.mem_cons_of_mem _ hq'))

/-- non-vacuity: layout first, notes second, a further notes relationship third -/
example : notesTarget [([1], [115, 108, 105, 100, 101, 76, 97, 121, 111, 117, 116], [120]),
    ([2], [47, 110, 111, 116, 101, 115, 83, 108, 105, 100, 101], [121]),
    ([3], sNotesSlide, [122])] = [121] := by decide +kernel

/-- a relative target is resolved against the directory of the slide part, an absolute
one against the package root; dot segments are removed -/
theorem notes_resolution (dir t : Str) :
    notesResolved dir t = if hasPrefix [47] t then (clean t).drop 1 else join2 dir t := rfl

/-- `ppt/slides/deep` + `../../notesSlides/n3.xml` is `ppt/notesSlides/n3.xml` -/
example : notesResolved [112, 112, 116, 47, 115, 108, 105, 100, 101, 115, 47, 100, 101, 101, 112]
    [46, 46, 47, 46, 46, 47, 110, 111, 116, 101, 115, 83, 108, 105, 100, 101, 115, 47, 110, 51, 46, 120, 109, 108]
    = [112, 112, 116, 47, 110, 111, 116, 101, 115, 83, 108, 105, 100, 101, 115, 47, 110, 51, 46, 120, 109, 108] := by decide +kernel

/-- `slideRelsPath "ppt/slides/s1.xml" = "ppt/slides/_rels/s1.xml.rels"`, and for a
part in the package root `"x.xml" ↦ "_rels/x.xml.rels"` -/
example : slideRelsPath [112, 112, 116, 47, 115, 108, 105, 100, 101, 115, 47, 115, 49, 46, 120, 109, 108]
    = [112, 112, 116, 47, 115, 108, 105, 100, 101, 115, 47, 95, 114, 101, 108, 115, 47, 115, 49, 46, 120, 109, 108, 46, 114, 101, 108, 115] := by decide +kernel
example : slideRelsPath [120, 46, 120, 109, 108] = [95, 114, 101, 108, 115, 47, 120, 46, 120, 109, 108, 46, 114, 101, 108, 115] := by decide +kernel

/-- every name `parseSlideRelationships` / `parseSlideNotes` may ask the archive for,
for one slide path -/
def notesConsulted (look : Str → Option Nat) (x : Docs) (p : Str) : List Str :=
  slideRelsPath p ::
    match slideRels look x p with
    | none => []
    | some rs => [notesResolved (pathDir p) (notesTarget rs), notesTarget rs]

theorem slideNotes_congr (look look' : Str → Option Nat) (x : Docs) (p : Str)
    (h : ∀ n ∈ notesConsulted look x p, look' n = look n) : slideNotes look' x p = slideNotes look x p := by
  have h0 : look' (slideRelsPath p) = look (slideRelsPath p) := h _ (by simp [notesConsulted])
  have hr : slideRels look' x p = slideRels look x p := by
    unfold slideRels
    rw [h0]
  unfold slideNotes
  rw [hr]
  cases hR : slideRels look x p with
  | none => rfl
  | some rs =>
    have h1 : look' (notesResolved (pathDir p) (notesTarget rs)) = look (notesResolved (pathDir p) (notesTarget rs)) :=
      h _ (by simp [notesConsulted, hR])
    have h2 : look' (notesTarget rs) = look (notesTarget rs) := h _ (by simp [notesConsulted, hR])
    have hl : notesLookup look' (pathDir p) (notesTarget rs) = notesLookup look (pathDir p) (notesTarget rs) := by
      unfold notesLookup
      simp only [h1, h2]
    simp only [hl]

/-- every name the PPTX reader asks for, notes plumbing included -/
def pptxConsultedN (look : Str → Option Nat) (x : Docs) : List Str :=
  pptxConsulted look x ++
    match pptxDeclared look x with
    | none => []
    | some d => d.flatMap (notesConsulted look x)

theorem pptxOpenNL_congr (look look' : Str → Option Nat) (names names' : List Str) (x : Docs)
    (hdecl : pptxDeclared look x ≠ some [])
    (h : ∀ n ∈ pptxConsultedN look x, look' n = look n) :
    pptxOpenNL look' names' x = pptxOpenNL look names x := by
  have hc : ∀ n ∈ pptxConsulted look x, look' n = look n :=
    fun n hn => h n (List.mem_append.mpr (Or.inl hn))
  unfold pptxOpenNL
  rw [pptxDeclared_congr x fun n hn => hc n (List.mem_append_left _ hn)]
  cases hD : pptxDeclared look x with
  | none => rfl
  | some d =>
    have hne : d ≠ [] := fun e => hdecl (e ▸ hD)
    have hl : loopIdx (pptxPartN look' x) 0 d = loopIdx (pptxPartN look x) 0 d := by
      apply loopIdx_congr
      intro p hp j
      have m : p ∈ pptxConsulted look x := by
        simp only [pptxConsulted, hD, List.mem_append]
        exact Or.inr hp
      have hn : slideNotes look' x p = slideNotes look x p := by
        apply slideNotes_congr
        intro n hn
        apply h
        simp only [pptxConsultedN, hD, List.mem_append, List.mem_flatMap]
        exact Or.inr ⟨p, hp, hn⟩
      simp only [pptxPartN, pptxPart, hc _ m, hn]
    simp only [hne, if_false, hl]

/-- **decoys_ignored_pptx_notes** — members appended under names that neither the slide list nor
any declared slide's own relationship part leads to (left-over slides, their
relationship parts, their notes, notes of other decks …) change nothing: not the slide
list, not which notes part each slide carries. -/
theorem decoys_ignored_pptx_notes (a extra : Archive) (x : Docs)
    (hdecl : pptxDeclared (lookup a) x ≠ some [])
    (h : ∀ m ∈ extra, m.1 ∉ pptxConsultedN (lookup a) x) : pptxOpenN (a ++ extra) x = pptxOpenN a x :=
  pptxOpenNL_congr (lookup a) (lookup (a ++ extra)) _ _ x hdecl (agree_of_avoid h)

/-- **archive_perm_invariant_notes** — slide list and notes do not depend on the ZIP
member order. -/
theorem archive_perm_invariant_notes (a a' : Archive) (x : Docs)
    (hn : (a.map Prod.fst).Nodup) (hp : a.Perm a') (hd : pptxDeclared (lookup a) x ≠ some []) :
    pptxOpenN a x = pptxOpenN a' x := by
  have hl := lookup_perm_fun hn hp
  unfold pptxOpenN pptxOpenNL
  rw [← hl]
  cases h : pptxDeclared (lookup a) x with
  | none => rfl
  | some d =>
    have : d ≠ [] := fun e => hd (e ▸ h)
    simp only [this, if_false]

/-- `exArchive` of `Props/C18.lean` plus: relationship parts of slide1 (notes →
`../notesSlides/notesSlide7.xml`) and of the left-over slide9 (notes →
`../notesSlides/notesSlide1.xml`), and both notes parts -/
def exArchiveN : Archive :=
  exArchive ++
  [([112, 112, 116, 47, 115, 108, 105, 100, 101, 115, 47, 95, 114, 101, 108, 115, 47, 115, 108, 105, 100, 101, 49, 46, 120, 109, 108, 46, 114, 101, 108, 115], 21),
   ([112, 112, 116, 47, 115, 108, 105, 100, 101, 115, 47, 95, 114, 101, 108, 115, 47, 115, 108, 105, 100, 101, 57, 46, 120, 109, 108, 46, 114, 101, 108, 115], 29),
   ([112, 112, 116, 47, 110, 111, 116, 101, 115, 83, 108, 105, 100, 101, 115, 47, 110, 111, 116, 101, 115, 83, 108, 105, 100, 101, 55, 46, 120, 109, 108], 37),
   ([112, 112, 116, 47, 110, 111, 116, 101, 115, 83, 108, 105, 100, 101, 115, 47, 110, 111, 116, 101, 115, 83, 108, 105, 100, 101, 49, 46, 120, 109, 108], 31)]

def exDocsN : Docs := fun c =>
  if c = 21 then .relsT [([114, 49], sNotesSlide,
      [46, 46, 47, 110, 111, 116, 101, 115, 83, 108, 105, 100, 101, 115, 47, 110, 111, 116, 101, 115, 83, 108, 105, 100, 101, 55, 46, 120, 109, 108])]
  else if c = 29 then .relsT [([114, 49], sNotesSlide,
      [46, 46, 47, 110, 111, 116, 101, 115, 83, 108, 105, 100, 101, 115, 47, 110, 111, 116, 101, 115, 83, 108, 105, 100, 101, 49, 46, 120, 109, 108])]
  else if c = 37 ∨ c = 31 then .notes
  else exDocs c

/-- slide2 (first by the slide list) has no notes; slide1 carries notesSlide7, although a
`notesSlide1.xml` exists (it belongs to the undeclared slide9) -/
theorem pptx_notes_example : pptxOpenN exArchiveN exDocsN = some [(0, 12, none), (1, 11, some 37)] := by decide +kernel

/-- hypotheses of the notes theorems are satisfiable -/
example : pptxDeclared (lookup exArchiveN) exDocsN ≠ some [] := by decide +kernel
example : (exArchiveN.map Prod.fst).Nodup := by decide +kernel

/-- non-vacuity of `decoys_ignored_pptx_notes`: neither the left-over slide9, nor its
relationship part, nor the notes part that one points to is consulted -/
example : ∀ n ∈ ([[112, 112, 116, 47, 115, 108, 105, 100, 101, 115, 47, 115, 108, 105, 100, 101, 57, 46, 120, 109, 108],
    [112, 112, 116, 47, 115, 108, 105, 100, 101, 115, 47, 95, 114, 101, 108, 115, 47, 115, 108, 105, 100, 101, 57, 46, 120, 109, 108, 46, 114, 101, 108, 115],
    [112, 112, 116, 47, 110, 111, 116, 101, 115, 83, 108, 105, 100, 101, 115, 47, 110, 111, 116, 101, 115, 83, 108, 105, 100, 101, 49, 46, 120, 109, 108]] : List Str),
    n ∉ pptxConsultedN (lookup exArchiveN) exDocsN := by decide +kernel

/-- **selection_in_order_asked** — a selection lists, for each index in the order given,
the part at that position of the reader's list; indices that name no part are skipped;
an empty selection means all parts in the reader's order. -/
theorem selection_in_order_asked {α : Type} (all : List α) (sel : List Int) :
    selectParts all sel = if sel = [] then all else sel.filterMap (pick all) := by
  unfold selectParts
  rw [selectLoop_eq_filterMap]

/-- **selection_lists_parts_only** — whatever the selection, nothing but parts of the
reader's own list is rendered. -/
theorem selection_lists_parts_only {α : Type} (all : List α) (sel : List Int) (v : α)
    (h : v ∈ selectParts all sel) : v ∈ all := by
  rw [selection_in_order_asked] at h
  split at h
  · exact h
  · obtain ⟨i, _, hi⟩ := List.mem_filterMap.mp h
    exact pick_mem hi

/-- a selection naming one existing part renders exactly that part -/
theorem selection_single {α : Type} (all : List α) (k : Nat) (h : k < all.length) :
    selectParts all [(k : Int)] = [all[k]] := by
  rw [selection_in_order_asked]
  simp [pick_ofNat all k h]

/-- the number of rendered parts never exceeds the length of the selection -/
theorem selection_length_le {α : Type} (all : List α) (sel : List Int) (h : sel ≠ []) :
    (selectParts all sel).length ≤ sel.length := by
  rw [selection_in_order_asked]
  simp only [h, if_false]
  exact List.length_filterMap_le _ _

/-- non-vacuity: reversed, out-of-range and repeated indices -/
example : selectParts [10, 20, 30] [2, 0, -1, 3, 0] = [30, 10, 10] := by decide +kernel
example : selectParts [10, 20, 30] [] = [10, 20, 30] := by decide +kernel

/-- **xlsx_history_independence** — for every history of calls on one opened reader: the
reader is left as it was after `Open`, and every reply is the reply the same call gets
from a freshly opened reader. -/
theorem xlsx_history_independence (r : XReader) (cs : List XCall) :
    (xlsxRun r cs).2 = r ∧ (xlsxRun r cs).1 = cs.map fun c => (xlsxStep r c).1 := by
  rw [xlsxRun_spec]
  exact ⟨rfl, rfl⟩

theorem pptx_history_independence (r : PReader) (cs : List PCall) :
    (pptxRun r cs).2 = r ∧ (pptxRun r cs).1 = cs.map fun c => (pptxStep r c).1 := by
  rw [pptxRun_spec]
  exact ⟨rfl, rfl⟩

theorem epub_history_independence (h : HtmlViews) (r : EReader) (cs : List ECall) :
    (epubRun h r cs).2 = r ∧ (epubRun h r cs).1 = cs.map fun c => (epubStep h r c).1 := by
  rw [epubRun_spec]
  exact ⟨rfl, rfl⟩

/-- after ANY history, asking for the count, the names and the document gives the
declared list again (here: the reader's list; `xlsx_reader_follows_declaration` below
says what that list is) -/
theorem xlsx_accessors_after_history (r : XReader) (cs : List XCall) :
    (xlsxRun r (cs ++ [.count, .names, .document])).1.drop cs.length =
      [.num r.length, .strs (r.map (·.name)), .pages (xlsxDocument r)] := by
  rw [xlsxRun_spec]
  simp [xlsxStep]

/-- non-vacuity: a selecting call in the middle of a history -/
example : (xlsxRun [⟨0, 5, [65], []⟩, ⟨2, 7, [66], []⟩]
    [.markdown { sheets := [1] }, .count, .sheet 1, .names]).1
    = [.parts [⟨2, 7, [66], []⟩], .num 2, .sheet (some ⟨2, 7, [66], []⟩), .strs [[65], [66]]] := by decide +kernel

/-- the reader's sheet for a presented part -/
def mkSheet (grid : Nat → Grid) (p : SheetPart) : Sheet := ⟨p.1, p.2.1, p.2.2, grid p.2.1⟩

/-- **xlsx_reader_follows_declaration** — `r.sheets` after `Open` is the declared list, in
declared order, each entry resolved and looked up, unreadable entries dropped; sheet `k`
holds what ITS member parses to. -/
theorem xlsx_reader_follows_declaration (a : Archive) (x : Docs) (grid : Nat → Grid)
    (rels sheets : List (Str × Str)) (h : xlsxDeclared (lookup a) x = some (rels, sheets)) :
    xlsxReader a x grid =
      (let parts := sheets.zipIdx.filterMap (xlsxSpecPart a x rels)
       if parts = [] then none else some (parts.map (mkSheet grid))) := by
  unfold xlsxReader
  rw [parts_follow_declaration_xlsx a x rels sheets h]
  exact map_nonEmpty _ _

/-- **front_page_count_xlsx** — `tabula.Open(f).PageCount()` = number of declared readable sheets. -/
theorem front_page_count_xlsx (a : Archive) (x : Docs) (grid : Nat → Grid) (rels sheets : List (Str × Str))
    (n : Nat) (h : xlsxDeclared (lookup a) x = some (rels, sheets)) (hc : frontCountXlsx a x grid = some n) :
    n = sheets.zipIdx.countP (fun e => (xlsxSpecPart a x rels e).isSome) := by
  rw [frontCountXlsx_eq, parts_follow_declaration_xlsx a x rels sheets h] at hc
  rw [of_map_nonEmpty hc, List.length_filterMap_eq_countP]

/-- **front_text_xlsx** — `tabula.Open(f).Text()` is the cell text of the declared readable
sheets, in declared order, separated by blank lines; nothing else. -/
theorem front_text_xlsx (a : Archive) (x : Docs) (grid : Nat → Grid) (o : FrontOpts)
    (rels sheets : List (Str × Str)) (t : Str)
    (h : xlsxDeclared (lookup a) x = some (rels, sheets)) (ht : frontTextXlsx a x grid o = some t) :
    t = joinWith sNL2 ((sheets.zipIdx.filterMap (xlsxSpecPart a x rels)).map fun p => sheetBody [9] (grid p.2.1)) := by
  rw [frontTextXlsx_eq, parts_follow_declaration_xlsx a x rels sheets h] at ht
  exact (of_map_nonEmpty ht :)

/-- **front_document_xlsx** — `Document().Pages`: one page per declared readable sheet, in
declared order, numbered by declared position, holding that sheet's grid. -/
theorem front_document_xlsx (a : Archive) (x : Docs) (grid : Nat → Grid)
    (rels sheets : List (Str × Str)) (pages : List XPage)
    (h : xlsxDeclared (lookup a) x = some (rels, sheets)) (hd : frontDocXlsx a x grid = some pages) :
    pages = (sheets.zipIdx.filterMap (xlsxSpecPart a x rels)).map fun p => ⟨p.1 + 1, p.2.1, grid p.2.1⟩ := by
  rw [frontDocXlsx_eq, parts_follow_declaration_xlsx a x rels sheets h] at hd
  exact (of_map_nonEmpty hd :)

/-- **xlsx_own_page_only** — what one member parses to influences only the pages built
from that member: if two parse results agree on every member but `c`, the two documents
have the same pages (number, member) and equal content on every page not built from `c`;
`Open` succeeds for both or for neither, with the same page count. -/
theorem xlsx_own_page_only (a : Archive) (x : Docs) (grid grid' : Nat → Grid) (c : Nat)
    (hg : ∀ c', c' ≠ c → grid c' = grid' c') :
    (frontDocXlsx a x grid).isSome = (frontDocXlsx a x grid').isSome ∧
    ∀ pages pages', frontDocXlsx a x grid = some pages → frontDocXlsx a x grid' = some pages' →
      pages.length = pages'.length ∧
      ∀ (k : Nat) (p p' : XPage), pages[k]? = some p → pages'[k]? = some p' →
        p.number = p'.number ∧ p.cid = p'.cid ∧ (p.cid ≠ c → p = p') := by
  rw [frontDocXlsx_eq, frontDocXlsx_eq]
  cases xlsxOpen a x with
  | none => exact ⟨rfl, fun _ _ h => nomatch h⟩
  | some ps =>
    refine ⟨rfl, ?_⟩
    rintro _ _ ⟨rfl⟩ ⟨rfl⟩
    simp only [List.length_map, true_and]
    intro k p p' hp hp'
    simp only [List.getElem?_map] at hp hp'
    cases hk : ps[k]? with
    | none => simp [hk] at hp
    | some q =>
      simp only [hk, Option.map_some, Option.some.injEq] at hp hp'
      subst hp hp'
      refine ⟨rfl, rfl, ?_⟩
      intro hne
      simp only at hne
      simp only [hg _ hne]

/-- the same for `Text()`: the text is the blank-line-separated sequence of per-sheet
segments, the `k`-th of which is computed from the `k`-th declared readable sheet's own
member alone -/
theorem xlsx_text_own_segment_only (a : Archive) (x : Docs) (grid grid' : Nat → Grid) (c : Nat) (o : FrontOpts)
    (hg : ∀ c', c' ≠ c → grid c' = grid' c') (ps : List SheetPart) (h : xlsxOpen a x = some ps) :
    ∃ seg seg' : List Str,
      frontTextXlsx a x grid o = some (joinWith sNL2 seg) ∧ frontTextXlsx a x grid' o = some (joinWith sNL2 seg') ∧
      seg.length = ps.length ∧ seg'.length = ps.length ∧
      ∀ (k : Nat) (p : SheetPart), ps[k]? = some p → p.2.1 ≠ c → seg[k]? = seg'[k]? := by
  refine ⟨_, _, by rw [frontTextXlsx_eq, h]; rfl, by rw [frontTextXlsx_eq, h]; rfl, by simp, by simp, ?_⟩
  intro k p hk hne
  simp only [List.getElem?_map, hk, Option.map_some, hg _ hne]

/-- the segment of the `k`-th part stands in the text after the segments of the parts
before it and before those of the parts after it -/
theorem text_segment_position (sep : Str) (before : List Str) (v : Str) (after : List Str) :
    joinWith sep (before ++ v :: after) =
      (if before = [] then [] else joinWith sep before ++ sep) ++ v ++
      (if after = [] then [] else sep ++ joinWith sep after) := by
  simp only [joinWith_eq_intercalate]
  by_cases hb : before = []
  · by_cases ha : after = [] <;> simp [hb, ha, List.intercalate_cons]
  · rw [List.intercalate_append hb (List.cons_ne_nil _ _), List.intercalate_cons]
    by_cases ha : after = [] <;> simp [hb, ha, List.append_assoc]

/-- **xlsx_selection_text** — `TextWithOptions` with a selection renders exactly the
selected sheets' segments, in the order asked for. -/
theorem xlsx_selection_text (r : XReader) (o : XOpts) (h : o.sheets ≠ []) :
    xlsxText r o = joinWith sNL2 ((o.sheets.filterMap (pick r)).map (sheetText o)) := by
  unfold xlsxText
  rw [selection_in_order_asked]
  simp only [h, if_false]

/-- the workbook of `xlsx_declared_order_example` (without the left-over sheet) -/
def exXArchive : Archive :=
  [(sCT, 1), ([120, 108, 47, 119, 111, 114, 107, 115, 104, 101, 101, 116, 115, 47, 115, 104, 101, 101, 116, 49, 46, 120, 109, 108], 11),
   (sWorkbook, 2), (sXlRels, 3),
   ([120, 108, 47, 119, 111, 114, 107, 115, 104, 101, 101, 116, 115, 47, 115, 104, 101, 101, 116, 50, 46, 120, 109, 108], 12)]

def exXDocs : Docs := fun c =>
  if c = 2 then .workbook [([84, 119, 111], [114, 66]), ([79, 110, 101], [114, 65])]
  else if c = 3 then .rels [([114, 65], [47, 120, 108, 47, 119, 111, 114, 107, 115, 104, 101, 101, 116, 115, 47, 115, 104, 101, 101, 116, 49, 46, 120, 109, 108]),
      ([114, 66], [119, 111, 114, 107, 115, 104, 101, 101, 116, 115, 47, 115, 104, 101, 101, 116, 50, 46, 120, 109, 108])]
  else if c = 11 ∨ c = 12 then .sheet else .opaque

/-- sheet1.xml holds `a⇥b`, sheet2.xml holds `z` -/
def exXGrid : Nat → Grid := fun c =>
  if c = 11 then [[⟨[97], false, false⟩, ⟨[98], false, false⟩]] else [[⟨[122], false, false⟩]]

/-- concrete: `Text()` shows sheet2's cells before sheet1's although sheet1.xml comes first
in the archive and by name -/
theorem xlsx_front_text_example : frontTextXlsx exXArchive exXDocs exXGrid {} = some [122, 10, 10, 97, 9, 98] := by decide +kernel

/-- the hypotheses of the XLSX front-door theorems are satisfiable -/
example : (xlsxDeclared (lookup exXArchive) exXDocs).isSome ∧ frontCountXlsx exXArchive exXDocs exXGrid = some 2 ∧
    (frontDocXlsx exXArchive exXDocs exXGrid).isSome := by decide +kernel

/-- non-vacuity of `xlsx_own_page_only` / `xlsx_text_own_segment_only`: two parse tables
that differ on member 11 only -/
example : ∀ c', c' ≠ 11 → exXGrid c' = (fun c => if c = 11 then [] else exXGrid c) c' := by
  intro c' h
  simp [h]

/-- the reader's slide for a presented part -/
def mkSlide (body : Nat → SlideBody) (nt : Nat → Str) (p : SlideN) : Slide :=
  ⟨p.1, p.2.1, body p.2.1, p.2.2, match p.2.2 with
    | none => []
    | some n => nt n⟩

/-- **pptx_reader_follows_declaration** — `r.slides` after `Open` is the slide list, in its
own order, unreadable entries dropped; slide `k` holds what ITS member parses to and the
notes text of the notes part ITS relationship part leads to. -/
theorem pptx_reader_follows_declaration (a : Archive) (x : Docs) (body : Nat → SlideBody) (nt : Nat → Str)
    (declared : List Str) (h : pptxDeclared (lookup a) x = some declared) (hne : declared ≠ []) :
    pptxReader a x body nt =
      (let parts := declared.zipIdx.filterMap (pptxSpecPartN a x)
       if parts = [] then none else some (parts.map (mkSlide body nt))) := by
  unfold pptxReader
  rw [notes_follow_own_relationships a x declared h hne]
  exact map_nonEmpty _ _

theorem front_page_count_pptx (a : Archive) (x : Docs) (body : Nat → SlideBody) (nt : Nat → Str)
    (declared : List Str) (n : Nat) (h : pptxDeclared (lookup a) x = some declared) (hne : declared ≠ [])
    (hc : frontCountPptx a x body nt = some n) :
    n = declared.zipIdx.countP (fun e => (pptxSpecPart a x e).isSome) := by
  rw [frontCountPptx_eq, notes_follow_own_relationships a x declared h hne] at hc
  rw [of_map_nonEmpty hc, List.length_filterMap_eq_countP]
  congr 1
  funext e
  unfold pptxSpecPartN
  cases pptxSpecPart a x e <;> rfl

/-- the options `Extractor.Text()` hands to the PPTX reader -/
def frontPOpts (o : FrontOpts) : POpts :=
  { notes := true, titles := true, exHeaders := o.exHeaders, exFooters := o.exFooters }

/-- **front_text_pptx** — `tabula.Open(f).Text()` is, for the declared readable slides in
slide-list order, title, blocks, tables and that slide's own notes, separated by blank
lines; nothing else. -/
theorem front_text_pptx (a : Archive) (x : Docs) (body : Nat → SlideBody) (nt : Nat → Str) (o : FrontOpts)
    (declared : List Str) (t : Str)
    (h : pptxDeclared (lookup a) x = some declared) (hne : declared ≠ [])
    (ht : frontTextPptx a x body nt o = some t) :
    t = joinWith sNL2 ((declared.zipIdx.filterMap (pptxSpecPartN a x)).map fun p =>
          slideText (frontPOpts o) (mkSlide body nt p)) := by
  rw [frontTextPptx_eq, notes_follow_own_relationships a x declared h hne] at ht
  exact (of_map_nonEmpty ht :)

theorem front_document_pptx (a : Archive) (x : Docs) (body : Nat → SlideBody) (nt : Nat → Str)
    (declared : List Str) (pages : List PPage)
    (h : pptxDeclared (lookup a) x = some declared) (hne : declared ≠ [])
    (hd : frontDocPptx a x body nt = some pages) :
    pages = (declared.zipIdx.filterMap (pptxSpecPartN a x)).map fun p => ⟨p.1 + 1, p.2.1, body p.2.1⟩ := by
  rw [frontDocPptx_eq, notes_follow_own_relationships a x declared h hne] at hd
  exact (of_map_nonEmpty hd :)

/-- **pptx_notes_in_own_segment_only** — the notes text of a notes part influences only
the segments of the slides that carry that notes part: if two notes-text tables agree on
every notes part but `c`, the `k`-th segments of `Text()` are equal for every slide `k`
whose notes part is not `c` (in particular for slides without notes). -/
theorem pptx_notes_in_own_segment_only (a : Archive) (x : Docs) (body : Nat → SlideBody) (nt nt' : Nat → Str)
    (c : Nat) (o : FrontOpts) (hn : ∀ c', c' ≠ c → nt c' = nt' c') (ps : List SlideN)
    (h : pptxOpenN a x = some ps) :
    ∃ seg seg' : List Str,
      frontTextPptx a x body nt o = some (joinWith sNL2 seg) ∧ frontTextPptx a x body nt' o = some (joinWith sNL2 seg') ∧
      seg.length = ps.length ∧ seg'.length = ps.length ∧
      ∀ (k : Nat) (p : SlideN), ps[k]? = some p → p.2.2 ≠ some c → seg[k]? = seg'[k]? := by
  refine ⟨ps.map fun p => slideText (frontPOpts o) (mkSlide body nt p),
    ps.map fun p => slideText (frontPOpts o) (mkSlide body nt' p),
    by rw [frontTextPptx_eq, h]; rfl, by rw [frontTextPptx_eq, h]; rfl, by simp, by simp, ?_⟩
  · intro k p hk hne
    simp only [List.getElem?_map, hk, Option.map_some, Option.some.injEq]
    congr 1
    unfold mkSlide
    cases hp : p.2.2 with
    | none => rfl
    | some n =>
      have : n ≠ c := by
        intro e
        subst e
        exact hne hp
      simp only [hn _ this]

/-- a slide's notes are written inside its own segment, after its blocks and tables -/
theorem slide_segment_shape (o : POpts) (s : Slide) :
    slideText o s =
      (if o.titles && s.body.title ≠ [] then s.body.title ++ sNL2 else []) ++
      (s.body.blocks.map (blockText o)).flatten ++ (s.body.tables.map tableText).flatten ++
      (if o.notes && s.notes ≠ [] then sNotesL ++ s.notes ++ sNotesR else []) := rfl

theorem pptx_selection_text (r : PReader) (o : POpts) (h : o.slides ≠ []) :
    pptxText r o = joinWith sNL2 ((o.slides.filterMap (pick r)).map (slideText o)) := by
  unfold pptxText
  rw [selection_in_order_asked]
  simp only [h, if_false]

/-- the hypotheses of the PPTX front-door theorems are satisfiable -/
example : (pptxDeclared (lookup exArchiveN) exDocsN).isSome ∧
    frontCountPptx exArchiveN exDocsN (fun _ => ⟨[], [], []⟩) (fun _ => []) = some 2 :=
  ⟨by decide +kernel, by rw [frontCountPptx_eq, pptx_notes_example]; rfl⟩

/-- concrete: the deck of `pptx_notes_example`; slide2 first, then slide1 with ITS notes -/
theorem pptx_front_text_example :
    frontTextPptx exArchiveN exDocsN
      (fun c => ⟨[], [⟨false, [], [⟨[48 + c % 10], 0, false, false⟩]⟩], []⟩)
      (fun c => [110, 48 + c % 10]) {}
      = some ([50, 10] ++ sNL2 ++ [49, 10] ++ sNotesL ++ [110, 55] ++ sNotesR) := by
  rw [frontTextPptx_eq, pptx_notes_example]
  decide +kernel

def mkChapter (p : ChapterPart) : Chapter := ⟨p.1, p.2.1, p.2.2.1, p.2.2.2⟩

/-- the reader's chapter list is the spine with later repetitions of an already listed
resource removed (`spineFirsts`: see `Props/C18.lean`), resolved and
looked up -/
theorem epub_reader_follows_declaration (a : Archive) (x : Docs) (base : Str) (manifest : List (Str × Str))
    (spine : List Str) (h : epubDeclared (lookup a) x = some (base, manifest, spine)) :
    epubReader a x =
      (let parts := (spineFirsts base manifest spine).filterMap (epubSpecPart a base manifest)
       if parts = [] then none else some (parts.map mkChapter)) := by
  unfold epubReader
  rw [parts_follow_declaration_epub a x base manifest spine h]
  exact map_nonEmpty _ _

theorem front_page_count_epub (a : Archive) (x : Docs) (base : Str) (manifest : List (Str × Str))
    (spine : List Str) (n : Nat) (h : epubDeclared (lookup a) x = some (base, manifest, spine))
    (hc : frontCountEpub a x = some n) :
    n = (spineFirsts base manifest spine).countP (fun e => (epubSpecPart a base manifest e).isSome) := by
  rw [frontCountEpub_eq, parts_follow_declaration_epub a x base manifest spine h] at hc
  rw [of_map_nonEmpty hc, List.length_filterMap_eq_countP]

/-- what a chapter contributes to `Text()`: its trimmed text when htmldoc can read it and
the text is not empty -/
def chapterSegment (h : HtmlViews) (mode : Int) (c : Chapter) : Option Str :=
  match h.text c.cid mode with
  | none => none
  | some t => if t = [] then none else some t

/-- **front_text_epub** — `tabula.Open(f).Text()` is the text of the chapters in spine order,
each listed resource once at its first position (`spineFirsts`)
(hrefs resolved against the package document and percent-decoded, unreadable entries
dropped), blank-line separated; chapters without text contribute nothing. -/
theorem front_text_epub (hv : HtmlViews) (a : Archive) (x : Docs) (o : FrontOpts) (base : Str)
    (manifest : List (Str × Str)) (spine : List Str) (t : Str)
    (h : epubDeclared (lookup a) x = some (base, manifest, spine)) (ht : frontTextEpub hv a x o = some t) :
    t = joinWith sNL2 ((((spineFirsts base manifest spine).filterMap (epubSpecPart a base manifest)).map mkChapter).filterMap
          (chapterSegment hv 0)) := by
  rw [frontTextEpub_eq, parts_follow_declaration_epub a x base manifest spine h] at ht
  exact (of_map_nonEmpty ht :)

/-- **front_document_epub** — every page of `Document()` stems from one chapter of the
loaded list, carries that chapter's position (+1) as its number, and the numbers never
decrease: pages appear in spine order and no page mixes chapters. -/
theorem front_document_epub (hv : HtmlViews) (a : Archive) (x : Docs) (r : EReader) (pages : List EPage)
    (hr : epubReader a x = some r) (hd : frontDocEpub hv a x = some pages) :
    pages.Pairwise (fun p q => p.number ≤ q.number) ∧
    ∀ pg ∈ pages, ∃ k c, r[k]? = some c ∧ pg.number = k + 1 ∧ pg.cid = c.cid := by
  unfold frontDocEpub at hd
  rw [hr] at hd
  simp only [Option.map_some, Option.some.injEq] at hd
  subst hd
  refine ⟨(epubDocLoop_sorted hv 0 r).1, ?_⟩
  intro pg hpg
  obtain ⟨k, c, hk, hn, hc⟩ := epubDocLoop_page hv 0 r pg hpg
  exact ⟨k, c, hk, by omega, hc⟩

/-- when every chapter's own document has exactly one page, `Document()` has one page per
loaded chapter, in order -/
theorem epub_document_one_page_each (hv : HtmlViews) (r : EReader) (i : Nat)
    (h1 : ∀ c ∈ r, hv.pages c.cid = some 1) :
    epubDocLoop hv i r = r.zipIdx.map fun e => ⟨i + e.2 + 1, e.1.cid⟩ := by
  rw [epubDocLoop_eq_flatMap, List.zipIdx_eq_map_add, List.flatMap_map, List.map_eq_flatMap]
  refine List.flatMap_congr fun e he => ?_
  simp only [chapterPages, h1 e.1 (List.fst_mem_of_mem_zipIdx he), List.replicate_one, Nat.add_comm i]

/-- the package of `epub_declared_order_example` -/
def exEArchive : Archive :=
  [([79, 69, 66, 80, 83, 47, 99, 49], 11), (sContainer, 1),
   ([79, 69, 66, 80, 83, 47, 99, 104, 47, 99, 43, 49, 46, 120, 104, 116, 109, 108], 12),
   ([79, 69, 66, 80, 83, 47, 99, 50], 13),
   ([79, 69, 66, 80, 83, 47, 99, 111, 110, 116, 101, 110, 116, 46, 111, 112, 102], 2)]

def exEDocs : Docs := fun c =>
  if c = 1 then .container [([79, 69, 66, 80, 83, 47, 99, 111, 110, 116, 101, 110, 116, 46, 111, 112, 102], sOebps)]
  else if c = 2 then .opf [([105, 49], [99, 49]), ([105, 50], [99, 104, 47, 99, 43, 49, 46, 120, 104, 116, 109, 108]),
      ([105, 51], [99, 50])] [[105, 50], [105, 49]]
  else .opaque

/-- every member reads as one digit (its content id mod 10), one page each -/
def exEViews : HtmlViews := ⟨fun c _ => some [48 + c % 10], fun _ _ => none, fun _ => some 1⟩

/-- concrete: chapter `ch/c+1.xhtml` (member 12) first, then `c1` (member 11) -/
theorem epub_front_text_example : frontTextEpub exEViews exEArchive exEDocs {} = some [50, 10, 10, 49] := by
  rw [frontTextEpub_eq, show epubOpen exEArchive exEDocs = _ from epub_declared_order_example]
  decide +kernel

theorem epub_front_document_example :
    frontDocEpub exEViews exEArchive exEDocs = some [⟨1, 12⟩, ⟨2, 11⟩] := by
  rw [frontDocEpub_eq, show epubOpen exEArchive exEDocs = _ from epub_declared_order_example]
  decide +kernel

/-- the hypotheses of the EPUB front-door theorems are satisfiable -/
example : (epubDeclared (lookup exEArchive) exEDocs).isSome ∧ frontCountEpub exEArchive exEDocs = some 2 ∧
    (epubReader exEArchive exEDocs).isSome := by
  have h : epubOpen exEArchive exEDocs = _ := epub_declared_order_example
  exact ⟨by decide +kernel, by rw [frontCountEpub_eq, h]; rfl, by rw [epubReader, h]; rfl⟩
example : ∀ c ∈ ([⟨0, 12, [], []⟩, ⟨1, 11, [], []⟩] : EReader), exEViews.pages c.cid = some 1 := by decide +kernel

end Tabula.C18Api
