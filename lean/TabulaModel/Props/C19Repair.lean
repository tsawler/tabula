import TabulaModel.Lemmas.HtmlRepair
import TabulaModel.Props.C19Text
/-!
# C19 — fix 75d57dc against the traversal before it

The finding C19/content-missing-para-with-block-child (a p/div that has a block-level child
never returned its own direct text) was repaired by fix 75d57dc: while such a container is
traversed, the runs of inline children between its other children are emitted as paragraphs.
`Model/HtmlOld.lean` keeps the traversal as it was (`travOld`, `extractOldWith`); this file
relates the two, for every tree, every exclusion predicate and every list context:

* nothing is returned twice (an inline child is silent when traversed);
* the fix only ADDS paragraphs: what was returned before is still returned, unchanged and in
  the same order;
* on documents without a block container that has inline text the element lists are equal;
* the run paragraphs do not depend on the mode (inline children are not asked for exclusion,
  like the inline content of any paragraph), which is why the mode chain still holds atom by atom.
-/
namespace Tabula.C19Repair
open Tabula.Html

/-- NOTHING TWICE: a child that goes into a run (`isInline`: it neither is nor contains a
block-level element, `li` or `code`) would contribute nothing if it were traversed — no atom in
the specification, no change of the state of the traversal, under any predicate, before and
after the fix.  So the text of a run is in the run's paragraph and nowhere else, and (see
`travM`) a child that is traversed is in no run. -/
theorem inline_child_silent (p : Pos → Dom → Bool) (w : Bool) (pos : Pos) (lc : LC) (s : St) (k : Dom)
    (h : isInline k = true) :
    atoms p w pos lc k = [] ∧ trav p w pos k s = s ∧ atomsOld p w pos lc k = [] ∧ travOld p w pos k s = s :=
  ⟨atoms_inline p w k pos lc h, trav_inline p w k pos s h, atomsOld_inline p w k pos lc h,
   travOld_inline p w k pos s h⟩

example : isInline (.elem [98] [] [.text [120], .elem T.br [] []]) = true := by decide

/-- what makes a child NOT inline: it is a block-level element, an `li`, a `code`, or it holds one
(a skipped element — script, style, … — is inline whatever it holds: it has no text) -/
theorem not_inline_iff (tag : Str) (attrs : List (Str × Str)) (kids : List Dom) (hs : isSkip tag = false) :
    isInline (.elem tag attrs kids) = false ↔
      (isBlockTag tag = true ∨ tag = T.li ∨ tag = T.code ∨ isInlineL kids = false) := by
  rw [isInline_elem_eq attrs kids hs]
  simp only [Bool.and_eq_false_iff, Bool.not_eq_eq_eq_not, Bool.not_false, Bool.or_eq_true, beq_iff_eq, or_assoc]

/-- THE FIX ONLY ADDS: for every document and every exclusion predicate, the atoms the reader
returned before the fix are a sublist of the atoms it returns now — every heading, paragraph,
item, cell, code and quote atom that was returned is still returned with the same text, in the
same order. -/
theorem repair_only_adds (p : Pos → Dom → Bool) (body : Dom) :
    (flatten (extractOldWith p body)).Sublist (flatten (extractWith p body)) := by
  rw [extractOld_flatten, Tabula.C19.traverse_refines_atoms]
  exact atomsOld_sublist p (hasWrapper body) body .root ⟨false, 0⟩

/-- … for the four modes -/
theorem repair_only_adds_modes (m : Mode) (body : Dom) :
    (flatten (extractOld m body)).Sublist (flatten (extract m body)) :=
  repair_only_adds (excluded m) body

/-- NOTHING ELSE CHANGES: on a document in which no p/div that has a block-level child has an
inline child with text (`quiet`), the repaired reader returns exactly the element list the old
one returned — same elements, same grouping of list items, under every predicate. -/
theorem repair_unchanged_without_mixed (p : Pos → Dom → Bool) (body : Dom) (h : quiet body = true) :
    extractWith p body = extractOldWith p body := by
  unfold extractWith extractOldWith
  rw [trav_quiet p (hasWrapper body) body .root {} h]

example : quiet (.elem T.body [] [.elem T.div [] [.text [32], .elem T.p [] [.text [120]], .elem T.ul [] [.elem T.li [] [.text [121]]]]]) = true := by
  decide

/-- the witness of the finding is not such a document, and there the lists differ by the one
paragraph -/
theorem repair_changes_the_witness :
    quiet Tabula.C19.witnessPTable = false ∧
    extractOld .none Tabula.C19.witnessPTable = [.table false [[⟨[99], false, 1, 1⟩]]] ∧
    extract .none Tabula.C19.witnessPTable = [.para [120], .table false [[⟨[99], false, 1, 1⟩]]] := by
  decide +kernel

/-- THE RUNS DO NOT DEPEND ON THE MODE: which children form a run, and the text of the run, are
functions of the tree alone (`isInline`, `textRec` take no predicate); a predicate only decides
about the children that are traversed.  Hence between two predicates that agree on the traversed
children the whole child loop of a block container returns the same atoms, and under a stricter
predicate a sublist — run paragraphs are kept whole or (with their container) dropped whole. -/
theorem runs_mode_independent (p q : Pos → Dom → Bool) (w : Bool) (kp : Pos) (lc : LC) (kids : List Dom) (run : Str) :
    (agreeL p q w kp kids → atomsM q w kp lc kids run = atomsM p w kp lc kids run) ∧
    ((∀ pos n, p pos n = true → q pos n = true) → (atomsM q w kp lc kids run).Sublist (atomsM p w kp lc kids run)) :=
  ⟨atomsM_agree p q w kids kp lc run, fun h => atomsM_mono p q h w kids kp lc run⟩

/-- `<div>a <span class="menu">b</span> c<p class="sidebar">x</p>d</div>`: the run "a b c" is one
paragraph in every mode — the span inside it is inline content of that paragraph and is not asked
for exclusion — while the p is dropped by Standard and Aggressive -/
def witnessRunModes : Dom :=
  .elem T.body []
    [.elem T.div []
      [.text [97, 32], .elem Tabula.C19.tagSpan [(A.class, [109, 101, 110, 117])] [.text [98]], .text [32, 99],
       .elem T.p [(A.class, [115, 105, 100, 101, 98, 97, 114])] [.text [120]], .text [100]]]

theorem runs_mode_independent_witness :
    flatten (extract .none witnessRunModes) = [.para [97, 32, 98, 32, 99], .para [120], .para [100]] ∧
    flatten (extract .explicit witnessRunModes) = [.para [97, 32, 98, 32, 99], .para [120], .para [100]] ∧
    flatten (extract .standard witnessRunModes) = [.para [97, 32, 98, 32, 99], .para [100]] ∧
    flatten (extract .aggressive witnessRunModes) = [.para [97, 32, 98, 32, 99], .para [100]] := by
  decide +kernel

end Tabula.C19Repair
