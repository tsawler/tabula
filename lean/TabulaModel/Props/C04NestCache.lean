import TabulaModel.Lemmas.XrefNestCache
/-!
# C04 — the reader's caches and the limit on nested loads (129dd3d, repaired by 8b4ac6e)

"The answer does not depend on the order of lookups or on what was looked up before."
`GetObject` refuses a load when 16 objects are being loaded inside each other. Since 8b4ac6e a
hit in `objCache` or `objStmCache` is counted as the load it stands for (`objNeed`, `stmNeed`,
`nestCached`). On the chain files of `Model/XrefNestCache.lean`, for EVERY chain length `d`:

* `nested_cache_fresh_reader` — a fresh reader answers a lookup of `A i` by the length of the chain
  alone: found iff the object exists and its chain fits the limit of 16 (what the cache-free
  byte-level model `getObjectB` says; `C04N.nested_loads_within_limit/_beyond_limit`);
* `nested_cache_order_free` — every sequence of lookups and cache clears, from any sound cache
  contents, answers every lookup as a fresh reader does;
* `nested_cache_answer_independent_of_earlier_lookups` — the same, said of one lookup after two
  arbitrary histories;
* `nested_cache_need_is_chain_length` — what the reader remembers with a cached object is the
  number of nested loads a fresh reader needs for it;
* `nested_cache_order_dependence_pinned_counterexample` — the cache rule before the repair
  (`XrefNest.Old`): with 17 nested loads `GetObject(A 1)` was an error on a fresh reader and
  succeeded after `GetObject(A 2)`; the repaired rule refuses both times. (known_findings.txt:
  `fixed: property=C04 8b4ac6e`, oracle key C04/nested-limit-answer-depends-on-earlier-lookups.)
-/
namespace Tabula.C04NC
open Tabula.XrefNest

theorem sound_empty (d : Nat) (top : Bool) (r : Nat) : Sound d top ({ reach := r } : Caches) :=
  ⟨nofun, nofun, nofun, nofun, nofun⟩

/-- `reach` is no part of soundness -/
theorem sound_reach {d : Nat} {top : Bool} {st : Caches} (h : Sound d top st) (r : Nat) :
    Sound d top { st with reach := r } := h

theorem lookup_cons_some {k v : Nat} {l : List (Nat × Nat)} {i n : Nat}
    (h : ((k, v) :: l).lookup i = some n) : (i = k ∧ n = v) ∨ l.lookup i = some n :=
  List.lookup_cons_imp (P := fun i n => (i = k ∧ n = v) ∨ l.lookup i = some n) (.inl ⟨rfl, rfl⟩)
    (fun _ _ h => .inr h) i n h

theorem nestCached_spec {d : Nat} {top : Bool} {st : Caches} (h : Sound d top st) (need L : Nat) :
    (nestCached need L st).1 = decide (L + need ≤ maxNestedLoads) ∧
      Sound d top (nestCached need L st).2 ∧
      ((nestCached need L st).1 = true → (nestCached need L st).2.reach = max st.reach (L + need)) := by
  unfold nestCached
  split
  · next hc => exact answers_refused h hc
  · next hc => exact ⟨(decide_eq_true (Nat.le_of_not_lt hc)).symm, h, fun _ => rfl⟩

/-- `getObjectStream(S i)`: given that the nested `GetObject(A (i+1))` answers by its chain
(`d - i` loads), opening `S i` does, cached or not -/
theorem openStm_spec {d : Nat} {top : Bool} (i L : Nat) (st : Caches) (nested : Caches → Bool × Caches)
    (h : Sound d top st) (h1 : 1 ≤ i) (h2 : i < d)
    (hn : ∀ st', Sound d top st' → Answers d top (d - i) L st' (nested st')) :
    Answers d top (d - i) L st (openStm i L st nested) := by
  cases hl : st.stm.lookup i with
  | some need =>
    obtain rfl := (h.2.2.2.1 i need hl).2.2
    simp only [openStm, hl]
    exact nestCached_spec h _ _
  | none =>
    rw [openStm_miss hl]
    exact answers_framed (hn _ (sound_reach h L)) rfl (fun _ => rfl) fun s hs hr =>
      ⟨hs.1, hs.2.1, hs.2.2.1, List.lookup_cons_imp ⟨h1, h2, hr⟩ hs.2.2.2.1, hs.2.2.2.2⟩

/-- the chain of `A i` / `B i` takes `d - i + 1` loads -/
theorem getM_spec (d : Nat) (top : Bool) : ∀ (fuel : Nat) (b : Bool) (i L : Nat) (st : Caches),
    Sound d top st → d - i + 1 ≤ fuel →
    (memberExists d b i = true → Answers d top (d - i + 1) L st (getM d fuel b i L st)) ∧
    (memberExists d b i = false → getM d fuel b i L st = (false, st)) := by
  intro fuel
  induction fuel with
  | zero => intro b i L st _ hf; exact absurd hf (Nat.not_succ_le_zero _)
  | succ fuel ih =>
    intro b i L st h hf
    cases hl : (st.member b).lookup i with
    | some need =>
      obtain ⟨hex, rfl⟩ := sound_member h hl
      simp only [getM, hl]
      exact ⟨fun _ => nestCached_spec h _ _, fun hno => by rw [hex] at hno; cases hno⟩
    | none =>
      cases hex : memberExists d b i with
      | false => exact ⟨nofun, fun _ => by simp only [getM, hl, hex, Bool.not_false, if_true]⟩
      | true =>
        refine ⟨fun _ => ?_, nofun⟩
        by_cases hlim : maxNestedLoads ≤ L
        · simp only [getM, hl, hlim, if_true, ite_self]
          exact answers_refused h (Nat.lt_of_le_of_lt hlim (Nat.lt_succ_of_le (Nat.le_add_right L _)))
        · have hlim : L + 1 ≤ maxNestedLoads := Nat.lt_of_not_le hlim
          rw [getM_load hl hex hlim]
          refine answers_framed (L' := L + 1) (c' := d - i) ?_ (Nat.add_right_comm L 1 (d - i))
            (fun s => cacheMember_reach b i _ s) fun s hs hr => sound_cacheMember hs hex (congrArg (· + 1) hr)
          -- the load proper: a plain object, or through the object stream
          split
          · next hp =>
            obtain rfl : i = d := of_decide_eq_true (Bool.and_eq_true_iff.1 hp).2
            rw [Nat.sub_self]
            exact ⟨(decide_eq_true hlim).symm, sound_reach h _, fun _ => (Nat.max_self _).symm⟩
          · next hp =>
            have hid : 1 ≤ i ∧ i < d := by
              cases b with
              | false =>
                have hex := of_decide_eq_true hex
                exact ⟨hex.1, Nat.lt_of_le_of_ne hex.2 fun hid => hp (decide_eq_true hid)⟩
              | true => exact of_decide_eq_true hex
            refine openStm_spec i (L + 1) _ _ (sound_reach h _) hid.1 hid.2 fun st' hs' => ?_
            have e := chain_succ hid.2
            exact e ▸ (ih false (i + 1) (L + 1) st' hs' (e ▸ Nat.le_of_succ_le_succ hf)).1
              (memberExists_A (Nat.le_add_left 1 i) hid.2)

/-- **nested_cache_need_is_chain_length**: after `GetObject(A i)` from outside, from any sound
caches, what the reader remembers with `A i` is `d - i + 1` — the nested loads a fresh reader
needs for it (so `nestCached` refuses exactly where a load would be refused) -/
theorem nested_cache_need_is_chain_length (d : Nat) (top : Bool) (st : Caches) (h : Sound d top st)
    (i n : Nat) (hn : (step d top st (.a i)).2.objA.lookup i = some n) : n = d - i + 1 := by
  have hs := outside_of_spec h (getM_spec d top (d + 1) false i 0 st h (Nat.succ_le_succ (Nat.sub_le d i)))
  exact (hs.2.1 i n hn).2.2

/-- satisfiable, beyond the limit: on 17 chained integers `A 2` is cached with need 16 -/
example : (step 17 false {} (.a 2)).2.objA.lookup 2 = some 16 := by decide +kernel

/-- one operation, from any sound caches, for every chain length: a fresh reader's answer, and
sound caches afterwards -/
theorem step_cold (d : Nat) (top : Bool) (st : Caches) (h : Sound d top st) (op : Op) :
    (step d top st op).1 = cold d top op ∧ Sound d top (step d top st op).2 := by
  cases op with
  | clear => exact ⟨rfl, sound_empty d top _⟩
  | a i =>
    obtain ⟨ha, hs⟩ :=
      outside_of_spec h (getM_spec d top (d + 1) false i 0 st h (Nat.succ_le_succ (Nat.sub_le d i)))
    exact ⟨by simp only [step, cold, ha, memberExists_false, Bool.decide_and, Bool.and_assoc], hs⟩
  | b i =>
    obtain ⟨ha, hs⟩ :=
      outside_of_spec h (getM_spec d top (d + 1) true i 0 st h (Nat.succ_le_succ (Nat.sub_le d i)))
    exact ⟨by simp only [step, cold, ha, memberExists_true, Bool.decide_and, Bool.and_assoc], hs⟩
  | s i =>
    suffices key : (getS d i st).1 = (memberExists d true i && decide (d - i + 1 ≤ maxNestedLoads)) ∧
        Sound d top (getS d i st).2 from
      ⟨by simp only [step, cold, key.1, memberExists_true, Bool.decide_and, Bool.and_assoc], key.2⟩
    cases hl : st.objS.lookup i with
    | some need =>
      obtain ⟨h1, h2, rfl⟩ := h.2.2.1 i need hl
      simp only [getS, hl]
      exact answers_outside (memberExists_B h1 h2) (nestCached_spec h _ _)
    | none =>
      by_cases hin : i = 0 ∨ d ≤ i
      · simp only [getS, hl, hin, if_true]
        exact refused_outside (decide_eq_false (by omega)) h
      · have h1 : 1 ≤ i := Nat.pos_of_ne_zero fun h0 => hin (.inl h0)
        have h2 : i < d := Nat.lt_of_not_le fun hd => hin (.inr hd)
        have e := chain_succ h2
        have hM := (getM_spec d top (d + 1) false (i + 1) 1 _ (sound_reach h 1)
          (e ▸ Nat.le_succ_of_le (Nat.sub_le d i))).1 (memberExists_A (Nat.le_add_left 1 i) h2)
        rw [getS_load hl hin]
        exact answers_outside (memberExists_B h1 h2) <|
          answers_framed hM (by rw [e, Nat.zero_add, Nat.add_comm]) (fun _ => rfl) fun s hs hr =>
            ⟨hs.1, hs.2.1, List.lookup_cons_imp ⟨h1, h2, hr ▸ congrArg (· + 1) e⟩ hs.2.2.1, hs.2.2.2⟩
  | t =>
    suffices key : (getT d top st).1 = ((top && decide (1 ≤ d)) && decide (d + 1 ≤ maxNestedLoads)) ∧
        Sound d top (getT d top st).2 from
      ⟨by simp only [step, cold, key.1, Bool.decide_and, Bool.and_assoc], key.2⟩
    cases hl : st.objT with
    | some need =>
      obtain ⟨rfl, hd, rfl⟩ := h.2.2.2.2 need hl
      simp only [getT, hl]
      exact answers_outside (decide_eq_true hd) (nestCached_spec h _ _)
    | none =>
      cases top with
      | false =>
        simp only [getT, hl, Bool.not_false, if_true]
        exact refused_outside rfl h
      | true =>
        have hM := getM_spec d true (d + 1) false 1 1 _ (sound_reach h 1) (Nat.succ_le_succ (Nat.sub_le d 1))
        rw [getT_load hl, Bool.true_and]
        by_cases hd : 1 ≤ d
        · have e : d - 1 + 1 = d := Nat.sub_add_cancel hd
          exact answers_outside (decide_eq_true hd) <|
            answers_framed (hM.1 (memberExists_A (Nat.le_refl 1) hd))
              (by rw [e, Nat.zero_add, Nat.add_comm]) (fun _ => rfl) fun s hs hr =>
                ⟨hs.1, hs.2.1, hs.2.2.1, hs.2.2.2.1,
                  fun _ hm => ⟨rfl, hd, Option.some.inj hm ▸ hr ▸ congrArg (· + 1) e⟩⟩
        · rw [hM.2 (decide_eq_false fun hh => hd hh.2)]
          exact refused_outside (decide_eq_false hd) (sound_reach h _)

/-- **nested_cache_order_free**: on every chain file — every chain length `d`, with or without
the stream on top — every sequence of `GetObject` calls and cache clears, from any sound cache
contents, answers each lookup exactly as a freshly opened reader does: by the file and the
limit alone. (Before the repair 8b4ac6e this held only for `d + top ≤ 16`; see the pinned
counterexample.) -/
theorem nested_cache_order_free (d : Nat) (top : Bool) (st : Caches) (h : Sound d top st)
    (ops : List Op) : run d top st ops = ops.map (cold d top) := by
  induction ops generalizing st with
  | nil => rfl
  | cons op ops ih =>
    obtain ⟨h1, h2⟩ := step_cold d top st h op
    simp only [run, List.map_cons]
    rw [h1, ih _ h2]

/-- satisfiable: caches filled by earlier lookups on a file beyond the limit are sound -/
example : Sound 17 false (step 17 false (step 17 false {} (.b 2)).2 (.a 1)).2 :=
  (step_cold 17 false _ (step_cold 17 false {} (sound_empty 17 false 0) (.b 2)).2 (.a 1)).2

/-- **nested_cache_fresh_reader**: on a freshly opened reader, `GetObject(A i)` is found iff
`A i` exists and the `d - i + 1` loads of its chain fit the limit of 16 — for every chain
length `d` -/
theorem nested_cache_fresh_reader (d : Nat) (top : Bool) (i : Nat) :
    run d top {} [.a i] = [cold d top (.a i)] :=
  nested_cache_order_free d top {} (sound_empty d top 0) [.a i]

/-- **nested_cache_answer_independent_of_earlier_lookups**: the answer to a lookup after any
history of lookups and clears equals its answer after any other history, on every chain file -/
theorem nested_cache_answer_independent_of_earlier_lookups (d : Nat) (top : Bool)
    (before before' : List Op) (op : Op) :
    (run d top {} (before ++ [op])).getLast? = (run d top {} (before' ++ [op])).getLast? := by
  rw [nested_cache_order_free d top {} (sound_empty d top 0),
    nested_cache_order_free d top {} (sound_empty d top 0)]
  simp

/-- a conforming layout (a stream whose `/Length` is a member of an object stream whose
`/Length` is a plain object: 3 nested loads), looked up in both orders and again -/
example : run 2 true {} [.t, .a 2, .a 1, .b 1, .s 1, .clear, .b 1, .a 1, .t] =
    [some true, some true, some true, some true, some true, none, some true, some true, some true] := by
  decide +kernel

/-- at the edge: 16 nested loads are answered from a fresh reader, 17 are not -/
example : run 16 false {} [.a 1] = [some true] ∧ run 17 false {} [.a 1] = [some false] ∧
    run 15 true {} [.t] = [some true] ∧ run 16 true {} [.t] = [some false] := by decide +kernel

/-- beyond the limit, warm: neither the cached far end (`A 2`) nor the cached object stream
(`S 2`, opened through `B 2`) lets `A 1` through -/
example : run 17 false {} [.a 2, .a 1, .clear, .b 2, .a 1, .a 2, .a 1] =
    [some true, some false, none, some true, some false, some true, some false] := by decide +kernel

/-- **nested_cache_order_dependence_pinned_counterexample**: the cache rule of 129dd3d before
the repair (`XrefNest.Old`: `objCache` consulted before `len(r.loading)` is counted). With 17
nested loads — one more than the limit — the answer to `GetObject(A 1)` depended on what was
looked up before: an error on a fresh reader, found after `GetObject(A 2)` (whose chain of 16
fits and is cached, so that `A 1` needed only two loads). The repaired rule answers the
fresh reader's error both times. -/
theorem nested_cache_order_dependence_pinned_counterexample :
    Old.run 17 false {} [.a 1] = [some false] ∧
      Old.run 17 false {} [.a 2, .a 1] = [some true, some true] ∧
      run 17 false {} [.a 1] = [some false] ∧
      run 17 false {} [.a 2, .a 1] = [some true, some false] ∧
      cold 17 false (.a 1) = some false := by decide +kernel

end Tabula.C04NC
