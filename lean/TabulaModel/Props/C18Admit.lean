import TabulaModel.Lemmas.Detect
import TabulaModel.Props.C18Front
/-!
# C18 — through the real front door: admission by content (composition with C20's model)

`tabula.Open(f)` first sniffs the file (`validateFormat` → `format.DetectFromReader` →
`detectZIPFormat`; model `Model/Detect.lean`, owned by property C20) and only then opens
the format reader. `open*` of `Model/PackageApi.lean` put the two together. Here:

* a package that declares its parts at all carries its format's main part, hence is
  admitted unless its content names ANOTHER format first (`*_admitted`);
* admission does not depend on the ZIP order either (`admitted_perm_invariant`);
* so the equations of `front_xlsx` / `front_pptx` / `front_epub` hold for the real front
  door (`open_xlsx`, `open_pptx`, `open_epub`), and it is independent of the ZIP order
  (`open_archive_perm_invariant`).
-/
namespace Tabula.C18Admit
open Tabula.Package Tabula.PackageApi Tabula.C18 Tabula.C18Api Tabula.C18Front
open Tabula.Detect (Member firstMime hasMember hasDir detectZip mimeVerdict MimeAgree nMimetype nContainer nWordDoc
  nXlWorkbook nPptPres)

/-- **admitted_perm_invariant** — admission is the same for every permutation of the ZIP
member list (member names distinct). -/
theorem admitted_perm_invariant (f : Detect.Format) (a a' : Archive) (mime : Nat → Option Str)
    (hn : (a.map Prod.fst).Nodup) (hp : a.Perm a') : admitted f a mime = admitted f a' mime := by
  unfold admitted
  have hp' : (zipMembers a mime).Perm (zipMembers a' mime) := hp.map _
  have hnd : ((zipMembers a mime).map (·.name)).Nodup := by
    rw [names_zipMembers]
    exact hn
  rw [Detect.detectZip_perm hp' (Detect.MimeAgree.of_nodup hnd)]

/-- **xlsx_admitted** — a workbook that `xlsx.Open` gets as far as reading the sheet list
of is admitted as XLSX, unless a `mimetype` member names ODT/EPUB, or the archive also
holds `META-INF/container.xml` or `word/document.xml` (then the content names another
format and `tabula.Open` refuses the file: property C20). -/
theorem xlsx_admitted (a : Archive) (x : Docs) (mime : Nat → Option Str) (d : List (Str × Str) × List (Str × Str))
    (h : xlsxDeclared (lookup a) x = some d)
    (hm : firstMime (zipMembers a mime) = none) (hc : lookup a nContainer = none) (hw : lookup a nWordDoc = none) :
    admitted .xlsx a mime = true := by
  -- `nXlWorkbook` (of the sniffing) and `sWorkbook` (of the reader) are the same string
  have hwb : (lookup a nXlWorkbook).isSome = true := xlsxDeclared_workbook h
  unfold admitted detectZip
  simp only [hm, hasMember_zipMembers, hc, hw, hwb, Option.isSome_none, Bool.false_eq_true, if_false, if_true]
  decide +kernel

theorem pptx_admitted (a : Archive) (x : Docs) (mime : Nat → Option Str) (d : List Str)
    (h : pptxDeclared (lookup a) x = some d)
    (hm : firstMime (zipMembers a mime) = none) (hc : lookup a nContainer = none) (hw : lookup a nWordDoc = none)
    (hx : lookup a nXlWorkbook = none) : admitted .pptx a mime = true := by
  have hpp : (lookup a nPptPres).isSome = true := pptxDeclared_presentation h
  unfold admitted detectZip
  simp only [hm, hasMember_zipMembers, hc, hw, hx, hpp, Option.isSome_none, Bool.false_eq_true, if_false, if_true]
  decide +kernel

/-- **epub_admitted** — a publication whose container file is there is admitted as EPUB unless
a `mimetype` member names ODT. -/
theorem epub_admitted (a : Archive) (x : Docs) (mime : Nat → Option Str) (d : Str × List (Str × Str) × List Str)
    (h : epubDeclared (lookup a) x = some d)
    (hm : firstMime (zipMembers a mime) = none ∨ firstMime (zipMembers a mime) = some .epub) :
    admitted .epub a mime = true := by
  have hcont : (lookup a nContainer).isSome = true := epubDeclared_container h
  unfold admitted detectZip
  rcases hm with hm | hm
  · simp only [hm, hasMember_zipMembers, hcont, if_true]
    decide
  · simp only [hm]
    decide

/-- **open_xlsx / open_pptx / open_epub** — the equations of `front_*` for the real front
door (sniffing included). -/
theorem open_xlsx (a : Archive) (x : Docs) (mime : Nat → Option Str) (grid : Nat → Grid) (o : FrontOpts)
    (rels sheets : List (Str × Str)) (h : xlsxDeclared (lookup a) x = some (rels, sheets))
    (hm : firstMime (zipMembers a mime) = none) (hc : lookup a nContainer = none) (hw : lookup a nWordDoc = none) :
    let parts := sheets.zipIdx.filterMap (xlsxSpecPart a x rels)
    openCountXlsx a x mime grid = (if parts = [] then none else some parts.length) ∧
    openTextXlsx a x mime grid o =
      (if parts = [] then none else some (joinWith sNL2 (parts.map fun p => sheetBody [9] (grid p.2.1)))) ∧
    openDocXlsx a x mime grid =
      (if parts = [] then none else some (parts.map fun p => ⟨p.1 + 1, p.2.1, grid p.2.1⟩)) := by
  have ha := xlsx_admitted a x mime _ h hm hc hw
  unfold openCountXlsx openTextXlsx openDocXlsx
  simp only [ha, if_true]
  exact front_xlsx a x grid o rels sheets h

theorem open_pptx (a : Archive) (x : Docs) (mime : Nat → Option Str) (body : Nat → SlideBody) (nt : Nat → Str)
    (o : FrontOpts) (declared : List Str) (h : pptxDeclared (lookup a) x = some declared) (hne : declared ≠ [])
    (hm : firstMime (zipMembers a mime) = none) (hc : lookup a nContainer = none) (hw : lookup a nWordDoc = none)
    (hx : lookup a nXlWorkbook = none) :
    let parts := declared.zipIdx.filterMap (pptxSpecPartN a x)
    openCountPptx a x mime body nt = (if parts = [] then none else some parts.length) ∧
    openTextPptx a x mime body nt o =
      (if parts = [] then none
       else some (joinWith sNL2 (parts.map fun p => slideText (frontPOpts o) (mkSlide body nt p)))) ∧
    openDocPptx a x mime body nt =
      (if parts = [] then none else some (parts.map fun p => ⟨p.1 + 1, p.2.1, body p.2.1⟩)) := by
  have ha := pptx_admitted a x mime _ h hm hc hw hx
  unfold openCountPptx openTextPptx openDocPptx
  simp only [ha, if_true]
  exact front_pptx a x body nt o declared h hne

theorem open_epub (hv : HtmlViews) (a : Archive) (x : Docs) (mime : Nat → Option Str) (o : FrontOpts) (base : Str)
    (manifest : List (Str × Str)) (spine : List Str)
    (h : epubDeclared (lookup a) x = some (base, manifest, spine))
    (hm : firstMime (zipMembers a mime) = none ∨ firstMime (zipMembers a mime) = some .epub) :
    let parts := (spineFirsts base manifest spine).filterMap (epubSpecPart a base manifest)
    openCountEpub a x mime = (if parts = [] then none else some parts.length) ∧
    openTextEpub hv a x mime o =
      (if parts = [] then none
       else some (joinWith sNL2 ((parts.map mkChapter).filterMap (chapterSegment hv 0)))) ∧
    openDocEpub hv a x mime =
      (if parts = [] then none else some (epubDocument hv (parts.map mkChapter))) := by
  have ha := epub_admitted a x mime _ h hm
  unfold openCountEpub openTextEpub openDocEpub
  simp only [ha, if_true]
  exact front_epub hv a x o base manifest spine h

/-- **open_archive_perm_invariant** — nothing `tabula.Open(f)` reports depends on the ZIP
member order: neither admission nor count, text and pages. -/
theorem open_archive_perm_invariant (a a' : Archive) (x : Docs) (mime : Nat → Option Str)
    (hn : (a.map Prod.fst).Nodup) (hp : a.Perm a') :
    (∀ grid o, openCountXlsx a x mime grid = openCountXlsx a' x mime grid ∧
      openTextXlsx a x mime grid o = openTextXlsx a' x mime grid o ∧
      openDocXlsx a x mime grid = openDocXlsx a' x mime grid) ∧
    (pptxDeclared (lookup a) x ≠ some [] → ∀ body nt o,
      openCountPptx a x mime body nt = openCountPptx a' x mime body nt ∧
      openTextPptx a x mime body nt o = openTextPptx a' x mime body nt o ∧
      openDocPptx a x mime body nt = openDocPptx a' x mime body nt) ∧
    (∀ hv o, openCountEpub a x mime = openCountEpub a' x mime ∧
      openTextEpub hv a x mime o = openTextEpub hv a' x mime o ∧
      openDocEpub hv a x mime = openDocEpub hv a' x mime) := by
  obtain ⟨hx, hpx, he⟩ := front_archive_perm_invariant a a' x hn hp
  have hadm := fun f => admitted_perm_invariant f a a' mime hn hp
  refine ⟨?_, ?_, ?_⟩
  · intro grid o
    simp only [openCountXlsx, openTextXlsx, openDocXlsx, hadm, hx grid o, and_self]
  · intro hd body nt o
    simp only [openCountPptx, openTextPptx, openDocPptx, hadm, hpx hd body nt o, and_self]
  · intro hv o
    simp only [openCountEpub, openTextEpub, openDocEpub, hadm, he hv o, and_self]

/-- non-vacuity: the example packages are admitted, a workbook with a stray
`word/document.xml` is not (by design: C20) although `xlsx.Open` reads it -/
example : firstMime (zipMembers exXArchive fun _ => none) = none ∧ lookup exXArchive nContainer = none ∧
    lookup exXArchive nWordDoc = none ∧ admitted .xlsx exXArchive (fun _ => none) = true := by decide +kernel
example : firstMime (zipMembers exArchiveN fun _ => none) = none ∧ lookup exArchiveN nXlWorkbook = none ∧
    admitted .pptx exArchiveN (fun _ => none) = true := by decide +kernel
example : firstMime (zipMembers exEArchive fun _ => none) = none ∧ admitted .epub exEArchive (fun _ => none) = true := by
  decide +kernel
theorem stray_word_part_refused_example :
    admitted .xlsx (exXArchive ++ [(nWordDoc, 99)]) (fun _ => none) = false ∧
    (frontCountXlsx (exXArchive ++ [(nWordDoc, 99)]) exXDocs exXGrid).isSome = true ∧
    openCountXlsx (exXArchive ++ [(nWordDoc, 99)]) exXDocs (fun _ => none) exXGrid = none := by decide +kernel

end Tabula.C18Admit
