import TabulaModel.Props.C20Fun
/-!
# C20, further all-input laws of the existing models

* `filepath.Ext` exactly: the extension of EVERY name is a suffix of the name of the shape
  dot + (no dot, no slash), or empty — the converse of `ext_append`; `Ext` and `format.Detect`
  look at the LAST path element only (any directory in front, with dots or without), taking
  the extension twice changes nothing, a trailing slash means no format.
* `detectHTMLMagic` exactly, as a language: the set of accepted byte strings (an iff with the
  three fronts written out), letter-case independence on every byte string, any white lead.
* `DetectFromReader` is a function of the first 512 bytes and of the member list; a white
  lead of 512 bytes or more is never classified.
* the DRM gate is a disjunction over the members / over the entries: appending, the member
  SET decides (duplicates, order), adding a member or an entry never turns a refusal into
  an admission.
* no file is a valid document of two formats.
* the PDF, ZIP and HTML tests exclude each other, so `DetectFromReader` with its tests in the
  opposite order answers the same.
* `format.Detect` on arbitrary bytes asks the last path element and the extension alone.
* font-obfuscation entries and entries that cover no content document are inert.
-/
set_option autoImplicit false
namespace Tabula.C20M
open Tabula.Detect Tabula.Drm Tabula.Admit Tabula.EncXml Tabula.DetectB Tabula.C20 Tabula.C20A Tabula.C20B

/-! ## `filepath.Ext`, every name -/

/-- `ext_forms`: the converse of `ext_append`.  For EVERY name, `filepath.Ext` is either
empty or the name ends in dot + `t` with neither dot nor slash in `t`, and that is the
extension. -/
theorem ext_forms (name : Str) :
    ext name = [] ∨ ∃ stem t, name = stem ++ 46 :: t ∧ (∀ c ∈ t, c ≠ 46 ∧ c ≠ 47) ∧ ext name = 46 :: t := by
  rw [ext_eq]
  split
  · next hd =>
    obtain ⟨r, hr⟩ := List.head?_eq_some_iff.1 hd
    refine Or.inr ⟨r.reverse, _, ?_, fun c hc => extPlain_iff.1 (List.mem_takeWhile_imp (List.mem_reverse.1 hc)), rfl⟩
    have := congrArg List.reverse (List.takeWhile_append_dropWhile (p := extPlain) (l := name.reverse))
    rw [hr] at this
    simpa using this.symm
  · exact Or.inl rfl

/-- `ext_is_suffix`: the extension is a suffix of the name -/
theorem ext_is_suffix (name : Str) : ∃ stem, name = stem ++ ext name := by
  rcases ext_forms name with h | ⟨stem, t, hn, _, he⟩
  · exact ⟨name, by rw [h]; simp⟩
  · exact ⟨stem, by rw [he]; exact hn⟩

/-- `ext_nil_iff`: a name has NO extension exactly when it does not end in dot + bytes
without dot and slash -/
theorem ext_nil_iff (name : Str) :
    ext name = [] ↔ ¬ ∃ stem t, name = stem ++ 46 :: t ∧ ∀ c ∈ t, c ≠ 46 ∧ c ≠ 47 := by
  constructor
  · rintro h ⟨stem, t, hn, ht⟩
    rw [hn, ext_append stem t ht] at h
    cases h
  · intro h
    rcases ext_forms name with h0 | ⟨stem, t, hn, ht, _⟩
    · exact h0
    · exact absurd ⟨stem, t, hn, ht⟩ h

/-- `ext_idempotent`: the extension of an extension is itself -/
theorem ext_idempotent (name : Str) : ext (ext name) = ext name := by
  rcases ext_forms name with h | ⟨_, t, _, ht, he⟩
  · rw [h]; rfl
  · rw [he]; exact ext_append [] t ht

/-- `detect_of_ext`: `format.Detect` of a name is `format.Detect` of its extension alone
(a file called just `.pdf` asks for PDF) -/
theorem detect_of_ext (name : Str) : detect (ext name) = detect name := by
  unfold detect; rw [ext_idempotent]

/-- `detect_dir_independent`: the format a name asks for is that of its last path element:
the same file reached through any directory asks for the same format -/
theorem detect_dir_independent (dir base : Str) (hb : ∀ c ∈ base, c ≠ 47) :
    detect (dir ++ 47 :: base) = detect base := by
  unfold detect; rw [ext_slash]

example : detect ([97, 46, 112, 100, 102, 47] ++ [98, 46, 100, 111, 99, 120]) = .docx := by decide +kernel

/-- `detect_trailing_slash`: a name that ends in a slash asks for no format -/
theorem detect_trailing_slash (name : Str) : detect (name ++ [47]) = .unknown := by
  have := detect_dir_independent name [] (by simp)
  rw [this]; rfl

/-- `open_dir_independent`: `tabula.Open(dir/base).<op>()` ends like `tabula.Open(base).<op>()`
on the same bytes -/
theorem open_dir_independent (dir base : Str) (hne : base ≠ []) (hb : ∀ c ∈ base, c ≠ 47)
    (fs : FileState) (k : TKind) :
    (openAndRun (dir ++ 47 :: base) fs k).out = (openAndRun base fs k).out :=
  open_same_format_same_outcome _ _ (by simp) hne (detect_dir_independent dir base hb) fs k

/-! ## `detectHTMLMagic` as a language -/

/-- `strings.Contains`, exactly -/
theorem hasSub_iff (pat s : Str) : hasSub pat s = true ↔ ∃ a b, s = a ++ (pat ++ b) :=
  hasSub_eq_true_iff

/-- `format.isHTMLDoctype`, exactly: `<!DOCTYPE`, a NON-EMPTY run of HTML white space,
`HTML`, anything — and nothing else -/
theorem isHTMLDoctype_iff (u : Str) :
    isHTMLDoctype u = true ↔ ∃ ws rest, ws ≠ [] ∧ (∀ c ∈ ws, isMagicWS c = true) ∧
      u = sDoctype ++ (ws ++ (sHtmlName ++ rest)) :=
  isHTMLDoctype_eq_true_iff u

/-- the three accepted fronts of `detectHTMLMagic`, on the upper-cased text -/
def htmlFront (u : Str) : Bool :=
  isHTMLDoctype u || sHtmlTag.isPrefixOf u || (sXmlDecl.isPrefixOf u && hasSub sHtmlTag (u.take 500))

/-- `detectHTMLMagic` is the front test on what follows the white lead, upper-cased (the
empty-input branch is not a case of its own) -/
theorem html_magic_eq_front (data : Str) :
    detectHTMLMagic data = htmlFront (upper (data.dropWhile isMagicWS)) :=
  detectHTMLMagic_eq_or data

/-- `html_magic_iff`: the language of `detectHTMLMagic`.  A byte string is HTML for the
sniffer IFF it is HTML white space followed by text whose ASCII upper-casing is
`<!DOCTYPE` + non-empty white space + `HTML` + anything, or `<HTML` + anything, or
`<?XML` + anything with `<HTML` somewhere in its first 500 bytes. -/
theorem html_magic_iff (data : Str) :
    detectHTMLMagic data = true ↔
      ∃ lead d, data = lead ++ d ∧ (∀ c ∈ lead, isMagicWS c = true) ∧
        ((∃ ws rest, ws ≠ [] ∧ (∀ c ∈ ws, isMagicWS c = true) ∧
            upper d = sDoctype ++ (ws ++ (sHtmlName ++ rest))) ∨
         (∃ rest, upper d = sHtmlTag ++ rest) ∨
         (∃ rest a b, upper d = sXmlDecl ++ rest ∧ (upper d).take 500 = a ++ (sHtmlTag ++ b))) := by
  simp only [detectHTMLMagic_iff, htmlTests_iff]

/-- `html_magic_white_lead`: HTML white space in front — of any length, in any mixture —
never changes the answer of `detectHTMLMagic`, accepted or not -/
theorem html_magic_white_lead (ws data : Str) (hws : ∀ c ∈ ws, isMagicWS c = true) :
    detectHTMLMagic (ws ++ data) = detectHTMLMagic data := by
  rw [html_magic_eq_front, html_magic_eq_front, List.dropWhile_append_of_pos hws]

example : ∀ c ∈ [32, 9, 10, 12, 13], isMagicWS c = true := by decide +kernel

theorem isMagicWS_upperB (c : Nat) : isMagicWS (upperB c) = isMagicWS c := by
  unfold upperB
  split
  · next h => rw [isMagicWS_of_gt (by omega), isMagicWS_of_gt (by omega)]
  · rfl

theorem upper_dropWhile (s : Str) : upper (s.dropWhile isMagicWS) = (upper s).dropWhile isMagicWS := by
  unfold upper
  rw [List.dropWhile_map, show isMagicWS ∘ upperB = isMagicWS from funext isMagicWS_upperB]

/-- `html_magic_case_independent`: on EVERY two byte strings that differ in ASCII letter
case only, `detectHTMLMagic` (ASCII model) answers the same — not only on the accepted ones -/
theorem html_magic_case_independent (a b : Str) (h : upper a = upper b) :
    detectHTMLMagic a = detectHTMLMagic b := by
  rw [html_magic_eq_front, html_magic_eq_front, upper_dropWhile, upper_dropWhile, h]

example : upper [60, 104, 84, 109, 108] = upper [60, 72, 116, 77, 76] := by decide +kernel

/-! ## `DetectFromReader`: the 512-byte window -/

/-- `detect_reader_window`: two files with the same first 512 bytes and the same member
list are classified alike, whatever follows -/
theorem detect_reader_window (file file2 : Str) (zip : Option (List Member))
    (h : file.take 512 = file2.take 512) : detectFromReader file zip = detectFromReader file2 zip := by
  unfold detectFromReader
  simp only [h]

example : ([37, 80, 68, 70] ++ [1]).take 512 = ([37, 80, 68, 70] ++ [1] ++ []).take 512 := by decide +kernel

/-- `detect_reader_tail_inert`: bytes behind the first 512 are never looked at -/
theorem detect_reader_tail_inert (head tail : Str) (zip : Option (List Member)) (hlen : 512 ≤ head.length) :
    detectFromReader (head ++ tail) zip = detectFromReader head zip :=
  detect_reader_window _ _ zip (by rw [List.take_append_of_le_length hlen])

/-- `detect_reader_long_white_lead_unclassified`: a document behind 512 or more bytes of
HTML white space is not classified (and therefore admitted by extension alone) — the
window of `DetectFromReader` ends before its first byte -/
theorem detect_reader_long_white_lead_unclassified (ws rest : Str) (zip : Option (List Member))
    (hws : ∀ c ∈ ws, isMagicWS c = true) (hlen : 512 ≤ ws.length) :
    detectFromReader (ws ++ rest) zip = some .unknown := by
  rw [detect_reader_tail_inert ws rest zip hlen]
  cases ws with
  | nil => simp at hlen
  | cons w t =>
    have hw := isMagicWS_ne w (hws w (by simp))
    have hall : ∀ c ∈ (w :: t).take 512, isMagicWS c = true := fun c hc => hws c (List.mem_of_mem_take hc)
    have h1 : sPdfMagic.isPrefixOf ((w :: t).take 512) = false :=
      isPrefixOf_head_ne _ _ _ _ (fun h => hw.2.1 h.symm)
    have h2 : sZipMagic.isPrefixOf ((w :: t).take 512) = false :=
      isPrefixOf_head_ne _ _ _ _ (fun h => hw.2.2 h.symm)
    have h3 : detectHTMLMagic ((w :: t).take 512) = false := by
      rw [html_magic_eq_front, List.dropWhile_eq_nil hall]; decide
    unfold detectFromReader
    simp only [h1, h2, h3, Bool.false_eq_true, if_false]

example : ∀ c ∈ List.replicate 512 32, isMagicWS c = true := by
  intro c hc; rw [List.eq_of_mem_replicate hc]; decide

/-! ## the DRM gate is a disjunction -/

/-- `drm_append`: the gate over two runs of members is the disjunction of the gates -/
theorem drm_append (a b : List DMember) : checkForDRM (a ++ b) = (checkForDRM a || checkForDRM b) := by
  simp only [checkForDRM_eq_any, List.any_append]

/-- `enc_entries_append`: so is the loop over the entries of one encryption file -/
theorem enc_entries_append (a b : List Entry) :
    hasEncryptedContent (a ++ b) = (hasEncryptedContent a || hasEncryptedContent b) := by
  simp only [hasEncryptedContent_eq_any, List.any_append]

/-- `drm_member_set_decides`: the decision depends on the SET of classified members only —
order, repetitions and multiplicities are irrelevant (stronger than permutation invariance) -/
theorem drm_member_set_decides (ms ms2 : List DMember) (h : ∀ m, m ∈ ms ↔ m ∈ ms2) :
    checkForDRM ms = checkForDRM ms2 := by
  rw [checkForDRM_eq_any, checkForDRM_eq_any, Bool.eq_iff_iff, List.any_eq_true, List.any_eq_true]
  exact ⟨fun ⟨m, hm, hb⟩ => ⟨m, (h m).1 hm, hb⟩, fun ⟨m, hm, hb⟩ => ⟨m, (h m).2 hm, hb⟩⟩

example : ∀ m, m ∈ [DMember.rights, .other] ↔ m ∈ [DMember.other, .rights, .rights] := by
  intro m; simp [or_comm]

/-- `drm_monotone`: adding archive members — anywhere — never turns a refusal into an
admission -/
theorem drm_monotone (ms ms2 : List DMember) (hsub : ∀ m ∈ ms, m ∈ ms2) (h : checkForDRM ms = true) :
    checkForDRM ms2 = true := by
  rw [checkForDRM_eq_any, List.any_eq_true] at h ⊢
  obtain ⟨m, hm, hb⟩ := h
  exact ⟨m, hsub m hm, hb⟩

example : ∀ m ∈ [DMember.rights], m ∈ [DMember.other, .rights] := by simp

/-- `enc_entries_monotone`: adding entries to an encryption file never turns a refusal into
an admission (there is no entry that "unlocks" another) -/
theorem enc_entries_monotone (es es2 : List Entry) (hsub : ∀ e ∈ es, e ∈ es2)
    (h : hasEncryptedContent es = true) : hasEncryptedContent es2 = true := by
  rw [hasEncryptedContent_eq_any, List.any_eq_true] at h ⊢
  obtain ⟨e, he, hb⟩ := h
  exact ⟨e, hsub e he, hb⟩

example : hasEncryptedContent [⟨[1], [97, 46, 120, 109, 108]⟩] = true := by decide +kernel

/-- `drm_entries_monotone_in_archive`: the same inside an archive: enlarging the entry list
of one encryption member keeps a refused EPUB refused -/
theorem drm_entries_monotone_in_archive (es es2 : List Entry) (hsub : ∀ e ∈ es, e ∈ es2) (a b : List DMember)
    (h : checkForDRM (a ++ .encryption (some es) :: b) = true) :
    checkForDRM (a ++ .encryption (some es2) :: b) = true := by
  simp only [checkForDRM_eq_any, List.any_append, List.any_cons, memberBad, Bool.or_eq_true] at h ⊢
  rcases h with h | h | h
  · exact Or.inl h
  · exact Or.inr (Or.inl (enc_entries_monotone es es2 hsub h))
  · exact Or.inr (Or.inr h)

/-! ## one format per file -/

/-- `valid_document_one_format`: no (head, archive) is a valid document of two formats -/
theorem valid_document_one_format {f g : Format} {head : Str} {zip : Option (List AMember)}
    (hf : ValidDoc f head zip) (hg : ValidDoc g head zip) : f = g := by
  have h1 := valid_document_recognised hf
  have h2 := valid_document_recognised hg
  rw [h1] at h2
  exact Option.some.inj h2

example : ValidDoc .pdf (sPdfMagic ++ []) none := ValidDoc.pdf [] none

/-! ## the three magic tests exclude each other: their order is immaterial -/

/-- what `detectHTMLMagic` accepts starts neither like a PDF nor like a ZIP archive -/
theorem html_magic_excludes_pdf_zip (data : Str) (h : detectHTMLMagic data = true) :
    sPdfMagic.isPrefixOf data = false ∧ sZipMagic.isPrefixOf data = false := by
  obtain ⟨lead, t, rfl, hl⟩ := detectHTMLMagic_lt h
  exact not_pdf_zip_prefix_lt lead t hl

/-- a file that starts `%PDF` does not start with a ZIP local header -/
theorem pdf_magic_excludes_zip (data : Str) (h : sPdfMagic.isPrefixOf data = true) :
    sZipMagic.isPrefixOf data = false := by
  cases data with
  | nil => simp [sPdfMagic] at h
  | cons c t =>
    simp only [sPdfMagic, List.isPrefixOf, Bool.and_eq_true, beq_iff_eq] at h
    exact isPrefixOf_head_ne _ _ _ _ (by rw [← h.1]; decide)

/-- `DetectFromReader` with its three tests in the opposite order: HTML first, PDF last -/
def detectFromReaderHtmlFirst (file : Str) (zip : Option (List Member)) : Option Format :=
  let magic := file.take 512
  if detectHTMLMagic magic then some .html
  else if sZipMagic.isPrefixOf magic then zip.map detectZip
  else if sPdfMagic.isPrefixOf magic then some .pdf
  else some .unknown

/-- `detect_reader_test_order_immaterial`: because the three magic tests exclude each other
on every byte string, `DetectFromReader` answers the same with its tests in the opposite order
(HTML, ZIP, PDF): no polyglot head is PDF for the one order and HTML or ZIP for the other -/
theorem detect_reader_test_order_immaterial (file : Str) (zip : Option (List Member)) :
    detectFromReader file zip = detectFromReaderHtmlFirst file zip := by
  unfold detectFromReader detectFromReaderHtmlFirst
  generalize file.take 512 = m
  by_cases hh : detectHTMLMagic m = true
  · obtain ⟨hp, hz⟩ := html_magic_excludes_pdf_zip m hh
    simp [hh, hp, hz]
  · by_cases hp : sPdfMagic.isPrefixOf m = true
    · have hz := pdf_magic_excludes_zip m hp
      simp [hh, hp, hz]
    · cases zip <;> simp [hh, hp]

/-! ## on the bytes -/

/-- `detect_bytes_dir_independent`: `format.Detect` on arbitrary bytes (real `strings.ToLower`,
any case tables with `LowerOK`) asks the last path element only -/
theorem detect_bytes_dir_independent (lo : CaseTable) (h : LowerOK lo) (dir base : Str)
    (hb : ∀ c ∈ base, c ≠ 47) : detectB lo (dir ++ 47 :: base) = detectB lo base := by
  -- both sides look the same extension up
  unfold detectB; rw [ext_slash]

/-- `detect_bytes_of_ext`: … and the extension alone -/
theorem detect_bytes_of_ext (lo : CaseTable) (h : LowerOK lo) (name : Str) :
    detectB lo (ext name) = detectB lo name := by
  unfold detectB; rw [ext_idempotent]

/-! ## font-obfuscation entries are inert -/

/-- `drm_obfuscation_entries_inert`: striking every font-obfuscation entry out of an
encryption file — wherever they stand, whatever they cover — never changes the decision -/
theorem drm_obfuscation_entries_inert (es : List Entry) :
    hasEncryptedContent (es.filter fun e => !isFontObfuscation e.algorithm) = hasEncryptedContent es := by
  rw [hasEncryptedContent_eq_any, hasEncryptedContent_eq_any, List.any_filter]
  exact congrArg es.any (funext fun e => by unfold entryBad; cases isFontObfuscation e.algorithm <;> simp)

/-- `drm_non_content_entries_inert`: the same for the entries that cover no content document
(fonts, images, …), whatever their algorithm -/
theorem drm_non_content_entries_inert (es : List Entry) :
    hasEncryptedContent (es.filter fun e => isContentFile e.uri) = hasEncryptedContent es := by
  rw [hasEncryptedContent_eq_any, hasEncryptedContent_eq_any, List.any_filter]
  exact congrArg es.any (funext fun e => by unfold entryBad; cases isContentFile e.uri <;> simp)

end Tabula.C20M
