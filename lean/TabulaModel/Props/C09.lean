import TabulaModel.Lemmas.LayoutKeeps
import TabulaModel.Lemmas.LayoutColumns
import TabulaModel.Lemmas.LayoutTree
import TabulaModel.Lemmas.LayoutBound
/-!
# C09 — layout analysis never loses, invents or duplicates text

Theorems about `Model/Layout.lean`. Every theorem is for ALL fragment lists (any length, any
rational coordinates, any texts) and for ALL outcomes of the classification heuristics, which
are parameters: the gap list, the line tolerance `tol`, `preserve` (shouldPreserveStreamOrder),
`isSpan`/`keep` (spanning decisions), `brk` (paragraph and block break decisions), `ov`
(block overlap decision), the white space `sep`/`pad` written between fragments.

"Exactly once" is stated with `List.Perm` (the groups, concatenated, are a permutation of the
input) and, equivalently, with `List.count`. Conservation of text is stated on `nonspace`, the
non-white-space characters.

`element_tree_once` is proved at full strength for the tree after the repair 8ee0e52 (coverage
decided by fragment identity; see known_findings.txt). The tree before it suppressed paragraphs
by box overlap (`elementTreeOld`): `element_tree_old_once_partial` / `_old_once_iff` say when it
conserved, the two `_pinned_counterexample` theorems show the recorded loss and repetition.
-/
namespace Tabula.C09
open Tabula.Layout List

/-! ## dedupe_only_duplicates -/

/-- `deduplicateFragments` removes a fragment exactly when a fragment with the same text at the
same rounded position precedes it: appending `f` to any list appends `f` to the result unless
its key already occurs. -/
theorem dedupe_only_duplicates (pre : List Frag) (f : Frag) :
    dedupe (pre ++ [f]) = dedupe pre ++ (if keyOf f ∈ pre.map keyOf then [] else [f]) := by
  have := dedupeAux_snoc [] pre f
  simpa [dedupe] using this

/-- nothing is invented or reordered -/
theorem dedupe_sublist (fs : List Frag) : (dedupe fs).Sublist fs := dedupeAux_sublist [] fs

theorem dedupeAux_covers (seen : List Key) (fs : List Frag) (f : Frag) (hf : f ∈ fs) :
    keyOf f ∈ seen ∨ ∃ g ∈ dedupeAux seen fs, keyOf g = keyOf f := by
  fun_induction dedupeAux seen fs with
  | case1 => cases hf
  | case2 seen a fs hc ih =>
    rcases List.mem_cons.mp hf with rfl | h
    · exact Or.inl (List.contains_iff_mem.mp hc)
    · exact ih h
  | case3 seen a fs hc ih =>
    rcases List.mem_cons.mp hf with rfl | h
    · exact Or.inr ⟨f, List.mem_cons_self, rfl⟩
    · rcases ih h with h' | ⟨g, hg, hk⟩
      · rcases List.mem_cons.mp h' with h'' | h''
        · exact Or.inr ⟨a, List.mem_cons_self, h''.symm⟩
        · exact Or.inl h''
      · exact Or.inr ⟨g, List.mem_cons_of_mem _ hg, hk⟩

/-- every removed fragment has a kept twin: same text, same rounded position -/
theorem dedupe_keeps_a_twin (fs : List Frag) (f : Frag) (hf : f ∈ fs) :
    ∃ g ∈ dedupe fs, keyOf g = keyOf f := by
  rcases dedupeAux_covers [] fs f hf with h | h
  · simp at h
  · exact h

example : dedupe [⟨0, 10, 20, 5, 10, 10, [97]⟩, ⟨1, 10, 20, 5, 10, 10, [97]⟩, ⟨2, 12, 20, 5, 10, 10, [97]⟩]
    = [⟨0, 10, 20, 5, 10, 10, [97]⟩, ⟨2, 12, 20, 5, 10, 10, [97]⟩] := by decide +kernel

/-! ## lines_partition, buildLines_keeps -/

/-- `groupIntoLines`: the lines, concatenated, are a permutation of the input — for every
tolerance and every stream-order decision. -/
theorem lines_partition (tol : Rat) (preserve : List Frag → Bool) (fs : List Frag) :
    (groupIntoLines tol preserve fs).flatten.Perm fs :=
  groupIntoLines_perm tol preserve fs

/-- every fragment occurs in the lines exactly as often as in the input (once, for distinct ids) -/
theorem lines_count (tol : Rat) (preserve : List Frag → Bool) (fs : List Frag) (f : Frag) :
    ((groupIntoLines tol preserve fs).map (List.count f)).sum = fs.count f := by
  rw [← List.count_flatten]
  exact (lines_partition tol preserve fs).count_eq f

/-- no line is empty -/
theorem lines_nonempty (tol : Rat) (preserve : List Frag → Bool) (fs : List Frag) :
    ∀ l ∈ groupIntoLines tol preserve fs, l ≠ [] := by
  intro l hl
  unfold groupIntoLines at hl
  rcases List.mem_map.mp hl with ⟨g, hg, rfl⟩
  -- a rearranged group is empty only if the group was
  exact fun h => segment_nonempty (lineBreak tol) _ [] g hg (h ▸ orderLine_perm preserve g).symm.eq_nil

/-- `buildLines` (after fix 0432d47) only drops groups without visible text: it is a sublist, a
group whose text is visible is kept, and the non-space characters are unchanged. -/
theorem buildLines_keeps (minW : Rat) (groups : List (List Frag)) :
    (buildLines minW groups).Sublist groups ∧
    (∀ g ∈ groups, visible (lineText g) = true → g ∈ buildLines minW groups) ∧
    nonspace (textsOf (buildLines minW groups).flatten) = nonspace (textsOf groups.flatten) := by
  refine ⟨List.filter_sublist, ?_, buildLines_nonspace minW groups⟩
  intro g hg hv
  unfold buildLines
  refine List.mem_filter.mpr ⟨hg, ?_⟩
  unfold keepLine
  cases g with
  | nil => simp [lineText, visible] at hv
  | cons a g => simp [hv]

/-- before the fix the property failed: a line of one narrow glyph disappeared -/
theorem buildLines_old_counterexample :
    nonspace (textsOf (buildLinesOld 5 [[⟨0, 228, 30, 4, 8, 8, [72]⟩]]).flatten) ≠
      nonspace (textsOf [[⟨0, 228, 30, 4, 8, 8, [72]⟩]].flatten) := by decide +kernel

/-- the whole line detector conserves the non-space characters -/
theorem detectLines_conserves (tol minW : Rat) (preserve : List Frag → Bool) (fs : List Frag) :
    (nonspace (textsOf (detectLines tol minW preserve fs).flatten)).Perm (nonspace (textsOf fs)) :=
  (detectLines_keeps tol minW preserve fs).nonspace

/-! ## columns_partition -/

/-- `ColumnDetector.Detect` (after fixes 740a6d9 and 395abf8): for every gap list, every
spanning decision and every fragment list, the columns and the spanning group together are a
permutation of the input. -/
theorem columns_partition (gaps : List Gap) (minCW : Rat) (isSpan keep : List Frag → List Frag → Bool)
    (fs : List Frag) :
    ((detectColumns gaps minCW isSpan keep fs).columns.flatten ++
      (detectColumns gaps minCW isSpan keep fs).spanning).Perm fs :=
  detectColumns_perm gaps minCW isSpan keep fs

/-- each fragment is in exactly one column or in the spanning group -/
theorem columns_count (gaps : List Gap) (minCW : Rat) (isSpan keep : List Frag → List Frag → Bool)
    (fs : List Frag) (f : Frag) :
    ((detectColumns gaps minCW isSpan keep fs).columns.map (List.count f)).sum +
      (detectColumns gaps minCW isSpan keep fs).spanning.count f = fs.count f := by
  rw [← List.count_flatten, ← List.count_append]
  exact (columns_partition gaps minCW isSpan keep fs).count_eq f

/-- the parts, separately: assignment to the column intervals, validation, spanning separation -/
theorem createColumns_partition (gaps : List Gap) (fs : List Frag) :
    (createColumns gaps fs).flatten.Perm fs := createColumns_perm gaps fs

theorem validateColumns_partition (minCW : Rat) (cols : List (List Frag)) :
    (validateColumns minCW cols).flatten.Perm cols.flatten := validateColumns_perm minCW cols

theorem separate_partition (isSpan keep : List Frag → List Frag → Bool) (fs : List Frag) :
    ((separate isSpan keep fs).1 ++ (separate isSpan keep fs).2).Perm fs := separate_perm isSpan keep fs

/-- before fix 395abf8: the one word that sticks out past the right edge forms a column
narrower than 50 pt and is dropped with its text -/
theorem columns_drop_counterexample :
    ¬ (validateColumnsOld 50 (createColumns [⟨300, 330⟩]
        [⟨0, 72, 700, 200, 10, 10, [97]⟩, ⟨1, 340, 700, 15, 10, 10, [98]⟩])).flatten.Perm
      [⟨0, 72, 700, 200, 10, 10, [97]⟩, ⟨1, 340, 700, 15, 10, 10, [98]⟩] := by
  intro h
  have := h.length_eq
  revert this
  decide +kernel

/-- before fix 740a6d9: a zero-width fragment at the right edge of the content is assigned to
no column -/
theorem columns_edge_counterexample :
    ¬ (createColumnsOld [⟨300, 330⟩]
        [⟨0, 72, 700, 200, 10, 10, [97]⟩, ⟨1, 340, 700, 100, 10, 10, [98]⟩, ⟨2, 440, 700, 0, 10, 10, [99]⟩]).flatten.Perm
      [⟨0, 72, 700, 200, 10, 10, [97]⟩, ⟨1, 340, 700, 100, 10, 10, [98]⟩, ⟨2, 440, 700, 0, 10, 10, [99]⟩] := by
  intro h
  have := h.length_eq
  revert this
  decide +kernel

/-! ## paragraphs_segment -/

/-- `groupIntoParagraphs` (and every sweep of this shape): for every sequence of break
decisions the groups are consecutive pieces of the line list, in order, none empty. -/
theorem paragraphs_segment {α : Type} (brk : List α → α → List α → Bool) (lines : List α) :
    (segment brk lines []).flatten = lines ∧ ∀ p ∈ segment brk lines [], p ≠ [] :=
  ⟨by simpa using segment_flatten brk lines [], segment_nonempty brk lines []⟩

/-! ## blocks_partition, merge_blocks_union -/

/-- `mergeOverlappingBlocks`: for every overlap decision the fragments (and the lines) of the
merged blocks are a permutation of those of the input blocks. -/
theorem merge_blocks_union (ov : Block → Block → Bool) (bs : List Block) :
    (blocksFrags (mergeAll ov bs)).Perm (blocksFrags bs) ∧
    (blocksLines (mergeAll ov bs)).Perm (blocksLines bs) :=
  ⟨mergeAll_perm (·.frags) mergeBlocks_frags ov bs, mergeAll_perm (·.lines) mergeBlocks_lines ov bs⟩

/-- grouping lines into blocks and merging: every fragment of every line is in exactly one
block, both in `Block.Fragments` and in `Block.Lines`. -/
theorem blocks_partition (brk : List (List Frag) → List Frag → List (List Frag) → Bool)
    (ov : Block → Block → Bool) (lines : List (List Frag)) :
    (blocksFrags (mergeAll ov (groupBlocks brk lines))).Perm lines.flatten ∧
    (blocksLines (mergeAll ov (groupBlocks brk lines))).Perm lines := by
  have h := merge_blocks_union ov (groupBlocks brk lines)
  rw [groupBlocks_frags, groupBlocks_lines] at h
  exact h

/-- `validateBlocks` (after fix 8996d0b) drops only blocks without visible text, so the whole
block detector conserves the non-space characters. -/
theorem blocks_conserve (brk : List (List Frag) → List Frag → List (List Frag) → Bool)
    (ov : Block → Block → Bool) (minW minH : Rat) (lines : List (List Frag)) :
    (nonspace (textsOf (blocksFrags (detectBlocks brk ov minW minH lines)))).Perm
      (nonspace (textsOf lines.flatten)) :=
  (detectBlocks_keeps brk ov minW minH lines).nonspace

/-! ## element_tree_once -/

def idsOf (es : List Elem) : List Nat := es.flatMap (·.ids)

/-- `element_tree_once` (full statement, after the repair 8ee0e52): whenever the headings and
lists the tree emits show fragments of the paragraphs (as multisets of ids: no id more often than
the paragraphs do), the tree shows every fragment of the paragraphs exactly once - the fragment
ids of the tree are a permutation of those of the paragraphs. For every box of a remainder. -/
theorem element_tree_once (rbox : Elem → List Nat → Box) (hs ls ps : List Elem)
    (h : ∀ i, (idsOf (shownHeadings hs ls)).count i + (idsOf ls).count i ≤ (idsOf ps).count i) :
    (idsOf (elementTree rbox hs ls ps)).Perm (idsOf ps) := by
  rw [List.perm_iff_count]
  intro i
  have h1 := count_elementTree rbox hs ls ps i
  have h2 := h i
  unfold idsOf at *
  omega

example : ∀ i, (idsOf (shownHeadings [⟨⟨72, 700, 100, 12⟩, [0]⟩] [])).count i + (idsOf []).count i ≤
    (idsOf [⟨⟨72, 688, 100, 24⟩, [0, 1]⟩]).count i := by
  intro i
  by_cases h0 : i = 0
  · subst h0; decide
  · simp [idsOf, shownHeadings, List.count_cons, List.count_nil, Ne.symm h0]

/-- with NO hypothesis: the repaired tree never loses a fragment of a paragraph -/
theorem element_tree_never_loses (rbox : Elem → List Nat → Box) (hs ls ps : List Elem) (i : Nat) :
    (idsOf ps).count i ≤ (idsOf (elementTree rbox hs ls ps)).count i := by
  have h1 := count_elementTree rbox hs ls ps i
  unfold idsOf
  omega

/-- the balance of the old element tree: the elements together with the suppressed paragraphs
show what the headings, the lists and all paragraphs show. Whatever was lost is in a suppressed
paragraph and in no heading/list; whatever was repeated is in a heading/list and in a paragraph
that was not suppressed. -/
theorem element_tree_old_balance (ov : Box → Box → Bool) (hs ls ps : List Elem) :
    (idsOf (elementTreeOld ov hs ls ps) ++ idsOf (ps.filter (consumed ov hs ls))).Perm
      (idsOf (hs ++ ls) ++ idsOf ps) := by
  unfold elementTreeOld idsOf
  rw [List.flatMap_append, List.append_assoc]
  refine List.Perm.append_left _ ?_
  have h2 : ((ps.filter (consumed ov hs ls)) ++ ps.filter (fun p => !consumed ov hs ls p)).Perm ps :=
    List.filter_append_perm _ ps
  have h3 := h2.flatMap_right (·.ids)
  rw [List.flatMap_append] at h3
  exact List.perm_append_comm.trans h3

/-- the tree BEFORE the repair (recorded findings C09/elements-lost-paragraph-covered-by-heading-or-list
and C09/elements-duplicated-heading-or-list-also-in-paragraph, fixed by 8ee0e52) conserved
under the condition that the suppressed paragraphs show exactly the fragments of the headings
and lists (and only under it: `element_tree_old_once_iff`). -/
theorem element_tree_old_once_partial (ov : Box → Box → Bool) (hs ls ps : List Elem)
    (h : (idsOf (hs ++ ls)).Perm (idsOf (ps.filter (consumed ov hs ls)))) :
    (idsOf (elementTreeOld ov hs ls ps)).Perm (idsOf ps) :=
  (List.perm_append_right_iff _).mp
    ((element_tree_old_balance ov hs ls ps).trans ((h.append_right _).trans List.perm_append_comm))

example : (idsOf [⟨⟨0, 0, 10, 10⟩, [0]⟩]).Perm
    (idsOf ([⟨⟨0, 0, 10, 10⟩, [0]⟩, ⟨⟨0, 50, 10, 10⟩, [1]⟩].filter (consumed bboxOverlaps [⟨⟨0, 0, 10, 10⟩, [0]⟩] []))) := by
  decide +kernel

/-- loss BEFORE the repair: a heading detected on the whole-page line "A" overlaps the column
paragraph "A B" (box of the paragraph 2 lines high, the heading covers more than half of the
smaller box): the paragraph is suppressed and fragment 1 is in no element. -/
theorem element_tree_loss_pinned_counterexample :
    ¬ (idsOf (elementTreeOld bboxOverlaps [⟨⟨72, 700, 100, 12⟩, [0]⟩] [] [⟨⟨72, 688, 100, 24⟩, [0, 1]⟩])).Perm
      (idsOf [⟨⟨72, 688, 100, 24⟩, [0, 1]⟩]) := by
  intro h
  have := h.length_eq
  revert this
  decide +kernel

/-- repetition BEFORE the repair: the same heading in the second column, where the paragraph box
is column-relative (x = 0) while the heading box is absolute (x = 320): no overlap, the fragment
is emitted as heading and as paragraph. -/
theorem element_tree_dup_pinned_counterexample :
    ¬ (idsOf (elementTreeOld bboxOverlaps [⟨⟨320, 700, 100, 12⟩, [0]⟩] [] [⟨⟨0, 700, 100, 12⟩, [0]⟩])).Perm
      (idsOf [⟨⟨0, 700, 100, 12⟩, [0]⟩]) := by
  intro h
  have := h.length_eq
  revert this
  decide +kernel

/-- the same two witnesses on the repaired tree: heading [0] and the remainder [1] of the
paragraph; heading [0] and nothing of the paragraph -/
example (rbox : Elem → List Nat → Box) :
    idsOf (elementTree rbox [⟨⟨72, 700, 100, 12⟩, [0]⟩] [] [⟨⟨72, 688, 100, 24⟩, [0, 1]⟩]) = [0, 1] ∧
    idsOf (elementTree rbox [⟨⟨320, 700, 100, 12⟩, [0]⟩] [] [⟨⟨0, 700, 100, 12⟩, [0]⟩]) = [0] := by
  constructor <;> rfl

/-! ## element_tree: the tree before the repair, for ALL inputs (history)

Two statements that are true for every overlap decision, every heading/list/paragraph list, and
say exactly how far the old tree was from conserving: -/

/-- `element_tree_old_once_partial` is sharp: the old tree conserved the fragment ids IF AND ONLY
IF the headings and lists showed exactly the fragments of the suppressed paragraphs. -/
theorem element_tree_old_once_iff (ov : Box → Box → Bool) (hs ls ps : List Elem) :
    (idsOf (elementTreeOld ov hs ls ps)).Perm (idsOf ps) ↔
      (idsOf (hs ++ ls)).Perm (idsOf (ps.filter (consumed ov hs ls))) := by
  constructor
  · intro h
    have hb := element_tree_old_balance ov hs ls ps
    have h1 : (idsOf ps ++ idsOf (ps.filter (consumed ov hs ls))).Perm (idsOf (hs ++ ls) ++ idsOf ps) :=
      (h.symm.append_right _).trans hb
    have h2 : (idsOf (ps.filter (consumed ov hs ls)) ++ idsOf ps).Perm (idsOf (hs ++ ls) ++ idsOf ps) :=
      List.perm_append_comm.trans h1
    exact ((List.perm_append_right_iff _).mp h2).symm
  · exact element_tree_old_once_partial ov hs ls ps

/-- without headings and lists the tree is the paragraph list (as before the repair) -/
theorem element_tree_no_headings (rbox : Elem → List Nat → Box) (ps : List Elem) :
    elementTree rbox [] [] ps = ps := by
  unfold elementTree shownHeadings
  simp only [List.filter_nil, List.flatMap_nil, List.append_nil, List.nil_append]
  exact remainingPars_nil rbox ps

/-! ## assemble_conserves -/

/-- `assembleText`: the output has exactly the non-space characters of the fragments -/
theorem assemble_conserves (fs : List Frag) :
    (nonspace (assembleText fs)).Perm (nonspace (textsOf fs)) := by
  rw [nonspace_assembleText]
  exact textsOf_perm (stableSort_perm _ _)

/-- `extractPreserveLayout`, whatever padding it writes. Unchanged by the C02 repair daef69b
(which clamps the padding: still white space) and kept verbatim: it covers every amount of
padding, the clamped one included. -/
theorem assemble_conserves_preserveLayout (pad : List Frag → Frag → Nat × Nat) (fs : List Frag) :
    (nonspace (preserveLayout pad fs)).Perm (nonspace (textsOf fs)) := by
  unfold preserveLayout
  rw [nonspace_plEmit]
  exact textsOf_perm (stableSort_perm _ _)

/-- `extractPreserveLayout` as the code has it after daef69b (`preserveLayoutGo`: the lines, the
column counter, at most 100 newlines per vertical gap, target column at most 200), for every
character width and fall-back line height: still exactly the non-space characters of the
fragments. The clamps of daef69b truncate PADDING only, never text: no hypothesis on the
coordinates is needed (how much padding: `Props/C09Bound.lean`). -/
theorem assemble_conserves_preserveLayoutGo (cw lh0 : Rat) (fs : List Frag) :
    (nonspace (preserveLayoutGo cw lh0 fs)).Perm (nonspace (textsOf fs)) := by
  rw [nonspace_preserveLayoutGo]
  exact textsOf_perm (stableSort_perm _ _)

/-- `extractByColumn` on the line texts of the sections, whatever (white) separators it writes -/
theorem assemble_conserves_byColumn (sep : Nat → Nat → Str) (hsep : ∀ i j, nonspace (sep i j) = [])
    (sections : List (List Str)) :
    nonspace (byColumnText sep sections) = nonspace (sections.map List.flatten).flatten := by
  unfold byColumnText
  rw [nonspace_byColumnAux sep hsep]
  rfl

example : ∀ i j : Nat, nonspace ((fun _ j => if j % 2 = 0 then [10] else [10, 10]) i j) = [] := by
  intro i j; simp only; split <;> rfl

/-- `extractWithParagraphs` on the line texts of the paragraphs -/
theorem assemble_conserves_joinParagraphs (paras : List (List Str)) :
    nonspace (joinParagraphsText paras) = nonspace (paras.map List.flatten).flatten :=
  nonspace_joinParagraphsAux 0 paras

/-! ## pipeline_conserves -/

/-- `buildSections`: the spanning group (if any) and the non-empty columns -/
def sectionsOf (cl : ColumnLayout) : List (List Frag) :=
  (if cl.spanning.isEmpty then [] else [cl.spanning]) ++ cl.columns.filter (fun c => !c.isEmpty)

/-- `Open(f).ByColumn().Text()` for one page: deduplicate, detect columns, build and order
the sections (`order`: orderSections, any permutation), detect the lines of each section and
reorder them (`reorder`: reorderLinesByY, any permutation), write the line texts. -/
def byColumnPipeline (gaps : List Gap) (minCW minW : Rat) (isSpan keep : List Frag → List Frag → Bool)
    (tolOf : List Frag → Rat) (preserve : List Frag → Bool)
    (order reorder : List (List Frag) → List (List Frag)) (sep : Nat → Nat → Str) (raw : List Frag) : Str :=
  let secs := order (sectionsOf (detectColumns gaps minCW isSpan keep (dedupe raw)))
  byColumnText sep (secs.map fun s => (reorder (detectLines (tolOf s) minW preserve s)).map lineText)

theorem sectionsOf_flatten (cl : ColumnLayout) : (sectionsOf cl).flatten.Perm cl.all := by
  unfold sectionsOf ColumnLayout.all
  rw [List.flatten_append]
  rw [flatten_ite_isEmpty, List.flatten_filter_not_isEmpty]
  exact List.perm_append_comm

/-- composition: for every outcome of every heuristic, the ByColumn text of a page has exactly
the non-space characters of its deduplicated fragments. -/
theorem pipeline_conserves (gaps : List Gap) (minCW minW : Rat) (isSpan keep : List Frag → List Frag → Bool)
    (tolOf : List Frag → Rat) (preserve : List Frag → Bool)
    (order reorder : List (List Frag) → List (List Frag))
    (horder : ∀ l, (order l).Perm l) (hreorder : ∀ l, (reorder l).Perm l)
    (sep : Nat → Nat → Str) (hsep : ∀ i j, nonspace (sep i j) = []) (raw : List Frag) :
    (nonspace (byColumnPipeline gaps minCW minW isSpan keep tolOf preserve order reorder sep raw)).Perm
      (nonspace (textsOf (dedupe raw))) := by
  unfold byColumnPipeline
  simp only
  rw [assemble_conserves_byColumn sep hsep, List.map_map, Function.comp_def,
    nonspace_pieces _ (fun s => (reorder (detectLines (tolOf s) minW preserve s)).flatten)
      fun s => (lineTexts_nonspace' _).symm]
  -- section by section the detected lines keep the fragments; the sections together are the deduplicated page
  refine ((Keeps.flatMap _ id _ fun s _ =>
    (detectLines_keeps (tolOf s) minW preserve s).of_perm_left (hreorder _).flatten).perm ?_).nonspace
  rw [List.flatMap_id]
  exact ((horder _).flatten.trans (sectionsOf_flatten _)).trans (detectColumns_perm _ _ _ _ _)

example : ∀ l : List (List Frag), (List.reverse l).Perm l := fun l => List.reverse_perm l

/-- the plain `Text()` path (`assembleText`) composed with deduplication -/
theorem pipeline_conserves_text (raw : List Frag) :
    (nonspace (assembleText (dedupe raw))).Perm (nonspace (textsOf (dedupe raw))) :=
  assemble_conserves (dedupe raw)

end Tabula.C09
