import TabulaModel.Props.C04Bytes
import TabulaModel.Lemmas.XrefCacheRefine
import TabulaModel.Lemmas.XrefResolveGen
/-!
# C04 — the public API on the bytes of ANY file, with every cache the reader and the resolver
# package keep: the answer of a call never depends on the calls before it

`Model/XrefCached.lean` is `Reader.GetObject` as the code has it - `objCache` with `objNeed`,
`objStmCache` with `stmNeed` and the wrappers' own lazy state, `loading`, `reach`, `nestCached`,
`ClearCache` - on every byte string; `Model/XrefResolve.lean` puts `Resolve`, `ResolveDeep` and the
resolver package's entry points (one long-lived `ObjectResolver` with its `visited`, `done`,
`need`, `reach`, `currentDepth`) on top. `Props/C04Bytes.lean` speaks of the cache-free lookup
(`XrefFile.getObjectB`); here the cached implementation is proved to answer like it, on all files:

* `cache_never_changes_an_answer` — from any sound cache contents, at the top level;
* `cache_need_is_fresh_need` — what is remembered with a cached object is the number of nested
  loads a fresh reader needs for it (so counting a hit "as the load it stands for" is exact);
* `api_history_free` — every answer of every sequence of calls (GetObject, ClearCache, Resolve,
  ResolveDeep, the resolver package's ten entry points incl. Reset, failed calls included) is
  the answer of the same call made alone on a freshly opened reader with a fresh resolver;
* `api_answers_independent_of_prefix`, `api_from_sound_caches`;
* `get_object_in_any_history` — … and for GetObject that answer is `XrefFile.lookup`;
* `newest_revision_in_any_history`, `newest_revision_compressed_in_any_history`,
  `deleted_or_unknown_is_error_in_any_history` — the property statement composed end to end,
  from the bytes to the answer of a call in the middle of any history;
* `resolver_failed_calls_leave_no_trace`, `deep_resolution_terminates_by_itself`.
-/
namespace Tabula.C04A
open Tabula.XrefFile Tabula.XrefBytes Tabula.Pdf Tabula.Reader Tabula.C04B Tabula.XrefC Tabula.XrefR

/-- `GetObject(n)` on a freshly opened reader: the cache-free lookup -/
def fresh (ext : Reader.Ext) (file : List Nat) (x : RawSection) (n : Int) : Option PVal :=
  getObjectB ext file x (maxNestedLoads + 1) [] n

/-- the cached reader answers like a fresh one on every state that satisfies the invariant -/
theorem getTop_sim (ext : Reader.Ext) (keep : Bool) (file : List Nat) (x : RawSection) :
    Sim (getTop ext keep file x) (fresh ext file x) (CInv ext file x) := by
  intro n s hs
  obtain ⟨h1, h2, _⟩ := getC_refines ext file x keep (maxNestedLoads + 1) [] n s hs
    (fun p hp => by cases hp) (by simp)
  refine ⟨?_, h2⟩
  unfold getTop fresh
  rw [h1, getObjectB_top]
  rfl

/-- **cache_never_changes_an_answer** (every file, every table, any sound cache contents):
`GetObject(n)` on a reader whose caches hold only answers of a fresh reader (with their needs)
is the answer of a fresh reader, and the caches stay sound -/
theorem cache_never_changes_an_answer (ext : Reader.Ext) (keep : Bool) (file : List Nat) (x : RawSection)
    (st : RSt) (hst : CInv ext file x st) (n : Int) :
    (getTop ext keep file x n st).1 = getObjectB ext file x (maxNestedLoads + 1) [] n ∧
      CInv ext file x (getTop ext keep file x n st).2 :=
  getTop_sim ext keep file x n st hst

/-- satisfiable: the caches of a freshly opened reader, and after `ClearCache` -/
example (ext : Reader.Ext) (file : List Nat) (x : RawSection) : CInv ext file x {} := cinv_empty ext file x 0
example (ext : Reader.Ext) (file : List Nat) (x : RawSection) (st : RSt) : CInv ext file x (clearC st) :=
  cinv_clear ext file x st

/-- the reader's state after a sequence of `GetObject` / `ClearCache` calls -/
def cachesAfter (ext : Reader.Ext) (keep : Bool) (file : List Nat) (x : RawSection) : RSt → List (Option Int) → RSt
  | st, [] => st
  | st, some n :: ops => cachesAfter ext keep file x (getTop ext keep file x n st).2 ops
  | st, none :: ops => cachesAfter ext keep file x (clearC st) ops

/-- every cache state a program can reach is sound -/
theorem reachable_caches_sound (ext : Reader.Ext) (keep : Bool) (file : List Nat) (x : RawSection)
    (ops : List (Option Int)) : CInv ext file x (cachesAfter ext keep file x {} ops) := by
  suffices h : ∀ st, CInv ext file x st → CInv ext file x (cachesAfter ext keep file x st ops) from
    h {} (cinv_empty ext file x 0)
  induction ops with
  | nil => intro st h; exact h
  | cons op ops ih =>
    intro st h
    cases op with
    | none => exact ih _ (cinv_clear ext file x st)
    | some n => exact ih _ (getTop_sim ext keep file x n st h).2

/-- **cache_need_is_fresh_need**: whatever was looked up before, what `objNeed` remembers with a
cached object is the number of objects a fresh reader loads inside each other for it (`getD`
with that budget answers, with less it does not): the hit is refused exactly where the load
would be -/
theorem cache_need_is_fresh_need (ext : Reader.Ext) (keep : Bool) (file : List Nat) (x : RawSection)
    (ops : List (Option Int)) (n : Int) (v : PVal) (k : Nat)
    (h : (cachesAfter ext keep file x {} ops).obj.lookup n = some (v, k)) :
    getD ext file x k n = some (v, k) ∧ (∀ b, b < k → getD ext file x b n = none) ∧
      getObjectB ext file x (maxNestedLoads + 1) [] n = if k ≤ maxNestedLoads then some v else none := by
  have hg := (reachable_caches_sound ext keep file x ops).obj n v k h
  refine ⟨hg, fun b hb => by rw [getD_of_need hg b, if_neg (Nat.not_le.2 hb)], ?_⟩
  rw [getObjectB_top, getD_of_need hg]
  by_cases hk : k ≤ maxNestedLoads <;> simp [hk]

/-- the answer of one call made alone on a freshly opened reader with a fresh resolver -/
def alone (ext : Reader.Ext) (keep : Bool) (file : List Nat) (x : RawSection) (maxDepth : Nat)
    (ord : List (List Nat × DObj) → List (List Nat × DObj)) (op : Api.Op) : Option (Option DObj) :=
  (Api.step (getTop ext keep file x) clearC maxDepth ord { rd := ({} : RSt) } op).1

/-- **api_from_sound_caches**: from any sound cache contents and any state a resolver can be in
between calls, every answer of every sequence of calls is the answer of the same call made
alone on a freshly opened reader with a fresh resolver -/
theorem api_from_sound_caches (ext : Reader.Ext) (keep : Bool) (file : List Nat) (x : RawSection)
    (maxDepth : Nat) (ord : List (List Nat × DObj) → List (List Nat × DObj)) (st : RSt) (hst : CInv ext file x st)
    (p : PSt) (hp : p.depth = 0) (ops : List Api.Op) :
    Api.run (getTop ext keep file x) clearC maxDepth ord { rd := st, res := p } ops =
      ops.map (alone ext keep file x maxDepth ord) := by
  have hsim := getTop_sim ext keep file x
  have hclear : ∀ s, CInv ext file x s → CInv ext file x (clearC s) := fun s _ => cinv_clear ext file x s
  rw [api_run_alone hsim clearC hclear maxDepth ord ops { rd := st, res := p } hst hp]
  exact List.map_congr_left fun op _ =>
    (api_step_rel hsim.getRel clearC id (fun s _ => hclear s) maxDepth ord { rd := {} } { rd := () }
      (cinv_empty ext file x 0) rfl op).1.symm

/-- **api_history_free** (the last sentence of the property, on the bytes, for the whole public
surface): open any file; whatever sequence of `GetObject`, `ClearCache`, `Resolve`,
`ResolveDeep` and resolver-package calls (`Resolve`, `ResolveDeep`, `ResolveReference`,
`ResolveReferenceDeep`, `GetObject`, `GetObjectResolved`, `GetObjectResolvedDeep`,
`ResolveDict`/`ResolveArray`, `Reset` on ONE long-lived resolver) a program makes - calls that
fail included -, every answer is the answer of the same call made alone on a freshly opened
reader with a fresh resolver -/
theorem api_history_free (ext : Reader.Ext) (keep : Bool) (file : List Nat) (maxDepth : Nat)
    (ord : List (List Nat × DObj) → List (List Nat × DObj)) (ops : List Api.Op) (x : RawSection)
    (hopen : openFile ext file = .ok x) :
    Api.session ext keep file maxDepth ord ops = .ok (ops.map (alone ext keep file x maxDepth ord)) := by
  unfold Api.session
  rw [hopen]
  dsimp only
  rw [api_from_sound_caches ext keep file x maxDepth ord {} (cinv_empty ext file x 0) {} rfl ops]

/-- … so a call in the middle of any sequence of calls answers what it answers alone -/
theorem call_in_any_history (ext : Reader.Ext) (keep : Bool) (file : List Nat) (maxDepth : Nat)
    (ord : List (List Nat × DObj) → List (List Nat × DObj)) (x : RawSection) (hopen : openFile ext file = .ok x)
    (before after : List Api.Op) (op : Api.Op) :
    ∃ rs, Api.session ext keep file maxDepth ord (before ++ op :: after) = .ok rs ∧
      rs[before.length]? = some (alone ext keep file x maxDepth ord op) := by
  refine ⟨_, api_history_free ext keep file maxDepth ord _ x hopen, ?_⟩
  rw [List.map_append, List.getElem?_append_right (by simp)]
  simp only [List.length_map, Nat.sub_self, List.map_cons, List.getElem?_cons_zero]

/-- **api_answers_independent_of_prefix**: the answers to `ops` are the same after any sequence of
earlier calls -/
theorem api_answers_independent_of_prefix (ext : Reader.Ext) (keep : Bool) (file : List Nat) (x : RawSection)
    (maxDepth : Nat) (ord : List (List Nat × DObj) → List (List Nat × DObj)) (before ops : List Api.Op) :
    (Api.run (getTop ext keep file x) clearC maxDepth ord { rd := ({} : RSt) } (before ++ ops)).drop before.length =
      Api.run (getTop ext keep file x) clearC maxDepth ord { rd := ({} : RSt) } ops := by
  rw [api_from_sound_caches ext keep file x maxDepth ord {} (cinv_empty ext file x 0) {} rfl,
    api_from_sound_caches ext keep file x maxDepth ord {} (cinv_empty ext file x 0) {} rfl,
    List.map_append]
  simp

/-- what a single call answers on a fresh reader, for the lookups that hand out the stored
value: `GetObject(n)`, `Resolve(n g R)`, and on the resolver `GetObject(n)` and
`ResolveReference(n g R)` - the cache-free lookup of `n` (the generation of a reference is not
looked at) -/
theorem alone_stored (ext : Reader.Ext) (keep : Bool) (file : List Nat) (x : RawSection) (maxDepth : Nat)
    (ord : List (List Nat × DObj) → List (List Nat × DObj)) (n g : Int) :
    alone ext keep file x maxDepth ord (.get n) = some ((fresh ext file x n).map ofPVal) ∧
    alone ext keep file x maxDepth ord (.resolve n g) = some ((fresh ext file x n).map ofPVal) ∧
    alone ext keep file x maxDepth ord (.pGet n) = some ((fresh ext file x n).map ofPVal) ∧
    alone ext keep file x maxDepth ord (.pRef n g) = some ((fresh ext file x n).map ofPVal) := by
  have h := (getTop_sim ext keep file x n {} (cinv_empty ext file x 0)).1
  unfold alone
  simp only [Api.step, resolveR, h, and_self]

/-- **get_object_in_any_history**: open any file; in the middle of any sequence of calls,
`GetObject(n)` answers what `reader.Open(file).GetObject(n)` answers as the first call -/
theorem get_object_in_any_history (ext : Reader.Ext) (keep : Bool) (file : List Nat) (maxDepth : Nat)
    (ord : List (List Nat × DObj) → List (List Nat × DObj)) (before after : List Api.Op) (n : Int)
    (v : Option PVal) (hl : lookup ext file n = .ok v) :
    ∃ rs, Api.session ext keep file maxDepth ord (before ++ .get n :: after) = .ok rs ∧
      rs[before.length]? = some (some (v.map ofPVal)) := by
  unfold lookup at hl
  cases hopen : openFile ext file with
  | error e => rw [hopen] at hl; cases hl
  | ok x =>
    rw [hopen] at hl
    simp only [Except.ok.injEq] at hl
    obtain ⟨rs, h1, h2⟩ := call_in_any_history ext keep file maxDepth ord x hopen before after (.get n)
    exact ⟨rs, h1, by rw [h2, (alone_stored ext keep file x maxDepth ord n 0).1, fresh, hl]⟩

/-- **newest_revision_in_any_history** (the property statement, end to end on the bytes, for
objects stored plainly): the file and its revisions as in `C04B.lookup_newest_revision`; in the
middle of ANY sequence of calls on the opened reader - lookups of other objects, of this object,
deep resolutions that failed, cache clears - `GetObject(num)` is exactly the value the newest
revision defining `num` holds -/
theorem newest_revision_in_any_history (ext : Reader.Ext) (keep : Bool) (file : List Nat) (start : Int)
    (revs : List (Int × RawSection)) (hhdr : headerOk file = true)
    (hfind : findXRef file = .ok start) (hc : RevChain ext file start revs)
    (hnd : (revs.map Prod.fst).Nodup) (num : Nat) (e : RawEntry) (b : Body)
    (hnew : newestI (revs.map Prod.snd).reverse (num : Int) = some e) (he : e.kind = .inUse)
    (hobj : ObjectAt file e.f1 num b)
    (maxDepth : Nat) (ord : List (List Nat × DObj) → List (List Nat × DObj)) (before after : List Api.Op) :
    ∃ rs, Api.session ext keep file maxDepth ord (before ++ .get (num : Int) :: after) = .ok rs ∧
      rs[before.length]? = some (some (some (ofPVal b.value))) :=
  get_object_in_any_history ext keep file maxDepth ord before after (num : Int) (some b.value)
    (lookup_newest_revision ext file start revs hhdr hfind hc hnd num e b hnew he hobj)

/-- **newest_revision_compressed_in_any_history** (the same for objects stored inside object
streams): the file, its revisions and the object stream as in
`C04B.lookup_newest_revision_compressed`; in the middle of any sequence of calls - the object
stream may or may not be in `objStmCache`, its other members may or may not have been asked for
- `GetObject(m.1)` is exactly the value of the member -/
theorem newest_revision_compressed_in_any_history (ext : Reader.Ext) (keep : Bool) (file : List Nat) (start : Int)
    (revs : List (Int × RawSection)) (hhdr : headerOk file = true)
    (hfind : findXRef file = .ok start) (hc : RevChain ext file start revs)
    (hnd : (revs.map Prod.fst).Nodup)
    (e se : RawEntry) (stm : Nat) (pre : Sep) (kvs : List SObj) (close s3 : Sep) (seol : StreamEol)
    (raw w4 : List Nat) (s5 : Sep) (a b : List (Nat × SObj)) (m : Nat × SObj)
    (hnew : newestI (revs.map Prod.snd).reverse (m.1 : Int) = some e) (he : e.kind = .compressed)
    (hstm : e.f1 = (stm : Int)) (hidx : e.f2 = (a.length : Int))
    (hsnew : newestI (revs.map Prod.snd).reverse (stm : Int) = some se) (hse : se.kind ≠ .compressed)
    (hobj : ObjectAt file se.f1 stm (.stream pre kvs close s3 seol raw w4 s5))
    (hT : dget (valueKVs kvs) Reader.kType = some (.name kObjStm))
    (hN : dget (valueKVs kvs) kN = some (.int (pairsFrom 0 (a ++ m :: b)).length))
    (hF : dget (valueKVs kvs) kFirst = some (.int (headerText (pairsFrom 0 (a ++ m :: b))).length))
    (hE : dget (valueKVs kvs) kExtends = none)
    (hdec : Reader.decodeStream ext (valueKVs kvs) raw =
      some (headerText (pairsFrom 0 (a ++ m :: b)) ++ bodiesOf (a ++ m :: b)))
    (hnum : ∀ x ∈ a ++ m :: b, x.1 < 9223372036854775808)
    (hsize : (bodiesOf (a ++ m :: b)).length < 9223372036854775808)
    (hv : m.2.Valid false) (hd : m.2.value.depth ≤ maxNestingDepth)
    (maxDepth : Nat) (ord : List (List Nat × DObj) → List (List Nat × DObj)) (before after : List Api.Op) :
    ∃ rs, Api.session ext keep file maxDepth ord (before ++ .get (m.1 : Int) :: after) = .ok rs ∧
      rs[before.length]? = some (some (some (ofObj m.2.value))) :=
  get_object_in_any_history ext keep file maxDepth ord before after (m.1 : Int) (some (.obj m.2.value))
    (lookup_newest_revision_compressed ext file start revs hhdr hfind hc hnd e se stm pre kvs close s3 seol raw w4 s5
      a b m hnew he hstm hidx hsnew hse hobj hT hN hF hE hdec hnum hsize hv hd)

/-- satisfiable, together: there is a file (the proof takes the one of `C04B.end_to_end_witness`:
`%PDF-1.7`, `1 0 obj 42 endobj`, a classic table, `startxref`) on which, in the middle of every
sequence of calls, `GetObject(1)` is 42 and `GetObject(2)` is an error, for every inflate function,
depth limit and map order -/
theorem api_end_to_end_witness (ext : Reader.Ext) (keep : Bool) (maxDepth : Nat)
    (ord : List (List Nat × DObj) → List (List Nat × DObj)) :
    ∃ file : List Nat, ∀ before after : List Api.Op,
      (∃ rs, Api.session ext keep file maxDepth ord (before ++ .get 1 :: after) = .ok rs ∧
        rs[before.length]? = some (some (some (.int 42)))) ∧
      (∃ rs, Api.session ext keep file maxDepth ord (before ++ .get 2 :: after) = .ok rs ∧
        rs[before.length]? = some (some none)) := by
  obtain ⟨file, h1, h2⟩ := end_to_end_witness ext
  refine ⟨file, fun before after => ⟨?_, ?_⟩⟩
  · exact get_object_in_any_history ext keep file maxDepth ord before after 1 _ h1
  · exact get_object_in_any_history ext keep file maxDepth ord before after 2 _ h2

/-- **deleted_or_unknown_is_error_in_any_history**: if the newest revision that mentions `n`
marks it free, or no revision mentions it, `GetObject(n)` is an error in the middle of any
sequence of calls - also right after lookups that cached older objects -/
theorem deleted_or_unknown_is_error_in_any_history (ext : Reader.Ext) (keep : Bool) (file : List Nat) (start : Int)
    (revs : List (Int × RawSection)) (hhdr : headerOk file = true)
    (hfind : findXRef file = .ok start) (hc : RevChain ext file start revs)
    (hnd : (revs.map Prod.fst).Nodup) (n : Int)
    (hnew : newestI (revs.map Prod.snd).reverse n = none ∨
      ∃ e, newestI (revs.map Prod.snd).reverse n = some e ∧ e.kind = .free)
    (maxDepth : Nat) (ord : List (List Nat × DObj) → List (List Nat × DObj)) (before after : List Api.Op) :
    ∃ rs, Api.session ext keep file maxDepth ord (before ++ .get n :: after) = .ok rs ∧
      rs[before.length]? = some (some none) :=
  get_object_in_any_history ext keep file maxDepth ord before after n none
    (lookup_deleted_or_unknown_is_error ext file start revs hhdr hfind hc hnd n hnew)

/-- **resolver_failed_calls_leave_no_trace** (the resolver package's own state over call
histories): two resolvers on the same reader state that are both between calls (depth counter
0) - whatever each was used for before, whatever failed - answer every further sequence of calls
alike -/
theorem resolver_failed_calls_leave_no_trace {σ : Type} (get : Int → σ → Option PVal × σ) (clear : σ → σ)
    (maxDepth : Nat) (ord : List (List Nat × DObj) → List (List Nat × DObj)) (ops : List Api.Op) (st1 st2 : Api.St σ)
    (hrd : st1.rd = st2.rd) (h1 : st1.res.depth = 0) (h2 : st2.res.depth = 0) :
    Api.run get clear maxDepth ord st1 ops = Api.run get clear maxDepth ord st2 ops :=
  api_run_resolver_history_free get clear maxDepth ord ops st1 st2 hrd h1 h2

/-- … and a resolver IS between calls with depth counter 0 after every call, failed or not -/
theorem resolver_depth_counter_restored {σ : Type} (get : Int → σ → Option PVal × σ) (clear : σ → σ)
    (maxDepth : Nat) (ord : List (List Nat × DObj) → List (List Nat × DObj)) (st : Api.St σ) (op : Api.Op)
    (h : st.res.depth = 0) : (Api.step get clear maxDepth ord st op).2.res.depth = 0 :=
  api_step_depth get clear maxDepth ord st op h

/-- **cached_lookup_bounded** (bounded work with the caches): the lookup the cached reader makes
(`getC` with 17 units of nesting fuel from an empty `loading` set) never runs out of that fuel -
more fuel gives the same answer AND the same caches, on every file, table and cache contents -/
theorem cached_lookup_bounded (ext : Reader.Ext) (keep : Bool) (file : List Nat) (x : RawSection) (n : Int)
    (st : RSt) (k : Nat) :
    getC ext keep file x (maxNestedLoads + 1 + k) [] n st = getTop ext keep file x n st :=
  getC_fuel ext keep file x _ _ [] n st (by simp) (by simp)

/-- **deep_resolution_terminates_by_itself**: the structural fuel of the two `ResolveDeep` models
(one unit per level) is never what ends a call: more fuel gives the same answer on every
object graph, cyclic ones included - `Reader.ResolveDeep` is at most `maxResolveDepth + 2`
levels deep, the resolver package's at most `maxDepth + 1` -/
theorem deep_resolution_terminates_by_itself {σ : Type} (get : Int → σ → Option PVal × σ) (obj : DObj) (s : σ)
    (maxDepth : Nat) (ord : List (List Nat × DObj) → List (List Nat × DObj)) (deep : Bool) (p : PSt) (k : Nat) :
    rdeep get (maxResolveDepth + 2 + k) [] obj 0 [] s = rdeep get (maxResolveDepth + 2) [] obj 0 [] s ∧
    resolveP get maxDepth ord deep (maxDepth + 1 + k) obj p s = resolveP get maxDepth ord deep (maxDepth + 1) obj p s :=
  ⟨rdeep_fuel get _ _ [] obj 0 [] s (Nat.le_add_right _ k) (Nat.le_refl _),
   resolveP_fuel get maxDepth ord deep _ _ obj p s (Nat.le_trans (Nat.le_add_right _ k) (Nat.le_add_right _ _))
     (Nat.le_add_right _ _)⟩

end Tabula.C04A
