import TabulaModel.Lemmas.Html
import TabulaModel.Lemmas.HtmlBlocks
import TabulaModel.Lemmas.HtmlRepair
import TabulaModel.Props.C19Nav
/-!
# C19 — HTML extraction keeps content; navigation filtering only narrows

Theorems about the model of htmldoc (Model/Dom, Nav, Html); helper lemmas in
Lemmas/Html.lean, Lemmas/Traverse.lean and Lemmas/HtmlBlocks.lean. All statements are for every DOM
tree of any depth (structural induction over the nested tree), every exclusion
predicate where one is quantified, and every list context.
-/
namespace Tabula.C19
open Tabula.Html

/-! ## the mode lattice -/

/-- pattern vocabulary inclusion: every word Standard matches, Aggressive matches (both modes use
the one combined vocabulary `vocabExcluded`) -/
theorem vocab_inclusion : ∀ x, x ∈ vocabOf .standard → x ∈ vocabOf .aggressive := by
  intro x h; exact h

/-- the vocabularies of Explicit and None are empty -/
theorem vocab_explicit_empty : vocabOf .explicit = [] ∧ vocabOf .none = [] := ⟨rfl, rfl⟩

/-- the combined pattern is exactly the union of the four documented groups -/
theorem vocab_excluded_is_union :
    vocabExcluded = vocabNav ++ vocabHeader ++ vocabFooter ++ vocabSidebar := by decide

/-- `excluded Explicit n → excluded Standard n → excluded Aggressive n` for every node at every position. -/
theorem mode_lattice (pos : Pos) (n : Dom) :
    (excluded .explicit pos n = true → excluded .standard pos n = true) ∧
    (excluded .standard pos n = true → excluded .aggressive pos n = true) :=
  ⟨excluded_mono (by decide) pos n, excluded_mono (by decide) pos n⟩

/-- mode None excludes nothing -/
theorem none_excludes_nothing (pos : Pos) (n : Dom) : excluded .none pos n = false :=
  Tabula.C19Nav.none_decides pos n

/-- the lattice as pointwise inclusion between consecutive modes -/
theorem mode_inclusion (pos : Pos) (n : Dom) :
    (excluded .none pos n = true → excluded .explicit pos n = true) ∧
    (excluded .explicit pos n = true → excluded .standard pos n = true) ∧
    (excluded .standard pos n = true → excluded .aggressive pos n = true) :=
  ⟨excluded_mono (by decide) pos n, mode_lattice pos n⟩

/-! ## filtering only narrows -/

/-- `p ⊆ q` pointwise → `atoms q t` is a sublist of `atoms p t`, for every tree. -/
theorem filter_monotone (p q : Pos → Dom → Bool) (h : ∀ pos n, p pos n = true → q pos n = true)
    (w : Bool) (pos : Pos) (lc : LC) (t : Dom) :
    (atoms q w pos lc t).Sublist (atoms p w pos lc t) :=
  atoms_mono p q h w t pos lc

example : ∀ pos n, excluded .explicit pos n = true → excluded .standard pos n = true :=
  fun pos n => (mode_lattice pos n).1

/-- Aggressive <+ Standard <+ Explicit <+ None, on the specification -/
theorem mode_chain (w : Bool) (pos : Pos) (lc : LC) (t : Dom) :
    (atoms (excluded .aggressive) w pos lc t).Sublist (atoms (excluded .standard) w pos lc t) ∧
    (atoms (excluded .standard) w pos lc t).Sublist (atoms (excluded .explicit) w pos lc t) ∧
    (atoms (excluded .explicit) w pos lc t).Sublist (atoms (excluded .none) w pos lc t) :=
  ⟨filter_monotone _ _ (excluded_mono (by decide)) w pos lc t,
   filter_monotone _ _ (excluded_mono (by decide)) w pos lc t,
   filter_monotone _ _ (excluded_mono (by decide)) w pos lc t⟩

/-- mode None is the unfiltered specification, and every predicate returns a sublist of it -/
theorem none_is_everything (p : Pos → Dom → Bool) (w : Bool) (pos : Pos) (lc : LC) (t : Dom) :
    atoms (excluded .none) w pos lc t = atoms (fun _ _ => false) w pos lc t ∧
    (atoms p w pos lc t).Sublist (atoms (excluded .none) w pos lc t) := by
  have e : excluded .none = fun _ _ => false := by
    funext pos n; exact none_excludes_nothing pos n
  rw [e]
  exact ⟨rfl, filter_monotone _ p (fun _ _ h => by cases h) w pos lc t⟩

/-- Content outside the excluded subtrees is unchanged: among siblings `a ++ k :: b`, if two
predicates decide alike on every node of `a` and of `b` (at any depth), then whatever
happens inside `k` — e.g. `k` is excluded by one of them — the segments contributed by
`a` and `b` are identical and stay in place. -/
theorem outside_unchanged (p q : Pos → Dom → Bool) (w : Bool) (kp : Pos) (lc : LC) (a b : List Dom) (k : Dom)
    (ha : agreeL p q w kp a) (hb : agreeL p q w kp b) :
    atomsL q w kp lc (a ++ k :: b) = atomsL p w kp lc a ++ atoms q w kp lc k ++ atomsL p w kp lc b := by
  rw [atomsL_append]
  simp only [atomsL]
  rw [atomsL_agree p q w a kp lc ha, atomsL_agree p q w b kp lc hb, List.append_assoc]

/-- … and a subtree on which the predicates agree is returned identically -/
theorem agree_unchanged (p q : Pos → Dom → Bool) (w : Bool) (pos : Pos) (lc : LC) (t : Dom)
    (h : agree p q w pos t) : atoms q w pos lc t = atoms p w pos lc t :=
  atoms_agree p q w t pos lc h

example : agreeL (excluded .none) (excluded .aggressive) false .bodyChild
    [.elem T.p [] [.text [120]], .text [32]] := by
  simp only [agree, agreeL]
  decide

/-! ## the stateful traversal refines the specification -/

/-- Flattening the element list built by the traversal with its list state machine gives
exactly `atoms`: the state machine neither drops, duplicates nor reorders anything. -/
theorem traverse_refines_atoms (p : Pos → Dom → Bool) (body : Dom) :
    flatten (extractWith p body) = atomsOf p body := by
  unfold extractWith atomsOf
  have h := trav_refines p (hasWrapper body) body .root {} (fun _ => ⟨rfl, rfl⟩)
  rw [flushList_out _ h.ok, h.flat]
  rfl

/-- hence what the four modes return (element lists of `getElements`) is a chain of sublists -/
theorem extract_chain (body : Dom) :
    (flatten (extract .aggressive body)).Sublist (flatten (extract .standard body)) ∧
    (flatten (extract .standard body)).Sublist (flatten (extract .explicit body)) ∧
    (flatten (extract .explicit body)).Sublist (flatten (extract .none body)) := by
  unfold extract
  simp only [traverse_refines_atoms, atomsOf]
  exact mode_chain _ _ _ _

/-! ## content is returned once, in document order -/

/-- the text of an atom -/
def atomText : Atom → Str
  | .heading _ t => t | .para t => t | .item _ t => t | .cell c => c.text | .code t => t | .quote t => t

/-
Full statement (does NOT hold for the code, before or after fix 75d57dc): for every content
element that is neither skipped nor excluded, every text node inside it (outside script/style)
occurs in exactly one returned atom, atoms being in document order.

Before fix 75d57dc it failed for every p (or div) that has a block-level child: the traversal
only descended into it and the element's own text was never returned
(`content_once_in_order_pinned_counterexample`, about the old traversal `travOld`; finding
C19/content-missing-para-with-block-child, repaired).  Since the fix such a p/div returns its
own text — `paragraph_own_text_kept` below is that statement in full, for every tree.  What is
left: a child of such a paragraph that is neither inline content nor a content element itself — a
wrapper (span, a, form, section, …) around a block-level element — is traversed like a wrapper
anywhere else, and the wrapper's own direct text is returned by nothing
(`content_once_in_order_counterexample`; finding C19/content-missing-para-in-wrapper).  What is
proved:
-/
/-- (1) siblings contribute exactly one contiguous segment each, in sibling order;
(2) inside an element's text every text node occurs once, in document order;
(3) skipped elements (script, style, …) contribute neither atoms nor text;
(4) a heading / leaf paragraph / quote with text that is not excluded is returned as one atom
    carrying the whole text of the element (pre/code: `Tabula.C19Text.code_item_table_atoms`). -/
theorem content_once_in_order_partial (p : Pos → Dom → Bool) (w : Bool) (kp : Pos) (lc : LC) :
    (∀ (a b : List Dom) (k : Dom),
      atomsL p w kp lc (a ++ k :: b) = atomsL p w kp lc a ++ atoms p w kp lc k ++ atomsL p w kp lc b) ∧
    (∀ (a b : List Dom) (s : Str), textRecL (a ++ .text s :: b) = textRecL a ++ s ++ textRecL b) ∧
    (∀ tag attrs kids, isSkip tag = true →
      atoms p w kp lc (.elem tag attrs kids) = [] ∧ textRec (.elem tag attrs kids) = []) ∧
    (∀ tag attrs kids, isSkip tag = false → p kp (.elem tag attrs kids) = false →
      trim (getTextContent (.elem tag attrs kids)) ≠ [] →
      (∀ lvl, classify tag = .heading lvl →
        atoms p w kp lc (.elem tag attrs kids) = [.heading lvl (trim (getTextContent (.elem tag attrs kids)))]) ∧
      (∀ isP, classify tag = .pdiv isP → isBlockContainer kids = false →
        atoms p w kp lc (.elem tag attrs kids) = [.para (trim (getTextContent (.elem tag attrs kids)))]) ∧
      (classify tag = .quote →
        atoms p w kp lc (.elem tag attrs kids) = [.quote (trim (getTextContent (.elem tag attrs kids)))])) := by
  refine ⟨?_, ?_, ?_, ?_⟩
  · intro a b k
    rw [atomsL_append]; simp only [atomsL, List.append_assoc]
  · intro a b s
    rw [textRecL_append]; simp only [textRecL, textRec, List.append_assoc]
  · intro tag attrs kids hs
    constructor
    · unfold atoms; simp [hs]
    · unfold textRec; simp [hs]
  · intro tag attrs kids hs hp ht
    have ht' : (trim (getTextContent (.elem tag attrs kids)) != []) = true := by simpa using ht
    refine ⟨?_, ?_, ?_⟩
    · intro lvl hc
      unfold atoms; simp only [hs, hp, hc, Bool.false_eq_true, if_false]; simp [ht]
    · intro isP hc hb
      unfold atoms; simp only [hs, hp, hc, Bool.false_eq_true, if_false]; simp [ht, hb]
    · intro hc
      unfold atoms; simp only [hs, hp, hc, Bool.false_eq_true, if_false]; simp [ht]

example : isSkip T.p = false ∧ classify T.p = .pdiv true ∧ isBlockContainer [.text [120]] = false ∧
    trim (getTextContent (.elem T.p [] [.text [120]])) ≠ [] := by decide

/-- THE REPAIRED FINDING, in full (fix 75d57dc; for every tree, predicate, position and list
context): a p/div that has a block-level child and is neither skipped nor excluded returns its
own text.  Its children are read in document order (`atomsM`):
(1) a maximal run `a` of inline children — text nodes, inline elements, anything that neither is
    nor contains an element the traversal handles itself — followed by another child `k` gives
    ONE paragraph carrying the text of all of `a` (`textRecL a`: by `text_nodes_once_in_order`
    every text node of `a` once, in document order), then the atoms of `k`, then the rest with a
    fresh run; a blank run gives nothing;
(2) a trailing run gives one paragraph in the same way;
(3) nothing is returned twice: an inline child, were it traversed, would contribute no atom
    (so its text is in the run's paragraph and nowhere else), and a child that is not inline is in
    no run. -/
theorem paragraph_own_text_kept (p : Pos → Dom → Bool) (w : Bool) (pos : Pos) (lc : LC)
    (tag : Str) (attrs : List (Str × Str)) (kids : List Dom) (isP : Bool)
    (hs : isSkip tag = false) (hp : p pos (.elem tag attrs kids) = false)
    (hc : classify tag = .pdiv isP) (hb : isBlockContainer kids = true) :
    atoms p w pos lc (.elem tag attrs kids) = atomsM p w (pos.kid w tag) lc kids [] ∧
    (∀ (a rest : List Dom) (k : Dom) (run : Str), isInlineL a = true → isInline k = false →
      atomsM p w (pos.kid w tag) lc (a ++ k :: rest) run =
        runAtoms (run ++ textRecL a) ++ atoms p w (pos.kid w tag) lc k ++ atomsM p w (pos.kid w tag) lc rest []) ∧
    (∀ (a : List Dom) (run : Str), isInlineL a = true →
      atomsM p w (pos.kid w tag) lc a run = runAtoms (run ++ textRecL a)) ∧
    (∀ run, trim run ≠ [] → runAtoms run = [.para (trim run)]) ∧
    (∀ run, trim run = [] → runAtoms run = []) ∧
    (∀ k, isInline k = true → atoms p w (pos.kid w tag) lc k = []) := by
  refine ⟨?_, ?_, ?_, ?_, ?_, ?_⟩
  · unfold atoms; simp only [hs, hp, hc, Bool.false_eq_true, if_false]; simp [hb]
  · intro a rest k run ha hk
    rw [atomsM_inline p w _ lc a (k :: rest) run ha, atomsM_block p w _ lc k rest _ hk]
  · intro a run ha
    have := atomsM_inline p w (pos.kid w tag) lc a [] run ha
    simpa [atomsM] using this
  · intro run h; simp [runAtoms, h]
  · intro run h; simp [runAtoms, h]
  · intro k hk; exact atoms_inline p w k _ lc hk

example : isSkip T.div = false ∧ classify T.div = .pdiv false ∧
    isBlockContainer [.text [120], .elem T.p [] [.text [121]]] = true ∧
    isInlineL [.text [120]] = true ∧ isInline (.elem T.p [] [.text [121]]) = false := by decide

/-- witness `<p>x<table><tr><td>c</td></tr></table></p>` (quirks-mode parse) -/
def witnessPTable : Dom :=
  .elem [98, 111, 100, 121] []
    [.elem T.p [] [.text [120], .elem T.table [] [.elem T.tbody [] [.elem T.tr [] [.elem T.td [] [.text [99]]]]]]]

/-- BEFORE fix 75d57dc (the old traversal `travOld`, Model/HtmlOld.lean): in mode None the
paragraph's own text "x" was in no returned atom -/
theorem content_once_in_order_pinned_counterexample :
    flatten (extractOld .none witnessPTable) = [.cell ⟨[99], false, 1, 1⟩] ∧
    ¬ ∃ a, a ∈ flatten (extractOld .none witnessPTable) ∧ 120 ∈ atomText a := by
  decide +kernel

/-- since the fix it is a paragraph of its own, before the table (modes None and Aggressive) -/
theorem content_once_in_order_repaired_witness :
    flatten (extract .none witnessPTable) = [.para [120], .cell ⟨[99], false, 1, 1⟩] ∧
    flatten (extract .aggressive witnessPTable) = [.para [120], .cell ⟨[99], false, 1, 1⟩] := by
  decide +kernel

/-- `span` is not one of the tags the traversal knows: it is only traversed -/
def tagSpan : Str := [115, 112, 97, 110]

/-- witness `<p>x<table><tr><td>c</td></tr></table><span>y<table><tr><td>d</td></tr></table></span></p>`
(quirks-mode parse: neither table closes the p) -/
def witnessPWrapper : Dom :=
  .elem [98, 111, 100, 121] []
    [.elem T.p []
      [.text [120],
       .elem T.table [] [.elem T.tbody [] [.elem T.tr [] [.elem T.td [] [.text [99]]]]],
       .elem tagSpan [] [.text [121],
         .elem T.table [] [.elem T.tbody [] [.elem T.tr [] [.elem T.td [] [.text [100]]]]]]]]

/-- witness `<p>x<table><section>y<div>z</div></section><tr><td>c</td></tr></table></p>` (quirks-mode
parse; the section is foster-parented in front of the table, inside the p) -/
def witnessPSection : Dom :=
  .elem [98, 111, 100, 121] []
    [.elem T.p []
      [.text [120],
       .elem T.section [] [.text [121], .elem T.div [] [.text [122]]],
       .elem T.table [] [.elem T.tbody [] [.elem T.tr [] [.elem T.td [] [.text [99]]]]]]]

/-- what is left (finding C19/content-missing-para-in-wrapper): the paragraph's own "x" is
returned, but the "y" that sits in a wrapper around a table inside the paragraph is in no
returned atom (mode None): the span is neither inline content (it holds a table) nor a content
element, so it is traversed, and a traversed element's direct text is returned by nothing -/
theorem content_once_in_order_counterexample :
    flatten (extract .none witnessPWrapper) =
      [.para [120], .cell ⟨[99], false, 1, 1⟩, .cell ⟨[100], false, 1, 1⟩] ∧
    ¬ ∃ a, a ∈ flatten (extract .none witnessPWrapper) ∧ 121 ∈ atomText a := by
  decide +kernel

/-- … the same for a sectioning element inside the paragraph: its own "y" is lost, the div inside
it is returned -/
theorem content_once_in_order_counterexample_section :
    flatten (extract .none witnessPSection) = [.para [120], .para [122], .cell ⟨[99], false, 1, 1⟩] ∧
    ¬ ∃ a, a ∈ flatten (extract .none witnessPSection) ∧ 121 ∈ atomText a := by
  decide +kernel

/-! ## the per-mode cache -/

/-- a call sequence on one reader -/
def run : Reader → List Mode → List (List Element)
  | _, [] => []
  | r, m :: ms => (getElements r m).1 :: run (getElements r m).2 ms

/-- every cached entry is the result for its own mode -/
def CacheOk (r : Reader) : Prop := ∀ m v, lookup r.cache m = some v → v = extract m r.body

theorem getElements_correct (r : Reader) (m : Mode) (h : CacheOk r) :
    (getElements r m).1 = extract m r.body ∧ (getElements r m).2.body = r.body ∧ CacheOk (getElements r m).2 := by
  unfold getElements
  by_cases hm : m = .none
  · subst hm; simp only [if_true]; exact ⟨trivial, trivial, h⟩
  · simp only [hm, if_false]
    cases hl : lookup r.cache m with
    | some v => exact ⟨h m v hl, rfl, h⟩
    | none =>
      refine ⟨rfl, rfl, ?_⟩
      intro m' v' hv
      simp only [lookup] at hv
      by_cases e : m = m'
      · subst e; simp at hv; exact hv.symm
      · simp [e] at hv; exact h m' v' hv

/-- `getElements m` returns the result for `m` regardless of which modes were asked before,
in any order and with any repetition (induction over the call sequence). -/
theorem cache_per_mode (body : Dom) (ms : List Mode) :
    run { body := body } ms = ms.map fun m => extract m body := by
  have gen : ∀ (ms : List Mode) (r : Reader), CacheOk r → run r ms = ms.map fun m => extract m r.body := by
    intro ms
    induction ms with
    | nil => intro r _; rfl
    | cons m ms ih =>
      intro r h
      have g := getElements_correct r m h
      simp only [run, List.map_cons]
      rw [g.1, ih _ g.2.2, g.2.1]
  exact gen ms { body := body } (fun m v hv => by simp [lookup] at hv)

example : CacheOk { body := .text [] } := fun m v hv => by simp [lookup] at hv

end Tabula.C19
