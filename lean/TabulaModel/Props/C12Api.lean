import TabulaModel.Lemmas.ChunkApi
import TabulaModel.Props.C12Layout
/-!
# C12: the glue around the chunkers — `updateSectionPath`, `Document.AddPage`, configurations

* `updateSectionPath` is the heading-stack step the property's anchors name. Since the C12 fixes
  `chunkPage` keeps the level of every open heading (`pushSection`), and `updateSectionPath`
  remains for a caller that knows only the innermost level. Over a *history* of calls it yields
  the chain of enclosing headings when no heading is more than one level deeper than its
  predecessor (`update_history_partial`); with a skipped level it can close too much
  (`update_history_counterexample`). No public entry point reaches it.
* `Document.AddPage` numbers unnumbered pages 1, 2, 3, … and keeps preset numbers, so documents
  built with it meet the hypothesis of `layout_page_range_partial`.
-/
namespace Tabula.C12Api
open Tabula.Chunk Tabula.ChunkLayout Tabula.ChunkApi

/-- one call on a consistent state is `pushSection` on the real stack: when the open headings
`st` are one level apart with the innermost at `cur`, `updateSectionPath` returns the path of
`pushSection st` -/
theorem update_step (st : List H) (cur lvl : Int) (text : Str) (h : Consec cur st) :
    updateSectionPath (st.reverse.map (·.2)) cur lvl text = ((pushSection st lvl text).reverse.map (·.2), lvl) :=
  updateSectionPath_consec st cur lvl text h

/- Full statement (not true of the code, see the counterexample):
     ∀ c0 hs, (runUpdate [] c0 hs).1 = (openSpec (trimmed hs)).map (·.2) -/

/-- **`updateSectionPath` over a history of headings** (any start level, any number of calls):
if no heading is more than one level deeper than the one before it, the path after the last
call is the chain of enclosing headings — the headings all of whose successors are strictly
deeper (`openSpec`, `C12.open_iff`). -/
theorem update_history_partial (c0 : Int) (hs : List (Int × Str)) (h : NoSkip none hs) :
    (runUpdate [] c0 hs).1 = (openSpec (trimmed hs)).map (·.2) := by
  have := runUpdate_spec [] [] c0 hs rfl trivial (by simpa using h)
  simpa using this

/-- H1 a, H2 b, H3 c, H2 d, H1 e, H2 f: no level skipped on the way down (going up any number
of levels is allowed) -/
example : NoSkip none [(1, [97]), (2, [98]), (3, [99]), (2, [100]), (1, [101]), (2, [102])] ∧
    (runUpdate [] 0 [(1, [97]), (2, [98]), (3, [99]), (2, [100]), (1, [101]), (2, [102])]).1 = [[101], [102]] := by
  refine ⟨⟨by decide, by decide, by decide, by decide, by decide, trivial⟩, by decide⟩

/-- **With a skipped level the path loses an open heading**: H1 a, H3 b, H2 c. The caller knows
only that the innermost open heading has level 3 and takes `a` to be at level 2, so the H2
closes it; the chain of enclosing headings is [a, c]. -/
theorem update_history_counterexample :
    (runUpdate [] 0 [(1, [97]), (3, [98]), (2, [99])]).1 = [[99]] ∧
    (openSpec (trimmed [(1, [97]), (3, [98]), (2, [99])])).map (·.2) = [[97], [99]] := by decide +kernel

/-- **`Document.AddPage` on pages without a number** (`Number == 0`) numbers them 1, 2, 3, … -/
theorem addPages_unnumbered (k : Nat) :
    addPages [] (List.replicate k 0) = (List.range' 1 k).map Int.ofNat := by
  have := addPages_unset [] k
  simpa using this

/-- preset numbers (a page selection) are kept as they are -/
theorem addPages_numbered (ns : List Int) (h : ∀ n ∈ ns, n ≠ 0) : addPages [] ns = ns := by
  have := addPages_preset [] ns h
  simpa using this

example : addPages [] [0, 0, 7, 0] = [1, 2, 7, 4] := by decide +kernel

/-- a document whose pages were numbered by `AddPage` meets the hypothesis of
`C12Layout.layout_page_range_partial` / `layout_chunker_property` -/
theorem addPages_ascending (d : LDoc)
    (h : d.map (·.number) = addPages [] (List.replicate d.length 0)) : AscFrom 1 d := by
  rw [addPages_unnumbered] at h
  exact ascFrom_of_range d 1 1 (by decide) (by decide) h

/-- so for such a document every section's page range covers the pages of its content -/
theorem layout_page_range_addPage (cfg : Cfg) (d : LDoc)
    (h : d.map (·.number) = addPages [] (List.replicate d.length 0)) :
    ∀ x ∈ flatForest (buildSections cfg d), SecPagesOK (d.map (·.number)) x :=
  Tabula.C12Layout.layout_page_range_partial cfg d 1 (addPages_ascending d h)

example : (⟨1, none⟩ :: ⟨2, none⟩ :: ([] : LDoc)).map (·.number) = addPages [] (List.replicate 2 0) := by decide +kernel

end Tabula.C12Api
