import TabulaModel.Lemmas.PageSel
import TabulaModel.Lemmas.BuilderHist
import TabulaModel.Props.C10Life
import TabulaModel.Props.C10Hist
/-!
# C10 — the statement end to end, over the model of the public API

`Open(f).c₁.c₂…cₙ.Op()` in the model is: `chainFrom` (the configuration methods, each cloning
its receiver), the frame of the terminal operation (`terminal` / `termStatic`: builder error,
`ensureReader`, `ensurePDFReader`, deferred `Close`), `resolvePages`, and the page loop
(`textOf`, `fragmentsOf`, `documentOf`).  The per-mechanism theorems of `Props/C10.lean`,
`C10Life.lean` and `C10Hist.lean` are chained here into the sentences of the property:

* **selection_end_to_end** — for any chain of calls, in any order, with duplicates, ranges
  and repeated calls, interleaved with any option calls, after ANY history on the family of
  extractors: every terminal operation works on exactly the pages of the denoted set, ascending;
  `Text` is the non-empty per-page texts joined by a blank line, `Fragments` the concatenation,
  `Document` numbers each page with its true source page;
* **spelling_irrelevant** — two chains denoting the same set give the same answer to every
  operation;
* **out_of_range_end_to_end**, **inverted_range_end_to_end** — a page outside the document,
  or an inverted range anywhere in the chain, is an error of every operation that selects pages;
* **options_commute** — the option calls are idempotent and commute with each other and with
  the page calls.
-/
namespace Tabula.C10E2E
open Tabula.PageSel Tabula.Builder

/-! ## what a chain of calls configures -/

/-- **chain_cfg**: the page list of `base.c₁…cₙ` is the base's list followed by the page
arguments of the calls in call order (`Pages` accumulates, a non-inverted `PageRange` is its
expansion, `Pages()` adds nothing); the chain is an error value iff the base was or some range
was inverted; format and file name are those of the base. -/
theorem chain_cfg (cs : List BCall) : ∀ e0 : Ext,
    (chainFrom e0 cs).opts.pages = e0.opts.pages ++ selOf cs ∧
    (chainFrom e0 cs).err = (e0.err || badRange cs) ∧
    (chainFrom e0 cs).format = e0.format ∧ (chainFrom e0 cs).hasFile = e0.hasFile :=
  chainFrom_cfg cs

/-- the set a chain denotes: `p` is selected iff some `Pages` call names it or some
`PageRange(s,t)` has `s ≤ p ≤ t` -/
theorem mem_selOf (cs : List BCall) (p : Int) :
    p ∈ selOf cs ↔ ∃ c ∈ cs, (∃ ps, c = .pages ps ∧ p ∈ ps) ∨ (∃ s t, c = .pageRange s t ∧ s ≤ p ∧ p ≤ t) := by
  rw [selOf_eq_flatMap, List.mem_flatMap]
  exact exists_congr fun c => and_congr_right fun _ => mem_selOf_one c p

def setsHeaders : BCall → Bool
  | .excludeHeaders | .excludeHeadersAndFooters => true
  | _ => false
def setsFooters : BCall → Bool
  | .excludeFooters | .excludeHeadersAndFooters => true
  | _ => false
def setsByColumn : BCall → Bool
  | .byColumn => true
  | _ => false
def setsLayout : BCall → Bool
  | .preserveLayout => true
  | _ => false
def setsJoin : BCall → Bool
  | .joinParagraphs => true
  | _ => false

/-- **options_commute**: each option of the chain is the base's option or-ed with "some call
of the chain sets it" — so option calls are idempotent, commute with each other and with the
page calls, and `ExcludeHeadersAndFooters` is `ExcludeHeaders` and `ExcludeFooters`. -/
theorem options_commute (cs : List BCall) : ∀ e0 : Ext,
    (chainFrom e0 cs).opts.excludeHeaders = (e0.opts.excludeHeaders || cs.any setsHeaders) ∧
    (chainFrom e0 cs).opts.excludeFooters = (e0.opts.excludeFooters || cs.any setsFooters) ∧
    (chainFrom e0 cs).opts.byColumn = (e0.opts.byColumn || cs.any setsByColumn) ∧
    (chainFrom e0 cs).opts.preserveLayout = (e0.opts.preserveLayout || cs.any setsLayout) ∧
    (chainFrom e0 cs).opts.joinParagraphs = (e0.opts.joinParagraphs || cs.any setsJoin) := by
  intro e0
  have h : (chainFrom e0 cs).opts = e0.opts.add (chainOpts cs) := congrArg Prod.fst (chainFrom_static cs e0)
  rw [h, chainOpts_eq]
  -- each `sets…` is the flag of `callOpts`
  refine ⟨?_, ?_, ?_, ?_, ?_⟩ <;>
    exact congrArg (_ || cs.any ·) (funext fun c => by cases c <;> rfl)

example : (chainFrom {} [.byColumn, .pages [2], .excludeHeadersAndFooters, .byColumn]).opts =
    (chainFrom {} [.excludeFooters, .excludeHeaders, .pages [2], .byColumn]).opts := by decide

/-! ## every terminal operation, end to end -/

/-- the frame of a terminal operation on a PDF chain whose file opens: builder error or the
selection rule -/
theorem pdf_chain_static (w : World) (k : Term) (cs : List BCall) (hw : w.openOk = true) :
    termStatic w k (chainFrom {} cs) =
      if badRange cs then .err else termBody w k (chainFrom {} cs).opts := by
  obtain ⟨_, herr, hfmt, hfile⟩ := chain_cfg cs {}
  rw [termStatic_pdf w k _ hfmt, herr, hfile, hw]
  rfl

/-- **selection_end_to_end** (frame): after ANY history `ops` on the family grown from
`Open(f)` for a PDF of `n` pages, an extractor built by the chain `cs` — page calls in any
order, with duplicates, ranges, empty `Pages()`, interleaved with any option calls — whose
calls are well-formed and denote pages inside the document, answers EVERY terminal operation
on exactly the pages of the denoted set, ascending. -/
theorem selection_end_to_end (w : World) (n : Nat) (hw : w.openOk = true) (hn : w.pageCount = some n)
    (ops : List Op) (i : Nat) (cs : List BCall) (hl : (lineage [[]] ops)[i]? = some cs)
    (hgood : badRange cs = false) (hne : selOf cs ≠ []) (hr : InRange (selOf cs) n) (k : Term) :
    (terminal w k (exec w openBase ops) i).2 = .pages (specPages (selOf cs) n) := by
  have h : (terminal w k (exec w openBase ops) i).2 = _ :=
    (C10Hist.answer_of_lineage w .pdf ops i cs hl).1 k
  rw [h, chain_answer w k _ cs n rfl rfl rfl hn, hgood, C10Life.resolve_valid _ n hne hr]
  simp [hw, List.isEmpty_eq_false_iff.mpr (C10Life.specPages_ne_nil _ n hne hr)]

/-- non-vacuity: a real history, a chain mixing ranges, duplicates and options -/
example : let w : World := ⟨true, some 5⟩
    let ops := [Op.nonTerm 0 .pageCount, .derive 0 (.pageRange 3 4), .term 0 .text, .derive 1 .byColumn,
      .derive 2 (.pages [4, 1, 4]), .close 0]
    (lineage [[]] ops)[3]? = some [.pageRange 3 4, .byColumn, .pages [4, 1, 4]] ∧
      badRange [.pageRange 3 4, .byColumn, .pages [4, 1, 4]] = false ∧
      selOf [.pageRange 3 4, .byColumn, .pages [4, 1, 4]] = [3, 4, 4, 1, 4] ∧
      ∀ k ∈ [Term.text, .fragments, .document, .lines, .analyze, .toMarkdown],
        (terminal w k (exec w openBase ops) 3).2 = .pages [0, 2, 3] := by decide

/-- **out_of_range_end_to_end**: a chain that names a page outside the document makes every
terminal operation fail, after any history. -/
theorem out_of_range_end_to_end (w : World) (n : Nat) (hw : w.openOk = true) (hn : w.pageCount = some n)
    (ops : List Op) (i : Nat) (cs : List BCall) (hl : (lineage [[]] ops)[i]? = some cs)
    (hne : selOf cs ≠ []) (hr : ¬ InRange (selOf cs) n) (k : Term) :
    (terminal w k (exec w openBase ops) i).2 = .err := by
  have h : (terminal w k (exec w openBase ops) i).2 = _ :=
    (C10Hist.answer_of_lineage w .pdf ops i cs hl).1 k
  rw [h, chain_answer w k _ cs n rfl rfl rfl hn, C10Life.resolve_invalid _ n hne hr]
  simp only [ite_self]

example : let w : World := ⟨true, some 3⟩
    let ops := [Op.derive 0 (.pages [2]), .nonTerm 1 .pageCount, .derive 1 (.pageRange 3 4)]
    (lineage [[]] ops)[2]? = some [.pages [2], .pageRange 3 4] ∧ ¬ InRange (selOf [.pages [2], .pageRange 3 4]) 3 ∧
      ∀ k ∈ [Term.text, .blocks, .chunks], (terminal w k (exec w openBase ops) 2).2 = .err := by
  refine ⟨by decide, ?_, by decide⟩
  intro h
  have := h 4 (by decide)
  omega

/-- **inverted_range_end_to_end**: an inverted `PageRange` anywhere in the chain makes every
terminal operation and every non-terminal one fail, whatever else the chain selects — it
never means "all pages". -/
theorem inverted_range_end_to_end (w : World) (ops : List Op) (i : Nat) (cs : List BCall)
    (hl : (lineage [[]] ops)[i]? = some cs) (hbad : badRange cs = true) :
    (∀ k : Term, (terminal w k (exec w openBase ops) i).2 = .err) ∧
    (∀ k : NonTerm, (nonTerminal w k (exec w openBase ops) i).2 = .err) := by
  have h := C10Hist.answer_of_lineage w .pdf ops i cs hl
  have hbase : openBaseF .pdf = openBase := rfl
  rw [hbase] at h
  obtain ⟨_, herr, hfmt, _⟩ := chain_cfg cs {}
  have hf : (chainFrom {} cs).format = .pdf := hfmt
  constructor
  · intro k
    rw [h.1 k, termStatic_pdf w k _ hf, herr, hbad]
    rfl
  · intro k
    rw [h.2 k]
    unfold nonTermStatic
    rw [herr, hbad]
    simp

example : badRange [.pages [1], .pageRange 3 2] = true ∧
    (terminal ⟨true, some 3⟩ .text (exec ⟨true, some 3⟩ openBase
      [.derive 0 (.pages [1]), .derive 1 (.pageRange 3 2)]) 2).2 = .err := by decide

/-- **spelling_irrelevant**: two extractors of one family — built in any history, by chains
that may differ in the order of the calls, in duplicates, in how ranges are cut up, in option
calls — that denote the same set of pages (and are both well-formed or both not) answer every
terminal operation on a PDF identically. -/
theorem spelling_irrelevant (w : World) (n : Nat) (hw : w.openOk = true) (hn : w.pageCount = some n)
    (ops : List Op) (i j : Nat) (cs₁ cs₂ : List BCall)
    (h₁ : (lineage [[]] ops)[i]? = some cs₁) (h₂ : (lineage [[]] ops)[j]? = some cs₂)
    (hset : ∀ p, p ∈ selOf cs₁ ↔ p ∈ selOf cs₂) (hbad : badRange cs₁ = badRange cs₂) (k : Term) :
    (terminal w k (exec w openBase ops) i).2 = (terminal w k (exec w openBase ops) j).2 := by
  have a₁ : (terminal w k (exec w openBase ops) i).2 = _ :=
    (C10Hist.answer_of_lineage w .pdf ops i cs₁ h₁).1 k
  have a₂ : (terminal w k (exec w openBase ops) j).2 = _ :=
    (C10Hist.answer_of_lineage w .pdf ops j cs₂ h₂).1 k
  rw [a₁, a₂, termStatic_chain_congr w k _ hset hbad]

example : let w : World := ⟨true, some 6⟩
    let ops := [Op.derive 0 (.pageRange 2 4), .derive 1 (.pages [2]), .derive 0 (.pages [4, 3]),
      .derive 3 .joinParagraphs, .derive 4 (.pages [3, 2])]
    (terminal w .paragraphs (exec w openBase ops) 2).2 = (terminal w .paragraphs (exec w openBase ops) 5).2 := by
  decide

/-! ## the results themselves -/

theorem fragmentsOf_spec {F : Type} (pg : Nat → Except E (List F)) (f : Nat → List F) (idx : List Nat)
    (h : ∀ k ∈ idx, pg k = .ok (f k)) : fragmentsOf pg idx = .ok (idx.map f).flatten :=
  fragmentsOf_ok pg f idx h

/-- **text_end_to_end**: `Open(f).c₁…cₙ.Text()` — and the same call on an extractor that was
built by those calls in the middle of any history — returns the texts of the pages of the
denoted set, in ascending page order, the non-empty ones joined by a blank line.  `f k` is
the text of page `k` under the chain's options. -/
theorem text_end_to_end (pg : Nat → Except E Str) (f : Nat → Str) (w : World) (n : Nat)
    (hw : w.openOk = true) (hn : w.pageCount = some n) (hpg : ∀ k, k < n → pg k = .ok (f k))
    (ops : List Op) (i : Nat) (cs : List BCall) (hl : (lineage [[]] ops)[i]? = some cs)
    (hgood : badRange cs = false) (hne : selOf cs ≠ []) (hr : InRange (selOf cs) n) :
    viaFrame (textOf pg) (terminal w .text (exec w openBase ops) i).2 =
      .ok (sep.intercalate (((specPages (selOf cs) n).map f).filter (· ≠ []))) ∧
    textCall pg w {} cs = .ok (sep.intercalate (((specPages (selOf cs) n).map f).filter (· ≠ []))) := by
  have hsel := selection_end_to_end w n hw hn ops i cs hl hgood hne hr .text
  have hstat : termStatic w .text (chainFrom {} cs) = .pages (specPages (selOf cs) n) := by
    exact ((C10Hist.answer_of_lineage w .pdf ops i cs hl).1 .text).symm.trans hsel
  have hok := textOf_ok pg f (specPages (selOf cs) n)
    (readable_specPages hpg _)
  constructor
  · rw [hsel]; exact hok
  · unfold textCall; rw [hstat]; exact hok

/-- **fragments_end_to_end**, **document_end_to_end**: the same for `Fragments` (the
concatenation of the per-page lists) and `Document` (page `i` of the result is the `i`-th
selected page and carries its true 1-based number; chunks inherit it). -/
theorem fragments_end_to_end {F : Type} (pg : Nat → Except E (List F)) (f : Nat → List F) (w : World)
    (n : Nat) (hw : w.openOk = true) (hn : w.pageCount = some n) (hpg : ∀ k, k < n → pg k = .ok (f k))
    (ops : List Op) (i : Nat) (cs : List BCall) (hl : (lineage [[]] ops)[i]? = some cs)
    (hgood : badRange cs = false) (hne : selOf cs ≠ []) (hr : InRange (selOf cs) n) :
    viaFrame (fragmentsOf pg) (terminal w .fragments (exec w openBase ops) i).2 =
      .ok ((specPages (selOf cs) n).map f).flatten := by
  rw [selection_end_to_end w n hw hn ops i cs hl hgood hne hr .fragments]
  exact fragmentsOf_ok pg f _ (readable_specPages hpg _)

theorem document_end_to_end (w : World) (n : Nat) (hw : w.openOk = true) (hn : w.pageCount = some n)
    (ops : List Op) (i : Nat) (cs : List BCall) (hl : (lineage [[]] ops)[i]? = some cs)
    (hgood : badRange cs = false) (hne : selOf cs ≠ []) (hr : InRange (selOf cs) n) :
    viaFrame documentOf (terminal w .document (exec w openBase ops) i).2 =
      .ok ((specPages (selOf cs) n).map fun k => (⟨k + 1, k⟩ : MPage)) ∧
    (viaFrame documentOf (terminal w .chunks (exec w openBase ops) i).2).map chunkPages =
      .ok ((specPages (selOf cs) n).map fun k => (k, k + 1, k + 1)) := by
  have hne' := C10Life.specPages_ne_nil _ n hne hr
  constructor
  · rw [selection_end_to_end w n hw hn ops i cs hl hgood hne hr .document]
    exact documentOf_ok _ hne'
  · rw [selection_end_to_end w n hw hn ops i cs hl hgood hne hr .chunks]
    simp only [viaFrame]
    rw [documentOf_ok _ hne']
    simp [Except.map, chunkPages, List.map_map, Function.comp_def]

example : textCall (fun k => .ok [65 + k]) ⟨true, some 4⟩ {} [.pages [4, 2], .excludeHeaders, .pageRange 2 2]
    = .ok [66, 10, 10, 68] := by decide

/-! ## the same for an extractor family grown from `FromReader(r)` -/

/-- the base record of `FromReader(r)` -/
abbrev lent : Ext := { hasFile := false, reader := some 0, owns := false, opened := true }

/-- **selection_end_to_end_reader**: the selection rule after ANY history on a family grown from
`FromReader(r)` — the caller's reader is never closed by the family, so every extractor answers
every terminal operation, any number of times, on exactly the pages of the set its chain denotes;
a page outside the document is an error. -/
theorem selection_end_to_end_reader (w : World) (n : Nat) (hn : w.pageCount = some n)
    (ops : List Op) (i : Nat) (cs : List BCall) (hl : (lineage [[]] ops)[i]? = some cs)
    (hgood : badRange cs = false) (hne : selOf cs ≠ []) (k : Term) :
    (InRange (selOf cs) n → (terminal w k (exec w readerBase ops) i).2 = .pages (specPages (selOf cs) n)) ∧
    (¬ InRange (selOf cs) n → (terminal w k (exec w readerBase ops) i).2 = .err) := by
  rw [C10Hist.answer_of_lineage_reader w ops i cs hl k, chain_answer w k _ cs n rfl rfl rfl hn, hgood]
  refine ⟨fun hr => ?_, fun hr => ?_⟩
  · rw [C10Life.resolve_valid _ n hne hr]
    simp [List.isEmpty_eq_false_iff.mpr (C10Life.specPages_ne_nil _ n hne hr)]
  · rw [C10Life.resolve_invalid _ n hne hr]; rfl

example : let w : World := ⟨false, some 4⟩
    let ops := [Op.derive 0 (.pages [3, 1]), .term 1 .text, .term 1 .text, .close 1, .derive 1 (.pageRange 1 2)]
    (lineage [[]] ops)[2]? = some [.pages [3, 1], .pageRange 1 2] ∧
    (terminal w .document (exec w readerBase ops) 2).2 = .pages [0, 1, 2] ∧
    (terminal w .text (exec w readerBase ops) 1).2 = .pages [0, 2] := by decide

end Tabula.C10E2E
