import TabulaModel.Lemmas.A1Range
import TabulaModel.Props.C17
/-!
# C17, the reference codec — the other direction and ranges

`Props/C17.lean` has `ColumnToIndex ∘ IndexToColumn = id`, `IndexToColumn ∘ ColumnToIndex = id` on
upper-case letter strings and `ParseCellRef ∘ CellRef = id`.  Here: `CellRef ∘ ParseCellRef = id`
on canonical references, injectivity, and `ParseRangeRef`.
-/
namespace Tabula.C17C
open Tabula.A1 Tabula.C17

/-- a canonical reference — upper-case column letters, then a row number printed without sign or
leading zero — parses to its column index and row, if the column number is within the bound
`ColumnToIndex` enforces (`colNumber ls ≤ 2^40`; `colNumber_short`: up to eight letters) -/
theorem parse_canonical (ls : Str) (n : Nat) (hls : IsUpperCol ls) (hne : ls ≠ [])
    (hb : colNumber ls ≤ maxColumnNumber) (h1 : 1 ≤ n) (hmax : n ≤ maxInt64) :
    parseCellRef (ls ++ dec n) = .ok (columnToIndex ls, (n : Int) - 1) := by
  obtain ⟨d, ds, hd, hdig⟩ := dec_head n
  have hr1 := (colAcc_upper ls hls).2.1 hne
  rw [hd, parseCellRef_letters_append ls d ds (fun c hc => isLetter_of_upperLetter (hls c hc)) hne
    (isLetter_of_digit hdig), ← hd, atoi_dec n hmax, col_to_index_spec ls hls, if_pos hb, if_neg (by omega)]
  exact if_neg (by omega)

/-- beyond the column bound a canonical reference is an invalid reference -/
theorem parse_canonical_beyond_bound (ls : Str) (n : Nat) (hls : IsUpperCol ls) (hne : ls ≠ [])
    (hb : maxColumnNumber < colNumber ls) :
    parseCellRef (ls ++ dec n) = .error .badCol := by
  obtain ⟨d, ds, hd, hdig⟩ := dec_head n
  rw [hd, parseCellRef_letters_append ls d ds (fun c hc => isLetter_of_upperLetter (hls c hc)) hne
    (isLetter_of_digit hdig), col_string_beyond_bound ls hls hb]
  rfl

/-- **`CellRef ∘ ParseCellRef = id` on canonical references** whose column is within the bound:
with `cellref_roundtrip` the conversion is a bijection between non-negative (column,row) pairs
with column number up to 2^40 and such canonical A1 strings -/
theorem cellref_roundtrip_string (ls : Str) (n : Nat) (hls : IsUpperCol ls) (hne : ls ≠ [])
    (hb : colNumber ls ≤ maxColumnNumber) (h1 : 1 ≤ n) (hmax : n ≤ maxInt64) :
    ∃ c r, parseCellRef (ls ++ dec n) = .ok (c, r) ∧ cellRef c r = ls ++ dec n := by
  refine ⟨columnToIndex ls, (n : Int) - 1, parse_canonical ls n hls hne hb h1 hmax, ?_⟩
  unfold cellRef
  rw [col_bijection_string ls hls hne hb]
  congr 1
  unfold decInt
  have e : (n : Int) - 1 + 1 = n := by omega
  rw [e]
  have : ¬ ((n : Int) < 0) := by omega
  simp [this]

/-- every reference `CellRef` prints is canonical: letters `A`–`Z`, then digits -/
theorem cellref_canonical (col row : Nat) :
    ∃ ls, IsUpperCol ls ∧ ls ≠ [] ∧ cellRef (col : Int) (row : Int) = ls ++ dec (row + 1) :=
  ⟨toColAux (col + 1) [], toColAux_letters _, toColAux_ne_nil _ (by omega), cellRef_nat col row⟩

/-- distinct positions have distinct references — for all non-negative pairs, whatever their size
(proved from the printed strings, so the bound of the parser plays no part) -/
theorem cellref_injective (c1 r1 c2 r2 : Nat)
    (h : cellRef (c1 : Int) (r1 : Int) = cellRef (c2 : Int) (r2 : Int)) : c1 = c2 ∧ r1 = r2 := by
  rw [cellRef_nat, cellRef_nat] at h
  obtain ⟨d1, ds1, hd1, a1, b1⟩ := dec_head (r1 + 1)
  obtain ⟨d2, ds2, hd2, a2, b2⟩ := dec_head (r2 + 1)
  have t1 := takeWhile_letters_append (toColAux (c1 + 1) []) d1 ds1 (toColAux_letters _) ⟨a1, b1⟩
  have t2 := takeWhile_letters_append (toColAux (c2 + 1) []) d2 ds2 (toColAux_letters _) ⟨a2, b2⟩
  rw [hd1, hd2] at h
  have hcols : toColAux (c1 + 1) [] = toColAux (c2 + 1) [] := by rw [← t1.1, h, t2.1]
  have hrows : dec (r1 + 1) = dec (r2 + 1) := by rw [hd1, hd2, ← t1.2, h, t2.2]
  have e1 := colVal_toColAux (c1 + 1)
  rw [hcols, colVal_toColAux] at e1
  have e2 := dec_injective hrows
  simp only [Option.some.injEq] at e1
  omega

/-- **`ParseRangeRef`** of two printed references joined by a colon gives the four coordinates
back (start column, start row, end column, end row) — columns within the bound of
`ColumnToIndex`, rows in int64 range -/
theorem range_roundtrip (c1 r1 c2 r2 : Nat) (hc1 : c1 + 1 ≤ maxColumnNumber) (hc2 : c2 + 1 ≤ maxColumnNumber)
    (h1 : r1 + 1 ≤ maxInt64) (h2 : r2 + 1 ≤ maxInt64) :
    parseRangeRef (cellRef (c1 : Int) (r1 : Int) ++ 58 :: cellRef (c2 : Int) (r2 : Int)) =
      .ok ((c1 : Int), (r1 : Int), (c2 : Int), (r2 : Int)) := by
  unfold parseRangeRef
  rw [splitOnColon_pair _ _ (cellRef_no_colon c1 r1) (cellRef_no_colon c2 r2)]
  simp only [cellref_roundtrip c1 r1 hc1 h1, cellref_roundtrip c2 r2 hc2 h2]

/-- a range with an end beyond the column bound is no range (the `<mergeCell>` is dropped) -/
theorem range_beyond_bound (c1 r1 c2 r2 : Nat) (hc1 : c1 + 1 ≤ maxColumnNumber) (hc2 : maxColumnNumber < c2 + 1)
    (h1 : r1 + 1 ≤ maxInt64) (h2 : r2 + 1 ≤ maxInt64) :
    parseRangeRef (cellRef (c1 : Int) (r1 : Int) ++ 58 :: cellRef (c2 : Int) (r2 : Int)) = .error .badCol := by
  unfold parseRangeRef
  rw [splitOnColon_pair _ _ (cellRef_no_colon c1 r1) (cellRef_no_colon c2 r2)]
  simp only [cellref_roundtrip c1 r1 hc1 h1, cellref_beyond_bound c2 r2 hc2 h2]

/-- a reference without a colon is not a range (two and more colons: `C17T.range_two_colons`) -/
theorem range_needs_one_colon (a : Str) (ha : 58 ∉ a) : parseRangeRef a = .error .badRange :=
  parseRangeRef_of_count_ne a (by rw [List.count_eq_zero.mpr ha]; decide)

/-- non-vacuity: the hypotheses hold for "AB" and row 12, and for the pairs (0,0), (2,2) -/
example : ∃ c r, parseCellRef ([65, 66] ++ dec 12) = .ok (c, r) ∧ cellRef c r = [65, 66] ++ dec 12 :=
  cellref_roundtrip_string [65, 66] 12 (by intro c hc; simp at hc; omega) (by simp) (by decide) (by omega) (by decide)

example : parseRangeRef (cellRef (0 : Nat) (0 : Nat) ++ 58 :: cellRef (2 : Nat) (2 : Nat)) = .ok (0, 0, 2, 2) :=
  range_roundtrip 0 0 2 2 (by decide) (by decide) (by decide) (by decide)

/-- non-vacuity of the beyond-bound theorems: fourteen letters, and the index 2^40 -/
example : parseCellRef ([67, 82, 80, 88, 78, 76, 83, 75, 86, 76, 74, 70, 72, 72] ++ dec 1) = .error .badCol :=
  parse_canonical_beyond_bound _ 1 (by intro c hc; simp at hc; omega) (by simp) (by decide)

example : (0 : Nat) + 1 ≤ maxColumnNumber ∧ maxColumnNumber < (1099511627776 : Nat) + 1 := by decide

end Tabula.C17C
