import TabulaModel.Lemmas.CMapRoundtrip
/-! # C07 — how the target of a bfchar entry / array element is read (`font.hexToUnicode`, `decodeUTF16BE` of cmap.go)

For all inputs of each class (the tie to tabula: ops `c07.h2u`, `c07.cu16` on generated and
malformed tokens):

* `target_hex_total` — what `hexToUnicode` returns on the hex text (upper or lower case) of ANY
  byte string: a leading FE FF is stripped, two bytes or more are UTF-16BE (odd length = error,
  the entry is skipped), one byte is the character of that number, nothing is an error.
* `target_with_bom` — a target written with an explicit byte-order mark decodes to ANY scalar
  string (the empty one and one that starts with U+FEFF included — the assumption "targets do
  not start with U+FEFF" of `C07CMap.cmap_roundtrip` is only about targets written without one).
* `target_one_byte`, `target_ws` (white space anywhere inside a hex token is ignored).
* `target_decoder_vs_std` / `target_decoder_unpaired` — the target decoder of cmap.go and Go's
  `utf16.Decode` (used for the multi-unit targets of offset ranges) agree on every code-unit
  string in which every high surrogate is followed by a low one (every well-formed string; stray
  low surrogates allowed); where a high surrogate is followed by a unit that is no low surrogate,
  both write U+FFFD, cmap.go drops that unit and `utf16.Decode` reads it again. (Such targets are not UTF-16; the property does not speak about them.)
-/
namespace Tabula.C07Target
open Tabula.UTF16 Tabula.CMap
open Tabula.CMapTarget (HighsPaired)

theorem target_hex_total (upper : Bool) (bs : List Nat) : AllBytes bs →
    hexToUnicode (hexOfBytesP upper bs) =
      match bs with
      | 0xFE :: 0xFF :: rest => cmapDecodeUTF16BE rest
      | _ :: _ :: _ => cmapDecodeUTF16BE bs
      | [b] => some [toRune b]
      | [] => none :=
  hexToUnicode_hexOfBytesP upper bs

theorem target_with_bom (upper : Bool) (t : List Nat) (ht : ∀ c ∈ t, IsScalar c) :
    hexToUnicode (hexOfBytesP upper (0xFE :: 0xFF :: bytesBE (encodeUnits t))) = some t := by
  have hbytes : AllBytes (bytesBE (encodeUnits t)) := bytesBE_bytes _ (encodeUnits_lt t ht)
  have hall : AllBytes (0xFE :: 0xFF :: bytesBE (encodeUnits t)) := by
    intro b hb
    simp only [List.mem_cons] at hb
    rcases hb with hb | hb | hb
    · omega
    · omega
    · exact hbytes b hb
  rw [hexToUnicode_hexOfBytesP _ _ hall]
  simp only
  rw [cmapDecodeUTF16BE_bytesBE, cmapDecodeUnits_encodeUnits _ ht]

theorem target_one_byte (upper : Bool) (b : Nat) (hb : b < 256) :
    hexToUnicode (hexOfBytesP upper [b]) = some [b] := by
  have hall : AllBytes [b] := by
    intro x hx
    simp only [List.mem_singleton] at hx
    omega
  rw [hexToUnicode_hexOfBytesP _ _ hall]
  simp only
  rw [toRune_scalar b (Or.inl (by omega))]

theorem target_ws (h h' : Str)
    (he : h.filter (fun c => !(c = 32 || c = 9 || c = 10 || c = 13)) = h'.filter (fun c => !(c = 32 || c = 9 || c = 10 || c = 13))) :
    hexToUnicode h = hexToUnicode h' := by
  unfold hexToUnicode
  simp only [he]

theorem target_decoder_vs_std (us : List Nat) (h : HighsPaired us) : cmapDecodeUnits us = stdDecodeUnits us := by
  fun_induction cmapDecodeUnits us
  case case1 => rfl
  case case2 => rfl
  case case3 u l rest hu hl ih =>
    simp only [HighsPaired, hu, if_true] at h
    rw [stdDecodeUnits, hu, hl, ih h.2]
    rfl
  case case4 u l rest hu hl ih =>
    simp only [HighsPaired, hu, if_true] at h
    exact absurd h.1 hl
  case case5 u l rest hu ih =>
    simp only [HighsPaired, hu, Bool.false_eq_true, if_false] at h
    rw [stdDecodeUnits, ih h]
    simp only [hu, Bool.false_and, Bool.false_eq_true, if_false]

theorem target_decoder_unpaired (u l : Nat) (rest : List Nat) (hu : isHigh u = true) (hl : isLow l = false) :
    cmapDecodeUnits (u :: l :: rest) = 0xFFFD :: cmapDecodeUnits rest ∧
    stdDecodeUnits (u :: l :: rest) = 0xFFFD :: stdDecodeUnits (l :: rest) := by
  constructor
  · simp only [cmapDecodeUnits, hu, hl, if_true, Bool.false_eq_true, if_false, toRune_surrogate u (Or.inl hu)]
  · simp only [stdDecodeUnits, hu, hl, Bool.and_false, Bool.false_eq_true, if_false, toRune_surrogate u (Or.inl hu)]

/-- satisfiable: a pair, a stray low surrogate, a high surrogate at the very end; `<FEFF FEFF 0041>` -/
example : HighsPaired [0xD835, 0xDC00, 0xDC00, 0x41, 0xD800] ∧ ¬ HighsPaired [0xD800, 0x41] ∧
    hexToUnicode (hexOfBytesP false (0xFE :: 0xFF :: bytesBE (encodeUnits [0xFEFF, 0x41]))) = some [0xFEFF, 0x41] := by
  refine ⟨?_, ?_, by decide⟩
  · simp [HighsPaired, isHigh, isLow]
  · simp [HighsPaired, isHigh, isLow]

end Tabula.C07Target
