import TabulaModel.Lemmas.DocxRender
import TabulaModel.Props.C16
/-!
# C16 — the DOCX reader's public views present the body in document order

Theorems about `Model/DocxRender.lean` (`TextWithOptions`, `MarkdownWithOptions`,
`MarkdownWithRAGOptions`, `Document`), and their composition with `body_interleave`
into the end-to-end statement of the property over the public API's model: from the
authored tree of word/document.xml to the plain text, the Markdown and the document model.
-/
namespace Tabula.C16Render
open Tabula.Xml Tabula.Docx Tabula.Render

/-- **docx_text_pieces**. `TextWithOptions` is one piece per element of the reader, in the
reader's order, joined by newlines. -/
theorem docx_text_pieces (rd : Reader) (opts : ExtractOptions) :
    textWithOptions rd opts = joinWith [10] (textPieces rd opts (rd.elements.map (·.1)) [])
    ∧ (textPieces rd opts (rd.elements.map (·.1)) []).length = rd.elements.length := by
  refine ⟨rfl, ?_⟩
  rw [textPieces_length]; simp

/-- **docx_text_in_order**. The plain text shows, one after the other and without overlap,
the text of every paragraph that is not excluded and every cell of every table (row by row),
in the order of the reader's elements - whatever the options, the numbering and the list
counters. -/
theorem docx_text_in_order (rd : Reader) (opts : ExtractOptions) :
    InOrder ((rd.elements.map (·.1)).map (textTexts rd opts)).flatten (textWithOptions rd opts) :=
  inOrder_joinWith [10] _ _ (textPieces_pieces rd opts _ _)

/-- **docx_text_list_nesting**. A list item is written as two spaces per level, its bullet or
number, and its text; any other paragraph as its text alone. -/
theorem docx_text_list_nesting (nm : Numbering) (p : Para) (cs : Counters) :
    (∀ numId level, p.list = some (numId, level) →
      (writeParagraphText nm p cs).1 = indent level ++ textMarker nm numId level cs ++ p.text)
    ∧ (p.list = none → (writeParagraphText nm p cs).1 = p.text) := by
  refine ⟨fun numId level h => writeParagraphText_item nm p cs numId level h, fun h => ?_⟩
  rw [writeParagraphText_plain nm p cs h]

example : (indent 2).length = 4 := by decide

/-- **docx_markdown_in_order**. The Markdown buffer shows, in the order of the reader's
elements, the text of every paragraph that is not excluded (heading, list item or plain)
and the text of every own cell of every table, row by row. -/
theorem docx_markdown_in_order (rd : Reader) (opts : ExtractOptions) (o : MdOptions) :
    InOrder ((rd.elements.map (·.1)).map (mdTexts rd opts)).flatten (markdownRaw rd opts o) := by
  obtain ⟨chunk, hc, ho⟩ := mdLoop_chunk rd opts o (rd.elements.map (·.1)) 0
    { out := [], inList := false, lastNumId := [], cs := [] }
  unfold markdownRaw
  rw [hc]
  simpa using ho

/-- **docx_markdown_trim**. What `MarkdownWithRAGOptions` returns is that buffer with newlines
cut at its two ends and nothing else (the indentation of a leading nested item stays); that ALL
newlines at the ends are cut is not stated. -/
theorem docx_markdown_trim (rd : Reader) (opts : ExtractOptions) (o : MdOptions) :
    ∃ a b, markdownRaw rd opts o = a ++ markdownWithRAGOptions rd opts o ++ b ∧ (∀ c ∈ a, c = 10) ∧ (∀ c ∈ b, c = 10) :=
  trimNL_split _

/-- In the model `Markdown()` and `MarkdownWithOptions` ARE `MarkdownWithRAGOptions` without offset
and cap, by definition. (docx/reader.go writes the loop twice; the two copies differ in the
heading-level lines only, which agree at offset 0 without cap.) -/
theorem docx_markdown_is_rag_default (rd : Reader) (opts : ExtractOptions) :
    markdownWithOptions rd opts = markdownWithRAGOptions rd opts {} ∧ markdown rd = markdownWithRAGOptions rd {} {} :=
  ⟨rfl, rfl⟩

/-- **docx_md_heading_line**. A heading that is not excluded is written as `#` repeated
`mdHeadingLevel` times, a space, its text and a blank line, after what was written before
(and the blank line that ends a list). -/
theorem docx_md_heading_line (rd : Reader) (opts : ExtractOptions) (o : MdOptions) (i : Nat) (p : Para) (l : Nat) (s : MdState)
    (hex : excluded opts rd.headerTexts rd.footerTexts p.text = false) (hh : p.heading = some l) :
    ∃ sep, (sep = [] ∨ sep = [10]) ∧
      (mdStep rd opts o i (.para p) s).out = s.out ++ sep ++ repeatStr [35] (mdHeadingLevel o l) ++ [32] ++ p.text ++ [10, 10] := by
  simp only [mdStep, hex, Bool.false_eq_true, if_false, hh]
  cases decide (i > 0) && s.out != [] && s.inList && (!p.list.isSome || (p.list.map (·.1)).getD [] != s.lastNumId)
  · exact ⟨[], Or.inl rfl, by rw [List.append_nil]; rfl⟩
  · exact ⟨[10], Or.inr rfl, rfl⟩

/-- the number of `#`: between 1 and 6; without options the heading's level, capped at 6 -/
theorem docx_md_heading_level (o : MdOptions) (l : Nat) :
    (1 ≤ mdHeadingLevel o l ∧ mdHeadingLevel o l ≤ 6) ∧ mdHeadingLevel {} l = min (max l 1) 6 :=
  ⟨mdHeadingLevel_range o l, mdHeadingLevel_default l⟩

/-- **docx_md_item_line**. A list item that is no heading and not excluded is written as a line
of its own: two spaces per level, `- ` or its number and `. `, its text. -/
theorem docx_md_item_line (rd : Reader) (opts : ExtractOptions) (o : MdOptions) (i : Nat) (p : Para) (numId : Str) (level : Nat)
    (s : MdState) (hex : excluded opts rd.headerTexts rd.footerTexts p.text = false)
    (hh : p.heading = none) (hl : p.list = some (numId, level)) :
    ∃ sep cs, (sep = [] ∨ sep = [10]) ∧
      (mdStep rd opts o i (.para p) s).out = s.out ++ sep ++ indent level ++ mdMarker rd.numbering numId level cs ++ p.text ++ [10] := by
  simp only [mdStep, hex, Bool.false_eq_true, if_false, hh, hl, mdListItem_line]
  split
  · exact ⟨[10], s.cs, Or.inr rfl, by simp only [List.append_assoc]⟩
  · exact ⟨[], s.cs, Or.inl rfl, by simp only [List.append_nil, List.append_assoc]⟩

/-- the marker is `- ` or a decimal number followed by `. ` -/
theorem docx_md_marker (nm : Numbering) (numId : Str) (level : Nat) (cs : Counters) :
    mdMarker nm numId level cs = [45, 32] ∨ ∃ n : Int, mdMarker nm numId level cs = intToDec n ++ [46, 32] := by
  unfold mdMarker
  simp only
  split
  · exact Or.inr ⟨_, rfl⟩
  · exact Or.inl rfl

/-- **docx_document_flatten**. The page `Document()` builds, with its lists taken apart into
their items, is the reader's elements in order: a paragraph without text is left out, a list
item keeps its level and text, a heading its level and text, a plain paragraph its text, a
table its grid (`ToModelTable`; a table without rows is left out). -/
theorem docx_document_flatten (rd : Reader) : flattenDoc (document rd) = rd.elements.filterMap entryOf := by
  unfold document
  rw [flattenDoc_finalize, docLoop_flat]
  simp [flatState, flattenDoc]

/-- a cell at least one column wide starts inside the widest row -/
theorem startCol_lt_colCount (rows : List (List Cell)) (r i : Nat) (row : List Cell) (c : Cell)
    (hr : rows[r]? = some row) (hc : row[i]? = some c) (hw : 1 ≤ c.colSpan) :
    startCol (fun c : Cell => c.colSpan) row i < colCount rows :=
  startCol_lt_width _ rows r i row c hr hc hw

/-- **docx_model_table_cell**. In the table `ToModelTable` hands to the document model, the
cell number `i` of parsed row `r` that is no merge continuation and at least one column wide
stands at row `r`, column = the grid spans of the cells before it in its row added up, with
its text (the cell's paragraphs joined), its row span and its column span - provided it
starts inside the grid (`w:tblGrid` may declare fewer columns; without `w:tblGrid` it always does). -/
theorem docx_model_table_cell (rows : List (List Cell)) (gridCols r i : Nat) (row : List Cell) (c : Cell)
    (hr : rows[r]? = some row) (hc : row[i]? = some c) (hcont : c.cont = false) (hw : 1 ≤ c.colSpan)
    (hcc : gridCols = 0 ∨ startCol (fun c : Cell => c.colSpan) row i < gridCols) :
    ((toModelTable rows gridCols)[r]?).bind (·[startCol (fun c : Cell => c.colSpan) row i]?)
      = some { text := c.text, rowSpan := c.rowSpan, colSpan := c.colSpan } := by
  have hne : rows ≠ [] := by intro h; rw [h] at hr; simp at hr
  unfold toModelTable
  simp only [hne, if_false]
  have hlt : startCol (fun c : Cell => c.colSpan) row i < (if gridCols ≠ 0 then gridCols else colCount rows) := by
    by_cases hg : gridCols = 0
    · simp only [hg, ne_eq, not_true_eq_false, if_false]
      exact startCol_lt_colCount rows r i row c hr hc hw
    · simp only [hg, ne_eq, not_false_eq_true, if_true]
      cases hcc with
      | inl h => exact absurd h hg
      | inr h => exact h
  exact model_grid_cell (fun c : Cell => c.colSpan) (fun c : Cell => c.cont) mcellOf _ rows r i row c hr hc hcont hw hlt

/-- every cell of a parsed DOCX table is 1..1024 columns wide (after `limitTableGrid` and the
vertical-merge pass too: a span is the authored one, which is bounded, or reset to 1) -/
theorem parseTable_span_pos (tbl : Node) (row : List Cell) (c : Cell) (hrow : row ∈ parseTable tbl) (hc : c ∈ row) :
    1 ≤ c.colSpan ∧ c.colSpan ≤ 1024 := by
  have hg := C16.table_grid_any tbl
  have h1 : row.map strip ∈ stripRows (parseTable tbl) := List.mem_map_of_mem hrow
  rw [hg] at h1
  obtain ⟨row0, hrow0, hr0⟩ := List.mem_map.mp h1
  have h2 : strip c ∈ row.map strip := List.mem_map_of_mem hc
  rw [← hr0] at h2
  obtain ⟨c0, hc0, hc0e⟩ := List.mem_map.mp h2
  have hspan : c0.colSpan = c.colSpan := congrArg (fun t : Str × Nat × Bool => t.2.1) hc0e
  rw [← hspan]
  -- the span is the authored one, which is bounded, or reset to 1
  exact Grid.limit_forall spans (fun c => 1 ≤ c.colSpan ∧ c.colSpan ≤ 1024) (fun _ _ => ⟨Nat.le_refl 1, show 1 ≤ 1024 by decide⟩) _ _
    (fun r hr c hc => by obtain ⟨tc, rfl⟩ := mem_parseRows hr hc; exact C16.docx_span_bounded tc) row0 hrow0 c0 hc0

/-- non-vacuity: a 2x3 table, first row one cell two columns wide and a plain cell, second row a
continuation under the wide cell and a plain cell; the document model's grid -/
example :
    let c (t : Str) (cs rs : Nat) (cont : Bool) : Cell := { text := t, colSpan := cs, rowSpan := rs, cont := cont }
    toModelTable [[c [65] 2 2 false, c [66] 1 1 false], [c [] 2 1 true, c [67] 1 1 false]] 0
      = [[⟨[65], 2, 2⟩, blankCell, ⟨[66], 1, 1⟩], [blankCell, blankCell, ⟨[67], 1, 1⟩]] := by decide +kernel

theorem excluded_default (hdr ftr : List Str) (t : Str) : excluded {} hdr ftr t = false := by
  unfold excluded Tabula.HF.shouldExcludeParagraph
  simp

theorem textPieces_default_headers (rd rd' : Reader) (hn : rd.numbering = rd'.numbering) :
    ∀ (els : List Elem) (cs : Counters), textPieces rd {} els cs = textPieces rd' {} els cs := by
  intro els
  induction els with
  | nil => intro cs; rfl
  | cons e rest ih =>
    intro cs
    have hp : textPiece rd {} e cs = textPiece rd' {} e cs := by
      cases e with
      | para p => simp only [textPiece, excluded_default, Bool.false_eq_true, if_false, hn]
      | table rows => rfl
    simp only [textPieces, hp, ih]

theorem mdLoop_default_headers (rd rd' : Reader) (hn : rd.numbering = rd'.numbering) (o : MdOptions) :
    ∀ (els : List Elem) (i : Nat) (s : MdState), mdLoop rd {} o els i s = mdLoop rd' {} o els i s :=
  mdLoop_congr_step rd rd' {} {} o o fun i e s => by
    cases e with
    | para p => simp only [mdStep, excluded_default, Bool.false_eq_true, if_false, hn]
    | table rows => rfl

/-- **docx_headers_never_leak**. With the default options the plain text, the Markdown and
the document model of a package are those of the same package without any header or footer
part: whatever the parts contain, nothing of it reaches the body. -/
theorem docx_headers_never_leak (doc : Node) (styles numbering : Option Node) (headers footers : List Node) (o : MdOptions) :
    text (openReader doc styles numbering headers footers) = text (openReader doc styles numbering [] [])
    ∧ markdownWithRAGOptions (openReader doc styles numbering headers footers) {} o
        = markdownWithRAGOptions (openReader doc styles numbering [] []) {} o
    ∧ document (openReader doc styles numbering headers footers) = document (openReader doc styles numbering [] []) := by
  have he : (openReader doc styles numbering headers footers).elements = (openReader doc styles numbering [] []).elements := rfl
  have hn : (openReader doc styles numbering headers footers).numbering = (openReader doc styles numbering [] []).numbering := rfl
  refine ⟨?_, ?_, rfl⟩
  · unfold text textWithOptions
    rw [he, textPieces_default_headers _ _ hn]
  · unfold markdownWithRAGOptions markdownRaw
    rw [he, mdLoop_default_headers _ _ hn]

/-- the texts a body element shows with the default options -/
def shownText (st : Styles) (n : Node) : List Str :=
  if n.loc == sTbl then tableTextCells (rrows (parseTable n)) else [(processParagraph st n).text]

/-- **docx_reader_end_to_end**. For every document tree whose root holds one `body`, every styles,
numbering, header and footer part: the reader's elements are the `w:p` / `w:tbl` elements at
the block level of the body - its direct children and the blocks inside block-level containers
(`w:sdt` / `w:sdtContent`, `w:customXml`, nested to any depth; `C16.bodyBlocks`,
`C16.body_container_transparent`), each at the place of its container - in source order, each
processed by itself; `Text()` shows their texts (paragraph
texts = runs and inline content in source order, `para_inline_order`; cell texts row by row)
in that order; so does the Markdown buffer, of which `Markdown()` cuts only newlines at the
ends; and the page of `Document()`, lists taken apart, is these elements in that order with
their heading levels, list levels and table grids. (About the reader `Open` builds when it
succeeds; `docx_end_to_end` below says when it does.) -/
theorem docx_reader_end_to_end (docTag bodyTag : Str) (da ba : List (Str × Str)) (pre kids post : List Node)
    (styles numbering : Option Node) (headers footers : List Node)
    (hdoc : localName docTag ≠ sBody) (hbody : localName bodyTag = sBody)
    (hpre : noBodyList pre = true) (hpost : noBodyList post = true) :
    let rd := openReader (.elem docTag da (pre ++ [.elem bodyTag ba kids] ++ post)) styles numbering headers footers
    let body := C16.bodyBlocks kids
    rd.elements = body.map (fun n => (processElement (stylesOf styles) n, gridColsOf n))
    ∧ InOrder (body.map (shownText (stylesOf styles))).flatten (text rd)
    ∧ InOrder ((body.map (processElement (stylesOf styles))).map (mdTexts rd {})).flatten (markdownRaw rd {} {})
    ∧ (∃ a b, markdownRaw rd {} {} = a ++ markdown rd ++ b ∧ (∀ c ∈ a, c = 10) ∧ (∀ c ∈ b, c = 10))
    ∧ flattenDoc (document rd) = (body.map (fun n => (processElement (stylesOf styles) n, gridColsOf n))).filterMap entryOf := by
  intro rd body
  have hels : rd.elements = body.map (fun n => (processElement (stylesOf styles) n, gridColsOf n)) := by
    show (openReader _ styles numbering headers footers).elements = _
    unfold openReader
    simp only
    rw [C16.body_interleave docTag bodyTag da ba pre kids post hdoc hbody hpre hpost]
  have hfst : rd.elements.map (·.1) = body.map (processElement (stylesOf styles)) := by
    rw [hels]; simp [List.map_map, Function.comp_def]
  refine ⟨hels, ?_, ?_, docx_markdown_trim rd {} {}, ?_⟩
  · have := docx_text_in_order rd {}
    rw [hfst] at this
    have hshown : (body.map (processElement (stylesOf styles))).map (textTexts rd {}) = body.map (shownText (stylesOf styles)) := by
      rw [List.map_map]
      apply List.map_congr_left
      intro n _
      simp only [Function.comp, processElement, shownText]
      split
      · rfl
      · simp [textTexts, excluded_default]
    rw [hshown] at this
    exact this
  · have := docx_markdown_in_order rd {} {}
    rw [hfst] at this
    exact this
  · rw [docx_document_flatten, hels]

/-- **docx_end_to_end**. RESTATED (was: for every document tree with one body; the statement
of `docx_reader_end_to_end`): `paragraphXML.decodeContent` now refuses the 10001st level of
nested inline containers, `decodeBlocks` the 10001st level of nested block containers, and
`docx.Open` then fails. With `hdec` - every paragraph `xml.Unmarshal` decodes (body paragraphs,
paragraphs of the cells of body tables) nests its inline containers at most `maxInlineDepth` =
10000 deep, and the block containers of the body and of every decoded cell nest at most that
deep (`documentDecodes`, decidable; `C16Bounds.docx_open_iff_depth`) - `Open` succeeds and the
reader presents the body as stated. Beyond the bound `docx_refused`: `Open` returns an error, nothing is presented. -/
theorem docx_end_to_end (docTag bodyTag : Str) (da ba : List (Str × Str)) (pre kids post : List Node)
    (styles numbering : Option Node) (headers footers : List Node)
    (hdoc : localName docTag ≠ sBody) (hbody : localName bodyTag = sBody)
    (hpre : noBodyList pre = true) (hpost : noBodyList post = true)
    (hdec : documentDecodes (.elem docTag da (pre ++ [.elem bodyTag ba kids] ++ post)) = true) :
    ∃ rd, openReader? (.elem docTag da (pre ++ [.elem bodyTag ba kids] ++ post)) styles numbering headers footers = some rd ∧
      (let body := C16.bodyBlocks kids
       rd.elements = body.map (fun n => (processElement (stylesOf styles) n, gridColsOf n))
       ∧ InOrder (body.map (shownText (stylesOf styles))).flatten (text rd)
       ∧ InOrder ((body.map (processElement (stylesOf styles))).map (mdTexts rd {})).flatten (markdownRaw rd {} {})
       ∧ (∃ a b, markdownRaw rd {} {} = a ++ markdown rd ++ b ∧ (∀ c ∈ a, c = 10) ∧ (∀ c ∈ b, c = 10))
       ∧ flattenDoc (document rd) = (body.map (fun n => (processElement (stylesOf styles) n, gridColsOf n))).filterMap entryOf) := by
  refine ⟨openReader (.elem docTag da (pre ++ [.elem bodyTag ba kids] ++ post)) styles numbering headers footers, ?_, ?_⟩
  · unfold openReader?
    rw [if_pos hdec]
  · exact docx_reader_end_to_end docTag bodyTag da ba pre kids post styles numbering headers footers hdoc hbody hpre hpost

/-- **docx_refused**. A document.xml in which a decoded paragraph nests inline containers deeper
than `maxInlineDepth` is refused: `docx.Open` returns the error of `xml.Unmarshal`, so there is
no element list and no view (the three `tabula.Open(f)` views return the error). -/
theorem docx_refused (doc : Node) (styles numbering : Option Node) (headers footers : List Node)
    (h : documentDecodes doc = false) :
    openElements doc styles = none ∧ openReader? doc styles numbering headers footers = none := by
  simp [openElements, openReader?, h]

/-- whether `Open` succeeds depends on document.xml alone, and when it does the element list is
`Docx.elements` - the function the theorems of `Props/C16.lean` are about -/
theorem docx_open_elements (doc : Node) (styles numbering : Option Node) (headers footers : List Node) :
    (openReader? doc styles numbering headers footers).map (·.elements.map (·.1)) = openElements doc styles := by
  unfold openReader? openElements
  split
  · simp [openReader, elements, List.map_map, Function.comp_def]
  · rfl

/-- **docx_headers_never_leak** through `Open`: whether the package opens and, with the default
options, what its three views show do not depend on the header and footer parts (a part that
cannot be decoded is left out, it never makes `Open` fail). -/
theorem docx_headers_never_leak_open (doc : Node) (styles numbering : Option Node) (headers footers : List Node) (o : MdOptions) :
    (openReader? doc styles numbering headers footers).map text = (openReader? doc styles numbering [] []).map text
    ∧ (openReader? doc styles numbering headers footers).map (markdownWithRAGOptions · {} o)
        = (openReader? doc styles numbering [] []).map (markdownWithRAGOptions · {} o)
    ∧ (openReader? doc styles numbering headers footers).map document = (openReader? doc styles numbering [] []).map document := by
  have h := docx_headers_never_leak doc styles numbering headers footers o
  unfold openReader?
  split
  · simp only [Option.map_some]
    exact ⟨congrArg some h.1, congrArg some h.2.1, congrArg some h.2.2⟩
  · exact ⟨rfl, rfl, rfl⟩

/-- non-vacuity: the witness document of `Props/C16.lean` (a table with a two-paragraph cell, a
table, a paragraph) through the three views -/
example :
    let rd := openReader C16.witnessDoc none none [] []
    text rd = [65, 32, 66, 10, 67, 10, 68]
    ∧ markdown rd = [124, 32, 65, 32, 66, 32, 124, 10, 124, 32, 45, 45, 45, 32, 124, 10, 10, 124, 32, 67, 32, 124, 10, 124, 32, 45, 45, 45, 32, 124, 10, 10, 68]
    ∧ document rd = [.table [[⟨[65, 10, 66], 1, 1⟩]], .table [[⟨[67], 1, 1⟩]], .para [68]] := by
  decide +kernel

theorem mdLoop_congr (rd : Reader) (opts : ExtractOptions) (o o' : MdOptions) (hl : ∀ l, mdHeadingLevel o l = mdHeadingLevel o' l) :
    ∀ (els : List Elem) (i : Nat) (s : MdState), mdLoop rd opts o els i s = mdLoop rd opts o' els i s :=
  mdLoop_congr_step rd rd opts opts o o' fun i e s => by
    cases e with
    | para p => simp only [mdStep, hl]
    | table rows => rfl

/-- **api_views**. `tabula.Open(f).Text()` is the reader's `TextWithOptions` with the
extractor's switches; `.ToMarkdown()` - which passes `rag.DefaultMarkdownOptions()`, heading
cap 6 - is the reader's `MarkdownWithOptions`; `.Document()` is the reader's `Document()`.
With no switch set they are `Text()`, `Markdown()` and `Document()`. -/
theorem api_views (rd : Reader) (a : ApiOptions) :
    apiText rd a = textWithOptions rd { excludeHeaders := a.excludeHeaders, excludeFooters := a.excludeFooters }
    ∧ apiMarkdown rd a = markdownWithOptions rd { excludeHeaders := a.excludeHeaders, excludeFooters := a.excludeFooters }
    ∧ apiDocument rd = document rd
    ∧ apiText rd {} = text rd ∧ apiMarkdown rd {} = markdown rd := by
  have h : ∀ opts, markdownWithRAGOptions rd opts { offset := 0, maxLevel := 6 } = markdownWithOptions rd opts := by
    intro opts
    unfold markdownWithOptions markdownWithRAGOptions markdownRaw
    rw [mdLoop_congr rd opts _ {} mdHeadingLevel_cap6]
  exact ⟨rfl, h _, rfl, rfl, h _⟩

inductive View where
  | text | markdown | rag | document | modelTables | parsed
deriving Repr, DecidableEq

inductive Answer where
  | str (s : Str)
  | doc (d : List DocElem)
  | tables (t : List (List (List MCell)))
  | elems (e : List Elem)
deriving Repr, DecidableEq

/-- the answer of one view of the reader -/
def answer (rd : Reader) (opts : ExtractOptions) (o : MdOptions) : View → Answer
  | .text => .str (textWithOptions rd opts)
  | .markdown => .str (markdownWithOptions rd opts)
  | .rag => .str (markdownWithRAGOptions rd opts o)
  | .document => .doc (document rd)
  | .modelTables => .tables (modelTables rd)
  | .parsed => .elems (rd.elements.map (·.1))

/-- one call: the views only read the reader (the list counters live in the call) -/
def call (rd : Reader) (opts : ExtractOptions) (o : MdOptions) (v : View) : Reader × Answer := (rd, answer rd opts o v)

/-- a sequence of calls on one reader, answers in call order -/
def session (opts : ExtractOptions) (o : MdOptions) : Reader → List View → List Answer
  | _, [] => []
  | rd, v :: rest => (call rd opts o v).2 :: session opts o (call rd opts o v).1 rest

/-- **docx_views_history_independent**. Whatever views were asked for before, in whatever
order and how often, the k-th call answers what that view answers on a fresh reader. (`call`
hands the reader on as it got it: that a view does not change the reader is how the model reads
the Go methods, not something proved here.) -/
theorem docx_views_history_independent (rd : Reader) (opts : ExtractOptions) (o : MdOptions) (calls : List View) :
    session opts o rd calls = calls.map (answer rd opts o) := by
  induction calls with
  | nil => rfl
  | cons v rest ih => simp [session, call, ih]

end Tabula.C16Render
