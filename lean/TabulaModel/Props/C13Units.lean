import TabulaModel.Lemmas.SplitApi
import TabulaModel.Lemmas.ListBasics
import TabulaModel.Model.OverlapApi
import TabulaModel.Props.C13Api
/-!
# C13 — every size unit, boundaries and the size bound, re-splitting

`FindSplitPointAt` converts a limit of any unit to a byte position (`targetPosOf`: characters
1, tokens 1/TokensPerChar, words 6, sentences 80, paragraphs 400 bytes per unit — the
"documented rough estimates" of the property's quantifier; `ConvertSize` uses the same
factors).  Proved here for ALL units: the byte-length bound of the pieces; for characters and
tokens with caller-supplied boundaries: the hard maximum is exceeded by at most a quarter;
pieces are fixed points of `SplitToSize`.  Lemmas: `Lemmas/SplitBound.lean`,
`Lemmas/SplitApi.lean`.  Op: `c13.conv`.
-/
set_option linter.unusedVariables false
namespace Tabula.C13Units
open Tabula.Split Tabula.OverlapApi

/-- **target_pos_is_convert_size.** The byte position `FindSplitPointAt` derives from a limit is
`ConvertSize(limit, unit, characters)` for characters, words, sentences and paragraphs, and
for tokens at the default ratio 0.25 (also when `TokensPerChar ≤ 0`). -/
theorem target_pos_is_convert_size (c : SizeConfig) (limit : Nat) (u : SizeUnit)
    (h : u = .tokens → c.ratio = (1, 4)) :
    targetPosOf c limit u = convertSize limit u .characters := by
  cases u with
  | tokens => simp only [targetPosOf, convertSize, unitBytes, h rfl]
  | _ => simp [targetPosOf, convertSize, unitBytes]

/-- **convert_size_round_trip.** Converting to characters and back is the identity for every unit;
converting from characters and back loses less than one unit. -/
theorem convert_size_round_trip (v : Nat) (u : SizeUnit) :
    convertSize (convertSize v u .characters) .characters u = v
      ∧ convertSize (convertSize v .characters u) u .characters ≤ v
      ∧ v < convertSize (convertSize v .characters u) u .characters + unitBytes u := by
  cases u <;> simp [convertSize, unitBytes] <;> omega

example : convertSize 8191 .tokens .words = 5460 ∧ targetPosOf defaultSizeConfig 10 .sentences = 800 := by decide

/-- **limit_covers_target_bytes.** Characters and tokens: a text of at most `targetPos` bytes is
within the limit — the estimate is exact in the direction the hard maximum needs. -/
theorem limit_covers_target_bytes (c : SizeConfig) (s : Str)
    (hunit : c.maxUnit = .characters ∨ c.maxUnit = .tokens)
    (hl : s.length ≤ targetPosOf c c.maxValue c.maxUnit) : isAboveMax c s = false := by
  have := getSize_le_of_length_le hunit hl
  simp [isAboveMax]; omega

/-- **split_length_bound_all_units.** For EVERY size unit (words, sentences and paragraphs
included), every limit whose byte position `T` is at least 50 and every text with a space
at least every 50 bytes: every piece of `SplitToSize(text, nil)` has at most `T` bytes
(6, 80, 400 bytes per word, sentence, paragraph of the limit) or is within the limit in its
own unit.  For characters and tokens the first alternative implies the second
(`C13.split_bound`). -/
theorem split_length_bound_all_units (c : SizeConfig) (text : Str) (hs : Spaced text)
    (hT : 50 ≤ targetPosOf c c.maxValue c.maxUnit) :
    ∀ p ∈ splitToSize c text [],
      p.length ≤ targetPosOf c c.maxValue c.maxUnit ∨ getSize c p c.maxUnit ≤ c.maxValue :=
  splitToSize_length_bound c text hs hT

/-- the two-byte words "a " × 100 -/
def shortWords : Str := (List.replicate 100 [97, 32]).flatten

/-- non-vacuity: 100 two-byte words at 10 words (60 bytes): pieces of at most 60 bytes -/
example :
    let c : SizeConfig := { maxValue := 10, maxUnit := .words, tpcNum := 1, tpcDen := 4, sem := true }
    Spaced shortWords ∧ 50 ≤ targetPosOf c c.maxValue c.maxUnit
      ∧ (splitToSize c shortWords []).map List.length = [59, 59, 59, 19] :=
  ⟨.of_spacedFrom (by decide +kernel), by decide,
    (congrArg (List.map List.length) splitToSize_short_words).trans (by decide +kernel)⟩

/-- **split_words_unbounded_counterexample.** The second alternative cannot be dropped for the
other units ("word/sentence/paragraph limits are converted by documented rough estimates and
are not bounded"): 100 two-byte words at a hard maximum of 10 words give pieces of 30 words. -/
theorem split_words_unbounded_counterexample :
    let c : SizeConfig := { maxValue := 10, maxUnit := .words, tpcNum := 1, tpcDen := 4, sem := true }
    (splitToSize c shortWords []).map (fun p => getSize c p .words) = [30, 30, 30, 10] :=
  (congrArg (List.map _) splitToSize_short_words).trans (by decide +kernel)

/-- In bytes, for every unit and ANY list of boundaries: a piece is within the limit or has at
most a quarter more bytes than the byte position of the limit. -/
theorem split_length_bound_boundaries (c : SizeConfig) (text : Str) (bs : List Boundary)
    (hs : Spaced text) (hT : 50 ≤ targetPosOf c c.maxValue c.maxUnit) :
    ∀ p ∈ splitToSize c text bs,
      p.length ≤ targetPosOf c c.maxValue c.maxUnit + targetPosOf c c.maxValue c.maxUnit / 4
        ∨ getSize c p c.maxUnit ≤ c.maxValue :=
  splitToSize_length_bound_of (Good := fun _ => True) (fun _ _ _ => trivial) (Nat.le_add_right _ _)
    (fun _ bs _ hsr hlen => findSplitPointAt_bound_boundaries bs hsr hT hlen) text bs trivial hs

/-- **split_bound_boundaries.** Hard maximum in characters or tokens, `M ≥ 200`, at most 4
tokens per byte, a space at least every 50 bytes, ANY list of boundaries (any positions, any
scores): no piece of `SplitToSize(text, boundaries)` exceeds the maximum by more than a
quarter (`M + M/4`) — the reach of the search window of `findBestBoundaryNear`.
`C13Api.split_bound_boundaries_counterexample` (249 at 200) shows that the quarter is used. -/
theorem split_bound_boundaries (c : SizeConfig) (text : Str) (bs : List Boundary)
    (hunit : c.maxUnit = .characters ∨ c.maxUnit = .tokens)
    (hM : 200 ≤ c.maxValue) (hratio : c.ratio.1 ≤ 4 * c.ratio.2) (hs : Spaced text) :
    ∀ p ∈ splitToSize c text bs, getSize c p c.maxUnit ≤ c.maxValue + c.maxValue / 4 := by
  intro p hp
  rcases split_length_bound_boundaries c text bs hs (targetPos_ge_50 hunit hM hratio) p hp with h | h
  · have := getSize_scaled_le (s := p) (p := 5) (q := 4) hunit (by omega)
    omega
  · omega

example :
    Spaced exampleText ∧ (splitToSize exampleConfig exampleText [⟨250, 70⟩, ⟨251, 100⟩, ⟨3, 100⟩]).map List.length
      = [249, 49] :=
  ⟨spaced_exampleText, by decide +kernel⟩

/-- **split_piece_fixed.** A piece that is within the maximum is a fixed point: splitting it
again returns it unchanged, for every unit and configuration. -/
theorem split_piece_fixed (c : SizeConfig) (text : Str) (bs bs' : List Boundary) (p : Str)
    (hp : p ∈ splitToSize c text bs) (hfit : getSize c p c.maxUnit ≤ c.maxValue) :
    splitToSize c p bs' = [p] :=
  Tabula.C13Api.split_within_max c p bs' (Tabula.C13.split_pieces_nonempty c text bs p hp)
    (by simp [isAboveMax]; omega)

/-- **split_idempotent.** Under the hypotheses of the size bound, splitting every piece again
changes nothing: `SplitToSize` is idempotent on its own output. -/
theorem split_idempotent (c : SizeConfig) (text : Str)
    (hunit : c.maxUnit = .characters ∨ c.maxUnit = .tokens)
    (hM : 200 ≤ c.maxValue) (hratio : c.ratio.1 ≤ 4 * c.ratio.2) (hs : Spaced text) :
    (splitToSize c text []).flatMap (fun p => splitToSize c p []) = splitToSize c text [] := by
  have hb := Tabula.C13.split_bound c text hunit hM hratio hs
  have hfix : ∀ p ∈ splitToSize c text [], splitToSize c p [] = [p] :=
    fun p hp => split_piece_fixed c text [] [] p hp (hb p hp)
  rw [List.flatMap_congr hfix]
  simp

example :
    (splitToSize exampleConfig exampleText []).flatMap (fun p => splitToSize exampleConfig p [])
      = splitToSize exampleConfig exampleText [] :=
  split_idempotent _ _ (.inl rfl) (by decide) (by decide) spaced_exampleText

end Tabula.C13Units
