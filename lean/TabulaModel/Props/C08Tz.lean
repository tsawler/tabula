import TabulaModel.Props.C08Text
import TabulaModel.Lemmas.GSim
/-!
# C08 — under `0 Tz` shown text does not move the text matrix (programs with forms)

The document-level correspondence (ops c08.doc, c08.docx0) starts every page with `0 Tz` and
runs the model with the displacement function `0`, so that the origin of EVERY fragment is
compared although the model of the documents knows no font widths.  This file proves that
this is sound: in a state in which the horizontal scaling is 0 — in the current graphics
state and in every saved one — a program without `Tz` (forms nested to any depth, balanced
or not, any other operators, `TJ` arrays with numbers included) runs under the displacement
function the code computes exactly as it runs under the displacement function `0`: same
error behaviour, same states, same fragments.
-/
namespace Tabula.C08Tz
open Tabula Tabula.Matrix Tabula.GState Tabula.TextAdv Tabula.C08Text

variable {α : Type} [Lean.Grind.Field α] [DecidableEq α] [LT α] [DecidableLT α]

/-- the displacement function `0` -/
def zeroAdv : Adv α := fun _ _ => 0

/-- horizontal scaling 0 in the current graphics state and in every saved one -/
def ZeroTz (s : State α) : Prop :=
  s.cur.text.hScaling = 0 ∧ ∀ f ∈ s.stack, f.text.hScaling = 0

/-- programs without `Tz`, forms included -/
inductive TzFree : List (Op α) → Prop where
  | nil : TzFree []
  | plain (op : Op α) (rest : List (Op α)) : (∀ z, op ≠ .Tz z) → (∀ m b, op ≠ .form m b) → TzFree rest →
      TzFree (op :: rest)
  | form (m : Option (Matrix α)) (body rest : List (Op α)) : TzFree body → TzFree rest →
      TzFree (Op.form m body :: rest)

omit [DecidableEq α] [LT α] [DecidableLT α] in
theorem advance_zero (info : Nat → StrInfo α) (t : TextState α) (h : t.hScaling = 0) (it : TJItem α) :
    advance info t it = zeroAdv t it := tz_zero_no_advance info t h it

omit [DecidableEq α] [LT α] [DecidableLT α] in
theorem zeroTz_mapText (s : State α) (f : TextState α → TextState α)
    (hf : (f s.cur.text).hScaling = s.cur.text.hScaling) (h : ZeroTz s) : ZeroTz (s.mapText f) :=
  ⟨by show (f s.cur.text).hScaling = 0; rw [hf]; exact h.1, h.2⟩

theorem showText_zero (info : Nat → StrInfo α) (sid : Nat) (s : State α) (h : ZeroTz s) :
    showText (advance info) sid s = showText zeroAdv sid s ∧ ZeroTz (showText zeroAdv sid s).1 := by
  refine ⟨?_, zeroTz_mapText s _ rfl h⟩
  simp only [showText, advance_zero info _ h.1]

theorem showTextArray_zero (info : Nat → StrInfo α) (items : List (TJItem α)) (s : State α) (h : ZeroTz s) :
    showTextArray (advance info) items s = showTextArray zeroAdv items s ∧
      ZeroTz (showTextArray zeroAdv items s).1 := by
  induction items generalizing s with
  | nil => exact ⟨rfl, h⟩
  | cons it rest ih =>
    cases it with
    | str sid =>
      obtain ⟨e1, z1⟩ := showText_zero info sid s h
      obtain ⟨e2, z2⟩ := ih _ z1
      exact ⟨by simp only [showTextArray, e1, e2], z2⟩
    | num v =>
      have z1 : ZeroTz (s.advanceText (zeroAdv s.cur.text (.num v))) := zeroTz_mapText s _ rfl h
      obtain ⟨e2, z2⟩ := ih _ z1
      exact ⟨by simp only [showTextArray, advance_zero info _ h.1, e2], z2⟩

theorem stepBasic_zero (info : Nat → StrInfo α) (op : Op α) (hz : ∀ z, op ≠ .Tz z) (s : State α) (h : ZeroTz s) :
    stepBasic (advance info) op s = stepBasic zeroAdv op s ∧ ZeroTz (stepBasic zeroAdv op s).1 := by
  rcases op.view with rfl | rfl | ⟨m, rfl⟩ | hv
  · exact ⟨rfl, h.1, List.forall_mem_cons.mpr ⟨h.1, h.2⟩⟩
  · obtain ⟨c, st, d⟩ := s
    cases st with
    | nil => exact ⟨rfl, h⟩
    | cons f fs => exact ⟨rfl, List.forall_mem_cons.mp h.2⟩
  · exact ⟨rfl, h⟩
  · have hn : ZeroTz (s.mapText op.textAfter) := zeroTz_mapText s _ (textAfter_hScaling hz _) h
    obtain ⟨e, z⟩ := showTextArray_zero info op.shown _ hn
    rw [hv, hv, e]
    exact ⟨rfl, z⟩

omit [DecidableEq α] [LT α] [DecidableLT α] in
theorem zeroTz_formEnter (m : Option (Matrix α)) (s : State α) (h : ZeroTz s) : ZeroTz (formEnter m s) := by
  cases m <;> exact ⟨h.1, List.forall_mem_cons.mpr ⟨h.1, h.2⟩⟩

omit [DecidableEq α] [LT α] [DecidableLT α] in
theorem zeroTz_formExit (s : State α) (h : ZeroTz s) : ZeroTz (formExit s) := by
  obtain ⟨c, st, d⟩ := s
  cases st with
  | nil => exact h
  | cons f fs => exact List.forall_mem_cons.mp h.2

/-- running under the code's displacement function beside running under `0`, from the same state
with horizontal scaling 0 throughout: kept by every primitive of the operator loop on programs
without `Tz`, so (`Lemmas/GSim.lean`) by whole runs -/
theorem zero_sim (info : Nat → StrInfo α) :
    Sim (advance info) zeroAdv TzFree (fun s s' => s' = s ∧ ZeroTz s) Eq where
  nil := rfl
  append h1 h2 := by rw [h1, h2]
  tail h := by cases h <;> assumption
  body h := by
    cases h with
    | plain _ _ _ hf _ => exact absurd rfl (hf _ _)
    | form _ _ _ hb _ => exact hb
  depth h := by rw [h.1]
  basic hok hf h := by
    obtain ⟨rfl, hz⟩ := h
    cases hok with
    | plain _ _ hz' _ _ =>
      obtain ⟨e, z⟩ := stepBasic_zero info _ hz' _ hz
      rw [e]; exact ⟨⟨rfl, z⟩, rfl, rfl⟩
    | form m b _ _ _ => exact absurd rfl (hf m b)
  enter m h := by obtain ⟨rfl, hz⟩ := h; exact ⟨rfl, zeroTz_formEnter m _ hz⟩
  exit h := by obtain ⟨rfl, hz⟩ := h; exact ⟨rfl, zeroTz_formExit _ hz⟩

theorem runForm_zero (info : Nat → StrInfo α) {ops : List (Op α)} (hf : TzFree ops) :
    ∀ s : State α, ZeroTz s →
      runForm (advance info) ops s = runForm zeroAdv ops s ∧ ZeroTz (runForm zeroAdv ops s).1 := by
  intro s hz
  obtain ⟨⟨h1, h2⟩, h3⟩ := (zero_sim info).onRunForm hf (⟨rfl, hz⟩ : s = s ∧ ZeroTz s)
  exact ⟨Prod.ext h1.symm h3, h1 ▸ h2⟩

/-- **`0 Tz`: the displacement function does not matter.**  For every program without `Tz`
— forms nested to any depth with any content, `TJ` arrays, `Tc`, `Tw`, `Tf`, `Ts`, q/Q
balanced or not — and every state whose horizontal scaling is 0 in the current and in every
saved graphics state, `Extract` under the displacement function the code computes (any
font, any strings) is `Extract` under the displacement function `0`: the same error, the
same final state, the same fragments at the same origins. -/
theorem zero_tz_exec (info : Nat → StrInfo α) {ops : List (Op α)} (hf : TzFree ops) :
    ∀ s : State α, ZeroTz s → exec (advance info) ops s = exec zeroAdv ops s := by
  intro s hz
  have h := (zero_sim info).onExec hf (⟨rfl, hz⟩ : s = s ∧ ZeroTz s)
  generalize exec (advance info) ops s = e, exec zeroAdv ops s = e' at h
  cases h with
  | none => rfl
  | some hr => exact congrArg some (Prod.ext hr.1.1.symm hr.2)

/-- the page programs of op c08.doc: `0 Tz` first, then a program without `Tz`, on a new
extractor (or on one left by earlier such pages) -/
theorem zero_tz_page (info : Nat → StrInfo α) {ops : List (Op α)} (hf : TzFree ops) (s : State α)
    (hs : ∀ f ∈ s.stack, f.text.hScaling = 0) :
    exec (advance info) (Op.Tz 0 :: ops) s = exec zeroAdv (Op.Tz 0 :: ops) s := by
  have hz : ZeroTz (s.setHorizontalScaling 0) := ⟨rfl, hs⟩
  simp only [exec, step, stepBasic, Bool.false_eq_true, if_false]
  rw [zero_tz_exec info hf _ hz]

/-- `ZeroTz` holds after `0 Tz` on a new extractor, and after `q` there -/
example : ZeroTz ((init : State Rat).setHorizontalScaling 0) ∧ ZeroTz ((init : State Rat).setHorizontalScaling 0).save :=
  ⟨⟨rfl, by intro f hf; cases hf⟩, ⟨rfl, by
    intro f hf
    rcases List.mem_cons.mp hf with rfl | hm
    · rfl
    · cases hm⟩⟩

/-- the hypotheses are satisfiable: a page with a form that shows a `TJ` array under `Tc` -/
example : TzFree ([.q, .cm ⟨2, 0, 0, 2, 0, 0⟩, .form (some ⟨1, 0, 0, 1, 5, 5⟩) [.BT, .Tc 3, .TJ [.str 0, .num (-200), .str 1], .Q],
    .Tj 2, .Q] : List (Op Rat)) :=
  .plain _ _ (by intro z h; cases h) (by intro m b h; cases h)
    (.plain _ _ (by intro z h; cases h) (by intro m b h; cases h)
      (.form _ _ _
        (.plain _ _ (by intro z h; cases h) (by intro m b h; cases h)
          (.plain _ _ (by intro z h; cases h) (by intro m b h; cases h)
            (.plain _ _ (by intro z h; cases h) (by intro m b h; cases h)
              (.plain _ _ (by intro z h; cases h) (by intro m b h; cases h) .nil))))
        (.plain _ _ (by intro z h; cases h) (by intro m b h; cases h)
          (.plain _ _ (by intro z h; cases h) (by intro m b h; cases h) .nil))))

end Tabula.C08Tz
