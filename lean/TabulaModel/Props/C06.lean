import TabulaModel.Lemmas.PdfName
import TabulaModel.Lemmas.PdfStr
import TabulaModel.Lemmas.PdfHex
import TabulaModel.Lemmas.PdfTok
import TabulaModel.Lemmas.PdfState
import TabulaModel.Lemmas.PdfParse
import TabulaModel.Lemmas.PdfCS
import TabulaModel.Lemmas.PdfReal
import TabulaModel.Lemmas.PdfSpell
import TabulaModel.Lemmas.PdfDepth
import TabulaModel.Lemmas.PdfBound
/-!
# C06 — PDF object syntax has one meaning for both parsers

Models: `Model/Lexer.lean`, `Model/Parser.lean` (core), `Model/CSParser.lean`
(contentstream), printer side `Model/Print.lean` (token spellings as piece
lists) and `Model/Spell.lean` (spelled object trees `SObj`: an object together
with one legal spelling of every token and separator).  "For every object and
every spelling" is "for every valid `SObj`".

Helper lemmas: `Lemmas/PdfName.lean`, `PdfStr.lean`, `PdfHex.lean`,
`PdfTok.lean`, `PdfState.lean`, `PdfParse.lean`, `PdfCS.lean`, `PdfDepth.lean`,
`PdfBound.lean`, `ParseRuns.lean` (the case analysis of the two parsers, as rule inductions).

Nesting limit (tabula fix a3fd154, `maxNestingDepth = 500` in core/parser.go and
contentstream/parser.go): both parsers count the arrays and dictionaries that are open and refuse
to open number 501.  `Obj.depth` is 0 for scalars and references and one more than the deepest
element for a container, so an object parses iff `o.depth ≤ maxNestingDepth`: the round-trip
theorems of stage 3 carry exactly that (decidable) hypothesis, stage 4 proves the other half
(deeper objects are an error in BOTH parsers, nothing deeper is ever accepted) and that the
number of simultaneously open containers - the recursion depth of the parsers - stays within the
limit for every input whatsoever.  Instrumented models: `Model/ParserTrace.lean`.
-/
namespace Tabula.C06
open Tabula.Pdf
open Tabula.A1 (atoi dec)

/-! ## Stage 1 — token classes, every byte string, every spelling -/

/-- Names: every legal spelling (`#xx` or raw per byte, either hex case) of every byte string is
lexed back to exactly those bytes, and the lexer stops exactly at the end of the name. -/
theorem name_roundtrip (ps : List NPiece) (tail : Str) (hok : ∀ p ∈ ps, p.Ok) (ht : Terminated tail) :
    nextToken (47 :: renderName ps ++ tail) = some (.name (ps.map NPiece.byte), tail) :=
  nextToken_name ps tail hok ht

/-- … and every byte string has such a spelling (`printName`), so this is all names. -/
theorem name_roundtrip_bytes (bs : Str) (tail : Str) (hb : ∀ b ∈ bs, b < 256) (ht : Terminated tail) :
    nextToken (printName bs ++ tail) = some (.name bs, tail) := by
  have h := canonNPiece_ok bs hb
  have := nextToken_name (bs.map canonNPiece) tail h.1 ht
  rw [h.2] at this
  exact this

example : Terminated [32, 49] := Or.inr ⟨32, [49], rfl, by decide⟩
example : ∀ p ∈ [NPiece.raw 65, NPiece.esc 32 true false], p.Ok := by
  intro p hp
  simp only [List.mem_cons, List.not_mem_nil, or_false] at hp
  rcases hp with rfl | rfl
  · exact ⟨by decide, by decide, by decide⟩
  · show 32 < 256; omega

/-- the content-stream reader `parseName` on the same spellings -/
theorem cs_name_roundtrip (ps : List NPiece) (tail : Str) (hok : ∀ p ∈ ps, p.Ok) (ht : Terminated tail) :
    CS.nameLoop (renderName ps ++ tail) = (ps.map NPiece.byte, tail) :=
  cs_nameLoop_roundtrip ps tail hok ht

/-- Hex strings: any digit case, any white space between digits, optional missing last digit. -/
theorem hexstr_roundtrip (ps : List HPiece) (last : Option HLast) (wEnd tail : Str)
    (hps : ∀ p ∈ ps, p.Ok) (hlast : ∀ l, last = some l → l.Ok) (hw : AllWs wEnd) :
    ∃ ds, nextToken (renderHex ps last wEnd ++ tail) = some (.hexstr ds, tail) ∧
      hexPairs ds = hexValueOf ps last :=
  nextToken_hex ps last wEnd tail hps hlast hw

example : (⟨65, true, false, [32], []⟩ : HPiece).Ok := ⟨by decide, by intro c hc; simp at hc; subst hc; decide,
  by intro c hc; simp at hc⟩

/-- the content-stream reader `parseHexString` on the same spellings -/
theorem cs_hexstr_roundtrip (ps : List HPiece) (last : Option HLast) (wEnd tail : Str)
    (hps : ∀ p ∈ ps, p.Ok) (hlast : ∀ l, last = some l → l.Ok) (hw : AllWs wEnd) :
    CS.hexLoop (renderHexBody ps last wEnd ++ tail) = some (hexValueOf ps last, tail) :=
  Tabula.Pdf.cs_hexstr_roundtrip ps last wEnd tail hps hlast hw

/-- Literal strings: every escape choice per byte (raw, `\n`-style, 1–3 digit octal, balanced raw
or escaped parentheses, line continuations with any end-of-line marker). -/
theorem litstr_roundtrip (ps : List SPiece) (tail : Str) (h : ValidStr 0 ps) :
    nextToken (renderStr ps ++ tail) = some (.str (strBytes ps), tail) :=
  nextToken_lit ps tail h

/-- every byte string has a legal literal spelling -/
theorem litstr_every_bytes (bs : Str) (hb : ∀ b ∈ bs, b < 256) :
    ∃ ps, ValidStr 0 ps ∧ strBytes ps = bs :=
  ⟨_, (validStr_octal3 bs hb).1, (validStr_octal3 bs hb).2⟩

example : ValidStr 0 [SPiece.popen, SPiece.raw 65, SPiece.pclose, SPiece.octal 7 1, SPiece.named 10] := by
  simp [ValidStr, renderStrBody, SPiece.render, escChar, isOctal]

/-- the content-stream reader `parseString` is the same function as the document-level one, on
every input whatsoever -/
theorem parsers_agree_literal_strings (inp : Str) (d : Nat) : CS.strLoop d inp = strLoop d inp :=
  cs_strLoop_eq inp d

/-- whenever the document-level lexer accepts a name, `contentstream.parseName` gives the same bytes
and stops at the same place -/
theorem parsers_agree_names (inp v r : Str) (h : nameLoop inp = some (v, r)) : CS.nameLoop inp = (v, r) :=
  cs_nameLoop_agree inp v r h

/-- whenever the document-level lexer accepts a hex string, `contentstream.parseHexString` gives the
bytes the document-level parser computes from its digits, and stops at the same place -/
theorem parsers_agree_hex_strings (inp ds r : Str) (h : hexLoop inp = some (ds, r)) :
    CS.hexLoop inp = some (hexPairs ds, r) :=
  cs_hexLoop_agree inp ds r h

/-- Integers: optional `+`, leading zeros, the whole int64 range. -/
theorem int_roundtrip (plus : Bool) (zeros : Nat) (i : Int) (tail : Str) (ht : Terminated tail)
    (h1 : -(2 ^ 63 : Int) ≤ i) (h2 : i < (2 ^ 63 : Int)) :
    nextToken (printInt plus zeros i ++ tail) = some (.integer (printInt plus zeros i), tail) ∧
      atoi (printInt plus zeros i) = some i :=
  ⟨nextToken_int plus zeros i tail ht, atoi_printInt plus zeros i h1 h2⟩

/-! ## Stage 2 — the two-token lookahead for `num gen R` -/

theorem next_cur (s : PState) : s.next.cur = s.peek := by
  unfold PState.next
  split
  · rfl
  · split
    · rfl
    · split <;> rfl

/-- `a b R` is one reference: three tokens consumed, nothing else (for every parser state). -/
theorem ref_lookahead (s : PState) (va vb : Str) (a b : Int)
    (hp : s.peek = some (.integer vb)) (ha : atoi va = some a) (hb : atoi vb = some b)
    (hr : s.next.peek = some .ref) :
    parseNumber s va = .ok (.ref a b, s.next.next.next) :=
  Prs.pn_ref s va vb a b ha hp hb hr

/-- `a b` not followed by `R` is the integer `a`, and the parser then stands on `b`: no token is
consumed twice or lost. -/
theorem ref_lookahead_two_ints (s : PState) (va vb : Str) (a b : Int)
    (hp : s.peek = some (.integer vb)) (ha : atoi va = some a) (hb : atoi vb = some b)
    (hr : s.next.peek ≠ some .ref) :
    parseNumber s va = .ok (.int a, s.next) ∧ s.next.cur = some (.integer vb) := by
  refine ⟨?_, by rw [next_cur, hp]⟩
  unfold parseNumber
  simp only [ha, hp, hb]

/-- advancing the window over the bytes: the state after one token is the state `NewParser` would
build on the bytes that token left unread -/
theorem window_advance (inp : Str) (t : Token) (r : Str) (h : lexSkip (inp.length + 1) inp = some (t, r))
    (hs : t ≠ .keyword kwStream) :
    (stateAt inp).cur = some t ∧ (stateAt inp).next = stateAt r ∧ (stateAt inp).peek = (stateAt r).cur :=
  ⟨stateAt_cur_of_lex inp t r h, stateAt_next inp t r h hs, stateAt_peek inp t r h hs⟩

/-- the same on bytes: `a b R` under every legal separator spelling -/
theorem ref_lookahead_bytes (n g : Nat) (pre s1 s2 : Sep) (rest : Str) (d : Nat)
    (hd : d ≤ maxNestingDepth)
    (hv : (SObj.ref pre n g s1 s2).Valid false) (ht : Terminated rest) (hnr : FirstNotR rest)
    (hnra : NoRefAhead rest) :
    parseObject 1 d (stateAt ((SObj.ref pre n g s1 s2).render ++ rest)) = .ok (.ref n g, stateAt rest) :=
  parse_roundtrip (SObj.ref pre n g s1 s2) false rest 1 d hv (by simp [SObj.size])
    (by simp only [SObj.value, Obj.depth]; omega) (fun _ => ht) hnr hnra

/-- `a b` (no `R`) on bytes: two integers, the second read from exactly where the first ended -/
theorem two_ints_lookahead_bytes (a b : Int) (p1 p2 : Sep) (rest : Str) (d : Nat)
    (hd : d ≤ maxNestingDepth)
    (h1 : (SObj.int p1 false 0 a).Valid false) (h2 : (SObj.int p2 false 0 b).Valid true)
    (ht : Terminated rest) (hnr : FirstNotR rest) (hnra : NoRefAhead rest) :
    parseObject 1 d (stateAt ((SObj.int p1 false 0 a).render ++ ((SObj.int p2 false 0 b).render ++ rest))) =
        .ok (.int a, stateAt ((SObj.int p2 false 0 b).render ++ rest)) ∧
      parseObject 1 d (stateAt ((SObj.int p2 false 0 b).render ++ rest)) = .ok (.int b, stateAt rest) := by
  refine ⟨?_, ?_⟩
  · exact parse_roundtrip (SObj.int p1 false 0 a) false _ 1 d h1 (by simp [SObj.size])
      (by simp only [SObj.value, Obj.depth]; omega)
      (fun _ => Prs.term_obj _ true h2 rest (Or.inl rfl))
      (Prs.firstNotR_obj _ true h2 rest (fun _ => ht))
      (Prs.noRefAhead_obj _ true h2 rest (fun _ => ht) hnr)
  · exact parse_roundtrip (SObj.int p2 false 0 b) true rest 1 d h2 (by simp [SObj.size])
      (by simp only [SObj.value, Obj.depth]; omega) (fun _ => ht) hnr hnra

/-- the number of open containers allowed around a token: any `d ≤ 500`, e.g. the innermost
position the limit permits -/
example : (500 : Nat) ≤ maxNestingDepth := by decide

/-! ## Stage 3 — whole object trees and whole programs

`SObj` (Model/Spell.lean) is an object tree together with ONE legal spelling of every token
(all the per-class choices of stage 1, plus sign / leading zeros on integers and sign, leading and
trailing zeros, `4.`, `.5` on reals) and of every separator (any mix of the six white-space bytes
and `%…EOL` comments with any end-of-line marker; empty wherever a delimiter makes separation
unnecessary).  `so.Valid` says the spelling is legal, `so.render` are the bytes, `so.value` the
object.  "∀ obj ∀ spelling" is "∀ valid so"; `every_object_has_a_spelling` shows that every
well-formed object is `so.value` for some valid `so`, so nothing is left out. -/

/-- The nesting limit of both parsers is 500 open arrays/dictionaries. -/
theorem nesting_limit_value : maxNestingDepth = 500 := rfl

/-- Document-level parser: every object tree of all nine kinds nested at most `maxNestingDepth`
(= 500) deep, under every legal spelling of every token and separator, optionally followed by
white space / comments, parses back to exactly the tree, and the parser stands exactly behind it. -/
theorem core_roundtrip (so : SObj) (trail : Sep) (hv : so.Valid false) (ht : SepOk trail)
    (hd : so.value.depth ≤ maxNestingDepth) :
    coreParse (so.render ++ renderSep trail) = .ok (so.value, stateAt (renderSep trail)) :=
  core_roundtrip_spelled so trail hv ht hd

/-- the hypotheses are satisfiable at the limit itself: 500 arrays around an integer, and 250
arrays around 250 dictionaries around a name -/
example : (nestArr 500 (SObj.int [] true 2 (-7))).Valid false ∧
    (nestArr 500 (SObj.int [] true 2 (-7))).value.depth ≤ maxNestingDepth := by
  refine ⟨nestArr_valid _ _ ?_, ?_⟩
  · simp [SObj.Valid, SepOk]
  · rw [nestArr_depth]; decide
example : (nestArr 250 (nestDict 250 (SObj.name [.ws 32] [.raw 65]))).Valid false ∧
    (nestArr 250 (nestDict 250 (SObj.name [.ws 32] [.raw 65]))).value.depth ≤ maxNestingDepth := by
  refine ⟨nestArr_valid _ _ (nestDict_valid 249 _ false ?_), ?_⟩
  · simp [SObj.Valid, SepOk, SepUnit.Ok, NPiece.Ok, isWs, isDelim]
  · rw [nestArr_depth, nestDict_depth]; decide

/-- … inside any context: `d` containers already open, what follows may be any bytes that end the
last token and start neither with `R` nor with an integer followed by `R`. -/
theorem core_roundtrip_in_context (so : SObj) (need : Bool) (rest : Str) (f d : Nat)
    (hv : so.Valid need) (hf : so.size ≤ f) (hd : d + so.value.depth ≤ maxNestingDepth)
    (hterm : so.endsRegular = true → Terminated rest)
    (hnr : FirstNotR rest) (hnra : NoRefAhead rest) :
    parseObject f d (stateAt (so.render ++ rest)) = .ok (so.value, stateAt rest) :=
  parse_roundtrip so need rest f d hv hf hd hterm hnr hnra

example : 498 + (nestArr 2 (SObj.null [])).value.depth ≤ maxNestingDepth := by
  rw [nestArr_depth]; decide

/-- every well-formed object (Model/WF.lean) has a legal spelling: the quantification over valid
`SObj` above covers every object -/
theorem every_object_has_a_spelling (o : Obj) (h : o.WF) (need : Bool) :
    ∃ so : SObj, so.Valid need ∧ so.value = o :=
  ⟨spell o, spell_valid_value o h need⟩

/-- the statement in its ∀ object form: every well-formed object nested at most `maxNestingDepth`
deep, written in ANY legal spelling of it, parses back to itself (and at least one spelling
exists) -/
theorem core_roundtrip_obj (o : Obj) (h : o.WF) (hd : o.depth ≤ maxNestingDepth) :
    (∃ so : SObj, so.Valid false ∧ so.value = o) ∧
      ∀ (so : SObj) (trail : Sep), so.Valid false → so.value = o → SepOk trail →
        coreParse (so.render ++ renderSep trail) = .ok (o, stateAt (renderSep trail)) := by
  refine ⟨⟨spell o, spell_valid_value o h false⟩, ?_⟩
  intro so trail hv hval ht
  rw [← hval] at hd ⊢
  exact core_roundtrip_spelled so trail hv ht hd

example : (Obj.arr [.dict [([75], .arr [.int 3, .name [65]])], .null]).depth ≤ maxNestingDepth := by decide

example : (SObj.arr [] [SObj.int [] true 2 (-7), SObj.real [.ws 32] ⟨false, false, [], [53]⟩,
    SObj.name [.comment [65] [13, 10]] [.raw 65]] [.ws 0]).Valid false := by
  simp [SObj.Valid, ValidList, SepOk, SepUnit.Ok, SObj.endsRegular, NPiece.Ok, RealSp.Ok, DigitStr, isWs,
    isDelim, isDigit]

/-- Content-stream parser: one operand (no indirect references: they cannot occur in content
streams) under every legal spelling, `d` containers already open and at most `maxNestingDepth`
open in all. -/
theorem cs_operand_roundtrip (so : SObj) (need : Bool) (rest : Str) (f d : Nat)
    (hv : so.Valid need) (hnr : so.noRef = true) (hf : so.size ≤ f)
    (hd : d + so.value.depth ≤ maxNestingDepth)
    (hrest : so.endsRegular = true → Terminated rest) :
    CS.parseOperand f d (so.render ++ rest) = some (so.value, rest) :=
  Tabula.Pdf.cs_operand_roundtrip so need rest f d hv hnr hf hd hrest

example : (nestDict 500 (SObj.lit [] [.raw 65])).noRef = true ∧
    0 + (nestDict 500 (SObj.lit [] [.raw 65])).value.depth ≤ maxNestingDepth := by
  refine ⟨nestDict_noRef _ _ rfl, ?_⟩
  rw [nestDict_depth]; decide

/-- Content-stream parser: a whole program whose operands nest at most `maxNestingDepth` deep,
under every legal spelling; operands stay grouped with the operator after them (operator names
incl. `'`, `"`, `T*`, `d0`; operators next to delimiters; booleans before `]`/`>>` and at top
level; comments anywhere between tokens). -/
theorem cs_roundtrip (ops : List SOp) (trail : Sep) (hv : ValidOps false ops) (ht : SepOk trail)
    (hd : ∀ o ∈ ops, Obj.depthList (valueList o.operands) ≤ maxNestingDepth) :
    CS.csParse (renderOps ops ++ renderSep trail) =
      some (ops.map fun o => { op := o.op, operands := valueList o.operands }) :=
  Tabula.Pdf.cs_roundtrip ops trail hv ht hd

example : ∀ o ∈ [(⟨[nestArr 500 (SObj.int [] false 0 1), SObj.lit [] [.raw 65]], [], [84, 74]⟩ : SOp)],
    Obj.depthList (valueList o.operands) ≤ maxNestingDepth := by
  intro o ho
  simp only [List.mem_singleton] at ho
  subst ho
  simp only [valueList, Obj.depthList, nestArr_depth]
  decide

/-- Both parsers give every printed operand nested at most `maxNestingDepth` deep the same value. -/
theorem agree_on_printed (so : SObj) (trail : Sep) (hv : so.Valid false) (hnr : so.noRef = true)
    (ht : SepOk trail) (hd : so.value.depth ≤ maxNestingDepth) :
    (∃ s, coreParse (so.render ++ renderSep trail) = .ok (so.value, s)) ∧
      CS.parseOperand so.size 0 (so.render ++ renderSep trail) = some (so.value, renderSep trail) := by
  refine ⟨⟨_, core_roundtrip_spelled so trail hv ht hd⟩, ?_⟩
  exact Tabula.Pdf.cs_operand_roundtrip so false (renderSep trail) so.size 0 hv hnr (Nat.le_refl _)
    (by omega) fun _ => Prs.term_trail trail ht

example : (nestArr 499 (nestDict 1 (SObj.bool [.ws 32] true))).noRef = true ∧
    (nestArr 499 (nestDict 1 (SObj.bool [.ws 32] true))).value.depth ≤ maxNestingDepth := by
  refine ⟨nestArr_noRef _ _ (nestDict_noRef _ _ rfl), ?_⟩
  rw [nestArr_depth, nestDict_depth]; decide

/-! ## Stage 4 — the nesting limit: the other half, agreement beyond it, bounded recursion -/

/-- Document-level parser: an object tree nested DEEPER than `maxNestingDepth`, in any legal
spelling, is an error (not a value, not end of input). -/
theorem core_too_deep (so : SObj) (trail : Sep) (hv : so.Valid false) (ht : SepOk trail)
    (hd : maxNestingDepth < so.value.depth) :
    coreParse (so.render ++ renderSep trail) = .error .err := by
  have _ := ht
  rw [value_depth so false hv] at hd
  exact Prs.obj_deep so false (renderSep trail) _ 0 hv (fuelFor_enough so trail) (Nat.zero_le _) (by omega)

example : (nestArr 501 (SObj.int [] true 2 (-7))).Valid false ∧
    maxNestingDepth < (nestArr 501 (SObj.int [] true 2 (-7))).value.depth := by
  refine ⟨nestArr_valid _ _ ?_, ?_⟩
  · simp [SObj.Valid, SepOk]
  · rw [nestArr_depth]; decide

/-- … inside any context (whatever bytes follow): with `d` containers open, an object that would
need more than `maxNestingDepth` open at once is an error. -/
theorem core_too_deep_in_context (so : SObj) (need : Bool) (rest : Str) (f d : Nat)
    (hv : so.Valid need) (hf : so.size ≤ f) (hd : d ≤ maxNestingDepth)
    (hdeep : maxNestingDepth < d + so.value.depth) :
    parseObject f d (stateAt (so.render ++ rest)) = .error .err := by
  rw [value_depth so need hv] at hdeep
  exact Prs.obj_deep so need rest f d hv hf hd hdeep

example : (499 : Nat) ≤ maxNestingDepth ∧ maxNestingDepth < 499 + (nestDict 2 (SObj.null [.ws 32])).value.depth := by
  rw [nestDict_depth]; decide

/-- The limit is exact: a legally spelled object round-trips through the document-level parser
if and only if it is nested at most `maxNestingDepth` deep. -/
theorem core_roundtrip_iff (so : SObj) (trail : Sep) (hv : so.Valid false) (ht : SepOk trail) :
    coreParse (so.render ++ renderSep trail) = .ok (so.value, stateAt (renderSep trail)) ↔
      so.value.depth ≤ maxNestingDepth := by
  constructor
  · intro h
    cases Nat.lt_or_ge maxNestingDepth so.value.depth with
    | inl hlt => rw [core_too_deep so trail hv ht hlt] at h; cases h
    | inr hge => exact hge
  · exact core_roundtrip_spelled so trail hv ht

/-- Content-stream parser: an operand that would need more than `maxNestingDepth` containers open
at once is an error. -/
theorem cs_operand_too_deep (so : SObj) (need : Bool) (rest : Str) (f d : Nat)
    (hv : so.Valid need) (hnr : so.noRef = true) (hf : so.size ≤ f)
    (hd : d ≤ maxNestingDepth) (hdeep : maxNestingDepth < d + so.value.depth)
    (hrest : so.endsRegular = true → Terminated rest) :
    CS.parseOperand f d (so.render ++ rest) = none :=
  Tabula.Pdf.cs_operand_too_deep so need rest f d hv hnr hf hd hdeep hrest

example : (nestDict 501 (SObj.lit [] [.raw 65])).noRef = true ∧
    maxNestingDepth < 0 + (nestDict 501 (SObj.lit [] [.raw 65])).value.depth := by
  refine ⟨nestDict_noRef _ _ rfl, ?_⟩
  rw [nestDict_depth]; decide

/-- Content-stream parser: a program one of whose operands is nested deeper than
`maxNestingDepth` makes `Parse` fail as a whole. -/
theorem cs_too_deep (ops : List SOp) (trail : Sep) (hv : ValidOps false ops) (ht : SepOk trail)
    (hd : ∃ o ∈ ops, maxNestingDepth < Obj.depthList (valueList o.operands)) :
    CS.csParse (renderOps ops ++ renderSep trail) = none :=
  Tabula.Pdf.cs_too_deep ops trail hv ht hd

example : ∃ o ∈ [(⟨[SObj.lit [] [.raw 65], nestArr 501 (SObj.int [] false 0 1)], [], [84, 74]⟩ : SOp)],
    maxNestingDepth < Obj.depthList (valueList o.operands) := by
  refine ⟨_, List.mem_singleton.2 rfl, ?_⟩
  simp only [valueList, Obj.depthList, nestArr_depth]
  decide

/-- Beyond the limit the two parsers still agree: every printed operand nested deeper than
`maxNestingDepth` is an error in both. -/
theorem agree_on_too_deep (so : SObj) (trail : Sep) (hv : so.Valid false) (hnr : so.noRef = true)
    (ht : SepOk trail) (hd : maxNestingDepth < so.value.depth) :
    coreParse (so.render ++ renderSep trail) = .error .err ∧
      CS.parseOperand so.size 0 (so.render ++ renderSep trail) = none := by
  refine ⟨core_too_deep so trail hv ht hd, ?_⟩
  exact Tabula.Pdf.cs_operand_too_deep so false (renderSep trail) so.size 0 hv hnr (Nat.le_refl _)
    (Nat.zero_le _) (by omega) fun _ => Prs.term_trail trail ht

example : (nestArr 250 (nestDict 251 (SObj.bool [.ws 32] true))).noRef = true ∧
    maxNestingDepth < (nestArr 250 (nestDict 251 (SObj.bool [.ws 32] true))).value.depth := by
  refine ⟨nestArr_noRef _ _ (nestDict_noRef _ _ rfl), ?_⟩
  rw [nestArr_depth, nestDict_depth]; decide

/-- Neither parser ever ACCEPTS anything deeper, whatever the bytes (legal spelling or not): a
value returned by the document-level parser is nested at most `maxNestingDepth` deep … -/
theorem core_accepts_within_limit (inp : Str) (o : Obj) (s : PState) (h : coreParse inp = .ok (o, s)) :
    o.depth ≤ maxNestingDepth := by
  have := (core_accept _).1 0 _ o s h (Nat.zero_le _)
  omega

/-- … and so is every operand of every operation returned by the content-stream parser. -/
theorem cs_accepts_within_limit (inp : Str) (ops : List CS.Operation) (h : CS.csParse inp = some ops) :
    ∀ op ∈ ops, ∀ x ∈ op.operands, x.depth ≤ maxNestingDepth :=
  cs_loop_accept _ _ inp [] [] ops h (by intro x hx; cases hx) (by intro op hop; cases hop)

/-- Bounded recursion (the fact property C02 needs): for EVERY input, the instrumented
document-level parser (Model/ParserTrace.lean: the same code, also reporting the peak of `p.depth`,
i.e. the largest number of `parseArray`/`parseDict` activations on the stack at once) computes
exactly `coreParse`, and the peak is at most `maxNestingDepth`. -/
theorem core_recursion_bounded (inp : Str) :
    (coreParseT inp).1 = coreParse inp ∧ (coreParseT inp).2 ≤ maxNestingDepth :=
  ⟨((core_trace _).1 0 _).1, ((core_trace _).1 0 _).2 (Nat.zero_le _)⟩

/-- … and the same for `contentstream.Parse` over all operands of a whole stream. -/
theorem cs_recursion_bounded (inp : Str) :
    (CS.csParseT inp).1 = CS.csParse inp ∧ (CS.csParseT inp).2 ≤ maxNestingDepth :=
  cs_loop_trace _ _ inp [] [] 0 (Nat.zero_le _)

/-- … at every level of the recursion, from any admissible starting depth and with any fuel: the
three functions of each recursive knot never see `p.depth` above the limit. -/
theorem recursion_bounded_everywhere (f d : Nat) (hd : d ≤ maxNestingDepth) :
    (∀ s, (parseObjectT f d s).1 = parseObject f d s ∧ (parseObjectT f d s).2 ≤ maxNestingDepth) ∧
    (∀ s acc, (parseArrayT f d s acc).1 = parseArray f d s acc ∧
      (parseArrayT f d s acc).2 ≤ maxNestingDepth) ∧
    (∀ s acc, (parseDictT f d s acc).1 = parseDict f d s acc ∧
      (parseDictT f d s acc).2 ≤ maxNestingDepth) ∧
    (∀ inp, (CS.parseOperandT f d inp).1 = CS.parseOperand f d inp ∧
      (CS.parseOperandT f d inp).2 ≤ maxNestingDepth) ∧
    (∀ inp acc, (CS.parseArrayT f d inp acc).1 = CS.parseArray f d inp acc ∧
      (CS.parseArrayT f d inp acc).2 ≤ maxNestingDepth) ∧
    (∀ inp acc, (CS.parseDictT f d inp acc).1 = CS.parseDict f d inp acc ∧
      (CS.parseDictT f d inp acc).2 ≤ maxNestingDepth) :=
  ⟨fun s => ⟨((core_trace f).1 d s).1, ((core_trace f).1 d s).2 hd⟩,
   fun s acc => ⟨((core_trace f).2.1 d s acc).1, ((core_trace f).2.1 d s acc).2 hd⟩,
   fun s acc => ⟨((core_trace f).2.2 d s acc).1, ((core_trace f).2.2 d s acc).2 hd⟩,
   fun inp => ⟨((cs_trace f).1 d inp).1, ((cs_trace f).1 d inp).2 hd⟩,
   fun inp acc => ⟨((cs_trace f).2.1 d inp acc).1, ((cs_trace f).2.1 d inp acc).2 hd⟩,
   fun inp acc => ⟨((cs_trace f).2.2 d inp acc).1, ((cs_trace f).2.2 d inp acc).2 hd⟩⟩

example : (37 : Nat) ≤ maxNestingDepth := by decide

/-- the real-number value is the number written: `normReal` keeps m / 10^s and normalises -/
theorem real_value_meaning (m s : Nat) :
    m * 10 ^ (normReal m s).2 = (normReal m s).1 * 10 ^ s ∧ (normReal m s).2 ≤ s ∧
      ((normReal m s).2 = 0 ∨ (normReal m s).1 % 10 ≠ 0) :=
  normReal_spec m s

/-
Agreement on ALL raw byte strings, legally spelled or not, is
`Tabula.C06Agree.parsers_agree_everywhere` / `parsers_agree` (`Props/C06Agree.lean`): on every input on which
both parsers return a value it is the same value and both stand at the same byte (the reference `n g R`, which
content streams do not have, being the one object read differently).  Further parts of this property:
`Props/C06Progress.lean` (every call consumes input or fails; the fuel of the models is never reached),
`Props/C06Errors.lean` (lexical errors propagate; `io.EOF` only after everything was tokenized),
`Props/C06Number.lean`, `Props/C06Lexer.lean`, `Props/C06Space.lean` (numbers, hex strings, names, comments,
separators characterised for every input), `Props/C06Statement.lean` (the property text end to end, sequences).

Not proved: the models are tied to the Go code by the correspondence run, not by proof.
-/

end Tabula.C06
