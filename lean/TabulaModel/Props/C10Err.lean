import TabulaModel.Lemmas.BuilderAuto
import TabulaModel.Props.C10
import TabulaModel.Props.C10Life
import TabulaModel.Props.C10Hist
import TabulaModel.Props.C10E2E
/-!
# C10 — WHICH error: the builder error through every call, the page named by the range error

The other files prove when an operation fails.  This one proves what it reports, as a function
of the call history (`Model/BuilderAuto.lean`, second part; compared with the messages of the
implementation by the ops `c10.ecls` and `c10.rerr`):

* **builder_error_carried** — `e.err` as a value: every configuration method hands it on
  unchanged (`clone` copies it; `PageRange` sets it only `if newExt.err == nil`), so the error
  of a chain is its FIRST inverted range, whatever follows;
* **first_bad_spec**, **resolve_error_iff** — `resolvePages` fails iff some number of the list is
  outside `1..n`, and the page it names is the first such number in call order (duplicates and
  ranges expanded in the order the calls appended them);
* **open_err_iff** — the five ways `ensureReader` refuses a file are exactly the negation of
  `openOkOf`;
* **err_class_consistent**, **err_class_of_history** — an operation fails iff the error model
  names an error, after any history;
* **range_error_end_to_end**, **builder_error_end_to_end**, **error_precedence** — after any
  history, a well-formed chain that names a page outside an n-page PDF makes every terminal
  operation report "page p out of range (1-n)" for the first outside page p of the chain; a
  chain with an inverted range makes every non-terminal operation, and every terminal one that
  looks at the builder error (`checksErrE`: all but `ToMarkdown` on the six formats with a
  reader of their own), report that range — whatever the file is.
-/
namespace Tabula.C10Err
open Tabula.PageSel Tabula.Builder Tabula.BuilderAuto

/-! ## the builder error as a value -/

theorem deriveErr_some (x : Int × Int) (c : BCall) : deriveErr (some x) c = some x := by
  cases c <;> simp only [deriveErr] <;> (try split) <;> rfl

theorem chainErr_some (x : Int × Int) (cs : List BCall) : chainErr (some x) cs = some x := by
  induction cs with
  | nil => rfl
  | cons c cs ih =>
    show chainErr (deriveErr (some x) c) cs = some x
    rw [deriveErr_some, ih]

theorem chainErr_cons (err : Option (Int × Int)) (c : BCall) (cs : List BCall) :
    chainErr err (c :: cs) = chainErr (deriveErr err c) cs := rfl

theorem chainErr_none (cs : List BCall) : chainErr none cs = firstInverted cs := by
  induction cs with
  | nil => rfl
  | cons c cs ih =>
    rw [chainErr_cons]
    cases c with
    | pageRange s t =>
      by_cases h : s > t
      · simp only [deriveErr, firstInverted, h, if_true, Option.isNone_none, chainErr_some]
      · simp only [deriveErr, firstInverted, h, if_false, ih]
    | _ => simpa only [deriveErr, firstInverted] using ih

theorem badRange_eq_firstInverted (cs : List BCall) : badRange cs = (firstInverted cs).isSome := by
  induction cs with
  | nil => rfl
  | cons c cs ih =>
    cases c with
    | pageRange s t =>
      by_cases h : s > t
      · simp [badRange, firstInverted, h]
      · simp [badRange, firstInverted, h, ih]
    | _ => simpa only [badRange, firstInverted] using ih

/-- **builder_error_carried**: through any chain of configuration methods (each of which clones
its receiver) an error that is set stays the same error; starting without one, the chain's error
is its first inverted `PageRange`; and the flag of the extractor record is the base's flag or-ed
with "that value exists". -/
theorem builder_error_carried (e0 : Ext) (cs : List BCall) (x : Int × Int) :
    chainErr (some x) cs = some x ∧
    chainErr none cs = firstInverted cs ∧
    (chainFrom e0 cs).err = (e0.err || (firstInverted cs).isSome) := by
  refine ⟨chainErr_some x cs, chainErr_none cs, ?_⟩
  rw [(C10E2E.chain_cfg cs e0).2.1, badRange_eq_firstInverted]

example : chainErr none [.pages [9], .pageRange 5 3, .byColumn, .pageRange 2 1, .pages [1]] = some (5, 3) ∧
    (chainFrom {} [.pages [9], .pageRange 5 3, .byColumn, .pageRange 2 1, .pages [1]]).err = true := by
  decide

/-- the later calls of a chain cannot change or clear its error -/
theorem first_error_wins (a b : List BCall) (x : Int × Int) (h : firstInverted a = some x) :
    firstInverted (a ++ b) = some x := by
  rw [← chainErr_none, chainErr, List.foldl_append]
  have : List.foldl deriveErr none a = some x := by
    have := chainErr_none a; unfold chainErr at this; rw [this, h]
  rw [this]
  exact chainErr_some x b

/-! ## the page the range error names -/

theorem firstBad_none_iff (n : Nat) (sel : List Int) : firstBad n sel = none ↔ InRange sel n := by
  rw [firstBad_eq_find?, List.find?_eq_none]
  exact forall₂_congr fun p _ => by simp only [decide_eq_true_eq]; omega

/-- **first_bad_spec**: the page named is outside `1..n`, it is in the list, and everything
before it (in call order) is inside — so it is the FIRST outside page. -/
theorem first_bad_spec (n : Nat) (sel : List Int) (p : Int) (h : firstBad n sel = some p) :
    (p < 1 ∨ p > (n : Int)) ∧ ∃ pre post, sel = pre ++ p :: post ∧ InRange pre n := by
  rw [firstBad_eq_find?, List.find?_eq_some_iff_append] at h
  obtain ⟨hp, pre, post, hsel, hpre⟩ := h
  refine ⟨of_decide_eq_true hp, pre, post, hsel, fun q hq => ?_⟩
  have := hpre q hq
  simp only [Bool.not_eq_true', decide_eq_false_iff_not] at this
  omega

/-- **resolve_error_iff**: `resolvePages` returns the range error iff the list has a first
outside page (an empty list never fails). -/
theorem resolve_error_iff (sel : List Int) (n : Nat) :
    resolvePages sel n = .error .range ↔ (firstBad n sel).isSome = true := by
  rcases resolvePages_cases sel n with ⟨hne, hs⟩ | ⟨_, hr, hs⟩ | ⟨_, hr, hs⟩ <;> rw [hs]
  · subst hne; simp [firstBad]
  · rw [(firstBad_none_iff n sel).mpr hr]; simp
  · cases hb : firstBad n sel with
    | none => exact absurd ((firstBad_none_iff n sel).mp hb) hr
    | some p => simp

example : firstBad 3 [2, 3, 7, 0, 2] = some 7 ∧ resolvePages [2, 3, 7, 0, 2] 3 = .error .range := by decide

/-- **open_err_iff**: `ensureReader` names one of its five errors exactly when `openOkOf` is
false -/
theorem open_err_iff (f : FileFacts) (fmt : Fmt) : (openErrOf f fmt).isNone = openOkOf f fmt := by
  rw [Bool.eq_iff_iff, C10Life.open_ok_iff, Option.isNone_iff_eq_none]
  unfold openErrOf
  cases f.present with
  | false => simp
  | true =>
    cases f.detected with
    | none => simp
    | some d =>
      by_cases hu : d = .unknown <;> by_cases hd : d = fmt <;> by_cases hf : fmt = .unknown <;>
        simp [hu, hd, hf]

/-! ## failing = naming an error -/

theorem bodyErr_none_iff (w : World) (k : Term) (e : Ext) :
    bodyErr w k e = none ↔ termBodyF w k e ≠ .err := by
  unfold bodyErr termBodyF termBody
  cases hp : w.pageCount with
  | none => simp
  | some n =>
    simp only
    by_cases hf : e.format = .pdf
    · simp only [hf, if_true]
      by_cases hem : e.opts.pages = []
      · rw [hem]
        simp only [List.isEmpty_nil, if_true, C10.resolve_none]
        cases hk : k.needsPages <;> cases n <;> simp [List.range_succ]
      · have hem' : e.opts.pages.isEmpty = false := List.isEmpty_eq_false_iff.mpr hem
        simp only [hem', Bool.false_eq_true, if_false]
        cases hb : firstBad n e.opts.pages with
        | some p =>
          have := (resolve_error_iff e.opts.pages n).mpr (by rw [hb]; rfl)
          simp [this]
        | none =>
          have hr := (firstBad_none_iff n _).mp hb
          rw [(C10.resolve_spec _ n hem).1 hr]
          have : (specPages e.opts.pages n).isEmpty = false :=
            List.isEmpty_eq_false_iff.mpr (C10Life.specPages_ne_nil _ n hem hr)
          simp [this]
    · simp [hf]

/-- the two descriptions of "looks at the builder error" differ only for an unknown format -/
theorem checksErrE_eq (k : Term) (f : Fmt) (hf : f ≠ .unknown) : checksErrE k f = k.checksErr f := by
  unfold checksErrE Term.checksErr
  rw [bne_iff_ne.mpr hf, Bool.and_true]

/-- a file whose name has no known extension is never opened (`openOkOf` is false for it) -/
def UnknownNeverOpens (w : World) (e : Ext) : Prop :=
  e.format = .unknown → e.hasFile = true ∧ w.openOk = false

theorem unknown_never_opens (ff : FileFacts) (pc : Option Nat) (e : Ext) (hf : e.hasFile = true) :
    UnknownNeverOpens ⟨openOkOf ff e.format, pc⟩ e := by
  intro hu
  refine ⟨hf, ?_⟩
  rw [hu]
  simp [openOkOf]

/-- **err_class_consistent**: the error model names an error exactly when the answer proved
for every history (`termStatic`, `nonTermStatic`) is an error. -/
theorem err_class_consistent (w : World) (oe : OpenErr) (e : Ext) (inv : Option (Int × Int))
    (hu : UnknownNeverOpens w e) :
    (∀ k : Term, termErr w oe k e inv = none ↔ termStatic w k e ≠ .err) ∧
    (∀ k : NonTerm, nonTermErr w oe k e inv = none ↔ nonTermStatic w k e ≠ .err) := by
  have hopen : ((!e.hasFile || w.openOk) = true) ↔ ¬ (e.hasFile && !w.openOk) = true := by
    cases e.hasFile <;> cases w.openOk <;> decide
  constructor
  · intro k
    unfold termErr termStatic
    rw [ite_some_eq_none, ite_some_eq_none, ite_some_eq_none, ite_ne_left, ite_ne_left,
      ite_ne_right, bodyErr_none_iff, hopen]
    by_cases hf : e.format = .unknown
    · obtain ⟨h1, h2⟩ := hu hf
      simp [h1, h2]
    · rw [checksErrE_eq k e.format hf]
      constructor <;> rintro ⟨a, b, c, d⟩ <;> exact ⟨a, c, b, d⟩
  · intro k
    unfold nonTermErr nonTermStatic
    rw [ite_some_eq_none, ite_some_eq_none, ite_some_eq_none, ite_ne_left, ite_ne_left,
      ite_ne_right, hopen]
    refine Iff.trans (and_congr_right fun _ => and_congr_right fun _ => and_congr_right fun _ =>
      (?_ : _ ↔ nonTermBody w k ≠ .err)) ⟨fun ⟨a, b, c, d⟩ => ⟨a, c, b, d⟩, fun ⟨a, c, b, d⟩ => ⟨a, b, c, d⟩⟩
    unfold nonTermBody
    cases w.pageCount with
    | none => simp
    | some n => cases k <;> simp <;> split <;> simp_all

/-- **err_class_of_history**: after ANY history on the family of `Open(name)`, a terminal or
non-terminal operation on extractor `i` fails iff the error model, applied to the chain of
calls that built `i`, names an error. -/
theorem err_class_of_history (w : World) (oe : OpenErr) (f : Fmt) (hu : f = .unknown → w.openOk = false)
    (ops : List Op) (i : Nat) (cs : List BCall) (hl : (lineage [[]] ops)[i]? = some cs) :
    (∀ k : Term, (terminal w k (exec w (openBaseF f) ops) i).2 = .err ↔
      (errAnswer w oe { format := f } (lineage [[]] ops) (.term i k)).isSome = true) ∧
    (∀ k : NonTerm, (nonTerminal w k (exec w (openBaseF f) ops) i).2 = .err ↔
      (errAnswer w oe { format := f } (lineage [[]] ops) (.nonTerm i k)).isSome = true) := by
  obtain ⟨ht, hn⟩ := C10Hist.answer_of_lineage w f ops i cs hl
  have hcfg := C10E2E.chain_cfg cs { format := f }
  have hun : UnknownNeverOpens w (chainFrom { format := f } cs) := by
    intro h
    rw [hcfg.2.2.1] at h
    exact ⟨by rw [hcfg.2.2.2], hu h⟩
  obtain ⟨ct, cn⟩ := err_class_consistent w oe (chainFrom { format := f } cs) (firstInverted cs) hun
  constructor
  · intro k
    rw [ht k]
    simp only [errAnswer, hl, Option.bind_some]
    exact iff_isSome_of_none_iff (ct k)
  · intro k
    rw [hn k]
    simp only [errAnswer, hl, Option.bind_some]
    exact iff_isSome_of_none_iff (cn k)

example : UnknownNeverOpens ⟨openOkOf ⟨true, some .unknown, true⟩ .unknown, none⟩ { format := .unknown } ∧
    termErr ⟨false, none⟩ .unsupported .toMarkdown (chainFrom { format := .unknown } [.pageRange 2 1]) (some (2, 1))
      = some (.builder 2 1) := by
  refine ⟨unknown_never_opens _ _ _ rfl, by decide⟩

/-- **range_error_end_to_end**: after ANY history on the family of `Open(f)` for a PDF of `n`
pages that opens, an extractor built by a chain without inverted range that names a page outside
the document makes EVERY terminal operation fail, and the error it reports is "page p out of
range (1-n)" where `p` is the first number, in the order the calls appended them, that lies
outside `1..n`. -/
theorem range_error_end_to_end (w : World) (oe : OpenErr) (n : Nat) (hw : w.openOk = true)
    (hn : w.pageCount = some n) (ops : List Op) (i : Nat) (cs : List BCall)
    (hl : (lineage [[]] ops)[i]? = some cs) (hgood : firstInverted cs = none)
    (p : Int) (hp : firstBad n (selOf cs) = some p) (k : Term) :
    errAnswer w oe { format := .pdf } (lineage [[]] ops) (.term i k) = some (.range p n) ∧
    (terminal w k (exec w (openBaseF .pdf) ops) i).2 = .err := by
  obtain ⟨hpages, herr, hfmt, hfile⟩ := C10E2E.chain_cfg cs { format := .pdf }
  have hbad : badRange cs = false := by rw [badRange_eq_firstInverted, hgood]; rfl
  have hsel : (chainFrom { format := .pdf } cs).opts.pages = selOf cs := by simpa using hpages
  have hne : selOf cs ≠ [] := by intro h; rw [h] at hp; cases hp
  have hcls : termErr w oe k (chainFrom { format := .pdf } cs) (firstInverted cs) = some (.range p n) := by
    have hf : (chainFrom { format := .pdf } cs).format = .pdf := hfmt
    have he : (chainFrom { format := .pdf } cs).err = false := by rw [herr, hbad]; rfl
    unfold termErr
    rw [(bodyErr_eq_range_iff w k _ p n).mpr ⟨hf, hn, hsel ▸ hp⟩]
    simp [hf, he, hw]
  refine ⟨by simp only [errAnswer, hl, Option.bind_some]; exact hcls, ?_⟩
  exact C10E2E.out_of_range_end_to_end w n hw hn ops i cs hl hne
    (fun hr => by rw [(firstBad_none_iff n _).mpr hr] at hp; cases hp) k

example : let w : World := ⟨true, some 3⟩
    let ops := [Op.nonTerm 0 .pageCount, .derive 0 (.pages [2, 3]), .term 0 .text, .derive 1 (.pageRange 3 5),
      .derive 2 (.pages [0])]
    (lineage [[]] ops)[3]? = some [.pages [2, 3], .pageRange 3 5, .pages [0]] ∧
    firstBad 3 (selOf [.pages [2, 3], .pageRange 3 5, .pages [0]]) = some 4 ∧
    errAnswer w .parse { format := .pdf } (lineage [[]] ops) (.term 3 .lines) = some (.range 4 3) := by decide

/-- **builder_error_end_to_end**: after ANY history, whatever the file is (missing, of another
format, unreadable), an extractor whose chain has an inverted `PageRange` makes every terminal
operation that looks at the builder error, and every non-terminal one, report "invalid page range
s-t" for the FIRST inverted range of the chain — whatever else the chain contains. -/
theorem builder_error_end_to_end (w : World) (oe : OpenErr) (f : Fmt) (ops : List Op) (i : Nat)
    (cs : List BCall) (hl : (lineage [[]] ops)[i]? = some cs) (s t : Int)
    (hinv : firstInverted cs = some (s, t)) :
    (∀ k : Term, checksErrE k f = true →
      errAnswer w oe { format := f } (lineage [[]] ops) (.term i k) = some (.builder s t)) ∧
    (∀ k : NonTerm, errAnswer w oe { format := f } (lineage [[]] ops) (.nonTerm i k) = some (.builder s t)) := by
  obtain ⟨_, herr, hfmt, _⟩ := C10E2E.chain_cfg cs { format := f }
  have he : (chainFrom { format := f } cs).err = true := by
    rw [herr, badRange_eq_firstInverted, hinv]; rfl
  have hf : (chainFrom { format := f } cs).format = f := hfmt
  constructor
  · intro k hk
    simp only [errAnswer, hl, Option.bind_some, termErr, hf, hk, he, Bool.and_self, if_true, hinv]
  · intro k
    simp only [errAnswer, hl, Option.bind_some, nonTermErr, he, if_true, hinv]

/-- **error_precedence**: the order in which an operation can fail, as two implications on the
error model: the range error is reported only if there is no builder error the operation looks
at, the file opens and the operation is supported for the format (and then for a PDF of `n` pages
whose first outside page is `p`); the format error of `ensurePDFReader` only if there is no such
builder error and the file opens. -/
theorem error_precedence (w : World) (oe : OpenErr) (k : Term) (e : Ext) (inv : Option (Int × Int)) :
    (∀ p n, termErr w oe k e inv = some (.range p n) →
      (checksErrE k e.format && e.err) = false ∧ (e.hasFile && !w.openOk) = false ∧
      (k.pdfOnly && e.format != .pdf) = false ∧ e.format = .pdf ∧ w.pageCount = some n ∧
      firstBad n e.opts.pages = some p) ∧
    (termErr w oe k e inv = some .pdfOnly →
      (checksErrE k e.format && e.err) = false ∧ (e.hasFile && !w.openOk) = false) := by
  have hinv : ∀ c : EClass, c ≠ .other → (∀ s t, c ≠ .builder s t) →
      (match inv with | some (s, t) => EClass.builder s t | none => .other) ≠ c := by
    intro c h1 h2 h
    cases inv with
    | none => exact h1 h.symm
    | some x => exact h2 _ _ h.symm
  refine ⟨?_, ?_⟩
  · intro p n h
    unfold termErr at h
    rw [ite_some_eq_some, ite_some_eq_some, ite_some_eq_some] at h
    rcases h with ⟨_, h⟩ | ⟨hc, ⟨_, h⟩ | ⟨ho, ⟨_, h⟩ | ⟨hm, h⟩⟩⟩
    · exact absurd h (hinv _ EClass.noConfusion fun _ _ => EClass.noConfusion)
    · cases h
    · cases h
    · exact ⟨Bool.eq_false_iff.mpr hc, Bool.eq_false_iff.mpr ho, Bool.eq_false_iff.mpr hm,
        (bodyErr_eq_range_iff w k e p n).mp h⟩
  · intro h
    unfold termErr at h
    rw [ite_some_eq_some, ite_some_eq_some] at h
    rcases h with ⟨_, h⟩ | ⟨hc, ⟨_, h⟩ | ⟨ho, _⟩⟩
    · exact absurd h (hinv _ EClass.noConfusion fun _ _ => EClass.noConfusion)
    · cases h
    · exact ⟨Bool.eq_false_iff.mpr hc, Bool.eq_false_iff.mpr ho⟩

end Tabula.C10Err
