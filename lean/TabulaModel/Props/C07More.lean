import TabulaModel.Props.C07
/-!
# C07, further theorems: total readings of the decoders

1. **UTF-16 on EVERY byte string** (not only on encodings of scalar strings): `DecodeUTF16BE/LE`
   is the standard UTF-16 reading (`stdPairs`: pairs combined, plain units kept, unpaired
   surrogates marked) with the unpaired surrogates dropped, where `utf16.Decode` writes U+FFFD;
   an odd last byte is read as if a zero byte followed; a valid UTF-16 prefix decodes to its text
   whatever bytes follow; carried through `Font.DecodeString` behind a byte-order mark.
2. **`LookupString` of EVERY CMap value without fuel**: with an effective width `w > 0` the
   result is given by two laws (fewer than `w` bytes: byte by byte; otherwise the first `w` bytes
   are one code and the rest is decoded in the same way) - the loop counter of the model is
   irrelevant; whole codes followed by anything decode code by code.
3. **The width-less fallback loop** (programs without a code-space section): effective width 0 iff no code-space width; a mapped one-byte code wins over the
   two-byte code that starts with it; a two-byte code is used when its first byte alone is
   unmapped; an unmapped byte is the character of that number; closed forms for strings of
   one-byte codes, of two-byte codes and of unmapped bytes.
4. **Raw and named paths on ASCII / concatenations**: a font without ToUnicode and without an
   encoding name, and the font-less `showText` path, return every ASCII string unchanged (before
   NFC); the named path is a homomorphism for concatenation (what `TJ` relies on) and never
   returns more characters than bytes.
5. **The fallback loop against code spaces; printable ASCII**: on strings of mapped one-byte (two-byte)
   codes the width-less loop decodes like the same CMap under a one-byte (two-byte) code space; the
   Latin tables keep printable ASCII, StandardEncoding all but the two quotes.
-/
namespace Tabula.C07More
open Tabula.UTF16 Tabula.Encoding Tabula.CMap Tabula.FontDecode

/-! ## 1. UTF-16 on every unit list / byte string -/

/-- the standard reading of a list of UTF-16 code units: a high surrogate followed by a low one
is one supplementary character, any other surrogate is unpaired (`none`), every other unit is
itself -/
def stdPairs : List Nat → List (Option Nat)
  | [] => []
  | [u] => if isHigh u then [none] else if isLow u then [none] else [some u]
  | u :: l :: rest =>
    if isHigh u then
      if isLow l then some (combine u l) :: stdPairs rest
      else none :: stdPairs (l :: rest)
    else if isLow u then none :: stdPairs (l :: rest)
    else some u :: stdPairs (l :: rest)

/-- **the loop of `DecodeUTF16BE/LE` on every list of code units**: the standard reading with
the unpaired surrogates dropped -/
theorem utf16_units_total (us : List Nat) : decodeUnits us = (stdPairs us).filterMap id := by
  fun_induction decodeUnits us <;> simp_all [stdPairs]

theorem toRune_plain (u : Nat) (hu : u < 65536) (hh : isHigh u = false) (hl : isLow u = false) : toRune u = u :=
  toRune_scalar u (plain_unit_scalar u hu hh hl)

/-- U+FFFD, the replacement character -/
def replacement : Nat := 0xFFFD

theorem stdPairs_pair (u l : Nat) (rest : List Nat) (h1 : isHigh u = true) (h2 : isLow l = true) :
    stdPairs (u :: l :: rest) = some (combine u l) :: stdPairs rest := by
  rw [stdPairs, if_pos h1, if_pos h2]

theorem std_total_aux (us : List Nat) (h : ∀ u ∈ us, isHigh u = false → isLow u = false → toRune u = u) :
    stdDecodeUnits us = (stdPairs us).map (fun o => o.getD replacement) := by
  fun_induction stdDecodeUnits us with
  | case1 => simp [stdPairs]
  | case2 u =>
    have hu := h u (by simp)
    unfold stdPairs
    by_cases hh : isHigh u = true
    · simp [hh, replacement, toRune_surrogate u (Or.inl hh)]
    · by_cases hl : isLow u = true
      · simp [hh, hl, replacement, toRune_surrogate u (Or.inr hl)]
      · simp [hh, hl, hu (by simpa using hh) (by simpa using hl)]
  | case3 u l rest hc ih =>
    have hc' := hc
    simp only [Bool.and_eq_true] at hc'
    rw [stdPairs_pair u l rest hc'.1 hc'.2, List.map_cons, Option.getD_some, ih (fun x hx => h x (by simp [hx]))]
  | case4 u l rest hc ih =>
    have hu := h u (by simp)
    rw [ih (fun x hx => h x (List.mem_cons_of_mem _ hx))]
    by_cases hh : isHigh u = true
    · have hl : isLow l = false := by
        cases hl : isLow l with
        | false => rfl
        | true => exact absurd (by simp [hh, hl]) hc
      simp [stdPairs, hh, hl, replacement, toRune_surrogate u (Or.inl hh)]
    · by_cases hl : isLow u = true
      · simp [stdPairs, hh, hl, replacement, toRune_surrogate u (Or.inr hl)]
      · simp [stdPairs, hh, hl, hu (by simpa using hh) (by simpa using hl)]

/-- `stdPairs` is what Go's `utf16.Decode` reads: the same list with U+FFFD for every unpaired
surrogate (units are 16-bit) -/
theorem utf16_std_total (us : List Nat) (h : ∀ u ∈ us, u < 65536) :
    stdDecodeUnits us = (stdPairs us).map (fun o => o.getD replacement) :=
  std_total_aux us (fun u hu => toRune_plain u (h u hu))

/-- big-endian byte strings: an even-length prefix splits the unit list -/
theorem unitsBE_even_append (d e : List Nat) (hd : d.length % 2 = 0) :
    unitsBE (d ++ e) = unitsBE d ++ unitsBE e := by
  fun_induction unitsBE d with
  | case1 => simp
  | case2 a => simp at hd
  | case3 a b rest ih =>
    simp only [List.cons_append, unitsBE]
    rw [ih (by simp at hd; omega)]

theorem unitsLE_even_append (d e : List Nat) (hd : d.length % 2 = 0) :
    unitsLE (d ++ e) = unitsLE d ++ unitsLE e := by
  fun_induction unitsLE d with
  | case1 => simp
  | case2 a => simp at hd
  | case3 a b rest ih =>
    simp only [List.cons_append, unitsLE]
    rw [ih (by simp at hd; omega)]

/-- **odd length**: a last byte without a partner is read as if a zero byte followed
(`data = append(data, 0)`), big-endian as the high byte, little-endian as the low byte -/
theorem utf16_odd_tail (d : List Nat) (a : Nat) (hd : d.length % 2 = 0) :
    decodeUTF16BE (d ++ [a]) = decodeUTF16BE (d ++ [a, 0]) ∧
    decodeUTF16LE (d ++ [a]) = decodeUTF16LE (d ++ [a, 0]) := by
  unfold decodeUTF16BE decodeUTF16LE
  rw [unitsBE_even_append d _ hd, unitsBE_even_append d _ hd,
    unitsLE_even_append d _ hd, unitsLE_even_append d _ hd]
  simp [unitsBE, unitsLE]

/-- **`DecodeUTF16BE/LE` on every byte string**: the standard reading of its code units (an odd
last byte paired with zero), unpaired surrogates dropped -/
theorem utf16_bytes_total (data : List Nat) :
    decodeUTF16BE data = (stdPairs (unitsBE data)).filterMap id ∧
    decodeUTF16LE data = (stdPairs (unitsLE data)).filterMap id :=
  ⟨utf16_units_total _, utf16_units_total _⟩

theorem bytesBE_length_even (us : List Nat) : (bytesBE us).length % 2 = 0 := by
  rw [bytesBE_length]; omega

theorem bytesLE_length_even (us : List Nat) : (bytesLE us).length % 2 = 0 := by
  induction us with
  | nil => simp [bytesLE]
  | cons u us ih =>
    simp only [bytesLE, List.flatMap_cons, List.length_append, List.length_cons, List.length_nil] at ih ⊢
    omega

/-- **a valid UTF-16 prefix decodes to its text whatever follows** (any bytes, also an odd
number of them, also unpaired surrogates) -/
theorem utf16_valid_prefix (s : List Nat) (hs : ∀ c ∈ s, IsScalar c) (rest : List Nat) :
    decodeUTF16BE (bytesBE (encodeUnits s) ++ rest) = s ++ decodeUTF16BE rest ∧
    decodeUTF16LE (bytesLE (encodeUnits s) ++ rest) = s ++ decodeUTF16LE rest := by
  unfold decodeUTF16BE decodeUTF16LE
  rw [unitsBE_even_append _ _ (bytesBE_length_even _), unitsLE_even_append _ _ (bytesLE_length_even _),
    unitsBE_bytesBE, unitsLE_bytesLE]
  exact ⟨decode_encodeUnits_append _ decodeUnits_encodeScalar s hs _, decode_encodeUnits_append _ decodeUnits_encodeScalar s hs _⟩

example : decodeUTF16BE (bytesBE (encodeUnits [0x41, 0x1D400]) ++ [0xD8, 0x00, 0x42]) = [0x41, 0x1D400, 0x4200] := by
  decide

/-- **a byte-order mark through `Font.DecodeString`, every byte string**: a font without
ToUnicode - whatever its encoding name and `/Differences` - reads ANY bytes after `FE FF`
(`FF FE`) as UTF-16BE (LE) in the standard way, unpaired surrogates dropped, NFC last -/
theorem font_utf16_total (nfc : List Nat → List Nat) (enc : List Nat) (ds : Diffs) (rest : List Nat) :
    FontDecode.decodeString nfc ⟨none, enc, ds⟩ (0xFE :: 0xFF :: rest)
      = some (nfc ((stdPairs (unitsBE rest)).filterMap id)) ∧
    FontDecode.decodeString nfc ⟨none, enc, ds⟩ (0xFF :: 0xFE :: rest)
      = some (nfc ((stdPairs (unitsLE rest)).filterMap id)) := by
  simp [FontDecode.decodeString, preNFC, decodeUTF16BE, decodeUTF16LE, utf16_units_total]

/-! ## 2. `LookupString` of every CMap value, without the loop counter -/

theorem effectiveWidth_zero_iff (cm : CMap) : effectiveWidth cm = 0 ↔ cm.byteWidth = 0 := by
  unfold effectiveWidth
  split <;> omega

/-- the loop counter of `lookupWidth` is irrelevant once it exceeds the length -/
theorem lookupWidth_fuel (cm : CMap) (w : Nat) (hw : 0 < w) (f1 f2 : Nat) (data : List Nat)
    (h1 : data.length < f1) (h2 : data.length < f2) :
    lookupWidth cm w f1 data = lookupWidth cm w f2 data :=
  Tabula.CMap.lookupWidth_fuel cm w hw f1 f2 data h1 h2

/-- **fewer bytes than a code**: byte by byte -/
theorem lookupString_short (cm : CMap) (data : List Nat) (h : data.length < effectiveWidth cm) :
    lookupString cm data = data.flatMap (emit cm) :=
  Tabula.CMap.lookupString_short cm data h

/-- **at least one whole code**: the first `w` bytes are one code, the rest is decoded in the
same way - for every CMap value with a positive effective width -/
theorem lookupString_step (cm : CMap) (data : List Nat) (hw : 0 < effectiveWidth cm)
    (h : effectiveWidth cm ≤ data.length) :
    lookupString cm data
      = emit cm (codeOf (data.take (effectiveWidth cm))) ++ lookupString cm (data.drop (effectiveWidth cm)) :=
  Tabula.CMap.lookupString_step cm data hw h

/-- **whole codes, then anything**: a list of codes of the effective width followed by any
bytes decodes code by code, then the rest -/
theorem lookupString_whole_codes (cm : CMap) (hw : 0 < effectiveWidth cm) (codes : List (List Nat))
    (hc : ∀ c ∈ codes, c.length = effectiveWidth cm) (rest : List Nat) :
    lookupString cm (codes.flatten ++ rest)
      = codes.flatMap (fun c => emit cm (codeOf c)) ++ lookupString cm rest :=
  Tabula.CMap.lookupString_whole_codes cm hw codes hc rest

example : effectiveWidth { byteWidth := 2 } = 2 := by decide

/-! ## 3. the width-less fallback loop -/

/-- a mapped one-byte code wins, whatever the two-byte code starting with it says -/
theorem fallback_one_byte_first (cm : CMap) (hw : cm.byteWidth = 0) (b : Nat) (rest : List Nat)
    (h : lookup cm b ≠ []) :
    lookupString cm (b :: rest) = lookup cm b ++ lookupString cm rest := by
  rw [lookupString_fallback cm hw, lookupString_fallback cm hw]
  cases rest <;> simp [lookupFallback, h]

/-- the first byte alone is unmapped, the two-byte code is mapped: that code is used -/
theorem fallback_two_byte_next (cm : CMap) (hw : cm.byteWidth = 0) (b b2 : Nat) (rest : List Nat)
    (h1 : lookup cm b = []) (h2 : lookup cm ((b <<< 8) ||| b2) ≠ []) :
    lookupString cm (b :: b2 :: rest) = lookup cm ((b <<< 8) ||| b2) ++ lookupString cm rest := by
  rw [lookupString_fallback cm hw, lookupString_fallback cm hw]
  simp [lookupFallback, h1, h2]

/-- neither is mapped: the byte is the character of that number, decoding goes on after it -/
theorem fallback_unmapped_byte (cm : CMap) (hw : cm.byteWidth = 0) (b b2 : Nat) (rest : List Nat)
    (h1 : lookup cm b = []) (h2 : lookup cm ((b <<< 8) ||| b2) = []) :
    lookupString cm (b :: b2 :: rest) = toRune b :: lookupString cm (b2 :: rest) := by
  rw [lookupString_fallback cm hw, lookupString_fallback cm hw]
  simp [lookupFallback, h1, h2]

theorem fallback_nil (cm : CMap) (hw : cm.byteWidth = 0) : lookupString cm [] = [] := by
  rw [lookupString_fallback cm hw]
  rfl

/-- **a width-less CMap on a string of mapped one-byte codes**: code by code -/
theorem fallback_one_byte_codes (cm : CMap) (hw : cm.byteWidth = 0) (data : List Nat)
    (h : ∀ b ∈ data, lookup cm b ≠ []) :
    lookupString cm data = data.flatMap (lookup cm) := by
  induction data with
  | nil => simpa using fallback_nil cm hw
  | cons b rest ih =>
    rw [fallback_one_byte_first cm hw b rest (h b (by simp)), ih (fun x hx => h x (by simp [hx]))]
    simp

/-- **a width-less CMap on a string of two-byte codes** whose first bytes are not codes of
their own: code by code -/
theorem fallback_two_byte_codes (cm : CMap) (hw : cm.byteWidth = 0) (codes : List (Nat × Nat))
    (h1 : ∀ p ∈ codes, lookup cm p.1 = [])
    (h2 : ∀ p ∈ codes, lookup cm ((p.1 <<< 8) ||| p.2) ≠ []) :
    lookupString cm (codes.flatMap fun p => [p.1, p.2])
      = codes.flatMap fun p => lookup cm ((p.1 <<< 8) ||| p.2) := by
  induction codes with
  | nil => simpa using fallback_nil cm hw
  | cons p ps ih =>
    simp only [List.flatMap_cons, List.cons_append, List.nil_append]
    rw [fallback_two_byte_next cm hw p.1 p.2 _ (h1 p (by simp)) (h2 p (by simp)),
      ih (fun x hx => h1 x (by simp [hx])) (fun x hx => h2 x (by simp [hx]))]

/-- **a width-less CMap that maps nothing below 65536**: every byte string is returned as the
characters of its byte values (Latin-1 reading) -/
theorem fallback_unmapped (cm : CMap) (hw : cm.byteWidth = 0) (hno : ∀ c, c < 65536 → lookup cm c = [])
    (data : List Nat) (hb : AllBytes data) :
    lookupString cm data = data := by
  rw [lookupString_fallback cm hw]
  have hr : ∀ b, b < 256 → toRune b = b := fun b hb' => toRune_scalar b (Or.inl (by omega))
  fun_induction lookupFallback cm data with
  | case1 => rfl
  | case2 b u hu =>
    have := hno b (by have := hb b (by simp); omega)
    exact absurd this hu
  | case3 b hu =>
    rw [hr b (hb b (by simp))]
  | case4 b b2 rest u1 hu ih =>
    exact absurd (hno b (by have := hb b (by simp); omega)) hu
  | case5 b b2 rest u1 hu1 u2 hu2 ih =>
    have := hno ((b <<< 8) ||| b2) (be16_lt b b2 (hb b (by simp)) (hb b2 (by simp)))
    exact absurd this hu2
  | case6 b b2 rest u1 hu1 u2 hu2 ih =>
    rw [ih (allBytes_tail hb), hr b (hb b (by simp))]

example : lookupString { chars := [(0x41, [0x3B1])] } [0x41, 0x41] = [0x3B1, 0x3B1] := by decide
example : lookupString { chars := [(0x4142, [0x3B2])] } [0x41, 0x42] = [0x3B2] := by decide

/-! ## 4. raw and named paths -/

theorem toValidAux_ascii (fuel : Nat) (inv : Bool) (data : List Nat) (h : ∀ b ∈ data, b < 128)
    (hf : data.length ≤ fuel) : toValidAux fuel inv data = data := by
  induction data generalizing fuel inv with
  | nil => cases fuel <;> simp [toValidAux]
  | cons b rest ih =>
    cases fuel with
    | zero => simp at hf
    | succ f =>
      simp only [toValidAux]
      rw [if_pos (h b (by simp)), ih f false (fun x hx => h x (by simp [hx])) (by simp at hf; omega)]

/-- `strings.ToValidUTF8` keeps every ASCII string -/
theorem toValidUTF8_ascii (data : List Nat) (h : ∀ b ∈ data, b < 128) : toValidUTF8 data = data :=
  toValidAux_ascii _ _ data h (Nat.le_refl _)

/-- **ASCII without a font table entry, or with a font that has neither ToUnicode nor an
encoding name**: every ASCII string is returned as it is (NFC last) -/
theorem raw_ascii (nfc : List Nat → List Nat) (ds : Diffs) (data : List Nat) (h : ∀ b ∈ data, b < 128) :
    showTextNoFont nfc data = nfc data ∧
    FontDecode.decodeString nfc ⟨none, [], ds⟩ data = some (nfc data) := by
  refine ⟨by simp [showTextNoFont, showTextNoFontPre, toValidUTF8_ascii data h], ?_⟩
  unfold FontDecode.decodeString preNFC
  simp only
  split
  · exact absurd (h 0xFE (by simp)) (by decide)
  · exact absurd (h 0xFF (by simp)) (by decide)
  · simp [toValidUTF8_ascii data h]

/-- the named path is a homomorphism for concatenation -/
theorem decodeWith_append (ds : Diffs) (t : Array Nat) (a b : List Nat) :
    decodeWith ds t (a ++ b) = decodeWith ds t a ++ decodeWith ds t b := by
  simp [decodeWith, List.filterMap_append]

/-- the named path never returns more characters than bytes -/
theorem decodeWith_length_le (ds : Diffs) (t : Array Nat) (data : List Nat) :
    (decodeWith ds t data).length ≤ data.length := by
  unfold decodeWith
  exact List.length_filterMap_le _ _

/-- **concatenation through `Font.DecodeString` (named path)**: for a font without ToUnicode
with an encoding name, a string `a ++ b` in which neither `a ++ b` nor `a` nor `b` starts with a
byte-order mark decodes, before NFC, to the concatenation of the two parts' texts -/
theorem font_named_append (f : Font) (a b : List Nat)
    (hab : path f (a ++ b) = .named) (ha : path f a = .named) (hb : path f b = .named) :
    ∃ ta tb, preNFC f a = some ta ∧ preNFC f b = some tb ∧ preNFC f (a ++ b) = some (ta ++ tb) := by
  have key : ∀ d, path f d = .named →
      preNFC f d = (getEncoding f.encoding).map fun e => decodeWith f.differences e.table d := by
    intro d hd
    unfold path at hd
    unfold preNFC
    cases htu : f.toUnicode with
    | some cm => rw [htu] at hd; cases hd
    | none =>
      rw [htu] at hd
      simp only at hd ⊢
      split
      · simp at hd
      · simp at hd
      · split at hd
        · cases hd
        · cases hd
        · split at hd
          · rename_i henc; rw [if_pos henc]
          · cases hd
  obtain ⟨e, he⟩ := Option.isSome_iff_exists.1 (C07.getencoding_total f.encoding)
  refine ⟨decodeWith f.differences e.table a, decodeWith f.differences e.table b, ?_, ?_, ?_⟩
  · rw [key a ha, he]; rfl
  · rw [key b hb, he]; rfl
  · rw [key _ hab, he]; simp [decodeWith_append]

example : path ⟨none, [65], []⟩ ([1] ++ [2]) = .named ∧ path ⟨none, [65], []⟩ [1] = .named := by decide

/-! ## 5. the fallback loop against code spaces; printable ASCII under the Latin encodings -/

theorem codeOf_one (b : Nat) : codeOf [b] = b := by simp [codeOf]

theorem codeOf_two (a b : Nat) (ha : a < 256) : codeOf [a, b] = (a <<< 8) ||| b := by
  have h : (a * 256) % 4294967296 = a <<< 8 := by
    rw [Nat.shiftLeft_eq]; omega
  simp [codeOf, h]

/-- **a width-less CMap whose one-byte codes are all mapped decodes like the same CMap under a
one-byte code space** - the fallback loop gives what the property specifies for a 1-byte code
space, on every string of mapped codes -/
theorem fallback_as_one_byte_space (cm : CMap) (hw : cm.byteWidth = 0) (data : List Nat)
    (h : ∀ b ∈ data, lookup cm b ≠ []) :
    lookupString cm data = lookupString { cm with byteWidth := 1 } data := by
  have hew : effectiveWidth { cm with byteWidth := 1 } = 1 := by
    unfold effectiveWidth; simp only; split <;> omega
  -- under the one-byte code space the string is whole codes `[b]`
  have hws := lookupString_whole_codes { cm with byteWidth := 1 } (by omega) (data.map fun b => [b])
    (by simp [hew]) []
  rw [lookupString_short _ [] (by simp [hew]), List.flatMap_map, ← List.flatMap_def, List.flatMap_singleton',
    List.append_nil, List.flatMap_nil, List.append_nil] at hws
  rw [fallback_one_byte_codes cm hw data h, hws]
  refine List.flatMap_congr fun b hbm => ?_
  show lookup cm b = emit { cm with byteWidth := 1 } (codeOf [b])
  rw [codeOf_one]
  exact (if_pos (h b hbm)).symm

/-- **the same for two-byte codes** whose first bytes are not codes of their own: the fallback
loop decodes like a two-byte code space -/
theorem fallback_as_two_byte_space (cm : CMap) (hw : cm.byteWidth = 0) (codes : List (Nat × Nat))
    (hb : ∀ p ∈ codes, p.1 < 256)
    (h1 : ∀ p ∈ codes, lookup cm p.1 = [])
    (h2 : ∀ p ∈ codes, lookup cm ((p.1 <<< 8) ||| p.2) ≠ []) :
    lookupString cm (codes.flatMap fun p => [p.1, p.2])
      = lookupString { cm with byteWidth := 2, actualByteWidth := 2 } (codes.flatMap fun p => [p.1, p.2]) := by
  have hew : effectiveWidth { cm with byteWidth := 2, actualByteWidth := 2 } = 2 := by
    unfold effectiveWidth; simp
  -- under the two-byte code space the string is whole codes `[p.1, p.2]`
  have hws := lookupString_whole_codes { cm with byteWidth := 2, actualByteWidth := 2 } (by omega)
    (codes.map fun p => [p.1, p.2])
    (fun c hc => by obtain ⟨p, _, rfl⟩ := List.mem_map.mp hc; rw [hew]; rfl) []
  rw [lookupString_short _ [] (by simp [hew]), List.flatMap_map, ← List.flatMap_def,
    List.append_nil, List.flatMap_nil, List.append_nil] at hws
  rw [fallback_two_byte_codes cm hw codes h1 h2, hws]
  refine List.flatMap_congr fun p hpm => ?_
  show lookup cm ((p.1 <<< 8) ||| p.2) = emit { cm with byteWidth := 2, actualByteWidth := 2 } (codeOf [p.1, p.2])
  rw [codeOf_two p.1 p.2 (hb p hpm)]
  exact (if_pos (h2 p hpm)).symm

example : lookupString { chars := [(0x41, [0x3B1])] } [0x41] = lookupString { chars := [(0x41, [0x3B1])], byteWidth := 1 } [0x41] := by
  decide

/-- a table that maps every printable ASCII code (0x20 - 0x7E) to itself -/
def printableOK (t : Array Nat) : Bool := (List.range 127).all fun b => b < 32 || t[b]? == some b

/-- WinAnsi, MacRoman and PDFDoc - and the table `GetEncoding` falls back to for the name
`Identity-H`, which it does not know - keep printable ASCII -/
theorem latin_tables_printable :
    printableOK Tabula.Gen.Encodings.winAnsiTable = true ∧ printableOK Tabula.Gen.Encodings.macRomanTable = true ∧
    printableOK Tabula.Gen.Encodings.pdfDocTable = true ∧
    (getEncoding (nameBytes "WinAnsiEncoding")).any (fun e => printableOK e.table) = true ∧
    (getEncoding (nameBytes "MacRomanEncoding")).any (fun e => printableOK e.table) = true ∧
    (getEncoding (nameBytes "PDFDocEncoding")).any (fun e => printableOK e.table) = true ∧
    (getEncoding (nameBytes "Identity-H")).any (fun e => printableOK e.table) = true := by
  have hw : printableOK Tabula.Gen.Encodings.winAnsiTable = true :=
    all_range_of_segment _ id 32 127 (by decide +kernel)
  have hm : printableOK Tabula.Gen.Encodings.macRomanTable = true :=
    all_range_of_segment _ id 32 127 (by decide +kernel)
  have hp : printableOK Tabula.Gen.Encodings.pdfDocTable = true :=
    all_range_of_segment _ id 32 127 (by decide +kernel)
  -- the four names select these tables (`getencoding_dispatch`)
  have sel : ∀ (name : List Nat) (n : String) (tbl : Array Nat),
      ((getEncoding name).map fun e => (e.name, e.table.toList)) = some (n, tbl.toList) →
      printableOK tbl = true → (getEncoding name).any (fun e => printableOK e.table) = true := by
    intro name n tbl h hok
    obtain ⟨e, he, het⟩ := table_of_shown _ n tbl h
    rw [he, Option.any_some, het, hok]
  have hd := C07.getencoding_dispatch
  exact ⟨hw, hm, hp, sel _ _ _ hd.1 hw, sel _ _ _ hd.2.1 hm, sel _ _ _ hd.2.2.1 hp,
    sel _ _ _ hd.2.2.2.2.2.2.1 hw⟩

/-- StandardEncoding keeps printable ASCII except the two quotes: 0x27 is U+2019, 0x60 is U+2018 -/
theorem standard_ascii_exact :
    ((List.range 127).all fun b => b < 32 ||
      Tabula.Gen.Encodings.standardEncodingTableData[b]? == some (if b = 0x27 then 0x2019 else if b = 0x60 then 0x2018 else b)) = true :=
  all_range_of_segment _ (fun b => if b = 0x27 then 0x2019 else if b = 0x60 then 0x2018 else b) 32 127
    (by decide +kernel)

theorem decodeWith_printable (t : Array Nat) (hok : printableOK t = true) (data : List Nat)
    (hd : ∀ b ∈ data, 32 ≤ b ∧ b ≤ 126) : decodeWith [] t data = data := by
  unfold decodeWith
  refine (List.filterMap_congr fun b hbm => ?_).trans List.filterMap_some
  have hb := hd b hbm
  have ht : t[b]? = some b := by
    unfold printableOK at hok
    rw [List.all_eq_true] at hok
    have := hok b (by simp; omega)
    simp only [Bool.or_eq_true, decide_eq_true_eq, beq_iff_eq] at this
    rcases this with h | h
    · omega
    · exact h
  have hr : toRune b = b := toRune_scalar b (Or.inl (by omega))
  have hne : b ≠ 0 := by omega
  simp only [customDecodeByte, diffLookup, List.find?_nil, ht, hne, ne_eq, not_false_eq_true, if_true, hr]

/-- **printable ASCII through `Font.DecodeString`**: a font without ToUnicode and without
`/Differences` whose encoding name selects a table that keeps printable ASCII (WinAnsi, MacRoman,
PDFDoc, the unknown name `Identity-H`: `latin_tables_printable`) returns every string of printable ASCII
codes unchanged, NFC last -/
theorem font_ascii_identity (nfc : List Nat → List Nat) (enc : List Nat) (henc : enc ≠ []) (e : Enc)
    (he : getEncoding enc = some e) (hok : printableOK e.table = true) (data : List Nat)
    (hd : ∀ b ∈ data, 32 ≤ b ∧ b ≤ 126) :
    FontDecode.decodeString nfc ⟨none, enc, []⟩ data = some (nfc data) := by
  unfold FontDecode.decodeString preNFC
  simp only
  split
  · have := hd 0xFE (by simp); omega
  · have := hd 0xFF (by simp); omega
  · rw [if_pos henc, he]
    simp [decodeWith_printable e.table hok data hd]

example : ∃ e, getEncoding (nameBytes "WinAnsiEncoding") = some e ∧ printableOK e.table = true :=
  (Option.any_eq_true _ _).1 latin_tables_printable.2.2.2.1

end Tabula.C07More
