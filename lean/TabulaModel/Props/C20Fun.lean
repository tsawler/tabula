import TabulaModel.Props.C20Zip
/-!
# C20, the outcome as a function — `Open(name).<op>()` is a function of (bytes, name), in every history

`Props/C20Api.lean` gives the outcome of an operation on a FRESH `Open(name)` and, for
histories, what an operation that REACHES a reader ran on.  Here the outcome itself — reached
or refused, and how — for every operation on every extractor that holds no reader yet
(fresh, derived, closed and reused), and from it: in every history of closing operations the
outcome of each operation on a named extractor is `outcomeOf (format of the name) (bytes
stored under the name at that call) (kind)` — nothing that was called before has any
influence —, on the API model and on the bytes.
-/
set_option autoImplicit false
namespace Tabula.C20F
open Tabula.Detect Tabula.Drm Tabula.Admit Tabula.EncXml Tabula.DetectB Tabula.C20 Tabula.C20A Tabula.C20B

/-- the outcome of an operation of kind `k` for a name that asks for `f` on the bytes `fs`:
the cross-check, the reader's own gate, then the PDF-only test -/
def outcomeOf (f : Format) (fs : FileState) (k : TKind) : Outcome :=
  match admitFile f fs with
  | .error o => o
  | .ok _ => afterOpen f k

/-- does the frame of the operation test `e.err` (`ToMarkdown` for the six non-PDF formats
does not) -/
def errSeen (f : Format) (k : TKind) : Bool := !(k == .markdown && f != .pdf && f != .unknown)

/-- `run_unopened_out`: every operation on ANY extractor with a file name that holds no
reader — whatever its options, however it came about — ends as `outcomeOf` says, unless its
configuration error is set and the operation looks at it -/
theorem run_unopened_out (e : Ext) (hn : e.name ≠ []) (ho : e.opened = false) (cur : FileState) (k : TKind) :
    (e.run cur k).2.out =
      if e.err = true ∧ errSeen e.format k = true then .errSet else outcomeOf e.format cur k :=
  run_unopened e hn ho cur k

/-- a derived extractor with an invalid page range: `Text` reports the configuration error,
`ToMarkdown` of a DOCX does not look at it -/
example : errSeen .docx .text = true ∧ errSeen .docx .markdown = false ∧ errSeen .pdf .markdown = true := by decide +kernel

/-- `history_outcome_function`: in every history whose operations are the closing ones
(`Text`, `Document` / `Chunks`, `ToMarkdown`, the PDF-only operations; configuration calls,
`Close`s and rewrites of the bytes in between, any length), the outcome of EVERY operation on
an extractor with a file name — refusals included — is the extractor's own configuration
error, or `outcomeOf` of the format its name asks for and the bytes stored under the name AT
THAT CALL: a function of (bytes, name) in which nothing called before appears -/
theorem history_outcome_function (c0 : FileState) (cs : List Call) (hcl : ClosingOnly cs)
    (k i : Nat) (kind : TKind) (r : Res)
    (hc : cs[k]? = some (.op i kind)) (hr : (runCalls (start c0) cs).2[k]? = some (.res r))
    (e : Ext) (he : (runCalls (start c0) cs).1.exts[i]? = some e) (hn : e.name ≠ []) :
    r.out = .errSet ∨ r.out = outcomeOf (detect e.name) (curBefore c0 cs k) kind := by
  obtain ⟨e0, _, hn0, ho, hfmt, rfl⟩ := closing_history_op c0 cs hcl k i kind r hc hr e he hn
  rw [run_unopened_out e0 hn0 ho _ kind, hfmt]
  split
  · exact Or.inl rfl
  · exact Or.inr rfl

/-- a history that opens a name, reads it, swaps the bytes, derives an extractor, reads again -/
example : ClosingOnly [.open ([97] ++ dotEpub), .op 0 .text, .rewrite .missing, .derive 0 false, .op 1 .markdown] := by
  intro c hc i k h
  simp only [List.mem_cons, List.not_mem_nil, or_false] at hc
  rcases hc with rfl | rfl | rfl | rfl | rfl <;> cases h <;> simp

/-! ## on the bytes -/

/-- `outcomeOf` on the bytes: `validateFormat` (byte-exact sniffer), the reader switch with
`epubdoc.Open` (tree-level DRM gate), the PDF-only test -/
def outcomeOfB (t : Tables) (f : Format) (fs : FileStateB) (k : TKind) : Outcome :=
  match admitFileB t f fs with
  | .error o => o
  | .ok _ => afterOpen f k

theorem outcomeOf_abs (t : Tables) (hlo : LowerOK t.lo) (f : Format) (fs : FileStateB) (k : TKind) :
    outcomeOf f (absFile t fs) k = outcomeOfB t f fs k := by
  unfold outcomeOf outcomeOfB
  rw [admit_bytes_simulation t hlo]

/-- `open_bytes_outcome`: THE COMPOSITION.  `tabula.Open(name).<op>()` for every name of
bytes, every file as bytes and every operation, as ONE function of (bytes, name):
`Detect` on the name, `DetectFromReader` on the bytes, the cross-check, the reader the name
asks for (for an EPUB the mimetype check, the DRM gate on the encryption metadata as XML,
then the structure), the PDF-only test. -/
theorem open_bytes_outcome (t : Tables) (hlo : LowerOK t.lo) (name : Str) (hne : name ≠ []) (fs : FileStateB)
    (k : TKind) : (openAndRunB t name fs k).out = outcomeOfB t (detectB t.lo name) fs k := by
  rw [open_bytes_eq t hlo, open_and_run_out name hne, detectB_eq hlo, ← outcomeOf_abs t hlo]
  rfl

/-- a call of the public API, the rewrites carrying the new file as bytes -/
inductive CallB where
  | open (name : Str)
  | fromHTML (ok : Bool)
  | fromReader
  | derive (i : Nat) (bad : Bool)
  | op (i : Nat) (k : TKind)
  | close (i : Nat)
  | rewrite (fs : FileStateB)

/-- the call as the API model sees it -/
def absCall (t : Tables) : CallB → Call
  | .open n => .open n
  | .fromHTML ok => .fromHTML ok
  | .fromReader => .fromReader
  | .derive i b => .derive i b
  | .op i k => .op i k
  | .close i => .close i
  | .rewrite fs => .rewrite (absFile t fs)

/-- the bytes stored under the names just before call `k` of a byte-level history -/
def curBeforeB : FileStateB → List CallB → Nat → FileStateB
  | c0, [], _ => c0
  | c0, _ :: _, 0 => c0
  | _, .rewrite fs :: cs, k + 1 => curBeforeB fs cs k
  | c0, _ :: cs, k + 1 => curBeforeB c0 cs k

theorem curBefore_abs (t : Tables) (c0 : FileStateB) (cs : List CallB) (k : Nat) :
    curBefore (absFile t c0) (cs.map (absCall t)) k = absFile t (curBeforeB c0 cs k) := by
  induction cs generalizing c0 k with
  | nil => cases k <;> rfl
  | cons c cs ih =>
    cases k with
    | zero => rfl
    | succ k =>
      -- only a rewrite changes the bytes under the names
      cases c with
      | rewrite fb => simpa [List.map_cons, absCall, curBefore, curBeforeB, step] using ih fb k
      | _ => simpa [List.map_cons, absCall, curBefore, curBeforeB, step] using ih c0 k

/-- `history_bytes_outcome_function`: THE PROPERTY OVER CALL SEQUENCES, as a function, on
the bytes.  In every history of closing operations (any configuration calls, `Close`s and
rewrites of the file in between, any length), the outcome of every operation on an
extractor with a file name — of arbitrary bytes — is the extractor's own configuration
error, or `outcomeOfB` of the format the name asks for and of the BYTES stored under the
name at that call. -/
theorem history_bytes_outcome_function (t : Tables) (hlo : LowerOK t.lo) (c0 : FileStateB) (cs : List CallB)
    (hcl : ClosingOnly (cs.map (absCall t))) (k i : Nat) (kind : TKind) (r : Res)
    (hc : (cs.map (absCall t))[k]? = some (.op i kind))
    (hr : (runCalls (start (absFile t c0)) (cs.map (absCall t))).2[k]? = some (.res r))
    (e : Ext) (he : (runCalls (start (absFile t c0)) (cs.map (absCall t))).1.exts[i]? = some e) (hn : e.name ≠ []) :
    r.out = .errSet ∨ r.out = outcomeOfB t (detectB t.lo e.name) (curBeforeB c0 cs k) kind := by
  rw [detectB_eq hlo, ← outcomeOf_abs t hlo, ← curBefore_abs]
  exact history_outcome_function _ _ hcl k i kind r hc hr e he hn

/-- Open a `.epub` name, read it, replace the file by other bytes, read again through a
derived extractor -/
example : curBeforeB .missing [.open ([97] ++ dotEpub), .op 0 .text, .rewrite .unreadable, .derive 0 false, .op 1 .text] 4 =
    .unreadable := rfl

end Tabula.C20F
