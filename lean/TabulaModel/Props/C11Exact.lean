import TabulaModel.Lemmas.HFExact
import TabulaModel.Props.C11
/-!
# C11 — exact characterisations

What `Props/C11.lean` states as implications ("removed only if …") is stated here as
equivalences, and the string/number helpers that decide what "repeats" and what "is a page
number" mean are characterised for ALL inputs instead of being compared on samples:

* `normalizeForComparison` (regexp `\d+` → "#"), the digit runs `parsePageNumber` reads, the
  64-bit wrap-around of that parse, `sort.Ints`, `isPageNumberPattern`, `containsPageNumberPattern`;
* the filter side: exactly which fragments `FilterFragments` removes (on a character-level page:
  the glyphs of the assembled lines that match a region, no longer every glyph of the band), and
  that nothing else changes (multiplicity and order of the kept fragments);
* the detection side: exactly which normalised texts become regions and exactly which pages a
  region lists;
* line assembly on character-level pages: the assembled lines partition the page's fragments
  and carry exactly their non-blank bytes.
-/
namespace Tabula.C11Exact
open Tabula.HF Tabula.C11

/-! ## normalizeForComparison -/

/-- **normalize_run.** The complete recursive description of `normalizeForComparison`: a string
that starts with digit-free bytes `pre`, continues with a non-empty maximal digit run `ds` and
then with `rest` (empty or starting with a non-digit) normalises to `pre`, ONE "#", and the
normal form of `rest`. Together with `normalize_of_noDigits` this determines the function. -/
theorem normalize_run (pre ds rest : Str) (hpre : NoDigits pre) (hds : AllDigits ds) (hne : ds ≠ [])
    (hrest : NoDigitHead rest) : normalize (pre ++ ds ++ rest) = pre ++ 35 :: normalize rest := by
  have hrun : normAux false (ds ++ rest) = 35 :: normAux false rest := by
    cases ds with
    | nil => exact absurd rfl hne
    | cons d ds =>
      have hd : isDigit d = true := hds d (by simp)
      have := normAux_true_digits ds rest (fun c hc => hds c (by simp [hc]))
      simp only [List.cons_append]
      rw [show normAux false (d :: (ds ++ rest)) = 35 :: normAux true (ds ++ rest) by simp [normAux, hd],
        this, normAux_noDigitHead true rest hrest]
  unfold normalize
  cases pre with
  | nil => simpa using hrun
  | cons c pre => rw [List.append_assoc, normAux_pre false (c :: pre) _ hpre (by simp), hrun]

example : NoDigits [80, 32] ∧ AllDigits [49, 50] ∧ ([49, 50] : Str) ≠ [] ∧ NoDigitHead [32, 111] := by
  exact ⟨by simp [NoDigits, isDigit], by simp [AllDigits, isDigit], by simp, by simp [NoDigitHead, isDigit]⟩

/-- a string without digits is its own normal form -/
theorem normalize_of_noDigits (s : Str) (h : NoDigits s) : normalize s = s := normAux_of_noDigits false s h

/-- the normal form contains no digit at all -/
theorem normalize_has_no_digit (s : Str) : NoDigits (normalize s) := normAux_no_digit false s

/-- normalising twice is normalising once -/
theorem normalize_idem (s : Str) : normalize (normalize s) = normalize s :=
  normalize_of_noDigits _ (normalize_has_no_digit s)

/-! ## parsePageNumber -/

/-- **digitRuns_run.** `re.FindAllString(text, -1)` for `\d+`: digit-free bytes, a non-empty maximal
digit run, the rest — the first run is that run, the others are the runs of the rest. -/
theorem digitRuns_run (pre ds rest : Str) (hpre : NoDigits pre) (hds : AllDigits ds) (hne : ds ≠ [])
    (hrest : NoDigitHead rest) : digitRuns (pre ++ ds ++ rest) = ds :: digitRuns rest := by
  unfold digitRuns
  rw [List.append_assoc, digitRunsAux_noDigits pre _ hpre, digitRunsAux_digits ds rest [] hds,
    digitRunsAux_close rest _ hrest (by simpa using hne)]
  simp

/-- a string without digits has no digit run -/
theorem digitRuns_of_noDigits (s : Str) (h : NoDigits s) : digitRuns s = [] := by
  have := digitRunsAux_noDigits s [] h
  simpa [digitRuns, digitRunsAux] using this

/-- **parseDigits_eq_wrap.** `parsePageNumber` on a digit run of ANY length returns the decimal
value of the run reduced to Go's 64-bit `int` (two's complement): no overflow check, no error. -/
theorem parseDigits_eq_wrap (s : Str) : parseDigits s = wrap64 (decVal s) := by
  have h := parseDigits_foldl s 0
  have h0 : wrap64 0 = 0 := by decide
  rw [h0] at h
  exact h

/-- `wrap64` is the identity on the range of `int64` … -/
theorem wrap64_of_int64 (x : Int) (h1 : -9223372036854775808 ≤ x) (h2 : x < 9223372036854775808) :
    wrap64 x = x := wrap64_id h1 h2

example : (-9223372036854775808 : Int) ≤ 42 ∧ (42 : Int) < 9223372036854775808 := by decide

/-- … its values lie in that range and differ from the argument by a multiple of 2^64 -/
theorem wrap64_range (x : Int) :
    -9223372036854775808 ≤ wrap64 x ∧ wrap64 x < 9223372036854775808 ∧
      (x - wrap64 x) % 18446744073709551616 = 0 := by
  unfold wrap64; omega

/-- the wrap-around is reached: "9223372036854775808" (2^63) parses to the most negative `int`, and
"18446744073709551615" (2^64 - 1) to -1 -/
theorem parseDigits_wraps :
    parseDigits [57, 50, 50, 51, 51, 55, 50, 48, 51, 54, 56, 53, 52, 55, 55, 53, 56, 48, 56] = -9223372036854775808 ∧
    parseDigits [49, 56, 52, 52, 54, 55, 52, 52, 48, 55, 51, 55, 48, 57, 53, 53, 49, 54, 49, 53] = -1 := by
  decide +kernel

/-- **sortInts_unique.** `sort.Ints` is modelled by insertion sort; the result is the ONE ascending
arrangement of the numbers, so every correct sorting algorithm returns it. -/
theorem sortInts_unique (l l' : List Int) (hp : l'.Perm l) (hs : l'.Pairwise (· ≤ ·)) : l' = sortInts l :=
  sorted_perm_unique l' (sortInts l) hs (sortInts_sorted l) (hp.trans (sortInts_perm l).symm)

example : ([1, 2, 3] : List Int).Perm [3, 1, 2] ∧ ([1, 2, 3] : List Int).Pairwise (· ≤ ·) := by decide

theorem sortInts_sorted_perm (l : List Int) : (sortInts l).Perm l ∧ (sortInts l).Pairwise (· ≤ ·) :=
  ⟨sortInts_perm l, sortInts_sorted l⟩

/-- the ten lower-cased page-number patterns ("Page #" and "page #" coincide) -/
def lowerPatterns : List Str :=
  [[35], [112, 97, 103, 101, 32, 35], [45, 32, 35, 32, 45], [35, 32, 111, 102, 32, 35],
   [112, 97, 103, 101, 32, 35, 32, 111, 102, 32, 35], [35, 47, 35], [112, 46, 32, 35], [112, 46, 35],
   [112, 103, 32, 35], [112, 103, 46, 32, 35]]

/-- **isPageNumberPattern_iff.** A normalised text is a page-number pattern exactly if, trimmed and
ASCII-lower-cased, it is one of "#", "page #", "- # -", "# of #", "page # of #", "#/#", "p. #",
"p.#", "pg #", "pg. #". -/
theorem isPageNumberPattern_iff (t : Str) :
    isPageNumberPattern t = true ↔ (trimSpace t).map lowerAscii ∈ lowerPatterns := by
  -- lower-casing makes "Page #" and "page #" one pattern; the other nine are the rest of `lowerPatterns`
  have hdup : pagePatterns.map (fun p => p.map lowerAscii) =
      [35] :: [112, 97, 103, 101, 32, 35] :: lowerPatterns.tail := by decide
  have hmem : (trimSpace t).map lowerAscii ∈ lowerPatterns ↔
      (trimSpace t).map lowerAscii ∈ pagePatterns.map (fun p => p.map lowerAscii) := by
    rw [hdup, lowerPatterns, List.tail_cons]
    simp only [List.mem_cons, or_self_left]
  rw [hmem, List.mem_map, isPageNumberPattern, List.any_eq_true]
  simp only [equalFoldAscii, beq_iff_eq]
  exact exists_congr fun p => and_congr_right fun _ => eq_comm

/-- **containsPageNumberPattern_iff.** A group carries a running number exactly if it has at least
two candidates, their texts contain at least two digit runs in all, and among the sorted (wrapped)
values at least ⌊n/2⌋ adjacent pairs differ by exactly one (in 64-bit arithmetic). -/
theorem containsPageNumberPattern_iff (group : List Cand) :
    containsPageNumberPattern group = true ↔
      let numbers := sortInts (group.flatMap fun c => (digitRuns c.text).map parseDigits)
      2 ≤ group.length ∧ 2 ≤ numbers.length ∧ numbers.length / 2 ≤ countSequential numbers := by
  unfold containsPageNumberPattern
  simp only
  split
  · next h => exact ⟨nofun, fun e => absurd e.1 (Nat.not_le.mpr h)⟩
  · next h =>
    split
    · next h' => exact ⟨nofun, fun e => absurd e.2.1 (Nat.not_le.mpr h')⟩
    · next h' => 
      rw [decide_eq_true_eq]
      exact ⟨fun e => ⟨Nat.not_lt.mp h, Nat.not_lt.mp h', e⟩, fun e => e.2.2⟩

/-! ## The filter side, exactly -/

/-- the judged fragment `l` (a fragment of a word-level page, an assembled line of a character-level
page), measured against the bands `b`, is a header or footer of page `idx`: some region of the result
lists the page, `l` lies in the band of that region's kind, and the region matches `l`'s text -/
def Hit (res : Result) (idx : Int) (b : Bands) (l : Frag) : Prop :=
  ∃ k r, r ∈ res.regions k ∧ idx ∈ r.pages ∧ inRegion k b l = true ∧ regionMatches r l.text = true

/-- what `FilterFragments` removes from a page. Word-level page: the fragment itself is a `Hit`
(bands of the page's fragments). Character-level page: the fragment is a glyph of a line group of the
page (`charLines`, the groups `lines_partition_page` speaks about) whose assembled line is a `Hit`
(bands of the page's assembled lines, as in detection) — the position of the glyph alone no longer
decides (F8 repaired). -/
def Removed (res : Result) (idx : Int) (fs : List Frag) (ph : Rat) (f : Frag) : Prop :=
  (isCharacterLevel fs = false ∧ Hit res idx (bands res.cfg fs ph) f) ∨
  (isCharacterLevel fs = true ∧ ∃ g ∈ charLines fs, f ∈ g ∧ ∃ l, assembleLine g = some l ∧
    Hit res idx (bands res.cfg (assembleFragmentsIntoLines fs) ph) l)

theorem isRemoved_iff (res : Result) (idx : Int) (fs : List Frag) (ph : Rat) (f : Frag) :
    isRemoved res idx fs ph f = true ↔ Removed res idx fs ph f := by
  unfold Removed Hit
  cases hcl : isCharacterLevel fs with
  | false =>
    rw [isRemoved_wordLevel hcl, isInHeaderFooter_eq_true]
    exact ⟨fun h => Or.inl ⟨rfl, h⟩, fun h => h.elim (·.2) (fun h => nomatch h.1)⟩
  | true =>
    rw [isRemoved_charLevel_eq_true hcl]
    simp only [isInHeaderFooter_eq_true]
    exact ⟨fun h => Or.inr ⟨trivial, h⟩, fun h => h.elim (fun h => nomatch h.1) (·.2)⟩

/-- **removed_iff.** For every detection result, page index, fragment list and height: a fragment
of the page is missing from the filtered page exactly if it is `Removed` — on a character-level page:
exactly if the assembled line it belongs to matches a region covering the page. -/
theorem removed_iff (res : Result) (idx : Int) (fs : List Frag) (ph : Rat) (f : Frag) (hf : f ∈ fs) :
    f ∉ filterFragments res idx fs ph ↔ Removed res idx fs ph f := by
  rw [not_mem_filterFragments hf, isRemoved_iff]

example : let p := exPage 1 [66, 111, 100, 121] 2
    ({ text := [50], x := 300, y := 30, w := 7, h := 12, fs := 12 } : Frag) ∈ p.frags := by decide +kernel

/-- **kept_exactly.** Nothing else changes: the filtered page is the page with exactly the `Removed`
fragments left out — same order (`List.filter`), and every kept fragment occurs as often as before,
every removed one not at all. -/
theorem kept_exactly (res : Result) (idx : Int) (fs : List Frag) (ph : Rat) :
    ∃ gone : Frag → Bool, (∀ f, gone f = true ↔ Removed res idx fs ph f) ∧
      filterFragments res idx fs ph = fs.filter (fun f => !gone f) ∧
      ∀ f, (filterFragments res idx fs ph).count f = if gone f then 0 else fs.count f := by
  refine ⟨isRemoved res idx fs ph, isRemoved_iff res idx fs ph, filterFragments_eq res idx fs ph, ?_⟩
  intro f
  rw [filterFragments_eq]
  cases hg : isRemoved res idx fs ph f with
  | false => rw [List.count_filter (by simp [hg])]; simp
  | true =>
    simp only [if_true]
    apply List.count_eq_zero.mpr
    intro hmem
    have := (List.mem_filter.mp hmem).2
    simp [hg] at this

/-- the unique marginal line of the character-level witness is not `Removed`, the running line is -/
example : let p := clPage 1 true
    ¬ Removed (detect defaultConfig clDoc) 1 p.frags 792 { text := [88], x := 72, y := 740, w := 6, h := 12, fs := 12 } ∧
    Removed (detect defaultConfig clDoc) 1 p.frags 792 { text := [65], x := 72, y := 760, w := 6, h := 12, fs := 12 } := by
  simp only [← isRemoved_iff, detect_clDoc]
  decide +kernel

/-- the relative order of any two kept fragments is their order on the page: the filtered page is
a sublist, and a sublist of it is a sublist of the page -/
theorem kept_order (res : Result) (idx : Int) (fs : List Frag) (ph : Rat) (l : List Frag)
    (h : l.Sublist (filterFragments res idx fs ph)) : l.Sublist fs :=
  h.trans (filter_sublist res idx fs ph)

example : ([] : List Frag).Sublist (filterFragments (detect defaultConfig exDoc) 0 (exPage 0 [] 1).frags 792) :=
  List.nil_sublist _

/-! ## The detection side, exactly -/

/-- the marginal candidates of kind `k` of a document whose normalised text is `key` -/
def groupAt (cfg : Config) (pages : List Page) (k : Kind) (key : Str) : List Cand :=
  groupOf (extractCandidates cfg k (preprocessPages pages)) key

/-- **region_detected_iff.** Detection is exact: the result has a region of kind `k` with pattern
`key` if and only if the document has at least `MinPages` pages, `key` is longer than two bytes or a
page-number pattern, and the marginal candidates with that normalised text lie on at least
`minOccurrences` distinct pages at a consistent position. -/
theorem region_detected_iff (cfg : Config) (pages : List Page) (k : Kind) (key : Str) :
    (∃ r ∈ (detect cfg pages).regions k, r.pattern = key) ↔
      cfg.minPages ≤ pages.length ∧
      (2 < key.length ∨ isPageNumberPattern key = true) ∧
      minOccurrences cfg pages.length ≤ (distinctPages (groupAt cfg pages k key)).length ∧
      hasConsistentPosition cfg (groupAt cfg pages k key) = true := by
  simp only [groupAt]
  constructor
  · rintro ⟨r, hr, rfl⟩
    obtain ⟨hmin, hsome⟩ := mem_regions_iff.mp hr
    obtain ⟨h1, h2, h3, _⟩ := regionOf_eq_some hsome
    exact ⟨hmin, h1, h2, h3⟩
  · rintro ⟨hmin, h1, h2, h3⟩
    obtain ⟨r, hsome⟩ := regionOf_isSome (k := k) (n := pages.length) h1 h2 h3
    have hpat := (regionOf_eq_some hsome).2.2.2.2.1
    exact ⟨r, mem_regions_iff.mpr ⟨hmin, hpat ▸ hsome⟩, hpat⟩

/-- the running header of `exDoc` is detected -/
example : ∃ r ∈ (detect defaultConfig exDoc).regions .header,
    r.pattern = [65, 67, 77, 69, 32, 82, 101, 112, 111, 114, 116] := by rw [detect_exDoc]; decide

/-- **region_pages_exact.** Which pages a detected region lists: exactly the pages that (after line
assembly on character-level pages) carry a fragment in that band whose trimmed, digit-normalised
text is the region's pattern. -/
theorem region_pages_exact (cfg : Config) (pages : List Page) (k : Kind) (r : Region)
    (hr : r ∈ (detect cfg pages).regions k) (i : Int) :
    i ∈ r.pages ↔ ∃ p ∈ preprocessPages pages, p.index = i ∧
      ∃ f ∈ p.frags, inRegion k (bands cfg p.frags p.height) f = true ∧
        normalize (trimSpace f.text) = r.pattern := by
  obtain ⟨_, _, _, hpages, _⟩ := detected_of_mem cfg pages k r hr
  rw [hpages]
  constructor
  · rintro ⟨c, hc, rfl⟩
    obtain ⟨p, hp, f, hf, hin, hk, rfl⟩ := mem_group.mp hc
    exact ⟨p, hp, rfl, f, hf, hin, hk⟩
  · rintro ⟨p, hp, rfl, f, hf, hin, hn⟩
    exact ⟨_, mem_group.mpr ⟨p, hp, f, hf, hin, hn, rfl⟩, rfl⟩

example : (detect defaultConfig exDoc).regions .footer ≠ [] := by rw [detect_exDoc]; decide

/-! ## Character-level pages: line assembly -/

/-- **isCharacterLevel_iff.** A page is character-level exactly if it has fragments and they
average at most two runes. -/
theorem isCharacterLevel_iff (fs : List Frag) :
    isCharacterLevel fs = true ↔ fs ≠ [] ∧ (fs.map fun f => runeCount f.text).sum ≤ 2 * fs.length := by
  unfold isCharacterLevel
  cases fs <;> simp

/-- **lines_partition_page.** The lines `assembleFragmentsIntoLines` builds partition the page:
every fragment goes into exactly one line (the concatenation of the line groups is a permutation
of the page's fragments), and no group is empty. -/
theorem lines_partition_page (fs : List Frag) :
    ((groupLines (sortBy lineLess fs) []).flatten).Perm fs ∧
      ∀ g ∈ groupLines (sortBy lineLess fs) [], g ≠ [] := by
  refine ⟨?_, groupLines_nonempty _ _⟩
  rw [groupLines_flatten]
  simpa using sortBy_perm lineLess fs

/-- **assembled_line_exact.** One assembled line: it exists for every non-empty group, its glyphs
are the group's own (a permutation of it; in the model the one sorted by `x`), and its text carries exactly
their non-blank bytes in the order of that permutation — blanks are only inserted between glyphs, nothing else is added or lost. -/
theorem assembled_line_exact (g : List Frag) (hg : g ≠ []) :
    ∃ line, assembleLine g = some line ∧
      ∃ sorted : List Frag, sorted.Perm g ∧
        line.text.filter (fun c => c != 32) = (sorted.flatMap (·.text)).filter (fun c => c != 32) := by
  have hperm := sortBy_perm (fun a b : Frag => decide (a.x < b.x)) g
  have hne : sortBy (fun a b : Frag => decide (a.x < b.x)) g ≠ [] := by
    intro h; rw [h] at hperm; exact hg (List.Perm.nil_eq hperm).symm
  unfold assembleLine
  simp only
  cases hs : sortBy (fun a b : Frag => decide (a.x < b.x)) g with
  | nil => exact absurd hs hne
  | cons first tl =>
    cases hl : (first :: tl).getLast? with
    | none => simp at hl
    | some last =>
      refine ⟨_, rfl, first :: tl, by rw [← hs]; exact hperm, ?_⟩
      exact lineText_nonblank _ none

example : ([{ text := [65], x := 0, y := 0, w := 6, h := 12, fs := 12 }] : List Frag) ≠ [] := by simp

/-- the number of assembled lines is the number of line groups -/
theorem assembled_line_count (fs : List Frag) :
    (assembleFragmentsIntoLines fs).length = (groupLines (sortBy lineLess fs) []).length := by
  -- every group is non-empty, so every group is assembled
  refine List.filterMap_length_eq_length.mpr fun g hg => ?_
  obtain ⟨line, hline, _⟩ := assembled_line_exact g (groupLines_nonempty _ _ g hg)
  rw [hline]; rfl

end Tabula.C11Exact
